import SaModel.Lemmas.C16Run
import SaModel.Lemmas.C01MapOps
import SaModel.Lemmas.C16FromType
import SaModel.Lemmas.C16Depth
import SaModel.Lemmas.C16Time
import SaModel.Lemmas.C16SchemaJson
import SaModel.Lemmas.C16DeepTerm
import SaModel.Lemmas.C12Batch
import SaModel.Props.C17
import SaModel.Props.C14
import SaModel.Props.C15
import SaModel.Props.C20
import SaModel.Props.C13
/-
C16 — failures are reported as errors: no panic, overflow or hang.
In the model every Rust operation that can unwind (indexing, slicing, unwrap, `%0`, checked arithmetic in a
debug build) yields the outcome `panic`; "no panic" is the theorem `(f x).isPanic = false` for ALL inputs of `f`.
Termination: every model function is accepted by Lean as total (structural or well-founded recursion), so no
modelled entry point can run unboundedly (notes/C16.md lists which Rust loop is which recursion).

Builder side (proofs in Lemmas/C16Basic, C16Inv, C16Push, C16New, C16Run):
* placeholders and nulls never unwind in ANY builder state;
* `push_no_panic`: for EVERY serde value (malformed raw key/value streams, tuples longer/shorter than the struct,
  wrong lengths, wrong kinds) and every state satisfying the invariant `NPInv` (the vectors the Rust code indexes
  unchecked have one entry per field / variant; decimal precisions are the accepted ones), `push` does not unwind;
  `NPInv` is established by `build_builder` and preserved by every successful push of every value;
* `newDT`, `finish`, `extend`, `serializeWith`, `runRows`, `toMarrow` never unwind, for every field list and all rows.
* the union row counters: `union_rows_capacity_is_error` / `union_row_ok_below_capacity` /
  `serializeVariantPinned_overflow_panics` / `pushDefaultK_union_capacity_is_error` (repo fix 217d612).
The external conversions enter through `ExtNP ext` (they do not unwind); `codecExt_np` discharges it — without any
hypothesis — for the C14 / C15 codec models, the timestamp string parser included (`timestampOfString_no_panic`).

Tracing: `absorb_no_panic` / `fromSamples_no_panic`; `fromType_no_panic` for EVERY type description and all options
(corollary of C08's `C08_from_type`), `explore_no_panic` on every tracer that conforms to the type (`Conf`),
`passes_no_panic`; the pass budget; the depth limit for every container family (`fromType_deep_is_error`,
`descends_containers`, `descends_wrappers`).
Reader: `Deserializer::new` / `get` / `next` / bulk over arbitrary views; whole-batch typed reads (`readBatch_no_panic`).
Schema side: `Term::from_str`, `build_data_type`, `validate_field`, `parseField`, `parseSchema` for every text / JSON
value (`parseField_no_panic` …).  The per-codec and per-helper theorems (C13–C15, C20) are collected at the end.
-/
namespace SaModel.Props.C16
open SaModel SaModel.Build

open SaModel.Lemmas.C16 (NPInv NPInvL KindOK ExtNP SInv)

theorem ctx_isPanic {α} (ann : List (String × String)) (r : R α) : (ctx ann r).isPanic = r.isPanic :=
  Lemmas.C16.ctx_isPanic ann r

theorem ok_no_panic {α} (v : α) : R.isPanic (Except.ok v : R α) = false := Lemmas.C16.ok_no_panic v
theorem fail_no_panic {α} (msg : String) : (fail msg : R α).isPanic = false := Lemmas.C16.fail_no_panic msg

/-- `r.isPanic = false` is the statement `r ≠ panic site` for every site -/
theorem isPanic_false_iff {α} (r : R α) : r.isPanic = false ↔ ∀ site, r ≠ panic site := by
  constructor
  · intro h site; exact Lemmas.C16.ne_panic_of_isPanic h site
  · intro h
    cases r with
    | ok v => rfl
    | error e =>
      cases e with
      | panic site => exact absurd rfl (h site)
      | err _ => rfl
      | errCtx _ _ => rfl

theorem setValidity_no_panic (v : Validity) (idx : Nat) (value : Bool) : (setValidity v idx value).isPanic = false :=
  Lemmas.C16.setValidity_no_panic v idx value

theorem duplicateLast_no_panic (offs : List Int) : (duplicateLast offs).isPanic = false :=
  Lemmas.C16.duplicateLast_no_panic offs

/-- the repaired `increment_last` never unwinds (the pinned one does at the top of the offset type) -/
theorem incrementLast_no_panic (large : Bool) (offs : List Int) (inc : Nat) :
    (incrementLast true large offs inc).isPanic = false := Lemmas.C16.incrementLast_no_panic large offs inc

/-- placeholders (`serialize_default`, any number of them) never unwind, in ANY builder state -/
theorem pushDefaultK_no_panic (b : B) (k : Nat) : (pushDefaultK b k).isPanic = false :=
  Lemmas.C16.pushDefaultK_no_panic b k

/-- a null pushed into ANY builder state never unwinds (error if the field is not nullable) -/
theorem pushNone_no_panic (b : B) : (pushNone b).isPanic = false := Lemmas.C16.pushNone_no_panic b

/-! ### `push`: every serde value, every state the crate can be in -/

/-- `build_builder` never unwinds (unsupported types are errors) and establishes the invariant -/
theorem newDT_no_panic (path : String) (dt : DataType) (nullable : Bool) (md : Metadata) (site : String) :
    newDT path dt nullable md ≠ panic site :=
  Lemmas.C16.ne_panic_of_isPanic (Lemmas.C16.newDT_np path dt nullable md) site

theorem newDT_inv {path : String} {dt : DataType} {nullable : Bool} {md : Metadata} {b : B}
    (h : newDT path dt nullable md = .ok b) : NPInv b := Lemmas.C16.newDT_npInv h

theorem newRoot_inv {fields : List Field} {root : B} (h : newRoot fields = .ok root) : NPInv root :=
  Lemmas.C16.newRoot_npInv h

/-- every successful push of EVERY value (no hypothesis on the value) keeps the invariant -/
theorem push_preserves_inv (ext : Ext) (x : SVal) {b b' : B} (hb : NPInv b) (h : push ext b x = .ok b') : NPInv b' :=
  Lemmas.C16.push_npInv ext x hb h

/-- C16 for the builders: `x.serialize(builder)` returns a value or an error for EVERY serde value `x` — including
raw key/value streams in any order, tuples longer or shorter than the struct, sequences of the wrong length,
variants that do not exist, scalars of the wrong kind — in every state satisfying the invariant. -/
theorem push_no_panic (ext : Ext) (he : ExtNP ext) (b : B) (hb : NPInv b) (x : SVal) (site : String) :
    push ext b x ≠ panic site :=
  Lemmas.C16.ne_panic_of_isPanic (Lemmas.C16.push_np ext he x b hb) site

/-- **A raw key/value call stream that does not alternate, into a Map builder, is an ERROR** (two keys in a row, a
value without a key, a map ending with a key pending): not a panic (`push_no_panic`) and not accepted
(`Build.push_map_raw_ok_alternating`; repo fix eafdf15).  Before the fix such a stream was accepted, `to_marrow`
returned a Map array with keys and values of different lengths and `to_arrow2` unwound inside marrow's conversion
(finding C16-map-key-value-alternation, found by the thorough tier of C19). -/
theorem map_non_alternating_is_error (ext : Ext) (he : ExtNP ext) (p : String) (mm : MapMeta) (v : Validity)
    (offs : List Int) (ks vs : B) (hb : NPInv (.map p mm v offs ks vs)) (ops : SMapOps)
    (hmal : SaModel.Spec.isAlternating ops = false) :
    (push ext (.map p mm v offs ks vs) (.mapRaw ops)).isErr = true := by
  cases h : push ext (.map p mm v offs ks vs) (.mapRaw ops) with
  | ok b' => rw [push_map_raw_ok_alternating h] at hmal; cases hmal
  | error e =>
    cases e with
    | err m => rfl
    | errCtx m a => rfl
    | panic site => exact absurd h (push_no_panic ext he _ hb _ site)

/-- non-vacuity: the replay case of the finding in small — `Map<LargeUtf8, Utf8?>`, stream `[key "😀", key ""]` -/
example : (push {} (.map "$.a" ⟨"entries", false, ⟨"key", false, []⟩, ⟨"value", true, []⟩⟩ none [0]
      (.bytes "$.a.entries.key" .largeUtf8 none [0] []) (.bytes "$.a.entries.value" .utf8 (some []) [0] []))
    (.mapRaw (.key (.str "😀") (.key (.str "") .nil)))) =
  .error (.errCtx "Invalid map: a key was serialized before the value of the previous key"
    [("data_type", "Map(..)"), ("field", "$.a")]) := by decide +kernel

/-- the invariant is needed: with one `current_offset` counter missing the union builder indexes out of range -/
theorem push_without_inv_panics :
    (push {} (.union "$" (.cons (.null "$.a" 0) ⟨"a", true, []⟩ .nil) [] [] []) (.unitVariant "E" 0 "a")).isPanic = true := by
  decide +kernel

/-! ### the per-variant row counters of a union (`current_offset: Vec<i32>`, repo fix 217d612) -/

/-- **Beyond `i32::MAX` rows of one variant a union row is an ERROR**: for every state in which the counter of the
variant cannot be incremented inside `i32`, `serialize_variant` returns an error value — not a panic (the pinned `+= 1`
with overflow checks), not an accepted row with a wrapped offset. -/
theorem union_rows_capacity_is_error (fs : BL) (types offs cur : List Int) (idx : Nat) (c : B) (m : FieldMeta) (co : Int)
    (hget : fs.get? idx = some (c, m)) (hco : cur[idx]? = some co) (hcap : co + 1 > 2147483647) :
    (serializeVariant fs types offs cur idx).isErr = true := by
  simp only [serializeVariant, hget, hco, if_pos hcap]
  rfl

/-- below the capacity (and with a type id that fits `i8`) the row is accepted: the counter is the row's child offset -/
theorem union_row_ok_below_capacity (fs : BL) (types offs cur : List Int) (idx : Nat) (c : B) (m : FieldMeta) (co : Int)
    (hget : fs.get? idx = some (c, m)) (hco : cur[idx]? = some co) (hcap : co + 1 ≤ 2147483647) (hidx : idx ≤ 127) :
    serializeVariant fs types offs cur idx = .ok (c, types ++ [(idx : Int)], offs ++ [co], cur.set idx (co + 1)) := by
  have h1 : ¬ (co + 1 > 2147483647) := by omega
  have h2 : ¬ (idx > 127) := by omega
  simp only [serializeVariant, hget, hco, if_neg h1, if_neg h2]

/-- the pinned code (unchecked `current_offset[variant_index] += 1` on an `i32`) unwinds on the 2^31-th row of a
variant; the repaired code returns an error on the same state -/
theorem serializeVariantPinned_overflow_panics :
    serializeVariantPinned (.cons (.null "$.a" 2147483647) ⟨"a", true, []⟩ .nil) [] [] [2147483647] 0
      = panic "attempt to add with overflow" ∧
    (serializeVariant (.cons (.null "$.a" 2147483647) ⟨"a", true, []⟩ .nil) [] [] [2147483647] 0).isErr = true :=
  ⟨by decide +kernel, by decide +kernel⟩

/-- non-vacuity: both boundary rows of variant 1 of `Union<Null, Null>` (the overflow suite's case `union_rows`) -/
example : (serializeVariant (.cons (.null "$.a.A" 0) ⟨"A", true, []⟩ (.cons (.null "$.a.B" 0) ⟨"B", true, []⟩ .nil)) [] []
      [0, 2147483646] 1).isOk = true ∧
    (serializeVariant (.cons (.null "$.a.A" 0) ⟨"A", true, []⟩ (.cons (.null "$.a.B" 0) ⟨"B", true, []⟩ .nil)) [] []
      [0, 2147483647] 1).isErr = true :=
  ⟨by decide +kernel, by decide +kernel⟩

/-- the hypotheses of `union_rows_capacity_is_error` / `union_row_ok_below_capacity` are met by these states -/
example : (serializeVariant (.cons (.null "$.a.A" 0) ⟨"A", true, []⟩ (.cons (.null "$.a.B" 0) ⟨"B", true, []⟩ .nil)) [] []
      [0, 2147483647] 1).isErr = true :=
  union_rows_capacity_is_error _ _ _ _ 1 (.null "$.a.B" 0) ⟨"B", true, []⟩ 2147483647 rfl rfl (by decide +kernel)
example : serializeVariant (.cons (.null "$.a.A" 0) ⟨"A", true, []⟩ (.cons (.null "$.a.B" 0) ⟨"B", true, []⟩ .nil)) [] []
      [0, 2147483646] 1 = .ok (.null "$.a.B" 0, [1], [2147483646], [0, 2147483647]) :=
  union_row_ok_below_capacity _ _ _ _ 1 (.null "$.a.B" 0) ⟨"B", true, []⟩ 2147483646 rfl rfl (by decide +kernel) (by decide +kernel)

theorem ctx_isOk {α} (ann : List (String × String)) (r : R α) : (ctx ann r).isOk = r.isOk := by
  unfold ctx
  split
  · split <;> simp [R.isOk]
  · rfl

/-- **the defaults route** (`UnionBuilder::serialize_default` = one row of the first real variant per call; a
`None` of an enclosing nullable struct sends it): `k ≠ 0` defaults that do not fit into the `i32` counter of that
variant are an error in EVERY state — never a panic, never accepted. -/
theorem pushDefaultK_union_capacity_is_error (p : String) (fs : BL) (types offs cur : List Int) (k : Nat) (hk : k ≠ 0)
    (hcap : cur.getD (firstReal fs) 0 + (k : Int) > 2147483647) :
    (pushDefaultK (.union p fs types offs cur) k).isPanic = false ∧
    (pushDefaultK (.union p fs types offs cur) k).isOk = false := by
  refine ⟨Lemmas.C16.pushDefaultK_no_panic _ k, ?_⟩
  unfold pushDefaultK
  rw [ctx_isOk]
  cases fs with
  | nil => simp only [if_neg hk]; rfl
  | cons c m rest =>
    simp only []
    split
    · rfl
    split
    · rfl
    · cases h : pushDefaultKAt (.cons c m rest) (firstReal (.cons c m rest)) k with
      | error e => rfl
      | ok fs' =>
        simp only [bind, Except.bind]
        rw [if_pos ⟨hk, hcap⟩]
        rfl

/-- non-vacuity: `Union<Null>` with `2^31 - 2` rows takes one default and refuses two (and one at `2^31 - 1`) -/
example : (pushDefaultK (.union "$.u" (.cons (.null "$.u.A" 2147483646) ⟨"A", true, []⟩ .nil) [] [] [2147483646]) 1).isOk = true ∧
    (pushDefaultK (.union "$.u" (.cons (.null "$.u.A" 2147483646) ⟨"A", true, []⟩ .nil) [] [] [2147483646]) 2).isErr = true ∧
    (pushDefaultK (.union "$.u" (.cons (.null "$.u.A" 2147483647) ⟨"A", true, []⟩ .nil) [] [] [2147483647]) 1).isErr = true :=
  ⟨by decide +kernel, by decide +kernel, by decide +kernel⟩
example : (pushDefaultK (.union "$.u" (.cons (.null "$.u.A" 2147483646) ⟨"A", true, []⟩ .nil) [] [] [2147483646]) 2).isOk = false :=
  (pushDefaultK_union_capacity_is_error _ _ _ _ _ 2 (by decide +kernel) (by decide +kernel)).2

/-- the default external functions (everything is refused) satisfy `ExtNP` -/
theorem extDefault_np : ExtNP {} :=
  ⟨fun _ _ => rfl, fun _ _ => rfl, fun _ _ _ => rfl, fun _ _ => rfl, fun _ _ _ _ _ => rfl, fun _ _ _ _ => rfl⟩

/-- the hypotheses of `map_non_alternating_is_error` are met by that instance (a value without a key, here) -/
example : (push {} (.map "$.a" ⟨"entries", false, ⟨"key", false, []⟩, ⟨"value", true, []⟩⟩ none [0]
      (.bytes "$.a.entries.key" .largeUtf8 none [0] []) (.bytes "$.a.entries.value" .utf8 (some []) [0] []))
    (.mapRaw (.value (.str "x") .nil))).isErr = true :=
  map_non_alternating_is_error {} extDefault_np _ _ _ _ _ _ (by simp [NPInv]) _ (by decide +kernel)

def codecUnit : SaModel.TimeUnit → SaModel.Codec.TimeUnit
  | .second => .second | .millisecond => .millisecond | .microsecond => .microsecond | .nanosecond => .nanosecond

/-- `TimestampBuilder::serialize_str` (the timestamp string parser): for EVERY string, unit and time-zone setting a
value or an error.  The one panic branch of the model — chrono's `timestamp_millis()` / `timestamp_micros()` overflowing
`i64` — is unreachable: every instant the parser models return lies inside chrono's date range
(`parseNaiveDateTime_range`, `parseUtcDateTime_range`: days in [-96465292, 95026236], second of day < 86400,
nanosecond < 2·10^9, the leap second included), where the products fit (`C14.instantToUnits_no_panic`). -/
theorem timestampOfString_no_panic (u : SaModel.Codec.TimeUnit) (utc : Bool) (s : List Char) :
    (SaModel.Codec.timestampOfString u utc s).isPanic = false := Lemmas.C16.timestampOfString_np u utc s

/-- the instants the two date-time parsers return are inside chrono's range -/
theorem parseNaiveDateTime_range {s : List Char} {t : SaModel.Codec.Instant} (h : SaModel.Codec.parseNaiveDateTime s = .ok t) :
    SaModel.Codec.inChronoDays t.days = true ∧ t.secs < 86400 ∧ t.nanos < 2000000000 :=
  Lemmas.C16.parseNaiveDateTime_range h

theorem parseUtcDateTime_range {s : List Char} {t : SaModel.Codec.Instant} (h : SaModel.Codec.parseUtcDateTime s = .ok t) :
    SaModel.Codec.inChronoDays t.days = true ∧ t.secs < 86400 ∧ t.nanos < 2000000000 :=
  Lemmas.C16.parseUtcDateTime_range h

/-- non-vacuity: the extreme dates of chrono's range, a leap second, a zone offset that moves the date; strings that
are refused -/
example : (SaModel.Codec.timestampOfString .microsecond false "+262142-12-31T23:59:60.999999999".toList).isOk = true ∧
    (SaModel.Codec.timestampOfString .microsecond true "-262143-01-01T00:00:00Z".toList).isOk = true ∧
    (SaModel.Codec.timestampOfString .nanosecond false "+262142-12-31T23:59:59".toList).isErr = true ∧
    (SaModel.Codec.timestampOfString .millisecond true "-262143-01-01T00:00:00+01:00".toList).isErr = true ∧
    (SaModel.Codec.timestampOfString .second true "2020-02-30T00:00:00Z".toList).isErr = true ∧
    (SaModel.Codec.timestampOfString .second false "".toList).isErr = true := by decide +kernel

/-- the external functions as the correspondence driver instantiates them (Driver/Suites/Build.lean `extOfAux`):
decimal and temporal string conversions are the codec models of C15 / C14; the float display strings and the float
product of the decimal float path (`cast`) are parameters (they come from the case) -/
def codecExt (f32Str f64Str : Nat → String) (cast : Nat → Int → Bool → Nat → Option (Bool × Int)) : Ext :=
  { f32Str := f32Str, f64Str := f64Str,
    parseDecimal := fun p s txt => SaModel.Decimal.serializeStr p s txt.toUTF8.toList,
    floatToDecimal := fun p s is64 bits =>
      match cast p s is64 bits with
      | some (fin, c) => SaModel.Decimal.serializeFloat p s fin c
      | none => fail "aux: missing dec_cast entry",
    parseDate := fun is64 s => SaModel.Codec.dateOfString (if is64 then .date64 else .date32) s.toList,
    parseTime := fun u s =>
      SaModel.Codec.timeOfString (match u with | .second | .millisecond => .time32 | _ => .time64) (codecUnit u) s.toList,
    parseTimestamp := fun u utc s => SaModel.Codec.timestampOfString (codecUnit u) utc s.toList,
    parseDuration := fun u s => SaModel.Codec.durationOfString s.toList (codecUnit u) }

/-- `ExtNP` is a theorem for the codec models: date, time, timestamp and duration string parsers, decimal string and
float paths — no hypothesis left -/
theorem codecExt_np (f32Str f64Str : Nat → String) (cast : Nat → Int → Bool → Nat → Option (Bool × Int)) :
    ExtNP (codecExt f32Str f64Str cast) where
  parseDate := fun _ _ => SaModel.Props.C14.dateOfString_no_panic _ _
  parseTime := fun _ _ => SaModel.Props.C14.timeOfString_no_panic _ _ _
  parseTimestamp := fun _ _ _ => timestampOfString_no_panic _ _ _
  parseDuration := fun _ _ => SaModel.Props.C14.span_no_panic _ _
  parseDecimal := fun p sc s h1 h2 =>
    (isPanic_false_iff _).2 (fun site => SaModel.Props.C15.parse_no_panic p sc _ h1 h2 site)
  floatToDecimal := fun p sc is64 bits => by
    simp only [codecExt]
    split
    · exact (isPanic_false_iff _).2 (fun site => SaModel.Props.C15.float_no_panic p sc _ _ site)
    · rfl

/-- `to_marrow` with the codec models plugged in: no hypothesis on the external functions is left -/
theorem toMarrow_codec_no_panic (f32Str f64Str : Nat → String) (cast : Nat → Int → Bool → Nat → Option (Bool × Int))
    (fields : List Field) (rows : List SVal) (site : String) :
    toMarrow (codecExt f32Str f64Str cast) fields rows ≠ panic site :=
  Lemmas.C16.ne_panic_of_isPanic (Lemmas.C16.toMarrow_np _ (codecExt_np f32Str f64Str cast) fields rows) site

/-- `into_array` of every builder -/
theorem finish_no_panic (ext : Ext) (he : ExtNP ext) (b : B) (hb : NPInv b) (site : String) : finish ext b ≠ panic site :=
  Lemmas.C16.ne_panic_of_isPanic (Lemmas.C16.finish_np ext he b hb) site

/-- `ArrayBuilder::extend` and the `Serializer` front end, for every value -/
theorem extend_no_panic (ext : Ext) (he : ExtNP ext) (root : B) (hb : NPInv root) (x : SVal) (site : String) :
    extend ext root x ≠ panic site :=
  Lemmas.C16.ne_panic_of_isPanic (Lemmas.C16.extend_np ext he root hb x) site

theorem serializeWith_no_panic (ext : Ext) (he : ExtNP ext) (root : B) (hb : NPInv root) (x : SVal) (site : String) :
    serializeWith ext root x ≠ panic site :=
  Lemmas.C16.ne_panic_of_isPanic (Lemmas.C16.serializeWith_np ext he root hb x) site

/-- builder construction followed by ANY list of rows: for every field list (accepted by `newRoot` or not) -/
theorem runRows_no_panic (ext : Ext) (he : ExtNP ext) (fields : List Field) (rows : List SVal) (site : String) :
    runRows ext fields rows ≠ panic site :=
  Lemmas.C16.ne_panic_of_isPanic (Lemmas.C16.runRows_np ext he fields rows) site

/-- `to_marrow(fields, rows)`: construction, every push and `build_arrays` -/
theorem toMarrow_no_panic (ext : Ext) (he : ExtNP ext) (fields : List Field) (rows : List SVal) (site : String) :
    toMarrow ext fields rows ≠ panic site :=
  Lemmas.C16.ne_panic_of_isPanic (Lemmas.C16.toMarrow_np ext he fields rows) site

/-! non-vacuity: a two-column root; malformed rows are accepted or refused, never a panic -/

def exFields : List Field := [.mk "a" .int32 false [], .mk "b" .utf8 true []]

/-- the hypotheses of `push_no_panic` hold for the root `newRoot` builds -/
example : ∃ root, newRoot exFields = .ok root ∧ NPInv root := by
  have hok : (newRoot exFields).isOk = true := by decide +kernel
  cases h : newRoot exFields with
  | ok root => exact ⟨root, rfl, newRoot_inv h⟩
  | error e => rw [h] at hok; cases hok

/-- a tuple longer than the struct (design #18: the extra element is ignored) and a shorter one (error) -/
example : (runRows {} exFields [.tuple (.cons (.int .i32 1) (.cons (.str "x") (.cons (.bool true) .nil)))]).isOk = true := by
  decide +kernel
example : (runRows {} exFields [.tuple .nil]).isErr = true := by decide +kernel

/-- raw call streams: value without key, two keys in a row, a trailing key; the second one lacks `a` -/
example : (runRows {} exFields
    [.mapRaw (.value (.int .i32 9) (.key (.str "b") (.key (.str "a") (.value (.int .i32 1) (.key (.str "zz") .nil)))))]).isOk = true := by
  decide +kernel
example : (runRows {} exFields [.mapRaw (.value (.int .i32 9) (.value (.int .i32 9) .nil))]).isErr = true := by
  decide +kernel

/-- a duplicate field is an error (`seen[idx]` is read in range) -/
example : (runRows {} exFields
    [.record "R" (.cons "a" 0 (.int .i32 1) (.cons "a" 0 (.int .i32 2) .nil))]).isErr = true := by decide +kernel

/-- the pinned unchecked offset addition unwinds: witness (design #22) -/
theorem incrementLast_pinned_panics : (incrementLast false false [2147483647] 1).isPanic = true := by decide +kernel

/-- the pinned tuple path indexed `seen[idx]` out of range: witness (design #18) -/
theorem element_out_of_range_panics :
    (SS.element ⟨"$", 1, none, .cons (.null "$.a" 0) ⟨"a", true, []⟩ .nil, [none], 1, [true]⟩ 1 (fun b => .ok b)).isPanic = true := by
  decide +kernel

/-! ### tracing -/

section Tracing
open SaModel.Trace
open SaModel.Lemmas.C16 (idxOK fromTypeLoopN passes nestVec)

/-- `from_samples`, one sample: `x.serialize(TracerSerializer(&mut t))` never unwinds — for EVERY tracer state `t`
(no invariant) and every serde value `x` (raw key/value streams, tuples of any length, variants of any name) whose
variant indices stay below the allocation bound of the executable model (`idxOK`, finding #29) -/
theorem absorb_no_panic (c : Code) (o : Options) (t : Tracer) (x : SVal) (hx : idxOK x = true) (site : String) :
    absorb c o t x ≠ panic site :=
  Lemmas.C16.ne_panic_of_isPanic (Lemmas.C16.absorb_np c o x t hx) site

/-- the bound is where the model stops following the code: `ensure_variant` resizes `variants` up to the index
(finding #29, known: unbounded allocation in the real crate; an explicit `panic "alloc"` in the model) -/
theorem absorb_huge_variant_index :
    (absorb .fixed {} (Tracer.new "$" "$") (.unitVariant "E" VARIANT_ALLOC_LIMIT "a")).isPanic = true := by decide +kernel

/-- `Tracer::to_schema` (with `to_field` of every node, overwrites included) never unwinds, for every tracer -/
theorem to_schema_no_panic (o : Options) (t : Tracer) (site : String) : t.to_schema o ≠ panic site :=
  Lemmas.C16.ne_panic_of_isPanic (Lemmas.C16.to_schema_np o t) site

/-- `SerdeArrowSchema::from_samples` as a whole -/
theorem fromSamples_no_panic (c : Code) (o : Options) (xs : List SVal) (hx : ∀ x ∈ xs, idxOK x = true) (site : String) :
    fromSamples c o xs ≠ panic site :=
  Lemmas.C16.ne_panic_of_isPanic (Lemmas.C16.fromSamples_np c o xs hx) site

example : idxOK (.mapRaw (.value (.int .i32 1) (.key (.int .i8 2) .nil))) = true := by decide +kernel
example : (absorb .fixed {} (Tracer.new "$" "$") (.mapRaw (.value (.int .i32 1) .nil))).isErr = true := by decide +kernel
example : (fromSamples .fixed {} [.record "R" (.cons "a" 0 (.tuple (.cons (.bool true) .nil)) .nil),
    .record "R" (.cons "a" 0 (.tuple .nil) .nil)]).isOk = true := by decide +kernel

/-- `from_type`: the loop performs at most `budget` passes (`fromTypeLoopN` is the loop instrumented with its pass
count; its result is the loop's result) -/
theorem fromTypeLoop_passes_le_budget (c : Code) (o : Options) (ty : Ty) (budget : Nat) (t : Tracer) :
    (fromTypeLoopN c o ty budget t).1 = fromTypeLoop c o ty budget t ∧ (fromTypeLoopN c o ty budget t).2 ≤ budget :=
  ⟨Lemmas.C16.fromTypeLoopN_fst c o ty budget t, Lemmas.C16.fromTypeLoopN_le c o ty budget t⟩

/-- a successful loop ends at a complete tracer reached by `k ≤ budget` consecutive passes -/
theorem fromTypeLoop_ok (c : Code) (o : Options) (ty : Ty) (budget : Nat) (t t' : Tracer)
    (h : fromTypeLoop c o ty budget t = .ok t') :
    t'.is_complete = true ∧ ∃ k, k ≤ budget ∧ passes c o ty k t = .ok t' :=
  Lemmas.C16.fromTypeLoop_ok c o ty budget t t' h

/-- a type that no run of at most `budget` passes completes is not given a schema -/
theorem fromTypeLoop_exhausted (c : Code) (o : Options) (ty : Ty) (budget : Nat) (t : Tracer)
    (h : ∀ k, k ≤ budget → ∀ t', passes c o ty k t = .ok t' → t'.is_complete = false) (t' : Tracer) :
    fromTypeLoop c o ty budget t ≠ .ok t' :=
  Lemmas.C16.fromTypeLoop_exhausted c o ty budget t h t'

/-- C16 for `from_type`: `SerdeArrowSchema::from_type::<T>(options)` returns a schema or an error for EVERY type
description and ALL options (budget, overwrites, every flag).  Corollary of `C08_from_type`
(`Agree (fromType c o ty) (Spec.fromTypeSpec o ty)`; `Agree` relates only values and Rust errors). -/
theorem fromType_no_panic (c : Code) (o : Options) (ty : Ty) (site : String) : fromType c o ty ≠ .error (.panic site) :=
  Lemmas.C16.ne_panic_of_isPanic (Lemmas.C16.fromType_np c o ty) site

/-- one pass of the derived `Deserialize` never unwinds on a tracer that conforms to the type (`Conf`, C08: the tracer
was grown by `explore` from this very type at this path; a fresh node conforms to every type), and the result conforms
again (or the pass is a Rust error) -/
theorem explore_no_panic (c : Code) (o : Options) (ty : Ty) (p : String) (t : Tracer) (h : Lemmas.C08.Conf o p ty t)
    (site : String) : explore c o t ty ≠ .error (.panic site) :=
  Lemmas.C16.ne_panic_of_isPanic (Lemmas.C16.explore_np c o ty p t h) site

theorem explore_preserves_conf (c : Code) (o : Options) (ty : Ty) (p : String) (t t' : Tracer)
    (h : Lemmas.C08.Conf o p ty t) (he : explore c o t ty = .ok t') : Lemmas.C08.Conf o p ty t' := by
  have := Lemmas.C08.explore_conf c o ty p t h
  rw [he] at this; exact this

/-- ANY number of consecutive passes from a fresh node (beyond completion and past the budget too) never unwinds -/
theorem passes_no_panic (c : Code) (o : Options) (ty : Ty) (k : Nat) (site : String) :
    passes c o ty k (Tracer.new "$" "$") ≠ .error (.panic site) :=
  Lemmas.C16.ne_panic_of_isPanic (Lemmas.C16.passes_np c o ty k "$" "$" false) site

/-- the invariant is needed: on a tracer state `from_type` cannot reach (a union with an unseen slot) `explore` does
unwind in the model (`opt.as_ref().unwrap()` in the variant scan) -/
theorem explore_unreachable_state_panics :
    (explore .fixed {} (.union "$" "$" false (.absent .nil)) (.enum "E" (.unit "A" .nil))).isPanic = true := by decide +kernel

/-- non-vacuity of `explore_no_panic`: the tracer after one pass over an enum conforms (and is not complete) -/
example : ∃ t, explore .fixed {} (Tracer.new "$" "$") (.enum "E" (.unit "A" (.newtype "B" (.vec .bool) .nil))) = .ok t ∧
    Lemmas.C08.Conf {} "$" (.enum "E" (.unit "A" (.newtype "B" (.vec .bool) .nil))) t ∧ t.is_complete = false := by
  -- one run of the pass: a failure would give `none`
  have hc : ((explore .fixed {} (Tracer.new "$" "$") (.enum "E" (.unit "A" (.newtype "B" (.vec .bool) .nil)))).toOption.map
      Tracer.is_complete) = some false := by decide +kernel
  cases h : explore .fixed {} (Tracer.new "$" "$") (.enum "E" (.unit "A" (.newtype "B" (.vec .bool) .nil))) with
  | error e => rw [h] at hc; cases hc
  | ok t =>
    rw [h] at hc
    exact ⟨t, rfl, explore_preserves_conf _ _ _ _ _ _ (Lemmas.C08.conf_fresh _ _ "$" "$" false) h,
      by simpa [Except.toOption] using hc⟩

/-! #### the depth limit: recursive types, every container family -/

open SaModel.Trace.Spec (walkable) in
open SaModel.Lemmas.C08 (Descends unroll) in
/-- the depth limit cuts every unrolling of a recursive type.  A recursive Rust definition `T = F T` is represented by
its unrollings `unroll F n base` (`Ty` is a finite tree; a pass never looks below the first container that is too
deep, so `from_type::<T>` behaves like these); when `F` puts its argument at least one path level down (`Descends`)
every unrolling deeper than `MAX_TYPE_DEPTH` = 20 is an error VALUE of `from_type` — for all options, every budget. -/
theorem fromType_deep_is_error (c : Code) (o : Options) (F : Ty → Ty) (hF : Descends o F) (base : Ty) (n : Nat)
    (hn : MAX_TYPE_DEPTH < n) : (fromType c o (unroll F n base)).isErr = true :=
  Lemmas.C16.fromType_recursive_err c o F hF base n hn

section Families
open SaModel.Lemmas.C08 (Descends unroll)
open SaModel.Lemmas.C16 (TysMem FieldsMem PayloadMem)

/-- EVERY container constructor of the type description descends, wherever the recursive occurrence sits among the
elements, fields or variant payloads: `Vec` (sequences), maps (key or value), tuples / arrays, tuple structs, structs,
enums (newtype, tuple and struct variants) -/
theorem descends_containers (o : Options) :
    Descends o (fun t => .vec t) ∧
    (∀ k, Descends o (fun t => .map k t)) ∧ (∀ v, Descends o (fun t => .map t v)) ∧
    (∀ G : Ty → Tys, (∀ t, TysMem t (G t)) → Descends o (fun t => .tuple (G t))) ∧
    (∀ name (G : Ty → Tys), (∀ t, TysMem t (G t)) → Descends o (fun t => .tupleStruct name (G t))) ∧
    (∀ name (G : Ty → TyFields), (∀ t, FieldsMem t (G t)) → Descends o (fun t => .struct name (G t))) ∧
    (∀ name (G : Ty → TyVariants), (∀ t, PayloadMem t (G t)) → Descends o (fun t => .enum name (G t))) :=
  ⟨Lemmas.C16.descends_vec o, Lemmas.C16.descends_map_value o, Lemmas.C16.descends_map_key o,
   Lemmas.C16.descends_tuple o, Lemmas.C16.descends_tupleStruct o, Lemmas.C16.descends_struct o,
   Lemmas.C16.descends_enum o⟩

/-- the transparent wrappers (`Option`, `Box`, newtype structs add no path level) on either side of a descending
constructor, and nesting of descending constructors -/
theorem descends_wrappers (o : Options) (F : Ty → Ty) (hF : Descends o F) :
    Descends o (fun t => .option (F t)) ∧ (∀ name, Descends o (fun t => .newtypeStruct name (F t))) ∧
    Descends o (fun t => F (.option t)) ∧ (∀ name, Descends o (fun t => F (.newtypeStruct name t))) ∧
    (∀ G, Descends o G → Descends o (fun t => F (G t))) :=
  ⟨Lemmas.C16.descends_option o F hF, fun name => Lemmas.C16.descends_newtype o name F hF,
   Lemmas.C16.descends_of_option o F hF, fun name => Lemmas.C16.descends_of_newtype o name F hF,
   fun G hG => Lemmas.C16.descends_comp o F G hF hG⟩

/-- `Option` / newtypes alone do NOT descend: a definition that recurses through them only, `struct W(Option<Box<W>>)`,
is invisible to the depth limit, and the budget does not stop it either: in the pinned crate one pass over such a type
never returned (stack overflow).  Repo fix aaf3edc counts these wrappers
(`Props/C16Rec.lean: fromTypeG_wrapper_recursion_is_error`). -/
example : ¬ Descends {} (fun t => .option t) := by
  intro h
  have := (h .bool "$.a.a.a.a.a.a.a.a.a.a.a.a.a.a.a.a.a.a.a.a" (by decide +kernel)).1
  revert this; decide +kernel

/-- non-vacuity: `struct Node { value: i32, next: Option<Box<Node>> }`, `enum Tree { Leaf, Node(Box<Tree>, Box<Tree>) }`,
`struct Dir { entries: HashMap<String, Dir> }`, `struct Rose(Vec<Rose>)` — every unrolling of more than 20 levels is
an error of `from_type`, whatever the options -/
example (c : Code) (o : Options) (base : Ty) (n : Nat) (hn : MAX_TYPE_DEPTH < n) :
    (fromType c o (unroll (fun t => .struct "Node" (.cons "value" (.int .i32) (.cons "next" (.option t) .nil))) n base)).isErr = true ∧
    (fromType c o (unroll (fun t => .enum "Tree" (.unit "Leaf" (.tuple "Node" (.cons t (.cons t .nil)) .nil))) n base)).isErr = true ∧
    (fromType c o (unroll (fun t => .struct "Dir" (.cons "entries" (.map .string t) .nil)) n base)).isErr = true ∧
    (fromType c o (unroll (fun t => .newtypeStruct "Rose" (.vec t)) n base)).isErr = true := by
  refine ⟨fromType_deep_is_error c o _ ?_ base n hn, fromType_deep_is_error c o _ ?_ base n hn,
    fromType_deep_is_error c o _ ?_ base n hn, fromType_deep_is_error c o _ ?_ base n hn⟩
  · exact Lemmas.C16.descends_of_option o (fun t => .struct "Node" (.cons "value" (.int .i32) (.cons "next" t .nil)))
      (Lemmas.C16.descends_struct o "Node" (fun t => .cons "value" (.int .i32) (.cons "next" t .nil))
        (fun t => Or.inr (Or.inl rfl)))
  · exact Lemmas.C16.descends_enum o "Tree" (fun t => .unit "Leaf" (.tuple "Node" (.cons t (.cons t .nil)) .nil))
      (fun t => Or.inl (Or.inl rfl))
  · exact Lemmas.C16.descends_comp o (fun t => .struct "Dir" (.cons "entries" t .nil)) (fun t => .map .string t)
      (Lemmas.C16.descends_struct o "Dir" (fun t => .cons "entries" t .nil) (fun t => Or.inl rfl))
      (Lemmas.C16.descends_map_value o .string)
  · exact Lemmas.C16.descends_newtype o "Rose" _ (Lemmas.C16.descends_vec o)

end Families

/-- for `Vec<Vec<…>>` (`nestVec k ty` = `unroll Vec k ty`) moreover: the refusal is the documented message, in the FIRST
pass, whatever the inner type -/
theorem explore_deep (c : Code) (o : Options) (ty : Ty) (k : Nat) (hk : MAX_TYPE_DEPTH + 1 ≤ k) :
    explore c o (Tracer.new "$" "$") (nestVec k ty) = fail "Too deeply nested type detected" :=
  Lemmas.C16.explore_deep_vec c o ty k "$" "$" false (by rw [Lemmas.C16.countDots_root]; exact Nat.zero_le _)
    (by rw [Lemmas.C16.countDots_root]; omega)

example : (fromTypeLoopN .fixed {} (.struct "S" (.cons "a" (.option .bool) .nil)) 100 (Tracer.new "$" "$")).2 = 1 := by
  decide +kernel
example : (fromType .fixed {} (nestVec 21 .bool)).isErr = true := by
  rw [Lemmas.C16.nestVec_eq_unroll]
  exact fromType_deep_is_error _ _ _ (Lemmas.C16.descends_vec _) _ 21 (by decide +kernel)
example : (fromType .fixed {} (.struct "S" (.cons "a" (nestVec 3 .bool) .nil))).isOk = true := by decide +kernel

end Tracing

/-! ### reader construction and iteration -/

section Reader
open SaModel.Read

/-- `Deserializer::new(fields, views)`: the count / length checks are errors -/
theorem deserializer_new_no_panic (checkCount : Bool) (nfields : Nat) (viewLens : List Nat) (site : String) :
    Access.new checkCount nfields viewLens ≠ panic site := by
  apply Lemmas.C16.ne_panic_of_isPanic
  unfold Access.new
  split
  · rfl
  · simp only []; split <;> (split <;> rfl)

/-- construction of the column readers over ARBITRARY views, `Deserializer::get(i)`, `DeserializerIterator::next`
and the bulk `SeqAccess`: whichever index the access layer hands out (`getIdx`, `Iter.step`, `bulk`), reading that
record — `deserialize_any` or any typed target — never unwinds.  (C17 proves the reads for every index; the access
layer itself is total: `Access.getIdx`, `Access.Iter.step`, `Access.bulk`, `Access.run` are plain functions.) -/
theorem deserializer_access_no_panic (a : Arr) (t : Target) (len : Nat) :
    NoPanic (new Fixes.all a) ∧
    (∀ i idx, Access.getIdx len i = some idx → NoPanic (readAny Fixes.all a idx) ∧ NoPanic (readAs Fixes.all t a idx)) ∧
    (∀ (it : Access.Iter) idx, it.step.1 = some idx → NoPanic (readAny Fixes.all a idx) ∧ NoPanic (readAs Fixes.all t a idx)) ∧
    (∀ idx ∈ Access.bulk len, NoPanic (readAny Fixes.all a idx) ∧ NoPanic (readAs Fixes.all t a idx)) :=
  ⟨C17.new_no_panic a,
   fun _ idx _ => ⟨C17.read_no_panic a idx, C17.readAs_no_panic t a idx⟩,
   fun _ idx _ => ⟨C17.read_no_panic a idx, C17.readAs_no_panic t a idx⟩,
   fun idx _ => ⟨C17.read_no_panic a idx, C17.readAs_no_panic t a idx⟩⟩

example : Access.new true 2 [3, 4] = fail "Cannot deserialize from arrays with different lengths" := rfl
example : Access.bulk 3 = [0, 1, 2] := rfl

open SaModel.Lemmas.C12 (colLens batch)

/-- a whole-batch read through the access layer with a typed target — `Vec<T>::deserialize(Deserializer::from_marrow(
fields, views)?)`: `Deserializer::new` (count / length checks, the record count), construction of the column readers
under the root struct reader `batch len cols`, then `T::deserialize` of every record the bulk `SeqAccess` hands out, in
order, stopping at the first error.  (`Driver/ReadCheck.lean modelRead` is the one-column instance, with
`readRange _ 0 len` for `mapM` over `Access.bulk len` = `List.range len`, C13.) -/
def readBatch (t : Target) (cols : ArrFields) : R (List DVal) := do
  let len ← Access.new true cols.length (colLens cols)
  new Fixes.all (batch len cols)
  (Access.bulk len).mapM (fun idx => readAs Fixes.all t (batch len cols) idx)

/-- the same with `deserialize_any` for every record -/
def readBatchAny (cols : ArrFields) : R (List DVal) := do
  let len ← Access.new true cols.length (colLens cols)
  new Fixes.all (batch len cols)
  (Access.bulk len).mapM (fun idx => readAny Fixes.all (batch len cols) idx)

theorem mapM_no_panic {α β} (f : α → R β) (hf : ∀ a, NoPanic (f a)) : ∀ (l : List α), NoPanic (l.mapM f) :=
  fun l => Errs.noPanic (Errs.mapM l fun a _ => (hf a).errs)

/-- C16 for whole-batch typed reads: for EVERY list of columns (ARBITRARY views: no validity, length or offset
hypothesis — C17) and EVERY typed target, reading the whole batch returns the records or an error -/
theorem readBatch_no_panic (t : Target) (cols : ArrFields) (site : String) : readBatch t cols ≠ panic site := by
  unfold readBatch
  exact NoPanic.bind (deserializer_new_no_panic _ _ _) (fun len =>
    NoPanic.bind (C17.new_no_panic _) fun _ => mapM_no_panic _ (fun idx => C17.readAs_no_panic t _ idx) _) site

theorem readBatchAny_no_panic (cols : ArrFields) (site : String) : readBatchAny cols ≠ panic site := by
  unfold readBatchAny
  exact NoPanic.bind (deserializer_new_no_panic _ _ _) (fun len =>
    NoPanic.bind (C17.new_no_panic _) fun _ => mapM_no_panic _ (fun idx => C17.read_no_panic _ idx) _) site

/-- the list the bulk read produces is the list of `readRange` (what the `read` suite's driver computes) -/
theorem readBatch_eq_readRange (t : Target) (cols : ArrFields) (len : Nat) :
    (Access.bulk len).mapM (fun idx => readAs Fixes.all t (batch len cols) idx) =
      readRange (fun idx => readAs Fixes.all t (batch len cols) idx) 0 len := by
  rw [SaModel.Props.C13.bulk_eq_items]
  have key : ∀ (f : Nat → R DVal) (n s : Nat), (List.range' s n).mapM f = readRange f s n := by
    intro f n
    induction n with
    | zero => intro s; rfl
    | succ n ih =>
      intro s
      rw [List.range'_succ, List.mapM_cons, readRange, ih (s + 1)]
  rw [List.range_eq_range']
  exact key _ len 0

/-- non-vacuity: a two-column batch (nullable utf8, FixedSizeList(2) of int16; C12's example) read as `Vec<(String?,
[i16; 2])>`-like records succeeds; with a target that does not fit, and with columns of different lengths, it is an
error -/
def batchExample : ArrFields :=
  .cons ⟨"s", true, []⟩ (.bytes .utf8 (some ⟨[0b101], 0⟩) [0, 1, 1, 3] [97, 98, 99])
  (.cons ⟨"p", false, []⟩ (.fixedSizeList 3 none 2 ⟨"element", false, []⟩ (.prim .int16 none [1, 2, 3, 4, 5, 6])) .nil)

example : (readBatchAny batchExample).isOk = true := by decide +kernel
example : (readBatch (.tuple (.cons (.option .string) (.cons (.seq (.int .i16)) .nil))) batchExample).isOk = true := by
  decide +kernel
example : (readBatch .bool batchExample).isErr = true := by decide +kernel
example : (readBatchAny (.cons ⟨"a", false, []⟩ (.null 2) (.cons ⟨"b", false, []⟩ (.null 3) .nil))).isErr = true := by
  decide +kernel

end Reader

/-! ### schema side: every schema text / JSON value its readers are handed -/

section Schema
open SaModel.Dsl SaModel.SchemaJson

/-- `Term::from_str` (the data-type mini language of `utils/dsl.rs`, quoted strings with escapes included): every
text.  Nesting deeper than `MAX_TERM_DEPTH` is an ordinary error, in the model as in Rust (`deepTerm_refused` below). -/
theorem termFromStr_no_panic (s : Text) (site : String) : Term.fromStr s ≠ panic site :=
  Lemmas.C16.ne_panic_of_isPanic (Lemmas.C16.fromStrWith_np false s) site

/-- the parser's recursion is bounded (fix d2b4b5b): every term it returns is nested at most `MAX_TERM_DEPTH` = 32
levels deep … -/
theorem termFromStr_depth_bounded (s : Text) (t : Term) (h : Term.fromStr s = .ok t) : t.depth ≤ MAX_TERM_DEPTH :=
  Lemmas.C16.fromStr_depth_le false s t h

open SaModel.Lemmas.C16 (nestTerm) in
/-- … and the texts `A(A(…(I8)…))` with `n` levels (`showTerm esc (nestTerm n)`, 3n + 2 characters) are read back while
`n ≤ MAX_TERM_DEPTH` and refused with an ERROR beyond — for every `n`, i.e. for texts of any size; as a data type every
one of them with `n ≥ 1` is an error.  Before the fix the real parser exhausted the stack on such a text from some
50 000 levels on (process abort; the `overflow` suite replays `n` up to 10^6 on every run). -/
theorem deepTerm_refused (esc : Char → Bool) (n : Nat) (children : List Field) :
    Term.fromStr (showTerm esc (nestTerm n)) =
      (if n ≤ MAX_TERM_DEPTH then .ok (nestTerm n) else fail "Term is nested too deeply") ∧
    (buildDataType (showTerm esc (nestTerm (n + 1))) children).isErr = true :=
  ⟨Lemmas.C16.fromStr_nest esc n, Lemmas.C16.buildDataType_nest esc n children⟩

example : String.ofList (showTerm (fun _ => false) (Lemmas.C16.nestTerm 3)) = "A(A(A(I8)))" := by decide +kernel

/-- `build_data_type(data_type, children)`: every text, every list of children -/
theorem buildDataType_no_panic (dataType : Text) (children : List Field) (site : String) :
    buildDataType dataType children ≠ panic site :=
  Lemmas.C16.ne_panic_of_isPanic (Lemmas.C16.buildDataTypeWith_np false dataType children) site

/-- `validate_field`: every field tree (all data types, every metadata map) -/
theorem validateField_no_panic (f : Field) (site : String) : validateField f ≠ panic site :=
  Lemmas.C16.ne_panic_of_isPanic (Lemmas.C16.validateField_np f) site

/-- one field object (`CustomField::deserialize` + `into_field` + `validate_field`): EVERY JSON value — wrong kinds,
missing / duplicate / unknown keys, any `data_type` text, any strategy, any metadata, any nesting of children -/
theorem parseField_no_panic (v : JVal) (site : String) : parseField v ≠ panic site :=
  Lemmas.C16.ne_panic_of_isPanic (Lemmas.C16.parseFieldWith_np false v) site

/-- `SerdeArrowSchema::deserialize` (`from_value`, `serde_json::from_str`): every JSON value, both top-level forms -/
theorem parseSchema_no_panic (v : JVal) (site : String) : parseSchema v ≠ panic site :=
  Lemmas.C16.ne_panic_of_isPanic (Lemmas.C16.parseSchemaWith_np false v) site

/-- foreign (arrow / marrow) field objects handed to `from_value` -/
theorem acceptForeign_no_panic (fs : List Field) (site : String) : acceptForeignList fs ≠ panic site :=
  Lemmas.C16.ne_panic_of_isPanic (Lemmas.C16.acceptForeignList_np fs) site

/-- serialising a schema: the one failure (a type `PrettyFieldDataType` cannot write) is an error -/
theorem printSchema_no_panic (esc : Char → Bool) (fields : List Field) (site : String) :
    printSchema esc fields ≠ panic site :=
  Lemmas.C16.ne_panic_of_isPanic (Lemmas.C16.printSchema_np esc fields) site

/-- a schema its constructors accept can be given to the builder: `from_value` followed by `to_marrow`-style use —
reading the schema, constructing the builders, pushing any rows, finishing — never unwinds -/
theorem schema_then_build_no_panic (ext : Ext) (he : ExtNP ext) (v : JVal) (rows : List SVal) (site : String) :
    (parseSchema v >>= fun fields => toMarrow ext fields rows) ≠ panic site :=
  Lemmas.C16.ne_panic_of_isPanic
    (Lemmas.C16.bind_no_panic _ _ (Lemmas.C16.parseSchemaWith_np false v) fun fields => Lemmas.C16.toMarrow_np ext he fields rows) site

/-- non-vacuity: an accepted nested field; texts and values that are refused -/
example : (parseField (.obj (.cons "name" (.str "a") (.cons "data_type" (.str "List") (.cons "children"
    (.arr (.cons (.obj (.cons "name" (.str "element") (.cons "data_type" (.str "Timestamp(Second, Some(\"UTC\"))") .nil))) .nil))
    .nil))))).isOk = true := by decide +kernel
example : (buildDataType "Decimal128(300, 1)".toList []).isErr = true ∧ (buildDataType "Timestamp(Second, Some(\"a\\q\"))".toList []).isErr = true ∧
    (buildDataType "((((".toList []).isErr = true ∧ (buildDataType "FixedSizeList(-99999999999)".toList []).isErr = true := by
  decide +kernel
example : (parseSchema (.obj (.cons "fields" (.num 3) .nil))).isErr = true ∧ (parseSchema (.str "x")).isErr = true ∧
    (parseField (.obj (.cons "name" (.str "a") (.cons "name" (.str "b") .nil)))).isErr = true := by decide +kernel

end Schema

/-! ### collected from the codec and helper models (proved with their properties) -/

theorem decimal_parse_no_panic (p : Nat) (s : Int) (txt : List UInt8) (h1 : 1 ≤ p) (h2 : p ≤ 38) (site : String) :
    SaModel.Decimal.serializeStr p s txt ≠ SaModel.panic site := SaModel.Props.C15.parse_no_panic p s txt h1 h2 site
theorem decimal_format_no_panic (v s : Int) (hv : SaModel.Decimal.inI128 v) (hs : SaModel.Decimal.inI8 s) (site : String) :
    SaModel.Decimal.formatDecimal v s ≠ SaModel.panic site := SaModel.Props.C15.format_no_panic v s hv hs site
theorem decimal_float_no_panic (p : Nat) (s : Int) (finite : Bool) (cast : Int) (site : String) :
    SaModel.Decimal.serializeFloat p s finite cast ≠ SaModel.panic site := SaModel.Props.C15.float_no_panic p s finite cast site
theorem decimal_parser_select_total (p : Nat) (s : Int) (t : Bool) :
    ∃ parser, SaModel.Decimal.DecimalParser.new p s t = Except.ok parser := SaModel.Props.C15.parser_select_total p s t
theorem span_no_panic (s : List Char) (u : SaModel.Codec.TimeUnit) :
    (SaModel.Codec.durationOfString s u).isPanic = false := SaModel.Props.C14.span_no_panic s u
theorem time_of_string_no_panic (ty : SaModel.Codec.TimeTy) (u : SaModel.Codec.TimeUnit) (s : List Char) :
    (SaModel.Codec.timeOfString ty u s).isPanic = false := SaModel.Props.C14.timeOfString_no_panic ty u s
theorem time_to_string_no_panic (u : SaModel.Codec.TimeUnit) (ts : Int) :
    (SaModel.Codec.timeToString u ts).isPanic = false := SaModel.Props.C14.timeToString_no_panic u ts
theorem timestamp_to_string_no_panic (u : SaModel.Codec.TimeUnit) (utc : Bool) (ts : Int) :
    (SaModel.Codec.timestampToString u utc ts).isPanic = false := SaModel.Props.C14.timestampToString_no_panic u utc ts
theorem date_of_string_no_panic (ty : SaModel.Codec.DateTy) (s : List Char) :
    (SaModel.Codec.dateOfString ty s).isPanic = false := SaModel.Props.C14.dateOfString_no_panic ty s
theorem date_to_string_no_panic (ty : SaModel.Codec.DateTy) (v : Int) :
    (SaModel.Codec.dateToString ty v).isPanic = false := SaModel.Props.C14.dateToString_no_panic ty v
theorem tensor_perm_no_panic (n : Nat) (p : List Nat) (site : String) :
    SaModel.Ext.checkPermutation n p ≠ Except.error (SaModel.Fail.panic site) := SaModel.Props.C20.perm_no_panic n p site
theorem tensor_fixed_storage_no_panic {ε : Type} (h : SaModel.Ext.FixedShapeTensorField ε) :
    h.tryFrom.isPanic = false := SaModel.Props.C20.fixed_storage_no_panic h
theorem tensor_variable_storage_no_panic {ε : Type} (h : SaModel.Ext.VariableShapeTensorField ε) :
    h.tryFrom.isPanic = false := SaModel.Props.C20.variable_storage_no_panic h

/-! the remaining extension helpers of C20: constructors and setters, for every argument -/

theorem tensor_dim_names_no_panic (n : Nat) (d : List SaModel.Ext.Str) : (SaModel.Ext.checkDimNames n d).isPanic = false := by
  unfold SaModel.Ext.checkDimNames; split <;> rfl
theorem bool8_no_panic {ε : Type} (h : SaModel.Ext.Bool8Field) : (h.tryFrom (ε := ε)).isPanic = false := rfl
theorem tensor_fixed_new_no_panic {ε : Type} (name : String) (element : ε) (elementName : String) (shape : List Nat) :
    (SaModel.Ext.FixedShapeTensorField.new name element elementName shape).isPanic = false := by
  unfold SaModel.Ext.FixedShapeTensorField.new; split <;> rfl
theorem tensor_variable_new_no_panic {ε : Type} (name : String) (element : ε) (elementName : String) (ndim : Nat) :
    (SaModel.Ext.VariableShapeTensorField.new name element elementName ndim).isPanic = false := by
  unfold SaModel.Ext.VariableShapeTensorField.new; split <;> rfl

theorem of_unit_check {α} (r : R Unit) (hr : r.isPanic = false) (k : α) :
    R.isPanic (match r with | .error e => (.error e : R α) | .ok () => .ok k) = false := by
  cases r with
  | ok u => rfl
  | error e => cases e <;> first | rfl | exact hr

theorem tensor_fixed_setPermutation_no_panic {ε : Type} (h : SaModel.Ext.FixedShapeTensorField ε) (v : List Nat) :
    (h.setPermutation v).isPanic = false :=
  of_unit_check _ ((isPanic_false_iff _).2 (fun site => SaModel.Props.C20.perm_no_panic _ _ site)) _
theorem tensor_fixed_setDimNames_no_panic {ε : Type} (h : SaModel.Ext.FixedShapeTensorField ε) (v : List SaModel.Ext.Str) :
    (h.setDimNames v).isPanic = false := of_unit_check _ (tensor_dim_names_no_panic _ _) _
theorem tensor_variable_setPermutation_no_panic {ε : Type} (h : SaModel.Ext.VariableShapeTensorField ε) (v : List Nat) :
    (h.setPermutation v).isPanic = false :=
  of_unit_check _ ((isPanic_false_iff _).2 (fun site => SaModel.Props.C20.perm_no_panic _ _ site)) _
theorem tensor_variable_setDimNames_no_panic {ε : Type} (h : SaModel.Ext.VariableShapeTensorField ε) (v : List SaModel.Ext.Str) :
    (h.setDimNames v).isPanic = false := of_unit_check _ (tensor_dim_names_no_panic _ _) _
theorem tensor_variable_setUniformShape_no_panic {ε : Type} (h : SaModel.Ext.VariableShapeTensorField ε)
    (v : List (Option Nat)) : (h.setUniformShape v).isPanic = false :=
  of_unit_check _ (by unfold SaModel.Ext.VariableShapeTensorField.checkUniformShape; split <;> rfl) _

/-- non-vacuity: a permutation that is refused, one that is accepted; an index far out of range -/
example : ((SaModel.Ext.FixedShapeTensorField.mk "t" false () [2, 3] none none).setPermutation [1, 1]).isErr = true ∧
    ((SaModel.Ext.FixedShapeTensorField.mk "t" false () [2, 3] none none).setPermutation [1, 0]).isOk = true ∧
    ((SaModel.Ext.FixedShapeTensorField.mk "t" false () [2, 3] none none).setPermutation [0, 18446744073709551615]).isErr = true := by
  decide +kernel

end SaModel.Props.C16
