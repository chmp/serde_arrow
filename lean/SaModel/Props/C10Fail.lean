import SaModel.Props.C10Arrays
import SaModel.Build.Guarded
/-
C10 — ArrayBuilder histories WITH FAILING OPERATIONS.

Props/C10.lean and Props/C10Arrays.lean speak about histories in which every operation succeeds (`run … = .ok …`).  The
unrepaired crate went on USING the partial record a failed `push` leaves in the nested builders (finding
C10-use-after-failed-push: the next `push` succeeded, `to_marrow` returned a struct with children of unequal length,
`to_arrow2` panicked).  The repaired `ArrayBuilder` carries a poisoned flag (`SaModel/Build/Guarded.lean`: `pushG`,
`extendG`, `serializeWithG`, `buildArraysG`, state `G = Option B`).  Here a history is ANY list of operations, every
operation yields its outcome and the history goes on after a failing one (`runG`):

  stepG_eq                  one operation: its own check (only the `Serializer` wrapper has one; it leaves the builder alone),
                            then `ArrayBuilder::guarded` around the unguarded operation
  after_failure_refuses     once an operation has failed inside the builder, EVERY later operation of the history fails
                            (no addition is accepted, no build returns arrays) and the builder stays refused
  build_ok_oneShot          a build that succeeds returns PHYSICALLY the arrays of the one-shot `toMarrow` of the rows of
                            the additions since the previous build, and no operation failed inside the builder before it:
                            every earlier operation succeeded, or was a value the `Serializer` wrapper refuses before it
                            reaches the builder (not a collection: the builder is untouched, nothing was added)
  okRows_eq_trailing        these rows are literally "the rows of the additions that SUCCEEDED since the previous
                            SUCCESSFUL build"
  C10_histories_with_failures / C10_builds_wf_with_failures
                            the decoded content / the well-formedness of every successful build (hypotheses of
                            `C01_build_decode'` / `C03_wf'`)
  runG_of_run               the statements about `run` are about the same machine: a history that `run` completes is completed by
                            `runG` with every outcome `ok`, the same arrays and the same final builder
No hypothesis on schema or rows in the physical statements.
-/
namespace SaModel.Props.C10
open SaModel SaModel.Build SaModel.Spec

/-- what one operation yields: `.ok none` an addition, `.ok (some arrays)` a build, `.error _` a refusal -/
abbrev Outcome := R (Option (List Arr))

/-- one operation on the builder with its poisoned flag: the outcome and the builder it leaves -/
def stepG (ext : Ext) (g : G) : Op → Outcome × G
  | .push x => ((pushG ext g x).1.map fun _ => none, (pushG ext g x).2)
  | .extend x => ((extendG ext g x).1.map fun _ => none, (extendG ext g x).2)
  | .viaSerializer x => ((serializeWithG ext g x).1.map fun _ => none, (serializeWithG ext g x).2)
  | .build => ((buildArraysG ext g).1.map some, (buildArraysG ext g).2)

/-- run a history: EVERY operation yields its outcome, the history goes on after a failing one -/
def runG (ext : Ext) : G → List Op → List Outcome × G
  | g, [] => ([], g)
  | g, op :: ops => ((stepG ext g op).1 :: (runG ext (stepG ext g op).2 ops).1, (runG ext (stepG ext g op).2 ops).2)

/-- a value the `Serializer` wrapper refuses before it reaches the builder -/
def Op.shapeRefused : Op → Bool
  | .viaSerializer x => !reachesBuilder x
  | _ => false

theorem runG_length (ext : Ext) : ∀ (ops : List Op) (g : G), (runG ext g ops).1.length = ops.length
  | [], _ => rfl
  | op :: ops, g => by simp [runG, runG_length ext ops]

theorem pushG_some (ext : Ext) (b : B) (x : SVal) :
    pushG ext (some b) x = match push ext b x with
      | .ok b' => (.ok (), some b')
      | .error e => (.error e, none) := by
  simp only [pushG, guarded]
  cases push ext b x <;> rfl

theorem extendG_some (ext : Ext) (b : B) (x : SVal) :
    extendG ext (some b) x = match extend ext b x with
      | .ok b' => (.ok (), some b')
      | .error e => (.error e, none) := by
  simp only [extendG, guarded]
  cases extend ext b x <;> rfl

theorem buildArraysG_some (ext : Ext) (b : B) :
    buildArraysG ext (some b) = match buildArrays ext b with
      | .ok (arrs, rest) => (.ok arrs, some rest)
      | .error e => (.error e, none) := by
  simp only [buildArraysG, guarded]
  cases buildArrays ext b with
  | error e => rfl
  | ok p => rfl

theorem pushAllG_some (ext : Ext) : ∀ (xs : SVals) (b : B),
    pushAllG ext (some b) xs = match extend.pushAll ext b xs with
      | .ok b' => (.ok (), some b')
      | .error e => (.error e, none)
  | .nil, b => rfl
  | .cons x rest, b => by
    simp only [pushAllG, pushG_some, extend.pushAll]
    cases push ext b x with
    | error e => rfl
    | ok b' => exact pushAllG_some ext rest b'

/-- what an operation checks before it reaches the builder: the `Serializer` wrapper that its value is a collection,
the other operations nothing -/
def Op.pre : Op → R Unit
  | .viaSerializer x => serializerPre x
  | _ => .ok ()

/-- the unguarded operation: what it yields and the builder it leaves -/
def Op.exec (ext : Ext) (b : B) : Op → R (Option (List Arr) × B)
  | .build => (buildArrays ext b).map fun p => (some p.1, p.2)
  | op => (op.add ext b).map fun b' => (none, b')

/-- **the guarded step.**  Every operation is its own check, which leaves the builder alone, and then
`ArrayBuilder::guarded` around the unguarded operation: refused when poisoned, poisoned unless it succeeds. -/
theorem stepG_eq (ext : Ext) (g : G) (op : Op) :
    stepG ext g op = match op.pre with
      | .error e => (.error e, g)
      | .ok _ => guarded g (op.exec ext) := by
  cases op with
  | push x =>
    cases g with
    | none => rfl
    | some b => simp only [stepG, pushG_some, guarded, Op.pre, Op.exec, Op.add]; cases push ext b x <;> rfl
  | extend x =>
    cases g with
    | none => rfl
    | some b => simp only [stepG, extendG_some, guarded, Op.pre, Op.exec, Op.add]; cases extend ext b x <;> rfl
  | build =>
    cases g with
    | none => rfl
    | some b => simp only [stepG, buildArraysG_some, guarded, Op.pre, Op.exec]; cases buildArrays ext b <;> rfl
  | viaSerializer x =>
    rcases serializer_cases ext x with ⟨xs, _, _, hp, hs, hg⟩ | ⟨msg, _, _, hp, _, hg⟩
    · cases g with
      | none => simp only [stepG, hg, Op.pre, hp]; rfl
      | some b =>
        simp only [stepG, hg, Op.pre, hp, guarded, Op.exec, Op.add, hs, pushAllG_some]
        cases extend.pushAll ext b xs <;> rfl
    · simp only [stepG, hg, Op.pre, hp]; rfl

theorem Op.exec_add (ext : Ext) (b : B) {op : Op} (hb : op.isBuild = false) :
    op.exec ext b = (op.add ext b).map fun b' => (none, b') := by
  cases op with
  | build => cases hb
  | _ => rfl

/-- the check passes, or it refuses with the error the unguarded front end returns -/
theorem Op.pre_cases (ext : Ext) (op : Op) : (op.pre = .ok () ∧ op.shapeRefused = false) ∨
    ∃ msg, op.pre = fail msg ∧ op.shapeRefused = true ∧ ∀ root, op.add ext root = fail msg := by
  cases op with
  | viaSerializer x =>
    rcases serializer_cases ext x with ⟨_, _, hr, hp, _, _⟩ | ⟨msg, _, hr, hp, hs, _⟩
    · exact .inl ⟨hp, by simp [Op.shapeRefused, hr]⟩
    · exact .inr ⟨msg, hp, by simp [Op.shapeRefused, hr], hs⟩
  | _ => exact .inl ⟨rfl, rfl⟩

/-- a collection behind newtype layers: the wrapper is the unguarded `serializeWith`, poisoning on failure -/
theorem serializeWithG_reaches (ext : Ext) : ∀ (x : SVal) (b : B), reachesBuilder x = true →
    serializeWithG ext (some b) x = match serializeWith ext b x with
      | .ok b' => (.ok (), some b')
      | .error e => (.error e, none) := by
  intro x b h
  rcases serializer_cases ext x with ⟨xs, _, _, _, hs, hg⟩ | ⟨_, _, hr, _, _, _⟩
  · rw [hg, hs]; exact pushAllG_some ext xs b
  · rw [hr] at h; cases h

/-- any other value: refused by the wrapper, the builder (poisoned or not) stays as it was -/
theorem serializeWithG_refused (ext : Ext) : ∀ (x : SVal) (g : G), reachesBuilder x = false →
    ∃ msg, serializeWithG ext g x = (fail msg, g) := by
  intro x g h
  rcases serializer_cases ext x with ⟨_, _, hr, _, _, _⟩ | ⟨msg, _, _, _, _, hg⟩
  · rw [hr] at h; cases h
  · exact ⟨msg, hg g⟩

/-- an addition on a usable builder does what its unguarded front end does: it succeeds with it; when that fails, the
failure was inside the builder, which is poisoned, or the `Serializer` wrapper refused the value (which denotes no rows)
and left the builder as it was -/
theorem stepG_add (ext : Ext) (root : B) {op : Op} (hb : op.isBuild = false) :
    match op.add ext root with
    | .ok r => stepG ext (some root) op = (.ok none, some r)
    | .error e => stepG ext (some root) op = (.error e, none) ∨
        (op.shapeRefused = true ∧ stepG ext (some root) op = (.error e, some root)) := by
  rw [stepG_eq]
  rcases op.pre_cases ext with ⟨h, _⟩ | ⟨m, h, hr, ha⟩
  · simp only [h, guarded, Op.exec_add ext root hb]
    cases op.add ext root with
    | ok r => rfl
    | error e => exact .inl rfl
  · rw [h, ha]; exact .inr ⟨hr, rfl⟩

/-- an operation that leaves the builder poisoned has failed -/
theorem stepG_poisoned {ext : Ext} {g : G} {op : Op} (h : (stepG ext g op).2 = none) :
    ∃ e, (stepG ext g op).1 = .error e := by
  revert h
  rw [stepG_eq]
  cases op.pre with
  | error e => exact fun _ => ⟨e, rfl⟩
  | ok _ =>
    cases g with
    | none => exact fun _ => ⟨_, rfl⟩
    | some b =>
      simp only [guarded]
      cases op.exec ext b with
      | error e => exact fun _ => ⟨e, rfl⟩
      | ok p => exact fun h => nomatch h

/-- on a poisoned builder every operation fails — with an error, not a panic — and leaves it poisoned -/
theorem stepG_none (ext : Ext) (op : Op) : ∃ msg, stepG ext none op = (fail msg, none) := by
  rw [stepG_eq]
  rcases op.pre_cases ext with ⟨h, _⟩ | ⟨m, h, _⟩ <;> rw [h] <;> exact ⟨_, rfl⟩

/-- **after a failure every operation is refused.**  On a builder in which an operation has failed (`none`: the
poisoned flag is set) every later operation of ANY history fails — no addition is accepted, no build returns arrays — and
the builder stays refused; each of them fails with an ERROR (`fail msg`), none unwinds. -/
theorem after_failure_refuses (ext : Ext) : ∀ (ops : List Op),
    (runG ext none ops).2 = none ∧ ∀ o ∈ (runG ext none ops).1, ∃ msg, o = fail msg
  | [] => ⟨rfl, by simp [runG]⟩
  | op :: ops => by
    obtain ⟨e, he⟩ := stepG_none ext op
    obtain ⟨h1, h2⟩ := after_failure_refuses ext ops
    simp only [runG, he]
    refine ⟨h1, ?_⟩
    intro o ho
    rcases List.mem_cons.1 ho with rfl | ho
    · exact ⟨e, rfl⟩
    · exact h2 o ho

/-- the rows pending after an operation that did not poison the builder -/
def pendingAfter (pending : List SVal) : Op → List SVal
  | .build => []
  | op => pending ++ op.rows

theorem trailing_cons (pending : List SVal) (op : Op) (ops : List Op) :
    trailing pending (op :: ops) = trailing (pendingAfter pending op) ops := by
  cases op <;> rfl

theorem pendingAfter_add {op : Op} (hb : op.isBuild = false) (pending : List SVal) :
    pendingAfter pending op = pending ++ op.rows := by
  cases op with
  | build => cases hb
  | _ => rfl

/-- a value the wrapper refuses denotes no rows -/
theorem shapeRefused_rows {op : Op} (h : op.shapeRefused = true) : op.isBuild = false ∧ op.rows = [] := by
  cases op with
  | viaSerializer x =>
    rcases serializer_cases {} x with ⟨_, _, hr, _, _, _⟩ | ⟨_, hrows, _, _, _, _⟩
    · simp [Op.shapeRefused, hr] at h
    · exact ⟨rfl, by simp [Op.rows, hrows]⟩
  | _ => cases h

/-- **one step.**  From a state reached by pushing `pending` onto the fresh builder, an operation either poisons the
builder, or leaves the state reached by pushing `pendingAfter pending op` onto the fresh builder — and then it succeeded,
or it was refused by the `Serializer` wrapper before reaching the builder (and added nothing).  A build that succeeds
returns the one-shot arrays of `pending`. -/
theorem step_inv (ext : Ext) (fields : List Field) (r0 : B) (h0 : newRoot fields = .ok r0)
    (root : B) (pending : List SVal) (hp : pending.foldlM (push ext) r0 = .ok root) (op : Op) :
    (stepG ext (some root) op).2 = none ∨
    ∃ root', (stepG ext (some root) op).2 = some root' ∧
      (pendingAfter pending op).foldlM (push ext) r0 = .ok root' ∧
      ((stepG ext (some root) op).1.isOk = true ∨ op.shapeRefused = true) ∧
      ∀ arrs, (stepG ext (some root) op).1 = .ok (some arrs) → toMarrow ext fields pending = .ok arrs := by
  have ht : takeRest root = r0 := by
    rw [foldlM_push_takeRest ext pending r0 root hp]; exact take_fresh_root fields r0 h0
  rcases op.build_or_add with rfl | hb
  · simp only [stepG, buildArraysG_some]
    cases h1 : buildArrays ext root with
    | error e => exact Or.inl rfl
    | ok p =>
      obtain ⟨arrs, rest⟩ := p
      have hr := buildArrays_rest h1
      rw [ht] at hr
      subst hr
      refine Or.inr ⟨rest, rfl, rfl, Or.inl rfl, ?_⟩
      intro arrs' h
      cases h
      exact toMarrow_of_fold h0 hp h1
  · have hs := stepG_add ext root hb
    rw [pendingAfter_add hb]
    cases h1 : op.add ext root with
    | ok r =>
      simp only [h1] at hs
      rw [hs]
      exact Or.inr ⟨r, rfl, foldlM_push_append ext _ _ _ _ _ hp (add_fold h0 ht h1), Or.inl rfl, fun _ h => nomatch h⟩
    | error e =>
      simp only [h1] at hs
      rcases hs with hs | ⟨hrf, hs⟩
      · exact Or.inl (by rw [hs])
      · rw [hs, (shapeRefused_rows hrf).2, List.append_nil]
        exact Or.inr ⟨root, rfl, hp, Or.inr hrf, fun _ h => nomatch h⟩

/-- the induction behind `build_ok_oneShot` (`pending`: the rows added since the last build, `root` the state they led to) -/
theorem runG_folds (ext : Ext) (fields : List Field) (r0 : B) (h0 : newRoot fields = .ok r0) :
    ∀ (ops : List Op) (root : B) (pending : List SVal), pending.foldlM (push ext) r0 = .ok root →
    ∀ (i : Nat) (arrs : List Arr), ops[i]? = some .build → (runG ext (some root) ops).1[i]? = some (.ok (some arrs)) →
      toMarrow ext fields (trailing pending (ops.take i)) = .ok arrs ∧
      ∀ j, j < i → ∃ op o, ops[j]? = some op ∧ (runG ext (some root) ops).1[j]? = some o ∧
        (o.isOk = true ∨ op.shapeRefused = true)
  | [] => fun _ _ _ _ _ hop => nomatch hop
  | op :: ops => by
    intro root pending hp i arrs hop ho
    have ih := runG_folds ext fields r0 h0 ops
    rcases step_inv ext fields r0 h0 root pending hp op with h | ⟨root', h1, h2, h3, h4⟩
    · -- poisoned: neither this operation nor a later one succeeds
      have hall : ∀ o ∈ (runG ext (some root) (op :: ops)).1, ∃ e, o = .error e := by
        simp only [runG, h]
        intro o ho
        rcases List.mem_cons.1 ho with rfl | ho
        · exact stepG_poisoned h
        · obtain ⟨msg, hm⟩ := (after_failure_refuses ext ops).2 o ho
          exact ⟨_, hm⟩
      obtain ⟨e, he⟩ := hall _ (List.mem_of_getElem? ho)
      cases he
    · cases i with
      | zero =>
        cases hop
        exact ⟨h4 arrs (Option.some.inj ho), fun j hj => nomatch hj⟩
      | succ i =>
        simp only [runG, h1, List.getElem?_cons_succ] at ho hop
        obtain ⟨g1, g2⟩ := ih root' _ h2 i arrs hop ho
        refine ⟨by simpa [List.take_succ_cons, trailing_cons] using g1, ?_⟩
        intro j hj
        cases j with
        | zero => exact ⟨op, _, rfl, rfl, h3⟩
        | succ j =>
          obtain ⟨op', o, ha, hb, hc⟩ := g2 j (Nat.lt_of_succ_lt_succ hj)
          exact ⟨op', o, ha, by simpa [runG, h1] using hb, hc⟩

/-- **C10 with failing operations: every build that succeeds is the one-shot conversion of its batch, and it succeeds
only if no operation failed inside the builder before it.**  Any history `ops` on the builder of `fields` — operations may
fail, the history goes on: if operation `i` is a build and returns arrays, then
  * the arrays are PHYSICALLY those of the one-shot `toMarrow ext fields rows`, `rows` = the rows of the additions between the
    previous build and this one, in order (`trailing [] (ops.take i)`), and
  * every earlier operation succeeded, or was a value the `Serializer` wrapper refuses before it reaches the builder
    (it added nothing).  In particular every earlier build succeeded, so "the previous build" is "the previous successful
    build" and the additions in between all succeeded (`okRows_eq_trailing`).
No hypothesis on the schema or the rows. -/
theorem build_ok_oneShot (ext : Ext) (fields : List Field) (r0 : B) (h0 : newRoot fields = .ok r0)
    (ops : List Op) (i : Nat) (arrs : List Arr) (hop : ops[i]? = some .build)
    (ho : (runG ext (some r0) ops).1[i]? = some (.ok (some arrs))) :
    toMarrow ext fields (trailing [] (ops.take i)) = .ok arrs ∧
    ∀ j, j < i → ∃ op o, ops[j]? = some op ∧ (runG ext (some r0) ops).1[j]? = some o ∧
      (o.isOk = true ∨ op.shapeRefused = true) :=
  runG_folds ext fields r0 h0 ops r0 [] rfl i arrs hop ho

/-- the rows of the additions that SUCCEEDED since the last SUCCESSFUL build, read off the operations and their outcomes -/
def okRows (pending : List SVal) : List (Op × Outcome) → List SVal
  | [] => pending
  | (.build, .ok _) :: rest => okRows [] rest
  | (op, .ok _) :: rest => okRows (pending ++ op.rows) rest
  | (_, .error _) :: rest => okRows pending rest

/-- when every operation succeeded or was refused by the wrapper, the rows since the last build are the rows of the
successful additions since the last successful build -/
theorem okRows_eq_trailing : ∀ (l : List (Op × Outcome)) (pending : List SVal),
    (∀ p ∈ l, p.2.isOk = true ∨ p.1.shapeRefused = true) → okRows pending l = trailing pending (l.map (·.1))
  | [], _, _ => rfl
  | (op, .ok v) :: rest, pending, h => by
    have ih := fun pd => okRows_eq_trailing rest pd (fun p hp => h p (List.mem_cons_of_mem _ hp))
    cases op <;> simp [okRows, trailing, Op.rows, ih]
  | (op, .error e) :: rest, pending, h => by
    obtain ⟨hb, hrows⟩ : op.isBuild = false ∧ op.rows = [] :=
      shapeRefused_rows ((h (op, .error e) (by simp)).resolve_left (by simp [R.isOk]))
    have hskip : okRows pending ((op, .error e) :: rest) = okRows pending rest := by cases op <;> rfl
    rw [hskip, List.map_cons, trailing_add hb, hrows, List.append_nil]
    exact okRows_eq_trailing rest pending (fun p hp => h p (List.mem_cons_of_mem _ hp))

/-- before a build that succeeds, "the rows of the additions that succeeded since the previous successful build" (read off
the outcomes) are the rows of the additions since the previous build -/
theorem okRows_before_ok_build (ext : Ext) (fields : List Field) (r0 : B) (h0 : newRoot fields = .ok r0)
    (ops : List Op) (i : Nat) (arrs : List Arr) (hop : ops[i]? = some .build)
    (ho : (runG ext (some r0) ops).1[i]? = some (.ok (some arrs))) :
    okRows [] ((ops.zip (runG ext (some r0) ops).1).take i) = trailing [] (ops.take i) := by
  obtain ⟨_, h2⟩ := build_ok_oneShot ext fields r0 h0 ops i arrs hop ho
  have hi : i ≤ ops.length := Nat.le_of_lt (List.getElem?_eq_some_iff.1 hop).1
  rw [okRows_eq_trailing, List.map_take, List.map_fst_zip (by rw [runG_length]; exact Nat.le_refl _)]
  intro p hp
  obtain ⟨j, hj⟩ := List.getElem?_of_mem hp
  rw [List.getElem?_take] at hj
  split at hj
  · rename_i hji
    obtain ⟨ha, hb⟩ := List.getElem?_zip_eq_some.1 hj
    obtain ⟨op, o, ha', hb', hc⟩ := h2 j hji
    rw [ha] at ha'; rw [hb] at hb'
    cases ha'; cases hb'
    exact hc
  · cases hj

/-- `build_ok_oneShot`, the rows named by the OUTCOMES: a successful build returns exactly the rows of the additions that
succeeded since the previous successful build -/
theorem build_ok_okRows (ext : Ext) (fields : List Field) (r0 : B) (h0 : newRoot fields = .ok r0)
    (ops : List Op) (i : Nat) (arrs : List Arr) (hop : ops[i]? = some .build)
    (ho : (runG ext (some r0) ops).1[i]? = some (.ok (some arrs))) :
    toMarrow ext fields (okRows [] ((ops.zip (runG ext (some r0) ops).1).take i)) = .ok arrs := by
  rw [okRows_before_ok_build ext fields r0 h0 ops i arrs hop ho]
  exact (build_ok_oneShot ext fields r0 h0 ops i arrs hop ho).1

/-- every outcome of a history is the outcome of its operation on some builder -/
theorem runG_outcome (ext : Ext) : ∀ (ops : List Op) (i : Nat) (g : G) (op : Op) (o : Outcome), ops[i]? = some op →
    (runG ext g ops).1[i]? = some o → ∃ g', o = (stepG ext g' op).1
  | [], _ => fun _ _ _ h1 => nomatch h1
  | _ :: _, 0 => fun g _ _ h1 h2 => by cases h1; cases h2; exact ⟨g, rfl⟩
  | _ :: ops, i + 1 => fun _ op o h1 h2 => runG_outcome ext ops i _ op o h1 h2

/-- a build succeeds only if NO operation before it failed inside the builder: an earlier failed `push`, `extend`,
`build`, or a `Serializer` call that failed in one of its records, makes every later build fail -/
theorem build_fails_after_failure (ext : Ext) (fields : List Field) (r0 : B) (h0 : newRoot fields = .ok r0)
    (ops : List Op) (i j : Nat) (hj : j < i) (op : Op) (e : Fail) (hopj : ops[j]? = some op)
    (hfail : (runG ext (some r0) ops).1[j]? = some (.error e)) (hin : op.shapeRefused = false)
    (hop : ops[i]? = some .build) : ∃ e', (runG ext (some r0) ops).1[i]? = some (.error e') := by
  have hi : i < (runG ext (some r0) ops).1.length := by
    rw [runG_length]; exact (List.getElem?_eq_some_iff.1 hop).1
  have hout := List.getElem?_eq_getElem hi
  cases ho : (runG ext (some r0) ops).1[i] with
  | error e' => exact ⟨e', by rw [hout, ho]⟩
  | ok v =>
    exfalso
    rw [ho] at hout
    -- a build yields arrays, not the outcome of an addition
    obtain ⟨g', hg⟩ := runG_outcome ext ops i _ .build _ hop hout
    obtain ⟨arrs, rfl⟩ : ∃ arrs, v = some arrs := by
      cases hb : (buildArraysG ext g').1 with
      | error e => rw [stepG, hb] at hg; cases hg
      | ok a => rw [stepG, hb] at hg; cases hg; exact ⟨a, rfl⟩
    obtain ⟨op', o, ha, hb', hc⟩ := (build_ok_oneShot ext fields r0 h0 ops i arrs hop hout).2 j hj
    rw [hopj] at ha
    rw [hfail] at hb'
    cases ha; cases hb'
    rcases hc with hc | hc
    · cases hc
    · rw [hin] at hc; cases hc

theorem mem_trailing (okx : SVal → Prop) : ∀ (ops : List Op) (pending : List SVal),
    (∀ x ∈ pending, okx x) → OpsOK okx ops → ∀ x ∈ trailing pending ops, okx x
  | [], _, hp, _, x, hx => hp x hx
  | op :: ops, pending, hp, ho, x, hx => by
    have ih := mem_trailing okx ops
    rcases op.build_or_add with rfl | hb
    · exact ih [] (by simp) ho.tail x hx
    · rw [trailing_add hb] at hx
      exact ih _ (fun y hy => (List.mem_append.1 hy).elim (hp y) (ho op (by simp) y)) ho.tail x hx

theorem OpsOK_take {okx : SVal → Prop} {ops : List Op} (h : OpsOK okx ops) (i : Nat) : OpsOK okx (ops.take i) :=
  fun op hop => h op (List.mem_of_mem_take hop)

/-- **C10 (histories with failing operations), decoded content.**  Every build of ANY history that succeeds — whatever
failed or was refused before — returns arrays that decode (`Spec.decodeAll`), column by column, to exactly the documented
rows `interpRow ext fields` of the records added by the successful additions since the previous successful build
(`DecodesTo`).  Hypotheses: those of `C01.C01_build_decode'`, as in `C10_histories`. -/
theorem C10_histories_with_failures (ext : Ext) (fields : List Field) (r0 : B) (h0 : newRoot fields = .ok r0)
    (hschema : ∀ f ∈ fields, Lemmas.C03.SchemaOKF f)
    (hcov : fields.all Build.coveredF = true)
    (ops : List Op) (hraw : OpsOK (fun x => structStreamsAlternate x = true) ops)
    (hnar : OpsOK (fun x => noRaw x = true) ops ∨ narrowRoot fields = true)
    (i : Nat) (arrs : List Arr) (hop : ops[i]? = some .build)
    (ho : (runG ext (some r0) ops).1[i]? = some (.ok (some arrs))) :
    DecodesTo ext fields arrs (okRows [] ((ops.zip (runG ext (some r0) ops).1).take i)) ∧
    okRows [] ((ops.zip (runG ext (some r0) ops).1).take i) = trailing [] (ops.take i) := by
  have h1 := (build_ok_oneShot ext fields r0 h0 ops i arrs hop ho).1
  have heq := okRows_before_ok_build ext fields r0 h0 ops i arrs hop ho
  refine ⟨?_, heq⟩
  rw [heq]
  exact decodes_of_ok ext fields hschema hcov _ _
    (mem_trailing (DecodeOK fields) _ [] (by simp) (OpsOK_take (hraw.decodeOK hnar) i)) h1

/-- **C03 along histories with failing operations**: every build that succeeds returns well-formed arrays of the declared
fields (`Spec.WF`: structurally valid AND of exactly the field's data type), one per field, each of exactly as
many rows as were added successfully since the previous successful build.  Hypotheses: those of `C01.C03_wf'` (incl.
`hplain`: no metadata on a Map's entries field, known finding C03-map-entries-metadata), as in `C10_builds_wf`. -/
theorem C10_builds_wf_with_failures (ext : Ext) (fields : List Field) (r0 : B) (h0 : newRoot fields = .ok r0)
    (hschema : ∀ f ∈ fields, Lemmas.C03.SchemaOKF f)
    (hplain : ∀ f ∈ fields, Lemmas.C03.PlainF f)
    (hsafe : Safe r0 ∨ fields.all Build.coveredF = true) (hext : Lemmas.C03.ExtOK ext)
    (ops : List Op) (hrows : OpsOK Lemmas.C03.SValOK ops)
    (i : Nat) (arrs : List Arr) (hop : ops[i]? = some .build)
    (ho : (runG ext (some r0) ops).1[i]? = some (.ok (some arrs))) :
    arrs.length = fields.length ∧
    ∀ (j : Nat) (f : Field) (a : Arr), fields[j]? = some f → arrs[j]? = some a →
      WF f a = true ∧ (decodeAll a).length = (trailing [] (ops.take i)).length := by
  have h1 := (build_ok_oneShot ext fields r0 h0 ops i arrs hop ho).1
  exact Props.C01.C03_wf' ext fields _ _ hschema hplain
    (hsafe.imp (fun hs root0 hr => by rw [h0] at hr; cases hr; exact hs) id) hext
    (mem_trailing Lemmas.C03.SValOK _ [] (by simp) (OpsOK_take hrows i)) h1

/-- a history that `run` (Props/C10.lean: every operation succeeds) completes is completed by `runG` with every outcome
`ok`, the builds returning the same arrays, in the same final builder: `run_oneShot`, `C10_histories`,
`C10_chunking_irrelevant`, `C10_build_is_fresh`, `take_is_fresh` are statements about the successful histories of `runG` -/
theorem runG_of_run (ext : Ext) : ∀ (ops : List Op) (root : B) (outs : List (B × List Arr)) (fin : B),
    run ext root ops = .ok (outs, fin) →
    (runG ext (some root) ops).2 = some fin ∧
    (∀ o ∈ (runG ext (some root) ops).1, o.isOk = true) ∧
    (runG ext (some root) ops).1.filterMap (fun o => match o with | .ok (some a) => some a | _ => none) = outs.map (·.2)
  | [] => fun root outs fin h => by
    cases h
    exact ⟨rfl, by simp [runG], rfl⟩
  | op :: ops => by
    intro root outs fin h
    have ih := runG_of_run ext ops
    have hcons : ∀ {o : Outcome} {l : List Outcome}, o.isOk = true → (∀ o' ∈ l, o'.isOk = true) →
        ∀ o' ∈ o :: l, o'.isOk = true := fun ho hl o' h' => (List.mem_cons.1 h').elim (· ▸ ho) (hl o')
    rcases op.build_or_add with rfl | hb
    · obtain ⟨⟨arrs, rest⟩, h1, h⟩ := (bind_ok _ _ _).1 h
      obtain ⟨⟨outs', fin'⟩, h2, h⟩ := (bind_ok _ _ _).1 h
      cases h
      obtain ⟨g1, g2, g3⟩ := ih rest _ _ h2
      simp only [runG, stepG, buildArraysG_some, h1, Except.map]
      exact ⟨g1, hcons rfl g2, by rw [List.filterMap_cons_some (by rfl), g3]; rfl⟩
    · rw [run_add hb] at h
      obtain ⟨r, h1, h⟩ := (bind_ok _ _ _).1 h
      obtain ⟨g1, g2, g3⟩ := ih r outs fin h
      have hs := stepG_add ext root hb
      simp only [h1] at hs
      simp only [runG, hs]
      exact ⟨g1, hcons rfl g2, by rw [List.filterMap_cons_none (by rfl), g3]⟩

/-! ### non-vacuity: the history of Props/C10Arrays.lean with a record the builder refuses in the middle -/

section examples

/-- `exOps` up to its first build, then a record whose list holds a string (refused by the `Int8` element builder AFTER
the dictionary column has taken its value), more additions and a build, a value the wrapper refuses, and a last build -/
def exFailOps : List Op :=
  [.push (exRec "x" [1]), .build,
   .push (.record "R" (.cons "d" 0 (.str "y") (.cons "l" 0 (.seq (.cons (.str "no") .nil)) .nil))),
   .push (exRec "z" []), .viaSerializer (.bool true), .extend (.seq .nil), .build]

/-- the first build succeeds; the refused record fails; EVERYTHING after it fails, the last build included -/
example : (runG {} (some exRoot0) exFailOps).1.map (·.cls) = ["ok", "ok", "err", "err", "err", "err", "err"] ∧
    (runG {} (some exRoot0) exFailOps).2 = none := by decide +kernel

/-- `build_ok_oneShot` applies to the build that succeeded -/
example : ∀ arrs, (runG {} (some exRoot0) exFailOps).1[1]? = some (.ok (some arrs)) →
    toMarrow {} exFields [exRec "x" [1]] = .ok arrs := fun arrs h =>
  (build_ok_oneShot {} exFields exRoot0 exNew exFailOps 1 arrs rfl h).1

/-- `C10_histories_with_failures` and `C10_builds_wf_with_failures` apply to it with every hypothesis discharged: the
arrays of the successful build decode to the documented rows of the one record pushed before it and are well formed -/
example : ∀ arrs, (runG {} (some exRoot0) exFailOps).1[1]? = some (.ok (some arrs)) →
    DecodesTo {} exFields arrs [exRec "x" [1]] ∧ arrs.length = exFields.length := by
  intro arrs h
  obtain ⟨h1, h2⟩ := C10_histories_with_failures {} exFields exRoot0 exNew exFields_schemaOK exFields_covered exFailOps
    (by unfold OpsOK; decide) (Or.inl (by unfold OpsOK; decide)) 1 arrs rfl h
  rw [h2] at h1
  exact ⟨h1, h1.1⟩

/-- `build_fails_after_failure`: the push at position 2 failed inside the builder, so the build at position 6 fails -/
example : ∃ e', (runG {} (some exRoot0) exFailOps).1[6]? = some (.error e') := by
  have h : ∃ e, (runG {} (some exRoot0) exFailOps).1[2]? = some (.error e) := by
    have : ((runG {} (some exRoot0) exFailOps).1[2]?.map (·.isOk)) = some false := by decide +kernel
    cases hv : (runG {} (some exRoot0) exFailOps).1[2]? with
    | none => rw [hv] at this; cases this
    | some o =>
      cases o with
      | ok v => rw [hv] at this; cases this
      | error e => exact ⟨e, rfl⟩
  obtain ⟨e, he⟩ := h
  exact build_fails_after_failure {} exFields exRoot0 exNew exFailOps 6 2 (by decide) _ e rfl he rfl rfl

/-- a value the `Serializer` wrapper refuses does NOT poison the builder: the build after it succeeds with the row pushed
before it -/
example : ((runG {} (some exRoot0) [.push (exRec "x" [1]), .viaSerializer (.bool true), .build]).1.map (·.cls) =
    ["ok", "err", "ok"]) := by decide +kernel

end examples

end SaModel.Props.C10
