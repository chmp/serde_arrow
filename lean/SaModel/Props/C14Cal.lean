import SaModel.Props.C14
import SaModel.Lemmas.C09Chars
import SaModel.Lemmas.C14Count
/-
# C14, calendar part: the day count of the model against an INDEPENDENT specification

`Props/C14.lean: date_exact` says "the stored integer is `daysFromCivil y m d`" — the closed formula of the
model on both sides.  Here the formula is proved equal to what `Spec/Calendar.lean` (which does not import the
model) DEFINES as "days since 1970-01-01 in the proleptic Gregorian calendar", for every date of every year of ℤ:

* `IsDayNumber` — epoch ↦ 0, closed under next day / + 1 and previous day / − 1 (`nextDay`, `prevDay` written
  from the Gregorian leap rule and a literal table of month lengths);
* `dayNumber` — by counting whole years from 1970 one by one, whole months one by one, days.

Then the date / timestamp exactness theorems are restated against that specification.
-/
namespace SaModel.Props.C14
open SaModel SaModel.Codec SaModel.Spec.Calendar

/-! ## the calendar of the model is the Gregorian calendar of the specification -/

/-- same leap years (every year of ℤ) -/
theorem isLeapYear_is_spec (y : Int) : isLeapYear y = isLeap y := (isLeap_eq y).symm

/-- same month lengths -/
theorem daysInMonth_is_spec (y m : Int) (hm : 1 ≤ m ∧ m ≤ 12) : daysInMonth y m = monthLength y m :=
  (monthLength_eq y m hm.1 hm.2).symm

/-- same valid dates (for all triples, also nonsense months) -/
theorem validDate_is_spec (y m d : Int) : validDate y m d = valid (y, m, d) := (valid_eq y m d).symm

/-! ## successor / predecessor -/

theorem daysFromCivil_epoch : daysFromCivil 1970 1 1 = 0 := by decide +kernel

/-- **daysFromCivil_succ**: the day after a valid date — any year of ℤ, month ends, leap days, year ends —
has the next number -/
theorem daysFromCivil_succ (y m d : Int) (hv : validDate y m d = true) :
    daysOfCivil (nextDay (y, m, d)) = daysFromCivil y m d + 1 :=
  daysOf_nextDay y m d hv

theorem daysFromCivil_pred (y m d : Int) (hv : validDate y m d = true) :
    daysOfCivil (prevDay (y, m, d)) = daysFromCivil y m d - 1 :=
  daysOf_prevDay y m d hv

/-- `nextDay` / `prevDay` stay inside the calendar … -/
theorem nextDay_valid (dt : Date) (hv : valid dt = true) : valid (nextDay dt) = true := by
  obtain ⟨y, m, d⟩ := dt
  rw [valid_iff] at hv
  have := nextDay_validDate y m d hv
  rwa [← valid_iff] at this

theorem prevDay_valid (dt : Date) (hv : valid dt = true) : valid (prevDay dt) = true := by
  obtain ⟨y, m, d⟩ := dt
  rw [valid_iff] at hv
  have := prevDay_validDate y m d hv
  rwa [← valid_iff] at this

/-- … and are mutually inverse there -/
theorem prevDay_nextDay (dt : Date) (hv : valid dt = true) : prevDay (nextDay dt) = dt := by
  obtain ⟨y, m, d⟩ := dt
  exact prevDay_nextDay_of_valid y m d ((valid_iff y m d).1 hv)

theorem nextDay_prevDay (dt : Date) (hv : valid dt = true) : nextDay (prevDay dt) = dt := by
  obtain ⟨y, m, d⟩ := dt
  exact nextDay_prevDay_of_valid y m d ((valid_iff y m d).1 hv)

/-- the inverse formula steps with the calendar too: every integer, before and after the epoch -/
theorem civilFromDays_succ (z : Int) : civilFromDays (z + 1) = nextDay (civilFromDays z) := Codec.civilFromDays_succ z
theorem civilFromDays_pred (z : Int) : civilFromDays (z - 1) = prevDay (civilFromDays z) := Codec.civilFromDays_pred z

example : daysOfCivil (nextDay (2000, 2, 28)) = daysFromCivil 2000 2 28 + 1 ∧ nextDay (2000, 2, 28) = (2000, 2, 29) ∧
    nextDay (1900, 2, 28) = (1900, 3, 1) ∧ nextDay (-1, 12, 31) = (0, 1, 1) ∧ validDate (-262143) 12 31 = true := by decide +kernel
example : civilFromDays (-719528 - 1) = prevDay (0, 1, 1) ∧ prevDay (0, 1, 1) = (-1, 12, 31) := by decide +kernel

/-! ## the formula computes the day number of the specification, and nothing else does -/

/-- **daysFromCivil_is_dayNumber**: for every valid date of every year of ℤ the closed formula of the model is
the day number in the sense of the inductive specification -/
theorem daysFromCivil_is_dayNumber (y m d : Int) (hv : validDate y m d = true) :
    IsDayNumber (y, m, d) (daysFromCivil y m d) :=
  isDayNumber_daysFromCivil y m d hv

/-- every integer is the day number of exactly the date `civilFromDays` computes -/
theorem civilFromDays_is_dayNumber (z : Int) : IsDayNumber (civilFromDays z) z := isDayNumber_civilFromDays z

/-- characterisation: the specification relates exactly the valid dates with the number the formula computes -/
theorem isDayNumber_iff (dt : Date) (n : Int) : IsDayNumber dt n ↔ (valid dt = true ∧ n = daysOfCivil dt) := by
  obtain ⟨y, m, d⟩ := dt
  constructor
  · intro h
    obtain ⟨hv, hn⟩ := isDayNumber_sound h
    exact ⟨(valid_iff y m d).2 hv, hn⟩
  · rintro ⟨hv, rfl⟩
    exact isDayNumber_daysFromCivil y m d ((valid_iff y m d).1 hv)

/-- **uniqueness**: the specification is functional (a date has one day number) … -/
theorem isDayNumber_functional {dt : Date} {n n' : Int} (h : IsDayNumber dt n) (h' : IsDayNumber dt n') : n = n' := by
  rw [((isDayNumber_iff dt n).1 h).2, ((isDayNumber_iff dt n').1 h').2]

/-- … injective (a number belongs to one date) … -/
theorem isDayNumber_injective {dt dt' : Date} {n : Int} (h : IsDayNumber dt n) (h' : IsDayNumber dt' n) : dt = dt' := by
  obtain ⟨y, m, d⟩ := dt
  obtain ⟨y', m', d'⟩ := dt'
  have a := isDayNumber_sound h
  have b := isDayNumber_sound h'
  exact daysFromCivil_injective y m d y' m' d' a.1 b.1 (a.2.symm.trans b.2)

/-- … and total both ways: defined on exactly the valid dates, onto ℤ -/
theorem isDayNumber_total (dt : Date) : (∃ n, IsDayNumber dt n) ↔ valid dt = true :=
  ⟨fun ⟨n, h⟩ => ((isDayNumber_iff dt n).1 h).1, fun hv => ⟨daysOfCivil dt, (isDayNumber_iff dt _).2 ⟨hv, rfl⟩⟩⟩

theorem isDayNumber_onto (n : Int) : ∃ dt, IsDayNumber dt n := ⟨civilFromDays n, isDayNumber_civilFromDays n⟩

/-- **daysFromCivil_is_count**: the formula equals the day number obtained by counting years, months and days
one by one (`Spec.Calendar.dayNumber`) -/
theorem daysFromCivil_is_count (y m d : Int) (hm : 1 ≤ m ∧ m ≤ 12) : daysFromCivil y m d = dayNumber (y, m, d) :=
  daysFromCivil_eq_dayNumber y m d hm.1 hm.2

/-- the two specifications agree (a statement inside `Spec/Calendar.lean`; the formula is only the means of proof) -/
theorem isDayNumber_iff_dayNumber (dt : Date) (n : Int) : IsDayNumber dt n ↔ (valid dt = true ∧ n = dayNumber dt) := by
  rw [isDayNumber_iff]
  obtain ⟨y, m, d⟩ := dt
  constructor
  · rintro ⟨hv, rfl⟩
    have hb := (validDate_iff y m d).1 ((valid_iff y m d).1 hv)
    exact ⟨hv, daysFromCivil_eq_dayNumber y m d hb.1 hb.2.1⟩
  · rintro ⟨hv, rfl⟩
    have hb := (validDate_iff y m d).1 ((valid_iff y m d).1 hv)
    exact ⟨hv, (daysFromCivil_eq_dayNumber y m d hb.1 hb.2.1).symm⟩

example : IsDayNumber (2000, 2, 29) 11016 := (isDayNumber_iff _ _).2 (by decide)
example : IsDayNumber (-262143, 1, 1) (-96465292) ∧ IsDayNumber (262142, 12, 31) 95026236 :=
  ⟨(isDayNumber_iff _ _).2 (by decide), (isDayNumber_iff _ _).2 (by decide)⟩
example : ¬ IsDayNumber (1900, 2, 29) 0 := fun h => by have := ((isDayNumber_iff _ _).1 h).1; revert this; decide
example : ¬ IsDayNumber (2000, 2, 29) 11017 := fun h => by have := ((isDayNumber_iff _ _).1 h).2; revert this; decide

/-! ## dates: the exactness theorems against the specification -/

/-- what the model of `NaiveDate::from_str` returns: the day number (specification) of the date whose year, month
and day fields stand in the string -/
theorem parseNaiveDate_fields {s : List Char} {z : Int} (h : parseNaiveDate s = .ok z) :
    ∃ (rest : List Char) (y : Int) (m d : Nat), parseDateItems s = some (rest, y, m, d) ∧ skipWs rest = [] ∧
      (-262143 ≤ y ∧ y ≤ 262142) ∧ IsDayNumber (y, (m : Int), (d : Int)) z := by
  unfold parseNaiveDate at h
  split at h
  · rename_i rest y m d hitems
    split at h
    · rename_i hrest
      split at h
      · rename_i z' hr
        cases h
        unfold resolveDate at hr
        split at hr
        · rename_i hc
          cases hr
          exact ⟨rest, y, m, d, hitems, hrest, ⟨hc.1, hc.2.1⟩, isDayNumber_daysFromCivil y m d hc.2.2⟩
        · cases hr
      · cases h
    · cases h
  · cases h

/-- **date_exact_spec** (`date_exact` against the independent specification): a string the Date32 / Date64
builder accepts consists of year, month and day fields of a date of the calendar, and the stored integer is
that date's day number — in the sense of `IsDayNumber` (steps of one day from 1970-01-01) and, equally, of
`dayNumber` (counting years, months, days) — times 86 400 000 for Date64.  No formula of the model occurs. -/
theorem date_exact_spec (ty : DateTy) (s : List Char) (v : Int) (h : dateOfString ty s = .ok v) :
    ∃ (rest : List Char) (y : Int) (m d : Nat) (n : Int), parseDateItems s = some (rest, y, m, d) ∧ skipWs rest = [] ∧
      IsDayNumber (y, (m : Int), (d : Int)) n ∧ n = dayNumber (y, (m : Int), (d : Int)) ∧ v = n * ty.factor := by
  unfold dateOfString at h
  cases hp : parseNaiveDate s with
  | error e => rw [hp] at h; cases h
  | ok z =>
    rw [hp] at h
    simp only [bind, Except.bind] at h
    obtain ⟨rest, y, m, d, hitems, hrest, _, hday⟩ := parseNaiveDate_fields hp
    split at h
    · split at h
      · cases h
        exact ⟨rest, y, m, d, z, hitems, hrest, hday, ((isDayNumber_iff_dayNumber _ _).1 hday).2, rfl⟩
      · cases h
    · cases h

/-- the reader: the string produced for a stored value is the formatted date whose day number is `⌊v / factor⌋` -/
theorem dateToString_spec (ty : DateTy) (v : Int) (s : List Char) (h : dateToString ty v = .ok s) :
    ∃ dt : Date, IsDayNumber dt (v / ty.factor) ∧ s = formatDate dt.1 dt.2.1 dt.2.2 := by
  unfold dateToString at h
  simp only at h
  split at h
  · cases h
    exact ⟨civilFromDays (v / ty.factor), isDayNumber_civilFromDays _, rfl⟩
  · cases h

/-- **date_roundtrip_spec** (`date_roundtrip` against the specification): every stored value the reader accepts
is written as the date with day number `⌊v / factor⌋`, and the builder parses that string back to
`⌊v / factor⌋ · factor` -/
theorem date_roundtrip_spec (ty : DateTy) (v : Int) (h : inChronoDays (v / ty.factor) = true) :
    ∃ (s : List Char) (dt : Date), dateToString ty v = .ok s ∧ IsDayNumber dt (v / ty.factor) ∧
      s = formatDate dt.1 dt.2.1 dt.2.2 ∧ dateOfString ty s = .ok (v / ty.factor * ty.factor) := by
  obtain ⟨s, h1, h2⟩ := date_roundtrip ty v h
  obtain ⟨dt, h3, h4⟩ := dateToString_spec ty v s h1
  exact ⟨s, dt, h1, h3, h4, h2⟩

example : dateOfString .date32 "2000-02-29".toList = .ok 11016 ∧ dayNumber (2000, 2, 29) = 11016 := by
  simp only [SaModel.Lemmas.C09.toList_eq_charsOf]; decide +kernel
example : dateOfString .date64 "-000001-12-31".toList = .ok (-719529 * 86400000) ∧ dayNumber (-1, 12, 31) = -719529 :=
  -- counting down from 1970 year by year is 1971 steps: the formula instead
  ⟨by simp only [SaModel.Lemmas.C09.toList_eq_charsOf]; decide +kernel, by rw [← daysFromCivil_is_count _ _ _ (by decide)]; decide⟩
example : (dateOfString .date32 "1900-02-29".toList).isErr = true := by simp only [SaModel.Lemmas.C09.toList_eq_charsOf]; decide +kernel

/-! ## timestamps: seconds / nanoseconds since the epoch on top of the independent day number -/

/-- the `instantNanos` of `timestamp_exact` is the specification's "nanoseconds since the epoch" of the instant's
day number, second of day and nanosecond -/
theorem instantNanos_is_spec (t : Instant) : instantNanos t = nanosSinceEpoch t.days t.secs t.nanos := rfl

/-- the model of `NaiveDateTime::from_str`: the instant's day is the day number (specification) of the date
fields of the string -/
theorem parseNaiveDateTime_fields {s : List Char} {t : Instant} (h : parseNaiveDateTime s = .ok t) :
    ∃ (rest : List Char) (y : Int) (m d : Nat), parseDateItems s = some (rest, y, m, d) ∧
      IsDayNumber (y, (m : Int), (d : Int)) t.days := by
  unfold parseNaiveDateTime at h
  split at h
  · cases h
  · rename_i rest y m d hitems
    split at h
    · cases h
    · split at h
      · cases h
      · split at h
        · rename_i days secs nanos hr _
          cases h
          unfold resolveDate at hr
          split at hr
          · rename_i hc
            cases hr
            exact ⟨rest, y, m, d, hitems, isDayNumber_daysFromCivil y m d hc.2.2⟩
          · cases hr
        · cases h
      · cases h

/-- **timestamp_exact_spec**: a string written into a Timestamp column without time zone is stored as
`⌊nanoseconds since the epoch / unit⌋` (floor toward −∞), where the nanoseconds since the epoch are
`(n · 86400 + second of day) · 10⁹ + nanosecond` and `n` is the day number — in the sense of the independent
specification — of the date fields of the string.  (Leap-second strings, `nanos ≥ 10⁹`, are the known finding.)  Only the
date fields are tied to the string: `secs` and `nanos` are those of the parsed instant, which the statement does not relate
to the time fields of `s`. -/
theorem timestamp_exact_spec (u : TimeUnit) (s : List Char) (v : Int) (h : timestampOfString u false s = .ok v) :
    ∃ (rest : List Char) (y : Int) (m d : Nat) (n : Int) (secs nanos : Nat),
      parseDateItems s = some (rest, y, m, d) ∧ IsDayNumber (y, (m : Int), (d : Int)) n ∧
      n = dayNumber (y, (m : Int), (d : Int)) ∧
      (nanos < 1000000000 → v = nanosSinceEpoch n secs nanos / (u.nsPer : Int)) ∧ inI64 v = true := by
  unfold timestampOfString at h
  simp only [Bool.false_eq_true, if_false] at h
  cases hp : parseNaiveDateTime s with
  | error e => rw [hp] at h; cases h
  | ok t =>
    rw [hp] at h
    simp only [bind, Except.bind] at h
    obtain ⟨rest, y, m, d, hitems, hday⟩ := parseNaiveDateTime_fields hp
    refine ⟨rest, y, m, d, t.days, t.secs, t.nanos, hitems, hday, ((isDayNumber_iff_dayNumber _ _).1 hday).2, ?_, ?_⟩
    · intro hn
      exact (timestamp_exact u t v hn h).1
    · unfold instantToUnits at h
      by_cases hin : inI64 (instantUnitsValue u t) = true
      · rw [if_pos hin] at h; cases h; exact hin
      · rw [if_neg hin] at h; cases u <;> cases h

/-- the model of `DateTime<Utc>::from_str`: the date fields of the string have day number `n` (specification), and the
instant is the local second `n · 86400 + secsLocal` moved by the zone offset (`Z` / `UTC` = 0, `±hh:mm`) -/
theorem parseUtcDateTime_fields {s : List Char} {t : Instant} (h : parseUtcDateTime s = .ok t) :
    ∃ (rest : List Char) (y : Int) (m d : Nat) (n : Int) (secsLocal : Nat) (off : Int),
      parseDateItems s = some (rest, y, m, d) ∧ IsDayNumber (y, (m : Int), (d : Int)) n ∧
      (-86400 < off ∧ off < 86400) ∧ t.secs < 86400 ∧
      secondsSinceEpoch t.days t.secs = secondsSinceEpoch n secsLocal - off := by
  unfold parseUtcDateTime at h
  split at h
  · cases h
  · rename_i rest y m d hitems
    split at h
    · split at h
      · split at h
        · cases h
        · simp only at h
          split at h
          · cases h
          · rename_i zrest off _
            split at h
            · split at h
              · rename_i days secs nanos hr _
                split at h
                · cases h
                · rename_i hoff
                  split at h
                  · cases h
                    unfold resolveDate at hr
                    split at hr
                    · rename_i hc
                      cases hr
                      refine ⟨_, y, m, d, _, secs, off, hitems, isDayNumber_daysFromCivil y m d hc.2.2, by omega, ?_, ?_⟩
                      · simp only; omega
                      · simp only [secondsSinceEpoch]; omega
                    · cases hr
                  · cases h
              · cases h
            · cases h
      · cases h
    · cases h

/-- **timestamp_exact_spec_utc**: the same for a Timestamp column with time zone UTC: the stored value is
`⌊((n · 86400 + local second of day − offset) · 10⁹ + nanosecond) / unit⌋` with `n` the day number
(specification) of the date fields of the string; `secsLocal`, `nanos` and `off` are bound only by `|off| < 86400`, not
related to the time and zone fields of `s` -/
theorem timestamp_exact_spec_utc (u : TimeUnit) (s : List Char) (v : Int) (h : timestampOfString u true s = .ok v) :
    ∃ (rest : List Char) (y : Int) (m d : Nat) (n : Int) (secsLocal nanos : Nat) (off : Int),
      parseDateItems s = some (rest, y, m, d) ∧ IsDayNumber (y, (m : Int), (d : Int)) n ∧
      n = dayNumber (y, (m : Int), (d : Int)) ∧ (-86400 < off ∧ off < 86400) ∧
      (nanos < 1000000000 →
        v = ((secondsSinceEpoch n secsLocal - off) * 1000000000 + nanos) / (u.nsPer : Int)) := by
  unfold timestampOfString at h
  simp only [if_true] at h
  cases hp : parseUtcDateTime s with
  | error e => rw [hp] at h; cases h
  | ok t =>
    rw [hp] at h
    simp only [bind, Except.bind] at h
    obtain ⟨rest, y, m, d, n, secsLocal, off, hitems, hday, hoff, _, hsec⟩ := parseUtcDateTime_fields hp
    refine ⟨rest, y, m, d, n, secsLocal, t.nanos, off, hitems, hday, ((isDayNumber_iff_dayNumber _ _).1 hday).2, hoff, ?_⟩
    intro hn
    rw [← hsec]
    exact (timestamp_exact u t v hn h).1

example : timestampOfString .second true "1970-01-01T00:30:00+01:00".toList = .ok (-1800) ∧
    ((secondsSinceEpoch (dayNumber (1970, 1, 1)) 1800 - 3600) * 1000000000 + 0) / 1000000000 = -1800 := by
  simp only [SaModel.Lemmas.C09.toList_eq_charsOf]; decide +kernel

/-- the reader: a stored timestamp is written as the date with day number `n` and the time of day such that
`(n · 86400 + second of day) · 10⁹ + nanosecond` is exactly `ts` units -/
theorem timestampToString_spec (u : TimeUnit) (utc : Bool) (ts : Int) (s : List Char)
    (h : timestampToString u utc ts = .ok s) :
    ∃ (dt : Date) (n : Int) (secs nanos : Nat), IsDayNumber dt n ∧
      nanosSinceEpoch n secs nanos = ts * (u.nsPer : Int) ∧ secs < 86400 ∧ nanos < 1000000000 ∧
      s = formatDate dt.1 dt.2.1 dt.2.2 ++ ['T'] ++ formatTime secs nanos ++ (if utc then ['Z'] else []) := by
  unfold timestampToString at h
  cases ht : unitsToInstant u ts with
  | none => rw [ht] at h; cases h
  | some t =>
    rw [ht] at h
    cases h
    obtain ⟨h1, h2, h3, _⟩ := unitsToInstant_spec u ts t ht
    exact ⟨civilFromDays t.days, t.days, t.secs, t.nanos, isDayNumber_civilFromDays _, h1, h2, h3, rfl⟩

example : timestampOfString .millisecond false "1969-12-31T23:59:59.999".toList = .ok (-1) ∧
    nanosSinceEpoch (dayNumber (1969, 12, 31)) 86399 999000000 / 1000000 = -1 := by simp only [SaModel.Lemmas.C09.toList_eq_charsOf]; decide +kernel

end SaModel.Props.C14
