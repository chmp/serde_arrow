import SaModel.Props.C09
import SaModel.Lemmas.C09TracedTy
import SaModel.Props.C06
import SaModel.Trace.TracerPinned
/-
C09, the quantifier "for all schemas the crate can TRACE": every schema the tracer returns lies in `SchemaOK`
(`validField && reprField`, Spec/SchemaOK.lean), so the JSON round-trip theorem `C09_schema_roundtrip` applies to it.

  C09_from_type_in_domain      every schema `from_type` returns — ALL type descriptions, ALL options (budget, every flag),
                               both codes; overwrites in the domain
  C09_from_type_json_roundtrip … survives `to_value` / `from_value` unchanged
  C09_from_samples_in_domain   every schema `from_samples` returns — ALL sample collections (any nesting, every serde
                               constructor), ALL options (`allow_null_fields` included), repaired code; overwrites in the
                               domain
  C09_from_samples_json_roundtrip
  C09_unseen_position_outside_pinned
                               the defect repaired by repo fix 5168cf7 (finding C09-traced-unseen-null): before it, under
                               `allow_null_fields`, a position no sample reached (the element of a list that was always empty)
                               was traced as a NON-nullable `Null` field; `from_value` of the written form makes it nullable
                               (`into_field`: `Null` ⇒ nullable), so that traced schema did not survive the JSON form
                               unchanged (it came back with `nullable = true` at that position; no error)
  C09_unseen_position_survives the same samples on the repaired code: `element` is traced nullable and the schema survives
Hypothesis `OwOK o`: the fields given as overwrites are themselves in the domain (an overwrite replaces the traced field
as given — `C08_overwrite` —; `TracingOptions::overwrite` validates it with `from_value`, which lets sorted maps and sparse
unions through when it is given a marrow / arrow field object).
Lemmas: SaModel/Lemmas/C09Traced.lean (`to_field_schemaOK`: the fields of every tracer satisfying the reachable-state
invariant `C07.WF`), SaModel/Lemmas/C09TracedTy.lean (`mapping_schemaOK`: the documented mapping `Spec.mapping`, and
`fromType_spec` = `C08_from_type`).
-/
namespace SaModel.Props.C09
open SaModel SaModel.Dsl SaModel.SchemaJson SaModel.Trace SaModel.Lemmas.C09T

/-- the overwrites of the tracing options are fields of the round-trip domain -/
abbrev OverwritesInDomain (o : Options) : Prop := OwOK o

theorem overwritesInDomain_nil (o : Options) (h : o.overwrites = []) : OverwritesInDomain o := by
  intro kv hkv; rw [h] at hkv; cases hkv

/-- **C09, traced schemas (`from_type`).**  Every field of every schema `from_type` returns lies in `SchemaOK`. -/
theorem C09_from_type_in_domain (c : Code) (o : Options) (how : OverwritesInDomain o) (ty : Ty) (fields : List Field)
    (h : fromType c o ty = .ok fields) : ∀ f ∈ fields, SchemaOK f :=
  fromType_schemaOK c o how ty fields h

/-- … so it survives its serde / JSON form unchanged -/
theorem C09_from_type_json_roundtrip (esc : Char → Bool) (c : Code) (o : Options) (how : OverwritesInDomain o) (ty : Ty)
    (fields : List Field) (h : fromType c o ty = .ok fields) : (printSchema esc fields >>= parseSchema) = .ok fields :=
  C09_schema_roundtrip esc fields (C09_from_type_in_domain c o how ty fields h)

/-- **C09, traced schemas (`from_samples`).**  Every field of every schema `from_samples` returns lies in `SchemaOK`
(every option, `allow_null_fields` included: every `Null` field is emitted nullable — repo fix 5168cf7; the code before it
is `C09_unseen_position_outside_pinned`). -/
theorem C09_from_samples_in_domain (o : Options) (how : OverwritesInDomain o)
    (xs : List SVal) (fields : List Field) (h : fromSamples .fixed o xs = .ok fields) : ∀ f ∈ fields, SchemaOK f := by
  simp only [fromSamples] at h
  obtain ⟨t, ht, h⟩ := Lemmas.C06.bind_ok'.mp h
  have hw : Lemmas.C07.WF o t :=
    Lemmas.C07.absorbAll_wf o (Lemmas.C06.wf7_new o "$" "$") (Props.C06.fromSamplesTracer_absorbAll ht)
  exact to_schema_schemaOK o how t hw fields h

theorem C09_from_samples_json_roundtrip (esc : Char → Bool) (o : Options) (how : OverwritesInDomain o)
    (xs : List SVal) (fields : List Field) (h : fromSamples .fixed o xs = .ok fields) :
    (printSchema esc fields >>= parseSchema) = .ok fields :=
  C09_schema_roundtrip esc fields (C09_from_samples_in_domain o how xs fields h)

/-- the samples `[{a: []}]` -/
def wEmptyList : List SVal := [.record "R" (.cons "a" 0 (.seq .nil) .nil)]

/-- **The pinned defect (C09-traced-unseen-null, repaired by 5168cf7).**  Before the repair, under `allow_null_fields`, the
samples `[{a: []}]` traced `a` as `LargeList(element: Null, NOT nullable)` (the element position was never reached:
`UnknownTracer::to_field` kept its unset nullable flag, whereas a `Null` that WAS seen is always emitted nullable).  That
schema is valid but outside `SchemaOK`, and its JSON form is read back — without an error — with `element` nullable. -/
theorem C09_unseen_position_outside_pinned :
    let traced : List Field := [.mk "a" (.largeList (.mk "element" .null false [])) false []]
    let back : List Field := [.mk "a" (.largeList (.mk "element" .null true [])) false []]
    fromSamplesUnseenPinned { allow_null_fields := true } wEmptyList = .ok traced ∧
      traced.all validField = true ∧ traced.all schemaOK = false ∧
      (printSchema (fun _ => false) traced >>= parseSchema) = .ok back := by
  decide +kernel

/-- … and the repaired code on the same samples: `element` is traced nullable, the schema lies in the domain and survives
its JSON form (an instance of `C09_from_samples_json_roundtrip` that NEEDS `allow_null_fields`: without the option these
samples are refused) -/
theorem C09_unseen_position_survives :
    let traced : List Field := [.mk "a" (.largeList (.mk "element" .null true [])) false []]
    fromSamples .fixed { allow_null_fields := true } wEmptyList = .ok traced ∧ traced.all schemaOK = true ∧
      (printSchema (fun _ => false) traced >>= parseSchema) = .ok traced ∧
      (fromSamples .fixed {} wEmptyList).isOk = false := by
  decide +kernel

/-! non-vacuity: a type with every container kind (tuple, list, option, enum with all four variant kinds, map, strings as
dictionaries) and a sample collection with nested records, options, lists and date-like strings are traced, the schemas are
not empty and the theorems apply -/
def exTy : Ty :=
  .struct "S" (.cons "a" (.option (.vec .string)) (.cons "t" (.tuple (.cons (.int .u8) (.cons .bool .nil)))
    (.cons "e" (.enum "E" (.unit "A" (.newtype "B" (.int .i64) (.tuple "C" (.cons .f32 (.cons .string .nil))
      (.struct "D" (.cons "x" .bytes .nil) .nil))))) (.cons "m" (.map .string (.int .i32)) .nil))))

def exOpts : Options := { map_as_struct := false, string_dictionary_encoding := true, allow_null_fields := true }

example : ∃ fields, fromType .fixed exOpts exTy = .ok fields ∧ fields.length = 4 ∧
    (printSchema (fun _ => false) fields >>= parseSchema) = .ok fields := by
  -- one run of the tracer: a failure would give length 0
  have hl : (match fromType .fixed exOpts exTy with | .ok l => l.length | .error _ => 0) = 4 := by decide +kernel
  cases hf : fromType .fixed exOpts exTy with
  | error e => rw [hf] at hl; cases hl
  | ok fields =>
    rw [hf] at hl
    exact ⟨fields, rfl, hl, C09_from_type_json_roundtrip _ .fixed exOpts (overwritesInDomain_nil _ rfl) exTy fields hf⟩

def exSamples : List SVal :=
  [.record "R" (.cons "d" 0 (.str "2020-01-01T00:00:00Z") (.cons "o" 0 (.some (.record "I" (.cons "x" 0 (.int .i32 1) .nil)))
     (.cons "l" 0 (.seq (.cons (.f64 0) .nil)) .nil))),
   .record "R" (.cons "d" 0 (.str "2020-01-01T00:00:00Z") (.cons "o" 0 .none (.cons "l" 0 (.seq .nil) .nil)))]

example : ∃ fields, fromSamples .fixed { guess_dates := true } exSamples = .ok fields ∧ fields.length = 3 ∧
    (printSchema (fun _ => false) fields >>= parseSchema) = .ok fields := by
  have hl : (match fromSamples .fixed { guess_dates := true } exSamples with | .ok l => l.length | .error _ => 0) = 3 := by
    decide +kernel
  cases hf : fromSamples .fixed { guess_dates := true } exSamples with
  | error e => rw [hf] at hl; cases hl
  | ok fields =>
    rw [hf] at hl
    exact ⟨fields, rfl, hl, C09_from_samples_json_roundtrip _ _ (overwritesInDomain_nil _ rfl) exSamples fields hf⟩

/-- an overwrite in the domain (a time zone spelled "Utc") is traced as given and the schema survives -/
example :
    let ow : Field := .mk "a" (.timestamp .millisecond (some "Utc")) true []
    let o : Options := ({} : Options).overwrite "a" ow
    OverwritesInDomain o ∧ fromType .fixed o (.struct "S" (.cons "a" (.int .i64) .nil)) = .ok [ow] := by
  refine ⟨?_, by decide +kernel⟩
  intro kv hkv
  simp [Options.overwrite] at hkv
  subst hkv
  decide +kernel

end SaModel.Props.C09
