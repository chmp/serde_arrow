import SaModel.Lemmas.C18Reps
import SaModel.Read.Label
import SaModel.Generated.Annotations
/-
C18, tie by TRANSLATION: the annotation tables of every `impl … Context for X` in
serde_arrow/src/internal/{serialization,deserialization}/*.rs are extracted from the sources before every build
(translator/tables2.py → SaModel/Generated/Annotations.lean).  The theorems below are re-checked by `decide`
against that file, so a change of the Rust sources that breaks one of them breaks the build of this module, and
`./check C18` reports it as an obligation that no longer checks.

  gen_keys               every impl that writes annotations writes exactly `field` (= `&self.path`) and then
                         `data_type` (= a label), in that order, with these very keys
  gen_silent             the impls that write nothing are exactly the six helpers / wrappers that must not
  gen_variant_context    every variant of `ArrayBuilder` / `ArrayDeserializer` has exactly one `impl Context`, and
                         it writes annotations
  gen_builder_labels     for every arm `T::C => A::V(..)` of `build_builder`: the label the Rust impl of `V` renders
                         (literal, `match I::NAME`, associated const — evaluated at the instantiation the enum names)
                         is the label of the builder the MODEL constructs (`newDT`) for a data type with constructor `C`
  gen_reader_labels      the same for `ArrayDeserializer::new` and `Read.label`
  label_family_*         (Props/C18Labels.lean; about the model, for ALL data types / arrays) the label's family name is the constructor
                         of the data type, the one exception being the `UnknownVariant` placeholder

The `#eval` of the section `diagnostic` is a diagnostic only: when an obligation fails it names the offending Rust
type in the build log (which `./check` copies into the replay file).  The obligations are the theorems.
-/
namespace SaModel.Props.C18Gen
open SaModel SaModel.Build SaModel.Generated.Annotations SaModel.Lemmas.C18Reps

def keysOk (c : Ctx) : Bool := c.keys == ["field", "data_type"] && c.args == ["path", "label"]

/-- **every `impl Context` that annotates writes `field` = its path, then `data_type` = its label** -/
theorem gen_keys : ∀ c ∈ contexts, c.shape = "set" → c.keys = ["field", "data_type"] ∧ c.args = ["path", "label"] := by
  decide +kernel

/-- the impls that write nothing: the two enum wrappers and the root (they forward to the builder / reader they
wrap), and the three one-value helper serializers (`U8Serializer` ×2, `KeyLookupSerializer`), whose errors are
annotated by the builder that calls them (`u8Of`, `keyStr` in the model return plain failures) -/
theorem gen_silent :
    (contexts.filter (·.shape != "set")).map (fun c => (c.side, c.rustType, c.shape)) =
      [("ser", "ArrayBuilder", "dispatch"), ("ser", "U8Serializer", "empty"), ("ser", "U8Serializer", "empty"),
       ("ser", "OuterSequenceBuilder", "newtype"), ("ser", "KeyLookupSerializer", "empty"),
       ("de", "ArrayDeserializer", "dispatch")] := by decide +kernel

/-! ### from an enum variant to the label its Rust impl renders -/

/-- the `impl Context` that apply to `Type<arg>`: generic ones (`inst = ""`) and the one for this instantiation -/
def matching (side : String) (v : String × String × String) : List Ctx :=
  contexts.filter (fun c => c.side == side && c.base == v.2.1 && (c.inst == "" || c.inst == v.2.2))

/-- evaluate the label expression at a type argument -/
def resolve (c : Ctx) (arg : String) : Option String :=
  if c.labelKind == "literal" then c.labels.lookup ""
  else if c.labelKind == "name" then
    -- `match P::NAME { … }`: NAME of a `NamedType` is the spelling of the type
    (if namedTypes.contains arg then (match c.labels.lookup arg with | some l => some l | none => c.labels.lookup "_") else none)
  else if c.labelKind == "const" then c.labels.lookup arg
  else none

/-- the label of enum variant `v`, as the Rust sources render it -/
def rustLabel (side : String) (variants : List (String × String × String)) (v : String) : Option String :=
  match variants.find? (·.1 == v) with
  | some e =>
    match matching side e with
    | [c] => if c.shape == "set" then resolve c e.2.2 else none
    | _ => none
  | none => none

/-- every variant of the two enums has exactly one `impl Context`, which annotates, and its label is defined at
the instantiation the enum names -/
theorem gen_variant_context :
    (∀ v ∈ builderVariants, (rustLabel "ser" builderVariants v.1).isSome = true) ∧
    (∀ v ∈ readerVariants, (rustLabel "de" readerVariants v.1).isSome = true) ∧
    (builderVariants.map (·.1)).Nodup ∧ (readerVariants.map (·.1)).Nodup := by decide +kernel

/-! ### builders: Rust label = label of the builder the model constructs -/

/-- the label of the builder `build_builder` constructs in the model -/
def modelLabel (dt : DataType) (md : Metadata) : Option String :=
  match newDT "$" dt true md with
  | .ok b => some b.label
  | .error _ => none

/-- the representatives are filed under their own constructor, and the model builds a builder for each -/
theorem builderReps_sound :
    (∀ e ∈ builderReps, ∀ r ∈ e.2, r.1.ctor = e.1 ∧ (modelLabel r.1 r.2).isSome = true) ∧
    (builderReps.map (·.1)).Nodup := by decide +kernel

/-- what the Rust sources render for the arm `T::<ctor>` of `build_builder`, variant by variant -/
def rustBuilderLabels (e : String × List String) : List (Option String) := e.2.map (rustLabel "ser" builderVariants)

/-- what the model renders for the representatives of that constructor -/
def modelBuilderLabels (ctor : String) : Option (List (Option String)) :=
  (builderReps.lookup ctor).map (·.map (fun r => modelLabel r.1 r.2))

/-- **builder labels**: every arm of `build_builder` selects builders whose Rust `data_type` label is the model's,
and the model has an arm for exactly the same data type constructors -/
theorem gen_builder_labels :
    (∀ e ∈ builderCtor, modelBuilderLabels e.1 = some (rustBuilderLabels e)) ∧
    (∀ e ∈ builderReps, (builderCtor.lookup e.1).isSome = true) ∧ (builderCtor.map (·.1)).Nodup ∧
    -- every variant of the enum is constructed by some arm
    (∀ v ∈ builderVariants, (builderCtor.any (·.2.contains v.1)) = true) := by decide +kernel

/-- the arms for which Rust and model differ, with both labels: `(DataType constructor, Rust, model)` -/
def builderOffenders : List (String × List (Option String) × Option (List (Option String))) :=
  (builderCtor.filter (fun e => modelBuilderLabels e.1 != some (rustBuilderLabels e))).map
    (fun e => (e.1, rustBuilderLabels e, modelBuilderLabels e.1))

/-- the model's label for the reader family of a `View` constructor -/
def modelReaderLabel (ctor : String) : Option String :=
  (readerReps.find? (fun a => Read.viewCtor a == ctor)).map Read.label

theorem readerReps_sound : (readerReps.map Read.viewCtor).Nodup := by decide +kernel

/-- **reader labels**: every reader `ArrayDeserializer::new` can build for a view constructor (sixteen for
`Dictionary`) renders the model's label for that family; model and code cover the same constructors -/
theorem gen_reader_labels :
    (∀ e ∈ readerCtor, ∀ v ∈ e.2, rustLabel "de" readerVariants v = modelReaderLabel e.1 ∧ (modelReaderLabel e.1).isSome = true) ∧
    (∀ a ∈ readerReps, (readerCtor.lookup (Read.viewCtor a)).isSome = true) ∧ (readerCtor.map (·.1)).Nodup ∧
    (∀ v ∈ readerVariants, (readerCtor.any (·.2.contains v.1)) = true) := by decide +kernel

def readerOffenders : List (String × String × Option String × Option String) :=
  readerCtor.flatMap (fun e => (e.2.filter (fun v => rustLabel "de" readerVariants v != modelReaderLabel e.1)).map
    (fun v => (e.1, v, rustLabel "de" readerVariants v, modelReaderLabel e.1)))

/-! ### diagnostic: name the offender in the build log -/

def describe (c : Ctx) : String := s!"{c.file}: impl Context for {c.rustType}: keys {c.keys} args {c.args}"

def offenders : List String :=
  ((contexts.filter (fun c => c.shape == "set" && !keysOk c)).map describe) ++
  (builderOffenders.map (fun o => s!"build_builder arm T::{o.1}: Rust labels {o.2.1}, model labels {o.2.2}")) ++
  (readerOffenders.map (fun o => s!"ArrayDeserializer::new arm V::{o.1}, variant {o.2.1}: Rust label {o.2.2.1}, model label {o.2.2.2}")) ++
  ((builderVariants.filter (fun v => (rustLabel "ser" builderVariants v.1).isNone)).map
    (fun v => "ArrayBuilder::" ++ v.1 ++ " (" ++ v.2.1 ++ " " ++ v.2.2 ++ "): no unique annotating impl Context / label undefined at this instantiation")) ++
  ((readerVariants.filter (fun v => (rustLabel "de" readerVariants v.1).isNone)).map
    (fun v => "ArrayDeserializer::" ++ v.1 ++ " (" ++ v.2.1 ++ " " ++ v.2.2 ++ "): no unique annotating impl Context / label undefined at this instantiation"))

#eval show IO Unit from do
  unless offenders.isEmpty do
    throw <| IO.userError ("C18 annotation obligation broken by:\n  " ++ "\n  ".intercalate offenders)

/-! ### non-vacuity: the tables are not empty and the lookups are not trivially `none` -/

example : contexts.length = 45 ∧ (contexts.filter (·.shape == "set")).length = 39 := by decide +kernel
example : rustLabel "ser" builderVariants "U16" = some "UInt16" := by decide +kernel
example : rustLabel "ser" builderVariants "LargeList" = some "LargeList" := by decide +kernel
example : rustLabel "ser" builderVariants "BinaryView" = some "BinaryView" := by decide +kernel
example : rustLabel "de" readerVariants "LargeList" = some "LargeList(..)" := by decide +kernel
example : rustLabel "de" readerVariants "DictionaryU8I64" = some "Dictionary(..)" := by decide +kernel
example : modelBuilderLabels "Null" = some [some "<unknown variant>", some "Null"] := by decide +kernel
/-- a misspelt key is caught: the pinned `DecimalBuilder` (defect 7 in DESIGN.md) wrote `filed` -/
example : keysOk (Ctx.mk "ser" "" "DecimalBuilder" "DecimalBuilder" "" "set" ["filed", "data_type"] ["path", "label"]
    "literal" [("", "Decimal128(..)")]) = false := by decide +kernel

end SaModel.Props.C18Gen
