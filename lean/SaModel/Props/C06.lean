import SaModel.Props.C07
import SaModel.Lemmas.C06Stable
/-
C06 — a schema traced from samples accepts those same samples.
Model: SaModel/Trace/{Tracer,FromSamples,Leaf}.lean.  This file: the tracer-side laws.  The link to the builder model
(C01/C02) — the closure itself — is in SaModel/Props/C06Closure.lean.

Acceptance at a leaf position: `AccLeaf o r a` — the state `r` has absorbed the type `a` (`act o r a = ok r`: tracing
`a` again changes nothing, i.e. `a` is one of the kinds the traced type was widened for).  Proved for sample lists of any
length over the complete leaf alphabet and every option setting: `leaf_absorb_acc` (every sample is accepted by the state
it was traced into), `leaf_acc_mono` (absorbing more keeps acceptance: coercions only widen), `leaf_null_acc` /
`leaf_null_mono` (a `None` / unit sample makes the position nullable and it stays nullable).
Tree level: `Acc c o t x` (absorbing the sample again leaves the traced field unchanged) and its inductive strengthening
`AccS c o t x` (`t` is well formed and EVERY tracer reachable from `t` by absorbing further samples absorbs `x` again
with no change except the struct sample counters; `AccS_Acc : AccS → Acc`).  Proved by induction over nested samples,
for every sample constructor (leaves, `None`/`Some`, newtype structs, sequences, tuples and tuple structs, structs, maps
in both modes, raw key/value streams, the four variant kinds), every option setting and both codes (repaired, pinned):
`absorb_acc` (a sample is stably accepted by the tracer it was absorbed into), `acc_mono` (acceptance survives any
further successful absorption), `fromSamples_acc` (after `from_samples` every sample of the collection is accepted by
the final tracer).  The only hypothesis is the reachable-state invariant `WF` of the start tracer (`WF_new`: a fresh
tracer has it; `absorb_acc_needs_wf`: the law is false for an ill-formed tracer).  Lemmas: SaModel/Lemmas/C06*.lean.
`acc_on_zoo` is the same statement in Boolean form (`closedB_true`) on a zoo of nested collections.
`C06_tuple_arity[_pinned]` are the repaired / pinned witnesses of finding #25.
-/
namespace SaModel.Props.C06
open SaModel SaModel.Trace SaModel.Lemmas.C07 SaModel.Props.C07 SaModel.Lemmas.C06

/-- the state `r` has absorbed the leaf type `a` -/
def AccLeaf (o : Options) (r : LeafSt) (a : DataType) : Prop := act o r a = .ok r

/-- `absorb_acc` at a leaf position: whatever was traced is accepted by the result -/
theorem leaf_absorb_acc (o : Options) {xs : List DataType} {s r : LeafSt} (hs : s ∈ leafStates o)
    (hx : ∀ a ∈ xs, a ∈ leafTypes o) (h : run o s xs = .ok r) : ∀ a ∈ xs, AccLeaf o r a :=
  run_absorbed o xs s r hs hx h

/-- `acc_mono` at a leaf position: absorbing more samples keeps everything accepted so far accepted -/
theorem leaf_acc_mono (o : Options) {ys : List DataType} {r r' : LeafSt} {a : DataType} (hr : r ∈ leafStates o)
    (ha : a ∈ leafTypes o) (hy : ∀ b ∈ ys, b ∈ leafTypes o) (hacc : AccLeaf o r a) (h : run o r ys = .ok r') :
    AccLeaf o r' a :=
  run_stays o ha ys r r' hr hy hacc h

/-- a null sample (unit; `None` sets the flag directly through `mark`) is always absorbed and makes the position
nullable -/
theorem leaf_null_acc (o : Options) {s : LeafSt} (hs : s ∈ leafStates o) :
    ∃ s', act o s .null = .ok s' ∧ s'.2 = true := by
  have h := table_at nullTable_all o
  unfold nullTable at h
  rw [leafStates_coerceView] at hs
  have hr := List.all_eq_true.mp h s hs
  rw [← act_coerceView] at hr
  cases h1 : act o s .null with
  | ok s' => rw [h1] at hr; exact ⟨s', rfl, hr⟩
  | error e => rw [h1] at hr; cases hr

/-- … and it stays nullable whatever else is absorbed (`nullable_sticky` along a run) -/
theorem leaf_null_mono (o : Options) {ys : List DataType} {r r' : LeafSt} (hr : r ∈ leafStates o)
    (hy : ∀ b ∈ ys, b ∈ leafTypes o) (hn : r.2 = true) (h : run o r ys = .ok r') : r'.2 = true :=
  run_sticky o ys r r' hr hy h hn

/-! ### trees: acceptance as "tracing the sample again changes nothing about the field" -/

/-- `Acc c o t x`: absorbing `x` into `t` once more succeeds and leaves the traced field unchanged -/
def Acc (c : Code) (o : Options) (t : Tracer) (x : SVal) : Prop :=
  ∃ t', absorb c o t x = .ok t' ∧ t'.to_field o = t.to_field o

def AccB (c : Code) (o : Options) (t : Tracer) (x : SVal) : Bool :=
  match absorb c o t x with
  | .ok t' => decide (t'.to_field o = t.to_field o)
  | .error _ => false

theorem AccB_iff (c : Code) (o : Options) (t : Tracer) (x : SVal) : AccB c o t x = true ↔ Acc c o t x := by
  unfold AccB Acc
  cases h : absorb c o t x with
  | ok t' => simp
  | error e => simp

/-- after tracing the whole collection every sample is accepted (absorb_acc and acc_mono together) -/
def closedB (c : Code) (o : Options) (xs : List SVal) : Bool :=
  match absorbAll c o (Tracer.new "$" "$") xs with
  | .ok t => xs.all (AccB c o t)
  | .error _ => true

def i32 (v : Int) : SVal := .int .i32 v
def recOf (fs : List (String × SVal)) : SVal := .record "S" (SFields.ofList (fs.map fun (k, v) => (k, 0, v)))
def mapOf (fs : List (String × SVal)) : SVal := .map (SEntries.ofList (fs.map fun (k, v) => (.str k, v)))
def seqOf (xs : List SVal) : SVal := .seq (SVals.ofList xs)
def tupOf (xs : List SVal) : SVal := .tuple (SVals.ofList xs)

/-- nested collections: fields missing in some samples, maps with varying key sets, partially observed enums, nested
options, empty lists, struct/map mixtures, tuples of different arity, numeric widths -/
def zooCollections : List (List SVal) := [
  [recOf [("a", i32 1)], recOf [("a", i32 1), ("b", .str "x")], recOf []],
  [recOf [("a", .none)], recOf [("a", .some (i32 1))], recOf [("b", seqOf [])]],
  [recOf [("a", seqOf [])], recOf [("a", seqOf [.none, i32 1])], recOf [("a", seqOf [])]],
  [recOf [("m", mapOf [("k1", i32 1)])], recOf [("m", mapOf [("k2", i32 2), ("k1", i32 3)])], recOf [("m", mapOf [])]],
  [recOf [("e", .unitVariant "E" 1 "B")], recOf [("e", .newtypeVariant "E" 2 "C" (i32 1))]],
  [recOf [("e", .structVariant "E" 0 "A" (.cons "x" 0 (i32 1) .nil))], recOf [("e", .structVariant "E" 0 "A" (.cons "y" 0 (.str "s") .nil))]],
  [recOf [("o", .some .none)], recOf [("o", .some (.some (.bool true)))], recOf [("o", .none)]],
  [recOf [("t", tupOf [i32 1, i32 2])], recOf [("t", tupOf [i32 1, i32 2, i32 3])]],
  [recOf [("t", tupOf [i32 1, i32 2, i32 3])], recOf [("t", tupOf [i32 1])]],
  [recOf [("s", recOf [("b", i32 1), ("a", i32 2)])], recOf [("s", mapOf [("b", i32 1), ("c", i32 2)])]],
  [recOf [("n", .int .i8 1)], recOf [("n", .int .u32 7)], recOf [("n", .f32 0)], recOf [("n", .none)]],
  [recOf [("n", .bool true)], recOf [("n", .str "x")], recOf [("n", i32 1)]],
  [recOf [("l", seqOf [recOf [("a", i32 1)], recOf [("b", i32 1)]])], recOf [("l", seqOf [recOf [("a", i32 1), ("b", i32 1)]])]],
  [recOf [("u", .unit)], recOf [("u", i32 1)], recOf [("u", .unitStruct "U")]]
]

def zooOptions : List Options := [
  {}, { allow_null_fields := true }, { allow_null_fields := true, map_as_struct := false },
  { allow_null_fields := true, coerce_numbers := true, allow_to_string := true }
]

/-! ### the tree-level laws, by induction over nested samples (`SaModel/Lemmas/C06Stable.lean`) -/

/-- `AccS c o t x` (stable acceptance, the inductive strengthening of `Acc`): `t` satisfies the reachable-state invariant
and every tracer reachable from `t` by absorbing further samples absorbs `x` once more with no change except the sample
counters of struct nodes (`erase` forgets `seen_samples` / `last_seen_in_sample`) -/
def AccS (c : Code) (o : Options) (t : Tracer) (x : SVal) : Prop :=
  WF o t ∧ ∀ t2, Steps c o t t2 → ∃ t3, absorb c o t2 x = .ok t3 ∧ erase t3 = erase t2

/-- stable acceptance implies acceptance: absorbing `x` again leaves the traced field unchanged -/
theorem AccS_Acc {c : Code} {o : Options} {t : Tracer} {x : SVal} (h : AccS c o t x) : Acc c o t x := by
  obtain ⟨t3, h1, h2⟩ := h.2 t (Steps.refl c o t)
  exact ⟨t3, h1, to_field_of_erase_eq o h2⟩

/-- every later state of a node that has absorbed `x` (`Was`, SaModel/Lemmas/C06Was.lean) stably accepts `x` -/
theorem AccS_of_was {c : Code} {o : Options} {t : Tracer} {x : SVal} (h : Was c o x t) : AccS c o t x :=
  ⟨h.wf, fun t2 hs => again_all c o x t2 (h.steps hs)⟩

/-- `absorb_acc`: whatever sample was absorbed into a (well-formed) tracer is stably accepted by the result.
All sample constructors, all options, both codes. -/
theorem absorb_acc (c : Code) (o : Options) {t t' : Tracer} {x : SVal} (hw : WF o t) (h : absorb c o t x = .ok t') :
    AccS c o t' x :=
  AccS_of_was ⟨t, t', hw, h, Steps.refl c o t'⟩

/-- acceptance survives every chain of further absorptions -/
theorem AccS_steps {c : Code} {o : Options} {t t' : Tracer} {x : SVal} (h : AccS c o t x) (hs : Steps c o t t') :
    AccS c o t' x :=
  ⟨hs.wf h.1, fun t2 hs2 => h.2 t2 (hs.trans hs2)⟩

/-- `acc_mono`: absorbing one more sample keeps everything accepted so far accepted (nullable is sticky, coercions only
widen, fields only appear, `Unknown` only upgrades) -/
theorem acc_mono {c : Code} {o : Options} {t t' : Tracer} {x y : SVal} (h : AccS c o t x)
    (hy : absorb c o t y = .ok t') : AccS c o t' x :=
  AccS_steps h (Steps.single hy)

theorem absorbAll_acc (c : Code) (o : Options) (xs : List SVal) (t0 t : Tracer) (hw : WF o t0)
    (h : absorbAll c o t0 xs = .ok t) : ∀ x ∈ xs, AccS c o t x :=
  fun x hx => AccS_of_was (absorbAll_was xs t0 t hw h x hx)

theorem fromSamplesTracer_absorbAll {c : Code} {o : Options} {xs : List SVal} {t : Tracer}
    (h : fromSamplesTracer c o xs = .ok t) : absorbAll c o (Tracer.new "$" "$") xs = .ok t := by
  unfold fromSamplesTracer at h
  cases ha : absorbAll c o (Tracer.new "$" "$") xs with
  | error e => rw [ha] at h; cases h
  | ok t0 =>
    rw [ha] at h
    simp only [Tracer.finish, bind, Except.bind] at h
    cases hc : t0.check o with
    | error e => rw [hc] at h; cases h
    | ok u => rw [hc] at h; cases h; rfl

/-- `fromSamples_acc`: when `from_samples` succeeds, every sample of the collection is (stably) accepted by the final
tracer — `absorb_acc` and `acc_mono` together, for sample collections of any length and nesting -/
theorem fromSamples_acc (c : Code) (o : Options) (xs : List SVal) (t : Tracer)
    (h : fromSamplesTracer c o xs = .ok t) : ∀ x ∈ xs, AccS c o t x :=
  absorbAll_acc c o xs _ t (WF_new o _ _) (fromSamplesTracer_absorbAll h)

theorem fromSamples_Acc (c : Code) (o : Options) (xs : List SVal) (t : Tracer)
    (h : fromSamplesTracer c o xs = .ok t) : ∀ x ∈ xs, Acc c o t x :=
  fun x hx => AccS_Acc (fromSamples_acc c o xs t h x hx)

/-- `fromSamples_Acc` in Boolean form -/
theorem closedB_true (c : Code) (o : Options) (xs : List SVal) : closedB c o xs = true := by
  unfold closedB
  cases h : absorbAll c o (Tracer.new "$" "$") xs with
  | error e => rfl
  | ok t =>
    exact List.all_eq_true.mpr fun x hx =>
      (AccB_iff c o t x).mpr (AccS_Acc (absorbAll_acc c o xs _ t (WF_new o _ _) h x hx))

/-- `absorb_acc` + `acc_mono` on the zoo, repaired code: once a collection has been traced, every one of its samples is
accepted by the resulting tracer, under each option setting -/
theorem acc_on_zoo : zooOptions.all (fun o => zooCollections.all fun xs => closedB .fixed o xs) = true :=
  List.all_eq_true.mpr fun o _ => List.all_eq_true.mpr fun xs _ => closedB_true .fixed o xs

/-- a nested sample: struct with a list of options, a map, a tuple, a tuple variant and a struct variant -/
def wNested : SVal :=
  recOf [("l", seqOf [.none, .some (i32 1)]), ("m", mapOf [("k", .str "v")]), ("t", tupOf [i32 1, .bool true]),
    ("e", .tupleVariant "E" 1 "B" (.cons (i32 1) .nil)), ("s", .structVariant "F" 0 "A" (.cons "x" 0 (.f64 0) .nil))]

set_option maxRecDepth 100000 in
/-- non-vacuity of `absorb_acc`: the nested sample is absorbed by a fresh tracer, hence stably accepted by the result -/
example : (absorb .fixed {} (Tracer.new "$" "$") wNested).isOk = true ∧
    ∀ t', absorb .fixed {} (Tracer.new "$" "$") wNested = .ok t' → AccS .fixed {} t' wNested :=
  ⟨by decide +kernel, fun _ h => absorb_acc .fixed {} (WF_new _ _ _) h⟩

set_option maxRecDepth 100000 in
/-- non-vacuity of `acc_mono`: a second, different sample (missing fields, another variant) is absorbed after the first -/
example : (absorbAll .fixed {} (Tracer.new "$" "$") [wNested, recOf [("l", seqOf []), ("e", .unitVariant "E" 0 "A")]]).isOk
      = true ∧
    ∀ t1 t2, absorb .fixed {} (Tracer.new "$" "$") wNested = .ok t1 →
      absorb .fixed {} t1 (recOf [("l", seqOf []), ("e", .unitVariant "E" 0 "A")]) = .ok t2 →
      AccS .fixed {} t2 wNested :=
  ⟨by decide +kernel, fun _ _ h1 h2 => acc_mono (absorb_acc .fixed {} (WF_new _ _ _) h1) h2⟩

set_option maxRecDepth 100000 in
/-- non-vacuity of `fromSamples_acc`: a collection with fields missing in some samples traces successfully -/
example : (fromSamplesTracer .fixed { allow_null_fields := true }
      [recOf [("a", i32 1)], recOf [("a", .none), ("b", seqOf [])], recOf []]).isOk = true := by decide +kernel

/-- an ill-formed tracer: two fields of the same name whose counters equal `seen_samples` (unreachable: names are unique
and `StructTracer::end` leaves every counter below `seen_samples`) -/
def wIllFormed : Tracer :=
  .struct "$" "$" false
    (.cons "a" 5 (.primitive "a" "$.a" false .int32 none) (.cons "a" 5 (.primitive "a" "$.a" false .int32 none) .nil))
    .struct 5

/-- the hypothesis `WF` of `absorb_acc` cannot be dropped: from the ill-formed tracer the sample is absorbed, but
absorbing it again makes the shadowed second field nullable -/
theorem absorb_acc_needs_wf :
    (match absorb .fixed {} wIllFormed (recOf [("a", i32 1)]) with
     | .ok t' => AccB .fixed {} t' (recOf [("a", i32 1)])
     | .error _ => true) = false := by decide +kernel

/-! ### finding #25: tuples of different arity -/

/-- repaired: after tracing `(1,2)` and `(1,2,3)` both samples are accepted and the third field is nullable -/
theorem C06_tuple_arity :
    closedB .fixed {} (itemsOf [wT2, wT3]) = true ∧ closedB .fixed {} (itemsOf [wT3, wT2]) = true ∧
    childNullable (fromSamples .fixed {} (itemsOf [wT2, wT3])) "2" = some true :=
  ⟨closedB_true .., closedB_true .., by decide +kernel⟩

/-- pinned: the traced schema has a third, NON-nullable field although the first sample lacks it (the builder then
rejects that sample: exhibited on the real crate by the `trace` suite before the fix) -/
theorem C06_tuple_arity_pinned :
    childNullable (fromSamplesPinned {} (itemsOf [wT2, wT3])) "2" = some false := by decide +kernel

end SaModel.Props.C06
