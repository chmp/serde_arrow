import SaModel.Lemmas.C18DeStruct
/-
C18 — blame against the SPECIFICATION, deserializer side (`C18_de_blame`).

`Spec.blameRead t a lv` (Spec/Blame.lean) lists the positions of the view `a` — child names from its root, with the label
of the reader family there — at which reading the slot with logical value `lv` into the Rust type `t` has no demanded
value for a reason of that position's own: written from `Read.cast` (records by field name, tuples by position, list
elements, map entries, the selected union variant, `Option` layers by null-ness), not from the readers.
`Props/C18.lean` (`read_error_deepest`) says an error names a reader whose OWN step failed; here: that reader sits at a
position the SPECIFICATION blames.  The links are `Props.C02.read_typed_decode` (where `cast` demands a value the read
succeeds: nothing to blame) and, per reader family, a characterisation of the family's own failures (tuple: fewer
fields than elements; struct: `duplicate field` / `missing field` only with repeated names or a missing required
field — key-loop invariant in Lemmas/C18DeStruct.lean; union: `unknown variant`; lists / maps: none on a decodable slot).
Proof: one lemma per target constructor (Lemmas/C18DeBasic / Seq / Tuple / Enum / Struct), structural recursion over
the target here (the recursion of `Props.C02.read_honours`).
-/
namespace SaModel.Props.C18
open SaModel SaModel.Read SaModel.Spec

mutual
theorem read_blr : ∀ (t : Target), BlR t
  | .any => blr_any
  | .ignored => blr_ignored
  | .unit | .unitStruct | .bool | .int _ | .f32 | .f64 | .char | .string | .str =>
    blr_scalar rfl (fun _ _ => by simp only [blameRead]) (fun _ _ _ => by simp only [readAsA])
  | .bytes => blr_bytes
  | .byteBuf => blr_byteBuf
  | .option t => blr_option (read_blr t)
  | .newtype t => blr_newtype (read_blr t)
  | .seq t => blr_seq (read_blr t)
  | .tuple ts => blr_tuple (targets_blr ts)
  | .tupleStruct ts => blr_tupleStruct (targets_blr ts)
  | .map k v => blr_map (read_blr k) (read_blr v)
  | .struct tfs => blr_struct (tfields_blr tfs)
  | .enum _ vs => blr_enum (variants_kbl vs)
theorem targets_blr : ∀ (ts : Targets), ∀ t ∈ Targets.toList ts, BlR t
  | .nil, t, h => by simp [Targets.toList] at h
  | .cons t' rest, t, h => by
    simp only [Targets.toList, List.mem_cons] at h
    rcases h with h | h
    · rw [h]; exact read_blr t'
    · exact targets_blr rest t h
theorem tfields_blr : ∀ (tfs : TFields), ∀ x ∈ TFields.toList tfs, BlR x.2
  | .nil, x, h => by simp [TFields.toList] at h
  | .cons n t' rest, x, h => by
    simp only [TFields.toList, List.mem_cons] at h
    rcases h with h | h
    · rw [h]; exact read_blr t'
    · exact tfields_blr rest x h
theorem variants_kbl : ∀ (vs : TVariants), ∀ x ∈ TVariants.toList vs, KBl x.2
  | .nil, x, h => by simp [TVariants.toList] at h
  | .cons n k rest, x, h => by
    simp only [TVariants.toList, List.mem_cons] at h
    rcases h with h | h
    · rw [h]; exact kind_kbl k
    · exact variants_kbl rest x h
theorem kind_kbl : ∀ (k : VKind), KBl k
  | .unit => kbl_unit
  | .newtype t => kbl_newtype (read_blr t)
  | .tuple ts => kbl_tuple (targets_blr ts)
  | .struct tfs => kbl_struct (tfields_blr tfs)
end

/-- **C18_de_blame.**  For EVERY target type `t` (scalars, `Option`, newtype, `Vec`, `ByteBuf`, tuples, maps, structs by
field name, enums by name or index with unit / newtype / tuple / struct variants, nested to any depth), EVERY view `a`
read by a reader at path `p`, and every slot `i` whose Arrow reading is defined (`decodeAt a i = ok lv`), under the
hypotheses of `Props.C02.read_typed_decode` (the reader was built, lengths are representable, strings are UTF-8) and
`noKnown t a lv` (neither recorded known finding #23 / #24 inside the value — `exclusion_23_blame` shows it is needed):
an error of the typed read carries `field` = `render p segs` and `data_type` = `label` for a position `(segs, label)` the
SPECIFICATION `Spec.blameRead t a lv` blames for this value — the deepest positions at which `Read.cast` demands no
value, or a container whose own structural condition fails; never a sibling, never only an ancestor of a deeper
failure.  `label` is the label of a reader of the view (`segsArr a`, the walk `reader_paths_assembled` is about) whose
path is the named one. -/
theorem C18_de_blame (t : Target) (p : String) (a : Arr) (i : Nat) (lv : LVal) (msg : String) (ann : List (String × String))
    (h : decodeAt a i = .ok lv) (hn : new Fixes.all a = .ok ()) (hp : physical a = true) (hu : utf8Ok lv = true)
    (hk : noKnown t a lv = true)
    (he : readAsA AnnFixes.all Fixes.all p t a i = .error (.errCtx msg ann)) :
    ∃ segs label, (segs, label) ∈ blameRead t a lv ∧ ann = [("data_type", label), ("field", render p segs)] ∧
      ∃ segs', (segs', label) ∈ segsArr a ∧ render p segs' = render p segs := by
  obtain ⟨q, hq, rfl⟩ := read_blr t p a i lv h hn hp hu hk msg ann he
  simp only [positionsAt, List.mem_map] at hq
  obtain ⟨x, hx, rfl⟩ := hq
  refine ⟨x.1, x.2, hx, rfl, ?_⟩
  obtain ⟨q', hq', he'⟩ := readAsA_within AnnFixes.all Fixes.all t p a i msg _ he
  rw [rpositions_eq] at hq'
  simp only [positionsAt, List.mem_map] at hq'
  obtain ⟨y, hy, rfl⟩ := hq'
  simp only [posAnn, List.cons.injEq, Prod.mk.injEq, true_and, and_true] at he'
  exact ⟨y.1, by rw [he'.1]; exact hy, he'.2.symm⟩

/-- the same in the form the property text uses: the value under the key `field` / `data_type` -/
theorem C18_de_blame_keys (t : Target) (p : String) (a : Arr) (i : Nat) (lv : LVal) (msg : String) (ann : List (String × String))
    (h : decodeAt a i = .ok lv) (hn : new Fixes.all a = .ok ()) (hp : physical a = true) (hu : utf8Ok lv = true)
    (hk : noKnown t a lv = true)
    (he : readAsA AnnFixes.all Fixes.all p t a i = .error (.errCtx msg ann)) :
    ∃ segs label, (segs, label) ∈ blameRead t a lv ∧ ann.lookup "field" = some (render p segs) ∧
      ann.lookup "data_type" = some label := by
  obtain ⟨segs, label, hm, rfl, _⟩ := C18_de_blame t p a i lv msg ann h hn hp hu hk he
  exact ⟨segs, label, hm, by simp [List.lookup], by simp [List.lookup]⟩

/-- the record level (`Deserializer::get(idx)` + `T::deserialize`): the root struct reader sits at `$` -/
theorem C18_de_blame_record (t : Target) (fm : FieldMeta) (col : Arr) (idx : Nat) (lv : LVal) (msg : String)
    (ann : List (String × String))
    (h : decodeAt (record fm col) idx = .ok lv) (hn : new Fixes.all (record fm col) = .ok ())
    (hp : physical (record fm col) = true) (hu : utf8Ok lv = true) (hk : noKnown t (record fm col) lv = true)
    (he : readRecordA AnnFixes.all Fixes.all t fm col idx = some (.error (.errCtx msg ann))) :
    ∃ segs label, (segs, label) ∈ blameRead t (record fm col) lv ∧ ann = [("data_type", label), ("field", render "$" segs)] := by
  obtain ⟨segs, label, hm, ha, _⟩ :=
    C18_de_blame t "$" (record fm col) idx lv msg ann h hn hp hu hk (readRecordA_some.mp he).2.symm
  exact ⟨segs, label, hm, ha⟩

/-- nothing is blamed exactly where `cast` demands a value, for the cells decided by `cast` alone (scalar targets) -/
theorem blameRead_scalar_nil_iff (t : Target) (m : Method) (_ : methodOf t = some m) (a : Arr) (lv : LVal) :
    blameScalar t a lv = [] ↔ Claim.isMust (castScalar t a lv) = true := by
  unfold blameScalar
  cases Claim.isMust (castScalar t a lv) <;> simp [here]

/-! ### non-vacuity: every hypothesis of `C18_de_blame` met, the read fails, and the blame is computed -/

def deLv (a : Arr) (i : Nat) : LVal := match decodeAt a i with | .ok lv => lv | .error _ => .null

def deAnn : R DVal → Option (List (String × String))
  | .error (.errCtx _ a) => some a
  | _ => none

/-- (target, view, slot, the blamed positions):
* leaf: Int32 128 into `i8`; `char` from a surrogate; null into a non-`Option` `i32`;
* the offending element two readers below the root (`Vec<struct {x: Option<u8>}>`, value 256): blame `element.x`;
* struct: a required field without a column of its name — the struct itself; tuple longer than the struct — the struct;
* map column: the offending VALUE of the second entry (`entries.value`), not the key, not the map;
* union: the enum has no variant `B` — the union; the payload of variant `A` is out of range — the variant's column -/
def deCases : List (Target × Arr × Nat × List RPos) :=
  [ (.int .i8, .prim .int32 none [128], 0, [([], "Int32")]),
    (.char, .prim .uint32 none [55296], 0, [([], "UInt32")]),
    (.int .i32, .prim .int32 (some ⟨[0], 0⟩) [7], 0, [([], "Int32")]),
    (.seq (.struct (.cons "x" (.option (.int .u8)) .nil)),
      .list false none [0, 2] ⟨"element", false, []⟩
        (.struct 2 none (.cons ⟨"x", true, []⟩ (.prim .int32 (some ⟨[3], 0⟩) [1, 256]) .nil)), 0,
      [(["element", "x"], "Int32")]),
    (.struct (.cons "y" (.int .i32) .nil), .struct 1 none (.cons ⟨"x", false, []⟩ (.prim .int32 none [42]) .nil), 0,
      [([], "Struct(..)")]),
    (.tuple (.cons (.int .i32) (.cons (.int .i32) .nil)),
      .struct 1 none (.cons ⟨"x", false, []⟩ (.prim .int32 none [42]) .nil), 0, [([], "Struct(..)")]),
    (.map (.int .u8) (.int .i8),
      .map none [0, 2] ⟨"entries", false, ⟨"key", false, []⟩, ⟨"value", false, []⟩⟩ (.prim .uint8 none [1, 2]) (.prim .int32 none [5, 300]),
      0, [(["entries", "value"], "Int32")]),
    (.enum false (.cons "A" .unit .nil),
      .union [1] (some [0]) (.cons 0 ⟨"A", false, []⟩ (.null 0) (.cons 1 ⟨"B", false, []⟩ (.null 1) .nil)), 0,
      [([], "Union(..)")]),
    (.enum false (.cons "A" (.newtype (.int .u8)) .nil),
      .union [0] (some [0]) (.cons 0 ⟨"A", false, []⟩ (.prim .int32 none [-1]) .nil), 0, [(["A"], "Int32")]) ]

example : ∀ c ∈ deCases, decodeAt c.2.1 c.2.2.1 = .ok (deLv c.2.1 c.2.2.1) ∧ new Fixes.all c.2.1 = .ok () ∧
    physical c.2.1 = true ∧ utf8Ok (deLv c.2.1 c.2.2.1) = true ∧ noKnown c.1 c.2.1 (deLv c.2.1 c.2.2.1) = true ∧
    blameRead c.1 c.2.1 (deLv c.2.1 c.2.2.1) = c.2.2.2 ∧
    (deAnn (readAsA AnnFixes.all Fixes.all "$" c.1 c.2.1 c.2.2.1)).map (fun ann => (ann.lookup "field", ann.lookup "data_type")) =
      c.2.2.2.head?.map (fun q => (some (render "$" q.1), some q.2)) := by
  decide +kernel

/-! ### the exclusion is needed (known finding #23, as it shows in the annotations) -/

/-- #23: the struct slot is NULL and the target is a non-`Option` tuple.  The specification blames the struct (null into a
non-`Option` target: `cast` says the read must fail THERE); the struct reader does not look at its validity in the typed
reads, reads the hidden value 300 of the child as `u8`, and the child reports `$.x` / `Int32`.  `noKnown` is false. -/
theorem exclusion_23_blame :
    let a : Arr := .struct 1 (some ⟨[0], 0⟩) (.cons ⟨"x", false, []⟩ (.prim .int32 none [300]) .nil)
    let t : Target := .tuple (.cons (.int .u8) .nil)
    decodeAt a 0 = .ok .null ∧ new Fixes.all a = .ok () ∧ physical a = true ∧ noKnown t a .null = false ∧
    blameRead t a .null = [([], "Struct(..)")] ∧
    deAnn (readAsA AnnFixes.all Fixes.all "$" t a 0) = some [("data_type", "Int32"), ("field", "$.x")] := by decide +kernel

end SaModel.Props.C18
