import SaModel.Props.C01Obs
import SaModel.Props.C11Front
import SaModel.Build.Wrappers
/-
C11 — how a record is presented does not change the arrays.

* `presentation_independent`: the row a push appends depends on the value only through the documented mapping
  `Spec.interpDT` — which matches record fields by NAME.  Corollary of R2' for determined states (`C01.push_interp_det`, the
  hidden-rows refinement of Props/C01Obs.lean: weak state invariant, NO `Safe`).  Any two
  presentations with the same `interpDT` (struct / map / tuple, any field order, extra fields, `Some`/newtype
  layers, integer widths …) leave the builder with the same logical rows.
* `record_as_map`: a struct presentation and the map presentation with the same keys have the same `interpDT`.
* `record_as_tuple`: a tuple in schema order means what the struct presentation with the schema's names means.
* `record_perm`: permuting the fields of a struct presentation does not change `interpDT` (on the ok side).
* `absent_nullable_is_null`, `absent_required_is_error`, `duplicate_is_error`.
* `Item` / `Items` (Build/Wrappers.lean): `item_is_record`, `items_is_seq_of_records`, `item_interp_record`, `item_row`.
* the statements about the ARRAYS (`C11_presentations`, …) are in Props/C11Arrays.lean.
* `extra_field_ignored`: a field no schema field is named after is ignored.
* the positional fast path of `FieldLookup::lookup` is sound for every cache state: `C11Front.lookup_sound`
  (used by the R1/R2 proofs for `serialize_struct_field`), so interleaving differently laid-out record types
  cannot misroute a field.
-/
namespace SaModel.Props.C11
open SaModel SaModel.Build SaModel.Spec

/-- **Presentation independence.** Two values with the same documented meaning at the builder's field, both
accepted: the builder ends up with the same logical rows.  State hypotheses: the WEAK state invariant `WFH`, `NoDictKey`
(holds of every builder `build_builder` constructs) and `Det` (no row is undetermined) — all three hold of every strictly
well-formed state (`WFH_of_WFB`, `Det_of_WFB`; so the stronger `WFB b`, `Safe b` imply them) and of the root of
`to_marrow` after every record, for EVERY schema: no `Safe`. -/
theorem presentation_independent (ext : Ext) (x y : SVal) (b bx bY : B) (dt : DataType) (n : Bool) (md : Metadata)
    (hx : noRaw x = true) (hy : noRaw y = true) (hwf : WFH b) (hnd : NoDictKey b) (hdet : Det b)
    (hshape : Shape b dt n md) (hsame : interpDT ext dt n md x = interpDT ext dt n md y)
    (h1 : push ext b x = .ok bx) (h2 : push ext b y = .ok bY) : dec bx = dec bY := by
  obtain ⟨_, _, _, _, lv1, hd1, hi1⟩ :=
    C01.push_interp_det ext x b bx dt n md (noRaw_ssa x hx) (Or.inl hx) hwf hnd hdet hshape h1
  obtain ⟨_, _, _, _, lv2, hd2, hi2⟩ :=
    C01.push_interp_det ext y b bY dt n md (noRaw_ssa y hy) (Or.inl hy) hwf hnd hdet hshape h2
  rw [hsame, hi2] at hi1
  cases hi1
  rw [hd1, hd2]

/-- the documented values of a batch, from what holds of its records one by one -/
theorem All2.map_ok {α β} {f : α → R β} : ∀ {l : List β} {rows : List α}, All2 (fun lv x => f x = .ok lv) l rows →
    rows.map f = l.map .ok
  | _, _, .nil => rfl
  | _, _, .cons h t => by rw [List.map_cons, List.map_cons, h, All2.map_ok t]

/-- the same for whole batches through the front end (no `Safe`).  Schema predicate: the WEAK `coveredWF` of R3'
(Lemmas/C01NewShape.lean) — it also admits `Dictionary(integer, V)` with a value builder that refuses strings;
`fields.all coveredF` implies it (`all_coveredWF_of_coveredF`). -/
theorem runRows_presentation_independent (ext : Ext) (fields : List Field) (rows1 rows2 : List SVal) (root0 r1 r2 : B)
    (hc : fields.all coveredWF = true) (h0 : newRoot fields = .ok root0)
    (hraw1 : ∀ x ∈ rows1, noRaw x = true) (hraw2 : ∀ x ∈ rows2, noRaw x = true)
    (hsame : rows1.map (interpRow ext fields) = rows2.map (interpRow ext fields))
    (h1 : runRows ext fields rows1 = .ok r1) (h2 : runRows ext fields rows2 = .ok r2) : dec r1 = dec r2 := by
  obtain ⟨a1, _, _⟩ := C01.runRows_interp' ext fields rows1 root0 r1 hc h0 (fun x hx => noRaw_ssa x (hraw1 x hx)) (Or.inl hraw1) h1
  obtain ⟨a2, _, _⟩ := C01.runRows_interp' ext fields rows2 root0 r2 hc h0 (fun x hx => noRaw_ssa x (hraw2 x hx)) (Or.inl hraw2) h2
  rw [All2.map_ok a1, All2.map_ok a2] at hsame
  exact (List.map_inj_right fun _ _ h => Except.ok.inj h).1 hsame

/-- non-vacuity on a schema `coveredF` excludes: a nullable `Dictionary(Int32, Int64)` column (`coveredWF`, not
`coveredF`), the record `{d: None}` as a struct and as a map — both accepted, same documented row, same rows held -/
example : [Field.mk "d" (.dictionary .int32 .int64) true []].all coveredF = false ∧
    ∃ r1 r2, runRows {} [.mk "d" (.dictionary .int32 .int64) true []] [.record "R" (.cons "d" 0 .none .nil)] = .ok r1 ∧
      runRows {} [.mk "d" (.dictionary .int32 .int64) true []] [.map (.cons (.str "d") .none .nil)] = .ok r2 ∧
      dec r1 = dec r2 := by
  refine ⟨by decide, ?_⟩
  have k0 : (newRoot [.mk "d" (.dictionary .int32 .int64) true []]).isOk = true := by decide +kernel
  have k1 : (runRows {} [.mk "d" (.dictionary .int32 .int64) true []] [.record "R" (.cons "d" 0 .none .nil)]).isOk = true := by
    decide +kernel
  have k2 : (runRows {} [.mk "d" (.dictionary .int32 .int64) true []] [.map (.cons (.str "d") .none .nil)]).isOk = true := by
    decide +kernel
  cases h0 : newRoot [.mk "d" (.dictionary .int32 .int64) true []] with
  | error e => rw [h0] at k0; cases k0
  | ok root0 =>
  cases h1 : runRows {} [.mk "d" (.dictionary .int32 .int64) true []] [.record "R" (.cons "d" 0 .none .nil)] with
  | error e => rw [h1] at k1; cases k1
  | ok r1 =>
  cases h2 : runRows {} [.mk "d" (.dictionary .int32 .int64) true []] [.map (.cons (.str "d") .none .nil)] with
  | error e => rw [h2] at k2; cases k2
  | ok r2 =>
    exact ⟨r1, r2, rfl, rfl, runRows_presentation_independent {} _ _ _ root0 r1 r2 (by decide) h0 (by decide) (by decide)
      (by decide +kernel) h1 h2⟩

/-! ### struct presentation = map presentation -/

/-- the map presentation of a struct presentation: string keys, same values, same order -/
def asEntries : SFields → SEntries
  | .nil => .nil
  | .cons key _ v rest => .cons (.str key) v (asEntries rest)

theorem keysAreStrings_asEntries : ∀ (fs : SFields), keysAreStrings (asEntries fs) = .ok ()
  | .nil => by simp [asEntries, keysAreStrings]
  | .cons key al v rest => by
    simp [asEntries, keysAreStrings, specKey_eq, normErr_ok, keyStr, bind, Except.bind, keysAreStrings_asEntries rest]

theorem interpByKey_asEntries (ext : Ext) (name : String) (dt : DataType) (n : Bool) (md : Metadata) :
    ∀ (fs : SFields), interpByKey ext name dt n md (asEntries fs) = interpByName ext name dt n md fs
  | .nil => by simp [asEntries, interpByKey, interpByName]
  | .cons key al v rest => by
    simp only [asEntries, interpByKey, keyOf_eq, interpByName, interpByKey_asEntries ext name dt n md rest, keyStr,
      Except.toOption]
    have : (some key == some name) = (key == name) := by simp
    simp only [this]

/-- **struct ≃ map**: `#[derive(Serialize)] struct` and a map with the same (string) keys mean the same row -/
theorem record_as_map (ext : Ext) (sfs : Fields) (n : Bool) (md : Metadata) (nm : String) (fs : SFields) :
    interpDT ext (.struct sfs) n md (.map (asEntries fs)) = interpDT ext (.struct sfs) n md (.record nm fs) := by
  simp only [interpDT, isUnknownVariant, Bool.false_eq_true, if_false, keysAreStrings_asEntries, bind, Except.bind]
  congr 1
  funext f
  exact interpByKey_asEntries ext f.name f.dataType f.nullable f.metadata fs

/-! ### field order, extra fields -/

/-- a field whose key is not the name of any schema field does not matter -/
theorem extra_field_ignored (ext : Ext) (sfs : Fields) (n : Bool) (md : Metadata) (nm key : String) (al : Nat)
    (v : SVal) (rest : SFields) (hkey : ∀ f ∈ sfs.toList, f.name ≠ key) :
    interpDT ext (.struct sfs) n md (.record nm (.cons key al v rest)) = interpDT ext (.struct sfs) n md (.record nm rest) := by
  simp only [interpDT, isUnknownVariant, Bool.false_eq_true, if_false]
  exact structOf_congr fun f hf => by
    rw [pickField, pickField, interpByName_cons_ne (beq_eq_false_iff_ne.mpr (Ne.symm (hkey f hf)))]

/-! ### field order -/

theorem interpByName_perm (ext : Ext) (name : String) (dt : DataType) (n : Bool) (md : Metadata) :
    ∀ {l1 l2 : List (String × Nat × SVal)}, l1.Perm l2 → ∀ found1,
      interpByName ext name dt n md (SFields.ofList l1) = .ok found1 →
      ∃ found2, interpByName ext name dt n md (SFields.ofList l2) = .ok found2 ∧ found1.Perm found2 := by
  intro l1 l2 hp
  induction hp with
  | nil => intro found1 h; exact ⟨found1, h, List.Perm.refl _⟩
  | cons x hp ih =>
    obtain ⟨key, al, v⟩ := x
    intro found1 h
    by_cases hk : (key == name) = true
    · obtain ⟨lv, vs1, h1, hlv, rfl⟩ := interpByName_cons_eq hk h
      obtain ⟨vs2, h2, hperm⟩ := ih vs1 h1
      exact ⟨lv :: vs2, interpByName_cons_ok hk h2 hlv, hperm.cons lv⟩
    · have hk : (key == name) = false := by simpa using hk
      rw [SFields.ofList, interpByName_cons_ne hk] at h ⊢
      exact ih found1 h
  | swap x y l =>
    obtain ⟨k1, a1, v1⟩ := x
    obtain ⟨k2, a2, v2⟩ := y
    intro found1 h
    simp only [SFields.ofList] at h ⊢
    -- each of the two entries is skipped (other name) or contributes its value in front
    by_cases hk1 : (k1 == name) = true <;> by_cases hk2 : (k2 == name) = true
    · obtain ⟨w2, _, g1, hw2, rfl⟩ := interpByName_cons_eq hk2 h
      obtain ⟨w1, vs, g2, hw1, rfl⟩ := interpByName_cons_eq hk1 g1
      exact ⟨_, interpByName_cons_ok hk1 (interpByName_cons_ok hk2 g2 hw2) hw1, List.Perm.swap _ _ _⟩
    · rw [interpByName_cons_ne (by simpa using hk2)] at h
      obtain ⟨w1, vs, g, hw1, rfl⟩ := interpByName_cons_eq hk1 h
      exact ⟨_, interpByName_cons_ok hk1 (by rw [interpByName_cons_ne (by simpa using hk2)]; exact g) hw1, .refl _⟩
    · obtain ⟨w2, vs, g, hw2, rfl⟩ := interpByName_cons_eq hk2 h
      rw [interpByName_cons_ne (by simpa using hk1)] at g ⊢
      exact ⟨_, interpByName_cons_ok hk2 g hw2, .refl _⟩
    · rw [interpByName_cons_ne (by simpa using hk2), interpByName_cons_ne (by simpa using hk1)] at h
      rw [interpByName_cons_ne (by simpa using hk1), interpByName_cons_ne (by simpa using hk2)]
      exact ⟨_, h, .refl _⟩
  | trans _ _ ih1 ih2 =>
    intro found1 h
    obtain ⟨f2, h2, p2⟩ := ih1 found1 h
    obtain ⟨f3, h3, p3⟩ := ih2 f2 h2
    exact ⟨f3, h3, p2.trans p3⟩

theorem pickOne_perm {name : String} {nullable : Bool} {dt : DataType} {md : Metadata} {f1 f2 : List LVal} {v : LVal}
    (hp : f1.Perm f2) (h : pickOne name nullable dt md f1 = .ok v) : pickOne name nullable dt md f2 = .ok v := by
  match f1, hp, h with
  | [], hp, h => rw [List.nil_perm.1 hp] at *; exact h
  | [a], hp, h => rw [← List.singleton_perm.1 hp]; exact h
  | _ :: _ :: _, _, h => simp [pickOne, fail] at h

/-- **field order is irrelevant**: a struct presentation with its fields in any other order (any permutation,
including of duplicated and of extra fields) means the same row -/
theorem record_perm (ext : Ext) (sfs : Fields) (n : Bool) (md : Metadata) (nm nm' : String)
    (l1 l2 : List (String × Nat × SVal)) (hp : l1.Perm l2) (lv : LVal)
    (h : interpDT ext (.struct sfs) n md (.record nm (SFields.ofList l1)) = .ok lv) :
    interpDT ext (.struct sfs) n md (.record nm' (SFields.ofList l2)) = .ok lv := by
  simp only [interpDT, isUnknownVariant, Bool.false_eq_true, if_false] at h ⊢
  refine structOf_mono (fun f _ p hf => ?_) h
  obtain ⟨found1, w, h1, hw, rfl⟩ := pickField_eq_ok.mp hf
  obtain ⟨found2, h2, hperm⟩ := interpByName_perm ext f.name f.dataType f.nullable f.metadata hp found1 h1
  exact pickField_eq_ok.mpr ⟨found2, w, h2, pickOne_perm hperm hw, rfl⟩

/-! ### absent fields, fields given twice -/

def SFields.keys : SFields → List String
  | .nil => []
  | .cons k _ _ r => k :: SFields.keys r

/-- how many entries of a struct presentation carry the key `name` -/
def SFields.count (name : String) : SFields → Nat
  | .nil => 0
  | .cons k _ _ r => (if k == name then 1 else 0) + SFields.count name r

theorem interpByName_length (ext : Ext) (name : String) (dt : DataType) (n : Bool) (md : Metadata) :
    ∀ (fs : SFields) (found : List LVal), interpByName ext name dt n md fs = .ok found → found.length = SFields.count name fs
  | .nil, found, h => by simp [interpByName] at h; subst h; rfl
  | .cons k al v r, found, h => by
    by_cases hk : (k == name) = true
    · obtain ⟨_, vs, hvs, _, rfl⟩ := interpByName_cons_eq hk h
      simp [SFields.count, hk, interpByName_length ext name dt n md r vs hvs]; omega
    · rw [interpByName_cons_ne (by simpa using hk)] at h
      simp [SFields.count, hk, interpByName_length ext name dt n md r found h]

/-- a struct presentation is undefined (has no documented value) as soon as ONE schema field's candidates are refused -/
theorem record_error_of_field (ext : Ext) (sfs : Fields) (n : Bool) (md : Metadata) (nm : String) (fs : SFields)
    (f : Field) (hf : f ∈ sfs.toList)
    (hbad : ∀ found, interpByName ext f.name f.dataType f.nullable f.metadata fs = .ok found →
      ∃ e, pickOne f.name f.nullable f.dataType f.metadata found = .error e) :
    ∃ e, interpDT ext (.struct sfs) n md (.record nm fs) = .error e := by
  simp only [interpDT, isUnknownVariant, Bool.false_eq_true, if_false]
  refine structOf_error_of_mem hf ?_
  cases hfound : interpByName ext f.name f.dataType f.nullable f.metadata fs with
  | error e => exact ⟨e, by simp [pickField, hfound, bind, Except.bind]⟩
  | ok found =>
    obtain ⟨e, he⟩ := hbad found hfound
    exact ⟨e, by simp [pickField, hfound, he, bind, Except.bind]⟩

/-- **an absent non-nullable field is an error**: no documented value, whatever else the record holds -/
theorem absent_required_is_error (ext : Ext) (sfs : Fields) (n : Bool) (md : Metadata) (nm : String) (fs : SFields)
    (f : Field) (hf : f ∈ sfs.toList) (hreq : f.nullable = false) (habs : SFields.count f.name fs = 0) :
    ∃ e, interpDT ext (.struct sfs) n md (.record nm fs) = .error e := by
  apply record_error_of_field ext sfs n md nm fs f hf
  intro found hfound
  have hl := interpByName_length ext _ _ _ _ fs found hfound
  rw [habs] at hl
  have : found = [] := List.length_eq_zero_iff.1 hl
  subst this
  exact ⟨_, by simp only [pickOne, hreq]; rfl⟩

/-- **a field given twice is an error** (nullable or not, equal values or not) -/
theorem duplicate_is_error (ext : Ext) (sfs : Fields) (n : Bool) (md : Metadata) (nm : String) (fs : SFields)
    (f : Field) (hf : f ∈ sfs.toList) (hdup : 2 ≤ SFields.count f.name fs) :
    ∃ e, interpDT ext (.struct sfs) n md (.record nm fs) = .error e := by
  apply record_error_of_field ext sfs n md nm fs f hf
  intro found hfound
  have hl := interpByName_length ext _ _ _ _ fs found hfound
  match found, hl with
  | [], hl => simp at hl; omega
  | [_], hl => simp at hl; omega
  | _ :: _ :: _, _ => exact ⟨_, rfl⟩

theorem interpByName_absent (ext : Ext) (name : String) (dt : DataType) (n : Bool) (md : Metadata) :
    ∀ (fs : SFields), SFields.count name fs = 0 → interpByName ext name dt n md fs = .ok []
  | .nil, _ => rfl
  | .cons k al v r, h => by
    simp only [SFields.count] at h
    have hk : (k == name) = false := by
      cases hk : (k == name) with
      | false => rfl
      | true => simp [hk] at h
    rw [interpByName_cons_ne hk]
    exact interpByName_absent ext name dt n md r (by simpa [hk] using h)

/-- **an absent nullable field is null**: leaving a field out and giving it as an explicit `None` (or unit) mean the
same record — for every schema in which the fields of that name are nullable -/
theorem absent_nullable_is_null (ext : Ext) (sfs : Fields) (n : Bool) (md : Metadata) (nm key : String) (al : Nat)
    (rest : SFields) (hnull : ∀ f ∈ sfs.toList, f.name = key → f.nullable = true) (habs : SFields.count key rest = 0) :
    interpDT ext (.struct sfs) n md (.record nm (.cons key al .none rest)) =
      interpDT ext (.struct sfs) n md (.record nm rest) := by
  simp only [interpDT, isUnknownVariant, Bool.false_eq_true, if_false]
  refine structOf_congr fun f hf => ?_
  by_cases hk : f.name = key
  · have hn := hnull f hf hk
    subst hk
    simp only [pickField, interpByName, interpByName_absent ext _ _ _ _ rest habs, beq_self_eq_true, if_true, interpDT, bind,
      Except.bind, pure, Except.pure]
    cases hi : interpNull f.dataType f.nullable f.metadata with
    | error e => rw [hn] at hi; simp [pickOne, hn, hi]
    | ok v => rw [hn] at hi; simp [pickOne, hn, hi]
  · rw [pickField, pickField, interpByName_cons_ne (beq_eq_false_iff_ne.mpr (Ne.symm hk))]

/-! ### tuple in schema order = struct presentation -/

/-- the struct presentation of a positional record: the schema's field names, in schema order, paired with the values
(a shorter tuple leaves the last fields out, surplus elements are dropped) -/
def asRecordFields : List String → List SVal → SFields
  | n :: ns, v :: vs => .cons n 0 v (asRecordFields ns vs)
  | _, _ => .nil

theorem interpByName_asRecordFields_absent (ext : Ext) (name : String) (dt : DataType) (n : Bool) (md : Metadata) :
    ∀ (names : List String) (vs : List SVal), name ∉ names →
      interpByName ext name dt n md (asRecordFields names vs) = .ok []
  | [], _, _ => by simp [asRecordFields, interpByName]
  | _ :: _, [], _ => by simp [asRecordFields, interpByName]
  | n0 :: ns, v :: vs, h => by
    simp only [List.mem_cons, not_or] at h
    have hne : (n0 == name) = false := by simpa using Ne.symm h.1
    rw [asRecordFields, interpByName_cons_ne hne]
    exact interpByName_asRecordFields_absent ext name dt n md ns vs h.2

/-- position `k` of a tuple is what the struct presentation gives for the `k`-th field name (distinct names) -/
theorem interpByName_asRecordFields (ext : Ext) (name : String) (dt : DataType) (n : Bool) (md : Metadata) :
    ∀ (names : List String) (vs : List SVal) (k : Nat), names.Nodup → names[k]? = some name →
      interpByName ext name dt n md (asRecordFields names vs) = interpNth ext dt n md k (SVals.ofList vs)
  | [], _, _, _, h => by simp at h
  | _ :: _, [], _, _, _ => by simp [asRecordFields, interpByName, SVals.ofList, interpNth]
  | n0 :: ns, v :: vs, 0, hnd, h => by
    simp only [List.getElem?_cons_zero, Option.some.injEq] at h
    subst h
    have habs := interpByName_asRecordFields_absent ext n0 dt n md ns vs (List.nodup_cons.1 hnd).1
    simp only [asRecordFields, interpByName, habs, SVals.ofList, interpNth, beq_self_eq_true, if_true, bind, Except.bind]
  | n0 :: ns, v :: vs, k + 1, hnd, h => by
    simp only [List.getElem?_cons_succ] at h
    have hmem : name ∈ ns := List.mem_of_getElem? h
    have hne : (n0 == name) = false := by
      have : n0 ≠ name := fun e => (List.nodup_cons.1 hnd).1 (e ▸ hmem)
      simpa using this
    rw [asRecordFields, interpByName_cons_ne hne, SVals.ofList, interpNth]
    exact interpByName_asRecordFields ext name dt n md ns vs k (List.nodup_cons.1 hnd).2 h

/-- **tuple ≃ struct**: a record presented as a tuple (or tuple struct) in schema order means exactly what the struct
presentation with the schema's field names means (schema field names distinct — `build_builder` refuses duplicates) -/
theorem record_as_tuple (ext : Ext) (sfs : Fields) (n : Bool) (md : Metadata) (nm : String) (vs : List SVal)
    (hnd : (sfs.toList.map Field.name).Nodup) :
    interpDT ext (.struct sfs) n md (.tuple (SVals.ofList vs)) =
      interpDT ext (.struct sfs) n md (.record nm (asRecordFields (sfs.toList.map Field.name) vs)) := by
  simp only [interpDT, isUnknownVariant, Bool.false_eq_true, if_false]
  refine structOf_congr fun f hf => ?_
  obtain ⟨j, hj, rfl⟩ := List.getElem_of_mem hf
  have hget : (sfs.toList.map Field.name)[j]? = some sfs.toList[j].name := by
    rw [List.getElem?_map, List.getElem?_eq_getElem hj]; rfl
  rw [pickField, pickField, C11Front.indexOfName_of_get _ hnd _ j hget, Option.getD_some,
    interpByName_asRecordFields ext _ _ _ _ _ vs j hnd hget]

theorem record_as_tupleStruct (ext : Ext) (sfs : Fields) (n : Bool) (md : Metadata) (nm tn : String) (vs : List SVal)
    (hnd : (sfs.toList.map Field.name).Nodup) :
    interpDT ext (.struct sfs) n md (.tupleStruct tn (SVals.ofList vs)) =
      interpDT ext (.struct sfs) n md (.record nm (asRecordFields (sfs.toList.map Field.name) vs)) := by
  rw [← record_as_tuple ext sfs n md nm vs hnd]
  simp only [interpDT]

/-! ### `Item` / `Items` (serde_arrow/src/internal/utils/mod.rs:17-153)

The two wrappers have hand-written `Serialize` impls; they are modelled call by call in Build/Wrappers.lean
(`Build.serItem`, `Build.serItems`).  Everything the builder (and the specification) sees of them is that value, so "behave exactly like a one-field record named `item`" is the
definitional unfolding `item_is_record` / `items_is_seq_of_records`, and the consequences are the presentation theorems
applied to it.  (Array-level corollaries: Props/C11Arrays.lean.) -/

/-- **`Item(v)` IS the one-field record named `item`** (what `#[derive(Serialize)] struct Item { item: T }` issues) -/
theorem item_is_record (al : Nat) (v : SVal) : serItem al v = .record "Item" (.cons "item" al v .nil) := rfl

/-- **`Items(vs)` IS the sequence of those records**, in order -/
theorem items_is_seq_of_records (al : Nat) (vs : List SVal) :
    serItems al vs = .seq (SVals.ofList (vs.map fun v => .record "Item" (.cons "item" al v .nil))) := rfl

/-- neither the struct's type name nor the address of the static `"item"` matter: `Item(v)` means what ANY one-field
record `R { item: v }` means … -/
theorem item_interp_record (ext : Ext) (sfs : Fields) (n : Bool) (md : Metadata) (al al' : Nat) (nm : String) (v : SVal) :
    interpDT ext (.struct sfs) n md (serItem al v) = interpDT ext (.struct sfs) n md (.record nm (.cons "item" al' v .nil)) := by
  simp only [serItem, interpDT, interpByName]

/-- … and what the map `{"item": v}` means -/
theorem item_interp_map (ext : Ext) (sfs : Fields) (n : Bool) (md : Metadata) (al : Nat) (v : SVal) :
    interpDT ext (.struct sfs) n md (serItem al v) = interpDT ext (.struct sfs) n md (.map (.cons (.str "item") v .nil)) :=
  (record_as_map ext sfs n md "Item" (.cons "item" al v .nil)).symm

/-- against the schema `[item: dt]` (what `SchemaLike::from_type::<Item<T>>` traces), `Item(v)` is the row whose single
column `item` holds the documented value of `v` -/
theorem item_row (ext : Ext) (dt : DataType) (n : Bool) (md : Metadata) (al : Nat) (v : SVal) :
    interpRow ext [.mk "item" dt n md] (serItem al v) =
      (do let lv ← interpDT ext dt n md v; pure (.struct (.cons "item" lv .nil))) := by
  simp only [interpRow, serItem, interpDT, isUnknownVariant, Bool.false_eq_true, if_false, structOf, Fields.toList_ofList,
    List.mapM_cons, List.mapM_nil, interpByName, Field.name, Field.dataType, Field.nullable, Field.metadata,
    beq_self_eq_true, if_true, bind, Except.bind, pure, Except.pure]
  cases interpDT ext dt n md v with
  | error e => rfl
  | ok lv => simp [pickOne, LFields.ofList]

theorem noRaw_serItem (al : Nat) (v : SVal) : noRaw (serItem al v) = noRaw v := by
  simp [serItem, noRaw, noRawf]

/-! ### non-vacuity -/

example : interpDT {} (.struct (.cons (.mk "a" .int32 false []) (.cons (.mk "b" .utf8 true []) .nil))) false []
      (.record "R" (.cons "b" 1 (.str "x") (.cons "zzz" 2 .unit (.cons "a" 0 (.int .i8 2) .nil)))) =
    .ok (.struct (.cons "a" (.int 2) (.cons "b" (.str [120]) .nil))) := by decide +kernel

example : asRecordFields ["a", "b"] [.int .i8 2, .str "x", .unit] = .cons "a" 0 (.int .i8 2) (.cons "b" 0 (.str "x") .nil) := rfl

example : asEntries (.cons "a" 0 (.int .i8 2) .nil) = .cons (.str "a") (.int .i8 2) .nil := rfl

/-- `Items(&[7u8, 9u8])` as the builder sees it, and what its second element means against `[item: Int32]` -/
example : serItems 0 [.int .u8 7, .int .u8 9] =
    .seq (.cons (.record "Item" (.cons "item" 0 (.int .u8 7) .nil)) (.cons (.record "Item" (.cons "item" 0 (.int .u8 9) .nil)) .nil)) := rfl

example : interpRow {} [.mk "item" .int32 false []] (serItem 0 (.int .u8 9)) = .ok (.struct (.cons "item" (.int 9) .nil)) := by
  decide +kernel

end SaModel.Props.C11
