import SaModel.Build.Dec
/-
C10 — ArrayBuilder: each build returns exactly the rows pushed since the last one (front-end part).
What `take` leaves behind holds no rows, for every builder state whatsoever (no invariant needed), and taking
twice is the same as taking once.  The history theorem (`batches`) lives in Props/C10.lean.
-/
namespace SaModel.Props.C10Front
open SaModel SaModel.Build

/-- after `take`, a builder holds no rows — whatever state it was in -/
theorem dec_takeRest : ∀ (b : B), dec (takeRest b) = []
  | .null _ _ => rfl
  | .unknownVariant _ => rfl
  | .leaf _ _ v _ => by cases v <;> rfl
  | .bytes _ _ v _ _ => by cases v <;> rfl
  | .bytesView _ _ v _ _ => by cases v <;> rfl
  | .fixedSizeBinary _ _ _ v _ _ => by cases v <;> rfl
  | .list _ _ _ v _ _ => by cases v <;> rfl
  | .fixedSizeList _ _ _ _ v _ _ => by cases v <;> rfl
  | .map _ _ v _ _ _ => by cases v <;> rfl
  | .struct _ _ v _ _ _ _ => by cases v <;> rfl
  | .dictionary _ idx _ _ => congrArg (List.map _) (dec_takeRest idx)
  | .union _ _ _ _ _ => rfl

mutual
/-- `take` is idempotent on the part that stays behind -/
theorem takeRest_idem : ∀ (b : B), takeRest (takeRest b) = takeRest b
  | .null _ _ => rfl
  | .unknownVariant _ => rfl
  | .leaf _ _ v _ => by cases v <;> rfl
  | .bytes _ _ v _ _ => by cases v <;> rfl
  | .bytesView _ _ v _ _ => by cases v <;> rfl
  | .fixedSizeBinary _ _ _ v _ _ => by cases v <;> rfl
  | .list _ _ _ v _ el => by cases v <;> simp [takeRest, takeRest_idem el]
  | .fixedSizeList _ _ _ _ v _ el => by cases v <;> simp [takeRest, takeRest_idem el]
  | .map _ _ v _ ks vs => by cases v <;> simp [takeRest, takeRest_idem ks, takeRest_idem vs]
  | .struct _ _ v fs _ _ _ => by cases v <;> simp [takeRest, takeRestAll_idem fs]
  | .dictionary _ idx vals _ => by simp [takeRest, takeRest_idem idx, takeRest_idem vals]
  | .union _ fs _ _ _ => by simp [takeRest, takeRestAll_idem fs]
theorem takeRestAll_idem : ∀ (fs : BL), takeRestAll (takeRestAll fs) = takeRestAll fs
  | .nil => by simp [takeRestAll]
  | .cons b _ r => by simp [takeRestAll, takeRest_idem b, takeRestAll_idem r]
end

/-- the columns of the root after a build are all empty -/
theorem decCols_takeRestAll : ∀ (fs : BL), (decCols (takeRestAll fs)).all (fun c => c.2.isEmpty) = true
  | .nil => by simp [takeRestAll, decCols]
  | .cons b _ r => by simp [takeRestAll, decCols, dec_takeRest b, decCols_takeRestAll r]

example : dec (takeRest (.leaf "$.a" (.int .i32) (some [true, false]) [4, 0])) = [] := by decide

end SaModel.Props.C10Front
