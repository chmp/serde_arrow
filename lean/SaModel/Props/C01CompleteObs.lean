import SaModel.Lemmas.C01ObsComp
import SaModel.Props.C01Obs
import SaModel.Lemmas.C03ObsTotal
/-
C01, completeness of the builders with respect to the documented mapping (the converse of R2') WITHOUT the first clause
of `Safe`: the statements of Props/C01Complete.lean under the weak state invariant `WFH` and `NoDictKey` (which holds of
every builder `build_builder` constructs) instead of `WFB` and `Safe`.

  push_complete'        `interpDT … x = ok lv` + `NoCap` + `total` ⇒ `push` succeeds, the head room shrinks by ≤ `vsize`
  push_err_sound'       under `NoCap`, an error of `push` is never spurious
  push_err_iff'         error IFF not representable (⇐ through `push_interp'`)
  foldl_push_complete'  the fold over the rows succeeds
  runRows_complete'     `runRows_complete` without `hsafe`
  toMarrow_complete'    `toMarrow_complete` without `hsafe` (through `Lemmas.C03.toMarrow_totalH` / `finish_totalH`:
                        `into_array` on the weak invariant, Lemmas/C03ObsTotal.lean)
  toMarrow_complete_decode'   … and the arrays decode to `interpRow` of the records (`C01_build_decode'`)
The other hypotheses (`NoCap`, `total`, `Shape`, `noRaw`; at root level `coveredF`, `totalFs`, `typedFs`, the capacity bound)
are those of Props/C01Complete.lean.
-/
namespace SaModel.Props.C01
open SaModel SaModel.Build SaModel.Spec

/-- **Completeness of `push`, no `Safe` clause 1**: a representable value that fits is accepted; the head room shrinks
by at most its size -/
theorem push_complete' (ext : Ext) (x : SVal) (b : B) (dt : DataType) (n : Bool) (md : Metadata) (lv : LVal)
    (hi : interpDT ext dt n md x = .ok lv) (hwf : WFH b) (hnd : NoDictKey b) (hshape : Shape b dt n md)
    (htot : total dt n md = true) (hraw : noRaw x = true) (hcap : NoCap ext b x) :
    ∃ b', push ext b x = .ok b' ∧ room b ≤ room b' + vsize ext x :=
  Build.push_completeH ext x hraw b dt n md lv ⟨hwf, hnd, hshape, htot⟩ hcap hi

/-- the error-position refinement (C18): under `NoCap`, an error of `push` is never spurious — the documented mapping
is undefined at the value too -/
theorem push_err_sound' (ext : Ext) (x : SVal) (b : B) (dt : DataType) (n : Bool) (md : Metadata) (e : Fail)
    (h : push ext b x = .error e) (hwf : WFH b) (hnd : NoDictKey b) (hshape : Shape b dt n md)
    (htot : total dt n md = true) (hraw : noRaw x = true) (hcap : NoCap ext b x) :
    ∃ e', interpDT ext dt n md x = .error e' := by
  cases hi : interpDT ext dt n md x with
  | error e' => exact ⟨e', rfl⟩
  | ok lv =>
    obtain ⟨b', hb', _⟩ := push_complete' ext x b dt n md lv hi hwf hnd hshape htot hraw hcap
    rw [hb'] at h; cases h

/-- **error IFF not representable** (under the capacity and schema hypotheses) -/
theorem push_err_iff' (ext : Ext) (x : SVal) (b : B) (dt : DataType) (n : Bool) (md : Metadata)
    (hwf : WFH b) (hnd : NoDictKey b) (hshape : Shape b dt n md) (htot : total dt n md = true) (hraw : noRaw x = true)
    (hcap : NoCap ext b x) :
    (∃ e, push ext b x = .error e) ↔ (∃ e, interpDT ext dt n md x = .error e) := by
  constructor
  · rintro ⟨e, he⟩
    exact push_err_sound' ext x b dt n md e he hwf hnd hshape htot hraw hcap
  · rintro ⟨e, he⟩
    cases hp : push ext b x with
    | error e' => exact ⟨e', rfl⟩
    | ok b' =>
      obtain ⟨_, _, _, lv, _, hlv⟩ := push_interp' ext x b b' dt n md (noRaw_ssa x hraw) (Or.inl hraw) hwf hnd hshape hp
      rw [he] at hlv; cases hlv

/-- all rows representable + capacity ⇒ the fold over the rows succeeds -/
theorem foldl_push_complete' (ext : Ext) (dt : DataType) (n : Bool) (md : Metadata) : ∀ (rows : List SVal) (root : B),
    WFH root → NoDictKey root → Shape root dt n md → total dt n md = true →
    (∀ r ∈ rows, noRaw r = true ∧ ∃ lv, interpDT ext dt n md r = .ok lv) →
    (rows.map (vsize ext)).sum ≤ room root →
    ∃ root', rows.foldlM (push ext) root = .ok root' ∧ room root ≤ room root' + (rows.map (vsize ext)).sum
  | [], root, _, _, _, _, _, _ => ⟨root, rfl, by simp⟩
  | r :: rest, root, hwf, hnd, hshape, htot, hrows, hcap => by
    obtain ⟨hraw, lv, hlv⟩ := hrows r (by simp)
    simp only [List.map_cons, List.sum_cons] at hcap ⊢
    obtain ⟨root1, h1, hroom1⟩ := push_complete' ext r root dt n md lv hlv hwf hnd hshape htot hraw
      (show vsize ext r ≤ room root by omega)
    obtain ⟨hw1, hs1, hsh1, _⟩ := push_interp' ext r root root1 dt n md (noRaw_ssa r hraw) (Or.inl hraw) hwf hnd hshape h1
    obtain ⟨root', h2, hroom2⟩ := foldl_push_complete' ext dt n md rest root1 hw1 hs1 hsh1 htot
      (fun r' hr' => hrows r' (by simp [hr'])) (by omega)
    refine ⟨root', ?_, by omega⟩
    rw [List.foldlM_cons, h1]
    exact h2

/-- **`runRows` is complete, no `Safe`**: if every record is representable under the root schema and the records fit
into the fresh root's head room, all rows are accepted -/
theorem runRows_complete' (ext : Ext) (fields : List Field) (rows : List SVal) (root0 : B)
    (hc : fields.all coveredF = true) (h0 : newRoot fields = .ok root0)
    (htot : totalFs (Fields.ofList fields) = true)
    (hrows : ∀ r ∈ rows, noRaw r = true ∧ ∃ lv, interpRow ext fields r = .ok lv)
    (hcap : (rows.map (vsize ext)).sum ≤ room root0) : ∃ root, runRows ext fields rows = .ok root := by
  obtain ⟨hw0, _, _⟩ := newRoot_fresh h0
  obtain ⟨root, h, _⟩ := foldl_push_complete' ext (.struct (Fields.ofList fields)) false [] rows root0
    (Build.WFH_of_WFB _ hw0) (Build.newRoot_NoDictKey h0)
    (newRoot_shape hc h0) (by simp [total, htot]) hrows hcap
  exact ⟨root, by simp only [runRows, h0]; exact h⟩

/-! ### non-vacuity: the schema OUTSIDE `Safe` -/

theorem ok_of_isOk {α} {r : R α} (h : r.isOk = true) : ∃ v, r = .ok v := R.ok_of_isOk h

/-- the fresh root of `exUnsafeFields` (literal form, cf. `exUnsafe_not_safe`) -/
def exUnsafeNewRoot : B :=
  .struct "$" 0 none
    (.cons (.struct "$.s" 0 (some [])
        (.cons (.dictionary "$.s.d" (.leaf "$.s.d.key" (.int .u8) none []) (.bytes "$.s.d.value" .utf8 none [0] []) [])
          ⟨"d", false, []⟩ .nil) [none] 0 [false]) ⟨"s", true, []⟩ .nil) [none] 0 [false]

theorem exUnsafeNewRoot_eq : newRoot exUnsafeFields = .ok exUnsafeNewRoot := by decide +kernel

/-- `runRows_complete'` with every hypothesis discharged on `exUnsafeFields` (a dictionary with non-nullable keys below a
nullable struct — `exUnsafe_not_safe`: `runRows_complete` does not apply) and the three records of `exUnsafeRows` -/
example : ∃ root, runRows {} exUnsafeFields exUnsafeRows = .ok root :=
  runRows_complete' {} exUnsafeFields exUnsafeRows exUnsafeNewRoot (by decide +kernel) exUnsafeNewRoot_eq (by decide +kernel)
    (by
      intro r hr
      simp only [exUnsafeRows, List.mem_cons, List.not_mem_nil, or_false] at hr
      rcases hr with rfl | rfl | rfl
      · exact ⟨by decide +kernel, ok_of_isOk (by decide +kernel)⟩
      · exact ⟨by decide +kernel, ok_of_isOk (by decide +kernel)⟩
      · exact ⟨by decide +kernel, ok_of_isOk (by decide +kernel)⟩)
    (by decide +kernel)

/-- the state after the first record `s = None`: the dictionary below the null holds the placeholder key 0 and no
value — a state satisfying `WFH` only -/
def exUnsafeAfter1 : B :=
  .struct "$" 1 none
    (.cons (.struct "$.s" 1 (some [false])
        (.cons (.dictionary "$.s.d" (.leaf "$.s.d.key" (.int .u8) none [0]) (.bytes "$.s.d.value" .utf8 none [0] []) [])
          ⟨"d", false, []⟩ .nil) [none] 0 [false]) ⟨"s", true, []⟩ .nil) [some ("s", 0)] 1 [true]

/-- … it violates the strict key clause of `WFB` -/
theorem exUnsafeAfter1_not_WFB : ¬ WFB exUnsafeAfter1 := by
  intro h
  simp only [exUnsafeAfter1, WFB, WFL] at h
  have := h.2.1.1.2.1.1.2.2.2.2.1 (.int 0) (by simp [dec, maskNull, leafVal]) 0 rfl
  simp at this

theorem exUnsafeAfter1_run : runRows {} exUnsafeFields (exUnsafeRows.take 1) = .ok exUnsafeAfter1 := by decide +kernel

/-- `push_complete'` on that state, every hypothesis discharged, for the record that brings the first real value -/
example : ∃ b', push {} exUnsafeAfter1
    (.record "R" (.cons "s" 0 (.some (.record "S" (.cons "d" 0 (.str "a") .nil))) .nil)) = .ok b' := by
  obtain ⟨hw, hn, _, _, ht, _⟩ := Build.runRows_rowsH {} exUnsafeFields (exUnsafeRows.take 1) _ _
    exUnsafeNewRoot_eq exUnsafeAfter1_run
  have hsh : Shape exUnsafeAfter1 (.struct (Fields.ofList exUnsafeFields)) false [] :=
    Shape.of_takeRest (ht.trans (newRoot_fresh exUnsafeNewRoot_eq).2.2.symm)
      (newRoot_shape (fields := exUnsafeFields) (by decide +kernel) exUnsafeNewRoot_eq)
  obtain ⟨b', h, _⟩ := push_complete' {} _ exUnsafeAfter1 _ _ _ _
    (show interpDT {} (.struct (Fields.ofList exUnsafeFields)) false []
      (.record "R" (.cons "s" 0 (.some (.record "S" (.cons "d" 0 (.str "a") .nil))) .nil)) =
        .ok (.struct (.cons "s" (.struct (.cons "d" (.str [97]) .nil)) .nil)) from by decide +kernel)
    hw hn hsh (by decide +kernel) (by decide +kernel) (by unfold NoCap; decide +kernel)
  exact ⟨b', h⟩

/-- **`to_marrow` is complete, no `Safe`**: if every record is representable under the root schema and the records fit
into the fresh root's head room, `to_marrow` succeeds — every row is accepted (`runRows_complete'`) and `build_arrays`
cannot fail (`Lemmas.C03.finish_totalH`: on the weak invariant the placeholder branch of `DictionaryUtf8Builder::into_array`
is LIVE — keys hidden below a null while the dictionary is empty — and `serialize_str("")` into the value builder succeeds
because `coveredF` makes it a Utf8 / LargeUtf8 builder; for a Binary value builder it would fail:
`Lemmas.C03.placeholder_binary_fails`). -/
theorem toMarrow_complete' (ext : Ext) (fields : List Field) (rows : List SVal) (root0 : B)
    (hc : fields.all coveredF = true) (h0 : newRoot fields = .ok root0)
    (htot : totalFs (Fields.ofList fields) = true)
    (htyped : Lemmas.C03.typedFs (Fields.ofList fields) = true)
    (hrows : ∀ r ∈ rows, noRaw r = true ∧ ∃ lv, interpRow ext fields r = .ok lv)
    (hcap : (rows.map (vsize ext)).sum ≤ room root0) : ∃ arrs, toMarrow ext fields rows = .ok arrs := by
  obtain ⟨root, hrun⟩ := runRows_complete' ext fields rows root0 hc h0 htot hrows hcap
  obtain ⟨hw, _⟩ := runRows_rows' ext fields rows root0 root h0 hrun
  exact Lemmas.C03.toMarrow_totalH ext fields rows root hc htyped hw hrun

/-- … and then the arrays are what C01 says (`C01_build_decode'`), no `Safe` -/
theorem toMarrow_complete_decode' (ext : Ext) (fields : List Field) (rows : List SVal) (root0 : B)
    (hschema : ∀ f ∈ fields, Lemmas.C03.SchemaOKF f)
    (hc : fields.all coveredF = true) (h0 : newRoot fields = .ok root0)
    (htot : totalFs (Fields.ofList fields) = true)
    (htyped : Lemmas.C03.typedFs (Fields.ofList fields) = true)
    (hrows : ∀ r ∈ rows, noRaw r = true ∧ ∃ lv, interpRow ext fields r = .ok lv)
    (hcap : (rows.map (vsize ext)).sum ≤ room root0) :
    ∃ arrs, toMarrow ext fields rows = .ok arrs ∧ arrs.length = fields.length ∧
      ∃ cols : List (String × List LVal),
        arrs.map decodeAll = cols.map (fun c => c.2.map .ok) ∧ cols.map (·.1) = fields.map (·.name) ∧
        (∀ c ∈ cols, c.2.length = rows.length) ∧
        ∀ (i : Nat) (hi : i < rows.length),
          interpRow ext fields rows[i] = .ok (.struct (LFields.ofList (cols.map fun c => (c.1, c.2.getD i .null)))) := by
  obtain ⟨arrs, h⟩ := toMarrow_complete' ext fields rows root0 hc h0 htot htyped hrows hcap
  exact ⟨arrs, h, C01_build_decode' ext fields rows arrs hschema hc (fun x hx => noRaw_ssa x (hrows x hx).1)
    (Or.inl fun x hx => (hrows x hx).1) h⟩

/-- non-vacuity: `toMarrow_complete'` on the schema OUTSIDE `Safe` with the three records `None, {d: "a"}, None` -/
example : ∃ arrs, toMarrow {} exUnsafeFields exUnsafeRows = .ok arrs := by
  refine toMarrow_complete' {} exUnsafeFields exUnsafeRows exUnsafeNewRoot (by decide +kernel) exUnsafeNewRoot_eq (by decide +kernel) (by decide +kernel) ?_
    (by decide +kernel)
  intro r hr
  simp only [exUnsafeRows, List.mem_cons, List.not_mem_nil, or_false] at hr
  rcases hr with rfl | rfl | rfl
  · exact ⟨by decide +kernel, ok_of_isOk (by decide +kernel)⟩
  · exact ⟨by decide +kernel, ok_of_isOk (by decide +kernel)⟩
  · exact ⟨by decide +kernel, ok_of_isOk (by decide +kernel)⟩

end SaModel.Props.C01
