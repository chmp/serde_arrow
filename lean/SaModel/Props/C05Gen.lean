import SaModel.Build.Push
import SaModel.Lemmas.C18Reps
import SaModel.Generated.AcceptMatrix
import SaModel.Lemmas.C09Chars
/-
C01 / C05, tie by TRANSLATION: the accept matrix of the builders.

`translator/tables2.py` reads, before every build, the trait `SimpleSerializer` (every method with its default
body: reject with a message / forward / transparent), every `impl … SimpleSerializer for X` of
serde_arrow/src/internal/serialization/*.rs (which methods it overrides) and the arms of `build_builder` into
`SaModel/Generated/AcceptMatrix.lean`.  Here the same matrix is computed from the hand-written MODEL: a builder
family "overrides" a call when `push` of a representative value of that call kind into the builder that `newDT`
constructs does not end in the trait's default rejection message.  The two matrices must be equal
(`gen_accept_matrix`: 35 families × 27 call kinds; `decide +kernel` on finite tables throughout — string
comparison is slow in the kernel, so methods are compared by their position in the trait), so a method added to
or dropped from a builder, or an arm added to or dropped from the model, breaks the build of this module and
`./check C05` / `./check C01` report an obligation that no longer checks.

  gen_trait              the trait's defaults are what the model's `notSupported` arms say: every scalar / start
                         call rejects with `<method> is not supported` (`serialize_struct_start` says
                         `serialize_start_start`, as in the sources), `serialize_unit` forwards to `serialize_none`,
                         `serialize_unit_struct` forwards to `serialize_unit` (repo fix ae2fc46),
                         `serialize_some` / `serialize_newtype_struct` are transparent
  gen_enum_forwards      `ArrayBuilder` overrides EVERY method and dispatches each to the method of the same name
  gen_serde_wiring       `impl Serializer for Mut<T>` and the seven compound traits call the expected trait methods
  gen_groups             compound calls are overridden as a whole (`x_start` iff `x_element`/`x_field` iff `x_end`)
  gen_accept_matrix      Rust matrix = model matrix, for every arm of `build_builder`
-/
namespace SaModel.Props.C05Gen
open SaModel SaModel.Build SaModel.Lemmas.C18Reps
open SaModel.Generated.AcceptMatrix

/-! ### the trait -/

def trimR (s : String) : String := String.ofList (s.toList.reverse.dropWhile (· == ' ')).reverse

/-- one serde call kind: the trait method that starts it, its position in the trait, the positions of the chain of
methods its default forwards through (`serialize_unit` → `serialize_none`; since repo fix ae2fc46
`serialize_unit_struct` → `serialize_unit` → `serialize_none`; empty for the others), the representative value whose
`push` models the call (`none`: `serialize_default`, modelled by `pushDefault`), and the message of the (effective)
default rejection -/
structure Call where
  method : String
  pos : Nat
  alt : List Nat
  rep : Option SVal
  msg : String

def calls : List Call := [
  ⟨"serialize_default", 0, [], none, "serialize_default is not supported"⟩,
  ⟨"serialize_unit", 1, [2], some .unit, "serialize_unit/serialize_none is not supported"⟩,
  ⟨"serialize_none", 2, [], some .none, "serialize_unit/serialize_none is not supported"⟩,
  ⟨"serialize_bool", 4, [], some (.bool true), "serialize_bool is not supported"⟩,
  ⟨"serialize_char", 5, [], some (.char 97), "serialize_char is not supported"⟩,
  ⟨"serialize_u8", 6, [], some (.int .u8 1), "serialize_u8 is not supported"⟩,
  ⟨"serialize_u16", 7, [], some (.int .u16 1), "serialize_u16 is not supported"⟩,
  ⟨"serialize_u32", 8, [], some (.int .u32 1), "serialize_u32 is not supported"⟩,
  ⟨"serialize_u64", 9, [], some (.int .u64 1), "serialize_u64 is not supported"⟩,
  ⟨"serialize_i8", 10, [], some (.int .i8 1), "serialize_i8 is not supported"⟩,
  ⟨"serialize_i16", 11, [], some (.int .i16 1), "serialize_i16 is not supported"⟩,
  ⟨"serialize_i32", 12, [], some (.int .i32 1), "serialize_i32 is not supported"⟩,
  ⟨"serialize_i64", 13, [], some (.int .i64 1), "serialize_i64 is not supported"⟩,
  ⟨"serialize_f32", 14, [], some (.f32 0), "serialize_f32 is not supported"⟩,
  ⟨"serialize_f64", 15, [], some (.f64 0), "serialize_f64 is not supported"⟩,
  ⟨"serialize_bytes", 16, [], some (.bytes []), "serialize_bytes is not supported"⟩,
  ⟨"serialize_str", 17, [], some (.str "a"), "serialize_str is not supported"⟩,
  ⟨"serialize_newtype_variant", 19, [], some (.newtypeVariant "E" 0 "A" .unit), "serialize_newtype_variant is not supported"⟩,
  ⟨"serialize_unit_struct", 20, [1, 2], some (.unitStruct "U"), "serialize_unit/serialize_none is not supported"⟩,
  ⟨"serialize_unit_variant", 21, [], some (.unitVariant "E" 0 "A"), "serialize_unit_variant is not supported"⟩,
  ⟨"serialize_map_start", 22, [], some (.map .nil), "serialize_map_start is not supported"⟩,
  ⟨"serialize_seq_start", 26, [], some (.seq .nil), "serialize_seq_start is not supported"⟩,
  ⟨"serialize_struct_start", 29, [], some (.record "S" .nil), "serialize_start_start is not supported"⟩,
  ⟨"serialize_tuple_start", 32, [], some (.tuple .nil), "serialize_tuple_start is not supported"⟩,
  ⟨"serialize_tuple_struct_start", 35, [], some (.tupleStruct "T" .nil), "serialize_tuple_struct_start is not supported"⟩,
  ⟨"serialize_struct_variant_start", 38, [], some (.structVariant "E" 0 "A" .nil), "serialize_struct_variant_start is not supported"⟩,
  ⟨"serialize_tuple_variant_start", 39, [], some (.tupleVariant "E" 0 "A" .nil), "serialize_tuple_variant_start is not supported"⟩]

/-- the continuation methods of a compound call: (position of `x_start`, positions of `x_element` … `x_end`), names -/
def groups : List (Nat × List Nat × List String) := [
  (22, [23, 24, 25], ["serialize_map_start", "serialize_map_key", "serialize_map_value", "serialize_map_end"]),
  (26, [27, 28], ["serialize_seq_start", "serialize_seq_element", "serialize_seq_end"]),
  (29, [30, 31], ["serialize_struct_start", "serialize_struct_field", "serialize_struct_end"]),
  (32, [33, 34], ["serialize_tuple_start", "serialize_tuple_element", "serialize_tuple_end"]),
  (35, [36, 37], ["serialize_tuple_struct_start", "serialize_tuple_struct_field", "serialize_tuple_struct_end"])]

/-- the transparent methods: positions and names -/
def transparent : List (Nat × String) := [(3, "serialize_some"), (18, "serialize_newtype_struct")]

def nameAt (k : Nat) : Option String := traitMethods[k]?.map (·.1)

/-- following the forwards of the trait's defaults from the method at `pos` named `name` along `chain`: every step
is a `forward` to the name of the next position, the last default rejects with `msg` -/
def chainOk (msg : String) : Nat → String → List Nat → Bool
  | pos, name, [] =>
    match traitMethods[pos]? with
    | some (n, "reject", m) => n == name && trimR m == msg
    | _ => false
  | pos, name, a :: rest =>
    match traitMethods[pos]?, traitMethods[a]? with
    | some (n, "forward", target), some (n', _, _) => n == name && n' == target && chainOk msg a target rest
    | _, _ => false

/-- does the trait's default of `c` reject with `c.msg` (directly, or through its forwards) -/
def callOk (c : Call) : Bool := chainOk c.msg c.pos c.method c.alt

/-! `trimR` goes through `String.toList` and back, which the kernel evaluates slowly on a literal: `gen_trait` evaluates
`chainOkB`, the same check on the characters read off the bytes of the ASCII literals (`Lemmas.C09.charsOf`). -/

theorem ofList_beq (l : List Char) (s : String) : (String.ofList l == s) = (l == Lemmas.C09.charsOf s) := by
  rw [← Lemmas.C09.toList_eq_charsOf, Bool.eq_iff_iff, beq_iff_eq, beq_iff_eq]
  constructor
  · rintro rfl; exact String.toList_ofList.symm
  · rintro rfl; exact String.ofList_toList

def chainOkB (msg : String) : Nat → String → List Nat → Bool
  | pos, name, [] =>
    match traitMethods[pos]? with
    | some (n, "reject", m) =>
      n == name && ((Lemmas.C09.charsOf m).reverse.dropWhile (· == ' ')).reverse == Lemmas.C09.charsOf msg
    | _ => false
  | pos, name, a :: rest =>
    match traitMethods[pos]?, traitMethods[a]? with
    | some (n, "forward", target), some (n', _, _) => n == name && n' == target && chainOkB msg a target rest
    | _, _ => false

theorem chainOk_eq (msg : String) : ∀ (alt : List Nat) (pos : Nat) (name : String),
    chainOk msg pos name alt = chainOkB msg pos name alt
  | [], pos, name => by
    unfold chainOk chainOkB trimR
    simp only [Lemmas.C09.toList_eq_charsOf, ofList_beq]
  | a :: rest, pos, name => by
    unfold chainOk chainOkB
    simp only [chainOk_eq msg rest]

/-- **the trait's defaults are the ones the model assumes**: the positions used below carry the names written
beside them; every call start rejects by default with `<name> is not supported` (two irregular names, as in the
sources), `serialize_unit` forwards to `serialize_none` and `serialize_unit_struct` to `serialize_unit`; the
continuations reject; the remaining two methods are transparent; and that is every method of the trait -/
theorem gen_trait :
    calls.all callOk = true ∧
    (∀ g ∈ groups, (g.1 :: g.2.1).map nameAt = g.2.2.map some) ∧
    (∀ g ∈ groups, ∀ k ∈ g.2.1, (traitMethods[k]?.map (·.2.1)) = some "reject") ∧
    (∀ t ∈ transparent, traitMethods[t.1]? = some (t.2, "other", "value.serialize(Mut(self))")) ∧
    (List.range traitMethods.length).all (fun k =>
      (calls.map (·.pos) ++ groups.flatMap (·.2.1) ++ transparent.map (·.1)).contains k) = true ∧
    (calls.map (·.pos) ++ groups.flatMap (·.2.1) ++ transparent.map (·.1)).length = traitMethods.length := by
  refine ⟨?_, by decide +kernel⟩
  rw [show calls.all callOk = calls.all fun c => chainOkB c.msg c.pos c.method c.alt from
    congrArg _ (funext fun c => chainOk_eq c.msg c.alt c.pos c.method)]
  decide +kernel

/-- the recorded positions of the overridden methods are the positions of their names -/
theorem gen_idx : ∀ i ∈ impls, i.idx.map nameAt = i.methods.map some := by decide +kernel

/-- **nothing is swallowed at the enum**: `ArrayBuilder` overrides every trait method and forwards it to the
method of the same name of the builder it wraps -/
theorem gen_enum_forwards :
    (∀ e ∈ enumForward, e.1 = e.2) ∧
    (∀ i ∈ impls, i.base = "ArrayBuilder" →
      i.methods = enumForward.map (·.1) ∧ (List.range traitMethods.length).all (i.idx.contains ·) = true) ∧
    (impls.any (·.base == "ArrayBuilder")) = true := by decide +kernel

/-- `x.serialize(Mut(b))` reaches the trait method the model's `push` arm stands for -/
theorem gen_serde_wiring :
    (∀ e ∈ serdeEntry, e.2 = e.1 ∨ e.2 = e.1 ++ "_start") ∧
    (serdeEntry.map (·.2)) =
      (([1, 2, 3, 4, 5, 6, 7, 8, 9, 10, 11, 12, 13, 14, 15, 16, 17, 18, 19, 20, 21, 22, 26, 29, 32, 35, 38, 39] : List Nat).filterMap nameAt) ∧
    serdeCompound = [
      ("SerializeMap", "serialize_key", "serialize_map_key"), ("SerializeMap", "serialize_value", "serialize_map_value"),
      ("SerializeMap", "end", "serialize_map_end"),
      ("SerializeSeq", "serialize_element", "serialize_seq_element"), ("SerializeSeq", "end", "serialize_seq_end"),
      ("SerializeStruct", "serialize_field", "serialize_struct_field"), ("SerializeStruct", "end", "serialize_struct_end"),
      ("SerializeTuple", "serialize_element", "serialize_tuple_element"), ("SerializeTuple", "end", "serialize_tuple_end"),
      ("SerializeTupleStruct", "serialize_field", "serialize_tuple_struct_field"),
      ("SerializeTupleStruct", "end", "serialize_tuple_struct_end"),
      -- the variant accessors are the CHILD's struct / tuple-struct calls (`recordWith c`, `seqLikeWith … c .tupleStruct`)
      ("SerializeStructVariant", "serialize_field", "serialize_struct_field"),
      ("SerializeStructVariant", "end", "serialize_struct_end"),
      ("SerializeTupleVariant", "serialize_field", "serialize_tuple_struct_field"),
      ("SerializeTupleVariant", "end", "serialize_tuple_struct_end")] := by decide +kernel

/-- **compound calls are overridden as a whole**, in every impl (so comparing the `…_start` column suffices) -/
theorem gen_groups :
    ∀ i ∈ impls, ∀ g ∈ groups, ∀ k ∈ g.2.1, i.idx.contains k = i.idx.contains g.1 := by decide +kernel

/-! ### the two matrices -/

/-- Rust: does the impl override the call (itself or, through the default forwards, a method of its chain:
`serialize_unit` → `serialize_none`, `serialize_unit_struct` → `serialize_unit` → `serialize_none`) -/
def rustRow (i : Impl) : List Bool :=
  calls.map fun c => i.idx.contains c.pos || c.alt.any (i.idx.contains ·)

def ext0 : Ext := {}

def msgOf : R B → Option String
  | .ok _ => none
  | .error (.err m) => some m
  | .error (.errCtx m _) => some m
  | .error (.panic m) => some ("panic: " ++ m)

/-- the model's answer to a call on builder `b` -/
def modelResult (b : B) (c : Call) : R B :=
  match c.rep with
  | none => pushDefault b
  | some x => push ext0 b x

/-- model: the answer is something other than the trait's default rejection -/
def modelRow (b : B) : List Bool := calls.map fun c => msgOf (modelResult b c) != some c.msg

/-- the builder the model constructs for a representative -/
def build (r : DataType × Metadata) : Option B :=
  match newDT "$" r.1 true r.2 with
  | .ok b => some b
  | .error _ => none

/-- one arm of `build_builder`: its variants, paired in order with the representatives of that constructor; the
impl recorded for a variant is an impl for its type; the rows agree -/
def armOk (a : String × List (String × String × String × Nat)) : Bool :=
  match builderReps.lookup a.1 with
  | none => false
  | some reps =>
    a.2.length == reps.length &&
    (a.2.zip reps).all fun (v, r) =>
      match impls[v.2.2.2]?, build r with
      | some i, some b => i.base == v.2.1 && (i.inst == "" || i.inst == v.2.2.1) && rustRow i == modelRow b
      | _, _ => false

/-- **accept matrix**: for every arm of `build_builder`, every builder it can construct (variant of
`ArrayBuilder`) and every serde call kind: the Rust builder overrides the trait method iff the model's `push` of a
representative value into the builder the model constructs for that data type does something other than the
trait's default rejection; and the model has representatives for exactly the constructors the code has arms for -/
theorem gen_accept_matrix :
    arms.all armOk = true ∧ arms.length = builderReps.length ∧ (arms.flatMap (·.2)).length = 35 := by decide +kernel

/-- the impls outside the enum: the root, the two `U8Serializer`s and `KeyLookupSerializer` (modelled by
`newRoot` / `u8Of` / `keyStr`), with exactly these methods -/
theorem gen_helpers :
    (((List.range impls.length).filter (fun k => !((arms.flatMap (·.2)).any (·.2.2.2 == k)))).filterMap
        (fun k => impls[k]?.map (fun i => (i.rustType, i.idx)))) =
      [("ArrayBuilder", [0, 20, 2, 3, 1, 4, 10, 11, 12, 13, 6, 7, 8, 9, 14, 15, 5, 17, 16, 26, 27, 28, 29, 30, 31,
                         22, 23, 24, 25, 32, 33, 34, 35, 36, 37, 18, 19, 21, 38, 39]),
       ("U8Serializer", [6, 7, 8, 9, 10, 11, 12, 13]),
       ("U8Serializer", [6, 7, 8, 9, 10, 11, 12, 13]),
       ("OuterSequenceBuilder", [2, 26, 27, 28, 32, 33, 34, 35, 36, 37]),
       ("KeyLookupSerializer", [17])] := by decide +kernel

/-- the transparent methods are left alone, except by `FloatBuilder<f32>` (whose `serialize_some` is the default
wrapped in its own context) and the enum -/
theorem gen_transparent :
    ((impls.filter (fun i => transparent.any (fun t => i.idx.contains t.1))).map (·.rustType)) =
      ["ArrayBuilder", "FloatBuilder<f32>"] := by decide +kernel

/-! ### diagnostic: name the offending builder and call in the build log -/

def armDiff (a : String × List (String × String × String × Nat)) : List String :=
  match builderReps.lookup a.1 with
  | none => ["build_builder has an arm T::" ++ a.1 ++ " for which the model has no representative (lean/SaModel/Lemmas/C18Reps.lean)"]
  | some reps =>
    (a.2.zip reps).flatMap fun (v, r) =>
      match impls[v.2.2.2]?, build r with
      | some i, some b =>
        ((calls.zip ((rustRow i).zip (modelRow b))).filter (fun x => x.2.1 != x.2.2)).map fun x =>
          "ArrayBuilder::" ++ v.1 ++ " (" ++ i.rustType ++ "), " ++ x.1.method ++ ": Rust overrides = " ++
            toString x.2.1 ++ ", model overrides = " ++ toString x.2.2
      | _, _ => ["ArrayBuilder::" ++ v.1 ++ ": no impl / the model builds no builder"]

def offenders : List String := arms.flatMap armDiff

#eval show IO Unit from do
  unless offenders.isEmpty do
    throw <| IO.userError ("C05 accept matrix obligation broken by:\n  " ++ "\n  ".intercalate offenders)

/-! ### non-vacuity -/

example : (build (.date32, [])).map modelRow =
    some (calls.map fun c => ["serialize_default", "serialize_unit", "serialize_none", "serialize_str", "serialize_i32",
      "serialize_i64", "serialize_unit_struct"].contains c.method) := by decide +kernel
example : (build (.union (.cons 0 (.mk "A" .null true []) .nil) .dense, [])).map modelRow =
    some (calls.map fun c => ["serialize_default", "serialize_unit_variant", "serialize_newtype_variant",
      "serialize_struct_variant_start", "serialize_tuple_variant_start"].contains c.method) := by decide +kernel
example : calls.length = 27 ∧ impls.length = 26 := by decide

end SaModel.Props.C05Gen
