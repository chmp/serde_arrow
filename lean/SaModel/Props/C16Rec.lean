import SaModel.Trace.FromTypeG
import SaModel.Props.C16
import SaModel.Props.C08
/-
C16, "schema tracing of recursive or very deep types stops with an error": the transparent wrappers.
`Props/C16.lean: fromType_deep_is_error` covers every recursive definition whose recursive occurrence sits below a
container (`Descends`).  `Option` and newtype structs add no path level, so a definition that recurses through them only
(`struct Node(Option<Box<Node>>)`) was NOT stopped by the pinned crate — neither by the depth limit nor by the budget:
the very first pass never returned (stack overflow, abort; repo fix aaf3edc, finding
C16-from-type-transparent-recursion).  The statements below are about `fromTypeG`, the model of the fixed code
(Trace/FromTypeG.lean).
-/
namespace SaModel.Props.C16
open SaModel SaModel.Trace
open SaModel.Lemmas.C08 (unroll Descends)

/-- a context made of transparent wrappers only: `none` = `Option<_>`, `some n` = `struct n(_)` -/
def wrapCtx : List (Option String) → Ty → Ty
  | [], t => t
  | none :: r, t => .option (wrapCtx r t)
  | some n :: r, t => .newtypeStruct n (wrapCtx r t)

theorem chain_wrapCtx (ctx : List (Option String)) (t : Ty) : chain (wrapCtx ctx t) = ctx.length + chain t := by
  induction ctx with
  | nil => simp [wrapCtx]
  | cons a r ih => cases a <;> simp [wrapCtx, chain, ih] <;> omega

theorem chain_unroll (ctx : List (Option String)) (hne : ctx ≠ []) (base : Ty) (n : Nat) :
    n ≤ chain (unroll (wrapCtx ctx) n base) := by
  induction n with
  | zero => exact Nat.zero_le _
  | succ k ih =>
    have hl : 0 < ctx.length := List.length_pos_iff.mpr hne
    simp only [unroll, chain_wrapCtx]
    omega

theorem wrapDeep_of_chain (t : Ty) (h : MAX_TYPE_DEPTH < chain t) : wrapDeep t = true := by
  cases t with
  | option t => simp [wrapDeep, chain] at h ⊢; left; exact h
  | newtypeStruct n t => simp [wrapDeep, chain] at h ⊢; left; exact h
  | _ => simp [chain] at h

/-- the guard: a type with an over-long wrapper chain at some position is refused with an error value -/
theorem fromTypeG_wrapDeep (c : Code) (o : Options) (ty : Ty) (h : wrapDeep ty = true) : (fromTypeG c o ty).isErr = true := by
  simp [fromTypeG, h, R.isErr, fail]

/-- behind the guard the fixed `from_type` is `from_type`: what holds of an error value and of `from_type` holds of it -/
theorem fromTypeG_cases (c : Code) (o : Options) (ty : Ty) (P : R (List Field) → Prop)
    (hfail : P (fail "Too deeply nested type detected")) (h : P (fromType c o ty)) : P (fromTypeG c o ty) := by
  unfold fromTypeG
  split
  · exact hfail
  · exact h

/-- every success of the fixed `from_type` is a success of the pass structure with the same fields, and on types
without an over-long wrapper chain nothing changed -/
theorem fromTypeG_eq_of_shallow (c : Code) (o : Options) (ty : Ty) (h : wrapDeep ty = false) :
    fromTypeG c o ty = fromType c o ty := by
  simp [fromTypeG, h]

theorem fromTypeG_ok (c : Code) (o : Options) (ty : Ty) (fs : List Field) (h : fromTypeG c o ty = .ok fs) :
    wrapDeep ty = false ∧ fromType c o ty = .ok fs := by
  unfold fromTypeG at h
  split at h
  · cases h
  · rename_i hw; exact ⟨by simpa using hw, h⟩

/-- **recursion through transparent wrappers only is an error value**: for every non-empty wrapper context `ctx`
(`struct Node(Option<Box<Node>>)` is `[some "Node", none]`; `Box` is invisible to serde), every unrolling deeper than
`MAX_TYPE_DEPTH` of `T = ctx T` is refused by `from_type` — for all options and budgets, wherever the unrolling ends -/
theorem fromTypeG_wrapper_recursion_is_error (c : Code) (o : Options) (ctx : List (Option String)) (hne : ctx ≠ [])
    (base : Ty) (n : Nat) (hn : MAX_TYPE_DEPTH < n) :
    (fromTypeG c o (unroll (wrapCtx ctx) n base)).isErr = true :=
  fromTypeG_wrapDeep c o _ (wrapDeep_of_chain _ (Nat.lt_of_lt_of_le hn (chain_unroll ctx hne base n)))

/-- the same below any record: `struct R { w: W }` with `W = ctx W` -/
theorem fromTypeG_wrapper_recursion_in_field (c : Code) (o : Options) (ctx : List (Option String)) (hne : ctx ≠ [])
    (base : Ty) (n : Nat) (hn : MAX_TYPE_DEPTH < n) (name f : String) (rest : TyFields) :
    (fromTypeG c o (.struct name (.cons f (unroll (wrapCtx ctx) n base) rest))).isErr = true :=
  fromTypeG_wrapDeep c o _ (by
    simp [wrapDeep, wrapDeepFields, wrapDeep_of_chain _ (Nat.lt_of_lt_of_le hn (chain_unroll ctx hne base n))])

/-- the depth limit of the container families carries over to the fixed code -/
theorem fromTypeG_deep_is_error (c : Code) (o : Options) (F : Ty → Ty) (hF : Descends o F) (base : Ty) (n : Nat)
    (hn : MAX_TYPE_DEPTH < n) : (fromTypeG c o (unroll F n base)).isErr = true :=
  fromTypeG_cases c o _ (·.isErr = true) rfl (fromType_deep_is_error c o F hF base n hn)

/-- never a panic -/
theorem fromTypeG_no_panic (c : Code) (o : Options) (ty : Ty) (site : String) :
    fromTypeG c o ty ≠ .error (.panic site) :=
  fromTypeG_cases c o ty (· ≠ .error (.panic site)) (fun h => nomatch h) (fromType_no_panic c o ty site)

/-- C08 for the fixed code: `from_type` agrees with the documented mapping under the same guard -/
theorem C08_from_type_G (c : Code) (o : Options) (ty : Ty) :
    SaModel.Lemmas.C08.Agree (fromTypeG c o ty) (Spec.fromTypeSpecG o ty) := by
  unfold fromTypeG Spec.fromTypeSpecG
  split
  · exact SaModel.Lemmas.C08.Agree.fail _ _
  · exact SaModel.Props.C08.C08_from_type c o ty

/-- non-vacuity: `struct Node(Option<Box<Node>>)`, `struct N(Box<N>)`, `Option<Option<…>>` unrolled 21 times are refused;
twenty wrappers at one position are still traced as before -/
example (c : Code) (o : Options) (base : Ty) :
    (fromTypeG c o (unroll (wrapCtx [some "Node", none]) 21 base)).isErr = true ∧
    (fromTypeG c o (unroll (wrapCtx [some "N"]) 21 base)).isErr = true ∧
    (fromTypeG c o (unroll (wrapCtx [none]) 21 base)).isErr = true :=
  ⟨fromTypeG_wrapper_recursion_is_error c o _ (by simp) base 21 (by decide),
   fromTypeG_wrapper_recursion_is_error c o _ (by simp) base 21 (by decide),
   fromTypeG_wrapper_recursion_is_error c o _ (by simp) base 21 (by decide)⟩

example : wrapDeep (.struct "R" (.cons "n" (unroll (wrapCtx [none]) 20 (.int .i32)) .nil)) = false ∧
    (fromTypeG .fixed {} (.struct "R" (.cons "n" (unroll (wrapCtx [none]) 20 (.int .i32)) .nil))).isOk = true ∧
    (fromTypeG .fixed {} (.struct "R" (.cons "n" (unroll (wrapCtx [none]) 21 (.int .i32)) .nil))).isErr = true := by
  decide +kernel

end SaModel.Props.C16
