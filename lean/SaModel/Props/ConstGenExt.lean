import SaModel.Generated.ConstantsExt
import SaModel.Generated.ConstantsExtUtils
import SaModel.Ext.Fields
import SaModel.Lemmas.C20Gen
import SaModel.Props.C20
import SaModel.Lemmas.C09Chars
/-
Translation obligation (C20, C16): the metadata keys, extension names, the literal pieces of the extension metadata text,
the `"element"` name check and the child field names of schema/extensions/{bool8_field, fixed_shape_tensor_field,
variable_shape_tensor_field}.rs, as the translator reads them out of the sources NOW (`Generated.ConstantsExt`), are the
literals the hand-written model `SaModel/Ext/Fields.lean` uses: the model functions are restated with the generated texts.

Second part (`Generated.ConstantsExtUtils`): the BODIES of schema/extensions/utils.rs.  The `match` of `JsonString::fmt` as an
ordered arm table, the statements of `check_permutation` / `check_dim_names` and the pieces of `write_list`, interpreted by
`SaModel/Ext/UtilsGen.lean`, are the hand-written model `SaModel/Ext/Utils.lean` for ALL inputs; each proof is a `decide`d
criterion on the table (which a harmless rewrite of the source still satisfies) and the soundness lemma of that criterion
(`SaModel/Lemmas/C20Gen.lean`), so the theorems of `Props/C20.lean` transfer to the text the source produces.
-/
namespace SaModel.Props.ConstGenExt
open SaModel SaModel.Ext SaModel.Generated
open SaModel.Lemmas.C09 (toList_eq_charsOf)

/-- the literal value inserted under a key -/
def literalOf (tbl : List (String × String × String)) (key : Str) : Str :=
  match tbl.find? (fun e => e.1.toList == key && e.2.1 == "literal") with
  | some e => e.2.2.toList
  | none => []

/-- the two metadata keys are those of the model; the name is a literal, the metadata is `String::new()` for bool8 and the
result of `get_ext_metadata` for the tensors -/
theorem gen_metadata_keys :
    ConstantsExt.bool8Metadata.map (fun e => (e.1.toList, e.2.1)) = [(kExtName, "literal"), (kExtMetadata, "literal")] ∧
    ConstantsExt.fixedMetadata.map (fun e => (e.1.toList, e.2.1)) = [(kExtName, "literal"), (kExtMetadata, "get_ext_metadata")] ∧
    ConstantsExt.variableMetadata.map (fun e => (e.1.toList, e.2.1)) = [(kExtName, "literal"), (kExtMetadata, "get_ext_metadata")] :=
  -- the keys of the model are the same literals: nothing is decoded
  ⟨rfl, rfl, rfl⟩

/-- the first entry, if it is a literal under the key asked for -/
theorem literalOf_head (k v : String) (rest : List (String × String × String)) :
    literalOf ((k, "literal", v) :: rest) k.toList = v.toList := by
  simp [literalOf]

/-- an entry under another key is passed over -/
theorem literalOf_next (k t v k' : String) (rest : List (String × String × String)) (h : k ≠ k') :
    literalOf ((k, t, v) :: rest) k'.toList = literalOf rest k'.toList := by
  simp [literalOf, String.toList_inj, h]

/-- the extension names are the first entries of their tables, the (empty) bool8 metadata the second of its table -/
theorem literal_values :
    literalOf ConstantsExt.bool8Metadata kExtName = "arrow.bool8".toList ∧
    literalOf ConstantsExt.bool8Metadata kExtMetadata = [] ∧
    literalOf ConstantsExt.fixedMetadata kExtName = "arrow.fixed_shape_tensor".toList ∧
    literalOf ConstantsExt.variableMetadata kExtName = "arrow.variable_shape_tensor".toList :=
  ⟨literalOf_head _ _ _,
   (literalOf_next _ _ _ _ _ (by decide)).trans ((literalOf_head _ _ _).trans String.toList_ofList),
   literalOf_head _ _ _, literalOf_head _ _ _⟩

/-- `TryFrom<&Bool8Field> for Field` with the texts of the source -/
theorem gen_bool8 {ε} (h : Bool8Field) :
    (h.tryFrom : R (Field ε)) = .ok (.mk h.name h.nullable .int8
      (extMetadataMap (literalOf ConstantsExt.bool8Metadata kExtName) (literalOf ConstantsExt.bool8Metadata kExtMetadata))) := by
  rw [literal_values.1, literal_values.2.1]; rfl

/-- the field `FixedShapeTensorField` converts to, with the extension name of the source -/
theorem gen_fixed_field {ε} (h : FixedShapeTensorField ε) (n : Nat) :
    h.mkField n = .mk h.name h.nullable (.fixedSizeList (.element h.element) n)
      (extMetadataMap (literalOf ConstantsExt.fixedMetadata kExtName) h.getExtMetadata) := by
  rw [literal_values.2.2.1]; rfl

/-- … and `VariableShapeTensorField` -/
theorem gen_variable_field {ε} (h : VariableShapeTensorField ε) :
    h.tryFrom = match usizeToI32 h.ndim with
      | .error e => .error e
      | .ok ndim => .ok (.mk h.name h.nullable (VariableShapeTensorField.storage h.element ndim)
          (extMetadataMap (literalOf ConstantsExt.variableMetadata kExtName) h.getExtMetadata)) := by
  rw [literal_values.2.2.2]; rfl

example : ((Bool8Field.new "x").tryFrom : R (Field Unit)) =
    .ok (.mk "x" false .int8 [("ARROW:extension:metadata".toList, []), ("ARROW:extension:name".toList, "arrow.bool8".toList)]) := rfl

/-- a Rust format string without placeholders, as the text it writes (`{{` ↦ `{`, `}}` ↦ `}`) -/
def unbrace : List Char → List Char
  | '{' :: '{' :: r => '{' :: unbrace r
  | '}' :: '}' :: r => '}' :: unbrace r
  | c :: r => c :: unbrace r
  | [] => []

/-- the pieces `get_ext_metadata` of the fixed-shape tensor writes, in order: the model's literals -/
theorem gen_fixed_writes :
    ConstantsExt.fixedWrites.map (fun s => unbrace s.toList) =
      [['{'], "\"shape\":".toList, ",\"permutation\":".toList, ",\"dim_names\":".toList, ['}']] := by
  simp only [toList_eq_charsOf]
  decide +kernel

/-- the model's writer with these pieces -/
theorem fixed_writer_model {ε} (nameRepr : Str → Str) (h : FixedShapeTensorField ε) :
    FixedShapeTensorField.getExtMetadataWith nameRepr h =
      (let s := ['{'] ++ "\"shape\":".toList ++ writeList (h.shape.map showNat)
       let s := match h.permutation with
         | some permutation => s ++ ",\"permutation\":".toList ++ writeList (permutation.map showNat)
         | none => s
       let s := match h.dimNames with
         | some dimNames => s ++ ",\"dim_names\":".toList ++ writeList (dimNames.map nameRepr)
         | none => s
       s ++ ['}']) := rfl

/-- the pieces of the variable-shape tensor: `{`, then per optional entry a `,` (written `if !first_field`) and the key, `}`;
`None` of the uniform shape is written `null` -/
theorem gen_variable_writes :
    ConstantsExt.variableWrites.map (fun s => unbrace s.toList) =
      [['{'], [','], "\"permutation\":".toList, [','], "\"dim_names\":".toList, [','], "\"uniform_shape\":".toList, ['}'],
       "String::from:".toList ++ VariableShapeTensorField.showOptNat none] := by
  simp only [toList_eq_charsOf]
  decide +kernel

theorem variable_sep_model : VariableShapeTensorField.sep false = [','] ∧ VariableShapeTensorField.sep true = [] := by
  decide +kernel

/-- the name check of both constructors: `element.name != "element"` -/
theorem gen_element_check :
    ConstantsExt.fixedElementCheck.1 = "!=" ∧ ConstantsExt.variableElementCheck.1 = "!=" := by decide +kernel

theorem gen_fixed_new {ε} (name : String) (element : ε) (elementName : String) (shape : List Nat) :
    FixedShapeTensorField.new name element elementName shape =
      if elementName ≠ ConstantsExt.fixedElementCheck.2.1 then fail "The element field of FixedShapeTensorField must be named \"element\""
      else .ok { name, shape, element, nullable := false, dimNames := none, permutation := none } := rfl

theorem gen_variable_new_rejects {ε} (name : String) (element : ε) (elementName : String) (ndim : Nat)
    (h : elementName ≠ ConstantsExt.variableElementCheck.2.1) :
    VariableShapeTensorField.new name element elementName ndim = fail "The element field of FixedShapeTensorField must be named \"element\"" := by
  have h' : elementName ≠ "element" := h
  simp [VariableShapeTensorField.new, h']

example : (FixedShapeTensorField.new "t" () "item" [2, 3]).isOk = false := by decide +kernel
example : (FixedShapeTensorField.new "t" () "element" [2, 3]).isOk = true := by decide +kernel

/-- the shape product fails on overflow — a statement about the MODEL alone (no generated constant enters it, hence no
`gen_` prefix) -/
theorem fixed_overflow_model (n s : Nat) (rest : List Nat) (h : checkedMul n s = none) :
    FixedShapeTensorField.shapeProduct n (s :: rest) = fail "The number of elements of FixedShapeTensorField does not fit into i32" := by
  simp [FixedShapeTensorField.shapeProduct, h]

example : FixedShapeTensorField.shapeProduct 1 [2 ^ 40, 2 ^ 40] = fail "The number of elements of FixedShapeTensorField does not fit into i32" := rfl

/-- the storage type of the variable-shape tensor: children `data`, `shape`, and `element` below `shape` -/
theorem gen_variable_children : ConstantsExt.variableChildNames = ["data", "shape", "element"] := by decide +kernel

theorem variable_storage_model {ε} (element : ε) (ndim : Nat) :
    VariableShapeTensorField.storage element ndim = .struct [
      .mk "data" false (.list (.element element)) [],
      .mk "shape" false (.fixedSizeList (.mk "element" false .int32 []) ndim) []] := rfl

example : checkPermutation 2 [0, 0] = fail ("Invalid permutation: index" ++ " found multiple times") := by decide +kernel

/-! ### the bodies of `utils.rs` (`Generated.ConstantsExtUtils`) -/

open SaModel.Lemmas.C20Gen SaModel.Ext.Json

/-- the arm table read from `JsonString::fmt` passes the criterion (`armsOk`: literal arms and guard bounds below U+0080, a
catch-all arm that copies, and agreement with `escapeChar` on each of the 128 characters below U+0080) -/
theorem gen_escape_arms_ok : armsOk ConstantsExtUtils.jsonStringArms = true := by decide +kernel

/-- for EVERY character the arms of the source, in their order, write what the model's `escapeChar` writes -/
theorem gen_escape_char (c : Char) : escapeCharGen ConstantsExtUtils.jsonStringArms c = escapeChar c :=
  armsOk_sound _ gen_escape_arms_ok c

example : escapeCharGen ConstantsExtUtils.jsonStringArms (Char.ofNat 0x1f) = "\\u001f".toList := by decide +kernel
example : escapeCharGen ConstantsExtUtils.jsonStringArms '"' = ['\\', '"'] := by decide +kernel
example : escapeCharGen ConstantsExtUtils.jsonStringArms ' ' = [' '] := by decide +kernel
/-- the criterion is not vacuous: the table of seeded regression c20a (`c if c < '\u{1f}'`) does not pass it -/
example : armsOk [.lit '"' "\\\"", .lit '\\' "\\\\", .lit '\n' "\\n", .lit '\r' "\\r", .lit '\t' "\\t",
    .hexBelow 31 "\\u" true 4 false "", .copy] = false := by decide +kernel

theorem gen_json_string_delimiters :
    ConstantsExtUtils.jsonStringOpen.toList = ['"'] ∧ ConstantsExtUtils.jsonStringClose.toList = ['"'] := by decide +kernel

/-- `JsonString::fmt` as translated (opening text, the loop over the characters with the arm table, closing text) writes the
model's `jsonString s` for every string -/
theorem gen_json_string (s : Str) :
    jsonStringGen ConstantsExtUtils.jsonStringOpen ConstantsExtUtils.jsonStringArms ConstantsExtUtils.jsonStringClose s = jsonString s := by
  unfold jsonStringGen jsonString
  rw [gen_json_string_delimiters.1, gen_json_string_delimiters.2, escapeGen_eq _ gen_escape_arms_ok]
  rfl

/-- `Props.C20.json_string_round_trip` for the text the SOURCE's arms produce: it reads back as exactly the string -/
theorem gen_json_string_round_trip (s more : Str) :
    readScalar (jsonStringGen ConstantsExtUtils.jsonStringOpen ConstantsExtUtils.jsonStringArms ConstantsExtUtils.jsonStringClose s ++ more)
      = some (.str s, more) := by
  rw [gen_json_string]
  exact SaModel.Props.C20.json_string_round_trip s more

example : jsonStringGen ConstantsExtUtils.jsonStringOpen ConstantsExtUtils.jsonStringArms ConstantsExtUtils.jsonStringClose
    ['a', '"', Char.ofNat 1] = "\"a\\\"\\u0001\"".toList := by decide +kernel

/-- the statements read from `check_permutation` pass the criterion (`permBodyOk`: length comparison, `seen` of `len` times
`false`, loop = range guard / `seen[i]` → error / `seen[i] = true`, final loop over `seen` failing on `false`, `Ok(())`) -/
theorem gen_check_permutation_body_ok : permBodyOk ConstantsExtUtils.checkPermutationBody = true := by decide +kernel

/-- for ALL arguments the translated statements of `check_permutation` have the outcome (Ok / Err / panic) of the model -/
theorem gen_check_permutation (ndim : Nat) (p : List Nat) :
    (checkPermutationGen ConstantsExtUtils.checkPermutationBody ndim p).cls = (checkPermutation ndim p).cls :=
  permBodyOk_sound _ gen_check_permutation_body_ok ndim p

/-- `Props.C20.perm_iff` for the statements of the SOURCE: accepted iff `ndim` entries that are a rearrangement of `0..ndim` -/
theorem gen_check_permutation_iff (ndim : Nat) (p : List Nat) :
    (checkPermutationGen ConstantsExtUtils.checkPermutationBody ndim p).cls = "ok" ↔ p.length = ndim ∧ p.Perm (List.range ndim) := by
  rw [gen_check_permutation, ← SaModel.Props.C20.perm_iff]
  cases h : checkPermutation ndim p with
  | ok u => simp [R.cls]
  | error e => cases e <;> simp [R.cls]

example : checkPermutationGen ConstantsExtUtils.checkPermutationBody 3 [2, 0, 1] = .ok () := by decide +kernel
example : (checkPermutationGen ConstantsExtUtils.checkPermutationBody 3 [2, 0, 2]).cls = "err" := by decide +kernel
example : (checkPermutationGen ConstantsExtUtils.checkPermutationBody 2 [2, 0]).cls = "err" := by decide +kernel
/-- pinned defect #3 (`seen[i] = true;` missing): the statement list does not pass the criterion, and its interpretation
rejects the permutation `[1, 0]` as the pinned crate did -/
example : permBodyOk [.failIf .sliceLen .ne .ndim, .letSeen false .sliceLen,
    .forSlice [.failIf .item .ge .seenLen, .failIfSeen .item true], .forSeen false, .retOk] = false := by decide +kernel
example : (checkPermutationGen [.failIf .sliceLen .ne .ndim, .letSeen false .sliceLen,
    .forSlice [.failIf .item .ge .seenLen, .failIfSeen .item true], .forSeen false, .retOk] 2 [1, 0]).cls = "err"
    ∧ (checkPermutationPinned 2 [1, 0]).cls = "err" ∧ (checkPermutation 2 [1, 0]).cls = "ok" := by decide +kernel

theorem gen_check_dim_names_body_ok : dimBodyOk ConstantsExtUtils.checkDimNamesBody = true := by decide +kernel

/-- `check_dim_names` as translated: the outcome of the model for all arguments -/
theorem gen_check_dim_names (ndim : Nat) (names : List Str) :
    (checkDimNamesGen ConstantsExtUtils.checkDimNamesBody ndim names).cls = (checkDimNames ndim names).cls :=
  dimBodyOk_sound _ gen_check_dim_names_body_ok ndim names

example : (checkDimNamesGen ConstantsExtUtils.checkDimNamesBody 2 [['x'], ['y']]).cls = "ok" := by decide +kernel
example : (checkDimNamesGen ConstantsExtUtils.checkDimNamesBody 2 [['x']]).cls = "err" := by decide +kernel

theorem gen_write_list_body_ok : writeListOk ConstantsExtUtils.writeListBody = true := by decide +kernel

/-- `write_list` as translated (`[`, the first item bare, every later item after `,`, `]`) writes the model's text -/
theorem gen_write_list (items : List Str) : writeListGen ConstantsExtUtils.writeListBody items = writeList items :=
  writeListOk_sound _ gen_write_list_body_ok items

example : writeListGen ConstantsExtUtils.writeListBody [['1'], ['2'], ['3']] = "[1,2,3]".toList := by decide +kernel
example : writeListGen ConstantsExtUtils.writeListBody [] = "[]".toList := by decide +kernel

end SaModel.Props.ConstGenExt
