import SaModel.Generated.Constants
import SaModel.Props.ConstGenTrace
import SaModel.Props.ConstGenDecimal
import SaModel.Props.ConstGenTemporal
import SaModel.Props.ConstGenBuild
import SaModel.Props.ConstGenSchema
import SaModel.Props.ConstGenExt
import SaModel.Read.Reader
/-
Translation obligations for the CONSTANTS of the crate (translator/constants.py → `SaModel/Generated/Constants*.lean`,
regenerated by ./check from the sources before every build).  One module per area, so that a property only depends on the
constants its model uses:

  ConstGenTrace     C08, C16   defaults of `TracingOptions`, builder methods, `MAX_TYPE_DEPTH`, the budget loop
  ConstGenDecimal   C15, C05, C16   buffer sizes, precision range, truncation flag, float limit
  ConstGenTemporal  C14, C05, C16   unit factors of chrono.rs and of the date / time / timestamp builders and readers
  ConstGenBuild     C05, C16   `UNKNOWN_KEY`, inline capacity of byte views (builder and reader), `i32::MAX` guards
  ConstGenSchema    C09, C16   `MAX_TERM_DEPTH`, `STRATEGY_KEY`
  ConstGenExt       C20, C16   extension names, metadata keys and texts, the `"element"` check

This module imports all of them (the properties whose models use every area list it: C05, C16).  Message TEXTS are no
obligation of any property: the correspondence suites compare outcome classes and annotations, never wording, and no
property constrains the English wording of an error.  The comparisons of the model's message literals with the texts
of the source live in `SaModel/Wording/*.lean`, which no check builds as an obligation (a reworded message must not raise
an alarm; `./check --wording` reports drift as a NOTE).
-/
namespace SaModel.Props.ConstGen
open SaModel SaModel.Generated

/-- an evaluation of the reader model this module imports (no obligation about a constant): `BytesViewView::get` on an
out-of-line descriptor (length 13 > 12, buffer index 5) over an empty buffer list is the error value
`"invalid state in bytes deserialization"`, not a panic -/
example : Read.viewBytes [] (13 + 2 ^ 64 * 5) = fail "invalid state in bytes deserialization" := by decide +kernel

end SaModel.Props.ConstGen
