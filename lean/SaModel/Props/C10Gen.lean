import SaModel.Build.TakeTable
import SaModel.Generated.Takes
import SaModel.Build.Guarded
import SaModel.Lemmas.C01New
import SaModel.Lemmas.C10TakePush
import SaModel.Props.C10
/-
C10, translation obligation: "after a build the builder behaves like a fresh one", read off the SOURCE of every reset
method.  `Generated.Takes` (translator/takes.py, regenerated by ./check before every build) lists for every builder struct of
serde_arrow/src/internal/serialization/*.rs, every `impl ArrayExt for …` of utils/array_ext.rs and the top-level `ArrayBuilder`
how `new` initialises each field and what `take` / `take_self` / `take_records` / `build_arrays` leaves in the field of `self`.

  gen_takes            `decide`: for EVERY struct and EVERY field the state `take` leaves behind is the state `new` creates for the
                       same configuration (`TakeTable.fieldProblem`): a field reset by `mem::take` is initialised with the type's
                       `Default`; `mem::replace(.., e)` puts back the initialiser (equal up to the spelling of a `Default`; a length
                       `self.g.len()` only of a field `g` whose length `take` does not change); a validity buffer is
                       `is_nullable.then(Vec::new)` / `as_mut().map(mem::take)`; a field `take` keeps (clone / copy / not touched) is an
                       argument of `new` or computed from the arguments and is not written by any other method of the type; a child
                       (builder, `Box<ArrayBuilder>`, `Vec<(ArrayBuilder, FieldMeta)>`, `CountArray`, `OffsetsArray`, `PrimitiveArray`, …)
                       is reset through its own `take`, which is a row of the table
  gen_take_wrappers    every other `fn take` only wraps the row's reset method; the enum's `take` forwards to the variant's
  gen_takes_model      the kinds (kept / reset to the Default / reset to `vec![e; n]`, `vec![e]` / validity / child) of the fields
                       the MODEL has are the kinds of the model's `takeRest` arm for that builder (`modelRows`; the arms restated
                       by `takeRest_*` below), every struct of the table has a model row
  take_leaves_fresh    (about the model, ∀ field / state) whatever was pushed into a builder made by `newB`, `takeRest` of it is
  take_leaves_fresh_root, build_leaves_fresh_guarded    literally the builder `newB` made; the same for the root and for the
                       guarded `ArrayBuilder` (`buildArraysG` leaves `some r0`, not poisoned)

So a `take` that moves a field out with `mem::take` although `new` creates `vec![0; n]` / `vec![vec![]]`, that clones or forgets
a state field, that moves the path or a cached annotation map out, a finisher that moves the schema out of the `ArrayBuilder` —
each makes `gen_takes` false (or the translator refuses the shape), the build of this module fails and ./check C10 reports the
broken obligation, naming struct and field (the `#eval` below puts `TakeTable.violations` into the build log), while the hist /
backend suites go on looking for a failing input.

Trusted: the shape recognition of translator/takes.py (notes/translator.md); that a field `take` keeps is only modified in the
ways `takes.py` scans for (assignment, `&mut self.f`, a mutating std method) — not a `&mut self` method of the field's own type.
-/
namespace SaModel.Props.C10
open SaModel SaModel.Build SaModel.Build.TakeTable SaModel.Generated

/-! ### the obligation on the sources -/

/-- **gen_takes.** For every struct and every field: what the reset method leaves in `self` is what `new` creates. -/
theorem gen_takes : (violations Takes.structs).isEmpty = true := by decide +kernel

/-- every `fn take` that does not construct wraps the row's reset method; `ArrayBuilder::take` (the enum) forwards -/
theorem gen_take_wrappers :
    (wrapperProblems Takes.structs Takes.wrappers).isEmpty = true ∧ Takes.enumTakeForwards = true := by decide +kernel

#eval show IO Unit from do
  let bad := (violations Takes.structs).map (explain Takes.structs) ++
    (wrapperProblems Takes.structs Takes.wrappers).map fun (ty, m, callee) =>
      ty ++ "::" ++ m ++ " calls " ++ callee ++ ", which is not the reset method of a listed struct"
  unless bad.isEmpty do
    throw <| IO.userError ("C10 take obligation (gen_takes) broken by:\n  " ++ "\n  ".intercalate bad)

/-! ### the model's `takeRest`, arm by arm, and the kinds it stands for -/

theorem takeRest_null (p : String) (n : Nat) : takeRest (.null p n) = .null p 0 := by rw [takeRest]
theorem takeRest_unknownVariant (p : String) : takeRest (.unknownVariant p) = .unknownVariant p := by rw [takeRest]
theorem takeRest_leaf (p k v vals) : takeRest (.leaf p k v vals) = .leaf p k (v.map fun _ => []) [] := by rw [takeRest]
theorem takeRest_bytes (p ty v offs data) : takeRest (.bytes p ty v offs data) = .bytes p ty (v.map fun _ => []) [0] [] := by
  rw [takeRest]
theorem takeRest_bytesView (p ty v views buf) :
    takeRest (.bytesView p ty v views buf) = .bytesView p ty (v.map fun _ => []) [] [] := by rw [takeRest]
theorem takeRest_fixedSizeBinary (p n len v buf cur) :
    takeRest (.fixedSizeBinary p n len v buf cur) = .fixedSizeBinary p n 0 (v.map fun _ => []) [] 0 := by rw [takeRest]
theorem takeRest_list (p large fm v offs el) :
    takeRest (.list p large fm v offs el) = .list p large fm (v.map fun _ => []) [0] (takeRest el) := by rw [takeRest]
theorem takeRest_fixedSizeList (p fm n len v cur el) :
    takeRest (.fixedSizeList p fm n len v cur el) = .fixedSizeList p fm n 0 (v.map fun _ => []) 0 (takeRest el) := by
  rw [takeRest]
theorem takeRest_map (p mm v offs ks vs) :
    takeRest (.map p mm v offs ks vs) = .map p mm (v.map fun _ => []) [0] (takeRest ks) (takeRest vs) := by rw [takeRest]
theorem takeRest_struct (p len v fs cached next seen) :
    takeRest (.struct p len v fs cached next seen) =
      .struct p 0 (v.map fun _ => []) (takeRestAll fs) (List.replicate cached.length none) 0 (List.replicate seen.length false) := by
  rw [takeRest]
theorem takeRest_dictionary (p idx vals index) :
    takeRest (.dictionary p idx vals index) = .dictionary p (takeRest idx) (takeRest vals) [] := by rw [takeRest]
theorem takeRest_union (p fs types offs cur) :
    takeRest (.union p fs types offs cur) = .union p (takeRestAll fs) [] [] (List.replicate cur.length 0) := by rw [takeRest]

/-- which model constructor stands for a Rust type, and the kind of every field the model has (read off the `takeRest_*`
arm: an argument that is copied = `kept`; `[]` / `0` = `resetDefault`; `[0]` = `vec![O::default()]`; `List.replicate n x` =
`vec![x; n]`; `v.map fun _ => []` = `validity`; `takeRest child` = `child`).  Fields of the Rust struct that the model does not
have (`DecimalBuilder.f32_factor`, `MapBuilder.key_pending`, `ArrayBuilder.schema`, …) are judged by `gen_takes` alone. -/
structure ModelRow where
  rust : String
  model : String
  fields : List (String × Kind)

def oneDefault : Kind := .resetTo (.vecOne .defaultCall)
def repeatOf (x f : String) : Kind := .resetTo (Val.norm (.vecRepeat (.lit x) (.ofField f)))

def leafRow (rust : String) (extra : List String := []) : ModelRow :=
  { rust := rust, model := "B.leaf (takeRest_leaf): array = PrimitiveArray",
    fields := [("path", .kept), ("array", .child)] ++ extra.map (·, .kept) }

def modelRows : List ModelRow := [
  { rust := "NullBuilder", model := "B.null (takeRest_null)", fields := [("path", .kept), ("count", .resetDefault)] },
  { rust := "UnknownVariantBuilder", model := "B.unknownVariant (takeRest_unknownVariant)", fields := [("path", .kept)] },
  { rust := "BoolBuilder", model := "B.leaf .bool (takeRest_leaf)",
    fields := [("path", .kept), ("array.validity", .validity), ("array.values", .resetDefault), ("array.len", .resetDefault)] },
  leafRow "IntBuilder", leafRow "FloatBuilder", leafRow "DateBuilder",
  leafRow "TimeBuilder" ["unit"], leafRow "DurationBuilder" ["unit"], leafRow "TimestampBuilder" ["unit", "timezone", "utc"],
  leafRow "DecimalBuilder" ["precision", "scale"],
  { rust := "PrimitiveArray", model := "validity / values of B.leaf (takeRest_leaf)",
    fields := [("validity", .validity), ("values", .resetDefault)] },
  { rust := "Utf8Builder", model := "B.bytes / B.bytesView (takeRest_bytes, takeRest_bytesView): array = BytesArray / BytesViewArray",
    fields := [("path", .kept), ("array", .child)] },
  { rust := "BinaryBuilder", model := "B.bytes / B.bytesView (takeRest_bytes, takeRest_bytesView): array = BytesArray / BytesViewArray",
    fields := [("path", .kept), ("array", .child)] },
  { rust := "BytesArray", model := "validity / offsets / data of B.bytes (takeRest_bytes: offsets [0])",
    fields := [("validity", .validity), ("offsets", oneDefault), ("data", .resetDefault)] },
  { rust := "BytesViewArray", model := "validity / views / buf0 of B.bytesView (takeRest_bytesView: buffers = [buf0], buf0 = [])",
    fields := [("validity", .validity), ("data", .resetDefault), ("buffers", .resetTo (.vecOne .defaultCall))] },
  { rust := "FixedSizeBinaryBuilder", model := "B.fixedSizeBinary (takeRest_fixedSizeBinary): seq = CountArray",
    fields := [("path", .kept), ("n", .kept), ("seq", .child), ("buffer", .resetDefault), ("current_n", .resetDefault)] },
  { rust := "CountArray", model := "len / validity of B.fixedSizeBinary, B.fixedSizeList, B.struct",
    fields := [("len", .resetDefault), ("validity", .validity)] },
  { rust := "OffsetsArray", model := "validity / offsets of B.list, B.map (offsets [0])",
    fields := [("validity", .validity), ("offsets", oneDefault)] },
  { rust := "ListBuilder", model := "B.list (takeRest_list): offsets = OffsetsArray",
    fields := [("path", .kept), ("meta", .kept), ("offsets", .child), ("elements", .child)] },
  { rust := "FixedSizeListBuilder", model := "B.fixedSizeList (takeRest_fixedSizeList): seq = CountArray",
    fields := [("path", .kept), ("meta", .kept), ("n", .kept), ("seq", .child), ("current_count", .resetDefault), ("elements", .child)] },
  { rust := "MapBuilder", model := "B.map (takeRest_map): offsets = OffsetsArray",
    fields := [("path", .kept), ("meta", .kept), ("offsets", .child), ("keys", .child), ("values", .child)] },
  { rust := "StructBuilder", model := "B.struct (takeRest_struct): seq = CountArray, lookup = FieldLookup",
    fields := [("path", .kept), ("seq", .child), ("fields", .child), ("lookup", .child), ("next", .resetDefault),
               ("seen", repeatOf "false" "fields")] },
  { rust := "FieldLookup", model := "cached of B.struct (takeRest_struct); index = the names of the fields (BL.names)",
    fields := [("cached_names", repeatOf "None" "index"), ("index", .kept)] },
  { rust := "DictionaryUtf8Builder", model := "B.dictionary (takeRest_dictionary)",
    fields := [("path", .kept), ("indices", .child), ("values", .child), ("index", .resetDefault)] },
  { rust := "UnionBuilder", model := "B.union (takeRest_union)",
    fields := [("path", .kept), ("fields", .child), ("types", .resetDefault), ("offsets", .resetDefault),
               ("current_offset", repeatOf "0" "fields")] },
  { rust := "OuterSequenceBuilder", model := "the root B.struct (newRoot, buildArrays)", fields := [("0", .child)] },
  { rust := "ArrayBuilder", model := "Guarded.G = Option B (buildArraysG: some (takeRest root); poisoned = false ↔ some)",
    fields := [("builder", .child), ("poisoned", .resetDefault)] }]

/-- where the generated table and the model disagree: (Rust type, field; `""`: the whole row is missing on one side) -/
def modelProblems (structs : List StructRow) : List (String × String) :=
  (structs.filterMap fun s => if modelRows.any (·.rust == s.name) then none else some (s.name, "")) ++
  modelRows.flatMap fun m =>
    match structs.find? (·.name == m.rust) with
    | none => [(m.rust, "")]
    | some s => m.fields.filterMap fun (f, k) =>
      match s.field? f with
      | none => if k = .kept then none else some (m.rust, f)   -- configuration need not be stored (it may be recomputed)
      | some row => if kindOf row = k then none else some (m.rust, f)

/-- **gen_takes_model.** The reset methods treat the fields the model has the way the model's `takeRest` does. -/
theorem gen_takes_model : (modelProblems Takes.structs).isEmpty = true := by decide +kernel

#eval show IO Unit from do
  let bad := (modelProblems Takes.structs).map fun (ty, f) =>
    let m := (modelRows.find? (·.rust == ty)).map (·.model)
    let at_ := ((Takes.structs.find? (·.name == ty)).bind (·.field? f)).map fun r => r.takeAt ++ ", `" ++ r.takeRust ++ "`"
    ty ++ (if f == "" then "" else "." ++ f) ++ " (" ++ at_.getD "not in the generated table" ++ "): not the kind of the model's takeRest — "
      ++ m.getD "no model row for this type"
  unless bad.isEmpty do
    throw <| IO.userError ("C10 take obligation (gen_takes_model) broken by:\n  " ++ "\n  ".intercalate bad)

/-! ### the model's post-take state is the model's fresh state -/

/-- **take_leaves_fresh.** A builder made by `build_builder` for ANY field, after ANY sequence of successful pushes of any
values: what `take` leaves behind is literally the builder `build_builder` made. -/
theorem take_leaves_fresh (ext : Ext) (f : Field) (path : String) (b0 : B) (h0 : newB path f = .ok b0) :
    ∀ (xs : List SVal) (b : B), xs.foldlM (push ext) b0 = .ok b → takeRest b = b0 := by
  have hfix : takeRest b0 = b0 := (newB_fresh f path b0 h0).2.2
  intro xs b h
  rw [foldlM_push_takeRest ext xs b0 b h, hfix]

/-- the root builder: after any rows, `take` leaves `OuterSequenceBuilder::new(schema)` -/
theorem take_leaves_fresh_root (ext : Ext) (fields : List Field) (r0 : B) (h0 : newRoot fields = .ok r0) :
    ∀ (rows : List SVal) (r : B), rows.foldlM (push ext) r0 = .ok r → takeRest r = r0 := by
  intro rows r h
  rw [foldlM_push_takeRest ext rows r0 r h, take_fresh_root fields r0 h0]

/-- the guarded `ArrayBuilder`: a `build_arrays` that succeeds on a builder holding any rows leaves `some r0` — the builder
`ArrayBuilder::new(schema)` returns, `poisoned = false` included -/
theorem build_leaves_fresh_guarded (ext : Ext) (fields : List Field) (r0 : B) (h0 : newRoot fields = .ok r0)
    (rows : List SVal) (r : B) (h : rows.foldlM (push ext) r0 = .ok r) (arrs : List Arr) (g : G)
    (hb : buildArraysG ext (some r) = (.ok arrs, g)) : g = some r0 := by
  simp only [buildArraysG, guarded] at hb
  cases hr : buildArrays ext r with
  | error e => rw [hr] at hb; simp at hb
  | ok p =>
    obtain ⟨a, rest⟩ := p
    rw [hr] at hb
    simp only [Prod.mk.injEq] at hb
    rw [← hb.2, buildArrays_rest hr, take_leaves_fresh_root ext fields r0 h0 rows r h]

/-! ### non-vacuity: the table is the inventory, and the obligation is falsifiable by each seeded shape -/

-- the table is not empty: `gen_takes_model` finds every one of the 27 model rows (each with the fields listed there) in it
example : modelRows.length = 27 ∧ (modelRows.flatMap (·.fields)).length = 84 := by decide +kernel
example : Takes.structs ≠ [] ∧ Takes.wrappers ≠ [] := by decide +kernel

section
private def row (init : Val) (take : Take) (writes : List String := []) : StructRow :=
  { name := "UnionBuilder", file := "", generics := [], newFn := "new", takeFn := "take",
    fields := [
      { name := "fields", ty := "Vec<(ArrayBuilder, FieldMeta)>", tyIdents := ["Vec", "ArrayBuilder", "FieldMeta"], init := .arg "fields", take := .mapChildren "take",
        newRust := "", takeRust := "", takeAt := "", writes := [] },
      { name := "f", ty := "", tyIdents := [], init := init, take := take, newRust := "", takeRust := "", takeAt := "", writes := writes }] }
private def zeros : Val := .vecRepeat (.lit "0") (.ofField "fields")

-- the source as it is: `mem::replace(&mut self.current_offset, vec![0; self.fields.len()])`
example : (violations [row zeros (.replace zeros)]).isEmpty = true := by decide +kernel
-- harmless spellings of the same reset
example : (violations [row (.newCall "Vec") (.replace .defaultCall)]).isEmpty = true := by decide +kernel
example : (violations [row .vecEmpty .memTake]).isEmpty = true := by decide +kernel
example : (violations [row (.vecOne (.newCall "Vec")) (.replace (.vecOne .vecEmpty))]).isEmpty = true := by decide +kernel
-- seeded c16h / c10g: `mem::take` where `new` creates `vec![0; n]` / `vec![vec![]]`
example : (violations [row zeros .memTake]).isEmpty = false := by decide +kernel
example : (violations [row (.vecOne .vecEmpty) .memTake]).isEmpty = false := by decide +kernel
-- seeded c03e / c01b: the counters are cloned / not reset at all
example : (violations [row zeros .clone]).isEmpty = false := by decide +kernel
example : (violations [row zeros (.untouched "Vec::new()")]).isEmpty = false := by decide +kernel
-- seeded c18a / c18e: the path / a cached annotation map is moved out
example : (violations [row (.arg "path") .memTake]).isEmpty = false := by decide +kernel
example : (violations [row (.computed "let mut ctx = BTreeMap::new()") .memTake]).isEmpty = false := by decide +kernel
-- seeded c19a: a finisher moves a kept field out (`std::mem::take(&mut self.schema)`)
example : (violations [row (.arg "schema") (.untouched "") ["to_record_batch: &mut self.schema"]]).isEmpty = false := by decide +kernel
-- a replaced vector whose length comes from a field that was itself moved out
example : (violations [{ row zeros (.replace zeros) with fields :=
    [{ name := "fields", ty := "", tyIdents := [], init := .newCall "Vec", take := .memTake, newRust := "", takeRust := "", takeAt := "", writes := [] },
     { name := "f", ty := "", tyIdents := [], init := zeros, take := .replace zeros, newRust := "", takeRust := "", takeAt := "", writes := [] }] }]).isEmpty
    = false := by decide +kernel
end

-- `take_leaves_fresh` is not vacuous: a nullable List<Int32> column after two rows
example : (do
    let b0 ← newB "$.a" (.mk "a" (.list (.mk "element" .int32 false [])) true [])
    let b ← [SVal.seq (.cons (.int .i32 1) (.cons (.int .i32 2) .nil)), .none].foldlM (push {}) b0
    pure (decide (takeRest b = b0) && !decide (b = b0)) : R Bool) = .ok true := by decide +kernel

end SaModel.Props.C10
