import SaModel.Props.C04Root2
/-
C04 for BORROWED targets ("the round trip holds for borrowed as well as owned targets") and the `&[u8]` serialize /
deserialize asymmetry.

The type language has four borrowed leaves (Roundtrip/Types.lean, `Prim`): `strRef` (`&'de str`), `cowStr`
(`#[serde(borrow)] Cow<'de, str>`), `bytesRef` (`#[serde(borrow, with = "serde_bytes")] &'de [u8]`) and `bytesSeq` (`&'de [u8]`
with the std impls: a SEQUENCE of u8 out, `deserialize_bytes` in).  They are leaves of the grammar `fragE`, so EVERY theorem of
Props/C04*.lean (`C04_end_to_end_root` …) holds of types with borrowed leaves at any position — below Option, Vec, tuples, maps,
structs, enum variants — for every option set.  This file says what that means for them:

  * what a borrowed leaf asks and gets           `C04_borrowed_leaf_target`, `C04_borrowed_leaf_value`
  * WHEN THE CRATE CAN LEND (reader model)        `C04_lend_str`, `C04_lend_bytes`, `C04_lend_dictionary`: every string-like
    column (Utf8, LargeUtf8, Utf8View AND Dictionary — `string_dictionary_encoding(true)` included, repo fix 18bc5a0) hands
    `deserialize_str` a BORROWED string, every binary-like column hands `deserialize_bytes` a borrowed slice;
    the REFUSAL otherwise: `C04_borrowed_refuses_copies` (a visitor of `&str` / `&[u8]` rejects a transient or owned value),
    `C04_no_lend_text` (Decimal128 / Date / Time / Duration / Timestamp columns create their text on the fly: a `&str` read
    fails), `C04_no_lend_utf8_as_bytes` (`&[u8]` from a Utf8 column: `visit_bytes`, refused).  No such column is ever traced
    (`mapping_noTemporal`), which is why the round-trip theorems need NO lending hypothesis.
  * `C04_roundtrip_borrowed`                      the property itself for every enum-free type (borrowed leaves anywhere), NO
    scope hypothesis, every option set: from_type succeeds, to_marrow accepts, reading back into the borrowed target returns
    the batch (normalised) with every borrowed leaf handed over BORROWED (`dvalOf`); `C04_roundtrip_borrowed_enum`: with enums
    (`BorrowEnum`), the instance of `C04_end_to_end_root`
  * THE ASYMMETRY `C04_bytes_seq_same_value`      the sequence of `serialize_u8` calls means, at Binary / LargeBinary /
    BinaryView, nullable or not, also below `Some`, the same binary value as `serialize_bytes` — never a null;
    `C04_bytes_seq_roundtrip`                     end to end for the zoo type `BorrowBytesOpt` (`Option<&[u8]>`,
    `Vec<Option<&[u8]>>`, `(Option<&[u8]>, u8)`, the serde_bytes form): EVERY batch comes back literally, `Some(bytes)` as
    `Some(borrowed bytes)` (seeded c04h: `Some` read back as `None`).
-/
namespace SaModel.Props.C04
open SaModel SaModel.Build SaModel.Spec SaModel.Roundtrip

/-- the `deserialize_*` hint and visitor of the borrowed leaves: `deserialize_str` / `deserialize_bytes` with a visitor that
takes borrowed values only (`Read.accept`) -/
theorem C04_borrowed_leaf_target :
    toTarget (.prim .strRef) = .str ∧ toTarget (.prim .cowStr) = .str ∧
    toTarget (.prim .bytesRef) = .bytes ∧ toTarget (.prim .bytesSeq) = .bytes ∧
    toTraceTy (.prim .strRef) = .string ∧ toTraceTy (.prim .cowStr) = .string ∧
    toTraceTy (.prim .bytesRef) = .bytes ∧ toTraceTy (.prim .bytesSeq) = .bytes :=
  ⟨rfl, rfl, rfl, rfl, rfl, rfl, rfl, rfl⟩

/-- what the round-trip theorems say comes back at a borrowed leaf: the value, handed over BORROWED
(`visit_borrowed_str` / `visit_borrowed_bytes`) -/
theorem C04_borrowed_leaf_value (s : String) (b : List UInt8) :
    dvalOf (.prim .strRef) (.str s) = .str .borrowed (Read.strBytes s) ∧
    dvalOf (.prim .cowStr) (.str s) = .str .borrowed (Read.strBytes s) ∧
    dvalOf (.prim .bytesRef) (.bytes b) = .bytes .borrowed b ∧
    dvalOf (.prim .bytesSeq) (.bytes b) = .bytes .borrowed b :=
  ⟨rfl, rfl, rfl, rfl⟩

/-- the two byte-slice leaves differ on the Serialize side only -/
theorem C04_bytes_leaf_ser (b : List UInt8) :
    ser (.prim .bytesRef) (.bytes b) = .bytes b ∧ ser (.prim .bytesSeq) (.bytes b) = .seq (u8Seq b) := ⟨rfl, rfl⟩

/-- a `&'de str` / `&'de [u8]` visitor takes a borrowed value and REFUSES a transient or an owned one -/
theorem C04_borrowed_refuses_copies (b : Bytes) :
    Read.accept .str (.str .borrowed b) = .ok (.str .borrowed b) ∧
    Read.accept .bytes (.bytes .borrowed b) = .ok (.bytes .borrowed b) ∧
    Read.accept .str (.str .transient b) = Read.rejected ∧ Read.accept .str (.str .owned b) = Read.rejected ∧
    Read.accept .bytes (.bytes .transient b) = Read.rejected ∧ Read.accept .bytes (.bytes .owned b) = Read.rejected :=
  ⟨rfl, rfl, rfl, rfl, rfl, rfl⟩

/-- the borrowed value a required slot is handed over as -/
theorem lendOf_ok {f : Bytes → Read.DVal} {r : R Bytes} {d : Read.DVal}
    (h : (do pure (f (← r)) : R Read.DVal) = .ok d) : ∃ b, d = f b := by
  cases r with
  | error e => simp [bind, Except.bind] at h
  | ok b => simp [bind, Except.bind, pure, Except.pure] at h; exact ⟨b, h.symm⟩

/-- a transient / owned text never reaches a borrowed visitor -/
theorem notLent {r : R Int} {g : Int → R Read.DVal} {t : Read.Target} {d : Read.DVal}
    (hg : ∀ x y, g x = .ok y → Read.accept t y = Read.rejected) :
    (do Read.accept t (← (do g (← r) : R Read.DVal)) : R Read.DVal) ≠ .ok d := by
  cases r with
  | error e => simp [bind, Except.bind]
  | ok x =>
    cases hx : g x with
    | error e => simp [bind, Except.bind, hx]
    | ok y => simp [bind, Except.bind, hx, hg x y hx, Read.rejected, SaModel.fail]

/-- `deserialize_str` on a DICTIONARY column hands out the dictionary value BORROWED from the values array (repo fix 18bc5a0;
seeded c04d turns it into `visit_str`) -/
theorem C04_lend_dictionary (fx : Read.Fixes) (ks vs : Arr) (idx : Nat) :
    Read.scalar fx .str (.dictionary ks vs) idx = (do pure (.str .borrowed (← Read.dictGetStr fx ks vs idx))) := by
  unfold Read.scalar; rfl

/-- **every string-like column lends**: Utf8 / LargeUtf8, Utf8View and Dictionary columns answer `deserialize_str` with
`visit_borrowed_str` — whatever `deserialize_str` returns there is a borrowed string, which the `&'de str` visitor accepts -/
theorem C04_lend_str (fx : Read.Fixes) (a : Arr) (idx : Nat) (d : Read.DVal) (hs : Read.isStringLike a = true)
    (h : Read.scalar fx .str a idx = .ok d) :
    (∃ b, d = .str .borrowed b) ∧ Read.readAs fx .str a idx = .ok d := by
  have hb : ∃ b, d = .str .borrowed b := by
    cases a <;> simp only [Read.isStringLike, Bool.false_eq_true] at hs
    case bytes ty v offs data =>
      unfold Read.scalar at h; simp only [hs, if_true] at h; exact lendOf_ok h
    case bytesView ty v views buffers =>
      unfold Read.scalar at h; simp only [hs, if_true] at h; exact lendOf_ok h
    case dictionary ks vs =>
      rw [C04_lend_dictionary] at h; exact lendOf_ok h
  refine ⟨hb, ?_⟩
  obtain ⟨b, rfl⟩ := hb
  simp [Read.readAs, h, bind, Except.bind, Read.accept]

/-- **every binary-like column lends**: Binary / LargeBinary, BinaryView and FixedSizeBinary columns answer
`deserialize_bytes` with `visit_borrowed_bytes` -/
theorem C04_lend_bytes (fx : Read.Fixes) (a : Arr) (idx : Nat) (d : Read.DVal) (hs : Read.isBinaryLike a = true)
    (h : Read.scalar fx .bytes a idx = .ok d) :
    (∃ b, d = .bytes .borrowed b) ∧ Read.readAs fx .bytes a idx = .ok d := by
  have hb : ∃ b, d = .bytes .borrowed b := by
    cases a <;> simp only [Read.isBinaryLike, Bool.false_eq_true, Bool.not_eq_true'] at hs
    case bytes ty v offs data =>
      unfold Read.scalar at h; simp only [hs, Bool.false_eq_true, if_false] at h; exact lendOf_ok h
    case bytesView ty v views buffers =>
      unfold Read.scalar at h; simp only [hs, Bool.false_eq_true, if_false] at h; exact lendOf_ok h
    case fixedSizeBinary n v data =>
      unfold Read.scalar at h; exact lendOf_ok h
  refine ⟨hb, ?_⟩
  obtain ⟨b, rfl⟩ := hb
  cases a <;> simp only [Read.isBinaryLike, Bool.false_eq_true] at hs <;>
    simp [Read.readAs, h, bind, Except.bind, Read.accept]

/-- **the refusal otherwise, text created on the fly**: a Decimal128 / Duration column answers `deserialize_str` with a
TRANSIENT string (`visit_str`), which a `&'de str` target refuses — whatever the slot holds, the read is not `ok` -/
theorem C04_no_lend_text (fx : Read.Fixes) (idx : Nat) (d : Read.DVal) :
    (∀ p s v vals, Read.readAs fx .str (.decimal128 p s v vals) idx ≠ .ok d) ∧
    (∀ u v vals, Read.readAs fx .str (.time .duration u v vals) idx ≠ .ok d) := by
  refine ⟨fun p s v vals => ?_, fun u v vals => ?_⟩
  · simp only [Read.readAs]; unfold Read.scalar; simp only [Read.codecRead]
    exact notLent (by intro x y h; cases h; rfl)
  · simp only [Read.readAs]; unfold Read.scalar; simp only [Read.codecRead]
    exact notLent (by intro x y h; cases h; rfl)

/-- `&'de [u8]` from a Utf8 / LargeUtf8 column: `deserialize_bytes` hands out `visit_bytes` (transient) there — refused -/
theorem C04_no_lend_utf8_as_bytes (fx : Read.Fixes) (ty : BytesTy) (v : Option Bits) (offs : List Int) (data : Bytes) (idx : Nat)
    (d : Read.DVal) (hu : Spec.isUtf8Ty ty = true) : Read.readAs fx .bytes (.bytes ty v offs data) idx ≠ .ok d := by
  simp only [Read.readAs]; unfold Read.scalar; simp only [hu, if_true]
  cases hg : Read.getRequired (Read.bytesColGet fx ty v offs data idx) with
  | error e => simp [bind, Except.bind]
  | ok x => simp [bind, Except.bind, pure, Except.pure, Read.accept, Read.rejected, SaModel.fail]

/-- **C04 for borrowed targets, enum-free types**: `t` any type of the enum-free grammar `frag` — scalars, the OWNED leaves
`String` / byte buffers and the BORROWED leaves `&'de str`, `Cow<'de, str>`, `&'de [u8]` (both forms) at any position: below
Option (nested), Vec, maps, tuples, structs, newtypes — at any supported root (`rootCols … = some F`, at least one column).
For EVERY option set (`string_dictionary_encoding(true)` included: the dictionary reader lends), every `ext`, every batch of
well-typed values within the capacity: `from_type::<T>` returns a schema, `to_marrow` accepts the batch against it, and
reading everything back INTO THE BORROWED TARGET (`toTarget t`: `deserialize_str` / `deserialize_bytes` with visitors that take
borrowed values only) succeeds and returns the batch (normalised), every borrowed leaf handed over borrowed (`dvalOf`,
`C04_borrowed_leaf_value`).  No scope hypothesis (enum-free), no lending hypothesis (every traced column lends). -/
theorem C04_roundtrip_borrowed (c : Trace.Code) (O : Trace.Options) (ext : Ext) (t : Ty) (F : Fields) (vs : List Val)
    (h0 : O.overwrites = []) (hfrag : frag t = true)
    (hroot : rootCols (viewOpts O) t = some F) (hne : F ≠ .nil)
    (hwt : ∀ v ∈ vs, wt t v = true)
    (hw : Trace.Spec.walkable O "$" (toTraceTy t) = true)
    (hm : mappable (viewOpts O) t = true)
    (hb : Trace.Spec.passes (toTraceTy t) ≤ O.from_type_budget)
    (hcap : ((vs.map (ser t)).map (vsize ext)).sum ≤ 2147483647) :
    ∃ fields arrs, Trace.fromType c O (toTraceTy t) = .ok fields ∧
      toMarrow ext fields (vs.map (ser t)) = .ok arrs ∧
      readAll (toTarget t) fields arrs = .ok (vs.map fun v => dvalOf t (norm t v)) :=
  C04_end_to_end_root c O ext t F vs h0 (frag_fragE t hfrag) (noEnum_sized t (frag_noEnum t hfrag)) hroot hne hwt
    (fun v _ => frag_inScopeO (viewOpts O) t v hfrag) hw hm hb hcap

/-- the same where no `Option` sits directly over a nullable position (`plainOpt`): what comes back is LITERALLY the batch -/
theorem C04_roundtrip_borrowed_identity (c : Trace.Code) (O : Trace.Options) (ext : Ext) (t : Ty) (F : Fields) (vs : List Val)
    (h0 : O.overwrites = []) (hfrag : frag t = true) (hplain : plainOpt t = true)
    (hroot : rootCols (viewOpts O) t = some F) (hne : F ≠ .nil)
    (hwt : ∀ v ∈ vs, wt t v = true)
    (hw : Trace.Spec.walkable O "$" (toTraceTy t) = true)
    (hm : mappable (viewOpts O) t = true)
    (hb : Trace.Spec.passes (toTraceTy t) ≤ O.from_type_budget)
    (hcap : ((vs.map (ser t)).map (vsize ext)).sum ≤ 2147483647) :
    ∃ fields arrs, Trace.fromType c O (toTraceTy t) = .ok fields ∧
      toMarrow ext fields (vs.map (ser t)) = .ok arrs ∧
      readAll (toTarget t) fields arrs = .ok (vs.map (dvalOf t)) := by
  obtain ⟨fields, arrs, hft, htm, hr⟩ := C04_roundtrip_borrowed c O ext t F vs h0 hfrag hroot hne hwt hw hm hb hcap
  refine ⟨fields, arrs, hft, htm, ?_⟩
  rw [hr, map_dvalOf_norm t vs hplain hwt]

/-- **C04 for borrowed targets inside enums** (`enum BorrowEnum<'a> { S(&'a str), R { inner: BorrowStr<'a> }, N(i8) }`): the
borrowed leaves are leaves of the full grammar `fragE`, so this is `C04_end_to_end_root` — with its documented exclusion
(`inScopeO`: no `None` at a Union position) -/
theorem C04_roundtrip_borrowed_enum (c : Trace.Code) (O : Trace.Options) (ext : Ext) (t : Ty) (F : Fields) (vs : List Val)
    (h0 : O.overwrites = []) (hfrag : fragE t = true) (hsz : sized t = true)
    (hroot : rootCols (viewOpts O) t = some F) (hne : F ≠ .nil)
    (hwt : ∀ v ∈ vs, wt t v = true)
    (hsc : ∀ v ∈ vs, inScopeO (viewOpts O) t v = true)
    (hw : Trace.Spec.walkable O "$" (toTraceTy t) = true)
    (hm : mappable (viewOpts O) t = true)
    (hb : Trace.Spec.passes (toTraceTy t) ≤ O.from_type_budget)
    (hcap : ((vs.map (ser t)).map (vsize ext)).sum ≤ 2147483647) :
    ∃ fields arrs, Trace.fromType c O (toTraceTy t) = .ok fields ∧
      toMarrow ext fields (vs.map (ser t)) = .ok arrs ∧
      readAll (toTarget t) fields arrs = .ok (vs.map fun v => dvalOf t (norm t v)) :=
  C04_end_to_end_root c O ext t F vs h0 hfrag hsz hroot hne hwt hsc hw hm hb hcap

/-! ### the `&[u8]` asymmetry: a sequence of u8 out, bytes in -/

def isBinaryDT : DataType → Bool
  | .binary | .largeBinary | .binaryView => true
  | _ => false

/-- **the sequence path stores the same bytes**: at a Binary / LargeBinary / BinaryView field, nullable or not, any metadata
that is not the UnknownVariant marker, the call stream `serialize_seq; serialize_u8 × n` of `&[u8]` means the binary value of
those bytes — the same value `serialize_bytes` means — and so does `Some(&[u8])`: never a null (seeded c04h) -/
theorem C04_bytes_seq_same_value (ext : Ext) (dt : DataType) (nb : Bool) (b : List UInt8) (hdt : isBinaryDT dt = true) :
    interpDT ext dt nb [] (ser (.prim .bytesSeq) (.bytes b)) = .ok (.bin b) ∧
    interpDT ext dt nb [] (ser (.prim .bytesRef) (.bytes b)) = .ok (.bin b) ∧
    interpDT ext dt nb [] (ser (.option (.prim .bytesSeq)) (.some (.bytes b))) = .ok (.bin b) := by
  cases dt <;> simp only [isBinaryDT, Bool.false_eq_true] at hdt <;>
    simp [ser, interpDT, isUnknownVariant, specBytes, bytesOf_u8Seq, liftO, bind, Except.bind, pure, Except.pure,
      interpScalar_eq_old, interpScalarOld]

/-- `struct BorrowBytesOpt<'a> { o: Option<&'a [u8]>, v: Vec<Option<&'a [u8]>>, t: (Option<&'a [u8]>, u8),
#[serde(with = "serde_bytes")] w: Option<&'a [u8]> }` (harness/src/zoo.rs) -/
def tBorrowBytesOpt : Ty :=
  .struct "BorrowBytesOpt"
    (.cons "o" false (.option (.prim .bytesSeq))
    (.cons "v" false (.vec (.option (.prim .bytesSeq)))
    (.cons "t" false (.tuple (.cons (.option (.prim .bytesSeq)) (.cons (.prim (.int .u8)) .nil)))
    (.cons "w" false (.option (.prim .bytesRef)) .nil))))

/-- **the asymmetric leaf round-trips, also below Option / Vec / tuples**: for the zoo type `BorrowBytesOpt`, default options,
every `ext`, EVERY batch of well-typed values within the capacity — `from_type` traces nullable LargeBinary columns from
`deserialize_bytes`, `to_marrow` accepts the SEQUENCES of u8 the derived `Serialize` issues, and reading back into the borrowed
target returns literally the batch: `Some(bytes)` as `Some(borrowed bytes)`, `None` as `None` -/
theorem C04_bytes_seq_roundtrip (c : Trace.Code) (ext : Ext) (vs : List Val)
    (hwt : ∀ v ∈ vs, wt tBorrowBytesOpt v = true)
    (hcap : ((vs.map (ser tBorrowBytesOpt)).map (vsize ext)).sum ≤ 2147483647) :
    ∃ fields arrs, Trace.fromType c {} (toTraceTy tBorrowBytesOpt) = .ok fields ∧
      toMarrow ext fields (vs.map (ser tBorrowBytesOpt)) = .ok arrs ∧
      readAll (toTarget tBorrowBytesOpt) fields arrs = .ok (vs.map (dvalOf tBorrowBytesOpt)) :=
  C04_roundtrip_borrowed_identity c {} ext tBorrowBytesOpt _ vs rfl (by decide +kernel) (by decide +kernel)
    (rootCols_struct _ _ _) (by simp [mappingFields]) hwt (by decide +kernel) (by decide +kernel) (by decide +kernel) hcap

/-- `struct BorrowNested<'a> { o: Option<&'a str>, v: Vec<&'a str>, t: (&'a str, u8), inner: BorrowStr<'a> }` with
`struct BorrowStr<'a> { s: &'a str, n: i32 }`, and a `Cow<'a, str>` -/
def exBorrowNested : Ty :=
  .struct "BorrowNested"
    (.cons "o" false (.option (.prim .strRef))
    (.cons "v" false (.vec (.prim .strRef))
    (.cons "t" false (.tuple (.cons (.prim .strRef) (.cons (.prim (.int .u8)) .nil)))
    (.cons "inner" false (.struct "BorrowStr" (.cons "s" false (.prim .strRef) (.cons "n" false (.prim (.int .i32)) .nil)))
    (.cons "c" false (.prim .cowStr) .nil)))))

def exBorrowBatch : List Val :=
  [.struct (.cons (.some (.str "ab")) (.cons (.vec (.cons (.str "x") (.cons (.str "") .nil)))
     (.cons (.tuple (.cons (.str "ß") (.cons (.int 7) .nil))) (.cons (.struct (.cons (.str "s") (.cons (.int (-1)) .nil)))
     (.cons (.str "cow") .nil))))),
   .struct (.cons .none (.cons (.vec .nil)
     (.cons (.tuple (.cons (.str "") (.cons (.int 0) .nil))) (.cons (.struct (.cons (.str "") (.cons (.int 0) .nil)))
     (.cons (.str "") .nil)))))]

/-- with dictionary encoded strings (`string_dictionary_encoding(true)`): the columns are Dictionary(UInt32, LargeUtf8) and
the borrowed targets still read -/
def exDictOpts : Trace.Options := { string_dictionary_encoding := true }

example : ∃ fields arrs, Trace.fromType .fixed exDictOpts (toTraceTy exBorrowNested) = .ok fields ∧
    toMarrow {} fields (exBorrowBatch.map (ser exBorrowNested)) = .ok arrs ∧
    readAll (toTarget exBorrowNested) fields arrs = .ok (exBorrowBatch.map (dvalOf exBorrowNested)) :=
  C04_roundtrip_borrowed_identity .fixed exDictOpts {} exBorrowNested _ exBorrowBatch rfl (by decide +kernel) (by decide +kernel)
    (rootCols_struct _ _ _) (by simp [mappingFields]) (by decide +kernel) (by decide +kernel) (by decide +kernel)
    (by decide +kernel) (by decide +kernel)

example : ((mappingDT (viewOpts exDictOpts) exBorrowNested).1) = .struct
    (.cons (.mk "o" (.dictionary .uint32 .largeUtf8) true [])
    (.cons (.mk "v" (.largeList (.mk "element" (.dictionary .uint32 .largeUtf8) false [])) false [])
    (.cons (.mk "t" (.struct (.cons (.mk "0" (.dictionary .uint32 .largeUtf8) false []) (.cons (.mk "1" .uint8 false []) .nil))) false TUPLE_MD)
    (.cons (.mk "inner" (.struct (.cons (.mk "s" (.dictionary .uint32 .largeUtf8) false []) (.cons (.mk "n" .int32 false []) .nil))) false [])
    (.cons (.mk "c" (.dictionary .uint32 .largeUtf8) false []) .nil))))) := by decide +kernel

/-- what the visitors of the first record are handed: every `&str` BORROWED, the struct keys transient -/
example : (exBorrowBatch.map (dvalOf exBorrowNested)).head? = some (.map
    (.cons (nameKey "o") (.some (.str .borrowed [97, 98]))
    (.cons (nameKey "v") (.seq (.cons (.str .borrowed [120]) (.cons (.str .borrowed []) .nil)))
    (.cons (nameKey "t") (.seq (.cons (.str .borrowed [195, 159]) (.cons (.int .u8 7) .nil)))
    (.cons (nameKey "inner") (.map (.cons (nameKey "s") (.str .borrowed [115]) (.cons (nameKey "n") (.int .i32 (-1)) .nil)))
    (.cons (nameKey "c") (.str .borrowed [99, 111, 119]) .nil)))))) := by decide +kernel

/-- `BorrowBytesOpt`: `Some(&[1, 2])` / `None` at every position, default options -/
def exBytesBatch : List Val :=
  [.struct (.cons (.some (.bytes [1, 2])) (.cons (.vec (.cons (.some (.bytes [])) (.cons .none (.cons (.some (.bytes [255])) .nil))))
     (.cons (.tuple (.cons (.some (.bytes [0])) (.cons (.int 9) .nil))) (.cons (.some (.bytes [3])) .nil)))),
   .struct (.cons .none (.cons (.vec .nil) (.cons (.tuple (.cons .none (.cons (.int 0) .nil))) (.cons .none .nil))))]

example : ∃ fields arrs, Trace.fromType .fixed {} (toTraceTy tBorrowBytesOpt) = .ok fields ∧
    toMarrow {} fields (exBytesBatch.map (ser tBorrowBytesOpt)) = .ok arrs ∧
    readAll (toTarget tBorrowBytesOpt) fields arrs = .ok (exBytesBatch.map (dvalOf tBorrowBytesOpt)) :=
  C04_bytes_seq_roundtrip .fixed {} exBytesBatch (by decide +kernel) (by decide +kernel)

/-- the traced schema: nullable LargeBinary (from `deserialize_bytes`), though the Serialize side issues sequences -/
example : Trace.fromType .fixed {} (toTraceTy tBorrowBytesOpt) = .ok
    [.mk "o" .largeBinary true [], .mk "v" (.largeList (.mk "element" .largeBinary true [])) false [],
     .mk "t" (.struct (.cons (.mk "0" .largeBinary true []) (.cons (.mk "1" .uint8 false []) .nil))) false TUPLE_MD,
     .mk "w" .largeBinary true []] := by decide +kernel

/-- the call stream of the first record: `o` is `Some(seq of u8)`, `w` is `Some(bytes)`; what comes back: borrowed bytes -/
example : (exBytesBatch.map (ser tBorrowBytesOpt)).head? = some (.record "BorrowBytesOpt"
    (.cons "o" 0 (.some (.seq (.cons (.int .u8 1) (.cons (.int .u8 2) .nil))))
    (.cons "v" 0 (.seq (.cons (.some (.seq .nil)) (.cons .none (.cons (.some (.seq (.cons (.int .u8 255) .nil))) .nil))))
    (.cons "t" 0 (.tuple (.cons (.some (.seq (.cons (.int .u8 0) .nil))) (.cons (.int .u8 9) .nil)))
    (.cons "w" 0 (.some (.bytes [3])) .nil))))) := by decide +kernel

example : (exBytesBatch.map (dvalOf tBorrowBytesOpt)).head? = some (.map
    (.cons (nameKey "o") (.some (.bytes .borrowed [1, 2]))
    (.cons (nameKey "v") (.seq (.cons (.some (.bytes .borrowed [])) (.cons .none (.cons (.some (.bytes .borrowed [255])) .nil))))
    (.cons (nameKey "t") (.seq (.cons (.some (.bytes .borrowed [0])) (.cons (.int .u8 9) .nil)))
    (.cons (nameKey "w") (.some (.bytes .borrowed [3])) .nil))))) := by decide +kernel

/-- the lending lemmas are not vacuous: a LargeUtf8 column and a Dictionary column, read as `&str` -/
example : Read.readAs Read.Fixes.all .str (.bytes .largeUtf8 none [0, 2, 3] [97, 98, 99]) 0 = .ok (.str .borrowed [97, 98]) := by
  decide +kernel
example : Read.readAs Read.Fixes.all .str
    (.dictionary (.prim .uint32 none [1, 0]) (.bytes .largeUtf8 none [0, 2, 3] [97, 98, 99])) 0 = .ok (.str .borrowed [99]) := by
  decide +kernel
/-- … and the refusal: a Decimal128 column read as `&str` -/
example : (Read.readAs Read.Fixes.all .str (.decimal128 5 2 none [1234]) 0).isOk = false := by decide +kernel

end SaModel.Props.C04
