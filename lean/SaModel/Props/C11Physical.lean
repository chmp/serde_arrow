import SaModel.Lemmas.C11PhysPush
import SaModel.Props.C11Arrays
/-
C11 — how a record is presented does not change the arrays: PHYSICAL equality.

`C11Arrays.C11_presentations` gives equality of what the arrays decode to.  Here: the arrays themselves (`Arr`: validity
bitmaps, offsets, value and data buffers, view descriptors, dictionary keys and values, union type ids and offsets,
children — including the bytes below null slots) are equal.

  push_determined                 the builder state after a push is a function of the state before and of the DOCUMENTED
                                  value of the pushed value (`Spec.interpDT`) — up to `erase`, the presentation dependent
                                  scratch state that never reaches an array (`finish_erase`): the struct builder's name
                                  cache, `next` and `seen` flags, `current_n` of a fixed-size binary builder.
  push_presentation_physical      two presentations of one logical value, pushed onto states equal up to `erase`, leave
                                  states equal up to `erase`.
  hidden_slots_depend             … and the erased parts DO depend on the presentation (witnesses, `decide`).
  foldl_determined                whole batches: the erased state after a batch is the fold of `pushL` over its documented rows.
  runRows_presentation_physical   hence two presentations of one logical batch leave states equal up to `erase`.
  C11_presentations_physical      `to_marrow` of two presentations of one logical batch returns the SAME arrays.
  C11_histories_physical          the same for every build of two `ArrayBuilder` histories (through C10).
  items_arrays_physical           `Items(vs)` = the batch of one-field records named `item`, at array level, physically
                                  (`items_as_records_physical`, `items_as_maps_physical`).

Family by family (`Lemmas/C11PhysScalar.lean`, `C11PhysStruct.lean`, `C11PhysPush.lean`): leaf kinds
(the stored integer is a function of the logical value), strings / binaries / views (bytes and offsets), fixed-size
binaries, lists and fixed-size lists (offsets by element count; `serialize_bytes` = sequence of `u8`), maps, structs
under the three record disciplines in any field order (per child: exactly the one value addressed to it, `null` when
absent), unions (type id, dense offset, per-variant counter), dictionaries (the key assigned to a string depends on
the index, i.e. on the order of first occurrence of the LOGICAL strings).  No family stores presentation dependent
bytes in an array.
-/
namespace SaModel.Props.C11
open SaModel SaModel.Build SaModel.Spec

/-- **the state after a push is determined by the documented value.**  For every left inverse `un` of `strBytes`
(one exists: `exists_unstr`; the dictionary builder keeps strings, the documented value their UTF-8 bytes):
`erase b' = pushL un lv (erase b)` where `lv = interpDT … x` — the right-hand side does not mention `x`.  State
hypotheses: the WEAK state invariant `WFH` and `NoDictKey` of the hidden-rows refinement (Props/C01Obs.lean) — they hold of
every state reached from a builder `build_builder` constructs, for EVERY schema, and are implied by the stronger
`WFB`, `Safe` (`WFH_of_WFB`, `NoDictKey_of_Safe`): no `Safe`.  (Also the slots hidden below a null are determined by the
documented values: the placeholder key 0 of a non-nullable-key dictionary is part of `pushL`.) -/
theorem push_determined (ext : Ext) (un : Bytes → String) (hun : ∀ s, un (strBytes s) = s)
    (x : SVal) (b b' : B) (dt : DataType) (n : Bool) (md : Metadata)
    (hraw : noRaw x = true) (hwf : WFH b) (hnd : NoDictKey b) (hshape : Shape b dt n md) (h : push ext b x = .ok b') :
    ∃ lv, interpDT ext dt n md x = .ok lv ∧ erase b' = pushL un lv (erase b) := by
  obtain ⟨_, _, _, lv, _, hi⟩ := C01.push_interp' ext x b b' dt n md (noRaw_ssa x hraw) (Or.inl hraw) hwf hnd hshape h
  exact ⟨lv, hi, (push_phys ext un hun x b b' dt n md lv hraw hwf hnd hshape h hi).symm⟩

/-- **presentation independence of the physical state.**  Two values with the same documented meaning at the builder's
field, pushed onto two states that agree up to `erase` (e.g. the same state; or the states two presentations of the
preceding records have left): the resulting states agree up to `erase`. -/
theorem push_presentation_physical (ext : Ext) (x y : SVal) (b1 b2 b1' b2' : B) (dt : DataType) (n : Bool) (md : Metadata)
    (hx : noRaw x = true) (hy : noRaw y = true) (hwf1 : WFH b1) (hwf2 : WFH b2) (hs1 : NoDictKey b1) (hs2 : NoDictKey b2)
    (hsh1 : Shape b1 dt n md) (hsh2 : Shape b2 dt n md) (he : erase b1 = erase b2)
    (hsame : interpDT ext dt n md x = interpDT ext dt n md y)
    (h1 : push ext b1 x = .ok b1') (h2 : push ext b2 y = .ok b2') : erase b1' = erase b2' := by
  obtain ⟨un, hun⟩ := exists_unstr
  obtain ⟨lv1, hi1, e1⟩ := push_determined ext un hun x b1 b1' dt n md hx hwf1 hs1 hsh1 h1
  obtain ⟨lv2, hi2, e2⟩ := push_determined ext un hun y b2 b2' dt n md hy hwf2 hs2 hsh2 h2
  rw [hsame, hi2] at hi1
  cases hi1
  rw [e1, e2, he]

/-- what reaches an array does not see the erased parts -/
theorem finish_physical (ext : Ext) (b1 b2 : B) (he : erase b1 = erase b2) : finish ext b1 = finish ext b2 := by
  rw [← finish_erase ext b1, ← finish_erase ext b2, he]

/-- **whole batches**: the erased state after a batch is the fold of `pushL` over the documented values of its records -/
theorem foldl_determined (ext : Ext) (un : Bytes → String) (hun : ∀ s, un (strBytes s) = s) (dt : DataType) (n : Bool)
    (md : Metadata) : ∀ (rows : List SVal) (b r : B), WFH b → NoDictKey b → Shape b dt n md → (∀ x ∈ rows, noRaw x = true) →
    rows.foldlM (push ext) b = .ok r →
    ∃ lvs : List LVal, rows.map (interpDT ext dt n md) = lvs.map .ok ∧ erase r = lvs.foldl (fun b lv => pushL un lv b) (erase b)
  | [], b, r, _, _, _, _, h => by cases h; exact ⟨[], rfl, rfl⟩
  | x :: rows, b, r, hw, hs, hsh, hr, h => by
    rw [List.foldlM_cons] at h
    obtain ⟨c, hc, h⟩ := (bind_ok _ _ _).1 h
    have hx := hr x (by simp)
    obtain ⟨hw', hs', hsh'⟩ := push_keeps hw hs hsh hc
    obtain ⟨lv, hi, e⟩ := push_determined ext un hun x b c dt n md hx hw hs hsh hc
    obtain ⟨lvs, hl, er⟩ := foldl_determined ext un hun dt n md rows c r hw' hs' hsh' (fun z hz => hr z (by simp [hz])) h
    exact ⟨lv :: lvs, by rw [List.map_cons, hi, hl]; rfl, by rw [er, e]; rfl⟩

/-- the builder states two presentations of one logical batch leave behind agree up to `erase` -/
theorem runRows_presentation_physical (ext : Ext) (fields : List Field) (rows1 rows2 : List SVal) (root0 r1 r2 : B)
    (hc : fields.all coveredF = true) (h0 : newRoot fields = .ok root0)
    (hraw1 : ∀ x ∈ rows1, noRaw x = true) (hraw2 : ∀ x ∈ rows2, noRaw x = true)
    (hsame : rows1.map (interpRow ext fields) = rows2.map (interpRow ext fields))
    (h1 : runRows ext fields rows1 = .ok r1) (h2 : runRows ext fields rows2 = .ok r2) : erase r1 = erase r2 := by
  have hw0 := Build.WFH_of_WFB _ (newRoot_fresh h0).1
  have hsafe := Build.newRoot_NoDictKey h0
  have hsh := newRoot_shape hc h0
  simp only [runRows, h0] at h1 h2
  obtain ⟨un, hun⟩ := exists_unstr
  obtain ⟨l1, e1, d1⟩ := foldl_determined ext un hun _ false [] rows1 root0 r1 hw0 hsafe hsh hraw1 h1
  obtain ⟨l2, e2, d2⟩ := foldl_determined ext un hun _ false [] rows2 root0 r2 hw0 hsafe hsh hraw2 h2
  have e : rows1.map (interpDT ext _ false []) = rows2.map (interpDT ext _ false []) := hsame
  rw [e1, e2] at e
  rw [d1, d2, (List.map_inj_right fun _ _ h => Except.ok.inj h).1 e]

/-- `build_arrays` does not see the erased parts -/
theorem buildArrays_physical (ext : Ext) (r1 r2 : B) (he : erase r1 = erase r2) (a1 a2 : List Arr × B)
    (h1 : buildArrays ext r1 = .ok a1) (h2 : buildArrays ext r2 = .ok a2) : a1.1 = a2.1 := by
  cases r1 <;> simp only [buildArrays, panic] at h1 <;> try cases h1
  cases r2 <;> simp only [buildArrays, panic] at h2 <;> try cases h2
  rename_i p1 len1 v1 fs1 c1 n1 s1 p2 len2 v2 fs2 c2 n2 s2
  simp only [erase, B.struct.injEq] at he
  have hf : finishFields ext fs1 = finishFields ext fs2 := by
    rw [← finishFields_erase ext fs1, ← finishFields_erase ext fs2, he.2.2.2.1]
  obtain ⟨cols1, hc1, h1⟩ := (bind_ok _ _ _).1 h1
  obtain ⟨cols2, hc2, h2⟩ := (bind_ok _ _ _).1 h2
  cases h1; cases h2
  rw [hf, hc2] at hc1
  cases hc1
  rfl

/-- **C11 (presentation independence of the arrays, physical).**  Two batches that are the same logical batch — record by
record the same documented value `interpRow` (records matched by NAME whatever the presentation: struct / map with
string keys / tuple in schema order, any field order, extra fields, absent nullable field vs explicit `None`, `Some` /
newtype layers, integer widths, bytes vs sequences of `u8`, …) — both accepted by `to_marrow`: the returned arrays
are EQUAL, buffer by buffer.  NO `Safe` hypothesis (dictionaries with non-nullable keys below nullable structs included:
also the slots hidden below a null agree).  (Acceptance of one implies acceptance of the other: `C11Accept.C11_presentations_success`.) -/
theorem C11_presentations_physical (ext : Ext) (fields : List Field) (rows1 rows2 : List SVal) (arrs1 arrs2 : List Arr)
    (hcov : fields.all Build.coveredF = true)
    (hraw1 : ∀ x ∈ rows1, noRaw x = true) (hraw2 : ∀ x ∈ rows2, noRaw x = true)
    (hsame : rows1.map (interpRow ext fields) = rows2.map (interpRow ext fields))
    (h1 : toMarrow ext fields rows1 = .ok arrs1) (h2 : toMarrow ext fields rows2 = .ok arrs2) : arrs1 = arrs2 := by
  rw [Props.C03.toMarrow_eq] at h1 h2
  obtain ⟨r1, hr1, h1⟩ := (bind_ok _ _ _).1 h1
  obtain ⟨r2, hr2, h2⟩ := (bind_ok _ _ _).1 h2
  obtain ⟨a1, ha1, h1⟩ := (bind_ok _ _ _).1 h1
  obtain ⟨a2, ha2, h2⟩ := (bind_ok _ _ _).1 h2
  cases h1; cases h2
  obtain ⟨root0, h0⟩ := Props.C03.runRows_newRoot hr1
  exact buildArrays_physical ext r1 r2
    (runRows_presentation_physical ext fields rows1 rows2 root0 r1 r2 hcov h0 hraw1 hraw2 hsame hr1 hr2)
    a1 a2 ha1 ha2

/-- **C11 along histories, physical.**  Two histories (push / extend / `Serializer` / build, any chunking of the rows
within a batch) on builders of the same schema whose batches are, batch by batch and record by record, the same logical
rows in whatever presentation: every build of the one returns the SAME arrays as the corresponding build of the
other.  (Each build returns physically the arrays of the one-shot conversion of its batch: `C10.run_oneShot`.) -/
theorem C11_histories_physical (ext : Ext) (fields : List Field) (r0 : B) (h0 : newRoot fields = .ok r0)
    (hcov : fields.all Build.coveredF = true)
    (ops ops' : List C10.Op) (hraw : C10.OpsOK (fun x => noRaw x = true) ops)
    (hraw' : C10.OpsOK (fun x => noRaw x = true) ops')
    (hsame : (C10.batchesFrom [] ops).map (·.map (interpRow ext fields)) =
      (C10.batchesFrom [] ops').map (·.map (interpRow ext fields)))
    (outs outs' : List (B × List Arr)) (fin fin' : B)
    (h : C10.run ext r0 ops = .ok (outs, fin)) (h' : C10.run ext r0 ops' = .ok (outs', fin')) :
    outs.map (·.2) = outs'.map (·.2) := by
  obtain ⟨l1, g1⟩ := Props.C03.All2_get (C10.run_oneShot ext fields r0 h0 ops outs fin h).1
  obtain ⟨l2, g2⟩ := Props.C03.All2_get (C10.run_oneShot ext fields r0 h0 ops' outs' fin' h').1
  have hb : (C10.batchesFrom [] ops).length = (C10.batchesFrom [] ops').length := by
    simpa using congrArg List.length hsame
  apply List.ext_getElem (by simp only [List.length_map]; omega)
  intro k hk1 hk2
  simp only [List.length_map] at hk1 hk2
  simp only [List.getElem_map]
  exact C11_presentations_physical ext fields _ _ _ _ hcov
    (C10.mem_batchesFrom (fun x => noRaw x = true) ops [] (by simp) hraw _ (List.getElem_mem (by omega)))
    (C10.mem_batchesFrom (fun x => noRaw x = true) ops' [] (by simp) hraw' _ (List.getElem_mem (by omega)))
    (getElem_of_map_eq hsame (by omega) (by omega)) (g1 k hk1 (by omega)).2 (g2 k hk2 (by omega)).2

/-- **`Items(vs)` behaves exactly like a batch of one-field records named `item`** — physically: whatever `rows` are
(records of any other struct type with the one field `item`, maps `{"item": v}`, …), as long as record by record they
mean what `Item(v)` means (`items_same_as_records`, `items_same_as_maps`), `to_marrow` returns the same arrays for
`Items(vs)` and for `rows`.  Through `extend` / `Serializer`: `items_extRows`, `items_serRows`. -/
theorem items_arrays_physical (ext : Ext) (fields : List Field) (al : Nat) (vs rows : List SVal) (arrs1 arrs2 : List Arr)
    (hcov : fields.all Build.coveredF = true)
    (hraw1 : ∀ v ∈ vs, noRaw v = true) (hraw2 : ∀ x ∈ rows, noRaw x = true)
    (hsame : (vs.map (serItem al)).map (interpRow ext fields) = rows.map (interpRow ext fields))
    (h1 : toMarrow ext fields (vs.map (serItem al)) = .ok arrs1) (h2 : toMarrow ext fields rows = .ok arrs2) :
    arrs1 = arrs2 :=
  C11_presentations_physical ext fields _ rows arrs1 arrs2 hcov
    (by
      intro x hx
      obtain ⟨v, hv, rfl⟩ := List.mem_map.1 hx
      rw [noRaw_serItem]; exact hraw1 v hv)
    hraw2 hsame h1 h2

/-- `Items(vs)` and the explicit one-field records `nm { item: v }` of any struct type: the same arrays -/
theorem items_as_records_physical (ext : Ext) (fields : List Field) (al al' : Nat) (nm : String) (vs : List SVal)
    (arrs1 arrs2 : List Arr) (hcov : fields.all Build.coveredF = true)
    (hraw : ∀ v ∈ vs, noRaw v = true)
    (h1 : toMarrow ext fields (vs.map (serItem al)) = .ok arrs1)
    (h2 : toMarrow ext fields (vs.map fun v => SVal.record nm (.cons "item" al' v .nil)) = .ok arrs2) : arrs1 = arrs2 :=
  items_arrays_physical ext fields al vs _ arrs1 arrs2 hcov hraw
    (by
      intro x hx
      obtain ⟨v, hv, rfl⟩ := List.mem_map.1 hx
      simpa [noRaw, noRawf] using hraw v hv)
    (items_same_as_records ext fields al al' nm vs) h1 h2

/-- `Items(vs)` and the maps `{"item": v}`: the same arrays -/
theorem items_as_maps_physical (ext : Ext) (fields : List Field) (al : Nat) (vs : List SVal)
    (arrs1 arrs2 : List Arr) (hcov : fields.all Build.coveredF = true)
    (hraw : ∀ v ∈ vs, noRaw v = true)
    (h1 : toMarrow ext fields (vs.map (serItem al)) = .ok arrs1)
    (h2 : toMarrow ext fields (vs.map fun v => SVal.map (.cons (.str "item") v .nil)) = .ok arrs2) : arrs1 = arrs2 :=
  items_arrays_physical ext fields al vs _ arrs1 arrs2 hcov hraw
    (by
      intro x hx
      obtain ⟨v, hv, rfl⟩ := List.mem_map.1 hx
      simpa [noRaw, noRawe] using hraw v hv)
    (items_same_as_maps ext fields al vs) h1 h2

/-- a `FixedSizeBinary(2)` builder: the bytes `[1, 2]` as `serialize_bytes` and as a sequence of `u8` leave different
`current_n` (0 / 2) — and a struct builder `{a: Int32}`: a struct record and a map record leave different name caches
and `next` (the struct presentation fills the cache; the map presentation leaves `next = UNKNOWN_KEY`).  The states
agree after `erase`. -/
theorem hidden_slots_depend :
    (push {} (.fixedSizeBinary "$.f" 2 0 none [] 0) (.bytes [1, 2]) ≠
      push {} (.fixedSizeBinary "$.f" 2 0 none [] 0) (.seq (.cons (.int .u8 1) (.cons (.int .u8 2) .nil)))) ∧
    ((push {} (.fixedSizeBinary "$.f" 2 0 none [] 0) (.bytes [1, 2])).map erase =
      (push {} (.fixedSizeBinary "$.f" 2 0 none [] 0) (.seq (.cons (.int .u8 1) (.cons (.int .u8 2) .nil)))).map erase) ∧
    (push {} (.struct "$" 0 none (.cons (.leaf "$.a" (.int .i32) none []) ⟨"a", false, []⟩ .nil) [none] 0 [false])
        (.record "R" (.cons "a" 7 (.int .i32 1) .nil)) ≠
      push {} (.struct "$" 0 none (.cons (.leaf "$.a" (.int .i32) none []) ⟨"a", false, []⟩ .nil) [none] 0 [false])
        (.map (.cons (.str "a") (.int .i32 1) .nil))) ∧
    ((push {} (.struct "$" 0 none (.cons (.leaf "$.a" (.int .i32) none []) ⟨"a", false, []⟩ .nil) [none] 0 [false])
        (.record "R" (.cons "a" 7 (.int .i32 1) .nil))).map erase =
      (push {} (.struct "$" 0 none (.cons (.leaf "$.a" (.int .i32) none []) ⟨"a", false, []⟩ .nil) [none] 0 [false])
        (.map (.cons (.str "a") (.int .i32 1) .nil))).map erase) := by
  refine ⟨by decide +kernel, by decide +kernel, by decide +kernel, by decide +kernel⟩

/-- `C11_presentations_physical` applies to the two presentations of `C11Arrays.exRows1/2` (structs with an extra field
and an absent nullable field / a map with the keys in the other order and a tuple with an explicit `None`, other integer
widths) with every hypothesis discharged: the arrays are equal -/
example : ∀ arrs1 arrs2, toMarrow {} exFields exRows1 = .ok arrs1 → toMarrow {} exFields exRows2 = .ok arrs2 →
    arrs1 = arrs2 := fun arrs1 arrs2 h1 h2 =>
  C11_presentations_physical {} exFields exRows1 exRows2 arrs1 arrs2 (by decide) (by decide) (by decide)
    exSame h1 h2

/-- … and both are accepted (`exOk`), so the statement is about actual arrays -/
example : toMarrow {} exFields exRows1 = toMarrow {} exFields exRows2 ∧ (toMarrow {} exFields exRows1).isOk = true :=
  ⟨by decide +kernel, exOk.1⟩

/-- `push_presentation_physical` on a nested state: `{"k": [1, 2]}` as a struct with `i8` elements and as a map with a
tuple of `i64` elements, onto a builder of `Struct{k: List<Int32>}` -/
def exNested : B := .struct "$.s" 0 none
  (.cons (.list "$.s.k" false ⟨"element", false, []⟩ none [0] (.leaf "$.s.k.element" (.int .i32) none [])) ⟨"k", false, []⟩ .nil)
  [none] 0 [false]

theorem exNested_wf : WFB exNested := by
  have hv : ∀ n, VLen none n := fun n bits h => by cases h
  simp only [exNested, WFB, WFL]
  refine ⟨hv _, ⟨⟨?_, hv _, hv _⟩, by decide, trivial⟩, rfl, by decide, rfl, ?_⟩
  · exact ⟨rfl, rfl, by simp⟩
  · intro j key hj
    cases j <;> simp at hj

theorem exNested_shape : Shape exNested (.struct (.cons (.mk "k" (.list (.mk "element" .int32 false [])) false []) .nil)) false [] := by
  simp only [exNested, Shape]
  exact ⟨rfl, _, rfl, rfl, rfl, ⟨rfl, _, _, _, _, rfl, rfl, rfl⟩, trivial⟩

example : ∀ b1 b2,
    push {} exNested (.record "S" (.cons "k" 3 (.seq (.cons (.int .i8 1) (.cons (.int .i8 2) .nil))) .nil)) = .ok b1 →
    push {} exNested (.map (.cons (.str "k") (.tuple (.cons (.int .i64 1) (.cons (.int .i64 2) .nil))) .nil)) = .ok b2 →
    erase b1 = erase b2 := fun b1 b2 h1 h2 =>
  push_presentation_physical {} _ _ exNested exNested b1 b2 _ false []
    (by decide) (by decide) (Build.WFH_of_WFB _ exNested_wf) (Build.WFH_of_WFB _ exNested_wf)
    (by simp [exNested, NoDictKey, NoDictKeyL]) (by simp [exNested, NoDictKey, NoDictKeyL])
    exNested_shape exNested_shape rfl (by decide +kernel) h1 h2

/-- both pushes succeed, with different scratch state -/
example : (push {} exNested (.record "S" (.cons "k" 3 (.seq (.cons (.int .i8 1) (.cons (.int .i8 2) .nil))) .nil))).isOk = true ∧
    (push {} exNested (.map (.cons (.str "k") (.tuple (.cons (.int .i64 1) (.cons (.int .i64 2) .nil))) .nil))).isOk = true ∧
    push {} exNested (.record "S" (.cons "k" 3 (.seq (.cons (.int .i8 1) (.cons (.int .i8 2) .nil))) .nil)) ≠
      push {} exNested (.map (.cons (.str "k") (.tuple (.cons (.int .i64 1) (.cons (.int .i64 2) .nil))) .nil)) := by
  refine ⟨by decide +kernel, by decide +kernel, by decide +kernel⟩

/-- `C11_histories_physical`: a dictionary column and a nullable list column (`C10.exFields`); one history pushes the
record as a map with the keys in the other order and the list as a tuple of `i64`, the other extends by a sequence
holding the struct presentation — every hypothesis discharged, both histories succeed -/
def exOpsP : List C10.Op :=
  [.push (.map (.cons (.str "l") (.tuple (.cons (.int .i64 1) .nil)) (.cons (.str "d") (.some (.str "x")) .nil))), .build]
def exOpsQ : List C10.Op := [.extend (.seq (.cons (C10.exRec "x" [1]) .nil)), .build]

example : (∀ outs outs' fin fin', C10.run {} C10.exRoot0 exOpsP = .ok (outs, fin) → C10.run {} C10.exRoot0 exOpsQ = .ok (outs', fin') →
      outs.map (·.2) = outs'.map (·.2)) ∧
    (C10.run {} C10.exRoot0 exOpsP).isOk = true ∧ (C10.run {} C10.exRoot0 exOpsQ).isOk = true :=
  ⟨fun outs outs' fin fin' h h' =>
    C11_histories_physical {} C10.exFields C10.exRoot0 C10.exNew (by decide) exOpsP exOpsQ (by unfold C10.OpsOK; decide) (by unfold C10.OpsOK; decide)
      (by decide +kernel) outs outs' fin fin' h h',
   by decide +kernel, by decide +kernel⟩

/-- `Items([7u8, 9u8])` and the maps `{"item": 7}`, `{"item": 9}` against `[item: Int32]`: the same arrays -/
example : ∀ arrs1 arrs2, toMarrow {} [.mk "item" .int32 false []] ([SVal.int .u8 7, .int .u8 9].map (serItem 0)) = .ok arrs1 →
    toMarrow {} [.mk "item" .int32 false []] ([SVal.int .u8 7, .int .u8 9].map fun v => SVal.map (.cons (.str "item") v .nil)) = .ok arrs2 →
    arrs1 = arrs2 := fun arrs1 arrs2 h1 h2 =>
  items_as_maps_physical {} _ 0 _ arrs1 arrs2 (by decide) (by decide) h1 h2

/-- `C11_presentations_physical` on the schema OUTSIDE `Safe` of Props/C01Obs.lean (`C01.exUnsafe_not_safe`: a dictionary with
non-nullable keys below a nullable struct): the batch null, {d: "a"}, null as structs and as maps / an absent nullable field —
every hypothesis discharged, the arrays are equal, the placeholder keys hidden below the nulls included -/
example : ∀ arrs1 arrs2, toMarrow {} C01.exUnsafeFields C01.exUnsafeRows = .ok arrs1 →
    toMarrow {} C01.exUnsafeFields
      [.map .nil, .map (.cons (.str "s") (.map (.cons (.str "d") (.str "a") .nil)) .nil), .record "Q" .nil] = .ok arrs2 →
    arrs1 = arrs2 := fun arrs1 arrs2 h1 h2 =>
  C11_presentations_physical {} C01.exUnsafeFields _ _ arrs1 arrs2 (by decide) (by decide) (by decide) (by decide +kernel) h1 h2

end SaModel.Props.C11
