import SaModel.Props.C18
import SaModel.Props.C01CompleteObs
import SaModel.Lemmas.C18BlamePush
import SaModel.Lemmas.C18BlameRaw
/-
C18 — blame against the SPECIFICATION (serializer side).

`Spec.blameDT ext path dt n md x` (Spec/Blame.lean) lists the schema positions, as paths below `path`, at which the
documented mapping `Spec.interpDT` is undefined for `x` for a reason of that position's own: the deepest positions
where it fails, plus containers whose own structural condition fails.  `Props/C18.lean` proves that an error names a
builder of the subtree whose own step failed; here: that position is one the SPECIFICATION blames.  The link is the
completeness of `push` on the WEAK state invariant (Props/C01CompleteObs.lean, the hidden-rows refinement: NO `Safe`
hypothesis): an own step fails only where the mapping is undefined — or a capacity check fires (`NoCap` excludes those;
`C18_capacity_blame` says where they are reported).  State hypotheses of the theorems: `WFH` (weak state invariant) and
`NoDictKey` (no dictionary-keyed dictionary) — both hold of every state reached from a builder `build_builder` constructs,
for EVERY schema (`Build.runRows_rowsH`), and are implied by the stronger `WFB`, `Safe` (`WFH_of_WFB`,
`NoDictKey_of_Safe`).
-/
namespace SaModel.Props.C18
open SaModel SaModel.Build SaModel.Spec

/-- **C18_ser_blame.**  A builder created by `build_builder` at `path` for a field of type `dt`, after any
successfully pushed rows, under the hypotheses of `push_err_iff'` (WFH, NoDictKey, Shape, total, noRaw, NoCap — no `Safe`): an error of the
next `push` — for EVERY serde value without raw key / value streams: `Some` / newtype layers, `None`, unit, every scalar
call, bytes, sequences, tuples, tuple structs, struct records, maps (into struct builders and into map builders), unit /
newtype / tuple / struct variants, nested arbitrarily, into EVERY builder family — is annotated `field` = `render path
segs`, `data_type` = the label of the type at `segs`, for a position `segs` of the schema that `Spec.blameDT` blames for
this value.  No exception (a `None` for a non-nullable dictionary column: `dict_null_repaired`, repo fix ca6f255; a
failing element of a tuple variant presented to a list-typed variant column: `tuple_variant_list_cell`, where
`Spec.blameDT` blames the element column as for a tuple presented to a list column directly). -/
theorem C18_ser_blame (ext : Ext) [ExtPlain ext] (dt : DataType) (path : String) (n : Bool) (md : Metadata)
    (b0 : B) (h0 : newDT path dt n md = .ok b0) (rows : List SVal) (b : B) (hb : rows.foldlM (push ext) b0 = .ok b)
    (x : SVal)
    (hwf : WFH b) (hnd : NoDictKey b) (hshape : Shape b dt n md) (htot : total dt n md = true) (hraw : noRaw x = true)
    (hcap : NoCap ext b x) (msg : String) (ann : List (String × String)) (h : push ext b x = .error (.errCtx msg ann)) :
    ∃ segs label, (segs, label) ∈ segsDT dt md ∧ ann = [("data_type", label), ("field", render path segs)] ∧
      render path segs ∈ blameDT ext path dt n md x := by
  have hat : At path dt n md b :=
    ⟨b0, h0, foldlM_push_takeRest ext rows b0 b hb⟩
  obtain ⟨p, hp, hf⟩ := push_bl ext x hraw b path dt n md ⟨hwf, hnd, hshape, htot⟩ hat hcap msg ann h
  rcases push_error_in_schema ext dt path n md b0 h0 rows b hb x _ h with ⟨s, hs⟩ | ⟨msg', segs, label, hmem, he⟩
  · cases hs
  · cases he
    refine ⟨segs, label, hmem, rfl, ?_⟩
    have : render path segs = p := by simpa [List.lookup] using hf
    rw [this]; exact hp

/-- the same at the record level (`to_marrow` / `ArrayBuilder::push`): `$`-rooted paths, `Spec.blameRow` -/
theorem C18_ser_blame_record (ext : Ext) [ExtPlain ext] (fields : List Field) (root0 : B)
    (h0 : newRoot fields = .ok root0) (rows : List SVal) (root : B) (hb : rows.foldlM (push ext) root0 = .ok root)
    (x : SVal) (hwf : WFH root) (hnd : NoDictKey root)
    (hshape : Shape root (.struct (Fields.ofList fields)) false [])
    (htot : total (.struct (Fields.ofList fields)) false [] = true) (hraw : noRaw x = true) (hcap : NoCap ext root x)
    (msg : String) (ann : List (String × String)) (h : push ext root x = .error (.errCtx msg ann)) :
    ∃ segs label, (segs, label) ∈ segsDT (.struct (Fields.ofList fields)) [] ∧
      ann = [("data_type", label), ("field", render "$" segs)] ∧ render "$" segs ∈ blameRow ext fields x :=
  C18_ser_blame ext (.struct (Fields.ofList fields)) "$" false [] root0 (by simpa [newRoot, newDT] using h0) rows root hb
    x hwf hnd hshape htot hraw hcap msg ann h

/-- **C18_ser_blame_raw** (the one step beyond `noRaw`): the value is a WELL-FORMED raw stream of `serialize_key` /
`serialize_value` calls (`isAlternating ops`: what serde's default `serialize_entry` issues) whose keys and values carry
no further raw streams.  For the builders, for `Spec.interpDT` and for `Spec.blameDT` such a stream IS the map of its
entries (`push_mapRaw_alt`, `interpDT_mapRaw_alt`, `blameDT_mapRaw_alt`; a struct builder must have fewer than
`usize::MAX` fields, so that a field index is never the `UNKNOWN_KEY` marker), hence `C18_ser_blame` applies; the capacity
hypothesis is stated for the entries (`vsize (.mapRaw _)` does not measure them).  Malformed streams have no meaning
(`blameDT = []`, C16) and are outside; so are raw streams nested below the top-level value. -/
theorem C18_ser_blame_raw (ext : Ext) [ExtPlain ext] (dt : DataType) (path : String) (n : Bool) (md : Metadata)
    (b0 : B) (h0 : newDT path dt n md = .ok b0) (rows : List SVal) (b : B) (hb : rows.foldlM (push ext) b0 = .ok b)
    (ops : SMapOps) (halt : isAlternating ops = true)
    (hwf : WFH b) (hnd : NoDictKey b) (hshape : Shape b dt n md) (htot : total dt n md = true)
    (hraw : noRawe (toEntries ops) = true) (hcap : NoCap ext b (.map (toEntries ops)))
    (hbig : ∀ p len v fs c nx sn, b = .struct p len v fs c nx sn → fs.length ≤ UNKNOWN_KEY)
    (msg : String) (ann : List (String × String)) (h : push ext b (.mapRaw ops) = .error (.errCtx msg ann)) :
    ∃ segs label, (segs, label) ∈ segsDT dt md ∧ ann = [("data_type", label), ("field", render path segs)] ∧
      render path segs ∈ blameDT ext path dt n md (.mapRaw ops) := by
  rw [push_mapRaw_alt ext b ops halt hbig] at h
  rw [blameDT_mapRaw_alt ext path dt n md ops halt]
  exact C18_ser_blame ext dt path n md b0 h0 rows b hb (.map (toEntries ops)) hwf hnd hshape htot
    (by simpa [noRaw] using hraw) hcap msg ann h

def exSchema : List Field :=
  [.mk "orders" (.list (.mk "element" (.struct (.cons (.mk "price" .int32 false []) (.cons (.mk "note" .utf8 true []) .nil))) false [])) false []]

/-- second order: a string where the price should be -/
def exRowLeaf : SVal := .record "R" (.cons "orders" 0 (.seq (.cons (.record "O" (.cons "price" 0 (.int .i32 6) .nil))
  (.cons (.record "O" (.cons "price" 0 (.str "seven") .nil)) .nil))) .nil)

/-- second order: no price at all (the struct `element` fails itself) -/
def exRowMissing : SVal := .record "R" (.cons "orders" 0 (.seq (.cons (.record "O" (.cons "price" 0 (.int .i32 6) .nil))
  (.cons (.record "O" (.cons "note" 1 (.str "n") .nil)) .nil))) .nil)

/-- the specification blames exactly the leaf / exactly the element struct, and that is what the builders name; the
rows carry no raw streams and fit -/
example :
    blameRow {} exSchema exRowLeaf = ["$.orders.element.price"] ∧
    (do let root ← newRoot exSchema; push {} root exRowLeaf) =
      .error (.errCtx "serialize_str is not supported" [("data_type", "Int32"), ("field", "$.orders.element.price")]) ∧
    blameRow {} exSchema exRowMissing = ["$.orders.element"] ∧
    (do let root ← newRoot exSchema; push {} root exRowMissing) =
      .error (.errCtx "Missing non-nullable field price in struct" [("data_type", "Struct(..)"), ("field", "$.orders.element")]) ∧
    noRaw exRowLeaf = true ∧ noRaw exRowMissing = true ∧
    total (.struct (Fields.ofList exSchema)) false [] = true ∧ exSchema.all coveredF = true :=
  ⟨by decide +kernel, by decide +kernel, by decide +kernel, by decide +kernel, by decide, by decide, by decide, by decide⟩

/-! ### non-vacuity for tuples, maps, tuple / struct variants -/

def exSchema2 : List Field :=
  [.mk "a" .int32 false [],
   .mk "m" (.map (.mk "entries" (.struct (.cons (.mk "key" .utf8 false []) (.cons (.mk "value" .int8 false []) .nil))) false []) false) true []]

def exSchema3 : List Field :=
  [.mk "a" .int32 false [],
   .mk "u" (.union (.cons 0 (.mk "A" (.struct (.cons (.mk "x" .int32 false []) (.cons (.mk "y" .utf8 true []) .nil))) false [])
      (.cons 1 (.mk "B" (.list (.mk "element" .int32 false [])) false []) .nil)) .dense) true []]

/-- the row as a tuple: the second element (the map column `m`) is a map whose value 300 does not fit `Int8` -/
def exRowTupleMap : SVal := .tuple (.cons (.int .i32 1) (.cons (.map (.cons (.str "k") (.int .i32 300) .nil)) .nil))

/-- the row as a tuple struct that stops before the required first field -/
def exRowTupleShort : SVal := .tupleStruct "R" .nil

/-- the row as a map with a key that is not a string: the root struct's own failure -/
def exRowMapKey : SVal := .map (.cons (.int .i32 7) (.int .i32 1) .nil)

/-- the row as a map; `u` receives the struct variant `A { y: "t" }` that lacks the required `x` -/
def exRowStructVariant : SVal := .map (.cons (.str "a") (.int .i32 1)
  (.cons (.str "u") (.structVariant "E" 0 "A" (.cons "y" 0 (.str "t") .nil)) .nil))

/-- `u` receives the tuple variant `A("s")`: `x: Int32` refuses a string, two builders below the union -/
def exRowTupleVariant : SVal := .record "R" (.cons "a" 0 (.int .i32 1)
  (.cons "u" 1 (.tupleVariant "E" 0 "A" (.cons (.str "s") .nil)) .nil))

example :
    blameRow {} exSchema2 exRowTupleMap = ["$.m.entries.value"] ∧
    (do let root ← newRoot exSchema2; push {} root exRowTupleMap) =
      .error (.errCtx "out of range integral type conversion attempted" [("data_type", "Int8"), ("field", "$.m.entries.value")]) ∧
    blameRow {} exSchema2 exRowTupleShort = ["$"] ∧
    (do let root ← newRoot exSchema2; push {} root exRowTupleShort) =
      .error (.errCtx "Missing non-nullable field a in struct" [("data_type", "Struct(..)"), ("field", "$")]) ∧
    blameRow {} exSchema2 exRowMapKey = ["$"] ∧
    (do let root ← newRoot exSchema2; push {} root exRowMapKey) =
      .error (.errCtx "serialize_i32 is not supported" [("data_type", "Struct(..)"), ("field", "$")]) ∧
    blameRow {} exSchema3 exRowStructVariant = ["$.u.A"] ∧
    (do let root ← newRoot exSchema3; push {} root exRowStructVariant) =
      .error (.errCtx "Missing non-nullable field x in struct" [("data_type", "Struct(..)"), ("field", "$.u.A")]) ∧
    blameRow {} exSchema3 exRowTupleVariant = ["$.u.A.x"] ∧
    (do let root ← newRoot exSchema3; push {} root exRowTupleVariant) =
      .error (.errCtx "serialize_str is not supported" [("data_type", "Int32"), ("field", "$.u.A.x")]) ∧
    noRaw exRowTupleMap = true ∧ noRaw exRowTupleShort = true ∧ noRaw exRowMapKey = true ∧
    noRaw exRowStructVariant = true ∧ noRaw exRowTupleVariant = true ∧
    total (.struct (Fields.ofList exSchema2)) false [] = true ∧ exSchema2.all coveredF = true ∧
    total (.struct (Fields.ofList exSchema3)) false [] = true ∧ exSchema3.all coveredF = true :=
  ⟨by decide +kernel, by decide +kernel, by decide +kernel, by decide +kernel, by decide +kernel, by decide +kernel,
   by decide +kernel, by decide +kernel, by decide +kernel, by decide +kernel,
   by decide, by decide, by decide, by decide, by decide, by decide, by decide, by decide, by decide⟩

/-- non-vacuity of `C18_ser_blame_raw`: the row as a raw stream `key "a", value "s"` — well-formed, `a: Int32` refuses the
string; and a malformed stream (two keys) has no blamed position -/
example :
    isAlternating (.key (.str "a") (.value (.str "s") .nil)) = true ∧
    blameRow {} exSchema2 (.mapRaw (.key (.str "a") (.value (.str "s") .nil))) = ["$.a"] ∧
    (do let root ← newRoot exSchema2; push {} root (.mapRaw (.key (.str "a") (.value (.str "s") .nil)))) =
      .error (.errCtx "serialize_str is not supported" [("data_type", "Int32"), ("field", "$.a")]) ∧
    noRawe (toEntries (.key (.str "a") (.value (.str "s") .nil))) = true ∧
    blameRow {} exSchema2 (.mapRaw (.key (.str "a") (.key (.str "m") .nil))) = [] :=
  ⟨by decide, by decide +kernel, by decide +kernel, by decide, by decide +kernel⟩

/-! ### the cell `tuple_variant_list_cell`: a tuple variant presented to a variant whose column is a LIST -/

/-- `u: Union { B: List<Int32> }` receives the tuple variant `B(1, "x")`.  `Spec.interpDT` reads the payload as a tuple
presented to the variant's column (a list), and so does the crate: `UnionBuilder::serialize_tuple_variant` hands
`serialize_tuple_struct` to the variant's `ListBuilder`, whose element builder refuses the string and is named —
`$.u.B.element` / `Int32`, the innermost field (confirmed on the real crate: corpus case
`corpus/build/c18_tuple_variant_list.jsonl`).  `Spec.blameDT` blames the tuple AT the variant's column, as for a tuple
presented to a list / fixed-size-list column directly.  The answer of the catch-all arm for a tuple variant whose column
is neither a struct nor a list, `[{path}.{variant}, {path}]` = `["$.u.B", "$.u"]`, would name only ANCESTORS of the field
that failed here — the reading the property text rules out ("never … only of an ancestor when a deeper field failed"): third
conjunct. -/
theorem tuple_variant_list_cell :
    blameRow {} exSchema3 (.record "R" (.cons "a" 0 (.int .i32 1)
      (.cons "u" 1 (.tupleVariant "E" 1 "B" (.cons (.int .i32 1) (.cons (.str "x") .nil))) .nil))) = ["$.u.B.element"] ∧
    (do let root ← newRoot exSchema3
        push {} root (.record "R" (.cons "a" 0 (.int .i32 1)
          (.cons "u" 1 (.tupleVariant "E" 1 "B" (.cons (.int .i32 1) (.cons (.str "x") .nil))) .nil)))) =
      .error (.errCtx "serialize_str is not supported" [("data_type", "Int32"), ("field", "$.u.B.element")]) ∧
    "$.u.B.element" ∉ ["$.u.B", "$.u"] :=
  ⟨by decide +kernel, by decide +kernel, by decide⟩

/-! ### capacity errors (outside `blameDT`: the mapping is defined) are reported by the builder that owns the counter -/

/-- the row of a builder that owns an offsets vector whose last offset is `l`: marking the row valid and duplicating the
last offset cannot fail, and nothing fails after the loop, so a plain error of the row is the loop's -/
theorem offsets_row_plain {α β} {v : Validity} {offs : List Int} {l : Int} (hlast : offs.getLast? = some l)
    {loop : List Int → R α} {k : Validity → α → R β} {msg : String}
    (h : (do let v' ← setValidity v (offs.length - 1) true
             let offs' ← duplicateLast offs
             let r ← loop offs'
             k v' r) = .error (.err msg))
    (hk : ∀ v' r m, k v' r ≠ .error (.err m)) : loop (offs ++ [l]) = .error (.err msg) := by
  obtain ⟨v', hv'⟩ := setValidity_true_total v (offs.length - 1)
  simp only [hv', duplicateLast_total hlast, bind, Except.bind] at h
  cases hl : loop (offs ++ [l]) with
  | ok r => rw [hl] at h; exact absurd h (hk _ _ _)
  | error e => rw [hl] at h; simpa using h

def isFlatOwner : B → Bool
  | .bytes _ _ _ _ _ | .bytesView _ _ _ _ _ => true
  | _ => false

/-- the scalar calls (`serialize_unit_struct` is not one of them: with repo fix ae2fc46 its default forwards to
`serialize_unit`, the null path — `pushNone`, which touches no capacity-limited counter) -/
def isScalarCall : SVal → Bool
  | .bool _ | .int _ _ | .f32 _ | .f64 _ | .char _ | .str _ | .bytes _ => true
  | _ => false

/-- **C18_capacity_blame.**
(1) List builders (`List` / `LargeList`), the owners of an offsets vector: on a sequence (any of the three sequence
calls) the list builder's OWN code — `callBody`, the body without its `.ctx(self)` — fails only with `offset overflow`,
only when the last offset plus the number of elements really exceeds the offset type's maximum, and then the error is
annotated with the list's own path and label (never with the child's, never with an ancestor's).  With
`push_error_deepest` (every annotated error is the own failure of some builder of the subtree) this locates every offset
overflow of a list at the list.
(2) The flat owners of a capacity-limited counter — `Utf8` / `Binary` builders (data offsets), view builders (lengths
and buffer offsets beyond `i32::MAX`) — annotate EVERY error of a scalar call with their own path and label.
(3) Map builders, the other owners of an offsets vector: on a map (`serialize_map` + entries + `end`) the map builder's
own code fails only with `offset overflow`, only when the last offset plus the number of entries really exceeds
`i32::MAX`, and then the error is annotated with the map's own path and `Map(..)` — not with the keys' / values' /
entries' position.
(4) `ListBuilder::serialize_bytes` (every byte an element): the same as (1) with the number of bytes.
(5) Dictionary builders (the key and the value child are the innermost fields being processed while the dictionary
builder feeds them).  An annotated error of a scalar call on a dictionary builder is
  * the dictionary's own — `{p}` / `Dictionary(..)` — exactly for a call without a string form (its own code refuses it), or
  * for a call with the string form `s`: the error of `self.values.serialize_str(s)`, with the annotation the VALUE
    builder's wrapper (or a builder below it) gave it — a string the value type cannot take, the value builder's
    capacity —, or the error of `idx.serialize(Mut(self.indices))`, with the annotation of the KEY builder's wrapper;
  and the key builder `build_builder` constructs (an integer leaf of type `t` at `{p}.key`) fails on the index `i` only
  with `out of range integral type conversion attempted`, only when `i` is outside the key type's range (more distinct
  values than the key type holds), under `{p}.key` and the key type's label — what the crate does
  (`Dictionary(Int8, Utf8)`, 200 distinct strings: `field: "$.d.key"`, `data_type: "Int8"`). -/
theorem C18_capacity_blame (ext : Ext) [ExtPlain ext] :
    (∀ (p : String) (large : Bool) (fm : FieldMeta) (v : Validity) (offs : List Int) (el : B) (xs : SVals) (x : SVal)
      (msg : String), x = .seq xs ∨ x = .tuple xs ∨ (∃ nm, x = .tupleStruct nm xs) → WFH (.list p large fm v offs el) →
      callBody ext (.list p large fm v offs el) (.val x) = .error (.err msg) →
      msg = "offset overflow" ∧ ((dec el).length : Int) + xs.length > offMax large ∧
      push ext (.list p large fm v offs el) x =
        .error (.errCtx "offset overflow" [("data_type", if large then "LargeList" else "List"), ("field", p)])) ∧
    (∀ (b : B) (x : SVal) (msg : String) (ann : List (String × String)), isFlatOwner b = true → isScalarCall x = true →
      push ext b x = .error (.errCtx msg ann) → ann = [("data_type", b.label), ("field", b.path)]) ∧
    (∀ (p : String) (mm : MapMeta) (v : Validity) (offs : List Int) (ks vs : B) (es : SEntries) (msg : String),
      WFH (.map p mm v offs ks vs) → callBody ext (.map p mm v offs ks vs) (.val (.map es)) = .error (.err msg) →
      msg = "offset overflow" ∧ ((dec ks).length : Int) + elen es > offMax false ∧
      push ext (.map p mm v offs ks vs) (.map es) =
        .error (.errCtx "offset overflow" [("data_type", "Map(..)"), ("field", p)])) ∧
    (∀ (p : String) (large : Bool) (fm : FieldMeta) (v : Validity) (offs : List Int) (el : B) (bs : Bytes) (msg : String),
      WFH (.list p large fm v offs el) → callBody ext (.list p large fm v offs el) (.val (.bytes bs)) = .error (.err msg) →
      msg = "offset overflow" ∧ ((dec el).length : Int) + bs.length > offMax large ∧
      push ext (.list p large fm v offs el) (.bytes bs) =
        .error (.errCtx "offset overflow" [("data_type", if large then "LargeList" else "List"), ("field", p)])) ∧
    ((∀ (p : String) (idx vals : B) (index : List String) (x : SVal) (msg : String) (ann : List (String × String)),
      isScalarCall x = true → push ext (.dictionary p idx vals index) x = .error (.errCtx msg ann) →
      (scalarToString ext x = none ∧ ann = [("data_type", "Dictionary(..)"), ("field", p)]) ∨
      (∃ s, scalarToString ext x = some s ∧
        (ctx vals.ann (pushScalar ext vals (.str s)) = .error (.errCtx msg ann) ∨
         ∃ i : Nat, i ≤ index.length ∧ ctx idx.ann (pushScalar ext idx (.int .u64 i)) = .error (.errCtx msg ann)))) ∧
     (∀ (kp : String) (t : IntTy) (v : Validity) (ivals : List Int) (i : Nat) (msg : String) (ann : List (String × String)),
      ctx (B.leaf kp (.int t) v ivals).ann (pushScalar ext (.leaf kp (.int t) v ivals) (.int .u64 i)) = .error (.errCtx msg ann) →
      msg = "out of range integral type conversion attempted" ∧ t.inRange i = false ∧
      ann = [("data_type", (B.leaf kp (.int t) v ivals).label), ("field", kp)])) := by
  refine ⟨?_, ?_, ?_, ?_, ?_, ?_⟩
  · intro p large fm v offs el xs x msg hx hw hbody
    have hw' := hw
    simp only [WFH] at hw'
    have hlast := hw'.1.2.1
    have key : ∀ k, seqLikeWith (fun large el offs => pushElems ext large el offs xs) (fun el c => pushCountElems ext el c xs)
        (fun s => pushTupleElems ext s xs) (u8All xs) (.list p large fm v offs el) k = .error (.err msg) →
        msg = "offset overflow" ∧ ((dec el).length : Int) + xs.length > offMax large := fun k hk =>
      pushElems_plain ext large xs el _ _ msg (by simp) (by omega)
        (offsets_row_plain hlast hk fun _ r _ h => by obtain ⟨_, _⟩ := r; cases h)
    have hres : msg = "offset overflow" ∧ ((dec el).length : Int) + xs.length > offMax large := by
      rcases hx with rfl | rfl | ⟨nm, rfl⟩
      · exact key .seq (by simpa [callBody, valBody] using hbody)
      · exact key .tuple (by simpa [callBody, valBody] using hbody)
      · exact key .tupleStruct (by simpa [callBody, valBody] using hbody)
    refine ⟨hres.1, hres.2, ?_⟩
    obtain ⟨rfl, _⟩ := hres
    have hne : ∀ v', x ≠ .some v' := by rcases hx with rfl | rfl | ⟨nm, rfl⟩ <;> (intro v' h; cases h)
    have hnn : ∀ n' v', x ≠ .newtypeStruct n' v' := by rcases hx with rfl | rfl | ⟨nm, rfl⟩ <;> (intro n' v' h; cases h)
    rw [own_failure_blames_self ext _ x _ hne hnn hbody]
    rfl
  · intro b x msg ann hb hx h
    have hform : push ext b x = ctx b.ann (pushScalar ext b x) := by
      cases x <;> simp [isScalarCall] at hx
      case bytes bs => cases b <;> simp [isFlatOwner] at hb <;> (unfold push; rfl)
      all_goals (unfold push; rfl)
    rw [hform, ctx_eq_errCtx rfl] at h
    rcases h with h | ⟨_, rfl⟩
    · have hnd : b.isDict = false := by cases b <;> first | rfl | simp [isFlatOwner] at hb
      exact absurd h ((pushScalar_noctx ext b x hnd).out msg ann)
    · rfl
  · intro p mm v offs ks vs es msg hw hbody
    have hw' := hw
    simp only [WFH] at hw'
    have hlast := hw'.1.2.1
    have hres : msg = "offset overflow" ∧ ((dec ks).length : Int) + elen es > offMax false :=
      pushMapEntries_plain ext es _ ks vs _ msg (by simp) (by omega)
        (offsets_row_plain hlast hbody fun _ r _ h => by obtain ⟨_, _, _⟩ := r; cases h)
    refine ⟨hres.1, hres.2, ?_⟩
    obtain ⟨rfl, _⟩ := hres
    rw [own_failure_blames_self ext _ (.map es) _ (by intro v' h; cases h) (by intro n' v' h; cases h) hbody]
    rfl
  · intro p large fm v offs el bs msg hw hbody
    have hw' := hw
    simp only [WFH] at hw'
    have hlast := hw'.1.2.1
    have hres : msg = "offset overflow" ∧ ((dec el).length : Int) + bs.length > offMax large :=
      pushByteElems_plain ext large bs el _ _ msg (by simp) (by omega)
        (offsets_row_plain hlast hbody fun _ r _ h => by obtain ⟨_, _⟩ := r; cases h)
    refine ⟨hres.1, hres.2, ?_⟩
    obtain ⟨rfl, _⟩ := hres
    rw [own_failure_blames_self ext _ (.bytes bs) _ (by intro v' h; cases h) (by intro n' v' h; cases h) hbody]
    rfl
  · intro p idx vals index x msg ann hx h
    have hform : push ext (.dictionary p idx vals index) x =
        ctx (B.dictionary p idx vals index).ann (pushScalar ext (.dictionary p idx vals index) x) := by
      cases x <;> simp [isScalarCall] at hx <;> (unfold push; rfl)
    rw [hform, ctx_eq_errCtx rfl] at h
    unfold pushScalar at h
    simp only at h
    -- the children's wrappers return no plain error, so a plain error of the body is its own refusal
    have hkey : ∀ i : Int, ∀ m, ctx idx.ann (pushScalar ext idx (.int .u64 i)) ≠ .error (.err m) := fun i m =>
      ctx_never_plain rfl _ _
    cases hs : scalarToString ext x with
    | none =>
      rw [hs] at h
      rcases h with h | ⟨_, rfl⟩
      · cases h
      · exact .inl ⟨rfl, rfl⟩
    | some s =>
      refine .inr ⟨s, rfl, ?_⟩
      simp only [hs] at h
      cases hix : indexOfName index s with
      | some i =>
        simp only [hix] at h
        rcases h with h | ⟨h, _⟩
        · rcases bind_eq_errCtx.1 h with h | ⟨_, _, h⟩
          · exact .inr ⟨i, Nat.le_of_lt (Build.indexOfName_lt hix), h⟩
          · cases h
        · rcases bind_err_plain h with h | ⟨_, _, h⟩
          · exact absurd h (hkey _ _)
          · cases h
      | none =>
        simp only [hix] at h
        rcases h with h | ⟨h, _⟩
        · rcases bind_eq_errCtx.1 h with h | ⟨_, _, h⟩
          · exact .inl h
          · rcases bind_eq_errCtx.1 h with h | ⟨_, _, h⟩
            · exact .inr ⟨index.length, Nat.le_refl _, h⟩
            · cases h
        · rcases bind_err_plain h with h | ⟨_, _, h⟩
          · exact absurd h (ctx_never_plain rfl _ _)
          · rcases bind_err_plain h with h | ⟨_, _, h⟩
            · exact absurd h (hkey _ _)
            · cases h
  · intro kp t v ivals i msg ann h
    obtain ⟨v', hv'⟩ := setValidity_true_total v ivals.length
    simp only [pushScalar, convLeaf, tryInto] at h
    by_cases hr : t.inRange (i : Int) = true
    · simp [hr, hv', bind, Except.bind, pure, Except.pure, SaModel.ctx] at h
    · simp only [hr, Bool.false_eq_true, if_false, SaModel.fail, bind, Except.bind, SaModel.ctx, B.ann] at h
      simp at h
      exact ⟨h.1.symm, by simpa using hr, h.2.symm⟩

/-- non-vacuity of (5), the dictionary key range: `Dictionary(Int8, Utf8)` holding 128 values refuses the 129th; the
error is the KEY builder's, `$.d.key` / `Int8` — the key child is the innermost field being processed (what the crate
reports: `saharness build`, 200 distinct strings into `Dictionary(Int8, Utf8)`; corpus/build/c18_dict_children.jsonl) -/
example :
    push {} (.dictionary "$.d" (.leaf "$.d.key" (.int .i8) none []) (.bytes "$.d.value" .utf8 none [0] [])
      ((List.range 128).map toString)) (.str "x") =
    .error (.errCtx "out of range integral type conversion attempted" [("data_type", "Int8"), ("field", "$.d.key")]) := by
  decide +kernel

/-- non-vacuity of (5), the value child: `Dictionary(Int8, Int32)` receives `"5"` — `serialize_str is not supported`
under `$.d.value` / `Int32`; `Dictionary(Int16, Date32)` (the default `Ext` parses nothing: message `ext`) receives `"x"` — the parse
error under `$.d.value` / `Date32`; a call without a string form (`serialize_bytes`) is the dictionary's own -/
example :
    push {} (.dictionary "$.d" (.leaf "$.d.key" (.int .i8) none []) (.leaf "$.d.value" (.int .i32) none []) []) (.str "5") =
      .error (.errCtx "serialize_str is not supported" [("data_type", "Int32"), ("field", "$.d.value")]) ∧
    push {} (.dictionary "$.d" (.leaf "$.d.key" (.int .i16) none []) (.leaf "$.d.value" .date32 none []) []) (.str "x") =
      .error (.errCtx "ext" [("data_type", "Date32"), ("field", "$.d.value")]) ∧
    push {} (.dictionary "$.d" (.leaf "$.d.key" (.int .i8) none []) (.leaf "$.d.value" (.int .i32) none []) []) (.bytes [1]) =
      .error (.errCtx "serialize_bytes is not supported" [("data_type", "Dictionary(..)"), ("field", "$.d")]) :=
  ⟨by decide +kernel, by decide +kernel, by decide +kernel⟩

/-- the mechanism of (3): a map builder whose last offset is `i32::MAX` refuses the next entry itself — `$.m` / `Map(..)`,
not `$.m.entries` or the key column (the state is written down directly: a reachable one holds 2^31 − 1 entries) -/
example :
    push {} (.map "$.m" ⟨"entries", false, ⟨"key", false, []⟩, ⟨"value", false, []⟩⟩ none [2147483647]
      (.bytes "$.m.entries.key" .utf8 none [0] []) (.leaf "$.m.entries.value" (.int .i32) none []))
      (.map (.cons (.str "k") (.int .i32 1) .nil)) =
    .error (.errCtx "offset overflow" [("data_type", "Map(..)"), ("field", "$.m")]) := by
  decide +kernel

/-! ### `None` into a non-nullable dictionary column (repo fix ca6f255) -/

/-- **Repaired** (`dict_null_repaired`): `d: Dictionary(Int8, Utf8)`, not nullable, receives `None`.  `Spec.blameDT`
blames the column `$.d` (the documented mapping has no null for this FIELD), and so does the crate:
`DictionaryUtf8Builder::serialize_none` checks the nullability of its key builder and raises the error itself, under
the dictionary's own path and type (a null is a value of the dictionary FIELD — nullability is a property of `d`; no
child has been handed anything when the dictionary builder's own code refuses it).  The row is inside every hypothesis
of `C18_ser_blame_record`. -/
theorem dict_null_repaired :
    blameRow {} [.mk "d" (.dictionary .int8 .utf8) false []] (.record "R" (.cons "d" 0 .none .nil)) = ["$.d"] ∧
    (do let root ← newRoot [.mk "d" (.dictionary .int8 .utf8) false []]
        push {} root (.record "R" (.cons "d" 0 .none .nil))) =
      .error (.errCtx "Cannot push null for non-nullable array" [("data_type", "Dictionary(..)"), ("field", "$.d")]) ∧
    noRaw (.record "R" (.cons "d" 0 .none .nil)) = true ∧
    total (.struct (Fields.ofList [.mk "d" (.dictionary .int8 .utf8) false []])) false [] = true :=
  ⟨by decide +kernel, by decide +kernel, by decide, by decide⟩

/-- **Pinned** (`dict_null_cell_pinned`): before ca6f255 `DictionaryUtf8Builder::serialize_none` was
`try_(|| self.indices.serialize_none().ctx(self)).ctx(self)`: the key builder's `IntBuilder::serialize_none` refuses
and annotates first, both `.ctx(self)` of the dictionary are no-ops, and the error named `$.d.key` / `Int8` — a
position the specification does not blame for a null (the null is refused for the FIELD `d`; contrast
`dict_value_child`: a string is handed to the value child, an index to the key child). -/
theorem dict_null_cell_pinned :
    (ctx (B.dictionary "$.d" (.leaf "$.d.key" (.int .i8) none []) (.bytes "$.d.value" .utf8 none [0] []) []).ann
      (ctx (B.dictionary "$.d" (.leaf "$.d.key" (.int .i8) none []) (.bytes "$.d.value" .utf8 none [0] []) []).ann
        (pushNone (.leaf "$.d.key" (.int .i8) none []))) : R B) =
      .error (.errCtx "Cannot push null for non-nullable array" [("data_type", "Int8"), ("field", "$.d.key")]) ∧
    "$.d.key" ∉ blameRow {} [.mk "d" (.dictionary .int8 .utf8) false []] (.record "R" (.cons "d" 0 .none .nil)) :=
  ⟨by decide +kernel, by decide +kernel⟩

/-! ### the value child of a dictionary column

C18 lists `dictionary` among the kinds of parent of the innermost failing field: while the dictionary builder hands a
string to its value builder, the value child `{p}.value` is the innermost field being processed.  `{p}` /
`Dictionary(..)` would be an ANCESTOR of the failing field: `Spec.blameDT` and the dictionary arm of `Build.pushScalar`
answer `{p}.value`, as the crate does. -/

/-- `d: Dictionary(Int8, Int32)` receives `"5"`: the value type takes no strings.  Specification and model (and the
crate: `field: "$.d.value"`, `data_type: "Int32"`) name the value child; the row is inside every hypothesis of
`C18_ser_blame_record` (`Int32` value builder: `B.refusesStr`, inside `Shape`). -/
theorem dict_value_child :
    blameRow {} [.mk "d" (.dictionary .int8 .int32) false []] (.record "R" (.cons "d" 0 (.str "5") .nil)) = ["$.d.value"] ∧
    (do let root ← newRoot [.mk "d" (.dictionary .int8 .int32) false []]
        push {} root (.record "R" (.cons "d" 0 (.str "5") .nil))) =
      .error (.errCtx "serialize_str is not supported" [("data_type", "Int32"), ("field", "$.d.value")]) ∧
    (["value"], "Int32") ∈ segsDT (.dictionary .int8 .int32) [] ∧
    noRaw (.record "R" (.cons "d" 0 (.str "5") .nil)) = true ∧
    total (.struct (Fields.ofList [.mk "d" (.dictionary .int8 .int32) false []])) false [] = true ∧
    "$.d" ∉ blameRow {} [.mk "d" (.dictionary .int8 .int32) false []] (.record "R" (.cons "d" 0 (.str "5") .nil)) :=
  ⟨by decide +kernel, by decide +kernel, by decide +kernel, by decide, by decide, by decide +kernel⟩

/-- outside `Shape` (the value builder parses strings: `C18_ser_blame` does not cover it, the run-time predicate does):
`d: Dictionary(Int16, Date32)` receives `"x"` — the specification blames the value child, the model reports the parse
error there; a NESTED dictionary hands the string on: `Dictionary(Int8, Dictionary(Int8, Int32))` blames
`$.d.value.value`; a unit variant's name is a string too; a call without a string form is the dictionary's own. -/
theorem dict_value_child_more :
    blameRow {} [.mk "d" (.dictionary .int16 .date32) false []] (.record "R" (.cons "d" 0 (.str "x") .nil)) = ["$.d.value"] ∧
    (do let root ← newRoot [.mk "d" (.dictionary .int16 .date32) false []]
        push {} root (.record "R" (.cons "d" 0 (.str "x") .nil))) =
      .error (.errCtx "ext" [("data_type", "Date32"), ("field", "$.d.value")]) ∧
    blameRow {} [.mk "d" (.dictionary .int8 (.dictionary .int8 .int32)) false []] (.record "R" (.cons "d" 0 (.int .i32 7) .nil)) =
      ["$.d.value.value"] ∧
    (do let root ← newRoot [.mk "d" (.dictionary .int8 (.dictionary .int8 .int32)) false []]
        push {} root (.record "R" (.cons "d" 0 (.int .i32 7) .nil))) =
      .error (.errCtx "serialize_str is not supported" [("data_type", "Int32"), ("field", "$.d.value.value")]) ∧
    blameRow {} [.mk "d" (.dictionary .int8 .int32) false []] (.record "R" (.cons "d" 0 (.unitVariant "E" 0 "A") .nil)) =
      ["$.d.value"] ∧
    blameRow {} [.mk "d" (.dictionary .int8 .int32) false []] (.record "R" (.cons "d" 0 (.bytes [1]) .nil)) = ["$.d"] ∧
    (do let root ← newRoot [.mk "d" (.dictionary .int8 .int32) false []]
        push {} root (.record "R" (.cons "d" 0 (.bytes [1]) .nil))) =
      .error (.errCtx "serialize_bytes is not supported" [("data_type", "Dictionary(..)"), ("field", "$.d")]) :=
  ⟨by decide +kernel, by decide +kernel, by decide +kernel, by decide +kernel, by decide +kernel, by decide +kernel,
    by decide +kernel⟩

/-! ### non-vacuity OUTSIDE `Safe`

The schema `Props.C01.exUnsafeFields` = `{s: Struct{d: Dictionary(UInt8, Utf8)}?}` (a dictionary with NON-nullable keys below
a nullable struct, `C01.exUnsafe_not_safe`), after the record `s = None`: the dictionary below the null holds the placeholder
key 0 and no value — a state that violates the strict invariant (`C01.exUnsafeAfter1_not_WFB`) and satisfies the weak one.
The next record gives the non-nullable dictionary field a `None`. -/

def exRowDictNone : SVal := .record "R" (.cons "s" 0 (.some (.record "S" (.cons "d" 0 .none .nil))) .nil)

/-- `C18_ser_blame_record` applies on that state with every hypothesis discharged … -/
example : ∀ msg ann, push {} C01.exUnsafeAfter1 exRowDictNone = .error (.errCtx msg ann) →
    ∃ segs label, (segs, label) ∈ segsDT (.struct (Fields.ofList C01.exUnsafeFields)) [] ∧
      ann = [("data_type", label), ("field", render "$" segs)] ∧
      render "$" segs ∈ blameRow {} C01.exUnsafeFields exRowDictNone := by
  intro msg ann h
  obtain ⟨hw, hn, _, _, ht, _⟩ := Build.runRows_rowsH {} C01.exUnsafeFields (C01.exUnsafeRows.take 1) _ _
    C01.exUnsafeNewRoot_eq C01.exUnsafeAfter1_run
  have hsh : Shape C01.exUnsafeAfter1 (.struct (Fields.ofList C01.exUnsafeFields)) false [] :=
    Shape.of_takeRest (ht.trans (newRoot_fresh C01.exUnsafeNewRoot_eq).2.2.symm)
      (newRoot_shape (fields := C01.exUnsafeFields) (by decide) C01.exUnsafeNewRoot_eq)
  exact C18_ser_blame_record {} C01.exUnsafeFields C01.exUnsafeNewRoot C01.exUnsafeNewRoot_eq (C01.exUnsafeRows.take 1)
    C01.exUnsafeAfter1 (by decide +kernel) exRowDictNone hw hn hsh (by decide) (by decide)
    (by unfold NoCap; decide +kernel) msg ann h

/-- … and the push does fail there, under the dictionary column's own path, which is what the specification blames -/
example : push {} C01.exUnsafeAfter1 exRowDictNone =
      .error (.errCtx "Cannot push null for non-nullable array" [("data_type", "Dictionary(..)"), ("field", "$.s.d")]) ∧
    blameRow {} C01.exUnsafeFields exRowDictNone = ["$.s.d"] := by
  constructor <;> decide +kernel

end SaModel.Props.C18
