import SaModel.Props.C04
import SaModel.Props.C01CompleteObs
import SaModel.Lemmas.C04Accept
import SaModel.Props.C03Traced
import SaModel.Props.C03Codec
/-
C04, the acceptance half: **the schema traced from a type accepts every value of that type**.

For a record type of the grammar `fragE` (scalars, `()`, unit structs, Option, newtype structs, Vec, maps, structs,
tuples / tuple structs / arrays, ENUMS with unit / newtype / tuple / struct variants — as Union or, without data under
`enums_without_data_as_strings`, as strings) whose enums have between 1 and 128 variants (`sized`), whatever
`Trace.fromType` returns for it

* is accepted by `ArrayBuilder::new` (`newRoot … = ok`, `newRoot_traced`), and the fresh builder has head room `2^31 - 1`;
* satisfies C01's non-capacity condition `total` (`mappingFields_total`: no UnknownVariant placeholder — `from_type` has
  explored every variant —, unions with 1 … 128 variants whose first variant takes `serialize_default`);
* represents every well-typed value in scope (`C04_interpRow`),

so, by C01's completeness theorem on the weak state invariant (`Props.C01.runRows_complete'`: NO `Safe` hypothesis), every
batch of well-typed values whose explicit size `Σ vsize (ser t v)` stays within `2^31 - 1` is accepted row by row:
`runRows … = ok root` — and `build_arrays` cannot refuse (`Props.C01.toMarrow_complete'`, i.e. `finish_totalH`; its typing
hypothesis `typedFs` holds of every traced schema, `Props.C03.fromType_good`), so `to_marrow` succeeds (`C04_accept_traced`).  `from_type` itself succeeds on every walkable,
mappable type within the pass budget (`C04_fromType_ok`): `C04_accept`, `C04_end_to_end` have no hypothesis about
its result — and none about `ext` (the external float printers / chrono / decimal parsers; no `ExtOK ext`):
a traced schema has no temporal column and the chrono parsers are never consulted
(`toMarrow_refuse_traced`, SaModel/Lemmas/C04Ext*.lean).
-/
namespace SaModel.Props.C04
open SaModel SaModel.Build SaModel.Spec SaModel.Roundtrip

/-- the hypotheses of C01's completeness theorems for the schema of any supported root (`runRows_complete'`,
`toMarrow_complete'`), but for the typing invariant `typedFs`, which comes from `Props.C03.fromType_good` -/
theorem accept_hyps_root (O : Trace.Options) (ext : Ext) (t : Ty) (F : Fields) (vs : List Val) (fields : List Field)
    (hfrag : fragE t = true) (hsz : sized t = true) (hroot : rootCols (viewOpts O) t = some F)
    (hwt : ∀ v ∈ vs, wt t v = true)
    (hsc : ∀ v ∈ vs, inScopeO (viewOpts O) t v = true)
    (hfields : fields = F.toList)
    (hcap : ((vs.map (ser t)).map (vsize ext)).sum ≤ 2147483647) :
    ∃ root0, newRoot fields = .ok root0 ∧ fields.all coveredF = true ∧ totalFs (Fields.ofList fields) = true ∧
      (∀ r ∈ vs.map (ser t), noRaw r = true ∧ ∃ lv, interpRow ext fields r = .ok lv) ∧
      ((vs.map (ser t)).map (vsize ext)).sum ≤ room root0 := by
  have hofl : Fields.ofList fields = F := by rw [hfields]; exact fields_ofList_toList _
  have hside := sideFs_toList F (rootCols_side hroot)
  rw [← hfields] at hside
  obtain ⟨root0, hr0, hroom⟩ := newRoot_root hroot hfrag
  rw [← hfields] at hr0
  refine ⟨root0, hr0, List.all_eq_true.mpr fun f hf => (hside f hf).2, ?_, ?_, ?_⟩
  · rw [hofl]; exact rootCols_total hroot hsz
  · intro r hr
    obtain ⟨v, hv, rfl⟩ := List.mem_map.mp hr
    exact ⟨(ser_ok t v (hwt v hv)).1, lvO (viewOpts O) t v,
      C04_interpRow_root ext (viewOpts O) t F v fields hfrag (hwt v hv) (hsc v hv) hroot hfields⟩
  · rw [hroom]; exact hcap

/-- the hypotheses of C01's completeness theorems (`runRows_complete'`, `toMarrow_complete'`) for the schema traced from a
record type of the grammar and a batch of well-typed values in scope within the capacity bound -/
theorem accept_hyps (c : Trace.Code) (O : Trace.Options) (ext : Ext) (n : String) (fs : TFields) (vs : List Val)
    (fields : List Field)
    (h0 : O.overwrites = []) (hfrag : fragE (.struct n fs) = true) (hsz : sized (.struct n fs) = true)
    (hwt : ∀ v ∈ vs, wt (.struct n fs) v = true)
    (hsc : ∀ v ∈ vs, inScopeO (viewOpts O) (.struct n fs) v = true)
    (hft : Trace.fromType c O (toTraceTy (.struct n fs)) = .ok fields)
    (hcap : ((vs.map (ser (.struct n fs))).map (vsize ext)).sum ≤ 2147483647) :
    ∃ root0, newRoot fields = .ok root0 ∧ fields.all coveredF = true ∧ totalFs (Fields.ofList fields) = true ∧
      Lemmas.C03.typedFs (Fields.ofList fields) = true ∧
      (∀ r ∈ vs.map (ser (.struct n fs)), noRaw r = true ∧ ∃ lv, interpRow ext fields r = .ok lv) ∧
      ((vs.map (ser (.struct n fs))).map (vsize ext)).sum ≤ room root0 := by
  obtain ⟨root0, hr0, hc, htot, hrows, hroom⟩ := accept_hyps_root O ext _ _ vs fields hfrag hsz (rootCols_struct _ n fs) hwt hsc
    (C04_fromType_fields c O h0 n fs fields hft) hcap
  exact ⟨root0, hr0, hc, htot, (Props.C03.fromType_good c O _ fields (by rw [h0]; intro kv hkv; cases hkv) hft).2, hrows, hroom⟩

/-- **Acceptance, row by row.**  `t = struct n fs` in `fragE`, enums with 1 … 128 variants, any tracing options without
overwrites, any batch of well-typed values in scope within the capacity bound: every `push` succeeds, and `to_marrow` is
`build_arrays` of the final state.  Remaining hypothesis beside the documented ones: `hcap` (explicit capacity bound:
offsets are `i32`).  No `Safe` (no `safeFs …`): `Props.C01.runRows_complete'`. -/
theorem C04_accept_rows (c : Trace.Code) (O : Trace.Options) (ext : Ext) (n : String) (fs : TFields) (vs : List Val)
    (fields : List Field)
    (h0 : O.overwrites = []) (hfrag : fragE (.struct n fs) = true) (hsz : sized (.struct n fs) = true)
    (hwt : ∀ v ∈ vs, wt (.struct n fs) v = true)
    (hsc : ∀ v ∈ vs, inScopeO (viewOpts O) (.struct n fs) v = true)
    (hft : Trace.fromType c O (toTraceTy (.struct n fs)) = .ok fields)
    (hcap : ((vs.map (ser (.struct n fs))).map (vsize ext)).sum ≤ 2147483647) :
    ∃ root, runRows ext fields (vs.map (ser (.struct n fs))) = .ok root ∧
      toMarrow ext fields (vs.map (ser (.struct n fs))) = (do let (arrs, _) ← buildArrays ext root; pure arrs) := by
  obtain ⟨root0, hr0, hc, htot, _, hrows, hroom⟩ := accept_hyps c O ext n fs vs fields h0 hfrag hsz hwt hsc hft hcap
  obtain ⟨root, h⟩ := Props.C01.runRows_complete' ext fields _ root0 hc hr0 htot hrows hroom
  exact ⟨root, h, by rw [Props.C03.toMarrow_eq, h]; rfl⟩

/-- **Acceptance of the traced schema**: `to_marrow` SUCCEEDS on every batch of well-typed values in scope of a record type
of the grammar against the schema `from_type` returned for it (any tracing options without overwrites, enums and
dictionary-encoded strings included — also directly below an `Option<struct>`, `exSafeFalse`; explicit capacity bound).
`build_arrays` cannot refuse (`Props.C01.toMarrow_complete'`: `finish_totalH` on the weak invariant of the final state, the typing invariant `typedFs` of the traced schema by
`Props.C03.fromType_good`). -/
theorem C04_accept_traced (c : Trace.Code) (O : Trace.Options) (ext : Ext) (n : String) (fs : TFields) (vs : List Val)
    (fields : List Field)
    (h0 : O.overwrites = []) (hfrag : fragE (.struct n fs) = true) (hsz : sized (.struct n fs) = true)
    (hwt : ∀ v ∈ vs, wt (.struct n fs) v = true)
    (hsc : ∀ v ∈ vs, inScopeO (viewOpts O) (.struct n fs) v = true)
    (hft : Trace.fromType c O (toTraceTy (.struct n fs)) = .ok fields)
    (hcap : ((vs.map (ser (.struct n fs))).map (vsize ext)).sum ≤ 2147483647) :
    ∃ arrs, toMarrow ext fields (vs.map (ser (.struct n fs))) = .ok arrs := by
  obtain ⟨root0, hr0, hc, htot, htyped, hrows, hroom⟩ := accept_hyps c O ext n fs vs fields h0 hfrag hsz hwt hsc hft hcap
  exact Props.C01.toMarrow_complete' ext fields _ root0 hc hr0 htot htyped hrows hroom

/-- **Acceptance, complete** — no hypothesis about the result of `from_type`: for a record type of the grammar that can be
walked and mapped (the documented preconditions `Spec.walkable`, `mappable`) within the pass budget, `from_type` returns a
schema and `to_marrow` accepts every batch of well-typed values in scope against it.  Remaining hypotheses, all decidable
conditions on type × options or explicit bounds: `sized` (1 … 128 variants), the budget, the capacity bound. -/
theorem C04_accept (c : Trace.Code) (O : Trace.Options) (ext : Ext) (n : String) (fs : TFields) (vs : List Val)
    (h0 : O.overwrites = []) (hfrag : fragE (.struct n fs) = true) (hsz : sized (.struct n fs) = true)
    (hwt : ∀ v ∈ vs, wt (.struct n fs) v = true)
    (hsc : ∀ v ∈ vs, inScopeO (viewOpts O) (.struct n fs) v = true)
    (hw : Trace.Spec.walkable O "$" (toTraceTy (.struct n fs)) = true)
    (hm : mappable (viewOpts O) (.struct n fs) = true)
    (hb : Trace.Spec.passes (toTraceTy (.struct n fs)) ≤ O.from_type_budget)
    (hcap : ((vs.map (ser (.struct n fs))).map (vsize ext)).sum ≤ 2147483647) :
    ∃ fields, Trace.fromType c O (toTraceTy (.struct n fs)) = .ok fields ∧
      ∃ arrs, toMarrow ext fields (vs.map (ser (.struct n fs))) = .ok arrs :=
  ⟨_, C04_fromType_ok c O h0 n fs hw hm hb,
    C04_accept_traced c O ext n fs vs _ h0 hfrag hsz hwt hsc (C04_fromType_ok c O h0 n fs hw hm hb) hcap⟩

/-- the number of records is within the size bound of `C04_physical` whenever the batch is within the capacity bound -/
theorem length_of_cap (ext : Ext) (t : Ty) (vs : List Val)
    (hcap : ((vs.map (ser t)).map (vsize ext)).sum ≤ 2147483647) : vs.length ≤ 9223372036854775807 := by
  have := Build.length_le_vsize_sum ext (vs.map (ser t))
  rw [List.length_map] at this
  omega

/-- **C04 end to end against a traced schema**: serialization against the schema `from_type` returned succeeds, and reading
everything back returns the batch, normalised (`norm` is the identity for `plainOpt` types: `C04_norm_eq_self`).  The
conclusion has no premise about the arrays: `Read.physical` is derived from `hcap` (`C04_physical`).  For EVERY
`ext` (no `ExtOK`: `C04_roundtrip_bulk`). -/
theorem C04_end_to_end_traced (c : Trace.Code) (O : Trace.Options) (ext : Ext) (n : String) (fs : TFields) (vs : List Val)
    (fields : List Field)
    (h0 : O.overwrites = []) (hfrag : fragE (.struct n fs) = true) (hsz : sized (.struct n fs) = true) (hne : fs ≠ .nil)
    (hwt : ∀ v ∈ vs, wt (.struct n fs) v = true)
    (hsc : ∀ v ∈ vs, inScopeO (viewOpts O) (.struct n fs) v = true)
    (hft : Trace.fromType c O (toTraceTy (.struct n fs)) = .ok fields)
    (hcap : ((vs.map (ser (.struct n fs))).map (vsize ext)).sum ≤ 2147483647) :
    ∃ arrs, toMarrow ext fields (vs.map (ser (.struct n fs))) = .ok arrs ∧
      readAll (toTarget (.struct n fs)) fields arrs = .ok (vs.map fun v => dvalOf (.struct n fs) (norm (.struct n fs) v)) := by
  obtain ⟨arrs, htm⟩ := C04_accept_traced c O ext n fs vs fields h0 hfrag hsz hwt hsc hft hcap
  exact ⟨arrs, htm,
    C04_roundtrip_bulk c O ext n fs vs fields arrs h0 hfrag hne hwt hsc (length_of_cap ext _ vs hcap) hft htm⟩

/-- **C04 end to end** — the property itself: for a record type of the grammar (enums included) with at least one field that
can be walked and mapped within the pass budget, `from_type` returns a schema, serializing any batch of well-typed values in
scope against it succeeds, and reading everything back returns the batch, normalised.
NO residual hypothesis, for EVERY `ext`.  `ExtOK ext` (the external chrono parsers return values in range:
asked unconditionally by `Props.C01.C03_wfS'`) is not needed: traced schemas have no temporal column (`mapping_noTemporal`), so the
parsers are never consulted and the run is the same under `refuseExt ext`, whose parsers refuse (`toMarrow_refuse_traced`,
`refuseExt_ok`).  The conclusion has no premise about the arrays (`Read.physical`: the value count of a Dictionary column fits
`i64`): it is derived from `hcap` (`C04_physical`, the builders' counting invariant).
Everything left is a decidable condition on type × options (`fragE`, `sized`, `walkable`, `mappable`;
NO `Safe` / `safeFs`), the documented exclusion `inScopeO` on the values, the pass budget and the capacity bound. -/
theorem C04_end_to_end (c : Trace.Code) (O : Trace.Options) (ext : Ext) (n : String) (fs : TFields) (vs : List Val)
    (h0 : O.overwrites = []) (hfrag : fragE (.struct n fs) = true) (hsz : sized (.struct n fs) = true) (hne : fs ≠ .nil)
    (hwt : ∀ v ∈ vs, wt (.struct n fs) v = true)
    (hsc : ∀ v ∈ vs, inScopeO (viewOpts O) (.struct n fs) v = true)
    (hw : Trace.Spec.walkable O "$" (toTraceTy (.struct n fs)) = true)
    (hm : mappable (viewOpts O) (.struct n fs) = true)
    (hb : Trace.Spec.passes (toTraceTy (.struct n fs)) ≤ O.from_type_budget)
    (hcap : ((vs.map (ser (.struct n fs))).map (vsize ext)).sum ≤ 2147483647) :
    ∃ fields arrs, Trace.fromType c O (toTraceTy (.struct n fs)) = .ok fields ∧
      toMarrow ext fields (vs.map (ser (.struct n fs))) = .ok arrs ∧
      readAll (toTarget (.struct n fs)) fields arrs = .ok (vs.map fun v => dvalOf (.struct n fs) (norm (.struct n fs) v)) := by
  have hft := C04_fromType_ok c O h0 n fs hw hm hb
  obtain ⟨arrs, htm, hread⟩ := C04_end_to_end_traced c O ext n fs vs _ h0 hfrag hsz hne hwt hsc hft hcap
  exact ⟨_, arrs, hft, htm, hread⟩

/-- **C04 end to end at the codec models — every option**: `C04_end_to_end` with the external string parsers instantiated by
the models of C14 (`Props.C16.codecExt`, what the correspondence driver runs) — a direct corollary (the general theorem has no
hypothesis about `ext`; `Props.C03.codecExt_ok`, `ExtOK` of the codec models, is not needed).  For every record type
of the grammar (enums as Unions or — without data, under `enums_without_data_as_strings` — as dictionary-encoded strings; `string_dictionary_encoding`
included) with at least one field that can be walked and mapped within the pass budget, `from_type` returns a schema,
serializing any batch of well-typed values in scope (within the capacity bound) against it succeeds, and reading everything
back returns the batch, normalised.  NO residual hypothesis. -/
theorem C04_end_to_end_codec (f32Str f64Str : Nat → String) (cast : Nat → Int → Bool → Nat → Option (Bool × Int))
    (c : Trace.Code) (O : Trace.Options) (n : String) (fs : TFields) (vs : List Val)
    (h0 : O.overwrites = []) (hfrag : fragE (.struct n fs) = true) (hsz : sized (.struct n fs) = true) (hne : fs ≠ .nil)
    (hwt : ∀ v ∈ vs, wt (.struct n fs) v = true)
    (hsc : ∀ v ∈ vs, inScopeO (viewOpts O) (.struct n fs) v = true)
    (hw : Trace.Spec.walkable O "$" (toTraceTy (.struct n fs)) = true)
    (hm : mappable (viewOpts O) (.struct n fs) = true)
    (hb : Trace.Spec.passes (toTraceTy (.struct n fs)) ≤ O.from_type_budget)
    (hcap : ((vs.map (ser (.struct n fs))).map (vsize (Props.C16.codecExt f32Str f64Str cast))).sum ≤ 2147483647) :
    ∃ fields arrs, Trace.fromType c O (toTraceTy (.struct n fs)) = .ok fields ∧
      toMarrow (Props.C16.codecExt f32Str f64Str cast) fields (vs.map (ser (.struct n fs))) = .ok arrs ∧
      readAll (toTarget (.struct n fs)) fields arrs = .ok (vs.map fun v => dvalOf (.struct n fs) (norm (.struct n fs) v)) :=
  C04_end_to_end c O _ n fs vs h0 hfrag hsz hne hwt hsc hw hm hb hcap

/-- **C04 end to end, COMPLETE, for traced schemas without Dictionary columns** (`string_dictionary_encoding` and
`enums_without_data_as_strings` off — the defaults), at the codec models of the external parsers: for every record type of
the grammar (enums as Unions included) with at least one field that can be walked and mapped within the pass budget,
`from_type` returns a schema, serializing any batch of well-typed values in scope (within the capacity bound) against it
succeeds, and reading everything back returns the batch, normalised.  NO residual hypothesis: `Read.physical` is derived
without the size bound (`C04_roundtrip_bulk_plain`; `ExtOK` and `Safe` are not needed); what is left are decidable
conditions on type × options (`fragE`, `sized`, `walkable`, `mappable`), the documented exclusion `inScopeO` (= the driver's `noneAtUnion`; `strOK` is vacuous here: no string-stored enum), the pass
budget and the explicit capacity bound. -/
theorem C04_end_to_end_plain (f32Str f64Str : Nat → String) (cast : Nat → Int → Bool → Nat → Option (Bool × Int))
    (c : Trace.Code) (O : Trace.Options) (n : String) (fs : TFields) (vs : List Val)
    (h0 : O.overwrites = []) (hd : O.string_dictionary_encoding = false) (he : O.enums_without_data_as_strings = false)
    (hfrag : fragE (.struct n fs) = true) (hsz : sized (.struct n fs) = true) (hne : fs ≠ .nil)
    (hwt : ∀ v ∈ vs, wt (.struct n fs) v = true)
    (hsc : ∀ v ∈ vs, inScopeO (viewOpts O) (.struct n fs) v = true)
    (hw : Trace.Spec.walkable O "$" (toTraceTy (.struct n fs)) = true)
    (hm : mappable (viewOpts O) (.struct n fs) = true)
    (hb : Trace.Spec.passes (toTraceTy (.struct n fs)) ≤ O.from_type_budget)
    (hcap : ((vs.map (ser (.struct n fs))).map (vsize (Props.C16.codecExt f32Str f64Str cast))).sum ≤ 2147483647) :
    ∃ fields arrs, Trace.fromType c O (toTraceTy (.struct n fs)) = .ok fields ∧
      toMarrow (Props.C16.codecExt f32Str f64Str cast) fields (vs.map (ser (.struct n fs))) = .ok arrs ∧
      readAll (toTarget (.struct n fs)) fields arrs = .ok (vs.map fun v => dvalOf (.struct n fs) (norm (.struct n fs) v)) := by
  have hft := C04_fromType_ok c O h0 n fs hw hm hb
  obtain ⟨arrs, htm⟩ := C04_accept_traced c O (Props.C16.codecExt f32Str f64Str cast) n fs vs _ h0 hfrag hsz hwt hsc hft hcap
  exact ⟨_, arrs, hft, htm, C04_roundtrip_bulk_plain c O _ n fs vs _ arrs h0 hd he hfrag hne hwt hsc hft htm⟩

/-! ### non-vacuity: the batch of `Props/C04.lean` (`exFragRoot`, two records) meets every hypothesis -/

example : ((exBatch.map (ser exFragRoot)).map (vsize {})).sum ≤ 2147483647 := by decide +kernel

example : ∃ root, runRows {} exFields (exBatch.map (ser exFragRoot)) = .ok root ∧
    toMarrow {} exFields (exBatch.map (ser exFragRoot)) = (do let (arrs, _) ← buildArrays {} root; pure arrs) :=
  C04_accept_rows .fixed exO {} "Root" _ exBatch exFields rfl (by decide +kernel) (by decide +kernel) (by decide +kernel)
    (by decide +kernel) exTrace (by decide +kernel)

/-- the whole property on the enum-free example: nothing is assumed about `from_type` -/
example : ∃ fields arrs, Trace.fromType .fixed exO (toTraceTy exFragRoot) = .ok fields ∧
    toMarrow {} fields (exBatch.map (ser exFragRoot)) = .ok arrs ∧
    readAll (toTarget exFragRoot) fields arrs = .ok (exBatch.map fun v => dvalOf exFragRoot (norm exFragRoot v)) :=
  C04_end_to_end .fixed exO {} "Root" _ exBatch rfl (by decide +kernel) (by decide +kernel) (by simp)
    (by decide +kernel) (by decide +kernel) (by decide +kernel) (by decide +kernel) (by decide +kernel) (by decide +kernel)

/-! non-vacuity WITH ENUMS: `exRoot` of `Props/C04.lean` (an enum with all four variant kinds traced to a Union, nested
Options, a map with tuple values), under `allow_null_fields`: walkable, mappable, 4 passes ≤ budget, `sized`, no Dictionary
column; both values are in scope -/

example : fragE exRoot = true ∧ sized exRoot = true ∧ Trace.Spec.walkable exEO "$" (toTraceTy exRoot) = true ∧
    mappable (viewOpts exEO) exRoot = true ∧ Trace.Spec.passes (toTraceTy exRoot) = 4 ∧
    (∀ v ∈ exEBatch, inScopeO (viewOpts exEO) exRoot v = true) := by decide +kernel

example : ∃ fields arrs, Trace.fromType .fixed exEO (toTraceTy exRoot) = .ok fields ∧
    toMarrow {} fields (exEBatch.map (ser exRoot)) = .ok arrs ∧
    readAll (toTarget exRoot) fields arrs = .ok (exEBatch.map fun v => dvalOf exRoot (norm exRoot v)) :=
  C04_end_to_end .fixed exEO {} "Root" _ exEBatch rfl (by decide +kernel) (by decide +kernel) (by simp)
    (by decide +kernel) (by decide +kernel) (by decide +kernel) (by decide +kernel) (by decide +kernel) (by decide +kernel)

/-- … and completely, with nothing assumed (codec parsers; the float / decimal tables of the codec record play no role for
this type): `C04_end_to_end_plain` on the enum example -/
example : ∃ fields arrs, Trace.fromType .fixed exEO (toTraceTy exRoot) = .ok fields ∧
    toMarrow (Props.C16.codecExt (fun _ => "") (fun _ => "") (fun _ _ _ _ => none)) fields (exEBatch.map (ser exRoot)) = .ok arrs ∧
    readAll (toTarget exRoot) fields arrs = .ok (exEBatch.map fun v => dvalOf exRoot (norm exRoot v)) :=
  C04_end_to_end_plain _ _ _ .fixed exEO "Root" _ exEBatch rfl rfl rfl (by decide +kernel) (by decide +kernel) (by simp)
    (by decide +kernel) (by decide +kernel) (by decide +kernel) (by decide +kernel) (by decide +kernel) (by decide +kernel)

/-- the string form (`enums_without_data_as_strings`): `exSRoot` with a data-less enum and an `Option` of it -/
example : ∃ fields, Trace.fromType .fixed exSO (toTraceTy exSRoot) = .ok fields ∧
    ∃ arrs, toMarrow {} fields (exSBatch.map (ser exSRoot)) = .ok arrs :=
  C04_accept .fixed exSO {} "S" _ exSBatch rfl (by decide +kernel) (by decide +kernel) (by decide +kernel) (by decide +kernel)
    (by decide +kernel) (by decide +kernel) (by decide +kernel) (by decide +kernel)

/-! non-vacuity of `C04_accept_traced` WITH dictionary-encoded strings: a record type with a `String` and an
`Option<String>` traces to two `Dictionary(UInt32, LargeUtf8)` columns -/

def exDO : Trace.Options := { map_as_struct := false, string_dictionary_encoding := true }
def exDRoot : Ty := .struct "D" (.cons "s" false (.prim .str) (.cons "t" false (.option (.prim .str)) .nil))
def exDBatch : List Val :=
  [.struct (.cons (.str "x") (.cons (.some (.str "y")) .nil)), .struct (.cons (.str "x") (.cons .none .nil))]
def exDFields : List Field := match Trace.fromType .fixed exDO (toTraceTy exDRoot) with | .ok fs => fs | .error _ => []

theorem exDTrace : Trace.fromType .fixed exDO (toTraceTy exDRoot) = .ok exDFields := by decide +kernel

example : exDFields = [.mk "s" (.dictionary .uint32 .largeUtf8) false [], .mk "t" (.dictionary .uint32 .largeUtf8) true []] := by
  decide +kernel

example : ∃ arrs, toMarrow {} exDFields (exDBatch.map (ser exDRoot)) = .ok arrs :=
  C04_accept_traced .fixed exDO {} "D" _ exDBatch exDFields rfl (by decide +kernel) (by decide +kernel) (by decide +kernel)
    (by decide +kernel) exDTrace (by decide +kernel)

/-! ### a schema outside C01's `Safe` is inside the theorems

A dictionary-encoded `String` directly below an `Option<struct>` makes `safeFs` false (C01's `dict_placeholder_unstable`
shape: the `None` of the outer option sends the placeholder key 0 into NON-nullable dictionary keys); a nullable one
(`Option<String>`) does not.  The theorems do not assume `safeFs`: `exSafeFalse` below is
accepted and round-trips, every hypothesis discharged. -/
def exSafeFalse : Ty := .struct "W" (.cons "o" false (.option (.struct "I" (.cons "s" false (.prim .str) .nil))) .nil)
def exSafeTrue : Ty := .struct "W" (.cons "o" false (.option (.struct "I" (.cons "s" false (.option (.prim .str)) .nil))) .nil)
example : safeFs (mappingFields (viewOpts exDO) (tfieldsOf exSafeFalse)) = false ∧
    safeFs (mappingFields (viewOpts exDO) (tfieldsOf exSafeTrue)) = true ∧
    safeFs (mappingFields (viewOpts exO) (tfieldsOf exSafeFalse)) = true := by decide +kernel

def exWBatch : List Val :=
  [.struct (.cons .none .nil), .struct (.cons (.some (.struct (.cons (.str "x") .nil))) .nil), .struct (.cons .none .nil)]
def exWFields : List Field := match Trace.fromType .fixed exDO (toTraceTy exSafeFalse) with | .ok fs => fs | .error _ => []
theorem exWTrace : Trace.fromType .fixed exDO (toTraceTy exSafeFalse) = .ok exWFields := by decide +kernel

/-- the traced schema: a `Dictionary(UInt32, LargeUtf8)` with NON-nullable keys below the nullable struct `o` … -/
example : exWFields = [.mk "o" (.struct (.cons (.mk "s" (.dictionary .uint32 .largeUtf8) false []) .nil)) true []] := by
  decide +kernel

/-- … whose fresh builder is outside C01's `Safe` (`C04_safe_traced_iff`) -/
example : ∀ root0, newRoot exWFields = .ok root0 → ¬ Safe root0 := by
  intro root0 h0 hs
  have := (C04_safe_traced_iff (viewOpts exDO) (tfieldsOf exSafeFalse) exWFields
    (C04_fromType_fields .fixed exDO rfl "W" _ exWFields exWTrace) root0 h0).mp hs
  revert this; decide +kernel

/-- acceptance (`C04_accept`) and the end-to-end theorem (`C04_end_to_end`) apply to it, every hypothesis
discharged: the batch `None, Some(I { s: "x" }), None` is accepted against the traced schema (a DICTIONARY column outside
`Safe`) and read back as it is — nothing is assumed about the arrays -/
example : ∃ fields arrs, Trace.fromType .fixed exDO (toTraceTy exSafeFalse) = .ok fields ∧
    toMarrow {} fields (exWBatch.map (ser exSafeFalse)) = .ok arrs ∧
    readAll (toTarget exSafeFalse) fields arrs = .ok (exWBatch.map fun v => dvalOf exSafeFalse (norm exSafeFalse v)) :=
  C04_end_to_end .fixed exDO {} "W" _ exWBatch rfl (by decide +kernel) (by decide +kernel) (by simp)
    (by decide +kernel) (by decide +kernel) (by decide +kernel) (by decide +kernel) (by decide +kernel) (by decide +kernel)

end SaModel.Props.C04
