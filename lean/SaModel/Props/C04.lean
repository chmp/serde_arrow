import SaModel.Lemmas.C04Unser
import SaModel.Lemmas.C04Interp
import SaModel.Lemmas.C04CastLv
import SaModel.Lemmas.C04Schema
import SaModel.Lemmas.C04Reader
import SaModel.Lemmas.C04Root
import SaModel.Lemmas.C04Safe
import SaModel.Props.C01Obs
import SaModel.Props.C02
import SaModel.Props.C08
import SaModel.Props.C13
import SaModel.Lemmas.C04Norm
import SaModel.Lemmas.C04FromType
import SaModel.Lemmas.C04Excl
import SaModel.Lemmas.C04SafeDT
import SaModel.Lemmas.C04Physical
import SaModel.Lemmas.C04PhysSize
import SaModel.Props.C03Read
import SaModel.Lemmas.C04ExtSchema
import SaModel.Lemmas.C04RootKind
/-
C04 — round trip through a type-traced schema is the identity.

The end-to-end statement composes four facts about the REAL model functions (no interface hypothesis is left):

  (H8, C08)  the tracer returns the documented mapping:   `C04_fromType_mapping` (every type, enums included), and it
             succeeds on every walkable, mappable type within the pass budget: `C04_fromType_ok`
  (H1, C01)  the builder refines the documented mapping:  `Props.C01.C01_build_decode'` + `Props.C01.C03_wfS'` (the hidden-rows
             refinement, Props/C01Obs.lean: NO `Safe` hypothesis), composed with the reader's constructor once for any schema
             in `Props.C03.toMarrow_root` (Props/C03Read.lean); their schema side conditions (`SchemaOKF`, `coveredF`)
             proved for every traced schema (`mapping_side`); the hypothesis `ExtOK` of `C03_wfS'` (the external chrono
             parsers return values in range) is discharged for EVERY `ext`: a traced schema has no temporal column
             (`mapping_noTemporal`), so the parsers are never consulted and `to_marrow` is the same function under
             `refuseExt ext`, whose parsers refuse everything (`toMarrow_refuse_traced`, `refuseExt_ok`;
             SaModel/Lemmas/C04Ext*.lean)
  (H2, C02)  the reader returns the cast of the decoded content: `Props.C02.read_typed_decode` with `cast_lvO`,
             `closed_readable` (the reader supports every traced type), `Lemmas.C03.wf_utf8`
  (Hinv)     **the Rust → Arrow mapping is injective up to the documented normalisation**:
                 interp (mapping ty) (ser ty v) = ok (lvO o ty v)      `interp_serO`  (SaModel/Lemmas/C04Interp.lean)
                 unser ty (lv ty v)            = some (norm ty v)      `unser_lv`     (SaModel/Lemmas/C04Unser.lean)

`lvO o` is the option-dependent logical value (an enum without data is stored as its variant NAME under
`enums_without_data_as_strings`; otherwise `lvO o = lv`).  `norm` is the identity except where `Some(v)` is stored as a null
(`Some(None)`, `Some(())`): `norm_eq_self`.  The documented exclusion (`None` at a position traced to a Union) is `inScopeU`,
proved equal to the driver's run-time predicate `noneAtUnion … = false` (`C04_inScopeU_iff`).
The acceptance half and the end-to-end theorems are in Props/C04Accept.lean.
-/
namespace SaModel.Props.C04
open SaModel SaModel.Build SaModel.Spec SaModel.Roundtrip

/-- **Reading back the logical value gives the normalised value** — whole grammar (scalars, `()`, Option incl. the
collapse of nested `None`, Vec, tuples / arrays, structs, tuple / newtype / unit structs, enums with the four variant
kinds, maps). -/
theorem C04_unser_lv (t : Ty) (v : Val) (h : wt t v = true) : unser t (lv t v) = some (norm t v) :=
  unser_lv t v h

/-- **Injectivity up to normalisation**: two values of a type with the same logical content are equal after the
documented normalisation. -/
theorem C04_mapping_injective (t : Ty) (v w : Val) (hv : wt t v = true) (hw : wt t w = true)
    (h : lv t v = lv t w) : norm t v = norm t w := by
  have a := unser_lv t v hv
  have b := unser_lv t w hw
  rw [h, b] at a
  exact (Option.some.inj a).symm

/-- **`Spec.interp ∘ ser = lvO o` at the traced field**, for every option set, on the whole grammar `fragE`: scalars, `()`,
unit structs, Option, newtype structs, Vec, maps, structs (fields matched by name, `skip_serializing_if` fields left out),
tuples / tuple structs / arrays (positional names "0", "1", … are distinct: `Nat.repr` is injective) and enums — traced to
a Union (unit / newtype / tuple / struct variants) or, for an enum without data under `enums_without_data_as_strings`, to
a Dictionary column holding the variant NAME (`lvO o` is the option-dependent logical value; `lvO o = lv` where no such
enum occurs).  Exclusions `inScopeO o t v`: the documented one — no `None` (or skipped field) at a position traced to a
Union (`inScopeU`, = the driver's `noneAtUnion`, `C04_inScopeU_iff`) — and `strOK`: a value of a string-stored enum is a
unit variant (vacuous unless a data-less enum has a newtype variant around a data-less type, `enum E { A, B(()) }`, which
the tracer counts as "without data" and the string builder refuses: crate defect, notes/C04.md). -/
theorem C04_interp_ser (ext : Ext) (o : TraceOpts) (t : Ty) (v : Val) (dt : DataType) (nb : Bool) (md : Metadata)
    (hf : fragE t = true) (hw : wt t v = true) (hs : inScopeO o t v = true) (hm : mappingDT o t = (dt, nb, md)) :
    interpDT ext dt nb md (ser t v) = .ok (lvO o t v) := by
  simp only [inScopeO, Bool.and_eq_true] at hs
  exact interp_serO ext o t v nb dt nb md hf hw hs.1 hs.2 hm (fun h => h)

/-- the Union form: under the stronger exclusion `inScope` (no value of a string-stored enum at all) the logical value is
the option-independent `lv` -/
theorem C04_interp_ser_union (ext : Ext) (o : TraceOpts) (t : Ty) (v : Val) (dt : DataType) (nb : Bool) (md : Metadata)
    (hf : fragE t = true) (hw : wt t v = true) (hs : inScope o t v = true) (hm : mappingDT o t = (dt, nb, md)) :
    interpDT ext dt nb md (ser t v) = .ok (lv t v) := by
  obtain ⟨h1, h2, h3⟩ := scope_of_inScope o t v hs
  rw [← h3]
  exact interp_serO ext o t v nb dt nb md hf hw h1 h2 hm (fun h => h)

/-- the exclusions are vacuous for enum-free types of the grammar (`frag`) -/
theorem C04_frag_inScope (o : TraceOpts) (t : Ty) (v : Val) (hf : frag t = true) : fragE t = true ∧ inScopeO o t v = true :=
  ⟨frag_fragE t hf, frag_inScopeO o t v hf⟩

/-- **the type-directed exclusion is the driver's run-time exclusion**: `inScopeU o t v` (no `None` / skipped field at a
position traced to a Union) holds exactly when `noneAtUnion` — what `lean/Driver/Suites/Roundtrip.lean` decides on the
traced schema and the recorded serialization to mark a case `excl:option-union-none` — does not fire -/
theorem C04_inScopeU_iff (o : TraceOpts) (t : Ty) (v : Val) (hf : fragE t = true) (hw : wt t v = true) :
    inScopeU o t v = !noneAtUnion (mappingDT o t).1 (ser t v) :=
  inScopeU_iff o t v hf hw

/-- `Spec.interpRow` of a serialized value of ANY supported root: the root struct of the schema is interpreted with empty
metadata, the root field of the tracer may carry the strategy TupleAsStruct — `interpDT` at a Struct does not look at it -/
theorem C04_interpRow_root (ext : Ext) (o : TraceOpts) (t : Ty) (F : Fields) (v : Val) (fields : List Field)
    (hf : fragE t = true) (hw : wt t v = true) (hs : inScopeO o t v = true)
    (hroot : rootCols o t = some F) (hfields : fields = F.toList) :
    interpRow ext fields (ser t v) = .ok (lvO o t v) := by
  obtain ⟨md, hm⟩ := rootCols_some hroot
  subst hfields
  unfold interpRow
  rw [fields_ofList_toList, interpDT_struct_md ext F false [] md]
  exact C04_interp_ser ext o t v _ false md hf hw hs hm

/-- at ANY supported root: the type-directed exclusion is the driver's run-time exclusion against the schema `from_type`
returns (`C04_inScopeU_row` for every root kind) -/
theorem C04_inScopeU_row_root (o : TraceOpts) (t : Ty) (F : Fields) (v : Val) (fields : List Field)
    (hf : fragE t = true) (hw : wt t v = true) (hroot : rootCols o t = some F) (hfields : fields = F.toList) :
    inScopeU o t v = !noneAtUnionRow fields (ser t v) := by
  obtain ⟨md, hm⟩ := rootCols_some hroot
  subst hfields
  rw [C04_inScopeU_iff o t v hf hw, hm]
  simp [noneAtUnionRow, fields_ofList_toList]

/-- at the root: the same exclusion against the schema `from_type` returns, as the driver computes it (`noneAtUnionRow`) -/
theorem C04_inScopeU_row (o : TraceOpts) (n : String) (fs : TFields) (v : Val) (fields : List Field)
    (hf : fragE (.struct n fs) = true) (hw : wt (.struct n fs) v = true) (hroot : mappingRoot o (.struct n fs) = some fields) :
    inScopeU o (.struct n fs) v = !noneAtUnionRow fields (ser (.struct n fs) v) :=
  C04_inScopeU_row_root o _ _ v fields hf hw (rootCols_struct o n fs) (mappingRoot_cols (rootCols_struct o n fs) hroot)

/-- at the root: a record type of the grammar (enums included) against the schema `from_type` returns for it -/
theorem C04_interpRow (ext : Ext) (o : TraceOpts) (n : String) (fs : TFields) (v : Val) (fields : List Field)
    (hf : fragE (.struct n fs) = true) (hw : wt (.struct n fs) v = true) (hs : inScopeO o (.struct n fs) v = true)
    (hroot : mappingRoot o (.struct n fs) = some fields) :
    interpRow ext fields (ser (.struct n fs) v) = .ok (lvO o (.struct n fs) v) :=
  C04_interpRow_root ext o _ _ v fields hf hw hs (rootCols_struct o n fs) (mappingRoot_cols (rootCols_struct o n fs) hroot)

/-! ### the round trip through the real models

The core is stated for ANY root type `t` that `from_type` supports: one traced to a non-nullable struct, whose children `F` are
the columns of the schema (`rootCols o t = some F`, Lemmas/C04RootKind.lean: a struct with named fields, a tuple struct, a
tuple, a newtype struct around one of these).  The theorems about a record type `struct n fs` below are its instances at
`rootCols_struct`; the other root kinds are in Props/C04Root2.lean, Props/C04RootKinds.lean. -/

/-- the tracer's result is the documented mapping of C04, for EVERY type (enums included): `Props.C08.C08_from_type`
(∀ types, ∀ options) composed with `fromTypeSpec_eq` (the two statements of the documentation agree) -/
theorem C04_fromType_mapping (c : Trace.Code) (O : Trace.Options) (h0 : O.overwrites = []) (t : Ty)
    (fields : List Field) (h : Trace.fromType c O (toTraceTy t) = .ok fields) :
    mappingRoot (viewOpts O) t = some fields := by
  have hag := Props.C08.C08_from_type c O (toTraceTy t)
  rw [h] at hag
  cases hs : Trace.Spec.fromTypeSpec O (toTraceTy t) with
  | ok fields' =>
    rw [hs] at hag
    have : fields = fields' := hag
    subst this
    exact fromTypeSpec_eq O h0 t fields hs
  | error e => rw [hs] at hag; exact absurd hag (by simp [Lemmas.C08.Agree])

/-- the fields `from_type` returned for a supported root are the columns of the documented mapping -/
theorem C04_fromType_fields_root (c : Trace.Code) (O : Trace.Options) (h0 : O.overwrites = []) (t : Ty) (F : Fields)
    (hroot : rootCols (viewOpts O) t = some F)
    (fields : List Field) (h : Trace.fromType c O (toTraceTy t) = .ok fields) : fields = F.toList :=
  mappingRoot_cols hroot (C04_fromType_mapping c O h0 t fields h)

/-- the fields `from_type` returned for a record type are the documented mapping of its fields -/
theorem C04_fromType_fields (c : Trace.Code) (O : Trace.Options) (h0 : O.overwrites = []) (n : String) (fs : TFields)
    (fields : List Field) (h : Trace.fromType c O (toTraceTy (.struct n fs)) = .ok fields) :
    fields = (mappingFields (viewOpts O) fs).toList :=
  C04_fromType_fields_root c O h0 _ _ (rootCols_struct _ n fs) fields h

/-- **`from_type` succeeds** on every record type that can be walked (`Spec.walkable`: no container deeper than 20
levels, no map under `map_as_struct`, no enum without variants) and mapped (`mappable`: the documented refusals — a
Null-typed position only with `allow_null_fields`, a data-less enum only with `enums_without_data_as_strings` or
`allow_null_fields`, at most 128 variants), within the pass budget (one pass per enum variant, `Spec.passes`), and returns
the documented mapping.  From C08 (`C08_from_type`) and `mapping_ok`. -/
theorem C04_fromType_ok (c : Trace.Code) (O : Trace.Options) (h0 : O.overwrites = []) (n : String) (fs : TFields)
    (hw : Trace.Spec.walkable O "$" (toTraceTy (.struct n fs)) = true)
    (hm : mappable (viewOpts O) (.struct n fs) = true)
    (hb : Trace.Spec.passes (toTraceTy (.struct n fs)) ≤ O.from_type_budget) :
    Trace.fromType c O (toTraceTy (.struct n fs)) = .ok (mappingFields (viewOpts O) fs).toList :=
  fromType_ok c O h0 n fs hw hm hb

/-- C01's `Safe` of the fresh builder of a traced schema IS the decidable condition `safeFs` of the schema (no dictionary
with non-nullable keys below a nullable struct, through struct children and the first variant of a union;
`Lemmas/C04SafeDT.lean`).  NOT a hypothesis of any theorem of C04 (the builder side is the hidden-rows refinement);
documentation of what C01's per-builder append-only statement excludes: `exSafeFalse` in Props/C04Accept.lean is outside
`Safe` and inside the theorems of C04. -/
theorem C04_safe_traced_iff (o : TraceOpts) (fs : TFields) (fields : List Field) (hfields : fields = (mappingFields o fs).toList) :
    ∀ root0, newRoot fields = .ok root0 → (Safe root0 ↔ safeFs (mappingFields o fs) = true) := by
  have hside := sideFs_toList (mappingFields o fs) (mappingFields_side o fs)
  rw [← hfields] at hside
  intro root0 h0
  have := safe_schema_iff fields (List.all_eq_true.mpr fun f hf => (hside f hf).2) root0 h0
  rwa [hfields, fields_ofList_toList] at this

/-- **the core of the round trip for ANY supported root**: `from_marrow`'s checks pass with record count `vs.length`, the
root reader is constructed, and the typed read of every index — into the target of the root type itself
(`deserialize_struct` / `deserialize_tuple_struct` / `deserialize_tuple` / `deserialize_newtype_struct` on the root
`StructDeserializer`) — returns the normalised value.  `C04_roundtrip_core_fields` is the case `t = struct n fs`. -/
theorem C04_roundtrip_core_root (O : Trace.Options) (ext : Ext) (t : Ty) (F : Fields) (vs : List Val)
    (fields : List Field) (arrs : List Arr)
    (hfrag : fragE t = true) (hroot : rootCols (viewOpts O) t = some F) (hne : F ≠ .nil)
    (hwt : ∀ v ∈ vs, wt t v = true)
    (hsc : ∀ v ∈ vs, inScopeO (viewOpts O) t v = true)
    (hphys : Spec.wfFields F (zipCols fields arrs) vs.length = true → Read.physicalFields (zipCols fields arrs) = true)
    (hfields : fields = F.toList)
    (htm : toMarrow ext fields (vs.map (ser t)) = .ok arrs) :
    Access.new true fields.length (arrs.map Read.vlen) = .ok vs.length ∧
    Read.new Read.Fixes.all (rootArr fields arrs vs.length) = .ok () ∧
    ∀ (i : Nat) (hi : i < vs.length),
      Read.readAs Read.Fixes.all (toTarget t) (rootArr fields arrs vs.length) i = .ok (dvalOf t (norm t vs[i])) := by
  obtain ⟨md, hm⟩ := rootCols_some hroot
  have hofl : Fields.ofList fields = F := by rw [hfields]; exact fields_ofList_toList _
  have hside := sideFs_toList F (rootCols_side hroot)
  rw [← hfields] at hside
  have hser : ∀ x ∈ vs.map (ser t), Build.noRaw x = true ∧ Lemmas.C03.SValOK x := by
    intro x hx
    obtain ⟨v, hv, rfl⟩ := List.mem_map.mp hx
    exact ser_ok t v (hwt v hv)
  -- C01 + C03 + the reader's constructor, at `refuseExt ext` (a traced schema has no temporal column)
  obtain ⟨hacc, hnew, hwfroot, hrow⟩ := Props.C03.toMarrow_root (refuseExt ext) fields (vs.map (ser t)) arrs
    (fun f hf => (hside f hf).1) (List.all_eq_true.mpr fun f hf => (hside f hf).2) (fun x hx => (hser x hx).1) (refuseExt_ok ext)
    (fun x hx => (hser x hx).2)
    (by rw [hofl]; simpa [Lemmas.C03.readableDT] using ((closed_readable (viewOpts O)).mapping' hm).2)
    (by rintro rfl; exact hne (by simpa [Fields.ofList] using hofl.symm))
    (by rw [← toMarrow_refuse_root ext hroot fields hfields]; exact htm)
  have hrl : (vs.map (ser t)).length = vs.length := List.length_map _
  rw [hrl] at hacc hnew hwfroot
  rw [hofl] at hwfroot
  refine ⟨hacc, hnew, fun i hi => ?_⟩
  have hw := hwt _ (List.getElem_mem hi)
  have hsi := hsc _ (List.getElem_mem hi)
  obtain ⟨x, hx, hdec⟩ := hrow i (by rw [hrl]; exact hi)
  rw [hrl] at hdec
  -- the two value lemmas of C04: the row means `lvO`, and the typed read of `lvO` demands the normalised value
  rw [List.getElem_map, C04_interpRow_root (refuseExt ext) _ t F vs[i] fields hfrag hw hsi hroot hfields] at hx
  cases hx
  simp only [inScopeO, Bool.and_eq_true] at hsi
  exact Props.C02.read_typed_decode (toTarget t) _ i _ _ hdec hnew
    (by simpa [rootArr, Read.physical] using hphys (by simpa [rootArr, Spec.wf, Spec.validityOk] using hwfroot))
    (Lemmas.C03.wf_utf8 _ _ _ i _ hwfroot hdec)
    (cast_lvO _ t vs[i] _ (.struct F) false md false hfrag hw hsi.1 hsi.2 hm hwfroot)

/-- the core of the round trip in its general form, with the array-side premise `hphys` (`Read.physical` of the columns,
given their well-formedness) left open: `from_marrow`'s checks pass with record count `vs.length`, the root reader is
constructed, and the typed read of every index returns the normalised value.  `C04_roundtrip_core_fields` /
`C04_roundtrip_core` below discharge `hphys` from the input-side bound `vs.length ≤ i64::MAX` (`C04_physical_fields`);
`C04_roundtrip_bulk_plain` discharges it without any bound for dictionary-free schemas (`physical_traced`).
No hypothesis about `ext`: the schema has no temporal column, so the run is
replayed under `refuseExt ext` (`toMarrow_refuse_traced`), for which `ExtOK` holds (`refuseExt_ok`). -/
theorem C04_roundtrip_core_fields_of_physical (O : Trace.Options) (ext : Ext) (n : String) (fs : TFields) (vs : List Val)
    (fields : List Field) (arrs : List Arr)
    (hfrag : fragE (.struct n fs) = true) (hne : fs ≠ .nil)
    (hwt : ∀ v ∈ vs, wt (.struct n fs) v = true)
    (hsc : ∀ v ∈ vs, inScopeO (viewOpts O) (.struct n fs) v = true)
    (hphys : Spec.wfFields (mappingFields (viewOpts O) fs) (zipCols fields arrs) vs.length = true →
      Read.physicalFields (zipCols fields arrs) = true)
    (hfields : fields = (mappingFields (viewOpts O) fs).toList)
    (htm : toMarrow ext fields (vs.map (ser (.struct n fs))) = .ok arrs) :
    Access.new true fields.length (arrs.map Read.vlen) = .ok vs.length ∧
    Read.new Read.Fixes.all (rootArr fields arrs vs.length) = .ok () ∧
    ∀ (i : Nat) (hi : i < vs.length),
      Read.readAs Read.Fixes.all (toTarget (.struct n fs)) (rootArr fields arrs vs.length) i =
        .ok (dvalOf (.struct n fs) (norm (.struct n fs) vs[i])) :=
  C04_roundtrip_core_root O ext _ _ vs fields arrs hfrag (rootCols_struct _ n fs) (mappingFields_ne_nil _ fs hne) hwt hsc hphys
    hfields htm

/-- `Read.physical` of the arrays built against the schema of any supported root (`C04_physical_fields` for every root) -/
theorem C04_physical_root (O : Trace.Options) (ext : Ext) (t : Ty) (F : Fields) (vs : List Val)
    (fields : List Field) (arrs : List Arr)
    (hroot : rootCols (viewOpts O) t = some F)
    (hwt : ∀ v ∈ vs, wt t v = true)
    (hlen : vs.length ≤ 9223372036854775807)
    (hfields : fields = F.toList)
    (htm : toMarrow ext fields (vs.map (ser t)) = .ok arrs) : ∀ a ∈ arrs, Read.physical a = true := by
  have hside := sideFs_toList F (rootCols_side hroot)
  rw [← hfields] at hside
  refine Props.C03.toMarrow_physical ext fields (vs.map (ser t)) arrs
    (List.all_eq_true.mpr fun f hf => (hside f hf).2) ?_ ?_ htm
  · intro x hx
    obtain ⟨v, hv, rfl⟩ := List.mem_map.mp hx
    exact (ser_ok _ v (hwt v hv)).1
  · rw [List.length_map, hfields]
    exact rootCols_sizeOK hroot vs.length hlen

/-- `C04_physical` against the documented mapping itself (no hypothesis about `from_type`) -/
theorem C04_physical_fields (O : Trace.Options) (ext : Ext) (n : String) (fs : TFields) (vs : List Val)
    (fields : List Field) (arrs : List Arr)
    (hwt : ∀ v ∈ vs, wt (.struct n fs) v = true)
    (hlen : vs.length ≤ 9223372036854775807)
    (hfields : fields = (mappingFields (viewOpts O) fs).toList)
    (htm : toMarrow ext fields (vs.map (ser (.struct n fs))) = .ok arrs) : ∀ a ∈ arrs, Read.physical a = true :=
  C04_physical_root O ext _ _ vs fields arrs (rootCols_struct _ n fs) hwt hlen hfields htm

/-- **the core of the round trip** (`C04_roundtrip`, `C04_roundtrip_bulk` are its two front ends): `from_marrow`'s checks
pass with record count `vs.length`, the root reader is constructed, and the typed read of every index returns the
normalised value.  No premise about the arrays: `Read.physical` is derived inside from the input-side bound `hlen` (at most
`i64::MAX` records; `C04_physical_fields`). -/
theorem C04_roundtrip_core_fields (O : Trace.Options) (ext : Ext) (n : String) (fs : TFields) (vs : List Val)
    (fields : List Field) (arrs : List Arr)
    (hfrag : fragE (.struct n fs) = true) (hne : fs ≠ .nil)
    (hwt : ∀ v ∈ vs, wt (.struct n fs) v = true)
    (hsc : ∀ v ∈ vs, inScopeO (viewOpts O) (.struct n fs) v = true)
    (hlen : vs.length ≤ 9223372036854775807)
    (hfields : fields = (mappingFields (viewOpts O) fs).toList)
    (htm : toMarrow ext fields (vs.map (ser (.struct n fs))) = .ok arrs) :
    Access.new true fields.length (arrs.map Read.vlen) = .ok vs.length ∧
    Read.new Read.Fixes.all (rootArr fields arrs vs.length) = .ok () ∧
    ∀ (i : Nat) (hi : i < vs.length),
      Read.readAs Read.Fixes.all (toTarget (.struct n fs)) (rootArr fields arrs vs.length) i =
        .ok (dvalOf (.struct n fs) (norm (.struct n fs) vs[i])) :=
  C04_roundtrip_core_fields_of_physical O ext n fs vs fields arrs hfrag hne hwt hsc
    (fun _ => zip_physical fields arrs (C04_physical_fields O ext n fs vs fields arrs hwt hlen hfields htm)) hfields htm

/-- the core against what `from_type` returned (`C04_roundtrip_core_fields` with `C04_fromType_fields`) -/
theorem C04_roundtrip_core (c : Trace.Code) (O : Trace.Options) (ext : Ext) (n : String) (fs : TFields) (vs : List Val)
    (fields : List Field) (arrs : List Arr)
    (h0 : O.overwrites = []) (hfrag : fragE (.struct n fs) = true) (hne : fs ≠ .nil)
    (hwt : ∀ v ∈ vs, wt (.struct n fs) v = true)
    (hsc : ∀ v ∈ vs, inScopeO (viewOpts O) (.struct n fs) v = true)
    (hlen : vs.length ≤ 9223372036854775807)
    (hft : Trace.fromType c O (toTraceTy (.struct n fs)) = .ok fields)
    (htm : toMarrow ext fields (vs.map (ser (.struct n fs))) = .ok arrs) :
    Access.new true fields.length (arrs.map Read.vlen) = .ok vs.length ∧
    Read.new Read.Fixes.all (rootArr fields arrs vs.length) = .ok () ∧
    ∀ (i : Nat) (hi : i < vs.length),
      Read.readAs Read.Fixes.all (toTarget (.struct n fs)) (rootArr fields arrs vs.length) i =
        .ok (dvalOf (.struct n fs) (norm (.struct n fs) vs[i])) :=
  C04_roundtrip_core_fields O ext n fs vs fields arrs hfrag hne hwt hsc hlen (C04_fromType_fields c O h0 n fs fields hft) htm

/-- **`Read.physical` of the arrays built against a type-traced schema** — the size precondition of the reader, EVERY option
(dictionary-encoded strings and string-stored enums included): at most `i64::MAX` records.  `Props.C03.toMarrow_physical` (the
builders' counting invariant: a dictionary holds at most as many values as keys were pushed) with its size condition
discharged from the shape of the documented mapping (never a FixedSizeList: `mapped_sizeOK`).  Its form against the mapping,
`C04_physical_fields`, is what the cores `C04_roundtrip_core` / `C04_roundtrip_core_fields` use to derive `Read.physical`. -/
theorem C04_physical (c : Trace.Code) (O : Trace.Options) (ext : Ext) (n : String) (fs : TFields) (vs : List Val)
    (fields : List Field) (arrs : List Arr)
    (h0 : O.overwrites = [])
    (hwt : ∀ v ∈ vs, wt (.struct n fs) v = true)
    (hlen : vs.length ≤ 9223372036854775807)
    (hft : Trace.fromType c O (toTraceTy (.struct n fs)) = .ok fields)
    (htm : toMarrow ext fields (vs.map (ser (.struct n fs))) = .ok arrs) : ∀ a ∈ arrs, Read.physical a = true :=
  C04_physical_fields O ext n fs vs fields arrs hwt hlen (C04_fromType_fields c O h0 n fs fields hft) htm

/-- the read of one record from the core -/
theorem readRecord_of_core (t : Ty) (vs : List Val) (fields : List Field) (arrs : List Arr)
    (hacc : Access.new true fields.length (arrs.map Read.vlen) = .ok vs.length)
    (hnew : Read.new Read.Fixes.all (rootArr fields arrs vs.length) = .ok ())
    (hread : ∀ (i : Nat) (hi : i < vs.length),
      Read.readAs Read.Fixes.all (toTarget t) (rootArr fields arrs vs.length) i = .ok (dvalOf t (norm t vs[i])))
    (i : Nat) (hi : i < vs.length) : readRecord (toTarget t) fields arrs i = .ok (dvalOf t (norm t vs[i])) := by
  simp only [readRecord, hacc, bind, Except.bind]
  rw [hnew]
  simp only [Access.getIdx, ge_iff_le, Nat.not_le.mpr hi, if_false]
  exact hread i hi

/-- **C04, through the real models** (`Trace.fromType`, `Build.toMarrow`, the reader model `Read.readAs` behind
`readRecord` = `Deserializer::from_marrow` + item `i` + `T::deserialize`).

For every record type `t = struct n fs` of the grammar `fragE` (scalars, `()`, unit structs, Option, newtype structs,
Vec, maps, tuples / tuple structs / arrays, structs with `rename` / `skip_serializing_if`, ENUMS with unit / newtype /
tuple / struct variants — as a Union or, without data under `enums_without_data_as_strings`, as strings; at least one
field), all tracing options `O` without overwrites (any budget, every flag), every code variant `c` of the tracer, every
batch `vs` of well-typed values in scope (`inScopeO`: the documented exclusion `Option<enum → Union>` = `None`, which is
exactly the driver's `noneAtUnion` — `C04_inScopeU_iff` —, and the string-enum defect `strOK`):

  if    `from_type` returns `fields`                        (`Trace.fromType c O (toTraceTy t) = ok fields`)
  and   serializing the batch against them returns `arrs`   (`toMarrow ext fields (vs.map (ser t)) = ok arrs`)
  then  reading record `i` back at the type's own target returns the value, normalised:
        `readRecord (toTarget t) fields arrs i = ok (dvalOf t (norm t vs[i]))`   for every `i < vs.length`.

`norm` is the documented collapse of `Some(None)` / `Some(())` to `None`, the identity elsewhere; `dvalOf` is the
rendering of a typed value as the visitor calls of a typed read.

NO `Safe` hypothesis (no `safeFs (mappingFields (viewOpts O) fs)`): a dictionary-encoded `String` directly
below an `Option<struct>` — where C01's per-builder append-only statement is false (`dict_placeholder_unstable`; witness
`exSafeFalse` in Props/C04Accept.lean) — is covered by the hidden-rows refinement (`C01_build_decode'`, `C03_wfS'` through its
`coveredF` alternative: every traced schema is `coveredF`).

`Read.physical` (the value count of every Dictionary column fits `i64`) is not a hypothesis: it is derived from the
input-side bound `hlen` (at most `i64::MAX` records; `C04_physical`).
NO hypothesis about `ext` (no `ExtOK ext`, "the external chrono parsers return values in range"): no temporal column
occurs in a traced schema (`mapping_noTemporal`), the parsers are never consulted
(`toMarrow_refuse_traced`), and `Props.C01.C03_wfS'` is applied to `refuseExt ext`, whose parsers refuse (`refuseExt_ok`). -/
theorem C04_roundtrip (c : Trace.Code) (O : Trace.Options) (ext : Ext) (n : String) (fs : TFields) (vs : List Val)
    (fields : List Field) (arrs : List Arr)
    (h0 : O.overwrites = []) (hfrag : fragE (.struct n fs) = true) (hne : fs ≠ .nil)
    (hwt : ∀ v ∈ vs, wt (.struct n fs) v = true)
    (hsc : ∀ v ∈ vs, inScopeO (viewOpts O) (.struct n fs) v = true)
    (hlen : vs.length ≤ 9223372036854775807)
    (hft : Trace.fromType c O (toTraceTy (.struct n fs)) = .ok fields)
    (htm : toMarrow ext fields (vs.map (ser (.struct n fs))) = .ok arrs) :
    ∀ (i : Nat) (hi : i < vs.length),
      readRecord (toTarget (.struct n fs)) fields arrs i = .ok (dvalOf (.struct n fs) (norm (.struct n fs) vs[i])) := by
  obtain ⟨hacc, hnew, hread⟩ := C04_roundtrip_core c O ext n fs vs fields arrs h0 hfrag hne hwt hsc hlen hft htm
  exact readRecord_of_core _ vs fields arrs hacc hnew hread

theorem mapM_ok_of_forall {α β} (f : α → R β) (g : α → β) : ∀ (l : List α), (∀ x ∈ l, f x = .ok (g x)) → l.mapM f = .ok (l.map g) :=
  fun _ h => R.mapM_ok_of_forall h

/-- the bulk read from the core -/
theorem readAll_of_core (t : Ty) (vs : List Val) (fields : List Field) (arrs : List Arr)
    (hacc : Access.new true fields.length (arrs.map Read.vlen) = .ok vs.length)
    (hnew : Read.new Read.Fixes.all (rootArr fields arrs vs.length) = .ok ())
    (hread : ∀ (i : Nat) (hi : i < vs.length),
      Read.readAs Read.Fixes.all (toTarget t) (rootArr fields arrs vs.length) i = .ok (dvalOf t (norm t vs[i]))) :
    readAll (toTarget t) fields arrs = .ok (vs.map fun v => dvalOf t (norm t v)) := by
  simp only [readAll, hacc, bind, Except.bind]
  rw [hnew]
  simp only [Props.C13.bulk_eq_items]
  rw [mapM_ok_of_forall _ (fun i => dvalOf t (norm t (vs.getD i .unit))) (List.range vs.length)
    (fun i hi => by
      have hi' : i < vs.length := List.mem_range.mp hi
      rw [hread i hi']
      simp [List.getD_eq_getElem?_getD, List.getElem?_eq_getElem hi'])]
  congr 1
  apply List.ext_getElem
  · simp
  · intro i h1 h2
    have hi' : i < vs.length := by simpa using h1
    simp [List.getD_eq_getElem?_getD, List.getElem?_eq_getElem hi']

/-- **Bulk form**: under the hypotheses of `C04_roundtrip`, reading ALL records at once
(`Vec<T>::deserialize(Deserializer::from_marrow(fields, views))`: the indices `Access.bulk len` of C13, each read into the
type's target) returns the whole batch, normalised, in order. -/
theorem C04_roundtrip_bulk (c : Trace.Code) (O : Trace.Options) (ext : Ext) (n : String) (fs : TFields) (vs : List Val)
    (fields : List Field) (arrs : List Arr)
    (h0 : O.overwrites = []) (hfrag : fragE (.struct n fs) = true) (hne : fs ≠ .nil)
    (hwt : ∀ v ∈ vs, wt (.struct n fs) v = true)
    (hsc : ∀ v ∈ vs, inScopeO (viewOpts O) (.struct n fs) v = true)
    (hlen : vs.length ≤ 9223372036854775807)
    (hft : Trace.fromType c O (toTraceTy (.struct n fs)) = .ok fields)
    (htm : toMarrow ext fields (vs.map (ser (.struct n fs))) = .ok arrs) :
    readAll (toTarget (.struct n fs)) fields arrs = .ok (vs.map fun v => dvalOf (.struct n fs) (norm (.struct n fs) v)) := by
  obtain ⟨hacc, hnew, hread⟩ := C04_roundtrip_core c O ext n fs vs fields arrs h0 hfrag hne hwt hsc hlen hft htm
  exact readAll_of_core _ vs fields arrs hacc hnew hread

/-- on a batch of well-typed values of a `plainOpt` type the normalisation does nothing -/
theorem map_dvalOf_norm (t : Ty) (vs : List Val) (hplain : plainOpt t = true) (hwt : ∀ v ∈ vs, wt t v = true) :
    (vs.map fun v => dvalOf t (norm t v)) = vs.map (dvalOf t) :=
  List.map_congr_left fun v hv => by rw [norm_eq_self t v hplain (hwt v hv)]

/-- **The round trip is literally the identity** where no `Option` sits directly over a nullable position
(`plainOpt`: no `Option<Option<_>>`, `Option<()>`, …): `norm_eq_self` (whole grammar) removes the normalisation. -/
theorem C04_roundtrip_identity (c : Trace.Code) (O : Trace.Options) (ext : Ext) (n : String) (fs : TFields) (vs : List Val)
    (fields : List Field) (arrs : List Arr)
    (h0 : O.overwrites = []) (hfrag : fragE (.struct n fs) = true) (hplain : plainOpt (.struct n fs) = true) (hne : fs ≠ .nil)
    (hwt : ∀ v ∈ vs, wt (.struct n fs) v = true)
    (hsc : ∀ v ∈ vs, inScopeO (viewOpts O) (.struct n fs) v = true)
    (hlen : vs.length ≤ 9223372036854775807)
    (hft : Trace.fromType c O (toTraceTy (.struct n fs)) = .ok fields)
    (htm : toMarrow ext fields (vs.map (ser (.struct n fs))) = .ok arrs) :
    readAll (toTarget (.struct n fs)) fields arrs = .ok (vs.map (dvalOf (.struct n fs))) := by
  rw [C04_roundtrip_bulk c O ext n fs vs fields arrs h0 hfrag hne hwt hsc hlen hft htm, map_dvalOf_norm _ vs hplain hwt]

/-- `norm` is the identity on well-typed values of types without `Option` directly over a nullable position — whole
grammar -/
theorem C04_norm_eq_self (t : Ty) (v : Val) (hp : plainOpt t = true) (hw : wt t v = true) : norm t v = v :=
  norm_eq_self t v hp hw

/-- the bulk round trip for traced schemas WITHOUT Dictionary columns (`string_dictionary_encoding` and
`enums_without_data_as_strings` off): `Read.physical` is derived (`physical_traced`: every
well-formed array of a dictionary-free traced schema is physical), no size bound on the batch; no hypothesis is left besides
the documented ones (any `ext`: the chrono parsers are never consulted, see `C04_roundtrip`) -/
theorem C04_roundtrip_bulk_plain (c : Trace.Code) (O : Trace.Options) (ext : Ext) (n : String) (fs : TFields) (vs : List Val)
    (fields : List Field) (arrs : List Arr)
    (h0 : O.overwrites = []) (hd : O.string_dictionary_encoding = false) (he : O.enums_without_data_as_strings = false)
    (hfrag : fragE (.struct n fs) = true) (hne : fs ≠ .nil)
    (hwt : ∀ v ∈ vs, wt (.struct n fs) v = true)
    (hsc : ∀ v ∈ vs, inScopeO (viewOpts O) (.struct n fs) v = true)
    (hft : Trace.fromType c O (toTraceTy (.struct n fs)) = .ok fields)
    (htm : toMarrow ext fields (vs.map (ser (.struct n fs))) = .ok arrs) :
    readAll (toTarget (.struct n fs)) fields arrs = .ok (vs.map fun v => dvalOf (.struct n fs) (norm (.struct n fs) v)) := by
  obtain ⟨hacc, hnew, hread⟩ := C04_roundtrip_core_fields_of_physical O ext n fs vs fields arrs hfrag hne hwt hsc
    (physical_traced (viewOpts O) hd he fs _ _) (C04_fromType_fields c O h0 n fs fields hft) htm
  exact readAll_of_core _ vs fields arrs hacc hnew hread

def exInner : Ty := .struct "Inner" (.cons "x" false (.prim (.int .i16)) (.cons "y" false (.prim .str) .nil))
def exEnum : Ty :=
  .enum "E" (.cons "Unit" .unit (.cons "New" (.newtype (.prim (.int .i32)))
    (.cons "Tup" (.tuple (.cons (.prim (.int .i8)) (.cons (.prim .str) .nil)))
    (.cons "S" (.struct (.cons "a" false (.prim .bool) (.cons "b" true (.option (.prim .f32)) .nil))) .nil))))
def exRoot : Ty :=
  .struct "Root" (.cons "a" false (.option (.option (.prim (.int .i32))))
    (.cons "v" false (.vec (.option exInner)) (.cons "e" false exEnum
    (.cons "m" false (.map (.prim .str) (.tuple (.cons (.prim .bool) (.cons (.prim .char) .nil))))
    (.cons "n" true (.option (.newtype "N" (.prim .bytes))) .nil)))))
def exVal1 : Val :=
  .struct (.cons (.some .none) (.cons (.vec (.cons (.some (.struct (.cons (.int 3) (.cons (.str "ab") .nil)))) (.cons .none .nil)))
    (.cons (.variant 3 (.cons (.bool true) (.cons .none .nil)))
    (.cons (.map (.cons (.str "k") (.tuple (.cons (.bool false) (.cons (.char 65) .nil))) .nil)) (.cons .none .nil)))))
def exVal2 : Val :=
  .struct (.cons (.some (.some (.int 7))) (.cons (.vec .nil) (.cons (.variant 2 (.cons (.int (-1)) (.cons (.str "ß") .nil)))
    (.cons (.map .nil) (.cons (.some (.newtype (.bytes [1, 2]))) .nil)))))
def exOpts : TraceOpts := { allowNullFields := true, mapAsStruct := false }

/-- a record type inside the enum-free fragment (nested Option, Vec of Option of struct, map with TUPLE values, skipped
field, newtype) -/
def exFragRoot : Ty :=
  .struct "Root" (.cons "a" false (.option (.option (.prim (.int .i32))))
    (.cons "v" false (.vec (.option exInner))
    (.cons "m" false (.map (.prim .str) (.tuple (.cons (.prim .bool) (.cons (.prim .char) .nil))))
    (.cons "n" true (.option (.newtype "N" (.prim .bytes))) .nil))))
def exFragVal : Val :=
  .struct (.cons (.some .none) (.cons (.vec (.cons (.some (.struct (.cons (.int 3) (.cons (.str "ab") .nil)))) (.cons .none .nil)))
    (.cons (.map (.cons (.str "k") (.tuple (.cons (.bool false) (.cons (.char 65) .nil))) .nil)) (.cons .none .nil))))
example : frag exFragRoot = true ∧ wt exFragRoot exFragVal = true := by decide +kernel
example : frag exRoot = false := by decide +kernel

/-! non-vacuity of `C04_roundtrip`: `exFragRoot` (nested Option, Vec of Option of struct, map, skipped field,
newtype over bytes) traced under `map_as_struct = false`, a batch of two values; every hypothesis is met (computed),
serialization succeeds, and the theorem gives the read results -/
def exO : Trace.Options := { map_as_struct := false, sequence_as_large_list := false }
def exFragVal2 : Val :=
  .struct (.cons (.some (.some (.int 7))) (.cons (.vec .nil) (.cons (.map .nil) (.cons (.some (.newtype (.bytes [1, 2]))) .nil))))
def exBatch : List Val := [exFragVal, exFragVal2]

def exFields : List Field := match Trace.fromType .fixed exO (toTraceTy exFragRoot) with | .ok fs => fs | .error _ => []
def exArrs : List Arr := match toMarrow {} exFields (exBatch.map (ser exFragRoot)) with | .ok a => a | .error _ => []

/- the tracer is not run: `C04_fromType_ok` gives its result from the three decidable conditions on the type -/
theorem exTrace : Trace.fromType .fixed exO (toTraceTy exFragRoot) = .ok exFields := by
  rw [exFields, show Trace.fromType .fixed exO (toTraceTy exFragRoot) = _ from
    C04_fromType_ok .fixed exO rfl "Root" _ (by decide +kernel) (by decide +kernel) (by decide +kernel)]
theorem exBuild : toMarrow {} exFields (exBatch.map (ser exFragRoot)) = .ok exArrs := by
  obtain ⟨a, h⟩ : ∃ a, toMarrow {} exFields (exBatch.map (ser exFragRoot)) = .ok a :=
    R.ok_of_isOk (by rw [C04_fromType_fields .fixed exO rfl "Root" _ exFields exTrace]; decide +kernel)
  rw [exArrs, h]

example : exFields.length = 4 ∧ exArrs.length = 4 ∧ (∀ v ∈ exBatch, wt exFragRoot v = true) ∧
    (∀ a ∈ exArrs, Read.physical a = true) ∧ norm exFragRoot exFragVal ≠ exFragVal := by decide +kernel

example : ∀ (i : Nat) (hi : i < exBatch.length),
    readRecord (toTarget exFragRoot) exFields exArrs i = .ok (dvalOf exFragRoot (norm exFragRoot exBatch[i])) := by
  exact C04_roundtrip .fixed exO {} "Root" _ exBatch exFields exArrs rfl (by decide +kernel) (by simp)
    (by decide +kernel) (by decide +kernel) (by decide +kernel) exTrace exBuild

/-- what comes back for the first record: `a: Some(None)` has collapsed to `None` (the documented normalisation), the
rest is the input -/
example : readRecord (toTarget exFragRoot) exFields exArrs 0 =
    .ok (.map (.cons (nameKey "a") .none
      (.cons (nameKey "v") (.seq (.cons (.some (.map (.cons (nameKey "x") (.int .i16 3)
          (.cons (nameKey "y") (.str .owned [97, 98]) .nil)))) (.cons .none .nil)))
      (.cons (nameKey "m") (.map (.cons (.str .owned [107]) (.seq (.cons (.bool false) (.cons (.char 65) .nil))) .nil))
      (.cons (nameKey "n") .none .nil))))) := by
  -- the reader is not run: the round trip theorem gives the record, the normalised value is computed
  refine Eq.trans (C04_roundtrip .fixed exO {} "Root" _ exBatch exFields exArrs rfl (by decide +kernel) (by simp)
    (by decide +kernel) (by decide +kernel) (by decide +kernel) exTrace exBuild 0 (by decide)) ?_
  decide +kernel

def tfieldsOf : Ty → TFields
  | .struct _ fs => fs
  | _ => .nil

/-- non-vacuity of the bulk form: the whole batch comes back, normalised, in order -/
example : readAll (toTarget exFragRoot) exFields exArrs = .ok (exBatch.map fun v => dvalOf exFragRoot (norm exFragRoot v)) :=
  C04_roundtrip_bulk .fixed exO {} "Root" _ exBatch exFields exArrs rfl (by decide +kernel) (by simp)
    (by decide +kernel) (by decide +kernel) (by decide +kernel) exTrace exBuild

/-! non-vacuity of `C04_roundtrip_identity` / `C04_norm_eq_self`: a record type without `Option` over a nullable
position (an Option of a scalar, a tuple, a Vec of Option of struct): the batch comes back as it is -/
def exPlainRoot : Ty :=
  .struct "P" (.cons "a" false (.option (.prim (.int .i32)))
    (.cons "t" false (.tuple (.cons (.prim .bool) (.cons (.prim .str) .nil)))
    (.cons "v" false (.vec (.option exInner)) .nil)))
def exPlainBatch : List Val :=
  [.struct (.cons .none (.cons (.tuple (.cons (.bool true) (.cons (.str "x") .nil)))
     (.cons (.vec (.cons (.some (.struct (.cons (.int 3) (.cons (.str "ab") .nil)))) (.cons .none .nil))) .nil))),
   .struct (.cons (.some (.int 7)) (.cons (.tuple (.cons (.bool false) (.cons (.str "") .nil))) (.cons (.vec .nil) .nil)))]
def exPlainFields : List Field := match Trace.fromType .fixed exO (toTraceTy exPlainRoot) with | .ok fs => fs | .error _ => []
def exPlainArrs : List Arr := match toMarrow {} exPlainFields (exPlainBatch.map (ser exPlainRoot)) with | .ok a => a | .error _ => []
theorem exPlainTrace : Trace.fromType .fixed exO (toTraceTy exPlainRoot) = .ok exPlainFields := by
  rw [exPlainFields, show Trace.fromType .fixed exO (toTraceTy exPlainRoot) = _ from
    C04_fromType_ok .fixed exO rfl "P" _ (by decide +kernel) (by decide +kernel) (by decide +kernel)]
theorem exPlainBuild : toMarrow {} exPlainFields (exPlainBatch.map (ser exPlainRoot)) = .ok exPlainArrs := by
  obtain ⟨a, h⟩ : ∃ a, toMarrow {} exPlainFields (exPlainBatch.map (ser exPlainRoot)) = .ok a :=
    R.ok_of_isOk (by decide +kernel)
  rw [exPlainArrs, h]
example : plainOpt exPlainRoot = true ∧ plainOpt exFragRoot = false ∧ exPlainFields.length = 3 := by decide +kernel
example : readAll (toTarget exPlainRoot) exPlainFields exPlainArrs = .ok (exPlainBatch.map (dvalOf exPlainRoot)) :=
  C04_roundtrip_identity .fixed exO {} "P" _ exPlainBatch exPlainFields exPlainArrs rfl (by decide +kernel)
    (by decide +kernel) (by simp) (by decide +kernel) (by decide +kernel) (by decide +kernel)
    exPlainTrace exPlainBuild

example : wt exRoot exVal1 = true ∧ wt exRoot exVal2 = true := by decide +kernel
/-- the documented collapse really happens (`Some(None)` ↦ `None`) and only there -/
example : norm exRoot exVal1 ≠ exVal1 ∧ norm exRoot exVal2 = exVal2 := by decide +kernel
example : unser exRoot (lv exRoot exVal1) = some (norm exRoot exVal1) := by decide +kernel
example : unser exRoot (lv exRoot exVal2) = some exVal2 := by decide +kernel
/-- non-vacuity of `C04_interp_ser` / `C04_interpRow` with enums and tuples: `exRoot` (an enum with all four variant
kinds, a map with tuple values) is in `fragE`, both values are in scope, the traced root schema exists, and the theorem
gives the logical value of the serialized record under the *real* `Spec.interpRow` -/
example : fragE exRoot = true ∧ inScopeO exOpts exRoot exVal1 = true ∧ inScopeO exOpts exRoot exVal2 = true ∧
    (mappingRoot exOpts exRoot).isSome = true := by decide +kernel
example (fields : List Field) (h : mappingRoot exOpts exRoot = some fields) :
    interpRow {} fields (ser exRoot exVal1) = .ok (lvO exOpts exRoot exVal1) ∧
    interpRow {} fields (ser exRoot exVal2) = .ok (lvO exOpts exRoot exVal2) :=
  ⟨C04_interpRow {} exOpts "Root" _ exVal1 fields (by decide +kernel) (by decide +kernel) (by decide +kernel) h,
   C04_interpRow {} exOpts "Root" _ exVal2 fields (by decide +kernel) (by decide +kernel) (by decide +kernel) h⟩
/-- the exclusion is needed: `Option<enum>` = `None` is out of scope, and the documented mapping has no value for it
(unions cannot hold nulls) -/
example : inScopeO exOpts (.option exEnum) .none = false ∧
    (interpDT {} (mappingDT exOpts (.option exEnum)).1 true (mappingDT exOpts (.option exEnum)).2.2 (ser (.option exEnum) .none)).isOk = false := by
  decide +kernel
/-- different values have different logical content -/
example : lv exRoot exVal1 ≠ lv exRoot exVal2 := by decide +kernel

/-! ### non-vacuity WITH ENUMS: the round trip of `exRoot` (an enum with unit / newtype / tuple / struct variants as a
Union, a map with tuple values, nested Options) traced under `allow_null_fields` (the unit variant is a Null child) -/

def exEO : Trace.Options := { map_as_struct := false, allow_null_fields := true }
def exEBatch : List Val := [exVal1, exVal2]
def exEFields : List Field := match Trace.fromType .fixed exEO (toTraceTy exRoot) with | .ok fs => fs | .error _ => []
def exEArrs : List Arr := match toMarrow {} exEFields (exEBatch.map (ser exRoot)) with | .ok a => a | .error _ => []
theorem exETrace : Trace.fromType .fixed exEO (toTraceTy exRoot) = .ok exEFields := by
  rw [exEFields, show Trace.fromType .fixed exEO (toTraceTy exRoot) = _ from
    C04_fromType_ok .fixed exEO rfl "Root" _ (by decide +kernel) (by decide +kernel) (by decide +kernel)]
theorem exEBuild : toMarrow {} exEFields (exEBatch.map (ser exRoot)) = .ok exEArrs := by
  obtain ⟨a, h⟩ : ∃ a, toMarrow {} exEFields (exEBatch.map (ser exRoot)) = .ok a :=
    R.ok_of_isOk (by rw [C04_fromType_fields .fixed exEO rfl "Root" _ exEFields exETrace]; decide +kernel)
  rw [exEArrs, h]
example : exEFields.length = 5 ∧ exEArrs.length = 5 := by
  have hf := C04_fromType_fields .fixed exEO rfl "Root" _ exEFields exETrace
  have hb := exEBuild
  rw [hf] at hb
  refine ⟨by rw [hf]; decide +kernel, ?_⟩
  have key : ∀ r : R (List Arr), r = .ok exEArrs → r.toOption.map List.length = some 5 → exEArrs.length = 5 :=
    fun r h1 h2 => by subst h1; exact Option.some.inj h2
  exact key _ hb (by decide +kernel)

example : ∀ (i : Nat) (hi : i < exEBatch.length),
    readRecord (toTarget exRoot) exEFields exEArrs i = .ok (dvalOf exRoot (norm exRoot exEBatch[i])) :=
  C04_roundtrip .fixed exEO {} "Root" _ exEBatch exEFields exEArrs rfl (by decide +kernel) (by simp)
    (by decide +kernel) (by decide +kernel) (by decide +kernel) exETrace exEBuild

/-! a data-less enum stored as STRINGS (`enums_without_data_as_strings`): `Option<Color>` = `None` is IN scope there (the
column is a nullable Dictionary, not a Union), and the values come back -/

def exColor : Ty := .enum "Color" (.cons "Red" .unit (.cons "Green" .unit .nil))
def exSRoot : Ty := .struct "S" (.cons "c" false exColor (.cons "oc" false (.option exColor) (.cons "k" false (.prim (.int .i32)) .nil)))
def exSO : Trace.Options := { enums_without_data_as_strings := true }
def exSBatch : List Val :=
  [.struct (.cons (.variant 1 .nil) (.cons .none (.cons (.int 1) .nil))),
   .struct (.cons (.variant 0 .nil) (.cons (.some (.variant 1 .nil)) (.cons (.int 2) .nil)))]
def exSFields : List Field := match Trace.fromType .fixed exSO (toTraceTy exSRoot) with | .ok fs => fs | .error _ => []
def exSArrs : List Arr := match toMarrow {} exSFields (exSBatch.map (ser exSRoot)) with | .ok a => a | .error _ => []
theorem exSTrace : Trace.fromType .fixed exSO (toTraceTy exSRoot) = .ok exSFields := by
  rw [exSFields, show Trace.fromType .fixed exSO (toTraceTy exSRoot) = _ from
    C04_fromType_ok .fixed exSO rfl "S" _ (by decide +kernel) (by decide +kernel) (by decide +kernel)]
theorem exSBuild : toMarrow {} exSFields (exSBatch.map (ser exSRoot)) = .ok exSArrs := by
  obtain ⟨a, h⟩ : ∃ a, toMarrow {} exSFields (exSBatch.map (ser exSRoot)) = .ok a :=
    R.ok_of_isOk (by decide +kernel)
  rw [exSArrs, h]
example : exSFields = [.mk "c" (.dictionary .uint32 .largeUtf8) false [], .mk "oc" (.dictionary .uint32 .largeUtf8) true [],
    .mk "k" .int32 false []] := by decide +kernel
/-- the option-dependent logical value is the variant NAME there; the Union form `lv` differs -/
example : lvO (viewOpts exSO) exColor (.variant 1 .nil) = .str "Green".toUTF8.toList ∧
    lv exColor (.variant 1 .nil) = .union 1 .null := by decide +kernel

example : ∀ (i : Nat) (hi : i < exSBatch.length),
    readRecord (toTarget exSRoot) exSFields exSArrs i = .ok (dvalOf exSRoot (norm exSRoot exSBatch[i])) :=
  C04_roundtrip .fixed exSO {} "S" _ exSBatch exSFields exSArrs rfl (by decide +kernel) (by simp)
    (by decide +kernel) (by decide +kernel) (by decide +kernel) exSTrace exSBuild

end SaModel.Props.C04
