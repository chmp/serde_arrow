import SaModel.Lemmas.C07Sym
/-
C07, translation obligation: the arms of `coerce_primitive_type` as the translator reads them out of
serde_arrow/src/internal/schema/tracer.rs (`Generated.CoerceArms.arms`, regenerated by ./check before every build)
mean — under the generic first-match interpreter `CoerceTable.evalArms` (SaModel/Trace/CoerceTable.lean) — exactly what
the hand-written model `Trace.coerce_primitive_type` says, on the complete leaf alphabet of Props/C07.lean.

So the C07 leaf theorems are statements about the source as it is NOW: swapping a result type, dropping a guard or
reordering two arms in tracer.rs changes `Generated.CoerceArms.arms`, a table below no longer evaluates to `true`, the
build of this module fails and ./check C07 reports the broken obligation before a single case runs.

What is compared: result value for result value (data type, nullable flag, strategy), `Err` for `Err`.

The obligation is a finite table evaluated by the kernel, on every OBSERVATION the arms and the model can make of their
arguments (constructors of the two types, types equal?, strategies equal?, time zones different?): `gen_coerce_sym`,
evaluated on one constructor per class the model distinguishes (`gen_classes`, `gen_coerce_reps`).  Neither side looks inside the
data types beyond that (`evalArms_select`, `coerce_eq_sym`), so the table gives the equation for ALL data types, nullable
flags, strategies and options: `coerce_arms_eq_model`.  The table directly on the complete leaf alphabet of Props/C07.lean
(`gen_coerce_leaf`, what the goal of the translation asks) is a special case.
-/
namespace SaModel.Props.C07Gen
open SaModel SaModel.Trace SaModel.Trace.CoerceTable SaModel.Generated.CoerceArms SaModel.Lemmas.C07Gen

/-- **obligation (C07, generated).**  No pattern of an arm found in tracer.rs tells two constructors apart that the model
puts in one class (`rep`). -/
theorem gen_classes : respects arms = true := by decide +kernel

/-- **obligation (C07, generated).**  For each of the 2^3 settings of the options `coerce_primitive_type` reads, one
constructor of each class as previous and as current type and all values of the three guard observations: the first
arm of tracer.rs that fires carries the result descriptor of the model's branch. -/
theorem gen_coerce_reps : ([false, true].all fun cn => [false, true].all fun ts => [false, true].all fun lu =>
    repTable arms (optionAt cn ts lu)) = true := by decide +kernel

/-- **obligation (C07, generated), all inputs.**  On every observation `abs` can return (36 × 36 constructors with the
guard observations that can occur with them) and each of the 2^3 option settings, the first arm of tracer.rs that fires
carries the result descriptor of the model's branch (`coerceSym`, proved equal to the model by `coerce_eq_sym`). -/
theorem gen_coerce_sym (cn ts lu : Bool) : symTable arms (optionAt cn ts lu) = true := by
  have hb : ∀ b : Bool, b ∈ [false, true] := by decide
  exact symTable_of_repTable gen_classes (List.all_eq_true.mp (List.all_eq_true.mp (List.all_eq_true.mp gen_coerce_reps
    _ (hb cn)) _ (hb ts)) _ (hb lu))

/-- **obligation (C07, generated).**  The guards of the arms only read flags that `Options.coerceView` keeps (so that
the 2^3 settings above are all there is). -/
theorem gen_flags : usesCoerceFlagsOnly arms = true := by decide

/-- **obligation (C07, generated).**  `TracingOptions::string_type` as found in tracing_options.rs is the model's
`Options.string_type`. -/
theorem gen_string_type : coerceOptions.all (fun o => decide (stringType.eval o = some o.string_type)) = true := by
  decide +kernel

/-! ### the tables as ∀-statements -/

/-- **C07, generated arms = model, for ALL inputs**: every pair of data types (any constructor, any arguments, nested
types included), both nullable flags, every pair of strategies, every `Options` value.  The hand-written
`Trace.coerce_primitive_type` — the function every C07 leaf theorem is about — IS the first-match reading of the arms
found in tracer.rs. -/
theorem coerce_arms_eq_model (o : Options) (p : DataType) (nl : Bool) (ps : Option Strategy) (c : DataType)
    (cs : Option Strategy) : evalArms arms o (p, nl, ps) (c, cs) = coerce_primitive_type o p nl ps c cs := by
  rw [evalArms_coerceView o _ _ arms gen_flags, coerce_coerceView, evalArms_select, coerce_eq_sym,
    coerceView_eq_optionAt]
  have hrow := List.all_eq_true.mp (gen_coerce_sym o.coerce_numbers o.allow_to_string o.string_as_large_utf8) _
    (abs_mem (p, nl, ps) (c, cs))
  rw [symRow_spec hrow]

/-- **obligation (C07, generated).**  For each of the 2^3 settings of the options `coerce_primitive_type` reads, on the
complete leaf alphabet of Props/C07.lean (`leafTypes o`, 18 types — every type `TracerSerializer` can pass — as previous
and as current type, both nullable flags: a superset of the primitive states of `leafStates o`; strategies `None` as on
every path through `from_samples`): the arms found in tracer.rs, interpreted first-match, give the result of the
model. -/
theorem gen_coerce_leaf : coerceOptions.all (fun o => agreeOn (leafTypes o) [none] o) = true :=
  List.all_eq_true.mpr fun o _ => agreeOn_of_eq (coerce_arms_eq_model o) _ _

/-- **C07, generated arms = model on the leaf alphabet, for EVERY `Options` value** (all fields, overwrites included)
and both nullable flags: what `act` (SaModel/Trace/Leaf.lean) computes at a primitive leaf state is what the arms of
tracer.rs say. -/
theorem coerce_arms_eq_model_leaf (o : Options) {p c : DataType} (hp : p ∈ leafTypes o) (hc : c ∈ leafTypes o)
    (nl : Bool) : evalArms arms o (p, nl, none) (c, none) = coerce_primitive_type o p nl none c none :=
  coerce_arms_eq_model o p nl none c none

/-- hence `ensure_primitive_with_strategy` on a `Primitive` node, for every name and path, is what the arms say -/
theorem ensure_primitive_eq_generated (o : Options) (n path : String) (nl : Bool) (ty : DataType) (st : Option Strategy)
    (item_type : DataType) (strategy : Option Strategy) :
    (Tracer.primitive n path nl ty st).ensure_primitive_with_strategy o item_type strategy =
      (evalArms arms o (ty, nl, st) (item_type, strategy)).bind fun r => .ok (.primitive n path r.2.1 r.1 r.2.2) := by
  rw [coerce_arms_eq_model]
  simp only [Tracer.ensure_primitive_with_strategy, bind, Except.bind]

/-- the leaf step `act` of Props/C07.lean restated on the generated arms: from a primitive leaf state the next state is
read off the arms of tracer.rs (for `Unknown` states `act` does not consult `coerce_primitive_type`) -/
theorem act_eq_generated (o : Options) {p c : DataType} (hp : p ∈ leafTypes o) (hc : c ∈ leafTypes o) (nl : Bool) :
    act o (some p, nl) c =
      match evalArms arms o (p, nl, none) (c, none) with
      | .ok (ty', nl', _) => .ok (some ty', nl')
      | .error e => .error e := by
  rw [coerce_arms_eq_model_leaf o hp hc nl]
  rfl

-- every primitive state of `leafStates o` meets the hypothesis `p ∈ leafTypes o`: `Props.C07.state_type_mem`

/-! ### non-vacuity: rows that exercise different arms -/

-- arm 1 (same type): state unchanged
example : evalArms arms {} (.int8, false, none) (.int8, none) = .ok (.int8, false, none) := by decide +kernel
-- arm 3 (`Null` sample): the flag is set
example : evalArms arms {} (.int8, false, none) (.null, none) = .ok (.int8, true, none) := by decide +kernel
-- arm 6 needs its guard: without `coerce_numbers` the last arm fails
example : evalArms arms { coerce_numbers := true } (.int8, true, none) (.uint16, none) = .ok (.int64, true, none) := by
  decide +kernel
example : (evalArms arms {} (.int8, true, none) (.uint16, none)).isErr = true := by decide +kernel
-- arm 19: time stamps with different time zones become strings of `string_type()`
example : evalArms arms { string_as_large_utf8 := false } (.timestamp .millisecond none, false, none)
    (.timestamp .millisecond (some "UTC"), none) = .ok (.utf8, false, none) := by decide +kernel
-- `coerce_arms_eq_model` on inputs far outside the leaf alphabet
example : evalArms arms {} (.list (.mk "element" .int8 false []), true, some .mapAsStruct) (.null, none) =
    .ok (.list (.mk "element" .int8 false []), true, some .mapAsStruct) := by decide +kernel
-- strategies: equal types with different strategies do not take arm 1
example : (evalArms arms {} (.int8, false, some .mapAsStruct) (.int8, none)).isErr = true := by decide +kernel
-- the hypotheses of `coerce_arms_eq_model_leaf` are met by non-trivial rows
example : (leafTypes {}).any (fun x => decide (x = .int8)) = true ∧ (leafTypes {}).any (fun x => decide (x = .float64)) = true := by
  decide +kernel
example : act { coerce_numbers := true } (some .int8, false) .float64 = .ok (some .float64, false) := by decide +kernel

end SaModel.Props.C07Gen
