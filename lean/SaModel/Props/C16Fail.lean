import SaModel.Props.C16
import SaModel.Props.C10Fail
/-
C16 — no panic along histories on one `ArrayBuilder` WITH FAILING OPERATIONS.

`push_no_panic` (Props/C16.lean) needs the state invariant `NPInv`, which only SUCCESSFUL pushes preserve: what a failed
push leaves behind is not covered — and the unrepaired crate did panic there (`to_arrow2` after a failed push: finding
C10-use-after-failed-push).  With the poisoned flag (SaModel/Build/Guarded.lean) the state a failed operation leaves is never
used again:

  runG_no_panic    along ANY history of push / extend / Serializer / build operations from a fresh builder — operations may
                   fail, the history goes on — no operation unwinds: every outcome is `ok` or an error.
-/
namespace SaModel.Props.C16
open SaModel SaModel.Build SaModel.Props.C10

theorem map_isPanic {α β} (r : R α) (f : α → β) : R.isPanic (r.map f) = R.isPanic r := by
  cases r with
  | ok a => rfl
  | error e => cases e <;> rfl

/-- an addition through any front end never unwinds on a state satisfying the invariant -/
theorem add_np (ext : Ext) (he : Lemmas.C16.ExtNP ext) (root : B) (hinv : Lemmas.C16.NPInv root) :
    ∀ (op : Op), (op.add ext root).isPanic = false
  | .push x => Lemmas.C16.push_np ext he x root hinv
  | .extend x => Lemmas.C16.extend_np ext he root hinv x
  | .viaSerializer x => Lemmas.C16.serializeWith_np ext he root hinv x
  | .build => rfl

/-- the unguarded operation (`Op.exec`: an addition, or `build_arrays` on the struct root) never unwinds under the invariant -/
theorem exec_np (ext : Ext) (he : Lemmas.C16.ExtNP ext) {p len v fs cached next seen}
    (hinv : Lemmas.C16.NPInv (.struct p len v fs cached next seen)) (op : Op) :
    (op.exec ext (.struct p len v fs cached next seen)).isPanic = false := by
  rcases op.build_or_add with rfl | hb
  · exact (map_isPanic _ _).trans (Lemmas.C16.buildArrays_np ext he hinv)
  · rw [Op.exec_add ext _ hb]; exact (map_isPanic _ _).trans (add_np ext he _ hinv op)

/-- the first outcome from a state reached by successful pushes: the operation's own check is an error value, and
`guarded` hands on the outcome of the unguarded operation (`C10.stepG_eq`) -/
theorem stepG_np (ext : Ext) (he : Lemmas.C16.ExtNP ext) (fields : List Field) (r0 : B) (h0 : newRoot fields = .ok r0)
    (root : B) (pending : List SVal) (hp : pending.foldlM (push ext) r0 = .ok root) (op : Op) :
    (stepG ext (some root) op).1.isPanic = false := by
  have hinv : Lemmas.C16.NPInv root := (Lemmas.C16.foldlM_np ext he pending r0 (Lemmas.C16.newRoot_npInv h0)).2 root hp
  obtain ⟨p, len, v, fs, cached, next, seen, rfl⟩ := Lemmas.C16.root_is_struct h0 hp
  rw [stepG_eq]
  rcases op.pre_cases ext with ⟨h, _⟩ | ⟨m, h, _⟩ <;> rw [h]
  · have := exec_np ext he hinv op
    simp only [guarded]
    cases h : op.exec ext _ with
    | ok r => rfl
    | error e => rw [h] at this; cases e <;> first | rfl | exact this
  · rfl
/-- **no operation of any history unwinds — also after a failed one.**  From the fresh builder of ANY field list, along ANY
history of `push` / `extend` / `Serializer` / build operations over ANY values, operations may fail and the history goes on:
every outcome is `ok` or an error, never a panic.  (The state a failed operation leaves behind is never used: the poisoned
builder refuses every later operation with an error, `C10.after_failure_refuses`.) -/
theorem runG_no_panic (ext : Ext) (he : Lemmas.C16.ExtNP ext) (fields : List Field) (r0 : B) (h0 : newRoot fields = .ok r0) :
    ∀ (ops : List Op) (root : B) (pending : List SVal), pending.foldlM (push ext) r0 = .ok root →
      ∀ o ∈ (runG ext (some root) ops).1, o.isPanic = false
  | [], _, _, _, o, ho => by simp [runG] at ho
  | op :: ops, root, pending, hp, o, ho => by
    simp only [runG, List.mem_cons] at ho
    rcases ho with rfl | ho
    · exact stepG_np ext he fields r0 h0 root pending hp op
    · rcases step_inv ext fields r0 h0 root pending hp op with h | ⟨root', h1, h2, _, _⟩
      · rw [h] at ho
        obtain ⟨msg, hm⟩ := (after_failure_refuses ext ops).2 o ho
        rw [hm]; rfl
      · rw [h1] at ho
        exact runG_no_panic ext he fields r0 h0 ops root' _ h2 o ho

/-- … from the builder `ArrayBuilder::from_marrow(fields)` makes -/
theorem history_no_panic (ext : Ext) (he : Lemmas.C16.ExtNP ext) (fields : List Field) (r0 : B) (h0 : newRoot fields = .ok r0)
    (ops : List Op) : ∀ o ∈ (runG ext (some r0) ops).1, o.isPanic = false :=
  runG_no_panic ext he fields r0 h0 ops r0 [] rfl

/-- non-vacuity: the history of Props/C10Fail.lean (a refused record in the middle, operations after it) -/
example : ∀ o ∈ (runG {} (some exRoot0) exFailOps).1, o.isPanic = false := by decide +kernel

end SaModel.Props.C16
