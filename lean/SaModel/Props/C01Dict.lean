import SaModel.Props.C01Obs
import SaModel.Lemmas.C03ObsSoundW
/-
C01 / C03 — dictionary columns whose value type is not Utf8 / LargeUtf8.

Which `Dictionary(k, V)` does `build_builder` accept?  (`outer_sequence_builder.rs`, arm `T::Dictionary`: the key must be one
of the eight integer types; the key builder is `build_builder(key, nullable = field.nullable)`, the value builder is
`build_builder(V, nullable = false)` — ANY value type `build_builder` accepts is accepted.)  Machine-checked about the model
`newDT` (tied to that arm by the translator obligation of C01):

  newDT_dict_ok_iff          `newDT path (Dictionary(k, V)) n md = ok b` ⇔ `k` is an integer type, the key builder and the value
                             builder `newDT (path.value) V false []` are built, and `b` is the dictionary builder over them
  newDT_dict_accepts         an integer key type and an accepted value type ⇒ the dictionary is accepted
  newDT_refuses_dict_key     a non-integer key type ⇒ refused                            (the only refusal of the arm itself)
  newDT_refuses_dict_value   a value type `build_builder` refuses ⇒ the dictionary is refused (Interval, RunEndEncoded, sparse
                             unions, Time32(µs) …: `newDT_refuses_dict_interval`, `_runEndEncoded` are instances)

The accepted value types fall into three classes, by what the value builder does with `serialize_str`:

  (a) stores the string            Utf8, LargeUtf8 (`coveredF`), Utf8View
  (b) refuses it (`B.refusesStr`)  Null, Boolean, integers, floats, Binary, LargeBinary, BinaryView, FixedSizeBinary, lists,
                                   fixed-size lists, maps, structs, unions: every non-null push into the dictionary fails
                                   (`Build.dict_push_refused`), the specification is undefined (`Build.interpDictStr_refused`)
  (c) parses / forwards it         Date32, Date64, Time32, Time64, Timestamp, Duration, Decimal128, Dictionary

The decode statements hold beyond Utf8 / LargeUtf8 values (`coveredF`).  The general statements are in Props/C01Obs.lean,
next to their `coveredF` instances:

  C01_build_decode''   `C01_build_decode'` with `coveredWF` for `coveredF`: classes (a) without Utf8View and (b), at any nesting
  C03_wfS_px, C03_wf_px  `C03_wfS'` / `C03_wf'` with `Safe ∨ coveredPF px` for `Safe ∨ coveredF` and, for `px = true`, `ExtNoEmpty ext`

and here:

  C03_wfS'', C03_wf''  the instance `px = false`: classes (a) INCLUDING Utf8View and (b); no hypothesis on the parsers
  C03_wf'''            the instance `px = true`: additionally class (c) WITHOUT the nested dictionary, for parsers that accept no
                       empty string (`ExtNoEmpty`; a theorem for the codec models: Props/C03Dict.lean `codecExt_noEmpty`, `C03_wf_codec''`)
  C01_build_decode'_of'', C03_wf'_of''   the `coveredF` statements as special cases

The step that looks at the value type is `Sound` of the final state (the placeholder key 0 of a dictionary with non-nullable keys
designates the dummy `""` that `into_array` appends — which needs a value builder that takes `""`).  For class (b) the
placeholder push FAILS, so a successful `to_marrow` never went through it (`Lemmas.C03.Sound_of_finishH`); for the parsed
kinds of class (c) it fails as well when the parsers refuse `""` (`Lemmas.C03.pushScalar_parsesStr_empty`).

Not covered — see `notes/wave10-dict.md`: class (c) and Utf8View for C01 (the state fact "values decoded = index entries
interpreted at V" depends on `ext` and is not part of `WFB` / `WFH`); a nested dictionary as value type for C03 outside `Safe`
(the model's `finish` discards the rows the placeholder push appends to the inner dictionary: `appendEmptyStr` is the identity
on a dictionary array; the crate succeeds there).
-/
namespace SaModel.Props.C01
open SaModel SaModel.Build SaModel.Spec

/-! ## which dictionaries `build_builder` accepts -/

theorem newDT_intKey (path : String) (k : DataType) (n : Bool) (hk : isIntDT k = true) :
    ∃ kb, newDT path k n [] = .ok kb := by
  obtain ⟨t, _, h⟩ := Build.newDT_int hk
  exact ⟨_, h path n []⟩

/-- `build_builder` on `Dictionary(k, V)`: exactly an integer key type and an accepted value type (built non-nullable,
without metadata, at `path.value`) -/
theorem newDT_dict_ok_iff (path : String) (k v : DataType) (n : Bool) (md : Metadata) (b : B) :
    newDT path (.dictionary k v) n md = .ok b ↔
      isIntDT k = true ∧ ∃ kb vb, newDT (path ++ ".key") k n [] = .ok kb ∧
        newDT (path ++ ".value") v false [] = .ok vb ∧ b = .dictionary path kb vb [] := by
  constructor
  · intro h
    simp only [newDT] at h
    split at h
    case isFalse => simp [ctx_ok, fail] at h
    rename_i hik
    obtain ⟨kb, h1, h⟩ := (bind_ok _ _ _).1 h
    obtain ⟨vb, h2, h⟩ := (bind_ok _ _ _).1 h
    cases h
    exact ⟨hik, kb, vb, h1, h2, rfl⟩
  · rintro ⟨hik, kb, vb, h1, h2, rfl⟩
    simp only [newDT, hik, if_true, h1, h2, bind, Except.bind, pure, Except.pure]

/-- an integer key type and an accepted value type: the dictionary is accepted, whatever the value type -/
theorem newDT_dict_accepts (path : String) (k v : DataType) (n : Bool) (md : Metadata) (vb : B)
    (hk : isIntDT k = true) (hv : newDT (path ++ ".value") v false [] = .ok vb) :
    ∃ kb, newDT path (.dictionary k v) n md = .ok (.dictionary path kb vb []) := by
  obtain ⟨kb, h1⟩ := newDT_intKey (path ++ ".key") k n hk
  exact ⟨kb, (newDT_dict_ok_iff path k v n md _).2 ⟨hk, kb, vb, h1, hv, rfl⟩⟩

/-- a key type that is not an integer type is refused -/
theorem newDT_refuses_dict_key (path : String) (k v : DataType) (n : Bool) (md : Metadata) (hk : isIntDT k = false) (b : B) :
    newDT path (.dictionary k v) n md ≠ .ok b := by
  intro h
  have := ((newDT_dict_ok_iff path k v n md b).1 h).1
  rw [hk] at this; cases this

/-- a value type `build_builder` refuses makes the dictionary refused -/
theorem newDT_refuses_dict_value (path : String) (k v : DataType) (n : Bool) (md : Metadata)
    (hv : ∀ vb, newDT (path ++ ".value") v false [] ≠ .ok vb) (b : B) :
    newDT path (.dictionary k v) n md ≠ .ok b := by
  intro h
  obtain ⟨_, kb, vb, _, h2, _⟩ := (newDT_dict_ok_iff path k v n md b).1 h
  exact hv vb h2

theorem newDT_refuses_dict_interval (path : String) (k : DataType) (u : IntervalUnit) (n : Bool) (md : Metadata) (b : B) :
    newDT path (.dictionary k (.interval u)) n md ≠ .ok b :=
  newDT_refuses_dict_value path k _ n md (fun vb => newDT_refusedHead (dt := .interval u) rfl _ _ _ vb) b

theorem newDT_refuses_dict_runEndEncoded (path : String) (k : DataType) (r w : Field) (n : Bool) (md : Metadata) (b : B) :
    newDT path (.dictionary k (.runEndEncoded r w)) n md ≠ .ok b :=
  newDT_refuses_dict_value path k _ n md (fun vb => newDT_refusedHead (dt := .runEndEncoded r w) rfl _ _ _ vb) b

/-- accepted, outside `coveredF`: one value type of each class — (a) Utf8View, (b) Int32 / Binary / a struct, (c) Date32 / a
nested dictionary -/
example : (newDT "$.d" (.dictionary .uint8 .utf8View) false []).isOk = true ∧
    (newDT "$.d" (.dictionary .int8 .int32) true []).isOk = true ∧
    (newDT "$.d" (.dictionary .uint32 .binary) false []).isOk = true ∧
    (newDT "$.d" (.dictionary .int16 (.struct (.cons (.mk "a" .utf8 true []) .nil))) false []).isOk = true ∧
    (newDT "$.d" (.dictionary .int64 .date32) false []).isOk = true ∧
    (newDT "$.d" (.dictionary .uint16 (.dictionary .int8 .utf8)) false []).isOk = true ∧
    (newDT "$.d" (.dictionary .utf8 .utf8) false []).isOk = false := by decide +kernel

/-! ## the schema predicates -/

/-- `coveredF ⊆ coveredWF ⊆ coveredPF` -/
theorem coveredPF_of_coveredF {px : Bool} {fields : List Field} (h : fields.all Build.coveredF = true) :
    fields.all (Lemmas.C03.coveredPF px) = true := Lemmas.C03.all_coveredPF_of_coveredF h

/-- what `coveredW` excludes at a dictionary: exactly an integer key with a class (c) value type or Utf8View -/
theorem coveredW_dict (k v : DataType) :
    coveredW (.dictionary k v) = (!isIntDT k || (!dictValOpen v && coveredW v)) := by simp only [coveredW]

/-- what `coveredP px` excludes at a dictionary: exactly an integer key with a nested Dictionary as value type or — for
`px = false` — a parsed value type (Date32, Date64, Time32, Time64, Timestamp, Duration, Decimal128) -/
theorem coveredP_dict (px : Bool) (k v : DataType) :
    Lemmas.C03.coveredP px (.dictionary k v) =
      (!isIntDT k || (!Lemmas.C03.dictValExcl px v && Lemmas.C03.coveredP px v)) := by
  simp only [Lemmas.C03.coveredP]

/-- `dictValExcl`, by cases -/
example : Lemmas.C03.dictValExcl false .date32 = true ∧ Lemmas.C03.dictValExcl true .date32 = false ∧
    Lemmas.C03.dictValExcl true (.dictionary .int8 .utf8) = true ∧ Lemmas.C03.dictValExcl false .utf8View = false ∧
    Lemmas.C03.dictValExcl false .int32 = false := by decide

/-! ## C01 -/

/-- `C01_build_decode'` (Props/C01Obs.lean) is proved as the special case `coveredF ⊆ coveredWF` of `C01_build_decode''`: its statement again -/
theorem C01_build_decode'_of'' (ext : Ext) (fields : List Field) (rows : List SVal) (arrs : List Arr)
    (hschema : ∀ f ∈ fields, Lemmas.C03.SchemaOKF f)
    (hcov : fields.all Build.coveredF = true)
    (hraw : ∀ x ∈ rows, Build.structStreamsAlternate x = true)
    (hnar : (∀ x ∈ rows, Build.noRaw x = true) ∨ Build.narrowRoot fields = true)
    (h : toMarrow ext fields rows = .ok arrs) :
    arrs.length = fields.length ∧
    ∃ cols : List (String × List LVal),
      arrs.map decodeAll = cols.map (fun c => c.2.map .ok) ∧
      cols.map (·.1) = fields.map (·.name) ∧
      (∀ c ∈ cols, c.2.length = rows.length) ∧
      ∀ (i : Nat) (hi : i < rows.length),
        interpRow ext fields rows[i] = .ok (.struct (LFields.ofList (cols.map fun c => (c.1, c.2.getD i .null)))) :=
  C01_build_decode' ext fields rows arrs hschema hcov hraw hnar h

/-! ### non-vacuity of `C01_build_decode''` outside `coveredF` -/

/-- `d: Dictionary(Int8, Int32)?` (nullable keys, a value builder that refuses strings) and
`l: List<Dictionary(UInt8, Binary)>` (NON-nullable keys: the lists stay empty) -/
def exDictRefusingFields : List Field :=
  [.mk "d" (.dictionary .int8 .int32) true [],
   .mk "l" (.list (.mk "element" (.dictionary .uint8 .binary) false [])) false []]
def exDictRefusingRows : List SVal :=
  [.record "R" (.cons "d" 0 .none (.cons "l" 0 (.seq .nil) .nil)),
   .record "R" (.cons "d" 0 .unit (.cons "l" 0 (.seq .nil) .nil))]

theorem exDictRefusing_ok : (toMarrow {} exDictRefusingFields exDictRefusingRows).isOk = true := by decide +kernel

example : exDictRefusingFields.all Build.coveredWF = true ∧ exDictRefusingFields.all Build.coveredF = false := by
  decide +kernel

/-- every hypothesis of `C01_build_decode''` discharged on a run that succeeds -/
example : ∀ arrs, toMarrow {} exDictRefusingFields exDictRefusingRows = .ok arrs →
    arrs.length = exDictRefusingFields.length ∧
    ∃ cols : List (String × List LVal), arrs.map decodeAll = cols.map (fun c => c.2.map .ok) ∧
      cols.map (·.1) = exDictRefusingFields.map (·.name) ∧ (∀ c ∈ cols, c.2.length = exDictRefusingRows.length) ∧
      ∀ (i : Nat) (hi : i < exDictRefusingRows.length), interpRow {} exDictRefusingFields exDictRefusingRows[i] =
        .ok (.struct (LFields.ofList (cols.map fun c => (c.1, c.2.getD i .null)))) := by
  intro arrs h
  refine C01_build_decode'' {} exDictRefusingFields exDictRefusingRows arrs ?_ (by decide +kernel) (by decide +kernel)
    (Or.inl (by decide +kernel)) h
  simp [exDictRefusingFields, Lemmas.C03.SchemaOKF, Lemmas.C03.SchemaOK, Lemmas.C03.SchemaOKFs]

/-- what the run holds: the dictionary column reads null, null; the list column two empty lists -/
example : (do let root ← runRows {} exDictRefusingFields exDictRefusingRows; pure (decRoot root) : R (List (List LVal))) =
    .ok [[.null, .null], [.list .nil, .list .nil]] := by decide +kernel

/-! ## C03 -/

/-- **`C03_wfS'` on `Safe ∨ coveredPF false`** (value types that store or refuse strings; no hypothesis on the parsers) -/
theorem C03_wfS'' (ext : Ext) (fields : List Field) (rows : List SVal) (arrs : List Arr)
    (hschema : ∀ f ∈ fields, Lemmas.C03.SchemaOKF f)
    (hsafe : (∀ root0, newRoot fields = .ok root0 → Safe root0) ∨ fields.all (Lemmas.C03.coveredPF false) = true)
    (hext : Lemmas.C03.ExtOK ext)
    (hrows : ∀ x ∈ rows, Lemmas.C03.SValOK x)
    (h : toMarrow ext fields rows = .ok arrs) :
    arrs.length = fields.length ∧
    ∀ (j : Nat) (f : Field) (a : Arr), fields[j]? = some f → arrs[j]? = some a →
      WFS f a = true ∧ (decodeAll a).length = rows.length :=
  C03_wfS_px false ext (fun hpx => by cases hpx) fields rows arrs hschema hsafe hext hrows h

/-- **`C03_wf'` on `Safe ∨ coveredPF false`** -/
theorem C03_wf'' (ext : Ext) (fields : List Field) (rows : List SVal) (arrs : List Arr)
    (hschema : ∀ f ∈ fields, Lemmas.C03.SchemaOKF f)
    (hplain : ∀ f ∈ fields, Lemmas.C03.PlainF f)
    (hsafe : (∀ root0, newRoot fields = .ok root0 → Safe root0) ∨ fields.all (Lemmas.C03.coveredPF false) = true)
    (hext : Lemmas.C03.ExtOK ext)
    (hrows : ∀ x ∈ rows, Lemmas.C03.SValOK x)
    (h : toMarrow ext fields rows = .ok arrs) :
    arrs.length = fields.length ∧
    ∀ (j : Nat) (f : Field) (a : Arr), fields[j]? = some f → arrs[j]? = some a →
      WF f a = true ∧ (decodeAll a).length = rows.length :=
  C03_wf_px false ext (fun hpx => by cases hpx) fields rows arrs hschema hplain hsafe hext hrows h

/-- **`C03_wf'` on `Safe ∨ coveredPF true`, for parsers that accept no empty string** (`ExtNoEmpty ext`: what chrono, the span
parser and the decimal parser do; a theorem for the codec models, `Props.C03.codecExt_noEmpty`).  Admitted in addition: the
PARSED value types Date32, Date64, Time32, Time64, Timestamp, Duration, Decimal128 — with non-nullable keys hidden below a null
the placeholder `serialize_str("")` of `into_array` fails on them, so no successful run took that branch.  Excluded by both
alternatives: only a NESTED dictionary as the value type of a dictionary with non-nullable keys below a nullable struct /
fixed-size list. -/
theorem C03_wf''' (ext : Ext) (hne : Lemmas.C03.ExtNoEmpty ext) (fields : List Field) (rows : List SVal) (arrs : List Arr)
    (hschema : ∀ f ∈ fields, Lemmas.C03.SchemaOKF f)
    (hplain : ∀ f ∈ fields, Lemmas.C03.PlainF f)
    (hsafe : (∀ root0, newRoot fields = .ok root0 → Safe root0) ∨ fields.all (Lemmas.C03.coveredPF true) = true)
    (hext : Lemmas.C03.ExtOK ext)
    (hrows : ∀ x ∈ rows, Lemmas.C03.SValOK x)
    (h : toMarrow ext fields rows = .ok arrs) :
    arrs.length = fields.length ∧
    ∀ (j : Nat) (f : Field) (a : Arr), fields[j]? = some f → arrs[j]? = some a →
      WF f a = true ∧ (decodeAll a).length = rows.length :=
  C03_wf_px true ext (fun _ => hne) fields rows arrs hschema hplain hsafe hext hrows h

/-- `C03_wf'` is the special case `coveredF ⊆ coveredPF` -/
theorem C03_wf'_of'' (ext : Ext) (fields : List Field) (rows : List SVal) (arrs : List Arr)
    (hschema : ∀ f ∈ fields, Lemmas.C03.SchemaOKF f)
    (hplain : ∀ f ∈ fields, Lemmas.C03.PlainF f)
    (hsafe : (∀ root0, newRoot fields = .ok root0 → Safe root0) ∨ fields.all Build.coveredF = true)
    (hext : Lemmas.C03.ExtOK ext)
    (hrows : ∀ x ∈ rows, Lemmas.C03.SValOK x)
    (h : toMarrow ext fields rows = .ok arrs) :
    arrs.length = fields.length ∧
    ∀ (j : Nat) (f : Field) (a : Arr), fields[j]? = some f → arrs[j]? = some a →
      WF f a = true ∧ (decodeAll a).length = rows.length :=
  C03_wf'' ext fields rows arrs hschema hplain (hsafe.imp id coveredPF_of_coveredF) hext hrows h

/-! ### non-vacuity of `C03_wf''` outside `Safe` AND outside `coveredF`

`{s: Struct{d: Dictionary(UInt8, Utf8View)}?}` — non-nullable keys below a nullable struct (outside `Safe`), a Utf8View value
type (outside `coveredF`, inside `coveredPF`).  Records `None`, `{d: "a"}`, `None`; and the single record `None`, where the
finished dictionary consists of the dummy value alone. -/

def exViewFields : List Field :=
  [.mk "s" (.struct (.cons (.mk "d" (.dictionary .uint8 .utf8View) false []) .nil)) true []]
def exViewRows : List SVal :=
  [.record "R" (.cons "s" 0 .none .nil),
   .record "R" (.cons "s" 0 (.some (.record "S" (.cons "d" 0 (.str "a") .nil))) .nil),
   .record "R" (.cons "s" 0 .none .nil)]

theorem exView_not_safe : ∀ root0, newRoot exViewFields = .ok root0 → ¬ Safe root0 := by
  intro root0 h0
  rw [show newRoot exViewFields = .ok (.struct "$" 0 none
    (.cons (.struct "$.s" 0 (some [])
        (.cons (.dictionary "$.s.d" (.leaf "$.s.d.key" (.int .u8) none []) (.bytesView "$.s.d.value" .utf8View none [] []) [])
          ⟨"d", false, []⟩ .nil) [none] 0 [false]) ⟨"s", true, []⟩ .nil) [none] 0 [false]) from by decide] at h0
  cases h0
  simp [Safe, SafeL, DefSafe, DefSafeL, B.isNullable]

theorem exView_ok : (toMarrow {} exViewFields exViewRows).isOk = true ∧
    (toMarrow {} exViewFields [.record "R" (.cons "s" 0 .none .nil)]).isOk = true := by decide +kernel

example : exViewFields.all (Lemmas.C03.coveredPF false) = true ∧ exViewFields.all Build.coveredF = false ∧
    exViewFields.all Build.coveredWF = false := by decide +kernel

theorem exExtOK : Lemmas.C03.ExtOK {} := Props.C03.extOK_default

/-- every hypothesis of `C03_wf''` discharged, through the second alternative -/
example : ∀ arrs, toMarrow {} exViewFields exViewRows = .ok arrs → arrs.length = exViewFields.length ∧
    ∀ (j : Nat) (f : Field) (a : Arr), exViewFields[j]? = some f → arrs[j]? = some a →
      WF f a = true ∧ (decodeAll a).length = exViewRows.length := by
  intro arrs h
  refine C03_wf'' {} exViewFields exViewRows arrs ?_ ?_ (Or.inr (by decide +kernel)) exExtOK ?_ h
  · simp [exViewFields, Lemmas.C03.SchemaOKF, Lemmas.C03.SchemaOK, Lemmas.C03.SchemaOKFs]
  · simp [exViewFields, Lemmas.C03.PlainF, Lemmas.C03.PlainDT, Lemmas.C03.PlainFs]
  · intro x hx
    simp only [exViewRows, List.mem_cons, List.not_mem_nil, or_false] at hx
    rcases hx with rfl | rfl | rfl <;>
      simp [Lemmas.C03.SValOK, Lemmas.C03.SFieldsOK, Lemmas.C03.ScalarOK]

/-- … and on the refusing schema of `C01_build_decode''` (which is `Safe` as well: both alternatives hold there) -/
example : ∀ arrs, toMarrow {} exDictRefusingFields exDictRefusingRows = .ok arrs →
    arrs.length = exDictRefusingFields.length ∧
    ∀ (j : Nat) (f : Field) (a : Arr), exDictRefusingFields[j]? = some f → arrs[j]? = some a →
      WF f a = true ∧ (decodeAll a).length = exDictRefusingRows.length := by
  intro arrs h
  refine C03_wf'' {} exDictRefusingFields exDictRefusingRows arrs ?_ ?_ (Or.inr (by decide +kernel)) exExtOK ?_ h
  · simp [exDictRefusingFields, Lemmas.C03.SchemaOKF, Lemmas.C03.SchemaOK, Lemmas.C03.SchemaOKFs]
  · simp [exDictRefusingFields, Lemmas.C03.PlainF, Lemmas.C03.PlainDT, Lemmas.C03.PlainFs]
  · intro x hx
    simp only [exDictRefusingRows, List.mem_cons, List.not_mem_nil, or_false] at hx
    rcases hx with rfl | rfl <;>
      simp [Lemmas.C03.SValOK, Lemmas.C03.SFieldsOK, Lemmas.C03.SValsOK, Lemmas.C03.ScalarOK]

/-- the spurious refusal stays outside every statement: a class (b) dictionary with NON-nullable keys hidden below a null
struct is refused by `into_array` (model and crate: `corpus/build/hidden_rows.jsonl`, cases `corpus-c01e-placeholder-*`) -/
example : (toMarrow {} [.mk "s" (.struct (.cons (.mk "d" (.dictionary .uint32 .binary) false []) .nil)) true []]
    [.record "R" (.cons "s" 0 .none .nil)]).isErr = true := by decide +kernel

end SaModel.Props.C01
