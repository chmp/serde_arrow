import SaModel.Lemmas.C14Span
import SaModel.Lemmas.C09Chars
import SaModel.Codec.Time
import SaModel.Lemmas.C14DateStr
/-
C14 — date, time, timestamp and duration conversions are exact.

Property theorems.  Models: SaModel/Codec/Span.lean (serde_arrow/src/internal/chrono.rs), Calendar.lean,
Time.lean (the date / time / timestamp / duration builders and readers).  Specification definitions used in
the statements: `specDuration`, `totalNanos`, `fracNanos` (Lemmas/C14Span.lean), `instantNanos` (below).
chrono's parsers and the proleptic Gregorian calendar are EXTERNAL: they appear in the statements as the named
model functions `parseNaiveTime`, `parseNaiveDate`, `daysFromCivil` … whose agreement with chrono / jiff is
checked by the `temporal` correspondence suite, not proved.  What IS proved about the calendar model: the two
Hinnant algorithms are mutually inverse bijections between ℤ and the valid civil dates (`days_civil_roundtrip`,
`civil_days_roundtrip`, `civilFromDays_valid`), and the parsers (model) read every string the readers (model)
produce back to the stored integer (`date_roundtrip`, `timestamp_roundtrip`).
-/
namespace SaModel.Props.C14
open SaModel SaModel.Codec

/-! ## spans and durations -/

/-- **span_parse_exact** (value): a parsed span converts to exactly `sign · ⌊totalNanos / nsPer unit⌋`, where
`totalNanos` takes *every* sub-second digit into account (`fracNanos = ⌊0.f · 10^9⌋`): digits beyond the ninth
are dropped, the magnitude is truncated to the unit -/
theorem span_parse_exact (s : List Char) (sp : Span) (u : TimeUnit) (v : Int)
    (hp : parseSpan s = .ok sp) (hv : sp.toArrowDuration u = .ok v) :
    v = (if sp.sign = some '-' then -1 else 1) * ((totalNanos sp / u.nsPer : Nat) : Int) ∧
      optVal sp.year = 0 ∧ optVal sp.month = 0 ∧ inI64 v = true := by
  have hd := parseSpan_digits hp
  cases hs : specDuration sp u with
  | none =>
    obtain ⟨m, e⟩ := toArrowDuration_err sp u hd hs
    rw [e] at hv; cases hv
  | some v' =>
    have e := toArrowDuration_ok sp u hd v' hs
    rw [e] at hv; cases hv
    unfold specDuration at hs
    split at hs
    · cases hs
    · rename_i hym
      split at hs
      · rename_i hin
        cases hs
        refine ⟨?_, by omega, by omega, hin⟩
        unfold specSigned specMagnitude
        split <;> omega
      · cases hs

/-- **span_parse_exact** (outcome): for a parsed span the conversion succeeds exactly when the specification
defines a value … -/
theorem span_ok_iff (s : List Char) (sp : Span) (u : TimeUnit) (v : Int) (hp : parseSpan s = .ok sp) :
    sp.toArrowDuration u = .ok v ↔ specDuration sp u = some v := by
  have hd := parseSpan_digits hp
  constructor
  · intro hv
    cases hs : specDuration sp u with
    | none => obtain ⟨m, e⟩ := toArrowDuration_err sp u hd hs; rw [e] at hv; cases hv
    | some v' => have e := toArrowDuration_ok sp u hd v' hs; rw [e] at hv; cases hv; rfl
  · exact toArrowDuration_ok sp u hd v

/-- … and is an *error* (never a panic) exactly when years / months are non-zero or the exact result is
outside i64 -/
theorem span_err_iff (s : List Char) (sp : Span) (u : TimeUnit) (hp : parseSpan s = .ok sp) :
    (∃ m, sp.toArrowDuration u = .error (.err m)) ↔
      (optVal sp.year ≠ 0 ∨ optVal sp.month ≠ 0 ∨ inI64 (specSigned sp u) = false) := by
  have hd := parseSpan_digits hp
  constructor
  · intro ⟨m, hm⟩
    cases hs : specDuration sp u with
    | some v' => have e := toArrowDuration_ok sp u hd v' hs; rw [e] at hm; cases hm
    | none =>
      unfold specDuration at hs
      split at hs
      · rename_i h; omega
      · split at hs
        · cases hs
        · rename_i hin; right; right; simpa using hin
  · intro h
    apply toArrowDuration_err sp u hd
    unfold specDuration
    by_cases hym : optVal sp.year ≠ 0 ∨ optVal sp.month ≠ 0
    · rw [if_pos hym]
    · rw [if_neg hym]
      have : inI64 (specSigned sp u) = false := by
        rcases h with h | h | h
        · exact absurd (Or.inl h) hym
        · exact absurd (Or.inr h) hym
        · exact h
      rw [this]; rfl

/-- writing any string into a Duration column never panics -/
theorem span_no_panic (s : List Char) (u : TimeUnit) : (durationOfString s u).isPanic = false := by
  unfold durationOfString
  cases hp : parseSpan s with
  | error e =>
    unfold parseSpan at hp
    split at hp
    · cases hp
    · cases hp; rfl
  | ok sp =>
    simp only [bind, Except.bind]
    have hd := parseSpan_digits hp
    cases hs : specDuration sp u with
    | none => obtain ⟨m, e⟩ := toArrowDuration_err sp u hd hs; rw [e]; rfl
    | some v => rw [toArrowDuration_ok sp u hd v hs]; rfl

/-- sub-second digits beyond the ninth are dropped: the builder's nine-digit computation is the floor of the
exact fraction -/
theorem subsecond_digits_dropped (ds : List Char) (h : AllDigits ds) :
    digitsVal (ds.take 9) * 10 ^ (9 - (ds.take 9).length) = digitsVal ds * 10 ^ 9 / 10 ^ ds.length :=
  frac_take9 h

/-- a unit with `w` sub-second digits (`perSec = 10^w`, `nsPer = 10^(9-w)`): whole units and `w` padded digits are read back -/
theorem duration_roundtrip_frac (v : Int) (u : TimeUnit) (hv : inI64 v = true) (w : Nat) (hw : 0 < w ∧ w ≤ 9)
    (hp : u.perSec = 10 ^ w) (hn : u.nsPer = 10 ^ (9 - w)) :
    durationOfString ((if v < 0 then ['-'] else []) ++
      ("PT".toList ++ natDigits (v.natAbs / u.perSec) ++ ['.'] ++ padDigits w (v.natAbs % u.perSec) ++ ['s'])) u = .ok v := by
  unfold durationOfString
  rw [parse_format_frac _ _ _ w hw.1]
  simp only [bind, Except.bind]
  apply toArrowDuration_ok _ _ (by intro ds h; cases h; exact padDigits_allDigits _ _)
  apply specDuration_formatted v _ hv _ rfl rfl rfl
  simp only [totalNanos, secondsTotal, optVal, digitsVal_natDigits]
  rw [fracNanos_pad w _ hw.2 (by rw [← hp]; exact Nat.mod_lt _ u.perSec_pos), hn,
    show 1000000000 = u.perSec * u.nsPer from (u.perSec_mul_nsPer).symm, hn]
  have hns : 0 < 10 ^ (9 - w) := Nat.pow_pos (by decide)
  generalize 10 ^ (9 - w) = ns at hns ⊢
  simp only [Nat.zero_mul, Nat.zero_add, Nat.add_zero]
  rw [← Nat.mul_assoc, ← Nat.add_mul, Nat.mul_div_cancel _ hns, Nat.div_add_mod']

/-- **duration_roundtrip**: every i64 (including `i64::MIN`), formatted by the reader in any unit, is parsed
back by the builder to the same value -/
theorem duration_roundtrip (v : Int) (u : TimeUnit) (hv : inI64 v = true) :
    durationOfString (formatArrowDurationAsSpan v u) u = .ok v := by
  unfold formatArrowDurationAsSpan
  cases u with
  | second =>
    unfold durationOfString
    simp only [formatMagnitude]
    rw [parse_format_plain]
    simp only [bind, Except.bind]
    apply toArrowDuration_ok _ _ (by intro ds h; cases h)
    apply specDuration_formatted v _ hv _ rfl rfl rfl
    simp only [totalNanos, secondsTotal, optVal, fracNanos, digitsVal_natDigits, TimeUnit.nsPer]
    omega
  | millisecond => exact duration_roundtrip_frac v .millisecond hv 3 (by decide) rfl rfl
  | microsecond => exact duration_roundtrip_frac v .microsecond hv 6 (by decide) rfl rfl
  | nanosecond => exact duration_roundtrip_frac v .nanosecond hv 9 (by decide) rfl rfl

/-- the pinned conversion: overflow panics (#15, #30), ≥ 19 sub-second digits are a ParseIntError (#30), 28 digits
with leading zeros overflow `10_i64.pow`, `i64::MIN` cannot be formatted (#16) — and what the repaired code does -/
theorem span_pinned_defects :
    (durationOfStringPinned "P99999999999999999W".toList .second).isPanic = true ∧
    (durationOfString "P99999999999999999W".toList .second).isErr = true ∧
    (durationOfStringPinned "-PT9223372036.854775808s".toList .nanosecond).isPanic = true ∧
    durationOfString "-PT9223372036.854775808s".toList .nanosecond = .ok (-9223372036854775808) ∧
    (durationOfStringPinned "PT9223372036.854775808s".toList .nanosecond).isPanic = true ∧
    (durationOfString "PT9223372036.854775808s".toList .nanosecond).isErr = true ∧
    (durationOfStringPinned "PT1.12345678901234567890S".toList .millisecond).isErr = true ∧
    durationOfString "PT1.12345678901234567890S".toList .millisecond = .ok 1123 ∧
    (durationOfStringPinned "PT0.0000000000000000000000000001S".toList .second).isPanic = true ∧
    durationOfString "PT0.0000000000000000000000000001S".toList .second = .ok 0 ∧
    (formatArrowDurationAsSpanPinned (-9223372036854775808) .nanosecond).isPanic = true ∧
    formatArrowDurationAsSpan (-9223372036854775808) .nanosecond = "-PT9223372036.854775808s".toList := by
  simp only [SaModel.Lemmas.C09.toList_eq_charsOf]; decide +kernel

/-- non-vacuity: a span with every designator, lower case, negative -/
example : durationOfString "-p1w2dt3h4m5.6789s".toList .millisecond = .ok (-788645678) := by
  simp only [SaModel.Lemmas.C09.toList_eq_charsOf]; decide +kernel
example : (durationOfString "P1Y".toList .second).isErr = true := by simp only [SaModel.Lemmas.C09.toList_eq_charsOf]; decide +kernel
example : (durationOfString "PT1.S".toList .second).isErr = true := by simp only [SaModel.Lemmas.C09.toList_eq_charsOf]; decide +kernel

/-! ## time of day -/

theorem timeToUnits_exact (u : TimeUnit) (secs nanos : Nat) :
    timeToUnits u secs nanos = (secs * 1000000000 + nanos) / u.nsPer := by
  rw [← u.perSec_mul_nsPer, ← Nat.mul_assoc, Nat.add_comm, Nat.add_mul_div_right _ _ u.nsPer_pos, Nat.add_comm]
  rfl

theorem timeToUnits_range (u : TimeUnit) (secs nanos : Nat) (hs : secs < 86400) (h : nanos < 1000000000) :
    timeToUnits u secs nanos < 86400 * u.perSec :=
  Nat.lt_of_lt_of_le (Nat.add_lt_add_left (u.div_nsPer_lt h) _)
    (by rw [← Nat.succ_mul]; exact Nat.mul_le_mul_right _ hs)

theorem unitsToTime_timeToUnits (u : TimeUnit) (secs nanos : Nat) (hs : secs < 86400) (h : nanos < 1000000000) :
    unitsToTime u (timeToUnits u secs nanos) = some (secs, nanos / u.nsPer * u.nsPer) := by
  have hr := timeToUnits_range u secs nanos hs h
  have hx := u.div_nsPer_lt h
  unfold unitsToTime
  rw [if_pos ⟨Int.natCast_nonneg _, by omega⟩, Int.toNat_natCast]
  unfold timeToUnits
  rw [Nat.mul_comm secs, Nat.mul_add_div u.perSec_pos, Nat.mul_add_mod, Nat.div_eq_of_lt hx, Nat.mod_eq_of_lt hx, Nat.add_zero]

theorem timeToUnits_unitsToTime (u : TimeUnit) (ts : Int) (secs nanos : Nat) (h : unitsToTime u ts = some (secs, nanos)) :
    (timeToUnits u secs nanos : Int) = ts ∧ secs < 86400 ∧ nanos < 1000000000 := by
  unfold unitsToTime at h
  split at h
  · rename_i hr
    obtain ⟨n, rfl⟩ := Int.eq_ofNat_of_zero_le hr.1
    simp only [Int.toNat_natCast, Option.some.injEq, Prod.mk.injEq] at h
    obtain ⟨rfl, rfl⟩ := h
    have hn : n < 86400 * u.perSec := by omega
    refine ⟨?_, Nat.div_lt_of_lt_mul (by rwa [Nat.mul_comm]), ?_⟩
    · unfold timeToUnits
      rw [Nat.mul_div_cancel _ u.nsPer_pos, Nat.div_add_mod']
    · rw [← u.perSec_mul_nsPer]; exact Nat.mul_lt_mul_of_pos_right (Nat.mod_lt _ u.perSec_pos) u.nsPer_pos
  · cases h

theorem timeToString_ok_iff (u : TimeUnit) (ts : Int) :
    (∃ s, timeToString u ts = .ok s) ↔ (0 ≤ ts ∧ ts < 86400 * (u.perSec : Int)) := by
  unfold timeToString unitsToTime
  by_cases h : 0 ≤ ts ∧ ts < 86400 * (u.perSec : Int)
  · simp [h]
  · simp [h, fail]

theorem timeToString_no_panic (u : TimeUnit) (ts : Int) : (timeToString u ts).isPanic = false := by
  unfold timeToString
  split <;> rfl

theorem resolveTime_bounds {h mi : Nat} {sec ns : Option Nat} {secs nanos : Nat}
    (hr : resolveTime h mi sec ns = some (secs, nanos)) : secs < 86400 := by
  unfold resolveTime at hr
  split at hr
  · rename_i hb
    split at hr
    · cases hr; omega
    · split at hr
      · cases hr; omega
      · split at hr
        · cases hr; omega
        · cases hr
  · cases hr

theorem parseNaiveTime_bounds {s : List Char} {secs nanos : Nat} (h : parseNaiveTime s = .ok (secs, nanos)) :
    secs < 86400 := by
  unfold parseNaiveTime at h
  split at h
  · cases h
  · simp only at h
    split at h
    · split at h
      · rename_i hr; cases h; exact resolveTime_bounds hr
      · cases h
    · cases h

/-- what the time builder stores is the exact number of whole units since midnight, inside the Arrow range -/
theorem timeOfString_exact (ty : TimeTy) (u : TimeUnit) (s : List Char) (v : Int) (h : timeOfString ty u s = .ok v) :
    ∃ secs nanos, parseNaiveTime s = .ok (secs, nanos) ∧ secs < 86400 ∧ nanos < 1000000000 ∧
      v = ((secs * 1000000000 + nanos) / u.nsPer : Nat) ∧ 0 ≤ v ∧ v < 86400 * (u.perSec : Int) := by
  unfold timeOfString at h
  cases hp : parseNaiveTime s with
  | error e => rw [hp] at h; cases h
  | ok t =>
    obtain ⟨secs, nanos⟩ := t
    rw [hp] at h
    simp only [bind, Except.bind] at h
    have hs := parseNaiveTime_bounds hp
    split at h
    · cases h
    · rename_i hn
      split at h
      · cases h
        have hr := timeToUnits_range u secs nanos hs (by omega)
        refine ⟨secs, nanos, rfl, hs, by omega, ?_, by omega, by omega⟩
        rw [timeToUnits_exact]
      · cases h

theorem timeOfString_no_panic (ty : TimeTy) (u : TimeUnit) (s : List Char) : (timeOfString ty u s).isPanic = false := by
  unfold timeOfString
  cases hp : parseNaiveTime s with
  | error e =>
    have : ∃ m, e = .err m := by
      unfold parseNaiveTime at hp
      split at hp
      · cases hp; exact ⟨_, rfl⟩
      · simp only at hp
        split at hp
        · split at hp
          · cases hp
          · cases hp; exact ⟨_, rfl⟩
        · cases hp; exact ⟨_, rfl⟩
    obtain ⟨m, rfl⟩ := this
    rfl
  | ok t =>
    simp only [bind, Except.bind]
    split
    · rfl
    · split <;> rfl

/-- **time round trip**: every valid stored time value is formatted by the reader to a string that the builder's
parser (model of chrono's `NaiveTime::from_str`) reads back to exactly the same value, in every unit -/
theorem time_roundtrip (ty : TimeTy) (u : TimeUnit) (v : Int) (hv : 0 ≤ v ∧ v < 86400 * (u.perSec : Int))
    (hty : ty.inRange v = true) : ∃ s, timeToString u v = .ok s ∧ timeOfString ty u s = .ok v := by
  unfold timeToString
  cases ht : unitsToTime u v with
  | none => unfold unitsToTime at ht; rw [if_pos hv] at ht; cases ht
  | some p =>
    obtain ⟨secs, nanos⟩ := p
    obtain ⟨h1, h2, h3⟩ := timeToUnits_unitsToTime u v secs nanos ht
    refine ⟨_, rfl, ?_⟩
    unfold timeOfString
    rw [parseNaiveTime_formatTime secs nanos h2 h3]
    simp only [bind, Except.bind]
    rw [if_neg (by omega), h1, if_pos hty]

/-- pinned: the leap-second form is stored as 86400 s, outside the Arrow range `[0, 86400)` -/
theorem timeOfStringPinned_out_of_range :
    timeOfStringPinned .time32 .second "23:59:60".toList = .ok 86400 ∧
    timeOfString .time32 .second "23:59:60".toList = fail "Cannot represent the leap second as a time since midnight" := by
  simp only [SaModel.Lemmas.C09.toList_eq_charsOf]; decide +kernel

/-! ## timestamps -/

/-- nanoseconds since the epoch of a (non-leap) instant -/
def instantNanos (t : Instant) : Int := (t.days * 86400 + t.secs) * 1000000000 + t.nanos

theorem ok_of_ite {α : Type} {c : Prop} [Decidable c] {a v : α} {e : Fail}
    (h : (if c then (.ok a : R α) else .error e) = .ok v) : c ∧ a = v := by
  by_cases hc : c
  · rw [if_pos hc] at h; cases h; exact ⟨hc, rfl⟩
  · rw [if_neg hc] at h; cases h

theorem instantUnitsValue_eq (u : TimeUnit) (t : Instant) (hn : t.nanos < 1000000000) :
    instantUnitsValue u t = instantNanos t / (u.nsPer : Int) := by
  have hN : (u.nsPer : Int) ≠ 0 := by have := u.nsPer_pos; omega
  have h : instantNanos t = (t.nanos : Int) + (t.timestamp * u.perSec) * u.nsPer := by
    rw [Int.mul_assoc, u.perSec_mul_nsPer_int, Int.add_comm]; rfl
  rw [h, Int.add_mul_ediv_right _ _ hN, instantUnitsValue_uniform u t hn, Int.add_comm, Int.natCast_ediv]

/-- **timestamp_exact**: the stored value is the floor (toward −∞, also before the epoch) of the instant's
nanoseconds since the epoch divided by the unit (`Int./` is floor division for a positive divisor) -/
theorem timestamp_exact (u : TimeUnit) (t : Instant) (v : Int) (hn : t.nanos < 1000000000)
    (h : instantToUnits u t = .ok v) : v = instantNanos t / (u.nsPer : Int) ∧ inI64 v = true := by
  unfold instantToUnits at h
  by_cases hin : inI64 (instantUnitsValue u t) = true
  · rw [if_pos hin] at h; cases h
    exact ⟨instantUnitsValue_eq u t hn, hin⟩
  · rw [if_neg hin] at h; cases u <;> cases h

theorem inChronoDays_iff (z : Int) : inChronoDays z = true ↔ -96465292 ≤ z ∧ z ≤ 95026236 := by
  unfold inChronoDays chronoMinDays chronoMaxDays
  simp only [Bool.and_eq_true, decide_eq_true_eq]

/-- the reader splits a stored value by floor division: the instant it formats is exactly `ts` units -/
theorem unitsToInstant_spec (u : TimeUnit) (ts : Int) (t : Instant) (h : unitsToInstant u ts = some t) :
    instantNanos t = ts * (u.nsPer : Int) ∧ t.secs < 86400 ∧ t.nanos < 1000000000 ∧ inChronoDays t.days = true := by
  unfold unitsToInstant at h
  simp only at h
  split at h
  · rename_i hd
    cases h
    have hP : (0 : Int) < u.perSec := Int.ofNat_lt.2 u.perSec_pos
    have hr := Int.emod_lt_of_pos ts hP
    have hr0 := Int.emod_nonneg ts (Int.ne_of_gt hP)
    refine ⟨?_, show (ts / ↑u.perSec % 86400).toNat < 86400 by omega, ?_, hd⟩
    · -- days · 86400 + seconds of the day are the whole seconds `ts / perSec`; with the rest `ts % perSec` that is `ts`
      simp only [instantNanos]
      rw [show ts / ↑u.perSec / 86400 * 86400 + ↑(ts / ↑u.perSec % 86400).toNat = ts / u.perSec by omega,
        ← u.perSec_mul_nsPer_int, Int.natCast_mul, Int.toNat_of_nonneg hr0, ← Int.mul_assoc, ← Int.add_mul,
        Int.ediv_mul_add_emod]
    · rw [← u.perSec_mul_nsPer]
      exact Nat.mul_lt_mul_of_pos_right (by omega) u.nsPer_pos
  · cases h

theorem unitsToInstant_isSome_iff (u : TimeUnit) (ts : Int) :
    (unitsToInstant u ts).isSome = inChronoDays (ts / (u.perSec : Int) / 86400) := by
  unfold unitsToInstant
  simp only
  split <;> simp_all

/-- reading then writing in the same unit is the identity on every value the reader accepts -/
theorem instantToUnits_unitsToInstant (u : TimeUnit) (ts : Int) (t : Instant) (hts : inI64 ts = true)
    (h : unitsToInstant u ts = some t) : instantToUnits u t = .ok ts := by
  obtain ⟨h1, _, h3, _⟩ := unitsToInstant_spec u ts t h
  have hv : instantUnitsValue u t = ts := by
    rw [instantUnitsValue_eq u t h3, h1, Int.mul_ediv_cancel _ (by have := u.nsPer_pos; omega)]
  unfold instantToUnits
  rw [hv, if_pos hts]

/-- writing then reading gives the instant truncated to the unit (floor, also before the epoch) -/
theorem unitsToInstant_instantToUnits (u : TimeUnit) (t : Instant) (v : Int) (hd : inChronoDays t.days = true)
    (hs : t.secs < 86400) (hn : t.nanos < 1000000000) (h : instantToUnits u t = .ok v) :
    unitsToInstant u v = some { days := t.days, secs := t.secs, nanos := t.nanos / u.nsPer * u.nsPer } := by
  obtain ⟨hv, _⟩ := timestamp_exact u t v hn h
  subst hv
  unfold unitsToInstant
  simp only
  have key : (instantNanos t / (u.nsPer : Int)) / (u.perSec : Int) / 86400 = t.days ∧
      ((instantNanos t / (u.nsPer : Int)) / (u.perSec : Int) % 86400).toNat = t.secs ∧
      ((instantNanos t / (u.nsPer : Int)) % (u.perSec : Int)).toNat * u.nsPer = t.nanos / u.nsPer * u.nsPer := by
    -- the value is `timestamp · perSec + x` with `x = nanos / nsPer < perSec`
    have hx : ((t.nanos / u.nsPer : Nat) : Int) < u.perSec := Int.ofNat_lt.2 (u.div_nsPer_lt hn)
    have hx0 : (0 : Int) ≤ (t.nanos / u.nsPer : Nat) := Int.natCast_nonneg _
    have hP : (u.perSec : Int) ≠ 0 := by have := u.perSec_pos; omega
    rw [← instantUnitsValue_eq u t hn, instantUnitsValue_uniform u t hn, Int.add_comm, Int.add_mul_ediv_right _ _ hP,
      Int.add_mul_emod_self_right, Int.ediv_eq_zero_of_lt hx0 hx, Int.emod_eq_of_lt hx0 hx, Int.zero_add,
      Int.toNat_natCast]
    unfold Instant.timestamp
    omega
  rw [key.1, key.2.1, key.2.2, if_pos hd]

theorem timestampToString_ok_iff (u : TimeUnit) (utc : Bool) (ts : Int) :
    (∃ s, timestampToString u utc ts = .ok s) ↔ inChronoDays (ts / (u.perSec : Int) / 86400) = true := by
  unfold timestampToString
  rw [← unitsToInstant_isSome_iff]
  cases unitsToInstant u ts <;> simp [fail]

theorem timestampToString_no_panic (u : TimeUnit) (utc : Bool) (ts : Int) : (timestampToString u utc ts).isPanic = false := by
  unfold timestampToString
  split <;> rfl

/-- inside chrono's range `timestamp_millis` / `timestamp_micros` cannot overflow: the builder never panics -/
theorem instantToUnits_no_panic (u : TimeUnit) (t : Instant) (hd : inChronoDays t.days = true) (hs : t.secs < 86400)
    (hn : t.nanos < 2000000000) : (instantToUnits u t).isPanic = false := by
  rw [inChronoDays_iff] at hd
  unfold instantToUnits
  by_cases hin : inI64 (instantUnitsValue u t) = true
  · rw [if_pos hin]; rfl
  · rw [if_neg hin]
    cases u
    · exact absurd (by rw [inI64_iff]; simp only [instantUnitsValue, Instant.timestamp]; omega) hin
    · exact absurd (by rw [inI64_iff]; simp only [instantUnitsValue, Instant.timestamp, TimeUnit.perSec, TimeUnit.nsPer]; omega) hin
    · exact absurd (by rw [inI64_iff]; simp only [instantUnitsValue, Instant.timestamp, TimeUnit.perSec, TimeUnit.nsPer]; omega) hin
    · rfl

/-! ## dates -/

theorem daysFromCivil_bounds (y m d : Int) (hy : -262143 ≤ y ∧ y ≤ 262142) (hd : 1 ≤ d ∧ d ≤ 31) :
    -100000000 ≤ daysFromCivil y m d ∧ daysFromCivil y m d ≤ 100000000 := by
  rw [daysFromCivil_eq]
  have hy0 : y - 1 ≤ (if m ≤ 2 then y - 1 else y) ∧ (if m ≤ 2 then y - 1 else y) ≤ y := by split <;> omega
  generalize (if m ≤ 2 then y - 1 else y) = y0 at hy0 ⊢
  unfold yearStart monthStart
  omega

theorem parseNaiveDate_spec {s : List Char} {z : Int} (h : parseNaiveDate s = .ok z) :
    ∃ y m d, (-262143 ≤ y ∧ y ≤ 262142) ∧ validDate y m d = true ∧ z = daysFromCivil y m d := by
  unfold parseNaiveDate at h
  split at h
  · rename_i rest y m d _
    split at h
    · split at h
      · rename_i z' hr
        cases h
        unfold resolveDate at hr
        split at hr
        · rename_i hc
          cases hr
          exact ⟨y, m, d, ⟨hc.1, hc.2.1⟩, hc.2.2, rfl⟩
        · cases hr
      · cases h
    · cases h
  · cases h

/-- `dateOfString`, inverted: the parsed day count, in the range of the type, and the stored value -/
theorem dateOfString_inv {ty : DateTy} {s : List Char} {v : Int} (h : dateOfString ty s = .ok v) :
    ∃ days, parseNaiveDate s = .ok days ∧ ty.inRange days = true ∧ inI64 v = true ∧ v = days * ty.factor := by
  unfold dateOfString at h
  obtain ⟨days, hp, h⟩ := R.bind_ok_inv h
  split at h
  · split at h
    · cases h; exact ⟨days, hp, ‹_›, ‹_›, rfl⟩
    · cases h
  · cases h

/-- **date32_exact / date64_exact**: the stored value is the day count of the parsed civil date (relative to the
calendar model), times 86 400 000 for Date64 (never a panic: `dateOfString_no_panic`) -/
theorem date_exact (ty : DateTy) (s : List Char) (v : Int) (h : dateOfString ty s = .ok v) :
    ∃ y m d, validDate y m d = true ∧ parseNaiveDate s = .ok (daysFromCivil y m d) ∧ v = daysFromCivil y m d * ty.factor := by
  obtain ⟨z, hp, _, _, rfl⟩ := dateOfString_inv h
  obtain ⟨y, m, d, _, hv, rfl⟩ := parseNaiveDate_spec hp
  exact ⟨y, m, d, hv, hp, rfl⟩

theorem parseNaiveDate_no_panic (s : List Char) : (parseNaiveDate s).isPanic = false := by
  unfold parseNaiveDate
  split
  · split
    · split <;> rfl
    · rfl
  · rfl

theorem dateOfString_no_panic (ty : DateTy) (s : List Char) : (dateOfString ty s).isPanic = false := by
  unfold dateOfString
  cases hp : parseNaiveDate s with
  | error e =>
    have := parseNaiveDate_no_panic s
    rw [hp] at this
    cases e with
    | err m => rfl
    | errCtx m a => rfl
    | panic m => cases this
  | ok z =>
    simp only [bind, Except.bind]
    obtain ⟨y, m, d, hy, hv, rfl⟩ := parseNaiveDate_spec hp
    have hb := daysFromCivil_bounds y m d hy (validDate_bounds hv).2
    split
    · rw [if_pos]; rfl
      rw [inI64_iff]
      cases ty <;> simp only [DateTy.factor] <;> omega
    · rfl

theorem dateToString_ok_iff (ty : DateTy) (v : Int) :
    (∃ s, dateToString ty v = .ok s) ↔ inChronoDays (v / ty.factor) = true := by
  unfold dateToString
  simp only
  split <;> simp_all [fail]

theorem dateToString_no_panic (ty : DateTy) (v : Int) : (dateToString ty v).isPanic = false := by
  unfold dateToString
  simp only
  split <;> rfl

/-- pinned reader: out-of-range day counts unwind (#17), and Date64 values before the epoch that are not whole
days are put on the following day -/
theorem dateToStringPinned_defects :
    (dateToStringPinned .date32 2147483647).isPanic = true ∧
    (dateToStringPinned .date64 9223372036854775807).isPanic = true ∧
    dateToStringPinned .date64 (-1) = .ok "1970-01-01".toList ∧
    dateToString .date64 (-1) = .ok "1969-12-31".toList ∧
    (dateToString .date32 2147483647).isErr = true := by
  simp only [SaModel.Lemmas.C09.toList_eq_charsOf]; decide +kernel

/-! ## calendar model (external) -/

/-- shifting the year by 400·k shifts the day count by 146097·k -/
theorem daysFromCivil_shift (y m d k : Int) : daysFromCivil (y + 400 * k) m d = daysFromCivil y m d + 146097 * k := by
  rw [daysFromCivil_eq, daysFromCivil_eq,
    show (if m ≤ 2 then y + 400 * k - 1 else y + 400 * k) = 400 * k + (if m ≤ 2 then y - 1 else y) by split <;> omega,
    yearStart_add_era]
  omega

theorem civilFromDays_shift (z k : Int) :
    civilFromDays (z + 146097 * k) = ((civilFromDays z).1 + 400 * k, (civilFromDays z).2.1, (civilFromDays z).2.2) := by
  obtain ⟨y, doy, h0, h1, rfl⟩ := exists_year_doy z
  have h1' : yearStart (400 * k + y) + doy < yearStart (400 * k + y + 1) := by
    rw [Int.add_assoc, yearStart_add_era, yearStart_add_era]; omega
  rw [civilFromDays_of_year_doy y doy h0 h1,
    show yearStart y + doy - 719468 + 146097 * k = yearStart (400 * k + y) + doy - 719468 by rw [yearStart_add_era]; omega,
    civilFromDays_of_year_doy _ doy h0 h1']
  simp only [Prod.mk.injEq, and_true]
  split <;> omega

/-- `daysFromCivil` applied to a triple -/
def daysOfCivil (c : Int × Int × Int) : Int := daysFromCivil c.1 c.2.1 c.2.2

/-- the leap-year rule of the model is the Gregorian one, for every (also negative) year -/
theorem isLeapYear_spec (y : Int) : isLeapYear y = true ↔ (y % 4 = 0 ∧ (y % 100 ≠ 0 ∨ y % 400 = 0)) :=
  isLeapYear_iff y

/-- the month lengths of the model: 31 / 30 days, February 28 or 29 -/
theorem daysInMonth_spec (y m : Int) :
    (m = 2 → daysInMonth y m = if isLeapYear y then 29 else 28) ∧
    ((m = 4 ∨ m = 6 ∨ m = 9 ∨ m = 11) → daysInMonth y m = 30) ∧
    ((m = 1 ∨ m = 3 ∨ m = 5 ∨ m = 7 ∨ m = 8 ∨ m = 10 ∨ m = 12) → daysInMonth y m = 31) := by
  unfold daysInMonth
  refine ⟨fun h => by rw [if_pos h], fun h => by rw [if_neg (by omega), if_pos h],
    fun h => by rw [if_neg (by omega), if_neg (by omega)]⟩

/-- **days_civil_roundtrip**: for every day count `z ∈ ℤ` (before and after the epoch, every era),
`daysFromCivil (civilFromDays z) = z`.  No era table: inside the era the year-of-era formula is monotone and a
400-row kernel table fixes it on the first and last day of every year (`Lemmas/C14Cal.lean`). -/
theorem days_civil_roundtrip (z : Int) : daysOfCivil (civilFromDays z) = z :=
  daysFromCivil_civilFromDays z

/-- the civil date of every day count is a valid date of the proleptic Gregorian calendar -/
theorem civilFromDays_valid (z : Int) :
    1 ≤ (civilFromDays z).2.1 ∧ (civilFromDays z).2.1 ≤ 12 ∧ 1 ≤ (civilFromDays z).2.2 ∧
      (civilFromDays z).2.2 ≤ daysInMonth (civilFromDays z).1 (civilFromDays z).2.1 :=
  (validDate_iff _ _ _).1 (Codec.civilFromDays_valid z)

/-- **civil_days_roundtrip**: the converse on valid civil dates (any year in ℤ, month 1–12, day 1 … length of
the month with the Gregorian leap-year rule, see `daysInMonth_spec` / `isLeapYear_spec`) -/
theorem civil_days_roundtrip (y m d : Int) (hm : 1 ≤ m ∧ m ≤ 12) (hd : 1 ≤ d ∧ d ≤ daysInMonth y m) :
    civilFromDays (daysFromCivil y m d) = (y, m, d) :=
  civilFromDays_daysFromCivil y m d ((validDate_iff y m d).2 ⟨hm.1, hm.2, hd.1, hd.2⟩)

/-- so the two algorithms are mutually inverse bijections ℤ ↔ valid civil dates; in particular `daysFromCivil` is
injective on valid dates -/
theorem daysFromCivil_injective (y m d y' m' d' : Int) (h : validDate y m d = true) (h' : validDate y' m' d' = true)
    (he : daysFromCivil y m d = daysFromCivil y' m' d') : (y, m, d) = (y', m', d') := by
  rw [← civilFromDays_daysFromCivil y m d h, ← civilFromDays_daysFromCivil y' m' d' h', he]

/-- day counts inside chrono's range have years inside chrono's range (−262143 … 262142) -/
theorem civilFromDays_chrono_year (z : Int) (h : inChronoDays z = true) :
    -262143 ≤ (civilFromDays z).1 ∧ (civilFromDays z).1 ≤ 262142 :=
  civilFromDays_year_bounds z h

/-- non-vacuity: leap days (2000, 2024, −0004 = 5 BCE, year 0), a non-leap century, the ends of chrono's range -/
example : civilFromDays 11016 = (2000, 2, 29) ∧ daysFromCivil 2000 2 29 = 11016 := by decide +kernel
example : validDate 1900 2 29 = false ∧ validDate 2024 2 29 = true ∧ validDate (-4) 2 29 = true ∧
    validDate 0 2 29 = true ∧ validDate (-1) 2 29 = false := by decide +kernel
example : civilFromDays (-1) = (1969, 12, 31) ∧ civilFromDays (-719528) = (0, 1, 1) ∧
    civilFromDays (-719529) = (-1, 12, 31) := by decide +kernel
example : civilFromDays chronoMinDays = (-262143, 1, 1) ∧ civilFromDays chronoMaxDays = (262142, 12, 31) := by decide +kernel

/-! ## string round trips through the calendar -/

/-- the reader's date string (incl. the `-YYYYYY` form for negative years and the `+YYYYY` form beyond 9999) is
parsed back by the model of `NaiveDate::from_str` to the same day count, on all of chrono's range -/
theorem date_string_roundtrip (z : Int) (h : inChronoDays z = true) : parseNaiveDate (formatDays z) = .ok z :=
  parseNaiveDate_formatDays z h

/-- **date_roundtrip** (Date32 and Date64): every stored value the reader accepts (`dateToString_ok_iff`: its day
`⌊v / factor⌋` lies in chrono's range) is formatted to a string that the builder parses back to the stored value
truncated to whole days — i.e. to `v` itself for Date32 and for every Date64 value that is a whole day -/
theorem date_roundtrip (ty : DateTy) (v : Int) (h : inChronoDays (v / ty.factor) = true) :
    ∃ s, dateToString ty v = .ok s ∧ dateOfString ty s = .ok (v / ty.factor * ty.factor) := by
  refine ⟨formatDays (v / ty.factor), ?_, ?_⟩
  · unfold dateToString; simp only [h, if_true]
  · unfold dateOfString
    rw [parseNaiveDate_formatDays _ h]
    simp only [bind, Except.bind]
    rw [inChronoDays_iff] at h
    have h1 : ty.inRange (v / ty.factor) = true := by
      cases ty
      · simp only [DateTy.inRange, inI32_iff]; omega
      · simp only [DateTy.inRange, inI64_iff]; omega
    have h2 : inI64 (v / ty.factor * ty.factor) = true := by
      rw [inI64_iff]
      cases ty <;> simp only [DateTy.factor] at h ⊢ <;> omega
    rw [if_pos h1, if_pos h2]

theorem date32_roundtrip (v : Int) (h : inChronoDays v = true) :
    ∃ s, dateToString .date32 v = .ok s ∧ dateOfString .date32 s = .ok v := by
  have := date_roundtrip .date32 v (by simpa [DateTy.factor] using h)
  simpa [DateTy.factor] using this

theorem date64_roundtrip (v : Int) (h : inChronoDays (v / 86400000) = true) (hw : v % 86400000 = 0) :
    ∃ s, dateToString .date64 v = .ok s ∧ dateOfString .date64 s = .ok v := by
  have := date_roundtrip .date64 v h
  rw [show v / DateTy.date64.factor * DateTy.date64.factor = v by simp only [DateTy.factor]; omega] at this
  exact this

/-- **timestamp_roundtrip**: every stored i64 the reader accepts (`timestampToString_ok_iff`: its day lies in
chrono's range), in every unit, with and without the UTC zone, before and after the epoch, is formatted to a
string that the builder parses back to exactly the stored value -/
theorem timestamp_roundtrip (u : TimeUnit) (utc : Bool) (ts : Int) (hts : inI64 ts = true)
    (hr : inChronoDays (ts / (u.perSec : Int) / 86400) = true) :
    ∃ s, timestampToString u utc ts = .ok s ∧ timestampOfString u utc s = .ok ts := by
  unfold timestampToString
  cases ht : unitsToInstant u ts with
  | none =>
    have := unitsToInstant_isSome_iff u ts
    rw [ht, hr] at this; cases this
  | some t =>
    obtain ⟨_, hs, hn, hd⟩ := unitsToInstant_spec u ts t ht
    refine ⟨_, rfl, ?_⟩
    unfold timestampOfString
    cases utc
    · simp only [Bool.false_eq_true, if_false]
      rw [parseNaiveDateTime_formatInstant t hd hs hn]
      exact instantToUnits_unitsToInstant u ts t hts ht
    · simp only [if_true]
      rw [parseUtcDateTime_formatInstant t hd hs hn]
      exact instantToUnits_unitsToInstant u ts t hts ht

/-- non-vacuity: negative year / pre-epoch part-second, year > 9999, Date64 before the epoch -/
example : timestampToString .millisecond true (-62198755200001) = .ok "-000002-12-31T23:59:59.999Z".toList ∧
    timestampOfString .millisecond true "-000002-12-31T23:59:59.999Z".toList = .ok (-62198755200001) := by
  simp only [SaModel.Lemmas.C09.toList_eq_charsOf]; decide +kernel
example : timestampToString .second false 253402300800 = .ok "+10000-01-01T00:00:00".toList := by
  simp only [SaModel.Lemmas.C09.toList_eq_charsOf]; decide +kernel
example : dateToString .date32 (-719529) = .ok "-000001-12-31".toList ∧
    dateOfString .date32 "-000001-12-31".toList = .ok (-719529) := by simp only [SaModel.Lemmas.C09.toList_eq_charsOf]; decide +kernel
example : dateToString .date64 (-86400000) = .ok "1969-12-31".toList ∧
    dateOfString .date64 "1969-12-31".toList = .ok (-86400000) := by simp only [SaModel.Lemmas.C09.toList_eq_charsOf]; decide +kernel

/-! ## UTC detection -/

set_option maxRecDepth 100000 in
theorem toNat_ofNat_small : ∀ k, k < 128 → (Char.ofNat k).toNat = k := by decide +kernel

theorem upper_eq (a X : Char) (hX : 65 ≤ X.toNat ∧ X.toNat ≤ 90) :
    toAsciiUpper a = X ↔ (a.toNat = X.toNat ∨ a.toNat = X.toNat + 32) := by
  rw [← Char.toNat_inj]
  unfold toAsciiUpper
  split
  · rw [toNat_ofNat_small _ (by omega)]; omega
  · omega

theorem lower_eq (a X : Char) (hX : 65 ≤ X.toNat ∧ X.toNat ≤ 90) :
    toAsciiLower a = toAsciiLower X ↔ (a.toNat = X.toNat ∨ a.toNat = X.toNat + 32) := by
  rw [← Char.toNat_inj]
  have hx : (toAsciiLower X).toNat = X.toNat + 32 := by
    unfold toAsciiLower; rw [if_pos hX, toNat_ofNat_small _ (by omega)]
  rw [hx]
  unfold toAsciiLower
  split
  · rw [toNat_ofNat_small _ (by omega)]; omega
  · omega

theorem upper_iff_lower (a X : Char) (hX : 65 ≤ X.toNat ∧ X.toNat ≤ 90) :
    toAsciiUpper a = X ↔ toAsciiLower a = toAsciiLower X := by
  rw [upper_eq a X hX, lower_eq a X hX]

theorem isUtc_iff (tz : List Char) : asciiUpper tz = "UTC".toList ↔ asciiLower tz = "utc".toList := by
  have e1 : "UTC".toList = ['U', 'T', 'C'] := by decide +kernel
  have e2 : "utc".toList = [toAsciiLower 'U', toAsciiLower 'T', toAsciiLower 'C'] := by decide +kernel
  rw [e1, e2]
  unfold asciiUpper asciiLower
  match tz with
  | [] => simp
  | [_] => simp
  | [_, _] => simp
  | [a, b, c] =>
    simp only [List.map_cons, List.map_nil, List.cons.injEq, and_true]
    rw [upper_iff_lower a 'U' (by decide), upper_iff_lower b 'T' (by decide), upper_iff_lower c 'C' (by decide)]
  | _ :: _ :: _ :: _ :: _ => simp

/-- **utc_detection**: the builder's `is_utc_tz` and the reader's `is_utc_timestamp` take exactly the same
strings as UTC (any letter case of "UTC"), refuse the same strings, and agree on `None` -/
theorem utc_detection (tz : Option (List Char)) :
    (∀ b, isUtcTz tz = .ok b ↔ isUtcTimestamp tz = .ok b) ∧ ((isUtcTz tz).isErr = (isUtcTimestamp tz).isErr) ∧
    (isUtcTz tz).isPanic = false ∧ (isUtcTimestamp tz).isPanic = false := by
  cases tz with
  | none => simp [isUtcTz, isUtcTimestamp, R.isErr, R.isPanic]
  | some s =>
    unfold isUtcTz isUtcTimestamp
    by_cases h : asciiUpper s = "UTC".toList
    · have h' := (isUtc_iff s).1 h
      simp only [if_pos h, if_pos h']; simp [R.isPanic]
    · have h' : ¬ asciiLower s = "utc".toList := fun h' => h ((isUtc_iff s).2 h')
      simp only [if_neg h, if_neg h']; simp [fail, R.isErr, R.isPanic]

end SaModel.Props.C14
