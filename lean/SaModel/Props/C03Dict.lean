import SaModel.Props.C03Traced
import SaModel.Props.C01Dict
import SaModel.Lemmas.C01ObsDictNew
/-
C03 / C01 — the codec and traced instances of the statements of Props/C01Dict.lean: dictionaries with ANY value type but a
nested dictionary.

  codecExt_noEmpty          `ExtNoEmpty (codecExt …)`: the C14 date / time / timestamp / span parsers and the C15 decimal parser
                            refuse the empty string (as chrono "premature end of input", the span parser "unmatched content", the
                            decimal parser "no digits found" do on the crate: probe in notes/wave10-dict.md) — so `C03_wf'''`
                            carries no hypothesis on the external functions here
  C03_wf_codec''            `C03_wf_codec` with `Safe ∨ coveredPF true` for `Safe ∨ coveredF`: excluded by both alternatives is only a
                            dictionary with NON-nullable keys below a nullable struct / fixed-size list whose value type is itself a
                            Dictionary
  C03_wf_codec_typed''      … with typed rows (what the driver instantiates)
  C03_wf_traced''           … for a `from_type` schema (user overwrites may put any dictionary there)
  C01_build_decode_codec''  `C01_build_decode_codec` with `coveredWF` for `coveredF`
  dict_push_new_interp_partial   the content half (R2') at a dictionary with a Utf8View or parsed value type, for a string that is
                            NEW to the dictionary; missing: the index-hit case (see Lemmas/C01ObsDictNew.lean)
-/
namespace SaModel.Props.C03
open SaModel SaModel.Build SaModel.Spec
open SaModel.Props.C16 (codecExt codecUnit)

theorem ne_ok_of_isOk_false {α} {r : R α} (h : r.isOk = false) (v : α) : r ≠ .ok v := by
  intro e; rw [e] at h; cases h

/-- the codec models accept no empty string -/
theorem codecExt_noEmpty (f32Str f64Str : Nat → String) (cast : Nat → Int → Bool → Nat → Option (Bool × Int)) :
    Lemmas.C03.ExtNoEmpty (codecExt f32Str f64Str cast) where
  date := by
    intro is64 v
    apply ne_ok_of_isOk_false
    cases is64 <;> simp only [codecExt] <;> decide +kernel
  time := by
    intro u v
    apply ne_ok_of_isOk_false
    cases u <;> simp only [codecExt] <;> decide +kernel
  timestamp := by
    intro u utc v
    apply ne_ok_of_isOk_false
    cases u <;> cases utc <;> simp only [codecExt] <;> decide +kernel
  duration := by
    intro u v
    apply ne_ok_of_isOk_false
    cases u <;> simp only [codecExt] <;> decide +kernel
  decimal := by
    intro p s v h
    simp only [codecExt, SaModel.Decimal.serializeStr] at h
    obtain ⟨parser, h1, h2⟩ := (bind_ok _ _ _).1 h
    simp [SaModel.Decimal.DecimalParser.parseDecimal128] at h2
    obtain ⟨digits, h3, _⟩ := (bind_ok _ _ _).1 h2
    have e : (SaModel.Decimal.parseSign []).fst = [] := by decide
    rw [e] at h3
    simp [SaModel.Decimal.DecimalParser.copyDigits, SaModel.Decimal.DecimalParser.copyDigitsWith,
      SaModel.Decimal.anyAsciiDigit, fail] at h3

/-- **C03 with the codec models plugged in, every dictionary value type but a nested dictionary.**  `C03_wf_codec` with the
second alternative of `hsafe` weakened from `coveredF` to `coveredPF true`.  No hypothesis on the external functions. -/
theorem C03_wf_codec'' (f32Str f64Str : Nat → String) (cast : Nat → Int → Bool → Nat → Option (Bool × Int))
    (fields : List Field) (rows : List SVal) (arrs : List Arr)
    (hschema : ∀ f ∈ fields, Lemmas.C03.SchemaOKF f)
    (hplain : ∀ f ∈ fields, Lemmas.C03.PlainF f)
    (hsafe : (∀ root0, newRoot fields = .ok root0 → Safe root0) ∨ fields.all (Lemmas.C03.coveredPF true) = true)
    (hrows : ∀ x ∈ rows, Lemmas.C03.SValOK x)
    (h : toMarrow (codecExt f32Str f64Str cast) fields rows = .ok arrs) :
    arrs.length = fields.length ∧
    ∀ (j : Nat) (f : Field) (a : Arr), fields[j]? = some f → arrs[j]? = some a →
      WF f a = true ∧ (decodeAll a).length = rows.length :=
  Props.C01.C03_wf''' _ (codecExt_noEmpty f32Str f64Str cast) fields rows arrs hschema hplain hsafe
    (codecExt_ok f32Str f64Str cast) hrows h

/-- … as the correspondence driver instantiates it (typed rows) -/
theorem C03_wf_codec_typed'' (f32Str f64Str : Nat → String) (cast : Nat → Int → Bool → Nat → Option (Bool × Int))
    (fields : List Field) (rows : List SVal) (arrs : List Arr)
    (hschema : ∀ f ∈ fields, Lemmas.C03.SchemaOKF f)
    (hplain : ∀ f ∈ fields, Lemmas.C03.PlainF f)
    (hsafe : (∀ root0, newRoot fields = .ok root0 → Safe root0) ∨ fields.all (Lemmas.C03.coveredPF true) = true)
    (hrows : ∀ x ∈ rows, x.typed = true)
    (h : toMarrow (codecExt f32Str f64Str cast) fields rows = .ok arrs) :
    arrs.length = fields.length ∧
    ∀ (j : Nat) (f : Field) (a : Arr), fields[j]? = some f → arrs[j]? = some a →
      WF f a = true ∧ (decodeAll a).length = rows.length :=
  C03_wf_codec'' f32Str f64Str cast fields rows arrs hschema hplain hsafe (fun x hx => typed_SValOK x (hrows x hx)) h

/-- … for a traced schema -/
theorem C03_wf_traced'' (c : Trace.Code) (O : Trace.Options) (ty : Trace.Ty)
    (f32Str f64Str : Nat → String) (cast : Nat → Int → Bool → Nat → Option (Bool × Int))
    (fields : List Field) (rows : List SVal) (arrs : List Arr)
    (ho : ∀ kv ∈ O.overwrites, Lemmas.C03.GoodF kv.2) (hft : Trace.fromType c O ty = .ok fields)
    (hplain : ∀ f ∈ fields, Lemmas.C03.PlainF f)
    (hsafe : (∀ root0, newRoot fields = .ok root0 → Safe root0) ∨ fields.all (Lemmas.C03.coveredPF true) = true)
    (hrows : ∀ x ∈ rows, x.typed = true)
    (h : toMarrow (codecExt f32Str f64Str cast) fields rows = .ok arrs) :
    arrs.length = fields.length ∧
    ∀ (j : Nat) (f : Field) (a : Arr), fields[j]? = some f → arrs[j]? = some a →
      WF f a = true ∧ (decodeAll a).length = rows.length :=
  C03_wf_codec_typed'' f32Str f64Str cast fields rows arrs (fromType_good c O ty fields ho hft).1 hplain hsafe hrows h

/-- `C03_wf_codec` (`Safe ∨ coveredF`) is the special case -/
theorem C03_wf_codec_of'' (f32Str f64Str : Nat → String) (cast : Nat → Int → Bool → Nat → Option (Bool × Int))
    (fields : List Field) (rows : List SVal) (arrs : List Arr)
    (hschema : ∀ f ∈ fields, Lemmas.C03.SchemaOKF f)
    (hplain : ∀ f ∈ fields, Lemmas.C03.PlainF f)
    (hsafe : (∀ root0, newRoot fields = .ok root0 → Safe root0) ∨ fields.all Build.coveredF = true)
    (hrows : ∀ x ∈ rows, Lemmas.C03.SValOK x)
    (h : toMarrow (codecExt f32Str f64Str cast) fields rows = .ok arrs) :
    arrs.length = fields.length ∧
    ∀ (j : Nat) (f : Field) (a : Arr), fields[j]? = some f → arrs[j]? = some a →
      WF f a = true ∧ (decodeAll a).length = rows.length :=
  C03_wf_codec'' f32Str f64Str cast fields rows arrs hschema hplain (hsafe.imp id Props.C01.coveredPF_of_coveredF) hrows h

/-- **C01 with the codec models plugged in, on `coveredWF`** -/
theorem C01_build_decode_codec'' (f32Str f64Str : Nat → String) (cast : Nat → Int → Bool → Nat → Option (Bool × Int))
    (fields : List Field) (rows : List SVal) (arrs : List Arr)
    (hschema : ∀ f ∈ fields, Lemmas.C03.SchemaOKF f)
    (hcov : fields.all Build.coveredWF = true)
    (hraw : ∀ x ∈ rows, Build.noRaw x = true)
    (h : toMarrow (codecExt f32Str f64Str cast) fields rows = .ok arrs) :
    arrs.length = fields.length ∧
    ∃ cols : List (String × List LVal),
      arrs.map decodeAll = cols.map (fun c => c.2.map .ok) ∧
      cols.map (·.1) = fields.map (·.name) ∧
      (∀ c ∈ cols, c.2.length = rows.length) ∧
      ∀ (i : Nat) (hi : i < rows.length),
        interpRow (codecExt f32Str f64Str cast) fields rows[i] =
          .ok (.struct (LFields.ofList (cols.map fun c => (c.1, c.2.getD i .null)))) :=
  Props.C01.C01_build_decode'' _ fields rows arrs hschema hcov (fun x hx => Build.noRaw_ssa x (hraw x hx)) (Or.inl hraw) h

/-! ### non-vacuity OUTSIDE `Safe`, with a PARSED value type

`{s: Struct{d: Dictionary(UInt8, Date32)}?}` — non-nullable keys below a nullable struct, values parsed by the codec model.
Records `None`, `{d: "1970-01-11"}`, `None`, `{d: "1970-01-11"}`, `{d: "2024-02-29"}`. -/

def exDateDictFields : List Field :=
  [.mk "s" (.struct (.cons (.mk "d" (.dictionary .uint8 .date32) false []) .nil)) true []]
def exDateDictRows : List SVal :=
  [.record "R" (.cons "s" 0 .none .nil),
   .record "R" (.cons "s" 0 (.some (.record "S" (.cons "d" 0 (.str "1970-01-11") .nil))) .nil),
   .record "R" (.cons "s" 0 .none .nil),
   .record "R" (.cons "s" 0 (.some (.record "S" (.cons "d" 0 (.str "1970-01-11") .nil))) .nil),
   .record "R" (.cons "s" 0 (.some (.record "S" (.cons "d" 0 (.str "2024-02-29") .nil))) .nil)]

theorem exDateDict_not_safe : ∀ root0, newRoot exDateDictFields = .ok root0 → ¬ Safe root0 := by
  intro root0 h0
  rw [show newRoot exDateDictFields = .ok (.struct "$" 0 none
    (.cons (.struct "$.s" 0 (some [])
        (.cons (.dictionary "$.s.d" (.leaf "$.s.d.key" (.int .u8) none []) (.leaf "$.s.d.value" .date32 none []) [])
          ⟨"d", false, []⟩ .nil) [none] 0 [false]) ⟨"s", true, []⟩ .nil) [none] 0 [false]) from by decide] at h0
  cases h0
  simp [Safe, SafeL, DefSafe, DefSafeL, B.isNullable]

theorem exDateDict_ok : (toMarrow exExt exDateDictFields exDateDictRows).isOk = true := by decide +kernel

example : exDateDictFields.all (Lemmas.C03.coveredPF true) = true ∧
    exDateDictFields.all (Lemmas.C03.coveredPF false) = false ∧ exDateDictFields.all Build.coveredWF = false := by
  decide +kernel

/-- every hypothesis of `C03_wf_codec''` discharged, through the second alternative -/
example : ∀ arrs, toMarrow exExt exDateDictFields exDateDictRows = .ok arrs →
    arrs.length = exDateDictFields.length ∧ ∀ (j : Nat) (f : Field) (a : Arr), exDateDictFields[j]? = some f →
      arrs[j]? = some a → WF f a = true ∧ (decodeAll a).length = exDateDictRows.length := by
  intro arrs h
  refine C03_wf_codec'' _ _ _ exDateDictFields exDateDictRows arrs ?_ ?_ (Or.inr (by decide +kernel)) ?_ h
  · simp [exDateDictFields, Lemmas.C03.SchemaOKF, Lemmas.C03.SchemaOK, Lemmas.C03.SchemaOKFs]
  · simp [exDateDictFields, Lemmas.C03.PlainF, Lemmas.C03.PlainDT, Lemmas.C03.PlainFs]
  · intro x hx
    simp only [exDateDictRows, List.mem_cons, List.not_mem_nil, or_false] at hx
    rcases hx with rfl | rfl | rfl | rfl | rfl <;>
      simp [Lemmas.C03.SValOK, Lemmas.C03.SFieldsOK, Lemmas.C03.ScalarOK]

/-- what the run holds: two distinct dates (10 and 19782 days), the struct column reads null, 10, null, 10, 19782; with
only hidden rows the run is refused — the placeholder `""` is no date (model and crate alike: `corpus-c01e-placeholder-date32-value`) -/
example : (do let root ← runRows exExt exDateDictFields exDateDictRows; pure (decRoot root) : R (List (List LVal))) =
      .ok [[.null, .struct (.cons "d" (.int 10) .nil), .null, .struct (.cons "d" (.int 10) .nil),
        .struct (.cons "d" (.int 19782) .nil)]] ∧
    (toMarrow exExt exDateDictFields [.record "R" (.cons "s" 0 .none .nil)]).isErr = true := by decide +kernel

/-! ### the content half at the value types outside `coveredW`: what holds without a new state invariant -/

/-- **R2' at `Dictionary(integer, V)`, `V` ∈ {Utf8View, Date32, Date64, Time32, Time64, Timestamp, Duration, Decimal128}, for a string
NEW to the dictionary** — the determined row the push appends is `Spec.interpDictStr ext V s` (the string for Utf8View, the
parsed value otherwise).  PARTIAL: what is missing for R2' (and hence for `C01_build_decode` at these value types) is the case
of a string ALREADY in the index — the row is then `dec vals[i]` for the position `i` of the earlier push, and "values decoded =
index entries interpreted at V" is not part of the state invariant `WFB` / `WFH` (for the parsed kinds it depends on `ext`) — and
a nested dictionary as value type. -/
theorem dict_push_new_interp_partial (ext : Ext) {p : String} {idx vals : B} {index : List String} {x : SVal} {b' : B}
    {lv : LVal} {vdt : DataType} {s : String}
    (hwf : WFH (.dictionary p idx vals index)) (hil : idx.isIntLeaf = true)
    (hsv : Shape vals vdt false []) (hfv : vals.isFlat = true) (hv : dictValFlatOpen vdt = true)
    (hs : scalarToString ext x = some s) (hnew : indexOfName index s = none)
    (h : pushScalar ext (.dictionary p idx vals index) x = .ok b')
    (hd : Refines (decH b') (decH (.dictionary p idx vals index) ++ [some lv])) :
    interpDictStr ext vdt s = .ok lv :=
  Build.dict_push_new_interp_partial ext hwf hil hsv hfv hv hs hnew h hd

/-- non-vacuity: a `Dictionary(UInt8, Date32)` builder that already holds "1970-01-11" takes the NEW string "2024-02-29": the row
appended is the date 19782 -/
def exDateDictB : B :=
  .dictionary "$.d" (.leaf "$.d.key" (.int .u8) none [0]) (.leaf "$.d.value" .date32 none [10]) ["1970-01-11"]

example : ∃ b' lv, pushScalar exExt exDateDictB (.str "2024-02-29") = .ok b' ∧
    Refines (decH b') (decH exDateDictB ++ [some lv]) ∧ interpDictStr exExt .date32 "2024-02-29" = .ok lv ∧ lv = .int 19782 := by
  have hwf : WFH exDateDictB := by
    apply WFH_of_WFB
    simp [exDateDictB, WFB, VLen, DictVals, B.isUtf8B, B.refusesStr, dec, maskNull, leafVal]
  have hnd : NoDictKey exDateDictB := by simp [exDateDictB, NoDictKey, B.isDict]
  have hok : (pushScalar exExt exDateDictB (.str "2024-02-29")).isOk = true := by decide +kernel
  cases hp : pushScalar exExt exDateDictB (.str "2024-02-29") with
  | error e => rw [hp] at hok; cases hok
  | ok b' =>
    obtain ⟨_, lv, hd⟩ := pushScalar_refines exExt exDateDictB _ b' hwf hnd hp
    have hi := dict_push_new_interp_partial exExt (vdt := .date32) (s := "2024-02-29") hwf rfl
      (by simp [Shape, kindOf]) rfl rfl rfl (by decide) hp hd
    refine ⟨b', lv, rfl, hd, hi, ?_⟩
    have : interpDictStr exExt .date32 "2024-02-29" = .ok (.int 19782) := by decide +kernel
    rw [this] at hi
    exact (Except.ok.inj hi).symm

end SaModel.Props.C03
