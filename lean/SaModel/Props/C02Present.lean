import SaModel.Props.C02
import SaModel.Props.C05
import SaModel.Lemmas.C02PresentBridgeTyped
import SaModel.Lemmas.C02PresentFloat
/-
C02 — the headline theorems of `Props/C02.lean` (and `Props.C05.read_typed_total`) restated against the INDEPENDENT reader-side
specification `Spec/Present.lean` (written from the documentation; it imports nothing of `Read/*`), so that at no leaf the reader
model is compared with itself.  The restatement goes through the bridge `toD_eq_present` / `cast_eq_typedRead`
(`Lemmas/C02PresentBridge.lean`, `C02PresentBridgeTyped.lean`: `Read.toD` / `Read.cast` compute `Spec.presentAny` / `Spec.typedRead` in every cell).

* `read_any_present`        `deserialize_any` of a slot with a defined Arrow reading `lv` returns `Spec.presentAny readCodec a lv`
* `read_typed_present`      whatever `Spec.typedRead readCodec t a lv` demands (`value d`) is what the typed read returns — every
                            target (any nesting), every column, every slot
* `typed_present_decided`   `typedRead` is `value d` or `fails` in every cell without repeated field names (`naCell t a = false`);
  `typed_present_unclaimed_only`: it is `unclaimed` only where names repeat
* `read_typed_present_total` (with C05): outside the known findings #23 / #24 (`noKnown`) and `naCell`, the read returns exactly
                            the demanded value, or the table says `fails` and the read fails — no silent cell
* `read_option_null_present`, `typed_present_layout_irrelevant`
* the documented cells as theorems about the table itself, for EVERY codec `c` (`present_int_by_value`, `present_bool_from_int`,
  `present_char`, `present_f16_as_f32`, `present_f16_exact`, `present_f64_as_f32`, `present_text_of_*`, `present_decimal_only_string`,
  `present_dictionary`, `present_option`, `present_unit_option`, `present_null_into_non_option`, `present_created_text_not_borrowed`)

`readCodec` (the texts of temporal / decimal values: `Codec/*.lean`, C14 / C15), `f32ToF64` (`Data/DVal.lean`; `f16ToF32` is tied to
`Float.convert` on all 65 536 patterns: `f16ToF32_eq_convert`, `f16ToF32_nan`) and `Float.convert` (`Basic/Float.lean`) are the parts model and
specification share.
-/
namespace SaModel.Props.C02
open SaModel SaModel.Read SaModel.Spec

/-! ### the headline theorems against the independent specification -/

/-- `deserialize_any`, against `Spec.presentAny` -/
theorem read_any_present (a : Arr) (i : Nat) (lv : LVal)
    (h : Spec.decode a i = .ok lv) (hn : new Fixes.all a = .ok ()) (hp : physical a = true) (hu : utf8Ok lv = true) :
    readAny Fixes.all a i = .ok (presentAny readCodec a lv) := by
  rw [← toD_eq_present]; exact read_any_decode_spec a i lv h hn hp hu

/-- **typed reads, against `Spec.typedRead`** (the independent form of `read_typed_decode_spec`): for EVERY target `t`, array `a`
and slot `i` whose Arrow reading is defined, under the hypotheses of `read_any_decode`: whatever the documentation-side table
demands is what the typed read returns -/
theorem read_typed_present (t : Target) (a : Arr) (i : Nat) (lv : LVal) (d : DVal)
    (h : Spec.decode a i = .ok lv) (hn : new Fixes.all a = .ok ()) (hp : physical a = true) (hu : utf8Ok lv = true)
    (hc : typedRead readCodec t a lv = .value d) : readAs Fixes.all t a i = .ok d := by
  rw [← cast_eq_typedRead] at hc
  exact read_typed_decode_spec t a i lv d h hn hp hu (demandOf_value_iff.1 hc)

/-- the same with `supportedView a` (the documentation-side description of the arrays the readers accept) -/
theorem read_typed_present_supported (t : Target) (a : Arr) (i : Nat) (lv : LVal) (d : DVal)
    (h : Spec.decode a i = .ok lv) (hs : supportedView a = true) (hp : physical a = true) (hu : utf8Ok lv = true)
    (hc : typedRead readCodec t a lv = .value d) : readAs Fixes.all t a i = .ok d :=
  read_typed_present t a i lv d h ((new_ok_iff_supported a).2 hs) hp hu hc

/-- the table leaves a cell without a claim only where field names repeat -/
theorem typed_present_unclaimed_only (t : Target) (a : Arr) (lv : LVal) (h : typedRead readCodec t a lv = .unclaimed) :
    naCell t a = true := by
  rw [← cast_eq_typedRead] at h
  exact cast_na_only t a lv (demandOf_unclaimed_iff.1 h)

/-- every other cell is decided: a value, or `fails` -/
theorem typed_present_decided (t : Target) (a : Arr) (lv : LVal) (h : naCell t a = false) :
    (∃ d, typedRead readCodec t a lv = .value d) ∨ typedRead readCodec t a lv = .fails := by
  rw [← cast_eq_typedRead]
  rcases cast_must_or_mustFail t a lv h with ⟨d, hc⟩ | ⟨e, hc⟩
  · exact .inl ⟨d, by rw [hc]; rfl⟩
  · exact .inr (by rw [hc]; rfl)

/-- **no silent cell, against the independent table** (C02 + C05; the independent form of `Props.C05.read_typed_total`): outside
the known findings #23 / #24 (`noKnown`) and where no field name repeats, EITHER the table demands `d` and the read returns
exactly `d`, OR the table says the read must fail and it fails -/
theorem read_typed_present_total (t : Target) (a : Arr) (i : Nat) (lv : LVal)
    (h : Spec.decode a i = .ok lv) (hn : new Fixes.all a = .ok ()) (hp : physical a = true) (hu : utf8Ok lv = true)
    (hk : Read.noKnown t a lv = true) (hna : naCell t a = false) :
    (∃ d, typedRead readCodec t a lv = .value d ∧ readAs Fixes.all t a i = .ok d) ∨
    (typedRead readCodec t a lv = .fails ∧ ∃ e, readAs Fixes.all t a i = .error e) := by
  rw [← cast_eq_typedRead]
  rcases Props.C05.read_typed_total t a i lv (decode_eq_decodeAt a i ▸ h) hn hp hu hk hna with ⟨d, hc, hr⟩ | ⟨e, e', hc, hr⟩
  · exact .inl ⟨d, by rw [hc]; rfl, hr⟩
  · exact .inr ⟨by rw [hc]; rfl, e', hr⟩

/-- `Option` targets on null slots of every column kind: the table says `None`, and the read returns it -/
theorem read_option_null_present (t : Target) (a : Arr) (i : Nat)
    (h : Spec.decode a i = .ok .null) (hn : new Fixes.all a = .ok ()) (hp : physical a = true) :
    typedRead readCodec (.option t) a .null = .value .none ∧ readAs Fixes.all (.option t) a i = .ok .none :=
  ⟨by simp only [typedRead], read_typed_present (.option t) a i .null .none h hn hp rfl (by simp only [typedRead])⟩

/-- layout freedoms: two arrays / slots with the same logical value and the same demand read the same -/
theorem typed_present_layout_irrelevant (t : Target) (a b : Arr) (i j : Nat) (lv : LVal) (d : DVal)
    (ha : Spec.decode a i = .ok lv) (hb : Spec.decode b j = .ok lv)
    (hna : new Fixes.all a = .ok ()) (hnb : new Fixes.all b = .ok ())
    (hpa : physical a = true) (hpb : physical b = true) (hu : utf8Ok lv = true)
    (hca : typedRead readCodec t a lv = .value d) (hcb : typedRead readCodec t b lv = .value d) :
    readAs Fixes.all t a i = readAs Fixes.all t b j := by
  rw [read_typed_present t a i lv d ha hna hpa hu hca, read_typed_present t b j lv d hb hnb hpb hu hcb]

/-! ### the documented cells, as theorems about the table (for EVERY text codec `c`) -/

/-- integers by VALUE: an integer column of any width read as the integer type `ty` gives the number iff it lies in the range
of `ty` ("i64 → u8 fails unless in range") -/
theorem present_int_by_value (c : TextCodec) (ty : IntTy) (pty : PrimTy) (v : Option Bits) (vals : List Int) (x : Int)
    (hw : intWidth pty = true) :
    typedRead c (.int ty) (.prim pty v vals) (.int x) =
      if ty.min ≤ x ∧ x ≤ ty.max then .value (.int ty x) else .fails := by
  simp only [typedRead, presentScalar, leafKind, hw, if_true, presentLeaf, numberAs, IntTy.inRange, Bool.and_eq_true, decide_eq_true_eq]

/-- `bool` from an integer column: 0 and 1 only (the crate answers `true` for every other number: known finding #24) -/
theorem present_bool_from_int (c : TextCodec) (pty : PrimTy) (v : Option Bits) (vals : List Int) (x : Int) (hw : intWidth pty = true) :
    typedRead c .bool (.prim pty v vals) (.int x) =
      if x = 0 then .value (.bool false) else if x = 1 then .value (.bool true) else .fails := by
  simp only [typedRead, presentScalar, leafKind, hw, if_true, presentLeaf, numberAs, beq_iff_eq]

/-- `char` from an integer column: the Unicode scalar values -/
theorem present_char (c : TextCodec) (pty : PrimTy) (v : Option Bits) (vals : List Int) (x : Int) (hw : intWidth pty = true) :
    typedRead c .char (.prim pty v vals) (.int x) =
      if IntTy.u32.inRange x && isUnicodeScalar x.toNat then .value (.char x.toNat) else .fails := by
  simp only [typedRead, presentScalar, leafKind, hw, if_true, presentLeaf, numberAs]

/-- the boundary: 0xD7FF and 0xE000 are characters, the surrogates 0xD800 … 0xDFFF, 0x110000 and negative numbers are not -/
example : ∀ c : TextCodec, (typedRead c .char (.prim .uint32 none []) (.int 0xD7FF) = .value (.char 0xD7FF) ∧
    typedRead c .char (.prim .uint32 none []) (.int 0xD800) = .fails ∧ typedRead c .char (.prim .int64 none []) (.int 0xDFFF) = .fails ∧
    typedRead c .char (.prim .int32 none []) (.int 0xE000) = .value (.char 0xE000) ∧
    typedRead c .char (.prim .uint64 none []) (.int 0x10FFFF) = .value (.char 0x10FFFF) ∧
    typedRead c .char (.prim .uint64 none []) (.int 0x110000) = .fails ∧ typedRead c .char (.prim .int8 none []) (.int (-1)) = .fails) := by
  intro c
  simp (config := { decide := true }) only [typedRead, presentScalar, leafKind, if_true, if_false, presentLeaf, numberAs, and_self]

/-- no integer ↔ float reads -/
theorem present_no_int_float (c : TextCodec) (v : Option Bits) (vals : List Int) (x : Int) (ty : IntTy) :
    typedRead c .f64 (.prim .int64 v vals) (.int x) = .fails ∧ typedRead c (.int ty) (.prim .float64 v vals) (.float x) = .fails := by
  constructor <;> simp only [typedRead, presentScalar, leafKind, intWidth, if_true, presentLeaf, numberAs]

/-- "Float16: can be serialized / deserialized from Rust `f32`": the exact widening; `Float64` as `f32`: the documented narrowing -/
theorem present_f16_as_f32 (c : TextCodec) (v : Option Bits) (vals : List Int) (x : Int) :
    typedRead c .f32 (.prim .float16 v vals) (.float x) = .value (.f32 (f16ToF32 x)) := by
  simp only [typedRead, presentScalar, leafKind, presentLeaf]

/-- … and that widening IS the IEEE value (`Basic/Float.lean`), on every `f16` pattern that is not a NaN (a NaN is read as an `f32` NaN
of the same sign: `f16ToF32_nan`) — `Lemmas/C02PresentFloat.lean`, all 65 536 patterns, by IEEE class of the pattern -/
theorem present_f16_exact (c : TextCodec) (v : Option Bits) (vals : List Int) (x : Int)
    (hn : Float.isNan Float.f16 (x.toNat % 65536) = false) :
    typedRead c .f32 (.prim .float16 v vals) (.float x) =
      .value (.f32 (Int.ofNat (Float.convert Float.f16 Float.f32 (x.toNat % 65536)))) := by
  rw [present_f16_as_f32, f16ToF32_eq_convert x hn]

theorem present_f64_as_f32 (c : TextCodec) (v : Option Bits) (vals : List Int) (x : Int) :
    typedRead c .f32 (.prim .float64 v vals) (.float x) =
      .value (.f32 (Int.ofNat (Float.convert Float.f64 Float.f32 (x.toNat % 18446744073709551616)))) := by
  simp only [typedRead, presentScalar, leafKind, presentLeaf, narrow]

/-- temporal columns "deserialized as strings": `String` gets the codec's text, a refusal of the codec is a failing read -/
theorem present_text_of_date (c : TextCodec) (v : Option Bits) (vals : List Int) (x : Int) :
    typedRead c .string (.prim .date32 v vals) (.int x) = (Demand.ofOption (c.date false x)).map (.str .owned) ∧
    typedRead c .string (.prim .date64 v vals) (.int x) = (Demand.ofOption (c.date true x)).map (.str .owned) := by
  constructor <;> simp only [typedRead, presentScalar, leafKind, intWidth, presentLeaf, createdText, Bool.false_eq_true, if_false]

theorem present_text_of_time (c : TextCodec) (u : TimeUnit) (v : Option Bits) (vals : List Int) (x : Int) :
    typedRead c .string (.time .time32 u v vals) (.int x) = (Demand.ofOption (c.time u x)).map (.str .owned) ∧
    typedRead c .string (.time .time64 u v vals) (.int x) = (Demand.ofOption (c.time u x)).map (.str .owned) ∧
    typedRead c .string (.time .duration u v vals) (.int x) = .value (.str .owned (c.duration u x)) := by
  refine ⟨?_, ?_, ?_⟩ <;> simp only [typedRead, presentScalar, leafKind, presentLeaf, createdText, Demand.ofOption, Demand.map]

theorem present_text_of_timestamp (c : TextCodec) (u : TimeUnit) (tz : Option String) (v : Option Bits) (vals : List Int) (x : Int) :
    typedRead c .string (.timestamp u tz v vals) (.int x) = (Demand.ofOption (c.timestamp u (zoneIsUtc tz) x)).map (.str .owned) ∧
    typedRead c (.int .i64) (.timestamp u tz v vals) (.int x) =
      (if IntTy.i64.inRange x then .value (.int .i64 x) else .fails) ∧
    typedRead c (.int .i32) (.timestamp u tz v vals) (.int x) = .fails := by
  refine ⟨?_, ?_, ?_⟩ <;> simp (config := { decide := true }) only [typedRead, presentScalar, leafKind, presentLeaf, createdText, storedAs,
    if_true, if_false]

/-- "`Decimal128` arrays are always deserialized as string": `String` and `deserialize_any` get the text, nothing else is answered -/
theorem present_decimal_only_string (c : TextCodec) (p : Nat) (s : Int) (v : Option Bits) (vals : List Int) (x : Int) :
    typedRead c .string (.decimal128 p s v vals) (.int x) = .value (.str .owned (c.decimal s x)) ∧
    typedRead c .any (.decimal128 p s v vals) (.int x) = .value (.str .transient (c.decimal s x)) ∧
    typedRead c .byteBuf (.decimal128 p s v vals) (.int x) = .fails ∧
    typedRead c (.int .i64) (.decimal128 p s v vals) (.int x) = .fails ∧
    typedRead c .f64 (.decimal128 p s v vals) (.int x) = .fails := by
  refine ⟨?_, ?_, ?_, ?_, ?_⟩ <;>
    simp only [typedRead, presentAny, presentScalar, leafKind, presentLeaf, createdText, Demand.ofOption, Demand.map,
      Bool.false_eq_true, if_false]

/-- a text the reader creates cannot be borrowed: `&str` / `&[u8]` fail at temporal and decimal columns -/
theorem present_created_text_not_borrowed (c : TextCodec) (u : TimeUnit) (tz : Option String) (p : Nat) (s : Int)
    (v : Option Bits) (vals : List Int) (x : Int) :
    typedRead c .str (.prim .date32 v vals) (.int x) = .fails ∧ typedRead c .bytes (.prim .date64 v vals) (.int x) = .fails ∧
    typedRead c .str (.time .time64 u v vals) (.int x) = .fails ∧ typedRead c .str (.time .duration u v vals) (.int x) = .fails ∧
    typedRead c .str (.timestamp u tz v vals) (.int x) = .fails ∧ typedRead c .str (.decimal128 p s v vals) (.int x) = .fails := by
  refine ⟨?_, ?_, ?_, ?_, ?_, ?_⟩ <;> simp only [typedRead, presentScalar, leafKind, intWidth, presentLeaf, createdText, Bool.false_eq_true, if_false]

/-- strings: `String` owned, `&str` borrowed from the array; a dictionary column gives the string behind the key, also as a unit
variant by name -/
theorem present_dictionary (c : TextCodec) (ks vs : Arr) (b : Bytes) :
    typedRead c .string (.dictionary ks vs) (.str b) = .value (.str .owned b) ∧
    typedRead c .str (.dictionary ks vs) (.str b) = .value (.str .borrowed b) ∧
    typedRead c .any (.dictionary ks vs) (.str b) = .value (.str .borrowed b) ∧
    typedRead c (.enum false (.cons "a" .unit .nil)) (.dictionary ks vs) (.str [97]) =
      .value (.enum (.str .transient [97]) .unit) := by
  refine ⟨?_, ?_, ?_, ?_⟩
  · simp only [typedRead, presentScalar, leafKind, presentLeaf]
  · simp only [typedRead, presentScalar, leafKind, presentLeaf]
  · simp only [typedRead, presentAny]
  · simp only [typedRead, textColumn, Bool.not_false, Bool.and_true, if_true, unitVariantNamed]; decide +kernel

/-- `Option<T>`: `None` exactly at a null slot; a non-null slot is `Some` of the read of `T` -/
theorem present_option (c : TextCodec) (t : Target) (a : Arr) (lv : LVal) :
    typedRead c (.option t) a .null = .value .none ∧
    (lv ≠ .null → typedRead c (.option t) a lv = (typedRead c t a lv).map .some) := by
  refine ⟨by simp only [typedRead], fun h => ?_⟩
  cases lv <;> first | exact absurd rfl h | simp only [typedRead]

/-- "`Option<()>` is always deserialized as `None`" (a `Null` column has null slots only), `()` itself reads from a `Null` column -/
theorem present_unit_option (c : TextCodec) (len : Nat) :
    typedRead c (.option .unit) (.null len) .null = .value .none ∧ typedRead c .unit (.null len) .null = .value .unit := by
  constructor <;> simp only [typedRead, presentScalar, isNullColumn, if_true]

/-- a null slot read into a scalar that is not an `Option` fails (every scalar target, every column that is not `Null`) -/
theorem present_null_into_non_option (c : TextCodec) (t : Target) (a : Arr)
    (ht : t = .bool ∨ (∃ ty, t = .int ty) ∨ t = .f32 ∨ t = .f64 ∨ t = .char ∨ t = .string ∨ t = .str ∨ t = .bytes) :
    typedRead c t a .null = .fails := by
  rcases ht with rfl | ⟨ty, rfl⟩ | rfl | rfl | rfl | rfl | rfl | rfl <;> simp only [typedRead, presentScalar]

/-- … and so does a null container slot read into a `Vec`, tuple, map or struct (the crate returns the hidden data there: known
finding #23, `null_*_reads_hidden_data`) -/
theorem present_null_container (c : TextCodec) (t k w : Target) (ts : Targets) (tfs : TFields) (a : Arr) :
    typedRead c (.seq t) a .null = .fails ∧ typedRead c (.tuple ts) a .null = .fails ∧
    typedRead c (.map k w) a .null = .fails ∧ typedRead c (.struct tfs) a .null = .fails := by
  refine ⟨?_, ?_, ?_, ?_⟩ <;> cases a <;> simp only [typedRead, byPosition, byName]

/-! ### non-vacuity (computed)

the 12 cells of `exCells` (`Props/C02.lean`: dictionary as `&str` / enum-by-name, Date32 / Time64 / Timestamp / Duration / Decimal128
as text, Float64 as `f32`, struct as map keyed by `char` / by an enum, `ByteBuf` from a list of u8): every hypothesis of
`read_typed_present` holds, the INDEPENDENT table demands the value shown, and the read returns it -/
example : ∀ c ∈ exCells, ∃ lv, Spec.decode c.2.1 0 = .ok lv ∧ lv ≠ .null ∧ typedRead readCodec c.1 c.2.1 lv = .value c.2.2 ∧
    readAs Fixes.all c.1 c.2.1 0 = .ok c.2.2 := by
  have hd : ∀ c ∈ exCells, decodeAt c.2.1 0 = .ok (match decodeAt c.2.1 0 with | .ok lv => lv | .error _ => .null) ∧
      (match decodeAt c.2.1 0 with | .ok lv => lv | .error _ => .null) ≠ .null ∧
      supportedView c.2.1 = true ∧ physical c.2.1 = true ∧
      utf8Ok (match decodeAt c.2.1 0 with | .ok lv => lv | .error _ => .null) = true ∧
      typedRead readCodec c.1 c.2.1 (match decodeAt c.2.1 0 with | .ok lv => lv | .error _ => .null) = .value c.2.2 := by decide +kernel
  intro c hc
  obtain ⟨h1, h2, h3, h4, h5, h6⟩ := hd c hc
  have h1' := (decode_eq_decodeAt c.2.1 0).trans h1
  exact ⟨_, h1', h2, h6, read_typed_present_supported c.1 c.2.1 0 _ c.2.2 h1' h3 h4 h5 h6⟩

/-- `deserialize_any` of both rows of the nested column `exCol` (nullable int, list of strings, dense union): the table's
presentation is what the read returns -/
example : ∀ i ∈ [0, 1], ∃ lv, Spec.decode exCol i = .ok lv ∧ readAny Fixes.all exCol i = .ok (presentAny readCodec exCol lv) := by
  have hd : ∀ i ∈ [0, 1], decodeAt exCol i = .ok (exLv i) ∧ utf8Ok (exLv i) = true := by decide +kernel
  intro i hi
  obtain ⟨h1, h2⟩ := hd i hi
  have h1' := (decode_eq_decodeAt exCol i).trans h1
  exact ⟨_, h1', read_any_present exCol i _ h1' (by decide) (by decide) h2⟩

/-- both disjuncts of `read_typed_present_total`: an Int64 slot 255 read as `u8` (the table demands 255, the read returns it)
and the slot 256 (the table says `fails`, the read fails); every hypothesis computed -/
example :
    let a : Arr := .prim .int64 none [255, 256]
    (typedRead readCodec (.int .u8) a (.int 255) = .value (.int .u8 255) ∧ readAs Fixes.all (.int .u8) a 0 = .ok (.int .u8 255)) ∧
    (typedRead readCodec (.int .u8) a (.int 256) = .fails ∧ ∃ e, readAs Fixes.all (.int .u8) a 1 = .error e) := by
  intro a
  have h0 : Spec.decode a 0 = .ok (.int 255) := by decide
  have h1 : Spec.decode a 1 = .ok (.int 256) := by decide
  have hn : new Fixes.all a = .ok () := by decide
  have hp : physical a = true := by decide
  refine ⟨?_, ?_⟩
  · rcases read_typed_present_total (.int .u8) a 0 _ h0 hn hp (by decide) (by decide) (by decide) with ⟨d, hd, hr⟩ | ⟨hf, _⟩
    · have : d = .int .u8 255 := by
        have h : typedRead readCodec (.int .u8) a (.int 255) = .value (.int .u8 255) := by decide
        rw [h] at hd; exact (Demand.value.inj hd).symm
      subst this; exact ⟨hd, hr⟩
    · exact absurd hf (by decide)
  · rcases read_typed_present_total (.int .u8) a 1 _ h1 hn hp (by decide) (by decide) (by decide) with ⟨d, hd, _⟩ | ⟨hf, hr⟩
    · have h : typedRead readCodec (.int .u8) a (.int 256) = .fails := by decide
      rw [h] at hd; cases hd
    · exact ⟨hf, hr⟩

/-! ### where the documentation-side table and the code differ: the two KNOWN findings, against the independent table

#24: an integer that is neither 0 nor 1 read as `bool` — the table says the read must fail, the reader returns `true`.
#23: a null Struct / List slot read into a tuple / `Vec` — the table says the read must fail, the reader returns the hidden data.
(Both are excluded from `read_typed_present_total` by `noKnown`.) -/
theorem known_findings_against_present :
    let ints : Arr := .prim .int8 none [2]
    let st : Arr := .struct 1 (some ⟨[0], 0⟩) (.cons ⟨"x", false, []⟩ (.prim .int32 none [42]) .nil)
    let l : Arr := .list false (some ⟨[0], 0⟩) [0, 2] ⟨"element", false, []⟩ (.prim .int32 none [1, 2])
    (Spec.decode ints 0 = .ok (.int 2) ∧ typedRead readCodec .bool ints (.int 2) = .fails ∧
      readAs Fixes.all .bool ints 0 = .ok (.bool true) ∧ noKnown .bool ints (.int 2) = false) ∧
    (Spec.decode st 0 = .ok .null ∧ typedRead readCodec (.tuple (.cons (.int .i32) .nil)) st .null = .fails ∧
      readAs Fixes.all (.tuple (.cons (.int .i32) .nil)) st 0 = .ok (.seq (.cons (.int .i32 42) .nil)) ∧
      noKnown (.tuple (.cons (.int .i32) .nil)) st .null = false) ∧
    (Spec.decode l 0 = .ok .null ∧ typedRead readCodec (.seq (.int .i32)) l .null = .fails ∧
      readAs Fixes.all (.seq (.int .i32)) l 0 = .ok (.seq (.cons (.int .i32 1) (.cons (.int .i32 2) .nil))) ∧
      noKnown (.seq (.int .i32)) l .null = false) := by decide +kernel

end SaModel.Props.C02
