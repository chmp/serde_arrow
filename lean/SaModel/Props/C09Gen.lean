import SaModel.Generated.TypeNames
import SaModel.Lemmas.C09Match
import SaModel.Lemmas.C09Chars
/-
C09, translation obligation: the name tables of the schema mini language as the translator reads them out of the
sources (`Generated.TypeNames`, regenerated by ./check before every build) are the tables of the hand-written model
(`SaModel/Codec/Dsl.lean`, `SaModel/Codec/SchemaJson.lean`).

* printer (`PrettyFieldDataType`, serialize.rs): for EVERY data type and escape table, the generic reading of the arms
  found in the source writes what the model's `showType?` writes (`gen_printer`); the data types with a `children` key
  are those of `is_data_type_with_children` (`gen_with_children`).
* reader (`build_data_type`, deserialize.rs): every name of every arm, with the number of arguments of that arm, is read
  by the model as the constructor of that arm and is not shadowed by an earlier arm (`gen_reader_names`); the model
  treats `children` as the arm does (`gen_reader_children`); the model has an arm for a (name, number of arguments) pair
  exactly when the table lists it (`gen_reader_arity`) and rejects EVERY term whose pair the table does not list, for
  all names, quotings, argument lists and children (`gen_reader_rejects`, `gen_reader_rejects_text`).
* the reader table of the model, written out (`modelReaderTable`), has the same entries as the generated one
  (`gen_reader_table`): a spelling dropped from or added to the source is a difference.
* every printed name is read back as the same constructor, and every constructor that can be read can be printed
  (`gen_print_read`, `gen_read_print`) — a statement about the two generated tables alone.
* `Term::as_option` (`gen_option_names`, `gen_option_complete`) and `Display` / `FromStr` of `Strategy`
  (`gen_strategy_display`, `gen_strategy_from_str`, `gen_strategy_complete`).

Editing a name, a constructor or an argument position in one of these places changes the generated table, an obligation
below stops evaluating to `true`, the build fails and ./check C09 reports the broken obligation.

The 46-way string match of the model function is taken apart by `Lemmas.C09.buildDataTypeOfTerm_match_elim`
(SaModel/Lemmas/C09Match.lean, written by tools/gen_c09_match.py): case analysis on the matcher's chain of equality tests.
-/
namespace SaModel.Props.C09Gen
open SaModel SaModel.Dsl SaModel.SchemaJson SaModel.TypeNameTable SaModel.Generated.TypeNames SaModel.Lemmas.C09

/-! ## the printer -/

/-- **obligation (C09, generated), all inputs.**  The arms of `PrettyFieldDataType` found in serialize.rs, read
generically (`"Name"` / `format!("Name({a}, {b:?})")`, first arm for the constructor, `Err` when there is none), write
exactly what the model's printer writes — for every data type and every escape table. -/
theorem gen_printer (esc : Char → Bool) (dt : DataType) : showTypeBy printerArms esc dt = showType? esc dt := by
  cases dt with
  | timestamp u tz => cases tz <;> (show some _ = some _; simp only [toList_eq_charsOf]; rfl)
  | decimal128 | duration | time32 | time64 | fixedSizeBinary | fixedSizeList =>
    -- the arm writes `"Name" ++ "(" ++ ..`, the model `"Name(" ++ ..`: the literals are evaluated
    show some _ = some _; simp only [toList_eq_charsOf]; rfl
  | _ => with_unfolding_all rfl

/-- the types the printer refuses are those without an arm -/
theorem gen_printable (dt : DataType) : printable dt = (lookupPrinter printerArms dt.ctorOf).isSome := by
  have h : Ctor.all.all (fun k =>
      (lookupPrinter printerArms k).isSome == !(Ctor.beq k .Interval || Ctor.beq k .RunEndEncoded)) = true := by
    decide +kernel
  rw [beq_iff_eq.mp (List.all_eq_true.mp h _ (Ctor.mem_all dt.ctorOf))]
  cases dt <;> rfl

/-- **obligation (C09, generated), all inputs.**  `PrettyField` writes a `children` key exactly for the constructors
listed in `is_data_type_with_children`. -/
theorem gen_with_children (esc : Char → Bool) (dt : DataType) :
    (printChildren esc dt).isSome = Ctor.elem dt.ctorOf withChildren := by
  cases dt <;> rfl

/-! ## the reader -/

def identT (s : String) : Term := .mk s.toList false .nil

/-- term arguments the printer would write for a constructor -/
def sampleArgs (k : Ctor) : Terms :=
  if Ctor.beq k .FixedSizeBinary || Ctor.beq k .FixedSizeList then .cons (identT "4") .nil
  else if Ctor.beq k .Timestamp then .cons (identT "Second") (.cons (identT "None") .nil)
  else if Ctor.beq k .Time32 || Ctor.beq k .Time64 || Ctor.beq k .Duration then .cons (identT "Second") .nil
  else if Ctor.beq k .Decimal128 then .cons (identT "5") (.cons (identT "2") .nil)
  else .nil

def termsOfLength : Nat → Terms
  | 0 => .nil
  | n + 1 => .cons (identT "Second") (termsOfLength n)

def f0 : Field := .mk "a" .int8 false []
def f1 : Field := .mk "b" .utf8 true []

def sampleChildren : ChildRule → List Field
  | .ignored => []
  | .exact n => List.replicate n f0
  | .all => [f0, f1]

/-- the model reads `name(sample arguments)` as the arm's constructor, the arm's argument count is that of the sample,
and no earlier arm takes the name -/
def readsAs (a : ReaderArm) (name : String) : Bool :=
  (match buildDataTypeOfTerm (.mk name.toList false (sampleArgs a.ctor)) (sampleChildren a.children) with
    | .ok dt => Ctor.beq dt.ctorOf a.ctor
    | .error _ => false) &&
  (sampleArgs a.ctor).toList.length == a.termArgs &&
  decide (lookupReader readerArms name a.termArgs = some a)

/-- the model uses `children` as the arm does: ignores them, wants exactly `n`, or takes any number -/
def childrenAs (a : ReaderArm) (name : String) : Bool :=
  [0, 1, 2, 3].all fun n =>
    let r := buildDataTypeOfTerm (.mk name.toList false (sampleArgs a.ctor)) (List.replicate n f0)
    match a.children with
    | .ignored => r.isOk
    | .all => r.isOk
    | .exact k => r.isOk == (n == k)

/-- both reader obligations in one evaluation: the kernel walks the model's match once per spelling -/
theorem reader_names_children :
    readerArms.all (fun a => a.names.all fun name => readsAs a name && childrenAs a name) = true := by
  simp only [readsAs, childrenAs, toList_eq_charsOf]
  decide +kernel

/-- **obligation (C09, generated).**  Entry by entry: every name of every arm of `build_data_type` is read by the model
as the constructor of that arm. -/
theorem gen_reader_names : readerArms.all (fun a => a.names.all (readsAs a)) = true :=
  List.all_eq_true.mpr fun a ha => List.all_eq_true.mpr fun n hn =>
    (Bool.and_eq_true_iff.mp (List.all_eq_true.mp (List.all_eq_true.mp reader_names_children a ha) n hn)).1

/-- **obligation (C09, generated).** -/
theorem gen_reader_children : readerArms.all (fun a => a.names.all (childrenAs a)) = true :=
  List.all_eq_true.mpr fun a ha => List.all_eq_true.mpr fun n hn =>
    (Bool.and_eq_true_iff.mp (List.all_eq_true.mp (List.all_eq_true.mp reader_names_children a ha) n hn)).2

/-- the reader table of the hand-written model: the arms of `Dsl.buildDataTypeOfTerm` (SaModel/Codec/Dsl.lean), one entry
per spelling: (name, number of term arguments, constructor) -/
def modelReaderTable : List (String × Nat × Ctor) :=
  [("Null", 0, .Null), ("Bool", 0, .Boolean), ("Boolean", 0, .Boolean), ("Utf8", 0, .Utf8), ("LargeUtf8", 0, .LargeUtf8),
   ("Utf8View", 0, .Utf8View), ("U8", 0, .UInt8), ("UInt8", 0, .UInt8), ("U16", 0, .UInt16), ("UInt16", 0, .UInt16),
   ("U32", 0, .UInt32), ("UInt32", 0, .UInt32), ("U64", 0, .UInt64), ("UInt64", 0, .UInt64), ("I8", 0, .Int8),
   ("Int8", 0, .Int8), ("I16", 0, .Int16), ("Int16", 0, .Int16), ("I32", 0, .Int32), ("Int32", 0, .Int32),
   ("I64", 0, .Int64), ("Int64", 0, .Int64), ("F16", 0, .Float16), ("Float16", 0, .Float16), ("F32", 0, .Float32),
   ("Float32", 0, .Float32), ("F64", 0, .Float64), ("Float64", 0, .Float64), ("Date32", 0, .Date32),
   ("Date64", 0, .Date64), ("Binary", 0, .Binary), ("LargeBinary", 0, .LargeBinary),
   ("FixedSizeBinary", 1, .FixedSizeBinary), ("BinaryView", 0, .BinaryView), ("Timestamp", 2, .Timestamp),
   ("Time32", 1, .Time32), ("Time64", 1, .Time64), ("Duration", 1, .Duration), ("Decimal128", 2, .Decimal128),
   ("Struct", 0, .Struct), ("List", 0, .List), ("LargeList", 0, .LargeList), ("FixedSizeList", 1, .FixedSizeList),
   ("Dictionary", 0, .Dictionary), ("Map", 0, .Map), ("Union", 0, .Union)]

def entryEq (x y : String × Nat × Ctor) : Bool := x.1 == y.1 && x.2.1 == y.2.1 && Ctor.beq x.2.2 y.2.2

/-- the generated table, one entry per spelling -/
def generatedReaderTable : List (String × Nat × Ctor) :=
  readerArms.flatMap fun a => a.names.map fun n => (n, a.termArgs, a.ctor)

/-- the two tables as sets of (name, number of arguments, constructor) -/
theorem tables_agree :
    generatedReaderTable.all (fun e => modelReaderTable.any (entryEq e)) = true ∧
    modelReaderTable.all (fun e => generatedReaderTable.any (entryEq e)) = true := by decide +kernel

theorem entryEq_eq {x y : String × Nat × Ctor} (h : entryEq x y = true) : x = y := by
  obtain ⟨x1, x2, x3⟩ := x
  obtain ⟨y1, y2, y3⟩ := y
  simp only [entryEq, Bool.and_eq_true, beq_iff_eq] at h
  rw [h.1.1, h.1.2, Ctor.beq_iff.mp h.2]

/-- an entry of the model's table is a spelling of an arm of the generated table, which the model reads as that arm -/
theorem model_entry_generated {e : String × Nat × Ctor} (he : e ∈ modelReaderTable) :
    ∃ a ∈ readerArms, ∃ n ∈ a.names, e = (n, a.termArgs, a.ctor) ∧ readsAs a n = true := by
  obtain ⟨g, hg, heq⟩ := List.any_eq_true.mp (List.all_eq_true.mp tables_agree.2 e he)
  obtain ⟨a, ha, n, hn, rfl⟩ := by simpa only [generatedReaderTable, List.mem_flatMap, List.mem_map] using hg
  exact ⟨a, ha, n, hn, entryEq_eq heq, List.all_eq_true.mp (List.all_eq_true.mp gen_reader_names a ha) n hn⟩

/-- **obligation (C09, generated).**  The reader table found in deserialize.rs and the reader table of the model have
the same entries (compared as sets: reordering arms that cannot both match is not a difference), and every entry of
the model's table is what the model function does (`gen_reader_names` says the same for the generated entries). -/
theorem gen_reader_table :
    generatedReaderTable.all (fun e => modelReaderTable.any (entryEq e)) = true ∧
    modelReaderTable.all (fun e => generatedReaderTable.any (entryEq e)) = true ∧
    modelReaderTable.all (fun e =>
      match buildDataTypeOfTerm (.mk e.1.toList false (sampleArgs e.2.2)) (sampleChildren
          (match lookupReader readerArms e.1 e.2.1 with | some a => a.children | none => .ignored)) with
      | .ok dt => Ctor.beq dt.ctorOf e.2.2 && (sampleArgs e.2.2).toList.length == e.2.1
      | .error _ => false) = true := by
  refine ⟨tables_agree.1, tables_agree.2, List.all_eq_true.mpr fun e he => ?_⟩
  obtain ⟨a, _, n, _, rfl, hr⟩ := model_entry_generated he
  simp only [readsAs, Bool.and_eq_true, decide_eq_true_eq] at hr
  obtain ⟨⟨hb, hlen⟩, hl⟩ := hr
  simp only [hl]
  cases h : buildDataTypeOfTerm (.mk n.toList false (sampleArgs a.ctor)) (sampleChildren a.children) with
  | error _ => rw [h] at hb; cases hb
  | ok dt => rw [h] at hb; simp only [hb, hlen, Bool.and_self]

/-- the arm table of the model function (`Lemmas.C09.modelTable`: the chain of tests of its matcher) is the model's reader
table without the constructors, so it is listed in the generated table -/
theorem modelTable_listed : modelTable.all (fun e => (lookupReader readerArms e.1 e.2).isSome) = true := by
  have hm : modelTable = modelReaderTable.map (fun e => (e.1, e.2.1)) := by decide +kernel
  rw [hm, List.all_map]
  refine List.all_eq_true.mpr fun e he => ?_
  obtain ⟨a, _, n, _, rfl, hr⟩ := model_entry_generated he
  simp only [readsAs, Bool.and_eq_true, decide_eq_true_eq] at hr
  simp only [Function.comp, hr.2, Option.isSome]

theorem lookupReader_mem : ∀ (arms : List ReaderArm) (x : String) (n : Nat) (a : ReaderArm),
    lookupReader arms x n = some a → a ∈ arms ∧ x ∈ a.names ∧ a.termArgs = n
  | [], _, _, _, h => by simp [lookupReader] at h
  | b :: r, x, n, a, h => by
    unfold lookupReader at h
    split at h
    · rename_i hc
      cases h
      simp only [Bool.and_eq_true, List.contains_eq_mem, decide_eq_true_eq, beq_iff_eq] at hc
      exact ⟨by simp, hc.1, hc.2⟩
    · have := lookupReader_mem r x n a h
      exact ⟨by simp [this.1], this.2⟩

theorem bind_elim {α β} (P : R β → Prop) (x : R α) (f : α → R β) (he : ∀ e, x = .error e → P (.error e))
    (hok : ∀ v, x = .ok v → P (f v)) : P (x >>= f) := by
  cases x with
  | error e => exact he e rfl
  | ok v => exact hok v rfl

/-- the final `_ => fail!` arm: a term whose (name, number of arguments) pair is not an arm of the match is an error -/
theorem ofTerm_unlisted (name : Text) (q : Bool) (args : Terms) (children : List Field)
    (h : modelArity (String.ofList name) ≠ some args.toList.length) :
    (buildDataTypeOfTerm (.mk name q args) children).isOk = false := by
  cases q with
  | true => rfl
  | false =>
    unfold buildDataTypeOfTerm
    apply bind_elim (fun r => r.isOk = false)
    · intro e _; rfl
    · intro v hv
      obtain ⟨n', a'⟩ := v
      have hv' : name = n' ∧ args = a' := by simpa [Term.asCall, pure, Except.pure] using hv
      obtain ⟨rfl, rfl⟩ := hv'
      apply buildDataTypeOfTerm_match_elim (fun r => r.isOk = false)
      all_goals first
        | (intro hx hl; rw [hx, hl] at h; simp [modelArity] at h; done)
        | (intro _ hx hl; rw [hx, hl] at h; simp [modelArity] at h; done)
        | (intro _ _ hx hl; rw [hx, hl] at h; simp [modelArity] at h; done)
        | (intro _; rfl)

/-- every spelling of the generated table is an arm of the model function with that number of arguments: the model reads it
with the sample arguments (`gen_reader_names`), and reads nothing its match has no arm for (`ofTerm_unlisted`) -/
theorem listed_modelArity {a : ReaderArm} (ha : a ∈ readerArms) {name : String} (hn : name ∈ a.names) :
    modelArity name = some a.termArgs := by
  have h := List.all_eq_true.mp (List.all_eq_true.mp gen_reader_names a ha) name hn
  simp only [readsAs, Bool.and_eq_true, beq_iff_eq] at h
  apply Decidable.byContradiction
  intro hne
  have hno := ofTerm_unlisted name.toList false (sampleArgs a.ctor) (sampleChildren a.children)
    (by rw [String.ofList_toList, h.1.2]; exact hne)
  cases hb : buildDataTypeOfTerm (.mk name.toList false (sampleArgs a.ctor)) (sampleChildren a.children) with
  | ok dt => rw [hb] at hno; cases hno
  | error e => rw [hb] at h; exact Bool.noConfusion h.1.1

/-- **obligation (C09, generated), all inputs.**  For EVERY string and every number of term arguments: the match of the
model function has an arm for the pair exactly when the table found in deserialize.rs lists it. -/
theorem gen_reader_arity (x : String) (n : Nat) :
    (lookupReader readerArms x n).isSome = true ↔ modelArity x = some n := by
  constructor
  · intro h
    cases hl : lookupReader readerArms x n with
    | none => simp [hl] at h
    | some a =>
      obtain ⟨ha, hx, hn⟩ := lookupReader_mem _ _ _ _ hl
      exact hn ▸ listed_modelArity ha hx
  · intro h
    exact List.all_eq_true.mp modelTable_listed _ (modelArity_mem x n h)

/-- **obligation (C09, generated), all inputs.**  The model's `build_data_type` accepts NO name outside the table found
in deserialize.rs: for every term — any name (all strings), quoted or not, any argument list — whose name with its
number of arguments is not listed, and for every list of children, the result is an error. -/
theorem gen_reader_rejects (name : Text) (q : Bool) (args : Terms) (children : List Field)
    (h : lookupReader readerArms (String.ofList name) args.toList.length = none) :
    (buildDataTypeOfTerm (.mk name q args) children).isOk = false := by
  apply ofTerm_unlisted
  intro hm
  have := (gen_reader_arity _ _).mpr hm
  simp [h] at this

/-- the same on the text level: whatever type string `build_data_type` accepts parses to an unquoted term whose name and
number of arguments the table lists -/
theorem gen_reader_rejects_text (pinned : Bool) (s : Text) (children : List Field) (dt : DataType)
    (h : buildDataTypeWith pinned s children = .ok dt) :
    ∃ name args, Term.fromStrWith pinned s = .ok (.mk name false args) ∧
      (lookupReader readerArms (String.ofList name) args.toList.length).isSome = true := by
  unfold buildDataTypeWith at h
  cases ht : Term.fromStrWith pinned s with
  | error e => simp [ht, bind, Except.bind] at h
  | ok t =>
    simp only [ht, bind, Except.bind] at h
    obtain ⟨name, q, args⟩ := t
    cases q with
    | true =>
      have hq : (buildDataTypeOfTerm (.mk name true args) children).isOk = false := rfl
      simp [h, R.isOk] at hq
    | false =>
      refine ⟨name, args, rfl, ?_⟩
      cases hl : lookupReader readerArms (String.ofList name) args.toList.length with
      | some a => rfl
      | none =>
        have := gen_reader_rejects name false args children hl
        simp [h, R.isOk] at this

def nonNames : List String :=
  ["Int", "int8", "I128", "U128", "String", "Str", "Float", "F8", "Bool8", "boolean", "null", "Unknown", "Large",
   "Timestamp64", "Date", "Time", "Decimal", "Decimal256", "Interval", "RunEndEncoded", "Utf8view", "LargeString",
   "FixedSizeUtf8", "Dict"]

/-- non-vacuity of `gen_reader_rejects`: these pairs meet its hypothesis (24 non-names with 0–3 arguments, every table
name with each number of arguments 0–3 the table does not give it) -/
example : nonNames.all (fun x => [0, 1, 2, 3].all fun n => (lookupReader readerArms x n).isNone) = true := by
  have hnone : nonNames.all (fun x => (modelArity x).isNone) = true := by decide +kernel
  refine List.all_eq_true.mpr fun x hx => List.all_eq_true.mpr fun n _ => ?_
  have hx := List.all_eq_true.mp hnone x hx
  cases hl : lookupReader readerArms x n with
  | none => rfl
  | some a => rw [(gen_reader_arity x n).mp (by rw [hl]; rfl)] at hx; cases hx
example : (readerArms.all fun a => a.names.all fun x => [0, 1, 2, 3].all fun n =>
    n == a.termArgs || (lookupReader readerArms x n).isNone) = true := by
  refine List.all_eq_true.mpr fun a ha => List.all_eq_true.mpr fun x hx => List.all_eq_true.mpr fun n _ => ?_
  cases hl : lookupReader readerArms x n with
  | none => simp
  | some a' =>
    have h := (gen_reader_arity x n).mp (by rw [hl]; rfl)
    rw [listed_modelArity ha hx] at h
    cases h; simp
example : (buildDataTypeOfTerm (.mk "Interval".toList false (termsOfLength 1)) [f0]).isOk = false :=
  gen_reader_rejects _ _ _ _ (by decide +kernel)

/-! ## printer and reader against each other (the generated tables alone) -/

/-- **obligation (C09, generated).**  Every name `PrettyFieldDataType` writes, with the number of arguments it writes, is
read by `build_data_type` as the same constructor. -/
theorem gen_print_read :
    printerArms.all (fun p =>
      match lookupReader readerArms p.head p.args.length with
      | some a => Ctor.beq a.ctor p.ctor
      | none => false) = true := by decide +kernel

/-- every constructor `build_data_type` can return has a printer arm -/
theorem gen_read_print : readerArms.all (fun a => (lookupPrinter printerArms a.ctor).isSome) = true := by decide +kernel

/-! ## `Term::as_option` -/

/-- **obligation (C09, generated).** -/
theorem gen_option_names :
    optionNames.all (fun e =>
      match (Term.mk e.1.toList false (termsOfLength e.2.1)).asOption with
      | .ok r => r.isSome == e.2.2
      | .error _ => false) = true := by decide +kernel

/-- **obligation (C09, generated), all inputs**: the model's `as_option` accepts nothing but the listed names -/
theorem gen_option_complete (name : Text) (q : Bool) (args : Terms) (r : Option Term)
    (h : (Term.mk name q args).asOption = .ok r) :
    (String.ofList name, args.toList.length, r.isSome) ∈ optionNames := by
  cases q with
  | true => simp [Term.asOption, fail] at h
  | false =>
    cases args with
    | nil =>
      simp only [Term.asOption] at h
      split at h
      · rename_i hn; cases h; simp [optionNames, hn, Terms.toList]
      · simp [fail] at h
    | cons a rest =>
      cases rest with
      | nil =>
        simp only [Term.asOption] at h
        split at h
        · rename_i hn; cases h; simp [optionNames, hn, Terms.toList]
        · simp [fail] at h
      | cons b rest => simp [Term.asOption, fail] at h

/-! ## strategies -/

/-- **obligation (C09, generated).**  `Display for Strategy` entry by entry, all four strategies listed. -/
theorem gen_strategy_display :
    strategyDisplay.all (fun e => e.1.toString == e.2) = true ∧
      [Strategy.inconsistentTypes, .tupleAsStruct, .mapAsStruct, .unknownVariant].all
        (fun s => strategyDisplay.any (fun e => decide (e.1 = s))) = true := by decide +kernel

/-- **obligation (C09, generated).**  `FromStr for Strategy` entry by entry. -/
theorem gen_strategy_from_str : strategyFromStr.all (fun e => decide (Strategy.parse e.1 = .ok e.2)) = true := by
  decide +kernel

/-- **obligation (C09, generated), all inputs**: the model's `FromStr` accepts nothing but the listed names -/
theorem gen_strategy_complete (x : String) (s : Strategy) (h : Strategy.parse x = .ok s) : (x, s) ∈ strategyFromStr := by
  unfold Strategy.parse at h
  repeat' split at h
  all_goals first
    | (cases h; rename_i hx; subst hx; simp [strategyFromStr]; done)
    | (cases h; simp_all [strategyFromStr]; done)
    | (simp [fail] at h; done)

example : showTypeBy printerArms (fun _ => false) (.timestamp .millisecond (some "UTC")) =
    some "Timestamp(Millisecond, Some(\"UTC\"))".toList := by decide +kernel
example : showTypeBy printerArms (fun _ => false) (.fixedSizeList f0 3) = some "FixedSizeList(3)".toList := by decide +kernel
example : showTypeBy printerArms (fun _ => false) (.interval .dayTime) = none := by decide +kernel
example : (lookupReader readerArms "Boolean" 0).map (·.ctor) = some .Boolean := by decide +kernel
example : (lookupReader readerArms "Boolean" 1).map (·.ctor) = none := by decide +kernel
example : (Term.mk "Some".toList false (.cons (identT "x") .nil)).asOption = .ok (some (identT "x")) := by decide +kernel

end SaModel.Props.C09Gen
