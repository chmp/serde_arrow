import SaModel.Props.C09Nec
import SaModel.Codec.SchemaMarrow
/-
C09, "converted to … marrow fields and back": the marrow-field ↔ `SerdeArrowSchema` conversions of the crate
(model: `SaModel/Codec/SchemaMarrow.lean`; the schema IS a vector of marrow fields, the strategy lives in the metadata entry
`SERDE_ARROW:strategy` of the marrow field — there is no second field type to convert to).

  C09_marrow_roundtrip        schema → marrow fields → `from_value(&fields)` gives back the schema, for every valid schema
                              whose top-level `Null` fields are nullable (every schema `from_value` / the tracer builds)
  C09_marrow_roundtrip_domain the same for every schema in `SchemaOK`
  C09_marrow_accepted         marrow fields → schema → marrow fields: what `from_value(&fields)` ACCEPTS comes back as the
                              given fields with top-level `Null` made nullable (`normField`): name, data type with all
                              parameters and children, metadata — strategy entry included — untouched; unchanged
                              (`C09_marrow_accepted_id`) when no top-level `Null` field is marked non-nullable
  C09_marrow_idempotent       an accepted schema is a fixed point: converting it to marrow fields and back gives itself
  C09_marrow_strategy         the strategy read from the metadata (`get_strategy_from_metadata`) of every field survives
  C09_marrow_unchecked        `ArrayBuilder::from_marrow` wraps the fields as they are
arrow / arrow2 fields: the crate maps marrow's own `TryFrom` impls over the list (third-party; validated by the suite).
-/
namespace SaModel.Props.C09
open SaModel SaModel.Dsl SaModel.SchemaJson SaModel.Lemmas.C09

theorem nullTop_norm (f : Field) (h : nullTop f = true) : normField f = f := by
  obtain ⟨n, dt, nl, m⟩ := f
  cases dt <;> simp_all [normField, normNullable, nullTop]

theorem normField_idem (f : Field) : normField (normField f) = normField f := by
  obtain ⟨n, dt, nl, m⟩ := f
  cases dt <;> simp [normField, normNullable]

theorem acceptForeign_norm (f f' : Field) (h : acceptForeign f = .ok f') : f' = normField f := by
  have := acceptForeign_eq f f' h
  obtain ⟨n, dt, nl, m⟩ := f
  simpa [normField, Field.name, Field.dataType, Field.nullable, Field.metadata] using this

theorem acceptForeign_fixed (f f' : Field) (h : acceptForeign f = .ok f') : acceptForeign f' = .ok f' := by
  have e := acceptForeign_norm f f' h
  subst e
  obtain ⟨n, dt, nl, m⟩ := f
  have hi := normField_idem (.mk n dt nl m)
  simp only [normField] at hi
  simp only [acceptForeign, normField] at h ⊢
  injection hi with _ _ hnl _
  rw [hnl]
  exact h

theorem acceptForeignList_valid : ∀ fs : List Field, (∀ f ∈ fs, validField f = true ∧ nullTop f = true) →
    acceptForeignList fs = .ok fs
  | [], _ => rfl
  | f :: r, h => by
    have hf := h f (by simp)
    have h1 : acceptForeign f = .ok f := C09_foreign f hf.1 (by
      intro n nl m e; subst e; simpa [nullTop] using hf.2)
    have h2 := acceptForeignList_valid r (fun g hg => h g (by simp [hg]))
    simp [acceptForeignList, h1, h2, bind, Except.bind, pure, Except.pure]

theorem acceptForeignList_norm : ∀ (fs fs' : List Field), acceptForeignList fs = .ok fs' → fs' = fs.map normField
  | [], fs', h => by simp [acceptForeignList, pure, Except.pure] at h; simp [h]
  | f :: r, fs', h => by
    simp only [acceptForeignList] at h
    obtain ⟨f', hf, h⟩ := R.bind_ok_inv h
    obtain ⟨r', hr, h⟩ := R.bind_ok_inv h
    cases h
    simp [acceptForeign_norm f f' hf, acceptForeignList_norm r r' hr]

theorem acceptForeignList_fixed : ∀ (fs fs' : List Field), acceptForeignList fs = .ok fs' → acceptForeignList fs' = .ok fs'
  | [], fs', h => by simp [acceptForeignList, pure, Except.pure] at h; subst h; rfl
  | f :: r, fs', h => by
    simp only [acceptForeignList] at h
    obtain ⟨f', hf, h⟩ := R.bind_ok_inv h
    obtain ⟨r', hr, h⟩ := R.bind_ok_inv h
    cases h
    simp [acceptForeignList, acceptForeign_fixed f f' hf, acceptForeignList_fixed r r' hr, bind, Except.bind, pure, Except.pure]

/-- **C09, marrow fields: schema → marrow fields → schema.**  For every schema whose fields are valid and whose top-level
`Null` fields are nullable, handing its marrow fields back where a schema value is accepted gives the same schema. -/
theorem C09_marrow_roundtrip (s : Schema) (h : ∀ f ∈ s.fields, validField f = true ∧ nullTop f = true) :
    fromMarrow (toMarrow s) = .ok s := by
  obtain ⟨fs⟩ := s
  simp [fromMarrow, toMarrow, acceptForeignList_valid fs h, bind, Except.bind, pure, Except.pure]

theorem nullTop_of_repr (f : Field) (h : reprField f = true) : nullTop f = true := by
  obtain ⟨n, dt, nl, m⟩ := f
  cases dt <;> simp_all [nullTop, reprField, reprType]

/-- … in particular for every schema of the round-trip domain of the JSON form -/
theorem C09_marrow_roundtrip_domain (s : Schema) (h : ∀ f ∈ s.fields, SchemaOK f) : fromMarrow (toMarrow s) = .ok s :=
  C09_marrow_roundtrip s fun f hf => by
    have := h f hf
    simp only [SchemaOK, schemaOK, Bool.and_eq_true] at this
    exact ⟨this.1, nullTop_of_repr f this.2⟩

/-- **C09, marrow fields: marrow fields → schema → marrow fields.**  Whatever field list `from_value(&fields)` accepts
comes back as the given list with top-level `Null` fields made nullable — nothing else is touched. -/
theorem C09_marrow_accepted (fs : List Field) (s : Schema) (h : fromMarrow fs = .ok s) :
    toMarrow s = fs.map normField := by
  simp only [fromMarrow] at h
  obtain ⟨fs', hfs, h⟩ := R.bind_ok_inv h
  cases h
  exact acceptForeignList_norm fs fs' hfs

/-- … and is the given list itself when no top-level `Null` field is marked non-nullable -/
theorem C09_marrow_accepted_id (fs : List Field) (s : Schema) (h : fromMarrow fs = .ok s)
    (hn : ∀ f ∈ fs, nullTop f = true) : toMarrow s = fs := by
  rw [C09_marrow_accepted fs s h]
  clear h
  induction fs with
  | nil => rfl
  | cons f r ih =>
    simp only [List.map_cons, nullTop_norm f (hn f (by simp)), ih (fun g hg => hn g (by simp [hg]))]

/-- an accepted schema is a fixed point of marrow fields → schema -/
theorem C09_marrow_idempotent (fs : List Field) (s : Schema) (h : fromMarrow fs = .ok s) :
    fromMarrow (toMarrow s) = .ok s := by
  simp only [fromMarrow] at h
  obtain ⟨fs', hfs, h⟩ := R.bind_ok_inv h
  cases h
  simp [fromMarrow, toMarrow, acceptForeignList_fixed fs fs' hfs, bind, Except.bind, pure, Except.pure]

/-- the strategy of every field (read from the metadata entry `SERDE_ARROW:strategy`), its name and its data type survive -/
theorem C09_marrow_strategy (fs : List Field) (s : Schema) (h : fromMarrow fs = .ok s) :
    (toMarrow s).map (fun f => (f.name, f.dataType, getStrategyFromMetadata f.metadata)) =
      fs.map (fun f => (f.name, f.dataType, getStrategyFromMetadata f.metadata)) := by
  rw [C09_marrow_accepted fs s h, List.map_map]
  apply List.map_congr_left
  intro f _
  obtain ⟨n, dt, nl, m⟩ := f
  rfl

/-- `ArrayBuilder::from_marrow` / `Deserializer::from_marrow` wrap the fields as they are -/
theorem C09_marrow_unchecked (fs : List Field) : toMarrow (fromMarrowUnchecked fs) = fs := rfl

/-! non-vacuity: the nested example schema of Props/C09.lean (strategy + metadata, sorted out types) and a schema OUTSIDE
the JSON domain (sorted map, sparse union with ids 5, 3) survive the marrow conversion; a non-nullable top-level `Null` is
normalised; an invalid field list is refused -/
example : fromMarrow (toMarrow ⟨[exampleField]⟩) = .ok ⟨[exampleField]⟩ :=
  C09_marrow_roundtrip_domain ⟨[exampleField]⟩ (by intro f hf; simp at hf; subst hf; exact exampleField_ok)
example :
    let f : Field := .mk "m" (.map (.mk "entries" (.struct (.cons (.mk "key" .utf8 false []) (.cons (.mk "value"
      (.union (.cons 5 (.mk "a" .int8 false []) (.cons 3 (.mk "b" .utf8 true []) .nil)) .sparse) true []) .nil))) false []) true)
      false [(STRATEGY_KEY, "x")]
    schemaOK (.mk "m" f.dataType false []) = false ∧ fromMarrow [.mk "m" f.dataType false []] = .ok ⟨[.mk "m" f.dataType false []]⟩ ∧
      (fromMarrow [f]).isOk = false := by decide +kernel
example : fromMarrow [.mk "n" .null false []] = .ok ⟨[.mk "n" .null true []]⟩ := by decide +kernel

end SaModel.Props.C09
