import SaModel.Props.C10
/-
C10 — ArrayBuilder histories, the statements about the ARRAYS every build returns.

Props/C10.lean speaks about the builder STATE a build sees (`take_is_fresh`, `batches`, `batches_interp`).  Here the
state statements are turned into the statements the property literally makes:

  run_oneShot              the state build k sees IS the state `runRows ext fields (batch k)` reaches from a fresh builder,
                           and the arrays build k returns ARE (physically, as `Arr`s) the arrays of the one-shot
                           `toMarrow ext fields (batch k)`.  No hypothesis on schema or rows.
  C10_histories            `outs.length = number of builds`, and the arrays of build k decode (`Spec.decodeAll`), column by
                           column, to exactly `(batch k).map (interpRow ext fields)`; a 0-row build decodes to empty columns.
                           Hypotheses: those of `C01.C01_build_decode'` (no `Safe`).
  C10_chunking_irrelevant  two histories with the same batches return physically equal arrays (and see equal states), and
                           end in the same builder state when the rows after the last build agree as well.
  C10_build_is_fresh       what follows a build in a history is literally a history of a fresh builder: same arrays,
                           same final state.
-/
namespace SaModel.Props.C10
open SaModel SaModel.Build SaModel.Spec

/-- the number of `build` operations of a history -/
def builds (ops : List Op) : Nat := (ops.filter Op.isBuild).length

theorem batchesFrom_length : ∀ (ops : List Op) (pending : List SVal), (batchesFrom pending ops).length = builds ops
  | [], _ => rfl
  | op :: ops, pending => by
    rcases op.build_or_add with rfl | hb
    · exact congrArg (· + 1) (batchesFrom_length ops [])
    · rw [batchesFrom_add hb, batchesFrom_length ops, builds, builds, List.filter_cons_of_neg (by simp [hb])]

/-- every record of every batch comes from the pending rows or from an operation of the history -/
theorem mem_batchesFrom (okx : SVal → Prop) : ∀ (ops : List Op) (pending : List SVal),
    (∀ x ∈ pending, okx x) → OpsOK okx ops → ∀ rows ∈ batchesFrom pending ops, ∀ x ∈ rows, okx x
  | [], _, _, _, rows, hr => nomatch hr
  | op :: ops, pending, hp, ho, rows, hr => by
    have ih := mem_batchesFrom okx ops
    rcases op.build_or_add with rfl | hb
    · rcases List.mem_cons.1 hr with rfl | hr
      · exact hp
      · exact ih [] (by simp) ho.tail rows hr
    · rw [batchesFrom_add hb] at hr
      exact ih _ (fun y hy => (List.mem_append.1 hy).elim (hp y) (ho op (by simp) y)) ho.tail rows hr

theorem toMarrow_of_run {ext : Ext} {fields : List Field} {root rest : B} {rows : List SVal} {arrs : List Arr}
    (hr : runRows ext fields rows = .ok root) (hb : buildArrays ext root = .ok (arrs, rest)) :
    toMarrow ext fields rows = .ok arrs := by
  rw [Props.C03.toMarrow_eq, hr, R.ok_bind, hb]; rfl

theorem toMarrow_of_fold {ext : Ext} {fields : List Field} {r0 root rest : B} {rows : List SVal} {arrs : List Arr}
    (h0 : newRoot fields = .ok r0) (hf : rows.foldlM (push ext) r0 = .ok root)
    (hb : buildArrays ext root = .ok (arrs, rest)) : toMarrow ext fields rows = .ok arrs :=
  toMarrow_of_run (runRows_of_fold h0 hf) hb

/-- **every build is the one-shot conversion of its batch.**  Along any history from a fresh builder — however the
rows were added — the root state build k sees is exactly the state `runRows ext fields (batch k)` reaches, and the
arrays build k returns are PHYSICALLY the arrays `toMarrow ext fields (batch k)` (the one-shot `to_marrow`) returns.
No hypothesis on the schema or the rows. -/
theorem run_oneShot (ext : Ext) (fields : List Field) (r0 : B) (h0 : newRoot fields = .ok r0)
    (ops : List Op) (outs : List (B × List Arr)) (fin : B) (h : run ext r0 ops = .ok (outs, fin)) :
    All2 (fun (out : B × List Arr) rows =>
        runRows ext fields rows = .ok out.1 ∧ toMarrow ext fields rows = .ok out.2)
      outs (batchesFrom [] ops) ∧
    runRows ext fields (trailing [] ops) = .ok fin := by
  obtain ⟨g1, g2⟩ := run_folds ext fields r0 h0 (fun _ => True) ops (fun _ _ _ _ => trivial) outs fin h
  exact ⟨All2.imp (fun out rows ⟨_, hr, hb⟩ => ⟨hr, toMarrow_of_run hr hb⟩) g1, g2⟩

/-- **what the one-shot conversion guarantees holds of every build.**  A relation `Φ` between rows and arrays that holds
whenever `toMarrow` converts rows satisfying `okx` holds between every batch of a history and the arrays its build returns. -/
theorem run_lift (ext : Ext) (fields : List Field) (r0 : B) (h0 : newRoot fields = .ok r0)
    (okx : SVal → Prop) (Φ : List SVal → List Arr → Prop)
    (hΦ : ∀ rows arrs, (∀ x ∈ rows, okx x) → toMarrow ext fields rows = .ok arrs → Φ rows arrs)
    (ops : List Op) (hok : OpsOK okx ops) (outs : List (B × List Arr)) (fin : B) (h : run ext r0 ops = .ok (outs, fin)) :
    ∀ (k : Nat) (h1 : k < outs.length) (h2 : k < (batchesFrom [] ops).length),
      Φ (batchesFrom [] ops)[k] outs[k].2 := by
  obtain ⟨_, hg⟩ := Props.C03.All2_get (run_folds ext fields r0 h0 okx ops hok outs fin h).1
  intro k h1 h2
  obtain ⟨hx, hr, hb⟩ := hg k h1 h2
  exact hΦ _ _ hx (toMarrow_of_run hr hb)

/-- "the arrays `arrs` decode, column by column, to exactly the documented rows of `rows`" — the conclusion of
`C01.C01_build_decode'`: one array per field; `cols` (one column per field, named after it, `rows.length` slots each) is
what the arrays decode to by the Arrow reading rules; and the documented value of record `i` is the struct whose `j`-th
field is slot `i` of column `j`. -/
def DecodesTo (ext : Ext) (fields : List Field) (arrs : List Arr) (rows : List SVal) : Prop :=
  arrs.length = fields.length ∧
  ∃ cols : List (String × List LVal),
    arrs.map decodeAll = cols.map (fun c => c.2.map .ok) ∧
    cols.map (·.1) = fields.map (·.name) ∧
    (∀ c ∈ cols, c.2.length = rows.length) ∧
    ∀ (i : Nat) (hi : i < rows.length),
      interpRow ext fields rows[i] = .ok (.struct (LFields.ofList (cols.map fun c => (c.1, c.2.getD i .null))))

/-- `C01.C01_build_decode'` with its conditions on the rows record by record -/
theorem decodes_of_ok (ext : Ext) (fields : List Field) (hschema : ∀ f ∈ fields, Lemmas.C03.SchemaOKF f)
    (hcov : fields.all Build.coveredF = true) (rows : List SVal) (arrs : List Arr) (hr : ∀ x ∈ rows, DecodeOK fields x)
    (h : toMarrow ext fields rows = .ok arrs) : DecodesTo ext fields arrs rows :=
  C01.C01_build_decode' ext fields rows arrs hschema hcov (DecodeOK.rawRows hr).1 (DecodeOK.rawRows hr).2 h

/-- arrays that decode to the rows: every row has a documented value -/
theorem DecodesTo.interp_ok {ext : Ext} {fields : List Field} {arrs : List Arr} {rows : List SVal}
    (h : DecodesTo ext fields arrs rows) : ∀ x ∈ rows, ∃ lv, interpRow ext fields x = .ok lv := by
  obtain ⟨_, _, _, _, _, hr⟩ := h
  intro x hx
  obtain ⟨i, hi, rfl⟩ := List.getElem_of_mem hx
  exact ⟨_, hr i hi⟩

/-- row-wise reading of `DecodesTo`: the list of documented rows IS the transposition of the decoded columns -/
theorem DecodesTo.rows_eq {ext : Ext} {fields : List Field} {arrs : List Arr} {rows : List SVal}
    (h : DecodesTo ext fields arrs rows) :
    ∃ cols : List (String × List LVal), arrs.map decodeAll = cols.map (fun c => c.2.map .ok) ∧
      rows.map (interpRow ext fields) = (List.range rows.length).map fun i =>
        .ok (.struct (LFields.ofList (cols.map fun c => (c.1, c.2.getD i .null)))) := by
  obtain ⟨_, cols, h1, _, _, h4⟩ := h
  refine ⟨cols, h1, ?_⟩
  apply List.ext_getElem
  · simp
  · intro i hi1 hi2
    simp only [List.length_map] at hi1
    simp only [List.getElem_map, List.getElem_range]
    exact h4 i hi1

/-- a 0-row build decodes to empty columns, one per field -/
theorem DecodesTo.empty {ext : Ext} {fields : List Field} {arrs : List Arr} (h : DecodesTo ext fields arrs []) :
    arrs.map decodeAll = fields.map fun _ => [] := by
  obtain ⟨_, cols, h1, h2, h3, _⟩ := h
  rw [h1]
  have hl : cols.length = fields.length := by simpa using congrArg List.length h2
  apply List.ext_getElem
  · simpa using hl
  · intro i hi1 hi2
    simp only [List.length_map] at hi1
    simp only [List.getElem_map]
    have := h3 cols[i] (List.getElem_mem hi1)
    simp only [List.length_nil, List.length_eq_zero_iff] at this
    rw [this]; rfl

/-- **C10 (histories).**  For every history `ops` of push / extend / serialize-through-`Serializer` / build operations on
the builder of `fields` (any length, zero-row and repeated builds included): when the history succeeds, it returned one
result per `build`, and the arrays of build `k` decode (`Spec.decodeAll`: the Arrow reading rules, slot by slot), column
by column, to exactly the documented rows `interpRow ext fields` of batch `k` — the records added since build `k-1`, in
order, however they were added.  (A 0-row build decodes to empty columns: `DecodesTo.empty`.)
Hypotheses: exactly those of `C01.C01_build_decode'` (`SchemaOKF`, `coveredF` — NO `Safe`: the hidden-rows refinement;
records whose raw call streams alternate, `structStreamsAlternate`; the sentinel bound `narrowRoot` when some record contains
a raw stream). -/
theorem C10_histories (ext : Ext) (fields : List Field) (r0 : B) (h0 : newRoot fields = .ok r0)
    (hschema : ∀ f ∈ fields, Lemmas.C03.SchemaOKF f)
    (hcov : fields.all Build.coveredF = true)
    (ops : List Op) (hraw : OpsOK (fun x => structStreamsAlternate x = true) ops)
    (hnar : OpsOK (fun x => noRaw x = true) ops ∨ narrowRoot fields = true)
    (outs : List (B × List Arr)) (fin : B) (h : run ext r0 ops = .ok (outs, fin)) :
    outs.length = builds ops ∧ (batchesFrom [] ops).length = builds ops ∧
    ∀ (k : Nat) (h1 : k < outs.length) (h2 : k < (batchesFrom [] ops).length),
      DecodesTo ext fields outs[k].2 (batchesFrom [] ops)[k] := by
  obtain ⟨hl, _⟩ := Props.C03.All2_get (run_oneShot ext fields r0 h0 ops outs fin h).1
  exact ⟨by rw [hl, batchesFrom_length], batchesFrom_length ops [],
    fun k h1 h2 => run_lift ext fields r0 h0 (DecodeOK fields) (fun rows arrs => DecodesTo ext fields arrs rows)
      (decodes_of_ok ext fields hschema hcov) ops (hraw.decodeOK hnar) outs fin h k h1 h2⟩

/-- **every build returns well-formed arrays of its batch's length** (C03 along histories): the arrays of build `k` are
well-formed Arrow arrays of the declared fields (`Spec.WF`: structurally valid AND of exactly the field's data
type), one per field, each of exactly `(batch k).length` rows.
Hypotheses: those of `C01.C03_wf'` — `hplain`: no metadata on a Map's entries field (known finding
C03-map-entries-metadata); `hsafe` is `Safe r0 ∨ coveredF` (decidable on the schema; excluded: a dictionary with
NON-nullable keys and a value type other than Utf8 / LargeUtf8 below a nullable struct / fixed-size list). -/
theorem C10_builds_wf (ext : Ext) (fields : List Field) (r0 : B) (h0 : newRoot fields = .ok r0)
    (hschema : ∀ f ∈ fields, Lemmas.C03.SchemaOKF f)
    (hplain : ∀ f ∈ fields, Lemmas.C03.PlainF f)
    (hsafe : Safe r0 ∨ fields.all Build.coveredF = true) (hext : Lemmas.C03.ExtOK ext)
    (ops : List Op) (hrows : OpsOK Lemmas.C03.SValOK ops)
    (outs : List (B × List Arr)) (fin : B) (h : run ext r0 ops = .ok (outs, fin)) :
    ∀ (k : Nat) (h1 : k < outs.length) (h2 : k < (batchesFrom [] ops).length),
      outs[k].2.length = fields.length ∧
      ∀ (j : Nat) (f : Field) (a : Arr), fields[j]? = some f → outs[k].2[j]? = some a →
        WF f a = true ∧ (decodeAll a).length = (batchesFrom [] ops)[k].length := by
  exact run_lift ext fields r0 h0 Lemmas.C03.SValOK _ (fun rows arrs hr hm =>
    Props.C01.C03_wf' ext fields rows arrs hschema hplain
      (hsafe.imp (fun hs root0 hr => by rw [h0] at hr; cases hr; exact hs) id) hext hr hm) ops hrows outs fin h

theorem All2_functional {α β} {R : α → β → Prop} (hfun : ∀ a a' b, R a b → R a' b → a = a')
    {l1 l1' : List α} {l2 : List β} (h : All2 R l1 l2) (h' : All2 R l1' l2) : l1 = l1' := by
  induction h generalizing l1' with
  | nil => cases h'; rfl
  | cons hr _ ih => cases h' with | cons hr' t' => rw [hfun _ _ _ hr hr', ih t']

/-- **C10 (chunking is irrelevant).**  Two histories on builders of the same schema whose batches agree — the same
rows between consecutive builds, split in any way into `push`, `extend` (chunks of any sizes) and `Serializer` calls —
return PHYSICALLY equal arrays at every build (equality of `Arr`s: buffers, bitmaps, offsets, hidden slots), from equal
builder states; each of them is the one-shot `toMarrow ext fields (batch k)`.  If the rows after the last build agree as
well, the two builders end in the same state.  No hypothesis on the schema or the rows. -/
theorem C10_chunking_irrelevant (ext : Ext) (fields : List Field) (r0 : B) (h0 : newRoot fields = .ok r0)
    (ops ops' : List Op) (outs outs' : List (B × List Arr)) (fin fin' : B)
    (hb : batchesFrom [] ops = batchesFrom [] ops')
    (h : run ext r0 ops = .ok (outs, fin)) (h' : run ext r0 ops' = .ok (outs', fin')) :
    outs = outs' ∧
    All2 (fun (out : B × List Arr) rows => toMarrow ext fields rows = .ok out.2) outs (batchesFrom [] ops) ∧
    (trailing [] ops = trailing [] ops' → fin = fin') := by
  obtain ⟨g1, g2⟩ := run_oneShot ext fields r0 h0 ops outs fin h
  obtain ⟨g1', g2'⟩ := run_oneShot ext fields r0 h0 ops' outs' fin' h'
  rw [← hb] at g1'
  refine ⟨All2_functional ?_ g1 g1', All2.imp (fun _ _ h => h.2) g1, ?_⟩
  · intro a a' rows ⟨ha1, ha2⟩ ⟨hb1, hb2⟩
    rw [ha1] at hb1; rw [ha2] at hb2
    exact Prod.ext (Except.ok.inj hb1) (Except.ok.inj hb2)
  · intro ht
    rw [ht, g2'] at g2
    cases g2; rfl

/-- the arrays alone (what a caller observes) -/
theorem C10_chunking_arrays (ext : Ext) (fields : List Field) (r0 : B) (h0 : newRoot fields = .ok r0)
    (ops ops' : List Op) (outs outs' : List (B × List Arr)) (fin fin' : B)
    (hb : batchesFrom [] ops = batchesFrom [] ops')
    (h : run ext r0 ops = .ok (outs, fin)) (h' : run ext r0 ops' = .ok (outs', fin')) :
    outs.map (·.2) = outs'.map (·.2) := by
  rw [(C10_chunking_irrelevant ext fields r0 h0 ops ops' outs outs' fin fin' hb h h').1]

theorem run_append (ext : Ext) : ∀ (ops1 ops2 : List Op) (root : B),
    run ext root (ops1 ++ ops2) = (do
      let (o1, mid) ← run ext root ops1
      let (o2, fin) ← run ext mid ops2
      pure (o1 ++ o2, fin))
  | [], ops2, root => by
    simp only [List.nil_append, run, bind, Except.bind]
    cases run ext root ops2 <;> rfl
  | op :: ops1, ops2, root => by
    have ih := run_append ext ops1 ops2
    rcases op.build_or_add with rfl | hb
    · simp only [List.cons_append, run, bind, Except.bind]
      cases buildArrays ext root with
      | error e => rfl
      | ok p =>
        obtain ⟨arrs, rest⟩ := p
        simp only [ih, bind, Except.bind]
        cases run ext rest ops1 with
        | error e => rfl
        | ok q =>
          obtain ⟨o1, mid⟩ := q
          simp only [pure, Except.pure]
          cases run ext mid ops2 <;> rfl
    · rw [List.cons_append, run_add hb, run_add hb]
      cases op.add ext root with
      | error e => rfl
      | ok r => exact ih r

theorem trailing_build : ∀ (ops : List Op) (pending : List SVal), trailing pending (ops ++ [Op.build]) = []
  | [], _ => rfl
  | op :: ops, pending => by
    rcases op.build_or_add with rfl | hb
    · exact trailing_build ops _
    · rw [List.cons_append, trailing_add hb]; exact trailing_build ops _

/-- **C10 (a build leaves a fresh builder), at the level of what is returned.**  Split a successful history at any of
its builds: the part up to and including that build ends in literally the fresh builder `r0`, and the rest of the
history returns exactly what the SAME operations return on a freshly constructed builder — physically the same arrays
at every later build, from the same states, ending in the same state.  In particular the next build of some rows
returns physically the arrays a fresh builder returns for those rows.  No hypothesis on the schema or the rows. -/
theorem C10_build_is_fresh (ext : Ext) (fields : List Field) (r0 : B) (h0 : newRoot fields = .ok r0)
    (ops1 ops2 : List Op) (outs : List (B × List Arr)) (fin : B)
    (h : run ext r0 (ops1 ++ .build :: ops2) = .ok (outs, fin)) :
    ∃ outs1 outs2, run ext r0 (ops1 ++ [.build]) = .ok (outs1, r0) ∧ run ext r0 ops2 = .ok (outs2, fin) ∧
      outs = outs1 ++ outs2 := by
  have e : ops1 ++ Op.build :: ops2 = (ops1 ++ [.build]) ++ ops2 := by simp
  rw [e, run_append] at h
  obtain ⟨⟨o1, mid⟩, ha, h⟩ := (bind_ok _ _ _).1 h
  obtain ⟨⟨o2, fin2⟩, hb, h⟩ := (bind_ok _ _ _).1 h
  cases h
  have hmid : mid = r0 := by
    have g2 := (run_oneShot ext fields r0 h0 (ops1 ++ [.build]) o1 mid ha).2
    rw [trailing_build ops1 [], runRows, h0] at g2
    cases g2; rfl
  subst hmid
  exact ⟨o1, o2, ha, hb, rfl⟩

/-- the same, for the rows: after ANY successful history ending in a build, building `rows` next (added in any way)
returns physically the arrays of the one-shot conversion on a fresh builder -/
theorem C10_next_build_oneShot (ext : Ext) (fields : List Field) (r0 : B) (h0 : newRoot fields = .ok r0)
    (ops1 ops2 : List Op) (outs : List (B × List Arr)) (fin : B)
    (h : run ext r0 (ops1 ++ .build :: ops2) = .ok (outs, fin)) :
    ∃ outs1 outs2, outs = outs1 ++ outs2 ∧ outs1.length = builds ops1 + 1 ∧
      All2 (fun (out : B × List Arr) rows => toMarrow ext fields rows = .ok out.2) outs2 (batchesFrom [] ops2) := by
  obtain ⟨o1, o2, ha, hb, rfl⟩ := C10_build_is_fresh ext fields r0 h0 ops1 ops2 outs fin h
  refine ⟨o1, o2, rfl, ?_, All2.imp (fun _ _ h => h.2) (run_oneShot ext fields r0 h0 ops2 o2 fin hb).1⟩
  have := All2.length (run_oneShot ext fields r0 h0 _ o1 r0 ha).1
  rw [this, batchesFrom_length]
  simp only [builds, List.filter_append, List.length_append]
  rfl

/-- the schema and history of the examples: a dictionary column (per-batch state) and a nullable list; two batches and
an empty build, the rows added through all three front ends -/
def exFields : List Field :=
  [.mk "d" (.dictionary .uint8 .utf8) false [], .mk "l" (.list (.mk "element" .int8 false [])) true []]

def exRec (s : String) (xs : List Int) : SVal :=
  .record "R" (.cons "d" 0 (.str s) (.cons "l" 1 (.seq (SVals.ofList (xs.map (.int .i8)))) .nil))

def exOps : List Op :=
  [.push (exRec "x" [1]), .extend (.seq (.cons (exRec "y" []) (.cons (exRec "x" [2, 3]) .nil))), .build,
   .build, .viaSerializer (.tuple (.cons (exRec "z" []) .nil)), .push (.record "R" (.cons "d" 0 (.str "z") .nil)), .build]

/-- the same batches, chunked differently -/
def exOps' : List Op :=
  [.viaSerializer (.seq (.cons (exRec "x" [1]) (.cons (exRec "y" []) .nil))), .push (exRec "x" [2, 3]), .build,
   .extend (.seq .nil), .build,
   .extend (.tupleStruct "T" (.cons (exRec "z" []) (.cons (.record "R" (.cons "d" 0 (.str "z") .nil)) .nil))), .build]

def exRoot0 : B :=
  .struct "$" 0 none
    (.cons (.dictionary "$.d" (.leaf "$.d.key" (.int .u8) none []) (.bytes "$.d.value" .utf8 none [0] []) [])
      ⟨"d", false, []⟩
      (.cons (.list "$.l" false ⟨"element", false, []⟩ (some []) [0] (.leaf "$.l.element" (.int .i8) none []))
        ⟨"l", true, []⟩ .nil))
    [none, none] 0 [false, false]

theorem exNew : newRoot exFields = .ok exRoot0 := by decide +kernel

theorem exRunOk : (run {} exRoot0 exOps).isOk = true ∧ (run {} exRoot0 exOps').isOk = true := by
  constructor <;> decide +kernel

theorem exFields_schemaOK : ∀ f ∈ exFields, Lemmas.C03.SchemaOKF f := by
  simp [exFields, Lemmas.C03.SchemaOKF, Lemmas.C03.SchemaOK]
theorem exFields_covered : exFields.all Build.coveredF = true := by decide

example : batchesFrom [] exOps = batchesFrom [] exOps' ∧ builds exOps = 3 ∧ (batchesFrom [] exOps).map List.length = [3, 0, 2] := by
  decide

/-- `C10_histories` applies to the example with every hypothesis discharged -/
example : ∀ outs fin, run {} exRoot0 exOps = .ok (outs, fin) → outs.length = 3 ∧
    ∀ (k : Nat) (h1 : k < outs.length) (h2 : k < (batchesFrom [] exOps).length),
      DecodesTo {} exFields outs[k].2 (batchesFrom [] exOps)[k] := by
  intro outs fin h
  have := C10_histories {} exFields exRoot0 exNew exFields_schemaOK exFields_covered exOps (by unfold OpsOK; decide)
    (Or.inl (by unfold OpsOK; decide)) outs fin h
  exact ⟨this.1, this.2.2⟩

/-- what the three builds of the example decode to: batch 0 has the dictionary values x, y, x (keys 0, 1, 0), the empty
build has empty columns, batch 2 starts a NEW dictionary (z is key 0 again) and its absent list is null -/
example : (do
      let (outs, _) ← run {} exRoot0 exOps
      pure (outs.map fun o => o.2.map decodeAll) : R (List (List (List (R LVal))))) =
    .ok [[[.ok (.str [120]), .ok (.str [121]), .ok (.str [120])],
          [.ok (.list (.cons (.int 1) .nil)), .ok (.list .nil), .ok (.list (.cons (.int 2) (.cons (.int 3) .nil)))]],
         [[], []],
         [[.ok (.str [122]), .ok (.str [122])], [.ok (.list .nil), .ok .null]]] := by decide +kernel

/-- `C10_histories` on the history of Props/C10.lean over the schema OUTSIDE `Safe` (`exUnsafeRoot0_not_safe`: a dictionary
with non-nullable keys below a nullable struct; records `None`, `{d: "a"}`, build, `None`, build): every hypothesis
discharged -/
example : ∀ outs fin, run {} exUnsafeRoot0 exUnsafeOps = .ok (outs, fin) → outs.length = 2 ∧
    ∀ (k : Nat) (h1 : k < outs.length) (h2 : k < (batchesFrom [] exUnsafeOps).length),
      DecodesTo {} C01.exUnsafeFields outs[k].2 (batchesFrom [] exUnsafeOps)[k] := by
  intro outs fin h
  have := C10_histories {} C01.exUnsafeFields exUnsafeRoot0 exUnsafeNew
    (by simp [C01.exUnsafeFields, Lemmas.C03.SchemaOKF, Lemmas.C03.SchemaOK, Lemmas.C03.SchemaOKFs])
    (by decide) exUnsafeOps (by unfold OpsOK; decide)
    (Or.inl (by unfold OpsOK; decide)) outs fin h
  exact ⟨this.1, this.2.2⟩

end SaModel.Props.C10
