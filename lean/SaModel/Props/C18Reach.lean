import SaModel.Props.C18Blame
/-
C18 — the serializer-side blame theorems without hypotheses on the builder STATE.

`C18_ser_blame` / `C18_ser_blame_record` (Props/C18Blame.lean) take `WFH b`, `NoDictKey b`, `Shape b dt n md` and
`NoCap ext b x` of the state `b` the next value is pushed to.  Every state reached from the builder `build_builder` /
`OuterSequenceBuilder::new` constructs by successful pushes has the first three (for `Shape`: when the SCHEMA is inside the
coverage `coveredW` of the C01 completeness theorems), and the head room `room b` of such a state is bounded from below
by the head room of the fresh builder minus the sizes of the values pushed so far.  Here the derivations, and the blame
theorems with hypotheses on the INPUT only: the schema (`coveredW`, `total`), the values (`noRaw`) and their sizes.
-/
namespace SaModel.Props.C18
open SaModel SaModel.Build SaModel.Spec

/-- the builder `build_builder` constructs is well formed in the weak sense (every schema) -/
theorem newDT_WFH (path : String) (dt : DataType) (n : Bool) (md : Metadata) (b0 : B)
    (h0 : newDT path dt n md = .ok b0) : WFH b0 :=
  Build.WFH_of_WFB _ (Build.newDT_fresh dt path n md b0 h0).1

/-- … and holds no dictionary-keyed dictionary (every schema: `build_builder` refuses such a key type) -/
theorem newDT_NoDictKey (path : String) (dt : DataType) (n : Bool) (md : Metadata) (b0 : B)
    (h0 : newDT path dt n md = .ok b0) : NoDictKey b0 :=
  Build.BuiltFor_NoDictKey b0 dt n (Lemmas.C03.newDT_builtFor path dt n md b0 h0)

theorem newRoot_WFH (fields : List Field) (root0 : B) (h0 : newRoot fields = .ok root0) : WFH root0 :=
  Build.WFH_of_WFB _ (Build.newRoot_fresh h0).1

/-- `WFH` and `NoDictKey` survive every successful push (no hypothesis on the values), and no push moves a builder -/
theorem foldl_push_inv (ext : Ext) : ∀ (rows : List SVal) (b0 b : B), WFH b0 → NoDictKey b0 →
    rows.foldlM (push ext) b0 = .ok b → WFH b ∧ NoDictKey b ∧ takeRest b = takeRest b0 :=
  fun rows b0 b hw hn h =>
    -- `NoDictKey` is a property of `takeRest b`, which no push changes; only `WFH` needs the walk over the rows
    have ht := foldlM_push_takeRest ext rows b0 b h
    ⟨R.foldlM_induct (P := fun _ b0 b => WFH b0 → NoDictKey b0 → WFH b) (fun _ hw _ => hw)
        (fun x _ b0 b1 _ h1 _ ih hw hn =>
          ih (push_refines ext x b0 b1 hw hn h1).1 (NoDictKey.of_takeRest (push_takeRest ext x b0 b1 h1) hn))
        rows b0 b h hw hn,
      NoDictKey.of_takeRest ht hn, ht⟩

/-- **Reachable states are good** (`reachable_goodH`): a builder created by `build_builder` at `path` for a type inside
the coverage of the C01 completeness theorems (`coveredW dt`: every type but dictionaries whose value type parses strings,
`Utf8View` values and nested dictionaries; `total`: what `serialize_default` needs below nullable containers, at most 128
union variants), after ANY successfully pushed values, satisfies the four state hypotheses of `C18_ser_blame`. -/
theorem reachable_goodH (ext : Ext) (dt : DataType) (path : String) (n : Bool) (md : Metadata) (b0 : B)
    (h0 : newDT path dt n md = .ok b0) (hcov : coveredW dt = true) (htot : total dt n md = true)
    (rows : List SVal) (b : B) (hb : rows.foldlM (push ext) b0 = .ok b) : GoodH b dt n md := by
  obtain ⟨hw, hn, ht⟩ := foldl_push_inv ext rows b0 b (newDT_WFH path dt n md b0 h0) (newDT_NoDictKey path dt n md b0 h0) hb
  exact ⟨hw, hn, Shape.of_takeRest ht (Build.newDT_shapeW dt path n md b0 hcov h0), htot⟩

/-- the same for the root builder of `to_marrow` / `ArrayBuilder` -/
theorem reachable_goodH_root (ext : Ext) (fields : List Field) (root0 : B) (h0 : newRoot fields = .ok root0)
    (hcov : fields.all coveredWF = true) (htot : total (.struct (Fields.ofList fields)) false [] = true)
    (rows : List SVal) (root : B) (hb : rows.foldlM (push ext) root0 = .ok root) :
    GoodH root (.struct (Fields.ofList fields)) false [] := by
  obtain ⟨hw, hn, ht⟩ := foldl_push_inv ext rows root0 root (newRoot_WFH fields root0 h0) (Build.newRoot_NoDictKey h0) hb
  exact ⟨hw, hn, Shape.of_takeRest ht (Build.newRoot_shapeW hcov h0), htot⟩

/-- the sizes of the values pushed so far (`vsize`: what a value can take from the capacity-limited counters) -/
def sizeSum (ext : Ext) (rows : List SVal) : Nat := (rows.map (vsize ext)).sum

/-- every successfully pushed value without raw streams costs at most its size: the head room of the reached state is
at least the head room of the start minus the sizes pushed -/
theorem foldl_push_room (ext : Ext) {dt n md} : ∀ (rows : List SVal) (b0 b : B), GoodH b0 dt n md →
    (∀ r ∈ rows, noRaw r = true) → sizeSum ext rows ≤ room b0 → rows.foldlM (push ext) b0 = .ok b →
    room b0 ≤ room b + sizeSum ext rows :=
  fun rows b0 b hg hraw hsz h =>
    R.foldlM_induct (P := fun rows b0 b => GoodH b0 dt n md → (∀ r ∈ rows, noRaw r = true) → sizeSum ext rows ≤ room b0 →
        room b0 ≤ room b + sizeSum ext rows)
      (fun _ _ _ _ => Nat.le_add_right ..)
      (fun x rest b0 b1 b h1 _ ih hg hraw (hsz : vsize ext x + sizeSum ext rest ≤ room b0) => by
        have ⟨hx, hrest⟩ := List.forall_mem_cons.1 hraw
        have ⟨hg1, hr1⟩ := push_step hg hx (by omega) h1
        have := ih hg1 hrest (by omega)
        show _ ≤ _ + (vsize ext x + sizeSum ext rest)
        omega)
      rows b0 b h hg hraw hsz

/-- `C18_ser_blame` with the three derivable state hypotheses discharged: `WFH`, `NoDictKey`, `Shape` hold of every
reachable state.  Left: `NoCap ext b x` of the reached state (see `C18_ser_blame_reachable_at` for the form on the input),
for an ARBITRARY history of pushed values (raw streams included). -/
theorem C18_ser_blame_state (ext : Ext) [ExtPlain ext] (dt : DataType) (path : String) (n : Bool) (md : Metadata)
    (b0 : B) (h0 : newDT path dt n md = .ok b0) (hcov : coveredW dt = true) (htot : total dt n md = true)
    (rows : List SVal) (b : B) (hb : rows.foldlM (push ext) b0 = .ok b)
    (x : SVal) (hraw : noRaw x = true) (hcap : NoCap ext b x)
    (msg : String) (ann : List (String × String)) (h : push ext b x = .error (.errCtx msg ann)) :
    ∃ segs label, (segs, label) ∈ segsDT dt md ∧ ann = [("data_type", label), ("field", render path segs)] ∧
      render path segs ∈ blameDT ext path dt n md x :=
  have hg := reachable_goodH ext dt path n md b0 h0 hcov htot rows b hb
  C18_ser_blame ext dt path n md b0 h0 rows b hb x hg.wf hg.nd hg.shape htot hraw hcap msg ann h

/-- **C18_ser_blame_reachable_at** — hypotheses on the input only, builder at any `path`.  For every data type `dt`
inside `coveredW` / `total`, the builder `b0` `build_builder` constructs for it, every history `rows` of values without
raw streams pushed successfully, and the next value `x` (no raw streams): if the sizes of all these values fit the head
room of the FRESH builder (`room b0`: `i32::MAX`, lowered to the number of keys of the narrowest dictionary key type of
the schema — a function of `dt` alone), so that no offset / counter / key-range check can fire, then an error of the push
names a position of the schema that `Spec.blameDT` blames for `x`.

Why the remaining hypotheses are needed.  `coveredW`: outside it `Shape` — the tie between builder tree and schema the C01
completeness theorems rest on — is not established (dictionary value types that parse strings; the run-time predicate
decides those).  `total`: a nullable struct / fixed-size list / map pushes `serialize_default` into its children on a null,
which must succeed for the null to be representable; without it a child's refusal of a placeholder has no position in
`blameDT`.  `noRaw`: the C01 completeness theorem is proved for values without raw `serialize_key` / `serialize_value`
streams (`C18_ser_blame_raw` adds the well-formed top-level stream).  The size bound: capacity errors are errors about
no field's VALUE — the mapping is defined, `blameDT` is empty — and are located by `C18_capacity_blame` instead. -/
theorem C18_ser_blame_reachable_at (ext : Ext) [ExtPlain ext] (dt : DataType) (path : String) (n : Bool) (md : Metadata)
    (b0 : B) (h0 : newDT path dt n md = .ok b0) (hcov : coveredW dt = true) (htot : total dt n md = true)
    (rows : List SVal) (b : B) (hb : rows.foldlM (push ext) b0 = .ok b) (hrows : ∀ r ∈ rows, noRaw r = true)
    (x : SVal) (hraw : noRaw x = true) (hsize : sizeSum ext rows + vsize ext x ≤ room b0)
    (msg : String) (ann : List (String × String)) (h : push ext b x = .error (.errCtx msg ann)) :
    ∃ segs label, (segs, label) ∈ segsDT dt md ∧ ann = [("data_type", label), ("field", render path segs)] ∧
      render path segs ∈ blameDT ext path dt n md x := by
  have hg0 := reachable_goodH ext dt path n md b0 h0 hcov htot [] b0 rfl
  have hroom := foldl_push_room ext rows b0 b hg0 hrows (by omega) hb
  exact C18_ser_blame_state ext dt path n md b0 h0 hcov htot rows b hb x hraw (by unfold NoCap; omega) msg ann h

/-- **C18_ser_blame_reachable** — the record level (`to_marrow` / `ArrayBuilder::push`), hypotheses on the input only:
for every schema `fields` (inside `coveredWF` / `total`), every history of records pushed successfully from
`newRoot fields`, and the next record `x` — all without raw streams, their sizes within the head room of the fresh root —
an error of `push` is annotated `field` = `render "$" segs`, `data_type` = the label at `segs`, for a position `segs` of
the schema that `Spec.blameRow` blames for `x`.  No hypothesis mentions the builder state `root` (it is named only as
the result of the pushes).  Which hypothesis is needed for what: see `C18_ser_blame_reachable_at`. -/
theorem C18_ser_blame_reachable (ext : Ext) [ExtPlain ext] (fields : List Field) (root0 : B)
    (h0 : newRoot fields = .ok root0) (hcov : fields.all coveredWF = true)
    (htot : total (.struct (Fields.ofList fields)) false [] = true)
    (rows : List SVal) (root : B) (hb : rows.foldlM (push ext) root0 = .ok root) (hrows : ∀ r ∈ rows, noRaw r = true)
    (x : SVal) (hraw : noRaw x = true) (hsize : sizeSum ext rows + vsize ext x ≤ room root0)
    (msg : String) (ann : List (String × String)) (h : push ext root x = .error (.errCtx msg ann)) :
    ∃ segs label, (segs, label) ∈ segsDT (.struct (Fields.ofList fields)) [] ∧
      ann = [("data_type", label), ("field", render "$" segs)] ∧ render "$" segs ∈ blameRow ext fields x := by
  have hg0 := reachable_goodH_root ext fields root0 h0 hcov htot [] root0 rfl
  have hg := reachable_goodH_root ext fields root0 h0 hcov htot rows root hb
  have hroom := foldl_push_room ext rows root0 root hg0 hrows (by omega) hb
  exact C18_ser_blame_record ext fields root0 h0 rows root hb x hg.wf hg.nd hg.shape htot hraw
    (by unfold NoCap; omega) msg ann h

/-- the same in terms of `runRows` (the model of `to_marrow` up to `into_array`): no builder is mentioned before the
failing push -/
theorem C18_ser_blame_runRows (ext : Ext) [ExtPlain ext] (fields : List Field) (hcov : fields.all coveredWF = true)
    (htot : total (.struct (Fields.ofList fields)) false [] = true)
    (rows : List SVal) (hrows : ∀ r ∈ rows, noRaw r = true) (x : SVal) (hraw : noRaw x = true)
    (hsize : ∀ root0, newRoot fields = .ok root0 → sizeSum ext rows + vsize ext x ≤ room root0)
    (msg : String) (ann : List (String × String))
    (h : runRows ext fields (rows ++ [x]) = .error (.errCtx msg ann))
    (hprev : ∃ root, runRows ext fields rows = .ok root) :
    ∃ segs label, (segs, label) ∈ segsDT (.struct (Fields.ofList fields)) [] ∧
      ann = [("data_type", label), ("field", render "$" segs)] ∧ render "$" segs ∈ blameRow ext fields x := by
  obtain ⟨root, hprev⟩ := hprev
  obtain ⟨root0, h0⟩ := Props.C03.runRows_newRoot hprev
  have hb : rows.foldlM (push ext) root0 = .ok root := by simpa [runRows, h0, bind, Except.bind] using hprev
  have hx : push ext root x = .error (.errCtx msg ann) := by
    rw [runRows, h0, R.ok_bind, List.foldlM_append, hb, R.ok_bind, List.foldlM_cons] at h
    exact (bind_eq_errCtx.1 h).elim id fun ⟨_, _, h⟩ => nomatch h
  exact C18_ser_blame_reachable ext fields root0 h0 hcov htot rows root hb hrows x hraw (hsize root0 h0) msg ann hx

theorem ShapeL_length : ∀ (bl : BL) (fs : Fields), ShapeL bl fs → bl.length = fs.toList.length :=
  fun _ _ h => (ShapeL.length h).symm

theorem toList_ofList : ∀ (fields : List Field), (Fields.ofList fields).toList = fields := Fields.toList_ofList

/-- **C18_ser_blame_raw_reachable**: `C18_ser_blame_raw` at the record level with hypotheses on the input only.  The next
record is a WELL-FORMED raw stream of `serialize_key` / `serialize_value` calls (`isAlternating ops`) whose keys and values
carry no further raw streams; the schema has fewer than `usize::MAX` fields (so that a field index is never the
`UNKNOWN_KEY` marker of `StructBuilder`: the hypothesis `hbig` of `C18_ser_blame_raw`, here derived from the field count);
the size bound is stated for the entries of the stream. -/
theorem C18_ser_blame_raw_reachable (ext : Ext) [ExtPlain ext] (fields : List Field) (root0 : B)
    (h0 : newRoot fields = .ok root0) (hcov : fields.all coveredWF = true)
    (htot : total (.struct (Fields.ofList fields)) false [] = true) (hlen : fields.length ≤ UNKNOWN_KEY)
    (rows : List SVal) (root : B) (hb : rows.foldlM (push ext) root0 = .ok root) (hrows : ∀ r ∈ rows, noRaw r = true)
    (ops : SMapOps) (halt : isAlternating ops = true) (hraw : noRawe (toEntries ops) = true)
    (hsize : sizeSum ext rows + vsize ext (.map (toEntries ops)) ≤ room root0)
    (msg : String) (ann : List (String × String)) (h : push ext root (.mapRaw ops) = .error (.errCtx msg ann)) :
    ∃ segs label, (segs, label) ∈ segsDT (.struct (Fields.ofList fields)) [] ∧
      ann = [("data_type", label), ("field", render "$" segs)] ∧
      render "$" segs ∈ blameRow ext fields (.mapRaw ops) := by
  have hg0 := reachable_goodH_root ext fields root0 h0 hcov htot [] root0 rfl
  have hg := reachable_goodH_root ext fields root0 h0 hcov htot rows root hb
  have hroom := foldl_push_room ext rows root0 root hg0 hrows (by omega) hb
  have hbig : ∀ p len v fs c nx sn, root = .struct p len v fs c nx sn → fs.length ≤ UNKNOWN_KEY := by
    intro p len v fs c nx sn hr
    have hsh := hg.shape
    rw [hr] at hsh
    simp only [Shape] at hsh
    obtain ⟨_, sfs, hs, hl⟩ := hsh
    cases hs
    rw [ShapeL_length fs _ hl, toList_ofList]; exact hlen
  exact C18_ser_blame_raw ext (.struct (Fields.ofList fields)) "$" false [] root0 (by simpa [newRoot, newDT] using h0)
    rows root hb ops halt hg.wf hg.nd hg.shape htot hraw (by unfold NoCap; omega) hbig msg ann h

/-! ### non-vacuity: every hypothesis is met by a schema, a history and a failing record -/

/-- a record the schema `exSchema` accepts -/
def exRowOk : SVal :=
  .record "R" (.cons "orders" 0 (.seq (.cons (.record "O" (.cons "price" 0 (.int .i32 6) .nil)) .nil)) .nil)

/-- two records pushed, the third has a string where `price: Int32` should be: the hypotheses of
`C18_ser_blame_runRows` / `C18_ser_blame_reachable` hold (computed), the push fails, and the conclusion is what the
theorem says -/
example :
    exSchema.all coveredWF = true ∧ total (.struct (Fields.ofList exSchema)) false [] = true ∧
    (∀ r ∈ [exRowOk, exRowOk], noRaw r = true) ∧ noRaw exRowLeaf = true ∧
    (∀ root0, newRoot exSchema = .ok root0 → sizeSum {} [exRowOk, exRowOk] + vsize {} exRowLeaf ≤ room root0) ∧
    (∃ root, runRows {} exSchema [exRowOk, exRowOk] = .ok root) ∧
    runRows {} exSchema ([exRowOk, exRowOk] ++ [exRowLeaf]) =
      .error (.errCtx "serialize_str is not supported" [("data_type", "Int32"), ("field", "$.orders.element.price")]) ∧
    blameRow {} exSchema exRowLeaf = ["$.orders.element.price"] := by
  refine ⟨by decide, by decide, by decide, by decide, ?_, ?_, by decide +kernel, by decide +kernel⟩
  · intro root0 h0
    have key : (newRoot exSchema).toOption.all
        (fun r => decide (sizeSum {} [exRowOk, exRowOk] + vsize {} exRowLeaf ≤ room r)) = true := by decide +kernel
    rw [h0] at key
    simpa [Except.toOption] using key
  · have key : (runRows {} exSchema [exRowOk, exRowOk]).isOk = true := by decide +kernel
    cases hr : runRows {} exSchema [exRowOk, exRowOk] with
    | ok root => exact ⟨root, rfl⟩
    | error e => rw [hr] at key; cases key

/-- non-vacuity of `C18_ser_blame_raw_reachable`: the record as the raw stream `key "a", value "s"` into `exSchema2`
(`a: Int32` refuses the string), as the first record -/
example :
    exSchema2.all coveredWF = true ∧ total (.struct (Fields.ofList exSchema2)) false [] = true ∧
    exSchema2.length ≤ UNKNOWN_KEY ∧
    isAlternating (.key (.str "a") (.value (.str "s") .nil)) = true ∧
    noRawe (toEntries (.key (.str "a") (.value (.str "s") .nil))) = true ∧
    (newRoot exSchema2).toOption.all (fun r => decide
      (sizeSum {} [] + vsize {} (.map (toEntries (.key (.str "a") (.value (.str "s") .nil)))) ≤ room r)) = true ∧
    runRows {} exSchema2 [.mapRaw (.key (.str "a") (.value (.str "s") .nil))] =
      .error (.errCtx "serialize_str is not supported" [("data_type", "Int32"), ("field", "$.a")]) ∧
    blameRow {} exSchema2 (.mapRaw (.key (.str "a") (.value (.str "s") .nil))) = ["$.a"] :=
  ⟨by decide, by decide, by decide, by decide, by decide, by decide +kernel, by decide +kernel, by decide +kernel⟩

end SaModel.Props.C18
