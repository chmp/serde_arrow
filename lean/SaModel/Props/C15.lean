import SaModel.Codec.Decimal
import SaModel.Spec.Decimal
import SaModel.Lemmas.C15Parse
import SaModel.Lemmas.C15Format
/-
C15 — Decimal128 conversions are exact within the declared precision and scale.
Property theorems (lemmas: Lemmas/C15Parse.lean, Lemmas/C15Format.lean).  Model: SaModel/Codec/Decimal.lean (utils/decimal.rs, decimal_builder.rs,
decimal_deserializer.rs after the `fix:` commits; pinned variants beside it).
Specification: SaModel/Spec/Decimal.lean (grammar `Dec`, exact value, truncation toward zero).
-/
namespace SaModel.Props.C15
open SaModel SaModel.Decimal SaModel.Spec.Decimal SaModel.Lemmas.C15

/-! ### writing text into a `Decimal128(p, s)` column -/

/-- `parser_select_total`: `DecimalParser::new` is total on `u8 × i8` (in fact everywhere) … -/
theorem parser_select_total (p : Nat) (s : Int) (t : Bool) : ∃ parser, DecimalParser.new p s t = .ok parser := by
  -- a chain of `if`s with a parser in every branch
  have ite : ∀ {c : Prop} [Decidable c] {x y : R DecimalParser}, (∃ a, x = .ok a) → (∃ a, y = .ok a) →
      ∃ a, (if c then x else y) = .ok a := by
    intro c _ x y hx hy; split <;> assumption
  unfold DecimalParser.new DecimalParser.newWith unsignedAbs
  simp only [bind_ok']
  exact ite ⟨_, rfl⟩ (ite ⟨_, rfl⟩ (ite ⟨_, rfl⟩ (ite ⟨_, rfl⟩ (ite ⟨_, rfl⟩ ⟨_, rfl⟩))))

/-- … the truncating parsers it selects satisfy the `debug_assert!`s of their copy functions … -/
theorem parser_select_kind (p : Nat) (s : Int) :
    DecimalParser.new p s true = .ok (
      if s < 0 then .integerOnlyTruncated p s.natAbs
      else if s.toNat < p then .mixedTruncated p s.toNat
      else .fractionOnlyTruncated p s.toNat) := by
  unfold DecimalParser.new DecimalParser.newWith unsignedAbs
  simp only [Bool.not_true, Bool.and_false, Bool.false_eq_true, if_false, bind_ok']
  by_cases h1 : s < 0
  · simp [h1]
  · by_cases h2 : s.toNat < p <;> simp [h1, h2]

/-- … while the pinned selection unwinds for scale −128 (defect #14) -/
theorem parser_select_pinned_panics :
    DecimalParser.newPinned 5 (-128) true = panic "attempt to negate with overflow" := by decide +kernel

theorem copyDigits_true (self : DecimalParser) (b : Nat) (r : List UInt8) :
    self.copyDigits b r = if anyAsciiDigit r then self.copyDigitsWith false b r else fail "Invalid decimal: no digits found" := by
  unfold DecimalParser.copyDigits DecimalParser.copyDigitsWith
  cases anyAsciiDigit r <;> simp

/-- The whole of `serialize_str` against the specification: it stores exactly what the specification
demands, or fails with an error (never a panic) when the specification demands an error. -/
theorem serializeStr_spec (p : Nat) (s : Int) (txt : List UInt8) (hp1 : 1 ≤ p) (hp : p ≤ 38) :
    (∃ v, expected p s txt = some v ∧ serializeStr p s txt = .ok v) ∨
    (expected p s txt = none ∧ ∃ m, serializeStr p s txt = fail m) := by
  obtain ⟨parser, hnew⟩ := parser_select_total p s true
  rcases hps : parseSign txt with ⟨r, sg⟩
  rcases hfp : findPeriod r with ⟨bp, ap⟩
  have hsplit := splitSign_eq txt
  rw [hps] at hsplit
  simp only at hsplit
  obtain ⟨hsign, hint, hfrac⟩ := splitPoint_eq (specSign sg) r bp ap hfp
  have hdec : decompose txt = splitPoint (specSign sg) r := by unfold decompose; rw [hsplit]
  have hDecIff : Dec txt ↔ AllDigits (r.take bp) ∧ AllDigits (r.drop ap) ∧ 1 ≤ (r.take bp).length + (r.drop ap).length := by
    unfold Dec Parts.wf
    rw [hdec, hint, hfrac]
    simp only [Bool.and_eq_true, List.all_eq_true, decide_eq_true_eq, AllDigits, and_assoc]
  have hM : AllDigits (r.take bp) → AllDigits (r.drop ap) →
      scaledFloor txt s = digitsVal (scaledDigits (r.take bp) (r.drop ap) s) := by
    intro hI hF
    rw [scaledDigits_val _ _ hI hF]
    unfold scaledFloor mantissa fracLen
    rw [hdec, hint, hfrac]
  have hneg : isNeg txt = (sg == .minus) := by
    unfold isNeg; rw [hdec, hsign]; cases sg <;> rfl
  have hmodel : serializeStr p s txt = (do
      let digits ← parser.copyDigits 64 r
      let val ← if digits.isEmpty then .ok 0 else parseI128 digits
      sg.applyI128 val) := by
    unfold serializeStr builderNew
    rw [if_neg (by omega), hnew]
    simp only [bind_ok', DecimalParser.parseDecimal128, hps, BUFFER_SIZE_I128]
  rw [hmodel, copyDigits_true]
  by_cases hany : anyAsciiDigit r = true
  · simp only [hany, if_true]
    rcases copyDigits_unified p s (by omega) r parser hnew bp ap hfp with ⟨hI, hF, hz, e⟩ | ⟨hn, m, e⟩
    · left
      have hDd := scaledDigits_allDigits _ _ hI hF s
      have hDec : Dec txt := hDecIff.mpr ⟨hI, hF, (anyAsciiDigit_parts r bp ap hfp hI hF).mp hany⟩
      have hlt : scaledFloor txt s < 10 ^ p := by
        rw [hM hI hF]; exact (digitsVal_lt_pow_iff hDd p).mpr hz
      refine ⟨applySign (isNeg txt) (scaledFloor txt s), ?_, ?_⟩
      · unfold expected; rw [if_pos ⟨hDec, hlt⟩]
      · rw [e]
        simp only [bind_ok']
        generalize hout : (scaledDigits (r.take bp) (r.drop ap) s).drop ((scaledDigits (r.take bp) (r.drop ap) s).length - p) = out
        have hval : digitsVal out = scaledFloor txt s := by
          rw [← hout, digitsVal_drop_of_allZero _ _ hz, ← hM hI hF]
        have hod : AllDigits out := by rw [← hout]; exact hDd.drop _
        have holen : out.length ≤ 38 := by rw [← hout, List.length_drop]; omega
        have hfinal : sg.applyI128 (scaledFloor txt s : Int) = .ok (applySign (isNeg txt) (scaledFloor txt s)) := by
          have h38 := pow38_le
          have hp' := Nat.pow_le_pow_right (n := 10) (by omega) hp
          rw [hneg]
          cases sg with
          | minus =>
            simp only [Sign.applyI128, applySign, beq_self_eq_true, if_true]
            rw [if_neg]
            unfold I128_MIN; omega
          | plus => rfl
          | none => rfl
        cases hoe : out with
        | nil =>
          rw [hoe] at hval
          simp only [List.isEmpty_nil, if_true]
          rw [← hfinal, ← hval]; rfl
        | cons c rest =>
          simp only [List.isEmpty_cons, Bool.false_eq_true, if_false]
          rw [← hoe, parseI128_digits out hod (by rw [hoe]; exact List.cons_ne_nil _ _) holen, hval]
          exact hfinal
    · right
      refine ⟨?_, m, by rw [e]; rfl⟩
      unfold expected
      rw [if_neg]
      rintro ⟨hDec, hlt⟩
      obtain ⟨hI, hF, -⟩ := hDecIff.mp hDec
      apply hn
      refine ⟨hI, hF, ?_⟩
      rw [hM hI hF] at hlt
      exact (digitsVal_lt_pow_iff (scaledDigits_allDigits _ _ hI hF s) p).mp hlt
  · right
    simp only [hany, Bool.false_eq_true, if_false]
    refine ⟨?_, _, rfl⟩
    unfold expected
    rw [if_neg]
    rintro ⟨hDec, -⟩
    obtain ⟨hI, hF, h1⟩ := hDecIff.mp hDec
    exact hany ((anyAsciiDigit_parts r bp ap hfp hI hF).mpr h1)


/-- `parse_ok_iff` + `parse_value`: for `1 ≤ p ≤ 38` and every scale, `serialize_str` stores `v` exactly when
the text is a decimal number (`Dec`), `M = ⌊|value| · 10^s⌋ < 10^p`, and `v = sign · M`. -/
theorem parse_ok_iff (p : Nat) (s : Int) (txt : List UInt8) (v : Int) (hp1 : 1 ≤ p) (hp : p ≤ 38) :
    serializeStr p s txt = .ok v ↔
      Dec txt ∧ scaledFloor txt s < 10 ^ p ∧ v = applySign (isNeg txt) (scaledFloor txt s) := by
  have hexp : expected p s txt = some v ↔
      Dec txt ∧ scaledFloor txt s < 10 ^ p ∧ v = applySign (isNeg txt) (scaledFloor txt s) := by
    unfold expected
    by_cases h : Dec txt ∧ scaledFloor txt s < 10 ^ p
    · rw [if_pos h]
      constructor
      · intro h'; cases h'; exact ⟨h.1, h.2, rfl⟩
      · intro h'; rw [h'.2.2]
    · rw [if_neg h]
      constructor
      · intro h'; cases h'
      · intro h'; exact absurd ⟨h'.1, h'.2.1⟩ h
  rw [← hexp]
  rcases serializeStr_spec p s txt hp1 hp with ⟨w, h1, h2⟩ | ⟨h1, m, h2⟩
  · rw [h1, h2]
    constructor
    · intro h; cases h; rfl
    · intro h; cases h; rfl
  · rw [h1, h2]
    constructor
    · intro h; cases h
    · intro h; cases h

/-- existence form: something is stored iff the text is a decimal number that fits the precision -/
theorem parse_isOk_iff (p : Nat) (s : Int) (txt : List UInt8) (hp1 : 1 ≤ p) (hp : p ≤ 38) :
    (∃ v, serializeStr p s txt = .ok v) ↔ Dec txt ∧ scaledFloor txt s < 10 ^ p := by
  constructor
  · rintro ⟨v, h⟩
    have := (parse_ok_iff p s txt v hp1 hp).mp h
    exact ⟨this.1, this.2.1⟩
  · intro h
    exact ⟨_, (parse_ok_iff p s txt _ hp1 hp).mpr ⟨h.1, h.2, rfl⟩⟩

/-- `parse_value`: what is stored is the value scaled by `10^s`, truncated toward zero, within the precision -/
theorem parse_value (p : Nat) (s : Int) (txt : List UInt8) (v : Int) (hp1 : 1 ≤ p) (hp : p ≤ 38)
    (h : serializeStr p s txt = .ok v) :
    v = applySign (isNeg txt) (scaledFloor txt s) ∧ v.natAbs < 10 ^ p := by
  have h' := (parse_ok_iff p s txt v hp1 hp).mp h
  refine ⟨h'.2.2, ?_⟩
  rw [h'.2.2]; unfold applySign
  split <;> simpa using h'.2.1

/-- text that is not a decimal number, or needs more digits than the precision, is an error — not a panic -/
theorem parse_err (p : Nat) (s : Int) (txt : List UInt8) (hp1 : 1 ≤ p) (hp : p ≤ 38)
    (h : ¬ (Dec txt ∧ scaledFloor txt s < 10 ^ p)) : ∃ m, serializeStr p s txt = fail m := by
  rcases serializeStr_spec p s txt hp1 hp with ⟨w, h1, h2⟩ | ⟨h1, m, h2⟩
  · exact absurd ((parse_isOk_iff p s txt hp1 hp).mp ⟨w, h2⟩) h
  · exact ⟨m, h2⟩

theorem parse_no_panic (p : Nat) (s : Int) (txt : List UInt8) (hp1 : 1 ≤ p) (hp : p ≤ 38) (site : String) :
    serializeStr p s txt ≠ panic site := by
  rcases serializeStr_spec p s txt hp1 hp with ⟨w, h1, h2⟩ | ⟨h1, m, h2⟩
  · rw [h2]; intro h; cases h
  · rw [h2]; intro h; cases h

/-- precisions a Decimal128 cannot have are refused when the builder is created -/
theorem bad_precision_err (p : Nat) (s : Int) (txt : List UInt8) (hp : p = 0 ∨ 38 < p) :
    ∃ m, serializeStr p s txt = fail m := by
  unfold serializeStr builderNew
  rw [if_pos (by omega)]
  exact ⟨_, rfl⟩

/-! ### the pinned code violates the property (witnesses double as replays) -/

/-- defect #11: `""`, `"+"`, `"-"`, `"."` are stored as 0 in `Decimal128(5, 2)` although they are not numbers -/
theorem pinned_accepts_no_digits :
    serializeStrPinned 5 2 [] = .ok 0 ∧ serializeStrPinned 5 2 [43] = .ok 0 ∧
    serializeStrPinned 5 2 [45] = .ok 0 ∧ serializeStrPinned 5 2 [46] = .ok 0 ∧
    ¬ Dec [] ∧ ¬ Dec [43] ∧ ¬ Dec [45] ∧ ¬ Dec [46] := by decide +kernel

/-- defect #31: `"5"` at scale −1 and `".5"` at scale 0 are numbers whose kept digits are all dropped
(the specification stores 0); the pinned code returns an error -/
theorem pinned_rejects_dropped :
    serializeStrPinned 5 (-1) [53] = fail "ParseIntError: cannot parse integer from empty string" ∧
    expected 5 (-1) [53] = some 0 ∧
    serializeStrPinned 5 0 [46, 53] = fail "ParseIntError: cannot parse integer from empty string" ∧
    expected 5 0 [46, 53] = some 0 := by decide +kernel

/-- the repaired code on the same witnesses -/
example : serializeStr 5 2 [] = fail "Invalid decimal: no digits found" ∧ serializeStr 5 (-1) [53] = .ok 0 ∧
    serializeStr 5 0 [46, 53] = .ok 0 := by decide +kernel

/-- defect #32: `Decimal128(100, 0)` and a 70-digit text overrun the 64-byte parse buffer -/
theorem pinned_long_input_panics :
    serializeStrPinned 100 0 (List.replicate 70 49) = panic "range end index out of range for the parse buffer" := by
  decide +kernel

/-! non-vacuity: the specification accepts and rejects, on both sides of the precision limit -/
-- "-12.345", "999.999", "1000", "12345.6", ".00129", "0.0129", "1e3" as bytes
example : serializeStr 5 2 [45, 49, 50, 46, 51, 52, 53] = .ok (-1234) := by decide +kernel
example : serializeStr 5 2 [57, 57, 57, 46, 57, 57, 57] = .ok 99999 := by decide +kernel
example : (serializeStr 5 2 [49, 48, 48, 48]).isErr = true := by decide +kernel
example : serializeStr 3 (-2) [49, 50, 51, 52, 53, 46, 54] = .ok 123 := by decide +kernel
example : serializeStr 2 4 [46, 48, 48, 49, 50, 57] = .ok 12 := by decide +kernel
example : (serializeStr 2 4 [48, 46, 48, 49, 50, 57]).isErr = true := by decide +kernel
example : (serializeStr 5 2 [49, 101, 51]).isErr = true := by decide +kernel

/-! ### floats -/

/-- `float_range`: a float is stored only if its scaled product is finite and within the precision,
and then exactly the externally computed `(v * 10^s) as i128` is stored; otherwise the push is an error -/
theorem float_range (p : Nat) (s : Int) (finite : Bool) (cast v : Int) (hp1 : 1 ≤ p) (hp : p ≤ 38) :
    serializeFloat p s finite cast = .ok v ↔ finite = true ∧ cast.natAbs < 10 ^ p ∧ v = cast := by
  have h38 : (10 : Nat) ^ 38 < 2 ^ 128 := by decide +kernel
  have hpow : 10 ^ p < 2 ^ 128 := Nat.lt_of_le_of_lt (Nat.pow_le_pow_right (by omega) hp) h38
  unfold serializeFloat builderNew
  rw [if_neg (by omega)]
  obtain ⟨parser, hnew⟩ := parser_select_total p s true
  rw [hnew]
  simp only [bind_ok', scaledFloatToDecimal128, hpow, if_true]
  cases finite
  · simp [fail]
  · simp only [Bool.not_true, Bool.false_eq_true, if_false, true_and]
    by_cases h : cast.natAbs ≥ 10 ^ p
    · rw [if_pos h]
      constructor
      · intro h'; cases h'
      · intro h'; omega
    · rw [if_neg h]
      constructor
      · intro h'; cases h'; exact ⟨by omega, rfl⟩
      · intro h'; rw [h'.2]

theorem float_no_panic (p : Nat) (s : Int) (finite : Bool) (cast : Int) (site : String) :
    serializeFloat p s finite cast ≠ panic site := by
  unfold serializeFloat builderNew
  split
  · intro h; cases h
  · obtain ⟨parser, hnew⟩ := parser_select_total p s true
    rw [hnew]
    simp only [bind_ok', scaledFloatToDecimal128]
    repeat' split
    all_goals (intro h; cases h)

/-- defect #12: the pinned float path stores values beyond the precision and non-finite values -/
theorem pinned_float_unchecked :
    serializeFloatPinned 5 2 true (10 ^ 32) = .ok (10 ^ 32) ∧ serializeFloatPinned 5 2 false 0 = .ok 0 := by decide +kernel

example : serializeFloat 5 2 true 12345 = .ok 12345 ∧ (serializeFloat 5 2 true 100000).isErr = true ∧
    (serializeFloat 5 2 false 0).isErr = true := by decide +kernel

/-! ### reading a `Decimal128` value as text -/

/-- `format_total_exact`: for every i128 `v` and every i8 scale `s`, `format_decimal` (as called by the
repaired reader) returns a text — no buffer overrun, no negation overflow — that is a plain decimal number
(`Dec`) denoting exactly `v / 10^s`, with a minus sign exactly for negative `v`. -/
theorem format_total_exact (v s : Int) (hv : inI128 v) (hs : inI8 s) :
    ∃ txt, formatDecimal v s = .ok txt ∧ Dec txt ∧ DenotesScaled txt v s ∧ (isNeg txt = true ↔ v < 0) :=
  formatDecimal_exact v s hv hs

theorem format_no_panic (v s : Int) (hv : inI128 v) (hs : inI8 s) (site : String) :
    formatDecimal v s ≠ panic site := by
  obtain ⟨txt, h, -⟩ := format_total_exact v s hv hs
  rw [h]; intro h'; cases h'

/-- `format_parse`: writing the produced text back into a `Decimal128(38, s)` column stores `v` again
(every value a Decimal128 can hold, `|v| < 10^38`, every scale) -/
theorem format_parse (v s : Int) (hs : inI8 s) (hv : v.natAbs < 10 ^ 38) :
    ∃ txt, formatDecimal v s = .ok txt ∧ serializeStr 38 s txt = .ok v := by
  have h38 := pow38_le
  have hv' : inI128 v := by unfold inI128 I128_MIN I128_MAX; omega
  obtain ⟨txt, h1, h2, h3, h4⟩ := format_total_exact v s hv' hs
  refine ⟨txt, h1, ?_⟩
  have hexp := expected_of_denotes 38 s txt v h2 h3 h4 hv
  rcases serializeStr_spec 38 s txt (by omega) (by omega) with ⟨w, e1, e2⟩ | ⟨e1, -⟩
  · rw [hexp] at e1; cases e1; exact e2
  · rw [hexp] at e1; cases e1

/-- more generally, at any precision that can hold `v` -/
theorem format_parse_precision (p : Nat) (v s : Int) (hp1 : 1 ≤ p) (hp : p ≤ 38) (hs : inI8 s) (hv : v.natAbs < 10 ^ p) :
    ∃ txt, formatDecimal v s = .ok txt ∧ serializeStr p s txt = .ok v := by
  have h38 := pow38_le
  have hp' := Nat.pow_le_pow_right (n := 10) (by omega) hp
  have hv' : inI128 v := by unfold inI128 I128_MIN I128_MAX; omega
  obtain ⟨txt, h1, h2, h3, h4⟩ := format_total_exact v s hv' hs
  refine ⟨txt, h1, ?_⟩
  have hexp := expected_of_denotes p s txt v h2 h3 h4 hv
  rcases serializeStr_spec p s txt hp1 hp with ⟨w, e1, e2⟩ | ⟨e1, -⟩
  · rw [hexp] at e1; cases e1; exact e2
  · rw [hexp] at e1; cases e1

/-- grammar lemma: a rendered `sign? digit* ('.' digit*)?` splits into exactly its parts, so `Dec`
(defined through `decompose`) is the stated grammar and the value function is well defined -/
theorem grammar_unique (x : Parts) (h : x.wf = true) : decompose x.render = x ∧ Dec x.render := by
  have hI : AllDigits x.int := by
    unfold Parts.wf at h
    simp only [Bool.and_eq_true, List.all_eq_true, decide_eq_true_eq] at h
    exact h.1.1
  have := decompose_render x hI
  exact ⟨this, by unfold Dec; rw [this]; exact h⟩

theorem dec_iff_grammar (txt : List UInt8) : Dec txt ↔ ∃ x : Parts, x.wf = true ∧ txt = x.render := by
  constructor
  · intro h
    refine ⟨decompose txt, h, ?_⟩
    -- every text is the rendering of its own decomposition
    unfold decompose Parts.render splitPoint
    have hs : txt = (splitSign txt).1.bytes ++ (splitSign txt).2 := by
      unfold splitSign; split <;> rfl
    have ht := List.takeWhile_append_dropWhile (p := (· != 46)) (l := (splitSign txt).2)
    cases hd : (splitSign txt).2.dropWhile (· != 46) with
    | nil =>
      rw [hd] at ht
      simp only [List.append_nil] at ht ⊢
      rw [ht]; exact hs
    | cons c f =>
      have hc : c = 46 := by
        have := List.head_dropWhile_not (· != 46) (l := (splitSign txt).2) (by rw [hd]; exact List.cons_ne_nil _ _)
        simp only [hd, List.head_cons] at this
        simpa using this
      subst hc
      rw [hd] at ht
      simp only [List.append_assoc]
      rw [ht]; exact hs
  · rintro ⟨x, hx, rfl⟩
    exact (grammar_unique x hx).2

/-- defect #13: the pinned reader (64-byte buffer) unwinds for scale ≥ 62 / ≤ −25 … -/
theorem pinned_format_panics :
    formatDecimalPinned 1 63 = panic "copy_within: dest is out of bounds" ∧
    formatDecimalPinned (-1) 62 = panic "copy_within: dest is out of bounds" ∧
    formatDecimalPinned 1 (-64) = panic "range end index out of range for the format buffer" ∧
    formatDecimalPinned I128_MIN (-25) = panic "range end index out of range for the format buffer" ∧
    formatDecimalPinned I128_MAX 100 = panic "copy_within: dest is out of bounds" := by decide +kernel

/-- … and (not one of the numbered defects) for scale −128, where `-scale` overflows the `i8`,
even with the large buffer -/
theorem pinned_format_negate_panics :
    formatDecimalPinned 1 (-128) = panic "attempt to negate with overflow" ∧
    formatDecimalNegPinned 1 (-128) = panic "attempt to negate with overflow" ∧
    formatDecimalSmallBuffer 1 (-128) = panic "range end index out of range for the format buffer" := by decide +kernel

-- "-0.0123", "-1230000", "12.345", "0" and the extremes
example : formatDecimal (-123) 4 = .ok [45, 48, 46, 48, 49, 50, 51] := by decide +kernel
example : formatDecimal (-123) (-4) = .ok [45, 49, 50, 51, 48, 48, 48, 48] := by decide +kernel
example : formatDecimal 12345 3 = .ok [49, 50, 46, 51, 52, 53] := by decide +kernel
example : formatDecimal 0 (-7) = .ok [48] := by decide +kernel
example : (formatDecimal I128_MIN (-128)).isOk = true ∧ (formatDecimal I128_MAX 127).isOk = true := by decide +kernel

end SaModel.Props.C15
