import SaModel.Props.C19Reuse
import SaModel.Props.C10Fail
/-
C19 × C10 — one `ArrayBuilder`, any history through any mix of finishers, WITH FAILING OPERATIONS
(`Backend.runHistoryG`, SaModel/Backend/History.lean: the builder with its poisoned flag; every operation yields its outcome
and the history goes on after a failing one).

  after_failure_refuses_history   (any core) once an addition or a `build_arrays` has failed, EVERY later operation through
                                  EVERY finisher fails: no back end hands out arrays of a builder that may hold a partial record
  runHistoryG_factor              (any core) operation by operation the history is the same history finished with `to_marrow`,
                                  each successful build converted by its finisher under the schema the builder was made with:
                                  the four back ends accept / refuse the same operations, the only differences are the
                                  conversions AFTER `build_arrays`
  runMarrowG_is_C10_runG          with the builder model as core the marrow history IS `C10.runG` (Props/C10Fail.lean)
  builder_reuse_one_shot_with_failures
                                  a build that succeeds through finisher `f` — whatever failed or was refused before — is `f`
                                  applied to the one-shot `to_marrow` of the rows added since the previous build, and no
                                  operation failed inside the builder before it
  pinned_uses_partial_state       the unrepaired builder (`runHistoryPinned`) on a two-column core: the build after a failed
                                  addition SUCCEEDS with columns of unequal length; the repaired one refuses it
-/
namespace SaModel.Props.C19
open SaModel SaModel.Backend SaModel.Build SaModel.Lemmas.C19

section
variable {OB Items D Out AF AA BF BA : Type}

/-! ### any core -/

theorem stepG_poisoned (core : Core OB Items D Out) (pre : Items → R Unit) (cvA : Conv AF AA) (cvB : Conv BF BA)
    (validate : List AF → List AA → R Unit) (gb : GBuilder OB) (hp : gb.poisoned = true) (op : HOp Items) :
    ∃ e, stepG core pre cvA cvB validate gb op = (.error e, gb) := by
  cases op with
  | add items =>
    simp only [stepG, hp, if_true]
    cases pre items with
    | error e => exact ⟨e, rfl⟩
    | ok _ => exact ⟨_, rfl⟩
  | finish f => exact ⟨_, by simp only [stepG, hp, if_true]; rfl⟩

/-- **after a failure every operation through every back end is refused** (any core, any conversions): on a builder whose
poisoned flag is set every operation of any history fails — no addition is accepted, no finisher returns arrays or a
record batch — and the builder stays as it is -/
theorem after_failure_refuses_history (core : Core OB Items D Out) (pre : Items → R Unit) (cvA : Conv AF AA)
    (cvB : Conv BF BA) (validate : List AF → List AA → R Unit) (gb : GBuilder OB) (hp : gb.poisoned = true) :
    ∀ (ops : List (HOp Items)), (runHistoryG core pre cvA cvB validate gb ops).2 = gb ∧
      ∀ o ∈ (runHistoryG core pre cvA cvB validate gb ops).1, ∃ e, o = .error e
  | [] => ⟨rfl, by simp [runHistoryG]⟩
  | op :: ops => by
    obtain ⟨e, he⟩ := stepG_poisoned core pre cvA cvB validate gb hp op
    obtain ⟨h1, h2⟩ := after_failure_refuses_history core pre cvA cvB validate gb hp ops
    simp only [runHistoryG, he]
    refine ⟨h1, ?_⟩
    intro o ho
    rcases List.mem_cons.1 ho with rfl | ho
    · exact ⟨e, rfl⟩
    · exact h2 o ho

/-- the same history with `to_marrow` at every build, on the builder with its flag -/
def stepMarrowG (core : Core OB Items D Out) (pre : Items → R Unit) (gb : GBuilder OB) :
    HOp Items → R (Option (List Arr)) × GBuilder OB
  | .add items =>
    match pre items with
    | .error e => (.error e, gb)
    | .ok _ =>
      if gb.poisoned then (fail Backend.poisonedMsg, gb) else
      match serializeInto core gb.inner items with
      | .ok inner => (.ok none, { inner, poisoned := false })
      | .error e => (.error e, { gb with poisoned := true })
  | .finish _ =>
    if gb.poisoned then (fail Backend.poisonedMsg, gb) else
    match gb.inner.toMarrow core with
    | .ok (arrays, inner) => (.ok (some arrays), { inner, poisoned := false })
    | .error e => (.error e, { gb with poisoned := true })

def runMarrowG (core : Core OB Items D Out) (pre : Items → R Unit) :
    GBuilder OB → List (HOp Items) → List (R (Option (List Arr))) × GBuilder OB
  | gb, [] => ([], gb)
  | gb, op :: ops =>
    ((stepMarrowG core pre gb op).1 :: (runMarrowG core pre (stepMarrowG core pre gb op).2 ops).1,
     (runMarrowG core pre (stepMarrowG core pre gb op).2 ops).2)

/-- what finisher `f` makes of the outcome of the `to_marrow` history at the same operation -/
def convOut (cvA : Conv AF AA) (cvB : Conv BF BA) (validate : List AF → List AA → R Unit) (schema : List Field) :
    HOp Items → R (Option (List Arr)) → R (Option (Built AF AA BA))
  | .finish f, .ok (some arrays) => (convertBuilt cvA cvB validate schema f arrays).map some
  | _, .ok _ => .ok none
  | _, .error e => .error e

theorem stepG_factor (core : Core OB Items D Out) (pre : Items → R Unit) (cvA : Conv AF AA) (cvB : Conv BF BA)
    (validate : List AF → List AA → R Unit) (gb : GBuilder OB) (op : HOp Items) :
    stepG core pre cvA cvB validate gb op =
      (convOut cvA cvB validate gb.inner.schema op (stepMarrowG core pre gb op).1, (stepMarrowG core pre gb op).2) ∧
    (stepMarrowG core pre gb op).2.inner.schema = gb.inner.schema := by
  cases op with
  | add items =>
    simp only [stepG, stepMarrowG]
    cases pre items with
    | error e => exact ⟨rfl, rfl⟩
    | ok _ =>
      cases hp : gb.poisoned with
      | true => exact ⟨rfl, rfl⟩
      | false =>
        simp only [Bool.false_eq_true, if_false]
        cases hs : serializeInto core gb.inner items with
        | error e => exact ⟨rfl, rfl⟩
        | ok inner => exact ⟨rfl, serializeInto_schema core _ _ items hs⟩
  | finish f =>
    simp only [stepG, stepMarrowG, finishS_factor]
    cases hp : gb.poisoned with
    | true => exact ⟨rfl, rfl⟩
    | false =>
      simp only [Bool.false_eq_true, if_false]
      cases hs : gb.inner.toMarrow core with
      | error e => exact ⟨rfl, rfl⟩
      | ok p =>
        obtain ⟨arrays, inner⟩ := p
        exact ⟨rfl, toMarrow_schema core _ _ arrays hs⟩

/-- **the back ends accept and refuse the same operations** (any core, any conversions): operation by operation, a
history through ANY mix of finishers is the same history finished with `to_marrow` everywhere — the same additions are
accepted, the same operations fail with the same error, the builder ends in the same state — and every build that succeeds
is its finisher applied to the marrow arrays of that build under the schema the builder was made with. -/
theorem runHistoryG_factor (core : Core OB Items D Out) (pre : Items → R Unit) (cvA : Conv AF AA) (cvB : Conv BF BA)
    (validate : List AF → List AA → R Unit) : ∀ (ops : List (HOp Items)) (gb : GBuilder OB),
    runHistoryG core pre cvA cvB validate gb ops =
      (List.zipWith (convOut cvA cvB validate gb.inner.schema) ops (runMarrowG core pre gb ops).1,
       (runMarrowG core pre gb ops).2)
  | [], gb => rfl
  | op :: ops, gb => by
    obtain ⟨h1, h2⟩ := stepG_factor core pre cvA cvB validate gb op
    simp only [runHistoryG, runMarrowG, h1, List.zipWith_cons_cons]
    rw [runHistoryG_factor core pre cvA cvB validate ops, h2]

end

/-! ### the builder model as core -/

section
variable {D Out AF AA BF BA : Type}

/-- the state of the builder model behind a `GBuilder` -/
def gOf (gb : GBuilder B) : G := if gb.poisoned then none else some gb.inner.builder

/-! the three facts about the `Serializer` wrapper's own check are clauses of `C10.serializer_cases` -/

theorem serializerPre_reaches : ∀ (x : SVal), reachesBuilder x = true → serializerPre x = .ok () := by
  intro x h
  rcases C10.serializer_cases {} x with ⟨_, _, _, hp, _⟩ | ⟨_, _, hr, _⟩
  · exact hp
  · rw [hr] at h; cases h

/-- a value that does not reach the builder: `serializerPre` refuses it with the very error `serializeWithG` returns -/
theorem serializerPre_refused (ext : Ext) : ∀ (x : SVal) (g : G), reachesBuilder x = false →
    ∃ e, serializerPre x = .error e ∧ serializeWithG ext g x = (.error e, g) := by
  intro x g h
  rcases C10.serializer_cases ext x with ⟨_, _, hr, _⟩ | ⟨msg, _, _, hp, _, hg⟩
  · rw [hr] at h; cases h
  · exact ⟨_, hp, hg g⟩

theorem poisonedMsg_eq : Backend.poisonedMsg = Build.poisonedMsg := rfl

/-- a collection given to the wrapper around a poisoned builder: refused when the collection starts -/
theorem serializeWithG_none_reaches (ext : Ext) : ∀ (x : SVal), reachesBuilder x = true →
    serializeWithG ext none x = (fail Build.poisonedMsg, none) := by
  intro x h
  rcases C10.serializer_cases ext x with ⟨_, _, _, _, _, hg⟩ | ⟨_, _, hr, _⟩
  · exact hg none
  · rw [hr] at h; cases h

/-- the check and the unguarded operation of `C10.stepG_eq`, in the terms of the finisher histories -/
theorem toOp_pre (op : HOp Add) : (toOp op).pre = match op with | .add a => addPre a | .finish _ => .ok () := by
  cases op with
  | add a => cases a <;> rfl
  | finish f => rfl

theorem toOp_exec (ext : Ext) (b : B) (op : HOp Add) : (toOp op).exec ext b = match op with
    | .add a => (addTo ext b a).map fun b' => (none, b')
    | .finish _ => (buildArrays ext b).map fun p => (some p.1, p.2) := by
  cases op with
  | add a => cases a <;> rfl
  | finish f => rfl

/-- one operation: the marrow step of the abstract history with the builder model as core is the step of `C10.runG` —
both are the operation's own check, then the unguarded operation, poisoning on failure (`C10.stepG_eq`) -/
theorem stepMarrowG_is_C10_stepG (ext : Ext) (dn : List Field → List Arr → R D) (de : D → R Out)
    (gb : GBuilder B) (op : HOp Add) :
    (stepMarrowG (histCore ext dn de) addPre gb op).1 = (C10.stepG ext (gOf gb) (toOp op)).1 ∧
    gOf (stepMarrowG (histCore ext dn de) addPre gb op).2 = (C10.stepG ext (gOf gb) (toOp op)).2 := by
  rw [C10.stepG_eq, toOp_pre]
  cases op with
  | add a =>
    simp only [stepMarrowG, serializeInto, histCore, bind, Except.bind, pure, Except.pure]
    cases addPre a with
    | error e => exact ⟨rfl, rfl⟩
    | ok _ =>
      cases hp : gb.poisoned with
      | true => simp [gOf, hp, poisonedMsg_eq, guarded]
      | false =>
        simp only [gOf, hp, Bool.false_eq_true, if_false, guarded, toOp_exec]
        cases addTo ext gb.inner.builder a <;> exact ⟨rfl, rfl⟩
  | finish f =>
    simp only [stepMarrowG, ArrayBuilder.toMarrow, ArrayBuilder.buildArrays, histCore, bind, Except.bind, pure, Except.pure]
    cases hp : gb.poisoned with
    | true => simp [gOf, hp, poisonedMsg_eq, guarded]
    | false =>
      simp only [gOf, hp, Bool.false_eq_true, if_false, guarded, toOp_exec]
      cases buildArrays ext gb.inner.builder <;> exact ⟨rfl, rfl⟩

/-- with the builder model as core, the marrow history with failing operations IS the history `Props/C10Fail.lean` runs -/
theorem runMarrowG_is_C10_runG (ext : Ext) (dn : List Field → List Arr → R D) (de : D → R Out) :
    ∀ (ops : List (HOp Add)) (gb : GBuilder B),
    (runMarrowG (histCore ext dn de) addPre gb ops).1 = (C10.runG ext (gOf gb) (ops.map toOp)).1 ∧
    gOf (runMarrowG (histCore ext dn de) addPre gb ops).2 = (C10.runG ext (gOf gb) (ops.map toOp)).2
  | [], gb => ⟨rfl, rfl⟩
  | op :: ops, gb => by
    obtain ⟨h1, h2⟩ := stepMarrowG_is_C10_stepG ext dn de gb op
    obtain ⟨g1, g2⟩ := runMarrowG_is_C10_runG ext dn de ops (stepMarrowG (histCore ext dn de) addPre gb op).2
    simp only [runMarrowG, List.map, C10.runG]
    rw [h2] at g1 g2
    exact ⟨by rw [h1, g1], g2⟩

/-- **every build that succeeds returns exactly its batch through every back end — also after failed operations.**  A
builder created for `fields`, ANY history of `push` / `extend` / `Serializer` calls and builds through ANY mix of the four
finishers, operations may fail and the history goes on: if operation `i` is a build through finisher `f` whose
`build_arrays` succeeded (the outcome is `out`, possibly a failed conversion), then `out` is `f` applied to the arrays of
the one-shot `to_marrow(fields, rows)`, `rows` = the rows added since the previous build; and every earlier operation
succeeded or was refused by the `Serializer` wrapper before it reached the builder.  Conversely
(`after_failure_refuses_history`) after an operation that failed inside the builder no finisher returns anything.  No
hypothesis on the schema or the rows. -/
theorem builder_reuse_one_shot_with_failures (ext : Ext) (dn : List Field → List Arr → R D) (de : D → R Out)
    (cvA : Conv AF AA) (cvB : Conv BF BA) (validate : List AF → List AA → R Unit)
    (fields : List Field) (self : ArrayBuilder B) (h0 : ArrayBuilder.new (histCore ext dn de) fields = .ok self)
    (ops : List (HOp Add)) (i : Nat) (f : Finisher) (hop : ops[i]? = some (.finish f)) :
    let outs := (runHistoryG (histCore ext dn de) addPre cvA cvB validate (GBuilder.clean self) ops).1
    let mouts := (C10.runG ext (some self.builder) (ops.map toOp)).1
    outs.length = ops.length ∧
    (∀ e, mouts[i]? = some (.error e) → outs[i]? = some (.error e)) ∧
    ∀ arrays, mouts[i]? = some (.ok (some arrays)) →
      outs[i]? = some ((convertBuilt cvA cvB validate fields f arrays).map some) ∧
      Build.toMarrow ext fields (C10.trailing [] ((ops.take i).map toOp)) = .ok arrays ∧
      ∀ j, j < i → ∃ op o, (ops.map toOp)[j]? = some op ∧ mouts[j]? = some o ∧ (o.isOk = true ∨ op.shapeRefused = true) := by
  intro outs mouts
  obtain ⟨r0, hr, rfl⟩ := new_histCore h0
  have hfac := runHistoryG_factor (histCore ext dn de) addPre cvA cvB validate ops
    (GBuilder.clean { builder := r0, schema := fields })
  have hm := (runMarrowG_is_C10_runG ext dn de ops (GBuilder.clean { builder := r0, schema := fields })).1
  have hg : gOf (GBuilder.clean { builder := r0, schema := fields }) = some r0 := rfl
  rw [hg] at hm
  have houts : outs = List.zipWith (convOut cvA cvB validate fields) ops mouts := by
    show (runHistoryG _ _ _ _ _ _ _).1 = _
    rw [hfac, hm]; rfl
  have hlen : mouts.length = ops.length := by
    show (C10.runG ext (some r0) (ops.map toOp)).1.length = _
    rw [C10.runG_length]; simp
  have hopb : (ops.map toOp)[i]? = some .build := by simp [List.getElem?_map, hop, toOp]
  refine ⟨by rw [houts]; simp [hlen], ?_, ?_⟩
  · intro e he
    rw [houts, List.getElem?_zipWith, hop, he]; rfl
  · intro arrays ha
    refine ⟨by rw [houts, List.getElem?_zipWith, hop, ha]; rfl, ?_⟩
    have := C10.build_ok_oneShot ext fields r0 hr (ops.map toOp) i arrays hopb ha
    rw [← List.map_take] at this
    exact this

end

/-! ### the unrepaired builder uses the partial state (negative example), the repaired one refuses -/

section examples

/-- a core with TWO columns whose `serialize` writes the first value, then refuses the second when it is out of range -/
def twoCore : Core (List Int × List Int) (Int × Int) (List Arr) Nat where
  newOuter := fun _ => .ok ([], [])
  serialize := fun b item => if item.2 > 127 then fail "out of range" else .ok (b.1 ++ [item.1], b.2 ++ [item.2])
  takeArrays := fun b => .ok ([.prim .int64 none b.1, .prim .int8 none b.2], ([], []))
  deserializerNew := fun _ views => .ok views
  deserialize := fun views => .ok views.length

/-- what the failing `serialize` has written by the time it fails: the first column -/
def twoPartial : List Int × List Int → Int × Int → List Int × List Int := fun b item => (b.1 ++ [item.1], b.2)

def twoBuilder : ArrayBuilder (List Int × List Int) :=
  { builder := ([], []), schema := [.mk "a" .int64 false [], .mk "b" .int8 false []] }

def twoHistory : List (HOp (Int × Int)) := [.add (1, 1), .add (2, 1000), .add (3, 3), .finish .marrow, .finish .arrow2]

def outArrays : R (Option (Built Field Arr Arr)) → Option (List Arr)
  | .ok (some (.marrow a)) => some a
  | .ok (some (.arrow a)) => some a
  | .ok (some (.arrow2 a)) => some a
  | .ok (some (.recordBatch b)) => some b.columns
  | _ => none

/-- **pinned_uses_partial_state.**  The unrepaired builder: the addition after the failed one is accepted and `to_marrow`
SUCCEEDS with columns of lengths 3 and 2 — the value 2 of a record nobody pushed successfully is in the first column
(C03, C10 violated; what arrow2 unwraps on).  The repaired builder refuses every operation after the failed one. -/
theorem pinned_uses_partial_state :
    (runHistoryPinned twoCore twoPartial Conv.id Conv.id toyValidate twoBuilder twoHistory).1.map outArrays =
      [none, none, none, some [.prim .int64 none [1, 2, 3], .prim .int8 none [1, 3]], some [.prim .int64 none [], .prim .int8 none []]] ∧
    (runHistoryPinned twoCore twoPartial Conv.id Conv.id toyValidate twoBuilder twoHistory).1.map (·.cls) =
      ["ok", "err", "ok", "ok", "ok"] ∧
    (runHistoryG twoCore (fun _ => .ok ()) (AF := Field) (AA := Arr) (BF := Field) (BA := Arr) Conv.id Conv.id toyValidate
        (GBuilder.clean twoBuilder) twoHistory).1.map (·.cls) = ["ok", "err", "err", "err", "err"] := by
  decide

/-- `runHistoryG` on the two-column core with a history in which nothing is refused (`toyValidate` of Props/C19.lean):
every build returns the rows added since the previous one through its own finisher — the successful side of
`runHistoryG_factor`; the refusing side is the third clause of `pinned_uses_partial_state` -/
example : (runHistoryG twoCore (fun _ => .ok ()) (AF := Field) (AA := Arr) (BF := Field) (BA := Arr) Conv.id Conv.id toyValidate
    (GBuilder.clean twoBuilder) [.add (1, 1), .finish .recordBatch, .add (2, 2), .finish .arrow]).1.map outArrays =
    [none, some [.prim .int64 none [1], .prim .int8 none [1]], none, some [.prim .int64 none [2], .prim .int8 none [2]]] := by
  decide

/-- `builder_reuse_one_shot_with_failures` on the history of Props/C19Reuse.lean with a refused record in the middle: the
first build (a record batch) is its finisher applied to the one-shot conversion of its batch; the build after the failed
push is refused -/
def exFailHistory : List (HOp Add) :=
  [.add (.push (C10.exRec "x" [1])), .finish .recordBatch,
   .add (.push (.record "R" (.cons "d" 0 (.str "y") (.cons "l" 0 (.seq (.cons (.str "no") .nil)) .nil)))),
   .add (.push (C10.exRec "z" [])), .finish .arrow2]

example : (runHistoryG exCore addPre Conv.id Conv.id exValidate (GBuilder.clean { builder := C10.exRoot0, schema := C10.exFields })
    exFailHistory).1.map (·.cls) = ["ok", "ok", "err", "err", "err"] := by decide +kernel

example : ∀ arrays, (C10.runG {} (some C10.exRoot0) (exFailHistory.map toOp)).1[1]? = some (.ok (some arrays)) →
    Build.toMarrow {} C10.exFields [C10.exRec "x" [1]] = .ok arrays := fun arrays h =>
  ((builder_reuse_one_shot_with_failures {} _ _ Conv.id Conv.id exValidate C10.exFields _ exBuilder exFailHistory 1
    .recordBatch rfl).2.2 arrays h).2.1

end examples

end SaModel.Props.C19
