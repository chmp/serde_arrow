import SaModel.Lemmas.C01NewShape
import SaModel.Lemmas.C01Push
import SaModel.Lemmas.C01RawNorm
/-
C01 — serialized arrays decode to exactly the input records.

The refinement ("work-horse") theorems about the builder model.  `dec b` are the logical rows a builder state
holds, `WFB` the state invariant between two pushes (Build/Inv.lean).

  R1  push_appends      every successful push keeps the state well formed and appends exactly ONE logical row
      pushNone_appends / pushDefault_appends / pushScalar_appends   the same for nulls, placeholders, scalar calls
      newDT_fresh / newRoot_fresh   a fresh builder is well formed and empty
      runRows_rows      folding R1 over the rows: the root holds exactly `rows.length` rows, all columns at that length
  R2  push_interp       the appended row is the documented one: `Spec.interpDT` of the value at the builder's field
      newDT_shape / newRoot_shape   `build_builder` establishes the `Shape` relation R2 is indexed by
  R3  runRows_interp    after all rows: the root's rows are `interpRow` of the records, all columns at `rows.length`
                        (stated in Props/C01.lean: the special case of R3' `runRows_interp'`, Props/C01Obs.lean)
      (coverage of R2: every builder family `Shape` admits — view builders included; of the dictionaries those whose
      value builder is a Utf8 / LargeUtf8 builder or refuses strings — and every value whose raw key/value call streams
      alternate, `structStreamsAlternate`, with the sentinel bound `narrowDT` when a raw stream occurs.  R3 asks
      `coveredF` of the schema: dictionaries with integer keys have Utf8 / LargeUtf8 values; its `Safe`-free form
      `runRows_interp'` of Props/C01Obs.lean asks only `coveredWF` — notes/C01.md)
All theorems of this file carry `WFB` / `Safe`; their `Safe`-free forms on the weak invariant `WFH` / `NoDictKey` are the
primed theorems of Props/C01Obs.lean.
The end-to-end composition with the physical layer (`finish_decode`) is `C01_build_decode` in Props/C01.lean.

Proofs live in SaModel/Lemmas/C01*.lean (list lemmas, per-family step lemmas, the walk over `push`: `obs_cases`, an
instance of `PushCases`, Lemmas/C01ObsPush.lean); this file states the property-level theorems and gives non-vacuity examples.
-/
namespace SaModel.Props.C01
open SaModel SaModel.Build SaModel.Spec

/-! ## R1 -/

/-- **R1.** Every successful `push` (any serde value, any builder family, any nesting) keeps the builder state
well formed and appends exactly one logical row.  `Safe b` is a property of the schema (no dictionary with
non-nullable keys below a nullable struct / fixed-size list — see `dict_placeholder_unstable` for why it is
needed).  No hypothesis on the value: raw key/value call streams (`SVal.mapRaw`) that do not alternate are REFUSED
by a Map builder (repo fix eafdf15; `map_refuses_non_alternating` below), a struct builder accepts them and stays well
formed. -/
theorem push_appends (ext : Ext) (x : SVal) (b b' : B) (hwf : WFB b) (hsafe : Safe b)
    (h : push ext b x = .ok b') : WFB b' ∧ Safe b' ∧ ∃ lv, dec b' = dec b ++ [lv] := by
  obtain ⟨a, d⟩ := Build.push_appends ext x b b' hwf hsafe h
  exact ⟨a, Safe.of_takeRest (push_takeRest ext x b b' h) hsafe, d⟩

/-- a null appends exactly the null row -/
theorem pushNone_appends (b b' : B) (hwf : WFB b) (hsafe : Safe b) (h : pushNone b = .ok b') :
    WFB b' ∧ Safe b' ∧ dec b' = dec b ++ [.null] := by
  obtain ⟨a, d⟩ := Build.pushNone_appends b b' hwf hsafe h
  exact ⟨a, Safe.of_takeRest (pushNone_takeRest b b' h) hsafe, d⟩

/-- `k` placeholders (children of a null struct / fixed-size list) append exactly `k` rows — null rows when the
builder is nullable -/
theorem pushDefault_appends (b : B) (k : Nat) (b' : B) (hwf : WFB b) (hsafe : DefSafe b)
    (h : pushDefaultK b k = .ok b') :
    WFB b' ∧ ∃ ls, ls.length = k ∧ dec b' = dec b ++ ls ∧ (b.isNullable = true → ls = List.replicate k .null) :=
  Build.pushDefaultK_appends b k b' hwf hsafe h

/-- the children of a struct that receives `k` placeholders receive exactly `k` each -/
theorem pushDefault_children (fs : BL) (k : Nat) (fs' : BL) (len : Nat) (hwf : WFL fs len) (hsafe : DefSafeL fs)
    (h : pushDefaultKAll fs k = .ok fs') : WFL fs' (len + k) := by
  obtain ⟨adds, hext, hk⟩ := Build.pushDefaultKAll_appends fs k fs' len hwf hsafe h
  exact ExtL.wfl fs fs' adds len k hwf hext hk

/-- scalar calls (`serialize_bool` … `serialize_bytes`) -/
theorem pushScalar_appends (ext : Ext) (b : B) (x : SVal) (b' : B) (hwf : WFB b) (hsafe : Safe b)
    (h : pushScalar ext b x = .ok b') :
    WFB b' ∧ ∃ lv, dec b' = dec b ++ [lv] := by
  obtain ⟨a, lv, d, _⟩ := Build.pushScalar_appends ext b x b' hwf hsafe h
  exact ⟨a, lv, d⟩

/-- **Leaf step with content.** A successful scalar push into a leaf builder appends the converted value
(validity and value move in lock step). -/
theorem push_leaf_dec (ext : Ext) (p : String) (k : LeafKind) (v : Validity) (vals : List Int) (x : SVal) (b' : B)
    (hwf : VLen v vals.length) (h : pushScalar ext (.leaf p k v vals) x = .ok b') :
    ∃ val, convLeaf ext k x = .ok val ∧ dec b' = dec (.leaf p k v vals) ++ [leafVal k val] ∧
      ∃ v', b' = .leaf p k v' (vals ++ [val]) ∧ VLen v' (vals ++ [val]).length := by
  simp only [pushScalar] at h
  obtain ⟨val, hc, h2⟩ := (bind_ok _ _ _).1 h
  obtain ⟨v', h3, h4⟩ := (bind_ok _ _ _).1 h2
  cases h4
  obtain ⟨rfl, _⟩ := setValidity_ok hwf h3
  have hw : WFB (.leaf p k v vals) := by simpa [WFB] using hwf
  obtain ⟨g1, g2⟩ := leaf_step hw true val
  rw [rowOf_true] at g2
  exact ⟨val, hc, g2, _, rfl, by simpa [WFB] using g1⟩

/-- the list element loop raises the open (last) offset by the number of elements and appends that many rows to
the element builder -/
theorem pushElems_spec (ext : Ext) (xs : SVals) (large : Bool) (el : B) (base : List Int)
    (l : Int) (r : B × List Int) (hwf : WFB el) (hsafe : Safe el)
    (h : pushElems ext large el (base ++ [l]) xs = .ok r) :
    WFB r.1 ∧ ∃ ls, dec r.1 = dec el ++ ls ∧ r.2 = base ++ [l + (ls.length : Int)] :=
  Build.pushElems_appends ext xs large el base l r hwf hsafe h

/-- map entries keep keys and values in step -/
theorem pushMapEntries_spec (ext : Ext) (es : SEntries) (base : List Int) (l : Int)
    (ks vs : B) (r : List Int × B × B) (hk : WFB ks) (hv : WFB vs) (hsk : Safe ks) (hsv : Safe vs)
    (h : pushMapEntries ext (base ++ [l]) ks vs es = .ok r) :
    WFB r.2.1 ∧ WFB r.2.2 ∧ ∃ lk lw : List LVal, lw.length = lk.length ∧ dec r.2.1 = dec ks ++ lk ∧
      dec r.2.2 = dec vs ++ lw ∧ r.1 = base ++ [l + (lk.length : Int)] :=
  Build.pushMapEntries_appends ext es base l ks vs r hk hv hsk hsv h

/-- a raw `serialize_key` / `serialize_value` call stream into a Map builder (flag `key_pending` reset by
`serialize_map_start`): when it is ACCEPTED keys and values have stayed in step -/
theorem pushMapOps_spec (ext : Ext) (ops : SMapOps) (base : List Int) (l : Int)
    (ks vs : B) (r : List Int × B × B) (hk : WFB ks) (hv : WFB vs) (hsk : Safe ks) (hsv : Safe vs)
    (h : pushMapOps ext false (base ++ [l]) ks vs ops = .ok r) :
    WFB r.2.1 ∧ WFB r.2.2 ∧ ∃ lk lw : List LVal, lw.length = lk.length ∧ dec r.2.1 = dec ks ++ lk ∧
      dec r.2.2 = dec vs ++ lw ∧ r.1 = base ++ [l + (lk.length : Int)] :=
  Build.pushMapOps_appends ext ops base l ks vs r hk hv hsk hsv h

/-- what an accepted raw stream looks like, from either state of the flag: alternating, starting with a value
exactly if a key is pending -/
theorem pushMapOps_ok_alternating (ext : Ext) (ops : SMapOps) (pd : Bool) (offs : List Int) (ks vs : B)
    (r : List Int × B × B) (h : pushMapOps ext pd offs ks vs ops = .ok r) :
    if pd then ∃ x rest, ops = .value x rest ∧ isAlternating rest = true else isAlternating ops = true :=
  Build.pushMapOps_ok_alternating ext ops pd offs ks vs r h

/-- **A Map builder refuses every raw key/value call stream that does not alternate** (two keys in a row, a value
without a key, a trailing key — exactly the streams `Spec.interpDT` calls `malformed`), whatever the keys and values
are and whatever state the builder is in.  (Repo fix eafdf15 of finding C16-map-key-value-alternation: the code it
replaced accepted such a stream and left keys and values of the Map array at different lengths.) -/
theorem map_refuses_non_alternating (ext : Ext) (p : String) (mm : MapMeta) (v : Validity) (offs : List Int)
    (ks vs : B) (ops : SMapOps) (hmal : isAlternating ops = false) (b' : B) :
    push ext (.map p mm v offs ks vs) (.mapRaw ops) ≠ .ok b' := by
  intro h
  rw [push_map_raw_ok_alternating h] at hmal; cases hmal

/-- a fresh builder is well formed, empty, and what `take` leaves behind is the builder itself -/
theorem newDT_fresh (dt : DataType) (path : String) (nullable : Bool) (md : Metadata) (b : B)
    (h : newDT path dt nullable md = .ok b) : WFB b ∧ dec b = [] ∧ takeRest b = b :=
  Build.newDT_fresh dt path nullable md b h

/-! ### folding over the rows -/

theorem foldl_push_rows (ext : Ext) : ∀ (rows : List SVal) (b b' : B), WFB b → Safe b →
    rows.foldlM (push ext) b = .ok b' →
    WFB b' ∧ Safe b' ∧ takeRest b' = takeRest b ∧ ∃ ls, ls.length = rows.length ∧ dec b' = dec b ++ ls
  | [], b, b', hwf, hs, h => by
    simp [List.foldlM, pure, Except.pure] at h; subst h
    exact ⟨hwf, hs, rfl, [], rfl, by simp⟩
  | x :: rest, b, b', hwf, hs, h => by
    simp only [List.foldlM] at h
    obtain ⟨b1, h1, h⟩ := (bind_ok _ _ _).1 h
    obtain ⟨hw1, hs1, lv, hd1⟩ := push_appends ext x b b1 hwf hs h1
    obtain ⟨hw', hs', ht', ls, hl, hd⟩ := foldl_push_rows ext rest b1 b' hw1 hs1 h
    exact ⟨hw', hs', by rw [ht', push_takeRest ext x b b1 h1], lv :: ls, by simp [hl], by rw [hd, hd1]; simp⟩

/-- **R3 (row count).** After all rows have been pushed — ANY serde values, raw key/value call streams included —
the root holds exactly `rows.length` rows and every column has that length. -/
theorem runRows_rows (ext : Ext) (fields : List Field) (rows : List SVal) (root0 root : B)
    (h0 : newRoot fields = .ok root0) (hsafe : Safe root0)
    (h : runRows ext fields rows = .ok root) :
    WFB root ∧ (dec root).length = rows.length ∧ takeRest root = root0 ∧
      ∀ col ∈ decRoot root, col.length = rows.length := by
  simp only [runRows, h0] at h
  have h : rows.foldlM (push ext) root0 = .ok root := h
  obtain ⟨hw0, hd0, ht0⟩ := newRoot_fresh h0
  obtain ⟨hw, _, ht, ls, hl, hd⟩ := foldl_push_rows ext rows root0 root hw0 hsafe h
  refine ⟨hw, by rw [hd, hd0]; simpa using hl, by rw [ht, ht0], ?_⟩
  -- the root is a non-nullable struct: its row count is `len`, and all children are at `len`
  have hroot : ∃ p len fs cached next seen, root = .struct p len none fs cached next seen := by
    have : takeRest root = root0 := by rw [ht, ht0]
    obtain ⟨_, _, _, _, rfl⟩ := Build.newRoot_struct h0
    exact struct_of_takeRest root this
  obtain ⟨p, len, fs, cached, next, seen, rfl⟩ := hroot
  have hlen : len = rows.length := by
    have : (dec (B.struct p len none fs cached next seen)).length = rows.length := by rw [hd, hd0]; simpa using hl
    simpa [dec_struct, maskNull] using this
  simp only [WFB] at hw
  intro col hcol
  simp only [decRoot, List.mem_map] at hcol
  obtain ⟨c, hc, rfl⟩ := hcol
  rw [← hlen]
  exact (WFL_cols fs len hw.2.1) c hc
where
  struct_of_takeRest : ∀ (root : B) {p : String} {bl : BL} {c : List (Option (String × Nat))} {s : List Bool},
      takeRest root = .struct p 0 (newValidity false) bl c 0 s →
      ∃ p len fs cached next seen, root = .struct p len none fs cached next seen
    | .struct p len none fs cached next seen, _, _, _, _, _ => ⟨_, _, _, _, _, _, rfl⟩
    | .struct p len (some _) fs cached next seen, _, _, _, _, h => by simp [takeRest, newValidity] at h
    | .null _ _, _, _, _, _, h => by simp [takeRest] at h
    | .unknownVariant _, _, _, _, _, h => by simp [takeRest] at h
    | .leaf _ _ _ _, _, _, _, _, h => by simp [takeRest] at h
    | .bytes _ _ _ _ _, _, _, _, _, h => by simp [takeRest] at h
    | .bytesView _ _ _ _ _, _, _, _, _, h => by simp [takeRest] at h
    | .fixedSizeBinary _ _ _ _ _ _, _, _, _, _, h => by simp [takeRest] at h
    | .list _ _ _ _ _ _, _, _, _, _, h => by simp [takeRest] at h
    | .fixedSizeList _ _ _ _ _ _ _, _, _, _, _, h => by simp [takeRest] at h
    | .map _ _ _ _ _ _, _, _, _, _, h => by simp [takeRest] at h
    | .dictionary _ _ _ _, _, _, _, _, h => by simp [takeRest] at h
    | .union _ _ _ _ _, _, _, _, _, h => by simp [takeRest] at h
  WFL_cols : ∀ (fs : BL) (len : Nat), WFL fs len → ∀ c ∈ decCols fs, c.2.length = len :=
    Lemmas.C03.WFL_len

/-! ## R2 -/

/-- **R2.** The row a successful push appends is the documented one: `Spec.interpDT` at the field the builder was
built for (records matched by name, numbers by value, variants by index) — for every builder family `Shape`
covers (all; a dictionary builder when its key builder is an integer leaf and its value builder is a Utf8 / LargeUtf8
builder or a builder that refuses strings — Lemmas/C01Shape.lean) and every
value whose raw key/value call streams (`SVal.mapRaw`) alternate (`hraw`; decidable, `= !Spec.containsMalformed x`).
At a Map position that excludes nothing that could succeed (`map_refuses_non_alternating`); at a struct position it is
needed (`struct_stream_needed` below: the struct builder accepts every stream, `Spec.interpDT` calls the others
`malformed`; what the builder stores for them: `struct_raw_stored`).  `hnar`: when the value contains a raw stream at
all, every struct type of the field has fewer than `usize::MAX` fields (`narrowDT`; the struct builder uses
`next = usize::MAX` as "unknown key" — no Rust `Vec` is that long, the model's lists are unbounded).  View builders: a successful push keeps every length and buffer offset
≤ `i32::MAX` (the builder refuses more), so the descriptor reads back exactly the pushed bytes; `WFB` carries the
buffer bound (`WFB_small`), no size hypothesis is needed.  Together with R1: C01 (content), C05 (ok ⇒ exact) and
C11 (the row depends on the value only through `interpDT`). -/
theorem push_interp (ext : Ext) (x : SVal) (b b' : B) (dt : DataType) (n : Bool) (md : Metadata)
    (hraw : structStreamsAlternate x = true) (hnar : noRaw x = true ∨ narrowDT dt = true)
    (hwf : WFB b) (hsafe : Safe b) (hshape : Shape b dt n md) (h : push ext b x = .ok b') :
    WFB b' ∧ Safe b' ∧ Shape b' dt n md ∧ ∃ lv, dec b' = dec b ++ [lv] ∧ interpDT ext dt n md x = .ok lv := by
  have ht := push_takeRest ext x b b' h
  obtain ⟨hw', lv, hd⟩ := Build.push_appends ext x b b' hwf hsafe h
  refine ⟨hw', Safe.of_takeRest ht hsafe, Shape.of_takeRest ht hshape, lv, hd, ?_⟩
  rcases hnar with hno | hnar
  · exact Build.push_interp ext false x b b' dt n md lv hno (fun hn => by cases hn) hwf hsafe hshape h hd (WFB_small b' hw')
  · exact Build.push_interp ext true x b b' dt n md lv hraw (fun _ => hnar) hwf hsafe hshape h hd (WFB_small b' hw')

/-! ### raw key/value call streams at a struct position

A Map builder refuses every stream that does not alternate (`map_refuses_non_alternating`).  A struct builder accepts
EVERY stream: `serialize_map_key` only records which field comes next, `serialize_map_value` writes it (or nothing when
the last key was no field, or there was no key).  The documentation gives such streams no meaning (`Spec.interpDT`:
`malformed`; serde's contract for `SerializeMap` is key, value, key, value …), so R2 cannot say "the documented row"
for them; it says what is stored instead. -/

/-- **What a struct builder does with an arbitrary raw stream**: the same as with `normOps ops`, the pairs whose value
directly follows its key — a value without a key is dropped, a key without a value leaves its field unseen (`end`
then gives it a null if it is nullable and refuses otherwise).  The two final states differ at most in
`StructBuilder::next`, the lookup hint that `start` resets. -/
theorem struct_raw_norm (ext : Ext) {p : String} {len : Nat} {v : Validity} {fs : BL} {cached next seen} {ops : SMapOps}
    {b' : B} (h : push ext (.struct p len v fs cached next seen) (.mapRaw ops) = .ok b') :
    ∃ p' len' v' fs' cached' n1 n2 seen', b' = .struct p' len' v' fs' cached' n1 seen' ∧
      push ext (.struct p len v fs cached next seen) (.mapRaw (normOps ops)) = .ok (.struct p' len' v' fs' cached' n2 seen') := by
  simp only [push, ctx_ok] at h ⊢
  obtain ⟨s0, h0, h⟩ := (bind_ok _ _ _).1 h
  obtain ⟨s1, h1, h⟩ := (bind_ok _ _ _).1 h
  obtain ⟨s2, h2, h⟩ := (bind_ok _ _ _).1 h
  cases h
  obtain ⟨n, hn⟩ := pushStructOps_norm ext ops s0 s1 h1
  simp only [SS.finishRow] at h2
  obtain ⟨fs2, hf, h2⟩ := (bind_ok _ _ _).1 h2
  cases h2
  refine ⟨s1.path, s1.len, s1.validity, fs2, s1.cached, s1.next, n, s1.seen, rfl, ?_⟩
  simp only [h0, hn, bind, Except.bind, SS.finishRow, hf]
  rfl

/-- **R2 for an arbitrary raw stream at a struct position**: the row the struct builder appends is the documented row
of the NORMALISED stream `normOps ops` (no hypothesis that `ops` alternates; the streams inside the surviving pairs
alternate).  For an alternating stream `normOps ops = ops` (`normOps_id`) and this is R2. -/
theorem struct_raw_stored (ext : Ext) {p : String} {len : Nat} {v : Validity} {fs : BL} {cached next seen} (ops : SMapOps)
    (b' : B) (sfs : Fields) (n : Bool) (md : Metadata)
    (hraw : ssaO (normOps ops) = true) (hnar : narrowDT (.struct sfs) = true)
    (hwf : WFB (.struct p len v fs cached next seen)) (hsafe : Safe (.struct p len v fs cached next seen))
    (hshape : Shape (.struct p len v fs cached next seen) (.struct sfs) n md)
    (h : push ext (.struct p len v fs cached next seen) (.mapRaw ops) = .ok b') :
    ∃ lv, dec b' = dec (.struct p len v fs cached next seen) ++ [lv] ∧
      interpDT ext (.struct sfs) n md (.mapRaw (normOps ops)) = .ok lv := by
  obtain ⟨p', len', v', fs', cached', n1, n2, seen', rfl, h'⟩ := struct_raw_norm ext h
  obtain ⟨_, _, _, lv, hd, hi⟩ := push_interp ext _ _ _ _ n md (by simpa [structStreamsAlternate] using hraw)
    (Or.inr hnar) hwf hsafe hshape h'
  exact ⟨lv, by rw [dec_struct] at hd ⊢; exact hd, hi⟩

/-- **The exclusion `structStreamsAlternate` is needed (and `Spec.interpDT` does not match the struct builder on
malformed streams).**  Column `a : Int32?`; a record that is a raw stream with a value but no key, or a key but no
value: every other hypothesis of R3 holds, serialization SUCCEEDS and stores the row `{a: null}`, while the documented
mapping has no row for the record (`malformed`).  The stored row is the documented row of the normalised (here: empty)
stream, as `struct_raw_stored` says. -/
theorem struct_stream_needed :
    let fields := [Field.mk "a" .int32 true []]
    let x1 := SVal.mapRaw (.value (.int .i32 1) .nil)
    let x2 := SVal.mapRaw (.key (.str "a") .nil)
    structStreamsAlternate x1 = false ∧ structStreamsAlternate x2 = false ∧
    fields.all coveredF = true ∧ narrowRoot fields = true ∧
    (do let root ← runRows {} fields [x1, x2]; pure (decRoot root) : R (List (List LVal))) = .ok [[.null, .null]] ∧
    interpRow {} fields x1 = Spec.malformed ∧ interpRow {} fields x2 = Spec.malformed ∧
    interpRow {} fields (.mapRaw (normOps (.value (.int .i32 1) .nil))) = .ok (.struct (.cons "a" .null .nil)) := by
  decide +kernel

/-- `build_builder` establishes `Shape` for every covered data type -/
theorem newDT_shape (dt : DataType) (path : String) (n : Bool) (md : Metadata) (b : B) (hc : covered dt = true)
    (h : newDT path dt n md = .ok b) : Shape b dt n md :=
  Build.newDT_shape dt path n md b hc h

/-- view buffers only grow: `ViewSmall` of the final state holds of every intermediate state (a fact about the model;
the theorems below do not use it: `WFB` implies `ViewSmall`, `WFB_small`) -/
theorem foldl_push_small (ext : Ext) : ∀ (rows : List SVal) (b b' : B), rows.foldlM (push ext) b = .ok b' →
    Lemmas.C03.ViewSmall b' → Lemmas.C03.ViewSmall b :=
  R.foldlM_induct (fun _ hs => hs) fun x _ b b1 _ h1 _ ih hs => push_small ext x b b1 h1 (ih hs)

/-- the root `build_builder` makes is an empty struct without validity -/
theorem runRows_interp.newRoot_struct {fields : List Field} {r0 : B} (h : newRoot fields = .ok r0) :
    ∃ p bl c s, r0 = .struct p 0 (newValidity false) bl c 0 s :=
  Build.newRoot_struct h

/-! ### why `Safe` is needed: placeholder keys of an empty dictionary -/

/-- A dictionary with NON-nullable keys below a nullable struct: a null struct row pushes the placeholder key `0`
into the (still empty) dictionary; the key designates nothing, then — after the first real value — that value.
So the rows of the dictionary builder itself are not append-only (`[null]` becomes `["a", "a"]`); the struct's
rows are (the slot is hidden below the null).  R1 for the child alone is false in this state. -/
theorem dict_placeholder_unstable :
    ∃ (d d' : B) (x : SVal), WFB d' ∧ push {} d x = .ok d' ∧ ¬ ∃ lv, dec d' = dec d ++ [lv] := by
  refine ⟨.dictionary "$.s.d" (.leaf "$.s.d.key" (.int .u32) none [0]) (.bytes "$.s.d.value" .utf8 none [0] []) [],
    .dictionary "$.s.d" (.leaf "$.s.d.key" (.int .u32) none [0, 0]) (.bytes "$.s.d.value" .utf8 none [0, 1] [97]) ["a"],
    .str "a", ?_, by decide +kernel, ?_⟩
  · simp only [WFB]
    refine ⟨VLen.none _, ⟨⟨rfl, rfl, by decide +kernel⟩, VLen.none _⟩, by decide +kernel, by decide +kernel, ?_, ⟨fun _ => by decide +kernel, fun h => by simp [B.refusesStr, isUtf8Ty] at h⟩⟩
    intro k hk j hj
    have : dec (B.leaf "$.s.d.key" (.int .u32) none [0, 0]) = [.int 0, .int 0] := by decide +kernel
    rw [this] at hk
    simp at hk; subst hk; cases hj; decide +kernel
  · rintro ⟨lv, h⟩
    have h1 : dec (B.dictionary "$.s.d" (.leaf "$.s.d.key" (.int .u32) none [0, 0])
        (.bytes "$.s.d.value" .utf8 none [0, 1] [97]) ["a"]) = [.str [97], .str [97]] := by decide +kernel
    have h2 : dec (B.dictionary "$.s.d" (.leaf "$.s.d.key" (.int .u32) none [0])
        (.bytes "$.s.d.value" .utf8 none [0] []) []) = [.null] := by decide +kernel
    rw [h1, h2] at h
    simp at h

/-! ### non-vacuity -/

example : ∃ b', pushScalar {} (.leaf "$.a" (.int .i32) (some [true]) [4]) (.int .i64 7) = .ok b' ∧
    dec b' = [.int 4, .int 7] := ⟨_, rfl, by decide +kernel⟩

/-- a nested state meeting every hypothesis of R1: nullable list of non-nullable i32 with one row `[4]` -/
def exList : B := .list "$.a" false ⟨"element", false, []⟩ (some [true]) [0, 1] (.leaf "$.a.element" (.int .i32) none [4])

example : WFB exList ∧ Safe exList := by
  refine ⟨?_, by simp [exList, Safe]⟩
  simp only [exList, WFB]
  refine ⟨⟨rfl, by decide +kernel, by decide +kernel⟩, ?_, VLen.none _⟩
  intro bits hb; cases hb; rfl

example : ∃ b', push {} exList (.seq (.cons (.int .i8 5) (.cons (.int .i64 6) .nil))) = .ok b' ∧
    dec b' = dec exList ++ [.list (.cons (.int 5) (.cons (.int 6) .nil))] := ⟨_, rfl, by decide +kernel⟩

/-- a Map column `m : Map<Utf8, Int32?>` (the replay schema of finding C16-map-key-value-alternation in small) -/
def exMapFields : List Field :=
  [.mk "m" (.map (.mk "entries" (.struct (.cons (.mk "key" .utf8 false []) (.cons (.mk "value" .int32 true []) .nil))) false []) false) false []]

/-- `map_refuses_non_alternating` / R1 has no hypothesis on the value: two keys in a row, a value without a key and a trailing key
are refused with the Map builder's annotated error; the alternating stream is accepted and is ONE row with two entries -/
example : runRows {} exMapFields [.record "R" (.cons "m" 0 (.mapRaw (.key (.str "x") (.key (.str "") .nil))) .nil)] =
    .error (.errCtx "Invalid map: a key was serialized before the value of the previous key"
      [("data_type", "Map(..)"), ("field", "$.m")]) := by decide +kernel
example : (runRows {} exMapFields [.record "R" (.cons "m" 0 (.mapRaw (.value (.int .i32 1) .nil)) .nil)]).isErr = true := by
  decide +kernel
example : (runRows {} exMapFields [.record "R" (.cons "m" 0 (.mapRaw (.key (.str "x") .nil)) .nil)]).isErr = true := by
  decide +kernel
example : (do
      let root ← runRows {} exMapFields [.record "R" (.cons "m" 0
        (.mapRaw (.key (.str "x") (.value (.int .i32 1) (.key (.str "y") (.value .none .nil))))) .nil)]
      pure (decRoot root) : R (List (List LVal))) =
    .ok [[.map (.cons (.str [120]) (.int 1) (.cons (.str [121]) .null .nil))]] := by decide +kernel
example : isAlternating (.key (.str "x") (.key (.str "") .nil)) = false := by decide +kernel

/-- a root over two columns; the second record presents its fields in the other order -/
example : (do
      let root ← runRows {} [.mk "a" .int32 false [], .mk "b" .utf8 true []]
        [.record "R" (.cons "a" 0 (.int .i32 1) (.cons "b" 1 (.str "x") .nil)),
         .record "R" (.cons "b" 1 .none (.cons "a" 0 (.int .i32 2) .nil))]
      pure (decRoot root) : R (List (List LVal))) = .ok [[.int 1, .int 2], [.str [120], .null]] := by decide +kernel

/-- R2 on a nested state: the Shape of `exList`, and the documented row of a sequence -/
example : Shape exList (.list (.mk "element" .int32 false [])) true [] := by
  simp only [exList, Shape]
  exact ⟨rfl, "element", .int32, false, [], by simp, rfl, rfl⟩

example : interpDT {} (.list (.mk "element" .int32 false [])) true []
    (.seq (.cons (.int .i8 5) (.cons (.int .i64 6) .nil))) = .ok (.list (.cons (.int 5) (.cons (.int 6) .nil))) := by
  decide +kernel

/-- R2 on a bytes-view builder: a 13-byte string goes out of line (descriptor + buffer) and reads back as itself -/
def exView : B := .bytesView "$.v" .utf8View (some [true]) [packInline [104, 105]] []

example : WFB exView ∧ Safe exView ∧ Shape exView .utf8View true [] := by
  refine ⟨?_, by simp [exView, Safe], by simp [exView, Shape, viewDT]⟩
  simp only [exView, WFB]
  refine ⟨by intro bits hb; cases hb; rfl, ?_, by decide +kernel⟩
  intro d hd; simp at hd; subst hd; decide +kernel

example : ∃ b', push {} exView (.str "thirteen byte") = .ok b' ∧
    dec b' = dec exView ++ [.str (strBytes "thirteen byte")] ∧
    interpDT {} .utf8View true [] (.str "thirteen byte") = .ok (.str (strBytes "thirteen byte")) :=
  ⟨.bytesView "$.v" .utf8View (some [true, true]) [packInline [104, 105], packExtern (strBytes "thirteen byte") 0 0]
      (strBytes "thirteen byte"), by decide +kernel, by decide +kernel, by decide +kernel⟩

/-- R2 on a dictionary builder (`Dictionary(UInt8, Utf8)` holding "x" once): a known string reuses its key, the
invariant "values decoded = index entries" (`DictVals`) is part of `WFB` -/
def exDict : B := .dictionary "$.d" (.leaf "$.d.key" (.int .u8) none [0]) (.bytes "$.d.value" .utf8 none [0, 1] [120]) ["x"]

example : WFB exDict ∧ Safe exDict ∧ Shape exDict (.dictionary .uint8 .utf8) false [] := by
  refine ⟨?_, by simp [exDict, Safe, B.isDict], by simp [exDict, Shape, B.isIntLeaf, B.isNullable, B.isUtf8B, isUtf8Ty, bytesDT]⟩
  simp only [exDict, WFB]
  refine ⟨VLen.none _, ⟨⟨rfl, rfl, by decide +kernel⟩, VLen.none _⟩, by decide +kernel, by decide +kernel, ?_, ⟨fun _ => by decide +kernel, fun h => by simp [B.refusesStr, isUtf8Ty] at h⟩⟩
  intro k hk j hj
  have : dec (B.leaf "$.d.key" (.int .u8) none [0]) = [.int 0] := by decide +kernel
  rw [this] at hk
  simp at hk; subst hk; cases hj; decide +kernel

example : ∃ b', push {} exDict (.str "x") = .ok b' ∧ dec b' = dec exDict ++ [.str [120]] ∧
    interpDT {} (.dictionary .uint8 .utf8) false [] (.str "x") = .ok (.str [120]) :=
  ⟨.dictionary "$.d" (.leaf "$.d.key" (.int .u8) none [0, 0]) (.bytes "$.d.value" .utf8 none [0, 1] [120]) ["x"],
    by decide +kernel, by decide +kernel, by decide +kernel⟩

/-- R2 / R3 with a raw stream at a struct position (the root, and the nested struct `s`): alternating streams, keys in
any order, an unknown key; the hypotheses hold and the stored rows are the documented ones -/
def exRawFields : List Field :=
  [.mk "a" .int32 true [], .mk "s" (.struct (.cons (.mk "x" .utf8 false []) .nil)) false []]
def exRawRow : SVal :=
  .mapRaw (.key (.str "s") (.value (.mapRaw (.key (.str "zz") (.value .unit (.key (.str "x") (.value (.str "v") .nil)))))
    (.key (.str "a") (.value (.int .i8 3) .nil))))

example : structStreamsAlternate exRawRow = true ∧ noRaw exRawRow = false ∧ narrowRoot exRawFields = true ∧
    exRawFields.all coveredF = true := by decide +kernel

example : (do let root ← runRows {} exRawFields [exRawRow]; pure (dec root) : R (List LVal)) =
    (do let lv ← interpRow {} exRawFields exRawRow; pure [lv]) ∧
    (interpRow {} exRawFields exRawRow).isOk = true := by decide +kernel

/-- a dictionary whose value builder refuses strings (behaviour confirmed on the crate, notes/C01.md): `build_builder`
ACCEPTS `Dictionary(Int8, Int32)`, every scalar is forwarded to the value builder as a string and an `Int32` builder refuses
strings — and `Spec.interpScalar` (the string at the VALUE type, `Spec.dictValue`) gives the scalar no meaning either: the
type is inside `coveredW` (R2), and outside `covered` (`into_array` cannot append its placeholder string) -/
example : (newDT "$.d" (.dictionary .int8 .int32) false []).isOk = true ∧
    (do let b ← newDT "$.d" (.dictionary .int8 .int32) false []; push {} b (.int .i32 1) : R B).isErr = true ∧
    (interpDT {} (.dictionary .int8 .int32) false [] (.int .i32 1)).isErr = true ∧
    coveredW (.dictionary .int8 .int32) = true ∧ covered (.dictionary .int8 .int32) = false := by decide +kernel

/-- a dictionary whose value type parses strings stores the PARSED value, and the specification says so; R2 does not
cover it (`dictValOpen`: outside `coveredW`) -/
example : interpDT { parseDate := fun _ _ => .ok 18262 } (.dictionary .int8 .date32) false [] (.str "2020-01-01") = .ok (.int 18262) ∧
    coveredW (.dictionary .int8 .date32) = false ∧ coveredW (.dictionary .int8 .utf8View) = false ∧
    coveredW (.dictionary .int8 (.dictionary .int8 .utf8)) = false := by decide +kernel

/-- R3 hypotheses are satisfiable with a nested, nullable schema: covered, safe, and rows in two presentations -/
example : [Field.mk "a" (.struct (.cons (.mk "x" .int8 true []) (.cons (.mk "y" .utf8 false []) .nil))) true []].all coveredF = true := by
  decide +kernel

example : interpRow {} [.mk "a" .int32 false [], .mk "b" .utf8 true []]
      (.record "R" (.cons "b" 1 .none (.cons "a" 0 (.int .i32 2) .nil))) =
    interpRow {} [.mk "a" .int32 false [], .mk "b" .utf8 true []]
      (.map (.cons (.str "a") (.int .i64 2) .nil)) := by decide +kernel

end SaModel.Props.C01
