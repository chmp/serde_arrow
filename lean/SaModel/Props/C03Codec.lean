import SaModel.Props.C01Obs
import SaModel.Props.C16
import SaModel.Lemmas.C03Typed
/-
C03 / C01 with the external functions instantiated by the codec models (what the correspondence driver does:
`Driver/Suites/Build.lean`, `extOfAux`; the same record as `Props.C16.codecExt`).

  codecExt_ok              `ExtOK (codecExt …)`: what the C14 string parsers return fits the column's storage — from the
                           range theorems of Props/C14.lean (`timeOfString_exact`, `span_parse_exact`) and the checked
                           conversions of the date / timestamp builders
  C03_wf_codec             `Props.C01.C03_wf'` (the headline: `Spec.WF`, structure AND type equality) without the `ExtOK`
                           hypothesis; remaining: `SchemaOKF`, `PlainF`, `Safe ∨ coveredF`, `SValOK`
  C03_wf_codec_typed       … and with `SValOK` replaced by the typing invariant `SVal.typed` the wire decoder checks
  C01_build_decode_codec   `Props.C01.C01_build_decode'` at the codec models with ITS row hypotheses (`structStreamsAlternate`
                           of every row, all rows `noRaw` OR `narrowRoot`); no `Safe`, no `ExtOK` (the theorem holds for
                           every `Ext`; stated for symmetry).  `C01_build_decode_codec_noRaw`: the special case of rows without raw streams
-/
namespace SaModel.Props.C03
open SaModel SaModel.Build SaModel.Spec
open SaModel.Props.C16 (codecExt codecUnit)

theorem inI64_bounds {v : Int} (h : SaModel.Codec.inI64 v = true) :
    -9223372036854775808 ≤ v ∧ v ≤ 9223372036854775807 := (SaModel.Codec.inI64_iff v).1 h

theorem instantToUnits_inI64 {u : SaModel.Codec.TimeUnit} {t : SaModel.Codec.Instant} {v : Int}
    (h : SaModel.Codec.instantToUnits u t = .ok v) : SaModel.Codec.inI64 v = true := by
  unfold SaModel.Codec.instantToUnits at h
  by_cases hin : SaModel.Codec.inI64 (SaModel.Codec.instantUnitsValue u t) = true
  · rw [if_pos hin] at h; cases h; exact hin
  · rw [if_neg hin] at h; cases u <;> cases h

/-- **`ExtOK` is a theorem for the codec models**: a parsed Date32 is an `i32` (`I::try_from(days)`), a parsed Date64,
timestamp and duration an `i64` (checked products / `C14.span_parse_exact`), a parsed time lies in `[0, 86400·unit)`
(`C14.timeOfString_exact`).  No hypothesis on the float tables / the decimal float product (they do not feed temporal
columns). -/
theorem codecExt_ok (f32Str f64Str : Nat → String) (cast : Nat → Int → Bool → Nat → Option (Bool × Int)) :
    Lemmas.C03.ExtOK (codecExt f32Str f64Str cast) where
  date32 := fun s v h => by
    obtain ⟨days, _, hr, _, rfl⟩ := SaModel.Props.C14.dateOfString_inv (ty := .date32) h
    simpa [SaModel.Codec.DateTy.factor] using (SaModel.Codec.inI32_iff days).1 hr
  date64 := fun s v h => by
    obtain ⟨_, _, _, hi, _⟩ := SaModel.Props.C14.dateOfString_inv (ty := .date64) h
    exact inI64_bounds hi
  time := by
    intro u s v h
    simp only [codecExt] at h
    obtain ⟨secs, nanos, _, _, _, _, h0, h1⟩ := SaModel.Props.C14.timeOfString_exact _ _ _ _ h
    cases u <;> simp only [codecUnit, SaModel.Codec.TimeUnit.perSec] at h1 <;> omega
  timestamp := by
    intro u utc s v h
    simp only [codecExt, SaModel.Codec.timestampOfString] at h
    cases utc <;> exact inI64_bounds (by
      obtain ⟨t, _, ht⟩ := R.bind_ok_inv h
      exact instantToUnits_inI64 ht)
  duration := by
    intro u s v h
    obtain ⟨sp, hp, h⟩ := R.bind_ok_inv (show (SaModel.Codec.parseSpan s.toList >>= _) = .ok v from h)
    exact inI64_bounds (SaModel.Props.C14.span_parse_exact _ sp _ v hp h).2.2.2

/-- **C03 with the codec models plugged in**: no hypothesis on the external functions is left.  Remaining: `SchemaOKF`
(no `FixedSizeBinary(0)`: known finding), `PlainF` (no metadata on a Map's entries field: known finding), `Safe` OR `coveredF`
(the hypothesis of `Props.C01.C03_wf'`: both decidable on the schema), and `SValOK` (the typing invariant of `SVal`).
Conclusion: `Spec.WF` (structure AND `typeOf a = f.dataType`). -/
theorem C03_wf_codec (f32Str f64Str : Nat → String) (cast : Nat → Int → Bool → Nat → Option (Bool × Int))
    (fields : List Field) (rows : List SVal) (arrs : List Arr)
    (hschema : ∀ f ∈ fields, Lemmas.C03.SchemaOKF f)
    (hplain : ∀ f ∈ fields, Lemmas.C03.PlainF f)
    (hsafe : (∀ root0, newRoot fields = .ok root0 → Safe root0) ∨ fields.all Build.coveredF = true)
    (hrows : ∀ x ∈ rows, Lemmas.C03.SValOK x)
    (h : toMarrow (codecExt f32Str f64Str cast) fields rows = .ok arrs) :
    arrs.length = fields.length ∧
    ∀ (j : Nat) (f : Field) (a : Arr), fields[j]? = some f → arrs[j]? = some a →
      WF f a = true ∧ (decodeAll a).length = rows.length :=
  Props.C01.C03_wf' _ fields rows arrs hschema hplain hsafe (codecExt_ok f32Str f64Str cast) hrows h

/-- `SValOK`, the row hypothesis of `C03_wfS` / `C03_wfS'` / `C03_wf'`, is implied by the typing invariant of `SVal` (`SVal.typed`,
Data/SValTyped.lean: every scalar call carries a value of its Rust type).  The wire decoder of the driver checks it
(`Driver.svalOfJson_typed`), a derived `Serialize` satisfies it (`Roundtrip.ser_ok` gives `SValOK` directly). -/
theorem typed_SValOK (x : SVal) (h : x.typed = true) : Lemmas.C03.SValOK x := Lemmas.C03.typed_SValOK x h

/-- **C03 as the correspondence driver instantiates it**: codec models for the external functions, rows that passed the
typing check of the wire decoder.  What remains are the schema exclusions (`SchemaOKF`: no `FixedSizeBinary(0)`, known
finding; `PlainF`: no metadata on a Map's entries field, known finding; `Safe` OR `coveredF`).  Conclusion: `Spec.WF`. -/
theorem C03_wf_codec_typed (f32Str f64Str : Nat → String) (cast : Nat → Int → Bool → Nat → Option (Bool × Int))
    (fields : List Field) (rows : List SVal) (arrs : List Arr)
    (hschema : ∀ f ∈ fields, Lemmas.C03.SchemaOKF f)
    (hplain : ∀ f ∈ fields, Lemmas.C03.PlainF f)
    (hsafe : (∀ root0, newRoot fields = .ok root0 → Safe root0) ∨ fields.all Build.coveredF = true)
    (hrows : ∀ x ∈ rows, x.typed = true)
    (h : toMarrow (codecExt f32Str f64Str cast) fields rows = .ok arrs) :
    arrs.length = fields.length ∧
    ∀ (j : Nat) (f : Field) (a : Arr), fields[j]? = some f → arrs[j]? = some a →
      WF f a = true ∧ (decodeAll a).length = rows.length :=
  C03_wf_codec f32Str f64Str cast fields rows arrs hschema hplain hsafe (fun x hx => typed_SValOK x (hrows x hx)) h

/-- non-vacuity of the typing invariant, and what it refuses -/
example : SVal.typed (.record "R" (.cons "a" 0 (.int .u8 255) (.cons "c" 1 (.char 0x1F600) .nil))) = true ∧
    SVal.typed (.int .u8 256) = false ∧ SVal.typed (.char 0xD800) = false ∧ SVal.typed (.f32 4294967296) = false := by
  decide

/-- **C01 with the codec models plugged in**, no `Safe` (`C01_build_decode'` holds for every `Ext`; this is its instance at the
record the driver uses).  Row hypotheses exactly those of `C01_build_decode'`: every row's raw key / value call streams
alternate, and either no row has a raw stream or the schema is within the sentinel bound `narrowRoot`. -/
theorem C01_build_decode_codec (f32Str f64Str : Nat → String) (cast : Nat → Int → Bool → Nat → Option (Bool × Int))
    (fields : List Field) (rows : List SVal) (arrs : List Arr)
    (hschema : ∀ f ∈ fields, Lemmas.C03.SchemaOKF f)
    (hcov : fields.all Build.coveredF = true)
    (hraw : ∀ x ∈ rows, Build.structStreamsAlternate x = true)
    (hnar : (∀ x ∈ rows, Build.noRaw x = true) ∨ Build.narrowRoot fields = true)
    (h : toMarrow (codecExt f32Str f64Str cast) fields rows = .ok arrs) :
    arrs.length = fields.length ∧
    ∃ cols : List (String × List LVal),
      arrs.map decodeAll = cols.map (fun c => c.2.map .ok) ∧
      cols.map (·.1) = fields.map (·.name) ∧
      (∀ c ∈ cols, c.2.length = rows.length) ∧
      ∀ (i : Nat) (hi : i < rows.length),
        interpRow (codecExt f32Str f64Str cast) fields rows[i] =
          .ok (.struct (LFields.ofList (cols.map fun c => (c.1, c.2.getD i .null)))) :=
  Props.C01.C01_build_decode' _ fields rows arrs hschema hcov hraw hnar h

/-- the special case of rows without raw key / value streams -/
theorem C01_build_decode_codec_noRaw (f32Str f64Str : Nat → String) (cast : Nat → Int → Bool → Nat → Option (Bool × Int))
    (fields : List Field) (rows : List SVal) (arrs : List Arr)
    (hschema : ∀ f ∈ fields, Lemmas.C03.SchemaOKF f)
    (hcov : fields.all Build.coveredF = true)
    (hraw : ∀ x ∈ rows, Build.noRaw x = true)
    (h : toMarrow (codecExt f32Str f64Str cast) fields rows = .ok arrs) :
    arrs.length = fields.length ∧
    ∃ cols : List (String × List LVal),
      arrs.map decodeAll = cols.map (fun c => c.2.map .ok) ∧
      cols.map (·.1) = fields.map (·.name) ∧
      (∀ c ∈ cols, c.2.length = rows.length) ∧
      ∀ (i : Nat) (hi : i < rows.length),
        interpRow (codecExt f32Str f64Str cast) fields rows[i] =
          .ok (.struct (LFields.ofList (cols.map fun c => (c.1, c.2.getD i .null)))) :=
  C01_build_decode_codec f32Str f64Str cast fields rows arrs hschema hcov (fun x hx => Build.noRaw_ssa x (hraw x hx))
    (Or.inl hraw) h

/-! ### non-vacuity: temporal strings through the codec models -/

def exExt : Ext := codecExt (fun _ => "") (fun _ => "") (fun _ _ _ _ => none)

/-- the parsers of the instance do return values (so `ExtOK` is not vacuous): a date, a pre-epoch timestamp, a time, a span -/
example : exExt.parseDate false "1970-01-11" = .ok 10 ∧ exExt.parseDate true "1969-12-31" = .ok (-86400000) ∧
    exExt.parseTimestamp .millisecond true "1969-12-31T23:59:59.5Z" = .ok (-500) ∧
    exExt.parseTime .microsecond "00:00:01.5" = .ok 1500000 ∧ exExt.parseDuration .second "PT1M" = .ok 60 := by
  decide +kernel

def exTFields : List Field := [.mk "d" .date32 false [], .mk "t" (.timestamp .millisecond (some "UTC")) true []]
def exTRows : List SVal :=
  [.record "R" (.cons "d" 0 (.str "1970-01-11") (.cons "t" 1 (.str "1969-12-31T23:59:59.5Z") .nil)),
   .record "R" (.cons "d" 0 (.str "2024-02-29") (.cons "t" 1 .none .nil))]

theorem exTOk : (toMarrow exExt exTFields exTRows).isOk = true := by decide +kernel

/-- `C03_wf_codec` on a run that parses date and timestamp strings: every hypothesis discharged -/
example : ∀ arrs, toMarrow exExt exTFields exTRows = .ok arrs →
    arrs.length = exTFields.length ∧ ∀ (j : Nat) (f : Field) (a : Arr), exTFields[j]? = some f →
      arrs[j]? = some a → WF f a = true ∧ (decodeAll a).length = exTRows.length := by
  intro arrs h
  refine C03_wf_codec _ _ _ exTFields exTRows arrs ?_ ?_ (Or.inl ?_) ?_ h
  · simp [exTFields, Lemmas.C03.SchemaOKF, Lemmas.C03.SchemaOK]
  · simp [exTFields, Lemmas.C03.PlainF, Lemmas.C03.PlainDT]
  · exact safe_of_schema _ (by decide) (by decide)
  · simp [exTRows, Lemmas.C03.SValOK, Lemmas.C03.SFieldsOK]

/-- `C01_build_decode_codec` on a row outside `noRaw`: the record of `exTFields` presented as an
ALTERNATING raw `SerializeMap` call stream (key, value, key, value) — accepted, every hypothesis discharged -/
def exTRawRows : List SVal :=
  [.mapRaw (.key (.str "d") (.value (.str "1970-01-11") (.key (.str "t") (.value .none .nil))))]

example : (∀ x ∈ exTRawRows, Build.noRaw x = false) ∧ (toMarrow exExt exTFields exTRawRows).isOk = true ∧
    ∀ arrs, toMarrow exExt exTFields exTRawRows = .ok arrs → arrs.length = exTFields.length ∧
      ∃ cols : List (String × List LVal), arrs.map decodeAll = cols.map (fun c => c.2.map .ok) ∧
        cols.map (·.1) = exTFields.map (·.name) := by
  refine ⟨by decide, by decide +kernel, ?_⟩
  intro arrs h
  obtain ⟨hl, cols, h1, h2, _⟩ := C01_build_decode_codec _ _ _ exTFields exTRawRows arrs
    (by simp [exTFields, Lemmas.C03.SchemaOKF, Lemmas.C03.SchemaOK]) (by decide) (by decide) (Or.inr (by decide)) h
  exact ⟨hl, cols, h1, h2⟩

end SaModel.Props.C03
