import SaModel.Lemmas.ReadBasic
import SaModel.Lemmas.C17Range
/-
C17 / C16: the reader model's access primitives, one theorem per primitive — the theorems the reader-side `model:` classes
of the site inventory (`translator/arith_sites.json`) point to, so that the link check of `Props/C16Links.lean` can demand
that the theorem NAMES the definition in its statement (`read_no_panic` / `readAs_no_panic` speak about the whole reader;
the definition is only reachable from their statements).

Two families, both over arbitrary buffers, offsets, bitmaps and indices:

* `<prim>_no_panic` — the `panic` branches of the primitive (`offsets[idx + 1]`, `data[start..end]`, `data.len() % 0`,
  `idx + offset` / `idx * n` overflowing) are unreachable with every fix applied.  For `fsbGet` the guard is the one the
  Rust code relies on: the `(n, len)` pair was computed by `FixedSizeBinaryDeserializer::new` (`fsbNew`).
* `<prim>_guard_first` — the bounds guard DOMINATES every successful outcome, `Ok(None)` included: a primitive never answers
  (not even "null") for a slot beyond the buffer that holds the values / offsets / descriptors.  These hold for every
  `fx` (pinned readers too) except `bytesGet`, whose pinned guard was off by one (finding #20).  A reader that consults the
  validity bitmap BEFORE the bounds check (seeded regression c17g: `PrimitiveView::get`) violates `primGet_guard_first`
  (example at the end).
-/
namespace SaModel.Props.C17
open SaModel SaModel.Read

/-! ### the panic branches are unreachable -/

/-- `get_bit_buffer`: `idx.checked_add(offset)` / `data.get(pos / 8)` — an error, never an unwind -/
theorem getBitBuffer_no_panic (b : Bits) (idx : Nat) : NoPanic (getBitBuffer Fixes.all b idx) :=
  noPanic_getBitBuffer b idx

/-- `PrimitiveView::get` -/
theorem primGet_no_panic (v : Option Bits) (vals : List Int) (idx : Nat) : NoPanic (primGet Fixes.all v vals idx) :=
  noPanic_primGet v vals idx

/-- `BoolDeserializer::get` -/
theorem boolGet_no_panic (len : Nat) (v : Option Bits) (vals : Bits) (idx : Nat) :
    NoPanic (boolGet Fixes.all len v vals idx) := noPanic_boolGet len v vals idx

/-- `BytesView::get`: the sites `self.offsets[idx]`, `self.offsets[idx + 1]` (guard `idx + 1 >= self.offsets.len()` ⇒ fail)
and `data[start..end]` (`data.get(start..end)`) -/
theorem bytesGet_no_panic (v : Option Bits) (offs : List Int) (data : Bytes) (idx : Nat) :
    NoPanic (bytesGet Fixes.all v offs data idx) := noPanic_bytesGet v offs data idx

/-- `BytesViewView::get` -/
theorem viewGet_no_panic (v : Option Bits) (views : List Nat) (buffers : List Bytes) (idx : Nat) :
    NoPanic (viewGet Fixes.all v views buffers idx) := noPanic_viewGet v views buffers idx

/-- `FixedSizeBinaryDeserializer::new`: `data.len() % n` with `n = 0` -/
theorem fsbNew_no_panic (n : Int) (data : Bytes) : NoPanic (fsbNew Fixes.all n data) := noPanic_fsbNew n data

/-- `FixedSizeBinaryDeserializer::get`: the sites `idx * self.n`, `(idx + 1) * self.n`, `data[start..end]` under the guard
`idx >= self.len` ⇒ fail, where `(n, len)` is what `new` computed from THIS data buffer -/
theorem fsbGet_no_panic {n : Int} {data : Bytes} {n' len : Nat} (hnew : fsbNew Fixes.all n data = .ok (n', len))
    (v : Option Bits) (idx : Nat) : NoPanic (fsbGet Fixes.all n' len v data idx) :=
  noPanic_fsbGet v data idx (fsbNew_ok hnew)

/-- `ListDeserializer::get` / `MapDeserializer::deserialize_map`: the sites `self.offsets[idx]`, `self.offsets[idx + 1]`
(guard `idx + 1 >= self.offsets.len()` ⇒ fail) -/
theorem listRange_no_panic (offs : List Int) (idx : Nat) : NoPanic (listRange Fixes.all offs idx) :=
  noPanic_listRange offs idx

/-- `FixedSizeListDeserializer::deserialize_seq`: `idx + 1` under `idx >= self.len` ⇒ fail, the product is `checked_mul` -/
theorem fslRange_no_panic (len : Nat) (n : Int) (idx : Nat) : NoPanic (fslRange Fixes.all len n idx) :=
  noPanic_fslRange len n idx

/-! ### the bounds guard dominates every successful outcome -/

/-- `PrimitiveView::get` answers — a value OR `None` — only below the length of the value buffer, whatever the bitmap says -/
theorem primGet_guard_first {fx : Fixes} {v : Option Bits} {vals : List Int} {idx : Nat} {r : Option Int}
    (h : primGet fx v vals idx = .ok r) : idx < vals.length := primGet_ok_lt h

theorem boolGet_guard_first {fx : Fixes} {len : Nat} {v : Option Bits} {vals : Bits} {idx : Nat} {r : Option Bool}
    (h : boolGet fx len v vals idx = .ok r) : idx < len := boolGet_ok_lt h

/-- `BytesView::get` (after fix ba3939f) answers only where BOTH offsets of the slot exist -/
theorem bytesGet_guard_first {v : Option Bits} {offs : List Int} {data : Bytes} {idx : Nat} {r : Option Bytes}
    (h : bytesGet Fixes.all v offs data idx = .ok r) : idx + 1 < offs.length := (bytesGet_ok h).1

theorem viewGet_guard_first {fx : Fixes} {v : Option Bits} {views : List Nat} {buffers : List Bytes} {idx : Nat}
    {r : Option Bytes} (h : viewGet fx v views buffers idx = .ok r) : idx < views.length := viewGet_ok_lt h

theorem fsbGet_guard_first {fx : Fixes} {n len : Nat} {v : Option Bits} {data : Bytes} {idx : Nat} {r : Option Bytes}
    (h : fsbGet fx n len v data idx = .ok r) : idx < len := by
  unfold fsbGet at h
  split at h
  · cases h
  · omega

theorem listRange_guard_first {fx : Fixes} {offs : List Int} {idx : Nat} {r : Nat × Nat}
    (h : listRange fx offs idx = .ok r) : idx + 1 < offs.length := by
  unfold listRange at h
  split at h
  · cases h
  · omega

theorem fslRange_guard_first {fx : Fixes} {len : Nat} {n : Int} {idx : Nat} {r : Nat × Nat}
    (h : fslRange fx len n idx = .ok r) : idx < len := by
  unfold fslRange at h
  split at h
  · cases h
  · omega

/-! ### non-vacuity -/

/-- the primitives do answer inside their ranges … -/
example : primGet Fixes.all (some ⟨[0b10], 0⟩) [7, 8] 1 = .ok (some 8)
    ∧ primGet Fixes.all (some ⟨[0b10], 0⟩) [7, 8] 0 = .ok none
    ∧ bytesGet Fixes.all none [0, 1, 3] [10, 11, 12] 1 = .ok (some [11, 12])
    ∧ listRange Fixes.all [0, 1, 3] 1 = .ok (1, 3)
    ∧ fsbNew Fixes.all 2 [1, 2, 3, 4] = .ok (2, 2)
    ∧ fsbGet Fixes.all 2 2 none [1, 2, 3, 4] 1 = .ok (some [3, 4]) := ⟨rfl, rfl, rfl, rfl, rfl, rfl⟩

/-- … and beyond them the answer is an error even where the (padded) bitmap says "null" -/
example : primGet Fixes.all (some ⟨[0b01], 0⟩) [7] 1 = fail "Access beyond array length"
    ∧ bytesGet Fixes.all (some ⟨[0b01], 0⟩) [0, 1] [10] 1 = fail "Invalid access: tried to get element of array" := ⟨rfl, rfl⟩

/-- the order of the two tests of `PrimitiveView::get` matters (seeded regression c17g: validity first, bounds check
afterwards): that reader answers `None` from bitmap padding for a slot the value buffer does not have, which
`primGet_guard_first` excludes for the model of the code as it is -/
private def primGetValidityFirst (fx : Fixes) (v : Option Bits) (vals : List Int) (idx : Nat) : R (Option Int) := do
  if (← validityIsSet fx v idx) then
    match vals[idx]? with
    | none => fail "Access beyond array length"
    | some x => pure (some x)
  else pure none

example : primGetValidityFirst Fixes.all (some ⟨[0b01], 0⟩) [7] 1 = .ok none
    ∧ ¬ (1 < [7].length) := ⟨rfl, by decide⟩

/-- without the guard of `fsbGet_no_panic` (a `(n, len)` pair that does not come from `new` on this buffer) the slice site
is reached: the hypothesis is not superfluous -/
example : fsbGet Fixes.all 2 3 none [1, 2, 3, 4] 2 = panic "FixedSizeBinaryDeserializer::get: data[start..end]" := rfl

end SaModel.Props.C17
