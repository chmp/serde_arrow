import SaModel.Props.SiteLinkCheck
import SaModel.Generated.ArithSites
import SaModel.Props.C14
import SaModel.Props.C15
import SaModel.Props.C16
import SaModel.Props.C17
import SaModel.Props.C17Sites
import SaModel.Props.C16View
/-
C16 / C17, obligation `gen_arith_site_links`: the `model:<definition>@<theorem>` classes of the site inventory
(`translator/arith_sites.json`) are CHECKED references into the built Lean environment, not names read by a human.

`translator/arith_sites.py render_links` writes the references (from the json only — no rewrite of the crate can change
them) to `Generated/ArithSiteLinks.lean`; the command `#check_site_links` below runs while THIS file is elaborated, in an
environment that holds every theorem module the references point into, and fails the build — naming the reference and the
sites that carry it — unless for every row

1. `<definition>` resolves to exactly one definition of the model (a constant under `SaModel`, outside `SaModel.Props` /
   `Lemmas` / `Generated` / `Wording`, whose name ends in the given components);
2. `<theorem>` resolves to exactly one theorem under `SaModel.Props`;
3. the theorem is ABOUT the definition: the definition is reachable from the constants of the theorem's STATEMENT by
   unfolding definitions of the model (the statement names a function whose body, transitively, calls the definition or
   sits in one mutual block with it; proofs are never looked at) — for a row with a site in the readers (`reader = true`)
   the statement has to name the definition itself (the per-primitive theorems of `Props/C17Sites.lean`), and the
   definition has to be reachable from the statements of C17's hypothesis-free headline theorems `new_no_panic`,
   `read_no_panic`, `readAs_no_panic` (it is part of the reader those cover);
4. where a site of the row unwinds by itself (index / slice / unwrap / panicking macro: `unwinds = true`) the definition
   contains an explicit `panic` branch (`SaModel.panic` / `Fail.panic` occurs in its own body, matchers and recursion
   helpers included).

A deleted or renamed theorem or definition, a theorem that no longer speaks about the definition, or a model definition
that lost its panic branch breaks `lake build SaModel.Props.C16Links`, which `./check C16` / `./check C17` report as
`VIOLATION … no-failing-input-found` (obligation `lake build`; the message of the failed command is in the replay file).

What this does NOT show: that the Rust site IS the panic branch of that definition (that stays the modeller's claim, tied by
the correspondence suites), and nothing about the `range:` classes.
-/
namespace SaModel.Props.C16Links
open SaModel.Generated

#check_site_links all

/-- the references cover exactly the `model` sites of the inventory, and every reference has a site -/
theorem gen_arith_site_links_counted :
    ArithSiteLinks.linkedSiteCount = (ArithSites.siteClasses.lookup "model").getD 0
    ∧ (ArithSiteLinks.links.map (·.2.2.2.2.length)).sum = ArithSiteLinks.linkedSiteCount
    ∧ ArithSiteLinks.links.all (fun l => l.2.2.2.2.length > 0) = true := by decide +kernel

/-- non-vacuity: there are references, some on the reader side -/
example : 20 ≤ ArithSiteLinks.links.length ∧ (ArithSiteLinks.links.filter (·.2.2.1)).length ≥ 5 := by decide +kernel

end SaModel.Props.C16Links
