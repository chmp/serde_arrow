import SaModel.Props.C12
import SaModel.Read.Annot
import SaModel.Lemmas.C12AnnTyped
/-
C12, annotated reads — the ANNOTATED readers (`Read.readAnyA` / `Read.readAsA`, the model of C18: every typed entry point
of every reader is `try_(…).ctx(self)`) on a slice.  The annotation a reader writes is `rann p a = [("data_type", label),
("field", path)]`: no row index, and neither the label nor the path is touched by `slice`.  So the statements are exact
equalities of outcomes: the same value, the same unwind, the same `Err` WITH THE SAME ANNOTATIONS.
Property theorems only (helpers: SaModel/Lemmas/C12Ann*.lean; the recursion over the target, `slicePA_all`, is in Props/C12.lean).
-/
namespace SaModel.Props.C12
open SaModel SaModel.Read SaModel.Spec SaModel.Lemmas.C12

/-- `slice` does not change what a reader annotates (its path and `data_type`) -/
theorem rann_slice (p : String) (a : Arr) (o l : Nat) : rann p (sliceView a o l) = rann p a :=
  Lemmas.C12.rann_slice p a o l

/-- C12 for the ANNOTATED typed reads: for every target `t`, every path `p` the reader was built at and both
states of the two C18 `fix:` commits (`af`), reading slot `i` of the slice has the same outcome as reading slot `o + i`
of the whole array — the same value, the same unwind, the same `Err` with the SAME annotations (`data_type`, `field`). -/
theorem readAsA_slice (af : AnnFixes) (p : String) (t : Target) (a : Arr) (o l i : Nat) (hi : i < l) (h : o + l ≤ lenOf a)
    (hs : sliceable a = true) (hn : new Fixes.all a = .ok ()) (hp : physical a = true) :
    readAsA af Fixes.all p t (sliceView a o l) i = readAsA af Fixes.all p t a (o + i) :=
  slicePA_all af Fixes.all t p a o l i hi ⟨h, hs, hn, hp⟩

/-- the same for any combination of the reader `fix:` commits, in particular the pinned tree -/
theorem readAsA_slice_fx (af : AnnFixes) (fx : Fixes) (p : String) (t : Target) (a : Arr) (o l i : Nat) (hi : i < l)
    (h : o + l ≤ lenOf a) (hs : sliceable a = true) (hn : new fx a = .ok ()) (hp : physical a = true) :
    readAsA af fx p t (sliceView a o l) i = readAsA af fx p t a (o + i) :=
  slicePA_all af fx t p a o l i hi ⟨h, hs, hn, hp⟩

/-- annotated `deserialize_any` (the trait default wrapped in `.ctx(self)`, recursively) -/
theorem readAnyA_slice (p : String) (a : Arr) (o l i : Nat) (hi : i < l) (h : o + l ≤ lenOf a)
    (hs : sliceable a = true) (hn : new Fixes.all a = .ok ()) (hp : physical a = true) :
    readAnyA Fixes.all p (sliceView a o l) i = readAnyA Fixes.all p a (o + i) :=
  Lemmas.C12.readAnyA_slice Fixes.all p a o l i hi ⟨h, hs, hn, hp⟩

theorem readAnyA_slice_fx (fx : Fixes) (p : String) (a : Arr) (o l i : Nat) (hi : i < l) (h : o + l ≤ lenOf a)
    (hs : sliceable a = true) (hn : new fx a = .ok ()) (hp : physical a = true) :
    readAnyA fx p (sliceView a o l) i = readAnyA fx p a (o + i) :=
  Lemmas.C12.readAnyA_slice fx p a o l i hi ⟨h, hs, hn, hp⟩

/-- slices of slices: the hypotheses need only hold of the original array -/
theorem readAsA_slice_slice (af : AnnFixes) (p : String) (t : Target) (a : Arr) (o1 l1 o2 l2 i : Nat) (hi : i < l2)
    (h2 : o2 + l2 ≤ l1) (h1 : o1 + l1 ≤ lenOf a) (hs : sliceable a = true) (hn : new Fixes.all a = .ok ())
    (hp : physical a = true) :
    readAsA af Fixes.all p t (sliceView (sliceView a o1 l1) o2 l2) i = readAsA af Fixes.all p t a (o1 + o2 + i) := by
  rw [sliceView_sliceView a o1 l1 o2 l2 h2, readAsA_slice af p t a (o1 + o2) l2 i hi (by omega) hs hn hp]

/-- the whole-slice `SeqAccess` loop -/
theorem readRangeA_slice (af : AnnFixes) (p : String) (t : Target) (a : Arr) (o l : Nat) (h : o + l ≤ lenOf a)
    (hs : sliceable a = true) (hn : new Fixes.all a = .ok ()) (hp : physical a = true) :
    readRange (readAsA af Fixes.all p t (sliceView a o l)) 0 l = readRange (readAsA af Fixes.all p t a) o l := by
  apply readRange_congr
  intro j hj
  rw [Nat.zero_add]
  exact readAsA_slice af p t a o l j hj h hs hn hp

/-! ### record batches -/

/-- one record of a sliced batch, read by the annotated root reader (built at any path `p`; `Deserializer::new` uses `$`) -/
theorem batch_readAsA_slice_item (af : AnnFixes) (p : String) (t : Target) (cols : ArrFields) (len o l i : Nat)
    (hctor : Access.new true cols.length (colLens cols) = .ok len)
    (hi : i < l) (h : o + l ≤ len) (hs : sliceableCols cols = true)
    (hn : newFields Fixes.all cols = .ok ()) (hp : physicalFields cols = true) :
    readAsA af Fixes.all p t (batch l (sliceFields cols o l)) i = readAsA af Fixes.all p t (batch len cols) (o + i) :=
  readAsA_slice af p t (batch len cols) o l i hi h (batch_ctor_slice cols len o l hctor h hs hn).2 hn hp

/-- the bulk form, under the hypotheses of `batch_readAs_slice`: reading ALL records of the sliced batch with the
annotated readers is reading records `[o, o + l)` of the whole batch — the same values or the same first failure with
the same annotations; and when the whole batch reads as `xs`, the sliced batch reads as the window of `xs` -/
theorem batch_readAsA_slice (af : AnnFixes) (p : String) (t : Target) (cols : ArrFields) (len o l : Nat)
    (hctor : Access.new true cols.length (colLens cols) = .ok len)
    (h : o + l ≤ len) (hs : sliceableCols cols = true)
    (hn : newFields Fixes.all cols = .ok ()) (hp : physicalFields cols = true) :
    Access.new true (sliceFields cols o l).length (colLens (sliceFields cols o l)) = .ok l ∧
    (Access.bulk l).mapM (readAsA af Fixes.all p t (batch l (sliceFields cols o l)))
      = (window (Access.bulk len) o l).mapM (readAsA af Fixes.all p t (batch len cols)) ∧
    (∀ xs, (Access.bulk len).mapM (readAsA af Fixes.all p t (batch len cols)) = .ok xs →
      (Access.bulk l).mapM (readAsA af Fixes.all p t (batch l (sliceFields cols o l))) = .ok (window xs o l)) := by
  obtain ⟨hc, hsf⟩ := batch_ctor_slice cols len o l hctor h hs hn
  exact ⟨hc, bulk_window h fun j hj => readAsA_slice af p t (batch len cols) o l j hj h hsf hn hp⟩

/-- the instance `Deserializer::new` builds: the root reader sits at `$` -/
theorem batch_readAsA_slice_root (af : AnnFixes) (t : Target) (cols : ArrFields) (len o l : Nat)
    (hctor : Access.new true cols.length (colLens cols) = .ok len)
    (h : o + l ≤ len) (hs : sliceableCols cols = true)
    (hn : newFields Fixes.all cols = .ok ()) (hp : physicalFields cols = true) :
    (Access.bulk l).mapM (readAsA af Fixes.all "$" t (batch l (sliceFields cols o l)))
      = (window (Access.bulk len) o l).mapM (readAsA af Fixes.all "$" t (batch len cols)) :=
  (batch_readAsA_slice af "$" t cols len o l hctor h hs hn hp).2.1

/-- the one-column record reader the `readann` / `slice` suites drive (`readRecordA`: `Deserializer::from_marrow(&[field],
&[view])`, `get(idx)`, `T::deserialize`): the record reader over the sliced column hands out record `i < l` exactly when
the one over the whole column hands out record `o + i`, with the same annotated outcome -/
theorem readRecordA_slice (af : AnnFixes) (t : Target) (fm : FieldMeta) (col : Arr) (o l i : Nat) (hi : i < l)
    (h : o + l ≤ lenOf col) (hs : sliceable col = true) (hm : strategyOk fm.metadata = .ok ())
    (hn : new Fixes.all col = .ok ()) (hp : physical col = true) :
    readRecordA af Fixes.all t fm (sliceView col o l) i = readRecordA af Fixes.all t fm col (o + i) := by
  have hv : vlen col = lenOf col := Read.vlen_eq_lenOf Fixes.all col hn
  have hvs : vlen (sliceView col o l) = l := by
    rw [Read.vlen_eq_lenOf Fixes.all _ (new_slice col o l h hs hn), lenOf_slice col o l h]
  have c1 : ¬ i ≥ l := by omega
  have c2 : ¬ o + i ≥ lenOf col := by omega
  have hr : new Fixes.all (record fm col) = .ok () := by
    simp only [record, new, newFields, hm, hn, bind, Except.bind]
  have hsr : sliceable (record fm col) = true := by
    simp only [record, sliceable, sliceableFields, hv, hs, Nat.le_refl, decide_true, Bool.and_self]
  have hpr : physical (record fm col) = true := by
    simp only [record, physical, physicalFields, hp, Bool.and_self]
  have hlr : o + l ≤ lenOf (record fm col) := by simp only [record, lenOf, hv]; exact h
  simp only [readRecordA, hvs, hv, c1, c2, if_false, record_slice fm col o l h hs hn,
    readAsA_slice af "$" t (record fm col) o l i hi hlr hsr hr hpr]

/-! ### non-vacuity -/

/-- `fslExample` / `fslStrict` of Props/C12.lean (`Vec<S>`, `struct S { x: i8, y: Vec<bool> }` over FixedSizeList(2) of
nullable Struct): row 1 holds a null `x`.  The annotated read fails with the annotations of the INNERMOST reader, the
Int8 reader at `$.element.x` — and the read of row 0 of the slice (1, 3) fails with exactly these annotations. -/
example :
    readAsA AnnFixes.all Fixes.all "$" fslStrict fslExample (1 + 0)
      = .error (.errCtx "Required value was not defined" [("data_type", "Int8"), ("field", "$.element.x")]) ∧
    readAsA AnnFixes.all Fixes.all "$" fslStrict (sliceView fslExample 1 3) 0
      = .error (.errCtx "Required value was not defined" [("data_type", "Int8"), ("field", "$.element.x")]) ∧
    (readAsA AnnFixes.all Fixes.all "$" fslStrict fslExample 0).isOk = true := by
  have e : readAsA AnnFixes.all Fixes.all "$" fslStrict fslExample (1 + 0)
      = .error (.errCtx "Required value was not defined" [("data_type", "Int8"), ("field", "$.element.x")]) := by decide +kernel
  refine ⟨e, ?_, by decide +kernel⟩
  rw [readAsA_slice AnnFixes.all "$" fslStrict fslExample 1 3 0 (by decide +kernel) (by decide +kernel) (by decide +kernel) (by decide +kernel) (by decide +kernel)]
  exact e

/-- the same on the pinned tree of the two C18 fixes (no `.ctx` on FixedSizeList / Enum) and along a chain of slices -/
example :
    readAsA AnnFixes.pinned Fixes.all "$" fslStrict (sliceView (sliceView fslExample 0 4) 1 3) 0
      = readAsA AnnFixes.pinned Fixes.all "$" fslStrict fslExample (0 + 1 + 0) ∧
    (readAsA AnnFixes.pinned Fixes.all "$" fslStrict fslExample (0 + 1 + 0)).ann
      = [("data_type", "Int8"), ("field", "$.element.x")] :=
  ⟨readAsA_slice_slice AnnFixes.pinned "$" fslStrict fslExample 0 4 1 3 0 (by decide +kernel) (by decide +kernel) (by decide +kernel) (by decide +kernel)
    (by decide +kernel) (by decide +kernel), by decide +kernel⟩

/-- annotated `deserialize_any` on the same example (a successful read) -/
example : readAnyA Fixes.all "$" (sliceView fslExample 1 3) 2 = readAnyA Fixes.all "$" fslExample (1 + 2) ∧
    (readAnyA Fixes.all "$" fslExample (1 + 2)).isOk = true :=
  ⟨readAnyA_slice "$" fslExample 1 3 2 (by decide +kernel) (by decide +kernel) (by decide +kernel) (by decide +kernel) (by decide +kernel), by decide +kernel⟩

/-- a nullable Map<Utf8, Int32> column of 4 rows (row 2 null); the entries' values are 1 | 2, 300 | – | 4 -/
def mapExample : Arr :=
  .map (some ⟨[0b1011], 0⟩) [0, 1, 3, 3, 4] ⟨"entries", false, ⟨"key", false, []⟩, ⟨"value", true, []⟩⟩
    (.bytes .utf8 none [0, 1, 2, 3, 4] [97, 98, 99, 100])
    (.prim .int32 (some ⟨[0b1111], 0⟩) [1, 2, 300, 4])

/-- `HashMap<String, i8>` -/
def mapTarget : Target := .map .string (.int .i8)

/-- a Map column (children NOT sliced) at offset 1: the second entry of row 1 holds the value 300, which does not fit
`i8`; the failure is annotated by the values reader (`$.entries.value`, Int32) — identically on the slice (1, 2) at row 0.
Rows 0 and 3 of the column read successfully. -/
example :
    readAsA AnnFixes.all Fixes.all "$" mapTarget mapExample (1 + 0)
      = .error (.errCtx "out of range integral type conversion attempted"
          [("data_type", "Int32"), ("field", "$.entries.value")]) ∧
    readAsA AnnFixes.all Fixes.all "$" mapTarget (sliceView mapExample 1 2) 0
      = .error (.errCtx "out of range integral type conversion attempted"
          [("data_type", "Int32"), ("field", "$.entries.value")]) ∧
    (readAsA AnnFixes.all Fixes.all "$" mapTarget mapExample 0).isOk = true ∧
    (readAsA AnnFixes.all Fixes.all "$" mapTarget mapExample 3).isOk = true := by
  have e : readAsA AnnFixes.all Fixes.all "$" mapTarget mapExample (1 + 0)
      = .error (.errCtx "out of range integral type conversion attempted"
          [("data_type", "Int32"), ("field", "$.entries.value")]) := by decide +kernel
  refine ⟨e, ?_, by decide +kernel, by decide +kernel⟩
  rw [readAsA_slice AnnFixes.all "$" mapTarget mapExample 1 2 0 (by decide +kernel) (by decide +kernel) (by decide +kernel) (by decide +kernel) (by decide +kernel)]
  exact e

/-- the record batch of Props/C12.lean read into `struct Rec { s: String, p: Vec<i16> }` (a non-optional `s`): record 1
has a null `s`, so the bulk read of the whole batch and of the window (1, 2) fail alike, annotated by the Utf8 reader at
`$.s`; and the one-column record reader (`readRecordA`) over `mapExample` -/
example :
    (Access.bulk 2).mapM (readAsA AnnFixes.all Fixes.all "$" (.struct (.cons "s" .string (.cons "p" (.seq (.int .i16)) .nil)))
        (batch 2 (sliceFields batchExample 1 2)))
      = (window (Access.bulk 3) 1 2).mapM (readAsA AnnFixes.all Fixes.all "$"
          (.struct (.cons "s" .string (.cons "p" (.seq (.int .i16)) .nil))) (batch 3 batchExample)) ∧
    (window (Access.bulk 3) 1 2).mapM (readAsA AnnFixes.all Fixes.all "$"
          (.struct (.cons "s" .string (.cons "p" (.seq (.int .i16)) .nil))) (batch 3 batchExample))
      = .error (.errCtx "Required value was not defined" [("data_type", "Utf8"), ("field", "$.s")]) ∧
    readRecordA AnnFixes.all Fixes.all (.tuple (.cons mapTarget .nil)) ⟨"m", true, []⟩ (sliceView mapExample 1 2) 0
      = readRecordA AnnFixes.all Fixes.all (.tuple (.cons mapTarget .nil)) ⟨"m", true, []⟩ mapExample (1 + 0) ∧
    readRecordA AnnFixes.all Fixes.all (.tuple (.cons mapTarget .nil)) ⟨"m", true, []⟩ mapExample (1 + 0)
      = some (.error (.errCtx "out of range integral type conversion attempted"
          [("data_type", "Int32"), ("field", "$.m.entries.value")])) :=
  ⟨batch_readAsA_slice_root AnnFixes.all _ batchExample 3 1 2 (by decide +kernel) (by decide +kernel) (by decide +kernel) (by decide +kernel) (by decide +kernel),
   by decide +kernel,
   readRecordA_slice AnnFixes.all _ _ mapExample 1 2 0 (by decide +kernel) (by decide +kernel) (by decide +kernel) (by decide +kernel) (by decide +kernel) (by decide +kernel),
   by decide +kernel⟩

end SaModel.Props.C12
