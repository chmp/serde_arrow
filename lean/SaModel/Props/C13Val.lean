import SaModel.Lemmas.C13Iter
import SaModel.Lemmas.C13Ctor
import SaModel.Lemmas.C13Bulk
import SaModel.Backend.Adapters
import SaModel.Lemmas.C19MapM
/-
C13 — Deserializer random access, iteration and bulk reads agree: the VALUES.
Property theorems only.  Model: SaModel/Read/AccessVal.lean (deserializer.rs with the batch in the state; the item reads are
the reader model `Read.readAs` of C02 / C17), index level: SaModel/Read/Access.lean + Props/C13.lean.

  item_value            every output of every access history (get / iter / next / nth / count / last / size_hint / bulk / all
                        items collected and read in reverse / len / is_empty, several live iterators, a target per operation)
                        is the abstract sequence's: the item an operation yields is `Roundtrip.readRecord t fields arrs i`
                        for the index `i` the call-counting specification assigns — a function of (batch, i, t) only
  spec_erases_to_index  on the operations of the index-level model the symbolic specification is `Access.specRun`
  bulk_eq_map           the bulk read is the list of the item reads; it fails iff an item fails, with the FIRST failing item's error
  get_eq_iter           `get(i)` = the `i`-th item of a fresh iteration = `iter().nth(i)`
  iter_yields_*         no fuel: `n` calls of `next` on any reachable iterator, for every `n`; never more than `len` items
  ctor_order            `Deserializer::new` in the order of the Rust code succeeds iff counts agree, all views have one length and
                        the root reader can be built
  from_arrow_is_new     `from_arrow` / `from_record_batch` / `from_arrow2`: count check, conversions, then `Deserializer::new` —
                        every theorem above applies to what they return;  ctors_refuse_count_mismatch
                        (both for an abstract `Backend.Core` under `hcore : core.deserializerNew = Deser.new`)
-/
namespace SaModel.Props.C13
open SaModel SaModel.Access SaModel.AccessVal SaModel.Lemmas

/-! ### one step of a history -/

theorem relIt_le {len : Nat} {it : Iter} {c : Nat} (h : RelIt len it c) : it.next ≤ it.len := by
  obtain ⟨h1, h2⟩ := h; omega

theorem step_refines_val (d : Deser) (read : Read.Target → Nat → R Read.DVal)
    (hread : ∀ t i, i < d.len → d.item t i = read t i) (s : AccessVal.St) (cs : SpecSt) (op : AccessVal.Op)
    (h : RelL d.len s cs) :
    (AccessVal.step d s op).2 = ((AccessVal.specStep d.len cs op).2).eval read ∧
      RelL d.len (AccessVal.step d s op).1 (AccessVal.specStep d.len cs op).1 := by
  -- an item the specification hands out is read alike by `d.item` and `read`
  have hitem : ∀ t (p : Nat → Prop) [DecidablePred p] (i : Nat), (p i → i < d.len) →
      (if p i then some i else none).map (d.item t) = (if p i then some (t, i) else none).map fun (t, i) => read t i := by
    intro t p _ i hp
    by_cases hi : p i
    · simp only [hi, if_true, Option.map_some, hread t i (hp hi)]
    · simp only [hi, if_false, Option.map_none]
  cases op with
  | len => exact ⟨rfl, h⟩
  | isEmpty => exact ⟨rfl, h⟩
  | get i t =>
    refine ⟨?_, h⟩
    simp only [AccessVal.step, AccessVal.specStep, SymOut.eval, get_eq]
    exact congrArg _ (hitem t (· < d.len) i id)
  | iterNew => exact ⟨rfl, h.append ⟨rfl, by simp [Iter.new]⟩⟩
  | iterNext k t =>
    rcases h.get k with ⟨h1, h2⟩ | ⟨it, c, h1, h2, hr⟩
    · simp only [AccessVal.step, AccessVal.specStep, h1, h2]; exact ⟨rfl, h⟩
    · simp only [AccessVal.step, AccessVal.specStep, h1, h2, SymOut.eval, hr.step.1]
      exact ⟨congrArg _ (hitem t (· < d.len) c id), h.set k hr.step.2⟩
  | iterNth k n t =>
    rcases h.get k with ⟨h1, h2⟩ | ⟨it, c, h1, h2, hr⟩
    · simp only [AccessVal.step, AccessVal.specStep, h1, h2]; exact ⟨rfl, h⟩
    · simp only [AccessVal.step, AccessVal.specStep, h1, h2, SymOut.eval, (hr.nth n).1]
      exact ⟨congrArg _ (hitem t (· < d.len) (c + n) id), h.set k (hr.nth n).2⟩
  | iterCount k =>
    rcases h.get k with ⟨h1, h2⟩ | ⟨it, c, h1, h2, hr⟩
    · simp only [AccessVal.step, AccessVal.specStep, h1, h2]; exact ⟨rfl, h⟩
    · simp only [AccessVal.step, AccessVal.specStep, h1, h2, SymOut.eval, hr.rest.1]
      exact ⟨trivial, h.set k hr.rest.2.2⟩
  | iterLast k t =>
    rcases h.get k with ⟨h1, h2⟩ | ⟨it, c, h1, h2, hr⟩
    · simp only [AccessVal.step, AccessVal.specStep, h1, h2]; exact ⟨rfl, h⟩
    · simp only [AccessVal.step, AccessVal.specStep, h1, h2, SymOut.eval, hr.rest.2.1]
      exact ⟨congrArg _ (hitem t (fun _ => c < d.len) (d.len - 1) (by omega)), h.set k hr.rest.2.2⟩
  | iterHint k =>
    rcases h.get k with ⟨h1, h2⟩ | ⟨it, c, h1, h2, hr⟩
    · simp only [AccessVal.step, AccessVal.specStep, h1, h2]; exact ⟨rfl, h⟩
    · simp only [AccessVal.step, AccessVal.specStep, h1, h2, SymOut.eval, hr.sizeHint]
      exact ⟨trivial, h⟩
  | bulk t =>
    refine ⟨?_, h⟩
    simp only [AccessVal.step, AccessVal.specStep, SymOut.eval, C13Bulk.bulk_eq_mapM]
    rw [R.mapM_congr (f := d.item t) (g := read t) (fun i hi => hread t i (by simpa using hi))]
  | collectRev t =>
    refine ⟨?_, h⟩
    simp only [AccessVal.step, AccessVal.specStep, SymOut.eval, C13Iter.rest_fst, Iter.new, Nat.sub_zero,
      ← List.range_eq_range']
    congr 1
    exact List.map_congr_left (fun i hi => hread t i (by simpa using hi))

theorem histories_refine_val (d : Deser) (read : Read.Target → Nat → R Read.DVal)
    (hread : ∀ t i, i < d.len → d.item t i = read t i) (ops : List AccessVal.Op) :
    ∀ (s : AccessVal.St) (cs : SpecSt), RelL d.len s cs →
      AccessVal.run d s ops = (AccessVal.specRun d.len cs ops).map (SymOut.eval read) := by
  induction ops with
  | nil => intros; rfl
  | cons op ops ih =>
    intro s cs h
    obtain ⟨h1, h2⟩ := step_refines_val d read hread s cs op h
    simp only [AccessVal.run, AccessVal.specRun, List.map_cons, h1]
    rw [ih _ _ h2]

/-! ### (a) the values of a history -/

/-- **item_value.**  A deserializer built from ANY batch (`fields`, `arrs`: arbitrary views, nested, sliced, with bit offsets
— no well-formedness hypothesis), and ANY history of operations on it, each read with a target of its own, any number of
live iterators: the outputs are those of the abstract sequence `specRun` — symbolic outputs `(t, i)` computed from `len`
and per-iterator call counts alone — evaluated with `read t i := Roundtrip.readRecord t fields arrs i`.  So the value an
operation yields is a function of (batch, index, target): not of the history, the iterator it came through, or of the
reads made before. -/
theorem item_value (fields : List Field) (arrs : List Arr) (d : Deser) (h : Deser.new fields arrs = .ok d)
    (ops : List AccessVal.Op) :
    AccessVal.run d [] ops =
      (AccessVal.specRun d.len [] ops).map (SymOut.eval fun t i => Roundtrip.readRecord t fields arrs i) :=
  histories_refine_val d _ (fun t i hi => C13Ctor.item_eq_readRecord h t i hi) ops [] [] .nil

/-- the same for the root reader's own typed read, for a deserializer in any state the record type allows (also one
not obtained from the constructor) -/
theorem item_value_root (d : Deser) (ops : List AccessVal.Op) :
    AccessVal.run d [] ops = (AccessVal.specRun d.len [] ops).map (SymOut.eval d.item) :=
  histories_refine_val d _ (fun _ _ _ => rfl) ops [] [] .nil

/-- every record index the specification hands out is below `len` -/
def SymOut.Below (len : Nat) : SymOut → Prop
  | .item (some (_, i)) => i < len
  | .items _ l => ∀ i ∈ l, i < len
  | .each _ l => ∀ i ∈ l, i < len
  | _ => True

theorem spec_indices_below (len : Nat) (cs : SpecSt) (op : AccessVal.Op) :
    SymOut.Below len (AccessVal.specStep len cs op).2 := by
  cases op with
  | len | isEmpty | iterNew => trivial
  | get i t =>
    simp only [AccessVal.specStep]
    by_cases h : i < len
    · simp only [h, if_true]; exact h
    · simp only [h, if_false]; trivial
  | iterNext k t =>
    simp only [AccessVal.specStep]
    cases cs[k]? with
    | none => trivial
    | some c =>
      by_cases h : c < len
      · simp only [h, if_true]; exact h
      · simp only [h, if_false]; trivial
  | iterNth k n t =>
    simp only [AccessVal.specStep]
    cases cs[k]? with
    | none => trivial
    | some c =>
      by_cases h : c + n < len
      · simp only [h, if_true]; exact h
      · simp only [h, if_false]; trivial
  | iterCount k => simp only [AccessVal.specStep]; cases cs[k]? <;> trivial
  | iterLast k t =>
    simp only [AccessVal.specStep]
    cases cs[k]? with
    | none => trivial
    | some c =>
      by_cases h : c < len
      · simp only [h, if_true]; show len - 1 < len; omega
      · simp only [h, if_false]; trivial
  | iterHint k => simp only [AccessVal.specStep]; cases cs[k]? <;> trivial
  | bulk t => intro i hi; simpa using hi
  | collectRev t => intro i hi; simpa using hi

/-! ### the symbolic specification and the index-level specification of `Read/Access.lean` -/

/-- the operations the index-level model has (no provided `Iterator` methods), without their targets -/
def eraseOp : AccessVal.Op → Option Access.Op
  | .len => some .len
  | .isEmpty => some .isEmpty
  | .get i _ => some (.get i)
  | .iterNew => some .iterNew
  | .iterNext k _ => some (.iterNext k)
  | .iterHint k => some (.iterHint k)
  | .bulk _ => some .bulk
  | _ => none

def eraseOut : SymOut → Access.Out
  | .n x => .n x
  | .b x => .b x
  | .item o => .item (o.map (·.2))
  | .hint lo hi => .hint lo hi
  | .items _ l => .items l
  | .each _ l => .items l
  | .unit => .unit
  | .noSuchIter => .noSuchIter

/-- **spec_erases_to_index.**  On histories of the operations both levels have, forgetting the targets of the symbolic
specification gives the index-level specification `Access.specRun` (the one `histories_refine` is about): the index `i` of
`item_value` IS the index the index-level spec assigns. -/
theorem spec_erases_to_index (len : Nat) : ∀ (ops : List AccessVal.Op) (iops : List Access.Op) (cs : SpecSt),
    ops.mapM eraseOp = some iops →
    (AccessVal.specRun len cs ops).map eraseOut = Access.specRun len cs iops
  | [], iops, cs, h => by
    simp only [List.mapM_nil, pure, Option.some.injEq] at h
    subst h; rfl
  | op :: ops, iops, cs, h => by
    rw [List.mapM_cons] at h
    cases ho : eraseOp op with
    | none => rw [ho] at h; simp [bind, Option.bind] at h
    | some iop =>
      rw [ho] at h
      cases hr : ops.mapM eraseOp with
      | none => rw [hr] at h; simp [bind, Option.bind] at h
      | some irest =>
        rw [hr] at h
        simp only [bind, Option.bind, pure, Option.some.injEq] at h
        subst h
        have key : eraseOut (AccessVal.specStep len cs op).2 = (Access.specStep len cs iop).2 ∧
            (AccessVal.specStep len cs op).1 = (Access.specStep len cs iop).1 := by
          cases op <;> simp only [eraseOp, Option.some.injEq, reduceCtorEq] at ho <;> subst ho
          · exact ⟨rfl, rfl⟩
          · exact ⟨rfl, rfl⟩
          · simp only [AccessVal.specStep, Access.specStep, eraseOut, and_true]
            split <;> rfl
          · exact ⟨rfl, rfl⟩
          · rename_i k t
            simp only [AccessVal.specStep, Access.specStep]
            cases cs[k]? with
            | none => exact ⟨rfl, rfl⟩
            | some c =>
              refine ⟨?_, rfl⟩
              simp only [eraseOut]
              split <;> rfl
          · rename_i k
            simp only [AccessVal.specStep, Access.specStep]
            cases cs[k]? <;> exact ⟨by first | rfl | trivial, by first | rfl | trivial⟩
          · exact ⟨rfl, rfl⟩
        simp only [AccessVal.specRun, Access.specRun, List.map_cons, key.1, key.2]
        rw [spec_erases_to_index len ops irest _ hr]

/-! ### (b) the bulk read -/

/-- **bulk_eq_map.**  `Vec<T>::deserialize(deserializer)` (the `SeqAccess` loop, no fuel) reads the records `0 … len-1` in
order, each as `readRecord t … i`: it succeeds with `xs` exactly when every record read succeeds and `xs` is the list of
their values; it fails with `e` exactly when some record read fails, `e` being the error of the FIRST failing record. -/
theorem bulk_eq_map (fields : List Field) (arrs : List Arr) (d : Deser) (h : Deser.new fields arrs = .ok d)
    (t : Read.Target) :
    d.bulk t = (List.range d.len).mapM (fun i => Roundtrip.readRecord t fields arrs i) ∧
    (∀ xs, d.bulk t = .ok xs ↔
      (List.range d.len).map (fun i => Roundtrip.readRecord t fields arrs i) = xs.map .ok) ∧
    (∀ e, d.bulk t = .error e ↔
      ∃ i, i < d.len ∧ Roundtrip.readRecord t fields arrs i = .error e ∧
        ∀ j, j < i → (Roundtrip.readRecord t fields arrs j).isOk = true) := by
  have h0 : d.bulk t = (List.range d.len).mapM (fun i => Roundtrip.readRecord t fields arrs i) := by
    rw [C13Bulk.bulk_eq_mapM]
    exact R.mapM_congr (fun i hi => C13Ctor.item_eq_readRecord h t i (by simpa using hi))
  refine ⟨h0, ?_, ?_⟩
  · intro xs
    rw [h0, List.range_eq_range']
    exact C13Bulk.mapM_range'_ok_iff _ _ _ _
  · intro e
    rw [h0, List.range_eq_range', C13Bulk.mapM_range'_error_iff]
    simp only [Nat.zero_add]

/-- the bulk read of the model is the one `Roundtrip.readAll` (C03 / C04) and `Props/C16.readBatch` are stated with -/
theorem bulk_eq_readAll (fields : List Field) (arrs : List Arr) (d : Deser) (h : Deser.new fields arrs = .ok d)
    (t : Read.Target) : d.bulk t = Roundtrip.readAll t fields arrs := by
  obtain ⟨hf, ha, hc, hr⟩ := (C13Ctor.new_ok_iff fields arrs d).mp h
  unfold Roundtrip.readAll
  rw [hc]
  simp only [bind, Except.bind]
  rw [hr]
  rw [C13Bulk.bulk_eq_mapM, bulk_eq_items]
  exact R.mapM_congr (fun i _ => by simp only [Deser.item, Deser.root, hf, ha])

/-! ### (c) `get` and iteration -/

/-- **get_eq_iter.**  `get(i)` read into `t` is the `i`-th item of a fresh iteration read into `t` — of the whole
iteration (`next` until `None`, no fuel) and of `iter().nth(i)` — for every index, in range or not. -/
theorem get_eq_iter (d : Deser) (t : Read.Target) (i : Nat) :
    ((Iter.new d.len).rest.1.map (d.item t))[i]? = (getIdx d.len i).map (d.item t) ∧
    ((Iter.new d.len).nth i).1 = getIdx d.len i ∧
    (AccessVal.run d [] [.iterNew, .iterNth 0 i t])[1]? = (AccessVal.run d [] [.get i t])[0]? := by
  have h1 : ((Iter.new d.len).nth i).1 = getIdx d.len i := by
    rw [C13Iter.nth_eq i _ (by simp [Iter.new]), get_eq]
    simp [Iter.new]
  refine ⟨?_, h1, ?_⟩
  · rw [C13Iter.rest_fst, get_eq]
    simp only [Iter.new, Nat.sub_zero, List.getElem?_map]
    by_cases hi : i < d.len
    · simp [hi]
    · simp [hi]
  · simp only [AccessVal.run, AccessVal.step, List.nil_append, List.getElem?_cons_zero, h1]
    rfl

/-- with the values named: below `len` both are `readRecord t fields arrs i`, from `len` on there is no item -/
theorem get_eq_iter_value (fields : List Field) (arrs : List Arr) (d : Deser) (h : Deser.new fields arrs = .ok d)
    (t : Read.Target) (i : Nat) :
    ((Iter.new d.len).rest.1.map (d.item t))[i]? =
      if i < d.len then some (Roundtrip.readRecord t fields arrs i) else none := by
  rw [(get_eq_iter d t i).1, get_eq]
  by_cases hi : i < d.len
  · simp only [hi, if_true, Option.map_some, C13Ctor.item_eq_readRecord h t i hi]
  · simp only [hi, if_false, Option.map_none]

/-! ### (d) iteration without fuel -/

/-- **iter_yields_exactly.**  ANY number `n` of calls of `next` on an iterator in a reachable state (`next ≤ len`): the
first `min n (len - next)` calls yield the records `next, next+1, …` in order, every further call yields `None`, and the
cursor never passes `len`.  (`n` is the number of calls, not a fuel bound.) -/
theorem iter_yields_exactly (it : Iter) (h : it.next ≤ it.len) (n : Nat) :
    (it.nexts n).1 = (List.range' it.next (min n (it.len - it.next))).map some ++
      List.replicate (n - (it.len - it.next)) none ∧
    (it.nexts n).2 = { it with next := min (it.next + n) it.len } := by
  rw [C13Iter.nexts_eq]
  refine ⟨rfl, ?_⟩
  by_cases hge : it.next ≥ it.len
  · simp only [hge, if_true]
    have : min (it.next + n) it.len = it.next := by omega
    rw [this]
  · simp only [hge, if_false]

/-- **iter_yields_at_most_len.**  A fresh iterator never yields more than `len` items, however often `next` is called;
called at least `len` times it has yielded exactly the records `0 … len-1`, in order. -/
theorem iter_yields_at_most_len (len n : Nat) :
    (((Iter.new len).nexts n).1.filterMap id).length ≤ len ∧
    (len ≤ n → ((Iter.new len).nexts n).1.filterMap id = List.range len) := by
  rw [(iter_yields_exactly (Iter.new len) (by simp [Iter.new]) n).1]
  have hf : ∀ (l : List Nat) (k : Nat), ((l.map some) ++ List.replicate k none).filterMap id = l := by
    intro l k
    rw [List.filterMap_append]
    have h1 : (l.map some).filterMap id = l := by
      induction l with
      | nil => rfl
      | cons a l ih => simp only [List.map_cons, List.filterMap_cons, id, ih]
    have h2 : (List.replicate k (none : Option Nat)).filterMap id = [] := by
      induction k with
      | zero => rfl
      | succ k ih => simp only [List.replicate_succ, List.filterMap_cons, id, ih]
    rw [h1, h2, List.append_nil]
  rw [hf]
  simp only [Iter.new, Nat.sub_zero, List.length_range']
  refine ⟨by omega, ?_⟩
  intro hn
  have : min n len = len := by omega
  rw [this, List.range_eq_range']

/-- **drain_fuel_irrelevant.**  The fuelled `drain` of `Read/Access.lean` (by which `Access.bulk`, `iter_items` and
`size_hint_truthful` are stated): for EVERY fuel it yields at most `len - next` items, and every fuel that covers
`len - next` gives the same list — the one `next`-until-`None` gives without any fuel.  So `iter_items` /
`size_hint_truthful` do not hide a longer iteration behind the fuel. -/
theorem drain_fuel_irrelevant (it : Iter) (fuel : Nat) :
    (it.drain fuel).length ≤ it.len - it.next ∧
    (it.len - it.next ≤ fuel → it.drain fuel = it.rest.1 ∧ it.drain fuel = it.drain (it.len - it.next)) := by
  refine ⟨C13Iter.drain_length_le fuel it, fun h => ?_⟩
  rw [C13Iter.drain_fuel fuel it h, C13Iter.drain_fuel _ it (Nat.le_refl _), C13Iter.rest_fst]
  exact ⟨rfl, rfl⟩

/-- `remaining` (Props/C13.lean, the right-hand side of `size_hint_truthful`) is what `next`-until-`None` still yields -/
theorem remaining_eq_rest (it : Iter) : remaining it = it.rest.1 :=
  (drain_fuel_irrelevant it (it.len - it.next)).2 (Nat.le_refl _) |>.1

/-! ### the constructors -/

/-- **ctor_order.**  `Deserializer::new` in the order of the Rust code (count check; `len` from the first view; per column
length check, strategy, `ArrayDeserializer::new`) succeeds exactly when the count / length checks (`Access.new`,
`ctor_checks`) and the construction of the root reader (`Read.new`) both succeed, and then reports that length: in
particular a zero-length array before a longer one is refused. -/
theorem ctor_order (fields : List Field) (arrs : List Arr) (d : Deser) :
    Deser.new fields arrs = .ok d ↔
      d.fields = fields ∧ d.arrs = arrs ∧
      (arrs.length = fields.length ∧ (∀ a ∈ arrs, Read.vlen a = d.len) ∧ (arrs = [] → d.len = 0)) ∧
      Read.new Read.Fixes.all (Roundtrip.rootArr fields arrs d.len) = .ok () := by
  rw [C13Ctor.new_ok_iff, ctor_checks]
  simp only [List.length_map, List.mem_map, forall_exists_index, and_imp, forall_apply_eq_imp_iff₂, List.map_eq_nil_iff]

section
variable {OB Items Out AF AA : Type}

/-- **from_arrow_is_new.**  `Deserializer::from_arrow(fields, arrays)`, `from_record_batch(batch)` and
`from_arrow2(fields, arrays)` (Backend/Adapters.lean: count check first, then marrow's conversions — parameters `cv` —
then the core's `Deserializer::new`) with the constructor of this model as the core: whatever they return was returned
by `Deser.new` on the converted fields and views, as many fields as arrays.  Every theorem about `Deser.new` (`item_value`,
`bulk_eq_map`, `get_eq_iter`, `ctor_order`) therefore applies to deserializers built from arrow / arrow2 arrays. -/
theorem from_arrow_is_new (core : Backend.Core OB Items Deser Out) (hcore : core.deserializerNew = Deser.new)
    (cv : Backend.Conv AF AA) (afs : List AF) (as : List AA) (d : Deser) :
    (Backend.Deserializer.fromArrow core cv afs as = .ok d →
      afs.length = as.length ∧ ∃ fields arrs, Backend.fieldsFromFieldRefs cv afs = .ok fields ∧
        as.mapM cv.viewOf = .ok arrs ∧ Deser.new fields arrs = .ok d) ∧
    (Backend.Deserializer.fromArrow2 core cv afs as = .ok d →
      afs.length = as.length ∧ ∃ fields arrs, afs.mapM cv.fieldToMarrow = .ok fields ∧
        as.mapM cv.viewOf = .ok arrs ∧ Deser.new fields arrs = .ok d) ∧
    (∀ md, Backend.Deserializer.fromRecordBatch core cv { fields := afs, schemaMetadata := md, columns := as } =
      Backend.Deserializer.fromArrow core cv afs as) := by
  have one : Backend.Deserializer.fromArrow core cv afs as = .ok d →
      afs.length = as.length ∧ ∃ fields arrs, Backend.fieldsFromFieldRefs cv afs = .ok fields ∧
        as.mapM cv.viewOf = .ok arrs ∧ Deser.new fields arrs = .ok d := by
    intro h
    unfold Backend.Deserializer.fromArrow at h
    by_cases hc : afs.length = as.length
    · have hb : (afs.length != as.length) = false := by simp [hc]
      simp only [hb, Bool.false_eq_true, if_false] at h
      cases hf : Backend.fieldsFromFieldRefs cv afs with
      | error e => rw [hf] at h; simp [bind, Except.bind] at h
      | ok fields =>
        cases hv : as.mapM cv.viewOf with
        | error e => rw [hf, hv] at h; simp [bind, Except.bind] at h
        | ok arrs =>
          rw [hf, hv, hcore] at h
          exact ⟨hc, fields, arrs, rfl, rfl, h⟩
    · have hb : (afs.length != as.length) = true := by simp [hc]
      simp [hb, Backend.countMismatch, fail] at h
  -- `from_arrow2` is `from_arrow` with marrow's arrow2 conversions: the same function of `cv`
  exact ⟨one, fun h => one h, fun _ => rfl⟩
/-- **ctors_refuse_count_mismatch.**  A different number of fields and arrays is refused — an error, not a panic — by all
four constructors: by `from_marrow` through the first statement of `Deserializer::new`, by `from_arrow` /
`from_record_batch` / `from_arrow2` through their own check, before any conversion (`Props/C19.reader_count_mismatch_refused`
for an abstract core; here for the constructor of this model). -/
theorem ctors_refuse_count_mismatch (core : Backend.Core OB Items Deser Out) (hcore : core.deserializerNew = Deser.new)
    (cv : Backend.Conv AF AA) :
    (∀ (fields : List Field) (arrs : List Arr), fields.length ≠ arrs.length →
      (Backend.Deserializer.fromMarrow core fields arrs).isErr = true) ∧
    (∀ (afs : List AF) (as : List AA), afs.length ≠ as.length →
      (Backend.Deserializer.fromArrow core cv afs as).isErr = true ∧
      (Backend.Deserializer.fromArrow2 core cv afs as).isErr = true ∧
      ∀ md, (Backend.Deserializer.fromRecordBatch core cv { fields := afs, schemaMetadata := md, columns := as }).isErr = true) := by
  constructor
  · intro fields arrs h
    have hb : (fields.length != arrs.length) = true := by simp [h]
    simp only [Backend.Deserializer.fromMarrow, hcore, Deser.new, hb, if_true]
    rfl
  · intro afs as h
    have hb : (afs.length != as.length) = true := by simp [h]
    have h1 : (Backend.Deserializer.fromArrow core cv afs as).isErr = true := by
      simp only [Backend.Deserializer.fromArrow, hb, if_true]; rfl
    refine ⟨h1, ?_, fun _ => h1⟩
    simp only [Backend.Deserializer.fromArrow2, hb, if_true]; rfl
end

/-! ### non-vacuity -/

/-- a batch of two columns, 3 records: nullable utf8 `s` = ["a", null, "bc"] (validity with a bit offset of 3 into its
byte), `p` = FixedSizeList(2) of int16 [[1,2],[3,4],[5,6]] -/
def exFields : List Field := [.mk "s" .utf8 true [], .mk "p" .null false []]
def exArrs : List Arr :=
  [.bytes .utf8 (some ⟨[0b101000], 3⟩) [0, 1, 1, 3] [97, 98, 99],
   .fixedSizeList 3 none 2 ⟨"element", false, []⟩ (.prim .int16 none [1, 2, 3, 4, 5, 6])]
def exD : Deser := { fields := exFields, arrs := exArrs, len := 3 }

theorem exNew : Deser.new exFields exArrs = .ok exD :=
  (C13Ctor.new_ok_iff exFields exArrs exD).mpr ⟨rfl, rfl, by decide +kernel, by decide +kernel⟩

/-- `(Option<String>, Vec<i16>)`, and `(String, Vec<i64>)` (fails on the null) -/
def exRec : Read.Target := .tuple (.cons (.option .string) (.cons (.seq (.int .i16)) .nil))
def exStrict : Read.Target := .tuple (.cons .string (.cons (.seq (.int .i64)) .nil))

/-- a history with two interleaved iterators, provided methods, the same index read three times with three targets (by
index, through `nth`, through `last`), reads past the end, a bulk read that succeeds and one that fails -/
def exOps : List AccessVal.Op :=
  [.iterNew, .iterNew, .iterNext 0 exRec, .get 2 .any, .iterNth 1 2 exRec, .iterHint 0, .iterNext 1 .any, .get 2 exStrict,
   .iterLast 0 exStrict, .iterCount 0, .iterHint 0, .get 3 .any, .get 1 exStrict, .bulk exRec, .bulk exStrict,
   .collectRev (.tuple (.cons (.option .str) .nil))]

/-- `item_value` on it, and what the symbolic specification evaluates to: index 2 gives three different renderings of one
record, the strict read of record 1 fails, the strict bulk read fails with exactly that error -/
example : AccessVal.run exD [] exOps =
      (AccessVal.specRun 3 [] exOps).map (SymOut.eval fun t i => Roundtrip.readRecord t exFields exArrs i) ∧
    (AccessVal.run exD [] exOps)[3]? = some (.item (some (Roundtrip.readRecord .any exFields exArrs 2))) ∧
    (AccessVal.run exD [] exOps)[4]? = some (.item (some (Roundtrip.readRecord exRec exFields exArrs 2))) ∧
    (AccessVal.run exD [] exOps)[6]? = some (.item none) ∧
    (AccessVal.run exD [] exOps)[8]? = some (.item (some (Roundtrip.readRecord exStrict exFields exArrs 2))) ∧
    (AccessVal.run exD [] exOps)[9]? = some (.n 0) ∧
    (AccessVal.run exD [] exOps)[10]? = some (.hint 0 (some 0)) ∧
    (AccessVal.run exD [] exOps)[11]? = some (.item none) ∧
    (Roundtrip.readRecord .any exFields exArrs 2).isOk = true ∧
    (Roundtrip.readRecord exStrict exFields exArrs 1).isErr = true ∧
    (Roundtrip.readRecord exStrict exFields exArrs 2).isOk = true ∧
    Roundtrip.readRecord exRec exFields exArrs 2 ≠ Roundtrip.readRecord exStrict exFields exArrs 2 ∧
    Roundtrip.readRecord exRec exFields exArrs 0 ≠ Roundtrip.readRecord exRec exFields exArrs 2 := by
  rw [item_value exFields exArrs exD exNew exOps]
  exact ⟨rfl, rfl, rfl, rfl, rfl, rfl, rfl, rfl, by decide +kernel, by decide +kernel, by decide +kernel, by decide +kernel, by decide +kernel⟩

/-- `bulk_eq_map`: the successful bulk read is the list of the three record reads; the strict one fails with record 1's error -/
example : (exD.bulk exRec).isOk = true ∧
    exD.bulk exStrict = (Roundtrip.readRecord exStrict exFields exArrs 1 >>= fun _ => .ok []) ∧
    (exD.bulk exStrict).isErr = true := by
  obtain ⟨h0, _, _⟩ := bulk_eq_map exFields exArrs exD exNew exRec
  obtain ⟨h0', _, _⟩ := bulk_eq_map exFields exArrs exD exNew exStrict
  rw [h0, h0']
  decide +kernel

/-- `get_eq_iter` at an index in range and one past the end -/
example : ((Iter.new exD.len).rest.1.map (exD.item exRec))[2]? = some (Roundtrip.readRecord exRec exFields exArrs 2) ∧
    ((Iter.new exD.len).rest.1.map (exD.item exRec))[3]? = none :=
  ⟨get_eq_iter_value exFields exArrs exD exNew exRec 2, get_eq_iter_value exFields exArrs exD exNew exRec 3⟩

/-- `iter_yields_exactly`: 5 calls of `next` on an iterator of 3 records that has already yielded one -/
example : (({ len := 3, next := 1 } : Iter).nexts 5).1 = [some 1, some 2, none, none, none] := by decide +kernel

/-- `ctor_order`: a zero-length array BEFORE a longer one is refused, as are a longer one before it, a count mismatch, a
column whose reader cannot be built (dictionary of dates) although all lengths agree; zero columns give zero records -/
example : (Deser.new [.mk "a" .null false [], .mk "b" .null false []] [.null 0, .null 3]).isErr = true ∧
    (Deser.new [.mk "a" .null false [], .mk "b" .null false []] [.null 3, .null 0]).isErr = true ∧
    (Deser.new [.mk "a" .null false [], .mk "b" .null false [], .mk "c" .null false []] [.null 3, .null 0, .null 3]).isErr = true ∧
    (Deser.new [.mk "a" .null false []] [.null 3, .null 3]).isErr = true ∧
    (Deser.new [.mk "a" .null false []] [.dictionary (.prim .int8 none [0]) (.prim .date32 none [7])]).isErr = true ∧
    (Deser.new [] []).isOk = true := by decide +kernel

/-- `from_arrow_is_new` with marrow as its own back end (`Conv.id`) -/
example : ∃ d, Backend.Deserializer.fromArrow
    ({ newOuter := fun _ => .ok (), serialize := fun _ _ => .ok (), takeArrays := fun _ => .ok ([], ()),
       deserializerNew := Deser.new, deserialize := fun _ => .ok () } : Backend.Core Unit Unit Deser Unit)
    Backend.Conv.id exFields exArrs = .ok d ∧ d.len = 3 :=
  ⟨exD, by
    simp only [Backend.Deserializer.fromArrow, Backend.fieldsFromFieldRefs, Backend.Conv.id, Lemmas.C19.mapM_pure_id]
    exact exNew, rfl⟩

end SaModel.Props.C13
