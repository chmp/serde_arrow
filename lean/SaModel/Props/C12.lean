import SaModel.Lemmas.C12Decode
import SaModel.Lemmas.C12Struct
import SaModel.Lemmas.C12Read
import SaModel.Lemmas.C12Batch
import SaModel.Lemmas.C12WF
import SaModel.Lemmas.C12Typed
import SaModel.Lemmas.C12AnnTyped
import SaModel.Props.C13
import SaModel.Props.C18
/-
C12 — deserializing a slice equals slicing the deserialized values.
Property theorems and the recursion over the target that assembles the typed reads (`slicePA_all`); helpers:
SaModel/Lemmas/C12*.lean.  `sliceView` (SaModel/Read/Slice.lean) models arrow's
`slice` + marrow's view conversion; `Spec.decodeAt` are the Arrow reading rules; `readAny` / `readAs` are the reader
model (C02): `deserialize_any` and the typed reads driven by a `Target`.

The theorems hold for EVERY array (every constructor incl. FixedSizeList and sparse Union, any nesting).  Hypotheses:
the window bounds, and `sliceable a` — the decidable well-formedness `slice` itself relies on: children that are
sliced ALONG WITH the parent are at least as long as the parent says (Struct children ≥ len, FixedSizeList child ≥ len·n,
sparse-Union children ≥ number of rows).  It is genuinely needed (`sliceable_needed` below) and implied by Arrow validity.
-/
namespace SaModel.Props.C12
open SaModel SaModel.Read SaModel.Spec SaModel.Lemmas.C12

/-- the key bit lemma: a bitmap whose bit offset was advanced by `o`, read at `i`, is the original bitmap read at
`o + i` — windows may start anywhere inside a byte -/
theorem getBit_shift (b : Bits) (o i : Nat) : getBit (shiftBits b o) i = getBit b (o + i) :=
  Lemmas.C12.getBit_shift b o i

theorem withValidity_shift (v : Option Bits) (o i : Nat) (p : R LVal) :
    withValidity (shiftV v o) i p = withValidity v (o + i) p :=
  Lemmas.C12.withValidity_shift v o i p

/-- the length of a slice (all types) -/
theorem lenOf_slice (a : Arr) (o l : Nat) (h : o + l ≤ lenOf a) : lenOf (sliceView a o l) = l :=
  Lemmas.C12.lenOf_slice a o l h

/-! ### decoding commutes with slicing -/

/-- C12, slot-wise: reading slot `i` of the slice is reading slot `o + i` of the whole array — for every leaf
type, Struct (children sliced recursively), List / LargeList / Map / dense Union (children untouched, addressed by
absolute offsets), FixedSizeList (child sliced to (o·n, l·n)), sparse Union (children sliced) and Dictionary (keys
sliced), nested to any depth. -/
theorem decodeAt_slice (a : Arr) (o l i : Nat) (hi : i < l) (h : o + l ≤ lenOf a) (hs : sliceable a = true) :
    decodeAt (sliceView a o l) i = decodeAt a (o + i) :=
  Lemmas.C12.decodeAt_slice a o l i hi h hs

/-- hence the decoded rows of the slice are the window of the decoded rows of the whole array -/
theorem decodeAt_slice_rows (a : Arr) (o l : Nat) (h : o + l ≤ lenOf a) (hs : sliceable a = true) :
    (List.range l).map (decodeAt (sliceView a o l)) = (List.range l).map (fun i => decodeAt a (o + i)) := by
  apply List.map_congr_left
  intro i hi
  exact decodeAt_slice a o l i (List.mem_range.mp hi) h hs

/-- `sliceable` cannot be dropped: a Struct of 2 rows whose child has only 1 row (invalid Arrow). `slice(0, 2)` relabels
the child as 2 rows long, so row 1 of the slice decodes while row 1 of the array is out of range. -/
theorem sliceable_needed :
    let a : Arr := .struct 2 none (.cons ⟨"c", false, []⟩ (.struct 1 none .nil) .nil)
    sliceable a = false ∧ 0 + 2 ≤ lenOf a ∧ decodeAt (sliceView a 0 2) 1 ≠ decodeAt a (0 + 1) := by decide +kernel

/-- `sliceable` is implied by Arrow validity as spelled out for C03 (`Spec.WFS`, which C03 `C03_wfS` proves of every array
the crate's builders return): every such array may be sliced with any window inside its bounds -/
theorem WF_sliceable (f : Field) (a : Arr) (h : WFS f a = true) : sliceable a = true :=
  Lemmas.C12.WF_sliceable f a h

/-! ### slices of slices -/

/-- slicing twice IS slicing once by the composed window: the two views are equal field for field (bit offsets add,
windows of windows are windows, FixedSizeList / Struct / sparse-Union children recursively).  Structural: no hypothesis
on the array, only that the second window lies inside the first. -/
theorem sliceView_sliceView (a : Arr) (o1 l1 o2 l2 : Nat) (h : o2 + l2 ≤ l1) :
    sliceView (sliceView a o1 l1) o2 l2 = sliceView a (o1 + o2) l2 :=
  sliceView_sliceView' a o1 l1 o2 l2 h

/-- a slice (inside the bounds) of a well-formed view is well-formed: chains of slices stay inside the theorems -/
theorem sliceable_slice (a : Arr) (o l : Nat) (h : o + l ≤ lenOf a) (hs : sliceable a = true) :
    sliceable (sliceView a o l) = true :=
  Lemmas.C12.sliceable_slice a o l h hs

/-- `Spec.WFS` (C03) is the validity of BUILT arrays: bit offset 0, bitmaps of exactly ⌈len/8⌉ bytes, first offset 0,
last offset = child length.  A slice is a VIEW (bit offset `o`, offsets not rebased, buffers shared), so `Spec.WFS` is
not — and should not be — preserved by slicing; the view-level predicates that ARE preserved are `sliceable`
(`sliceable_slice`), `new … = ok` (`new_slice`) and `physical` (`physical_slice`), together `view_hyps_slice` below:
exactly the hypotheses of `decodeAt_slice` / `readAs_slice`, which `Spec.WFS` implies as far as `sliceable` goes
(`WF_sliceable`). -/
theorem WF_not_slice_invariant :
    let f : Field := .mk "c" .int32 true []
    let a : Arr := .prim .int32 (some ⟨[0b01], 0⟩) [1, 2]
    let g : Field := .mk "l" (.list (.mk "element" .int8 false [])) false []
    let b : Arr := .list false none [0, 1, 2] ⟨"element", false, []⟩ (.prim .int8 none [5, 6])
    WFS f a = true ∧ 1 + 1 ≤ lenOf a ∧ WFS f (sliceView a 1 1) = false ∧
    WFS g b = true ∧ 1 + 1 ≤ lenOf b ∧ WFS g (sliceView b 1 1) = false := by decide +kernel

/-- slices of slices read as the corresponding window of the original array -/
theorem slice_slice (a : Arr) (o1 l1 o2 l2 i : Nat) (hi : i < l2) (h2 : o2 + l2 ≤ l1) (h1 : o1 + l1 ≤ lenOf a)
    (hs : sliceable a = true) :
    decodeAt (sliceView (sliceView a o1 l1) o2 l2) i = decodeAt a (o1 + o2 + i) := by
  rw [sliceView_sliceView a o1 l1 o2 l2 h2, decodeAt_slice a (o1 + o2) l2 i hi (by omega) hs]

/-! ### the readers -/

/-- slicing never touches the type skeleton (names, integer widths, variant tables) -/
theorem toD_slice (a : Arr) (o l : Nat) (lv : LVal) : toD (sliceView a o l) lv = toD a lv :=
  Lemmas.C12.toD_slice a o l lv

/-- a reader can be built on the slice whenever it can be built on the array (`ArrayDeserializer::new`) -/
theorem new_slice (a : Arr) (o l : Nat) (h : o + l ≤ lenOf a) (hs : sliceable a = true)
    (hn : new Fixes.all a = .ok ()) : new Fixes.all (sliceView a o l) = .ok () :=
  Lemmas.C12.new_slice Fixes.all a o l h hs hn

/-- lengths stay representable (`physical`, C02: what Rust's `usize` guarantees and Lean's unbounded lists do not) -/
theorem physical_slice (a : Arr) (o l : Nat) (h : o + l ≤ lenOf a) (hs : sliceable a = true)
    (hp : physical a = true) : physical (sliceView a o l) = true :=
  Lemmas.C12.physical_slice a o l h hs hp

/-- the hypotheses of the reader theorems below are preserved by slicing (so they hold along chains of slices) -/
theorem view_hyps_slice (a : Arr) (o l : Nat) (h : o + l ≤ lenOf a) (hs : sliceable a = true)
    (hn : new Fixes.all a = .ok ()) (hp : physical a = true) :
    sliceable (sliceView a o l) = true ∧ new Fixes.all (sliceView a o l) = .ok () ∧ physical (sliceView a o l) = true :=
  ⟨sliceable_slice a o l h hs, new_slice a o l h hs hn, physical_slice a o l h hs hp⟩

/-! ### the typed reads (`deserialize_bool`, `…_i32`, `…_str`, `…_option`, `…_seq`, `…_tuple`, `…_map`, `…_struct`,
`…_enum`, …) and `deserialize_any`: EQUALITY OF OUTCOMES

Proved directly, not through C02: for the ANNOTATED readers (`readAsA`, C18) by recursion over the target (`slicePA_all`;
`Lemmas/C12TypedPrim.lean`, `C12TypedLeaf.lean`: what each accessor looks at, `C12AnnTyped.lean`: one combinator per target
constructor), and from there for `readAs`, which is `readAsA` with the annotations erased (`sliceP_all`).  The read of
the slice and the read of the array agree whether they return a value, an `Err` or unwind — also where the slot has no
defined Arrow reading, where the target does not fit the column, where a string is not UTF-8.  Hypotheses, all decidable and all about the
WHOLE array: the window, `sliceable`, the reader could be built (`new`), lengths fit `usize` (`physical`). -/

mutual
theorem slicePA_all (af : AnnFixes) (fx : Fixes) : ∀ (t : Target), SlicePA af fx t
  | .any => slicePA_any af fx
  | .ignored => slicePA_ignored af fx
  | .unit | .unitStruct | .bool | .int _ | .f32 | .f64 | .char | .string | .str => slicePA_scalar af fx rfl nofun nofun
  | .bytes => slicePA_bytes af fx
  | .byteBuf => slicePA_byteBuf af fx
  | .option t => slicePA_option (slicePA_all af fx t)
  | .newtype t => slicePA_newtype (slicePA_all af fx t)
  | .seq t => slicePA_seq (slicePA_all af fx t)
  | .tuple ts => slicePA_tuple (slicePA_targets af fx ts)
  | .tupleStruct ts => slicePA_tupleStruct (slicePA_targets af fx ts)
  | .map _ v => slicePA_map (slicePA_all af fx v)
  | .struct tfs => slicePA_struct (slicePA_fields af fx tfs)
  | .enum byIndex vs => slicePA_enum af fx byIndex vs
theorem slicePA_targets (af : AnnFixes) (fx : Fixes) : ∀ (ts : Targets), AllT (SlicePA af fx) ts
  | .nil => by unfold AllT; trivial
  | .cons t r => by unfold AllT; exact ⟨slicePA_all af fx t, slicePA_targets af fx r⟩
theorem slicePA_fields (af : AnnFixes) (fx : Fixes) : ∀ (tfs : TFields), AllF (SlicePA af fx) tfs
  | .nil => by unfold AllF; trivial
  | .cons _ t r => by unfold AllF; exact ⟨slicePA_all af fx t, slicePA_fields af fx r⟩
end

/-- the typed reads are the annotated typed reads with the annotations erased (C18 `eraseAnn_readAsA`), and the annotated
reads of slot `i` of the slice and of slot `o + i` of the array are equal -/
theorem sliceP_all (fx : Fixes) (t : Target) : SliceP fx t := fun a o l i hi h => by
  rw [← SaModel.Props.C18.eraseAnn_readAsA .all fx t "$", ← SaModel.Props.C18.eraseAnn_readAsA .all fx t "$",
    slicePA_all .all fx t "$" a o l i hi h]

theorem sliceP_targets (fx : Fixes) : ∀ (ts : Targets), AllT (SliceP fx) ts
  | .nil => by unfold AllT; trivial
  | .cons t r => by unfold AllT; exact ⟨sliceP_all fx t, sliceP_targets fx r⟩

theorem sliceP_fields (fx : Fixes) : ∀ (tfs : TFields), AllF (SliceP fx) tfs
  | .nil => by unfold AllF; trivial
  | .cons _ t r => by unfold AllF; exact ⟨sliceP_all fx t, sliceP_fields fx r⟩

/-- C12 for the typed reads: for EVERY target `t` (all 21 constructors, nested to any depth), reading `t` at
slot `i` of the slice has the same outcome as reading `t` at slot `o + i` of the whole array — the same value, the
same `Err`, the same unwind.  No hypothesis on the slot (it need not decode), on the target (it need not fit the
column) or on the strings (they need not be UTF-8). -/
theorem readAs_slice (t : Target) (a : Arr) (o l i : Nat) (hi : i < l) (h : o + l ≤ lenOf a)
    (hs : sliceable a = true) (hn : new Fixes.all a = .ok ()) (hp : physical a = true) :
    readAs Fixes.all t (sliceView a o l) i = readAs Fixes.all t a (o + i) :=
  sliceP_all Fixes.all t a o l i hi ⟨h, hs, hn, hp⟩

/-- the same for any combination of the `fix:` commits, in particular for the pinned tree (`Fixes.pinned`), where
reads can unwind: slicing does not move a panic either -/
theorem readAs_slice_fx (fx : Fixes) (t : Target) (a : Arr) (o l i : Nat) (hi : i < l) (h : o + l ≤ lenOf a)
    (hs : sliceable a = true) (hn : new fx a = .ok ()) (hp : physical a = true) :
    readAs fx t (sliceView a o l) i = readAs fx t a (o + i) :=
  sliceP_all fx t a o l i hi ⟨h, hs, hn, hp⟩

/-- `deserialize_any` of slot `i` of the slice = of slot `o + i` of the whole array, as outcomes; proved directly for
the annotated reader (`readAnyA_slice`, by recursion over the array) and erased (`readAny_slice`), not through C02
`read_any_decode`: the slot need not decode and its strings need not be UTF-8 -/
theorem read_slice (a : Arr) (o l i : Nat) (hi : i < l) (h : o + l ≤ lenOf a)
    (hs : sliceable a = true) (hn : new Fixes.all a = .ok ()) (hp : physical a = true) :
    readAny Fixes.all (sliceView a o l) i = readAny Fixes.all a (o + i) :=
  readAny_slice Fixes.all a o l i hi ⟨h, hs, hn, hp⟩

/-- slices of slices: the hypotheses need only hold of the original array -/
theorem readAs_slice_slice (t : Target) (a : Arr) (o1 l1 o2 l2 i : Nat) (hi : i < l2) (h2 : o2 + l2 ≤ l1)
    (h1 : o1 + l1 ≤ lenOf a) (hs : sliceable a = true) (hn : new Fixes.all a = .ok ()) (hp : physical a = true) :
    readAs Fixes.all t (sliceView (sliceView a o1 l1) o2 l2) i = readAs Fixes.all t a (o1 + o2 + i) := by
  rw [sliceView_sliceView a o1 l1 o2 l2 h2, readAs_slice t a (o1 + o2) l2 i hi (by omega) hs hn hp]

/-- the whole-slice read (`SeqAccess` loop over all `l` rows of the slice) is the loop over rows `o … o+l-1` of the
whole array; `readRange f s n` is `mapM f` over `s, …, s+n-1` (`readRange_eq_mapM`) -/
theorem readRange_slice (t : Target) (a : Arr) (o l : Nat) (h : o + l ≤ lenOf a)
    (hs : sliceable a = true) (hn : new Fixes.all a = .ok ()) (hp : physical a = true) :
    readRange (readAs Fixes.all t (sliceView a o l)) 0 l = readRange (readAs Fixes.all t a) o l := by
  apply readRange_congr
  intro j hj
  rw [Nat.zero_add]
  exact readAs_slice t a o l j hj h hs hn hp

/-- `new` of the whole array cannot be dropped: FixedSizeBinary(2) over 3 bytes (invalid Arrow; lenOf = 1).
`FixedSizeBinaryDeserializer::new` refuses the array ("not evenly divisible") but accepts its slice (0, 1), whose
data is the 2-byte window. -/
theorem new_needed :
    let a : Arr := .fixedSizeBinary 2 none [1, 2, 3]
    0 + 1 ≤ lenOf a ∧ sliceable a = true ∧ physical a = true ∧ new Fixes.all a ≠ .ok () ∧
    readAs Fixes.all .byteBuf (sliceView a 0 1) 0 ≠ readAs Fixes.all .byteBuf a (0 + 0) := by decide +kernel

/-- `physical` cannot be dropped either: a FixedSizeList(2) of 2^63 rows over a Null child of 2^64 slots (no Rust
`usize` holds that length).  Row 2^63 - 1 of the whole array fails the checked `(idx + 1) * n`; the same row is row 0
of the slice (2^63 - 1, 1), where the multiplication is `1 * 2`. -/
theorem physical_needed :
    let a : Arr := .fixedSizeList 9223372036854775808 none 2 ⟨"element", false, []⟩ (.null 18446744073709551616)
    9223372036854775807 + 1 ≤ lenOf a ∧ sliceable a = true ∧ new Fixes.all a = .ok () ∧ physical a = false ∧
    readAny Fixes.all (sliceView a 9223372036854775807 1) 0 ≠ readAny Fixes.all a (9223372036854775807 + 0) := by
  decide +kernel

/-- sparse unions: the Arrow-level statement (`decodeAt_slice`) covers them, but the crate never reads one — building
the reader fails (`enum_deserializer.rs`: "Only dense unions are supported"), before and after slicing alike -/
theorem new_sparse_union_fails (types : List Int) (fs : ArrUFields) (o l : Nat) :
    new Fixes.all (.union types none fs) = fail "Only dense unions are supported" ∧
    new Fixes.all (sliceView (.union types none fs) o l) = fail "Only dense unions are supported" := by
  simp only [sliceView, Lemmas.C12.new_sparse_union_fails, and_self]

/-! ### record batches: `RecordBatch::slice(o, l)` slices every column with the one window

`Deserializer::new` (Access.lean `new`, C13) checks the columns' lengths and builds the root reader `batch len cols`;
`get(i)` (Access.lean `getIdx`) hands record `i` to it. -/

/-- the Arrow-level form: record `i` of the sliced batch decodes as record `o + i` of the whole batch -/
theorem batch_decodeAt_slice (cols : ArrFields) (len o l i : Nat) (hi : i < l) (h : o + l ≤ len)
    (hs : sliceableFields cols len = true) :
    decodeAt (batch l (sliceFields cols o l)) i = decodeAt (batch len cols) (o + i) :=
  decodeAt_slice (batch len cols) o l i hi h hs

/-- what `Deserializer::new` does with the sliced batch: if it accepted the whole batch with `len` records and the
columns are well-formed, then for every window `o + l ≤ len` it accepts the sliced batch and reports `l` records, and
the root reader of the whole batch meets the hypotheses of `readAs_slice` -/
theorem batch_ctor_slice (cols : ArrFields) (len o l : Nat)
    (hctor : Access.new true cols.length (colLens cols) = .ok len) (h : o + l ≤ len)
    (hs : sliceableCols cols = true) (hn : newFields Fixes.all cols = .ok ()) :
    Access.new true (sliceFields cols o l).length (colLens (sliceFields cols o l)) = .ok l ∧
    sliceable (batch len cols) = true := by
  obtain ⟨hlen, hall, hnil⟩ := (SaModel.Props.C13.ctor_checks _ _ _).mp hctor
  have hsf : sliceableFields cols len = true := sliceableFields_of_cols Fixes.all cols len hall hn hs
  refine ⟨?_, hsf⟩
  rw [SaModel.Props.C13.ctor_checks]
  refine ⟨by rw [colLens_length], colLens_slice Fixes.all cols len o l h hsf hn, ?_⟩
  intro hnil'
  cases cols with
  | nil => have := hnil rfl; omega
  | cons _ _ _ => simp [sliceFields, colLens] at hnil'

/-- the reader form, one record.  If `Deserializer::new` accepted the whole batch with `len` records (`hctor`) and the
columns are well-formed, then for every window `o + l ≤ len`: the constructor accepts the sliced batch and reports `l`
records, `get i` (i < l) on the slice and `get (o + i)` on the whole batch both hand out a record, and reading them
with ANY target `t` (`T::deserialize(item)`; `t = .any` is `deserialize_any`) has the same outcome. -/
theorem batch_read_slice (t : Target) (cols : ArrFields) (len o l i : Nat)
    (hctor : Access.new true cols.length (colLens cols) = .ok len)
    (hi : i < l) (h : o + l ≤ len) (hs : sliceableCols cols = true)
    (hn : newFields Fixes.all cols = .ok ()) (hp : physicalFields cols = true) :
    Access.new true (sliceFields cols o l).length (colLens (sliceFields cols o l)) = .ok l ∧
    Access.getIdx l i = some i ∧ Access.getIdx len (o + i) = some (o + i) ∧
    readAs Fixes.all t (batch l (sliceFields cols o l)) i = readAs Fixes.all t (batch len cols) (o + i) := by
  obtain ⟨hc, hsf⟩ := batch_ctor_slice cols len o l hctor h hs hn
  refine ⟨hc, ?_, ?_, ?_⟩
  · rw [SaModel.Props.C13.get_eq]; simp only [hi, if_true]
  · rw [SaModel.Props.C13.get_eq]; simp only [show o + i < len by omega, if_true]
  · exact readAs_slice t (batch len cols) o l i hi h hsf hn hp

/-- the bulk read over a window, for ANY two item reads that agree row by row (`f j = g (o + j)` for `j < l`): reading all `l`
items with `f` is reading the items `[o, o + l)` with `g` — the same values or the same first failure —, and where `g` reads
all `len` items as `xs`, `f` reads the window of `xs` -/
theorem bulk_window {α} {f g : Nat → R α} {len o l : Nat} (h : o + l ≤ len) (hfg : ∀ j, j < l → f j = g (o + j)) :
    (Access.bulk l).mapM f = (window (Access.bulk len) o l).mapM g ∧
    (∀ xs, (Access.bulk len).mapM g = .ok xs → (Access.bulk l).mapM f = .ok (window xs o l)) := by
  have key : (Access.bulk l).mapM f = (window (Access.bulk len) o l).mapM g := by
    rw [SaModel.Props.C13.bulk_eq_items, SaModel.Props.C13.bulk_eq_items, window_range len o l h, List.range_eq_range']
    exact mapM_range'_congr _ _ _ _ _ fun j hj => by rw [Nat.zero_add]; exact hfg j hj
  exact ⟨key, fun xs hxs => key ▸ mapM_ok_take _ _ _ l (mapM_ok_drop _ _ _ o hxs)⟩

/-- the bulk form (`Vec<T>::deserialize(&deserializer)`, i.e. `from_record_batch` / `from_arrow`: `visit_seq` over
`DeserializerIterator`, which hands out the indices `Access.bulk`, C13).  Under the hypotheses of `batch_read_slice`:
the constructor accepts the sliced batch with `l` records, and reading ALL records of the sliced batch with target `t`
is reading the records `[o, o + l)` of the whole batch — the same list of values or the same first failure.  In
particular (second part) when the bulk read of the whole batch succeeds with `xs`, the bulk read of the sliced batch
succeeds with the window `[o, o + l)` of `xs`: deserializing the slice = slicing the deserialized values. -/
theorem batch_readAs_slice (t : Target) (cols : ArrFields) (len o l : Nat)
    (hctor : Access.new true cols.length (colLens cols) = .ok len)
    (h : o + l ≤ len) (hs : sliceableCols cols = true)
    (hn : newFields Fixes.all cols = .ok ()) (hp : physicalFields cols = true) :
    Access.new true (sliceFields cols o l).length (colLens (sliceFields cols o l)) = .ok l ∧
    (Access.bulk l).mapM (readAs Fixes.all t (batch l (sliceFields cols o l)))
      = (window (Access.bulk len) o l).mapM (readAs Fixes.all t (batch len cols)) ∧
    (∀ xs, (Access.bulk len).mapM (readAs Fixes.all t (batch len cols)) = .ok xs →
      (Access.bulk l).mapM (readAs Fixes.all t (batch l (sliceFields cols o l))) = .ok (window xs o l)) := by
  obtain ⟨hc, hsf⟩ := batch_ctor_slice cols len o l hctor h hs hn
  exact ⟨hc, bulk_window h fun j hj => readAs_slice t (batch len cols) o l j hj h hsf hn hp⟩

/-- the same in terms of the `SeqAccess` loop of the model -/
theorem batch_readRange_slice (t : Target) (cols : ArrFields) (len o l : Nat)
    (hctor : Access.new true cols.length (colLens cols) = .ok len)
    (h : o + l ≤ len) (hs : sliceableCols cols = true)
    (hn : newFields Fixes.all cols = .ok ()) (hp : physicalFields cols = true) :
    readRange (readAs Fixes.all t (batch l (sliceFields cols o l))) 0 l
      = readRange (readAs Fixes.all t (batch len cols)) o l :=
  readRange_slice t (batch len cols) o l h (batch_ctor_slice cols len o l hctor h hs hn).2 hn hp

/-- the one-column record reader the `slice` suite drives (`Reader.record`, `Deserializer::from_marrow(&[field], &[view])`)
is the one-column batch: the record reader over the sliced column is the slice of the record reader over the column -/
theorem record_slice (fm : FieldMeta) (col : Arr) (o l : Nat) (h : o + l ≤ lenOf col) (hs : sliceable col = true)
    (hn : new Fixes.all col = .ok ()) :
    record fm (sliceView col o l) = sliceView (record fm col) o l := by
  simp only [record, sliceView, sliceFields, shiftV, Read.vlen_eq_lenOf Fixes.all _ (new_slice col o l h hs hn), lenOf_slice col o l h]

/-! ### non-vacuity -/

/-- a window that starts inside a bitmap byte, on a nullable list of nullable ints -/
example :
    let a : Arr := .list false (some ⟨[0b10110101, 0b1], 0⟩) [0, 1, 1, 3, 3, 4, 6, 6, 7, 9] ⟨"element", true, []⟩
      (.prim .int32 (some ⟨[0b11011011, 0b1], 0⟩) [1, 2, 3, 4, 5, 6, 7, 8, 9])
    sliceable a = true ∧
    (List.range 4).map (decodeAt (sliceView a 3 4)) = (List.range 4).map (fun i => decodeAt a (3 + i)) := by decide +kernel

/-- FixedSizeList(2) of nullable Struct{nullable int8, FixedSizeList(3) of bool}: 5 rows (one null), child of 10, grand
child of 30; the window (1, 3) starts inside the parent's, the child's (bit 2) and the grandchild's (bit 6) bitmap bytes;
every row decodes to a non-error value and the rows differ -/
def fslExample : Arr :=
  .fixedSizeList 5 (some ⟨[0b11011], 0⟩) 2 ⟨"element", true, []⟩
    (.struct 10 (some ⟨[0b11101111, 0b11], 0⟩)
      (.cons ⟨"x", true, []⟩ (.prim .int8 (some ⟨[0b01111011, 0b11], 0⟩) [0, 1, 2, 3, 4, 5, 6, 7, 8, 9])
      (.cons ⟨"y", false, []⟩ (.fixedSizeList 10 none 3 ⟨"element", false, []⟩
          (.boolean 30 none ⟨[0b10010110, 0b01101001, 0b11110000, 0b00101101], 0⟩)) .nil)))

example : sliceable fslExample = true ∧ 1 + 3 ≤ lenOf fslExample ∧
    ((List.range 5).map (decodeAt fslExample)).all (·.isOk) = true ∧
    decodeAt fslExample 1 ≠ decodeAt fslExample 3 ∧ decodeAt fslExample 2 = .ok .null ∧
    (List.range 3).map (decodeAt (sliceView fslExample 1 3)) = (List.range 3).map (fun i => decodeAt fslExample (1 + i)) ∧
    sliceView (sliceView fslExample 1 3) 1 2 = sliceView fslExample 2 2 := by decide +kernel

/-- the example is a valid Arrow array of its field in the sense of C03 -/
example : WFS (.mk "c" (.fixedSizeList (.mk "element" (.struct (.cons (.mk "x" .int8 true [])
    (.cons (.mk "y" (.fixedSizeList (.mk "element" .boolean false []) 3) false []) .nil))) true []) 2) true []) fslExample = true := by
  decide +kernel

/-- the reader on the same example: all hypotheses of `read_slice` hold for slot 1 + 2, and the read succeeds -/
example : readAny Fixes.all (sliceView fslExample 1 3) 2 = readAny Fixes.all fslExample (1 + 2) ∧
    (readAny Fixes.all fslExample (1 + 2)).isOk = true :=
  ⟨read_slice fslExample 1 3 2 (by decide +kernel) (by decide +kernel) (by decide +kernel) (by decide +kernel) (by decide +kernel), by decide +kernel⟩

/-- typed reads of the same example.  `fslTarget` = `Option<Vec<Option<(Option<i8>, Vec<bool>)>>>` (a tuple read over
the struct column): every row reads successfully (row 2 of the array is null, the others are not, the values differ).
`fslStrict` = `Vec<S>` with `struct S { x: i8, y: Vec<bool> }`: the read succeeds on row 0 and FAILS on row 1 (a null
`x` inside) — and fails the same way on the slice: `readAs_slice` is an equality of outcomes. -/
def fslTarget : Target :=
  .option (.seq (.option (.tuple (.cons (.option (.int .i8)) (.cons (.seq .bool) .nil)))))

def fslStrict : Target := .seq (.struct (.cons "x" (.int .i8) (.cons "y" (.seq .bool) .nil)))

example : (∀ i, i < 3 → readAs Fixes.all fslTarget (sliceView fslExample 1 3) i = readAs Fixes.all fslTarget fslExample (1 + i)) ∧
    ((List.range 5).map (readAs Fixes.all fslTarget fslExample)).all (·.isOk) = true ∧
    readAs Fixes.all fslTarget fslExample 2 = .ok .none ∧
    readAs Fixes.all fslTarget fslExample 1 ≠ readAs Fixes.all fslTarget fslExample 3 :=
  ⟨fun i hi => readAs_slice fslTarget fslExample 1 3 i hi (by decide +kernel) (by decide +kernel) (by decide +kernel) (by decide +kernel),
   by decide +kernel, by decide +kernel, by decide +kernel⟩

example : readAs Fixes.all fslStrict (sliceView fslExample 1 3) 0 = readAs Fixes.all fslStrict fslExample (1 + 0) ∧
    (readAs Fixes.all fslStrict fslExample (1 + 0)).isErr = true ∧
    (readAs Fixes.all fslStrict fslExample 0).isOk = true :=
  ⟨readAs_slice fslStrict fslExample 1 3 0 (by decide +kernel) (by decide +kernel) (by decide +kernel) (by decide +kernel) (by decide +kernel), by decide +kernel, by decide +kernel⟩

/-- the whole-slice loop on the same example -/
example : readRange (readAs Fixes.all fslTarget (sliceView fslExample 1 3)) 0 3
    = readRange (readAs Fixes.all fslTarget fslExample) 1 3 :=
  readRange_slice fslTarget fslExample 1 3 (by decide +kernel) (by decide +kernel) (by decide +kernel) (by decide +kernel)

/-- a sparse union {0: int32, 1: utf8} of 4 rows, window (1, 2) -/
def sparseExample : Arr :=
  .union [0, 1, 1, 0] none
    (.cons 0 ⟨"i", false, []⟩ (.prim .int32 none [10, 11, 12, 13])
    (.cons 1 ⟨"s", false, []⟩ (.bytes .utf8 none [0, 1, 2, 4, 4] [97, 98, 99, 100]) .nil))

example : sliceable sparseExample = true ∧ 1 + 2 ≤ lenOf sparseExample ∧
    decodeAt sparseExample 1 = .ok (.union 1 (.str [98])) ∧ decodeAt sparseExample 2 = .ok (.union 1 (.str [99, 100])) ∧
    (List.range 2).map (decodeAt (sliceView sparseExample 1 2)) = (List.range 2).map (fun i => decodeAt sparseExample (1 + i)) := by
  decide +kernel

/-- a record batch of two columns (nullable utf8, FixedSizeList(2) of int16), 3 records, window (1, 2) -/
def batchExample : ArrFields :=
  .cons ⟨"s", true, []⟩ (.bytes .utf8 (some ⟨[0b101], 0⟩) [0, 1, 1, 3] [97, 98, 99])
  (.cons ⟨"p", false, []⟩ (.fixedSizeList 3 none 2 ⟨"element", false, []⟩ (.prim .int16 none [1, 2, 3, 4, 5, 6])) .nil)

example : (Access.new true (sliceFields batchExample 1 2).length (colLens (sliceFields batchExample 1 2)) = .ok 2 ∧
    Access.getIdx 2 1 = some 1 ∧ Access.getIdx 3 (1 + 1) = some (1 + 1) ∧
    readAs Fixes.all .any (batch 2 (sliceFields batchExample 1 2)) 1 = readAs Fixes.all .any (batch 3 batchExample) (1 + 1)) ∧
    (readAs Fixes.all .any (batch 3 batchExample) (1 + 1)).isOk = true :=
  ⟨batch_read_slice .any batchExample 3 1 2 1 (by decide +kernel) (by decide +kernel) (by decide +kernel) (by decide +kernel) (by decide +kernel) (by decide +kernel),
    by decide +kernel⟩

/-- the bulk typed read of the same batch into `Vec<Rec>`, `struct Rec { s: Option<String>, p: Vec<i16> }`: the whole
batch reads successfully (3 distinct records, one with `s = None`), so the sliced batch reads as the window of those
records -/
def batchTarget : Target :=
  .struct (.cons "s" (.option .string) (.cons "p" (.seq (.int .i16)) .nil))

/-- the same record as a tuple `(Option<String>, Vec<i16>)` (used to show that the records differ) -/
def batchTuple : Target := .tuple (.cons (.option .string) (.cons (.seq (.int .i16)) .nil))

example : ((Access.bulk 3).mapM (readAs Fixes.all batchTarget (batch 3 batchExample))).isOk = true ∧
    (∀ xs, (Access.bulk 3).mapM (readAs Fixes.all batchTarget (batch 3 batchExample)) = .ok xs →
      (Access.bulk 2).mapM (readAs Fixes.all batchTarget (batch 2 (sliceFields batchExample 1 2))) = .ok (window xs 1 2)) ∧
    readAs Fixes.all batchTuple (batch 3 batchExample) 1 ≠ readAs Fixes.all batchTuple (batch 3 batchExample) 2 :=
  ⟨by decide +kernel,
   (batch_readAs_slice batchTarget batchExample 3 1 2 (by decide +kernel) (by decide +kernel) (by decide +kernel) (by decide +kernel) (by decide +kernel)).2.2,
   by decide +kernel⟩

end SaModel.Props.C12
