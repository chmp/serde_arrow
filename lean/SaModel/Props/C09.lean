import SaModel.Lemmas.C09Field
import SaModel.Lemmas.C09Meta
import SaModel.Lemmas.C09Chars
/-
C09 — schemas survive every interchange form unchanged.

Model: `SaModel/Codec/Dsl.lean` (term language, data-type printer, `build_data_type`) and
`SaModel/Codec/SchemaJson.lean` (`PrettyField` / `CustomField` / `into_field` / `validate_field`, both top-level
forms, foreign field objects).  Domain: `SaModel/Spec/SchemaOK.lean`.

All round-trip theorems hold for every `esc : Char → Bool`, the table of characters `<str as Debug>` writes as
`\u{…}` (an external function of the Rust release).  They are about the *repaired* quoted-string scanner; the
pinned one (`…Pinned`) is refuted with concrete witnesses below.
-/
namespace SaModel.Props.C09
open SaModel SaModel.Dsl SaModel.SchemaJson

/-! ## the data-type mini language -/

/-- What `PrettyFieldDataType` writes, `build_data_type` reads back — for every data type whose parameters are in
range and which the form can express (`typeOK`), with the children the printer writes next to it. -/
theorem dsl_roundtrip (esc : Char → Bool) (dt : DataType) (h : typeOK dt = true) :
    readType (showType esc dt) (childList dt) = .ok dt :=
  buildDataType_showType esc dt h

/-- the data type of every field in `SchemaOK` is in the domain of `dsl_roundtrip` -/
theorem dsl_roundtrip_of_SchemaOK (esc : Char → Bool) (name : String) (dt : DataType) (nullable : Bool) (m : Metadata)
    (h : SchemaOK (.mk name dt nullable m)) : readType (showType esc dt) (childList dt) = .ok dt := by
  simp only [SchemaOK, schemaOK, validField, reprField, Bool.and_eq_true] at h
  exact dsl_roundtrip esc dt (typeOK_of_valid_repr m nullable dt h.1 h.2.2)

/-- the term level: `Term::from_str` inverts `Display for Term` on every well-formed term, for any context
that continues with nothing, a comma or a closing parenthesis -/
theorem dsl_term_roundtrip (esc : Char → Bool) (t : Term) (h : t.OK) (fuel : Nat) (hf : t.need ≤ fuel) :
    parseTerm false fuel (showTerm esc t) = .ok (t, []) := by
  have := parseTerm_show esc t h fuel [] hf (by intro c r h; cases h)
  simpa using this

/-- quoted strings: the repaired scanner undoes `{:?}` for every string and every escape table -/
theorem dsl_quoted_roundtrip (esc : Char → Bool) (s rest : Text) :
    scanQuoted .normal (escapeStr esc s ++ '"' :: rest) = .ok (s, rest) :=
  scanQuoted_escapeStr esc s rest

/-! ## the JSON form of a field -/

/-- a `DictionaryField` (the key or the value of a dictionary) is the printed field of a childless type, and is read back -/
theorem dictField_rt (esc : Char → Bool) (name : String) (dt : DataType)
    (h : isIntType dt = true ∨ isDictValueType dt = true) :
    parseFieldWith false (dictField esc name dt) = .ok (.mk name dt false []) := by
  have h4 : validField (.mk name dt false []) = true ∧ reprField (.mk name dt false []) = true ∧
      parseChildrenOpt (printChildren esc dt) = .ok (childList dt) ∧
      printField esc (.mk name dt false []) = dictField esc name dt := by
    cases dt <;> first | (rcases h with h | h <;> cases h; done) | exact ⟨rfl, rfl, rfl, rfl⟩
  rw [← h4.2.2.2]
  exact field_core esc name dt false [] h4.1 h4.2.1 h4.2.2.1

/-- a type with one child field: the printed list of children is read back once the child is -/
theorem oneChild_rt {esc : Char → Bool} {f : Field} (h : parseField (printField esc f) = .ok f) :
    parseChildrenOpt (some (.cons (printField esc f) .nil)) = .ok [f] := by
  simp only [parseChildrenOpt, parseFieldListWith, bind, Except.bind, pure, Except.pure]
  rw [show parseFieldWith false (printField esc f) = .ok f from h]

mutual
theorem field_rt (esc : Char → Bool) : (f : Field) → validField f = true → reprField f = true →
    parseField (printField esc f) = .ok f
  | .mk name dt nullable m, hv, hr => by
    have hv' : validType m dt = true := by simpa [validField] using hv
    have hr' : reprType nullable dt = true := by
      simp only [reprField, Bool.and_eq_true] at hr; exact hr.2
    exact field_core esc name dt nullable m hv hr (children_rt esc dt m nullable hv' hr')
termination_by structural f => f
theorem children_rt (esc : Char → Bool) : (dt : DataType) → (m : Metadata) → (nl : Bool) → validType m dt = true →
    reprType nl dt = true → parseChildrenOpt (printChildren esc dt) = .ok (childList dt)
  | .struct fs, m, nl, hv, hr => by
    simp only [validType, Bool.and_eq_true] at hv
    simp only [reprType] at hr
    simp only [printChildren, parseChildrenOpt, childList]
    exact fields_rt esc fs hv.2 hr
  | .list f, m, nl, hv, hr => by
    simp only [validType, Bool.and_eq_true] at hv
    simp only [reprType] at hr
    exact oneChild_rt (field_rt esc f hv.2 hr)
  | .largeList f, m, nl, hv, hr => by
    simp only [validType, Bool.and_eq_true] at hv
    simp only [reprType] at hr
    exact oneChild_rt (field_rt esc f hv.2 hr)
  | .fixedSizeList f n, m, nl, hv, hr => by
    simp only [validType, Bool.and_eq_true] at hv
    simp only [reprType] at hr
    exact oneChild_rt (field_rt esc f hv.2 hr)
  | .map e sorted, m, nl, hv, hr => by
    simp only [validType, Bool.and_eq_true] at hv
    simp only [reprType, Bool.and_eq_true] at hr
    exact oneChild_rt (field_rt esc e hv.2 hr.2)
  | .union us mode, m, nl, hv, hr => by
    simp only [validType, Bool.and_eq_true] at hv
    simp only [reprType, Bool.and_eq_true] at hr
    simp only [printChildren, parseChildrenOpt, childList]
    exact ufields_rt esc us hv.2 hr.2
  | .dictionary k v, m, nl, hv, hr => by
    simp only [validType, Bool.and_eq_true] at hv
    have key := dictField_rt esc "key" k (.inl hv.1.2)
    have value := dictField_rt esc "value" v (.inr hv.2)
    simp only [printChildren, parseChildrenOpt, childList, parseFieldListWith, bind, Except.bind, pure, Except.pure,
      key, value]
  | .null, _, _, _, _ | .boolean, _, _, _, _ | .int8, _, _, _, _ | .int16, _, _, _, _ | .int32, _, _, _, _
  | .int64, _, _, _, _ | .uint8, _, _, _, _ | .uint16, _, _, _, _ | .uint32, _, _, _, _ | .uint64, _, _, _, _
  | .float16, _, _, _, _ | .float32, _, _, _, _ | .float64, _, _, _, _ | .utf8, _, _, _, _ | .largeUtf8, _, _, _, _
  | .utf8View, _, _, _, _ | .binary, _, _, _, _ | .largeBinary, _, _, _, _ | .binaryView, _, _, _, _
  | .fixedSizeBinary _, _, _, _, _ | .date32, _, _, _, _ | .date64, _, _, _, _ | .timestamp _ _, _, _, _, _
  | .time32 _, _, _, _, _ | .time64 _, _, _, _, _ | .duration _, _, _, _, _ | .interval _, _, _, _, _
  | .decimal128 _ _, _, _, _, _ | .runEndEncoded _ _, _, _, _, _ => rfl
termination_by structural dt => dt
theorem fields_rt (esc : Char → Bool) : (fs : Fields) → validFields fs = true → reprFields fs = true →
    parseFieldListWith false (printFields esc fs) = .ok fs.toList
  | .nil, _, _ => rfl
  | .cons f r, hv, hr => by
    simp only [validFields, Bool.and_eq_true] at hv
    simp only [reprFields, Bool.and_eq_true] at hr
    have h1 := field_rt esc f hv.1 hr.1
    have h2 := fields_rt esc r hv.2 hr.2
    simp only [parseField] at h1
    simp only [printFields, parseFieldListWith, h1, h2, Fields.toList, bind, Except.bind, pure, Except.pure]
termination_by structural fs => fs
theorem ufields_rt (esc : Char → Bool) : (us : UFields) → validUFields us = true → reprUFields us = true →
    parseFieldListWith false (printUFields esc us) = .ok (us.toList.map (·.2))
  | .nil, _, _ => rfl
  | .cons i f r, hv, hr => by
    simp only [validUFields, Bool.and_eq_true] at hv
    simp only [reprUFields, Bool.and_eq_true] at hr
    have h1 := field_rt esc f hv.1 hr.1
    have h2 := ufields_rt esc r hv.2 hr.2
    simp only [parseField] at h1
    simp only [printUFields, parseFieldListWith, h1, h2, UFields.toList, List.map_cons, bind, Except.bind, pure, Except.pure]
termination_by structural us => us
end

/-- **C09, JSON form.**  Every field in `SchemaOK` — any name, any data type with all parameters and children at
any nesting depth, nullability, strategy and other metadata — is read back unchanged from what is written for it. -/
theorem C09_json_roundtrip (esc : Char → Bool) (f : Field) (h : SchemaOK f) :
    parseField (printField esc f) = .ok f := by
  simp only [SchemaOK, schemaOK, Bool.and_eq_true] at h
  exact field_rt esc f h.1 h.2

theorem printable_of_valid : (f : Field) → validField f = true → printableField f = true := by
  intro f h
  -- validity excludes Interval / RunEndEncoded everywhere the printer looks
  exact go f h
where
  go : (f : Field) → validField f = true → printableField f = true
    | .mk _ dt _ m, h => by
      simp only [validField] at h
      simp only [printableField]
      exact goT m dt h
  goT (m : Metadata) : (dt : DataType) → validType m dt = true → printableType dt = true
    | .struct fs, h => by
      simp only [validType, Bool.and_eq_true] at h
      simp only [printableType]; exact goFs fs h.2
    | .list f, h => by simp only [validType, Bool.and_eq_true] at h; simp only [printableType]; exact go f h.2
    | .largeList f, h => by simp only [validType, Bool.and_eq_true] at h; simp only [printableType]; exact go f h.2
    | .fixedSizeList f _, h => by simp only [validType, Bool.and_eq_true] at h; simp only [printableType]; exact go f h.2
    | .map e _, h => by simp only [validType, Bool.and_eq_true] at h; simp only [printableType]; exact go e h.2
    | .union us _, h => by simp only [validType, Bool.and_eq_true] at h; simp only [printableType]; exact goUs us h.2
    | .dictionary k v, h => by
      simp only [validType, Bool.and_eq_true] at h
      obtain ⟨⟨_, hk⟩, hv⟩ := h
      have h1 : printable k = true := by cases k <;> first | rfl | simp [isIntType] at hk
      have h2 : printable v = true := by cases v <;> first | rfl | simp [isDictValueType] at hv
      simp [printableType, h1, h2]
    | .interval _, h => by simp [validType] at h
    | .runEndEncoded _ _, h => by simp [validType] at h
    | .null, _ | .boolean, _ | .int8, _ | .int16, _ | .int32, _ | .int64, _ | .uint8, _ | .uint16, _ | .uint32, _
    | .uint64, _ | .float16, _ | .float32, _ | .float64, _ | .utf8, _ | .largeUtf8, _ | .utf8View, _ | .binary, _
    | .largeBinary, _ | .binaryView, _ | .fixedSizeBinary _, _ | .date32, _ | .date64, _ | .timestamp _ _, _
    | .time32 _, _ | .time64 _, _ | .duration _, _ | .decimal128 _ _, _ => rfl
  goFs : (fs : Fields) → validFields fs = true → printableFields fs = true
    | .nil, _ => rfl
    | .cons f r, h => by
      simp only [validFields, Bool.and_eq_true] at h
      simp [printableFields, go f h.1, goFs r h.2]
  goUs : (us : UFields) → validUFields us = true → printableUFields us = true
    | .nil, _ => rfl
    | .cons _ f r, h => by
      simp only [validUFields, Bool.and_eq_true] at h
      simp [printableUFields, go f h.1, goUs r h.2]

theorem parseFieldList_map (esc : Char → Bool) : (fs : List Field) → (∀ f ∈ fs, SchemaOK f) →
    parseFieldListWith false (JVals.ofList (fs.map (printField esc))) = .ok fs
  | [], _ => rfl
  | f :: r, h => by
    have h1 := C09_json_roundtrip esc f (h f (by simp))
    have h2 := parseFieldList_map esc r (fun g hg => h g (by simp [hg]))
    simp only [parseField] at h1
    simp only [List.map_cons, JVals.ofList, parseFieldListWith, h1, h2, bind, Except.bind, pure, Except.pure]

/-- **C09, whole schema.**  `serde_json::to_value(&schema)` followed by `from_value` is the identity on every list
of fields in `SchemaOK` (serialisation succeeds, the value is the object form, reading it gives the same fields). -/
theorem C09_schema_roundtrip (esc : Char → Bool) (fs : List Field) (h : ∀ f ∈ fs, SchemaOK f) :
    (printSchema esc fs >>= parseSchema) = .ok fs := by
  have hp : fs.all printableField = true := by
    simp only [List.all_eq_true]
    intro f hf
    have := h f hf
    simp only [SchemaOK, schemaOK, Bool.and_eq_true] at this
    exact printable_of_valid f this.1
  have := parseFieldList_map esc fs h
  simp only [printSchema, hp, ↓reduceIte, bind, Except.bind, pure, Except.pure, parseSchema, parseSchemaWith,
    parseFieldsKeyWith, this]
  rfl

/-- the metadata clause of `SchemaOK` in explicit form: every metadata list with strictly increasing keys (a Rust
`HashMap` on the wire), with or without a strategy entry, is in the normal form `metaOK` asks for -/
theorem C09_metadata_domain (m : Metadata) (h : sortedMeta m = true) : metaOK m = true :=
  metaOK_of_sorted m h

/-! ## both top-level forms -/

/-- **C09, top-level forms.**  A list of field values and the object with that list under `fields` denote the same
schema (same fields or both rejected), also next to other keys. -/
theorem C09_toplevel (vs : JVals) : parseSchema (.obj (.cons "fields" (.arr vs) .nil)) = parseSchema (.arr vs) := by
  simp only [parseSchema, parseSchemaWith, parseFieldsKeyWith, ↓reduceIte, bind, Except.bind, pure, Except.pure]
  cases parseFieldListWith false vs <;> rfl

theorem C09_toplevel_extra_keys (vs : JVals) (k1 k2 : String) (v1 v2 : JVal) (h1 : k1 ≠ "fields") (h2 : k2 ≠ "fields") :
    parseSchema (.obj (.cons k1 v1 (.cons "fields" (.arr vs) (.cons k2 v2 .nil)))) = parseSchema (.arr vs) := by
  simp only [parseSchema, parseSchemaWith, parseFieldsKeyWith, h1, h2, ↓reduceIte, bind, Except.bind, pure, Except.pure]
  cases parseFieldListWith false vs <;> rfl

/-! ## both spellings of every type name -/

/-- the twelve names with two accepted spellings -/
def spellings : List (String × String × DataType) :=
  [("Bool", "Boolean", .boolean), ("I8", "Int8", .int8), ("I16", "Int16", .int16), ("I32", "Int32", .int32),
   ("I64", "Int64", .int64), ("U8", "UInt8", .uint8), ("U16", "UInt16", .uint16), ("U32", "UInt32", .uint32),
   ("U64", "UInt64", .uint64), ("F16", "Float16", .float16), ("F32", "Float32", .float32), ("F64", "Float64", .float64)]

/-- **C09, spellings.**  The short and the long spelling of a type name read as the same data type (and the printer
writes the short one). -/
theorem C09_spellings : ∀ e ∈ spellings,
    readType e.1.toList [] = .ok e.2.2 ∧ readType e.2.1.toList [] = .ok e.2.2 ∧
      showType (fun _ => false) e.2.2 = e.1.toList := by
  simp only [Lemmas.C09.toList_eq_charsOf]
  decide +kernel

/-- every other type name has one spelling, the one the printer writes (parameters: see `dsl_roundtrip`) -/
theorem C09_single_spellings : ∀ dt ∈ [DataType.null, .utf8, .largeUtf8, .utf8View, .date32, .date64, .binary,
    .largeBinary, .binaryView], readType (showType (fun _ => false) dt) [] = .ok dt := by
  intro dt hdt
  simp only [List.mem_cons, List.mem_nil_iff, or_false] at hdt
  rcases hdt with rfl | rfl | rfl | rfl | rfl | rfl | rfl | rfl | rfl <;> exact dsl_roundtrip _ _ rfl

/-! ## invalid schema values are rejected with an error -/

def leafJ (ty : String) : JVal := .obj (.cons "name" (.str "x") (.cons "data_type" (.str ty) .nil))
def withChildren (ty : String) (cs : JVals) : JVal :=
  .obj (.cons "name" (.str "x") (.cons "data_type" (.str ty) (.cons "children" (.arr cs) .nil)))

/-- wrong child arity: `List`, `LargeList`, `Map`, `FixedSizeList(n)` need exactly one child, `Dictionary` two —
for *every* list of children of another length -/
theorem C09_rejects_arity (children : List Field) :
    (children.length ≠ 1 → (readType "List".toList children).isErr = true ∧
        (readType "LargeList".toList children).isErr = true ∧ (readType "Map".toList children).isErr = true ∧
        (readType "FixedSizeList(2)".toList children).isErr = true) ∧
    (children.length ≠ 2 → (readType "Dictionary".toList children).isErr = true) := by
  simp only [Lemmas.C09.toList_eq_charsOf]
  have e1 : Term.fromStrWith false (Lemmas.C09.charsOf "List") = .ok (identT (Lemmas.C09.charsOf "List")) := by decide +kernel
  have e2 : Term.fromStrWith false (Lemmas.C09.charsOf "LargeList") = .ok (identT (Lemmas.C09.charsOf "LargeList")) := by decide +kernel
  have e3 : Term.fromStrWith false (Lemmas.C09.charsOf "Map") = .ok (identT (Lemmas.C09.charsOf "Map")) := by decide +kernel
  have e4 : Term.fromStrWith false (Lemmas.C09.charsOf "FixedSizeList(2)") =
      .ok (callT (Lemmas.C09.charsOf "FixedSizeList") (.cons (identT (Lemmas.C09.charsOf "2")) .nil)) := by decide +kernel
  have e5 : Term.fromStrWith false (Lemmas.C09.charsOf "Dictionary") = .ok (identT (Lemmas.C09.charsOf "Dictionary")) := by decide +kernel
  constructor
  · intro h
    match children, h with
    | [], _ => simp only [readType, buildDataType, buildDataTypeWith, e1, e2, e3, e4, bind, Except.bind]; decide +kernel
    | _ :: _ :: _, _ =>
      simp only [readType, buildDataType, buildDataTypeWith, e1, e2, e3, e4, bind, Except.bind]
      refine ⟨?_, ?_, ?_, ?_⟩ <;> with_unfolding_all rfl
  · intro h
    match children, h with
    | [], _ => simp only [readType, buildDataType, buildDataTypeWith, e5, bind, Except.bind]; decide +kernel
    | [_], _ => simp only [readType, buildDataType, buildDataTypeWith, e5, bind, Except.bind]; with_unfolding_all rfl
    | _ :: _ :: _ :: _, _ => simp only [readType, buildDataType, buildDataTypeWith, e5, bind, Except.bind]; with_unfolding_all rfl

/-- `Time32` accepts seconds and milliseconds only, `Time64` microseconds and nanoseconds only — whatever the name,
nullability and metadata of the field -/
theorem C09_rejects_time_unit (name : String) (nullable : Bool) (m : Metadata) (u : TimeUnit) :
    ((u = .microsecond ∨ u = .nanosecond) → (validateField (.mk name (.time32 u) nullable m)).isOk = false) ∧
    ((u = .second ∨ u = .millisecond) → (validateField (.mk name (.time64 u) nullable m)).isOk = false) := by
  constructor <;> intro h <;> rcases h with rfl | rfl <;>
    (simp only [validateField, validateDataType, bind, Except.bind]; cases noStrategy m <;> rfl)

/-- a strategy on a field whose type admits none (here: every childless type except `Null`, and lists) is rejected,
as is an unknown strategy name on any of them -/
theorem C09_rejects_strategy (m : Metadata) (h : stratClass m ≠ .absent) :
    (noStrategy m).isOk = false := by
  unfold noStrategy getStrategyFromMetadata
  cases hg : Metadata.get? m STRATEGY_KEY with
  | none => simp [stratClass, hg] at h
  | some s =>
    simp only [bind, Except.bind, pure, Except.pure]
    cases Strategy.parse s <;> rfl

/-- negative sizes are rejected whatever else the field says -/
theorem C09_rejects_negative_size (name : String) (nullable : Bool) (m : Metadata) (n : Int) (f : Field) (h : n < 0) :
    (validateField (.mk name (.fixedSizeBinary n) nullable m)).isOk = false ∧
    (validateField (.mk name (.fixedSizeList f n) nullable m)).isOk = false := by
  simp [validateField, validateDataType, h, fail, R.isOk]

/-- a field given with both a `strategy` entry and the strategy key inside `metadata` is rejected -/
theorem C09_rejects_duplicate_strategy (metadata : Metadata) (s : Strategy) (h : hasKey metadata STRATEGY_KEY = true) :
    (mergeStrategyWithMetadata metadata (some s)).isErr = true := by
  simp [mergeStrategyWithMetadata, h, fail, R.isErr]

/-- concrete malformed values: each is an error of the model (never accepted, never a panic).  Unknown names, wrong
case, missing or extra arguments, bad units, out-of-range and malformed numbers, wrong term kinds, unbalanced
text, bad escapes; missing keys, wrong value kinds, junk at the top. -/
theorem C09_rejects_strings : ∀ s ∈ ["Int", "int8", "I128", "String", "Timestamp", "Timestamp(Second)",
    "Timestamp(Seconds, None)", "Time32(Foo)", "Time32(Nanosecond)", "Time64(Second)", "Decimal128(5)", "Decimal128(300, 2)",
    "Decimal128(5, 200)", "Decimal128(-5, 2)", "FixedSizeBinary(99999999999)", "FixedSizeBinary(-1)", "Interval(YearMonth)",
    "\"I8\"", "I8 I8", "I8,", "(I8)", "", " ", "I8()", "I8(1)", "Struct(1)", "Map(sorted)", "Union(Sparse)", "RunEndEncoded",
    "Timestamp(Second, Some(UTC))", "Timestamp(Second, \"UTC\")", "Timestamp(Second, None())",
    "Timestamp(Second, Some(\"\\u{110000}\"))", "Timestamp(Second, Some(\"\\u{d800}\"))", "Timestamp(Second, Some(\"\\u{}\"))",
    "Timestamp(Second, Some(\"\\x41\"))", "Timestamp(Second, Some(\"unterminated))", "Timestamp(Second, None", "List", "Dictionary"],
    (parseField (leafJ s)).isErr = true := by
  have leaf (s : String) : parseField (leafJ s) = intoField false "x" s.toList false none [] [] := rfl
  simp only [leaf, Lemmas.C09.toList_eq_charsOf]
  decide +kernel

theorem C09_rejects_values : ∀ v ∈ [
    JVal.null, .num 3, .str "I8", .bool true, .obj .nil, .obj (.cons "Fields" (.arr .nil) .nil),
    .obj (.cons "fields" (.num 1) .nil), .obj (.cons "fields" .null .nil),
    .arr (.cons (.num 1) .nil), .arr (.cons (.obj .nil) .nil),
    .arr (.cons (.obj (.cons "name" (.str "x") .nil)) .nil),
    .arr (.cons (.obj (.cons "data_type" (.str "I8") .nil)) .nil),
    .arr (.cons (.obj (.cons "name" (.num 1) (.cons "data_type" (.str "I8") .nil))) .nil),
    .arr (.cons (.obj (.cons "name" (.str "x") (.cons "data_type" (.num 8) .nil))) .nil),
    .arr (.cons (.obj (.cons "name" (.str "x") (.cons "data_type" (.str "I8") (.cons "nullable" .null .nil)))) .nil),
    .arr (.cons (.obj (.cons "name" (.str "x") (.cons "data_type" (.str "I8") (.cons "nullable" (.str "true") .nil)))) .nil),
    .arr (.cons (.obj (.cons "name" (.str "x") (.cons "data_type" (.str "I8") (.cons "strategy" (.str "Foo") .nil)))) .nil),
    .arr (.cons (.obj (.cons "name" (.str "x") (.cons "data_type" (.str "I8") (.cons "strategy" (.str "MapAsStruct") .nil)))) .nil),
    .arr (.cons (.obj (.cons "name" (.str "x") (.cons "data_type" (.str "I8") (.cons "children" .null .nil)))) .nil),
    .arr (.cons (.obj (.cons "name" (.str "x") (.cons "data_type" (.str "I8") (.cons "metadata" (.arr .nil) .nil)))) .nil),
    .arr (.cons (.obj (.cons "name" (.str "x") (.cons "data_type" (.str "I8")
      (.cons "metadata" (.obj (.cons "k" (.num 1) .nil)) .nil)))) .nil),
    .arr (.cons (.obj (.cons "name" (.str "x") (.cons "data_type" (.str "Struct") (.cons "strategy" (.str "MapAsStruct")
      (.cons "metadata" (.obj (.cons "SERDE_ARROW:strategy" (.str "MapAsStruct") .nil)) .nil))))) .nil),
    .arr (.cons (withChildren "List" .nil) .nil),
    .arr (.cons (withChildren "List" (.cons (leafJ "I8") (.cons (leafJ "I8") .nil))) .nil),
    .arr (.cons (withChildren "Map" (.cons (leafJ "I8") .nil)) .nil),
    .arr (.cons (withChildren "Dictionary" (.cons (leafJ "Utf8") (.cons (leafJ "Utf8") .nil))) .nil),
    .arr (.cons (withChildren "Dictionary" (.cons (leafJ "I8") (.cons (leafJ "I32") .nil))) .nil),
    .arr (.cons (withChildren "I8" (.cons (leafJ "Foo") .nil)) .nil)],
    (parseSchema v).isErr = true := by
  decide +kernel

/-! ## foreign field objects -/

/-- **C09, foreign field objects.**  A valid field passed where a schema value is accepted (marrow / arrow `Field`s
given to `from_value`) is accepted unchanged — including sorted maps and sparse unions, which only the JSON form
cannot express; `Null` fields are made nullable. -/
theorem C09_foreign (f : Field) (hv : validField f = true) (hn : ∀ n nl m, f = .mk n .null nl m → nl = true) :
    acceptForeign f = .ok f := by
  match f, hv, hn with
  | .mk name dt nullable m, hv, hn =>
    have hnull : normNullable dt nullable = nullable := by
      cases dt <;> first | rfl | (have := hn name nullable m rfl; simp [normNullable, this])
    have := validateField_of_valid _ hv
    simp only [acceptForeign, hnull, this, bind, Except.bind, pure, Except.pure]

/-! ## the domain is not empty, and what lies outside it -/

def esc0 : Char → Bool := fun c => c.toNat < 32

/-- an ordinary nested schema: struct with strategy and metadata, list, map, union, dictionary, decimals with
negative scale, zero sizes, empty and non-ASCII names, a hostile time zone -/
def exampleField : Field :=
  .mk "" (.struct (.cons (.mk "名前" (.timestamp .millisecond (some "a\"b\\c\nd")) true [("k", "v")])
    (.cons (.mk "l" (.largeList (.mk "element" (.decimal128 38 (-3)) true [])) false [])
    (.cons (.mk "m" (.map (.mk "entries" (.struct (.cons (.mk "key" .utf8 false []) (.cons (.mk "value" (.fixedSizeBinary 0) true []) .nil)))
        false []) false) true [])
    (.cons (.mk "u" (.union (.cons 0 (.mk "A" .null true [(STRATEGY_KEY, "UnknownVariant")])
        (.cons 1 (.mk "B" (.fixedSizeList (.mk "element" .float16 false []) 0) false []) .nil)) .dense) false [])
    (.cons (.mk "d" (.dictionary .uint16 .largeUtf8) true [])
    (.cons (.mk "t" (.time64 .nanosecond) false []) .nil)))))))
    false [("ARROW:extension:name", "x"), (STRATEGY_KEY, "MapAsStruct"), ("a", "")]

theorem exampleField_ok : SchemaOK exampleField := by decide +kernel

example : SchemaOK exampleField := exampleField_ok
example : parseField (printField esc0 exampleField) = .ok exampleField := C09_json_roundtrip esc0 exampleField exampleField_ok
example : SchemaOK (.mk "a" .int32 false []) := by decide +kernel
example : SchemaOK (.mk "a" (.timestamp .second (some "UTC")) true []) := by decide +kernel
example : typeOK (.timestamp .nanosecond (some "\\\"")) = true := by decide +kernel

/-- Defect (repaired by the `fix:` commit): the pinned scanner stops at the first backslash, so a time zone with a
quote, backslash or control character does not survive — the field is in `SchemaOK`, the pinned reader fails. -/
def tzWitness : Field := .mk "t" (.timestamp .second (some "a\"b\\c")) false []

theorem pinned_tz_defect : SchemaOK tzWitness ∧ (parseFieldPinned (printField esc0 tzWitness)).isErr = true ∧
    parseField (printField esc0 tzWitness) = .ok tzWitness := by
  have hs : SchemaOK tzWitness := by decide +kernel
  exact ⟨hs, by decide +kernel, C09_json_roundtrip esc0 tzWitness hs⟩

/-- Known finding: the JSON form has no place for `Map(_, sorted = true)`; it reads back unsorted, without an error. -/
def sortedMapWitness : Field :=
  .mk "m" (.map (.mk "entries" (.struct (.cons (.mk "key" .utf8 false []) (.cons (.mk "value" .int32 true []) .nil))) false []) true) false []

theorem sorted_map_outside : validField sortedMapWitness = true ∧ ¬ SchemaOK sortedMapWitness ∧
    parseField (printField esc0 sortedMapWitness) =
      .ok (.mk "m" (.map (.mk "entries" (.struct (.cons (.mk "key" .utf8 false []) (.cons (.mk "value" .int32 true []) .nil))) false []) false) false []) := by
  decide +kernel

/-- Known finding: union mode and type ids are not written; a sparse union or one with other ids than 0,1,2,…
reads back dense with consecutive ids, without an error. -/
def sparseUnionWitness : Field := .mk "u" (.union (.cons 0 (.mk "A" .int8 false []) .nil) .sparse) false []
def unionIdsWitness : Field := .mk "u" (.union (.cons 5 (.mk "A" .int8 false []) (.cons 3 (.mk "B" .utf8 true []) .nil)) .dense) false []

theorem union_outside :
    validField sparseUnionWitness = true ∧ ¬ SchemaOK sparseUnionWitness ∧
    parseField (printField esc0 sparseUnionWitness) = .ok (.mk "u" (.union (.cons 0 (.mk "A" .int8 false []) .nil) .dense) false []) ∧
    validField unionIdsWitness = true ∧ ¬ SchemaOK unionIdsWitness ∧
    parseField (printField esc0 unionIdsWitness) =
      .ok (.mk "u" (.union (.cons 0 (.mk "A" .int8 false []) (.cons 1 (.mk "B" .utf8 true []) .nil)) .dense) false []) := by
  decide +kernel

/-- by design: a `Null` field is always nullable after reading -/
theorem null_normalised : ¬ SchemaOK (.mk "n" .null false []) ∧
    parseField (printField esc0 (.mk "n" .null false [])) = .ok (.mk "n" .null true []) := by
  decide +kernel

/-- outside the domain because they are not valid schemas: written without complaint, rejected when read -/
theorem invalid_rejected : ∀ f ∈ [
    Field.mk "t" (.time32 .microsecond) false [], .mk "t" (.time64 .second) false [],
    .mk "b" (.fixedSizeBinary (-1)) false [], .mk "l" (.fixedSizeList (.mk "element" .int8 false []) (-2)) false [],
    .mk "i" .int32 false [(STRATEGY_KEY, "MapAsStruct")], .mk "i" .int32 false [(STRATEGY_KEY, "junk")],
    .mk "s" (.struct .nil) false [(STRATEGY_KEY, "UnknownVariant")],
    .mk "d" (.dictionary .utf8 .utf8) false [], .mk "d" (.dictionary .int8 .int32) false [],
    .mk "m" (.map (.mk "entries" .int8 false []) false) false []],
    ¬ SchemaOK f ∧ (parseField (printField esc0 f)).isErr = true := by
  decide +kernel

/-- types the form cannot write at all: serialisation itself is an error -/
theorem unprintable_rejected :
    (printSchema esc0 [.mk "i" (.interval .dayTime) false []]).isErr = true ∧
    (printSchema esc0 [.mk "r" (.runEndEncoded (.mk "run_ends" .int32 false []) (.mk "values" .utf8 true [])) false []]).isErr = true := by
  decide +kernel

end SaModel.Props.C09
