import SaModel.Props.C04Root2
/-
C04 — a NEWTYPE OF A STRUCT as the root type (`struct NewtypeOfStruct(pub Inner);`, zoo type `NewtypeOfStruct`).

The crate accepts a newtype struct around a record as the item type: serde's `serialize_newtype_struct` /
`deserialize_newtype_struct` are transparent for the builders and the readers, and `from_type` traces the inner record.  In the
models that transparency is definitional:

  push ext b (.newtypeStruct _ x) = push ext b x            (Build/Push.lean)        `toMarrow_newtypeStruct`
  readAs fx (.newtype t) a i      = readAs fx t a i         (Read/Reader.lean)       `readAs_newtype`
  mappingDT o (.newtype _ t)      = mappingDT o t           (Roundtrip/Types.lean)   `rootCols_newtype`

so `newtype m (struct n fs)` is a root with the columns of `struct n fs`, and its round trip is the instance of
`C04_roundtrip_bulk_root` (Props/C04Root2.lean) at those columns.
-/
namespace SaModel.Props.C04
open SaModel SaModel.Build SaModel.Spec SaModel.Roundtrip

/-- the value inside a newtype-struct value -/
def unwrapNewtype : Val → Val
  | .newtype v => v
  | v => v

theorem foldlM_push_newtypeStruct (ext : Ext) (m : String) : ∀ (xs : List SVal) (b : B),
    (xs.map (SVal.newtypeStruct m)).foldlM (push ext) b = xs.foldlM (push ext) b
  | [], _ => rfl
  | x :: xs, b => by
    simp only [List.map_cons, List.foldlM_cons]
    have : push ext b (.newtypeStruct m x) = push ext b x := by simp only [push]
    rw [this]
    congr 1
    funext b'
    exact foldlM_push_newtypeStruct ext m xs b'

/-- serializing newtype-wrapped records against a schema is serializing the records -/
theorem toMarrow_newtypeStruct (ext : Ext) (m : String) (fields : List Field) (xs : List SVal) :
    toMarrow ext fields (xs.map (SVal.newtypeStruct m)) = toMarrow ext fields xs := by
  simp only [toMarrow, foldlM_push_newtypeStruct]

theorem toTarget_newtype (m : String) (t : Ty) : toTarget (.newtype m t) = .newtype (toTarget t) := by
  simp only [toTarget]

theorem readAs_newtype (fx : Read.Fixes) (t : Read.Target) (a : Arr) (i : Nat) :
    Read.readAs fx (.newtype t) a i = Read.readAs fx t a i := by
  simp only [Read.readAs]

/-- **C04 for a newtype of a record as the root type** (bulk form; `struct N(S)` with `S = struct n fs` in the grammar).
Hypotheses as in `C04_roundtrip_bulk`, about the newtype: no overwrites, `S` in `fragE` with at least one field, the values
well typed and in scope, at most `i64::MAX` records, `from_type::<N>` returned `fields`, `to_marrow` returned `arrs`.  Then
`Vec<N>::deserialize(Deserializer::from_marrow(fields, views))` returns the batch, normalised. -/
theorem C04_roundtrip_bulk_newtype_root (c : Trace.Code) (O : Trace.Options) (ext : Ext) (m n : String) (fs : TFields)
    (vs : List Val) (fields : List Field) (arrs : List Arr)
    (h0 : O.overwrites = []) (hfrag : fragE (.struct n fs) = true) (hne : fs ≠ .nil)
    (hwt : ∀ v ∈ vs, wt (.newtype m (.struct n fs)) v = true)
    (hsc : ∀ v ∈ vs, inScopeO (viewOpts O) (.newtype m (.struct n fs)) v = true)
    (hlen : vs.length ≤ 9223372036854775807)
    (hft : Trace.fromType c O (toTraceTy (.newtype m (.struct n fs))) = .ok fields)
    (htm : toMarrow ext fields (vs.map (ser (.newtype m (.struct n fs)))) = .ok arrs) :
    readAll (toTarget (.newtype m (.struct n fs))) fields arrs =
      .ok (vs.map fun v => dvalOf (.newtype m (.struct n fs)) (norm (.newtype m (.struct n fs)) v)) :=
  C04_roundtrip_bulk_root c O ext _ _ vs fields arrs h0 (by simpa only [fragE] using hfrag)
    ((rootCols_newtype _ m _).trans (rootCols_struct _ n fs)) (mappingFields_ne_nil _ fs hne) hwt hsc hlen hft htm

/-! ### non-vacuity: the zoo type `struct NewtypeOfStruct(pub Inner);`, `struct Inner { x: i16, y: String }`, default options,
a batch of two values: every hypothesis is met (computed), and the theorem gives what comes back -/

def exNewtypeRoot : Ty := .newtype "NewtypeOfStruct" exInner
def exNBatch : List Val :=
  [.newtype (.struct (.cons (.int 3) (.cons (.str "ab") .nil))), .newtype (.struct (.cons (.int (-32768)) (.cons (.str "ß") .nil)))]
def exNFields : List Field := match Trace.fromType .fixed {} (toTraceTy exNewtypeRoot) with | .ok fs => fs | .error _ => []
def exNArrs : List Arr := match toMarrow {} exNFields (exNBatch.map (ser exNewtypeRoot)) with | .ok a => a | .error _ => []

theorem exNTrace : Trace.fromType .fixed {} (toTraceTy exNewtypeRoot) = .ok exNFields := by decide +kernel
theorem exNBuild : toMarrow {} exNFields (exNBatch.map (ser exNewtypeRoot)) = .ok exNArrs := by decide +kernel

example : exNFields.length = 2 ∧ exNArrs.length = 2 ∧
    exNBatch.map (ser exNewtypeRoot) ≠ exNBatch.map (fun v => ser exInner (unwrapNewtype v)) := by decide +kernel

example : readAll (toTarget exNewtypeRoot) exNFields exNArrs =
    .ok (exNBatch.map fun v => dvalOf exNewtypeRoot (norm exNewtypeRoot v)) :=
  C04_roundtrip_bulk_newtype_root .fixed {} {} "NewtypeOfStruct" "Inner" _ exNBatch exNFields exNArrs rfl (by decide +kernel)
    (by simp) (by decide +kernel) (by decide +kernel) (by decide +kernel) exNTrace exNBuild

end SaModel.Props.C04
