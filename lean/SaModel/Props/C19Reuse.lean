import SaModel.Props.C19
import SaModel.Props.C10Arrays
/-
C19 × C10 — one `ArrayBuilder`, any history, any mix of finishers: every build returns exactly its batch THROUGH EVERY
BACK END.

`Props/C19.lean` (`builder_reuse_agrees`) says, for an abstract core: build k through finisher `f` is `f` applied to the
marrow arrays of build k.  Here the builder model is plugged in (`BuildCore.histCore`: an item of a history is one
`push` / `extend` / `Serializer` call), which makes the marrow history literally the history `Props/C10.lean` runs:

  runMarrow_is_C10_run       `runMarrow (histCore ext ..)` = `C10.run ext` on the same operations
  builder_reuse_one_shot     build k of ANY history, through ANY finisher f, is `f` applied to the ONE-SHOT
                             `to_marrow(fields, batch k)` — the rows added since the previous build, whichever finishers
                             were called before (`to_record_batch`: under the fields of the schema the builder was created
                             with).  No hypothesis on schema or rows.
  builder_reuse_decodes      with the hypotheses of `C10_histories` — `SchemaOKF` and `coveredF` of the fields, alternating raw
                             key / value streams in EVERY operation (`OpsOK structStreamsAlternate`), `OpsOK noRaw` OR the
                             sentinel bound `narrowRoot`; no `Safe` — and
                             `hA`/`hB` (a converted array means what the marrow array means): the arrays of an arrow / arrow2
                             build and the columns of a record batch decode, column by column, to the documented values of
                             batch k.
-/
namespace SaModel.Props.C19
open SaModel SaModel.Backend SaModel.Build SaModel.Lemmas.C19

/-- an operation of a finisher history as an operation of `Props/C10.lean` (every finisher is a `build`) -/
def toOp : HOp Add → C10.Op
  | .add (.push x) => .push x
  | .add (.extend x) => .extend x
  | .add (.viaSerializer x) => .viaSerializer x
  | .finish _ => .build

section
variable {D Out AF AA BF BA : Type}

/-- an addition is the same step of both histories -/
theorem run_add (ext : Ext) (root : B) (a : Add) (ops : List C10.Op) :
    C10.run ext root (toOp (.add a) :: ops) = addTo ext root a >>= fun r => C10.run ext r ops := by
  cases a <;> rfl

/-- with the builder model as core, the marrow history IS the history C10 speaks about -/
theorem runMarrow_is_C10_run (ext : Ext) (dn : List Field → List Arr → R D) (de : D → R Out) :
    ∀ (ops : List (HOp Add)) (self : ArrayBuilder B),
    runMarrow (histCore ext dn de) self ops =
      (C10.run ext self.builder (ops.map toOp)).map fun p => (p.1.map (·.2), { self with builder := p.2 })
  | [], self => rfl
  | .add a :: ops, self => by
    rw [List.map_cons, run_add]
    simp only [runMarrow, serializeInto, histCore, bind, Except.bind, pure, Except.pure]
    cases addTo ext self.builder a with
    | error e => rfl
    | ok b => exact runMarrow_is_C10_run ext dn de ops _
  | .finish f :: ops, self => by
    simp only [runMarrow, List.map, toOp, C10.run, ArrayBuilder.toMarrow, ArrayBuilder.buildArrays, histCore, bind,
      Except.bind, pure, Except.pure]
    cases buildArrays ext self.builder with
    | error e => rfl
    | ok p =>
      dsimp only
      have ih := runMarrow_is_C10_run ext dn de ops { builder := p.2, schema := self.schema }
      simp only [histCore] at ih
      rw [ih]
      cases C10.run ext p.2 (ops.map toOp) with
      | error e => rfl
      | ok q => rfl

theorem finishers_length_builds (ops : List (HOp Add)) : (finishers ops).length = C10.builds (ops.map toOp) := by
  induction ops with
  | nil => rfl
  | cons op ops ih =>
    cases op with
    | add a => cases a <;> exact ih
    | finish f => exact congrArg (· + 1) ih

/-- the builder `ArrayBuilder::new` makes over the builder model: the fresh root, the given fields -/
theorem new_histCore {D Out : Type} {ext : Ext} {dn : List Field → List Arr → R D} {de : D → R Out} {fields : List Field}
    {self : ArrayBuilder B} (h0 : ArrayBuilder.new (histCore ext dn de) fields = .ok self) :
    ∃ r0, newRoot fields = .ok r0 ∧ self = { builder := r0, schema := fields } := by
  obtain ⟨r0, hr, h⟩ := R.bind_eq_ok.mp h0
  exact ⟨r0, hr, (Except.ok.inj h).symm⟩

/-- **every build returns exactly its batch through every back end.**  A builder created for `fields`
(`ArrayBuilder::new` / `from_marrow`; `from_arrow` / `from_arrow2` are this after the field conversion:
`builder_paths_factor`), ANY history of `push` / `extend` / `Serializer` calls and builds through ANY mix of the four
finishers: the history returns one result per build, and build k through finisher `f` is `f` applied to the arrays of
the one-shot `to_marrow(fields, batch k)`, batch k being the rows added since build k-1 — for `to_record_batch` under the
converted `fields`, at the first batch and at every later one.  No hypothesis on the schema or the rows. -/
theorem builder_reuse_one_shot (ext : Ext) (dn : List Field → List Arr → R D) (de : D → R Out)
    (cvA : Conv AF AA) (cvB : Conv BF BA) (validate : List AF → List AA → R Unit)
    (fields : List Field) (self : ArrayBuilder B) (h0 : ArrayBuilder.new (histCore ext dn de) fields = .ok self)
    (ops : List (HOp Add)) (outs : List (R (Built AF AA BA))) (fin : ArrayBuilder B)
    (h : runHistory (histCore ext dn de) cvA cvB validate self ops = .ok (outs, fin)) :
    outs.length = C10.builds (ops.map toOp) ∧ (C10.batchesFrom [] (ops.map toOp)).length = C10.builds (ops.map toOp) ∧
    fin.schema = fields ∧ runRows ext fields (C10.trailing [] (ops.map toOp)) = .ok fin.builder ∧
    ∀ (k : Nat) (f : Finisher) (rows : List SVal), (finishers ops)[k]? = some f →
      (C10.batchesFrom [] (ops.map toOp))[k]? = some rows →
      ∃ arrays, Build.toMarrow ext fields rows = .ok arrays ∧
        outs[k]? = some (convertBuilt cvA cvB validate fields f arrays) := by
  obtain ⟨r0, hr, rfl⟩ := new_histCore h0
  obtain ⟨mouts, hm, hs, hl1, hl2, hk⟩ := builder_reuse_each _ cvA cvB validate ops _ fin outs h
  rw [runMarrow_is_C10_run] at hm
  cases hc : C10.run ext r0 (ops.map toOp) with
  | error e => simp [hc, Except.map] at hm
  | ok p =>
    obtain ⟨couts, cfin⟩ := p
    simp only [hc, Except.map, Except.ok.injEq, Prod.mk.injEq] at hm
    obtain ⟨rfl, rfl⟩ := hm
    obtain ⟨hall, htr⟩ := C10.run_oneShot ext fields r0 hr (ops.map toOp) couts cfin hc
    obtain ⟨hlen, hget⟩ := Props.C03.All2_get hall
    have hb := C10.batchesFrom_length (ops.map toOp) []
    refine ⟨by rw [hl1, finishers_length_builds], hb, hs, htr, ?_⟩
    intro k f rows hf hrows
    obtain ⟨hk1, hrows'⟩ := List.getElem?_eq_some_iff.mp hrows
    have hk2 : k < couts.length := by omega
    obtain ⟨_, hone⟩ := hget k hk2 hk1
    rw [hrows'] at hone
    refine ⟨couts[k].2, hone, hk k f couts[k].2 hf ?_⟩
    simp [List.getElem?_map, List.getElem?_eq_getElem hk2]

/-- what a converted build means, when a converted array means what the marrow array means -/
theorem convertBuilt_decodes (cvA : Conv AF AA) (cvB : Conv BF BA) (validate : List AF → List AA → R Unit)
    (decodeA : AA → List (R LVal)) (decodeB : BA → List (R LVal))
    (hA : ∀ a aa, cvA.arrayOfMarrow a = .ok aa → decodeA aa = Spec.decodeAll a)
    (hB : ∀ a ba, cvB.arrayOfMarrow a = .ok ba → decodeB ba = Spec.decodeAll a)
    (schema : List Field) (f : Finisher) (arrays : List Arr) :
    ∀ b : Built AF AA BA, convertBuilt cvA cvB validate schema f arrays = .ok b →
    match b with
    | .marrow a => a = arrays
    | .arrow as => as.map decodeA = arrays.map Spec.decodeAll
    | .arrow2 bs => bs.map decodeB = arrays.map Spec.decodeAll
    | .recordBatch batch => batch.columns.map decodeA = arrays.map Spec.decodeAll ∧
        schema.mapM cvA.fieldOfMarrow = .ok batch.fields ∧ batch.schemaMetadata = [] := by
  intro b h
  cases f with
  | marrow => cases h; rfl
  | arrow =>
    cases hc : List.mapM cvA.arrayOfMarrow arrays with
    | error e => rw [convertBuilt, hc] at h; cases h
    | ok as => rw [convertBuilt, hc] at h; cases h; exact mapM_ok_map _ _ _ hA _ _ hc
  | arrow2 =>
    cases hc : List.mapM cvB.arrayOfMarrow arrays with
    | error e => rw [convertBuilt, hc] at h; cases h
    | ok bs => rw [convertBuilt, hc] at h; cases h; exact mapM_ok_map _ _ _ hB _ _ hc
  | recordBatch =>
    cases hc : recordBatchOf cvA validate schema (List.mapM cvA.arrayOfMarrow arrays) with
    | error e => rw [convertBuilt, hc] at h; cases h
    | ok batch =>
      have h' := h
      rw [convertBuilt, hc] at h'; cases h'
      obtain ⟨_, h2, h3, h4, _⟩ := convertBuilt_recordBatch cvA cvB validate schema _ arrays batch h
      exact ⟨mapM_ok_map _ _ _ hA _ _ h4, h2, h3⟩

/-- … and what the arrays mean: under the hypotheses of `C10.C10_histories` — `hschema` (`SchemaOKF`), `hcov` (`coveredF`),
`hraw` (`OpsOK structStreamsAlternate`: the raw key / value call streams of every record of every operation alternate) and
`hnar` (no raw stream in ANY operation, or the sentinel bound `narrowRoot`); NO `Safe`
hypothesis — `Props.C01.C01_build_decode'`, the hidden-rows refinement — and `hA` / `hB` (a converted array decodes to what the marrow array decodes to — the hypotheses of
`backends_agree`, validated by the `backend` suite), the arrays of build k — marrow's, arrow's, arrow2's, the columns of a
record batch — decode, column by column, to the documented values of the records of batch k. -/
theorem builder_reuse_decodes (ext : Ext) (dn : List Field → List Arr → R D) (de : D → R Out)
    (cvA : Conv AF AA) (cvB : Conv BF BA) (validate : List AF → List AA → R Unit)
    (decodeA : AA → List (R LVal)) (decodeB : BA → List (R LVal))
    (hA : ∀ a aa, cvA.arrayOfMarrow a = .ok aa → decodeA aa = Spec.decodeAll a)
    (hB : ∀ a ba, cvB.arrayOfMarrow a = .ok ba → decodeB ba = Spec.decodeAll a)
    (fields : List Field) (self : ArrayBuilder B) (h0 : ArrayBuilder.new (histCore ext dn de) fields = .ok self)
    (hschema : ∀ f ∈ fields, Lemmas.C03.SchemaOKF f) (hcov : fields.all Build.coveredF = true)
    (ops : List (HOp Add)) (hraw : C10.OpsOK (fun x => structStreamsAlternate x = true) (ops.map toOp))
    (hnar : C10.OpsOK (fun x => noRaw x = true) (ops.map toOp) ∨ narrowRoot fields = true)
    (outs : List (R (Built AF AA BA))) (fin : ArrayBuilder B)
    (h : runHistory (histCore ext dn de) cvA cvB validate self ops = .ok (outs, fin))
    (k : Nat) (rows : List SVal) (hrows : (C10.batchesFrom [] (ops.map toOp))[k]? = some rows)
    (b : Built AF AA BA) (hb : outs[k]? = some (.ok b)) :
    ∃ arrays, C10.DecodesTo ext fields arrays rows ∧
      match b with
      | .marrow a => a = arrays
      | .arrow as => as.map decodeA = arrays.map Spec.decodeAll
      | .arrow2 bs => bs.map decodeB = arrays.map Spec.decodeAll
      | .recordBatch batch => batch.columns.map decodeA = arrays.map Spec.decodeAll ∧
          fields.mapM cvA.fieldOfMarrow = .ok batch.fields ∧ batch.schemaMetadata = [] := by
  obtain ⟨hl, _, _, _, hk⟩ := builder_reuse_one_shot ext dn de cvA cvB validate fields self h0 ops outs fin h
  -- build k was returned, so a k-th finisher was called
  have hk1 : k < (finishers ops).length := by
    rw [finishers_length_builds, ← hl]; exact (List.getElem?_eq_some_iff.mp hb).1
  obtain ⟨arrays, hone, hout⟩ := hk k _ rows (List.getElem?_eq_getElem hk1) hrows
  rw [hb, Option.some.injEq] at hout
  have hb' := convertBuilt_decodes cvA cvB validate decodeA decodeB hA hB fields _ arrays b hout.symm
  refine ⟨arrays, ?_, by cases b <;> exact hb'⟩
  -- the marrow arrays of the batch decode to the batch (C10_histories through the one-shot conversion)
  exact C10.decodes_of_ok ext fields hschema hcov rows arrays
    (C10.mem_batchesFrom (C10.DecodeOK fields) (ops.map toOp) [] (by simp) (hraw.decodeOK hnar) rows
      (List.mem_of_getElem? hrows)) hone

end

/-! ### non-vacuity: the history of `Props/C10Arrays.lean` (a dictionary column with per-batch state and a nullable list,
rows added through all three front ends, an empty build) finished through `to_record_batch`, `to_arrow2`,
`to_record_batch` on one builder -/

section examples
open C10

def exHistory : List (HOp Add) :=
  [.add (.push (exRec "x" [1])), .add (.extend (.seq (.cons (exRec "y" []) (.cons (exRec "x" [2, 3]) .nil)))),
   .finish .recordBatch, .finish .arrow2,
   .add (.viaSerializer (.tuple (.cons (exRec "z" []) .nil))), .add (.push (.record "R" (.cons "d" 0 (.str "z") .nil))),
   .finish .recordBatch]

def exCore : Core B Add (List Arr) Nat := histCore {} (fun _ views => .ok views) (fun views => .ok views.length)

/-- arrow's column-count check -/
def exValidate : List Field → List Arr → R Unit :=
  fun fs as => if fs.length == as.length then .ok () else fail "number of columns"

example : exHistory.map toOp = exOps ∧ finishers exHistory = [.recordBatch, .arrow2, .recordBatch] := ⟨rfl, rfl⟩

theorem exBuilder : ArrayBuilder.new exCore exFields = .ok { builder := exRoot0, schema := exFields } := by
  simp only [ArrayBuilder.new, exCore, histCore, exNew, bind, Except.bind, pure, Except.pure]

/-- the history succeeds; the first and the THIRD build are record batches with the fields the builder was created with,
of 3 and 2 rows, the second build has no rows -/
example : (runHistory exCore Conv.id Conv.id exValidate { builder := exRoot0, schema := exFields } exHistory).map
      (fun p => p.1.map fun
        | .ok (.recordBatch b) => (some b.fields, b.columns.map fun a => (Spec.decodeAll a).length)
        | .ok (.arrow2 a) => (none, a.map fun a => (Spec.decodeAll a).length)
        | _ => (none, [])) =
    .ok [(some exFields, [3, 3]), (none, [0, 0]), (some exFields, [2, 2])] := by decide +kernel

/-- `builder_reuse_one_shot` applies to it: every build is its finisher applied to the one-shot conversion of its batch -/
example : ∀ outs fin, runHistory exCore Conv.id Conv.id exValidate { builder := exRoot0, schema := exFields } exHistory =
      .ok (outs, fin) →
    ∃ arrays, Build.toMarrow {} exFields [exRec "z" [], .record "R" (.cons "d" 0 (.str "z") .nil)] = .ok arrays ∧
      outs[2]? = some (convertBuilt Conv.id Conv.id exValidate exFields .recordBatch arrays) := by
  intro outs fin h
  have := (builder_reuse_one_shot {} _ _ Conv.id Conv.id exValidate exFields _ exBuilder exHistory outs fin h).2.2.2.2
  exact this 2 .recordBatch _ (by decide) (by decide)

/-- `builder_reuse_decodes` applies to it with every hypothesis discharged (identity conversions): the third build — a
record batch — holds columns that decode to the documented values of the two records of batch 2 -/
example : ∀ outs fin, runHistory exCore Conv.id Conv.id exValidate { builder := exRoot0, schema := exFields } exHistory =
      .ok (outs, fin) → ∀ b, outs[2]? = some (.ok b) →
    ∃ arrays, DecodesTo {} exFields arrays [exRec "z" [], .record "R" (.cons "d" 0 (.str "z") .nil)] := by
  intro outs fin h b hb
  obtain ⟨arrays, hd, _⟩ := builder_reuse_decodes {} _ _ Conv.id Conv.id exValidate Spec.decodeAll Spec.decodeAll
    (by intro a aa h; cases h; rfl) (by intro a aa h; cases h; rfl) exFields _ exBuilder
    exFields_schemaOK exFields_covered exHistory
    (by unfold OpsOK; decide) (Or.inl (by unfold OpsOK; decide)) outs fin h 2
    [exRec "z" [], .record "R" (.cons "d" 0 (.str "z") .nil)] (by decide) b hb
  exact ⟨arrays, hd⟩

/-- a history outside `OpsOK noRaw` (the first alternative of `hnar`): one record arrives as an ALTERNATING raw
`SerializeMap` call stream (key, value, key, value), the build goes through `to_arrow` -/
def exRawRec : SVal := .mapRaw (.key (.str "d") (.value (.str "x") (.key (.str "l") (.value .none .nil))))
def exRawHistory : List (HOp Add) := [.add (.push exRawRec), .add (.push (exRec "y" [4])), .finish .arrow]

example : noRaw exRawRec = false ∧
    (runHistory exCore Conv.id Conv.id exValidate { builder := exRoot0, schema := exFields } exRawHistory).isOk = true :=
  ⟨by decide, by decide +kernel⟩

/-- `builder_reuse_decodes` applies to it (through `narrowRoot`): the arrow arrays of its build decode to the documented
values of both records -/
example : ∀ outs fin, runHistory exCore Conv.id Conv.id exValidate { builder := exRoot0, schema := exFields } exRawHistory =
      .ok (outs, fin) → ∀ as, outs[0]? = some (.ok (.arrow as)) →
    ∃ arrays, DecodesTo {} exFields arrays [exRawRec, exRec "y" [4]] ∧ as.map Spec.decodeAll = arrays.map Spec.decodeAll := by
  intro outs fin h as hb
  exact builder_reuse_decodes {} _ _ Conv.id Conv.id exValidate Spec.decodeAll Spec.decodeAll
    (by intro a aa h; cases h; rfl) (by intro a aa h; cases h; rfl) exFields _ exBuilder
    exFields_schemaOK exFields_covered exRawHistory
    (by unfold OpsOK; decide) (Or.inr (by decide)) outs fin h 0 [exRawRec, exRec "y" [4]] (by decide) (.arrow as) hb

end examples

end SaModel.Props.C19
