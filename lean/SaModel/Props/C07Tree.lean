import SaModel.Lemmas.C07LMain
import SaModel.Lemmas.C07TSchema
/-
C07 at tree level — the traced tracer tree does not depend on sample order, for arbitrary nested samples.
Model: SaModel/Trace/{Tracer,FromSamples}.lean (repaired code, `Code.fixed`).  Lemmas: SaModel/Lemmas/C07T*.lean
(congruence / schema), SaModel/Lemmas/C07L*.lean (least upper bound, success below an upper bound).

* `TracerEquiv` (`≃`): the equivalence the property allows on tracer trees — struct fields are compared as a finite
  map by name (any order), `last_seen_in_sample` is ignored, `seen_samples` is compared only as zero / non-zero;
  everything else (names, paths, nullable flags, leaf types, struct mode, tuple positions, variant slots) is equal.
* `Reachable o t`: the invariant every tracer built by `from_samples` satisfies (leaf states of the alphabet, distinct
  field names, `last_seen_in_sample < seen_samples`).
* `TracerLe o t u` (`⊑`): the information order (leaf: the coercion order of the leaf tables; nullable `false ⊑ true`;
  `Unknown` / `Null` below every node with the canonical names and paths; struct: fields by name, missing ⊑ present
  (nullable once a sample has been seen), mode `struct ⊑ map`; tuple / union by position; list / map pointwise).
  `tracerLe_antisymm`: `t ⊑ u ⊑ t` gives `t ≃ u`.
* `absorb_lub` (EVERY option setting, `allow_to_string` included): a successful `absorb t x = a` is the LEAST tracer
  above `t` that has absorbed `x`: `t ⊑ a`, and for every reachable `u ⊒ t`: `u` absorbs `x` without moving ⇔ `a ⊑ u`.
* `absorbAll_same_set`: two runs from one tracer over the same SET of nested samples (any order, any multiplicity) that
  both succeed end in equivalent tracers; `absorb_idem`, `absorbAll_repeat` — no side condition.
* `absorb_congr`, `absorb_comm`, `absorbAll_perm`, `fromSamplesTracer_perm`: the swap laws
  (both orders fail TOGETHER) — these need `allow_to_string = false` (`allow_to_string_needed`), `absorb_congr` apart.
  They are instances of `same_set_out` (the outcome of a run depends only on the set of its samples; `fromSamples_set`
  on schemas): the results are equivalent by `absorb_lub`, and unless `allow_to_string` a sample that a tracer absorbs
  is absorbed by every tracer below it (SaModel/Lemmas/C07LDown.lean), so both runs succeed when one does.
  `absorb_congr` is the same argument for two equivalent tracers (they are below each other), every option setting.
* `tracerEquiv_schema`: equivalent reachable tracers give `Spec.schemaEquiv` schemas or fail alike; hence on schemas
  `C07_permutation` (two orders that both succeed give equivalent schemas — every option setting), `C07_repeat`
  (tracing `xs ++ xs` is tracing `xs` — every option setting), `C07_success_order` (unless `allow_to_string`, success
  itself does not depend on the order).
-/
namespace SaModel.Props.C07
open SaModel SaModel.Trace SaModel.Lemmas.C07

abbrev TracerEquiv (a b : Tracer) : Prop := Eqv a b

abbrev Reachable (o : Options) (t : Tracer) : Prop := WF o t

/-- both succeed with equivalent reachable tracers, or both fail -/
abbrev OutEq' (o : Options) (r r' : R Tracer) : Prop := OutEqv o r r'

theorem reachable_new (o : Options) (name path : String) : Reachable o (Tracer.new name path) := by
  unfold Reachable Tracer.new; rw [WF]; trivial

theorem TracerEquiv.refl {o : Options} {t : Tracer} (h : Reachable o t) : TracerEquiv t t := Eqv.refl h
theorem TracerEquiv.symm {a b : Tracer} (h : TracerEquiv a b) : TracerEquiv b a := Eqv.symm h
theorem TracerEquiv.trans {a b c : Tracer} (h : TracerEquiv a b) (h' : TracerEquiv b c) : TracerEquiv a c :=
  Eqv.trans h h'

/-- absorbing any sample preserves the invariant -/
theorem absorb_reachable (o : Options) {t a : Tracer} (x : SVal) (ht : Reachable o t)
    (h : absorb .fixed o t x = .ok a) : Reachable o a := absorb_wf o ht h

/-- `absorb_congr`: absorbing any (nested) sample respects the equivalence — every option setting -/
theorem absorb_congr (o : Options) {t t' : Tracer} (ht : Reachable o t) (ht' : Reachable o t') (he : TracerEquiv t t')
    (x : SVal) : OutEq' o (absorb .fixed o t x) (absorb .fixed o t' x) := cong_out o ht ht' he x

/-- `absorb_comm`: any two nested samples `x`, `y` can be swapped at any reachable tracer: both orders fail, or both
succeed with equivalent tracers (unless `allow_to_string`) -/
theorem absorb_comm (o : Options) (hno : o.allow_to_string = false) {t : Tracer} (ht : Reachable o t) (x y : SVal) :
    OutEq' o (absorb2 .fixed o t x y) (absorb2 .fixed o t y x) := swap_out hno ht x y

/-- every permutation of a list of nested samples, from equivalent reachable tracers -/
theorem absorbAll_perm (o : Options) (hno : o.allow_to_string = false) {xs ys : List SVal} (hp : xs.Perm ys)
    {t t' : Tracer} (ht : Reachable o t) (ht' : Reachable o t') (he : TracerEquiv t t') :
    OutEq' o (absorbAll .fixed o t xs) (absorbAll .fixed o t' ys) := perm_out hno hp ht ht' he

/-- `Tracer::from_samples` (including `check`) succeeds for a permutation iff it succeeds for the original, with
equivalent tracers -/
theorem fromSamplesTracer_perm (o : Options) (hno : o.allow_to_string = false) {xs ys : List SVal} (hp : xs.Perm ys) :
    OutEq' o (fromSamplesTracer .fixed o xs) (fromSamplesTracer .fixed o ys) :=
  fromSamplesTracer_out (perm_out hno hp (reachable_new o "$" "$") (reachable_new o "$" "$")
    (Eqv.refl (reachable_new o "$" "$")))

/-! ### the least-upper-bound law (every option setting) -/

abbrev TracerLe (o : Options) (t u : Tracer) : Prop := TLe o t u

theorem tracerLe_refl (o : Options) {t : Tracer} (ht : Reachable o t) : TracerLe o t t := TLe_refl o t ht

theorem tracerLe_trans {o : Options} {a b c : Tracer} (ha : Reachable o a) (hb : Reachable o b) (hc : Reachable o c)
    (h1 : TracerLe o a b) (h2 : TracerLe o b c) : TracerLe o a c := TLe_trans h1 ha hb hc h2

theorem tracerLe_antisymm {o : Options} {a b : Tracer} (ha : Reachable o a) (hb : Reachable o b)
    (h1 : TracerLe o a b) (h2 : TracerLe o b a) : TracerEquiv a b := eqv_of_le ha hb h1 h2

/-- `absorb_lub`: a successful `absorb t x = a` is the least tracer above `t` that has absorbed `x` — for every nested
sample, every reachable tracer and EVERY option setting (`allow_to_string` included): `t ⊑ a`, and a reachable `u ⊒ t`
absorbs `x` without moving up exactly when `a ⊑ u` -/
theorem absorb_lub (o : Options) {t a : Tracer} (x : SVal) (ht : Reachable o t) (h : absorb .fixed o t x = .ok a) :
    TracerLe o t a ∧ ∀ u, Reachable o u → TracerLe o t u →
      ((∃ b, absorb .fixed o u x = .ok b ∧ TracerLe o b u) ↔ TracerLe o a u) := by
  refine ⟨(lub_any o x t t a ht ht (TLe_refl o t ht) h).1, ?_⟩
  intro u hu htu
  obtain ⟨_, L2, L3⟩ := lub_any o x t u a ht hu htu h
  constructor
  · rintro ⟨b, hb, hle⟩
    exact TLe_trans (L2 b hb) (absorb_reachable o x ht h) (absorb_reachable o x hu hb) hu hle
  · exact L3

/-- two runs from one reachable tracer over the same SET of nested samples — any order, any multiplicity — that both
succeed end in equivalent tracers (every option setting) -/
theorem absorbAll_same_set (o : Options) {xs ys : List SVal} {t t1 t2 : Tracer} (ht : Reachable o t)
    (hset : ∀ x, x ∈ xs ↔ x ∈ ys) (h1 : absorbAll .fixed o t xs = .ok t1) (h2 : absorbAll .fixed o t ys = .ok t2) :
    TracerEquiv t1 t2 := same_set_eqv ht h1 h2 hset

/-- `absorb_idem`: a sample that has been absorbed is absorbed again without changing the tracer (every option
setting) -/
theorem absorb_idem (o : Options) {t t' : Tracer} (ht : Reachable o t) (x : SVal)
    (h : absorb .fixed o t x = .ok t') : OutEq' o (absorb .fixed o t' x) (.ok t') := by
  have hw' := absorb_reachable o x ht h
  obtain ⟨b, hb, he⟩ := absorbed_again ht h
  exact .inl ⟨b, t', hb, rfl, he, absorb_reachable o x hw' hb, hw'⟩

/-- tracing a list twice is tracing it once (same failure, equivalent tracers; every option setting) -/
theorem absorbAll_repeat (o : Options) {t : Tracer} (ht : Reachable o t)
    (xs : List SVal) : OutEq' o (absorbAll .fixed o t (xs ++ xs)) (absorbAll .fixed o t xs) := by
  cases h : absorbAll .fixed o t xs with
  | ok t' =>
    obtain ⟨b, hb, he⟩ := run_again ht h
    have hw' := absorbAll_wf o ht h
    exact .inl ⟨b, t', absorbAll_append_mk h hb, rfl, he, absorbAll_wf o hw' hb, hw'⟩
  | error e =>
    refine .inr ⟨?_, rfl⟩
    cases h2 : absorbAll .fixed o t (xs ++ xs) with
    | error _ => rfl
    | ok a =>
      obtain ⟨m, h3, _⟩ := absorbAll_append_ok h2
      rw [h] at h3; cases h3

/-- both succeed with schemas that are equal up to the order of the children of plain structs
(`Spec.schemaEquiv`), or both fail -/
abbrev SchemaOutEq' (r r' : R (List Field)) : Prop := SchemaOutEq r r'

/-- equivalent reachable tracers give equivalent schemas, or `to_schema` fails for both -/
theorem tracerEquiv_schema (o : Options) {a b : Tracer} (he : TracerEquiv a b) (ha : Reachable o a) (hb : Reachable o b) :
    SchemaOutEq' (a.to_schema o) (b.to_schema o) := schema_out he ha hb

/-- unless `allow_to_string`, tracing depends only on the SET of samples (any order, any multiplicity): two collections
with the same samples both fail, or give equivalent schemas (the tree-level form of `leaf_same_set`) -/
theorem fromSamples_set (o : Options) (hno : o.allow_to_string = false) {xs ys : List SVal}
    (hset : ∀ x, x ∈ xs ↔ x ∈ ys) : SchemaOutEq' (fromSamples .fixed o xs) (fromSamples .fixed o ys) :=
  schema_of_tracers (fromSamplesTracer_out (same_set_out hno (reachable_new o "$" "$") hset))

/-- `C07_permutation` + `C07_success_order` for arbitrary nested samples: unless `allow_to_string`, tracing any
permutation of a sample collection fails iff tracing the collection fails, and otherwise gives an equivalent schema -/
theorem fromSamples_perm (o : Options) (hno : o.allow_to_string = false) {xs ys : List SVal} (hp : xs.Perm ys) :
    SchemaOutEq' (fromSamples .fixed o xs) (fromSamples .fixed o ys) := fromSamples_set o hno fun _ => hp.mem_iff

theorem fromSamples_success_order (o : Options) (hno : o.allow_to_string = false) {xs ys : List SVal} (hp : xs.Perm ys) :
    (fromSamples .fixed o xs).isOk = (fromSamples .fixed o ys).isOk := by
  rcases fromSamples_perm o hno hp with ⟨s, s', h1, h2, _⟩ | ⟨h1, h2⟩
  · rw [h1, h2]; rfl
  · rw [h1, h2]

/-- `C07_repeat` for arbitrary nested samples, every option setting: tracing a collection twice is tracing it once -/
theorem fromSamples_repeat (o : Options) (xs : List SVal) :
    SchemaOutEq' (fromSamples .fixed o (xs ++ xs)) (fromSamples .fixed o xs) :=
  schema_of_tracers (fromSamplesTracer_out (absorbAll_repeat o (reachable_new o "$" "$") xs))

/-- two sample collections with the same SET of samples — any order, any multiplicity — that both trace successfully
give equivalent schemas (every option setting; the tree-level form of `leaf_order_and_repetition`) -/
theorem fromSamples_same_set (o : Options) {xs ys : List SVal} (hset : ∀ x, x ∈ xs ↔ x ∈ ys)
    {s₁ s₂ : List Field} (h1 : fromSamples .fixed o xs = .ok s₁) (h2 : fromSamples .fixed o ys = .ok s₂) :
    Spec.schemaEquiv s₁ s₂ = true := by
  have hn := reachable_new o "$" "$"
  have tr_ok : ∀ {zs : List SVal} {s : List Field}, fromSamples .fixed o zs = .ok s →
      ∃ a, fromSamplesTracer .fixed o zs = .ok a := by
    intro zs s h
    rw [fromSamples_eq] at h
    cases hf : fromSamplesTracer .fixed o zs with
    | ok a => exact ⟨a, rfl⟩
    | error e => rw [hf] at h; cases h
  obtain ⟨a, ha⟩ := tr_ok h1
  obtain ⟨b, hb⟩ := tr_ok h2
  have ha' := (fromSamplesTracer_ok.mp ha).1
  have hb' := (fromSamplesTracer_ok.mp hb).1
  have he := absorbAll_same_set o hn hset ha' hb'
  have hout : OutEq' o (fromSamplesTracer .fixed o xs) (fromSamplesTracer .fixed o ys) :=
    .inl ⟨a, b, ha, hb, he, absorbAll_wf o hn ha', absorbAll_wf o hn hb'⟩
  rcases schema_of_tracers hout with ⟨s, s', e1, e2, he'⟩ | ⟨e1, _⟩
  · rw [h1] at e1; rw [h2] at e2; cases e1; cases e2; exact he'
  · rw [h1] at e1; cases e1

/-! ### the statements of DESIGN.md section 5 -/

/-- `C07_permutation`: two permutations of a sample collection that both trace successfully give equivalent schemas —
arbitrary nested samples, EVERY option setting (with `allow_to_string` success itself may depend on the order:
`allow_to_string_needed`; without it see `C07_success_order`) -/
theorem C07_permutation (o : Options) {xs ys : List SVal} (hp : xs.Perm ys)
    {s₁ s₂ : List Field} (h1 : fromSamples .fixed o xs = .ok s₁) (h2 : fromSamples .fixed o ys = .ok s₂) :
    Spec.schemaEquiv s₁ s₂ = true := fromSamples_same_set o (fun _ => hp.mem_iff) h1 h2

/-- `C07_success_order`: unless `allow_to_string`, success does not depend on the order of the collection -/
theorem C07_success_order (o : Options) (hno : o.allow_to_string = false) {xs ys : List SVal} (hp : xs.Perm ys) :
    (fromSamples .fixed o xs).isOk = (fromSamples .fixed o ys).isOk := fromSamples_success_order o hno hp

/-- `C07_repeat`: tracing a collection twice fails iff tracing it once fails and otherwise gives an equivalent
schema — arbitrary nested samples, EVERY option setting -/
theorem C07_repeat (o : Options) (xs : List SVal) :
    SchemaOutEq' (fromSamples .fixed o (xs ++ xs)) (fromSamples .fixed o xs) := fromSamples_repeat o xs

/-! ### the zoo of nested shapes (`SaModel/Lemmas/C07Zoo.lean`) -/

/-- swapping two samples gives an equivalent schema or fails alike; a success / failure mismatch only under
`allow_to_string` — every option setting, every pair of samples -/
theorem swapOK_all (o : Options) (x y : SVal) : swapOK o x y = true := by
  have hp : (itemsOf [x, y]).Perm (itemsOf [y, x]) := List.Perm.swap _ _ _
  have mismatch : (fromSamples .fixed o (itemsOf [x, y])).isOk ≠ (fromSamples .fixed o (itemsOf [y, x])).isOk →
      o.allow_to_string = true := fun hne => by
    cases h : o.allow_to_string with
    | true => rfl
    | false => exact absurd (C07_success_order o h hp) hne
  unfold swapOK
  cases h1 : fromSamples .fixed o (itemsOf [x, y]) with
  | ok a =>
    cases h2 : fromSamples .fixed o (itemsOf [y, x]) with
    | ok b => exact C07_permutation o hp h1 h2
    | error e => exact mismatch (by rw [h1, h2]; exact Bool.noConfusion)
  | error e =>
    cases h2 : fromSamples .fixed o (itemsOf [y, x]) with
    | ok b => exact mismatch (by rw [h1, h2]; exact Bool.noConfusion)
    | error e' => rfl

/-- tracing a pair of samples twice changes nothing — every option setting, every pair of samples -/
theorem repeatOK_all (o : Options) (x y : SVal) : repeatOK o x y = true := by
  unfold repeatOK
  rw [show itemsOf [x, y, x, y] = itemsOf [x, y] ++ itemsOf [x, y] from rfl]
  rcases C07_repeat o (itemsOf [x, y]) with ⟨a, b, h1, h2, he⟩ | ⟨h1, h2⟩
  · rw [h1, h2]; exact he
  · cases h3 : fromSamples .fixed o (itemsOf [x, y] ++ itemsOf [x, y]) with
    | ok a => rw [h3] at h1; cases h1
    | error e =>
      cases h4 : fromSamples .fixed o (itemsOf [x, y]) with
      | ok b => rw [h4] at h2; cases h2
      | error e' => rfl

/-- `absorb_comm` and `C07_repeat` on the zoo (repaired code): every ordered pair of 20 nested shapes (optional, lists,
structs with missing fields, maps with varying keys, tuples, enum variants, nesting) under 4 option settings, through the
whole `from_samples(Items(..))` pipeline: swapping the two samples gives an equivalent schema or fails alike (a
success/failure mismatch only under `allow_to_string`), and tracing the pair twice changes nothing.  An instance of
`C07_permutation`, `C07_success_order` and `C07_repeat` (`swapOK_all`, `repeatOK_all`). -/
theorem absorb_comm_on_zoo : ∀ o ∈ zooOpts, ∀ x ∈ zooVals, ∀ y ∈ zooVals, swapOK o x y = true ∧ repeatOK o x y = true :=
  fun o _ x _ y _ => ⟨swapOK_all o x y, repeatOK_all o x y⟩

/-! ### the side condition is needed; non-vacuity -/

/-- with `allow_to_string` the swap law fails: at a position that has seen a `bool`, `"x"` then `1i64` is accepted
(both become strings), `1i64` then `"x"` is not -/
theorem allow_to_string_needed :
    let o : Options := { allow_to_string := true }
    let t : Tracer := .primitive "a" "$.a" false .boolean none
    Reachable o t ∧ (absorb2 .fixed o t (.str "x") (.int .i64 1)).isOk = true ∧
      (absorb2 .fixed o t (.int .i64 1) (.str "x")).isOk = false := by
  refine ⟨?_, by decide, by decide⟩
  show WF _ _
  rw [WF]
  exact ⟨rfl, mem_leafStates.mpr ⟨by simp [leafTypes], fun h => by cases h⟩⟩

/-! non-vacuity: a struct sample and a map sample with the same keys, at the root tracer: both orders succeed -/
example : (absorb2 .fixed {} (Tracer.new "$" "$") wRec wMap).isOk = true ∧
    (absorb2 .fixed {} (Tracer.new "$" "$") wMap wRec).isOk = true := by decide

/-- the equivalence is not equality: the two orders of `{a}` and `{b, a}` give different, equivalent tracers -/
example : ∃ a b, absorb2 .fixed {} (Tracer.new "$" "$") (zrec [("a", zi 1)]) (zrec [("b", .str "s"), ("a", zi 2)]) = .ok a ∧
    absorb2 .fixed {} (Tracer.new "$" "$") (zrec [("b", .str "s"), ("a", zi 2)]) (zrec [("a", zi 1)]) = .ok b ∧
    a ≠ b ∧ TracerEquiv a b := by
  have hne : absorb2 .fixed {} (Tracer.new "$" "$") (zrec [("a", zi 1)]) (zrec [("b", .str "s"), ("a", zi 2)]) ≠
      absorb2 .fixed {} (Tracer.new "$" "$") (zrec [("b", .str "s"), ("a", zi 2)]) (zrec [("a", zi 1)]) := by decide
  rcases absorb_comm {} rfl (reachable_new {} "$" "$") (zrec [("a", zi 1)]) (zrec [("b", .str "s"), ("a", zi 2)]) with
    ⟨a, b, h1, h2, he, _, _⟩ | ⟨h1, _⟩
  · exact ⟨a, b, h1, h2, fun e => hne (by rw [h1, h2, e]), he⟩
  · have : (absorb2 .fixed {} (Tracer.new "$" "$") (zrec [("a", zi 1)]) (zrec [("b", .str "s"), ("a", zi 2)])).isOk = true := by
      decide
    rw [this] at h1; cases h1

/-- `absorb_idem` / `absorbAll_repeat` are not vacuous: a nested sample is absorbed at the root -/
example : (absorb .fixed {} (Tracer.new "$" "$") (zrec [("a", zrec [("p", zseq [zi 1, .none])])])).isOk = true := by decide

/-- `fromSamples_perm` / `fromSamples_repeat` are not vacuous: the two orders of a struct and a map sample (different
field order) both trace successfully -/
example : (fromSamples .fixed {} (itemsOf [wRec, wMap])).isOk = true ∧ [wRec, wMap].Perm [wMap, wRec] :=
  ⟨C07_struct_map_mode.2, List.Perm.swap _ _ _⟩

/-! non-vacuity of the `allow_to_string` case: nested samples (a list of optionals inside a struct inside a struct)
whose leaves meet as `i64` / `str` / `bool` in different orders: both orders trace successfully (to strings), the
schemas are equivalent by `C07_permutation`, and the samples are absorbed with a change (`absorb_lub` is not about a
fixed point only) -/
def wTs1 : SVal := zrec [("a", zrec [("p", zseq [zi 1, .none]), ("q", .bool true)])]
def wTs2 : SVal := zrec [("a", zrec [("q", .str "x"), ("p", zseq [.str "y"])])]

example : (fromSamples .fixed { allow_to_string := true } (itemsOf [wTs1, wTs2])).isOk = true ∧
    (fromSamples .fixed { allow_to_string := true } (itemsOf [wTs2, wTs1])).isOk = true ∧
    (itemsOf [wTs1, wTs2]).Perm (itemsOf [wTs2, wTs1]) := ⟨by decide +kernel, by decide +kernel, List.Perm.swap _ _ _⟩

/-- `C07_repeat` under `allow_to_string`: the doubled collection succeeds -/
example : (fromSamples .fixed { allow_to_string := true } (itemsOf [wTs1, wTs2] ++ itemsOf [wTs1, wTs2])).isOk = true := by
  decide +kernel

/-- `absorb_lub` is used at a step that moves the tracer: the second sample is absorbed into the result of the first
and changes it -/
example : ∃ a b, absorb .fixed { allow_to_string := true } (Tracer.new "$" "$") wTs1 = .ok a ∧
    absorb .fixed { allow_to_string := true } a wTs2 = .ok b ∧ a ≠ b := by
  have h : (absorb2 .fixed { allow_to_string := true } (Tracer.new "$" "$") wTs1 wTs2).isOk = true := by decide
  cases h1 : absorb .fixed { allow_to_string := true } (Tracer.new "$" "$") wTs1 with
  | error e => unfold absorb2 at h; rw [h1] at h; cases h
  | ok a =>
    cases h2 : absorb .fixed { allow_to_string := true } a wTs2 with
    | error e => unfold absorb2 at h; rw [h1] at h; simp only [h2] at h; cases h
    | ok b =>
      refine ⟨a, b, rfl, h2, ?_⟩
      intro e
      have hne : absorb2 .fixed { allow_to_string := true } (Tracer.new "$" "$") wTs1 wTs2 ≠
          absorb .fixed { allow_to_string := true } (Tracer.new "$" "$") wTs1 := by decide
      apply hne
      unfold absorb2
      rw [h1]
      show absorb .fixed { allow_to_string := true } a wTs2 = .ok a
      rw [h2, e]

end SaModel.Props.C07
