import SaModel.Read.Access
/-
C13 — Deserializer random access, iteration and bulk reads agree: the INDICES.
Property theorems only.  Model: SaModel/Read/Access.lean (deserializer.rs).
The values (what reading the index gives, for every batch, history and target), the bulk read as the list of the item
reads, `get` = iteration, and the statements without fuel (`drain_fuel_irrelevant`: the fuel of `iter_items` /
`size_hint_truthful` hides nothing) are in Props/C13Val.lean.
-/
namespace SaModel.Props.C13
open SaModel SaModel.Access

/-- `get` hands out an item for exactly the indices below `len`, and it is item `i` -/
theorem get_isSome_iff (len i : Nat) : (getIdx len i).isSome ↔ i < len := by
  unfold getIdx; split <;> simp <;> omega

theorem get_eq (len i : Nat) : getIdx len i = if i < len then some i else none := by
  unfold getIdx; split <;> split <;> first | rfl | omega

theorem drain_eq_range' (n : Nat) : ∀ (it : Iter), it.next + n = it.len →
    it.drain n = List.range' it.next n := by
  induction n with
  | zero => intro it _; simp [Iter.drain]
  | succ n ih =>
    intro it h
    have hlt : ¬ it.next ≥ it.len := by omega
    simp only [Iter.drain, Iter.step, hlt, if_false]
    rw [ih { it with next := it.next + 1 } (by simp; omega)]
    simp [List.range'_succ]

/-- iteration yields exactly the indices `0 … len-1`, in order -/
theorem iter_items (len : Nat) : (Iter.new len).drain len = List.range len := by
  rw [drain_eq_range' len (Iter.new len) (by simp [Iter.new])]
  simp [Iter.new, List.range_eq_range']

/-- the bulk `SeqAccess` read visits the same indices as iteration and as `get` -/
theorem bulk_eq_items (len : Nat) : bulk len = List.range len := iter_items len

theorem bulk_get (len i : Nat) (h : i < len) : (bulk len)[i]? = getIdx len i := by
  rw [bulk_eq_items, get_eq]; simp [h]

/-- what is still to come from an iterator in a reachable state -/
def remaining (it : Iter) : List Nat := it.drain (it.len - it.next)

/-- size hints are truthful in every state with `next ≤ len` (all reachable states, below) -/
theorem size_hint_truthful (it : Iter) (h : it.next ≤ it.len) :
    it.sizeHint = ((remaining it).length, some (remaining it).length) := by
  unfold remaining
  rw [drain_eq_range' (it.len - it.next) it (by omega)]
  simp [Iter.sizeHint]

theorem step_inv (it : Iter) (h : it.next ≤ it.len) : it.step.2.next ≤ it.step.2.len ∧
    it.step.2.len = it.len := by
  unfold Iter.step; split <;> simp <;> omega

/-- the pinned `size_hint` is *not* truthful: witness len 3 after one `next` -/
theorem size_hint_pinned_wrong :
    ∃ it : Iter, it.next ≤ it.len ∧
      it.sizeHintPinned ≠ ((remaining it).length, some (remaining it).length) :=
  ⟨{ len := 3, next := 1 }, by decide +kernel, by decide +kernel⟩

/-! ### histories: the operational model refines the abstract sequence spec -/

/-- abstraction relation between iterator cursors and call counts -/
def RelIt (len : Nat) (it : Iter) (c : Nat) : Prop := it.len = len ∧ it.next = min c len

inductive RelL (len : Nat) : List Iter → List Nat → Prop
  | nil : RelL len [] []
  | cons {it c its cs} : RelIt len it c → RelL len its cs → RelL len (it :: its) (c :: cs)

namespace RelL

theorem append {len} {its cs it c} (h : RelL len its cs) (h1 : RelIt len it c) :
    RelL len (its ++ [it]) (cs ++ [c]) := by
  induction h with
  | nil => exact .cons h1 .nil
  | cons hh _ ih => exact .cons hh ih

theorem get {len} {its cs} (h : RelL len its cs) (k : Nat) :
    (its[k]? = none ∧ cs[k]? = none) ∨ ∃ it c, its[k]? = some it ∧ cs[k]? = some c ∧ RelIt len it c := by
  induction h generalizing k with
  | nil => exact .inl ⟨rfl, rfl⟩
  | cons hh _ ih =>
    cases k with
    | zero => exact .inr ⟨_, _, rfl, rfl, hh⟩
    | succ k => exact ih k

theorem set {len} {its cs} (h : RelL len its cs) (k : Nat) {it c} (h1 : RelIt len it c) :
    RelL len (setAt its k it) (setAt cs k c) := by
  induction h generalizing k with
  | nil => exact .nil
  | cons hh ht ih =>
    cases k with
    | zero => exact .cons h1 ht
    | succ k => exact .cons hh (ih k)

end RelL

namespace RelIt

variable {len : Nat} {it : Iter} {c : Nat}

/-- the two shapes of an iterator that stands for `c` calls: still at `c`, or exhausted -/
theorem cases (h : RelIt len it c) : (c < len ∧ it = ⟨len, c⟩) ∨ (len ≤ c ∧ it = ⟨len, len⟩) := by
  obtain ⟨L, x⟩ := it
  obtain ⟨rfl, hn⟩ : L = len ∧ x = min c len := h
  by_cases hc : c < L
  · exact .inl ⟨hc, by rw [hn, Nat.min_eq_left (Nat.le_of_lt hc)]⟩
  · exact .inr ⟨Nat.le_of_not_lt hc, by rw [hn, Nat.min_eq_right (Nat.le_of_not_lt hc)]⟩

theorem exhausted {n : Nat} (hc : len ≤ n) : RelIt len ⟨len, len⟩ n := ⟨rfl, (Nat.min_eq_right hc).symm⟩

/-- one `next` under the abstraction: the item is the call count while it is below `len`, and the count goes up by one -/
theorem step (h : RelIt len it c) :
    it.step.1 = (if c < len then some c else none) ∧ RelIt len it.step.2 (c + 1) := by
  rcases h.cases with ⟨hc, rfl⟩ | ⟨hc, rfl⟩
  · simp only [Iter.step, ge_iff_le, Nat.not_le_of_lt hc, hc, if_false, if_true]
    exact ⟨trivial, rfl, (Nat.min_eq_left hc).symm⟩
  · simp only [Iter.step, ge_iff_le, Nat.le_refl, Nat.not_lt_of_le hc, if_false, if_true]
    exact ⟨trivial, exhausted (Nat.le_succ_of_le hc)⟩

theorem sizeHint (h : RelIt len it c) : it.sizeHint = (len - c, some (len - c)) := by
  rcases h.cases with ⟨_, rfl⟩ | ⟨hc, rfl⟩
  · rfl
  · simp only [Iter.sizeHint, Nat.sub_self, Nat.sub_eq_zero_of_le hc]

end RelIt

theorem step_refines (s : St) (cs : SpecSt) (op : Op) (h : RelL s.len s.iters cs) :
    (step s op).2 = (specStep s.len cs op).2 ∧ (step s op).1.len = s.len ∧
      RelL s.len (step s op).1.iters (specStep s.len cs op).1 := by
  cases op with
  | len => exact ⟨rfl, rfl, h⟩
  | isEmpty => exact ⟨rfl, rfl, h⟩
  | get i => refine ⟨?_, rfl, h⟩; simp only [step, specStep, get_eq]
  | iterNew =>
    refine ⟨rfl, rfl, ?_⟩
    exact h.append ⟨rfl, by simp [Iter.new]⟩
  | bulk => refine ⟨?_, (by trivial), h⟩; simp only [step, specStep, bulk_eq_items]
  | iterNext k =>
    rcases h.get k with ⟨h1, h2⟩ | ⟨it, c, h1, h2, hr⟩
    · simp only [step, specStep, h1, h2]; exact ⟨(by trivial), (by trivial), h⟩
    · simp only [step, specStep, h1, h2, hr.step.1]
      exact ⟨(by trivial), (by trivial), h.set k hr.step.2⟩
  | iterHint k =>
    rcases h.get k with ⟨h1, h2⟩ | ⟨it, c, h1, h2, hr⟩
    · simp only [step, specStep, h1, h2]; exact ⟨(by trivial), (by trivial), h⟩
    · simp only [step, specStep, h1, h2, hr.sizeHint]
      exact ⟨(by trivial), (by trivial), h⟩

/-- **Any access history** (repeated and out-of-order `get`s, any number of partially consumed
iterators, size hints at every step, bulk reads) behaves like the abstract sequence of `len`
items: every `get i`/`next`/bulk element is item `i` of `0..len`, hints equal what remains. -/
theorem histories_refine (ops : List Op) : ∀ (s : St) (cs : SpecSt), RelL s.len s.iters cs →
    run s ops = specRun s.len cs ops := by
  induction ops with
  | nil => intros; rfl
  | cons op ops ih =>
    intro s cs h
    obtain ⟨h1, h2, h3⟩ := step_refines s cs op h
    simp only [run, specRun, h1]
    rw [ih (step s op).1 (specStep s.len cs op).1 (by rw [h2]; exact h3), h2]

theorem histories_from_fresh (len : Nat) (ops : List Op) :
    run { len, iters := [] } ops = specRun len [] ops :=
  histories_refine ops { len, iters := [] } [] .nil

/-! ### constructor checks -/

/-- the repaired constructor succeeds exactly when there are as many arrays as fields and all
arrays have one length, and then reports that length -/
theorem ctor_checks (nf : Nat) (lens : List Nat) (len : Nat) :
    new true nf lens = .ok len ↔
      lens.length = nf ∧ (∀ l ∈ lens, l = len) ∧ (lens = [] → len = 0) := by
  unfold new
  by_cases hc : nf = lens.length
  · subst hc
    cases lens with
    | nil => simp [eq_comm]
    | cons l ls =>
      simp only [List.length_cons, bne_self_eq_false, Bool.and_false, Bool.false_eq_true,
        if_false]
      rw [show List.take (ls.length + 1) (l :: ls) = l :: ls from List.take_length (l := l :: ls)]
      constructor
      · intro h
        split at h
        · rename_i hall
          cases h
          simp only [List.all_eq_true, beq_iff_eq] at hall
          exact ⟨trivial, fun x hx => hall x hx, by simp⟩
        · cases h
      · rintro ⟨_, h2, _⟩
        have : l = len := h2 l (by simp)
        subst this
        have : ((l :: ls).all fun x => x == l) = true := by
          simp only [List.all_eq_true, beq_iff_eq]; exact h2
        simp [this]
  · have : (nf != lens.length) = true := by simp [hc]
    simp [this, fail]
    intro h; exact absurd h.symm hc

/-- the pinned constructor accepted a count mismatch: 2 fields, 1 array -/
theorem ctor_pinned_wrong : new false 2 [1] = .ok 1 := by decide +kernel

/-! ### non-vacuity -/
example : run { len := 2, iters := [] }
    [.iterNew, .iterNext 0, .iterHint 0, .get 1, .get 2, .iterNext 0, .iterNext 0, .iterHint 0, .bulk]
  = [.unit, .item (some 0), .hint 1 (some 1), .item (some 1), .item none, .item (some 1),
     .item none, .hint 0 (some 0), .items [0, 1]] := by decide +kernel
example : new true 2 [3, 3] = .ok 3 := by decide +kernel
example : (new true 2 [3, 4]).isErr = true := by decide +kernel
example : (new true 2 [3]).isErr = true := by decide +kernel

end SaModel.Props.C13
