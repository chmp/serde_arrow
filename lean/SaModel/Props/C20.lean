import SaModel.Ext.Fields
import SaModel.Ext.Json
import SaModel.Lemmas.C20Perm
import SaModel.Lemmas.C20Json
import SaModel.Lemmas.C09Chars
/-
C20 — extension-type field helpers emit valid canonical-extension fields.
The property theorems, with the specifications they are stated against (`shapeProd`, `fixedExpected`,
`variableExpected`); the lemmas on the loops of `check_permutation` and on the JSON writers are in
Lemmas/C20Perm.lean, Lemmas/C20Json.lean.  Model: SaModel/Ext/{Utils,Fields}.lean (extensions/*.rs after the four
`fix:` commits, pinned variants beside them); JSON reader (specification): SaModel/Ext/Json.lean.
-/
namespace SaModel.Props.C20
open SaModel SaModel.Ext SaModel.Ext.Json SaModel.Lemmas.C20
open SaModel.Lemmas.C09 (toList_eq_charsOf)

/-- `check_permutation` accepts exactly the rearrangements of `0..ndim` -/
theorem perm_iff (n : Nat) (p : List Nat) :
    checkPermutation n p = .ok () ↔ p.length = n ∧ p.Perm (List.range n) := by
  unfold checkPermutation
  by_cases hlen : p.length = n
  · subst hlen
    simp only [ne_eq, not_true_eq_false, if_false, true_and]
    constructor
    · intro h
      split at h
      · cases h
      · rename_i seen hm
        obtain ⟨hnd, hall, hl, hmark⟩ := markSeen_ok _ _ _ hm
        rw [List.length_replicate] at hl
        have hseen := (checkAllSeen_ok seen).mp h
        refine (List.perm_ext_iff_of_nodup hnd List.nodup_range).mpr fun a => ?_
        rw [List.mem_range]
        constructor
        · intro ha
          have := (hall a ha).1
          rwa [List.length_replicate] at this
        · intro ha
          have h1 := hseen a (by omega)
          rcases (hmark a).mp h1 with h2 | h2
          · simp [List.getElem?_replicate] at h2
          · exact h2
    · intro hp
      have hnd : p.Nodup := (hp.nodup_iff).mpr List.nodup_range
      have hall : ∀ i ∈ p, i < (List.replicate p.length false).length ∧
          (List.replicate p.length false)[i]? = some false := by
        intro i hi
        have : i < p.length := List.mem_range.mp ((hp.mem_iff).mp hi)
        simp [this]
      obtain ⟨seen, hm⟩ := markSeen_complete p _ hnd hall
      simp only [hm]
      obtain ⟨_, _, hl, hmark⟩ := markSeen_ok _ _ _ hm
      rw [List.length_replicate] at hl
      refine (checkAllSeen_ok seen).mpr fun j hj => ?_
      exact (hmark j).mpr (.inr ((hp.mem_iff).mpr (List.mem_range.mpr (by omega))))
  · simp [hlen, fail]

/-- the same with "every index below `n` occurs exactly once and nothing else occurs" -/
theorem perm_iff_count (n : Nat) (p : List Nat) :
    checkPermutation n p = .ok () ↔
      p.length = n ∧ ∀ i, p.count i = if i < n then 1 else 0 := by
  rw [perm_iff]
  refine and_congr_right fun _ => ?_
  rw [List.perm_iff_count]
  refine forall_congr' fun i => ?_
  have : (List.range n).count i = if i < n then 1 else 0 := by
    rw [List.Nodup.count List.nodup_range]
    simp [List.mem_range]
  rw [this]

/-- `check_permutation` returns `Ok` or `Err` for every input (the guarded index never unwinds) -/
theorem perm_no_panic (n : Nat) (p : List Nat) (site : String) :
    checkPermutation n p ≠ .error (.panic site) := by
  unfold checkPermutation
  split
  · simp [fail]
  · split
    · rename_i e hm
      intro h
      cases h
      exact markSeen_no_panic _ _ _ hm
    · exact checkAllSeen_no_panic _ _

/-- the pinned `check_permutation` never writes `seen`: it rejects *every* non-empty sequence,
in particular every non-empty permutation -/
theorem perm_pinned_rejects_all (n : Nat) (p : List Nat) (hp : p ≠ []) :
    checkPermutationPinned n p ≠ .ok () := by
  have hsame : ∀ (q : List Nat) (seen seen' : List Bool), markSeenPinned seen q = .ok seen' → seen' = seen := by
    intro q
    induction q with
    | nil => intro seen seen' h; simp [markSeenPinned] at h; exact h.symm
    | cons i rest ih =>
      intro seen seen' h
      simp only [markSeenPinned] at h
      split at h
      · cases h
      · split at h
        · cases h
        · cases h
        · exact ih _ _ h
  unfold checkPermutationPinned
  split
  · simp [fail]
  · split
    · simp
    · rename_i seen hm
      rw [hsame _ _ _ hm]
      cases p with
      | nil => exact absurd rfl hp
      | cons a p => simp [List.replicate, checkAllSeen, fail]

/-- witness of DESIGN.md §9 #3 -/
theorem perm_pinned_wrong :
    checkPermutationPinned 2 [1, 0] ≠ .ok () ∧ [1, 0].Perm (List.range 2) ∧
      checkPermutation 2 [1, 0] = .ok () := by
  refine ⟨by decide +kernel, ?_, by decide +kernel⟩
  exact List.Perm.swap 0 1 []

theorem dim_names_iff (n : Nat) (d : List Str) : checkDimNames n d = .ok () ↔ d.length = n := by
  unfold checkDimNames
  by_cases h : d.length = n <;> simp [h, fail]

theorem uniform_shape_iff (n : Nat) (u : List (Option Nat)) :
    VariableShapeTensorField.checkUniformShape n u = .ok () ↔ u.length = n := by
  unfold VariableShapeTensorField.checkUniformShape
  by_cases h : u.length = n <;> simp [h, fail]

/-- a setter is its check followed by the update -/
theorem set_ok_iff {α} (c : R Unit) (v v' : α) :
    (match c with | .error e => (.error e : R α) | .ok () => .ok v) = .ok v' ↔ c = .ok () ∧ v' = v := by
  cases c with
  | error e => simp
  | ok u => simp [eq_comm]

/-- the setters store the value iff it is well formed, and change nothing else -/
theorem fixed_setPermutation_iff {ε} (h h' : FixedShapeTensorField ε) (v : List Nat) :
    h.setPermutation v = .ok h' ↔
      (v.length = h.shape.length ∧ v.Perm (List.range h.shape.length)) ∧ h' = { h with permutation := some v } := by
  rw [← perm_iff]; exact set_ok_iff _ _ _

theorem fixed_setDimNames_iff {ε} (h h' : FixedShapeTensorField ε) (v : List Str) :
    h.setDimNames v = .ok h' ↔ v.length = h.shape.length ∧ h' = { h with dimNames := some v } := by
  rw [← dim_names_iff]; exact set_ok_iff _ _ _

theorem variable_setPermutation_iff {ε} (h h' : VariableShapeTensorField ε) (v : List Nat) :
    h.setPermutation v = .ok h' ↔
      (v.length = h.ndim ∧ v.Perm (List.range h.ndim)) ∧ h' = { h with permutation := some v } := by
  rw [← perm_iff]; exact set_ok_iff _ _ _

theorem variable_setDimNames_iff {ε} (h h' : VariableShapeTensorField ε) (v : List Str) :
    h.setDimNames v = .ok h' ↔ v.length = h.ndim ∧ h' = { h with dimNames := some v } := by
  rw [← dim_names_iff]; exact set_ok_iff _ _ _

theorem variable_setUniformShape_iff {ε} (h h' : VariableShapeTensorField ε) (v : List (Option Nat)) :
    h.setUniformShape v = .ok h' ↔ v.length = h.ndim ∧ h' = { h with uniformShape := some v } := by
  rw [← uniform_shape_iff]; exact set_ok_iff _ _ _

/-- the number of elements of a tensor of the given shape (specification) -/
def shapeProd : List Nat → Nat
  | [] => 1
  | s :: rest => s * shapeProd rest

theorem bool8_field {ε} (h : Bool8Field) :
    (h.tryFrom : R (Field ε)) = .ok (.mk h.name h.nullable .int8
      [("ARROW:extension:metadata".toList, []), ("ARROW:extension:name".toList, "arrow.bool8".toList)]) := rfl

private theorem shapeProd_pos (l : List Nat) (h : ∀ s ∈ l, 0 < s) : 0 < shapeProd l := by
  induction l with
  | nil => simp [shapeProd]
  | cons s r ih =>
    simp only [shapeProd]
    exact Nat.mul_pos (h s (by simp)) (ih fun x hx => h x (List.mem_cons_of_mem _ hx))

private theorem shapeProd_zero (l : List Nat) (h : 0 ∈ l) : shapeProd l = 0 := by
  induction l with
  | nil => cases h
  | cons s r ih =>
    simp only [shapeProd]
    rcases List.mem_cons.mp h with h | h
    · rw [← h]; simp
    · rw [ih h]; simp

private theorem shapeProduct_zero (l : List Nat) : FixedShapeTensorField.shapeProduct 0 l = .ok 0 := by
  induction l with
  | nil => rfl
  | cons s r ih => simp [FixedShapeTensorField.shapeProduct, checkedMul, ih]

private theorem shapeProduct_pos : ∀ (l : List Nat) (acc : Nat), (∀ s ∈ l, 0 < s) → acc ≤ usizeMax →
    (acc * shapeProd l ≤ usizeMax → FixedShapeTensorField.shapeProduct acc l = .ok (acc * shapeProd l)) ∧
    (usizeMax < acc * shapeProd l → (FixedShapeTensorField.shapeProduct acc l).isErr = true) := by
  intro l
  induction l with
  | nil => intro acc _ hacc; simp [FixedShapeTensorField.shapeProduct, shapeProd]; intro h; omega
  | cons s r ih =>
    intro acc hpos _
    have hr : ∀ x ∈ r, 0 < x := fun x hx => hpos x (List.mem_cons_of_mem _ hx)
    have hp := shapeProd_pos r hr
    have hassoc : acc * s * shapeProd r = acc * (s * shapeProd r) := Nat.mul_assoc _ _ _
    have hle : acc * s ≤ acc * s * shapeProd r := Nat.le_mul_of_pos_right _ hp
    simp only [FixedShapeTensorField.shapeProduct, checkedMul, shapeProd]
    by_cases hc : acc * s ≤ usizeMax
    · simp only [hc, if_true]
      rw [← hassoc]
      exact ih (acc * s) hr hc
    · simp only [hc, if_false]
      constructor
      · intro h; omega
      · intro _; rfl

/-- fixed-shape storage: `FixedSizeList(element, ∏ shape)` with the extension name and metadata
whenever the number of elements fits `i32` … -/
theorem fixed_storage_ok {ε} (h : FixedShapeTensorField ε) (hfit : shapeProd h.shape ≤ i32Max) :
    h.tryFrom = .ok (.mk h.name h.nullable (.fixedSizeList (.element h.element) (shapeProd h.shape))
      [("ARROW:extension:metadata".toList, h.getExtMetadata),
       ("ARROW:extension:name".toList, "arrow.fixed_shape_tensor".toList)]) := by
  unfold FixedShapeTensorField.tryFrom
  by_cases hz : 0 ∈ h.shape
  · simp only [hz, if_true, shapeProduct_zero, shapeProd_zero _ hz]
    rfl
  · have hpos : ∀ s ∈ h.shape, 0 < s := by
      intro s hs
      rcases Nat.eq_zero_or_pos s with h0 | h0
      · subst h0; exact absurd hs hz
      · exact h0
    have h1 := (shapeProduct_pos h.shape 1 hpos (by decide)).1
    rw [Nat.one_mul] at h1
    have hu : shapeProd h.shape ≤ usizeMax := by
      have : i32Max ≤ usizeMax := by decide
      omega
    simp only [hz, if_false, h1 hu, usizeToI32, hfit, if_true]
    rfl

/-- … and an error (never a panic, never a wrapped product) when it does not -/
theorem fixed_storage_err {ε} (h : FixedShapeTensorField ε) (hbig : i32Max < shapeProd h.shape) :
    h.tryFrom.isErr = true := by
  unfold FixedShapeTensorField.tryFrom
  have hz : 0 ∉ h.shape := by
    intro hz
    rw [shapeProd_zero _ hz] at hbig
    omega
  have hpos : ∀ s ∈ h.shape, 0 < s := by
    intro s hs
    rcases Nat.eq_zero_or_pos s with h0 | h0
    · subst h0; exact absurd hs hz
    · exact h0
  obtain ⟨h1, h2⟩ := shapeProduct_pos h.shape 1 hpos (by decide)
  rw [Nat.one_mul] at h1 h2
  simp only [hz, if_false]
  by_cases hu : shapeProd h.shape ≤ usizeMax
  · have : ¬ shapeProd h.shape ≤ i32Max := by omega
    simp only [h1 hu, usizeToI32, this, if_false]
    rfl
  · have h3 := h2 (by omega)
    cases hsp : FixedShapeTensorField.shapeProduct 1 h.shape with
    | ok v => rw [hsp] at h3; cases h3
    | error e =>
      rw [hsp] at h3
      cases e with
      | err m => rfl
      | errCtx m a => rfl
      | panic m => cases h3

/-- "never panic" for all shapes -/
theorem fixed_storage_no_panic {ε} (h : FixedShapeTensorField ε) : h.tryFrom.isPanic = false := by
  by_cases hfit : shapeProd h.shape ≤ i32Max
  · rw [fixed_storage_ok h hfit]; rfl
  · have := fixed_storage_err h (by omega)
    revert this
    cases h.tryFrom with
    | ok v => intro; rfl
    | error e => cases e <;> simp [R.isErr, R.isPanic]

/-- the pinned product `n *= *s` unwinds (debug profile) on DESIGN.md §9 #6's shape, and on a
shape whose true element count is 0 -/
theorem fixed_storage_pinned_panics :
    (FixedShapeTensorField.tryFromPinned
      ({ name := "t", nullable := false, element := (), shape := [usizeMax, 2], dimNames := none,
         permutation := none } : FixedShapeTensorField Unit)).isPanic = true ∧
    (FixedShapeTensorField.tryFromPinned
      ({ name := "t", nullable := false, element := (), shape := [usizeMax, 2, 0], dimNames := none,
         permutation := none } : FixedShapeTensorField Unit)).isPanic = true := by
  constructor <;> decide +kernel

/-- variable-shape storage: `Struct[data: List(element), shape: FixedSizeList(Int32, ndim)]`, both
children non-nullable, exactly when `ndim` fits `i32`; an error otherwise -/
theorem variable_storage_ok {ε} (h : VariableShapeTensorField ε) (hfit : h.ndim ≤ i32Max) :
    h.tryFrom = .ok (.mk h.name h.nullable
      (.struct [
        .mk "data" false (.list (.element h.element)) [],
        .mk "shape" false (.fixedSizeList (.mk "element" false .int32 []) h.ndim) []])
      [("ARROW:extension:metadata".toList, h.getExtMetadata),
       ("ARROW:extension:name".toList, "arrow.variable_shape_tensor".toList)]) := by
  simp only [VariableShapeTensorField.tryFrom, usizeToI32, hfit, if_true]
  rfl

theorem variable_storage_err {ε} (h : VariableShapeTensorField ε) (hbig : i32Max < h.ndim) :
    h.tryFrom.isErr = true := by
  have : ¬ h.ndim ≤ i32Max := by omega
  simp only [VariableShapeTensorField.tryFrom, usizeToI32, this, if_false]
  rfl

theorem variable_storage_no_panic {ε} (h : VariableShapeTensorField ε) : h.tryFrom.isPanic = false := by
  by_cases hfit : h.ndim ≤ i32Max
  · rw [variable_storage_ok h hfit]; rfl
  · simp only [VariableShapeTensorField.tryFrom, usizeToI32, hfit, if_false]
    rfl

/-! ### extension metadata is JSON stating exactly the configured entries -/

/-- every string, whatever it contains, is written as a JSON string literal that reads back as
exactly that string (escape / unescape round trip, induction over the characters) -/
theorem json_string_round_trip (s more : Str) :
    readScalar (jsonString s ++ more) = some (.str s, more) := readScalar_jsonString s more

/-- `usize` values are written as JSON numbers with that value -/
theorem number_round_trip (n : Nat) : readValue (showNat n) = some (.scalar (.num n), []) := by
  have h := readScalar_showNat n [] trivial
  rw [List.append_nil] at h
  obtain ⟨c, ds, hc⟩ : ∃ c ds, showNat n = c :: ds := by
    rw [showNat_eq]
    split
    · exact ⟨_, _, rfl⟩
    · cases hs : showNat (n / 10) with
      | nil => exact ⟨_, _, rfl⟩
      | cons a b => exact ⟨_, _, rfl⟩
  have hne : c ≠ '[' := by
    intro hc'
    subst hc'
    rw [hc] at h
    simp [readScalar] at h
  rw [hc] at h ⊢
  simp only [readValue, hne, if_false, h]

def optNum : Option Nat → JScalar
  | some v => .num v
  | none => .null

theorem showOptNat_rt (o : Option Nat) : ScalarRT (VariableShapeTensorField.showOptNat o) (optNum o) := by
  intro more h
  cases o with
  | some v => exact readScalar_showNat v more h
  | none => exact readScalar_null more

/-- `write_list` over numbers / names / optional numbers reads back as the array of those values -/
theorem nat_list_round_trip (l : List Nat) (rest : Str) :
    readValue (writeList (l.map showNat) ++ rest) = some (.arr (l.map .num), rest) :=
  readValue_writeList showNat .num readScalar_showNat l rest

theorem name_list_round_trip (l : List Str) (rest : Str) :
    readValue (writeList (l.map jsonString) ++ rest) = some (.arr (l.map .str), rest) :=
  readValue_writeList jsonString .str (fun s more _ => readScalar_jsonString s more) l rest

theorem opt_list_round_trip (l : List (Option Nat)) (rest : Str) :
    readValue (writeList (l.map VariableShapeTensorField.showOptNat) ++ rest) =
      some (.arr (l.map optNum), rest) :=
  readValue_writeList VariableShapeTensorField.showOptNat optNum showOptNat_rt l rest

/-- the metadata keys, spelled out (comparing string literals by unfolding is slow in the elaborator) -/
def kShape : Str := ['s', 'h', 'a', 'p', 'e']
def kPermutation : Str := ['p', 'e', 'r', 'm', 'u', 't', 'a', 't', 'i', 'o', 'n']
def kDimNames : Str := ['d', 'i', 'm', '_', 'n', 'a', 'm', 'e', 's']
def kUniformShape : Str := ['u', 'n', 'i', 'f', 'o', 'r', 'm', '_', 's', 'h', 'a', 'p', 'e']

theorem keys_spelled : kShape = "shape".toList ∧ kPermutation = "permutation".toList ∧
    kDimNames = "dim_names".toList ∧ kUniformShape = "uniform_shape".toList :=
  -- a literal is `String.ofList` of its characters by definition: `toList_ofList` reads them off, nothing is decoded
  ⟨String.toList_ofList.symm, String.toList_ofList.symm, String.toList_ofList.symm, String.toList_ofList.symm⟩

/-- the object the fixed-shape metadata must state: `shape`, then the optional settings that are set -/
def fixedExpected {ε} (h : FixedShapeTensorField ε) : JObj :=
  [(kShape, .arr (h.shape.map .num))]
  ++ (match h.permutation with
      | some p => [(kPermutation, .arr (p.map .num))]
      | none => [])
  ++ (match h.dimNames with
      | some d => [(kDimNames, .arr (d.map .str))]
      | none => [])

/-- the object the variable-shape metadata must state: exactly the optional settings that are set -/
def variableExpected {ε} (h : VariableShapeTensorField ε) : JObj :=
  (match h.permutation with
   | some p => [(kPermutation, .arr (p.map .num))]
   | none => [])
  ++ (match h.dimNames with
      | some d => [(kDimNames, .arr (d.map .str))]
      | none => [])
  ++ (match h.uniformShape with
      | some u => [(kUniformShape, .arr (u.map optNum))]
      | none => [])

/-- the entry `"key":[…]` of a list written with `render`, and the array it should read back as -/
private def listEntry {α} (key : Str) (render : α → Str) (sem : α → JScalar) (l : List α) : Entry :=
  { key, keyText := key, valText := writeList (l.map render), val := .arr (l.map sem) }

/-- … written only if the setting is set -/
private def optEntry {α} (key : Str) (render : α → Str) (sem : α → JScalar) : Option (List α) → List Entry
  | some l => [listEntry key render sem l]
  | none => []

private theorem esc_shape : escape kShape = kShape := by decide +kernel
private theorem esc_permutation : escape kPermutation = kPermutation := by decide +kernel
private theorem esc_dim_names : escape kDimNames = kDimNames := by decide +kernel
private theorem esc_uniform_shape : escape kUniformShape = kUniformShape := by decide +kernel

/-- a key without characters to escape and elements that read back: the entry reads back -/
private theorem listEntry_rt {α} (key : Str) (hk : escape key = key) (render : α → Str) (sem : α → JScalar)
    (hrt : ∀ a, ScalarRT (render a) (sem a)) (l : List α) : (listEntry key render sem l).RT :=
  ⟨fun rest => by have := readStr_escape key rest; rwa [hk] at this, readValue_writeList render sem hrt l⟩

private theorem optEntry_rt {α} (key : Str) (hk : escape key = key) (render : α → Str) (sem : α → JScalar)
    (hrt : ∀ a, ScalarRT (render a) (sem a)) (o : Option (List α)) : ∀ e ∈ optEntry key render sem o, e.RT := by
  intro e he
  cases o with
  | none => cases he
  | some l => rw [List.mem_singleton.mp he]; exact listEntry_rt key hk render sem hrt l

private theorem jsonString_rt (s : Str) : ScalarRT (jsonString s) (.str s) := fun more _ => readScalar_jsonString s more

private theorem lit_shape : "\"shape\":".toList = '"' :: (kShape ++ ['"', ':']) := String.toList_ofList
private theorem lit_c_permutation :
    ",\"permutation\":".toList = ',' :: '"' :: (kPermutation ++ ['"', ':']) := String.toList_ofList
private theorem lit_c_dim_names :
    ",\"dim_names\":".toList = ',' :: '"' :: (kDimNames ++ ['"', ':']) := String.toList_ofList
private theorem lit_permutation :
    "\"permutation\":".toList = '"' :: (kPermutation ++ ['"', ':']) := String.toList_ofList
private theorem lit_dim_names :
    "\"dim_names\":".toList = '"' :: (kDimNames ++ ['"', ':']) := String.toList_ofList
private theorem lit_uniform_shape :
    "\"uniform_shape\":".toList = '"' :: (kUniformShape ++ ['"', ':']) := String.toList_ofList

private def fixedEntries {ε} (h : FixedShapeTensorField ε) : List Entry :=
  [listEntry kShape showNat .num h.shape] ++ optEntry kPermutation showNat .num h.permutation ++
    optEntry kDimNames jsonString .str h.dimNames

/-- **fixed-shape metadata**: for every shape (also empty), every subset of the optional settings and
all dimension names, the metadata text parses to exactly `shape`, `permutation`, `dim_names` as set -/
theorem fixed_ext_metadata_json {ε} (h : FixedShapeTensorField ε) :
    jsonParse h.getExtMetadata = some (fixedExpected h) := by
  have htext : h.getExtMetadata = '{' :: (writeMembers true (fixedEntries h) ++ ['}']) := by
    obtain ⟨name, nullable, element, shape, dimNames, permutation⟩ := h
    cases permutation <;> cases dimNames <;>
      simp only [FixedShapeTensorField.getExtMetadata, FixedShapeTensorField.getExtMetadataWith, fixedEntries,
        optEntry, writeMembers, Entry.text, listEntry, lit_shape, lit_c_permutation,
        lit_c_dim_names, List.append_assoc, List.cons_append, List.nil_append, List.append_nil]
  have hrt : ∀ e ∈ fixedEntries h, e.RT := by
    intro e he
    simp only [fixedEntries, List.mem_append, List.mem_singleton] at he
    rcases he with (he | he) | he
    · subst he; exact listEntry_rt _ esc_shape _ _ readScalar_showNat _
    · exact optEntry_rt _ esc_permutation _ _ readScalar_showNat _ e he
    · exact optEntry_rt _ esc_dim_names _ _ jsonString_rt _ e he
  rw [htext, jsonParse_object _ hrt]
  obtain ⟨name, nullable, element, shape, dimNames, permutation⟩ := h
  cases permutation <;> cases dimNames <;> rfl

private def variableEntries {ε} (h : VariableShapeTensorField ε) : List Entry :=
  optEntry kPermutation showNat .num h.permutation ++ optEntry kDimNames jsonString .str h.dimNames ++
    optEntry kUniformShape VariableShapeTensorField.showOptNat optNum h.uniformShape

/-- **variable-shape metadata**: for every subset of the three optional settings (all 8), all
permutations, names and uniform shapes, the metadata text parses to exactly the configured entries -/
theorem variable_ext_metadata_json {ε} (h : VariableShapeTensorField ε) :
    jsonParse h.getExtMetadata = some (variableExpected h) := by
  have htext : h.getExtMetadata = '{' :: (writeMembers true (variableEntries h) ++ ['}']) := by
    obtain ⟨name, element, ndim, nullable, dimNames, permutation, uniformShape⟩ := h
    cases permutation <;> cases dimNames <;> cases uniformShape <;>
      simp only [VariableShapeTensorField.getExtMetadata, VariableShapeTensorField.getExtMetadataWith,
        VariableShapeTensorField.sep, variableEntries, optEntry, writeMembers, Entry.text, listEntry,
        lit_permutation, lit_dim_names, lit_uniform_shape,
        List.append_assoc, List.cons_append, List.nil_append, List.append_nil, Bool.not_true, Bool.not_false,
        Bool.false_eq_true, if_true, if_false]
  have hrt : ∀ e ∈ variableEntries h, e.RT := by
    intro e he
    simp only [variableEntries, List.mem_append] at he
    rcases he with (he | he) | he
    · exact optEntry_rt _ esc_permutation _ _ readScalar_showNat _ e he
    · exact optEntry_rt _ esc_dim_names _ _ jsonString_rt _ e he
    · exact optEntry_rt _ esc_uniform_shape _ _ showOptNat_rt _ e he
  rw [htext, jsonParse_object _ hrt]
  obtain ⟨name, element, ndim, nullable, dimNames, permutation, uniformShape⟩ := h
  cases permutation <;> cases dimNames <;> cases uniformShape <;> rfl

/-- bool8: the extension metadata is the empty string -/
theorem bool8_ext_metadata {ε} (h : Bool8Field) :
    ∃ dt, (h.tryFrom : R (Field ε)) = .ok (.mk h.name h.nullable dt (extMetadataMap "arrow.bool8".toList [])) :=
  ⟨_, rfl⟩

/-! ### the pinned writers did not produce JSON -/

/-- DESIGN.md §9 #4: the pinned separator logic (with correct name quoting) writes
`{,"dim_names":["x","y"]"uniform_shape":[1,null]}`; even a single entry gives `{,"permutation":[]}` -/
theorem variable_metadata_pinned_separator_wrong :
    jsonParse (VariableShapeTensorField.getExtMetadataPinnedSep
      ({ name := "t", element := (), ndim := 2, nullable := false,
         dimNames := some ["x".toList, "y".toList], permutation := none,
         uniformShape := some [some 1, none] } : VariableShapeTensorField Unit)) = none ∧
    VariableShapeTensorField.getExtMetadataPinnedSep
      ({ name := "t", element := (), ndim := 0, nullable := false, dimNames := none,
         permutation := some [], uniformShape := none } : VariableShapeTensorField Unit)
      = "{,\"permutation\":[]}".toList := by
  simp only [VariableShapeTensorField.getExtMetadataPinnedSep, VariableShapeTensorField.getExtMetadataWith,
    toList_eq_charsOf]
  constructor <;> decide +kernel

/-- DESIGN.md §9 #5: `{:?}` of the name U+0001 is `"\u{1}"`, which is not a JSON string -/
theorem fixed_metadata_pinned_names_wrong :
    (FixedShapeTensorField.getExtMetadataPinned
      ({ name := "t", nullable := false, element := (), shape := [2], dimNames := some [['\x01']],
         permutation := none } : FixedShapeTensorField Unit)) = "{\"shape\":[2],\"dim_names\":[\"\\u{1}\"]}".toList ∧
    jsonParse (FixedShapeTensorField.getExtMetadataPinned
      ({ name := "t", nullable := false, element := (), shape := [2], dimNames := some [['\x01']],
         permutation := none } : FixedShapeTensorField Unit)) = none := by
  simp only [FixedShapeTensorField.getExtMetadataPinned, FixedShapeTensorField.getExtMetadataWith, toList_eq_charsOf]
  constructor <;> decide +kernel

example : checkPermutation 3 [2, 0, 1] = .ok () := by decide +kernel
example : (checkPermutation 3 [2, 0, 0]).isErr = true := by decide +kernel
example : (checkPermutation 3 [0, 1, 3]).isErr = true := by decide +kernel
example : (checkPermutation 3 [0, 1]).isErr = true := by decide +kernel
example : checkPermutation 0 [] = .ok () := by decide +kernel
example : jsonParse (FixedShapeTensorField.getExtMetadata
    ({ name := "t", nullable := false, element := (), shape := [2, 0], dimNames := some ["a\"\\\n\x01é".toList, []],
       permutation := some [1, 0] } : FixedShapeTensorField Unit)) =
    some [("shape".toList, .arr [.num 2, .num 0]), ("permutation".toList, .arr [.num 1, .num 0]),
          ("dim_names".toList, .arr [.str "a\"\\\n\x01é".toList, .str []])] :=
  -- the writer and the reader are not run: `fixed_ext_metadata_json` gives the members
  (fixed_ext_metadata_json _).trans (by simp only [toList_eq_charsOf]; decide +kernel)
example : FixedShapeTensorField.getExtMetadata
    ({ name := "t", nullable := false, element := (), shape := [], dimNames := some [],
       permutation := none } : FixedShapeTensorField Unit) = "{\"shape\":[],\"dim_names\":[]}".toList := by
  simp only [FixedShapeTensorField.getExtMetadata, FixedShapeTensorField.getExtMetadataWith, toList_eq_charsOf]
  decide +kernel
example : VariableShapeTensorField.getExtMetadata
    ({ name := "t", element := (), ndim := 2, nullable := false, dimNames := some ["x".toList, "\x1f\t".toList],
       permutation := some [1, 0], uniformShape := some [some 1, none] } : VariableShapeTensorField Unit)
    = "{\"permutation\":[1,0],\"dim_names\":[\"x\",\"\\u001f\\t\"],\"uniform_shape\":[1,null]}".toList :=
  -- evaluate the left side only; the characters of the long literal come from `toList_ofList`
  Eq.trans (by decide +kernel) String.toList_ofList.symm
example : jsonParse "{}".toList = some [] := by rw [toList_eq_charsOf]; decide +kernel
example : jsonParse "{\"a\":01}".toList = none := by rw [toList_eq_charsOf]; decide +kernel
example : jsonParse "{\"a\":[1,]}".toList = none := by rw [toList_eq_charsOf]; decide +kernel
example : jsonParse "{\"a\":\"\x01\"}".toList = none := by rw [toList_eq_charsOf]; decide +kernel
example : (FixedShapeTensorField.tryFrom
    ({ name := "t", nullable := false, element := (), shape := [usizeMax, 2, 0], dimNames := none,
       permutation := none } : FixedShapeTensorField Unit)).isOk = true := by decide +kernel
example : (FixedShapeTensorField.tryFrom
    ({ name := "t", nullable := false, element := (), shape := [65536, 32768], dimNames := none,
       permutation := none } : FixedShapeTensorField Unit)).isErr = true := by decide +kernel

end SaModel.Props.C20
