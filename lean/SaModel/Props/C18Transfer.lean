import SaModel.Props.C18
import SaModel.Props.C17
import SaModel.Props.C02
/-
C18 — what the erasure theorems buy: theorems of the other reader properties, which are stated about the un-annotated
model `Read.readAs`, are theorems about the annotated model `Read.readAsA` (the one `read_error_position` /
`read_error_deepest` are about).  Two instances, one per transfer lemma.
-/
namespace SaModel.Props.C18
open SaModel SaModel.Read SaModel.Spec

/-- C17 (`readAs_no_panic`) transferred through `readAsA_panic_iff`: with every fix applied no annotated typed read
unwinds — whatever the view, consistent or not -/
theorem readAsA_no_panic (af : AnnFixes) (t : Target) (p : String) (a : Arr) (idx : Nat) :
    NoPanic (readAsA af Fixes.all p t a idx) := fun s h =>
  SaModel.Props.C17.readAs_no_panic t a idx s ((readAsA_panic_iff af Fixes.all t p a idx s).1 h)

/-- C02 (`read_typed_decode`) transferred through `readAsA_ok_iff`: on a physically valid view the annotated typed read
returns what the Arrow reading rules and the target demand -/
theorem readAsA_typed_decode (af : AnnFixes) (t : Target) (p : String) (a : Arr) (i : Nat) (lv : LVal) (d : DVal)
    (h : decodeAt a i = .ok lv) (hn : new Fixes.all a = .ok ()) (hp : physical a = true) (hu : utf8Ok lv = true)
    (hc : Read.cast t a lv = must d) : readAsA af Fixes.all p t a i = .ok d :=
  (readAsA_ok_iff af Fixes.all t p a i d).2 (SaModel.Props.C02.read_typed_decode t a i lv d h hn hp hu hc)

/-- consequently (with `read_not_plain`): every failure of an annotated read is an annotated `Err` -/
theorem readAsA_fails_annotated (t : Target) (p : String) (a : Arr) (idx : Nat) (e : Fail)
    (h : readAsA AnnFixes.all Fixes.all p t a idx = .error e) : ∃ msg ann, e = .errCtx msg ann := by
  cases e with
  | err msg => exact absurd h (readAsA_not_plain Fixes.all t p a idx msg)
  | panic s => exact absurd h (readAsA_no_panic AnnFixes.all t p a idx s)
  | errCtx msg ann => exact ⟨msg, ann, rfl⟩

/-- non-vacuity: the fixed-size-list witness — not a panic, an annotated error -/
example : ∃ msg ann, readAsA AnnFixes.all Fixes.all "$.c" (.struct (.cons "x" (.seq .any) .nil)) exFsl 1 = .error (.errCtx msg ann) :=
  ⟨"Out of bounds access", [("data_type", "FixedSizeList(..)"), ("field", "$.c.x")], by decide +kernel⟩

end SaModel.Props.C18
