import SaModel.Lemmas.C01ObsR2
import SaModel.Lemmas.C01ObsRoot
import SaModel.Props.C03
import SaModel.Lemmas.C03TypeNew
import SaModel.Lemmas.C03ObsSoundW
/-
C01 / C03 — the "hidden rows" refinement: the refinement theorems and the end-to-end statements WITHOUT the first clause
of `Safe` ("no dictionary with non-nullable keys below a nullable struct / fixed-size list").

Why the statements about `dec` (Props/C01Refine.lean) need `Safe`: `dec b` reads every slot of a builder, also the slots hidden below a null ancestor.
A dictionary with NON-nullable keys whose parent row is null receives `serialize_default` and stores the placeholder key
0, which designates nothing while the dictionary is empty and the FIRST real value later: `dec` of that builder is not
append-only (`dict_placeholder_unstable`), although the slot is hidden and the property says such slots may hold anything.

The refinement below speaks about OBSERVABLE rows (vocabulary: Lemmas/C01ObsDefs.lean):
  `decH b : List (Option LVal)`   `dec b` with every row the state does not determine replaced by `none` (a dictionary
                                  row whose key designates no value; a container row that READS such a row — a row
                                  whose own validity bit is clear reads no child and is the determined `null`);
  `Refines new old`               same length, every determined row unchanged;
  `WFH`                           the state invariant `WFB` with the key clause weakened to what the builders maintain
                                  (in range, or the placeholder 0 of a non-nullable key builder);
  `NoDictKey`                     second clause of `Safe` (no dictionary-keyed dictionary): holds of every builder
                                  `build_builder` constructs (`newRoot_NoDictKey`), so it is no hypothesis at the top.

  R1'  push_refines        push ext b x = ok b' → WFH b → NoDictKey b → WFH b' ∧ ∃ lv, Refines (decH b') (decH b ++ [some lv])
       push_appends_det    … and if no row of b is undetermined (`Det b`: every strictly well-formed state, the root of
                           `to_marrow` after every record) then `dec b' = dec b ++ [lv]` and `Det b'`
  R2'  push_interp'        … and `interpDT ext dt n md x = ok lv` for the builder of a field of type dt
  R3'  runRows_interp'     `runRows_interp` without `hsafe` and with the weaker schema predicate `coveredWF` for `coveredF`
       runRows_rows'       `runRows_rows` without `hsafe` (no hypothesis on schema or records)
  C01_build_decode'        `C01_build_decode` without `hsafe`
  C03_wfS'                  `C03_wfS` with `hsafe` replaced by `Safe root0 ∨ coveredF` (see the theorem)
The `Safe`-carrying statements (Props/C01Refine.lean, Props/C01.lean, `C03_wfS` of Props/C03.lean) stand beside these;
under `WFB`/`Safe` they are special cases (`push_appends_of_refines`; `C01_build_decode` is proved that way).
-/
namespace SaModel.Props.C01
open SaModel SaModel.Build SaModel.Spec

/-! ## R1' -/

/-- **R1' — no `Safe` clause 1.**  Every successful `push` (any serde value, ALL builder families, any nesting) keeps the
weak state invariant and appends exactly ONE DETERMINED observable row; every row that was determined is unchanged
(rows hidden below a null ancestor may change: they are `none` in `decH`). -/
theorem push_refines (ext : Ext) (x : SVal) (b b' : B) (hwf : WFH b) (hnd : NoDictKey b) (h : push ext b x = .ok b') :
    WFH b' ∧ NoDictKey b' ∧ ∃ lv, Refines (decH b') (decH b ++ [some lv]) := by
  obtain ⟨hw', lv, hd⟩ := Build.push_refines ext x b b' hwf hnd h
  exact ⟨hw', NoDictKey.of_takeRest (push_takeRest ext x b b' h) hnd, lv, hd⟩

/-- a null appends exactly the determined row `null` -/
theorem pushNone_refines (b b' : B) (hwf : WFH b) (hnd : NoDictKey b) (h : pushNone b = .ok b') :
    WFH b' ∧ Refines (decH b') (decH b ++ [some .null]) :=
  Build.pushNone_refines b b' hwf hnd h

/-- `k` placeholders (`serialize_default`, issued below a null ancestor): `k` more rows, what they read is left open,
every determined row is unchanged -/
theorem pushDefault_refines (b : B) (k : Nat) (b' : B) (hwf : WFH b) (hnd : NoDictKey b) (h : pushDefaultK b k = .ok b') :
    WFH b' ∧ Refines (decH b') (decH b ++ List.replicate k none) :=
  Build.pushDefaultK_refines b k b' hwf hnd h

/-- a determined observable row is the row `dec` reads (no hypothesis), and there are as many observable rows as rows -/
theorem decH_sound (b : B) : Refines ((dec b).map some) (decH b) := Build.decH_sound b
theorem decH_length (b : B) : (decH b).length = (dec b).length := Build.decH_length b

/-- under the strict invariant every row is determined, and the strict invariant implies the weak one: the statements of
this file contain the `Safe`-carrying ones -/
theorem decH_of_WFB (b : B) (h : WFB b) : decH b = (dec b).map some := Build.decH_of_WFB b h
theorem WFH_of_WFB (b : B) (h : WFB b) : WFH b := Build.WFH_of_WFB b h
theorem NoDictKey_of_Safe (b : B) (h : Safe b) : NoDictKey b := Build.NoDictKey_of_Safe b h

/-- **R1 for determined states, no `Safe` clause 1**: `Det b` (no row of `b` is undetermined — every strictly well-formed
state `Det_of_WFB`, and the root of `to_marrow` after every record) is kept by every push, and then the push appends
exactly one row to `dec`. -/
theorem push_appends_det (ext : Ext) (x : SVal) (b b' : B) (hw : WFH b) (hn : NoDictKey b) (hd : Det b)
    (h : push ext b x = .ok b') :
    WFH b' ∧ NoDictKey b' ∧ Det b' ∧ ∃ lv, dec b' = dec b ++ [lv] :=
  let ⟨a, b, c, lv, d, _⟩ := Build.push_appends_det ext x b b' hw hn hd h
  ⟨a, b, c, lv, d⟩

/-- the conclusion of R1 (`push_appends`) from R1', under the strict invariant `WFB` -/
theorem push_appends_of_refines (ext : Ext) (x : SVal) (b b' : B) (hwf : WFB b) (hnd : NoDictKey b)
    (h : push ext b x = .ok b') : ∃ lv, dec b' = dec b ++ [lv] :=
  let ⟨_, _, _, r⟩ := push_appends_det ext x b b' (Build.WFH_of_WFB b hwf) hnd (Det_of_WFB hwf) h
  r

/-- every builder `build_builder` constructs has integer-leaf dictionary keys: `NoDictKey` is no hypothesis at the top -/
theorem newRoot_NoDictKey (fields : List Field) (root0 : B) (h : newRoot fields = .ok root0) : NoDictKey root0 :=
  Build.newRoot_NoDictKey h

/-- **R3' (row count), no `Safe`** -/
theorem runRows_rows' (ext : Ext) (fields : List Field) (rows : List SVal) (root0 root : B)
    (h0 : newRoot fields = .ok root0) (h : runRows ext fields rows = .ok root) :
    WFH root ∧ Det root ∧ (dec root).length = rows.length ∧ takeRest root = root0 ∧
      ∀ col ∈ decRoot root, col.length = rows.length :=
  let ⟨a, _, c, d, e, f⟩ := Build.runRows_rowsH ext fields rows root0 root h0 h
  ⟨a, c, d, e, f⟩

/-! ### a successful `to_marrow`, inverted; C03 and the physical half of C01 from `Sound` of the final state alone -/

/-- **a successful `to_marrow`, inverted**: the fresh root, the run, `build_arrays`, and every fact about the final state that
needs no hypothesis (R3' row count, determined root, shape) -/
theorem toMarrow_inv (ext : Ext) (fields : List Field) (rows : List SVal) (arrs : List Arr)
    (h : toMarrow ext fields rows = .ok arrs) :
    ∃ root0 root rest, newRoot fields = .ok root0 ∧ runRows ext fields rows = .ok root ∧
      buildArrays ext root = .ok (arrs, rest) ∧ WFH root ∧ Det root ∧ (dec root).length = rows.length ∧
      (∀ col ∈ decRoot root, col.length = rows.length) ∧
      Lemmas.C03.BuiltFor (.struct (Fields.ofList fields)) false root := by
  obtain ⟨root, hrun, rest, hba⟩ := Props.C03.toMarrow_split ext fields rows arrs h
  obtain ⟨root0, h0⟩ := Props.C03.runRows_newRoot hrun
  obtain ⟨hw, hd, hl, _, hc⟩ := runRows_rows' ext fields rows root0 root h0 hrun
  exact ⟨root0, root, rest, h0, hrun, hba, hw, hd, hl, hc,
    Lemmas.C03.runRows_builtFor ext fields rows root (Build.push_takeRest ext) hrun⟩

/-- **C03 (structural half) for `to_marrow`, from `Sound` of the final state alone**: the one step that looks at the class of
the schema (`Safe`, `coveredF`, `coveredPF px` ..); everything else is discharged -/
theorem C03_wfS_of_sound (ext : Ext) (fields : List Field) (rows : List SVal) (arrs : List Arr)
    (hext : Lemmas.C03.ExtOK ext) (hrows : ∀ x ∈ rows, Lemmas.C03.SValOK x)
    (hsound : ∀ root0 root out, newRoot fields = .ok root0 → runRows ext fields rows = .ok root →
      buildArrays ext root = .ok out → WFH root → Lemmas.C03.Sound root)
    (h : toMarrow ext fields rows = .ok arrs) :
    arrs.length = fields.length ∧
    ∀ (j : Nat) (f : Field) (a : Arr), fields[j]? = some f → arrs[j]? = some a →
      WFS f a = true ∧ (decodeAll a).length = rows.length := by
  obtain ⟨root0, root, rest, h0, hrun, hba, hw, _, hl, _, hb⟩ := toMarrow_inv ext fields rows arrs h
  exact hl ▸ Props.C03.buildArrays_wf ext fields root _ hw hb (hsound root0 root _ h0 hrun hba hw)
    (Lemmas.C03.runRows_WFX ext hext fields rows root hrows hrun (Lemmas.C03.WFH_small root hw)) hba

/-- `Sound` of the final state under `Safe` (strict invariant → `StrictDict` → `Faithful` → `Sound`) -/
theorem sound_of_safe (ext : Ext) (fields : List Field) (rows : List SVal) (root0 root : B)
    (hschema : ∀ f ∈ fields, Lemmas.C03.SchemaOKF f) (hsafe : Safe root0)
    (h0 : newRoot fields = .ok root0) (hrun : runRows ext fields rows = .ok root) : Lemmas.C03.Sound root :=
  have hw := (runRows_rows ext fields rows root0 root h0 hsafe hrun).1
  (Props.C03.root_facts ext fields rows root hschema (Build.push_takeRest ext) hw
    (Lemmas.C03.WFB_StrictDict root hw) hrun).2.2.1

/-- the columns of the root of a run are determined: the root struct has no validity, `Det` is kept by every push -/
theorem root_det (fields : List Field) (root : B) (hw : WFH root) (hd : Det root)
    (hb : Lemmas.C03.BuiltFor (.struct (Fields.ofList fields)) false root) :
    ∀ c ∈ Lemmas.C03.decHRoot root, ∀ r ∈ c, r.isSome = true := by
  cases root with
  | struct p len v fs cached next seen =>
    simp only [Lemmas.C03.BuiltFor] at hb
    obtain ⟨_, _, hv, _⟩ := hb
    cases v with
    | some _ => cases hv
    | none =>
      intro c hc
      simp only [Lemmas.C03.decHRoot, List.mem_map] at hc
      obtain ⟨c', hc', rfl⟩ := hc
      exact det_root_cols hw hd c' hc'
  | _ => intro c hc; simp [Lemmas.C03.decHRoot] at hc

/-- **the physical half of C01 for `to_marrow`, from `Sound` of the final state alone** -/
theorem toMarrow_decode_of_sound (ext : Ext) (fields : List Field) (rows : List SVal) (arrs : List Arr)
    (hsound : ∀ root0 root out, newRoot fields = .ok root0 → runRows ext fields rows = .ok root →
      buildArrays ext root = .ok out → WFH root → Lemmas.C03.Sound root)
    (h : toMarrow ext fields rows = .ok arrs) :
    ∃ root, runRows ext fields rows = .ok root ∧ arrs.map decodeAll = (decRoot root).map (·.map .ok) ∧
      ∀ col ∈ decRoot root, col.length = rows.length := by
  obtain ⟨root0, root, rest, h0, hrun, hba, hw, hd, _, hc, hb⟩ := toMarrow_inv ext fields rows arrs h
  exact ⟨root, hrun, Props.C03.buildArrays_decode ext root _ hw (hsound root0 root _ h0 hrun hba hw)
    (root_det fields root hw hd hb) hba, hc⟩

/-! ### the counter-example `dict_placeholder_unstable` is inside R1' -/

/-- the state of `dict_placeholder_unstable`: a non-nullable-key dictionary holding one placeholder key and no value -/
def exPlaceholderDict : B :=
  .dictionary "$.s.d" (.leaf "$.s.d.key" (.int .u32) none [0]) (.bytes "$.s.d.value" .utf8 none [0] []) []

/-- it violates the strict invariant, satisfies the weak one, its single row is undetermined … -/
example : ¬ WFB exPlaceholderDict ∧ WFH exPlaceholderDict ∧ NoDictKey exPlaceholderDict ∧
    decH exPlaceholderDict = [none] := by
  refine ⟨?_, ?_, by simp [exPlaceholderDict, NoDictKey, B.isDict], by decide⟩
  · intro h
    simp only [exPlaceholderDict, WFB] at h
    have hm : LVal.int 0 ∈ dec (B.leaf "$.s.d.key" (.int .u32) none [0]) := by
      rw [show dec (B.leaf "$.s.d.key" (.int .u32) none [0]) = [.int 0] from by decide]; simp
    have := h.2.2.2.2.1 (.int 0) hm 0 rfl
    simp at this
  · simp only [exPlaceholderDict, WFH]
    refine ⟨VLen.none _, ⟨⟨rfl, rfl, by decide⟩, VLen.none _⟩, by decide, by decide, ?_, ⟨fun _ => by decide, fun _ => rfl⟩, by decide⟩
    intro k hk j hj
    have : dec (B.leaf "$.s.d.key" (.int .u32) none [0]) = [.int 0] := by decide
    rw [this] at hk
    simp at hk; subst hk; cases hj
    exact ⟨by omega, Or.inr ⟨rfl, rfl⟩⟩

/-- … and pushing the first real value (where `dec` jumps from `[null]` to `["a", "a"]`) is an instance of R1': the
undetermined row becomes "a", the new row is the determined "a" -/
example : ∃ b', push {} exPlaceholderDict (.str "a") = .ok b' ∧ decH b' = [some (.str [97]), some (.str [97])] ∧
    Refines (decH b') (decH exPlaceholderDict ++ [some (.str [97])]) := by
  refine ⟨.dictionary "$.s.d" (.leaf "$.s.d.key" (.int .u32) none [0, 0])
    (.bytes "$.s.d.value" .utf8 none [0, 1] [97]) ["a"], by decide +kernel, by decide +kernel, ?_⟩
  have e1 : decH (B.dictionary "$.s.d" (.leaf "$.s.d.key" (.int .u32) none [0, 0])
      (.bytes "$.s.d.value" .utf8 none [0, 1] [97]) ["a"]) = [some (.str [97]), some (.str [97])] := by decide +kernel
  have e2 : decH exPlaceholderDict = [none] := by decide
  rw [e1, e2]
  refine ⟨rfl, ?_⟩
  intro i x hx
  match i, hx with
  | 1, hx => simpa using hx

/-! ## R2' -/

/-- **R2' — no `Safe` clause 1.**  The determined row a successful push appends is the documented one: `Spec.interpDT`
at the field the builder was built for; hypotheses on the value as in `push_interp` (`hraw`, `hnar`). -/
theorem push_interp' (ext : Ext) (x : SVal) (b b' : B) (dt : DataType) (n : Bool) (md : Metadata)
    (hraw : structStreamsAlternate x = true) (hnar : noRaw x = true ∨ narrowDT dt = true)
    (hwf : WFH b) (hnd : NoDictKey b) (hshape : Shape b dt n md) (h : push ext b x = .ok b') :
    WFH b' ∧ NoDictKey b' ∧ Shape b' dt n md ∧
      ∃ lv, Refines (decH b') (decH b ++ [some lv]) ∧ interpDT ext dt n md x = .ok lv := by
  have ht := push_takeRest ext x b b' h
  obtain ⟨hw', hn', lv, hd⟩ := push_refines ext x b b' hwf hnd h
  refine ⟨hw', hn', Shape.of_takeRest ht hshape, lv, hd, ?_⟩
  rcases hnar with hno | hnar
  · exact Build.push_interpH ext false x b b' dt n md lv hno (fun hn => by cases hn) hwf hnd hshape h hd
      (Lemmas.C03.WFH_small b' hw')
  · exact Build.push_interpH ext true x b b' dt n md lv hraw (fun _ => hnar) hwf hnd hshape h hd
      (Lemmas.C03.WFH_small b' hw')

/-- R2' for determined states: the row appended to `dec` is the documented one -/
theorem push_interp_det (ext : Ext) (x : SVal) (b b' : B) (dt : DataType) (n : Bool) (md : Metadata)
    (hraw : structStreamsAlternate x = true) (hnar : noRaw x = true ∨ narrowDT dt = true)
    (hwf : WFH b) (hnd : NoDictKey b) (hdet : Det b) (hshape : Shape b dt n md) (h : push ext b x = .ok b') :
    WFH b' ∧ NoDictKey b' ∧ Det b' ∧ Shape b' dt n md ∧
      ∃ lv, dec b' = dec b ++ [lv] ∧ interpDT ext dt n md x = .ok lv := by
  obtain ⟨hw', hn', hd', lv, he, hr⟩ := Build.push_appends_det ext x b b' hwf hnd hdet h
  obtain ⟨_, _, hsh', lv', hr', hi⟩ := push_interp' ext x b b' dt n md hraw hnar hwf hnd hshape h
  have := Refines.snoc_inj hr hr'
  subst this
  exact ⟨hw', hn', hd', hsh', lv, he, hi⟩

theorem foldl_push_interp' (ext : Ext) (dt : DataType) (n : Bool) (md : Metadata) : ∀ (rows : List SVal) (b b' : B),
    (∀ x ∈ rows, structStreamsAlternate x = true) → ((∀ x ∈ rows, noRaw x = true) ∨ narrowDT dt = true) →
    WFH b → NoDictKey b → Det b → Shape b dt n md → rows.foldlM (push ext) b = .ok b' →
    ∃ ls, dec b' = dec b ++ ls ∧ All2 (fun lv x => interpDT ext dt n md x = .ok lv) ls rows
  | [], b, b', _, _, _, _, _, _, h => by
    simp [List.foldlM, pure, Except.pure] at h; subst h
    exact ⟨[], by simp, .nil⟩
  | x :: rest, b, b', hraw, hnar, hwf, hs, hdet, hsh, h => by
    simp only [List.foldlM] at h
    obtain ⟨b1, h1, h⟩ := (bind_ok _ _ _).1 h
    obtain ⟨hw1, hs1, hd1', hsh1, lv, hd1, hi⟩ := push_interp_det ext x b b1 dt n md (hraw x (by simp))
      (hnar.imp (fun hno => hno x (by simp)) id) hwf hs hdet hsh h1
    obtain ⟨ls, hd, hall⟩ := foldl_push_interp' ext dt n md rest b1 b' (fun y hy => hraw y (by simp [hy]))
      (hnar.imp (fun hno y hy => hno y (by simp [hy])) id) hw1 hs1 hd1' hsh1 h
    exact ⟨lv :: ls, by rw [hd, hd1]; simp, .cons hi hall⟩

/-- **R3' — `runRows_interp` without `Safe`.**  After all records have been pushed into a fresh root, the rows the root
holds are exactly the documented rows `interpRow` of the records, in order; the root is a struct of `rows.length` rows
without validity, and every column has length `rows.length`.  `coveredWF` (Lemmas/C01NewShape.lean) is true of everything
`build_builder` refuses and of everything it accepts EXCEPT `Dictionary(integer, V)` with `V` ∈ Utf8View, Date32, Date64,
Time32, Time64, Timestamp, Duration, Decimal128, Dictionary (value builders that accept strings without being Utf8 /
LargeUtf8 builders); a dictionary whose value builder refuses strings (`V` = Null, Boolean, an integer / float type, a
binary type, a list, map, struct or union) is INSIDE: every non-null push into it fails, as the specification demands. -/
theorem runRows_interp' (ext : Ext) (fields : List Field) (rows : List SVal) (root0 root : B)
    (hc : fields.all coveredWF = true) (h0 : newRoot fields = .ok root0)
    (hraw : ∀ x ∈ rows, structStreamsAlternate x = true)
    (hnar : (∀ x ∈ rows, noRaw x = true) ∨ narrowRoot fields = true) (h : runRows ext fields rows = .ok root) :
    All2 (fun lv x => interpRow ext fields x = .ok lv) (dec root) rows ∧
    (∀ col ∈ decRoot root, col.length = rows.length) ∧
    ∃ p fs cached next seen, root = .struct p rows.length none fs cached next seen ∧
      dec root = (List.range rows.length).map (rowAt (decCols fs)) := by
  have hrows := runRows_rows' ext fields rows root0 root h0 h
  have h' := h
  simp only [runRows, h0] at h'
  have h' : rows.foldlM (push ext) root0 = .ok root := h'
  obtain ⟨hw0, hd0, ht0⟩ := newRoot_fresh h0
  obtain ⟨ls, hd, hall⟩ := foldl_push_interp' ext _ _ _ rows root0 root hraw hnar (Build.WFH_of_WFB _ hw0)
    (Build.newRoot_NoDictKey h0) (Det_of_WFB hw0) (newRoot_shapeW hc h0) h'
  rw [hd0, List.nil_append] at hd
  refine ⟨by rw [hd]; exact hall, hrows.2.2.2.2, ?_⟩
  obtain ⟨p, bl, c, s, hr0⟩ := runRows_interp.newRoot_struct h0
  obtain ⟨p', len, fs, cached, next, seen, rfl⟩ := runRows_rows.struct_of_takeRest root (hrows.2.2.2.1.trans hr0)
  have hlen : len = rows.length := by
    have := hrows.2.2.1
    simpa [dec_struct, maskNull] using this
  subst hlen
  exact ⟨_, _, _, _, _, rfl, by rw [dec_struct]; rfl⟩

/-- non-vacuity of `runRows_interp'` OUTSIDE `covered`: `d: Dictionary(Int8, Int32)?` — the value builder refuses strings — is
inside `coveredWF`; a batch of nulls is accepted and the hypotheses of R3' hold; a string is refused by the builder and
undefined in the specification alike -/
def exRefusingFields : List Field := [.mk "d" (.dictionary .int8 .int32) true []]
def exRefusingRows : List SVal := [.record "R" (.cons "d" 0 .none .nil), .record "R" (.cons "d" 0 .unit .nil)]

example : exRefusingFields.all coveredWF = true ∧ exRefusingFields.all coveredF = false ∧
    (∀ x ∈ exRefusingRows, structStreamsAlternate x = true) ∧ (∀ x ∈ exRefusingRows, noRaw x = true) ∧
    (runRows {} exRefusingFields exRefusingRows).isOk = true ∧
    (exRefusingRows.map (interpRow {} exRefusingFields)).all (·.isOk) = true ∧
    (interpRow {} exRefusingFields (.record "R" (.cons "d" 0 (.str "5") .nil))).isErr = true ∧
    (toMarrow {} exRefusingFields [.record "R" (.cons "d" 0 (.str "5") .nil)]).isErr = true := by decide +kernel

/-! ## the end-to-end statements -/

/-- the columns of the root's children carry the field names -/
theorem decCols_names : ∀ (fs : BL) (fl : List Field), Lemmas.C03.BuiltForL (Fields.ofList fl) fs →
    (decCols fs).map (·.1) = fl.map (·.name)
  | .nil, [], _ => rfl
  | .nil, _ :: _, h => by simp [Fields.ofList, Lemmas.C03.BuiltForL] at h
  | .cons _ _ _, [], h => by simp [Fields.ofList, Lemmas.C03.BuiltForL] at h
  | .cons b m r, f :: fr, h => by
    simp only [Fields.ofList, Lemmas.C03.BuiltForL] at h
    obtain ⟨rfl, _, hr⟩ := h
    simp only [decCols, List.map_cons, decCols_names r fr hr]
    cases f; rfl

/-- **C01 for `to_marrow` on `coveredWF`.**  `C01_build_decode'` with the schema hypothesis `coveredF` (every integer-keyed
dictionary has Utf8 / LargeUtf8 values) weakened to `coveredWF`: a `Dictionary(integer, V)` column may also have a value type
`V` whose builder refuses strings — Null, Boolean, integers, floats, Binary, LargeBinary, BinaryView, FixedSizeBinary, lists,
maps, structs, unions — at any nesting, with nullable or non-nullable keys.  (Such a column only ever holds nulls, or sits in
a container without elements: every non-null push fails and the specification is undefined alike; with non-nullable keys
hidden below a null struct, `into_array` itself refuses — the statement is about successful runs.)  Still excluded: `V` ∈
{Utf8View, Date32, Date64, Time32, Time64, Timestamp, Duration, Decimal128, Dictionary}. -/
theorem C01_build_decode'' (ext : Ext) (fields : List Field) (rows : List SVal) (arrs : List Arr)
    (hschema : ∀ f ∈ fields, Lemmas.C03.SchemaOKF f)
    (hcov : fields.all Build.coveredWF = true)
    (hraw : ∀ x ∈ rows, Build.structStreamsAlternate x = true)
    (hnar : (∀ x ∈ rows, Build.noRaw x = true) ∨ Build.narrowRoot fields = true)
    (h : toMarrow ext fields rows = .ok arrs) :
    arrs.length = fields.length ∧
    ∃ cols : List (String × List LVal),
      arrs.map decodeAll = cols.map (fun c => c.2.map .ok) ∧
      cols.map (·.1) = fields.map (·.name) ∧
      (∀ c ∈ cols, c.2.length = rows.length) ∧
      ∀ (i : Nat) (hi : i < rows.length),
        interpRow ext fields rows[i] = .ok (.struct (LFields.ofList (cols.map fun c => (c.1, c.2.getD i .null)))) := by
  obtain ⟨root, hrun, hdec, _⟩ := toMarrow_decode_of_sound ext fields rows arrs (fun _ root out _ hrun hba hw =>
    (Lemmas.C03.root_factsW (px := false) ext (fun hpx => by cases hpx) fields rows root out hschema
      (Lemmas.C03.all_coveredPF_of_coveredWF hcov) hw hrun hba).2.1) h
  obtain ⟨root0, h0⟩ := Props.C03.runRows_newRoot hrun
  obtain ⟨hall, hcols, p, fs, cached, next, seen, rfl, hdecr⟩ :=
    runRows_interp' ext fields rows root0 root hcov h0 hraw hnar hrun
  have hb := Lemmas.C03.runRows_builtFor ext fields rows _ (Build.push_takeRest ext) hrun
  simp only [Lemmas.C03.BuiltFor] at hb
  obtain ⟨fields', hfe, _, hbl⟩ := hb
  simp only [DataType.struct.injEq] at hfe
  subst hfe
  have hn := decCols_names fs _ hbl
  refine ⟨?_, decCols fs, ?_, hn, ?_, ?_⟩
  · have e1 := congrArg List.length hdec
    have e2 := congrArg List.length hn
    simp only [decRoot, List.length_map] at e1 e2
    omega
  · rw [hdec]
    simp only [decRoot, List.map_map]
    rfl
  · intro c hc
    exact hcols c.2 (by simp only [decRoot, List.mem_map]; exact ⟨c, hc, rfl⟩)
  · intro i hi
    obtain ⟨hl, hg⟩ := Props.C03.All2_get hall
    have h1 : i < (dec (B.struct p rows.length none fs cached next seen)).length := by rw [hl]; exact hi
    have := hg i h1 hi
    rw [this]
    congr 1
    simp only [hdecr, List.getElem_map, List.getElem_range, Build.rowAt]

/-- **C01 for `to_marrow` — `C01_build_decode` WITHOUT `hsafe`.**  Whenever serializing `rows` against `fields` succeeds,
the returned arrays decode (Arrow reading rules) to columns `cols` — one per field, named after it, of `rows.length` slots
each — and the documented value `Spec.interpRow` of the `i`-th input record is exactly the struct whose `j`-th field is
slot `i` of column `j`.  Every schema `build_builder` accepts with `coveredF`, INCLUDING dictionaries with non-nullable
keys below nullable structs / fixed-size lists (the slots hidden below a null hold the placeholder key 0, read through
the dummy value `into_array` appends — the reading rules never look at them).  Remaining hypotheses: `hschema`, `hcov`,
`hraw`, `hnar` exactly as in `C01_build_decode`. -/
theorem C01_build_decode' (ext : Ext) (fields : List Field) (rows : List SVal) (arrs : List Arr)
    (hschema : ∀ f ∈ fields, Lemmas.C03.SchemaOKF f)
    (hcov : fields.all Build.coveredF = true)
    (hraw : ∀ x ∈ rows, Build.structStreamsAlternate x = true)
    (hnar : (∀ x ∈ rows, Build.noRaw x = true) ∨ Build.narrowRoot fields = true)
    (h : toMarrow ext fields rows = .ok arrs) :
    arrs.length = fields.length ∧
    ∃ cols : List (String × List LVal),
      arrs.map decodeAll = cols.map (fun c => c.2.map .ok) ∧
      cols.map (·.1) = fields.map (·.name) ∧
      (∀ c ∈ cols, c.2.length = rows.length) ∧
      ∀ (i : Nat) (hi : i < rows.length),
        interpRow ext fields rows[i] = .ok (.struct (LFields.ofList (cols.map fun c => (c.1, c.2.getD i .null)))) :=
  C01_build_decode'' ext fields rows arrs hschema (Build.all_coveredWF_of_coveredF hcov) hraw hnar h

/-- **C03 (structural half) on `Safe ∨ coveredPF px`.**  `C03_wfS'` with the second alternative `coveredF` weakened to
`coveredPF px`.  `px = false`: every integer-keyed dictionary has a value type whose builder stores strings (Utf8, LargeUtf8,
Utf8View) or refuses them (class (b) of Props/C01Dict.lean); still excluded is a schema that is neither `Safe` nor `coveredPF false` — a
dictionary with NON-nullable keys below a nullable struct / fixed-size list whose value type is Date32, Date64, Time32,
Time64, Timestamp, Duration, Decimal128 or a Dictionary.  `px = true` (then `hne : ExtNoEmpty ext` is asked): the parsed value
types are admitted too, only the nested Dictionary stays excluded. -/
theorem C03_wfS_px (px : Bool) (ext : Ext) (hne : px = true → Lemmas.C03.ExtNoEmpty ext)
    (fields : List Field) (rows : List SVal) (arrs : List Arr)
    (hschema : ∀ f ∈ fields, Lemmas.C03.SchemaOKF f)
    (hsafe : (∀ root0, newRoot fields = .ok root0 → Safe root0) ∨ fields.all (Lemmas.C03.coveredPF px) = true)
    (hext : Lemmas.C03.ExtOK ext)
    (hrows : ∀ x ∈ rows, Lemmas.C03.SValOK x)
    (h : toMarrow ext fields rows = .ok arrs) :
    arrs.length = fields.length ∧
    ∀ (j : Nat) (f : Field) (a : Arr), fields[j]? = some f → arrs[j]? = some a →
      WFS f a = true ∧ (decodeAll a).length = rows.length :=
  C03_wfS_of_sound ext fields rows arrs hext hrows (fun root0 root out h0 hrun hba hw => hsafe.elim
    (fun hs => sound_of_safe ext fields rows root0 root hschema (hs root0 h0) h0 hrun)
    (fun hcov => (Lemmas.C03.root_factsW ext hne fields rows root out hschema hcov hw hrun hba).2.1)) h

/-- **C03 — `C03_wfS` with `hsafe` weakened.**  Every array `to_marrow` returns is a well-formed array of its field
(`Spec.WFS`), one array per field, every array of `rows.length` rows — for schemas that are `Safe` (`C03_wfS` of Props/C03.lean) OR
`coveredF` (every dictionary has integer keys and Utf8/LargeUtf8 values: then the placeholder keys hidden below a null
designate the dummy value `""` that `DictionaryUtf8Builder::into_array` appends, `finish` has that branch, and the
finished dictionary is well formed).  What is still excluded: a schema that is neither — a dictionary with
NON-nullable keys and a value type other than Utf8/LargeUtf8 below a nullable struct / fixed-size list. -/
theorem C03_wfS' (ext : Ext) (fields : List Field) (rows : List SVal) (arrs : List Arr)
    (hschema : ∀ f ∈ fields, Lemmas.C03.SchemaOKF f)
    (hsafe : (∀ root0, newRoot fields = .ok root0 → Safe root0) ∨ fields.all Build.coveredF = true)
    (hext : Lemmas.C03.ExtOK ext)
    (hrows : ∀ x ∈ rows, Lemmas.C03.SValOK x)
    (h : toMarrow ext fields rows = .ok arrs) :
    arrs.length = fields.length ∧
    ∀ (j : Nat) (f : Field) (a : Arr), fields[j]? = some f → arrs[j]? = some a →
      WFS f a = true ∧ (decodeAll a).length = rows.length :=
  C03_wfS_px false ext (fun hpx => by cases hpx) fields rows arrs hschema
    (hsafe.imp id Lemmas.C03.all_coveredPF_of_coveredF) hext hrows h

/-! ### a worked instance OUTSIDE `Safe`: every hypothesis of `C01_build_decode'` discharged on a real run

Schema `{s: Struct{d: Dictionary(UInt8, Utf8)}?}` — a dictionary with NON-nullable keys below a nullable struct, the
shape `Safe` excludes.  Three records: `s = None` (the dictionary receives the placeholder key 0 while it is empty),
`s = {d: "a"}` (the first real value: the hidden slot now designates "a"), `s = None` again. -/

def exUnsafeFields : List Field :=
  [.mk "s" (.struct (.cons (.mk "d" (.dictionary .uint8 .utf8) false []) .nil)) true []]
def exUnsafeRows : List SVal :=
  [.record "R" (.cons "s" 0 .none .nil),
   .record "R" (.cons "s" 0 (.some (.record "S" (.cons "d" 0 (.str "a") .nil))) .nil),
   .record "R" (.cons "s" 0 .none .nil)]

/-- the schema is outside `Safe` … -/
theorem exUnsafe_not_safe : ∀ root0, newRoot exUnsafeFields = .ok root0 → ¬ Safe root0 := by
  intro root0 h0
  rw [show newRoot exUnsafeFields = .ok (.struct "$" 0 none
    (.cons (.struct "$.s" 0 (some [])
        (.cons (.dictionary "$.s.d" (.leaf "$.s.d.key" (.int .u8) none []) (.bytes "$.s.d.value" .utf8 none [0] []) [])
          ⟨"d", false, []⟩ .nil) [none] 0 [false]) ⟨"s", true, []⟩ .nil) [none] 0 [false]) from by decide] at h0
  cases h0
  simp [Safe, SafeL, DefSafe, DefSafeL, B.isNullable]

/-- … serialization succeeds … -/
theorem exUnsafeOk : (toMarrow {} exUnsafeFields exUnsafeRows).isOk = true := by decide +kernel

/-- … and `C01_build_decode'` applies with every hypothesis discharged -/
example : ∀ arrs, toMarrow {} exUnsafeFields exUnsafeRows = .ok arrs → arrs.length = exUnsafeFields.length ∧
    ∃ cols : List (String × List LVal), arrs.map decodeAll = cols.map (fun c => c.2.map .ok) ∧
      cols.map (·.1) = exUnsafeFields.map (·.name) ∧ (∀ c ∈ cols, c.2.length = exUnsafeRows.length) ∧
      ∀ (i : Nat) (hi : i < exUnsafeRows.length), interpRow {} exUnsafeFields exUnsafeRows[i] =
        .ok (.struct (LFields.ofList (cols.map fun c => (c.1, c.2.getD i .null)))) := by
  intro arrs h
  refine C01_build_decode' {} exUnsafeFields exUnsafeRows arrs ?_ (by decide) (by decide) (Or.inl (by decide)) h
  simp [exUnsafeFields, Lemmas.C03.SchemaOKF, Lemmas.C03.SchemaOK, Lemmas.C03.SchemaOKFs]

/-- … as does `C03_wfS'` (through its second alternative) -/
example : ∀ arrs, toMarrow {} exUnsafeFields exUnsafeRows = .ok arrs → arrs.length = exUnsafeFields.length ∧
    ∀ (j : Nat) (f : Field) (a : Arr), exUnsafeFields[j]? = some f → arrs[j]? = some a →
      WFS f a = true ∧ (decodeAll a).length = exUnsafeRows.length := by
  intro arrs h
  refine C03_wfS' {} exUnsafeFields exUnsafeRows arrs ?_ (Or.inr (by decide)) ?_ ?_ h
  · simp [exUnsafeFields, Lemmas.C03.SchemaOKF, Lemmas.C03.SchemaOK, Lemmas.C03.SchemaOKFs]
  · exact { date32 := (by intro s v h; cases h), date64 := (by intro s v h; cases h),
            time := (by intro u s v h; cases h), timestamp := (by intro u utc s v h; cases h),
            duration := (by intro u s v h; cases h) }
  · intro x hx
    simp only [exUnsafeRows, List.mem_cons, List.not_mem_nil, or_false] at hx
    rcases hx with rfl | rfl | rfl <;>
      simp [Lemmas.C03.SValOK, Lemmas.C03.SFieldsOK, Lemmas.C03.ScalarOK]

/-- what the run really holds: the dictionary child reads "a" in all three slots (two of them hidden placeholders), the
struct column reads null, {d: "a"}, null -/
example : (do let root ← runRows {} exUnsafeFields exUnsafeRows; pure (decRoot root) : R (List (List LVal))) =
    .ok [[.null, .struct (.cons "d" (.str [97]) .nil), .null]] := by decide +kernel

/-! ### C03 with type equality

`Spec.WF f a = Spec.WFS f a ∧ Spec.typeOf a = f.dataType`: `typeOf` is marrow's `Array::data_type`, written over the
physical array alone.  `C03_wfS'` above is the structural half (`WFS`, whose `.union` / `.map` arms do not
look at the union mode and at the nullability / metadata of the entries field).  The type half: `build_builder` refuses
sparse unions and nullable Map entries (repo fixes c63d82e, 25f1351 — `Lemmas.C03.newRoot_strict`), and for such a type a
structurally valid array has exactly that type (`Lemmas.C03.wf_typeOf`, arbitrary arrays). -/

/-- **C03, the headline (`Spec.WF` = `Spec.WFS` ∧ `Spec.typeOf a = f.dataType`) on `Safe ∨ coveredPF px`.**  `C03_wf'` with the
second alternative weakened as in `C03_wfS_px`; the other hypotheses unchanged (`hschema`: no `FixedSizeBinary(0)`; `hplain`:
no metadata on a Map's entries field; `hext`; `hrows`). -/
theorem C03_wf_px (px : Bool) (ext : Ext) (hne : px = true → Lemmas.C03.ExtNoEmpty ext)
    (fields : List Field) (rows : List SVal) (arrs : List Arr)
    (hschema : ∀ f ∈ fields, Lemmas.C03.SchemaOKF f)
    (hplain : ∀ f ∈ fields, Lemmas.C03.PlainF f)
    (hsafe : (∀ root0, newRoot fields = .ok root0 → Safe root0) ∨ fields.all (Lemmas.C03.coveredPF px) = true)
    (hext : Lemmas.C03.ExtOK ext)
    (hrows : ∀ x ∈ rows, Lemmas.C03.SValOK x)
    (h : toMarrow ext fields rows = .ok arrs) :
    arrs.length = fields.length ∧
    ∀ (j : Nat) (f : Field) (a : Arr), fields[j]? = some f → arrs[j]? = some a →
      WF f a = true ∧ (decodeAll a).length = rows.length := by
  obtain ⟨hlen, hall⟩ := C03_wfS_px px ext hne fields rows arrs hschema hsafe hext hrows h
  obtain ⟨root, hrun, _⟩ := Props.C03.toMarrow_split ext fields rows arrs h
  obtain ⟨root0, h0⟩ := Props.C03.runRows_newRoot hrun
  have hstrict := Lemmas.C03.newRoot_strict fields root0 h0 hplain
  refine ⟨hlen, fun j f a hf ha => ?_⟩
  obtain ⟨hw, hn⟩ := hall j f a hf ha
  exact ⟨Lemmas.C03.WF_of_WFS f a hw (hstrict f (List.mem_of_getElem? hf)), hn⟩

/-- **C03, the headline (`Spec.WF` = `Spec.WFS` ∧ `Spec.typeOf a = f.dataType`).**  Every array `to_marrow` returns is a
structurally valid array WHOSE DATA TYPE EQUALS the data type of its field — child names, nullability, metadata, time units
and zones, precision / scale, sizes, union mode and type ids, the map's sorted flag and entries field, dictionary key / value
types — one array per field, every array of `rows.length` rows.  Hypotheses: those of `C03_wfS'` (`hschema`: no
`FixedSizeBinary(0)`, known finding C03-fixed-size-binary-0; `hsafe`: `Safe` of the fresh root OR `coveredF` of every field;
`hext`: `ExtOK`; `hrows`: `SValOK`) plus `hplain`, the exclusion of the KNOWN finding C03-map-entries-metadata (metadata on the
ENTRIES field of a Map is dropped: marrow's `MapMeta` has no room for it; witness `Props.C03.entries_metadata_not_WF` in
Props/C03Typed.lean). -/
theorem C03_wf' (ext : Ext) (fields : List Field) (rows : List SVal) (arrs : List Arr)
    (hschema : ∀ f ∈ fields, Lemmas.C03.SchemaOKF f)
    (hplain : ∀ f ∈ fields, Lemmas.C03.PlainF f)
    (hsafe : (∀ root0, newRoot fields = .ok root0 → Safe root0) ∨ fields.all Build.coveredF = true)
    (hext : Lemmas.C03.ExtOK ext)
    (hrows : ∀ x ∈ rows, Lemmas.C03.SValOK x)
    (h : toMarrow ext fields rows = .ok arrs) :
    arrs.length = fields.length ∧
    ∀ (j : Nat) (f : Field) (a : Arr), fields[j]? = some f → arrs[j]? = some a →
      WF f a = true ∧ (decodeAll a).length = rows.length :=
  C03_wf_px false ext (fun hpx => by cases hpx) fields rows arrs hschema hplain
    (hsafe.imp id Lemmas.C03.all_coveredPF_of_coveredF) hext hrows h

/-- non-vacuity: the instance above (outside `Safe`), now with the type of every array -/
example : ∀ arrs, toMarrow {} exUnsafeFields exUnsafeRows = .ok arrs → arrs.length = exUnsafeFields.length ∧
    ∀ (j : Nat) (f : Field) (a : Arr), exUnsafeFields[j]? = some f → arrs[j]? = some a →
      WF f a = true ∧ (decodeAll a).length = exUnsafeRows.length := by
  intro arrs h
  refine C03_wf' {} exUnsafeFields exUnsafeRows arrs ?_ ?_ (Or.inr (by decide)) ?_ ?_ h
  · simp [exUnsafeFields, Lemmas.C03.SchemaOKF, Lemmas.C03.SchemaOK, Lemmas.C03.SchemaOKFs]
  · simp [exUnsafeFields, Lemmas.C03.PlainF, Lemmas.C03.PlainDT, Lemmas.C03.PlainFs]
  · exact { date32 := (by intro s v h; cases h), date64 := (by intro s v h; cases h),
            time := (by intro u s v h; cases h), timestamp := (by intro u utc s v h; cases h),
            duration := (by intro u s v h; cases h) }
  · intro x hx
    simp only [exUnsafeRows, List.mem_cons, List.not_mem_nil, or_false] at hx
    rcases hx with rfl | rfl | rfl <;>
      simp [Lemmas.C03.SValOK, Lemmas.C03.SFieldsOK, Lemmas.C03.ScalarOK]

end SaModel.Props.C01
