import SaModel.Build.ViewPack
import SaModel.Lemmas.C16Push
/-
C16: the `assert!`s of `bytes_view::{pack_len, pack_inline, pack_extern}` cannot fire.

`Build/ViewPack.lean` writes the packers with their asserts as `panic` branches and the two callers with them
(`viewPushValueA`, `viewSeqA`); the theorems say that these equal the models the builder theorems are about
(`viewPushValue`, `viewSeq`: `push_no_panic` & co.) on EVERY input — views, buffer contents and value of any length — so
the asserts are dead code behind the callers' guards (repo fix 7155f96), and that neither version unwinds.
-/
namespace SaModel.Props.C16
open SaModel SaModel.Build

theorem viewPushValueA_eq (views : List Nat) (buf0 value : Bytes) :
    viewPushValueA views buf0 value = viewPushValue views buf0 value := by
  unfold viewPushValueA viewPushValue packInlineA packExternA
  by_cases h12 : value.length ≤ 12
  · have : ¬ (value.length > 12 ∧ (value.length > I32_MAX ∨ buf0.length > I32_MAX)) := by omega
    simp only [if_neg this, if_pos h12]; rfl
  · by_cases hov : value.length > I32_MAX ∨ buf0.length > I32_MAX
    · have : value.length > 12 ∧ (value.length > I32_MAX ∨ buf0.length > I32_MAX) := ⟨by omega, hov⟩
      simp only [if_pos this, if_neg h12, if_pos hov]
    · have h0 : ¬ (value.length > 12 ∧ (value.length > I32_MAX ∨ buf0.length > I32_MAX)) := fun h => hov h.2
      have h1 : ¬ value.length < 4 := by omega
      have h2 : ¬ value.length > I32_MAX := fun h => hov (Or.inl h)
      have h3 : ¬ (0 : Nat) > I32_MAX := by decide
      have h4 : ¬ buf0.length > I32_MAX := fun h => hov (Or.inr h)
      simp only [if_neg h0, if_neg h12, if_neg hov, if_neg h1, if_neg h2, if_neg h3, if_neg h4]; rfl

theorem viewSeqA_eq (views : List Nat) (buf0 bytes : Bytes) :
    viewSeqA views buf0 bytes = viewSeq views buf0 bytes := by
  unfold viewSeqA viewSeq packLenA packInlineA packExternA
  have hz : (0 : Nat) ≤ I32_MAX := by decide
  simp only [if_pos hz]
  by_cases hbig : bytes.length > I32_MAX
  · simp only [if_pos hbig]; rfl
  · have hle : bytes.length ≤ I32_MAX := by omega
    by_cases h12 : bytes.length ≤ 12
    · simp only [if_neg hbig, if_pos hle, if_pos h12]; rfl
    · by_cases hb : buf0.length > I32_MAX
      · simp only [if_neg hbig, if_pos hle, if_neg h12, if_pos hb]; rfl
      · have h1 : ¬ bytes.length < 4 := by omega
        have h3 : ¬ (0 : Nat) > I32_MAX := by decide
        simp only [if_neg hbig, if_pos hle, if_neg h12, if_neg hb, if_neg h1, if_neg h3]; rfl

/-- `push_scalar_value` of a view builder never reaches an assert of the packers: every value, every buffer state -/
theorem viewPushValue_asserts_no_panic (views : List Nat) (buf0 value : Bytes) (site : String) :
    viewPushValueA views buf0 value ≠ panic site := by
  rw [viewPushValueA_eq]; exact Lemmas.C16.ne_panic_of_isPanic (Lemmas.C16.viewPushValue_np views buf0 value) site

/-- the sequence route (`start_seq` … `end_seq`) never reaches an assert of the packers -/
theorem viewSeq_asserts_no_panic (views : List Nat) (buf0 bytes : Bytes) (site : String) :
    viewSeqA views buf0 bytes ≠ panic site := by
  rw [viewSeqA_eq]; exact Lemmas.C16.ne_panic_of_isPanic (Lemmas.C16.viewSeq_np views buf0 bytes) site

/-- non-vacuity: outside the callers' guards the asserts are reachable in the model (they are real branches), and behind
them the packers answer -/
example : packExternA [1, 2, 3] 0 0 = panic "bytes_view::pack_extern: assert!(data.len() >= 4)"
    ∧ packInlineA (List.replicate 13 0) = panic "bytes_view::pack_inline: assert!(data.len() <= 12)"
    ∧ packExternA [1, 2, 3, 4] 0 (I32_MAX + 1) = panic "bytes_view::pack_extern: assert!(offset <= i32::MAX as usize)"
    ∧ packLenA (I32_MAX + 1) = panic "bytes_view::pack_len: assert!(len <= i32::MAX as usize)"
    ∧ (viewPushValueA [] [] (List.replicate 13 7)).isOk = true
    ∧ (viewSeqA [] [] [1, 2, 3]).isOk = true := ⟨rfl, rfl, rfl, rfl, rfl, rfl⟩

end SaModel.Props.C16
