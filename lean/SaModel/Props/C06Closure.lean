import SaModel.Props.C06
import SaModel.Lemmas.C06Interp
import SaModel.Lemmas.C06Side
import SaModel.Lemmas.C06NewRoot
import SaModel.Props.C01CompleteObs
import SaModel.Props.C01
import SaModel.Props.C02
import SaModel.Props.C03Read
import SaModel.Lemmas.C06Readable
import SaModel.Lemmas.C06Typed
import SaModel.Lemmas.C06SafeT
import SaModel.Lemmas.C06Phys
import SaModel.Lemmas.C06PhysSize
import SaModel.Lemmas.C03Typed
import SaModel.Lemmas.C04RootKind
/-
C06 — a schema traced from samples accepts those same samples: the chain closed end to end.

  acc_interp            tracer ⇒ documented mapping, one position: a sample that was absorbed into a (reachable) tracer is
                        mapped by `Spec.interp` at the field of EVERY tracer reachable from there, unless it is excluded
  fromSamples_interp    the same for a traced collection: every sample of the collection, at the traced root field
  fromSamples_interpRow … in the form the builder theorems use (`Spec.interpRow` against the traced schema)
  to_schema_typed       every traced schema is well typed (`typedFs`), `total` and keyed by UInt32
  C06_closure_build     trace ⇒ build: `to_marrow` with the traced schema SUCCEEDS on the whole collection
                        (`Props.C01.toMarrow_complete'`, ALL schema hypotheses discharged: input-side hypotheses + capacity)
  C06_closure_decode    whenever `to_marrow` returns arrays, they decode (Arrow reading rules) column by column to
                        `interpRow` of the samples (`Props.C01.C01_build_decode'`)
  C06_closure_physical  the size precondition `Read.physical` of the reader holds for the arrays built from a traced schema, EVERY
                        option (dictionary-encoded strings included), when there are at most `i64::MAX` samples
                        (`Props.C03.toMarrow_physical`: the builders' counting invariant; a traced schema has no FixedSizeList)
  C06_closure_readback  … and `deserialize_any` on the arrays returns those logical values — NO reader-side hypothesis, every
                        option (`Props.C03.toMarrow_readAny_of_physical` + `C06_closure_physical`); input-side size hypothesis
                        `xs.length ≤ i64::MAX`.  `C06_closure_readback_nodict`: options without dictionary-encoded strings, no
                        size hypothesis at all (`Read.physical` from `Spec.WFS`: `Props.C03.wf_physical_plain`)
  C06_closure           the composition, EVERY option: hypotheses on the input only (capacity `Σ vsize ≤ 2^31 - 1`)
No theorem of this file carries C01's `Safe`: the builder side is the hidden-rows refinement of Props/C01Obs.lean /
Props/C01CompleteObs.lean (`toMarrow_complete'`, `C01_build_decode'`, `C03_wfS'` in its alternative `coveredF`).  `safeSchema` is
defined below only to state what a `Safe` hypothesis would exclude (`safeSchema_can_fail`, an instance of `C06_closure`).

Exclusions, each an explicit decidable predicate on (data type of the traced field, sample) — `Lemmas/C06Excl.lean`:
the three DOCUMENTED ones `nullAtEnum`, `dateLookalike`, `u64AboveI64`; the known finding `dataLessNewtype`; lifted to
nested samples by `hits` (some position the mapping visits).  (The finding of this proof, a unit struct at a position not of
type Null, is repaired — repo fix ae2fc46, `unitStruct_accepted` / `unitStruct_pinned` — and is not an exclusion.)  On the builder
side: only the capacity bound `Σ vsize ≤ 2^31 - 1`.  `total` and `typedFs` are theorems (`to_schema_typed`;
the traced instance of `total`, finding `C06-unseen-first-variant-default`, is repaired — repo fix 837fa53).  `excl_*_needed`: each exclusion is needed (a traced collection whose
sample the mapping refuses exactly there).
Repaired code (`Code.fixed`), options without overwrites (an overwrite replaces a traced field by an arbitrary one).
-/
namespace SaModel.Props.C06
open SaModel SaModel.Spec SaModel.Build SaModel.Trace SaModel.Lemmas.C06

/-- well-formedness of a sample as a serde value (`Lemmas/C06Excl.lean`) -/
abbrev SampleOK (o : Options) (x : SVal) : Prop := sampleOK o.map_as_struct x = true

/-- the sample meets one of the exclusions at some position (field-level) -/
abbrev ExcludedAt (ext : Ext) (f : Field) (x : SVal) : Bool := Lemmas.C06.Excluded ext f x

/-- the same against a root schema -/
def excludedRow (ext : Ext) (fields : List Field) (x : SVal) : Bool :=
  hits (exclAny ext) (.struct (Fields.ofList fields)) x

/-- **`acc_interp`** (tracer ⇒ documented mapping).  `x` was absorbed into a tracer `t0` satisfying the reachable-state
invariant, `t` is ANY tracer reachable from the result by absorbing further samples, `f` its field: the documented
mapping of `x` at `f` is defined — for every sample constructor, at any nesting — unless `x` is not a well-formed serde
value or one of the exclusions holds at some position. -/
theorem acc_interp (o : Options) (ext : Ext) (h0 : o.overwrites = []) {t0 t1 t : Tracer} {x : SVal} {f : Field}
    (hinv : Inv o t0) (habs : absorb .fixed o t0 x = .ok t1) (hsteps : Steps .fixed o t1 t)
    (hf : t.to_field o = .ok f) (hok : SampleOK o x) (hex : ExcludedAt ext f x = false) :
    ∃ lv, interp ext f x = .ok lv := by
  obtain ⟨lv, hlv⟩ := PI_all o ext h0 x t0 t1 hinv habs t hsteps f hf hok hex
  exact ⟨lv, by cases f; exact hlv⟩

/-- the tracer `from_samples` returns satisfies the invariant -/
theorem fromSamples_inv {o : Options} {xs : List SVal} {t : Tracer} (h : fromSamplesTracer .fixed o xs = .ok t) :
    Inv o t :=
  steps_inv (Inv_new o "$" "$") ⟨xs, fromSamplesTracer_absorbAll h⟩

/-- **`fromSamples_interp`**: after `from_samples`, the traced root field maps every sample of the collection -/
theorem fromSamples_interp (o : Options) (ext : Ext) (h0 : o.overwrites = []) {xs : List SVal} {t : Tracer} {f : Field}
    (h : fromSamplesTracer .fixed o xs = .ok t) (hf : t.to_field o = .ok f) :
    ∀ x ∈ xs, SampleOK o x → ExcludedAt ext f x = false → ∃ lv, interp ext f x = .ok lv := by
  intro x hx hok hex
  obtain ⟨lv, hlv⟩ := mapped_all o ext h0 x t
    (absorbAll_was xs _ t (WF_new o "$" "$") (fromSamplesTracer_absorbAll h) x hx) (fromSamples_inv h) f hf hok hex
  exact ⟨lv, by cases f; exact hlv⟩

/-- the strategy metadata of a struct field is irrelevant for the mapping -/
theorem interpDT_struct_md (ext : Ext) (fs : Fields) (n : Bool) (md md' : Metadata) :
    ∀ x : SVal, interpDT ext (.struct fs) n md x = interpDT ext (.struct fs) n md' x :=
  Roundtrip.interpDT_struct_md ext fs n md md'

/-- the tracer and its root field behind a traced schema -/
theorem fromSamples_root {o : Options} {xs : List SVal} {fields : List Field} (h : fromSamples .fixed o xs = .ok fields) :
    ∃ t n children md, fromSamplesTracer .fixed o xs = .ok t ∧ t.to_schema o = .ok fields ∧
      t.to_field o = .ok (.mk n (.struct children) false md) ∧ fields = children.toList := by
  unfold fromSamples at h
  cases ht : fromSamplesTracer .fixed o xs with
  | error e => rw [ht] at h; cases h
  | ok t =>
    rw [ht] at h
    have h : t.to_schema o = .ok fields := h
    obtain ⟨n, children, md, hr, hfe⟩ := to_schema_ok o t fields h
    exact ⟨t, n, children, md, rfl, h, hr, hfe⟩

/-- **`fromSamples_interpRow`**: the traced schema maps every sample of the collection it was traced from
(`Spec.interpRow`: the form the builder theorems of C01 use) -/
theorem fromSamples_interpRow (o : Options) (ext : Ext) (h0 : o.overwrites = []) {xs : List SVal} {fields : List Field}
    (h : fromSamples .fixed o xs = .ok fields) :
    ∀ x ∈ xs, SampleOK o x → excludedRow ext fields x = false → ∃ lv, interpRow ext fields x = .ok lv := by
  obtain ⟨t, n, children, md, ht, _, hr, rfl⟩ := fromSamples_root h
  intro x hx hok hex
  have hofl : Fields.ofList children.toList = children := Roundtrip.ofList_toList' children
  obtain ⟨lv, hlv⟩ := fromSamples_interp o ext h0 ht hr x hx hok (by
    simpa [ExcludedAt, Lemmas.C06.Excluded, excludedRow, Field.dataType, hofl] using hex)
  refine ⟨lv, ?_⟩
  simp only [interp] at hlv
  rw [interpRow, hofl, interpDT_struct_md ext children false [] md x]
  exact hlv

/-- the tracer behind a traced schema has a seen variant in each union node (`Lemmas/C06Seen.lean`) -/
theorem fromSamples_us {o : Options} {xs : List SVal} {t : Tracer} (h : fromSamplesTracer .fixed o xs = .ok t) : US t :=
  fromSamplesTracer_us o xs (fromSamplesTracer_absorbAll h)

/-- a traced schema is `to_schema` of a tracer with the invariants of reachable tracers -/
theorem fromSamples_traced {o : Options} {xs : List SVal} {fields : List Field} (h : fromSamples .fixed o xs = .ok fields) :
    ∃ t, Inv o t ∧ US t ∧ t.to_schema o = .ok fields := by
  obtain ⟨t, _, _, _, ht, hs, _, _⟩ := fromSamples_root h
  exact ⟨t, fromSamples_inv ht, fromSamples_us ht, hs⟩

/-- the schema side conditions of the builder theorems (`SchemaOKF`, `coveredF`) hold of a traced schema
(`Lemmas/C06Side.lean`) -/
theorem fromSamples_side (o : Options) (h0 : o.overwrites = []) {xs : List SVal} {fields : List Field}
    (h : fromSamples .fixed o xs = .ok fields) :
    (∀ f ∈ fields, Lemmas.C03.SchemaOKF f) ∧ fields.all Build.coveredF = true := by
  obtain ⟨t, hinv, _, hs⟩ := fromSamples_traced h
  exact to_schema_side_of_WF o h0 t hinv.wf fields hs

/-- **`to_schema_typed`** (with `total` and the key types): every schema `from_samples` traces (repaired code, no
overwrites) is
  * well typed — `typedFs`: sizes are `i32`, union type ids `i8` values (the tracer never emits FixedSizeBinary /
    FixedSizeList; `UnionTracer::to_field` refuses a 129th variant, so an emitted Union has the type ids 0 … ≤ 127);
  * `total` — `totalFs`, in its form after repo fix 837fa53: a nullable struct's children take `serialize_default`.  Derived
    from the tracer's shape: a traced `Null` field is never an `UnknownVariant` placeholder outside a union, a Union traced
    from samples has a seen variant (`US`), and a seen variant's field takes `serialize_default` (induction).  So `total`
    CANNOT fail for a traced schema: no instance of the repaired finding `C06-unseen-first-variant-default` exists;
  * keyed by UInt32 wherever it has a dictionary (`wideFs`). -/
theorem to_schema_typed (o : Options) (h0 : o.overwrites = []) {xs : List SVal} {fields : List Field}
    (h : fromSamples .fixed o xs = .ok fields) :
    Lemmas.C03.typedFs (Fields.ofList fields) = true ∧ totalFs (Fields.ofList fields) = true ∧
      wideFs (Fields.ofList fields) = true := by
  obtain ⟨t, hinv, hus, hs⟩ := fromSamples_traced h
  exact to_schema_good o h0 t hinv.1 hus fields hs

/-- C01's `Safe` as a DECIDABLE predicate on the schema (`Lemmas/C06SafeS.lean`): no dictionary with non-nullable keys
where a nullable struct's `serialize_default` can reach it (through struct children and the first real variant of a
union).  NOT a hypothesis of any theorem of this file — defined (with `fromSamples_safe_iff`, `fromSamples_safeSchema`,
`safeSchema_can_fail`) to state what a `Safe` hypothesis would exclude and the closure theorems cover. -/
def safeSchema (fields : List Field) : Bool := Lemmas.C06.safeFs (Fields.ofList fields)

/-- for a traced schema, C01's `Safe` of the fresh root builder IS `safeSchema` (exact) -/
theorem fromSamples_safe_iff (o : Options) (h0 : o.overwrites = []) {xs : List SVal} {fields : List Field}
    (h : fromSamples .fixed o xs = .ok fields) {root0 : B} (hnew : newRoot fields = .ok root0) :
    Safe root0 ↔ safeSchema fields = true :=
  newRoot_safe_iff (fromSamples_side o h0 h).2 hnew

/-- **`Safe` for traced schemas**: when no option asks for dictionary-encoded strings, every traced schema — unions
included — is `safeSchema` (there is no Dictionary field at all) -/
theorem fromSamples_safeSchema (o : Options) (h0 : o.overwrites = []) (hd : o.string_dictionary_encoding = false)
    (he : o.enums_without_data_as_strings = false) {xs : List SVal} {fields : List Field}
    (h : fromSamples .fixed o xs = .ok fields) : safeSchema fields = true := by
  obtain ⟨t, hinv, _, hs⟩ := fromSamples_traced h
  exact to_schema_safeFs o h0 hd he t hinv.wf fields hs

/-- **the capacity bound in closed form**: the head room of the fresh builder of a traced schema is `i32::MAX`
(nothing is used, and the dictionaries the tracer emits have UInt32 keys: 2^32 free keys) -/
theorem fromSamples_room (o : Options) (h0 : o.overwrites = []) {xs : List SVal} {fields : List Field}
    (h : fromSamples .fixed o xs = .ok fields) {root0 : B} (hnew : newRoot fields = .ok root0) :
    room root0 = 2147483647 :=
  fresh_room root0 _ false (newRoot_fresh hnew).2.2 (Props.C03.newRoot_builtFor fields root0 hnew)
    (by simpa [wideDT] using (to_schema_typed o h0 h).2.2)

/-- **`C06_closure_build`** (trace ⇒ build).  Whenever tracing a schema from the collection `xs` succeeds,
`to_marrow ext fields xs` with the traced schema SUCCEEDS — every `push` is accepted and `build_arrays` cannot fail.
Hypotheses, all explicit and decidable:
  `hok`    the samples are serde values a Rust program can produce (`sampleOK`);
  `hex`    none of the exclusions: the three documented ones and `dataLessNewtype` (known finding);
  `hcap`   capacity in closed form: the sizes of the samples sum to at most `i32::MAX = 2^31 - 1` (`fromSamples_room`).
ONLY input-side hypotheses + capacity.  NOT hypotheses: C01's `Safe` (`safeSchema fields`; the
builder side is `Props.C01.toMarrow_complete'`, the completeness theorem on the weak state invariant — a traced schema
with a non-nullable dictionary-encoded string inside an `Option<struct>`, `safeSchema_can_fail`, is covered), `total` and the
typing invariant `typedFs` (`to_schema_typed`), that `build_builder` accepts the schema (`newRoot_traced`), the C01 side
conditions (`to_schema_side_of_WF`: `coveredF` is what `toMarrow_complete'` asks of the schema). -/
theorem C06_closure_build (o : Options) (ext : Ext) (h0 : o.overwrites = []) (xs : List SVal) (fields : List Field)
    (h : fromSamples .fixed o xs = .ok fields)
    (hok : ∀ x ∈ xs, SampleOK o x) (hex : ∀ x ∈ xs, excludedRow ext fields x = false)
    (hcap : (xs.map (vsize ext)).sum ≤ 2147483647) :
    ∃ arrs, toMarrow ext fields xs = .ok arrs := by
  obtain ⟨t, hinv, _, hs⟩ := fromSamples_traced h
  obtain ⟨root0, hnew⟩ := newRoot_traced o h0 t hinv fields hs
  obtain ⟨htyped, htot, _⟩ := to_schema_typed o h0 h
  exact Props.C01.toMarrow_complete' ext fields xs root0 (fromSamples_side o h0 h).2 hnew htot htyped
    (fun r hr => ⟨sampleOK_noRaw _ r (hok r hr), fromSamples_interpRow o ext h0 h r hr (hok r hr) (hex r hr)⟩)
    (by rw [fromSamples_room o h0 h hnew]; exact hcap)

/-- **`C06_closure_decode`**.  Whenever `to_marrow` with the traced schema returns arrays for the collection, there is one
array per traced field and slot `i` of the arrays, read by the Arrow rules (`Spec.decodeAll`), is column by column the
documented value of sample `i`.  The schema side conditions of `C01_build_decode'` (`SchemaOKF`, `coveredF`) are
discharged from the shape of traced schemas (`Lemmas/C06Side.lean`); no `Safe`. -/
theorem C06_closure_decode (o : Options) (ext : Ext) (h0 : o.overwrites = []) (xs : List SVal) (fields : List Field)
    (arrs : List Arr) (h : fromSamples .fixed o xs = .ok fields)
    (hok : ∀ x ∈ xs, SampleOK o x)
    (hm : toMarrow ext fields xs = .ok arrs) :
    arrs.length = fields.length ∧
    ∃ cols : List (String × List LVal),
      arrs.map decodeAll = cols.map (fun c => c.2.map .ok) ∧
      cols.map (·.1) = fields.map (·.name) ∧
      (∀ c ∈ cols, c.2.length = xs.length) ∧
      ∀ (i : Nat) (hi : i < xs.length),
        interpRow ext fields xs[i] = .ok (.struct (LFields.ofList (cols.map fun c => (c.1, c.2.getD i .null)))) := by
  have hside := fromSamples_side o h0 h
  exact Props.C01.C01_build_decode' ext fields xs arrs hside.1 hside.2
    (fun x hx => Build.noRaw_ssa x (sampleOK_noRaw _ x (hok x hx))) (Or.inl fun x hx => sampleOK_noRaw _ x (hok x hx)) hm

/-- the traced schema is one the reader supports (`Lemmas/C06Readable.lean`) -/
theorem fromSamples_readable (o : Options) (h0 : o.overwrites = []) {xs : List SVal} {fields : List Field}
    (h : fromSamples .fixed o xs = .ok fields) : ∀ f ∈ fields, Lemmas.C03.readableF f = true := by
  obtain ⟨t, hinv, _, hs⟩ := fromSamples_traced h
  exact to_schema_readable o h0 t hinv.wf fields hs

/-- **`C06_closure_physical`**: the size precondition `Read.physical` of the reader (the value count of every Dictionary
column fits `i64`) holds for the arrays `to_marrow` builds from a traced schema — for EVERY option, dictionary-encoded strings
included — when the collection has at most `i64::MAX` samples.  No counting of distinct strings and no capacity argument:
`Props.C03.toMarrow_physical` (the builders' counting invariant: a dictionary holds at most as many values as keys were pushed)
with the size condition `sizeOKDT` discharged from the shape of traced schemas (no FixedSizeList: `to_schema_physKeys`,
`Lemmas.C06.traced_sizeOK`).  No `Safe`, no exclusion, no `ExtOK`.  (`Props.C03.wf_not_physical`: `Spec.WF` of the arrays alone
could not give it.) -/
theorem C06_closure_physical (o : Options) (ext : Ext) (h0 : o.overwrites = []) (xs : List SVal) (fields : List Field)
    (arrs : List Arr) (h : fromSamples .fixed o xs = .ok fields)
    (hok : ∀ x ∈ xs, SampleOK o x)
    (hsz : xs.length ≤ 9223372036854775807)
    (hm : toMarrow ext fields xs = .ok arrs) : ∀ a ∈ arrs, Read.physical a = true := by
  obtain ⟨t, hinv, _, hs⟩ := fromSamples_traced h
  exact Props.C03.toMarrow_physical ext fields xs arrs (fromSamples_side o h0 h).2
    (fun x hx => sampleOK_noRaw _ x (hok x hx))
    (traced_sizeOK fields xs.length (to_schema_physKeys o h0 t hinv.wf fields hs) hsz) hm

/-- **`C06_closure_readback`**: reading the arrays back with `deserialize_any` reproduces the samples — slot `i` of
column `j` reads as the `toD` rendering of the logical value the documented mapping gives field `j` of sample `i`
(`cols` as in `C06_closure_decode`: `interpRow ext fields xs[i]` is the struct of the `i`-th column entries).
EVERY tracing option, NO reader-side hypothesis: `Read.new … = ok`, `utf8Ok` and `Read.physical` of `read_any_decode` are
derived for the built arrays (`Props.C03.toMarrow_readAny_of_physical`: `wf_new` with `fromSamples_readable`, `wf_utf8`, from
`C03_wfS'`; `C06_closure_physical`).  Remaining hypotheses, all on the input side: `hok` (samples are serde values), `hext` (`ExtOK`:
the external chrono parsers return values in range; a theorem for the codec models, `Props.C03.codecExt_ok`), `hval` (`SValOK`: f32 /
f64 / integer calls carry values of their width; implied by `SVal.typed`), `hsz` (at most `i64::MAX` samples — no
array-side hypothesis `Read.physical`). -/
theorem C06_closure_readback (o : Options) (ext : Ext) (h0 : o.overwrites = []) (xs : List SVal)
    (fields : List Field) (arrs : List Arr) (h : fromSamples .fixed o xs = .ok fields)
    (hok : ∀ x ∈ xs, SampleOK o x)
    (hext : Lemmas.C03.ExtOK ext)
    (hval : ∀ x ∈ xs, Lemmas.C03.SValOK x)
    (hsz : xs.length ≤ 9223372036854775807)
    (hm : toMarrow ext fields xs = .ok arrs) :
    ∃ cols : List (String × List LVal), cols.length = arrs.length ∧
      (∀ (i : Nat) (hi : i < xs.length),
        interpRow ext fields xs[i] = .ok (.struct (LFields.ofList (cols.map fun c => (c.1, c.2.getD i .null))))) ∧
      ∀ (j : Nat) (hj : j < arrs.length) (i : Nat), i < xs.length →
        ∃ lv, (cols[j]?.map (·.2[i]?)) = some (some lv) ∧
          Read.readAny Read.Fixes.all arrs[j] i = .ok (Read.toD arrs[j] lv) := by
  have hside := fromSamples_side o h0 h
  have hread := fromSamples_readable o h0 h
  obtain ⟨_, cols, hcl, _, hc4, hrd⟩ := Props.C03.toMarrow_readAny_of_physical ext fields xs arrs hside.1 hside.2
    (fun x hx => sampleOK_noRaw _ x (hok x hx)) hext hval (fun f hf => Lemmas.C03.readableDT_of_F (hread f hf))
    (C06_closure_physical o ext h0 xs fields arrs h hok hsz hm) hm
  exact ⟨cols, hcl, hc4, hrd⟩

/-- **`C06_closure_readback_nodict`**: the same with NO size hypothesis at all, for tracing options that
never dictionary-encode strings (`string_dictionary_encoding = false`, `enums_without_data_as_strings = false`): the
traced schema then has no Dictionary (and never a FixedSizeList) column — `Lemmas.C06.to_schema_physFree` — and `Read.physical`
follows from `Spec.WFS` alone (`Props.C03.wf_physical_plain`, through `Props.C03.toMarrow_readable`, i.e. `C03_wfS'`). -/
theorem C06_closure_readback_nodict (o : Options) (ext : Ext) (h0 : o.overwrites = []) (xs : List SVal)
    (fields : List Field) (arrs : List Arr) (h : fromSamples .fixed o xs = .ok fields)
    (hd : o.string_dictionary_encoding = false) (he : o.enums_without_data_as_strings = false)
    (hok : ∀ x ∈ xs, SampleOK o x)
    (hext : Lemmas.C03.ExtOK ext)
    (hval : ∀ x ∈ xs, Lemmas.C03.SValOK x)
    (hm : toMarrow ext fields xs = .ok arrs) :
    ∃ cols : List (String × List LVal), cols.length = arrs.length ∧
      (∀ (i : Nat) (hi : i < xs.length),
        interpRow ext fields xs[i] = .ok (.struct (LFields.ofList (cols.map fun c => (c.1, c.2.getD i .null))))) ∧
      ∀ (j : Nat) (hj : j < arrs.length) (i : Nat), i < xs.length →
        ∃ lv, (cols[j]?.map (·.2[i]?)) = some (some lv) ∧
          Read.readAny Read.Fixes.all arrs[j] i = .ok (Read.toD arrs[j] lv) := by
  obtain ⟨t, hinv, _, hs⟩ := fromSamples_traced h
  have hside := fromSamples_side o h0 h
  have hfree := to_schema_physFree o h0 hd he t hinv.wf fields hs
  have hread := fromSamples_readable o h0 h
  obtain ⟨hlen, hrdb⟩ := Props.C03.toMarrow_readable ext fields xs arrs hside.1 (Or.inr hside.2) hext hval
    (fun f hf => Lemmas.C03.readableDT_of_F (hread f hf)) hm
  have hphys : ∀ a ∈ arrs, Read.physical a = true := by
    intro a ha
    obtain ⟨j, hj, rfl⟩ := List.getElem_of_mem ha
    have hjf : j < fields.length := by omega
    exact (hrdb j fields[j] arrs[j] (List.getElem?_eq_getElem hjf) (List.getElem?_eq_getElem hj)).2.2.2
      (hfree _ (List.getElem_mem hjf))
  obtain ⟨_, cols, hcl, _, hc4, hrd⟩ := Props.C03.toMarrow_readAny_of_physical ext fields xs arrs hside.1 hside.2
    (fun x hx => sampleOK_noRaw _ x (hok x hx)) hext hval (fun f hf => Lemmas.C03.readableDT_of_F (hread f hf)) hphys hm
  exact ⟨cols, hcl, hc4, hrd⟩

/-- **`C06_closure`** — a schema traced from samples accepts those same samples, end to end, for EVERY tracing option
(dictionary-encoded strings — `string_dictionary_encoding`, `enums_without_data_as_strings` — included).  Whenever `from_samples`
succeeds on the collection `xs`, then
  1. `to_marrow` with the traced schema ACCEPTS the collection: it returns arrays, one per traced field;
  2. the documented mapping of sample `i` under the traced schema is the struct of the `i`-th column entries (`cols`);
  3. `deserialize_any` on slot `i` of array `j` reproduces that entry (`toD`).
Hypotheses — ALL on the input, all decidable: the samples are serde values a Rust program can produce (`hok`, `hval`), none of
the three documented exclusions / the known finding `dataLessNewtype` applies (`hex`), the sizes of the samples sum to at most
`i32::MAX` (`hcap`), the external chrono / float formatters are in range (`hext`; a theorem for the codec models).
No hypothesis on the schema, the builder or the arrays remains: `Read.physical` is derived (`C06_closure_physical`), and C01's
`Safe` (`safeSchema fields`) is not asked: a non-nullable dictionary-encoded string
inside an `Option<struct>`, where the per-builder append-only statement R1 is false (`Props.C01.dict_placeholder_unstable`), is
covered by the hidden-rows refinement; worked instance below, `wUnsafe`.  One theorem for every option: there is no separate
dictionary variant. -/
theorem C06_closure (o : Options) (ext : Ext) (h0 : o.overwrites = []) (xs : List SVal) (fields : List Field)
    (h : fromSamples .fixed o xs = .ok fields)
    (hok : ∀ x ∈ xs, SampleOK o x) (hex : ∀ x ∈ xs, excludedRow ext fields x = false)
    (hcap : (xs.map (vsize ext)).sum ≤ 2147483647)
    (hext : Lemmas.C03.ExtOK ext)
    (hval : ∀ x ∈ xs, Lemmas.C03.SValOK x) :
    ∃ arrs, toMarrow ext fields xs = .ok arrs ∧ arrs.length = fields.length ∧
      ∃ cols : List (String × List LVal), cols.length = arrs.length ∧
        (∀ (i : Nat) (hi : i < xs.length),
          interpRow ext fields xs[i] = .ok (.struct (LFields.ofList (cols.map fun c => (c.1, c.2.getD i .null))))) ∧
        ∀ (j : Nat) (hj : j < arrs.length) (i : Nat), i < xs.length →
          ∃ lv, (cols[j]?.map (·.2[i]?)) = some (some lv) ∧
            Read.readAny Read.Fixes.all arrs[j] i = .ok (Read.toD arrs[j] lv) := by
  obtain ⟨arrs, hm⟩ := C06_closure_build o ext h0 xs fields h hok hex hcap
  have hsz : xs.length ≤ 9223372036854775807 := by
    have := length_le_vsize_sum ext xs; omega
  exact ⟨arrs, hm, (C06_closure_decode o ext h0 xs fields arrs h hok hm).1,
    C06_closure_readback o ext h0 xs fields arrs h hok hext hval hsz hm⟩

/-! ### non-vacuity and necessity of the exclusions (kernel evaluation) -/

/-- the hypotheses of `C06_closure_build`, decided on a collection (`ext = {}`), AND its conclusion, evaluated -/
def closureHypsB (o : Options) (xs : List SVal) : Bool :=
  match fromSamples .fixed o xs with
  | .ok fields =>
    xs.all (fun x => sampleOK o.map_as_struct x && !excludedRow {} fields x) &&
      decide ((xs.map (vsize {})).sum ≤ 2147483647) && (toMarrow {} fields xs).isOk
  | .error _ => false

/-- a nested collection: fields missing in some samples, a null, an empty and a non-empty list, a tuple, a map, a
partially observed enum with data -/
def wClosure : List SVal := [
  recOf [("a", i32 1), ("l", seqOf []), ("t", tupOf [i32 1, .bool true]), ("e", .newtypeVariant "E" 1 "B" (i32 1))],
  recOf [("a", .none), ("l", seqOf [.some (.str "x"), .none]), ("m", mapOf [("k", .f64 0)]), ("t", tupOf [i32 2, .bool false]),
    ("e", .structVariant "E" 2 "C" (.cons "x" 0 (.str "s") .nil))]]

set_option maxRecDepth 1000000 in
/-- non-vacuity of `fromSamples_interpRow` / `C06_closure_build`: tracing succeeds, every sample is well formed and not
excluded, the samples fit — and (the conclusion, evaluated) `to_marrow` succeeds -/
example : closureHypsB { allow_null_fields := true } wClosure = true := by decide +kernel

/-- a collection for the dictionary options: dictionary-encoded strings, a data-less enum traced as strings, and — below a
struct that is `None` in one sample — a NULLABLE dictionary-encoded string and an enum whose first variant was never seen
(the shape of the repaired finding `C06-unseen-first-variant-default`) -/
def wClosureDict : List SVal := [
  recOf [("s", .str "a"), ("e", .unitVariant "E" 1 "B"),
    ("o", .some (recOf [("u", .newtypeVariant "U" 1 "V1" (i32 1)), ("d", .some (.str "x"))]))],
  recOf [("s", .str "b"), ("e", .unitVariant "E" 0 "A"), ("o", .none)]]

set_option maxRecDepth 1000000 in
/-- non-vacuity of `C06_closure_build` with dictionaries and a union below a nullable struct: all hypotheses hold, and
`to_marrow` succeeds -/
example : closureHypsB { string_dictionary_encoding := true, enums_without_data_as_strings := true } wClosureDict = true := by
  decide +kernel

/-- `[{o: Some({d: "x"})}, {o: None}]`: under `string_dictionary_encoding` the string `d` is traced as a NON-nullable
`Dictionary(UInt32, LargeUtf8)` inside the nullable struct `o` -/
def wUnsafe : List SVal := [recOf [("o", .some (recOf [("d", .str "x")]))], recOf [("o", .none)]]

/-- **`safeSchema` can fail for a traced schema** (why the closure theorems rest on the hidden-rows refinement): the tracer
gives the Dictionary field the nullability of the string position, `build_builder` gives the key builder that nullability, and
the `None` of the second sample sends `serialize_default` into non-nullable keys — C01's `dict_placeholder_unstable` shape,
where the per-builder append-only statement R1 is false.  Every hypothesis of `C06_closure_build` / `C06_closure` holds
and `to_marrow` accepts the collection (evaluated): the collection is INSIDE the closure theorems (instance below) and
outside any statement that assumes `safeSchema`. -/
theorem safeSchema_can_fail :
    (match fromSamples .fixed { string_dictionary_encoding := true } wUnsafe with
     | .ok fields =>
       !safeSchema fields && wUnsafe.all (fun x => sampleOK true x && !excludedRow {} fields x) &&
         (toMarrow {} fields wUnsafe).isOk
     | .error _ => false) = true := by decide +kernel

/-- the exclusion `p` is NEEDED: the collection traces, its samples are well-formed serde values, the traced schema does
not map sample `i` (`interpRow` fails), and `p` holds at some position of that sample -/
def neededB (o : Options) (p : DataType → SVal → Bool) (xs : List SVal) (i : Nat) : Bool :=
  match fromSamples .fixed o xs, xs[i]? with
  | .ok fields, some x =>
    xs.all (sampleOK o.map_as_struct) && !(interpRow {} fields x).isOk && hits p (.struct (Fields.ofList fields)) x
  | _, _ => false

/-- documented exclusion 1 is needed: `[E::A(1), None]` at one position traces to a nullable Union, `None` has no mapping -/
theorem excl_nullAtEnum_needed :
    neededB {} nullAtEnum (itemsOf [.newtypeVariant "E" 0 "A" (i32 1), .none]) 1 = true := by decide +kernel

/-- documented exclusion 2 is needed: under `guess_dates` the string matches the date-time pattern and is traced as a
Timestamp; a parser that refuses it (here `ext = {}`: the parser refusing everything) leaves it without a mapping -/
theorem excl_dateLookalike_needed :
    neededB { guess_dates := true } (dateLookalike {}) (itemsOf [.str "2020-12-24T08:30:00"]) 0 = true := by
  decide +kernel

/-- documented exclusion 3 is needed: `i8` and `u64` are coerced to Int64 under `coerce_numbers`; `u64::MAX` does not fit -/
theorem excl_u64AboveI64_needed :
    neededB { coerce_numbers := true } u64AboveI64 (itemsOf [.int .i8 1, .int .u64 18446744073709551615]) 1 = true := by
  decide +kernel

/-- known finding `C06-data-less-newtype-variant-as-string` is needed as an exclusion -/
theorem excl_dataLessNewtype_needed :
    neededB { enums_without_data_as_strings := true } dataLessNewtype
      (itemsOf [.unitVariant "E" 1 "V1", .newtypeVariant "E" 2 "V2" .none, .unitVariant "E" 0 "V0"]) 1 = true := by
  decide +kernel

/-! ### the repaired finding `C06-unit-struct-into-value` (repo fix ae2fc46) -/

/-- tracing succeeds, every sample is well formed, not excluded and has a mapping at the traced schema, and `to_marrow`
accepts the collection -/
def acceptedB (o : Options) (xs : List SVal) : Bool :=
  match fromSamples .fixed o xs with
  | .ok fields =>
    xs.all (fun x => sampleOK o.map_as_struct x && !excludedRow {} fields x && (interpRow {} fields x).isOk) &&
      (toMarrow {} fields xs).isOk
  | _ => false

/-- **Repaired**: `[1i32, UnitStruct]` traces to a nullable Int32 (a unit struct is traced like `()`); since the default
`serialize_unit_struct` forwards to `serialize_unit`, the Int32 builder takes the unit struct as a null, the documented
mapping says null, and no exclusion is needed (`exclAny` has no disjunct for unit structs). -/
theorem unitStruct_accepted : acceptedB {} (itemsOf [i32 1, .unitStruct "U"]) = true := by decide +kernel

/-- **Pinned**: before ae2fc46 the default `serialize_unit_struct` refused, so `push` of a unit struct was the scalar call
`ctx b.ann (pushScalar ext b (.unitStruct n))` on every builder — on the traced nullable Int32 column the error the real
crate gave (`to_marrow` rejected a collection the schema was traced from). -/
theorem unitStruct_pinned :
    (ctx (B.leaf "$.item" (.int .i32) (some [true]) [1]).ann
      (pushScalar {} (.leaf "$.item" (.int .i32) (some [true]) [1]) (.unitStruct "U")) : R B) =
      .error (.errCtx "serialize_unit_struct is not supported" [("data_type", "Int32"), ("field", "$.item")]) := by
  decide +kernel

/-! ### non-vacuity of the read-back -/

def wRead : List SVal := [recOf [("a", i32 1), ("s", .str "é")], recOf [("a", .none), ("s", .str "")]]
def wReadFields : List Field := [.mk "a" .int32 true [], .mk "s" .largeUtf8 false []]

theorem wRead_trace : fromSamples .fixed {} wRead = .ok wReadFields := by decide +kernel

theorem wRead_build : (toMarrow {} wReadFields wRead).isOk = true := by decide +kernel

/-- non-vacuity of `to_schema_typed` / `fromSamples_room` / `fromSamples_safe_iff` / `fromSamples_safeSchema`: their only
hypothesis is that tracing succeeded (`wRead_trace`; with a union and dictionaries: the `closureHypsB` examples above) -/
example : Lemmas.C03.typedFs (Fields.ofList wReadFields) = true ∧ totalFs (Fields.ofList wReadFields) = true ∧
    wideFs (Fields.ofList wReadFields) = true := to_schema_typed {} rfl wRead_trace

example : safeSchema wReadFields = true ∧ ∀ root0, newRoot wReadFields = .ok root0 → room root0 = 2147483647 ∧ Safe root0 :=
  ⟨fromSamples_safeSchema {} rfl rfl rfl wRead_trace, fun _ hnew => ⟨fromSamples_room {} rfl wRead_trace hnew,
    (fromSamples_safe_iff {} rfl wRead_trace hnew).mpr (fromSamples_safeSchema {} rfl rfl rfl wRead_trace)⟩⟩

/-- non-vacuity of `C06_closure` (and of `C06_closure_readback` inside it): a collection with a null, a two-byte UTF-8
string and an empty string; tracing succeeds (`wRead_trace`) and EVERY hypothesis is discharged — `to_marrow` accepts the
collection and reading the built arrays back returns the documented values of the samples, unconditionally -/
example : ∃ arrs, toMarrow {} wReadFields wRead = .ok arrs ∧ arrs.length = wReadFields.length ∧
    ∃ cols : List (String × List LVal), cols.length = arrs.length ∧
      (∀ (i : Nat) (hi : i < wRead.length),
        interpRow {} wReadFields wRead[i] = .ok (.struct (LFields.ofList (cols.map fun c => (c.1, c.2.getD i .null))))) ∧
      ∀ (j : Nat) (hj : j < arrs.length) (i : Nat), i < wRead.length →
        ∃ lv, (cols[j]?.map (·.2[i]?)) = some (some lv) ∧
          Read.readAny Read.Fixes.all arrs[j] i = .ok (Read.toD arrs[j] lv) := by
  refine C06_closure {} {} rfl wRead wReadFields wRead_trace ?_ ?_ ?_ ?_ ?_
  · decide +kernel
  · decide +kernel
  · decide +kernel
  · constructor <;> (intros; rename_i h; cases h)
  · exact fun x hx => Lemmas.C03.typed_SValOK x ((by decide +kernel : ∀ x ∈ wRead, x.typed = true) x hx)

/-! ### non-vacuity of the closure with dictionary-encoded strings -/

def wDict : List SVal := [recOf [("s", .str "a"), ("n", i32 1)], recOf [("s", .str "é"), ("n", .none)], recOf [("s", .str "a"), ("n", i32 3)]]
def wDictFields : List Field := [.mk "s" (.dictionary .uint32 .largeUtf8) false [], .mk "n" .int32 true []]

theorem wDict_trace : fromSamples .fixed { string_dictionary_encoding := true } wDict = .ok wDictFields := by decide +kernel

/-- non-vacuity of `C06_closure` (and of `C06_closure_physical` inside it): a repeated and a two-byte string, dictionary
encoded; every hypothesis is discharged — `to_marrow` accepts the collection and `deserialize_any` on the Dictionary column
returns the strings of the samples -/
example : ∃ arrs, toMarrow {} wDictFields wDict = .ok arrs ∧ arrs.length = wDictFields.length ∧
    ∃ cols : List (String × List LVal), cols.length = arrs.length ∧
      (∀ (i : Nat) (hi : i < wDict.length),
        interpRow {} wDictFields wDict[i] = .ok (.struct (LFields.ofList (cols.map fun c => (c.1, c.2.getD i .null))))) ∧
      ∀ (j : Nat) (hj : j < arrs.length) (i : Nat), i < wDict.length →
        ∃ lv, (cols[j]?.map (·.2[i]?)) = some (some lv) ∧
          Read.readAny Read.Fixes.all arrs[j] i = .ok (Read.toD arrs[j] lv) := by
  refine C06_closure { string_dictionary_encoding := true } {} rfl wDict wDictFields wDict_trace ?_ ?_ ?_ ?_ ?_
  · decide +kernel
  · decide +kernel
  · decide +kernel
  · constructor <;> (intros; rename_i h; cases h)
  · exact fun x hx => Lemmas.C03.typed_SValOK x ((by decide +kernel : ∀ x ∈ wDict, x.typed = true) x hx)

/-! ### the closure OUTSIDE `Safe`: the collection of `safeSchema_can_fail` -/

def wUnsafeFields : List Field :=
  [.mk "o" (.struct (.cons (.mk "d" (.dictionary .uint32 .largeUtf8) false []) .nil)) true []]

theorem wUnsafe_trace : fromSamples .fixed { string_dictionary_encoding := true } wUnsafe = .ok wUnsafeFields := by
  decide +kernel

/-- the traced schema is outside C01's `Safe` (a dictionary with NON-nullable keys below the nullable struct `o`) … -/
example : safeSchema wUnsafeFields = false ∧ ∀ root0, newRoot wUnsafeFields = .ok root0 → ¬ Safe root0 := by
  refine ⟨by decide +kernel, fun root0 hnew hs => ?_⟩
  have := (fromSamples_safe_iff { string_dictionary_encoding := true } rfl wUnsafe_trace hnew).mp hs
  revert this; decide +kernel

/-- … and `C06_closure` applies to it with EVERY hypothesis discharged: `to_marrow` accepts `[{o: Some({d: "x"})},
{o: None}]` against the schema traced from it (the `None` sends the placeholder key 0 into the non-nullable dictionary
keys), the documented mapping of sample `i` is the struct of the `i`-th column entries, and `deserialize_any` reproduces
every entry -/
example : ∃ arrs, toMarrow {} wUnsafeFields wUnsafe = .ok arrs ∧ arrs.length = wUnsafeFields.length ∧
    ∃ cols : List (String × List LVal), cols.length = arrs.length ∧
      (∀ (i : Nat) (hi : i < wUnsafe.length),
        interpRow {} wUnsafeFields wUnsafe[i] = .ok (.struct (LFields.ofList (cols.map fun c => (c.1, c.2.getD i .null))))) ∧
      ∀ (j : Nat) (hj : j < arrs.length) (i : Nat), i < wUnsafe.length →
        ∃ lv, (cols[j]?.map (·.2[i]?)) = some (some lv) ∧
          Read.readAny Read.Fixes.all arrs[j] i = .ok (Read.toD arrs[j] lv) := by
  refine C06_closure { string_dictionary_encoding := true } {} rfl wUnsafe wUnsafeFields wUnsafe_trace ?_ ?_ ?_ ?_ ?_
  · decide +kernel
  · decide +kernel
  · decide +kernel
  · constructor <;> (intros; rename_i h; cases h)
  · exact fun x hx => Lemmas.C03.typed_SValOK x ((by decide +kernel : ∀ x ∈ wUnsafe, x.typed = true) x hx)

end SaModel.Props.C06
