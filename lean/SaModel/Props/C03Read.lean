import SaModel.Props.C03
import SaModel.Props.C01Obs
import SaModel.Props.C02
import SaModel.Lemmas.C03Read
import SaModel.Lemmas.C03ReadUtf8
import SaModel.Lemmas.C03ReadPhys
import SaModel.Lemmas.C04Root
import SaModel.Lemmas.C03PhysSize
import SaModel.Props.C11Physical
/-
C03 → C02 bridge: arrays that serde_arrow BUILDS satisfy everything the reader theorems assume.

The read-back theorems (`Props.C02.read_any_decode`, `read_typed_decode`) carry three reader-side preconditions:
`Read.new Fixes.all a = ok ()` (the reader can be constructed), `Read.physical a` (lengths representable),
`Read.utf8Ok lv` (decoded strings are valid UTF-8).  Here they are DERIVED for the arrays `to_marrow` returns and composed
with `Props.C01.C01_build_decode'` (the hidden-rows refinement, Props/C01Obs.lean: NO `Safe` hypothesis anywhere in this
file; `toMarrow_readable` carries exactly the hypothesis of `C03_wfS'`, `Safe ∨ coveredF`, the others `coveredF`):

  wf_new              WFS f a, `readableDT f.dataType`      ⇒  Read.new Fixes.all a = ok ()
  wf_utf8             WFS f a, decodeAt a i = ok lv          ⇒  utf8Ok lv                       (no further hypothesis)
  wf_physical_plain   WFS f a, `physFreeDT f.dataType`      ⇒  Read.physical a   (types without FixedSizeList / Dictionary;
                      `wf_not_physical`: `Spec.WFS` alone does not bound the sizes `physical` speaks about)
  toMarrow_physical   ALL types, FixedSizeList and Dictionary included: every array `to_marrow` BUILDS is `Read.physical`
                      when the schema-computed lengths fit — `sizeOKDT f.dataType rows.length`, a decidable predicate on
                      (schema, number of records): FixedSizeList<_, n> of at most L rows needs `n * L ≤ usize::MAX`, a
                      Dictionary of at most L rows `L ≤ i64::MAX`; L is `rows.length` at the top, `i32::MAX` / `i64::MAX`
                      below a List / Map / LargeList.  From the builders' counting invariant `Cnt` (dictionary values ≤ keys
                      pushed, union per-variant counters ≤ rows: Lemmas/C03PhysCnt.lean), not from `Spec.WFS`.
                      `sizeOK_of_fslFree`: without FixedSizeList the only condition is `rows.length ≤ i64::MAX`.
                      `input_bound_not_enough`: a bound on the INPUT alone cannot do (one `None` into a nested nullable
                      FixedSizeList appends `n1 * n2 * n3` child slots), so the schema has to enter the bound.
  wf_dense / wf_dict_values_not_null   what the reader refuses and the builders never produce (sparse unions, nullable
                      dictionary values): excluded by WFS itself
  toMarrow_readable   every array of `to_marrow` is accepted by `ArrayDeserializer::new`, has `rows.length` rows for the
                      reader (`vlen`), only decodes to valid UTF-8
  toMarrow_readAny    reading back what was built gives the documented value of the input: `readAny arrs[j] i` is the
                      `toD` rendering of field `j` of `interpRow ext fields rows[i]` — NO reader-side hypothesis, every
                      readable type (the size condition is `hsize`, on schema and number of records)
  toMarrow_readRecord the record-level form through `Access.new` / the root struct reader (`Roundtrip.readRecord .any`)
  toMarrow_readAny_of_physical / toMarrow_readRecord_of_physical   the same with `Read.physical` of the arrays as an explicit
                      precondition instead of `hsize` (complete statements; used where `physical` is obtained otherwise)

`readableDT` (Lemmas/C03Read.lean) is a predicate on the SCHEMA: the types the reader supports although the builders
accept more — UTC-or-no time zone (refused by both sides in fact), Dictionary(integer, Utf8 | LargeUtf8) only, known
`SERDE_ARROW:strategy` values on child fields.
-/
namespace SaModel.Props.C03
open SaModel SaModel.Build SaModel.Spec

open SaModel.Lemmas.C03 (readableDT readableF readableFs physFreeDT sizeOKDT fslFreeDT)

/-- **`wf_new`**: `ArrayDeserializer::new` accepts every well-formed array of a field whose type the reader supports —
every array kind, any nesting (generalises `Roundtrip.new_of_wf`, which is for traced enum-free schemas) -/
theorem wf_new (f : Field) (a : Arr) (hr : readableDT f.dataType = true) (h : WFS f a = true) :
    Read.new Read.Fixes.all a = .ok () := Lemmas.C03.WF_new f a hr h

/-- **`wf_utf8`**: every string inside the logical value of any slot of a well-formed array is valid UTF-8 -/
theorem wf_utf8 (f : Field) (a : Arr) (i : Nat) (lv : LVal) (h : WFS f a = true) (hd : decodeAt a i = .ok lv) :
    Read.utf8Ok lv = true := Lemmas.C03.WF_utf8 f a i lv h hd

/-- **`wf_physical_plain`**: `Read.physical` from well-formedness ALONE, for types without FixedSizeList and Dictionary
(a complete statement about `Spec.WFS`: for the two excluded families `Spec.WFS` does not imply `physical`, `wf_not_physical`;
for the arrays `to_marrow` BUILDS `toMarrow_physical` below covers every type). -/
theorem wf_physical_plain (f : Field) (a : Arr) (hp : physFreeDT f.dataType = true) (h : WFS f a = true) :
    Read.physical a = true := Lemmas.C03.WF_physical_plain f a hp h

/-- `Spec.WFS` alone does not give `Read.physical` (witness: FixedSizeList<Null, 2> of 2^63 rows) -/
theorem wf_not_physical :
    let f : Field := .mk "c" (.fixedSizeList (.mk "element" .null false []) 2) false []
    let a : Arr := .fixedSizeList (2 ^ 63) none 2 ⟨"element", false, []⟩ (.null (2 ^ 64))
    WFS f a = true ∧ Read.physical a = false := Lemmas.C03.wf_not_physical

/-- the builders never produce a SPARSE union (the reader only supports dense ones): excluded by `WFS`, hence by `C03_wfS` -/
theorem wf_dense (f : Field) (types : List Int) (cols : ArrUFields) : WFS f (.union types none cols) = false := by
  refine Bool.eq_false_iff.2 fun h => ?_
  obtain ⟨_, _, o, _, ho, _⟩ := Lemmas.C03.wf_inv h
  cases ho

/-- the builders never produce a dictionary whose VALUES carry a validity bitmap (the reader refuses nullable values) -/
theorem wf_dict_values_not_null (f : Field) (ks : Arr) (ty : BytesTy) (b : Bits) (offs : List Int) (data : Bytes) :
    WFS f (.dictionary ks (.bytes ty (some b) offs data)) = false := by
  refine Bool.eq_false_iff.2 fun h => ?_
  obtain ⟨_, _, _, _, hv⟩ := Lemmas.C03.wf_inv h
  have := (Lemmas.C03.wf_inv hv).2.1
  simp [validityOk] at this

/-- **`toMarrow_readable`**.  Under the hypotheses of `C03_wfS'` and for a schema the reader supports (`readableDT`), every
array `to_marrow` returns is accepted by `ArrayDeserializer::new`, holds `rows.length` rows as far as the reader is
concerned (`ViewExt::len`), decodes to valid UTF-8 only, and — for types without FixedSizeList / Dictionary — has
representable lengths.  `hsafe` is the hypothesis of `Props.C01.C03_wfS'`: `Safe` OR `coveredF` (both decidable on the
schema; what is excluded is a dictionary with NON-nullable keys and a value type other than Utf8 / LargeUtf8 below a
nullable struct / fixed-size list).  The composed theorems below have `coveredF` anyway and carry no `Safe`. -/
theorem toMarrow_readable (ext : Ext) (fields : List Field) (rows : List SVal) (arrs : List Arr)
    (hschema : ∀ f ∈ fields, Lemmas.C03.SchemaOKF f)
    (hsafe : (∀ root0, newRoot fields = .ok root0 → Safe root0) ∨ fields.all Build.coveredF = true)
    (hext : Lemmas.C03.ExtOK ext)
    (hrows : ∀ x ∈ rows, Lemmas.C03.SValOK x)
    (hread : ∀ f ∈ fields, readableDT f.dataType = true)
    (h : toMarrow ext fields rows = .ok arrs) :
    arrs.length = fields.length ∧
    ∀ (j : Nat) (f : Field) (a : Arr), fields[j]? = some f → arrs[j]? = some a →
      Read.new Read.Fixes.all a = .ok () ∧ Read.vlen a = rows.length ∧
      (∀ i lv, decodeAt a i = .ok lv → Read.utf8Ok lv = true) ∧
      (physFreeDT f.dataType = true → Read.physical a = true) := by
  obtain ⟨hlen, hwf⟩ := Props.C01.C03_wfS' ext fields rows arrs hschema hsafe hext hrows h
  refine ⟨hlen, ?_⟩
  intro j f a hf ha
  obtain ⟨hw, hl⟩ := hwf j f a hf ha
  have hmem : f ∈ fields := List.mem_of_getElem? hf
  have hnew := wf_new f a (hread f hmem) hw
  refine ⟨hnew, ?_, fun i lv hd => wf_utf8 f a i lv hw hd, fun hp => wf_physical_plain f a hp hw⟩
  rw [Roundtrip.vlen_eq_lenOf a hnew, ← (Spec.decodeAll_spec a).1, hl]

/-- the counting invariant along a batch: every push keeps it (`Build.push_cnt`), whatever the rows and the state -/
theorem foldl_push_cnt (ext : Ext) (dt : DataType) (n : Bool) (md : Metadata) : ∀ (rows : List SVal) (b b' : B),
    (∀ x ∈ rows, noRaw x = true) → WFH b → NoDictKey b → Shape b dt n md → Cnt b →
    rows.foldlM (push ext) b = .ok b' → Cnt b' :=
  fun rows b b' _ _ _ _ hc h => foldlM_push_cnt ext rows b b' h hc

/-- **`Read.physical` of what `build_arrays` returns, for ANY root builder** holding at most `L` rows: the counting invariant `Cnt`,
the row counts `WFH` and the offset bounds `PX` of the state, and the size condition at `L` -/
theorem buildArrays_physical (ext : Ext) (fields : List Field) (root : B) (out : List Arr × B) (L : Nat)
    (hw : WFH root) (hpx : Lemmas.C03.PX root) (hc : Cnt root)
    (hb : Lemmas.C03.BuiltFor (.struct (Fields.ofList fields)) false root) (hl : root.rows ≤ L)
    (hsize : ∀ f ∈ fields, sizeOKDT f.dataType L = true) (hba : buildArrays ext root = .ok out) :
    ∀ a ∈ out.1, Read.physical a = true := by
  cases root with
  | struct p len v fs cached next seen =>
    obtain ⟨cols, hcols, hba⟩ := R.bind_ok_inv hba
    cases hba
    simp only [Lemmas.C03.BuiltFor] at hb
    obtain ⟨fields', hfe, _, hbl⟩ := hb
    simp only [DataType.struct.injEq] at hfe
    subst hfe
    simp only [Lemmas.C03.PX] at hpx
    simp only [Cnt] at hc
    have := Lemmas.C03.finishFields_sized ext fs cols _ len L hcols (Lemmas.C03.WFH_struct hw).2 hpx hc hbl hl
      (Lemmas.C03.sizeOKFs_ofList fields L hsize)
    intro a ha
    obtain ⟨c, hc', rfl⟩ := List.mem_map.mp ha
    exact Lemmas.C03.physicalFields_mem cols this c hc'
  | _ => cases hba

/-- `Read.physical` of every array `to_marrow` returns from the size condition alone: the counting invariant `Cnt`, the
row counts `WFH` and the offset bounds `PX` of the final state need nothing of the schema or the rows -/
theorem toMarrow_physical_of_size (ext : Ext) (fields : List Field) (rows : List SVal) (arrs : List Arr)
    (hsize : ∀ f ∈ fields, sizeOKDT f.dataType rows.length = true)
    (h : toMarrow ext fields rows = .ok arrs) : ∀ a ∈ arrs, Read.physical a = true := by
  obtain ⟨root0, root, rest, h0, hrun, hba, hw, _, hl, _, hb⟩ := Props.C01.toMarrow_inv ext fields rows arrs h
  refine buildArrays_physical ext fields root _ rows.length hw (Lemmas.C03.runRows_PX ext fields rows root hrun) ?_ hb
    (by rw [← Lemmas.C03.dec_length_rows root hw, hl]; exact Nat.le_refl _) hsize hba
  exact Lemmas.C03.runRows_induct hrun (fun r0 hr => by
    have := takeRest_cnt r0 _ _ (newRoot_builtFor fields r0 hr)
    rwa [(newRoot_fresh hr).2.2] at this) fun x _ => push_cnt ext x

/-- **`toMarrow_physical`** — the size precondition of the reader, for EVERY type (FixedSizeList and Dictionary included).
Whenever `to_marrow` returns arrays, every one of them is `Read.physical` (the child of every FixedSizeList has at most
`usize::MAX` slots, every dictionary at most `i64::MAX` values, at any depth), provided the lengths computed from the schema
and the NUMBER OF RECORDS fit: `sizeOKDT f.dataType rows.length` (Lemmas/C03PhysSize.lean; decidable).  For a schema without
FixedSizeList that is just `rows.length ≤ i64::MAX` (`sizeOK_of_fslFree`); with FixedSizeList<_, n> columns the product of
the sizes along a nesting path times the row count (`i32::MAX` / `i64::MAX` below a list) must fit `usize`.
Hypotheses besides `hsize`: `coveredF` (the schema hypothesis of `C01_build_decode'`) and `noRaw` (no raw
`serialize_key` / `serialize_value` streams) — neither is used: the conclusion follows from `hsize` alone
(`toMarrow_physical_of_size`); no `SchemaOKF`, `ExtOK`, `SValOK`, `Safe`.
Derived from the builders' own bookkeeping: the counting invariant `Cnt` (a dictionary holds at most as many values as keys were
pushed; the per-variant counters of a union are at most its row count), the row-count invariant `WFH` and the offset bounds
`PX` of the final state — NOT from `Spec.WFS` of the arrays (`wf_not_physical`). -/
theorem toMarrow_physical (ext : Ext) (fields : List Field) (rows : List SVal) (arrs : List Arr)
    (hcov : fields.all Build.coveredF = true)
    (hraw : ∀ x ∈ rows, Build.noRaw x = true)
    (hsize : ∀ f ∈ fields, sizeOKDT f.dataType rows.length = true)
    (h : toMarrow ext fields rows = .ok arrs) : ∀ a ∈ arrs, Read.physical a = true :=
  toMarrow_physical_of_size ext fields rows arrs hsize h

/-- without FixedSizeList columns the size condition of `toMarrow_physical` is `rows.length ≤ i64::MAX` -/
theorem sizeOK_of_fslFree (fields : List Field) (L : Nat) (hf : ∀ f ∈ fields, fslFreeDT f.dataType = true)
    (hL : L ≤ 9223372036854775807) : ∀ f ∈ fields, sizeOKDT f.dataType L = true :=
  fun f hm => Lemmas.C03.sizeOKDT_of_fslFree _ L (hf f hm) hL

/-- `c: FixedSizeList<FixedSizeList<FixedSizeList<Null, N>, N>, N>?` -/
def exBlowField (N : Int) : Field :=
  let fsl (f : Field) : Field := .mk "element" (.fixedSizeList f N) false []
  .mk "c" (.fixedSizeList (fsl (fsl (.mk "element" .null false []))) N) true []

/-- the builder of `exBlowField N` holding `l0` rows (`l1`, `l2`, `l3`: the rows of the nested children) -/
def exBlowB (N l0 l1 l2 l3 : Nat) (v : Validity) : B :=
  let fm : FieldMeta := ⟨"element", false, []⟩
  .fixedSizeList "$.c" fm N l0 v 0 (.fixedSizeList "$.c.element" fm N l1 none 0
    (.fixedSizeList "$.c.element.element" fm N l2 none 0 (.null "$.c.element.element.element" l3)))

theorem iter_count : ∀ (k len : Nat),
    iter k (fun (s : Nat × Validity) => (.ok (s.1 + 1, setValidityDefault s.2 s.1) : R _)) (len, none) = .ok (len + k, none)
  | 0, len => rfl
  | k + 1, len => by
    unfold iter
    simp only [bind, Except.bind]
    exact (iter_count k (len + 1)).trans (by congr 2; omega)

theorem exBlow_new : newB "$.c" (exBlowField 2147483647) = .ok (exBlowB 2147483647 0 0 0 0 (some [])) := by decide

/-- ONE `serialize_none` into the fresh builder: `N`, `N²`, `N³` child slots (symbolic: the model counts, the code loops) -/
theorem exBlow_none (N : Nat) :
    pushNone (exBlowB N 0 0 0 0 (some [])) = .ok (exBlowB N 1 N (N * N) (N * N * N) (some [false])) := by
  simp only [exBlowB, pushNone, pushDefaultK, iter_count, setValidity, bind, Except.bind, pure, Except.pure, ctx, Nat.zero_add]
  rfl

/-- **a BOUND ON THE INPUT ALONE cannot give `Read.physical`**: ONE call `serialize_none` into the builder `build_builder`
constructs for `c: FixedSizeList<FixedSizeList<FixedSizeList<Null, i32::MAX>, i32::MAX>, i32::MAX>?` is accepted (model:
`serialize_none` of a fixed-size list issues `n` × `serialize_default` on its child — counted in the model, a loop in the
code) and the innermost child of the finished array has `(2^31 - 1)^3 > usize::MAX` slots.  (The real crate would loop
`2^93` times: it does not return; no defect.)  So the SCHEMA has to enter the size hypothesis of `toMarrow_physical`. -/
theorem input_bound_not_enough :
    let N : Nat := 2147483647
    newB "$.c" (exBlowField (N : Int)) = .ok (exBlowB N 0 0 0 0 (some [])) ∧
    pushNone (exBlowB N 0 0 0 0 (some [])) = .ok (exBlowB N 1 N (N * N) (N * N * N) (some [false])) ∧
    (match finish {} (exBlowB N 1 N (N * N) (N * N * N) (some [false])) with
     | .ok a => Read.physical a
     | .error _ => true) = false :=
  ⟨exBlow_new, exBlow_none _, by decide⟩

/-- slot `i` of column `j`, from the column-wise statement of `C01_build_decode` -/
theorem col_decodeAt {arrs : List Arr} {cols : List (String × List LVal)} {n : Nat}
    (hc1 : arrs.map decodeAll = cols.map (fun c => c.2.map .ok)) (hc3 : ∀ c ∈ cols, c.2.length = n)
    (j : Nat) (hj : j < arrs.length) (i : Nat) (hi : i < n) :
    ∃ (hjc : j < cols.length) (hli : i < cols[j].2.length), decodeAt arrs[j] i = .ok cols[j].2[i] := by
  have hcl : cols.length = arrs.length := by
    have := congrArg List.length hc1; simpa using this.symm
  have hjc : j < cols.length := by omega
  have hcol : decodeAll arrs[j] = cols[j].2.map .ok := by
    have := congrArg (fun l => l[j]?) hc1
    simpa [List.getElem?_map, List.getElem?_eq_getElem hj, List.getElem?_eq_getElem hjc] using this
  have hli : i < cols[j].2.length := by rw [hc3 _ (List.getElem_mem hjc)]; exact hi
  refine ⟨hjc, hli, ?_⟩
  rw [Roundtrip.decodeAt_of_decodeAll arrs[j] cols[j].2 i hcol hli]
  simp [List.getD, List.getElem?_eq_getElem hli]

/-- `toMarrow_readAny` with the size precondition `Read.physical` of the arrays as an EXPLICIT hypothesis (`hphys`) instead
of the schema-side bound `hsize`: a complete statement with that precondition, for callers that have `physical` from
elsewhere (`toMarrow_readAny` below discharges it through `toMarrow_physical`). -/
theorem toMarrow_readAny_of_physical (ext : Ext) (fields : List Field) (rows : List SVal) (arrs : List Arr)
    (hschema : ∀ f ∈ fields, Lemmas.C03.SchemaOKF f)
    (hcov : fields.all Build.coveredF = true)
    (hraw : ∀ x ∈ rows, Build.noRaw x = true)
    (hext : Lemmas.C03.ExtOK ext)
    (hrows : ∀ x ∈ rows, Lemmas.C03.SValOK x)
    (hread : ∀ f ∈ fields, readableDT f.dataType = true)
    (hphys : ∀ a ∈ arrs, Read.physical a = true)
    (h : toMarrow ext fields rows = .ok arrs) :
    arrs.length = fields.length ∧
    ∃ cols : List (String × List LVal), cols.length = arrs.length ∧
      cols.map (·.1) = fields.map (·.name) ∧
      (∀ (i : Nat) (hi : i < rows.length),
        interpRow ext fields rows[i] = .ok (.struct (LFields.ofList (cols.map fun c => (c.1, c.2.getD i .null))))) ∧
      ∀ (j : Nat) (hj : j < arrs.length) (i : Nat), i < rows.length →
        ∃ lv, (cols[j]?.map (·.2[i]?)) = some (some lv) ∧
          Read.readAny Read.Fixes.all arrs[j] i = .ok (Read.toD arrs[j] lv) := by
  obtain ⟨hlen, cols, hc1, hc2, hc3, hc4⟩ := Props.C01.C01_build_decode' ext fields rows arrs hschema hcov (fun x hx => Build.noRaw_ssa x (hraw x hx)) (Or.inl hraw) h
  obtain ⟨_, hrd⟩ := toMarrow_readable ext fields rows arrs hschema (Or.inr hcov) hext hrows hread h
  have hcl : cols.length = arrs.length := by
    have := congrArg List.length hc1; simpa using this.symm
  refine ⟨hlen, cols, hcl, hc2, hc4, ?_⟩
  intro j hj i hi
  obtain ⟨hjc, hli, hdec⟩ := col_decodeAt hc1 hc3 j hj i hi
  have hjf : j < fields.length := by omega
  obtain ⟨hnew, _, hutf, _⟩ := hrd j fields[j] arrs[j] (List.getElem?_eq_getElem hjf) (List.getElem?_eq_getElem hj)
  refine ⟨cols[j].2[i], by simp [List.getElem?_eq_getElem hjc, List.getElem?_eq_getElem hli], ?_⟩
  exact Props.C02.read_any_decode arrs[j] i _ hdec hnew (hphys _ (List.getElem_mem hj)) (hutf i _ hdec)

/-- **`toMarrow_readAny`** — reading back what was built gives the documented value of the input.  Whenever `to_marrow`
returns arrays, slot `i` of array `j`, read with `deserialize_any`, is the `toD` rendering of the `j`-th field of
`interpRow ext fields rows[i]` (`cols`: the decoded columns of `C01_build_decode`).  NO reader-side hypothesis, EVERY type the
reader supports (FixedSizeList and Dictionary columns included): the hypotheses are those of `C01_build_decode'` and `C03_wfS'`
(schema: `SchemaOKF`, `coveredF` — NO `Safe`; rows: `noRaw`, `SValOK`; `ExtOK`), plus the two schema conditions of this file —
`readableDT` (types the reader supports) and `hsize` (`sizeOKDT`: the lengths computed from the schema and the number of
records fit `usize` / `i64`; `rows.length ≤ i64::MAX` when there is no FixedSizeList: `sizeOK_of_fslFree`), from which
`Read.physical` is derived (`toMarrow_physical`). -/
theorem toMarrow_readAny (ext : Ext) (fields : List Field) (rows : List SVal) (arrs : List Arr)
    (hschema : ∀ f ∈ fields, Lemmas.C03.SchemaOKF f)
    (hcov : fields.all Build.coveredF = true)
    (hraw : ∀ x ∈ rows, Build.noRaw x = true)
    (hext : Lemmas.C03.ExtOK ext)
    (hrows : ∀ x ∈ rows, Lemmas.C03.SValOK x)
    (hread : ∀ f ∈ fields, readableDT f.dataType = true)
    (hsize : ∀ f ∈ fields, sizeOKDT f.dataType rows.length = true)
    (h : toMarrow ext fields rows = .ok arrs) :
    arrs.length = fields.length ∧
    ∃ cols : List (String × List LVal), cols.length = arrs.length ∧
      cols.map (·.1) = fields.map (·.name) ∧
      (∀ (i : Nat) (hi : i < rows.length),
        interpRow ext fields rows[i] = .ok (.struct (LFields.ofList (cols.map fun c => (c.1, c.2.getD i .null))))) ∧
      ∀ (j : Nat) (hj : j < arrs.length) (i : Nat), i < rows.length →
        ∃ lv, (cols[j]?.map (·.2[i]?)) = some (some lv) ∧
          Read.readAny Read.Fixes.all arrs[j] i = .ok (Read.toD arrs[j] lv) :=
  toMarrow_readAny_of_physical ext fields rows arrs hschema hcov hraw hext hrows hread
    (toMarrow_physical ext fields rows arrs hcov hraw hsize h) h

/-! ### the record level: `Deserializer::from_marrow(fields, arrays)` + item `i` -/

/-- **what `Deserializer::from_marrow` finds in the arrays `to_marrow` built** — the record-level composition of
`Props.C01.C01_build_decode'` and `Props.C01.C03_wfS'` with the reader's constructor, for ANY schema the reader supports: the
checks of `Access.new` pass with the number of rows, the root struct reader is constructed, the root struct is well formed at the
schema, and slot `i` decodes to the documented value of row `i`.  The untyped read below and the typed read of C04
(`Props.C04.C04_roundtrip_core_root`) are its two users. -/
theorem toMarrow_root (ext : Ext) (fields : List Field) (rows : List SVal) (arrs : List Arr)
    (hschema : ∀ f ∈ fields, Lemmas.C03.SchemaOKF f)
    (hcov : fields.all Build.coveredF = true)
    (hraw : ∀ x ∈ rows, Build.noRaw x = true)
    (hext : Lemmas.C03.ExtOK ext)
    (hrows : ∀ x ∈ rows, Lemmas.C03.SValOK x)
    (hread : readableFs (Fields.ofList fields) = true)
    (hne : fields ≠ [])
    (h : toMarrow ext fields rows = .ok arrs) :
    Access.new true fields.length (arrs.map Read.vlen) = .ok rows.length ∧
    Read.new Read.Fixes.all (Roundtrip.rootArr fields arrs rows.length) = .ok () ∧
    Spec.wf (.struct (Fields.ofList fields)) false (Roundtrip.rootArr fields arrs rows.length) = true ∧
    ∀ (i : Nat) (hi : i < rows.length), ∃ lv, interpRow ext fields rows[i] = .ok lv ∧
      Spec.decodeAt (Roundtrip.rootArr fields arrs rows.length) i = .ok lv := by
  obtain ⟨hlen, cols, hc1, hc2, hc3, hc4⟩ := Props.C01.C01_build_decode' ext fields rows arrs hschema hcov
    (fun x hx => Build.noRaw_ssa x (hraw x hx)) (Or.inl hraw) h
  obtain ⟨_, hwf⟩ := Props.C01.C03_wfS' ext fields rows arrs hschema (Or.inr hcov) hext hrows h
  have hcols : Spec.wfFields (Fields.ofList fields) (Roundtrip.zipCols fields arrs) rows.length = true :=
    Roundtrip.zip_wf rows.length fields arrs hlen hwf
  have hnewF : Read.newFields Read.Fixes.all (Roundtrip.zipCols fields arrs) = .ok () :=
    Lemmas.C03.wfFields_new _ _ _ hread hcols
  have hnonempty : arrs ≠ [] := by
    intro he
    rw [he] at hlen
    exact hne (List.length_eq_zero_iff.mp hlen.symm)
  have hlens : ∀ x ∈ arrs.map Read.vlen, x = rows.length := by
    rw [Roundtrip.zip_vlen fields arrs hlen hnewF]
    intro x hx
    obtain ⟨a, ha, rfl⟩ := List.mem_map.mp hx
    obtain ⟨j, hj, rfl⟩ := List.getElem_of_mem ha
    have hjf : j < fields.length := by omega
    have := (hwf j fields[j] arrs[j] (List.getElem?_eq_getElem hjf) (List.getElem?_eq_getElem hj)).2
    rw [← (Spec.decodeAll_spec arrs[j]).1, this]
  refine ⟨Roundtrip.access_new rows.length _ _ (by simp [hlen]) (by simpa using hnonempty) hlens,
    by simpa [Roundtrip.rootArr, Read.new] using hnewF, by simp [Roundtrip.rootArr, Spec.wf, Spec.validityOk, hcols],
    fun i hi => ⟨_, hc4 i hi, ?_⟩⟩
  have hz := Roundtrip.zip_decode i fields arrs cols hc1 hc2 (fun c' hc' => by rw [hc3 c' hc']; exact hi)
  simp only [Roundtrip.rootArr, Spec.decodeAt, hi, if_true, Spec.withValidity, Spec.isValid, hz, bind, Except.bind, pure,
    Except.pure]
  simp

/-- record-level form with `Read.physical` of the arrays as an EXPLICIT hypothesis (`hphys`) instead of `hsize`: a complete
statement with that precondition (`toMarrow_readRecord` below discharges it through `toMarrow_physical`); `toMarrow_root` and
`Props.C02.read_any_decode` -/
theorem toMarrow_readRecord_of_physical (ext : Ext) (fields : List Field) (rows : List SVal) (arrs : List Arr)
    (hschema : ∀ f ∈ fields, Lemmas.C03.SchemaOKF f)
    (hcov : fields.all Build.coveredF = true)
    (hraw : ∀ x ∈ rows, Build.noRaw x = true)
    (hext : Lemmas.C03.ExtOK ext)
    (hrows : ∀ x ∈ rows, Lemmas.C03.SValOK x)
    (hread : ∀ f ∈ fields, readableF f = true)
    (hne : fields ≠ [])
    (hphys : ∀ a ∈ arrs, Read.physical a = true)
    (h : toMarrow ext fields rows = .ok arrs) :
    Access.new true fields.length (arrs.map Read.vlen) = .ok rows.length ∧
    Read.new Read.Fixes.all (Roundtrip.rootArr fields arrs rows.length) = .ok () ∧
    ∀ (i : Nat) (hi : i < rows.length), ∃ lv, interpRow ext fields rows[i] = .ok lv ∧
      Roundtrip.readRecord .any fields arrs i = .ok (Read.toD (Roundtrip.rootArr fields arrs rows.length) lv) := by
  obtain ⟨hacc, hnew, hwfroot, hrow⟩ := toMarrow_root ext fields rows arrs hschema hcov hraw hext hrows
    (Lemmas.C03.readableFs_ofList fields hread) hne h
  refine ⟨hacc, hnew, fun i hi => ?_⟩
  obtain ⟨lv, hlv, hdec⟩ := hrow i hi
  refine ⟨lv, hlv, ?_⟩
  have hread1 := Props.C02.read_any_decode _ i _ hdec hnew
    (by simpa [Roundtrip.rootArr, Read.physical] using Roundtrip.zip_physical fields arrs hphys)
    (Lemmas.C03.wf_utf8 _ _ _ i _ hwfroot hdec)
  simp only [Roundtrip.readRecord, hacc, bind, Except.bind]
  rw [hnew]
  simp only [Access.getIdx, ge_iff_le, Nat.not_le.mpr hi, if_false]
  simpa [Read.readAs] using hread1

/-- **`toMarrow_readRecord`** — the record-level form: `Deserializer::from_marrow(fields, arrays)` accepts the built columns
(`Access.new`: as many arrays as fields, all of `rows.length` rows; the root struct reader can be constructed) and reading
record `i` with `deserialize_any` returns the `toD` rendering of `interpRow ext fields rows[i]` — the documented value of
the `i`-th input record.  No reader-side hypothesis, every readable type; `readableF` also asks the TOP-LEVEL fields' strategy
metadata to be known (the root reader parses it); `hsize` as in `toMarrow_readAny`. -/
theorem toMarrow_readRecord (ext : Ext) (fields : List Field) (rows : List SVal) (arrs : List Arr)
    (hschema : ∀ f ∈ fields, Lemmas.C03.SchemaOKF f)
    (hcov : fields.all Build.coveredF = true)
    (hraw : ∀ x ∈ rows, Build.noRaw x = true)
    (hext : Lemmas.C03.ExtOK ext)
    (hrows : ∀ x ∈ rows, Lemmas.C03.SValOK x)
    (hread : ∀ f ∈ fields, readableF f = true)
    (hsize : ∀ f ∈ fields, sizeOKDT f.dataType rows.length = true)
    (hne : fields ≠ [])
    (h : toMarrow ext fields rows = .ok arrs) :
    Access.new true fields.length (arrs.map Read.vlen) = .ok rows.length ∧
    Read.new Read.Fixes.all (Roundtrip.rootArr fields arrs rows.length) = .ok () ∧
    ∀ (i : Nat) (hi : i < rows.length), ∃ lv, interpRow ext fields rows[i] = .ok lv ∧
      Roundtrip.readRecord .any fields arrs i = .ok (Read.toD (Roundtrip.rootArr fields arrs rows.length) lv) :=
  toMarrow_readRecord_of_physical ext fields rows arrs hschema hcov hraw hext hrows hread hne
    (toMarrow_physical ext fields rows arrs hcov hraw hsize h) h

/-- `wf_new` / `wf_utf8` on a concrete nullable dictionary column with a two-byte UTF-8 sequence and a list of unions:
the hypotheses hold (computed) and the conclusions are the computed facts -/
example :
    let f : Field := .mk "d" (.dictionary .int8 .utf8) true []
    let a : Arr := .dictionary (.prim .int8 (some ⟨[0b101], 0⟩) [1, 0, 0]) (.bytes .utf8 none [0, 1, 3] [97, 0xC3, 0xA9])
    WFS f a = true ∧ readableDT f.dataType = true ∧ decodeAt a 0 = .ok (.str [0xC3, 0xA9]) ∧
      Read.new Read.Fixes.all a = .ok () ∧ Read.utf8Ok (.str [0xC3, 0xA9]) = true := by decide

example :
    let u : Field := .mk "u" (.union (.cons 0 (.mk "N" .null true []) (.cons 1 (.mk "S" .largeUtf8 false []) .nil)) .dense) false []
    let f : Field := .mk "l" (.largeList u) false []
    let a : Arr := .list true none [0, 2, 3] ⟨"u", false, []⟩
      (.union [1, 0, 1] (some [0, 0, 1]) (.cons 0 ⟨"N", true, []⟩ (.null 1)
        (.cons 1 ⟨"S", false, []⟩ (.bytes .largeUtf8 none [0, 1, 1] [120]) .nil)))
    WFS f a = true ∧ readableDT f.dataType = true ∧ physFreeDT f.dataType = true ∧
      Read.new Read.Fixes.all a = .ok () ∧ Read.physical a = true := by decide

/-- the reader refuses what `readableDT` excludes although the array is well formed: an unknown strategy on a child field,
a dictionary of dates (both accepted by `build_builder`) -/
example :
    let f : Field := .mk "l" (.list (.mk "element" .int8 false [("SERDE_ARROW:strategy", "Nope")])) false []
    let a : Arr := .list false none [0] ⟨"element", false, [("SERDE_ARROW:strategy", "Nope")]⟩ (.prim .int8 none [])
    let g : Field := .mk "d" (.dictionary .int8 .date32) false []
    let b : Arr := .dictionary (.prim .int8 none [0]) (.prim .date32 none [7])
    WFS f a = true ∧ readableDT f.dataType = false ∧ (Read.new Read.Fixes.all a).isOk = false ∧
    WFS g b = true ∧ readableDT g.dataType = false ∧ (Read.new Read.Fixes.all b).isOk = false := by decide

/-- `toMarrow_readRecord` / `toMarrow_readAny` on the worked instance of Props/C03.lean (`{a: Int32?, l: List<Int8>}`, two
records): every hypothesis discharged, so reading the built arrays back returns the documented values unconditionally -/
example : ∀ arrs, toMarrow {} exFields exRows = .ok arrs →
    Access.new true exFields.length (arrs.map Read.vlen) = .ok exRows.length ∧
    (∀ (i : Nat) (hi : i < exRows.length), ∃ lv, interpRow {} exFields exRows[i] = .ok lv ∧
      Roundtrip.readRecord .any exFields arrs i = .ok (Read.toD (Roundtrip.rootArr exFields arrs exRows.length) lv)) ∧
    ∃ cols : List (String × List LVal), cols.length = arrs.length ∧
      ∀ (j : Nat) (hj : j < arrs.length) (i : Nat), i < exRows.length →
        ∃ lv, (cols[j]?.map (·.2[i]?)) = some (some lv) ∧
          Read.readAny Read.Fixes.all arrs[j] i = .ok (Read.toD arrs[j] lv) := by
  intro arrs h
  have hschema : ∀ f ∈ exFields, Lemmas.C03.SchemaOKF f := by
    simp [exFields, Lemmas.C03.SchemaOKF, Lemmas.C03.SchemaOK]
  have hext : Lemmas.C03.ExtOK {} := by constructor <;> (intros; rename_i h; cases h)
  have hrows : ∀ x ∈ exRows, Lemmas.C03.SValOK x := by
    simp [exRows, Lemmas.C03.SValOK, Lemmas.C03.SFieldsOK, Lemmas.C03.SValsOK, Lemmas.C03.ScalarOK, IntTy.inRange,
      IntTy.min, IntTy.max]
  have hcov : exFields.all Build.coveredF = true := by decide
  have hraw : ∀ x ∈ exRows, Build.noRaw x = true := by decide
  have hread : ∀ f ∈ exFields, readableF f = true := by decide
  have hsize : ∀ f ∈ exFields, sizeOKDT f.dataType exRows.length = true := by decide
  obtain ⟨h1, _, h3⟩ := toMarrow_readRecord {} exFields exRows arrs hschema hcov hraw hext hrows hread hsize
    (by simp [exFields]) h
  obtain ⟨_, cols, hc, _, _, h4⟩ := toMarrow_readAny {} exFields exRows arrs hschema hcov hraw hext hrows
    (fun f hf => Lemmas.C03.readableDT_of_F (hread f hf)) hsize h
  exact ⟨h1, h3, cols, hc, h4⟩

/-- `toMarrow_readAny` on the schema OUTSIDE `Safe` of Props/C01Obs.lean (`{s: Struct{d: Dictionary(UInt8, Utf8)}?}`,
records `None`, `{d: "a"}`, `None`: `Props.C01.exUnsafe_not_safe`) — a DICTIONARY column: every hypothesis discharged
(`hsize` decided on the schema and the record count), nothing assumed about the arrays -/
example : ∀ arrs, toMarrow {} Props.C01.exUnsafeFields Props.C01.exUnsafeRows = .ok arrs →
    (∀ a ∈ arrs, Read.physical a = true) ∧
    ∃ cols : List (String × List LVal), cols.length = arrs.length ∧
      ∀ (j : Nat) (hj : j < arrs.length) (i : Nat), i < Props.C01.exUnsafeRows.length →
        ∃ lv, (cols[j]?.map (·.2[i]?)) = some (some lv) ∧
          Read.readAny Read.Fixes.all arrs[j] i = .ok (Read.toD arrs[j] lv) := by
  intro arrs h
  have hext : Lemmas.C03.ExtOK {} := by constructor <;> (intros; rename_i h; cases h)
  have hsize : ∀ f ∈ Props.C01.exUnsafeFields, sizeOKDT f.dataType Props.C01.exUnsafeRows.length = true := by decide
  obtain ⟨_, cols, hc, _, _, h4⟩ := toMarrow_readAny {} Props.C01.exUnsafeFields Props.C01.exUnsafeRows arrs
    (by simp [Props.C01.exUnsafeFields, Lemmas.C03.SchemaOKF, Lemmas.C03.SchemaOK, Lemmas.C03.SchemaOKFs]) (by decide) (by decide) hext
    (by
      intro x hx
      simp only [Props.C01.exUnsafeRows, List.mem_cons, List.not_mem_nil, or_false] at hx
      rcases hx with rfl | rfl | rfl <;> simp [Lemmas.C03.SValOK, Lemmas.C03.SFieldsOK])
    (by decide) hsize h
  exact ⟨toMarrow_physical {} _ _ arrs (by decide) (by decide) hsize h, cols, hc, h4⟩

/-- a FixedSizeList of dictionary-encoded strings below a nullable struct, and a union: the columns `physFreeDT` excluded -/
def exSizedFields : List Field :=
  [.mk "f" (.fixedSizeList (.mk "element" (.dictionary .int8 .utf8) true []) 2) true [],
   .mk "u" (.union (.cons 0 (.mk "A" (.fixedSizeList (.mk "element" .int32 false []) 3) false [])
      (.cons 1 (.mk "B" .null true []) .nil)) .dense) false []]
def exSizedRows : List SVal :=
  [.record "R" (.cons "f" 0 (.seq (.cons (.str "a") (.cons .none .nil)))
      (.cons "u" 1 (.newtypeVariant "U" 0 "A" (.seq (.cons (.int .i32 1) (.cons (.int .i32 2) (.cons (.int .i32 3) .nil))))) .nil)),
   .record "R" (.cons "f" 0 .none (.cons "u" 1 (.unitVariant "U" 1 "B") .nil))]

/-- non-vacuity of `toMarrow_physical`: the hypotheses hold of `exSizedFields` / `exSizedRows` (decided), `to_marrow` accepts the
batch, and the conclusion is the computed fact; `sizeOKDT` FAILS for the same schema with `2^63` records (the bound is not
vacuous either) -/
example : exSizedFields.all Build.coveredF = true ∧ (∀ x ∈ exSizedRows, Build.noRaw x = true) ∧
    (∀ f ∈ exSizedFields, sizeOKDT f.dataType exSizedRows.length = true) ∧
    (match toMarrow {} exSizedFields exSizedRows with
     | .ok arrs => arrs.all Read.physical
     | .error _ => false) = true ∧
    (exSizedFields.all fun f => sizeOKDT f.dataType (2 ^ 63)) = false := by
  refine ⟨by decide, by decide, by decide, by decide +kernel, by decide⟩

example : ∀ arrs, toMarrow {} exSizedFields exSizedRows = .ok arrs → ∀ a ∈ arrs, Read.physical a = true :=
  fun arrs h => toMarrow_physical {} exSizedFields exSizedRows arrs (by decide) (by decide) (by decide) h

end SaModel.Props.C03
