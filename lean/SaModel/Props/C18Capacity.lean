import SaModel.Props.C18Reach
/-
C18 — capacity errors (7b item 15: "left unblamed").

`Spec.blameDT` has no position for a capacity error: the mapping is defined for the value, the implementation runs out of
offset / counter / key range.  `C18_capacity_blame` (Props/C18Blame.lean) says per builder family where the model reports
them: lists, byte / string / view builders, maps, bytes on lists, dictionary key ranges.  Here
* clause (6), the remaining owner of a capacity-limited counter — the union builder's per-variant `current_offset`
  (`C18_capacity_blame_union`);
* the global statement for reachable states (`C18_capacity_error_reachable`): an error of `push` on a record that HAS a
  meaning (`Spec.interpDT` is defined) occurs only when the sizes of the records handed to the builder exceed the head room
  of the fresh builder, and it is annotated with a position of the schema whose builder's OWN step failed on a call of the
  record — the owner of the exhausted counter, never an ancestor that merely forwarded it.
-/
namespace SaModel.Props.C18
open SaModel SaModel.Build SaModel.Spec

/-- the four calls that select variant `i` of a union -/
def isVariantCall (i : Nat) : SVal → Bool
  | .unitVariant _ j _ | .newtypeVariant _ j _ _ | .tupleVariant _ j _ _ | .structVariant _ j _ _ => j == i
  | _ => false

/-- the three ways `UnionBuilder::serialize_variant` itself fails: no such variant, the variant's row counter is at
`i32::MAX` (capacity), a type id beyond `i8` -/
theorem serializeVariant_plain {fs : BL} {types offs cur : List Int} {i : Nat} {msg : String}
    (h : serializeVariant fs types offs cur i = .error (.err msg)) :
    (fs.get? i = none ∧ msg = s!"Could not find variant {i} in Union") ∨
    (∃ co, cur[i]? = some co ∧ co + 1 > 2147483647 ∧
      msg = s!"Invalid union offsets: the offset type cannot represent the number of elements of variant {i}") ∨
    (∃ co, cur[i]? = some co ∧ ¬ co + 1 > 2147483647 ∧ i > 127 ∧ msg = "out of range integral type conversion attempted") := by
  unfold serializeVariant at h
  cases hg : fs.get? i with
  | none => rw [hg] at h; simp only [SaModel.fail] at h; cases h; exact .inl ⟨rfl, rfl⟩
  | some cm =>
    obtain ⟨c, m⟩ := cm
    rw [hg] at h
    simp only at h
    cases hc : cur[i]? with
    | none => rw [hc] at h; cases h
    | some co =>
      rw [hc] at h
      simp only at h
      by_cases h1 : co + 1 > 2147483647
      · rw [if_pos h1] at h; simp only [SaModel.fail] at h; cases h; exact .inr (.inl ⟨co, rfl, h1, rfl⟩)
      · rw [if_neg h1] at h
        by_cases h2 : i > 127
        · rw [if_pos h2] at h; simp only [SaModel.fail] at h; cases h; exact .inr (.inr ⟨co, rfl, h1, h2, rfl⟩)
        · rw [if_neg h2] at h; cases h

/-- **C18_capacity_blame_union** (clause (6) of `C18_capacity_blame`).  The union builder owns one row counter per variant
(`current_offset: Vec<i32>`).
(a) When the counter of variant `i` stands at `i32::MAX`, each of the four variant calls for `i` is refused with
`Invalid union offsets: …` under the UNION's own path and `Union(..)` — not the variant's child, not an ancestor (the
check precedes every call into the child; repo fix 217d612 made it a checked addition).
(b) Conversely the union builder's OWN code (`callBody`, the body without `.ctx(self)`) fails on a variant call only in
`serialize_variant` — unknown variant, counter at `i32::MAX`, type id beyond 127 (`serializeVariant_plain`) — and `push`
reports exactly that message under the union's own path and label. -/
theorem C18_capacity_blame_union (ext : Ext) [ExtPlain ext] (p : String) (fs : BL) (types offs cur : List Int) (i : Nat)
    (x : SVal) (hx : isVariantCall i x = true) :
    (∀ c m co, fs.get? i = some (c, m) → cur[i]? = some co → co + 1 > 2147483647 →
      push ext (.union p fs types offs cur) x =
        .error (.errCtx s!"Invalid union offsets: the offset type cannot represent the number of elements of variant {i}"
          [("data_type", "Union(..)"), ("field", p)])) ∧
    (∀ msg, callBody ext (.union p fs types offs cur) (.val x) = .error (.err msg) →
      serializeVariant fs types offs cur i = .error (.err msg) ∧
      push ext (.union p fs types offs cur) x = .error (.errCtx msg [("data_type", "Union(..)"), ("field", p)])) := by
  have hne : ∀ v', x ≠ .some v' := by cases x <;> simp [isVariantCall] at hx <;> (intro v' h; cases h)
  have hnn : ∀ n' v', x ≠ .newtypeStruct n' v' := by cases x <;> simp [isVariantCall] at hx <;> (intro n' v' h; cases h)
  have hb : ∀ msg, callBody ext (.union p fs types offs cur) (.val x) = .error (.err msg) →
      serializeVariant fs types offs cur i = .error (.err msg) := by
    intro msg h
    cases x <;> simp [isVariantCall] at hx
    all_goals
      subst hx
      simp only [callBody, valBody] at h
      rcases bind_err_plain h with h1 | ⟨⟨c, t, o, cu⟩, _, h2⟩
      · exact h1
      · exfalso
        simp only at h2
        rcases bind_err_plain h2 with h3 | ⟨c', _, h4⟩
        · first
            | exact push_not_plain ext _ _ _ h3
            | exact ctx_never_plain rfl _ _ h3
            | (split at h3
               · exact ctx_never_plain rfl _ _ h3
               · exact pushNone_not_plain _ _ h3)
        · cases h4
  refine ⟨fun c m co hg hc hco => ?_, fun msg h => ⟨hb msg h, ?_⟩⟩
  · have hsv : serializeVariant fs types offs cur i = .error (.err
        s!"Invalid union offsets: the offset type cannot represent the number of elements of variant {i}") := by
      simp [serializeVariant, hg, hc, hco, SaModel.fail]
    have hbody : callBody ext (.union p fs types offs cur) (.val x) = .error (.err
        s!"Invalid union offsets: the offset type cannot represent the number of elements of variant {i}") := by
      cases x <;> simp [isVariantCall] at hx
      all_goals
        subst hx
        simp only [callBody, valBody, hsv, bind, Except.bind]
    rw [own_failure_blames_self ext _ x _ hne hnn hbody]; rfl
  · rw [own_failure_blames_self ext _ x _ hne hnn h]; rfl

/-- non-vacuity of (6): variant `A` of `u: Union<A: Null, B: Null>` has received `i32::MAX` rows (the state is written down
directly); the next row of `A` is refused under `$.u` / `Union(..)` — what the crate does (suite `overflow`, kind
`union_rows`, n = 2^31: the first refused row is annotated by the union builder) — while a row of `B` is still accepted -/
example :
    push {} (.union "$.u" (.cons (.null "$.u.A" 0) ⟨"A", true, []⟩ (.cons (.null "$.u.B" 0) ⟨"B", true, []⟩ .nil)) [] [] [2147483647, 0])
      (.unitVariant "E" 0 "A") =
      .error (.errCtx "Invalid union offsets: the offset type cannot represent the number of elements of variant 0"
        [("data_type", "Union(..)"), ("field", "$.u")]) ∧
    (push {} (.union "$.u" (.cons (.null "$.u.A" 0) ⟨"A", true, []⟩ (.cons (.null "$.u.B" 0) ⟨"B", true, []⟩ .nil)) [] [] [2147483647, 0])
      (.unitVariant "E" 1 "B")).isOk = true :=
  ⟨by decide +kernel, by decide +kernel⟩

/-- **C18_capacity_error_reachable.**  Record level, hypotheses on the input only (those of `C18_ser_blame_reachable`
without the size bound).  If the next record `x` HAS a meaning in the schema (`Spec.interpDT` is defined: nothing to blame
on any field's value) and `push` nevertheless fails, then
* the sizes of the records handed to the builder exceed the head room of the fresh root (`room root0`, a function of the
  schema): the error is a capacity error, and capacity errors occur ONLY then;
* the error is a panic (excluded by C16) or is annotated with a position `(segs, label)` of the schema at which a builder
  `b'` sits whose OWN step failed with the very message on a call issued while `x` was serialized (`OwnFails`: children
  never return plain errors, so the failing check — `offset overflow`, the key-range conversion, the union's row counter,
  a view length / buffer offset — is code of `b'` itself): the owner of the exhausted counter is named, not an ancestor
  that forwarded the error.  `C18_capacity_blame` (1)–(5) and `C18_capacity_blame_union` say per family which checks these are. -/
theorem C18_capacity_error_reachable (ext : Ext) [ExtPlain ext] (fields : List Field) (root0 : B)
    (h0 : newRoot fields = .ok root0) (hcov : fields.all coveredWF = true)
    (htot : total (.struct (Fields.ofList fields)) false [] = true)
    (rows : List SVal) (root : B) (hb : rows.foldlM (push ext) root0 = .ok root) (hrows : ∀ r ∈ rows, noRaw r = true)
    (x : SVal) (hraw : noRaw x = true) (lv : LVal)
    (hi : interpDT ext (.struct (Fields.ofList fields)) false [] x = .ok lv)
    (e : Fail) (h : push ext root x = .error e) :
    room root0 < sizeSum ext rows + vsize ext x ∧
    ((∃ site, e = .panic site) ∨
     ∃ msg segs label b' c, (segs, label) ∈ segsDT (.struct (Fields.ofList fields)) [] ∧
       e = .errCtx msg [("data_type", label), ("field", render "$" segs)] ∧
       b'.path = render "$" segs ∧ b'.label = label ∧ CallsOf x c ∧ OwnFails ext b' c msg) := by
  constructor
  · apply Nat.lt_of_not_le
    intro hsize
    have hg0 := reachable_goodH_root ext fields root0 h0 hcov htot [] root0 rfl
    have hg := reachable_goodH_root ext fields root0 h0 hcov htot rows root hb
    have hroom := foldl_push_room ext rows root0 root hg0 hrows (by omega) hb
    obtain ⟨b', h', _⟩ := Build.push_completeH ext x hraw root _ _ _ lv hg (by omega) hi
    rw [h] at h'; cases h'
  · exact push_error_deepest_in_schema ext (.struct (Fields.ofList fields)) "$" false [] root0
      (by simpa [newRoot, newDT] using h0) rows root hb x e h

def exDictFields : List Field := [.mk "d" (.dictionary .int8 .utf8) false []]
/-- 128 records with 128 distinct strings: the `Int8` keys 0 … 127 are used up -/
def exDictRows : List SVal := (List.range 128).map fun i => .record "R" (.cons "d" 0 (.str (toString i)) .nil)
def exDictNext : SVal := .record "R" (.cons "d" 0 (.str "x") .nil)

/-- the schema `d: Dictionary(Int8, Utf8)` after 128 distinct strings, next record `{d: "x"}`: every hypothesis of
`C18_capacity_error_reachable` holds (the record has a meaning), the push fails, the sizes exceed the head room of the
fresh root (128 keys), and the named position is the owner of the exhausted range — the KEY child `$.d.key` / `Int8`
(what the crate reports: corpus/build/c18_dict_children.jsonl) -/
example :
    exDictFields.all coveredWF = true ∧ total (.struct (Fields.ofList exDictFields)) false [] = true ∧
    exDictRows.all noRaw = true ∧ noRaw exDictNext = true ∧
    (interpDT {} (.struct (Fields.ofList exDictFields)) false [] exDictNext).isOk = true ∧
    (runRows {} exDictFields exDictRows).isOk = true ∧
    runRows {} exDictFields (exDictRows ++ [exDictNext]) =
      .error (.errCtx "out of range integral type conversion attempted" [("data_type", "Int8"), ("field", "$.d.key")]) ∧
    (newRoot exDictFields).toOption.all (fun r => decide (room r < sizeSum {} exDictRows + vsize {} exDictNext)) = true := by
  -- the 128 rows are run once: the run succeeds, and the next push on its result fails as stated
  have h : (runRows {} exDictFields exDictRows).isOk = true ∧
      (runRows {} exDictFields exDictRows >>= fun r => push {} r exDictNext) =
        .error (.errCtx "out of range integral type conversion attempted" [("data_type", "Int8"), ("field", "$.d.key")]) := by
    decide +kernel
  refine ⟨by decide, by decide, by decide +kernel, by decide, by decide +kernel, h.1, ?_, by decide +kernel⟩
  rw [← h.2]
  simp only [runRows, List.foldlM_append, List.foldlM_cons, List.foldlM_nil, bind_pure, bind_assoc]

end SaModel.Props.C18
