import SaModel.Build.Finish
import SaModel.Spec.Interp
import SaModel.Lemmas.C01LeafBridge
import SaModel.Props.C03
import SaModel.Props.C01Obs
import SaModel.Props.C02
import SaModel.Lemmas.C05Exact
import SaModel.Lemmas.C05ReadStruct
/-
C05 — values a column cannot represent are rejected, never silently altered.
Property theorems about the builder model (SaModel/Build) — every statement is ∀ over values, widths, states.

  per mechanism   integer ranges, null into non-nullable, missing / duplicate fields, fixed-size counts, variants,
                  offsets, dictionary keys (first part of the file)
  umbrella        `C05_push_ok_exact` / `C05_interp_undefined_rejected` (one push, any nesting), `C05_toMarrow_ok_exact` /
                  `C05_toMarrow_undefined_rejected` (whole `to_marrow` run): ok ⇒ the documented value `Spec.interp`
                  is defined and is what the arrays hold; undefined ⇒ never accepted.  Corollaries of the `Safe`-free
                  refinement theorems of Props/C01Obs.lean — R2' `push_interp'` / `push_interp_det`, R3'
                  `runRows_interp'` (schema predicate `coveredWF`) and `C01_build_decode'` (`coveredF`) —, with their
                  coverage.
  leaves          Props/C05Leaf.lean: "cannot be represented" at a leaf is `Spec.specLeaf = none` (Spec/Leaf.lean)
  lossy cells     `documentedLossy` (float narrowing, int → float, decimal columns from text / floats) and
                  `C05_only_documented_lossy`: in every other cell `Spec.interpScalar` is the identity on the value
                  (`Faithful`) or an error; `C05_lossy_cells_alter`: each lossy family does alter a value (witnesses)
  reader          `read_mustFail`: whenever the value-level specification `Read.cast` says a typed read must fail
                  (integer out of the target's range, not a char, null into a non-Option target, tuple longer than the
                  struct, missing field, unknown variant …, at any depth), `readAs` fails — for every (target, column)
                  pair except the two recorded known findings, excluded by the decidable `noKnown`;
                  `exclusion_23_needed` / `exclusion_24_needed`: witnesses that both exclusions are needed
-/
namespace SaModel.Props.C05
open SaModel SaModel.Build SaModel.Spec

/-- a checked conversion (`try_into`, the range tests of the temporal builders): accepted exactly when the guard holds, and
then the value is handed on unchanged; `int_ser_exact` … `time32_i64_exact` are its instances at the guards of `convLeaf` -/
theorem checked_exact {α} {c : Prop} [Decidable c] {v w : α} {m : String} :
    (if c then (.ok v : R α) else fail m) = .ok w ↔ (c ∧ w = v) := by
  split
  · exact ⟨fun h => by cases h; exact ⟨by assumption, rfl⟩, fun ⟨_, h⟩ => h ▸ rfl⟩
  · exact ⟨nofun, fun ⟨h, _⟩ => by contradiction⟩

/-- an integer of any source width is accepted by an integer column iff it is in the column's range, and then
it is stored unchanged (no wrap, no truncation) -/
theorem int_ser_exact (ext : Ext) (t s : IntTy) (v w : Int) :
    convLeaf ext (.int t) (.int s v) = .ok w ↔ (t.inRange v = true ∧ w = v) := by
  simp only [convLeaf, tryInto]
  exact checked_exact

/-- out of range ⇒ error (never `ok`, never `panic`) -/
theorem int_ser_out_of_range (ext : Ext) (t s : IntTy) (v : Int) (h : t.inRange v = false) :
    (convLeaf ext (.int t) (.int s v)).isErr = true := by
  simp [convLeaf, tryInto, h, fail, R.isErr]

/-- booleans enter integer columns as exactly 0 / 1 -/
theorem int_ser_bool (ext : Ext) (t : IntTy) (b : Bool) :
    convLeaf ext (.int t) (.bool b) = .ok (if b then 1 else 0) := by
  cases t <;> cases b <;> rfl

/-- a char enters an integer column as its code point iff that fits -/
theorem int_ser_char (ext : Ext) (t : IntTy) (c : Nat) (w : Int) :
    convLeaf ext (.int t) (.char c) = .ok w ↔ (t.inRange c = true ∧ w = c) := by
  simp only [convLeaf, tryInto]
  exact checked_exact

/-- Duration columns: every signed width passes through, `u64` only up to `i64::MAX` -/
theorem duration_u64_exact (ext : Ext) (u : TimeUnit) (v w : Int) :
    convLeaf ext (.duration u) (.int .u64 v) = .ok w ↔ (IntTy.i64.inRange v = true ∧ w = v) := by
  simp only [convLeaf, tryInto]
  rw [show (IntTy.u64 == IntTy.u64) = true from rfl]
  simp only [if_true]
  exact checked_exact

/-- Date32 / Time32 columns take `i64` values only when they fit `i32` -/
theorem date32_i64_exact (ext : Ext) (v w : Int) :
    convLeaf ext .date32 (.int .i64 v) = .ok w ↔ (IntTy.i32.inRange v = true ∧ w = v) := by
  simp only [convLeaf]
  exact checked_exact

theorem time32_i64_exact (ext : Ext) (u : TimeUnit) (v w : Int) :
    convLeaf ext (.time32 u) (.int .i64 v) = .ok w ↔ (IntTy.i32.inRange v = true ∧ w = v) := by
  simp only [convLeaf, tryInto]
  exact checked_exact

/-- `U8Serializer`: an element of a binary sequence is accepted iff it is an integer in 0..=255 (through any
number of `Some` / newtype wrappers), and then the byte is that value -/
theorem u8_exact (s : IntTy) (v : Int) (b : UInt8) :
    u8Of (.int s v) = .ok b ↔ (0 ≤ v ∧ v ≤ 255 ∧ b = UInt8.ofNat v.toNat) := by
  unfold u8Of
  rw [checked_exact]
  simp only [IntTy.inRange, IntTy.min, IntTy.max, Bool.and_eq_true, and_assoc]
  exact ⟨fun ⟨h1, h2, h3⟩ => ⟨of_decide_eq_true h1, of_decide_eq_true h2, h3⟩,
    fun ⟨h1, h2, h3⟩ => ⟨decide_eq_true h1, decide_eq_true h2, h3⟩⟩

/-! ### null for a non-nullable field -/

/-- `set_validity(None, _, false)` is an error: a builder without a validity buffer cannot take a null -/
theorem set_validity_refuses_null (idx : Nat) : (setValidity none idx false).isErr = true := by
  simp [setValidity, fail, R.isErr]

theorem ctx_isErr {α} (ann : List (String × String)) (r : R α) : (ctx ann r).isErr = r.isErr := by
  unfold ctx
  split
  · split <;> simp [R.isErr]
  · rfl

/-- every builder that carries a validity buffer refuses `serialize_none` when the field is not nullable -/
theorem null_nonnullable_leaf (p : String) (k : LeafKind) (vals : List Int) :
    (pushNone (.leaf p k none vals)).isErr = true := by
  unfold pushNone
  rw [ctx_isErr]
  simp [setValidity, fail, R.isErr, bind, Except.bind]

theorem null_nonnullable_bytes (p : String) (ty : BytesTy) (offs : List Int) (data : Bytes) :
    (pushNone (.bytes p ty none offs data)).isErr = true := by
  unfold pushNone
  rw [ctx_isErr]
  simp [setValidity, fail, R.isErr, bind, Except.bind]

theorem null_nonnullable_bytesView (p : String) (ty : ViewTy) (views : List Nat) (buf : Bytes) :
    (pushNone (.bytesView p ty none views buf)).isErr = true := by
  unfold pushNone
  rw [ctx_isErr]
  simp [setValidity, fail, R.isErr, bind, Except.bind]

theorem null_nonnullable_fixedSizeBinary (p : String) (n len cur : Nat) (buf : Bytes) :
    (pushNone (.fixedSizeBinary p n len none buf cur)).isErr = true := by
  unfold pushNone
  rw [ctx_isErr]
  simp [setValidity, fail, R.isErr, bind, Except.bind]

theorem null_nonnullable_list (p : String) (large : Bool) (fm : FieldMeta) (offs : List Int) (el : B) :
    (pushNone (.list p large fm none offs el)).isErr = true := by
  unfold pushNone
  rw [ctx_isErr]
  simp [setValidity, fail, R.isErr, bind, Except.bind]

theorem null_nonnullable_fixedSizeList (p : String) (fm : FieldMeta) (n len cur : Nat) (el : B) :
    (pushNone (.fixedSizeList p fm n len none cur el)).isErr = true := by
  unfold pushNone
  rw [ctx_isErr]
  simp [setValidity, fail, R.isErr, bind, Except.bind]

theorem null_nonnullable_map (p : String) (mm : MapMeta) (offs : List Int) (ks vs : B) :
    (pushNone (.map p mm none offs ks vs)).isErr = true := by
  unfold pushNone
  rw [ctx_isErr]
  simp [setValidity, fail, R.isErr, bind, Except.bind]

theorem null_nonnullable_struct (p : String) (len : Nat) (fs : BL) (cached : List (Option (String × Nat)))
    (next : Nat) (seen : List Bool) :
    (pushNone (.struct p len none fs cached next seen)).isErr = true := by
  unfold pushNone
  rw [ctx_isErr]
  simp [setValidity, fail, R.isErr, bind, Except.bind]

/-- unions have no nulls at all -/
theorem null_union (p : String) (fs : BL) (types offs cur : List Int) :
    (pushNone (.union p fs types offs cur)).isErr = true := by
  unfold pushNone
  rw [ctx_isErr]
  simp [fail, R.isErr]

/-! ### struct: missing required field, duplicate field -/

/-- `end`: an unseen field that is not nullable is an error — never a silent default -/
theorem struct_missing (b : B) (m : FieldMeta) (rest : BL) (seenRest : List Bool) (h : m.nullable = false) :
    (endFields (.cons b m rest) (false :: seenRest)).isErr = true := by
  simp [endFields, h, fail, R.isErr]

/-- a field that was already written in this record is refused (before the value is looked at) -/
theorem struct_duplicate (s : SS) (idx : Nat) (f : B → R B) (h : s.seen[idx]? = some true) :
    (s.element idx f).isErr = true := by
  simp [SS.element, h, ctx, fail, R.isErr]

/-! ### wrong element count for fixed-size types -/

theorem fixed_size_binary_bytes_count (ext : Ext) (p : String) (n len cur : Nat) (v : Validity) (buf bs : Bytes)
    (h : bs.length ≠ n) :
    (pushScalar ext (.fixedSizeBinary p n len v buf cur) (.bytes bs)).isErr = true := by
  simp [pushScalar, h, fail, R.isErr]

/-! ### unknown / undeclared enum variants -/

/-- a variant index beyond the declared variants is an error -/
theorem union_unknown_variant (fs : BL) (types offs cur : List Int) (idx : Nat) (h : fs.get? idx = none) :
    (serializeVariant fs types offs cur idx).isErr = true := by
  simp [serializeVariant, h, fail, R.isErr]

/-! ### offsets and dictionary keys that overflow their index type -/

/-- the repaired `increment_last` never unwinds and never wraps: beyond the offset type it is an error -/
theorem offset_overflow_is_error (large : Bool) (offs : List Int) (inc : Nat) :
    (incrementLast true large offs inc).isPanic = false :=
  incrementLast_no_panic large offs inc

theorem offset_overflow_exact (large : Bool) (offs offs' : List Int) (inc : Nat)
    (h : incrementLast true large offs inc = .ok offs') :
    ∃ l, offs.getLast? = some l ∧ l + inc ≤ offMax large ∧ offs' = offs.dropLast ++ [l + inc] :=
  (Lemmas.C03.incrementLast_ok h).imp fun _ ⟨hl, he, hle⟩ => ⟨hl, hle, he⟩

/-- the pinned `increment_last` (`*last + inc` unchecked) unwinds in a debug build: witness i32 offsets at the top -/
theorem offset_overflow_pinned_panics :
    (incrementLast false false [2147483647] 1).isPanic = true := by decide

/-- a dictionary key that does not fit the key type is an error: the new index is pushed through the key
builder's `try_from` -/
theorem dict_key_overflow (ext : Ext) (p : String) (t : IntTy) (v : Validity) (keys : List Int) (i : Nat)
    (h : t.inRange i = false) :
    (pushScalar ext (.leaf p (.int t) v keys) (.int .u64 i)).isErr = true := by
  simp [pushScalar, convLeaf, tryInto, h, fail, R.isErr, bind, Except.bind]

/-! ## the umbrella: ok ⇒ exact, undefined ⇒ rejected -/

/-- **ok ⇒ exact (one push).**  If a push of ANY serde value `x` (any nesting) into a builder built for the field
`(dt, n, md)` succeeds, the documented mapping `Spec.interpDT` is defined on `x` and the builder holds exactly its
previous rows followed by that value: nothing wrapped, truncated, defaulted or dropped.  Hypotheses are those of R2' for
determined states (`Props.C01.push_interp_det`, the hidden-rows refinement of Props/C01Obs.lean — NO `Safe`): the WEAK
state invariant `WFH`, `NoDictKey` (holds of every builder `build_builder` constructs) and `Det b` (no row of `b` is
undetermined) — all three hold of every strictly well-formed state (`WFH_of_WFB`, `Det_of_WFB`: the stronger
`WFB b`, `Safe b` imply them) and of the root of `to_marrow` after every record; `Shape` (the builder is the one
`build_builder` makes for the field), `structStreamsAlternate` (every raw key/value call stream inside `x` alternates:
Map builders refuse the others, struct builders ACCEPT them although the mapping gives them no meaning —
`Props.C01.struct_stream_needed`, `Props.C01.struct_raw_stored`) and, when `x` contains a raw stream at all, the
sentinel bound `narrowDT` (fewer than `usize::MAX` fields per struct). -/
theorem C05_push_ok_exact (ext : Ext) (x : SVal) (b b' : B) (dt : DataType) (n : Bool) (md : Metadata)
    (hraw : structStreamsAlternate x = true) (hnar : noRaw x = true ∨ narrowDT dt = true)
    (hwf : WFH b) (hnd : NoDictKey b) (hdet : Det b) (hshape : Shape b dt n md) (h : push ext b x = .ok b') :
    ∃ lv, interpDT ext dt n md x = .ok lv ∧ dec b' = dec b ++ [lv] := by
  obtain ⟨_, _, _, _, lv, hd, hi⟩ := Props.C01.push_interp_det ext x b b' dt n md hraw hnar hwf hnd hdet hshape h
  exact ⟨lv, hi, hd⟩

/-- the same for ANY state under the weak invariant, in terms of the observable rows: the documented value is defined and
is the one determined row the push appends -/
theorem C05_push_ok_exact_obs (ext : Ext) (x : SVal) (b b' : B) (dt : DataType) (n : Bool) (md : Metadata)
    (hraw : structStreamsAlternate x = true) (hnar : noRaw x = true ∨ narrowDT dt = true)
    (hwf : WFH b) (hnd : NoDictKey b) (hshape : Shape b dt n md) (h : push ext b x = .ok b') :
    ∃ lv, interpDT ext dt n md x = .ok lv ∧ Refines (decH b') (decH b ++ [some lv]) := by
  obtain ⟨_, _, _, lv, hd, hi⟩ := Props.C01.push_interp' ext x b b' dt n md hraw hnar hwf hnd hshape h
  exact ⟨lv, hi, hd⟩

/-- **undefined ⇒ rejected (one push).**  A value the documented mapping does not define for the field (out of range,
null for a non-nullable field, missing / duplicate field, wrong count, unknown variant, wrong kind …, at any depth) is
never accepted.  ANY state under the weak invariant (no `Safe`, no determinedness needed). -/
theorem C05_interp_undefined_rejected (ext : Ext) (x : SVal) (b : B) (dt : DataType) (n : Bool) (md : Metadata)
    (hraw : structStreamsAlternate x = true) (hnar : noRaw x = true ∨ narrowDT dt = true)
    (hwf : WFH b) (hnd : NoDictKey b) (hshape : Shape b dt n md)
    (e : Fail) (hu : interpDT ext dt n md x = .error e) : ∀ b', push ext b x ≠ .ok b' := by
  intro b' h
  obtain ⟨lv, hi, _⟩ := C05_push_ok_exact_obs ext x b b' dt n md hraw hnar hwf hnd hshape h
  rw [hu] at hi
  cases hi

/-- the same for a freshly built builder: everything but `coveredW` comes from `build_builder` — no hypothesis on the
schema beside it.  `coveredW` (Lemmas/C01NewShape.lean) is the WEAK schema predicate: it also admits dictionaries whose
value builder refuses strings (`Build.newDT_shapeW` establishes the `Shape` the push theorem needs from it); the stronger
`covered` implies it (`Build.coveredW_of_covered`; corollary `C05_new_interp_undefined_rejected_covered`). -/
theorem C05_new_interp_undefined_rejected (ext : Ext) (x : SVal) (path : String) (dt : DataType) (n : Bool)
    (md : Metadata) (b : B) (hc : Build.coveredW dt = true) (hnew : newDT path dt n md = .ok b)
    (hraw : structStreamsAlternate x = true) (hnar : noRaw x = true ∨ narrowDT dt = true)
    (e : Fail) (hu : interpDT ext dt n md x = .error e) : ∀ b', push ext b x ≠ .ok b' :=
  C05_interp_undefined_rejected ext x b dt n md hraw hnar
    (Build.WFH_of_WFB _ (Props.C01.newDT_fresh dt path n md b hnew).1)
    (Build.BuiltFor_NoDictKey b dt n (Props.C03.newB_builtFor path (.mk "" dt n md) b hnew))
    (Build.newDT_shapeW dt path n md b hc hnew) e hu

/-- the same under the stronger `covered` -/
theorem C05_new_interp_undefined_rejected_covered (ext : Ext) (x : SVal) (path : String) (dt : DataType) (n : Bool)
    (md : Metadata) (b : B) (hc : covered dt = true) (hnew : newDT path dt n md = .ok b)
    (hraw : structStreamsAlternate x = true) (hnar : noRaw x = true ∨ narrowDT dt = true)
    (e : Fail) (hu : interpDT ext dt n md x = .error e) : ∀ b', push ext b x ≠ .ok b' :=
  C05_new_interp_undefined_rejected ext x path dt n md b (Build.coveredW_of_covered dt hc) hnew hraw hnar e hu

/-- non-vacuity of the weaker hypothesis: `Dictionary(Int32, Int64)` is `coveredW` and NOT `covered`, `build_builder`
accepts it, the documented mapping gives a string no value there — and the theorem applies: the push is refused -/
example : covered (.dictionary .int32 .int64) = false ∧ Build.coveredW (.dictionary .int32 .int64) = true ∧
    ∃ b, newDT "$" (.dictionary .int32 .int64) true [] = .ok b ∧ ∀ b', push {} b (.str "a") ≠ .ok b' := by
  refine ⟨by decide, by decide, ?_⟩
  have hok : (newDT "$" (.dictionary .int32 .int64) true []).isOk = true := by decide +kernel
  have herr : (interpDT {} (.dictionary .int32 .int64) true [] (.str "a")).isOk = false := by decide +kernel
  cases hb : newDT "$" (.dictionary .int32 .int64) true [] with
  | error e => rw [hb] at hok; cases hok
  | ok b =>
    refine ⟨b, rfl, ?_⟩
    cases hi : interpDT {} (.dictionary .int32 .int64) true [] (.str "a") with
    | ok lv => rw [hi] at herr; cases herr
    | error e =>
      exact C05_new_interp_undefined_rejected {} (.str "a") "$" _ true [] b (by decide) hb (by decide) (Or.inl (by decide)) e hi

/-- **ok ⇒ exact (`to_marrow`).**  If `to_marrow` succeeds, EVERY input record has a documented value
(`interpRow` is defined: every field of every record, at every depth, was representable in its column) and the
returned arrays decode — Arrow reading rules — to exactly those values: row `i` is the struct whose `j`-th field is
slot `i` of column `j`.  Hypotheses and coverage are those of `Props.C01.C01_build_decode'` (no `Safe`). -/
theorem C05_toMarrow_ok_exact (ext : Ext) (fields : List Field) (rows : List SVal) (arrs : List Arr)
    (hschema : ∀ f ∈ fields, Lemmas.C03.SchemaOKF f)
    (hcov : fields.all Build.coveredF = true)
    (hraw : ∀ x ∈ rows, Build.structStreamsAlternate x = true)
    (hnar : (∀ x ∈ rows, Build.noRaw x = true) ∨ Build.narrowRoot fields = true)
    (h : toMarrow ext fields rows = .ok arrs) :
    (∀ x ∈ rows, ∃ lv, interpRow ext fields x = .ok lv) ∧
    ∃ cols : List (String × List LVal),
      arrs.map decodeAll = cols.map (fun c => c.2.map .ok) ∧
      cols.map (·.1) = fields.map (·.name) ∧
      (∀ c ∈ cols, c.2.length = rows.length) ∧
      ∀ (i : Nat) (hi : i < rows.length),
        interpRow ext fields rows[i] = .ok (.struct (LFields.ofList (cols.map fun c => (c.1, c.2.getD i .null)))) := by
  obtain ⟨_, cols, h1, h2, h3, h4⟩ := Props.C01.C01_build_decode' ext fields rows arrs hschema hcov hraw hnar h
  refine ⟨?_, cols, h1, h2, h3, h4⟩
  intro x hx
  obtain ⟨i, hi, rfl⟩ := List.getElem_of_mem hx
  exact ⟨_, h4 i hi⟩

/-- **undefined ⇒ rejected (`to_marrow`).**  One record without a documented value anywhere in the batch makes the
whole call fail: no array is returned.  Needs only the hypotheses of R3' (`Props.C01.runRows_interp'`; no `Safe`); the
schema predicate is the weak `coveredWF` (Lemmas/C01NewShape.lean): also dictionaries whose value builder refuses strings. -/
theorem C05_toMarrow_undefined_rejected (ext : Ext) (fields : List Field) (rows : List SVal)
    (hcov : fields.all Build.coveredWF = true)
    (hraw : ∀ x ∈ rows, Build.structStreamsAlternate x = true)
    (hnar : (∀ x ∈ rows, Build.noRaw x = true) ∨ Build.narrowRoot fields = true)
    (hu : ∃ (i : Nat) (hi : i < rows.length) (e : Fail), interpRow ext fields rows[i] = .error e) :
    ∀ arrs, toMarrow ext fields rows ≠ .ok arrs := by
  intro arrs h
  obtain ⟨i, hi, e, he⟩ := hu
  obtain ⟨root, hrun, _⟩ := Props.C03.toMarrow_split ext fields rows arrs h
  obtain ⟨root0, h0⟩ := Props.C03.runRows_newRoot hrun
  obtain ⟨hall, _⟩ := Props.C01.runRows_interp' ext fields rows root0 root hcov h0 hraw hnar hrun
  obtain ⟨hl, hg⟩ := Props.C03.All2_get hall
  have := hg i (by rw [hl]; exact hi) hi
  rw [he] at this
  cases this

/-- non-vacuity: a record without a documented value (a non-nullable dictionary field below the nullable struct is
given `None`) against the schema OUTSIDE `Safe` of Props/C01Obs.lean is refused -/
example : ∀ arrs, toMarrow {} Props.C01.exUnsafeFields
    [.record "R" (.cons "s" 0 (.some (.record "S" (.cons "d" 0 .none .nil))) .nil)] ≠ .ok arrs := by
  have hbad : ∃ e, interpRow {} Props.C01.exUnsafeFields
      (.record "R" (.cons "s" 0 (.some (.record "S" (.cons "d" 0 .none .nil))) .nil)) = .error e := by
    cases hi : interpRow {} Props.C01.exUnsafeFields
        (.record "R" (.cons "s" 0 (.some (.record "S" (.cons "d" 0 .none .nil))) .nil)) with
    | error e => exact ⟨e, rfl⟩
    | ok v =>
      have : (interpRow {} Props.C01.exUnsafeFields
        (.record "R" (.cons "s" 0 (.some (.record "S" (.cons "d" 0 .none .nil))) .nil))).isOk = false := by
        decide +kernel
      rw [hi] at this; cases this
  obtain ⟨e, he⟩ := hbad
  exact C05_toMarrow_undefined_rejected {} _ _ (by decide) (by decide) (Or.inl (by decide)) ⟨0, by decide, e, he⟩

/-! ## the documented lossy cells are the only cells that alter a value

Every leaf of `Spec.interpDT` goes through `Spec.interpScalar` (scalars, the bytes of a binary value presented as a
list) or is structural (records by name, sequences element by element, `Spec.bytesOf` — equal to the model's `u8All`,
`bytesOf_eq` — for bytes given as a sequence: `u8_exact` above).  `documentedLossy` (Lemmas/C05Exact.lean) lists the cells (leaf kind of the column, serde scalar call)
the documentation declares lossy; in every other cell the logical value `interpScalar` defines is the value presented
(`Faithful`: same number / same float bits or the IEEE widening / same text or `to_string()` of the scalar / same
bytes / what the temporal codec returns for the text — whose own exactness is C14) or there is no value (error). -/

/-- at the storage level (`convLeaf`: what a leaf builder stores for a scalar call) -/
theorem C05_leaf_only_documented_lossy (ext : Ext) (k : LeafKind) (x : SVal) :
    documentedLossy k x = true ∨ (∃ e, convLeaf ext k x = .error e) ∨
      ∃ w, convLeaf ext k x = .ok w ∧ StoredExact ext k x w := by
  cases hl : documentedLossy k x with
  | true => exact .inl rfl
  | false =>
    cases hc : convLeaf ext k x with
    | error e => exact .inr (.inl ⟨e, rfl⟩)
    | ok w => exact .inr (.inr ⟨w, rfl, convLeaf_exact ext k x w hc hl⟩)

/-- **only the documented cells are lossy** (specification level): for every column type and every scalar call, the
cell is a documented lossy one, or the mapping is undefined (⇒ rejected, `C05_interp_undefined_rejected`), or the
logical value is the value presented. -/
theorem C05_only_documented_lossy (ext : Ext) (dt : DataType) (x : SVal) :
    documentedLossyDT dt x = true ∨ (∃ e, interpScalar ext dt x = .error e) ∨
      ∃ lv, interpScalar ext dt x = .ok lv ∧ Faithful ext dt x lv := by
  cases hl : documentedLossyDT dt x with
  | true => exact .inl rfl
  | false =>
    cases hc : interpScalar ext dt x with
    | error e => exact .inr (.inl ⟨e, rfl⟩)
    | ok lv => exact .inr (.inr ⟨lv, rfl, interpScalar_faithful ext dt x lv hc hl⟩)

/-- the exclusion is needed: each documented family does alter a value.  2^24+1 as f32 is 2^24; the f64 nearest to 0.1
narrowed to f32 and widened back is another f64; 65520 (f32) overflows f16 to +inf. -/
theorem C05_lossy_cells_alter :
    documentedLossy .f32 (.int .i64 16777217) = true ∧
    convLeaf {} .f32 (.int .i64 16777217) = convLeaf {} .f32 (.int .i64 16777216) ∧
    documentedLossy .f32 (.f64 0x3FB999999999999A) = true ∧
    (do let w ← convLeaf {} .f32 (.f64 0x3FB999999999999A); convLeaf {} .f64 (.f32 w.toNat)) = .ok 0x3FB99999A0000000 ∧
    documentedLossy .f16 (.f32 0x477FF000) = true ∧ convLeaf {} .f16 (.f32 0x477FF000) = .ok 0x7C00 := by
  decide +kernel

/-! ### non-vacuity -/

/-- `C05_push_ok_exact` / `C05_interp_undefined_rejected` on a nested state (`Props.C01.exList`: nullable list of
non-nullable Int32): an out-of-range element deep in the value has no documented value, and the push is refused -/
example : (interpDT {} (.list (.mk "element" .int32 false [])) true []
    (.seq (.cons (.int .i8 5) (.cons (.int .i64 2147483648) .nil)))).isErr = true := by decide +kernel
example : (push {} Props.C01.exList (.seq (.cons (.int .i8 5) (.cons (.int .i64 2147483648) .nil)))).isErr = true := by
  decide +kernel
example : (interpDT {} (.list (.mk "element" .int32 false [])) true []
    (.seq (.cons (.int .i8 5) (.cons .none .nil)))).isErr = true := by decide +kernel

/-- `C05_toMarrow_undefined_rejected`: the second record misses the non-nullable field `l` -/
example : (interpRow {} Props.C03.exFields (.record "R" (.cons "a" 0 (.int .i32 1) .nil))).isErr = true := by
  decide +kernel

/-- faithful cells of every class -/
example : Faithful {} .int8 (.int .u64 7) (.int 7) := .int (k := .int .i8) rfl rfl
example : Faithful {} .uint16 (.char 955) (.int 955) := .int (k := .int .u16) rfl rfl
example : Faithful {} .float64 (.f32 0x3F800000) (.float 0x3FF0000000000000) := by
  have h := Faithful.widen (ext := {}) 0x3F800000
  rw [show Float.convert Float.f32 Float.f64 0x3F800000 = 0x3FF0000000000000 from by decide +kernel] at h
  exact h
example : interpScalar {} .largeUtf8 (.int .i16 (-12)) = .ok (.str (strBytes "-12")) := by decide +kernel

example : convLeaf {} (.int .i8) (.int .i64 127) = .ok 127 := by decide
example : (convLeaf {} (.int .i8) (.int .i64 128)).isErr = true := by decide
example : (convLeaf {} (.int .u8) (.int .i8 (-1))).isErr = true := by decide
example : u8Of (.some (.int .i32 255)) = .ok 255 := by decide
example : (u8Of (.int .i32 256)).isErr = true := by decide

/-! ## reader direction: what `cast` says must fail, fails

The reject half of `Props.C02.read_honours` (structural recursion over the target).  Proof: `Lemmas/C02TypedLeaf.lean`
(scalar targets), `C05ReadCont.lean` (`noKnown`, `Option`, newtype, sequences), `C05ReadCont2.lean` (tuples, maps, enums),
`C05ReadStruct.lean` (structs by field name). -/

section Reader
open SaModel.Read

theorem read_rej : ∀ (t : Target), Rej t := fun t => (Props.C02.read_honours t).rej

theorem kind_rej : ∀ (k : VKind), KRej k := fun k => (Props.C02.kind_honours k).rej

theorem tfields_rej : ∀ (tfs : TFields), ∀ p ∈ TFields.toList tfs, Rej p.2 := fun _ p _ => read_rej p.2

theorem variants_rej : ∀ (vs : TVariants), ∀ p ∈ TVariants.toList vs, KRej p.2 := fun _ p _ => kind_rej p.2

/-- **C05, reading direction.**  For EVERY target type `t` (scalars, `Option`, newtype, `Vec`, tuples, maps, structs by
field name, enums by name or index, nested to any depth), EVERY array `a` and slot `i` whose Arrow reading is defined
(`decodeAt a i = ok lv`), under the hypotheses of `Props.C02.read_typed_decode` (the reader was built, lengths are
representable, strings are UTF-8): if the value-level specification says the value has no exact representation in `t`
(`cast t a lv` is an error: `mustFail _`), the typed read fails — it never returns a wrapped, truncated, defaulted or
hidden value.  `noKnown t a lv` excludes exactly the two recorded known findings (#23 a null container slot into a
non-`Option` container target, #24 an integer column read as `bool`), wherever they occur inside the value. -/
theorem read_mustFail (t : Target) (a : Arr) (i : Nat) (lv : LVal) (why : String)
    (hc : Read.cast t a lv = mustFail why) (h : decodeAt a i = .ok lv)
    (hn : new Fixes.all a = .ok ()) (hp : physical a = true) (hu : utf8Ok lv = true)
    (hk : noKnown t a lv = true) : ∃ e, readAs Fixes.all t a i = .error e :=
  isOk_false_iff.1 (read_rej t a i lv _ h hn hp hu hk hc)

/-- **No silent cells** (C02 + C05, reader side).  For EVERY target, array and slot with a defined Arrow reading, under
the hypotheses of `read_typed_decode`, outside the two known findings (`noKnown`) and where no field name repeats
(`naCell t a = false`: every Rust type, every view whose struct columns have distinct child names): the typed read is
DECIDED by the value-level specification — either `cast` demands a value and the read returns exactly it, or `cast`
says the read must fail (value not representable, codec refusal, pair not offered by the reader) and it fails. -/
theorem read_typed_total (t : Target) (a : Arr) (i : Nat) (lv : LVal)
    (h : decodeAt a i = .ok lv) (hn : new Fixes.all a = .ok ()) (hp : physical a = true) (hu : utf8Ok lv = true)
    (hk : noKnown t a lv = true) (hna : naCell t a = false) :
    (∃ d, Read.cast t a lv = must d ∧ readAs Fixes.all t a i = .ok d) ∨
    (∃ e e', Read.cast t a lv = .error e ∧ readAs Fixes.all t a i = .error e') := by
  rcases Props.C02.cast_must_or_mustFail t a lv hna with ⟨d, hc⟩ | ⟨e, hc⟩
  · exact .inl ⟨d, hc, Props.C02.read_typed_decode t a i lv d h hn hp hu hc⟩
  · obtain ⟨e', he'⟩ := isOk_false_iff.1 (read_rej t a i lv e h hn hp hu hk hc)
    exact .inr ⟨e, e', hc, he'⟩

/-- non-vacuity: a Date32 column read as `String` (first disjunct) and as `&str` (second disjunct) -/
example : (∃ d, Read.cast .string (.prim .date32 none [19000]) (.int 19000) = must d ∧
      readAs Fixes.all .string (.prim .date32 none [19000]) 0 = .ok d) ∧
    (∃ e e', Read.cast .str (.prim .date32 none [19000]) (.int 19000) = .error e ∧
      readAs Fixes.all .str (.prim .date32 none [19000]) 0 = .error e') := by
  have h1 := read_typed_total .string (.prim .date32 none [19000]) 0 (.int 19000) (by decide) (by decide) (by decide) (by decide)
    (by decide) (by decide)
  have h2 := read_typed_total .str (.prim .date32 none [19000]) 0 (.int 19000) (by decide) (by decide) (by decide) (by decide)
    (by decide) (by decide)
  have hm1 : Read.cast .string (.prim .date32 none [19000]) (.int 19000) = must (.str .owned (Read.strBytes "2022-01-08")) := by
    decide +kernel
  have hm2 : Read.cast .str (.prim .date32 none [19000]) (.int 19000) = mustFail "unsupported (target, column) pair" := by
    decide +kernel
  refine ⟨?_, ?_⟩
  · rcases h1 with h | ⟨e, _, hc, _⟩
    · exact h
    · rw [hm1] at hc; simp [must] at hc
  · rcases h2 with ⟨d, hc, _⟩ | h
    · rw [hm2] at hc; simp [mustFail, fail, must] at hc
    · exact h

/-- the same for any error claim, with the materialising oracle `Spec.decode` -/
theorem read_mustFail_spec (t : Target) (a : Arr) (i : Nat) (lv : LVal) (e0 : Fail)
    (hc : Read.cast t a lv = .error e0) (h : Spec.decode a i = .ok lv)
    (hn : new Fixes.all a = .ok ()) (hp : physical a = true) (hu : utf8Ok lv = true)
    (hk : noKnown t a lv = true) : ∃ e, readAs Fixes.all t a i = .error e :=
  isOk_false_iff.1 (read_rej t a i lv _ (Props.C02.decode_eq_decodeAt a i ▸ h) hn hp hu hk hc)

/-- typed reads are exact or fail: with `Props.C02.read_typed_decode`, wherever `cast` makes a claim about a slot
(`must d` or `mustFail`), a successful read returned exactly the claimed value -/
theorem read_ok_exact (t : Target) (a : Arr) (i : Nat) (lv : LVal) (d : DVal) (c : Option DVal)
    (h : decodeAt a i = .ok lv) (hn : new Fixes.all a = .ok ()) (hp : physical a = true) (hu : utf8Ok lv = true)
    (hk : noKnown t a lv = true) (hr : readAs Fixes.all t a i = .ok d) :
    (∀ e, Read.cast t a lv ≠ .error e) ∧ (Read.cast t a lv = .ok c → c = none ∨ c = some d) := by
  constructor
  · intro e hc
    have := read_rej t a i lv e h hn hp hu hk hc
    rw [hr] at this; cases this
  · intro hc
    cases c with
    | none => exact .inl rfl
    | some d' =>
      have := Props.C02.read_typed_decode t a i lv d' h hn hp hu hc
      rw [hr] at this; cases this; exact .inr rfl

/-- integer / float / … targets never read a string or binary column: those readers implement none of the numeric
`deserialize_*` methods (`cast` makes no claim there: the pair is unsupported, and it is refused) -/
theorem read_text_as_number_fails (t : Target) (ht : (∃ ty, t = .int ty) ∨ t = .f32 ∨ t = .f64 ∨ t = .bool ∨ t = .char)
    (a : Arr) (ha : (∃ ty v offs data, a = .bytes ty v offs data) ∨ (∃ ty v views bufs, a = .bytesView ty v views bufs) ∨
      (∃ n v data, a = .fixedSizeBinary n v data) ∨ (∃ ks vs, a = .dictionary ks vs)) (i : Nat) :
    ∃ e, readAs Fixes.all t a i = .error e := by
  apply isOk_false_iff.1
  rcases ht with ⟨ty, rfl⟩ | rfl | rfl | rfl | rfl <;>
  rcases ha with ⟨ty', v, offs, data, rfl⟩ | ⟨ty', v, views, bufs, rfl⟩ | ⟨n, v, data, rfl⟩ | ⟨ks, vs, rfl⟩ <;>
    (simp only [readAs]; unfold scalar;
     first
      | (simp [notImpl, fail, bind, Except.bind, R.isOk]; done)
      | (split <;> simp [notImpl, fail, bind, Except.bind, R.isOk]))

/-! ### the exclusions are needed (known findings #23, #24) -/

/-- #23: the slot is null, `cast` says the read must fail, `noKnown` is false, the code returns the hidden `(42,)` -/
theorem exclusion_23_needed :
    let a : Arr := .struct 1 (some ⟨[0], 0⟩) (.cons ⟨"x", false, []⟩ (.prim .int32 none [42]) .nil)
    let t : Target := .tuple (.cons (.int .i32) .nil)
    decodeAt a 0 = .ok .null ∧ new Fixes.all a = .ok () ∧ physical a = true ∧
    Read.cast t a .null = mustFail "null into a non-Option target" ∧ noKnown t a .null = false ∧
    readAs Fixes.all t a 0 = .ok (.seq (.cons (.int .i32 42) .nil)) := by decide +kernel

/-- #24: Int32 value 2 read as `bool`: `cast` says the read must fail, `noKnown` is false, the code returns `true` -/
theorem exclusion_24_needed :
    let a : Arr := .prim .int32 none [2]
    decodeAt a 0 = .ok (.int 2) ∧ new Fixes.all a = .ok () ∧ physical a = true ∧
    Read.cast .bool a (.int 2) = mustFail "not a bool" ∧ noKnown .bool a (.int 2) = false ∧
    readAs Fixes.all .bool a 0 = .ok (.bool true) := by decide +kernel

/-! ### non-vacuity: the classes of the property, each meeting every hypothesis of `read_mustFail` (computed) -/

def rdLv (a : Arr) (i : Nat) : LVal := match decodeAt a i with | .ok lv => lv | .error _ => .null

def isMustFail : Claim → Bool
  | .error _ => true
  | _ => false

/-- (target, column, slot) triples: integer widths in both directions, char from u32, null into non-Option leaf
targets, tuple longer than the struct, missing field, unknown variant name / index, an offending element deep inside -/
def rdCases : List (Target × Arr × Nat) :=
  [ (.int .i8, .prim .int32 none [128], 0), (.int .u8, .prim .int8 none [-1], 0),
    (.int .u32, .prim .int64 none [4294967296], 0), (.int .i64, .prim .uint64 none [9223372036854775808], 0),
    (.int .i16, .prim .uint16 none [32768], 0), (.int .i32, .prim .date64 none [2147483648], 0),
    (.char, .prim .uint32 none [55296], 0), (.char, .prim .uint32 none [1114112], 0), (.char, .prim .int64 none [-1], 0),
    (.int .i32, .prim .int32 (some ⟨[0], 0⟩) [7], 0), (.string, .bytes .utf8 (some ⟨[0], 0⟩) [0, 0] [], 0),
    (.bool, .boolean 1 (some ⟨[0], 0⟩) ⟨[1], 0⟩, 0), (.f64, .prim .float64 (some ⟨[0], 0⟩) [0], 0),
    (.tuple (.cons (.int .i32) (.cons (.int .i32) .nil)),
      .struct 1 none (.cons ⟨"x", false, []⟩ (.prim .int32 none [42]) .nil), 0),
    (.struct (.cons "y" (.int .i32) .nil), .struct 1 none (.cons ⟨"x", false, []⟩ (.prim .int32 none [42]) .nil), 0),
    (.enum false (.cons "A" .unit .nil), .bytes .utf8 none [0, 1] [66], 0),
    (.enum false (.cons "A" .unit .nil),
      .union [1] (some [0]) (.cons 0 ⟨"A", false, []⟩ (.null 0) (.cons 1 ⟨"B", false, []⟩ (.null 1) .nil)), 0),
    (.enum true (.cons "A" .unit .nil),
      .union [1] (some [0]) (.cons 0 ⟨"A", false, []⟩ (.null 0) (.cons 1 ⟨"B", false, []⟩ (.null 1) .nil)), 0),
    (.seq (.struct (.cons "x" (.option (.int .u8)) .nil)),
      .list false none [0, 2] ⟨"element", false, []⟩
        (.struct 2 none (.cons ⟨"x", true, []⟩ (.prim .int32 (some ⟨[3], 0⟩) [1, 256]) .nil)), 0) ]

example : ∀ c ∈ rdCases, decodeAt c.2.1 c.2.2 = .ok (rdLv c.2.1 c.2.2) ∧ new Fixes.all c.2.1 = .ok () ∧
    physical c.2.1 = true ∧ utf8Ok (rdLv c.2.1 c.2.2) = true ∧ noKnown c.1 c.2.1 (rdLv c.2.1 c.2.2) = true ∧
    isMustFail (Read.cast c.1 c.2.1 (rdLv c.2.1 c.2.2)) = true ∧ (readAs Fixes.all c.1 c.2.1 c.2.2).isOk = false := by
  decide +kernel

end Reader

end SaModel.Props.C05
