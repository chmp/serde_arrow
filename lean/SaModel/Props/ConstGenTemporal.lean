import SaModel.Generated.ConstantsTemporal
import SaModel.Lemmas.C09Chars
import SaModel.Codec.Span
import SaModel.Codec.Time
import SaModel.Codec.Calendar
/-
Translation obligation (C14, C05, C16): the UNIT FACTORS of chrono.rs and of the date / time / timestamp builders and
readers, as the translator reads them out of the sources NOW (`Generated.ConstantsTemporal`), are the numbers the
hand-written model uses (`SaModel/Codec/Span.lean`: `TimeUnit.nsPer`, `TimeUnit.perSec`, `getSecondValue`,
`getNanosecondValue`, `buildDuration`, `formatMagnitude`; `SaModel/Codec/Time.lean`: `timeToUnits`, `timeOfString`,
`unitsToTime`, `instantUnitsValue`, `unitsToInstant`; `SaModel/Codec/Calendar.lean`: `DateTy.factor`).

Per-unit tables of the source are compared with the model's functions of the unit for EVERY arm; model functions whose body
holds a literal are restated with the generated constant, for all arguments.  Which chrono function a unit uses
(`timestamp_millis`, `from_timestamp_micros`, …) is compared with the reading of chrono's API the model is built on
(`chronoTimestampMethod`, `chronoFromTimestamp`).
-/
namespace SaModel.Props.ConstGenTemporal
open SaModel SaModel.Codec SaModel.Generated

/-- marrow's `TimeUnit` constructors by name -/
def unitOfName : String → Option TimeUnit
  | "Second" => some .second
  | "Millisecond" => some .millisecond
  | "Microsecond" => some .microsecond
  | "Nanosecond" => some .nanosecond
  | _ => none

/-! ### chrono.rs: spans -/

/-- `build_duration`: `nanoseconds_per_unit` of every arm is the model's `TimeUnit.nsPer` (four arms, one per unit: the
translator refuses anything else) -/
theorem gen_nanoseconds_per_unit :
    ConstantsTemporal.nanosecondsPerUnit.all (fun e => match unitOfName e.1 with
      | some u => u.nsPer == e.2
      | none => false) = true ∧ ConstantsTemporal.nanosecondsPerUnit.length = 4 := by decide +kernel

/-- `build_duration` with the constants of the source: `(second_value * 1_000_000_000 + nanosecond_value) /
nanoseconds_per_unit`, negated for the sign character of the source -/
theorem gen_build_duration (sign : Option Char) (secondValue nanosecondValue : Nat) (unit : TimeUnit) :
    buildDuration sign secondValue nanosecondValue unit =
      (let unsignedDuration : Int := ((secondValue * ConstantsTemporal.nanosecondsPerSecond + nanosecondValue) / unit.nsPer : Nat)
       let duration := if sign = some ConstantsTemporal.negativeSign then -unsignedDuration else unsignedDuration
       if inI64 duration then .ok duration else fail "Cannot represent the span with the requested resolution") := rfl

example : buildDuration (some '-') 90 500000000 .millisecond = .ok (-90500) := by decide +kernel

/-- seconds per span component: the product of the factors the source multiplies it with -/
def secondsPer (component : String) : Nat :=
  ((ConstantsTemporal.secondValueFactors.lookup component).getD [0]).foldl (· * ·) 1

/-- `get_second_value` has exactly the five components, in the order week, day, hour, minute, second -/
theorem gen_second_value_components :
    ConstantsTemporal.secondValueFactors.map Prod.fst = ["week", "day", "hour", "minute", "second"] := by decide +kernel

theorem secondsPer_values :
    secondsPer "week" = 604800 ∧ secondsPer "day" = 86400 ∧ secondsPer "hour" = 3600 ∧ secondsPer "minute" = 60 ∧
    secondsPer "second" = 1 := by decide +kernel

/-- `get_second_value` of the model, for every span, is the sum of the components weighted with the factors of the source -/
theorem gen_second_value (sp : Span) :
    sp.getSecondValue = (do
      let w ← getOptionalDigitValue sp.week
      let d ← getOptionalDigitValue sp.day
      let h ← getOptionalDigitValue sp.hour
      let m ← getOptionalDigitValue sp.minute
      let s ← getOptionalDigitValue sp.second
      pure (w * secondsPer "week" + d * secondsPer "day" + h * secondsPer "hour" + m * secondsPer "minute" + s * secondsPer "second")) := by
  obtain ⟨e1, e2, e3, e4, e5⟩ := secondsPer_values
  rw [e1, e2, e3, e4, e5]
  simp only [Span.getSecondValue, Nat.mul_assoc, Nat.reduceMul, Nat.mul_one]

/-- `get_nanosecond_value`: `subsecond.get(..9)`, `value * 10.pow(9 - len)` -/
theorem gen_nanosecond_value (sp : Span) :
    sp.getNanosecondValue =
      match sp.subsecond with
      | none => .ok 0
      | some ds =>
        let ds := ds.take ConstantsTemporal.subsecondDigitsKept
        .ok (digitsVal ds * ConstantsTemporal.subsecondScale.1 ^ (ConstantsTemporal.subsecondScale.2 - ds.length)) := rfl

/-- digits after the decimal point printed per unit (`{subsecond:03}` …) -/
def padWidth : TimeUnit → Nat
  | .second => 0 | .millisecond => 3 | .microsecond => 6 | .nanosecond => 9

/-- `format_arrow_duration_as_span`: per unit the format string and the divisor / modulus are those of the model: `value`
itself for seconds, else `value / perSec`, `value % perSec` printed with `padWidth` digits -/
theorem gen_span_formats :
    ConstantsTemporal.spanFormats.all (fun e => match unitOfName e.1 with
      | some .second => e.2.1 == "{sign}PT{value}s" && e.2.2 == []
      | some u => e.2.1 == "{sign}PT{second}.{subsecond:0" ++ toString (padWidth u) ++ "}s" && e.2.2 == [u.perSec, u.perSec]
      | none => false) = true ∧ ConstantsTemporal.spanFormats.length = 4 := by decide +kernel

theorem formatMagnitude_model (value : Nat) (unit : TimeUnit) :
    formatMagnitude value unit =
      match unit with
      | .second => "PT".toList ++ natDigits value ++ ['s']
      | u => "PT".toList ++ natDigits (value / u.perSec) ++ ['.'] ++ padDigits (padWidth u) (value % u.perSec) ++ ['s'] := by
  cases unit <;> rfl

example : formatArrowDurationAsSpan (-1500) .millisecond = "-PT1.500s".toList := by simp only [SaModel.Lemmas.C09.toList_eq_charsOf]; decide +kernel

/-! ### time_builder.rs / time_deserializer.rs -/

/-- `(seconds_factor, nanoseconds_factor)` of every arm is `(perSec, nsPer)` of the model -/
theorem gen_time_builder_factors :
    ConstantsTemporal.timeBuilderFactors.all (fun e => match unitOfName e.1 with
      | some u => u.perSec == e.2.1 && u.nsPer == e.2.2
      | none => false) = true ∧ ConstantsTemporal.timeBuilderFactors.length = 4 ∧
    ConstantsTemporal.timeBuilderFormula =
      "i64::from(time.num_seconds_from_midnight()) * seconds_factor + i64::from(time.nanosecond()) / nanoseconds_factor" := by
  decide +kernel

/-- the model's formula for the text above -/
theorem timeToUnits_model (u : TimeUnit) (secs nanos : Nat) : timeToUnits u secs nanos = secs * u.perSec + nanos / u.nsPer := rfl

/-- the leap second test `time.nanosecond() >= 1_000_000_000` -/
theorem gen_leap_second_op : ConstantsTemporal.leapSecondTest.1 = ">=" := by decide +kernel

theorem gen_leap_second (ty : TimeTy) (u : TimeUnit) (s : List Char) :
    timeOfString ty u s = (do
      let (secs, nanos) ← parseNaiveTime s
      if nanos ≥ ConstantsTemporal.leapSecondTest.2 then fail "Cannot represent the leap second as a time since midnight" else
      let v : Int := timeToUnits u secs nanos
      if ty.inRange v then .ok v else fail "TryFromIntError") := rfl

example : timeOfString .time32 .second "23:59:60".toList = fail "Cannot represent the leap second as a time since midnight" := by
  simp only [SaModel.Lemmas.C09.toList_eq_charsOf]; decide +kernel

/-- the reader: `(ts, 0)` for seconds, `(ts / perSec, (ts % perSec) * nsPer)` for milli- and microseconds,
`(ts / perSec, ts % perSec)` for nanoseconds (where `nsPer = 1`) -/
theorem gen_time_reader_arms :
    ConstantsTemporal.timeReaderArms.all (fun e => match unitOfName e.1 with
      | some .second => e.2.1 == "(ts, 0)" && e.2.2 == []
      | some .nanosecond => e.2.1 == "(ts / A, ts % B)" && e.2.2 == [TimeUnit.nanosecond.perSec, TimeUnit.nanosecond.perSec]
      | some u => e.2.1 == "(ts / A, (ts % B) * C)" && e.2.2 == [u.perSec, u.perSec, u.nsPer]
      | none => false) = true ∧ ConstantsTemporal.timeReaderArms.length = 4 := by decide +kernel

/-- the model's reading of these arms (for a value in range; the range test is `u32::try_from` and chrono's) -/
theorem unitsToTime_model (u : TimeUnit) (ts : Int) (h : 0 ≤ ts ∧ ts < 86400 * (u.perSec : Int)) :
    unitsToTime u ts = some (ts.toNat / u.perSec, (ts.toNat % u.perSec) * u.nsPer) := by
  simp [unitsToTime, h]

theorem unitsToTime_second (ts : Int) (h : 0 ≤ ts ∧ ts < 86400) : unitsToTime .second ts = some (ts.toNat, 0) := by
  have h' : 0 ≤ ts ∧ ts < 86400 * ((TimeUnit.second.perSec : Nat) : Int) := by simpa [TimeUnit.perSec] using h
  rw [unitsToTime_model _ _ h']
  simp [TimeUnit.perSec, TimeUnit.nsPer, Nat.mod_one]

example : unitsToTime .millisecond 1500 = some (1, 500000000) := by decide +kernel

/-! ### timestamp_builder.rs / timestamp_deserializer.rs -/

/-- the reading of chrono's API the model is built on: which method of `DateTime<Utc>` gives the value in the unit, and
whether the crate takes it unchecked (`Ok(..)`) or checked (`timestamp_nanos_opt`, `None` ↦ error) -/
def chronoTimestampMethod : TimeUnit → String × String
  | .second => ("timestamp", "Ok")
  | .millisecond => ("timestamp_millis", "Ok")
  | .microsecond => ("timestamp_micros", "Ok")
  | .nanosecond => ("timestamp_nanos_opt", "Some=>Ok,_=>fail")

theorem gen_timestamp_builder_methods :
    ConstantsTemporal.timestampBuilderMethods.all (fun e => match unitOfName e.1 with
      | some u => decide ((e.2.1, e.2.2) = chronoTimestampMethod u)
      | none => false) = true ∧ ConstantsTemporal.timestampBuilderMethods.length = 4 := by decide +kernel

/-- the model's value of these methods: whole seconds for `timestamp()`, else seconds · perSec + nanoseconds / nsPer; only
the nanosecond arm is checked (an error), the others unwind outside i64 (chrono panics) -/
theorem instantToUnits_model (u : TimeUnit) (t : Instant) :
    instantToUnits u t =
      if inI64 (instantUnitsValue u t) then .ok (instantUnitsValue u t)
      else match (chronoTimestampMethod u).2 with
        | "Ok" => panic "chrono timestamp_millis / timestamp_micros overflow"
        | _ => fail "Timestamp cannot be converted to nanoseconds" := by
  cases u <;> rfl

/-- reader: `from_timestamp(ts, 0)`, `from_timestamp_millis(ts)`, `from_timestamp_micros(ts)` (all `Option`) and the total
`from_timestamp_nanos(ts)` -/
def chronoFromTimestamp : TimeUnit → String × String × String
  | .second => ("from_timestamp", "(ts, 0)", "Option")
  | .millisecond => ("from_timestamp_millis", "(ts)", "Option")
  | .microsecond => ("from_timestamp_micros", "(ts)", "Option")
  | .nanosecond => ("from_timestamp_nanos", "(ts)", "Some")

theorem gen_timestamp_reader_functions :
    ConstantsTemporal.timestampReaderFunctions.all (fun e => match unitOfName e.1 with
      | some u => decide (e.2 = chronoFromTimestamp u)
      | none => false) = true ∧ ConstantsTemporal.timestampReaderFunctions.length = 4 := by decide +kernel

/-! ### date_builder.rs / date_deserializer.rs -/

/-- the column type of a `DatePrimitive` implementation: by integer type and by `DATA_TYPE_NAME` -/
def dateTyOf : String → String → Option DateTy
  | "i32", "Date32" => some .date32
  | "i64", "Date64" => some .date64
  | _, _ => none

/-- `DAY_TO_VALUE_FACTOR` of both implementations, on both sides, is the model's `DateTy.factor`; `BITS` is the width of the
integer type -/
theorem gen_date_factors :
    ConstantsTemporal.dateBuilderImpls.all (fun e => match dateTyOf e.1 e.2.1 with
      | some d => decide (d.factor = (e.2.2 : Int))
      | none => false) = true ∧ ConstantsTemporal.dateBuilderImpls.length = 2 ∧
    ConstantsTemporal.dateReaderImpls.all (fun e => match dateTyOf e.1 e.2.1 with
      | some d => decide (d.factor = (e.2.2.1 : Int)) && decide (e.1 = "i" ++ toString e.2.2.2)
      | none => false) = true ∧ ConstantsTemporal.dateReaderImpls.length = 2 := by decide +kernel

/-- the builder multiplies the day number, the reader divides rounding toward negative infinity (`div_euclid` by a positive
factor = `Int` `/` of the model) -/
theorem gen_date_formulas :
    ConstantsTemporal.dateBuilderFormula = "days_since_epoch * I::DAY_TO_VALUE_FACTOR" ∧
    ConstantsTemporal.dateReaderDivision = "div_euclid" := by decide +kernel

theorem dateToString_model (ty : DateTy) (v : Int) :
    dateToString ty v = (let days := v / ty.factor
      if inChronoDays days then .ok (formatDays days) else fail "Unsupported date value") := rfl

example : dateToString .date64 (-1) = .ok "1969-12-31".toList := by simp only [SaModel.Lemmas.C09.toList_eq_charsOf]; decide +kernel

end SaModel.Props.ConstGenTemporal
