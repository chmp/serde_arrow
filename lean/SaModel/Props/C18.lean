import SaModel.Build.Finish
import SaModel.Lemmas.C18Assembled
import SaModel.Lemmas.C18AnnRel
import SaModel.Lemmas.C18ReadNoCtx
import SaModel.Lemmas.C18OwnPush
/-
C18 — every conversion error names the field that caused it (builder half, then reader half).
Errors carry annotations exactly as `ContextSupport::ctx` builds them: a context annotates only an error that
carries no annotations yet, so the innermost builder that wraps a failure wins.
-/
namespace SaModel.Props.C18
open SaModel SaModel.Build SaModel.Read

/-- a context never changes a success (`ctx_ok`) or an error that is already annotated (`ctx_errCtx`) -/
theorem ctx_ok {α} (ann : List (String × String)) (r : R α) (v : α) : ctx ann r = .ok v ↔ r = .ok v :=
  ctx_eq_ok ann r v

theorem ctx_errCtx {α} (ann : List (String × String)) (msg : String) (a : List (String × String)) :
    ctx ann (.error (.errCtx msg a) : R α) = .error (.errCtx msg a) := by
  simp [ctx]

/-- **innermost wins**: annotating twice keeps the inner annotation -/
theorem ctx_ctx {α} (outer inner : List (String × String)) (h : inner ≠ []) (r : R α) :
    ctx outer (ctx inner r) = ctx inner r := by
  unfold ctx
  cases r with
  | ok v => rfl
  | error e =>
    cases e with
    | err msg => simp [h]
    | panic s => rfl
    | errCtx msg a => rfl

/-- with a non-empty context, what comes out is never an un-annotated error -/
theorem ctx_not_plain {α} (ann : List (String × String)) (h : ann ≠ []) (r : R α) (msg : String) :
    ctx ann r ≠ .error (.err msg) :=
  ctx_never_plain (by cases ann <;> simp_all) r msg

/-- the annotation a plain failure receives is exactly the context's -/
theorem ctx_plain {α} (ann : List (String × String)) (h : ann ≠ []) (msg : String) :
    ctx ann (fail msg : R α) = .error (.errCtx msg ann) := by
  simp [ctx, fail, h]

/-- every builder's context has the two keys, `field` = its path and `data_type` = its label -/
theorem ann_keys (b : B) : b.ann.lookup "field" = some b.path ∧ b.ann.lookup "data_type" = some b.label := by
  constructor <;> rfl

theorem ann_ne_nil (b : B) : b.ann ≠ [] := by simp [B.ann]

/-- `serialize_none` never returns an un-annotated error -/
theorem pushNone_not_plain (b : B) (msg : String) : pushNone b ≠ .error (.err msg) :=
  pushNone_never_plain b msg

/-- **Every error `push` returns is annotated** (or is a panic, which C16 excludes): there is no serde call on
any builder whose failure reaches the caller without `field` / `data_type`. (`push_never_plain`,
Lemmas/C18OwnPlain.lean: by structural recursion over the serde value; the `Some` / newtype layers are the only arms
that are not wrapped directly.) -/
theorem push_not_plain (ext : Ext) : ∀ (x : SVal) (b : B) (msg : String), push ext b x ≠ .error (.err msg) :=
  push_never_plain ext

/-- a scalar that the column cannot take is blamed on exactly that column: path and label of the leaf -/
theorem leaf_error_names_leaf (ext : Ext) (p : String) (k : LeafKind) (v : Validity) (vals : List Int)
    (t : IntTy) (x : Int) (msg : String) (h : convLeaf ext k (.int t x) = .error (.err msg)) :
    push ext (.leaf p k v vals) (.int t x) = .error (.errCtx msg (B.leaf p k v vals).ann) := by
  rw [push]
  simp only [pushScalar, h, bind, Except.bind]
  simp [ctx, B.ann]

/-! ## path assembly (builder half)

`segsDT dt md` (Lemmas/C18Paths.lean) lists the positions of a schema as lists of child names, with the Rust
conventions (struct child: raw name; list / map / union children through `ChildName`, i.e. `<empty>` for the empty
name; map children below the entries name; dictionary `key` / `value`), `render root segs` joins them with `.`
below `root`, `positions b` reads the (path, label) pairs off a builder tree. -/

/-- **paths_assembled.** For every schema, every builder of the tree `build_builder` creates at `path` stores
`path` followed by the `.`-joined child names that lead to it, and is of the family (label) the data type there
asks for — all positions of the schema, in schema order, nothing else.  By induction over the successful build
(`newDT_positions_all`, Lemmas/C18Assembled.lean, an instance of `Build.newDT_induct`). -/
theorem paths_assembled (dt : DataType) (path : String) (nullable : Bool) (md : Metadata) (b : B)
    (h : newDT path dt nullable md = .ok b) :
    positions b = (segsDT dt md).map fun q => (render path q.1, q.2) :=
  newDT_positions dt path nullable md b h

/-- the root builder of `OuterSequenceBuilder::new`: the paths are `$`-rooted -/
theorem paths_assembled_root (fields : List Field) (root : B) (h : newRoot fields = .ok root) :
    positions root = (segsDT (.struct (Fields.ofList fields)) []).map fun q => (render "$" q.1, q.2) :=
  newRoot_positions h

/-- in particular the builder itself sits at `path` … -/
theorem newDT_path (dt : DataType) (path : String) (nullable : Bool) (md : Metadata) (b : B)
    (h : newDT path dt nullable md = .ok b) : b.path = path :=
  newDT_path' dt path nullable md b h

/-- … and every builder below it sits at `path` extended by child names of the schema: never at a sibling of
`path`, never outside -/
theorem positions_below (dt : DataType) (path : String) (nullable : Bool) (md : Metadata) (b : B)
    (h : newDT path dt nullable md = .ok b) (q : Pos) (hq : q ∈ positions b) :
    ∃ segs, (segs, q.2) ∈ segsDT dt md ∧ q.1 = render path segs := by
  rw [paths_assembled dt path nullable md b h, List.mem_map] at hq
  obtain ⟨s, hs, rfl⟩ := hq
  exact ⟨s.1, hs, rfl⟩

/-- non-vacuity: `{orders: List<element: Struct{price: Int32, "": Utf8}>, m: Map<entries: {key: Utf8, value: Dictionary<Int8, Utf8>}>}`.
The empty struct child name is shown raw (`$.orders.element.`), as `build_struct` does. -/
example :
    (do let root ← newRoot [
          .mk "orders" (.list (.mk "element" (.struct (.cons (.mk "price" .int32 false [])
            (.cons (.mk "" .utf8 true []) .nil))) false [])) false [],
          .mk "m" (.map (.mk "" (.struct (.cons (.mk "key" .utf8 false [])
            (.cons (.mk "value" (.dictionary .int8 .utf8) true []) .nil))) false []) false) false []]
        pure (positions root)) =
      .ok [("$", "Struct(..)"), ("$.orders", "List"), ("$.orders.element", "Struct(..)"),
        ("$.orders.element.price", "Int32"), ("$.orders.element.", "Utf8"),
        ("$.m", "Map(..)"), ("$.m.<empty>.key", "Utf8"), ("$.m.<empty>.value", "Dictionary(..)"),
        ("$.m.<empty>.value.key", "Int8"), ("$.m.<empty>.value.value", "Utf8")] := by decide +kernel

/-! ## where an error of `push` can point (builder half)

`ExtPlain ext`: the functions of other crates the builders call (date / time / decimal parsers, float formatting)
return plain errors — they cannot know serde_arrow's annotations.  `ExtPlain {}` holds for the default `Ext`. -/

/-- **push_error_position.** For every builder family, every builder state and every serde value: an annotated
error `push` returns carries exactly the annotation (`field` = path, `data_type` = label) of one builder of the
subtree of `b` — `b` itself or a builder below it; never a sibling, never one outside.  (With `push_not_plain`:
every error is annotated, so every `Err` of `push` names such a builder.) -/
theorem push_error_position (ext : Ext) [ExtPlain ext] (x : SVal) (b : B) (msg : String) (ann : List (String × String))
    (h : push ext b x = .error (.errCtx msg ann)) :
    ∃ q ∈ positions b, ann = [("data_type", q.2), ("field", q.1)] :=
  push_within ext x b msg ann h

/-- rows pushed successfully do not move any builder: the positions are those of the fresh tree -/
theorem foldl_push_positions (ext : Ext) : ∀ (rows : List SVal) (b0 b : B), rows.foldlM (push ext) b0 = .ok b →
    positions b = positions b0 :=
  fun rows b0 b h => positions_of_takeRest (foldlM_push_takeRest ext rows b0 b h)

/-! ## the blamed builder is the one whose OWN step failed (builder half, `innermost`, without completeness)

Vocabulary (Lemmas/C18Own.lean): a `Call` is what a builder is asked to do (`.val x`: `x.serialize(Mut(b))`; `.default k`:
`k` × `serialize_default`); `callBody ext b c` is the code of `b` for `c` WITHOUT its own `.ctx(self)` wrapper, the calls
into the children being the real, wrapped ones; `OwnFails ext b c msg`: that body returns the PLAIN error `msg` — since the
children never return plain errors (`push_not_plain`), the error is raised by the code of `b` itself, not forwarded — or
`b` is a struct builder in a state `s` whose own `seen[idx]` check refuses a field (`Duplicate field`); `CallsOf x c`: the
call `c` is issued while `x` is serialized (a part of `x`, a call a builder synthesises from a part — `serialize_unit` /
tuple-struct / struct for the payload of a variant, a `u8` per byte — or a placeholder `serialize_none` /
`serialize_default` for what `x` leaves unfilled). -/

/-- the body copies are the bodies: every proper call is the wrapper around `callBody` -/
theorem push_is_wrapped_body (ext : Ext) (b : B) (x : SVal) (hs : ∀ v, x ≠ .some v) (hn : ∀ n v, x ≠ .newtypeStruct n v) :
    push ext b x = ctx b.ann (callBody ext b (.val x)) := push_eq_body ext b x hs hn

/-- an own failure is blamed on the builder itself -/
theorem own_failure_blames_self (ext : Ext) (b : B) (x : SVal) (msg : String) (hs : ∀ v, x ≠ .some v)
    (hn : ∀ n v, x ≠ .newtypeStruct n v) (h : callBody ext b (.val x) = .error (.err msg)) :
    push ext b x = .error (.errCtx msg b.ann) := by
  rw [push_eq_body ext b x hs hn]
  simp only [callBody] at h
  rw [h]; simp [ctx, B.ann]

/-- **push_error_deepest.** For every builder state and every serde value: an annotated error of `push ext b x` carries
the own annotation of a builder state `b'` of the subtree of `b` (all positions of `b'` are positions of `b`) whose OWN
step failed — `OwnFails ext b' c msg` with the very message of the error — on a call `c` issued while `x` is
serialized.  The error is never merely the forwarded error of a child of the blamed builder: this is the `innermost`
half of the blame property, stated operationally (no completeness of `push` w.r.t. the specification is needed). -/
theorem push_error_deepest (ext : Ext) [ExtPlain ext] (x : SVal) (b : B) (msg : String) (ann : List (String × String))
    (h : push ext b x = .error (.errCtx msg ann)) :
    ∃ (b' : B) (c : Call), ann = b'.ann ∧ (∀ q ∈ positions b', q ∈ positions b) ∧ CallsOf x c ∧ OwnFails ext b' c msg :=
  push_raised ext x b msg ann h

/-- **push_error_deepest, schema form**: a builder created by `build_builder` at `path` for type `dt`, after any
successfully pushed rows: the next error is a panic, or names the position `render path segs` of the schema, and the
builder at that position — in the state `b'` it has at that moment — failed in its own step on a call of `x` -/
theorem push_error_deepest_in_schema (ext : Ext) [ExtPlain ext] (dt : DataType) (path : String) (nullable : Bool) (md : Metadata)
    (b0 : B) (h0 : newDT path dt nullable md = .ok b0) (rows : List SVal) (b : B)
    (hb : rows.foldlM (push ext) b0 = .ok b) (x : SVal) (e : Fail) (h : push ext b x = .error e) :
    (∃ site, e = .panic site) ∨
    ∃ msg segs label b' c, (segs, label) ∈ segsDT dt md ∧
      e = .errCtx msg [("data_type", label), ("field", render path segs)] ∧
      b'.path = render path segs ∧ b'.label = label ∧ CallsOf x c ∧ OwnFails ext b' c msg := by
  cases e with
  | panic s => exact .inl ⟨s, rfl⟩
  | err msg => exact absurd h (push_not_plain ext x b msg)
  | errCtx msg ann =>
    obtain ⟨b', c, rfl, hsub, hc, ho⟩ := push_error_deepest ext x b msg ann h
    have hq := hsub _ (self_mem_positions b')
    rw [foldl_push_positions ext rows b0 b hb] at hq
    obtain ⟨segs, hs, hr⟩ := positions_below dt path nullable md b0 h0 _ hq
    have hr' : b'.path = render path segs := hr
    exact .inr ⟨msg, segs, b'.label, b', c, hs, by simp only [B.ann]; rw [hr'], hr', rfl, hc, ho⟩

/-- **push_error_position, schema form.** A builder created by `build_builder` at `path` for a field of type
`dt`, after any number of successfully pushed rows: an error of the next `push` names `path` extended by the child
names of a position of the schema (`segsDT`), and `data_type` is the label of the builder family at that position. -/
theorem push_error_in_schema (ext : Ext) [ExtPlain ext] (dt : DataType) (path : String) (nullable : Bool) (md : Metadata)
    (b0 : B) (h0 : newDT path dt nullable md = .ok b0) (rows : List SVal) (b : B)
    (hb : rows.foldlM (push ext) b0 = .ok b) (x : SVal) (e : Fail) (h : push ext b x = .error e) :
    (∃ site, e = .panic site) ∨
    ∃ msg segs label, (segs, label) ∈ segsDT dt md ∧
      e = .errCtx msg [("data_type", label), ("field", render path segs)] :=
  (push_error_deepest_in_schema ext dt path nullable md b0 h0 rows b hb x e h).imp id
    fun ⟨msg, segs, label, _, _, hs, he, _⟩ => ⟨msg, segs, label, hs, he⟩

/-- the same for the root builder of `to_marrow` / `ArrayBuilder`: `$`-rooted paths of the record schema -/
theorem push_error_in_record (ext : Ext) [ExtPlain ext] (fields : List Field) (root0 : B) (h0 : newRoot fields = .ok root0)
    (rows : List SVal) (root : B) (hb : rows.foldlM (push ext) root0 = .ok root) (x : SVal) (e : Fail)
    (h : push ext root x = .error e) :
    (∃ site, e = .panic site) ∨
    ∃ msg segs label, (segs, label) ∈ segsDT (.struct (Fields.ofList fields)) [] ∧
      e = .errCtx msg [("data_type", label), ("field", render "$" segs)] :=
  push_error_in_schema ext (.struct (Fields.ofList fields)) "$" false [] root0 (by simpa [newRoot, newDT] using h0)
    rows root hb x e h

/-- non-vacuity: `{orders: List<element: Struct{price: Int32}>}`, one good row, then a row whose second order has a
string where the price should be: the error names `$.orders.element.price` / `Int32` — not `$.orders`, not `$` -/
example :
    (do let root ← newRoot [.mk "orders" (.list (.mk "element" (.struct (.cons (.mk "price" .int32 false []) .nil)) false [])) false []]
        let root ← push {} root (.record "R" (.cons "orders" 0 (.seq (.cons (.record "O" (.cons "price" 0 (.int .i32 5) .nil)) .nil)) .nil))
        push {} root (.record "R" (.cons "orders" 0 (.seq (.cons (.record "O" (.cons "price" 0 (.int .i32 6) .nil))
          (.cons (.record "O" (.cons "price" 0 (.str "seven") .nil)) .nil))) .nil))) =
      .error (.errCtx "serialize_str is not supported" [("data_type", "Int32"), ("field", "$.orders.element.price")]) := by
  decide +kernel

/-- non-vacuity (the example of `push_error_in_record`): the blamed builder is the `Int32` leaf below the list, in the
state after the two prices it accepted; its own step (`serialize_str` on an `Int32` builder) fails; and that call is
issued while the row is serialized -/
example :
    OwnFails {} (.leaf "$.orders.element.price" (.int .i32) none [5, 6]) (.val (.str "seven")) "serialize_str is not supported" ∧
    CallsOf (.record "R" (.cons "orders" 0 (.seq (.cons (.record "O" (.cons "price" 0 (.int .i32 6) .nil))
          (.cons (.record "O" (.cons "price" 0 (.str "seven") .nil)) .nil))) .nil)) (.val (.str "seven")) :=
  ⟨.body (by decide +kernel), .inl (.record (.head (.seq (.tail (.head (.record (.head (.self _))))))))⟩

/-- non-vacuity of the struct's own check: the same field twice -/
example :
    (do let root ← newRoot [.mk "a" .int32 false []]
        push {} root (.record "R" (.cons "a" 0 (.int .i32 1) (.cons "a" 0 (.int .i32 2) .nil)))) =
      .error (.errCtx "Duplicate field" [("data_type", "Struct(..)"), ("field", "$")]) := by decide +kernel

/-! ## reader half

Model: `SaModel/Read/Annot.lean` — the reads of `Read/Reader.lean` with the paths `ArrayDeserializer::new`
assembles and the `.ctx(self)` wrappers of every reader.  `AnnFixes.all` is the code after the two `fix:` commits
of this property (EnumDeserializer::deserialize_enum and FixedSizeListDeserializer::deserialize_seq had no
wrapper), `AnnFixes.pinned` the tree before them. -/

/-- **paths_assembled, readers.** The reader tree `ArrayDeserializer::new(path, _, view)` builds has one reader per
position of the view's type (`segsArr`: child names through `ChildName`, map children below the entries name, no
child readers below a dictionary), each at `path` followed by the `.`-joined child names, labelled with the family
of the view there.  By recursion over the view. -/
theorem reader_paths_assembled (a : Arr) (path : String) :
    rpositions path a = (segsArr a).map fun q => (render path q.1, q.2) :=
  rpositions_eq a path

/-- **read_not_plain.** No `deserialize_any` and no typed read (any target shape, any view, any row) returns an
error without annotations. -/
theorem read_not_plain (fx : Fixes) (t : Target) (p : String) (a : Arr) (idx : Nat) (msg : String) :
    readAnyA fx p a idx ≠ .error (.err msg) ∧ readAsA AnnFixes.all fx p t a idx ≠ .error (.err msg) :=
  ⟨readAnyA_not_plain fx p a idx msg, readAsA_not_plain fx t p a idx msg⟩

/-- **read_error_position.** Every annotated error a read of the reader at `p` returns carries `field` = the path
and `data_type` = the label of a reader of its own subtree: the reader itself or one below it, never a sibling,
never one outside.  (Holds before the fixes as well: what the pinned tree gets wrong is *which* reader of the
path — see `pinned_union_blames_ancestor`.) -/
theorem read_error_position (af : AnnFixes) (fx : Fixes) (t : Target) (p : String) (a : Arr) (idx : Nat)
    (msg : String) (ann : List (String × String)) :
    (readAnyA fx p a idx = .error (.errCtx msg ann) → ∃ q ∈ rpositions p a, ann = [("data_type", q.2), ("field", q.1)]) ∧
    (readAsA af fx p t a idx = .error (.errCtx msg ann) → ∃ q ∈ rpositions p a, ann = [("data_type", q.2), ("field", q.1)]) :=
  ⟨readAnyA_within fx a p idx msg ann, readAsA_within af fx t p a idx msg ann⟩

/-- a union column `c` holding variant `f0`, read into an enum that has no such variant -/
def exUnion : Arr := .union [0] (some [0]) (.cons 0 ⟨"f0", false, []⟩ (.prim .int32 none [7]) .nil)
def exUnionTarget : Target := .struct (.cons "c" (.enum false (.cons "x" (.newtype .any) .nil)) .nil)

/-- the code that exists blames the union column … -/
theorem fixed_union_blames_union :
    readRecordA AnnFixes.all Fixes.all exUnionTarget ⟨"c", false, []⟩ exUnion 0 =
      some (.error (.errCtx "unknown variant" [("data_type", "Union(..)"), ("field", "$.c")])) := by decide +kernel

/-- … the pinned tree only names the root (an ancestor): the C18 violation repaired by
`fix: EnumDeserializer annotates the errors of deserialize_enum …` -/
theorem pinned_union_blames_ancestor :
    readRecordA AnnFixes.pinned Fixes.all exUnionTarget ⟨"c", false, []⟩ exUnion 0 =
      some (.error (.errCtx "unknown variant" [("data_type", "Struct(..)"), ("field", "$")])) := by decide +kernel

/-- a struct column whose fixed-size-list child is shorter than the struct (row 1 does not exist in the child) -/
def exFsl : Arr := .struct 2 none (.cons ⟨"x", false, []⟩
  (.fixedSizeList 1 none 2 ⟨"item", false, []⟩ (.prim .int32 none [1, 2])) .nil)
def exFslTarget : Target := .struct (.cons "c" (.struct (.cons "x" (.seq .any) .nil)) .nil)

theorem fixed_fsl_blames_list :
    readRecordA AnnFixes.all Fixes.all exFslTarget ⟨"c", false, []⟩ exFsl 1 =
      some (.error (.errCtx "Out of bounds access" [("data_type", "FixedSizeList(..)"), ("field", "$.c.x")])) := by decide +kernel

/-- pinned: blamed on the enclosing struct column (`fix: FixedSizeListDeserializer annotates the errors of
deserialize_seq …`) -/
theorem pinned_fsl_blames_ancestor :
    readRecordA AnnFixes.pinned Fixes.all exFslTarget ⟨"c", false, []⟩ exFsl 1 =
      some (.error (.errCtx "Out of bounds access" [("data_type", "Struct(..)"), ("field", "$.c")])) := by decide +kernel

/-! ### erasure: the annotated reader model IS the reader model of C02 / C12 / C17, plus annotations

`eraseAnn` (Read/Annot.lean) forgets the annotation of an annotated error and keeps everything else: the value of a
success, the site of a panic, the message of an error.  For every `AnnFixes` (with or without the two C18 wrappers),
every `Fixes`, every target, every path and every view — consistent or not — the annotated read erases to the
un-annotated read of `Read/Reader.lean`, the function `read_typed_decode` (C02), `readAs_no_panic` /
`readAs_touch_in_range` (C17) and the C12 theorems are about.  (The un-annotated model returns no annotated error —
`readAs_noctx` — so the right-hand side needs no `eraseAnn`; the form `eraseAnn _ = eraseAnn _` follows.) -/

/-- **eraseAnn_readAnyA**: `deserialize_any` -/
theorem eraseAnn_readAnyA (fx : Fixes) (p : String) (a : Arr) (idx : Nat) :
    eraseAnn (readAnyA fx p a idx) = readAny fx a idx := by
  rw [readAnyA_erase fx a p idx, eraseAnn_noctx]

/-- **eraseAnn_readAsA**: the typed reads (`readAsA_erase`: the instance `annRel_erase` of the one walk over the annotated
readers, Lemmas/C18AnnRel.lean) -/
theorem eraseAnn_readAsA (af : AnnFixes) (fx : Fixes) (t : Target) (p : String) (a : Arr) (idx : Nat) :
    eraseAnn (readAsA af fx p t a idx) = readAs fx t a idx := by
  rw [readAsA_erase af fx t p a idx, eraseAnn_noctx]

theorem eraseAnn_readAsA' (t : Target) (p : String) (a : Arr) (idx : Nat) :
    eraseAnn (readAsA AnnFixes.all Fixes.all p t a idx) = eraseAnn (readAs Fixes.all t a idx) :=
  readAsA_erase _ _ t p a idx

/-- **eraseAnn_readRecordA**: the record level (`Deserializer::get(idx)` + `T::deserialize`) -/
theorem eraseAnn_readRecordA (af : AnnFixes) (fx : Fixes) (t : Target) (fm : FieldMeta) (col : Arr) (idx : Nat) :
    (readRecordA af fx t fm col idx).map eraseAnn = readRecord fx t fm col idx := by
  unfold readRecordA readRecord
  split
  · rfl
  · simp only [Option.map_some, eraseAnn_readAsA]

/-- transfer, successes: the annotated read returns `v` exactly when the un-annotated one does -/
theorem readAsA_ok_iff (af : AnnFixes) (fx : Fixes) (t : Target) (p : String) (a : Arr) (idx : Nat) (v : DVal) :
    readAsA af fx p t a idx = .ok v ↔ readAs fx t a idx = .ok v := by
  rw [← eraseAnn_readAsA af fx t p a idx, eraseAnn_eq_ok]

/-- transfer, panics: same panic sites -/
theorem readAsA_panic_iff (af : AnnFixes) (fx : Fixes) (t : Target) (p : String) (a : Arr) (idx : Nat) (s : String) :
    readAsA af fx p t a idx = .error (.panic s) ↔ readAs fx t a idx = .error (.panic s) := by
  rw [← eraseAnn_readAsA af fx t p a idx, eraseAnn_eq_panic]

/-- transfer, errors: with the code that exists, the un-annotated read fails with `msg` exactly when the annotated one
fails with `msg` and some annotation (which `read_error_position` locates) -/
theorem readAsA_err_iff (fx : Fixes) (t : Target) (p : String) (a : Arr) (idx : Nat) (msg : String) :
    (∃ ann, readAsA AnnFixes.all fx p t a idx = .error (.errCtx msg ann)) ↔ readAs fx t a idx = .error (.err msg) := by
  rw [← eraseAnn_readAsA AnnFixes.all fx t p a idx, eraseAnn_eq_err]
  exact ⟨.inr, fun h => h.resolve_left (readAsA_not_plain fx t p a idx msg)⟩

/-- non-vacuity: a read that fails two readers below the root — the annotated model names `$.c.x`, the un-annotated
one returns the same message -/
example :
    readRecordA AnnFixes.all Fixes.all exFslTarget ⟨"c", false, []⟩ exFsl 1 =
      some (.error (.errCtx "Out of bounds access" [("data_type", "FixedSizeList(..)"), ("field", "$.c.x")])) ∧
    readRecord Fixes.all exFslTarget ⟨"c", false, []⟩ exFsl 1 = some (.error (.err "Out of bounds access")) :=
  -- the witness `fixed_fsl_blames_list`, and its erasure (`eraseAnn_readRecordA`): the reader is not run again
  ⟨fixed_fsl_blames_list, by rw [← eraseAnn_readRecordA AnnFixes.all, fixed_fsl_blames_list]; rfl⟩

/-! ### the blamed reader is the one whose OWN step failed (reader-side blame, operational form)

Vocabulary (Lemmas/C18OwnRead.lean): an `RCall` is what a reader is asked (`deserialize_any`, or the typed read a target
issues); `rBody af fx p c a idx` is the code of the reader of the view `a` at path `p` for that call at row `idx` WITHOUT
its own `.ctx(self)` wrapper, the reads of the child readers being the real, wrapped ones; `OwnFailsR af fx p a c idx msg`:
that body returns the PLAIN error `msg`.  With the code that exists child reads never return plain errors
(`read_not_plain`), so a plain error of the body is raised by the reader's own code (bounds / offset / type-id checks,
the visitor refusing the value, an unsupported method), not forwarded from a child reader. -/

/-- the body copies are the bodies: `deserialize_any` is the wrapper around `anyBody` … -/
theorem readAnyA_is_wrapped_body (fx : Fixes) (p : String) (a : Arr) (idx : Nat) :
    readAnyA fx p a idx = ctx (rann p a) (rBody AnnFixes.all fx p .any a idx) := readAnyA_eq_body fx p a idx

/-- … and every typed read that is not transparent (`any`, `IgnoredAny`, newtype) is the wrapper around `asBody` -/
theorem readAsA_is_wrapped_body (fx : Fixes) (t : Target) (p : String) (a : Arr) (idx : Nat)
    (h1 : t ≠ .any) (h2 : t ≠ .ignored) (h3 : ∀ t', t ≠ .newtype t') :
    readAsA AnnFixes.all fx p t a idx = ctx (rann p a) (rBody AnnFixes.all fx p (.as t) a idx) :=
  readAsA_eq_body fx t p a idx h1 h2 h3

/-- an own failure is blamed on the reader itself -/
theorem own_failure_blames_reader (fx : Fixes) (t : Target) (p : String) (a : Arr) (idx : Nat) (msg : String)
    (h1 : t ≠ .any) (h2 : t ≠ .ignored) (h3 : ∀ t', t ≠ .newtype t')
    (h : OwnFailsR AnnFixes.all fx p a (.as t) idx msg) :
    readAsA AnnFixes.all fx p t a idx = .error (.errCtx msg (rann p a)) := by
  rw [readAsA_is_wrapped_body fx t p a idx h1 h2 h3, h]; simp [ctx, rann]

/-- **read_error_deepest.** Every annotated error of `deserialize_any` or of a typed read (any target, any path, any
view, any row) carries the annotation `rann p' a'` of a reader of the subtree — all positions of the reader of `a'` at
`p'` are positions of the reader read from — whose OWN step failed with the very message of the error, on some call at
some row: never merely the forwarded error of a child reader. -/
theorem read_error_deepest (fx : Fixes) (t : Target) (p : String) (a : Arr) (idx : Nat) (msg : String)
    (ann : List (String × String)) :
    (readAnyA fx p a idx = .error (.errCtx msg ann) →
      ∃ p' a' c idx', ann = rann p' a' ∧ (∀ q ∈ rpositions p' a', q ∈ rpositions p a) ∧
        OwnFailsR AnnFixes.all fx p' a' c idx' msg) ∧
    (readAsA AnnFixes.all fx p t a idx = .error (.errCtx msg ann) →
      ∃ p' a' c idx', ann = rann p' a' ∧ (∀ q ∈ rpositions p' a', q ∈ rpositions p a) ∧
        OwnFailsR AnnFixes.all fx p' a' c idx' msg) :=
  ⟨readAnyA_raisedR AnnFixes.all fx a p idx msg ann, readAsA_raisedR AnnFixes.all fx t p a idx msg ann⟩

/-- the record level: an error of `Deserializer::get(idx)` + `T::deserialize` is a panic or the own failure of the root
reader `$` or of a reader below it -/
theorem readRecord_error_deepest (fx : Fixes) (t : Target) (fm : FieldMeta) (col : Arr) (idx : Nat) (e : Fail)
    (h : readRecordA AnnFixes.all fx t fm col idx = some (.error e)) :
    (∃ site, e = .panic site) ∨ ∃ msg p' a' c idx', e = .errCtx msg (rann p' a') ∧
      (∀ q ∈ rpositions p' a', q ∈ rpositions "$" (record fm col)) ∧ OwnFailsR AnnFixes.all fx p' a' c idx' msg := by
  have h := (readRecordA_some.mp h).2.symm
  cases e with
  | panic s => exact .inl ⟨s, rfl⟩
  | err msg => exact absurd h (readAsA_not_plain fx t _ _ idx msg)
  | errCtx msg ann =>
    obtain ⟨p', a', c, i', rfl, hs, ho⟩ := readAsA_raisedR AnnFixes.all fx t "$" _ idx msg ann h
    exact .inr ⟨msg, p', a', c, i', rfl, hs, ho⟩

/-- the record level (`Deserializer::get(idx)` + `T::deserialize`): an error is always annotated, and names `$` or
a reader below `$.<column>` with that reader's label -/
theorem readRecord_error_position (fx : Fixes) (t : Target) (fm : FieldMeta) (col : Arr) (idx : Nat) (e : Fail)
    (h : readRecordA AnnFixes.all fx t fm col idx = some (.error e)) :
    (∃ site, e = .panic site) ∨ ∃ msg q, e = .errCtx msg [("data_type", q.2), ("field", q.1)] ∧
      (q = ("$", "Struct(..)") ∨ q ∈ rpositions ("$." ++ rchildName fm.name) col) := by
  refine (readRecord_error_deepest fx t fm col idx e h).imp id ?_
  rintro ⟨msg, p', a', _, _, rfl, hs, _⟩
  refine ⟨msg, (p', rlabel a'), rfl, ?_⟩
  have hq := hs _ (self_mem_rpositions p' a')
  simp only [record, rpositions, rpositionsF, List.append_nil, List.mem_cons] at hq
  have e1 : rchild "$" fm.name = "$." ++ rchildName fm.name := by
    unfold rchild
    have : ("$" : String) ++ "." = "$." := by decide +kernel
    rw [this]
  exact hq.imp id (e1 ▸ ·)

/-- non-vacuity: the two witnesses above — the union reader's own variant lookup fails (`unknown variant`), the
fixed-size-list reader's own bounds check fails — and the errors of the record reads are exactly these readers' -/
example :
    OwnFailsR AnnFixes.all Fixes.all "$.c" exUnion (.as (.enum false (.cons "x" (.newtype .any) .nil))) 0 "unknown variant" ∧
    OwnFailsR AnnFixes.all Fixes.all "$.c.x" (.fixedSizeList 1 none 2 ⟨"item", false, []⟩ (.prim .int32 none [1, 2]))
      (.as (.seq .any)) 1 "Out of bounds access" := by
  constructor <;> (unfold OwnFailsR; decide +kernel)

/-- non-vacuity of `reader_paths_assembled` / `read_error_position`: a map column below a list -/
example :
    rpositions "$.c" (.list false none [0, 1] ⟨"", true, []⟩
      (.map none [0, 1] ⟨"entries", false, ⟨"key", false, []⟩, ⟨"", true, []⟩⟩
        (.bytes .utf8 none [0, 1] [97]) (.dictionary (.prim .int8 none [0]) (.bytes .utf8 none [0, 1] [98])))) =
      [("$.c", "List(..)"), ("$.c.<empty>", "Map(..)"), ("$.c.<empty>.entries.key", "Utf8"),
       ("$.c.<empty>.entries.<empty>", "Dictionary(..)")] := by decide +kernel

end SaModel.Props.C18
