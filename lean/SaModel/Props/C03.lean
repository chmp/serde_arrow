import SaModel.Build.Dec
import SaModel.Spec.WF
import SaModel.Lemmas.C03ObsFinish
import SaModel.Lemmas.C03WFMain
import SaModel.Lemmas.C03New
import SaModel.Lemmas.C03Shape
import SaModel.Lemmas.C03Faithful
import SaModel.Lemmas.Utf8
import SaModel.Lemmas.C03PXNew
import SaModel.Lemmas.C03Final
import SaModel.Lemmas.C10TakePush
import SaModel.Props.C01Refine
import SaModel.Lemmas.C04SafeDT
import SaModel.Lemmas.SchemaAll
/-
C03 — every produced array is a well-formed Arrow array of the declared field.

  C03_wfS                toMarrow ext fields rows = ok arrs → one array per field, each `Spec.WFS` (structurally valid) for its
                         field and of `rows.length` rows, for `Safe` schemas (explicit assumptions on schema / rows / Ext:
                         see the section header there).  HEADLINE with `Safe ∨ coveredF` and TYPE EQUALITY
                         (`Spec.WF = WFS ∧ typeOf a = f.dataType`): `Props.C01.C03_wf'` (Props/C01Obs.lean) and
                         Props/C03Typed.lean.
  toMarrow_decode_state  the arrays decode to exactly the columns the final builder state holds (every family)
  (… which are the documented rows `interpRow` of the records: `Props.C01.C01_build_decode`, Props/C01.lean, and without
  `Safe` `Props.C01.C01_build_decode'`, Props/C01Obs.lean)
built from the physical layer proved in Lemmas/{Bits,Utf8,FloatBounds,C03*}.lean — `finish_decodeP`/`finish_decode` (the
finished array means what the state holds), `finish_wf` (it is well formed), the push invariants `push_PX` (offsets,
UTF-8, view descriptors; no hypotheses) and `push_LR` (value ranges) — and the operational refinement of Props/C01Refine.lean
(`runRows_rows`, `runRows_interp`) and Lemmas/C10TakePush.lean (`push_takeRest`).  Findings are witness theorems.
-/
namespace SaModel.Props.C03
open SaModel SaModel.Build SaModel.Spec

/-- a nullable builder finishes with a bitmap, a non-nullable one without: presence iff nullable -/
theorem finishValidity_isSome (v : Validity) : (finishValidity v).isSome = v.isSome := by
  cases v <;> rfl

theorem finishValidity_offset (v : Validity) (b : Bits) (h : finishValidity v = some b) : b.offset = 0 := by
  cases v with
  | none => cases h
  | some bits => simp [finishValidity] at h; rw [← h]

theorem finishValidity_length (bits : List Bool) (b : Bits) (h : finishValidity (some bits) = some b) :
    b.data.length = (bits.length + 7) / 8 := by
  simp [finishValidity] at h
  rw [← h]
  exact Lemmas.Bits.packBits_length _

/-- `duplicate_last` keeps offsets non-decreasing and adds exactly one row -/
theorem duplicateLast_spec (offs offs' : List Int) (h : duplicateLast offs = .ok offs') :
    ∃ l, offs.getLast? = some l ∧ offs' = offs ++ [l] :=
  Build.duplicateLast_ok h

/-- a fresh builder for any list-like type starts with the single offset 0 -/
example : newDT "$.a" (.list (.mk "element" .int32 false [])) true [] =
    .ok (.list "$.a" false ⟨"element", false, []⟩ (some []) [0] (.leaf "$.a.element" (.int .i32) none [])) := by decide +kernel

/-- bit `i` of a finished bitmap is the abstract bit `i` of the builder -/
theorem getBit_packBits (bs : List Bool) (i : Nat) (h : i < bs.length) : getBit ⟨packBits bs, 0⟩ i = .ok bs[i] :=
  Lemmas.Bits.getBit_packBits bs i h

/-- padding bits of a finished bitmap are clear -/
theorem getBit_packBits_pad (bs : List Bool) (i : Nat) (h1 : bs.length ≤ i) (h2 : i < 8 * (packBits bs).length) :
    getBit ⟨packBits bs, 0⟩ i = .ok false :=
  Lemmas.Bits.getBit_packBits_pad bs i h1 h2

/-- reading past the last byte is an error -/
theorem getBit_packBits_oob (bs : List Bool) (i : Nat) (h : 8 * (packBits bs).length ≤ i) :
    getBit ⟨packBits bs, 0⟩ i = fail "Invalid access in bitset" :=
  Lemmas.Bits.getBit_packBits_oob bs i h

/-- offset law (what a slice does to a bitmap) -/
theorem getBit_offset (d : Bytes) (o k i : Nat) : getBit ⟨d, o + k⟩ i = getBit ⟨d, o⟩ (k + i) :=
  Lemmas.Bits.getBit_offset d o k i

/-- **`finish_decode`.**  For every builder state satisfying the state invariant, the array `into_array` produces
decodes — by the Arrow reading rules, slot by slot, through packed bitmaps — to exactly the rows the state holds.
`Faithful b` excludes the two recorded exceptions (negations below): `FixedSizeBinary(0)` holding rows, and
dictionary slots holding the dummy key 0 while the dictionary has no value. -/
theorem finish_decode (ext : Ext) (b : B) (a : Arr) (hw : WFB b) (hf : Lemmas.C03.Faithful b)
    (h : finish ext b = .ok a) : decodeAll a = (dec b).map .ok :=
  Lemmas.C03.finish_decode ext b a hw hf h

/-- row-wise form: `Spec.decode (finish b) i = (dec b)[i]` -/
theorem finish_decode_row (ext : Ext) (b : B) (a : Arr) (hw : WFB b) (hf : Lemmas.C03.Faithful b)
    (h : finish ext b = .ok a) (i : Nat) (hi : i < (dec b).length) : decode a i = .ok (dec b)[i] := by
  unfold decode
  rw [finish_decode ext b a hw hf h]
  exact Lemmas.C03.slot_map_ok _ i hi

/-- the finished array has as many rows as the state -/
theorem finish_len (ext : Ext) (b : B) (a : Arr) (hw : WFB b) (hf : Lemmas.C03.Faithful b)
    (h : finish ext b = .ok a) : Spec.Arr.len a = (dec b).length := by
  unfold Spec.Arr.len
  rw [finish_decode ext b a hw hf h, List.length_map]

/-- all columns of a struct builder at once (what `build_arrays` returns) -/
theorem finishFields_decode (ext : Ext) (fs : BL) (afs : ArrFields) (len : Nat) (hw : WFL fs len)
    (hf : Lemmas.C03.FaithfulL fs) (h : finishFields ext fs = .ok afs) :
    decodeFields afs = (decCols fs).map fun c => (c.1, c.2.map .ok) :=
  Lemmas.C03.finishFields_decode ext fs afs (Lemmas.C03.WFL_WFBs fs len hw) hf h

/-- **known finding (FixedSizeBinary(0)).**  Without `Faithful` the statement is false: a `FixedSizeBinary(0)`
builder holding one row finishes into an array with no rows (the length is derived from `data.len() / n`). -/
theorem finish_decode_fixedSizeBinary0_false :
    ∃ (b : B) (a : Arr), WFB b ∧ finish {} b = .ok a ∧ decodeAll a ≠ (dec b).map .ok :=
  ⟨.fixedSizeBinary "$.a" 0 1 none [] 0, .fixedSizeBinary 0 none [],
    by simp [WFB, VLen], rfl, by decide +kernel⟩

/-- **dictionary placeholder.**  Without `Faithful` the statement is false for a dictionary slot holding the dummy
key 0 while no value has been pushed: `into_array` appends the placeholder value `""`, so the finished slot reads
the empty string while the state holds no value for it (`dec` reads null).  The witness is a reachable state: one
`serialize_default` (what a null parent struct issues) into a fresh non-nullable `Dictionary(UInt32, Utf8)` builder.
(Stated operationally, without `WFB`: a state invariant may or may not allow such hidden slots.) -/
theorem finish_decode_dictionary_dummy_false :
    ∃ (b0 b : B) (a : Arr), newDT "$.a" (.dictionary .uint32 .utf8) false [] = .ok b0 ∧ pushDefault b0 = .ok b ∧
      finish {} b = .ok a ∧ decodeAll a ≠ (dec b).map .ok :=
  ⟨.dictionary "$.a" (.leaf "$.a.key" (.int .u32) none []) (.bytes "$.a.value" .utf8 none [0] []) [],
   .dictionary "$.a" (.leaf "$.a.key" (.int .u32) none [0]) (.bytes "$.a.value" .utf8 none [0] []) [],
   .dictionary (.prim .uint32 none [0]) (.bytes .utf8 none [0, 0] []),
    by decide +kernel, by decide +kernel, by decide +kernel, by decide +kernel⟩

/-! ### non-vacuity of `finish_decode`: nullable list of nullable ints, rows `[[1, null], null]` -/
example : ∃ b a, WFB b ∧ Lemmas.C03.Faithful b ∧ finish {} b = .ok a ∧
    dec b = [.list (.cons (.int 1) (.cons .null .nil)), .null] :=
  ⟨.list "$.a" false ⟨"element", true, []⟩ (some [true, false]) [0, 2, 2]
      (.leaf "$.a.element" (.int .i32) (some [true, false]) [1, 0]), _,
    by simp [WFB, VLen, OffsOK, dec, maskNull], by simp [Lemmas.C03.Faithful], rfl, by decide +kernel⟩

/-- **`finish_decodeP`.**  `decP b` is `dec b` with dictionary keys read through the values of the *finished*
dictionary (placeholder included).  Under `Sound` (weaker than `Faithful`: dummy keys allowed as long as the
finished dictionary has a value for them) every slot of the finished array decodes, to `decP`. -/
theorem finish_decodeP (ext : Ext) (b : B) (a : Arr) (hw : WFB b) (hs : Lemmas.C03.Sound b)
    (h : finish ext b = .ok a) : decodeAll a = (Lemmas.C03.decP b).map .ok :=
  Lemmas.C03.finish_decodeP ext b a hw hs h

theorem decP_length (b : B) : (Lemmas.C03.decP b).length = (dec b).length := Lemmas.C03.decP_length b

theorem decP_eq_dec (b : B) (hw : WFB b) (hf : Lemmas.C03.Faithful b) : Lemmas.C03.decP b = dec b :=
  Lemmas.C03.decP_eq_dec b hw hf

theorem Faithful_Sound (b : B) (hw : WFB b) (hf : Lemmas.C03.Faithful b) : Lemmas.C03.Sound b :=
  Lemmas.C03.Faithful_Sound b hw hf

/-- non-vacuity of `Sound` beyond `Faithful`: the dummy-key dictionary of `finish_decode_dictionary_dummy_false`
is `Sound`, and its finished array reads the placeholder `""` -/
example : Lemmas.C03.Sound (.dictionary "$.a" (.leaf "$.a.key" (.int .u32) none [0]) (.bytes "$.a.value" .utf8 none [0] []) []) ∧
    Lemmas.C03.decP (.dictionary "$.a" (.leaf "$.a.key" (.int .u32) none [0]) (.bytes "$.a.value" .utf8 none [0] []) []) =
      [.str []] := by
  refine ⟨?_, by decide +kernel⟩
  simp only [Lemmas.C03.Sound, true_and]
  intro k hk
  have : k = .int 0 := by simpa [Lemmas.C03.decP, maskNull, leafVal] using hk
  exact Or.inr ⟨0, this, by decide +kernel⟩

/-- bitmap of a finished array: present iff nullable, bit offset 0, exactly ⌈len/8⌉ bytes, padding bits clear -/
theorem validityOk_finish (v : Validity) (nl : Bool) (n : Nat) (hn : v.isSome = nl) (hv : VLen v n) :
    validityOk nl (finishValidity v) n = true :=
  Lemmas.C03.validityOk_finish v nl n hn hv

/-- **`finish_wf`.**  The array a builder finishes into is a well-formed array (`Spec.wf`: type equality including
child names / nullability / metadata, bitmaps, offsets, child lengths, ids and keys in range, UTF-8) of the data type
the builder was created for.  Hypotheses: `BuiltFor` (shape; `newDT_builtFor`), the state invariant `WFB`,
`Sound` (known finding FixedSizeBinary(0); dictionary keys designate a value) and `WFX` (what `WFB` does not carry:
values in physical range, offsets ≤ i32/i64 max, string data valid UTF-8). -/
theorem finish_wf (ext : Ext) (b : B) (dt : DataType) (nl : Bool) (a : Arr)
    (hb : Lemmas.C03.BuiltFor dt nl b) (hw : WFB b) (hs : Lemmas.C03.Sound b) (hx : Lemmas.C03.WFX b)
    (h : finish ext b = .ok a) : wf dt nl a = true :=
  Lemmas.C03.finish_wf ext b dt nl a hb hw hs hx h

/-- non-vacuity of `finish_wf`: a nullable list of nullable Int32 holding `[[1, null], null]` satisfies every
hypothesis (so its finished array — bitmaps `[1]`, `[1]`, offsets `[0,2,2]` — is well formed by the theorem) -/
example : ∃ b, Lemmas.C03.BuiltFor (.list (.mk "element" .int32 true [])) true b ∧ WFB b ∧ Lemmas.C03.Sound b ∧
    Lemmas.C03.WFX b ∧ (dec b).length = 2 :=
  ⟨.list "$.a" false ⟨"element", true, []⟩ (some [true, false]) [0, 2, 2]
      (.leaf "$.a.element" (.int .i32) (some [true, false]) [1, 0]),
    ⟨.mk "element" .int32 true [], by simp, rfl, rfl, by simp [Lemmas.C03.BuiltFor, Lemmas.C03.leafDT, Lemmas.C03.intDT,
      Field.dataType, Field.nullable]⟩,
    by simp [WFB, VLen, OffsOK, dec, maskNull], by simp [Lemmas.C03.Sound],
    by simp [Lemmas.C03.WFX, offMax, Lemmas.C03.leafRange, inRng, primRange, primOfInt], by decide +kernel⟩

/-- the builder created for a field stands for it.  No hypothesis on the field: `build_builder` refuses Map fields with
other than two entry children and dictionaries with a non-integer key type (`map_three_children_refused`,
`dictionary_float_keys_refused`) -/
theorem newB_builtFor (path : String) (f : Field) (b : B) (h : newB path f = .ok b) :
    Lemmas.C03.BuiltFor f.dataType f.nullable b :=
  Lemmas.C03.newB_builtFor path f b h

theorem newRoot_builtFor (fields : List Field) (root : B)
    (h : newRoot fields = .ok root) : Lemmas.C03.BuiltFor (.struct (Fields.ofList fields)) false root :=
  Lemmas.C03.newRoot_builtFor fields root h

/-- a Map field with three entry children -/
def exMap3 : Field :=
  .mk "m" (.map (.mk "entries" (.struct (.cons (.mk "key" .int32 false []) (.cons (.mk "value" .int32 false [])
      (.cons (.mk "extra" .int32 false []) .nil)))) false []) false) false []

/-- **fixed finding (Map with more than two entry children), repaired code** (repo fix 095456f): `build_builder`
refuses the field -/
theorem map_three_children_refused : ∃ e, newB "$.m" exMap3 = .error e := ⟨_, rfl⟩

/-- **… pinned code.**  The pinned `build_builder` only looked at the first two children of a Map's entries struct: it
returned the builder `b` below (a map builder over the first two children), and the array that builder finishes into is
not an array of the declared field. -/
theorem map_three_children_pinned_not_wf :
    ∃ (b : B) (a : Arr),
      b = .map "$.m" { entriesName := "entries", sorted := false, keys := ⟨"key", false, []⟩, values := ⟨"value", false, []⟩ }
        none [0] (.leaf "$.m.entries.key" (.int .i32) none []) (.leaf "$.m.entries.value" (.int .i32) none []) ∧
      finish {} b = .ok a ∧ WFS exMap3 a = false :=
  ⟨_, _, rfl, rfl, by decide +kernel⟩

/-- **fixed finding (Dictionary with a floating-point key type), repaired code** (repo fix 7359431): `build_builder`
refuses every non-integer key type -/
theorem dictionary_float_keys_refused :
    ∃ e, newB "$.d" (.mk "d" (.dictionary .float32 .utf8) false []) = .error e := ⟨_, rfl⟩

theorem dictionary_key_refused (path : String) (k v : DataType) (nl : Bool) (md : Metadata) (hk : isIntDT k = false) :
    ∃ e, newDT path (.dictionary k v) nl md = .error e := by
  simp only [newDT, hk]
  exact ⟨_, rfl⟩

/-- **… pinned code.**  The pinned `build_builder` accepted any key type: for `Dictionary(Float32, Utf8)` it returned
the builder `b0` below; a `Float32` keys builder accepts the `u64` index the dictionary builder pushes (`serialize_u64`
as float), so the push succeeds and the produced dictionary array has float keys: not a valid Arrow dictionary. -/
theorem dictionary_float_keys_pinned_not_wf :
    ∃ (b0 b : B) (a : Arr),
      b0 = .dictionary "$.d" (.leaf "$.d.key" .f32 none []) (.bytes "$.d.value" .utf8 none [0] []) [] ∧
      push {} b0 (.str "") = .ok b ∧ finish {} b = .ok a ∧
      WFS (.mk "d" (.dictionary .float32 .utf8) false []) a = false := by
  refine ⟨.dictionary "$.d" (.leaf "$.d.key" .f32 none []) (.bytes "$.d.value" .utf8 none [0] []) [],
    .dictionary "$.d" (.leaf "$.d.key" .f32 none [0]) (.bytes "$.d.value" .utf8 none [0, 0] []) [""],
    .dictionary (.prim .float32 none [0]) (.bytes .utf8 none [0, 0] []), rfl, by decide +kernel, by decide +kernel, by decide +kernel⟩

/-- **known finding (FixedSizeBinary(0))**, well-formedness side: a nullable `FixedSizeBinary(0)` column with one
row finishes into an array whose length (0) does not cover its bitmap (1 byte) -/
theorem fixedSizeBinary0_not_wf :
    ∃ (b : B) (a : Arr), WFB b ∧ Lemmas.C03.BuiltFor (.fixedSizeBinary 0) true b ∧ finish {} b = .ok a ∧
      wf (.fixedSizeBinary 0) true a = false := by
  refine ⟨.fixedSizeBinary "$.a" 0 1 (some [true]) [] 0, .fixedSizeBinary 0 (some ⟨[1], 0⟩) [], ?_, ?_, ?_, by decide +kernel⟩
  · simp [WFB, VLen]
  · simp [Lemmas.C03.BuiltFor]
  · decide +kernel

/-! ### where `Faithful` / `Sound` / the UTF-8 part of `WFX` come from -/

/-- every string a builder receives is valid UTF-8 (Rust: `&str` by type; model: a Lean `String`) -/
theorem validUtf8_strBytes (s : String) : validUtf8 (strBytes s) = true := Lemmas.Utf8.validUtf8_strBytes s

/-- `ShapeOK` (no `FixedSizeBinary(0)`, integer dictionary keys) holds of the builder of a `SchemaOK` type … -/
theorem BuiltFor_ShapeOK (b : B) (dt : DataType) (nl : Bool) (hb : Lemmas.C03.BuiltFor dt nl b)
    (hs : Lemmas.C03.SchemaOK dt) : Lemmas.C03.ShapeOK b :=
  Lemmas.C03.BuiltFor_ShapeOK b dt nl hb hs

/-- … and is a property of the shape only (so `push_takeRest` preserves it) -/
theorem ShapeOK_of_takeRest_eq (b b' : B) (h : takeRest b' = takeRest b) (hb : Lemmas.C03.ShapeOK b) :
    Lemmas.C03.ShapeOK b' :=
  Lemmas.C03.ShapeOK_of_takeRest_eq b b' h hb

/-- with the strict dictionary clause of the state invariant (`StrictDict`: no key designates a missing value) a
`ShapeOK` builder is `Faithful` — hence `Sound` (`Faithful_Sound`) -/
theorem Faithful_of_strict (b : B) (hs : Lemmas.C03.StrictDict b) (ho : Lemmas.C03.ShapeOK b) : Lemmas.C03.Faithful b :=
  Lemmas.C03.Faithful_of_strict b hs ho

theorem toMarrow_eq (ext : Ext) (fields : List Field) (rows : List SVal) :
    toMarrow ext fields rows = (do
      let root ← runRows ext fields rows
      let (arrs, _) ← buildArrays ext root
      pure arrs) := by
  simp only [toMarrow, runRows, bind_assoc]

theorem toMarrow_split (ext : Ext) (fields : List Field) (rows : List SVal) (arrs : List Arr)
    (h : toMarrow ext fields rows = .ok arrs) :
    ∃ root, runRows ext fields rows = .ok root ∧ ∃ rest, buildArrays ext root = .ok (arrs, rest) := by
  rw [toMarrow_eq] at h
  obtain ⟨root, hrun, h⟩ := R.bind_ok_inv h
  obtain ⟨⟨as, rest⟩, hb, h⟩ := R.bind_ok_inv h
  cases h
  exact ⟨root, hrun, rest, hb⟩

/-- a run that succeeds has constructed its root -/
theorem runRows_newRoot {ext : Ext} {fields : List Field} {rows : List SVal} {root : B}
    (h : runRows ext fields rows = .ok root) : ∃ root0, newRoot fields = .ok root0 := by
  simp only [runRows] at h
  cases hr : newRoot fields with
  | error e => rw [hr] at h; cases h
  | ok r0 => exact ⟨r0, rfl⟩

/-- **what `build_arrays` returns, for ANY root builder** (no `runRows`, no front end): under the weak invariant, the shape
relation, `Sound` and `WFX`, one well-formed array per field, each with the rows of the root. -/
theorem buildArrays_wf (ext : Ext) (fields : List Field) (root : B) (out : List Arr × B)
    (hw : WFH root) (hb : Lemmas.C03.BuiltFor (.struct (Fields.ofList fields)) false root)
    (hs : Lemmas.C03.Sound root) (hx : Lemmas.C03.WFX root) (hba : buildArrays ext root = .ok out) :
    out.1.length = fields.length ∧
      ∀ (j : Nat) (f : Field) (a : Arr), fields[j]? = some f → out.1[j]? = some a →
        WFS f a = true ∧ (decodeAll a).length = (dec root).length := by
  cases root with
  | struct p len v fs cached next seen =>
    obtain ⟨afs, hf, hba⟩ := R.bind_ok_inv hba
    cases hba
    have hw := Lemmas.C03.WFH_struct hw
    simp only [Lemmas.C03.BuiltFor] at hb
    obtain ⟨fields', hfe, _, hbl⟩ := hb
    simp only [DataType.struct.injEq] at hfe
    subst hfe
    obtain ⟨hlen, hget⟩ := Lemmas.C03.wfFields_get _ afs len
      (Lemmas.C03.finishFields_wfH ext fs _ len afs hbl hw.2 (Lemmas.C03.Sound_struct hs) (Lemmas.C03.WFX_struct hx) hf)
    rw [Fields.toList_ofList] at hlen hget
    have hv : (dec (B.struct p len v fs cached next seen)).length = len := by
      simp only [dec]
      exact Lemmas.C03.maskNull_length v len _ hw.1 (by simp)
    refine ⟨by simp [hlen], fun j f a hfj haj => ?_⟩
    obtain ⟨ma, hma, rfl⟩ := Option.map_eq_some_iff.1 (List.getElem?_map ▸ haj)
    have := hget j f ma hfj hma
    exact ⟨this.2.2, by rw [this.2.1, hv]⟩
  | _ => cases hba

/-- **C03 from facts about the final builder state**, weak invariant: given `WFH root`, the shape relation
`BuiltFor (struct fields) false root`, `Sound root` and `WFX root`, every array `to_marrow` returns is a well-formed array of
its field, there is one array per field, and each has the rows of the root. -/
theorem C03_wf_of_rootH (ext : Ext) (fields : List Field) (rows : List SVal) (arrs : List Arr)
    (hwfh : ∀ root, runRows ext fields rows = .ok root → WFH root)
    (hshape : ∀ root, runRows ext fields rows = .ok root →
      Lemmas.C03.BuiltFor (.struct (Fields.ofList fields)) false root)
    (hsound : ∀ root, runRows ext fields rows = .ok root → Lemmas.C03.Sound root)
    (hwfx : ∀ root, runRows ext fields rows = .ok root → Lemmas.C03.WFX root)
    (h : toMarrow ext fields rows = .ok arrs) :
    ∃ root, runRows ext fields rows = .ok root ∧ arrs.length = fields.length ∧
      ∀ (j : Nat) (f : Field) (a : Arr), fields[j]? = some f → arrs[j]? = some a →
        WFS f a = true ∧ (decodeAll a).length = (dec root).length := by
  obtain ⟨root, hrun, rest, hba⟩ := toMarrow_split ext fields rows arrs h
  exact ⟨root, hrun, buildArrays_wf ext fields root _ (hwfh _ hrun) (hshape _ hrun) (hsound _ hrun) (hwfx _ hrun) hba⟩

/-- **C03 from facts about the final builder state** (lemma; the assembled theorem is `C03_wfS` below): given the
state invariant `WFB root`, the shape relation `BuiltFor (struct fields) false root`, `Sound root` and `WFX root`,
every array `to_marrow` returns is a well-formed array of its field, there is one array per field, and all arrays have
the same number of rows. -/
theorem C03_wf_of_root (ext : Ext) (fields : List Field) (rows : List SVal) (arrs : List Arr)
    (hwfb : ∀ root, runRows ext fields rows = .ok root → WFB root)
    (hshape : ∀ root, runRows ext fields rows = .ok root →
      Lemmas.C03.BuiltFor (.struct (Fields.ofList fields)) false root)
    (hsound : ∀ root, runRows ext fields rows = .ok root → Lemmas.C03.Sound root)
    (hwfx : ∀ root, runRows ext fields rows = .ok root → Lemmas.C03.WFX root)
    (h : toMarrow ext fields rows = .ok arrs) :
    arrs.length = fields.length ∧
    ∃ n : Nat, ∀ (j : Nat) (f : Field) (a : Arr), fields[j]? = some f → arrs[j]? = some a →
      WFS f a = true ∧ (decodeAll a).length = n := by
  obtain ⟨root, _, hlen, hall⟩ :=
    C03_wf_of_rootH ext fields rows arrs (fun r hr => WFH_of_WFB r (hwfb r hr)) hshape hsound hwfx h
  exact ⟨hlen, _, hall⟩

/-- **offsets and UTF-8, unconditionally.**  `PX` (bytes builders: offsets start at 0, never decrease, end at
`data.length`, stay ≤ i32/i64 max, every Utf8/LargeUtf8 slot valid UTF-8; list/map offsets ≤ i32/i64 max) is
preserved by every push — no assumption on the value, on `Ext`, or on any other invariant — and holds of fresh
builders; so it holds after any accepted sequence of rows. -/
theorem push_PX (ext : Ext) (x : SVal) (b b' : B) (h : push ext b x = .ok b') (hp : Lemmas.C03.PX b) :
    Lemmas.C03.PX b' :=
  Lemmas.C03.push_PX ext x b b' h hp

theorem runRows_PX (ext : Ext) (fields : List Field) (rows : List SVal) (root : B)
    (h : runRows ext fields rows = .ok root) : Lemmas.C03.PX root :=
  Lemmas.C03.runRows_PX ext fields rows root h

theorem SchemaOKFs_ofList : ∀ (fields : List Field), (∀ f ∈ fields, Lemmas.C03.SchemaOKF f) →
    Lemmas.C03.SchemaOKFs (Fields.ofList fields) :=
  fun _ => (Fields.forall_ofList trivial fun _ _ => Iff.rfl).mpr

/-- everything the physical layer needs to know about the final builder state, from the interface hypotheses -/
theorem root_facts (ext : Ext) (fields : List Field) (rows : List SVal) (root : B)
    (hschema : ∀ f ∈ fields, Lemmas.C03.SchemaOKF f)
    (hpush : ∀ (x : SVal) (b b' : B), push ext b x = .ok b' → takeRest b' = takeRest b)
    (hw : WFB root) (hstrict : Lemmas.C03.StrictDict root) (hrun : runRows ext fields rows = .ok root) :
    Lemmas.C03.BuiltFor (.struct (Fields.ofList fields)) false root ∧ Lemmas.C03.Faithful root ∧
      Lemmas.C03.Sound root ∧ Lemmas.C03.PX root := by
  have hb := Lemmas.C03.runRows_builtFor ext fields rows root hpush hrun
  have hshape := Lemmas.C03.BuiltFor_ShapeOK root _ _ hb (by
    simp only [Lemmas.C03.SchemaOK]; exact SchemaOKFs_ofList fields hschema)
  have hf := Lemmas.C03.Faithful_of_strict root hstrict hshape
  exact ⟨hb, hf, Lemmas.C03.Faithful_Sound root hw hf, runRows_PX ext fields rows root hrun⟩

/-- leaf values stay within the physical range of their type (explicit assumptions: `ExtOK`, `SValOK`; `FloatOK` is
proved: `floatOK`) -/
theorem push_LR (ext : Ext) (he : Lemmas.C03.ExtOK ext) (hf : Lemmas.C03.FloatOK) (x : SVal) (b b' : B)
    (hx : Lemmas.C03.SValOK x) (h : push ext b x = .ok b') (hp : Lemmas.C03.LR b) : Lemmas.C03.LR b' :=
  Lemmas.C03.push_LR ext he hf x b b' hx h hp

/-- the IEEE conversions of the model return bit patterns of the target width -/
theorem floatOK : Lemmas.C03.FloatOK := Lemmas.C03.floatOK

theorem extOK_default : Lemmas.C03.ExtOK {} := by constructor <;> (intros; rename_i h; cases h)

/-- non-vacuity of `ExtOK`: the default `Ext` (every external parser refuses) satisfies it -/
example : Lemmas.C03.ExtOK {} := extOK_default

/-- non-vacuity of `SValOK`: a record with an `i32`, an `f32` and a nested sequence -/
example : Lemmas.C03.SValOK (.record "R" (.cons "a" 0 (.int .i32 7) (.cons "b" 1 (.f32 1065353216)
    (.cons "c" 2 (.seq (.cons (.some (.int .u8 255)) .nil)) .nil)))) := by
  simp [Lemmas.C03.SValOK, Lemmas.C03.SFieldsOK, Lemmas.C03.SValsOK, Lemmas.C03.ScalarOK, IntTy.inRange, IntTy.min,
    IntTy.max]

/-- what `push_scalar_value` of a bytes-view builder writes designates the pushed bytes -/
theorem decodeView_inline (bufs : List Bytes) (data : Bytes) (h : data.length ≤ 12) :
    decodeView bufs (packInline data) = .ok data :=
  Lemmas.C03.decodeView_inline bufs data h

theorem decodeView_extern (buf data : Bytes) (hlen : 12 < data.length) (hsmall : (buf ++ data).length < 2 ^ 32) :
    decodeView [buf ++ data] (packExtern data 0 buf.length) = .ok data :=
  Lemmas.C03.decodeView_extern buf data hlen hsmall

theorem ArrFields_toList_decode : ∀ (x : ArrFields),
    x.toList.map (fun ma => decodeAll ma.2) = (decodeFields x).map (·.2)
  | .nil => rfl
  | .cons m a r => by simp [ArrFields.toList, decodeFields, ArrFields_toList_decode r]

/-- **what the arrays `build_arrays` returns decode to, for ANY root builder** -/
theorem buildArrays_decode (ext : Ext) (root : B) (out : List Arr × B)
    (hw : WFH root) (hs : Lemmas.C03.Sound root)
    (hdet : ∀ c ∈ Lemmas.C03.decHRoot root, ∀ r ∈ c, r.isSome = true) (hba : buildArrays ext root = .ok out) :
    out.1.map decodeAll = (decRoot root).map (·.map .ok) := by
  cases root with
  | struct p len v fs cached next seen =>
    obtain ⟨afs, hfin, hba⟩ := R.bind_ok_inv hba
    cases hba
    have hd := Lemmas.C03.finishFields_decodePH ext fs afs
      (Lemmas.C03.WFHL_WFHs fs len (Lemmas.C03.WFH_struct hw).2) (Lemmas.C03.Sound_struct hs) hfin
    rw [Lemmas.C03.decPCols_eq_decCols_of_det fs (fun c hc r hr =>
      hdet c.2 (by simp only [Lemmas.C03.decHRoot]; exact List.mem_map.mpr ⟨c, hc, rfl⟩) r hr)] at hd
    simp only [decRoot, List.map_map]
    have e : (decodeAll ∘ fun (x : FieldMeta × Arr) => x.snd) = fun ma => decodeAll ma.snd := rfl
    rw [e, ArrFields_toList_decode afs, hd, List.map_map]
    rfl
  | _ => cases hba

/-- the physical half of C01 for `to_marrow`, weak invariant: the returned arrays decode to exactly the columns the final
builder state holds (`decRoot`), provided every observable row of the root columns is determined — which is what the
refinement proves of the root (`none` rows only exist below a null ancestor; the root struct is never null). -/
theorem toMarrow_decode_of_rootH (ext : Ext) (fields : List Field) (rows : List SVal) (arrs : List Arr)
    (hwf : ∀ root, runRows ext fields rows = .ok root → WFH root)
    (hsound : ∀ root, runRows ext fields rows = .ok root → Lemmas.C03.Sound root)
    (hdet : ∀ root, runRows ext fields rows = .ok root → ∀ c ∈ Lemmas.C03.decHRoot root, ∀ r ∈ c, r.isSome = true)
    (h : toMarrow ext fields rows = .ok arrs) :
    ∃ root, runRows ext fields rows = .ok root ∧ arrs.map decodeAll = (decRoot root).map (·.map .ok) := by
  obtain ⟨root, hrun, rest, hba⟩ := toMarrow_split ext fields rows arrs h
  exact ⟨root, hrun, buildArrays_decode ext root _ (hwf _ hrun) (hsound _ hrun) (hdet _ hrun) hba⟩

/-! ### the assembled theorems

Their explicit assumptions on the schema, the rows and `Ext`, each justified in notes/C03.md:

  schema   `SchemaOKF` (no `FixedSizeBinary(0)`: exclusion of the recorded known finding, witness theorem in this file);
           `Safe root0` (Build/Inv.lean: no dictionary with non-nullable keys below a nullable struct / fixed-size
           list; a property of the fresh root, i.e. of the schema — `Props.C01.dict_placeholder_unstable`); the headline
           `Props.C01.C03_wf'` / `C03_wfS'` (Props/C01Obs.lean) weakens it to `Safe root0 ∨ coveredF`.
           Map entries with exactly two children and integer dictionary key types are NOT assumptions: `build_builder`
           refuses the other fields (repo fixes 095456f / 7359431) and `BuiltFor` is derived from `newRoot fields = ok _`
           alone (`newRoot_builtFor`)
  rows     `SValOK` (an iN/uN/f32/f64 call carries a value of that width).  No hypothesis on raw key/value call streams:
           a Map builder refuses the streams that do not alternate (repo fix eafdf15,
           `Props.C01.map_refuses_non_alternating`), so `toMarrow … = .ok arrs` already excludes them
  Ext      `ExtOK` (what the external chrono parsers return fits the column's storage)
(no size assumption on view buffers: the view builders refuse lengths / offsets beyond `i32::MAX` and the state invariant
`WFB` carries the buffer bound — `WFB_small`, Lemmas/C01Small.lean) -/

/-- **C03, structural half** (`Safe` version; the headline with type equality is `Props.C01.C03_wf'`, Props/C01Obs.lean).
Every array `to_marrow` returns is a structurally valid array of its field (`Spec.WFS`: data type compatible with the
field's — child names / nullability / metadata / parameters, EXCEPT the union mode and the nullability / metadata of a Map's
entries field, which only `Spec.WF` = `WFS ∧ typeOf a = f.dataType` compares; bitmap present iff nullable with exactly ⌈len/8⌉
bytes and clear padding; offsets start at 0, never decrease, end at the child length and stay within i32/i64; fixed-size
child lengths; type ids, dense offsets and dictionary keys in range; string data valid UTF-8; values within their
physical range), there is exactly one array per field, and every array has `rows.length` rows. -/
theorem C03_wfS (ext : Ext) (fields : List Field) (rows : List SVal) (arrs : List Arr)
    (hschema : ∀ f ∈ fields, Lemmas.C03.SchemaOKF f)
    (hsafe : ∀ root0, newRoot fields = .ok root0 → Safe root0)
    (hext : Lemmas.C03.ExtOK ext)
    (hrows : ∀ x ∈ rows, Lemmas.C03.SValOK x)
    (h : toMarrow ext fields rows = .ok arrs) :
    arrs.length = fields.length ∧
    ∀ (j : Nat) (f : Field) (a : Arr), fields[j]? = some f → arrs[j]? = some a →
      WFS f a = true ∧ (decodeAll a).length = rows.length := by
  have hroot : ∀ root, runRows ext fields rows = .ok root → WFB root ∧ (dec root).length = rows.length := by
    intro root hrun
    obtain ⟨root0, h0⟩ := runRows_newRoot hrun
    obtain ⟨hw, hlen, _, _⟩ := Props.C01.runRows_rows ext fields rows root0 root h0 (hsafe root0 h0) hrun
    exact ⟨hw, hlen⟩
  have hfacts := fun root hrun => root_facts ext fields rows root hschema (Build.push_takeRest ext) (hroot root hrun).1
    (Lemmas.C03.WFB_StrictDict root (hroot root hrun).1) hrun
  obtain ⟨root, hrun, hlen, hall⟩ := C03_wf_of_rootH ext fields rows arrs (fun r hr => WFH_of_WFB r (hroot r hr).1)
    (fun r hr => (hfacts r hr).1) (fun r hr => (hfacts r hr).2.2.1)
    (fun r hr => Lemmas.C03.runRows_WFX ext hext fields rows r hrows hr (Build.WFB_small r (hroot r hr).1)) h
  exact ⟨hlen, fun j f a hf ha => (hroot root hrun).2 ▸ hall j f a hf ha⟩

/-- **the physical half of C01 for `to_marrow`, every builder family.**  The returned arrays decode to exactly the
columns the final builder state holds (`decRoot root`, `rows.length` slots each). -/
theorem toMarrow_decode_state (ext : Ext) (fields : List Field) (rows : List SVal) (arrs : List Arr)
    (hschema : ∀ f ∈ fields, Lemmas.C03.SchemaOKF f)
    (hsafe : ∀ root0, newRoot fields = .ok root0 → Safe root0)
    (h : toMarrow ext fields rows = .ok arrs) :
    ∃ root, runRows ext fields rows = .ok root ∧ arrs.map decodeAll = (decRoot root).map (·.map .ok) ∧
      ∀ col ∈ decRoot root, col.length = rows.length := by
  have hroot : ∀ root, runRows ext fields rows = .ok root → WFB root ∧ ∀ col ∈ decRoot root, col.length = rows.length := by
    intro root hrun
    obtain ⟨root0, h0⟩ := runRows_newRoot hrun
    obtain ⟨hw, _, _, hc⟩ := Props.C01.runRows_rows ext fields rows root0 root h0 (hsafe root0 h0) hrun
    exact ⟨hw, hc⟩
  obtain ⟨root, hrun, hd⟩ := toMarrow_decode_of_rootH ext fields rows arrs (fun r hr => WFH_of_WFB r (hroot r hr).1)
    (fun r hr => (root_facts ext fields rows r hschema (Build.push_takeRest ext) (hroot r hr).1
      (Lemmas.C03.WFB_StrictDict r (hroot r hr).1) hr).2.2.1)
    (fun r hr => Lemmas.C03.decHRoot_det_of_WFB r (hroot r hr).1) h
  exact ⟨root, hrun, hd, (hroot root hrun).2⟩

theorem All2_get {α β} {R : α → β → Prop} : ∀ {l1 : List α} {l2 : List β}, Build.All2 R l1 l2 →
    l1.length = l2.length ∧ ∀ (i : Nat) (h1 : i < l1.length) (h2 : i < l2.length), R l1[i] l2[i] := by
  intro l1 l2 h
  induction h with
  | nil => exact ⟨rfl, fun i h1 _ => absurd h1 (Nat.not_lt_zero i)⟩
  | cons hr _ ih =>
    refine ⟨congrArg Nat.succ ih.1, ?_⟩
    intro i h1 h2
    cases i with
    | zero => exact hr
    | succ i => exact ih.2 i (Nat.lt_of_succ_lt_succ h1) (Nat.lt_of_succ_lt_succ h2)

/-! `toMarrow_decode_state` composed with R3 (`Props.C01.runRows_interp`) is the `Safe`-carrying end-to-end statement of C01,
`Props.C01.C01_build_decode` (Props/C01.lean); the `Safe`-free one is `Props.C01.C01_build_decode'` (Props/C01Obs.lean). -/

/-! ### a worked instance: the hypotheses are jointly satisfiable on a real run

Two records for the schema `{a: Int32?, l: List<Int8>}` (second record without `a`).  The model run is evaluated by
`decide` (`exRun`), `to_marrow` succeeds (`exOk`), and every hypothesis of `C03_wfS` is discharged: an unconditional instance. -/

def exFields : List Field := [.mk "a" .int32 true [], .mk "l" (.list (.mk "element" .int8 false [])) false []]
def exRows : List SVal :=
  [.record "R" (.cons "a" 0 (.int .i32 1) (.cons "l" 1 (.seq (.cons (.int .i8 5) (.cons (.int .i8 6) .nil))) .nil)),
   .record "R" (.cons "l" 1 (.seq .nil) .nil)]
def exRoot : B :=
  .struct "$" 2 none
    (.cons (.leaf "$.a" (.int .i32) (some [true, false]) [1, 0]) ⟨"a", true, []⟩
      (.cons (.list "$.l" false ⟨"element", false, []⟩ none [0, 2, 2] (.leaf "$.l.element" (.int .i8) none [5, 6]))
        ⟨"l", false, []⟩ .nil))
    [some ("a", 0), some ("l", 1)] 2 [false, true]

theorem exRun : runRows {} exFields exRows = .ok exRoot := by decide +kernel

-- the run is `exRun`: only `build_arrays` of the closed root is evaluated
theorem exOk : (toMarrow {} exFields exRows).isOk = true := by rw [toMarrow_eq, exRun]; decide +kernel

/-- the instance, with every hypothesis of `C03_wfS` discharged: both arrays are well formed and have 2 rows -/
example : ∀ arrs, toMarrow {} exFields exRows = .ok arrs →
    arrs.length = exFields.length ∧ ∀ (j : Nat) (f : Field) (a : Arr), exFields[j]? = some f →
      arrs[j]? = some a → WFS f a = true ∧ (decodeAll a).length = exRows.length := by
  intro arrs h
  refine C03_wfS {} exFields exRows arrs ?_ ?_ ?_ ?_ h
  · simp [exFields, Lemmas.C03.SchemaOKF, Lemmas.C03.SchemaOK]
  · exact safe_of_schema _ (by decide) (by decide)  -- `Safe` is a condition on the schema (`safeFs`)
  · exact extOK_default
  · simp [exRows, Lemmas.C03.SValOK, Lemmas.C03.SFieldsOK, Lemmas.C03.SValsOK, Lemmas.C03.ScalarOK, IntTy.inRange,
      IntTy.min, IntTy.max]

/-! `C03_wfS` asks nothing of raw key/value call streams (no `rawOK`).  Into a Map column the stream that does not
alternate is refused (`Props.C01.map_refuses_non_alternating`) — `to_marrow` is an error, there is no array to speak
about; the alternating one is accepted and the Map array is well formed with one row. -/
example : (toMarrow {} Props.C01.exMapFields
    [.record "R" (.cons "m" 0 (.mapRaw (.key (.str "x") (.key (.str "") .nil))) .nil)]).isErr = true := by decide +kernel
example : (match toMarrow {} Props.C01.exMapFields
      [.record "R" (.cons "m" 0 (.mapRaw (.key (.str "x") (.value (.int .i32 1) .nil))) .nil)] with
    | .ok [a] => Props.C01.exMapFields.all (fun f => WFS f a) && (decodeAll a).length == 1
    | _ => false) = true := by decide +kernel

end SaModel.Props.C03
