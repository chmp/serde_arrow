import SaModel.Props.C11Physical
import SaModel.Props.C01CompleteObs
/-
C11 — ACCEPTANCE does not depend on how a record is presented.

`C11Arrays.C11_presentations` needs both presentations to be accepted.  With the completeness theorems of
Props/C01CompleteObs.lean (`toMarrow_complete'`: completeness on the weak state invariant, NO `Safe` hypothesis) acceptance itself is characterised by the logical batch:

  toMarrow_logical              THE ARRAYS ARE A FUNCTION OF THE LOGICAL BATCH: if one presentation is accepted, every other
                                presentation that fits the capacity bound is accepted with physically the same arrays
                                (`toMarrow_complete'` and Props/C11Physical.lean); the two statements below are its corollaries.
  toMarrow_ok_iff               under the capacity bound, `to_marrow` accepts a batch IFF every record has a documented
                                value (`Spec.interpRow` is defined) — a condition on the logical rows only.
  C11_presentations_accept_iff  two presentations of one logical batch, EACH within the capacity bound, are accepted or
                                refused TOGETHER.
  C11_presentations_success     if one presentation is accepted, every other presentation that fits the capacity bound
                                (`hcap2` only) is accepted too, and the arrays decode identically.  (Physical equality:
                                Props/C11Physical.lean.)
Hypotheses of all three: `SchemaOKF`, `coveredF`, `newRoot fields = ok root0`, `totalFs`, `typedFs`, `noRaw` records, the
capacity bound(s); no `Safe`.

The capacity bound is stated for EACH presentation (`Σ vsize ≤ room root0`): `vsize` counts serde calls and bytes, and a
map presentation, a struct presentation with extra fields, a `Some(..)` layer … of one record have different sizes.
`room root0` of a fresh root is `2^31 - 1` capped by the free keys of every dictionary column (`small_NoCap`).
-/
namespace SaModel.Props.C11
open SaModel SaModel.Build SaModel.Spec

/-- **acceptance is a property of the logical batch.**  Under the hypotheses of `C01.toMarrow_complete'` (covered,
`totalFs`, `typedFs` schema — no `Safe`; `noRaw` records; the records fit into the head room of the fresh root):
`to_marrow` succeeds IFF every record has a documented value. -/
theorem toMarrow_ok_iff (ext : Ext) (fields : List Field) (rows : List SVal) (root0 : B)
    (hschema : ∀ f ∈ fields, Lemmas.C03.SchemaOKF f)
    (hc : fields.all coveredF = true) (h0 : newRoot fields = .ok root0)
    (htot : totalFs (Fields.ofList fields) = true)
    (htyped : Lemmas.C03.typedFs (Fields.ofList fields) = true)
    (hraw : ∀ x ∈ rows, noRaw x = true)
    (hcap : (rows.map (vsize ext)).sum ≤ room root0) :
    (∃ arrs, toMarrow ext fields rows = .ok arrs) ↔ ∀ x ∈ rows, ∃ lv, interpRow ext fields x = .ok lv :=
  ⟨fun ⟨arrs, h⟩ => C10.DecodesTo.interp_ok
      (C01.C01_build_decode' ext fields rows arrs hschema hc (fun x hx => noRaw_ssa x (hraw x hx)) (Or.inl hraw) h),
   fun hall => C01.toMarrow_complete' ext fields rows root0 hc h0 htot htyped (fun r hr => ⟨hraw r hr, hall r hr⟩) hcap⟩

/-- **`to_marrow` is a function of the logical batch.**  If one presentation of a logical batch is accepted, every other
presentation that fits (`hcap2`) is accepted and returns THE SAME arrays: the first presentation has documented values
(soundness), hence so has the second, which is therefore accepted (`C01.toMarrow_complete'`) — with physically equal
arrays (`C11_presentations_physical`). -/
theorem toMarrow_logical (ext : Ext) (fields : List Field) (rows1 rows2 : List SVal) (root0 : B) (arrs1 : List Arr)
    (hschema : ∀ f ∈ fields, Lemmas.C03.SchemaOKF f)
    (hc : fields.all coveredF = true) (h0 : newRoot fields = .ok root0)
    (htot : totalFs (Fields.ofList fields) = true)
    (htyped : Lemmas.C03.typedFs (Fields.ofList fields) = true)
    (hraw1 : ∀ x ∈ rows1, noRaw x = true) (hraw2 : ∀ x ∈ rows2, noRaw x = true)
    (hsame : rows1.map (interpRow ext fields) = rows2.map (interpRow ext fields))
    (hcap2 : (rows2.map (vsize ext)).sum ≤ room root0)
    (h1 : toMarrow ext fields rows1 = .ok arrs1) : toMarrow ext fields rows2 = .ok arrs1 := by
  have hok := C10.DecodesTo.interp_ok
    (C01.C01_build_decode' ext fields rows1 arrs1 hschema hc (fun x hx => noRaw_ssa x (hraw1 x hx)) (Or.inl hraw1) h1)
  obtain ⟨arrs2, h2⟩ := C01.toMarrow_complete' ext fields rows2 root0 hc h0 htot htyped (fun y hy => by
    obtain ⟨x, hx, e⟩ := List.mem_map.1 (hsame ▸ List.mem_map_of_mem hy : interpRow ext fields y ∈ rows1.map _)
    exact ⟨hraw2 y hy, e ▸ hok x hx⟩) hcap2
  rw [h2, C11_presentations_physical ext fields rows1 rows2 arrs1 arrs2 hc hraw1 hraw2 hsame h1 h2]

/-- **C11 (acceptance and arrays).**  If one presentation of a logical batch is accepted, so is every other presentation
that fits (`hcap2`), and the arrays decode to the same columns.  No completeness hypothesis: it is
`C01.toMarrow_complete'`. -/
theorem C11_presentations_success (ext : Ext) (fields : List Field) (rows1 rows2 : List SVal) (root0 : B) (arrs1 : List Arr)
    (hschema : ∀ f ∈ fields, Lemmas.C03.SchemaOKF f)
    (hc : fields.all coveredF = true) (h0 : newRoot fields = .ok root0)
    (htot : totalFs (Fields.ofList fields) = true)
    (htyped : Lemmas.C03.typedFs (Fields.ofList fields) = true)
    (hraw1 : ∀ x ∈ rows1, noRaw x = true) (hraw2 : ∀ x ∈ rows2, noRaw x = true)
    (hsame : rows1.map (interpRow ext fields) = rows2.map (interpRow ext fields))
    (hcap2 : (rows2.map (vsize ext)).sum ≤ room root0)
    (h1 : toMarrow ext fields rows1 = .ok arrs1) :
    ∃ arrs2, toMarrow ext fields rows2 = .ok arrs2 ∧ arrs1.map decodeAll = arrs2.map decodeAll :=
  ⟨arrs1, toMarrow_logical ext fields rows1 rows2 root0 arrs1 hschema hc h0 htot htyped hraw1 hraw2 hsame hcap2 h1, rfl⟩

/-- **C11 (acceptance is presentation independent).**  Two batches that are the same logical batch (record by record
the same documented value `interpRow`), each within the capacity of the fresh root: `to_marrow` accepts both or refuses
both. -/
theorem C11_presentations_accept_iff (ext : Ext) (fields : List Field) (rows1 rows2 : List SVal) (root0 : B)
    (hschema : ∀ f ∈ fields, Lemmas.C03.SchemaOKF f)
    (hc : fields.all coveredF = true) (h0 : newRoot fields = .ok root0)
    (htot : totalFs (Fields.ofList fields) = true)
    (htyped : Lemmas.C03.typedFs (Fields.ofList fields) = true)
    (hraw1 : ∀ x ∈ rows1, noRaw x = true) (hraw2 : ∀ x ∈ rows2, noRaw x = true)
    (hsame : rows1.map (interpRow ext fields) = rows2.map (interpRow ext fields))
    (hcap1 : (rows1.map (vsize ext)).sum ≤ room root0) (hcap2 : (rows2.map (vsize ext)).sum ≤ room root0) :
    (∃ arrs1, toMarrow ext fields rows1 = .ok arrs1) ↔ (∃ arrs2, toMarrow ext fields rows2 = .ok arrs2) :=
  ⟨fun ⟨a, h⟩ => ⟨a, toMarrow_logical ext fields rows1 rows2 root0 a hschema hc h0 htot htyped hraw1 hraw2 hsame hcap2 h⟩,
   fun ⟨a, h⟩ => ⟨a, toMarrow_logical ext fields rows2 rows1 root0 a hschema hc h0 htot htyped hraw2 hraw1 hsame.symm hcap1 h⟩⟩

theorem exRoot : newRoot exFields = .ok (.struct "$" 0 none
    (.cons (.leaf "$.a" (.int .i32) none []) ⟨"a", false, []⟩
      (.cons (.bytes "$.b" .utf8 (some []) [0] []) ⟨"b", true, []⟩ .nil)) [none, none] 0 [false, false]) := by decide

/-- the struct / map+tuple presentations of `C11Arrays.exRows1/2` (different `vsize`: 9 and 10): every hypothesis of
`C11_presentations_accept_iff` holds, and both sides of the equivalence are true -/
example : ((∃ arrs1, toMarrow {} exFields exRows1 = .ok arrs1) ↔ (∃ arrs2, toMarrow {} exFields exRows2 = .ok arrs2)) ∧
    (exRows1.map (vsize {})).sum ≠ (exRows2.map (vsize {})).sum ∧ (toMarrow {} exFields exRows1).isOk = true :=
  ⟨C11_presentations_accept_iff {} exFields exRows1 exRows2 _ exSchema (by decide) exRoot
    (by decide) (by decide) (by decide) (by decide) exSame (by decide +kernel) (by decide +kernel),
   by decide +kernel, exOk.1⟩

/-- … and a logical batch that is refused in both presentations (required field `a` absent): both sides false -/
example : ((∃ arrs1, toMarrow {} exFields [.record "R" (.cons "b" 1 (.str "x") .nil)] = .ok arrs1) ↔
      (∃ arrs2, toMarrow {} exFields [.map (.cons (.str "b") (.str "x") .nil)] = .ok arrs2)) ∧
    (toMarrow {} exFields [.map (.cons (.str "b") (.str "x") .nil)]).isOk = false :=
  ⟨C11_presentations_accept_iff {} exFields _ _ _ exSchema (by decide) exRoot
    (by decide) (by decide) (by decide) (by decide)
    (by
      simp only [List.map_cons, List.map_nil, List.cons.injEq, and_true]
      exact (record_as_map {} _ false [] "R" (.cons "b" 1 (.str "x") .nil)).symm)
    (by decide +kernel) (by decide +kernel),
   by decide +kernel⟩

/-- `C11_presentations_success` on the schema OUTSIDE `Safe` of Props/C01Obs.lean (`C01.exUnsafe_not_safe`): the batch
null, {d: "a"}, null as structs is accepted (`C01.exUnsafeOk`), hence so is its presentation as maps / an absent nullable
field, with the same decoded columns — every hypothesis discharged -/
example : ∀ arrs1, toMarrow {} C01.exUnsafeFields C01.exUnsafeRows = .ok arrs1 →
    ∃ arrs2, toMarrow {} C01.exUnsafeFields
        [.map .nil, .map (.cons (.str "s") (.map (.cons (.str "d") (.str "a") .nil)) .nil), .record "Q" .nil] = .ok arrs2 ∧
      arrs1.map decodeAll = arrs2.map decodeAll := by
  intro arrs1 h1
  refine C11_presentations_success {} _ _ _ _ arrs1 ?_ (by decide) C01.exUnsafeNewRoot_eq (by decide) (by decide)
    (by decide) (by decide) (by decide +kernel) (by decide +kernel) h1
  simp [C01.exUnsafeFields, Lemmas.C03.SchemaOKF, Lemmas.C03.SchemaOK, Lemmas.C03.SchemaOKFs]

end SaModel.Props.C11
