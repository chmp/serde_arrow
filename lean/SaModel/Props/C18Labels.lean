import SaModel.Build.Builder
import SaModel.Read.Label
import SaModel.Lemmas.C09Chars
/-
C18 — the model's `data_type` labels and the data type, for ALL data types / arrays (DESIGN.md, decision 33:
"family of the label = constructor of the field's type").  `SaModel/Props/C18Gen.lean` proves that the labels in the
Rust sources are the model's; together: what the crate writes under `data_type` names the Arrow type of the
builder / reader that raised the error.
-/
namespace SaModel.Props.C18Labels
open SaModel SaModel.Build

/-- family name of a label: the text before `(` -/
def family (l : String) : String := String.ofList (l.toList.takeWhile (· != '('))

/-- the characters of an ASCII label are read off its bytes (`String.toList` on a literal is dear in the kernel) -/
theorem family_eq (l : String) : family l = String.ofList ((Lemmas.C09.charsOf l).takeWhile (· != '(')) := by
  rw [family, Lemmas.C09.toList_eq_charsOf]

example : family "FixedSizeList(..)" = "FixedSizeList" := by decide +kernel
example : family "Int8" = "Int8" := by decide +kernel

/-- **reader side**: for every array, the family of the reader's label is the `View` constructor -/
theorem label_family_reader (a : Arr) : family (Read.label a) = Read.viewCtor a := by
  cases a with
  | prim ty _ _ => cases ty <;> (simp only [Read.label, Read.viewCtor]; rw [family_eq]; decide +kernel)
  | time ty _ _ _ => cases ty <;> (simp only [Read.label, Read.viewCtor]; rw [family_eq]; decide +kernel)
  | bytes ty _ _ _ => cases ty <;> (simp only [Read.label, Read.viewCtor]; rw [family_eq]; decide +kernel)
  | bytesView ty _ _ _ => cases ty <;> (simp only [Read.label, Read.viewCtor]; rw [family_eq]; decide +kernel)
  | list large _ _ _ _ => cases large <;> (simp only [Read.label, Read.viewCtor, ↓reduceIte, Bool.false_eq_true]; rw [family_eq]; decide +kernel)
  | _ => simp only [Read.label, Read.viewCtor]; rw [family_eq]; decide +kernel

example : family (Read.label (.list true none [0] ⟨"element", false, []⟩ (.null 0))) = "LargeList" := by decide +kernel

/-- **builder side**: for EVERY data type (with any path, nullability and metadata) for which the model's
`build_builder` constructs a builder, the family of the builder's label is the constructor of the data type —
the one exception being the `UnknownVariant` placeholder, which is built for a `Null` field that carries that
strategy and labels itself `<unknown variant>` (DESIGN.md, decision 33) -/
theorem label_family_builder (path : String) (dt : DataType) (nullable : Bool) (md : Metadata) (b : B)
    (h : newDT path dt nullable md = .ok b) :
    b.label = "<unknown variant>" ∧ dt = .null ∨ family b.label = dt.ctor := by
  unfold newDT at h
  split at h
  all_goals try simp only [bind, Except.bind, pure, Except.pure, mkStruct] at h
  all_goals repeat' (split at h)
  all_goals first
    | (cases h; exact .inr (by simp only [B.label, DataType.ctor, intTyLabel, ↓reduceIte, Bool.false_eq_true]; rw [family_eq]; decide +kernel))
    | (cases h; exact .inl ⟨rfl, rfl⟩)
    | (simp [fail, ctx] at h; done)
    | (cases h; done)

/-- the same for a whole field -/
theorem label_family_field (path : String) (f : Field) (b : B) (h : newB path f = .ok b) :
    b.label = "<unknown variant>" ∧ f.dataType = .null ∨ family b.label = f.dataType.ctor := by
  cases f with
  | mk n dt nl md => rw [newB] at h; exact label_family_builder path dt nl md b h

/-- non-vacuity: both disjuncts occur, and a nested type meets the hypothesis -/
example : newDT "$.x" .null true [(STRATEGY_KEY, "UnknownVariant")] = .ok (.unknownVariant "$.x") ∧
    (B.unknownVariant "$.x").label = "<unknown variant>" := by decide +kernel
example : newDT "$.x" (.largeList (.mk "element" (.decimal128 10 2) true [])) true [] =
      .ok (.list "$.x" true ⟨"element", true, []⟩ (some []) [0] (.leaf "$.x.element" (.decimal 10 2) (some []) [])) ∧
    family (B.list "$.x" true ⟨"element", true, []⟩ (some []) [0] (.leaf "$.x.element" (.decimal 10 2) (some []) [])).label
      = "LargeList" := by decide +kernel

end SaModel.Props.C18Labels
