import SaModel.Props.C04Accept
/-
C04 — EVERY ROOT KIND `from_type` supports, and the refusal of the others.

The crate accepts more item types than a `struct n fs` with named fields: `Tracer::to_schema` takes the children of whatever NON-NULLABLE STRUCT the root tracer was traced to and drops
the metadata of the root field, so a tuple struct `struct T(A, B)`, a tuple `(A, B)` / an array `[A; 2]` (columns "0", "1",
strategy TupleAsStruct dropped at the root) and a newtype struct around any supported root (`struct N(T)`, also nested) are
root types too — `Roundtrip.recordRoot`, `Roundtrip.rootCols_isSome_iff` (Lemmas/C04RootKind.lean).  Every other root is
refused.

Props/C04.lean proves the core of the round trip (`C04_roundtrip_core_root`: record count, root reader, typed read of every
index), `C04_physical_root` and `C04_interpRow_root` for ANY root `t` with `rootCols (viewOpts O) t = some F`, `F ≠ nil` (the
root is traced to a non-nullable struct with at least one column), and Props/C04Accept.lean the hypotheses of C01's completeness
theorems (`accept_hyps_root`); their statements for `struct n fs` are the instances `rootCols_struct`.  This file states the rest
of C04 for any such root:

  C04_roundtrip_root, C04_roundtrip_bulk_root, C04_roundtrip_identity_root, C04_roundtrip_bulk_plain_root
  C04_fromType_ok_root, C04_accept_root, C04_end_to_end_root            acceptance and the property itself, NO premise
                              about `from_type` / `to_marrow`
  C04_root_refused            a root that is not traced to a non-nullable struct is refused by `from_type`

and Props/C04Root.lean, Props/C04RootKinds.lean instantiate them by root kind: newtype of a record, tuple, tuple struct,
newtype of any supported root.
-/
namespace SaModel.Props.C04
open SaModel SaModel.Build SaModel.Spec SaModel.Roundtrip

/-- **C04 through the real models, for every supported root kind** (per record): `C04_roundtrip` with the root
`struct n fs` replaced by any type traced to a non-nullable struct with at least one column — a struct with named fields, a
tuple struct, a tuple / array, a newtype struct around one of these -/
theorem C04_roundtrip_root (c : Trace.Code) (O : Trace.Options) (ext : Ext) (t : Ty) (F : Fields) (vs : List Val)
    (fields : List Field) (arrs : List Arr)
    (h0 : O.overwrites = []) (hfrag : fragE t = true) (hroot : rootCols (viewOpts O) t = some F) (hne : F ≠ .nil)
    (hwt : ∀ v ∈ vs, wt t v = true)
    (hsc : ∀ v ∈ vs, inScopeO (viewOpts O) t v = true)
    (hlen : vs.length ≤ 9223372036854775807)
    (hft : Trace.fromType c O (toTraceTy t) = .ok fields)
    (htm : toMarrow ext fields (vs.map (ser t)) = .ok arrs) :
    ∀ (i : Nat) (hi : i < vs.length), readRecord (toTarget t) fields arrs i = .ok (dvalOf t (norm t vs[i])) := by
  have hfields := C04_fromType_fields_root c O h0 t F hroot fields hft
  obtain ⟨hacc, hnew, hread⟩ := C04_roundtrip_core_root O ext t F vs fields arrs hfrag hroot hne hwt hsc
    (fun _ => zip_physical fields arrs (C04_physical_root O ext t F vs fields arrs hroot hwt hlen hfields htm)) hfields htm
  exact readRecord_of_core t vs fields arrs hacc hnew hread

/-- **bulk form, every supported root kind** (`C04_roundtrip_bulk` is the case `t = struct n fs`) -/
theorem C04_roundtrip_bulk_root (c : Trace.Code) (O : Trace.Options) (ext : Ext) (t : Ty) (F : Fields) (vs : List Val)
    (fields : List Field) (arrs : List Arr)
    (h0 : O.overwrites = []) (hfrag : fragE t = true) (hroot : rootCols (viewOpts O) t = some F) (hne : F ≠ .nil)
    (hwt : ∀ v ∈ vs, wt t v = true)
    (hsc : ∀ v ∈ vs, inScopeO (viewOpts O) t v = true)
    (hlen : vs.length ≤ 9223372036854775807)
    (hft : Trace.fromType c O (toTraceTy t) = .ok fields)
    (htm : toMarrow ext fields (vs.map (ser t)) = .ok arrs) :
    readAll (toTarget t) fields arrs = .ok (vs.map fun v => dvalOf t (norm t v)) := by
  have hfields := C04_fromType_fields_root c O h0 t F hroot fields hft
  obtain ⟨hacc, hnew, hread⟩ := C04_roundtrip_core_root O ext t F vs fields arrs hfrag hroot hne hwt hsc
    (fun _ => zip_physical fields arrs (C04_physical_root O ext t F vs fields arrs hroot hwt hlen hfields htm)) hfields htm
  exact readAll_of_core t vs fields arrs hacc hnew hread

/-- **`from_type` succeeds on every supported root kind** that can be walked and mapped within the pass budget, and returns
the columns of the documented mapping (`C04_fromType_ok` for every root) -/
theorem C04_fromType_ok_root (c : Trace.Code) (O : Trace.Options) (h0 : O.overwrites = []) (t : Ty) (F : Fields)
    (hroot : rootCols (viewOpts O) t = some F)
    (hw : Trace.Spec.walkable O "$" (toTraceTy t) = true)
    (hm : mappable (viewOpts O) t = true)
    (hb : Trace.Spec.passes (toTraceTy t) ≤ O.from_type_budget) :
    Trace.fromType c O (toTraceTy t) = .ok F.toList :=
  fromType_ok_root c O h0 t F hroot hw hm hb

/-- **a root that is not traced to a non-nullable struct is refused**: `from_type` returns no schema for `()`, a unit
struct, a scalar, an Option, a sequence, a map, an enum, or a newtype struct around one of those — whatever the options
(without overwrites), whatever the exploration order (`Tracer::to_schema`: "The root type cannot be nullable", "No records
found to determine schema", "Schema tracing is not directly supported for the root data type …") -/
theorem C04_root_refused (c : Trace.Code) (O : Trace.Options) (h0 : O.overwrites = []) (t : Ty)
    (hroot : recordRoot t = false) : ∀ fields, Trace.fromType c O (toTraceTy t) ≠ .ok fields := by
  intro fields h
  have := C04_fromType_mapping c O h0 t fields h
  rw [mappingRoot_eq_rootCols] at this
  have hs : (rootCols (viewOpts O) t).isSome = true := by
    cases hr : rootCols (viewOpts O) t with
    | none => rw [hr] at this; cases this
    | some _ => rfl
  rw [rootCols_isSome_iff, hroot] at hs
  cases hs

/-- **acceptance of the traced schema, every supported root kind**: `to_marrow` succeeds on every batch of well-typed values
in scope against the schema `from_type` returned (`C04_accept_traced` for every root) -/
theorem C04_accept_traced_root (c : Trace.Code) (O : Trace.Options) (ext : Ext) (t : Ty) (F : Fields) (vs : List Val)
    (fields : List Field)
    (h0 : O.overwrites = []) (hfrag : fragE t = true) (hsz : sized t = true) (hroot : rootCols (viewOpts O) t = some F)
    (hwt : ∀ v ∈ vs, wt t v = true)
    (hsc : ∀ v ∈ vs, inScopeO (viewOpts O) t v = true)
    (hft : Trace.fromType c O (toTraceTy t) = .ok fields)
    (hcap : ((vs.map (ser t)).map (vsize ext)).sum ≤ 2147483647) :
    ∃ arrs, toMarrow ext fields (vs.map (ser t)) = .ok arrs := by
  have hfields := C04_fromType_fields_root c O h0 t F hroot fields hft
  obtain ⟨root0, hr0, hc, htot, hrows, hroom⟩ := accept_hyps_root O ext t F vs fields hfrag hsz hroot hwt hsc hfields hcap
  have htyped := (Props.C03.fromType_good c O _ fields (by rw [h0]; intro kv hkv; cases hkv) hft).2
  exact Props.C01.toMarrow_complete' ext fields _ root0 hc hr0 htot htyped hrows hroom

/-- **acceptance, complete, every supported root kind** — no hypothesis about the result of `from_type` -/
theorem C04_accept_root (c : Trace.Code) (O : Trace.Options) (ext : Ext) (t : Ty) (F : Fields) (vs : List Val)
    (h0 : O.overwrites = []) (hfrag : fragE t = true) (hsz : sized t = true) (hroot : rootCols (viewOpts O) t = some F)
    (hwt : ∀ v ∈ vs, wt t v = true)
    (hsc : ∀ v ∈ vs, inScopeO (viewOpts O) t v = true)
    (hw : Trace.Spec.walkable O "$" (toTraceTy t) = true)
    (hm : mappable (viewOpts O) t = true)
    (hb : Trace.Spec.passes (toTraceTy t) ≤ O.from_type_budget)
    (hcap : ((vs.map (ser t)).map (vsize ext)).sum ≤ 2147483647) :
    ∃ fields, Trace.fromType c O (toTraceTy t) = .ok fields ∧ ∃ arrs, toMarrow ext fields (vs.map (ser t)) = .ok arrs :=
  ⟨_, C04_fromType_ok_root c O h0 t F hroot hw hm hb,
    C04_accept_traced_root c O ext t F vs _ h0 hfrag hsz hroot hwt hsc (C04_fromType_ok_root c O h0 t F hroot hw hm hb) hcap⟩

/-- **C04 end to end, EVERY SUPPORTED ROOT KIND** — the property itself for any item type traced to a non-nullable struct
with at least one column (a struct with named fields, a tuple struct, a tuple / array, a newtype struct around one of
these; `rootCols_isSome_iff`): `from_type` returns a schema, serializing any batch of well-typed values in scope against it
succeeds, and reading everything back — into the root type's own target — returns the batch, normalised.  NO residual
hypothesis, every `ext`, every option: the hypotheses are those of `C04_end_to_end` with `fs ≠ nil` read as "at least one
column".  `C04_end_to_end` is the case `t = struct n fs`. -/
theorem C04_end_to_end_root (c : Trace.Code) (O : Trace.Options) (ext : Ext) (t : Ty) (F : Fields) (vs : List Val)
    (h0 : O.overwrites = []) (hfrag : fragE t = true) (hsz : sized t = true)
    (hroot : rootCols (viewOpts O) t = some F) (hne : F ≠ .nil)
    (hwt : ∀ v ∈ vs, wt t v = true)
    (hsc : ∀ v ∈ vs, inScopeO (viewOpts O) t v = true)
    (hw : Trace.Spec.walkable O "$" (toTraceTy t) = true)
    (hm : mappable (viewOpts O) t = true)
    (hb : Trace.Spec.passes (toTraceTy t) ≤ O.from_type_budget)
    (hcap : ((vs.map (ser t)).map (vsize ext)).sum ≤ 2147483647) :
    ∃ fields arrs, Trace.fromType c O (toTraceTy t) = .ok fields ∧
      toMarrow ext fields (vs.map (ser t)) = .ok arrs ∧
      readAll (toTarget t) fields arrs = .ok (vs.map fun v => dvalOf t (norm t v)) := by
  have hft := C04_fromType_ok_root c O h0 t F hroot hw hm hb
  obtain ⟨arrs, htm⟩ := C04_accept_traced_root c O ext t F vs _ h0 hfrag hsz hroot hwt hsc hft hcap
  exact ⟨_, arrs, hft, htm,
    C04_roundtrip_bulk_root c O ext t F vs _ arrs h0 hfrag hroot hne hwt hsc (length_of_cap ext _ vs hcap) hft htm⟩

/-- **the round trip is literally the identity, every supported root kind**, where no `Option` sits directly over a nullable
position (`plainOpt`): `C04_roundtrip_identity` for every root -/
theorem C04_roundtrip_identity_root (c : Trace.Code) (O : Trace.Options) (ext : Ext) (t : Ty) (F : Fields) (vs : List Val)
    (fields : List Field) (arrs : List Arr)
    (h0 : O.overwrites = []) (hfrag : fragE t = true) (hplain : plainOpt t = true)
    (hroot : rootCols (viewOpts O) t = some F) (hne : F ≠ .nil)
    (hwt : ∀ v ∈ vs, wt t v = true)
    (hsc : ∀ v ∈ vs, inScopeO (viewOpts O) t v = true)
    (hlen : vs.length ≤ 9223372036854775807)
    (hft : Trace.fromType c O (toTraceTy t) = .ok fields)
    (htm : toMarrow ext fields (vs.map (ser t)) = .ok arrs) :
    readAll (toTarget t) fields arrs = .ok (vs.map (dvalOf t)) := by
  rw [C04_roundtrip_bulk_root c O ext t F vs fields arrs h0 hfrag hroot hne hwt hsc hlen hft htm, map_dvalOf_norm t vs hplain hwt]

/-- the bulk round trip for traced schemas WITHOUT Dictionary columns, every supported root kind: no size bound on the
batch (`C04_roundtrip_bulk_plain` for every root; `Read.physical` from `physicalFields_of_wf` / `rootCols_plain`) -/
theorem C04_roundtrip_bulk_plain_root (c : Trace.Code) (O : Trace.Options) (ext : Ext) (t : Ty) (F : Fields) (vs : List Val)
    (fields : List Field) (arrs : List Arr)
    (h0 : O.overwrites = []) (hd : O.string_dictionary_encoding = false) (he : O.enums_without_data_as_strings = false)
    (hfrag : fragE t = true) (hroot : rootCols (viewOpts O) t = some F) (hne : F ≠ .nil)
    (hwt : ∀ v ∈ vs, wt t v = true)
    (hsc : ∀ v ∈ vs, inScopeO (viewOpts O) t v = true)
    (hft : Trace.fromType c O (toTraceTy t) = .ok fields)
    (htm : toMarrow ext fields (vs.map (ser t)) = .ok arrs) :
    readAll (toTarget t) fields arrs = .ok (vs.map fun v => dvalOf t (norm t v)) := by
  have hfields := C04_fromType_fields_root c O h0 t F hroot fields hft
  obtain ⟨hacc, hnew, hread⟩ := C04_roundtrip_core_root O ext t F vs fields arrs hfrag hroot hne hwt hsc
    (fun h => physicalFields_of_wf _ F _ h (rootCols_plain (o := viewOpts O) hd he hroot)) hfields htm
  exact readAll_of_core t vs fields arrs hacc hnew hread

/-- **C04 end to end at the codec models, every supported root kind** (what the driver runs): an instance of
`C04_end_to_end_root`, which has no hypothesis about `ext` -/
theorem C04_end_to_end_codec_root (f32Str f64Str : Nat → String) (cast : Nat → Int → Bool → Nat → Option (Bool × Int))
    (c : Trace.Code) (O : Trace.Options) (t : Ty) (F : Fields) (vs : List Val)
    (h0 : O.overwrites = []) (hfrag : fragE t = true) (hsz : sized t = true)
    (hroot : rootCols (viewOpts O) t = some F) (hne : F ≠ .nil)
    (hwt : ∀ v ∈ vs, wt t v = true)
    (hsc : ∀ v ∈ vs, inScopeO (viewOpts O) t v = true)
    (hw : Trace.Spec.walkable O "$" (toTraceTy t) = true)
    (hm : mappable (viewOpts O) t = true)
    (hb : Trace.Spec.passes (toTraceTy t) ≤ O.from_type_budget)
    (hcap : ((vs.map (ser t)).map (vsize (Props.C16.codecExt f32Str f64Str cast))).sum ≤ 2147483647) :
    ∃ fields arrs, Trace.fromType c O (toTraceTy t) = .ok fields ∧
      toMarrow (Props.C16.codecExt f32Str f64Str cast) fields (vs.map (ser t)) = .ok arrs ∧
      readAll (toTarget t) fields arrs = .ok (vs.map fun v => dvalOf t (norm t v)) :=
  C04_end_to_end_root c O _ t F vs h0 hfrag hsz hroot hne hwt hsc hw hm hb hcap

end SaModel.Props.C04
