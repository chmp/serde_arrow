import SaModel.Props.C04Root
/-
C04 by ROOT KIND: the general theorems of Props/C04Root2.lean (any root traced to a non-nullable struct) instantiated for

  * a TUPLE root          `(A, B, …)`, `[A; N]`            columns "0", "1", …        `…_tuple_root`
  * a TUPLE STRUCT root   `struct T(A, B, …)`               columns "0", "1", …        `…_tuple_struct_root`
  * a NEWTYPE root        `struct N(T)`, `T` any supported root (a record, a tuple struct, a tuple, again a newtype)
                                                            the columns of `T`         `…_newtype_root`
                          (without the premises `fromType = ok`, `toMarrow = ok` of `C04_roundtrip_bulk_newtype_root`:
                          `C04_accept_newtype_root`, `C04_end_to_end_newtype_root`)
  * the roots the crate REFUSES: unit struct, `()`, scalar, Option, Vec, map, enum (and newtypes of those)
                                                                                        `C04_…_root_refused`
  * the EMPTY roots (`struct Empty {}`, `struct T()`, `()`-less tuples: zero columns): `from_type` accepts them, the
    record count is lost — the property is FALSE there (`C04_empty_root_loses_records`; crate finding
    C04-empty-root-struct-loses-row-count)

with a non-vacuity example (every hypothesis computed) beside each.
-/
namespace SaModel.Props.C04
open SaModel SaModel.Build SaModel.Spec SaModel.Roundtrip

/-- **bulk round trip, TUPLE root** `(A, B, …)` (also `[A; N]`): hypotheses of `C04_roundtrip_bulk` about the tuple -/
theorem C04_roundtrip_bulk_tuple_root (c : Trace.Code) (O : Trace.Options) (ext : Ext) (ts : Tys) (vs : List Val)
    (fields : List Field) (arrs : List Arr)
    (h0 : O.overwrites = []) (hfrag : fragE (.tuple ts) = true) (hne : ts ≠ .nil)
    (hwt : ∀ v ∈ vs, wt (.tuple ts) v = true)
    (hsc : ∀ v ∈ vs, inScopeO (viewOpts O) (.tuple ts) v = true)
    (hlen : vs.length ≤ 9223372036854775807)
    (hft : Trace.fromType c O (toTraceTy (.tuple ts)) = .ok fields)
    (htm : toMarrow ext fields (vs.map (ser (.tuple ts))) = .ok arrs) :
    readAll (toTarget (.tuple ts)) fields arrs = .ok (vs.map fun v => dvalOf (.tuple ts) (norm (.tuple ts) v)) :=
  C04_roundtrip_bulk_root c O ext _ _ vs fields arrs h0 hfrag (rootCols_tuple _ ts) (mappingPos_ne_nil _ 0 ts hne) hwt hsc hlen hft htm

/-- **acceptance, TUPLE root**: `from_type::<(A, B, …)>` returns a schema (the columns "0", "1", …) and `to_marrow` accepts
every batch of well-typed values in scope against it -/
theorem C04_accept_tuple_root (c : Trace.Code) (O : Trace.Options) (ext : Ext) (ts : Tys) (vs : List Val)
    (h0 : O.overwrites = []) (hfrag : fragE (.tuple ts) = true) (hsz : sized (.tuple ts) = true)
    (hwt : ∀ v ∈ vs, wt (.tuple ts) v = true)
    (hsc : ∀ v ∈ vs, inScopeO (viewOpts O) (.tuple ts) v = true)
    (hw : Trace.Spec.walkable O "$" (toTraceTy (.tuple ts)) = true)
    (hm : mappable (viewOpts O) (.tuple ts) = true)
    (hb : Trace.Spec.passes (toTraceTy (.tuple ts)) ≤ O.from_type_budget)
    (hcap : ((vs.map (ser (.tuple ts))).map (vsize ext)).sum ≤ 2147483647) :
    Trace.fromType c O (toTraceTy (.tuple ts)) = .ok (mappingPos (viewOpts O) 0 ts).toList ∧
      ∃ arrs, toMarrow ext (mappingPos (viewOpts O) 0 ts).toList (vs.map (ser (.tuple ts))) = .ok arrs := by
  have hft := C04_fromType_ok_root c O h0 _ _ (rootCols_tuple _ ts) hw hm hb
  exact ⟨hft, C04_accept_traced_root c O ext _ _ vs _ h0 hfrag hsz (rootCols_tuple _ ts) hwt hsc hft hcap⟩

/-- **C04 end to end, TUPLE root** — no premise about `from_type` / `to_marrow` -/
theorem C04_end_to_end_tuple_root (c : Trace.Code) (O : Trace.Options) (ext : Ext) (ts : Tys) (vs : List Val)
    (h0 : O.overwrites = []) (hfrag : fragE (.tuple ts) = true) (hsz : sized (.tuple ts) = true) (hne : ts ≠ .nil)
    (hwt : ∀ v ∈ vs, wt (.tuple ts) v = true)
    (hsc : ∀ v ∈ vs, inScopeO (viewOpts O) (.tuple ts) v = true)
    (hw : Trace.Spec.walkable O "$" (toTraceTy (.tuple ts)) = true)
    (hm : mappable (viewOpts O) (.tuple ts) = true)
    (hb : Trace.Spec.passes (toTraceTy (.tuple ts)) ≤ O.from_type_budget)
    (hcap : ((vs.map (ser (.tuple ts))).map (vsize ext)).sum ≤ 2147483647) :
    ∃ fields arrs, Trace.fromType c O (toTraceTy (.tuple ts)) = .ok fields ∧
      toMarrow ext fields (vs.map (ser (.tuple ts))) = .ok arrs ∧
      readAll (toTarget (.tuple ts)) fields arrs = .ok (vs.map fun v => dvalOf (.tuple ts) (norm (.tuple ts) v)) :=
  C04_end_to_end_root c O ext _ _ vs h0 hfrag hsz (rootCols_tuple _ ts) (mappingPos_ne_nil _ 0 ts hne) hwt hsc hw hm hb hcap

/-- **bulk round trip, TUPLE STRUCT root** `struct T(A, B, …)` -/
theorem C04_roundtrip_bulk_tuple_struct_root (c : Trace.Code) (O : Trace.Options) (ext : Ext) (n : String) (ts : Tys)
    (vs : List Val) (fields : List Field) (arrs : List Arr)
    (h0 : O.overwrites = []) (hfrag : fragE (.tupleStruct n ts) = true) (hne : ts ≠ .nil)
    (hwt : ∀ v ∈ vs, wt (.tupleStruct n ts) v = true)
    (hsc : ∀ v ∈ vs, inScopeO (viewOpts O) (.tupleStruct n ts) v = true)
    (hlen : vs.length ≤ 9223372036854775807)
    (hft : Trace.fromType c O (toTraceTy (.tupleStruct n ts)) = .ok fields)
    (htm : toMarrow ext fields (vs.map (ser (.tupleStruct n ts))) = .ok arrs) :
    readAll (toTarget (.tupleStruct n ts)) fields arrs =
      .ok (vs.map fun v => dvalOf (.tupleStruct n ts) (norm (.tupleStruct n ts) v)) :=
  C04_roundtrip_bulk_root c O ext _ _ vs fields arrs h0 hfrag (rootCols_tupleStruct _ n ts) (mappingPos_ne_nil _ 0 ts hne)
    hwt hsc hlen hft htm

/-- **acceptance, TUPLE STRUCT root** -/
theorem C04_accept_tuple_struct_root (c : Trace.Code) (O : Trace.Options) (ext : Ext) (n : String) (ts : Tys) (vs : List Val)
    (h0 : O.overwrites = []) (hfrag : fragE (.tupleStruct n ts) = true) (hsz : sized (.tupleStruct n ts) = true)
    (hwt : ∀ v ∈ vs, wt (.tupleStruct n ts) v = true)
    (hsc : ∀ v ∈ vs, inScopeO (viewOpts O) (.tupleStruct n ts) v = true)
    (hw : Trace.Spec.walkable O "$" (toTraceTy (.tupleStruct n ts)) = true)
    (hm : mappable (viewOpts O) (.tupleStruct n ts) = true)
    (hb : Trace.Spec.passes (toTraceTy (.tupleStruct n ts)) ≤ O.from_type_budget)
    (hcap : ((vs.map (ser (.tupleStruct n ts))).map (vsize ext)).sum ≤ 2147483647) :
    Trace.fromType c O (toTraceTy (.tupleStruct n ts)) = .ok (mappingPos (viewOpts O) 0 ts).toList ∧
      ∃ arrs, toMarrow ext (mappingPos (viewOpts O) 0 ts).toList (vs.map (ser (.tupleStruct n ts))) = .ok arrs := by
  have hft := C04_fromType_ok_root c O h0 _ _ (rootCols_tupleStruct _ n ts) hw hm hb
  exact ⟨hft, C04_accept_traced_root c O ext _ _ vs _ h0 hfrag hsz (rootCols_tupleStruct _ n ts) hwt hsc hft hcap⟩

/-- **C04 end to end, TUPLE STRUCT root** -/
theorem C04_end_to_end_tuple_struct_root (c : Trace.Code) (O : Trace.Options) (ext : Ext) (n : String) (ts : Tys)
    (vs : List Val)
    (h0 : O.overwrites = []) (hfrag : fragE (.tupleStruct n ts) = true) (hsz : sized (.tupleStruct n ts) = true) (hne : ts ≠ .nil)
    (hwt : ∀ v ∈ vs, wt (.tupleStruct n ts) v = true)
    (hsc : ∀ v ∈ vs, inScopeO (viewOpts O) (.tupleStruct n ts) v = true)
    (hw : Trace.Spec.walkable O "$" (toTraceTy (.tupleStruct n ts)) = true)
    (hm : mappable (viewOpts O) (.tupleStruct n ts) = true)
    (hb : Trace.Spec.passes (toTraceTy (.tupleStruct n ts)) ≤ O.from_type_budget)
    (hcap : ((vs.map (ser (.tupleStruct n ts))).map (vsize ext)).sum ≤ 2147483647) :
    ∃ fields arrs, Trace.fromType c O (toTraceTy (.tupleStruct n ts)) = .ok fields ∧
      toMarrow ext fields (vs.map (ser (.tupleStruct n ts))) = .ok arrs ∧
      readAll (toTarget (.tupleStruct n ts)) fields arrs =
        .ok (vs.map fun v => dvalOf (.tupleStruct n ts) (norm (.tupleStruct n ts) v)) :=
  C04_end_to_end_root c O ext _ _ vs h0 hfrag hsz (rootCols_tupleStruct _ n ts) (mappingPos_ne_nil _ 0 ts hne) hwt hsc hw hm hb hcap

/-! ### newtype roots: `struct N(T)` around ANY supported root `T` (a record, a tuple struct, a tuple, again a newtype) -/

/-- **bulk round trip, NEWTYPE root around any supported root** (`C04_roundtrip_bulk_newtype_root` of Props/C04Root.lean is the
case `T = struct n fs`) -/
theorem C04_roundtrip_bulk_newtype_root' (c : Trace.Code) (O : Trace.Options) (ext : Ext) (m : String) (t : Ty) (F : Fields)
    (vs : List Val) (fields : List Field) (arrs : List Arr)
    (h0 : O.overwrites = []) (hfrag : fragE (.newtype m t) = true) (hroot : rootCols (viewOpts O) t = some F) (hne : F ≠ .nil)
    (hwt : ∀ v ∈ vs, wt (.newtype m t) v = true)
    (hsc : ∀ v ∈ vs, inScopeO (viewOpts O) (.newtype m t) v = true)
    (hlen : vs.length ≤ 9223372036854775807)
    (hft : Trace.fromType c O (toTraceTy (.newtype m t)) = .ok fields)
    (htm : toMarrow ext fields (vs.map (ser (.newtype m t))) = .ok arrs) :
    readAll (toTarget (.newtype m t)) fields arrs = .ok (vs.map fun v => dvalOf (.newtype m t) (norm (.newtype m t) v)) :=
  C04_roundtrip_bulk_root c O ext _ F vs fields arrs h0 hfrag (by rw [rootCols_newtype]; exact hroot) hne hwt hsc hlen hft htm

/-- **acceptance, NEWTYPE root** — the premise `fromType = ok` of `C04_roundtrip_bulk_newtype_root` DERIVED from the
documented preconditions, and `to_marrow` accepts every batch: `from_type::<N>` returns the columns of the inner root -/
theorem C04_accept_newtype_root (c : Trace.Code) (O : Trace.Options) (ext : Ext) (m : String) (t : Ty) (F : Fields)
    (vs : List Val)
    (h0 : O.overwrites = []) (hfrag : fragE (.newtype m t) = true) (hsz : sized (.newtype m t) = true)
    (hroot : rootCols (viewOpts O) t = some F)
    (hwt : ∀ v ∈ vs, wt (.newtype m t) v = true)
    (hsc : ∀ v ∈ vs, inScopeO (viewOpts O) (.newtype m t) v = true)
    (hw : Trace.Spec.walkable O "$" (toTraceTy (.newtype m t)) = true)
    (hm : mappable (viewOpts O) (.newtype m t) = true)
    (hb : Trace.Spec.passes (toTraceTy (.newtype m t)) ≤ O.from_type_budget)
    (hcap : ((vs.map (ser (.newtype m t))).map (vsize ext)).sum ≤ 2147483647) :
    Trace.fromType c O (toTraceTy (.newtype m t)) = .ok F.toList ∧
      ∃ arrs, toMarrow ext F.toList (vs.map (ser (.newtype m t))) = .ok arrs := by
  have hr : rootCols (viewOpts O) (.newtype m t) = some F := by rw [rootCols_newtype]; exact hroot
  have hft := C04_fromType_ok_root c O h0 _ _ hr hw hm hb
  exact ⟨hft, C04_accept_traced_root c O ext _ _ vs _ h0 hfrag hsz hr hwt hsc hft hcap⟩

/-- **C04 end to end, NEWTYPE root** — without the two premises of `C04_roundtrip_bulk_newtype_root` -/
theorem C04_end_to_end_newtype_root (c : Trace.Code) (O : Trace.Options) (ext : Ext) (m : String) (t : Ty) (F : Fields)
    (vs : List Val)
    (h0 : O.overwrites = []) (hfrag : fragE (.newtype m t) = true) (hsz : sized (.newtype m t) = true)
    (hroot : rootCols (viewOpts O) t = some F) (hne : F ≠ .nil)
    (hwt : ∀ v ∈ vs, wt (.newtype m t) v = true)
    (hsc : ∀ v ∈ vs, inScopeO (viewOpts O) (.newtype m t) v = true)
    (hw : Trace.Spec.walkable O "$" (toTraceTy (.newtype m t)) = true)
    (hm : mappable (viewOpts O) (.newtype m t) = true)
    (hb : Trace.Spec.passes (toTraceTy (.newtype m t)) ≤ O.from_type_budget)
    (hcap : ((vs.map (ser (.newtype m t))).map (vsize ext)).sum ≤ 2147483647) :
    ∃ fields arrs, Trace.fromType c O (toTraceTy (.newtype m t)) = .ok fields ∧
      toMarrow ext fields (vs.map (ser (.newtype m t))) = .ok arrs ∧
      readAll (toTarget (.newtype m t)) fields arrs = .ok (vs.map fun v => dvalOf (.newtype m t) (norm (.newtype m t) v)) :=
  C04_end_to_end_root c O ext _ F vs h0 hfrag hsz (by rw [rootCols_newtype]; exact hroot) hne hwt hsc hw hm hb hcap

/-- the case of Props/C04Root.lean (a newtype of a record), end to end: `struct N(S)`, `S = struct n fs` -/
theorem C04_end_to_end_newtype_of_record (c : Trace.Code) (O : Trace.Options) (ext : Ext) (m n : String) (fs : TFields)
    (vs : List Val)
    (h0 : O.overwrites = []) (hfrag : fragE (.struct n fs) = true) (hsz : sized (.struct n fs) = true) (hne : fs ≠ .nil)
    (hwt : ∀ v ∈ vs, wt (.newtype m (.struct n fs)) v = true)
    (hsc : ∀ v ∈ vs, inScopeO (viewOpts O) (.newtype m (.struct n fs)) v = true)
    (hw : Trace.Spec.walkable O "$" (toTraceTy (.newtype m (.struct n fs))) = true)
    (hm : mappable (viewOpts O) (.struct n fs) = true)
    (hb : Trace.Spec.passes (toTraceTy (.newtype m (.struct n fs))) ≤ O.from_type_budget)
    (hcap : ((vs.map (ser (.newtype m (.struct n fs)))).map (vsize ext)).sum ≤ 2147483647) :
    ∃ fields arrs, Trace.fromType c O (toTraceTy (.newtype m (.struct n fs))) = .ok fields ∧
      toMarrow ext fields (vs.map (ser (.newtype m (.struct n fs)))) = .ok arrs ∧
      readAll (toTarget (.newtype m (.struct n fs))) fields arrs =
        .ok (vs.map fun v => dvalOf (.newtype m (.struct n fs)) (norm (.newtype m (.struct n fs)) v)) :=
  C04_end_to_end_newtype_root c O ext m _ _ vs h0 (by simpa [fragE] using hfrag) (by simpa [sized] using hsz)
    (rootCols_struct _ n fs) (mappingFields_ne_nil _ fs hne) hwt hsc hw (by simpa [mappable] using hm) hb hcap

/-- a UNIT STRUCT root (`struct U;`) is refused — every option set, `allow_null_fields` included -/
theorem C04_unit_struct_root_refused (c : Trace.Code) (O : Trace.Options) (h0 : O.overwrites = []) (n : String) :
    ∀ fields, Trace.fromType c O (toTraceTy (.unitStruct n)) ≠ .ok fields :=
  C04_root_refused c O h0 _ rfl

/-- `()` as the root is refused -/
theorem C04_unit_root_refused (c : Trace.Code) (O : Trace.Options) (h0 : O.overwrites = []) :
    ∀ fields, Trace.fromType c O (toTraceTy .unit) ≠ .ok fields :=
  C04_root_refused c O h0 _ rfl

/-- a scalar root (`i64`, `String`, …) is refused (the documentation points to the `Item` wrapper) -/
theorem C04_scalar_root_refused (c : Trace.Code) (O : Trace.Options) (h0 : O.overwrites = []) (p : Prim) :
    ∀ fields, Trace.fromType c O (toTraceTy (.prim p)) ≠ .ok fields :=
  C04_root_refused c O h0 _ rfl

/-- `Option<T>` as the root is refused, whatever `T` ("The root type cannot be nullable") -/
theorem C04_option_root_refused (c : Trace.Code) (O : Trace.Options) (h0 : O.overwrites = []) (t : Ty) :
    ∀ fields, Trace.fromType c O (toTraceTy (.option t)) ≠ .ok fields :=
  C04_root_refused c O h0 _ rfl

/-- a sequence root (`Vec<T>`) is refused -/
theorem C04_vec_root_refused (c : Trace.Code) (O : Trace.Options) (h0 : O.overwrites = []) (t : Ty) :
    ∀ fields, Trace.fromType c O (toTraceTy (.vec t)) ≠ .ok fields :=
  C04_root_refused c O h0 _ rfl

/-- a map root is refused (under `map_as_struct` already by the tracer, otherwise as a Map root) -/
theorem C04_map_root_refused (c : Trace.Code) (O : Trace.Options) (h0 : O.overwrites = []) (k v : Ty) :
    ∀ fields, Trace.fromType c O (toTraceTy (.map k v)) ≠ .ok fields :=
  C04_root_refused c O h0 _ rfl

/-- an enum root is refused (a Union or, for a data-less enum stored as strings, a Dictionary — not a struct) -/
theorem C04_enum_root_refused (c : Trace.Code) (O : Trace.Options) (h0 : O.overwrites = []) (n : String) (vars : Variants) :
    ∀ fields, Trace.fromType c O (toTraceTy (.enum n vars)) ≠ .ok fields :=
  C04_root_refused c O h0 _ rfl

/-- a newtype struct around a refused root is refused (`struct N(i64)`, `struct N(Option<S>)`, `struct N(U)`, …) -/
theorem C04_newtype_of_refused_root_refused (c : Trace.Code) (O : Trace.Options) (h0 : O.overwrites = []) (n : String) (t : Ty)
    (h : recordRoot t = false) : ∀ fields, Trace.fromType c O (toTraceTy (.newtype n t)) ≠ .ok fields :=
  C04_root_refused c O h0 _ (by simpa [recordRoot] using h)

/-- **the supported root kinds, exactly**: under the documented preconditions (`walkable`, `mappable`, budget, no overwrites)
`from_type` returns a schema for a root type IF AND ONLY IF the type is a struct with named fields, a tuple struct, a tuple, or
a newtype struct around one of these -/
theorem C04_root_accepted_iff (c : Trace.Code) (O : Trace.Options) (h0 : O.overwrites = []) (t : Ty)
    (hw : Trace.Spec.walkable O "$" (toTraceTy t) = true)
    (hm : mappable (viewOpts O) t = true)
    (hb : Trace.Spec.passes (toTraceTy t) ≤ O.from_type_budget) :
    (∃ fields, Trace.fromType c O (toTraceTy t) = .ok fields) ↔ recordRoot t = true := by
  constructor
  · rintro ⟨fields, h⟩
    cases hr : recordRoot t with
    | true => rfl
    | false => exact absurd h (C04_root_refused c O h0 t hr fields)
  · intro hr
    have hs := rootCols_isSome_iff (viewOpts O) t
    rw [hr] at hs
    obtain ⟨F, hF⟩ := Option.isSome_iff_exists.mp hs
    exact ⟨_, C04_fromType_ok_root c O h0 t F hF hw hm hb⟩

/-! ### the empty roots: accepted by `from_type`, and the record count is lost

A root traced to a struct with ZERO columns (`struct Empty {}`, `struct T();`, the empty tuple struct; `fs ≠ nil` /
`F ≠ nil` is a hypothesis of every round-trip theorem) is accepted by `from_type` (the schema is `[]`), `to_marrow` returns no
array, and reading back returns NO record whatever the batch was: the property is false for every non-empty batch.  Crate
finding C04-empty-root-struct-loses-row-count (known_findings.d/C04.json), exhibited on every run by the zoo type `Empty`. -/

theorem readAll_no_columns (tg : Read.Target) : readAll tg [] [] = .ok [] := by
  simp [readAll, Access.new, Props.C13.bulk_eq_items, rootArr, zipCols, Read.new, Read.newFields, bind, Except.bind, pure, Except.pure]

/-- **the empty root loses the records**: for a root with zero columns `from_type` succeeds with the empty schema, and
whatever `to_marrow` returned for a batch, reading back yields the EMPTY list — not the batch, unless it was empty -/
theorem C04_empty_root_loses_records (c : Trace.Code) (O : Trace.Options) (t : Ty) (vs : List Val)
    (h0 : O.overwrites = []) (hroot : rootCols (viewOpts O) t = some .nil)
    (hw : Trace.Spec.walkable O "$" (toTraceTy t) = true)
    (hm : mappable (viewOpts O) t = true)
    (hb : Trace.Spec.passes (toTraceTy t) ≤ O.from_type_budget)
    (hvs : vs ≠ []) :
    Trace.fromType c O (toTraceTy t) = .ok [] ∧
      readAll (toTarget t) [] [] = .ok [] ∧
      readAll (toTarget t) [] [] ≠ .ok (vs.map fun v => dvalOf t (norm t v)) := by
  refine ⟨C04_fromType_ok_root c O h0 t .nil hroot hw hm hb, readAll_no_columns _, ?_⟩
  rw [readAll_no_columns]
  intro h
  cases vs with
  | nil => exact hvs rfl
  | cons v r => simp at h

/-! ### non-vacuity: the zoo types with these root kinds (harness/src/zoo.rs), default options, every hypothesis computed -/

/-- `struct TupleStruct(pub i32, pub String, pub bool);` -/
def exTupleStruct : Ty := .tupleStruct "TupleStruct" (.cons (.prim (.int .i32)) (.cons (.prim .str) (.cons (.prim .bool) .nil)))
/-- `type RootTuple = (i32, String, Option<bool>);` -/
def exRootTuple : Ty := .tuple (.cons (.prim (.int .i32)) (.cons (.prim .str) (.cons (.option (.prim .bool)) .nil)))
def exTBatch : List Val :=
  [.tuple (.cons (.int 3) (.cons (.str "ab") (.cons (.bool true) .nil))),
   .tuple (.cons (.int (-2147483648)) (.cons (.str "ß") (.cons (.bool false) .nil)))]
def exRBatch : List Val :=
  [.tuple (.cons (.int 3) (.cons (.str "ab") (.cons (.some (.bool true)) .nil))),
   .tuple (.cons (.int (-1)) (.cons (.str "") (.cons .none .nil)))]

/-- the traced schemas: the columns "0", "1", "2" — the strategy TupleAsStruct of the root field is not part of the schema -/
example : Trace.fromType .fixed {} (toTraceTy exTupleStruct) =
    .ok [.mk "0" .int32 false [], .mk "1" .largeUtf8 false [], .mk "2" .boolean false []] := by decide +kernel
example : Trace.fromType .fixed {} (toTraceTy exRootTuple) =
    .ok [.mk "0" .int32 false [], .mk "1" .largeUtf8 false [], .mk "2" .boolean true []] := by decide +kernel
example : (mappingDT {} exRootTuple).2.2 = TUPLE_MD := by decide +kernel

example : ∃ fields arrs, Trace.fromType .fixed {} (toTraceTy exTupleStruct) = .ok fields ∧
    toMarrow {} fields (exTBatch.map (ser exTupleStruct)) = .ok arrs ∧
    readAll (toTarget exTupleStruct) fields arrs = .ok (exTBatch.map fun v => dvalOf exTupleStruct (norm exTupleStruct v)) :=
  C04_end_to_end_tuple_struct_root .fixed {} {} "TupleStruct" _ exTBatch rfl (by decide +kernel) (by decide +kernel) (by simp)
    (by decide +kernel) (by decide +kernel) (by decide +kernel) (by decide +kernel) (by decide +kernel) (by decide +kernel)

example : ∃ fields arrs, Trace.fromType .fixed {} (toTraceTy exRootTuple) = .ok fields ∧
    toMarrow {} fields (exRBatch.map (ser exRootTuple)) = .ok arrs ∧
    readAll (toTarget exRootTuple) fields arrs = .ok (exRBatch.map fun v => dvalOf exRootTuple (norm exRootTuple v)) :=
  C04_end_to_end_tuple_root .fixed {} {} _ exRBatch rfl (by decide +kernel) (by decide +kernel) (by simp)
    (by decide +kernel) (by decide +kernel) (by decide +kernel) (by decide +kernel) (by decide +kernel) (by decide +kernel)

/-- what comes back for a tuple root is a SEQUENCE (the visitor of `deserialize_tuple`), not a map -/
example : (exRBatch.map fun v => dvalOf exRootTuple (norm exRootTuple v)) =
    [.seq (.cons (.int .i32 3) (.cons (.str .owned [97, 98]) (.cons (.some (.bool true)) .nil))),
     .seq (.cons (.int .i32 (-1)) (.cons (.str .owned []) (.cons .none .nil)))] := by decide +kernel

/-- the newtype of a record (`struct NewtypeOfStruct(pub Inner);`, Props/C04Root.lean) END TO END: nothing assumed about
`from_type` / `to_marrow` -/
example : ∃ fields arrs, Trace.fromType .fixed {} (toTraceTy exNewtypeRoot) = .ok fields ∧
    toMarrow {} fields (exNBatch.map (ser exNewtypeRoot)) = .ok arrs ∧
    readAll (toTarget exNewtypeRoot) fields arrs = .ok (exNBatch.map fun v => dvalOf exNewtypeRoot (norm exNewtypeRoot v)) :=
  C04_end_to_end_newtype_of_record .fixed {} {} "NewtypeOfStruct" "Inner" _ exNBatch rfl (by decide +kernel) (by decide +kernel)
    (by simp) (by decide +kernel) (by decide +kernel) (by decide +kernel) (by decide +kernel) (by decide +kernel) (by decide +kernel)

/-- a newtype of a newtype of a record (`struct NewtypeOfNewtype(pub NewtypeOfStruct);`) and a newtype of a tuple struct
(`struct NewtypeOfTuple(pub TupleStruct);`) -/
def exNN : Ty := .newtype "NewtypeOfNewtype" exNewtypeRoot
def exNNBatch : List Val := exNBatch.map .newtype
def exNT : Ty := .newtype "NewtypeOfTuple" exTupleStruct
def exNTBatch : List Val := exTBatch.map .newtype

example : ∃ fields arrs, Trace.fromType .fixed {} (toTraceTy exNN) = .ok fields ∧
    toMarrow {} fields (exNNBatch.map (ser exNN)) = .ok arrs ∧
    readAll (toTarget exNN) fields arrs = .ok (exNNBatch.map fun v => dvalOf exNN (norm exNN v)) :=
  C04_end_to_end_newtype_root .fixed {} {} "NewtypeOfNewtype" exNewtypeRoot (mappingFields {} (tfieldsOf exInner)) exNNBatch rfl
    (by decide +kernel) (by decide +kernel) (by decide +kernel) (by decide +kernel) (by decide +kernel) (by decide +kernel)
    (by decide +kernel) (by decide +kernel) (by decide +kernel) (by decide +kernel)

example : ∃ fields arrs, Trace.fromType .fixed {} (toTraceTy exNT) = .ok fields ∧
    toMarrow {} fields (exNTBatch.map (ser exNT)) = .ok arrs ∧
    readAll (toTarget exNT) fields arrs = .ok (exNTBatch.map fun v => dvalOf exNT (norm exNT v)) :=
  C04_end_to_end_newtype_root .fixed {} {} "NewtypeOfTuple" exTupleStruct (mappingPos {} 0 (.cons (.prim (.int .i32)) (.cons (.prim .str) (.cons (.prim .bool) .nil)))) exNTBatch rfl
    (by decide +kernel) (by decide +kernel) (by decide +kernel) (by decide +kernel) (by decide +kernel) (by decide +kernel)
    (by decide +kernel) (by decide +kernel) (by decide +kernel) (by decide +kernel)

/-- the refusals are real errors of the tracer model (not panics, not vacuous): a unit struct with and without
`allow_null_fields`, `Option<Inner>`, a newtype of a scalar, an enum -/
example : Trace.fromType .fixed {} (toTraceTy (.unitStruct "U")) = .error (.err "Encountered null only field") ∧
    Trace.fromType .fixed { allow_null_fields := true } (toTraceTy (.unitStruct "U")) = .error (.err "The root type cannot be nullable") ∧
    (Trace.fromType .fixed {} (toTraceTy (.option exInner))).isOk = false ∧
    (Trace.fromType .fixed {} (toTraceTy (.newtype "N" (.prim (.int .i64))))).isOk = false ∧
    (Trace.fromType .fixed { allow_null_fields := true } (toTraceTy exColor)).isOk = false := by decide +kernel

/-- `C04_root_accepted_iff` on both sides: the preconditions hold of `exRootTuple` (accepted) and of `Option<Inner>` (refused) -/
example : (∃ fields, Trace.fromType .fixed {} (toTraceTy exRootTuple) = .ok fields) ∧
    ¬ (∃ fields, Trace.fromType .fixed {} (toTraceTy (.option exInner)) = .ok fields) :=
  ⟨(C04_root_accepted_iff .fixed {} rfl exRootTuple (by decide +kernel) (by decide +kernel) (by decide +kernel)).mpr rfl,
   fun h => by
    have := (C04_root_accepted_iff .fixed {} rfl (.option exInner) (by decide +kernel) (by decide +kernel) (by decide +kernel)).mp h
    cases this⟩

/-- the empty root `struct Empty {}`: accepted, two records in, none out -/
def exEmpty : Ty := .struct "Empty" .nil
example : Trace.fromType .fixed {} (toTraceTy exEmpty) = .ok [] ∧
    toMarrow {} [] ([Val.struct .nil, Val.struct .nil].map (ser exEmpty)) = .ok [] ∧
    readAll (toTarget exEmpty) [] [] ≠ .ok ([Val.struct .nil, Val.struct .nil].map fun v => dvalOf exEmpty (norm exEmpty v)) :=
  ⟨(C04_empty_root_loses_records .fixed {} exEmpty [Val.struct .nil, Val.struct .nil] rfl (by decide +kernel) (by decide +kernel)
      (by decide +kernel) (by decide +kernel) (by simp)).1,
   by decide +kernel,
   (C04_empty_root_loses_records .fixed {} exEmpty [Val.struct .nil, Val.struct .nil] rfl (by decide +kernel) (by decide +kernel)
      (by decide +kernel) (by decide +kernel) (by simp)).2.2⟩

/-- the identity form and the Dictionary-free form on the tuple struct root (`plainOpt`: no Option over a nullable position;
default options: no Dictionary column), against what `from_type` / `to_marrow` return -/
def exTFields : List Field := match Trace.fromType .fixed {} (toTraceTy exTupleStruct) with | .ok fs => fs | .error _ => []
def exTArrs : List Arr := match toMarrow {} exTFields (exTBatch.map (ser exTupleStruct)) with | .ok a => a | .error _ => []
theorem exTTrace : Trace.fromType .fixed {} (toTraceTy exTupleStruct) = .ok exTFields := by decide +kernel
theorem exTBuild : toMarrow {} exTFields (exTBatch.map (ser exTupleStruct)) = .ok exTArrs := by decide +kernel
example : exTFields.length = 3 ∧ exTArrs.length = 3 := by decide +kernel

example : readAll (toTarget exTupleStruct) exTFields exTArrs = .ok (exTBatch.map (dvalOf exTupleStruct)) :=
  C04_roundtrip_identity_root .fixed {} {} exTupleStruct
    (mappingPos {} 0 (.cons (.prim (.int .i32)) (.cons (.prim .str) (.cons (.prim .bool) .nil)))) exTBatch exTFields exTArrs rfl
    (by decide +kernel) (by decide +kernel) (by decide +kernel) (by decide +kernel) (by decide +kernel) (by decide +kernel)
    (by decide +kernel) exTTrace exTBuild

example : readAll (toTarget exTupleStruct) exTFields exTArrs =
    .ok (exTBatch.map fun v => dvalOf exTupleStruct (norm exTupleStruct v)) :=
  C04_roundtrip_bulk_plain_root .fixed {} {} exTupleStruct
    (mappingPos {} 0 (.cons (.prim (.int .i32)) (.cons (.prim .str) (.cons (.prim .bool) .nil)))) exTBatch exTFields exTArrs rfl rfl rfl
    (by decide +kernel) (by decide +kernel) (by decide +kernel) (by decide +kernel) (by decide +kernel) exTTrace exTBuild

end SaModel.Props.C04
