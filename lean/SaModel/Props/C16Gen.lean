import SaModel.Generated.ArithSites
/-
C16, obligation `gen_arith_sites`: the inventory of unwind / overflow sites is complete and argued.

`translator/arith_sites.py` lexes every non-test source file of serde_arrow (internal/**, *_impl.rs) and lists every
binary `+ - * / % << >>` (and compound assignment), unary `-`, `as <integer type>` cast, index / range slice,
`.unwrap()` / `.expect(..)`, panicking std method, allocation sized by an argument and panicking macro, keyed by
(file, function, kind, normalised expression, occurrence) — no line numbers.  `translator/arith_sites.json` gives each
site a class: `model:<definition>@<theorem>` (an explicit panic / error site of the Lean model, unreachable by the
named theorem; the reference itself is checked by `Props/C16Links.lean`), `guard:<shape> <comparison>` (behind a comparison of
the same function that the generator finds again in the sources), `range:<invariant>` (cannot overflow / be out of range),
`test-only`, or `OPEN`.  The generator REFUSES
(./check C16: VIOLATION … no-failing-input-found, obligation `translator`) a source site without a class, a class
without a site, a malformed class and a `model:` reference to a Lean name that does not exist; what it accepts is
written to `Generated/ArithSites.lean`, and the theorems below are the remaining obligation: nothing is OPEN, and the
counts are consistent (every site has exactly one kind and one class).

Trusted: the lexer (translator/arith_sites.py + rust_lex.py: which token shapes are sites) and the one-line `range:`
arguments, which are read by a human, not checked by Lean.  Not covered: code expanded from macros of other crates,
operator overloads of other crates (`NaiveDate + TimeDelta`: the crate uses the checked forms), panics inside
marrow / arrow / chrono, stack depth, allocation failure.
-/
namespace SaModel.Props.C16Gen
open SaModel.Generated.ArithSites

/-- no site of the inventory is unargued -/
theorem gen_arith_sites : openSites.length = 0 ∧ (siteClasses.lookup "OPEN").getD 0 = 0 := by decide +kernel

/-- every site has one kind and one class -/
theorem gen_arith_sites_counted :
    (siteKinds.map (·.2)).sum = siteCount ∧ (siteClasses.map (·.2)).sum = siteCount := by decide +kernel

/-- every recognised guard is counted once: the `guard` classes plus the rows of another class that carry a guard field -/
theorem gen_arith_sites_guards_counted :
    (guardKinds.map (·.2)).sum = (siteClasses.lookup "guard").getD 0 + guardAlso := by decide +kernel

/-- the inventory is not empty, and some sites are covered by model theorems (non-vacuity) -/
example : 300 < siteCount ∧ 100 < (siteClasses.lookup "model").getD 0 ∧ 20 ≤ modelRefs.length
    ∧ 10 ≤ (siteClasses.lookup "guard").getD 0 ∧ 10 ≤ guardAlso := by decide +kernel

/-- the union counter (`current_offset[variant_index] += 1`) is in the inventory, tied to the model definition that has
the capacity check -/
example : (modelRefs.lookup "serializeVariant@push_no_panic").isSome = true := by decide +kernel

end SaModel.Props.C16Gen
