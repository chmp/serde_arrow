import SaModel.Props.C01Obs
import SaModel.Props.C10Front
import SaModel.Build.Guarded
/-
C10 — ArrayBuilder: each build returns exactly the rows pushed since the last one.

A history is any sequence of `push r` / `extend rs` / `viaSerializer rs` / `build` operations on one `ArrayBuilder`.
* `take_is_fresh`: after ANY history the builder that `take` leaves behind is literally the builder
  `OuterSequenceBuilder::new(schema)` returned (paths, validity presence, offsets `[0]`, empty name cache, struct
  `next/seen`, union `current_offset`, dictionary index — equality of model states).  No invariant needed.
* `batches`: at build k the root holds exactly the rows added since build k-1 (R1: one row per record, all
  columns at that length; with R2: the rows are `interpRow` of those records), and it continues from the fresh
  builder.  By the induction over a history (`run_inv`: an addition is a fold of `push` over the rows it denotes,
  `add_fold`; a build restarts from the fresh builder) the state build k sees IS the state the one-shot run of batch k
  reaches (`run_folds`), so what Props/C01Obs.lean proves of `runRows` (`runRows_rows'`, `runRows_interp'`: the hidden-rows
  refinement, weak state invariant, NO `Safe` hypothesis) holds of it.  `batches_strict`: for `Safe` schemas the states are
  moreover strictly well formed (`WFB`; false without `Safe`).  `batches_gen`: the same induction for any state invariant
  that every accepted push keeps.
The statements about the ARRAYS each build returns (`C10_histories`, `C10_chunking_irrelevant`, `C10_build_is_fresh`) are in
Props/C10Arrays.lean: every build is physically the one-shot `toMarrow` of its batch, hence decodes by `C01.C01_build_decode'` (Props/C01Obs.lean; no `Safe`).
-/
namespace SaModel.Props.C10
open SaModel SaModel.Build SaModel.Spec

/-- operations on an `ArrayBuilder` -/
inductive Op where
  /-- `ArrayBuilder::push(&record)` -/
  | push (x : SVal)
  /-- `ArrayBuilder::extend(&records)` -/
  | extend (x : SVal)
  /-- `records.serialize(Serializer::new(&mut builder))` (serializer.rs) -/
  | viaSerializer (x : SVal)
  /-- `build_arrays` / `to_arrow` / `to_record_batch` … -/
  | build

/-- run a history; every `build` records the root state it saw and the arrays it returned -/
def run (ext : Ext) : B → List Op → R (List (B × List Arr) × B)
  | root, [] => .ok ([], root)
  | root, .push x :: ops => do
    let r ← push ext root x
    run ext r ops
  | root, .extend x :: ops => do
    let r ← extend ext root x
    run ext r ops
  | root, .viaSerializer x :: ops => do
    let r ← serializeWith ext root x
    run ext r ops
  | root, .build :: ops => do
    let (arrs, rest) ← buildArrays ext root
    let (outs, fin) ← run ext rest ops
    pure ((root, arrs) :: outs, fin)

/-- the records an `extend` argument denotes (a sequence / tuple / tuple struct behind `Some` / newtype layers) -/
def extRows : SVal → Option (List SVal)
  | .some v => extRows v
  | .newtypeStruct _ v => extRows v
  | .seq xs => some xs.toList
  | .tuple xs => some xs.toList
  | .tupleStruct _ xs => some xs.toList
  | _ => none

/-- the records a `Serializer` argument denotes (a sequence / tuple / tuple struct / tuple variant behind newtype
struct / newtype variant layers) -/
def serRows : SVal → Option (List SVal)
  | .newtypeStruct _ v => serRows v
  | .newtypeVariant _ _ _ v => serRows v
  | .seq xs => some xs.toList
  | .tuple xs => some xs.toList
  | .tupleStruct _ xs => some xs.toList
  | .tupleVariant _ _ _ xs => some xs.toList
  | _ => none

def Op.rows : Op → List SVal
  | .push x => [x]
  | .extend x => (extRows x).getD []
  | .viaSerializer x => (serRows x).getD []
  | .build => []

/-- the batches of a history: the rows added between consecutive builds (`pending`: rows added so far since
the last build) -/
def batchesFrom (pending : List SVal) : List Op → List (List SVal)
  | [] => []
  | .build :: ops => pending :: batchesFrom [] ops
  | .push x :: ops => batchesFrom (pending ++ [x]) ops
  | .extend x :: ops => batchesFrom (pending ++ (extRows x).getD []) ops
  | .viaSerializer x :: ops => batchesFrom (pending ++ (serRows x).getD []) ops

/-- the rows added after the last build of a history (what the builder still holds at the end) -/
def trailing (pending : List SVal) : List Op → List SVal
  | [] => pending
  | .build :: ops => trailing [] ops
  | .push x :: ops => trailing (pending ++ [x]) ops
  | .extend x :: ops => trailing (pending ++ (extRows x).getD []) ops
  | .viaSerializer x :: ops => trailing (pending ++ (serRows x).getD []) ops

def Op.isBuild : Op → Bool
  | .build => true
  | _ => false

/-- an addition through its front end (a build adds nothing) -/
def Op.add (ext : Ext) (root : B) : Op → R B
  | .push x => Build.push ext root x
  | .extend x => Build.extend ext root x
  | .viaSerializer x => serializeWith ext root x
  | .build => .ok root

/-! ### an operation is a build or an addition -/

theorem Op.build_or_add (op : Op) : op = .build ∨ op.isBuild = false := by
  cases op with
  | build => exact .inl rfl
  | _ => exact .inr rfl

theorem run_add {op : Op} (hb : op.isBuild = false) (ext : Ext) (root : B) (ops : List Op) :
    run ext root (op :: ops) = op.add ext root >>= fun r => run ext r ops := by
  cases op with
  | build => cases hb
  | _ => rfl

theorem batchesFrom_add {op : Op} (hb : op.isBuild = false) (pending : List SVal) (ops : List Op) :
    batchesFrom pending (op :: ops) = batchesFrom (pending ++ op.rows) ops := by
  cases op with
  | build => cases hb
  | _ => rfl

theorem trailing_add {op : Op} (hb : op.isBuild = false) (pending : List SVal) (ops : List Op) :
    trailing pending (op :: ops) = trailing (pending ++ op.rows) ops := by
  cases op with
  | build => cases hb
  | _ => rfl

/-! ### the front ends are folds of `push` -/

theorem pushAll_eq_foldlM (ext : Ext) : ∀ (xs : SVals) (root : B),
    extend.pushAll ext root xs = xs.toList.foldlM (push ext) root
  | .nil, root => rfl
  | .cons x rest, root => by
    simp only [extend.pushAll, SVals.toList, List.foldlM]
    cases push ext root x with
    | error e => rfl
    | ok r => exact pushAll_eq_foldlM ext rest r

/-- a non-nullable struct refuses a null -/
theorem pushNone_struct_none {p len fs cached next seen} {r : B} :
    pushNone (.struct p len none fs cached next seen) ≠ .ok r := by
  intro h
  rw [pushNone, ctx_ok] at h
  exact nomatch h

/-- `extend` on a non-nullable root is a fold of `push` over the denoted records -/
theorem extend_spec (ext : Ext) : ∀ (x : SVal) (p : String) (len : Nat) (fs : BL) (cached next seen) (r : B),
    extend ext (.struct p len none fs cached next seen) x = .ok r →
    ∃ rows, extRows x = some rows ∧ rows.foldlM (push ext) (.struct p len none fs cached next seen) = .ok r := by
  intro x p len fs cached next seen r h
  cases x with
  | some v => exact extend_spec ext v p len fs cached next seen r h
  | newtypeStruct _ v => exact extend_spec ext v p len fs cached next seen r h
  | seq xs => exact ⟨_, rfl, pushAll_eq_foldlM ext xs _ ▸ h⟩
  | tuple xs => exact ⟨_, rfl, pushAll_eq_foldlM ext xs _ ▸ h⟩
  | tupleStruct _ xs => exact ⟨_, rfl, pushAll_eq_foldlM ext xs _ ▸ h⟩
  | none => exact absurd h pushNone_struct_none
  | unit => exact absurd h pushNone_struct_none
  | unitStruct _ => exact absurd h pushNone_struct_none
  | _ => exact nomatch (ctx_ok _ _ _).1 h
termination_by structural x => x

/-- the `Serializer` front end, unguarded and guarded, in one view: a collection behind newtype layers passes the
wrapper's own check (`serializerPre`) and goes element by element to the builder; every other value is refused by the
wrapper with the error of that check, which leaves the builder as it was -/
theorem serializer_cases (ext : Ext) (x : SVal) :
    (∃ xs : SVals, serRows x = some xs.toList ∧ reachesBuilder x = true ∧ serializerPre x = .ok () ∧
      (∀ root, serializeWith ext root x = extend.pushAll ext root xs) ∧
      ∀ g, serializeWithG ext g x = match g with
        | none => (fail poisonedMsg, none)
        | some _ => pushAllG ext g xs) ∨
    (∃ msg, serRows x = none ∧ reachesBuilder x = false ∧ serializerPre x = fail msg ∧
      (∀ root, serializeWith ext root x = fail msg) ∧ ∀ g, serializeWithG ext g x = (fail msg, g)) := by
  cases x with
  | newtypeStruct _ v => exact serializer_cases ext v
  | newtypeVariant _ _ _ v => exact serializer_cases ext v
  | seq xs => exact .inl ⟨xs, rfl, rfl, rfl, fun _ => rfl, fun _ => rfl⟩
  | tuple xs => exact .inl ⟨xs, rfl, rfl, rfl, fun _ => rfl, fun _ => rfl⟩
  | tupleStruct _ xs => exact .inl ⟨xs, rfl, rfl, rfl, fun _ => rfl, fun _ => rfl⟩
  | tupleVariant _ _ _ xs => exact .inl ⟨xs, rfl, rfl, rfl, fun _ => rfl, fun _ => rfl⟩
  | _ => exact .inr ⟨_, rfl, rfl, rfl, fun _ => rfl, fun _ => rfl⟩
termination_by structural x

/-- the `Serializer` front end is a fold of `push` over the denoted records (any root) -/
theorem serializeWith_spec (ext : Ext) : ∀ (x : SVal) (root r : B), serializeWith ext root x = .ok r →
    ∃ rows, serRows x = some rows ∧ rows.foldlM (push ext) root = .ok r := by
  intro x root r h
  rcases serializer_cases ext x with ⟨xs, hrows, _, _, hs, _⟩ | ⟨msg, _, _, _, hs, _⟩
  · exact ⟨_, hrows, pushAll_eq_foldlM ext xs root ▸ hs root ▸ h⟩
  · exact nomatch (hs root).symm.trans h

theorem foldlM_push_takeRest (ext : Ext) : ∀ (rows : List SVal) (b b' : B),
    rows.foldlM (push ext) b = .ok b' → takeRest b' = takeRest b :=
  Build.foldlM_push_takeRest ext

/-- the builder of a reachable history state is a non-nullable struct -/
theorem root_struct (root : B) {p : String} {bl : BL} {c : List (Option (String × Nat))} {s : List Bool}
    (h : takeRest root = .struct p 0 (newValidity false) bl c 0 s) :
    ∃ p len fs cached next seen, root = .struct p len none fs cached next seen :=
  C01.runRows_rows.struct_of_takeRest root h

theorem newRoot_struct {fields : List Field} {r0 : B} (h : newRoot fields = .ok r0) :
    ∃ p bl c s, r0 = .struct p 0 (newValidity false) bl c 0 s :=
  Build.newRoot_struct h

theorem buildArrays_rest {ext : Ext} {root rest : B} {arrs : List Arr} (h : buildArrays ext root = .ok (arrs, rest)) :
    rest = takeRest root := by
  unfold buildArrays at h
  split at h
  · obtain ⟨cols, _, h⟩ := (bind_ok _ _ _).1 h
    cases h; rfl
  · simp [panic] at h

/-- the fresh builder itself is a fixed point: a history starts where every build restarts -/
theorem take_fresh_root (fields : List Field) (r0 : B) (h0 : newRoot fields = .ok r0) : takeRest r0 = r0 :=
  (newRoot_fresh h0).2.2

/-- every addition to a builder of the schema is a fold of `push` over the rows it denotes (`extend` relies on the root
being a non-nullable struct) -/
theorem add_fold {ext : Ext} {fields : List Field} {r0 root r : B} {op : Op} (h0 : newRoot fields = .ok r0)
    (ht : takeRest root = r0) (h : op.add ext root = .ok r) : op.rows.foldlM (push ext) root = .ok r := by
  cases op with
  | push x => simpa [Op.rows, List.foldlM, Op.add] using h
  | extend x =>
    obtain ⟨p, bl, c, s, hr0⟩ := newRoot_struct h0
    obtain ⟨p', len, fs, cached, next, seen, rfl⟩ := root_struct root (ht.trans hr0)
    obtain ⟨rows, hrows, hf⟩ := extend_spec ext x _ _ _ _ _ _ r h
    simpa [Op.rows, hrows] using hf
  | viaSerializer x =>
    obtain ⟨rows, hrows, hf⟩ := serializeWith_spec ext x root r h
    simpa [Op.rows, hrows] using hf
  | build => exact h

/-- all records of a history satisfy `okx` -/
def OpsOK (okx : SVal → Prop) (ops : List Op) : Prop := ∀ op ∈ ops, ∀ x ∈ op.rows, okx x

/-- what `C01.C01_build_decode'` asks of one record: its raw key / value streams alternate, and it has no raw stream
unless the schema keeps below the sentinel bound -/
def DecodeOK (fields : List Field) (x : SVal) : Prop :=
  structStreamsAlternate x = true ∧ (noRaw x = true ∨ narrowRoot fields = true)

theorem OpsOK.decodeOK {fields : List Field} {ops : List Op} (hraw : OpsOK (fun x => structStreamsAlternate x = true) ops)
    (hnar : OpsOK (fun x => noRaw x = true) ops ∨ narrowRoot fields = true) : OpsOK (DecodeOK fields) ops :=
  fun op ho x hx => ⟨hraw op ho x hx, hnar.imp (fun h => h op ho x hx) id⟩

/-- … of a batch, they are the two hypotheses of `C01.C01_build_decode'` (`RawRows`) -/
theorem DecodeOK.rawRows {fields : List Field} {rows : List SVal} (h : ∀ x ∈ rows, DecodeOK fields x) : RawRows fields rows := by
  refine ⟨fun x hx => (h x hx).1, ?_⟩
  cases hn : narrowRoot fields with
  | true => exact .inr rfl
  | false => exact .inl fun x hx => (h x hx).2.resolve_right (by rw [hn]; exact Bool.noConfusion)

theorem OpsOK.tail {okx : SVal → Prop} {op : Op} {ops : List Op} (h : OpsOK okx (op :: ops)) : OpsOK okx ops :=
  fun o ho => h o (List.mem_cons_of_mem _ ho)

section
variable (ext : Ext) {fields : List Field} {r0 : B} (h0 : newRoot fields = .ok r0)
variable (okx : SVal → Prop) (P : B → List SVal → Prop)
variable (hstep : ∀ (b b' : B) (pending : List SVal) (x : SVal), P b pending → takeRest b = r0 → okx x →
  push ext b x = .ok b' → P b' (pending ++ [x]))
include hstep

theorem inv_fold : ∀ (rows : List SVal) {root r : B} {pending : List SVal}, P root pending → takeRest root = r0 →
    (∀ x ∈ rows, okx x) → rows.foldlM (push ext) root = .ok r → P r (pending ++ rows)
  | [], root, r, pending, hp, _, _, h => by cases h; simpa using hp
  | x :: rest, root, r, pending, hp, ht, hx, h => by
    simp only [List.foldlM] at h
    obtain ⟨b1, h1, h⟩ := (bind_ok _ _ _).1 h
    have := inv_fold rest (hstep root b1 pending x hp ht (hx x (by simp)) h1)
      (by rw [push_takeRest ext x root b1 h1, ht]) (fun y hy => hx y (by simp [hy])) h
    simpa using this

include h0

/-- **the induction over a history.**  A relation `P` between builder states and pending rows that holds of the fresh
builder with no rows and that every accepted push of a record extends by that record holds at every build between the
state the build sees and its batch, and at the end between the final state and the rows after the last build; every build
sees a state whose `take` is the fresh builder and leaves the fresh builder. -/
theorem run_inv (hP0 : P r0 []) : ∀ (ops : List Op) (root : B) (pending : List SVal) (outs : List (B × List Arr)) (fin : B),
    P root pending → takeRest root = r0 → OpsOK okx ops → run ext root ops = .ok (outs, fin) →
    All2 (fun (out : B × List Arr) rows => P out.1 rows ∧ takeRest out.1 = r0 ∧ buildArrays ext out.1 = .ok (out.2, r0))
      outs (batchesFrom pending ops) ∧
    P fin (trailing pending ops) ∧ takeRest fin = r0
  | [], root, pending, outs, fin, hp, ht, _, h => by
    cases h
    exact ⟨All2.nil, hp, ht⟩
  | op :: ops, root, pending, outs, fin, hp, ht, hok, h => by
    have ih := run_inv hP0 ops
    rcases op.build_or_add with rfl | hb
    · obtain ⟨⟨arrs, rest⟩, h1, h⟩ := (bind_ok _ _ _).1 h
      obtain ⟨⟨outs', fin'⟩, h2, h⟩ := (bind_ok _ _ _).1 h
      cases h
      have hr := buildArrays_rest h1
      rw [ht] at hr
      subst hr
      obtain ⟨g1, g2⟩ := ih rest [] _ _ hP0 (take_fresh_root fields rest h0) hok.tail h2
      exact ⟨All2.cons ⟨hp, ht, h1⟩ g1, g2⟩
    · rw [run_add hb] at h
      obtain ⟨r, h1, h⟩ := (bind_ok _ _ _).1 h
      have hf := add_fold h0 ht h1
      rw [batchesFrom_add hb, trailing_add hb]
      exact ih r _ outs fin (inv_fold ext okx P hstep _ hp ht (hok op (by simp)) hf)
        (by rw [foldlM_push_takeRest ext _ _ _ hf, ht]) hok.tail h
end

theorem _root_.SaModel.Build.All2.exists_of_mem {α β} {R : α → β → Prop} : ∀ {l1 : List α} {l2 : List β}, All2 R l1 l2 →
    ∀ a ∈ l1, ∃ b, R a b
  | _, _, .cons h t, a, ha => by
    rcases List.mem_cons.1 ha with rfl | ha
    · exact ⟨_, h⟩
    · exact t.exists_of_mem a ha

/-- **take_is_fresh.** Whatever was pushed, extended and built before: what `take` leaves behind — in
particular the builder every `build` continues with — is literally the fresh builder of the schema. -/
theorem take_is_fresh (ext : Ext) (fields : List Field) (r0 : B) (h0 : newRoot fields = .ok r0) :
    ∀ (ops : List Op) (root : B) (outs : List (B × List Arr)) (fin : B), takeRest root = r0 →
      run ext root ops = .ok (outs, fin) →
      takeRest fin = r0 ∧ ∀ out ∈ outs, takeRest out.1 = r0 ∧ buildArrays ext out.1 = .ok (out.2, r0) := by
  intro ops root outs fin ht h
  obtain ⟨hall, _, hfin⟩ := run_inv ext h0 (fun _ => True) (fun _ _ => True) (fun _ _ _ _ _ _ _ _ => trivial) trivial
    ops root [] outs fin trivial ht (fun _ _ _ _ => trivial) h
  refine ⟨hfin, fun out ho => ?_⟩
  obtain ⟨_, _, hout⟩ := hall.exists_of_mem out ho
  exact hout

/-! ### every build sees the state of the one-shot run of its batch -/

theorem foldlM_push_append (ext : Ext) (l1 l2 : List SVal) (a b c : B) (h1 : l1.foldlM (push ext) a = .ok b)
    (h2 : l2.foldlM (push ext) b = .ok c) : (l1 ++ l2).foldlM (push ext) a = .ok c := by
  rw [List.foldlM_append, h1]; exact h2

theorem runRows_of_fold {ext : Ext} {fields : List Field} {r0 root : B} {rows : List SVal}
    (h0 : newRoot fields = .ok r0) (hf : rows.foldlM (push ext) r0 = .ok root) : runRows ext fields rows = .ok root := by
  simp only [runRows, h0, bind, Except.bind]; exact hf

/-- **the state-level core.**  Along any history from a fresh builder, the root that build k sees is the state
`runRows ext fields (batch k)` reaches FROM THE FRESH BUILDER, `buildArrays` of it leaves the fresh builder, and the final
state is that of the rows after the last build; what holds of every record of the history (`okx`) holds of every record of
every batch.  Whatever is known of the state or the arrays of a one-shot run is thereby known of every build
(`batches`, `batches_interp`, `batches_strict`; Props/C10Arrays.lean: `run_oneShot`, `run_lift`). -/
theorem run_folds (ext : Ext) (fields : List Field) (r0 : B) (h0 : newRoot fields = .ok r0) (okx : SVal → Prop)
    (ops : List Op) (hok : OpsOK okx ops) (outs : List (B × List Arr)) (fin : B) (h : run ext r0 ops = .ok (outs, fin)) :
    All2 (fun (out : B × List Arr) rows =>
        (∀ x ∈ rows, okx x) ∧ runRows ext fields rows = .ok out.1 ∧ buildArrays ext out.1 = .ok (out.2, r0))
      outs (batchesFrom [] ops) ∧
    runRows ext fields (trailing [] ops) = .ok fin := by
  obtain ⟨g1, g2, _⟩ := run_inv ext h0 okx
    (fun b pending => (∀ x ∈ pending, okx x) ∧ pending.foldlM (push ext) r0 = .ok b)
    (fun b b' pd x hb _ hx hp => ⟨fun y hy => (List.mem_append.1 hy).elim (hb.1 y) fun hy => List.mem_singleton.1 hy ▸ hx,
      foldlM_push_append ext pd [x] r0 b b' hb.2 (by simp [List.foldlM, hp])⟩)
    ⟨nofun, rfl⟩ ops r0 [] outs fin ⟨nofun, rfl⟩ (take_fresh_root fields r0 h0) hok h
  exact ⟨All2.imp (fun _ _ h => ⟨h.1.1, runRows_of_fold h0 h.1.2, h.2.2⟩) g1, runRows_of_fold h0 g2.2⟩

/-- what a build sees, relative to the rows of its batch; `I`: the state invariant carried through the history,
`Q x lv`: "lv is the row record x denotes" -/
structure Holds (I : B → Prop) (r0 : B) (Q : SVal → LVal → Prop) (root : B) (rows : List SVal) : Prop where
  inv : I root
  take : takeRest root = r0
  rows : All2 (fun lv x => Q x lv) (dec root) rows

theorem Holds.fresh {I : B → Prop} {Q : SVal → LVal → Prop} {fields : List Field} {r0 : B} (h0 : newRoot fields = .ok r0)
    (hI0 : I r0) : Holds I r0 Q r0 [] :=
  ⟨hI0, (newRoot_fresh h0).2.2, by rw [(newRoot_fresh h0).2.1]; exact All2.nil⟩

section
variable (ext : Ext) (I : B → Prop) (r0 : B) (Q : SVal → LVal → Prop) (okx : SVal → Prop)
variable (hstep : ∀ (b b' : B) (x : SVal), I b → takeRest b = r0 → okx x → push ext b x = .ok b' →
  I b' ∧ ∃ lv, dec b' = dec b ++ [lv] ∧ Q x lv)
include hstep

theorem holds_push {root r : B} {pending : List SVal} {x : SVal} (hh : Holds I r0 Q root pending)
    (hraw : okx x) (h : push ext root x = .ok r) : Holds I r0 Q r (pending ++ [x]) := by
  obtain ⟨hi, lv, hd, hq⟩ := hstep root r x hh.inv hh.take hraw h
  exact ⟨hi, by rw [push_takeRest ext x root r h, hh.take], by
    rw [hd]; exact All2.append hh.rows (All2.cons hq All2.nil)⟩

/-- the generic induction over a history: an invariant `I` of the fresh builder that every accepted push keeps (together
with "the push appends one row `lv` with `Q x lv`") holds of every state a build sees, whose rows are related by `Q` to
the rows of its batch; every build continues from the fresh builder -/
theorem batches_gen (fields : List Field) (h0 : newRoot fields = .ok r0) (hI0 : I r0) :
    ∀ (ops : List Op) (root : B) (pending : List SVal) (outs : List (B × List Arr)) (fin : B),
      Holds I r0 Q root pending → OpsOK okx ops → run ext root ops = .ok (outs, fin) →
      All2 (fun (out : B × List Arr) rows => Holds I r0 Q out.1 rows ∧ buildArrays ext out.1 = .ok (out.2, r0))
        outs (batchesFrom pending ops) := by
  intro ops root pending outs fin hh hok h
  refine All2.imp (fun _ _ h => ⟨h.1, h.2.2⟩)
    (run_inv ext h0 okx (Holds I r0 Q) (fun b b' pd x hp _ hx hb => holds_push ext I r0 Q okx hstep hp hx hb)
      (Holds.fresh h0 hI0) ops root pending outs fin hh hh.take hok h).1
end

/-- **batches (R1 level).** In any history over ANY schema `build_builder` accepts — records of ANY shape, raw key/value
call streams included (a Map builder refuses the non-alternating ones, repo fix eafdf15: no hypothesis on the
records), NO `Safe` hypothesis (dictionaries with non-nullable keys below nullable structs / fixed-size lists included) —
build k sees a root that satisfies the weak state invariant, is determined, and holds exactly as many rows as were added
since build k-1 (each column at that length, `C01.runRows_rows'`); it returns `finishFields` of that state, and the builder
continues from the fresh builder of the schema.  (For `Safe` schemas the states are moreover strictly well formed:
`batches_strict`.) -/
theorem batches (ext : Ext) (fields : List Field) (r0 : B) (h0 : newRoot fields = .ok r0)
    (ops : List Op) (outs : List (B × List Arr)) (fin : B)
    (h : run ext r0 ops = .ok (outs, fin)) :
    All2 (fun (out : B × List Arr) rows =>
        WFH out.1 ∧ Det out.1 ∧ (dec out.1).length = rows.length ∧ buildArrays ext out.1 = .ok (out.2, r0))
      outs (batchesFrom [] ops) := by
  refine All2.imp ?_ (run_folds ext fields r0 h0 (fun _ => True) ops (fun _ _ _ _ => trivial) outs fin h).1
  intro out rows ⟨_, hr, hb⟩
  obtain ⟨hw, hd, hl, _⟩ := C01.runRows_rows' ext fields rows r0 out.1 h0 hr
  exact ⟨hw, hd, hl, hb⟩

/-- **batches (content).** For covered schemas and records whose raw call streams alternate (`hraw`; `hnar`: the
sentinel bound of `C01.push_interp'`, needed only when some record contains a raw stream) — NO `Safe` hypothesis: build k
sees a determined root whose rows are exactly `interpRow` of the records added since build k-1, in order (a 0-row build
sees no rows), and returns `finishFields` of that state; the builder continues from the fresh builder. -/
theorem batches_interp (ext : Ext) (fields : List Field) (r0 : B) (hc : fields.all coveredF = true)
    (h0 : newRoot fields = .ok r0)
    (ops : List Op) (hraw : OpsOK (fun x => structStreamsAlternate x = true) ops)
    (hnar : OpsOK (fun x => noRaw x = true) ops ∨ narrowRoot fields = true)
    (outs : List (B × List Arr)) (fin : B)
    (h : run ext r0 ops = .ok (outs, fin)) :
    All2 (fun (out : B × List Arr) rows =>
        WFH out.1 ∧ Det out.1 ∧ All2 (fun lv x => interpRow ext fields x = .ok lv) (dec out.1) rows ∧
        buildArrays ext out.1 = .ok (out.2, r0))
      outs (batchesFrom [] ops) := by
  refine All2.imp ?_ (run_folds ext fields r0 h0 (DecodeOK fields) ops (hraw.decodeOK hnar) outs fin h).1
  intro out rows ⟨hok, hr, hb⟩
  obtain ⟨hw, hd, _⟩ := C01.runRows_rows' ext fields rows r0 out.1 h0 hr
  obtain ⟨h1, h2⟩ := DecodeOK.rawRows hok
  exact ⟨hw, hd, (C01.runRows_interp' ext fields rows r0 out.1 (all_coveredWF_of_coveredF hc) h0 h1 h2 hr).1, hb⟩

/-- **the strict invariant along histories, for `Safe` schemas.**  What still carries `Safe`: the STRICT state invariant
`WFB` (every dictionary key designates a value) of the states the builds see — it is FALSE without `Safe`
(`C01.exUnsafeAfter1_not_WFB`: a placeholder key below a null while the dictionary is empty; `C01.dict_placeholder_unstable`),
which is why `batches` / `batches_interp` speak about `WFH` and `Det`. -/
theorem batches_strict (ext : Ext) (fields : List Field) (r0 : B) (h0 : newRoot fields = .ok r0) (hsafe : Safe r0)
    (ops : List Op) (outs : List (B × List Arr)) (fin : B)
    (h : run ext r0 ops = .ok (outs, fin)) :
    All2 (fun (out : B × List Arr) (_ : List SVal) => WFB out.1 ∧ Safe out.1) outs (batchesFrom [] ops) := by
  refine All2.imp ?_ (run_folds ext fields r0 h0 (fun _ => True) ops (fun _ _ _ _ => trivial) outs fin h).1
  intro out rows ⟨_, hr, _⟩
  simp only [runRows, h0] at hr
  obtain ⟨hw, hs, _⟩ := C01.foldl_push_rows ext rows r0 out.1 (newRoot_fresh h0).1 hsafe hr
  exact ⟨hw, hs⟩

/-- two batches and an empty build over a dictionary column (per-batch state): the second build does not see
the first batch, the third sees nothing -/
example : (do
      let r0 ← newRoot [.mk "d" (.dictionary .uint8 .utf8) false []]
      let (outs, _) ← run {} r0 [.push (.record "R" (.cons "d" 0 (.str "x") .nil)), .build,
        .extend (.seq (.cons (.record "R" (.cons "d" 0 (.str "y") .nil)) (.cons (.record "R" (.cons "d" 0 (.str "y") .nil)) .nil))),
        .build, .build, .viaSerializer (.tuple (.cons (.record "R" (.cons "d" 0 (.str "z") .nil)) .nil)), .build]
      pure (outs.map fun o => decRoot o.1) : R (List (List (List LVal)))) =
    .ok [[[.str [120]]], [[.str [121], .str [121]]], [[]], [[.str [122]]]] := by decide +kernel

example : batchesFrom [] [Op.push .unit, .build, .extend (.seq (.cons .none (.cons .unit .nil))), .build, .build] =
    [[.unit], [.none, .unit], []] := by decide

/-! ### non-vacuity: a history over a schema OUTSIDE `Safe`

Schema `Props.C01.exUnsafeFields` = `{s: Struct{d: Dictionary(UInt8, Utf8)}?}` (a dictionary with non-nullable keys below
a nullable struct, `C01.exUnsafe_not_safe`); history: push `s = None`, push `s = {d: "a"}`, build, push `s = None`,
build — the records of `C01.exUnsafeRows`. -/

/-- the fresh builder of the schema (literal form, cf. `C01.exUnsafe_not_safe`) -/
def exUnsafeRoot0 : B :=
  .struct "$" 0 none
    (.cons (.struct "$.s" 0 (some [])
        (.cons (.dictionary "$.s.d" (.leaf "$.s.d.key" (.int .u8) none []) (.bytes "$.s.d.value" .utf8 none [0] []) [])
          ⟨"d", false, []⟩ .nil) [none] 0 [false]) ⟨"s", true, []⟩ .nil) [none] 0 [false]

theorem exUnsafeNew : newRoot C01.exUnsafeFields = .ok exUnsafeRoot0 := by decide +kernel

theorem exUnsafeRoot0_not_safe : ¬ Safe exUnsafeRoot0 := C01.exUnsafe_not_safe _ exUnsafeNew

def exUnsafeOps : List Op :=
  [.push (.record "R" (.cons "s" 0 .none .nil)),
   .push (.record "R" (.cons "s" 0 (.some (.record "S" (.cons "d" 0 (.str "a") .nil))) .nil)),
   .build,
   .push (.record "R" (.cons "s" 0 .none .nil)),
   .build]

/-- the batches of the history are the records of `C01.exUnsafeRows`: the first two, then the third -/
example : batchesFrom [] exUnsafeOps = [C01.exUnsafeRows.take 2, C01.exUnsafeRows.drop 2] := by decide

theorem exUnsafeRunOk : (run {} exUnsafeRoot0 exUnsafeOps).isOk = true := by decide +kernel

/-- `batches_interp` applies to the history with every hypothesis discharged (the schema is outside `Safe`:
`exUnsafeRoot0_not_safe`) -/
example : ∀ outs fin, run {} exUnsafeRoot0 exUnsafeOps = .ok (outs, fin) →
    All2 (fun (out : B × List Arr) rows =>
        WFH out.1 ∧ Det out.1 ∧ All2 (fun lv x => interpRow {} C01.exUnsafeFields x = .ok lv) (dec out.1) rows ∧
        buildArrays {} out.1 = .ok (out.2, exUnsafeRoot0))
      outs (batchesFrom [] exUnsafeOps) := by
  intro outs fin h
  refine batches_interp {} C01.exUnsafeFields exUnsafeRoot0 (by decide) exUnsafeNew exUnsafeOps ?_ (Or.inl ?_) outs fin h
  · unfold OpsOK; decide
  · unfold OpsOK; decide

/-- what the two builds really see: the first the rows null, {d: "a"} (the dictionary child holds the placeholder key
below the null), the second the single row null -/
example : (do
      let (outs, _) ← run {} exUnsafeRoot0 exUnsafeOps
      pure (outs.map fun o => decRoot o.1) : R (List (List (List LVal)))) =
    .ok [[[.null, .struct (.cons "d" (.str [97]) .nil)]], [[.null]]] := by decide +kernel

end SaModel.Props.C10
