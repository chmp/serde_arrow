import SaModel.Lemmas.C01CompSmall
import SaModel.Lemmas.C03Total
import SaModel.Props.C01
import SaModel.Props.C01CompleteObs
/-
C01, completeness of the builders with respect to the documented mapping (the converse of R2 `push_interp`).

`push_complete`: whenever `Spec.interpDT` accepts a value at the builder's field, `push` succeeds — for EVERY builder
family (null, leaf kinds, bytes, views, fixed-size binary, list / large list, fixed-size list, map, struct under the
three record disciplines, dictionary, union) and all serde value kinds, at any nesting — under

* `NoCap ext b x` (`Lemmas/C01CompDefs.lean`): `vsize ext x ≤ room b`, the value fits into the head room of the
  builder, so that no CAPACITY check can refuse it (`increment_last` beyond `i32::MAX`, view buffers / lengths beyond
  `i32::MAX`, dictionary keys beyond the key type, and — repo fix 217d612 — the checked per-variant row counter
  `current_offset[v] + 1` of a union beyond `i32::MAX`).  `small_NoCap` gives the closed form
  `room b = min (2^31 - 1 - used b) (keysRoom b)`;
* `total dt n md`: the explicit NON-capacity exclusion (needed: `default_refused` below): a nullable
  struct / fixed-size list must have children that support `serialize_default` (a union: SOME variant is not an
  `UnknownVariant` placeholder and the first such supports it — repo fix 837fa53, `default_first_real`; before the
  fix it had to be variant 0), and unions have ≤ 128 variants.  With repo fix 217d612 a default is one counted ROW of
  that variant, and a `None` of a `FixedSizeList(_, m)` (size 1) sends `m` of them: `serialize_default` is supported by
  a fixed-size list of size `m > 1` only when no union is reachable by defaults below it (`noDefUF`; see
  `default_fsl_union_refused`);
* the hypotheses of R2: `WFB`, `Safe`, `Shape`, `noRaw`.

Corollaries: `push_err_iff`, `push_err_sound` (the error-position refinement C18 needs: an error is never spurious),
`runRows_complete`, `finish_total`, `toMarrow_complete`, `toMarrow_complete_decode`.
Each statement that carries `WFB` / `Safe` is the primed statement of Props/C01CompleteObs.lean (`WFH` / `NoDictKey`, resp.
no `Safe root0`) at a strictly well-formed state and is proved from it (`WFH_of_WFB`, `NoDictKey_of_Safe`).
-/
namespace SaModel.Props.C01
open SaModel SaModel.Build SaModel.Spec

/-- **Completeness of `push`**: a representable value that fits is accepted; the head room shrinks by at most its size -/
theorem push_complete (ext : Ext) (x : SVal) (b : B) (dt : DataType) (n : Bool) (md : Metadata) (lv : LVal)
    (hi : interpDT ext dt n md x = .ok lv) (hwf : WFB b) (hsafe : Safe b) (hshape : Shape b dt n md)
    (htot : total dt n md = true) (hraw : noRaw x = true) (hcap : NoCap ext b x) :
    ∃ b', push ext b x = .ok b' ∧ room b ≤ room b' + vsize ext x :=
  Build.push_complete ext x hraw b dt n md lv ⟨hwf, hsafe, hshape, htot⟩ hcap hi

/-- the capacity hypothesis in closed form: all offsets / view buffers plus the value stay within `i32::MAX`, and
every dictionary has enough free keys -/
theorem small_NoCap (ext : Ext) (b : B) (x : SVal) (h1 : used b + vsize ext x ≤ 2147483647)
    (h2 : vsize ext x ≤ keysRoom b) : NoCap ext b x := Build.small_NoCap ext b x h1 h2

/-- the error-position refinement (C18): under `NoCap`, an error of `push` is never spurious — the documented mapping
is undefined at the value too -/
theorem push_err_sound (ext : Ext) (x : SVal) (b : B) (dt : DataType) (n : Bool) (md : Metadata) (e : Fail)
    (h : push ext b x = .error e) (hwf : WFB b) (hsafe : Safe b) (hshape : Shape b dt n md)
    (htot : total dt n md = true) (hraw : noRaw x = true) (hcap : NoCap ext b x) :
    ∃ e', interpDT ext dt n md x = .error e' :=
  push_err_sound' ext x b dt n md e h (WFH_of_WFB b hwf) (NoDictKey_of_Safe b hsafe) hshape htot hraw hcap

/-- **error IFF not representable** (under the capacity and schema hypotheses) -/
theorem push_err_iff (ext : Ext) (x : SVal) (b : B) (dt : DataType) (n : Bool) (md : Metadata)
    (hwf : WFB b) (hsafe : Safe b) (hshape : Shape b dt n md) (htot : total dt n md = true) (hraw : noRaw x = true)
    (hcap : NoCap ext b x) :
    (∃ e, push ext b x = .error e) ↔ (∃ e, interpDT ext dt n md x = .error e) :=
  push_err_iff' ext x b dt n md (WFH_of_WFB b hwf) (NoDictKey_of_Safe b hsafe) hshape htot hraw hcap

/-- all rows representable + capacity ⇒ the fold over the rows succeeds -/
theorem foldl_push_complete (ext : Ext) (dt : DataType) (n : Bool) (md : Metadata) : ∀ (rows : List SVal) (root : B),
    WFB root → Safe root → Shape root dt n md → total dt n md = true →
    (∀ r ∈ rows, noRaw r = true ∧ ∃ lv, interpDT ext dt n md r = .ok lv) →
    (rows.map (vsize ext)).sum ≤ room root →
    ∃ root', rows.foldlM (push ext) root = .ok root' ∧ room root ≤ room root' + (rows.map (vsize ext)).sum :=
  fun rows root hwf hsafe => foldl_push_complete' ext dt n md rows root (WFH_of_WFB root hwf) (NoDictKey_of_Safe root hsafe)

/-- **`runRows` is complete**: if every record is representable under the root schema and the records fit into the
fresh root's head room, all rows are accepted -/
theorem runRows_complete (ext : Ext) (fields : List Field) (rows : List SVal) (root0 : B)
    (hc : fields.all coveredF = true) (h0 : newRoot fields = .ok root0) (hsafe : Safe root0)
    (htot : totalFs (Fields.ofList fields) = true)
    (hrows : ∀ r ∈ rows, noRaw r = true ∧ ∃ lv, interpRow ext fields r = .ok lv)
    (hcap : (rows.map (vsize ext)).sum ≤ room root0) : ∃ root, runRows ext fields rows = .ok root :=
  runRows_complete' ext fields rows root0 hc h0 htot hrows hcap

/-- **`into_array` never fails on a well-formed state** (`Lemmas/C03Total.lean`): its only failure sites are checked
conversions — `n: usize → i32` of the fixed-size builders, the variant index `usize → i8` of a union, and the
placeholder value `""` a non-nullable dictionary appends when it holds keys but no value.  `FinB b` says that none of them
can fire: sizes ≤ `i32::MAX`, at most 128 variants, dictionary keys stored by an integer leaf builder (then the strict
key clause of `WFB` makes the placeholder branch unreachable).  `FinB` only depends on the shape (`FinB_takeRest`) and
holds of every builder `build_builder` creates for a well-typed data type (`FinB_of_builtFor`, `typedDT`). -/
theorem finish_total (ext : Ext) (b : B) (hw : WFB b) (hf : Lemmas.C03.FinB b) : ∃ a, finish ext b = .ok a :=
  Lemmas.C03.finish_total ext b hw hf

/-- the shape condition from the schema: every builder `build_builder` creates for a data type whose sizes are `i32`
values and whose union type ids are `i8` values (true of every marrow `DataType` by type) is `FinB` -/
theorem FinB_of_builtFor (b : B) (dt : DataType) (nl : Bool) (hb : Lemmas.C03.BuiltFor dt nl b)
    (ht : Lemmas.C03.typedDT dt = true) : Lemmas.C03.FinB b :=
  Lemmas.C03.FinB_of_builtFor b dt nl hb ht

/-- **`to_marrow` is complete**: if every record is representable under the root schema (`interpRow` is defined) and the
records fit into the fresh root's head room, `to_marrow` succeeds — every row is accepted (`runRows_complete`) and
`build_arrays` cannot fail (`finish_total`).  `htyped` is the typing invariant of `DataType` (sizes are `i32`, union
type ids `i8` values; the model's `DataType` carries unbounded integers). -/
theorem toMarrow_complete (ext : Ext) (fields : List Field) (rows : List SVal) (root0 : B)
    (hc : fields.all coveredF = true) (h0 : newRoot fields = .ok root0) (hsafe : Safe root0)
    (htot : totalFs (Fields.ofList fields) = true)
    (htyped : Lemmas.C03.typedFs (Fields.ofList fields) = true)
    (hrows : ∀ r ∈ rows, noRaw r = true ∧ ∃ lv, interpRow ext fields r = .ok lv)
    (hcap : (rows.map (vsize ext)).sum ≤ room root0) : ∃ arrs, toMarrow ext fields rows = .ok arrs :=
  toMarrow_complete' ext fields rows root0 hc h0 htot htyped hrows hcap

/-- … and then the arrays are what C01 says: they decode to exactly `interpRow` of the records (`C01_build_decode`) -/
theorem toMarrow_complete_decode (ext : Ext) (fields : List Field) (rows : List SVal) (root0 : B)
    (hschema : ∀ f ∈ fields, Lemmas.C03.SchemaOKF f)
    (hc : fields.all coveredF = true) (h0 : newRoot fields = .ok root0) (hsafe : Safe root0)
    (htot : totalFs (Fields.ofList fields) = true)
    (htyped : Lemmas.C03.typedFs (Fields.ofList fields) = true)
    (hrows : ∀ r ∈ rows, noRaw r = true ∧ ∃ lv, interpRow ext fields r = .ok lv)
    (hcap : (rows.map (vsize ext)).sum ≤ room root0) :
    ∃ arrs, toMarrow ext fields rows = .ok arrs ∧ arrs.length = fields.length ∧
      ∃ cols : List (String × List LVal),
        arrs.map decodeAll = cols.map (fun c => c.2.map .ok) ∧ cols.map (·.1) = fields.map (·.name) ∧
        (∀ c ∈ cols, c.2.length = rows.length) ∧
        ∀ (i : Nat) (hi : i < rows.length),
          interpRow ext fields rows[i] = .ok (.struct (LFields.ofList (cols.map fun c => (c.1, c.2.getD i .null)))) :=
  toMarrow_complete_decode' ext fields rows root0 hschema hc h0 htot htyped hrows hcap

/-! ### non-vacuity -/

/-- the hypotheses of `push_complete` on the nested state of `Props/C01Refine` (nullable list of i32, one row) -/
example : interpDT {} (.list (.mk "element" .int32 false [])) true []
      (.seq (.cons (.int .i8 5) (.cons (.int .i64 6) .nil))) = .ok (.list (.cons (.int 5) (.cons (.int 6) .nil))) ∧
    total (.list (.mk "element" .int32 false [])) true [] = true ∧
    noRaw (.seq (.cons (.int .i8 5) (.cons (.int .i64 6) .nil))) = true ∧
    NoCap {} exList (.seq (.cons (.int .i8 5) (.cons (.int .i64 6) .nil))) :=
  ⟨by decide +kernel, by decide +kernel, by decide +kernel, by unfold NoCap; decide +kernel⟩

/-- the capacity hypothesis is sharp for dictionaries: `Dictionary(UInt8, Utf8)` with one value has 255 free keys -/
example : room exDict = 255 ∧ NoCap {} exDict (.str "y") ∧ used exDict = 1 ∧ keysRoom exDict = 255 :=
  ⟨by decide +kernel, by unfold NoCap; decide +kernel, by decide +kernel, by decide +kernel⟩

/-- … and a full `Dictionary(Int8, Utf8)` (128 values) has no room: the 129th distinct string is refused although the
mapping represents it — a capacity refusal, excluded by `NoCap` -/
example : keyRoom (.leaf "k" (.int .i8) none []) 128 = 0 := by decide +kernel

/-- `runRows_complete`: hypotheses on a two-column schema, rows in two presentations -/
example : [Field.mk "a" .int32 false [], Field.mk "b" .utf8 true []].all coveredF = true ∧
    totalFs (Fields.ofList [Field.mk "a" .int32 false [], Field.mk "b" .utf8 true []]) = true ∧
    (interpRow {} [.mk "a" .int32 false [], .mk "b" .utf8 true []]
      (.record "R" (.cons "b" 1 .none (.cons "a" 0 (.int .i32 2) .nil)))).isOk = true :=
  ⟨by decide +kernel, by decide +kernel, by decide +kernel⟩

/-- `toMarrow_complete`: every hypothesis discharged on the two-column schema with two records in two presentations;
`to_marrow` succeeds by the theorem -/
example : ∃ arrs, toMarrow {} [Field.mk "a" .int32 false [], Field.mk "b" .utf8 true []]
    [.record "R" (.cons "b" 1 .none (.cons "a" 0 (.int .i32 2) .nil)),
     .map (.cons (.str "a") (.int .u8 7) (.cons (.str "b") (.str "x") .nil))] = .ok arrs :=
  toMarrow_complete {} _ _ _ (by decide +kernel) (show newRoot _ = .ok (.struct "$" 0 none
      (.cons (.leaf "$.a" (.int .i32) none []) ⟨"a", false, []⟩
        (.cons (.bytes "$.b" .utf8 (some []) [0] []) ⟨"b", true, []⟩ .nil)) [none, none] 0 [false, false]) from by decide +kernel)
    (by simp [Safe, SafeL]) (by decide +kernel) (by decide +kernel)
    (by
      intro r hr
      simp only [List.mem_cons, List.not_mem_nil, or_false] at hr
      rcases hr with rfl | rfl
      · exact ⟨by decide +kernel, ok_of_isOk (by decide +kernel)⟩
      · exact ⟨by decide +kernel, ok_of_isOk (by decide +kernel)⟩)
    (by decide +kernel)

/-- non-vacuity of `finish_total` beyond leaves: a non-nullable `Dictionary(UInt8, Utf8)` builder holding the keys
`[0, 0]` and one value is `WFB` and `FinB`; `into_array` takes the ordinary branch -/
example : Lemmas.C03.FinB exDict ∧ (finish {} exDict).isOk = true := ⟨by simp [exDict, Lemmas.C03.FinB, Lemmas.C03.isIntLeaf], by decide +kernel⟩

/-- `typedDT` is what excludes the model-only failure of `into_array`: a `FixedSizeBinary(2^31)` builder (no marrow
`DataType` has that size) is well formed, but `into_array` refuses the conversion to `i32` -/
example : WFB (.fixedSizeBinary "$.a" 2147483648 0 none [] 0) ∧
    (finish {} (.fixedSizeBinary "$.a" 2147483648 0 none [] 0)).isOk = false ∧
    Lemmas.C03.typedDT (.fixedSizeBinary 2147483648) = false :=
  ⟨by simp [WFB, VLen], by decide +kernel, by decide +kernel⟩

/-! ### the non-capacity exclusion is needed (finding) -/

/-- `s: Struct{u: Null [UnknownVariant]}?` — what tracing yields for an optional struct around an enum position whose
variant was never seen (here directly; inside a union at variant 0 it is the same call) -/
def exUnkDT : DataType := .struct (.cons (.mk "u" .null true [(STRATEGY_KEY, "UnknownVariant")]) .nil)

def exUnk : B := .struct "$.s" 0 (some []) (.cons (.unknownVariant "$.s.u") ⟨"u", true, [(STRATEGY_KEY, "UnknownVariant")]⟩ .nil)
  [none] 0 [false]

/-- **`total` is needed** (`default_refused`): the documented mapping sends `None` at a nullable struct to `null`, but
the builder refuses it when a child cannot take `serialize_default` (an `UnknownVariant` placeholder standing directly
below the struct, a union without variants or with placeholder variants only): `StructBuilder::serialize_none` calls
`serialize_default` on every child, `UnknownVariantBuilder::serialize_default` fails.  Not a capacity condition:
`total` is false exactly here.  Tracing never yields these schemas (placeholders are union children beside at
least one seen variant); the case tracing DOES yield — a union whose variant 0 is a placeholder — was the defect
`C06-unseen-first-variant-default`, repaired by repo fix 837fa53: see `default_first_real` /
`default_variant0_pinned` below. -/
theorem default_refused :
    newDT "$.s" exUnkDT true [] = .ok exUnk ∧ WFB exUnk ∧ Shape exUnk exUnkDT true [] ∧ NoCap {} exUnk .none ∧
    interpDT {} exUnkDT true [] .none = .ok .null ∧ (push {} exUnk .none).isOk = false ∧
    total exUnkDT true [] = false := by
  refine ⟨by decide +kernel, ?_, ?_, by unfold NoCap; decide +kernel, by decide +kernel, by decide +kernel, by decide +kernel⟩
  · simp only [exUnk, WFB, WFL]
    refine ⟨by intro bits hb; cases hb; rfl, ⟨trivial, rfl, trivial⟩, rfl, by decide +kernel, rfl, ?_⟩
    intro j key hj
    cases j with
    | zero => simp at hj
    | succ j => simp at hj
  · simp only [exUnk, exUnkDT, Shape]
    exact ⟨rfl, _, rfl, rfl, rfl, ⟨rfl, by decide +kernel⟩, trivial⟩

/-! ### the repaired defect `C06-unseen-first-variant-default` (repo fix 837fa53) -/

/-- `s: Struct{e: Union[0: A = Null [UnknownVariant], 1: B = Null]}?` — what tracing yields for an optional struct
around an enum position of which only the SECOND variant was seen
(`from_samples([Row{s: Some(S{e: E::B})}, Row{s: None}])`) -/
def exUnionDT : DataType := .struct (.cons (.mk "e" (.union
  (.cons 0 (.mk "A" .null true [(STRATEGY_KEY, "UnknownVariant")]) (.cons 1 (.mk "B" .null true []) .nil)) .dense) false []) .nil)

def exUnionFs : BL :=
  .cons (.unknownVariant "$.s.e.A") ⟨"A", true, [(STRATEGY_KEY, "UnknownVariant")]⟩ (.cons (.null "$.s.e.B" 0) ⟨"B", true, []⟩ .nil)

def exUnion : B := .struct "$.s" 0 (some []) (.cons (.union "$.s.e" exUnionFs [] [] [0, 0]) ⟨"e", false, []⟩ .nil) [none] 0 [false]

/-- **Repaired** (`UnionBuilder::serialize_default` uses the first variant that is not a placeholder): the schema is
inside `total`, and the `None` the documented mapping sends to `null` is accepted — the placeholder row of the
union goes to variant 1 (type id 1, dense offset 0). -/
theorem default_first_real :
    newDT "$.s" exUnionDT true [] = .ok exUnion ∧ total exUnionDT true [] = true ∧
    interpDT {} exUnionDT true [] .none = .ok .null ∧
    push {} exUnion .none = .ok (.struct "$.s" 1 (some [false]) (.cons (.union "$.s.e"
      (.cons (.unknownVariant "$.s.e.A") ⟨"A", true, [(STRATEGY_KEY, "UnknownVariant")]⟩ (.cons (.null "$.s.e.B" 1) ⟨"B", true, []⟩ .nil))
      [1] [0] [0, 1]) ⟨"e", false, []⟩ .nil) [none] 0 [false]) := by
  refine ⟨by decide +kernel, by decide +kernel, by decide +kernel, by decide +kernel⟩

/-- **Pinned** (the code before 837fa53 delegated to variant 0 whatever it was): on the same union the step into
variant 0 fails — `to_marrow` rejected a collection the schema was traced from — while the step into the variant the
repaired code chooses (`firstReal`) succeeds. -/
theorem default_variant0_pinned :
    (pushDefaultKAt exUnionFs 0 1).isOk = false ∧ firstReal exUnionFs = 1 ∧
    (pushDefaultKAt exUnionFs (firstReal exUnionFs) 1).isOk = true := by
  refine ⟨by decide +kernel, by decide +kernel, by decide +kernel⟩

/-! ### the exclusion the checked union row counters need (repo fix 217d612) -/

/-- `l: FixedSizeList(Union[0: A = Null], 2)?` -/
def exFslUnionDT : DataType :=
  .fixedSizeList (.mk "element" (.union (.cons 0 (.mk "A" .null true []) .nil) .dense) false []) 2

/-- its builder after `2^30 - 1` lists (`2^31 - 2` rows of variant `A`): one more row fits, two do not -/
def exFslUnion : B := .fixedSizeList "$.l" ⟨"element", false, []⟩ 2 1073741823 (some []) 0
  (.union "$.l.element" (.cons (.null "$.l.element.A" 2147483646) ⟨"A", true, []⟩ .nil) [] [] [2147483646])

/-- **the `noDefUF` clause of `total` is needed**: the documented mapping sends `None` at this nullable fixed-size
list to `null`, `None` has size 1 and the head room is 1 (`NoCap` holds), but `FixedSizeListBuilder::serialize_none`
sends TWO defaults to the union below, each one row of variant `A`: the second is refused by the checked counter.
`total` is false here (validity bits elided: the state is not claimed reachable by evaluation, only by counting). -/
theorem default_fsl_union_refused :
    room exFslUnion = 1 ∧ NoCap {} exFslUnion .none ∧ interpDT {} exFslUnionDT true [] .none = .ok .null ∧
    (push {} exFslUnion .none).isOk = false ∧ (push {} exFslUnion .none).isPanic = false ∧
    total exFslUnionDT true [] = false := by
  refine ⟨by decide +kernel, by unfold NoCap; decide +kernel, by decide +kernel, by decide +kernel, by decide +kernel,
    by decide +kernel⟩

end SaModel.Props.C01
