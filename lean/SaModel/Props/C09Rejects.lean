import SaModel.Props.C09Nec
import SaModel.Lemmas.C09Denote
import SaModel.Props.C09Gen
/-
C09, rejection: 'a JSON value that does not denote a valid schema is rejected with an error' as ONE statement against the
explicit decidable predicate `denotesSchema : JVal → Bool` of `Spec/SchemaDenote.lean` (written from the documentation
of the format: top-level forms, required / optional keys and their kinds, strategy names, duplicate strategy, metadata
values, children, and — for the field that results — the explicit validity predicate `validField`: strategy admissible
for the type, `Time32`/`Time64` units, no negative sizes, dictionary key / value types, map entries, unsupported types).

* `C09_rejects` — for EVERY JSON value: `denotesSchema j = false → parseSchema j` is an error, and
  `denotesSchema j = true → parseSchema j = ok s` with `s` the schema the value denotes.
* `C09_reader_denotation` — the same as one equation: `(parseSchema j).toOption = denoteSchema j`.

What `denotesSchema` does NOT restate independently: the reading of the `data_type` STRING next to the children is
`Dsl.readType` itself (the type-name grammar); its behaviour is determined by `dsl_roundtrip`, `C09_spellings`,
`C09_rejects_arity` and, against the source, by `gen_reader_arity` / `gen_reader_rejects` (no name outside the table
for all strings) — `denotes_unknown_name` below carries that over.
-/
namespace SaModel.Props.C09
open SaModel SaModel.Dsl SaModel.SchemaJson

/-- the reader computes exactly the denotation, for every JSON value -/
theorem C09_reader_denotation (j : JVal) : (parseSchema j).toOption = denoteSchema j :=
  parseSchema_denote j

/-- **C09, rejection (all JSON values).**  A value that does not denote a valid schema is rejected with an error; a
value that does is accepted, as the schema it denotes. -/
theorem C09_rejects (j : JVal) :
    (denotesSchema j = false → ∃ e, parseSchema j = .error e) ∧
    (denotesSchema j = true → ∃ s, parseSchema j = .ok s ∧ denoteSchema j = some s) := by
  have h := parseSchema_denote j
  simp only [denotesSchema, parseSchema]
  cases hp : parseSchemaWith false j with
  | error e =>
    simp only [hp, Except.toOption] at h
    simp [← h]
  | ok s =>
    simp only [hp, Except.toOption] at h
    simp [← h]

/-- and what is accepted is a list of fields in `SchemaOK` -/
theorem C09_denoted_in_domain (j : JVal) (s : List Field) (h : denoteSchema j = some s) : ∀ f ∈ s, SchemaOK f := by
  rw [← parseSchema_denote] at h
  exact C09_reader_sound j s (ok_of_toOption h)

/-! ## what does not denote a schema — the clauses of the predicate, for all inputs -/

/-- neither a list nor an object at the top -/
theorem denotes_toplevel (j : JVal) (h1 : ∀ vs, j ≠ .arr vs) (h2 : ∀ o, j ≠ .obj o) : denotesSchema j = false := by
  cases j with
  | arr vs => exact absurd rfl (h1 vs)
  | obj o => exact absurd rfl (h2 o)
  | _ => rfl

/-- a field whose strategy is given twice -/
theorem denotes_duplicate_strategy (name ty : String) (nl : Bool) (s : Strategy) (md : Metadata) (cs : List Field)
    (h : hasKey md STRATEGY_KEY = true) : fieldDenotes name ty nl (some s) md cs = none := by
  simp [fieldDenotes, h]

/-- a field whose type string is not read as a type: unknown name, wrong number of arguments or children, bad unit,
number out of range, malformed text -/
theorem denotes_unreadable_type (name ty : String) (nl : Bool) (st : Option Strategy) (md : Metadata) (cs : List Field)
    (h : (readType ty.toList cs).isOk = false) : fieldDenotes name ty nl st md cs = none := by
  unfold fieldDenotes
  split
  · rfl
  · cases hr : readType ty.toList cs with
    | error e => rfl
    | ok dt => simp [hr, R.isOk] at h

/-- a field whose type string parses to a term the reader table found in deserialize.rs does not list — any name, all
strings (through `gen_reader_rejects`) -/
theorem denotes_unknown_name (name ty : String) (nl : Bool) (st : Option Strategy) (md : Metadata) (cs : List Field)
    (n : Text) (q : Bool) (args : Terms) (ht : Term.fromStr ty.toList = .ok (.mk n q args))
    (hl : TypeNameTable.lookupReader Generated.TypeNames.readerArms (String.ofList n) args.toList.length = none) :
    fieldDenotes name ty nl st md cs = none := by
  apply denotes_unreadable_type
  have := C09Gen.gen_reader_rejects n q args cs hl
  simp only [readType, buildDataType, buildDataTypeWith]
  unfold Term.fromStr at ht
  rw [ht]
  exact this

/-- a field that is not a valid schema (strategy not admissible for the type, `Time32`/`Time64` unit mismatch, negative
size, dictionary with other key / value types, map entries not a two-field struct) -/
theorem denotes_invalid (name ty : String) (nl : Bool) (st : Option Strategy) (md : Metadata) (cs : List Field)
    (dt : DataType) (hr : readType ty.toList cs = .ok dt)
    (hv : validField (.mk name dt (normNullable dt nl) (withStrategy md st)) = false) :
    fieldDenotes name ty nl st md cs = none := by
  unfold fieldDenotes
  split
  · rfl
  · simp [hr, hv]

/-! ## non-vacuity: the predicate on concrete values -/

example : denotesSchema (.arr (.cons (printField esc0 exampleField) .nil)) = true := by
  have h : parseSchema (.arr (.cons (printField esc0 exampleField) .nil)) = .ok [exampleField] :=
    parseFieldList_map esc0 [exampleField] (by intro f hf; rw [List.mem_singleton.mp hf]; exact exampleField_ok)
  rw [denotesSchema, ← parseSchema_denote, show parseSchemaWith false _ = _ from h]; rfl
example : denotesSchema (.obj (.cons "fields" (.arr (.cons (leafJ "I8") .nil)) .nil)) = true := by decide +kernel
/-- wrong child arity, unknown type name, bad unit, invalid / duplicate strategy, `Time32`/`Time64` unit mismatch, negative
sizes, top level neither list nor object with `fields`, missing / ill-typed keys -/
example : ∀ v ∈ [
    JVal.null, .num 3, .str "I8", .obj .nil, .obj (.cons "fields" (.num 1) .nil),
    .arr (.cons (withChildren "List" .nil) .nil),
    .arr (.cons (withChildren "Dictionary" (.cons (leafJ "I8") .nil)) .nil),
    .arr (.cons (leafJ "Int") .nil), .arr (.cons (leafJ "Timestamp(Seconds, None)") .nil),
    .arr (.cons (leafJ "Time32(Nanosecond)") .nil), .arr (.cons (leafJ "Time64(Second)") .nil),
    .arr (.cons (leafJ "FixedSizeBinary(-1)") .nil), .arr (.cons (withChildren "FixedSizeList(-2)" (.cons (leafJ "I8") .nil)) .nil),
    .arr (.cons (.obj (.cons "name" (.str "x") (.cons "data_type" (.str "I8") (.cons "strategy" (.str "Foo") .nil)))) .nil),
    .arr (.cons (.obj (.cons "name" (.str "x") (.cons "data_type" (.str "I8") (.cons "strategy" (.str "MapAsStruct") .nil)))) .nil),
    .arr (.cons (.obj (.cons "name" (.str "x") (.cons "data_type" (.str "Struct") (.cons "strategy" (.str "MapAsStruct")
      (.cons "metadata" (.obj (.cons "SERDE_ARROW:strategy" (.str "MapAsStruct") .nil)) .nil))))) .nil),
    .arr (.cons (.obj (.cons "name" (.str "x") .nil)) .nil),
    .arr (.cons (.obj (.cons "name" (.num 1) (.cons "data_type" (.str "I8") .nil))) .nil)],
    denotesSchema v = false := by
  decide +kernel
example : fieldDenotes "x" "Interval(YearMonth)" false none [] [] = none :=
  denotes_unknown_name _ _ _ _ _ _ "Interval".toList false (.cons (.mk "YearMonth".toList false .nil) .nil)
    (by simp only [Lemmas.C09.toList_eq_charsOf]; decide +kernel) (by rw [String.ofList_toList]; decide +kernel)
example : ∃ e, parseSchema (.arr (.cons (leafJ "Time32(Nanosecond)") .nil)) = .error e :=
  (C09_rejects _).1 (by decide +kernel)

end SaModel.Props.C09
