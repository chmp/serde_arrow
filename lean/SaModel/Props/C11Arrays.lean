import SaModel.Props.C11
import SaModel.Props.C10Arrays
/-
C11 — how a record is presented does not change the arrays: the statements about the ARRAYS.

Props/C11.lean proves presentation independence of the builder state (`dec`).  Composed with the end-to-end theorem
`C01.C01_build_decode'` (no `Safe`) (the arrays `toMarrow` returns decode, slot by slot, to `interpRow` of the records):

  C11_presentations                   two batches with the same documented rows (`interpRow`, which matches records by
                                      NAME), both accepted: the returned arrays decode identically, column by column.
  (acceptance itself is presentation independent: Props/C11Accept.lean `C11_presentations_success`,
   `C11_presentations_accept_iff`; physical equality of the arrays: Props/C11Physical.lean)
  C11_histories_presentations         the same along ArrayBuilder histories (through C10).
  items_*                             `Items(vs)` through `to_marrow` / `extend` / `Serializer` = the batch of one-field
                                      records named `item`; its arrays decode like those of any other presentation of
                                      these records (other struct name, maps `{"item": v}`, …).
-/
namespace SaModel.Props.C11
open SaModel SaModel.Build SaModel.Spec

theorem LFields.ofList_inj : ∀ {l1 l2 : List (String × LVal)}, LFields.ofList l1 = LFields.ofList l2 → l1 = l2
  | [], [], _ => rfl
  | [], (_, _) :: _, h => by simp [LFields.ofList] at h
  | (_, _) :: _, [], h => by simp [LFields.ofList] at h
  | (n1, v1) :: r1, (n2, v2) :: r2, h => by
    simp only [LFields.ofList, LFields.cons.injEq] at h
    obtain ⟨rfl, rfl, h⟩ := h
    rw [LFields.ofList_inj h]

/-- equal images of two lists, entry by entry -/
theorem getElem_of_map_eq {α β} {f : α → β} {l1 l2 : List α} (h : l1.map f = l2.map f) {k : Nat} (h1 : k < l1.length)
    (h2 : k < l2.length) : f l1[k] = f l2[k] := by
  simpa [List.getElem?_eq_getElem h1, List.getElem?_eq_getElem h2] using congrArg (·[k]?) h

/-- columns of equal height with the same names and the same rows are the same columns -/
theorem cols_ext (n : Nat) : ∀ (c1 c2 : List (String × List LVal)),
    (∀ c ∈ c1, c.2.length = n) → (∀ c ∈ c2, c.2.length = n) → c1.map (·.1) = c2.map (·.1) →
    (∀ i, i < n → (c1.map fun c => (c.1, c.2.getD i LVal.null)) = c2.map fun c => (c.1, c.2.getD i LVal.null)) → c1 = c2
  | [], [], _, _, _, _ => rfl
  | [], _ :: _, _, _, h, _ => by simp at h
  | _ :: _, [], _, _, h, _ => by simp at h
  | a :: r1, b :: r2, h1, h2, hn, hr => by
    simp only [List.map_cons, List.cons.injEq] at hn
    have hla := h1 a (by simp)
    have hlb := h2 b (by simp)
    have hab : a.2 = b.2 := by
      apply List.ext_getElem (by rw [hla, hlb])
      intro i hi1 hi2
      have := hr i (by rw [← hla]; exact hi1)
      simp only [List.map_cons, List.cons.injEq, Prod.mk.injEq] at this
      have e := this.1.2
      simpa [List.getD, List.getElem?_eq_getElem hi1, List.getElem?_eq_getElem hi2] using e
    have htl := cols_ext n r1 r2 (fun c hc => h1 c (by simp [hc])) (fun c hc => h2 c (by simp [hc])) hn.2
      (fun i hi => by
        have := hr i hi
        simp only [List.map_cons, List.cons.injEq] at this
        exact this.2)
    rw [htl, Prod.ext hn.1 hab]

/-- two batches with the same documented rows: what their arrays decode to is the same (from the conclusion of
`C01_build_decode'` for each) -/
theorem DecodesTo_unique {ext : Ext} {fields : List Field} {arrs1 arrs2 : List Arr} {rows1 rows2 : List SVal}
    (hsame : rows1.map (interpRow ext fields) = rows2.map (interpRow ext fields))
    (h1 : C10.DecodesTo ext fields arrs1 rows1) (h2 : C10.DecodesTo ext fields arrs2 rows2) :
    arrs1.map decodeAll = arrs2.map decodeAll := by
  obtain ⟨_, cols1, a1, n1, l1, r1⟩ := h1
  obtain ⟨_, cols2, a2, n2, l2, r2⟩ := h2
  have hlen : rows1.length = rows2.length := by simpa using congrArg List.length hsame
  have : cols1 = cols2 := by
    apply cols_ext rows1.length cols1 cols2 l1 (fun c hc => by rw [l2 c hc, hlen]) (by rw [n1, n2])
    intro i hi
    have hi2 : i < rows2.length := by omega
    have e1 := r1 i hi
    have e2 := r2 i hi2
    rw [getElem_of_map_eq hsame hi hi2, e2] at e1
    simp only [Except.ok.injEq, LVal.struct.injEq] at e1
    exact (LFields.ofList_inj e1).symm
  rw [a1, a2, this]

/-- **C11 (presentation independence of the arrays).**  Two batches `rows1`, `rows2` that are the same logical batch —
record by record the same documented value `interpRow ext fields` (records matched by NAME whatever the presentation:
struct / map with string keys / tuple in schema order, any field order, extra fields, absent nullable field vs explicit
`None`, `Some`/newtype layers, integer widths …: `record_as_map`, `record_perm`, `extra_field_ignored`) — and both
accepted by `to_marrow`: the returned arrays decode (`Spec.decodeAll`, the Arrow reading rules) to the same columns.
Hypotheses: those of `C01.C01_build_decode'` (no `Safe`) (`RawRows`: its two hypotheses on the records — raw call streams alternate;
the sentinel bound when a record contains a raw stream). -/
theorem C11_presentations (ext : Ext) (fields : List Field) (rows1 rows2 : List SVal) (arrs1 arrs2 : List Arr)
    (hschema : ∀ f ∈ fields, Lemmas.C03.SchemaOKF f)
    (hcov : fields.all Build.coveredF = true)
    (hraw1 : RawRows fields rows1) (hraw2 : RawRows fields rows2)
    (hsame : rows1.map (interpRow ext fields) = rows2.map (interpRow ext fields))
    (h1 : toMarrow ext fields rows1 = .ok arrs1) (h2 : toMarrow ext fields rows2 = .ok arrs2) :
    arrs1.map decodeAll = arrs2.map decodeAll :=
  DecodesTo_unique hsame (C01.C01_build_decode' ext fields rows1 arrs1 hschema hcov hraw1.1 hraw1.2 h1)
    (C01.C01_build_decode' ext fields rows2 arrs2 hschema hcov hraw2.1 hraw2.2 h2)

/-- the hypothesis of `C11_presentations` in index form: same number of records, record `i` means the same -/
theorem same_rows_of_index (ext : Ext) (fields : List Field) (rows1 rows2 : List SVal) (hlen : rows1.length = rows2.length)
    (h : ∀ (i : Nat) (h1 : i < rows1.length) (h2 : i < rows2.length),
      interpRow ext fields rows1[i] = interpRow ext fields rows2[i]) :
    rows1.map (interpRow ext fields) = rows2.map (interpRow ext fields) := by
  apply List.ext_getElem (by simpa using hlen)
  intro i h1 h2
  simp only [List.length_map] at h1 h2
  simp only [List.getElem_map]
  exact h i h1 h2

theorem slot_of_cols (n i : Nat) (hi : i < n) (cols : List (String × List LVal)) (hl : ∀ c ∈ cols, c.2.length = n) :
    (cols.map fun c => c.2.map (Except.ok (ε := Fail))).map (·[i]?) =
      (cols.map fun c => (c.1, c.2.getD i LVal.null)).map (fun p => some (.ok p.2)) := by
  simp only [List.map_map]
  apply List.map_congr_left
  intro c hc
  have h : i < c.2.length := by rw [hl c hc]; exact hi
  simp [List.getD, List.getElem?_eq_getElem h]

/-- **neighbours are not disturbed.**  What a record contributes to the arrays — slot `i` of every column — is a
function of its own documented value only: take two accepted batches (any sizes, any mix of differently shaped and
differently presented records around) in which record `i` of the first and record `j` of the second mean the same;
then slot `i` of the first batch's arrays decodes, column by column, like slot `j` of the second's. -/
theorem C11_neighbours_undisturbed (ext : Ext) (fields : List Field) (rows1 rows2 : List SVal) (arrs1 arrs2 : List Arr)
    (hschema : ∀ f ∈ fields, Lemmas.C03.SchemaOKF f)
    (hcov : fields.all Build.coveredF = true)
    (hraw1 : RawRows fields rows1) (hraw2 : RawRows fields rows2)
    (h1 : toMarrow ext fields rows1 = .ok arrs1) (h2 : toMarrow ext fields rows2 = .ok arrs2)
    (i j : Nat) (hi : i < rows1.length) (hj : j < rows2.length)
    (hsame : interpRow ext fields rows1[i] = interpRow ext fields rows2[j]) :
    (arrs1.map decodeAll).map (·[i]?) = (arrs2.map decodeAll).map (·[j]?) := by
  obtain ⟨_, cols1, a1, _, l1, r1⟩ := C01.C01_build_decode' ext fields rows1 arrs1 hschema hcov hraw1.1 hraw1.2 h1
  obtain ⟨_, cols2, a2, _, l2, r2⟩ := C01.C01_build_decode' ext fields rows2 arrs2 hschema hcov hraw2.1 hraw2.2 h2
  rw [a1, a2, slot_of_cols _ i hi cols1 l1, slot_of_cols _ j hj cols2 l2]
  have e1 := r1 i hi
  rw [hsame, r2 j hj] at e1
  simp only [Except.ok.injEq, LVal.struct.injEq] at e1
  rw [LFields.ofList_inj e1]

/-- **no documented value ⇒ refused.**  If some record of a batch has no documented value (`interpRow` is an error:
an absent non-nullable field, a field given twice, a value the column cannot hold, …), `to_marrow` does not succeed —
in any presentation.  (Contrapositive of the soundness half of `C01_build_decode'`.) -/
theorem C11_undefined_refused (ext : Ext) (fields : List Field) (rows : List SVal)
    (hschema : ∀ f ∈ fields, Lemmas.C03.SchemaOKF f)
    (hcov : fields.all Build.coveredF = true)
    (hraw : RawRows fields rows)
    (x : SVal) (hx : x ∈ rows) (e : Fail) (hbad : interpRow ext fields x = .error e) :
    ∀ arrs, toMarrow ext fields rows ≠ .ok arrs := by
  intro arrs h
  obtain ⟨lv, hlv⟩ := C10.DecodesTo.interp_ok (C01.C01_build_decode' ext fields rows arrs hschema hcov hraw.1 hraw.2 h) x hx
  cases hbad.symm.trans hlv

/-- a record that leaves out a non-nullable column, or gives a column twice, is refused by `to_marrow` (root level;
the same at any nesting depth through `interpDT`, `absent_required_is_error` / `duplicate_is_error`) -/
theorem C11_missing_or_duplicate_refused (ext : Ext) (fields : List Field) (rows : List SVal)
    (hschema : ∀ f ∈ fields, Lemmas.C03.SchemaOKF f)
    (hcov : fields.all Build.coveredF = true)
    (hraw : RawRows fields rows)
    (nm : String) (fs : SFields) (hx : SVal.record nm fs ∈ rows) (f : Field) (hf : f ∈ fields)
    (hbad : (f.nullable = false ∧ SFields.count f.name fs = 0) ∨ 2 ≤ SFields.count f.name fs) :
    ∀ arrs, toMarrow ext fields rows ≠ .ok arrs := by
  have hf' : f ∈ (Fields.ofList fields).toList := by rw [Fields.toList_ofList]; exact hf
  have : ∃ e, interpRow ext fields (.record nm fs) = .error e := by
    rcases hbad with ⟨h1, h2⟩ | h
    · exact absent_required_is_error ext _ false [] nm fs f hf' h1 h2
    · exact duplicate_is_error ext _ false [] nm fs f hf' h
  obtain ⟨e, he⟩ := this
  exact C11_undefined_refused ext fields rows hschema hcov hraw _ hx e he

/-- **C11 along histories.**  Two histories on builders of the same schema whose batches are, batch by batch and record
by record, the same logical rows (in whatever presentation, added through whatever front end): every build of the one
returns arrays that decode exactly like the arrays of the corresponding build of the other. -/
theorem C11_histories_presentations (ext : Ext) (fields : List Field) (r0 : B) (h0 : newRoot fields = .ok r0)
    (hschema : ∀ f ∈ fields, Lemmas.C03.SchemaOKF f)
    (hcov : fields.all Build.coveredF = true)
    (ops ops' : List C10.Op) (hraw : C10.OpsOK (fun x => structStreamsAlternate x = true) ops)
    (hnar : C10.OpsOK (fun x => noRaw x = true) ops ∨ narrowRoot fields = true)
    (hraw' : C10.OpsOK (fun x => structStreamsAlternate x = true) ops')
    (hnar' : C10.OpsOK (fun x => noRaw x = true) ops' ∨ narrowRoot fields = true)
    (hsame : (C10.batchesFrom [] ops).map (·.map (interpRow ext fields)) =
      (C10.batchesFrom [] ops').map (·.map (interpRow ext fields)))
    (outs outs' : List (B × List Arr)) (fin fin' : B)
    (h : C10.run ext r0 ops = .ok (outs, fin)) (h' : C10.run ext r0 ops' = .ok (outs', fin')) :
    outs.map (·.2.map decodeAll) = outs'.map (·.2.map decodeAll) := by
  obtain ⟨l1, b1, d1⟩ := C10.C10_histories ext fields r0 h0 hschema hcov ops hraw hnar outs fin h
  obtain ⟨l2, b2, d2⟩ := C10.C10_histories ext fields r0 h0 hschema hcov ops' hraw' hnar' outs' fin' h'
  have hb : (C10.batchesFrom [] ops).length = (C10.batchesFrom [] ops').length := by
    simpa using congrArg List.length hsame
  apply List.ext_getElem (by simp only [List.length_map]; omega)
  intro k hk1 hk2
  simp only [List.length_map] at hk1 hk2
  simp only [List.getElem_map]
  exact DecodesTo_unique (getElem_of_map_eq hsame (by omega) (by omega)) (d1 k hk1 (by omega)) (d2 k hk2 (by omega))

/-! ### `Items` through the three front ends -/

/-- `ArrayBuilder::extend(&Items(vs))` and `to_marrow(&fields, &Items(vs))`: the records an `extend` argument denotes
are the `Item(v)` records, in order … -/
theorem items_extRows (al : Nat) (vs : List SVal) : C10.extRows (serItems al vs) = some (vs.map (serItem al)) := by
  simp [serItems, C10.extRows]

/-- … the same through `Serializer::new(&mut builder)` -/
theorem items_serRows (al : Nat) (vs : List SVal) : C10.serRows (serItems al vs) = some (vs.map (serItem al)) := by
  simp [serItems, C10.serRows]

/-- **`Items(vs)` behaves exactly like a batch of one-field records named `item`.**  Whatever `rows` are — records of any
other struct type with the one field `item`, maps `{"item": v}`, … — as long as record by record they mean what `Item(v)`
means: the arrays `to_marrow` returns for `Items(vs)` decode like the arrays it returns for `rows`. -/
theorem items_arrays (ext : Ext) (fields : List Field) (al : Nat) (vs rows : List SVal) (arrs1 arrs2 : List Arr)
    (hschema : ∀ f ∈ fields, Lemmas.C03.SchemaOKF f)
    (hcov : fields.all Build.coveredF = true)
    (hraw1 : RawRows fields (vs.map (serItem al))) (hraw2 : RawRows fields rows)
    (hsame : (vs.map (serItem al)).map (interpRow ext fields) = rows.map (interpRow ext fields))
    (h1 : toMarrow ext fields (vs.map (serItem al)) = .ok arrs1) (h2 : toMarrow ext fields rows = .ok arrs2) :
    arrs1.map decodeAll = arrs2.map decodeAll :=
  C11_presentations ext fields _ rows arrs1 arrs2 hschema hcov hraw1 hraw2 hsame h1 h2

/-- instances of `hsame`: the records `nm { item: v }` of any struct type, and the maps `{"item": v}` -/
theorem items_same_as_records (ext : Ext) (fields : List Field) (al al' : Nat) (nm : String) (vs : List SVal) :
    (vs.map (serItem al)).map (interpRow ext fields) =
      (vs.map fun v => SVal.record nm (.cons "item" al' v .nil)).map (interpRow ext fields) := by
  simp only [List.map_map]
  apply List.map_congr_left
  intro v _
  exact item_interp_record ext _ false [] al al' nm v

theorem items_same_as_maps (ext : Ext) (fields : List Field) (al : Nat) (vs : List SVal) :
    (vs.map (serItem al)).map (interpRow ext fields) =
      (vs.map fun v => SVal.map (.cons (.str "item") v .nil)).map (interpRow ext fields) := by
  simp only [List.map_map]
  apply List.map_congr_left
  intro v _
  exact item_interp_map ext _ false [] al v

def exFields : List Field := [.mk "a" .int32 false [], .mk "b" .utf8 true []]

/-- one logical batch, two presentations: structs (second record without the nullable field, first with an extra one) /
a map with the keys in the other order and a tuple in schema order with an explicit `None` -/
def exRows1 : List SVal :=
  [.record "R" (.cons "a" 0 (.int .i32 1) (.cons "zzz" 2 .unit (.cons "b" 1 (.str "x") .nil))),
   .record "R" (.cons "a" 0 (.int .i32 2) .nil)]
def exRows2 : List SVal :=
  [.map (.cons (.str "b") (.some (.str "x")) (.cons (.str "a") (.int .u8 1) .nil)),
   .tuple (.cons (.int .i64 2) (.cons .none .nil))]

theorem exSame : exRows1.map (interpRow {} exFields) = exRows2.map (interpRow {} exFields) := by decide +kernel

theorem exOk : (toMarrow {} exFields exRows1).isOk = true ∧ (toMarrow {} exFields exRows2).isOk = true := by
  constructor <;> decide +kernel

theorem exSchema : ∀ f ∈ exFields, Lemmas.C03.SchemaOKF f := by simp [exFields, Lemmas.C03.SchemaOKF, Lemmas.C03.SchemaOK]
/-- `C11_presentations` applies with every hypothesis discharged -/
example : ∀ arrs1 arrs2, toMarrow {} exFields exRows1 = .ok arrs1 → toMarrow {} exFields exRows2 = .ok arrs2 →
    arrs1.map decodeAll = arrs2.map decodeAll := fun arrs1 arrs2 h1 h2 =>
  C11_presentations {} exFields exRows1 exRows2 arrs1 arrs2 exSchema (by decide) (RawRows.of_noRaw (by decide))
    (RawRows.of_noRaw (by decide)) exSame h1 h2

/-- `C11_neighbours_undisturbed`: the second record of the struct batch alone, as a tuple: slot 1 there = slot 0 here -/
example : ∀ arrs1 arrs2, toMarrow {} exFields exRows1 = .ok arrs1 →
    toMarrow {} exFields [.tuple (.cons (.int .i64 2) (.cons .none .nil))] = .ok arrs2 →
    (arrs1.map decodeAll).map (·[1]?) = (arrs2.map decodeAll).map (·[0]?) := fun arrs1 arrs2 h1 h2 =>
  C11_neighbours_undisturbed {} exFields exRows1 _ arrs1 arrs2 exSchema (by decide) (RawRows.of_noRaw (by decide))
    (RawRows.of_noRaw (by decide)) h1 h2 1 0 (by decide) (by decide) (by decide +kernel)

/-- absent required field `a` / field `b` given twice: no documented value, refused -/
example : (∃ e, interpRow {} exFields (.record "R" (.cons "b" 1 (.str "x") .nil)) = .error e) ∧
    (∃ e, interpRow {} exFields (.record "R" (.cons "b" 1 .none (.cons "a" 0 (.int .i32 1) (.cons "b" 1 .none .nil)))) = .error e) ∧
    (toMarrow {} exFields [.record "R" (.cons "b" 1 (.str "x") .nil)]).isOk = false ∧
    (toMarrow {} exFields [.record "R" (.cons "b" 1 .none (.cons "a" 0 (.int .i32 1) (.cons "b" 1 .none .nil)))]).isOk = false :=
  ⟨absent_required_is_error {} _ false [] "R" _ (.mk "a" .int32 false []) (by simp [exFields, Fields.ofList, Fields.toList]) rfl rfl,
   duplicate_is_error {} _ false [] "R" _ (.mk "b" .utf8 true []) (by simp [exFields, Fields.ofList, Fields.toList]) (by decide),
   by decide +kernel, by decide +kernel⟩

/-- `Items([7u8, 9u8])` against `[item: Int32]`: accepted, and the column decodes to 7, 9 -/
example : (toMarrow {} [.mk "item" .int32 false []] ([SVal.int .u8 7, .int .u8 9].map (serItem 0))).map (·.map decodeAll) =
    .ok [[.ok (.int 7), .ok (.int 9)]] := by decide +kernel

/-- non-vacuity, on the schema OUTSIDE `Safe` of Props/C01Obs.lean: the same logical batch (null, {d: "a"}, null) as
structs and as maps / an absent nullable field -/
example : ∀ arrs1 arrs2, toMarrow {} C01.exUnsafeFields C01.exUnsafeRows = .ok arrs1 →
    toMarrow {} C01.exUnsafeFields
      [.map .nil, .map (.cons (.str "s") (.map (.cons (.str "d") (.str "a") .nil)) .nil), .record "Q" .nil] = .ok arrs2 →
    arrs1.map decodeAll = arrs2.map decodeAll := by
  intro arrs1 arrs2 h1 h2
  refine C11_presentations {} _ _ _ arrs1 arrs2 ?_ (by decide) (RawRows.of_noRaw (by decide))
    (RawRows.of_noRaw (by decide)) (by decide +kernel) h1 h2
  simp [C01.exUnsafeFields, Lemmas.C03.SchemaOKF, Lemmas.C03.SchemaOK, Lemmas.C03.SchemaOKFs]

end SaModel.Props.C11
