import SaModel.Props.C12
import SaModel.Props.C18
import SaModel.Lemmas.C12Out
/-
C12, reads OUTSIDE the window: what `readAs … (sliceView a o l) i` / `readAny … (sliceView a o l) i` do for `l ≤ i`.
A slice shares its buffers with the whole array (bitmaps: same bytes, bit offset += o; Utf8 / List / Map data and children
untouched), so a reader that looked at a shared buffer before checking the row against the slice's own length could hand
out a value (or the validity) of a row of the WHOLE array that lies outside the window.

Result (`readAs_out_of_window`, `readAny_out_of_window`): with the code that exists (`Fixes.all`) this never happens.
For EVERY array (no well-formedness hypothesis, the window may even stick out of the array), EVERY target and every
`l ≤ i` the read is an `Err` — a `fail` (`Fail.err msg`), never `ok`, never an unwind (`Fail.panic`).  No constructor and
no target is an exception: `Option<T>` (`is_some` checks the row first), `()` over Null, structs without fields — all fail.
In fact it is a statement about lengths, not slices (`readAs_beyond_len`: every read at `idx ≥ lenOf b` of any view `b`
fails), and `lenOf (sliceView a o l) ≤ l` (`lenOf_slice_le`).

It depends on exactly four of the eight reader `fix:` commits (`OutFixes`: bytesGet, fsbZero, structIdx, nullLen); on the
pinned tree each of them is a counterexample class (`pinned_*` below): Utf8 / Binary at `i = l` reads the SHARED validity
bitmap at bit `o + l` (`ok none` if that row of the whole array is null, an unwind `offsets[idx + 1]` if it is valid), the
Null reader and the typed Struct reads do not check the row at all (`ok`), FixedSizeBinary(0) unwinds in `% 0`.
-/
namespace SaModel.Props.C12
open SaModel SaModel.Read SaModel.Spec SaModel.Lemmas.C12

/-- the length of a slice never exceeds `l`, whatever the array and the window -/
theorem lenOf_slice_le (a : Arr) (o l : Nat) : lenOf (sliceView a o l) ≤ l := Lemmas.C12.lenOf_slice_le a o l

/-! ### beyond the length of any view -/

/-- every typed read at a row `idx ≥ lenOf b` of ANY view `b`, for ANY target: an `Err` (`fail`) — never a value, never an
unwind.  No hypothesis on `b`. -/
theorem readAs_beyond_len (t : Target) (b : Arr) (idx : Nat) (h : lenOf b ≤ idx) :
    ∃ msg, readAs Fixes.all t b idx = .error (.err msg) := readAs_beyond OutFixes.all t b idx h

/-- the same for every combination of the `fix:` commits that contains the four of `OutFixes` -/
theorem readAs_beyond_len_fx (fx : Fixes) (hb : fx.bytesGet = true) (hz : fx.fsbZero = true) (hs : fx.structIdx = true)
    (hn : fx.nullLen = true) (t : Target) (b : Arr) (idx : Nat) (h : lenOf b ≤ idx) :
    ∃ msg, readAs fx t b idx = .error (.err msg) := readAs_beyond ⟨hb, hz, hs, hn⟩ t b idx h

theorem readAny_beyond_len (b : Arr) (idx : Nat) (h : lenOf b ≤ idx) :
    ∃ msg, readAny Fixes.all b idx = .error (.err msg) := readAny_beyond OutFixes.all b idx h

/-- `is_some` beyond the length: an `Err` — the validity bitmap is not consulted -/
theorem isSome_beyond_len (b : Arr) (idx : Nat) (h : lenOf b ≤ idx) :
    ∃ msg, isSome Fixes.all b idx = .error (.err msg) := isSome_beyond OutFixes.all b idx h

/-! ### outside the window of a slice -/

/-- a typed read outside the window, `l ≤ i`: an `Err` (`fail`), for every target, every array, every window -/
theorem readAs_out_of_window (t : Target) (a : Arr) (o l i : Nat) (hi : l ≤ i) :
    ∃ msg, readAs Fixes.all t (sliceView a o l) i = .error (.err msg) :=
  readAs_beyond_len t _ i (Nat.le_trans (lenOf_slice_le a o l) hi)

theorem readAs_out_of_window_fx (fx : Fixes) (hb : fx.bytesGet = true) (hz : fx.fsbZero = true)
    (hs : fx.structIdx = true) (hn : fx.nullLen = true) (t : Target) (a : Arr) (o l i : Nat) (hi : l ≤ i) :
    ∃ msg, readAs fx t (sliceView a o l) i = .error (.err msg) :=
  readAs_beyond_len_fx fx hb hz hs hn t _ i (Nat.le_trans (lenOf_slice_le a o l) hi)

/-- `deserialize_any` outside the window: an `Err` (`fail`) -/
theorem readAny_out_of_window (a : Arr) (o l i : Nat) (hi : l ≤ i) :
    ∃ msg, readAny Fixes.all (sliceView a o l) i = .error (.err msg) :=
  readAny_beyond_len _ i (Nat.le_trans (lenOf_slice_le a o l) hi)

theorem isSome_out_of_window (a : Arr) (o l i : Nat) (hi : l ≤ i) :
    ∃ msg, isSome Fixes.all (sliceView a o l) i = .error (.err msg) :=
  isSome_beyond_len _ i (Nat.le_trans (lenOf_slice_le a o l) hi)

/-- spelled out: an out-of-window read never returns a value (in particular no value of the whole array, and not
`None` for an `Option` target either) and never unwinds -/
theorem readAs_out_of_window_never (t : Target) (a : Arr) (o l i : Nat) (hi : l ≤ i) :
    (∀ v, readAs Fixes.all t (sliceView a o l) i ≠ .ok v) ∧
    (∀ s, readAs Fixes.all t (sliceView a o l) i ≠ .error (.panic s)) ∧
    (readAs Fixes.all t (sliceView a o l) i).isErr = true := by
  obtain ⟨msg, h⟩ := readAs_out_of_window t a o l i hi
  rw [h]
  exact ⟨fun v h => (by cases h), fun s h => (by cases h), rfl⟩

/-- the ANNOTATED typed reads outside the window: the same `Err`, annotated by whichever reader raised it (or not at all
where no `.ctx` wrapper applies, e.g. FixedSizeList on the pinned tree of the C18 fixes) — through `eraseAnn_readAsA` (C18) -/
theorem readAsA_out_of_window (af : AnnFixes) (p : String) (t : Target) (a : Arr) (o l i : Nat) (hi : l ≤ i) :
    ∃ msg, readAsA af Fixes.all p t (sliceView a o l) i = .error (.err msg) ∨
      ∃ ann, readAsA af Fixes.all p t (sliceView a o l) i = .error (.errCtx msg ann) := by
  obtain ⟨msg, h⟩ := readAs_out_of_window t a o l i hi
  exact ⟨msg, SaModel.Props.C18.eraseAnn_eq_err.mp ((SaModel.Props.C18.eraseAnn_readAsA af Fixes.all t p _ i).trans h)⟩

/-- the record level never gets that far: `Deserializer::get(i)` of the one-column record reader over a slice hands out
no item for `l ≤ i` (`ViewExt::len` of a slice is at most `l`) — for every `Fixes` -/
theorem readRecord_out_of_window (fx : Fixes) (t : Target) (fm : FieldMeta) (col : Arr) (o l i : Nat) (hi : l ≤ i) :
    readRecord fx t fm (sliceView col o l) i = none ∧
    ∀ af, readRecordA af fx t fm (sliceView col o l) i = none := by
  have hv : vlen (sliceView col o l) ≤ lenOf (sliceView col o l) := by
    generalize sliceView col o l = b
    cases b with
    | dictionary ks vs => cases ks <;> simp only [vlen, lenOf] <;> omega
    | _ => simp only [vlen, lenOf] <;> exact Nat.le_refl _
  have c : i ≥ vlen (sliceView col o l) := Nat.le_trans hv (Nat.le_trans (lenOf_slice_le col o l) hi)
  simp only [readRecord, readRecordA, c, if_true, implies_true, and_self]

/-! ### non-vacuity, and the pinned tree: every one of the four fixes is needed -/

/-- a nullable Utf8 column "a", "b", null, null; `utf8Valid` is the same with rows 0–2 valid -/
def utf8Nulls : Arr := .bytes .utf8 (some ⟨[0b0011], 0⟩) [0, 1, 2, 3, 4] [97, 98, 99, 100]
def utf8Valid : Arr := .bytes .utf8 (some ⟨[0b0111], 0⟩) [0, 1, 2, 3, 4] [97, 98, 99, 100]

/-- with the code that exists: out of the window of `(0, 2)` — at `i = 2` (a row of the whole array!) and far out — an
`Err` for `Option<String>` too, although row 2 of the whole array is null / is "c"; inside the window the reads succeed -/
example :
    readAs Fixes.all (.option .string) (sliceView utf8Nulls 0 2) 2
      = .error (.err "Invalid access: tried to get element of array") ∧
    readAs Fixes.all (.option .string) (sliceView utf8Valid 0 2) 2
      = .error (.err "Invalid access: tried to get element of array") ∧
    readAny Fixes.all (sliceView utf8Valid 0 2) 100 = .error (.err "Invalid access: tried to get element of array") ∧
    readAs Fixes.all (.option .string) utf8Valid 2 = .ok (.some (.str .owned [99])) ∧
    readAs Fixes.all (.option .string) utf8Nulls 2 = .ok .none ∧
    (readAs Fixes.all (.option .string) (sliceView utf8Valid 0 2) 1).isOk = true := by decide +kernel

/-- the theorem on `fslExample`, window (1, 3), at `i = 3`: row 4 of the whole 5-row array, which reads fine there -/
example : (readAs Fixes.all fslTarget (sliceView fslExample 1 3) 3).isErr = true ∧
    (readAs Fixes.all fslTarget fslExample (1 + 3)).isOk = true :=
  ⟨(readAs_out_of_window_never fslTarget fslExample 1 3 3 (by decide +kernel)).2.2, by decide +kernel⟩

/-- pinned tree, class 1 (`bytesGet`): `BytesView::get` accepts `idx = len`.  The SHARED validity bitmap is read at bit
`o + l`: row `o + l` of the whole array is null ⇒ the out-of-window read returns `None` (a value of the whole array); it
is valid ⇒ the read unwinds in `offsets[idx + 1]`.  Only that one fix missing has the same effect. -/
theorem pinned_bytes_out_of_window :
    readAs Fixes.pinned (.option .string) (sliceView utf8Nulls 0 2) 2 = .ok .none ∧
    readAny Fixes.pinned (sliceView utf8Nulls 0 2) 2 = .ok .none ∧
    readAny Fixes.pinned (sliceView utf8Valid 0 2) 2 = .error (.panic "BytesView::get: offsets[idx + 1]") ∧
    readAny { Fixes.all with bytesGet := false } (sliceView utf8Nulls 0 2) 2 = .ok .none := by decide +kernel

/-- pinned tree, class 2 (`nullLen`): the Null reader does not check the row — any index reads as `()` / `None` -/
theorem pinned_null_out_of_window :
    readAs Fixes.pinned .unit (sliceView (.null 5) 1 2) 7 = .ok .unit ∧
    readAs Fixes.pinned (.option .unit) (sliceView (.null 5) 1 2) 7 = .ok .none ∧
    readAny { Fixes.all with nullLen := false } (sliceView (.null 5) 1 2) 7 = .ok .none := by decide +kernel

/-- pinned tree, class 3 (`structIdx`): the typed Struct reads (`deserialize_struct` / `_tuple` / `_map`) do not check the
row; a struct without fields — or whose fields' readers do not check either — reads `ok` at any index -/
theorem pinned_struct_out_of_window :
    readAs Fixes.pinned (.struct .nil) (sliceView (.struct 5 none .nil) 1 2) 7 = .ok (.map .nil) ∧
    readAs { Fixes.all with structIdx := false } (.tuple .nil)
      (sliceView (.struct 5 none (.cons ⟨"x", false, []⟩ (.prim .int8 none [1, 2, 3, 4, 5]) .nil)) 1 2) 3 = .ok (.seq .nil) ∧
    (readAs Fixes.pinned (.struct (.cons "n" .unit .nil))
      (sliceView (.struct 5 none (.cons ⟨"n", false, []⟩ (.null 5) .nil)) 1 2) 3).isOk = true := by decide +kernel

/-- pinned tree, class 4 (`fsbZero`): FixedSizeBinary(0) — every read, in or out of the window, unwinds in `% 0`; with
the fix the out-of-window read is the `Err` of the theorem -/
theorem pinned_fsb_out_of_window :
    readAs Fixes.pinned (.seq (.int .u8)) (sliceView (.fixedSizeBinary 0 none []) 0 0) 0
      = .error (.panic "FixedSizeBinaryDeserializer::new: data.len() % 0") ∧
    readAs { Fixes.all with fsbZero := false } (.seq (.int .u8)) (sliceView (.fixedSizeBinary 0 none []) 0 0) 0
      = .error (.panic "FixedSizeBinaryDeserializer::new: data.len() % 0") ∧
    readAs Fixes.all (.seq (.int .u8)) (sliceView (.fixedSizeBinary 0 none []) 0 0) 0
      = .error (.err "Out of bounds access") := by decide +kernel

/-- the other four fixes are irrelevant: with only the four of `OutFixes` the out-of-window reads of the examples fail -/
example :
    let fx : Fixes := { Fixes.pinned with bytesGet := true, fsbZero := true, structIdx := true, nullLen := true }
    ∃ msg, readAs fx (.option .string) (sliceView utf8Nulls 0 2) 2 = .error (.err msg) :=
  readAs_out_of_window_fx _ rfl rfl rfl rfl _ _ _ _ _ (by decide +kernel)

/-- annotated, on the Map column of Props/C12Ann-style shape: out of the window the Map reader itself refuses the row -/
example :
    readAsA AnnFixes.all Fixes.all "$" (.map .string (.int .i8))
      (sliceView (.map none [0, 1, 2, 3] ⟨"entries", false, ⟨"key", false, []⟩, ⟨"value", true, []⟩⟩
        (.bytes .utf8 none [0, 1, 2, 3] [97, 98, 99]) (.prim .int32 none [1, 2, 3])) 1 1) 1
      = .error (.errCtx "Out of bounds access" [("data_type", "Map(..)"), ("field", "$")]) := by decide +kernel

/-- the record level: no item -/
example : readRecord Fixes.all (.tuple (.cons (.option .string) .nil)) ⟨"c", true, []⟩ (sliceView utf8Nulls 0 2) 2 = none :=
  (readRecord_out_of_window Fixes.all _ _ utf8Nulls 0 2 2 (by decide +kernel)).1

end SaModel.Props.C12
