import SaModel.Props.C01Dict
import SaModel.Props.C01CompleteObs
import SaModel.Lemmas.C03ObsTotalW
/-
C01 — completeness on `coveredWF`: `runRows_complete'` / `toMarrow_complete'` /
`toMarrow_complete_decode'` with `coveredF` weakened.

  runRows_complete''            `coveredWF` for `coveredF` (the proof only needs `Shape`, which `coveredW` gives)
  toMarrow_complete''           `coveredWF` + `PlaceholderStr root0`: every dictionary with NON-nullable keys has a value builder
                                that stores strings (Utf8 / LargeUtf8 / Utf8View).  A dictionary with NULLABLE keys may have any
                                value type inside `coveredW` (e.g. `Dictionary(Int8, Int32)?`): its `into_array` never takes the
                                placeholder branch.  `PlaceholderStr` of the fresh root is a property of the schema (it is
                                invariant under `take`); it cannot be dropped: `Lemmas.C03.placeholder_binary_fails`, and on the
                                crate `to_marrow([s: Struct{d: Dictionary(UInt32, Binary)}?], [{s: None}])` is refused
  toMarrow_complete_decode''    … and then the arrays are what `C01_build_decode''` says
  toMarrow_complete_schema''    the same with `PlaceholderStr root0` replaced by the Boolean schema predicate
                                `fields.all placeholderStrF` (Lemmas/C03ObsTotalW.lean: an integer-keyed dictionary is nullable or has
                                a Utf8 / LargeUtf8 / Utf8View value type), and `newRoot fields = ok root0` only as the source of `room`
-/
namespace SaModel.Props.C01
open SaModel SaModel.Build SaModel.Spec

/-- **`runRows` is complete on `coveredWF`** -/
theorem runRows_complete'' (ext : Ext) (fields : List Field) (rows : List SVal) (root0 : B)
    (hc : fields.all coveredWF = true) (h0 : newRoot fields = .ok root0)
    (htot : totalFs (Fields.ofList fields) = true)
    (hrows : ∀ r ∈ rows, noRaw r = true ∧ ∃ lv, interpRow ext fields r = .ok lv)
    (hcap : (rows.map (vsize ext)).sum ≤ room root0) : ∃ root, runRows ext fields rows = .ok root := by
  obtain ⟨hw0, _, _⟩ := newRoot_fresh h0
  obtain ⟨root, h, _⟩ := foldl_push_complete' ext (.struct (Fields.ofList fields)) false [] rows root0
    (Build.WFH_of_WFB _ hw0) (Build.newRoot_NoDictKey h0)
    (newRoot_shapeW hc h0) (by simp [total, htot]) hrows hcap
  exact ⟨root, by simp only [runRows, h0]; exact h⟩

/-- **`to_marrow` is complete on `coveredWF`** when the placeholder branch of `into_array` can be served
(`PlaceholderStr root0`: a dictionary with non-nullable keys has a string-storing value builder) -/
theorem toMarrow_complete'' (ext : Ext) (fields : List Field) (rows : List SVal) (root0 : B)
    (hc : fields.all coveredWF = true) (h0 : newRoot fields = .ok root0)
    (hph : Lemmas.C03.PlaceholderStr root0)
    (htot : totalFs (Fields.ofList fields) = true)
    (htyped : Lemmas.C03.typedFs (Fields.ofList fields) = true)
    (hrows : ∀ r ∈ rows, noRaw r = true ∧ ∃ lv, interpRow ext fields r = .ok lv)
    (hcap : (rows.map (vsize ext)).sum ≤ room root0) : ∃ arrs, toMarrow ext fields rows = .ok arrs := by
  obtain ⟨root, hrun⟩ := runRows_complete'' ext fields rows root0 hc h0 htot hrows hcap
  obtain ⟨hw, _, _, ht, _⟩ := runRows_rows' ext fields rows root0 root h0 hrun
  have hb := Lemmas.C03.runRows_builtFor ext fields rows root (Build.push_takeRest ext) hrun
  have hf := Lemmas.C03.FinB_of_builtFor root _ _ hb (by simpa [Lemmas.C03.typedDT] using htyped)
  have hp : Lemmas.C03.PlaceholderStr root := by
    have e : takeRest root = takeRest root0 := by
      have h' := hrun
      simp only [runRows, h0, bind, Except.bind] at h'
      exact Build.foldlM_push_takeRest ext rows root0 root h'
    exact Lemmas.C03.PlaceholderStr_of_takeRest_eq root0 root e hph
  obtain ⟨⟨arrs, rest⟩, hba⟩ := Lemmas.C03.buildArrays_totalH ext root hw hf hp
    (Lemmas.C03.BuiltFor_struct_root root _ _ hb)
  refine ⟨arrs, ?_⟩
  rw [Props.C03.toMarrow_eq, hrun]
  simp only [bind, Except.bind, hba, pure, Except.pure]

/-- … and then the arrays are what C01 says (`C01_build_decode''`) -/
theorem toMarrow_complete_decode'' (ext : Ext) (fields : List Field) (rows : List SVal) (root0 : B)
    (hschema : ∀ f ∈ fields, Lemmas.C03.SchemaOKF f)
    (hc : fields.all coveredWF = true) (h0 : newRoot fields = .ok root0)
    (hph : Lemmas.C03.PlaceholderStr root0)
    (htot : totalFs (Fields.ofList fields) = true)
    (htyped : Lemmas.C03.typedFs (Fields.ofList fields) = true)
    (hrows : ∀ r ∈ rows, noRaw r = true ∧ ∃ lv, interpRow ext fields r = .ok lv)
    (hcap : (rows.map (vsize ext)).sum ≤ room root0) :
    ∃ arrs, toMarrow ext fields rows = .ok arrs ∧ arrs.length = fields.length ∧
      ∃ cols : List (String × List LVal),
        arrs.map decodeAll = cols.map (fun c => c.2.map .ok) ∧ cols.map (·.1) = fields.map (·.name) ∧
        (∀ c ∈ cols, c.2.length = rows.length) ∧
        ∀ (i : Nat) (hi : i < rows.length),
          interpRow ext fields rows[i] = .ok (.struct (LFields.ofList (cols.map fun c => (c.1, c.2.getD i .null)))) := by
  obtain ⟨arrs, h⟩ := toMarrow_complete'' ext fields rows root0 hc h0 hph htot htyped hrows hcap
  exact ⟨arrs, h, C01_build_decode'' ext fields rows arrs hschema hc (fun x hx => noRaw_ssa x (hrows x hx).1)
    (Or.inl fun x hx => (hrows x hx).1) h⟩

/-- **`to_marrow` is complete on `coveredWF` ∧ `placeholderStrF`** — both decidable on the schema -/
theorem toMarrow_complete_schema'' (ext : Ext) (fields : List Field) (rows : List SVal) (root0 : B)
    (hschema : ∀ f ∈ fields, Lemmas.C03.SchemaOKF f)
    (hc : fields.all coveredWF = true) (hph : fields.all Lemmas.C03.placeholderStrF = true)
    (h0 : newRoot fields = .ok root0)
    (htot : totalFs (Fields.ofList fields) = true)
    (htyped : Lemmas.C03.typedFs (Fields.ofList fields) = true)
    (hrows : ∀ r ∈ rows, noRaw r = true ∧ ∃ lv, interpRow ext fields r = .ok lv)
    (hcap : (rows.map (vsize ext)).sum ≤ room root0) :
    ∃ arrs, toMarrow ext fields rows = .ok arrs ∧ arrs.length = fields.length ∧
      ∃ cols : List (String × List LVal),
        arrs.map decodeAll = cols.map (fun c => c.2.map .ok) ∧ cols.map (·.1) = fields.map (·.name) ∧
        (∀ c ∈ cols, c.2.length = rows.length) ∧
        ∀ (i : Nat) (hi : i < rows.length),
          interpRow ext fields rows[i] = .ok (.struct (LFields.ofList (cols.map fun c => (c.1, c.2.getD i .null)))) :=
  toMarrow_complete_decode'' ext fields rows root0 hschema hc h0 (Lemmas.C03.newRoot_PlaceholderStrW hph h0) htot htyped
    hrows hcap

/-- `toMarrow_complete'` is the special case (`coveredF` gives both `coveredWF` and `PlaceholderStr`) -/
theorem toMarrow_complete'_of'' (ext : Ext) (fields : List Field) (rows : List SVal) (root0 : B)
    (hc : fields.all coveredF = true) (h0 : newRoot fields = .ok root0)
    (htot : totalFs (Fields.ofList fields) = true)
    (htyped : Lemmas.C03.typedFs (Fields.ofList fields) = true)
    (hrows : ∀ r ∈ rows, noRaw r = true ∧ ∃ lv, interpRow ext fields r = .ok lv)
    (hcap : (rows.map (vsize ext)).sum ≤ room root0) : ∃ arrs, toMarrow ext fields rows = .ok arrs :=
  toMarrow_complete'' ext fields rows root0 (Build.all_coveredWF_of_coveredF hc) h0
    (Lemmas.C03.newRoot_PlaceholderStr hc h0) htot htyped hrows hcap

/-! ### non-vacuity outside `coveredF`: `d: Dictionary(Int8, Int32)?` next to `l: List<Dictionary(UInt8, Utf8)>` -/

def exDictNullFields : List Field :=
  [.mk "d" (.dictionary .int8 .int32) true [],
   .mk "l" (.list (.mk "element" (.dictionary .uint8 .utf8) false [])) false []]
def exDictNullRows : List SVal :=
  [.record "R" (.cons "d" 0 .none (.cons "l" 0 (.seq (.cons (.str "a") (.cons (.str "b") (.cons (.str "a") .nil)))) .nil)),
   .record "R" (.cons "d" 0 .unit (.cons "l" 0 (.seq .nil) .nil))]

def exDictNullRoot : B :=
  .struct "$" 0 none
    (.cons (.dictionary "$.d" (.leaf "$.d.key" (.int .i8) (some []) []) (.leaf "$.d.value" (.int .i32) none []) [])
      ⟨"d", true, []⟩
    (.cons (.list "$.l" false ⟨"element", false, []⟩ none [0]
        (.dictionary "$.l.element" (.leaf "$.l.element.key" (.int .u8) none []) (.bytes "$.l.element.value" .utf8 none [0] []) []))
      ⟨"l", false, []⟩ .nil)) [none, none] 0 [false, false]

theorem exDictNullRoot_eq : newRoot exDictNullFields = .ok exDictNullRoot := by decide

/-- the schema predicate: true of the example (nullable refusing dictionary, non-nullable string dictionary), false of a
NON-nullable refusing dictionary, true again of a non-nullable Utf8View dictionary -/
example : exDictNullFields.all Lemmas.C03.placeholderStrF = true ∧
    Lemmas.C03.placeholderStrF (.mk "d" (.dictionary .int8 .int32) false []) = false ∧
    Lemmas.C03.placeholderStrF (.mk "d" (.dictionary .int8 .utf8View) false []) = true := by decide +kernel

/-- every hypothesis of `toMarrow_complete_schema''` discharged -/
example : ∃ arrs, toMarrow {} exDictNullFields exDictNullRows = .ok arrs ∧ arrs.length = exDictNullFields.length ∧
    ∃ cols : List (String × List LVal),
      arrs.map decodeAll = cols.map (fun c => c.2.map .ok) ∧ cols.map (·.1) = exDictNullFields.map (·.name) ∧
      (∀ c ∈ cols, c.2.length = exDictNullRows.length) ∧
      ∀ (i : Nat) (hi : i < exDictNullRows.length),
        interpRow {} exDictNullFields exDictNullRows[i] =
          .ok (.struct (LFields.ofList (cols.map fun c => (c.1, c.2.getD i .null)))) := by
  refine toMarrow_complete_schema'' {} exDictNullFields exDictNullRows exDictNullRoot ?_ (by decide +kernel)
    (by decide +kernel) exDictNullRoot_eq (by decide +kernel) (by decide +kernel) ?_ (by decide +kernel)
  · simp [exDictNullFields, Lemmas.C03.SchemaOKF, Lemmas.C03.SchemaOK, Lemmas.C03.SchemaOKFs]
  · intro r hr
    simp only [exDictNullRows, List.mem_cons, List.not_mem_nil, or_false] at hr
    rcases hr with rfl | rfl
    · exact ⟨by decide, ok_of_isOk (by decide +kernel)⟩
    · exact ⟨by decide, ok_of_isOk (by decide +kernel)⟩

example : exDictNullFields.all coveredWF = true ∧ exDictNullFields.all coveredF = false := by decide +kernel

/-- every hypothesis of `toMarrow_complete_decode''` discharged -/
example : ∃ arrs, toMarrow {} exDictNullFields exDictNullRows = .ok arrs ∧ arrs.length = exDictNullFields.length ∧
    ∃ cols : List (String × List LVal),
      arrs.map decodeAll = cols.map (fun c => c.2.map .ok) ∧ cols.map (·.1) = exDictNullFields.map (·.name) ∧
      (∀ c ∈ cols, c.2.length = exDictNullRows.length) ∧
      ∀ (i : Nat) (hi : i < exDictNullRows.length),
        interpRow {} exDictNullFields exDictNullRows[i] =
          .ok (.struct (LFields.ofList (cols.map fun c => (c.1, c.2.getD i .null)))) := by
  refine toMarrow_complete_decode'' {} exDictNullFields exDictNullRows exDictNullRoot ?_ (by decide +kernel)
    exDictNullRoot_eq ?_ (by decide +kernel) (by decide +kernel) ?_ (by decide +kernel)
  · simp [exDictNullFields, Lemmas.C03.SchemaOKF, Lemmas.C03.SchemaOK, Lemmas.C03.SchemaOKFs]
  · simp [exDictNullRoot, Lemmas.C03.PlaceholderStr, Lemmas.C03.PlaceholderStrL, Lemmas.C03.isStrB, isUtf8Ty,
      B.isNullable]
  · intro r hr
    simp only [exDictNullRows, List.mem_cons, List.not_mem_nil, or_false] at hr
    rcases hr with rfl | rfl
    · exact ⟨by decide, ok_of_isOk (by decide +kernel)⟩
    · exact ⟨by decide, ok_of_isOk (by decide +kernel)⟩

end SaModel.Props.C01
