import SaModel.Lemmas.C17Range
import SaModel.Lemmas.C02Supported
import SaModel.Lemmas.ReadErrs
import SaModel.Lemmas.C17TouchTyped
import SaModel.Lemmas.C17UntouchedTyped
import SaModel.Lemmas.C17UntouchedRefl
/-
C17 — structurally inconsistent array views give an error, not a panic or foreign data.
Property theorems only.  Model: SaModel/Read/Reader.lean (readers after the `fix:` commits = `Fixes.all`);
all statements are over ARBITRARY `Arr` (no well-formedness hypothesis).

* `new_no_panic`, `isSome_no_panic`, `read_no_panic` (deserialize_any), `readAs_no_panic` (every typed target).
* `read_in_range`: every byte string a reader hands out is a sub-range `(buf.drop s).take n`, `s + n ≤ buf.length`,
  of the buffer the view designates (`bytes_in_range`, `view_in_range`, `fsb_in_range`, `dict_in_range`), and
  every successful element read is below the array's length (`isSome_ok_lt_len`): children are addressed only
  through `is_some`-guarded reads, so no element outside a child is ever returned.
* `readAs_touch_in_range` (+ `readAny_…`, `readRecord_…`): a successful read implies the run-time predicate `touchOK`
  (every slot visited below the length of its array AND, at the leaves, the bytes of a valid slot inside the buffer the
  offsets / the view descriptor designate: `touchOK_leaf_iff`, `leafOK_bytes_eq`, `leafOK_view_eq`,
  `readAs_view_designated`, `readAs_bytes_designated`); `untouched_touch_in_range` ties it to `touchEq`.
* `untouched_ok` (+ `untouched_ok_any`, `untouched_ok_isSome`, `untouched_corruption_ok`, `readRecord_untouched`,
  `readAll_untouched`): two views that agree on the footprint of a read (`Spec.touchEq`) give the same result;
  `touchEq_refl`.
* negations for the pinned readers with concrete witnesses (by evaluation).
-/
namespace SaModel.Props.C17
open SaModel SaModel.Read SaModel.Spec

/-! ### construction never panics -/

/- `new` decides `Props.C02.supportedView` and otherwise fails with an error value: `Props.C02.new_decides`
(Lemmas/C02Supported.lean) -/
theorem new_no_panic : ∀ (a : Arr), NoPanic (new Fixes.all a) := fun a => (C02.new_decides a).2
theorem newFields_no_panic : ∀ (fs : ArrFields), NoPanic (newFields Fixes.all fs) := fun fs => (C02.newFields_decides fs).2
theorem newUFields_no_panic : ∀ (fs : ArrUFields) (k : Nat), NoPanic (newUFields Fixes.all fs k) :=
  fun fs k => (C02.newUFields_decides fs k).2

/-! ### `is_some` never panics -/

theorem isSome_no_panic (a : Arr) (idx : Nat) : NoPanic (isSome Fixes.all a idx) := by
  cases a with
  | null => simp only [isSome]; exact NoPanic.bind (noPanic_nullCheck _ _) (fun _ => NoPanic.pure _)
  | struct | list | fixedSizeList | map =>
    simp only [isSome]; exact NoPanic.ite (NoPanic.fail _) (noPanic_validityIsSet _ _)
  | dictionary ks vs =>
    simp only [isSome]; split
    · exact noPanic_optIsSome (noPanic_primGet _ _ _)
    · exact NoPanic.fail _
  | union => simp only [isSome]; exact NoPanic.ite (NoPanic.fail _) (NoPanic.ok _)
  | _ => exact isSome_get_cases Fixes.all _ idx rfl fun _ hg => noPanic_optIsSome (leafGet_noPanic hg)

theorem unionSelect_no_panic (types : List Int) (offs : Option (List Int)) (n idx : Nat) :
    NoPanic (unionSelect Fixes.all types offs n idx) := by
  unfold unionSelect
  split
  · exact NoPanic.fail _
  · rename_i hidx
    split
    · exact NoPanic.fail _
    · rename_i o
      split
      · exact NoPanic.fail _
      · rename_i hlen
        have h1 : idx < types.length := by omega
        have h2 : idx < o.length := by omega
        simp only [List.getElem?_eq_getElem h1, List.getElem?_eq_getElem h2]
        refine NoPanic.bind (noPanic_tryIntoUsize _) ?_
        intro off
        simp only [Fixes.all, if_true]
        split
        · exact NoPanic.pure _
        · exact NoPanic.fail _

/-! ### the reads never panic

Instances of `Read.readAs_errs` / `Read.readAny_errs` (Lemmas/ReadErrs.lean): the operations of a reader node that look at
the buffers never unwind under `Fixes.all`, and the readers combine them by `>>=`, loops and plain failures only. -/

theorem nodeOps_noPanic : NodeOps Fixes.all (fun e => ∀ s, e ≠ .panic s) where
  err := fun _ _ h => nomatch h
  leafReq := fun hr => (leafReq_noPanic hr).errs
  isSome := fun a i => (isSome_no_panic a i).errs
  listRange := fun _ _ => (noPanic_listRange _ _).errs
  fslRange := fun _ _ _ => (noPanic_fslRange _ _ _).errs
  unionSelect := fun _ _ _ _ => (unionSelect_no_panic _ _ _ _).errs

theorem readAnySome_no_panic : ∀ (a : Arr) (idx : Nat), NoPanic (readAnySome Fixes.all a idx) :=
  fun a i => (readAnySome_errs nodeOps_noPanic a i).noPanic
theorem readAnyFields_no_panic : ∀ (fs : ArrFields) (idx : Nat), NoPanic (readAnyFields Fixes.all fs idx) :=
  fun fs i => (readAnyFields_errs nodeOps_noPanic fs i).noPanic
theorem readAnyVariant_no_panic : ∀ (fs : ArrUFields) (k off : Nat), k < fs.length →
    NoPanic (readAnyVariant Fixes.all fs k off) :=
  fun fs k off hk => (readAnyVariant_errs nodeOps_noPanic fs k off hk).noPanic

/-- `deserialize_any` on an arbitrary view never panics -/
theorem read_no_panic (a : Arr) (idx : Nat) : NoPanic (readAny Fixes.all a idx) :=
  (readAny_errs nodeOps_noPanic a idx).noPanic

theorem readAs_no_panic : ∀ (t : Target) (a : Arr) (idx : Nat), NoPanic (readAs Fixes.all t a idx) :=
  fun t a i => (readAs_errs nodeOps_noPanic t a i).noPanic
theorem readTupleFields_no_panic : ∀ (ts : Targets) (fs : ArrFields) (idx : Nat),
    NoPanic (readTupleFields Fixes.all ts fs idx) :=
  fun ts fs i => (readTupleFields_errs nodeOps_noPanic ts fs i).noPanic
theorem readFieldAs_no_panic : ∀ (tfs : TFields) (pos : Nat) (slots : Slots) (name : String) (child : Arr) (idx : Nat),
    NoPanic (readFieldAs Fixes.all tfs pos slots name child idx) :=
  fun tfs pos slots name c i => (readFieldAs_errs nodeOps_noPanic tfs pos slots name c i).noPanic
theorem readVariantAs_no_panic : ∀ (vs : TVariants) (sel : Option Nat) (name : String) (src : Option (Arr × Nat)),
    NoPanic (readVariantAs Fixes.all vs sel name src) :=
  fun vs sel name src => (readVariantAs_errs nodeOps_noPanic vs sel name src).noPanic
theorem readVariantAsBytes_no_panic : ∀ (vs : TVariants) (s : Bytes), NoPanic (readVariantAsBytes Fixes.all vs s) :=
  fun vs s => (readVariantAsBytes_errs nodeOps_noPanic vs s).noPanic
theorem readKind_no_panic : ∀ (k : VKind) (src : Option (Arr × Nat)), NoPanic (readKind Fixes.all k src) :=
  fun k src => (readKind_errs nodeOps_noPanic k src).noPanic

/-- the record level (`Deserializer::get(idx)` + `T::deserialize`): no panic for any target, view and index -/
theorem readRecord_no_panic (t : Target) (fm : FieldMeta) (col : Arr) (idx : Nat) (r : R DVal)
    (h : readRecord Fixes.all t fm col idx = some r) : NoPanic r :=
  (readRecord_some.mp h).2 ▸ readAs_no_panic t _ idx

/-! ### nothing outside the ranges the view designates -/

/-- a byte string is a sub-range of a buffer -/
def SubRange (b buf : Bytes) : Prop := ∃ s n, s + n ≤ buf.length ∧ b = (buf.drop s).take n

/-- `BytesView::get` (Utf8 / LargeUtf8 / Binary / LargeBinary): the element is a sub-range of `data` -/
theorem bytes_in_range {v : Option Bits} {offs : List Int} {data : Bytes} {idx : Nat} {b : Bytes}
    (h : bytesGet Fixes.all v offs data idx = .ok (some b)) : SubRange b data ∧ idx + 1 < offs.length := by
  obtain ⟨h2, ⟨_, ho⟩ | ⟨_, s, e, _, _, hse, hed, ho⟩⟩ := bytesGet_ok h
  · cases ho
  · cases ho
    exact ⟨⟨s, e - s, by omega, rfl⟩, h2⟩

/-- `BytesViewView::get`: the element is the inline part of its own descriptor or a sub-range of one of the
view's buffers -/
theorem view_in_range {buffers : List Bytes} {desc : Nat} {b : Bytes} (h : viewBytes buffers desc = .ok b) :
    (desc % 4294967296 ≤ 12 ∧ b = Spec.u128Bytes desc 4 (desc % 4294967296)) ∨ ∃ buf ∈ buffers, SubRange b buf := by
  unfold viewBytes at h
  simp only at h
  split at h
  · rename_i hc
    cases h; exact Or.inl ⟨hc, rfl⟩
  · split at h
    · cases h
    · rename_i buf hb
      split at h
      · rename_i hc
        cases h
        exact Or.inr ⟨buf, List.mem_of_getElem? hb, _, _, hc, rfl⟩
      · cases h

/-- `FixedSizeBinaryDeserializer::get`: the element is a sub-range of `data` -/
theorem fsb_in_range {n len : Nat} {v : Option Bits} {data : Bytes} {idx : Nat} {b : Bytes}
    (h : fsbGet Fixes.all n len v data idx = .ok (some b)) : SubRange b data ∧ idx < len := by
  obtain ⟨hlt, ⟨_, ho⟩ | ⟨_, hc, ho⟩⟩ := fsbGet_ok h
  · cases ho
  · cases ho
    exact ⟨⟨idx * n, n, by rw [Nat.add_mul] at hc; omega, rfl⟩, hlt⟩

/-- `DictionaryDeserializer::get_str`: the string is a sub-range of the values' data buffer (and valid UTF-8) -/
theorem dict_in_range {kty : PrimTy} {kv : Option Bits} {kvals : List Int} {vty : BytesTy} {vv : Option Bits}
    {voffs : List Int} {vdata : Bytes} {idx : Nat} {b : Bytes}
    (h : dictGetStr Fixes.all (.prim kty kv kvals) (.bytes vty vv voffs vdata) idx = .ok b) :
    SubRange b vdata ∧ validUtf8 b = true ∧ idx < kvals.length := by
  unfold dictGetStr at h
  simp only at h
  obtain ⟨k, hk, h⟩ := ok_bind_inv h
  split at h
  · cases h
  · obtain ⟨key, _, h⟩ := ok_bind_inv h
    have h' := asStr_ok (getRequired_ok h)
    exact ⟨(bytes_in_range h'.1).1, h'.2, primGet_ok_lt (getRequired_ok hk)⟩

/-- every successful `is_some` (hence every `deserialize_any`, every `Option` layer, every element read of a
list / map / struct / union, which all go through it) addresses a row below the array's length -/
theorem isSome_ok_lt_len {a : Arr} {idx : Nat} {b : Bool} (h : isSome Fixes.all a idx = .ok b) : idx < vlen a :=
  isSome_ok_lt_vlen h

/-- children are only ever read through `anyAt`: a successful child read is below the child's length -/
theorem anyAt_ok_lt_len {a : Arr} {f : Nat → R DVal} {idx : Nat} {d : DVal}
    (h : anyAt Fixes.all a f idx = .ok d) : idx < vlen a := by
  unfold anyAt at h
  obtain ⟨b, hb, _⟩ := ok_bind_inv h
  exact isSome_ok_lt_len hb

/-- `read_in_range` for `deserialize_any`: a successful read is below the array's length; with
`bytes_in_range`, `view_in_range`, `fsb_in_range`, `dict_in_range` every byte string it contains is a
sub-range of the buffer its view designates, and (structure of `readAnySome`) every child element is read
through `anyAt`, i.e. again below that child's length -/
theorem read_in_range {a : Arr} {idx : Nat} {d : DVal} (h : readAny Fixes.all a idx = .ok d) : idx < vlen a :=
  anyAt_ok_lt_len h

/-! ### every slot a successful read visits lies below the length of its array (`touchOK`)

`Spec.touchOK t a i` (SaModel/Spec/TouchRange.lean) is the run-time predicate of the `corrupt` suite: rows below the
declared length, list / map / fixed-size elements and union / dictionary references below the child's length, for
exactly the slots a read of target `t` has to visit, and at the leaves (`Spec.leafOK`) the offset pair of a valid Utf8 /
Binary slot inside the data buffer, the descriptor of a valid Utf8View / BinaryView slot inline or inside a buffer the
view HAS, a FixedSizeBinary row inside the data (also for the value slot a dictionary key designates).  The theorems below say that a successful read of the reader
model implies it — for EVERY target and EVERY array (no well-formedness), given only `unionIdsOK a`: the union
nodes of `a` list their children under the type ids 0, 1, 2, … .  That is what `ArrayDeserializer::new` checks and
the reads do not re-check (`EnumDeserializer` indexes its variants by type id, the Arrow reading looks the id up),
see `new_ok_unionIdsOK` and the counterexample `touch_needs_consecutive_ids`. -/

mutual
theorem touchP_all : ∀ (t : Target), TouchP t
  | .any => touchP_any
  | .ignored => touchP_ignored
  | .unit | .unitStruct | .bool | .int _ | .f32 | .f64 | .char | .string | .str => touchP_scalar rfl nofun nofun
  | .bytes => touchP_bytes
  | .byteBuf => touchP_byteBuf
  | .option t => touchP_option (touchP_all t)
  | .newtype t => touchP_newtype (touchP_all t)
  | .seq t => touchP_seq (touchP_all t)
  | .tuple ts => touchP_tuple (touchP_targets ts)
  | .tupleStruct ts => touchP_tupleStruct (touchP_targets ts)
  | .map k v => touchP_map (touchP_all k) (touchP_all v)
  | .struct tfs => touchP_struct (touchP_fields tfs)
  | .enum _ vs => touchP_enum (touchP_variants vs)
theorem touchP_targets : ∀ (ts : Targets), AllT TouchP ts
  | .nil => by unfold AllT; trivial
  | .cons t r => by unfold AllT; exact ⟨touchP_all t, touchP_targets r⟩
theorem touchP_fields : ∀ (tfs : TFields), AllF TouchP tfs
  | .nil => by unfold AllF; trivial
  | .cons _ t r => by unfold AllF; exact ⟨touchP_all t, touchP_fields r⟩
theorem touchP_variants : ∀ (vs : TVariants), AllV KTouch vs
  | .nil => by unfold AllV; trivial
  | .cons _ k r => by unfold AllV; exact ⟨ktouch_all k, touchP_variants r⟩
theorem ktouch_all : ∀ (k : VKind), KTouch k
  | .unit => ktouch_unit
  | .newtype t => ktouch_newtype (touchP_all t)
  | .tuple ts => ktouch_tuple (touchP_targets ts)
  | .struct tfs => ktouch_struct (touchP_fields tfs)
end

/-- `read_in_range` for the TYPED reads: whatever the target and whatever the (arbitrary, possibly inconsistent)
view whose union nodes list their children under the type ids 0, 1, 2, … (`unionIdsOK a`), a successful read implies
`Spec.touchOK t a i`, which has two halves.  LENGTHS: the read visited only slots below the length of the array they
belong to — the row itself, every list / map / fixed-size-list element, every union child slot, every dictionary
key — all the way down.  LEAVES (`Spec.leafOK`): at every leaf slot it visited that the bitmap does not mark null, what
the slot designates lies inside the buffer the view names — the offset pair of a Utf8 / Binary column inside `data`
(`0 ≤ offsets[i] ≤ offsets[i+1] ≤ data length`, also for an empty pair), the descriptor of a Utf8View / BinaryView
column inline (length ≤ 12) or with a buffer index below the number of buffers and offset + length inside THAT
buffer, the row of a FixedSizeBinary column inside `data` (`0 ≤ n`, `(i+1)·n ≤ data length`), and likewise the value
slot a dictionary key designates (spelled out by `touchOK_leaf_iff`, `readAs_view_designated`,
`readAs_bytes_designated` below) -/
theorem readAs_touch_in_range {t : Target} {a : Arr} {i : Nat} {d : DVal} (hids : unionIdsOK a = true)
    (h : readAs Fixes.all t a i = .ok d) : touchOK t a i = true :=
  touchP_all t a i d hids h

/-- the same for `deserialize_any` -/
theorem readAny_touch_in_range {a : Arr} {i : Nat} {d : DVal} (hids : unionIdsOK a = true)
    (h : readAny Fixes.all a i = .ok d) : touchOK .any a i = true :=
  readAny_touch hids rfl h

/-- in the form the readers are used: the reader tree was built (`ArrayDeserializer::new` succeeded) -/
theorem readAs_touch_in_range_of_new {t : Target} {a : Arr} {i : Nat} {d : DVal} (hnew : new Fixes.all a = .ok ())
    (h : readAs Fixes.all t a i = .ok d) : touchOK t a i = true :=
  readAs_touch_in_range (new_ok_unionIdsOK a hnew) h

/-- the record level, exactly what the `corrupt` suite evaluates: `touchOK r.ty (record fm col) r.idx` -/
theorem readRecord_touch_in_range {t : Target} {fm : FieldMeta} {col : Arr} {idx : Nat} {d : DVal}
    (hnew : new Fixes.all (record fm col) = .ok ()) (h : readRecord Fixes.all t fm col idx = some (.ok d)) :
    touchOK t (record fm col) idx = true :=
  readAs_touch_in_range_of_new hnew (readRecord_some.mp h).2.symm

/-- every successful typed read is below the length of the array (the typed form of `read_in_range`) -/
theorem readAs_ok_lt_len {t : Target} {a : Arr} {i : Nat} {d : DVal} (hids : unionIdsOK a = true)
    (h : readAs Fixes.all t a i = .ok d) : i < Spec.lenOf a :=
  touchOK_lt (readAs_touch_in_range hids h)

/-! #### what `touchOK` says at the leaves: the bytes of a valid slot come from the buffer the view designates -/

/-- `touchOK` of a leaf column, spelled out: the row is below the length and — unless the bitmap marks the slot null:
then no bytes are designated — what the slot designates lies inside its buffer (`Spec.leafOK`: the offset pair of a
Utf8 / Binary column inside `data`, the descriptor of a Utf8View / BinaryView column inline or inside a buffer the view
HAS, the row of a FixedSizeBinary column inside `data`).  The target plays no role at a leaf. -/
theorem touchOK_leaf_iff (t : Target) {a : Arr} (hl : isLeaf a = true) (i : Nat) :
    touchOK t a i = true ↔ i < lenOf a ∧ (slotNull a i = true ∨ leafOK a i = true) := by
  constructor
  · intro h
    have hlt := touchOK_lt h
    refine ⟨hlt, ?_⟩
    unfold touchOK at h
    have : ¬ i ≥ lenOf a := by omega
    simp only [this, if_false] at h
    split at h
    · rename_i hc
      simp only [Bool.and_eq_true] at hc
      exact Or.inl hc.2
    · have h' : leafSlotOK a i = true := by
        cases a <;> simp [isLeaf] at hl <;> exact h
      simpa [leafSlotOK] using h'
  · rintro ⟨hlt, hs⟩
    exact touch_leaf t hl hlt (by simpa [leafSlotOK] using hs)

/-- `leafOK` of a Utf8 / Binary column is "the offset pair designates a slice of the data buffer" — the `byteSlice` of
the footprint relation `touchEq` -/
theorem leafOK_bytes_eq (ty : BytesTy) (v : Option Bits) (offs : List Int) (data : Bytes) (i : Nat) :
    leafOK (.bytes ty v offs data) i = (byteSlice data (offs.getD i 0) (offs.getD (i + 1) 0)).isSome := by
  simp only [leafOK, byteSlice]
  generalize offs.getD i 0 = s
  generalize offs.getD (i + 1) 0 = e
  by_cases hc : 0 ≤ s ∧ s ≤ e ∧ e ≤ (data.length : Int)
  · simp only [hc, and_self, if_true, decide_true]; rfl
  · simp only [hc, if_false, decide_false]; rfl

/-- `leafOK` of a Utf8View / BinaryView column is "the descriptor designates bytes" under the Arrow reading rules
(`Spec.decodeView`, through the `viewSlice` of the footprint relation `touchEq`): inline, or buffer index below the
number of buffers and offset + length inside THAT buffer -/
theorem leafOK_view_eq (ty : ViewTy) (v : Option Bits) (views : List Nat) (buffers : List Bytes) (i : Nat) :
    leafOK (.bytesView ty v views buffers) i = (viewSlice buffers (views.getD i 0)).isSome :=
  leafOK_view ty v views buffers i

/-- the seeded regression c17e as a statement about the readers: whatever the target, a successful read of a slot of a
Utf8View / BinaryView column that the bitmap does not mark null had a descriptor that designates bytes of the view —
inline, or a buffer index below the number of buffers and a range inside that buffer; never bytes of another buffer -/
theorem readAs_view_designated {t : Target} {ty : ViewTy} {v : Option Bits} {views : List Nat} {buffers : List Bytes}
    {i : Nat} {d : DVal} (h : readAs Fixes.all t (.bytesView ty v views buffers) i = .ok d) :
    i < views.length ∧
    (slotNull (.bytesView ty v views buffers) i = true ∨ (viewSlice buffers (views.getD i 0)).isSome = true) := by
  have ht := (touchOK_leaf_iff t rfl i).mp (readAs_touch_in_range rfl h)
  rw [leafOK_view_eq] at ht
  exact ht

/-- the same for the Utf8 / LargeUtf8 / Binary / LargeBinary columns: `0 ≤ offsets[i] ≤ offsets[i+1] ≤ data.len()` (also
required of an empty pair: `BytesView::get` slices `data[start..end]` whatever its length) -/
theorem readAs_bytes_designated {t : Target} {ty : BytesTy} {v : Option Bits} {offs : List Int} {data : Bytes}
    {i : Nat} {d : DVal} (h : readAs Fixes.all t (.bytes ty v offs data) i = .ok d) :
    i < offs.length - 1 ∧
    (slotNull (.bytes ty v offs data) i = true ∨
     (byteSlice data (offs.getD i 0) (offs.getD (i + 1) 0)).isSome = true) := by
  have ht := (touchOK_leaf_iff t rfl i).mp (readAs_touch_in_range rfl h)
  rw [leafOK_bytes_eq] at ht
  exact ht

/-- non-vacuity (the seeded regression c17e): a view column with ONE data buffer and a 13-byte element.  Descriptor
`13` (buffer 0, offset 0) is read; with buffer index 1 (`13 + 2^64`), 2 or u32::MAX (`13 + (2^32-1)·2^64`) — offset and
length still fit buffer 0 — `touchOK` is false and the readers give an error, on its own and inside a list; a null
slot designates nothing, whatever its descriptor says -/
example :
    let buf : Bytes := [97, 32, 115, 116, 114, 105, 110, 103, 32, 62, 32, 49, 50]
    let good : Arr := .bytesView .utf8View none [13] [buf]
    let bad1 : Arr := .bytesView .utf8View none [18446744073709551629] [buf]
    let bad2 : Arr := .bytesView .utf8View none [36893488147419103245] [buf]
    let badMax : Arr := .bytesView .binaryView none [79228162495817593519834398733] [buf]
    let nested : Arr := .list false none [0, 1] ⟨"element", false, []⟩ bad1
    let nullSlot : Arr := .bytesView .utf8View (some ⟨[0], 0⟩) [18446744073709551629] [buf]
    touchOK .str good 0 = true ∧ readAs Fixes.all .str good 0 = .ok (.str .borrowed buf) ∧
    touchOK .str bad1 0 = false ∧ (readAs Fixes.all .str bad1 0).isErr = true ∧
    touchOK .any bad2 0 = false ∧ (readAny Fixes.all bad2 0).isErr = true ∧
    touchOK .byteBuf badMax 0 = false ∧ (readAs Fixes.all .byteBuf badMax 0).isErr = true ∧
    touchOK (.seq .string) nested 0 = false ∧ (readAs Fixes.all (.seq .string) nested 0).isErr = true ∧
    touchOK (.option .str) nullSlot 0 = true ∧ readAs Fixes.all (.option .str) nullSlot 0 = .ok .none := by decide +kernel

/-- non-vacuity (the other leaves): an offset pair that ends beyond the data, that decreases, that starts below 0; an
EMPTY pair beyond the data is rejected at a leaf (`BytesView::get` slices `data[5..5]`) while an empty ELEMENT range of a
list beyond its child stays accepted (known finding `C17-empty-range-beyond-child`); a FixedSizeBinary row; the value
slot a dictionary key designates -/
example :
    touchOK .string (.bytes .utf8 none [0, 3] [65, 66]) 0 = false ∧
    touchOK .string (.bytes .utf8 none [1, 0] [65, 66]) 0 = false ∧
    touchOK .string (.bytes .utf8 none [-1, 1] [65, 66]) 0 = false ∧
    touchOK .string (.bytes .utf8 none [5, 5] [65, 66]) 0 = false ∧
    (readAs Fixes.all .string (.bytes .utf8 none [5, 5] [65, 66]) 0).isErr = true ∧
    touchOK .string (.bytes .utf8 none [2, 2] [65, 66]) 0 = true ∧
    readAs Fixes.all .string (.bytes .utf8 none [2, 2] [65, 66]) 0 = .ok (.str .owned []) ∧
    touchOK (.seq .string) (.list false none [7, 7] ⟨"element", false, []⟩ (.bytes .utf8 none [0] [])) 0 = true ∧
    touchOK .bytes (.fixedSizeBinary 2 none [1, 2, 3, 4]) 1 = true ∧ touchOK .bytes (.fixedSizeBinary 2 none [1, 2, 3, 4]) 2 = false ∧
    touchOK .str (.dictionary (.prim .int8 none [0]) (.bytes .utf8 none [0, 5] [65])) 0 = false ∧
    (readAs Fixes.all .str (.dictionary (.prim .int8 none [0]) (.bytes .utf8 none [0, 5] [65])) 0).isErr = true := by decide +kernel

/-- non-vacuity: a list of structs with a dictionary and a union column, read into `Vec<S>` with an `Option` field,
a borrowed string and an enum; the read succeeds, the hypotheses hold -/
example :
    let a : Arr := .list false none [0, 1, 2] ⟨"element", false, []⟩
      (.struct 2 none
        (.cons ⟨"x", true, []⟩ (.prim .int32 (some ⟨[1], 0⟩) [7, 8])
        (.cons ⟨"s", false, []⟩ (.dictionary (.prim .int8 none [0, 0]) (.bytes .utf8 none [0, 1] [65]))
        (.cons ⟨"u", false, []⟩ (.union [0, 1] (some [0, 0])
          (.cons 0 ⟨"A", false, []⟩ (.null 1) (.cons 1 ⟨"B", false, []⟩ (.prim .int8 none [5]) .nil))) .nil))))
    let t : Target := .seq (.struct (.cons "x" (.option (.int .i32)) (.cons "s" .str
      (.cons "u" (.enum false (.cons "A" .unit (.cons "B" (.newtype (.int .i8)) .nil))) .nil))))
    new Fixes.all a = .ok () ∧ (readAs Fixes.all t a 1).isOk = true ∧ unionIdsOK a = true ∧ touchOK t a 1 = true := by
  decide +kernel

/-- the predicate is not trivially true: an element range that leaves the child, a dictionary key beyond the values -/
example : touchOK (.seq (.int .i32)) (.list false none [0, 3] ⟨"element", false, []⟩ (.prim .int32 none [1, 2])) 0 = false ∧
    touchOK .str (.dictionary (.prim .int8 none [1]) (.bytes .utf8 none [0, 1] [65])) 0 = false ∧
    touchOK .any (.fixedSizeList 2 none 2 ⟨"element", false, []⟩ (.null 3)) 1 = false := by decide +kernel

/-- the hypothesis `unionIdsOK` cannot be dropped: on a union whose children are NOT listed under the ids 0, 1, …
the reader model (child at position `type id`) and the Arrow reading (child whose id is `type id`) part ways; such
a view never reaches the readers, `ArrayDeserializer::new` rejects it -/
theorem touch_needs_consecutive_ids :
    let a : Arr := .union [0] (some [0]) (.cons 5 ⟨"a", false, []⟩ (.null 1) (.cons 0 ⟨"b", false, []⟩ (.null 0) .nil))
    (readAny Fixes.all a 0).isOk = true ∧ touchOK .any a 0 = false ∧ (new Fixes.all a).isErr = true := by decide +kernel

/-! ### `untouched_ok`: what a read does not look at does not influence it

`Spec.touchEq t a a' i` (SaModel/Spec/TouchEq.lean) is a relation on the DATA of two views, independent of the reader
model: `a'` agrees with `a` on the footprint of a read of target `t` at slot `i` — along the traversal of `touchOK`:
the row tests, the validity BIT of each visited slot (for struct / list / map columns only under `Option` / `any`
targets), the value, the offset pair and the byte SLICE it designates, the view descriptor and the bytes it
designates, type id / union offset, the dictionary key and the value slot it designates; struct fields as far as the
target reads them (by name — the others the way serde skips them —, by position, all of them for map / any), list
elements with the element target, nothing below a slot that `Option` / `any` find null.  Everything else may differ:
other rows, other validity bits, bytes outside the designated slices, fields a tuple target does not reach, child
slots row `i` does not refer to, the values of null slots. -/

mutual
theorem agreeP_all : ∀ (t : Target), AgreeP t
  | .any => agreeP_any
  | .ignored => agreeP_ignored
  | .unit | .unitStruct | .bool | .int _ | .f32 | .f64 | .char | .string | .str => agreeP_scalar rfl nofun nofun
  | .bytes => agreeP_bytes
  | .byteBuf => agreeP_byteBuf
  | .option t => agreeP_option (agreeP_all t)
  | .newtype t => agreeP_newtype (agreeP_all t)
  | .seq t => agreeP_seq (agreeP_all t)
  | .tuple ts => agreeP_tuple (agreeP_targets ts)
  | .tupleStruct ts => agreeP_tupleStruct (agreeP_targets ts)
  | .map k v => agreeP_map (agreeP_all k) (agreeP_all v)
  | .struct tfs => agreeP_struct (agreeP_fields tfs)
  | .enum _ vs => agreeP_enum (agreeP_variants vs)
theorem agreeP_targets : ∀ (ts : Targets), AllT AgreeP ts
  | .nil => by unfold AllT; trivial
  | .cons t r => by unfold AllT; exact ⟨agreeP_all t, agreeP_targets r⟩
theorem agreeP_fields : ∀ (tfs : TFields), AllF AgreeP tfs
  | .nil => by unfold AllF; trivial
  | .cons _ t r => by unfold AllF; exact ⟨agreeP_all t, agreeP_fields r⟩
theorem agreeP_variants : ∀ (vs : TVariants), AllV KAgree vs
  | .nil => by unfold AllV; trivial
  | .cons _ k r => by unfold AllV; exact ⟨kagree_all k, agreeP_variants r⟩
theorem kagree_all : ∀ (k : VKind), KAgree k
  | .unit => kagree_unit
  | .newtype t => kagree_newtype (agreeP_all t)
  | .tuple ts => kagree_tuple (agreeP_targets ts)
  | .struct tfs => kagree_struct (agreeP_fields tfs)
end

/-- `untouched_ok`: two ARBITRARY views that agree on what a read of target `t` at slot `i` looks at give the same
result (value, error or — excluded by `readAs_no_panic` — panic) for that read, for EVERY target.  `touchEq` is the
exact footprint of a read that succeeds; for a read that fails it may ask for more than was looked at (the traversal
is not cut at the first failing element; a target the column's reader has no method for still compares the leaf
slot / the offset pair; an element range that leaves its child asks for equal children) — see Spec/TouchEq.lean. -/
theorem untouched_ok {t : Target} {a a' : Arr} {i : Nat} (h : touchEq t a a' i = true) :
    readAs Fixes.all t a i = readAs Fixes.all t a' i :=
  agreeP_all t a a' i h

/-- the same for `deserialize_any` and `is_some` -/
theorem untouched_ok_any {a a' : Arr} {i : Nat} (h : touchEq .any a a' i = true) :
    readAny Fixes.all a i = readAny Fixes.all a' i ∧ isSome Fixes.all a i = isSome Fixes.all a' i := by
  rw [touchEq_any] at h
  exact ⟨readAny_agree (p := .any) rfl h, isSome_agree h⟩

/-- `is_some` under any `Option` target -/
theorem untouched_ok_isSome {t : Target} {a a' : Arr} {i : Nat} (h : touchEq (.option t) a a' i = true) :
    isSome Fixes.all a i = isSome Fixes.all a' i :=
  (touchEq_option_elim h).1

/-- the corollary the `corrupt` suite relies on: a corruption that differs from the base view only outside the
footprint of the read is not noticed — the read of the corrupted view IS the read of the uncorrupted one ("where the
inconsistency is never touched, the correct values") -/
theorem untouched_corruption_ok {t : Target} {base corrupted : Arr} {i : Nat} {d : DVal}
    (hbase : readAs Fixes.all t base i = .ok d) (h : touchEq t base corrupted i = true) :
    readAs Fixes.all t corrupted i = .ok d := by
  rw [← untouched_ok h]; exact hbase

/-- `touchOK` and `touchEq` are consistent: a view that agrees with `a` on the footprint of a SUCCESSFUL read of `a`
(descriptor / offset pair and the bytes they designate included) is in range itself -/
theorem untouched_touch_in_range {t : Target} {a a' : Arr} {i : Nat} {d : DVal} (hids : unionIdsOK a' = true)
    (hbase : readAs Fixes.all t a i = .ok d) (h : touchEq t a a' i = true) : touchOK t a' i = true :=
  readAs_touch_in_range hids (untouched_corruption_ok hbase h)

/-- at the record level, exactly the expression the suite evaluates: `touchEq r.ty (record fm base) (record fm view) r.idx` -/
theorem readRecord_untouched {t : Target} {fm fm' : FieldMeta} {base col : Arr} {idx : Nat}
    (h : touchEq t (record fm base) (record fm' col) idx = true) :
    readRecord Fixes.all t fm base idx = readRecord Fixes.all t fm' col idx := by
  have hr := untouched_ok h
  unfold touchEq record at h
  obtain ⟨_, _, _, he, hl, _⟩ := touchEqW_struct h
  cases he
  unfold readRecord
  simp only [ge_of_lt_eq hl, hr]

/-- the bulk read of the suite (`Vec<T>::deserialize`: rows 0 … n-1 in order, stopping at the first error) -/
theorem readAll_untouched {t : Target} {a a' : Arr} {n : Nat} (h : ∀ i, i < n → touchEq t a a' i = true) :
    readRange (fun i => readAs Fixes.all t a i) 0 n = readRange (fun i => readAs Fixes.all t a' i) 0 n :=
  readRange_congr n 0 (fun k hk => by simpa using untouched_ok (h k hk))

/-- the relation never asks for more than equality of the views: every view agrees with itself, for every target and
slot (also out of range, also where the view is inconsistent) -/
theorem touchEq_refl (t : Target) (a : Arr) (i : Nat) : touchEq t a a i = true := touchEqW_refl a _ _ i

/-- non-vacuity 1 (byte slices, not whole buffers): a list of strings; the corrupted view has another LAST offset of the
list, another validity bit, another offset and other DATA BYTES of the string column — all outside what row 0 designates.
Row 0 agrees (and reads as on `a`), row 1 does not (and is an error) -/
example :
    let a : Arr := .list false none [0, 2, 3] ⟨"element", false, []⟩ (.bytes .utf8 (some ⟨[7], 0⟩) [0, 1, 2, 3] [65, 66, 67])
    let a' : Arr := .list false none [0, 2, 99] ⟨"element", false, []⟩ (.bytes .utf8 (some ⟨[3], 0⟩) [0, 1, 2, 9] [65, 66, 255, 1])
    touchEq (.seq .string) a a' 0 = true ∧ touchEq (.seq .string) a a' 1 = false ∧
    readAs Fixes.all (.seq .string) a' 0 = .ok (.seq (.cons (.str .owned [65]) (.cons (.str .owned [66]) .nil))) ∧
    (readAs Fixes.all (.seq .string) a' 1).isErr = true := by decide +kernel

/-- non-vacuity 2 (target dependence): a one-element tuple target does not look at the second field (other name, other
type, other length) nor at the struct's validity bit; an `Option` target and `deserialize_any` do look at the bit, and
stop there when it says null (row 1), whatever the fields hold -/
example :
    let a : Arr := .struct 2 (some ⟨[1], 0⟩)
      (.cons ⟨"x", true, []⟩ (.prim .int32 none [7, 8]) (.cons ⟨"y", true, []⟩ (.prim .int32 none [1, 2]) .nil))
    let a' : Arr := .struct 2 (some ⟨[1], 0⟩)
      (.cons ⟨"x", true, []⟩ (.prim .int32 none [7, 9]) (.cons ⟨"z", true, []⟩ (.prim .int64 none [5]) .nil))
    let t : Target := .tuple (.cons (.int .i32) .nil)
    touchEq t a a' 0 = true ∧ touchEq t a a' 1 = false ∧ touchEq (.option t) a a' 1 = true ∧
    touchEq .any a a' 0 = false ∧ touchEq .any a a' 1 = true ∧
    readAs Fixes.all t a' 0 = .ok (.seq (.cons (.int .i32 7) .nil)) ∧ readAs Fixes.all (.option t) a' 1 = .ok .none := by
  decide +kernel

/-- non-vacuity 3 (`readRecord_untouched`, `untouched_corruption_ok`): a dictionary column whose key of row 1 and whose
unreferenced value are corrupted; the record read of row 0 into a one-element tuple with a borrowed string is what it was -/
example :
    let fm : FieldMeta := ⟨"s", false, []⟩
    let base : Arr := .dictionary (.prim .int8 none [0, 1]) (.bytes .utf8 none [0, 1, 2] [65, 66])
    let view : Arr := .dictionary (.prim .int8 none [0, 7]) (.bytes .utf8 none [0, 1, 9] [65, 0])
    let t : Target := .tuple (.cons .str .nil)
    touchEq t (record fm base) (record fm view) 0 = true ∧ touchEq t (record fm base) (record fm view) 1 = false ∧
    readRecord Fixes.all t fm view 0 = some (.ok (.seq (.cons (.str .borrowed [65]) .nil))) := by
  decide +kernel

/-- the converse does not hold, and is not claimed: equal results with a differing footprint happen by coincidence — a
corrupted offset pair that designates equal bytes (at run time such a case needs no escape: the Arrow reading of the
corrupted view accepts the slot and gives the same value; an unexplained coincidence is a violation there); and the relation is not
idle: a byte INSIDE the designated slice, the validity bit of the row, a field the target names make it false -/
example :
    let a : Arr := .bytes .utf8 none [0, 1, 2] [65, 65]
    let a' : Arr := .bytes .utf8 none [1, 2, 2] [65, 65]
    let b : Arr := .bytes .utf8 none [0, 1, 2] [66, 65]
    let c : Arr := .bytes .utf8 (some ⟨[2], 0⟩) [0, 1, 2] [65, 65]
    touchEq .string a a' 0 = false ∧ readAs Fixes.all .string a 0 = readAs Fixes.all .string a' 0 ∧
    touchEq .string a b 0 = false ∧ readAs Fixes.all .string a 0 ≠ readAs Fixes.all .string b 0 ∧ touchEq .string a b 1 = true ∧
    touchEq .string a c 0 = false ∧ readAs Fixes.all .string a 0 ≠ readAs Fixes.all .string c 0 ∧ touchEq .string a c 1 = true := by
  decide +kernel

/-! ### the pinned readers do panic / do return foreign elements: concrete witnesses -/

/-- #20: `BytesView::get` let `idx == offsets.len() - 1` through: `offsets[idx + 1]` panics -/
theorem pinned_bytes_index_panics :
    readAnyPinned (.bytes .utf8 none [0, 1] [65]) 1 = .error (.panic "BytesView::get: offsets[idx + 1]") := rfl

/-- #20: decreasing offsets / offsets beyond the data: the slice expression panics -/
theorem pinned_bytes_slice_panics :
    readAnyPinned (.bytes .binary none [2, 1] [65, 66]) 0 = .error (.panic "BytesView::get: data[start..end]") ∧
    readAnyPinned (.bytes .binary none [0, 3] [65, 66]) 0 = .error (.panic "BytesView::get: data[start..end]") := ⟨rfl, rfl⟩

/-- #20: a dictionary key equal to the number of values -/
theorem pinned_dictionary_key_panics :
    readAnyPinned (.dictionary (.prim .int8 none [1]) (.bytes .utf8 none [0, 1] [65])) 0
      = .error (.panic "BytesView::get: offsets[idx + 1]") := rfl

/-- #21: type id 5 of 2 variants (and a negative one) -/
theorem pinned_union_type_id_panics :
    readAnyPinned (.union [5] (some [0]) (.cons 0 ⟨"a", false, []⟩ (.null 1) (.cons 1 ⟨"b", false, []⟩ (.null 1) .nil))) 0
      = .error (.panic "EnumDeserializer: variants[type_id]") ∧
    readAnyPinned (.union [-1] (some [0]) (.cons 0 ⟨"a", false, []⟩ (.null 1) .nil)) 0
      = .error (.panic "EnumDeserializer: variants[type_id]") := ⟨rfl, rfl⟩

/-- #19: FixedSizeBinary with n = 0 panics when the reader is built -/
theorem pinned_fixed_size_binary_zero_panics :
    newPinned (.fixedSizeBinary 0 none []) = .error (.panic "FixedSizeBinaryDeserializer::new: data.len() % 0") := rfl

/-- a bitmap bit offset near `usize::MAX` overflows the position -/
theorem pinned_bit_offset_panics :
    readAnyPinned (.prim .int32 (some ⟨[255], usizeMax⟩) [7, 8]) 1
      = .error (.panic "get_bit_buffer: idx + offset overflows") := rfl

/-- a FixedSizeList that declares 2^63 rows of width 4: `idx * n` overflows -/
theorem pinned_fixed_size_list_mul_panics :
    readAnyPinned (.fixedSizeList 9223372036854775808 none 4 ⟨"element", false, []⟩ (.null 0)) 9223372036854775807
      = .error (.panic "FixedSizeListDeserializer: idx * n overflows") := rfl

/-- decreasing list offsets were read as an empty list, not an error -/
theorem pinned_decreasing_offsets_ok :
    readAnyPinned (.list false none [2, 1] ⟨"element", false, []⟩ (.prim .int32 none [1, 2, 3])) 0 = .ok (.seq .nil) ∧
    (readAny Fixes.all (.list false none [2, 1] ⟨"element", false, []⟩ (.prim .int32 none [1, 2, 3])) 0).isErr = true := by
  decide +kernel

/-- the Null reader ignored the row index: a list whose offsets point beyond its Null child produced nulls -/
theorem pinned_null_child_foreign :
    readAnyPinned (.list false none [0, 3] ⟨"element", true, []⟩ (.null 1)) 0 = .ok (.seq (.cons .none (.cons .none (.cons .none .nil)))) ∧
    (readAny Fixes.all (.list false none [0, 3] ⟨"element", true, []⟩ (.null 1)) 0).isErr = true := by decide +kernel

/-- non-vacuity: the fixed readers do read valid arrays -/
example : readAny Fixes.all (.bytes .utf8 none [1, 2, 2] [0, 65]) 0 = .ok (.str .borrowed [65]) := rfl
example : readAny Fixes.all (.dictionary (.prim .int8 none [0]) (.bytes .utf8 none [0, 1] [65])) 0 = .ok (.str .borrowed [65]) := rfl

end SaModel.Props.C17
