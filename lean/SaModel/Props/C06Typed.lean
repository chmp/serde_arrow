import SaModel.Props.C06Closure
import SaModel.Props.C04Accept
import SaModel.Props.C08
/-
C06 — the TYPED read-back: samples that are the values of a derived Rust type, read back INTO that type.

`C06_closure` (Props/C06Closure.lean) reads the arrays back through `readAny` (`deserialize_any`: the `toD` rendering of the
logical value the documented mapping gives the sample).  For samples `vs.map (ser t)` of a type `t` of C04's type language
(`Roundtrip.Ty`) the natural reading of "reading the arrays back reproduces the samples" is the typed read
`readAll (toTarget t)` (= `from_marrow::<Vec<T>>`) returning the values themselves, up to the documented normalisation `norm`.

  C06_typed_readback_partial   the statement for sample collections that COVER the type (`Lemmas.C08.Covers`: a value at every
                               leaf, a `Some` of every Option, an element of every Vec, every variant of every enum — any order,
                               repetitions, extra values): the sample-traced schema is then the type-traced one
                               (`Props.C08.C08_agree_all`) and C04's end-to-end theorem applies.
  MISSING (why `_partial`)     collections that do NOT cover the type.  The sample-traced schema is then NARROWER than the
                               type-traced one — a `skip_serializing_if` field never present is missing, an Option that is always
                               `None` / a Vec that is always empty is a Null column, a variant never seen is a placeholder or
                               absent — and the theorem needed is `Read.cast (toTarget t) a lv = must (dvalOf t (norm t v))` for
                               arrays `a` well formed at such a narrowing of `mappingDT o t` (C04's `cast_lvO` asks for
                               `Spec.wf` at `mappingDT o t` itself), together with the closed form of the tracer after typed
                               samples (C08's `sstate`).  Not proved.  What stands in for it:
  typedNarrowB / narrow_*      kernel evaluation of the full statement — `fromSamples` → `toMarrow` → `readAll (toTarget t)` =
                               `vs.map (dvalOf t ∘ norm t)` with a schema that DIFFERS from the type-traced one — on collections
                               showing each kind of narrowing;
  the `samplert` suite         the same chain on the real crate AND on the models, for every zoo type × random batches × options
                               (lean/Driver/Suites/Samplert.lean).
-/
namespace SaModel.Props.C06
open SaModel SaModel.Build SaModel.Roundtrip

/-- **`C06_typed_readback_partial`** — tracing a schema FROM THE VALUES of a type, serializing the same values against it and
reading them back into the type returns the values (normalised: `norm` collapses `Some(None)`, the identity for `plainOpt`
types, `Props.C04.C04_norm_eq_self`).

`t = struct n fs` a record type of C04's grammar `fragE` (scalars, `()`, unit structs, Option, newtype structs, Vec, maps, tuples,
structs with `rename` / `skip_serializing_if`, enums with the four variant kinds); `vs` well-typed values in scope (`inScopeO`:
the documented exclusion "`None` at a position traced to a Union", = `noneAtUnion` of the driver, and the string-enum finding
`strOK`); every option without overwrites; EVERY `ext`.  If `from_samples` of the serialized values returns `fields`, then
`to_marrow` accepts the values against `fields` and `readAll (toTarget t)` (`from_marrow::<Vec<T>>`) returns them.

PARTIAL — hypothesis `hcov`: the collection covers the type (`Lemmas.C08.Covers`, decidable; with it the hypotheses of
`Props.C08.C08_agree_all`: `walkable`, `uniqueNames`, `smallEnums`, the pass budget of `from_type`).  Missing: collections that
do not cover the type, whose traced schema is narrower than the type's (see the header; evaluated below and by the `samplert`
suite). -/
theorem C06_typed_readback_partial (O : Trace.Options) (ext : Ext) (n : String) (fs : TFields) (vs : List Val)
    (fields : List Field)
    (h0 : O.overwrites = []) (hfrag : fragE (.struct n fs) = true) (hsz : sized (.struct n fs) = true) (hne : fs ≠ .nil)
    (hwt : ∀ v ∈ vs, wt (.struct n fs) v = true)
    (hsc : ∀ v ∈ vs, inScopeO (viewOpts O) (.struct n fs) v = true)
    (hw : Trace.Spec.walkable O "$" (toTraceTy (.struct n fs)) = true)
    (hu : Lemmas.C08.uniqueNames (toTraceTy (.struct n fs)) = true)
    (hs : Lemmas.C08.smallEnums (toTraceTy (.struct n fs)) = true)
    (hb : Trace.Spec.passes (toTraceTy (.struct n fs)) ≤ O.from_type_budget)
    (hcov : Lemmas.C08.Covers O (toTraceTy (.struct n fs)) (vs.map (ser (.struct n fs))))
    (hfs : Trace.fromSamples .fixed O (vs.map (ser (.struct n fs))) = .ok fields)
    (hcap : ((vs.map (ser (.struct n fs))).map (vsize ext)).sum ≤ 2147483647) :
    ∃ arrs, toMarrow ext fields (vs.map (ser (.struct n fs))) = .ok arrs ∧
      readAll (toTarget (.struct n fs)) fields arrs =
        .ok (vs.map fun v => dvalOf (.struct n fs) (norm (.struct n fs) v)) := by
  have hft : Trace.fromType .fixed O (toTraceTy (.struct n fs)) = .ok fields := by
    rw [← Props.C08.C08_agree_all .fixed O _ _ hw hu hs hb hcov]; exact hfs
  exact Props.C04.C04_end_to_end_traced .fixed O ext n fs vs fields h0 hfrag hsz hne hwt hsc hft hcap

/-! ### non-vacuity: a covering collection -/

/-- `Option`, `Vec<Option<struct>>`, an enum with a unit, a newtype and a struct variant -/
def tyCov : Ty :=
  .struct "R" (.cons "a" false (.option (.prim (.int .i32)))
    (.cons "v" false (.vec (.option Props.C04.exInner))
    (.cons "e" false (.enum "E" (.cons "U" .unit (.cons "N" (.newtype (.prim .str))
      (.cons "S" (.struct (.cons "x" false (.prim .bool) .nil)) .nil)))) .nil)))

def vsCov : List Val :=
  [.struct (.cons (.some (.int 1)) (.cons (.vec (.cons (.some (.struct (.cons (.int 3) (.cons (.str "ab") .nil)))) (.cons .none .nil)))
     (.cons (.variant 0 .nil) .nil))),
   .struct (.cons .none (.cons (.vec .nil) (.cons (.variant 1 (.cons (.str "é") .nil)) .nil))),
   .struct (.cons (.some (.int (-5))) (.cons (.vec .nil) (.cons (.variant 2 (.cons (.bool true) .nil)) .nil)))]

def oCov : Trace.Options := { allow_null_fields := true }

def fieldsCov : List Field :=
  match Trace.fromSamples .fixed oCov (vsCov.map (ser tyCov)) with | .ok fs => fs | .error _ => []

theorem covTrace : Trace.fromSamples .fixed oCov (vsCov.map (ser tyCov)) = .ok fieldsCov := by decide +kernel

set_option maxRecDepth 1000000 in
/-- every hypothesis of `C06_typed_readback_partial` holds of the collection (decided) — the theorem gives the read-back -/
example : ∃ arrs, toMarrow {} fieldsCov (vsCov.map (ser tyCov)) = .ok arrs ∧
    readAll (toTarget tyCov) fieldsCov arrs = .ok (vsCov.map fun v => dvalOf tyCov (norm tyCov v)) :=
  C06_typed_readback_partial oCov {} "R" _ vsCov fieldsCov rfl (by decide +kernel) (by decide +kernel) (by simp)
    (by decide +kernel) (by decide +kernel) (by decide +kernel) (by decide +kernel) (by decide +kernel) (by decide +kernel)
    (by decide +kernel) covTrace (by decide +kernel)

/-! ### the missing part, evaluated: collections that do NOT cover the type (narrower schemas) -/

/-- the whole statement on a collection, evaluated (`ext = {}`): tracing from the values succeeds, the traced schema is NOT the
type-traced one, `to_marrow` accepts the values and the typed read returns them, normalised -/
def typedNarrowB (O : Trace.Options) (t : Ty) (vs : List Val) : Bool :=
  match Trace.fromSamples .fixed O (vs.map (ser t)) with
  | .ok fields =>
    (match Trace.fromType .fixed O (toTraceTy t) with | .ok tf => !decide (tf = fields) | .error _ => true) &&
    vs.all (wt t) &&
    (match toMarrow {} fields (vs.map (ser t)) with
     | .ok arrs => decide (readAll (toTarget t) fields arrs = .ok (vs.map fun v => dvalOf t (norm t v)))
     | .error _ => false)
  | .error _ => false

/-- a `skip_serializing_if = "Option::is_none"` field that is never present: the traced schema has no column `s`, the typed
read fills the missing field of an `Option` type with `None` -/
def tySkip : Ty := .struct "K" (.cons "k" false (.prim (.int .i32)) (.cons "s" true (.option (.prim .str)) .nil))

theorem narrow_skipped_field :
    typedNarrowB {} tySkip [.struct (.cons (.int 1) (.cons .none .nil)), .struct (.cons (.int 2) (.cons .none .nil))] = true := by
  decide +kernel

/-- an `Option` that is always `None` and a `Vec` that is always empty (Null columns under `allow_null_fields`), an enum of which
only variant 1 is seen (variant 0 is a placeholder, variant 2 is absent from the traced Union) -/
theorem narrow_unseen :
    typedNarrowB oCov tyCov
      [.struct (.cons .none (.cons (.vec .nil) (.cons (.variant 1 (.cons (.str "x") .nil)) .nil))),
       .struct (.cons .none (.cons (.vec .nil) (.cons (.variant 1 (.cons (.str "") .nil)) .nil)))] = true := by
  decide +kernel

/-- a `Vec<Option<struct>>` whose elements are all `None` (the element column is Null), `Some(..)` seen only once for `a` -/
theorem narrow_null_elements :
    typedNarrowB oCov tyCov
      [.struct (.cons (.some (.int 7)) (.cons (.vec (.cons .none (.cons .none .nil))) (.cons (.variant 0 .nil) .nil))),
       .struct (.cons .none (.cons (.vec (.cons .none .nil)) (.cons (.variant 2 (.cons (.bool false) .nil)) .nil)))] = true := by
  decide +kernel

end SaModel.Props.C06
