import SaModel.Build.Inv
/-
C11 — how a record is presented does not change the arrays: the field-name cache.
`FieldLookup::lookup(guess, key)` consults a cache keyed by the ADDRESS of the `&'static str` before it falls
back to the by-name index.  For EVERY cache state satisfying `CacheInv` (an entry at position j is a name whose
content is field j's name) the result is the by-name index, and `CacheInv` is preserved — so any interleaving of
record types with equal field names at different addresses, in any field order, resolves every field by name.
-/
namespace SaModel.Props.C11Front
open SaModel SaModel.Build

/-- `index.get(key)` is the position of the first field called `key` -/
theorem indexOfName_go_eq (key : String) : ∀ (ns : List String) (k : Nat),
    indexOfName.go key ns k = (ns.findIdx? (· == key)).map (· + k)
  | [], _ => rfl
  | n :: ns, k => by
    rw [indexOfName.go, List.findIdx?_cons, indexOfName_go_eq key ns (k + 1)]
    split
    · simp
    · simp [Option.map_map, Function.comp_def, Nat.add_assoc, Nat.add_comm 1 k]

theorem indexOfName_eq (names : List String) (key : String) : indexOfName names key = names.findIdx? (· == key) := by
  simp [indexOfName, indexOfName_go_eq]

theorem indexOfName_go_none (key : String) : ∀ (ns : List String) (k : Nat),
    indexOfName.go key ns k = none → ∀ (i : Nat), ns[i]? ≠ some key := by
  intro ns k h i hi
  rw [indexOfName_go_eq, Option.map_eq_none_iff, List.findIdx?_eq_none_iff] at h
  have := h key (List.mem_of_getElem? hi)
  simp at this

/-- `index.get(key)`: the position of the field called `key`, if any -/
theorem indexOfName_some (names : List String) (key : String) (j : Nat) (h : indexOfName names key = some j) :
    names[j]? = some key := by
  rw [indexOfName_eq, List.findIdx?_eq_some_iff_getElem] at h
  obtain ⟨hj, hk, _⟩ := h
  rw [List.getElem?_eq_getElem hj, eq_of_beq hk]

/-- with distinct field names (refused otherwise when the builder is created) the index is THE position -/
theorem indexOfName_of_get (names : List String) (hnd : names.Nodup) (key : String) (j : Nat)
    (h : names[j]? = some key) : indexOfName names key = some j := by
  obtain ⟨hj, e⟩ := List.getElem?_eq_some_iff.1 h
  rw [indexOfName_eq, List.findIdx?_eq_some_iff_getElem]
  refine ⟨hj, by simp [e], fun i hi hp => ?_⟩
  have : names[i] = names[j] := by rw [eq_of_beq hp, e]
  exact absurd ((List.getElem_inj (h₀ := Nat.lt_trans hi hj) (h₁ := hj) hnd).mp this) (Nat.ne_of_lt hi)
/-- **`lookup` is sound for every cache state**: the positional fast path and the by-name path agree -/
theorem lookup_sound (names : List String) (cached : List (Option (String × Nat))) (guess : Nat) (key : String × Nat)
    (hnd : names.Nodup) (hc : CacheInv names cached) :
    (lookup names cached guess key).1 = indexOfName names key.1 ∧ CacheInv names (lookup names cached guess key).2 := by
  unfold lookup
  by_cases hg : (cached[guess]? == some (some key)) = true
  · simp only [hg, if_true]
    refine ⟨?_, hc⟩
    have hg' : cached[guess]? = some (some key) := by simpa using hg
    have := hc.2 guess key hg'
    exact (indexOfName_of_get names hnd key.1 guess this).symm
  · have hg' : (cached[guess]? == some (some key)) = false := by simpa using hg
    rw [hg']
    simp only [Bool.false_eq_true, if_false]
    cases hi : indexOfName names key.1 with
    | none => exact ⟨rfl, hc⟩
    | some idx =>
      refine ⟨rfl, ?_⟩
      by_cases he : (cached[idx]? == some none) = true
      · -- the empty slot `idx` is filled with this key
        simp only [he, if_true]
        refine ⟨by simp [hc.1], ?_⟩
        intro j k hj
        by_cases hji : idx = j
        · subst hji
          have hlt : idx < cached.length := (List.getElem?_eq_some_iff.1 (by simpa using he)).1
          rw [List.getElem?_set_self hlt] at hj
          injection hj with hj; injection hj with hj
          subst hj
          exact indexOfName_some names key.1 idx hi
        · rw [List.getElem?_set_ne hji] at hj
          exact hc.2 j k hj
      · simp only [he]
        exact hc

/-- the fresh cache of a new (or just taken) builder satisfies the invariant -/
theorem cacheInv_fresh (names : List String) : CacheInv names (List.replicate names.length none) := by
  refine ⟨by simp, ?_⟩
  intro j key h
  rw [List.getElem?_replicate] at h
  split at h <;> cases h

/-- unknown names are ignored: `lookup` reports `none` exactly when no field has that name -/
theorem lookup_unknown (names : List String) (cached : List (Option (String × Nat))) (guess : Nat) (key : String × Nat)
    (hnd : names.Nodup) (hc : CacheInv names cached) (h : ∀ (i : Nat), names[i]? ≠ some key.1) :
    (lookup names cached guess key).1 = none := by
  rw [(lookup_sound names cached guess key hnd hc).1]
  cases hi : indexOfName names key.1 with
  | none => rfl
  | some j => exact absurd (indexOfName_some names key.1 j hi) (h j)

/-! non-vacuity: two record types with the same field names at different addresses, interleaved -/
example : (lookup ["a", "b"] [some ("a", 0), none] 0 ("a", 1)).1 = some 0 := by decide
example : (lookup ["a", "b"] [some ("a", 0), none] 0 ("b", 1)) = (some 1, [some ("a", 0), some ("b", 1)]) := by decide
example : CacheInv ["a", "b"] [some ("a", 0), none] := ⟨rfl, by
  intro j key h
  match j with
  | 0 => simp at h; subst h; rfl
  | 1 => simp at h
  | j + 2 => simp at h⟩

end SaModel.Props.C11Front
