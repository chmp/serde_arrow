import SaModel.Props.C09
import SaModel.Lemmas.C09SoundField
import SaModel.Lemmas.C09Entries
/-
C09, second part: `SchemaOK` is NECESSARY for the JSON round trip, and `validate_field` as a theorem.

* `C09_reader_sound` — whatever `from_value` accepts (any JSON value) is a list of fields in `SchemaOK`: the reader never
  returns an invalid schema, a sorted map, a sparse union, type ids other than 0,1,2,…, a non-nullable `Null` field or
  metadata outside HashMap normal form.
* `C09_json_roundtrip_iff` — `parseField (printField f) = ok f ↔ SchemaOK f`; `C09_necessity` and the clause-by-clause
  corollaries (`C09_map_sorted_never_survives`, `C09_union_sparse_never_survives`, `C09_union_ids_never_survive`,
  `C09_null_nonnullable_never_survives`, `C09_invalid_never_survives`) are the recorded findings C09-map-sorted and
  C09-union-mode-ids stated about EVERY such field, at any nesting depth (`C09_necessity` with `reprField`).
* `C09_map_sorted_read_as_unsorted`, `C09_union_read_as_dense` — what happens instead: the printer does not look at the
  flag / mode / ids, so the field reads back, without an error, as its unsorted / dense-renumbered twin whenever that
  twin is in `SchemaOK`.
* `C09_foreign_iff` — `validate_field` accepts a foreign field object exactly when it is `validField` (side condition
  `rangeField` of `Spec/SchemaSide.lean`: numeric parameters are values of their Rust types).
  `C09_foreign_entries_refused`: a foreign field with a map, at any depth, whose entries struct carries a strategy no struct
  admits is refused; `C09_foreign_entries_unchecked_pinned`: the pinned `acceptForeignPinned` (the code before repo fix
  cb2c848, `validate_map_field validates the entries field itself`) accepts such a field (witness); on the repaired code the
  entries clause is a conclusion (`entriesField_of_validate`), so `C09_foreign_iff` has the single side condition `rangeField`.
-/
namespace SaModel.Props.C09
open SaModel SaModel.Dsl SaModel.SchemaJson

/-! ## the reader returns only fields of the domain -/

/-- **C09, reader soundness (all JSON values).**  Every field `from_value` returns is in `SchemaOK`. -/
theorem C09_reader_sound_field (j : JVal) (f : Field) (h : parseField j = .ok f) : SchemaOK f :=
  parseField_sound false j f h

theorem C09_reader_sound (j : JVal) (fs : List Field) (h : parseSchema j = .ok fs) : ∀ f ∈ fs, SchemaOK f := by
  cases j with
  | arr vs => exact parseFieldList_sound false vs fs h
  | obj o =>
    simp only [parseSchema, parseSchemaWith] at h
    obtain ⟨r, hr, h⟩ := R.bind_ok_inv h
    cases r with
    | none => cases h
    | some fs' =>
      cases h
      exact go o (some fs) hr fs rfl
  | null => cases h
  | bool _ => cases h
  | num _ => cases h
  | str _ => cases h
where
  go : (o : JObj) → (r : Option (List Field)) → parseFieldsKeyWith false o = .ok r → ∀ fs, r = some fs →
      ∀ f ∈ fs, SchemaOK f
    | .nil, r, h, fs, hr => by cases h; cases hr
    | .cons k v rest, r, h, fs, hr => by
      unfold parseFieldsKeyWith at h
      split at h
      · match v, h with
        | .arr vs, h =>
          have h' : (parseFieldListWith false vs >>= fun fs1 => parseFieldsKeyWith false rest >>= fun later =>
              pure (some (later.getD fs1))) = .ok r := h
          obtain ⟨fs1, h1, h'⟩ := R.bind_ok_inv h'
          obtain ⟨later, h2, h'⟩ := R.bind_ok_inv h'
          cases h'
          cases hr
          cases later with
          | none => exact parseFieldList_sound false vs fs1 h1
          | some l => exact go rest (some l) h2 l rfl
        | .null, h | .bool _, h | .num _, h | .str _, h | .obj _, h => cases h
      · exact go rest r h fs hr

/-! ## necessity of `SchemaOK` -/

/-- **C09, the domain is exact.**  A field survives being written and read back if AND ONLY IF it is in `SchemaOK`. -/
theorem C09_json_roundtrip_iff (esc : Char → Bool) (f : Field) : parseField (printField esc f) = .ok f ↔ SchemaOK f :=
  ⟨C09_reader_sound_field _ f, C09_json_roundtrip esc f⟩

/-- a field outside `SchemaOK` never survives (it is rejected, or read back as another field) -/
theorem C09_necessity (esc : Char → Bool) (f : Field) (h : ¬ SchemaOK f) : parseField (printField esc f) ≠ .ok f :=
  fun hp => h ((C09_json_roundtrip_iff esc f).mp hp)

/-- not expressible, at any nesting depth: a sorted map, a sparse union, other type ids, a non-nullable `Null`, metadata
that is not a HashMap in normal form anywhere inside the field -/
theorem C09_inexpressible_never_survives (esc : Char → Bool) (f : Field) (h : reprField f = false) :
    parseField (printField esc f) ≠ .ok f :=
  C09_necessity esc f (by simp [SchemaOK, schemaOK, h])

/-- not a valid schema, at any nesting depth -/
theorem C09_invalid_never_survives (esc : Char → Bool) (f : Field) (h : validField f = false) :
    parseField (printField esc f) ≠ .ok f :=
  C09_necessity esc f (by simp [SchemaOK, schemaOK, h])

/-- **known finding C09-map-sorted, for every field**: a sorted map never survives -/
theorem C09_map_sorted_never_survives (esc : Char → Bool) (name : String) (e : Field) (nullable : Bool) (m : Metadata) :
    parseField (printField esc (.mk name (.map e true) nullable m)) ≠ .ok (.mk name (.map e true) nullable m) :=
  C09_inexpressible_never_survives esc _ (by simp [reprField, reprType])

/-- **known finding C09-union-mode-ids, for every field**: a sparse union never survives -/
theorem C09_union_sparse_never_survives (esc : Char → Bool) (name : String) (us : UFields) (nullable : Bool) (m : Metadata) :
    parseField (printField esc (.mk name (.union us .sparse) nullable m)) ≠ .ok (.mk name (.union us .sparse) nullable m) :=
  C09_inexpressible_never_survives esc _ (by simp [reprField, reprType])

/-- **known finding C09-union-mode-ids, for every field**: type ids other than 0,1,2,… never survive -/
theorem C09_union_ids_never_survive (esc : Char → Bool) (name : String) (us : UFields) (mode : UnionMode) (nullable : Bool)
    (m : Metadata) (h : idsFrom 0 us = false) :
    parseField (printField esc (.mk name (.union us mode) nullable m)) ≠ .ok (.mk name (.union us mode) nullable m) :=
  C09_inexpressible_never_survives esc _ (by simp [reprField, reprType, h])

/-- by design: a non-nullable `Null` field never survives (it is read back nullable) -/
theorem C09_null_nonnullable_never_survives (esc : Char → Bool) (name : String) (m : Metadata) :
    parseField (printField esc (.mk name .null false m)) ≠ .ok (.mk name .null false m) :=
  C09_inexpressible_never_survives esc _ (by simp [reprField, reprType])

/-! ## what happens instead: no error, another field -/

/-- the printer does not look at the `sorted` flag -/
theorem print_map_sorted (esc : Char → Bool) (name : String) (e : Field) (s : Bool) (nullable : Bool) (m : Metadata) :
    printField esc (.mk name (.map e s) nullable m) = printField esc (.mk name (.map e false) nullable m) := by
  simp [printField, printChildren, showType, showType?]

/-- **known finding C09-map-sorted, general form**: a sorted map whose unsorted twin is in `SchemaOK` is read back —
without an error — as the unsorted twin -/
theorem C09_map_sorted_read_as_unsorted (esc : Char → Bool) (name : String) (e : Field) (nullable : Bool) (m : Metadata)
    (h : SchemaOK (.mk name (.map e false) nullable m)) :
    parseField (printField esc (.mk name (.map e true) nullable m)) = .ok (.mk name (.map e false) nullable m) := by
  rw [print_map_sorted]; exact C09_json_roundtrip esc _ h

/-- union children renumbered idx, idx+1, … -/
def renumber : Nat → UFields → UFields
  | _, .nil => .nil
  | idx, .cons _ f r => .cons (Int.ofNat idx) f (renumber (idx + 1) r)

theorem printUFields_renumber (esc : Char → Bool) : (us : UFields) → (idx : Nat) →
    printUFields esc (renumber idx us) = printUFields esc us
  | .nil, _ => rfl
  | .cons _ f r, idx => by simp [renumber, printUFields, printUFields_renumber esc r (idx + 1)]

/-- the printer looks at neither the union mode nor the type ids -/
theorem print_union_mode_ids (esc : Char → Bool) (name : String) (us : UFields) (mode : UnionMode) (nullable : Bool)
    (m : Metadata) :
    printField esc (.mk name (.union us mode) nullable m) = printField esc (.mk name (.union (renumber 0 us) .dense) nullable m) := by
  simp [printField, printChildren, showType, showType?, printUFields_renumber]

/-- **known finding C09-union-mode-ids, general form**: a union of any mode with any type ids whose dense twin with ids
0,1,2,… is in `SchemaOK` is read back — without an error — as that twin -/
theorem C09_union_read_as_dense (esc : Char → Bool) (name : String) (us : UFields) (mode : UnionMode) (nullable : Bool)
    (m : Metadata) (h : SchemaOK (.mk name (.union (renumber 0 us) .dense) nullable m)) :
    parseField (printField esc (.mk name (.union us mode) nullable m)) =
      .ok (.mk name (.union (renumber 0 us) .dense) nullable m) := by
  rw [print_union_mode_ids]; exact C09_json_roundtrip esc _ h

/-! ## foreign field objects: `validate_field` as a theorem -/

/-- what `from_value` returns for a foreign field object is the object itself with `Null` made nullable -/
theorem acceptForeign_eq (f f' : Field) (h : acceptForeign f = .ok f') :
    f' = .mk f.name f.dataType (normNullable f.dataType f.nullable) f.metadata := by
  obtain ⟨n, dt, nl, m⟩ := f
  unfold acceptForeign at h
  obtain ⟨_, _, h⟩ := R.bind_ok_inv h
  cases h; rfl

/-- **C09, foreign field objects, exact.**  `validate_field` accepts a foreign field object if and only if it is a valid
schema (`validField`), given that its numeric parameters are values of their Rust types (`rangeField`: true of every Rust
value; a hypothesis only because the model's `Field` carries unbounded integers). -/
theorem C09_foreign_iff (f : Field) (hr : rangeField f = true) :
    (acceptForeign f).isOk = true ↔ validField f = true := by
  obtain ⟨n, dt, nl, m⟩ := f
  have e1 : rangeField (.mk n dt (normNullable dt nl) m) = true := by simpa [rangeField] using hr
  constructor
  · intro h
    cases hv : validateField (.mk n dt (normNullable dt nl) m) with
    | error e => simp [acceptForeign, hv, bind, Except.bind, R.isOk] at h
    | ok u =>
      have := validField_of_validate _ e1 hv
      simpa [validField] using this
  · intro h
    have hv : validField (.mk n dt (normNullable dt nl) m) = true := by simpa [validField] using h
    simp [acceptForeign, validateField_of_valid _ hv, bind, Except.bind, pure, Except.pure, R.isOk]

/-- the side condition follows from validity (and so does `entriesField`): on valid fields nothing is assumed -/
theorem C09_foreign_side (f : Field) (h : validField f = true) : rangeField f = true ∧ entriesField f = true :=
  side_of_valid f h

/-- **C09, foreign field objects: the entries field of a map is validated.**  A foreign field that contains, at any
depth, a map whose entries struct carries a strategy no struct admits (`InconsistentTypes`, `UnknownVariant`, an unknown
name: `entriesField f = false`) is refused by `from_value` — for every field, no side condition. -/
theorem C09_foreign_entries_refused (f : Field) (h : entriesField f = false) : (acceptForeign f).isOk = false := by
  obtain ⟨n, dt, nl, m⟩ := f
  cases hv : validateField (.mk n dt (normNullable dt nl) m) with
  | error e => simp [acceptForeign, hv, bind, Except.bind, R.isOk]
  | ok u =>
    have := entriesField_of_validate _ hv
    simp only [entriesField] at this h
    rw [this] at h; cases h

/-- the instance at the top: a map whose entries struct carries such a strategy, whatever else the field contains -/
theorem C09_foreign_entries_refused_top (name en : String) (fs : Fields) (enl sorted nullable : Bool) (em m : Metadata)
    (h : structStrat em = false) :
    (acceptForeign (.mk name (.map (.mk en (.struct fs) enl em) sorted) nullable m)).isOk = false :=
  C09_foreign_entries_refused _ (by simp [entriesField, entriesType, entryStrat, h])

/-- **the repair changes nothing else.**  On every field whose map entries structs carry a struct's strategy or none
(`entriesField`: in particular on every valid field, `C09_foreign_side`) `from_value` before and after the fix is the same
function of the foreign field object — same result, same error. -/
theorem C09_foreign_pinned_eq (f : Field) (h : entriesField f = true) : acceptForeignPinned f = acceptForeign f := by
  obtain ⟨n, dt, nl, m⟩ := f
  have e : entriesField (.mk n dt (normNullable dt nl) m) = true := by simpa [entriesField] using h
  simp only [acceptForeignPinned, acceptForeign, validateFieldPinned_eq _ e]

/-- whatever the repaired `from_value` accepts the pinned one accepted, with the same result: the fix only refuses -/
theorem C09_foreign_pinned_of_repaired (f f' : Field) (h : acceptForeign f = .ok f') : acceptForeignPinned f = .ok f' := by
  cases he : entriesField f with
  | true => rw [C09_foreign_pinned_eq f he]; exact h
  | false => have := C09_foreign_entries_refused f he; simp [h, R.isOk] at this

/-- The witness of the repaired defect: a foreign map whose entries struct is annotated with a strategy no struct may
carry (here an unknown name); `validField` rejects it, and so does `validate_field` applied to the entries field on its
own.  The JSON form cannot produce such a field (`C09_reader_sound`). -/
def foreignEntriesWitness : Field :=
  .mk "m" (.map (.mk "entries" (.struct (.cons (.mk "key" .utf8 false []) (.cons (.mk "value" .int32 true []) .nil)))
    false [(STRATEGY_KEY, "no such strategy")]) false) false []

/-- **pinned** (`validate_map_field` before the fix validated the two fields inside the entries struct, not the entries
field itself): the witness — not a valid schema, parameters in range — was accepted unchanged, although the same entries
field on its own was refused; the schema the crate then wrote was refused by its own reader (`C09_invalid_never_survives`). -/
theorem C09_foreign_entries_unchecked_pinned :
    validField foreignEntriesWitness = false ∧ rangeField foreignEntriesWitness = true ∧
    entriesField foreignEntriesWitness = false ∧
    acceptForeignPinned foreignEntriesWitness = .ok foreignEntriesWitness ∧
    (validateFieldPinned (.mk "entries" (.struct (.cons (.mk "key" .utf8 false []) (.cons (.mk "value" .int32 true []) .nil)))
      false [(STRATEGY_KEY, "no such strategy")])).isOk = false := by
  decide +kernel

/-- repaired: the witness is refused, with the error the entries field gets on its own -/
theorem C09_foreign_entries_witness_refused :
    acceptForeign foreignEntriesWitness = fail "Unknown strategy" ∧
    validateField (.mk "entries" (.struct (.cons (.mk "key" .utf8 false []) (.cons (.mk "value" .int32 true []) .nil)))
      false [(STRATEGY_KEY, "no such strategy")]) = fail "Unknown strategy" := by
  decide +kernel

example : ¬ SchemaOK sortedMapWitness := by decide +kernel
example : parseField (printField esc0 sortedMapWitness) ≠ .ok sortedMapWitness :=
  C09_map_sorted_never_survives esc0 _ _ _ _
example : parseField (printField esc0 sortedMapWitness) =
    .ok (.mk "m" (.map (.mk "entries" (.struct (.cons (.mk "key" .utf8 false []) (.cons (.mk "value" .int32 true []) .nil))) false []) false) false []) :=
  C09_map_sorted_read_as_unsorted esc0 _ _ _ _ (by decide +kernel)
example : parseField (printField esc0 unionIdsWitness) =
    .ok (.mk "u" (.union (.cons 0 (.mk "A" .int8 false []) (.cons 1 (.mk "B" .utf8 true []) .nil)) .dense) false []) :=
  C09_union_read_as_dense esc0 _ _ _ _ _ (by decide +kernel)
example : idsFrom 0 (.cons 5 (.mk "A" .int8 false []) .nil) = false := by decide +kernel
example : rangeField exampleField = true ∧ validField exampleField = true ∧ (acceptForeign exampleField).isOk = true := by
  decide +kernel
example : (acceptForeign foreignEntriesWitness).isOk = false :=
  C09_foreign_entries_refused _ C09_foreign_entries_unchecked_pinned.2.2.1
-- a struct-admitted strategy on the entries field is accepted (the repair refuses only what a struct field refuses)
example : (acceptForeign (.mk "m" (.map (.mk "entries" (.struct (.cons (.mk "key" .utf8 false []) (.cons (.mk "value" .int32 true []) .nil)))
    false [(STRATEGY_KEY, "MapAsStruct")]) false) false [])).isOk = true := by decide +kernel
-- a strategy that is known but not a struct's, deeper inside: refused by the repaired code, accepted by the pinned one
example : (acceptForeign (.mk "l" (.list (.mk "m" (.map (.mk "entries" (.struct (.cons (.mk "key" .utf8 false []) (.cons (.mk "value" .int32 true []) .nil)))
      false [(STRATEGY_KEY, "UnknownVariant")]) false) false [])) false [])).isOk = false ∧
    (acceptForeignPinned (.mk "l" (.list (.mk "m" (.map (.mk "entries" (.struct (.cons (.mk "key" .utf8 false []) (.cons (.mk "value" .int32 true []) .nil)))
      false [(STRATEGY_KEY, "UnknownVariant")]) false) false [])) false [])).isOk = true := by decide +kernel
example : (acceptForeign (.mk "t" (.time32 .nanosecond) false [])).isOk = false ∧
    validField (.mk "t" (.time32 .nanosecond) false []) = false := by decide +kernel

end SaModel.Props.C09
