import SaModel.Lemmas.C08Zoo
import SaModel.Lemmas.C08Explore
import SaModel.Lemmas.C08Loop
import SaModel.Lemmas.C08NotWalkable
import SaModel.Lemmas.C08SStep
import SaModel.Lemmas.C08GConv
import SaModel.Lemmas.C08Class
import SaModel.Lemmas.C08Local
/-
C08 — tracing yields the documented mapping; from_type and from_samples agree.
Model: SaModel/Trace/{Tracer,FromSamples,FromType}.lean.  Documented mapping: SaModel/Trace/Mapping.lean (`Spec.mapping`,
`Spec.fromTypeSpec`).  `Agree a b`: both succeed with the same value, or both fail with a Rust error.

Proved for ALL inputs:
* the overwrite rule on the tracer (`C08_overwrite_replaces`, `C08_overwrite_name_mismatch`, `C08_overwrite_unknown_path`)
  and on the documented mapping (`C08_mapping_overwrite`); locality: `C08_overwrite_local` (a subtree without a node at
  the path keeps its field), `C08_overwrite_at` (the node at the path becomes the overwrite), `C08_mapping_lookups`; `C08_mapping_name`; `C08_options_local_*`;
* `explore_complete_spec`: one pass over any enum-free type from a fresh node is complete and its field is the
  documented mapping (error iff the type cannot be walked);
* `C08_pass_invariant`, `C08_complete_iff`, `C08_loop`: the multi-pass loop for enums (after `k` passes the tracer is
  `after k ty`; complete iff `passes ty ≤ k`; the loop succeeds iff `passes ty ≤ budget`);
* `C08_from_type`: `Agree (fromType c o ty) (Spec.fromTypeSpec o ty)` for every type and every option record;
  `C08_from_type_budget`, `C08_from_type_not_walkable`, `C08_from_type_recursive` (depth limit);
* `C08_agree`: `fromSamples c o (covering ty) = fromType c o ty` for every walkable type with unique field names
  (`uniqueNames`), at most 2^20 variants per enum (`smallEnums`: the allocation bound of the model of `ensure_variant`)
  and whose passes fit the budget (enums included).
* `C08_agree_all`: `fromSamples c o xs = fromType c o ty` for EVERY covering collection `xs` (`Covers o ty xs`,
  SaModel/Lemmas/C08Covers.lean: values of the type in any order, with any repetitions and any extra values, that
  together exercise every variant, a `Some` of every `Option`, an element of every sequence / map) — same hypotheses as
  `C08_agree`; `C08_sample_invariant` (the tracer after ANY values `xs` of the type is `sstate ty xs`);
  `C08_covers_iff_complete` (`covers` ⇔ the tracer is the complete tracer), `C08_covering_covers` (the canonical list is
  covering);
  `C08_agree_map_as_struct_false`, `C08_agree_guess_dates_needed`: the two documented exclusions are real.
* `C08_from_type_class`, `C08_agree_all_class`: for types that can be walked the agreement includes the error CLASS
  (`AgreeC`, table `SameClass`, SaModel/Lemmas/C08Class.lean: budget, unknown overwrite path, wrong overwrite name,
  null-only field, enum without data, more than 128 variants, nullable root, root not a struct);
  `C08_not_walkable_budget_first`: for types that cannot be walked the class is NOT fixed (the budget error can come first).
`C08_from_type_and_agree_on_zoo` (16 type descriptions × 10 option settings) is the instance of `C08_from_type` and
`C08_agree` on the zoo of SaModel/Lemmas/C08Zoo.lean.
-/
namespace SaModel.Props.C08
open SaModel SaModel.Trace SaModel.Trace.Spec SaModel.Lemmas.C08

/-! ### overwrites: replace exactly the field at their path, or fail -/

/-- an overwrite registered for the path of ANY tracer node replaces that node's field wholesale when the names agree,
and is an error otherwise — the subtree below is not consulted -/
theorem C08_overwrite (o : Options) (t : Tracer) (f : Field) (h : o.get_overwrite t.path = some f) :
    t.to_field o = if f.name != t.name then fail "Invalid name for overwritten field" else .ok f := by
  cases t <;> simp only [Tracer.path] at h <;> simp only [Tracer.to_field, withOverwrite, h, Tracer.name] <;> rfl

theorem C08_overwrite_replaces (o : Options) (t : Tracer) (f : Field) (h : o.get_overwrite t.path = some f)
    (hn : f.name = t.name) : t.to_field o = .ok f := by
  rw [C08_overwrite o t f h]; simp [hn]

theorem C08_overwrite_name_mismatch (o : Options) (t : Tracer) (f : Field) (h : o.get_overwrite t.path = some f)
    (hn : f.name ≠ t.name) : (t.to_field o).isErr = true := by
  rw [C08_overwrite o t f h]; simp [hn, fail, R.isErr]

/-- an overwrite whose path is not a path of the traced tree makes tracing fail (`check_overwrites`) -/
theorem C08_overwrite_unknown_path (o : Options) (t : Tracer) (key : String) (f : Field)
    (hk : (key, f) ∈ o.overwrites) (hp : key ∉ t.collect_paths) : (t.check_overwrites o).isErr = true := by
  unfold Tracer.check_overwrites
  have : (o.overwrites.all fun kv => t.collect_paths.contains kv.1) = false := by
    rw [Bool.eq_false_iff]
    intro hall
    have := List.all_eq_true.mp hall _ hk
    simp at this
    exact hp this
  show R.isErr (if (o.overwrites.all fun kv => t.collect_paths.contains kv.1) = true then (Except.ok () : R Unit)
    else fail "Overwritten fields could not be found") = true
  rw [this]; rfl

/-- no overwrite at a node: its own `to_field` decides (the overwrite table is consulted by path only) -/
theorem C08_no_overwrite_unknown (o : Options) (n p : String) (nl : Bool) (h : o.get_overwrite p = none) :
    (Tracer.unknown n p nl).to_field o =
      if !o.allow_null_fields then fail "Encountered null only field" else .ok (.mk n .null true []) := by
  simp only [Tracer.to_field, withOverwrite, h]

/-! ### the documented mapping: general facts -/

theorem overwritten_name (o : Options) (name path : String) (k : Unit → R Field) (f : Field)
    (hk : ∀ g, k () = .ok g → g.name = name) (h : overwritten o name path k = .ok f) : f.name = name := by
  unfold overwritten at h
  split at h
  · split at h
    · cases h; assumption
    · cases h
  · exact hk f h

/-- the last step of a `do` block names the field -/
theorem ok_bind_name {α} {name : String} {x : R α} {k : α → R Field} (hk : ∀ a g, k a = .ok g → g.name = name) :
    ∀ g, (x >>= k) = .ok g → g.name = name := by
  intro g hg
  cases x with
  | error e => cases hg
  | ok a => exact hk a g hg

/-- the field traced for a value called `name` is called `name` — also when it was overwritten (the name check) -/
theorem C08_mapping_name (o : Options) : ∀ (ty : Ty) (name path : String) (nl : Bool) (f : Field),
    mapping o name path nl ty = .ok f → f.name = name
  | .option t => by
    intro name path _ f h
    simp only [mapping] at h; exact C08_mapping_name o t name path true f h
  | .newtypeStruct _ t => by
    intro name path nl f h
    simp only [mapping] at h; exact C08_mapping_name o t name path nl f h
  | .unit | .unitStruct _ => by
    intro name path _ f h
    simp only [mapping] at h
    refine overwritten_name o name path _ f ?_ h
    intro g hg; unfold nullField at hg; split at hg <;> cases hg; rfl
  | .bool | .int _ | .f32 | .f64 | .char | .bytes => by
    intro name path _ f h
    simp only [mapping] at h
    exact overwritten_name o name path _ f (fun g hg => by cases hg; rfl) h
  | .string => by
    intro name path _ f h
    simp only [mapping] at h
    refine overwritten_name o name path _ f ?_ h
    intro g hg; cases hg; unfold stringField; split <;> rfl
  | .vec _ | .tuple _ | .tupleStruct _ _ | .struct _ _ => by
    intro name path _ f h
    simp only [mapping] at h
    exact overwritten_name o name path _ f (ok_bind_name fun _ g hg => by cases hg; rfl) h
  | .map _ _ => by
    intro name path _ f h
    simp only [mapping] at h
    exact overwritten_name o name path _ f (ok_bind_name fun _ => ok_bind_name fun _ g hg => by cases hg; rfl) h
  | .enum _ vs => by
    intro name path _ f h
    simp only [mapping] at h
    refine overwritten_name o name path _ f ?_ h
    intro g hg
    split at hg
    · cases hg; rfl
    · split at hg
      · cases hg
      · exact ok_bind_name (fun _ g hg => by cases hg; rfl) g hg

/-- an overwrite at the path of a (non-transparent) type replaces its field: the documented rule -/
theorem C08_mapping_overwrite (o : Options) : ∀ (ty : Ty) (name path : String) (nl : Bool) (key : String) (f : Field),
    o.overwrites.find? (fun kv => kv.1 = path) = some (key, f) →
    mapping o name path nl ty = if f.name = name then .ok f else fail "overwrite with a different name"
  | .option t => by
    intro name path _ key f h
    simp only [mapping]; exact C08_mapping_overwrite o t name path true key f h
  | .newtypeStruct _ t => by
    intro name path nl key f h
    simp only [mapping]; exact C08_mapping_overwrite o t name path nl key f h
  | .unit | .unitStruct _ | .bool | .int _ | .f32 | .f64 | .char | .string | .bytes | .vec _ | .tuple _
  | .tupleStruct _ _ | .map _ _ | .struct _ _ | .enum _ _ => by
    intro _ _ _ _ _ h
    simp only [mapping, overwritten, h]

/-- `C08_overwrite_local`: an overwrite replaces EXACTLY the field at its path.  Registering `overwrite(pth, f)` does not
change the documented field of any subtree that has no node at that path (`"$." ++ pth ∉ tyPaths path ty`: siblings,
cousins, everything that is not an ancestor of the node) — for every type, position and option record … -/
theorem C08_overwrite_local (o : Options) (pth : String) (f : Field) (ty : Ty) (name path : String) (nl : Bool)
    (hk : "$." ++ pth ∉ tyPaths path ty) :
    mapping (o.overwrite pth f) name path nl ty = mapping o name path nl ty :=
  mapping_overwrite_foreign o pth f ty name path nl hk

/-- … while the node AT that path becomes the overwrite field as given (or the name error), whatever was registered
before (`TracingOptions::overwrite` replaces an earlier entry for the same path); an ancestor is rebuilt from its
children, of which only the one on the way to the path changes -/
theorem C08_overwrite_at (o : Options) (pth : String) (f : Field) (ty : Ty) (name : String) (nl : Bool) :
    mapping (o.overwrite pth f) name ("$." ++ pth) nl ty =
      if f.name = name then .ok f else fail "overwrite with a different name" :=
  C08_mapping_overwrite (o.overwrite pth f) ty name ("$." ++ pth) nl ("$." ++ pth) f (by
    rw [overwrite_find]; simp only [if_true])

/-- the mapping of a type reads the overwrite table only at the paths of its own tree -/
theorem C08_mapping_lookups (o : Options) (ows' : List (String × Field)) (ty : Ty) (name path : String) (nl : Bool)
    (h : ∀ q ∈ tyPaths path ty, ows'.find? (fun kv => kv.1 = q) = o.overwrites.find? (fun kv => kv.1 = q)) :
    mapping { o with overwrites := ows' } name path nl ty = mapping o name path nl ty :=
  mapping_lookups o ows' ty name path nl h

/-- non-vacuity: in `struct S { a: Vec<String>, e: enum E { A(i32), B { x: bool } } }` the path `$.e.B.x` is not a path
of the subtree `a` nor of the variant `A`, and it is a path of `e` -/
example :
    let e : Ty := .enum "E" (.newtype "A" (.int .i32) (.struct "B" (.cons "x" .bool .nil) .nil))
    "$." ++ "e.B.x" ∉ tyPaths "$.a" (.vec .string) ∧ "$." ++ "e.B.x" ∉ tyPaths "$.e.A" (.int .i32) ∧
      "$." ++ "e.B.x" ∈ tyPaths "$.e" e := by decide +kernel

/-! ### every option changes precisely its aspect -/

/-- `Option<T>` is `T`, nullable -/
theorem C08_option_nullable (o : Options) (t : Ty) (name path : String) (nl : Bool) :
    mapping o name path nl (.option t) = mapping o name path true t := by simp only [mapping]

/-- the options that steer the mapping of a TYPE; `coerce_numbers`, `allow_to_string`, `guess_dates` are not among them -/
def Options.typeView (o : Options) : Options :=
  { o with coerce_numbers := false, allow_to_string := false, guess_dates := false }

theorem mapping_typeView (o : Options) (ty : Ty) (name path : String) (nl : Bool) :
    mapping o name path nl ty = mapping (Options.typeView o) name path nl ty :=
  (mapping_reads o o.overwrites false false false ty name path nl fun _ _ => rfl).symm

theorem mappingTys_typeView (o : Options) : ∀ (ts : Tys) (path : String) (i : Nat),
    mappingTys o path i ts = mappingTys (Options.typeView o) path i ts :=
  fun ts path i => ((mapping_reads_all o o.overwrites false false false).2.1 ts path i fun _ _ => rfl).symm

theorem mappingFields_typeView (o : Options) : ∀ (fs : TyFields) (path : String),
    mappingFields o path fs = mappingFields (Options.typeView o) path fs :=
  fun fs path => ((mapping_reads_all o o.overwrites false false false).2.2.1 fs path fun _ _ => rfl).symm

theorem mappingVariants_typeView (o : Options) : ∀ (vs : TyVariants) (path : String) (i : Nat),
    mappingVariants o path i vs = mappingVariants (Options.typeView o) path i vs :=
  fun vs path i => ((mapping_reads_all o o.overwrites false false false).2.2.2 vs path i fun _ _ => rfl).symm

/-- `coerce_numbers` does not change what a type is traced to -/
theorem C08_options_local_coerce_numbers (o : Options) (b : Bool) (ty : Ty) (name path : String) (nl : Bool) :
    mapping { o with coerce_numbers := b } name path nl ty = mapping o name path nl ty :=
  mapping_reads o o.overwrites b o.allow_to_string o.guess_dates ty name path nl fun _ _ => rfl

/-- `allow_to_string` does not change what a type is traced to -/
theorem C08_options_local_allow_to_string (o : Options) (b : Bool) (ty : Ty) (name path : String) (nl : Bool) :
    mapping { o with allow_to_string := b } name path nl ty = mapping o name path nl ty :=
  mapping_reads o o.overwrites o.coerce_numbers b o.guess_dates ty name path nl fun _ _ => rfl

/-- `guess_dates` does not change what a type is traced to -/
theorem C08_options_local_guess_dates (o : Options) (b : Bool) (ty : Ty) (name path : String) (nl : Bool) :
    mapping { o with guess_dates := b } name path nl ty = mapping o name path nl ty :=
  mapping_reads o o.overwrites o.coerce_numbers o.allow_to_string b ty name path nl fun _ _ => rfl

/-- `strings_as_large_utf8` / `string_dictionary_encoding` decide the type of a string field and nothing else about it -/
theorem C08_options_local_string_leaf (o : Options) (name path : String) (nl : Bool)
    (h : o.overwrites.find? (fun kv => kv.1 = path) = none) :
    mapping o name path nl .string = .ok (.mk name
      (if o.string_dictionary_encoding then .dictionary .uint32 (if o.string_as_large_utf8 then .largeUtf8 else .utf8)
       else if o.string_as_large_utf8 then .largeUtf8 else .utf8) nl []) := by
  simp only [mapping, overwritten, h, stringField, Options.string_type]
  split <;> rfl

/-- `sequence_as_large_list` decides between `LargeList` and `List` and nothing else about a sequence field -/
theorem C08_options_local_sequence (o : Options) (t : Ty) (name path : String) (nl : Bool) (item : Field)
    (h : o.overwrites.find? (fun kv => kv.1 = path) = none)
    (hi : mapping o "element" (childPath path "element") false t = .ok item) :
    mapping o name path nl (.vec t) =
      .ok (.mk name (if o.sequence_as_large_list then .largeList item else .list item) nl []) := by
  simp only [mapping, overwritten, h, hi, bind, Except.bind]

/-- `allow_null_fields` decides whether a data-less field is an error or a nullable `Null` field -/
theorem C08_options_local_null_leaf (o : Options) (name path : String) (nl : Bool)
    (h : o.overwrites.find? (fun kv => kv.1 = path) = none) :
    mapping o name path nl .unit = if o.allow_null_fields then .ok (.mk name .null true []) else fail "null field" := by
  simp only [mapping, overwritten, h, nullField]

/-- `map_as_struct`: when set, a record type with a map field cannot be traced from the type -/
theorem C08_options_local_map (o : Options) (k v : Ty) (h : o.map_as_struct = true) :
    walkable o "$" (.struct "S" (.cons "m" (.map k v) .nil)) = false := by
  simp [walkable, walkableFields, h]

/-- `enums_without_data_as_strings`: a data-less enum is a dictionary of strings when set -/
theorem C08_options_local_enum_strings (o : Options) (n : String) (vs : TyVariants) (name path : String) (nl : Bool)
    (h : o.overwrites.find? (fun kv => kv.1 = path) = none) (hd : withoutData vs = true)
    (hs : o.enums_without_data_as_strings = true) :
    mapping o name path nl (.enum n vs) = .ok (.mk name (.dictionary .uint32 o.string_type) nl []) := by
  simp only [mapping, overwritten, h, hd, hs, Bool.and_self, if_true]

/-- `from_type_budget`: fewer passes than the type needs is the documented error -/
theorem C08_options_local_budget (o : Options) (ty : Ty) (h : o.from_type_budget < passes ty) :
    (fromTypeSpec o ty).isErr = true := by
  unfold fromTypeSpec
  split
  · rfl
  · have : passes ty > o.from_type_budget := h
    simp [this, fail, R.isErr]

/-! ### one exploration pass over an enum-free type is the documented mapping -/

/-- `explore_complete_spec`: for every enum-free type description `ty` (leaves, `Option`, `Vec`, tuples / arrays, structs
incl. newtype / tuple / unit structs, maps) at ANY position (name, path, nullable flag) and under ANY options
(overwrites included): when the type can be walked (no container beyond the depth limit, no map under `map_as_struct`),
one pass of the derived `Deserialize` from a fresh node leaves a COMPLETE tracer whose field is the documented mapping
(both succeed with the same field, or both are the documented error) and whose paths are the documented paths; when it
cannot be walked the pass is a (Rust) error. -/
theorem explore_complete_spec (c : Code) (o : Options) (ty : Ty) (hf : enumFree ty = true) (name path : String)
    (nl : Bool) :
    (walkable o path ty = true →
      ∃ t, explore c o (.unknown name path nl) ty = .ok t ∧ t.is_complete = true ∧
        Agree (t.to_field o) (mapping o name path nl ty) ∧ t.collect_paths = tyPaths path ty) ∧
    (walkable o path ty = false → ∃ m, explore c o (.unknown name path nl) ty = .error (.err m)) := by
  have h := explore_done c o ty name path nl hf
  exact ⟨fun hw => ⟨_, h.1 hw, done_complete o ty name path nl, done_to_field o ty name path nl,
    done_paths o ty name path nl⟩, h.2⟩

/-- non-vacuity: an enum-free type with every container kind that is walkable under the default options (and one that
is not: a map under `map_as_struct`) -/
example :
    let ty : Ty := .struct "S" (.cons "a" (.option (.vec .string)) (.cons "t" (.tuple (.cons (.int .u8) (.cons .bool .nil)))
      (.cons "n" (.newtypeStruct "N" (.tupleStruct "T" (.cons .f32 .nil))) (.cons "u" (.unitStruct "U") .nil))))
    enumFree ty = true ∧ walkable {} "$" ty = true ∧
    enumFree (.map .string ty) = true ∧ walkable {} "$" (.map .string ty) = false ∧
    walkable { map_as_struct := false } "$" (.map .string ty) = true := by decide +kernel

/-! ### enums: the multi-pass loop -/

/-- `C08_pass_invariant`: the loop invariant of `Tracer::from_type`.  `after o n p nl k ty` (SaModel/Lemmas/C08After.lean)
is the tracer after `k` passes, written down from the type: a fresh node for `k = 0`; for an enum node that has spent `b`
passes the first variants are complete, one variant is partially explored with what is left of `b`, the rest is fresh
(variant `i` is handed `b - Σ_{j<i} passes(payload j)` passes).  For EVERY type that can be walked (enums with all four
variant kinds, nested enums included), at every position, a pass over the tracer of `k` passes is the tracer of `k + 1`
passes: the pass explores the first incomplete variant of every enum node it meets, variant 0 again when all are
complete (which changes nothing). -/
theorem C08_pass_invariant (c : Code) (o : Options) (ty : Ty) (n p : String) (nl : Bool) (k : Nat)
    (hw : walkable o p ty = true) :
    explore c o (after o n p nl k ty) ty = .ok (after o n p nl (k + 1) ty) :=
  explore_step c o ty n p nl k hw

/-- the tracer is complete exactly from pass `passes ty` on (one pass per enum variant, sums over nested enums, maximum
over siblings), and then it is the complete tracer `done` whose field is the documented mapping -/
theorem C08_complete_iff (o : Options) (ty : Ty) (n p : String) (nl : Bool) (k : Nat) (hw : walkable o p ty = true) :
    (after o n p nl k ty).is_complete = decide (passes ty ≤ k) ∧
    (passes ty ≤ k → after o n p nl k ty = done o n p nl ty ∧
      Agree ((after o n p nl k ty).to_field o) (mapping o n p nl ty)) := by
  refine ⟨after_complete_iff o ty n p nl k hw, fun h => ?_⟩
  have hpos := passes_pos o ty p hw
  obtain ⟨k', rfl⟩ : ∃ k', k = k' + 1 := ⟨k - 1, by omega⟩
  rw [after_done o ty n p nl k' hw h]
  exact ⟨rfl, done_to_field o ty n p nl⟩

/-- the loop with `b` passes left after `k` passes: the complete tracer when the budget suffices, the documented budget
error otherwise -/
theorem C08_loop (c : Code) (o : Options) (ty : Ty) (hw : walkable o "$" ty = true) (b k : Nat) :
    fromTypeLoop c o ty b (after o "$" "$" false k ty) =
      if passes ty ≤ k + b then .ok (done o "$" "$" false ty)
      else fail "Could not determine schema from the type after {budget} iterations" :=
  loop_after c o ty "$" "$" false hw b k

/-- `C08_from_type`: for EVERY type description and ALL options (budget, overwrites, every flag), `from_type` is the
documented result `Spec.fromTypeSpec`: the same fields, or a (Rust) error on both sides — the type cannot be walked
(a container beyond the depth limit, a map under `map_as_struct`, an enum without variants), budget too small, unknown
overwrite path, overwrite with a wrong name, null-only field, root not a non-nullable struct, more than 128 variants.
The model never panics on this entry point. -/
theorem C08_from_type (c : Code) (o : Options) (ty : Ty) : Agree (fromType c o ty) (fromTypeSpec o ty) :=
  fromType_spec c o ty

/-- a type that cannot be walked: `from_type` is an error whatever the budget (the passes before the failing one leave
an incomplete tracer; `Conf`, SaModel/Lemmas/C08Conf.lean, is the invariant) -/
theorem C08_from_type_not_walkable (c : Code) (o : Options) (ty : Ty) (hw : walkable o "$" ty = false) :
    ∃ m, fromType c o ty = .error (.err m) :=
  fromType_not_walkable c o ty hw

/-- recursive types hit the depth limit.  The model represents a recursive definition `T = F T` by its unrollings
`unroll F n base`; when `F` puts its argument at least one path level down (below a struct field, sequence element,
tuple element, map entry or variant payload: `Descends`), every unrolling deeper than `MAX_TYPE_DEPTH` = 20 is an
error — and `from_type` of the Rust type behaves like these unrollings, since a pass never looks below the first
container that is too deep. -/
theorem C08_from_type_recursive (c : Code) (o : Options) (F : Ty → Ty) (hF : Descends o F) (base : Ty) (n : Nat)
    (hn : MAX_TYPE_DEPTH < n) : ∃ m, fromType c o (unroll F n base) = .error (.err m) :=
  fromType_not_walkable c o _ (unroll_not_walkable o F hF base n hn)

/-- non-vacuity: `struct Node { value: i32, next: Option<Box<Node>> }` and
`enum Tree { Leaf, Node(Box<Tree>, Box<Tree>) }` descend -/
example (o : Options) :
    Descends o (fun t => .struct "Node" (.cons "value" (.int .i32) (.cons "next" (.option t) .nil))) ∧
    Descends o (fun t => .enum "Tree" (.unit "Leaf" (.tuple "Node" (.cons t (.cons t .nil)) .nil))) := by
  constructor
  · intro t p h
    simp only [walkable, walkableFields, Bool.and_eq_true, Bool.not_eq_true', Bool.and_true] at h
    exact ⟨h.1, childPath p "next", by rw [countDots_child]; omega, h.2.2⟩
  · intro t p h
    simp only [walkable, walkableVariants, walkableTys, Bool.and_eq_true, Bool.not_eq_true', Bool.and_true] at h
    exact ⟨h.1.1, childPath (childPath p "Node") (toString 0), by rw [countDots_child, countDots_child]; omega,
      h.2.2.1⟩


theorem isOk_of_agree {α} {a b : R α} (h : Agree a b) : a.isOk = b.isOk := by
  unfold Agree at h; split at h <;> first | rfl | exact h.elim

/-- fewer passes allowed than the type needs: exactly the budget error of the loop -/
theorem C08_from_type_budget (c : Code) (o : Options) (ty : Ty) (hw : walkable o "$" ty = true)
    (hb : o.from_type_budget < passes ty) :
    fromType c o ty = fail "Could not determine schema from the type after {budget} iterations" := by
  unfold fromType
  rw [fromTypeTracer_walkable c o ty hw]
  have : ¬ passes ty ≤ o.from_type_budget := by omega
  simp only [this, if_false]; rfl

/-- non-vacuity: a walkable type with nested enums that needs 10 passes; it succeeds with budget 10 and not with 9 -/
example :
    let o : Options := { allow_null_fields := true, from_type_budget := 10 }
    let ty : Ty := .struct "S" (.cons "deep" tDeep .nil)
    walkable o "$" ty = true ∧ passes ty = 10 ∧ (fromType .fixed o ty).isOk = true ∧
    (fromType .fixed { o with from_type_budget := 9 } ty).isOk = false := by
  dsimp only
  refine ⟨by decide +kernel, by decide +kernel, ?_, ?_⟩
  · rw [isOk_of_agree (C08_from_type .fixed _ _)]; decide +kernel
  · rw [C08_from_type_budget .fixed _ _ (by decide +kernel) (by decide +kernel)]; rfl

/-! ### `from_samples` on covering samples = `from_type` -/

/-- `C08_agree`: for EVERY type description (enums with all four variant kinds and nested enums included) that can be
walked, with unique field names, and all options whose budget covers the passes the type needs: `from_samples` on the
covering samples of the type (`covering`, SaModel/Trace/FromType.lean: every variant with every covering sample of its
payload, `Some`, one element per collection, one entry per map) gives exactly what `from_type` gives — the same fields
or the same error (null-only field, overwrite errors, root not a struct, more than 128 variants).
The instance `xs := covering ty` of `C08_agree_all` (`covering_Covers`,
SaModel/Lemmas/C08SStep.lean): the tracer of the first `m` covering samples is `safter m ty`, where after `m = q·L + r`
samples an enum node with `L` variants has given `q + 1` payload samples to its variants `< r` and `q` to the others; from `width ty` samples on the tracer is `done ty` up to the sample counters
of struct nodes, which `to_field` does not read.
The hypotheses are needed: unique names (`from_samples` finds a field by name, a derive by position); walkable (under
`map_as_struct` `from_type` refuses maps while `from_samples` traces them as structs — the two tracers differ there, as
documented); the budget (`from_samples` has none); `smallEnums`: at most 2^20 variants per enum, the allocation bound of
the executable model of `ensure_variant` (finding #29) — Arrow allows 128. -/
theorem C08_agree (c : Code) (o : Options) (ty : Ty) (hw : walkable o "$" ty = true) (hu : uniqueNames ty = true)
    (hs : smallEnums ty = true) (hb : passes ty ≤ o.from_type_budget) :
    fromSamples c o (covering ty) = fromType c o ty :=
  agree_all c o ty hw hu hs hb

/-- non-vacuity: a struct with every container kind and nested enums with the four variant kinds (10 passes, 18
covering samples); both tracers succeed on it -/
example :
    let o : Options := { map_as_struct := false, allow_null_fields := true }
    let ty : Ty := .struct "S" (.cons "a" (.option (.vec .string)) (.cons "t" (.tuple (.cons (.int .u8) (.cons .bool .nil)))
      (.cons "m" (.map .string (.struct "I" (.cons "x" .f32 .nil))) (.cons "deep" tDeep .nil))))
    walkable o "$" ty = true ∧ uniqueNames ty = true ∧ smallEnums ty = true ∧ passes ty = 10 ∧ width ty = 18 ∧
      (fromType .fixed o ty).isOk = true := by
  dsimp only
  refine ⟨by decide +kernel, by decide +kernel, by decide +kernel, by decide +kernel, by decide +kernel, ?_⟩
  rw [isOk_of_agree (C08_from_type .fixed _ _)]; decide +kernel

/-! ### `from_samples` on ANY covering collection = `from_type` -/

/-- `C08_sample_invariant`: the state of `from_samples` after ANY values of the type.  `sstate o n p nl ty xs`
(SaModel/Lemmas/C08GState.lean) is written down from the type and the values found at each position (the payloads of the
`Some`s, all elements of all sequences, the i-th components, the values of field `f`, the payloads of the samples of
variant `i`): a position that has seen no value is `unknown`, an `Option` position is nullable as soon as it has seen a
value, a union node has a slot for every variant up to the last one that occurred.  Absorbing any value `x` of the type
(`hasTy o x ty`) into the tracer of `xs` gives the tracer of `xs ++ [x]` — no condition on `xs`. -/
theorem C08_sample_invariant (c : Code) (o : Options) (ty : Ty) (n p : String) (nl : Bool) (xs : List SVal) (x : SVal)
    (hw : walkable o p ty = true) (hu : uniqueNames ty = true) (hs : smallEnums ty = true) (hx : hasTy o x ty = true) :
    absorb c o (sstate o n p nl ty xs) x = .ok (sstate o n p nl ty (xs ++ [x])) :=
  absorb_gen c o ty n p nl xs x hw hu hs hx

/-- `C08_agree_all`: for EVERY type description that can be walked, with unique field names (enums with all four variant
kinds and nested enums included), all options whose budget covers the passes the type needs, and EVERY covering sample
collection `xs` — `Covers o ty xs` (SaModel/Lemmas/C08Covers.lean): every sample is a value of the type (`hasTy`: the
serde calls a derived `Serialize` makes, struct fields in declaration order, variant index and name of the declaration,
`None` and `Some`, sequences and maps of any length; strings that `guess_dates` would read as dates are not samples of
`String`), and together they cover it (`covers`, recursive over the type: a value at every leaf; the `Some` payloads cover
`T` of `Option<T>`; all elements together cover `T` of `Vec<T>`; all keys / values cover `K` / `V`; every tuple position
and struct field is covered by the values found there; EVERY variant of an enum occurs and its payloads cover its
payload type) — in ANY order, with ANY repetitions and ANY extra values of the type (`None`, empty collections, further
variants): `from_samples` gives exactly what `from_type` gives — the same fields or the same error (null-only field,
overwrite errors, root not a struct, more than 128 variants).  Both code versions.
Hypotheses that remain, all necessary: `walkable` (depth limit; a map under `map_as_struct`, the default:
`C08_agree_map_as_struct_false`; empty enum), `uniqueNames` (`from_samples` finds a field by name, a derive by position),
`smallEnums` (≤ 2^20 variants, the allocation bound of the model of `ensure_variant`, finding #29), the budget
(`from_samples` has none), and inside `Covers` the `guess_dates` clause (`C08_agree_guess_dates_needed`). -/
theorem C08_agree_all (c : Code) (o : Options) (ty : Ty) (xs : List SVal) (hw : walkable o "$" ty = true)
    (hu : uniqueNames ty = true) (hs : smallEnums ty = true) (hb : passes ty ≤ o.from_type_budget)
    (hc : Covers o ty xs) : fromSamples c o xs = fromType c o ty :=
  agree_covers c o ty xs hw hu hs hb hc

/-- `covers` is EXACTLY what the tracer needs to see the whole type: the tracer of the values `xs` is, up to the sample
counters of struct nodes, the complete tracer `done` of `from_type` if and only if `covers ty xs` — a collection that
misses a variant, a `Some`, an element, … leaves an `unknown` node or an `absent` variant slot behind -/
theorem C08_covers_iff_complete (o : Options) (ty : Ty) (n p : String) (nl : Bool) (xs : List SVal) :
    covers ty xs = true ↔ erase (sstate o n p nl ty xs) = done o n p nl ty :=
  covers_iff_done o ty n p nl xs

/-- the canonical list `covering ty` of `C08_agree` is a covering collection, for every type the theorems are about:
`Covers` is satisfiable for all of them and `C08_agree` is the instance `xs := covering ty` of `C08_agree_all` -/
theorem C08_covering_covers (c : Code) (o : Options) (ty : Ty) (hw : walkable o "$" ty = true)
    (hu : uniqueNames ty = true) (hs : smallEnums ty = true) : Covers o ty (covering ty) :=
  covering_Covers o ty hw

/-- a record type with an `Option<Vec<String>>`, a tuple, a map (traced as a map) and an enum with the four variant kinds
whose newtype variant holds another `Option` -/
def tCov : Ty :=
  .struct "S" (.cons "a" (.option (.vec .string)) (.cons "t" (.tuple (.cons (.int .u8) (.cons .bool .nil)))
    (.cons "m" (.map .string (.int .i32))
      (.cons "e" (.enum "E" (.unit "U" (.newtype "N" (.option .f32) (.tuple "T" (.cons .bool .nil)
        (.struct "R" (.cons "x" (.option (.int .i64)) .nil) .nil))))) .nil))))

def tCovSample (a m e : SVal) : SVal :=
  .record "S" (.cons "a" 0 a (.cons "t" 0 (.tuple (.cons (.int .u8 7) (.cons (.bool false) .nil)))
    (.cons "m" 0 m (.cons "e" 0 e .nil))))

/-- six samples, not in declaration order of the variants, with a `None`, an empty sequence, an empty map, a map with two
entries, a repeated variant, and `Some` / elements / entries spread over different samples -/
def tCovSamples : List SVal :=
  [ tCovSample .none (.map .nil) (.structVariant "E" 3 "R" (.cons "x" 0 .none .nil)),
    tCovSample (.some (.seq .nil)) (.map (.cons (.str "k") (.int .i32 1) (.cons (.str "l") (.int .i32 2) .nil)))
      (.newtypeVariant "E" 1 "N" .none),
    tCovSample (.some (.seq (.cons (.str "v") (.cons (.str "w") .nil)))) (.map .nil) (.unitVariant "E" 0 "U"),
    tCovSample .none (.map .nil) (.newtypeVariant "E" 1 "N" (.some (.f32 0))),
    tCovSample .none (.map .nil) (.structVariant "E" 3 "R" (.cons "x" 0 (.some (.int .i64 (-5))) .nil)),
    tCovSample .none (.map .nil) (.tupleVariant "E" 2 "T" (.cons (.bool true) .nil)) ]

/-- non-vacuity of `C08_agree_all`: the hypotheses hold for `tCovSamples` — which is neither the canonical list nor a
permutation of it — both tracers succeed, and dropping the last sample (the only one of variant `T`) loses coverage -/
example :
    let o : Options := { map_as_struct := false, allow_null_fields := true }
    walkable o "$" tCov = true ∧ uniqueNames tCov = true ∧ smallEnums tCov = true ∧ passes tCov ≤ o.from_type_budget ∧
      Covers o tCov tCovSamples ∧ tCovSamples ≠ covering tCov ∧ (fromType .fixed o tCov).isOk = true ∧
      ¬ Covers o tCov tCovSamples.dropLast := by
  dsimp only
  refine ⟨by decide +kernel, by decide +kernel, by decide +kernel, by decide +kernel, by decide +kernel, by decide +kernel,
    ?_, by decide +kernel⟩
  rw [isOk_of_agree (C08_from_type .fixed _ _)]; decide +kernel

/-- the exclusion of maps under `map_as_struct` (the default) is real: `from_type` refuses the type, `from_samples` traces
the map as a struct whose fields are the KEYS of the samples — the two tracers do not agree there, as documented -/
theorem C08_agree_map_as_struct_false :
    let ty : Ty := .struct "S" (.cons "m" (.map .string (.int .i32)) .nil)
    let xs : List SVal := [.record "S" (.cons "m" 0 (.map (.cons (.str "k") (.int .i32 1) .nil)) .nil)]
    Covers {} ty xs ∧ (fromType .fixed {} ty).isOk = false ∧ (fromSamples .fixed {} xs).isOk = true := by
  decide +kernel

/-- the `guess_dates` clause of `hasTy` is needed: a string sample that looks like a date is traced as `Date32`, which
`from_type` cannot know -/
theorem C08_agree_guess_dates_needed :
    let o : Options := { guess_dates := true }
    let ty : Ty := .struct "S" (.cons "d" .string .nil)
    let xs : List SVal := [.record "S" (.cons "d" 0 (.str "2020-12-24") .nil)]
    covers ty xs = true ∧ ¬ Covers o ty xs ∧ Covers {} ty xs ∧ (fromSamples .fixed o xs).isOk = true ∧
      fromSamples .fixed o xs ≠ fromType .fixed o ty := by
  decide +kernel

/-! ### agreement including the error class -/

/-- `C08_from_type_class`: for EVERY type description that can be walked and ALL options, `from_type` is the documented
result INCLUDING the error class (`AgreeC`: the same fields, or the crate's message and the documented error are a row of
the table `SameClass`): budget too small ↔ "Could not determine schema from the type after … iterations"; unknown
overwrite path ↔ "Overwritten fields could not be found"; overwrite with a different name ↔ "Invalid name for overwritten
field"; null field ↔ "Encountered null only field"; enum without data ↔ "Encountered enums without data"; more than 128
variants ↔ the `i8` conversion error; nullable root ↔ "The root type cannot be nullable"; root not a struct ↔ "No
records found …" / "Schema tracing is not directly supported for the root data type".  The ORDER in which the
documented result checks (budget, overwrite paths, then the fields left to right, then the root) is the crate's. -/
theorem C08_from_type_class (c : Code) (o : Options) (ty : Ty) (hw : walkable o "$" ty = true) :
    AgreeC (fromType c o ty) (fromTypeSpec o ty) :=
  fromType_walkable_c c o ty hw

/-- `C08_agree_all_class`: on every covering collection `from_samples` is the documented result of `from_type`, error
class included (hypotheses as `C08_agree_all`) -/
theorem C08_agree_all_class (c : Code) (o : Options) (ty : Ty) (xs : List SVal) (hw : walkable o "$" ty = true)
    (hu : uniqueNames ty = true) (hs : smallEnums ty = true) (hb : passes ty ≤ o.from_type_budget)
    (hc : Covers o ty xs) : AgreeC (fromSamples c o xs) (fromTypeSpec o ty) := by
  rw [C08_agree_all c o ty xs hw hu hs hb hc]; exact C08_from_type_class c o ty hw

/-- non-vacuity: one type per error class of `to_field` / `to_schema` / the overwrite rule, each reached by `from_type`
with the crate's message -/
example :
    let sU : Ty := .struct "S" (.cons "u" .unit .nil)
    let sE : Ty := .struct "S" (.cons "e" (.enum "E" (.unit "A" (.unit "B" .nil))) .nil)
    let f : Field := .mk "x" .int8 false []
    walkable {} "$" sU = true ∧ fromType .fixed {} sU = fail "Encountered null only field" ∧
    fromType .fixed {} sE = fail "Encountered enums without data" ∧
    fromType .fixed {} (.option sU) = fail "Encountered null only field" ∧
    fromType .fixed { allow_null_fields := true } (.option sU) = fail "The root type cannot be nullable" ∧
    fromType .fixed {} (.int .i8) = fail "Schema tracing is not directly supported for the root data type" ∧
    fromType .fixed { allow_null_fields := true } .unit = fail "The root type cannot be nullable" ∧
    fromType .fixed { overwrites := [("$.u", f)] } sU = fail "Invalid name for overwritten field" ∧
    fromType .fixed { overwrites := [("$.v", f)] } sU = fail "Overwritten fields could not be found" ∧
    fromType .fixed { from_type_budget := 1, allow_null_fields := true } sE =
      fail "Could not determine schema from the type after {budget} iterations" := by
  decide +kernel

/-- for a type that CANNOT be walked the class of the error is not fixed: `enum E { A(i32), B(HashMap<..>) }` under
`map_as_struct` with a budget of one pass fails with the budget error (pass 1 explores `A`, the loop gives up before it
meets the map), with a larger budget with the map error; the documented result says "not traceable" for both.  This is
why `C08_from_type` compares only ok / error for such types -/
theorem C08_not_walkable_budget_first :
    let ty : Ty := .struct "S" (.cons "e" (.enum "E" (.newtype "A" (.int .i32) (.newtype "B" (.map .string .bool) .nil))) .nil)
    walkable {} "$" ty = false ∧
    fromType .fixed { from_type_budget := 1 } ty = fail "Could not determine schema from the type after {budget} iterations" ∧
    fromType .fixed { from_type_budget := 2 } ty = fail "Cannot trace maps as structs with `from_type`" ∧
    fromTypeSpec { from_type_budget := 1 } ty = fail "not traceable from the type" := by
  decide +kernel

/-! ### the zoo: `from_type` = documented mapping = `from_samples` on covering samples -/

theorem sameR_of_agree {a b : R (List Field)} (h : Agree a b) : sameR a b = true := by
  unfold Agree at h; unfold sameR
  split at h
  · exact decide_eq_true h
  · rfl
  · exact h.elim

/-- the zoo check holds of every type with unique field names and small enums, under all options: its first half is
`C08_from_type`; when `from_type` succeeds the type is walkable and within the budget, so its second half is `C08_agree` -/
theorem zooCheck_of_unique (o : Options) (ty : Ty) (hu : uniqueNames ty = true) (hs : smallEnums ty = true) :
    zooCheck o ty = true := by
  unfold zooCheck
  rw [sameR_of_agree (C08_from_type .fixed o ty), Bool.true_and]
  split
  next fs h =>
    have hw : walkable o "$" ty = true := by
      cases hw : walkable o "$" ty
      · obtain ⟨m, e⟩ := C08_from_type_not_walkable .fixed o ty hw
        rw [e] at h; cases h
      · rfl
    have hb : passes ty ≤ o.from_type_budget := by
      apply Nat.le_of_not_lt; intro hb
      rw [C08_from_type_budget .fixed o ty hw hb] at h; cases h
    rw [C08_agree .fixed o ty hw hu hs hb, h]
    exact decide_eq_true rfl
  · rfl

/-- `C08_from_type` and `C08_agree` on the zoo, in one table: for each of the 16 type descriptions and 10 option
settings of `SaModel/Lemmas/C08Zoo.lean`, the whole `from_type` pipeline (exploration passes, budget, depth limit,
`to_field`, overwrites, root check) gives exactly `Spec.fromTypeSpec` (same fields, or an error on both sides), and when it
succeeds `from_samples` on the covering samples gives the same fields.  An instance of the general theorems: only
`uniqueNames` and `smallEnums` of the 16 types are evaluated. -/
theorem C08_from_type_and_agree_on_zoo : ∀ o ∈ zooOptions, ∀ ty ∈ zooTypes, zooCheck o ty = true := by
  have hall : zooTypes.all (fun ty => uniqueNames ty && smallEnums ty) = true := by decide +kernel
  intro o _ ty hty
  have h := List.all_eq_true.mp hall ty hty
  rw [Bool.and_eq_true] at h
  exact zooCheck_of_unique o ty h.1 h.2

/-- non-vacuity: the zoo contains types that trace successfully and types that need several passes -/
example : (fromType .fixed { allow_null_fields := true } (.struct "S" (.cons "d" tData .nil))).isOk = true ∧
    passes tDeep = 10 := by
  refine ⟨?_, by decide +kernel⟩
  rw [isOk_of_agree (C08_from_type .fixed _ _)]; decide +kernel

end SaModel.Props.C08
