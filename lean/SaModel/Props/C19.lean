import SaModel.Backend.Adapters
import SaModel.Backend.BuildCore
import SaModel.Backend.History
import SaModel.Read.Access
import SaModel.Spec.Decode
import SaModel.Generated.ArrowVersions
import SaModel.Lemmas.C19MapM
/-
C19 — all array back ends give the same logical result.

What is proved here is the crate's own adapter logic (`SaModel/Backend/Adapters.lean`), for EVERY back-end
independent core and EVERY choice of marrow's conversions (`Core`, `Conv` are parameters):

  adapters_compose      each arrow / arrow2 entry point is the marrow entry point composed with the
                        conversions: fields → marrow → (core) → arrays, the first failing step wins
  backends_agree        under the hypotheses `hA`, `hB` (a converted array means what the marrow array means:
                        `decodeA (convA a) = Spec.decodeAll a`) two back ends fail together with the same
                        error whenever marrow fails, succeed together unless a conversion fails, and then hold
                        the same logical content; reading the same views through any of them is one function
  record_batch_fields   the batch's schema is the builder's own schema (metadata included), no schema level
                        metadata, the columns are those of `to_arrow`
  from_batch_needs_only_batch   reading a batch back equals reading its columns with the caller's fields
  builder_reuse_agrees  ONE builder, any history of additions and builds through any mix of the four finishers
                        (`Backend/History.lean`): build k through finisher f is f applied to the marrow arrays of
                        build k, the builder keeps its schema and stays usable after a build that failed in a conversion
  record_batch_schema_stable   every batch a builder ever hands out carries the fields of the schema it was created with
                        (`Props/C19Reuse.lean`: with the builder model, build k = f applied to the one-shot conversion
                        of batch k — C10 through every back end)
  reader_count_mismatch_refused, readers_fail_together_on_counts   a different number of fields and arrays is refused by
                        the reader constructors of all three families, the adapters' own check first
                        (`Props/C19Gen.lean`: the bodies of these methods, regenerated from the sources, ARE the model)
  version_select_max    the selected arrow version is the maximum of the enabled ones
  gen_*                 the version tables regenerated from Cargo.toml / build.rs / lib.rs are consistent
                        (`decide` on `SaModel/Generated/ArrowVersions.lean`; these break when a version is
                        added to, or dropped from, one of the lists only)

The hypotheses speak about code that is not modelled; they are validated by the `backend` suite on every run (differential
testing), not proved:
  hA, hB   (`backend_content`, `backends_agree`, `builder_finishers_agree`; `builder_reuse_decodes` in Props/C19Reuse.lean) a
           converted array decodes to what the marrow array decodes to: `cv.arrayOfMarrow a = ok aa → decodeA aa = Spec.decodeAll a`
  hFRT     (`record_batch_fields_oneshot`, `from_batch_needs_only_batch`) marrow field → back end → marrow field is the identity:
           `cv.fieldOfMarrow f = ok af → cv.fieldToMarrow af = ok f`
  hRT      (`roundtrip_through_backend`) viewing a converted array gives the marrow array back: `cv.viewOf aa = ok a`
  hE       (`backends_agree_read`) the core reads views related by `E` alike (`E := Eq`: `backends_agree_read_eq`, no hypothesis)
  Core.RefusesCounts   (marrow clause of `reader_count_mismatch_refused`, `readers_fail_together_on_counts`) `Deserializer::new`
           refuses a different number of fields and arrays; proved for `Core.counted` (`counted_refuses`) and for
           `Access.new true` (`access_new_refuses`)
-/
namespace SaModel.Props.C19
open SaModel SaModel.Backend SaModel.Lemmas.C19

section
variable {OB Items D Out AF AA BF BA : Type}

/-- `to_arrow` = fields to marrow, `to_marrow`, arrays to arrow — the first failing step wins -/
theorem toArrow_compose (core : Core OB Items D Out) (cv : Conv AF AA) (afs : List AF) (items : Items) :
    toArrow core cv afs items = (do
      let fs ← afs.mapM cv.fieldToMarrow
      let arrays ← toMarrow core fs items
      arrays.mapM cv.arrayOfMarrow) := by
  -- both sides are the same steps in sequence, grouped differently
  simp only [toArrow, toMarrow, ArrayBuilder.fromArrow, ArrayBuilder.fromMarrow, ArrayBuilder.toArrow,
    ArrayBuilder.toMarrow, ArrayBuilder.buildArrays, ArrayBuilder.new, serializeInto, fieldsFromFieldRefs,
    bind_assoc, pure_bind, bind_pure]

/-- `to_arrow2` is the same function of its conversions as `to_arrow` (two copies of one adapter) -/
theorem toArrow2_eq_toArrow (core : Core OB Items D Out) (cv : Conv AF AA) :
    toArrow2 core cv = toArrow core cv := rfl

theorem toArrow2_compose (core : Core OB Items D Out) (cv : Conv AF AA) (afs : List AF) (items : Items) :
    toArrow2 core cv afs items = (do
      let fs ← afs.mapM cv.fieldToMarrow
      let arrays ← toMarrow core fs items
      arrays.mapM cv.arrayOfMarrow) := by
  rw [toArrow2_eq_toArrow]; exact toArrow_compose core cv afs items

/-- `to_marrow` is `to_arrow` for the identity conversions: marrow is one of the back ends -/
theorem toMarrow_is_identity_backend (core : Core OB Items D Out) (fs : List Field) (items : Items) :
    toArrow core Conv.id fs items = toMarrow core fs items := by
  have h1 : (Conv.id).fieldToMarrow = (pure : Field → R Field) := rfl
  have h2 : (Conv.id).arrayOfMarrow = (pure : Arr → R Arr) := rfl
  simp only [toArrow_compose, h1, h2, mapM_pure_id, R.ok_bind]
  exact bind_pure _

/-- `to_record_batch` = `to_arrow`, then the fields of the schema the builder was created with, then arrow's
`RecordBatch::try_new` -/
theorem toRecordBatch_compose (core : Core OB Items D Out) (cv : Conv AF AA) (validate : List AF → List AA → R Unit)
    (afs : List AF) (items : Items) :
    toRecordBatch core cv validate afs items = (do
      let fs ← afs.mapM cv.fieldToMarrow
      let marrays ← toMarrow core fs items
      let arrays ← marrays.mapM cv.arrayOfMarrow
      let fields ← fs.mapM cv.fieldOfMarrow
      validate fields arrays
      pure { fields, schemaMetadata := [], columns := arrays }) := by
  simp only [toRecordBatch, toMarrow, ArrayBuilder.fromArrow, ArrayBuilder.fromMarrow, ArrayBuilder.toArrow,
    ArrayBuilder.toRecordBatch, RecordBatch.tryNew, fieldRefsOfSchema, ArrayBuilder.toMarrow, ArrayBuilder.buildArrays,
    ArrayBuilder.new, serializeInto, fieldsFromFieldRefs, bind_assoc, pure_bind]

/-- `from_arrow` = count check, fields to marrow, arrays to views, `from_marrow` -/
theorem fromArrow_compose (core : Core OB Items D Out) (cv : Conv AF AA) (afs : List AF) (arrays : List AA) :
    fromArrow core cv afs arrays =
      if afs.length != arrays.length then countMismatch afs.length arrays.length else
        (afs.mapM cv.fieldToMarrow >>= fun fs => arrays.mapM cv.viewOf >>= fun views => fromMarrow core fs views) := by
  simp only [fromArrow, fromMarrow, Deserializer.fromArrow, Deserializer.fromMarrow, fieldsFromFieldRefs]
  split
  · rfl
  · simp only [bind_assoc]

theorem fromArrow2_eq_fromArrow (core : Core OB Items D Out) (cv : Conv AF AA) :
    fromArrow2 core cv = fromArrow core cv := rfl

/-- `from_record_batch` uses the batch and nothing else: it is `from_arrow` on the batch's own parts -/
theorem fromRecordBatch_eq (core : Core OB Items D Out) (cv : Conv AF AA) (batch : RecordBatch AF AA) :
    fromRecordBatch core cv batch = fromArrow core cv batch.fields batch.columns := rfl

/-- `from_marrow` is `from_arrow` for the identity conversions (which adds only the count check that
`Deserializer::new` repeats) -/
theorem fromMarrow_is_identity_backend (core : Core OB Items D Out) (fs : List Field) (views : List Arr)
    (hlen : fs.length = views.length) :
    fromArrow core Conv.id fs views = fromMarrow core fs views := by
  rw [fromArrow_compose]
  have h1 : (Conv.id).fieldToMarrow = (pure : Field → R Field) := rfl
  have h2 : (Conv.id).viewOf = (pure : Arr → R Arr) := rfl
  rw [h1, h2, mapM_pure_id, mapM_pure_id]
  simp [hlen, bind, Except.bind]

/-- all of the above in one statement -/
theorem adapters_compose (core : Core OB Items D Out) (cv : Conv AF AA) (validate : List AF → List AA → R Unit)
    (afs : List AF) (items : Items) (arrays : List AA) (batch : RecordBatch AF AA) :
    toArrow core cv afs items = (afs.mapM cv.fieldToMarrow >>= fun fs => toMarrow core fs items >>= fun a => a.mapM cv.arrayOfMarrow) ∧
    toArrow2 core cv afs items = toArrow core cv afs items ∧
    toRecordBatch core cv validate afs items =
      (afs.mapM cv.fieldToMarrow >>= fun fs => toMarrow core fs items >>= fun ma => ma.mapM cv.arrayOfMarrow >>= fun a =>
        fs.mapM cv.fieldOfMarrow >>= fun fields => validate fields a >>= fun _ =>
        pure { fields, schemaMetadata := [], columns := a }) ∧
    fromArrow core cv afs arrays =
      (if afs.length != arrays.length then countMismatch afs.length arrays.length else
        afs.mapM cv.fieldToMarrow >>= fun fs => arrays.mapM cv.viewOf >>= fun views => fromMarrow core fs views) ∧
    fromArrow2 core cv afs arrays = fromArrow core cv afs arrays ∧
    fromRecordBatch core cv batch = fromArrow core cv batch.fields batch.columns :=
  ⟨toArrow_compose core cv afs items, rfl, toRecordBatch_compose core cv validate afs items,
   fromArrow_compose core cv afs arrays, rfl, rfl⟩

/-- with the schema converted (`afs` to `fs`), `to_arrow` is `to_marrow` followed by the array conversion -/
theorem toArrow_factor (core : Core OB Items D Out) (cv : Conv AF AA) {afs : List AF} {fs : List Field}
    (hf : afs.mapM cv.fieldToMarrow = .ok fs) (items : Items) :
    toArrow core cv afs items = (toMarrow core fs items >>= fun a => a.mapM cv.arrayOfMarrow) := by
  rw [toArrow_compose, hf]; rfl

/-- One marrow outcome governs every back end: with the same schema (`afs`, `bfs` both convert to `fs`) the
arrow and arrow2 results are the marrow result pushed through the respective array conversion. -/
theorem backends_factor (core : Core OB Items D Out) (cvA : Conv AF AA) (cvB : Conv BF BA)
    (afs : List AF) (bfs : List BF) (fs : List Field)
    (hfa : afs.mapM cvA.fieldToMarrow = .ok fs) (hfb : bfs.mapM cvB.fieldToMarrow = .ok fs) (items : Items) :
    toArrow core cvA afs items = (toMarrow core fs items >>= fun a => a.mapM cvA.arrayOfMarrow) ∧
    toArrow2 core cvB bfs items = (toMarrow core fs items >>= fun a => a.mapM cvB.arrayOfMarrow) := by
  exact ⟨toArrow_factor core cvA hfa items, toArrow_factor core cvB hfb items⟩

/-- If marrow fails, every back end fails with the very same error. -/
theorem backends_fail_together (core : Core OB Items D Out) (cvA : Conv AF AA) (cvB : Conv BF BA)
    (afs : List AF) (bfs : List BF) (fs : List Field)
    (hfa : afs.mapM cvA.fieldToMarrow = .ok fs) (hfb : bfs.mapM cvB.fieldToMarrow = .ok fs) (items : Items)
    (e : Fail) (hm : toMarrow core fs items = .error e) :
    toArrow core cvA afs items = .error e ∧ toArrow2 core cvB bfs items = .error e := by
  obtain ⟨h1, h2⟩ := backends_factor core cvA cvB afs bfs fs hfa hfb items
  rw [h1, h2, hm]
  exact ⟨rfl, rfl⟩

/-- A back end that fails fails either with marrow's error or — marrow having succeeded — with the conversion
error of one of the arrays marrow built ("up to conversion errors"). -/
theorem backend_failure_cases (core : Core OB Items D Out) (cv : Conv AF AA)
    (afs : List AF) (fs : List Field) (hf : afs.mapM cv.fieldToMarrow = .ok fs) (items : Items)
    (e : Fail) (h : toArrow core cv afs items = .error e) :
    toMarrow core fs items = .error e ∨
    ∃ arrays, toMarrow core fs items = .ok arrays ∧ ∃ a ∈ arrays, cv.arrayOfMarrow a = .error e := by
  rw [toArrow_factor core cv hf] at h
  cases hm : toMarrow core fs items with
  | error e' => rw [hm] at h; cases h; exact .inl rfl
  | ok arrays => rw [hm] at h; exact .inr ⟨arrays, rfl, mapM_error _ _ _ h⟩

/-- If marrow succeeds and the back end can represent every array that was built, the back end succeeds. -/
theorem backend_succeeds (core : Core OB Items D Out) (cv : Conv AF AA)
    (afs : List AF) (fs : List Field) (hf : afs.mapM cv.fieldToMarrow = .ok fs) (items : Items)
    (arrays : List Arr) (hm : toMarrow core fs items = .ok arrays)
    (htotal : ∀ a ∈ arrays, ∃ aa, cv.arrayOfMarrow a = .ok aa) :
    ∃ out, toArrow core cv afs items = .ok out := by
  obtain ⟨out, hout⟩ := mapM_total _ arrays htotal
  exact ⟨out, by rw [toArrow_factor core cv hf, hm]; exact hout⟩

/-- A back end that succeeds holds, array by array, the logical content of the marrow arrays —
under `hA`: a converted array means what the marrow array means. -/
theorem backend_content (core : Core OB Items D Out) (cv : Conv AF AA) (decodeA : AA → List (R LVal))
    (hA : ∀ a aa, cv.arrayOfMarrow a = .ok aa → decodeA aa = Spec.decodeAll a)
    (afs : List AF) (fs : List Field) (hf : afs.mapM cv.fieldToMarrow = .ok fs) (items : Items)
    (out : List AA) (h : toArrow core cv afs items = .ok out) :
    ∃ arrays, toMarrow core fs items = .ok arrays ∧ out.length = arrays.length ∧
      out.map decodeA = arrays.map Spec.decodeAll := by
  rw [toArrow_factor core cv hf, R.bind_eq_ok] at h
  obtain ⟨arrays, hm, h⟩ := h
  exact ⟨arrays, hm, mapM_ok_length _ _ _ h, mapM_ok_map _ _ _ hA _ _ h⟩

/-- **backends_agree.**  Same schema, same records: marrow, arrow and arrow2
(1) fail together with the same error when marrow fails;
(2) when marrow succeeds each back end either succeeds or reports the conversion error of one of marrow's arrays;
(3) every two back ends that succeed hold the same logical content, which is that of the marrow arrays. -/
theorem backends_agree (core : Core OB Items D Out) (cvA : Conv AF AA) (cvB : Conv BF BA)
    (decodeA : AA → List (R LVal)) (decodeB : BA → List (R LVal))
    (hA : ∀ a aa, cvA.arrayOfMarrow a = .ok aa → decodeA aa = Spec.decodeAll a)
    (hB : ∀ a ba, cvB.arrayOfMarrow a = .ok ba → decodeB ba = Spec.decodeAll a)
    (afs : List AF) (bfs : List BF) (fs : List Field)
    (hfa : afs.mapM cvA.fieldToMarrow = .ok fs) (hfb : bfs.mapM cvB.fieldToMarrow = .ok fs) (items : Items) :
    (∀ e, toMarrow core fs items = .error e →
        toArrow core cvA afs items = .error e ∧ toArrow2 core cvB bfs items = .error e) ∧
    (∀ arrays, toMarrow core fs items = .ok arrays →
        ((∃ as, toArrow core cvA afs items = .ok as ∧ as.map decodeA = arrays.map Spec.decodeAll) ∨
         (∃ e, toArrow core cvA afs items = .error e ∧ ∃ a ∈ arrays, cvA.arrayOfMarrow a = .error e)) ∧
        ((∃ bs, toArrow2 core cvB bfs items = .ok bs ∧ bs.map decodeB = arrays.map Spec.decodeAll) ∨
         (∃ e, toArrow2 core cvB bfs items = .error e ∧ ∃ a ∈ arrays, cvB.arrayOfMarrow a = .error e))) ∧
    (∀ as bs, toArrow core cvA afs items = .ok as → toArrow2 core cvB bfs items = .ok bs →
        as.map decodeA = bs.map decodeB) := by
  refine ⟨fun e hm => backends_fail_together core cvA cvB afs bfs fs hfa hfb items e hm, ?_, ?_⟩
  · intro arrays hm
    have one : ∀ {F A : Type} (cv : Conv F A) (dec : A → List (R LVal))
        (_ : ∀ a aa, cv.arrayOfMarrow a = .ok aa → dec aa = Spec.decodeAll a) (xs : List F)
        (_ : xs.mapM cv.fieldToMarrow = .ok fs),
        (∃ as, toArrow core cv xs items = .ok as ∧ as.map dec = arrays.map Spec.decodeAll) ∨
        (∃ e, toArrow core cv xs items = .error e ∧ ∃ a ∈ arrays, cv.arrayOfMarrow a = .error e) := by
      intro F A cv dec hdec xs hxs
      cases h : toArrow core cv xs items with
      | ok as =>
        obtain ⟨arrays', hm', _, hc⟩ := backend_content core cv dec hdec xs fs hxs items as h
        rw [hm] at hm'; cases hm'
        exact .inl ⟨as, rfl, hc⟩
      | error e =>
        rcases backend_failure_cases core cv xs fs hxs items e h with hme | ⟨arrays', hm', hx⟩
        · rw [hm] at hme; cases hme
        · rw [hm] at hm'; cases hm'
          exact .inr ⟨e, rfl, hx⟩
    exact ⟨one cvA decodeA hA afs hfa, by rw [toArrow2_eq_toArrow]; exact one cvB decodeB hB bfs hfb⟩
  · intro as bs ha hb
    obtain ⟨arrays, hm, _, hca⟩ := backend_content core cvA decodeA hA afs fs hfa items as ha
    rw [toArrow2_eq_toArrow] at hb
    obtain ⟨arrays', hm', _, hcb⟩ := backend_content core cvB decodeB hB bfs fs hfb items bs hb
    rw [hm] at hm'; cases hm'
    rw [hca, hcb]

/-- The adapter model's `to_marrow`, instantiated with the builder model (`buildCore`), is `SaModel.Build.toMarrow` —
the function the build-side theorems (C01, C03, C05) are about; by `backends_agree` what they say about the marrow
arrays carries over to every back end's arrays (under `hA`). -/
theorem marrow_entry_is_build_model (ext : SaModel.Build.Ext) {D Out : Type} (dn : List Field → List Arr → R D) (de : D → R Out)
    (fields : List Field) (rows : List SVal) :
    Backend.toMarrow (buildCore ext dn de) fields rows = SaModel.Build.toMarrow ext fields rows := by
  simp only [Backend.toMarrow, ArrayBuilder.fromMarrow, ArrayBuilder.new, serializeInto, ArrayBuilder.toMarrow,
    ArrayBuilder.buildArrays, buildCore, SaModel.Build.toMarrow, bind_assoc, pure_bind]

/-- every constructor is `from_marrow` after the field conversion; every finisher is `build_arrays` followed by the
array conversion of the back end it finishes into — whatever family's fields created the builder -/
theorem builder_paths_factor (core : Core OB Items D Out) (cv : Conv AF AA) (cv' : Conv BF BA)
    (afs : List AF) (self : ArrayBuilder OB) :
    ArrayBuilder.fromArrow core cv afs = (afs.mapM cv.fieldToMarrow >>= ArrayBuilder.fromMarrow core) ∧
    ArrayBuilder.fromArrow2 core cv afs = ArrayBuilder.fromArrow core cv afs ∧
    self.toMarrow core = self.buildArrays core ∧
    self.toArrow core cv' =
      (self.buildArrays core >>= fun p => p.1.mapM cv'.arrayOfMarrow >>= fun arrays => pure (arrays, p.2)) ∧
    self.toArrow2 core cv' = self.toArrow core cv' :=
  ⟨rfl, rfl, rfl, rfl, rfl⟩

/-- two finishers applied to the same builder state hold the same logical content (under `hA`, `hB`) -/
theorem builder_finishers_agree (core : Core OB Items D Out) (cvA : Conv AF AA) (cvB : Conv BF BA)
    (decodeA : AA → List (R LVal)) (decodeB : BA → List (R LVal))
    (hA : ∀ a aa, cvA.arrayOfMarrow a = .ok aa → decodeA aa = Spec.decodeAll a)
    (hB : ∀ a ba, cvB.arrayOfMarrow a = .ok ba → decodeB ba = Spec.decodeAll a)
    (self sa sb : ArrayBuilder OB) (as : List AA) (bs : List BA)
    (ha : self.toArrow core cvA = .ok (as, sa)) (hb : self.toArrow2 core cvB = .ok (bs, sb)) :
    as.map decodeA = bs.map decodeB ∧ sa = sb ∧
    ∃ arrays, self.toMarrow core = .ok (arrays, sa) ∧ as.map decodeA = arrays.map Spec.decodeAll := by
  simp only [ArrayBuilder.toArrow, ArrayBuilder.toArrow2, R.bind_eq_ok] at ha hb
  obtain ⟨p, hp, as', hca, ha⟩ := ha
  obtain ⟨q, hq, bs', hcb, hb⟩ := hb
  cases ha; cases hb
  rw [hp] at hq; cases hq
  have e1 := mapM_ok_map _ _ _ hA _ _ hca
  have e2 := mapM_ok_map _ _ _ hB _ _ hcb
  exact ⟨by rw [e1, e2], rfl, p.1, hp, e1⟩

/-- Arrays of two back ends that convert to views the core cannot tell apart (`E`; take `E := Eq` for "the same
views") are deserialized to the same result through `from_arrow`, `from_arrow2` and `from_marrow`. -/
theorem backends_agree_read (core : Core OB Items D Out) (cvA : Conv AF AA) (cvB : Conv BF BA)
    (E : Arr → Arr → Prop)
    (hE : ∀ fs vs vs', AllRel E vs vs' → fromMarrow core fs vs = fromMarrow core fs vs')
    (afs : List AF) (bfs : List BF) (fs : List Field)
    (hfa : afs.mapM cvA.fieldToMarrow = .ok fs) (hfb : bfs.mapM cvB.fieldToMarrow = .ok fs)
    (as : List AA) (bs : List BA) (va vb : List Arr)
    (hva : as.mapM cvA.viewOf = .ok va) (hvb : bs.mapM cvB.viewOf = .ok vb) (hEq : AllRel E va vb) :
    fromArrow core cvA afs as = fromArrow2 core cvB bfs bs ∧
    (fs.length = va.length → fromArrow core cvA afs as = fromMarrow core fs va) := by
  have la := mapM_ok_length _ _ _ hfa
  have lb := mapM_ok_length _ _ _ hfb
  have lva := mapM_ok_length _ _ _ hva
  have lvb := mapM_ok_length _ _ _ hvb
  have lE := hEq.length_eq
  rw [fromArrow2_eq_fromArrow, fromArrow_compose, fromArrow_compose, hfa, hfb, hva, hvb]
  have e1 : afs.length = fs.length := la.symm
  have e2 : bfs.length = fs.length := lb.symm
  have e3 : as.length = va.length := lva.symm
  have e4 : bs.length = va.length := by rw [← lvb, ← lE]
  rw [e1, e2, e3, e4]
  refine ⟨?_, ?_⟩
  · split
    · rfl
    · simp only [bind, Except.bind]; exact hE fs va vb hEq
  · intro hlen
    simp [hlen, bind, Except.bind]

/-- the same with "the same views" -/
theorem backends_agree_read_eq (core : Core OB Items D Out) (cvA : Conv AF AA) (cvB : Conv BF BA)
    (afs : List AF) (bfs : List BF) (fs : List Field)
    (hfa : afs.mapM cvA.fieldToMarrow = .ok fs) (hfb : bfs.mapM cvB.fieldToMarrow = .ok fs)
    (as : List AA) (bs : List BA) (views : List Arr)
    (hva : as.mapM cvA.viewOf = .ok views) (hvb : bs.mapM cvB.viewOf = .ok views) :
    fromArrow core cvA afs as = fromArrow2 core cvB bfs bs := by
  exact (backends_agree_read core cvA cvB (· = ·)
    (fun fs vs vs' h => by rw [AllRel.eq_of_eq h])
    afs bfs fs hfa hfb as bs views views hva hvb (AllRel.refl_eq views)).1

/-- Round trip through a back end whose view of a converted array is the marrow array again (`hRT`): reading
what `to_arrow` produced equals reading what `to_marrow` produced. -/
theorem roundtrip_through_backend (core : Core OB Items D Out) (cv : Conv AF AA)
    (hRT : ∀ a aa, cv.arrayOfMarrow a = .ok aa → cv.viewOf aa = .ok a)
    (afs : List AF) (fs : List Field) (hf : afs.mapM cv.fieldToMarrow = .ok fs) (items : Items)
    (out : List AA) (h : toArrow core cv afs items = .ok out) :
    ∃ arrays, toMarrow core fs items = .ok arrays ∧
      fromArrow core cv afs out =
        if fs.length != arrays.length then countMismatch fs.length arrays.length else fromMarrow core fs arrays := by
  rw [toArrow_factor core cv hf, R.bind_eq_ok] at h
  obtain ⟨arrays, hm, h⟩ := h
  refine ⟨arrays, hm, ?_⟩
  rw [fromArrow_compose, hf, R.mapM_inverse hRT h, show afs.length = fs.length from (mapM_ok_length _ _ _ hf).symm,
    mapM_ok_length _ _ _ h]
  rfl

/-- `ArrayBuilder::to_record_batch`: the batch's fields are the converted fields of the builder's own schema —
the schema it was created with, metadata included, not anything derived from the arrays —, the batch carries no
schema-level metadata, its columns are what `to_arrow` returns, and the builder keeps its schema. -/
theorem record_batch_fields (core : Core OB Items D Out) (cv : Conv AF AA) (validate : List AF → List AA → R Unit)
    (self self' : ArrayBuilder OB) (batch : RecordBatch AF AA)
    (h : self.toRecordBatch core cv validate = .ok (batch, self')) :
    self.schema.mapM cv.fieldOfMarrow = .ok batch.fields ∧ batch.schemaMetadata = [] ∧
    self.toArrow core cv = .ok (batch.columns, self') ∧ self'.schema = self.schema ∧
    validate batch.fields batch.columns = .ok () := by
  simp only [ArrayBuilder.toRecordBatch, ArrayBuilder.toArrow, ArrayBuilder.buildArrays, RecordBatch.tryNew,
    fieldRefsOfSchema, bind_assoc, pure_bind, R.bind_eq_ok] at h
  obtain ⟨p, hb, arrays, hc, fields, hf, u, hv, h⟩ := h
  cases h
  simp only [ArrayBuilder.toArrow, ArrayBuilder.buildArrays, hb, hc, R.ok_bind, pure_bind]
  exact ⟨hf, trivial, rfl, trivial, hv⟩

/-- `to_record_batch(fields, items)`: the batch's schema is the caller's schema taken through marrow and back.
If that round trip is the identity on marrow fields (`hFRT`, validated by the suite), the batch's fields read
back as exactly the given fields — names, types, nullability and metadata (`Field` carries all four). -/
theorem record_batch_fields_oneshot (core : Core OB Items D Out) (cv : Conv AF AA) (validate : List AF → List AA → R Unit)
    (afs : List AF) (fs : List Field) (hf : afs.mapM cv.fieldToMarrow = .ok fs) (items : Items)
    (batch : RecordBatch AF AA) (h : toRecordBatch core cv validate afs items = .ok batch) :
    fs.mapM cv.fieldOfMarrow = .ok batch.fields ∧ batch.schemaMetadata = [] ∧ batch.fields.length = afs.length ∧
    toArrow core cv afs items = .ok batch.columns ∧
    ((∀ f af, cv.fieldOfMarrow f = .ok af → cv.fieldToMarrow af = .ok f) →
      batch.fields.mapM cv.fieldToMarrow = .ok fs) := by
  rw [toRecordBatch_compose, hf] at h
  simp only [R.ok_bind, R.bind_eq_ok] at h
  obtain ⟨marrays, hm, arrays, hc, fields, hfo, u, hv, h⟩ := h
  cases h
  refine ⟨hfo, rfl, ?_, by rw [toArrow_factor core cv hf, hm]; exact hc, fun hFRT => ?_⟩
  · show fields.length = afs.length
    rw [mapM_ok_length _ _ _ hfo, mapM_ok_length _ _ _ hf]
  · show List.mapM cv.fieldToMarrow fields = Except.ok fs
    exact R.mapM_inverse hFRT hfo

/-- **from_batch_needs_only_batch.**  `from_record_batch(batch)` looks at the batch alone (`fromRecordBatch_eq`),
and for a batch made by `to_record_batch(fields, items)` that suffices: it gives what `from_arrow(fields, columns)`
gives with the fields the caller started from — provided the field conversions round trip (`hFRT`). -/
theorem from_batch_needs_only_batch (core : Core OB Items D Out) (cv : Conv AF AA) (validate : List AF → List AA → R Unit)
    (hFRT : ∀ f af, cv.fieldOfMarrow f = .ok af → cv.fieldToMarrow af = .ok f)
    (afs : List AF) (fs : List Field) (hf : afs.mapM cv.fieldToMarrow = .ok fs) (items : Items)
    (batch : RecordBatch AF AA) (h : toRecordBatch core cv validate afs items = .ok batch) :
    fromRecordBatch core cv batch = fromArrow core cv afs batch.columns := by
  obtain ⟨_, _, hlen, _, hback⟩ := record_batch_fields_oneshot core cv validate afs fs hf items batch h
  rw [fromRecordBatch_eq, fromArrow_compose, fromArrow_compose, hback hFRT, hf, hlen]

/-! ### one builder, many builds: the `ArrayBuilder` across calls (`Backend/History.lean`) -/

/-- the one-call finishers of `Adapters.lean` are the stateful ones with the state dropped on failure -/
theorem finishers_collapse (core : Core OB Items D Out) (cv : Conv AF AA) (validate : List AF → List AA → R Unit)
    (self : ArrayBuilder OB) :
    self.toMarrow core = collapse (self.toMarrowS core) ∧
    self.toArrow core cv = collapse (self.toArrowS core cv) ∧
    self.toArrow2 core cv = collapse (self.toArrow2S core cv) ∧
    self.toRecordBatch core cv validate = collapse (self.toRecordBatchS core cv validate) := by
  simp only [ArrayBuilder.toMarrow, ArrayBuilder.toArrow, ArrayBuilder.toArrow2, ArrayBuilder.toRecordBatch,
    ArrayBuilder.toMarrowS, ArrayBuilder.toArrowS, ArrayBuilder.toArrow2S, ArrayBuilder.toRecordBatchS, collapse,
    recordBatchOf, bind_assoc, pure_bind, R.ok_bind, Prod.eta, bind_pure, and_self]

/-- every finisher is `build_arrays` followed by a function of the arrays taken and of the schema of the builder,
and leaves the builder `build_arrays` leaves: same reset core state, SAME schema -/
theorem finishS_factor (core : Core OB Items D Out) (cvA : Conv AF AA) (cvB : Conv BF BA)
    (validate : List AF → List AA → R Unit) (f : Finisher) (self : ArrayBuilder OB) :
    self.finishS core cvA cvB validate f =
      (self.toMarrow core).map fun p => (convertBuilt cvA cvB validate self.schema f p.1, p.2) := by
  cases f <;>
  simp only [ArrayBuilder.finishS, ArrayBuilder.toMarrowS, ArrayBuilder.toArrowS, ArrayBuilder.toArrow2S,
    ArrayBuilder.toRecordBatchS, ArrayBuilder.toMarrow, ArrayBuilder.buildArrays, convertBuilt, bind, Except.bind,
    pure, Except.pure, Except.map] <;>
  cases core.takeArrays self.builder <;> rfl

theorem serializeInto_schema (core : Core OB Items D Out) (self self' : ArrayBuilder OB) (items : Items)
    (h : serializeInto core self items = .ok self') : self'.schema = self.schema := by
  simp only [serializeInto, R.bind_eq_ok] at h
  obtain ⟨b, _, h⟩ := h
  cases h; rfl

theorem toMarrow_schema (core : Core OB Items D Out) (self self' : ArrayBuilder OB) (arrays : List Arr)
    (h : self.toMarrow core = .ok (arrays, self')) : self'.schema = self.schema := by
  simp only [ArrayBuilder.toMarrow, ArrayBuilder.buildArrays, R.bind_eq_ok] at h
  obtain ⟨p, _, h⟩ := h
  cases h; rfl

/-- **builder_reuse_agrees.**  For EVERY history of additions and builds through ANY mix of the four finishers on ONE
builder: the history succeeds or fails as the same history finished with `to_marrow` everywhere (same error), ends in
the same builder, and build k through finisher `f` is `f` applied to the marrow arrays of build k — the array
conversion of its family and, for `to_record_batch`, the converted fields of the schema the builder HAD AT THE START.
Every finisher sees the same batches, whatever was called before. -/
theorem builder_reuse_agrees (core : Core OB Items D Out) (cvA : Conv AF AA) (cvB : Conv BF BA)
    (validate : List AF → List AA → R Unit) : ∀ (ops : List (HOp Items)) (self : ArrayBuilder OB),
    runHistory core cvA cvB validate self ops =
      (runMarrow core self ops).map fun p =>
        (List.zipWith (convertBuilt cvA cvB validate self.schema) (finishers ops) p.1, p.2)
  | [], self => rfl
  | .add items :: ops, self => by
    simp only [runHistory, runMarrow, bind, Except.bind]
    cases hs : serializeInto core self items with
    | error e => rfl
    | ok self' =>
      simp only []
      rw [builder_reuse_agrees core cvA cvB validate ops self', serializeInto_schema core self self' items hs]
      rfl
  | .finish f :: ops, self => by
    simp only [runHistory, runMarrow, bind, Except.bind, finishS_factor]
    cases hs : self.toMarrow core with
    | error e => rfl
    | ok p =>
      obtain ⟨arrays, self'⟩ := p
      simp only [Except.map]
      rw [builder_reuse_agrees core cvA cvB validate ops self', toMarrow_schema core self self' arrays hs]
      cases runMarrow core self' ops with
      | error e => rfl
      | ok q => rfl

/-- a history never changes the builder's schema, and returns one result per finisher -/
theorem runMarrow_shape (core : Core OB Items D Out) : ∀ (ops : List (HOp Items)) (self fin : ArrayBuilder OB)
    (outs : List (List Arr)), runMarrow core self ops = .ok (outs, fin) →
    fin.schema = self.schema ∧ outs.length = (finishers ops).length
  | [], self, fin, outs, h => by
    simp only [runMarrow, Except.ok.injEq, Prod.mk.injEq] at h
    obtain ⟨rfl, rfl⟩ := h
    exact ⟨rfl, rfl⟩
  | .add items :: ops, self, fin, outs, h => by
    simp only [runMarrow, R.bind_eq_ok] at h
    obtain ⟨self', hs, h⟩ := h
    obtain ⟨h1, h2⟩ := runMarrow_shape core ops self' fin outs h
    exact ⟨h1.trans (serializeInto_schema core self self' items hs), h2⟩
  | .finish f :: ops, self, fin, outs, h => by
    simp only [runMarrow, R.bind_eq_ok] at h
    obtain ⟨⟨arrays, self'⟩, hs, ⟨outs', fin'⟩, hr, h⟩ := h
    cases h
    obtain ⟨h1, h2⟩ := runMarrow_shape core ops self' fin' outs' hr
    exact ⟨h1.trans (toMarrow_schema core self self' arrays hs), by simp [finishers, List.filterMap, HOp.finisher?, h2]⟩

/-- the indexed form: build k of a successful history, made through finisher `f`, is `f` applied to the marrow arrays
of build k of the same history, under the schema the builder started with -/
theorem builder_reuse_each (core : Core OB Items D Out) (cvA : Conv AF AA) (cvB : Conv BF BA)
    (validate : List AF → List AA → R Unit) (ops : List (HOp Items)) (self fin : ArrayBuilder OB)
    (outs : List (R (Built AF AA BA))) (h : runHistory core cvA cvB validate self ops = .ok (outs, fin)) :
    ∃ mouts, runMarrow core self ops = .ok (mouts, fin) ∧ fin.schema = self.schema ∧
      outs.length = (finishers ops).length ∧ mouts.length = (finishers ops).length ∧
      ∀ (k : Nat) (f : Finisher) (arrays : List Arr), (finishers ops)[k]? = some f → mouts[k]? = some arrays →
        outs[k]? = some (convertBuilt cvA cvB validate self.schema f arrays) := by
  rw [builder_reuse_agrees] at h
  cases hm : runMarrow core self ops with
  | error e => simp [hm, Except.map] at h
  | ok p =>
    obtain ⟨mouts, fin'⟩ := p
    simp only [hm, Except.map, Except.ok.injEq, Prod.mk.injEq] at h
    obtain ⟨rfl, rfl⟩ := h
    obtain ⟨h1, h2⟩ := runMarrow_shape core ops self fin' mouts hm
    refine ⟨mouts, rfl, h1, by simp [h2], h2, ?_⟩
    intro k f arrays hf ha
    simp [List.getElem?_zipWith, hf, ha]

theorem convertBuilt_recordBatch (cvA : Conv AF AA) (cvB : Conv BF BA) (validate : List AF → List AA → R Unit)
    (schema : List Field) (f : Finisher) (arrays : List Arr) (b : RecordBatch AF AA)
    (h : convertBuilt cvA cvB validate schema f arrays = .ok (Built.recordBatch (BA := BA) b)) :
    f = .recordBatch ∧ schema.mapM cvA.fieldOfMarrow = .ok b.fields ∧ b.schemaMetadata = [] ∧
    arrays.mapM cvA.arrayOfMarrow = .ok b.columns ∧ validate b.fields b.columns = .ok () := by
  cases f with
  | marrow => simp [convertBuilt] at h
  | arrow => simp only [convertBuilt, Except.map] at h; cases hc : List.mapM cvA.arrayOfMarrow arrays <;> simp [hc] at h
  | arrow2 => simp only [convertBuilt, Except.map] at h; cases hc : List.mapM cvB.arrayOfMarrow arrays <;> simp [hc] at h
  | recordBatch =>
    simp only [convertBuilt, recordBatchOf, RecordBatch.tryNew, fieldRefsOfSchema, Except.map] at h
    split at h
    · cases h
    · rename_i r hr
      simp only [Except.ok.injEq, Built.recordBatch.injEq] at h
      subst h
      simp only [R.bind_eq_ok] at hr
      obtain ⟨cols, hc, fields, hf, u, hv, hr⟩ := hr
      cases hr
      exact ⟨rfl, hf, rfl, hc, hv⟩

/-- **record_batch_schema_stable.**  EVERY record batch a builder hands out during a history — the first, the second,
after any number of other builds through any finisher — carries the converted fields of the schema the builder was
created with (metadata included) and no schema-level metadata; its columns are the arrow conversion of the marrow
arrays of that build.  Hence any two batches of one builder have the same fields. -/
theorem record_batch_schema_stable (core : Core OB Items D Out) (cvA : Conv AF AA) (cvB : Conv BF BA)
    (validate : List AF → List AA → R Unit) (ops : List (HOp Items)) (self fin : ArrayBuilder OB)
    (outs : List (R (Built AF AA BA))) (h : runHistory core cvA cvB validate self ops = .ok (outs, fin)) :
    (∀ (k : Nat) (b : RecordBatch AF AA), outs[k]? = some (.ok (.recordBatch b)) →
      self.schema.mapM cvA.fieldOfMarrow = .ok b.fields ∧ b.schemaMetadata = [] ∧
      ∃ mouts arrays, runMarrow core self ops = .ok (mouts, fin) ∧ mouts[k]? = some arrays ∧
        arrays.mapM cvA.arrayOfMarrow = .ok b.columns) ∧
    (∀ (k k' : Nat) (b b' : RecordBatch AF AA), outs[k]? = some (.ok (.recordBatch b)) →
      outs[k']? = some (.ok (.recordBatch b')) → b.fields = b'.fields ∧ b.schemaMetadata = b'.schemaMetadata) := by
  obtain ⟨mouts, hm, _, hl1, hl2, hk⟩ := builder_reuse_each core cvA cvB validate ops self fin outs h
  have one : ∀ (k : Nat) (b : RecordBatch AF AA), outs[k]? = some (.ok (.recordBatch b)) →
      self.schema.mapM cvA.fieldOfMarrow = .ok b.fields ∧ b.schemaMetadata = [] ∧
      ∃ mouts arrays, runMarrow core self ops = .ok (mouts, fin) ∧ mouts[k]? = some arrays ∧
        arrays.mapM cvA.arrayOfMarrow = .ok b.columns := by
    intro k b hb
    have hlt : k < outs.length := by
      rcases Nat.lt_or_ge k outs.length with h | h
      · exact h
      · rw [List.getElem?_eq_none h] at hb; cases hb
    obtain ⟨f, hf⟩ : ∃ f, (finishers ops)[k]? = some f := ⟨_, List.getElem?_eq_getElem (by omega)⟩
    obtain ⟨arrays, ha⟩ : ∃ arrays, mouts[k]? = some arrays := ⟨_, List.getElem?_eq_getElem (by omega)⟩
    have := hk k f arrays hf ha
    rw [hb] at this
    simp only [Option.some.injEq] at this
    obtain ⟨_, h2, h3, h4, _⟩ := convertBuilt_recordBatch cvA cvB validate _ _ _ b this.symm
    exact ⟨h2, h3, mouts, _, hm, ha, h4⟩
  refine ⟨one, ?_⟩
  intro k k' b b' hb hb'
  obtain ⟨h1, h2, _⟩ := one k b hb
  obtain ⟨h1', h2', _⟩ := one k' b' hb'
  rw [h1] at h1'
  exact ⟨by simpa using h1', by rw [h2, h2']⟩

/-- **reader_count_mismatch_refused.**  A different number of fields and arrays is refused by the reader constructors of
all three families, and by the one-call readers built on them:
`from_arrow`, `from_arrow2`, `from_record_batch` with the adapters' own error — it wins over every field or array
conversion error, whatever the conversions do —, `from_marrow` with the error of `Deserializer::new` (for a core that
has the check: `Core.RefusesCounts`).  All of them are errors, none a panic. -/
theorem reader_count_mismatch_refused (core : Core OB Items D Out) (cvA : Conv AF AA) (cvB : Conv BF BA) :
    (∀ (afs : List AF) (as : List AA), afs.length ≠ as.length →
      Deserializer.fromArrow core cvA afs as = countMismatch afs.length as.length ∧
      fromArrow core cvA afs as = countMismatch afs.length as.length) ∧
    (∀ (bfs : List BF) (bs : List BA), bfs.length ≠ bs.length →
      Deserializer.fromArrow2 core cvB bfs bs = countMismatch bfs.length bs.length ∧
      fromArrow2 core cvB bfs bs = countMismatch bfs.length bs.length) ∧
    (∀ (batch : RecordBatch AF AA), batch.fields.length ≠ batch.columns.length →
      Deserializer.fromRecordBatch core cvA batch = countMismatch batch.fields.length batch.columns.length ∧
      fromRecordBatch core cvA batch = countMismatch batch.fields.length batch.columns.length) ∧
    (core.RefusesCounts → ∀ (fs : List Field) (vs : List Arr), fs.length ≠ vs.length →
      ∃ msg, Deserializer.fromMarrow core fs vs = .error (.err msg) ∧ fromMarrow core fs vs = .error (.err msg)) := by
  have hA : ∀ {F A : Type} (cv : Conv F A) (afs : List F) (as : List A), afs.length ≠ as.length →
      Deserializer.fromArrow core cv afs as = countMismatch afs.length as.length ∧
      fromArrow core cv afs as = countMismatch afs.length as.length := by
    intro F A cv afs as h
    have h' : (afs.length != as.length) = true := by simpa using h
    have h1 : Deserializer.fromArrow core cv afs as = countMismatch afs.length as.length := by
      simp only [Deserializer.fromArrow, h', if_true]
    exact ⟨h1, by simp only [fromArrow, h1]; rfl⟩
  refine ⟨fun afs as h => hA cvA afs as h, fun bfs bs h => hA cvB bfs bs h, fun batch h => hA cvA _ _ h, ?_⟩
  intro hcore fs vs h
  obtain ⟨msg, hm⟩ := hcore fs vs h
  exact ⟨msg, hm, by simp only [fromMarrow, Deserializer.fromMarrow, hm]; rfl⟩

/-- **readers_fail_together_on_counts.**  The same mismatch handed to every family — field lists of one length, array
lists of another — : `from_marrow`, `from_arrow`, `from_arrow2` and `from_record_batch` ALL fail, all with an error
(class `err`, none succeeds, none panics), the arrow and arrow2 families with literally the same error.  (With equal
counts the adapters' own check passes and `fromArrow_compose` / `backends_agree_read` apply.) -/
theorem readers_fail_together_on_counts (core : Core OB Items D Out) (hcore : core.RefusesCounts)
    (cvA : Conv AF AA) (cvB : Conv BF BA) (fs : List Field) (vs : List Arr) (afs : List AF) (as : List AA)
    (bfs : List BF) (bs : List BA) (md : Metadata)
    (hfa : afs.length = fs.length) (hfb : bfs.length = fs.length) (haa : as.length = vs.length)
    (hbb : bs.length = vs.length) (hne : fs.length ≠ vs.length) :
    (fromMarrow core fs vs).cls = "err" ∧ (fromArrow core cvA afs as).cls = "err" ∧
    (fromArrow2 core cvB bfs bs).cls = "err" ∧
    (fromRecordBatch core cvA { fields := afs, schemaMetadata := md, columns := as }).cls = "err" ∧
    fromArrow core cvA afs as = fromArrow2 core cvB bfs bs ∧
    fromRecordBatch core cvA { fields := afs, schemaMetadata := md, columns := as } = fromArrow core cvA afs as ∧
    (Deserializer.fromMarrow core fs vs).cls = "err" ∧ (Deserializer.fromArrow core cvA afs as).cls = "err" ∧
    (Deserializer.fromArrow2 core cvB bfs bs).cls = "err" := by
  obtain ⟨hA, hB, _, hM⟩ := reader_count_mismatch_refused core cvA cvB
  obtain ⟨msg, hm1, hm2⟩ := hM hcore fs vs hne
  obtain ⟨ha1, ha2⟩ := hA afs as (by omega)
  obtain ⟨hb1, hb2⟩ := hB bfs bs (by omega)
  refine ⟨by rw [hm2]; rfl, by rw [ha2]; rfl, by rw [hb2]; rfl, by rw [fromRecordBatch_eq, ha2]; rfl, ?_, rfl,
    by rw [hm1]; rfl, by rw [ha1]; rfl, by rw [hb1]; rfl⟩
  rw [ha2, hb2, hfa, hfb, haa, hbb]

/-- a core whose `Deserializer::new` starts with the count check of deserializer.rs has the property the marrow
family needs -/
theorem counted_refuses (core : Core OB Items D Out) : core.counted.RefusesCounts := by
  intro fs vs h
  have h' : (fs.length != vs.length) = true := by simpa using h
  exact ⟨_, by simp only [Core.counted, deserializerNewCounted, h', if_true]; rfl⟩

/-- … and so does the model of `Deserializer::new` the reading-side properties (C12, C13) are about: `Access.new true`
(the repaired constructor) refuses every count mismatch with an error; `Access.new false` (the pinned one, which
zipped) accepted some -/
theorem access_new_refuses (nfields : Nat) (viewLens : List Nat) (h : nfields ≠ viewLens.length) :
    ∃ msg, SaModel.Access.new true nfields viewLens = .error (.err msg) := by
  have h' : (nfields != viewLens.length) = true := by simpa using h
  exact ⟨_, by simp only [SaModel.Access.new, h', Bool.true_and, if_true]; rfl⟩

end

/-- **version_select_max**: `[..].into_iter().max()` over any list of enabled versions -/
theorem version_select_max (vs : List Nat) : versionSelect vs = vs.max? := by
  induction vs with
  | nil => rfl
  | cons v vs ih =>
    rw [versionSelect, ih, List.max?_cons]
    cases vs.max? <;> simp [Nat.max_def]

theorem versionSelect_none (vs : List Nat) : versionSelect vs = none ↔ vs = [] := by
  rw [version_select_max]; exact List.max?_eq_none_iff

/-- the selected version is an enabled one and no enabled one is higher -/
theorem versionSelect_some : ∀ (vs : List Nat) (m : Nat), versionSelect vs = some m ↔ m ∈ vs ∧ ∀ v ∈ vs, v ≤ m := by
  intro vs m
  rw [version_select_max]; exact List.max?_eq_some_iff

theorem filter_beq_of_nodup (l : List Nat) (m : Nat) (hnd : l.Nodup) (hm : m ∈ l) : l.filter (fun x => x == m) = [m] := by
  rw [List.filter_beq, hnd.count, if_pos hm]; rfl

/-- build.rs + lib.rs for ANY set of enabled features, given tables of the regular shape (`N ↦ N`, one macro
line `(N, N, N)` per version, no version twice): the API is built against exactly one arrow version, it is an
enabled and declared one, and no enabled declared version is higher; without an enabled version there is no arrow
API at all. -/
theorem selected_version_wired (versions : List Nat) (hnd : versions.Nodup) (features : List Nat) :
    let cfg := arrowCfg (versions.map fun n => (n, n)) features
    (∀ m, cfg.hasArrowN = some m →
        m ∈ versions ∧ m ∈ features ∧ (∀ f ∈ features, f ∈ versions → f ≤ m) ∧
        wiredCrates (versions.map fun n => (n, n, n)) cfg = [(m, m)] ∧ cfg.hasArrow = true ∧
        cfg.fixedBinarySupport = decide (47 ≤ m) ∧ cfg.bytesViewSupport = decide (53 ≤ m)) ∧
    (cfg.hasArrowN = none ↔ ∀ f ∈ features, f ∉ versions) ∧
    (cfg.hasArrowN = none → cfg.hasArrow = false ∧ wiredCrates (versions.map fun n => (n, n, n)) cfg = []) := by
  intro cfg
  have henabled : enabledValues (versions.map fun n => (n, n)) features = versions.filter (fun n => features.contains n) := by
    simp only [enabledValues, List.filter_map, List.map_map]
    have : ((fun (e : Nat × Nat) => e.2) ∘ fun n => (n, n)) = id := rfl
    rw [this, List.map_id]
    rfl
  have hcfg : cfg = arrowCfg (versions.map fun n => (n, n)) features := rfl
  simp only [arrowCfg, henabled] at hcfg
  have hmem : ∀ n, n ∈ versions.filter (fun n => features.contains n) ↔ n ∈ versions ∧ n ∈ features := fun n => by
    simp [List.mem_filter]
  -- everything is read off the selected version, if there is one
  cases hs : versionSelect (versions.filter fun n => features.contains n) with
  | none =>
    rw [hs] at hcfg
    rw [hcfg]
    have hnil := (versionSelect_none _).1 hs
    refine ⟨fun m hm => (nomatch hm), ⟨fun _ f hf hfv => ?_, fun _ => rfl⟩, fun _ => ⟨rfl, by simp [wiredCrates]⟩⟩
    have := (hmem f).2 ⟨hfv, hf⟩
    rw [hnil] at this
    cases this
  | some m' =>
    rw [hs] at hcfg
    rw [hcfg]
    obtain ⟨hsel, hmax⟩ := (versionSelect_some _ _).1 hs
    obtain ⟨hv, hf⟩ := (hmem m').1 hsel
    refine ⟨fun m hm => ?_, ⟨fun h => (nomatch h), fun hall => absurd hv (hall m' hf)⟩, fun h => (nomatch h)⟩
    cases hm
    refine ⟨hv, hf, fun f hf hfv => hmax f ((hmem f).2 ⟨hfv, hf⟩), ?_, rfl, rfl, rfl⟩
    -- exactly one macro line of lib.rs is compiled: the one of the selected version
    have hfun : ((fun (e : Nat × Nat × Nat) => some m' == some e.1) ∘ fun n => (n, n, n)) = fun n => n == m' := by
      funext n
      simp only [Function.comp]
      rw [Bool.eq_iff_iff, beq_iff_eq, beq_iff_eq, Option.some.injEq]
      exact eq_comm
    simp only [wiredCrates, List.filter_map, List.map_map]
    rw [hfun, filter_beq_of_nodup versions m' hnd hv]
    rfl

/-! ### obligations on the regenerated tables (`SaModel/Generated/ArrowVersions.lean`) -/

section generated
open SaModel.Generated.ArrowVersions

/-- the arrow versions declared as cargo features -/
def declared : List Nat := cargoArrowFeatures.map (·.1)
def declared2 : List Nat := cargoArrow2Features.map (·.1)

def sameSet (a b : List Nat) : Bool := a.all (b.contains ·) && b.all (a.contains ·)

/-- Cargo.toml, build.rs and lib.rs list the same arrow versions, each exactly once -/
theorem gen_same_versions :
    sameSet declared (buildRsArrow.map (·.1)) = true ∧ sameSet declared (libRsArrow.map (·.1)) = true ∧
    declared.Nodup ∧ (buildRsArrow.map (·.1)).Nodup ∧ (libRsArrow.map (·.1)).Nodup := by decide +kernel

/-- the declared versions are 37, 38, … without a gap, and reach at least 55 -/
theorem gen_contiguous_from_37 :
    (List.range' 37 declared.length).all (declared.contains ·) = true ∧
    declared.all (fun n => decide (37 ≤ n ∧ n < 37 + declared.length)) = true ∧
    declared.contains 55 = true := by decide +kernel

/-- every feature `arrow-N` enables exactly the optional dependencies `arrow-array-N`, `arrow-schema-N` and
marrow's feature of the same version -/
theorem gen_feature_members :
    cargoArrowFeatures.all (fun e => e.2 ==
      ["dep:arrow-array-" ++ toString e.1, "dep:arrow-schema-" ++ toString e.1, "marrow/arrow-" ++ toString e.1]) = true := by
  decide +kernel

/-- the bytes of a name read as one number: names with different numbers are different names (nothing else is used of it) -/
def nameNumber (s : String) : Nat := s.toByteArray.data.toList.foldl (fun a b => 256 * a + b.toNat) 0

/-- in a table whose names are `package-N`, looking a name up is looking up its package and number -/
theorem name_mem_of_key_mem {deps : List (String × Nat × String × String × Bool)}
    (hname : ∀ d ∈ deps, d.1 = d.2.2.1 ++ "-" ++ toString d.2.1) {n : Nat} {p : String}
    (h : (n, p) ∈ deps.map (fun d => (d.2.1, d.2.2.1))) : p ++ "-" ++ toString n ∈ deps.map (·.1) := by
  obtain ⟨d, hd, e⟩ := List.mem_map.1 h
  cases e
  exact List.mem_map.2 ⟨d, hd, hname d hd⟩

/-- … and those dependencies exist, are optional, and require the arrow crates of that very version -/
theorem gen_dependencies :
    cargoArrowDeps.all (fun d => d.2.2.2.2 && d.2.2.2.1 == toString d.2.1 && d.1 == d.2.2.1 ++ "-" ++ toString d.2.1 &&
      (d.2.2.1 == "arrow-array" || d.2.2.1 == "arrow-schema")) = true ∧
    declared.all (fun n => (cargoArrowDeps.map (·.1)).contains ("arrow-array-" ++ toString n) &&
      (cargoArrowDeps.map (·.1)).contains ("arrow-schema-" ++ toString n)) = true ∧
    (cargoArrowDeps.map (·.1)).Nodup ∧ cargoArrowDeps.length = 2 * declared.length := by
  have hrows : cargoArrowDeps.all (fun d => d.2.2.2.2 && d.2.2.2.1 == toString d.2.1 && d.1 == d.2.2.1 ++ "-" ++ toString d.2.1 &&
      (d.2.2.1 == "arrow-array" || d.2.2.1 == "arrow-schema")) = true := by decide +kernel
  have hname : ∀ d ∈ cargoArrowDeps, d.1 = d.2.2.1 ++ "-" ++ toString d.2.1 := fun d hd => by
    have := List.all_eq_true.1 hrows d hd
    simp only [Bool.and_eq_true, beq_iff_eq] at this
    exact this.1.2
  -- the names follow from package and number (`hrows`), so the two look-ups by name are look-ups by number first:
  -- 38 strings are compared, not 38 · 38
  have hkeys : declared.all (fun n => (cargoArrowDeps.map (fun d => (d.2.1, d.2.2.1))).contains (n, "arrow-array") &&
      (cargoArrowDeps.map (fun d => (d.2.1, d.2.2.1))).contains (n, "arrow-schema")) = true := by decide +kernel
  have hnum : ((cargoArrowDeps.map (·.1)).map nameNumber).Nodup := by decide +kernel
  refine ⟨hrows, ?_, List.Pairwise.of_map nameNumber (fun _ _ h e => h (congrArg nameNumber e)) hnum, by decide +kernel⟩
  rw [List.all_eq_true]
  intro n hn
  have := List.all_eq_true.1 hkeys n hn
  simp only [Bool.and_eq_true, List.contains_iff_mem] at this ⊢
  exact ⟨name_mem_of_key_mem hname this.1, name_mem_of_key_mem hname this.2⟩

/-- build.rs: each `#[cfg(feature = "arrow-N")]` line lists N itself, one entry is selected with `.max()`, and
`has_arrow` / `has_arrow_{version}` are what is printed for it -/
theorem gen_build_table :
    buildRsArrow = (buildRsArrow.map (·.1)).map (fun n => (n, n)) ∧ buildRsSelector = "max" ∧
    buildRsCfgs = ["has_arrow", "has_arrow_{version}"] := by decide +kernel

/-- build.rs: fixed size binary support from arrow 47, byte view support from arrow 53 (as documented and as
modelled by `arrowCfg`) -/
theorem gen_thresholds :
    buildRsThresholds = [("has_arrow_fixed_binary_support", ">=", FIXED_BINARY_SINCE),
                         ("has_arrow_bytes_view_support", ">=", BYTES_VIEW_SINCE)] := by decide +kernel

/-- lib.rs: exactly one `build_arrow_crate!` line per version, naming the two crates of that version -/
theorem gen_lib_wiring :
    libRsArrow = (libRsArrow.map (·.1)).map (fun n => (n, n, n)) ∧ libRsArrow.length = declared.length := by decide +kernel

/-- the same for the two arrow2 versions -/
theorem gen_arrow2 :
    sameSet declared2 [16, 17] = true ∧ declared2.Nodup ∧
    sameSet declared2 (buildRsArrow2.map (·.1)) = true ∧ sameSet declared2 (libRsArrow2.map (·.1)) = true ∧
    buildRsArrow2 = (buildRsArrow2.map (·.1)).map (fun n => (n, n)) ∧ (buildRsArrow2.map (·.1)).Nodup ∧
    libRsArrow2 = (libRsArrow2.map (·.1)).map (fun n => (n, n)) ∧ (libRsArrow2.map (·.1)).Nodup ∧
    buildRsSelector2 = "max" ∧ buildRsCfgs2 = ["has_arrow2", "has_arrow2_0_{version}"] ∧
    cargoArrow2Features.all (fun e => e.2 == ["dep:arrow2-0-" ++ toString e.1, "marrow/arrow2-0-" ++ toString e.1]) = true ∧
    cargoArrow2Deps.all (fun d => d.2.2.2.2 && d.2.2.1 == "arrow2" && d.2.2.2.1 == "0." ++ toString d.2.1 &&
      d.1 == "arrow2-0-" ++ toString d.2.1) = true ∧
    sameSet declared2 (cargoArrow2Deps.map (·.2.1)) = true := by decide +kernel

theorem mem_of_sameSet {a b : List Nat} (h : sameSet a b = true) (n : Nat) : n ∈ a ↔ n ∈ b := by
  simp only [sameSet, Bool.and_eq_true, List.all_eq_true, List.contains_iff_mem] at h
  exact ⟨fun hn => h.1 n hn, fun hn => h.2 n hn⟩

/-- **The tables of the repository, for every feature set**: with the generated `build.rs` / `lib.rs` tables the
crate's arrow API is built against exactly one version — the highest enabled `arrow-N` feature — whenever one
is enabled, for any combination of enabled features. -/
theorem generated_selected_version (features : List Nat) :
    let cfg := arrowCfg buildRsArrow features
    (∀ m, cfg.hasArrowN = some m →
        m ∈ declared ∧ m ∈ features ∧ (∀ f ∈ features, f ∈ declared → f ≤ m) ∧
        wiredCrates libRsArrow cfg = [(m, m)] ∧ cfg.hasArrow = true ∧
        cfg.fixedBinarySupport = decide (47 ≤ m) ∧ cfg.bytesViewSupport = decide (53 ≤ m)) ∧
    (cfg.hasArrowN = none ↔ ∀ f ∈ features, f ∉ declared) := by
  intro cfg
  have hb := gen_build_table.1
  have hl := gen_lib_wiring.1
  obtain ⟨hs1, hs2, _, hnd, _⟩ := gen_same_versions
  have hlib : libRsArrow.map (·.1) = buildRsArrow.map (·.1) := by decide +kernel
  have key := selected_version_wired (buildRsArrow.map (·.1)) hnd features
  rw [← hb] at key
  rw [hlib] at hl
  rw [← hl] at key
  obtain ⟨k1, k2, _⟩ := key
  have hmem := mem_of_sameSet hs1
  refine ⟨fun m hm => ?_, ?_⟩
  · obtain ⟨a, b, c, d, e⟩ := k1 m hm
    exact ⟨(hmem m).2 a, b, fun f hf hfd => c f hf ((hmem f).1 hfd), d, e⟩
  · rw [k2]
    exact ⟨fun h f hf hfd => h f hf ((hmem f).1 hfd), fun h f hf hfd => h f hf ((hmem f).2 hfd)⟩

end generated

section examples
open SaModel.Generated.ArrowVersions

example : versionSelect [54, 55, 37] = some 55 := by decide +kernel
example : versionSelect [] = none := by decide +kernel
example : (arrowCfg buildRsArrow [54, 55]).hasArrowN = some 55 := by decide +kernel
example : wiredCrates libRsArrow (arrowCfg buildRsArrow [54, 55]) = [(55, 55)] := by decide +kernel
example : arrowCfg buildRsArrow [46] =
    { hasArrow := true, hasArrowN := some 46, fixedBinarySupport := false, bytesViewSupport := false } := by decide +kernel
example : arrowCfg buildRsArrow [52, 47] =
    { hasArrow := true, hasArrowN := some 52, fixedBinarySupport := true, bytesViewSupport := false } := by decide +kernel
example : (arrowCfg buildRsArrow [99]).hasArrow = false := by decide +kernel

/-- a toy core and a back end with a type gap: the hypotheses of `backends_agree` are satisfiable and the
conclusion distinguishes success, common failure and conversion failure -/
def toyCore : Core (List Int) (List Int) (List Arr) Nat where
  newOuter := fun fs => if fs.isEmpty then fail "no fields" else .ok []
  serialize := fun b items => .ok (b ++ items)
  takeArrays := fun b => .ok ([.prim .int64 none b], [])
  deserializerNew := fun _ views => .ok views
  deserialize := fun views => .ok views.length

def toyConv (gap : Bool) : Conv Field Arr where
  fieldToMarrow := pure
  fieldOfMarrow := pure
  arrayOfMarrow := fun a => if gap then fail "unsupported" else .ok a
  viewOf := pure

example : toArrow toyCore (toyConv false) [.mk "a" .int64 false []] [1, 2] = .ok [.prim .int64 none [1, 2]] := by decide +kernel
example : toArrow toyCore (toyConv true) [.mk "a" .int64 false []] [1, 2] = .error (.err "unsupported") := by decide +kernel
example : toArrow toyCore (toyConv true) [] [1, 2] = .error (.err "no fields") := by decide +kernel
example : (toRecordBatch toyCore (toyConv false) (fun _ _ => .ok ()) [.mk "a" .int64 false [("k", "v")]] [1]).map (·.fields) =
    .ok [.mk "a" .int64 false [("k", "v")]] := by decide +kernel

/-- arrow's column-count check as `validate` -/
def toyValidate : List Field → List Arr → R Unit :=
  fun fs as => if fs.length == as.length then .ok () else fail "number of columns"

def toyField : Field := .mk "a" .int64 false [("k", "v")]
def toyBuilder : ArrayBuilder (List Int) := { builder := [], schema := [toyField] }

def builtFields : R (Built Field Arr Arr) → Option (List Field)
  | .ok (.recordBatch b) => some b.fields
  | _ => none

def builtArrays : R (Built Field Arr Arr) → Option (List Arr)
  | .ok (.marrow a) => some a
  | .ok (.arrow a) => some a
  | .ok (.arrow2 a) => some a
  | .ok (.recordBatch b) => some b.columns
  | _ => none

/-- a history through all four finishers, `to_record_batch` twice: every build returns its own batch, the builder goes
on after the build that fails in the arrow2 conversion, both record batches carry the builder's field with its metadata
(`builder_reuse_agrees`, `record_batch_schema_stable` with non-trivial content) -/
def toyHistory : List (HOp (List Int)) :=
  [.add [1, 2], .finish .recordBatch, .add [3], .finish .arrow2, .finish .marrow, .add [4], .add [5], .finish .recordBatch,
   .finish .arrow]

example : (runHistory toyCore (toyConv false) (toyConv true) toyValidate toyBuilder toyHistory).map
      (fun p => (p.1.map builtArrays, p.1.map builtFields, p.2.schema)) =
    .ok ([some [.prim .int64 none [1, 2]], none, some [.prim .int64 none []], some [.prim .int64 none [4, 5]],
          some [.prim .int64 none []]],
         [some [toyField], none, none, some [toyField], none], [toyField]) := by decide +kernel

example : (runMarrow toyCore toyBuilder toyHistory).map (·.1) =
    .ok [[.prim .int64 none [1, 2]], [.prim .int64 none [3]], [.prim .int64 none []], [.prim .int64 none [4, 5]],
         [.prim .int64 none []]] := by decide +kernel

/-- the regression `to_record_batch` MOVES the schema out of the builder is told apart by `record_batch_schema_stable`:
with it the second batch of one builder is refused (no field for the column) where the model — the code as it is —
returns a second batch with the same fields -/
example :
    (do let (r1, s1) ← toyBuilder.toRecordBatchTakingS toyCore (toyConv false) toyValidate
        let (r2, _) ← s1.toRecordBatchTakingS toyCore (toyConv false) toyValidate
        pure (r1.map (·.fields), r2.map (·.fields)) : R (R (List Field) × R (List Field))) =
      .ok (.ok [toyField], .error (.err "number of columns")) ∧
    (do let (r1, s1) ← toyBuilder.toRecordBatchS toyCore (toyConv false) toyValidate
        let (r2, _) ← s1.toRecordBatchS toyCore (toyConv false) toyValidate
        pure (r1.map (·.fields), r2.map (·.fields)) : R (R (List Field) × R (List Field))) =
      .ok (.ok [toyField], .ok [toyField]) := by decide +kernel

/-- count mismatches: the three adapters refuse with their own error although the field conversion would fail too
(`gapConv`), the marrow family refuses through the core's check (`toyCore.counted`); the regression "`from_arrow2`
zips fields and arrays" accepts the same input -/
def gapConv : Conv Field Arr where
  fieldToMarrow := fun _ => fail "unsupported field"
  fieldOfMarrow := pure
  arrayOfMarrow := pure
  viewOf := fun _ => fail "unsupported array"

example : fromArrow toyCore gapConv [toyField, toyField] [.prim .int64 none [1]] = countMismatch 2 1 := by decide +kernel
example : fromArrow2 toyCore gapConv [toyField] [] = countMismatch 1 0 := by decide +kernel
example : fromRecordBatch toyCore gapConv { fields := [], schemaMetadata := [], columns := [.prim .int64 none [1]] } =
    countMismatch 0 1 := by decide +kernel
example : (fromMarrow toyCore.counted [toyField] []).cls = "err" := by decide +kernel
example : fromMarrow toyCore.counted [toyField] [.prim .int64 none [1]] = .ok 1 := by decide +kernel
example : (Deserializer.fromArrow2Zipping toyCore (toyConv false) [toyField] []).isOk = true ∧
    (Deserializer.fromArrow2 toyCore (toyConv false) [toyField] []).cls = "err" := by decide +kernel
example : SaModel.Access.new true 2 [3] = .error (.err "Cannot deserialize: number of fields and arrays differ") ∧
    SaModel.Access.new false 2 [3] = .ok 3 := by decide +kernel

end examples

end SaModel.Props.C19
