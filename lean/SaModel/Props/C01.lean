import SaModel.Props.C01Obs
/-
C01 — serialized arrays decode to exactly the input records: the END-TO-END statement.

  C01_build_decode   toMarrow ext fields rows = ok arrs → one array per field, every array of `rows.length` slots, and
                     slot `i` of the arrays (read by the Arrow rules `Spec.decodeAll`) is, column by column, the
                     documented value `Spec.interpRow` of record `i`.

It is `C01_build_decode'` (Props/C01Obs.lean: R3' `runRows_interp'` — "the final builder state holds exactly `interpRow`
of the records" — composed with the physical layer `toMarrow_decode_of_WFH` — "the finished arrays mean what the state
holds") with a hypothesis the proof does not use, `hsafe`.
Hypotheses and exclusions: see the theorem and notes/C01.md.
-/
namespace SaModel.Props.C01
open SaModel SaModel.Build SaModel.Spec

/-- **C01 for `to_marrow`** (physical and logical halves composed).  Whenever serializing `rows` against `fields`
succeeds, the returned arrays decode (Arrow reading rules, slot by slot, through the packed bitmaps, offsets, view
descriptors, dictionary keys, union type ids) to columns `cols` — one per field, named after it, of `rows.length` slots
each — and the documented value (`Spec.interpRow`: records matched by field name, numbers by value, variants by index …)
of the `i`-th input record is exactly the struct whose `j`-th field is slot `i` of column `j`.

Covers every data type `build_builder` accepts, at any nesting — including Utf8View / BinaryView and
`Dictionary(integer, Utf8 | LargeUtf8)` — and every presentation of a value.  Hypotheses, all explicit:
  `hschema`  no `FixedSizeBinary(0)` (known finding).  (Map entries with exactly two children and integer dictionary
             keys are not hypotheses: `build_builder` refuses everything else — repo fixes 095456f, 7359431.)
  `hcov`     `coveredF`: a dictionary with an integer key type has a Utf8 / LargeUtf8 VALUE type (`build_builder` accepts
             any value type, e.g. `Dictionary(Int8, Date32)`; R1 covers all of them, the content statement R2 those
             whose value builder refuses strings — `coveredW`, Lemmas/C01NewShape.lean —, the physical half needs the
             string builders: the placeholder value `into_array` appends)
  `hsafe`    `Safe` (schema: no dictionary with non-nullable keys below a nullable struct / fixed-size list, no
             dictionary-keyed dictionary — `dict_placeholder_unstable`).  `C01_build_decode'` (Props/C01Obs.lean) is this
             theorem WITHOUT `hsafe`
  `hraw`     `structStreamsAlternate`: every raw `serialize_key`/`serialize_value` call stream inside the records
             alternates key, value, key, value … (decidable; `= !Spec.containsMalformed`).  Map columns refuse all
             other streams (`map_refuses_non_alternating`); struct positions ACCEPT them and the documentation gives
             them no meaning, so the exclusion is needed there (`struct_stream_needed`; what is stored instead:
             `struct_raw_stored`)
  `hnar`     only when some record contains a raw stream at all: every struct level of the schema (the root included)
             has fewer than `usize::MAX` fields (`narrowRoot`; the struct builder's "unknown key" sentinel — true of
             every Rust `Vec`, not enforced by the model's unbounded lists)
(No size hypothesis: the view builders refuse lengths and buffer offsets beyond `i32::MAX`, so a descriptor never
truncates — `viewPushValue_ok`, `view_value_exact`, `WFB_small`.) -/
theorem C01_build_decode (ext : Ext) (fields : List Field) (rows : List SVal) (arrs : List Arr)
    (hschema : ∀ f ∈ fields, Lemmas.C03.SchemaOKF f)
    (hcov : fields.all Build.coveredF = true)
    (hsafe : ∀ root0, newRoot fields = .ok root0 → Safe root0)
    (hraw : ∀ x ∈ rows, Build.structStreamsAlternate x = true)
    (hnar : (∀ x ∈ rows, Build.noRaw x = true) ∨ Build.narrowRoot fields = true)
    (h : toMarrow ext fields rows = .ok arrs) :
    arrs.length = fields.length ∧
    ∃ cols : List (String × List LVal),
      arrs.map decodeAll = cols.map (fun c => c.2.map .ok) ∧
      cols.map (·.1) = fields.map (·.name) ∧
      (∀ c ∈ cols, c.2.length = rows.length) ∧
      ∀ (i : Nat) (hi : i < rows.length),
        interpRow ext fields rows[i] = .ok (.struct (LFields.ofList (cols.map fun c => (c.1, c.2.getD i .null)))) :=
  C01_build_decode' ext fields rows arrs hschema hcov hraw hnar h

/-- **R3.** `runRows` (all records pushed into a fresh root): the rows the root holds are exactly the documented
rows `interpRow` of the records, in order; the root is a struct of `rows.length` rows without validity, so row `i`
is the struct of the `i`-th entries of the columns, and every column has length `rows.length`.
`hraw` / `hnar` as in R2 (`narrowRoot fields`: fewer than `usize::MAX` fields at every struct level, the root included).
It is R3' (`runRows_interp'`, Props/C01Obs.lean: `coveredWF`, no `Safe`) with the stronger schema predicate and a
hypothesis the proof does not use, `hsafe`. -/
theorem runRows_interp (ext : Ext) (fields : List Field) (rows : List SVal) (root0 root : B)
    (hc : fields.all coveredF = true) (h0 : newRoot fields = .ok root0) (hsafe : Safe root0)
    (hraw : ∀ x ∈ rows, structStreamsAlternate x = true)
    (hnar : (∀ x ∈ rows, noRaw x = true) ∨ narrowRoot fields = true) (h : runRows ext fields rows = .ok root) :
    All2 (fun lv x => interpRow ext fields x = .ok lv) (dec root) rows ∧
    (∀ col ∈ decRoot root, col.length = rows.length) ∧
    ∃ p fs cached next seen, root = .struct p rows.length none fs cached next seen ∧
      dec root = (List.range rows.length).map (rowAt (decCols fs)) :=
  runRows_interp' ext fields rows root0 root (Build.all_coveredWF_of_coveredF hc) h0 hraw hnar h

/-! ### a worked instance: every hypothesis of `C01_build_decode` discharged on a real run

Schema `{v: Utf8View?, d: Dictionary(UInt8, Utf8)}`, two records: the first with a 28-byte string (stored out of line:
descriptor + buffer) and the dictionary value "x", the second without `v` (null) and the same dictionary value (the
key 0 is reused). -/

def exFields : List Field := [.mk "v" .utf8View true [], .mk "d" (.dictionary .uint8 .utf8) false []]
def exRows : List SVal :=
  [.record "R" (.cons "v" 0 (.str "a string of 27 bytes, extern") (.cons "d" 1 (.str "x") .nil)),
   .record "R" (.cons "d" 1 (.str "x") .nil)]
def exRoot : B :=
  .struct "$" 2 none
    (.cons (.bytesView "$.v" .utf8View (some [true, false]) [8391086131705282588, 0]
        [97, 32, 115, 116, 114, 105, 110, 103, 32, 111, 102, 32, 50, 55, 32, 98, 121, 116, 101, 115, 44, 32, 101, 120,
         116, 101, 114, 110]) ⟨"v", true, []⟩
      (.cons (.dictionary "$.d" (.leaf "$.d.key" (.int .u8) none [0, 0]) (.bytes "$.d.value" .utf8 none [0, 1] [120]) ["x"])
        ⟨"d", false, []⟩ .nil))
    [some ("v", 0), some ("d", 1)] 2 [false, true]

theorem exRun : runRows {} exFields exRows = .ok exRoot := by decide +kernel

/-- serialization succeeds … -/
theorem exOk : (toMarrow {} exFields exRows).isOk = true := by rw [Props.C03.toMarrow_eq, exRun]; decide +kernel

/-- … and the theorem applies with every hypothesis discharged -/
example : ∀ arrs, toMarrow {} exFields exRows = .ok arrs → arrs.length = exFields.length ∧
    ∃ cols : List (String × List LVal), arrs.map decodeAll = cols.map (fun c => c.2.map .ok) ∧
      cols.map (·.1) = exFields.map (·.name) ∧ (∀ c ∈ cols, c.2.length = exRows.length) ∧
      ∀ (i : Nat) (hi : i < exRows.length), interpRow {} exFields exRows[i] =
        .ok (.struct (LFields.ofList (cols.map fun c => (c.1, c.2.getD i .null)))) := by
  intro arrs h
  refine C01_build_decode {} exFields exRows arrs ?_ (by decide +kernel) ?_ (by decide +kernel) (Or.inr (by decide +kernel)) h
  · simp [exFields, Lemmas.C03.SchemaOKF, Lemmas.C03.SchemaOK]
  · exact safe_of_schema _ (by decide) (by decide)

/-- what the two columns of the instance decode to: the long string and a null; "x" twice through the key 0 -/
example : decRoot exRoot =
    [[.str (strBytes "a string of 27 bytes, extern"), .null], [.str [120], .str [120]]] := by decide +kernel

end SaModel.Props.C01
