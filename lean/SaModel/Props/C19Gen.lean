import SaModel.Backend.AdapterSteps
import SaModel.Generated.AdapterBodies
/-
C19, translation obligation: the bodies of the adapter methods as the translator reads them out of
serde_arrow/src/{marrow_impl.rs, arrow_impl.rs, arrow2_impl.rs} (`Generated.AdapterBodies`, regenerated by ./check
before every build) mean — under the interpreters of `SaModel/Backend/AdapterSteps.lean` — exactly what the hand-written
adapter model says (`Backend/Adapters.lean`, `Backend/History.lean`), for EVERY core, conversion and `RecordBatch`
validation.

  steps_finishers / steps_readers   the model's own step lists (`Steps.*`) interpret to the model functions
                                    (∀ core cv validate self / arguments; proved once, no generated data involved)
  gen_adapter_bodies                `decide`: the regenerated lists ARE `Steps.*`; the four finishers take `&mut self`; the
                                    only `self.schema` in the three files is the shared borrow in `to_record_batch`
  generated_finishers_are_model,    the two combined: the source as found on every run, read statement by statement, is the model
  generated_readers_are_model       `builder_reuse_agrees`, `record_batch_schema_stable`, `reader_count_mismatch_refused`
                                    (Props/C19.lean) are about

So: a `to_record_batch` that moves the schema out of the builder (`std::mem::take(&mut self.schema)`, a by-value
`self.schema`), a reader without its count check or one that zips fields and arrays, a finisher that builds twice, a
`from_record_batch` that takes fields from anywhere but the batch — each is either refused by the translator (unknown
statement) or changes a list, `gen_adapter_bodies` does not evaluate to `true`, the build of this module fails and
./check C19 reports the broken obligation before a single case runs.
-/
namespace SaModel.Props.C19Gen
open SaModel SaModel.Backend

section
variable {OB Items D Out AF AA : Type}

theorem steps_toMarrow (core : Core OB Items D Out) (cv : Conv AF AA) (validate : List AF → List AA → R Unit)
    (self : ArrayBuilder OB) :
    runF core cv validate FVal.marrow? Steps.toMarrow self = self.toMarrowS core := by
  simp only [runF, Steps.toMarrow, interpF, stepF, ArrayBuilder.toMarrowS, bind, Except.bind, pure, Except.pure, Except.map]
  cases self.buildArrays core <;> rfl

theorem steps_toArrow (core : Core OB Items D Out) (cv : Conv AF AA) (validate : List AF → List AA → R Unit)
    (self : ArrayBuilder OB) (t : String) :
    runF core cv validate FVal.arrays? [.selfBuildArrays, .convertEach t] self = self.toArrowS core cv := by
  simp only [runF, interpF, stepF, ArrayBuilder.toArrowS, bind, Except.bind, pure, Except.pure, Except.map]
  cases self.buildArrays core with
  | error e => rfl
  | ok p =>
    simp only [interpF, stepF, bind, Except.bind, Except.map]
    cases List.mapM cv.arrayOfMarrow p.1 <;> rfl

theorem steps_toRecordBatch (core : Core OB Items D Out) (cv : Conv AF AA) (validate : List AF → List AA → R Unit)
    (self : ArrayBuilder OB) :
    runF core cv validate FVal.batch? Steps.toRecordBatch self = self.toRecordBatchS core cv validate := by
  simp only [runF, Steps.toRecordBatch, interpF, stepF, ArrayBuilder.toRecordBatchS, recordBatchOf, bind, Except.bind, pure,
    Except.pure, Except.map]
  cases self.toArrowS core cv with
  | error e => rfl
  | ok p =>
    obtain ⟨r, self'⟩ := p
    cases r with
    | error e => rfl
    | ok arrays =>
      simp only [interpF, stepF, bind, Except.bind, Except.map]
      cases fieldRefsOfSchema cv self'.schema with
      | error e => rfl
      | ok fields =>
        simp only [interpF, stepF, bind, Except.bind, Except.map]
        cases RecordBatch.tryNew validate fields arrays <;> rfl
/-- the finishers of the model are their step lists -/
theorem steps_finishers (core : Core OB Items D Out) (cv : Conv AF AA) (validate : List AF → List AA → R Unit)
    (self : ArrayBuilder OB) :
    runF core cv validate FVal.marrow? Steps.toMarrow self = self.toMarrowS core ∧
    runF core cv validate FVal.arrays? Steps.toArrow self = self.toArrowS core cv ∧
    runF core cv validate FVal.arrays? Steps.toArrow2 self = self.toArrow2S core cv ∧
    runF core cv validate FVal.batch? Steps.toRecordBatch self = self.toRecordBatchS core cv validate :=
  ⟨steps_toMarrow core cv validate self, steps_toArrow core cv validate self _, steps_toArrow core cv validate self _,
   steps_toRecordBatch core cv validate self⟩

/-- the reader constructors of the model are their step lists -/
theorem steps_readers (core : Core OB Items D Out) (cv : Conv AF AA) :
    (∀ fields views, interpRMarrow core Steps.fromMarrow fields views = Deserializer.fromMarrow core fields views) ∧
    (∀ afs as, interpR core cv Steps.fromArrow { afs, as } = Deserializer.fromArrow core cv afs as) ∧
    (∀ afs as, interpR core cv Steps.fromArrow2 { afs, as } = Deserializer.fromArrow2 core cv afs as) ∧
    (∀ batch, interpRBatch core cv Steps.fromArrow Steps.fromRecordBatch batch = Deserializer.fromRecordBatch core cv batch) ∧
    (∀ afs, interpFields cv Steps.fieldsFromFieldRefs afs = fieldsFromFieldRefs cv afs) := by
  have hA : ∀ afs as, interpR core cv Steps.fromArrow { afs, as } = Deserializer.fromArrow core cv afs as := by
    intro afs as
    simp only [Steps.fromArrow, interpR, Deserializer.fromArrow, bind, Except.bind]
  refine ⟨fun _ _ => rfl, hA, ?_, fun batch => hA batch.fields batch.columns, fun _ => rfl⟩
  intro afs as
  simp only [Steps.fromArrow2, interpR, Deserializer.fromArrow2, bind, Except.bind]

end

open SaModel.Generated in
/-- **obligation (C19, generated).**  The bodies found in the repository are the step lists of the model; the finishers
borrow the builder mutably (none consumes it); `self.schema` is mentioned once in the three files, as `&self.schema` in
`to_record_batch` — nothing in the adapters writes, moves or replaces the builder's schema. -/
theorem gen_adapter_bodies :
    AdapterBodies.to_marrow = Steps.toMarrow ∧ AdapterBodies.to_arrow = Steps.toArrow ∧
    AdapterBodies.to_record_batch = Steps.toRecordBatch ∧ AdapterBodies.to_arrow2 = Steps.toArrow2 ∧
    AdapterBodies.finisherReceivers = Steps.finisherReceivers ∧
    AdapterBodies.from_marrow = Steps.fromMarrow ∧ AdapterBodies.from_arrow = Steps.fromArrow ∧
    AdapterBodies.from_record_batch = Steps.fromRecordBatch ∧ AdapterBodies.from_arrow2 = Steps.fromArrow2 ∧
    AdapterBodies.fields_from_field_refs = Steps.fieldsFromFieldRefs ∧
    AdapterBodies.selfSchemaUses = Steps.selfSchemaUses := by decide +kernel

section
variable {OB Items D Out AF AA : Type}
open SaModel.Generated

/-- **the finishers in the repository are the model**: every `&mut self` finisher, read statement by statement from the
source, does to a builder what the model's stateful finisher does — result and builder left behind — for every core,
conversion and validation.  In particular `to_record_batch` leaves the schema in place
(`Props/C19.record_batch_schema_stable` is about this function). -/
theorem generated_finishers_are_model (core : Core OB Items D Out) (cv : Conv AF AA)
    (validate : List AF → List AA → R Unit) (self : ArrayBuilder OB) :
    runF core cv validate FVal.marrow? AdapterBodies.to_marrow self = self.toMarrowS core ∧
    runF core cv validate FVal.arrays? AdapterBodies.to_arrow self = self.toArrowS core cv ∧
    runF core cv validate FVal.arrays? AdapterBodies.to_arrow2 self = self.toArrow2S core cv ∧
    runF core cv validate FVal.batch? AdapterBodies.to_record_batch self = self.toRecordBatchS core cv validate := by
  obtain ⟨h1, h2, h3, h4, _⟩ := gen_adapter_bodies
  rw [h1, h2, h3, h4]
  exact steps_finishers core cv validate self

/-- **the reader constructors in the repository are the model**: count check first (arrow, arrow2, and through
`from_arrow` the record batch), then the fields, then the views in order, then `Deserializer::new`
(`Props/C19.reader_count_mismatch_refused` is about these functions). -/
theorem generated_readers_are_model (core : Core OB Items D Out) (cv : Conv AF AA) :
    (∀ fields views, interpRMarrow core AdapterBodies.from_marrow fields views = Deserializer.fromMarrow core fields views) ∧
    (∀ afs as, interpR core cv AdapterBodies.from_arrow { afs, as } = Deserializer.fromArrow core cv afs as) ∧
    (∀ afs as, interpR core cv AdapterBodies.from_arrow2 { afs, as } = Deserializer.fromArrow2 core cv afs as) ∧
    (∀ batch, interpRBatch core cv AdapterBodies.from_arrow AdapterBodies.from_record_batch batch =
      Deserializer.fromRecordBatch core cv batch) ∧
    (∀ afs, interpFields cv AdapterBodies.fields_from_field_refs afs = fieldsFromFieldRefs cv afs) := by
  obtain ⟨_, _, _, _, _, h1, h2, h3, h4, h5, _⟩ := gen_adapter_bodies
  rw [h1, h2, h3, h4, h5]
  exact steps_readers core cv

end

/-! ### non-vacuity: the interpreters tell the regressions apart -/

section examples

/-- a `to_record_batch` whose body lacks the schema statement, or has its statements in another order, does not
interpret to a record batch at all; a `from_arrow2` body without the count check accepts a mismatch that the model
refuses -/
def exCore : Core (List Int) (List Int) (List Arr) Nat where
  newOuter := fun _ => .ok []
  serialize := fun b items => .ok (b ++ items)
  takeArrays := fun b => .ok ([.prim .int64 none b], [])
  deserializerNew := fun _ views => .ok views
  deserialize := fun views => .ok views.length

example : ((runF exCore Conv.id (fun _ _ => .ok ()) FVal.batch? [.selfToArrow, .schemaNew, .recordBatchTryNew]
      { builder := [1], schema := [] }).map fun p => p.1.isOk) = .ok false := by decide +kernel

example : ((runF exCore Conv.id (fun _ _ => .ok ()) FVal.batch? Steps.toRecordBatch
      { builder := [1], schema := [.mk "a" .int64 false []] }).map fun p => (p.1.map (·.fields), p.2.schema)) =
    .ok (.ok [.mk "a" .int64 false []], [.mk "a" .int64 false []]) := by decide +kernel

example : (interpR exCore Conv.id [.fieldsEach, .viewsEach, .deserializerNew]
      { afs := [.mk "a" .int64 false []], as := [] }).isOk = true ∧
    (interpR exCore Conv.id Steps.fromArrow2 { afs := [.mk "a" .int64 false []], as := [] }) = countMismatch 1 0 := by
  decide +kernel

end examples

end SaModel.Props.C19Gen
