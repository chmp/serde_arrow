import SaModel.Props.C03Codec
import SaModel.Props.C08
import SaModel.Lemmas.C03Trace
/-
C03 for TRACED schemas: when the schema is what serde_arrow's own `from_type` returns, the schema-side hypothesis
`SchemaOKF` of `Props.C01.C03_wf'` is a theorem (`PlainF` and `Safe ∨ coveredF` stay hypotheses).

  fromType_good    Trace.fromType c O ty = ok fields → every field is `SchemaOKF` (no `FixedSizeBinary(0)`) and the field
                   list is well typed (`typedFs`: sizes `i32`, union type ids `i8`) — `Props.C08.C08_from_type` (the
                   tracer returns the documented mapping, ∀ types, ∀ options) + `Lemmas.C03.mapping_good`; the user's
                   overwrites are taken as given, so they must satisfy the same two conditions (vacuous without overwrites)
  C03_wf_traced    `C03_wf_codec_typed` for such a schema: what remains is `PlainF` and `Safe ∨ coveredF` (schema), `GoodF` of
                   the user's overwrites (options) and `typed` (rows)
-/
namespace SaModel.Props.C03
open SaModel SaModel.Build SaModel.Spec
open SaModel.Props.C16 (codecExt)

/-- **traced schemas satisfy the schema side of C03** (and the typing invariant `toMarrow_complete` asks for) -/
theorem fromType_good (c : Trace.Code) (O : Trace.Options) (ty : Trace.Ty) (fields : List Field)
    (ho : ∀ kv ∈ O.overwrites, Lemmas.C03.GoodF kv.2) (h : Trace.fromType c O ty = .ok fields) :
    (∀ f ∈ fields, Lemmas.C03.SchemaOKF f) ∧ Lemmas.C03.typedFs (Fields.ofList fields) = true := by
  have hag := Props.C08.C08_from_type c O ty
  rw [h] at hag
  cases hs : Trace.Spec.fromTypeSpec O ty with
  | ok fields' =>
    rw [hs] at hag
    have : fields = fields' := hag
    subst this
    exact Lemmas.C03.fromTypeSpec_good O ho ty fields hs
  | error e => rw [hs] at hag; exact absurd hag (by simp [Lemmas.C08.Agree])

/-- **C03 for a traced schema, as the driver instantiates it.**  Conclusion: `Spec.WF` (structure and type
equality).  `hplain` (no metadata on a Map's entries field) is NOT derived from `fromType` here — the tracer writes
`metadata: Default::default()` on every entries field it creates, only user overwrites could carry some; it is decidable on the
given schema.  Of the schema otherwise only `Safe` OR `coveredF` is assumed (and `ho`: the user's overwrites are `GoodF`)
(the hypothesis of `Props.C01.C03_wfS'` / `C03_wf'`; a traced schema with dictionary-encoded strings — a `Dictionary(UInt32, LargeUtf8)`
column with non-nullable keys below an `Option<struct>` — is outside `Safe`, inside `coveredF`: `exTracedFields`). -/
theorem C03_wf_traced (c : Trace.Code) (O : Trace.Options) (ty : Trace.Ty)
    (f32Str f64Str : Nat → String) (cast : Nat → Int → Bool → Nat → Option (Bool × Int))
    (fields : List Field) (rows : List SVal) (arrs : List Arr)
    (ho : ∀ kv ∈ O.overwrites, Lemmas.C03.GoodF kv.2) (hft : Trace.fromType c O ty = .ok fields)
    (hplain : ∀ f ∈ fields, Lemmas.C03.PlainF f)
    (hsafe : (∀ root0, newRoot fields = .ok root0 → Safe root0) ∨ fields.all Build.coveredF = true)
    (hrows : ∀ x ∈ rows, x.typed = true)
    (h : toMarrow (codecExt f32Str f64Str cast) fields rows = .ok arrs) :
    arrs.length = fields.length ∧
    ∀ (j : Nat) (f : Field) (a : Arr), fields[j]? = some f → arrs[j]? = some a →
      WF f a = true ∧ (decodeAll a).length = rows.length :=
  C03_wf_codec_typed f32Str f64Str cast fields rows arrs (fromType_good c O ty fields ho hft).1 hplain hsafe hrows h

/-- non-vacuity: a type with an enum, a map and dictionary-encoded strings traces successfully (so `fromType_good`
speaks about a real schema: a dense union with type ids 0, 1 and a `Dictionary(UInt32, LargeUtf8)` column) -/
example : (Trace.fromType .fixed { string_dictionary_encoding := true, map_as_struct := false }
    (.struct "S" (.cons "e" (.enum "E" (.newtype "A" (.int .i8) (.newtype "B" .string .nil)))
      (.cons "m" (.map .string (.int .u8)) .nil)))).isOk = true := by decide +kernel

/-- non-vacuity: the traced schema of `R { s: Option<S> }`, `S { d: String }` under dictionary encoding is the kind of
schema `Safe` excludes and `coveredF` admits -/
def exTracedFields : List Field :=
  [.mk "s" (.struct (.cons (.mk "d" (.dictionary .uint32 .largeUtf8) false []) .nil)) true []]

example : Trace.fromType .fixed { string_dictionary_encoding := true }
      (.struct "R" (.cons "s" (.option (.struct "S" (.cons "d" .string .nil))) .nil)) = .ok exTracedFields ∧
    exTracedFields.all Build.coveredF = true ∧ (∀ root0, newRoot exTracedFields = .ok root0 → ¬ Safe root0) := by
  refine ⟨by decide +kernel, by decide +kernel, ?_⟩
  exact fun root0 h0 hs => absurd ((safe_schema_iff _ (by decide) root0 h0).1 hs) (by decide)

end SaModel.Props.C03
