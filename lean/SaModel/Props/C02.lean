import SaModel.Lemmas.C05ReadStruct
import SaModel.Lemmas.C02DecodeAt
import SaModel.Lemmas.C02Total
import SaModel.Lemmas.C02Supported
import SaModel.Lemmas.C15Format
/-
C02 — deserializing any valid Arrow array yields exactly its logical content.
Property theorems only.  Model: SaModel/Read/Reader.lean (`Fixes.all`); specification: SaModel/Spec/Decode.lean
in its slot-wise form SaModel/Spec/DecodeAt.lean; rendering of logical values: SaModel/Read/ToD.lean.

* `decodeAll_eq_decodeAt`, `decode_eq_decodeAt`, `len_eq_lenOf`: the slot-wise oracle used everywhere is
  `Spec.decodeAll` / `Spec.decode`, for every array, no hypothesis.
* `read_any_decode` (`read_any_decode_spec`, `read_fields_decode`, `read_variant_decode`): for EVERY array `a` (any
  nesting) and every slot `i` whose Arrow reading is defined (`decodeAt a i = ok lv`), if the reader can be built
  (`new a = ok`), the lengths are representable in Rust (`physical`) and the strings are well-formed UTF-8,
  `deserialize_any` returns exactly `toD a lv`.
* `C02_layout_irrelevant`: the result is a function of the decoded value and the type skeleton only, so any two
  arrays that decode alike read alike — every layout freedom of the statement is an instance.
* `read_typed_decode` (`read_typed_sound` + `targets_sound` / `tfields_sound` / `variants_sound` / `kind_sound`: the
  accept half of `read_honours` / `kind_honours`,
  `read_typed_decode_spec`, `read_option_null`, `C02_typed_layout_irrelevant`): typed reads (every target shape, any
  nesting) return what the value-level specification `cast` demands.
* `cast_na_only` (`cast_na_only_if`, `cast_na_iff`: the same implication with the value quantified),
  `cast_must_or_mustFail`: `cast` is `na` only in cells where field names repeat (`naCell`); every other cell is `must d`
  or `mustFail`.  `cast_na_converse_fails`: not every cell that repeats names is `na` (target `any`).
* `decimalRepr_spec`: the text of a Decimal128 slot is `format_decimal` of C15.
* `read_any_decode_supported`, `read_typed_decode_supported`, `unsupported_refused`: the read theorems with
  `supportedView a` in place of `new a = ok` (`new_ok_iff_supported`, `Lemmas/C02Supported.lean`).
* `null_struct/list/fsl/map_reads_hidden_data` + `null_container_into_non_option_witness`: known finding #23.
-/
namespace SaModel.Props.C02
open SaModel SaModel.Read SaModel.Spec

/-! ### the slot-wise oracle IS the oracle

`Spec.decodeAt` / `lenOf` (what every theorem below and the driver use) against `Spec.decodeAll` / `Spec.decode`
(SaModel/Spec/Decode.lean, the definition of what an array means): equal for EVERY array, with no well-formedness
hypothesis (both fail in the same slots with the same error).  Proof: `Lemmas/C02DecodeAt.lean`, mutual structural
recursion over `Arr` / `ArrFields` / `ArrUFields`. -/

theorem decodeAll_eq_decodeAt (a : Arr) : decodeAll a = (List.range (lenOf a)).map (decodeAt a) :=
  decodeAll_eq_map_decodeAt a

theorem decode_eq_decodeAt (a : Arr) (i : Nat) : Spec.decode a i = decodeAt a i := (decodeAll_spec a).2 i

theorem len_eq_lenOf (a : Arr) : Arr.len a = lenOf a := (decodeAll_spec a).1

/-- non-vacuity: a nested array with nulls, a non-zero first offset, an out-of-range slot and a failing slot
(the last list entry points outside the child) — both oracles computed -/
example :
    let a : Arr := .list false (some ⟨[0b1011], 0⟩) [1, 3, 3, 9, 4] ⟨"element", true, []⟩
      (.struct 4 none (.cons ⟨"x", true, []⟩ (.prim .int32 (some ⟨[0b0101], 0⟩) [7, 8, 9, 10]) .nil))
    lenOf a = 4 ∧ (List.range 6).map (Spec.decode a) = (List.range 6).map (decodeAt a) ∧
      (decodeAt a 0).isOk = true ∧ decodeAt a 2 = .ok .null ∧ (decodeAt a 3).isOk = false := by decide +kernel


/-! ### deserialize_any (proof: `Lemmas/C02Any.lean`, `C02Leaf.lean`, `C02Container.lean`) -/

theorem read_any_decode (a : Arr) (i : Nat) (lv : LVal)
    (h : decodeAt a i = .ok lv) (hn : new Fixes.all a = .ok ()) (hp : physical a = true) (hu : utf8Ok lv = true) :
    readAny Fixes.all a i = .ok (toD a lv) := readAny_decodeAt a i lv h hn hp hu

/-- the same, stated with the materialising oracle `Spec.decode` -/
theorem read_any_decode_spec (a : Arr) (i : Nat) (lv : LVal)
    (h : Spec.decode a i = .ok lv) (hn : new Fixes.all a = .ok ()) (hp : physical a = true) (hu : utf8Ok lv = true) :
    readAny Fixes.all a i = .ok (toD a lv) := read_any_decode a i lv (decode_eq_decodeAt a i ▸ h) hn hp hu

/-- every field of a struct row -/
theorem read_fields_decode (fs : ArrFields) (i : Nat) (vals : List (String × LVal))
    (h : decodeFieldsAt fs i = .ok vals) (hn : newFields Fixes.all fs = .ok ()) (hp : physicalFields fs = true)
    (hu : utf8OkFields (LFields.ofList vals) = true) :
    readAnyFields Fixes.all fs i = .ok (toDFields fs (LFields.ofList vals)) := readAnyFields_decodeAt fs i vals ⟨h, hn, hp, hu⟩

/-- the selected variant of a dense union -/
theorem read_variant_decode (fs : ArrUFields) (k pos j : Nat) (v : LVal)
    (h : decodeVariantAt fs pos j = .ok v) (hn : newUFields Fixes.all fs k = .ok ()) (hp : physicalUFields fs = true)
    (hu : utf8Ok v = true) :
    ∃ fm child, ArrUFields.nth fs pos = some (fm, child) ∧
      readAnyVariant Fixes.all fs pos j = .ok (.enum (.str .transient (strBytes fm.name)) (toD child v)) :=
  readAnyVariant_decodeAt fs k pos j v h hn hp hu

/-- layout freedoms are irrelevant: the result of a read is a function of the decoded value (and the type skeleton
through `toD`) only.  Any two arrays — or two slots — that decode to the same logical value read the same: non-zero
first offsets, unreferenced child ranges, garbage under nulls, unused / duplicate dictionary values, several view
buffers and bitmap bit offsets all leave `decodeAt` unchanged, hence the read. -/
theorem C02_layout_irrelevant (a b : Arr) (i j : Nat) (lv : LVal)
    (ha : decodeAt a i = .ok lv) (hb : decodeAt b j = .ok lv)
    (hna : new Fixes.all a = .ok ()) (hnb : new Fixes.all b = .ok ())
    (hpa : physical a = true) (hpb : physical b = true) (hu : utf8Ok lv = true)
    (hshape : toD a lv = toD b lv) :
    readAny Fixes.all a i = readAny Fixes.all b j := by
  rw [read_any_decode a i lv ha hna hpa hu, read_any_decode b j lv hb hnb hpb hu, hshape]

/-! instances (computed): a canonical layout and a layout with a non-zero first offset, garbage under the null, a
bitmap bit offset, an unused and a duplicate dictionary value, an unreferenced child prefix -/
example :
    let canon : Arr := .bytes .utf8 (some ⟨[0b101], 0⟩) [0, 1, 1, 3] [97, 98, 99]
    let odd : Arr := .bytes .utf8 (some ⟨[0b10111], 2⟩) [2, 3, 5, 7] [0, 0, 97, 120, 121, 98, 99, 0]
    (List.range 3).map (readAny Fixes.all canon) = (List.range 3).map (readAny Fixes.all odd) := by decide +kernel

example :
    let canon : Arr := .dictionary (.prim .int8 none [0, 1, 0]) (.bytes .utf8 none [0, 1, 2] [97, 98])
    let odd : Arr := .dictionary (.prim .int8 none [3, 1, 0]) (.bytes .utf8 none [0, 1, 2, 3, 4] [97, 98, 122, 97])
    (List.range 3).map (readAny Fixes.all canon) = (List.range 3).map (readAny Fixes.all odd) := by decide +kernel

example :
    let canon : Arr := .list false none [0, 2, 3] ⟨"element", false, []⟩ (.prim .int32 none [1, 2, 3])
    let odd : Arr := .list false none [2, 4, 5] ⟨"element", false, []⟩ (.prim .int32 none [9, 9, 1, 2, 3, 9])
    (List.range 2).map (readAny Fixes.all canon) = (List.range 2).map (readAny Fixes.all odd) := by decide +kernel

/-! ### typed reads (proof: `Lemmas/ReadSlot.lean`, `C02Any.lean` (`isSome_of_decode`), `C02TypedLeaf.lean`, `C02TypedCont.lean`, `C05ReadCont.lean`,
`C05ReadCont2.lean`, `C02TypedStruct.lean`, `C05ReadStruct.lean`)

`cast t a lv` (SaModel/Read/Cast.lean, total, structural over the target) is the value-level meaning of reading a slot
with logical value `lv` of array `a` into the Rust type `t`: records by field name, tuples by position, numbers by
value, `Option` by null-ness, enums by variant name / index.  `ReadHonours t` (`Lemmas/C05ReadCont.lean`): at a slot whose
Arrow reading is defined `readAs t` honours `cast t`; its two halves are `Sound t` (whenever `cast t` demands a value `d`,
`readAs t` returns exactly `d`) and `Rej t` (where `cast t` says the read must fail it fails: `Props.C05.read_rej`). -/

mutual
theorem read_honours : ∀ (t : Target), ReadHonours t
  | .any => honours_any
  | .ignored => honours_ignored
  | .unit => honours_scalar (m := .unit) rfl nofun nofun
  | .unitStruct => honours_scalar (m := .unitStruct) rfl nofun nofun
  | .bool => honours_scalar (m := .bool) rfl nofun nofun
  | .int ty => honours_scalar (m := .int ty) rfl nofun nofun
  | .f32 => honours_scalar (m := .f32) rfl nofun nofun
  | .f64 => honours_scalar (m := .f64) rfl nofun nofun
  | .char => honours_scalar (m := .char) rfl nofun nofun
  | .string => honours_scalar (m := .string) rfl nofun nofun
  | .str => honours_scalar (m := .str) rfl nofun nofun
  | .bytes => honours_bytes
  | .byteBuf => honours_byteBuf
  | .option t => honours_option (read_honours t)
  | .newtype t => honours_newtype (read_honours t)
  | .seq t => honours_seq (read_honours t)
  | .tuple ts => honours_tuple (targets_honours ts)
  | .tupleStruct ts => honours_tupleStruct (targets_honours ts)
  | .map k v => honours_map (read_honours k) (read_honours v)
  | .struct tfs => honours_struct (tfields_honours tfs)
  | .enum _ vs => honours_enum (variants_honours vs)
theorem targets_honours : ∀ (ts : Targets), ∀ t ∈ Targets.toList ts, ReadHonours t
  | .nil, t, h => by simp [Targets.toList] at h
  | .cons t' rest, t, h => by
    simp only [Targets.toList, List.mem_cons] at h
    rcases h with h | h
    · rw [h]; exact read_honours t'
    · exact targets_honours rest t h
theorem tfields_honours : ∀ (tfs : TFields), ∀ p ∈ TFields.toList tfs, ReadHonours p.2
  | .nil, p, h => by simp [TFields.toList] at h
  | .cons n t' rest, p, h => by
    simp only [TFields.toList, List.mem_cons] at h
    rcases h with h | h
    · rw [h]; exact read_honours t'
    · exact tfields_honours rest p h
theorem variants_honours : ∀ (vs : TVariants), ∀ p ∈ TVariants.toList vs, KindHonours p.2
  | .nil, p, h => by simp [TVariants.toList] at h
  | .cons n k rest, p, h => by
    simp only [TVariants.toList, List.mem_cons] at h
    rcases h with h | h
    · rw [h]; exact kind_honours k
    · exact variants_honours rest p h
theorem kind_honours : ∀ (k : VKind), KindHonours k
  | .unit => khonours_unit
  | .newtype t => khonours_newtype (read_honours t)
  | .tuple ts => khonours_tuple (targets_honours ts)
  | .struct tfs => khonours_struct (tfields_honours tfs)
end

theorem read_typed_sound : ∀ (t : Target), Sound t := fun t => (read_honours t).sound

theorem kind_sound : ∀ (k : VKind), KSound k := fun k => (kind_honours k).sound

theorem targets_sound : ∀ (ts : Targets), ∀ t ∈ Targets.toList ts, Sound t := fun _ t _ => read_typed_sound t

theorem tfields_sound : ∀ (tfs : TFields), ∀ p ∈ TFields.toList tfs, Sound p.2 := fun _ p _ => read_typed_sound p.2

theorem variants_sound : ∀ (vs : TVariants), ∀ p ∈ TVariants.toList vs, KSound p.2 := fun _ p _ => kind_sound p.2

/-- C02 for typed reads: for EVERY target type `t` (scalars, `Option`, newtype, `Vec`, tuples and tuple structs, maps,
structs by field name, enums by variant name or index, nested to any depth), EVERY array `a` and slot `i` whose Arrow
reading is defined, under the hypotheses of `read_any_decode`: whatever the value-level specification demands
(`cast t a lv = must d`) is what the typed read returns.  `cast` covers EVERY (target, column) pair: it says `must d`
for every pair the reader supports (Dictionary → `&str` / `String` / enum-as-string, struct → map with any key target a
field name can be read into (String, ByteBuf, char, enum-by-name, any, IgnoredAny), Date32 / Date64 / Time32 / Time64 /
Timestamp / Duration columns → String / ByteBuf and Decimal128 columns → String (no ByteBuf row: `castLeaf`) through the
codecs of C14 / C15, f64 → f32 by IEEE narrowing, `ByteBuf` from a list of u8 included) and
`mustFail` for a value the target cannot hold, a value the codec refuses and a pair the reader does not offer
(`Props.C05.read_mustFail`: the read fails there); it is `na` only where field names repeat (`cast_na_only`).  What the
code does for a null container slot and a non-Option target is `null_*_reads_hidden_data` below (known finding
C02-null-container-into-non-option). -/
theorem read_typed_decode (t : Target) (a : Arr) (i : Nat) (lv : LVal) (d : DVal)
    (h : decodeAt a i = .ok lv) (hn : new Fixes.all a = .ok ()) (hp : physical a = true) (hu : utf8Ok lv = true)
    (hc : Read.cast t a lv = must d) : readAs Fixes.all t a i = .ok d :=
  read_typed_sound t a i lv d h hn hp hu hc

/-! ### no silent cells: `cast` is `na` only where field names repeat

`naCell t a` (decidable, `Lemmas/C02Total.lean`): a struct / struct variant of the target lists a field name twice (no
Rust type does), or a struct column inside the view has two children of the same name.  Outside of it every cell is
`must d` (then `read_typed_decode`: the read returns `d`) or `mustFail` (then `Props.C05.read_mustFail`: the read
fails; together: `Props.C05.read_typed_total`). -/

theorem cast_na_only (t : Target) (a : Arr) (lv : LVal) (h : Read.cast t a lv = na) : naCell t a = true := by
  cases hc : naCell t a with
  | true => rfl
  | false =>
    simp only [naCell, Bool.not_eq_false', Bool.and_eq_true] at hc
    exact absurd h (cast_nn t hc.1 a lv hc.2)

/-- `cast_na_only` with the value quantified — ONE implication, left to right: if SOME value of the cell `(t, a)` is left
without a claim, the cell repeats names (`naCell t a = true`).  The converse does not hold (`cast_na_converse_fails`
below).  A cell that repeats names is outside of the claim of this file (`structClaim`). -/
theorem cast_na_only_if (t : Target) (a : Arr) : (∃ lv, Read.cast t a lv = na) → naCell t a = true :=
  fun ⟨lv, h⟩ => cast_na_only t a lv h

/-- `cast_na_only_if` under a second name; despite the `iff` in it the statement is ONE implication -/
theorem cast_na_iff (t : Target) (a : Arr) : (∃ lv, Read.cast t a lv = na) → naCell t a = true :=
  cast_na_only_if t a

/-- `deserialize_any` is never left without a claim, whatever the view: `cast .any a lv = must (toD a lv)` -/
theorem cast_any_ne_na (a : Arr) (lv : LVal) : Read.cast .any a lv ≠ na := by
  simp only [Read.cast]; intro h; cases h

/-- **the converse of `cast_na_only_if` is false**: `naCell t a` is a property of the NAMES in the cell (it is true as soon
as a struct column inside `a` repeats a child name), while whether `cast` answers depends on the target as well — the
target `any` gets a claim for every view.  Witness: a struct column with two children `x`. -/
theorem cast_na_converse_fails : ¬ ∀ (t : Target) (a : Arr), naCell t a = true → ∃ lv, Read.cast t a lv = na := by
  intro h
  obtain ⟨lv, hlv⟩ := h .any
    (.struct 1 none (.cons ⟨"x", false, []⟩ (.prim .int32 none [1]) (.cons ⟨"x", false, []⟩ (.prim .int32 none [2]) .nil)))
    (by decide)
  exact cast_any_ne_na _ lv hlv

theorem cast_must_or_mustFail (t : Target) (a : Arr) (lv : LVal) (h : naCell t a = false) :
    (∃ d, Read.cast t a lv = must d) ∨ (∃ e, Read.cast t a lv = .error e) := by
  cases hc : Read.cast t a lv with
  | error e => exact .inr ⟨e, rfl⟩
  | ok o =>
    cases o with
    | some d => exact .inl ⟨d, rfl⟩
    | none => have := cast_na_only t a lv hc; rw [h] at this; cases this

/-- the `na` cells exist (a struct column with two children `x` read by name), and the leaf table has none -/
example : Read.cast (.struct (.cons "x" (.int .i32) .nil))
    (.struct 1 none (.cons ⟨"x", false, []⟩ (.prim .int32 none [1]) (.cons ⟨"x", false, []⟩ (.prim .int32 none [2]) .nil)))
    (.struct (.cons "x" (.int 1) (.cons "x" (.int 2) .nil))) = na := by decide +kernel
example : naCell (.map .char (.seq (.option .str))) (.struct 1 none (.cons ⟨"x", false, []⟩ (.prim .int32 none [1]) .nil)) = false := by
  decide +kernel

/-- the text of a Decimal128 slot is `format_decimal` (C15): for every `i128` value and `i8` scale -/
theorem decimalRepr_spec (v s : Int) (hv : SaModel.Decimal.inI128 v) (hs : SaModel.Decimal.inI8 s) :
    SaModel.Decimal.formatDecimal v s = .ok (decimalRepr s v) := by
  have h := SaModel.Lemmas.C15.formatDecimal_eq v s hv hs
  unfold decimalRepr
  rw [h]

/-! ### 'supported array' from the documentation side (`Lemmas/C02Supported.lean`)

`supportedView a` (decidable, written without the model constructor): leaf kinds always; Timestamp naive or UTC;
FixedSizeBinary(n ≥ 0) with data divisible by n; children carry only known `SERDE_ARROW:strategy` entries;
FixedSizeList n ≥ 0; Dictionary with integer keys and Utf8 / LargeUtf8 values WITHOUT a validity buffer; Union dense, as
many offsets as type ids, type ids 0, 1, 2, ….  `new_ok_iff_supported : new Fixes.all a = .ok () ↔ supportedView a`. -/

theorem read_any_decode_supported (a : Arr) (i : Nat) (lv : LVal)
    (h : decodeAt a i = .ok lv) (hs : supportedView a = true) (hp : physical a = true) (hu : utf8Ok lv = true) :
    readAny Fixes.all a i = .ok (toD a lv) :=
  read_any_decode a i lv h ((new_ok_iff_supported a).2 hs) hp hu

theorem read_typed_decode_supported (t : Target) (a : Arr) (i : Nat) (lv : LVal) (d : DVal)
    (h : decodeAt a i = .ok lv) (hs : supportedView a = true) (hp : physical a = true) (hu : utf8Ok lv = true)
    (hc : Read.cast t a lv = must d) : readAs Fixes.all t a i = .ok d :=
  read_typed_decode t a i lv d h ((new_ok_iff_supported a).2 hs) hp hu hc

/-- an unsupported view is refused when the reader is built: no read happens -/
theorem unsupported_refused (a : Arr) (h : supportedView a = false) : ∃ e, new Fixes.all a = .error e :=
  new_err_of_not_supported a h

/-- the same, stated with the materialising oracle `Spec.decode` -/
theorem read_typed_decode_spec (t : Target) (a : Arr) (i : Nat) (lv : LVal) (d : DVal)
    (h : Spec.decode a i = .ok lv) (hn : new Fixes.all a = .ok ()) (hp : physical a = true) (hu : utf8Ok lv = true)
    (hc : Read.cast t a lv = must d) : readAs Fixes.all t a i = .ok d :=
  read_typed_decode t a i lv d (decode_eq_decodeAt a i ▸ h) hn hp hu hc

/-- `Option` targets on null slots of every column kind (containers included): `None` -/
theorem read_option_null (t : Target) (a : Arr) (i : Nat)
    (h : decodeAt a i = .ok .null) (hn : new Fixes.all a = .ok ()) (hp : physical a = true) :
    readAs Fixes.all (.option t) a i = .ok .none :=
  read_typed_decode (.option t) a i .null .none h hn hp rfl (by simp only [Read.cast])

/-- typed reads return the same for any two arrays / slots with the same decoded value and claim (layout freedoms) -/
theorem C02_typed_layout_irrelevant (t : Target) (a b : Arr) (i j : Nat) (lv : LVal) (d : DVal)
    (ha : decodeAt a i = .ok lv) (hb : decodeAt b j = .ok lv)
    (hna : new Fixes.all a = .ok ()) (hnb : new Fixes.all b = .ok ())
    (hpa : physical a = true) (hpb : physical b = true) (hu : utf8Ok lv = true)
    (hca : Read.cast t a lv = must d) (hcb : Read.cast t b lv = must d) :
    readAs Fixes.all t a i = readAs Fixes.all t b j := by
  rw [read_typed_decode t a i lv d ha hna hpa hu hca, read_typed_decode t b j lv d hb hnb hpb hu hcb]

/-! non-vacuity (computed): a struct column with a null-able int, a list of strings and a dense union, read into a
derived struct (fields in another order, one missing `Option` field, one column field without target), a tuple, a map
and enums by name / by index: hypotheses hold, `cast` demands a value, and the read returns it -/
def exCol : Arr :=
  .struct 2 (some ⟨[0b11], 0⟩)
    (.cons ⟨"a", true, []⟩ (.prim .int32 (some ⟨[0b01], 0⟩) [7, 9])
    (.cons ⟨"b", false, []⟩ (.list false none [1, 3, 3] ⟨"element", false, []⟩ (.bytes .utf8 none [0, 1, 2, 4] [120, 121, 122, 122]))
    (.cons ⟨"u", false, []⟩ (.union [1, 0] (some [0, 0])
        (.cons 0 ⟨"N", false, []⟩ (.null 1) (.cons 1 ⟨"I", false, []⟩ (.prim .int64 none [5]) .nil))) .nil)))

def exTargets : List Target :=
  [ .struct (.cons "b" (.seq .string) (.cons "a" (.option (.int .i64)) (.cons "zz" (.option .bool) .nil))),
    .tuple (.cons (.option (.int .i32)) (.cons (.seq .str) .nil)),
    .map .string .any,
    .struct (.cons "u" (.enum false (.cons "N" .unit (.cons "I" (.newtype (.int .i16)) .nil))) .nil),
    .struct (.cons "u" (.enum true (.cons "N" .unit (.cons "I" (.newtype (.int .u8)) .nil))) .nil),
    .option (.newtype (.struct (.cons "a" (.option (.int .i16)) .nil))) ]

def exLv (i : Nat) : LVal := match decodeAt exCol i with | .ok lv => lv | .error _ => .null

def isMust : Claim → Bool
  | .ok (some _) => true
  | _ => false

theorem isMust_elim {c : Claim} (h : isMust c = true) : ∃ d, c = must d := by
  unfold isMust at h
  split at h
  · exact ⟨_, rfl⟩
  · cases h

example : ∀ i ∈ [0, 1], ∀ t ∈ exTargets, exLv i ≠ .null ∧
    ∃ d, Read.cast t exCol (exLv i) = must d ∧ readAs Fixes.all t exCol i = .ok d := by
  have hn : new Fixes.all exCol = .ok () := by decide
  have hp : physical exCol = true := by decide
  have hd : ∀ i ∈ [0, 1], decodeAt exCol i = .ok (exLv i) ∧ utf8Ok (exLv i) = true ∧ exLv i ≠ .null ∧
      exTargets.all (fun t => isMust (Read.cast t exCol (exLv i))) = true := by decide +kernel
  intro i hi t ht
  obtain ⟨h1, h2, h3, h4⟩ := hd i hi
  obtain ⟨d, hc⟩ := isMust_elim (List.all_eq_true.mp h4 t ht)
  exact ⟨h3, d, hc, read_typed_decode t exCol i (exLv i) d h1 hn hp h2 hc⟩

/-! non-vacuity of the dictionary / codec / narrowing / map-key cells (computed): a dictionary column as borrowed `&str` and as enum-by-name, a
Date32 / Time64(us) / Timestamp(ms, UTC) / Duration(ns) / Decimal128(scale 2) column as `String`, Float64 as `f32`
(1.1 rounds to 0x3F8CCCCD; 1e300 overflows to +inf), a struct read as `HashMap<char, i64>` and as a map keyed by an enum,
`ByteBuf` from a List<UInt8>: `cast` demands the value shown and (by `read_typed_decode`) the read returns it -/
def exCells : List (Target × Arr × DVal) :=
  [ (.str, .dictionary (.prim .int8 none [1]) (.bytes .utf8 none [0, 1, 3] [97, 98, 99]), .str .borrowed [98, 99]),
    (.enum false (.cons "a" .unit (.cons "bc" .unit .nil)),
      .dictionary (.prim .int8 none [1]) (.bytes .utf8 none [0, 1, 3] [97, 98, 99]), .enum (.str .transient [98, 99]) .unit),
    (.string, .prim .date32 none [-1], .str .owned (strBytes "1969-12-31")),
    (.string, .time .time64 .microsecond none [3723000004], .str .owned (strBytes "01:02:03.000004")),
    (.string, .timestamp .millisecond (some "UTC") none [1500], .str .owned (strBytes "1970-01-01T00:00:01.500Z")),
    (.byteBuf, .time .duration .nanosecond none [-1500000000], .bytes .owned (strBytes "-PT1.500000000s")),
    (.string, .decimal128 5 2 none [-1234], .str .owned (strBytes "-12.34")),
    (.f32, .prim .float64 none [0x3FF199999999999A], .f32 0x3F8CCCCD),
    (.f32, .prim .float64 none [0x7E37E43C8800759C], .f32 0x7F800000),
    (.map .char (.int .i64), .struct 1 none (.cons ⟨"k", false, []⟩ (.prim .int8 none [5]) .nil),
      .map (.cons (.char 107) (.int .i64 5) .nil)),
    (.map (.enum false (.cons "k" .unit .nil)) .any, .struct 1 none (.cons ⟨"k", false, []⟩ (.prim .int8 none [5]) .nil),
      .map (.cons (.enum (.str .transient [107]) .unit) (.int .i8 5) .nil)),
    (.byteBuf, .list false none [0, 2] ⟨"element", false, []⟩ (.prim .uint8 none [7, 255]), .bytes .owned [7, 255]) ]

example : ∀ c ∈ exCells, ∃ lv, decodeAt c.2.1 0 = .ok lv ∧ lv ≠ .null ∧ Read.cast c.1 c.2.1 lv = must c.2.2 ∧
    readAs Fixes.all c.1 c.2.1 0 = .ok c.2.2 := by
  have hd : ∀ c ∈ exCells, decodeAt c.2.1 0 = .ok (match decodeAt c.2.1 0 with | .ok lv => lv | .error _ => .null) ∧
      (match decodeAt c.2.1 0 with | .ok lv => lv | .error _ => .null) ≠ .null ∧
      supportedView c.2.1 = true ∧ physical c.2.1 = true ∧
      utf8Ok (match decodeAt c.2.1 0 with | .ok lv => lv | .error _ => .null) = true ∧
      Read.cast c.1 c.2.1 (match decodeAt c.2.1 0 with | .ok lv => lv | .error _ => .null) = must c.2.2 := by decide +kernel
  intro c hc
  obtain ⟨h1, h2, h3, h4, h5, h6⟩ := hd c hc
  exact ⟨_, h1, h2, h6, read_typed_decode_supported c.1 c.2.1 0 _ c.2.2 h1 h3 h4 h5 h6⟩

/-- and the refusals of the same cells: the borrowed targets on a created text, a date outside chrono's range -/
example : Read.cast .str (.prim .date32 none [0]) (.int 0) = mustFail "unsupported (target, column) pair" ∧
    Read.cast .string (.prim .date64 none [9223372036854775807]) (.int 9223372036854775807) = mustFail "Unsupported date value" ∧
    Read.cast (.map .char .any) (.struct 1 none (.cons ⟨"kk", false, []⟩ (.null 1) .nil))
      (.struct (.cons "kk" .null .nil)) = mustFail "not a char" := by decide +kernel

/-! ### known finding C02-null-container-into-non-option (#23): what the code does

The typed reads of the Struct / List / LargeList / FixedSizeList / Map readers never consult the validity bitmap: the
read of a null slot into a non-Option target is the read of the same slot with the bitmap removed — by
`read_typed_decode` on that array, the data hidden under the null (`cast` says such a read must fail). -/

theorem null_struct_reads_hidden_data (t : Target) (len : Nat) (v : Option Bits) (fs : ArrFields) (i : Nat)
    (ht : (∃ ts, t = .tuple ts) ∨ (∃ ts, t = .tupleStruct ts) ∨ (∃ k w, t = .map k w) ∨ (∃ tfs, t = .struct tfs)) :
    readAs Fixes.all t (.struct len v fs) i = readAs Fixes.all t (.struct len none fs) i := by
  rcases ht with ⟨ts, rfl⟩ | ⟨ts, rfl⟩ | ⟨k, w, rfl⟩ | ⟨tfs, rfl⟩ <;> simp only [readAs, tupleVisit, structVisit]

theorem null_list_reads_hidden_data (t : Target) (lg : Bool) (v : Option Bits) (offs : List Int) (fm : FieldMeta) (el : Arr) (i : Nat) :
    readAs Fixes.all (.seq t) (.list lg v offs fm el) i = readAs Fixes.all (.seq t) (.list lg none offs fm el) i := by
  simp only [readAs]

theorem null_fsl_reads_hidden_data (t : Target) (len : Nat) (v : Option Bits) (n : Int) (fm : FieldMeta) (el : Arr) (i : Nat) :
    readAs Fixes.all (.seq t) (.fixedSizeList len v n fm el) i = readAs Fixes.all (.seq t) (.fixedSizeList len none n fm el) i := by
  simp only [readAs]

theorem null_map_reads_hidden_data (k w : Target) (v : Option Bits) (offs : List Int) (mm : MapMeta) (ks vs : Arr) (i : Nat) :
    readAs Fixes.all (.map k w) (.map v offs mm ks vs) i = readAs Fixes.all (.map k w) (.map none offs mm ks vs) i := by
  simp only [readAs]

/-- witness: the slot is null, the specification says the read must fail, the code returns the hidden `(42,)` /
`[1, 2]` / `{1: 2}`; the same slots into `Option` targets are `None` -/
theorem null_container_into_non_option_witness :
    let a : Arr := .struct 1 (some ⟨[0], 0⟩) (.cons ⟨"x", false, []⟩ (.prim .int32 none [42]) .nil)
    let t : Target := .tuple (.cons (.int .i32) .nil)
    let l : Arr := .list false (some ⟨[0], 0⟩) [0, 2] ⟨"element", false, []⟩ (.prim .int32 none [1, 2])
    let m : Arr := .map (some ⟨[0], 0⟩) [0, 1] ⟨"entries", false, ⟨"key", false, []⟩, ⟨"value", false, []⟩⟩
      (.prim .int8 none [1]) (.prim .int8 none [2])
    decodeAt a 0 = .ok .null ∧ new Fixes.all a = .ok () ∧
    Read.cast t a .null = mustFail "null into a non-Option target" ∧
    readAs Fixes.all t a 0 = .ok (.seq (.cons (.int .i32 42) .nil)) ∧
    readAs Fixes.all (.option t) a 0 = .ok .none ∧
    decodeAt l 0 = .ok .null ∧ Read.cast (.seq (.int .i32)) l .null = mustFail "null into a non-Option target" ∧
    readAs Fixes.all (.seq (.int .i32)) l 0 = .ok (.seq (.cons (.int .i32 1) (.cons (.int .i32 2) .nil))) ∧
    readAs Fixes.all (.option (.seq (.int .i32))) l 0 = .ok .none ∧
    decodeAt m 0 = .ok .null ∧ Read.cast (.map (.int .u8) (.int .u8)) m .null = mustFail "null into a non-Option target" ∧
    readAs Fixes.all (.map (.int .u8) (.int .u8)) m 0 = .ok (.map (.cons (.int .u8 1) (.int .u8 2) .nil)) := by decide +kernel

end SaModel.Props.C02
