import SaModel.Lemmas.C07TablesEval
import SaModel.Trace.Spec
import SaModel.Lemmas.C07Zoo
/-
C07 — the traced schema does not depend on sample order or repetition.
Model: SaModel/Trace/{Tracer,FromSamples,Leaf}.lean.  Tables: SaModel/Lemmas/C07Tables*.lean.

Leaf lattice (complete alphabet, every setting of the three options `coerce_primitive_type` reads, unbounded sample
lists): `coerce_comm`, `coerce_idem`, `nullable_sticky`, `mark_commutes`, `coerce_assoc_on_success`,
`leaf_permutation` (any permutation: same outcome, unless `allow_to_string`), `leaf_success_order`,
`leaf_order_and_repetition` (any two lists with the same SET of kinds that both succeed give the same state — also
under `allow_to_string`), `leaf_repeat`.  All of them come from one fact, evaluated on the alphabet: a step yields the
least upper bound in the order `sle`, and unless `allow_to_string` it succeeds whenever an upper bound exists (`lub_step`).
A step only ORs the nullable flag of the state into its result (`act_flag`), so what is evaluated ranges over the types
of the states (`step_row`, `pair_row`), and the flag is carried by the lemmas `act_fix_iff`, `sle_iff_T`.
Tree level: `ensure_primitive_embed` ties the lattice to the tracer for every name and path; `C07_struct_map_mode` /
`C07_struct_map_mode_pinned` and `C07_tuple_arity…` are the repaired / pinned witnesses.
`absorb_comm_leaf` is the swap law of `absorb` for two primitive leaf samples; the general tree-level laws (arbitrary
nested samples) are in SaModel/Props/C07Tree.lean (`absorb_comm`, `absorb_idem`, `fromSamples_perm`, `fromSamples_repeat`).
-/
namespace SaModel.Props.C07
open SaModel SaModel.Trace SaModel.Lemmas.C07

/-! ### options: `coerce_primitive_type` reads three flags -/

theorem act_coerceView (o : Options) (s : LeafSt) (a : DataType) : act o s a = act o.coerceView s a := by
  obtain ⟨t, n⟩ := s
  cases t <;> rfl

theorem leafTypes_coerceView (o : Options) : leafTypes o = leafTypes o.coerceView := rfl
theorem leafStates_coerceView (o : Options) : leafStates o = leafStates o.coerceView := rfl

theorem coerceView_mem (o : Options) : o.coerceView ∈ coerceOptions := by
  unfold Options.coerceView
  cases o.coerce_numbers <;> cases o.allow_to_string <;> cases o.string_as_large_utf8 <;> decide

theorem table_at {T : Options → Bool} (h : coerceOptions.all T = true) (o : Options) : T o.coerceView = true :=
  List.all_eq_true.mp h _ (coerceView_mem o)

/-- outcome equality: both succeed with the same state, or both fail -/
def OutEq {α} (x y : R α) : Prop := (∃ s, x = .ok s ∧ y = .ok s) ∨ (x.isOk = false ∧ y.isOk = false)

theorem OutEq.refl {α} (x : R α) : OutEq x x := by
  cases x with
  | ok s => exact .inl ⟨s, rfl, rfl⟩
  | error e => exact .inr ⟨rfl, rfl⟩

theorem OutEq.symm {α} {x y : R α} (h : OutEq x y) : OutEq y x := by
  rcases h with ⟨s, h1, h2⟩ | ⟨h1, h2⟩
  · exact .inl ⟨s, h2, h1⟩
  · exact .inr ⟨h2, h1⟩

theorem OutEq.trans {α} {x y z : R α} (h : OutEq x y) (h' : OutEq y z) : OutEq x z := by
  rcases h with ⟨s, h1, h2⟩ | ⟨h1, h2⟩ <;> rcases h' with ⟨s', h3, h4⟩ | ⟨h3, h4⟩
  · rw [h2] at h3; cases h3; exact .inl ⟨s, h1, h4⟩
  · rw [h2] at h3; cases h3
  · rw [h3] at h2; cases h2
  · exact .inr ⟨h1, h4⟩

/-! ### the nullable flag: a step only ORs it into its result -/

theorem coerce_flag (o : Options) (p : DataType) (nl : Bool) (a : DataType) :
    coerce_primitive_type o p nl none a none =
      (coerce_primitive_type o p false none a none).map fun r => (r.1, r.2.1 || nl, r.2.2) := by
  simp only [coerce_primitive_type,
    apply_ite (Except.map (fun r : DataType × Bool × Option Strategy => (r.1, r.2.1 || nl, r.2.2)))]
  rfl

theorem act_flag (o : Options) (t : Option DataType) (nl : Bool) (a : DataType) :
    act o (t, nl) a = (actT o t a).map fun r => (r.1, r.2 || nl) := by
  cases t with
  | none => simp [act, actT, Except.map, Bool.or_comm]
  | some p =>
    simp only [act, actT]
    rw [coerce_flag]
    cases coerce_primitive_type o p false none a none <;> rfl

theorem act_ok_iff {o : Options} {t : Option DataType} {nl : Bool} {a : DataType} {s' : LeafSt} :
    act o (t, nl) a = .ok s' ↔ ∃ t' f, actT o t a = .ok (t', f) ∧ s' = (t', f || nl) := by
  rw [act_flag]
  cases actT o t a with
  | error e => simp [Except.map]
  | ok r =>
    simp only [Except.map, Except.ok.injEq]
    exact ⟨fun h => ⟨r.1, r.2, rfl, h.symm⟩, fun ⟨t', f, h, e⟩ => by rw [e, h]⟩

/-- the state `(r, n)` has absorbed `a` -/
theorem act_fix_iff {o : Options} {r : Option DataType} {n : Bool} {a : DataType} :
    act o (r, n) a = .ok (r, n) ↔ ∃ g, absT o r a = some g ∧ (g = true → n = true) := by
  rw [act_ok_iff]
  unfold absT
  constructor
  · rintro ⟨t', f, h, e⟩
    rw [h]
    simp only [Prod.mk.injEq] at e
    obtain ⟨rfl, e2⟩ := e
    exact ⟨f, by simp, fun hf => by rw [hf] at e2; simpa using e2⟩
  · rintro ⟨g, h, hg⟩
    cases hT : actT o r a with
    | error e => rw [hT] at h; cases h
    | ok x =>
      obtain ⟨t', f⟩ := x
      rw [hT] at h
      simp only at h
      split at h
      · rename_i e
        cases h
        refine ⟨r, g, by rw [e], ?_⟩
        cases g
        · simp
        · simp [hg rfl]
      · cases h

theorem sle_iff {o : Options} {s r : LeafSt} :
    sle o s r = true ↔ (∀ ty, s.1 = some ty → act o r ty = .ok r) ∧ (s.2 = true → r.2 = true) := by
  obtain ⟨t, nl⟩ := s
  cases t <;> cases nl <;> simp [sle]

theorem sle_flag {o : Options} {s r : LeafSt} (h : sle o s r = true) : s.2 = true → r.2 = true := (sle_iff.mp h).2

/-- the order on states through the order on their types -/
theorem sle_iff_T {o : Options} {q r : Option DataType} {nq nr : Bool} :
    sle o (q, nq) (r, nr) = true ↔
      ∃ g, sleT o q r = some g ∧ (g = true → nr = true) ∧ (nq = true → nr = true) := by
  rw [sle_iff]
  cases q with
  | none => simp [sleT]
  | some p =>
    simp only [sleT, act_fix_iff]
    constructor
    · rintro ⟨h, hn⟩
      obtain ⟨g, hg, hg'⟩ := h p rfl
      exact ⟨g, hg, hg', hn⟩
    · rintro ⟨g, hg, hg', hn⟩
      exact ⟨fun ty e => by cases e; exact ⟨g, hg, hg'⟩, hn⟩

theorem null_not_mem_tail (o : Options) : DataType.null ∉ (leafTypes o).drop 1 := by
  unfold leafTypes Options.string_type
  cases o.string_as_large_utf8 <;> simp

theorem leafTypes_eq (o : Options) : leafTypes o = .null :: (leafTypes o).drop 1 := rfl

theorem mem_leafStates_iff {o : Options} {t : Option DataType} {nl : Bool} :
    (t, nl) ∈ leafStates o ↔ t ∈ tstates o ∧ (t = some .null → nl = true) := by
  cases t with
  | none => unfold leafStates tstates; cases nl <;> simp
  | some ty =>
    have hn := null_not_mem_tail o
    unfold tstates
    rw [leafTypes_eq o]
    unfold leafStates
    simp only [List.mem_append, List.mem_cons, Prod.mk.injEq, reduceCtorEq, false_and, false_or, Option.some.injEq,
      List.mem_flatMap, List.not_mem_nil, or_false, List.map_cons, List.mem_map, exists_eq_right]
    constructor
    · rintro (⟨rfl, rfl⟩ | ⟨a, ha, h⟩)
      · exact ⟨.inl rfl, fun _ => rfl⟩
      · have e : ty = a := by rcases h with h | h <;> exact h.1
        subst e
        exact ⟨.inr ha, fun e => absurd (e ▸ ha) hn⟩
    · rintro ⟨h | h, h2⟩
      · exact .inl ⟨h, h2 h⟩
      · exact .inr ⟨ty, h, by cases nl <;> simp⟩

theorem state_type_mem (o : Options) {ty : DataType} {nl : Bool} (hs : (some ty, nl) ∈ leafStates o) :
    ty ∈ leafTypes o := by
  have := (mem_leafStates_iff.mp hs).1
  simpa [tstates] using this

/-! ### the evaluated tables as ∀-statements -/

theorem coerceView_ats (o : Options) : o.coerceView.allow_to_string = o.allow_to_string := rfl

theorem actT_cv (o : Options) (t : Option DataType) (a : DataType) : actT o.coerceView t a = actT o t a :=
  (act_coerceView o (t, false) a).symm

theorem absT_cv (o : Options) (r : Option DataType) (a : DataType) : absT o.coerceView r a = absT o r a := by
  unfold absT; rw [actT_cv]

theorem sleT_cv (o : Options) (q r : Option DataType) : sleT o.coerceView q r = sleT o q r := by
  cases q <;> simp only [sleT, absT_cv]

theorem stepT_at (o : Options) {t : Option DataType} {a : DataType} (ht : t ∈ tstates o) (ha : a ∈ leafTypes o) :
    stepTRow o t a = true := by
  have hr : stepTRow o.coerceView t a = true :=
    List.all_eq_true.mp (List.all_eq_true.mp (table_at stepT_all o) t ht) a ha
  unfold stepTRow at hr ⊢
  simpa only [actT_cv, absT_cv, sleT_cv, ← leafTypes_coerceView] using hr

theorem step_row (o : Options) {t t' : Option DataType} {a : DataType} {f : Bool} (ht : t ∈ tstates o)
    (ha : a ∈ leafTypes o) (h : actT o t a = .ok (t', f)) :
    (∃ ty', t' = some ty' ∧ ty' ∈ leafTypes o ∧ (ty' = .null → f = true ∨ t = some .null)) ∧
    (∃ f', absT o t' a = some f' ∧ (f' = true → f = true)) ∧
    (∃ g, sleT o t t' = some g ∧ (g = true → f = true ∨ t = some .null)) := by
  have hr := stepT_at o ht ha
  unfold stepTRow at hr
  rw [h] at hr
  simp only [Bool.and_eq_true] at hr
  obtain ⟨⟨h1, h2⟩, h3⟩ := hr
  refine ⟨?_, ?_, ?_⟩
  · cases t' with
    | none => cases h1
    | some ty' =>
      simp only [Bool.and_eq_true, List.any_eq_true, decide_eq_true_eq, Bool.or_eq_true, Bool.not_eq_true',
        decide_eq_false_iff_not] at h1
      obtain ⟨⟨x, hx, rfl⟩, h1⟩ := h1
      exact ⟨x, rfl, hx, fun e => by rcases h1 with (h1 | h1) | h1 <;> simp_all⟩
  · cases hA : absT o t' a with
    | none => rw [hA] at h2; cases h2
    | some f' => rw [hA] at h2; exact ⟨f', rfl, fun e => by subst e; simpa using h2⟩
  · cases hS : sleT o t t' with
    | none => rw [hS] at h3; cases h3
    | some g =>
      rw [hS] at h3
      exact ⟨g, rfl, fun e => by subst e; simpa using h3⟩

theorem step_np (o : Options) {t : Option DataType} {a : DataType} (ht : t ∈ tstates o) (ha : a ∈ leafTypes o) :
    (actT o t a).isPanic = false := by
  have hr := stepT_at o ht ha
  unfold stepTRow at hr
  cases h : actT o t a with
  | ok _ => rfl
  | error e => cases e with
    | err _ => rfl
    | errCtx _ _ => rfl
    | panic _ => rw [h] at hr; cases hr

theorem pair_row (o : Options) {q r : Option DataType} {g2 : Bool} (hq : q ∈ tstates o) (hr : r ∈ tstates o)
    (h : sleT o q r = some g2) :
    ((sleT o r q).isSome = true → q = r) ∧ ∀ a ∈ leafTypes o, pairTRow o q r g2 a = true := by
  have hp := List.all_eq_true.mp (List.all_eq_true.mp (table_at pairT_all o) q hq) r hr
  rw [sleT_cv, h] at hp
  simp only [sleT_cv, Bool.and_eq_true, Bool.or_eq_true, decide_eq_true_eq, List.all_eq_true] at hp
  refine ⟨fun hs => hp.1.resolve_left (by cases hq' : sleT o r q <;> simp_all), fun a ha => ?_⟩
  have := hp.2 a ha
  unfold pairTRow at this ⊢
  simpa only [absT_cv, actT_cv, sleT_cv, coerceView_ats] using this

/-- a successful step stays inside the alphabet, keeps the nullable flag (`nullable_sticky`) and absorbing the same type
again changes nothing (`coerce_idem`) -/
theorem step_facts (o : Options) {s s' : LeafSt} {a : DataType} (hs : s ∈ leafStates o) (ha : a ∈ leafTypes o)
    (h : act o s a = .ok s') : s' ∈ leafStates o ∧ (s.2 = true → s'.2 = true) ∧ act o s' a = .ok s' := by
  obtain ⟨t, nl⟩ := s
  obtain ⟨ht, hnull⟩ := mem_leafStates_iff.mp hs
  obtain ⟨t', f, hT, rfl⟩ := act_ok_iff.mp h
  obtain ⟨⟨ty', rfl, hty', h1⟩, ⟨f', h2, h2'⟩, _⟩ := step_row o ht ha hT
  refine ⟨mem_leafStates_iff.mpr ⟨by simp [tstates, hty'], fun e => ?_⟩, fun e => by simp [show nl = true from e],
    act_fix_iff.mpr ⟨f', h2, fun e => by simp [h2' e]⟩⟩
  rcases h1 (Option.some.inj e) with h1 | h1
  · simp [h1]
  · simp [hnull h1]

theorem coerce_idem (o : Options) {s s' : LeafSt} {a : DataType} (hs : s ∈ leafStates o) (ha : a ∈ leafTypes o)
    (h : act o s a = .ok s') : act o s' a = .ok s' := (step_facts o hs ha h).2.2

theorem nullable_sticky (o : Options) {s s' : LeafSt} {a : DataType} (hs : s ∈ leafStates o) (ha : a ∈ leafTypes o)
    (h : act o s a = .ok s') (hn : s.2 = true) : s'.2 = true := (step_facts o hs ha h).2.1 hn

theorem act_no_panic (o : Options) {s : LeafSt} {a : DataType} (hs : s ∈ leafStates o) (ha : a ∈ leafTypes o) :
    (act o s a).isPanic = false := by
  obtain ⟨t, nl⟩ := s
  have := step_np o (mem_leafStates_iff.mp hs).1 ha
  rw [act_flag]
  cases h : actT o t a with
  | ok _ => rfl
  | error e => rw [h] at this; exact this

/-- `mark_nullable` (what `None` / `Some` do) commutes with absorbing a type -/
theorem mark_commutes (o : Options) {s : LeafSt} {a : DataType} (hs : s ∈ leafStates o) (ha : a ∈ leafTypes o) :
    (∀ s', act o s a = .ok s' → act o (mark s) a = .ok (mark s')) ∧
    ((act o s a).isOk = false → (act o (mark s) a).isOk = false) := by
  obtain ⟨t, nl⟩ := s
  simp only [mark]
  rw [act_flag o t nl, act_flag o t true]
  cases actT o t a with
  | error e => exact ⟨fun s' h => (nomatch h), fun _ => rfl⟩
  | ok r => exact ⟨fun s' h => (by cases h; simp [Except.map]), fun h => (nomatch h)⟩

/-! ### the order `sle`: a step is the least upper bound -/

theorem sle_coerceView (o : Options) (s r : LeafSt) : sle o s r = sle o.coerceView s r := by
  unfold sle; cases s.1 <;> simp only [← act_coerceView]

/-- the first arm of `coerce_primitive_type`: the same type again -/
theorem act_self (o : Options) (ty : DataType) (nl : Bool) : act o (some ty, nl) ty = .ok (some ty, nl) := by
  simp [act, coerce_primitive_type]

theorem sle_self (o : Options) (s : LeafSt) : sle o s s = true := by
  obtain ⟨t, nl⟩ := s
  refine sle_iff.mpr ⟨fun ty h => ?_, id⟩
  cases h
  exact act_self o ty nl

theorem sle_refl (o : Options) {s : LeafSt} (_ : s ∈ leafStates o) : sle o s s = true := sle_self o s

theorem step_sle (o : Options) {s s' : LeafSt} {a : DataType} (hs : s ∈ leafStates o) (ha : a ∈ leafTypes o)
    (h : act o s a = .ok s') : sle o s s' = true := by
  obtain ⟨t, nl⟩ := s
  obtain ⟨ht, hnull⟩ := mem_leafStates_iff.mp hs
  obtain ⟨t', f, hT, rfl⟩ := act_ok_iff.mp h
  obtain ⟨_, _, g, h3, h3'⟩ := step_row o ht ha hT
  refine sle_iff_T.mpr ⟨g, h3, fun e => ?_, fun e => by simp [show nl = true from e]⟩
  rcases h3' e with h | h
  · simp [h]
  · simp [hnull h]

/-- what a state has absorbed every state above it has absorbed -/
theorem upRow_holds (o : Options) {q u : LeafSt} {a : DataType} (hq : q ∈ leafStates o) (hu : u ∈ leafStates o)
    (ha : a ∈ leafTypes o) (h1 : act o q a = .ok q) (h2 : sle o q u = true) : act o u a = .ok u := by
  obtain ⟨tq, nq⟩ := q
  obtain ⟨tu, nu⟩ := u
  obtain ⟨g1, a1, f1⟩ := act_fix_iff.mp h1
  obtain ⟨g2, a2, f2, f3⟩ := sle_iff_T.mp h2
  have hrow := (pair_row o (mem_leafStates_iff.mp hq).1 (mem_leafStates_iff.mp hu).1 a2).2 a ha
  unfold pairTRow at hrow
  rw [a1] at hrow
  cases a3 : absT o tu a with
  | none => rw [a3] at hrow; cases hrow
  | some g3 =>
    rw [a3] at hrow
    simp only [Bool.and_eq_true, Bool.or_eq_true, Bool.not_eq_true'] at hrow
    refine act_fix_iff.mpr ⟨g3, a3, fun e => ?_⟩
    rcases hrow.1 with (h | h) | h
    · rw [e] at h; cases h
    · exact f3 (f1 h)
    · exact f2 h

theorem sle_trans (o : Options) {q r u : LeafSt} (hq : q ∈ leafStates o) (hr : r ∈ leafStates o) (hu : u ∈ leafStates o)
    (h1 : sle o q r = true) (h2 : sle o r u = true) : sle o q u = true := by
  refine sle_iff.mpr ⟨fun ty hty => ?_, fun hn => sle_flag h2 (sle_flag h1 hn)⟩
  obtain ⟨t, nl⟩ := q
  cases hty
  exact upRow_holds o hr hu (state_type_mem o hq) ((sle_iff.mp h1).1 ty rfl) h2

theorem stays_absorbed (o : Options) {r r' : LeafSt} {a b : DataType} (hr : r ∈ leafStates o) (ha : a ∈ leafTypes o)
    (hb : b ∈ leafTypes o) (h1 : act o r a = .ok r) (h2 : act o r b = .ok r') : act o r' a = .ok r' :=
  upRow_holds o hr (step_facts o hr hb h2).1 ha h1 (step_sle o hr hb h2)

/-- below an upper bound `r` of `q` and `a` the step from `q` with `a` stays below `r`; it can only fail under
`allow_to_string` -/
theorem lub_step (o : Options) {q r : LeafSt} {a : DataType} (hq : q ∈ leafStates o) (hr : r ∈ leafStates o)
    (ha : a ∈ leafTypes o) (h1 : sle o q r = true) (h2 : act o r a = .ok r) :
    match act o q a with
    | .ok q' => sle o q' r = true
    | .error _ => o.allow_to_string = true := by
  obtain ⟨tq, nq⟩ := q
  obtain ⟨tr, nr⟩ := r
  obtain ⟨g2, a2, f2, f3⟩ := sle_iff_T.mp h1
  obtain ⟨g3, a3, f4⟩ := act_fix_iff.mp h2
  obtain ⟨htr, hnull⟩ := mem_leafStates_iff.mp hr
  have hrow := (pair_row o (mem_leafStates_iff.mp hq).1 htr a2).2 a ha
  unfold pairTRow at hrow
  rw [a3] at hrow
  simp only [Bool.and_eq_true] at hrow
  have hrow := hrow.2
  rw [act_flag]
  cases hT : actT o tq a with
  | error e => rw [hT] at hrow; exact hrow
  | ok x =>
    obtain ⟨t', f⟩ := x
    rw [hT] at hrow
    simp only at hrow
    show sle o (t', f || nq) (tr, nr) = true
    cases a4 : sleT o t' tr with
    | none => rw [a4] at hrow; cases hrow
    | some g4 =>
      rw [a4] at hrow
      simp only [Bool.or_eq_true, Bool.not_eq_true', Bool.or_eq_false_iff, decide_eq_true_eq] at hrow
      have key : g4 = true ∨ f = true → nr = true := fun e => by
        rcases hrow with ((h | h) | h) | h
        · rcases e with e | e <;> simp_all
        · exact f2 h
        · exact f4 h
        · exact hnull h
      refine sle_iff_T.mpr ⟨g4, a4, fun e => key (.inl e), fun e => ?_⟩
      cases f with
      | true => exact key (.inr rfl)
      | false => exact f3 (by simpa using e)

theorem least_step (o : Options) {q q' r : LeafSt} {a : DataType} (hq : q ∈ leafStates o) (hr : r ∈ leafStates o)
    (ha : a ∈ leafTypes o) (h1 : sle o q r = true) (h2 : act o r a = .ok r) (h3 : act o q a = .ok q') :
    sle o q' r = true := by
  have h := lub_step o hq hr ha h1 h2
  rw [h3] at h; exact h

theorem sle_antisymm (o : Options) {r1 r2 : LeafSt} (h1 : r1 ∈ leafStates o) (h2 : r2 ∈ leafStates o)
    (h12 : sle o r1 r2 = true) (h21 : sle o r2 r1 = true) : r1 = r2 := by
  obtain ⟨t1, n1⟩ := r1
  obtain ⟨t2, n2⟩ := r2
  obtain ⟨g, a1, _, f1⟩ := sle_iff_T.mp h12
  obtain ⟨g', a2, _, f2⟩ := sle_iff_T.mp h21
  have e := (pair_row o (mem_leafStates_iff.mp h1).1 (mem_leafStates_iff.mp h2).1 a1).1 (by rw [a2]; rfl)
  subst e
  rw [Bool.eq_iff_iff.mpr ⟨f1, f2⟩]

/-! ### the tables over all 37 states (`SaModel/Lemmas/C07Tables.lean`) follow -/

theorem _root_.SaModel.Lemmas.C07.stepTable_all : coerceOptions.all stepTable = true := by
  refine List.all_eq_true.mpr fun o _ => List.all_eq_true.mpr fun s hs => List.all_eq_true.mpr fun a ha => ?_
  unfold stepRow
  have hnp := act_no_panic o hs ha
  cases h : act o s a with
  | ok s' =>
    obtain ⟨h1, h2, h3⟩ := step_facts o hs ha h
    simp only [Bool.and_eq_true, List.any_eq_true, decide_eq_true_eq, Bool.or_eq_true, Bool.not_eq_true']
    exact ⟨⟨⟨s', h1, rfl⟩, by cases hs2 : s.2 <;> simp_all⟩, h3⟩
  | error e =>
    cases e with
    | err _ => rfl
    | errCtx _ _ => rfl
    | panic _ => rw [h] at hnp; cases hnp

theorem _root_.SaModel.Lemmas.C07.markTable_all : coerceOptions.all markTable = true := by
  refine List.all_eq_true.mpr fun o _ => List.all_eq_true.mpr fun s hs => List.all_eq_true.mpr fun a ha => ?_
  unfold markRow
  obtain ⟨m1, m2⟩ := mark_commutes o hs ha
  cases h : act o s a with
  | ok s' => rw [m1 s' h]; simp
  | error e =>
    have := m2 (by rw [h]; rfl)
    cases h2 : act o (mark s) a with
    | ok _ => rw [h2] at this; cases this
    | error _ => rfl

theorem run_append (o : Options) : ∀ (xs ys : List DataType) (s : LeafSt),
    run o s (xs ++ ys) = match run o s xs with | .ok s' => run o s' ys | .error e => .error e
  | [], ys, s => by simp [run]
  | a :: xs, ys, s => by
    simp only [List.cons_append, run]
    cases act o s a with
    | ok s' => simp only; exact run_append o xs ys s'
    | error e => rfl

theorem run_mem (o : Options) : ∀ (xs : List DataType) (s r : LeafSt), s ∈ leafStates o →
    (∀ a ∈ xs, a ∈ leafTypes o) → run o s xs = .ok r → r ∈ leafStates o
  | [], s, r, hs, _, h => by simp [run] at h; rw [← h]; exact hs
  | a :: xs, s, r, hs, hx, h => by
    simp only [run] at h
    cases h1 : act o s a with
    | ok s' =>
      rw [h1] at h
      exact run_mem o xs s' r (step_facts o hs (hx a (by simp)) h1).1 (fun b hb => hx b (by simp [hb])) h
    | error e => rw [h1] at h; cases h

theorem run_sle (o : Options) : ∀ (xs : List DataType) (s r : LeafSt), s ∈ leafStates o →
    (∀ a ∈ xs, a ∈ leafTypes o) → run o s xs = .ok r → sle o s r = true
  | [], s, r, _, _, h => by simp [run] at h; rw [← h]; exact sle_self o s
  | b :: xs, s, r, hs, hx, h => by
    simp only [run] at h
    cases h2 : act o s b with
    | ok s' =>
      rw [h2] at h
      have hb := hx b (by simp)
      have hs' := (step_facts o hs hb h2).1
      have hx' : ∀ c ∈ xs, c ∈ leafTypes o := fun c hc => hx c (by simp [hc])
      exact sle_trans o hs hs' (run_mem o xs s' r hs' hx' h) (step_sle o hs hb h2) (run_sle o xs s' r hs' hx' h)
    | error e => rw [h2] at h; cases h

theorem run_stays (o : Options) {a : DataType} (ha : a ∈ leafTypes o) (xs : List DataType) (q r : LeafSt)
    (hq : q ∈ leafStates o) (hx : ∀ b ∈ xs, b ∈ leafTypes o) (h1 : act o q a = .ok q) (h : run o q xs = .ok r) :
    act o r a = .ok r :=
  upRow_holds o hq (run_mem o xs q r hq hx h) ha h1 (run_sle o xs q r hq hx h)

theorem run_sticky (o : Options) (xs : List DataType) (s r : LeafSt) (hs : s ∈ leafStates o)
    (hx : ∀ a ∈ xs, a ∈ leafTypes o) (h : run o s xs = .ok r) : s.2 = true → r.2 = true :=
  sle_flag (run_sle o xs s r hs hx h)

theorem run_absorbed (o : Options) : ∀ (xs : List DataType) (s r : LeafSt), s ∈ leafStates o →
    (∀ a ∈ xs, a ∈ leafTypes o) → run o s xs = .ok r → ∀ a ∈ xs, act o r a = .ok r
  | [], _, _, _, _, _ => by simp
  | b :: xs, s, r, hs, hx, h => by
    intro a ha
    simp only [run] at h
    cases h2 : act o s b with
    | ok s' =>
      rw [h2] at h
      have hb := hx b (by simp)
      have hs' := (step_facts o hs hb h2).1
      have hx' : ∀ c ∈ xs, c ∈ leafTypes o := fun c hc => hx c (by simp [hc])
      rcases List.mem_cons.mp ha with rfl | ha'
      · exact run_stays o hb xs s' r hs' hx' (coerce_idem o hs hb h2) h
      · exact run_absorbed o xs s' r hs' hx' h a ha'
    | error e => rw [h2] at h; cases h

/-- a run stays below every upper bound `r` of its start and its samples, and unless `allow_to_string` it succeeds when
there is one -/
theorem run_lub (o : Options) {r : LeafSt} (hr : r ∈ leafStates o) : ∀ (xs : List DataType) (q : LeafSt),
    q ∈ leafStates o → (∀ a ∈ xs, a ∈ leafTypes o) → sle o q r = true → (∀ a ∈ xs, act o r a = .ok r) →
    match run o q xs with
    | .ok q' => sle o q' r = true
    | .error _ => o.allow_to_string = true
  | [], q, _, _, h1, _ => h1
  | b :: xs, q, hq, hx, h1, h2 => by
    have hb := hx b (by simp)
    have hstep := lub_step o hq hr hb h1 (h2 b (by simp))
    simp only [run]
    cases h3 : act o q b with
    | ok q1 =>
      rw [h3] at hstep
      exact run_lub o hr xs q1 (step_facts o hq hb h3).1 (fun c hc => hx c (by simp [hc])) hstep
        (fun c hc => h2 c (by simp [hc]))
    | error e => rw [h3] at hstep; exact hstep

theorem run_least (o : Options) {r : LeafSt} (hr : r ∈ leafStates o) (xs : List DataType) (q q' : LeafSt)
    (hq : q ∈ leafStates o) (hx : ∀ a ∈ xs, a ∈ leafTypes o) (h1 : sle o q r = true) (h2 : ∀ a ∈ xs, act o r a = .ok r)
    (h : run o q xs = .ok q') : sle o q' r = true := by
  have hl := run_lub o hr xs q hq hx h1 h2
  rw [h] at hl; exact hl

/-- `leaf_order_and_repetition` (`C07_permutation` + `C07_repeat` at a leaf position, every option setting including
`allow_to_string`): two sample lists with the same SET of kinds — any order, any multiplicities — that both trace
successfully give the same state -/
theorem leaf_order_and_repetition (o : Options) {xs ys : List DataType} {s r1 r2 : LeafSt} (hs : s ∈ leafStates o)
    (hx : ∀ a ∈ xs, a ∈ leafTypes o) (hset : ∀ a, a ∈ xs ↔ a ∈ ys)
    (h1 : run o s xs = .ok r1) (h2 : run o s ys = .ok r2) : r1 = r2 := by
  have hy : ∀ a ∈ ys, a ∈ leafTypes o := fun a ha => hx a ((hset a).mpr ha)
  have hr1 := run_mem o xs s r1 hs hx h1
  have hr2 := run_mem o ys s r2 hs hy h2
  have a1 := run_absorbed o xs s r1 hs hx h1
  have a2 := run_absorbed o ys s r2 hs hy h2
  refine sle_antisymm o hr1 hr2 ?_ ?_
  · exact run_least o hr2 xs s r1 hs hx (run_sle o ys s r2 hs hy h2) (fun a ha => a2 a ((hset a).mp ha)) h1
  · exact run_least o hr1 ys s r2 hs hy (run_sle o xs s r1 hs hx h1) (fun a ha => a1 a ((hset a).mpr ha)) h2

/-- unless `allow_to_string`, a list whose kinds all occur in a list that traces successfully traces successfully: the
result of the longer run is an upper bound -/
theorem run_ok_of_subset (o : Options) (hno : o.allow_to_string = false) {xs ys : List DataType} {s r : LeafSt}
    (hs : s ∈ leafStates o) (hx : ∀ a ∈ xs, a ∈ leafTypes o) (hsub : ∀ a ∈ ys, a ∈ xs) (h : run o s xs = .ok r) :
    (run o s ys).isOk = true := by
  have hl := run_lub o (run_mem o xs s r hs hx h) ys s hs (fun a ha => hx a (hsub a ha)) (run_sle o xs s r hs hx h)
    (fun a ha => run_absorbed o xs s r hs hx h a (hsub a ha))
  cases hy : run o s ys with
  | ok _ => rfl
  | error e => rw [hy, hno] at hl; cases hl

/-- unless `allow_to_string`, the outcome of a run depends only on the SET of kinds: the same state, or failure for
both lists -/
theorem leaf_same_set (o : Options) (hno : o.allow_to_string = false) {xs ys : List DataType} {s : LeafSt}
    (hs : s ∈ leafStates o) (hx : ∀ a ∈ xs, a ∈ leafTypes o) (hset : ∀ a, a ∈ xs ↔ a ∈ ys) :
    OutEq (run o s xs) (run o s ys) := by
  have hy : ∀ a ∈ ys, a ∈ leafTypes o := fun a ha => hx a ((hset a).mpr ha)
  cases h1 : run o s xs with
  | ok r1 =>
    have hok := run_ok_of_subset o hno hs hx (fun a ha => (hset a).mpr ha) h1
    cases h2 : run o s ys with
    | ok r2 => exact .inl ⟨r1, rfl, by rw [leaf_order_and_repetition o hs hx hset h1 h2]⟩
    | error e => rw [h2] at hok; cases hok
  | error e =>
    cases h2 : run o s ys with
    | ok r2 =>
      have hok := run_ok_of_subset o hno hs hy (fun a ha => (hset a).mp ha) h2
      rw [h1] at hok; cases hok
    | error e' => exact .inr ⟨rfl, rfl⟩

/-- `leaf_permutation` (`C07_permutation` at a leaf position): unless `allow_to_string`, every permutation of the same
samples gives the same outcome — the same state, or failure in both orders — from every reachable state -/
theorem leaf_permutation (o : Options) (hno : o.allow_to_string = false) {l1 l2 : List DataType}
    (hp : l1.Perm l2) (hl : ∀ a ∈ l1, a ∈ leafTypes o) {s : LeafSt} (hs : s ∈ leafStates o) :
    OutEq (run o s l1) (run o s l2) :=
  leaf_same_set o hno hs hl fun _ => hp.mem_iff

/-- `C07_success_order` at a leaf position: unless `allow_to_string`, success does not depend on the order -/
theorem leaf_success_order (o : Options) (hno : o.allow_to_string = false) {l1 l2 : List DataType}
    (hp : l1.Perm l2) (hl : ∀ a ∈ l1, a ∈ leafTypes o) {s : LeafSt} (hs : s ∈ leafStates o) :
    (run o s l1).isOk = (run o s l2).isOk := by
  rcases leaf_permutation o hno hp hl hs with ⟨x, h1, h2⟩ | ⟨h1, h2⟩
  · rw [h1, h2]
  · rw [h1, h2]

theorem run_pair (o : Options) (s : LeafSt) (a b : DataType) : run o s [a, b] = act2 o s a b := by
  simp only [run, act2]
  cases act o s a with
  | ok s' => simp only; cases act o s' b <;> rfl
  | error e => rfl

/-- `coerce_comm`: from any reachable leaf state, absorbing `a` then `b` and `b` then `a` succeed together and agree —
unless `allow_to_string`, where one order may fail while the other succeeds (but two successes still agree) -/
theorem coerce_comm (o : Options) {s : LeafSt} {a b : DataType} (hs : s ∈ leafStates o)
    (ha : a ∈ leafTypes o) (hb : b ∈ leafTypes o) :
    (o.allow_to_string = false → OutEq (act2 o s a b) (act2 o s b a)) ∧
    (∀ x y, act2 o s a b = .ok x → act2 o s b a = .ok y → x = y) := by
  have hx : ∀ c ∈ [a, b], c ∈ leafTypes o := by simp [ha, hb]
  have hset : ∀ c, c ∈ [a, b] ↔ c ∈ [b, a] := by simp [or_comm]
  rw [← run_pair, ← run_pair]
  exact ⟨fun hno => leaf_same_set o hno hs hx hset, fun x y => leaf_order_and_repetition o hs hx hset⟩

theorem run_absorbed_id (o : Options) : ∀ (xs : List DataType) (r : LeafSt), (∀ a ∈ xs, act o r a = .ok r) →
    run o r xs = .ok r
  | [], _, _ => rfl
  | a :: xs, r, h => by
    simp only [run]
    rw [h a (by simp)]
    exact run_absorbed_id o xs r (fun b hb => h b (by simp [hb]))

/-- `leaf_repeat` (`C07_repeat` at a leaf position): tracing a collection twice is tracing it once — the same state on
success, the same failure otherwise -/
theorem leaf_repeat (o : Options) {xs : List DataType} {s : LeafSt} (hs : s ∈ leafStates o)
    (hx : ∀ a ∈ xs, a ∈ leafTypes o) : run o s (xs ++ xs) = run o s xs := by
  rw [run_append]
  cases h : run o s xs with
  | ok r => exact run_absorbed_id o xs r (run_absorbed o xs s r hs hx h)
  | error e => rfl

/-! #### three types at a fresh position, in all six orders -/

theorem act3_eq_run (o : Options) (a b c : DataType) :
    act3 o a b c = match run o (none, false) [a, b, c] with | .ok r => some r | .error _ => none := by
  simp only [act3, act2, run]
  cases act o (none, false) a with
  | error e => rfl
  | ok s1 =>
    simp only
    cases act o s1 b with
    | error e => rfl
    | ok s2 => simp only; cases act o s2 c <;> rfl

/-- the successful ones among outcomes that pairwise agree are all equal to the first -/
theorem somes_agree {σ : Type} {outs : List (Option σ)} (h : ∀ u v, some u ∈ outs → some v ∈ outs → u = v)
    {r : σ} {rest : List σ} (hf : outs.filterMap id = r :: rest) : ∀ r' ∈ rest, r' = r := by
  have hm : ∀ u, u ∈ r :: rest → some u ∈ outs := fun u hu => by rw [← hf] at hu; simpa using hu
  exact fun r' hr' => h r' r (hm r' (by simp [hr'])) (hm r (by simp))

/-- outcomes that succeed together: all of them are among the successful ones, or none -/
theorem somes_all_or_none {σ : Type} : ∀ (outs : List (Option σ)), (∀ x ∈ outs, ∀ y ∈ outs, x.isSome = y.isSome) →
    (outs.filterMap id).length = outs.length ∨ (outs.filterMap id).length = 0
  | [], _ => .inl rfl
  | none :: rest, h => by
    right
    have hn : ∀ x ∈ rest, x = none := fun x hx => by simpa using (h x (by simp [hx]) none (by simp))
    rw [List.length_eq_zero_iff, List.filterMap_eq_nil_iff]
    intro x hx
    rcases List.mem_cons.mp hx with rfl | hx
    · rfl
    · rw [hn x hx]; rfl
  | some u :: rest, h => by
    left
    have hs : ∀ x ∈ some u :: rest, (id x).isSome = true := fun x hx => h x hx (some u) (by simp)
    clear h
    generalize some u :: rest = l at hs
    induction l with
    | nil => rfl
    | cons x l ih =>
      have hx := hs x (by simp)
      cases x with
      | none => cases hx
      | some v => simp [ih fun y hy => hs y (by simp [hy])]

/-- `coerce_assoc_on_success`: whatever the order in which three types meet at a fresh position, all orders that
succeed give the same state; unless `allow_to_string` the six orders succeed or fail together -/
theorem coerce_assoc_on_success (o : Options) {a b c : DataType} (ha : a ∈ leafTypes o) (hb : b ∈ leafTypes o)
    (hc : c ∈ leafTypes o) : tripleRow o.coerceView a b c = true := by
  rw [leafTypes_coerceView] at ha hb hc
  generalize o.coerceView = o at ha hb hc ⊢
  have hs : ((none, false) : LeafSt) ∈ leafStates o := by simp [leafStates]
  let orders := [[a, b, c], [a, c, b], [b, a, c], [b, c, a], [c, a, b], [c, b, a]]
  have hord : ∀ l ∈ orders, ∀ x, x ∈ l ↔ x ∈ [a, b, c] := by
    intro l hl x
    simp only [orders, List.mem_cons, List.not_mem_nil, or_false] at hl
    rcases hl with rfl | rfl | rfl | rfl | rfl | rfl <;> simp [or_comm, or_left_comm]
  have hty : ∀ l ∈ orders, ∀ x ∈ l, x ∈ leafTypes o := by
    intro l hl x hx
    have := (hord l hl x).mp hx
    simp only [List.mem_cons, List.not_mem_nil, or_false] at this
    rcases this with rfl | rfl | rfl <;> assumption
  let out (l : List DataType) : Option LeafSt := match run o (none, false) l with | .ok r => some r | .error _ => none
  have houts : [act3 o a b c, act3 o a c b, act3 o b a c, act3 o b c a, act3 o c a b, act3 o c b a] = orders.map out := by
    simp only [act3_eq_run]; rfl
  have hset : ∀ l1 ∈ orders, ∀ l2 ∈ orders, ∀ x, x ∈ l1 ↔ x ∈ l2 := fun l1 h1 l2 h2 x =>
    (hord l1 h1 x).trans (hord l2 h2 x).symm
  unfold tripleRow
  simp only [houts, Bool.and_eq_true]
  constructor
  · have key : ∀ u v, some u ∈ orders.map out → some v ∈ orders.map out → u = v := ?_
    · split
      · rfl
      · rename_i hf
        simp only [List.all_eq_true, decide_eq_true_eq]
        exact somes_agree key hf
    intro u v hu hv
    obtain ⟨l1, h1, e1⟩ := List.mem_map.mp hu
    obtain ⟨l2, h2, e2⟩ := List.mem_map.mp hv
    simp only [out] at e1 e2
    split at e1 <;> cases e1
    split at e2 <;> cases e2
    rename_i hr1 _ hr2
    exact leaf_order_and_repetition o hs (hty l1 h1) (hset l1 h1 l2 h2) hr1 hr2
  · cases hno : o.allow_to_string with
    | true => rfl
    | false =>
      have := somes_all_or_none (orders.map out) fun x hx y hy => by
        obtain ⟨l1, h1, rfl⟩ := List.mem_map.mp hx
        obtain ⟨l2, h2, rfl⟩ := List.mem_map.mp hy
        rcases leaf_same_set o hno hs (hty l1 h1) (hset l1 h1 l2 h2) with ⟨r, e1, e2⟩ | ⟨e1, e2⟩
        · simp only [out, e1, e2]
        · simp only [out]
          cases h1 : run o (none, false) l1 with
          | ok _ => rw [h1] at e1; cases e1
          | error _ => cases h2 : run o (none, false) l2 with
            | ok _ => rw [h2] at e2; cases e2
            | error _ => rfl
      rcases this with h | h <;> rw [h] <;> rfl

/-! ### the lattice is the tracer's: `ensure_primitive` on `Unknown` / `Primitive` nodes, any name and path -/

theorem ite_prop {α} {P : α → Prop} {c : Prop} [Decidable c] {x y : α} (hx : P x) (hy : P y) :
    P (if c then x else y) := by split <;> assumption

/-- the strategy of a primitive node stays `None` (every call site of `TracerSerializer` passes `None`) -/
theorem coerce_strategy_none (o : Options) (pty ty : DataType) (nl : Bool) :
    ∀ a b c, coerce_primitive_type o pty nl none ty none = .ok (a, b, c) → c = none := by
  unfold coerce_primitive_type
  repeat (first
    | (refine ite_prop (P := fun r => ∀ a b c, r = Except.ok (a, b, c) → c = none) ?_ ?_
       · intro a b c h; cases h; rfl)
    | (intro a b c h; cases h))

theorem ensure_primitive_embed (o : Options) (name path : String) (s : LeafSt) (ty : DataType) :
    (LeafSt.embed name path s).ensure_primitive o ty =
      match act o s ty with
      | .ok s' => .ok (LeafSt.embed name path s')
      | .error e => .error e := by
  obtain ⟨t, nl⟩ := s
  cases t with
  | none => rfl
  | some pty =>
    simp only [LeafSt.embed, Tracer.ensure_primitive, Tracer.ensure_primitive_with_strategy, act]
    cases h : coerce_primitive_type o pty nl none ty none with
    | ok v =>
      obtain ⟨a, b, c⟩ := v
      have hc := coerce_strategy_none o pty ty nl a b c h
      subst hc
      rfl
    | error e => rfl

theorem mark_nullable_embed (name path : String) (s : LeafSt) :
    (LeafSt.embed name path s).mark_nullable = LeafSt.embed name path (mark s) := by
  obtain ⟨t, nl⟩ := s
  cases t <;> rfl

/-- every primitive leaf sample is absorbed through `ensure_primitive` with a type of the alphabet -/
theorem absorb_prim (c : Code) (o : Options) (t : Tracer) {x : SVal} {ty : DataType} (h : leafTypeOf o x = some ty) :
    absorb c o t x = t.ensure_primitive o ty := by
  cases x <;> simp only [leafTypeOf, Option.some.injEq, reduceCtorEq] at h <;> subst h <;>
    simp only [absorb, Tracer.ensure_number, Tracer.ensure_primitive]

theorem strType_mem (o : Options) (s : String) : strType o s ∈ leafTypes o := by
  unfold strType leafTypes
  repeat' split
  all_goals simp

theorem leafTypeOf_mem (o : Options) {x : SVal} {ty : DataType} (h : leafTypeOf o x = some ty) : ty ∈ leafTypes o := by
  cases x <;> simp only [leafTypeOf, Option.some.injEq, reduceCtorEq] at h <;> subst h
  case str s => exact strType_mem o s
  case int t _ => cases t <;> simp [intDataType, leafTypes]
  all_goals simp [leafTypes]

/-- `None` and `Some(x)` at a leaf position: `mark_nullable`, then `x` -/
theorem absorb_none_embed (c : Code) (o : Options) (name path : String) (s : LeafSt) :
    absorb c o (LeafSt.embed name path s) .none = .ok (LeafSt.embed name path (mark s)) := by
  simp only [absorb, mark_nullable_embed]

theorem absorb_some_embed (c : Code) (o : Options) (name path : String) (s : LeafSt) (v : SVal) :
    absorb c o (LeafSt.embed name path s) (.some v) = absorb c o (LeafSt.embed name path (mark s)) v := by
  simp only [absorb, mark_nullable_embed]

/-! ### repaired and pinned code on the defect witnesses (whole pipeline `from_samples(Items(..))`, by evaluation) -/

def wRec : SVal := .record "S" (.cons "b" 0 (.int .i32 1) (.cons "a" 0 (.int .i32 2) .nil))
def wMap : SVal := .map (.cons (.str "b") (.int .i32 1) (.cons (.str "a") (.int .i32 2) .nil))

/-- finding #26, repaired: struct-then-map and map-then-struct at one position give the same schema -/
theorem C07_struct_map_mode :
    fromSamples .fixed {} (itemsOf [wRec, wMap]) = fromSamples .fixed {} (itemsOf [wMap, wRec]) ∧
    (fromSamples .fixed {} (itemsOf [wRec, wMap])).isOk = true := by decide +kernel

/-- `some b`: both runs succeed and `b` says whether the schemas agree up to the allowed field order -/
def bothOkEquiv (x y : R (List Field)) : Option Bool :=
  match x, y with
  | .ok a, .ok b => some (Spec.schemaEquiv a b)
  | _, _ => none

/-- finding #26, pinned: the two orders succeed with schemas that differ even up to field order -/
theorem C07_struct_map_mode_pinned :
    bothOkEquiv (fromSamplesPinned {} (itemsOf [wRec, wMap])) (fromSamplesPinned {} (itemsOf [wMap, wRec])) = some false := by
  decide +kernel

def wT2 : SVal := .tuple (.cons (.int .i32 1) (.cons (.int .i32 2) .nil))
def wT3 : SVal := .tuple (.cons (.int .i32 1) (.cons (.int .i32 2) (.cons (.int .i32 3) .nil)))

/-- is the field called `name` of the single traced column (a struct) nullable? -/
def childNullable (r : R (List Field)) (name : String) : Option Bool :=
  match r with
  | .ok [f] => match f.dataType with
    | .struct fs => (fs.toList.find? (fun g => g.name = name)).map Field.nullable
    | _ => none
  | _ => none

/-- finding #25, repaired: `(1,2)` and `(1,2,3)` at one position: the third field is nullable, in both orders, and the
two orders give the same schema -/
theorem C07_tuple_arity :
    fromSamples .fixed {} (itemsOf [wT2, wT3]) = fromSamples .fixed {} (itemsOf [wT3, wT2]) ∧
    childNullable (fromSamples .fixed {} (itemsOf [wT2, wT3])) "2" = some true := by decide +kernel

/-- finding #25, pinned: the third field is not nullable although the first sample lacks it -/
theorem C07_tuple_arity_pinned :
    childNullable (fromSamplesPinned {} (itemsOf [wT2, wT3])) "2" = some false := by decide +kernel

def absorb2 (c : Code) (o : Options) (t : Tracer) (x y : SVal) : R Tracer :=
  match absorb c o t x with
  | .ok t' => absorb c o t' y
  | .error e => .error e

theorem absorb2_leaf (c : Code) (o : Options) (name path : String) (s : LeafSt) {x y : SVal} {a b : DataType}
    (hx : leafTypeOf o x = some a) (hy : leafTypeOf o y = some b) :
    absorb2 c o (LeafSt.embed name path s) x y =
      match act2 o s a b with
      | .ok s' => .ok (LeafSt.embed name path s')
      | .error e => .error e := by
  unfold absorb2 act2
  rw [absorb_prim c o _ hx, ensure_primitive_embed]
  cases act o s a with
  | ok s' => simp only; rw [absorb_prim c o _ hy, ensure_primitive_embed] <;> try rfl
  | error e => rfl

/-- `absorb_comm_leaf`: the swap law of `absorb` itself, for any two primitive leaf samples at a position that holds
an `Unknown` or `Primitive` node (any name, any path, any reachable state).  It is the leaf case of the general
`absorb_comm` (SaModel/Props/C07Tree.lean), which covers all nested samples. -/
theorem absorb_comm_leaf (c : Code) (o : Options) (hno : o.allow_to_string = false) (name path : String)
    {s : LeafSt} (hs : s ∈ leafStates o) {x y : SVal} {a b : DataType}
    (hx : leafTypeOf o x = some a) (hy : leafTypeOf o y = some b) :
    OutEq (absorb2 c o (LeafSt.embed name path s) x y) (absorb2 c o (LeafSt.embed name path s) y x) := by
  rw [absorb2_leaf c o name path s hx hy, absorb2_leaf c o name path s hy hx]
  rcases (coerce_comm o hs (leafTypeOf_mem o hx) (leafTypeOf_mem o hy)).1 hno with ⟨r, h1, h2⟩ | ⟨h1, h2⟩
  · rw [h1, h2]; exact OutEq.refl _
  · cases h3 : act2 o s a b with
    | ok _ => rw [h3] at h1; cases h1
    | error _ =>
      cases h4 : act2 o s b a with
      | ok _ => rw [h4] at h2; cases h2
      | error _ => exact .inr ⟨rfl, rfl⟩

end SaModel.Props.C07
