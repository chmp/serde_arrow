import SaModel.Props.SiteLinkCheck
import SaModel.Props.C17
import SaModel.Props.C17Sites
/-
C17, obligation `gen_arith_site_links` restricted to the readers: every `model:<definition>@<theorem>` class of
`translator/arith_sites.json` carried by a site under `serde_arrow/src/internal/deserialization/`, `utils/array_view_ext.rs`
or `deserializer.rs` names (1) a unique definition of the reader model that (4) contains a `panic` branch where the site
unwinds by itself, (2) a unique theorem under `SaModel.Props` whose statement (3) NAMES that definition — the per-primitive
theorems of `Props/C17Sites.lean`, `unionSelect_no_panic` — and the definition is reachable from the statements of the
hypothesis-free headline theorems `new_no_panic`, `read_no_panic`, `readAs_no_panic`.  What the four conditions are and what
they do not show: header of `Props/C16Links.lean` (that file checks all references and needs C14 – C16 built; this one needs
C17 only).  A broken reference fails the build of this module: `./check C17` reports `VIOLATION … no-failing-input-found`.
-/
namespace SaModel.Props.C17Links
open SaModel.Generated

#check_site_links readers

/-- non-vacuity: the readers carry references (offsets / types / data indexing of five primitives) -/
theorem gen_reader_site_links_counted :
    5 ≤ (ArithSiteLinks.links.filter (·.2.2.1)).length
    ∧ (ArithSiteLinks.links.filter (·.2.2.1)).all (fun l => l.2.2.2.2.length > 0) = true := by decide +kernel

end SaModel.Props.C17Links
