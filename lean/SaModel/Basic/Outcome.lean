/-
Outcome monad shared by every model: a Rust operation either returns a value,
returns `Err(..)` (class `err`) or unwinds (class `panic`).  "No panic" properties are
ordinary theorems `f x ≠ .error (.panic _)`.
-/
namespace SaModel

inductive Fail where
  | err (msg : String)
  | panic (site : String)
  /-- an error that already carries annotations (`ContextSupport::ctx`: the innermost context wins) -/
  | errCtx (msg : String) (ann : List (String × String))
deriving Repr, BEq, DecidableEq, Inhabited

abbrev R := Except Fail

instance {α} [DecidableEq α] : DecidableEq (R α) := fun a b =>
  match a, b with
  | .ok x, .ok y => if h : x = y then isTrue (by rw [h]) else isFalse (by intro h'; cases h'; exact h rfl)
  | .error x, .error y => if h : x = y then isTrue (by rw [h]) else isFalse (by intro h'; cases h'; exact h rfl)
  | .ok _, .error _ => isFalse (by intro h; cases h)
  | .error _, .ok _ => isFalse (by intro h; cases h)

def fail {α} (msg : String) : R α := .error (.err msg)
def panic {α} (site : String) : R α := .error (.panic site)

def R.isOk {α} : R α → Bool
  | .ok _ => true
  | .error _ => false

def R.isErr {α} : R α → Bool
  | .error (.err _) => true
  | .error (.errCtx _ _) => true
  | _ => false

def R.isPanic {α} : R α → Bool
  | .error (.panic _) => true
  | _ => false

/-- outcome class used by the correspondence relation: messages are not compared -/
def R.cls {α} : R α → String
  | .ok _ => "ok"
  | .error (.err _) => "err"
  | .error (.errCtx _ _) => "err"
  | .error (.panic _) => "panic"

/-- `ContextSupport::ctx`: annotate an error that carries no annotations yet; never touches `ok`/`panic` -/
def ctx {α} (ann : List (String × String)) : R α → R α
  | .error (.err msg) => if ann.isEmpty then .error (.err msg) else .error (.errCtx msg ann)
  | r => r

/-- `ctx` never touches a success -/
theorem ctx_eq_ok {α} (ann : List (String × String)) (r : R α) (v : α) : ctx ann r = .ok v ↔ r = .ok v := by
  unfold ctx
  split
  · split <;> simp
  · rfl

/-- a sequence of two steps succeeds exactly when both do -/
theorem R.bind_eq_ok {α β} {x : R α} {f : α → R β} {b : β} : (x >>= f) = .ok b ↔ ∃ a, x = .ok a ∧ f a = .ok b := by
  cases x with
  | error e => exact ⟨fun h => (nomatch h), fun ⟨_, h, _⟩ => (nomatch h)⟩
  | ok a => exact ⟨fun h => ⟨a, rfl, h⟩, fun ⟨_, h, hf⟩ => by cases h; exact hf⟩

theorem R.ok_bind {α β} (a : α) (f : α → R β) : (Except.ok a >>= f) = f a := rfl

theorem R.bind_ok_inv {α β} {x : R α} {f : α → R β} {b : β} (h : (x >>= f) = .ok b) : ∃ a, x = .ok a ∧ f a = .ok b :=
  R.bind_eq_ok.mp h

theorem R.bind_unit_iff {x : R Unit} {f : Unit → R Unit} : (x >>= f) = .ok () ↔ x = .ok () ∧ f () = .ok () :=
  R.bind_eq_ok.trans ⟨fun ⟨_, hx, hf⟩ => ⟨hx, hf⟩, fun ⟨hx, hf⟩ => ⟨(), hx, hf⟩⟩

/-- two binds with the same first step agree if their continuations agree on its successful result -/
theorem R.bind_congr_ok {α β} {x : R α} {f g : α → R β} (h : ∀ a, x = .ok a → f a = g a) : (x >>= f) = (x >>= g) := by
  cases x with
  | ok a => exact h a rfl
  | error e => rfl

theorem R.toOption_bind {α β} (x : R α) (f : α → R β) : (x >>= f).toOption = x.toOption.bind fun a => (f a).toOption := by
  cases x <;> rfl

theorem R.ok_of_isOk {α} {r : R α} (h : r.isOk = true) : ∃ v, r = .ok v := by
  cases r with
  | ok v => exact ⟨v, rfl⟩
  | error e => cases h

theorem R.mapM_congr {α β} {f g : α → R β} : ∀ {l : List α}, (∀ a ∈ l, f a = g a) → l.mapM f = l.mapM g
  | [], _ => rfl
  | a :: l, h => by
    rw [List.mapM_cons, List.mapM_cons, h a (by simp), R.mapM_congr (fun b hb => h b (by simp [hb]))]

/-- a `mapM` succeeds exactly when every element does, with the results in order -/
theorem R.mapM_eq_ok_iff {α β} {f : α → R β} : ∀ {l : List α} {xs : List β}, l.mapM f = .ok xs ↔ l.map f = xs.map .ok
  | [], xs => by
    rw [List.mapM_nil, List.map_nil]
    exact ⟨fun h => by cases h; rfl, fun h => by cases xs <;> first | rfl | cases h⟩
  | a :: l, xs => by
    rw [List.mapM_cons, R.bind_eq_ok, List.map_cons]
    constructor
    · rintro ⟨b, hb, h⟩
      obtain ⟨bs, hbs, h⟩ := R.bind_eq_ok.mp h
      cases h
      rw [List.map_cons, hb, R.mapM_eq_ok_iff.mp hbs]
    · intro h
      cases xs with
      | nil => cases h
      | cons b bs =>
        rw [List.map_cons, List.cons.injEq] at h
        exact ⟨b, h.1, R.bind_eq_ok.mpr ⟨bs, R.mapM_eq_ok_iff.mpr h.2, rfl⟩⟩

/-- `mapM` of a function that succeeds on every element -/
theorem R.mapM_ok_of_forall {α β} {f : α → R β} {g : α → β} {l : List α} (h : ∀ x ∈ l, f x = .ok (g x)) :
    l.mapM f = .ok (l.map g) :=
  R.mapM_eq_ok_iff.mpr (by rw [List.map_map]; exact List.map_congr_left h)

theorem R.mapM_ok_length {α β} {f : α → R β} {l : List α} {xs : List β} (h : l.mapM f = .ok xs) : xs.length = l.length := by
  have := congrArg List.length (R.mapM_eq_ok_iff.mp h)
  rw [List.length_map, List.length_map] at this
  exact this.symm

/-- a successful `mapM` succeeded on every element -/
theorem R.mapM_ok_mem {α β} {f : α → R β} {l : List α} {xs : List β} (h : l.mapM f = .ok xs) {a : α} (ha : a ∈ l) :
    ∃ b, f a = .ok b := by
  obtain ⟨b, _, hb⟩ := List.mem_map.1 (R.mapM_eq_ok_iff.mp h ▸ List.mem_map_of_mem ha : f a ∈ xs.map .ok)
  exact ⟨b, hb.symm⟩

theorem R.mapM_error_of_mem {α β} {g : α → R β} {l : List α} {a : α} (ha : a ∈ l) (he : ∃ e, g a = .error e) :
    ∃ e, l.mapM g = .error e := by
  cases h : l.mapM g with
  | error e => exact ⟨e, rfl⟩
  | ok xs =>
    obtain ⟨b, hb⟩ := R.mapM_ok_mem h ha
    obtain ⟨e, he⟩ := he
    rw [he] at hb; cases hb

/-- `mapM` is monotone in the function, on the success side -/
theorem R.mapM_mono {α β} {g1 g2 : α → R β} {l : List α} {vs : List β}
    (himp : ∀ a ∈ l, ∀ v, g1 a = .ok v → g2 a = .ok v) (h : l.mapM g1 = .ok vs) : l.mapM g2 = .ok vs := by
  rw [← h]
  exact R.mapM_congr fun a ha => by
    obtain ⟨b, hb⟩ := R.mapM_ok_mem h ha
    rw [hb, himp a ha b hb]

/-- converting back: if `g` undoes `f` on every success, it undoes a successful `mapM f` -/
theorem R.mapM_inverse {α β} {f : α → R β} {g : β → R α} (h : ∀ a b, f a = .ok b → g b = .ok a) :
    ∀ {l : List α} {l' : List β}, l.mapM f = .ok l' → l'.mapM g = .ok l
  | [], l', hl => by
    rw [List.mapM_nil] at hl
    cases hl; rfl
  | a :: l, l', hl => by
    rw [List.mapM_cons] at hl
    obtain ⟨b, hb, hl⟩ := R.bind_eq_ok.mp hl
    obtain ⟨bs, hbs, hl⟩ := R.bind_eq_ok.mp hl
    cases hl
    rw [List.mapM_cons, h a b hb, R.mapM_inverse h hbs]
    rfl

/-- annotations of an outcome (empty for `ok`, `panic` and un-annotated errors) -/
def R.ann {α} : R α → List (String × String)
  | .error (.errCtx _ a) => a
  | _ => []

end SaModel
