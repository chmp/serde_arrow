import SaModel.Props.ConstGenTemporal
import SaModel.Wording.Listed
/-
WORDING — not an obligation of any property.  The message literals of the model compared with the message texts the translator
reads out of the sources NOW (`Generated/Constants*.lean`).  No property of serde_arrow constrains the English wording of an
error and the correspondence suites never compare message text, so a reworded message must not raise an alarm: no check
builds this module as an obligation (false-alarm probes g09 / g18: DESIGN.md sections 11.1 and 7.2).  `./check --wording` builds
`SaModel.Wording.All` and reports a failure as a NOTE.
-/
namespace SaModel.Props.ConstGenTemporal
open SaModel SaModel.Generated

def verbatim : List String := ["Cannot convert interval style spans to a duration"]

theorem gen_messages : verbatim.all (fun m => ConstantsTemporal.messages.any (fun t => decide (t = m))) = true := by
  rw [Wording.all_any_eq_iff (fun m => m)]
  simp only [verbatim, List.forall_mem_cons, List.not_mem_nil, false_imp_iff, implies_true, and_true]
  unfold ConstantsTemporal.messages
  repeat' constructor

/-- model texts the source continues or fills with a placeholder: the source text is `model prefix ++ middle ++ model rest` -/
def withPlaceholder : List (String × String × String) :=
  [("Cannot represent the leap second", " {v}", " as a time since midnight"),
   ("Unsupported timestamp value", ": {ts}", ""),
   ("Unsupported date value", ": {ts} days since the epoch are out of range", ""),
   ("Timestamp", " '{date_time}'", " cannot be converted to nanoseconds"
      ++ ". The dates that can be represented as nanoseconds are between 1677-09-21T00:12:44.0 and 2262-04-11T23:47:16.854775804.")]

theorem gen_message_placeholders :
    withPlaceholder.all (fun e => ConstantsTemporal.messages.any (fun t => decide (t = e.1 ++ e.2.1 ++ e.2.2))) = true := by
  rw [Wording.all_any_eq_iff (fun e : String × String × String => e.1 ++ e.2.1 ++ e.2.2)]
  simp only [withPlaceholder, List.forall_mem_cons, List.not_mem_nil, false_imp_iff, implies_true, and_true, String.reduceAppend]
  unfold ConstantsTemporal.messages
  repeat' constructor

end SaModel.Props.ConstGenTemporal
