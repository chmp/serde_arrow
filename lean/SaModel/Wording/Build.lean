import SaModel.Props.ConstGenBuild
import SaModel.Wording.Listed
/-
WORDING — not an obligation of any property.  The message literals of the model compared with the message texts the translator
reads out of the sources NOW (`Generated/Constants*.lean`).  No property of serde_arrow constrains the English wording of an
error and the correspondence suites never compare message text, so a reworded message must not raise an alarm: no check
builds this module as an obligation (false-alarm probes g09 / g18: DESIGN.md sections 11.1 and 7.2).  `./check --wording` builds
`SaModel.Wording.All` and reports a failure as a NOTE.
-/
namespace SaModel.Props.ConstGenBuild
open SaModel SaModel.Generated

/-- the message texts of the model's builders that are the source's texts verbatim -/
def verbatim : List String :=
  ["Cannot push null for non-nullable array", "Invalid offset array: expected at least a single element",
   "Time32 only supports second or millisecond resolutions", "Time64 only supports nanosecond or microsecond resolutions",
   "Missing keys field for map", "Missing values field for map", "Union with non consecutive type ids are not supported",
   "Unknown variant does not support serialize_default", "Unknown variant does not support serialize_none",
   "serialize_unit/serialize_none is not supported", "Timezone {tz} is not supported",
   "Unknown variant does not support serialize_struct_start", "Unknown variant does not support serialize_unit",
   "Unknown variant does not support serialize_map_start", "Cannot serialize enum with data as string",
   "Unknown variant does not support serialize_newtype_variant", "Unknown variant does not support serialize_tuple_variant_start",
   "Unknown variant does not support serialize_struct_variant_start", "Unknown variant does not support serialize_unit_struct",
   "Invalid map: the last key has no value", "Invalid map: a key was serialized before the value of the previous key",
   "Invalid map: a value was serialized without a key", "Decimal128 only supports precisions between 1 and 38"]

theorem gen_messages : verbatim.all (fun m => ConstantsBuild.messages.any (fun t => decide (t = m))) = true := by
  rw [Wording.all_any_eq_iff (fun m => m)]
  simp only [verbatim, List.forall_mem_cons, List.not_mem_nil, false_imp_iff, implies_true, and_true]
  unfold ConstantsBuild.messages
  repeat' constructor

/-- model texts the source continues with a placeholder: (model text, continuation in the source) -/
def prefixes : List (String × String) :=
  [("Duplicate field", " {key}"), ("Duplicate field", " {name}"),
   ("BytesView overflow: the length {len} or the buffer offset {offset} exceeds i32::MAX", ""),
   ("BytesView overflow: the element length {len} exceeds i32::MAX", ""),
   ("BytesView overflow: the buffer offset {start} exceeds i32::MAX", "")]

theorem gen_message_prefixes :
    prefixes.all (fun e => ConstantsBuild.messages.any (fun t => decide (t = e.1 ++ e.2))) = true := by
  rw [Wording.all_any_eq_iff (fun e : String × String => e.1 ++ e.2)]
  simp only [prefixes, List.forall_mem_cons, List.not_mem_nil, false_imp_iff, implies_true, and_true, String.reduceAppend]
  unfold ConstantsBuild.messages
  repeat' constructor

end SaModel.Props.ConstGenBuild
