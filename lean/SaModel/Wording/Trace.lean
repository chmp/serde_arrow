import SaModel.Props.ConstGenTrace
import SaModel.Wording.Listed
/-
WORDING — not an obligation of any property.  The message literals of the model compared with the message texts the translator
reads out of the sources NOW (`Generated/Constants*.lean`).  No property of serde_arrow constrains the English wording of an
error and the correspondence suites never compare message text, so a reworded message must not raise an alarm: no check
builds this module as an obligation (false-alarm probes g09 / g18: DESIGN.md sections 11.1 and 7.2).  `./check --wording` builds
`SaModel.Wording.All` and reports a failure as a NOTE.
-/
namespace SaModel.Props.ConstGenTrace
open SaModel SaModel.Generated

theorem gen_depth_limit_message_ref : ConstantsTrace.depthLimitMessage = "{RECURSIVE_TYPE_WARNING}" := rfl

/-- the message of the model is the beginning of the text in the source -/
theorem gen_depth_limit_message :
    ConstantsTrace.RECURSIVE_TYPE_WARNING =
      "Too deeply nested type detected" ++ ": recursive types are not supported in schema tracing" := by
  simp only [ConstantsTrace.RECURSIVE_TYPE_WARNING, String.reduceAppend]

/-- the message texts of the model that are the source's texts verbatim -/
def verbatim : List String :=
  ["Check must be called on the root tracer", "The root type cannot be nullable", "No records found to determine schema",
   "Invalid variant index", "Invalid state", "Invalid argument: cannot interpret key as string"]

theorem gen_messages : verbatim.all (fun m => ConstantsTrace.messages.any (fun t => decide (t = m))) = true := by
  rw [Wording.all_any_eq_iff (fun m => m)]
  simp only [verbatim, List.forall_mem_cons, List.not_mem_nil, false_imp_iff, implies_true, and_true]
  unfold ConstantsTrace.messages
  repeat' constructor

/-- model texts that are the beginning of the source's text: (model text, how the source continues) -/
def prefixes : List (String × String) :=
  [("Could not determine schema from the type after {budget} iterations",
    ". Consider increasing the budget option or using `from_samples`."),
   ("Too deeply nested type detected", ": recursive types are not supported in schema tracing"),
   ("Invalid name for overwritten field", " {path:?}: found {overwrite_name:?}, expected {tracer_name:?}"),
   ("Overwritten fields could not be found", ": missing fields {missing:?}, known fields: {paths:?}")]

theorem gen_message_prefixes :
    prefixes.all (fun e => (ConstantsTrace.RECURSIVE_TYPE_WARNING :: ConstantsTrace.messages).any
      (fun t => decide (t = e.1 ++ e.2))) = true := by
  rw [Wording.all_any_eq_iff (fun e : String × String => e.1 ++ e.2)]
  simp only [prefixes, List.forall_mem_cons, List.not_mem_nil, false_imp_iff, implies_true, and_true, String.reduceAppend]
  unfold ConstantsTrace.RECURSIVE_TYPE_WARNING ConstantsTrace.messages
  repeat' constructor

end SaModel.Props.ConstGenTrace
