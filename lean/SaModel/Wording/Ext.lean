import SaModel.Props.ConstGenExt
import SaModel.Wording.Listed
/-
WORDING — not an obligation of any property.  The message literals of the model compared with the message texts the translator
reads out of the sources NOW (`Generated/Constants*.lean`).  No property of serde_arrow constrains the English wording of an
error and the correspondence suites never compare message text, so a reworded message must not raise an alarm: no check
builds this module as an obligation (false-alarm probes g09 / g18: DESIGN.md sections 11.1 and 7.2).  `./check --wording` builds
`SaModel.Wording.All` and reports a failure as a NOTE.
-/
namespace SaModel.Props.ConstGenExt
open SaModel SaModel.Generated

/-- the message texts of the model that are the source's texts verbatim -/
def verbatim : List String :=
  ["The element field of FixedShapeTensorField must be named \"element\"",
   "The number of elements of FixedShapeTensorField does not fit into i32", "Invalid uniform_shape value",
   "Number of dim names must be equal to the number of dimensions",
   "Number of permutation entries must be equal to the number of dimensions"]

theorem gen_messages : verbatim.all (fun m => ConstantsExt.messages.any (fun t => decide (t = m))) = true := by
  rw [Wording.all_any_eq_iff (fun m => m)]
  simp only [verbatim, List.forall_mem_cons, List.not_mem_nil, false_imp_iff, implies_true, and_true]
  unfold ConstantsExt.messages
  repeat' constructor

/-- model texts the source fills with placeholders: the model says `a ++ c`, the source `a ++ b ++ c ++ d` -/
def withPlaceholder : List (String × String × String × String) :=
  [("Invalid permutation: index", " {i}", " is not in range", " 0..{len}"),
   ("Invalid permutation: index", " {i}", " found multiple times", ""),
   ("Invalid permutation: index", " {i}", " is not present", "")]

theorem gen_message_placeholders :
    withPlaceholder.all (fun e => ConstantsExt.messages.any (fun t => decide (t = e.1 ++ e.2.1 ++ e.2.2.1 ++ e.2.2.2))) = true := by
  rw [Wording.all_any_eq_iff (fun e : String × String × String × String => e.1 ++ e.2.1 ++ e.2.2.1 ++ e.2.2.2)]
  simp only [withPlaceholder, List.forall_mem_cons, List.not_mem_nil, false_imp_iff, implies_true, and_true, String.reduceAppend]
  unfold ConstantsExt.messages
  repeat' constructor

end SaModel.Props.ConstGenExt
