/-
How the comparisons of `SaModel/Wording/*.lean` are proved.  Each says that some texts all occur in a table the translator
generated.  Evaluating the statement compares every text with every entry, and a comparison of two strings by evaluation
encodes both as UTF-8; instead each text is shown to be in the table by its position there (`List.Mem.head` at the entry that
is the text, `List.Mem.tail` in front of it), which compares nothing: the proof fails when the entry is not there.
-/
namespace SaModel.Wording

theorem all_any_eq_iff {α β} [DecidableEq β] (f : α → β) (l : List α) (t : List β) :
    l.all (fun e => t.any (fun x => decide (x = f e))) = true ↔ ∀ e ∈ l, f e ∈ t := by
  simp

end SaModel.Wording
