import SaModel.Props.ConstGenSchema
import SaModel.Wording.Listed
/-
WORDING — not an obligation of any property.  The message literals of the model compared with the message texts the translator
reads out of the sources NOW (`Generated/Constants*.lean`).  No property of serde_arrow constrains the English wording of an
error and the correspondence suites never compare message text, so a reworded message must not raise an alarm: no check
builds this module as an obligation (false-alarm probes g09 / g18: DESIGN.md sections 11.1 and 7.2).  `./check --wording` builds
`SaModel.Wording.All` and reports a failure as a NOTE.
-/
namespace SaModel.Props.ConstGenSchema
open SaModel SaModel.Generated

theorem gen_term_depth_message : ConstantsSchema.termDepthMessage = "Term is nested too deeply" := rfl

/-- the message texts of the model that are the source's texts verbatim (dsl.rs, schema/serde/deserialize.rs, schema/mod.rs,
utils/value.rs) -/
def verbatim : List String :=
  ["Invalid unicode escape in quoted string", "Missing end quote", "Invalid escape sequence in quoted string",
   "No identifier found", "Missing ')'", "Term is nested too deeply", "Expected identifier, found quoted string",
   "Expected identifier, found call", "Expected string, found identifier", "Expected call, found quoted string",
   "Invalid children for List: expected one child", "Invalid children for LargeList: expected one child",
   "Invalid children for Dictionary: expected two children", "Invalid children for Map: expected one child",
   "Invalid FixedSizedBinary with negative number of elements", "Time32 field must have Second or Millisecond unit",
   "Time64 field must have Microsecond or Nanosecond unit", "Invalid child data type for map, expected struct with 2 fields",
   "Invalid FixedSizeList with negative number of elements", "Cannot extract string from non-string value",
   "missing field `fields`"]

theorem gen_messages : verbatim.all (fun m => ConstantsSchema.messages.any (fun t => decide (t = m))) = true := by
  rw [Wording.all_any_eq_iff (fun m => m)]
  simp only [verbatim, List.forall_mem_cons, List.not_mem_nil, false_imp_iff, implies_true, and_true]
  unfold ConstantsSchema.messages
  repeat' constructor

end SaModel.Props.ConstGenSchema
