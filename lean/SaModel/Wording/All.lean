import SaModel.Props.ConstGen
import SaModel.Wording.Build
import SaModel.Wording.Temporal
import SaModel.Wording.Trace
import SaModel.Wording.Schema
import SaModel.Wording.Decimal
import SaModel.Wording.Ext
/-
WORDING — not an obligation of any property.  The message literals of the model compared with the message texts the translator
reads out of the sources NOW (`Generated/Constants*.lean`).  No property of serde_arrow constrains the English wording of an
error and the correspondence suites never compare message text, so a reworded message must not raise an alarm: no check
builds this module as an obligation (false-alarm probes g09 / g18: DESIGN.md sections 11.1 and 7.2).  `./check --wording` builds
`SaModel.Wording.All` and reports a failure as a NOTE.
-/
namespace SaModel.Props.ConstGen
open SaModel SaModel.Generated

/-- the message texts of the reader models (`SaModel/Read/*.lean`, `Spec/Decode.lean`) that are the source's texts verbatim -/
def readerVerbatim : List String :=
  ["Cannot deserialize from arrays with different lengths", "Exhausted deserializer",
   "Unsupported: cannot deserialize enums with data from strings", "Invalid access in bitset",
   "Required value was not defined", "Access beyond array length", "Out of bounds access",
   "invalid state in bytes deserialization", "Null for non-nullable type: dictionaries do not support nullable values",
   "Unsupported dictionary array type", "Only dense unions are supported", "Offsets and type ids must have the same length",
   "Only unions with consecutive type ids are currently supported", "Access beyond bounds"]

theorem gen_reader_messages :
    readerVerbatim.all (fun m => ConstantsMessages.readerTexts.any (fun t => decide (t = m))) = true := by
  rw [Wording.all_any_eq_iff (fun m => m)]
  simp only [readerVerbatim, List.forall_mem_cons, List.not_mem_nil, false_imp_iff, implies_true, and_true]
  unfold ConstantsMessages.readerTexts
  repeat' constructor

/-- the area tables of messages are selections by file of the global table (checked for two small areas) -/
theorem area_messages_listed :
    (ConstantsDecimal.messages ++ ConstantsExt.messages).all
      (fun m => ConstantsMessages.messages.any (fun e => decide (e.2 = m))) = true := by
  simp only [List.all_eq_true, List.any_eq_true, decide_eq_true_eq, Prod.exists, exists_eq_right]
  simp only [ConstantsDecimal.messages, ConstantsExt.messages, List.cons_append, List.nil_append, List.forall_mem_cons, List.not_mem_nil, false_imp_iff, implies_true, and_true]
  unfold ConstantsMessages.messages
  repeat' constructor

end SaModel.Props.ConstGen
