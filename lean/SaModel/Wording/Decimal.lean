import SaModel.Props.ConstGenDecimal
import SaModel.Wording.Listed
/-
WORDING — not an obligation of any property.  The message literals of the model compared with the message texts the translator
reads out of the sources NOW (`Generated/Constants*.lean`).  No property of serde_arrow constrains the English wording of an
error and the correspondence suites never compare message text, so a reworded message must not raise an alarm: no check
builds this module as an obligation (false-alarm probes g09 / g18: DESIGN.md sections 11.1 and 7.2).  `./check --wording` builds
`SaModel.Wording.All` and reports a failure as a NOTE.
-/
namespace SaModel.Props.ConstGenDecimal
open SaModel SaModel.Generated

/-- the message texts of the model that are the source's texts verbatim -/
def verbatim : List String :=
  ["Invalid decimal: not enough precision", "Invalid decimal: not enough scale, the given number would be truncated",
   "Invalid decimal: only ascii digits are supported", "Invalid decimal: no digits found",
   "Invalid decimal: cannot convert non-finite float"]

theorem gen_messages :
    verbatim.all (fun m => ConstantsDecimal.messages.any (fun t => decide (t = m))) = true ∧
    ConstantsDecimal.precisionMessage = "Decimal128 only supports precisions between 1 and 38" := by
  refine ⟨?_, rfl⟩
  rw [Wording.all_any_eq_iff (fun m => m)]
  simp only [verbatim, List.forall_mem_cons, List.not_mem_nil, false_imp_iff, implies_true, and_true]
  unfold ConstantsDecimal.messages
  repeat' constructor

end SaModel.Props.ConstGenDecimal
