import SaModel.Lemmas.C10TakePush
import SaModel.Lemmas.C03Final
import SaModel.Lemmas.OpsInd
/-
Bytes-view builders against the specification.

* the descriptor round trip: what a SUCCESSFUL `push_scalar_value` / `end_seq` wrote designates exactly the pushed bytes
  (`view_value_exact`, `viewPushValue_exact`, `viewSeq_exact`, `view_push_row`) — the builders refuse lengths and
  buffer offsets beyond `i32::MAX`, so nothing is truncated;
* `WFB_small`: the state invariant implies `Lemmas.C03.ViewSmall` (every view buffer below 4 GiB);
* `push_small`: buffers only grow — `ViewSmall` of the state AFTER an operation implies it of the state before (instances
  of `PushCases`, `DefaultCases`, `ScalarCases`; no invariant needed).  The walk of R2' (`obs_cases`) threads `ViewSmall` of the
  after-state down to every intermediate state with it; at the top it comes from `WFB_small`;
* `NoView`: schemas without view columns.
-/
namespace SaModel.Build
open SaModel SaModel.Spec
open SaModel.Lemmas.C03 (ViewSmall ViewSmallL)

theorem ViewSmallL_set : ∀ (fs : BL) (i : Nat) (c c' : B) (m : FieldMeta), fs.get? i = some (c, m) →
    (ViewSmall c' → ViewSmall c) → ViewSmallL (fs.set i c') → ViewSmallL fs
  | .nil, _, _, _, _, h, _, _ => by simp [BL.get?] at h
  | .cons b m r, 0, c, c', _, h, hc, hs => by
    simp [BL.get?] at h; obtain ⟨rfl, rfl⟩ := h
    simp only [BL.set, ViewSmallL] at hs ⊢
    exact ⟨hc hs.1, hs.2⟩
  | .cons b m r, i + 1, c, c', m', h, hc, hs => by
    simp only [BL.get?] at h
    simp only [BL.set, ViewSmallL] at hs ⊢
    exact ⟨hs.1, ViewSmallL_set r i c c' m' h hc hs.2⟩

theorem ViewSmallL_get : ∀ (fs : BL) (i : Nat) (x : B × FieldMeta), fs.get? i = some x → ViewSmallL fs → ViewSmall x.1
  | .nil, _, _, h, _ => by simp [BL.get?] at h
  | .cons b m r, 0, x, h, hs => by
    simp [BL.get?] at h; subst h
    simp only [ViewSmallL] at hs
    exact hs.1
  | .cons b m r, i + 1, x, h, hs => by
    simp only [BL.get?] at h
    simp only [ViewSmallL] at hs
    exact ViewSmallL_get r i x h hs.2

theorem ViewSmallL_set_get (fs : BL) (i : Nat) (c c' : B) (m : FieldMeta) (h : fs.get? i = some (c, m))
    (hs : ViewSmallL (fs.set i c')) : ViewSmall c' :=
  ViewSmallL_get _ i (c', m) (BL.get?_set_eq fs i c' (c, m) h) hs

/-! ### the descriptor round trip: below 4 GiB a pushed value reads back as itself -/

theorem viewBytes_packInline (buf value : Bytes) (h : value.length ≤ 12) : viewBytes buf (packInline value) = value := by
  simp only [viewBytes, Lemmas.C03.decodeView_inline [buf] value h]

theorem viewBytes_packExtern (buf value : Bytes) (hlen : 12 < value.length) (hsmall : (buf ++ value).length < 2 ^ 32) :
    viewBytes (buf ++ value) (packExtern value 0 buf.length) = value := by
  simp only [viewBytes, Lemmas.C03.decodeView_extern buf value hlen hsmall]

/-- the descriptor a successful push wrote designates exactly the pushed bytes (`viewPushValue_ok` / `viewSeq_ok`:
an out-of-line value is only accepted while length and offset are ≤ `i32::MAX`, so nothing is truncated) -/
theorem view_value_exact {buf value extra : Bytes} {d : Nat}
    (h : (d = packInline value ∧ extra = [] ∧ value.length ≤ 12) ∨
      (d = packExtern value 0 buf.length ∧ extra = value ∧ 12 < value.length ∧ (buf ++ value).length < 2 ^ 32)) :
    viewBytes (buf ++ extra) d = value := by
  rcases h with ⟨hd, he, hle⟩ | ⟨hd, he, hgt, hsm⟩
  · rw [hd, he]; exact viewBytes_packInline _ _ hle
  · rw [hd, he]; exact viewBytes_packExtern buf value hgt hsm

/-- `push_scalar_value`: one more descriptor, the buffer possibly extended, the descriptor designates exactly the
pushed bytes -/
theorem viewPushValue_exact {views : List Nat} {buf value : Bytes} {r : List Nat × Bytes}
    (h : viewPushValue views buf value = .ok r) :
    ∃ d extra, r = (views ++ [d], buf ++ extra) ∧ (decodeView [buf ++ extra] d).isOk = true ∧
      viewBytes (buf ++ extra) d = value := by
  obtain ⟨d, extra, hr, hok, _, hc⟩ := viewPushValue_ok h
  exact ⟨d, extra, hr, hok, view_value_exact hc⟩

theorem viewSeq_exact {views : List Nat} {buf value : Bytes} {r : List Nat × Bytes}
    (h : viewSeq views buf value = .ok r) :
    ∃ d extra, r = (views ++ [d], buf ++ extra) ∧ (decodeView [buf ++ extra] d).isOk = true ∧
      viewBytes (buf ++ extra) d = value :=
  viewPushValue_exact (viewSeq_pushValue h)

/-- the row a value pushed into a bytes-view builder appends (`hsm`: the buffer of the result is below 4 GiB — every
successful push guarantees it, `WFB_small`) -/
theorem view_push_row {p : String} {ty : ViewTy} {v : Validity} {views : List Nat} {buf : Bytes}
    (hwf : WFB (.bytesView p ty v views buf)) (value : Bytes) {d : Nat} {extra : Bytes}
    (hok : (decodeView [buf ++ extra] d).isOk = true)
    (hval : viewBytes (buf ++ extra) d = value)
    (hsm : ViewSmall (.bytesView p ty (v.map (· ++ [true])) (views ++ [d]) (buf ++ extra))) :
    dec (.bytesView p ty (v.map (· ++ [true])) (views ++ [d]) (buf ++ extra)) =
      dec (.bytesView p ty v views buf) ++ [bytesVal (ty == .utf8View) value] := by
  simp only [ViewSmall] at hsm
  obtain ⟨_, g2⟩ := view_step hwf true d extra hok hsm
  rw [rowOf_true] at g2
  rw [g2, hval]

/-! ### placeholders and nulls (buffers are not touched), scalars (a view buffer grows) -/

theorem small_default : DefaultCases (fun b _ b' => ViewSmall b' → ViewSmall b) (fun fs _ fs' => ViewSmallL fs' → ViewSmallL fs) where
  defNull _ := trivial
  defUnknown := id
  defLeaf _ _ := trivial
  defBytes _ _ := trivial
  defView _ := id
  defFixedSizeBinary _ _ := trivial
  defList _ := id
  defFixedSizeList _ _ ih := ih
  defMap _ := id
  defStruct _ _ ih := ih
  defDict _ ih hs := ⟨ih hs.1, hs.2⟩
  defUnionNil := id
  defUnion hg _ _ ih := ViewSmallL_set _ _ _ _ _ hg ih
  allNil _ := trivial
  allCons _ ih _ ihr hs := ⟨ih hs.1, ihr hs.2⟩

theorem pushDefaultK_small : ∀ (b : B) (k : Nat) (b' : B), pushDefaultK b k = .ok b' → ViewSmall b' → ViewSmall b :=
  small_default.default

theorem pushDefaultKAt_small : ∀ (fs : BL) (j k : Nat) (fs' : BL), pushDefaultKAt fs j k = .ok fs' →
    ViewSmallL fs' → ViewSmallL fs := by
  intro fs j k fs' h
  cases hg : fs.get? j with
  | none => rw [pushDefaultKAt_none fs j k hg] at h; cases h; exact id
  | some cm =>
    rw [pushDefaultKAt_eq fs j k cm.1 cm.2 hg] at h
    obtain ⟨c', h1, h2⟩ := R.bind_ok_inv h
    cases h2
    exact ViewSmallL_set _ _ _ _ _ hg (pushDefaultK_small _ _ _ h1)

theorem pushNone_small : ∀ (b : B) (b' : B), pushNone b = .ok b' → ViewSmall b' → ViewSmall b :=
  fun b b' h => pushDefaultK_small b 1 b' (pushNone_ok_iff.1 h).2

theorem viewPushValue_small {views : List Nat} {buf value : Bytes} {r : List Nat × Bytes}
    (hp : viewPushValue views buf value = .ok r) (h : r.2.length < 2 ^ 32) : buf.length < 2 ^ 32 := by
  obtain ⟨d, extra, rfl, _⟩ := viewPushValue_ok hp
  simp only [List.length_append] at h; omega

theorem viewSeq_small {views : List Nat} {buf value : Bytes} {r : List Nat × Bytes}
    (hp : viewSeq views buf value = .ok r) (h : r.2.length < 2 ^ 32) : buf.length < 2 ^ 32 :=
  viewPushValue_small (viewSeq_pushValue hp) h

theorem small_scalar (ext : Ext) : ScalarCases ext (fun b _ b' => ViewSmall b' → ViewSmall b) where
  null _ := trivial
  leaf _ _ _ := trivial
  bytes _ _ _ _ _ := trivial
  view _ hp _ := viewPushValue_small hp
  fixedSizeBinary _ _ _ := trivial
  dictOld _ _ _ ih hs := ⟨ih hs.1, hs.2⟩
  dictNew _ _ _ ihv _ ihk hs := ⟨ihk hs.1, ihv hs.2⟩

theorem pushScalar_small (ext : Ext) : ∀ (b : B) (x : SVal) (b' : B), pushScalar ext b x = .ok b' →
    ViewSmall b' → ViewSmall b :=
  (small_scalar ext).scalar

/-! ### struct rows and union rows -/

/-- struct states: the children's buffers of `s` are bounded by those of `s'` -/
def SSmall (s' s : SS) : Prop := ViewSmallL s'.fields → ViewSmallL s.fields

theorem SSmall.refl (s : SS) : SSmall s s := id
theorem SSmall.trans {a b c : SS} (h1 : SSmall a b) (h2 : SSmall b c) : SSmall a c := fun h => h2 (h1 h)
theorem SSmall.next (s : SS) (n : Nat) : SSmall { s with next := n } s := id

theorem SS.start_small {s s' : SS} (h : s.start = .ok s') : SSmall s' s := by
  simp only [SS.start] at h
  obtain ⟨v', h1, h2⟩ := (bind_ok _ _ _).1 h
  cases h2
  exact id

theorem endFields_small : ∀ (fs : BL) (seen : List Bool) (fs' : BL), endFields fs seen = .ok fs' →
    ViewSmallL fs' → ViewSmallL fs :=
  endFields_ok (fun _ => trivial) (fun _ ih hs => ⟨hs.1, ih hs.2⟩)
    (fun _ h0 _ ih hs => ⟨pushNone_small _ _ h0 hs.1, ih hs.2⟩)

theorem SS.finishRow_small {s s' : SS} (h : s.finishRow = .ok s') : SSmall s' s := by
  simp only [SS.finishRow] at h
  obtain ⟨fs, h1, h2⟩ := (bind_ok _ _ _).1 h
  cases h2
  exact endFields_small _ _ _ h1

/-- a struct row: `start`, fields whose children only grew, `end` -/
theorem row_small {s s1 s2 s3 : SS} (h1 : s.start = .ok s1) (h2 : SSmall s2 s1) (h3 : s2.finishRow = .ok s3) :
    ViewSmall s3.toB → ViewSmall s.toB :=
  (SS.finishRow_small h3).trans (h2.trans (SS.start_small h1))

/-- … and the variant's child after the row is one of the children of the result -/
theorem union_row_small_child {p fs types offs cur} {i : Nat} {pc : B → R B} {b' : B}
    (h : (do
      let (c, types', offs', cur') ← serializeVariant fs types offs cur i
      let c' ← pc c
      pure (.union p (fs.set i c') types' offs' cur') : R B) = .ok b') (hs : ViewSmall b') :
    ∀ c c' m, fs.get? i = some (c, m) → pc c = .ok c' → ViewSmall c' := by
  obtain ⟨⟨c, t', o', cur'⟩, h1, h⟩ := (bind_ok _ _ _).1 h
  obtain ⟨c', h2, h⟩ := (bind_ok _ _ _).1 h
  cases h
  obtain ⟨m, co, hget, _, _, _, _, hcur⟩ := serializeVariant_ok h1
  simp only at hget hcur
  simp only [ViewSmall] at hs
  intro c0 c0' m0 hget0 hpc0
  rw [hget] at hget0
  cases hget0
  rw [h2] at hpc0
  cases hpc0
  exact ViewSmallL_set_get _ _ c c' m hget hs

/-! ### the push block -/

/-- going back over any row a push writes, view buffers only shrink -/
theorem small_cases (ext : Ext) : PushCases ext (fun b _ b' => ViewSmall b' → ViewSmall b) (fun s _ _ s' => SSmall s' s)
    (fun _ el _ _ r => ViewSmall r.1 → ViewSmall el) (fun el _ _ r => ViewSmall r.1 → ViewSmall el)
    (fun s _ s' => SSmall s' s) (fun s _ s' => SSmall s' s) (fun s _ s' => SSmall s' s) (fun s _ s' => SSmall s' s)
    (fun _ ks vs _ r => ViewSmall r.2.1 ∧ ViewSmall r.2.2 → ViewSmall ks ∧ ViewSmall vs)
    (fun _ _ ks vs _ r => ViewSmall r.2.1 ∧ ViewSmall r.2.2 → ViewSmall ks ∧ ViewSmall vs) where
  fwdSome h := h
  fwdNewtype h := h
  null _ h := pushNone_small _ _ h
  scalar _ h := pushScalar_small ext _ _ _ h
  list _ _ _ _ ih := ih
  listBytes _ _ _ ih := ih
  fixedSizeList _ _ _ ih := ih
  binary _ _ _ _ _ _ _ := trivial
  binaryView _ _ _ h3 := viewSeq_small h3
  fixedSizeBinary _ _ _ _ := trivial
  structTuple _ _ h1 _ ih h3 := row_small h1 ih h3
  structRecord h1 _ ih h3 := row_small h1 ih h3
  structMap h1 _ ih h3 := row_small h1 (ih.trans (SSmall.next _ _)) h3
  structMapRaw h1 _ ih h3 := row_small h1 (ih.trans (SSmall.next _ _)) h3
  map _ _ _ ih := ih
  mapRaw _ _ _ ih := ih
  union _ hget _ _ _ _ ih := ViewSmallL_set _ _ _ _ _ hget ih
  element _ hget _ ih := ViewSmallL_set _ _ _ _ _ hget ih
  elemsNil := id
  elemsCons _ _ ih _ ihr hs := ih (ihr hs)
  countNil := id
  countCons _ ih _ ihr hs := ih (ihr hs)
  toStructLoopCases := StructRel.loops (Rel := fun s s' => SSmall s' s)
    ⟨SSmall.refl, fun h1 h2 => h2.trans h1, SSmall.next, fun _ => id⟩
  mapEntriesNil := id
  mapEntriesCons _ _ ihk _ ihv _ ih hs := ⟨ihk (ih hs).1, ihv (ih hs).2⟩
  mapOpsNil := id
  mapOpsKey _ _ ihk _ ih hs := ⟨ihk (ih hs).1, (ih hs).2⟩
  mapOpsValue _ ihv _ ih hs := ⟨(ih hs).1, ihv (ih hs).2⟩

theorem push_small (ext : Ext) : ∀ (x : SVal) (b b' : B), push ext b x = .ok b' → ViewSmall b' → ViewSmall b :=
  (small_cases ext).push

theorem pushElems_small (ext : Ext) : ∀ (xs : SVals) (large : Bool) (el : B) (offs : List Int) (r : B × List Int),
    pushElems ext large el offs xs = .ok r → ViewSmall r.1 → ViewSmall el :=
  (small_cases ext).elems

theorem pushByteElems_small (ext : Ext) (large : Bool) (bs : Bytes) (el : B) (offs : List Int) (r : B × List Int)
    (h : pushByteElems ext large el offs bs = .ok r) : ViewSmall r.1 → ViewSmall el :=
  pushElems_small ext _ large el offs r (pushByteElems_eq ext large bs el offs ▸ h)

theorem pushCountElems_small (ext : Ext) : ∀ (xs : SVals) (el : B) (c : Nat) (r : B × Nat),
    pushCountElems ext el c xs = .ok r → ViewSmall r.1 → ViewSmall el :=
  (small_cases ext).count

theorem pushTupleElems_small (ext : Ext) : ∀ (xs : SVals) (s s' : SS), pushTupleElems ext s xs = .ok s' → SSmall s' s :=
  (small_cases ext).tuple

theorem pushFields_small (ext : Ext) : ∀ (fs : SFields) (s s' : SS), pushFields ext s fs = .ok s' → SSmall s' s :=
  (small_cases ext).fields

theorem pushStructEntries_small (ext : Ext) : ∀ (es : SEntries) (s s' : SS),
    pushStructEntries ext s es = .ok s' → SSmall s' s :=
  (small_cases ext).structEntries

theorem pushStructOps_small (ext : Ext) : ∀ (ops : SMapOps) (s s' : SS),
    pushStructOps ext s ops = .ok s' → SSmall s' s :=
  (small_cases ext).structOps

theorem pushMapEntries_small (ext : Ext) : ∀ (es : SEntries) (offs : List Int) (ks vs : B) (r : List Int × B × B),
    pushMapEntries ext offs ks vs es = .ok r → ViewSmall r.2.1 ∧ ViewSmall r.2.2 → ViewSmall ks ∧ ViewSmall vs :=
  (small_cases ext).mapEntries

theorem pushMapOps_small (ext : Ext) : ∀ (ops : SMapOps) (pd : Bool) (offs : List Int) (ks vs : B) (r : List Int × B × B),
    pushMapOps ext pd offs ks vs ops = .ok r → ViewSmall r.2.1 ∧ ViewSmall r.2.2 → ViewSmall ks ∧ ViewSmall vs :=
  (small_cases ext).mapOps

end SaModel.Build

/-! ### the state invariant implies `ViewSmall` -/

namespace SaModel.Build
open SaModel SaModel.Spec
open SaModel.Lemmas.C03 (ViewSmall ViewSmallL)

/-- every well-formed builder state has its view buffers below 4 GiB: the state invariant carries the bound (a successful
`push_scalar_value` / `end_seq` keeps length and offset ≤ `i32::MAX`); already the weak invariant does
(`Lemmas.C03.WFH_small`) -/
theorem WFB_small : ∀ (b : B), WFB b → ViewSmall b :=
  fun b h => Lemmas.C03.WFH_small b (WFH_of_WFB b h)
theorem WFL_small : ∀ (fs : BL) (len : Nat), WFL fs len → ViewSmallL fs :=
  fun fs len h => Lemmas.C03.WFHL_small fs len (WFHL_of_WFL fs len h)
theorem WFU_small : ∀ (fs : BL) (cur : List Int), WFU fs cur → ViewSmallL fs :=
  fun fs cur h => Lemmas.C03.WFHU_small fs cur (WFHU_of_WFU fs cur h)

end SaModel.Build

/-! ### schemas without view types: `ViewSmall` is automatic -/

namespace SaModel.Build
open SaModel SaModel.Spec
open SaModel.Lemmas.C03 (ViewSmall ViewSmallL)

mutual
/-- the builder tree contains no bytes-view builder (a property of the schema: invariant under `take`) -/
def NoView : B → Prop
  | .bytesView _ _ _ _ _ => False
  | .list _ _ _ _ _ el => NoView el
  | .fixedSizeList _ _ _ _ _ _ el => NoView el
  | .map _ _ _ _ ks vs => NoView ks ∧ NoView vs
  | .struct _ _ _ fs _ _ _ => NoViewL fs
  | .dictionary _ idx vals _ => NoView idx ∧ NoView vals
  | .union _ fs _ _ _ => NoViewL fs
  | _ => True
def NoViewL : BL → Prop
  | .nil => True
  | .cons b _ r => NoView b ∧ NoViewL r
end

mutual
theorem NoView_takeRest : ∀ (b : B), NoView (takeRest b) ↔ NoView b
  | .null _ _ | .unknownVariant _ | .leaf _ _ _ _ | .bytes _ _ _ _ _ | .bytesView _ _ _ _ _
  | .fixedSizeBinary _ _ _ _ _ _ => Iff.rfl
  | .list _ _ _ _ _ el | .fixedSizeList _ _ _ _ _ _ el => NoView_takeRest el
  | .map _ _ _ _ ks vs | .dictionary _ ks vs _ => by
    simp only [takeRest, NoView, NoView_takeRest ks, NoView_takeRest vs]
  | .struct _ _ _ fs _ _ _ | .union _ fs _ _ _ => NoViewL_takeRest fs
theorem NoViewL_takeRest : ∀ (fs : BL), NoViewL (takeRestAll fs) ↔ NoViewL fs
  | .nil => Iff.rfl
  | .cons b _ r => by simp only [takeRestAll, NoViewL, NoView_takeRest b, NoViewL_takeRest r]
end

theorem NoView.of_takeRest {b b' : B} (h : takeRest b' = takeRest b) (hs : NoView b) : NoView b' :=
  (NoView_takeRest b').1 (h ▸ (NoView_takeRest b).2 hs)

mutual
theorem NoView.small : ∀ (b : B), NoView b → ViewSmall b
  | .null _ _, _ => trivial
  | .unknownVariant _, _ => trivial
  | .leaf _ _ _ _, _ => trivial
  | .bytes _ _ _ _ _, _ => trivial
  | .bytesView _ _ _ _ _, h => by simp [NoView] at h
  | .fixedSizeBinary _ _ _ _ _ _, _ => trivial
  | .list _ _ _ _ _ el, h => by simp only [NoView] at h; simp only [ViewSmall]; exact NoView.small el h
  | .fixedSizeList _ _ _ _ _ _ el, h => by simp only [NoView] at h; simp only [ViewSmall]; exact NoView.small el h
  | .map _ _ _ _ ks vs, h => by
    simp only [NoView] at h; simp only [ViewSmall]; exact ⟨NoView.small ks h.1, NoView.small vs h.2⟩
  | .struct _ _ _ fs _ _ _, h => by simp only [NoView] at h; simp only [ViewSmall]; exact NoViewL.small fs h
  | .dictionary _ idx vals _, h => by
    simp only [NoView] at h; simp only [ViewSmall]; exact ⟨NoView.small idx h.1, NoView.small vals h.2⟩
  | .union _ fs _ _ _, h => by simp only [NoView] at h; simp only [ViewSmall]; exact NoViewL.small fs h
theorem NoViewL.small : ∀ (fs : BL), NoViewL fs → ViewSmallL fs
  | .nil, _ => by simp [ViewSmallL]
  | .cons b _ r, h => by
    simp only [NoViewL] at h; simp only [ViewSmallL]; exact ⟨NoView.small b h.1, NoViewL.small r h.2⟩
end

end SaModel.Build
