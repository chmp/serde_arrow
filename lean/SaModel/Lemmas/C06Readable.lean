import SaModel.Lemmas.C06Side
import SaModel.Lemmas.C03Read
import SaModel.Lemmas.C03ReadPhys
import SaModel.Lemmas.SchemaAll
/-
C06: the READER-side schema conditions of the bridge `Props/C03Read.lean` hold for every schema `from_samples` traces
(options without overwrites): `readableF` (types / strategies `ArrayDeserializer::new` supports) always, `physFreeDT`
(no FixedSizeList / Dictionary) when no option asks for dictionary-encoded strings.

For an abstract field predicate `P` closed under the shapes `to_field` produces (`Closed`), `P` holds of every traced
field (`closed_walk`, an instance of `to_field_induct`); instantiated here twice.
-/
namespace SaModel.Lemmas.C06
open SaModel SaModel.Trace

/-- `P` holds of every field shape `Tracer::to_field` can produce, given it holds of the children -/
structure Closed (o : Options) (P : Field → Prop) : Prop where
  null : ∀ n nl, P (.mk n .null nl [])
  leaf : ∀ n nl ty, (some ty, nl) ∈ leafStates o → P (.mk n ty nl [])
  dict : ∀ n nl, (o.string_dictionary_encoding = true ∨ o.enums_without_data_as_strings = true) →
    P (default_dictionary_field n nl o.string_type)
  unknownVariant : P unknown_variant_field
  list : ∀ n nl item, P item → P (.mk n (.list item) nl []) ∧ P (.mk n (.largeList item) nl [])
  map : ∀ n nl kf vf, P kf → P vf →
    P (.mk n (.map (Field.mk "entries" (.struct (Fields.ofList [kf, vf])) false []) false) nl [])
  struct : ∀ n nl (l : List Field) md, (md = [] ∨ md = strategyMeta .mapAsStruct ∨ md = strategyMeta .tupleAsStruct) →
    (∀ f ∈ l, P f) → P (.mk n (.struct (Fields.ofList l)) nl md)
  union : ∀ n nl (l : List (Int × Field)), (∀ p ∈ l, P p.2) → P (.mk n (.union (UFields.ofList l) .dense) nl [])

theorem closed_walk (o : Options) (h0 : o.overwrites = []) {P : Field → Prop} (hP : Closed o P) :
    (∀ t f, t.to_field o = .ok f → WF o t → P f) ∧
    (∀ ts l, ts.to_fields o = .ok l → WFT o ts → ∀ f ∈ l, P f) ∧
    (∀ fs l, fs.to_fields o = .ok l → (∃ b, WFF o b fs) → ∀ f ∈ l, P f) ∧
    (∀ vs idx l, vs.to_fields o idx = .ok l → WFV o vs → ∀ p ∈ l, P p.2) := by
  refine to_field_induct o (fun t f => WF o t → P f) (fun ts l => WFT o ts → ∀ f ∈ l, P f)
    (fun fs l => (∃ b, WFF o b fs) → ∀ f ∈ l, P f) (fun vs _ l => WFV o vs → ∀ p ∈ l, P p.2)
    (over_nil h0) ?_ ?_ ?_ ?_ ?_ ?_ ?_ ?_ ?_ ?_ ?_ ?_ ?_ ?_ ?_
  · exact fun n p nl _ => hP.null n true
  · intro n p nl ty st f h hw
    obtain ⟨rfl, hl⟩ := hw
    rcases to_field_node h0 h with ⟨_, rfl⟩ | ⟨_, _, ⟨_, rfl⟩ | ⟨hd, rfl⟩⟩ | ⟨_, _, rfl⟩
    · exact hP.null n true
    · exact hP.leaf n nl ty hl
    · exact hP.dict n nl (.inl hd)
    · exact hP.leaf n nl ty hl
  · intro n p nl i item ih hw
    split
    · exact (hP.list n nl item (ih hw)).2
    · exact (hP.list n nl item (ih hw)).1
  · exact fun n p nl k v kf vf ihk ihv hw => hP.map n nl kf vf (ihk hw.1) (ihv hw.2)
  · exact fun n p nl fs s l _ ih => ⟨fun hw => hP.struct n nl l [] (.inl rfl) (ih ⟨s, hw⟩),
      fun hw => hP.struct n nl _ _ (.inr (.inl rfl)) (fun g hg => ih ⟨s, hw⟩ g ((mem_sortByName l g).1 hg))⟩
  · exact fun n p nl ts l _ ih hw => hP.struct n nl l _ (.inr (.inr rfl)) (ih hw)
  · exact fun n p nl vs _ he _ => hP.dict n nl (.inr he)
  · exact fun n p nl vs l _ ih hw => hP.union n nl l (ih hw)
  · exact fun _ _ h => nomatch h
  · exact fun t r f l ih ihr hw => List.forall_mem_cons.mpr ⟨ih hw.1, ihr hw.2⟩
  · exact fun _ _ h => nomatch h
  · exact fun n ls t r f l ih ihr ⟨b, hw⟩ => List.forall_mem_cons.mpr ⟨ih hw.2.1, ihr ⟨b, hw.2.2⟩⟩
  · exact fun _ _ _ h => nomatch h
  · exact fun r idx l _ ih hw => List.forall_mem_cons.mpr ⟨hP.unknownVariant, ih hw⟩
  · exact fun n t r idx f l _ _ ih ihr hw => List.forall_mem_cons.mpr ⟨ih hw.1, ihr hw.2⟩

theorem to_field_closed (o : Options) (h0 : o.overwrites = []) {P : Field → Prop} (hP : Closed o P) :
    ∀ (t : Tracer) (f : Field), WF o t → t.to_field o = .ok f → P f :=
  fun t f hw h => (closed_walk o h0 hP).1 t f h hw

theorem to_fieldsT_closed (o : Options) (h0 : o.overwrites = []) {P : Field → Prop} (hP : Closed o P) :
    ∀ (ts : Tracers) (l : List Field), WFT o ts → ts.to_fields o = .ok l → ∀ f ∈ l, P f :=
  fun ts l hw h => (closed_walk o h0 hP).2.1 ts l h hw

theorem to_fieldsF_closed (o : Options) (h0 : o.overwrites = []) {P : Field → Prop} (hP : Closed o P) (b : Nat) :
    ∀ (fs : TFields) (l : List Field), WFF o b fs → fs.to_fields o = .ok l → ∀ f ∈ l, P f :=
  fun fs l hw h => (closed_walk o h0 hP).2.2.1 fs l h ⟨b, hw⟩

theorem to_fieldsV_closed (o : Options) (h0 : o.overwrites = []) {P : Field → Prop} (hP : Closed o P) :
    ∀ (vs : Variants) (idx : Nat) (l : List (Int × Field)), WFV o vs → vs.to_fields o idx = .ok l → ∀ p ∈ l, P p.2 :=
  fun vs idx l hw h => (closed_walk o h0 hP).2.2.2 vs idx l h hw

open SaModel.Lemmas.C03 in

theorem toLower_UTC : "UTC".toLower = "utc" := by
  rw [String.toLower, String.map_eq_internal]
  decide

open SaModel.Lemmas.C03 in
theorem tzReadable_UTC : tzReadable (some "UTC") = true := by
  simp only [tzReadable, toLower_UTC]; decide

open SaModel.Lemmas.C03 in
theorem readable_leafTypes (o : Options) : ∀ ty ∈ leafTypes o, readableDT ty = true := by
  simp only [leafTypes, List.forall_mem_cons, List.not_mem_nil, false_imp_iff, implies_true, and_true]
  refine ⟨rfl, rfl, rfl, rfl, rfl, rfl, rfl, rfl, rfl, rfl, rfl, rfl, ?_, rfl, rfl, tzReadable_UTC, rfl, rfl⟩
  simp only [Options.string_type]; split <;> rfl

open SaModel.Lemmas.C03 in
theorem closed_readable (o : Options) : Closed o (fun f => readableF f = true) where
  null := fun n nl => by simp [readableF, readableDT, strategyKnown, Read.strategyOk, List.lookup]
  leaf := fun n nl ty h => by
    simp [readableF, readable_leafTypes o ty (Props.C07.state_type_mem o h), strategyKnown, Read.strategyOk, List.lookup]
  dict := fun n nl _ => by
    simp only [default_dictionary_field, Options.string_type]
    split <;> simp [readableF, readableDT, Build.isIntDT, isUtf8DT, strategyKnown, Read.strategyOk, List.lookup]
  unknownVariant := by decide
  list := fun n nl item h => by
    simp [readableF, readableDT, h, strategyKnown, Read.strategyOk, List.lookup]
  map := fun n nl kf vf hk hv => by
    simp [readableF, readableDT, Fields.ofList, hk, hv, strategyKnown, Read.strategyOk, List.lookup]
  struct := fun n nl l md hmd h => by
    have hk : strategyKnown md = true := by rcases hmd with rfl | rfl | rfl <;> decide
    simp [readableF, readableDT, hk, readableFs_ofList l h]
  union := fun n nl l h => by
    simp [readableF, readableDT, UFields.all_ofList (pUs := readableUFs) rfl (fun _ _ _ => rfl) h, strategyKnown, Read.strategyOk,
      List.lookup]

open SaModel.Lemmas.C03 in
theorem physFree_leafTypes (o : Options) : ∀ ty ∈ leafTypes o, physFreeDT ty = true := by
  simp only [leafTypes, Options.string_type]
  cases o.string_as_large_utf8 <;> decide

open SaModel.Lemmas.C03 in
theorem closed_physFree (o : Options) (hd : o.string_dictionary_encoding = false)
    (he : o.enums_without_data_as_strings = false) : Closed o (fun f => physFreeF f = true) where
  null := fun n nl => by simp [physFreeF, physFreeDT]
  leaf := fun n nl ty h => by
    simp [physFreeF, physFree_leafTypes o ty (Props.C07.state_type_mem o h)]
  dict := fun n nl h => by rcases h with h | h <;> simp_all
  unknownVariant := by decide
  list := fun n nl item h => by simp [physFreeF, physFreeDT, h]
  map := fun n nl kf vf hk hv => by simp [physFreeF, physFreeDT, Fields.ofList, hk, hv]
  struct := fun n nl l md _ h => by simp [physFreeF, physFreeDT, Fields.all_ofList (pFs := physFreeFs) rfl (fun _ _ => rfl) h]
  union := fun n nl l h => by simp [physFreeF, physFreeDT, UFields.all_ofList (pUs := physFreeUFs) rfl (fun _ _ _ => rfl) h]

open SaModel.Lemmas.C03 in
/-- **every field of a schema traced by `from_samples` (no overwrites) is supported by the reader** -/
theorem to_schema_readable (o : Options) (h0 : o.overwrites = []) (t : Tracer) (hw : WF o t) (fields : List Field)
    (h : t.to_schema o = .ok fields) : ∀ f ∈ fields, readableF f = true := by
  obtain ⟨n, children, md, hr, rfl⟩ := to_schema_ok o t fields h
  have hs := to_field_closed o h0 (closed_readable o) t _ hw hr
  simp only [readableF, readableDT, Bool.and_eq_true] at hs
  exact Fields.all_toList (pFs := readableFs) rfl (fun _ _ => rfl) hs.2

open SaModel.Lemmas.C03 in
/-- … and has no FixedSizeList / Dictionary column when no option asks for dictionary-encoded strings -/
theorem to_schema_physFree (o : Options) (h0 : o.overwrites = []) (hd : o.string_dictionary_encoding = false)
    (he : o.enums_without_data_as_strings = false) (t : Tracer) (hw : WF o t) (fields : List Field)
    (h : t.to_schema o = .ok fields) : ∀ f ∈ fields, physFreeDT f.dataType = true := by
  obtain ⟨n, children, md, hr, rfl⟩ := to_schema_ok o t fields h
  have hs := to_field_closed o h0 (closed_physFree o hd he) t _ hw hr
  simp only [physFreeF, physFreeDT] at hs
  intro f hf
  rw [← physFreeF_dt]
  exact Fields.all_toList (pFs := physFreeFs) rfl (fun _ _ => rfl) hs f hf

end SaModel.Lemmas.C06
