import SaModel.Lemmas.C17TouchBasic
/-
C17, `readAs_touch_in_range` — the readers that do not move to another array: `is_some`, the scalar reads,
dictionary lookups, the heads of the list / fixed-size list / map / union reads.
-/
namespace SaModel.Props.C17
open SaModel SaModel.Read SaModel.Spec

/-- a successful outcome implies `P` -/
def OkImp {α} (x : R α) (P : Prop) : Prop := ∀ a, x = .ok a → P

theorem OkImp.fail {α} {P : Prop} (m : String) : OkImp (fail m : R α) P := by intro a h; cases h
theorem OkImp.notImpl {α} {P : Prop} : OkImp (notImpl : R α) P := by intro a h; cases h
theorem OkImp.rejected {α} {P : Prop} : OkImp (rejected : R α) P := by intro a h; cases h
theorem OkImp.bind_left {α β} {P : Prop} {x : R α} {f : α → R β} (hx : OkImp x P) : OkImp (x >>= f) P := by
  intro b h; obtain ⟨a, ha, _⟩ := ok_bind_inv h; exact hx a ha
theorem OkImp.bind_right {α β} {P : Prop} {x : R α} {f : α → R β} (hf : ∀ a, OkImp (f a) P) : OkImp (x >>= f) P := by
  intro b h; obtain ⟨a, _, ha⟩ := ok_bind_inv h; exact hf a b ha
theorem OkImp.mono {α} {P Q : Prop} {x : R α} (h : OkImp x P) (hpq : P → Q) : OkImp x Q :=
  fun a ha => hpq (h a ha)

/-! ### primitives: a successful get is below the length -/

theorem okImp_getRequired {α} {P : Prop} {x : R (Option α)} (h : OkImp x P) : OkImp (getRequired x) P := by
  intro a ha; exact h _ (getRequired_ok ha)

theorem okImp_nullCheck {len idx : Nat} : OkImp (nullCheck Fixes.all len idx) (idx < len) :=
  fun _ h => lt_of_ok (fun hle => ⟨_, Lemmas.C12.nullCheck_beyond Lemmas.C12.OutFixes.all len idx hle⟩) h

theorem okImp_codecRead {fmt : Int → R DVal} {v : Option Bits} {vals : List Int} {idx : Nat} :
    OkImp (codecRead Fixes.all fmt v vals idx) (idx < vals.length) := by
  unfold codecRead
  exact OkImp.bind_left (okImp_getRequired fun _ h => primGet_ok_lt h)

/-! ### `is_some` -/

theorem optIsSome_false {α} {x : R (Option α)} (h : optIsSome x = .ok false) : x = .ok none := by
  unfold optIsSome at h
  obtain ⟨o, hx, h⟩ := ok_bind_inv h
  cases o
  · exact hx
  · cases h

theorem slotNull_of_isValid {a : Arr} {i : Nat} (hn : ∀ len, a ≠ .null len) (hd : ∀ ks vs, a ≠ .dictionary ks vs)
    (h : isValid (validityOf a) i = .ok false) : slotNull a i = true := by
  cases a <;> first
    | (exact absurd rfl (hn _))
    | (exact absurd rfl (hd _ _))
    | (simp only [slotNull, h]; rfl)

/-! ### a successful `get` of a byte column: the slot is null, or what it designates lies inside its buffer -/

/-- `from_utf8` on access changes no answer it lets through -/
theorem asStr_ok_same {x : R (Option Bytes)} {o : Option Bytes} (h : asStr x = .ok o) : x = .ok o := by
  unfold asStr at h
  obtain ⟨o', hx, h⟩ := ok_bind_inv h
  cases o' with
  | none => cases h; exact hx
  | some b => dsimp only at h; split at h <;> cases h; exact hx

/-- `BytesView::get` succeeded: a null slot, or `0 ≤ offsets[i] ≤ offsets[i+1] ≤ data.len()` (the slice `data[start..end]`
exists — also required of an empty pair) -/
theorem bytesGet_ok_leafSlot {ty : BytesTy} {v : Option Bits} {offs : List Int} {data : Bytes} {idx : Nat} {o : Option Bytes}
    (h : bytesGet Fixes.all v offs data idx = .ok o) : leafSlotOK (.bytes ty v offs data) idx = true := by
  obtain ⟨_, ⟨hv, _⟩ | ⟨_, s, e, hs, he, hse, hed, _⟩⟩ := bytesGet_ok h
  · have := slotNull_of_isValid (a := .bytes ty v offs data) (fun _ h => nomatch h) (fun _ _ h => nomatch h) hv
    simp only [leafSlotOK, this, Bool.true_or]
  · apply leafSlotOK_of_leafOK
    simp only [leafOK, getD_of_getElem? hs, getD_of_getElem? he, decide_eq_true_eq]
    omega

theorem leafOK_view (ty : ViewTy) (v : Option Bits) (views : List Nat) (buffers : List Bytes) (i : Nat) :
    leafOK (.bytesView ty v views buffers) i = (viewSlice buffers (views.getD i 0)).isSome := by
  simp only [leafOK, viewSlice, decodeView]
  generalize views.getD i 0 = desc
  by_cases hc : desc % 4294967296 ≤ 12
  · simp only [hc, if_true]; rfl
  · simp only [hc, if_false]
    cases hb : buffers[(desc >>> 64) % 4294967296]? with
    | none => rfl
    | some buf =>
      simp only []
      by_cases hr : (desc >>> 96) % 4294967296 + desc % 4294967296 ≤ buf.length
      · simp only [hr, if_true, decide_true]; rfl
      · simp only [hr, if_false, decide_false]; rfl

/-- `BytesViewView::get` succeeded: a null slot, or the descriptor is inline, or it names a buffer the view has and a
range inside that buffer -/
theorem viewGet_ok_leafSlot {ty : ViewTy} {v : Option Bits} {views : List Nat} {buffers : List Bytes} {idx : Nat}
    {o : Option Bytes} (h : viewGet Fixes.all v views buffers idx = .ok o) :
    leafSlotOK (.bytesView ty v views buffers) idx = true := by
  obtain ⟨desc, hd, ⟨hv, _⟩ | ⟨_, b, hb, _⟩⟩ := viewGet_ok h
  · have := slotNull_of_isValid (a := .bytesView ty v views buffers) (fun _ h => nomatch h) (fun _ _ h => nomatch h) hv
    simp only [leafSlotOK, this, Bool.true_or]
  · apply leafSlotOK_of_leafOK
    rw [leafOK_view, List.getD_eq_getElem?_getD, hd, Option.getD_some]
    rw [viewBytes_slice] at hb
    split at hb
    · rename_i hs; rw [hs]; rfl
    · cases hb

/-- a row below the length of a FixedSizeBinary column (`n > 0`, `i < data.len() / n`) lies inside the data -/
theorem fsb_leafOK_of_lt {n : Int} {v : Option Bits} {data : Bytes} {i : Nat}
    (h : i < lenOf (.fixedSizeBinary n v data)) : leafOK (.fixedSizeBinary n v data) i = true := by
  simp only [lenOf] at h
  split at h
  · omega
  · rename_i hn
    have hpos : 0 < n.toNat := by omega
    have := (Nat.le_div_iff_mul_le hpos).mp (Nat.succ_le_of_lt h)
    simp only [leafOK, decide_eq_true_eq]
    exact ⟨by omega, this⟩

/-- the slot facts of a successful read of a leaf column: row below the length, slot null or in range -/
def LeafIn (a : Arr) (i : Nat) : Prop := i < lenOf a ∧ leafSlotOK a i = true

/-- a successful `get` of a reader without children: the row is below the length and the slot null or in range; the
answer is `none` only where the bitmap marks the slot null -/
theorem leafGet_ok {a : Arr} {i : Nat} {β : Type} {g : R (Option β)} {o : Option β} (hg : LeafGet Fixes.all a i g)
    (h : g = .ok o) : LeafIn a i ∧ (o = none → isValid (validityOf a) i = .ok false) := by
  cases hg with
  | boolean =>
    obtain ⟨hi, hs⟩ := boolGet_ok h
    exact ⟨⟨hi, leafSlotOK_of_leafOK rfl⟩, fun ho => hs.elim (·.1) fun ⟨_, _, _, h⟩ => nomatch ho ▸ h⟩
  | prim | time | timestamp | decimal128 =>
    obtain ⟨hi, hs⟩ := primGet_ok h
    exact ⟨⟨hi, leafSlotOK_of_leafOK rfl⟩, fun ho => hs.elim (·.1) fun ⟨_, h⟩ => by
      rw [ho, List.getElem?_eq_getElem hi] at h; cases h⟩
  | @bytes ty v offs data _ =>
    have h' : bytesGet Fixes.all v offs data i = .ok o := by
      unfold bytesColGet at h; split at h
      · exact asStr_ok_same h
      · exact h
    exact ⟨⟨bytesGet_ok_lt h', bytesGet_ok_leafSlot h'⟩, fun ho =>
      (bytesGet_ok h').2.elim (·.1) fun ⟨_, _, _, _, _, _, _, h⟩ => nomatch ho ▸ h⟩
  | @bytesView ty v views bufs _ =>
    have h' : viewGet Fixes.all v views bufs i = .ok o := by
      unfold viewColGet at h; split at h
      · exact asStr_ok_same h
      · exact h
    obtain ⟨_, _, hs⟩ := viewGet_ok h'
    exact ⟨⟨viewGet_ok_lt h', viewGet_ok_leafSlot h'⟩, fun ho => hs.elim (·.1) fun ⟨_, _, _, h⟩ => nomatch ho ▸ h⟩
  | fixedSizeBinary =>
    have hlt := fsbColGet_ok_lt h
    refine ⟨⟨hlt, leafSlotOK_of_leafOK (fsb_leafOK_of_lt hlt)⟩, fun ho => ?_⟩
    unfold fsbColGet at h
    obtain ⟨⟨n', len⟩, _, h⟩ := ok_bind_inv h
    exact (fsbGet_ok h).2.elim (·.1) fun ⟨_, _, h⟩ => nomatch ho ▸ h

theorem isSome_ok_lt_lenOf {a : Arr} {idx : Nat} {b : Bool} (h : isSome Fixes.all a idx = .ok b) : idx < lenOf a :=
  lt_of_ok (Lemmas.C12.isSome_beyond Lemmas.C12.OutFixes.all a idx) h

/-- `ViewExt::len` is the length wherever `is_some` answers -/
theorem isSome_ok_lt_vlen {a : Arr} {idx : Nat} {b : Bool} (h : isSome Fixes.all a idx = .ok b) : idx < vlen a := by
  have hl := isSome_ok_lt_lenOf h
  cases a with
  | dictionary ks vs => cases ks <;> first | (simp only [isSome] at h; cases h; done) | exact hl
  | _ => exact hl

/-- a successful `is_some` of a leaf column: the row is below the length and the slot is null or in range (every
`is_some` of a byte column goes through its `get`) -/
theorem isSome_ok_leafIn {a : Arr} (hl : isLeaf a = true) {idx : Nat} {b : Bool} (h : isSome Fixes.all a idx = .ok b) :
    LeafIn a idx := by
  cases a with
  | null => exact ⟨isSome_ok_lt_lenOf h, leafSlotOK_of_leafOK rfl⟩
  | struct _ _ _ | list _ _ _ _ _ | fixedSizeList _ _ _ _ _ | map _ _ _ _ _ | dictionary _ _ | union _ _ _ => cases hl
  | _ =>
    exact isSome_get_cases Fixes.all _ idx rfl (motive := fun r => r = .ok b → LeafIn _ idx)
      (fun _ hg h => (leafGet_ok hg (optIsSome_ok h).choose_spec).1) h

/-- `is_some` answered "null" ⇒ the bitmap marks the slot as null (so `Option` / `any` targets stop here) -/
theorem isSome_false_slotNull {a : Arr} {idx : Nat} (h : isSome Fixes.all a idx = .ok false) : slotNull a idx = true := by
  cases a with
  | null len => simp [slotNull]
  | struct | list | fixedSizeList | map =>
    simp only [isSome] at h
    split at h
    · cases h
    · rw [validityIsSet_all] at h
      exact slotNull_of_isValid (fun _ h => nomatch h) (fun _ _ h => nomatch h) h
  | dictionary ks vs =>
    simp only [isSome] at h
    split at h
    · rename_i ty v vals
      have := (leafGet_ok (.prim (ty := ty)) (optIsSome_false h)).2 rfl
      simp only [slotNull, validityOf] at this ⊢
      simp only [this]; rfl
    · cases h
  | union types offs fs =>
    simp only [isSome] at h
    split at h <;> cases h
  | _ =>
    exact isSome_get_cases Fixes.all _ idx rfl (motive := fun r => r = .ok false → slotNull _ idx = true)
      (fun _ hg h => slotNull_of_isValid (fun _ h => nomatch h) (fun _ _ h => nomatch h)
        ((leafGet_ok hg (optIsSome_false h)).2 rfl)) h

/-! ### dictionary lookups -/

theorem primGet_some {v : Option Bits} {vals : List Int} {idx : Nat} {k : Int}
    (h : primGet Fixes.all v vals idx = .ok (some k)) : idx < vals.length ∧ vals.getD idx 0 = k := by
  obtain ⟨hlt, ⟨_, ho⟩ | ⟨_, ho⟩⟩ := primGet_ok h
  · cases ho
  · exact ⟨hlt, getD_of_getElem? ho.symm⟩

theorem leafOf_int {ty : PrimTy} {x j : Int} (h : leafOf ty x = .int j) : x = j := by
  cases ty <;> simp [leafOf] at h <;> exact h

/-- `DictionaryDeserializer::get_str` succeeded ⇒ the row and the key it holds are in range -/
theorem dictGetStr_touch (t : Target) {ks vs : Arr} {i : Nat} : OkImp (dictGetStr Fixes.all ks vs i) (touchOK t (.dictionary ks vs) i = true) := by
  intro b h
  unfold dictGetStr at h
  split at h
  · rename_i kty kv kvals vty vv voffs vdata
    obtain ⟨k, hk, h⟩ := ok_bind_inv h
    split at h
    · cases h
    · obtain ⟨key, hkey, h⟩ := ok_bind_inv h
      have hk' := primGet_some (getRequired_ok hk)
      have hb := bytesGet_ok_lt (asStr_ok (getRequired_ok h)).1
      have hbs := bytesGet_ok_leafSlot (ty := vty) (asStr_ok (getRequired_ok h)).1
      unfold tryIntoUsize at hkey
      split at hkey
      · rename_i h0
        cases hkey
        refine touch_dict (by simp only [lenOf]; exact hk'.1) ?_
        intro j hj
        simp only [decodeAt, hk'.1, if_true] at hj
        unfold withValidity at hj
        obtain ⟨bv, _, hj⟩ := ok_bind_inv hj
        cases bv
        · cases hj
        · simp only [Bool.not_true, Bool.false_eq_true, if_false, Except.ok.injEq] at hj
          have := leafOf_int hj
          rw [hk'.2] at this
          subst this
          exact ⟨h0, by simp only [lenOf]; exact hb, hbs⟩
      · cases hkey
  · cases h

/-! ### the scalar reads -/

theorem okImp_intoInt_bind {P : Prop} {x : R Int} {ty : IntTy} (h : OkImp x P) : OkImp (x >>= fun v => intoInt ty v) P :=
  OkImp.bind_left h

/-- at a leaf column `LeafIn` is all `touchOK` asks, whatever the target -/
theorem okImp_touch_leaf {α} (t : Target) {x : R α} {a : Arr} {i : Nat} (hl : isLeaf a = true) (h : OkImp x (LeafIn a i)) :
    OkImp x (touchOK t a i = true) :=
  OkImp.mono h (fun hin => touch_leaf t hl hin.1 hin.2)

/-- a successful scalar read (`deserialize_bool`, `…_i32`, `…_str`, …) ⇒ `touchOK`, whatever the target: the
array is a leaf (row below its length; for the byte columns the slot is null or what it designates lies inside its
buffer) or a dictionary (row, key and the value slot it designates in range) -/
theorem leafReq_touch (t : Target) {a : Arr} {i : Nat} {β : Type} {r : R β} (h : LeafReq Fixes.all a i r) :
    OkImp r (touchOK t a i = true) := by
  cases h with
  | get hg =>
    exact okImp_touch_leaf t (by cases hg <;> rfl) (okImp_getRequired fun _ h => (leafGet_ok hg h).1)
  | null => exact okImp_touch_leaf t rfl (OkImp.mono okImp_nullCheck fun hlt => ⟨hlt, leafSlotOK_of_leafOK rfl⟩)
  | dictionary => exact dictGetStr_touch t

theorem scalar_touch (t : Target) (m : Method) (a : Arr) (i : Nat) : OkImp (scalar Fixes.all m a i) (touchOK t a i = true) :=
  scalar_cases Fixes.all m a i (motive := fun r => OkImp r (touchOK t a i = true)) OkImp.notImpl
    fun _ _ hr _ => OkImp.bind_left (leafReq_touch t hr)

/-- the scalar targets: `readAs t = accept t ∘ scalar m` -/
theorem accept_scalar_touch (t t' : Target) (m : Method) (a : Arr) (i : Nat) :
    OkImp (scalar Fixes.all m a i >>= fun d => accept t' d) (touchOK t a i = true) :=
  OkImp.bind_left (scalar_touch t m a i)

theorem binaryElems_touch (t : Target) {a : Arr} {i : Nat} {rb : R Bytes} (h : binaryElems Fixes.all a i = some rb) :
    OkImp rb (touchOK t a i = true) := leafReq_touch t (binaryElems_cases h)

theorem stringElem_touch (t : Target) {a : Arr} {i : Nat} {rs : R Bytes} (h : stringElem Fixes.all a i = some rs) :
    OkImp rs (touchOK t a i = true) := leafReq_touch t (stringElem_cases h)

/-! ### heads of the container reads -/

/-- `ListDeserializer::get` / the head of the map read: the offsets of row `i` -/
theorem listRange_ok {offs : List Int} {i s e : Nat} (h : listRange Fixes.all offs i = .ok (s, e)) :
    i + 1 < offs.length ∧ offs.getD i 0 = (s : Int) ∧ offs.getD (i + 1) 0 = (e : Int) ∧ s ≤ e := by
  obtain ⟨hi, hs, he, hle⟩ := listRange_parts h
  exact ⟨by omega, getD_of_getElem? hs, getD_of_getElem? he, hle⟩

/-- `FixedSizeListDeserializer::deserialize_seq`: the element range of row `i` -/
theorem fslRange_ok {len : Nat} {n : Int} {i s e : Nat} (h : fslRange Fixes.all len n i = .ok (s, e)) :
    i < len ∧ 0 ≤ n ∧ ((i : Int) * n = (s : Int)) ∧ (((i : Int) + 1) * n = (e : Int)) ∧ s ≤ e := by
  obtain ⟨hi, hn, rfl, rfl⟩ := fslRange_parts h
  have hc : ((n.toNat : Nat) : Int) = n := Int.toNat_of_nonneg hn
  refine ⟨hi, hn, ?_, ?_, Nat.mul_le_mul_right _ (Nat.le_succ i)⟩
  · rw [Int.natCast_mul, hc]
  · rw [Int.natCast_mul, hc, Int.natCast_add, Int.natCast_one]

/-- the head of `EnumDeserializer::deserialize_enum`: the variant is the child at position `type id`, read at the
slot the offsets give -/
theorem unionSelect_ok {types : List Int} {offs : Option (List Int)} {nv i k off : Nat}
    (h : unionSelect Fixes.all types offs nv i = .ok (k, off)) :
    i < types.length ∧ 0 ≤ types.getD i 0 ∧ k = (types.getD i 0).toNat ∧ k < nv ∧ unionSlot offs i = some off := by
  obtain ⟨t, o, offv, ht, rfl, ho, h0, h1, hk, hoff, hlt⟩ := unionSelect_parts h
  have hg : types.getD i 0 = t := getD_of_getElem? ht
  have hi : i < o.length := (List.getElem?_eq_some_iff.mp ho).1
  refine ⟨(List.getElem?_eq_some_iff.mp ht).1, hg ▸ h0, hg ▸ hk, hlt, ?_⟩
  simp only [unionSlot, getD_of_getElem? ho, hi, h1, and_self, if_true, hoff]

end SaModel.Props.C17
