-- written by tools/gen_c09_match.py (arm list of Dsl.buildDataTypeOfTerm); regenerate instead of editing
import SaModel.Codec.Dsl
/-
C09: the 46-way string match of `build_data_type` (model: `Dsl.buildDataTypeOfTerm`) by case analysis on the chain of
equality tests of its matcher.  `modelArity` is that chain as a function (name ↦ number of term arguments of the arm);
`buildDataTypeOfTerm_match_elim` is the induction principle: to prove `P` of the match it is enough to prove it of
every arm under the arm's equations, and of the final `_ => fail!` arm when `modelArity` does not list the pair.
-/
namespace SaModel.Lemmas.C09
open SaModel SaModel.Dsl

/-- the (name, number of term arguments) pairs the match of `buildDataTypeOfTerm` has an arm for -/
def modelArity (x : String) : Option Nat :=
  if x = "Null" then some 0 else
  if x = "Bool" then some 0 else
  if x = "Boolean" then some 0 else
  if x = "Utf8" then some 0 else
  if x = "LargeUtf8" then some 0 else
  if x = "Utf8View" then some 0 else
  if x = "U8" then some 0 else
  if x = "UInt8" then some 0 else
  if x = "U16" then some 0 else
  if x = "UInt16" then some 0 else
  if x = "U32" then some 0 else
  if x = "UInt32" then some 0 else
  if x = "U64" then some 0 else
  if x = "UInt64" then some 0 else
  if x = "I8" then some 0 else
  if x = "Int8" then some 0 else
  if x = "I16" then some 0 else
  if x = "Int16" then some 0 else
  if x = "I32" then some 0 else
  if x = "Int32" then some 0 else
  if x = "I64" then some 0 else
  if x = "Int64" then some 0 else
  if x = "F16" then some 0 else
  if x = "Float16" then some 0 else
  if x = "F32" then some 0 else
  if x = "Float32" then some 0 else
  if x = "F64" then some 0 else
  if x = "Float64" then some 0 else
  if x = "Date32" then some 0 else
  if x = "Date64" then some 0 else
  if x = "Binary" then some 0 else
  if x = "LargeBinary" then some 0 else
  if x = "FixedSizeBinary" then some 1 else
  if x = "BinaryView" then some 0 else
  if x = "Timestamp" then some 2 else
  if x = "Time32" then some 1 else
  if x = "Time64" then some 1 else
  if x = "Duration" then some 1 else
  if x = "Decimal128" then some 2 else
  if x = "Struct" then some 0 else
  if x = "List" then some 0 else
  if x = "LargeList" then some 0 else
  if x = "FixedSizeList" then some 1 else
  if x = "Dictionary" then some 0 else
  if x = "Map" then some 0 else
  if x = "Union" then some 0 else
  none

/-- one test of the matcher's chain: `x = k` leads to the body of the arm, `x ≠ k` to the rest of the chain -/
theorem chain_step {P : R DataType → Prop} {x k : String} {body : R DataType} {rest : ¬ x = k → R DataType}
    (hit : x = k → P body) (miss : ∀ h : ¬ x = k, P (rest h)) :
    P (dite (x = k) (Eq.ndrec_symm (motive := fun _ => R DataType) body) rest) := by
  by_cases h : x = k
  · rw [dif_pos h]; subst h; exact hit rfl
  · rw [dif_neg h]; exact miss h

/-! the body of an arm with 0, 1, 2 term arguments: the argument list has that length, or the match falls through -/
theorem arm0 {P : R DataType → Prop} {l : List Term} {hit : R DataType} {dflt : List Term → R DataType}
    (hnil : l = [] → P hit) (hne : l.length ≠ 0 → P (dflt l)) :
    P (parseIdentTermName._sparseCasesOn_1 (motive := fun _ => R DataType) l hit fun _ => dflt l) := by
  cases l with
  | nil => exact hnil rfl
  | cons a l => exact hne (Nat.succ_ne_zero _)

theorem arm1 {P : R DataType → Prop} {l : List Term} {hit : Term → R DataType} {dflt : List Term → R DataType}
    (h1 : ∀ a, l = [a] → P (hit a)) (hne : l.length ≠ 1 → P (dflt l)) :
    P (buildDataTypeOfTerm._sparseCasesOn_3 (motive := fun _ => R DataType) l
      (fun head tail => parseIdentTermName._sparseCasesOn_1 (motive := fun _ => R DataType) tail (hit head) fun _ => dflt (head :: tail))
      fun _ => dflt l) := by
  rcases l with _ | ⟨a, _ | ⟨b, l⟩⟩
  · exact hne (by decide)
  · exact h1 a rfl
  · exact hne (fun h => Nat.succ_ne_zero _ (Nat.succ.inj h))

theorem arm2 {P : R DataType → Prop} {l : List Term} {hit : Term → Term → R DataType} {dflt : List Term → R DataType}
    (h2 : ∀ a b, l = [a, b] → P (hit a b)) (hne : l.length ≠ 2 → P (dflt l)) :
    P (buildDataTypeOfTerm._sparseCasesOn_3 (motive := fun _ => R DataType) l
      (fun head tail => buildDataTypeOfTerm._sparseCasesOn_3 (motive := fun _ => R DataType) tail
        (fun head_1 tail => parseIdentTermName._sparseCasesOn_1 (motive := fun _ => R DataType) tail (hit head head_1) fun _ => dflt (head :: head_1 :: tail))
        fun _ => dflt (head :: tail))
      fun _ => dflt l) := by
  rcases l with _ | ⟨a, _ | ⟨b, _ | ⟨c, l⟩⟩⟩
  · exact hne (by decide)
  · exact hne (fun h => Nat.succ_ne_zero _ (Nat.succ.inj h).symm)
  · exact h2 a b rfl
  · exact hne (fun h => Nat.succ_ne_zero _ (Nat.succ.inj (Nat.succ.inj h)))

/-- the arity the chain `modelArity` gives `x` is not the length of `l` -/
theorem arity_ne {x : String} {n : Nat} {l : List Term} (hA : modelArity x = some n) (h : l.length ≠ n) :
    modelArity x ≠ some l.length := by
  rw [hA]; exact fun e => h (Option.some.inj e).symm

theorem buildDataTypeOfTerm_match_elim (P : R DataType → Prop) (x : String) (l : List Term)
    (h_1 : Unit → R DataType)
    (h_2 : Unit → R DataType)
    (h_3 : Unit → R DataType)
    (h_4 : Unit → R DataType)
    (h_5 : Unit → R DataType)
    (h_6 : Unit → R DataType)
    (h_7 : Unit → R DataType)
    (h_8 : Unit → R DataType)
    (h_9 : Unit → R DataType)
    (h_10 : Unit → R DataType)
    (h_11 : Unit → R DataType)
    (h_12 : Unit → R DataType)
    (h_13 : Unit → R DataType)
    (h_14 : Unit → R DataType)
    (h_15 : Unit → R DataType)
    (h_16 : Unit → R DataType)
    (h_17 : Unit → R DataType)
    (h_18 : Unit → R DataType)
    (h_19 : Unit → R DataType)
    (h_20 : Unit → R DataType)
    (h_21 : Unit → R DataType)
    (h_22 : Unit → R DataType)
    (h_23 : Unit → R DataType)
    (h_24 : Unit → R DataType)
    (h_25 : Unit → R DataType)
    (h_26 : Unit → R DataType)
    (h_27 : Unit → R DataType)
    (h_28 : Unit → R DataType)
    (h_29 : Unit → R DataType)
    (h_30 : Unit → R DataType)
    (h_31 : Unit → R DataType)
    (h_32 : Unit → R DataType)
    (h_33 : Term → R DataType)
    (h_34 : Unit → R DataType)
    (h_35 : Term → Term → R DataType)
    (h_36 : Term → R DataType)
    (h_37 : Term → R DataType)
    (h_38 : Term → R DataType)
    (h_39 : Term → Term → R DataType)
    (h_40 : Unit → R DataType)
    (h_41 : Unit → R DataType)
    (h_42 : Unit → R DataType)
    (h_43 : Term → R DataType)
    (h_44 : Unit → R DataType)
    (h_45 : Unit → R DataType)
    (h_46 : Unit → R DataType)
    (h_47 : String → List Term → R DataType)
    (H_1 : x = "Null" → l = [] → P (h_1 ()))
    (H_2 : x = "Bool" → l = [] → P (h_2 ()))
    (H_3 : x = "Boolean" → l = [] → P (h_3 ()))
    (H_4 : x = "Utf8" → l = [] → P (h_4 ()))
    (H_5 : x = "LargeUtf8" → l = [] → P (h_5 ()))
    (H_6 : x = "Utf8View" → l = [] → P (h_6 ()))
    (H_7 : x = "U8" → l = [] → P (h_7 ()))
    (H_8 : x = "UInt8" → l = [] → P (h_8 ()))
    (H_9 : x = "U16" → l = [] → P (h_9 ()))
    (H_10 : x = "UInt16" → l = [] → P (h_10 ()))
    (H_11 : x = "U32" → l = [] → P (h_11 ()))
    (H_12 : x = "UInt32" → l = [] → P (h_12 ()))
    (H_13 : x = "U64" → l = [] → P (h_13 ()))
    (H_14 : x = "UInt64" → l = [] → P (h_14 ()))
    (H_15 : x = "I8" → l = [] → P (h_15 ()))
    (H_16 : x = "Int8" → l = [] → P (h_16 ()))
    (H_17 : x = "I16" → l = [] → P (h_17 ()))
    (H_18 : x = "Int16" → l = [] → P (h_18 ()))
    (H_19 : x = "I32" → l = [] → P (h_19 ()))
    (H_20 : x = "Int32" → l = [] → P (h_20 ()))
    (H_21 : x = "I64" → l = [] → P (h_21 ()))
    (H_22 : x = "Int64" → l = [] → P (h_22 ()))
    (H_23 : x = "F16" → l = [] → P (h_23 ()))
    (H_24 : x = "Float16" → l = [] → P (h_24 ()))
    (H_25 : x = "F32" → l = [] → P (h_25 ()))
    (H_26 : x = "Float32" → l = [] → P (h_26 ()))
    (H_27 : x = "F64" → l = [] → P (h_27 ()))
    (H_28 : x = "Float64" → l = [] → P (h_28 ()))
    (H_29 : x = "Date32" → l = [] → P (h_29 ()))
    (H_30 : x = "Date64" → l = [] → P (h_30 ()))
    (H_31 : x = "Binary" → l = [] → P (h_31 ()))
    (H_32 : x = "LargeBinary" → l = [] → P (h_32 ()))
    (H_33 : ∀ a, x = "FixedSizeBinary" → l = [a] → P (h_33 a))
    (H_34 : x = "BinaryView" → l = [] → P (h_34 ()))
    (H_35 : ∀ a b, x = "Timestamp" → l = [a, b] → P (h_35 a b))
    (H_36 : ∀ a, x = "Time32" → l = [a] → P (h_36 a))
    (H_37 : ∀ a, x = "Time64" → l = [a] → P (h_37 a))
    (H_38 : ∀ a, x = "Duration" → l = [a] → P (h_38 a))
    (H_39 : ∀ a b, x = "Decimal128" → l = [a, b] → P (h_39 a b))
    (H_40 : x = "Struct" → l = [] → P (h_40 ()))
    (H_41 : x = "List" → l = [] → P (h_41 ()))
    (H_42 : x = "LargeList" → l = [] → P (h_42 ()))
    (H_43 : ∀ a, x = "FixedSizeList" → l = [a] → P (h_43 a))
    (H_44 : x = "Dictionary" → l = [] → P (h_44 ()))
    (H_45 : x = "Map" → l = [] → P (h_45 ()))
    (H_46 : x = "Union" → l = [] → P (h_46 ()))
    (H_47 : modelArity x ≠ some l.length → P (h_47 x l)) :
    P (buildDataTypeOfTerm.match_8 (fun _ _ => R DataType) x l h_1 h_2 h_3 h_4 h_5 h_6 h_7 h_8 h_9 h_10 h_11 h_12 h_13 h_14 h_15 h_16 h_17 h_18 h_19 h_20 h_21 h_22 h_23 h_24 h_25 h_26 h_27 h_28 h_29 h_30 h_31 h_32 h_33 h_34 h_35 h_36 h_37 h_38 h_39 h_40 h_41 h_42 h_43 h_44 h_45 h_46 h_47) := by
  unfold buildDataTypeOfTerm.match_8
  have hA : modelArity x = modelArity x := rfl
  conv at hA => rhs; unfold modelArity
  refine chain_step (fun c => ?_) (fun c => ?_)
  · rw [if_pos c] at hA; subst c; exact arm0 (H_1 rfl) fun h => H_47 (arity_ne hA h)
  rw [if_neg c] at hA
  refine chain_step (fun c => ?_) (fun c => ?_)
  · rw [if_pos c] at hA; subst c; exact arm0 (H_2 rfl) fun h => H_47 (arity_ne hA h)
  rw [if_neg c] at hA
  refine chain_step (fun c => ?_) (fun c => ?_)
  · rw [if_pos c] at hA; subst c; exact arm0 (H_3 rfl) fun h => H_47 (arity_ne hA h)
  rw [if_neg c] at hA
  refine chain_step (fun c => ?_) (fun c => ?_)
  · rw [if_pos c] at hA; subst c; exact arm0 (H_4 rfl) fun h => H_47 (arity_ne hA h)
  rw [if_neg c] at hA
  refine chain_step (fun c => ?_) (fun c => ?_)
  · rw [if_pos c] at hA; subst c; exact arm0 (H_5 rfl) fun h => H_47 (arity_ne hA h)
  rw [if_neg c] at hA
  refine chain_step (fun c => ?_) (fun c => ?_)
  · rw [if_pos c] at hA; subst c; exact arm0 (H_6 rfl) fun h => H_47 (arity_ne hA h)
  rw [if_neg c] at hA
  refine chain_step (fun c => ?_) (fun c => ?_)
  · rw [if_pos c] at hA; subst c; exact arm0 (H_7 rfl) fun h => H_47 (arity_ne hA h)
  rw [if_neg c] at hA
  refine chain_step (fun c => ?_) (fun c => ?_)
  · rw [if_pos c] at hA; subst c; exact arm0 (H_8 rfl) fun h => H_47 (arity_ne hA h)
  rw [if_neg c] at hA
  refine chain_step (fun c => ?_) (fun c => ?_)
  · rw [if_pos c] at hA; subst c; exact arm0 (H_9 rfl) fun h => H_47 (arity_ne hA h)
  rw [if_neg c] at hA
  refine chain_step (fun c => ?_) (fun c => ?_)
  · rw [if_pos c] at hA; subst c; exact arm0 (H_10 rfl) fun h => H_47 (arity_ne hA h)
  rw [if_neg c] at hA
  refine chain_step (fun c => ?_) (fun c => ?_)
  · rw [if_pos c] at hA; subst c; exact arm0 (H_11 rfl) fun h => H_47 (arity_ne hA h)
  rw [if_neg c] at hA
  refine chain_step (fun c => ?_) (fun c => ?_)
  · rw [if_pos c] at hA; subst c; exact arm0 (H_12 rfl) fun h => H_47 (arity_ne hA h)
  rw [if_neg c] at hA
  refine chain_step (fun c => ?_) (fun c => ?_)
  · rw [if_pos c] at hA; subst c; exact arm0 (H_13 rfl) fun h => H_47 (arity_ne hA h)
  rw [if_neg c] at hA
  refine chain_step (fun c => ?_) (fun c => ?_)
  · rw [if_pos c] at hA; subst c; exact arm0 (H_14 rfl) fun h => H_47 (arity_ne hA h)
  rw [if_neg c] at hA
  refine chain_step (fun c => ?_) (fun c => ?_)
  · rw [if_pos c] at hA; subst c; exact arm0 (H_15 rfl) fun h => H_47 (arity_ne hA h)
  rw [if_neg c] at hA
  refine chain_step (fun c => ?_) (fun c => ?_)
  · rw [if_pos c] at hA; subst c; exact arm0 (H_16 rfl) fun h => H_47 (arity_ne hA h)
  rw [if_neg c] at hA
  refine chain_step (fun c => ?_) (fun c => ?_)
  · rw [if_pos c] at hA; subst c; exact arm0 (H_17 rfl) fun h => H_47 (arity_ne hA h)
  rw [if_neg c] at hA
  refine chain_step (fun c => ?_) (fun c => ?_)
  · rw [if_pos c] at hA; subst c; exact arm0 (H_18 rfl) fun h => H_47 (arity_ne hA h)
  rw [if_neg c] at hA
  refine chain_step (fun c => ?_) (fun c => ?_)
  · rw [if_pos c] at hA; subst c; exact arm0 (H_19 rfl) fun h => H_47 (arity_ne hA h)
  rw [if_neg c] at hA
  refine chain_step (fun c => ?_) (fun c => ?_)
  · rw [if_pos c] at hA; subst c; exact arm0 (H_20 rfl) fun h => H_47 (arity_ne hA h)
  rw [if_neg c] at hA
  refine chain_step (fun c => ?_) (fun c => ?_)
  · rw [if_pos c] at hA; subst c; exact arm0 (H_21 rfl) fun h => H_47 (arity_ne hA h)
  rw [if_neg c] at hA
  refine chain_step (fun c => ?_) (fun c => ?_)
  · rw [if_pos c] at hA; subst c; exact arm0 (H_22 rfl) fun h => H_47 (arity_ne hA h)
  rw [if_neg c] at hA
  refine chain_step (fun c => ?_) (fun c => ?_)
  · rw [if_pos c] at hA; subst c; exact arm0 (H_23 rfl) fun h => H_47 (arity_ne hA h)
  rw [if_neg c] at hA
  refine chain_step (fun c => ?_) (fun c => ?_)
  · rw [if_pos c] at hA; subst c; exact arm0 (H_24 rfl) fun h => H_47 (arity_ne hA h)
  rw [if_neg c] at hA
  refine chain_step (fun c => ?_) (fun c => ?_)
  · rw [if_pos c] at hA; subst c; exact arm0 (H_25 rfl) fun h => H_47 (arity_ne hA h)
  rw [if_neg c] at hA
  refine chain_step (fun c => ?_) (fun c => ?_)
  · rw [if_pos c] at hA; subst c; exact arm0 (H_26 rfl) fun h => H_47 (arity_ne hA h)
  rw [if_neg c] at hA
  refine chain_step (fun c => ?_) (fun c => ?_)
  · rw [if_pos c] at hA; subst c; exact arm0 (H_27 rfl) fun h => H_47 (arity_ne hA h)
  rw [if_neg c] at hA
  refine chain_step (fun c => ?_) (fun c => ?_)
  · rw [if_pos c] at hA; subst c; exact arm0 (H_28 rfl) fun h => H_47 (arity_ne hA h)
  rw [if_neg c] at hA
  refine chain_step (fun c => ?_) (fun c => ?_)
  · rw [if_pos c] at hA; subst c; exact arm0 (H_29 rfl) fun h => H_47 (arity_ne hA h)
  rw [if_neg c] at hA
  refine chain_step (fun c => ?_) (fun c => ?_)
  · rw [if_pos c] at hA; subst c; exact arm0 (H_30 rfl) fun h => H_47 (arity_ne hA h)
  rw [if_neg c] at hA
  refine chain_step (fun c => ?_) (fun c => ?_)
  · rw [if_pos c] at hA; subst c; exact arm0 (H_31 rfl) fun h => H_47 (arity_ne hA h)
  rw [if_neg c] at hA
  refine chain_step (fun c => ?_) (fun c => ?_)
  · rw [if_pos c] at hA; subst c; exact arm0 (H_32 rfl) fun h => H_47 (arity_ne hA h)
  rw [if_neg c] at hA
  refine chain_step (fun c => ?_) (fun c => ?_)
  · rw [if_pos c] at hA; subst c; exact arm1 (fun a => H_33 a rfl) fun h => H_47 (arity_ne hA h)
  rw [if_neg c] at hA
  refine chain_step (fun c => ?_) (fun c => ?_)
  · rw [if_pos c] at hA; subst c; exact arm0 (H_34 rfl) fun h => H_47 (arity_ne hA h)
  rw [if_neg c] at hA
  refine chain_step (fun c => ?_) (fun c => ?_)
  · rw [if_pos c] at hA; subst c; exact arm2 (fun a b => H_35 a b rfl) fun h => H_47 (arity_ne hA h)
  rw [if_neg c] at hA
  refine chain_step (fun c => ?_) (fun c => ?_)
  · rw [if_pos c] at hA; subst c; exact arm1 (fun a => H_36 a rfl) fun h => H_47 (arity_ne hA h)
  rw [if_neg c] at hA
  refine chain_step (fun c => ?_) (fun c => ?_)
  · rw [if_pos c] at hA; subst c; exact arm1 (fun a => H_37 a rfl) fun h => H_47 (arity_ne hA h)
  rw [if_neg c] at hA
  refine chain_step (fun c => ?_) (fun c => ?_)
  · rw [if_pos c] at hA; subst c; exact arm1 (fun a => H_38 a rfl) fun h => H_47 (arity_ne hA h)
  rw [if_neg c] at hA
  refine chain_step (fun c => ?_) (fun c => ?_)
  · rw [if_pos c] at hA; subst c; exact arm2 (fun a b => H_39 a b rfl) fun h => H_47 (arity_ne hA h)
  rw [if_neg c] at hA
  refine chain_step (fun c => ?_) (fun c => ?_)
  · rw [if_pos c] at hA; subst c; exact arm0 (H_40 rfl) fun h => H_47 (arity_ne hA h)
  rw [if_neg c] at hA
  refine chain_step (fun c => ?_) (fun c => ?_)
  · rw [if_pos c] at hA; subst c; exact arm0 (H_41 rfl) fun h => H_47 (arity_ne hA h)
  rw [if_neg c] at hA
  refine chain_step (fun c => ?_) (fun c => ?_)
  · rw [if_pos c] at hA; subst c; exact arm0 (H_42 rfl) fun h => H_47 (arity_ne hA h)
  rw [if_neg c] at hA
  refine chain_step (fun c => ?_) (fun c => ?_)
  · rw [if_pos c] at hA; subst c; exact arm1 (fun a => H_43 a rfl) fun h => H_47 (arity_ne hA h)
  rw [if_neg c] at hA
  refine chain_step (fun c => ?_) (fun c => ?_)
  · rw [if_pos c] at hA; subst c; exact arm0 (H_44 rfl) fun h => H_47 (arity_ne hA h)
  rw [if_neg c] at hA
  refine chain_step (fun c => ?_) (fun c => ?_)
  · rw [if_pos c] at hA; subst c; exact arm0 (H_45 rfl) fun h => H_47 (arity_ne hA h)
  rw [if_neg c] at hA
  refine chain_step (fun c => ?_) (fun c => ?_)
  · rw [if_pos c] at hA; subst c; exact arm0 (H_46 rfl) fun h => H_47 (arity_ne hA h)
  rw [if_neg c] at hA
  exact H_47 (by rw [hA]; simp)

/-- the arms as a table -/
def modelTable : List (String × Nat) :=
  [("Null", 0), ("Bool", 0), ("Boolean", 0), ("Utf8", 0), ("LargeUtf8", 0), ("Utf8View", 0), ("U8", 0), ("UInt8", 0), ("U16", 0), ("UInt16", 0), ("U32", 0), ("UInt32", 0), ("U64", 0), ("UInt64", 0), ("I8", 0), ("Int8", 0), ("I16", 0), ("Int16", 0), ("I32", 0), ("Int32", 0), ("I64", 0), ("Int64", 0), ("F16", 0), ("Float16", 0), ("F32", 0), ("Float32", 0), ("F64", 0), ("Float64", 0), ("Date32", 0), ("Date64", 0), ("Binary", 0), ("LargeBinary", 0), ("FixedSizeBinary", 1), ("BinaryView", 0), ("Timestamp", 2), ("Time32", 1), ("Time64", 1), ("Duration", 1), ("Decimal128", 2), ("Struct", 0), ("List", 0), ("LargeList", 0), ("FixedSizeList", 1), ("Dictionary", 0), ("Map", 0), ("Union", 0)]

theorem lookup_cons_ite {β} (x k : String) (v : β) (r : List (String × β)) :
    List.lookup x ((k, v) :: r) = if x = k then some v else List.lookup x r := by
  rw [List.lookup_cons]
  by_cases h : x = k
  · rw [if_pos h, beq_iff_eq.mpr h]
  · rw [if_neg h, beq_false_of_ne h]

theorem mem_of_lookup {α β} [BEq α] [LawfulBEq α] :
    ∀ {l : List (α × β)} {x : α} {v : β}, l.lookup x = some v → (x, v) ∈ l
  | (k, w) :: r, x, v, h => by
    rw [List.lookup_cons] at h
    split at h
    · next hk => cases h; rw [eq_of_beq hk]; exact List.mem_cons_self
    · exact List.mem_cons_of_mem _ (mem_of_lookup h)

/-- the if-chain is the look-up in the table -/
theorem modelArity_eq_lookup (x : String) : modelArity x = modelTable.lookup x := by
  simp only [modelArity, modelTable, lookup_cons_ite, List.lookup_nil]

theorem modelArity_mem (x : String) (n : Nat) (h : modelArity x = some n) : (x, n) ∈ modelTable :=
  mem_of_lookup (modelArity_eq_lookup x ▸ h)

end SaModel.Lemmas.C09
