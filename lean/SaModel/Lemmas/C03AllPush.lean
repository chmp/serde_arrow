import SaModel.Lemmas.C03All
import SaModel.Lemmas.C10TakePush
/-
`push` (the whole mutual block) keeps every invariant `All I` whose clauses survive the elementary writes:
    KeepsPush ext W G I → (W → SValOK x) → push ext b x = ok b' → (G → Safe b) → All I b → All I b'
The guard `G → Safe ..` is handed down to the children (`Safe` is a property of what `take` leaves behind, so it survives
every push: `push_takeRest`).
-/
namespace SaModel.Lemmas.C03
open SaModel SaModel.Build SaModel.Spec

variable {ext : Ext} {W G : Prop} {I : NodeInv}

theorem guard_take {b b' : B} (h : takeRest b' = takeRest b) (hg : G → Safe b) : G → Safe b' :=
  fun g => Safe.of_takeRest h (hg g)

theorem guard_takeAll {fs' fs : BL} (h : takeRestAll fs' = takeRestAll fs) (hg : G → SafeL fs) : G → SafeL fs' :=
  fun g => (SafeL_takeRest _).1 (h ▸ (SafeL_takeRest _).2 (hg g))

theorem guard_get {fs : BL} {i : Nat} {c : B} {m : FieldMeta} (hget : fs.get? i = some (c, m)) (hg : G → SafeL fs) :
    G → Safe c :=
  fun g => SafeL.get _ _ (c, m) (hg g) hget

theorem SS.start_fields {s s' : SS} (h : s.start = .ok s') : s'.fields = s.fields := by
  simp only [SS.start] at h
  obtain ⟨v', _, h2⟩ := (bind_ok _ _ _).1 h
  cases h2; rfl

theorem endFields_All (hk : Keeps G I) : ∀ (fs : BL) (seen : List Bool) (fs' : BL), endFields fs seen = .ok fs' →
    (G → SafeL fs) → AllL I fs → AllL I fs' :=
  endFields_ok (fun _ _ => trivial) (fun _ ih hg hp => ⟨hp.1, ih (fun g => (hg g).2) hp.2⟩)
    (fun _ h0 _ ih hg hp => ⟨pushNone_All hk _ _ (fun g => (hg g).1) h0 hp.1, ih (fun g => (hg g).2) hp.2⟩)

theorem SS.finishRow_All (hk : Keeps G I) {s s' : SS} (hg : G → SafeL s.fields) (h : s.finishRow = .ok s')
    (hp : AllL I s.fields) : AllL I s'.fields := by
  simp only [SS.finishRow] at h
  obtain ⟨fs, h1, h2⟩ := (bind_ok _ _ _).1 h
  cases h2
  exact endFields_All hk _ _ _ h1 hg hp

theorem isBinary_not_utf8 (ty : BytesTy) (h : isBinaryTy ty = true) : ¬ (isUtf8Ty ty = true) := by
  cases ty <;> simp [isBinaryTy, isUtf8Ty] at h ⊢

theorem u8_ScalarOK (x : UInt8) : ScalarOK (.int .u8 x.toNat) := by
  refine Or.inr ?_
  have := x.toNat_lt
  rw [inRange_iff]
  simp only [IntTy.min, IntTy.max]
  omega

theorem byteVals_OK : ∀ (bs : Bytes), SValsOK (byteVals bs)
  | [] => trivial
  | x :: rest => ⟨u8_ScalarOK x, byteVals_OK rest⟩

theorem SValOK.scalar : ∀ {x : SVal}, SValOK x → ScalarOK x := by
  intro x h
  cases x <;> first | exact h | trivial

theorem row_All (hk : Keeps G I) {s s1 s2 s3 : SS} (h1 : s.start = .ok s1) (hsk : SSkel s2 s1)
    (h2 : (G → SafeL s1.fields) → AllL I s1.fields → AllL I s2.fields) (h3 : s2.finishRow = .ok s3) (hg : G → Safe s.toB)
    (hp : All I s.toB) : All I s3.toB :=
  have hg1 : G → SafeL s1.fields := by rw [SS.start_fields h1]; exact fun g => (hg g).1
  SS.finishRow_All hk (guard_takeAll hsk.2.2.1 hg1) h3 (h2 hg1 (by rw [SS.start_fields h1]; exact hp))

/-- the loops carry the clause of the open offset, and every motive the guard -/
theorem All_cases (hk : KeepsPush ext W G I) :
    PushCases ext (fun b x b' => (W → SValOK x) → (G → Safe b) → All I b → All I b')
    (fun s _ x s' => (W → SValOK x) → (G → SafeL s.fields) →
      (G → SafeL s'.fields) ∧ (AllL I s.fields → AllL I s'.fields))
    (fun large el offs xs r => (W → SValsOK xs) → (G → Safe el) → I.offs large offs → All I el →
      I.offs large r.2 ∧ All I r.1)
    (fun el _ xs r => (W → SValsOK xs) → (G → Safe el) → All I el → All I r.1)
    (fun s xs s' => (W → SValsOK xs) → (G → SafeL s.fields) → AllL I s.fields → AllL I s'.fields)
    (fun s fs s' => (W → SFieldsOK fs) → (G → SafeL s.fields) → AllL I s.fields → AllL I s'.fields)
    (fun s es s' => (W → SEntriesOK es) → (G → SafeL s.fields) → AllL I s.fields → AllL I s'.fields)
    (fun s ops s' => (W → SOpsOK ops) → (G → SafeL s.fields) → AllL I s.fields → AllL I s'.fields)
    (fun offs ks vs es r => (W → SEntriesOK es) → (G → Safe ks) → (G → Safe vs) → I.offs false offs → All I ks →
      All I vs → I.offs false r.1 ∧ All I r.2.1 ∧ All I r.2.2)
    (fun _ offs ks vs ops r => (W → SOpsOK ops) → (G → Safe ks) → (G → Safe vs) → I.offs false offs → All I ks →
      All I vs → I.offs false r.1 ∧ All I r.2.1 ∧ All I r.2.2) where
  fwdSome ih hx := ih (by simpa only [SValOK] using hx)
  fwdNewtype ih hx := ih (by simpa only [SValOK] using hx)
  null _ h _ hg := pushNone_All hk.toKeeps _ _ hg h
  scalar _ h hx _ := pushScalar_All hk _ _ _ (fun w => (hx w).scalar) h
  list hx _ h2 _ ih hxs hg hp :=
    ih (by cases hx <;> simpa only [SValOK] using hxs) hg (hk.offs_dup h2 hp.1) hp.2
  listBytes _ _ _ ih _ := ih fun _ => byteVals_OK _
  fixedSizeList hx _ _ ih hxs hg hp := ih (by cases hx <;> simpa only [SValOK] using hxs) (fun g => (hg g).1) hp
  binary _ hb _ h2 _ h4 _ _ hp := by
    obtain ⟨l, hl, rfl⟩ := duplicateLast_ok h2
    obtain ⟨rfl, hm⟩ := iter_incrementLast _ _ l _ h4
    exact hk.bytes_chunk hl hm (fun hty => absurd hty (isBinary_not_utf8 _ hb)) hp
  binaryView _ _ _ h3 _ _ hp := hk.view_push (fun hty => by cases hty) (viewSeq_cases h3) hp
  fixedSizeBinary _ _ _ _ _ _ := trivial
  structTuple hx _ h1 h2 ih h3 hxs :=
    row_All hk.toKeeps h1 (pushTupleElems_takeRest ext _ _ _ h2) (ih (by cases hx <;> simpa only [SValOK] using hxs)) h3
  structRecord h1 h2 ih h3 hxs :=
    row_All hk.toKeeps h1 (pushFields_takeRest ext _ _ _ h2) (ih (by simpa only [SValOK] using hxs)) h3
  structMap h1 h2 ih h3 hxs :=
    row_All hk.toKeeps h1 ((pushStructEntries_takeRest ext _ _ _ h2).trans (SSkel.next _ _))
      (ih (by simpa only [SValOK] using hxs)) h3
  structMapRaw h1 h2 ih h3 hxs :=
    row_All hk.toKeeps h1 ((pushStructOps_takeRest ext _ _ _ h2).trans (SSkel.next _ _))
      (ih (by simpa only [SValOK] using hxs)) h3
  map _ h2 _ ih hxs hg hp :=
    ih (by simpa only [SValOK] using hxs) (fun g => (hg g).1) (fun g => (hg g).2) (hk.offs_dup h2 hp.1) hp.2.1 hp.2.2
  mapRaw _ h2 _ ih hxs hg hp :=
    ih (by simpa only [SValOK] using hxs) (fun g => (hg g).1) (fun g => (hg g).2) (hk.offs_dup h2 hp.1) hp.2.1 hp.2.2
  union hx hget hco _ _ _ ih hxs hg hp :=
    hk.union_row (fun hfs => AllL_set _ _ _ (ih (by cases hx <;> first | exact fun _ => trivial | simpa only [SValOK] using hxs)
      (guard_get hget hg) (AllL_get _ _ _ _ hget hfs)) hfs) hco hp
  element _ hget h ih hx hg :=
    ⟨fun g => SafeL.set _ _ _ (hg g) (guard_take (push_takeRest ext _ _ _ h) (guard_get hget hg) g),
      fun hp => AllL_set _ _ _ (ih hx (guard_get hget hg) (AllL_get _ _ _ _ hget hp)) hp⟩
  elemsNil _ _ ho hp := ⟨ho, hp⟩
  elemsCons h1 h2 ih _ ihr hx hg ho hp :=
    ihr (fun w => (hx w).2) (guard_take (push_takeRest ext _ _ _ h2) hg) (hk.offs_inc h1 ho) (ih (fun w => (hx w).1) hg hp)
  countNil _ _ hp := hp
  countCons h2 ih _ ihr hx hg hp :=
    ihr (fun w => (hx w).2) (guard_take (push_takeRest ext _ _ _ h2) hg) (ih (fun w => (hx w).1) hg hp)
  tupleNil _ _ hp := hp
  tupleCons _ hel _ ih hx hg hp :=
    ih (fun w => (hx w).2) (hel (fun w => (hx w).1) hg).1 ((hel (fun w => (hx w).1) hg).2 hp)
  tupleExtra _ _ ih hx hg hp := ih (fun w => (hx w).2) hg hp
  fieldsNil _ _ hp := hp
  fieldsCons _ hel _ ih hx hg hp :=
    ih (fun w => (hx w).2) (hel (fun w => (hx w).1) hg).1 ((hel (fun w => (hx w).1) hg).2 hp)
  fieldsUnknown _ _ ih hx hg hp := ih (fun w => (hx w).2) hg hp
  entriesNil _ _ hp := hp
  entriesCons _ _ hel _ ih hx hg hp :=
    ih (fun w => (hx w).2.2) (hel (fun w => (hx w).2.1) hg).1 ((hel (fun w => (hx w).2.1) hg).2 hp)
  entriesUnknown _ _ _ ih hx hg hp := ih (fun w => (hx w).2.2) hg hp
  opsNil _ _ hp := hp
  opsKey _ _ ih hx hg hp := ih (fun w => (hx w).2) hg hp
  opsValue _ hel _ ih hx hg hp :=
    ih (fun w => (hx w).2) (hel (fun w => (hx w).1) hg).1 ((hel (fun w => (hx w).1) hg).2 hp)
  opsValueUnkeyed _ _ ih hx hg hp := ih (fun w => (hx w).2) hg hp
  mapEntriesNil _ _ _ ho hk' hv := ⟨ho, hk', hv⟩
  mapEntriesCons h1 h2 ihk h3 ihv _ ih hx hgk hgv ho hk' hv :=
    ih (fun w => (hx w).2.2) (guard_take (push_takeRest ext _ _ _ h2) hgk) (guard_take (push_takeRest ext _ _ _ h3) hgv)
      (hk.offs_inc h1 ho) (ihk (fun w => (hx w).1) hgk hk') (ihv (fun w => (hx w).2.1) hgv hv)
  mapOpsNil _ _ _ ho hk' hv := ⟨ho, hk', hv⟩
  mapOpsKey h1 h2 ihk _ ih hx hgk hgv ho hk' hv :=
    ih (fun w => (hx w).2) (guard_take (push_takeRest ext _ _ _ h2) hgk) hgv (hk.offs_inc h1 ho)
      (ihk (fun w => (hx w).1) hgk hk') hv
  mapOpsValue h3 ihv _ ih hx hgk hgv ho hk' hv :=
    ih (fun w => (hx w).2) hgk (guard_take (push_takeRest ext _ _ _ h3) hgv) ho hk' (ihv (fun w => (hx w).1) hgv hv)

theorem push_All (hk : KeepsPush ext W G I) (x : SVal) (b b' : B) (hx : W → SValOK x) (h : push ext b x = .ok b') :
    (G → Safe b) → All I b → All I b' :=
  (All_cases hk).push x b b' h hx

theorem pushElems_All (hk : KeepsPush ext W G I) (xs : SVals) (hx : W → SValsOK xs) (large : Bool) (el : B) (offs : List Int)
    (r : B × List Int) (h : pushElems ext large el offs xs = .ok r) :
    (G → Safe el) → I.offs large offs → All I el → I.offs large r.2 ∧ All I r.1 :=
  (All_cases hk).elems xs large el offs r h hx

theorem pushCountElems_All (hk : KeepsPush ext W G I) (xs : SVals) (hx : W → SValsOK xs) (el : B) (c : Nat) (r : B × Nat)
    (h : pushCountElems ext el c xs = .ok r) : (G → Safe el) → All I el → All I r.1 :=
  (All_cases hk).count xs el c r h hx

theorem pushTupleElems_All (hk : KeepsPush ext W G I) (xs : SVals) (hx : W → SValsOK xs) (s s' : SS)
    (h : pushTupleElems ext s xs = .ok s') : (G → SafeL s.fields) → AllL I s.fields → AllL I s'.fields :=
  (All_cases hk).tuple xs s s' h hx

theorem pushFields_All (hk : KeepsPush ext W G I) (fs : SFields) (hx : W → SFieldsOK fs) (s s' : SS)
    (h : pushFields ext s fs = .ok s') : (G → SafeL s.fields) → AllL I s.fields → AllL I s'.fields :=
  (All_cases hk).fields fs s s' h hx

theorem pushStructEntries_All (hk : KeepsPush ext W G I) (es : SEntries) (hx : W → SEntriesOK es) (s s' : SS)
    (h : pushStructEntries ext s es = .ok s') : (G → SafeL s.fields) → AllL I s.fields → AllL I s'.fields :=
  (All_cases hk).structEntries es s s' h hx

theorem pushStructOps_All (hk : KeepsPush ext W G I) (ops : SMapOps) (hx : W → SOpsOK ops) (s s' : SS)
    (h : pushStructOps ext s ops = .ok s') : (G → SafeL s.fields) → AllL I s.fields → AllL I s'.fields :=
  (All_cases hk).structOps ops s s' h hx

theorem pushMapEntries_All (hk : KeepsPush ext W G I) (es : SEntries) (hx : W → SEntriesOK es) (offs : List Int) (ks vs : B)
    (r : List Int × B × B) (h : pushMapEntries ext offs ks vs es = .ok r) :
    (G → Safe ks) → (G → Safe vs) → I.offs false offs → All I ks → All I vs →
    I.offs false r.1 ∧ All I r.2.1 ∧ All I r.2.2 :=
  (All_cases hk).mapEntries es offs ks vs r h hx

theorem pushMapOps_All (hk : KeepsPush ext W G I) (ops : SMapOps) (hx : W → SOpsOK ops) (pd : Bool) (offs : List Int)
    (ks vs : B) (r : List Int × B × B) (h : pushMapOps ext pd offs ks vs ops = .ok r) :
    (G → Safe ks) → (G → Safe vs) → I.offs false offs → All I ks → All I vs →
    I.offs false r.1 ∧ All I r.2.1 ∧ All I r.2.2 :=
  (All_cases hk).mapOps ops pd offs ks vs r h hx

end SaModel.Lemmas.C03
