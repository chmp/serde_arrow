import SaModel.Spec.SchemaOK
/-
C09: the metadata clause of `SchemaOK` made explicit — every strictly key-sorted association list (what a Rust
`HashMap` looks like on the wire) is in HashMap normal form, `metaOK`.
-/
namespace SaModel.SchemaJson
open SaModel

/-- strictly increasing keys -/
def sortedMeta : Metadata → Bool
  | [] => true
  | (k, _) :: r => r.all (fun kv => decide (k < kv.1)) && sortedMeta r

theorem get?_none_of_lb (k : String) : (r : Metadata) → (∀ kv ∈ r, k < kv.1) → Metadata.get? r k = none
  | [], _ => rfl
  | (k', v') :: r, h => by
    have h0 : k < k' := h (k', v') (by simp)
    have hne : k' ≠ k := fun e => String.lt_irrefl k (e ▸ h0)
    simp [Metadata.get?, hne, get?_none_of_lb k r (fun kv hkv => h kv (by simp [hkv]))]

theorem insertMeta_of_lb (k v : String) (r : Metadata) (h : ∀ kv ∈ r, k < kv.1) : insertMeta k v r = (k, v) :: r := by
  cases r with
  | nil => rfl
  | cons kv r =>
    obtain ⟨k', v'⟩ := kv
    have : k < k' := h (k', v') (by simp)
    simp [insertMeta, this]

theorem canonMeta_of_sorted : (m : Metadata) → sortedMeta m = true → canonMeta m = m
  | [], _ => rfl
  | (k, v) :: r, h => by
    simp only [sortedMeta, Bool.and_eq_true, List.all_eq_true, decide_eq_true_eq] at h
    have ih := canonMeta_of_sorted r h.2
    simp [canonMeta, ih, hasKey, get?_none_of_lb k r h.1, insertMeta_of_lb k v r h.1]

theorem sorted_filter (p : String × String → Bool) : (m : Metadata) → sortedMeta m = true → sortedMeta (m.filter p) = true
  | [], _ => rfl
  | (k, v) :: r, h => by
    simp only [sortedMeta, Bool.and_eq_true, List.all_eq_true, decide_eq_true_eq] at h
    have ih := sorted_filter p r h.2
    simp only [List.filter]
    split
    · simp only [sortedMeta, Bool.and_eq_true, List.all_eq_true, decide_eq_true_eq, ih, and_true]
      intro kv hkv
      exact h.1 kv (List.mem_filter.1 hkv).1
    · exact ih

theorem mem_of_get? (k s : String) : (r : Metadata) → Metadata.get? r k = some s → ∃ kv ∈ r, kv.1 = k
  | [], h => by simp [Metadata.get?] at h
  | (k', v') :: r, h => by
    by_cases e : k' = k
    · exact ⟨(k', v'), by simp, e⟩
    · simp [Metadata.get?, e] at h
      obtain ⟨kv, hkv, hk⟩ := mem_of_get? k s r h
      exact ⟨kv, by simp [hkv], hk⟩

theorem ne_of_get?_none (k : String) : (r : Metadata) → Metadata.get? r k = none → ∀ kv ∈ r, kv.1 ≠ k
  | [], _ => by simp
  | (k', v') :: r, h => by
    by_cases e : k' = k
    · simp [Metadata.get?, e] at h
    · simp [Metadata.get?, e] at h
      intro kv hkv
      simp only [List.mem_cons] at hkv
      rcases hkv with rfl | hkv
      · exact e
      · exact ne_of_get?_none k r h kv hkv

theorem insert_split (k s : String) : (m : Metadata) → sortedMeta m = true → Metadata.get? m k = some s →
    insertMeta k s (m.filter (fun kv => decide (kv.1 ≠ k))) = m
  | [], _, h => by simp [Metadata.get?] at h
  | (k', v') :: r, hs, hg => by
    simp only [sortedMeta, Bool.and_eq_true, List.all_eq_true, decide_eq_true_eq] at hs
    by_cases e : k' = k
    · subst e
      have hv : v' = s := by simpa [Metadata.get?] using hg
      subst hv
      have hne : ∀ kv ∈ r, kv.1 ≠ k' := fun kv hkv => (String.ne_of_lt (hs.1 kv hkv)).symm
      have hf : r.filter (fun kv => decide (kv.1 ≠ k')) = r := List.filter_eq_self.2 (fun kv hkv => by simp [hne kv hkv])
      rw [List.filter_cons_of_neg (by simp), hf, insertMeta_of_lb k' v' r hs.1]
    · have hg' : Metadata.get? r k = some s := by simpa [Metadata.get?, e] using hg
      obtain ⟨kv, hkv, hk⟩ := mem_of_get? k s r hg'
      have hlt : k' < k := hk ▸ hs.1 kv hkv
      have h1 : ¬ k < k' := String.lt_asymm hlt
      have h2 : ¬ k = k' := fun h => e h.symm
      have ih := insert_split k s r hs.2 hg'
      rw [List.filter_cons_of_pos (by simp [e])]
      simp only [insertMeta, h1, h2, ↓reduceIte, ih]

theorem metaOK_of_sorted (m : Metadata) (h : sortedMeta m = true) : metaOK m = true := by
  have hc := canonMeta_of_sorted _ (sorted_filter (fun kv => decide (kv.1 ≠ STRATEGY_KEY)) m h)
  simp only [metaOK, decide_eq_true_eq, metaRT, nonStrategy, hc]
  split
  · next hg =>
    have hne := ne_of_get?_none STRATEGY_KEY m hg
    exact List.filter_eq_self.2 (fun kv hkv => by simp [hne kv hkv])
  · next s hg => exact insert_split STRATEGY_KEY s m h hg

example : sortedMeta [("ARROW:extension:name", "x"), (STRATEGY_KEY, "MapAsStruct"), ("a", "")] = true := by decide +kernel

end SaModel.SchemaJson
