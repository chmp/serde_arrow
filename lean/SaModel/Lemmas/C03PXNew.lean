import SaModel.Lemmas.C03PXPush
import SaModel.Lemmas.C01New
/-
Fresh builders satisfy `PX`; hence so does the root after any accepted sequence of rows (`runRows_PX`).
-/
namespace SaModel.Lemmas.C03
open SaModel SaModel.Build SaModel.Spec

theorem OffsLe_zero (large : Bool) : OffsLe [0] (offMax large) := by
  intro o ho
  simp only [List.mem_singleton] at ho
  subst ho
  cases large <;> simp [offMax]

theorem BytesPX_fresh (ty : BytesTy) : BytesPX ty [0] [] := by
  refine ⟨⟨rfl, rfl, by simp⟩, OffsLe_zero _, fun _ => rfl⟩

mutual
/-- what `take` leaves behind satisfies `PX`: every offset list is `[0]`, every buffer empty -/
theorem takeRest_PX : ∀ (b : B), PX (takeRest b)
  | .null _ _ => by simp only [takeRest, PX]
  | .unknownVariant _ => by simp only [takeRest, PX]
  | .leaf _ _ _ _ => by simp only [takeRest, PX]
  | .bytes _ ty _ _ _ => by simp only [takeRest, PX]; exact BytesPX_fresh ty
  | .bytesView _ ty _ _ _ => by simp only [takeRest, PX]; exact ViewPX_fresh ty
  | .fixedSizeBinary _ _ _ _ _ _ => by simp only [takeRest, PX]
  | .list _ large _ _ _ el => by simp only [takeRest, PX]; exact ⟨OffsLe_zero large, takeRest_PX el⟩
  | .fixedSizeList _ _ _ _ _ _ el => by simp only [takeRest, PX]; exact takeRest_PX el
  | .map _ _ _ _ ks vs => by simp only [takeRest, PX]; exact ⟨OffsLe_zero false, takeRest_PX ks, takeRest_PX vs⟩
  | .struct _ _ _ fs _ _ _ => by simp only [takeRest, PX]; exact takeRestAll_PX fs
  | .dictionary _ idx vals _ => by simp only [takeRest, PX]; exact ⟨takeRest_PX idx, takeRest_PX vals⟩
  | .union _ fs _ _ _ => by simp only [takeRest, PX]; exact takeRestAll_PX fs
theorem takeRestAll_PX : ∀ (fs : BL), PXL (takeRestAll fs)
  | .nil => trivial
  | .cons b _ r => ⟨takeRest_PX b, takeRestAll_PX r⟩
end

/-- a fresh root is what `take` leaves behind (`Build.newRoot_fresh`) -/
theorem newRoot_PX (fields : List Field) (root : B) (h : newRoot fields = .ok root) : PX root := by
  rw [← (newRoot_fresh h).2.2]; exact takeRest_PX root

/-- **after any accepted sequence of rows**: offsets well formed and within i32/i64, string data valid UTF-8 -/
theorem runRows_PX (ext : Ext) (fields : List Field) (rows : List SVal) (root : B)
    (h : runRows ext fields rows = .ok root) : PX root :=
  runRows_induct h (newRoot_PX fields) fun x _ => push_PX ext x

end SaModel.Lemmas.C03
