import SaModel.Lemmas.C03WF
/-
`BuiltFor dt nl b` read as an inductive relation: one clause per builder family, with the schema already taken apart
(`dt` is the constructor the family stands for, child fields are `Field.mk name dt nl md`), the sub-`BuiltFor` facts and
the induction hypotheses handed over, the children of a struct and of a union once (`BuiltForL`, `BuiltForU`).
A fact "a property of the schema gives a property of every builder built for it" takes the schema property as a hypothesis
inside the motive and says per family only how its two predicates unfold (`BuiltForCases.builtFor / .builtForL / .builtForU`).
-/
namespace SaModel.Lemmas.C03
open SaModel SaModel.Build SaModel.Spec

structure BuiltForCases (M : DataType → Bool → B → Prop) (ML : Fields → BL → Prop) (MU : UFields → BL → Nat → Prop) :
    Prop where
  null : ∀ {nl p len}, M .null nl (.null p len)
  unknownVariant : ∀ {nl p}, M .null nl (.unknownVariant p)
  leaf : ∀ {p k v vals}, M (leafDT k) v.isSome (.leaf p k v vals)
  bytes : ∀ {p ty v offs data}, M (bytesDT ty) v.isSome (.bytes p ty v offs data)
  bytesView : ∀ {p ty v views buf}, M (viewDT ty) v.isSome (.bytesView p ty v views buf)
  fixedSizeBinary : ∀ {p} {n : Nat} {len v buf cur}, M (.fixedSizeBinary (n : Int)) v.isSome (.fixedSizeBinary p n len v buf cur)
  list : ∀ {p v offs el name dt nl md}, BuiltFor dt nl el → M dt nl el →
    M (.list (.mk name dt nl md)) v.isSome (.list p false (metaOfField (.mk name dt nl md)) v offs el)
  largeList : ∀ {p v offs el name dt nl md}, BuiltFor dt nl el → M dt nl el →
    M (.largeList (.mk name dt nl md)) v.isSome (.list p true (metaOfField (.mk name dt nl md)) v offs el)
  fixedSizeList : ∀ {p} {n : Nat} {len v cur el name dt nl md}, BuiltFor dt nl el → M dt nl el →
    M (.fixedSizeList (.mk name dt nl md) (n : Int)) v.isSome
      (.fixedSizeList p (metaOfField (.mk name dt nl md)) n len v cur el)
  map : ∀ {p v offs ks vs ename sorted enl emd kname kdt knl kmd vname vdt vnl vmd}, BuiltFor kdt knl ks → M kdt knl ks →
    BuiltFor vdt vnl vs → M vdt vnl vs →
    M (.map (.mk ename (.struct (.cons (.mk kname kdt knl kmd) (.cons (.mk vname vdt vnl vmd) .nil))) enl emd) sorted) v.isSome
      (.map p ⟨ename, sorted, metaOfField (.mk kname kdt knl kmd), metaOfField (.mk vname vdt vnl vmd)⟩ v offs ks vs)
  struct : ∀ {p len v fs cached next seen fields}, BuiltForL fields fs → ML fields fs →
    M (.struct fields) v.isSome (.struct p len v fs cached next seen)
  dictionary : ∀ {p idx vals index k vdt nl}, isIntDT k = true → BuiltFor k nl idx → M k nl idx → BuiltFor vdt false vals →
    M vdt false vals → M (.dictionary k vdt) nl (.dictionary p idx vals index)
  union : ∀ {p fs types offs cur ufs mode nl}, BuiltForU ufs fs 0 → MU ufs fs 0 →
    M (.union ufs mode) nl (.union p fs types offs cur)
  nilL : ML .nil .nil
  consL : ∀ {b rl r name dt nl md}, BuiltFor dt nl b → M dt nl b → BuiltForL r rl → ML r rl →
    ML (.cons (.mk name dt nl md) r) (.cons b (metaOfField (.mk name dt nl md)) rl)
  nilU : ∀ {k}, MU .nil .nil k
  consU : ∀ {b rl r k name dt nl md}, BuiltFor dt nl b → M dt nl b → BuiltForU r rl (k + 1) → MU r rl (k + 1) →
    MU (.cons (k : Int) (.mk name dt nl md) r) (.cons b (metaOfField (.mk name dt nl md)) rl) k

namespace BuiltForCases
variable {M : DataType → Bool → B → Prop} {ML : Fields → BL → Prop} {MU : UFields → BL → Nat → Prop}

mutual
theorem builtFor (H : BuiltForCases M ML MU) : ∀ (b : B) (dt : DataType) (nl : Bool), BuiltFor dt nl b → M dt nl b
  | .null _ _, _, _, h => by simp only [BuiltFor] at h; subst h; exact H.null
  | .unknownVariant _, _, _, h => by simp only [BuiltFor] at h; subst h; exact H.unknownVariant
  | .leaf _ _ _ _, _, _, h => by simp only [BuiltFor] at h; obtain ⟨rfl, rfl⟩ := h; exact H.leaf
  | .bytes _ _ _ _ _, _, _, h => by simp only [BuiltFor] at h; obtain ⟨rfl, rfl⟩ := h; exact H.bytes
  | .bytesView _ _ _ _ _, _, _, h => by simp only [BuiltFor] at h; obtain ⟨rfl, rfl⟩ := h; exact H.bytesView
  | .fixedSizeBinary _ _ _ _ _ _, _, _, h => by
    simp only [BuiltFor] at h; obtain ⟨rfl, rfl⟩ := h; exact H.fixedSizeBinary
  | .list _ large _ _ _ el, _, _, h => by
    simp only [BuiltFor] at h
    obtain ⟨⟨name, dt, nl, md⟩, rfl, rfl, rfl, he⟩ := h
    cases large
    · exact H.list he (builtFor H el _ _ he)
    · exact H.largeList he (builtFor H el _ _ he)
  | .fixedSizeList _ _ _ _ _ _ el, _, _, h => by
    simp only [BuiltFor] at h
    obtain ⟨⟨name, dt, nl, md⟩, rfl, rfl, rfl, he⟩ := h
    exact H.fixedSizeList he (builtFor H el _ _ he)
  | .map _ _ _ _ ks vs, _, _, h => by
    simp only [BuiltFor] at h
    obtain ⟨ename, ⟨kname, kdt, knl, kmd⟩, ⟨vname, vdt, vnl, vmd⟩, sorted, enl, emd, rfl, rfl, rfl, hk, hv⟩ := h
    exact H.map hk (builtFor H ks _ _ hk) hv (builtFor H vs _ _ hv)
  | .struct _ _ _ fs _ _ _, _, _, h => by
    simp only [BuiltFor] at h
    obtain ⟨fields, rfl, rfl, hl⟩ := h
    exact H.struct hl (builtForL H fs fields hl)
  | .dictionary _ idx vals _, _, _, h => by
    simp only [BuiltFor] at h
    obtain ⟨k, vdt, rfl, hk, hi, hv⟩ := h
    exact H.dictionary hk hi (builtFor H idx _ _ hi) hv (builtFor H vals _ _ hv)
  | .union _ fs _ _ _, _, _, h => by
    simp only [BuiltFor] at h
    obtain ⟨ufs, mode, rfl, hu⟩ := h
    exact H.union hu (builtForU H fs ufs 0 hu)
theorem builtForL (H : BuiltForCases M ML MU) : ∀ (bl : BL) (fs : Fields), BuiltForL fs bl → ML fs bl
  | .nil, .nil, _ => H.nilL
  | .nil, .cons _ _, h => by simp [BuiltForL] at h
  | .cons _ _ _, .nil, h => by simp [BuiltForL] at h
  | .cons b _ rl, .cons ⟨name, dt, nl, md⟩ r, h => by
    simp only [BuiltForL] at h
    obtain ⟨rfl, hb, hr⟩ := h
    exact H.consL hb (builtFor H b _ _ hb) hr (builtForL H rl r hr)
theorem builtForU (H : BuiltForCases M ML MU) : ∀ (bl : BL) (ufs : UFields) (k : Nat), BuiltForU ufs bl k → MU ufs bl k
  | .nil, .nil, _, _ => H.nilU
  | .nil, .cons _ _ _, _, h => by simp [BuiltForU] at h
  | .cons _ _ _, .nil, _, h => by simp [BuiltForU] at h
  | .cons b _ rl, .cons _ ⟨name, dt, nl, md⟩ r, k, h => by
    simp only [BuiltForU] at h
    obtain ⟨rfl, rfl, hb, hr⟩ := h
    exact H.consU hb (builtFor H b _ _ hb) hr (builtForU H rl r (k + 1) hr)
end

end BuiltForCases

end SaModel.Lemmas.C03

namespace SaModel.Build
open SaModel SaModel.Spec SaModel.Lemmas.C03

/-- the key builder of a dictionary is an integer leaf -/
theorem builtFor_intLeaf (idx : B) (k : DataType) (nl : Bool) (hb : BuiltFor k nl idx) (hk : isIntDT k = true) :
    idx.isIntLeaf = true := by
  cases idx with
  | leaf p kind v vals =>
    simp only [BuiltFor] at hb
    obtain ⟨rfl, _⟩ := hb
    cases kind with
    | int t => rfl
    | _ => simp [leafDT, isIntDT] at hk
  | null _ _ => simp only [BuiltFor] at hb; subst hb; simp [isIntDT] at hk
  | unknownVariant _ => simp only [BuiltFor] at hb; subst hb; simp [isIntDT] at hk
  | bytes _ ty _ _ _ =>
    simp only [BuiltFor] at hb; obtain ⟨rfl, _⟩ := hb; cases ty <;> simp [bytesDT, isIntDT] at hk
  | bytesView _ ty _ _ _ =>
    simp only [BuiltFor] at hb; obtain ⟨rfl, _⟩ := hb; cases ty <;> simp [viewDT, isIntDT] at hk
  | fixedSizeBinary _ _ _ _ _ _ => simp only [BuiltFor] at hb; obtain ⟨rfl, _⟩ := hb; simp [isIntDT] at hk
  | list _ large _ _ _ _ =>
    simp only [BuiltFor] at hb; obtain ⟨f, rfl, _⟩ := hb; cases large <;> simp [isIntDT] at hk
  | fixedSizeList _ _ _ _ _ _ _ => simp only [BuiltFor] at hb; obtain ⟨f, rfl, _⟩ := hb; simp [isIntDT] at hk
  | map _ _ _ _ _ _ => simp only [BuiltFor] at hb; obtain ⟨_, _, _, _, _, _, rfl, _⟩ := hb; simp [isIntDT] at hk
  | struct _ _ _ _ _ _ _ => simp only [BuiltFor] at hb; obtain ⟨_, rfl, _⟩ := hb; simp [isIntDT] at hk
  | dictionary _ _ _ _ => simp only [BuiltFor] at hb; obtain ⟨_, _, rfl, _⟩ := hb; simp [isIntDT] at hk
  | union _ _ _ _ _ => simp only [BuiltFor] at hb; obtain ⟨_, _, rfl, _⟩ := hb; simp [isIntDT] at hk

end SaModel.Build
