import SaModel.Lemmas.C11PhysScalar
import SaModel.Lemmas.C01ObsRows
import SaModel.Lemmas.C01ObsPush
import SaModel.Lemmas.PushInd
import SaModel.Lemmas.SpecInterp
/-
C11, physical equality: records.  Whatever the discipline (struct fields through the name cache, map entries through
the name index, tuple elements by position) and whatever the order, the children of a struct builder end a record in a
state that depends on the documented struct value only:

  child j  :=  pushL lv_j (child j)      lv_j = the single value found for field j, `null` when none was given

`ChildRel un s s' j found`: across a field loop from `s` to `s'`, child `j` has received exactly the values `found`
(at most one: a second one is refused as `Duplicate field`).  `record_phys` assembles a whole record (`start`, loop,
`end`) from a per-child description of the loop.
-/
namespace SaModel.Build
open SaModel SaModel.Spec

/-- child `j` across a field loop: `found` are the documented values of the entries addressed to it -/
def ChildRel (un : Bytes → String) (s s' : SS) (j : Nat) (found : List LVal) : Prop :=
  ∀ c m, s.fields.get? j = some (c, m) → ∃ c', s'.fields.get? j = some (c', m) ∧
    match found with
    | [] => erase c' = erase c ∧ s'.seen[j]? = s.seen[j]?
    | [lv] => erase c' = pushL un lv (erase c) ∧ s.seen[j]? = some false ∧ s'.seen[j]? = some true
    | _ => False

theorem ChildRel.refl (un : Bytes → String) (s : SS) (j : Nat) : ChildRel un s s j [] :=
  fun c _ h => ⟨c, h, rfl, rfl⟩

/-- `next` and the name cache do not matter -/
theorem ChildRel.of_eq {un : Bytes → String} {s1 s2 s' : SS} {j : Nat} {found : List LVal}
    (hf : s2.fields = s1.fields) (hs : s2.seen = s1.seen) (h : ChildRel un s1 s' j found) : ChildRel un s2 s' j found := by
  intro c m hg
  rw [hf] at hg
  obtain ⟨c', hg', hm⟩ := h c m hg
  refine ⟨c', hg', ?_⟩
  rw [hs]; exact hm

theorem SS.element_parts {s s' : SS} {idx : Nat} {pc : B → R B} (h : s.element idx pc = .ok s') :
    ∃ c m c', s.fields.get? idx = some (c, m) ∧ s.seen[idx]? = some false ∧ pc c = .ok c' ∧
      s'.fields = s.fields.set idx c' ∧ s'.seen = s.seen.set idx true := by
  unfold SS.element at h
  split at h
  · simp [panic] at h
  · simp [ctx_ok, fail] at h
  · rename_i hseen
    split at h
    · simp [panic] at h
    · rename_i c m hget
      obtain ⟨c', h1, h2⟩ := (bind_ok _ _ _).1 h
      cases h2
      exact ⟨c, m, c', hget, hseen, h1, rfl, rfl⟩

/-- a field call on another child -/
theorem ChildRel.step_ne {un : Bytes → String} {s s1 s' : SS} {idx j : Nat} {c' : B} {found : List LVal} (hne : idx ≠ j)
    (hf : s1.fields = s.fields.set idx c') (hs : s1.seen = s.seen.set idx true)
    (h : ChildRel un s1 s' j found) : ChildRel un s s' j found := by
  intro c m hg
  have hg1 : s1.fields.get? j = some (c, m) := by rw [hf, BL.get?_set_ne _ _ _ _ hne]; exact hg
  obtain ⟨c2, hg2, hm⟩ := h c m hg1
  refine ⟨c2, hg2, ?_⟩
  have hseen : s1.seen[j]? = s.seen[j]? := by rw [hs, List.getElem?_set_ne hne]
  rw [hseen] at hm
  exact hm

/-- the field call on this child: it is the only one -/
theorem ChildRel.step_eq {un : Bytes → String} {s s1 s' : SS} {idx : Nat} {c c' : B} {m : FieldMeta} {lv : LVal}
    {found : List LVal} (hget : s.fields.get? idx = some (c, m)) (hseen : s.seen[idx]? = some false)
    (hf : s1.fields = s.fields.set idx c') (hs : s1.seen = s.seen.set idx true)
    (hc : pushL un lv (erase c) = erase c')
    (h : ChildRel un s1 s' idx found) : ChildRel un s s' idx (lv :: found) := by
  intro c0 m0 hg
  rw [hget] at hg; cases hg
  have hg1 : s1.fields.get? idx = some (c', m) := by rw [hf]; exact BL.get?_set_eq _ _ _ _ hget
  obtain ⟨c2, hg2, hm⟩ := h c' m hg1
  refine ⟨c2, hg2, ?_⟩
  have hs1 : s1.seen[idx]? = some true := by rw [hs, List.getElem?_set_self (List.getElem?_eq_some_iff.1 hseen).1]
  match found, hm with
  | [], hm => exact ⟨by rw [hm.1, hc], hseen, by rw [hm.2, hs1]⟩
  | [_], hm => rw [hs1] at hm; exact absurd hm.2.1 (by simp)

theorem endFields_phys : ∀ (fs : BL) (seen : List Bool) (fs' : BL), endFields fs seen = .ok fs' →
    fs'.length = fs.length ∧ ∀ j c m, fs.get? j = some (c, m) → ∃ c', fs'.get? j = some (c', m) ∧
      ((seen[j]? = some true ∧ c' = c) ∨ (seen[j]? = some false ∧ m.nullable = true ∧ pushNone c = .ok c')) := by
  refine endFields_ok ⟨rfl, fun j c m hg => by simp [BL.get?] at hg⟩ ?_ ?_
  · intro b m rest sr r _ ih
    refine ⟨by simp [BL.length, ih.1], fun j c0 m0 hg => ?_⟩
    cases j with
    | zero =>
      simp only [BL.get?, Option.some.injEq, Prod.mk.injEq] at hg
      obtain ⟨rfl, rfl⟩ := hg
      exact ⟨b, rfl, .inl ⟨rfl, rfl⟩⟩
    | succ j => simpa [BL.get?] using ih.2 j c0 m0 (by simpa [BL.get?] using hg)
  · intro b m rest sr b' r hn h0 _ ih
    refine ⟨by simp [BL.length, ih.1], fun j c0 m0 hg => ?_⟩
    cases j with
    | zero =>
      simp only [BL.get?, Option.some.injEq, Prod.mk.injEq] at hg
      obtain ⟨rfl, rfl⟩ := hg
      exact ⟨b', rfl, .inr ⟨rfl, hn, h0⟩⟩
    | succ j => simpa [BL.get?] using ih.2 j c0 m0 (by simpa [BL.get?] using hg)

theorem BL.ext_get : ∀ (fs1 fs2 : BL), fs1.length = fs2.length →
    (∀ j x, fs1.get? j = some x → fs2.get? j = some x) → fs1 = fs2
  | .nil, .nil, _, _ => rfl
  | .nil, .cons _ _ _, h, _ => by simp [BL.length] at h
  | .cons _ _ _, .nil, h, _ => by simp [BL.length] at h
  | .cons b1 m1 r1, .cons b2 m2 r2, hl, h => by
    have h0 := h 0 (b1, m1) rfl
    simp only [BL.get?, Option.some.injEq, Prod.mk.injEq] at h0
    obtain ⟨rfl, rfl⟩ := h0
    rw [BL.ext_get r1 r2 (by simpa [BL.length] using hl) (fun j x hx => by simpa [BL.get?] using h (j + 1) x (by simpa [BL.get?] using hx))]

theorem pushLF_length (un : Bytes → String) : ∀ (lfs : LFields) (fs : BL), (pushLF un lfs fs).length = fs.length
  | .nil, fs => by simp [pushLF]
  | .cons _ _ _, .nil => by simp [pushLF]
  | .cons _ v r, .cons b m rest => by simp [pushLF, BL.length, pushLF_length un r rest]

theorem pushLF_get (un : Bytes → String) : ∀ (vals : List (String × LVal)) (fs : BL) (j : Nat) (c : B) (m : FieldMeta)
    (nv : String × LVal), fs.get? j = some (c, m) → vals[j]? = some nv →
    (pushLF un (LFields.ofList vals) fs).get? j = some (pushL un nv.2 c, m)
  | [], _, _, _, _, _, _, h => by simp at h
  | (_, _) :: _, .nil, _, _, _, _, h, _ => by simp [BL.get?] at h
  | (n0, v0) :: vals, .cons b m0 rest, 0, c, m, nv, hg, hv => by
    simp only [BL.get?, Option.some.injEq, Prod.mk.injEq] at hg
    obtain ⟨rfl, rfl⟩ := hg
    simp only [List.getElem?_cons_zero, Option.some.injEq] at hv
    subst hv
    simp [LFields.ofList, pushLF, BL.get?]
  | (n0, v0) :: vals, .cons b m0 rest, j + 1, c, m, nv, hg, hv => by
    simp only [LFields.ofList, pushLF, BL.get?]
    exact pushLF_get un vals rest j c m nv (by simpa [BL.get?] using hg) (by simpa using hv)

theorem interpNull_ok {dt : DataType} {n : Bool} {md : Metadata} {v : LVal} (h : interpNull dt n md = .ok v) : v = .null :=
  (interpNull_ok_iff.1 h).1

/-- **A record leaves the struct builder in the state `pushL` computes from the documented struct value**: `start`, a
field loop from `s1` to `s2` that keeps the mid-record state and serves child `j` the candidates `collect` gathers for
field `j`, `end`. -/
theorem row_phys {un : Bytes → String} {s s1 s2 s3 : SS} {sfs : Fields} {lv : LVal} (collect : Field → R (List LVal))
    (hwf : WFH s.toB) (hsafe : NoDictKey s.toB) (hshape : ShapeL s.fields sfs) (h1 : s.start = .ok s1)
    (hloop : s1.next = 0 → s1.fields = s.fields → MidH s.fields s1 (List.replicate s.fields.length []) →
      ((∃ adds2, MidH s.fields s2 adds2) ∧ Same s2 s1) ∧
        ∀ j f found, sfs.toList[j]? = some f → collect f = .ok found → ChildRel un s1 s2 j found)
    (h3 : s2.finishRow = .ok s3) (hi : structOf sfs.toList collect = .ok lv) :
    pushL un lv (erase s.toB) = erase s3.toB := by
  obtain ⟨p, len, v, fs, cached, next, seen⟩ := s
  have hw' := hwf
  simp only [SS.toB, WFH] at hw'
  obtain ⟨hv, hwfl, hseen, hnd, hcache⟩ := hw'
  simp only [SS.toB, NoDictKey] at hsafe
  simp only [SS.start] at h1
  obtain ⟨v', hv1, h1⟩ := (bind_ok _ _ _).1 h1
  cases h1
  cases setValidity_setV hv1
  have hmid : MidH fs ⟨p, len + 1, setV v len true, fs, cached, 0, List.replicate seen.length false⟩
      (List.replicate fs.length []) :=
    ⟨by simpa using ExtLH.refl fs len hwfl, by rw [hseen]; exact Flags.fresh _, hcache, hsafe, hnd⟩
  obtain ⟨⟨⟨adds2, hm2⟩, hp, hl, hvv⟩, hrel⟩ := hloop rfl rfl hmid
  simp only at hp hl hvv
  simp only [SS.finishRow] at h3
  obtain ⟨fs3, h3', h4⟩ := (bind_ok _ _ _).1 h3
  cases h4
  obtain ⟨hl3, hend⟩ := endFields_phys _ _ _ h3'
  -- the struct value
  obtain ⟨vals, rfl, hvget⟩ := structOf_ok_inv hi
  simp only [SS.toB, erase, pushL, hp, hl, hvv]
  congr 1
  have hlen2 : s2.fields.length = fs.length := hm2.adds_length.2.2
  apply BL.ext_get
  · rw [pushLF_length, BL.length_eraseL, BL.length_eraseL, hl3, hlen2]
  · intro j x hx
    obtain ⟨c0, m0⟩ := x
    -- child j of the erased start state
    rw [BL.get?_eraseL]
    have hjlt : j < fs.length := by
      have := BL.get?_lt _ _ _ hx
      rwa [pushLF_length, BL.length_eraseL] at this
    obtain ⟨⟨c, m⟩, hget⟩ := BL.get?_of_lt fs j hjlt
    obtain ⟨f, hjf, _, _, hmn⟩ := ShapeL.get _ _ _ _ _ hshape hget
    obtain ⟨found, w, hfound, hw, hvj⟩ := hvget j f hjf
    have hpl := pushLF_get un vals (eraseL fs) j (erase c) m (f.name, w) (by rw [BL.get?_eraseL, hget]; rfl) hvj
    rw [hpl] at hx
    simp only [Option.some.injEq, Prod.mk.injEq] at hx
    obtain ⟨rfl, rfl⟩ := hx
    obtain ⟨c2, hg2, hm⟩ := hrel j f found hjf hfound c m hget
    obtain ⟨c3, hg3, hcase⟩ := hend j c2 m hg2
    rw [hg3]
    simp only [Option.map_some, Option.some.injEq, Prod.mk.injEq, and_true]
    have hs1 : (List.replicate seen.length false)[j]? = some false := by
      rw [List.getElem?_replicate, if_pos (by rw [hseen]; exact hjlt)]
    match found, hm, hw with
    | [], hm, hw =>
      simp only at hm
      rw [hs1] at hm
      rcases hcase with ⟨ht, _⟩ | ⟨_, _, hpn⟩
      · rw [hm.2] at ht; cases ht
      · have := interpNull_ok (pickOne_nil_inv hw).2
        subst this
        simp only [pushL]
        rw [← hm.1]
        exact (noneL_erase hpn).symm
    | [lv1], hm, hw =>
      simp only at hm
      simp only [pickOne, Except.ok.injEq] at hw
      subst hw
      rcases hcase with ⟨_, rfl⟩ | ⟨hf, _, _⟩
      · exact hm.1
      · rw [hm.2.2] at hf; cases hf

/-- the same for a field loop `pf` given as a function, from the call as `recordWith` and `seqLikeWith` make it -/
theorem record_phys {un : Bytes → String} {p len v fs cached next seen} {pf : SS → R SS} {b' : B} {sfs : Fields} {lv : LVal}
    (collect : Field → R (List LVal))
    (hwf : WFH (.struct p len v fs cached next seen)) (hsafe : NoDictKey (.struct p len v fs cached next seen))
    (hshape : ShapeL fs sfs) (hpf : FieldsOKH pf)
    (hcol : ∀ s1 s2, s1.next = 0 → s1.fields = fs → MidH fs s1 (List.replicate fs.length []) → pf s1 = .ok s2 →
      ∀ j f found, sfs.toList[j]? = some f → collect f = .ok found → ChildRel un s1 s2 j found)
    (h : (do
      let s ← SS.start ⟨p, len, v, fs, cached, next, seen⟩
      let s ← pf s
      let s ← s.finishRow
      pure s.toB : R B) = .ok b')
    (hi : structOf sfs.toList collect = .ok lv) :
    pushL un lv (erase (.struct p len v fs cached next seen)) = erase b' := by
  obtain ⟨s1, s2, s3, h1, h2, h3, rfl⟩ := PushCases.row_ok (s := ⟨p, len, v, fs, cached, next, seen⟩) h
  exact row_phys (s := ⟨p, len, v, fs, cached, next, seen⟩) collect hwf hsafe hshape h1
    (fun hn hf hm => ⟨hpf _ _ _ _ hm h2, hcol s1 s2 hn hf hm h2⟩) h3 hi

end SaModel.Build
