import SaModel.Lemmas.C01Cont
import SaModel.Props.C11Front
/-
The struct family.  `ExtL fs0 fs adds`: the children `fs` are the children `fs0` with the additional rows
`adds[j]` in child `j`.  Between `start` and `end` of a record (`Mid`), child `j` holds one additional row iff
`seen[j]`; `end` brings every child to one additional row; then the struct shows exactly one more row, whose
fields are the additional rows of the children, by name (`struct_append`, Lemmas/C01Strict.lean).
-/
namespace SaModel.Build
open SaModel SaModel.Spec

/-- row `i` of a struct with the given columns -/
def rowAt (cols : List (String × List LVal)) (i : Nat) : LVal :=
  .struct (LFields.ofList (cols.map fun c => (c.1, c.2.getD i .null)))

theorem dec_struct (p : String) (len : Nat) (v : Validity) (fs : BL) (cached next seen) :
    dec (.struct p len v fs cached next seen) = maskNull v ((List.range len).map (rowAt (decCols fs))) := by
  simp only [dec]; rfl

/-- `fs` = `fs0` with the rows `adds[j]` appended to child `j` (same names, all children well formed) -/
def ExtL : BL → BL → List (List LVal) → Prop
  | .nil, .nil, [] => True
  | .cons b0 m0 r0, .cons b m r, a :: as => m = m0 ∧ WFB b ∧ dec b = dec b0 ++ a ∧ ExtL r0 r as
  | _, _, _ => False

theorem ExtL.refl : ∀ (fs : BL) (len : Nat), WFL fs len → ExtL fs fs (List.replicate fs.length [])
  | .nil, _, _ => by simp [ExtL, BL.length]
  | .cons b m r, len, h => by
    simp only [WFL] at h
    simp only [BL.length, List.replicate_succ, ExtL, List.append_nil, true_and]
    exact ⟨h.1, ExtL.refl r len h.2.2⟩

/-- induction along `ExtL`: the three lists go in step -/
theorem ExtL.elim {motive : BL → BL → List (List LVal) → Prop} (nil : motive .nil .nil [])
    (cons : ∀ {b0 m r0 b r a as}, WFB b → dec b = dec b0 ++ a → ExtL r0 r as → motive r0 r as →
      motive (.cons b0 m r0) (.cons b m r) (a :: as)) :
    ∀ (fs0 fs : BL) (adds : List (List LVal)), ExtL fs0 fs adds → motive fs0 fs adds
  | .nil, .nil, [], _ => nil
  | .cons b0 m0 r0, .cons b m r, a :: as, h => by
    simp only [ExtL] at h
    obtain ⟨rfl, h1, h2, h3⟩ := h
    exact cons h1 h2 h3 (ExtL.elim nil cons r0 r as h3)
  | .nil, .cons _ _ _, _, h | .cons _ _ _, .nil, _, h | .nil, .nil, _ :: _, h | .cons _ _ _, .cons _ _ _, [], h => by
    simp [ExtL] at h

theorem ExtL.names : ∀ (fs0 fs : BL) (adds : List (List LVal)), ExtL fs0 fs adds → fs.names = fs0.names :=
  ExtL.elim rfl fun _ _ _ ih => by simp [BL.names, ih]

theorem ExtL.length : ∀ (fs0 fs : BL) (adds : List (List LVal)), ExtL fs0 fs adds →
    fs.length = fs0.length ∧ adds.length = fs0.length :=
  ExtL.elim ⟨rfl, rfl⟩ fun _ _ _ ih => by simp [BL.length, ih.1, ih.2]

theorem ExtL.get : ∀ (fs0 fs : BL) (adds : List (List LVal)) (i : Nat) (x : B × FieldMeta), ExtL fs0 fs adds →
    fs.get? i = some x → WFB x.1 :=
  fun fs0 fs adds i x h => ExtL.elim (motive := fun _ fs _ => ∀ i x, fs.get? i = some x → WFB x.1)
    (fun _ _ hg => by simp [BL.get?] at hg)
    (fun hb _ _ ih i x hg => by
      cases i with
      | zero => simp [BL.get?] at hg; subst hg; exact hb
      | succ i => exact ih i x (by simpa only [BL.get?] using hg)) fs0 fs adds h i x

theorem ExtL.set : ∀ (fs0 fs : BL) (adds : List (List LVal)) (i : Nat) (c c' : B) (m : FieldMeta) (ls : List LVal),
    ExtL fs0 fs adds → fs.get? i = some (c, m) → WFB c' → dec c' = dec c ++ ls →
    ExtL fs0 (fs.set i c') (adds.set i (adds.getD i [] ++ ls)) :=
  fun fs0 fs adds i c c' m ls h hg hc hd => ExtL.elim
    (motive := fun fs0 fs adds => ∀ i, fs.get? i = some (c, m) → ExtL fs0 (fs.set i c') (adds.set i (adds.getD i [] ++ ls)))
    (fun _ hg => by simp [BL.get?] at hg)
    (fun hb hr he ih i hg => by
      cases i with
      | zero =>
        simp [BL.get?] at hg; obtain ⟨rfl, rfl⟩ := hg
        simp only [BL.set, List.set_cons_zero, ExtL, List.getD_cons_zero]
        exact ⟨trivial, hc, by rw [hd, hr, List.append_assoc], he⟩
      | succ i =>
        simp only [BL.set, List.set_cons_succ, ExtL, List.getD_cons_succ]
        exact ⟨trivial, hb, hr, ih i (by simpa only [BL.get?] using hg)⟩) fs0 fs adds h i hg

theorem ExtL.wfl : ∀ (fs0 fs : BL) (adds : List (List LVal)) (len k : Nat), WFL fs0 len → ExtL fs0 fs adds →
    (∀ a ∈ adds, a.length = k) → WFL fs (len + k) :=
  fun fs0 fs adds len k hw h => ExtL.elim
    (motive := fun fs0 fs adds => WFL fs0 len → (∀ a ∈ adds, a.length = k) → WFL fs (len + k))
    (fun _ _ => by simp [WFL])
    (fun {b0 m r0 b r a as} hb hr _ ih hw hk => by
      simp only [WFL] at hw ⊢
      refine ⟨hb, ?_, ih hw.2.2 fun a' ha' => hk a' (by simp [ha'])⟩
      rw [hr, List.length_append, hw.2.1, hk a (by simp)]) fs0 fs adds h hw

/-! ### `seen` flags -/

/-- child `j` holds one additional row iff `seen[j]` -/
def Flags : List Bool → List (List LVal) → Prop
  | [], [] => True
  | s :: ss, a :: as => a.length = (if s then 1 else 0) ∧ Flags ss as
  | _, _ => False

theorem Flags.fresh : ∀ (n : Nat), Flags (List.replicate n false) (List.replicate n [])
  | 0 => by simp [Flags]
  | n + 1 => by simp [List.replicate_succ, Flags, Flags.fresh n]

theorem Flags.set : ∀ (seen : List Bool) (adds : List (List LVal)) (i : Nat) (lv : LVal), Flags seen adds →
    seen[i]? = some false → Flags (seen.set i true) (adds.set i (adds.getD i [] ++ [lv]))
  | [], [], _, _, _, h => by simp at h
  | s :: ss, a :: as, 0, lv, hf, h => by
    simp only [Flags] at hf
    simp at h; subst h
    simp only [List.set_cons_zero, Flags, List.getD_cons_zero, if_true]
    simp at hf
    simp [hf.1, hf.2]
  | s :: ss, a :: as, i + 1, lv, hf, h => by
    simp only [Flags] at hf
    simp only [List.set_cons_succ, Flags, List.getD_cons_succ]
    exact ⟨hf.1, Flags.set ss as i lv hf.2 (by simpa using h)⟩
  | [], _ :: _, _, _, hf, _ => by simp [Flags] at hf
  | _ :: _, [], _, _, hf, _ => by simp [Flags] at hf

theorem Flags.unseen : ∀ (seen : List Bool) (adds : List (List LVal)) (i : Nat), Flags seen adds →
    seen[i]? = some false → adds.getD i [] = []
  | [], [], _, _, h => by simp at h
  | s :: ss, a :: as, 0, hf, h => by
    simp only [Flags] at hf
    simp at h; subst h
    simpa using hf.1
  | s :: ss, a :: as, i + 1, hf, h => by
    simp only [Flags] at hf
    simp only [List.getD_cons_succ]
    exact Flags.unseen ss as i hf.2 (by simpa using h)
  | [], _ :: _, _, hf, _ => by simp [Flags] at hf
  | _ :: _, [], _, hf, _ => by simp [Flags] at hf

theorem Flags.length : ∀ (seen : List Bool) (adds : List (List LVal)), Flags seen adds → adds.length = seen.length
  | [], [], _ => rfl
  | s :: ss, a :: as, hf => by simp only [Flags] at hf; simp [Flags.length ss as hf.2]
  | [], _ :: _, hf => by simp [Flags] at hf
  | _ :: _, [], hf => by simp [Flags] at hf

/-! ### `Safe` on builder lists -/

theorem SafeL.get : ∀ (fs : BL) (i : Nat) (x : B × FieldMeta), SafeL fs → fs.get? i = some x → Safe x.1
  | .nil, _, _, _, h => by simp [BL.get?] at h
  | .cons b m r, 0, x, hs, h => by simp [BL.get?] at h; subst h; simp only [SafeL] at hs; exact hs.1
  | .cons b m r, i + 1, x, hs, h => by
    simp only [BL.get?] at h; simp only [SafeL] at hs; exact SafeL.get r i x hs.2 h

theorem SafeL.set : ∀ (fs : BL) (i : Nat) (c : B), SafeL fs → Safe c → SafeL (fs.set i c)
  | .nil, _, _, _, _ => by simp [BL.set, SafeL]
  | .cons b m r, 0, c, hs, hc => by simp only [SafeL] at hs; simp only [BL.set, SafeL]; exact ⟨hc, hs.2⟩
  | .cons b m r, i + 1, c, hs, hc => by
    simp only [SafeL] at hs; simp only [BL.set, SafeL]; exact ⟨hs.1, SafeL.set r i c hs.2 hc⟩

theorem indexOfName_lt {names : List String} {key : String} {i : Nat} (h : indexOfName names key = some i) :
    i < names.length :=
  (List.getElem?_eq_some_iff.1 (SaModel.Props.C11Front.indexOfName_some names key i h)).1

/-- a builder that takes nulls hands placeholders on to children that take them (`Safe`) -/
theorem Safe.defSafe : ∀ {b : B}, Safe b → b.isNullable = true → DefSafe b
  | .fixedSizeList _ _ _ _ _ _ _, hs, hn => by simp only [Safe] at hs; simp only [DefSafe]; exact hs.2 hn
  | .struct _ _ _ _ _ _ _, hs, hn => by simp only [Safe] at hs; simp only [DefSafe]; exact hs.2 hn
  | .dictionary _ idx _ _, hs, hn => by
    simp only [Safe] at hs; simp only [DefSafe]; exact ⟨hn, Safe.defSafe hs.2.1 hn⟩
  | .union _ _ _ _ _, _, hn => nomatch hn
  | .null _ _, _, _ | .unknownVariant _, _, _ | .leaf _ _ _ _, _, _ | .bytes _ _ _ _ _, _, _ | .bytesView _ _ _ _ _, _, _
  | .fixedSizeBinary _ _ _ _ _ _, _, _ | .list _ _ _ _ _ _, _, _ | .map _ _ _ _ _ _, _, _ => by simp only [DefSafe]

end SaModel.Build
