import SaModel.Lemmas.C02Container
/-
What a slot of a view is to the theorems about reads (`deserialize_any` and typed reads: C02 / C05; reader-side blame: C18).
`Slot a i lv`: row `i` of the view `a` decodes to the logical value `lv` (`Spec.decodeAt`), `ArrayDeserializer::new` succeeds
on the view (`new`: what the constructors check once, e.g. a non-negative fixed size), the view is physical (lengths a Rust
slice can have), and the decoded strings are valid UTF-8.  For each kind of container, what such a slot consists of: it
is null, or the reader's own range / row check succeeds (`listRange`, `fslRange`, `structItem`: what the reader computes
from offsets and lengths before it asks a child) and every child slot read is a `Slot` again (`Slot.list`,
`.fixedSizeList`, `.struct` with `SlotFields`, `.map`; `Slot.union` stands next to `union_facts`, Lemmas/C02TypedCont.lean).
-/
namespace SaModel.Read
open SaModel SaModel.Spec

structure Slot (a : Arr) (i : Nat) (lv : LVal) : Prop where
  dec : decodeAt a i = .ok lv
  new : new Fixes.all a = .ok ()
  phys : physical a = true
  utf8 : utf8Ok lv = true

/-- the fields of a struct view at row `i` -/
structure SlotFields (fs : ArrFields) (i : Nat) (vals : List (String × LVal)) : Prop where
  dec : decodeFieldsAt fs i = .ok vals
  new : newFields Fixes.all fs = .ok ()
  phys : physicalFields fs = true
  utf8 : utf8OkFields (LFields.ofList vals) = true

/-! ### what a successful construction says about the parts -/

theorem new_struct_inv {len : Nat} {v : Option Bits} {fs : ArrFields} (h : new Fixes.all (.struct len v fs) = .ok ()) :
    newFields Fixes.all fs = .ok () := by unfold new at h; exact h

theorem newFields_cons_inv {fm : FieldMeta} {a : Arr} {rest : ArrFields}
    (h : newFields Fixes.all (.cons fm a rest) = .ok ()) : new Fixes.all a = .ok () ∧ newFields Fixes.all rest = .ok () := by
  unfold newFields at h
  obtain ⟨_, _, h⟩ := bind_ok_inv h
  obtain ⟨u, hu, h⟩ := bind_ok_inv h
  cases u
  exact ⟨hu, h⟩

theorem new_list_inv {lg : Bool} {v : Option Bits} {offs : List Int} {fm : FieldMeta} {el : Arr}
    (h : new Fixes.all (.list lg v offs fm el) = .ok ()) : new Fixes.all el = .ok () := by
  unfold new at h
  obtain ⟨_, _, h⟩ := bind_ok_inv h
  exact h

theorem new_fsl_inv {len : Nat} {v : Option Bits} {n : Int} {fm : FieldMeta} {el : Arr}
    (h : new Fixes.all (.fixedSizeList len v n fm el) = .ok ()) : new Fixes.all el = .ok () ∧ 0 ≤ n := by
  unfold new at h
  obtain ⟨_, _, h⟩ := bind_ok_inv h
  obtain ⟨u, hu, h⟩ := bind_ok_inv h
  obtain ⟨m, hm, _⟩ := bind_ok_inv h
  cases u
  refine ⟨hu, ?_⟩
  unfold tryIntoUsize at hm
  split at hm
  · assumption
  · cases hm

theorem new_map_inv {v : Option Bits} {offs : List Int} {mm : MapMeta} {ks vs : Arr}
    (h : new Fixes.all (.map v offs mm ks vs) = .ok ()) : new Fixes.all ks = .ok () ∧ new Fixes.all vs = .ok () := by
  unfold new at h
  obtain ⟨_, _, h⟩ := bind_ok_inv h
  obtain ⟨u, hu, h⟩ := bind_ok_inv h
  obtain ⟨_, _, h⟩ := bind_ok_inv h
  cases u
  exact ⟨hu, h⟩

theorem decodeFieldsAt_cons_inv {fm : FieldMeta} {a : Arr} {rest : ArrFields} {i : Nat} {vals : List (String × LVal)}
    (h : decodeFieldsAt (.cons fm a rest) i = .ok vals) :
    ∃ v r, decodeAt a i = .ok v ∧ decodeFieldsAt rest i = .ok r ∧ vals = (fm.name, v) :: r := by
  unfold decodeFieldsAt at h
  obtain ⟨v, hv, h⟩ := bind_ok_inv h
  obtain ⟨r, hr, h⟩ := bind_ok_inv h
  cases h
  exact ⟨v, r, hv, hr, rfl⟩

theorem structItem_ok {len i : Nat} (hi : i < len) : structItem Fixes.all len i = .ok () := by
  have : ¬ i ≥ len := by omega
  simp [structItem, this]

namespace Slot

theorem list {lg v offs fm el i lv} (h : Slot (.list lg v offs fm el) i lv) :
    lv = .null ∨ ∃ xs s e, lv = .list (LVals.ofList xs) ∧ listRange Fixes.all offs i = .ok (s, e) ∧
      seqAt (decodeAt el) s (e - s) = .ok xs ∧ ∀ j x, decodeAt el j = .ok x → x ∈ xs → Slot el j x := by
  obtain ⟨hi, hlv⟩ := list_inv h.dec
  rcases hlv with ⟨rfl, _⟩ | ⟨xs, hxs, rfl, _⟩
  · exact .inl rfl
  · obtain ⟨s, e, hr, hseq⟩ := list_range_facts (lg := lg) (v := v) (fm := fm) hi hxs
    have hp := h.phys
    unfold physical at hp
    have hu := h.utf8
    simp only [utf8Ok] at hu
    exact .inr ⟨xs, s, e, rfl, hr, hseq, fun j x hj hx => ⟨hj, new_list_inv h.new, hp, utf8OkList_mem xs hu x hx⟩⟩

theorem fixedSizeList {len v n fm el i lv} (h : Slot (.fixedSizeList len v n fm el) i lv) :
    lv = .null ∨ ∃ xs s e, lv = .list (LVals.ofList xs) ∧ fslRange Fixes.all len n i = .ok (s, e) ∧
      seqAt (decodeAt el) s (e - s) = .ok xs ∧ ∀ j x, decodeAt el j = .ok x → x ∈ xs → Slot el j x := by
  obtain ⟨hi, hlv⟩ := fsl_inv h.dec
  rcases hlv with ⟨rfl, _⟩ | ⟨xs, _, hxs, rfl, _⟩
  · exact .inl rfl
  · obtain ⟨hnew, hn0⟩ := new_fsl_inv h.new
    have hp := h.phys
    unfold physical at hp
    simp only [Bool.and_eq_true, decide_eq_true_eq] at hp
    obtain ⟨s, e, hr, hseq⟩ := fsl_range_facts hi hn0 hp.1 hxs
    have hu := h.utf8
    simp only [utf8Ok] at hu
    exact .inr ⟨xs, s, e, rfl, hr, hseq, fun j x hj hx => ⟨hj, hnew, hp.2, utf8OkList_mem xs hu x hx⟩⟩

/-- a struct row: the row check of the struct reader passes, and the fields are read at the same row -/
theorem struct {len v fs i lv} (h : Slot (.struct len v fs) i lv) :
    structItem Fixes.all len i = .ok () ∧
      (lv = .null ∨ ∃ vals, lv = .struct (LFields.ofList vals) ∧ SlotFields fs i vals) := by
  obtain ⟨hi, hlv⟩ := struct_inv h.dec
  refine ⟨structItem_ok hi, ?_⟩
  rcases hlv with ⟨rfl, _⟩ | ⟨vals, hvals, rfl, _⟩
  · exact .inl rfl
  · have hp := h.phys
    unfold physical at hp
    have hu := h.utf8
    simp only [utf8Ok] at hu
    exact .inr ⟨vals, rfl, hvals, new_struct_inv h.new, hp, hu⟩

/-- a map slot: one range for keys and values -/
theorem map {v offs mm ks vs i lv} (h : Slot (.map v offs mm ks vs) i lv) :
    lv = .null ∨ ∃ kxs wxs s e, lv = .map (LEntries.ofList (kxs.zip wxs)) ∧ listRange Fixes.all offs i = .ok (s, e) ∧
      seqAt (decodeAt ks) s (e - s) = .ok kxs ∧ seqAt (decodeAt vs) s (e - s) = .ok wxs ∧
      (∀ j x, decodeAt ks j = .ok x → x ∈ kxs → Slot ks j x) ∧ (∀ j x, decodeAt vs j = .ok x → x ∈ wxs → Slot vs j x) := by
  obtain ⟨hi, hlv⟩ := map_inv h.dec
  rcases hlv with ⟨rfl, _⟩ | ⟨kxs, wxs, hkx, hwx, rfl, _⟩
  · exact .inl rfl
  · obtain ⟨h0, h1, _, hkseq⟩ := rangeAt_ok hkx
    obtain ⟨_, _, _, hwseq⟩ := rangeAt_ok hwx
    obtain ⟨hnk, hnv⟩ := new_map_inv h.new
    have hp := h.phys
    unfold physical at hp
    simp only [Bool.and_eq_true] at hp
    have hu := h.utf8
    simp only [utf8Ok] at hu
    obtain ⟨pk, pw⟩ := utf8OkEntries_zip kxs wxs (by rw [seqAt_length _ _ _ hkseq, seqAt_length _ _ _ hwseq]) hu
    exact .inr ⟨kxs, wxs, _, _, rfl, listRange_eval hi h0 h1, hkseq, hwseq,
      fun j x hj hx => ⟨hj, hnk, hp.1, pk x hx⟩, fun j x hj hx => ⟨hj, hnv, hp.2, pw x hx⟩⟩

end Slot

theorem SlotFields.cons {fm a rest i vals} (h : SlotFields (.cons fm a rest) i vals) :
    ∃ v r, vals = (fm.name, v) :: r ∧ Slot a i v ∧ SlotFields rest i r := by
  obtain ⟨v, r, hv, hr, rfl⟩ := decodeFieldsAt_cons_inv h.dec
  obtain ⟨hna, hnr⟩ := newFields_cons_inv h.new
  have hp := h.phys
  unfold physicalFields at hp
  simp only [Bool.and_eq_true] at hp
  have hu := h.utf8
  simp only [LFields.ofList, utf8OkFields, Bool.and_eq_true] at hu
  exact ⟨v, r, rfl, ⟨hv, hna, hp.1, hu.1⟩, ⟨hr, hnr, hp.2, hu.2⟩⟩

end SaModel.Read
