import SaModel.Lemmas.C03TypeOf
import SaModel.Read.Reader
import SaModel.Lemmas.SchemaAll
/-
Bridge builder side → reader side, part 1: `ArrayDeserializer::new` (`Read.new`) accepts every well-formed array
(`Spec.wf`) of a data type the READER supports.

`readableDT` / `readableF` is a predicate on the SCHEMA only.  It lists exactly the three places where `build_builder`
accepts a field that `ArrayDeserializer::new` refuses (everything else `Spec.wf` already forces):
  * a `SERDE_ARROW:strategy` metadata entry on a child field whose value is not one of the four known strategies
    (the builders never parse the strategy of a child field; the readers call `get_strategy_from_metadata(..)?`),
  * a dictionary whose value type is not Utf8 / LargeUtf8 (the builders accept any value type, `DictionaryDeserializer`
    only strings),
  * (a time zone that is not UTC is refused by BOTH sides — `tzReadable` below — it is part of the predicate so that
    `wf_new` can be stated about arrays alone).
Sparse unions, non-consecutive type ids, nullable dictionary values, negative sizes: excluded by `Spec.wf` itself.
-/
namespace SaModel.Lemmas.C03
open SaModel SaModel.Spec

/-- the reader's time zone check (`TimestampDeserializer`: `tz.to_lowercase() == "utc"`) -/
def tzReadable : Option String → Bool
  | none => true
  | some tz => tz.toLower == "utc"

/-- `get_strategy_from_metadata` succeeds -/
def strategyKnown (md : Metadata) : Bool := Read.strategyOk md == .ok ()

/-- Utf8 / LargeUtf8: the value types `DictionaryDeserializer` supports -/
def isUtf8DT : DataType → Bool
  | .utf8 | .largeUtf8 => true
  | _ => false

mutual
def readableDT : DataType → Bool
  | .timestamp _ tz => tzReadable tz
  | .struct fs => readableFs fs
  | .list f | .largeList f => readableF f
  | .fixedSizeList f _ => readableF f
  | .map (.mk _ (.struct (.cons kf (.cons vf .nil))) _ _) _ => readableF kf && readableF vf
  | .dictionary k v => Build.isIntDT k && isUtf8DT v
  | .union fs _ => readableUFs fs
  | _ => true
/-- a CHILD field: its strategy metadata is parsed by the parent reader -/
def readableF : Field → Bool
  | .mk _ dt _ md => strategyKnown md && readableDT dt
def readableFs : Fields → Bool
  | .nil => true
  | .cons f r => readableF f && readableFs r
def readableUFs : UFields → Bool
  | .nil => true
  | .cons _ f r => readableF f && readableUFs r
end

theorem readableFs_ofList : ∀ (l : List Field), (∀ f ∈ l, readableF f = true) → readableFs (Fields.ofList l) = true :=
  fun _ => Fields.all_ofList rfl fun _ _ => rfl

theorem strategyOk_of_known {md : Metadata} (h : strategyKnown md = true) : Read.strategyOk md = .ok () := by
  simpa [strategyKnown] using h

theorem readableF_iff (f : Field) : readableF f = (strategyKnown f.metadata && readableDT f.dataType) := by
  cases f; simp [readableF, Field.metadata, Field.dataType]

theorem meta_metadata {fm : FieldMeta} {f : Field} (h : metaMatches fm f = true) : fm.metadata = f.metadata := by
  simp only [metaMatches, Bool.and_eq_true, beq_iff_eq] at h; exact h.2

theorem strategyOk_meta {fm : FieldMeta} {f : Field} (hm : metaMatches fm f = true) (hr : readableF f = true) :
    Read.strategyOk fm.metadata = .ok () := by
  rw [readableF_iff, Bool.and_eq_true] at hr
  rw [meta_metadata hm]; exact strategyOk_of_known hr.1

theorem readableDT_of_F {f : Field} (hr : readableF f = true) : readableDT f.dataType = true := by
  rw [readableF_iff, Bool.and_eq_true] at hr; exact hr.2

/-- a well-formed array of an integer type has that type (`wf_typeOf`), so it is a primitive array of an integer element type -/
theorem wf_intDT {k : DataType} {nl : Bool} {a : Arr} (hk : Build.isIntDT k = true) (h : wf k nl a = true) :
    ∃ ty v vals, a = .prim ty v vals ∧ Read.isIntPrim ty = true := by
  cases wf_typeOf a k nl h (by unfold Build.isIntDT at hk; split at hk <;> first | trivial | cases hk)
  cases a with
  | prim ty v vals => exact ⟨ty, v, vals, rfl, by cases ty <;> first | rfl | cases hk⟩
  | time ty _ _ _ | bytes ty _ _ _ | bytesView ty _ _ _ => cases ty <;> cases hk
  | list lg _ _ _ _ => cases lg <;> cases hk
  | union _ offs _ => cases offs <;> cases hk
  | _ => cases hk

/-- a well-formed non-nullable array of a string type is a bytes array without bitmap -/
theorem wf_strDT {v : DataType} {a : Arr} (hv : isUtf8DT v = true) (h : wf v false a = true) :
    ∃ ty offs data, a = .bytes ty none offs data ∧ isUtf8Ty ty = true := by
  cases wf_typeOf a v false h (by unfold isUtf8DT at hv; split at hv <;> first | trivial | cases hv)
  cases a with
  | bytes ty vv offs data =>
    cases vv with
    | some b => have := (wf_inv h).2.1; simp [validityOk] at this
    | none => exact ⟨ty, offs, data, rfl, by cases ty <;> first | rfl | cases hv⟩
  | prim ty _ _ | time ty _ _ _ | bytesView ty _ _ _ => cases ty <;> cases hv
  | list lg _ _ _ _ => cases lg <;> cases hv
  | union _ offs _ => cases offs <;> cases hv
  | _ => cases hv

mutual
/-- **`wf_new`**: `ArrayDeserializer::new` accepts every well-formed array of a readable type -/
theorem wf_new : ∀ (a : Arr) (dt : DataType) (nl : Bool), readableDT dt = true → wf dt nl a = true →
    Read.new Read.Fixes.all a = .ok ()
  | .null _ | .boolean _ _ _ | .prim _ _ _ | .time _ _ _ _ | .decimal128 _ _ _ _ | .bytes _ _ _ _ | .bytesView _ _ _ _ =>
    fun _ _ _ _ => by simp only [Read.new]
  | .timestamp u tz v vals => fun dt nl hr h => by
    obtain ⟨rfl, _⟩ := wf_inv h
    simp only [readableDT, tzReadable] at hr
    cases tz with
    | none => simp only [Read.new]
    | some s => simp only [Read.new]; simp only [hr, if_true]
  | .fixedSizeBinary n v data => fun dt nl hr h => by
    obtain ⟨_, h0, hd, _⟩ := wf_inv h
    have hfsb : ∃ p, Read.fsbNew Read.Fixes.all n data = .ok p := by
      unfold Read.fsbNew
      rw [if_neg (by omega)]
      by_cases hz : n = 0
      · subst hz
        simp only [if_true, List.isEmpty_iff] at hd
        subst hd
        exact ⟨(0, 0), by simp [Read.Fixes.all]⟩
      · have hz' : n.toNat ≠ 0 := by omega
        rw [if_neg hz] at hd
        rw [if_neg hz', if_neg (by omega)]
        exact ⟨_, rfl⟩
    obtain ⟨p, hp⟩ := hfsb
    simp only [Read.new, hp, bind, Except.bind, pure, Except.pure]
  | .struct len v cols => fun dt nl hr h => by
    obtain ⟨fs, rfl, _, hw⟩ := wf_inv h
    simp only [readableDT] at hr
    simp only [Read.new]
    exact wfFields_new cols fs len hr hw
  | .list lg v offs fm el => fun dt nl hr h => by
    obtain ⟨f, rfl, _, hm, hw⟩ := wf_inv h
    have hr : readableF f = true := by cases lg <;> exact hr
    have ih := wf_new el _ _ (readableDT_of_F hr) hw
    simp only [Read.new, strategyOk_meta hm hr, ih, bind, Except.bind]
  | .fixedSizeList len v n fm el => fun dt nl hr h => by
    obtain ⟨f, rfl, h0, _, hm, _, hw⟩ := wf_inv h
    simp only [readableDT] at hr
    have ih := wf_new el _ _ (readableDT_of_F hr) hw
    simp only [Read.new, strategyOk_meta hm hr, ih, bind, Except.bind, Read.tryIntoUsize, h0, if_true, pure, Except.pure]
  | .map v offs mm ks vs => fun dt nl hr h => by
    obtain ⟨kf, vf, enl, emd, rfl, _, hmk, hmv, hwk, hwv⟩ := wf_inv h
    simp only [readableDT, Bool.and_eq_true] at hr
    have ihk := wf_new ks _ _ (readableDT_of_F hr.1) hwk
    have ihv := wf_new vs _ _ (readableDT_of_F hr.2) hwv
    simp only [Read.new, strategyOk_meta hmk hr.1, strategyOk_meta hmv hr.2, ihk, ihv, bind, Except.bind]
  | .dictionary ks vs => fun dt nl hr h => by
    obtain ⟨k, vdt, rfl, hk, hv⟩ := wf_inv h
    simp only [readableDT, Bool.and_eq_true] at hr
    obtain ⟨kty, kv, kvals, rfl, hki⟩ := wf_intDT hr.1 hk
    obtain ⟨vty, offs, data, rfl, hu⟩ := wf_strDT hr.2 hv
    simp [Read.new, hki, hu]
  | .union types offs cols => fun dt nl hr h => by
    obtain ⟨fs, m, o, rfl, rfl, hl, hw⟩ := wf_inv h
    simp only [readableDT] at hr
    simp only [Read.new]
    rw [if_neg (by omega)]
    exact wfUFields_new cols fs 0 hr hw
theorem wfFields_new : ∀ (cols : ArrFields) (fs : Fields) (len : Nat), readableFs fs = true →
    wfFields fs cols len = true → Read.newFields Read.Fixes.all cols = .ok ()
  | .nil => fun _ _ _ _ => by simp only [Read.newFields]
  | .cons fm a rest => fun fs len hr h => by
    obtain ⟨f, frest, rfl, hm, _, hw, hrest⟩ := wfFields_cons_inv h
    simp only [readableFs, Bool.and_eq_true] at hr
    have ih1 := wf_new a _ _ (readableDT_of_F hr.1) hw
    have ih2 := wfFields_new rest frest len hr.2 hrest
    simp only [Read.newFields, strategyOk_meta hm hr.1, ih1, ih2, bind, Except.bind]
theorem wfUFields_new : ∀ (cols : ArrUFields) (fs : UFields) (k : Nat), readableUFs fs = true →
    wfUFields fs cols (Int.ofNat k) = true → Read.newUFields Read.Fixes.all cols k = .ok ()
  | .nil => fun _ _ _ _ => by simp only [Read.newUFields]
  | .cons tid fm a rest => fun fs k hr h => by
    obtain ⟨f, frest, rfl, htid, hm, hw, hrest⟩ := wfUFields_cons_inv h
    simp only [readableUFs, Bool.and_eq_true] at hr
    have ih1 := wf_new a _ _ (readableDT_of_F hr.1) hw
    have ih2 := wfUFields_new rest frest (k + 1) hr.2 (by simpa using hrest)
    simp only [Read.newUFields, htid, ne_eq, not_true_eq_false, if_false, strategyOk_meta hm hr.1, ih1, ih2, bind,
      Except.bind]
end

theorem WF_new (f : Field) (a : Arr) (hr : readableDT f.dataType = true) (h : WFS f a = true) :
    Read.new Read.Fixes.all a = .ok () := wf_new a _ _ hr h

end SaModel.Lemmas.C03
