import SaModel.Lemmas.C18BlameStruct
/-
C18, blame against the specification: a WELL-FORMED raw `serialize_key` / `serialize_value` stream (`.mapRaw ops`
with `isAlternating ops`) is, for the builders, for `Spec.interpDT` and for `Spec.blameDT`, the map `toEntries ops`.
(Single inductions over the stream: the keys and values themselves are not touched.)
-/
namespace SaModel.Props.C18
open SaModel SaModel.Build SaModel.Spec

def toEntries : SMapOps → SEntries
  | .key k (.value x rest) => .cons k x (toEntries rest)
  | _ => .nil

theorem element_next (s : SS) (n idx : Nat) (pc : B → R B) : SS.element { s with next := n } idx pc = SS.element s idx pc := rfl

theorem pushMapOps_alt (ext : Ext) : ∀ (ops : SMapOps), isAlternating ops = true → ∀ (offs : List Int) (ks vs : B),
    pushMapOps ext false offs ks vs ops = pushMapEntries ext offs ks vs (toEntries ops) :=
  isAlternating_induct (fun _ _ _ => by simp [pushMapOps, toEntries, pushMapEntries]) fun k x rest _ ih offs ks vs => by
    simp only [pushMapOps, toEntries, pushMapEntries, Bool.false_eq_true, if_false, Bool.not_true]
    exact congrArg _ (funext fun offs' => congrArg _ (funext fun ks' => congrArg _ (funext fun vs' => ih offs' ks' vs')))

theorem element_length {s s' : SS} {idx : Nat} {pc : B → R B} (h : s.element idx pc = .ok s') :
    s'.fields.length = s.fields.length := by
  obtain ⟨c, m, c', _, _, _, rfl⟩ := element_ok_inv h
  simp only [BL.length_set]

theorem pushStructOps_alt (ext : Ext) : ∀ (ops : SMapOps), isAlternating ops = true → ∀ (s : SS),
    s.fields.length ≤ UNKNOWN_KEY → s.next = UNKNOWN_KEY →
    pushStructOps ext s ops = pushStructEntries ext s (toEntries ops) :=
  isAlternating_induct (fun _ _ _ => by simp [pushStructOps, toEntries, pushStructEntries]) fun k x rest _ ih s hbig hnx => by
    simp only [pushStructOps, toEntries, pushStructEntries]
    refine congrArg _ (funext fun key => ?_)
    cases hidx : indexOfName s.fields.names key with
    | none =>
      simp only [Option.getD_none, bne_self_eq_false, Bool.false_eq_true, if_false]
      exact ih _ hbig rfl
    | some idx =>
      -- a field index is below `fields.length ≤ usize::MAX`, so it is not the marker
      have hlt : idx < s.fields.length := by rw [← BL.names_length]; exact indexOfName_lt hidx
      have hne : (idx != UNKNOWN_KEY) = true := by
        simp only [bne_iff_ne, ne_eq]; omega
      simp only [Option.getD_some, hne, if_true, element_next]
      cases he : s.element idx (fun c => push ext c x) with
      | error e => rfl
      | ok s' =>
        simp only [bind, Except.bind]
        exact ih _ (by simp only; rw [element_length he]; exact hbig) rfl

/-- for the builders a well-formed stream is the map of its entries (a struct builder with fewer than `usize::MAX`
fields: the index of a field is then never the `UNKNOWN_KEY` marker) -/
theorem push_mapRaw_alt (ext : Ext) (b : B) (ops : SMapOps) (h : isAlternating ops = true)
    (hbig : ∀ p len v fs c nx sn, b = .struct p len v fs c nx sn → fs.length ≤ UNKNOWN_KEY) :
    push ext b (.mapRaw ops) = push ext b (.map (toEntries ops)) := by
  cases b with
  | struct p len v fs cached next seen =>
    simp only [push]
    congr 1
    cases hs : SS.start ⟨p, len, v, fs, cached, next, seen⟩ with
    | error e => rfl
    | ok s =>
      simp only [bind, Except.bind]
      have hl : s.fields.length ≤ UNKNOWN_KEY := by
        have : s.fields = fs := by
          simp only [SS.start] at hs
          cases hv : setValidity v len true with
          | error e => rw [hv] at hs; cases hs
          | ok v' => rw [hv] at hs; cases hs; rfl
        rw [this]; exact hbig _ _ _ _ _ _ _ rfl
      rw [pushStructOps_alt ext ops h { s with next := UNKNOWN_KEY } hl rfl]
  | map p mm v offs ks vs =>
    simp only [push]
    congr 1
    refine congrArg _ (funext fun v' => congrArg _ (funext fun offs' => ?_))
    rw [pushMapOps_alt ext ops h offs' ks vs]
  | _ => simp only [push]

theorem interpByKeyOps_eq (ext : Ext) (name : String) (dt : DataType) (n : Bool) (md : Metadata) : ∀ (ops : SMapOps),
    isAlternating ops = true → interpByKeyOps ext name dt n md ops = interpByKey ext name dt n md (toEntries ops) :=
  isAlternating_induct (by simp [interpByKeyOps, toEntries, interpByKey]) fun k x rest _ ih => by
    simp only [interpByKeyOps, keyOf_eq, toEntries, interpByKey, ih]

theorem interpOps_eq (ext : Ext) (kdt : DataType) (kn : Bool) (kmd : Metadata) (vdt : DataType) (vn : Bool) (vmd : Metadata) :
    ∀ (ops : SMapOps), isAlternating ops = true →
    interpOps ext kdt kn kmd vdt vn vmd ops = interpEntries ext kdt kn kmd vdt vn vmd (toEntries ops) :=
  isAlternating_induct (by simp [interpOps, toEntries, interpEntries]) fun k x rest _ ih => by
    simp only [interpOps, toEntries, interpEntries, ih]

theorem opsKeysAreStrings_eq : ∀ (ops : SMapOps), isAlternating ops = true →
    opsKeysAreStrings ops = keysAreStrings (toEntries ops) :=
  isAlternating_induct (by simp [opsKeysAreStrings, toEntries, keysAreStrings]) fun k x rest _ ih => by
    simp only [opsKeysAreStrings, specKey_eq, toEntries, keysAreStrings, ih]

theorem interpDT_mapRaw_alt (ext : Ext) (dt : DataType) (n : Bool) (md : Metadata) (ops : SMapOps)
    (h : isAlternating ops = true) : interpDT ext dt n md (.mapRaw ops) = interpDT ext dt n md (.map (toEntries ops)) := by
  simp only [interpDT, h, Bool.not_true, Bool.false_eq_true, if_false, opsKeysAreStrings_eq ops h, interpByKeyOps_eq _ _ _ _ _ ops h,
    interpOps_eq _ _ _ _ _ _ _ ops h]

theorem opsKeys_eq : ∀ (ops : SMapOps), isAlternating ops = true → opsKeys ops = entryKeys (toEntries ops) :=
  isAlternating_induct (by simp [opsKeys, toEntries, entryKeys]) fun k x rest _ ih => by
    simp only [opsKeys, toEntries, entryKeys, ih]

theorem blameOpsStruct_eq (ext : Ext) (path : String) (fs : List Field) : ∀ (ops : SMapOps), isAlternating ops = true →
    blameOpsStruct ext path fs ops = blameEntriesStruct ext path fs (toEntries ops) :=
  isAlternating_induct (by simp [blameOpsStruct, toEntries, blameEntriesStruct]) fun k x rest _ ih => by
    simp only [blameOpsStruct, toEntries, blameEntriesStruct, ih]

theorem blameOpsMap_eq (ext : Ext) (kp : String) (kdt : DataType) (knl : Bool) (kmd : Metadata)
    (vp : String) (vdt : DataType) (vnl : Bool) (vmd : Metadata) : ∀ (ops : SMapOps), isAlternating ops = true →
    blameOpsMap ext kp kdt knl kmd vp vdt vnl vmd ops = blameEntriesMap ext kp kdt knl kmd vp vdt vnl vmd (toEntries ops) :=
  isAlternating_induct (by simp [blameOpsMap, toEntries, blameEntriesMap]) fun k x rest _ ih => by
    simp only [blameOpsMap, toEntries, blameEntriesMap, ih]

theorem blameDT_mapRaw_alt (ext : Ext) (path : String) (dt : DataType) (n : Bool) (md : Metadata) (ops : SMapOps)
    (h : isAlternating ops = true) :
    blameDT ext path dt n md (.mapRaw ops) = blameDT ext path dt n md (.map (toEntries ops)) := by
  unfold blameDT
  simp only [h, Bool.not_true, Bool.false_eq_true, if_false, interpDT_mapRaw_alt ext dt n md ops h, opsKeys_eq ops h,
    blameOpsStruct_eq _ _ _ ops h, blameOpsMap_eq _ _ _ _ _ _ _ _ _ ops h, opsKeysAreStrings_eq ops h]

end SaModel.Props.C18
