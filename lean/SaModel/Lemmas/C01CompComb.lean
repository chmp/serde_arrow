import SaModel.Lemmas.C01CompScalar
import SaModel.Lemmas.C01Push
import SaModel.Lemmas.SpecInterp
/-
Completeness: the strict form `Good` of what the recursion knows about a builder, and the facts about head room of
children, schema exclusions of children and `structOf` that the combinators of Lemmas/C01ObsCompComb.lean use.
-/
namespace SaModel.Build
open SaModel SaModel.Spec

/-- everything the completeness recursion knows about a builder: state invariant, schema, exclusions -/
structure Good (b : B) (dt : DataType) (n : Bool) (md : Metadata) : Prop where
  wf : WFB b
  safe : Safe b
  shape : Shape b dt n md
  tot : total dt n md = true

theorem Good.pushScalar {ext : Ext} {x : SVal} {b b' : B} {dt n md} (hg : Good b dt n md)
    (h : pushScalar ext b x = .ok b') : Good b' dt n md :=
  have ht := pushScalar_takeRest ext b x b' h
  ⟨(pushScalar_appends ext b x b' hg.wf hg.safe h).1, Safe.of_takeRest ht hg.safe,
    Shape.of_takeRest ht hg.shape, hg.tot⟩

/-! ### head room of children -/

theorem roomL_get : ∀ (fs : BL) (i : Nat) (c : B) (m : FieldMeta), fs.get? i = some (c, m) → roomL fs ≤ room c
  | .nil, _, _, _, h => by simp [BL.get?] at h
  | .cons b m r, 0, c, m', h => by
    simp [BL.get?] at h; obtain ⟨rfl, rfl⟩ := h
    simp only [roomL]; omega
  | .cons b m r, i + 1, c, m', h => by
    simp only [BL.get?] at h
    have := roomL_get r i c m' h
    simp only [roomL]; omega

theorem roomL_set : ∀ (fs : BL) (i : Nat) (c c' : B) (m : FieldMeta) (k : Nat), fs.get? i = some (c, m) →
    room c ≤ room c' + k → roomL fs ≤ roomL (fs.set i c') + k
  | .nil, _, _, _, _, _, h, _ => by simp [BL.get?] at h
  | .cons b m r, 0, c, c', m', k, h, hr => by
    simp [BL.get?] at h; obtain ⟨rfl, rfl⟩ := h
    simp only [roomL, BL.set]; omega
  | .cons b m r, i + 1, c, c', m', k, h, hr => by
    simp only [BL.get?] at h
    have := roomL_set r i c c' m' k h hr
    simp only [roomL, BL.set]; omega

/-! ### schema exclusions of children -/

theorem totalFs_get : ∀ (sfs : Fields) (j : Nat) (f : Field), totalFs sfs = true → sfs.toList[j]? = some f →
    total f.dataType f.nullable f.metadata = true
  | .nil, _, _, _, h => by simp [Fields.toList] at h
  | .cons (.mk a b c d) r, 0, f, ht, h => by
    simp [Fields.toList] at h; subst h
    simp only [totalFs, totalF, Bool.and_eq_true] at ht
    exact ht.1
  | .cons (.mk a b c d) r, j + 1, f, ht, h => by
    simp only [totalFs, Bool.and_eq_true] at ht
    exact totalFs_get r j f ht.2 (by simpa [Fields.toList] using h)

theorem totalUs_get : ∀ (ufs : UFields) (j : Nat) (tid : Int) (f : Field), totalUs ufs = true →
    ufs.toList[j]? = some (tid, f) → total f.dataType f.nullable f.metadata = true
  | .nil, _, _, _, _, h => by simp [UFields.toList] at h
  | .cons t (.mk a b c d) r, 0, tid, f, ht, h => by
    simp [UFields.toList] at h; obtain ⟨_, rfl⟩ := h
    simp only [totalUs, totalF, Bool.and_eq_true] at ht
    exact ht.1
  | .cons t (.mk a b c d) r, j + 1, tid, f, ht, h => by
    simp only [totalUs, Bool.and_eq_true] at ht
    exact totalUs_get r j tid f ht.2 (by simpa [UFields.toList] using h)

theorem UFields.length_toList : ∀ (ufs : UFields), ufs.toList.length = UFields.length ufs
  | .nil => rfl
  | .cons _ _ r => by simp [UFields.toList, UFields.length, UFields.length_toList r]

theorem ShapeU.get' : ∀ (fs : BL) (ufs : UFields) (k i : Nat) (tid : Int) (nm : String) (cdt : DataType) (cn : Bool)
    (cmd : Metadata), ShapeU fs ufs k → ufs.toList[i]? = some (tid, .mk nm cdt cn cmd) →
    ∃ c m, fs.get? i = some (c, m) ∧ Shape c cdt cn cmd
  | .nil, .nil, _, _, _, _, _, _, _, _, h => by simp [UFields.toList] at h
  | .cons b m r, .cons t (.mk fname fdt fn fmd) rest, k, 0, tid, nm, cdt, cn, cmd, hs, h => by
    simp only [ShapeU] at hs
    simp [UFields.toList] at h
    obtain ⟨_, _, rfl, rfl, rfl⟩ := h
    exact ⟨b, m, rfl, hs.2.1⟩
  | .cons b m r, .cons t (.mk fname fdt fn fmd) rest, k, i + 1, tid, nm, cdt, cn, cmd, hs, h => by
    simp only [ShapeU] at hs
    simp only [BL.get?]
    exact ShapeU.get' r rest (k + 1) i tid nm cdt cn cmd hs.2.2 (by simpa [UFields.toList] using h)
  | .nil, .cons _ _ _, _, _, _, _, _, _, _, hs, _ => by simp [ShapeU] at hs
  | .cons _ _ _, .nil, _, _, _, _, _, _, _, hs, _ => by simp [ShapeU] at hs

/-! ### records -/

theorem structOf_inv {fields : List Field} {collect : Field → R (List LVal)} {lv : LVal}
    (h : structOf fields collect = .ok lv) : ∀ (j : Nat) f, fields[j]? = some f →
    ∃ found v, collect f = .ok found ∧ pickOne f.name f.nullable f.dataType f.metadata found = .ok v := by
  obtain ⟨_, _, hg⟩ := structOf_ok_inv h
  exact fun j f hj => let ⟨found, v, h1, h2, _⟩ := hg j f hj; ⟨found, v, h1, h2⟩

/-- at `end`: every field has been seen, or is nullable and may take a null -/
def EndOK (seen : List Bool) (sfs : Fields) : Prop :=
  ∀ (j : Nat) f, sfs.toList[j]? = some f → seen.getD j false = true ∨
    (f.nullable = true ∧ ∃ lv, interpNull f.dataType f.nullable f.metadata = .ok lv)

theorem SS.element_total {s : SS} {idx : Nat} {pc : B → R B} {c c' : B} {m : FieldMeta}
    (hget : s.fields.get? idx = some (c, m)) (hseen : s.seen[idx]? = some false) (hpc : pc c = .ok c') :
    s.element idx pc = .ok { s with fields := s.fields.set idx c', seen := s.seen.set idx true, next := idx + 1 } := by
  unfold SS.element
  simp only [hseen, hget]
  exact (bind_ok _ _ _).2 ⟨_, hpc, rfl⟩

/-! ### completeness of the element loops on the strict invariant (`ElemsComp`, `CountComp`; theorems in Lemmas/C01Comp.lean) and
lengths of sequences on both sides. -/

def ElemsComp (ext : Ext) (xs : SVals) (pe : Bool → B → List Int → R (B × List Int)) : Prop :=
  ∀ large el offs (l : Int) cdt cn cmd ls, Good el cdt cn cmd → vsizes ext xs ≤ room el → offs.getLast? = some l →
    0 ≤ l → l + xs.length ≤ 2147483647 → interpAll ext cdt cn cmd xs = .ok ls →
    ∃ r, pe large el offs = .ok r ∧ room el ≤ room r.1 + vsizes ext xs ∧ r.2.getLast? = some (l + xs.length)

def CountComp (ext : Ext) (xs : SVals) (pc : B → Nat → R (B × Nat)) : Prop :=
  ∀ el c cdt cn cmd ls, Good el cdt cn cmd → vsizes ext xs ≤ room el → interpAll ext cdt cn cmd xs = .ok ls →
    ∃ el', pc el c = .ok (el', c + xs.length) ∧ room el ≤ room el' + vsizes ext xs

theorem u8All_length : ∀ (xs : SVals) (bs : Bytes), u8All xs = .ok bs → bs.length = xs.length
  | .nil, bs, h => by simp [u8All] at h; subst h; rfl
  | .cons v r, bs, h => by
    simp only [u8All] at h
    obtain ⟨b, _, h⟩ := (bind_ok _ _ _).1 h
    obtain ⟨bs', h', h⟩ := (bind_ok _ _ _).1 h
    cases h
    simp [SVals.length, u8All_length r bs' h']

theorem interpAll_length (ext : Ext) (dt : DataType) (n : Bool) (md : Metadata) : ∀ (xs : SVals) (ls : List LVal),
    interpAll ext dt n md xs = .ok ls → ls.length = xs.length
  | .nil, ls, h => by simp [interpAll] at h; subst h; rfl
  | .cons v r, ls, h => by
    simp only [interpAll] at h
    obtain ⟨b, _, h⟩ := (bind_ok _ _ _).1 h
    obtain ⟨ls', h', h⟩ := (bind_ok _ _ _).1 h
    cases h
    simp [SVals.length, interpAll_length ext dt n md r ls' h']

theorem iter_incrementLast_total (large : Bool) : ∀ (k : Nat) (offs : List Int) (l : Int), offs.getLast? = some l → 0 ≤ l →
    l + k ≤ 2147483647 → ∃ offs', iter k (fun o => incrementLast true large o 1) offs = .ok offs' ∧
      offs'.getLast? = some (l + k)
  | 0, offs, l, hl, _, _ => ⟨offs, rfl, by simpa using hl⟩
  | k + 1, offs, l, hl, h0, hle => by
    have hinc := incrementLast_total (large := large) (inc := 1) hl (by omega) h0
    obtain ⟨offs', h, hl'⟩ := iter_incrementLast_total large k (offs.dropLast ++ [l + (1 : Nat)]) (l + (1 : Nat)) (by simp)
      (by omega) (by omega)
    refine ⟨offs', ?_, by rw [hl']; congr 1; omega⟩
    simp only [iter]
    exact (bind_ok _ _ _).2 ⟨_, hinc, h⟩

end SaModel.Build
