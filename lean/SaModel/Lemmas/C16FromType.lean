import SaModel.Lemmas.C16Schema
/-
C16, `from_type`: the pass budget and the depth limit.

* `fromTypeLoopN` is `fromTypeLoop` instrumented with the number of `explore` passes it performs; the count never
  exceeds the budget and the result is the one of `fromTypeLoop` (`fromTypeLoopN_fst`, `fromTypeLoopN_le`).
* a successful loop ends in a complete tracer reached by `k ≤ budget` passes (`fromTypeLoop_ok`).
* `nestVec k ty` is `Vec<Vec<…>>`, `k` levels; that it is refused in the FIRST pass beyond `MAX_TYPE_DEPTH`
  (`explore_deep_vec`) and the depth limit for every container family are in `C16Depth.lean`.
-/
namespace SaModel.Lemmas.C16
open SaModel SaModel.Trace

/-- `fromTypeLoop` together with the number of passes (`explore` calls) it performs -/
def fromTypeLoopN (c : Code) (o : Options) (ty : Ty) : Nat → Tracer → R Tracer × Nat
  | budget, t =>
    if t.is_complete then (.ok t, 0)
    else match budget with
      | 0 => (fail "Could not determine schema from the type after {budget} iterations", 0)
      | b + 1 =>
        match explore c o t ty with
        | .ok t1 => ((fromTypeLoopN c o ty b t1).1, (fromTypeLoopN c o ty b t1).2 + 1)
        | .error e => (.error e, 1)

theorem fromTypeLoopN_fst (c : Code) (o : Options) (ty : Ty) : ∀ (budget : Nat) (t : Tracer),
    (fromTypeLoopN c o ty budget t).1 = fromTypeLoop c o ty budget t
  | 0, t => by unfold fromTypeLoopN fromTypeLoop; split <;> rfl
  | b + 1, t => by
    unfold fromTypeLoopN fromTypeLoop
    split
    · rfl
    · simp only []
      cases h : explore c o t ty with
      | ok t1 => simp only [bind, Except.bind]; exact fromTypeLoopN_fst c o ty b t1
      | error e => rfl

theorem fromTypeLoopN_le (c : Code) (o : Options) (ty : Ty) : ∀ (budget : Nat) (t : Tracer),
    (fromTypeLoopN c o ty budget t).2 ≤ budget
  | 0, t => by unfold fromTypeLoopN; split <;> simp
  | b + 1, t => by
    unfold fromTypeLoopN
    split
    · simp
    · simp only []
      cases h : explore c o t ty with
      | ok t1 => simp only []; have := fromTypeLoopN_le c o ty b t1; omega
      | error e => simp

/-- exactly `k` passes -/
def passes (c : Code) (o : Options) (ty : Ty) : Nat → Tracer → R Tracer
  | 0, t => .ok t
  | k + 1, t => do
    let t ← explore c o t ty
    passes c o ty k t

theorem fromTypeLoop_ok (c : Code) (o : Options) (ty : Ty) : ∀ (budget : Nat) (t t' : Tracer),
    fromTypeLoop c o ty budget t = .ok t' → t'.is_complete = true ∧ ∃ k, k ≤ budget ∧ passes c o ty k t = .ok t'
  | 0, t, t', h => by
    unfold fromTypeLoop at h
    split at h
    · cases h; rename_i hc; exact ⟨hc, 0, Nat.le_refl _, rfl⟩
    · simp [fail] at h
  | b + 1, t, t', h => by
    unfold fromTypeLoop at h
    split at h
    · cases h; rename_i hc; exact ⟨hc, 0, Nat.zero_le _, rfl⟩
    · simp only [] at h
      obtain ⟨t1, h1, h2⟩ := bind_eq_ok h
      obtain ⟨hc, k, hk, hp⟩ := fromTypeLoop_ok c o ty b t1 t' h2
      refine ⟨hc, k + 1, by omega, ?_⟩
      simp only [passes, h1, bind, Except.bind]; exact hp

/-- if no run of at most `budget` passes reaches a complete tracer the loop does not succeed -/
theorem fromTypeLoop_exhausted (c : Code) (o : Options) (ty : Ty) (budget : Nat) (t : Tracer)
    (h : ∀ k, k ≤ budget → ∀ t', passes c o ty k t = .ok t' → t'.is_complete = false) :
    ∀ t', fromTypeLoop c o ty budget t ≠ .ok t' := by
  intro t' ht
  obtain ⟨hc, k, hk, hp⟩ := fromTypeLoop_ok c o ty budget t t' ht
  rw [h k hk t' hp] at hc; cases hc

/-- `k` nested `Vec`s around `ty` -/
def nestVec : Nat → Ty → Ty
  | 0, ty => ty
  | k + 1, ty => .vec (nestVec k ty)

theorem countDots_root : countDots "$" = 0 := by decide

end SaModel.Lemmas.C16
