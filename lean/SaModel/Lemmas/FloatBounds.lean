import SaModel.Basic.Float
/-
The IEEE conversions of `Basic/Float.lean` return bit patterns of the target width:
  roundMag_le_inf : 1 ≤ f.eb → roundMag f m e ≤ f.inf          (rounding never goes past infinity)
  convert_lt / ofInt_lt : results < 2 ^ f.width
(used as `FloatOK` by the value-range invariant `LR`, Lemmas/C03LR.lean).
-/
namespace SaModel.Lemmas.FloatBounds
open SaModel.Float

theorem rshiftRne_le (m s : Nat) : rshiftRne m s ≤ m / 2 ^ s + 1 := by
  unfold rshiftRne
  split
  · rename_i h; subst h; simp
  · simp only []; split <;> omega

theorem expMax_eq (f : Fmt) (hf : 1 ≤ f.eb) : f.expMax = 2 * f.bias + 1 := by
  unfold Fmt.expMax Fmt.bias
  have e : 2 ^ f.eb = 2 * 2 ^ (f.eb - 1) := by
    have : f.eb = (f.eb - 1) + 1 := by omega
    rw [this, Nat.pow_succ]; simp [Nat.mul_comm]
  have hp : 0 < 2 ^ (f.eb - 1) := Nat.two_pow_pos _
  omega

theorem pow_le_inf (f : Fmt) (hf : 1 ≤ f.eb) : 2 ^ f.mb ≤ f.inf := by
  unfold Fmt.inf
  have := expMax_eq f hf
  exact Nat.le_mul_of_pos_left _ (by omega)

/-- `m` below `2 ^ l` shifted left by `t` stays below `2 ^ n` when `l + t ≤ n` -/
theorem shl_lt {m l t n : Nat} (hm : m < 2 ^ l) (h : l + t ≤ n) : m * 2 ^ t < 2 ^ n := by
  have h1 : m * 2 ^ t < 2 ^ l * 2 ^ t := Nat.mul_lt_mul_of_pos_right hm (Nat.two_pow_pos _)
  rw [← Nat.pow_add] at h1
  exact Nat.lt_of_lt_of_le h1 (Nat.pow_le_pow_right (by omega) h)

/-- `m` below `2 ^ l` shifted right by `s` with rounding is at most `2 ^ n` when `l ≤ s + n` -/
theorem shr_le {m l s n : Nat} (hm : m < 2 ^ l) (h : l ≤ s + n) : rshiftRne m s ≤ 2 ^ n := by
  have h1 := rshiftRne_le m s
  have h2 : 2 ^ l ≤ 2 ^ s * 2 ^ n := by rw [← Nat.pow_add]; exact Nat.pow_le_pow_right (by omega) h
  have h3 : m / 2 ^ s < 2 ^ n := Nat.div_lt_of_lt_mul (by omega)
  omega

theorem roundMag_le_inf (f : Fmt) (hf : 1 ≤ f.eb) (m : Nat) (e : Int) : roundMag f m e ≤ f.inf := by
  unfold roundMag
  split
  · exact Nat.zero_le _
  · simp only []
    have hLm : m < 2 ^ (m.log2 + 1) := Nat.lt_log2_self
    generalize m.log2 = L at hLm ⊢
    have hinf := pow_le_inf f hf
    split
    · -- subnormal range: the result stays below `2 ^ mb`, the first normal pattern
      rename_i hE
      split
      · exact Nat.le_trans (Nat.le_of_lt (shl_lt hLm (by omega))) hinf
      · exact Nat.le_trans (shr_le hLm (by omega)) hinf
    · -- normal range
      rename_i hE
      have hP : 0 < 2 ^ f.mb := Nat.two_pow_pos _
      have h2P : 2 ^ (f.mb + 1) = 2 * 2 ^ f.mb := by rw [Nat.pow_succ]; omega
      have hq0 : (if (L : Int) - (f.mb : Int) ≤ 0 then m * 2 ^ (-((L : Int) - (f.mb : Int))).toNat
          else rshiftRne m ((L : Int) - (f.mb : Int)).toNat) ≤ 2 ^ (f.mb + 1) := by
        split
        · exact Nat.le_of_lt (shl_lt hLm (by omega))
        · exact shr_le hLm (by omega)
      generalize (if (L : Int) - (f.mb : Int) ≤ 0 then m * 2 ^ (-((L : Int) - (f.mb : Int))).toNat
          else rshiftRne m ((L : Int) - (f.mb : Int)).toNat) = q0 at hq0 ⊢
      have hmax := expMax_eq f hf
      have key : ∀ (q : Nat) (E : Int), q < 2 ^ (f.mb + 1) → ¬ E > (f.bias : Int) →
          (E + (f.bias : Int)).toNat * 2 ^ f.mb + (q - 2 ^ f.mb) ≤ f.inf := by
        intro q E hq hEb
        unfold Fmt.inf
        have ht : (E + (f.bias : Int)).toNat + 1 ≤ f.expMax := by omega
        have := Nat.mul_le_mul_right (2 ^ f.mb) ht
        rw [Nat.add_mul] at this
        omega
      by_cases hc : q0 ≥ 2 ^ (f.mb + 1)
      · simp only [hc, if_true]
        split
        · exact Nat.le_refl _
        · rename_i hEb
          exact key _ _ (by omega) hEb
      · simp only [hc, if_false]
        split
        · exact Nat.le_refl _
        · rename_i hEb
          exact key _ _ (by omega) hEb

theorem signBit_eq (f : Fmt) : f.signBit = 2 ^ f.eb * 2 ^ f.mb := by
  unfold Fmt.signBit; rw [Nat.pow_add]

theorem inf_lt_signBit (f : Fmt) (_hf : 1 ≤ f.eb) : f.inf < f.signBit := by
  rw [signBit_eq]
  unfold Fmt.inf Fmt.expMax
  have hp : 0 < 2 ^ f.eb := Nat.two_pow_pos _
  have hP : 0 < 2 ^ f.mb := Nat.two_pow_pos _
  have : 2 ^ f.eb - 1 + 1 = 2 ^ f.eb := by omega
  have h2 : (2 ^ f.eb - 1 + 1) * 2 ^ f.mb = 2 ^ f.eb * 2 ^ f.mb := by rw [this]
  rw [Nat.add_mul] at h2
  omega

theorem nan_lt_signBit (f : Fmt) (_hf : 1 ≤ f.eb) (hm : 1 ≤ f.mb) : f.nan < f.signBit := by
  rw [signBit_eq]
  unfold Fmt.nan Fmt.expMax
  have hp : 0 < 2 ^ f.eb := Nat.two_pow_pos _
  have hlt : 2 ^ (f.mb - 1) < 2 ^ f.mb := Nat.pow_lt_pow_right (by omega) (by omega)
  have : 2 ^ f.eb - 1 + 1 = 2 ^ f.eb := by omega
  have h2 : (2 ^ f.eb - 1 + 1) * 2 ^ f.mb = 2 ^ f.eb * 2 ^ f.mb := by rw [this]
  rw [Nat.add_mul] at h2
  omega

theorem width_eq (f : Fmt) : 2 ^ f.width = 2 * f.signBit := by
  unfold Fmt.width Fmt.signBit
  rw [show 1 + f.eb + f.mb = (f.eb + f.mb) + 1 by omega, Nat.pow_succ]; omega

theorem withSign_lt (f : Fmt) (neg : Bool) (mag : Nat) (h : mag < f.signBit) : withSign f neg mag < 2 ^ f.width := by
  rw [width_eq]
  unfold withSign
  split <;> omega

theorem convert_lt (src dst : Fmt) (hf : 1 ≤ dst.eb) (hm : 1 ≤ dst.mb) (bits : Nat) :
    convert src dst bits < 2 ^ dst.width := by
  unfold convert
  split
  · have := nan_lt_signBit dst hf hm
    rw [width_eq]; omega
  · exact withSign_lt dst _ _ (inf_lt_signBit dst hf)
  · exact withSign_lt dst _ _ (Nat.lt_of_le_of_lt (roundMag_le_inf dst hf _ _) (inf_lt_signBit dst hf))

theorem ofInt_lt (dst : Fmt) (hf : 1 ≤ dst.eb) (v : Int) : ofInt dst v < 2 ^ dst.width := by
  unfold ofInt
  exact withSign_lt dst _ _ (Nat.lt_of_le_of_lt (roundMag_le_inf dst hf _ _) (inf_lt_signBit dst hf))

end SaModel.Lemmas.FloatBounds
