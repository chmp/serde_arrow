import SaModel.Lemmas.C07TDefs
import SaModel.Lemmas.C06Ensure
/-
C07, tree level — basic facts: `find` / `FSub` on field lists, `TEq` is reflexive on well-formed tracers and transitive,
`mark_nullable` respects `TEq` / `WF`.
-/
namespace SaModel.Lemmas.C07
open SaModel SaModel.Trace SaModel.Props.C07

theorem find_mem {fs : TFields} {k : String} {l : Nat} {t : Tracer} (h : fs.find k = some (l, t)) :
    (k, l, t) ∈ fs.toList := by
  match fs with
  | .nil => simp [TFields.find] at h
  | .cons n l0 t0 r =>
    simp only [TFields.find] at h
    simp only [TFields.toList, List.mem_cons]
    by_cases hn : n = k
    · simp only [hn, if_true, Option.some.injEq, Prod.mk.injEq] at h
      obtain ⟨rfl, rfl⟩ := h
      exact .inl (by rw [hn])
    · simp only [hn, if_false] at h
      exact .inr (find_mem h)

theorem FSub_mem : ∀ {a b : TFields}, FSub a b → ∀ {k l t}, (k, l, t) ∈ a.toList →
    ∃ l' t', b.find k = some (l', t') ∧ TEq t t'
  | .nil, _, _, _, _, _, h => by simp [TFields.toList] at h
  | .cons n l0 t0 r, b, hs, k, l, t, h => by
    rw [FSub] at hs
    simp only [TFields.toList, List.mem_cons, Prod.mk.injEq] at h
    rcases h with ⟨rfl, rfl, rfl⟩ | h
    · exact hs.1
    · exact FSub_mem hs.2 h

theorem FSub_find {a b : TFields} (hs : FSub a b) {k l t} (h : a.find k = some (l, t)) :
    ∃ l' t', b.find k = some (l', t') ∧ TEq t t' := FSub_mem hs (find_mem h)

theorem FSub_of_mem : ∀ {a b : TFields}, (∀ k l t, (k, l, t) ∈ a.toList → ∃ l' t', b.find k = some (l', t') ∧ TEq t t') →
    FSub a b
  | .nil, _, _ => by rw [FSub]; trivial
  | .cons n l0 t0 r, b, h => by
    rw [FSub]
    refine ⟨h n l0 t0 (by simp [TFields.toList]), FSub_of_mem ?_⟩
    intro k l t hm
    exact h k l t (by simp [TFields.toList, hm])

theorem mem_find : ∀ {o : Options} {s : Nat} {fs : TFields}, FWF o s fs → ∀ {k l t}, (k, l, t) ∈ fs.toList →
    fs.find k = some (l, t) ∧ l < s ∧ WF o t ∧ t.name = k
  | _, _, .nil, _, _, _, _, h => by simp [TFields.toList] at h
  | o, s, .cons n l0 t0 r, hw, k, l, t, h => by
    rw [FWF] at hw
    simp only [TFields.toList, List.mem_cons, Prod.mk.injEq] at h
    rcases h with ⟨rfl, rfl, rfl⟩ | h
    · exact ⟨by simp [TFields.find], hw.1, hw.2.2.2.1, hw.2.2.1⟩
    · have ih := mem_find hw.2.2.2.2 h
      refine ⟨?_, ih.2⟩
      simp only [TFields.find]
      by_cases hn : n = k
      · subst hn; rw [hw.2.1] at ih; cases ih.1
      · simp only [hn, if_false]; exact ih.1

theorem find_wf {o : Options} {s : Nat} {fs : TFields} (hw : FWF o s fs) {k l t} (h : fs.find k = some (l, t)) :
    l < s ∧ WF o t := ⟨(mem_find hw (find_mem h)).2.1, (mem_find hw (find_mem h)).2.2.1⟩

theorem FSub_of_find {o : Options} {s : Nat} {a b : TFields} (hw : FWF o s a)
    (h : ∀ k l t, a.find k = some (l, t) → ∃ l' t', b.find k = some (l', t') ∧ TEq t t') : FSub a b :=
  FSub_of_mem fun k l t hm => h k l t (mem_find hw hm).1

theorem FWF_nodup : ∀ {o : Options} {s : Nat} {fs : TFields}, FWF o s fs → fs.names.Nodup
  | _, _, .nil, _ => by simp [TFields.names]
  | o, s, .cons n l0 t0 r, hw => by
    rw [FWF] at hw
    simp only [TFields.names, List.nodup_cons]
    exact ⟨find_names.mp hw.2.1, FWF_nodup hw.2.2.2.2⟩

mutual
theorem TEq_refl (o : Options) : ∀ t, WF o t → TEq t t
  | .unknown _ _ _, _ => by rw [TEq]
  | .primitive _ _ _ _ _, _ => by rw [TEq]
  | .list _ _ _ i, h => by rw [TEq]; rw [WF] at h; exact ⟨i, rfl, TEq_refl o i h⟩
  | .map _ _ _ k v, h => by rw [TEq]; rw [WF] at h; exact ⟨k, v, rfl, TEq_refl o k h.1, TEq_refl o v h.2⟩
  | .struct _ _ _ fs _ s, h => by
    rw [TEq]; rw [WF] at h
    exact ⟨fs, s, rfl, Iff.rfl, fun _ => rfl, FSub_refl o s fs fs (fun _ _ _ hm => ⟨(mem_find h hm).2.1, (mem_find h hm).2.2.1⟩) (fun _ _ _ hm => (mem_find h hm).1)⟩
  | .tuple _ _ _ ts, h => by rw [TEq]; rw [WF] at h; exact ⟨ts, rfl, TsEq_refl o ts h⟩
  | .union _ _ _ vs, h => by rw [TEq]; rw [WF] at h; exact ⟨vs, rfl, VEq_refl o vs h⟩
theorem TsEq_refl (o : Options) : ∀ ts, TsWF o ts → TsEq ts ts
  | .nil, _ => by rw [TsEq]
  | .cons t r, h => by rw [TsEq]; rw [TsWF] at h; exact ⟨t, r, rfl, TEq_refl o t h.1, TsEq_refl o r h.2⟩
theorem FSub_refl (o : Options) (s : Nat) : ∀ (fs big : TFields), (∀ k l t, (k, l, t) ∈ fs.toList → l < s ∧ WF o t) →
    (∀ k l t, (k, l, t) ∈ fs.toList → big.find k = some (l, t)) → FSub fs big
  | .nil, _, _, _ => by rw [FSub]; trivial
  | .cons n l t r, big, hw, h => by
    rw [FSub]
    have hm : (n, l, t) ∈ (TFields.cons n l t r).toList := by simp [TFields.toList]
    refine ⟨⟨l, t, h n l t hm, TEq_refl o t (hw n l t hm).2⟩, FSub_refl o s r big ?_ ?_⟩
    · intro k l' t' hm'; exact hw k l' t' (by simp [TFields.toList, hm'])
    · intro k l' t' hm'; exact h k l' t' (by simp [TFields.toList, hm'])
theorem VEq_refl (o : Options) : ∀ vs, VWF o vs → VEq vs vs
  | .nil, _ => by rw [VEq]
  | .absent r, h => by rw [VEq]; rw [VWF] at h; exact ⟨r, rfl, VEq_refl o r h⟩
  | .present n t r, h => by rw [VEq]; rw [VWF] at h; exact ⟨t, r, rfl, TEq_refl o t h.1, VEq_refl o r h.2⟩
end

mutual
theorem TEq_trans : ∀ (a b c : Tracer), TEq a b → TEq b c → TEq a c
  | .unknown _ _ _, b, c, h1, h2 => by rw [TEq] at h1; subst h1; rw [TEq] at h2; rw [TEq]; exact h2
  | .primitive _ _ _ _ _, b, c, h1, h2 => by rw [TEq] at h1; subst h1; rw [TEq] at h2; rw [TEq]; exact h2
  | .list _ _ _ i, b, c, h1, h2 => by
    rw [TEq] at h1; obtain ⟨i', rfl, h1⟩ := h1
    rw [TEq] at h2; obtain ⟨i'', rfl, h2⟩ := h2
    rw [TEq]; exact ⟨i'', rfl, TEq_trans i i' i'' h1 h2⟩
  | .map _ _ _ k v, b, c, h1, h2 => by
    rw [TEq] at h1; obtain ⟨k', v', rfl, h1, h1'⟩ := h1
    rw [TEq] at h2; obtain ⟨k'', v'', rfl, h2, h2'⟩ := h2
    rw [TEq]; exact ⟨k'', v'', rfl, TEq_trans k k' k'' h1 h2, TEq_trans v v' v'' h1' h2'⟩
  | .struct _ _ _ fs _ s, b, c, h1, h2 => by
    rw [TEq] at h1; obtain ⟨fs', s', rfl, hs1, hk1, h1⟩ := h1
    rw [TEq] at h2; obtain ⟨fs'', s'', rfl, hs2, hk2, h2⟩ := h2
    rw [TEq]
    exact ⟨fs'', s'', rfl, hs1.trans hs2, fun k => (hk1 k).trans (hk2 k), FSub_trans fs fs' fs'' h1 h2⟩
  | .tuple _ _ _ ts, b, c, h1, h2 => by
    rw [TEq] at h1; obtain ⟨ts', rfl, h1⟩ := h1
    rw [TEq] at h2; obtain ⟨ts'', rfl, h2⟩ := h2
    rw [TEq]; exact ⟨ts'', rfl, TsEq_trans ts ts' ts'' h1 h2⟩
  | .union _ _ _ vs, b, c, h1, h2 => by
    rw [TEq] at h1; obtain ⟨vs', rfl, h1⟩ := h1
    rw [TEq] at h2; obtain ⟨vs'', rfl, h2⟩ := h2
    rw [TEq]; exact ⟨vs'', rfl, VEq_trans vs vs' vs'' h1 h2⟩
termination_by structural a => a
theorem TsEq_trans : ∀ (a b c : Tracers), TsEq a b → TsEq b c → TsEq a c
  | .nil, b, c, h1, h2 => by rw [TsEq] at h1; subst h1; rw [TsEq] at h2; rw [TsEq]; exact h2
  | .cons t r, b, c, h1, h2 => by
    rw [TsEq] at h1; obtain ⟨t', r', rfl, h1, h1'⟩ := h1
    rw [TsEq] at h2; obtain ⟨t'', r'', rfl, h2, h2'⟩ := h2
    rw [TsEq]; exact ⟨t'', r'', rfl, TEq_trans t t' t'' h1 h2, TsEq_trans r r' r'' h1' h2'⟩
termination_by structural a => a
theorem FSub_trans : ∀ (a b c : TFields), FSub a b → FSub b c → FSub a c
  | .nil, _, _, _, _ => by rw [FSub]; trivial
  | .cons n l t r, b, c, h1, h2 => by
    rw [FSub] at h1
    obtain ⟨⟨l', t', hf, he⟩, h1'⟩ := h1
    obtain ⟨l'', t'', hf', he'⟩ := FSub_find h2 hf
    rw [FSub]
    exact ⟨⟨l'', t'', hf', TEq_trans t t' t'' he he'⟩, FSub_trans r b c h1' h2⟩
termination_by structural a => a
theorem VEq_trans : ∀ (a b c : Variants), VEq a b → VEq b c → VEq a c
  | .nil, b, c, h1, h2 => by rw [VEq] at h1; subst h1; rw [VEq] at h2; rw [VEq]; exact h2
  | .absent r, b, c, h1, h2 => by
    rw [VEq] at h1; obtain ⟨r', rfl, h1⟩ := h1
    rw [VEq] at h2; obtain ⟨r'', rfl, h2⟩ := h2
    rw [VEq]; exact ⟨r'', rfl, VEq_trans r r' r'' h1 h2⟩
  | .present n t r, b, c, h1, h2 => by
    rw [VEq] at h1; obtain ⟨t', r', rfl, h1, h1'⟩ := h1
    rw [VEq] at h2; obtain ⟨t'', r'', rfl, h2, h2'⟩ := h2
    rw [VEq]; exact ⟨t'', r'', rfl, TEq_trans t t' t'' h1 h2, VEq_trans r r' r'' h1' h2'⟩
termination_by structural a => a
end

theorem Eqv.refl {o : Options} {t : Tracer} (h : WF o t) : Eqv t t := ⟨TEq_refl o t h, TEq_refl o t h⟩
theorem Eqv.symm {a b : Tracer} (h : Eqv a b) : Eqv b a := ⟨h.2, h.1⟩
theorem Eqv.trans {a b c : Tracer} (h1 : Eqv a b) (h2 : Eqv b c) : Eqv a c :=
  ⟨TEq_trans _ _ _ h1.1 h2.1, TEq_trans _ _ _ h2.2 h1.2⟩

theorem TEq_top {a b : Tracer} (h : TEq a b) :
    b.name = a.name ∧ b.path = a.path ∧ b.nullable = a.nullable ∧ b.is_unknown_or_null = a.is_unknown_or_null := by
  cases a <;> rw [TEq] at h
  case unknown => subst h; exact ⟨rfl, rfl, rfl, rfl⟩
  case primitive => subst h; exact ⟨rfl, rfl, rfl, rfl⟩
  case list => obtain ⟨_, rfl, _⟩ := h; exact ⟨rfl, rfl, rfl, rfl⟩
  case map => obtain ⟨_, _, rfl, _⟩ := h; exact ⟨rfl, rfl, rfl, rfl⟩
  case struct => obtain ⟨_, _, rfl, _⟩ := h; exact ⟨rfl, rfl, rfl, rfl⟩
  case tuple => obtain ⟨_, rfl, _⟩ := h; exact ⟨rfl, rfl, rfl, rfl⟩
  case union => obtain ⟨_, rfl, _⟩ := h; exact ⟨rfl, rfl, rfl, rfl⟩

theorem is_unknown_or_null_prim (n p : String) (nl : Bool) (ty : DataType) (st : Option Strategy) :
    (Tracer.primitive n p nl ty st).is_unknown_or_null = isNull ty := by
  cases ty <;> rfl

theorem isNull_iff {ty : DataType} : isNull ty = true ↔ ty = .null := C06.isNull_iff ty

theorem TEq_unknownish {a b : Tracer} (h : TEq a b) (hu : a.is_unknown_or_null = true) : b = a := by
  cases a <;> rw [TEq] at h <;> first | exact h | (simp [Tracer.is_unknown_or_null] at hu)

theorem mark_mark (t : Tracer) : t.mark_nullable.mark_nullable = t.mark_nullable := by
  cases t <;> rfl

theorem TEq_mark {a b : Tracer} (h : TEq a b) : TEq a.mark_nullable b.mark_nullable := by
  cases a <;> rw [TEq] at h <;> simp only [Tracer.mark_nullable, Tracer.set_nullable]
  case unknown => subst h; rw [TEq]
  case primitive => subst h; rw [TEq]
  case list => obtain ⟨i', rfl, h⟩ := h; rw [TEq]; exact ⟨i', rfl, h⟩
  case map => obtain ⟨k', v', rfl, h⟩ := h; rw [TEq]; exact ⟨k', v', rfl, h⟩
  case struct => obtain ⟨fs', s', rfl, h⟩ := h; rw [TEq]; exact ⟨fs', s', rfl, h⟩
  case tuple => obtain ⟨ts', rfl, h⟩ := h; rw [TEq]; exact ⟨ts', rfl, h⟩
  case union => obtain ⟨vs', rfl, h⟩ := h; rw [TEq]; exact ⟨vs', rfl, h⟩

theorem mem_leafStates {o : Options} {ty : DataType} {nl : Bool} :
    (some ty, nl) ∈ leafStates o ↔ ty ∈ leafTypes o ∧ (ty = .null → nl = true) := by
  simpa [tstates] using mem_leafStates_iff (o := o) (t := some ty) (nl := nl)

theorem WF_mark {o : Options} {t : Tracer} (h : WF o t) : WF o t.mark_nullable := by
  cases t <;> simp only [Tracer.mark_nullable, Tracer.set_nullable] <;> rw [WF] at h ⊢
  case primitive =>
    refine ⟨h.1, ?_⟩
    have := mem_leafStates.mp h.2
    exact mem_leafStates.mpr ⟨this.1, fun _ => rfl⟩
  all_goals exact h

end SaModel.Lemmas.C07
