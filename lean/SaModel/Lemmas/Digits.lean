/-
Decimal digit strings over any carrier (`Char` for dates, times, durations and JSON numbers, `UInt8` for decimals):
`value v l` is what a digit string is worth, most significant digit first, `v` giving the worth of one digit;
`digits chr fuel n` is how a number is printed, `chr` giving the character of one digit.  The per-carrier lemmas of
C14, C15 and C20 are instances.
-/
namespace SaModel.Digits
variable {α : Type}

def value (v : α → Nat) (l : List α) : Nat := l.foldl (fun a c => a * 10 + v c) 0

def Small (v : α → Nat) (l : List α) : Prop := ∀ c ∈ l, v c < 10

variable {v : α → Nat}

theorem Small.append {a b : List α} (ha : Small v a) (hb : Small v b) : Small v (a ++ b) :=
  fun c hc => (List.mem_append.mp hc).elim (ha c) (hb c)
theorem Small.take {a : List α} (ha : Small v a) (n : Nat) : Small v (a.take n) := fun c hc => ha c (List.mem_of_mem_take hc)
theorem Small.drop {a : List α} (ha : Small v a) (n : Nat) : Small v (a.drop n) := fun c hc => ha c (List.mem_of_mem_drop hc)

theorem p10 (n : Nat) : 0 < 10 ^ n := Nat.pow_pos (by omega)

/-- the one place where the accumulator of a left-to-right reader is taken out: readers that fold `a * 10 + v c`
(`str::parse`, `scan::number`, the JSON number reader) are stated with `foldl` and turned into `value` by this -/
theorem foldl_value (l : List α) (acc : Nat) :
    l.foldl (fun a c => a * 10 + v c) acc = acc * 10 ^ l.length + value v l := by
  induction l generalizing acc with
  | nil => simp [value]
  | cons c r ih =>
    simp only [List.foldl_cons, List.length_cons, value]
    rw [ih, ih (0 * 10 + v c), Nat.pow_succ]
    simp only [Nat.zero_mul, Nat.zero_add, Nat.add_mul, Nat.mul_assoc, Nat.add_assoc]
    congr 2
    exact Nat.mul_comm _ _

theorem value_nil : value v [] = 0 := rfl

theorem value_append (a b : List α) : value v (a ++ b) = value v a * 10 ^ b.length + value v b := by
  simp only [value, List.foldl_append]
  rw [foldl_value]; rfl

theorem value_cons (c : α) (l : List α) : value v (c :: l) = v c * 10 ^ l.length + value v l := by
  have := value_append (v := v) [c] l
  simpa [value] using this

theorem value_lt {l : List α} (h : Small v l) : value v l < 10 ^ l.length := by
  induction l with
  | nil => simp [value]
  | cons c r ih =>
    rw [value_cons, List.length_cons, Nat.pow_succ]
    have h1 := h c List.mem_cons_self
    have h2 := ih (fun d hd => h d (List.mem_cons_of_mem _ hd))
    have : v c * 10 ^ r.length ≤ 9 * 10 ^ r.length := Nat.mul_le_mul_right _ (by omega)
    omega

theorem value_replicate {z : α} (hz : v z = 0) (n : Nat) : value v (List.replicate n z) = 0 := by
  induction n with
  | zero => rfl
  | succ n ih => rw [List.replicate_succ, value_cons, ih, hz]; simp

theorem div_lemma (a b c : Nat) (hb : 0 < b) (hc : c < b) : (a * b + c) / b = a := by
  rw [Nat.mul_comm, Nat.mul_add_div hb, Nat.div_eq_of_lt hc]; simp

theorem value_take_div {l : List α} (hd : Small v l) (k : Nat) : value v (l.take (l.length - k)) = value v l / 10 ^ k := by
  by_cases hk : k ≤ l.length
  · have hlen : (l.drop (l.length - k)).length = k := by rw [List.length_drop]; omega
    have hsplit : value v l = value v (l.take (l.length - k)) * 10 ^ k + value v (l.drop (l.length - k)) := by
      conv => lhs; rw [← List.take_append_drop (l.length - k) l]
      rw [value_append, hlen]
    have hlow := value_lt (hd.drop (l.length - k))
    rw [hlen] at hlow
    rw [hsplit, div_lemma _ _ _ (p10 _) hlow]
  · have h0 : l.length - k = 0 := by omega
    rw [h0, List.take_zero]
    have h1 := value_lt hd
    have h2 := Nat.pow_le_pow_right (n := 10) (by omega) (show l.length ≤ k by omega)
    exact (Nat.div_eq_of_lt (by omega)).symm

/-- `⌊N(I.F) · 10^k⌋`: the fraction cut to `k` digits, or scaled up to `k` places -/
theorem value_take_scaled (I F : List α) (hF : Small v F) (k : Nat) :
    value v (I ++ F.take k) * 10 ^ (k - F.length) = value v (I ++ F) * 10 ^ k / 10 ^ F.length := by
  by_cases h : F.length ≤ k
  · rw [List.take_of_length_le h]
    have : 10 ^ k = 10 ^ (k - F.length) * 10 ^ F.length := by rw [← Nat.pow_add]; congr 1; omega
    rw [this, ← Nat.mul_assoc, Nat.mul_div_cancel _ (p10 _)]
  · have h0 : k - F.length = 0 := by omega
    rw [h0, Nat.pow_zero, Nat.mul_one]
    have hsplit : value v (I ++ F) = value v (I ++ F.take k) * 10 ^ (F.length - k) + value v (F.drop k) := by
      conv => lhs; rw [← List.take_append_drop k F, ← List.append_assoc]
      rw [value_append, List.length_drop]
    have hlow := value_lt (hF.drop k)
    rw [List.length_drop] at hlow
    have hp : 10 ^ F.length = 10 ^ (F.length - k) * 10 ^ k := by rw [← Nat.pow_add]; congr 1; omega
    rw [hsplit, hp, Nat.mul_div_mul_right _ _ (p10 _), div_lemma _ _ _ (p10 _) hlow]

theorem value_pad {z : α} (hz : v z = 0) (I F : List α) (hF : Small v F) (k : Nat) :
    value v (I ++ F.take k ++ List.replicate (k - F.length) z) = value v (I ++ F) * 10 ^ k / 10 ^ F.length := by
  rw [value_append, value_replicate hz, List.length_replicate, Nat.add_zero, value_take_scaled I F hF k]

theorem value_scaled_lt {l : List α} (h : Small v l) {k : Nat} (hk : l.length ≤ k) :
    value v l * 10 ^ (k - l.length) < 10 ^ k := by
  have := Nat.mul_lt_mul_of_pos_right (value_lt h) (p10 (k - l.length))
  rwa [← Nat.pow_add, Nat.add_sub_cancel' hk] at this

/-- decimal digits of `n`, most significant first; the fuel only makes the recursion structural (`n < fuel` is enough) -/
def digits (chr : Nat → α) : Nat → Nat → List α
  | 0, _ => []
  | fuel + 1, n => if n < 10 then [chr n] else digits chr fuel (n / 10) ++ [chr (n % 10)]

variable {chr : Nat → α}

theorem digits_fuel : ∀ (f1 f2 n : Nat), n < f1 → n < f2 → digits chr f1 n = digits chr f2 n
  | 0, _, _, h, _ => absurd h (Nat.not_lt_zero _)
  | _, 0, _, _, h => absurd h (Nat.not_lt_zero _)
  | a + 1, b + 1, n, h1, h2 => by
    simp only [digits]
    split
    · rfl
    · rw [digits_fuel a b (n / 10) (by omega) (by omega)]

theorem digits_eq (n : Nat) :
    digits chr (n + 1) n = if n < 10 then [chr n] else digits chr (n / 10 + 1) (n / 10) ++ [chr (n % 10)] := by
  rw [digits]
  split
  · rfl
  · rw [digits_fuel n (n / 10 + 1) (n / 10) (by omega) (by omega)]

/-- what is printed: digit characters only, worth the number, as many as the number needs, no leading zero -/
theorem digits_spec (hc : ∀ d, d < 10 → v (chr d) = d) (fuel n : Nat) (h : n < fuel) :
    (∀ c ∈ digits chr fuel n, ∃ d, d < 10 ∧ c = chr d) ∧ value v (digits chr fuel n) = n ∧
    1 ≤ (digits chr fuel n).length ∧ (∀ k, 1 ≤ k → n < 10 ^ k → (digits chr fuel n).length ≤ k) ∧
    (0 < n → ∃ d t, digits chr fuel n = chr d :: t ∧ 0 < d ∧ d < 10) := by
  induction fuel generalizing n with
  | zero => omega
  | succ fuel ih =>
    unfold digits
    by_cases h10 : n < 10
    · simp only [h10, if_true]
      refine ⟨fun c hc' => ⟨n, h10, List.mem_singleton.mp hc'⟩, ?_, by simp, fun k hk _ => by simpa using hk,
        fun hn => ⟨n, [], rfl, hn, h10⟩⟩
      rw [value_cons]; simp [value_nil, hc n h10]
    · simp only [h10, if_false]
      obtain ⟨a1, a2, a3, a4, a5⟩ := ih (n / 10) (by omega)
      have hm : n % 10 < 10 := Nat.mod_lt _ (by omega)
      refine ⟨?_, ?_, by simp, ?_, fun _ => ?_⟩
      · intro c hc'
        rcases List.mem_append.mp hc' with h' | h'
        · exact a1 c h'
        · exact ⟨_, hm, List.mem_singleton.mp h'⟩
      · rw [value_append, a2, value_cons]
        simp only [value_nil, List.length_nil, List.length_cons, hc _ hm]
        omega
      · intro k hk hlt
        have hk2 : 2 ≤ k := by
          apply Classical.byContradiction; intro hk2
          have : k = 1 := by omega
          subst this; omega
        have : n / 10 < 10 ^ (k - 1) := by
          have e : 10 ^ k = 10 ^ (k - 1) * 10 := by rw [← Nat.pow_succ]; congr 1; omega
          rw [e] at hlt
          exact Nat.div_lt_of_lt_mul (by omega)
        have := a4 (k - 1) (by omega) this
        simp only [List.length_append, List.length_cons, List.length_nil]
        omega
      · obtain ⟨d, t, e, hd⟩ := a5 (by omega)
        exact ⟨d, t ++ [chr (n % 10)], by rw [e]; rfl, hd⟩

end SaModel.Digits
