import SaModel.Lemmas.C02TypedLeaf
/-
C02, typed reads: what the container lemmas rest on.  `Sound t` says: whatever the value-level specification
`cast t` demands of a slot whose Arrow reading is defined, `readAs t` returns (`KSound`: the same for a variant payload).
The accept side of the claim combinators, the shape of a struct row and of a dense union slot.
-/
namespace SaModel.Read
open SaModel SaModel.Spec

def Sound (t : Target) : Prop :=
  ∀ (a : Arr) (i : Nat) (lv : LVal) (d : DVal), decodeAt a i = .ok lv → new Fixes.all a = .ok () → physical a = true →
    utf8Ok lv = true → cast t a lv = must d → readAs Fixes.all t a i = .ok d

theorem andThenE_must {x : R (Option (List (DVal × DVal)))} {f : List (DVal × DVal) → Claim} {d : DVal}
    (h : andThenE x f = must d) : ∃ ds, x = .ok (some ds) ∧ f ds = must d := by
  unfold andThenE at h
  split at h
  · exact ⟨_, rfl, h⟩
  · simp [na, must] at h
  · simp [must] at h

theorem consClaim_some {α} {x : R (Option α)} {rest : R (Option (List α))} {l : List α}
    (h : consClaim x rest = .ok (some l)) : ∃ d ds, x = .ok (some d) ∧ rest = .ok (some ds) ∧ l = d :: ds := by
  unfold consClaim at h
  split at h
  · cases h
  · split at h <;> cases h
  · split at h
    · cases h; exact ⟨_, _, rfl, rfl, rfl⟩
    · rename_i hne
      exact absurd h (by intro h'; exact hne _ h')

def Targets.toList : Targets → List Target
  | .nil => []
  | .cons t r => t :: Targets.toList r

def TFields.toList : TFields → List (String × Target)
  | .nil => []
  | .cons n t r => (n, t) :: TFields.toList r

def TVariants.toList : TVariants → List (String × VKind)
  | .nil => []
  | .cons n k r => (n, k) :: TVariants.toList r

def KSound (k : VKind) : Prop :=
  ∀ (child : Arr) (off : Nat) (lv : LVal) (d : DVal), decodeAt child off = .ok lv → new Fixes.all child = .ok () →
    physical child = true → utf8Ok lv = true → castKind k child lv = must d →
    readKind Fixes.all k (some (child, off)) = .ok d

theorem variant_facts : ∀ (fs : ArrUFields) (k pos j : Nat) (w : LVal),
    decodeVariantAt fs pos j = .ok w → newUFields Fixes.all fs k = .ok () → physicalUFields fs = true →
    ∃ fm child, ArrUFields.nth fs pos = some (fm, child) ∧ decodeAt child j = .ok w ∧ new Fixes.all child = .ok () ∧
      physical child = true
  | .nil, _, _, _, _, h, _, _ => by unfold decodeVariantAt at h; cases h
  | .cons tid fm a rest, k, 0, j, w, h, hn, hp => by
    unfold decodeVariantAt at h
    unfold newUFields at hn
    split at hn
    · cases hn
    · obtain ⟨_, _, hn⟩ := bind_ok_inv hn
      obtain ⟨u, hna, hn⟩ := bind_ok_inv hn
      cases u
      unfold physicalUFields at hp
      simp only [Bool.and_eq_true] at hp
      exact ⟨fm, a, by simp [ArrUFields.nth], h, hna, hp.1⟩
  | .cons tid fm a rest, k, pos + 1, j, w, h, hn, hp => by
    unfold decodeVariantAt at h
    unfold newUFields at hn
    split at hn
    · cases hn
    · obtain ⟨_, _, hn⟩ := bind_ok_inv hn
      obtain ⟨_, _, hn⟩ := bind_ok_inv hn
      unfold physicalUFields at hp
      simp only [Bool.and_eq_true] at hp
      obtain ⟨fm', child, hnth, hr⟩ := variant_facts rest (k + 1) pos j w h hn hp.2
      exact ⟨fm', child, by simp [ArrUFields.nth, hnth], hr⟩

/-- what a defined slot of a dense union is, and how the reader selects it -/
theorem union_facts {types : List Int} {offs : Option (List Int)} {fs : ArrUFields} {i : Nat} {lv : LVal}
    (h : decodeAt (.union types offs fs) i = .ok lv) (hn : new Fixes.all (.union types offs fs) = .ok ())
    (hp : physical (.union types offs fs) = true) :
    ∃ (pos off : Nat) (fm : FieldMeta) (child : Arr) (w : LVal), lv = .union (pos : Int) w ∧
      unionSelect Fixes.all types offs fs.length i = .ok (pos, off) ∧ ArrUFields.nth fs pos = some (fm, child) ∧
      ArrUFields.findId fs (pos : Int) = some (fm, child) ∧ decodeAt child off = .ok w ∧
      new Fixes.all child = .ok () ∧ physical child = true := by
  obtain ⟨pos, off, w, rfl, hsel, hw, hnu, _, hfind⟩ := union_slot h hn
  unfold physical at hp
  obtain ⟨fm, child, hnth, hdec, hnc, hpc⟩ := variant_facts fs 0 pos off w hw hnu hp
  exact ⟨pos, off, fm, child, w, rfl, hsel, hnth, hfind fm child hnth, hdec, hnc, hpc⟩

/-- a slot of a dense union: the variant the reader selects, and the slot of its column that is read -/
theorem Slot.union {types offs fs i lv} (h : Slot (.union types offs fs) i lv) :
    ∃ (pos off : Nat) (fm : FieldMeta) (child : Arr) (w : LVal), lv = .union (pos : Int) w ∧
      unionSelect Fixes.all types offs fs.length i = .ok (pos, off) ∧ ArrUFields.nth fs pos = some (fm, child) ∧
      ArrUFields.findId fs (pos : Int) = some (fm, child) ∧ Slot child off w := by
  obtain ⟨pos, off, fm, child, w, rfl, hsel, hnth, hfind, hdec, hnc, hpc⟩ := union_facts h.dec h.new h.phys
  have hu := h.utf8
  simp only [utf8Ok] at hu
  exact ⟨pos, off, fm, child, w, rfl, hsel, hnth, hfind, hdec, hnc, hpc, hu⟩

end SaModel.Read
