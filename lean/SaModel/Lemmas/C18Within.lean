import SaModel.Lemmas.C18Paths
/-
C18: bookkeeping for "where may the annotation of an error come from".

`Ann P r`     : an annotated error of `r` satisfies `P message annotation`.  Every notion of C18 about the annotation of an
                error (`Within`, `Raised`, `RaisedR`, `Bl`) unfolds to `Ann P r` for its own `P`, so its closure under
                `>>=`, `if` and `.ctx(..)` is proved here, for `Ann`; the same for `Plain Q r`: a plain error of `r`
                satisfies `Q message` (the second halves of `Blo`, `Bo`, `Wn`).
`NoCtx r`     : `r` is not an annotated error (a success, a panic, or a plain `Err`) — what every function that
                never calls `.ctx(..)` returns.  A class, so that instance resolution walks `do` blocks.
`Within S r`  : if `r` is an annotated error, its annotation is `posAnn q` for a position `q ∈ S`.
-/
namespace SaModel.Props.C18
open SaModel

class NoCtx {α} (r : R α) : Prop where
  out : ∀ msg a, r ≠ .error (.errCtx msg a)

instance NoCtx.ok {α} (v : α) : NoCtx (.ok v : R α) := ⟨by intro _ _ h; cases h⟩
instance NoCtx.pure {α} (v : α) : NoCtx (pure v : R α) := ⟨by intro _ _ h; cases h⟩
instance NoCtx.fail {α} (m : String) : NoCtx (fail m : R α) := ⟨by intro _ _ h; cases h⟩
instance NoCtx.err {α} (m : String) : NoCtx (.error (.err m) : R α) := ⟨by intro _ _ h; cases h⟩
instance NoCtx.panic {α} (m : String) : NoCtx (panic m : R α) := ⟨by intro _ _ h; cases h⟩

instance NoCtx.bind {α β} (r : R α) (f : α → R β) [hr : NoCtx r] [hf : ∀ v, NoCtx (f v)] : NoCtx (r >>= f) := by
  constructor
  intro msg a h
  cases r with
  | ok v => exact (hf v).out msg a h
  | error e => exact hr.out msg a (by simpa [Bind.bind, Except.bind] using h)

instance NoCtx.ite {α} (c : Prop) [Decidable c] (x y : R α) [hx : NoCtx x] [hy : NoCtx y] : NoCtx (if c then x else y) := by
  split <;> assumption

instance NoCtx.map {α β} (g : α → β) (r : R α) [hr : NoCtx r] : NoCtx (g <$> r) := by
  constructor
  intro msg a h
  cases r with
  | ok v => cases h
  | error e => exact hr.out msg a (by simpa [Functor.map, Except.map] using h)

/-- tactic for one model function: unfold it first, then `noctx` -/
macro "noctx" : tactic =>
  `(tactic| repeat' (first | infer_instance | (refine @NoCtx.bind _ _ _ _ ?_ ?_) | (intro _) | split))

theorem bind_eq_errCtx {α β} {r : R α} {f : α → R β} {msg : String} {a : List (String × String)} :
    (r >>= f) = .error (.errCtx msg a) ↔ r = .error (.errCtx msg a) ∨ ∃ v, r = .ok v ∧ f v = .error (.errCtx msg a) := by
  cases r <;> simp [Bind.bind, Except.bind]

theorem bind_err_plain {α β} {r : R α} {f : α → R β} {msg : String} (h : (r >>= f) = .error (.err msg)) :
    r = .error (.err msg) ∨ ∃ v, r = .ok v ∧ f v = .error (.err msg) := by
  cases r with
  | ok v => exact .inr ⟨v, rfl, h⟩
  | error e => left; simpa [Bind.bind, Except.bind] using h

theorem ctx_eq_errCtx {α} {ann a : List (String × String)} (hne : ann.isEmpty = false) {r : R α} {msg : String} :
    ctx ann r = .error (.errCtx msg a) ↔ r = .error (.errCtx msg a) ∨ (r = .error (.err msg) ∧ a = ann) := by
  cases r with
  | ok v => simp [SaModel.ctx]
  | error e => cases e <;> simp [SaModel.ctx, hne, eq_comm]

def Ann {α} (P : String → List (String × String) → Prop) (r : R α) : Prop :=
  ∀ msg a, r = .error (.errCtx msg a) → P msg a

def Plain {α} (Q : String → Prop) (r : R α) : Prop := ∀ msg, r = .error (.err msg) → Q msg

section
variable {α β : Type _} {P : String → List (String × String) → Prop} {Q : String → Prop}

theorem NoCtx.ann (r : R α) [h : NoCtx r] : Ann P r := fun msg a e => absurd e (h.out msg a)

theorem Ann.of_ok (v : α) : Ann P (.ok v : R α) := fun _ _ h => nomatch h

theorem Ann.bind {r : R α} {f : α → R β} (hr : Ann P r) (hf : ∀ v, r = .ok v → Ann P (f v)) : Ann P (r >>= f) :=
  fun msg a e => (bind_eq_errCtx.1 e).elim (hr msg a) fun h => h.elim fun v h' => hf v h'.1 msg a h'.2

theorem Ann.ite (c : Prop) [Decidable c] {x y : R α} (hx : Ann P x) (hy : Ann P y) : Ann P (if c then x else y) := by
  split <;> assumption

theorem Ann.ctx {r : R α} {ann : List (String × String)} (hne : ann.isEmpty = false)
    (hown : Plain (fun msg => P msg ann) r) (h : Ann P r) : Ann P (ctx ann r) :=
  fun msg a e => ((ctx_eq_errCtx hne).1 e).elim (h msg a) fun h' => h'.2 ▸ hown msg h'.1

theorem Plain.of_ok (v : α) : Plain Q (.ok v : R α) := fun _ h => nomatch h

theorem Plain.bind {r : R α} {f : α → R β} (hr : Plain Q r) (hf : ∀ v, r = .ok v → Plain Q (f v)) : Plain Q (r >>= f) :=
  fun msg e => (bind_err_plain e).elim (hr msg) fun h => h.elim fun v h' => hf v h'.1 msg h'.2
end

def Within {α} (S : List Pos) (r : R α) : Prop :=
  ∀ msg a, r = .error (.errCtx msg a) → ∃ q ∈ S, a = posAnn q

theorem NoCtx.within {α} {S : List Pos} (r : R α) [h : NoCtx r] : Within S r := NoCtx.ann r

theorem Within.of_ok {α} {S : List Pos} (v : α) : Within S (.ok v : R α) := Ann.of_ok v

theorem Within.mono {α} {S S' : List Pos} {r : R α} (hs : ∀ q ∈ S, q ∈ S') (h : Within S r) : Within S' r :=
  fun msg a e => let ⟨q, hq, ha⟩ := h msg a e; ⟨q, hs q hq, ha⟩

theorem Within.ctx {α} {S : List Pos} {r : R α} (q : Pos) (hq : q ∈ S) (h : Within S r) : Within S (ctx (posAnn q) r) :=
  Ann.ctx rfl (fun _ _ => ⟨q, hq, rfl⟩) h

theorem Within.bind {α β} {S : List Pos} {r : R α} {f : α → R β} (hr : Within S r)
    (hf : ∀ v, r = .ok v → Within S (f v)) : Within S (r >>= f) := Ann.bind hr hf

theorem Within.ite {α} {S : List Pos} (c : Prop) [Decidable c] {x y : R α} (hx : Within S x) (hy : Within S y) :
    Within S (if c then x else y) := Ann.ite c hx hy

theorem tail_sub {q0 : Pos} {l : List Pos} : ∀ q ∈ l, q ∈ q0 :: l := fun _ h => List.mem_cons_of_mem _ h

theorem ctx_never_plain {α} {ann : List (String × String)} (h : ann.isEmpty = false) (r : R α) (msg : String) :
    ctx ann r ≠ .error (.err msg) := by
  cases r with
  | ok v => simp [SaModel.ctx]
  | error e => cases e <;> simp [SaModel.ctx, h]

end SaModel.Props.C18
