import SaModel.Lemmas.C09Json
/-
C09, field level: the printed field object read back, given that the children read back.
-/
namespace SaModel.SchemaJson
open SaModel SaModel.Dsl

theorem get?_insertMeta (k v : String) : (m : Metadata) → (k' : String) →
    Metadata.get? (insertMeta k v m) k' = if k = k' then some v else Metadata.get? m k'
  | [], k' => by simp [insertMeta, Metadata.get?]
  | (k0, v0) :: r, k' => by
    simp only [insertMeta]
    split
    · simp [Metadata.get?]
    split
    · rename_i h1 h2
      subst h2
      by_cases hk : k = k' <;> simp [Metadata.get?, hk]
    · rename_i h1 h2
      have ih := get?_insertMeta k v r k'
      by_cases hk : k = k'
      · subst hk
        have : ¬ k0 = k := fun h => h2 h.symm
        simp [Metadata.get?, ih, this]
      · simp [Metadata.get?, ih, hk]

theorem get?_canonMeta_none (k : String) : (l : Metadata) → (∀ kv ∈ l, kv.1 ≠ k) → Metadata.get? (canonMeta l) k = none
  | [], _ => rfl
  | (k0, v0) :: r, h => by
    have ih := get?_canonMeta_none k r (fun kv hkv => h kv (by simp [hkv]))
    have h0 : k0 ≠ k := h (k0, v0) (by simp)
    simp only [canonMeta]
    split
    · exact ih
    · simp [get?_insertMeta, h0, ih]

theorem metaOfObj_metaObj : (l : Metadata) → metaOfObj (metaObj l) = .ok (canonMeta l)
  | [] => rfl
  | (k, v) :: r => by
    simp [metaObj, metaOfObj, metaOfObj_metaObj r, canonMeta, bind, Except.bind, pure, Except.pure]

theorem nonStrategy_no_key (m : Metadata) : ∀ kv ∈ nonStrategy m, kv.1 ≠ STRATEGY_KEY := by
  intro kv h
  simp only [nonStrategy, List.mem_filter, decide_eq_true_eq] at h
  exact h.2

theorem merge_split (m : Metadata) (hm : metaOK m = true) (hs : stratClass m ≠ .junk) :
    ∃ strategy : Option Strategy,
      parseStrategyOpt ((Metadata.get? m STRATEGY_KEY).map .str) = .ok strategy ∧
      mergeStrategyWithMetadata (canonMeta (nonStrategy m)) strategy = .ok m := by
  have hno : hasKey (canonMeta (nonStrategy m)) STRATEGY_KEY = false := by
    simp [hasKey, get?_canonMeta_none STRATEGY_KEY (nonStrategy m) (nonStrategy_no_key m)]
  have hm := of_decide_eq_true hm
  simp only [metaRT] at hm
  cases hc : stratClass m with
  | junk => exact absurd hc hs
  | absent =>
    have hg := get_of_stratClass_absent hc
    simp only [hg] at hm ⊢
    exact ⟨none, rfl, by simp [mergeStrategyWithMetadata, hm]; rfl⟩
  | known st =>
    obtain ⟨s, hg, hp, hts⟩ := parse_of_stratClass_known hc
    simp only [hg] at hm ⊢
    refine ⟨some st, by simp [parseStrategyOpt, hp, bind, Except.bind]; rfl, ?_⟩
    simp [mergeStrategyWithMetadata, hno, hts, hm]; rfl

theorem parseField_fieldObj (name : String) (dts : Text) (nullable : Bool) (nsm : Metadata) (strat : Option String)
    (children : Option JVals) :
    parseFieldWith false (.obj (fieldObj name dts nullable nsm strat children)) =
      (do let strategy ← parseStrategyOpt (strat.map .str)
          let metadata ← metaOfObj (metaObj nsm)
          let children ← parseChildrenOpt children
          intoField false name dts nullable strategy children metadata) := by
  cases nullable <;> cases nsm <;> cases strat <;> cases children <;>
    simp [fieldObj, consIf, consOpt, parseFieldWith, parseChildrenWith, JObj.get?, JObj.count, knownKeys, metaObj, metaOfObj,
      parseChildrenOpt, bind, Except.bind, pure, Except.pure] <;>
    first
      | rfl
      | (rename_i s; cases parseStrategyOpt (some (.str s)) <;> rfl)
      | (rename_i s cs; cases parseStrategyOpt (some (.str s)) <;> rfl)

theorem typeOK_of_valid_repr (m : Metadata) (nl : Bool) (dt : DataType) (hv : validType m dt = true)
    (hr : reprType nl dt = true) : typeOK dt = true := by
  cases dt <;> simp_all [validType, reprType, typeOK, i32Max] <;> omega

theorem null_norm (dt : DataType) (nullable : Bool) (h : reprType nullable dt = true) :
    normNullable dt nullable = nullable := by
  cases dt <;> first | rfl | (simp only [reprType] at h; simp [h, normNullable])

theorem field_core (esc : Char → Bool) (name : String) (dt : DataType) (nullable : Bool) (m : Metadata)
    (hv : validField (.mk name dt nullable m) = true) (hr : reprField (.mk name dt nullable m) = true)
    (hch : parseChildrenOpt (printChildren esc dt) = .ok (childList dt)) :
    parseField (printField esc (.mk name dt nullable m)) = .ok (.mk name dt nullable m) := by
  have hval := validateField_of_valid _ hv
  simp only [validField] at hv
  simp only [reprField, Bool.and_eq_true] at hr
  obtain ⟨hm, hrt⟩ := hr
  have hbuild := buildDataType_showType esc dt (typeOK_of_valid_repr m nullable dt hv hrt)
  obtain ⟨strategy, hstr, hmerge⟩ := merge_split m hm (valid_strat_not_junk m dt hv)
  have hnull := null_norm dt nullable hrt
  unfold buildDataType at hbuild
  rw [parseField, printField, parseField_fieldObj, hstr, metaOfObj_metaObj, hch]
  simp only [bind, Except.bind, intoField, hbuild, hmerge, hnull, hval, pure, Except.pure]

end SaModel.SchemaJson
