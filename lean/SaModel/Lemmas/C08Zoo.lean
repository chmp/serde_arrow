import SaModel.Trace.Mapping
/-
A zoo of type descriptions (the Lean twins of the derived types compiled into the harness, plus boundary shapes) and
option settings, on which `Props.C08.C08_from_type_and_agree_on_zoo` states `C08_from_type` and `C08_agree` as one table
(`zooCheck`).
-/
namespace SaModel.Lemmas.C08
open SaModel SaModel.Trace

def tys : List Ty → Tys
  | [] => .nil
  | t :: r => .cons t (tys r)

def flds : List (String × Ty) → TyFields
  | [] => .nil
  | (n, t) :: r => .cons n t (flds r)

def tInner : Ty := .struct "Inner" (flds [("x", .option (.int .i32)), ("y", .vec .string)])
def tPlain : Ty := .enum "Plain" (.unit "A" (.unit "B" (.unit "C" .nil)))
def tData : Ty := .enum "Data"
  (.unit "U" (.newtype "N" (.int .i32) (.tuple "T" (tys [.int .u8, .string])
    (.struct "S" (flds [("p", .bool), ("q", .option .f32)]) (.tuple "T0" .nil (.newtype "N2" tInner .nil))))))
def tDeep : Ty := .enum "Deep" (.newtype "X" tData (.newtype "Y" tPlain (.unit "Z" .nil)))

def zooTypes : List Ty := [
  .struct "Prims" (flds [("a", .bool), ("b", .int .i8), ("c", .int .i16), ("d", .int .i32), ("e", .int .i64), ("f", .int .u8),
    ("g", .int .u16), ("h", .int .u32), ("i", .int .u64), ("j", .f32), ("k", .f64), ("l", .char), ("m", .string)]),
  .struct "WithBytes" (flds [("x", .bytes), ("u", .unit)]),
  .struct "Nested" (flds [("inner", tInner), ("list", .vec tInner), ("opt", .option tInner), ("oo", .option (.option (.int .u8)))]),
  .struct "Tuples" (flds [("t", .tuple (tys [.int .u8, .bool])), ("ts", .tupleStruct "Tup" (tys [.int .i32, .string])),
    ("n", .newtypeStruct "New" .f64), ("u", .unitStruct "Unit"), ("e", .struct "Empty" .nil),
    ("arr", .tuple (tys [.int .i16, .int .i16, .int .i16])), ("t0", .unit)]),
  .struct "Enums" (flds [("p", tPlain), ("d", tData), ("od", .option tData), ("vd", .vec tData), ("deep", tDeep)]),
  .struct "Maps" (flds [("m", .map .string (.int .i32)), ("bm", .map (.int .i64) (.vec .bool))]),
  .struct "TwoEnums" (flds [("a", tPlain), ("b", tData)]),
  .struct "Item" (flds [("item", tPlain)]),
  .struct "Item" (flds [("item", .vec (.option (.int .i64)))]),
  .tupleStruct "Tup" (tys [.int .i32, .string]),
  .int .i32,
  .option (.struct "S" (flds [("a", .bool)])),
  .struct "S" (flds [("e", .enum "E" .nil)]),
  .struct "S" (flds [("a.b", .vec (.vec .bool))]),
  .struct "S" (flds [("e", .enum "E" (.newtype "A" (.option .unit) (.unit "B" .nil)))]),
  .newtypeStruct "N" (.struct "S" (flds [("a", .option (.newtypeStruct "M" (.vec .char)))]))
]

def zooOptions : List Options := [
  {}, { allow_null_fields := true }, { allow_null_fields := true, map_as_struct := false },
  { map_as_struct := false, sequence_as_large_list := false, string_as_large_utf8 := false, string_dictionary_encoding := true },
  { enums_without_data_as_strings := true, allow_null_fields := true, map_as_struct := false, coerce_numbers := true },
  { allow_null_fields := true, map_as_struct := false, from_type_budget := 3 },
  { allow_null_fields := true, map_as_struct := false, from_type_budget := 10, allow_to_string := true, guess_dates := true },
  { allow_null_fields := true, map_as_struct := false, overwrites := [("$.a", .mk "a" .int64 true [])] },
  { allow_null_fields := true, map_as_struct := false, overwrites := [("$.d", .mk "dd" .int64 true [])] },
  { allow_null_fields := true, map_as_struct := false, overwrites := [("$.inner.y.element", .mk "element" .utf8 false [])] }
]

/-- equal up to the error message -/
def sameR (a b : R (List Field)) : Bool :=
  match a, b with
  | .ok x, .ok y => decide (x = y)
  | .error (.err _), .error (.err _) => true
  | _, _ => false

/-- `from_type` is the documented mapping; `from_samples` on covering samples gives the same schema -/
def zooCheck (o : Options) (ty : Ty) : Bool :=
  sameR (fromType .fixed o ty) (Spec.fromTypeSpec o ty) &&
  (match fromType .fixed o ty with
   | .ok fs => sameR (fromSamples .fixed o (covering ty)) (.ok fs)
   | .error _ => true)

end SaModel.Lemmas.C08
