import SaModel.Lemmas.C18DeBasic
/-
C18, reader-side blame against `Spec.blameRead`: views without child readers (any target), sequences, `&[u8]`, `ByteBuf`.
-/
namespace SaModel.Props.C18
open SaModel SaModel.Read SaModel.Spec

/-! ### a view without child readers: whatever is requested, only the view itself can be named -/

def leafArr : Arr → Bool
  | .struct _ _ _ | .list _ _ _ _ _ | .fixedSizeList _ _ _ _ _ | .map _ _ _ _ _ | .union _ _ _ => false
  | _ => true

theorem leafArr_here {a : Arr} (hl : leafArr a = true) (t : Target) (p : String) (i : Nat) :
    Within (positionsAt p (here a)) (readAsA AnnFixes.all Fixes.all p t a i) := by
  have h := readAsA_within AnnFixes.all Fixes.all t p a i
  have e : rpositions p a = positionsAt p (here a) := by
    rw [positionsAt_here, ← rlabel_eq_label]
    cases a <;> first | rfl | (simp [leafArr] at hl)
  rwa [e] at h

/-- the whole read is decided by `cast` at this position: nothing is blamed where a value is demanded -/
theorem whole_blame {t : Target} {p : String} {a : Arr} {i : Nat} {lv : LVal} (h : decodeAt a i = .ok lv)
    (hn : new Fixes.all a = .ok ()) (hp : physical a = true) (hu : utf8Ok lv = true)
    (hw : Within (positionsAt p (here a)) (readAsA AnnFixes.all Fixes.all p t a i)) :
    Within (positionsAt p (if Claim.isMust (Read.cast t a lv) then [] else here a)) (readAsA AnnFixes.all Fixes.all p t a i) := by
  cases hc : Read.cast t a lv with
  | error e => simpa [Claim.isMust] using hw
  | ok o =>
    cases o with
    | none => simpa [Claim.isMust] using hw
    | some d =>
      rw [readAsA_typed_decode AnnFixes.all t p a i lv d h hn hp hu hc]
      exact Within.of_ok _

/-- a body without wrapped children at a position where only the position itself can be blamed -/
theorem own_here {p : String} {a : Arr} (body : R DVal) [NoCtx body] :
    Within (positionsAt p (here a)) (ctx (rann p a) body) := by
  rw [rann_eq']
  exact Bo.ctx (Bo.noctx body fun _ => self_mem_here p a)

theorem allFix_fsl : AnnFixes.all.fslCtx = true := rfl
theorem allFix_enum : AnnFixes.all.enumCtx = true := rfl

/-- the row of a list-like reader: its range, then the elements `s .. e` of the child, each read through `g` -/
theorem seqRow_bo {α} {S : List Pos} {self : Pos} {range : R (Nat × Nat)} {s e : Nat} {xs : List LVal} {el : Arr}
    {g : Nat → R DVal} {fb : LVal → List RPos} {cp : String} {f : List DVal → α}
    (hr : range = .ok (s, e)) (hseq : seqAt (decodeAt el) s (e - s) = .ok xs)
    (hg : ∀ j x, decodeAt el j = .ok x → x ∈ xs → Wn (positionsAt cp (fb x)) (g j))
    (hsub : ∀ q ∈ positionsAt cp (blameVals fb (LVals.ofList xs)), q ∈ S) :
    Bo S self (do let (s, e) ← range; let ds ← readRange g s (e - s); pure (f ds)) := by
  subst hr
  refine Bo.bind (Bo.of_ok _) fun _ hse => ?_
  cases hse
  exact Bo.bind (Wn.bo _ (readRange_wn (P := fun x => x ∈ xs) (fun j x hj hx =>
    Wn.mono (fun q hq => hsub q (mem_positionsAt (mem_blameVals xs x hx) q hq)) (hg j x hj hx)) _ _ xs hseq fun _ h => h))
    fun _ _ => Bo.of_ok _

theorem blr_seq {t : Target} (hS : BlR t) : BlR (.seq t) := by
  intro p a i lv h hn hp hu hk
  cases a with
  | list lg v offs fm el =>
    rcases (Slot.mk h hn hp hu).list with rfl | ⟨xs, s, en, rfl, hr, hseq, hel⟩
    · simp [noKnown] at hk
    · simp only [noKnown] at hk
      simp only [readAsA, blameRead, positionsAt_below1]
      rw [rann_eq']
      exact Bo.ctx (seqRow_bo hr hseq (fun j x hj hx => hS.at (hel j x hj hx) (allVals_mem xs hk x hx)) fun _ h => h)
  | fixedSizeList len v n fm el =>
    rcases (Slot.mk h hn hp hu).fixedSizeList with rfl | ⟨xs, s, en, rfl, hr, hseq, hel⟩
    · simp [noKnown] at hk
    · simp only [noKnown] at hk
      simp only [readAsA, blameRead, positionsAt_below1, ctxIf, allFix_fsl, if_true]
      rw [rann_eq']
      exact Bo.ctx (seqRow_bo hr hseq (fun j x hj hx => hS.at (hel j x hj hx) (allVals_mem xs hk x hx)) fun _ h => h)
  | struct _ _ _ | map _ _ _ _ _ | union _ _ _ =>
    simp only [blameRead]
    refine whole_blame h hn hp hu ?_
    simp only [readAsA, binaryElems]
    exact own_here _
  | _ =>
    simp only [blameRead]
    exact whole_blame h hn hp hu (leafArr_here rfl _ p i)

theorem blr_bytes : BlR .bytes := by
  intro p a i lv h hn hp hu hk
  simp only [blameRead, blameScalar]
  have hc : Read.cast .bytes a lv = castScalar .bytes a lv := by simp only [Read.cast]
  rw [← hc]
  refine whole_blame h hn hp hu ?_
  by_cases hl : leafArr a = true
  · exact leafArr_here hl _ p i
  · cases a <;> first | exact absurd rfl hl | (simp only [readAsA]; exact own_here _)

theorem blr_u8_elem (p : String) (el : Arr) (j : Nat) (x : LVal) (s : Slot el j x) :
    Wn (positionsAt p (blameScalar (.int .u8) el x))
      (ctx (rann p el) (do accept (.int .u8) (← scalar Fixes.all (.int .u8) el j))) := by
  refine ⟨?_, ctx_never_plain rfl _⟩
  unfold blameScalar
  exact leaf_blame fun d hd => scalar_sound (t := .int .u8) rfl el j x d s.dec s.new s.phys s.utf8 hd

theorem blr_byteBuf : BlR .byteBuf := by
  intro p a i lv h hn hp hu hk
  by_cases hl : ∃ lg v offs fm el, a = .list lg v offs fm el
  · obtain ⟨lg, v, offs, fm, el, rfl⟩ := hl
    rcases (Slot.mk h hn hp hu).list with rfl | ⟨xs, s, en, rfl, hr, hseq, hel⟩
    · simp [noKnown] at hk
    · simp only [readAsA, blameRead, positionsAt_below1]
      rw [rann_eq']
      exact Bo.ctx (seqRow_bo hr hseq (fun j x hj hx => blr_u8_elem _ el j x (hel j x hj hx)) fun _ h => h)
  · have hb : blameRead .byteBuf a lv = blameScalar .byteBuf a lv := by
      cases a <;> first | exact absurd ⟨_, _, _, _, _, rfl⟩ hl | (simp only [blameRead])
    rw [hb]
    simp only [blameScalar]
    have hc : Read.cast .byteBuf a lv = castScalar .byteBuf a lv := by
      cases a <;> first | exact absurd ⟨_, _, _, _, _, rfl⟩ hl | (simp only [Read.cast])
    rw [← hc]
    refine whole_blame h hn hp hu ?_
    by_cases hl' : leafArr a = true
    · exact leafArr_here hl' _ p i
    · cases a <;> first | exact absurd rfl hl' | exact absurd ⟨_, _, _, _, _, rfl⟩ hl | (simp only [readAsA]; exact own_here _)

end SaModel.Props.C18
