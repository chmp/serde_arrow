import SaModel.Lemmas.C03Assemble
import SaModel.Lemmas.C03WfInv
/-
`finish_wf` (Lemmas/C03WFMain.lean): the array a builder finishes into is a well-formed array of the field the builder was created for:

    BuiltFor dt nullable b → WFB b → Sound b → WFX b → finish ext b = ok a → wf dt nullable a = true

`BuiltFor` relates a builder to the data type it was created for (kind, parameters, child metas, bitmap present iff
nullable); `newDT_builtFor` (Lemmas/C03New.lean) establishes it.  `WFX` is the part of the state invariant that
`WFB` (Build/Inv.lean) does not carry and `Spec.wf` asks for: values in the range of their physical type,
offsets within i32/i64, string data valid UTF-8.
-/
namespace SaModel.Lemmas.C03
open SaModel SaModel.Build SaModel.Spec SaModel.Lemmas.Bits

def intDT : IntTy → DataType
  | .i8 => .int8 | .i16 => .int16 | .i32 => .int32 | .i64 => .int64
  | .u8 => .uint8 | .u16 => .uint16 | .u32 => .uint32 | .u64 => .uint64

def leafDT : LeafKind → DataType
  | .bool => .boolean
  | .int t => intDT t
  | .f16 => .float16 | .f32 => .float32 | .f64 => .float64
  | .date32 => .date32 | .date64 => .date64
  | .time32 u => .time32 u | .time64 u => .time64 u
  | .duration u => .duration u
  | .timestamp u tz _ => .timestamp u tz
  | .decimal p s => .decimal128 p s

def bytesDT : BytesTy → DataType
  | .utf8 => .utf8 | .largeUtf8 => .largeUtf8 | .binary => .binary | .largeBinary => .largeBinary

def viewDT : ViewTy → DataType
  | .utf8View => .utf8View | .binaryView => .binaryView

mutual
/-- `b` is (a later state of) the builder `build_builder` creates for a field of type `dt` / nullability `nl` -/
def BuiltFor : DataType → Bool → B → Prop
  | dt, _, .null _ _ => dt = .null
  | dt, _, .unknownVariant _ => dt = .null
  | dt, nl, .leaf _ k v _ => dt = leafDT k ∧ v.isSome = nl
  | dt, nl, .bytes _ ty v _ _ => dt = bytesDT ty ∧ v.isSome = nl
  | dt, nl, .bytesView _ ty v _ _ => dt = viewDT ty ∧ v.isSome = nl
  | dt, nl, .fixedSizeBinary _ n _ v _ _ => dt = .fixedSizeBinary (n : Int) ∧ v.isSome = nl
  | dt, nl, .list _ large fm v _ el =>
    ∃ f : Field, dt = (if large then .largeList f else .list f) ∧ fm = metaOfField f ∧ v.isSome = nl ∧
      BuiltFor f.dataType f.nullable el
  | dt, nl, .fixedSizeList _ fm n _ v _ el =>
    ∃ f : Field, dt = .fixedSizeList f (n : Int) ∧ fm = metaOfField f ∧ v.isSome = nl ∧
      BuiltFor f.dataType f.nullable el
  | dt, nl, .map _ mm v _ ks vs =>
    ∃ (ename : String) (kf vf : Field) (sorted enl : Bool) (emd : Metadata),
      dt = .map (.mk ename (.struct (.cons kf (.cons vf .nil))) enl emd) sorted ∧
      mm = { entriesName := ename, sorted := sorted, keys := metaOfField kf, values := metaOfField vf } ∧
      v.isSome = nl ∧ BuiltFor kf.dataType kf.nullable ks ∧ BuiltFor vf.dataType vf.nullable vs
  | dt, nl, .struct _ _ v fs _ _ _ => ∃ fields : Fields, dt = .struct fields ∧ v.isSome = nl ∧ BuiltForL fields fs
  | dt, nl, .dictionary _ idx vals _ =>
    ∃ (k vdt : DataType), dt = .dictionary k vdt ∧ isIntDT k = true ∧ BuiltFor k nl idx ∧ BuiltFor vdt false vals
  | dt, _, .union _ fs _ _ _ => ∃ (ufs : UFields) (mode : UnionMode), dt = .union ufs mode ∧ BuiltForU ufs fs 0
def BuiltForL : Fields → BL → Prop
  | .nil, .nil => True
  | .cons f r, .cons b m rl => m = metaOfField f ∧ BuiltFor f.dataType f.nullable b ∧ BuiltForL r rl
  | _, _ => False
def BuiltForU : UFields → BL → Nat → Prop
  | .nil, .nil, _ => True
  | .cons tid f r, .cons b m rl, k =>
    tid = (k : Int) ∧ m = metaOfField f ∧ BuiltFor f.dataType f.nullable b ∧ BuiltForU r rl (k + 1)
  | _, _, _ => False
end

def i32Rng : Int × Int := (-2147483648, 2147483647)
def i64Rng : Int × Int := (-9223372036854775808, 9223372036854775807)

/-- physical range of the values a leaf builder stores (none: unconstrained) -/
def leafRange : LeafKind → Option (Int × Int)
  | .bool => none
  | .int t => some (primRange (primOfInt t))
  | .f16 => some (0, 65535) | .f32 => some (0, 4294967295) | .f64 => some (0, 18446744073709551615)
  | .date32 => some i32Rng | .date64 => some i64Rng
  | .time32 _ => some i32Rng | .time64 _ => some i64Rng
  | .duration _ => some i64Rng
  | .timestamp _ _ _ => some i64Rng
  | .decimal _ _ => none

mutual
/-- values in physical range, offsets within i32/i64, string data valid UTF-8.  Purely a property of the stored
values/offsets/bytes (no `dec`, independent of `WFB`). -/
def WFX : B → Prop
  | .leaf _ k _ vals => ∀ r, leafRange k = some r → inRng r vals = true
  | .bytes _ ty _ offs data =>
    (∀ o ∈ offs, o ≤ offMax (isLargeTy ty)) ∧ (isUtf8Ty ty = true → bytesUtf8 offs data = true)
  | .bytesView _ ty _ views buf => ty = .utf8View → ∀ d ∈ views, validUtf8 (viewBytes buf d) = true
  | .list _ large _ _ offs el => (∀ o ∈ offs, o ≤ offMax large) ∧ WFX el
  | .fixedSizeList _ _ _ _ _ _ el => WFX el
  | .map _ _ _ offs ks vs => (∀ o ∈ offs, o ≤ 2147483647) ∧ WFX ks ∧ WFX vs
  | .struct _ _ _ fs _ _ _ => WFXL fs
  | .dictionary _ idx vals _ => WFX idx ∧ WFX vals
  | .union _ fs _ _ _ => WFXL fs
  | _ => True
def WFXL : BL → Prop
  | .nil => True
  | .cons b _ r => WFX b ∧ WFXL r
end

/-- **bitmap of a finished array**: present iff nullable, no bit offset, exactly ⌈len/8⌉ bytes, padding clear -/
theorem validityOk_finish (v : Validity) (nl : Bool) (n : Nat) (hn : v.isSome = nl) (hv : VLen v n) :
    validityOk nl (finishValidity v) n = true := by
  cases v with
  | none => simp at hn; subst hn; rfl
  | some bits =>
    simp at hn; subst hn
    have hl : bits.length = n := hv bits rfl
    simp only [finishValidity, Option.map_some, validityOk, Bool.true_and, beq_self_eq_true, packBits_length, hl,
      List.all_eq_true, List.mem_range]
    intro k hk
    rw [getBit_packBits_pad bits (n + k) (by omega) (by rw [packBits_length]; omega)]
    rfl

theorem OffsOK_mem (offs : List Int) (n : Nat) (h : OffsOK offs n) (o : Int) (ho : o ∈ offs) : 0 ≤ o ∧ o ≤ (n : Int) := by
  obtain ⟨i, hi, rfl⟩ := List.getElem_of_mem ho
  by_cases hlt : i + 1 < offs.length
  · have := OffsOK_pair offs n h i hlt; omega
  · have hl := h.2.1
    have hi' : i = offs.length - 1 := by omega
    subst hi'
    rw [List.getLast?_eq_getElem?, List.getElem?_eq_getElem (by omega)] at hl
    simp only [Option.some.injEq] at hl
    omega

theorem OffsOK_last_le (offs : List Int) (n : Nat) (m : Int) (h : OffsOK offs n) (hm : ∀ o ∈ offs, o ≤ m) :
    (n : Int) ≤ m := hm _ (List.mem_of_getLast? h.2.1)

theorem offsetsOk_of (offs : List Int) (n : Nat) (m : Int) (h : OffsOK offs n) (hm' : ∀ o ∈ offs, o ≤ m) :
    offsetsOk offs n m = true := by
  have hm := OffsOK_last_le offs n m h hm'
  simp only [offsetsOk, Bool.and_eq_true, beq_iff_eq, List.all_eq_true, decide_eq_true_eq]
  refine ⟨⟨⟨h.1, h.2.1⟩, ?_⟩, ?_⟩
  · intro ab hab
    obtain ⟨i, hi, rfl⟩ := List.getElem_of_mem hab
    have hi' : i < (pairs offs).length := hi
    have := pairs_getElem offs i hi'
    rw [pairs_length] at hi'
    have hp := OffsOK_pair offs n h i (by omega)
    simp only [List.getElem_zip, List.getElem_tail]
    exact hp.2.1
  · intro o ho
    have := OffsOK_mem offs n h o ho
    omega

theorem timeUnit_beq_self (u : TimeUnit) : (u == u) = true := by cases u <;> rfl

theorem finishLeaf_wf (k : LeafKind) (v : Validity) (vals : List Int) (nl : Bool) (hn : v.isSome = nl)
    (hv : VLen v vals.length) (hr : ∀ r, leafRange k = some r → inRng r vals = true) :
    wf (leafDT k) nl (finishLeaf k v vals) = true := by
  have hvo := validityOk_finish v nl vals.length hn hv
  cases k with
  | bool =>
    simp only [leafDT, finishLeaf, wf, hvo, Bool.true_and, beq_self_eq_true, packBits_length, List.length_map]
  | int t =>
    have := hr _ rfl
    cases t <;>
      (simp only [leafDT, intDT, finishLeaf, primOfInt, wf, primMatches, hvo, Bool.true_and]; exact this)
  | f16 | f32 | f64 => have := hr _ rfl; simp only [leafDT, finishLeaf, wf, primMatches, primRange, hvo, this, Bool.true_and]
  | date32 | date64 =>
    have := hr _ rfl
    simp only [leafDT, finishLeaf, wf, primMatches, primRange, hvo, Bool.true_and]; exact this
  | time32 u | time64 u | duration u =>
    have := hr _ rfl
    simp only [leafDT, finishLeaf, wf, hvo, Bool.true_and, timeUnit_beq_self]; exact this
  | timestamp u tz utc =>
    have := hr _ rfl
    simp only [leafDT, finishLeaf, wf, hvo, Bool.true_and, beq_self_eq_true, timeUnit_beq_self]; exact this
  | decimal p s =>
    simp only [leafDT, finishLeaf, wf, hvo, Bool.and_true, beq_self_eq_true]

theorem mem_maskNull (v : Validity) (xs : List LVal) (x : LVal) (h : x ∈ maskNull v xs) : x = .null ∨ x ∈ xs :=
  Build.mem_maskNull h

theorem slotsAllOk_of (a : Arr) (h : ∀ r ∈ decodeAll a, r.isOk = true) : slotsAllOk a = true := by
  simp only [slotsAllOk, List.all_eq_true]; exact h

theorem validityOk_false (v : Option Bits) (n : Nat) (h : validityOk false v n = true) : v = none := by
  cases v with
  | none => rfl
  | some b => simp [validityOk] at h

theorem validUtf8_nil : validUtf8 [] = true := rfl

theorem bytesUtf8_append (offs : List Int) (data : Bytes) (l : Int) (hl : offs.getLast? = some l)
    (h : bytesUtf8 offs data = true) : bytesUtf8 (offs ++ [l]) data = true := by
  have hp := pairs_append_last offs l hl l
  simp only [pairs] at hp
  unfold bytesUtf8 at h ⊢
  rw [hp, List.all_append, h]
  simp only [List.all_cons, List.all_nil, Nat.sub_self, List.take_zero, validUtf8, Bool.and_self]

theorem offsetsOk_append (offs : List Int) (n : Nat) (m : Int) (h : offsetsOk offs n m = true) :
    offsetsOk (offs ++ [offs.getLastD 0]) n m = true := by
  simp only [offsetsOk, Bool.and_eq_true, beq_iff_eq, List.all_eq_true, decide_eq_true_eq] at h ⊢
  obtain ⟨⟨⟨h1, h2⟩, h3⟩, h4⟩ := h
  have hne : offs ≠ [] := by intro e; rw [e] at h2; cases h2
  have hlast : offs.getLastD 0 = (n : Int) := by rw [List.getLastD_eq_getLast?, h2]; rfl
  have hp := pairs_append_last offs n h2 n
  simp only [pairs] at hp
  rw [hlast]
  refine ⟨⟨⟨?_, by simp⟩, ?_⟩, ?_⟩
  · cases offs with
    | nil => exact absurd rfl hne
    | cons a r => simpa using h1
  · intro ab hab
    rw [hp, List.mem_append, List.mem_singleton] at hab
    rcases hab with hab | rfl
    · exact h3 ab hab
    · exact Int.le_refl _
  · intro o ho
    rw [List.mem_append, List.mem_singleton] at ho
    rcases ho with ho | rfl
    · exact h4 o ho
    · have hm : (n : Int) ∈ offs := List.mem_of_getLast? h2
      exact h4 _ hm

/-- `serialize_str("")` keeps a non-nullable string array well formed -/
theorem wf_appendEmptyStr_bytes (dt : DataType) (ty : BytesTy) (v : Option Bits) (offs : List Int) (data : Bytes)
    (h : wf dt false (.bytes ty v offs data) = true) : wf dt false (appendEmptyStr (.bytes ty v offs data)) = true := by
  obtain ⟨rfl, hv, _⟩ := wf_inv h
  have := validityOk_false v _ hv; subst this
  simp only [appendEmptyStr]
  have hl : ∀ {m}, offsetsOk offs data.length m = true → offs.getLast? = some (offs.getLastD 0) := by
    intro m ho
    simp only [offsetsOk, Bool.and_eq_true, beq_iff_eq] at ho
    rw [List.getLastD_eq_getLast?, ho.1.1.2]; rfl
  cases ty <;> simp only [bytesTyDT, wf, Bool.and_eq_true] at h ⊢
  · exact ⟨⟨rfl, offsetsOk_append offs _ _ h.1.2⟩, bytesUtf8_append offs data _ (hl h.1.2) h.2⟩
  · exact ⟨⟨rfl, offsetsOk_append offs _ _ h.1.2⟩, bytesUtf8_append offs data _ (hl h.1.2) h.2⟩
  · exact ⟨rfl, offsetsOk_append offs _ _ h.2⟩
  · exact ⟨rfl, offsetsOk_append offs _ _ h.2⟩

theorem decodeAll_bytesView_snoc (ty : ViewTy) (views : List Nat) (bufs : List Bytes) :
    decodeAll (.bytesView ty none (views ++ [packInline []]) bufs) =
      decodeAll (.bytesView ty none views bufs) ++ [.ok (bytesVal (ty == .utf8View) [])] := by
  simp only [decodeAll, List.length_append, List.length_singleton, List.range_succ, List.map_append, List.map_cons,
    List.map_nil]
  congr 1
  · apply List.map_congr_left
    intro i hi
    rw [getD_append_left views _ i 0 (by simpa using hi)]
  · have : (views ++ [packInline []]).getD views.length 0 = packInline [] := by
      simp [List.getD_eq_getElem?_getD]
    rw [this, decodeView_packInline_nil]
    rfl

theorem wf_appendEmptyStr_bytesView (dt : DataType) (ty : ViewTy) (v : Option Bits) (views : List Nat)
    (bufs : List Bytes) (h : wf dt false (.bytesView ty v views bufs) = true) :
    wf dt false (appendEmptyStr (.bytesView ty v views bufs)) = true := by
  obtain ⟨rfl, hv, hs, hu⟩ := wf_inv h
  have := validityOk_false v _ hv; subst this
  have hs' : slotsAllOk (.bytesView ty none (views ++ [packInline []]) bufs) = true := by
    simp only [slotsAllOk, decodeAll_bytesView_snoc, List.all_append] at hs ⊢
    rw [hs]; rfl
  simp only [appendEmptyStr]
  cases ty <;> simp only [viewTyDT, wf, Bool.and_eq_true]
  · exact ⟨⟨rfl, hs'⟩, by rw [decodeAll_bytesView_snoc, List.all_append, Bool.and_eq_true]; exact ⟨hu rfl, rfl⟩⟩
  · exact ⟨rfl, hs'⟩

theorem wf_appendEmptyStr (dt : DataType) (va : Arr) (h : wf dt false va = true) :
    wf dt false (appendEmptyStr va) = true := by
  cases va with
  | bytes ty v offs data => exact wf_appendEmptyStr_bytes dt ty v offs data h
  | bytesView ty v views bufs => exact wf_appendEmptyStr_bytesView dt ty v views bufs h
  | _ => exact h

end SaModel.Lemmas.C03
