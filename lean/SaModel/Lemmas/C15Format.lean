import SaModel.Codec.Decimal
import SaModel.Spec.Decimal
import SaModel.Lemmas.C15Digits
/-
`format_decimal`: the digits of an integer, the grammar lemma (rendering the three parts of a decimal
text and splitting them again), what `format_decimal` produces in terms of those parts, exactness, and
from an exact text back to the value the specification stores (`expected_of_denotes`).
-/
namespace SaModel.Lemmas.C15
open SaModel SaModel.Decimal SaModel.Spec.Decimal

/-! ### `format!("{val}")` -/

theorem digitChar_toNat (d : Nat) (h : d < 10) : (digitChar d).toNat = 48 + d := by
  unfold digitChar
  rw [UInt8.toNat_ofNat']
  omega

theorem digitChar_isDigit (d : Nat) (h : d < 10) : isDigit (digitChar d) = true := by
  simp only [isDigit, digitChar_toNat d h, decide_eq_true_eq]; omega

theorem digitChar_val (d : Nat) (h : d < 10) : digitVal (digitChar d) = d := by
  simp only [digitVal, digitChar_toNat d h]; omega

theorem natDigitsFuel_eq : ∀ fuel n, natDigitsFuel fuel n = Digits.digits digitChar fuel n
  | 0, _ => rfl
  | fuel + 1, n => by rw [natDigitsFuel, Digits.digits, natDigitsFuel_eq fuel]

theorem natDigits_spec (n : Nat) :
    AllDigits (natDigits n) ∧ digitsVal (natDigits n) = n ∧ 1 ≤ (natDigits n).length ∧
    (∀ k, 1 ≤ k → n < 10 ^ k → (natDigits n).length ≤ k) := by
  obtain ⟨h1, h2, h3, h4, -⟩ := Digits.digits_spec (v := digitVal) digitChar_val (n + 1) n (by omega)
  rw [natDigits, natDigitsFuel_eq]
  refine ⟨fun c hc => ?_, h2, h3, h4⟩
  obtain ⟨d, hd, rfl⟩ := h1 c hc
  exact digitChar_isDigit d hd

theorem ne46_of_allDigits {A : List UInt8} (hA : AllDigits A) : ∀ c ∈ A, (c != 46) = true := by
  intro c hc
  have := hA c hc
  rw [bne_iff_ne]
  intro h; rw [h] at this; revert this; decide

def fracBytes : Option (List UInt8) → List UInt8
  | none => []
  | some f => 46 :: f

theorem render_eq (x : Parts) : x.render = x.sign.bytes ++ x.int ++ fracBytes x.frac := by
  unfold Parts.render; cases x.frac <;> rfl

theorem splitPoint_render (sg : Spec.Decimal.Sign) (I : List UInt8) (F : Option (List UInt8)) (hI : AllDigits I) :
    splitPoint sg (I ++ fracBytes F) = ⟨sg, I, F⟩ := by
  unfold splitPoint
  rw [List.takeWhile_append_of_pos (ne46_of_allDigits hI), List.dropWhile_append_of_pos (ne46_of_allDigits hI)]
  cases F with
  | none => simp only [fracBytes, List.takeWhile_nil, List.dropWhile_nil, List.append_nil]
  | some f => simp [fracBytes]

/-- a text that starts with a digit, a point, or nothing has no sign -/
theorem splitSign_nosign (r : List UInt8) (h : ∀ c rest, r = c :: rest → c ≠ 43 ∧ c ≠ 45) :
    splitSign r = (.none, r) := by
  unfold splitSign
  split
  · rename_i rest; exact absurd rfl (h 43 rest rfl).1
  · rename_i rest; exact absurd rfl (h 45 rest rfl).2
  · rfl

theorem body_nosign (I : List UInt8) (F : Option (List UInt8)) (hI : AllDigits I) :
    ∀ c rest, (I ++ fracBytes F) = c :: rest → c ≠ 43 ∧ c ≠ 45 := by
  intro c rest h
  cases I with
  | nil =>
    cases F with
    | none => simp [fracBytes] at h
    | some f => simp [fracBytes] at h; rw [← h.1]; decide
  | cons d ds =>
    simp at h
    have := hI d List.mem_cons_self
    rw [h.1] at this
    constructor <;> (intro hc; rw [hc] at this; revert this; decide)

/-- grammar lemma: a rendered `sign? digit* ('.' digit*)?` is split into exactly its parts -/
theorem decompose_render (x : Parts) (hI : AllDigits x.int) : decompose x.render = x := by
  obtain ⟨sg, I, F⟩ := x
  unfold decompose
  rw [render_eq]
  simp only at hI ⊢
  have hbody := splitSign_nosign _ (body_nosign I F hI)
  cases sg with
  | none =>
    simp only [Sign.bytes, List.nil_append]
    rw [hbody]; exact splitPoint_render _ I F hI
  | plus | minus =>
    simp only [Sign.bytes, List.cons_append, List.nil_append, splitSign]
    exact splitPoint_render _ I F hI

theorem bind_ok'' {α β} (x : α) (f : α → R β) : (Except.ok x >>= f) = f x := rfl

/-! ### `format_decimal` -/

def signOf (v : Int) : Spec.Decimal.Sign := if v < 0 then .minus else .none

theorem intRepr_eq (v : Int) : intRepr v = (signOf v).bytes ++ natDigits v.natAbs := by
  unfold intRepr signOf; split <;> rfl

theorem nsb_eq (v : Int) : (if v ≥ 0 then 0 else 1) = (signOf v).bytes.length := by
  unfold signOf
  by_cases h : v < 0
  · rw [if_neg (by omega), if_pos h]; rfl
  · rw [if_pos (by omega), if_neg h]; rfl

/-- what `format_decimal` produces, as the three parts of the grammar -/
def formatParts (v s : Int) : Parts :=
  if s = 0 then ⟨signOf v, natDigits v.natAbs, none⟩
  else if s < 0 then
    (if v = 0 then ⟨.none, [48], none⟩ else ⟨signOf v, natDigits v.natAbs ++ zeros s.natAbs, none⟩)
  else if (natDigits v.natAbs).length ≤ s.toNat then
    ⟨signOf v, [48], some (zeros (s.toNat - (natDigits v.natAbs).length) ++ natDigits v.natAbs)⟩
  else ⟨signOf v, (natDigits v.natAbs).take ((natDigits v.natAbs).length - s.toNat),
        some ((natDigits v.natAbs).drop ((natDigits v.natAbs).length - s.toNat))⟩

theorem pow39 : (170141183460469231731687303715884105728 : Nat) < 10 ^ 39 := by decide

theorem natDigits_len_i128 (v : Int) (hv : inI128 v) : (natDigits v.natAbs).length ≤ 39 := by
  apply (natDigits_spec v.natAbs).2.2.2 39 (by omega)
  have := pow39
  unfold inI128 I128_MIN I128_MAX at hv
  omega

theorem formatDecimal_eq (v s : Int) (hv : inI128 v) (hs : inI8 s) :
    formatDecimal v s = .ok (formatParts v s).render := by
  have hlen := natDigits_len_i128 v hv
  have hsb : (signOf v).bytes.length ≤ 1 := by unfold signOf; split <;> simp [Sign.bytes]
  have hw : writeVal 168 v = .ok ((signOf v).bytes ++ natDigits v.natAbs) := by
    unfold writeVal
    rw [intRepr_eq]
    simp only [List.length_append]
    rw [if_neg (by omega)]
  unfold inI8 at hs
  unfold formatDecimal formatDecimalWith formatParts FORMAT_BUFFER_SIZE_I128 unsignedAbs
  by_cases h0 : s = 0
  · simp only [h0, if_true, hw, render_eq, fracBytes, List.append_nil]
  · simp only [h0, if_false]
    by_cases hneg : s < 0
    · by_cases hv0 : v = 0
      · simp [hneg, hv0, render_eq, fracBytes, Sign.bytes]
      · have : (v == 0) = false := by simpa using hv0
        simp only [hneg, this, decide_true, Bool.true_and, Bool.false_eq_true, if_false, if_true, hv0,
          bind_ok'', hw, List.length_append, render_eq, fracBytes, List.append_nil]
        rw [if_neg (by omega)]
        simp only [List.append_assoc]
    · simp only [hneg, decide_false, Bool.false_and, Bool.false_eq_true, if_false, bind_ok'', hw, nsb_eq,
        List.length_append, Nat.add_sub_cancel_left]
      by_cases hshort : (natDigits v.natAbs).length ≤ s.toNat
      · simp only [hshort, if_true]
        rw [if_neg (by omega)]
        simp only [render_eq, fracBytes, List.take_left', List.drop_left', List.append_assoc, List.cons_append,
          List.nil_append]
      · simp only [hshort, if_false]
        rw [if_neg (by omega)]
        have e : (signOf v).bytes.length + (natDigits v.natAbs).length - s.toNat =
            (signOf v).bytes.length + ((natDigits v.natAbs).length - s.toNat) := by omega
        rw [e, List.take_length_add_append, List.drop_length_add_append]
        simp only [render_eq, fracBytes, List.append_assoc, List.cons_append, List.nil_append]


theorem allDigits_nil : AllDigits [] := fun c hc => by cases hc

theorem formatParts_facts (v s : Int) :
    AllDigits (formatParts v s).int ∧ AllDigits (formatParts v s).fracDigits ∧ 1 ≤ (formatParts v s).int.length ∧
    ((formatParts v s).sign = .minus ↔ v < 0) ∧
    digitsVal ((formatParts v s).int ++ (formatParts v s).fracDigits) * 10 ^ s.toNat =
      v.natAbs * 10 ^ (-s).toNat * 10 ^ (formatParts v s).fracDigits.length := by
  obtain ⟨d1, d2, d3, -⟩ := natDigits_spec v.natAbs
  have hsign : (signOf v = .minus ↔ v < 0) := by unfold signOf; split <;> simp [*]
  have h48 : AllDigits [48] := by intro c hc; rw [List.mem_singleton.mp hc]; decide
  unfold formatParts
  by_cases h0 : s = 0
  · subst h0
    simp only [if_true, Parts.fracDigits, Option.getD_none, List.append_nil, List.length_nil]
    exact ⟨d1, allDigits_nil, d3, hsign, by simp [d2]⟩
  · simp only [h0, if_false]
    by_cases hneg : s < 0
    · have e1 : s.toNat = 0 := by omega
      have e2 : (-s).toNat = s.natAbs := by omega
      by_cases hv0 : v = 0
      · subst hv0
        simp only [hneg, if_true, Parts.fracDigits, Option.getD_none, List.append_nil, List.length_nil]
        refine ⟨h48, allDigits_nil, by simp, by simp, ?_⟩
        simp [digitsVal_cons, digitsVal_nil, digitVal]
      · simp only [hneg, hv0, if_true, if_false, Parts.fracDigits, Option.getD_none, List.append_nil, List.length_nil]
        refine ⟨d1.append (allZero_zeros _).allDigits, allDigits_nil, by rw [List.length_append]; omega, hsign, ?_⟩
        rw [digitsVal_append, digitsVal_zeros, d2, e1, e2]; simp
    · have e1 : (-s).toNat = 0 := by omega
      simp only [hneg, if_false]
      by_cases hshort : (natDigits v.natAbs).length ≤ s.toNat
      · simp only [hshort, if_true, Parts.fracDigits, Option.getD_some]
        refine ⟨h48, (allZero_zeros _).allDigits.append d1, by simp, hsign, ?_⟩
        rw [digitsVal_append, digitsVal_append, digitsVal_zeros, d2, e1]
        simp only [digitsVal_cons, digitsVal_nil, digitVal, List.length_append, List.length_replicate]
        have : s.toNat - (natDigits v.natAbs).length + (natDigits v.natAbs).length = s.toNat := by omega
        rw [this]; simp
      · simp only [hshort, if_false, Parts.fracDigits, Option.getD_some, List.take_append_drop]
        refine ⟨d1.take _, d1.drop _, by simp; omega, hsign, ?_⟩
        rw [d2, e1, List.length_drop]
        have : (natDigits v.natAbs).length - ((natDigits v.natAbs).length - s.toNat) = s.toNat := by omega
        rw [this]; simp

/-- `format_total_exact`, model level -/
theorem formatDecimal_exact (v s : Int) (hv : inI128 v) (hs : inI8 s) :
    ∃ txt, formatDecimal v s = .ok txt ∧ Dec txt ∧ DenotesScaled txt v s ∧ (isNeg txt = true ↔ v < 0) := by
  refine ⟨_, formatDecimal_eq v s hv hs, ?_⟩
  obtain ⟨f1, f2, f3, f4, f5⟩ := formatParts_facts v s
  have hdec := decompose_render (formatParts v s) f1
  refine ⟨?_, ?_, ?_⟩
  · unfold Dec Parts.wf
    rw [hdec]
    simp only [Bool.and_eq_true, List.all_eq_true, decide_eq_true_eq]
    exact ⟨⟨f1, f2⟩, by omega⟩
  · unfold DenotesScaled valNum mantissa fracLen isNeg
    rw [hdec]
    have h : ((digitsVal ((formatParts v s).int ++ (formatParts v s).fracDigits) : Nat) : Int) * 10 ^ s.toNat =
        (v.natAbs : Int) * 10 ^ (-s).toNat * 10 ^ (formatParts v s).fracDigits.length := by exact_mod_cast f5
    by_cases hneg : v < 0
    · have hs' : ((formatParts v s).sign == Spec.Decimal.Sign.minus) = true := by simpa using f4.mpr hneg
      rw [hs']; simp only [if_true]
      have hv' : v = -(v.natAbs : Int) := by omega
      have e : v * 10 ^ (-s).toNat * 10 ^ (formatParts v s).fracDigits.length =
          -((v.natAbs : Int) * 10 ^ (-s).toNat * 10 ^ (formatParts v s).fracDigits.length) := by
        rw [← Int.neg_mul, ← Int.neg_mul, ← hv']
      rw [e, Int.neg_mul, h]
    · have hs' : ((formatParts v s).sign == Spec.Decimal.Sign.minus) = false := by
        cases hsg : (formatParts v s).sign <;> first | rfl | exact absurd (f4.mp hsg) hneg
      rw [hs']; simp only [Bool.false_eq_true, if_false]
      have hv' : (v.natAbs : Int) = v := by omega
      rw [hv'] at h
      exact h
  · unfold isNeg; rw [hdec]
    constructor
    · intro h; exact f4.mp (by simpa using h)
    · intro h; simpa using f4.mpr h

theorem valNum_natAbs (txt : List UInt8) : (valNum txt).natAbs = mantissa txt := by
  unfold valNum; split <;> simp

/-- a decimal text that denotes exactly `v / 10^s` is stored as `v` whenever `v` fits the precision -/
theorem expected_of_denotes (p : Nat) (s : Int) (txt : List UInt8) (v : Int) (hdec : Dec txt)
    (hd : DenotesScaled txt v s) (hneg : isNeg txt = true ↔ v < 0) (hlt : v.natAbs < 10 ^ p) :
    expected p s txt = some v := by
  have habs : mantissa txt * 10 ^ s.toNat = v.natAbs * 10 ^ (-s).toNat * 10 ^ fracLen txt := by
    have := congrArg Int.natAbs hd
    simpa [Int.natAbs_mul, Int.natAbs_pow, valNum_natAbs] using this
  have hM : scaledFloor txt s = v.natAbs := by
    unfold scaledFloor
    rw [habs, Nat.mul_assoc, ← Nat.pow_add, Nat.add_comm (-s).toNat]
    exact Nat.mul_div_cancel _ (Nat.pow_pos (by omega))
  unfold expected
  rw [if_pos ⟨hdec, by rw [hM]; exact hlt⟩, hM]
  congr 1
  unfold applySign
  by_cases h : v < 0
  · rw [hneg.mpr h]; simp only [if_true]; omega
  · have : isNeg txt = false := by
      cases hb : isNeg txt
      · rfl
      · exact absurd (hneg.mp hb) h
    rw [this]; simp only [Bool.false_eq_true, if_false]; omega

end SaModel.Lemmas.C15
