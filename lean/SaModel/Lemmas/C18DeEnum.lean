import SaModel.Lemmas.C18DeTuple
/-
C18, reader-side blame against `Spec.blameRead`: enums from dense unions (variant by name / by index; the union's own
failure: the enum has no such variant; the payload is read from the variant's column) and from string columns.
-/
namespace SaModel.Props.C18
open SaModel SaModel.Read SaModel.Spec

/-- the statement for the payload of a variant, read from the variant's column at `cp` -/
def KBl (k : VKind) : Prop :=
  ∀ (cp : String) (child : Arr) (off : Nat) (lv : LVal), decodeAt child off = .ok lv → new Fixes.all child = .ok () →
    physical child = true → utf8Ok lv = true → noKnownKind k child lv = true →
    Wn (positionsAt cp (blameKind k child lv)) (readKindA AnnFixes.all Fixes.all k (some (cp, child, off)))

theorem KBl.at {k : VKind} (h : KBl k) {cp : String} {child : Arr} {off : Nat} {lv : LVal} (s : Slot child off lv)
    (hk : noKnownKind k child lv = true) :
    Wn (positionsAt cp (blameKind k child lv)) (readKindA AnnFixes.all Fixes.all k (some (cp, child, off))) :=
  h cp child off lv s.dec s.new s.phys s.utf8 hk

theorem kbl_unit : KBl .unit := by
  intro cp child off lv h hn hp hu _
  simp only [readKindA]
  refine ⟨?_, ctx_never_plain rfl _⟩
  cases child with
  | null len =>
    obtain ⟨rfl, hg⟩ := null_get h
    have : (do accept .unit (← scalar Fixes.all .unit (.null len) off)) = (.ok .unit : R DVal) := by
      unfold scalar
      simp [hg, accept, bind, Except.bind, pure, Except.pure]
    rw [this]
    exact Within.of_ok _
  | _ =>
    simp only [blameKind, isNullArr, Bool.false_and, Bool.false_eq_true, if_false]
    exact own_here _

theorem kbl_newtype {t : Target} (hS : BlR t) : KBl (.newtype t) := by
  intro cp child off lv h hn hp hu hk
  simp only [noKnownKind] at hk
  simp only [readKindA, blameKind]
  exact hS.wn h hn hp hu hk

theorem kbl_tuple {ts : Targets} (hS : ∀ t ∈ Targets.toList ts, BlR t) : KBl (.tuple ts) := by
  intro cp child off lv h hn hp hu hk
  simp only [noKnownKind] at hk
  simp only [readKindA, blameKind]
  refine ⟨tupleVisitA_blame hS cp child off lv h hn hp hu hk, ?_⟩
  unfold tupleVisitA; exact ctx_never_plain rfl _

theorem readVariantAsA_bo : ∀ (vs : TVariants), (∀ x ∈ TVariants.toList vs, KBl x.2) →
    ∀ (sel : Option Nat) (name : String) (p : String) (a : Arr) (fmname : String) (child : Arr) (off : Nat) (w : LVal),
    Slot child off w → noKnownVariant vs sel name child w = true →
    Bo (positionsAt p (blameVariant vs sel name (here a) (segName fmname) child w)) (p, Read.label a)
      (readVariantAsA AnnFixes.all Fixes.all vs sel name (some (rchild p fmname, child, off)))
  | .nil, _, sel, name, p, a, fmname, child, off, w, _, _ => by
    simp only [readVariantAsA, blameVariant]
    exact Bo.noctx _ fun _ => self_mem_here p a
  | .cons n k rest, hV, sel, name, p, a, fmname, child, off, w, h, hk => by
    simp only [noKnownVariant] at hk
    simp only [readVariantAsA, blameVariant]
    have key : ∀ (c : Bool),
        (if c = true then noKnownKind k child w else noKnownVariant rest (sel.map (· - 1)) name child w) = true →
        Bo (positionsAt p (if c = true then below [segName fmname] (blameKind k child w)
            else blameVariant rest (sel.map (· - 1)) name (here a) (segName fmname) child w)) (p, Read.label a)
          (if c = true then (do pure (DVal.enum (.str .transient (strBytes n))
              (← readKindA AnnFixes.all Fixes.all k (some (rchild p fmname, child, off)))))
            else readVariantAsA AnnFixes.all Fixes.all rest (sel.map (· - 1)) name (some (rchild p fmname, child, off))) := by
      intro c hk
      cases c
      · simp only [Bool.false_eq_true, if_false] at hk ⊢
        exact readVariantAsA_bo rest (fun x hx => hV x (by simp [TVariants.toList, hx])) _ name p a fmname child off w h hk
      · simp only [if_true] at hk ⊢
        rw [positionsAt_below1]
        exact Bo.bind (Wn.bo _ ((hV (n, k) (by simp [TVariants.toList])).at h hk)) fun _ _ => Bo.of_ok _
    cases sel with
    | none => exact key (n == name) hk
    | some j => exact key (j == 0) hk

theorem blr_enum {byIndex : Bool} {vs : TVariants} (hV : ∀ x ∈ TVariants.toList vs, KBl x.2) : BlR (.enum byIndex vs) := by
  intro p a i lv h hn hp hu hk
  cases a with
  | union types offs fs =>
    obtain ⟨pos, off, fm, child, w, rfl, hsel, hnth, hfind, sc⟩ := (Slot.mk h hn hp hu).union
    simp only [noKnown, hfind] at hk
    simp only [readAsA, blameRead, hfind, ctxIf, allFix_enum, if_true]
    rw [rann_eq']
    refine Bo.ctx (Bo.bind (Bo.of_eq_ok hsel) fun ko hko => ?_)
    rw [hsel] at hko; cases hko
    simp only [hnth]
    cases byIndex
    · simp only [Bool.false_eq_true, if_false] at hk ⊢
      exact readVariantAsA_bo vs hV none fm.name p _ fm.name child off w sc hk
    · simp only [if_true, Int.toNat_natCast] at hk ⊢
      exact readVariantAsA_bo vs hV (some pos) fm.name p _ fm.name child off w sc hk
  | struct _ _ _ | list _ _ _ _ _ | fixedSizeList _ _ _ _ _ | map _ _ _ _ _ =>
    simp only [blameRead]
    refine whole_blame h hn hp hu ?_
    simp only [readAsA, stringElem]
    exact own_here _
  | _ =>
    simp only [blameRead]
    exact whole_blame h hn hp hu (leafArr_here rfl _ p i)

end SaModel.Props.C18
