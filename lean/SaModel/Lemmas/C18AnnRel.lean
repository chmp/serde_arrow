import SaModel.Lemmas.C18OwnRead
import SaModel.Lemmas.C18Erase
/-
C18, reader half: the ONE walk over the annotated readers (`readAnyA`, `readAsA` and their companions, Read/Annot.lean),
alongside the un-annotated ones they decorate.

`AnnRel af fx Q` is a closure interface for a relation `Q S rA r` between an annotated computation `rA`, running in the reader
subtree with positions `S`, and its un-annotated twin `r`: `Q` holds of a step without `.ctx` taken with itself (`plain`), is kept
by `>>=` (`bind`), by a larger `S` (`mono`) and by the `.ctx(self)` wrapper of the reader at `p` around its body for the call `c`
(`ctx`).  Then `Q` relates every annotated read to the un-annotated read (`readAsA_rel`, `readAnyA_rel`, …).  Two instances:
`annRel_erase` (`EqE rA r`: equal up to annotations) and `annRel_raisedR` (`RaisedR af fx S rA`: an annotated error was
raised by a reader of the subtree, whose own step failed); their projections to the single readers (`readAsA_erase`,
`readAsA_raisedR`, `readAsA_within`, …) close the file.

`plain` asks `Q S r r` of EVERY computation that never annotates, whatever it does.  That is what makes `AnnRel` an interface for
statements about ANNOTATIONS only.  A statement about what the un-annotated steps do (never unwinds: false of the step `panic ..`)
is not an instance; it needs the operations of a reader node named one by one — `Read.NodeOps` / `Read.readAs_errs`
(Lemmas/ReadErrs.lean), which stays separate (and `readAs_noctx`, its instance, is an ingredient of `eraseAnn_readAsA`).
-/
namespace SaModel.Props.C18
open SaModel SaModel.Read

structure AnnRel (af : AnnFixes) (fx : Fixes) (Q : List Pos → {α : Type} → R α → R α → Prop) : Prop where
  plain : ∀ {S : List Pos} {α : Type} (r : R α) [NoCtx r], Q S r r
  bind : ∀ {S : List Pos} {α β : Type} {rA r : R α} {fA f : α → R β}, Q S rA r → (∀ v, rA = .ok v → Q S (fA v) (f v)) →
    Q S (rA >>= fA) (r >>= f)
  mono : ∀ {S S' : List Pos} {α : Type} {rA r : R α}, (∀ q ∈ S, q ∈ S') → Q S rA r → Q S' rA r
  ctx : ∀ {S : List Pos} {rA r : R DVal} (p : String) (a : Arr) (c : RCall) (idx : Nat), (∀ q ∈ rpositions p a, q ∈ S) →
    (∀ msg, rA = .error (.err msg) → OwnFailsR af fx p a c idx msg) → Q S rA r → Q S (ctx (rann p a) rA) r

namespace AnnRel
variable {af : AnnFixes} {fx : Fixes} {Q : List Pos → {α : Type} → R α → R α → Prop} (W : AnnRel af fx Q)
include W

theorem ctxIf {S : List Pos} {rA r : R DVal} (b : Bool) (p : String) (a : Arr) (c : RCall) (idx : Nat)
    (hs : ∀ q ∈ rpositions p a, q ∈ S) (hown : ∀ msg, rA = .error (.err msg) → OwnFailsR af fx p a c idx msg)
    (h : Q S rA r) : Q S (Read.ctxIf b (rann p a) rA) r := by
  unfold Read.ctxIf; split
  · exact W.ctx p a c idx hs hown h
  · exact h

theorem ite {S : List Pos} {α : Type} (c : Prop) [Decidable c] {xA x yA y : R α} (hx : Q S xA x) (hy : Q S yA y) :
    Q S (if c then xA else yA) (if c then x else y) := by have := W; split <;> assumption

theorem readRange {S : List Pos} {α : Type} {fA f : Nat → R α} (h : ∀ j, Q S (fA j) (f j)) :
    ∀ (n s : Nat), Q S (readRange fA s n) (readRange f s n)
  | 0, s => by unfold Read.readRange; exact W.plain _
  | n + 1, s => by
    unfold Read.readRange
    exact W.bind (h s) fun _ _ => W.bind (readRange h n (s + 1)) fun _ _ => W.plain _

theorem mapM {S : List Pos} {α β : Type} {fA f : α → R β} : ∀ (l : List α), (∀ x ∈ l, Q S (fA x) (f x)) →
    Q S (l.mapM fA) (l.mapM f)
  | [], _ => by simp only [List.mapM_nil]; exact W.plain _
  | x :: xs, h => by
    simp only [List.mapM_cons]
    exact W.bind (h x (by simp)) fun _ _ => W.bind (mapM xs fun y hy => h y (by simp [hy])) fun _ _ => W.plain _

theorem foldlM {S : List Pos} {α σ : Type} {fA f : σ → α → R σ} : ∀ (l : List α) (init : σ),
    (∀ s, ∀ x ∈ l, Q S (fA s x) (f s x)) → Q S (l.foldlM fA init) (l.foldlM f init)
  | [], init, _ => by simp only [List.foldlM_nil]; exact W.plain _
  | x :: xs, init, h => by
    simp only [List.foldlM_cons]
    exact W.bind (h init x (by simp)) fun s' _ => foldlM xs s' fun s y hy => h s y (by simp [hy])

theorem anyAt {S : List Pos} (a : Arr) {fA f : Nat → R DVal} (h : ∀ i, Q S (fA i) (f i)) (idx : Nat) :
    Q S (anyAt fx a fA idx) (Read.anyAt fx a f idx) := by
  unfold Read.anyAt
  exact W.bind (W.plain _) fun b _ => by
    split
    · exact h idx
    · exact W.plain _

mutual
theorem readAnyA_rel : ∀ (a : Arr) (p : String) (idx : Nat), Q (rpositions p a) (readAnyA fx p a idx) (readAny fx a idx)
  | .struct len v fs, p, idx => by
    unfold readAnyA readAny
    refine W.ctx p _ .any idx rsub_refl (fun msg h => h) (W.anyAt _ (fun i => ?_) idx)
    unfold readAnySome
    refine W.ite _ (W.plain _) (W.bind (W.mono ?_ (readAnyFieldsA_rel fs p i)) fun _ _ => W.plain _)
    intro q hq; simp only [rpositions, List.mem_cons]; exact .inr hq
  | .list _ _ _ fm el, p, idx | .fixedSizeList _ _ _ fm el, p, idx => by
    unfold readAnyA readAny
    refine W.ctx p _ .any idx rsub_refl (fun msg h => h) (W.anyAt _ (fun i => ?_) idx)
    unfold readAnySome
    refine W.bind (W.plain _) fun se _ =>
      W.bind (W.readRange (fun j => W.mono ?_ (readAnyA_rel el (rchild p fm.name) j)) _ _) fun _ _ => W.plain _
    intro q hq; simp only [rpositions, List.mem_cons]; exact .inr hq
  | .map v offs mm ks vs, p, idx => by
    unfold readAnyA readAny
    refine W.ctx p _ .any idx rsub_refl (fun msg h => h) (W.anyAt _ (fun i => ?_) idx)
    unfold readAnySome
    refine W.bind (W.plain _) fun se _ => W.bind (W.readRange (fun j => ?_) _ _) fun _ _ => W.plain _
    refine W.bind (W.mono ?_ (readAnyA_rel ks _ j)) fun _ _ => W.bind (W.mono ?_ (readAnyA_rel vs _ j)) fun _ _ => W.plain _
    · intro q hq; simp only [rpositions, List.mem_cons, List.mem_append]; exact .inr (.inl hq)
    · intro q hq; simp only [rpositions, List.mem_cons, List.mem_append]; exact .inr (.inr hq)
  | .union types offs fs, p, idx => by
    unfold readAnyA readAny
    refine W.ctx p _ .any idx rsub_refl (fun msg h => h) (W.anyAt _ (fun i => ?_) idx)
    unfold readAnySome
    refine W.bind (W.plain _) fun ko _ => W.mono ?_ (readAnyVariantA_rel fs p ko.1 ko.2)
    intro q hq; simp only [rpositions, List.mem_cons]; exact .inr hq
  | .null _, p, idx | .boolean _ _ _, p, idx | .prim _ _ _, p, idx | .time _ _ _ _, p, idx | .timestamp _ _ _ _, p, idx
  | .decimal128 _ _ _ _, p, idx | .bytes _ _ _ _, p, idx | .bytesView _ _ _ _, p, idx | .fixedSizeBinary _ _ _, p, idx
  | .dictionary _ _, p, idx => by
    unfold readAnyA
    exact W.ctx p _ .any idx rsub_refl (fun msg h => h) (W.plain _)
theorem readAnyFieldsA_rel : ∀ (fs : ArrFields) (p : String) (idx : Nat),
    Q (rpositionsF p fs) (readAnyFieldsA fx p fs idx) (readAnyFields fx fs idx)
  | .nil, p, idx => by unfold readAnyFieldsA readAnyFields; exact W.plain _
  | .cons fm a rest, p, idx => by
    unfold readAnyFieldsA readAnyFields
    refine W.bind (W.mono ?_ (readAnyA_rel a _ idx)) fun _ _ =>
      W.bind (W.mono ?_ (readAnyFieldsA_rel rest p idx)) fun _ _ => W.plain _
    · intro q hq; simp only [rpositionsF, List.mem_append]; exact .inl hq
    · intro q hq; simp only [rpositionsF, List.mem_append]; exact .inr hq
theorem readAnyVariantA_rel : ∀ (fs : ArrUFields) (p : String) (k off : Nat),
    Q (rpositionsU p fs) (readAnyVariantA fx p fs k off) (readAnyVariant fx fs k off)
  | .nil, p, k, off => by unfold readAnyVariantA readAnyVariant; exact W.plain _
  | .cons _ fm a rest, p, 0, off => by
    unfold readAnyVariantA readAnyVariant
    refine W.bind (W.mono ?_ (readAnyA_rel a _ off)) fun _ _ => W.plain _
    intro q hq; simp only [rpositionsU, List.mem_append]; exact .inl hq
  | .cons _ fm a rest, p, k + 1, off => by
    unfold readAnyVariantA readAnyVariant
    refine W.mono ?_ (readAnyVariantA_rel rest p k off)
    intro q hq; simp only [rpositionsU, List.mem_append]; exact .inr hq
end

theorem tupleVisitA_rel (p : String) (rfA rf : ArrFields → R (List DVal)) (a : Arr) (idx : Nat) (c : RCall)
    (hown : ∀ msg, tupleVisit fx rfA a idx = .error (.err msg) → OwnFailsR af fx p a c idx msg)
    (h : ∀ len v fs, a = .struct len v fs → Q (rpositionsF p fs) (rfA fs) (rf fs)) :
    Q (rpositions p a) (tupleVisitA fx p rfA a idx) (tupleVisit fx rf a idx) := by
  unfold tupleVisitA
  refine W.ctx p a c idx rsub_refl hown ?_
  unfold tupleVisit
  split
  · rename_i len v fs
    refine W.bind (W.plain _) fun _ _ => W.bind (W.mono ?_ (h len v fs rfl)) fun _ _ => W.plain _
    simp only [rpositions]; exact tail_sub
  · exact W.plain _

theorem structVisitA_rel (p : String) (rfA : Slots → FieldMeta → Arr → R (Option (Nat × DVal)))
    (rf : Slots → String → Arr → R (Option (Nat × DVal))) (tfs : TFields) (a : Arr) (idx : Nat) (c : RCall)
    (hown : ∀ msg, (match a with
      | .struct len _ fs => (do
        structItem fx len idx
        let slots ← fs.toList.foldlM (fun (slots : Slots) (fm, child) => do
          match (← rfA slots fm child) with
          | some kv => pure (slots ++ [kv])
          | none => do let _ ← readAnyA fx (rchild p fm.name) child idx; pure slots) []
        pure (DVal.map (DEntries.ofList (← finishFields tfs 0 slots))) : R DVal)
      | _ => notImpl) = .error (.err msg) → OwnFailsR af fx p a c idx msg)
    (h : ∀ slots fm child, Q (rpositions (rchild p fm.name) child) (rfA slots fm child) (rf slots fm.name child)) :
    Q (rpositions p a) (structVisitA fx p rfA tfs a idx) (structVisit fx rf tfs a idx) := by
  unfold structVisitA
  refine W.ctx p a c idx rsub_refl hown ?_
  unfold structVisit
  cases a
  case struct len v fs =>
    refine W.bind (W.plain _) fun _ _ => W.bind ?_ fun _ _ => W.bind (W.plain _) fun _ _ => W.plain _
    refine W.foldlM _ _ fun slots x hx => ?_
    obtain ⟨fm, child⟩ := x
    have hsub : ∀ q ∈ rpositions (rchild p fm.name) child, q ∈ rpositions p (.struct len v fs) := by
      intro q hq; simp only [rpositions]; exact tail_sub _ (fields_sub p fs fm child hx q hq)
    refine W.bind (W.mono hsub (h slots fm child)) fun r _ => ?_
    split
    · exact W.plain _
    · refine W.bind (W.mono hsub (W.readAnyA_rel child _ idx)) fun _ _ => ?_
      exact W.plain _
  all_goals exact W.plain _

theorem scalar_rel (p : String) (t : Target) (m : Method) (a : Arr) (idx : Nat)
    (hb : asBody af fx p t a idx = do accept t (← scalar fx m a idx)) :
    Q (rpositions p a) (SaModel.ctx (rann p a) (do accept t (← scalar fx m a idx))) (do accept t (← scalar fx m a idx)) :=
  W.ctx p a (.as t) idx rsub_refl (fun _ h => hb.trans h) (W.plain _)

mutual
theorem readAsA_rel : ∀ (t : Target) (p : String) (a : Arr) (idx : Nat),
    Q (rpositions p a) (readAsA af fx p t a idx) (readAs fx t a idx)
  | .any, p, a, idx => by unfold readAsA readAs; exact W.readAnyA_rel a p idx
  | .ignored, p, a, idx => by
    unfold readAsA readAs; exact W.bind (W.readAnyA_rel a p idx) fun _ _ => W.plain _
  | .unit, p, a, idx | .unitStruct, p, a, idx | .bool, p, a, idx | .int _, p, a, idx | .f32, p, a, idx | .f64, p, a, idx
  | .char, p, a, idx | .string, p, a, idx | .str, p, a, idx => by unfold readAsA readAs; exact W.scalar_rel _ _ _ _ _ rfl
  | .bytes, p, a, idx => by
    unfold readAsA readAs
    refine W.ctx p a (.as .bytes) idx rsub_refl (fun _ h => h) ?_
    cases a <;> exact W.plain _
  | .byteBuf, p, a, idx => by
    unfold readAsA readAs
    refine W.ctx p a (.as .byteBuf) idx rsub_refl (fun _ h => h) ?_
    cases a
    case list large v offs fm el =>
      refine W.bind (W.plain _) fun se _ => W.bind (W.readRange (fun j => ?_) _ _) fun _ _ => W.plain _
      refine W.ctx _ el (.as (.int .u8)) j ?_ (fun _ h => h) (W.plain _)
      simp only [rpositions]; exact tail_sub
    all_goals exact W.plain _
  | .option t, p, a, idx => by
    unfold readAsA readAs
    refine W.ctx p a (.as (.option t)) idx rsub_refl (fun _ h => h) (W.bind (W.plain _) fun b _ => ?_)
    split
    · exact W.bind (readAsA_rel t p a idx) fun _ _ => W.plain _
    · exact W.plain _
  | .newtype t, p, a, idx => by unfold readAsA readAs; exact readAsA_rel t p a idx
  | .seq t, p, a, idx => by
    unfold readAsA readAs
    cases a
    case list large v offs fm el =>
      refine W.ctx p _ (.as (.seq t)) idx rsub_refl (fun _ h => h) (W.bind (W.plain _) fun se _ =>
        W.bind (W.readRange (fun j => W.mono ?_ (readAsA_rel t _ el j)) _ _) fun _ _ => W.plain _)
      simp only [rpositions]; exact tail_sub
    case fixedSizeList len v n fm el =>
      refine W.ctxIf _ p _ (.as (.seq t)) idx rsub_refl (fun _ h => h) (W.bind (W.plain _) fun se _ =>
        W.bind (W.readRange (fun j => W.mono ?_ (readAsA_rel t _ el j)) _ _) fun _ _ => W.plain _)
      simp only [rpositions]; exact tail_sub
    all_goals
      refine W.ctx p _ (.as (.seq t)) idx rsub_refl (fun _ h => h) ?_
      dsimp only
      generalize hbe : binaryElems fx _ idx = o
      cases o with
      | none => exact W.plain _
      | some rb => have := binaryElems_noctx fx _ idx rb hbe; exact W.plain _
  | .tuple ts, p, a, idx => by
    unfold readAsA readAs
    exact W.tupleVisitA_rel p _ _ a idx (.as (.tuple ts)) (fun _ h => h) fun len v fs _ => readTupleFieldsA_rel ts p fs idx
  | .tupleStruct ts, p, a, idx => by
    unfold readAsA readAs
    exact W.tupleVisitA_rel p _ _ a idx (.as (.tupleStruct ts)) (fun _ h => h) fun len v fs _ => readTupleFieldsA_rel ts p fs idx
  | .map k v, p, a, idx => by
    unfold readAsA readAs
    refine W.ctx p a (.as (.map k v)) idx rsub_refl (fun _ h => h) ?_
    cases a
    case struct len vv fs =>
      refine W.bind (W.plain _) fun _ _ => W.bind (W.mapM _ fun x hx => ?_) fun _ _ => W.plain _
      obtain ⟨fm, child⟩ := x
      refine W.bind (W.plain _) fun _ _ => W.bind (W.mono ?_ (readAsA_rel v (rchild p fm.name) child idx)) fun _ _ => W.plain _
      intro q hq; simp only [rpositions]; exact tail_sub _ (fields_sub p fs fm child hx q hq)
    case map vv offs mm ks vs =>
      refine W.bind (W.plain _) fun se _ => W.bind (W.readRange (fun j => ?_) _ _) fun _ _ => W.plain _
      refine W.bind (W.mono ?_ (readAsA_rel k _ ks j)) fun _ _ => W.bind (W.mono ?_ (readAsA_rel v _ vs j)) fun _ _ => W.plain _
      · intro q hq; simp only [rpositions, List.mem_cons, List.mem_append]; exact .inr (.inl hq)
      · intro q hq; simp only [rpositions, List.mem_cons, List.mem_append]; exact .inr (.inr hq)
    all_goals exact W.plain _
  | .struct tfs, p, a, idx => by
    unfold readAsA readAs
    exact W.structVisitA_rel p _ _ tfs a idx (.as (.struct tfs)) (fun _ h => h)
      fun slots fm child => readFieldAsA_rel tfs 0 slots fm.name _ child idx
  | .enum byIndex vs, p, a, idx => by
    unfold readAsA readAs
    cases a
    case union types offs fs =>
      refine W.ctxIf _ p _ (.as (.enum byIndex vs)) idx rsub_refl (fun _ h => h) (W.bind (W.plain _) fun ko _ => ?_)
      obtain ⟨k, off⟩ := ko
      dsimp only
      cases hn : ArrUFields.nth fs k with
      | none => exact W.plain _
      | some fc =>
        obtain ⟨fm, child⟩ := fc
        refine W.mono ?_ (readVariantAsA_rel vs _ fm.name (some (rchild p fm.name, child, off)))
        intro q hq; simp only [rpositions]; exact tail_sub _ (ufields_sub p fs k fm child hn q hq)
    all_goals
      refine W.ctx p _ (.as (.enum byIndex vs)) idx rsub_refl (fun _ h => h) ?_
      dsimp only
      generalize hse : stringElem fx _ idx = o
      cases o with
      | none => exact W.plain _
      | some rs =>
        have := stringElem_noctx fx _ idx rs hse
        refine W.bind (W.plain _) fun s _ => W.ite _ (W.plain _) ?_
        exact W.mono (by intro q hq; cases hq) (readVariantAsBytesA_rel vs s)
theorem readTupleFieldsA_rel : ∀ (ts : Targets) (p : String) (fs : ArrFields) (idx : Nat),
    Q (rpositionsF p fs) (readTupleFieldsA af fx p ts fs idx) (readTupleFields fx ts fs idx)
  | .nil, p, fs, idx => by unfold readTupleFieldsA readTupleFields; exact W.plain _
  | .cons t rest, p, .nil, idx => by unfold readTupleFieldsA readTupleFields; exact W.plain _
  | .cons t rest, p, .cons fm a frest, idx => by
    unfold readTupleFieldsA readTupleFields
    refine W.bind (W.mono ?_ (readAsA_rel t _ a idx)) fun _ _ =>
      W.bind (W.mono ?_ (readTupleFieldsA_rel rest p frest idx)) fun _ _ => W.plain _
    · intro q hq; simp only [rpositionsF, List.mem_append]; exact .inl hq
    · intro q hq; simp only [rpositionsF, List.mem_append]; exact .inr hq
theorem readFieldAsA_rel : ∀ (tfs : TFields) (pos : Nat) (slots : Slots) (name cp : String) (child : Arr) (idx : Nat),
    Q (rpositions cp child) (readFieldAsA af fx tfs pos slots name cp child idx) (readFieldAs fx tfs pos slots name child idx)
  | .nil, _, _, _, _, _, _ => by unfold readFieldAsA readFieldAs; exact W.plain _
  | .cons n t rest, pos, slots, name, cp, child, idx => by
    unfold readFieldAsA readFieldAs
    refine W.ite _ (W.ite _ (W.plain _) (W.bind (readAsA_rel t cp child idx) fun _ _ => W.plain _)) ?_
    exact readFieldAsA_rel rest (pos + 1) slots name cp child idx
theorem readVariantAsA_rel : ∀ (vs : TVariants) (sel : Option Nat) (name : String) (src : Option (String × Arr × Nat)),
    Q (srcPositions src) (readVariantAsA af fx vs sel name src) (readVariantAs fx vs sel name (srcPlain src))
  | .nil, _, _, _ => by unfold readVariantAsA readVariantAs; exact W.plain _
  | .cons n k rest, sel, name, src => by
    unfold readVariantAsA readVariantAs
    refine W.ite _ ?_ ?_
    · exact W.bind (readKindA_rel k src) fun _ _ => W.plain _
    · exact readVariantAsA_rel rest _ name src
theorem readVariantAsBytesA_rel : ∀ (vs : TVariants) (s : Bytes),
    Q [] (readVariantAsBytesA af fx vs s) (readVariantAsBytes fx vs s)
  | .nil, _ => by unfold readVariantAsBytesA readVariantAsBytes; exact W.plain _
  | .cons n k rest, s => by
    unfold readVariantAsBytesA readVariantAsBytes
    refine W.ite _ ?_ (readVariantAsBytesA_rel rest s)
    exact W.bind (readKindA_rel k none) fun _ _ => W.plain _
theorem readKindA_rel : ∀ (k : VKind) (src : Option (String × Arr × Nat)),
    Q (srcPositions src) (readKindA af fx k src) (readKind fx k (srcPlain src))
  | .unit, some (cp, child, off) => by
    unfold readKindA readKind srcPlain; exact W.scalar_rel _ _ _ _ _ rfl
  | .unit, none | .newtype _, none | .tuple _, none | .struct _, none => by
    unfold readKindA readKind srcPlain; exact W.plain _
  | .newtype t, some (cp, child, off) => by unfold readKindA readKind srcPlain; exact readAsA_rel t cp child off
  | .tuple ts, some (cp, child, off) => by
    unfold readKindA readKind srcPlain
    exact W.tupleVisitA_rel cp _ _ child off (.as (.tuple ts)) (fun _ h => h) fun len v fs _ => readTupleFieldsA_rel ts cp fs off
  | .struct tfs, some (cp, child, off) => by
    unfold readKindA readKind srcPlain
    exact W.structVisitA_rel cp _ _ tfs child off (.as (.struct tfs)) (fun _ h => h)
      fun slots fm c => readFieldAsA_rel tfs 0 slots fm.name _ c off
end

end AnnRel

theorem annRel_erase (af : AnnFixes) (fx : Fixes) : AnnRel af fx (fun _ _ rA r => EqE rA r) where
  plain := fun r => EqE.refl r
  bind := EqE.bind_ok
  mono := fun _ h => h
  ctx := fun _ _ _ _ _ _ h => EqE.ctx_left _ h

theorem annRel_raisedR (af : AnnFixes) (fx : Fixes) : AnnRel af fx (fun S _ rA _ => RaisedR af fx S rA) where
  plain := fun r => NoCtx.raisedR r
  bind := RaisedR.bind
  mono := RaisedR.mono
  ctx := fun p a c idx hs hown h => RaisedR.ctx_own p a c idx hs hown h

/-! ### ERASURE of the annotated reads.  `readAnyA fx p a idx` / `readAsA af fx p t a idx` and `readAny` / `readAs` are equal up to
the annotation of an error — for every `AnnFixes`, every `Fixes`, every target, every path and every (arbitrary, also inconsistent)
view: the instance `annRel_erase` of the walk. -/

theorem readAnyA_erase (fx : Fixes) : ∀ (a : Arr) (p : String) (idx : Nat), EqE (readAnyA fx p a idx) (readAny fx a idx) :=
  (annRel_erase AnnFixes.all fx).readAnyA_rel
theorem readAnyFieldsA_erase (fx : Fixes) : ∀ (fs : ArrFields) (p : String) (idx : Nat),
    EqE (readAnyFieldsA fx p fs idx) (readAnyFields fx fs idx) :=
  (annRel_erase AnnFixes.all fx).readAnyFieldsA_rel
theorem readAnyVariantA_erase (fx : Fixes) : ∀ (fs : ArrUFields) (p : String) (k off : Nat),
    EqE (readAnyVariantA fx p fs k off) (readAnyVariant fx fs k off) :=
  (annRel_erase AnnFixes.all fx).readAnyVariantA_rel

theorem readAsA_erase (af : AnnFixes) (fx : Fixes) : ∀ (t : Target) (p : String) (a : Arr) (idx : Nat),
    EqE (readAsA af fx p t a idx) (readAs fx t a idx) :=
  (annRel_erase af fx).readAsA_rel
theorem readTupleFieldsA_erase (af : AnnFixes) (fx : Fixes) : ∀ (ts : Targets) (p : String) (fs : ArrFields) (idx : Nat),
    EqE (readTupleFieldsA af fx p ts fs idx) (readTupleFields fx ts fs idx) :=
  (annRel_erase af fx).readTupleFieldsA_rel
theorem readFieldAsA_erase (af : AnnFixes) (fx : Fixes) : ∀ (tfs : TFields) (pos : Nat) (slots : Slots) (name cp : String)
    (child : Arr) (idx : Nat),
    EqE (readFieldAsA af fx tfs pos slots name cp child idx) (readFieldAs fx tfs pos slots name child idx) :=
  (annRel_erase af fx).readFieldAsA_rel
theorem readVariantAsA_erase (af : AnnFixes) (fx : Fixes) : ∀ (vs : TVariants) (sel : Option Nat) (name : String)
    (src : Option (String × Arr × Nat)),
    EqE (readVariantAsA af fx vs sel name src) (readVariantAs fx vs sel name (srcPlain src)) :=
  (annRel_erase af fx).readVariantAsA_rel
theorem readVariantAsBytesA_erase (af : AnnFixes) (fx : Fixes) : ∀ (vs : TVariants) (s : Bytes),
    EqE (readVariantAsBytesA af fx vs s) (readVariantAsBytes fx vs s) :=
  (annRel_erase af fx).readVariantAsBytesA_rel
theorem readKindA_erase (af : AnnFixes) (fx : Fixes) : ∀ (k : VKind) (src : Option (String × Arr × Nat)),
    EqE (readKindA af fx k src) (readKind fx k (srcPlain src)) :=
  (annRel_erase af fx).readKindA_rel
/-! ### every annotated error of `deserialize_any` and of a typed read is the OWN failure of a reader of the subtree: the instance
`annRel_raisedR` of the walk -/

theorem readAnyA_raisedR (af : AnnFixes) (fx : Fixes) : ∀ (a : Arr) (p : String) (idx : Nat),
    RaisedR af fx (rpositions p a) (readAnyA fx p a idx) :=
  (annRel_raisedR af fx).readAnyA_rel
theorem readAnyFieldsA_raisedR (af : AnnFixes) (fx : Fixes) : ∀ (fs : ArrFields) (p : String) (idx : Nat),
    RaisedR af fx (rpositionsF p fs) (readAnyFieldsA fx p fs idx) :=
  (annRel_raisedR af fx).readAnyFieldsA_rel
theorem readAnyVariantA_raisedR (af : AnnFixes) (fx : Fixes) : ∀ (fs : ArrUFields) (p : String) (k off : Nat),
    RaisedR af fx (rpositionsU p fs) (readAnyVariantA fx p fs k off) :=
  (annRel_raisedR af fx).readAnyVariantA_rel

theorem readAsA_raisedR (af : AnnFixes) (fx : Fixes) : ∀ (t : Target) (p : String) (a : Arr) (idx : Nat),
    RaisedR af fx (rpositions p a) (readAsA af fx p t a idx) :=
  (annRel_raisedR af fx).readAsA_rel
theorem readTupleFieldsA_raisedR (af : AnnFixes) (fx : Fixes) : ∀ (ts : Targets) (p : String) (fs : ArrFields) (idx : Nat),
    RaisedR af fx (rpositionsF p fs) (readTupleFieldsA af fx p ts fs idx) :=
  (annRel_raisedR af fx).readTupleFieldsA_rel
theorem readFieldAsA_raisedR (af : AnnFixes) (fx : Fixes) : ∀ (tfs : TFields) (pos : Nat) (slots : Slots) (name cp : String)
    (child : Arr) (idx : Nat), RaisedR af fx (rpositions cp child) (readFieldAsA af fx tfs pos slots name cp child idx) :=
  (annRel_raisedR af fx).readFieldAsA_rel
theorem readVariantAsA_raisedR (af : AnnFixes) (fx : Fixes) : ∀ (vs : TVariants) (sel : Option Nat) (name : String)
    (src : Option (String × Arr × Nat)), RaisedR af fx (srcPositions src) (readVariantAsA af fx vs sel name src) :=
  (annRel_raisedR af fx).readVariantAsA_rel
theorem readVariantAsBytesA_raisedR (af : AnnFixes) (fx : Fixes) : ∀ (vs : TVariants) (s : Bytes),
    RaisedR af fx [] (readVariantAsBytesA af fx vs s) :=
  (annRel_raisedR af fx).readVariantAsBytesA_rel
theorem readKindA_raisedR (af : AnnFixes) (fx : Fixes) : ∀ (k : VKind) (src : Option (String × Arr × Nat)),
    RaisedR af fx (srcPositions src) (readKindA af fx k src) :=
  (annRel_raisedR af fx).readKindA_rel
/-! ### every annotated error of a read (`deserialize_any` and the typed reads, with or without the two `fix:` commits) names a
reader of the subtree — the reader whose own step failed (`RaisedR.within`, C18OwnRead.lean) -/

theorem readAnyA_within (fx : Fixes) : ∀ (a : Arr) (p : String) (idx : Nat), Within (rpositions p a) (readAnyA fx p a idx) :=
  fun a p idx => (readAnyA_raisedR AnnFixes.all fx a p idx).within
theorem readAnyFieldsA_within (fx : Fixes) : ∀ (fs : ArrFields) (p : String) (idx : Nat),
    Within (rpositionsF p fs) (readAnyFieldsA fx p fs idx) :=
  fun fs p idx => (readAnyFieldsA_raisedR AnnFixes.all fx fs p idx).within
theorem readAnyVariantA_within (fx : Fixes) : ∀ (fs : ArrUFields) (p : String) (k off : Nat),
    Within (rpositionsU p fs) (readAnyVariantA fx p fs k off) :=
  fun fs p k off => (readAnyVariantA_raisedR AnnFixes.all fx fs p k off).within

theorem readAsA_within (af : AnnFixes) (fx : Fixes) : ∀ (t : Target) (p : String) (a : Arr) (idx : Nat),
    Within (rpositions p a) (readAsA af fx p t a idx) :=
  fun t p a idx => (readAsA_raisedR af fx t p a idx).within
theorem readTupleFieldsA_within (af : AnnFixes) (fx : Fixes) : ∀ (ts : Targets) (p : String) (fs : ArrFields) (idx : Nat),
    Within (rpositionsF p fs) (readTupleFieldsA af fx p ts fs idx) :=
  fun ts p fs idx => (readTupleFieldsA_raisedR af fx ts p fs idx).within
theorem readFieldAsA_within (af : AnnFixes) (fx : Fixes) : ∀ (tfs : TFields) (pos : Nat) (slots : Slots) (name cp : String)
    (child : Arr) (idx : Nat), Within (rpositions cp child) (readFieldAsA af fx tfs pos slots name cp child idx) :=
  fun tfs pos slots name cp child idx => (readFieldAsA_raisedR af fx tfs pos slots name cp child idx).within
theorem readVariantAsA_within (af : AnnFixes) (fx : Fixes) : ∀ (vs : TVariants) (sel : Option Nat) (name : String)
    (src : Option (String × Arr × Nat)), Within (srcPositions src) (readVariantAsA af fx vs sel name src) :=
  fun vs sel name src => (readVariantAsA_raisedR af fx vs sel name src).within
theorem readVariantAsBytesA_within (af : AnnFixes) (fx : Fixes) : ∀ (vs : TVariants) (s : Bytes),
    Within [] (readVariantAsBytesA af fx vs s) :=
  fun vs s => (readVariantAsBytesA_raisedR af fx vs s).within
theorem readKindA_within (af : AnnFixes) (fx : Fixes) : ∀ (k : VKind) (src : Option (String × Arr × Nat)),
    Within (srcPositions src) (readKindA af fx k src) :=
  fun k src => (readKindA_raisedR af fx k src).within

end SaModel.Props.C18
