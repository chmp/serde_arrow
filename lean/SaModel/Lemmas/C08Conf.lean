import SaModel.Lemmas.C08StepBase
/-
C08 — types that cannot be walked (a container beyond the depth limit — what a recursive type unrolls to —, a map
under `map_as_struct`, an enum without variants): `from_type` never succeeds and never panics.
`Conf o p ty t`: the tracer `t` conforms to the type description `ty` at path `p` — an invariant of the exploration
passes (`explore_conf`) that holds of a fresh node and under which a COMPLETE tracer witnesses that the type can be
walked (`conf_complete_walkable`).
-/
namespace SaModel.Lemmas.C08
open SaModel SaModel.Trace SaModel.Trace.Spec

def IsFresh (p : String) (t : Tracer) : Prop := ∃ n nl, t = .unknown n p nl

mutual
def Conf (o : Options) (p : String) : Ty → Tracer → Prop
  | .option t, tr => Conf o p t tr
  | .newtypeStruct _ t, tr => Conf o p t tr
  | .vec t, tr => IsFresh p tr ∨
    ∃ n nl i, tr = .list n p nl i ∧ tooDeep p = false ∧ Conf o (childPath p "element") t i
  | .tuple ts, tr => IsFresh p tr ∨ ∃ n nl fts, tr = .tuple n p nl fts ∧ tooDeep p = false ∧ ConfTys o p 0 ts fts
  | .tupleStruct _ ts, tr => IsFresh p tr ∨ ∃ n nl fts, tr = .tuple n p nl fts ∧ tooDeep p = false ∧ ConfTys o p 0 ts fts
  | .map k v, tr => IsFresh p tr ∨
    ∃ n nl kt vt, tr = .map n p nl kt vt ∧ o.map_as_struct = false ∧ tooDeep p = false ∧
      Conf o (childPath p "key") k kt ∧ Conf o (childPath p "value") v vt
  | .struct _ fs, tr => IsFresh p tr ∨
    ∃ n nl tfs s, tr = .struct n p nl tfs .struct s ∧ tooDeep p = false ∧ ConfFields o p fs tfs
  | .enum _ vs, tr => IsFresh p tr ∨
    ∃ n nl V, tr = .union n p nl V ∧ tooDeep p = false ∧ vs.length ≠ 0 ∧ ConfVariants o p vs V
  | _, _ => True
def ConfTys (o : Options) (p : String) : Nat → Tys → Tracers → Prop
  | _, .nil, trs => trs = .nil
  | i, .cons t r, trs => ∃ tr rest, trs = .cons tr rest ∧ Conf o (childPath p (toString i)) t tr ∧ ConfTys o p (i + 1) r rest
def ConfFields (o : Options) (p : String) : TyFields → TFields → Prop
  | .nil, tfs => tfs = .nil
  | .cons fname t r, tfs => ∃ n l tr rest, tfs = .cons n l tr rest ∧ Conf o (childPath p fname) t tr ∧ ConfFields o p r rest
def ConfVariants (o : Options) (p : String) : TyVariants → Variants → Prop
  | .nil, V => V = .nil
  | .unit _ r, V => ∃ vn vt R, V = .present vn vt R ∧ ConfVariants o p r R
  | .newtype n t r, V => ∃ vn vt R, V = .present vn vt R ∧ Conf o (childPath p n) t vt ∧ ConfVariants o p r R
  | .tuple n ts r, V => ∃ vn vt R, V = .present vn vt R ∧
    (IsFresh (childPath p n) vt ∨ ∃ n' nl fts, vt = .tuple n' (childPath p n) nl fts ∧ tooDeep (childPath p n) = false ∧
      ConfTys o (childPath p n) 0 ts fts) ∧ ConfVariants o p r R
  | .struct n fs r, V => ∃ vn vt R, V = .present vn vt R ∧
    (IsFresh (childPath p n) vt ∨ ∃ n' nl tfs s, vt = .struct n' (childPath p n) nl tfs .struct s ∧
      tooDeep (childPath p n) = false ∧ ConfFields o (childPath p n) fs tfs) ∧ ConfVariants o p r R
end

namespace VHead

theorem conf_iff {vs r : TyVariants} {n : String} {T : Ty} (h : VHead vs n T r) (o : Options) (p : String)
    (V : Variants) : ConfVariants o p vs V ↔
      ∃ vn vt R, V = .present vn vt R ∧ Conf o (childPath p n) T vt ∧ ConfVariants o p r R := by
  cases h <;> simp only [ConfVariants, Conf, true_and]

end VHead

/-- outcome of a pass that preserves `P`: a value satisfying `P`, or a Rust error — never a panic -/
def Pres {α} (r : R α) (P : α → Prop) : Prop :=
  match r with
  | .ok x => P x
  | .error (.err _) => True
  | _ => False

theorem Pres.ok {α} {P : α → Prop} {x : α} (h : P x) : Pres (.ok x : R α) P := h

theorem Pres.fail {α} {P : α → Prop} (m : String) : Pres (fail m : R α) P := trivial

theorem Pres.bind {α β} {a : R α} {f : α → R β} {P : α → Prop} {Q : β → Prop} (h : Pres a P)
    (hf : ∀ x, P x → Pres (f x) Q) : Pres (a >>= f) Q := by
  unfold Pres at h
  split at h
  · exact hf _ h
  · trivial
  · exact h.elim

theorem Pres.map {α β} {a : R α} {f : α → β} {P : α → Prop} {Q : β → Prop} (h : Pres a P)
    (hf : ∀ x, P x → Q (f x)) : Pres (a.map f) Q := by
  unfold Pres at h
  split at h
  · exact hf _ h
  · trivial
  · exact h.elim

theorem conf_fresh (o : Options) : ∀ (ty : Ty) (n p : String) (nl : Bool), Conf o p ty (.unknown n p nl)
  | .unit | .unitStruct _ | .bool | .int _ | .f32 | .f64 | .char | .string | .bytes => by intro _ _ _; simp only [Conf]
  | .option t | .newtypeStruct _ t => by intro n p nl; simp only [Conf]; exact conf_fresh o t n p nl
  | .vec _ | .tuple _ | .tupleStruct _ _ | .map _ _ | .struct _ _ | .enum _ _ => by
    intro n p nl
    simp only [Conf]; exact Or.inl ⟨n, nl, rfl⟩

theorem confTys_fresh (o : Options) (p : String) : ∀ (ts : Tys) (i : Nat), ConfTys o p i ts (afterTys o p 0 i ts)
  | .nil, _ => by simp only [afterTys, ConfTys]
  | .cons t r, i => by
    simp only [afterTys, ConfTys, after_zero]
    exact ⟨_, _, rfl, conf_fresh o t _ _ _, confTys_fresh o p r (i + 1)⟩

theorem confFields_fresh (o : Options) (p : String) : ∀ (fs : TyFields), ConfFields o p fs (afterFields o p 0 fs)
  | .nil => by simp only [afterFields, ConfFields]
  | .cons n t r => by
    simp only [afterFields, ConfFields, after_zero]
    exact ⟨_, _, _, _, rfl, conf_fresh o t _ _ _, confFields_fresh o p r⟩

theorem confVariants_fresh (o : Options) (p : String) : ∀ (vs : TyVariants), ConfVariants o p vs (afterVariants o p 0 vs) := by
  intro vs
  induction vs using VHead.walk with
  | vnil => simp only [afterVariants, ConfVariants]
  | vcons vs n T r hh ih =>
    rw [hh.after_eq, after_zero, Nat.zero_sub]
    exact (hh.conf_iff o p _).2 ⟨_, _, _, rfl, conf_fresh o T _ _ _, ih⟩

/-- `mark_nullable` (an `Option` in the type) keeps conformance -/
theorem conf_set_nullable (o : Options) (b : Bool) : ∀ (ty : Ty) (p : String) (t : Tracer),
    Conf o p ty t → Conf o p ty (t.set_nullable b)
  | .unit | .unitStruct _ | .bool | .int _ | .f32 | .f64 | .char | .string | .bytes => by intro _ _ _; simp only [Conf]
  | .option t | .newtypeStruct _ t => by
    intro p tr h
    simp only [Conf] at h ⊢; exact conf_set_nullable o b t p tr h
  | .vec _ => by
    intro p tr h
    simp only [Conf] at h ⊢
    rcases h with ⟨n, nl, rfl⟩ | ⟨n, nl, i, rfl, h⟩
    · exact Or.inl ⟨n, b, rfl⟩
    · exact Or.inr ⟨n, b, i, rfl, h⟩
  | .tuple _ | .tupleStruct _ _ => by
    intro p tr h
    simp only [Conf] at h ⊢
    rcases h with ⟨n, nl, rfl⟩ | ⟨n, nl, i, rfl, h⟩
    · exact Or.inl ⟨n, b, rfl⟩
    · exact Or.inr ⟨n, b, i, rfl, h⟩
  | .map _ _ => by
    intro p tr h
    simp only [Conf] at h ⊢
    rcases h with ⟨n, nl, rfl⟩ | ⟨n, nl, k, v, rfl, h⟩
    · exact Or.inl ⟨n, b, rfl⟩
    · exact Or.inr ⟨n, b, k, v, rfl, h⟩
  | .struct _ _ => by
    intro p tr h
    simp only [Conf] at h ⊢
    rcases h with ⟨n, nl, rfl⟩ | ⟨n, nl, tfs, s, rfl, h⟩
    · exact Or.inl ⟨n, b, rfl⟩
    · exact Or.inr ⟨n, b, tfs, s, rfl, h⟩
  | .enum _ _ => by
    intro p tr h
    simp only [Conf] at h ⊢
    rcases h with ⟨n, nl, rfl⟩ | ⟨n, nl, V, rfl, h⟩
    · exact Or.inl ⟨n, b, rfl⟩
    · exact Or.inr ⟨n, b, V, rfl, h⟩

theorem confTys_length (o : Options) (p : String) : ∀ (ts : Tys) (i : Nat) (fts : Tracers),
    ConfTys o p i ts fts → fts.length = ts.length
  | .nil => by intro _ _ h; simp only [ConfTys] at h; subst h; rfl
  | .cons t r => by
    intro i _ h
    simp only [ConfTys] at h
    obtain ⟨tr, rest, rfl, _, h2⟩ := h
    simp only [Tracers.length, Tys.length, confTys_length o p r (i + 1) rest h2]

theorem conf_complete_walkable_all (o : Options) :
    (∀ (ty : Ty) (p : String) (t : Tracer), Conf o p ty t → t.is_complete = true → walkable o p ty = true) ∧
    (∀ (ts : Tys) (p : String) (i : Nat) (fts : Tracers),
      ConfTys o p i ts fts → fts.all_complete = true → walkableTys o p i ts = true) ∧
    (∀ (fs : TyFields) (p : String) (tfs : TFields),
      ConfFields o p fs tfs → tfs.all_complete = true → walkableFields o p fs = true) ∧
    (∀ (vs : TyVariants) (p : String) (V : Variants),
      ConfVariants o p vs V → V.all_complete = true → walkableVariants o p vs = true) := by
  apply Ty.walk
  case node =>
    intro ty ih p tr h hc
    match ty, ih with
    | .unit, _ | .unitStruct _, _ | .bool, _ | .int _, _ | .f32, _ | .f64, _ | .char, _ | .string, _ | .bytes, _ =>
      simp only [walkable]
    | .option t, ih | .newtypeStruct _ t, ih =>
      simp only [Conf] at h; simp only [walkable]; exact ih p tr h hc
    | .vec t, ih =>
      simp only [Conf] at h
      rcases h with ⟨n, nl, rfl⟩ | ⟨n, nl, i, rfl, hd, h⟩
      · simp only [Tracer.is_complete] at hc; cases hc
      · simp only [Tracer.is_complete] at hc
        simp only [walkable, hd, ih _ i h hc, Bool.not_false, Bool.and_self]
    | .tuple ts, ih | .tupleStruct _ ts, ih =>
      simp only [Conf] at h
      rcases h with ⟨n, nl, rfl⟩ | ⟨n, nl, fts, rfl, hd, h⟩
      · simp only [Tracer.is_complete] at hc; cases hc
      · simp only [Tracer.is_complete] at hc
        simp only [walkable, hd, ih p 0 fts h hc, Bool.not_false, Bool.and_self]
    | .map k v, ih =>
      simp only [Conf] at h
      rcases h with ⟨n, nl, rfl⟩ | ⟨n, nl, kt, vt, rfl, hm, hd, hk, hv⟩
      · simp only [Tracer.is_complete] at hc; cases hc
      · simp only [Tracer.is_complete, Bool.and_eq_true] at hc
        simp only [walkable, hd, hm, ih.1 _ kt hk hc.1, ih.2 _ vt hv hc.2, Bool.not_false, Bool.and_self]
    | .struct _ fs, ih =>
      simp only [Conf] at h
      rcases h with ⟨n, nl, rfl⟩ | ⟨n, nl, tfs, s, rfl, hd, h⟩
      · simp only [Tracer.is_complete] at hc; cases hc
      · simp only [Tracer.is_complete] at hc
        simp only [walkable, hd, ih p tfs h hc, Bool.not_false, Bool.and_self]
    | .enum _ vs, ih =>
      simp only [Conf] at h
      rcases h with ⟨n, nl, rfl⟩ | ⟨n, nl, V, rfl, hd, hne, h⟩
      · simp only [Tracer.is_complete] at hc; cases hc
      · simp only [Tracer.is_complete] at hc
        have : (vs.length != 0) = true := by simp only [bne_iff_ne, ne_eq]; exact hne
        simp only [walkable, hd, this, ih p V h hc, Bool.not_false, Bool.and_self]
  case tnil => intro _ _ _ _ _; simp only [walkableTys]
  case tcons =>
    intro t r iht ihr p i _ h hc
    simp only [ConfTys] at h
    obtain ⟨tr, rest, rfl, h1, h2⟩ := h
    simp only [Tracers.all_complete, Bool.and_eq_true] at hc
    simp only [walkableTys, iht _ tr h1 hc.1, ihr p (i + 1) rest h2 hc.2, Bool.and_self]
  case fnil => intro _ _ _ _; simp only [walkableFields]
  case fcons =>
    intro fname t r iht ihr p _ h hc
    simp only [ConfFields] at h
    obtain ⟨n, l, tr, rest, rfl, h1, h2⟩ := h
    simp only [TFields.all_complete, Bool.and_eq_true] at hc
    simp only [walkableFields, iht _ tr h1 hc.1, ihr p rest h2 hc.2, Bool.and_self]
  case vnil => intro _ _ _ _; simp only [walkableVariants]
  case vcons =>
    intro vs n T r hh ihT ihr p _ h hc
    obtain ⟨vn, vt, R, rfl, h1, h2⟩ := (hh.conf_iff o p _).1 h
    simp only [Variants.all_complete, Bool.and_eq_true] at hc
    rw [hh.walkable_eq, ihT _ vt h1 hc.1, ihr p R h2 hc.2]; rfl

theorem conf_complete_walkable (o : Options) : ∀ (ty : Ty) (p : String) (t : Tracer),
    Conf o p ty t → t.is_complete = true → walkable o p ty = true :=
  (conf_complete_walkable_all o).1

theorem confTys_complete_walkable (o : Options) : ∀ (ts : Tys) (p : String) (i : Nat) (fts : Tracers),
    ConfTys o p i ts fts → fts.all_complete = true → walkableTys o p i ts = true :=
  (conf_complete_walkable_all o).2.1

theorem confFields_complete_walkable (o : Options) : ∀ (fs : TyFields) (p : String) (tfs : TFields),
    ConfFields o p fs tfs → tfs.all_complete = true → walkableFields o p fs = true :=
  (conf_complete_walkable_all o).2.2.1

theorem confVariants_complete_walkable (o : Options) : ∀ (vs : TyVariants) (p : String) (V : Variants),
    ConfVariants o p vs V → V.all_complete = true → walkableVariants o p vs = true :=
  (conf_complete_walkable_all o).2.2.2

end SaModel.Lemmas.C08
