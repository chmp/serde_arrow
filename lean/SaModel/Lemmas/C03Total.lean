import SaModel.Lemmas.C03Faithful
/-
Totality of `finish` (`into_array`):

    finish_totalG : WFH b → FinB b → PlaceholderStr b ∨ WFB b → ∃ a, finish ext b = ok a
    finish_total  : WFB b → FinB b → ∃ a, finish ext b = ok a                       (instance)
    finish_totalH : WFH b → FinB b → PlaceholderStr b → ∃ a, finish ext b = ok a     (instance)

`into_array` has exactly four failure sites, all checked conversions or a push:
  * `FixedSizeBinaryBuilder` / `FixedSizeListBuilder`: `n: usize → i32` (`n` came from an `i32`, so it never fails in the
    crate; in the model `n : Nat` is unbounded)                                          — `FinB`: `n ≤ i32::MAX`
  * `UnionBuilder`: the variant index `usize → i8`                                       — `FinB`: at most 128 variants
  * `DictionaryUtf8Builder`: the placeholder `self.values.serialize_str("")` when a non-nullable keys builder holds
    rows while the dictionary has no value (`placeholder_step`).  Under the strict dictionary clause of `WFB` (every key
    designates a value) and an integer-leaf keys builder (`FinB`; what `build_builder` guarantees) that branch is
    unreachable (`dict_placeholder_dead`).  Under the weak invariant `WFH` it is LIVE (placeholder keys `0`), and
    `serialize_str("")` succeeds exactly when the value builder takes strings:
    `PlaceholderStr` (shape only, invariant under `take`) — the value builder of every dictionary with NON-nullable keys is
    a Utf8 / LargeUtf8 `.bytes` builder or a Utf8View `.bytesView` builder (`isStrB`; ANY validity — `serialize_str` sets
    the bit).  A Binary / LargeBinary / BinaryView (or any other) value builder refuses it and `finish` FAILS in the model
    (`placeholder_binary_fails`, Lemmas/C03ObsTotal.lean; `PlaceholderOK` — what `Sound` needs — allows binary value
    builders, so it is not the right hypothesis here).  NO bound on the offsets is needed: the branch only fires when
    `index` is empty, and `WFH` ties the number of values to `index.length`, so the value builder is EMPTY — its offsets
    are `[0]`, and `0 + 0 ≤ offMax`.
`FinB` is a property of the builder's shape only (`FinB_takeRest`), and it holds of every builder `build_builder`
creates for a well-typed data type (`typedDT`: sizes are `i32` values, union type ids `i8` values — true of every marrow
`DataType` by type; `build_builder` demands the type ids 0, 1, 2, …, so there are at most 128 variants): `FinB_of_builtFor`.
-/
namespace SaModel.Lemmas.C03
open SaModel SaModel.Build SaModel.Spec

mutual
/-- no checked conversion of `into_array` can fail: sizes fit `i32`, at most 128 union variants, dictionary keys are
stored by an integer leaf builder -/
def FinB : B → Prop
  | .fixedSizeBinary _ n _ _ _ _ => n ≤ 2147483647
  | .list _ _ _ _ _ el => FinB el
  | .fixedSizeList _ _ n _ _ _ el => n ≤ 2147483647 ∧ FinB el
  | .map _ _ _ _ ks vs => FinB ks ∧ FinB vs
  | .struct _ _ _ fs _ _ _ => FinBL fs
  | .dictionary _ idx vals _ => isIntLeaf idx = true ∧ FinB vals
  | .union _ fs _ _ _ => fs.length ≤ 128 ∧ FinBL fs
  | _ => True
def FinBL : BL → Prop
  | .nil => True
  | .cons b _ r => FinB b ∧ FinBL r
end

mutual
/-- `FinB` only depends on what survives `take` -/
theorem FinB_takeRest : ∀ (b : B), FinB (takeRest b) ↔ FinB b
  | .null _ _ | .unknownVariant _ | .leaf _ _ _ _ | .bytes _ _ _ _ _ | .bytesView _ _ _ _ _
  | .fixedSizeBinary _ _ _ _ _ _ => by simp only [takeRest, FinB]
  | .list _ _ _ _ _ el | .fixedSizeList _ _ _ _ _ _ el => by simp only [takeRest, FinB, FinB_takeRest el]
  | .map _ _ _ _ ks vs => by simp only [takeRest, FinB, FinB_takeRest ks, FinB_takeRest vs]
  | .struct _ _ _ fs _ _ _ => by simp only [takeRest, FinB, FinBL_takeRestAll fs]
  | .dictionary _ idx vals _ => by simp only [takeRest, FinB, isIntLeaf_takeRest, FinB_takeRest vals]
  | .union _ fs _ _ _ => by simp only [takeRest, FinB, takeRestAll_length, FinBL_takeRestAll fs]
theorem FinBL_takeRestAll : ∀ (bl : BL), FinBL (takeRestAll bl) ↔ FinBL bl
  | .nil => by simp only [takeRestAll]
  | .cons b _ r => by simp only [takeRestAll, FinBL, FinB_takeRest b, FinBL_takeRestAll r]
end

theorem FinB_of_takeRest_eq (b b' : B) (h : takeRest b' = takeRest b) (hb : FinB b) : FinB b' := by
  rw [← FinB_takeRest b', h, FinB_takeRest b]; exact hb

mutual
/-- the integer parameters of a data type have the width of their Rust types: the sizes of `FixedSizeBinary` /
`FixedSizeList` are `i32` values, union type ids are `i8` values.  In marrow this holds by type; the model's `DataType`
carries unbounded `Int`s -/
def typedDT : DataType → Bool
  | .fixedSizeBinary n => decide (-2147483648 ≤ n ∧ n ≤ 2147483647)
  | .list f => typedF f
  | .largeList f => typedF f
  | .fixedSizeList f n => decide (-2147483648 ≤ n ∧ n ≤ 2147483647) && typedF f
  | .map f _ => typedF f
  | .struct fs => typedFs fs
  | .dictionary k v => typedDT k && typedDT v
  | .union ufs _ => typedU ufs
  | _ => true
def typedF : Field → Bool
  | .mk _ dt _ _ => typedDT dt
def typedFs : Fields → Bool
  | .nil => true
  | .cons f r => typedF f && typedFs r
def typedU : UFields → Bool
  | .nil => true
  | .cons tid f r => decide (-128 ≤ tid ∧ tid ≤ 127) && typedF f && typedU r
end

theorem typedF_iff (f : Field) : typedF f = typedDT f.dataType := by
  cases f; simp only [typedF, Field.dataType]

/-- consecutive type ids starting at `k` that all fit `i8`: at most `128 - k` variants -/
theorem BuiltForU_length : ∀ (ufs : UFields) (bl : BL) (k : Nat), BuiltForU ufs bl k → typedU ufs = true → k ≤ 128 →
    k + bl.length ≤ 128
  | .nil, .nil, _, _, _, hk => by simp only [BL.length]; omega
  | .nil, .cons _ _ _, _, h, _, _ => by simp [BuiltForU] at h
  | .cons _ _ _, .nil, _, h, _, _ => by simp [BuiltForU] at h
  | .cons tid _ r, .cons _ _ rl, k, h, ht, _ => by
    simp only [BuiltForU] at h
    simp only [typedU, Bool.and_eq_true, decide_eq_true_eq] at ht
    have := BuiltForU_length r rl (k + 1) h.2.2.2 ht.2 (by omega)
    simp only [BL.length]; omega

theorem FinB_cases : BuiltForCases (fun dt _ b => typedDT dt = true → FinB b) (fun fs bl => typedFs fs = true → FinBL bl)
    (fun ufs bl _ => typedU ufs = true → FinBL bl) where
  null _ := trivial
  unknownVariant _ := trivial
  leaf _ := trivial
  bytes _ := trivial
  bytesView _ := trivial
  fixedSizeBinary hp := by simp only [typedDT, decide_eq_true_eq] at hp; simp only [FinB]; omega
  list _ ih hp := ih hp
  largeList _ ih hp := ih hp
  fixedSizeList _ ih hp := by
    simp only [typedDT, typedF, Bool.and_eq_true, decide_eq_true_eq] at hp
    exact ⟨by omega, ih hp.2⟩
  map _ ihk _ ihv hp := by
    simp only [typedDT, typedF, typedFs, Bool.and_eq_true, Bool.and_true] at hp
    exact ⟨ihk hp.1, ihv hp.2⟩
  struct _ ih hp := ih hp
  dictionary hk hbi _ _ ihv hp := by
    simp only [typedDT, Bool.and_eq_true] at hp
    exact ⟨isIntLeaf_of_builtFor _ _ _ hk hbi, ihv hp.2⟩
  union hbu ih hp := ⟨by have := BuiltForU_length _ _ 0 hbu hp (by omega); omega, ih hp⟩
  nilL _ := trivial
  consL _ ih _ ihr hp := by
    simp only [typedFs, typedF, Bool.and_eq_true] at hp
    exact ⟨ih hp.1, ihr hp.2⟩
  nilU _ := trivial
  consU _ ih _ ihr hp := by
    simp only [typedU, typedF, Bool.and_eq_true] at hp
    exact ⟨ih hp.1.2, ihr hp.2⟩

/-- the builder of a well-typed data type is `FinB` -/
theorem FinB_of_builtFor : ∀ (b : B) (dt : DataType) (nl : Bool), BuiltFor dt nl b → typedDT dt = true → FinB b :=
  FinB_cases.builtFor

theorem FinBL_of_builtForL : ∀ (bl : BL) (fs : Fields), BuiltForL fs bl → typedFs fs = true → FinBL bl :=
  FinB_cases.builtForL

theorem FinBL_of_builtForU : ∀ (bl : BL) (ufs : UFields) (k : Nat), BuiltForU ufs bl k → typedU ufs = true → FinBL bl :=
  FinB_cases.builtForU

/-- a Utf8 / LargeUtf8 / Utf8View builder (any validity) -/
def isStrB : B → Bool
  | .bytes _ ty _ _ _ => isUtf8Ty ty
  | .bytesView _ ty _ _ _ => ty == .utf8View
  | _ => false

mutual
/-- the value builder of every dictionary with NON-nullable keys takes strings -/
def PlaceholderStr : B → Prop
  | .list _ _ _ _ _ el => PlaceholderStr el
  | .fixedSizeList _ _ _ _ _ _ el => PlaceholderStr el
  | .map _ _ _ _ ks vs => PlaceholderStr ks ∧ PlaceholderStr vs
  | .struct _ _ _ fs _ _ _ => PlaceholderStrL fs
  | .dictionary _ idx vals _ => (idx.isNullable = false → isStrB vals = true) ∧ PlaceholderStr idx ∧ PlaceholderStr vals
  | .union _ fs _ _ _ => PlaceholderStrL fs
  | _ => True
def PlaceholderStrL : BL → Prop
  | .nil => True
  | .cons b _ r => PlaceholderStr b ∧ PlaceholderStrL r
end

theorem isStrB_takeRest (b : B) : isStrB (takeRest b) = isStrB b := by
  cases b <;> rfl

mutual
theorem PlaceholderStr_takeRest : ∀ (b : B), PlaceholderStr (takeRest b) ↔ PlaceholderStr b
  | .null _ _ | .unknownVariant _ | .leaf _ _ _ _ | .bytes _ _ _ _ _ | .bytesView _ _ _ _ _
  | .fixedSizeBinary _ _ _ _ _ _ => by simp only [takeRest, PlaceholderStr]
  | .list _ _ _ _ _ el | .fixedSizeList _ _ _ _ _ _ el => by simp only [takeRest, PlaceholderStr, PlaceholderStr_takeRest el]
  | .map _ _ _ _ ks vs => by simp only [takeRest, PlaceholderStr, PlaceholderStr_takeRest ks, PlaceholderStr_takeRest vs]
  | .struct _ _ _ fs _ _ _ => by simp only [takeRest, PlaceholderStr, PlaceholderStrL_takeRestAll fs]
  | .dictionary _ idx vals _ => by
    simp only [takeRest, PlaceholderStr, isNullable_takeRest, isStrB_takeRest, PlaceholderStr_takeRest idx,
      PlaceholderStr_takeRest vals]
  | .union _ fs _ _ _ => by simp only [takeRest, PlaceholderStr, PlaceholderStrL_takeRestAll fs]
theorem PlaceholderStrL_takeRestAll : ∀ (bl : BL), PlaceholderStrL (takeRestAll bl) ↔ PlaceholderStrL bl
  | .nil => by simp only [takeRestAll]
  | .cons b _ r => by simp only [takeRestAll, PlaceholderStrL, PlaceholderStr_takeRest b, PlaceholderStrL_takeRestAll r]
end

theorem PlaceholderStr_of_takeRest_eq (b b' : B) (h : takeRest b' = takeRest b) (hb : PlaceholderStr b) :
    PlaceholderStr b' := by
  rw [← PlaceholderStr_takeRest b', h, PlaceholderStr_takeRest b]; exact hb

theorem strBytes_empty : strBytes "" = [] := by simp [strBytes]

/-- the placeholder `self.values.serialize_str("")` succeeds on a string builder that holds no value (no bound on the
offsets needed: they are `[0]`) -/
theorem placeholder_push_ok (ext : Ext) (vals : B) (hw : WFH vals) (h0 : (dec vals).length = 0)
    (hs : isStrB vals = true) : ∃ v', pushScalar ext vals (.str "") = .ok v' := by
  cases vals with
  | bytes p ty v offs data =>
    simp only [isStrB] at hs
    obtain ⟨ho, hv⟩ := WFH_bytes hw
    have hl : (dec (.bytes p ty v offs data)).length = offs.length - 1 := by
      simp only [dec]
      exact Lemmas.C03.maskNull_length v _ _ hv (by simp [Lemmas.C03.pairs_length])
    rw [hl] at h0
    have hoffs : offs = [0] := by
      cases offs with
      | nil => have := ho.1; simp at this
      | cons a r =>
        cases r with
        | nil => have := ho.1; simp at this; rw [this]
        | cons c r' => simp at h0
    subst hoffs
    cases v <;> cases hlg : isLargeTy ty <;>
      simp [pushScalar, hs, scalarToString, strBytes_empty, setValidity, duplicateLast, incrementLast, offMax, hlg, bind,
        Except.bind, pure, Except.pure]
  | bytesView p ty v views buf =>
    simp only [isStrB] at hs
    cases v <;>
      simp [pushScalar, hs, scalarToString, strBytes_empty, setValidity, viewPushValue, bind, Except.bind, pure,
        Except.pure]
  | _ => simp [isStrB] at hs

theorem intLeaf_FinB (idx : B) (h : isIntLeaf idx = true) : FinB idx := by
  cases idx with
  | leaf p kind v vals => simp only [FinB]
  | _ => simp [isIntLeaf] at h

theorem finishLeaf_ok (ext : Ext) (p : String) (k : LeafKind) (v : Validity) (vals : List Int) :
    finish ext (.leaf p k v vals) = .ok (finishLeaf k v vals) := finish_leaf ext p k v vals

/-- the placeholder branch of `DictionaryUtf8Builder::into_array` is unreachable when the keys builder is an integer
leaf and every key designates a value -/
theorem dict_placeholder_dead (idx : B) (index : List String) (hi : isIntLeaf idx = true)
    (hs : ∀ k ∈ dec idx, ∀ j : Int, k = .int j → 0 ≤ j ∧ j.toNat < index.length) :
    needsPlaceholder idx index = false := by
  cases idx with
  | leaf p kind v vals =>
    cases kind with
    | int t =>
      cases v with
      | some bits => simp [needsPlaceholder, B.isNullable]
      | none =>
        cases vals with
        | nil => simp [needsPlaceholder, B.rows]
        | cons x rest =>
          cases index with
          | cons s r => simp [needsPlaceholder]
          | nil =>
            have := (hs (.int x) (by simp [dec, maskNull, leafVal]) x rfl).2
            simp at this
    | _ => simp [isIntLeaf] at hi
  | _ => simp [isIntLeaf] at hi

/-- the one fallible step of `into_array` besides the checked conversions: the placeholder `serialize_str("")` of a
dictionary.  Under the strict invariant the branch is dead, with a string value builder it succeeds. -/
theorem placeholder_step (ext : Ext) {p : String} {idx vals : B} {index : List String}
    (hw : WFH (.dictionary p idx vals index)) (hi : isIntLeaf idx = true)
    (hp : PlaceholderStr (.dictionary p idx vals index) ∨ WFB (.dictionary p idx vals index)) :
    needsPlaceholder idx index = false ∨ ∃ v', pushScalar ext vals (.str "") = .ok v' := by
  rcases hp with hp | hp
  · cases hnp : needsPlaceholder idx index with
    | false => exact Or.inl rfl
    | true =>
      simp only [needsPlaceholder, Bool.and_eq_true, Bool.not_eq_true', List.isEmpty_iff] at hnp
      simp only [PlaceholderStr] at hp
      obtain ⟨_, hwv, hlen⟩ := WFH_dictionary hw
      rw [hnp.2] at hlen
      exact Or.inr (placeholder_push_ok ext vals hwv (by simpa using hlen) (hp.1 hnp.1.1))
  · have hs := WFB_StrictDict _ hp
    simp only [StrictDict] at hs
    exact Or.inl (dict_placeholder_dead idx index hi hs.2)

mutual
/-- **`into_array` never fails** on a state that satisfies the weak invariant and whose checked conversions cannot fail
(`FinB`), provided the placeholder `serialize_str("")` of every dictionary with non-nullable keys cannot fail: the value
builder takes strings (`PlaceholderStr`), or the state is strictly well formed (`WFB`: the branch is dead) -/
theorem finish_totalG (ext : Ext) : ∀ (b : B), WFH b → FinB b → PlaceholderStr b ∨ WFB b → ∃ a, finish ext b = .ok a
  | .null _ _ => fun _ _ _ => ⟨_, finish_null ext _ _⟩
  | .unknownVariant _ => fun _ _ _ => ⟨_, finish_unknownVariant ext _⟩
  | .leaf _ _ _ _ => fun _ _ _ => ⟨_, finish_leaf ext _ _ _ _⟩
  | .bytes _ _ _ _ _ => fun _ _ _ => ⟨_, finish_bytes ext _ _ _ _ _⟩
  | .bytesView _ _ _ _ _ => fun _ _ _ => ⟨_, finish_bytesView ext _ _ _ _ _⟩
  | .fixedSizeBinary _ n _ _ _ _ => fun _ hf _ => by
    simp only [FinB] at hf
    have : ¬ ((n : Int) > 2147483647) := by omega
    simp only [finish, this, if_false]; exact ⟨_, rfl⟩
  | .list _ _ _ _ _ el => fun hw hf hp => by
    simp only [FinB] at hf
    obtain ⟨a, ha⟩ := finish_totalG ext el (WFH_list hw).2.2 hf
      (hp.imp (fun h => by simp only [PlaceholderStr] at h; exact h) WFB_list)
    simp only [finish, ha, bind, Except.bind, pure, Except.pure]; exact ⟨_, rfl⟩
  | .fixedSizeList _ _ n _ _ _ el => fun hw hf hp => by
    simp only [FinB] at hf
    obtain ⟨a, ha⟩ := finish_totalG ext el (WFH_fixedSizeList hw).2.2 hf.2
      (hp.imp (fun h => by simp only [PlaceholderStr] at h; exact h) WFB_fixedSizeList)
    have : ¬ ((n : Int) > 2147483647) := by omega
    simp only [finish, this, if_false, ha, bind, Except.bind, pure, Except.pure]; exact ⟨_, rfl⟩
  | .map _ _ _ _ ks vs => fun hw hf hp => by
    simp only [FinB] at hf
    have hp' : (PlaceholderStr ks ∧ PlaceholderStr vs) ∨ (WFB ks ∧ WFB vs) :=
      hp.imp (fun h => by simp only [PlaceholderStr] at h; exact h) WFB_map
    obtain ⟨a, ha⟩ := finish_totalG ext ks (WFH_map hw).2.2.2.1 hf.1 (hp'.imp And.left And.left)
    obtain ⟨c, hc⟩ := finish_totalG ext vs (WFH_map hw).2.2.2.2 hf.2 (hp'.imp And.right And.right)
    simp only [finish, ha, hc, bind, Except.bind, pure, Except.pure]; exact ⟨_, rfl⟩
  | .struct _ len _ fs _ _ _ => fun hw hf hp => by
    simp only [FinB] at hf
    obtain ⟨a, ha⟩ := finishFields_totalG ext fs (WFHL_WFHs fs len (WFH_struct hw).2) hf
      (hp.imp (fun h => by simp only [PlaceholderStr] at h; exact h) (fun h => WFL_WFBs fs len (WFB_struct h).2))
    simp only [finish, ha, bind, Except.bind, pure, Except.pure]; exact ⟨_, rfl⟩
  | .dictionary p idx vals index => fun hw hf hp => by
    simp only [FinB] at hf
    obtain ⟨hwi, hwv, _⟩ := WFH_dictionary hw
    have hp' : (PlaceholderStr idx ∧ PlaceholderStr vals) ∨ (WFB idx ∧ WFB vals) :=
      hp.imp (fun h => by simp only [PlaceholderStr] at h; exact h.2) (fun h => ⟨(WFB_dictionary h).1, (WFB_dictionary h).2.1⟩)
    obtain ⟨k, hk⟩ := finish_totalG ext idx hwi (intLeaf_FinB idx hf.1) (hp'.imp And.left And.left)
    obtain ⟨c, hc⟩ := finish_totalG ext vals hwv hf.2 (hp'.imp And.right And.right)
    rcases placeholder_step ext hw hf.1 hp with hdead | ⟨v', hv'⟩
    · have hdead : (!idx.isNullable && idx.rows != 0 && index.isEmpty) = false := hdead
      simp only [finish, hk, hc, bind, Except.bind, pure, Except.pure, hdead, Bool.false_eq_true, if_false]
      exact ⟨_, rfl⟩
    · have hctx : ctx vals.ann (pushScalar ext vals (.str "")) = .ok v' := by rw [hv']; rfl
      simp only [finish, hk, hc, bind, Except.bind, pure, Except.pure, hctx]
      split <;> exact ⟨_, rfl⟩
  | .union _ fs _ _ cur => fun hw hf hp => by
    simp only [FinB] at hf
    obtain ⟨a, ha⟩ := finishUFields_totalG ext fs 0 (WFHU_WFHs fs cur (WFH_union hw).2.1) hf.2
      (hp.imp (fun h => by simp only [PlaceholderStr] at h; exact h) (fun h => WFU_WFBs fs cur (WFB_union h))) (by omega)
    simp only [finish, ha, bind, Except.bind, pure, Except.pure]; exact ⟨_, rfl⟩
theorem finishFields_totalG (ext : Ext) : ∀ (fs : BL), WFHs fs → FinBL fs → PlaceholderStrL fs ∨ WFBs fs →
    ∃ a, finishFields ext fs = .ok a
  | .nil => fun _ _ _ => ⟨_, finishFields_nil ext⟩
  | .cons b m r => fun hw hf hp => by
    simp only [FinBL] at hf
    obtain ⟨a, ha⟩ := finish_totalG ext b hw.1 hf.1 (hp.imp And.left And.left)
    obtain ⟨c, hc⟩ := finishFields_totalG ext r hw.2 hf.2 (hp.imp And.right And.right)
    simp only [finishFields, ha, hc, bind, Except.bind, pure, Except.pure]; exact ⟨_, rfl⟩
theorem finishUFields_totalG (ext : Ext) : ∀ (fs : BL) (idx : Nat), WFHs fs → FinBL fs → PlaceholderStrL fs ∨ WFBs fs →
    idx + fs.length ≤ 128 → ∃ a, finishUFields ext fs idx = .ok a
  | .nil => fun _ _ _ _ _ => ⟨_, finishUFields_nil ext _⟩
  | .cons b m r => fun idx hw hf hp hl => by
    simp only [FinBL] at hf
    simp only [BL.length] at hl
    obtain ⟨a, ha⟩ := finish_totalG ext b hw.1 hf.1 (hp.imp And.left And.left)
    obtain ⟨c, hc⟩ := finishUFields_totalG ext r (idx + 1) hw.2 hf.2 (hp.imp And.right And.right) (by omega)
    have : ¬ (idx > 127) := by omega
    simp only [finishUFields, this, if_false, ha, hc, bind, Except.bind, pure, Except.pure]; exact ⟨_, rfl⟩
end

/-- **`into_array` never fails on a well-formed state** (`FinB`: the shape conditions under which its checked
conversions cannot fail — see the header) -/
theorem finish_total (ext : Ext) : ∀ (b : B), WFB b → FinB b → ∃ a, finish ext b = .ok a :=
  fun b hw hf => finish_totalG ext b (WFH_of_WFB b hw) hf (Or.inr hw)

theorem finishUFields_total (ext : Ext) : ∀ (fs : BL) (idx : Nat), WFBs fs → FinBL fs → idx + fs.length ≤ 128 →
    ∃ a, finishUFields ext fs idx = .ok a :=
  fun fs idx hw hf hl => finishUFields_totalG ext fs idx (WFHs_of_WFBs fs hw) hf (Or.inr hw) hl

theorem finishFields_total (ext : Ext) : ∀ (fs : BL), WFBs fs → FinBL fs → ∃ a, finishFields ext fs = .ok a :=
  fun fs hw hf => finishFields_totalG ext fs (WFHs_of_WFBs fs hw) hf (Or.inr hw)

/-- **`into_array` never fails on a state satisfying the weak invariant** (`FinB`: the checked conversions cannot fail;
`PlaceholderStr`: the placeholder `serialize_str("")` of a dictionary with non-nullable keys cannot fail) -/
theorem finish_totalH (ext : Ext) : ∀ (b : B), WFH b → FinB b → PlaceholderStr b → ∃ a, finish ext b = .ok a :=
  fun b hw hf hp => finish_totalG ext b hw hf (Or.inl hp)

theorem finishUFields_totalH (ext : Ext) : ∀ (fs : BL) (idx : Nat), WFHs fs → FinBL fs → PlaceholderStrL fs →
    idx + fs.length ≤ 128 → ∃ a, finishUFields ext fs idx = .ok a :=
  fun fs idx hw hf hp hl => finishUFields_totalG ext fs idx hw hf (Or.inl hp) hl

/-- `build_arrays` never fails on a root whose `into_array` cannot fail -/
theorem buildArrays_totalG (ext : Ext) (root : B) (hw : WFH root) (hf : FinB root) (hp : PlaceholderStr root ∨ WFB root)
    (hroot : ∃ p len v fs c n s, root = .struct p len v fs c n s) : ∃ r, buildArrays ext root = .ok r := by
  obtain ⟨p, len, v, fs, c, n, s, rfl⟩ := hroot
  simp only [FinB] at hf
  obtain ⟨a, ha⟩ := finishFields_totalG ext fs (WFHL_WFHs fs len (WFH_struct hw).2) hf
    (hp.imp (fun h => by simp only [PlaceholderStr] at h; exact h) (fun h => WFL_WFBs fs len (WFB_struct h).2))
  simp only [buildArrays, ha, bind, Except.bind, pure, Except.pure]; exact ⟨_, rfl⟩

theorem buildArrays_totalH (ext : Ext) (root : B) (hw : WFH root) (hf : FinB root) (hp : PlaceholderStr root)
    (hroot : ∃ p len v fs c n s, root = .struct p len v fs c n s) : ∃ r, buildArrays ext root = .ok r :=
  buildArrays_totalG ext root hw hf (Or.inl hp) hroot

theorem buildArrays_total (ext : Ext) (root : B) (hw : WFB root) (hf : FinB root)
    (hroot : ∃ p len v fs c n s, root = .struct p len v fs c n s) : ∃ r, buildArrays ext root = .ok r :=
  buildArrays_totalG ext root (WFH_of_WFB root hw) hf (Or.inr hw) hroot

end SaModel.Lemmas.C03
