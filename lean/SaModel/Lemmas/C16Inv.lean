import SaModel.Lemmas.C01NewInd
import SaModel.Lemmas.C10TakePush
import SaModel.Lemmas.C16Basic
/-
C16: the (weak) state invariant under which `push` cannot unwind.

`NPInv b`: in every struct builder of the tree `seen` and the name cache have one entry per field, and in every
union builder there is one `current_offset` counter per variant.  These are exactly the vectors the Rust code
indexes without a check (`self.seen[idx]`, `self.fields[idx]`, `self.lookup.cached_names[idx]`,
`self.current_offset[variant_index]`); and every Decimal128 leaf has a precision in 1..38 (`KindOK`: the only
precisions `build_builder` accepts, so the decimal parser is never asked for a wider one).  Nothing about row
counts, offsets or bitmaps is needed.

* established by `build_builder`: `newDT … = ok b → NPInv b`
* a function of what `take` leaves behind (`NPInv (takeRest b) ↔ NPInv b`), hence preserved by EVERY successful
  push of EVERY serde value (`push_takeRest` needs no hypothesis on the value or the state).
-/
namespace SaModel.Lemmas.C16
open SaModel SaModel.Build

/-- the decimal parser is only ever created for precisions the builder constructor accepts -/
def KindOK : LeafKind → Prop
  | .decimal p _ => 1 ≤ p ∧ p ≤ 38
  | _ => True

mutual
def NPInv : B → Prop
  | .leaf _ k _ _ => KindOK k
  | .list _ _ _ _ _ el => NPInv el
  | .fixedSizeList _ _ _ _ _ _ el => NPInv el
  | .map _ _ _ _ ks vs => NPInv ks ∧ NPInv vs
  | .struct _ _ _ fs cached _ seen => seen.length = fs.length ∧ cached.length = fs.length ∧ NPInvL fs
  | .dictionary _ idx vals _ => NPInv idx ∧ NPInv vals
  | .union _ fs _ _ cur => cur.length = fs.length ∧ NPInvL fs
  | _ => True
def NPInvL : BL → Prop
  | .nil => True
  | .cons b _ r => NPInv b ∧ NPInvL r
end

mutual
theorem NPInv_takeRest : ∀ (b : B), NPInv (takeRest b) ↔ NPInv b
  | .null _ _ | .unknownVariant _ | .leaf _ _ _ _ | .bytes _ _ _ _ _ | .bytesView _ _ _ _ _
  | .fixedSizeBinary _ _ _ _ _ _ => Iff.rfl
  | .list _ _ _ _ _ el | .fixedSizeList _ _ _ _ _ _ el => NPInv_takeRest el
  | .map _ _ _ _ ks vs | .dictionary _ ks vs _ => by simp only [takeRest, NPInv, NPInv_takeRest ks, NPInv_takeRest vs]
  | .struct _ _ _ fs _ _ _ | .union _ fs _ _ _ => by
    simp only [takeRest, NPInv, List.length_replicate, takeRestAll_length, NPInvL_takeRest fs]
theorem NPInvL_takeRest : ∀ (fs : BL), NPInvL (takeRestAll fs) ↔ NPInvL fs
  | .nil => Iff.rfl
  | .cons b _ r => by simp only [takeRestAll, NPInvL, NPInv_takeRest b, NPInvL_takeRest r]
end

theorem NPInv.of_takeRest {b b' : B} (h : takeRest b' = takeRest b) (hb : NPInv b) : NPInv b' :=
  (NPInv_takeRest b').1 (h ▸ (NPInv_takeRest b).2 hb)

theorem NPInvL.of_takeRest {fs fs' : BL} (h : takeRestAll fs' = takeRestAll fs) (hb : NPInvL fs) : NPInvL fs' :=
  (NPInvL_takeRest fs').1 (h ▸ (NPInvL_takeRest fs).2 hb)

theorem NPInvL.get : ∀ {fs : BL} {i : Nat} {c : B} {m : FieldMeta}, NPInvL fs → fs.get? i = some (c, m) → NPInv c
  | .nil, _, _, _, _, h => by simp [BL.get?] at h
  | .cons b _ r, 0, c, m, hl, h => by
    simp only [BL.get?, Option.some.injEq, Prod.mk.injEq] at h
    obtain ⟨rfl, _⟩ := h
    exact hl.1
  | .cons b _ r, i + 1, c, m, hl, h => by
    simp only [BL.get?] at h
    exact NPInvL.get hl.2 h

/-- of the leaf kinds only `.decimal` carries a condition, and `newDT` builds that leaf only behind its precision check -/
theorem kindOK_of_newDT {path : String} {dt : DataType} {k : LeafKind} {n : Bool} {md : Metadata}
    (hk : kindOf dt = some k) (h : newDT path dt n md = .ok (.leaf path k (newValidity n) [])) : KindOK k := by
  cases k with
  | decimal p s =>
    have hdt : dt = .decimal128 p s := by cases dt <;> first | cases hk; rfl | cases hk
    subst hdt
    simp only [newDT] at h
    split at h
    · assumption
    · cases h
  | _ => trivial

theorem mkStruct_npInv {path : String} {bl : BL} {n : Bool} {b : B} (hl : NPInvL bl) (h : mkStruct path bl n = .ok b) :
    NPInv b := by
  simp only [mkStruct] at h
  split at h
  · cases h
  · cases h; exact ⟨List.length_replicate, List.length_replicate, hl⟩

theorem newDT_npInv_all :
    (∀ (path : String) (dt : DataType) (nl : Bool) (md : Metadata), ∀ b, newDT path dt nl md = .ok b → NPInv b) ∧
    (∀ (path : String) (ufs : UFields) (k : Nat), ∀ bl, newUnionFields path ufs k = .ok bl → NPInvL bl) ∧
    (∀ (path : String) (f : Field), ∀ b, newB path f = .ok b → NPInv b) ∧
    (∀ (path : String) (fs : Fields), ∀ bl, newFields path fs = .ok bl → NPInvL bl) := by
  exact newDT_induct (P := fun _ _ _ _ b => NPInv b) (PL := fun _ _ bl => NPInvL bl) (PU := fun _ _ _ bl => NPInvL bl)
    (unknown := fun _ _ _ _ => trivial) (null := fun _ _ _ _ => trivial)
    (leaf := fun _ _ _ _ _ hk h => kindOK_of_newDT hk h)
    (bytes := fun _ _ _ _ => trivial) (view := fun _ _ _ _ => trivial) (fixedSizeBinary := fun _ _ _ _ => trivial)
    (list := fun _ _ _ _ _ _ ih => ih) (fixedSizeList := fun _ _ _ _ _ _ ih => ih)
    (map := fun _ _ _ _ _ _ _ _ _ _ ihk ihv => ⟨ihk, ihv⟩)
    (struct := fun _ _ _ _ _ _ ih h => mkStruct_npInv ih h)
    (dictionary := fun _ _ _ _ _ _ _ _ _ ihv => ⟨trivial, ihv⟩)
    (union := fun _ _ _ _ bl ih => ⟨List.length_replicate, ih⟩)
    (nil := fun _ => trivial) (cons := fun _ _ _ _ _ ihb ihr => ⟨ihb, ihr⟩)
    (unil := fun _ _ => trivial) (ucons := fun _ _ _ _ _ _ ihb ihr => ⟨ihb, ihr⟩)

theorem newDT_npInv {path : String} {dt : DataType} {nullable : Bool} {md : Metadata} {b : B}
    (h : newDT path dt nullable md = .ok b) : NPInv b := newDT_npInv_all.1 path dt nullable md b h

theorem newRoot_npInv {fields : List Field} {root : B} (h : newRoot fields = .ok root) : NPInv root := by
  simp only [newRoot] at h
  obtain ⟨bl, hf, h⟩ := (bind_ok _ _ _).1 h
  exact mkStruct_npInv (newDT_npInv_all.2.2.2 "$" _ bl hf) h

theorem push_npInv (ext : Ext) (x : SVal) {b b' : B} (hb : NPInv b) (h : push ext b x = .ok b') : NPInv b' :=
  NPInv.of_takeRest (push_takeRest ext x b b' h) hb

/-- the invariant on the mutable struct state while a record is being written -/
def SInv (s : SS) : Prop := s.seen.length = s.fields.length ∧ s.cached.length = s.fields.length ∧ NPInvL s.fields

theorem SInv.of_skel {s s' : SS} (h : SSkel s' s) (hs : SInv s) : SInv s' := by
  obtain ⟨_, _, h3, h4, h5⟩ := h
  have hl : s'.fields.length = s.fields.length := by
    rw [← takeRestAll_length s'.fields, h3, takeRestAll_length]
  exact ⟨by rw [h5, hl]; exact hs.1, by rw [h4, hl]; exact hs.2.1, NPInvL.of_takeRest h3 hs.2.2⟩

theorem SInv.next {s : SS} (hs : SInv s) (n : Nat) : SInv { s with next := n } := hs

theorem SInv.toB {s : SS} (hs : SInv s) : NPInv s.toB := by
  simp only [SS.toB, NPInv]; exact hs

end SaModel.Lemmas.C16
