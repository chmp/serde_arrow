import SaModel.Lemmas.C03Shape
import SaModel.Lemmas.C03BuiltFor
/-
Where `Faithful` / `Sound` come from.

`ShapeOK b` (no `FixedSizeBinary(0)`; the keys builder of every dictionary is an integer leaf) is a property of the
builder's shape: it only depends on `takeRest b`, and it holds of the builder created for a data type satisfying
`SchemaOK`.  `StrictDict b` is the strict dictionary clause of the state invariant `WFB` (no key designates a
missing value), as a predicate of its own; `WFB_StrictDict` extracts it from `WFB`.

    Faithful_of_strict : StrictDict b → ShapeOK b → Faithful b
-/
namespace SaModel.Lemmas.C03
open SaModel SaModel.Build SaModel.Spec

def isIntLeaf : B → Bool
  | .leaf _ (.int _) _ _ => true
  | _ => false

mutual
/-- no `FixedSizeBinary(0)`; dictionary keys are stored by an integer leaf builder -/
def ShapeOK : B → Prop
  | .fixedSizeBinary _ n _ _ _ _ => n ≠ 0
  | .list _ _ _ _ _ el => ShapeOK el
  | .fixedSizeList _ _ _ _ _ _ el => ShapeOK el
  | .map _ _ _ _ ks vs => ShapeOK ks ∧ ShapeOK vs
  | .struct _ _ _ fs _ _ _ => ShapeOKL fs
  | .dictionary _ idx vals _ => isIntLeaf idx = true ∧ ShapeOK vals
  | .union _ fs _ _ _ => ShapeOKL fs
  | _ => True
def ShapeOKL : BL → Prop
  | .nil => True
  | .cons b _ r => ShapeOK b ∧ ShapeOKL r
end

mutual
/-- no dictionary key designates a value the dictionary does not have -/
def StrictDict : B → Prop
  | .list _ _ _ _ _ el => StrictDict el
  | .fixedSizeList _ _ _ _ _ _ el => StrictDict el
  | .map _ _ _ _ ks vs => StrictDict ks ∧ StrictDict vs
  | .struct _ _ _ fs _ _ _ => StrictDictL fs
  | .dictionary _ idx vals index =>
    StrictDict vals ∧ ∀ k ∈ dec idx, ∀ j : Int, k = .int j → 0 ≤ j ∧ j.toNat < index.length
  | .union _ fs _ _ _ => StrictDictL fs
  | _ => True
def StrictDictL : BL → Prop
  | .nil => True
  | .cons b _ r => StrictDict b ∧ StrictDictL r
end

theorem isIntLeaf_takeRest (b : B) : isIntLeaf (takeRest b) = isIntLeaf b := by
  cases b with
  | leaf _ k _ _ => cases k <;> rfl
  | _ => rfl

mutual
theorem ShapeOK_takeRest : ∀ (b : B), ShapeOK (takeRest b) ↔ ShapeOK b
  | .null _ _ | .unknownVariant _ | .leaf _ _ _ _ | .bytes _ _ _ _ _ | .bytesView _ _ _ _ _
  | .fixedSizeBinary _ _ _ _ _ _ => by simp only [takeRest, ShapeOK]
  | .list _ _ _ _ _ el | .fixedSizeList _ _ _ _ _ _ el => by simp only [takeRest, ShapeOK, ShapeOK_takeRest el]
  | .map _ _ _ _ ks vs => by simp only [takeRest, ShapeOK, ShapeOK_takeRest ks, ShapeOK_takeRest vs]
  | .struct _ _ _ fs _ _ _ => by simp only [takeRest, ShapeOK, ShapeOKL_takeRestAll fs]
  | .dictionary _ idx vals _ => by simp only [takeRest, ShapeOK, isIntLeaf_takeRest, ShapeOK_takeRest vals]
  | .union _ fs _ _ _ => by simp only [takeRest, ShapeOK, ShapeOKL_takeRestAll fs]
theorem ShapeOKL_takeRestAll : ∀ (bl : BL), ShapeOKL (takeRestAll bl) ↔ ShapeOKL bl
  | .nil => by simp only [takeRestAll]
  | .cons b _ r => by simp only [takeRestAll, ShapeOKL, ShapeOK_takeRest b, ShapeOKL_takeRestAll r]
end

theorem ShapeOK_of_takeRest_eq (b b' : B) (h : takeRest b' = takeRest b) (hb : ShapeOK b) : ShapeOK b' := by
  rw [← ShapeOK_takeRest b', h, ShapeOK_takeRest b]; exact hb

mutual
/-- no `FixedSizeBinary(0)` (known finding).  (Integer dictionary key types are not demanded here: `build_builder`
refuses other key types — repo fix 7359431 — and `BuiltFor` carries `isIntDT k`.) -/
def SchemaOK : DataType → Prop
  | .fixedSizeBinary n => n ≠ 0
  | .list f => SchemaOKF f
  | .largeList f => SchemaOKF f
  | .fixedSizeList f _ => SchemaOKF f
  | .map f _ => SchemaOKF f
  | .struct fs => SchemaOKFs fs
  | .dictionary _ v => SchemaOK v
  | .union fs _ => SchemaOKU fs
  | _ => True
def SchemaOKF : Field → Prop
  | .mk _ dt _ _ => SchemaOK dt
def SchemaOKFs : Fields → Prop
  | .nil => True
  | .cons f r => SchemaOKF f ∧ SchemaOKFs r
def SchemaOKU : UFields → Prop
  | .nil => True
  | .cons _ f r => SchemaOKF f ∧ SchemaOKU r
end

theorem SchemaOKF_iff (f : Field) : SchemaOKF f ↔ SchemaOK f.dataType := by
  cases f; simp only [SchemaOKF, Field.dataType]

theorem isIntLeaf_of_builtFor (b : B) (k : DataType) (nl : Bool) (hk : isIntDT k = true) (hb : BuiltFor k nl b) :
    isIntLeaf b = true := by
  have := Build.builtFor_intLeaf b k nl hb hk
  cases b with
  | leaf p kind v vals => cases kind <;> first | rfl | cases this
  | _ => cases this

theorem ShapeOK_cases : BuiltForCases (fun dt _ b => SchemaOK dt → ShapeOK b) (fun fs bl => SchemaOKFs fs → ShapeOKL bl)
    (fun ufs bl _ => SchemaOKU ufs → ShapeOKL bl) where
  null _ := trivial
  unknownVariant _ := trivial
  leaf _ := trivial
  bytes _ := trivial
  bytesView _ := trivial
  fixedSizeBinary hs := by simp only [SchemaOK] at hs; simp only [ShapeOK]; omega
  list _ ih hs := ih hs
  largeList _ ih hs := ih hs
  fixedSizeList _ ih hs := ih hs
  map _ ihk _ ihv hs := by
    simp only [SchemaOK, SchemaOKF, SchemaOKFs, and_true] at hs
    exact ⟨ihk hs.1, ihv hs.2⟩
  struct _ ih hs := ih hs
  dictionary hk hbi _ _ ihv hs := ⟨isIntLeaf_of_builtFor _ _ _ hk hbi, ihv hs⟩
  union _ ih hs := ih hs
  nilL _ := trivial
  consL _ ih _ ihr hs := ⟨ih hs.1, ihr hs.2⟩
  nilU _ := trivial
  consU _ ih _ ihr hs := ⟨ih hs.1, ihr hs.2⟩

/-- the builder of a `SchemaOK` data type is `ShapeOK` -/
theorem BuiltFor_ShapeOK : ∀ (b : B) (dt : DataType) (nl : Bool), BuiltFor dt nl b → SchemaOK dt → ShapeOK b :=
  ShapeOK_cases.builtFor

theorem BuiltForL_ShapeOKL : ∀ (bl : BL) (fs : Fields), BuiltForL fs bl → SchemaOKFs fs → ShapeOKL bl :=
  ShapeOK_cases.builtForL

theorem BuiltForU_ShapeOKL : ∀ (bl : BL) (ufs : UFields) (k : Nat), BuiltForU ufs bl k → SchemaOKU ufs → ShapeOKL bl :=
  ShapeOK_cases.builtForU

theorem intLeaf_keys (idx : B) (h : isIntLeaf idx = true) : ∀ k ∈ dec idx, k = .null ∨ ∃ j : Int, k = .int j := by
  cases idx with
  | leaf p kind v vals =>
    cases kind with
    | int t => exact leaf_int_keys p t v vals
    | _ => simp [isIntLeaf] at h
  | _ => simp [isIntLeaf] at h

theorem intLeaf_Faithful (idx : B) (h : isIntLeaf idx = true) : Faithful idx := by
  cases idx with
  | leaf p kind v vals => simp only [Faithful]
  | _ => simp [isIntLeaf] at h

mutual
theorem Faithful_of_strict : ∀ (b : B), StrictDict b → ShapeOK b → Faithful b
  | .null _ _ | .unknownVariant _ | .leaf _ _ _ _ | .bytes _ _ _ _ _ | .bytesView _ _ _ _ _ =>
    fun _ _ => by simp only [Faithful]
  | .fixedSizeBinary _ n _ _ _ _ => fun _ ho => by
    simp only [ShapeOK] at ho
    simp only [Faithful]
    intro h; exact absurd h ho
  | .list _ _ _ _ _ el => fun hs ho => by
    simp only [StrictDict] at hs; simp only [ShapeOK] at ho; simp only [Faithful]
    exact Faithful_of_strict el hs ho
  | .fixedSizeList _ _ _ _ _ _ el => fun hs ho => by
    simp only [StrictDict] at hs; simp only [ShapeOK] at ho; simp only [Faithful]
    exact Faithful_of_strict el hs ho
  | .map _ _ _ _ ks vs => fun hs ho => by
    simp only [StrictDict] at hs; simp only [ShapeOK] at ho; simp only [Faithful]
    exact ⟨Faithful_of_strict ks hs.1 ho.1, Faithful_of_strict vs hs.2 ho.2⟩
  | .struct _ _ _ fs _ _ _ => fun hs ho => by
    simp only [StrictDict] at hs; simp only [ShapeOK] at ho; simp only [Faithful]
    exact FaithfulL_of_strict fs hs ho
  | .dictionary _ idx vals index => fun hs ho => by
    simp only [StrictDict] at hs; simp only [ShapeOK] at ho; simp only [Faithful]
    exact ⟨intLeaf_Faithful idx ho.1, Faithful_of_strict vals hs.1 ho.2,
      faithful_keys_of_strict (dec idx) index.length (intLeaf_keys idx ho.1) hs.2⟩
  | .union _ fs _ _ _ => fun hs ho => by
    simp only [StrictDict] at hs; simp only [ShapeOK] at ho; simp only [Faithful]
    exact FaithfulL_of_strict fs hs ho
theorem FaithfulL_of_strict : ∀ (bl : BL), StrictDictL bl → ShapeOKL bl → FaithfulL bl
  | .nil => fun _ _ => trivial
  | .cons b _ r => fun hs ho => by
    simp only [StrictDictL] at hs; simp only [ShapeOKL] at ho; simp only [FaithfulL]
    exact ⟨Faithful_of_strict b hs.1 ho.1, FaithfulL_of_strict r hs.2 ho.2⟩
end

mutual
/-- `StrictDict` is part of `WFB` (Build/Inv.lean: no key designates a value the dictionary does not have) -/
theorem WFB_StrictDict : ∀ (b : B), WFB b → StrictDict b
  | .null _ _ | .unknownVariant _ | .leaf _ _ _ _ | .bytes _ _ _ _ _ | .bytesView _ _ _ _ _
  | .fixedSizeBinary _ _ _ _ _ _ => fun _ => by simp only [StrictDict]
  | .list _ _ _ _ _ el => fun h => by simp only [StrictDict]; exact WFB_StrictDict el (WFB_list h)
  | .fixedSizeList _ _ _ _ _ _ el => fun h => by simp only [StrictDict]; exact WFB_StrictDict el (WFB_fixedSizeList h)
  | .map _ _ _ _ ks vs => fun h => by
    simp only [StrictDict]
    exact ⟨WFB_StrictDict ks (WFB_map h).1, WFB_StrictDict vs (WFB_map h).2⟩
  | .struct _ len _ fs _ _ _ => fun h => by
    simp only [StrictDict]; exact WFBs_StrictDictL fs (WFL_WFBs fs len (WFB_struct h).2)
  | .dictionary _ idx vals index => fun h => by
    simp only [StrictDict]
    refine ⟨WFB_StrictDict vals (WFB_dictionary h).2.1, ?_⟩
    simp only [WFB] at h
    exact h.2.2.2.2.1
  | .union _ fs _ _ cur => fun h => by
    simp only [StrictDict]; exact WFBs_StrictDictL fs (WFU_WFBs fs cur (WFB_union h))
theorem WFBs_StrictDictL : ∀ (fs : BL), WFBs fs → StrictDictL fs
  | .nil => fun _ => trivial
  | .cons b _ r => fun h => by
    simp only [WFBs] at h; simp only [StrictDictL]
    exact ⟨WFB_StrictDict b h.1, WFBs_StrictDictL r h.2⟩
end

end SaModel.Lemmas.C03
