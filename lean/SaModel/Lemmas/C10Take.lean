import SaModel.Lemmas.C01Cont
import SaModel.Lemmas.C01DefaultAt
import SaModel.Lemmas.OpsInd
/-
`take` after any successful operation leaves the same builder behind as `take` before it: no push, null or
placeholder changes the part of a builder state that survives `take` (paths, types, nullability, child
structure; name cache / `seen` / counters only through their lengths).  No invariant is needed.
Used by C10 (`take_is_fresh`) and to carry schema-level predicates (`Safe`) across pushes.
-/
namespace SaModel.Build
open SaModel SaModel.Spec

theorem pure_ok {α} (a b : α) : (pure a : R α) = .ok b ↔ a = b := by
  constructor
  · intro h; cases h; rfl
  · rintro rfl; rfl

theorem setValidity_skel {v v' : Validity} {n : Nat} {b : Bool} (h : setValidity v n b = .ok v') :
    (v'.map fun _ => ([] : List Bool)) = v.map fun _ => [] := by
  cases v with
  | none => cases b <;> simp [setValidity, fail] at h; subst h; rfl
  | some bits => simp [setValidity] at h; subst h; rfl

theorem setValidityDefault_skel (v : Validity) (n : Nat) :
    ((setValidityDefault v n).map fun _ => ([] : List Bool)) = v.map fun _ => [] := by
  cases v <;> rfl

theorem takeRestAll_set : ∀ (fs : BL) (i : Nat) (c c' : B) (m : FieldMeta), fs.get? i = some (c, m) →
    takeRest c' = takeRest c → takeRestAll (fs.set i c') = takeRestAll fs
  | .nil, _, _, _, _, h, _ => by simp [BL.get?] at h
  | .cons b m r, 0, c, c', _, h, hc => by
    simp [BL.get?] at h; obtain ⟨rfl, rfl⟩ := h
    simp [BL.set, takeRestAll, hc]
  | .cons b m r, i + 1, c, c', m', h, hc => by
    simp only [BL.get?] at h
    simp [BL.set, takeRestAll, takeRestAll_set r i c c' m' h hc]

/-! ### placeholders, nulls and scalars

The `k` placeholder slots of a builder's own buffers touch the validity only through `setValidityDefault`. -/

theorem iter_skel {α} {f : α → R α} (g : α → Validity) (hstep : ∀ a a', f a = .ok a' → ∃ n, g a' = setValidityDefault (g a) n) :
    ∀ {k : Nat} {a a' : α}, iter k f a = .ok a' → ((g a').map fun _ => ([] : List Bool)) = (g a).map fun _ => []
  | 0, a, a', h => by cases h; rfl
  | k + 1, a, a', h => by
    obtain ⟨a1, h1, h2⟩ := R.bind_ok_inv h
    obtain ⟨n, hn⟩ := hstep a a1 h1
    rw [iter_skel g hstep h2, hn, setValidityDefault_skel]

theorem dupSlot_skel {k : Nat} {v v' : Validity} {offs offs' : List Int} (h : iter k dupSlot (v, offs) = .ok (v', offs')) :
    (v'.map fun _ => ([] : List Bool)) = v.map fun _ => [] :=
  iter_skel (·.1) (fun a a' ha => by
    obtain ⟨o, _, ho⟩ := R.bind_ok_inv ha
    cases ho
    exact ⟨_, rfl⟩) h

theorem countSlot_skel {k len len' : Nat} {v v' : Validity} (h : iter k countSlot (len, v) = .ok (len', v')) :
    (v'.map fun _ => ([] : List Bool)) = v.map fun _ => [] :=
  iter_skel (·.2) (fun a a' ha => by cases ha; exact ⟨_, rfl⟩) h

theorem takeRest_default : DefaultCases (fun b _ b' => takeRest b' = takeRest b)
    (fun fs _ fs' => takeRestAll fs' = takeRestAll fs) where
  defNull := rfl
  defUnknown := rfl
  defLeaf h := by simp [takeRest, iter_skel (·.1) (fun a a' ha => by cases ha; exact ⟨_, rfl⟩) h]
  defBytes h := by simp [takeRest, dupSlot_skel h]
  defView h := by simp [takeRest, iter_skel (·.1) (fun a a' ha => by cases ha; exact ⟨_, rfl⟩) h]
  defFixedSizeBinary h := by simp [takeRest, iter_skel (·.2.1) (fun a a' ha => by cases ha; exact ⟨_, rfl⟩) h]
  defList h := by simp [takeRest, dupSlot_skel h]
  defFixedSizeList h _ ih := by simp [takeRest, countSlot_skel h, ih]
  defMap h := by simp [takeRest, dupSlot_skel h]
  defStruct h _ ih := by simp [takeRest, countSlot_skel h, ih]
  defDict _ ih := by simp [takeRest, ih]
  defUnionNil := rfl
  defUnion hg _ _ ih := by simp [takeRest, takeRestAll_set _ _ _ _ _ hg ih]
  allNil := rfl
  allCons _ ih _ ihr := by simp [takeRestAll, ih, ihr]

theorem pushDefaultK_takeRest : ∀ (b : B) (k : Nat) (b' : B), pushDefaultK b k = .ok b' → takeRest b' = takeRest b :=
  takeRest_default.default

theorem pushDefaultKAll_takeRest : ∀ (fs : BL) (k : Nat) (fs' : BL), pushDefaultKAll fs k = .ok fs' →
    takeRestAll fs' = takeRestAll fs :=
  takeRest_default.defaultAll

theorem pushDefaultK_takeRest_at : ∀ (fs : BL) (j : Nat) (c : B) (m : FieldMeta), fs.get? j = some (c, m) →
    ∀ (k : Nat) (c' : B), pushDefaultK c k = .ok c' → takeRest c' = takeRest c :=
  fun _ _ c _ _ => pushDefaultK_takeRest c

theorem pushNone_takeRest : ∀ (b : B) (b' : B), pushNone b = .ok b' → takeRest b' = takeRest b :=
  fun b b' h => pushDefaultK_takeRest b 1 b' (pushNone_ok_iff.1 h).2

theorem takeRest_scalar (ext : Ext) : ScalarCases ext (fun b _ b' => takeRest b' = takeRest b) where
  null := rfl
  leaf _ h := by simp [takeRest, setValidity_skel h]
  bytes _ h _ _ := by simp [takeRest, setValidity_skel h]
  view _ _ h := by simp [takeRest, setValidity_skel h]
  fixedSizeBinary _ h := by simp [takeRest, setValidity_skel h]
  dictOld _ _ _ ih := by simp [takeRest, ih]
  dictNew _ _ _ ihv _ ihk := by simp [takeRest, ihv, ihk]

theorem pushScalar_takeRest (ext : Ext) : ∀ (b : B) (x : SVal) (b' : B), pushScalar ext b x = .ok b' →
    takeRest b' = takeRest b :=
  (takeRest_scalar ext).scalar

end SaModel.Build
