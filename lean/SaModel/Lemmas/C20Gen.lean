import SaModel.Ext.UtilsGen
/-
Soundness of the interpreters of `Ext/UtilsGen.lean` against the hand-written model `Ext/Utils.lean`, for ARBITRARY tables:
nothing here mentions the generated file, so the obligations in `Props/ConstGenExt.lean` are one `decide` (the criterion on
the table read from the source) plus an application of these lemmas.
-/
namespace SaModel.Lemmas.C20Gen
open SaModel SaModel.Ext

/-! ### `JsonString::fmt` -/

theorem escapeChar_high (c : Char) (h : 128 ≤ c.toNat) : escapeChar c = [c] := by
  have ne : ∀ d : Char, d.toNat < 128 → c ≠ d := by
    intro d hd hcd
    subst hcd
    omega
  unfold escapeChar
  rw [if_neg (ne _ (by decide)), if_neg (ne _ (by decide)), if_neg (ne _ (by decide)), if_neg (ne _ (by decide)),
    if_neg (ne _ (by decide)), if_neg (by omega)]

theorem escapeCharGen?_high (c : Char) (h : 128 ≤ c.toNat) :
    ∀ arms : List EscArm, arms.all EscArm.low = true → arms.contains .copy = true → escapeCharGen? arms c = some [c]
  | [], _, hc => by simp at hc
  | .copy :: _, _, _ => rfl
  | .lit a text :: rest, hl, hc => by
    simp only [List.all_cons, Bool.and_eq_true, EscArm.low, decide_eq_true_eq] at hl
    have hne : c ≠ a := by
      intro e
      subst e
      omega
    have hc' : rest.contains .copy = true := by
      simpa [List.contains_cons] using hc
    simp only [escapeCharGen?, if_neg hne]
    exact escapeCharGen?_high c h rest hl.2 hc'
  | .hexBelow bound pre zero width upper post :: rest, hl, hc => by
    simp only [List.all_cons, Bool.and_eq_true, EscArm.low, decide_eq_true_eq] at hl
    have hc' : rest.contains .copy = true := by
      simpa [List.contains_cons] using hc
    have hnb : ¬ c.toNat < bound := by omega
    simp only [escapeCharGen?, if_neg hnb]
    exact escapeCharGen?_high c h rest hl.2 hc'

/-- a table that passes the criterion writes, for every character, what the model writes -/
theorem armsOk_sound (arms : List EscArm) (h : armsOk arms = true) (c : Char) : escapeCharGen arms c = escapeChar c := by
  simp only [armsOk, Bool.and_eq_true] at h
  obtain ⟨⟨hl, hc⟩, ht⟩ := h
  unfold escapeCharGen
  by_cases hlow : c.toNat < 128
  · rw [List.all_eq_true] at ht
    have := ht c.toNat (List.mem_range.mpr hlow)
    rw [Char.ofNat_toNat] at this
    rw [beq_iff_eq] at this
    rw [this]
    rfl
  · rw [escapeCharGen?_high c (by omega) arms hl hc, escapeChar_high c (by omega)]
    rfl

theorem escapeGen_eq (arms : List EscArm) (h : armsOk arms = true) : ∀ s, escapeGen arms s = escape s
  | [] => rfl
  | c :: rest => by
    simp only [escapeGen, escape, armsOk_sound arms h c, escapeGen_eq arms h rest]

/-! ### `check_permutation`, `check_dim_names` -/

def forget {α} : R α → R α
  | .ok v => .ok v
  | .error (.err _) => .error (.err "")
  | .error (.errCtx _ _) => .error (.err "")
  | .error (.panic _) => .error (.panic "")

theorem cls_of_forget {α} {a b : R α} (h : forget a = forget b) : a.cls = b.cls := by
  cases a with
  | ok x => cases b with
    | ok y => rfl
    | error e => cases e <;> simp [forget] at h
  | error e => cases b with
    | ok y => cases e <;> simp [forget] at h
    | error e' => cases e <;> cases e' <;> simp [forget] at h <;> rfl

/-- `a <op> b` is "the slice does not have ndim entries" -/
def isLenCheck (a : PExpr) (op : Cmp) (b : PExpr) : Bool :=
  (a, op, b) == (.sliceLen, .ne, .ndim) || (a, op, b) == (.ndim, .ne, .sliceLen)

/-- an expression that is the length of the slice once the length check has passed -/
def isLen (e : PExpr) : Bool := e == .sliceLen || e == .ndim

/-- `l <op> r` is "the item is not an index of `seen`" (given `seen.len() = permutation.len()`) -/
def isRangeGuard (l : PExpr) (op : Cmp) (r : PExpr) : Bool :=
  (l, op, r) == (.item, .ge, .seenLen) || (l, op, r) == (.item, .ge, .sliceLen) ||
  (l, op, r) == (.seenLen, .le, .item) || (l, op, r) == (.sliceLen, .le, .item)

/-- the criterion on a translated body of `check_permutation` -/
def permBodyOk : List PStmt → Bool
  | [.failIf a op b, .letSeen false len, .forSlice [.failIf l gop r, .failIfSeen .item true, .setSeen .item true],
      .forSeen false, .retOk] => isLenCheck a op b && isLen len && isRangeGuard l gop r
  | _ => false

theorem lenCheck_eval {a op b} (h : isLenCheck a op b = true) (ndim n : Nat) (seen : List Bool) :
    op.eval (a.eval ndim n seen 0) (b.eval ndim n seen 0) = decide (n ≠ ndim) := by
  simp only [isLenCheck, Bool.or_eq_true, beq_iff_eq, Prod.mk.injEq] at h
  by_cases e : n = ndim
  · subst e
    rcases h with ⟨rfl, rfl, rfl⟩ | ⟨rfl, rfl, rfl⟩ <;> simp [PExpr.eval, Cmp.eval]
  · have e' : ¬ ndim = n := fun x => e x.symm
    rcases h with ⟨rfl, rfl, rfl⟩ | ⟨rfl, rfl, rfl⟩ <;> simp [PExpr.eval, Cmp.eval, e, e']

theorem rangeGuard_eval {l op r} (h : isRangeGuard l op r = true) (ndim n i : Nat) (seen : List Bool) (hs : seen.length = n) :
    op.eval (l.eval ndim n seen i) (r.eval ndim n seen i) = decide (i ≥ seen.length) := by
  simp only [isRangeGuard, Bool.or_eq_true, beq_iff_eq, Prod.mk.injEq] at h
  rcases h with ((⟨rfl, rfl, rfl⟩ | ⟨rfl, rfl, rfl⟩) | ⟨rfl, rfl, rfl⟩) | ⟨rfl, rfl, rfl⟩ <;> simp [PExpr.eval, Cmp.eval, hs] <;> rfl

theorem runFor_markSeen {l op r} (h : isRangeGuard l op r = true) (ndim n : Nat) : ∀ (perm : List Nat) (seen : List Bool),
    seen.length = n →
    forget (runFor ndim n [.failIf l op r, .failIfSeen .item true, .setSeen .item true] perm seen) = forget (markSeen seen perm)
  | [], seen, _ => rfl
  | i :: rest, seen, hs => by
    simp only [runFor, markSeen, runSteps, rangeGuard_eval h ndim n i seen hs]
    simp only [PExpr.eval]
    by_cases hi : i ≥ seen.length
    · simp [hi, forget, fail]
    · simp only [hi, decide_false, if_false]
      have hlt : i < seen.length := by omega
      rw [List.getElem?_eq_getElem hlt]
      cases hb : seen[i] with
      | true => simp [forget, fail]
      | false =>
        simp only [hlt, if_true]
        have := runFor_markSeen h ndim n rest (seen.set i true) (by simp [hs])
        simpa using this

theorem runSeen_checkAllSeen : ∀ seen : List Bool, forget (runSeen false seen) = forget (checkAllSeen seen)
  | [] => rfl
  | true :: rest => by simpa [runSeen, checkAllSeen] using runSeen_checkAllSeen rest
  | false :: rest => by simp [runSeen, checkAllSeen, forget, fail]

/-- outcomes equal up to `forget`: the same value, or two errors of the same kind -/
theorem forget_eq_cases {α} {a a' : R α} (h : forget a = forget a') :
    (∃ v, a = .ok v ∧ a' = .ok v) ∨
      ∃ e e', a = .error e ∧ a' = .error e' ∧ ∀ β, forget (.error e : R β) = forget (.error e') := by
  cases a with
  | ok v => cases a' with
    | ok v' => cases h; exact .inl ⟨v, rfl, rfl⟩
    | error e' => cases e' <;> cases h
  | error e => cases a' with
    | ok v' => cases e <;> cases h
    | error e' => exact .inr ⟨e, e', rfl, rfl, fun β => by cases e <;> cases e' <;> first | rfl | cases h⟩

/-- a translated body that passes the criterion has, for all arguments, the outcome class of the model -/
theorem permBodyOk_sound (body : List PStmt) (h : permBodyOk body = true) (ndim : Nat) (p : List Nat) :
    (checkPermutationGen body ndim p).cls = (checkPermutation ndim p).cls := by
  apply cls_of_forget
  unfold permBodyOk at h
  split at h
  · rename_i a op b len l gop r
    simp only [Bool.and_eq_true] at h
    obtain ⟨⟨h1, h2⟩, h3⟩ := h
    simp only [checkPermutationGen, runStmts, lenCheck_eval h1, checkPermutation]
    by_cases hn : p.length ≠ ndim
    · simp [hn, forget, fail]
    · simp only [hn, decide_false, if_false, Bool.false_eq_true]
      have hlen : len.eval ndim p.length [] 0 = p.length := by
        simp only [isLen, Bool.or_eq_true, beq_iff_eq] at h2
        rcases h2 with rfl | rfl <;> simp [PExpr.eval]
        omega
      rw [hlen]
      -- both are: the first loop, `?`, then the second loop
      rcases forget_eq_cases (runFor_markSeen h3 ndim p.length p (List.replicate p.length false) (by simp)) with
        ⟨s, hr, hm⟩ | ⟨e, e', hr, hm, he⟩
      · simp only [hr, hm]
        have hs := runSeen_checkAllSeen s
        cases hq : runSeen false s <;> rwa [hq] at hs
      · simp only [hr, hm]
        exact he _
  · simp at h

/-- the criterion on a translated body of `check_dim_names` -/
def dimBodyOk : List PStmt → Bool
  | [.failIf a op b, .retOk] => isLenCheck a op b
  | _ => false

theorem dimBodyOk_sound (body : List PStmt) (h : dimBodyOk body = true) (ndim : Nat) (names : List Str) :
    (checkDimNamesGen body ndim names).cls = (checkDimNames ndim names).cls := by
  unfold dimBodyOk at h
  split at h
  · simp only [checkDimNamesGen, runStmts, lenCheck_eval h, checkDimNames, List.length_map]
    by_cases hn : names.length ≠ ndim
    · simp [hn, fail, R.cls]
    · simp [hn, R.cls]
  · simp at h

/-! ### `write_list` -/

/-- `idx <op> bound` is `idx == 0` (`some true`) / `idx != 0` (`some false`) for every `idx : usize` -/
def firstTest : Cmp → Nat → Option Bool
  | .eq, 0 => some true
  | .le, 0 => some true
  | .lt, 1 => some true
  | .ne, 0 => some false
  | .gt, 0 => some false
  | .ge, 1 => some false
  | _, _ => none

theorem firstTest_eval {op bound v} (h : firstTest op bound = some v) (idx : Nat) : op.eval idx bound = (v == (idx == 0)) := by
  unfold firstTest at h
  split at h <;> simp at h <;> subst h <;> cases idx <;> simp [Cmp.eval]

/-- the criterion on the translated pieces of `write_list`: brackets, the first item bare, every later one after a comma -/
def writeListOk (b : WriteListBody) : Bool :=
  b.opening == "[" && b.closing == "]" &&
    match firstTest b.op b.bound with
    | some true => b.thenFmt == ("", "") && b.elseFmt == (",", "")
    | some false => b.thenFmt == (",", "") && b.elseFmt == ("", "")
    | none => false

theorem writeItemsGen_eq (b : WriteListBody) (v : Bool) (ht : firstTest b.op b.bound = some v)
    (hf : (if v then b.thenFmt else b.elseFmt) = ("", "")) (hr : (if v then b.elseFmt else b.thenFmt) = (",", "")) :
    ∀ (items : List Str) (idx : Nat), writeItemsGen b idx items = writeItems (idx == 0) items
  | [], _ => by cases idx0 : (_ == 0) <;> rfl
  | x :: rest, idx => by
    have ih := writeItemsGen_eq b v ht hf hr rest (idx + 1)
    have h1 : ((idx + 1) == 0) = false := by simp
    rw [h1] at ih
    simp only [writeItemsGen, firstTest_eval ht idx, ih]
    cases idx with
    | zero =>
      cases v
      · simp only [Bool.false_eq_true, if_false] at hf
        simp [hf, writeItems]
      · simp only [if_true] at hf
        simp [hf, writeItems]
    | succ k =>
      cases v
      · simp only [Bool.false_eq_true, if_false] at hr
        simp [hr, writeItems]
      · simp only [if_true] at hr
        simp [hr, writeItems]

/-- translated pieces that pass the criterion write, for every item list, the text of the model -/
theorem writeListOk_sound (b : WriteListBody) (h : writeListOk b = true) (items : List Str) :
    writeListGen b items = writeList items := by
  simp only [writeListOk, Bool.and_eq_true, beq_iff_eq] at h
  obtain ⟨⟨ho, hc⟩, hm⟩ := h
  have ho' : b.opening.toList = ['['] := by rw [ho]; rfl
  have hc' : b.closing.toList = [']'] := by rw [hc]; rfl
  unfold writeListGen writeList
  rw [ho', hc']
  cases ht : firstTest b.op b.bound with
  | none => simp [ht] at hm
  | some v =>
    rw [ht] at hm
    cases v with
    | true =>
      simp only [Bool.and_eq_true, beq_iff_eq] at hm
      rw [writeItemsGen_eq b true ht (by simpa using hm.1) (by simpa using hm.2) items 0]
      rfl
    | false =>
      simp only [Bool.and_eq_true, beq_iff_eq] at hm
      rw [writeItemsGen_eq b false ht (by simpa using hm.2) (by simpa using hm.1) items 0]
      rfl

end SaModel.Lemmas.C20Gen
