import SaModel.Lemmas.C12AnnAny
import SaModel.Lemmas.C18AnnRel
/-
C12 helpers around the typed reads on a slice.
* `deserialize_any` on a slice: `readAny` is `readAnyA` with the annotations erased (C18), so the equality of outcomes is
  that of the annotated reads (`C12AnnAny.lean`).
* The statement of the typed reads on a slice (`SliceP`; `SliceP` of every member of a target list / field list: `AllT`,
  `AllF`) and the loops over the fields of a sliced struct column.  The typed reads themselves are proved for the annotated
  readers (`C12AnnTyped.lean`, `SlicePA`); `SliceP` follows by erasing the annotations (`Props/C12.lean`).
* Bulk reads.  The `SeqAccess` loop `readRange f s n` is `mapM f` over the indices `s, …, s+n-1` (`readRange_eq_mapM`,
  Lemmas/ReadBasic.lean); the indices the bulk reader hands out (`Access.bulk len = List.range len`, C13) windowed to
  `[o, o+l)` are exactly `List.range' o l`; a successful `mapM` restricts to windows.
-/
namespace SaModel.Lemmas.C12
open SaModel SaModel.Read SaModel.Spec SaModel.Props.C18

/-- `deserialize_any` of slot `i` of the slice = of slot `o + i` of the whole array: equality of outcomes -/
theorem readAny_slice (fx : Fixes) (a : Arr) (o l i : Nat) (hi : i < l) (h : SliceOK fx a o l) :
    readAny fx (sliceView a o l) i = readAny fx a (o + i) := by
  rw [← eraseAnn_noctx (readAny fx (sliceView a o l) i), ← readAnyA_erase fx _ "$", readAnyA_slice fx "$" a o l i hi h,
    readAnyA_erase, eraseAnn_noctx]

theorem readAnyFields_slice (fx : Fixes) : ∀ (fs : ArrFields) (len o l i : Nat), i < l → FieldsOK fx fs len o l →
    readAnyFields fx (sliceFields fs o l) i = readAnyFields fx fs (o + i) := fun fs len o l i hi h => by
  have := readAnyFields_noctx fx
  rw [← eraseAnn_noctx (readAnyFields fx (sliceFields fs o l) i), ← readAnyFieldsA_erase fx _ "$",
    readAnyFieldsA_slice fx fs "$" len o l i hi h, readAnyFieldsA_erase, eraseAnn_noctx]

end SaModel.Lemmas.C12

namespace SaModel.Lemmas.C12
open SaModel SaModel.Read SaModel.Spec

/-- reading target `t` at slot `i` of any slice = reading it at slot `o + i` of the whole array -/
def SliceP (fx : Fixes) (t : Target) : Prop :=
  ∀ (a : Arr) (o l i : Nat), i < l → SliceOK fx a o l → readAs fx t (sliceView a o l) i = readAs fx t a (o + i)

def AllT (P : Target → Prop) : Targets → Prop
  | .nil => True
  | .cons t r => P t ∧ AllT P r

def AllF (P : Target → Prop) : TFields → Prop
  | .nil => True
  | .cons _ t r => P t ∧ AllF P r

/-! ### loops over the fields of a struct column: every field is sliced by the same window -/

theorem mapM_fields_slice {fx : Fixes} {β} (f g : FieldMeta × Arr → R β) {len o l : Nat}
    (hfg : ∀ fm a, SliceOK fx a o l → f (fm, sliceView a o l) = g (fm, a)) :
    ∀ (fs : ArrFields), FieldsOK fx fs len o l → (sliceFields fs o l).toList.mapM f = fs.toList.mapM g
  | .nil, _ => by simp only [sliceFields, ArrFields.toList, List.mapM_nil]
  | .cons fm a r, h => by
    obtain ⟨ha, hr⟩ := h.cons
    simp only [sliceFields, ArrFields.toList, List.mapM_cons, hfg fm a ha, mapM_fields_slice f g hfg r hr]

theorem foldlM_fields_slice {fx : Fixes} {σ} (f g : σ → FieldMeta × Arr → R σ) {len o l : Nat}
    (hfg : ∀ s fm a, SliceOK fx a o l → f s (fm, sliceView a o l) = g s (fm, a)) :
    ∀ (fs : ArrFields) (s : σ), FieldsOK fx fs len o l → (sliceFields fs o l).toList.foldlM f s = fs.toList.foldlM g s
  | .nil, _, _ => by simp only [sliceFields, ArrFields.toList, List.foldlM_nil]
  | .cons fm a r, s, h => by
    obtain ⟨ha, hr⟩ := h.cons
    simp only [sliceFields, ArrFields.toList, List.foldlM_cons, hfg s fm a ha]
    cases g s (fm, a) with
    | error e => rfl
    | ok s' => exact foldlM_fields_slice f g hfg r s' hr

/-! ### bulk reads: windows of the index list -/

theorem window_range (len o l : Nat) (h : o + l ≤ len) : window (List.range len) o l = List.range' o l := by
  apply List.ext_getElem?
  intro i
  simp only [window, List.getElem?_take, List.getElem?_drop]
  by_cases hi : i < l
  · have : o + i < len := by omega
    simp [hi, this]
  · simp [hi]

theorem mapM_range'_congr {α} (F G : Nat → R α) : ∀ (n s t : Nat), (∀ j, j < n → F (s + j) = G (t + j)) →
    (List.range' s n).mapM F = (List.range' t n).mapM G := fun n s t h => by
  rw [← readRange_eq_mapM, ← readRange_eq_mapM]
  exact readRange_ext n s t h

theorem mapM_ok_drop {α β} (G : α → R β) : ∀ (ys : List α) (xs : List β) (o : Nat), ys.mapM G = .ok xs →
    (ys.drop o).mapM G = .ok (xs.drop o) := fun ys xs o h =>
  R.mapM_eq_ok_iff.mpr (by rw [List.map_drop, R.mapM_eq_ok_iff.mp h, ← List.map_drop])

theorem mapM_ok_take {α β} (G : α → R β) : ∀ (ys : List α) (xs : List β) (l : Nat), ys.mapM G = .ok xs →
    (ys.take l).mapM G = .ok (xs.take l) := fun ys xs l h =>
  R.mapM_eq_ok_iff.mpr (by rw [List.map_take, R.mapM_eq_ok_iff.mp h, ← List.map_take])

end SaModel.Lemmas.C12
