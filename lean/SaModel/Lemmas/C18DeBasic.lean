import SaModel.Props.C18Transfer
import SaModel.Lemmas.C05ReadCont
import SaModel.Lemmas.C18SpecBridge
/-
C18, reader half, blame against the SPECIFICATION `Spec.blameRead` (Spec/Blame.lean): bookkeeping.

`Wn S r`       : `r` is never a plain error, and an annotated error of `r` carries `posAnn q` of a position `q ∈ S`
                 (what a wrapped read of a child returns);
`Bo S self r`  : an annotated error of `r` names a position in `S`; a PLAIN error of `r` — which the `.ctx(self)`
                 wrapper around `r` turns into an error naming `self` — is allowed only if `self ∈ S`
                 (what the body of a reader returns).  `Bo.ctx`: then the wrapped body stays within `S`.
`BlR t`        : the statement of `C18_de_blame` for the target `t`, as `Within (positions blameRead blames)`.
-/
namespace SaModel.Props.C18
open SaModel SaModel.Read SaModel.Spec

def Wn {α} (S : List Pos) (r : R α) : Prop := Within S r ∧ ∀ msg, r ≠ .error (.err msg)

def Bo {α} (S : List Pos) (self : Pos) (r : R α) : Prop := Within S r ∧ ∀ msg, r = .error (.err msg) → self ∈ S

theorem Wn.of_ok {α} {S : List Pos} (v : α) : Wn S (.ok v : R α) := ⟨Within.of_ok v, Plain.of_ok v⟩

theorem Wn.mono {α} {S S' : List Pos} {r : R α} (hs : ∀ q ∈ S, q ∈ S') (h : Wn S r) : Wn S' r := ⟨h.1.mono hs, h.2⟩

theorem Wn.bind {α β} {S : List Pos} {r : R α} {f : α → R β} (hr : Wn S r) (hf : ∀ v, r = .ok v → Wn S (f v)) :
    Wn S (r >>= f) :=
  ⟨Within.bind hr.1 fun v hv => (hf v hv).1, Plain.bind (Q := fun _ => False) hr.2 fun v hv => (hf v hv).2⟩

theorem Wn.bo {α} {S : List Pos} {r : R α} (self : Pos) (h : Wn S r) : Bo S self r := ⟨h.1, fun msg e => absurd e (h.2 msg)⟩

theorem Bo.of_ok {α} {S : List Pos} {self : Pos} (v : α) : Bo S self (.ok v : R α) := (Wn.of_ok v).bo self

theorem Bo.of_eq_ok {α} {S : List Pos} {self : Pos} {r : R α} {v : α} (h : r = .ok v) : Bo S self r := h ▸ Bo.of_ok v

theorem Bo.mono {α} {S S' : List Pos} {self : Pos} {r : R α} (hs : ∀ q ∈ S, q ∈ S') (h : Bo S self r) : Bo S' self r :=
  ⟨h.1.mono hs, fun msg e => hs _ (h.2 msg e)⟩

/-- a body that calls no wrapped reader: all that matters is whether `self` may be blamed when it fails -/
theorem Bo.noctx {α} {S : List Pos} {self : Pos} (r : R α) [NoCtx r] (h : (∃ e, r = .error e) → self ∈ S) : Bo S self r :=
  ⟨NoCtx.within r, fun msg e => h ⟨_, e⟩⟩

theorem Bo.self {α} {S : List Pos} {self : Pos} {r : R α} (hs : self ∈ S) (h : Within S r) : Bo S self r := ⟨h, fun _ _ => hs⟩

theorem Bo.bind {α β} {S : List Pos} {self : Pos} {r : R α} {f : α → R β} (hr : Bo S self r)
    (hf : ∀ v, r = .ok v → Bo S self (f v)) : Bo S self (r >>= f) :=
  ⟨Within.bind hr.1 fun v hv => (hf v hv).1, Plain.bind hr.2 fun v hv => (hf v hv).2⟩

theorem Bo.ctx {α} {S : List Pos} {self : Pos} {r : R α} (h : Bo S self r) : Within S (SaModel.ctx (posAnn self) r) :=
  Ann.ctx rfl (fun msg e => ⟨self, h.2 msg e, rfl⟩) h.1

theorem Bo.wn_ctx {α} {S : List Pos} {self : Pos} {r : R α} (h : Bo S self r) : Wn S (SaModel.ctx (posAnn self) r) :=
  ⟨h.ctx, ctx_never_plain rfl r⟩

theorem rlabel_eq_label (a : Arr) : rlabel a = Read.label a := by
  cases a <;> first | rfl | (rename_i ty _ _; cases ty <;> rfl)

theorem rann_eq' (p : String) (a : Arr) : rann p a = posAnn (p, Read.label a) := by
  rw [rann_eq, rlabel_eq_label]

theorem below_eq_under (seg : List String) (l : List RPos) : below seg l = under seg l := rfl

theorem positionsAt_here (p : String) (a : Arr) : positionsAt p (here a) = [(p, Read.label a)] := rfl

theorem positionsAt_below1 (p : String) (name : String) (l : List RPos) :
    positionsAt p (below [segName name] l) = positionsAt (rchild p name) l := by
  rw [below_eq_under, positionsAt_under]; rfl

theorem positionsAt_below2 (p : String) (en name : String) (l : List RPos) :
    positionsAt p (below [segName en, segName name] l) = positionsAt (rmapChild p en name) l := by
  rw [below_eq_under, positionsAt_under]; rfl

theorem mem_positionsAt {p : String} {l l' : List RPos} (h : ∀ q ∈ l, q ∈ l') : ∀ q ∈ positionsAt p l, q ∈ positionsAt p l' := by
  intro q hq
  simp only [positionsAt, List.mem_map] at hq ⊢
  obtain ⟨x, hx, rfl⟩ := hq
  exact ⟨x, h x hx, rfl⟩

theorem self_mem_here (p : String) (a : Arr) : (p, Read.label a) ∈ positionsAt p (here a) := by
  rw [positionsAt_here]; exact List.mem_cons_self

def BlR (t : Target) : Prop :=
  ∀ (p : String) (a : Arr) (i : Nat) (lv : LVal), decodeAt a i = .ok lv → new Fixes.all a = .ok () → physical a = true →
    utf8Ok lv = true → noKnown t a lv = true →
    Within (positionsAt p (blameRead t a lv)) (readAsA AnnFixes.all Fixes.all p t a i)

theorem BlR.wn {t : Target} (h : BlR t) {p : String} {a : Arr} {i : Nat} {lv : LVal} (hd : decodeAt a i = .ok lv)
    (hn : new Fixes.all a = .ok ()) (hp : physical a = true) (hu : utf8Ok lv = true) (hk : noKnown t a lv = true) :
    Wn (positionsAt p (blameRead t a lv)) (readAsA AnnFixes.all Fixes.all p t a i) :=
  ⟨h p a i lv hd hn hp hu hk, readAsA_not_plain Fixes.all t p a i⟩

theorem BlR.at {t : Target} (h : BlR t) {p : String} {a : Arr} {i : Nat} {lv : LVal} (s : Slot a i lv)
    (hk : noKnown t a lv = true) : Wn (positionsAt p (blameRead t a lv)) (readAsA AnnFixes.all Fixes.all p t a i) :=
  h.wn s.dec s.new s.phys s.utf8 hk

theorem readRange_wn {α} {S : List Pos} {f : Nat → R LVal} {g : Nat → R α} {P : LVal → Prop}
    (hfg : ∀ j v, f j = .ok v → P v → Wn S (g j)) :
    ∀ (n s : Nat) (xs : List LVal), seqAt f s n = .ok xs → (∀ v ∈ xs, P v) → Wn S (readRange g s n) :=
  seqAt_induct (fun _ => by unfold readRange; exact Wn.of_ok _) fun s n v vs hv hp ih => by
    unfold readRange
    exact Wn.bind (hfg s v hv hp) fun _ _ => Wn.bind ih fun _ _ => Wn.of_ok _

theorem mem_blameVals {f : LVal → List RPos} : ∀ (xs : List LVal) (v : LVal), v ∈ xs → ∀ q ∈ f v, q ∈ blameVals f (LVals.ofList xs)
  | [], _, hv, _, _ => by cases hv
  | x :: xs, v, hv, q, hq => by
    simp only [LVals.ofList, blameVals, List.mem_append]
    rcases List.mem_cons.1 hv with rfl | hv
    · exact .inl hq
    · exact .inr (mem_blameVals xs v hv q hq)

theorem isMust_false_of {c : Claim} (h : ∀ d, c ≠ must d) : Claim.isMust c = false := by
  cases c with
  | error e => rfl
  | ok o =>
    cases o with
    | none => rfl
    | some d => exact absurd rfl (h d)

/-- a reader body without wrapped children at a position where `cast` decides: blamed iff `cast` demands no value -/
theorem leaf_blame {p : String} {a : Arr} {c : Claim} {body : R DVal} [NoCtx body]
    (hsound : ∀ d, c = must d → body = .ok d) :
    Within (positionsAt p (if Claim.isMust c then [] else here a)) (ctx (rann p a) body) := by
  rw [rann_eq']
  refine Bo.ctx (Bo.noctx body fun ⟨e, he⟩ => ?_)
  have : Claim.isMust c = false := isMust_false_of fun d hd => by rw [hsound d hd] at he; cases he
  rw [this]
  exact self_mem_here p a

theorem blr_scalar {t : Target} {m : Method} (hm : methodOf t = some m) (hc' : ∀ a lv, blameRead t a lv = blameScalar t a lv)
    (hr : ∀ p a i, readAsA AnnFixes.all Fixes.all p t a i = ctx (rann p a) (scalar Fixes.all m a i >>= accept t)) : BlR t := by
  intro p a i lv h hn hp hu _
  rw [hr, hc']
  unfold blameScalar
  exact leaf_blame fun d hd => scalar_sound hm a i lv d h hn hp hu hd

theorem blr_any : BlR .any := by
  intro p a i lv h hn hp hu _
  have := readAsA_typed_decode AnnFixes.all .any p a i lv (toD a lv) h hn hp hu (by simp only [Read.cast])
  rw [this]; exact Within.of_ok _

theorem blr_ignored : BlR .ignored := by
  intro p a i lv h hn hp hu _
  have := readAsA_typed_decode AnnFixes.all .ignored p a i lv .ignored h hn hp hu (by simp only [Read.cast])
  rw [this]; exact Within.of_ok _

theorem blr_option {t : Target} (hS : BlR t) : BlR (.option t) := by
  intro p a i lv h hn hp hu hk
  have hs := isSome_of_decode a i lv h hn hp hu
  unfold readAsA
  rw [rann_eq']
  refine Bo.ctx (Bo.bind (Bo.of_eq_ok hs) fun b hb => ?_)
  rw [hs] at hb; cases hb
  cases lv with
  | null => exact Bo.of_ok _
  | _ =>
    simp only [noKnown] at hk
    simp only [blameRead, LVal.isNull, Bool.not_false, if_true]
    exact Bo.bind ((hS.wn h hn hp hu hk).bo _) fun _ _ => Bo.of_ok _

theorem blr_newtype {t : Target} (hS : BlR t) : BlR (.newtype t) := by
  intro p a i lv h hn hp hu hk
  simp only [noKnown] at hk
  unfold readAsA
  simp only [blameRead]
  exact hS p a i lv h hn hp hu hk

end SaModel.Props.C18
