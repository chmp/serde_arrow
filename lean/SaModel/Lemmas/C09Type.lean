import SaModel.Lemmas.C09Term
import SaModel.Lemmas.C09Chars
/-
C09, data-type level: the printed data type is the printed form of a well-formed term (`typeTerm`), which
`Term::from_str` reads back (`fromStr_showType`).
-/
namespace SaModel.Dsl
open SaModel

def identT (s : Text) : Term := .mk s false .nil
def callT (s : Text) (args : Terms) : Term := .mk s false args

/-- the term whose `Display` form `PrettyFieldDataType` writes -/
def typeTerm : DataType → Term
  | .null => identT "Null".toList | .boolean => identT "Bool".toList
  | .int8 => identT "I8".toList | .int16 => identT "I16".toList | .int32 => identT "I32".toList | .int64 => identT "I64".toList
  | .uint8 => identT "U8".toList | .uint16 => identT "U16".toList | .uint32 => identT "U32".toList | .uint64 => identT "U64".toList
  | .float16 => identT "F16".toList | .float32 => identT "F32".toList | .float64 => identT "F64".toList
  | .utf8 => identT "Utf8".toList | .largeUtf8 => identT "LargeUtf8".toList | .utf8View => identT "Utf8View".toList
  | .binary => identT "Binary".toList | .largeBinary => identT "LargeBinary".toList | .binaryView => identT "BinaryView".toList
  | .date32 => identT "Date32".toList | .date64 => identT "Date64".toList
  | .decimal128 p s => callT "Decimal128".toList (.cons (identT (showInt (Int.ofNat p))) (.cons (identT (showInt s)) .nil))
  | .duration u => callT "Duration".toList (.cons (identT (showUnit u)) .nil)
  | .time32 u => callT "Time32".toList (.cons (identT (showUnit u)) .nil)
  | .time64 u => callT "Time64".toList (.cons (identT (showUnit u)) .nil)
  | .timestamp u none => callT "Timestamp".toList (.cons (identT (showUnit u)) (.cons (identT "None".toList) .nil))
  | .timestamp u (some tz) => callT "Timestamp".toList (.cons (identT (showUnit u))
      (.cons (callT "Some".toList (.cons (.mk tz.toList true .nil) .nil)) .nil))
  | .fixedSizeBinary n => callT "FixedSizeBinary".toList (.cons (identT (showInt n)) .nil)
  | .fixedSizeList _ n => callT "FixedSizeList".toList (.cons (identT (showInt n)) .nil)
  | .struct _ => identT "Struct".toList | .map _ _ => identT "Map".toList | .union _ _ => identT "Union".toList
  | .dictionary _ _ => identT "Dictionary".toList | .largeList _ => identT "LargeList".toList | .list _ => identT "List".toList
  | .interval _ => identT "Interval".toList | .runEndEncoded _ _ => identT "RunEndEncoded".toList

theorem showType?_isSome (esc : Char → Bool) (dt : DataType) : (showType? esc dt).isSome = printable dt := by
  cases dt <;> rfl

theorem showTerm_identT (esc : Char → Bool) (s : Text) : showTerm esc (identT s) = s := by
  simp [identT, showTerm, showArgs]

theorem showType_eq_showTerm (esc : Char → Bool) (dt : DataType) (h : printable dt = true) :
    showType esc dt = showTerm esc (typeTerm dt) := by
  cases dt with
  | timestamp u tz =>
    cases tz <;>
      simp [showType, showType?, typeTerm, identT, callT, showTerm, showArgs, showArgsTail, showQuoted]
  | interval _ => cases h
  | runEndEncoded _ _ => cases h
  | decimal128 | duration | time32 | time64 | fixedSizeBinary | fixedSizeList =>
    simp [showType, showType?, typeTerm, identT, callT, showTerm, showArgs, showArgsTail]
  | _ => exact (showTerm_identT esc _).symm

theorem showUnit_ident (u : TimeUnit) : showUnit u ≠ [] ∧ ∀ c ∈ showUnit u, isIdentChar c = true := by
  cases u <;> decide +kernel

theorem identT_OK {s : Text} (h : s ≠ [] ∧ ∀ c ∈ s, isIdentChar c = true) : (identT s).OK := by
  simp only [identT, Term.OK, Terms.OK, and_true]; intro _; exact h

theorem typeTerm_OK (dt : DataType) : (typeTerm dt).OK := by
  have lit : ∀ s : Text, (s ≠ [] ∧ ∀ c ∈ s, isIdentChar c = true) → ∀ args : Terms, args.OK → (callT s args).OK := by
    intro s h args ha; simp only [callT, Term.OK]; exact ⟨fun _ => h, ha⟩
  cases dt with
  | decimal128 p s =>
    exact lit _ (by simp only [Lemmas.C09.toList_eq_charsOf]; decide +kernel) _ ⟨identT_OK (showInt_ident _), identT_OK (showInt_ident _), trivial⟩
  | duration u => exact lit _ (by simp only [Lemmas.C09.toList_eq_charsOf]; decide +kernel) _ ⟨identT_OK (showUnit_ident u), trivial⟩
  | time32 u => exact lit _ (by simp only [Lemmas.C09.toList_eq_charsOf]; decide +kernel) _ ⟨identT_OK (showUnit_ident u), trivial⟩
  | time64 u => exact lit _ (by simp only [Lemmas.C09.toList_eq_charsOf]; decide +kernel) _ ⟨identT_OK (showUnit_ident u), trivial⟩
  | fixedSizeBinary n => exact lit _ (by simp only [Lemmas.C09.toList_eq_charsOf]; decide +kernel) _ ⟨identT_OK (showInt_ident _), trivial⟩
  | fixedSizeList _ n => exact lit _ (by simp only [Lemmas.C09.toList_eq_charsOf]; decide +kernel) _ ⟨identT_OK (showInt_ident _), trivial⟩
  | timestamp u tz =>
    cases tz with
    | none => exact lit _ (by simp only [Lemmas.C09.toList_eq_charsOf]; decide +kernel) _ ⟨identT_OK (showUnit_ident u), identT_OK (by simp only [Lemmas.C09.toList_eq_charsOf]; decide +kernel), trivial⟩
    | some tz =>
      refine lit _ (by simp only [Lemmas.C09.toList_eq_charsOf]; decide +kernel) _ ⟨identT_OK (showUnit_ident u), lit _ (by simp only [Lemmas.C09.toList_eq_charsOf]; decide +kernel) _ ⟨?_, trivial⟩, trivial⟩
      simp [Term.OK, Terms.OK]
  | _ => exact identT_OK (by simp only [Lemmas.C09.toList_eq_charsOf]; decide +kernel)

/-- `need` and `depth` of a term do not look at its names: each arm of `typeTerm` computes -/
theorem typeTerm_need (dt : DataType) : (typeTerm dt).need ≤ 16 := by
  cases dt with
  | timestamp u tz => cases tz <;> exact Nat.le_of_ble_eq_true rfl
  | _ => exact Nat.le_of_ble_eq_true rfl

theorem typeTerm_depth (dt : DataType) : (typeTerm dt).depth ≤ 2 := by
  cases dt with
  | timestamp u tz => cases tz <;> exact Nat.le_of_ble_eq_true rfl
  | _ => exact Nat.le_of_ble_eq_true rfl

theorem fromStr_showType (esc : Char → Bool) (dt : DataType) (h : printable dt = true) :
    Term.fromStr (showType esc dt) = .ok (typeTerm dt) := by
  rw [showType_eq_showTerm esc dt h, fromStr_show esc _ (typeTerm_OK dt) (by have := typeTerm_need dt; omega),
    if_neg (by have := typeTerm_depth dt; unfold MAX_TERM_DEPTH; omega)]

end SaModel.Dsl
