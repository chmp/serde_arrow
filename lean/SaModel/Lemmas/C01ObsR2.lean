import SaModel.Lemmas.C01ObsPush
/-
C01 "hidden rows" — R2': the DETERMINED row a push appends is the documented one: `push ext b x = ok b'` with
`Refines (decH b') (decH b ++ [some lv])` implies `Spec.interpDT ext dt nullable md x = ok lv` whenever `b` is the builder
of the field `(dt, nullable, md)` — WITHOUT the first clause of `Safe` (`WFH` / `NoDictKey` instead of `WFB` / `Safe`).
The walk is `obs_cases` (Lemmas/C01ObsPush.lean), which names the row a push appends; here the statements that are TOLD the
row (`lv`, the `adds'` of the mid-record state after a loop): one uniqueness step each.  Lemmas/C01R2.lean reads R2 on
`WFB` / `Safe` off this file.
-/
namespace SaModel.Build
open SaModel SaModel.Spec
open SaModel.Lemmas.C03 (ViewSmall ViewSmallL)

/-- R2' of an element loop `pe` (the form in which `pushElems_interpH` is stated) -/
def ElemsSpecH (ext : Ext) (N : Prop) (xs : SVals) (pe : Bool → B → List Int → R (B × List Int)) : Prop :=
  ∀ large el offs r cdt cn cmd ls, (N → narrowDT cdt = true) → WFH el → NoDictKey el → Shape el cdt cn cmd → pe large el offs = .ok r →
    Refines (decH r.1) (decH el ++ ls.map some) → ViewSmall r.1 → interpAll ext cdt cn cmd xs = .ok ls

/-- the same of a counting element loop -/
def CountSpecH (ext : Ext) (N : Prop) (xs : SVals) (pc : B → Nat → R (B × Nat)) : Prop :=
  ∀ el c r cdt cn cmd ls, (N → narrowDT cdt = true) → WFH el → NoDictKey el → Shape el cdt cn cmd → pc el c = .ok r →
    Refines (decH r.1) (decH el ++ ls.map some) → ViewSmall r.1 → interpAll ext cdt cn cmd xs = .ok ls

theorem push_interpH (ext : Ext) (nar : Bool) : ∀ (x : SVal) (b b' : B) (dt : DataType) (n : Bool) (md : Metadata) (lv : LVal),
    rawOK nar x = true → (nar = true → narrowDT dt = true) → WFH b → NoDictKey b → Shape b dt n md → push ext b x = .ok b' →
    Refines (decH b') (decH b ++ [some lv]) →
    ViewSmall b' → interpDT ext dt n md x = .ok lv :=
  fun x b b' dt n md lv hraw hnar hwf hs hsh h hd hsm => by
    obtain ⟨lv', ⟨_, hr⟩, sp⟩ := (obs_cases ext nar).push x b b' h hwf hs
    rw [row_uniqueH hd hr]
    exact sp dt n md hraw hnar hsh hsm

theorem pushElems_interpH (ext : Ext) (nar : Bool) : ∀ (xs : SVals), rawOKs nar xs = true →
    ElemsSpecH ext (nar = true) xs (fun large el offs => pushElems ext large el offs xs) :=
  fun xs hraw large el offs r cdt cn cmd ls hnc hwf hs hsh h hd hsm => by
    obtain ⟨_, ls', hd', _, his⟩ := (obs_cases ext nar).elems xs large el offs r h hwf hs
    rw [rows_uniqueH hd hd']
    exact his hraw cdt cn cmd hnc hsh hsm

theorem pushCountElems_interpH (ext : Ext) (nar : Bool) : ∀ (xs : SVals), rawOKs nar xs = true →
    CountSpecH ext (nar = true) xs (fun el c => pushCountElems ext el c xs) :=
  fun xs hraw el c r cdt cn cmd ls hnc hwf hs hsh h hd hsm => by
    obtain ⟨_, ls', hd', _, his⟩ := (obs_cases ext nar).count xs el c r h hwf hs
    rw [rows_uniqueH hd hd']
    exact his hraw cdt cn cmd hnc hsh hsm

/-- positional records: field `j ≥ next` receives element `j - next`, fields before `next` are not touched -/
theorem pushTupleElems_interpH (ext : Ext) (nar : Bool) : ∀ (xs : SVals) (fs0 : BL) (s s' : SS) (adds adds' : List (List LVal))
    (sfs : Fields), rawOKs nar xs = true → (nar = true → narrowFs sfs = true) → MidH fs0 s adds → MidH fs0 s' adds' → ShapeL s.fields sfs →
    pushTupleElems ext s xs = .ok s' → ViewSmallL s'.fields →
    ∀ j f, sfs.toList[j]? = some f → (j < s.next → adds'.getD j [] = adds.getD j []) ∧
      (s.next ≤ j → ∃ found, interpNth ext f.dataType f.nullable f.metadata (j - s.next) xs = .ok found ∧
        adds'.getD j [] = adds.getD j [] ++ found) :=
  fun xs fs0 s s' adds adds' sfs hraw hnf hm hm' hsl h hsm => by
    obtain ⟨a, hm'', _, hq⟩ := (obs_cases ext nar).tuple xs s s' h fs0 adds hm
    obtain rfl := hm'.unique hm''
    exact hq hraw sfs hnf hsl hsm

theorem pushFields_interpH (ext : Ext) (nar : Bool) : ∀ (fields : SFields) (fs0 : BL) (s s' : SS) (adds adds' : List (List LVal))
    (sfs : Fields), rawOKf nar fields = true → (nar = true → narrowFs sfs = true) → MidH fs0 s adds → MidH fs0 s' adds' → ShapeL s.fields sfs →
    pushFields ext s fields = .ok s' → ViewSmallL s'.fields →
    ∀ j f, sfs.toList[j]? = some f → ∃ found,
      interpByName ext f.name f.dataType f.nullable f.metadata fields = .ok found ∧
      adds'.getD j [] = adds.getD j [] ++ found :=
  fun fields fs0 s s' adds adds' sfs hraw hnf hm hm' hsl h hsm => by
    obtain ⟨a, hm'', _, hq⟩ := (obs_cases ext nar).fields fields s s' h fs0 adds hm
    obtain rfl := hm'.unique hm''
    exact hq hraw sfs hnf hsl hsm

theorem pushStructEntries_interpH (ext : Ext) (nar : Bool) : ∀ (es : SEntries) (fs0 : BL) (s s' : SS) (adds adds' : List (List LVal))
    (sfs : Fields), rawOKe nar es = true → (nar = true → narrowFs sfs = true) → MidH fs0 s adds → MidH fs0 s' adds' → ShapeL s.fields sfs →
    pushStructEntries ext s es = .ok s' → ViewSmallL s'.fields →
    ∀ j f, sfs.toList[j]? = some f → ∃ found,
      interpByKey ext f.name f.dataType f.nullable f.metadata es = .ok found ∧
      adds'.getD j [] = adds.getD j [] ++ found :=
  fun es fs0 s s' adds adds' sfs hraw hnf hm hm' hsl h hsm => by
    obtain ⟨a, hm'', _, hq⟩ := (obs_cases ext nar).structEntries es s s' h fs0 adds hm
    obtain rfl := hm'.unique hm''
    exact hq hraw sfs hnf hsl hsm

/-- a struct builder receiving a raw key/value call stream that alternates: the fields gather what the pairs give
them by key (`fields.length < UNKNOWN_KEY`: no field index is the sentinel) -/
theorem pushStructOps_interpH (ext : Ext) (nar : Bool) : ∀ (ops : SMapOps) (fs0 : BL) (s s' : SS) (adds adds' : List (List LVal))
    (sfs : Fields), nar = true → ssaO ops = true → narrowFs sfs = true → s.fields.length < UNKNOWN_KEY → MidH fs0 s adds →
    MidH fs0 s' adds' → ShapeL s.fields sfs → pushStructOps ext s ops = .ok s' → ViewSmallL s'.fields →
    ∀ j f, sfs.toList[j]? = some f → ∃ found,
      interpByKeyOps ext f.name f.dataType f.nullable f.metadata ops = .ok found ∧
      adds'.getD j [] = adds.getD j [] ++ found :=
  fun ops fs0 s s' adds adds' sfs hn hraw hnf hlen hm hm' hsl h hsm => by
    obtain ⟨a, hm'', _, hq⟩ := (obs_cases ext nar).structOps ops s s' h fs0 adds hm
    obtain rfl := hm'.unique hm''
    exact (hq hn hlen).1 hraw sfs (fun _ => hnf) hsl hsm

/-- a Map builder receiving a raw key/value call stream (accepted ⇒ alternating): entry by entry -/
theorem pushMapOps_interpH (ext : Ext) (nar : Bool) : ∀ (ops : SMapOps) (offs : List Int) (ks vs : B) (r : List Int × B × B)
    (kdt : DataType) (kn : Bool) (kmd : Metadata) (vdt : DataType) (vn : Bool) (vmd : Metadata) (lk lw : List LVal),
    nar = true → ssaO ops = true → narrowDT kdt = true → narrowDT vdt = true → WFH ks → WFH vs → NoDictKey ks → NoDictKey vs →
    Shape ks kdt kn kmd → Shape vs vdt vn vmd →
    pushMapOps ext false offs ks vs ops = .ok r → Refines (decH r.2.1) (decH ks ++ lk.map some) → Refines (decH r.2.2) (decH vs ++ lw.map some) →
    ViewSmall r.2.1 ∧ ViewSmall r.2.2 → interpOps ext kdt kn kmd vdt vn vmd ops = .ok (lk.zip lw) :=
  fun ops offs ks vs r kdt kn kmd vdt vn vmd lk lw hn hraw hnk hnv hk hv hsk hsv hshk hshv h hdk hdv hsm => by
    obtain ⟨_, _, lk', lw', _, hdk', hdv', _, his⟩ := (obs_cases ext nar).mapOps ops false offs ks vs r h hk hv hsk hsv
    rw [rows_uniqueH hdk hdk', rows_uniqueH hdv hdv']
    exact (his kdt kn kmd vdt vn vmd (fun _ => hnk) (fun _ => hnv) hshk hshv hsm hn).1 rfl hraw

theorem pushMapEntries_interpH (ext : Ext) (nar : Bool) : ∀ (es : SEntries) (offs : List Int) (ks vs : B) (r : List Int × B × B)
    (kdt : DataType) (kn : Bool) (kmd : Metadata) (vdt : DataType) (vn : Bool) (vmd : Metadata) (lk lw : List LVal),
    rawOKe nar es = true → (nar = true → narrowDT kdt = true) → (nar = true → narrowDT vdt = true) → WFH ks → WFH vs → NoDictKey ks → NoDictKey vs →
    Shape ks kdt kn kmd → Shape vs vdt vn vmd →
    pushMapEntries ext offs ks vs es = .ok r → Refines (decH r.2.1) (decH ks ++ lk.map some) → Refines (decH r.2.2) (decH vs ++ lw.map some) →
    ViewSmall r.2.1 ∧ ViewSmall r.2.2 → interpEntries ext kdt kn kmd vdt vn vmd es = .ok (lk.zip lw) :=
  fun es offs ks vs r kdt kn kmd vdt vn vmd lk lw hraw hnk hnv hk hv hsk hsv hshk hshv h hdk hdv hsm => by
    obtain ⟨_, _, lk', lw', _, hdk', hdv', _, his⟩ := (obs_cases ext nar).mapEntries es offs ks vs r h hk hv hsk hsv
    rw [rows_uniqueH hdk hdk', rows_uniqueH hdv hdv']
    exact his kdt kn kmd vdt vn vmd hnk hnv hshk hshv hsm hraw

end SaModel.Build
