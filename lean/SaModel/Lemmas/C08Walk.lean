import SaModel.Trace.Mapping
/-
C08 — one induction over type descriptions.  Every function of the area treats a variant as a named payload: a unit
variant carries `()`, a newtype variant its type, a tuple variant the tuple, a struct variant the struct of its fields
(`VHead`).  `Ty.walk` is structural induction over `Ty` / `Tys` / `TyFields` / `TyVariants` with ONE case for a
non-empty variant list: the payload type satisfies the motive of types.  A walk states its four statements as one
conjunction and applies `Ty.walk`; in the `node` clause `ih : Kids ..` is by computation the motive at the components
of the type matched on (`simp only [Kids] at ih` where it has to be a rewrite rule); each function of the area has one
equation `VHead.<f>_eq` for its variant case (`walkable_eq`, `passes_eq` here).
-/
namespace SaModel.Lemmas.C08
open SaModel SaModel.Trace SaModel.Trace.Spec

/-- `vs` = the variant `n`, whose payload is traced like a value of type `T`, followed by the variants `r` -/
inductive VHead : TyVariants → String → Ty → TyVariants → Prop
  | unit (n r) : VHead (.unit n r) n .unit r
  | newtype (n t r) : VHead (.newtype n t r) n t r
  | tuple (n ts r) : VHead (.tuple n ts r) n (.tuple ts) r
  | struct (n fs r) : VHead (.struct n fs r) n (.struct n fs) r

namespace VHead

theorem walkable_eq {vs r : TyVariants} {n : String} {T : Ty} (h : VHead vs n T r) (o : Options) (p : String) :
    walkableVariants o p vs = (walkable o (childPath p n) T && walkableVariants o p r) := by
  cases h <;> simp only [walkableVariants, walkable, Bool.true_and]

theorem passes_eq {vs r : TyVariants} {n : String} {T : Ty} (h : VHead vs n T r) :
    passesVariants vs = passes T + passesVariants r := by
  cases h <;> simp only [passesVariants, passes]

end VHead

def Kids (P : Ty → Prop) (PTs : Tys → Prop) (PFs : TyFields → Prop) (PVs : TyVariants → Prop) : Ty → Prop
  | .option t | .vec t | .newtypeStruct _ t => P t
  | .tuple ts | .tupleStruct _ ts => PTs ts
  | .map k v => P k ∧ P v
  | .struct _ fs => PFs fs
  | .enum _ vs => PVs vs
  | _ => True

namespace Ty
section
set_option linter.unusedSectionVars false
variable {P : Ty → Prop} {PTs : Tys → Prop} {PFs : TyFields → Prop} {PVs : TyVariants → Prop}
  (node : ∀ t, Kids P PTs PFs PVs t → P t)
  (tnil : PTs .nil) (tcons : ∀ t r, P t → PTs r → PTs (.cons t r))
  (fnil : PFs .nil) (fcons : ∀ n t r, P t → PFs r → PFs (.cons n t r))
  (vnil : PVs .nil) (vcons : ∀ vs n T r, VHead vs n T r → P T → PVs r → PVs vs)
include node tnil tcons fnil fcons vnil vcons

mutual
theorem walk_ty : ∀ t, P t
  | .unit => node _ trivial | .bool => node _ trivial | .int _ => node _ trivial | .f32 => node _ trivial
  | .f64 => node _ trivial | .char => node _ trivial | .string => node _ trivial | .bytes => node _ trivial
  | .unitStruct _ => node _ trivial
  | .option t => node _ (walk_ty t)
  | .vec t => node _ (walk_ty t)
  | .newtypeStruct _ t => node _ (walk_ty t)
  | .tuple ts => node _ (walk_tys ts)
  | .tupleStruct _ ts => node _ (walk_tys ts)
  | .map k v => node _ ⟨walk_ty k, walk_ty v⟩
  | .struct _ fs => node _ (walk_fields fs)
  | .enum _ vs => node _ (walk_variants vs)
theorem walk_tys : ∀ ts, PTs ts
  | .nil => tnil
  | .cons t r => tcons t r (walk_ty t) (walk_tys r)
theorem walk_fields : ∀ fs, PFs fs
  | .nil => fnil
  | .cons n t r => fcons n t r (walk_ty t) (walk_fields r)
theorem walk_variants : ∀ vs, PVs vs
  | .nil => vnil
  | .unit n r => vcons _ _ _ _ (.unit n r) (node _ trivial) (walk_variants r)
  | .newtype n t r => vcons _ _ _ _ (.newtype n t r) (walk_ty t) (walk_variants r)
  | .tuple n ts r => vcons _ _ _ _ (.tuple n ts r) (node (.tuple ts) (walk_tys ts)) (walk_variants r)
  | .struct n fs r => vcons _ _ _ _ (.struct n fs r) (node (.struct n fs) (walk_fields fs)) (walk_variants r)
end

theorem walk : (∀ t, P t) ∧ (∀ ts, PTs ts) ∧ (∀ fs, PFs fs) ∧ (∀ vs, PVs vs) :=
  ⟨walk_ty node tnil tcons fnil fcons vnil vcons, walk_tys node tnil tcons fnil fcons vnil vcons,
    walk_fields node tnil tcons fnil fcons vnil vcons, walk_variants node tnil tcons fnil fcons vnil vcons⟩
end
end Ty

namespace VHead

theorem walk {PVs : TyVariants → Prop} (vnil : PVs .nil) (vcons : ∀ vs n T r, VHead vs n T r → PVs r → PVs vs) :
    ∀ vs, PVs vs
  | .nil => vnil
  | .unit n r => vcons _ _ _ _ (.unit n r) (walk vnil vcons r)
  | .newtype n t r => vcons _ _ _ _ (.newtype n t r) (walk vnil vcons r)
  | .tuple n ts r => vcons _ _ _ _ (.tuple n ts r) (walk vnil vcons r)
  | .struct n fs r => vcons _ _ _ _ (.struct n fs r) (walk vnil vcons r)

end VHead

end SaModel.Lemmas.C08
