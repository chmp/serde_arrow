import SaModel.Lemmas.Utf8
import SaModel.Read.DVal
/-
C04: the READER's UTF-8 recogniser (`Read.validUtf8`, the model of `std::str::from_utf8` in the string readers) branch by
branch (`valid1` … `valid4`: one well-formed scalar value is consumed), in the form of `Lemmas.Utf8.valid1` … for the
specification's recogniser `Spec.validUtf8`.  `Lemmas.C03.validUtf8_spec_read` (Lemmas/C03ReadValid.lean) concludes that the
reader's accepts whatever the specification's does; for the bytes of a `String` see `validUtf8_strBytes` (Lemmas/C04Reader.lean).
-/
namespace SaModel.Lemmas.C04Utf8
open SaModel SaModel.Read

theorem lt_lit (b : UInt8) (n : Nat) (hn : n < 256) : (b < UInt8.ofNat n) ↔ b.toNat < n := by
  rw [UInt8.lt_iff_toNat_lt, Lemmas.Utf8.toNat_ofNat_lt n hn]

theorem le_lit (b : UInt8) (n : Nat) (hn : n < 256) : (b ≤ UInt8.ofNat n) ↔ b.toNat ≤ n := by
  rw [UInt8.le_iff_toNat_le, Lemmas.Utf8.toNat_ofNat_lt n hn]

theorem lit_le (b : UInt8) (n : Nat) (hn : n < 256) : (UInt8.ofNat n ≤ b) ↔ n ≤ b.toNat := by
  rw [UInt8.le_iff_toNat_le, Lemmas.Utf8.toNat_ofNat_lt n hn]

theorem beq_lit (b : UInt8) (n : Nat) (hn : n < 256) : (b == UInt8.ofNat n) = decide (b.toNat = n) := by
  by_cases h : b.toNat = n
  · have : b = UInt8.ofNat n := by
      apply UInt8.toNat_inj.mp; rw [Lemmas.Utf8.toNat_ofNat_lt n hn]; exact h
    simp [this, Lemmas.Utf8.toNat_ofNat_lt n hn]
  · have : b ≠ UInt8.ofNat n := by
      intro e; apply h; rw [e, Lemmas.Utf8.toNat_ofNat_lt n hn]
    simp [this, h]

theorem isCont_iff (b : UInt8) : isCont b = true ↔ 0x80 ≤ b.toNat ∧ b.toNat ≤ 0xBF := by
  have h1 := lit_le b 0x80 (by decide)
  have h2 := le_lit b 0xBF (by decide)
  simp only [isCont, Bool.and_eq_true, decide_eq_true_eq]
  exact and_congr h1 h2

theorem valid1 (b0 : UInt8) (rest : Bytes) (h : b0.toNat < 0x80) : validUtf8 (b0 :: rest) = validUtf8 rest := by
  have h0 : b0 < 0x80 := (lt_lit b0 0x80 (by decide)).mpr h
  rw [validUtf8.eq_def]
  simp only [h0, if_true]

theorem rng (b : UInt8) (lo hi : Nat) (hlo : lo < 256) (hhi : hi < 256) (h : lo ≤ b.toNat ∧ b.toNat ≤ hi) :
    (decide (UInt8.ofNat lo ≤ b) && decide (b ≤ UInt8.ofNat hi)) = true := by
  simp only [Bool.and_eq_true, decide_eq_true_eq]
  exact ⟨(lit_le b lo hlo).mpr h.1, (le_lit b hi hhi).mpr h.2⟩

theorem valid2 (b0 b1 : UInt8) (rest : Bytes) (h0 : 0xC2 ≤ b0.toNat ∧ b0.toNat ≤ 0xDF)
    (h1 : 0x80 ≤ b1.toNat ∧ b1.toNat ≤ 0xBF) : validUtf8 (b0 :: b1 :: rest) = validUtf8 rest := by
  have n0 : ¬ b0 < 0x80 := fun h => by have := (lt_lit b0 0x80 (by decide)).mp h; omega
  have c0 : (decide (0xC2 ≤ b0) && decide (b0 ≤ 0xDF)) = true := rng b0 0xC2 0xDF (by decide) (by decide) h0
  have c1 : isCont b1 = true := (isCont_iff b1).mpr h1
  rw [validUtf8.eq_def]
  simp only [n0, if_false, c0, if_true, c1, Bool.true_and]

theorem valid3 (b0 b1 b2 : UInt8) (rest : Bytes) (h0 : 0xE0 ≤ b0.toNat ∧ b0.toNat ≤ 0xEF)
    (h1 : (if b0.toNat = 0xE0 then 0xA0 else 0x80) ≤ b1.toNat ∧ b1.toNat ≤ (if b0.toNat = 0xED then 0x9F else 0xBF))
    (h2 : 0x80 ≤ b2.toNat ∧ b2.toNat ≤ 0xBF) : validUtf8 (b0 :: b1 :: b2 :: rest) = validUtf8 rest := by
  have n0 : ¬ b0 < 0x80 := fun h => by have := (lt_lit b0 0x80 (by decide)).mp h; omega
  have n1 : (decide (0xC2 ≤ b0) && decide (b0 ≤ 0xDF)) = false := by
    rw [Bool.and_eq_false_iff]; right
    simp only [decide_eq_false_iff_not]
    intro h; have := (le_lit b0 0xDF (by decide)).mp h; omega
  have c0 : (decide (0xE0 ≤ b0) && decide (b0 ≤ 0xEF)) = true := rng b0 0xE0 0xEF (by decide) (by decide) h0
  have c2 : isCont b2 = true := (isCont_iff b2).mpr h2
  have e1 : (b0 == 0xE0) = decide (b0.toNat = 0xE0) := beq_lit b0 0xE0 (by decide)
  have e2 : (b0 == 0xED) = decide (b0.toNat = 0xED) := beq_lit b0 0xED (by decide)
  have ci : (if (b0 == 0xE0) = true then decide (0xA0 ≤ b1) && decide (b1 ≤ 0xBF)
      else if (b0 == 0xED) = true then decide (0x80 ≤ b1) && decide (b1 ≤ 0x9F) else isCont b1) = true := by
    rw [e1, e2]
    by_cases a1 : b0.toNat = 0xE0
    · have a2 : ¬ b0.toNat = 0xED := by omega
      simp only [a1, a2, if_true, if_false] at h1
      simp only [a1, decide_true, if_true]
      exact rng b1 0xA0 0xBF (by decide) (by decide) h1
    · by_cases a2 : b0.toNat = 0xED
      · simp only [a1, a2, if_true, if_false] at h1
        simp only [a1, a2, decide_false, decide_true, if_true, if_false, Bool.false_eq_true]
        exact rng b1 0x80 0x9F (by decide) (by decide) h1
      · simp only [a1, a2, if_false] at h1
        simp only [a1, a2, decide_false, if_false, Bool.false_eq_true]
        exact (isCont_iff b1).mpr h1
  rw [validUtf8.eq_def]
  simp only [n0, if_false, n1, c0, if_true, ci, c2, Bool.true_and, Bool.false_eq_true]

theorem valid4 (b0 b1 b2 b3 : UInt8) (rest : Bytes) (h0 : 0xF0 ≤ b0.toNat ∧ b0.toNat ≤ 0xF4)
    (h1 : (if b0.toNat = 0xF0 then 0x90 else 0x80) ≤ b1.toNat ∧ b1.toNat ≤ (if b0.toNat = 0xF4 then 0x8F else 0xBF))
    (h2 : 0x80 ≤ b2.toNat ∧ b2.toNat ≤ 0xBF) (h3 : 0x80 ≤ b3.toNat ∧ b3.toNat ≤ 0xBF) :
    validUtf8 (b0 :: b1 :: b2 :: b3 :: rest) = validUtf8 rest := by
  have n0 : ¬ b0 < 0x80 := fun h => by have := (lt_lit b0 0x80 (by decide)).mp h; omega
  have n1 : (decide (0xC2 ≤ b0) && decide (b0 ≤ 0xDF)) = false := by
    rw [Bool.and_eq_false_iff]; right
    simp only [decide_eq_false_iff_not]
    intro h; have := (le_lit b0 0xDF (by decide)).mp h; omega
  have n2 : (decide (0xE0 ≤ b0) && decide (b0 ≤ 0xEF)) = false := by
    rw [Bool.and_eq_false_iff]; right
    simp only [decide_eq_false_iff_not]
    intro h; have := (le_lit b0 0xEF (by decide)).mp h; omega
  have c0 : (decide (0xF0 ≤ b0) && decide (b0 ≤ 0xF4)) = true := rng b0 0xF0 0xF4 (by decide) (by decide) h0
  have c2 : isCont b2 = true := (isCont_iff b2).mpr h2
  have c3 : isCont b3 = true := (isCont_iff b3).mpr h3
  have e1 : (b0 == 0xF0) = decide (b0.toNat = 0xF0) := beq_lit b0 0xF0 (by decide)
  have e2 : (b0 == 0xF4) = decide (b0.toNat = 0xF4) := beq_lit b0 0xF4 (by decide)
  have ci : (if (b0 == 0xF0) = true then decide (0x90 ≤ b1) && decide (b1 ≤ 0xBF)
      else if (b0 == 0xF4) = true then decide (0x80 ≤ b1) && decide (b1 ≤ 0x8F) else isCont b1) = true := by
    rw [e1, e2]
    by_cases a1 : b0.toNat = 0xF0
    · have a2 : ¬ b0.toNat = 0xF4 := by omega
      simp only [a1, a2, if_true, if_false] at h1
      simp only [a1, decide_true, if_true]
      exact rng b1 0x90 0xBF (by decide) (by decide) h1
    · by_cases a2 : b0.toNat = 0xF4
      · simp only [a1, a2, if_true, if_false] at h1
        simp only [a1, a2, decide_false, decide_true, if_true, if_false, Bool.false_eq_true]
        exact rng b1 0x80 0x8F (by decide) (by decide) h1
      · simp only [a1, a2, if_false] at h1
        simp only [a1, a2, decide_false, if_false, Bool.false_eq_true]
        exact (isCont_iff b1).mpr h1
  rw [validUtf8.eq_def]
  simp only [n0, if_false, n1, n2, c0, if_true, ci, c2, c3, Bool.true_and, Bool.false_eq_true]

end SaModel.Lemmas.C04Utf8
