import SaModel.Lemmas.C04Safe
import SaModel.Lemmas.C04CastEnum
import SaModel.Lemmas.C02Container
import SaModel.Lemmas.C03ReadPhys
/-
C04: `Read.physical` (the side condition of C02: lengths a Rust `usize` / slice can hold) holds of every well-formed array
of a "plain" data type (no Dictionary, no FixedSizeList, no RunEndEncoded anywhere) — in particular of every array that is
well formed for a traced schema when neither strings nor data-less enums are dictionary encoded.

  plainDT / plainF / plainFs / plainUs : the predicate on data types
  physical_of_wf        : Spec.wf dt nl a → plainDT dt → Read.physical a
  physicalFields_of_wf  : Spec.wfFields fs cols len → plainFs fs → Read.physicalFields cols
  physicalUFields_of_wf : Spec.wfUFields ufs cols k → plainUs ufs → Read.physicalUFields cols
  mapping_plain / mappingPos_plain / mappingFields_plain / mappingVariants_plain :
      o.stringDictionaryEncoding = false → o.enumsWithoutDataAsStrings = false → the traced types are plain
  physical_traced       : Spec.wfFields (mappingFields o fs) cols len → Read.physicalFields cols
-/
namespace SaModel.Roundtrip
open SaModel SaModel.Spec

mutual
def plainDT : DataType → Bool
  | .dictionary _ _ | .runEndEncoded _ _ | .fixedSizeList _ _ => false
  | .list f | .largeList f | .map f _ => plainF f
  | .struct fs => plainFs fs
  | .union ufs _ => plainUs ufs
  | _ => true
def plainF : Field → Bool
  | .mk _ dt _ _ => plainDT dt
def plainFs : Fields → Bool
  | .nil => true
  | .cons f r => plainF f && plainFs r
def plainUs : UFields → Bool
  | .nil => true
  | .cons _ f r => plainF f && plainUs r
end

/-! a plain type has no Dictionary (`noDictDT` of Lemmas/C04Safe.lean) -/
mutual
theorem noDict_of_plain : ∀ (dt : DataType), plainDT dt = true → noDictDT dt = true
  | .list f, h | .largeList f, h | .map f _, h => by
    simp only [plainDT] at h; simp only [noDictDT]; exact noDictF_of_plain f h
  | .struct fs, h => by simp only [plainDT] at h; simp only [noDictDT]; exact noDictFs_of_plain fs h
  | .union ufs _, h => by simp only [plainDT] at h; simp only [noDictDT]; exact noDictUs_of_plain ufs h
  | .dictionary _ _, h | .runEndEncoded _ _, h | .fixedSizeList _ _, h => by simp [plainDT] at h
  | .null, _ | .boolean, _ | .int8, _ | .int16, _ | .int32, _ | .int64, _
  | .uint8, _ | .uint16, _ | .uint32, _ | .uint64, _
  | .float16, _ | .float32, _ | .float64, _
  | .utf8, _ | .largeUtf8, _ | .utf8View, _ | .binary, _ | .largeBinary, _
  | .binaryView, _ | .fixedSizeBinary _, _ | .date32, _ | .date64, _
  | .timestamp _ _, _ | .time32 _, _ | .time64 _, _ | .duration _, _
  | .interval _, _ | .decimal128 _ _, _ => by simp [noDictDT]
theorem noDictF_of_plain : ∀ (f : Field), plainF f = true → noDictF f = true
  | .mk _ dt _ _, h => by simp only [plainF] at h; simp only [noDictF]; exact noDict_of_plain dt h
theorem noDictFs_of_plain : ∀ (fs : Fields), plainFs fs = true → noDictFs fs = true
  | .nil, _ => rfl
  | .cons f r, h => by
    simp only [plainFs, Bool.and_eq_true] at h
    simp [noDictFs, noDictF_of_plain f h.1, noDictFs_of_plain r h.2]
theorem noDictUs_of_plain : ∀ (ufs : UFields), plainUs ufs = true → noDictUs ufs = true
  | .nil, _ => rfl
  | .cons _ f r, h => by
    simp only [plainUs, Bool.and_eq_true] at h
    simp [noDictUs, noDictF_of_plain f h.1, noDictUs_of_plain r h.2]
end

/-! ### `physical` of a well-formed array of a plain type: a plain type has no FixedSizeList and no Dictionary
(`physFreeDT` of Lemmas/C03ReadPhys.lean) -/

section
open SaModel.Lemmas.C03

/-- the entries struct of a map: `physFreeDT` of a Map only looks at the key and value children -/
theorem physFreeDT_map (f : Field) (s : Bool) (h : physFreeF f = true) : physFreeDT (.map f s) = true := by
  unfold physFreeDT
  split <;> first | rfl | simp_all [physFreeF, physFreeDT, physFreeFs]

mutual
theorem physFree_of_plain : ∀ (dt : DataType), plainDT dt = true → physFreeDT dt = true
  | .list f, h | .largeList f, h => by
    simp only [plainDT] at h; simp only [physFreeDT]; exact physFreeF_of_plain f h
  | .map f s, h => by simp only [plainDT] at h; exact physFreeDT_map f s (physFreeF_of_plain f h)
  | .struct fs, h => by simp only [plainDT] at h; simp only [physFreeDT]; exact physFreeFs_of_plain fs h
  | .union ufs _, h => by simp only [plainDT] at h; simp only [physFreeDT]; exact physFreeUs_of_plain ufs h
  | .dictionary _ _, h | .runEndEncoded _ _, h | .fixedSizeList _ _, h => by simp [plainDT] at h
  | .null, _ | .boolean, _ | .int8, _ | .int16, _ | .int32, _ | .int64, _
  | .uint8, _ | .uint16, _ | .uint32, _ | .uint64, _
  | .float16, _ | .float32, _ | .float64, _
  | .utf8, _ | .largeUtf8, _ | .utf8View, _ | .binary, _ | .largeBinary, _
  | .binaryView, _ | .fixedSizeBinary _, _ | .date32, _ | .date64, _
  | .timestamp _ _, _ | .time32 _, _ | .time64 _, _ | .duration _, _
  | .interval _, _ | .decimal128 _ _, _ => rfl
theorem physFreeF_of_plain : ∀ (f : Field), plainF f = true → physFreeF f = true
  | .mk _ dt _ _, h => by simp only [plainF] at h; simp only [physFreeF]; exact physFree_of_plain dt h
theorem physFreeFs_of_plain : ∀ (fs : Fields), plainFs fs = true → physFreeFs fs = true
  | .nil, _ => rfl
  | .cons f r, h => by
    simp only [plainFs, Bool.and_eq_true] at h
    simp [physFreeFs, physFreeF_of_plain f h.1, physFreeFs_of_plain r h.2]
theorem physFreeUs_of_plain : ∀ (ufs : UFields), plainUs ufs = true → physFreeUFs ufs = true
  | .nil, _ => rfl
  | .cons _ f r, h => by
    simp only [plainUs, Bool.and_eq_true] at h
    simp [physFreeUFs, physFreeF_of_plain f h.1, physFreeUs_of_plain r h.2]
end

end

theorem physical_of_wf (a : Arr) (dt : DataType) (nl : Bool) (h : Spec.wf dt nl a = true) (hp : plainDT dt = true) :
    Read.physical a = true :=
  Lemmas.C03.wf_physical_plain a dt nl (physFree_of_plain dt hp) h
theorem physicalFields_of_wf (cols : ArrFields) (fs : Fields) (len : Nat) (h : Spec.wfFields fs cols len = true)
    (hp : plainFs fs = true) : Read.physicalFields cols = true :=
  Lemmas.C03.wfFields_physical_plain cols fs len (physFreeFs_of_plain fs hp) h
theorem physicalUFields_of_wf : ∀ (cols : ArrUFields) (ufs : UFields) (k : Int), Spec.wfUFields ufs cols k = true →
    plainUs ufs = true → Read.physicalUFields cols = true :=
  fun cols ufs k h hp => Lemmas.C03.wfUFields_physical_plain cols ufs k (physFreeUs_of_plain ufs hp) h

theorem closed_plain (o : TraceOpts) (hd : o.stringDictionaryEncoding = false) (he : o.enumsWithoutDataAsStrings = false) :
    MappingClosed o (fun _ dt _ _ => plainDT dt = true) (fun _ _ F => plainFs F = true) (fun _ F => plainFs F = true)
      (fun _ _ U => plainUs U = true) := by
  apply MappingClosed.of_fields (leaf := by decide) (dict := by simp [hd, he])
  all_goals intros
  all_goals simp_all [plainDT, plainF, plainFs, plainUs]

theorem mapping_plain (o : TraceOpts) (hd : o.stringDictionaryEncoding = false) (he : o.enumsWithoutDataAsStrings = false) :
    ∀ (t : Ty) (dt : DataType) (nb : Bool) (md : Metadata), mappingDT o t = (dt, nb, md) → plainDT dt = true :=
  fun _ _ _ _ hm => (closed_plain o hd he).mapping' hm
theorem mappingPos_plain (o : TraceOpts) (hd : o.stringDictionaryEncoding = false) (he : o.enumsWithoutDataAsStrings = false) :
    ∀ (ts : Tys) (i : Nat), plainFs (mappingPos o i ts) = true :=
  fun ts i => (closed_plain o hd he).pos i ts
theorem mappingFields_plain (o : TraceOpts) (hd : o.stringDictionaryEncoding = false) (he : o.enumsWithoutDataAsStrings = false) :
    ∀ (fs : TFields), plainFs (mappingFields o fs) = true :=
  (closed_plain o hd he).fields
theorem mappingVariants_plain (o : TraceOpts) (hd : o.stringDictionaryEncoding = false) (he : o.enumsWithoutDataAsStrings = false) :
    ∀ (vs : Variants) (i : Nat), plainUs (mappingVariants o i vs) = true :=
  fun vs i => (closed_plain o hd he).variants i vs

/-- **every array that is well formed for a traced schema (no dictionary encoding) is physical** -/
theorem physical_traced (o : TraceOpts) (hd : o.stringDictionaryEncoding = false) (he : o.enumsWithoutDataAsStrings = false)
    (fs : TFields) (cols : ArrFields) (len : Nat)
    (h : Spec.wfFields (mappingFields o fs) cols len = true) : Read.physicalFields cols = true :=
  physicalFields_of_wf cols _ len h (mappingFields_plain o hd he fs)

/-- … for the array of one traced type -/
theorem physical_traced_ty (o : TraceOpts) (hd : o.stringDictionaryEncoding = false) (he : o.enumsWithoutDataAsStrings = false)
    (t : Ty) (dt : DataType) (nb : Bool) (md : Metadata) (hm : mappingDT o t = (dt, nb, md)) (nl : Bool) (a : Arr)
    (h : Spec.wf dt nl a = true) : Read.physical a = true :=
  physical_of_wf a dt nl h (mapping_plain o hd he t dt nb md hm)

/-- … for the root struct array of a traced schema -/
theorem physical_traced_root (o : TraceOpts) (hd : o.stringDictionaryEncoding = false) (he : o.enumsWithoutDataAsStrings = false)
    (fs : TFields) (nl : Bool) (a : Arr)
    (h : Spec.wf (.struct (mappingFields o fs)) nl a = true) : Read.physical a = true :=
  physical_of_wf a _ nl h (by simpa [plainDT] using mappingFields_plain o hd he fs)

end SaModel.Roundtrip
