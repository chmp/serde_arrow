import SaModel.Lemmas.C08Local
/-
Induction along the documented mapping of schema tracing (`Trace.Spec.mapping`, Trace/Mapping.lean).

A property of fields that the user's overwrites have and that is closed under the field constructions of the mapping
(`MappingCases`: one clause per kind of field the mapping writes down, with every `overwritten`, bind, refusal and the
`i8` check of the variant index resolved) holds of every field the mapping returns.  `Lemmas.C03.mapping_good`
(no `FixedSizeBinary`, parameters of their Rust width) and `Lemmas.C09T.mapping_schemaOK` (the round-trip domain of the
JSON schema) are its instances.
-/
namespace SaModel.Trace.Spec
open SaModel SaModel.Trace

/-- `P` holds of the overwrites and is closed under the constructions of `mapping`; `PL` / `PU` are what the children of a
struct / the variants of a union (from index `i` on) carry -/
structure MappingCases (o : Options) (P : Field → Prop) (PL : List Field → Prop) (PU : Nat → List (Int × Field) → Prop) :
    Prop where
  overwrite : ∀ kv ∈ o.overwrites, P kv.2
  null : ∀ n, P (.mk n .null true [])
  bool : ∀ n nl, P (.mk n .boolean nl [])
  int : ∀ t n nl, P (.mk n (intDataType t) nl [])
  f32 : ∀ n nl, P (.mk n .float32 nl [])
  f64 : ∀ n nl, P (.mk n .float64 nl [])
  bytes : ∀ n nl, P (.mk n .largeBinary nl [])
  string : ∀ n nl, P (stringField o n nl)
  list : ∀ n nl item, P item → P (.mk n (if o.sequence_as_large_list then .largeList item else .list item) nl [])
  tuple : ∀ n nl fs, PL fs → P (.mk n (.struct (Fields.ofList fs)) nl tupleMeta)
  struct : ∀ n nl fs, PL fs → P (.mk n (.struct (Fields.ofList fs)) nl [])
  map : ∀ n nl kf vf, P kf → P vf →
    P (.mk n (.map (.mk "entries" (.struct (Fields.ofList [kf, vf])) false []) false) nl [])
  enumStrings : ∀ n nl, P (.mk n (.dictionary .uint32 o.string_type) nl [])
  union : ∀ n nl us, PU 0 us → P (.mk n (.union (UFields.ofList us) .dense) nl [])
  nil : PL []
  cons : ∀ f fs, P f → PL fs → PL (f :: fs)
  unil : ∀ i, PU i []
  ucons : ∀ i f us, ¬ i > 127 → P f → PU (i + 1) us → PU i ((Int.ofNat i, f) :: us)

namespace MappingCases
variable {o : Options} {P : Field → Prop} {PL : List Field → Prop} {PU : Nat → List (Int × Field) → Prop}

/-- an overwritable position: the overwrite as given, or the field computed for the position -/
theorem overwritten (H : MappingCases o P PL PU) {n p : String} {k : Unit → R Field} {f : Field}
    (h : Spec.overwritten o n p k = .ok f) (hk : ∀ g, k () = .ok g → P g) : P f := by
  unfold Spec.overwritten at h
  split at h
  · rename_i q g hfind
    split at h
    · cases h; exact H.overwrite (q, f) (List.mem_of_find?_eq_some hfind)
    · cases h
  · exact hk f h

theorem nullField (H : MappingCases o P PL PU) {n : String} {f : Field} (h : Spec.nullField o n = .ok f) : P f := by
  unfold Spec.nullField at h
  split at h
  · cases h; exact H.null n
  · cases h

theorem all (H : MappingCases o P PL PU) :
    (∀ (ty : Ty) (name path : String) (nl : Bool) (f : Field), Spec.mapping o name path nl ty = .ok f → P f) ∧
    (∀ (ts : Tys) (path : String) (i : Nat) (l : List Field), mappingTys o path i ts = .ok l → PL l) ∧
    (∀ (tfs : TyFields) (path : String) (l : List Field), mappingFields o path tfs = .ok l → PL l) ∧
    (∀ (vs : TyVariants) (path : String) (i : Nat) (l : List (Int × Field)), mappingVariants o path i vs = .ok l → PU i l) := by
  apply Lemmas.C08.Ty.walk
  case node =>
    intro ty ih n path nl f h
    match ty, ih with
    | .unit, _ | .unitStruct _, _ => rw [Spec.mapping] at h; exact H.overwritten h fun _ => H.nullField
    | .bool, _ => rw [Spec.mapping] at h; exact H.overwritten h fun _ hg => by cases hg; exact H.bool n nl
    | .int t, _ => rw [Spec.mapping] at h; exact H.overwritten h fun _ hg => by cases hg; exact H.int t n nl
    | .f32, _ => rw [Spec.mapping] at h; exact H.overwritten h fun _ hg => by cases hg; exact H.f32 n nl
    | .f64, _ => rw [Spec.mapping] at h; exact H.overwritten h fun _ hg => by cases hg; exact H.f64 n nl
    | .char, _ => rw [Spec.mapping] at h; exact H.overwritten h fun _ hg => by cases hg; exact H.int .u32 n nl
    | .string, _ => rw [Spec.mapping] at h; exact H.overwritten h fun _ hg => by cases hg; exact H.string n nl
    | .bytes, _ => rw [Spec.mapping] at h; exact H.overwritten h fun _ hg => by cases hg; exact H.bytes n nl
    | .option t, ih => rw [Spec.mapping] at h; exact ih n path true f h
    | .newtypeStruct _ t, ih => rw [Spec.mapping] at h; exact ih n path nl f h
    | .vec t, ih =>
      rw [Spec.mapping] at h
      refine H.overwritten h fun _ hg => ?_
      obtain ⟨item, hi, hg⟩ := R.bind_ok_inv hg
      cases hg
      exact H.list n nl item (ih _ _ _ item hi)
    | .tuple ts, ih | .tupleStruct _ ts, ih =>
      rw [Spec.mapping] at h
      refine H.overwritten h fun _ hg => ?_
      obtain ⟨fs, hfs, hg⟩ := R.bind_ok_inv hg
      cases hg
      exact H.tuple n nl fs (ih path 0 fs hfs)
    | .map k v, ih =>
      rw [Spec.mapping] at h
      refine H.overwritten h fun _ hg => ?_
      obtain ⟨kf, hk, hg⟩ := R.bind_ok_inv hg
      obtain ⟨vf, hv, hg⟩ := R.bind_ok_inv hg
      cases hg
      exact H.map n nl kf vf (ih.1 _ _ _ kf hk) (ih.2 _ _ _ vf hv)
    | .struct _ fs, ih =>
      rw [Spec.mapping] at h
      refine H.overwritten h fun _ hg => ?_
      obtain ⟨l, hl, hg⟩ := R.bind_ok_inv hg
      cases hg
      exact H.struct n nl l (ih path l hl)
    | .enum _ vs, ih =>
      rw [Spec.mapping] at h
      refine H.overwritten h fun _ hg => ?_
      split at hg
      · cases hg; exact H.enumStrings n nl
      · split at hg
        · cases hg
        · obtain ⟨children, hc, hg⟩ := R.bind_ok_inv hg
          cases hg
          exact H.union n nl children (ih path 0 children hc)
  case tnil => intro _ _ _ h; rw [mappingTys] at h; cases h; exact H.nil
  case tcons =>
    intro t r iht ihr path i _ h
    rw [mappingTys] at h
    obtain ⟨f, hf, h⟩ := R.bind_ok_inv h
    obtain ⟨fs, hfs, h⟩ := R.bind_ok_inv h
    cases h
    exact H.cons f fs (iht _ _ _ f hf) (ihr path (i + 1) fs hfs)
  case fnil => intro _ _ h; rw [mappingFields] at h; cases h; exact H.nil
  case fcons =>
    intro n t r iht ihr path _ h
    rw [mappingFields] at h
    obtain ⟨f, hf, h⟩ := R.bind_ok_inv h
    obtain ⟨fs, hfs, h⟩ := R.bind_ok_inv h
    cases h
    exact H.cons f fs (iht _ _ _ f hf) (ihr path fs hfs)
  case vnil => intro _ i _ h; rw [mappingVariants] at h; cases h; exact H.unil i
  case vcons =>
    intro vs n T r hh ihT ihr path i _ h
    rw [hh.mapping_eq] at h
    split at h
    · cases h
    · rename_i hi
      obtain ⟨f, hf, h⟩ := R.bind_ok_inv h
      obtain ⟨fs, hfs, h⟩ := R.bind_ok_inv h
      cases h
      exact H.ucons i f fs hi (ihT _ _ _ f hf) (ihr path (i + 1) fs hfs)

theorem mapping (H : MappingCases o P PL PU) :
    ∀ (ty : Ty) (name path : String) (nl : Bool) (f : Field), Spec.mapping o name path nl ty = .ok f → P f :=
  H.all.1

theorem tys (H : MappingCases o P PL PU) :
    ∀ (ts : Tys) (path : String) (i : Nat) (l : List Field), mappingTys o path i ts = .ok l → PL l :=
  H.all.2.1

theorem fields (H : MappingCases o P PL PU) :
    ∀ (tfs : TyFields) (path : String) (l : List Field), mappingFields o path tfs = .ok l → PL l :=
  H.all.2.2.1

theorem variants (H : MappingCases o P PL PU) :
    ∀ (vs : TyVariants) (path : String) (i : Nat) (l : List (Int × Field)), mappingVariants o path i vs = .ok l → PU i l :=
  H.all.2.2.2

end MappingCases
/-- the documented result of `from_type`: the children of the struct field the mapping returns for the root -/
theorem fromTypeSpec_root {o : Options} {ty : Ty} {fields : List Field} (h : fromTypeSpec o ty = .ok fields) :
    ∃ n children md, mapping o "$" "$" false ty = .ok (.mk n (.struct children) false md) ∧ fields = children.toList := by
  unfold fromTypeSpec at h
  split at h
  · cases h
  split at h
  · cases h
  split at h
  · cases h
  obtain ⟨⟨n, dt, nl, md⟩, hr, h⟩ := R.bind_ok_inv h
  split at h
  · cases h
  · rename_i hnl
    split at h
    · rename_i children hdt
      cases h
      simp only [Field.dataType] at hdt
      simp only [Field.nullable, Bool.not_eq_true] at hnl
      subst hdt; subst hnl
      exact ⟨n, children, md, hr, rfl⟩
    · cases h

end SaModel.Trace.Spec
