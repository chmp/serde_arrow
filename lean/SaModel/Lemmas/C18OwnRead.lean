import SaModel.Lemmas.C18ReadAny
import SaModel.Lemmas.C18ReadNoCtx
/-
C18, reader half: WHERE an error is raised (the reader-side blame statement, operational form).

  `RCall`              what a reader is asked: `deserialize_any` or the typed read a target issues
  `rBody af fx p c a idx`  the code of the reader of `a` at path `p` for the call `c` at row `idx` WITHOUT its own
                       `.ctx(self)` wrapper (the argument of `ctx (rann p a) (…)` in `readAnyA` / `readAsA`, copied arm by
                       arm; the reads of the child readers are the real, wrapped `readAnyA` / `readAsA`)
  `OwnFailsR af fx p a c idx msg`   that body returns the PLAIN error `msg`.  With the code that exists (`AnnFixes.all`)
                       every read is the wrapper around its body (`readAnyA_eq_body`, `readAsA_eq_body`), so child reads never
                       return plain errors (`readAsA_not_plain`, `readAnyA_not_plain`) and the error is raised by the code of
                       this reader itself, not forwarded from a child reader
  `RaisedR af fx S r`  if `r` is an annotated error, its annotation is `rann p' a'` of a reader whose subtree lies in `S`
                       and whose own step failed with that message
-/
namespace SaModel.Props.C18
open SaModel SaModel.Read

inductive RCall where
  | any
  | as (t : Target)

/-- `deserialize_any` of the reader of `a` at `p` without the `.ctx(self)` wrapper (copy of the arms of `readAnyA`) -/
def anyBody (fx : Fixes) (p : String) : Arr → Nat → R DVal
  | .struct len v fs, idx =>
    anyAt fx (.struct len v fs) (fun idx =>
      if idx ≥ len then fail "Exhausted deserializer"
      else do pure (.map (← readAnyFieldsA fx p fs idx))) idx
  | .list large v offs fm el, idx =>
    anyAt fx (.list large v offs fm el) (fun idx => do
      let (s, e) ← listRange fx offs idx
      pure (.seq (DVals.ofList (← readRange (readAnyA fx (rchild p fm.name) el) s (e - s))))) idx
  | .fixedSizeList len v n fm el, idx =>
    anyAt fx (.fixedSizeList len v n fm el) (fun idx => do
      let (s, e) ← fslRange fx len n idx
      pure (.seq (DVals.ofList (← readRange (readAnyA fx (rchild p fm.name) el) s (e - s))))) idx
  | .map v offs mm ks vs, idx =>
    anyAt fx (.map v offs mm ks vs) (fun idx => do
      let (s, e) ← listRange fx offs idx
      let es ← readRange (fun j => do
        let k ← readAnyA fx (rmapChild p mm.entriesName mm.keys.name) ks j
        let v ← readAnyA fx (rmapChild p mm.entriesName mm.values.name) vs j
        pure (k, v)) s (e - s)
      pure (.map (DEntries.ofList es))) idx
  | .union types offs fs, idx =>
    anyAt fx (.union types offs fs) (fun idx => do
      let (k, off) ← unionSelect fx types offs fs.length idx
      readAnyVariantA fx p fs k off) idx
  | a, idx => readAny fx a idx

/-- the typed read `t` of the reader of `a` at `p` without the `.ctx(self)` wrapper (copy of the arms of `readAsA`;
`any` / `ignored` / newtype targets are transparent in `readAsA` — they are never the blamed call as such) -/
def asBody (af : AnnFixes) (fx : Fixes) (p : String) : Target → Arr → Nat → R DVal
  | .any, a, idx => readAnyA fx p a idx
  | .ignored, a, idx => do let _ ← readAnyA fx p a idx; pure .ignored
  | .unit, a, idx => do accept .unit (← scalar fx .unit a idx)
  | .unitStruct, a, idx => do accept .unitStruct (← scalar fx .unitStruct a idx)
  | .bool, a, idx => do accept .bool (← scalar fx .bool a idx)
  | .int ty, a, idx => do accept (.int ty) (← scalar fx (.int ty) a idx)
  | .f32, a, idx => do accept .f32 (← scalar fx .f32 a idx)
  | .f64, a, idx => do accept .f64 (← scalar fx .f64 a idx)
  | .char, a, idx => do accept .char (← scalar fx .char a idx)
  | .string, a, idx => do accept .string (← scalar fx .string a idx)
  | .str, a, idx => do accept .str (← scalar fx .str a idx)
  | .bytes, a, idx =>
      match a with
      | .list _ _ offs _ _ => do let _ ← listRange fx offs idx; rejected
      | _ => do accept .bytes (← scalar fx .bytes a idx)
  | .byteBuf, a, idx =>
      match a with
      | .list _ _ offs fm el => do
        let (s, e) ← listRange fx offs idx
        let xs ← readRange (fun j =>
          ctx (rann (rchild p fm.name) el) (do accept (.int .u8) (← scalar fx (.int .u8) el j))) s (e - s)
        pure (.bytes .owned (xs.map fun d => match d with | .int _ v => UInt8.ofNat v.toNat | _ => 0))
      | _ => do accept .byteBuf (← scalar fx .byteBuf a idx)
  | .option t, a, idx => do
      if (← isSome fx a idx) then pure (.some (← readAsA af fx p t a idx)) else pure .none
  | .newtype t, a, idx => readAsA af fx p t a idx
  | .seq t, a, idx =>
    match a with
    | .list _ _ offs fm el => do
        let (s, e) ← listRange fx offs idx
        pure (.seq (DVals.ofList (← readRange (fun j => readAsA af fx (rchild p fm.name) t el j) s (e - s))))
    | .fixedSizeList len _ n fm el => do
        let (s, e) ← fslRange fx len n idx
        pure (.seq (DVals.ofList (← readRange (fun j => readAsA af fx (rchild p fm.name) t el j) s (e - s))))
    | _ =>
        match binaryElems fx a idx with
        | some rb => do
          let b ← rb
          pure (.seq (DVals.ofList (← b.mapM (u8As t))))
        | none => notImpl
  | .tuple ts, a, idx => tupleVisit fx (fun fs => readTupleFieldsA af fx p ts fs idx) a idx
  | .tupleStruct ts, a, idx => tupleVisit fx (fun fs => readTupleFieldsA af fx p ts fs idx) a idx
  | .map k v, a, idx =>
      match a with
      | .struct len _ fs => do
        structItem fx len idx
        let es ← fs.toList.mapM fun (fm, child) => do
          let kk ← strDeAs k fm.name
          let vv ← readAsA af fx (rchild p fm.name) v child idx
          pure (kk, vv)
        pure (.map (DEntries.ofList es))
      | .map _ offs mm ks vs => do
        let (s, e) ← listRange fx offs idx
        let es ← readRange (fun j => do
          let kk ← readAsA af fx (rmapChild p mm.entriesName mm.keys.name) k ks j
          let vv ← readAsA af fx (rmapChild p mm.entriesName mm.values.name) v vs j
          pure (kk, vv)) s (e - s)
        pure (.map (DEntries.ofList es))
      | _ => notImpl
  | .struct tfs, a, idx =>
      match a with
      | .struct len _ fs => do
        structItem fx len idx
        let slots ← fs.toList.foldlM (fun (slots : Slots) (fm, child) => do
          match (← readFieldAsA af fx tfs 0 slots fm.name (rchild p fm.name) child idx) with
          | some kv => pure (slots ++ [kv])
          | none => do let _ ← readAnyA fx (rchild p fm.name) child idx; pure slots) []
        pure (.map (DEntries.ofList (← finishFields tfs 0 slots)))
      | _ => notImpl
  | .enum byIndex vs, a, idx =>
    match a with
    | .union types offs fs => do
        let (k, off) ← unionSelect fx types offs fs.length idx
        match ArrUFields.nth fs k with
        | none => panic "EnumDeserializer: variants[type_id]"
        | some (fm, child) =>
          readVariantAsA af fx vs (if byIndex then some k else none) fm.name (some (rchild p fm.name, child, off))
    | _ =>
        match stringElem fx a idx with
        | some rs => do
          let s ← rs
          if byIndex then fail "Unsupported: EnumDeserializer does not implement deserialize_u64"
          else readVariantAsBytesA af fx vs s
        | none => notImpl

def rBody (af : AnnFixes) (fx : Fixes) (p : String) : RCall → Arr → Nat → R DVal
  | .any, a, idx => anyBody fx p a idx
  | .as t, a, idx => asBody af fx p t a idx

def OwnFailsR (af : AnnFixes) (fx : Fixes) (p : String) (a : Arr) (c : RCall) (idx : Nat) (msg : String) : Prop :=
  rBody af fx p c a idx = .error (.err msg)

def RaisedR (af : AnnFixes) (fx : Fixes) (S : List Pos) {α} (r : R α) : Prop :=
  ∀ msg ann, r = .error (.errCtx msg ann) →
    ∃ (p' : String) (a' : Arr) (c : RCall) (idx' : Nat),
      ann = rann p' a' ∧ (∀ q ∈ rpositions p' a', q ∈ S) ∧ OwnFailsR af fx p' a' c idx' msg

theorem readAnyA_eq_body (fx : Fixes) (p : String) (a : Arr) (idx : Nat) :
    readAnyA fx p a idx = ctx (rann p a) (rBody AnnFixes.all fx p .any a idx) := by
  cases a <;> (unfold readAnyA rBody anyBody; rfl)

theorem readAsA_eq_body (fx : Fixes) (t : Target) (p : String) (a : Arr) (idx : Nat)
    (h1 : t ≠ .any) (h2 : t ≠ .ignored) (h3 : ∀ t', t ≠ .newtype t') :
    readAsA AnnFixes.all fx p t a idx = ctx (rann p a) (rBody AnnFixes.all fx p (.as t) a idx) := by
  cases t with
  | any => exact absurd rfl h1
  | ignored => exact absurd rfl h2
  | newtype t' => exact absurd rfl (h3 t')
  | seq t' => unfold readAsA rBody asBody; cases a <;> rfl
  | enum bi vs => unfold readAsA rBody asBody; cases a <;> rfl
  | tuple ts => unfold readAsA rBody asBody tupleVisitA; rfl
  | tupleStruct ts => unfold readAsA rBody asBody tupleVisitA; rfl
  | struct tfs => unfold readAsA rBody asBody structVisitA; rfl
  | _ => unfold readAsA rBody asBody; rfl

theorem readAnyA_not_plain (fx : Fixes) (p : String) (a : Arr) (idx : Nat) (msg : String) :
    readAnyA fx p a idx ≠ .error (.err msg) := by
  rw [readAnyA_eq_body]; exact ctx_never_plain rfl _ _

/-- with the two fixes no typed read returns a plain error: the transparent targets forward, every other is a wrapper -/
theorem readAsA_not_plain (fx : Fixes) : ∀ (t : Target) (p : String) (a : Arr) (idx : Nat) (msg : String),
    readAsA AnnFixes.all fx p t a idx ≠ .error (.err msg)
  | .any, p, a, idx, msg => by unfold readAsA; exact readAnyA_not_plain fx p a idx msg
  | .ignored, p, a, idx, msg => by
    unfold readAsA
    exact fun h => (bind_err_plain h).elim (readAnyA_not_plain fx p a idx msg) fun ⟨_, _, hv⟩ => nomatch hv
  | .newtype t, p, a, idx, msg => by unfold readAsA; exact readAsA_not_plain fx t p a idx msg
  | .unit, p, a, idx, msg | .unitStruct, p, a, idx, msg | .bool, p, a, idx, msg | .int _, p, a, idx, msg
  | .f32, p, a, idx, msg | .f64, p, a, idx, msg | .char, p, a, idx, msg | .string, p, a, idx, msg | .str, p, a, idx, msg
  | .bytes, p, a, idx, msg | .byteBuf, p, a, idx, msg | .option _, p, a, idx, msg | .map _ _, p, a, idx, msg
  | .seq _, p, a, idx, msg | .tuple _, p, a, idx, msg | .tupleStruct _, p, a, idx, msg | .struct _, p, a, idx, msg
  | .enum _ _, p, a, idx, msg => by
    rw [readAsA_eq_body fx _ p a idx (by intro h; cases h) (by intro h; cases h) (by intro t' h; cases h)]
    exact ctx_never_plain rfl _ _

variable {af : AnnFixes} {fx : Fixes}

theorem NoCtx.raisedR {α} {S : List Pos} (r : R α) [h : NoCtx r] : RaisedR af fx S r := NoCtx.ann r

theorem RaisedR.within {α} {S : List Pos} {r : R α} (h : RaisedR af fx S r) : Within S r :=
  fun msg a e => let ⟨p', a', _, _, ha, hs, _⟩ := h msg a e; ⟨_, hs _ (self_mem_rpositions p' a'), ha⟩

theorem RaisedR.of_ok {α} {S : List Pos} (v : α) : RaisedR af fx S (.ok v : R α) := Ann.of_ok v

theorem RaisedR.mono {α} {S S' : List Pos} {r : R α} (hs : ∀ q ∈ S, q ∈ S') (h : RaisedR af fx S r) : RaisedR af fx S' r :=
  fun msg a e => let ⟨p', a', c, i, ha, hsub, ho⟩ := h msg a e; ⟨p', a', c, i, ha, fun q hq => hs q (hsub q hq), ho⟩

theorem RaisedR.bind {α β} {S : List Pos} {r : R α} {f : α → R β} (hr : RaisedR af fx S r)
    (hf : ∀ v, r = .ok v → RaisedR af fx S (f v)) : RaisedR af fx S (r >>= f) := Ann.bind hr hf

theorem RaisedR.ite {α} {S : List Pos} (c : Prop) [Decidable c] {x y : R α} (hx : RaisedR af fx S x)
    (hy : RaisedR af fx S y) : RaisedR af fx S (if c then x else y) := Ann.ite c hx hy

theorem RaisedR.ctx_own {α} {S : List Pos} {r : R α} (p : String) (a : Arr) (c : RCall) (idx : Nat)
    (hs : ∀ q ∈ rpositions p a, q ∈ S) (hown : ∀ msg, r = .error (.err msg) → OwnFailsR af fx p a c idx msg)
    (h : RaisedR af fx S r) : RaisedR af fx S (ctx (rann p a) r) :=
  Ann.ctx rfl (fun msg e => ⟨p, a, c, idx, rfl, hs, hown msg e⟩) h

theorem RaisedR.ctxIf_own {α} {S : List Pos} {r : R α} (b : Bool) (p : String) (a : Arr) (c : RCall) (idx : Nat)
    (hs : ∀ q ∈ rpositions p a, q ∈ S) (hown : ∀ msg, r = .error (.err msg) → OwnFailsR af fx p a c idx msg)
    (h : RaisedR af fx S r) : RaisedR af fx S (ctxIf b (rann p a) r) := by
  unfold SaModel.Read.ctxIf; split
  · exact RaisedR.ctx_own p a c idx hs hown h
  · exact h

theorem rsub_refl {S : List Pos} : ∀ q ∈ S, q ∈ S := fun _ h => h

theorem readRange_raisedR {α} {S : List Pos} {f : Nat → R α} (hf : ∀ j, RaisedR af fx S (f j)) :
    ∀ (n s : Nat), RaisedR af fx S (readRange f s n) := Ann.readRange hf

theorem mapM_raisedR {α β} {S : List Pos} {f : α → R β} : ∀ (l : List α), (∀ x ∈ l, RaisedR af fx S (f x)) →
    RaisedR af fx S (l.mapM f) := Ann.mapM

theorem foldlM_raisedR {α σ} {S : List Pos} {f : σ → α → R σ} : ∀ (l : List α) (init : σ),
    (∀ s, ∀ x ∈ l, RaisedR af fx S (f s x)) → RaisedR af fx S (l.foldlM f init) := Ann.foldlM

end SaModel.Props.C18
