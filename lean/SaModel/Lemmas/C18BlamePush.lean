import SaModel.Lemmas.C18BlameDict
import SaModel.Lemmas.C18BlameMap
import SaModel.Lemmas.C18BlameUnion
import SaModel.Lemmas.C01Variant
/-
C18, blame against the specification: the walk over `push` — EVERY `SVal` constructor into every builder family — as
an instance of `PushRowsE` (`bl_rows`); `push_bl` and the loops `pushElems_bl` .. `pushMapEntries_bl` are its
projections.  Where the specification gives the value a meaning nothing is blamed (`bl_of_interp_ok`: completeness of C01,
a black box), so the motive of a push (`PushBl`) speaks of the other case only.  The loops of a struct row are taken in
continuation-passing style (`pushFields .. >>= k`, see C18BlameStruct).  Raw key / value streams (`.mapRaw`) are outside
`noRaw`, the hypothesis of the completeness theorems: their clauses are empty.
-/
namespace SaModel.Props.C18
open SaModel SaModel.Build SaModel.Spec

theorem bytes_self_mem {ext : Ext} {path : String} {dt n md} {bs : Bytes}
    (hi : (interpDT ext dt n md (.bytes bs)).isOk = false) : path ∈ blameDT ext path dt n md (.bytes bs) := by
  unfold blameDT
  rw [hi, if_neg Bool.false_ne_true]
  split <;> simp

/-- `rw [blameDT]` takes the equation of the arm for data types other than unions -/
theorem variant_self_mem {ext : Ext} {b : B} {path : String} {dt n md} {x : SVal} {i : Nat} {y : SVal}
    (hx : IsVariant x i y) (hu : ∀ a vn, x ≠ .unitVariant a i vn) (hsh : Shape b dt n md) (hb : b.isUnion = false)
    (hi : (interpDT ext dt n md x).isOk = false) : path ∈ blameDT ext path dt n md x := by
  cases hx with
  | unit a i vn => exact absurd rfl (hu a vn)
  | _ =>
    rw [blameDT, hi]
    · simp
    · exact Shape_not_union hsh hb

theorem nodup_not_mem_take {l : List String} {j : Nat} {a : String} (hnd : l.Nodup) (h : l[j]? = some a) :
    a ∉ l.take j := by
  intro hm
  obtain ⟨i, hi⟩ := List.getElem?_of_mem hm
  have hlt : i < j := by
    have := (List.getElem?_eq_some_iff.1 hi).1
    simp only [List.length_take] at this
    omega
  rw [List.getElem?_take_of_lt hlt] at hi
  have h1 := SaModel.Props.C11Front.indexOfName_of_get _ hnd a i hi
  have h2 := SaModel.Props.C11Front.indexOfName_of_get _ hnd a j h
  rw [h1] at h2; cases h2; omega

section
variable {ext : Ext}

def PushBl (ext : Ext) (b : B) (x : SVal) (r : R B) : Prop :=
  noRaw x = true → ∀ (path : String) (dt : DataType) (n : Bool) (md : Metadata), GoodH b dt n md → At path dt n md b →
    vsize ext x ≤ room b → (interpDT ext dt n md x).isOk = false → Bl (blameDT ext path dt n md x) r

theorem PushBl.all {b : B} {x : SVal} (h : PushBl ext b x (push ext b x)) (hraw : noRaw x = true) {path : String}
    {dt n md} (hg : GoodH b dt n md) (ha : At path dt n md b) (hcap : vsize ext x ≤ room b) :
    Bl (blameDT ext path dt n md x) (push ext b x) := by
  by_cases hi : (interpDT ext dt n md x).isOk = true
  · exact bl_of_interp_ok hg hraw hcap hi
  · exact h hraw path dt n md hg ha hcap (not_isOk_false hi)

/-- `StructBuilder::element` on field `idx`, named `key` (`element_blo`, the child's blame from the walk) -/
def ElementBl (ext : Ext) (s : SS) (idx : Nat) (x : SVal) (r : R SS) : Prop :=
  noRaw x = true → ∀ (path : String) (sfs : Fields) (key : String) (done S : List String), MidS path sfs s → SeenIs s done →
    s.fields.names[idx]? = some key → (key ∈ done → path ∈ S) → vsize ext x ≤ roomL s.fields →
    (∀ f, sfs.toList[idx]? = some f → ∀ q ∈ blameDT ext (path ++ "." ++ f.name) f.dataType f.nullable f.metadata x, q ∈ S) →
    Blo S path r

/-- `ElemsBl` / `CountBl` for one state of the loop -/
def ElemsAt (ext : Ext) (el : B) (xs : SVals) {α} (r : R α) : Prop :=
  noRaws xs = true → ∀ (cpath : String) (cdt : DataType) (cn : Bool) (cmd : Metadata), GoodH el cdt cn cmd →
    At cpath cdt cn cmd el → vsizes ext xs ≤ room el → Bl (blameAll ext cpath cdt cn cmd xs) r

def TupleAt (ext : Ext) (s : SS) (xs : SVals) (r : R SS) : Prop :=
  noRaws xs = true → ∀ {β : Type} (k : SS → R β) (S : List String) (path : String) (sfs : Fields) (j : Nat),
    MidS path sfs s → NextIs s j → SeenIs s ((sfs.toList.map Field.name).take j) → vsizes ext xs + 1 ≤ roomL s.fields →
    (∀ q ∈ blameNth ext path (sfs.toList.drop j) xs, q ∈ S) →
    (∀ s', MidS path sfs s' → SeenIs s' ((sfs.toList.map Field.name).take (j + xs.length)) → 1 ≤ roomL s'.fields →
      Blo S path (k s')) →
    Blo S path (r >>= k)

def FieldsAt (ext : Ext) (s : SS) (fields : SFields) (r : R SS) : Prop :=
  noRawf fields = true → ∀ {β : Type} (k : SS → R β) (S : List String) (path : String) (sfs : Fields) (done : List String),
    MidS path sfs s → SeenIs s done → vsizef ext fields + 1 ≤ roomL s.fields →
    (dupKeys (done ++ knownKeys sfs.toList (fieldKeys fields)) = true → path ∈ S) →
    (∀ q ∈ blameFields ext path sfs.toList fields, q ∈ S) →
    (∀ s', MidS path sfs s' → SeenIs s' (done ++ knownKeys sfs.toList (fieldKeys fields)) → 1 ≤ roomL s'.fields →
      Blo S path (k s')) →
    Blo S path (r >>= k)

def EntriesAt (ext : Ext) (s : SS) (es : SEntries) (r : R SS) : Prop :=
  noRawe es = true → ∀ {β : Type} (k : SS → R β) (S : List String) (path : String) (sfs : Fields) (done : List String),
    MidS path sfs s → SeenIs s done → vsizee ext es + 1 ≤ roomL s.fields →
    (dupKeys (done ++ knownKeys sfs.toList (entryKeys es)) = true → path ∈ S) →
    ((keysAreStrings es).isOk = false → path ∈ S) →
    (∀ q ∈ blameEntriesStruct ext path sfs.toList es, q ∈ S) →
    (∀ s', MidS path sfs s' → SeenIs s' (done ++ knownKeys sfs.toList (entryKeys es)) → 1 ≤ roomL s'.fields →
      Blo S path (k s')) →
    Blo S path (r >>= k)

def MapEntriesAt (ext : Ext) (ks vs : B) (es : SEntries) (r : R (List Int × B × B)) : Prop :=
  noRawe es = true → ∀ (kp : String) (kdt : DataType) (kn : Bool) (kmd : Metadata)
    (vp : String) (vdt : DataType) (vn : Bool) (vmd : Metadata),
    GoodH ks kdt kn kmd → At kp kdt kn kmd ks → GoodH vs vdt vn vmd → At vp vdt vn vmd vs →
    vsizee ext es ≤ room ks → vsizee ext es ≤ room vs →
    Bl (blameEntriesMap ext kp kdt kn kmd vp vdt vn vmd es) r

theorem blameDT_unitLike {x : SVal} (hx : IsUnitLike x) {path : String} {dt n md}
    (hi : (interpDT ext dt n md x).isOk = false) : blameDT ext path dt n md x = [path] := by
  cases hx <;> simp only [blameDT, hi, Bool.false_eq_true, if_false] <;> exact blameScalarAt_of_nostr rfl

theorem blame_seqLike {x : SVal} {k : SeqKind} {xs : SVals} (hx : IsSeqLike x k xs) :
    noRaw x = noRaws xs ∧ vsize ext x = vsizes ext xs + 1 ∧ ∀ {path : String} {dt n md},
      (interpDT ext dt n md x).isOk = false → blameDT ext path dt n md x = seqS ext path dt (k != .seq) xs := by
  cases hx with
  | seq xs => exact ⟨by rw [noRaw], by rw [vsize], blameDT_seq_eq⟩
  | tuple xs => exact ⟨by rw [noRaw], by rw [vsize], blameDT_tuple_eq⟩
  | tupleStruct nm xs =>
    exact ⟨by rw [noRaw], by rw [vsize], fun hi => blameDT_tupleStruct_eq (by simpa only [interpDT] using hi)⟩

/-- a variant is blamed as its payload at the variant's child (which has no meaning there either:
`interpDT_variant_iff`); an undeclared variant is the union's own refusal -/
theorem blame_variant {x : SVal} {i : Nat} {y : SVal} (hx : IsVariant x i y) :
    noRaw x = noRaw y ∧ vsize ext y ≤ vsize ext x ∧ ∀ {path : String} {ufs : UFields} {mode : UnionMode} {n md},
      (interpDT ext (.union ufs mode) n md x).isOk = false →
      (ufs.toList[i]? = none → path ∈ blameDT ext path (.union ufs mode) n md x) ∧
      ∀ {tid nm cdt cn cmd}, ufs.toList[i]? = some (tid, .mk nm cdt cn cmd) →
        ∀ q ∈ blameDT ext (path ++ "." ++ childName nm) cdt cn cmd y, q ∈ blameDT ext path (.union ufs mode) n md x := by
  refine ⟨by cases hx <;> simp only [noRaw], by cases hx <;> simp only [vsize] <;> omega,
    fun {path ufs mode n md} hi => ⟨fun hn => by cases hx <;> simp [blameDT, hi, hn], fun {tid nm cdt cn cmd} hufs q hq => ?_⟩⟩
  have hc : (interpDT ext cdt cn cmd y).isOk = false := by
    cases h : interpDT ext cdt cn cmd y with
    | error _ => rfl
    | ok lvc => rw [(interpDT_variant_iff hx hufs).2 ⟨lvc, h, rfl⟩] at hi; cases hi
  cases hx with
  | unit a i vn =>
    have : q = path ++ "." ++ childName nm := by
      simpa [blameDT, hc, blameScalarAt_of_nostr (ext := ext) (x := .unit) rfl] using hq
    simp [blameDT, hi, hufs, this]
  | newtype a i vn v => simpa [blameDT, hi, hufs] using mem_ite_inner (path := path) q hq
  | tuple a i vn xs =>
    exact seqS_sub_tupleVariant hufs hi q (blameDT_tupleStruct_eq (by simpa only [interpDT] using hc) ▸ hq)
  | struct a i vn fs => exact recS_sub_structVariant hufs hi q (blameDT_record_eq hc ▸ hq)

theorem element_step {x : SVal} {s s' : SS} {idx : Nat} {key path : String} {sfs : Fields} {done : List String}
    (hm : MidS path sfs s) (hs : SeenIs s done) (hname : s.fields.names[idx]? = some key) (hraw : noRaw x = true)
    (hcap : vsize ext x ≤ roomL s.fields) (h : s.element idx (fun c => push ext c x) = .ok s') :
    MidS path sfs s' ∧ SeenIs s' (done ++ [key]) ∧ s'.next = idx + 1 ∧ roomL s.fields ≤ roomL s'.fields + vsize ext x := by
  obtain ⟨c, m, c', _, hget, hpc, rfl⟩ := element_ok_inv h
  obtain ⟨f, hfj, _, _, hgc, hac⟩ := hm.kids.get hget
  obtain ⟨hgc', hroom⟩ := push_step hgc hraw (Nat.le_trans hcap (roomL_get _ _ _ _ hget)) hpc
  exact ⟨hm.step hget hfj hgc' (hac.push hpc), SeenIs.step hm hs hname, rfl, roomL_set _ _ _ _ _ _ hget hroom⟩

variable [ExtPlain ext]

/-- a scalar call the column cannot represent: the column; for a dictionary column the value child takes the string
(`dict_scalar_bl`) -/
theorem scalarAt_bl {x : SVal} {b : B} {path : String} {dt n md} (hg : GoodH b dt n md) (ha : At path dt n md b)
    (hi : ∀ k v, dt = .dictionary k v → (interpScalar ext dt x).isOk = false) :
    Bl (blameScalarAt ext path dt x) (ctx b.ann (pushScalar ext b x)) := by
  by_cases hd : b.isDict = true
  · cases b with
    | dictionary p idx vals index =>
      have hsh := hg.shape
      simp only [Shape] at hsh
      obtain ⟨⟨kdt, vdt, rfl, _⟩, _⟩ := hsh
      exact dict_scalar_bl hg ha (hi kdt vdt rfl)
    | _ => simp [B.isDict] at hd
  · have hd' : b.isDict = false := by simpa using hd
    rw [blameScalarAt_of_not_dict hg.shape hd']
    exact Bl.ctx_self b (by rw [ha.path]; exact List.mem_singleton.2 rfl)
      (@NoCtx.bl _ _ _ (pushScalar_noctx ext b x hd'))

theorem scalar_bl {x : SVal} {b : B} {path : String} {dt n md} (hx : IsScalar b x) (hg : GoodH b dt n md)
    (ha : At path dt n md b) (hi : (interpDT ext dt n md x).isOk = false) :
    Bl (blameDT ext path dt n md x) (ctx b.ann (pushScalar ext b x)) := by
  cases hx with
  | bytes bs _ =>
    exact Bl.ctx_self b (by rw [ha.path]; exact bytes_self_mem hi) (@NoCtx.bl _ _ _ (pushScalar_nostr_noctx ext _ _ rfl))
  | unitVariant a i vn hu =>
    rw [blameDT, hi]
    · exact scalarAt_bl hg ha (by rintro k v rfl; simpa [interpDT] using hi)
    · exact Shape_not_union hg.shape hu
  | _ =>
    simp only [blameDT, hi, Bool.false_eq_true, if_false]
    exact scalarAt_bl hg ha (by rintro k v rfl; simpa [interpDT, isUnknownVariant] using hi)

/-- `ListBuilder::serialize_bytes`: every byte goes to the element builder as `serialize_u8`; what the element builder
refuses is blamed where `blameScalarAt` says — the element column, or for a dictionary element its value child
(`hfail`: the value type of a dictionary element takes no strings; otherwise every byte has a meaning) -/
theorem pushByteElems_bl (large : Bool) {cpath : String} {cdt : DataType} {cn : Bool}
    {cmd : Metadata} {S : List String} (hc : ∀ q ∈ blameScalarAt ext cpath cdt (.int .u8 0), q ∈ S)
    (hfail : ∀ k v, cdt = .dictionary k v → ∀ y, (interpScalar ext cdt (.int .u8 y)).isOk = false) :
    ∀ (bs : Bytes) (el : B) (offs : List Int), GoodH el cdt cn cmd → At cpath cdt cn cmd el →
    Bl S (pushByteElems ext large el offs bs)
  | [], el, offs, _, _ => by unfold pushByteElems; exact Bl.of_ok _
  | x :: rest, el, offs, hg, ha => by
    unfold pushByteElems
    have hstep : Bl S (ctx el.ann (pushScalar ext el (.int .u8 x.toNat))) :=
      Bl.mono (fun q hq => hc q (by rw [blameScalarAt_int .u8 .u8 0 x.toNat]; exact hq))
        (scalarAt_bl hg ha fun k v h => hfail k v h _)
    refine Bl.bind (NoCtx.bl _) fun _ _ => Bl.bind hstep fun el' h' => ?_
    have h'' := (Build.ctx_ok _ _ _).1 h'
    exact pushByteElems_bl large hc hfail rest el' _ (hg.pushScalar h'')
      (ha.of_takeRest (pushScalar_takeRest ext el _ el' h''))

/-- `ListBuilder::serialize_bytes`: the list itself for what its own code refuses, the bytes as `pushByteElems_bl` says -/
theorem listBytes_bl {p large fm v offs el} {bs : Bytes} {path : String} {dt n md}
    (hg : GoodH (.list p large fm v offs el) dt n md) (ha : At path dt n md (.list p large fm v offs el))
    (hi : (interpDT ext dt n md (.bytes bs)).isOk = false) :
    Bl (blameDT ext path dt n md (.bytes bs)) (ctx (B.list p large fm v offs el).ann (do
      let v' ← setValidity v (offs.length - 1) true
      let offs' ← duplicateLast offs
      let (el', offs'') ← pushByteElems ext large el offs' bs
      pure (B.list p large fm v' offs'' el') : R B)) := by
  refine Bl.ctx_self _ (ha.path ▸ bytes_self_mem hi) ?_
  obtain ⟨cname, cdt, cn, cmd, hdt, hgel, hael⟩ := list_child hg ha
  have hc : ∀ q ∈ blameScalarAt ext (path ++ "." ++ childName cname) cdt (.int .u8 0),
      q ∈ blameDT ext path dt n md (.bytes bs) := by
    rcases hdt with rfl | rfl <;> (intro q hq; simp [blameDT, hi, hq])
  -- a dictionary element with string values gives every byte a meaning: then the whole value has one
  have hfail : ∀ k v, cdt = .dictionary k v → ∀ y, (interpScalar ext cdt (.int .u8 y)).isOk = false := by
    rintro k v rfl y
    have hsel := hgel.shape
    obtain ⟨_, _, _, _, rfl⟩ := Shape_dict_form hsel
    simp only [Shape] at hsel
    obtain ⟨⟨kdt', vdt', heq, hsv⟩, _, _, hu⟩ := hsel
    cases heq
    rcases hu with hu | hr
    · exfalso
      obtain ⟨ls, hls⟩ := mapM_interp_dict_utf8 (ext := ext) (kdt := k) hsv hu bs
      rcases hdt with rfl | rfl <;>
        simp [interpDT, isUnknownVariant, hls, R.isOk, bind, Except.bind, pure, Except.pure] at hi
    · have hall : ∀ s, (interpDictStr ext v s).isOk = false := fun s => by
        obtain ⟨e, he⟩ := interpDictStr_refused ext s hsv hr
        rw [he]; rfl
      simp only [interpScalar_eq_old, normErr_isOk, interpScalarOld, scalarToString]
      exact hall _
  exact Bl.bind (NoCtx.bl _) fun _ _ => Bl.bind (NoCtx.bl _) fun _ _ =>
    Bl.bind (pushByteElems_bl large hc hfail bs el _ hgel hael) fun _ _ => Bl.of_ok _

end

set_option linter.unusedSectionVars false
variable (ext : Ext) [ExtPlain ext]

theorem bl_rows : PushRowsE (fun b x r => PushBl ext b x (r ext)) (fun s idx x r => ElementBl ext s idx x (r ext))
    (fun _ el _ xs r => ElemsAt ext el xs (r ext)) (fun el _ xs r => ElemsAt ext el xs (r ext))
    (fun s xs r => TupleAt ext s xs (r ext)) (fun s fs r => FieldsAt ext s fs (r ext))
    (fun s es r => EntriesAt ext s es (r ext)) (fun _ _ _ => True)
    (fun _ ks vs es r => MapEntriesAt ext ks vs es (r ext)) (fun _ _ _ _ _ _ => True) where
  fwdSome ih hraw path dt n md hg ha hcap _ := by
    rw [blameDT]; exact ih.all (by rwa [noRaw] at hraw) hg ha (by rw [vsize] at hcap; omega)
  fwdNewtype ih hraw path dt n md hg ha hcap _ := by
    rw [blameDT]; exact ih.all (by rwa [noRaw] at hraw) hg ha (by rw [vsize] at hcap; omega)
  null {b x} hx _ path dt n md hg ha hcap hi :=
    blameDT_unitLike hx hi ▸ pushNone_bl hg ha (Nat.le_trans (vsize_pos ext x) hcap)
  refused {b x msg} hx _ hraw path dt n md hg ha _ hi := by
    refine Bl.ctx_self b (ha.path ▸ ?_) (NoCtx.bl _)
    cases hx with
    | unit hx => rw [blameDT_unitLike hx hi]; exact List.mem_singleton.2 rfl
    | map es hs hm => rw [blameDT_map_eq hi]; exact mapS_self hg.shape hs hm
    | mapRaw => simp [noRaw] at hraw
    | newtypeVariant a i vn v hu => exact variant_self_mem (.newtype a i vn v) nofun hg.shape hu hi
    | tupleVariant a i vn xs hu => exact variant_self_mem (.tuple a i vn xs) nofun hg.shape hu hi
    | structVariant a i vn fs hu => exact variant_self_mem (.struct a i vn fs) nofun hg.shape hu hi
  scalar hx _ path dt n md hg ha _ hi := scalar_bl hx hg ha hi
  seqLike {b x k xs} hx ihE ihC ihT hraw path dt n md hg ha hcap hi := by
    obtain ⟨hr, hv, hS⟩ := blame_seqLike (ext := ext) hx
    rw [hS hi]
    rw [hr] at hraw
    exact seqLike_bl (fun large el offs => ihE large el offs hraw) (fun el c => ihC el c hraw)
      (fun k S path sfs s j => ihT s hraw k S path sfs j) k hg ha (hv ▸ hcap)
  listBytes _ _ path dt n md hg ha _ hi := listBytes_bl hg ha hi
  record {b nm fs} ih hraw path dt n md hg ha hcap hi := by
    rw [blameDT_record_eq hi]
    exact recordLike_bl (fun k S path sfs s done => ih s (by rwa [noRaw] at hraw) k S path sfs done) hg ha
      (by rwa [vsize] at hcap)
  structMap {p len v bl cached next seen es} ih hraw path dt n md hg ha hcap hi := by
    obtain ⟨_, sfs, rfl, _⟩ := (show _ ∧ ∃ sfs, dt = .struct sfs ∧ _ by simpa only [Shape] using hg.shape)
    rw [blameDT_map_eq hi]
    exact structMap_bl (fun k S path sfs s done => ih s (by rwa [noRaw] at hraw) k S path sfs done) hg ha
      (by rwa [vsize, room] at hcap)
  structMapRaw _ hraw := by simp [noRaw] at hraw
  map {p mm v offs ks vs es} ih hraw path dt n md hg ha hcap hi := by
    rw [blameDT_map_eq hi]
    exact mapMap_bl (fun o ks vs => ih o ks vs (by rwa [noRaw] at hraw)) hg ha (by rwa [vsize] at hcap)
  mapRaw _ hraw := by simp [noRaw] at hraw
  union {p fs types offs cur x i y} hx ih hraw path dt n md hg ha hcap hi := by
    obtain ⟨ufs, mode, rfl, _⟩ := (show ∃ ufs mode, dt = .union ufs mode ∧ _ by simpa only [Shape] using hg.shape)
    obtain ⟨hr, hv, hS⟩ := blame_variant (ext := ext) hx
    obtain ⟨hnone, hsome⟩ := hS (path := path) hi
    have h1 := vsize_pos ext y
    simp only [room] at hcap
    exact union_row_bl (pc := fun c => push ext c y) hg ha hnone (by omega)
      (fun tid nm cdt cn cmd c hufs hgc hac hrc => Bl.mono (hsome hufs) ((ih c).all (hr ▸ hraw) hgc hac (by omega)))
      (push_never_plain ext y)
  element {s idx x} ih hraw path sfs key done S hm hs hname hdup hcap hin :=
    element_blo hm hs hname hdup fun c m hget => by
      obtain ⟨f, hf, _, _, hgc, hac⟩ := hm.kids.get hget
      exact Bl.mono (hin f hf) ((ih c).all hraw hgc hac (Nat.le_trans hcap (roomL_get _ _ _ _ hget)))
  elemsNil _ _ _ _ _ _ _ _ := Bl.of_ok _
  elemsCons {large el offs x rest} ih ihr hraw cpath cdt cn cmd hg ha hcap := by
    have hraw' : noRaw x = true ∧ noRaws rest = true := by simpa [noRaws] using hraw
    simp only [vsizes] at hcap
    rw [blameAll]
    refine Bl.bind (NoCtx.bl _) fun offs' _ => Bl.bind (Bl.mono (fun q hq => List.mem_append_left _ hq)
      (ih.all hraw'.1 hg ha (by omega))) fun el' h' => ?_
    obtain ⟨hg', hr⟩ := push_step hg hraw'.1 (by omega) h'
    exact Bl.mono (fun q hq => List.mem_append_right _ hq)
      (ihr el' offs' hraw'.2 cpath cdt cn cmd hg' (ha.push h') (by omega))
  countNil _ _ _ _ _ _ _ _ := Bl.of_ok _
  countCons {el c x rest} ih ihr hraw cpath cdt cn cmd hg ha hcap := by
    have hraw' : noRaw x = true ∧ noRaws rest = true := by simpa [noRaws] using hraw
    simp only [vsizes] at hcap
    rw [blameAll]
    refine Bl.bind (Bl.mono (fun q hq => List.mem_append_left _ hq) (ih.all hraw'.1 hg ha (by omega))) fun el' h' => ?_
    obtain ⟨hg', hr⟩ := push_step hg hraw'.1 (by omega) h'
    exact Bl.mono (fun q hq => List.mem_append_right _ hq)
      (ihr el' (c + 1) hraw'.2 cpath cdt cn cmd hg' (ha.push h') (by omega))
  tupleNil {s} _ β k S path sfs j hm _ hs hcap _ hk :=
    hk s hm (by simpa [SVals.length] using hs) (by simp only [vsizes] at hcap; omega)
  tupleCons {s x rest} hlt hel ih hraw β k S path sfs j hm hn hs hcap hin hk := by
    have hraw' : noRaw x = true ∧ noRaws rest = true := by simpa [noRaws] using hraw
    simp only [vsizes] at hcap
    have hlen : s.fields.length = sfs.toList.length := by rw [← BL.names_length, hm.names, List.length_map]
    have hj : s.next = j := hn.resolve_right fun h => by omega
    rw [hj] at hlt hel ⊢
    have hjl : j < sfs.toList.length := by omega
    have hfj : sfs.toList[j]? = some sfs.toList[j] := List.getElem?_eq_getElem hjl
    have hdrop : sfs.toList.drop j = sfs.toList[j] :: sfs.toList.drop (j + 1) := List.drop_eq_getElem_cons hjl
    generalize sfs.toList[j] = f at hfj hdrop
    have hname : s.fields.names[j]? = some f.name := by rw [hm.names]; simp [List.getElem?_map, hfj]
    have htake : (sfs.toList.map Field.name).take (j + 1) = (sfs.toList.map Field.name).take j ++ [f.name] := by
      rw [List.take_add_one]; simp [List.getElem?_map, hfj]
    rw [hdrop] at hin
    obtain ⟨fname, fdt, fn, fmd⟩ := f
    simp only [blameNth, List.mem_append] at hin
    rw [bind_assoc]
    refine Blo.bind (hel hraw'.1 path sfs fname _ S hm hs hname
      (fun hd => absurd hd (nodup_not_mem_take (hm.names ▸ hm.nodup) (hm.names ▸ hname))) (by omega)
      fun f' hf' q hq => hin q (.inl ?_)) fun s1 h1 => ?_
    · rw [hfj] at hf'; cases hf'; exact hq
    · obtain ⟨hm', hs', hnx, hroom⟩ := element_step hm hs hname hraw'.1 (by omega) h1
      refine ih s1 hraw'.2 k S path sfs (j + 1) hm' (.inl hnx)
        (htake ▸ hs') (by omega) (fun q hq => hin q (.inr hq)) fun s' hm'' hs'' hr' => hk s' hm'' ?_ hr'
      rwa [show j + (SVals.cons x rest).length = j + 1 + rest.length by simp only [SVals.length]; omega]
  tupleExtra {s x rest} hge ih hraw β k S path sfs j hm hn hs hcap hin hk := by
    have hraw' : noRaw x = true ∧ noRaws rest = true := by simpa [noRaws] using hraw
    simp only [vsizes] at hcap
    have hlen : s.fields.length = sfs.toList.length := by rw [← BL.names_length, hm.names, List.length_map]
    have hL : s.fields.length ≤ s.next ∧ s.fields.length ≤ j := by
      rcases hn with h | ⟨h1, h2⟩
      · omega
      · exact ⟨h1, h2⟩
    have htk : ∀ m, j ≤ m → (sfs.toList.map Field.name).take m = (sfs.toList.map Field.name).take j := fun m hm' => by
      rw [List.take_of_length_le (by rw [List.length_map]; omega), List.take_of_length_le (by rw [List.length_map]; omega)]
    refine ih hraw'.2 k S path sfs (j + 1) hm (.inr ⟨hL.1, by omega⟩) (htk (j + 1) (by omega) ▸ hs) (by omega) ?_
      fun s' hm' hs' hr' => hk s' hm' ?_ hr'
    · intro q hq
      rw [List.drop_of_length_le (by omega)] at hq
      simp [blameNth] at hq
    · rwa [show j + (SVals.cons x rest).length = j + 1 + rest.length by simp only [SVals.length]; omega]
  fieldsNil {s} _ β k S path sfs done hm hs hcap _ _ hk :=
    hk s hm (by simpa [fieldKeys, knownKeys] using hs) (by simp only [vsizef] at hcap; omega)
  fieldsCons {s key al x rest idx cached'} heq hel ih hraw β k S path sfs done hm hs hcap hdup hin hk := by
    have hraw' : noRaw x = true ∧ noRawf rest = true := by simpa [noRawf] using hraw
    simp only [vsizef] at hcap
    have hls := SaModel.Props.C11Front.lookup_sound s.fields.names s.cached s.next (key, al) hm.nodup hm.cache
    rw [heq] at hls
    have hname : s.fields.names[idx]? = some key := SaModel.Props.C11Front.indexOfName_some _ _ _ hls.1.symm
    have hname' : (sfs.toList.map Field.name)[idx]? = some key := by rw [← hm.names]; exact hname
    have hk1 : knownKeys sfs.toList (fieldKeys (.cons key al x rest)) = key :: knownKeys sfs.toList (fieldKeys rest) := by
      simp [fieldKeys, knownKeys, any_known_of_get hname']
    rw [hk1] at hdup hk
    have hm1 := hm.cached cached' hls.2
    have hs1 : SeenIs { s with cached := cached' } done := hs.cached _
    rw [bind_assoc]
    refine Blo.bind (hel hraw'.1 path sfs key done S hm1 hs1 hname (fun hd => hdup (dupKeys_mem hd)) (by simp only; omega)
      fun f hfj q hq => hin q ?_) fun s1 h1 => ?_
    · have hfind := hm.find hname hfj
      obtain ⟨fname, fdt, fn, fmd⟩ := f
      simp only [blameFields, hfind, List.mem_append]
      exact .inl hq
    · obtain ⟨hm', hs', _, hroom⟩ := element_step hm1 hs1 hname hraw'.1 (by simp only; omega) h1
      refine ih s1 hraw'.2 k S path sfs (done ++ [key]) hm' hs' (by simp only at hroom; omega) ?_ ?_ ?_
      · intro hd; apply hdup; simpa [List.append_assoc] using hd
      · intro q hq; apply hin; simp only [blameFields, List.mem_append]; exact .inr hq
      · intro s' hm' hs' hr'; exact hk s' hm' (by simpa [List.append_assoc] using hs') hr'
  fieldsUnknown {s key al x rest cached'} heq ih hraw β k S path sfs done hm hs hcap hdup hin hk := by
    have hraw' : noRaw x = true ∧ noRawf rest = true := by simpa [noRawf] using hraw
    simp only [vsizef] at hcap
    have hls := SaModel.Props.C11Front.lookup_sound s.fields.names s.cached s.next (key, al) hm.nodup hm.cache
    rw [heq] at hls
    have hunk := hm.unknown hls.1.symm
    have hk0 : knownKeys sfs.toList (fieldKeys (.cons key al x rest)) = knownKeys sfs.toList (fieldKeys rest) := by
      simp [fieldKeys, knownKeys, any_unknown_of hunk]
    have hb0 : blameFields ext path sfs.toList (.cons key al x rest) = blameFields ext path sfs.toList rest := by
      simp [blameFields, find_none_of hunk]
    rw [hk0] at hdup hk
    rw [hb0] at hin
    exact ih hraw'.2 k S path sfs done (hm.cached cached' hls.2) (hs.cached _) (by simp only; omega) hdup hin hk
  entriesNil {s} _ β k S path sfs done hm hs hcap _ _ _ hk :=
    hk s hm (by simpa [entryKeys, knownKeys] using hs) (by simp only [vsizee] at hcap; omega)
  entriesCons {s kx x rest} hel ih hraw β k S path sfs done hm hs hcap hdup hkeys hin hk := by
    have hraw' : (noRaw kx = true ∧ noRaw x = true) ∧ noRawe rest = true := by simpa [noRawe] using hraw
    simp only [vsizee] at hcap
    have := vsize_pos ext kx
    rw [bind_assoc]
    refine Blo.bind ⟨NoCtx.bl _, fun msg h => hkeys (by simp [keysAreStrings, specKey_eq, normErr_error, h, bind, Except.bind, R.isOk])⟩
      fun key hkey => ?_
    have hkeys' : (keysAreStrings rest).isOk = false → path ∈ S := by
      intro h; apply hkeys
      simpa [keysAreStrings, specKey_eq, normErr_ok, normErr_error, hkey, bind, Except.bind] using h
    have hek : entryKeys (.cons kx x rest) = key :: entryKeys rest := by simp [entryKeys, keyOf_eq, hkey, Except.toOption]
    split
    · rename_i hnone
      have hunk := hm.unknown hnone
      have hk0 : knownKeys sfs.toList (entryKeys (.cons kx x rest)) = knownKeys sfs.toList (entryKeys rest) := by
        rw [hek]; simp [knownKeys, any_unknown_of hunk]
      have hb0 : blameEntriesStruct ext path sfs.toList (.cons kx x rest) = blameEntriesStruct ext path sfs.toList rest := by
        simp [blameEntriesStruct, keyOf_eq, hkey, Except.toOption, find_none_of hunk]
      rw [hk0] at hdup hk
      rw [hb0] at hin
      exact ih _ hraw'.2 k S path sfs done (hm.next _) (hs.next _) (by simp only [SS.unkeyed]; omega) hdup hkeys' hin hk
    · rename_i idx hidx
      have hname : s.fields.names[idx]? = some key := SaModel.Props.C11Front.indexOfName_some _ _ _ hidx
      have hname' : (sfs.toList.map Field.name)[idx]? = some key := by rw [← hm.names]; exact hname
      have hk1 : knownKeys sfs.toList (entryKeys (.cons kx x rest)) = key :: knownKeys sfs.toList (entryKeys rest) := by
        rw [hek]; simp [knownKeys, any_known_of_get hname']
      rw [hk1] at hdup hk
      rw [bind_assoc]
      refine Blo.bind (hel idx hraw'.1.2 path sfs key done S hm hs hname (fun hd => hdup (dupKeys_mem hd)) (by omega)
        fun f hfj q hq => hin q ?_) fun s1 h1 => ?_
      · have hfind := hm.find hname hfj
        obtain ⟨fname, fdt, fn, fmd⟩ := f
        simp only [blameEntriesStruct, keyOf_eq, hkey, Except.toOption, Option.bind_some, hfind, List.mem_append]
        exact .inl hq
      · obtain ⟨hm', hs', _, hroom⟩ := element_step hm hs hname hraw'.1.2 (by omega) h1
        refine ih _ hraw'.2 k S path sfs (done ++ [key]) (hm'.next _) (hs'.next _) (by simp only [SS.unkeyed]; omega) ?_ hkeys' ?_ ?_
        · intro hd; apply hdup; simpa [List.append_assoc] using hd
        · intro q hq; apply hin; simp only [blameEntriesStruct, List.mem_append]; exact .inr hq
        · intro s' hm' hs' hr'; exact hk s' hm' (by simpa [List.append_assoc] using hs') hr'
  opsNil := trivial
  opsKey _ := trivial
  opsValue _ _ _ := trivial
  opsValueUnkeyed _ _ := trivial
  mapEntriesNil _ _ _ _ _ _ _ _ _ _ _ _ _ _ _ := Bl.of_ok _
  mapEntriesCons {offs ks vs kx x rest} ihk ihv ihr hraw kp kdt kn kmd vp vdt vn vmd hgk hak hgv hav hck hcv := by
    have hraw' : (noRaw kx = true ∧ noRaw x = true) ∧ noRawe rest = true := by simpa [noRawe] using hraw
    simp only [vsizee] at hck hcv
    rw [blameEntriesMap]
    refine Bl.bind (NoCtx.bl _) fun offs' _ => Bl.bind (Bl.mono (fun q hq => List.mem_append_left _ (List.mem_append_left _ hq))
      (ihk.all hraw'.1.1 hgk hak (by omega))) fun ks' h1 => Bl.bind
      (Bl.mono (fun q hq => List.mem_append_left _ (List.mem_append_right _ hq))
        (ihv.all hraw'.1.2 hgv hav (by omega))) fun vs' h2 => ?_
    obtain ⟨hgk', _⟩ := push_step hgk hraw'.1.1 (by omega) h1
    obtain ⟨hgv', _⟩ := push_step hgv hraw'.1.2 (by omega) h2
    exact Bl.mono (fun q hq => List.mem_append_right _ hq)
      (ihr offs' ks' vs' hraw'.2 kp kdt kn kmd vp vdt vn vmd hgk' (hak.push h1) hgv' (hav.push h2) (by omega) (by omega))
  mapOpsNil := trivial
  mapOpsRefused := trivial
  mapOpsKey _ _ := trivial
  mapOpsValue _ _ := trivial

theorem push_bl : ∀ (x : SVal), noRaw x = true → ∀ (b : B) (path : String) (dt : DataType) (n : Bool)
    (md : Metadata), GoodH b dt n md → At path dt n md b → vsize ext x ≤ room b →
    Bl (blameDT ext path dt n md x) (push ext b x) :=
  fun x hraw b _ _ _ _ hg ha hcap => ((bl_rows ext).push x b).all hraw hg ha hcap
theorem pushElems_bl : ∀ (xs : SVals), noRaws xs = true → ElemsBl ext xs :=
  fun xs hraw large el offs => (bl_rows ext).elems xs large el offs hraw
theorem pushCountElems_bl : ∀ (xs : SVals), noRaws xs = true → CountBl ext xs :=
  fun xs hraw el c => (bl_rows ext).count xs el c hraw
theorem pushTupleElems_bl : ∀ (xs : SVals), noRaws xs = true → TupleBl ext xs :=
  fun xs hraw _ k S path sfs s j => (bl_rows ext).tuple xs s hraw k S path sfs j
theorem pushFields_bl : ∀ (fields : SFields), noRawf fields = true → FieldsBl ext fields :=
  fun fields hraw _ k S path sfs s done => (bl_rows ext).fields fields s hraw k S path sfs done
theorem pushStructEntries_bl : ∀ (es : SEntries), noRawe es = true → EntriesBl ext es :=
  fun es hraw _ k S path sfs s done => (bl_rows ext).structEntries es s hraw k S path sfs done
theorem pushMapEntries_bl : ∀ (es : SEntries), noRawe es = true → MapEntriesBl ext es :=
  fun es hraw offs ks vs => (bl_rows ext).mapEntries es offs ks vs hraw

end SaModel.Props.C18
