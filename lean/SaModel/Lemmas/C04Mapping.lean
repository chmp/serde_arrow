import SaModel.Roundtrip.Types
import SaModel.Lemmas.SchemaAll
/-
C04: tools for the proofs about typed values and traced schemas.
* `wt_inv`: what a well-typed value says about its type, arm by arm of `wt` (instead of a case split over all types), and
  `WtClosed`, induction over well-typed values: what such a value can be, shape by shape; the theorems about (type, value) —
  `interp_serO`, `cast_lvO`, `inScopeU_iff`, `unser_lv`, `norm_eq_self` with their list forms — are its instances;
* the equations of the documented mapping `mappingDT` (Roundtrip/Types.lean) with the traced triple of the inner type written as
  projections, and induction along it (`MappingClosed`): a property of (type, traced field) holds of every type as soon as every
  shape the mapping produces preserves it.  Most facts about traced schemas do not look at the type (`MappingClosed.of_fields`):
  they are checked on the leaf types, listed once (`scalarDTs`, `dictDTs`), and on the containers given their children.
Both inductions have ONE case for an enum variant: a variant is a named payload type (`Variant.payload`), its value a value of that
type (`Variant.payloadVal`), which is how the mapping, the specification and the reader treat it.
-/
namespace SaModel.Roundtrip
open SaModel

/-- the type of a well-typed value, by the constructor of the value (the other arms of `wt` are `false`) -/
def WtInv (t : Ty) : Val → Prop
  | .unit => t = .unit ∨ ∃ n, t = .unitStruct n
  | .none => ∃ t', t = .option t'
  | .some v => ∃ t', t = .option t' ∧ wt t' v = true
  | .newtype v => ∃ n t', t = .newtype n t' ∧ wt t' v = true
  | .vec vs => ∃ t', t = .vec t' ∧ wtAll t' vs = true
  | .tuple vs => (∃ ts, t = .tuple ts ∧ wtPos ts vs = true) ∨ ∃ n ts, t = .tupleStruct n ts ∧ wtPos ts vs = true
  | .struct vs => ∃ n fs, t = .struct n fs ∧ wtFields fs vs = true
  | .map es => ∃ k v, t = .map k v ∧ wtEntries k v es = true
  | .variant _ _ => ∃ n vars, t = .enum n vars
  | v => ∃ p, t = .prim p ∧ p.wt v = true

theorem Prim.wt_scalar {p : Prim} {v : Val} (h : p.wt v = true) (t : Ty) : WtInv t v ↔ ∃ p, t = .prim p ∧ p.wt v = true := by
  unfold Prim.wt at h
  split at h <;> first | rfl | cases h

theorem wt_inv {t : Ty} {v : Val} (h : wt t v = true) : WtInv t v := by
  unfold wt at h
  split at h
  · exact (Prim.wt_scalar h _).mpr ⟨_, rfl, h⟩
  · exact .inl rfl
  · exact .inr ⟨_, rfl⟩
  · exact ⟨_, rfl⟩
  · exact ⟨_, rfl, h⟩
  · exact ⟨_, rfl, h⟩
  · exact .inl ⟨_, rfl, h⟩
  · exact .inr ⟨_, _, rfl, h⟩
  · exact ⟨_, _, rfl, h⟩
  · exact ⟨_, _, rfl, h⟩
  · exact ⟨_, _, rfl⟩
  · exact ⟨_, _, rfl, h⟩
  · cases h

/-- a Boolean predicate on the variants of an enum that is a conjunction over the list (`fragEVariants`, `plainOptVariants`, ..)
holds of the variant found at an index -/
theorem Variants.get?_all {P : Variant → Bool} {PV : Variants → Bool} (hcons : ∀ n v r, PV (.cons n v r) = (P v && PV r)) :
    ∀ (vars : Variants) (i : Nat) (vn : String) (kind : Variant), PV vars = true → vars.get? i = some (vn, kind) → P kind = true
  | .nil, _, _, _, _, h => by simp [Variants.get?] at h
  | .cons n v rest, 0, vn, kind, hf, h => by
    simp only [Variants.get?, Option.some.injEq, Prod.mk.injEq] at h
    rw [hcons, Bool.and_eq_true] at hf
    rw [← h.2]; exact hf.1
  | .cons n v rest, i + 1, vn, kind, hf, h => by
    rw [hcons, Bool.and_eq_true] at hf
    exact Variants.get?_all hcons rest i vn kind hf.2 (by simpa [Variants.get?] using h)

/-- a variant as a named payload type: a unit variant carries `()`, a newtype variant its type, a tuple variant the tuple struct,
a struct variant the struct of its fields.  The mapping traces the child of the Union like a value of that type
(`mappingVariants_cons`); so do the tracer (`Lemmas.C08.VHead`) and the builders (`Build.IsVariant`). -/
def Variant.payload (vn : String) : Variant → Ty
  | .unit => .unit
  | .newtype t => t
  | .tuple ts => .tupleStruct vn ts
  | .struct fs => .struct vn fs

def Variant.payloadVal : Variant → Vals → Val
  | .newtype _, .cons v .nil => v
  | .tuple _, p => .tuple p
  | .struct _, p => .struct p
  | _, _ => .unit

/-- **what a well-typed value can be**, shape by shape: `P` of a type and a value, `PA` / `PP` / `PF` / `PE` of the elements of a
sequence, the components of a tuple, the field values of a record, the entries of a map; an enum value through its payload, a value
of the payload type of its variant.  The inductive reading of the Boolean functions `wt`,
`wtAll`, `wtPos`, `wtFields`, `wtEntries`. -/
structure WtClosed (P : Ty → Val → Prop) (PA : Ty → Vals → Prop) (PP : Tys → Vals → Prop) (PF : TFields → Vals → Prop)
    (PE : Ty → Ty → VEntries → Prop) : Prop where
  prim : ∀ p v, p.wt v = true → P (.prim p) v
  unit : P .unit .unit
  unitStruct : ∀ n, P (.unitStruct n) .unit
  optNone : ∀ t, P (.option t) .none
  optSome : ∀ t v, wt t v = true → P t v → P (.option t) (.some v)
  newtype : ∀ n t v, wt t v = true → P t v → P (.newtype n t) (.newtype v)
  vec : ∀ t vs, wtAll t vs = true → PA t vs → P (.vec t) (.vec vs)
  tuple : ∀ ts vs, wtPos ts vs = true → PP ts vs → P (.tuple ts) (.tuple vs)
  tupleStruct : ∀ n ts vs, wtPos ts vs = true → PP ts vs → P (.tupleStruct n ts) (.tuple vs)
  struct : ∀ n fs vs, wtFields fs vs = true → PF fs vs → P (.struct n fs) (.struct vs)
  map : ∀ k v es, wtEntries k v es = true → PE k v es → P (.map k v) (.map es)
  variant : ∀ n vars i vn kind p, vars.get? i = some (vn, kind) → wt (.enum n vars) (.variant i p) = true →
    P (kind.payload vn) (kind.payloadVal p) → P (.enum n vars) (.variant i p)
  allNil : ∀ t, PA t .nil
  allCons : ∀ t v rest, wt t v = true → wtAll t rest = true → P t v → PA t rest → PA t (.cons v rest)
  posNil : PP .nil .nil
  posCons : ∀ t ts v rest, wt t v = true → wtPos ts rest = true → P t v → PP ts rest → PP (.cons t ts) (.cons v rest)
  fieldsNil : PF .nil .nil
  fieldsCons : ∀ n s t fs v rest, wt t v = true → wtFields fs rest = true → P t v → PF fs rest →
    PF (.cons n s t fs) (.cons v rest)
  entriesNil : ∀ k v, PE k v .nil
  entriesCons : ∀ k v a b rest, wt k a = true → wt v b = true → wtEntries k v rest = true → P k a → P v b → PE k v rest →
    PE k v (.cons a b rest)

namespace WtClosed
variable {P : Ty → Val → Prop} {PA : Ty → Vals → Prop} {PP : Tys → Vals → Prop} {PF : TFields → Vals → Prop}
  {PE : Ty → Ty → VEntries → Prop}

mutual
theorem val (h : WtClosed P PA PP PF PE) : ∀ (t : Ty) (v : Val), wt t v = true → P t v
  | t, .bool _, hw | t, .int _, hw | t, .f32 _, hw | t, .f64 _, hw | t, .char _, hw | t, .str _, hw | t, .bytes _, hw => by
    obtain ⟨p, rfl, hp⟩ := wt_inv hw
    exact h.prim p _ hp
  | t, .unit, hw => by
    rcases wt_inv hw with rfl | ⟨n, rfl⟩
    · exact h.unit
    · exact h.unitStruct n
  | t, .none, hw => by obtain ⟨t', rfl⟩ := wt_inv hw; exact h.optNone t'
  | t, .some v, hw => by obtain ⟨t', rfl, hw'⟩ := wt_inv hw; exact h.optSome t' v hw' (h.val t' v hw')
  | t, .newtype v, hw => by obtain ⟨n, t', rfl, hw'⟩ := wt_inv hw; exact h.newtype n t' v hw' (h.val t' v hw')
  | t, .vec vs, hw => by obtain ⟨t', rfl, hw'⟩ := wt_inv hw; exact h.vec t' vs hw' (h.all t' vs hw')
  | t, .tuple vs, hw => by
    rcases wt_inv hw with ⟨ts, rfl, hw'⟩ | ⟨n, ts, rfl, hw'⟩
    · exact h.tuple ts vs hw' (h.pos ts vs hw')
    · exact h.tupleStruct n ts vs hw' (h.pos ts vs hw')
  | t, .struct vs, hw => by obtain ⟨n, fs, rfl, hw'⟩ := wt_inv hw; exact h.struct n fs vs hw' (h.fields fs vs hw')
  | t, .map es, hw => by obtain ⟨k, v, rfl, hw'⟩ := wt_inv hw; exact h.map k v es hw' (h.entries k v es hw')
  | t, .variant i p, hw => by
    obtain ⟨n, vars, rfl⟩ := wt_inv hw
    have hw0 := hw
    rw [wt] at hw
    rcases hg : vars.get? i with _ | ⟨vn, kind⟩
    · rw [hg] at hw; cases hw
    · rw [hg] at hw
      match kind, p, hg, hw with
      | .unit, .nil, hg, _ => exact h.variant n vars i vn .unit .nil hg hw0 h.unit
      | .newtype t', .cons v .nil, hg, hw => exact h.variant n vars i vn (.newtype t') _ hg hw0 (h.val t' v hw)
      | .tuple ts, p, hg, hw => exact h.variant n vars i vn (.tuple ts) p hg hw0 (h.tupleStruct vn ts p hw (h.pos ts p hw))
      | .struct fs, p, hg, hw => exact h.variant n vars i vn (.struct fs) p hg hw0 (h.struct vn fs p hw (h.fields fs p hw))
theorem all (h : WtClosed P PA PP PF PE) : ∀ (t : Ty) (vs : Vals), wtAll t vs = true → PA t vs
  | t, .nil, _ => h.allNil t
  | t, .cons v rest, hw => by
    simp only [wtAll, Bool.and_eq_true] at hw
    exact h.allCons t v rest hw.1 hw.2 (h.val t v hw.1) (h.all t rest hw.2)
theorem pos (h : WtClosed P PA PP PF PE) : ∀ (ts : Tys) (vs : Vals), wtPos ts vs = true → PP ts vs
  | .nil, .nil, _ => h.posNil
  | .cons t ts, .cons v rest, hw => by
    simp only [wtPos, Bool.and_eq_true] at hw
    exact h.posCons t ts v rest hw.1 hw.2 (h.val t v hw.1) (h.pos ts rest hw.2)
theorem fields (h : WtClosed P PA PP PF PE) : ∀ (fs : TFields) (vs : Vals), wtFields fs vs = true → PF fs vs
  | .nil, .nil, _ => h.fieldsNil
  | .cons n s t fs, .cons v rest, hw => by
    simp only [wtFields, Bool.and_eq_true] at hw
    exact h.fieldsCons n s t fs v rest hw.1 hw.2 (h.val t v hw.1) (h.fields fs rest hw.2)
theorem entries (h : WtClosed P PA PP PF PE) : ∀ (k v : Ty) (es : VEntries), wtEntries k v es = true → PE k v es
  | k, v, .nil, _ => h.entriesNil k v
  | k, v, .cons a b rest, hw => by
    simp only [wtEntries, Bool.and_eq_true] at hw
    exact h.entriesCons k v a b rest hw.1.1 hw.1.2 hw.2 (h.val k a hw.1.1) (h.val v b hw.1.2) (h.entries k v rest hw.2)
end

end WtClosed

inductive VariantVal : Variant → Vals → Prop
  | unit : VariantVal .unit .nil
  | newtype (t v) : VariantVal (.newtype t) (.cons v .nil)
  | tuple (ts p) : VariantVal (.tuple ts) p
  | struct (fs p) : VariantVal (.struct fs) p

theorem variant_val {n : String} {vars : Variants} {i : Nat} {p : Vals} {vn : String} {kind : Variant}
    (hg : vars.get? i = some (vn, kind)) (hw : wt (.enum n vars) (.variant i p) = true) : VariantVal kind p := by
  rw [wt, hg] at hw
  match kind, p, hw with
  | .unit, .nil, _ => exact .unit
  | .newtype t, .cons v .nil, _ => exact .newtype t v
  | .tuple ts, p, _ => exact .tuple ts p
  | .struct fs, p, _ => exact .struct fs p

theorem fields_ofList_toList : ∀ (l : Fields), Fields.ofList l.toList = l := Fields.ofList_toList

theorem mappingDT_option (o : TraceOpts) (t : Ty) :
    mappingDT o (.option t) = ((mappingDT o t).1, true, (mappingDT o t).2.2) := by rw [mappingDT]

theorem mappingDT_vec (o : TraceOpts) (t : Ty) :
    mappingDT o (.vec t) =
      (if o.sequenceAsLargeList then .largeList (.mk "element" (mappingDT o t).1 (mappingDT o t).2.1 (mappingDT o t).2.2)
       else .list (.mk "element" (mappingDT o t).1 (mappingDT o t).2.1 (mappingDT o t).2.2), false, []) := by rw [mappingDT]

theorem mappingDT_map (o : TraceOpts) (k v : Ty) :
    mappingDT o (.map k v) =
      (.map (.mk "entries" (.struct (.cons (.mk "key" (mappingDT o k).1 (mappingDT o k).2.1 (mappingDT o k).2.2)
        (.cons (.mk "value" (mappingDT o v).1 (mappingDT o v).2.1 (mappingDT o v).2.2) .nil))) false []) false, false, []) := by
  rw [mappingDT]

theorem mappingPos_cons (o : TraceOpts) (i : Nat) (t : Ty) (ts : Tys) :
    mappingPos o i (.cons t ts) =
      .cons (.mk (posName i) (mappingDT o t).1 (mappingDT o t).2.1 (mappingDT o t).2.2) (mappingPos o (i + 1) ts) := by
  rw [mappingPos]

theorem mappingFields_cons (o : TraceOpts) (n : String) (s : Bool) (t : Ty) (fs : TFields) :
    mappingFields o (.cons n s t fs) =
      .cons (.mk n (mappingDT o t).1 (mappingDT o t).2.1 (mappingDT o t).2.2) (mappingFields o fs) := by
  rw [mappingFields]

theorem mappingVariants_cons (o : TraceOpts) (i : Nat) (vn : String) (v : Variant) (rest : Variants) :
    mappingVariants o i (.cons vn v rest) =
      .cons (i : Int) (.mk vn (mappingDT o (v.payload vn)).1 (mappingDT o (v.payload vn)).2.1 (mappingDT o (v.payload vn)).2.2)
        (mappingVariants o (i + 1) rest) := by
  cases v <;> rw [mappingVariants] <;> rfl

/-- `P` relates a type to its traced (data type, nullability, metadata), `PP` / `PF` / `PV` the element types of a tuple /
fields of a struct / variants of an enum (type ids from `i`) to the traced children, and every arm of `mappingDT` /
`mappingPos` / `mappingFields` / `mappingVariants` preserves them; a variant through its payload type -/
structure MappingClosed (o : TraceOpts) (P : Ty → DataType → Bool → Metadata → Prop) (PP : Nat → Tys → Fields → Prop)
    (PF : TFields → Fields → Prop) (PV : Nat → Variants → UFields → Prop) : Prop where
  prim : ∀ p, P (.prim p) (primDT o p) false []
  unit : P .unit .null true []
  unitStruct : ∀ n, P (.unitStruct n) .null true []
  option : ∀ t dt nb md, P t dt nb md → P (.option t) dt true md
  newtype : ∀ n t dt nb md, P t dt nb md → P (.newtype n t) dt nb md
  vec : ∀ t dt nb md, P t dt nb md →
    P (.vec t) (if o.sequenceAsLargeList then .largeList (.mk "element" dt nb md) else .list (.mk "element" dt nb md)) false []
  tuple : ∀ ts F, PP 0 ts F → P (.tuple ts) (.struct F) false TUPLE_MD
  tupleStruct : ∀ n ts F, PP 0 ts F → P (.tupleStruct n ts) (.struct F) false TUPLE_MD
  struct : ∀ n fs F, PF fs F → P (.struct n fs) (.struct F) false []
  enumStr : ∀ n vars, (vars.withoutData && o.enumsWithoutDataAsStrings) = true →
    P (.enum n vars) (.dictionary .uint32 (strDT o)) false []
  enumUnion : ∀ n vars U, ¬ (vars.withoutData && o.enumsWithoutDataAsStrings) = true → PV 0 vars U →
    P (.enum n vars) (.union U .dense) false []
  map : ∀ k v kdt knb kmd vdt vnb vmd, P k kdt knb kmd → P v vdt vnb vmd →
    P (.map k v) (.map (.mk "entries" (.struct (.cons (.mk "key" kdt knb kmd) (.cons (.mk "value" vdt vnb vmd) .nil))) false [])
      false) false []
  posNil : ∀ i, PP i .nil .nil
  posCons : ∀ i t ts dt nb md F, P t dt nb md → PP (i + 1) ts F → PP i (.cons t ts) (.cons (.mk (posName i) dt nb md) F)
  fieldsNil : PF .nil .nil
  fieldsCons : ∀ n s t fs dt nb md F, P t dt nb md → PF fs F → PF (.cons n s t fs) (.cons (.mk n dt nb md) F)
  variantsNil : ∀ i, PV i .nil .nil
  variant : ∀ i vn v rest dt nb md U, P (v.payload vn) dt nb md → PV (i + 1) rest U →
    PV i (.cons vn v rest) (.cons (i : Int) (.mk vn dt nb md) U)

namespace MappingClosed
variable {o : TraceOpts} {P : Ty → DataType → Bool → Metadata → Prop} {PP : Nat → Tys → Fields → Prop}
  {PF : TFields → Fields → Prop} {PV : Nat → Variants → UFields → Prop}

mutual
theorem mapping (h : MappingClosed o P PP PF PV) : ∀ t, P t (mappingDT o t).1 (mappingDT o t).2.1 (mappingDT o t).2.2
  | .prim p => h.prim p
  | .unit => h.unit
  | .unitStruct n => h.unitStruct n
  | .option t => by rw [mappingDT_option]; exact h.option t _ _ _ (h.mapping t)
  | .newtype n t => by rw [mappingDT]; exact h.newtype n t _ _ _ (h.mapping t)
  | .vec t => by rw [mappingDT_vec]; exact h.vec t _ _ _ (h.mapping t)
  | .tuple ts => h.tuple ts _ (h.pos 0 ts)
  | .tupleStruct n ts => h.tupleStruct n ts _ (h.pos 0 ts)
  | .struct n fs => h.struct n fs _ (h.fields fs)
  | .enum n vars => by
    rw [mappingDT]
    split
    · exact h.enumStr n vars ‹_›
    · exact h.enumUnion n vars _ ‹_› (h.variants 0 vars)
  | .map k v => by rw [mappingDT_map]; exact h.map k v _ _ _ _ _ _ (h.mapping k) (h.mapping v)
theorem pos (h : MappingClosed o P PP PF PV) : ∀ i ts, PP i ts (mappingPos o i ts)
  | i, .nil => h.posNil i
  | i, .cons t ts => by rw [mappingPos_cons]; exact h.posCons i t ts _ _ _ _ (h.mapping t) (h.pos (i + 1) ts)
theorem fields (h : MappingClosed o P PP PF PV) : ∀ fs, PF fs (mappingFields o fs)
  | .nil => h.fieldsNil
  | .cons n s t fs => by rw [mappingFields_cons]; exact h.fieldsCons n s t fs _ _ _ _ (h.mapping t) (h.fields fs)
theorem variants (h : MappingClosed o P PP PF PV) : ∀ i vars, PV i vars (mappingVariants o i vars)
  | i, .nil => h.variantsNil i
  | i, .cons vn .unit rest => h.variant i vn .unit rest _ _ _ _ h.unit (h.variants (i + 1) rest)
  | i, .cons vn (.newtype t) rest => h.variant i vn (.newtype t) rest _ _ _ _ (h.mapping t) (h.variants (i + 1) rest)
  | i, .cons vn (.tuple ts) rest =>
    h.variant i vn (.tuple ts) rest _ _ _ _ (h.tupleStruct vn ts _ (h.pos 0 ts)) (h.variants (i + 1) rest)
  | i, .cons vn (.struct fs) rest =>
    h.variant i vn (.struct fs) rest _ _ _ _ (h.struct vn fs _ (h.fields fs)) (h.variants (i + 1) rest)
end

theorem mapping' (h : MappingClosed o P PP PF PV) {t : Ty} {dt : DataType} {nb : Bool} {md : Metadata}
    (hm : mappingDT o t = (dt, nb, md)) : P t dt nb md := by
  have := h.mapping t; rwa [hm] at this

end MappingClosed

def scalarDTs : List DataType :=
  [.boolean, .int8, .int16, .int32, .int64, .uint8, .uint16, .uint32, .uint64, .float32, .float64, .utf8, .largeUtf8, .largeBinary]

/-- a string type dictionary encoded: strings under `string_dictionary_encoding`, enums without data under
`enums_without_data_as_strings` -/
def dictDTs : List DataType := [.dictionary .uint32 .utf8, .dictionary .uint32 .largeUtf8]

theorem strDict_mem (o : TraceOpts) : DataType.dictionary .uint32 (strDT o) ∈ dictDTs := by
  unfold strDT; split <;> simp [dictDTs]

theorem primDT_cases {o : TraceOpts} {Q : DataType → Prop} (leaf : ∀ dt ∈ scalarDTs, Q dt)
    (dict : o.stringDictionaryEncoding = true → ∀ dt ∈ dictDTs, Q dt) (p : Prim) : Q (primDT o p) := by
  simp only [scalarDTs, List.forall_mem_cons] at leaf
  obtain ⟨_, _, _, _, _, _, _, _, _, _, _, _, _, _, -⟩ := leaf
  cases p with
  | int t => cases t <;> assumption
  | str | strRef | cowStr =>
    simp only [primDT]
    split
    · exact dict ‹_› _ (strDict_mem o)
    · unfold strDT; split <;> assumption
  | _ => assumption

/-- a property of traced fields that does not look at the type: it holds of the leaf types (`scalarDTs`; `dictDTs` where one of the
two options puts them into the schema) and is closed under the shapes of the fields the mapping produces -/
theorem MappingClosed.of_fields {o : TraceOpts} {Q : DataType → Bool → Metadata → Prop} {QF : Fields → Prop}
    {QU : UFields → Prop}
    (leaf : ∀ dt ∈ scalarDTs, Q dt false [])
    (dict : o.stringDictionaryEncoding = true ∨ o.enumsWithoutDataAsStrings = true → ∀ dt ∈ dictDTs, Q dt false [])
    (null : Q .null true [])
    (nullable : ∀ dt nb md, Q dt nb md → Q dt true md)
    (list : ∀ dt nb md, Q dt nb md →
      Q (.list (.mk "element" dt nb md)) false [] ∧ Q (.largeList (.mk "element" dt nb md)) false [])
    (struct : ∀ F, QF F → Q (.struct F) false [] ∧ Q (.struct F) false TUPLE_MD)
    (union : ∀ U, QU U → Q (.union U .dense) false [])
    (map : ∀ kdt knb kmd vdt vnb vmd, Q kdt knb kmd → Q vdt vnb vmd →
      Q (.map (.mk "entries" (.struct (.cons (.mk "key" kdt knb kmd) (.cons (.mk "value" vdt vnb vmd) .nil))) false []) false)
        false [])
    (nil : QF .nil) (cons : ∀ n dt nb md F, Q dt nb md → QF F → QF (.cons (.mk n dt nb md) F))
    (unil : QU .nil) (ucons : ∀ i n dt nb md U, Q dt nb md → QU U → QU (.cons i (.mk n dt nb md) U)) :
    MappingClosed o (fun _ => Q) (fun _ _ => QF) (fun _ => QF) (fun _ _ => QU) where
  prim := primDT_cases leaf fun h => dict (.inl h)
  unit := null
  unitStruct _ := null
  option _ := nullable
  newtype _ _ _ _ _ h := h
  vec _ dt nb md h := by
    split
    · exact (list dt nb md h).2
    · exact (list dt nb md h).1
  tuple _ F h := (struct F h).2
  tupleStruct _ _ F h := (struct F h).2
  struct _ _ F h := (struct F h).1
  enumStr _ _ h := dict (.inr (by simp only [Bool.and_eq_true] at h; exact h.2)) _ (strDict_mem o)
  enumUnion _ _ U _ h := union U h
  map _ _ := map
  posNil _ := nil
  posCons _ _ _ dt nb md F := cons _ dt nb md F
  fieldsNil := nil
  fieldsCons n _ _ _ dt nb md F := cons n dt nb md F
  variantsNil _ := unil
  variant i vn _ _ dt nb md U := ucons i vn dt nb md U

end SaModel.Roundtrip
