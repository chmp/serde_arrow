import SaModel.Lemmas.C07LDown
/-
C07, tree level — the laws in two-sided form (`Eqv`, `OutEqv`), read off the least-upper-bound law and `Down`
(SaModel/Lemmas/C07LDown.lean): congruence (`congL_out`: equivalent tracers are below each other, so the runs succeed
together and the results are below each other), and unless `allow_to_string` the outcome of a run depends only on the
set of its samples (`same_set_out`: both runs succeed by `run_ok_of_subset`, the results are equivalent by
`same_set_eqv`), with the swap law and the permutation law as instances; lifted to `from_samples` up to `check` (the
overwrite check only reads the set of paths).
-/
namespace SaModel.Lemmas.C07
open SaModel SaModel.Trace SaModel.Props.C07

/-- outcomes agree: both succeed with equivalent, well-formed tracers, or both fail -/
def OutEqv (o : Options) (r r' : R Tracer) : Prop :=
  (∃ a b, r = .ok a ∧ r' = .ok b ∧ Eqv a b ∧ WF o a ∧ WF o b) ∨ (r.isOk = false ∧ r'.isOk = false)

theorem OutEqv.symm {o : Options} {r r' : R Tracer} (h : OutEqv o r r') : OutEqv o r' r := by
  rcases h with ⟨a, b, h1, h2, he, hwa, hwb⟩ | ⟨h1, h2⟩
  · exact .inl ⟨b, a, h2, h1, he.symm, hwb, hwa⟩
  · exact .inr ⟨h2, h1⟩

theorem OutEqv.trans {o : Options} {r1 r2 r3 : R Tracer} (h : OutEqv o r1 r2) (h' : OutEqv o r2 r3) : OutEqv o r1 r3 := by
  rcases h with ⟨a, b, h1, h2, he, hwa, hwb⟩ | ⟨h1, h2⟩ <;> rcases h' with ⟨b', c, h3, h4, he', hwb', hwc⟩ | ⟨h3, h4⟩
  · rw [h2] at h3; cases h3; exact .inl ⟨a, c, h1, h4, he.trans he', hwa, hwc⟩
  · rw [h2] at h3; cases h3
  · rw [h3] at h2; cases h2
  · exact .inr ⟨h1, h4⟩

theorem OutEqv.of_sides {o : Options} {r r' : R Tracer}
    (h1 : ∀ a, r = .ok a → ∃ b, r' = .ok b ∧ TEq a b ∧ WF o a ∧ WF o b)
    (h2 : ∀ b, r' = .ok b → ∃ a, r = .ok a ∧ TEq b a) : OutEqv o r r' := by
  cases hr : r with
  | ok a =>
    obtain ⟨b, hb, he, hwa, hwb⟩ := h1 a hr
    obtain ⟨a', ha', he'⟩ := h2 b hb
    rw [hr] at ha'; cases ha'
    exact .inl ⟨a, b, rfl, hb, ⟨he, he'⟩, hwa, hwb⟩
  | error e =>
    cases hr' : r' with
    | ok b =>
      obtain ⟨a, ha, _⟩ := h2 b hr'
      rw [hr] at ha; cases ha
    | error e' => exact .inr ⟨rfl, rfl⟩

/-- runs from two tracers that are below each other: the second succeeds when the first does (`Down`), and the results
are below each other (`Lub`, monotone clause) -/
theorem cong_side {o : Options} {t t' a : Tracer} {xs : List SVal} (hw : WF o t) (hw' : WF o t') (h : TLe o t t')
    (h' : TLe o t' t) (ha : absorbAll .fixed o t xs = .ok a) : ∃ b, absorbAll .fixed o t' xs = .ok b ∧ TEq a b := by
  obtain ⟨b, hb⟩ := downL_any hw' hw ⟨h', fun _ => h⟩ ha
  exact ⟨b, hb, TLe_antisymm ((lubL_any o xs t t' a hw hw' h ha).2.1 b hb) (absorbAll_wf o hw ha) (absorbAll_wf o hw' hb)
    ((lubL_any o xs t' t b hw' hw h' hb).2.1 a ha)⟩

/-- congruence: runs from equivalent tracers fail together or end in equivalent tracers (every option setting) -/
theorem congL_out (o : Options) {t t' : Tracer} (hw : WF o t) (hw' : WF o t') (he : Eqv t t') (xs : List SVal) :
    OutEqv o (absorbAll .fixed o t xs) (absorbAll .fixed o t' xs) := by
  have h := TLe_of_TEq o t t' he.1 hw hw'
  have h' := TLe_of_TEq o t' t he.2 hw' hw
  apply OutEqv.of_sides
  · intro a ha
    obtain ⟨b, hb, e⟩ := cong_side hw hw' h h' ha
    exact ⟨b, hb, e, absorbAll_wf o hw ha, absorbAll_wf o hw' hb⟩
  · exact fun b hb => cong_side hw' hw h' h hb

theorem absorbAll_one (c : Code) (o : Options) (t : Tracer) (x : SVal) : absorbAll c o t [x] = absorb c o t x := by
  simp only [absorbAll, bind, Except.bind]; cases absorb c o t x <;> rfl

theorem cong_out (o : Options) {t t' : Tracer} (hw : WF o t) (hw' : WF o t') (he : Eqv t t') (x : SVal) :
    OutEqv o (absorb .fixed o t x) (absorb .fixed o t' x) := by
  have := congL_out o hw hw' he [x]
  rwa [absorbAll_one, absorbAll_one] at this

/-- unless `allow_to_string`, the outcome of a run depends only on the SET of its samples (any order, any multiplicity):
equivalent tracers, or failure for both lists -/
theorem same_set_out {o : Options} (hno : o.allow_to_string = false) {xs ys : List SVal} {t : Tracer} (wt : WF o t)
    (hset : ∀ x, x ∈ xs ↔ x ∈ ys) : OutEqv o (absorbAll .fixed o t xs) (absorbAll .fixed o t ys) := by
  apply OutEqv.of_sides
  · intro a ha
    obtain ⟨b, hb⟩ := run_ok_of_subset hno wt ha (fun y hy => (hset y).mpr hy)
    exact ⟨b, hb, (same_set_eqv wt ha hb hset).1, absorbAll_wf o wt ha, absorbAll_wf o wt hb⟩
  · intro b hb
    obtain ⟨a, ha⟩ := run_ok_of_subset hno wt hb (fun y hy => (hset y).mp hy)
    exact ⟨a, ha, (same_set_eqv wt ha hb hset).2⟩

theorem absorb2_eq (c : Code) (o : Options) (t : Tracer) (x y : SVal) : absorb2 c o t x y = absorbAll c o t [x, y] := by
  simp only [absorb2, absorbAll, bind, Except.bind]
  cases absorb c o t x with
  | error e => rfl
  | ok m => simp only; cases absorb c o m y <;> rfl

theorem swap_out {o : Options} (hno : o.allow_to_string = false) {t : Tracer} (hw : WF o t) (x y : SVal) :
    OutEqv o (absorb2 .fixed o t x y) (absorb2 .fixed o t y x) := by
  rw [absorb2_eq, absorb2_eq]
  exact same_set_out hno hw (by simp [or_comm])

theorem perm_out {o : Options} (hno : o.allow_to_string = false) {xs ys : List SVal} (hp : xs.Perm ys) {t t' : Tracer}
    (hw : WF o t) (hw' : WF o t') (he : Eqv t t') :
    OutEqv o (absorbAll .fixed o t xs) (absorbAll .fixed o t' ys) :=
  (congL_out o hw hw' he xs).trans (same_set_out hno hw' fun _ => hp.mem_iff)

/-! ### `check` only reads the name and the set of paths -/

theorem find_paths : ∀ {fs : TFields} {k l t}, fs.find k = some (l, t) → ∀ p ∈ t.collect_paths, p ∈ fs.collect_paths
  | .nil, _, _, _, h, _, _ => by simp [TFields.find] at h
  | .cons n l0 t0 r, k, l, t, h, p, hp => by
    simp only [TFields.find] at h
    simp only [TFields.collect_paths, List.mem_append]
    by_cases hn : n = k
    · simp only [hn, if_true, Option.some.injEq, Prod.mk.injEq] at h
      rw [h.2]; exact .inl hp
    · simp only [hn, if_false] at h
      exact .inr (find_paths h p hp)

mutual
theorem TEq_paths : ∀ (a b : Tracer), TEq a b → ∀ p ∈ a.collect_paths, p ∈ b.collect_paths
  | .unknown _ _ _, b, h, p, hp => by rw [TEq] at h; subst h; exact hp
  | .primitive _ _ _ _ _, b, h, p, hp => by rw [TEq] at h; subst h; exact hp
  | .list _ _ _ i, b, h, p, hp => by
    rw [TEq] at h; obtain ⟨i', rfl, h⟩ := h
    simp only [Tracer.collect_paths, List.mem_cons] at hp ⊢
    rcases hp with rfl | hp
    · exact .inl rfl
    · exact .inr (TEq_paths i i' h p hp)
  | .map _ _ _ k v, b, h, p, hp => by
    rw [TEq] at h; obtain ⟨k', v', rfl, h1, h2⟩ := h
    simp only [Tracer.collect_paths, List.mem_cons, List.mem_append] at hp ⊢
    rcases hp with rfl | hp | hp
    · exact .inl rfl
    · exact .inr (.inl (TEq_paths k k' h1 p hp))
    · exact .inr (.inr (TEq_paths v v' h2 p hp))
  | .struct _ _ _ fs _ _, b, h, p, hp => by
    rw [TEq] at h; obtain ⟨fs', s', rfl, _, _, h⟩ := h
    simp only [Tracer.collect_paths, List.mem_cons] at hp ⊢
    rcases hp with rfl | hp
    · exact .inl rfl
    · exact .inr (FSub_paths fs fs' h p hp)
  | .tuple _ _ _ ts, b, h, p, hp => by
    rw [TEq] at h; obtain ⟨ts', rfl, h⟩ := h
    simp only [Tracer.collect_paths, List.mem_cons] at hp ⊢
    rcases hp with rfl | hp
    · exact .inl rfl
    · exact .inr (TsEq_paths ts ts' h p hp)
  | .union _ _ _ vs, b, h, p, hp => by
    rw [TEq] at h; obtain ⟨vs', rfl, h⟩ := h
    simp only [Tracer.collect_paths, List.mem_cons] at hp ⊢
    rcases hp with rfl | hp
    · exact .inl rfl
    · exact .inr (VEq_paths vs vs' h p hp)
termination_by structural a => a
theorem TsEq_paths : ∀ (a b : Tracers), TsEq a b → ∀ p ∈ a.collect_paths, p ∈ b.collect_paths
  | .nil, b, h, p, hp => by simp [Tracers.collect_paths] at hp
  | .cons t r, b, h, p, hp => by
    rw [TsEq] at h; obtain ⟨t', r', rfl, h1, h2⟩ := h
    simp only [Tracers.collect_paths, List.mem_append] at hp ⊢
    rcases hp with hp | hp
    · exact .inl (TEq_paths t t' h1 p hp)
    · exact .inr (TsEq_paths r r' h2 p hp)
termination_by structural a => a
theorem FSub_paths : ∀ (a b : TFields), FSub a b → ∀ p ∈ a.collect_paths, p ∈ b.collect_paths
  | .nil, b, h, p, hp => by simp [TFields.collect_paths] at hp
  | .cons n l t r, b, h, p, hp => by
    rw [FSub] at h
    obtain ⟨⟨l', t', hf, he⟩, h2⟩ := h
    simp only [TFields.collect_paths, List.mem_append] at hp
    rcases hp with hp | hp
    · exact find_paths hf p (TEq_paths t t' he p hp)
    · exact FSub_paths r b h2 p hp
termination_by structural a => a
theorem VEq_paths : ∀ (a b : Variants), VEq a b → ∀ p ∈ a.collect_paths, p ∈ b.collect_paths
  | .nil, b, h, p, hp => by simp [Variants.collect_paths] at hp
  | .absent r, b, h, p, hp => by
    rw [VEq] at h; obtain ⟨r', rfl, h⟩ := h
    simp only [Variants.collect_paths] at hp ⊢
    exact VEq_paths r r' h p hp
  | .present _ t r, b, h, p, hp => by
    rw [VEq] at h; obtain ⟨t', r', rfl, h1, h2⟩ := h
    simp only [Variants.collect_paths, List.mem_append] at hp ⊢
    rcases hp with hp | hp
    · exact .inl (TEq_paths t t' h1 p hp)
    · exact .inr (VEq_paths r r' h2 p hp)
termination_by structural a => a
end

theorem check_eqv (o : Options) {a b : Tracer} (h : Eqv a b) : a.check o = b.check o := by
  unfold Tracer.check Tracer.check_overwrites
  rw [(TEq_top h.1).1]
  have : (o.overwrites.all fun kv => a.collect_paths.contains kv.1) =
      (o.overwrites.all fun kv => b.collect_paths.contains kv.1) := by
    congr 1
    funext kv
    rw [Bool.eq_iff_iff]
    simp only [List.contains_iff_mem]
    exact ⟨TEq_paths a b h.1 kv.1, TEq_paths b a h.2 kv.1⟩
  simp only [this]

theorem fromSamplesTracer_eq (o : Options) (xs : List SVal) : fromSamplesTracer .fixed o xs =
    (absorbAll .fixed o (Tracer.new "$" "$") xs >>= fun t => (t.check o).map fun _ => t) := by
  unfold fromSamplesTracer Tracer.finish
  cases absorbAll .fixed o (Tracer.new "$" "$") xs with
  | error e => rfl
  | ok t =>
    simp only [bind, Except.bind]
    cases t.check o <;> rfl

theorem fromSamplesTracer_ok {o : Options} {xs : List SVal} {a : Tracer} :
    fromSamplesTracer .fixed o xs = .ok a ↔
      absorbAll .fixed o (Tracer.new "$" "$") xs = .ok a ∧ a.check o = .ok () := by
  rw [fromSamplesTracer_eq, R.bind_eq_ok]
  constructor
  · rintro ⟨t, h1, h2⟩
    cases hc : t.check o with
    | error e => rw [hc] at h2; cases h2
    | ok u => rw [hc] at h2; cases h2; exact ⟨h1, hc⟩
  · rintro ⟨h1, h2⟩
    exact ⟨a, h1, by rw [h2]; rfl⟩

/-- agreeing outcomes of the sample loop from the root give agreeing outcomes of `from_samples`: `check` cannot tell
equivalent tracers apart -/
theorem fromSamplesTracer_out {o : Options} {xs ys : List SVal}
    (h : OutEqv o (absorbAll .fixed o (Tracer.new "$" "$") xs) (absorbAll .fixed o (Tracer.new "$" "$") ys)) :
    OutEqv o (fromSamplesTracer .fixed o xs) (fromSamplesTracer .fixed o ys) := by
  rw [fromSamplesTracer_eq, fromSamplesTracer_eq]
  rcases h with ⟨a, b, h1, h2, he, hwa, hwb⟩ | ⟨h1, h2⟩
  · rw [h1, h2]
    show OutEqv o ((a.check o).map fun _ => a) ((b.check o).map fun _ => b)
    rw [← check_eqv o he]
    cases a.check o with
    | ok _ => exact .inl ⟨a, b, rfl, rfl, he, hwa, hwb⟩
    | error _ => exact .inr ⟨rfl, rfl⟩
  · cases h3 : absorbAll .fixed o (Tracer.new "$" "$") xs with
    | ok _ => rw [h3] at h1; cases h1
    | error _ =>
      cases h4 : absorbAll .fixed o (Tracer.new "$" "$") ys with
      | ok _ => rw [h4] at h2; cases h2
      | error _ => exact .inr ⟨rfl, rfl⟩

end SaModel.Lemmas.C07
