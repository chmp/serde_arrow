import SaModel.Lemmas.C01CompScalar
import SaModel.Lemmas.C11PhysBasic
import SaModel.Lemmas.Utf8
import SaModel.Lemmas.PushInd
/-
C11, physical equality: the scalar calls.  What a leaf / string / binary / view / fixed-size binary / dictionary builder
stores for a scalar call is a function of the documented value `Spec.interpScalar` of the call.
-/
namespace SaModel.Build
open SaModel SaModel.Spec

theorem LVals.length_ofList (l : List LVal) : LVals.length (LVals.ofList l) = l.length := by
  induction l with
  | nil => rfl
  | cons v r ih => simp [LVals.ofList, LVals.length, ih]

/-- a left inverse of `strBytes` exists -/
theorem exists_unstr : ∃ un : Bytes → String, ∀ s, un (strBytes s) = s := by
  classical
  refine ⟨fun bs => if h : ∃ s, strBytes s = bs then h.choose else "", fun s => ?_⟩
  have hex : ∃ s', strBytes s' = strBytes s := ⟨s, rfl⟩
  simp only [dif_pos hex]
  exact Lemmas.Utf8.strBytes_inj hex.choose_spec

theorem lastOff_of_getLast? {offs : List Int} {l : Int} (h : offs.getLast? = some l) : lastOff offs = l := by
  simp [lastOff, h]

/-- what a leaf builder does for a scalar call -/
theorem pushScalar_leaf_step {ext : Ext} {p : String} {k : LeafKind} {v : Validity} {vals : List Int} {x : SVal} {b' : B}
    (h : pushScalar ext (.leaf p k v vals) x = .ok b') :
    ∃ val, convLeaf ext k x = .ok val ∧ b' = .leaf p k (setV v vals.length true) (vals ++ [val]) := by
  simp only [pushScalar] at h
  obtain ⟨val, h1, h2⟩ := (bind_ok _ _ _).1 h
  obtain ⟨v', h3, h4⟩ := (bind_ok _ _ _).1 h2
  cases h4
  exact ⟨val, h1, by rw [setValidity_setV h3]⟩

theorem encLeaf_leafVal {ext : Ext} {k : LeafKind} {x : SVal} {val : Int} (h : convLeaf ext k x = .ok val) :
    encLeaf (leafVal k val) = val := by
  cases k
  case bool =>
    cases x <;> cases h
    rename_i c
    cases c <;> rfl
  all_goals rfl

theorem pushL_leafVal (un : Bytes → String) (k : LeafKind) (val : Int) (b : B) :
    pushL un (leafVal k val) b = scalarL un b (leafVal k val) := by
  cases k <;> simp only [leafVal, pushL]

/-- the documented value of a scalar call is the row of the table (`scalarRow_iff`) -/
theorem Shape.row_eq {ext : Ext} {b : B} {dt : DataType} {n : Bool} {md : Metadata} {x : SVal} {lv row : LVal}
    (hs : Shape b dt n md) (hi : interpScalar ext dt x = .ok lv) (hr : ScalarRow ext b x row) : lv = row :=
  Except.ok.inj (hi.symm.trans ((scalarRow_iff ext hs x row).1 hr).1)

theorem pushL_bytesVal (un : Bytes → String) (utf8 : Bool) (bs : Bytes) (b : B) :
    pushL un (bytesVal utf8 bs) b = scalarL un b (bytesVal utf8 bs) := by
  cases utf8 <;> rfl

theorem bytesOfL_bytesVal (utf8 : Bool) (bs : Bytes) : bytesOfL (bytesVal utf8 bs) = bs := by
  cases utf8 <;> rfl

/-- a call with a string `s` into a dictionary: its documented value is `s`, its keys are in an integer leaf, and its value
builder is built for a type at which `s` means `s` -/
theorem dict_row {ext : Ext} {p : String} {idx vals : B} {index : List String} {dt : DataType} {n : Bool} {md : Metadata}
    {x : SVal} {s : String} {lv : LVal} (hs : Shape (.dictionary p idx vals index) dt n md)
    (hi : interpScalar ext dt x = .ok lv) (hsx : scalarToString ext x = some s) :
    lv = .str (strBytes s) ∧ idx.isIntLeaf = true ∧
      ∃ vdt, Shape vals vdt false [] ∧ interpScalar ext vdt (.str s) = .ok (.str (strBytes s)) := by
  have ⟨⟨kdt, vdt, hdt, hsv⟩, hidx, _, hvals⟩ := hs
  subst hdt
  have hu := dict_interp_utf8 hsv hvals hi
  refine ⟨hs.row_eq hi (.dictionary hsx hu), hidx, vdt, hsv, ?_⟩
  obtain ⟨vp, vty, vv, voffs, vdata, rfl, hty⟩ := isUtf8B_form hu
  have hrow : ScalarRow ext (.bytes vp vty vv voffs vdata) (.str s) _ :=
    .bytes (bs := strBytes s) (by rw [hty]; exact ⟨s, rfl, rfl⟩)
  rw [hty] at hrow
  exact ((scalarRow_iff ext hsv _ _).1 hrow).1

/-- a scalar call, family by family: the builder stores what `pushL` stores for the documented value, which is the row
of the table; a dictionary's value builder by induction, at the value type -/
theorem phys_scalar (ext : Ext) (un : Bytes → String) (hun : ∀ s, un (strBytes s) = s) :
    ScalarCases ext (fun b x b' => ∀ (dt : DataType) (n : Bool) (md : Metadata) (lv : LVal),
      Shape b dt n md → interpScalar ext dt x = .ok lv → pushL un lv (erase b) = erase b') where
  null dt n md lv hs hi := by
    cases hs.row_eq hi .null
    simp [pushL, noneL, erase, pushNone]
  leaf h1 hv dt n md lv hs hi := by
    cases hs.row_eq hi (.leaf h1)
    cases setValidity_setV hv
    rw [pushL_leafVal]
    simp only [erase, scalarL, encLeaf_leafVal h1]
  bytes hbs hv h5 h7 dt n md lv hs hi := by
    cases hs.row_eq hi (.bytes hbs)
    cases setValidity_setV hv
    obtain ⟨l, hl, rfl⟩ := duplicateLast_ok h5
    cases incrementLast_snoc h7
    rw [← lastOff_of_getLast? hl, pushL_bytesVal]
    simp only [erase, scalarL, bytesOfL_bytesVal]
  view hbs hp hv dt n md lv hs hi := by
    cases hs.row_eq hi (.view hbs)
    cases setValidity_setV hv
    rw [pushL_bytesVal]
    simp only [erase, scalarL, bytesOfL_bytesVal]
    obtain ⟨d, extra, hr, _, _, hc⟩ := viewPushValue_ok hp
    cases hr
    rcases hc with ⟨rfl, rfl, hle⟩ | ⟨rfl, rfl, hgt, _⟩
    · rw [if_pos hle, List.append_nil]
    · rw [if_neg (by omega)]
  fixedSizeBinary hl hv dt n md lv hs hi := by
    cases hs.row_eq hi (.fixedSizeBinary hl)
    cases setValidity_setV hv
    simp [pushL, erase, scalarL, bytesOfL]
  dictOld hsx hix h1 _ dt n md lv hs hi := by
    obtain ⟨rfl, hidx, _⟩ := dict_row hs hi hsx
    obtain ⟨ip, t, iv, ivals, rfl⟩ := isIntLeaf_form hidx
    obtain ⟨val, hc, rfl⟩ := pushScalar_leaf_step h1
    cases convLeaf_int hc (j := val) rfl
    simp [pushL, erase, scalarL, bytesOfL, hun, hix, encLeaf]
  dictNew hsx hix _ ihv h3 _ dt n md lv hs hi := by
    obtain ⟨rfl, hidx, vdt, hsv, hiv⟩ := dict_row hs hi hsx
    obtain ⟨ip, t, iv, ivals, rfl⟩ := isIntLeaf_form hidx
    obtain ⟨val, hc, rfl⟩ := pushScalar_leaf_step h3
    cases convLeaf_int hc (j := val) rfl
    have hv := ihv vdt false [] _ hsv hiv
    simp only [pushL] at hv
    simp [pushL, erase, scalarL, bytesOfL, hun, hix, encLeaf, hv]

theorem pushScalar_phys (ext : Ext) (un : Bytes → String) (hun : ∀ s, un (strBytes s) = s) :
    ∀ (b : B) (x : SVal) (b' : B) (dt : DataType) (n : Bool) (md : Metadata) (lv : LVal),
      Shape b dt n md → pushScalar ext b x = .ok b' → interpScalar ext dt x = .ok lv →
      pushL un lv (erase b) = erase b' :=
  fun b x b' dt n md lv hs h hi => (phys_scalar ext un hun).scalar b x b' h dt n md lv hs hi

/-- the open offset after one more element, from what holds of the remaining elements -/
theorem offs_step {c large : Bool} {offs o' r : List Int} {k : Nat} (h1 : incrementLast c large offs 1 = .ok o')
    (ih : ∀ base l, o' = base ++ [l] → r = base ++ [l + (k : Int)]) :
    ∀ base l, offs = base ++ [l] → r = base ++ [l + ((k + 1 : Nat) : Int)] := by
  intro base l ho
  subst ho
  rw [ih base (l + 1) (incrementLast_snoc h1)]
  congr 2
  omega

end SaModel.Build
