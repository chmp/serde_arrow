import SaModel.Lemmas.C01ObsPush
import SaModel.Lemmas.C03ObsRoot
import SaModel.Lemmas.C01New
/-
C01 "hidden rows" — from the per-builder refinement R1' (`push_refines`: determined rows are stable) to the statements
about `dec` of a DETERMINED state (`Det b`: no row of `b` is undetermined).  Every strictly well-formed state is
determined (`Det_of_WFB`), every push of a determined state leads to a determined state and appends exactly one row to
`dec` (`push_appends_det`) — in particular the root builder of `to_marrow` (a non-nullable struct all of whose rows
were pushed) is determined after every record, although its descendants below a null need not be.
Also: `NoDictKey` of every builder `build_builder` constructs (`BuiltFor_NoDictKey`), the fold over the records
(`foldl_push_rowsH`, `runRows_rowsH`) and "the columns of a determined root are determined" (`det_root_cols`).
-/
namespace SaModel.Build
open SaModel SaModel.Spec
open SaModel.Lemmas.C03 (BuiltFor BuiltForL BuiltForU)

/-- no row of the builder is undetermined -/
def Det (b : B) : Prop := ∀ r ∈ decH b, r.isSome = true

theorem Det.eq {b : B} (h : Det b) : decH b = (dec b).map some := Lemmas.C03.decH_eq_of_det b h

theorem Det_of_WFB {b : B} (h : WFB b) : Det b := by
  intro r hr
  rw [decH_of_WFB b h] at hr
  obtain ⟨x, _, rfl⟩ := List.mem_map.1 hr
  rfl

theorem Det_of_eq {b : B} {xs : List LVal} (h : decH b = xs.map some) : Det b := by
  intro r hr
  rw [h] at hr
  obtain ⟨x, _, rfl⟩ := List.mem_map.1 hr
  rfl

/-- **R1 for determined states, without the first clause of `Safe`**: a successful push keeps the (weak) state invariant,
leads to a determined state again and appends exactly one row to `dec` -/
theorem push_appends_det (ext : Ext) (x : SVal) (b b' : B) (hw : WFH b) (hn : NoDictKey b) (hd : Det b)
    (h : push ext b x = .ok b') :
    WFH b' ∧ NoDictKey b' ∧ Det b' ∧ ∃ lv, dec b' = dec b ++ [lv] ∧ Refines (decH b') (decH b ++ [some lv]) := by
  obtain ⟨hw', lv, hr⟩ := push_refines ext x b b' hw hn h
  have hr' := hr
  rw [hd.eq] at hr'
  have e : decH b' = (dec b ++ [lv]).map some := Refines.of_map_some (by simpa [List.map_append] using hr')
  have hd' : Det b' := Det_of_eq e
  refine ⟨hw', NoDictKey.of_takeRest (push_takeRest ext x b b' h) hn, hd', lv, ?_, hr⟩
  have := hd'.eq
  rw [e] at this
  exact (Lemmas.C03.map_some_inj _ _ this).symm

/-! ### every builder `build_builder` constructs has integer-leaf dictionary keys -/

theorem NoDictKey_cases : Lemmas.C03.BuiltForCases (fun _ _ b => NoDictKey b) (fun _ bl => NoDictKeyL bl)
    (fun _ bl _ => NoDictKeyL bl) where
  null := trivial
  unknownVariant := trivial
  leaf := trivial
  bytes := trivial
  bytesView := trivial
  fixedSizeBinary := trivial
  list _ ih := ih
  largeList _ ih := ih
  fixedSizeList _ ih := ih
  map _ ihk _ ihv := ⟨ihk, ihv⟩
  struct _ ih := ih
  dictionary := @fun _ idx _ _ _ _ _ hk hi ihi _ ihv => by
    refine ⟨?_, ihi, ihv⟩
    have := Lemmas.C03.isIntLeaf_of_builtFor idx _ _ hk hi
    cases idx <;> simp [Lemmas.C03.isIntLeaf] at this <;> rfl
  union _ ih := ih
  nilL := trivial
  consL _ ih _ ihr := ⟨ih, ihr⟩
  nilU := trivial
  consU _ ih _ ihr := ⟨ih, ihr⟩

theorem BuiltFor_NoDictKey : ∀ (b : B) (dt : DataType) (nl : Bool), BuiltFor dt nl b → NoDictKey b :=
  NoDictKey_cases.builtFor

theorem BuiltForL_NoDictKeyL : ∀ (fs : BL) (fields : Fields), BuiltForL fields fs → NoDictKeyL fs :=
  NoDictKey_cases.builtForL

theorem BuiltForU_NoDictKeyL : ∀ (fs : BL) (ufs : UFields) (k : Nat), BuiltForU ufs fs k → NoDictKeyL fs :=
  NoDictKey_cases.builtForU

/-- the fresh root `to_marrow` starts from: no dictionary-keyed dictionary (whatever the schema) -/
theorem newRoot_NoDictKey {fields : List Field} {root0 : B} (h : newRoot fields = .ok root0) : NoDictKey root0 :=
  BuiltFor_NoDictKey root0 _ _ (Lemmas.C03.newRoot_builtFor fields root0 h)

/-! ### folding over the records -/

theorem foldl_push_rowsH (ext : Ext) : ∀ (rows : List SVal) (b b' : B), WFH b → NoDictKey b → Det b →
    rows.foldlM (push ext) b = .ok b' →
    WFH b' ∧ NoDictKey b' ∧ Det b' ∧ takeRest b' = takeRest b ∧ ∃ ls, ls.length = rows.length ∧ dec b' = dec b ++ ls
  | [], b, b', hwf, hs, hd, h => by
    simp [List.foldlM, pure, Except.pure] at h; subst h
    exact ⟨hwf, hs, hd, rfl, [], rfl, by simp⟩
  | x :: rest, b, b', hwf, hs, hd, h => by
    simp only [List.foldlM] at h
    obtain ⟨b1, h1, h⟩ := (bind_ok _ _ _).1 h
    obtain ⟨hw1, hs1, hd1, lv, he1, _⟩ := push_appends_det ext x b b1 hwf hs hd h1
    obtain ⟨hw', hs', hd', ht', ls, hl, he⟩ := foldl_push_rowsH ext rest b1 b' hw1 hs1 hd1 h
    exact ⟨hw', hs', hd', by rw [ht', push_takeRest ext x b b1 h1], lv :: ls, by simp [hl], by rw [he, he1]; simp⟩

theorem WFHL_colsH : ∀ (fs : BL) (len : Nat), WFHL fs len → ∀ c ∈ decHCols fs, c.2.length = len
  | .nil, _, _ => by simp [decHCols]
  | .cons b m r, len, h => by
    simp only [WFHL] at h
    intro c hc
    simp only [decHCols, List.mem_cons] at hc
    rcases hc with rfl | hc
    · simp only [decH_length]; exact h.2.1
    · exact WFHL_colsH r len h.2.2 c hc

theorem allSome_isSome_mem {α} : ∀ (l : List (Option α)), (allSome l).isSome = true → ∀ e ∈ l, e.isSome = true
  | [], _ => by simp
  | none :: _, h => by simp [allSome] at h
  | some x :: r, h => by
    intro e he
    simp only [allSome, Option.isSome_map] at h
    rcases List.mem_cons.1 he with rfl | he
    · rfl
    · exact allSome_isSome_mem r h e he

/-- the columns of a determined struct WITHOUT validity are determined (every row of the struct reads every child) -/
theorem det_root_cols {p : String} {len : Nat} {fs : BL} {cached next seen}
    (hw : WFH (.struct p len none fs cached next seen)) (hd : Det (.struct p len none fs cached next seen)) :
    ∀ c ∈ decHCols fs, ∀ r ∈ c.2, r.isSome = true := by
  simp only [WFH] at hw
  intro c hc r hr
  obtain ⟨i, hi, rfl⟩ := List.getElem_of_mem hr
  have hlen := WFHL_colsH fs len hw.2.1 c hc
  have hrow : (rowAtH (decHCols fs) i).isSome = true := by
    apply hd
    simp only [decH, maskNullH, structRowsH]
    exact List.mem_map.2 ⟨i, List.mem_range.2 (by omega), rfl⟩
  simp only [rowAtH, Option.isSome_map] at hrow
  have := allSome_isSome_mem _ hrow ((c.2.getD i (some .null)).map fun x => (c.1, x))
    (List.mem_map.2 ⟨c, hc, rfl⟩)
  simp only [Option.isSome_map, List.getD_eq_getElem?_getD, List.getElem?_eq_getElem hi, Option.getD_some] at this
  exact this

/-- **R3' (row count), no `Safe`.** After all rows have been pushed — ANY serde values — the root satisfies the weak
invariant, is determined, holds exactly `rows.length` rows and every column has that length. -/
theorem runRows_rowsH (ext : Ext) (fields : List Field) (rows : List SVal) (root0 root : B)
    (h0 : newRoot fields = .ok root0) (h : runRows ext fields rows = .ok root) :
    WFH root ∧ NoDictKey root ∧ Det root ∧ (dec root).length = rows.length ∧ takeRest root = root0 ∧
      ∀ col ∈ decRoot root, col.length = rows.length := by
  simp only [runRows, h0] at h
  have h : rows.foldlM (push ext) root0 = .ok root := h
  obtain ⟨hw0, hd0, ht0⟩ := newRoot_fresh h0
  obtain ⟨hw, hn, hdet, ht, ls, hl, hd⟩ := foldl_push_rowsH ext rows root0 root (WFH_of_WFB _ hw0)
    (newRoot_NoDictKey h0) (Det_of_WFB hw0) h
  refine ⟨hw, hn, hdet, by rw [hd, hd0]; simpa using hl, by rw [ht, ht0], ?_⟩
  have hroot : ∃ p len fs cached next seen, root = .struct p len none fs cached next seen := by
    have : takeRest root = root0 := by rw [ht, ht0]
    obtain ⟨_, _, _, _, rfl⟩ := newRoot_struct h0
    exact SaModel.Props.C01.runRows_rows.struct_of_takeRest root this
  obtain ⟨p, len, fs, cached, next, seen, rfl⟩ := hroot
  have hlen : len = rows.length := by
    have : (dec (B.struct p len none fs cached next seen)).length = rows.length := by rw [hd, hd0]; simpa using hl
    simpa [dec_struct, maskNull] using this
  simp only [WFH] at hw
  intro col hcol
  simp only [decRoot, List.mem_map] at hcol
  obtain ⟨c, hc, rfl⟩ := hcol
  rw [← hlen]
  exact Lemmas.C03.WFHL_len fs len hw.2.1 c hc

end SaModel.Build
