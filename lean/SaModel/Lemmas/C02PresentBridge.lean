import SaModel.Spec.Present
import SaModel.Read.PresentCodec
import SaModel.Read.Cast
/-
C02 — the ONE place where the reader-side specification `Spec/Present.lean` (written from the documentation; imports nothing of
`Read/*`) meets the functions the C02 / C05 theorems are stated with (`Read.toD`, `Read.castLeaf`, `Read.castScalar` and the
helpers of `Read.cast`, which call the reader model's `primAny` / `timeAny` / `dateRepr` / … / `f64ToF32`): they compute the
independent tables, for EVERY cell (no hypothesis on target, column or value).

  `readCodec` (`Read/PresentCodec.lean`)  the `TextCodec` of the reader model (`Codec/*.lean` through `dateRepr` …): the only shared part
  `toD_eq_present`            `Read.toD a lv = Spec.presentAny readCodec a lv`                      (∀ a lv, any nesting)
  `castLeaf_eq_present`       `demandOf (ofLeaf (castLeaf t a lv)) = presentLeaf readCodec t (leafKind a lv)`   (∀ t a lv)

`demandOf` forgets the message of a must-fail claim (`Demand.fails` carries none).  `castScalar`, the combinators and the typed
reads of every target: `Lemmas/C02PresentBridgeTyped.lean` (`cast_eq_typedRead`).  Shared by both sides: `f16ToF32`, `f32ToF64` (`Data/DVal.lean`: the exact
widenings on bit patterns), `Float.convert` (`Basic/Float.lean`: the narrowing f64 → f32), and the texts of `readCodec`.
-/
namespace SaModel.Props.C02
open SaModel SaModel.Read SaModel.Spec

/-! ### the leaf renderings of `deserialize_any` -/

theorem primAny_eq_present (ty : PrimTy) (x : Int) : primAny ty x = presentPrim ty x := by
  cases ty <;> rfl

theorem timeAny_eq_present (ty : TimeTy) (x : Int) : timeAny ty x = presentTime ty x := by
  cases ty <;> rfl

theorem u8As_any_eq_present (b : UInt8) : u8As .any b = .ok (presentByte b) := rfl

/-- the leaf clauses of `toD` -/
theorem toD_prim_int (ty : PrimTy) (v : Option Bits) (vals : List Int) (x : Int) :
    toD (.prim ty v vals) (.int x) = presentPrim ty x := by
  rw [← primAny_eq_present]; simp only [toD]

theorem toD_prim_float (ty : PrimTy) (v : Option Bits) (vals : List Int) (x : Int) :
    toD (.prim ty v vals) (.float x) = presentPrim ty x := by
  rw [← primAny_eq_present]; simp only [toD]

theorem toD_time_int (ty : TimeTy) (u : TimeUnit) (v : Option Bits) (vals : List Int) (x : Int) :
    toD (.time ty u v vals) (.int x) = presentTime ty x := by
  rw [← timeAny_eq_present]; simp only [toD]

/-- non-vacuity: a `Date32` slot is an `i32`, a `Float16` slot 0x3C00 (1.0) is the `f32` 1.0, a `Duration` slot an `i64` -/
example : presentPrim .date32 18262 = .int .i32 18262 ∧ presentPrim .float16 0x3C00 = .f32 0x3F800000 ∧
    presentTime .duration (-5) = .int .i64 (-5) ∧ presentPrim .uint64 18446744073709551615 = .int .u64 18446744073709551615 := by
  decide

/-! ### the codec of the reader model as the parameter of the specification

`Read.readCodec` (`Read/PresentCodec.lean`): the texts the reader model renders (`Codec.dateToString`, `timeToString`,
`timestampToString`, `formatArrowDurationAsSpan`, `Decimal.formatDecimal` — the functions of C14 / C15). -/

/-- a claim of `Read.cast` as a demand of the specification: the message of a must-fail claim is dropped -/
def demandOf {α : Type} : R (Option α) → Demand α
  | .ok (some a) => .value a
  | .ok none => .unclaimed
  | .error _ => .fails

@[simp] theorem demandOf_must (d : DVal) : demandOf (must d) = .value d := rfl
@[simp] theorem demandOf_mustFail (w : String) : demandOf (mustFail w : Claim) = .fails := rfl
@[simp] theorem demandOf_na : demandOf na = (.unclaimed : Demand DVal) := rfl
@[simp] theorem demandOf_unsupported : demandOf (ofLeaf (some unsupported)) = .fails := rfl

theorem demandOf_value_iff {α : Type} {x : R (Option α)} {a : α} : demandOf x = .value a ↔ x = .ok (some a) := by
  cases x with
  | error e => simp [demandOf]
  | ok o => cases o <;> simp [demandOf]

theorem demandOf_fails_iff {α : Type} {x : R (Option α)} : demandOf x = .fails ↔ ∃ e, x = .error e := by
  cases x with
  | error e => simp [demandOf]
  | ok o => cases o <;> simp [demandOf]

theorem demandOf_unclaimed_iff {α : Type} {x : R (Option α)} : demandOf x = .unclaimed ↔ x = .ok none := by
  cases x with
  | error e => simp [demandOf]
  | ok o => cases o <;> simp [demandOf]

/-- an owned text: `ofLeaf (some (r.map f))` against `createdText` -/
theorem demandOf_ofLeaf_map (r : R Bytes) (f : Bytes → DVal) :
    demandOf (ofLeaf (some (r.map f))) = (Demand.ofOption r.toOption).map f := by
  cases r <;> rfl

/-! ### `deserialize_any`: `toD` is `presentAny` -/

theorem findId_eq_variantOf : ∀ (fs : ArrUFields) (t : Int), ArrUFields.findId fs t = variantOf fs t
  | .nil, _ => rfl
  | .cons i fm a r, t => by simp only [ArrUFields.findId, variantOf, findId_eq_variantOf r t]

mutual
theorem toD_eq_present : ∀ (a : Arr) (lv : LVal), toD a lv = presentAny readCodec a lv
  | a, .null => by cases a <;> rfl
  | a, .bool b => by cases a <;> rfl
  | a, .int x => by
    cases a <;> simp only [toD, presentAny, primAny_eq_present, timeAny_eq_present, readCodec]
  | a, .float x => by cases a <;> simp only [toD, presentAny, primAny_eq_present]
  | a, .str b => by cases a <;> rfl
  | a, .bin b => by cases a <;> rfl
  | a, .list items => by
    cases a <;> simp only [toD, presentAny, toDList_eq_present]
  | a, .struct lfs => by
    cases a <;> simp only [toD, presentAny, toDFields_eq_present]
  | a, .map es => by
    cases a <;> simp only [toD, presentAny, toDEntries_eq_present]
  | a, .union t v => by
    cases a <;> simp only [toD, presentAny, findId_eq_variantOf]
    rename_i fs
    cases variantOf fs t with
    | none => rfl
    | some p => obtain ⟨fm, child⟩ := p; simp only [toD_eq_present child v]
theorem toDList_eq_present : ∀ (el : Arr) (items : LVals), toDList el items = presentItems readCodec el items
  | _, .nil => by simp only [toDList, presentItems]
  | el, .cons v r => by simp only [toDList, presentItems, toD_eq_present el v, toDList_eq_present el r]
theorem toDFields_eq_present : ∀ (fs : ArrFields) (lfs : LFields), toDFields fs lfs = presentFields readCodec fs lfs
  | .nil, .nil => by simp only [toDFields, presentFields]
  | .nil, .cons _ _ _ => by simp only [toDFields, presentFields]
  | .cons _ _ _, .nil => by simp only [toDFields, presentFields]
  | .cons fm a rest, .cons n v lrest => by
    simp only [toDFields, presentFields, toD_eq_present a v, toDFields_eq_present rest lrest]
theorem toDEntries_eq_present : ∀ (ks vs : Arr) (es : LEntries), toDEntries ks vs es = presentEntries readCodec ks vs es
  | _, _, .nil => by simp only [toDEntries, presentEntries]
  | ks, vs, .cons k v r => by
    simp only [toDEntries, presentEntries, toD_eq_present ks k, toD_eq_present vs v, toDEntries_eq_present ks vs r]
end

/-! ### the leaf table -/

theorem contains_i32_i64 (ty : IntTy) : [IntTy.i32, IntTy.i64].contains ty = (ty == .i32 || ty == .i64) := by
  cases ty <;> rfl

theorem contains_i64 (ty : IntTy) : [IntTy.i64].contains ty = (ty == .i64) := by
  cases ty <;> rfl

theorem isIntPrim_eq (ty : PrimTy) : isIntPrim ty = intWidth ty := by cases ty <;> rfl

theorem isScalarValue_eq (c : Nat) : isScalarValue c = isUnicodeScalar c := rfl

theorem f64ToF32_eq (x : Int) : f64ToF32 x = narrow x := rfl

theorem tzIsUtc_eq (tz : Option String) : tzIsUtc tz = zoneIsUtc tz := by cases tz <;> rfl

/-- an integer stored in a temporal column, requested as `ty`: the row of `castLeaf` against `storedAs` -/
theorem stored_eq (ok : Bool) (ty : IntTy) (x : Int) :
    demandOf (ofLeaf (if ok then (if ty.inRange x then some (.ok (.int ty x)) else some (fail "out of range")) else some unsupported))
      = (if ok then (if ty.inRange x then Demand.value (DVal.int ty x) else .fails) else .fails) := by
  cases ok <;> simp only [Bool.false_eq_true, if_false, if_true] <;> first | rfl | (cases ty.inRange x <;> rfl)

theorem demandOf_ofLeaf_ok (d : DVal) : demandOf (ofLeaf (some (.ok d))) = .value d := rfl
theorem demandOf_ofLeaf_fail (w : String) : demandOf (ofLeaf (some (fail w))) = .fails := rfl

/-- a value that is no leaf (null, list, struct, map, union) -/
def notLeaf : LVal → Prop
  | .bool _ | .int _ | .float _ | .str _ | .bin _ => False
  | _ => True

theorem castLeaf_notLeaf (t : Target) (a : Arr) {lv : LVal} (h : notLeaf lv) : castLeaf t a lv = some unsupported := by
  unfold castLeaf
  split <;> first | rfl | exact h.elim

theorem leafKind_notLeaf (a : Arr) {lv : LVal} (h : notLeaf lv) : leafKind a lv = .other := by
  unfold leafKind
  split <;> first | rfl | exact h.elim

/-- the two rows of `castLeaf` in which the number decides, against `numberAs` -/
theorem numberAs_bool (x : Int) :
    demandOf (ofLeaf (if x == 0 then some (.ok (.bool false)) else if x == 1 then some (.ok (.bool true)) else some (fail "not a bool")))
      = numberAs .bool x := by
  unfold numberAs
  split
  · rfl
  · split <;> rfl

theorem numberAs_char (x : Int) :
    demandOf (ofLeaf (if IntTy.u32.inRange x && isScalarValue x.toNat then some (.ok (.char x.toNat)) else some (fail "not a char")))
      = numberAs .char x := by
  show _ = (if IntTy.u32.inRange x && isScalarValue x.toNat then Demand.value (DVal.char x.toNat) else Demand.fails)
  cases (IntTy.u32.inRange x && isScalarValue x.toNat) <;> rfl

/-- the float targets have rows for float values only -/
theorem castLeaf_float_other {t : Target} (ht : t = .f32 ∨ t = .f64) (a : Arr) {lv : LVal} (h : ∀ x, lv ≠ .float x) :
    castLeaf t a lv = some unsupported := by
  unfold castLeaf
  split <;> first | rfl | exact absurd rfl (h _) | (rcases ht with ht | ht <;> cases ht)

theorem presentLeaf_float_other {t : Target} (ht : t = .f32 ∨ t = .f64) (a : Arr) {lv : LVal} (h : ∀ x, lv ≠ .float x) :
    presentLeaf readCodec t (leafKind a lv) = .fails := by
  rcases ht with rfl | rfl <;> unfold leafKind <;> split <;>
    first | rfl | exact absurd rfl (h _) | (split <;> first | rfl | (split <;> rfl))

/-- **every cell of the leaf table**: scalar target × column × logical value (type-inconsistent pairs included).  By target: a
target that is no scalar fails at every kind of slot; for a scalar one both sides compute once the column (and where a row asks
for it the column's type) and the value are known, except in the rows with a range check or a created text -/
theorem castLeaf_eq_present (t : Target) (a : Arr) (lv : LVal) :
    demandOf (ofLeaf (castLeaf t a lv)) = presentLeaf readCodec t (leafKind a lv) := by
  cases t with
  | f32 | f64 =>
    cases lv with
    | float _ =>
      cases a with
      | prim ty v vals => cases ty <;> exact rfl
      | _ => exact rfl
    | _ =>
      rw [castLeaf_float_other (by simp) a (fun _ => LVal.noConfusion),
        presentLeaf_float_other (by simp) a (fun _ => LVal.noConfusion)]
      rfl
  | str | bytes =>
    -- no row of these targets names a column type
    cases lv with
    | int _ | float _ =>
      cases a with
      | prim ty v vals => cases ty <;> exact rfl
      | time ty u v vals => cases ty <;> exact rfl
      | _ => exact rfl
    | bool _ | str _ | bin _ => cases a <;> exact rfl
    | _ => rw [castLeaf_notLeaf _ a (by exact trivial), leafKind_notLeaf a (by exact trivial)]; rfl
  | string | byteBuf =>
    cases lv with
    | int x =>
      cases a with
      | prim ty v vals => cases ty <;> first | exact rfl | exact demandOf_ofLeaf_map _ _
      | time ty u v vals => cases ty <;> first | exact rfl | exact demandOf_ofLeaf_map _ _
      | timestamp u tz v vals => exact demandOf_ofLeaf_map _ _
      | _ => exact rfl
    | bool _ | float _ | str _ | bin _ =>
      cases a with
      | prim ty v vals => cases ty <;> exact rfl
      | _ => exact rfl
    | _ => rw [castLeaf_notLeaf _ a (by exact trivial), leafKind_notLeaf a (by exact trivial)]; rfl
  | bool =>
    cases lv with
    | int x =>
      cases a with
      | prim ty v vals => cases ty <;> first | exact numberAs_bool x | exact rfl
      | time ty u v vals => cases ty <;> exact rfl
      | _ => exact rfl
    | float _ =>
      cases a with
      | prim ty v vals => cases ty <;> exact rfl
      | _ => exact rfl
    | bool _ | str _ | bin _ => cases a <;> exact rfl
    | _ => rw [castLeaf_notLeaf _ a (by exact trivial), leafKind_notLeaf a (by exact trivial)]; rfl
  | char =>
    cases lv with
    | int x =>
      cases a with
      | prim ty v vals => cases ty <;> first | exact numberAs_char x | exact rfl
      | time ty u v vals => cases ty <;> exact rfl
      | _ => exact rfl
    | float _ =>
      cases a with
      | prim ty v vals => cases ty <;> exact rfl
      | _ => exact rfl
    | bool _ | str _ | bin _ => cases a <;> exact rfl
    | _ => rw [castLeaf_notLeaf _ a (by exact trivial), leafKind_notLeaf a (by exact trivial)]; rfl
  | int ity =>
    cases lv with
    | int x =>
      cases a with
      | prim ty v vals =>
        cases ty with
        | float16 | float32 | float64 => exact rfl
        | date32 | date64 => cases ity <;> first | exact stored_eq true _ x | exact rfl
        | _ => exact stored_eq true ity x
      | time ty u v vals => cases ty <;> cases ity <;> first | exact stored_eq true _ x | exact rfl
      | timestamp u tz v vals => cases ity <;> first | exact stored_eq true _ x | exact rfl
      | _ => exact rfl
    | float _ =>
      cases a with
      | prim ty v vals => cases ty <;> exact rfl
      | timestamp u tz v vals => cases ity <;> exact rfl
      | _ => exact rfl
    | bool _ | str _ | bin _ =>
      cases a with
      | timestamp u tz v vals => cases ity <;> exact rfl
      | _ => exact rfl
    | _ => rw [castLeaf_notLeaf _ a (by exact trivial), leafKind_notLeaf a (by exact trivial)]; rfl
  | _ =>
    generalize leafKind a lv = k
    cases k <;> exact rfl

end SaModel.Props.C02
