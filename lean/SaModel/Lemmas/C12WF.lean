import SaModel.Lemmas.C12Basic
import SaModel.Lemmas.C02DecodeAt
import SaModel.Lemmas.C03WfInv
/-
C12 helpers: `sliceable` is implied by Arrow validity as spelled out for C03 (`Spec.wf`): every array the
crate's builders produce (C03 `C03_wfS`) may be sliced.
-/
namespace SaModel.Lemmas.C12
open SaModel SaModel.Read SaModel.Spec SaModel.Lemmas.C03

theorem decodeAll_length (a : Arr) : (decodeAll a).length = lenOf a := (decodeAll_spec a).1

mutual
theorem wf_sliceable : ∀ (a : Arr) (dt : DataType) (nl : Bool), wf dt nl a = true → sliceable a = true
  | .struct len v cols, dt, nl, h => by
    obtain ⟨fs, _, _, hf⟩ := wf_inv h
    simp only [sliceable]
    exact wfFields_sliceable cols fs len hf
  | .fixedSizeList len v n fm el, dt, nl, h => by
    obtain ⟨f, _, _, _, _, hl, hw⟩ := wf_inv h
    rw [decodeAll_length] at hl
    simp only [sliceable, Bool.and_eq_true, decide_eq_true_eq]
    exact ⟨by omega, wf_sliceable el _ _ hw⟩
  | .dictionary ks vs, dt, nl, h => by
    obtain ⟨k, _, _, hk, _⟩ := wf_inv h
    simp only [sliceable]
    exact wf_sliceable ks _ _ hk
  | .union types offs cols, dt, nl, h => by
    -- a well-formed union is dense
    obtain ⟨_, _, o, _, rfl, _, _⟩ := wf_inv h
    simp only [sliceable]
  | .null _, _, _, _ | .boolean _ _ _, _, _, _ | .prim _ _ _, _, _, _ | .time _ _ _ _, _, _, _
  | .timestamp _ _ _ _, _, _, _ | .decimal128 _ _ _ _, _, _, _ | .bytes _ _ _ _, _, _, _ | .bytesView _ _ _ _, _, _, _
  | .fixedSizeBinary _ _ _, _, _, _ | .list _ _ _ _ _, _, _, _ | .map _ _ _ _ _, _, _, _ => by simp only [sliceable]
theorem wfFields_sliceable : ∀ (cols : ArrFields) (fs : Fields) (len : Nat), wfFields fs cols len = true →
    sliceableFields cols len = true
  | .nil, _, _, _ => by simp only [sliceableFields]
  | .cons fm a r, fs, len, h => by
    obtain ⟨f, rest, _, _, hl, hw, hr⟩ := wfFields_cons_inv h
    rw [decodeAll_length] at hl
    simp only [sliceableFields, Bool.and_eq_true, decide_eq_true_eq]
    exact ⟨⟨by omega, wf_sliceable a _ _ hw⟩, wfFields_sliceable r rest len hr⟩
end

/-- every array that is structurally valid for its field (C03 `Spec.WFS`) satisfies `sliceable` -/
theorem WF_sliceable (f : Field) (a : Arr) (h : WFS f a = true) : sliceable a = true :=
  wf_sliceable a f.dataType f.nullable h

end SaModel.Lemmas.C12
