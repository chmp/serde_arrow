import SaModel.Lemmas.C03Total
import SaModel.Lemmas.C03ObsRoot
/-
Totality of `to_marrow` under the weak state invariant `WFH` (no `Safe`); `finish_totalH` itself is in Lemmas/C03Total.lean.

`BuiltFor dt nl b → covered dt = true → PlaceholderStr b` (`BuiltFor_PlaceholderStr`), so for `to_marrow`:

    toMarrow_totalH : fields.all coveredF → typedFs (ofList fields) → WFH root → runRows … = ok root → ∃ arrs, toMarrow … = ok arrs

and `placeholder_binary_fails`: the hypothesis `PlaceholderStr` of `finish_totalH` is sharp.
-/
namespace SaModel.Lemmas.C03
open SaModel SaModel.Build SaModel.Spec

/-- the builder of a `covered` data type (dictionaries: integer keys, Utf8 / LargeUtf8 values) is `PlaceholderStr`: the second
half of `Placeholder_cases` (Lemmas/C03ObsRoot.lean) -/
theorem BuiltFor_PlaceholderStr : ∀ (b : B) (dt : DataType) (nl : Bool), BuiltFor dt nl b → covered dt = true →
    PlaceholderStr b :=
  fun b dt nl hb hc => (Placeholder_cases.builtFor b dt nl hb hc).2

theorem BuiltForL_PlaceholderStrL : ∀ (bl : BL) (fs : Fields), BuiltForL fs bl → coveredFs fs = true → PlaceholderStrL bl :=
  fun bl fs hb hc => (Placeholder_cases.builtForL bl fs hb hc).2

theorem BuiltForU_PlaceholderStrL : ∀ (bl : BL) (ufs : UFields) (k : Nat), BuiltForU ufs bl k → coveredU ufs = true →
    PlaceholderStrL bl :=
  fun bl ufs k hb hc => (Placeholder_cases.builtForU bl ufs k hb hc).2

theorem newRoot_PlaceholderStr {fields : List Field} {root0 : B} (hc : fields.all coveredF = true)
    (h : newRoot fields = .ok root0) : PlaceholderStr root0 :=
  BuiltFor_PlaceholderStr root0 _ _ (newRoot_builtFor fields root0 h) (by
    simp only [covered]; rw [coveredFs_ofList]; exact hc)

theorem runRows_PlaceholderStr (ext : Ext) (fields : List Field) (rows : List SVal) (root : B)
    (hc : fields.all coveredF = true) (h : runRows ext fields rows = .ok root) : PlaceholderStr root :=
  BuiltFor_PlaceholderStr root _ _ (runRows_builtFor ext fields rows root (Build.push_takeRest ext) h) (by
    simp only [covered]; rw [coveredFs_ofList]; exact hc)

/-- **the hypothesis is sharp.**  `Dictionary(UInt32, Binary)` with non-nullable keys, one placeholder key and no value: a
state satisfying `WFH`, `FinB` and even `PlaceholderOK` (the binary builder has a placeholder ROW) — but
`serialize_str("")` is refused by a Binary builder, so `into_array` fails.  (`covered` excludes the type: `build_builder`
accepts it, the schema assumption of C01/C03 does not.) -/
theorem placeholder_binary_fails :
    ∃ b : B, WFH b ∧ FinB b ∧ PlaceholderOK b ∧ ¬ PlaceholderStr b ∧ (finish {} b).isOk = false := by
  refine ⟨.dictionary "$.d" (.leaf "$.d.key" (.int .u32) none [0]) (.bytes "$.d.value" .binary none [0] []) [],
    ?_, ?_, ?_, ?_, by decide⟩
  · simp only [WFH]
    refine ⟨(by intro _ h; cases h), ⟨⟨rfl, rfl, by simp⟩, (by intro _ h; cases h)⟩, by simp, by decide, ?_, ?_, ?_⟩
    · intro k hk j hj
      have : k = .int 0 := by simpa [dec, maskNull, leafVal] using hk
      rw [this] at hj
      cases hj
      exact ⟨by omega, Or.inr ⟨rfl, rfl⟩⟩
    · exact ⟨fun h => by simp [B.isUtf8B, isUtf8Ty] at h, fun _ => rfl⟩
    · intro r hr; simp [decH, dec, maskNull, pairs] at hr
  · simp [FinB, isIntLeaf]
  · simp [PlaceholderOK, placeholderVals]
  · simp [PlaceholderStr, isStrB, isUtf8Ty, B.isNullable]

theorem BuiltFor_struct_root (b : B) (fs : Fields) (nl : Bool) (hb : BuiltFor (.struct fs) nl b) :
    ∃ p len v bl c n s, b = .struct p len v bl c n s := by
  cases b with
  | struct p len v bl c n s => exact ⟨_, _, _, _, _, _, _, rfl⟩
  | leaf p kind v vals =>
    simp only [BuiltFor] at hb
    obtain ⟨h, _⟩ := hb
    cases kind with
    | int t => cases t <;> simp [leafDT, intDT] at h
    | _ => simp [leafDT] at h
  | null p len | unknownVariant p => simp [BuiltFor] at hb
  | bytes p ty v offs data => simp only [BuiltFor] at hb; obtain ⟨h, _⟩ := hb; cases ty <;> simp [Lemmas.C03.bytesDT] at h
  | bytesView p ty v views buf => simp only [BuiltFor] at hb; obtain ⟨h, _⟩ := hb; cases ty <;> simp [Lemmas.C03.viewDT] at h
  | fixedSizeBinary p n len v buf cur => simp [BuiltFor] at hb
  | list p large fm v offs el => simp only [BuiltFor] at hb; obtain ⟨f, h, _⟩ := hb; cases large <;> simp at h
  | fixedSizeList p fm n len v cur el | map p mm v offs ks vs | dictionary p idx vals index | union p fs t o c =>
    simp [BuiltFor] at hb

/-- **`to_marrow` cannot fail in `build_arrays`, without `Safe`**: once every row has been accepted
(`runRows … = ok root`) and the final state satisfies the weak invariant, `to_marrow` succeeds.  Schema hypotheses:
`coveredF` (dictionary values Utf8 / LargeUtf8 — gives `PlaceholderStr`; needed, `placeholder_binary_fails`) and `typedFs`
(the typing invariant of `DataType`: sizes are `i32`, union type ids `i8` values — gives `FinB`).  `SchemaOKF` is NOT
needed (a `FixedSizeBinary(0)` column finishes, into a wrong array). -/
theorem toMarrow_totalH (ext : Ext) (fields : List Field) (rows : List SVal) (root : B)
    (hc : fields.all coveredF = true) (htyped : typedFs (Fields.ofList fields) = true)
    (hw : WFH root) (hrun : runRows ext fields rows = .ok root) : ∃ arrs, toMarrow ext fields rows = .ok arrs := by
  have hb := runRows_builtFor ext fields rows root (Build.push_takeRest ext) hrun
  have hf := FinB_of_builtFor root _ _ hb (by simpa [typedDT] using htyped)
  have hp := runRows_PlaceholderStr ext fields rows root hc hrun
  obtain ⟨⟨arrs, rest⟩, hba⟩ := buildArrays_totalH ext root hw hf hp (BuiltFor_struct_root root _ _ hb)
  refine ⟨arrs, ?_⟩
  rw [Props.C03.toMarrow_eq, hrun]
  simp only [bind, Except.bind, hba, pure, Except.pure]

end SaModel.Lemmas.C03
