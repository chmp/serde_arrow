import SaModel.Lemmas.C06Ensure
/-
C06: `erase` forgets the sample counters of the struct tracers (`seen_samples`,
`last_seen_in_sample`).  Two tracers with the same erasure differ only in that bookkeeping; in particular they produce the
same field (`to_field_erase`).
-/
namespace SaModel.Lemmas.C06
open SaModel SaModel.Trace

mutual
def erase : Tracer → Tracer
  | .unknown n p nl => .unknown n p nl
  | .primitive n p nl ty st => .primitive n p nl ty st
  | .list n p nl i => .list n p nl (erase i)
  | .map n p nl k v => .map n p nl (erase k) (erase v)
  | .struct n p nl fs m _ => .struct n p nl (eraseF fs) m 0
  | .tuple n p nl ts => .tuple n p nl (eraseT ts)
  | .union n p nl vs => .union n p nl (eraseV vs)
def eraseT : Tracers → Tracers
  | .nil => .nil
  | .cons t r => .cons (erase t) (eraseT r)
def eraseF : TFields → TFields
  | .nil => .nil
  | .cons n _ t r => .cons n 0 (erase t) (eraseF r)
def eraseV : Variants → Variants
  | .nil => .nil
  | .absent r => .absent (eraseV r)
  | .present n t r => .present n (erase t) (eraseV r)
end

theorem erase_nullable (t : Tracer) : (erase t).nullable = t.nullable := by cases t <;> rfl

theorem erase_mark_nullable (t : Tracer) : erase t.mark_nullable = (erase t).mark_nullable := by cases t <;> rfl

theorem erase_is_unknown_or_null (t : Tracer) : (erase t).is_unknown_or_null = t.is_unknown_or_null := by
  cases t <;> rfl

theorem eraseV_is_without_data : ∀ vs : Variants, (eraseV vs).is_without_data = vs.is_without_data
  | .nil => rfl
  | .absent _ => rfl
  | .present _ t r => by
    simp only [eraseV, Variants.is_without_data, is_null_variant, erase_is_unknown_or_null, eraseV_is_without_data r]

mutual
theorem to_field_erase (o : Options) : ∀ t : Tracer, (erase t).to_field o = t.to_field o
  | .unknown _ _ _ => rfl
  | .primitive _ _ _ _ _ => rfl
  | .list n p nl i => by simp only [erase, Tracer.to_field, to_field_erase o i]
  | .map n p nl k v => by simp only [erase, Tracer.to_field, to_field_erase o k, to_field_erase o v]
  | .struct n p nl fs m s => by simp only [erase, Tracer.to_field, to_fieldsF_erase o fs]
  | .tuple n p nl ts => by simp only [erase, Tracer.to_field, to_fieldsT_erase o ts]
  | .union n p nl vs => by simp only [erase, Tracer.to_field, to_fieldsV_erase o vs, eraseV_is_without_data]
theorem to_fieldsT_erase (o : Options) : ∀ ts : Tracers, (eraseT ts).to_fields o = ts.to_fields o
  | .nil => rfl
  | .cons t r => by simp only [eraseT, Tracers.to_fields, to_field_erase o t, to_fieldsT_erase o r]
theorem to_fieldsF_erase (o : Options) : ∀ fs : TFields, (eraseF fs).to_fields o = fs.to_fields o
  | .nil => rfl
  | .cons _ _ t r => by simp only [eraseF, TFields.to_fields, to_field_erase o t, to_fieldsF_erase o r]
theorem to_fieldsV_erase (o : Options) : ∀ (vs : Variants) (idx : Nat), (eraseV vs).to_fields o idx = vs.to_fields o idx
  | .nil, _ => rfl
  | .absent r, idx => by simp only [eraseV, Variants.to_fields, to_fieldsV_erase o r]
  | .present _ t r, idx => by simp only [eraseV, Variants.to_fields, to_field_erase o t, to_fieldsV_erase o r]
end

theorem to_field_of_erase_eq (o : Options) {t t' : Tracer} (h : erase t = erase t') : t.to_field o = t'.to_field o := by
  rw [← to_field_erase o t, h, to_field_erase]

theorem eraseT_set_same : ∀ (ts : Tracers) (i : Nat) (c c' : Tracer), ts.get? i = some c → erase c' = erase c →
    eraseT (ts.set i c') = eraseT ts
  | .nil, _, _, _, h, _ => by simp [Tracers.get?] at h
  | .cons _ _, 0, c, c', h, he => by
    simp only [Tracers.get?, Option.some.injEq] at h; subst h
    simp only [Tracers.set, eraseT, he]
  | .cons _ r, i + 1, c, c', h, he => by
    simp only [Tracers.set, eraseT]
    rw [eraseT_set_same r i c c' h he]

theorem eraseF_setLastSeen : ∀ (fs : TFields) (i s : Nat), eraseF (fs.setLastSeen i s) = eraseF fs
  | .nil, _, _ => rfl
  | .cons _ _ _ _, 0, _ => rfl
  | .cons _ _ _ r, i + 1, s => by simp only [TFields.setLastSeen, eraseF, eraseF_setLastSeen r i s]

theorem eraseF_set_same : ∀ (fs : TFields) (i : Nat) (c c' : Tracer), fs.get? i = some c → erase c' = erase c →
    eraseF (fs.set i c') = eraseF fs
  | .nil, _, _, _, h, _ => by simp [TFields.get?] at h
  | .cons _ _ _ _, 0, c, c', h, he => by
    simp only [TFields.get?, Option.some.injEq] at h; subst h
    simp only [TFields.set, eraseF, he]
  | .cons _ _ _ r, i + 1, c, c', h, he => by
    simp only [TFields.set, eraseF]
    rw [eraseF_set_same r i c c' h he]

/-- `end` changes nothing but counters when every field was seen in this sample or is nullable already -/
theorem eraseF_end : ∀ (s : Nat) (fs : TFields),
    (∀ i t l, fs.get? i = some t → lastSeen? fs i = some l → l = s ∨ t.nullable = true) →
    eraseF (fs.end_ s) = eraseF fs
  | _, .nil, _ => rfl
  | s, .cons n l t r, h => by
    simp only [TFields.end_, eraseF]
    have h0 := h 0 t l rfl rfl
    have hr : eraseF (r.end_ s) = eraseF r := eraseF_end s r (fun i t' l' hg hl => h (i + 1) t' l' hg hl)
    rw [hr]
    rcases h0 with h0 | h0
    · subst h0; simp
    · rw [mark_nullable_of_nullable h0]; simp

theorem eraseV_set_same : ∀ (vs : Variants) (i : Nat) (n : String) (c c' : Tracer), vs.get? i = some (some (n, c)) →
    erase c' = erase c → eraseV (vs.set i n c') = eraseV vs
  | .nil, _, _, _, _, h, _ => by simp [Variants.get?] at h
  | .absent _, 0, _, _, _, h, _ => by simp [Variants.get?] at h
  | .present _ _ _, 0, n, c, c', h, he => by
    simp only [Variants.get?, Option.some.injEq, Prod.mk.injEq] at h
    obtain ⟨h1, h2⟩ := h; subst h1; subst h2
    simp only [Variants.set, eraseV, he]
  | .absent r, i + 1, n, c, c', h, he => by
    simp only [Variants.set, eraseV]
    rw [eraseV_set_same r i n c c' h he]
  | .present _ _ r, i + 1, n, c, c', h, he => by
    simp only [Variants.set, eraseV]
    rw [eraseV_set_same r i n c c' h he]

end SaModel.Lemmas.C06
