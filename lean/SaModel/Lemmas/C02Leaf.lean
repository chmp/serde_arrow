import SaModel.Lemmas.ReadBasic
import SaModel.Read.ToD
import SaModel.Spec.DecodeAt
import SaModel.Lemmas.DataBasic
/-
Leaf cases of C02 (`read_any_decode`): for each leaf array kind, what the column getter (`primGet`, `boolGet`,
`bytesColGet`, `viewColGet`, `fsbColGet`) returns on a slot whose Arrow reading is defined (`…_get`), and from it: the slot is
presented by `deserialize_any` exactly as `toD` of that reading (`…_case`).  The Arrow reading of a leaf slot and the
getter of its reader test the same row and the same validity bit (`gate_of_guarded`, on the getter equations
`primGet_all` … of ReadBasic.lean).
-/
namespace SaModel.Read
open SaModel SaModel.Spec

theorem all_bytesGet : Fixes.all.bytesGet = true := rfl
theorem all_offsetsOrder : Fixes.all.offsetsOrder = true := rfl
theorem all_fslMul : Fixes.all.fslMul = true := rfl
theorem all_enumTypeId : Fixes.all.enumTypeId = true := rfl
theorem all_nullLen : Fixes.all.nullLen = true := rfl

theorem withValidity_ok {v : Option Bits} {i : Nat} {p : R LVal} {lv : LVal} (h : withValidity v i p = .ok lv) :
    (isValid v i = .ok false ∧ lv = .null) ∨ (isValid v i = .ok true ∧ p = .ok lv) := by
  unfold withValidity at h
  cases hv : isValid v i with
  | error e => rw [hv] at h; cases h
  | ok b =>
    rw [hv] at h
    cases b
    · left; simp only [bind, Except.bind, Bool.not_false, if_true, pure, Except.pure] at h
      cases h; exact ⟨rfl, rfl⟩
    · right; simp only [bind, Except.bind, Bool.not_true, Bool.false_eq_true, if_false] at h
      exact ⟨rfl, h⟩

/-- evaluation of `anyAt` once `is_some` is known -/
theorem anyAt_of_isSome {a : Arr} {f : Nat → R DVal} {i : Nat} {b : Bool} (h : isSome Fixes.all a i = .ok b) :
    anyAt Fixes.all a f i = if b then f i else .ok .none := by
  unfold anyAt; rw [h]; cases b <;> rfl

theorem getD_of_lt {α} (l : List α) (i : Nat) (d : α) (h : i < l.length) : l.getD i d = l[i] :=
  List.getD_of_lt l i d h

theorem tryIntoUsize_nonneg {x : Int} (h : 0 ≤ x) : tryIntoUsize x = .ok x.toNat := by
  simp [tryIntoUsize, h]

theorem fsbNew_of_new {n : Int} {v : Option Bits} {data : Bytes} (hn : new Fixes.all (.fixedSizeBinary n v data) = .ok ())
    (hpos : ¬ n ≤ 0) : fsbNew Fixes.all n data = .ok (n.toNat, data.length / n.toNat) := by
  unfold new at hn
  cases hf : fsbNew Fixes.all n data with
  | error e => rw [hf] at hn; cases hn
  | ok r =>
    unfold fsbNew at hf
    have h1 : ¬ n < 0 := by omega
    have h2 : ¬ n.toNat = 0 := by omega
    simp only [h1, if_false, h2] at hf
    split at hf
    · cases hf
    · cases hf; rfl

/-! ### what the column getters return -/

theorem guarded_inv {c : Prop} [Decidable c] {v : Option Bits} {i : Nat} {p : R LVal} {lv : LVal}
    (h : (if c then withValidity v i p else oob) = .ok lv) :
    c ∧ ((isValid v i = .ok false ∧ lv = .null) ∨ (isValid v i = .ok true ∧ p = .ok lv)) := by
  split at h
  · rename_i hc; exact ⟨hc, withValidity_ok h⟩
  · cases h

/-- the Arrow reading of a leaf slot (`if c then withValidity v i p else oob`) and the getter of its reader
(`gate c msg v i x`) test the same row and the same bit: where the reading is defined the getter answers `none` for a
null slot and otherwise what its payload answers -/
theorem gate_of_guarded {α} {c : Prop} [Decidable c] {v : Option Bits} {i : Nat} {p : R LVal} {lv : LVal} {msg : String}
    {x : R (Option α)} (h : (if c then withValidity v i p else oob) = .ok lv) :
    c ∧ ((lv = .null ∧ gate c msg v i x = .ok none) ∨ (p = .ok lv ∧ gate c msg v i x = x)) := by
  obtain ⟨hc, hv⟩ := guarded_inv h
  refine ⟨hc, hv.imp (fun ⟨hv, hl⟩ => ⟨hl, ?_⟩) (fun ⟨hv, hp⟩ => ⟨hp, ?_⟩)⟩ <;> (unfold gate; rw [if_pos hc, hv]; rfl)

theorem primlike_get {v : Option Bits} {vals : List Int} {i : Nat} {lv x : LVal}
    (h : (if i < vals.length then withValidity v i (.ok x) else oob) = .ok lv) :
    (lv = .null ∧ primGet Fixes.all v vals i = .ok none) ∨
      (lv = x ∧ primGet Fixes.all v vals i = .ok (some (vals.getD i 0))) := by
  rw [primGet_all]
  obtain ⟨hi, hs⟩ := gate_of_guarded h
  exact hs.imp id fun ⟨hp, hg⟩ => ⟨by cases hp; rfl, by rw [hg, List.getElem?_eq_getElem hi, getD_of_lt _ _ _ hi]⟩

theorem prim_get {ty : PrimTy} {v : Option Bits} {vals : List Int} {i : Nat} {lv : LVal}
    (h : decodeAt (.prim ty v vals) i = .ok lv) :
    (lv = .null ∧ primGet Fixes.all v vals i = .ok none) ∨
      (lv = leafOf ty (vals.getD i 0) ∧ primGet Fixes.all v vals i = .ok (some (vals.getD i 0))) := by
  unfold decodeAt at h; exact primlike_get h

theorem time_get {ty : TimeTy} {u : TimeUnit} {v : Option Bits} {vals : List Int} {i : Nat} {lv : LVal}
    (h : decodeAt (.time ty u v vals) i = .ok lv) :
    (lv = .null ∧ primGet Fixes.all v vals i = .ok none) ∨
      (lv = .int (vals.getD i 0) ∧ primGet Fixes.all v vals i = .ok (some (vals.getD i 0))) := by
  unfold decodeAt at h; exact primlike_get h

theorem timestamp_get {u : TimeUnit} {tz : Option String} {v : Option Bits} {vals : List Int} {i : Nat} {lv : LVal}
    (h : decodeAt (.timestamp u tz v vals) i = .ok lv) :
    (lv = .null ∧ primGet Fixes.all v vals i = .ok none) ∨
      (lv = .int (vals.getD i 0) ∧ primGet Fixes.all v vals i = .ok (some (vals.getD i 0))) := by
  unfold decodeAt at h; exact primlike_get h

theorem decimal_get {p : Nat} {s : Int} {v : Option Bits} {vals : List Int} {i : Nat} {lv : LVal}
    (h : decodeAt (.decimal128 p s v vals) i = .ok lv) :
    (lv = .null ∧ primGet Fixes.all v vals i = .ok none) ∨
      (lv = .int (vals.getD i 0) ∧ primGet Fixes.all v vals i = .ok (some (vals.getD i 0))) := by
  unfold decodeAt at h; exact primlike_get h

theorem null_get {len i : Nat} {lv : LVal} (h : decodeAt (.null len) i = .ok lv) :
    lv = .null ∧ nullCheck Fixes.all len i = .ok () := by
  unfold decodeAt at h
  split at h
  · rename_i hi
    cases h
    have : ¬ i ≥ len := by omega
    exact ⟨rfl, by simp [nullCheck, all_nullLen, this]⟩
  · cases h

theorem bool_get {len : Nat} {v : Option Bits} {vals : Bits} {i : Nat} {lv : LVal}
    (h : decodeAt (.boolean len v vals) i = .ok lv) :
    (lv = .null ∧ boolGet Fixes.all len v vals i = .ok none) ∨
      (∃ b, lv = .bool b ∧ boolGet Fixes.all len v vals i = .ok (some b)) := by
  unfold decodeAt at h
  rw [boolGet_all]
  obtain ⟨_, hs⟩ := gate_of_guarded h
  refine hs.imp id fun ⟨hp, hg⟩ => ?_
  obtain ⟨b, hb, hp⟩ := R.bind_ok_inv hp
  cases hp
  exact ⟨b, rfl, by rw [hg, hb]; rfl⟩

theorem bytes_get {ty : BytesTy} {v : Option Bits} {offs : List Int} {data : Bytes} {i : Nat} {lv : LVal}
    (h : decodeAt (.bytes ty v offs data) i = .ok lv) (hu : utf8Ok lv = true) :
    (lv = .null ∧ bytesColGet Fixes.all ty v offs data i = .ok none) ∨
      (∃ b, lv = bytesVal (isUtf8Ty ty) b ∧ bytesColGet Fixes.all ty v offs data i = .ok (some b)) := by
  unfold decodeAt at h
  unfold bytesColGet
  rw [bytesGet_all]
  obtain ⟨_, hs⟩ := gate_of_guarded h
  rcases hs with ⟨rfl, hg⟩ | ⟨hp, hg⟩
  · left; rw [hg]; exact ⟨rfl, by split <;> rfl⟩
  · right
    dsimp only at hp
    split at hp
    · rename_i hr
      cases hp
      have hb : bytesAt data (offs.getD i 0) (offs.getD (i + 1) 0) = .ok (some ((data.drop (offs.getD i 0).toNat).take
          ((offs.getD (i + 1) 0).toNat - (offs.getD i 0).toNat))) := by
        unfold bytesAt byteSlice; rw [if_pos hr]
      rw [hg, hb]
      refine ⟨_, rfl, ?_⟩
      cases hty : isUtf8Ty ty
      · rfl
      · simp only [bytesVal, hty, if_true, utf8Ok] at hu
        simp only [if_true, asStr, bind, Except.bind, hu, pure, Except.pure]
    · cases hp

theorem view_get {ty : ViewTy} {v : Option Bits} {views : List Nat} {buffers : List Bytes} {i : Nat} {lv : LVal}
    (h : decodeAt (.bytesView ty v views buffers) i = .ok lv) (hu : utf8Ok lv = true) :
    (lv = .null ∧ viewColGet Fixes.all ty v views buffers i = .ok none) ∨
      (∃ b, lv = bytesVal (isUtf8View ty) b ∧ viewColGet Fixes.all ty v views buffers i = .ok (some b)) := by
  unfold decodeAt at h
  unfold viewColGet
  rw [viewGet_all]
  obtain ⟨_, hs⟩ := gate_of_guarded h
  rcases hs with ⟨rfl, hg⟩ | ⟨hp, hg⟩
  · left; rw [hg]; exact ⟨rfl, by split <;> rfl⟩
  · right
    obtain ⟨b, hd, hp⟩ := R.bind_ok_inv hp
    cases hp
    rw [hg, viewBytes_slice, viewSlice, hd]
    refine ⟨b, by cases ty <;> rfl, ?_⟩
    cases ty
    · have hu' : validUtf8 b = true := hu
      simp only [isUtf8View, if_true, asStr, bind, Except.bind, hu', pure, Except.pure]
    · rfl

theorem fsb_get {n : Int} {v : Option Bits} {data : Bytes} {i : Nat} {lv : LVal}
    (h : decodeAt (.fixedSizeBinary n v data) i = .ok lv) (hn : new Fixes.all (.fixedSizeBinary n v data) = .ok ()) :
    (lv = .null ∧ fsbColGet Fixes.all n v data i = .ok none) ∨
      (∃ b, lv = .bin b ∧ fsbColGet Fixes.all n v data i = .ok (some b)) := by
  unfold decodeAt at h
  split at h
  · cases h
  · rename_i hpos
    have e : fsbColGet Fixes.all n v data i = fsbGet Fixes.all n.toNat (data.length / n.toNat) v data i := by
      unfold fsbColGet; rw [fsbNew_of_new hn hpos]; rfl
    rw [e, fsbGet_all]
    obtain ⟨hi, hs⟩ := gate_of_guarded h
    refine hs.imp id fun ⟨hp, hg⟩ => ?_
    cases hp
    have hle : (i + 1) * n.toNat ≤ data.length :=
      Nat.le_trans (Nat.mul_le_mul_right _ hi) (Nat.div_mul_le_self data.length n.toNat)
    exact ⟨_, rfl, by rw [hg, if_pos hle]; rfl⟩

theorem optIsSome_ok {α} {x : R (Option α)} {o : Option α} (h : x = .ok o) : optIsSome x = .ok o.isSome := by
  rw [h]; rfl

/-! ### `deserialize_any` -/

theorem readAny_null {a : Arr} {i : Nat} (hs : isSome Fixes.all a i = .ok false) : readAny Fixes.all a i = .ok .none := by
  unfold readAny; rw [anyAt_of_isSome hs]; rfl

theorem readAny_some {a : Arr} {i : Nat} (hs : isSome Fixes.all a i = .ok true) :
    readAny Fixes.all a i = readAnySome Fixes.all a i := by
  unfold readAny; rw [anyAt_of_isSome hs]; rfl

theorem toD_leafOf (ty : PrimTy) (v : Option Bits) (vals : List Int) (x : Int) :
    toD (.prim ty v vals) (leafOf ty x) = primAny ty x := by
  cases ty <;> simp [leafOf, toD]

theorem prim_case {ty : PrimTy} {v : Option Bits} {vals : List Int} {i : Nat} {lv : LVal}
    (h : decodeAt (.prim ty v vals) i = .ok lv) :
    readAny Fixes.all (.prim ty v vals) i = .ok (toD (.prim ty v vals) lv) := by
  rcases prim_get h with ⟨rfl, hg⟩ | ⟨rfl, hg⟩
  · exact readAny_null (optIsSome_ok hg)
  · rw [readAny_some (a := .prim ty v vals) (optIsSome_ok hg), toD_leafOf]
    simp only [readAnySome, hg]
    rfl

theorem null_case {len i : Nat} {lv : LVal} (h : decodeAt (.null len) i = .ok lv) :
    readAny Fixes.all (.null len) i = .ok (toD (.null len) lv) := by
  obtain ⟨rfl, hg⟩ := null_get h
  refine readAny_null ?_
  simp only [isSome, hg]
  rfl

theorem time_case {ty : TimeTy} {u : TimeUnit} {v : Option Bits} {vals : List Int} {i : Nat} {lv : LVal}
    (h : decodeAt (.time ty u v vals) i = .ok lv) :
    readAny Fixes.all (.time ty u v vals) i = .ok (toD (.time ty u v vals) lv) := by
  rcases time_get h with ⟨rfl, hg⟩ | ⟨rfl, hg⟩
  · exact readAny_null (optIsSome_ok hg)
  · rw [readAny_some (a := .time ty u v vals) (optIsSome_ok hg)]
    simp only [readAnySome, hg]
    rfl

theorem timestamp_case {u : TimeUnit} {tz : Option String} {v : Option Bits} {vals : List Int} {i : Nat} {lv : LVal}
    (h : decodeAt (.timestamp u tz v vals) i = .ok lv) :
    readAny Fixes.all (.timestamp u tz v vals) i = .ok (toD (.timestamp u tz v vals) lv) := by
  rcases timestamp_get h with ⟨rfl, hg⟩ | ⟨rfl, hg⟩
  · exact readAny_null (optIsSome_ok hg)
  · rw [readAny_some (a := .timestamp u tz v vals) (optIsSome_ok hg)]
    simp only [readAnySome, hg]
    rfl

theorem decimal_case {p : Nat} {sc : Int} {v : Option Bits} {vals : List Int} {i : Nat} {lv : LVal}
    (h : decodeAt (.decimal128 p sc v vals) i = .ok lv) :
    readAny Fixes.all (.decimal128 p sc v vals) i = .ok (toD (.decimal128 p sc v vals) lv) := by
  rcases decimal_get h with ⟨rfl, hg⟩ | ⟨rfl, hg⟩
  · exact readAny_null (optIsSome_ok hg)
  · rw [readAny_some (a := .decimal128 p sc v vals) (optIsSome_ok hg)]
    simp only [readAnySome, hg]
    rfl

theorem boolean_case {len : Nat} {v : Option Bits} {vals : Bits} {i : Nat} {lv : LVal}
    (h : decodeAt (.boolean len v vals) i = .ok lv) :
    readAny Fixes.all (.boolean len v vals) i = .ok (toD (.boolean len v vals) lv) := by
  rcases bool_get h with ⟨rfl, hg⟩ | ⟨b, rfl, hg⟩
  · exact readAny_null (optIsSome_ok hg)
  · rw [readAny_some (a := .boolean len v vals) (optIsSome_ok hg)]
    simp only [readAnySome, hg]
    rfl

theorem bytes_case {ty : BytesTy} {v : Option Bits} {offs : List Int} {data : Bytes} {i : Nat} {lv : LVal}
    (h : decodeAt (.bytes ty v offs data) i = .ok lv) (hu : utf8Ok lv = true) :
    readAny Fixes.all (.bytes ty v offs data) i = .ok (toD (.bytes ty v offs data) lv) := by
  rcases bytes_get h hu with ⟨rfl, hg⟩ | ⟨b, rfl, hg⟩
  · exact readAny_null (optIsSome_ok hg)
  · rw [readAny_some (a := .bytes ty v offs data) (optIsSome_ok hg)]
    simp only [readAnySome, hg]
    cases isUtf8Ty ty <;> rfl

theorem view_case {ty : ViewTy} {v : Option Bits} {views : List Nat} {buffers : List Bytes} {i : Nat} {lv : LVal}
    (h : decodeAt (.bytesView ty v views buffers) i = .ok lv) (hu : utf8Ok lv = true) :
    readAny Fixes.all (.bytesView ty v views buffers) i = .ok (toD (.bytesView ty v views buffers) lv) := by
  rcases view_get h hu with ⟨rfl, hg⟩ | ⟨b, rfl, hg⟩
  · exact readAny_null (optIsSome_ok hg)
  · rw [readAny_some (a := .bytesView ty v views buffers) (optIsSome_ok hg)]
    simp only [readAnySome, hg]
    cases isUtf8View ty <;> rfl

theorem fsb_case {n : Int} {v : Option Bits} {data : Bytes} {i : Nat} {lv : LVal}
    (h : decodeAt (.fixedSizeBinary n v data) i = .ok lv) (hn : new Fixes.all (.fixedSizeBinary n v data) = .ok ()) :
    readAny Fixes.all (.fixedSizeBinary n v data) i = .ok (toD (.fixedSizeBinary n v data) lv) := by
  rcases fsb_get h hn with ⟨rfl, hg⟩ | ⟨b, rfl, hg⟩
  · exact readAny_null (optIsSome_ok hg)
  · rw [readAny_some (a := .fixedSizeBinary n v data) (optIsSome_ok hg)]
    simp only [readAnySome, hg]
    rfl

end SaModel.Read
