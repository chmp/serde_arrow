import SaModel.Build.Push
/-
The one walk over the definition of `push`.  A push walks the builder tree; at a node it forwards the value, writes a
null, writes a scalar, refuses the call, or writes one ROW of a nested builder (list, fixed-size list, binary, struct,
map, union) whose children receive pushes in turn.  `PushRowsE` has one clause per row, concluding about the row's `do`
block from what holds of the loops and child pushes inside it; `PushRowsE.push` and its eight siblings then give the
motive at `push` and at every loop.  A computation is taken as a function `Ext → R _` of the external conversions, so
that one clause serves a statement about one run (`fun .. r => .. r ext ..`: panic freedom, which builder annotates an
error) and a statement relating the runs under two `ext`.
A variant value is a union row whose chosen child receives the payload as an ORDINARY value (`IsVariant`): the recursion
is not structural there, which is why it is resolved here once.  What the SUCCESSFUL runs do, with every `bind` and
`ctx` inverted, is derived from this in Lemmas/PushInd.lean (`PushCases`).
-/
namespace SaModel.Build
open SaModel SaModel.Spec

/-- the three serde calls that arrive as `serialize_none` -/
inductive IsUnitLike : SVal → Prop
  | none : IsUnitLike .none
  | unit : IsUnitLike .unit
  | unitStruct (n : String) : IsUnitLike (.unitStruct n)

def B.isList : B → Bool
  | .list _ _ _ _ _ _ => true
  | _ => false

def B.isStruct : B → Bool
  | .struct _ _ _ _ _ _ _ => true
  | _ => false

def B.isMap : B → Bool
  | .map _ _ _ _ _ _ => true
  | _ => false

def B.isUnion : B → Bool
  | .union _ _ _ _ _ => true
  | _ => false

/-- the calls that arrive at `pushScalar`: `bytes` unless the builder is a list, a unit variant unless it is a union -/
inductive IsScalar : B → SVal → Prop
  | bool {b} (x : Bool) : IsScalar b (.bool x)
  | int {b} (t : IntTy) (x : Int) : IsScalar b (.int t x)
  | f32 {b} (x : Nat) : IsScalar b (.f32 x)
  | f64 {b} (x : Nat) : IsScalar b (.f64 x)
  | char {b} (x : Nat) : IsScalar b (.char x)
  | str {b} (x : String) : IsScalar b (.str x)
  | bytes {b} (x : Bytes) : b.isList = false → IsScalar b (.bytes x)
  | unitVariant {b} (n : String) (i : Nat) (vn : String) : b.isUnion = false → IsScalar b (.unitVariant n i vn)

/-- the calls a builder family does not take at all -/
inductive Refused : B → SVal → Prop
  | unit {p x} : IsUnitLike x → Refused (.unknownVariant p) x
  | map {b} (es : SEntries) : b.isStruct = false → b.isMap = false → Refused b (.map es)
  | mapRaw {b} (ops : SMapOps) : b.isStruct = false → b.isMap = false → Refused b (.mapRaw ops)
  | newtypeVariant {b} (n : String) (i : Nat) (vn : String) (v : SVal) : b.isUnion = false →
    Refused b (.newtypeVariant n i vn v)
  | tupleVariant {b} (n : String) (i : Nat) (vn : String) (xs : SVals) : b.isUnion = false →
    Refused b (.tupleVariant n i vn xs)
  | structVariant {b} (n : String) (i : Nat) (vn : String) (fs : SFields) : b.isUnion = false →
    Refused b (.structVariant n i vn fs)

/-- the three calls served by `seqLikeWith`, with the kind passed to it -/
inductive IsSeqLike : SVal → SeqKind → SVals → Prop
  | seq (xs : SVals) : IsSeqLike (.seq xs) .seq xs
  | tuple (xs : SVals) : IsSeqLike (.tuple xs) .tuple xs
  | tupleStruct (n : String) (xs : SVals) : IsSeqLike (.tupleStruct n xs) .tupleStruct xs

/-- a variant value: its index and the value its child builder receives (`serialize_unit`; the tuple-struct / struct calls
of a variant's payload carry the VARIANT's name) -/
inductive IsVariant : SVal → Nat → SVal → Prop
  | unit (n : String) (i : Nat) (vn : String) : IsVariant (.unitVariant n i vn) i .unit
  | newtype (n : String) (i : Nat) (vn : String) (v : SVal) : IsVariant (.newtypeVariant n i vn v) i v
  | tuple (n : String) (i : Nat) (vn : String) (xs : SVals) : IsVariant (.tupleVariant n i vn xs) i (.tupleStruct vn xs)
  | struct (n : String) (i : Nat) (vn : String) (fs : SFields) : IsVariant (.structVariant n i vn fs) i (.record vn fs)

/-- the bytes of a `serialize_bytes` call as the `u8` elements a list builder receives -/
def byteVals : Bytes → SVals
  | [] => .nil
  | x :: rest => .cons (.int .u8 x.toNat) (byteVals rest)

/-- `ListBuilder::serialize_bytes` pushes every byte to the child as a `u8`: the loop of `serialize_seq` over `byteVals` -/
theorem pushByteElems_eq (ext : Ext) (large : Bool) : ∀ (bs : Bytes) (el : B) (offs : List Int),
    pushByteElems ext large el offs bs = pushElems ext large el offs (byteVals bs)
  | [], _, _ => rfl
  | x :: rest, el, offs => by
    simp only [pushByteElems, byteVals, pushElems]
    congr 1; funext offs'
    have : push ext el (.int .u8 x.toNat) = ctx el.ann (pushScalar ext el (.int .u8 x.toNat)) := rfl
    rw [this]
    congr 1; funext el'
    exact pushByteElems_eq ext large rest el' offs'

/-- **a list builder takes `serialize_bytes` as the sequence of its bytes** (all outcomes): the clause `listBytes` of a
walk over `push` is handed the motive at that sequence, and has only to say what the motive makes of the two values -/
theorem push_list_bytes (ext : Ext) (p : String) (large : Bool) (fm : FieldMeta) (v : Validity) (offs : List Int) (el : B)
    (bs : Bytes) :
    push ext (.list p large fm v offs el) (.bytes bs) = push ext (.list p large fm v offs el) (.seq (byteVals bs)) := by
  rw [push, push]
  simp only [seqLikeWith, pushByteElems_eq]

/-- `s` after `SS.element idx` has written `c'` into field `idx` -/
def SS.wrote (s : SS) (idx : Nat) (c' : B) : SS :=
  { s with fields := s.fields.set idx c', seen := s.seen.set idx true, next := idx + 1 }

/-- `s` with the position of the next value reset (what the map-like loops do after every entry) -/
def SS.unkeyed (s : SS) : SS := { s with next := UNKNOWN_KEY }

/-- one clause per row of `push` and per step of its loops; `Q` speaks of `push`, `QEl` of `SS.element`, the others of
the loops -/
structure PushRowsE (Q : B → SVal → (Ext → R B) → Prop) (QEl : SS → Nat → SVal → (Ext → R SS) → Prop)
    (QE : Bool → B → List Int → SVals → (Ext → R (B × List Int)) → Prop) (QC : B → Nat → SVals → (Ext → R (B × Nat)) → Prop)
    (QT : SS → SVals → (Ext → R SS) → Prop) (QF : SS → SFields → (Ext → R SS) → Prop)
    (QSE : SS → SEntries → (Ext → R SS) → Prop) (QSO : SS → SMapOps → (Ext → R SS) → Prop)
    (QME : List Int → B → B → SEntries → (Ext → R (List Int × B × B)) → Prop)
    (QMO : Bool → List Int → B → B → SMapOps → (Ext → R (List Int × B × B)) → Prop) : Prop where
  fwdSome : ∀ {b v}, Q b v (fun e => push e b v) → Q b (.some v) (fun e => push e b v)
  fwdNewtype : ∀ {b n v}, Q b v (fun e => push e b v) → Q b (.newtypeStruct n v) (fun e => push e b v)
  null : ∀ {b x}, IsUnitLike x → Q b x (fun _ => pushNone b)
  /-- the builder family does not take this call at all, whatever `ext` is -/
  refused : ∀ {b x msg}, Refused b x → (∀ e, push e b x = ctx b.ann (fail msg)) → Q b x (fun _ => ctx b.ann (fail msg))
  scalar : ∀ {b x}, IsScalar b x → Q b x (fun e => ctx b.ann (pushScalar e b x))
  seqLike : ∀ {b x k xs}, IsSeqLike x k xs → (∀ large el offs, QE large el offs xs (fun e => pushElems e large el offs xs)) →
    (∀ el c, QC el c xs (fun e => pushCountElems e el c xs)) → (∀ s, QT s xs (fun e => pushTupleElems e s xs)) →
    Q b x (fun e => ctx b.ann (seqLikeWith (fun large el offs => pushElems e large el offs xs)
      (fun el c => pushCountElems e el c xs) (fun s => pushTupleElems e s xs) (u8All xs) b k))
  /-- bytes into a list are the sequence of their `u8`s (`push_list_bytes`): the motive at that sequence is at hand -/
  listBytes : ∀ {p large fm v offs el bs},
    Q (.list p large fm v offs el) (.seq (byteVals bs)) (fun e => push e (.list p large fm v offs el) (.seq (byteVals bs))) →
    Q (.list p large fm v offs el) (.bytes bs) (fun e => ctx (B.list p large fm v offs el).ann (do
      let v' ← setValidity v (offs.length - 1) true
      let offs' ← duplicateLast offs
      let (el', offs'') ← pushByteElems e large el offs' bs
      pure (.list p large fm v' offs'' el')))
  record : ∀ {b n fs}, (∀ s, QF s fs (fun e => pushFields e s fs)) →
    Q b (.record n fs) (fun e => ctx b.ann (recordWith (fun s => pushFields e s fs) b))
  structMap : ∀ {p len v bl cached next seen es}, (∀ s, QSE s es (fun e => pushStructEntries e s es)) →
    Q (.struct p len v bl cached next seen) (.map es) (fun e => ctx (B.struct p len v bl cached next seen).ann
      (recordWith (fun s => pushStructEntries e s.unkeyed es) (.struct p len v bl cached next seen)))
  structMapRaw : ∀ {p len v bl cached next seen ops}, (∀ s, QSO s ops (fun e => pushStructOps e s ops)) →
    Q (.struct p len v bl cached next seen) (.mapRaw ops) (fun e => ctx (B.struct p len v bl cached next seen).ann
      (recordWith (fun s => pushStructOps e s.unkeyed ops) (.struct p len v bl cached next seen)))
  map : ∀ {p mm v offs ks vs es}, (∀ o ks vs, QME o ks vs es (fun e => pushMapEntries e o ks vs es)) →
    Q (.map p mm v offs ks vs) (.map es) (fun e => ctx (B.map p mm v offs ks vs).ann (do
      let v' ← setValidity v (offs.length - 1) true
      let offs' ← duplicateLast offs
      let (offs'', ks', vs') ← pushMapEntries e offs' ks vs es
      pure (.map p mm v' offs'' ks' vs')))
  mapRaw : ∀ {p mm v offs ks vs ops}, (∀ o ks vs, QMO false o ks vs ops (fun e => pushMapOps e false o ks vs ops)) →
    Q (.map p mm v offs ks vs) (.mapRaw ops) (fun e => ctx (B.map p mm v offs ks vs).ann (do
      let v' ← setValidity v (offs.length - 1) true
      let offs' ← duplicateLast offs
      let (offs'', ks', vs') ← pushMapOps e false offs' ks vs ops
      pure (.map p mm v' offs'' ks' vs')))
  union : ∀ {p fs types offs cur x i y}, IsVariant x i y → (∀ c, Q c y (fun e => push e c y)) →
    Q (.union p fs types offs cur) x (fun e => ctx (B.union p fs types offs cur).ann (do
      let (c, types', offs', cur') ← serializeVariant fs types offs cur i
      let c' ← push e c y
      pure (.union p (fs.set i c') types' offs' cur')))
  element : ∀ {s idx x}, (∀ c, Q c x (fun e => push e c x)) → QEl s idx x (fun e => s.element idx (fun c => push e c x))
  elemsNil : ∀ {large el offs}, QE large el offs .nil (fun _ => .ok (el, offs))
  elemsCons : ∀ {large el offs x rest}, Q el x (fun e => push e el x) → (∀ el' o', QE large el' o' rest (fun e => pushElems e large el' o' rest)) →
    QE large el offs (.cons x rest) (fun e => do
      let offs' ← incrementLast true large offs 1
      let el' ← push e el x
      pushElems e large el' offs' rest)
  countNil : ∀ {el c}, QC el c .nil (fun _ => .ok (el, c))
  countCons : ∀ {el c x rest}, Q el x (fun e => push e el x) → (∀ el' c', QC el' c' rest (fun e => pushCountElems e el' c' rest)) →
    QC el c (.cons x rest) (fun e => do
      let el' ← push e el x
      pushCountElems e el' (c + 1) rest)
  tupleNil : ∀ {s}, QT s .nil (fun _ => .ok s)
  tupleCons : ∀ {s : SS} {x rest}, s.next < s.fields.length → QEl s s.next x (fun e => s.element s.next (fun c => push e c x)) →
    (∀ s', QT s' rest (fun e => pushTupleElems e s' rest)) →
    QT s (.cons x rest) (fun e => do
      let s' ← s.element s.next (fun c => push e c x)
      pushTupleElems e s' rest)
  tupleExtra : ∀ {s : SS} {x rest}, ¬ s.next < s.fields.length → QT s rest (fun e => pushTupleElems e s rest) →
    QT s (.cons x rest) (fun e => pushTupleElems e s rest)
  fieldsNil : ∀ {s}, QF s .nil (fun _ => .ok s)
  fieldsCons : ∀ {s : SS} {key al x rest idx cached'},
    lookup s.fields.names s.cached s.next (key, al) = (Option.some idx, cached') →
    QEl { s with cached := cached' } idx x (fun e => SS.element { s with cached := cached' } idx (fun c => push e c x)) →
    (∀ s', QF s' rest (fun e => pushFields e s' rest)) →
    QF s (.cons key al x rest) (fun e => do
      let s' ← SS.element { s with cached := cached' } idx (fun c => push e c x)
      pushFields e s' rest)
  fieldsUnknown : ∀ {s : SS} {key al x rest cached'},
    lookup s.fields.names s.cached s.next (key, al) = (Option.none, cached') →
    QF { s with cached := cached' } rest (fun e => pushFields e { s with cached := cached' } rest) →
    QF s (.cons key al x rest) (fun e => pushFields e { s with cached := cached' } rest)
  entriesNil : ∀ {s}, QSE s .nil (fun _ => .ok s)
  entriesCons : ∀ {s : SS} {k x rest}, (∀ idx, QEl s idx x (fun e => s.element idx (fun c => push e c x))) →
    (∀ s', QSE s' rest (fun e => pushStructEntries e s' rest)) →
    QSE s (.cons k x rest) (fun e => do
      let key ← keyStr k
      match indexOfName s.fields.names key with
      | Option.none => pushStructEntries e s.unkeyed rest
      | Option.some idx => do
        let s' ← s.element idx (fun c => push e c x)
        pushStructEntries e s'.unkeyed rest)
  opsNil : ∀ {s}, QSO s .nil (fun _ => .ok s)
  opsKey : ∀ {s : SS} {k rest}, (∀ s', QSO s' rest (fun e => pushStructOps e s' rest)) →
    QSO s (.key k rest) (fun e => do
      let key ← keyStr k
      pushStructOps e { s with next := (indexOfName s.fields.names key).getD UNKNOWN_KEY } rest)
  opsValue : ∀ {s : SS} {x rest}, s.next ≠ UNKNOWN_KEY → QEl s s.next x (fun e => s.element s.next (fun c => push e c x)) →
    (∀ s', QSO s' rest (fun e => pushStructOps e s' rest)) →
    QSO s (.value x rest) (fun e => do
      let s' ← s.element s.next (fun c => push e c x)
      pushStructOps e s'.unkeyed rest)
  opsValueUnkeyed : ∀ {s : SS} {x rest}, s.next = UNKNOWN_KEY → QSO s.unkeyed rest (fun e => pushStructOps e s.unkeyed rest) →
    QSO s (.value x rest) (fun e => pushStructOps e s.unkeyed rest)
  mapEntriesNil : ∀ {offs ks vs}, QME offs ks vs .nil (fun _ => .ok (offs, ks, vs))
  mapEntriesCons : ∀ {offs ks vs k x rest}, Q ks k (fun e => push e ks k) → Q vs x (fun e => push e vs x) →
    (∀ o ks' vs', QME o ks' vs' rest (fun e => pushMapEntries e o ks' vs' rest)) →
    QME offs ks vs (.cons k x rest) (fun e => do
      let offs' ← incrementLast true false offs 1
      let ks' ← push e ks k
      let vs' ← push e vs x
      pushMapEntries e offs' ks' vs' rest)
  mapOpsNil : ∀ {offs ks vs}, QMO false offs ks vs .nil (fun _ => .ok (offs, ks, vs))
  mapOpsRefused : ∀ {pd offs ks vs ops msg}, QMO pd offs ks vs ops (fun _ => fail msg)
  mapOpsKey : ∀ {offs ks vs k rest}, Q ks k (fun e => push e ks k) → (∀ o ks', QMO true o ks' vs rest (fun e => pushMapOps e true o ks' vs rest)) →
    QMO false offs ks vs (.key k rest) (fun e => do
      let offs' ← incrementLast true false offs 1
      let ks' ← push e ks k
      pushMapOps e true offs' ks' vs rest)
  mapOpsValue : ∀ {offs ks vs x rest}, Q vs x (fun e => push e vs x) →
    (∀ vs', QMO false offs ks vs' rest (fun e => pushMapOps e false offs ks vs' rest)) →
    QMO true offs ks vs (.value x rest) (fun e => do
      let vs' ← push e vs x
      pushMapOps e false offs ks vs' rest)


namespace PushRowsE
variable {Q : B → SVal → (Ext → R B) → Prop} {QEl : SS → Nat → SVal → (Ext → R SS) → Prop}
  {QE : Bool → B → List Int → SVals → (Ext → R (B × List Int)) → Prop} {QC : B → Nat → SVals → (Ext → R (B × Nat)) → Prop}
  {QT : SS → SVals → (Ext → R SS) → Prop} {QF : SS → SFields → (Ext → R SS) → Prop}
  {QSE : SS → SEntries → (Ext → R SS) → Prop} {QSO : SS → SMapOps → (Ext → R SS) → Prop}
  {QME : List Int → B → B → SEntries → (Ext → R (List Int × B × B)) → Prop}
  {QMO : Bool → List Int → B → B → SMapOps → (Ext → R (List Int × B × B)) → Prop}

theorem of_eq {α} {M : (Ext → R α) → Prop} {f g : Ext → R α} (h : ∀ e, g e = f e) (hf : M f) : M g :=
  (funext h : g = f) ▸ hf

variable (H : PushRowsE Q QEl QE QC QT QF QSE QSO QME QMO)
include H

theorem refused' {b : B} {x : SVal} {msg : String} (hr : Refused b x) (h : ∀ e, Build.push e b x = ctx b.ann (fail msg)) :
    Q b x (fun e => Build.push e b x) := of_eq h (H.refused hr h)

theorem push_unit (c : B) : Q c .unit (fun e => Build.push e c .unit) := by
  cases c with
  | unknownVariant p => exact H.refused' (.unit .unit) (fun e => rfl)
  | _ => exact H.null .unit

/-- the motive at a sequence of bytes: its elements are scalar calls (the walk below cannot descend into `byteVals bs`,
which is no part of `.bytes bs`) -/
theorem push_scalars (bs : Bytes) (b : B) : Q b (.seq (byteVals bs)) (fun e => Build.push e b (.seq (byteVals bs))) := by
  have hE : ∀ (bs : Bytes) (large : Bool) (el : B) (offs : List Int),
      QE large el offs (byteVals bs) (fun e => pushElems e large el offs (byteVals bs)) := by
    intro bs
    induction bs with
    | nil => intro _ _ _; exact H.elemsNil
    | cons x rest ih => intro large el _; exact H.elemsCons (H.scalar (.int .u8 x.toNat)) (ih large)
  have hC : ∀ (bs : Bytes) (el : B) (c : Nat), QC el c (byteVals bs) (fun e => pushCountElems e el c (byteVals bs)) := by
    intro bs
    induction bs with
    | nil => intro _ _; exact H.countNil
    | cons x rest ih => intro el _; exact H.countCons (H.scalar (.int .u8 x.toNat)) ih
  have hT : ∀ (bs : Bytes) (s : SS), QT s (byteVals bs) (fun e => pushTupleElems e s (byteVals bs)) := by
    intro bs
    induction bs with
    | nil => intro _; exact H.tupleNil
    | cons x rest ih =>
      intro s
      by_cases hlt : s.next < s.fields.length
      · exact of_eq (fun e => by rw [byteVals, pushTupleElems, if_pos hlt])
          (H.tupleCons hlt (H.element (fun c => H.scalar (.int .u8 x.toNat))) ih)
      · exact of_eq (fun e => by rw [byteVals, pushTupleElems, if_neg hlt]) (H.tupleExtra hlt (ih s))
  exact H.seqLike (.seq _) (hE bs) (hC bs) (hT bs)

mutual
theorem push : ∀ (x : SVal) (b : B), Q b x (fun e => Build.push e b x)
  | .some v, b => H.fwdSome (push v b)
  | .newtypeStruct _ v, b => H.fwdNewtype (push v b)
  | .none, b => H.null .none
  | .unit, b => H.push_unit b
  | .unitStruct n, b => by
    cases b with
    | unknownVariant p => exact H.refused' (.unit (.unitStruct n)) (fun e => rfl)
    | _ => exact H.null (.unitStruct n)
  | .seq xs, b => H.seqLike (.seq xs) (elems xs) (count xs) (tuple xs)
  | .tuple xs, b => H.seqLike (.tuple xs) (elems xs) (count xs) (tuple xs)
  | .tupleStruct n xs, b =>
    H.seqLike (.tupleStruct n xs) (elems xs) (count xs) (tuple xs)
  | .record n fs, b => H.record (fields fs)
  | .map es, b => by
    cases b with
    | struct p len v bl cached next seen => exact H.structMap (structEntries es)
    | map p mm v offs ks vs => exact H.map (mapEntries es)
    | _ => exact H.refused' (.map es rfl rfl) (fun e => rfl)
  | .mapRaw ops, b => by
    cases b with
    | struct p len v bl cached next seen => exact H.structMapRaw (structOps ops)
    | map p mm v offs ks vs => exact H.mapRaw (mapOps ops false)
    | _ => exact H.refused' (.mapRaw ops rfl rfl) (fun e => rfl)
  | .unitVariant n i vn, b => by
    cases b with
    | union p fs types offs cur =>
      exact H.union (.unit n i vn) (fun c => H.push_unit c)
    | _ => exact H.scalar (.unitVariant n i vn rfl)
  | .bytes bs, b => by
    cases b with
    | list p large fm v offs el => exact H.listBytes (H.push_scalars bs _)
    | _ => exact H.scalar (.bytes bs rfl)
  | .bool x, b => H.scalar (.bool x)
  | .int t x, b => H.scalar (.int t x)
  | .f32 x, b => H.scalar (.f32 x)
  | .f64 x, b => H.scalar (.f64 x)
  | .char x, b => H.scalar (.char x)
  | .str x, b => H.scalar (.str x)
  | .newtypeVariant n i vn v, b => by
    cases b with
    | union p fs types offs cur => exact H.union (.newtype n i vn v) (push v)
    | bytes _ ty _ _ _ => cases ty <;> exact H.refused' (.newtypeVariant n i vn v rfl) (fun e => rfl)
    | bytesView _ ty _ _ _ => cases ty <;> exact H.refused' (.newtypeVariant n i vn v rfl) (fun e => rfl)
    | _ => exact H.refused' (.newtypeVariant n i vn v rfl) (fun e => rfl)
  | .tupleVariant n i vn xs, b => by
    cases b with
    | union p fs types offs cur =>
      exact H.union (.tuple n i vn xs)
        (fun c => H.seqLike (.tupleStruct vn xs) (elems xs) (count xs) (tuple xs))
    | bytes _ ty _ _ _ => cases ty <;> exact H.refused' (.tupleVariant n i vn xs rfl) (fun e => rfl)
    | bytesView _ ty _ _ _ => cases ty <;> exact H.refused' (.tupleVariant n i vn xs rfl) (fun e => rfl)
    | _ => exact H.refused' (.tupleVariant n i vn xs rfl) (fun e => rfl)
  | .structVariant n i vn fs, b => by
    cases b with
    | union p bl types offs cur =>
      exact H.union (.struct n i vn fs)
        (fun c => H.record (fields fs))
    | bytes _ ty _ _ _ => cases ty <;> exact H.refused' (.structVariant n i vn fs rfl) (fun e => rfl)
    | bytesView _ ty _ _ _ => cases ty <;> exact H.refused' (.structVariant n i vn fs rfl) (fun e => rfl)
    | _ => exact H.refused' (.structVariant n i vn fs rfl) (fun e => rfl)

theorem elems : ∀ (xs : SVals) (large : Bool) (el : B) (offs : List Int),
    QE large el offs xs (fun e => pushElems e large el offs xs)
  | .nil, _, _, _ => H.elemsNil
  | .cons x rest, large, el, _ => H.elemsCons (push x el) (elems rest large)

theorem count : ∀ (xs : SVals) (el : B) (c : Nat), QC el c xs (fun e => pushCountElems e el c xs)
  | .nil, _, _ => H.countNil
  | .cons x rest, el, _ => H.countCons (push x el) (count rest)

theorem tuple : ∀ (xs : SVals) (s : SS), QT s xs (fun e => pushTupleElems e s xs)
  | .nil, _ => H.tupleNil
  | .cons x rest, s => by
    by_cases hlt : s.next < s.fields.length
    · exact of_eq (fun e => by rw [pushTupleElems, if_pos hlt]) (H.tupleCons hlt (H.element (push x)) (tuple rest))
    · exact of_eq (fun e => by rw [pushTupleElems, if_neg hlt]) (H.tupleExtra hlt (tuple rest s))

theorem fields : ∀ (fs : SFields) (s : SS), QF s fs (fun e => pushFields e s fs)
  | .nil, _ => H.fieldsNil
  | .cons key al x rest, s => by
    rcases hl : lookup s.fields.names s.cached s.next (key, al) with ⟨_ | idx, cached'⟩
    · exact of_eq (fun e => by rw [pushFields, hl]) (H.fieldsUnknown hl (fields rest _))
    · exact of_eq (fun e => by rw [pushFields, hl]) (H.fieldsCons hl (H.element (push x)) (fields rest))

theorem structEntries : ∀ (es : SEntries) (s : SS), QSE s es (fun e => pushStructEntries e s es)
  | .nil, _ => H.entriesNil
  | .cons _ x rest, _ =>
    H.entriesCons (fun _ => H.element (push x)) (structEntries rest)

theorem structOps : ∀ (ops : SMapOps) (s : SS), QSO s ops (fun e => pushStructOps e s ops)
  | .nil, _ => H.opsNil
  | .key _ rest, _ => H.opsKey (structOps rest)
  | .value x rest, s => by
    by_cases hn : s.next = UNKNOWN_KEY
    · exact of_eq (fun e => by rw [pushStructOps, if_neg (by simpa using hn)]; rfl) (H.opsValueUnkeyed hn (structOps rest _))
    · exact of_eq (fun e => by rw [pushStructOps, if_pos (by simpa using hn)]; rfl)
        (H.opsValue hn (H.element (push x)) (structOps rest))

theorem mapEntries : ∀ (es : SEntries) (offs : List Int) (ks vs : B),
    QME offs ks vs es (fun e => pushMapEntries e offs ks vs es)
  | .nil, _, _, _ => H.mapEntriesNil
  | .cons k x rest, _, ks, vs =>
    H.mapEntriesCons (push k ks) (push x vs) (mapEntries rest)

theorem mapOps : ∀ (ops : SMapOps) (pd : Bool) (offs : List Int) (ks vs : B),
    QMO pd offs ks vs ops (fun e => pushMapOps e pd offs ks vs ops)
  | .nil, true, _, _, _ => H.mapOpsRefused
  | .nil, false, _, _, _ => H.mapOpsNil
  | .key _ _, true, _, _, _ => H.mapOpsRefused
  | .key k rest, false, _, ks, vs =>
    H.mapOpsKey (push k ks) (fun o ks' => mapOps rest true o ks' vs)
  | .value _ _, false, _, _, _ => H.mapOpsRefused
  | .value x rest, true, offs, ks, vs =>
    H.mapOpsValue (push x vs) (fun vs' => mapOps rest false offs ks vs')
end

end PushRowsE


end SaModel.Build
