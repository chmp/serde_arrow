import SaModel.Lemmas.C03LR
import SaModel.Lemmas.C01MapOps
import SaModel.Lemmas.C01DefaultAt
import SaModel.Lemmas.OpsInd
import SaModel.Props.C11Front
/-
Invariants of the builder tree that speak about one node at a time.

`PX` (offsets, UTF-8, view descriptors), `LR` (leaf values in range) and the counting invariant `Cnt` have the same shape: a
clause for the values of a leaf, the offsets and data of a bytes builder, the descriptors of a view builder, the offsets of
a list / map, the bookkeeping of a dictionary and of a union, and "the same for every child".  `All I` is that shape for
arbitrary clauses `I : NodeInv`, and `Keeps G I` / `KeepsPush ext W G I` list the elementary writes of the builders the clauses
have to survive.  `G` is a guard: under `G` the walked builder is `Safe` (`DefSafe` for `serialize_default`), so the placeholders
of a dictionary go to a NULLABLE key builder; `PX`, `LR`, `Cnt` ask nothing (`G = False`), the strict dictionary clause of
Lemmas/C01Strict.lean takes `G = True`.  The walk over `serialize_default`, `serialize_none`, the scalar calls (here) and the whole `push` block
(`push_All`, Lemmas/C03AllPush.lean) is done once; Lemmas/C03PXPush.lean, Lemmas/C03LRPush.lean and Lemmas/C03PhysCnt.lean
instantiate it.
-/
namespace SaModel.Lemmas.C03
open SaModel SaModel.Build SaModel.Spec

structure NodeInv where
  leaf : LeafKind → List Int → Prop
  bytes : BytesTy → List Int → Bytes → Prop
  view : ViewTy → List Nat → Bytes → Prop
  /-- the offsets of a list (`large`) or map (`false`) -/
  offs : Bool → List Int → Prop
  /-- a dictionary (key builder, index), given what holds of its key and value builders -/
  dict : Prop → Prop → B → List String → Prop
  /-- a union (`types`, `current_offset`), given what holds of its children -/
  union : Prop → List Int → List Int → Prop

mutual
def All (I : NodeInv) : B → Prop
  | .leaf _ k _ vals => I.leaf k vals
  | .bytes _ ty _ offs data => I.bytes ty offs data
  | .bytesView _ ty _ views buf => I.view ty views buf
  | .list _ large _ _ offs el => I.offs large offs ∧ All I el
  | .fixedSizeList _ _ _ _ _ _ el => All I el
  | .map _ _ _ offs ks vs => I.offs false offs ∧ All I ks ∧ All I vs
  | .struct _ _ _ fs _ _ _ => AllL I fs
  | .dictionary _ idx vals index => I.dict (All I idx) (All I vals) idx index
  | .union _ fs types _ cur => I.union (AllL I fs) types cur
  | _ => True
def AllL (I : NodeInv) : BL → Prop
  | .nil => True
  | .cons b _ r => All I b ∧ AllL I r
end

/-- the clauses of `I` survive the elementary writes that do not look at a pushed value -/
structure Keeps (G : Prop) (I : NodeInv) : Prop where
  /-- a null or placeholder slot of a leaf -/
  leaf_zero : ∀ {k vals}, I.leaf k vals → I.leaf k (vals ++ [0])
  /-- a new last offset `bs.length` beyond the old one, checked against the offset type unless `bs` is empty; strings
  arrive as `&str` -/
  bytes_chunk : ∀ {ty offs data l} {bs : Bytes}, offs.getLast? = some l →
    (bs.length ≠ 0 → l + (bs.length : Int) ≤ offMax (isLargeTy ty)) → (isUtf8Ty ty = true → validUtf8 bs = true) →
    I.bytes ty offs data → I.bytes ty (offs ++ [l + (bs.length : Int)]) (data ++ bs)
  /-- one more descriptor: inline, or out of line at the end of the buffer -/
  view_push : ∀ {ty views buf value} {r : List Nat × Bytes}, (ty = .utf8View → validUtf8 value = true) →
    ((r = (views ++ [packInline value], buf) ∧ value.length ≤ 12) ∨
      (r = (views ++ [packExtern value 0 buf.length], buf ++ value) ∧ 12 < value.length)) →
    I.view ty views buf → I.view ty r.1 r.2
  offs_dup : ∀ {large offs offs'}, duplicateLast offs = .ok offs' → I.offs large offs → I.offs large offs'
  offs_inc : ∀ {c large offs offs' n}, incrementLast c large offs n = .ok offs' → I.offs large offs → I.offs large offs'
  /-- placeholder / null slots of a dictionary go to its key builder -/
  dict_default : ∀ {pk pk' pv : Prop} {idx idx' index k}, (G → idx.isNullable = true) → (pk → pk') →
    pushDefaultK idx k = .ok idx' → I.dict pk pv idx index → I.dict pk' pv idx' index
  /-- `k` placeholder rows of a union are `k` rows of variant `j` -/
  union_default : ∀ {pf pf' : Prop} {types cur} {j k : Nat}, (pf → pf') → I.union pf types cur →
    I.union pf' (types ++ List.replicate k (j : Int)) (cur.set j (cur.getD j 0 + (k : Int)))

/-- `Keeps`, and the leaf clause survives a scalar call.  `W` stands for what is known about the pushed values: the leaf
clause may use `ScalarOK` of the call only under `W` (`LR` takes `W = True`, and `push_All` then asks for `SValOK x`;
`PX` takes `W = False` and asks nothing of `x`). -/
structure KeepsPush (ext : Ext) (W G : Prop) (I : NodeInv) : Prop extends Keeps G I where
  leaf_conv : ∀ {k x v vals}, (W → ScalarOK x) → convLeaf ext k x = .ok v → I.leaf k vals → I.leaf k (vals ++ [v])
  /-- a string that is in the index already: its position goes to the key builder -/
  dict_old : ∀ {pk pk' pv : Prop} {idx idx' index} {i : Nat}, (pk → pk') → pushScalar ext idx (.int .u64 i) = .ok idx' →
    i < index.length → I.dict pk pv idx index → I.dict pk' pv idx' index
  /-- a new string: appended to the values and the index, its position goes to the key builder -/
  dict_new : ∀ {pk pk' pv pv' : Prop} {idx idx' index s}, (pk → pk') → (pv → pv') →
    pushScalar ext idx (.int .u64 index.length) = .ok idx' → I.dict pk pv idx index → I.dict pk' pv' idx' (index ++ [s])
  /-- one row of variant `i` of a union -/
  union_row : ∀ {pf pf' : Prop} {types cur} {i : Nat} {co : Int}, (pf → pf') → cur[i]? = some co → I.union pf types cur →
    I.union pf' (types ++ [(i : Int)]) (cur.set i (co + 1))

variable {ext : Ext} {W G : Prop} {I : NodeInv}

theorem AllL_get : ∀ (fs : BL) (i : Nat) (c : B) (m : FieldMeta), fs.get? i = some (c, m) → AllL I fs → All I c
  | .nil, _, _, _, h, _ => by simp [BL.get?] at h
  | .cons b m r, 0, c, _, h, hp => by
    simp only [BL.get?, Option.some.injEq, Prod.mk.injEq] at h
    obtain ⟨rfl, _⟩ := h
    exact hp.1
  | .cons _ _ r, i + 1, c, m', h, hp => AllL_get r i c m' h hp.2

theorem AllL_set : ∀ (fs : BL) (i : Nat) (c' : B), All I c' → AllL I fs → AllL I (fs.set i c')
  | .nil, _, _, _, _ => trivial
  | .cons _ _ _, 0, _, hc, hp => ⟨hc, hp.2⟩
  | .cons _ _ r, i + 1, c', hc, hp => ⟨hp.1, AllL_set r i c' hc hp.2⟩

theorem Keeps.bytes_dup (hk : Keeps G I) {ty : BytesTy} {offs offs' : List Int} {data : Bytes}
    (hd : duplicateLast offs = .ok offs') (h : I.bytes ty offs data) : I.bytes ty offs' data := by
  obtain ⟨l, hl, rfl⟩ := duplicateLast_ok hd
  simpa using hk.bytes_chunk (bs := []) hl (fun h => absurd rfl h) (fun _ => rfl) h

theorem Keeps.view_default (hk : Keeps G I) {ty : ViewTy} {views : List Nat} {buf : Bytes} (h : I.view ty views buf) :
    I.view ty (views ++ [packInline []]) buf :=
  hk.view_push (value := []) (fun _ => rfl) (.inl ⟨rfl, by decide⟩) h

/-- the `k` placeholder slots of a list / map / bytes builder: `duplicate_last` `k` times -/
theorem iter_dup_inv (P : List Int → Prop) (hdup : ∀ offs offs', duplicateLast offs = .ok offs' → P offs → P offs')
    (k : Nat) (v v' : Validity) (offs offs' : List Int)
    (h : iter k (fun (s : Validity × List Int) => do
      let o ← duplicateLast s.2
      pure (setValidityDefault s.1 (s.2.length - 1), o)) (v, offs) = .ok (v', offs'))
    (hp : P offs) : P offs' := by
  refine iter_inv (fun s => P s.2) _ ?_ k (v, offs) (v', offs') h hp
  intro a a' ha hpa
  obtain ⟨o, ho, hr⟩ := (bind_ok _ _ _).1 ha
  cases hr
  exact hdup _ _ ho hpa

/-- `duplicate_last` followed by `increment_last(n)`: the new last offset is `old last + n` -/
theorem dup_inc {c large : Bool} {offs o1 o2 : List Int} {n : Nat} (h1 : duplicateLast offs = .ok o1)
    (h2 : incrementLast c large o1 n = .ok o2) :
    ∃ l, offs.getLast? = some l ∧ o2 = offs ++ [l + (n : Int)] ∧ l + (n : Int) ≤ offMax large := by
  obtain ⟨l, hl, rfl⟩ := duplicateLast_ok h1
  obtain ⟨l', hl', rfl, hle⟩ := incrementLast_ok h2
  simp only [List.getLast?_append, List.getLast?_singleton, Option.some_or, Option.some.injEq] at hl'
  subst hl'
  exact ⟨l, hl, by rw [dropLast_snoc], hle⟩

theorem All_default (hk : Keeps G I) : DefaultCases (fun b _ b' => (G → DefSafe b) → All I b → All I b')
    (fun fs _ fs' => (G → DefSafeL fs) → AllL I fs → AllL I fs') where
  defNull _ _ := trivial
  defUnknown _ _ := trivial
  defLeaf := @fun _ kind _ _ _ _ _ h _ hp =>
    iter_inv (fun (s : Validity × List Int) => I.leaf kind s.2) _ (fun a a' ha hpa => by cases ha; exact hk.leaf_zero hpa) _ _ _ h hp
  defBytes h _ hp := iter_dup_inv (I.bytes _ · _) (fun _ _ => hk.bytes_dup) _ _ _ _ _ h hp
  defView := @fun _ ty _ _ buf _ _ _ h _ hp =>
    iter_inv (fun (s : Validity × List Nat) => I.view ty s.2 buf) _ (fun a a' ha hpa => by cases ha; exact hk.view_default hpa) _ _ _ h hp
  defFixedSizeBinary _ _ _ := trivial
  defList h _ hp := ⟨iter_dup_inv (I.offs _) (fun _ _ => hk.offs_dup) _ _ _ _ _ h hp.1, hp.2⟩
  defFixedSizeList _ _ ih hg hp := ih hg hp
  defMap h _ hp := ⟨iter_dup_inv (I.offs false) (fun _ _ => hk.offs_dup) _ _ _ _ _ h hp.1, hp.2⟩
  defStruct _ _ ih hg hp := ih hg hp
  defDict h ih hg hp := hk.dict_default (fun g => (hg g).1) (ih fun g => (hg g).2) h hp
  defUnionNil _ hp := hp
  defUnion hget _ _ ih hg hp :=
    hk.union_default (fun hfs => AllL_set _ _ _
      (ih (fun g => DefSafeFirst_get _ _ _ (hg g) hget) (AllL_get _ _ _ _ hget hfs)) hfs) hp
  allNil _ _ := trivial
  allCons _ ih _ ihr hg hp := ⟨ih (fun g => (hg g).1) hp.1, ihr (fun g => (hg g).2) hp.2⟩

theorem pushDefaultK_All (hk : Keeps G I) : ∀ (b : B) (k : Nat) (b' : B), (G → DefSafe b) → pushDefaultK b k = .ok b' →
    All I b → All I b' :=
  fun b k b' hg h => (All_default hk).default b k b' h hg

theorem pushDefaultKAt_All (hk : Keeps G I) : ∀ (fs : BL) (j k : Nat) (fs' : BL),
    (G → ∀ c m, fs.get? j = some (c, m) → DefSafe c) → pushDefaultKAt fs j k = .ok fs' → AllL I fs → AllL I fs' := by
  intro fs j k fs' hg h hp
  cases hget : fs.get? j with
  | none => rw [pushDefaultKAt_none fs j k hget] at h; cases h; exact hp
  | some cm =>
    rw [pushDefaultKAt_eq fs j k cm.1 cm.2 hget] at h
    obtain ⟨c', h1, h2⟩ := R.bind_ok_inv h
    cases h2
    exact AllL_set _ _ _ (pushDefaultK_All hk _ k c' (fun g => hg g _ _ hget) h1 (AllL_get _ _ _ _ hget hp)) hp

theorem pushNone_All (hk : Keeps G I) : ∀ (b : B) (b' : B), (G → Safe b) → pushNone b = .ok b' → All I b → All I b' :=
  fun b b' hg h =>
    have ⟨hn, hd⟩ := pushNone_ok_iff.1 h
    pushDefaultK_All hk b 1 b' (fun g => (hg g).defSafe hn) hd

/-- a string builder stores a `&str` -/
theorem ScalarBytes.utf8 {ext : Ext} {utf8 : Bool} {x : SVal} {bs : Bytes} (hu : utf8 = true)
    (h : ScalarBytes ext utf8 x bs) : validUtf8 bs = true := by
  subst hu
  obtain ⟨s, _, rfl⟩ := h
  exact Lemmas.Utf8.validUtf8_strBytes s

theorem All_scalar (hk : KeepsPush ext W G I) : ScalarCases ext (fun b x b' => (W → ScalarOK x) → All I b → All I b') where
  null _ _ := trivial
  leaf hc _ hx hp := hk.leaf_conv hx hc hp
  bytes hbs _ h5 h7 _ hp := by
    obtain ⟨l, hl, rfl, hle⟩ := dup_inc h5 h7
    exact hk.bytes_chunk hl (fun _ => hle) (fun hty => ScalarBytes.utf8 hty hbs) hp
  view hbs hvp _ _ hp :=
    hk.view_push (fun hty => ScalarBytes.utf8 (by rw [hty]; rfl) hbs) (viewPushValue_cases hvp) hp
  fixedSizeBinary _ _ _ _ := trivial
  dictOld _ hi h1 ih _ hp :=
    hk.dict_old (ih fun _ => .inl rfl) h1 (indexOfName_lt hi) hp
  dictNew _ _ _ ihv h3 ihk _ hp := hk.dict_new (ihk fun _ => .inl rfl) (ihv fun _ => trivial) h3 hp

theorem pushScalar_All (hk : KeepsPush ext W G I) : ∀ (b : B) (x : SVal) (b' : B), (W → ScalarOK x) →
    pushScalar ext b x = .ok b' → All I b → All I b' :=
  fun b x b' hx h => (All_scalar hk).scalar b x b' h hx

end SaModel.Lemmas.C03
