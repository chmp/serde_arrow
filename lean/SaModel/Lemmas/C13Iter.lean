import SaModel.Read.AccessVal
import SaModel.Props.C13
/-
C13 helpers, index level: closed forms of `Iter.step` iterated (`nexts`), of the provided methods `nth` / `rest`
(std's `advance_by` + `next`; `next` until `None`), and of the fuelled `drain` for every fuel; at the end what `nth` /
`rest` do to the call count an iterator stands for (`RelIt`).
-/
namespace SaModel.Lemmas.C13Iter
open SaModel SaModel.Access

theorem step_lt (it : Iter) (h : it.next < it.len) : it.step = (some it.next, { it with next := it.next + 1 }) := by
  have : ¬ it.next ≥ it.len := by omega
  simp only [Iter.step, this, if_false]

theorem step_ge (it : Iter) (h : it.next ≥ it.len) : it.step = (none, it) := by
  simp only [Iter.step, h, if_true]

/-! ### `drain`: the fuel is irrelevant once it covers what remains, and never adds an item -/

theorem drain_ge (fuel : Nat) (it : Iter) (h : it.next ≥ it.len) : it.drain fuel = [] := by
  cases fuel with
  | zero => rfl
  | succ f => simp only [Iter.drain, step_ge it h]

theorem drain_fuel (fuel : Nat) : ∀ (it : Iter), it.len - it.next ≤ fuel →
    it.drain fuel = List.range' it.next (it.len - it.next) := by
  induction fuel with
  | zero =>
    intro it h
    have : it.len - it.next = 0 := by omega
    rw [this]; rfl
  | succ f ih =>
    intro it h
    by_cases hlt : it.next < it.len
    · simp only [Iter.drain, step_lt it hlt]
      rw [ih { it with next := it.next + 1 } (by simp only; omega)]
      have : it.len - it.next = (it.len - (it.next + 1)) + 1 := by omega
      rw [this, List.range'_succ]
    · rw [drain_ge _ it (by omega)]
      have : it.len - it.next = 0 := by omega
      rw [this]; rfl

theorem drain_length_le (fuel : Nat) : ∀ (it : Iter), (it.drain fuel).length ≤ it.len - it.next := by
  induction fuel with
  | zero => intro it; simp [Iter.drain]
  | succ f ih =>
    intro it
    by_cases hlt : it.next < it.len
    · simp only [Iter.drain, step_lt it hlt, List.length_cons]
      have := ih { it with next := it.next + 1 }
      simp only at this
      omega
    · rw [drain_ge _ it (by omega)]; simp

/-! ### `rest`: `next` until `None`, no fuel -/

theorem rest_eq (n : Nat) : ∀ (it : Iter), it.len - it.next = n →
    it.rest = (List.range' it.next n, { it with next := max it.next it.len }) := by
  induction n with
  | zero =>
    intro it h
    have hge : it.next ≥ it.len := by omega
    rw [Iter.rest]
    simp only [hge, dite_true, List.range'_zero]
    have : max it.next it.len = it.next := by omega
    rw [this]
  | succ n ih =>
    intro it h
    have hlt : ¬ it.next ≥ it.len := by omega
    rw [Iter.rest]
    simp only [hlt, dite_false]
    rw [ih { it with next := it.next + 1 } (by simp only; omega)]
    simp only [List.range'_succ]
    have : max (it.next + 1) it.len = max it.next it.len := by omega
    rw [this]

theorem rest_fst (it : Iter) : it.rest.1 = List.range' it.next (it.len - it.next) := by
  rw [rest_eq _ it rfl]

theorem rest_snd (it : Iter) : it.rest.2 = { it with next := max it.next it.len } := by
  rw [rest_eq _ it rfl]

/-! ### `nexts`: `n` calls of `next`, all results -/

theorem nexts_ge (n : Nat) : ∀ (it : Iter), it.next ≥ it.len → it.nexts n = (List.replicate n none, it) := by
  induction n with
  | zero => intro it _; rfl
  | succ n ih =>
    intro it h
    simp only [Iter.nexts, step_ge it h, ih it h, List.replicate_succ]

theorem nexts_eq (n : Nat) : ∀ (it : Iter),
    it.nexts n = ((List.range' it.next (min n (it.len - it.next))).map some ++ List.replicate (n - (it.len - it.next)) none,
      { it with next := if it.next ≥ it.len then it.next else min (it.next + n) it.len }) := by
  induction n with
  | zero =>
    intro it
    simp only [Iter.nexts, Nat.zero_min, List.range'_zero, List.map_nil, Nat.zero_sub, List.replicate_zero,
      List.append_nil, Nat.add_zero]
    by_cases h : it.next ≥ it.len
    · simp only [h, if_true]
    · simp only [h, if_false]
      have : min it.next it.len = it.next := by omega
      rw [this]
  | succ n ih =>
    intro it
    by_cases hlt : it.next < it.len
    · simp only [Iter.nexts, step_lt it hlt]
      rw [ih { it with next := it.next + 1 }]
      have h1 : min (n + 1) (it.len - it.next) = min n (it.len - (it.next + 1)) + 1 := by omega
      have h2 : n + 1 - (it.len - it.next) = n - (it.len - (it.next + 1)) := by omega
      have h3 : ¬ it.next ≥ it.len := by omega
      simp only [h1, h2, List.range'_succ, List.map_cons, List.cons_append, h3, if_false]
      by_cases h4 : it.next + 1 ≥ it.len
      · simp only [h4, if_true]
        have : min (it.next + (n + 1)) it.len = it.next + 1 := by omega
        rw [this]
      · simp only [h4, if_false]
        have : it.next + 1 + n = it.next + (n + 1) := by omega
        rw [this]
    · have hge : it.next ≥ it.len := by omega
      rw [nexts_ge _ it hge]
      have h1 : it.len - it.next = 0 := by omega
      simp only [h1, Nat.min_zero, List.range'_zero, List.map_nil, List.nil_append, Nat.sub_zero, hge, if_true]

/-! ### `nth`: std's default body -/

theorem nth_ge (n : Nat) (it : Iter) (h : it.next ≥ it.len) : it.nth n = (none, it) := by
  cases n with
  | zero => simp only [Iter.nth, step_ge it h]
  | succ n => simp only [Iter.nth, step_ge it h]

theorem nth_eq (n : Nat) : ∀ (it : Iter), it.next ≤ it.len →
    it.nth n = (if it.next + n < it.len then some (it.next + n) else none,
      { it with next := min (it.next + n + 1) it.len }) := by
  induction n with
  | zero =>
    intro it h
    by_cases hlt : it.next < it.len
    · simp only [Iter.nth, step_lt it hlt, Nat.add_zero, hlt, if_true]
      have : min (it.next + 1) it.len = it.next + 1 := by omega
      rw [this]
    · simp only [Iter.nth, step_ge it (by omega), Nat.add_zero, hlt, if_false]
      have : min (it.next + 1) it.len = it.next := by omega
      rw [this]
  | succ n ih =>
    intro it h
    by_cases hlt : it.next < it.len
    · simp only [Iter.nth, step_lt it hlt]
      rw [ih { it with next := it.next + 1 } (by simp only; omega)]
      have e1 : it.next + 1 + n = it.next + (n + 1) := by omega
      simp only [e1]
    · rw [nth_ge _ it (by omega)]
      have h1 : ¬ it.next + (n + 1) < it.len := by omega
      simp only [h1, if_false]
      have : min (it.next + (n + 1) + 1) it.len = it.next := by omega
      rw [this]

end SaModel.Lemmas.C13Iter

namespace SaModel.Props.C13.RelIt
open SaModel SaModel.Access SaModel.Lemmas

variable {len : Nat} {it : Iter} {c : Nat}

/-- `nth(n)` under the abstraction: `n + 1` calls of `next`, of which the last one's item is handed out -/
theorem nth (h : RelIt len it c) (n : Nat) :
    (it.nth n).1 = (if c + n < len then some (c + n) else none) ∧ RelIt len (it.nth n).2 (c + n + 1) := by
  rcases h.cases with ⟨hc, rfl⟩ | ⟨hc, rfl⟩
  · rw [C13Iter.nth_eq n _ (Nat.le_of_lt hc)]
    exact ⟨rfl, rfl, rfl⟩
  · rw [C13Iter.nth_ge n _ (Nat.le_refl _), if_neg (by omega)]
    exact ⟨rfl, exhausted (by omega)⟩

/-- `next` until `None` under the abstraction: `len - c` records, the last of them (if any) `len - 1` (their number and the last
one are what `count` and `last` hand out), and the count ends at `len` or beyond -/
theorem rest (h : RelIt len it c) :
    it.rest.1.length = len - c ∧ it.rest.1.getLast? = (if c < len then some (len - 1) else none) ∧
      RelIt len it.rest.2 (max c len) := by
  rcases h.cases with ⟨hc, rfl⟩ | ⟨hc, rfl⟩
  · rw [C13Iter.rest_fst, C13Iter.rest_snd, if_pos hc, List.length_range']
    refine ⟨rfl, ?_, ?_⟩
    · obtain ⟨m, hm⟩ : ∃ m, len - c = m + 1 := ⟨len - c - 1, by omega⟩
      show (List.range' c (len - c)).getLast? = _
      rw [hm, List.range'_concat, List.getLast?_concat, Nat.one_mul]
      congr 1; omega
    · show RelIt len ⟨len, max c len⟩ (max c len)
      rw [Nat.max_eq_right (Nat.le_of_lt hc)]
      exact exhausted (Nat.le_refl _)
  · rw [C13Iter.rest_fst, C13Iter.rest_snd, if_neg (Nat.not_lt_of_le hc)]
    refine ⟨?_, ?_, ?_⟩
    · show (List.range' len (len - len)).length = _
      rw [Nat.sub_self, Nat.sub_eq_zero_of_le hc]; rfl
    · show (List.range' len (len - len)).getLast? = _
      rw [Nat.sub_self]; rfl
    · show RelIt len ⟨len, max len len⟩ (max c len)
      rw [Nat.max_self, Nat.max_eq_left hc]
      exact exhausted hc

end SaModel.Props.C13.RelIt
