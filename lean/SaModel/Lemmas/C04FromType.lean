import SaModel.Lemmas.C04Trace
import SaModel.Lemmas.C04Mapping
import SaModel.Props.C08
/-
C04: `from_type` SUCCEEDS on every type the documented mapping does not refuse, and returns `mappingFields`.

`mappable o t` is the decidable statement of the documented refusals of the mapping (`Spec.mapping`, no overwrites):
a null-only field (`()`, a unit struct, a unit variant) without `allow_null_fields`; an enum without data with neither
`enums_without_data_as_strings` nor `allow_null_fields`; an enum with more than 128 variants that is traced to a Union.

  spec_mapping       ONE induction along the mapping: (Spec.mapping O name path nl (toTraceTy t)).toOption =
                     if mappable (viewOpts O) t then some ⟨name, dt, nl || nb, md⟩ else none (+ Tys / Fields / Variants); the
                     statements below are its two directions
  mapping_ok / mappingTys_ok / mappingFields_ok / mappingVariants_ok
                     mappable (viewOpts O) t → Spec.mapping O name path nl (toTraceTy t) = ok ⟨name, dt, nl || nb, md⟩
  mapping_mappable   (+ Tys / Fields / Variants) the converse: `Spec.mapping` succeeds ONLY on mappable types (`mappable` is exact)
  mapping_ok_iff     `(∃ f, Spec.mapping … = ok f) ↔ mappable …`
  mapping_eq         (+ Tys / Fields / Variants) the two together: Spec.mapping O name path nl (toTraceTy t) = ok f →
                     f = ⟨name, dt, nl || nb, md⟩ with (dt, nb, md) = mappingDT (viewOpts O) t, ANY type (enums included)
  fromTypeSpec_eq    Spec.fromTypeSpec O (toTraceTy t) = ok fields → mappingRoot (viewOpts O) t = some fields
  fromTypeSpec_ok    walkable, mappable, passes ≤ budget → Spec.fromTypeSpec O (struct n fs) = ok (mappingFields fs).toList
  fromType_ok        the same for the tracer model `Trace.fromType` (through `Props.C08.C08_from_type`)
-/
namespace SaModel.Roundtrip
open SaModel SaModel.Trace

mutual
def mappable (o : TraceOpts) : Ty → Bool
  | .prim _ => true
  | .unit | .unitStruct _ => o.allowNullFields
  | .option t | .newtype _ t | .vec t => mappable o t
  | .map k v => mappable o k && mappable o v
  | .tuple ts | .tupleStruct _ ts => mappableTys o ts
  | .struct _ fs => mappableFields o fs
  | .enum _ vars => (vars.withoutData && o.enumsWithoutDataAsStrings) ||
      ((!vars.withoutData || o.allowNullFields) && decide (vars.length ≤ 128) && mappableVariants o vars)
def mappableTys (o : TraceOpts) : Tys → Bool
  | .nil => true
  | .cons t r => mappable o t && mappableTys o r
def mappableFields (o : TraceOpts) : TFields → Bool
  | .nil => true
  | .cons _ _ t r => mappable o t && mappableFields o r
def mappableVariants (o : TraceOpts) : Variants → Bool
  | .nil => true
  | .cons _ .unit r => o.allowNullFields && mappableVariants o r
  | .cons _ (.newtype t) r => mappable o t && mappableVariants o r
  | .cons _ (.tuple ts) r => mappableTys o ts && mappableVariants o r
  | .cons _ (.struct fs) r => mappableFields o fs && mappableVariants o r
end

theorem ok_bind {α β} (a : α) (f : α → R β) : ((Except.ok a : R α) >>= f) = f a := rfl

/-! ### the documented mapping succeeds exactly on the mappable types, and then returns the field of `mappingDT`

`Spec.mapping` is an `R Field` with the documented refusals, `mappingDT` a total function of the type, `mappable` the decidable
statement of the refusals.  Read as an option, the first is the field of the second if the third holds and nothing otherwise:
one equation, proved along the mapping, from which both directions follow. -/

theorem toOption_ok {α} (a : α) : (Except.ok a : R α).toOption = some a := rfl

theorem ite_some_bind {α β} {c : Prop} [Decidable c] (a : α) (f : α → Option β) :
    (if c then some a else none).bind f = if c then f a else none := by split <;> rfl

theorem ite_ite_and {α} {c d : Prop} [Decidable c] [Decidable d] (x : Option α) :
    (if c then (if d then x else none) else none) = if c ∧ d then x else none := by
  by_cases hc : c <;> by_cases hd : d <;> simp [hc, hd]

theorem ok_iff_of_toOption {α} {c : Prop} [Decidable c] {x : R α} {b : α} (h : x.toOption = if c then some b else none) {a : α} :
    x = .ok a ↔ c ∧ b = a := by
  cases x <;> split at h <;> simp_all [Except.toOption]

theorem toOption_nullField (O : Options) (n : String) :
    (Spec.nullField O n).toOption = if O.allow_null_fields = true then some (.mk n .null true []) else none := by
  unfold Spec.nullField; split <;> rfl

/-- the guard `if i > 127 then fail …` of `Spec.mappingVariants` -/
theorem toOption_guard {β} {i : Nat} {m : String} {k k' : R β} :
    (if i > 127 then ((fail m : R PUnit) >>= fun _ => k') else k).toOption = if i ≤ 127 then k.toOption else none := by
  by_cases h : i > 127
  · rw [if_pos h, if_neg (by omega)]; rfl
  · rw [if_neg h, if_pos (by omega)]

/-- the documented mapping treats a variant as its payload type, under the variant's name -/
theorem mappingVariants_head (O : Options) (path : String) (i : Nat) (vn : String) (v : Variant) (rest : Variants) :
    Spec.mappingVariants O path i (toTraceVariants (.cons vn v rest)) = (do
      if i > 127 then fail "more than 128 variants"
      let f ← Spec.mapping O vn (Spec.childPath path vn) false (toTraceTy (v.payload vn))
      let fs ← Spec.mappingVariants O path (i + 1) (toTraceVariants rest)
      .ok ((Int.ofNat i, f) :: fs)) := by
  cases v <;> simp only [toTraceVariants, Variant.payload, toTraceTy, Spec.mappingVariants, Spec.mapping]

theorem mappableVariants_cons (o : TraceOpts) (vn : String) (v : Variant) (rest : Variants) :
    mappableVariants o (.cons vn v rest) = (mappable o (v.payload vn) && mappableVariants o rest) := by
  cases v <;> simp only [Variant.payload, mappableVariants, mappable]

/-- the type ids of a Union run from `i ≤ 128`; the 129th variant is refused -/
theorem spec_mapping (O : Options) (h0 : O.overwrites = []) : MappingClosed (viewOpts O)
    (fun t dt nb md => ∀ name path nl, (Spec.mapping O name path nl (toTraceTy t)).toOption =
      if mappable (viewOpts O) t = true then some (.mk name dt (nl || nb) md) else none)
    (fun i ts F => ∀ path, (Spec.mappingTys O path i (toTraceTys ts)).toOption =
      if mappableTys (viewOpts O) ts = true then some F.toList else none)
    (fun fs F => ∀ path, (Spec.mappingFields O path (toTraceFields fs)).toOption =
      if mappableFields (viewOpts O) fs = true then some F.toList else none)
    (fun i vars U => ∀ path, i ≤ 128 → (Spec.mappingVariants O path i (toTraceVariants vars)).toOption =
      if mappableVariants (viewOpts O) vars = true ∧ i + vars.length ≤ 128 then some U.toList else none) where
  prim p name path nl := by
    cases p <;> simp only [toTraceTy, primTraceTy, Spec.mapping, overwritten_none O h0, Bool.or_false, primDT, mappable, if_true,
      Except.toOption]
    case str | strRef | cowStr =>
      simp only [Spec.stringField, strDT_view, view_dict]
      split <;> simp [*]
    case int t => cases t <;> rfl
  unit name path nl := by
    simp only [toTraceTy, Spec.mapping, overwritten_none O h0, toOption_nullField, mappable, view_allowNull, Bool.or_true]
  unitStruct n name path nl := by
    simp only [toTraceTy, Spec.mapping, overwritten_none O h0, toOption_nullField, mappable, view_allowNull, Bool.or_true]
  option t dt nb md ih name path nl := by simp only [toTraceTy, Spec.mapping, ih, mappable, Bool.true_or, Bool.or_true]
  newtype n t dt nb md ih name path nl := by simp only [toTraceTy, Spec.mapping, ih]; rfl
  vec t dt nb md ih name path nl := by
    simp only [toTraceTy, Spec.mapping, overwritten_none O h0, R.toOption_bind, ih, mappable, view_large, ite_some_bind, toOption_ok,
      Bool.false_or, Bool.or_false]
    rfl
  tuple ts F ih name path nl := by
    simp only [toTraceTy, Spec.mapping, overwritten_none O h0, R.toOption_bind, ih, mappable, ite_some_bind, toOption_ok,
      fields_ofList_toList, Bool.or_false]
    rfl
  tupleStruct n ts F ih name path nl := by
    simp only [toTraceTy, Spec.mapping, overwritten_none O h0, R.toOption_bind, ih, mappable, ite_some_bind, toOption_ok,
      fields_ofList_toList, Bool.or_false]
    rfl
  struct n fs F ih name path nl := by
    simp only [toTraceTy, Spec.mapping, overwritten_none O h0, R.toOption_bind, ih, mappable, ite_some_bind, toOption_ok,
      fields_ofList_toList, Bool.or_false]
  enumStr n vars hc name path nl := by
    have hc' : (vars.withoutData && O.enums_without_data_as_strings) = true := hc
    simp [toTraceTy, Spec.mapping, overwritten_none O h0, withoutData_trace, hc', mappable, hc, Except.toOption, strDT_view]
  enumUnion n vars U hc ih name path nl := by
    have hc' : ¬ (vars.withoutData && O.enums_without_data_as_strings) = true := hc
    simp only [toTraceTy, Spec.mapping, overwritten_none O h0, withoutData_trace, if_neg hc', mappable, view_allowNull]
    have hstr : (vars.withoutData && (viewOpts O).enumsWithoutDataAsStrings) = false := by simpa using hc
    by_cases hne : (vars.withoutData && !O.allow_null_fields) = true
    · -- an enum without data, neither stored as strings nor allowed as Null children: refused
      simp only [Bool.and_eq_true, Bool.not_eq_true'] at hne
      simp [hne.1, hne.2, fail, Except.toOption]
      simpa [hne.1] using hstr
    · have hna : (!vars.withoutData || O.allow_null_fields) = true := by
        cases hw : vars.withoutData <;> cases ha : O.allow_null_fields <;> simp [hw, ha] at hne ⊢
      rw [if_neg hne, R.toOption_bind, ih path (Nat.zero_le _)]
      by_cases h1 : mappableVariants (viewOpts O) vars = true <;> by_cases h2 : vars.length ≤ 128 <;>
        simp [hstr, hna, h1, h2, Except.toOption, UFields.ofList_toList]
  map k v kdt knb kmd vdt vnb vmd ihk ihv name path nl := by
    simp only [toTraceTy, Spec.mapping, overwritten_none O h0, R.toOption_bind, ihk, ihv, mappable, ite_some_bind, toOption_ok,
      ite_ite_and, Bool.and_eq_true, Bool.false_or, Bool.or_false, Fields.ofList]
  posNil i path := by simp [toTraceTys, Spec.mappingTys, mappableTys, Except.toOption, Fields.toList]
  posCons i t ts dt nb md F ih ihr path := by
    simp only [toTraceTys, Spec.mappingTys, R.toOption_bind, ih, ihr, mappableTys, ite_some_bind, toOption_ok, ite_ite_and,
      Bool.and_eq_true, Bool.false_or, Fields.toList]
    rfl
  fieldsNil path := by simp [toTraceFields, Spec.mappingFields, mappableFields, Except.toOption, Fields.toList]
  fieldsCons n s t fs dt nb md F ih ihr path := by
    simp only [toTraceFields, Spec.mappingFields, R.toOption_bind, ih, ihr, mappableFields, ite_some_bind, toOption_ok, ite_ite_and,
      Bool.and_eq_true, Bool.false_or, Fields.toList]
  variantsNil i path hi := by
    simp [toTraceVariants, Spec.mappingVariants, mappableVariants, Variants.length, Except.toOption, UFields.toList, hi]
  variant i vn v rest dt nb md U ih ihr path hi := by
    rw [mappingVariants_head, toOption_guard, mappableVariants_cons, Variants.length]
    by_cases h127 : i ≤ 127
    · rw [if_pos h127]
      simp only [R.toOption_bind, ih, ihr path (show i + 1 ≤ 128 by omega), ite_some_bind, toOption_ok, ite_ite_and,
        Bool.and_eq_true, Bool.false_or, UFields.toList, show i + (rest.length + 1) = i + 1 + rest.length by omega, and_assoc]
      rfl
    · simp [h127, show ¬ i + (rest.length + 1) ≤ 128 by omega]

theorem mapping_ok (O : Options) (h0 : O.overwrites = []) : ∀ (t : Ty) (name path : String) (nl : Bool)
    (dt : DataType) (nb : Bool) (md : Metadata), mappable (viewOpts O) t = true →
    mappingDT (viewOpts O) t = (dt, nb, md) →
    Spec.mapping O name path nl (toTraceTy t) = .ok (.mk name dt (nl || nb) md) :=
  fun _ name path nl _ _ _ hp hm => (ok_iff_of_toOption ((spec_mapping O h0).mapping' hm name path nl)).mpr ⟨hp, rfl⟩

theorem mappingTys_ok (O : Options) (h0 : O.overwrites = []) : ∀ (ts : Tys) (path : String) (i : Nat),
    mappableTys (viewOpts O) ts = true →
    Spec.mappingTys O path i (toTraceTys ts) = .ok (mappingPos (viewOpts O) i ts).toList :=
  fun ts path i hp => (ok_iff_of_toOption ((spec_mapping O h0).pos i ts path)).mpr ⟨hp, rfl⟩

theorem mappingFields_ok (O : Options) (h0 : O.overwrites = []) : ∀ (fs : TFields) (path : String),
    mappableFields (viewOpts O) fs = true →
    Spec.mappingFields O path (toTraceFields fs) = .ok (mappingFields (viewOpts O) fs).toList :=
  fun fs path hp => (ok_iff_of_toOption ((spec_mapping O h0).fields fs path)).mpr ⟨hp, rfl⟩

theorem mappingVariants_ok (O : Options) (h0 : O.overwrites = []) : ∀ (vars : Variants) (path : String) (i : Nat),
    mappableVariants (viewOpts O) vars = true → i + vars.length ≤ 128 →
    Spec.mappingVariants O path i (toTraceVariants vars) = .ok (mappingVariants (viewOpts O) i vars).toList :=
  fun vars path i hp hl => (ok_iff_of_toOption ((spec_mapping O h0).variants i vars path (by omega))).mpr ⟨⟨hp, hl⟩, rfl⟩

theorem mapping_mappable (O : Options) (h0 : O.overwrites = []) : ∀ (t : Ty) (name path : String) (nl : Bool) (f : Field),
    Spec.mapping O name path nl (toTraceTy t) = .ok f → mappable (viewOpts O) t = true :=
  fun t name path nl _ h => ((ok_iff_of_toOption ((spec_mapping O h0).mapping t name path nl)).mp h).1

theorem mappingTys_mappable (O : Options) (h0 : O.overwrites = []) : ∀ (ts : Tys) (path : String) (i : Nat) (fs : List Field),
    Spec.mappingTys O path i (toTraceTys ts) = .ok fs → mappableTys (viewOpts O) ts = true :=
  fun ts path i _ h => ((ok_iff_of_toOption ((spec_mapping O h0).pos i ts path)).mp h).1

theorem mappingFields_mappable (O : Options) (h0 : O.overwrites = []) : ∀ (fs : TFields) (path : String) (fl : List Field),
    Spec.mappingFields O path (toTraceFields fs) = .ok fl → mappableFields (viewOpts O) fs = true :=
  fun fs path _ h => ((ok_iff_of_toOption ((spec_mapping O h0).fields fs path)).mp h).1

theorem mappingVariants_mappable (O : Options) (h0 : O.overwrites = []) : ∀ (vars : Variants) (path : String) (i : Nat)
    (cs : List (Int × Field)), i ≤ 128 → Spec.mappingVariants O path i (toTraceVariants vars) = .ok cs →
    mappableVariants (viewOpts O) vars = true ∧ i + vars.length ≤ 128 :=
  fun vars path i _ hi h => ((ok_iff_of_toOption ((spec_mapping O h0).variants i vars path hi)).mp h).1

/-- **`mappable` is exactly "the documented mapping does not refuse"** (no overwrites) -/
theorem mapping_ok_iff (O : Options) (h0 : O.overwrites = []) (t : Ty) (name path : String) (nl : Bool) :
    (∃ f, Spec.mapping O name path nl (toTraceTy t) = .ok f) ↔ mappable (viewOpts O) t = true := by
  constructor
  · rintro ⟨f, h⟩; exact mapping_mappable O h0 t name path nl f h
  · intro hp
    rcases hm : mappingDT (viewOpts O) t with ⟨dt, nb, md⟩
    exact ⟨_, mapping_ok O h0 t name path nl dt nb md hp hm⟩

/-! ### the two statements of the documented mapping agree

`Spec.mapping` is an `R Field` with the documented refusals; `mappingDT` is a total function of the type.  Whenever the former
succeeds (without overwrites) the type is mappable, so its result is the latter. -/

/-- a successful `Spec.mappingVariants` on a non-empty list has passed the guard -/
theorem mappingVariants_index {O : Options} {vars : Variants} {path : String} {i : Nat} {cs : List (Int × Field)}
    (h : Spec.mappingVariants O path i (toTraceVariants vars) = .ok cs) : vars = .nil ∨ i ≤ 127 := by
  cases vars with
  | nil => exact Or.inl rfl
  | cons n k r => rw [mappingVariants_head] at h; exact Or.inr (guard_ok h).1

theorem mapping_eq (O : Options) (h0 : O.overwrites = []) : ∀ (t : Ty) (name path : String) (nl : Bool) (f : Field)
    (dt : DataType) (nb : Bool) (md : Metadata),
    Spec.mapping O name path nl (toTraceTy t) = .ok f → mappingDT (viewOpts O) t = (dt, nb, md) →
    f = .mk name dt (nl || nb) md :=
  fun _ name path nl _ _ _ _ h hm => ((ok_iff_of_toOption ((spec_mapping O h0).mapping' hm name path nl)).mp h).2.symm

theorem mappingTys_eq (O : Options) (h0 : O.overwrites = []) : ∀ (ts : Tys) (path : String) (i : Nat) (fs : List Field),
    Spec.mappingTys O path i (toTraceTys ts) = .ok fs → Fields.ofList fs = mappingPos (viewOpts O) i ts :=
  fun ts path i _ h => by rw [← ((ok_iff_of_toOption ((spec_mapping O h0).pos i ts path)).mp h).2, fields_ofList_toList]

theorem mappingFields_eq (O : Options) (h0 : O.overwrites = []) : ∀ (fs : TFields) (path : String) (fl : List Field),
    Spec.mappingFields O path (toTraceFields fs) = .ok fl → Fields.ofList fl = mappingFields (viewOpts O) fs :=
  fun fs path _ h => by rw [← ((ok_iff_of_toOption ((spec_mapping O h0).fields fs path)).mp h).2, fields_ofList_toList]

/-- the children of the Union an enum is traced to: one per variant in declaration order, type id = declaration index -/
theorem mappingVariants_eq (O : Options) (h0 : O.overwrites = []) : ∀ (vars : Variants) (path : String) (i : Nat)
    (cs : List (Int × Field)),
    Spec.mappingVariants O path i (toTraceVariants vars) = .ok cs → UFields.ofList cs = mappingVariants (viewOpts O) i vars :=
  fun vars path i cs h => by
    rcases mappingVariants_index h with rfl | hi
    · simp only [toTraceVariants, Spec.mappingVariants, Except.ok.injEq] at h; subst h; rfl
    · rw [← ((ok_iff_of_toOption ((spec_mapping O h0).variants i vars path (by omega))).mp h).2, UFields.ofList_toList]

/-- **the documented result of `from_type` is the documented mapping of C04**: whenever `Spec.fromTypeSpec` succeeds
(no overwrites; any budget and any setting of the other options) on ANY type (enums included), its fields are
`mappingRoot` -/
theorem fromTypeSpec_eq (O : Options) (h0 : O.overwrites = []) (t : Ty) (fields : List Field)
    (h : Spec.fromTypeSpec O (toTraceTy t) = .ok fields) : mappingRoot (viewOpts O) t = some fields := by
  unfold Spec.fromTypeSpec at h
  split at h
  · cases h
  · split at h
    · cases h
    · split at h
      · cases h
      · obtain ⟨root, hr, h⟩ := bind_ok h
        rcases hm : mappingDT (viewOpts O) t with ⟨dt, nb, md⟩
        have ih := mapping_eq O h0 t _ _ false root _ _ _ hr hm
        subst ih
        simp only [Field.nullable, Bool.false_or, Field.dataType] at h
        split at h
        · cases h
        · rename_i hnb
          split at h
          · rename_i children hdt
            cases h
            have hnb' : nb = false := by simpa using hnb
            subst hnb'
            simp [mappingRoot, hm]
          · cases h

/-- the documented result of `from_type` on a struct: walkable (depth limit, no map under `map_as_struct`, no enum
without variants), mappable (no documented refusal of the mapping), passes within the budget, no overwrites ⇒ the fields
of the documented mapping -/
theorem fromTypeSpec_ok (O : Options) (h0 : O.overwrites = []) (n : String) (fs : TFields)
    (hw : Spec.walkable O "$" (toTraceTy (.struct n fs)) = true)
    (hp : mappable (viewOpts O) (.struct n fs) = true)
    (hb : Spec.passes (toTraceTy (.struct n fs)) ≤ O.from_type_budget) :
    Spec.fromTypeSpec O (toTraceTy (.struct n fs)) = .ok (mappingFields (viewOpts O) fs).toList := by
  have hm : mappingDT (viewOpts O) (.struct n fs) = (.struct (mappingFields (viewOpts O) fs), false, []) := by
    simp only [mappingDT]
  unfold Spec.fromTypeSpec
  rw [if_neg (by simp [hw]), if_neg (by omega), h0, mapping_ok O h0 (.struct n fs) "$" "$" false _ _ _ hp hm]
  simp [ok_bind, Field.nullable, Field.dataType]

theorem agree_ok {α} {x : R α} {v : α} (h : Lemmas.C08.Agree x (.ok v)) : x = .ok v := by
  cases x with
  | ok a => have : a = v := h; rw [this]
  | error e => cases e <;> exact absurd h (by simp [Lemmas.C08.Agree])

/-- **`from_type` succeeds** (the tracer model, every exploration order `c`): on a struct type that is walkable,
mappable and within the budget, without overwrites, `from_type` returns exactly the fields of the documented mapping -/
theorem fromType_ok (c : Trace.Code) (O : Options) (h0 : O.overwrites = []) (n : String) (fs : TFields)
    (hw : Spec.walkable O "$" (toTraceTy (.struct n fs)) = true)
    (hp : mappable (viewOpts O) (.struct n fs) = true)
    (hb : Spec.passes (toTraceTy (.struct n fs)) ≤ O.from_type_budget) :
    Trace.fromType c O (toTraceTy (.struct n fs)) = .ok (mappingFields (viewOpts O) fs).toList := by
  have hag := Props.C08.C08_from_type c O (toTraceTy (.struct n fs))
  rw [fromTypeSpec_ok O h0 n fs hw hp hb] at hag
  exact agree_ok hag

/-! ### non-vacuity: struct types with an enum field that meet the three hypotheses -/

/-- `struct S { id: i64, e: E }`, `enum E { A, B(String), C { x: bool }, D(u8, Option<f32>) }` under `allow_null_fields` -/
def exTy : TFields :=
  .cons "id" false (.prim (.int .i64)) (.cons "e" false (.enum "E"
    (.cons "A" .unit (.cons "B" (.newtype (.prim .str)) (.cons "C" (.struct (.cons "x" false (.prim .bool) .nil))
      (.cons "D" (.tuple (.cons (.prim (.int .u8)) (.cons (.option (.prim .f32)) .nil))) .nil))))) .nil)

example :
    let O : Options := { allow_null_fields := true }
    O.overwrites = [] ∧ Spec.walkable O "$" (toTraceTy (.struct "S" exTy)) = true ∧
      mappable (viewOpts O) (.struct "S" exTy) = true ∧
      Spec.passes (toTraceTy (.struct "S" exTy)) ≤ O.from_type_budget := by decide +kernel

/-- `struct S { id: i64, color: Option<Color> }`, `enum Color { Red, Green, Blue(()) }` under
`enums_without_data_as_strings` (default `allow_null_fields = false`): the enum is stored as a string column -/
def exTyStr : TFields :=
  .cons "id" false (.prim (.int .i64)) (.cons "color" false (.option (.enum "Color"
    (.cons "Red" .unit (.cons "Green" .unit (.cons "Blue" (.newtype .unit) .nil))))) .nil)

example :
    let O : Options := { enums_without_data_as_strings := true }
    O.overwrites = [] ∧ Spec.walkable O "$" (toTraceTy (.struct "S" exTyStr)) = true ∧
      mappable (viewOpts O) (.struct "S" exTyStr) = true ∧
      Spec.passes (toTraceTy (.struct "S" exTyStr)) ≤ O.from_type_budget := by decide +kernel

/-- so `from_type` returns the documented fields on both, for every exploration order -/
example (c : Trace.Code) :
    Trace.fromType c { allow_null_fields := true } (toTraceTy (.struct "S" exTy)) =
      .ok (mappingFields (viewOpts { allow_null_fields := true }) exTy).toList :=
  fromType_ok c _ rfl "S" exTy (by decide +kernel) (by decide +kernel) (by decide +kernel)

end SaModel.Roundtrip
