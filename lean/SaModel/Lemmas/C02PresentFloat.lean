import SaModel.Lemmas.C02F16.Def
/-
C02 — the widening `Read.f16ToF32` (`Data/DVal.lean`: `half::f16::to_f32` on bit patterns, used by the reader model AND by the reader-side
specification `Spec/Present.lean`) against the IEEE arithmetic of `Basic/Float.lean`, for EVERY `f16` bit pattern (row `f16Agrees` of
`Lemmas/C02F16/Def.lean`): on a pattern that is not a NaN it is `Float.convert Float.f16 Float.f32` (the exact value, re-encoded), on a NaN it is an `f32`
NaN of the same sign (`Float.convert` canonicalises NaNs, `f16ToF32` keeps the payload as the hardware does).  So the two float
semantics of the tree agree where both speak; `f32ToF64` (2^32 patterns) is not tied this way.

The argument, by IEEE class of the pattern `s·2^15 + e·2^10 + m`: `Float.classify` reads a normal pattern as `(m + 2^10)·2^(e-25)` and a
subnormal one as `m·2^(-24)`; either has at most 11 significant bits and an exponent in the normal range of `f32`, so `Float.roundMag`
only shifts the leading bit up to the hidden bit and rebiases the exponent (`roundMag_exact`), which is what `f16ToF32` does.
-/
namespace SaModel.Float

theorem roundMag_zero (f : Fmt) (e : Int) : roundMag f 0 e = 0 := by
  unfold roundMag
  exact if_pos rfl

/-- a value `m * 2^e` with at most `mb + 1` significant bits and its leading bit in the normal range is kept exactly: the leading
bit is shifted up to the hidden bit and dropped, the exponent rebiased -/
theorem roundMag_exact (f : Fmt) (m : Nat) (e : Int) (hm : m ≠ 0) (hL : m.log2 ≤ f.mb)
    (hlo : 1 - (f.bias : Int) ≤ m.log2 + e) (hhi : (m.log2 : Int) + e ≤ f.bias) :
    roundMag f m e = ((m.log2 : Int) + e + f.bias).toNat * 2 ^ f.mb + (m * 2 ^ (f.mb - m.log2) - 2 ^ f.mb) := by
  have hq : m * 2 ^ (f.mb - m.log2) < 2 ^ (f.mb + 1) :=
    calc m * 2 ^ (f.mb - m.log2) < 2 ^ (m.log2 + 1) * 2 ^ (f.mb - m.log2) :=
          Nat.mul_lt_mul_of_pos_right Nat.lt_log2_self (Nat.pow_pos (by decide))
      _ = 2 ^ (f.mb + 1) := by rw [← Nat.pow_add]; congr 1; omega
  have hs : (-((m.log2 : Int) - f.mb)).toNat = f.mb - m.log2 := by omega
  unfold roundMag
  simp only [if_neg hm, if_neg (Int.not_lt.mpr hlo), if_pos (show (m.log2 : Int) - f.mb ≤ 0 by omega), hs,
    if_neg (Nat.not_le.mpr hq), if_neg (Int.not_lt.mpr hhi)]

theorem classify_f16 (h : Nat) : classify f16 h =
    if h / 1024 % 32 = 31 then (if h % 1024 = 0 then .inf (h / 32768 % 2 = 1) else .nan)
    else if h / 1024 % 32 = 0 then .finite (h / 32768 % 2 = 1) (h % 1024) (-24)
    else .finite (h / 32768 % 2 = 1) (h % 1024 + 1024) ((h / 1024 % 32 : Nat) - 15 - 10) := by
  unfold classify
  simp only [f16, Fmt.signBit, Fmt.expMax, Fmt.bias, Nat.reducePow, Nat.reduceAdd, Nat.reduceSub]
  rfl

/-- a normal `f16` pattern (`log2 (m + 2^10) = 10`) -/
theorem roundMag_f32_normal (e m : Nat) (he : e < 31) (hm : m < 1024) :
    roundMag f32 (m + 1024) ((e : Int) - 15 - 10) = (e + 112) * 8388608 + m * 8192 := by
  have hL : (m + 1024).log2 = 10 := (Nat.log2_eq_iff (by omega)).mpr ⟨by omega, by omega⟩
  rw [roundMag_exact f32 _ _ (by omega) (by rw [hL]; decide) (by rw [hL]; simp only [f32, Fmt.bias]; omega)
    (by rw [hL]; simp only [f32, Fmt.bias]; omega), hL]
  simp only [f32, Fmt.bias]
  omega

/-- a subnormal `f16` pattern (`log2 m ≤ 9`): normal in `f32` -/
theorem roundMag_f32_subnormal (m : Nat) (hm0 : m ≠ 0) (hm : m < 1024) :
    roundMag f32 m (-24) = (m.log2 + 103) * 8388608 + (m - 2 ^ m.log2) * 2 ^ (23 - m.log2) := by
  have hL : m.log2 < 10 := (Nat.log2_lt hm0).mpr hm
  rw [roundMag_exact f32 _ _ hm0 (by simp only [f32]; omega) (by simp only [f32, Fmt.bias]; omega)
    (by simp only [f32, Fmt.bias]; omega)]
  simp only [f32, Fmt.bias]
  rw [Nat.sub_mul, ← Nat.pow_add, show m.log2 + (23 - m.log2) = 23 by omega]
  omega

theorem classify_eq_nan (f : Fmt) (bits : Nat) (hx : bits / 2 ^ f.mb % 2 ^ f.eb = f.expMax) (hfr : bits % 2 ^ f.mb ≠ 0) :
    classify f bits = .nan := by
  unfold classify
  rw [if_pos hx, if_neg hfr]

theorem withSign_f32 (s x : Nat) (hs : s < 2) : withSign f32 (decide (s % 2 = 1)) x = s * 2147483648 + x := by
  obtain rfl | rfl : s = 0 ∨ s = 1 := by omega
  · exact (Nat.zero_add x).symm
  · exact Nat.add_comm x 2147483648

end SaModel.Float

namespace SaModel.Props.C02
open SaModel SaModel.Read

/-- `f16ToF32` looks at the low 16 bits only -/
theorem f16ToF32_low (x : Int) : f16ToF32 x = f16ToF32 (Int.ofNat (x.toNat % 65536)) := by
  unfold f16ToF32
  simp only [show ∀ n : Nat, (Int.ofNat n).toNat = n from fun _ => rfl, Nat.mod_mod]

theorem f16Agrees_all (h : Nat) (hh : h < 65536) : f16Agrees h = true := by
  have hs : h / 32768 < 2 := by omega
  have hm : h % 1024 < 1024 := Nat.mod_lt _ (by decide)
  have he : h / 1024 % 32 < 32 := Nat.mod_lt _ (by decide)
  have hto : ∀ n : Nat, (Int.ofNat n).toNat = n := fun _ => rfl
  unfold f16Agrees Float.isNan Float.convert f16ToF32
  simp only [hto, Nat.mod_eq_of_lt hh, Float.classify_f16]
  generalize h / 32768 = s at *
  generalize h / 1024 % 32 = e at *
  generalize h % 1024 = m at *
  by_cases he31 : e = 31
  · by_cases hm0 : m = 0
    · simp [he31, hm0, Float.withSign_f32 s _ hs, show Float.f32.inf = 2139095040 from rfl]
    · have hn : Float.classify Float.f32 (s * 2147483648 + 2143289344 + m * 8192 % 4194304) = .nan :=
        Float.classify_eq_nan Float.f32 _ (show _ / 8388608 % 256 = 255 by omega) (show _ % 8388608 ≠ 0 by omega)
      simp only [he31, hm0, beq_iff_eq, if_true, if_false, hto, hn, Bool.true_and]
      omega
  · by_cases he0 : e = 0
    · by_cases hm0 : m = 0
      · simp [he0, hm0, Float.withSign_f32 s _ hs, Float.roundMag_zero]
      · simp [he0, hm0, Float.withSign_f32 s _ hs, Float.roundMag_f32_subnormal m hm0 hm, Nat.add_assoc]
    · simp [he0, he31, Float.withSign_f32 s _ hs, Float.roundMag_f32_normal e m (by omega) hm, Nat.add_assoc]

/-- **`f16ToF32` is the exact IEEE widening** on every pattern that is not a NaN -/
theorem f16ToF32_eq_convert (x : Int) (hn : Float.isNan Float.f16 (x.toNat % 65536) = false) :
    f16ToF32 x = Int.ofNat (Float.convert Float.f16 Float.f32 (x.toNat % 65536)) := by
  have h := f16Agrees_all (x.toNat % 65536) (Nat.mod_lt _ (by decide))
  rw [f16ToF32_low]
  unfold f16Agrees at h
  rw [hn] at h
  simpa using h

/-- … and a NaN of the same sign on a NaN -/
theorem f16ToF32_nan (x : Int) (hn : Float.isNan Float.f16 (x.toNat % 65536) = true) :
    Float.isNan Float.f32 (f16ToF32 x).toNat = true ∧ (f16ToF32 x).toNat / 2147483648 = (x.toNat % 65536) / 32768 := by
  have h := f16Agrees_all (x.toNat % 65536) (Nat.mod_lt _ (by decide))
  rw [f16ToF32_low]
  unfold f16Agrees at h
  rw [hn] at h
  simpa using h

/-- non-vacuity: 1.0, the smallest subnormal, −0.0, the largest finite value, +inf; and a signalling NaN with payload -/
example : f16ToF32 0x3C00 = 0x3F800000 ∧ f16ToF32 0x0001 = 0x33800000 ∧ f16ToF32 0x8000 = 0x80000000 ∧ f16ToF32 0x7BFF = 0x477FE000 ∧
    f16ToF32 0x7C00 = 0x7F800000 ∧ Float.isNan Float.f16 0xFD01 = true ∧ f16ToF32 0xFD01 = 0xFFE02000 := by decide +kernel

end SaModel.Props.C02
