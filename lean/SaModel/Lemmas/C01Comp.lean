import SaModel.Lemmas.C01ObsComp
/-
Completeness of the builders (converse of R2, `Lemmas/C01R2.lean`) on the strict invariant `WFB` / `Safe`: whenever the
documented mapping `Spec.interpDT` accepts a value at the builder's field, and the value fits into the head room of the
builder (`vsize ≤ room`, no capacity check can fire), `push` succeeds — and the head room shrinks by at most `vsize`.
Every statement is the one of Lemmas/C01ObsComp.lean (`WFH` / `NoDictKey`) at a strictly well-formed state
(`Good.toH`, `Mid.toH`).
-/
namespace SaModel.Build
open SaModel SaModel.Spec

def MapLoop (ext : Ext) (es : SEntries) : Prop :=
  ∀ offs (l : Int) ks vs kdt kn kmd vdt vn vmd r, Good ks kdt kn kmd → Good vs vdt vn vmd →
    vsizee ext es ≤ room ks → vsizee ext es ≤ room vs → offs.getLast? = some l → 0 ≤ l → l + elen es ≤ 2147483647 →
    interpEntries ext kdt kn kmd vdt vn vmd es = .ok r →
    ∃ r', pushMapEntries ext offs ks vs es = .ok r' ∧ room ks ≤ room r'.2.1 + vsizee ext es ∧
      room vs ≤ room r'.2.2 + vsizee ext es ∧ r'.1.getLast? = some (l + elen es)

theorem push_complete (ext : Ext) : ∀ (x : SVal), noRaw x = true → Comp ext x :=
  fun x hraw b dt n md lv hg => push_completeH ext x hraw b dt n md lv hg.toH

theorem pushElems_complete (ext : Ext) : ∀ (xs : SVals), noRaws xs = true →
    ElemsComp ext xs (fun large el offs => pushElems ext large el offs xs) :=
  fun xs hraw large el offs l cdt cn cmd ls hg => pushElems_completeH ext xs hraw large el offs l cdt cn cmd ls hg.toH

theorem pushCountElems_complete (ext : Ext) : ∀ (xs : SVals), noRaws xs = true →
    CountComp ext xs (fun el c => pushCountElems ext el c xs) :=
  fun xs hraw el c cdt cn cmd ls hg => pushCountElems_completeH ext xs hraw el c cdt cn cmd ls hg.toH

theorem pushTupleElems_complete (ext : Ext) : ∀ (xs : SVals), noRaws xs = true → TupleLoop ext xs :=
  fun xs hraw fs0 s adds sfs hm => pushTupleElems_completeH ext xs hraw fs0 s adds sfs hm.toH

theorem pushFields_complete (ext : Ext) : ∀ (fields : SFields), noRawf fields = true → FieldsLoop ext fields :=
  fun fields hraw fs0 s adds sfs hm => pushFields_completeH ext fields hraw fs0 s adds sfs hm.toH

theorem pushStructEntries_complete (ext : Ext) : ∀ (es : SEntries), noRawe es = true → EntriesLoop ext es :=
  fun es hraw fs0 s adds sfs hm => pushStructEntries_completeH ext es hraw fs0 s adds sfs hm.toH

theorem pushMapEntries_complete (ext : Ext) : ∀ (es : SEntries), noRawe es = true → MapLoop ext es :=
  fun es hraw offs l ks vs kdt kn kmd vdt vn vmd r hgk hgv =>
    pushMapEntries_completeH ext es hraw offs l ks vs kdt kn kmd vdt vn vmd r hgk.toH hgv.toH

end SaModel.Build
