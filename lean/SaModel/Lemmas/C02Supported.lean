import SaModel.Lemmas.ReadBasic
/-
C02, which arrays the readers accept: `supportedView` is a plain Boolean description, written from the
documentation side (no call into the model of `ArrayDeserializer::new`, no monad), of the array kinds and
parameters serde_arrow's random-access readers support.  `new_ok_iff_supported`: the model constructor
`Read.new Fixes.all` succeeds on EXACTLY those arrays — for every array, no hypothesis.

Rust being documented (serde_arrow/src/internal/):
  deserialization/array_deserializer.rs:89-183   `ArrayDeserializer::new`
  deserialization/timestamp_deserializer.rs:76-82 `is_utc_timestamp`
  deserialization/fixed_size_binary_deserializer.rs:19-39, fixed_size_list_deserializer.rs:24-39,
  deserialization/struct_deserializer.rs:23-38, list_deserializer.rs:23-, map_deserializer.rs:24-46,
  deserialization/dictionary_deserializer.rs:21-31, enum_deserializer.rs:23-53
  schema/strategy.rs:86-98 (`Strategy::from_str`), 116-121 (`get_strategy_from_metadata`)
-/
namespace SaModel.Props.C02
open SaModel SaModel.Read

/-! ### the documentation-side predicate -/

/-- schema/strategy.rs:116-121 `get_strategy_from_metadata` + 86-98 `Strategy::from_str`: a field's
`SERDE_ARROW:strategy` metadata entry, if there is one, must be one of the four strategy names -/
def knownStrategy (m : Metadata) : Bool :=
  match m.lookup "SERDE_ARROW:strategy" with
  | none => true
  | some s => ["InconsistentTypes", "TupleAsStruct", "MapAsStruct", "UnknownVariant"].contains s

/-- timestamp_deserializer.rs:76-82 `is_utc_timestamp`: no time zone, or the time zone reads "utc" once every
character is lower-cased -/
def naiveOrUtc : Option String → Bool
  | none => true
  | some tz => tz.toList.map Char.toLower == ['u', 't', 'c']

/-- fixed_size_binary_deserializer.rs:20-22: the width fits a `usize` (is not negative) and the data splits into
chunks of that width; with width 0 only the empty data buffer qualifies -/
def evenlyDivisible (n : Int) (dataLen : Nat) : Bool :=
  decide (0 ≤ n) && (if n = 0 then dataLen == 0 else dataLen % n.toNat == 0)

/-- array_deserializer.rs:128-176, left component of every accepted pair: the keys are an
Int8/16/32/64 or UInt8/16/32/64 primitive column -/
def integerKeys : Arr → Bool
  | .prim ty _ _ =>
    match ty with
    | .int8 | .int16 | .int32 | .int64 | .uint8 | .uint16 | .uint32 | .uint64 => true
    | .float16 | .float32 | .float64 | .date32 | .date64 => false
  | _ => false

/-- array_deserializer.rs:128-176, right component (`V::Utf8` / `V::LargeUtf8`), and
dictionary_deserializer.rs:22-25: the values are a Utf8 or LargeUtf8 column that has no validity buffer -/
def plainStringValues : Arr → Bool
  | .bytes ty validity _ _ =>
    match ty with
    | .utf8 | .largeUtf8 => validity.isNone
    | .binary | .largeBinary => false
  | _ => false

/-- the declared type ids of a union's children, in declaration order -/
def unionIds : ArrUFields → List Int
  | .nil => []
  | .cons tid _ _ rest => tid :: unionIds rest

/-- enum_deserializer.rs:33-37 (`usize::try_from(type_id) != Ok(idx)` under `enumerate()`): the ids are exactly
`0, 1, 2, …` in order -/
def consecutiveIds (ids : List Int) : Bool :=
  decide (ids = (List.range ids.length).map Int.ofNat)

mutual
/-- the arrays `ArrayDeserializer::new` (array_deserializer.rs:89-183) builds a reader for -/
def supportedView : Arr → Bool
  -- array_deserializer.rs:92 `View::Null`
  | .null _ => true
  -- array_deserializer.rs:93 `V::Boolean`
  | .boolean _ _ _ => true
  -- array_deserializer.rs:94-104 Int8…UInt64, Float16/32/64; 106-107 Date32, Date64
  | .prim _ _ _ => true
  -- array_deserializer.rs:108-109 Time32, Time64; 111 Duration
  | .time _ _ _ _ => true
  -- array_deserializer.rs:105 Decimal128
  | .decimal128 _ _ _ _ => true
  -- array_deserializer.rs:112-113 Utf8, LargeUtf8; 115-116 Binary, LargeBinary
  | .bytes _ _ _ _ => true
  -- array_deserializer.rs:114 Utf8View; 117 BinaryView
  | .bytesView _ _ _ _ => true
  -- array_deserializer.rs:110 + timestamp_deserializer.rs:31, 76-82: naive, or UTC in any letter case
  | .timestamp _ tz _ _ => naiveOrUtc tz
  -- array_deserializer.rs:118-120 + fixed_size_binary_deserializer.rs:20-31
  | .fixedSizeBinary n _ data => evenlyDivisible n data.length
  -- array_deserializer.rs:126 + struct_deserializer.rs:25-32: every child
  | .struct _ _ fs => supportedFields fs
  -- array_deserializer.rs:121-122 + list_deserializer.rs:23-29: the element field's strategy, the elements
  | .list _ _ _ fm el => knownStrategy fm.metadata && supportedView el
  -- array_deserializer.rs:123-125 + fixed_size_list_deserializer.rs:26-30 and :37 (`view.n.try_into()?`)
  | .fixedSizeList _ _ n fm el => decide (0 ≤ n) && knownStrategy fm.metadata && supportedView el
  -- array_deserializer.rs:127 + map_deserializer.rs:30-34 (keys), 41-45 (values)
  | .map _ _ mm ks vs =>
    knownStrategy mm.keys.metadata && supportedView ks && knownStrategy mm.values.metadata && supportedView vs
  -- array_deserializer.rs:129-178 (the sixteen accepted pairs, `_ => fail!` otherwise) +
  -- dictionary_deserializer.rs:22-25
  | .dictionary ks vs => integerKeys ks && plainStringValues vs
  -- array_deserializer.rs:128 + enum_deserializer.rs:24-26 (dense only), 28-30 (one offset per type id),
  -- 33-37 (ids 0,1,2,…), 39-43 (every child)
  | .union types offs fs =>
    (match offs with
      | none => false
      | some o => types.length == o.length)
    && consecutiveIds (unionIds fs) && supportedUFields fs
/-- struct_deserializer.rs:25-32: each child field has a known strategy and a supported array -/
def supportedFields : ArrFields → Bool
  | .nil => true
  | .cons fm a rest => knownStrategy fm.metadata && supportedView a && supportedFields rest
/-- enum_deserializer.rs:39-43: each variant field has a known strategy and a supported array -/
def supportedUFields : ArrUFields → Bool
  | .nil => true
  | .cons _ fm a rest => knownStrategy fm.metadata && supportedView a && supportedUFields rest
end

/-! ### the pieces of `new`, one by one -/

theorem strategyOk_iff (m : Metadata) : strategyOk m = .ok () ↔ knownStrategy m = true := by
  unfold strategyOk knownStrategy
  cases m.lookup "SERDE_ARROW:strategy" with
  | none => simp
  | some s =>
    have key : ["InconsistentTypes", "TupleAsStruct", "MapAsStruct", "UnknownVariant"].contains s
        = (s == "InconsistentTypes" || s == "TupleAsStruct" || s == "MapAsStruct" || s == "UnknownVariant") := by
      simp only [List.contains_cons, List.contains_nil, Bool.or_false, Bool.or_assoc]
    simp only [key]
    cases (s == "InconsistentTypes" || s == "TupleAsStruct" || s == "MapAsStruct" || s == "UnknownVariant") <;>
      simp [fail]

theorem toLower_utc_iff (tz : String) : (tz.toLower == "utc") = true ↔ naiveOrUtc (some tz) = true := by
  have hutc : "utc".toList = ['u', 't', 'c'] := by decide
  simp only [naiveOrUtc, beq_iff_eq, String.toLower]
  constructor
  · intro h
    rw [← String.toList_map, h, hutc]
  · intro h
    apply String.toList_inj.mp
    rw [String.toList_map, h, hutc]

theorem tryIntoUsize_ok_iff (n : Int) : (tryIntoUsize n >>= fun _ => (pure () : R Unit)) = .ok () ↔ 0 ≤ n := by
  unfold tryIntoUsize
  by_cases h : 0 ≤ n <;> simp [h, fail, bind, Except.bind, pure, Except.pure]

theorem fsbNew_ok_iff (n : Int) (data : Bytes) :
    (fsbNew Fixes.all n data >>= fun _ => (pure () : R Unit)) = .ok () ↔ evenlyDivisible n data.length = true := by
  unfold fsbNew evenlyDivisible
  by_cases h0 : n < 0
  · have : ¬ 0 ≤ n := by omega
    simp [h0, this, fail, bind, Except.bind]
  · have hn : 0 ≤ n := by omega
    by_cases hz : n = 0
    · subst hz
      by_cases hd : data.length = 0 <;> simp [Fixes.all, hd, fail, bind, Except.bind, pure, Except.pure]
    · have hz' : ¬ n.toNat = 0 := by omega
      by_cases hd : data.length % n.toNat = 0 <;>
        simp [h0, hn, hz, hz', hd, fail, bind, Except.bind, pure, Except.pure]

theorem dictionary_ok_iff (ks vs : Arr) :
    new Fixes.all (.dictionary ks vs) = .ok () ↔ (integerKeys ks && plainStringValues vs) = true := by
  unfold new
  split
  · rename_i kty kv kvals vty vv voffs vdata
    have hk : integerKeys (.prim kty kv kvals) = isIntPrim kty := by cases kty <;> rfl
    have hv : plainStringValues (.bytes vty vv voffs vdata) = (Spec.isUtf8Ty vty && vv.isNone) := by cases vty <;> rfl
    rw [hk, hv]
    cases isIntPrim kty <;> cases Spec.isUtf8Ty vty <;> cases vv <;> simp [fail]
  · rename_i hne
    have : (integerKeys ks && plainStringValues vs) = false := by
      cases ks <;> try (simp [integerKeys]; done)
      cases vs <;> try (simp [plainStringValues]; done)
      exact (hne _ _ _ _ _ _ _ rfl rfl).elim
    simp [this, fail]

theorem consecutive_cons (tid : Int) (ids : List Int) (k : Nat) :
    tid :: ids = (List.range' k (ids.length + 1)).map Int.ofNat ↔
      tid = Int.ofNat k ∧ ids = (List.range' (k + 1) ids.length).map Int.ofNat := by
  simp [List.range'_succ]

/-! ### the theorem: ONE walk over `new`, which decides `supportedView` and never unwinds -/

/-- `r` succeeds exactly when `P`, and otherwise fails without unwinding -/
def Decides (r : R Unit) (P : Prop) : Prop := (r = .ok () ↔ P) ∧ NoPanic r

namespace Decides
variable {x y : R Unit} {f : Unit → R Unit} {P Q : Prop}

theorem ok (h : P) : Decides (.ok ()) P := ⟨by simp [h], NoPanic.ok _⟩
theorem fail (m : String) (h : ¬ P) : Decides (SaModel.fail m) P := ⟨by simp [SaModel.fail, h], NoPanic.fail _⟩
theorem bind (hx : Decides x P) (hf : Decides (f ()) Q) : Decides (x >>= f) (P ∧ Q) :=
  ⟨by rw [R.bind_unit_iff, hx.1, hf.1], NoPanic.bind hx.2 fun _ => hf.2⟩
theorem iff (h : Decides x P) (hpq : P ↔ Q) : Decides x Q := ⟨h.1.trans hpq, h.2⟩
theorem ite {c : Prop} [Decidable c] (ht : c → Decides x P) (he : ¬ c → Decides y P) : Decides (if c then x else y) P := by
  split
  · exact ht ‹_›
  · exact he ‹_›
end Decides

theorem strategyOk_decides (m : Metadata) : Decides (strategyOk m) (knownStrategy m = true) :=
  ⟨strategyOk_iff m, noPanic_strategyOk m⟩

mutual
theorem new_decides : ∀ (a : Arr), Decides (new Fixes.all a) (supportedView a = true)
  | .null _ | .boolean _ _ _ | .prim _ _ _ | .time _ _ _ _ | .decimal128 _ _ _ _ | .bytes _ _ _ _ | .bytesView _ _ _ _ => by
    unfold new supportedView; exact Decides.ok rfl
  | .timestamp _ tz _ _ => by
    unfold new supportedView
    cases tz with
    | none => exact Decides.ok rfl
    | some tz =>
      rw [← toLower_utc_iff]
      exact Decides.ite (fun h => Decides.ok h) fun h => Decides.fail _ h
  | .fixedSizeBinary n _ data => by
    unfold new supportedView
    exact ⟨fsbNew_ok_iff n data, NoPanic.bind (noPanic_fsbNew n data) fun _ => NoPanic.pure _⟩
  | .struct _ _ fs => by unfold new supportedView; exact newFields_decides fs
  | .list _ _ _ fm el => by
    unfold new supportedView
    exact ((strategyOk_decides _).bind (new_decides el)).iff (by simp only [Bool.and_eq_true])
  | .fixedSizeList _ _ n fm el => by
    unfold new supportedView
    refine ((strategyOk_decides _).bind ((new_decides el).bind (Q := 0 ≤ n)
      ⟨tryIntoUsize_ok_iff n, NoPanic.bind (noPanic_tryIntoUsize n) fun _ => NoPanic.pure _⟩)).iff ?_
    simp only [Bool.and_eq_true, decide_eq_true_eq]
    exact ⟨fun ⟨a, b, c⟩ => ⟨⟨c, a⟩, b⟩, fun ⟨⟨c, a⟩, b⟩ => ⟨a, b, c⟩⟩
  | .map _ _ mm ks vs => by
    unfold new supportedView
    exact ((strategyOk_decides _).bind ((new_decides ks).bind ((strategyOk_decides _).bind (new_decides vs)))).iff
      (by simp only [Bool.and_eq_true, and_assoc])
  | .dictionary ks vs => by
    refine ⟨(dictionary_ok_iff ks vs).trans (by unfold supportedView; rfl), ?_⟩
    unfold new
    split
    · split
      · split
        · exact NoPanic.fail _
        · exact NoPanic.ok _
      · exact NoPanic.fail _
    · exact NoPanic.fail _
  | .union types offs fs => by
    unfold new supportedView
    cases offs with
    | none => exact Decides.fail _ (by simp)
    | some o =>
      refine Decides.ite (fun h => Decides.fail _ (by simp [h])) fun h => (newUFields_decides fs 0).iff ?_
      have hl : types.length = o.length := by omega
      simp only [hl, beq_self_eq_true, Bool.true_and, Bool.and_eq_true, consecutiveIds, decide_eq_true_eq,
        List.range_eq_range']
theorem newFields_decides : ∀ (fs : ArrFields), Decides (newFields Fixes.all fs) (supportedFields fs = true)
  | .nil => by unfold newFields supportedFields; exact Decides.ok rfl
  | .cons fm a rest => by
    unfold newFields supportedFields
    exact ((strategyOk_decides _).bind ((new_decides a).bind (newFields_decides rest))).iff
      (by simp only [Bool.and_eq_true, and_assoc])
theorem newUFields_decides : ∀ (fs : ArrUFields) (k : Nat), Decides (newUFields Fixes.all fs k)
    (unionIds fs = (List.range' k (unionIds fs).length).map Int.ofNat ∧ supportedUFields fs = true)
  | .nil, _ => by unfold newUFields; exact Decides.ok (by simp [supportedUFields, unionIds])
  | .cons tid fm a rest, k => by
    unfold newUFields supportedUFields unionIds
    rw [List.length_cons, consecutive_cons]
    refine Decides.ite (fun h => Decides.fail _ (fun hc => h hc.1.1)) fun h => ?_
    refine ((strategyOk_decides _).bind ((new_decides a).bind (newUFields_decides rest (k + 1)))).iff ?_
    have ht : tid = Int.ofNat k := by simpa using h
    simp only [ht, true_and, Bool.and_eq_true]
    exact ⟨fun ⟨a, b, c, d⟩ => ⟨c, ⟨a, b⟩, d⟩, fun ⟨c, ⟨a, b⟩, d⟩ => ⟨a, b, c, d⟩⟩
end

/-- `ArrayDeserializer::new` succeeds exactly on the supported arrays -/
theorem new_ok_iff_supported : ∀ (a : Arr), new Fixes.all a = .ok () ↔ supportedView a = true :=
  fun a => (new_decides a).1
/-- `StructDeserializer::new`'s loop over the children -/
theorem newFields_ok_iff_supported : ∀ (fs : ArrFields), newFields Fixes.all fs = .ok () ↔ supportedFields fs = true :=
  fun fs => (newFields_decides fs).1
/-- `EnumDeserializer::new`'s loop over the variants, entered at position `k`: the remaining ids are
`k, k+1, …` and every remaining child is supported -/
theorem newUFields_ok_iff_supported : ∀ (fs : ArrUFields) (k : Nat), newUFields Fixes.all fs k = .ok () ↔
    (unionIds fs = (List.range' k (unionIds fs).length).map Int.ofNat ∧ supportedUFields fs = true) :=
  fun fs k => (newUFields_decides fs k).1

/-- an unsupported array is refused with an error value -/
theorem new_err_of_not_supported (a : Arr) (h : supportedView a = false) : ∃ e, new Fixes.all a = .error e := by
  cases hn : new Fixes.all a with
  | error e => exact ⟨e, rfl⟩
  | ok u =>
    cases u
    rw [(new_ok_iff_supported a).mp hn] at h
    cases h

/-! ### non-vacuity -/

/-- a struct of three columns: a dictionary (Int8 keys, Utf8 values without validity), a dense union with two
variants (ids 0, 1) and a timestamp in "UTC" -/
def exSupported : Arr :=
  .struct 2 none
    (.cons ⟨"d", false, []⟩ (.dictionary (.prim .int8 none [0, 0]) (.bytes .utf8 none [0, 1] [97]))
    (.cons ⟨"u", false, [("SERDE_ARROW:strategy", "UnknownVariant")]⟩
      (.union [0, 1] (some [0, 0])
        (.cons 0 ⟨"A", false, []⟩ (.prim .int32 none [7])
        (.cons 1 ⟨"B", true, [("SERDE_ARROW:strategy", "TupleAsStruct")]⟩ (.null 1) .nil)))
    (.cons ⟨"t", true, []⟩ (.timestamp .millisecond (some "UTC") none [0, 1]) .nil)))

example : supportedView exSupported = true := by decide +kernel
example : new Fixes.all exSupported = .ok () := (new_ok_iff_supported _).mpr (by decide +kernel)

/-- sparse union (no offsets buffer) -/
example : supportedView (.union [0] none (.cons 0 ⟨"A", false, []⟩ (.prim .int32 none [7]) .nil)) = false := by decide +kernel
/-- type ids 0, 2 -/
example : supportedView (.union [0] (some [0])
    (.cons 0 ⟨"A", false, []⟩ (.prim .int32 none [7]) (.cons 2 ⟨"B", false, []⟩ (.null 0) .nil))) = false := by decide +kernel
/-- dictionary values with a validity buffer -/
example : supportedView (.dictionary (.prim .uint32 none [0])
    (.bytes .largeUtf8 (some ⟨[1], 0⟩) [0, 1] [97])) = false := by decide +kernel
/-- a time zone other than UTC -/
example : supportedView (.timestamp .second (some "Europe/Berlin") none [0]) = false := by decide +kernel
/-- a strategy name `Strategy::from_str` does not know, on a list's element field -/
example : supportedView (.list false none [0, 1] ⟨"element", false, [("SERDE_ARROW:strategy", "Bogus")]⟩
    (.prim .int64 none [1])) = false := by decide +kernel
/-- … and each is refused with an error value -/
example : ∃ e, new Fixes.all (.timestamp .second (some "Europe/Berlin") none [0]) = .error e :=
  new_err_of_not_supported _ (by decide)
/-- further refusals: FixedSizeBinary whose data is not a multiple of the width, width 0 with data, negative
FixedSizeList width, dictionary with float keys, more type ids than offsets -/
example : supportedView (.fixedSizeBinary 2 none [1, 2, 3]) = false := by decide +kernel
example : supportedView (.fixedSizeBinary 0 none [1]) = false := by decide +kernel
example : supportedView (.fixedSizeBinary 0 none []) = true := by decide +kernel
example : supportedView (.fixedSizeList 0 none (-1) ⟨"element", false, []⟩ (.null 0)) = false := by decide +kernel
example : supportedView (.dictionary (.prim .float32 none [0]) (.bytes .utf8 none [0] [])) = false := by decide +kernel
example : supportedView (.union [0, 0] (some [0]) (.cons 0 ⟨"A", false, []⟩ (.null 1) .nil)) = false := by decide +kernel

end SaModel.Props.C02
