import SaModel.Lemmas.C18Within
import SaModel.Lemmas.C10TakePush
/-
C18, builder half: the parts of `push` that never annotate (`NoCtx` instances), and the positions of a struct state.
-/
namespace SaModel.Props.C18
open SaModel SaModel.Build

/-- the external functions (chrono / decimal / float parsers and formatters of other crates) return plain
errors: they know nothing about serde_arrow's annotations -/
class ExtPlain (ext : Ext) : Prop where
  parseDate : ∀ b s, NoCtx (ext.parseDate b s)
  parseTime : ∀ u s, NoCtx (ext.parseTime u s)
  parseTimestamp : ∀ u b s, NoCtx (ext.parseTimestamp u b s)
  parseDuration : ∀ u s, NoCtx (ext.parseDuration u s)
  parseDecimal : ∀ p s t, NoCtx (ext.parseDecimal p s t)
  floatToDecimal : ∀ p s b x, NoCtx (ext.floatToDecimal p s b x)

instance : ExtPlain {} := ⟨fun _ _ => inferInstance, fun _ _ => inferInstance, fun _ _ _ => inferInstance,
  fun _ _ => inferInstance, fun _ _ _ => inferInstance, fun _ _ _ _ => inferInstance⟩

section
variable (ext : Ext) [h : ExtPlain ext]
instance (b s) : NoCtx (ext.parseDate b s) := h.parseDate b s
instance (u s) : NoCtx (ext.parseTime u s) := h.parseTime u s
instance (u b s) : NoCtx (ext.parseTimestamp u b s) := h.parseTimestamp u b s
instance (u s) : NoCtx (ext.parseDuration u s) := h.parseDuration u s
instance (p s t) : NoCtx (ext.parseDecimal p s t) := h.parseDecimal p s t
instance (p s b x) : NoCtx (ext.floatToDecimal p s b x) := h.floatToDecimal p s b x
end

instance (v : Validity) (idx : Nat) (value : Bool) : NoCtx (setValidity v idx value) := by unfold setValidity; noctx
instance (offs : List Int) : NoCtx (duplicateLast offs) := by unfold duplicateLast; noctx
instance (c l : Bool) (offs : List Int) (inc : Nat) : NoCtx (incrementLast c l offs inc) := by unfold incrementLast; noctx
instance (t : IntTy) (v : Int) : NoCtx (tryInto t v) := by unfold tryInto; noctx
instance {α} (w : String) : NoCtx (notSupported w : R α) := by unfold notSupported; noctx

instance iter_noctx {α} (f : α → R α) [∀ a, NoCtx (f a)] : ∀ (k : Nat) (a : α), NoCtx (iter k f a)
  | 0, a => by unfold iter; noctx
  | k + 1, a => by
    have := fun a' => iter_noctx f k a'
    unfold iter; noctx

instance (ext : Ext) [ExtPlain ext] (k : LeafKind) (x : SVal) : NoCtx (convLeaf ext k x) := by unfold convLeaf; noctx

instance u8Of_noctx : ∀ (x : SVal), NoCtx (u8Of x)
  | .some v => by have := u8Of_noctx v; unfold u8Of; noctx
  | .newtypeStruct _ v => by have := u8Of_noctx v; unfold u8Of; noctx
  | .int _ _ => by unfold u8Of; noctx
  | .none | .unit | .bool _ | .f32 _ | .f64 _ | .char _ | .str _ | .bytes _ | .seq _ | .tuple _ | .tupleStruct _ _
  | .record _ _ | .map _ | .mapRaw _ | .unitStruct _ | .unitVariant _ _ _ | .newtypeVariant _ _ _ _
  | .tupleVariant _ _ _ _ | .structVariant _ _ _ _ => by unfold u8Of; noctx

instance u8All_noctx : ∀ (xs : SVals), NoCtx (u8All xs)
  | .nil => by unfold u8All; noctx
  | .cons v r => by have := u8All_noctx r; unfold u8All; noctx

instance keyStr_noctx : ∀ (x : SVal), NoCtx (keyStr x)
  | .some v => by have := keyStr_noctx v; unfold keyStr; noctx
  | .newtypeStruct _ v => by have := keyStr_noctx v; unfold keyStr; noctx
  | .str _ => by unfold keyStr; noctx
  | .none | .unit | .bool _ | .f32 _ | .f64 _ | .char _ | .int _ _ | .bytes _ | .seq _ | .tuple _ | .tupleStruct _ _
  | .record _ _ | .map _ | .mapRaw _ | .unitStruct _ | .unitVariant _ _ _ | .newtypeVariant _ _ _ _
  | .tupleVariant _ _ _ _ | .structVariant _ _ _ _ => by unfold keyStr; noctx

instance (fs : BL) (types offs cur : List Int) (idx : Nat) : NoCtx (serializeVariant fs types offs cur idx) := by
  unfold serializeVariant; noctx

instance (s : SS) : NoCtx s.start := by unfold SS.start; noctx

instance (views : List Nat) (buf value : Bytes) : NoCtx (viewPushValue views buf value) := by
  unfold viewPushValue; noctx

instance (views : List Nat) (buf bytes : Bytes) : NoCtx (viewSeq views buf bytes) := by
  unfold viewSeq; noctx

/-- the scalar calls of every builder but the dictionary builder never annotate by themselves (the wrapper in `push`
does); a dictionary builder forwards the string to its value builder and the index to its key builder through THEIR
wrapped calls (`pushScalar_raised`, C18OwnPlain.lean) -/
theorem pushScalar_noctx (ext : Ext) [ExtPlain ext] : ∀ (b : B) (x : SVal), b.isDict = false → NoCtx (pushScalar ext b x)
  | .dictionary p idx vals index, x, h => by simp [B.isDict] at h
  | .null _ _, x, _ | .unknownVariant _, x, _ | .leaf _ _ _ _, x, _ | .bytes _ _ _ _ _, x, _ | .bytesView _ _ _ _ _, x, _
  | .fixedSizeBinary _ _ _ _ _ _, x, _ | .list _ _ _ _ _ _, x, _ | .fixedSizeList _ _ _ _ _ _ _, x, _ | .map _ _ _ _ _ _, x, _
  | .struct _ _ _ _ _ _ _, x, _ | .union _ _ _ _ _, x, _ => by unfold pushScalar; noctx

def ssPos (s : SS) : List Pos := (s.path, "Struct(..)") :: positionsL s.fields

theorem ssPos_toB (s : SS) : positions s.toB = ssPos s := by simp [SS.toB, positions, ssPos]

theorem ssPos_of_skel {s' s : SS} (h : SSkel s' s) : ssPos s' = ssPos s := by
  unfold ssPos; rw [h.1, positionsL_of_takeRestAll h.2.2.1]

theorem get_sub : ∀ (fs : BL) (i : Nat) (c : B) (m : FieldMeta), fs.get? i = some (c, m) →
    ∀ q ∈ positions c, q ∈ positionsL fs
  | .nil, _, _, _, h => by simp [BL.get?] at h
  | .cons b m' r, 0, c, m, h => by
    simp only [BL.get?, Option.some.injEq, Prod.mk.injEq] at h
    obtain ⟨rfl, rfl⟩ := h
    intro q hq; simp only [positionsL, List.mem_append]; exact .inl hq
  | .cons b m' r, k + 1, c, m, h => by
    simp only [BL.get?] at h
    intro q hq; simp only [positionsL, List.mem_append]; exact .inr (get_sub r k c m h q hq)

end SaModel.Props.C18
