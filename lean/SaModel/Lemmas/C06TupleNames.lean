import SaModel.Lemmas.C06Stable
import SaModel.Build.Builder
import Std.Data.String.ToNat
/-
C06: the tuple-name invariant `TN t` of the tracer under the repaired code (`Code.fixed`): in every tuple node
the tracer at position `i` is NAMED `toString i`.

`Tracer::new` satisfies it (`TN_new`), every successful `absorb .fixed` preserves it (`absorb_tn`), hence every tracer
`from_samples` can reach has it (`absorbAll_tn`, `steps_tn`).  The pinned code does not: `field_tracer(idx)` names every
slot it creates after `idx`, so a longer second tuple sample creates slots with repeated names; under the repaired code
`ensure_tuple` has already grown the vector to the sample's arity (`ensure_tuple_len`), so `field_tracer` never grows.

Together with the injectivity of the decimal representation (`toString_nat_inj`) the names of a tuple node are pairwise
different and the name lookup of the builder finds position `j` for the name `toString j` (`indexOfName_toString`).
-/
namespace SaModel.Lemmas.C06
open SaModel SaModel.Trace SaModel.Lemmas.C07 SaModel.Props.C07

mutual
def TN : Tracer → Prop
  | .unknown _ _ _ => True
  | .primitive _ _ _ _ _ => True
  | .list _ _ _ i => TN i
  | .map _ _ _ k v => TN k ∧ TN v
  | .struct _ _ _ fs _ _ => TNF fs
  | .tuple _ _ _ ts => TNT 0 ts
  | .union _ _ _ vs => TNV vs
/-- `k` = position of the head -/
def TNT : Nat → Tracers → Prop
  | _, .nil => True
  | k, .cons t r => t.name = toString k ∧ TN t ∧ TNT (k + 1) r
def TNF : TFields → Prop
  | .nil => True
  | .cons _ _ t r => TN t ∧ TNF r
def TNV : Variants → Prop
  | .nil => True
  | .absent r => TNV r
  | .present _ t r => TN t ∧ TNV r
end

def tnNode : Tracer → Prop
  | .tuple _ _ _ ts => ∀ i t, ts.get? i = some t → t.name = toString i
  | _ => True

mutual
theorem TN_every : ∀ t : Tracer, TN t ↔ Every tnNode t
  | .unknown _ _ _ => by simp only [TN, Every, tnNode]
  | .primitive _ _ _ _ _ => by simp only [TN, Every, tnNode]
  | .list _ _ _ i => by simp only [TN, Every, tnNode, true_and, TN_every i]
  | .map _ _ _ k v => by simp only [TN, Every, tnNode, true_and, TN_every k, TN_every v]
  | .struct _ _ _ fs _ _ => by simp only [TN, Every, tnNode, true_and, TNF_every fs]
  | .tuple _ _ _ ts => by simp only [TN, Every, tnNode, TNT_every 0 ts, Nat.zero_add, and_comm]
  | .union _ _ _ vs => by simp only [TN, Every, tnNode, true_and, TNV_every vs]
theorem TNT_every : ∀ (k : Nat) (ts : Tracers),
    TNT k ts ↔ EveryT tnNode ts ∧ ∀ i t, ts.get? i = some t → t.name = toString (k + i)
  | _, .nil => by simp [TNT, EveryT, Tracers.get?]
  | k, .cons t r => by
    simp only [TNT, EveryT, TN_every t, TNT_every (k + 1) r, Tracers.forall_get?_cons, Nat.add_zero,
      Nat.add_assoc, Nat.add_comm 1]
    exact ⟨fun ⟨h1, h2, h3, h4⟩ => ⟨⟨h2, h3⟩, h1, h4⟩, fun ⟨⟨h2, h3⟩, h1, h4⟩ => ⟨h1, h2, h3, h4⟩⟩
theorem TNF_every : ∀ fs : TFields, TNF fs ↔ EveryF tnNode fs
  | .nil => by simp only [TNF, EveryF]
  | .cons _ _ t r => by simp only [TNF, EveryF, TN_every t, TNF_every r]
theorem TNV_every : ∀ vs : Variants, TNV vs ↔ EveryV tnNode vs
  | .nil => by simp only [TNV, EveryV]
  | .absent r => by simp only [TNV, EveryV, TNV_every r]
  | .present _ t r => by simp only [TNV, EveryV, TN_every t, TNV_every r]
end

theorem TNT_iff (ts : Tracers) : TNT 0 ts ↔ ∀ i t, ts.get? i = some t → t.name = toString i ∧ TN t := by
  simp only [TNT_every, EveryT_iff, Nat.zero_add, TN_every]
  exact ⟨fun h i t hg => ⟨h.2 i t hg, h.1 i t hg⟩, fun h => ⟨fun i t hg => (h i t hg).2, fun i t hg => (h i t hg).1⟩⟩

theorem TNF_iff (fs : TFields) : TNF fs ↔ ∀ i t, fs.get? i = some t → TN t := by
  simp only [TNF_every, EveryF_iff, TN_every]

theorem TNV_iff (vs : Variants) : TNV vs ↔ ∀ i n t, vs.get? i = some (some (n, t)) → TN t := by
  simp only [TNV_every, EveryV_iff, TN_every]

theorem TN_new (n p : String) : TN (Tracer.new n p) := by simp [Tracer.new, TN]

theorem tnNode_mark (t : Tracer) : tnNode t.mark_nullable = tnNode t := by cases t <;> rfl

theorem TN_mark_nullable {t : Tracer} (h : TN t) : TN t.mark_nullable := by
  rw [TN_every, every_iff, tnNode_mark, kids_mark] at *; exact h

theorem mkTupleFields_name (path : String) (n : Nat) : ∀ k, k ≤ n → ∀ i t, (mkTupleFields path n k).get? i = some t →
    t.name = toString (n - k + i)
  | 0, _, _, _, h => by simp [mkTupleFields, Tracers.get?] at h
  | k + 1, _, 0, t, h => by simp only [mkTupleFields, Tracers.get?, Option.some.injEq] at h; subst h; rfl
  | k + 1, hk, i + 1, t, h => by
    rw [show n - (k + 1) + (i + 1) = n - k + i by omega]
    exact mkTupleFields_name path n k (by omega) i t h

theorem ensure_tuple_names {t : Tracer} {k : Nat} {n p : String} {nl : Bool} {ts : Tracers} (ht : tnNode t)
    (h : t.ensure_tuple .fixed k = .ok (.tuple n p nl ts)) : ∀ i x, ts.get? i = some x → x.name = toString i := by
  obtain ⟨_, ⟨_, he⟩ | ⟨_, _, _, ts0, rfl, he⟩⟩ := ensure_tuple_ok h <;> cases he
  · intro i x hi
    have := mkTupleFields_name t.path k k (Nat.le_refl k) i x hi
    rwa [Nat.sub_self, Nat.zero_add] at this
  · intro i x hi
    rw [if_pos (show Code.fixed.tuple_arity_nullable = true from rfl), tupleGrowNullable_eq] at hi
    by_cases hlt : i < (ts0.markFrom k).length
    · rw [growN_get?_lt _ _ _ i hlt, Tracers.get?_markFrom] at hi
      cases hg : ts0.get? i with
      | none => rw [hg] at hi; cases hi
      | some x0 =>
        rw [hg] at hi
        simp only [Option.map_some, Option.some.injEq] at hi
        subst hi
        rw [← ht i x0 hg]
        split
        · exact mark_nullable_name x0
        · rfl
    · exact growN_get?_new_at _ (fun i x => x.name = toString i) (fun acc => by rw [mark_nullable_name]; rfl) _ _ i x
        (by omega) hi

/-- one pass over the positions of a tuple sample whose positions all exist already: nothing is created, names stay -/
theorem absorbTupleL_names {c : Code} {o : Options} {path : String} {vs : List SVal} {ts ts' : Tracers}
    (hle : vs.length ≤ ts.length) (hn : ∀ i t, ts.get? i = some t → t.name = toString i)
    (h : absorbTupleL c o path ts 0 vs = .ok ts') : ∀ i t, ts'.get? i = some t → t.name = toString i := by
  obtain ⟨hext, hlen, _⟩ := absorbTupleL_ext c o path vs ts 0 ts' h
  intro i b hb
  have hlt := Tracers.get?_lt hb
  rw [hlen (by omega)] at hlt
  obtain ⟨a, ha⟩ := Tracers.get?_of_lt hlt
  obtain ⟨b', hb', hs⟩ := hext i a ha
  rw [hb] at hb'; cases hb'
  rw [hs.keeps.2.2.1]; exact hn i a ha

theorem tnNode_step (o : Options) : ∀ x t t', tnNode t → absorb .fixed o t x = .ok t' → tnNode t' := by
  intro x t t' hw h
  revert hw
  refine absorb_rel .fixed o (fun t t' => tnNode t → tnNode t') ?_ ?_ ?_ ?_ ?_ ?_ ?_ ?_ x t t' h
  · exact fun t ht => by rw [tnNode_mark]; exact ht
  · exact fun t t2 h ht => h (by rw [tnNode_mark]; exact ht)
  · intro t ty t2 _ h ht
    rcases ensure_primitive_ok h with ⟨_, _, _, _, rfl⟩ | ⟨_, _, _, _, _, _, _, _, _, _, rfl⟩ | ⟨_, _, _, rfl⟩
    · trivial
    · trivial
    · rw [tnNode_mark]; exact ht
  -- only a tuple node carries a condition of its own
  · exact fun _ _ _ _ _ _ _ _ _ _ _ => trivial
  · exact fun _ _ _ _ _ _ _ _ _ _ _ _ _ _ _ _ => trivial
  · intro t n p nl ts ts' vs _ h h2 ht
    exact absorbTupleL_names (ensure_tuple_len rfl h) (ensure_tuple_names ht h) h2
  · exact fun _ _ _ _ _ _ _ _ _ _ _ _ _ _ => trivial
  · exact fun _ _ _ _ _ _ _ _ _ _ _ _ _ _ _ _ _ _ => trivial

/-- every successful `absorb` of the repaired code preserves the tuple-name invariant (no well-formedness needed) -/
theorem absorb_tn' (o : Options) (x : SVal) (t t' : Tracer) (ht : TN t) (h : absorb .fixed o t x = .ok t') : TN t' := by
  rw [TN_every] at ht ⊢
  exact absorb_every (fun _ _ => trivial) (tnNode_step o) x t t' ht h

theorem absorb_tn (o : Options) : ∀ (x : SVal) (t t' : Tracer), WF o t → TN t → absorb .fixed o t x = .ok t' → TN t' :=
  fun x t t' _ ht h => absorb_tn' o x t t' ht h

theorem absorbAll_tn' (o : Options) (xs : List SVal) {t t' : Tracer} (ht : TN t)
    (h : absorbAll .fixed o t xs = .ok t') : TN t' := by
  rw [TN_every] at ht ⊢
  exact absorbAll_every' (fun _ _ => trivial) (tnNode_step o) xs ht h

theorem absorbAll_tn (o : Options) (xs : List SVal) {t t' : Tracer} (_hw : WF o t) (ht : TN t)
    (h : absorbAll .fixed o t xs = .ok t') : TN t' :=
  absorbAll_tn' o xs ht h

theorem steps_tn (o : Options) {t t2 : Tracer} (_hw : WF o t) (ht : TN t) (h : Steps .fixed o t t2) : TN t2 := by
  obtain ⟨ys, h⟩ := h
  exact absorbAll_tn' o ys ht h

theorem fromSamplesTracer_tn (o : Options) (xs : List SVal) {t : Tracer}
    (h : absorbAll .fixed o (Tracer.new "$" "$") xs = .ok t) : TN t :=
  absorbAll_tn' o xs (TN_new _ _) h

theorem toString_nat_inj : ∀ i j : Nat, toString i = toString j → i = j := by
  intro i j h
  rw [Nat.toString_eq_repr, Nat.toString_eq_repr] at h
  exact Nat.repr_injective h

theorem nodup_of_toString {l : List String} (h : ∀ i (hi : i < l.length), l[i] = toString i) : l.Nodup :=
  List.pairwise_iff_getElem.mpr fun i j hi hj hij he => by
    rw [h i hi, h j hj] at he
    have := toString_nat_inj i j he
    omega

theorem indexOfName_go_toString (key : String) : ∀ (names : List String) (k : Nat) (j : Nat) (hj : j < names.length),
    names[j] = key → (∀ i (h : i < names.length), i < j → names[i] ≠ key) →
    SaModel.Build.indexOfName.go key names k = some (k + j)
  | [], _, j, hj, _, _ => by simp at hj
  | n :: ns, k, 0, _, hk, _ => by
    simp only [List.getElem_cons_zero] at hk
    simp [SaModel.Build.indexOfName.go, hk]
  | n :: ns, k, j + 1, hj, hk, hne => by
    have h0 : n ≠ key := fun e => hne 0 (by simp) (by omega) (by simpa using e)
    simp only [List.getElem_cons_succ] at hk
    simp only [SaModel.Build.indexOfName.go, beq_iff_eq, if_neg h0]
    rw [indexOfName_go_toString key ns (k + 1) j (by simpa using hj) hk
      (fun i h hi e => hne (i + 1) (by simpa using h) (by omega) (by simpa using e))]
    congr 1; omega

/-- in a list whose `i`-th name is `toString i` the name lookup of the builder finds position `j` for `toString j` -/
theorem indexOfName_toString : ∀ (names : List String), (∀ i (h : i < names.length), names[i] = toString i) →
    ∀ j, j < names.length → SaModel.Build.indexOfName names (toString j) = some j := by
  intro names hn j hj
  have := indexOfName_go_toString (toString j) names 0 j hj (hn j hj)
    (fun i h hi e => by rw [hn i h] at e; have := toString_nat_inj i j e; omega)
  rw [Nat.zero_add] at this
  exact this

end SaModel.Lemmas.C06
