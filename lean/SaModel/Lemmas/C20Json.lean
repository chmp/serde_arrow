import SaModel.Ext.Json
import SaModel.Lemmas.Digits
/-
Helper lemmas for C20: what the writers of `utils.rs` emit is read back by the JSON reader.
-/
namespace SaModel.Lemmas.C20
open SaModel SaModel.Ext SaModel.Ext.Json

/-! ### `Display for usize` -/

theorem showNatF_eq : ∀ fuel n, showNatF fuel n = Digits.digits digitChar fuel n
  | 0, _ => rfl
  | fuel + 1, n => by rw [showNatF, Digits.digits, showNatF_eq fuel]

/-- the fuel-free equation of `showNat` -/
theorem showNat_eq (n : Nat) :
    showNat n = if n < 10 then [digitChar n] else showNat (n / 10) ++ [digitChar (n % 10)] := by
  simp only [showNat, showNatF_eq]; exact Digits.digits_eq n

theorem digitChar_facts : ∀ d, d < 10 → (digitChar d).isDigit = true ∧ digitVal (digitChar d) = d := by
  decide +kernel

theorem digitChar_nz : ∀ d, d < 10 → 0 < d → digitChar d ≠ '0' := by
  decide +kernel

/-- what `showNat` writes: digits worth `n`, the first not `0` unless `n = 0` -/
theorem showNat_spec (n : Nat) : (∀ c ∈ showNat n, c.isDigit = true) ∧ Digits.value digitVal (showNat n) = n ∧
    (0 < n → ∃ c ds, showNat n = c :: ds ∧ c ≠ '0') := by
  obtain ⟨h1, h2, -, -, h5⟩ := Digits.digits_spec (v := digitVal) (fun d hd => (digitChar_facts d hd).2) (n + 1) n (by omega)
  rw [showNat, showNatF_eq]
  refine ⟨fun c hc => ?_, h2, fun hn => ?_⟩
  · obtain ⟨d, hd, rfl⟩ := h1 c hc
    exact (digitChar_facts d hd).1
  · obtain ⟨d, t, e, h0, hd⟩ := h5 hn
    exact ⟨_, t, e, digitChar_nz d hd h0⟩

/-- text that may follow a number: not a digit -/
def NoDigitHead : Str → Prop
  | [] => True
  | c :: _ => c.isDigit = false

/-- a run of digits, then no digit: the reader takes the run -/
theorem readDigits_append (ds more : Str) (hd : ∀ c ∈ ds, c.isDigit = true) (h : NoDigitHead more) (acc : Nat) :
    readDigits acc (ds ++ more) = (acc * 10 ^ ds.length + Digits.value digitVal ds, more) := by
  rw [← Digits.foldl_value]
  induction ds generalizing acc with
  | nil =>
    cases more with
    | nil => rfl
    | cons c r =>
      have : c.isDigit = false := h
      simp [readDigits, this]
  | cons c r ih =>
    simp only [List.cons_append, readDigits, hd c List.mem_cons_self, if_true, List.foldl_cons]
    exact ih (fun d hd' => hd d (List.mem_cons_of_mem _ hd')) _

theorem isDigit_zero : '0'.isDigit = true := by decide
theorem isDigit_quote : '"'.isDigit = false := by decide
theorem isDigit_n : 'n'.isDigit = false := by decide
theorem isDigit_comma : ','.isDigit = false := by decide
theorem isDigit_rbracket : ']'.isDigit = false := by decide
theorem isDigit_rbrace : '}'.isDigit = false := by decide

theorem readScalar_showNat (n : Nat) (more : Str) (h : NoDigitHead more) :
    readScalar (showNat n ++ more) = some (.num n, more) := by
  obtain ⟨hd, hv, hh⟩ := showNat_spec n
  have hrd := readDigits_append (showNat n) more hd h 0
  rw [hv, Nat.zero_mul, Nat.zero_add] at hrd
  by_cases hn : n = 0
  · subst hn
    simp [readScalar, isDigit_zero, show showNat 0 = ['0'] from rfl]
  · obtain ⟨c, ds, h1, h3⟩ := hh (by omega)
    rw [h1] at hrd hd
    rw [h1]
    simp only [List.cons_append] at hrd
    simp only [List.cons_append, readScalar, hd c List.mem_cons_self, if_true, h3, if_false, hrd]

/-! ### `JsonString` -/

theorem hex4_control : ∀ n, n < 32 →
    hex4 '0' '0' (hexDigit (n / 16)) (hexDigit (n % 16)) = some (Char.ofNat n) := by
  decide +kernel

/-! the three ways `readStr` takes one character of content -/

theorem readStr_esc (e ch : Char) (rest : Str) (r : Str × Str) (he : e ≠ 'u') (hu : unescape e = some ch)
    (h : readStr rest = some r) : readStr ('\\' :: e :: rest) = some (ch :: r.1, r.2) := by
  rw [readStr.eq_def]; simp [he, hu, h]

theorem readStr_u (a b c d ch : Char) (rest : Str) (r : Str × Str) (hx : hex4 a b c d = some ch)
    (h : readStr rest = some r) : readStr ('\\' :: 'u' :: a :: b :: c :: d :: rest) = some (ch :: r.1, r.2) := by
  rw [readStr.eq_def]; simp [hx, h]

theorem readStr_plain (c : Char) (rest : Str) (r : Str × Str) (h1 : c ≠ '"') (h2 : c ≠ '\\') (h3 : ¬ c.toNat < 32)
    (h : readStr rest = some r) : readStr (c :: rest) = some (c :: r.1, r.2) := by
  rw [readStr.eq_def]; simp [h1, h2, h3, h]

theorem readStr_escapeChar (c : Char) (rest : Str) (r : Str × Str) (h : readStr rest = some r) :
    readStr (escapeChar c ++ rest) = some (c :: r.1, r.2) := by
  by_cases h1 : c = '"'
  · subst h1; exact readStr_esc '"' _ rest r (by decide) rfl h
  by_cases h2 : c = '\\'
  · subst h2; exact readStr_esc '\\' _ rest r (by decide) rfl h
  by_cases h3 : c = '\n'
  · subst h3; exact readStr_esc 'n' _ rest r (by decide) rfl h
  by_cases h4 : c = '\r'
  · subst h4; exact readStr_esc 'r' _ rest r (by decide) rfl h
  by_cases h5 : c = '\t'
  · subst h5; exact readStr_esc 't' _ rest r (by decide) rfl h
  rw [escapeChar, if_neg h1, if_neg h2, if_neg h3, if_neg h4, if_neg h5]
  by_cases h6 : c.toNat < 32
  · rw [if_pos h6]
    have hx := hex4_control c.toNat h6
    rw [Char.ofNat_toNat] at hx
    exact readStr_u _ _ _ _ _ _ _ hx h
  · rw [if_neg h6]
    exact readStr_plain c rest r h1 h2 h6 h

theorem readStr_escape (s rest : Str) : readStr (escape s ++ '"' :: rest) = some (s, rest) := by
  induction s with
  | nil => rw [readStr.eq_def]; simp [escape]
  | cons c s ih =>
    simp only [escape, List.append_assoc]
    exact readStr_escapeChar c _ _ ih

theorem readScalar_jsonString (s more : Str) :
    readScalar (jsonString s ++ more) = some (.str s, more) := by
  have : jsonString s ++ more = '"' :: (escape s ++ '"' :: more) := by simp [jsonString]
  rw [this]
  simp [readScalar, isDigit_quote, readStr_escape]

theorem readScalar_null (more : Str) : readScalar (['n', 'u', 'l', 'l'] ++ more) = some (.null, more) := by
  simp [readScalar, isDigit_n]

/-! ### `write_list` -/

/-- a rendering of one list element that the scalar reader takes back, whatever legal text follows -/
def ScalarRT (txt : Str) (v : JScalar) : Prop :=
  ∀ more, NoDigitHead more → readScalar (txt ++ more) = some (v, more)

theorem noDigitHead_items (l : List Str) (rest : Str) :
    NoDigitHead (writeItems false l ++ ']' :: rest) := by
  cases l with
  | nil => exact isDigit_rbracket
  | cons v l => exact isDigit_comma

theorem writeItems_length (l : List Str) : l.length ≤ (writeItems false l).length := by
  induction l with
  | nil => simp [writeItems]
  | cons v l ih => simp [writeItems]; omega

theorem readElems_writeItems {α} (render : α → Str) (sem : α → JScalar)
    (hrt : ∀ a, ScalarRT (render a) (sem a)) :
    ∀ (items : List α) (fuel : Nat) (rest : Str), items.length < fuel →
      readElems fuel (writeItems false (items.map render) ++ ']' :: rest) = some (items.map sem, rest) := by
  intro items
  induction items with
  | nil =>
    intro fuel rest hf
    cases fuel with
    | zero => omega
    | succ f => simp [writeItems, readElems]
  | cons a items ih =>
    intro fuel rest hf
    cases fuel with
    | zero => omega
    | succ f =>
      have h1 := hrt a _ (noDigitHead_items (items.map render) rest)
      have h2 := ih f rest (by simpa using hf)
      simp [writeItems, readElems, List.append_assoc, h1, h2]

theorem readScalar_rbracket (rest : Str) : readScalar (']' :: rest) = none := by
  simp [readScalar, isDigit_rbracket]

/-- `write_list` of scalar renderings reads back as the array of their values -/
theorem readValue_writeList {α} (render : α → Str) (sem : α → JScalar)
    (hrt : ∀ a, ScalarRT (render a) (sem a)) (items : List α) (rest : Str) :
    readValue (writeList (items.map render) ++ rest) = some (.arr (items.map sem), rest) := by
  cases items with
  | nil => simp [writeList, writeItems, readValue, readScalar_rbracket]
  | cons a items =>
    have h1 := hrt a _ (noDigitHead_items (items.map render) rest)
    have hlen := writeItems_length (items.map render)
    have h2 := readElems_writeItems render sem hrt items
      ((writeItems false (items.map render) ++ ']' :: rest).length + 1) rest
      (by simp at hlen ⊢; omega)
    simp only [List.map_cons, writeList, writeItems, List.cons_append, List.append_assoc,
      List.nil_append, readValue, if_true, h1]
    simp only [h2]

/-- one `"key":value` entry as written, with what it should read back as -/
structure Entry where
  key : Str
  keyText : Str
  valText : Str
  val : JVal

def Entry.text (e : Entry) : Str := '"' :: (e.keyText ++ '"' :: ':' :: e.valText)

def Entry.RT (e : Entry) : Prop :=
  (∀ rest, readStr (e.keyText ++ '"' :: rest) = some (e.key, rest)) ∧
    (∀ rest, readValue (e.valText ++ rest) = some (e.val, rest))

def writeMembers : Bool → List Entry → Str
  | _, [] => []
  | true, e :: rest => e.text ++ writeMembers false rest
  | false, e :: rest => ',' :: (e.text ++ writeMembers false rest)

theorem readMember_entry (e : Entry) (h : e.RT) (rest : Str) :
    readMember (e.text ++ rest) = some ((e.key, e.val), rest) := by
  have h1 := h.1 (':' :: (e.valText ++ rest))
  have h2 := h.2 rest
  simp [Entry.text, readMember, List.append_assoc, h1, h2]

theorem readMembers_write : ∀ (entries : List Entry) (fuel : Nat) (rest : Str),
    (∀ e ∈ entries, e.RT) → entries.length < fuel →
      readMembers fuel (writeMembers false entries ++ '}' :: rest) =
        some (entries.map fun e => (e.key, e.val), rest) := by
  intro entries
  induction entries with
  | nil =>
    intro fuel rest _ hf
    cases fuel with
    | zero => omega
    | succ f => simp [writeMembers, readMembers]
  | cons e entries ih =>
    intro fuel rest hrt hf
    cases fuel with
    | zero => omega
    | succ f =>
      have h1 := readMember_entry e (hrt e (by simp)) (writeMembers false entries ++ '}' :: rest)
      have h2 := ih f rest (fun e he => hrt e (List.mem_cons_of_mem _ he)) (by simpa using hf)
      simp [writeMembers, readMembers, List.append_assoc, h1, h2]

theorem writeMembers_length (l : List Entry) : l.length ≤ (writeMembers false l).length := by
  induction l with
  | nil => simp [writeMembers]
  | cons v l ih => simp [writeMembers]; omega

theorem readMember_rbrace (rest : Str) : readMember ('}' :: rest) = none := by
  simp [readMember]

/-- an object written entry by entry, comma separated, parses to exactly those entries -/
theorem jsonParse_object (entries : List Entry) (hrt : ∀ e ∈ entries, e.RT) :
    jsonParse ('{' :: (writeMembers true entries ++ ['}'])) =
      some (entries.map fun e => (e.key, e.val)) := by
  cases entries with
  | nil => simp [jsonParse, writeMembers, readObject, readMember_rbrace]
  | cons e entries =>
    have h1 := readMember_entry e (hrt e (by simp)) (writeMembers false entries ++ ['}'])
    have hlen := writeMembers_length entries
    have h2 := readMembers_write entries ((writeMembers false entries ++ ['}']).length + 1) []
      (fun e he => hrt e (List.mem_cons_of_mem _ he)) (by simp at hlen ⊢; omega)
    simp only [jsonParse, writeMembers, List.append_assoc, readObject, if_true, h1]
    simp only [h2, List.map_cons]

end SaModel.Lemmas.C20
