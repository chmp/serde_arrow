import SaModel.Lemmas.C04Schema
import SaModel.Lemmas.C01CompSmall
import SaModel.Lemmas.C04Scope
import SaModel.Lemmas.NewDTNodes
import SaModel.Lemmas.C06Room
import SaModel.Lemmas.C01New
import SaModel.Lemmas.C03New
/-
C04, acceptance half ("the schema traced from the type accepts every value of that type"): the schema-level facts the
completeness theorems of C01 (`runRows_complete'` / `toMarrow_complete'`, `Props/C01CompleteObs.lean`) ask for, for traced
schemas of the grammar `fragE` (enums included).

  mapping_total : sized t → mappingDT o t = (dt, nb, md) → (∀ n, total dt n md) ∧ defOK dt md   (C01's non-capacity exclusion
                  never applies: the traced schema of a type whose enums have 1 … 128 variants has no UnknownVariant
                  placeholder, and the first variant of every union takes `serialize_default`)
  newDT_traced  : fragE t → mappingDT o t = (dt, nb, md) → ∃ b, newDT path dt nl md = ok b ∧ FullRoom b (the fresh builder has
                  the full head room: no offsets yet, 2^32 free dictionary keys);  newRoot_traced: `room root0 = 2^31 - 1`
-/
namespace SaModel.Roundtrip
open SaModel SaModel.Spec SaModel.Build

theorem total_prim (o : TraceOpts) (p : Prim) (n : Bool) (md : Metadata) :
    total (primDT o p) n md = true ∧ defOK (primDT o p) md = true := by
  -- the three string leaves are traced alike
  have hstr : total (primDT o .str) n md = true ∧ defOK (primDT o .str) md = true := by
    simp only [primDT, strDT]; split <;> (try split) <;> simp [total, defOK]
  cases p with
  | int t => cases t <;> simp [primDT, intDT, total, defOK]
  | str | strRef | cowStr => exact hstr
  | _ => simp [primDT, total, defOK]

mutual
/-- an enum-free type is `sized` (no enum to bound): `noEnum` implies the hypothesis of `mapping_total` -/
theorem noEnum_sized : ∀ (t : Ty), noEnum t = true → sized t = true
  | .prim _, _ | .unit, _ | .unitStruct _, _ => by simp [sized]
  | .option t, h | .newtype _ t, h | .vec t, h => by
    simp only [noEnum] at h; exact noEnum_sized t h
  | .map k v, h => by
    simp only [noEnum, Bool.and_eq_true] at h
    simp [sized, noEnum_sized k h.1, noEnum_sized v h.2]
  | .struct _ fs, h => by
    simp only [noEnum] at h
    exact noEnumFields_sized fs h
  | .tuple ts, h | .tupleStruct _ ts, h => by
    simp only [noEnum] at h
    exact noEnumTys_sized ts h
  | .enum _ _, h => by simp [noEnum] at h
theorem noEnumTys_sized : ∀ (ts : Tys), noEnumTys ts = true → sizedTys ts = true
  | .nil, _ => by simp [sizedTys]
  | .cons t r, h => by
    simp only [noEnumTys, Bool.and_eq_true] at h
    simp [sizedTys, noEnum_sized t h.1, noEnumTys_sized r h.2]
theorem noEnumFields_sized : ∀ (fs : TFields), noEnumFields fs = true → sizedFields fs = true
  | .nil, _ => by simp [sizedFields]
  | .cons _ _ t r, h => by
    simp only [noEnumFields, Bool.and_eq_true] at h
    simp [sizedFields, noEnum_sized t h.1, noEnumFields_sized r h.2]
end

theorem sized_payload (vn : String) (v : Variant) : sized (v.payload vn) = sizedVariant v := by
  cases v <;> simp only [Variant.payload, sized, sizedVariant]

theorem total_strDT (o : TraceOpts) (n : Bool) (md : Metadata) :
    total (.dictionary .uint32 (strDT o)) n md = true ∧ defOK (.dictionary .uint32 (strDT o)) md = true := by
  simp [total, defOK]

/-- along the mapping: the traced field of a type whose enums have 1 … 128 variants is `total`, takes `serialize_default` and is no
`UnknownVariant` placeholder; the children of a Union are as many as the variants -/
theorem closed_total (o : TraceOpts) : MappingClosed o
    (fun t dt _ md => sized t = true → (∀ n, total dt n md = true) ∧ defOK dt md = true ∧ isUnknownVariant dt md = false)
    (fun _ ts F => sizedTys ts = true → totalFs F = true ∧ defOKFs F = true)
    (fun fs F => sizedFields fs = true → totalFs F = true ∧ defOKFs F = true)
    (fun _ vars U => sizedVariants vars = true → totalUs U = true ∧ UFields.length U = vars.length ∧
      (1 ≤ vars.length → defOKFirst U = true)) where
  prim p _ := ⟨fun n => (total_prim o p n []).1, (total_prim o p false []).2, isUnknownVariant_nil _⟩
  unit _ := by simp [total, defOK, isUnknownVariant, strategyOf_nil]
  unitStruct _ _ := by simp [total, defOK, isUnknownVariant, strategyOf_nil]
  option _ _ _ _ ih := ih
  newtype _ _ _ _ _ ih := ih
  vec _ _ _ _ ih hn := by split <;> simp [total, totalF, defOK, isUnknownVariant, (ih hn).1]
  tuple _ _ ih hn := by simp [total, defOK, isUnknownVariant, (ih hn).1, (ih hn).2]
  tupleStruct _ _ _ ih hn := by simp [total, defOK, isUnknownVariant, (ih hn).1, (ih hn).2]
  struct _ _ _ ih hn := by simp [total, defOK, isUnknownVariant, (ih hn).1, (ih hn).2]
  enumStr _ _ _ _ := ⟨fun n => (total_strDT o n []).1, (total_strDT o false []).2, rfl⟩
  enumUnion _ vars _ _ ih hn := by
    simp only [sized, Bool.and_eq_true, decide_eq_true_eq] at hn
    obtain ⟨ht, hl, hd⟩ := ih hn.2
    simp [total, defOK, isUnknownVariant, ht, hl, hn.1.2, hd hn.1.1]
  map _ _ _ _ _ _ _ _ ihk ihv hn := by
    simp only [sized, Bool.and_eq_true] at hn
    simp [total, totalF, defOK, isUnknownVariant, (ihk hn.1).1, (ihv hn.2).1]
  posNil _ _ := by simp [totalFs, defOKFs]
  posCons _ _ _ _ _ _ _ ih ihr hn := by
    simp only [sizedTys, Bool.and_eq_true] at hn
    simp [totalFs, totalF, defOKFs, defOKF, (ih hn.1).1, (ih hn.1).2.1, (ihr hn.2).1, (ihr hn.2).2]
  fieldsNil _ := by simp [totalFs, defOKFs]
  fieldsCons _ _ _ _ _ _ _ _ ih ihr hn := by
    simp only [sizedFields, Bool.and_eq_true] at hn
    simp [totalFs, totalF, defOKFs, defOKF, (ih hn.1).1, (ih hn.1).2.1, (ihr hn.2).1, (ihr hn.2).2]
  variantsNil _ _ := by simp [totalUs, UFields.length, Variants.length]
  variant _ vn v _ _ _ _ _ ih ihr hn := by
    simp only [sizedVariants, ← sized_payload vn, Bool.and_eq_true] at hn
    obtain ⟨h2, hl, _⟩ := ihr hn.2
    simp [totalUs, totalF, UFields.length, Variants.length, defOKFirst, isPlaceholderF, defOKF, (ih hn.1).1, (ih hn.1).2.1,
      (ih hn.1).2.2, h2, hl]

theorem mapping_total (o : TraceOpts) : ∀ (t : Ty) (dt : DataType) (nb : Bool) (md : Metadata),
    sized t = true → mappingDT o t = (dt, nb, md) → (∀ n, total dt n md = true) ∧ defOK dt md = true :=
  fun _ _ _ _ hn hm => ⟨((closed_total o).mapping' hm hn).1, ((closed_total o).mapping' hm hn).2.1⟩
theorem mappingPos_total (o : TraceOpts) : ∀ (ts : Tys) (i : Nat), sizedTys ts = true →
    totalFs (mappingPos o i ts) = true ∧ defOKFs (mappingPos o i ts) = true :=
  fun ts i => (closed_total o).pos i ts
theorem mappingFields_total (o : TraceOpts) : ∀ (fs : TFields), sizedFields fs = true →
    totalFs (mappingFields o fs) = true ∧ defOKFs (mappingFields o fs) = true :=
  (closed_total o).fields
/-- the children of the Union an enum is traced to: every child is `total`, there are as many children as variants, and
`serialize_default` goes through the FIRST child (no child is an `UnknownVariant` placeholder), which supports it -/
theorem mappingVariants_total (o : TraceOpts) : ∀ (vars : Variants) (i : Nat), sizedVariants vars = true →
    totalUs (mappingVariants o i vars) = true ∧ UFields.length (mappingVariants o i vars) = vars.length ∧
      (1 ≤ vars.length → defOKFirst (mappingVariants o i vars) = true) :=
  fun vars i => (closed_total o).variants i vars

/-! ### `build_builder` accepts a traced schema; the fresh builder has the full head room

Acceptance is an induction along the mapping (`closed_newDT`) whose cases are the facts about `newDT` at a container given its
children (Lemmas/NewDTNodes.lean, shared with the schemas traced from samples).  The head room is not threaded through it: a
builder `newDT` returns holds nothing and stands for its type (`newDT_fresh`, `newDT_builtFor`), the mapping only produces UInt32
dictionary keys (`closed_wide`), and then `Lemmas.C06.fresh_full` applies. -/

/-- no counter used yet, every dictionary has at least `2^31 - 1` free keys -/
def FullRoom (b : B) : Prop := used b = 0 ∧ keysRoom b = LIM
def FullRoomL (bl : BL) : Prop := usedL bl = 0 ∧ keysRoomL bl = LIM

theorem lastNat_zero : lastNat [0] = 0 := Lemmas.C06.lastNat_zero

open SaModel.Lemmas.C06 (NB NB_mk newDT_list_ok newDT_map_ok newDT_struct_of newFields_cons newDT_union_ok newUnionFields_cons
  fresh_full fresh_fullL fresh_fullU wideDT wideF wideFs wideU)

theorem closed_wide (o : TraceOpts) : MappingClosed o (fun _ dt _ _ => wideDT dt = true) (fun _ _ F => wideFs F = true)
    (fun _ F => wideFs F = true) (fun _ _ U => wideU U = true) := by
  apply MappingClosed.of_fields (leaf := by decide) (dict := fun _ => by decide)
  all_goals intros
  all_goals simp_all [wideDT, wideF, wideFs, wideU]

theorem newDT_prim (o : TraceOpts) (p : Prim) (path : String) (nl : Bool) (md : Metadata) :
    ∃ b, newDT path (primDT o p) nl md = .ok b := by
  cases p with
  | int t => cases t <;> exact ⟨_, rfl⟩
  | str | strRef | cowStr => simp only [primDT, strDT]; split <;> split <;> exact ⟨_, rfl⟩
  | _ => exact ⟨_, rfl⟩

theorem newDT_strDict (o : TraceOpts) (path : String) (nl : Bool) (md : Metadata) :
    ∃ b, newDT path (.dictionary .uint32 (strDT o)) nl md = .ok b := by
  simp only [strDT]; split <;> exact ⟨_, rfl⟩

/-- **`build_builder` accepts the field a type of the grammar is traced to**, along the mapping: the names of a struct's children are
the field names resp. the positional names, both without duplicates; the type ids of a Union's children are consecutive -/
theorem closed_newDT (o : TraceOpts) : MappingClosed o
    (fun t dt _ md => fragE t = true → ∀ path nl, ∃ b, newDT path dt nl md = .ok b)
    (fun i ts F => fragETys ts = true → ∀ path, ∃ bl, newFields path F = .ok bl ∧ bl.names = posNames i ts.length)
    (fun fs F => fragEFields fs = true → ∀ path, ∃ bl, newFields path F = .ok bl ∧ bl.names = fs.names)
    (fun i vars U => fragEVariants vars = true → ∀ path, ∃ bl, newUnionFields path U i = .ok bl) where
  prim p _ path nl := newDT_prim o p path nl []
  unit _ path _ := ⟨.null path 0, by simp [newDT, strategyOf_nil]⟩
  unitStruct _ _ path _ := ⟨.null path 0, by simp [newDT, strategyOf_nil]⟩
  option _ _ _ _ ih := ih
  newtype _ _ _ _ _ ih := ih
  vec _ _ nb _ ih hf path nl := newDT_list_ok _ (NB_mk fun p => ih hf p nb) nl [] path
  tuple _ _ ih hf path nl := by
    obtain ⟨bl, hbl, hn⟩ := ih hf path
    exact newDT_struct_of hbl (by rw [hn]; exact hasDup_posNames _ _) nl _
  tupleStruct _ _ _ ih hf path nl := by
    obtain ⟨bl, hbl, hn⟩ := ih hf path
    exact newDT_struct_of hbl (by rw [hn]; exact hasDup_posNames _ _) nl _
  struct _ _ _ ih hf path nl := by
    simp only [fragE, Bool.and_eq_true, Bool.not_eq_true'] at hf
    obtain ⟨bl, hbl, hn⟩ := ih hf.2 path
    exact newDT_struct_of hbl (by rw [hn]; exact hf.1) nl _
  enumStr _ _ _ _ path nl := newDT_strDict o path nl []
  enumUnion _ _ _ _ ih hf path nl := by
    simp only [fragE, Bool.and_eq_true] at hf
    exact newDT_union_ok (ih hf.2) nl [] path
  map _ _ _ knb _ _ vnb _ ihk ihv hf path nl := by
    simp only [fragE, Bool.and_eq_true] at hf
    exact newDT_map_ok (NB_mk fun p => ihk hf.1 p knb) (NB_mk fun p => ihv hf.2 p vnb) nl [] path
  posNil _ _ _ := ⟨.nil, rfl, rfl⟩
  posCons i _ _ _ nb _ _ ih ihr hf path := by
    simp only [fragETys, Bool.and_eq_true] at hf
    obtain ⟨bl, hbl, hn⟩ := ihr hf.2 path
    obtain ⟨b, hb⟩ := newFields_cons (NB_mk (n := posName i) fun p => ih hf.1 p nb) hbl
    exact ⟨_, hb, by simp [BL.names, metaOfField, hn, Tys.length, posNames]⟩
  fieldsNil _ _ := ⟨.nil, rfl, rfl⟩
  fieldsCons n _ _ _ _ nb _ _ ih ihr hf path := by
    simp only [fragEFields, Bool.and_eq_true] at hf
    obtain ⟨bl, hbl, hn⟩ := ihr hf.2 path
    obtain ⟨b, hb⟩ := newFields_cons (NB_mk (n := n) fun p => ih hf.1.1 p nb) hbl
    exact ⟨_, hb, by simp [BL.names, metaOfField, hn, TFields.names]⟩
  variantsNil _ _ _ := ⟨.nil, rfl⟩
  variant _ vn _ _ _ nb _ _ ih ihr hf := by
    simp only [fragEVariants, ← fragE_payload vn, Bool.and_eq_true] at hf
    exact newUnionFields_cons (NB_mk (n := vn) fun p => ih hf.1 p nb) (ihr hf.2)

theorem newDT_traced (o : TraceOpts) : ∀ (t : Ty) (dt : DataType) (nb : Bool) (md : Metadata),
    fragE t = true → mappingDT o t = (dt, nb, md) → ∀ (path : String) (nl : Bool), ∃ b, newDT path dt nl md = .ok b ∧ FullRoom b := by
  intro t dt nb md hf hm path nl
  obtain ⟨b, hb⟩ := (closed_newDT o).mapping' hm hf path nl
  exact ⟨b, hb, fresh_full (newDT_fresh _ _ _ _ _ hb).2.2 (Lemmas.C03.newDT_builtFor _ _ _ _ _ hb) ((closed_wide o).mapping' hm)⟩

theorem newPos_traced (o : TraceOpts) : ∀ (ts : Tys) (i : Nat), fragETys ts = true → ∀ (path : String),
    ∃ bl, newFields path (mappingPos o i ts) = .ok bl ∧ bl.names = posNames i ts.length ∧ FullRoomL bl := by
  intro ts i hf path
  obtain ⟨bl, hbl, hn⟩ := (closed_newDT o).pos i ts hf path
  exact ⟨bl, hbl, hn, fresh_fullL (newFields_fresh _ _ _ hbl).2 (Lemmas.C03.newFields_builtFor _ _ _ hbl) ((closed_wide o).pos i ts)⟩

theorem newFields_traced (o : TraceOpts) : ∀ (fs : TFields), fragEFields fs = true → ∀ (path : String),
    ∃ bl, newFields path (mappingFields o fs) = .ok bl ∧ bl.names = fs.names ∧ FullRoomL bl := by
  intro fs hf path
  obtain ⟨bl, hbl, hn⟩ := (closed_newDT o).fields fs hf path
  exact ⟨bl, hbl, hn, fresh_fullL (newFields_fresh _ _ _ hbl).2 (Lemmas.C03.newFields_builtFor _ _ _ hbl) ((closed_wide o).fields fs)⟩

/-- `build_builder` accepts the children of the Union an enum is traced to: the type ids `mappingVariants o i` gives are
the consecutive numbers from `i`, exactly what `newUnionFields … i` demands -/
theorem newVariants_traced (o : TraceOpts) : ∀ (vars : Variants) (i : Nat), fragEVariants vars = true → ∀ (path : String),
    ∃ bl, newUnionFields path (mappingVariants o i vars) i = .ok bl ∧ FullRoomL bl := by
  intro vars i hf path
  obtain ⟨bl, hbl⟩ := (closed_newDT o).variants i vars hf path
  exact ⟨bl, hbl, fresh_fullU (newUnionFields_fresh _ _ _ _ hbl).2 (Lemmas.C03.newDT_builtFor_strict_all.2.1 _ _ _ _ hbl).1
    ((closed_wide o).variants i vars)⟩

/-- **`ArrayBuilder::new` accepts the schema traced from a record type of the fragment**; the fresh root has the full
head room `2^31 - 1` -/
theorem newRoot_traced (o : TraceOpts) (n : String) (fs : TFields) (hf : fragE (.struct n fs) = true) :
    ∃ root0, newRoot (mappingFields o fs).toList = .ok root0 ∧ room root0 = 2147483647 := by
  obtain ⟨b, hb, hu, hk⟩ := newDT_traced o _ _ _ _ hf (by rw [mappingDT]) "$" false
  refine ⟨b, by simpa only [newRoot, fields_ofList_toList, newDT] using hb, ?_⟩
  rw [room_eq, hu, hk]; rfl

end SaModel.Roundtrip
