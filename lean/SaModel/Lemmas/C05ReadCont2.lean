import SaModel.Lemmas.C05ReadCont
/-
C02 / C05, typed reads: tuples, maps and enums honour `cast`.
-/
namespace SaModel.Read
open SaModel SaModel.Spec

/-! ### tuples over struct columns -/

theorem readTupleFields_honours : ∀ (ts : Targets), (∀ t ∈ Targets.toList ts, ReadHonours t) →
    ∀ (fs : ArrFields) (i : Nat) (vals : List (String × LVal)), SlotFields fs i vals →
    Honours (noKnownTuple ts fs (LFields.ofList vals)) (readTupleFields Fixes.all ts fs i)
      (castTuple ts fs (LFields.ofList vals))
  | .nil, _, _ => fun _ _ _ => rfl
  | .cons t rest, _, .nil => fun _ _ _ => rfl
  | .cons t rest, hS, .cons fm a frest => by
    intro i vals h
    obtain ⟨v, r, rfl, sa, sr⟩ := h.cons
    exact ((hS t (by simp [Targets.toList])).at sa).cons
      (readTupleFields_honours rest (fun t' ht' => hS t' (by simp [Targets.toList, ht'])) frest i r sr)

/-- only a struct column answers a tuple-like or struct target -/
theorem tupleClaim_other {f : ArrFields → LFields → R (Option (List DVal))} {a : Arr} {lv : LVal}
    (hs : ∀ len v fs, a ≠ .struct len v fs) : ∃ e, tupleClaim f a lv = .error e := by
  unfold tupleClaim
  split
  · exact absurd rfl (hs _ _ _)
  · exact ⟨_, rfl⟩
  · exact ⟨_, rfl⟩

/-- `tupleClaim` + `tupleVisit` (tuple, tuple struct, tuple variant) -/
theorem tupleVisit_honours {ts : Targets} (hS : ∀ t ∈ Targets.toList ts, ReadHonours t) (a : Arr) (i : Nat) (lv : LVal)
    (h : decodeAt a i = .ok lv) (hn : new Fixes.all a = .ok ()) (hp : physical a = true) (hu : utf8Ok lv = true) :
    Honours (structPart (fun fs lfs => noKnownTuple ts fs lfs) a lv)
      (tupleVisit Fixes.all (fun fs => readTupleFields Fixes.all ts fs i) a i)
      (tupleClaim (fun fs lfs => castTuple ts fs lfs) a lv) := by
  by_cases hs : ∃ len v fs, a = .struct len v fs
  · obtain ⟨len, v, fs, rfl⟩ := hs
    obtain ⟨hitem, rfl | ⟨vals, rfl, sf⟩⟩ := (Slot.mk h hn hp hu).struct
    · exact rfl
    · simp only [tupleVisit, hitem]
      exact (readTupleFields_honours ts hS fs i vals sf).andThenL fun ds => .seq (DVals.ofList ds)
  · have hs' : ∀ len v fs, a ≠ .struct len v fs := fun len v fs he => hs ⟨len, v, fs, he⟩
    obtain ⟨e, he⟩ := tupleClaim_other (f := fun fs lfs => castTuple ts fs lfs) (lv := lv) hs'
    rw [tupleVisit_other hs', he]
    exact .fails fun _ => rfl

theorem honours_tuple {ts : Targets} (hS : ∀ t ∈ Targets.toList ts, ReadHonours t) : ReadHonours (.tuple ts) := by
  intro a i lv h hn hp hu
  simp only [cast, noKnown, readAs]
  exact tupleVisit_honours hS a i lv h hn hp hu

theorem honours_tupleStruct {ts : Targets} (hS : ∀ t ∈ Targets.toList ts, ReadHonours t) :
    ReadHonours (.tupleStruct ts) := by
  intro a i lv h hn hp hu
  simp only [cast, noKnown, readAs]
  exact tupleVisit_honours hS a i lv h hn hp hu

/-! ### maps: from a struct column (field names as keys) and from a map column -/

theorem strVariant_honours : ∀ (vs : TVariants) (b : Bytes), Honours true (strVariant vs b) (castVariantStr vs b)
  | .nil, _ => rfl
  | .cons n k rest, b => by
    unfold strVariant castVariantStr
    cases hb : strBytes n == b
    · exact strVariant_honours rest b
    · cases k <;> exact rfl

/-- a field name as map key: serde's `StrDeserializer` honours `mapKeyClaim` -/
theorem strDeAs_honours (k : Target) (name : String) : Honours true (strDeAs k name) (mapKeyClaim k name) := by
  cases k with
  | char =>
    unfold strDeAs mapKeyClaim
    generalize name.toList = l
    match l with
    | [] => exact rfl
    | [_] => exact rfl
    | _ :: _ :: _ => exact rfl
  | «enum» byIndex vs =>
    cases byIndex
    · exact strVariant_honours vs _
    · exact rfl
  | _ => exact rfl

theorem structAsMap_honours {k v : Target} (hS : ReadHonours v) :
    ∀ (fs : ArrFields) (i : Nat) (vals : List (String × LVal)), SlotFields fs i vals →
    Honours (allStructAsMap (fun c w => noKnown v c w) fs (LFields.ofList vals))
      (fs.toList.mapM fun (p : FieldMeta × Arr) => do
        let kk ← strDeAs k p.1.name
        let vv ← readAs Fixes.all v p.2 i
        pure (kk, vv))
      (claimStructAsMap (mapKeyClaim k) (fun c w => cast v c w) fs (LFields.ofList vals))
  | .nil => fun _ _ _ => rfl
  | .cons fm a rest => by
    intro i vals h
    obtain ⟨w, r, rfl, sa, sr⟩ := h.cons
    rw [ArrFields.toList, List.mapM_cons]
    exact ((strDeAs_honours k fm.name).pair (hS.at sa)).cons (structAsMap_honours hS rest i r sr)

theorem readRange_pairs_honours {f1 f2 : Nat → R LVal} {g1 g2 : Nat → R DVal} {c1 c2 : LVal → Claim}
    {k1 k2 : LVal → Bool} {P1 P2 : LVal → Prop}
    (h1 : ∀ j v, f1 j = .ok v → P1 v → Honours (k1 v) (g1 j) (c1 v))
    (h2 : ∀ j v, f2 j = .ok v → P2 v → Honours (k2 v) (g2 j) (c2 v)) :
    ∀ (n s : Nat) (ks ws : List LVal), seqAt f1 s n = .ok ks → seqAt f2 s n = .ok ws →
      (∀ v ∈ ks, P1 v) → (∀ v ∈ ws, P2 v) →
      Honours (allEntries k1 k2 (LEntries.ofList (ks.zip ws)))
        (readRange (fun j => do let k ← g1 j; let v ← g2 j; pure (k, v)) s n)
        (claimEntries c1 c2 (LEntries.ofList (ks.zip ws))) :=
  seqAt2_induct (fun _ => rfl) fun s n k ks w ws hk hw pk pw ih => ((h1 s k hk pk).pair (h2 s w hw pw)).cons ih

/-- only a struct or a map column answers a map target -/
theorem honours_map_other {k v : Target} {a : Arr} {i : Nat} {lv : LVal} {kn : Bool}
    (hs : ∀ len vl fs, a ≠ .struct len vl fs) (hm : ∀ vl offs mm ks vs, a ≠ .map vl offs mm ks vs) :
    Honours kn (readAs Fixes.all (.map k v) a i) (cast (.map k v) a lv) := by
  rw [readAs_map_other hs hm]
  simp only [cast]
  split
  · exact absurd rfl (hs _ _ _)
  · exact absurd rfl (hm _ _ _ _ _)
  · exact .fails fun _ => rfl
  · exact .fails fun _ => rfl

theorem honours_map {k v : Target} (hK : ReadHonours k) (hV : ReadHonours v) : ReadHonours (.map k v) := by
  intro a i lv h hn hp hu
  cases a with
  | struct len vb fs =>
    obtain ⟨hitem, rfl | ⟨vals, rfl, sf⟩⟩ := (Slot.mk h hn hp hu).struct
    · exact rfl
    · simp only [readAs, hitem]
      exact (structAsMap_honours hV fs i vals sf).andThenE fun es => .map (DEntries.ofList es)
  | map vb offs mm ks vs =>
    rcases (Slot.mk h hn hp hu).map with rfl | ⟨kxs, wxs, s, en, rfl, hr, hkseq, hwseq, hks, hvs⟩
    · exact rfl
    · simp only [readAs, hr]
      exact (readRange_pairs_honours (P1 := (· ∈ kxs)) (P2 := (· ∈ wxs)) (fun j x hj hx => hK.at (hks j x hj hx))
        (fun j x hj hx => hV.at (hvs j x hj hx)) _ _ kxs wxs hkseq hwseq (fun _ h => h) fun _ h => h).andThenE
        fun es => .map (DEntries.ofList es)
  | _ => exact honours_map_other (fun _ _ _ => Arr.noConfusion) (fun _ _ _ _ _ => Arr.noConfusion)

/-! ### enums: from a dense union (by name / by index) and from a string column (unit variants by name) -/

def KRej (k : VKind) : Prop :=
  ∀ (child : Arr) (off : Nat) (lv : LVal) (e : Fail), decodeAt child off = .ok lv → new Fixes.all child = .ok () →
    physical child = true → utf8Ok lv = true → noKnownKind k child lv = true → castKind k child lv = .error e →
    (readKind Fixes.all k (some (child, off))).isOk = false

/-- only the Null reader answers `deserialize_unit` -/
theorem scalar_unit_fails (a : Arr) (i : Nat) (h : isNullArr a = false) :
    (scalar Fixes.all .unit a i >>= accept .unit).isOk = false := by
  refine bind_fails_left ?_
  cases a with
  | null len => cases h
  | prim ty v vals => cases ty <;> rfl
  | time ty u v vals => cases ty <;> rfl
  | bytes ty v offs data => cases ty <;> rfl
  | bytesView ty v views buffers => cases ty <;> rfl
  | _ => rfl

/-- `KindHonours k`: the `VariantAccess` call of the variant kind `k` honours `castKind k` -/
def KindHonours (k : VKind) : Prop :=
  ∀ (child : Arr) (off : Nat) (lv : LVal), decodeAt child off = .ok lv → new Fixes.all child = .ok () →
    physical child = true → utf8Ok lv = true →
    Honours (noKnownKind k child lv) (readKind Fixes.all k (some (child, off))) (castKind k child lv)

theorem KindHonours.sound {k : VKind} (h : KindHonours k) : KSound k :=
  fun child off lv _ hd hn hp hu hc => (h child off lv hd hn hp hu).sound hc

theorem KindHonours.rej {k : VKind} (h : KindHonours k) : KRej k :=
  fun child off lv _ hd hn hp hu hk hc => (h child off lv hd hn hp hu).rej hk hc

theorem Honours.ite {α} {c : Bool} {k1 k2 : Bool} {r1 r2 : R α} {c1 c2 : R (Option α)}
    (h1 : c = true → Honours k1 r1 c1) (h2 : c = false → Honours k2 r2 c2) :
    Honours (if c = true then k1 else k2) (if c = true then r1 else r2) (if c = true then c1 else c2) := by
  cases c
  · exact h2 rfl
  · exact h1 rfl

/-- only the Null reader answers `deserialize_unit` -/
theorem khonours_unit : KindHonours .unit := by
  intro child off lv h hn hp hu
  cases child with
  | null len =>
    obtain ⟨rfl, _⟩ := null_get h
    exact scalar_honours (t := .unit) rfl (.null len) off .null h hn hp hu
  | _ => exact .fails fun _ => scalar_unit_fails _ off rfl

theorem khonours_newtype {t : Target} (hS : ReadHonours t) : KindHonours (.newtype t) := by
  intro child off lv h hn hp hu
  simp only [castKind, noKnownKind, readKind]
  exact hS child off lv h hn hp hu

theorem khonours_tuple {ts : Targets} (hS : ∀ t ∈ Targets.toList ts, ReadHonours t) : KindHonours (.tuple ts) := by
  intro child off lv h hn hp hu
  simp only [castKind, noKnownKind, readKind]
  exact tupleVisit_honours hS child off lv h hn hp hu

theorem readVariantAs_honours : ∀ (vs : TVariants), (∀ p ∈ TVariants.toList vs, KindHonours p.2) →
    ∀ (sel : Option Nat) (name : String) (child : Arr) (off : Nat) (w : LVal), Slot child off w →
    Honours (noKnownVariant vs sel name child w) (readVariantAs Fixes.all vs sel name (some (child, off)))
      (castVariant vs sel name child w)
  | .nil, _ => fun _ _ _ _ _ _ => rfl
  | .cons n k rest, hV => by
    intro sel name child off w h
    simp only [castVariant, noKnownVariant, readVariantAs]
    exact .ite
      (fun _ => (hV (n, k) (by simp [TVariants.toList]) child off w h.dec h.new h.phys h.utf8).andThen
        (.enum (.str .transient (strBytes n))))
      (fun _ => readVariantAs_honours rest (fun p hp' => hV p (by simp [TVariants.toList, hp'])) _ name child off w h)

theorem readVariantAsBytes_honours : ∀ (vs : TVariants) (b : Bytes),
    Honours true (readVariantAsBytes Fixes.all vs b) (castVariantStr vs b)
  | .nil, _ => rfl
  | .cons n k rest, b => by
    unfold readVariantAsBytes castVariantStr
    cases hb : strBytes n == b
    · exact readVariantAsBytes_honours rest b
    · cases k <;> exact rfl

theorem cast_enum_null {byIndex : Bool} {vs : TVariants} {a : Arr} :
    cast (.enum byIndex vs) a .null = mustFail "null into a non-Option target" := by
  cases a <;> rfl

theorem cast_enum_str {byIndex : Bool} {vs : TVariants} {a : Arr} {b : Bytes} :
    cast (.enum byIndex vs) a (.str b) =
      if isStringLike a && !byIndex then castVariantStr vs b else mustFail "unsupported (target, column) pair" := by
  cases a <;> rfl

/-- a column that is neither a union nor string-like answers no enum target, and `cast` demands no value of it -/
theorem honours_enum_other {byIndex : Bool} {vs : TVariants} {a : Arr} {i : Nat} {lv : LVal} {k : Bool}
    (hu : ∀ types offs fs, a ≠ .union types offs fs) (hs : stringElem Fixes.all a i = none)
    (hs' : isStringLike a = false) :
    Honours k (readAs Fixes.all (.enum byIndex vs) a i) (cast (.enum byIndex vs) a lv) := by
  rw [readAs_enum_other hu, hs]
  refine .of_halves (fun d hc => ?_) (fun _ _ _ => rfl)
  simp only [cast] at hc
  split at hc
  all_goals first | exact absurd rfl (hu _ _ _) | simp [hs'] at hc

/-- a string-like column: unit variants by name -/
theorem honours_enum_string {byIndex : Bool} {vs : TVariants} {a : Arr} {i : Nat} {lv : LVal} {k : Bool} {get : R Bytes}
    (hu : ∀ types offs fs, a ≠ .union types offs fs) (hs : stringElem Fixes.all a i = some get)
    (hs' : isStringLike a = true) (hg : (lv = .null ∧ get.isOk = false) ∨ ∃ b, lv = .str b ∧ get = .ok b) :
    Honours k (readAs Fixes.all (.enum byIndex vs) a i) (cast (.enum byIndex vs) a lv) := by
  rw [readAs_enum_other hu, hs]
  rcases hg with ⟨rfl, hg⟩ | ⟨b, rfl, rfl⟩
  · rw [cast_enum_null]
    exact .fails fun _ => bind_fails_left hg
  · rw [cast_enum_str, hs']
    cases byIndex
    · exact (readVariantAsBytes_honours vs b).weaken
    · exact .fails fun _ => rfl

theorem getRequired_slot {lv : LVal} {x : R (Option Bytes)} {f : Bytes → LVal}
    (hg : (lv = .null ∧ x = .ok none) ∨ ∃ b, lv = f b ∧ x = .ok (some b)) :
    (lv = .null ∧ (getRequired x).isOk = false) ∨ ∃ b, lv = f b ∧ getRequired x = .ok b := by
  rcases hg with ⟨h1, rfl⟩ | ⟨b, h1, rfl⟩
  · exact .inl ⟨h1, rfl⟩
  · exact .inr ⟨b, h1, rfl⟩

theorem honours_enum {byIndex : Bool} {vs : TVariants} (hV : ∀ p ∈ TVariants.toList vs, KindHonours p.2) :
    ReadHonours (.enum byIndex vs) := by
  intro a i lv h hn hp hu
  cases a with
  | union types offs fs =>
    obtain ⟨pos, off, fm, child, w, rfl, hsel, hnth, hfind, sc⟩ := (Slot.mk h hn hp hu).union
    simp only [cast, noKnown, hfind, readAs, hsel, bind, Except.bind, hnth]
    cases byIndex
    · exact readVariantAs_honours vs hV none fm.name child off w sc
    · simp only [if_true, Int.toNat_natCast]
      exact readVariantAs_honours vs hV (some pos) fm.name child off w sc
  | bytes ty v offs data =>
    cases hty : isUtf8Ty ty with
    | false => exact honours_enum_other (fun _ _ _ => Arr.noConfusion) (by rw [stringElem, hty]; rfl) (by rw [isStringLike, hty])
    | true =>
      have hg := bytes_get h hu
      rw [hty] at hg
      exact honours_enum_string (fun _ _ _ => Arr.noConfusion) (by rw [stringElem, hty]; rfl) (by rw [isStringLike, hty])
        (getRequired_slot hg)
  | bytesView ty v views buffers =>
    cases hty : isUtf8View ty with
    | false => exact honours_enum_other (fun _ _ _ => Arr.noConfusion) (by rw [stringElem, hty]; rfl) (by rw [isStringLike, hty])
    | true =>
      have hg := view_get h hu
      rw [hty] at hg
      exact honours_enum_string (fun _ _ _ => Arr.noConfusion) (by rw [stringElem, hty]; rfl) (by rw [isStringLike, hty])
        (getRequired_slot hg)
  | dictionary ks vs' =>
    refine honours_enum_string (fun _ _ _ => Arr.noConfusion) rfl rfl ?_
    rcases dict_get h hn hp hu with ⟨rfl, hs⟩ | ⟨b, rfl, _, hg⟩
    · exact .inl ⟨rfl, dictGetStr_null hn hs⟩
    · exact .inr ⟨b, rfl, hg⟩
  | _ => exact honours_enum_other (fun _ _ _ => Arr.noConfusion) rfl rfl

end SaModel.Read
