import SaModel.Lemmas.C18Own
/-
C18, builder half, `own step fails`: no call returns a plain error (`pushNone_never_plain`, `push_never_plain`), and
the non-recursive parts of `push`.
-/
namespace SaModel.Props.C18
open SaModel SaModel.Build

theorem pushNone_never_plain (b : B) (msg : String) : pushNone b ≠ .error (.err msg) := by
  rw [pushNone_eq_body]; exact ctx_never_plain rfl _ _

theorem push_never_plain (ext : Ext) : ∀ (x : SVal) (b : B) (msg : String), push ext b x ≠ .error (.err msg)
  | .some v, b, msg => by rw [push]; exact push_never_plain ext v b msg
  | .newtypeStruct _ v, b, msg => by rw [push]; exact push_never_plain ext v b msg
  | .none, b, msg | .unit, b, msg | .seq _, b, msg | .tuple _, b, msg | .tupleStruct _ _, b, msg | .record _ _, b, msg
  | .map _, b, msg | .mapRaw _, b, msg | .unitVariant _ _ _, b, msg | .newtypeVariant _ _ _ _, b, msg
  | .tupleVariant _ _ _ _, b, msg | .structVariant _ _ _ _, b, msg | .bytes _, b, msg | .bool _, b, msg | .int _ _, b, msg
  | .f32 _, b, msg | .f64 _, b, msg | .char _, b, msg | .str _, b, msg | .unitStruct _, b, msg => by
    rw [push_eq_body ext b _ (by intro v h; cases h) (by intro n v h; cases h)]
    exact ctx_never_plain rfl _ _

variable {ext : Ext}

/-- an annotated error of a scalar call: only a dictionary builder produces one, and it is the OWN failure of its key /
value builder (or, for a nested dictionary, of a builder below) on the `serialize_u64` / `serialize_str` the dictionary
issued — the plain error of that child's own code, annotated by that child's wrapper -/
theorem pushScalar_raised (ext : Ext) [ExtPlain ext] : ∀ (b : B) (x : SVal),
    Raised ext (positions b) (fun c => Sub c x) (pushScalar ext b x)
  | .dictionary p idx vals index, x => by
    unfold pushScalar; dsimp only
    split
    · rename_i s hs
      have hk : ∀ i, Raised ext (positions (.dictionary p idx vals index)) (fun c => Sub c x)
          (SaModel.ctx idx.ann (pushScalar ext idx (.int .u64 i))) := fun i =>
        Raised.ctx_own idx (.val (.int .u64 i))
          (by intro q hq; simp only [positions, List.mem_cons, List.mem_append]; exact .inr (.inl hq))
          (Sub.dictKey ext i (by rw [hs]; rfl) (.self _)) (fun msg h => .body h)
          (Raised.mono (by intro q hq; simp only [positions, List.mem_cons, List.mem_append]; exact .inr (.inl hq))
            (fun c hc => Sub.dictKey ext i (by rw [hs]; rfl) hc) (pushScalar_raised ext idx _))
      have hv : Raised ext (positions (.dictionary p idx vals index)) (fun c => Sub c x)
          (SaModel.ctx vals.ann (pushScalar ext vals (.str s))) :=
        Raised.ctx_own vals (.val (.str s))
          (by intro q hq; simp only [positions, List.mem_cons, List.mem_append]; exact .inr (.inr hq))
          (Sub.dictValue ext hs (.self _)) (fun msg h => .body h)
          (Raised.mono (by intro q hq; simp only [positions, List.mem_cons, List.mem_append]; exact .inr (.inr hq))
            (fun c hc => Sub.dictValue ext hs hc) (pushScalar_raised ext vals _))
      split
      · exact Raised.bind (hk _) fun _ _ => Raised.of_ok _
      · exact Raised.bind hv fun _ _ => Raised.bind (hk _) fun _ _ => Raised.of_ok _
    · exact NoCtx.raised _
  | .null _ _, x | .unknownVariant _, x | .leaf _ _ _ _, x | .bytes _ _ _ _ _, x | .bytesView _ _ _ _ _, x
  | .fixedSizeBinary _ _ _ _ _ _, x | .list _ _ _ _ _ _, x | .fixedSizeList _ _ _ _ _ _ _, x | .map _ _ _ _ _ _, x
  | .struct _ _ _ _ _ _ _, x | .union _ _ _ _ _, x => by
    exact @NoCtx.raised _ _ _ _ _ (pushScalar_noctx ext _ x rfl)

mutual
theorem pushDefaultK_raised : ∀ (b : B) (k : Nat), Raised ext (positions b) Placeholder (pushDefaultK b k)
  | .null _ _, k => by unfold pushDefaultK; exact Raised.of_ok _
  | .unknownVariant p, k => by
    unfold pushDefaultK; split
    · exact Raised.of_ok _
    · rename_i hk
      refine Raised.ctx_own _ (.default k) subset_refl' (placeholder_default k) (fun msg h => .body ?_) (NoCtx.raised _)
      simp only [callBody, defaultBody, if_neg hk]; exact h
  | .leaf _ _ _ _, k | .bytesView _ _ _ _ _, k | .fixedSizeBinary _ _ _ _ _ _, k => by
    unfold pushDefaultK; exact NoCtx.raised _
  | .bytes _ _ _ _ _, k | .list _ _ _ _ _ _, k | .map _ _ _ _ _ _, k | .union _ .nil _ _ _, k => by
    unfold pushDefaultK
    exact Raised.ctx_own _ (.default k) subset_refl' (placeholder_default k) (fun msg h => .body h) (NoCtx.raised _)
  | .fixedSizeList p fm n len v cur el, k => by
    unfold pushDefaultK
    refine Raised.ctx_own _ (.default k) subset_refl' (placeholder_default k) (fun msg h => .body h)
      (Raised.bind (NoCtx.raised _) fun _ _ =>
        Raised.bind (Raised.monoS ?_ (pushDefaultK_raised el (k * n))) fun _ _ => Raised.of_ok _)
    simp only [positions]; exact tail_sub
  | .struct p len v fs cached next seen, k => by
    unfold pushDefaultK
    refine Raised.ctx_own _ (.default k) subset_refl' (placeholder_default k) (fun msg h => .body h)
      (Raised.bind (NoCtx.raised _) fun _ _ =>
        Raised.bind (Raised.monoS ?_ (pushDefaultKAll_raised fs k)) fun _ _ => Raised.of_ok _)
    simp only [positions]; exact tail_sub
  | .dictionary p idx vals index, k => by
    unfold pushDefaultK
    refine Raised.ctx_own _ (.default k) subset_refl' (placeholder_default k) (fun msg h => .body h)
      (Raised.bind (Raised.monoS ?_ (pushDefaultK_raised idx k)) fun _ _ => Raised.of_ok _)
    intro q hq; simp only [positions, List.mem_cons, List.mem_append]; exact .inr (.inl hq)
  | .union p (.cons c m rest) types offs cur, k => by
    unfold pushDefaultK
    refine Raised.ctx_own _ (.default k) subset_refl' (placeholder_default k) (fun msg h => .body h) ?_
    refine Raised.ite _ (NoCtx.raised _) ?_
    refine Raised.ite _ (NoCtx.raised _) ?_
    refine Raised.bind (Raised.monoS ?_ (pushDefaultKAt_raised (.cons c m rest) _ k)) fun _ _ =>
      Raised.ite _ (NoCtx.raised _) (Raised.of_ok _)
    simp only [positions]; exact tail_sub
theorem pushDefaultKAll_raised : ∀ (fs : BL) (k : Nat), Raised ext (positionsL fs) Placeholder (pushDefaultKAll fs k)
  | .nil, k => by unfold pushDefaultKAll; exact Raised.of_ok _
  | .cons b m rest, k => by
    unfold pushDefaultKAll
    refine Raised.bind (Raised.monoS ?_ (pushDefaultK_raised b k)) fun _ _ =>
      Raised.bind (Raised.monoS ?_ (pushDefaultKAll_raised rest k)) fun _ _ => Raised.of_ok _
    · intro q hq; simp only [positionsL, List.mem_append]; exact .inl hq
    · intro q hq; simp only [positionsL, List.mem_append]; exact .inr hq
theorem pushDefaultKAt_raised : ∀ (fs : BL) (j k : Nat), Raised ext (positionsL fs) Placeholder (pushDefaultKAt fs j k)
  | .nil, _, _ => by unfold pushDefaultKAt; exact Raised.of_ok _
  | .cons b m rest, 0, k => by
    unfold pushDefaultKAt
    refine Raised.bind (Raised.monoS ?_ (pushDefaultK_raised b k)) fun _ _ => Raised.of_ok _
    intro q hq; simp only [positionsL, List.mem_append]; exact .inl hq
  | .cons b m rest, j + 1, k => by
    unfold pushDefaultKAt
    refine Raised.bind (Raised.monoS ?_ (pushDefaultKAt_raised rest j k)) fun _ _ => Raised.of_ok _
    intro q hq; simp only [positionsL, List.mem_append]; exact .inr hq
end

theorem pushNone_raised : ∀ (b : B), Raised ext (positions b) Placeholder (pushNone b)
  | .null _ _ => by unfold pushNone; exact Raised.of_ok _
  | .unknownVariant _ | .leaf _ _ _ _ | .bytes _ _ _ _ _ | .bytesView _ _ _ _ _ | .fixedSizeBinary _ _ _ _ _ _
  | .list _ _ _ _ _ _ | .map _ _ _ _ _ _ | .union _ _ _ _ _ => by
    unfold pushNone
    exact Raised.ctx_own _ (.val .none) subset_refl' placeholder_none (fun msg h => .body h) (NoCtx.raised _)
  | .fixedSizeList p fm n len v cur el => by
    unfold pushNone
    refine Raised.ctx_own _ (.val .none) subset_refl' placeholder_none (fun msg h => .body h)
      (Raised.bind (NoCtx.raised _) fun _ _ =>
        Raised.bind (Raised.monoS ?_ (pushDefaultK_raised el n)) fun _ _ => Raised.of_ok _)
    simp only [positions]; exact tail_sub
  | .struct p len v fs cached next seen => by
    unfold pushNone
    refine Raised.ctx_own _ (.val .none) subset_refl' placeholder_none (fun msg h => .body h)
      (Raised.bind (NoCtx.raised _) fun _ _ =>
        Raised.bind (Raised.monoS ?_ (pushDefaultKAll_raised fs 1)) fun _ _ => Raised.of_ok _)
    simp only [positions]; exact tail_sub
  | .dictionary p idx vals index => by
    unfold pushNone
    refine Raised.ctx_own _ (.val .none) subset_refl' placeholder_none (fun msg h => .body h)
      (Raised.ite _ (NoCtx.raised _) (Raised.bind (Raised.ctx_own _ (.val .none) subset_refl' placeholder_none
        (fun msg h => absurd h (pushNone_never_plain idx msg)) (Raised.monoS ?_ (pushNone_raised idx))) fun _ _ => Raised.of_ok _))
    intro q hq; simp only [positions, List.mem_cons, List.mem_append]; exact .inr (.inl hq)

theorem endFields_raised : ∀ (fs : BL) (seen : List Bool), Raised ext (positionsL fs) Placeholder (endFields fs seen)
  | .nil, _ => by unfold endFields; exact Raised.of_ok _
  | .cons b m rest, [] => by unfold endFields; exact NoCtx.raised _
  | .cons b m rest, s :: sr => by
    unfold endFields
    have hr : Raised ext (positionsL (.cons b m rest)) Placeholder (endFields rest sr) :=
      Raised.monoS (by intro q hq; simp only [positionsL, List.mem_append]; exact .inr hq) (endFields_raised rest sr)
    simp only
    split
    · exact Raised.bind hr fun _ _ => Raised.of_ok _
    · split
      · exact NoCtx.raised _
      · refine Raised.bind (Raised.monoS ?_ (pushNone_raised b)) fun _ _ => Raised.bind hr fun _ _ => Raised.of_ok _
        intro q hq; simp only [positionsL, List.mem_append]; exact .inl hq

theorem finishRow_raised (s : SS) : Raised ext (ssPos s) Placeholder s.finishRow := by
  unfold SS.finishRow
  exact Raised.bind (Raised.monoS tail_sub (endFields_raised _ _)) fun _ _ => Raised.of_ok _

theorem element_raised {C : Call → Prop} (hP : ∀ c, Placeholder c → C c) (s : SS) (idx : Nat) (pc : B → R B)
    (hpc : ∀ c, Raised ext (positions c) C (pc c)) : Raised ext (ssPos s) C (s.element idx pc) := by
  unfold SS.element
  split
  · exact NoCtx.raised _
  · rename_i hseen
    exact Raised.ctx_own s.toB (.val .none) (by rw [ssPos_toB]; exact subset_refl') (hP _ placeholder_none)
      (fun msg h => by cases h; exact .duplicate hseen) (NoCtx.raised _)
  · split
    · exact NoCtx.raised _
    · rename_i c m hget
      refine Raised.bind (Raised.monoS ?_ (hpc c)) fun _ _ => Raised.of_ok _
      intro q hq; exact tail_sub _ (get_sub _ _ c m hget q hq)

theorem record_raised {C : Call → Prop} (hP : ∀ c, Placeholder c → C c) {p len v fs cached next seen} (pf : SS → R SS)
    (hpf : ∀ s, Raised ext (ssPos s) C (pf s)) (hsk : ∀ s s', pf s = .ok s' → SSkel s' s) :
    Raised ext (positions (.struct p len v fs cached next seen)) C (do
      let s ← SS.start ⟨p, len, v, fs, cached, next, seen⟩
      let s ← pf s
      let s ← s.finishRow
      pure s.toB : R B) := by
  have e0 : positions (.struct p len v fs cached next seen) = ssPos ⟨p, len, v, fs, cached, next, seen⟩ := by
    simp [positions, ssPos]
  rw [e0]
  refine Raised.bind (NoCtx.raised _) fun s1 h1 => ?_
  have e1 := ssPos_of_skel (SS.start_skel h1)
  refine Raised.bind (e1 ▸ hpf s1) fun s2 h2 => ?_
  have e2 := ssPos_of_skel (hsk s1 s2 h2)
  exact Raised.bind (Raised.monoC hP (e1 ▸ e2 ▸ finishRow_raised s2)) fun _ _ => Raised.of_ok _

theorem recordWith_raised {C : Call → Prop} (hP : ∀ c, Placeholder c → C c) (pf : SS → R SS)
    (hpf : ∀ s, Raised ext (ssPos s) C (pf s))
    (hsk : ∀ s s', pf s = .ok s' → SSkel s' s) : ∀ (b : B), Raised ext (positions b) C (recordWith pf b)
  | .struct p len v fs cached next seen => by unfold recordWith; exact record_raised hP pf hpf hsk
  | .unknownVariant _ | .null _ _ | .leaf _ _ _ _ | .bytes _ _ _ _ _ | .bytesView _ _ _ _ _ | .fixedSizeBinary _ _ _ _ _ _
  | .list _ _ _ _ _ _ | .fixedSizeList _ _ _ _ _ _ _ | .map _ _ _ _ _ _ | .dictionary _ _ _ _ | .union _ _ _ _ _ => by
    unfold recordWith; exact NoCtx.raised _

theorem seqLikeWith_raised {C : Call → Prop} (hP : ∀ c, Placeholder c → C c)
    (pe : Bool → B → List Int → R (B × List Int)) (pc : B → Nat → R (B × Nat))
    (pt : SS → R SS) (bytes : R Bytes) [NoCtx bytes]
    (hpe : ∀ l el o, Raised ext (positions el) C (pe l el o)) (hpc : ∀ el c, Raised ext (positions el) C (pc el c))
    (hpt : ∀ s, Raised ext (ssPos s) C (pt s)) (hsk : ∀ s s', pt s = .ok s' → SSkel s' s) (k : SeqKind) :
    ∀ (b : B), Raised ext (positions b) C (seqLikeWith pe pc pt bytes b k)
  | .list p large fm v offs el => by
    unfold seqLikeWith
    refine Raised.bind (NoCtx.raised _) fun _ _ => Raised.bind (NoCtx.raised _) fun _ _ =>
      Raised.bind (Raised.monoS ?_ (hpe _ el _)) fun _ _ => Raised.of_ok _
    simp only [positions]; exact tail_sub
  | .fixedSizeList p fm n len v cur el => by
    unfold seqLikeWith
    refine Raised.bind (NoCtx.raised _) fun _ _ => Raised.bind (Raised.monoS ?_ (hpc el 0)) fun r _ => ?_
    · simp only [positions]; exact tail_sub
    · exact NoCtx.raised _
  | .struct p len v fs cached next seen => by
    unfold seqLikeWith
    cases k
    · exact NoCtx.raised _
    · exact record_raised hP pt hpt hsk
    · exact record_raised hP pt hpt hsk
  | .bytes _ _ _ _ _ | .bytesView _ _ _ _ _ | .fixedSizeBinary _ _ _ _ _ _ | .unknownVariant _ | .null _ _ | .leaf _ _ _ _
  | .map _ _ _ _ _ _ | .dictionary _ _ _ _ | .union _ _ _ _ _ => by unfold seqLikeWith; exact NoCtx.raised _

theorem pushByteElems_raised (ext : Ext) [ExtPlain ext] {C : Call → Prop} (large : Bool) : ∀ (bs : Bytes) (el : B) (offs : List Int),
    (∀ x ∈ bs, ∀ c, Sub c (.int .u8 x.toNat) → C c) → Raised ext (positions el) C (pushByteElems ext large el offs bs)
  | [], el, offs, _ => by unfold pushByteElems; exact Raised.of_ok _
  | x :: rest, el, offs, hC => by
    unfold pushByteElems
    refine Raised.bind (NoCtx.raised _) fun _ _ =>
      Raised.bind (Raised.ctx_own el (.val (.int .u8 x.toNat)) subset_refl' (hC x (by simp) _ (.self _)) (fun msg h => .body h)
        (Raised.monoC (hC x (by simp)) (pushScalar_raised ext el _))) fun el' h' => ?_
    have e := positions_of_takeRest (pushScalar_takeRest ext el _ el' ((ctx_ok _ _ _).1 h'))
    exact e ▸ pushByteElems_raised ext large rest el' _ fun y hy => hC y (by simp [hy])

theorem union_row_raised {C : Call → Prop} {p fs types offs cur} {i : Nat} {pc : B → R B}
    (hpc : ∀ c, Raised ext (positions c) C (pc c)) :
    Raised ext (positions (.union p fs types offs cur)) C (do
      let (c, types', offs', cur') ← serializeVariant fs types offs cur i
      let c' ← pc c
      pure (.union p (fs.set i c') types' offs' cur') : R B) := by
  refine Raised.bind (NoCtx.raised _) fun r hr => ?_
  obtain ⟨c, t', o', cur'⟩ := r
  obtain ⟨m, co, hget, _⟩ := serializeVariant_ok hr
  refine Raised.bind (Raised.monoS ?_ (hpc c)) fun _ _ => Raised.of_ok _
  intro q hq; simp only [positions]; exact tail_sub _ (get_sub fs i c m hget q hq)

end SaModel.Props.C18
