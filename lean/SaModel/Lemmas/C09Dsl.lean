import SaModel.Codec.Dsl
/-
Helper lemmas for C09 about the term language: identifier characters, the scanner undoes `{:?}`, integers read back.
-/
namespace SaModel.Dsl

theorem trimStart_cons_of_not_ws {c : Char} {r : Text} (h : isWhitespace c = false) :
    trimStart (c :: r) = c :: r := by
  simp [trimStart, h]

theorem char_eq_of_toNat {c : Char} {n : Nat} (h : c.toNat = n) : c = Char.ofNat n := by
  rw [← h, Char.ofNat_toNat]

theorem isAlphanum_false_of_ge {c : Char} (hge : c.toNat ≥ 128) : c.isAlphanum = false := by
  have h1 : c.val.toNat ≥ 128 := hge
  simp only [Char.isAlphanum, Char.isAlpha, Char.isUpper, Char.isLower, Char.isDigit, Bool.or_eq_false_iff,
    Bool.and_eq_false_iff, decide_eq_false_iff_not, UInt32.le_iff_toNat_le]
  simp
  omega

theorem identChar_not_ws {c : Char} (h : isIdentChar c = true) : isWhitespace c = false := by
  cases hw : isWhitespace c with
  | false => rfl
  | true =>
    exfalso
    have hlt : c.toNat < 128 ∨ c.toNat ≥ 128 := by omega
    rcases hlt with hlt | hge
    · -- ASCII white space: 9..13, 32
      have hc : c.toNat = 9 ∨ c.toNat = 10 ∨ c.toNat = 11 ∨ c.toNat = 12 ∨ c.toNat = 13 ∨ c.toNat = 32 := by
        simp only [isWhitespace, Bool.or_eq_true, Bool.and_eq_true, decide_eq_true_eq, beq_iff_eq] at hw
        omega
      rcases hc with h' | h' | h' | h' | h' | h' <;> (have := char_eq_of_toNat h'; subst this; revert h; decide)
    · have hna := isAlphanum_false_of_ge hge
      have h1 : c ≠ '-' := by intro h; subst h; revert hge; decide
      have h2 : c ≠ '+' := by intro h; subst h; revert hge; decide
      simp [isIdentChar, isAlphanumeric, hna, hw, h1, h2] at h

theorem spanIdent_append (a rest : Text) (ha : ∀ c ∈ a, isIdentChar c = true)
    (hr : ∀ c r, rest = c :: r → isIdentChar c = false) : spanIdent (a ++ rest) = (a, rest) := by
  induction a with
  | nil =>
    cases rest with
    | nil => rfl
    | cons c r => simp [spanIdent, hr c r rfl]
  | cons c a ih =>
    have hc := ha c (by simp)
    have := ih (fun x hx => ha x (by simp [hx]))
    simp [spanIdent, hc, this]

def hexFold (code : Nat) (ds : Text) : Nat := ds.foldl (fun a c => a * 16 + (hexVal c).getD 0) code

def IsHexDigit (c : Char) : Prop := ∃ m, m < 16 ∧ c = Nat.digitChar m

theorem hexVal_digitChar {m : Nat} (h : m < 16) : hexVal (Nat.digitChar m) = some m :=
  (by decide +kernel : ∀ m, m < 16 → hexVal (Nat.digitChar m) = some m) m h

theorem digitChar_ne_brace {m : Nat} (h : m < 16) : Nat.digitChar m ≠ '}' :=
  (by decide +kernel : ∀ m, m < 16 → Nat.digitChar m ≠ '}') m h

theorem hexDigits_spec (n : Nat) : (∀ c ∈ hexDigits n, IsHexDigit c) ∧ hexFold 0 (hexDigits n) = n := by
  induction n using Nat.strongRecOn with
  | _ n ih =>
    unfold hexDigits
    rw [Nat.toDigits_eq_if (by decide)]
    split
    · rename_i h
      refine ⟨?_, ?_⟩
      · intro c hc
        simp at hc
        exact ⟨n, h, hc⟩
      · simp [hexFold, hexVal_digitChar h]
    · rename_i h
      have hlt : n / 16 < n := Nat.div_lt_self (by omega) (by decide)
      obtain ⟨ih1, ih2⟩ := ih (n / 16) hlt
      refine ⟨?_, ?_⟩
      · intro c hc
        simp only [List.mem_append, List.mem_singleton] at hc
        rcases hc with hc | hc
        · exact ih1 c hc
        · exact ⟨n % 16, Nat.mod_lt _ (by decide), hc⟩
      · have h2 : hexFold 0 (Nat.toDigits 16 (n / 16)) = n / 16 := ih2
        simp only [hexFold, List.foldl_append, List.foldl_cons, List.foldl_nil] at h2 ⊢
        rw [h2, hexVal_digitChar (Nat.mod_lt _ (by decide))]
        simp only [Option.getD_some]
        omega

theorem hexDigits_length (n : Nat) (h : n < 16 ^ 6) : 0 < (hexDigits n).length ∧ (hexDigits n).length ≤ 6 := by
  refine ⟨Nat.length_toDigits_pos, ?_⟩
  exact (Nat.length_toDigits_le_iff (by decide) (by decide)).2 h

theorem charOfNat?_toNat (c : Char) : charOfNat? c.toNat = some c := by
  have h : c.toNat.isValidChar := c.valid
  simp [charOfNat?, h, Char.ofNat_toNat]

theorem char_toNat_lt (c : Char) : c.toNat < 16 ^ 6 := by
  have h : c.toNat.isValidChar := c.valid
  simp only [Nat.isValidChar] at h
  omega

theorem scanQuoted_hex (ds : Text) : ∀ (code d : Nat) (r : Text), (∀ c ∈ ds, IsHexDigit c) → d + ds.length ≤ 6 →
    0 < d + ds.length →
    scanQuoted (.uHex code d) (ds ++ '}' :: r) =
      finishUnicode (hexFold code ds) (scanQuoted .normal r) := by
  induction ds with
  | nil =>
    intro code d r _ _ hpos
    have : 0 < d := by simpa using hpos
    simp [scanQuoted, this, hexFold]
  | cons c cs ih =>
    intro code d r hhex hlen hpos
    obtain ⟨m, hm, rfl⟩ := hhex c (by simp)
    have hne := digitChar_ne_brace hm
    have hd : d < 6 := by simp at hlen; omega
    have := ih (code * 16 + m) (d + 1) r (fun x hx => hhex x (by simp [hx])) (by simp at hlen ⊢; omega) (by omega)
    simp only [List.cons_append, scanQuoted, hne, false_and, ↓reduceIte, hd, hexVal_digitChar hm, this]
    simp [hexFold, hexVal_digitChar hm]

/-- one character: whatever `escape_debug` writes for `c`, the scanner reads as `c` -/
theorem scanQuoted_escapeChar (esc : Char → Bool) (c : Char) (t : Text) :
    scanQuoted .normal (escapeChar esc c ++ t) = pushChar c (scanQuoted .normal t) := by
  unfold escapeChar
  by_cases h0 : c = '\x00'
  · subst h0; rfl
  by_cases h1 : c = '\t'
  · subst h1; rfl
  by_cases h2 : c = '\r'
  · subst h2; rfl
  by_cases h3 : c = '\n'
  · subst h3; rfl
  by_cases h4 : c = '\\'
  · subst h4; rfl
  by_cases h5 : c = '"'
  · subst h5; rfl
  rw [if_neg h0, if_neg h1, if_neg h2, if_neg h3, if_neg h4, if_neg h5]
  cases he : esc c
  · simp only [Bool.false_eq_true, ↓reduceIte, List.cons_append, List.nil_append, scanQuoted, h5, h4]
  ·
    have hs := hexDigits_spec c.toNat
    have hl := hexDigits_length c.toNat (char_toNat_lt c)
    have := scanQuoted_hex (hexDigits c.toNat) 0 0 t hs.1 (by omega) (by omega)
    simp only [↓reduceIte, List.cons_append, List.append_assoc, List.nil_append, scanQuoted, Char.reduceEq]
    rw [this, hs.2, finishUnicode, charOfNat?_toNat]

theorem scanQuoted_escapeStr (esc : Char → Bool) (s rest : Text) :
    scanQuoted .normal (escapeStr esc s ++ '"' :: rest) = .ok (s, rest) := by
  induction s with
  | nil => rfl
  | cons c s ih => rw [escapeStr, List.append_assoc, scanQuoted_escapeChar, ih]; rfl

theorem toDigits_all_isDigit (n : Nat) : (Nat.toDigits 10 n).all Char.isDigit = true := by
  simp only [List.all_eq_true]
  intro c hc
  exact Nat.isDigit_of_mem_toDigits (by decide) (by decide) hc

theorem parseDigits_toDigits (n : Nat) : parseDigits (Nat.toDigits 10 n) = .ok n := by
  simp [parseDigits, Nat.toDigits_ne_nil, toDigits_all_isDigit]
  rfl

theorem toDigits_head_isDigit (n : Nat) : ∃ c r, Nat.toDigits 10 n = c :: r ∧ c.isDigit = true := by
  cases h : Nat.toDigits 10 n with
  | nil => exact absurd h Nat.toDigits_ne_nil
  | cons c r =>
    refine ⟨c, r, rfl, ?_⟩
    exact Nat.isDigit_of_mem_toDigits (b := 10) (n := n) (by decide) (by decide) (by simp [h])

theorem parseIntLit_showInt (signed : Bool) (lo hi n : Int) (h : lo ≤ n ∧ n ≤ hi) (hs : n < 0 → signed = true) :
    parseIntLit signed lo hi (showInt n) = .ok n := by
  unfold showInt
  split
  · rename_i hn
    have hsg := hs hn
    have hp : startsWith '+' ('-' :: Nat.toDigits 10 n.natAbs) = false := by simp [startsWith]
    have hm : startsWith '-' ('-' :: Nat.toDigits 10 n.natAbs) = true := by simp [startsWith]
    have hv : -(Int.ofNat n.natAbs) = n := by simp; omega
    simp only [parseIntLit, hp, hm, hsg, List.tail_cons, parseDigits_toDigits, ↓reduceIte, Bool.false_eq_true,
      bind, Except.bind, pure, Except.pure, hv, h, and_self]
  · rename_i hn
    obtain ⟨c, r, hcr, hd⟩ := toDigits_head_isDigit n.toNat
    have hp : startsWith '+' (Nat.toDigits 10 n.toNat) = false := by
      rw [hcr]; simp only [startsWith, decide_eq_false_iff_not]; intro hc; subst hc; revert hd; decide
    have hm : startsWith '-' (Nat.toDigits 10 n.toNat) = false := by
      rw [hcr]; simp only [startsWith, decide_eq_false_iff_not]; intro hc; subst hc; revert hd; decide
    have hv : Int.ofNat n.toNat = n := by simp; omega
    simp only [parseIntLit, hp, hm, parseDigits_toDigits, ↓reduceIte, Bool.false_eq_true,
      bind, Except.bind, pure, Except.pure, hv, h, and_self]

theorem showInt_ident (n : Int) : showInt n ≠ [] ∧ ∀ c ∈ showInt n, isIdentChar c = true := by
  have hdig : ∀ m, ∀ c ∈ Nat.toDigits 10 m, isIdentChar c = true := by
    intro m c hc
    have : c.isDigit = true := Nat.isDigit_of_mem_toDigits (by decide) (by decide) hc
    simp [isIdentChar, isAlphanumeric, Char.isAlphanum, this]
  unfold showInt
  split
  · refine ⟨by simp, ?_⟩
    intro c hc
    simp only [List.mem_cons] at hc
    rcases hc with rfl | hc
    · decide
    · exact hdig _ c hc
  · exact ⟨Nat.toDigits_ne_nil, hdig _⟩

end SaModel.Dsl
