import SaModel.Build.Push
import SaModel.Lemmas.C01List
import SaModel.Lemmas.C01DefaultAt
/-
What the operations at the leaves of a push do when they SUCCEED, builder by builder: `serialize_default` (`k` times),
the scalar calls and the loop of `StructBuilder::end`, each as one induction principle with every
`bind`, `ctx` and refusing builder already resolved (`DefaultCases`, `ScalarCases`, `endFields_ok`); a successful
`serialize_none` is one `serialize_default` on a nullable builder (`pushNone_ok_iff`).  They are to these
operations what `PushCases` (Lemmas/PushInd.lean) is to `push`: a fact about all of them gives one motive per function and
proves one clause per builder kind; hypotheses on the builder (an invariant, the successful run itself) live in the motive.
-/
namespace SaModel.Build
open SaModel SaModel.Spec

theorem ite_fail_ok {α} {c : Prop} [Decidable c] {msg : String} {x : R α} {v : α}
    (h : (if c then fail msg else x) = .ok v) : ¬ c ∧ x = .ok v := by
  split at h
  · cases h
  · exact ⟨‹_›, h⟩

/-- one placeholder slot of a builder with offsets (list, map, string / binary): `duplicate_last` -/
abbrev dupSlot (s : Validity × List Int) : R (Validity × List Int) := do
  let o ← duplicateLast s.2
  pure (setValidityDefault s.1 (s.2.length - 1), o)

/-- one placeholder slot of a builder that counts its rows (struct, fixed-size list) -/
abbrev countSlot (s : Nat × Validity) : R (Nat × Validity) := .ok (s.1 + 1, setValidityDefault s.2 s.1)

/-- one clause per builder kind; `D` speaks of `pushDefaultK`, `DL` of `pushDefaultKAll`.  The `k` slots
of the builder's own buffers are left as the `iter` the model runs (`iter_inv` and the like read them). -/
structure DefaultCases (D : B → Nat → B → Prop) (DL : BL → Nat → BL → Prop) : Prop where
  defNull : ∀ {p len k}, D (.null p len) k (.null p (len + k))
  defUnknown : ∀ {p}, D (.unknownVariant p) 0 (.unknownVariant p)
  defLeaf : ∀ {p kind v vals k v' vals'},
    iter k (fun (s : Validity × List Int) => .ok (setValidityDefault s.1 s.2.length, s.2 ++ [0])) (v, vals) = .ok (v', vals') →
    D (.leaf p kind v vals) k (.leaf p kind v' vals')
  defBytes : ∀ {p ty v offs data k v' offs'}, iter k dupSlot (v, offs) = .ok (v', offs') →
    D (.bytes p ty v offs data) k (.bytes p ty v' offs' data)
  defView : ∀ {p ty v views buf k v' views'},
    iter k (fun (s : Validity × List Nat) => .ok (setValidityDefault s.1 s.2.length, s.2 ++ [packInline []])) (v, views) =
      .ok (v', views') →
    D (.bytesView p ty v views buf) k (.bytesView p ty v' views' buf)
  defFixedSizeBinary : ∀ {p n len v buf cur k len' v' buf'},
    iter k (fun (s : Nat × Validity × Bytes) => .ok (s.1 + 1, setValidityDefault s.2.1 s.1, s.2.2 ++ List.replicate n 0))
      (len, v, buf) = .ok (len', v', buf') →
    D (.fixedSizeBinary p n len v buf cur) k (.fixedSizeBinary p n len' v' buf' cur)
  defList : ∀ {p large fm v offs el k v' offs'}, iter k dupSlot (v, offs) = .ok (v', offs') →
    D (.list p large fm v offs el) k (.list p large fm v' offs' el)
  defFixedSizeList : ∀ {p fm n len v cur el k len' v' el'}, iter k countSlot (len, v) = .ok (len', v') →
    pushDefaultK el (k * n) = .ok el' → D el (k * n) el' →
    D (.fixedSizeList p fm n len v cur el) k (.fixedSizeList p fm n len' v' cur el')
  defMap : ∀ {p mm v offs ks vs k v' offs'}, iter k dupSlot (v, offs) = .ok (v', offs') →
    D (.map p mm v offs ks vs) k (.map p mm v' offs' ks vs)
  defStruct : ∀ {p len v fs cached next seen k len' v' fs'}, iter k countSlot (len, v) = .ok (len', v') →
    pushDefaultKAll fs k = .ok fs' → DL fs k fs' →
    D (.struct p len v fs cached next seen) k (.struct p len' v' fs' cached next seen)
  defDict : ∀ {p idx vals index k idx'}, pushDefaultK idx k = .ok idx' → D idx k idx' →
    D (.dictionary p idx vals index) k (.dictionary p idx' vals index)
  defUnionNil : ∀ {p types offs cur}, D (.union p .nil types offs cur) 0 (.union p .nil types offs cur)
  /-- `k` rows of the first variant that is not a placeholder, which receives the `k` placeholders -/
  defUnion : ∀ {p fs types offs cur} {k : Nat} {c m c'}, fs.get? (firstReal fs) = some (c, m) →
    (k ≠ 0 → firstReal fs ≤ 127 ∧ cur.getD (firstReal fs) 0 + (k : Int) ≤ 2147483647) →
    pushDefaultK c k = .ok c' → D c k c' →
    D (.union p fs types offs cur) k (.union p (fs.set (firstReal fs) c') (types ++ List.replicate k (firstReal fs : Int))
      (offs ++ (List.range k).map fun (i : Nat) => cur.getD (firstReal fs) 0 + (i : Int))
      (cur.set (firstReal fs) (cur.getD (firstReal fs) 0 + (k : Int))))
  allNil : ∀ {k}, DL .nil k .nil
  allCons : ∀ {b m rest k b' r}, pushDefaultK b k = .ok b' → D b k b' → pushDefaultKAll rest k = .ok r → DL rest k r →
    DL (.cons b m rest) k (.cons b' m r)

namespace DefaultCases
variable {D : B → Nat → B → Prop} {DL : BL → Nat → BL → Prop}

mutual
theorem default (H : DefaultCases D DL) : ∀ (b : B) (k : Nat) (b' : B), pushDefaultK b k = .ok b' → D b k b'
  | .null p len, k, b', h => by cases h; exact H.defNull
  | .unknownVariant p, k, b', h => by
    rw [pushDefaultK] at h
    split at h
    · rename_i hk; cases h; subst hk; exact H.defUnknown
    · exact nomatch (ctx_ok _ _ _).1 h
  | .leaf p kind v vals, k, b', h => by
    simp only [pushDefaultK] at h
    obtain ⟨⟨v', vals'⟩, h1, h2⟩ := R.bind_ok_inv h
    cases h2
    exact H.defLeaf h1
  | .bytes p ty v offs data, k, b', h => by
    simp only [pushDefaultK, ctx_ok] at h
    obtain ⟨⟨v', offs'⟩, h1, h2⟩ := R.bind_ok_inv h
    cases h2
    exact H.defBytes h1
  | .bytesView p ty v views buf, k, b', h => by
    simp only [pushDefaultK] at h
    obtain ⟨⟨v', views'⟩, h1, h2⟩ := R.bind_ok_inv h
    cases h2
    exact H.defView h1
  | .fixedSizeBinary p n len v buf cur, k, b', h => by
    simp only [pushDefaultK] at h
    obtain ⟨⟨len', v', buf'⟩, h1, h2⟩ := R.bind_ok_inv h
    cases h2
    exact H.defFixedSizeBinary h1
  | .list p large fm v offs el, k, b', h => by
    simp only [pushDefaultK, ctx_ok] at h
    obtain ⟨⟨v', offs'⟩, h1, h2⟩ := R.bind_ok_inv h
    cases h2
    exact H.defList h1
  | .fixedSizeList p fm n len v cur el, k, b', h => by
    simp only [pushDefaultK, ctx_ok] at h
    obtain ⟨⟨len', v'⟩, h1, h2⟩ := R.bind_ok_inv h
    obtain ⟨el', h3, h4⟩ := R.bind_ok_inv h2
    cases h4
    exact H.defFixedSizeList h1 h3 (default H el (k * n) el' h3)
  | .map p mm v offs ks vs, k, b', h => by
    simp only [pushDefaultK, ctx_ok] at h
    obtain ⟨⟨v', offs'⟩, h1, h2⟩ := R.bind_ok_inv h
    cases h2
    exact H.defMap h1
  | .struct p len v fs cached next seen, k, b', h => by
    simp only [pushDefaultK, ctx_ok] at h
    obtain ⟨⟨len', v'⟩, h1, h2⟩ := R.bind_ok_inv h
    obtain ⟨fs', h3, h4⟩ := R.bind_ok_inv h2
    cases h4
    exact H.defStruct h1 h3 (defaultAll H fs k fs' h3)
  | .dictionary p idx vals index, k, b', h => by
    simp only [pushDefaultK, ctx_ok] at h
    obtain ⟨idx', h1, h2⟩ := R.bind_ok_inv h
    cases h2
    exact H.defDict h1 (default H idx k idx' h1)
  | .union p .nil types offs cur, k, b', h => by
    simp only [pushDefaultK, ctx_ok] at h
    split at h
    · rename_i hk; cases h; subst hk; exact H.defUnionNil
    · cases h
  | .union p (.cons c m rest) types offs cur, k, b', h => by
    simp only [pushDefaultK, ctx_ok] at h
    obtain ⟨g1, h⟩ := ite_fail_ok h
    obtain ⟨g2, h⟩ := ite_fail_ok h
    obtain ⟨fs', h1, h2⟩ := R.bind_ok_inv h
    obtain ⟨g3, h2⟩ := ite_fail_ok h2
    cases h2
    obtain ⟨cj, mj, hg⟩ := firstReal_get c m rest
    rw [pushDefaultKAt_eq _ _ k cj mj hg] at h1
    obtain ⟨c', h3, h4⟩ := R.bind_ok_inv h1
    cases h4
    exact H.defUnion hg (fun hk => ⟨by omega, by omega⟩) h3 (defaultAt H _ _ cj mj hg k c' h3)
theorem defaultAll (H : DefaultCases D DL) : ∀ (fs : BL) (k : Nat) (fs' : BL), pushDefaultKAll fs k = .ok fs' → DL fs k fs'
  | .nil, k, fs', h => by cases h; exact H.allNil
  | .cons b m rest, k, fs', h => by
    simp only [pushDefaultKAll] at h
    obtain ⟨b', h1, h2⟩ := R.bind_ok_inv h
    obtain ⟨r', h3, h4⟩ := R.bind_ok_inv h2
    cases h4
    exact H.allCons h1 (default H b k b' h1) h3 (defaultAll H rest k r' h3)
/-- `default` at a child reached through `get?` (the form the recursion into a union's variant needs) -/
theorem defaultAt (H : DefaultCases D DL) : ∀ (fs : BL) (j : Nat) (c : B) (m : FieldMeta), fs.get? j = some (c, m) →
    ∀ (k : Nat) (c' : B), pushDefaultK c k = .ok c' → D c k c'
  | .nil, _, _, _, h => by simp [BL.get?] at h
  | .cons b _ _, 0, c, m, h => by
    simp only [BL.get?, Option.some.injEq, Prod.mk.injEq] at h
    rw [← h.1]
    exact default H b
  | .cons _ _ rest, j + 1, c, m, h => defaultAt H rest j c m (by simpa [BL.get?] using h)
end

end DefaultCases

/-- **`serialize_none` is one `serialize_default` on a nullable builder**, and refused by every other builder: a fact about
the successful runs of `pushDefaultK` at `k = 1` is a fact about `pushNone` -/
theorem pushNone_ok_iff : ∀ {b b' : B}, pushNone b = .ok b' ↔ b.isNullable = true ∧ pushDefaultK b 1 = .ok b'
  | .null _ _, _ => by simp [pushNone, pushDefaultK, B.isNullable]
  | .unknownVariant _, _ => by simp [pushNone, ctx_ok, B.isNullable, fail]
  | .leaf _ _ v _, _ => by
    cases v <;> simp [pushNone, pushDefaultK, ctx_ok, B.isNullable, iter, setValidity, setValidityDefault, fail, bind,
      Except.bind, pure, Except.pure]
  | .bytes _ _ v offs _, _ => by
    cases v <;> cases hd : duplicateLast offs <;> simp [pushNone, pushDefaultK, ctx_ok, B.isNullable, iter, setValidity,
      setValidityDefault, fail, bind, Except.bind, pure, Except.pure, hd]
  | .bytesView _ _ v _ _, _ => by
    cases v <;> simp [pushNone, pushDefaultK, ctx_ok, B.isNullable, iter, setValidity, setValidityDefault, fail, bind,
      Except.bind, pure, Except.pure]
  | .fixedSizeBinary _ _ _ v _ _, _ => by
    cases v <;> simp [pushNone, pushDefaultK, ctx_ok, B.isNullable, iter, setValidity, setValidityDefault, fail, bind,
      Except.bind, pure, Except.pure]
  | .list _ _ _ v offs _, _ => by
    cases v <;> cases hd : duplicateLast offs <;> simp [pushNone, pushDefaultK, ctx_ok, B.isNullable, iter, setValidity,
      setValidityDefault, fail, bind, Except.bind, pure, Except.pure, hd]
  | .fixedSizeList _ _ _ _ v _ _, _ => by
    cases v <;> simp [pushNone, pushDefaultK, ctx_ok, B.isNullable, iter, setValidity, setValidityDefault, fail, bind,
      Except.bind, pure, Except.pure]
  | .map _ _ v offs _ _, _ => by
    cases v <;> cases hd : duplicateLast offs <;> simp [pushNone, pushDefaultK, ctx_ok, B.isNullable, iter, setValidity,
      setValidityDefault, fail, bind, Except.bind, pure, Except.pure, hd]
  | .struct _ _ v _ _ _ _, _ => by
    cases v <;> simp [pushNone, pushDefaultK, ctx_ok, B.isNullable, iter, setValidity, setValidityDefault, fail, bind,
      Except.bind, pure, Except.pure]
  | .dictionary _ idx _ _, _ => by
    rw [pushNone, pushDefaultK]
    simp only [ctx_ok, B.isNullable]
    cases hn : idx.isNullable
    · simp [fail]
    · simp only [R.bind_eq_ok, ctx_ok, pushNone_ok_iff (b := idx), hn, true_and, Bool.true_eq_false, if_false]
  | .union _ _ _ _ _, _ => by simp [pushNone, ctx_ok, B.isNullable, fail]

/-- what `StructBuilder::end` did to the fields: one that was seen stays, one that was not is nullable and received a null -/
theorem endFields_ok {P : BL → List Bool → BL → Prop} (nil : ∀ {seen}, P .nil seen .nil)
    (seen : ∀ {b m rest sr r}, endFields rest sr = .ok r → P rest sr r → P (.cons b m rest) (true :: sr) (.cons b m r))
    (unseen : ∀ {b m rest sr b' r}, m.nullable = true → pushNone b = .ok b' → endFields rest sr = .ok r → P rest sr r →
      P (.cons b m rest) (false :: sr) (.cons b' m r)) :
    ∀ (fs : BL) (sn : List Bool) (fs' : BL), endFields fs sn = .ok fs' → P fs sn fs'
  | .nil, _, fs', h => by cases h; exact nil
  | .cons b m rest, [], fs', h => nomatch h
  | .cons b m rest, true :: sr, fs', h => by
    simp only [endFields, if_true] at h
    obtain ⟨r, h1, h2⟩ := R.bind_ok_inv h
    cases h2
    exact seen h1 (endFields_ok nil seen unseen rest sr r h1)
  | .cons b m rest, false :: sr, fs', h => by
    simp only [endFields, Bool.false_eq_true, if_false] at h
    obtain ⟨hn, h⟩ := ite_fail_ok h
    obtain ⟨b', h0, h⟩ := R.bind_ok_inv h
    obtain ⟨r, h1, h2⟩ := R.bind_ok_inv h
    cases h2
    exact unseen (by simpa using hn) h0 h1 (endFields_ok nil seen unseen rest sr r h1)

/-- the bytes a string / binary builder stores for a scalar call: those of a `&str` (`utf8`), or the argument of
`serialize_bytes` -/
def ScalarBytes (ext : Ext) (utf8 : Bool) (x : SVal) (bs : Bytes) : Prop :=
  if utf8 then ∃ s, scalarToString ext x = some s ∧ bs = strBytes s else x = .bytes bs

namespace ScalarBytes
theorem of_ok {ext : Ext} {utf8 : Bool} {x : SVal} {bs : Bytes}
    (h : (if utf8 then
        match scalarToString ext x with
        | some s => .ok (strBytes s)
        | none => notSupported s!"serialize_{x.kind}"
      else match x with
        | .bytes bs => .ok bs
        | _ => notSupported s!"serialize_{x.kind}" : R Bytes) = .ok bs) : ScalarBytes ext utf8 x bs := by
  unfold ScalarBytes
  split at h
  · rw [if_pos ‹_›]
    split at h
    · cases h; exact ⟨_, ‹_›, rfl⟩
    · cases h
  · rw [if_neg ‹_›]
    split at h
    · cases h; rfl
    · cases h
end ScalarBytes

/-- one clause per builder that takes a scalar call; a dictionary hands the position of the string to its key builder
and a new string to its value builder -/
structure ScalarCases (ext : Ext) (S : B → SVal → B → Prop) : Prop where
  null : ∀ {p len n}, S (.null p len) (.unitStruct n) (.null p (len + 1))
  leaf : ∀ {p k v vals x val v'}, convLeaf ext k x = .ok val → setValidity v vals.length true = .ok v' →
    S (.leaf p k v vals) x (.leaf p k v' (vals ++ [val]))
  bytes : ∀ {p ty v offs data x bs v' o1 o2}, ScalarBytes ext (isUtf8Ty ty) x bs →
    setValidity v (offs.length - 1) true = .ok v' → duplicateLast offs = .ok o1 →
    incrementLast true (isLargeTy ty) o1 bs.length = .ok o2 →
    S (.bytes p ty v offs data) x (.bytes p ty v' o2 (data ++ bs))
  view : ∀ {p ty v views buf x bs views' buf' v'}, ScalarBytes ext (ty == .utf8View) x bs →
    viewPushValue views buf bs = .ok (views', buf') → setValidity v views.length true = .ok v' →
    S (.bytesView p ty v views buf) x (.bytesView p ty v' views' buf')
  fixedSizeBinary : ∀ {p n len v buf cur bs v'}, bs.length = n → setValidity v len true = .ok v' →
    S (.fixedSizeBinary p n len v buf cur) (.bytes bs) (.fixedSizeBinary p n (len + 1) v' (buf ++ bs) cur)
  dictOld : ∀ {p idx vals index x s i idx'}, scalarToString ext x = some s → indexOfName index s = some i →
    pushScalar ext idx (.int .u64 i) = .ok idx' → S idx (.int .u64 i) idx' →
    S (.dictionary p idx vals index) x (.dictionary p idx' vals index)
  dictNew : ∀ {p idx vals index x s vals' idx'}, scalarToString ext x = some s → indexOfName index s = none →
    pushScalar ext vals (.str s) = .ok vals' → S vals (.str s) vals' →
    pushScalar ext idx (.int .u64 index.length) = .ok idx' → S idx (.int .u64 index.length) idx' →
    S (.dictionary p idx vals index) x (.dictionary p idx' vals' (index ++ [s]))

namespace ScalarCases
theorem scalar {ext : Ext} {S : B → SVal → B → Prop} (H : ScalarCases ext S) :
    ∀ (b : B) (x : SVal) (b' : B), pushScalar ext b x = .ok b' → S b x b'
  | .null p len, x, b', h => by
    unfold pushScalar at h
    split at h
    · cases h; exact H.null
    · cases h
  | .unknownVariant p, x, b', h => nomatch h
  | .leaf p k v vals, x, b', h => by
    simp only [pushScalar] at h
    obtain ⟨val, h1, h2⟩ := R.bind_ok_inv h
    obtain ⟨v', h3, h4⟩ := R.bind_ok_inv h2
    cases h4
    exact H.leaf h1 h3
  | .bytes p ty v offs data, x, b', h => by
    simp only [pushScalar] at h
    obtain ⟨bs, h1, h2⟩ := R.bind_ok_inv h
    obtain ⟨v', h3, h4⟩ := R.bind_ok_inv h2
    obtain ⟨o1, h5, h6⟩ := R.bind_ok_inv h4
    obtain ⟨o2, h7, h8⟩ := R.bind_ok_inv h6
    cases h8
    exact H.bytes (.of_ok h1) h3 h5 h7
  | .bytesView p ty v views buf, x, b', h => by
    simp only [pushScalar] at h
    obtain ⟨bs, h1, h2⟩ := R.bind_ok_inv h
    obtain ⟨⟨views', buf'⟩, h3, h4⟩ := R.bind_ok_inv h2
    obtain ⟨v', h5, h6⟩ := R.bind_ok_inv h4
    cases h6
    exact H.view (.of_ok h1) h3 h5
  | .fixedSizeBinary p n len v buf cur, x, b', h => by
    unfold pushScalar at h
    split at h
    · obtain ⟨hn, h⟩ := ite_fail_ok h
      obtain ⟨v', h3, h4⟩ := R.bind_ok_inv h
      cases h4
      exact H.fixedSizeBinary (by simpa using hn) h3
    · cases h
  | .dictionary p idx vals index, x, b', h => by
    unfold pushScalar at h
    simp only at h
    split at h
    · rename_i s hs
      split at h
      · rename_i i hi
        obtain ⟨idx', h1, h2⟩ := R.bind_ok_inv h
        cases h2
        rw [ctx_eq_ok] at h1
        exact H.dictOld hs hi h1 (scalar H idx _ idx' h1)
      · rename_i hi
        obtain ⟨vals', h1, h2⟩ := R.bind_ok_inv h
        obtain ⟨idx', h3, h4⟩ := R.bind_ok_inv h2
        cases h4
        rw [ctx_eq_ok] at h1 h3
        exact H.dictNew hs hi h1 (scalar H vals _ vals' h1) h3 (scalar H idx _ idx' h3)
    · cases h
  | .list .., x, b', h | .fixedSizeList .., x, b', h | .map .., x, b', h | .struct .., x, b', h
  | .union .., x, b', h => nomatch h
end ScalarCases

end SaModel.Build
