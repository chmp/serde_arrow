import SaModel.Lemmas.C10TakePush
import SaModel.Lemmas.C03LR
/-
C04, removing `ExtOK`: the external chrono parsers of `Ext` (`parseDate`, `parseTime`, `parseTimestamp`,
`parseDuration`) are consulted only by `convLeaf ext k (.str s)` for a TEMPORAL leaf kind `k` (Date32 / Date64 / Time32 /
Time64 / Timestamp / Duration).  A builder without such a leaf (`noParsedB`) therefore behaves the same under `ext` and
under `refuseExt ext` — the same record with the four parsers replaced by ones that always refuse —, and `refuseExt ext`
satisfies `ExtOK` trivially (`refuseExt_ok`).

This file: the definitions, invariance of `noParsedB` under `take`, and the non-recursive part of the congruence
(`convLeaf`, `scalarToString`, `pushScalar`, `pushByteElems`, and the combinators `SS.element`, `recordWith`,
`seqLikeWith`, one union row).  The mutual block `push` is in C04ExtPush.lean, `finish` / `toMarrow` and the schema side in
C04ExtFinish.lean.
-/
namespace SaModel.Build
open SaModel SaModel.Spec

/-- `ext` with the four chrono parsers replaced by parsers that refuse every string (the float printers and the decimal
conversions are kept) -/
def refuseExt (ext : Ext) : Ext :=
  { ext with
    parseDate := fun _ _ => fail "ext"
    parseTime := fun _ _ => fail "ext"
    parseTimestamp := fun _ _ _ => fail "ext"
    parseDuration := fun _ _ => fail "ext" }

/-- the refusing parsers return nothing, in particular nothing out of range -/
theorem refuseExt_ok (ext : Ext) : Lemmas.C03.ExtOK (refuseExt ext) where
  date32 := by intro s v h; cases h
  date64 := by intro s v h; cases h
  time := by intro u s v h; cases h
  timestamp := by intro u utc s v h; cases h
  duration := by intro u s v h; cases h

/-- the leaf kinds whose `serialize_str` goes through an external parser -/
def LeafKind.isParsed : LeafKind → Bool
  | .date32 | .date64 | .time32 _ | .time64 _ | .duration _ | .timestamp _ _ _ => true
  | _ => false

mutual
def noParsedB : B → Bool
  | .leaf _ k _ _ => !k.isParsed
  | .list _ _ _ _ _ el => noParsedB el
  | .fixedSizeList _ _ _ _ _ _ el => noParsedB el
  | .map _ _ _ _ ks vs => noParsedB ks && noParsedB vs
  | .struct _ _ _ fs _ _ _ => noParsedBL fs
  | .dictionary _ idx vals _ => noParsedB idx && noParsedB vals
  | .union _ fs _ _ _ => noParsedBL fs
  | _ => true
def noParsedBL : BL → Bool
  | .nil => true
  | .cons b _ r => noParsedB b && noParsedBL r
end

mutual
theorem noParsedB_takeRest : ∀ (b : B), noParsedB (takeRest b) = noParsedB b
  | .null _ _ | .unknownVariant _ | .leaf _ _ _ _ | .bytes _ _ _ _ _ | .bytesView _ _ _ _ _
  | .fixedSizeBinary _ _ _ _ _ _ => rfl
  | .list _ _ _ _ _ el | .fixedSizeList _ _ _ _ _ _ el => noParsedB_takeRest el
  | .map _ _ _ _ ks vs | .dictionary _ ks vs _ => by
    simp only [takeRest, noParsedB, noParsedB_takeRest ks, noParsedB_takeRest vs]
  | .struct _ _ _ fs _ _ _ | .union _ fs _ _ _ => noParsedBL_takeRest fs
theorem noParsedBL_takeRest : ∀ (fs : BL), noParsedBL (takeRestAll fs) = noParsedBL fs
  | .nil => rfl
  | .cons b _ r => by simp only [takeRestAll, noParsedBL, noParsedB_takeRest b, noParsedBL_takeRest r]
end

theorem noParsedB.of_takeRest {b b' : B} (h : takeRest b' = takeRest b) (hs : noParsedB b = true) :
    noParsedB b' = true := by
  rw [← noParsedB_takeRest b', h, noParsedB_takeRest b]; exact hs

theorem noParsedBL.of_takeRest {fs fs' : BL} (h : takeRestAll fs' = takeRestAll fs) (hs : noParsedBL fs = true) :
    noParsedBL fs' = true := by
  rw [← noParsedBL_takeRest fs', h, noParsedBL_takeRest fs]; exact hs

theorem noParsedBL.of_skel {s s' : SS} (h : SSkel s' s) (hs : noParsedBL s.fields = true) :
    noParsedBL s'.fields = true :=
  noParsedBL.of_takeRest h.2.2.1 hs

theorem noParsedBL_get : ∀ (fs : BL) (i : Nat) (c : B) (m : FieldMeta), noParsedBL fs = true → fs.get? i = some (c, m) →
    noParsedB c = true
  | .nil, _, _, _, _, h => by simp [BL.get?] at h
  | .cons b m' r, 0, c, m, hs, h => by
    simp only [BL.get?, Option.some.injEq, Prod.mk.injEq] at h
    simp only [noParsedBL, Bool.and_eq_true] at hs
    rw [← h.1]; exact hs.1
  | .cons b m' r, i + 1, c, m, hs, h => by
    simp only [BL.get?] at h
    simp only [noParsedBL, Bool.and_eq_true] at hs
    exact noParsedBL_get r i c m hs.2 h

theorem bind_congr_ok {α β} (m : R α) (f g : α → R β) (h : ∀ a, m = .ok a → f a = g a) : (m >>= f) = (m >>= g) :=
  R.bind_congr_ok h

theorem convLeaf_refuse (ext : Ext) (k : LeafKind) (x : SVal) (hk : k.isParsed = false) :
    convLeaf ext k x = convLeaf (refuseExt ext) k x := by
  cases k <;> first | (simp [LeafKind.isParsed] at hk; done) | (cases x <;> rfl)

theorem scalarToString_refuse (ext : Ext) (x : SVal) : scalarToString (refuseExt ext) x = scalarToString ext x := by
  cases x <;> rfl

theorem pushScalar_refuse (ext : Ext) : ∀ (b : B) (x : SVal), noParsedB b = true →
    pushScalar ext b x = pushScalar (refuseExt ext) b x
  | .null _ _, x, _ => by simp only [pushScalar]
  | .unknownVariant _, x, _ => by simp only [pushScalar]
  | .leaf p k v vals, x, h => by
    simp only [noParsedB, Bool.not_eq_true'] at h
    simp only [pushScalar, convLeaf_refuse ext k x h]
  | .bytes _ _ _ _ _, x, _ => by simp only [pushScalar, scalarToString_refuse]
  | .bytesView _ _ _ _ _, x, _ => by simp only [pushScalar, scalarToString_refuse]
  | .fixedSizeBinary _ _ _ _ _ _, x, _ => by simp only [pushScalar]
  | .dictionary p idx vals index, x, h => by
    simp only [noParsedB, Bool.and_eq_true] at h
    simp only [pushScalar, scalarToString_refuse, pushScalar_refuse ext idx _ h.1, pushScalar_refuse ext vals _ h.2]
  | .list _ _ _ _ _ _, x, _ => by simp only [pushScalar]
  | .fixedSizeList _ _ _ _ _ _ _, x, _ => by simp only [pushScalar]
  | .map _ _ _ _ _ _, x, _ => by simp only [pushScalar]
  | .struct _ _ _ _ _ _ _, x, _ => by simp only [pushScalar]
  | .union _ _ _ _ _, x, _ => by simp only [pushScalar]

theorem SS.element_refuse {s : SS} {idx : Nat} {pc pc' : B → R B}
    (hs : noParsedBL s.fields = true) (hpc : ∀ c, noParsedB c = true → pc c = pc' c) :
    s.element idx pc = s.element idx pc' := by
  unfold SS.element
  split
  · rfl
  · rfl
  · split
    · rfl
    · rename_i c m hget
      rw [hpc c (noParsedBL_get _ _ _ _ hs hget)]

theorem record_refuse {p len v fs cached next seen} {pf pf' : SS → R SS}
    (hs : noParsedBL fs = true) (hpf : ∀ s, noParsedBL s.fields = true → pf s = pf' s) :
    (do
      let s ← SS.start ⟨p, len, v, fs, cached, next, seen⟩
      let s ← pf s
      let s ← s.finishRow
      pure s.toB : R B) =
    (do
      let s ← SS.start ⟨p, len, v, fs, cached, next, seen⟩
      let s ← pf' s
      let s ← s.finishRow
      pure s.toB : R B) := by
  refine bind_congr_ok _ _ _ fun s1 h1 => ?_
  rw [hpf s1 (noParsedBL.of_skel (SS.start_skel h1) hs)]

theorem recordWith_refuse {pf pf' : SS → R SS} (hpf : ∀ s, noParsedBL s.fields = true → pf s = pf' s) :
    ∀ (b : B), noParsedB b = true → recordWith pf b = recordWith pf' b := by
  intro b h
  cases b with
  | struct p len v fs cached next seen =>
    simp only [noParsedB] at h
    simp only [recordWith]
    exact record_refuse h hpf
  | _ => simp only [recordWith]

theorem seqLikeWith_refuse {pe pe' : Bool → B → List Int → R (B × List Int)} {pc pc' : B → Nat → R (B × Nat)}
    {pt pt' : SS → R SS} {bytes : R Bytes}
    (hpe : ∀ large el offs, noParsedB el = true → pe large el offs = pe' large el offs)
    (hpc : ∀ el c, noParsedB el = true → pc el c = pc' el c)
    (hpt : ∀ s, noParsedBL s.fields = true → pt s = pt' s) :
    ∀ (b : B) (k : SeqKind), noParsedB b = true →
      seqLikeWith pe pc pt bytes b k = seqLikeWith pe' pc' pt' bytes b k := by
  intro b k h
  cases b with
  | list p large fm v offs el =>
    simp only [noParsedB] at h
    simp only [seqLikeWith]
    refine bind_congr_ok _ _ _ fun v' _ => ?_
    refine bind_congr_ok _ _ _ fun o' _ => ?_
    rw [hpe large el o' h]
  | fixedSizeList p fm n len v cur el =>
    simp only [noParsedB] at h
    simp only [seqLikeWith]
    refine bind_congr_ok _ _ _ fun v' _ => ?_
    rw [hpc el 0 h]
  | struct p len v fs cached next seen =>
    simp only [noParsedB] at h
    cases k with
    | seq => simp only [seqLikeWith]
    | tuple => simp only [seqLikeWith]; exact record_refuse h hpt
    | tupleStruct => simp only [seqLikeWith]; exact record_refuse h hpt
  | _ => simp only [seqLikeWith]

theorem union_row_refuse {p fs types offs cur} {i : Nat} {pc pc' : B → R B}
    (hs : noParsedBL fs = true) (hpc : ∀ c, noParsedB c = true → pc c = pc' c) :
    (do
      let (c, types', offs', cur') ← serializeVariant fs types offs cur i
      let c' ← pc c
      pure (.union p (fs.set i c') types' offs' cur') : R B) =
    (do
      let (c, types', offs', cur') ← serializeVariant fs types offs cur i
      let c' ← pc' c
      pure (.union p (fs.set i c') types' offs' cur') : R B) := by
  refine bind_congr_ok _ _ _ fun r hr => ?_
  obtain ⟨m, co, hget, _⟩ := serializeVariant_ok hr
  obtain ⟨c, t', o', cur'⟩ := r
  simp only
  rw [hpc c (noParsedBL_get _ _ _ _ hs hget)]

end SaModel.Build
