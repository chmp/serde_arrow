import SaModel.Lemmas.C01Comb
import SaModel.Lemmas.C01NewInd
/-
A freshly built builder (`build_builder`) is well formed, holds no rows and is a fixed point of `take`.
-/
namespace SaModel.Build
open SaModel SaModel.Spec

theorem hasDup_false_nodup : ∀ (l : List String), hasDup l = false → l.Nodup
  | [], _ => List.nodup_nil
  | n :: ns, h => by
    simp only [hasDup, Bool.or_eq_false_iff] at h
    rw [List.nodup_cons]
    refine ⟨?_, hasDup_false_nodup ns h.2⟩
    intro hm
    have : ns.contains n = true := by simpa using hm
    rw [this] at h; exact absurd h.1 (by simp)

def Fresh (b : B) : Prop := WFB b ∧ dec b = [] ∧ takeRest b = b

theorem VLen_new (nullable : Bool) : VLen (newValidity nullable) 0 := by
  intro bits h
  cases nullable <;> simp [newValidity] at h
  subst h; rfl

theorem map_new (nullable : Bool) : ((newValidity nullable).map fun _ => ([] : List Bool)) = newValidity nullable := by
  cases nullable <;> rfl

theorem maskNull_new (nullable : Bool) : maskNull (newValidity nullable) [] = [] := by
  cases nullable <;> rfl

theorem fresh_leaf (p : String) (k : LeafKind) (nullable : Bool) : Fresh (.leaf p k (newValidity nullable) []) :=
  ⟨by simp only [WFB]; exact VLen_new nullable, by simp [dec, maskNull_new], by simp [takeRest, map_new]⟩

theorem OffsOK_zero : OffsOK [0] 0 := ⟨rfl, rfl, by simp⟩

theorem fresh_bytes (p : String) (ty : BytesTy) (nullable : Bool) : Fresh (.bytes p ty (newValidity nullable) [0] []) :=
  ⟨by simp only [WFB]; exact ⟨OffsOK_zero, VLen_new nullable⟩, by simp [dec, pairs, maskNull_new],
    by simp [takeRest, map_new]⟩

theorem fresh_view (p : String) (ty : ViewTy) (nullable : Bool) : Fresh (.bytesView p ty (newValidity nullable) [] []) :=
  ⟨by simp only [WFB]; exact ⟨VLen_new nullable, by simp⟩, by simp [dec, maskNull_new], by simp [takeRest, map_new]⟩

theorem mkStruct_fresh {path : String} {bl : BL} {nullable : Bool} {b : B} (hwfl : WFL bl 0)
    (htr : takeRestAll bl = bl) (h : mkStruct path bl nullable = .ok b) : Fresh b := by
  unfold mkStruct at h
  split at h
  · simp [fail] at h
  · rename_i hd
    cases h
    refine ⟨?_, ?_, ?_⟩
    · simp only [WFB]
      refine ⟨VLen_new nullable, hwfl, by simp, hasDup_false_nodup _ (by simpa using hd), ?_⟩
      rw [← BL.names_length]
      exact SaModel.Props.C11Front.cacheInv_fresh _
    · simp [dec, maskNull_new]
    · simp [takeRest, map_new, htr]

theorem WFU_fresh_cons {b : B} {m : FieldMeta} {r : BL} (hb : Fresh b) (hr : WFU r (List.replicate r.length 0)) :
    WFU (.cons b m r) (List.replicate (BL.cons b m r).length 0) := by
  simp only [BL.length, List.replicate_succ, WFU, List.head?_cons, List.tail_cons]
  exact ⟨hb.1, by rw [hb.2.1]; rfl, hr⟩

/-- `Fresh` of everything `build_builder` returns, by induction over what it builds (`newDT_induct`) -/
theorem new_fresh :
    (∀ path dt n md b, newDT path dt n md = .ok b → Fresh b) ∧
    (∀ path ufs idx bl, newUnionFields path ufs idx = .ok bl →
      WFU bl (List.replicate bl.length 0) ∧ takeRestAll bl = bl) ∧
    (∀ path f b, newB path f = .ok b → Fresh b) ∧
    (∀ path fs bl, newFields path fs = .ok bl → WFL bl 0 ∧ takeRestAll bl = bl) := by
  apply newDT_induct (P := fun _ _ _ _ b => Fresh b) (PL := fun _ _ bl => WFL bl 0 ∧ takeRestAll bl = bl)
    (PU := fun _ _ _ bl => WFU bl (List.replicate bl.length 0) ∧ takeRestAll bl = bl)
  case unknown => intro path n md _; exact ⟨by simp [WFB], by simp [dec], by simp [takeRest]⟩
  case null => intro path n md _; exact ⟨by simp [WFB], by simp [dec], by simp [takeRest]⟩
  case leaf => intro path dt k n md _ _; exact fresh_leaf path k n
  case bytes => intro path ty n md; exact fresh_bytes path ty n
  case view => intro path ty n md; exact fresh_view path ty n
  case fixedSizeBinary =>
    intro path k n md
    exact ⟨by simp only [WFB]; exact ⟨VLen_new n, by simp⟩, by simp [dec, maskNull_new], by simp [takeRest, map_new]⟩
  case list =>
    intro path large child n md el ⟨hw, hd, ht⟩
    exact ⟨by simp only [WFB, hd]; exact ⟨OffsOK_zero, VLen_new n, hw⟩, by simp [dec, pairs, maskNull_new],
      by simp [takeRest, map_new, ht]⟩
  case fixedSizeList =>
    intro path child k n md el ⟨hw, hd, ht⟩
    exact ⟨by simp only [WFB, hd]; exact ⟨VLen_new n, by simp, hw⟩, by simp [dec, maskNull_new],
      by simp [takeRest, map_new, ht]⟩
  case map =>
    intro path ename kf vf emd sorted n md kb vb ⟨hw, hd, ht⟩ ⟨hw2, hd2, ht2⟩
    exact ⟨by simp only [WFB, hd, hd2]; exact ⟨OffsOK_zero, trivial, VLen_new n, hw, hw2⟩,
      by simp [dec, pairs, maskNull_new], by simp [takeRest, map_new, ht, ht2]⟩
  case struct => intro path fs n md bl b ⟨hw, ht⟩ h; exact mkStruct_fresh hw ht h
  case dictionary =>
    intro path k t v n md vb _ _ ⟨hw2, hd2, ht2⟩
    have hk := fresh_leaf (path ++ ".key") (.int t) n
    generalize B.leaf (path ++ ".key") (.int t) (newValidity n) [] = kb at hk ⊢
    obtain ⟨hw, hd, ht⟩ := hk
    exact ⟨by simp only [WFB, hd, hd2]; exact ⟨hw, hw2, List.nodup_nil, rfl, by simp, ⟨fun _ => by simp [hd2], fun _ => rfl⟩⟩,
      by simp [dec, hd], by simp [takeRest, ht, ht2]⟩
  case union =>
    intro path ufs n md bl ⟨hw, ht⟩
    exact ⟨by simp only [WFB]; exact ⟨trivial, by simp, hw, by simp⟩, by simp [dec], by simp [takeRest, ht]⟩
  case nil => intro _; exact ⟨by simp [WFL], rfl⟩
  case cons =>
    intro _ f rest b r ⟨hw, hd, ht⟩ ⟨hw2, ht2⟩
    exact ⟨by simp only [WFL]; exact ⟨hw, by rw [hd]; rfl, hw2⟩, by simp [takeRestAll, ht, ht2]⟩
  case unil => intro _ idx; exact ⟨by simp [WFU], rfl⟩
  case ucons =>
    intro _ idx f rest b r hb ⟨hw2, ht2⟩
    exact ⟨WFU_fresh_cons hb hw2, by simp [takeRestAll, hb.2.2, ht2]⟩

theorem newDT_fresh : ∀ (dt : DataType) (path : String) (nullable : Bool) (md : Metadata) (b : B),
    newDT path dt nullable md = .ok b → Fresh b :=
  fun dt path nullable md b h => new_fresh.1 path dt nullable md b h
theorem newB_fresh : ∀ (f : Field) (path : String) (b : B), newB path f = .ok b → Fresh b :=
  fun f path b h => new_fresh.2.2.1 path f b h
theorem newFields_fresh : ∀ (fs : Fields) (path : String) (bl : BL), newFields path fs = .ok bl →
    WFL bl 0 ∧ takeRestAll bl = bl :=
  fun fs path bl h => new_fresh.2.2.2 path fs bl h
theorem newUnionFields_fresh : ∀ (fs : UFields) (path : String) (idx : Nat) (bl : BL),
    newUnionFields path fs idx = .ok bl → WFU bl (List.replicate bl.length 0) ∧ takeRestAll bl = bl :=
  fun fs path idx bl h => new_fresh.2.1 path fs idx bl h

theorem newRoot_fresh {fields : List Field} {root : B} (h : newRoot fields = .ok root) : Fresh root := by
  simp only [newRoot] at h
  obtain ⟨bl, h1, h⟩ := (bind_ok _ _ _).1 h
  obtain ⟨hw, ht⟩ := newFields_fresh _ _ bl h1
  exact mkStruct_fresh hw ht h

/-- the root `build_builder` makes is an empty struct without validity -/
theorem newRoot_struct {fields : List Field} {r0 : B} (h : newRoot fields = .ok r0) :
    ∃ p bl c s, r0 = .struct p 0 (newValidity false) bl c 0 s := by
  simp only [newRoot] at h
  obtain ⟨bl, _, h⟩ := (bind_ok _ _ _).1 h
  unfold mkStruct at h
  split at h
  · simp [fail] at h
  · cases h; exact ⟨_, _, _, _, rfl⟩

end SaModel.Build
