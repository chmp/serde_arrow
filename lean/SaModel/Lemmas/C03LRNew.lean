import SaModel.Lemmas.C03LRPush
import SaModel.Lemmas.C03PXNew
/-
Fresh builders satisfy `LR`; hence so does the root after any accepted sequence of well-formed rows (`runRows_LR`).
-/
namespace SaModel.Lemmas.C03
open SaModel SaModel.Build SaModel.Spec

mutual
/-- what `take` leaves behind satisfies `LR`: no leaf holds a value -/
theorem takeRest_LR : ∀ (b : B), LR (takeRest b)
  | .null _ _ => by simp only [takeRest, LR]
  | .unknownVariant _ => by simp only [takeRest, LR]
  | .leaf _ _ _ _ => by simp only [takeRest, LR]; intro r _; rfl
  | .bytes _ _ _ _ _ => by simp only [takeRest, LR]
  | .bytesView _ _ _ _ _ => by simp only [takeRest, LR]
  | .fixedSizeBinary _ _ _ _ _ _ => by simp only [takeRest, LR]
  | .list _ _ _ _ _ el => by simp only [takeRest, LR]; exact takeRest_LR el
  | .fixedSizeList _ _ _ _ _ _ el => by simp only [takeRest, LR]; exact takeRest_LR el
  | .map _ _ _ _ ks vs => by simp only [takeRest, LR]; exact ⟨takeRest_LR ks, takeRest_LR vs⟩
  | .struct _ _ _ fs _ _ _ => by simp only [takeRest, LR]; exact takeRestAll_LR fs
  | .dictionary _ idx vals _ => by simp only [takeRest, LR]; exact ⟨takeRest_LR idx, takeRest_LR vals⟩
  | .union _ fs _ _ _ => by simp only [takeRest, LR]; exact takeRestAll_LR fs
theorem takeRestAll_LR : ∀ (fs : BL), LRL (takeRestAll fs)
  | .nil => trivial
  | .cons b _ r => ⟨takeRest_LR b, takeRestAll_LR r⟩
end

theorem newRoot_LR (fields : List Field) (root : B) (h : newRoot fields = .ok root) : LR root := by
  rw [← (newRoot_fresh h).2.2]; exact takeRest_LR root

/-- **after any accepted sequence of well-formed rows** every stored leaf value is within its physical range -/
theorem runRows_LR (ext : Ext) (he : ExtOK ext) (hf : FloatOK) (fields : List Field) (rows : List SVal) (root : B)
    (hx : ∀ x ∈ rows, SValOK x) (h : runRows ext fields rows = .ok root) : LR root :=
  runRows_induct h (newRoot_LR fields) fun x hm b b' => push_LR ext he hf x b b' (hx x hm)

/-! ### `WFXrest` = `LR` + the Utf8View clause -/

mutual
/-- Utf8View slots are valid UTF-8 -/
def VU : B → Prop
  | .bytesView _ ty _ views buf => ty = .utf8View → ∀ d ∈ views, validUtf8 (viewBytes buf d) = true
  | .list _ _ _ _ _ el => VU el
  | .fixedSizeList _ _ _ _ _ _ el => VU el
  | .map _ _ _ _ ks vs => VU ks ∧ VU vs
  | .struct _ _ _ fs _ _ _ => VUL fs
  | .dictionary _ idx vals _ => VU idx ∧ VU vals
  | .union _ fs _ _ _ => VUL fs
  | _ => True
def VUL : BL → Prop
  | .nil => True
  | .cons b _ r => VU b ∧ VUL r
end

mutual
theorem WFXrest_of : ∀ (b : B), LR b → VU b → WFXrest b
  | .null _ _ => fun _ _ => by simp only [WFXrest]
  | .unknownVariant _ => fun _ _ => by simp only [WFXrest]
  | .leaf _ _ _ _ => fun hl _ => by simpa only [WFXrest, LR, LeafOK] using hl
  | .bytes _ _ _ _ _ => fun _ _ => by simp only [WFXrest]
  | .bytesView _ _ _ _ _ => fun _ hv => by simpa only [WFXrest, VU] using hv
  | .fixedSizeBinary _ _ _ _ _ _ => fun _ _ => by simp only [WFXrest]
  | .list _ _ _ _ _ el => fun hl hv => by
    simp only [LR] at hl; simp only [VU] at hv; simp only [WFXrest]; exact WFXrest_of el hl hv
  | .fixedSizeList _ _ _ _ _ _ el => fun hl hv => by
    simp only [LR] at hl; simp only [VU] at hv; simp only [WFXrest]; exact WFXrest_of el hl hv
  | .map _ _ _ _ ks vs => fun hl hv => by
    simp only [LR] at hl; simp only [VU] at hv; simp only [WFXrest]
    exact ⟨WFXrest_of ks hl.1 hv.1, WFXrest_of vs hl.2 hv.2⟩
  | .struct _ _ _ fs _ _ _ => fun hl hv => by
    simp only [LR] at hl; simp only [VU] at hv; simp only [WFXrest]; exact WFXrestL_of fs hl hv
  | .dictionary _ idx vals _ => fun hl hv => by
    simp only [LR] at hl; simp only [VU] at hv; simp only [WFXrest]
    exact ⟨WFXrest_of idx hl.1 hv.1, WFXrest_of vals hl.2 hv.2⟩
  | .union _ fs _ _ _ => fun hl hv => by
    simp only [LR] at hl; simp only [VU] at hv; simp only [WFXrest]; exact WFXrestL_of fs hl hv
theorem WFXrestL_of : ∀ (fs : BL), LRL fs → VUL fs → WFXrestL fs
  | .nil => fun _ _ => trivial
  | .cons b _ r => fun hl hv => by
    simp only [LRL] at hl; simp only [VUL] at hv; simp only [WFXrestL]
    exact ⟨WFXrest_of b hl.1 hv.1, WFXrestL_of r hl.2 hv.2⟩
end

end SaModel.Lemmas.C03
