import SaModel.Lemmas.C07TUnion
/-
C07, tree level — the union family at node level.
-/
namespace SaModel.Lemmas.C07
open SaModel SaModel.Trace SaModel.Props.C07

theorem Vs.set_set : ∀ (vs : Variants) (i : Nat) (a b : String) (t u : Tracer), (vs.set i a t).set i b u = vs.set i b u
  | .nil, _, _, _, _, _ => rfl
  | .absent r, 0, _, _, _, _ => rfl
  | .present _ _ r, 0, _, _, _, _ => rfl
  | .absent r, i + 1, a, b, t, u => by simp [Variants.set, Vs.set_set r i a b t u]
  | .present _ _ r, i + 1, a, b, t, u => by simp [Variants.set, Vs.set_set r i a b t u]

theorem ev_sound {p : String} {vs vs' : Variants} {vn : String} {idx : Nat} (h : ensure_variant p vs vn idx = .ok vs') :
    idx < VARIANT_ALLOC_LIMIT ∧ ∃ st, slot p vs idx vn = some st ∧ vs'.get? idx = some (some (vn, st)) ∧
      ∀ X, vs'.set idx vn X = upd vs idx vn X := by
  unfold ensure_variant at h
  by_cases hl : idx ≥ VARIANT_ALLOC_LIMIT
  · simp [hl, panic] at h
  · simp only [hl, if_false] at h
    refine ⟨by omega, ?_⟩
    unfold slot
    rw [← padGet_eq]
    cases hg : (vs.padNone (idx + 1 - vs.length)).get? idx with
    | none => rw [hg] at h; simp [panic] at h
    | some x =>
      rw [hg] at h
      cases x with
      | none =>
        simp only [Except.ok.injEq] at h
        subst h
        refine ⟨_, rfl, ?_, fun X => by rw [Vs.set_set]; rfl⟩
        rw [Vs.get?_set, hg]; simp
      | some nt =>
        obtain ⟨prev, t⟩ := nt
        simp only at h
        by_cases hp : prev = vn
        · subst hp
          simp only [bne_self_eq_false, Bool.false_eq_true, if_false, Except.ok.injEq] at h
          subst h
          exact ⟨t, by simp, hg, fun X => rfl⟩
        · have : (prev != vn) = true := by simp [hp]
          simp [this, fail] at h

theorem ev_complete {p : String} {vs : Variants} {vn : String} {idx : Nat} {st : Tracer}
    (hl : idx < VARIANT_ALLOC_LIMIT) (h : slot p vs idx vn = some st) : ∃ vs', ensure_variant p vs vn idx = .ok vs' := by
  unfold ensure_variant
  have : ¬ idx ≥ VARIANT_ALLOC_LIMIT := by omega
  simp only [this, if_false]
  unfold slot at h
  rw [← padGet_eq] at h
  cases hg : (vs.padNone (idx + 1 - vs.length)).get? idx with
  | none => rw [hg] at h; cases h
  | some x =>
    rw [hg] at h
    cases x with
    | none => exact ⟨_, rfl⟩
    | some nt =>
      obtain ⟨prev, t⟩ := nt
      simp only at h ⊢
      by_cases hp : prev = vn
      · subst hp; simp
      · simp [hp] at h

def UnionFam (o : Options) (x : SVal) (idx : Nat) (vn : String) (payload : SVal) : Prop :=
  C06.fam o x = .variant idx vn payload

/-- a variant sample: find the slot, absorb the payload into its tracer, store the tracer -/
theorem UnionFam.ok {o : Options} {x : SVal} {idx : Nat} {vn : String} {payload : SVal}
    (hx : UnionFam o x idx vn payload) (t a : Tracer) :
    absorb .fixed o t x = .ok a ↔ ∃ n p nl vs st vt', t.ensure_union [] = .ok (.union n p nl vs) ∧
      idx < VARIANT_ALLOC_LIMIT ∧ slot p vs idx vn = some st ∧ absorb .fixed o st payload = .ok vt' ∧
      a = .union n p nl (upd vs idx vn vt') := by
  rw [C06.absorb_ok_iff, hx]
  constructor
  · rintro ⟨n, p, nl, vs0, vs, nm, vt, vt', h1, h2, h3, h4, rfl⟩
    obtain ⟨hl, st, hs, hg, hset⟩ := ev_sound h2
    have e := hg.symm.trans h3
    simp only [Option.some.injEq, Prod.mk.injEq] at e
    exact ⟨n, p, nl, vs0, st, vt', h1, hl, hs, e.2 ▸ h4, by rw [hset]⟩
  · rintro ⟨n, p, nl, vs, st, vt', h1, hl, hs, h3, rfl⟩
    obtain ⟨vs', h2⟩ := ev_complete hl hs
    obtain ⟨_, st', hs', hg, hset⟩ := ev_sound h2
    rw [hs] at hs'; cases hs'
    exact ⟨n, p, nl, vs, vs', vn, st, vt', h1, h2, hg, h3, by rw [hset]⟩

theorem unionFam_unit (o : Options) (nm : String) (idx : Nat) (vn : String) :
    UnionFam o (.unitVariant nm idx vn) idx vn .unit := rfl

theorem unionFam_newtype (o : Options) (nm : String) (idx : Nat) (vn : String) (v : SVal) :
    UnionFam o (.newtypeVariant nm idx vn v) idx vn v := rfl

theorem unionFam_tuple (o : Options) (nm : String) (idx : Nat) (vn : String) (items : SVals) :
    UnionFam o (.tupleVariant nm idx vn items) idx vn (.tuple items) := rfl

theorem unionFam_struct (o : Options) (nm : String) (idx : Nat) (vn : String) (flds : SFields) :
    UnionFam o (.structVariant nm idx vn flds) idx vn (.record nm flds) := rfl

def variantDo (o : Options) (t : Tracer) (vn : String) (idx : Nat) (payload : SVal) : R Tracer := do
  let (n, p, nl, vs, vt) ← ensure_union_variant t vn idx
  let vt ← absorb .fixed o vt payload
  .ok (.union n p nl (vs.set idx vn vt))

def UnionLike (o : Options) (x : SVal) (idx : Nat) (vn : String) (payload : SVal) : Prop :=
  ∀ t, absorb .fixed o t x = variantDo o t vn idx payload

theorem unionLike_unit (o : Options) (nm : String) (idx : Nat) (vn : String) :
    UnionLike o (.unitVariant nm idx vn) idx vn .unit := by
  intro t
  simp only [absorb, variantDo]

theorem unionLike_newtype (o : Options) (nm : String) (idx : Nat) (vn : String) (v : SVal) :
    UnionLike o (.newtypeVariant nm idx vn v) idx vn v := by
  intro t
  simp only [absorb, variantDo]

theorem unionLike_tuple (o : Options) (nm : String) (idx : Nat) (vn : String) (items : SVals) :
    UnionLike o (.tupleVariant nm idx vn items) idx vn (.tuple items) := fun t =>
  (C06.absorb_tupleVariant .fixed o t nm idx vn items).trans (unionLike_newtype o nm idx vn _ t)

theorem unionLike_struct (o : Options) (nm : String) (idx : Nat) (vn : String) (flds : SFields) :
    UnionLike o (.structVariant nm idx vn flds) idx vn (.record nm flds) := fun t =>
  (C06.absorb_structVariant .fixed o t nm idx vn flds).trans (unionLike_newtype o nm idx vn _ t)

/-- the four variant kinds are the samples of the variant scheme -/
theorem UnionFam.like {o : Options} {x : SVal} {idx : Nat} {vn : String} {payload : SVal}
    (h : UnionFam o x idx vn payload) : UnionLike o x idx vn payload := by
  have kv : ∀ rk, C06.Fam.ofKvs rk ≠ .variant idx vn payload := fun rk e => by cases rk <;> cases e
  unfold UnionFam at h
  cases x
  case unitVariant nm i v => cases h; exact unionLike_unit o nm _ _
  case newtypeVariant nm i v y => cases h; exact unionLike_newtype o nm _ _ _
  case tupleVariant nm i v items => cases h; exact unionLike_tuple o nm _ _ items
  case structVariant nm i v flds => cases h; exact unionLike_struct o nm _ _ flds
  case map es => rw [C06.fam_map] at h; split at h <;> first | exact absurd h (kv _) | cases h
  case mapRaw ops => rw [C06.fam_mapRaw] at h; split at h <;> first | exact absurd h (kv _) | cases h
  all_goals cases h

theorem ensure_union_facts {o : Options} {t : Tracer} {n p nl vs} (hw : WF o t)
    (h : t.ensure_union [] = .ok (.union n p nl vs)) :
    VWF o vs ∧ (∀ vs', depthOk (.union n p nl vs')) ∧ (t.is_unknown_or_null = true ∨ t = .union n p nl vs) := by
  obtain ⟨hd, hc⟩ := ensure_union_inv h
  rcases hc with ⟨hu, e⟩ | ⟨n', p', nl', vs', rfl, e⟩
  · cases e
    exact ⟨by rw [VWF]; trivial, fun _ => (depthOk_path (a := t) rfl).mpr hd, .inl hu⟩
  · cases e
    rw [WF] at hw
    exact ⟨hw, fun _ => (depthOk_path (a := .union n p nl vs) rfl).mpr hd, .inr rfl⟩

end SaModel.Lemmas.C07
