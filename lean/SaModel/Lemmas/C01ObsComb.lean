import SaModel.Lemmas.C01ObsOps
import SaModel.Lemmas.PushInd
/-
C01 "hidden rows" — the mid-record state of a struct row on observable rows (`MidH`): `start`, what `SS.element` does to it
(`MidH.wrote`), `end` (`endFields_rowsH`, `row_rowsH`); the statement forms of R1' for a loop (`FieldsOKH`, `ElemsOKH`,
`CountOKH`).
-/
namespace SaModel.Build
open SaModel SaModel.Spec

/-- what every recursive sub-call is assumed (induction hypothesis) to do to a child builder -/
def StepOKH (pc : B → R B) : Prop :=
  ∀ c c', WFH c → NoDictKey c → pc c = .ok c' → WFH c' ∧ NoDictKey c' ∧ ∃ lv, Refines (decH c') (decH c ++ [some lv])

/-- a record is being written: started from the children `fs0`, child `j` holds the additional (determined) rows
`adds[j]`, exactly one iff `seen[j]` -/
structure MidH (fs0 : BL) (s : SS) (adds : List (List LVal)) : Prop where
  ext : ExtLH fs0 s.fields (adds.map (·.map some))
  flags : Flags s.seen adds
  cache : CacheInv s.fields.names s.cached
  safe : NoDictKeyL s.fields
  nodup : s.fields.names.Nodup

def FieldsOKH (pf : SS → R SS) : Prop :=
  ∀ fs0 s adds s', MidH fs0 s adds → pf s = .ok s' → (∃ adds', MidH fs0 s' adds') ∧ Same s' s

/-- list elements: the child grows by the determined rows `ls`, the open offset by `|ls|` -/
def ElemsOKH (pe : Bool → B → List Int → R (B × List Int)) : Prop :=
  ∀ large el base l r, WFH el → NoDictKey el → pe large el (base ++ [l]) = .ok r →
    WFH r.1 ∧ ∃ ls : List LVal, Refines (decH r.1) (decH el ++ ls.map some) ∧ r.2 = base ++ [l + (ls.length : Int)]

def CountOKH (pc : B → Nat → R (B × Nat)) : Prop :=
  ∀ el c r, WFH el → NoDictKey el → pc el c = .ok r →
    WFH r.1 ∧ ∃ ls : List LVal, Refines (decH r.1) (decH el ++ ls.map some) ∧ r.2 = c + ls.length

theorem MidH.next {fs0 : BL} {s : SS} {adds : List (List LVal)} (h : MidH fs0 s adds) (n : Nat) :
    MidH fs0 { s with next := n } adds := ⟨h.ext, h.flags, h.cache, h.safe, h.nodup⟩

theorem MidH.cached {fs0 : BL} {s : SS} {adds : List (List LVal)} (h : MidH fs0 s adds)
    (cached' : List (Option (String × Nat))) (hc : CacheInv s.fields.names cached') :
    MidH fs0 { s with cached := cached' } adds := ⟨h.ext, h.flags, hc, h.safe, h.nodup⟩

/-! ### the strict mid-record state is an observable one -/

theorem ExtL.toH : ∀ {fs0 fs : BL} {adds : List (List LVal)}, ExtL fs0 fs adds → ExtLH fs0 fs (adds.map (·.map some))
  | .nil, .nil, [], _ => trivial
  | .cons b0 _ _, .cons b _ _, a :: _, h => by
    obtain ⟨hm, hw, hd, hr⟩ := h
    refine ⟨hm, WFH_of_WFB b hw, ?_, hr.toH⟩
    -- every row of `b` is determined; the rows `b0` determines are rows of `dec b0`
    rw [decH_of_WFB b hw, hd, List.map_append]
    exact (decH_sound b0).append (Refines.refl _)
  | .nil, .nil, _ :: _, h | .nil, .cons _ _ _, _, h | .cons _ _ _, .nil, _, h | .cons _ _ _, .cons _ _ _, [], h => by
    simp [ExtL] at h

theorem Mid.toH {fs0 : BL} {s : SS} {adds : List (List LVal)} (h : Mid fs0 s adds) : MidH fs0 s adds :=
  ⟨h.ext.toH, h.flags, h.cache, NoDictKeyL_of_SafeL _ h.safe, h.nodup⟩

/-! ### list plumbing: determined additional rows -/

theorem map_some_set_getD (adds : List (List LVal)) (idx : Nat) (ls : List LVal) :
    (adds.set idx (adds.getD idx [] ++ ls)).map (·.map some) =
      (adds.map (·.map some)).set idx ((adds.map (·.map some)).getD idx [] ++ ls.map some) := by
  rw [List.map_set]
  congr 1
  simp only [List.getD_eq_getElem?_getD, List.getElem?_map, List.map_append]
  cases adds[idx]? <;> simp

/-- one more determined row after `ls` determined rows -/
theorem Refines.cons_some {c0 c c' : H} {lv : LVal} {ls : List LVal} (h1 : Refines c (c0 ++ [some lv]))
    (h2 : Refines c' (c ++ ls.map some)) : Refines c' (c0 ++ (lv :: ls).map some) := by
  simpa using Refines.extend h1 h2

theorem MidH.adds_length {fs0 : BL} {s : SS} {adds : List (List LVal)} (h : MidH fs0 s adds) :
    adds.length = s.fields.length ∧ s.seen.length = s.fields.length ∧ s.fields.length = fs0.length := by
  have h1 := ExtLH.length _ _ _ h.ext
  have h2 := Flags.length _ _ h.flags
  simp only [List.length_map] at h1
  omega

/-- child `idx`, not yet seen, has received the determined row `lv` -/
theorem MidH.wrote {fs0 : BL} {s : SS} {adds : List (List LVal)} {idx : Nat} {c c' : B} {m : FieldMeta} {lv : LVal}
    (hm : MidH fs0 s adds) (hseen : s.seen[idx]? = some false) (hget : s.fields.get? idx = some (c, m)) (hc' : WFH c')
    (hs' : NoDictKey c') (hdec : Refines (decH c') (decH c ++ [some lv])) :
    MidH fs0 (s.wrote idx c') (adds.set idx [lv]) ∧ adds.getD idx [] = [] ∧ idx < adds.length := by
  have hun := Flags.unseen _ _ _ hm.flags hseen
  refine ⟨⟨?_, ?_, ?_, ?_, ?_⟩, hun, by rw [hm.adds_length.1]; exact BL.get?_lt _ _ _ hget⟩
  · show ExtLH fs0 (s.fields.set idx c') ((adds.set idx [lv]).map (·.map some))
    have e := map_some_set_getD adds idx [lv]
    rw [hun, List.nil_append] at e
    rw [e]
    exact ExtLH.set _ _ _ _ c c' m [some lv] hm.ext hget hc' hdec
  · have := Flags.set _ _ _ lv hm.flags hseen
    rwa [hun, List.nil_append] at this
  · simp only [SS.wrote, BL.names_set]; exact hm.cache
  · exact NoDictKeyL.set _ _ _ hm.safe hs'
  · simp only [SS.wrote, BL.names_set]; exact hm.nodup

/-- `element`: exactly child `idx` moves on, by the determined row its push appends -/
theorem SS.element_rowsH {fs0 : BL} {s s' : SS} {adds : List (List LVal)} {idx : Nat} {pc : B → R B}
    (hm : MidH fs0 s adds) (hpc : StepOKH pc) (h : s.element idx pc = .ok s') :
    ∃ c m c' lv, s.fields.get? idx = some (c, m) ∧ s.seen[idx]? = some false ∧ pc c = .ok c' ∧ WFH c ∧ NoDictKey c ∧
      Refines (decH c') (decH c ++ [some lv]) ∧ MidH fs0 s' (adds.set idx [lv]) ∧ adds.getD idx [] = [] ∧ s'.next = idx + 1 ∧
      idx < adds.length ∧ s'.fields = s.fields.set idx c' ∧ Same s' s := by
  unfold SS.element at h
  split at h
  · simp [panic] at h
  · simp [ctx_ok, fail] at h
  · rename_i hseen
    split at h
    · simp [panic] at h
    · rename_i c m hget
      obtain ⟨c', h1, h2⟩ := (bind_ok _ _ _).1 h
      cases h2
      have hwc := ExtLH.get _ _ _ _ _ hm.ext hget
      have hsc := NoDictKeyL.get _ _ _ hm.safe hget
      obtain ⟨hc', hs', lv, hdec⟩ := hpc c c' hwc hsc h1
      obtain ⟨g, hun, hlt⟩ := hm.wrote hseen hget hc' hs' hdec
      exact ⟨c, m, c', lv, hget, hseen, h1, hwc, hsc, hdec, g, hun, rfl, hlt, rfl, rfl, rfl, rfl⟩

theorem SS.element_midH {fs0 : BL} {s s' : SS} {adds : List (List LVal)} {idx : Nat} {pc : B → R B}
    (hm : MidH fs0 s adds) (hpc : StepOKH pc) (h : s.element idx pc = .ok s') :
    (∃ adds', MidH fs0 s' adds') ∧ Same s' s :=
  have ⟨_, _, _, _, _, _, _, _, _, _, g, _, _, _, _, hs⟩ := SS.element_rowsH hm hpc h
  ⟨⟨_, g⟩, hs⟩

/-- `end`: seen children keep their row, unseen (nullable) children receive a null -/
theorem endFields_rowsH : ∀ (fs0 fs : BL) (seen : List Bool) (adds : List (List LVal)) (fs' : BL),
    ExtLH fs0 fs (adds.map (·.map some)) → Flags seen adds → NoDictKeyL fs → endFields fs seen = .ok fs' →
    ∃ adds' : List (List LVal), ExtLH fs0 fs' (adds'.map (·.map some)) ∧ (∀ a ∈ adds', a.length = 1) ∧
      ∀ j, (seen[j]? = some true → adds'.getD j [] = adds.getD j []) ∧
        (seen[j]? = some false → adds'.getD j [] = [.null] ∧
          ∃ c m c', fs.get? j = some (c, m) ∧ m.nullable = true ∧ pushNone c = .ok c')
  | .nil, .nil, _, [], fs', _, _, _, h => by
    simp [endFields] at h; subst h
    refine ⟨[], by simp [ExtLH], by simp, ?_⟩
    intro j
    cases ‹List Bool› <;> simp [Flags] at *
  | .cons b0 m0 r0, .cons b m r, [], a :: as, fs', _, hf, _, _ => by simp [Flags] at hf
  | .cons b0 m0 r0, .cons b m r, s :: ss, a :: as, fs', hext, hf, hsafe, h => by
    simp only [List.map_cons, ExtLH] at hext
    simp only [Flags] at hf
    simp only [NoDictKeyL] at hsafe
    simp only [endFields] at h
    split at h
    · rename_i hs
      obtain ⟨r', h1, h2⟩ := (bind_ok _ _ _).1 h
      cases h2
      obtain ⟨adds', he, hk, hrel⟩ := endFields_rowsH r0 r ss as r' hext.2.2.2 hf.2 hsafe.2 h1
      refine ⟨a :: adds', by simp only [List.map_cons, ExtLH]; exact ⟨hext.1, hext.2.1, hext.2.2.1, he⟩, ?_, ?_⟩
      · intro a' ha'
        rcases List.mem_cons.1 ha' with rfl | ha'
        · rw [hf.1, if_pos hs]
        · exact hk a' ha'
      · intro j
        cases j with
        | zero => exact ⟨fun _ => rfl, fun h => Bool.noConfusion (hs.symm.trans (Option.some.inj h))⟩
        | succ j => exact hrel j
    · rename_i hs
      split at h
      · simp [fail] at h
      · rename_i hnull
        obtain ⟨b', h0, h'⟩ := (bind_ok _ _ _).1 h
        obtain ⟨r', h1, h2⟩ := (bind_ok _ _ _).1 h'
        cases h2
        obtain ⟨adds', he, hk, hrel⟩ := endFields_rowsH r0 r ss as r' hext.2.2.2 hf.2 hsafe.2 h1
        obtain ⟨hb', hdec⟩ := pushNone_refines b b' hext.2.1 hsafe.1 h0
        have ha : a = [] := List.eq_nil_of_length_eq_zero (by rw [hf.1, if_neg hs])
        subst ha
        refine ⟨[.null] :: adds', ?_, ?_, ?_⟩
        · simp only [List.map_cons, ExtLH]
          exact ⟨hext.1, hb', by simpa using Refines.extend hext.2.2.1 hdec, he⟩
        · intro a' ha'
          rcases List.mem_cons.1 ha' with rfl | ha'
          · rfl
          · exact hk a' ha'
        · intro j
          cases j with
          | zero =>
            exact ⟨fun h => absurd (Option.some.inj h) hs, fun _ => ⟨rfl, b, m, b', rfl, by simpa using hnull, h0⟩⟩
          | succ j => exact hrel j
  | .nil, .cons _ _ _, _, _, _, h, _, _, _ => by cases ‹List (List LVal)› <;> simp [ExtLH] at h
  | .cons _ _ _, .nil, _, _, _, h, _, _, _ => by cases ‹List (List LVal)› <;> simp [ExtLH] at h
  | .nil, .nil, _, _ :: _, _, h, _, _, _ => by simp [ExtLH] at h
  | .cons _ _ _, .cons _ _ _, _, [], _, h, _, _, _ => by simp [ExtLH] at h

/-- `start`: the record begins in a mid-record state in which no child has received anything -/
theorem SS.start_midH {s s1 : SS} (h1 : s.start = .ok s1) (hwf : WFH s.toB) (hsafe : NoDictKey s.toB) :
    s1.next = 0 ∧ s1.fields = s.fields ∧ MidH s.fields s1 (List.replicate s.fields.length []) := by
  obtain ⟨p, len, v, fs, cached, next, seen⟩ := s
  simp only [SS.toB, WFH] at hwf
  obtain ⟨_, hwfl, hseen, hnd, hcache⟩ := hwf
  simp only [SS.toB, NoDictKey] at hsafe
  simp only [SS.start] at h1
  obtain ⟨v', _, h1⟩ := (bind_ok _ _ _).1 h1
  cases h1
  exact ⟨rfl, rfl, by simpa using ExtLH.refl fs len hwfl, by rw [hseen]; exact Flags.fresh _, hcache, hsafe, hnd⟩

/-- `end` of a record whose loop has left the mid-record state `s2`: the rows the children hold then, and the determined row
the struct shows -/
theorem row_rowsH {s s1 s2 s3 : SS} {adds2 : List (List LVal)} (h1 : s.start = .ok s1) (hm2 : MidH s.fields s2 adds2)
    (hsame : Same s2 s1) (h3 : s2.finishRow = .ok s3) (hwf : WFH s.toB) :
    ∃ adds3, adds3.length = s.fields.length ∧
      (∀ j, (s2.seen[j]? = some true → adds3.getD j [] = adds2.getD j []) ∧
        (s2.seen[j]? = some false → adds3.getD j [] = [.null] ∧
          ∃ c m c', s2.fields.get? j = some (c, m) ∧ m.nullable = true ∧ pushNone c = .ok c')) ∧
      WFH s3.toB ∧ Refines (decH s3.toB) (decH s.toB ++ [some (rowAt (s.fields.names.zip adds3) 0)]) := by
  obtain ⟨p, len, v, fs, cached, next, seen⟩ := s
  have hw' := hwf
  simp only [SS.toB, WFH] at hw'
  obtain ⟨hv, _, _, _, _⟩ := hw'
  simp only [SS.start] at h1
  obtain ⟨v', hv1, h1⟩ := (bind_ok _ _ _).1 h1
  cases h1
  obtain ⟨rfl, _⟩ := setValidity_ok hv hv1
  simp only [SS.finishRow] at h3
  obtain ⟨fs3, h3', h4⟩ := (bind_ok _ _ _).1 h3
  cases h4
  obtain ⟨adds3, hext3, hk3, hrel⟩ := endFields_rowsH _ _ _ _ _ hm2.ext hm2.flags hm2.safe h3'
  obtain ⟨hp, hl, hvv⟩ := hsame
  simp only at hp hl hvv
  have hnames : fs3.names = fs.names := ExtLH.names _ _ _ hext3
  have hl2 : adds2.length = fs.length := by simpa using (ExtLH.length _ _ _ hm2.ext).2
  have hl3 : adds3.length = fs.length := by simpa using (ExtLH.length _ _ _ hext3).2
  have := struct_appendH (cached' := s2.cached) (next' := s2.next) (seen' := s2.seen) hwf
    (adds3.map (·.map some)) [true] hext3
    (by
      intro a ha
      obtain ⟨a', ha', rfl⟩ := List.mem_map.1 ha
      simp [hk3 a' ha'])
    (by rw [hnames, ← ExtLH.names _ _ _ hm2.ext]; exact hm2.cache)
    (by rw [(ExtLH.length _ _ _ hext3).1, ← Flags.length _ _ hm2.flags, hl2])
  have e : structRowsH [true].length (fs.names.zip (adds3.map (·.map some))) =
      [some (rowAt (fs.names.zip adds3) 0)] := by
    simp only [structRowsH, List.length_singleton, List.range_one, List.map_cons, List.map_nil, rowAtH_some]
  rw [e, maskNullH_const_one, rowOf_true] at this
  simp only [List.length_singleton] at this
  refine ⟨adds3, hl3, hrel, ?_⟩
  simp only [SS.toB, hp, hl, hvv]
  exact this

end SaModel.Build
