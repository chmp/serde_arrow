import SaModel.Lemmas.C04Cast
import SaModel.Lemmas.C04Trace
import SaModel.Lemmas.C03ReadValid
import SaModel.Read.ToD
import SaModel.Lemmas.C03Read
/-
C04: the remaining hypotheses of `Props.C02.read_typed_decode`, discharged for traced schemas and typed values.

  new_of_wf   a well-formed array of a traced field is accepted by `ArrayDeserializer::new` (`Read.new`): only the
              strategies the tracer writes (none, TupleAsStruct), dictionaries only as Dictionary(UInt32, Utf8 | LargeUtf8)
              with non-nullable values
  utf8Ok_lv   every string inside the logical value of a typed value is well-formed UTF-8 (it comes from a `String`)
-/
namespace SaModel.Lemmas.C04Utf8
open SaModel SaModel.Read

/-- **every string of a typed value is valid UTF-8 for the reader's recogniser**: it is for the specification's
(`Lemmas.Utf8.validUtf8_strBytes`), and the reader's accepts whatever that accepts -/
theorem validUtf8_strBytes (s : String) : validUtf8 (strBytes s) = true :=
  Lemmas.C03.validUtf8_spec_read _ (Lemmas.Utf8.validUtf8_strBytes s)

end SaModel.Lemmas.C04Utf8

namespace SaModel.Roundtrip
open SaModel SaModel.Spec SaModel.Build

section
open SaModel.Lemmas.C03

theorem closed_readable (o : TraceOpts) :
    MappingClosed o (fun _ dt _ md => strategyKnown md = true ∧ readableDT dt = true) (fun _ _ F => readableFs F = true)
      (fun _ F => readableFs F = true) (fun _ _ U => readableUFs U = true) := by
  have hnil : strategyKnown [] = true := rfl
  have htuple : strategyKnown TUPLE_MD = true := by decide
  apply MappingClosed.of_fields (leaf := by decide) (dict := fun _ => by decide)
  all_goals intros
  all_goals simp_all [readableDT, readableF, readableFs, readableUFs]

theorem readable_variantField (o : TraceOpts) (vn : String) (kind : Variant) :
    strategyKnown (variantField o vn kind).metadata = true ∧ readableDT (variantField o vn kind).dataType = true := by
  rw [variantField_eq]; exact (closed_readable o).mapping (kind.payload vn)

end

theorem new_of_wf (o : TraceOpts) : ∀ (t : Ty) (dt : DataType) (nb : Bool) (md : Metadata) (nl : Bool) (a : Arr),
    mappingDT o t = (dt, nb, md) → Spec.wf dt nl a = true → Read.new Read.Fixes.all a = .ok () :=
  fun _ dt _ _ nl a hm h => Lemmas.C03.wf_new a dt nl ((closed_readable o).mapping' hm).2 h
theorem newPos_of_wf (o : TraceOpts) : ∀ (ts : Tys) (i : Nat) (cols : ArrFields) (len : Nat),
    Spec.wfFields (mappingPos o i ts) cols len = true → Read.newFields Read.Fixes.all cols = .ok () :=
  fun ts i cols len h => Lemmas.C03.wfFields_new cols _ len ((closed_readable o).pos i ts) h
theorem newFields_of_wf (o : TraceOpts) : ∀ (fs : TFields) (cols : ArrFields) (len : Nat),
    Spec.wfFields (mappingFields o fs) cols len = true → Read.newFields Read.Fixes.all cols = .ok () :=
  fun fs cols len h => Lemmas.C03.wfFields_new cols _ len ((closed_readable o).fields fs) h
/-- one child of the Union: a well-formed array of `variantField o vn kind` is accepted, and the child's metadata (none,
or TupleAsStruct) is a known strategy -/
theorem newVariant_of_wf (o : TraceOpts) : ∀ (kind : Variant) (vn : String) (a : Arr),
    Spec.wf (variantField o vn kind).dataType (variantField o vn kind).nullable a = true →
    Read.strategyOk (variantField o vn kind).metadata = .ok () ∧ Read.new Read.Fixes.all a = .ok () := by
  intro kind vn a h
  have hr := readable_variantField o vn kind
  exact ⟨Lemmas.C03.strategyOk_of_known hr.1, Lemmas.C03.wf_new a _ _ hr.2 h⟩
/-- the children of the Union an enum is traced to: consecutive type ids, every child accepted -/
theorem newVariants_of_wf (o : TraceOpts) : ∀ (vars : Variants) (i : Nat) (cols : ArrUFields),
    Spec.wfUFields (mappingVariants o i vars) cols (i : Int) = true → Read.newUFields Read.Fixes.all cols i = .ok () :=
  fun vars i cols h => Lemmas.C03.wfUFields_new cols _ i ((closed_readable o).variants i vars) h

/-- by induction along the definition of `lv`: the strings inside are the UTF-8 encodings of `String`s -/
theorem utf8Ok_lv_mutual :
    (∀ t v, Read.utf8Ok (lv t v) = true) ∧
    (∀ k v es, Read.utf8OkEntries (lvEntries k v es) = true) ∧
    (∀ i t vs, Read.utf8Ok (lvSingle i t vs) = true) ∧
    (∀ fs vs, Read.utf8OkFields (lvFields fs vs) = true) ∧
    (∀ i ts vs, Read.utf8OkFields (lvPos i ts vs) = true) ∧
    (∀ t vs, Read.utf8OkList (lvAll t vs) = true) := by
  have hstr (s : String) : Read.validUtf8 s.toUTF8.toList = true := Lemmas.C04Utf8.validUtf8_strBytes s
  apply lv.mutual_induct
  all_goals intros
  all_goals simp only [lv, lvSingle, lvAll, lvPos, lvFields, lvEntries, Read.utf8Ok, Read.utf8OkList,
    Read.utf8OkFields, Read.utf8OkEntries, Bool.and_self, if_true, hstr, *]

theorem utf8Ok_lv : ∀ (t : Ty) (v : Val), Read.utf8Ok (lv t v) = true := utf8Ok_lv_mutual.1
theorem utf8Ok_lvAll : ∀ (t : Ty) (vs : Vals), Read.utf8OkList (lvAll t vs) = true := utf8Ok_lv_mutual.2.2.2.2.2
theorem utf8Ok_lvPos : ∀ (i : Nat) (ts : Tys) (vs : Vals), Read.utf8OkFields (lvPos i ts vs) = true :=
  utf8Ok_lv_mutual.2.2.2.2.1
theorem utf8Ok_lvFields : ∀ (fs : TFields) (vs : Vals), Read.utf8OkFields (lvFields fs vs) = true :=
  utf8Ok_lv_mutual.2.2.2.1
theorem utf8Ok_lvEntries : ∀ (k v : Ty) (es : VEntries), Read.utf8OkEntries (lvEntries k v es) = true :=
  utf8Ok_lv_mutual.2.1

end SaModel.Roundtrip
