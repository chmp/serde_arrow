import SaModel.Lemmas.C01CompFields
import SaModel.Lemmas.C01Variant
/-
Completeness: what the recursion proves for each element / field loop on the strict invariant (`Comp`, `…Loop`; the
theorems are in Lemmas/C01Comp.lean), the builders a data type can have (`Shape_*_form`), and the specification read by
the classes of calls `push` dispatches on (`IsUnitLike`, `IsScalar`, `IsSeqLike`, `IsVariant`, `Refused`: Lemmas/PushRows.lean).
-/
namespace SaModel.Build
open SaModel SaModel.Spec

def Comp (ext : Ext) (x : SVal) : Prop :=
  ∀ b dt n md lv, Good b dt n md → vsize ext x ≤ room b → interpDT ext dt n md x = .ok lv →
    ∃ b', push ext b x = .ok b' ∧ room b ≤ room b' + vsize ext x

def TupleLoop (ext : Ext) (xs : SVals) : Prop :=
  ∀ fs0 s adds sfs, Mid fs0 s adds → ShapeL s.fields sfs → totalFs sfs = true → vsizes ext xs ≤ roomL s.fields →
    PendT ext xs s.next s.seen sfs →
    ∃ s', pushTupleElems ext s xs = .ok s' ∧ EndOK s'.seen sfs ∧ roomL s.fields ≤ roomL s'.fields + vsizes ext xs

def FieldsLoop (ext : Ext) (fields : SFields) : Prop :=
  ∀ fs0 s adds sfs, Mid fs0 s adds → ShapeL s.fields sfs → totalFs sfs = true → vsizef ext fields ≤ roomL s.fields →
    PendN (fun f => interpByName ext f.name f.dataType f.nullable f.metadata fields) s.seen sfs →
    ∃ s', pushFields ext s fields = .ok s' ∧ EndOK s'.seen sfs ∧ roomL s.fields ≤ roomL s'.fields + vsizef ext fields

def EntriesLoop (ext : Ext) (es : SEntries) : Prop :=
  ∀ fs0 s adds sfs, Mid fs0 s adds → ShapeL s.fields sfs → totalFs sfs = true → vsizee ext es ≤ roomL s.fields →
    keysAreStrings es = .ok () →
    PendN (fun f => interpByKey ext f.name f.dataType f.nullable f.metadata es) s.seen sfs →
    ∃ s', pushStructEntries ext s es = .ok s' ∧ EndOK s'.seen sfs ∧ roomL s.fields ≤ roomL s'.fields + vsizee ext es

/-! ### builders of a given type -/

theorem Shape_struct_form {b : B} {sfs : Fields} {n : Bool} {md : Metadata} (h : Shape b (.struct sfs) n md) :
    ∃ p len v fs cached next seen, b = .struct p len v fs cached next seen := by
  cases b with
  | struct p len v fs cached next seen => exact ⟨_, _, _, _, _, _, _, rfl⟩
  | bytes _ ty _ _ _ => cases ty <;> simp [Shape, bytesDT] at h
  | bytesView _ ty _ _ _ => cases ty <;> simp [Shape, viewDT] at h
  | list _ large _ _ _ _ => cases large <;> simp [Shape] at h
  | _ => simp [Shape, kindOf] at h

theorem Shape_union_form {b : B} {ufs : UFields} {mode : UnionMode} {n : Bool} {md : Metadata}
    (h : Shape b (.union ufs mode) n md) : ∃ p fs t o c, b = .union p fs t o c := by
  cases b with
  | union p fs t o c => exact ⟨_, _, _, _, _, rfl⟩
  | bytes _ ty _ _ _ => cases ty <;> simp [Shape, bytesDT] at h
  | bytesView _ ty _ _ _ => cases ty <;> simp [Shape, viewDT] at h
  | list _ large _ _ _ _ => cases large <;> simp [Shape] at h
  | _ => simp [Shape, kindOf] at h

theorem Shape_map_form {b : B} {f : Field} {sorted : Bool} {n : Bool} {md : Metadata}
    (h : Shape b (.map f sorted) n md) : ∃ p mm v offs ks vs, b = .map p mm v offs ks vs := by
  cases b with
  | map p mm v offs ks vs => exact ⟨_, _, _, _, _, _, rfl⟩
  | bytes _ ty _ _ _ => cases ty <;> simp [Shape, bytesDT] at h
  | bytesView _ ty _ _ _ => cases ty <;> simp [Shape, viewDT] at h
  | list _ large _ _ _ _ => cases large <;> simp [Shape] at h
  | _ => simp [Shape, kindOf] at h

theorem Shape_list_form {b : B} {f : Field} {n : Bool} {md : Metadata}
    (h : Shape b (.list f) n md ∨ Shape b (.largeList f) n md) : ∃ p large fm v offs el, b = .list p large fm v offs el := by
  cases b with
  | list p large fm v offs el => exact ⟨_, _, _, _, _, _, rfl⟩
  | bytes _ ty _ _ _ => cases ty <;> simp [Shape, bytesDT] at h
  | bytesView _ ty _ _ _ => cases ty <;> simp [Shape, viewDT] at h
  | _ => simp [Shape, kindOf] at h

theorem Shape_not_list {b : B} {dt : DataType} {n : Bool} {md : Metadata} (h : Shape b dt n md) (hb : b.isList = false) :
    (∀ f, dt ≠ .list f) ∧ (∀ f, dt ≠ .largeList f) := by
  refine ⟨fun f hd => ?_, fun f hd => ?_⟩ <;> subst hd
  · obtain ⟨p, large, fm, v, offs, el, rfl⟩ := Shape_list_form (Or.inl h); cases hb
  · obtain ⟨p, large, fm, v, offs, el, rfl⟩ := Shape_list_form (Or.inr h); cases hb

theorem Shape_not_union {b : B} {dt : DataType} {n : Bool} {md : Metadata} (h : Shape b dt n md) (hb : b.isUnion = false) :
    ∀ ufs mode, dt ≠ .union ufs mode := by
  intro ufs mode hd; subst hd
  obtain ⟨p, fs, t, o, c, rfl⟩ := Shape_union_form h
  cases hb

/-! ### the specification at scalar-like values -/

theorem interpScalar_known {ext : Ext} {dt : DataType} {x : SVal} {lv : LVal} (md : Metadata)
    (h : interpScalar ext dt x = .ok lv) (hx : ∀ nm, x ≠ .unitStruct nm) : isUnknownVariant dt md = false := by
  cases dt <;> simp only [isUnknownVariant]
  cases x <;> simp [interpScalar_eq_old, normErr_ok_iff, interpScalarOld, fail] at h
  exact absurd rfl (hx _)

/-! ### entries of a map value -/

def elen : SEntries → Nat
  | .nil => 0
  | .cons _ _ r => elen r + 1

theorem elen_le (ext : Ext) : ∀ (es : SEntries), elen es ≤ vsizee ext es
  | .nil => by simp [elen, vsizee]
  | .cons k v r => by
    have := elen_le ext r
    have := vsize_pos ext k
    simp only [elen, vsizee]; omega

/-! ### the specification by class of call -/

theorem IsUnitLike.interp {x : SVal} (h : IsUnitLike x) (ext : Ext) (dt n md) :
    interpDT ext dt n md x = interpNull dt n md ∧ vsize ext x = 1 := by
  cases h <;> exact ⟨rfl, rfl⟩

theorem IsSeqLike.size {x : SVal} {k : SeqKind} {xs : SVals} (h : IsSeqLike x k xs) (ext : Ext) :
    vsize ext x = vsizes ext xs + 1 ∧ noRaw x = noRaws xs := by
  cases h <;> exact ⟨rfl, rfl⟩

/-- a scalar call at a value with a meaning: the leaf table decides, and the column is no `UnknownVariant` placeholder -/
theorem IsScalar.interp {b : B} {x : SVal} (h : IsScalar b x) {ext : Ext} {dt n md lv} (hs : Shape b dt n md)
    (hi : interpDT ext dt n md x = .ok lv) : isUnknownVariant dt md = false ∧ interpScalar ext dt x = .ok lv := by
  have key : (if isUnknownVariant dt md then fail "unknown variant" else interpScalar ext dt x) = .ok lv := by
    cases h with
    | bytes bs hb => rwa [interpDT_bytes_nonlist ext n md bs (Shape_not_list hs hb).1 (Shape_not_list hs hb).2] at hi
    | unitVariant a i vn hb =>
      rw [interpDT_unitVariant_nonunion ext n md a i vn (Shape_not_union hs hb)] at hi
      rwa [interpScalar_known md hi (fun _ h => by cases h)]
    | _ => exact hi
  by_cases hu : isUnknownVariant dt md = true
  · simp [hu, fail] at key
  · simp only [hu, Bool.false_eq_true, if_false] at key
    exact ⟨by simpa using hu, key⟩

/-! ### inversion of the specification -/

theorem interpDT_record_inv {ext : Ext} {dt : DataType} {n : Bool} {md : Metadata} {nm : String} {fields : SFields}
    {lv : LVal} (h : interpDT ext dt n md (.record nm fields) = .ok lv) :
    ∃ sfs, dt = .struct sfs ∧
      structOf sfs.toList (fun f => interpByName ext f.name f.dataType f.nullable f.metadata fields) = .ok lv := by
  simp only [interpDT] at h
  by_cases hu : isUnknownVariant dt md = true
  · simp [hu, fail] at h
  · simp only [hu, Bool.false_eq_true, if_false] at h
    split at h
    · exact ⟨_, rfl, h⟩
    · cases h

theorem interpDT_map_cases {ext : Ext} {dt : DataType} {n : Bool} {md : Metadata} {es : SEntries} {lv : LVal}
    (h : interpDT ext dt n md (.map es) = .ok lv) : (∃ sfs, dt = .struct sfs) ∨ (∃ f s, dt = .map f s) := by
  simp only [interpDT] at h
  by_cases hu : isUnknownVariant dt md = true
  · simp [hu, fail] at h
  · simp only [hu, Bool.false_eq_true, if_false] at h
    split at h
    · exact Or.inl ⟨_, rfl⟩
    · exact Or.inr ⟨_, _, rfl⟩
    · cases h

/-- a variant value, at a union type or with a payload: the type is a union, and the payload, as an ordinary value, has a
meaning at the variant's field -/
theorem IsVariant.interp {x y : SVal} {i : Nat} (h : IsVariant x i y) {ext : Ext} {dt n md lv}
    (hi : interpDT ext dt n md x = .ok lv) (hd : (∃ ufs mode, dt = .union ufs mode) ∨ ∀ a vn, x ≠ .unitVariant a i vn) :
    ∃ ufs mode tid nm cdt cn cmd lvc, dt = .union ufs mode ∧ ufs.toList[i]? = some (tid, .mk nm cdt cn cmd) ∧
      interpDT ext cdt cn cmd y = .ok lvc := by
  have hu : ∃ ufs mode, dt = .union ufs mode := by
    rcases hd with h' | hx
    · exact h'
    · cases h with
      | unit a i vn => exact absurd rfl (hx a vn)
      | _ => simp only [interpDT] at hi; split at hi <;> first | exact ⟨_, _, rfl⟩ | cases hi
  obtain ⟨ufs, mode, rfl⟩ := hu
  cases hq : ufs.toList[i]? with
  | none => cases h <;> simp [interpDT, hq, fail] at hi
  | some q =>
    obtain ⟨tid, ⟨nm, cdt, cn, cmd⟩⟩ := q
    obtain ⟨lvc, hy, _⟩ := (interpDT_variant_iff h hq).1 hi
    exact ⟨ufs, mode, tid, nm, cdt, cn, cmd, lvc, rfl, hq, hy⟩

theorem IsVariant.size {x y : SVal} {i : Nat} (h : IsVariant x i y) (ext : Ext) :
    max (vsize ext y) 1 ≤ vsize ext x ∧ noRaw x = noRaw y := by
  cases h <;> exact ⟨by simp only [vsize]; omega, rfl⟩

/-- a value with a meaning is one the builder's family takes -/
theorem Refused.elim {b : B} {x : SVal} (h : Refused b x) {ext : Ext} {dt n md lv} (hraw : noRaw x = true)
    (hs : Shape b dt n md) (hi : interpDT ext dt n md x = .ok lv) : False := by
  have hun : ∀ {i y}, IsVariant x i y → (∀ a vn, x ≠ .unitVariant a i vn) → b.isUnion = false → False := fun hv hx hb => by
    obtain ⟨ufs, mode, _, _, _, _, _, _, he, _⟩ := hv.interp hi (.inr hx)
    exact Shape_not_union hs hb ufs mode he
  cases h with
  | unit hx =>
    simp only [Shape] at hs
    obtain ⟨rfl, hu⟩ := hs
    rw [(hx.interp ext _ _ _).1] at hi
    simp [interpNull, hu, fail] at hi
  | map es h1 h2 =>
    rcases interpDT_map_cases hi with ⟨sfs, rfl⟩ | ⟨f, sorted, rfl⟩
    · obtain ⟨p, len, v, fs, cached, next, seen, rfl⟩ := Shape_struct_form hs
      cases h1
    · obtain ⟨p, mm, v, offs, ks, vs, rfl⟩ := Shape_map_form hs
      cases h2
  | mapRaw => simp [noRaw] at hraw
  | newtypeVariant a i vn v hb => exact hun (.newtype a i vn v) nofun hb
  | tupleVariant a i vn xs hb => exact hun (.tuple a i vn xs) nofun hb
  | structVariant a i vn fs hb => exact hun (.struct a i vn fs) nofun hb

end SaModel.Build
