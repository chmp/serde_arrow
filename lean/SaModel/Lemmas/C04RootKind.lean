import SaModel.Lemmas.C04Schema
import SaModel.Lemmas.C04ExtSchema
import SaModel.Lemmas.C04PhysSize
import SaModel.Lemmas.C04Physical
import SaModel.Lemmas.C04Accept
import SaModel.Lemmas.C04FromType
/-
C04 — the ROOT KINDS of `from_type`.

`Tracer::to_schema` (serde_arrow/src/internal/schema/tracer.rs) turns the field the root tracer was traced to into a schema:

    nullable                    ⇒ Err("The root type cannot be nullable")
    DataType::Struct(children)  ⇒ Ok(children)          -- the metadata of the root field (strategy TupleAsStruct) is dropped
    DataType::Null              ⇒ Err("No records found to determine schema")
    any other data type         ⇒ Err("Schema tracing is not directly supported for the root data type …")

so the root kinds the crate supports are exactly the types traced to a NON-NULLABLE STRUCT: a struct with named fields, a
tuple struct (columns "0", "1", …), a tuple / fixed array (the same), and a newtype struct around any of these (newtype
structs are transparent for the tracer, the builders and the readers) — `recordRoot`, `rootCols_isSome_iff`.  Everything
else (`()`, unit structs, scalars, Option, Vec, maps, enums, and newtypes of those) is refused.

This file: `rootCols` (the columns of a root type under the documented mapping), its syntactic characterisation, the
schema facts of the lemma files of C04 restated for the columns of ANY root (each is the `mapping_*` lemma at the struct
the root is traced to), and the independence of `Spec.interpDT` at a Struct from the metadata of the field.
-/
namespace SaModel.Roundtrip
open SaModel SaModel.Build SaModel.Spec SaModel.Lemmas.C03

/-- the columns of a root type: the children of the non-nullable struct it is traced to (`Tracer::to_schema`) -/
def rootCols (o : TraceOpts) (t : Ty) : Option Fields :=
  match mappingDT o t with
  | (.struct fs, false, _) => some fs
  | _ => none

theorem mappingRoot_eq_rootCols (o : TraceOpts) (t : Ty) : mappingRoot o t = (rootCols o t).map Fields.toList := by
  unfold mappingRoot rootCols
  split
  · rename_i h; simp only [h, Option.map_some]
  · rename_i h
    split
    · rename_i h'; exact absurd h' (h _ _)
    · rfl

/-- the root kinds `from_type` supports, syntactically: a struct with named fields, a tuple struct, a tuple (fixed arrays
are tuples for serde), a newtype struct around one of these -/
def recordRoot : Ty → Bool
  | .struct _ _ | .tupleStruct _ _ | .tuple _ => true
  | .newtype _ t => recordRoot t
  | _ => false

/-- what is under the newtype wrappers of a root type -/
def rootCore : Ty → Ty
  | .newtype _ t => rootCore t
  | t => t

theorem rootCols_some {o : TraceOpts} {t : Ty} {F : Fields} (h : rootCols o t = some F) :
    ∃ md, mappingDT o t = (.struct F, false, md) := by
  unfold rootCols at h
  split at h
  · rename_i fs md hm
    cases h
    exact ⟨md, hm⟩
  · cases h

theorem rootCols_of_mapping {o : TraceOpts} {t : Ty} {F : Fields} {md : Metadata} (h : mappingDT o t = (.struct F, false, md)) :
    rootCols o t = some F := by
  simp [rootCols, h]

theorem mappingRoot_cols {o : TraceOpts} {t : Ty} {F : Fields} {fields : List Field} (hroot : rootCols o t = some F)
    (h : mappingRoot o t = some fields) : fields = F.toList := by
  rw [mappingRoot_eq_rootCols, hroot] at h
  exact (Option.some.inj h).symm

/-- **the supported root kinds, characterised**: a type is traced to a non-nullable struct — for every option set —
exactly when it is a struct with named fields, a tuple struct, a tuple, or a newtype struct around one of these -/
theorem rootCols_isSome_iff (o : TraceOpts) : ∀ (t : Ty), (rootCols o t).isSome = recordRoot t
  | .prim .bool | .prim .f32 | .prim .f64 | .prim .char | .prim .bytes | .prim .bytesRef | .prim .bytesSeq => by simp [rootCols, mappingDT, recordRoot, primDT]
  | .prim (.int it) => by cases it <;> simp [rootCols, mappingDT, recordRoot, primDT, intDT]
  | .prim .str | .prim .strRef | .prim .cowStr => by
    cases h1 : o.stringDictionaryEncoding <;> cases h2 : o.stringsAsLargeUtf8 <;>
      simp [rootCols, mappingDT, recordRoot, primDT, strDT, h1, h2]
  | .unit => by simp [rootCols, mappingDT, recordRoot]
  | .unitStruct _ => by simp [rootCols, mappingDT, recordRoot]
  | .option t => by
    rcases hm : mappingDT o t with ⟨dt, nb, md⟩
    simp [rootCols, mappingDT, hm, recordRoot]
  | .vec t => by
    rcases hm : mappingDT o t with ⟨dt, nb, md⟩
    cases h1 : o.sequenceAsLargeList <;> simp [rootCols, mappingDT, hm, recordRoot, h1]
  | .tuple _ => by simp [rootCols, mappingDT, recordRoot]
  | .tupleStruct _ _ => by simp [rootCols, mappingDT, recordRoot]
  | .struct _ _ => by simp [rootCols, mappingDT, recordRoot]
  | .newtype _ t => by
    have ih := rootCols_isSome_iff o t
    exact ih
  | .enum _ vars => by
    cases h1 : (vars.withoutData && o.enumsWithoutDataAsStrings) <;> simp [rootCols, mappingDT, recordRoot, h1]
  | .map k v => by
    rcases hk : mappingDT o k with ⟨kdt, knb, kmd⟩
    rcases hv : mappingDT o v with ⟨vdt, vnb, vmd⟩
    simp [rootCols, mappingDT, hk, hv, recordRoot]

theorem rootCols_struct (o : TraceOpts) (n : String) (fs : TFields) : rootCols o (.struct n fs) = some (mappingFields o fs) := by
  simp [rootCols, mappingDT]
theorem rootCols_tupleStruct (o : TraceOpts) (n : String) (ts : Tys) : rootCols o (.tupleStruct n ts) = some (mappingPos o 0 ts) := by
  simp [rootCols, mappingDT]
theorem rootCols_tuple (o : TraceOpts) (ts : Tys) : rootCols o (.tuple ts) = some (mappingPos o 0 ts) := by
  simp [rootCols, mappingDT]
theorem rootCols_newtype (o : TraceOpts) (n : String) (t : Ty) : rootCols o (.newtype n t) = rootCols o t := by
  simp [rootCols, mappingDT]

theorem mappingPos_ne_nil (o : TraceOpts) (i : Nat) : ∀ (ts : Tys), ts ≠ .nil → mappingPos o i ts ≠ .nil
  | .nil, h => absurd rfl h
  | .cons t r, _ => by
    rcases hm : mappingDT o t with ⟨dt, nb, md⟩
    simp [mappingPos, hm]

theorem mappingFields_ne_nil (o : TraceOpts) : ∀ (fs : TFields), fs ≠ .nil → mappingFields o fs ≠ .nil
  | .nil, h => absurd rfl h
  | .cons n s t r, _ => by
    rcases hm : mappingDT o t with ⟨dt, nb, md⟩
    simp [mappingFields, hm]

theorem rootCols_side {o : TraceOpts} {t : Ty} {F : Fields} (h : rootCols o t = some F) : SideFs F := by
  obtain ⟨md, hm⟩ := rootCols_some h
  have := mapping_side o t _ _ _ hm
  unfold SideFs; exact this

theorem rootCols_noTemporal {o : TraceOpts} {t : Ty} {F : Fields} (h : rootCols o t = some F) :
    ∀ f ∈ F.toList, noTemporalDT f.dataType = true := by
  obtain ⟨md, hm⟩ := rootCols_some h
  have := mapping_noTemporal o t _ _ _ hm
  exact noTemporalFs_toList _ (by simpa [noTemporalDT] using this)

theorem toMarrow_refuse_root (ext : Ext) {o : TraceOpts} {t : Ty} {F : Fields} (h : rootCols o t = some F) (fields : List Field)
    (hfields : fields = F.toList) (rows : List SVal) :
    toMarrow ext fields rows = toMarrow (refuseExt ext) fields rows :=
  toMarrow_refuse ext fields rows (by rw [hfields]; exact rootCols_noTemporal h)

theorem rootCols_sizeOK {o : TraceOpts} {t : Ty} {F : Fields} (h : rootCols o t = some F) (L : Nat) (hL : L ≤ 9223372036854775807) :
    ∀ f ∈ F.toList, sizeOKDT f.dataType L = true := by
  obtain ⟨md, hm⟩ := rootCols_some h
  have := mapping_fslFree o t _ _ _ hm
  exact fun f hf => sizeOKDT_of_fslFree _ L (fslFreeFs_toList _ (by simpa [fslFreeDT] using this) f hf) hL

theorem rootCols_plain {o : TraceOpts} (hd : o.stringDictionaryEncoding = false) (he : o.enumsWithoutDataAsStrings = false)
    {t : Ty} {F : Fields} (h : rootCols o t = some F) : plainFs F = true := by
  obtain ⟨md, hm⟩ := rootCols_some h
  exact mapping_plain o hd he t _ _ _ hm

theorem rootCols_total {o : TraceOpts} {t : Ty} {F : Fields} (h : rootCols o t = some F) (hs : sized t = true) :
    totalFs F = true := by
  obtain ⟨md, hm⟩ := rootCols_some h
  have := (mapping_total o t _ _ _ hs hm).1 false
  simpa [total] using this

/-- **`ArrayBuilder::new` accepts the schema traced from any supported root type of the grammar**; the fresh root has the
full head room `2^31 - 1` (`newRoot_traced` for every root kind: `newDT "$" (.struct F) false md` IS `newRoot F.toList`) -/
theorem newRoot_root {o : TraceOpts} {t : Ty} {F : Fields} (h : rootCols o t = some F) (hf : fragE t = true) :
    ∃ root0, newRoot F.toList = .ok root0 ∧ room root0 = 2147483647 := by
  obtain ⟨md, hm⟩ := rootCols_some h
  obtain ⟨b, hb, hu, hk⟩ := newDT_traced o t _ _ _ hf hm "$" false
  refine ⟨b, by simpa only [newRoot, fields_ofList_toList, newDT] using hb, ?_⟩
  rw [room_eq, hu, hk]; rfl

/-! ### `Spec.interpDT` at a Struct does not look at the metadata of the field -/

theorem interpDT_struct_md (ext : Ext) (F : Fields) (nb : Bool) (md md' : Metadata) :
    ∀ (x : SVal), interpDT ext (.struct F) nb md x = interpDT ext (.struct F) nb md' x
  | .some v => by simp only [interpDT]; exact interpDT_struct_md ext F nb md md' v
  | .newtypeStruct _ v => by simp only [interpDT]; exact interpDT_struct_md ext F nb md md' v
  | .none | .unit | .unitStruct _ => by simp [interpDT, interpNull, isUnknownVariant]
  | .seq _ | .tuple _ | .tupleStruct _ _ | .bytes _ | .record _ _ | .map _ | .mapRaw _ => by
    simp [interpDT, isUnknownVariant]
  | .unitVariant _ _ _ | .newtypeVariant _ _ _ _ | .tupleVariant _ _ _ _ | .structVariant _ _ _ _ => by
    simp [interpDT]
  | .bool _ | .int _ _ | .f32 _ | .f64 _ | .char _ | .str _ => by simp [interpDT, isUnknownVariant]

/-- the documented result of `from_type` on any root traced to a non-nullable struct: walkable, mappable, passes within
the budget, no overwrites ⇒ the columns of the documented mapping (`fromTypeSpec_ok` for every root kind) -/
theorem fromTypeSpec_ok_root (O : Trace.Options) (h0 : O.overwrites = []) (t : Ty) (F : Fields)
    (hroot : rootCols (viewOpts O) t = some F)
    (hw : Trace.Spec.walkable O "$" (toTraceTy t) = true)
    (hp : mappable (viewOpts O) t = true)
    (hb : Trace.Spec.passes (toTraceTy t) ≤ O.from_type_budget) :
    Trace.Spec.fromTypeSpec O (toTraceTy t) = .ok F.toList := by
  obtain ⟨md, hm⟩ := rootCols_some hroot
  unfold Trace.Spec.fromTypeSpec
  rw [if_neg (by simp [hw]), if_neg (by omega), h0, mapping_ok O h0 t "$" "$" false _ _ _ hp hm]
  simp [ok_bind, Field.nullable, Field.dataType]

/-- **`from_type` succeeds on every supported root kind** (the tracer model, every exploration order `c`) -/
theorem fromType_ok_root (c : Trace.Code) (O : Trace.Options) (h0 : O.overwrites = []) (t : Ty) (F : Fields)
    (hroot : rootCols (viewOpts O) t = some F)
    (hw : Trace.Spec.walkable O "$" (toTraceTy t) = true)
    (hp : mappable (viewOpts O) t = true)
    (hb : Trace.Spec.passes (toTraceTy t) ≤ O.from_type_budget) :
    Trace.fromType c O (toTraceTy t) = .ok F.toList := by
  have hag := Props.C08.C08_from_type c O (toTraceTy t)
  rw [fromTypeSpec_ok_root O h0 t F hroot hw hp hb] at hag
  exact agree_ok hag

end SaModel.Roundtrip
