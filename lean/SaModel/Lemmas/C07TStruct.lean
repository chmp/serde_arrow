import SaModel.Lemmas.C07TSeq
/-
C07, tree level — struct nodes as finite maps: the field loop of `StructSerializer` / `MapSerializer::AsStruct` over the
`(key, value)` pairs of the sample (`C06.absorbKVs`) in terms of lookups by name (`absorbPairs`), its effect on every
key separately (`stepKey`, `keyT`: what one sample does to the tracer found under one key); then the struct family at node
level (`StructFam`).
-/
namespace SaModel.Lemmas.C07
open SaModel SaModel.Trace SaModel.Props.C07

/-- the tracer `ensure_field` creates for a new key -/
def freshField (path : String) (seen : Nat) (key : String) : Tracer :=
  if seen != 0 then (Tracer.new key (path ++ "." ++ key)).mark_nullable else Tracer.new key (path ++ "." ++ key)

theorem WF_fresh (o : Options) (p : String) (s : Nat) (k : String) : WF o (freshField p s k) := by
  unfold freshField
  split <;> (simp only [Tracer.new, Tracer.mark_nullable, Tracer.set_nullable]; rw [WF]; trivial)

theorem freshField_zero (p : String) {s s' : Nat} (h : s = 0 ↔ s' = 0) (k : String) :
    freshField p s k = freshField p s' k := by
  unfold freshField
  by_cases h0 : s = 0
  · have := h.mp h0; subst h0; subst this; rfl
  · have h1 : ¬ s' = 0 := fun e => h0 (h.mpr e)
    simp [h0, h1]

theorem freshField_succ (p : String) (s : Nat) (k : String) :
    freshField p (s + 1) k = (freshField p s k).mark_nullable := by
  unfold freshField
  by_cases h0 : s = 0
  · subst h0; rfl
  · simp [h0, mark_mark]

/-- one `serialize_field`: `ensure_field`, `get_field_tracer_mut`, the value -/
def stepField (o : Options) (path : String) (seen : Nat) (fs : TFields) (key : String) (v : SVal) : R TFields :=
  match fs.find key with
  | some (_, ft) =>
    match absorb .fixed o ft v with
    | .ok ft' => .ok (fs.put key seen ft')
    | .error e => .error e
  | none =>
    match absorb .fixed o (freshField path seen key) v with
    | .ok ft' => .ok (fs.push key seen ft')
    | .error e => .error e

def absorbPairs (o : Options) (path : String) (seen : Nat) : TFields → List (String × SVal) → R TFields
  | fs, [] => .ok fs
  | fs, (k, v) :: r =>
    match stepField o path seen fs k v with
    | .ok fs' => absorbPairs o path seen fs' r
    | .error e => .error e

def keyVals (k : String) : List (String × SVal) → List SVal
  | [] => []
  | (k', v) :: r => if k' = k then v :: keyVals k r else keyVals k r

theorem keyVals_mem {k : String} {v : SVal} : ∀ {ps : List (String × SVal)}, v ∈ keyVals k ps → (k, v) ∈ ps
  | [], h => by simp [keyVals] at h
  | (k', v') :: r, h => by
    simp only [keyVals] at h
    split at h
    · rename_i hk
      subst hk
      rcases List.mem_cons.mp h with rfl | h
      · simp
      · exact List.mem_cons_of_mem _ (keyVals_mem h)
    · exact List.mem_cons_of_mem _ (keyVals_mem h)

def tr (x : Option (Nat × Tracer)) : Option Tracer := x.map (·.2)

def curT (path : String) (seen : Nat) (k : String) : Option Tracer → Tracer
  | some t => t
  | none => freshField path seen k

theorem ensure_field_get (path : String) (seen : Nat) (fs : TFields) (key : String) :
    (ensure_field path seen fs key).2.get? (ensure_field path seen fs key).1 =
        some (curT path seen key (tr (fs.find key))) ∧
      ∀ ft', (ensure_field path seen fs key).2.set (ensure_field path seen fs key).1 ft' =
        match fs.find key with
        | some _ => fs.put key seen ft'
        | none => fs.push key seen ft' := by
  unfold ensure_field
  cases hf : fs.find key with
  | none =>
    simp only [indexOf_none hf, tr, Option.map, curT, freshField]
    exact ⟨(push_get fs key seen _).1, fun ft' => (push_get fs key seen _).2 ft'⟩
  | some lt =>
    obtain ⟨l, t⟩ := lt
    obtain ⟨idx, h1, h2⟩ := indexOf_some hf
    simp only [h1, tr, Option.map, curT]
    exact ⟨(h2 seen).1, fun ft' => (h2 seen).2 ft'⟩

theorem stepField_eq (o : Options) (path : String) (seen : Nat) (fs : TFields) (key : String) (v : SVal) :
    stepField o path seen fs key v =
      match absorb .fixed o (curT path seen key (tr (fs.find key))) v with
      | .ok ft' => .ok (match fs.find key with
        | some _ => fs.put key seen ft'
        | none => fs.push key seen ft')
      | .error e => .error e := by
  unfold stepField
  cases hf : fs.find key with
  | none => simp only [tr, Option.map, curT]
  | some lt => obtain ⟨l, t⟩ := lt; simp only [tr, Option.map, curT]

/-- the field loop of `StructSerializer` over a (key, value) list, in terms of lookups by name -/
theorem absorbKVs_eq_pairs (o : Options) (p : String) (s : Nat) : ∀ (ps : List (String × SVal)) (fs : TFields),
    C06.absorbKVs .fixed o p s fs ps = absorbPairs o p s fs ps
  | [], _ => rfl
  | (k, v) :: r, fs => by
    obtain ⟨hg, hset⟩ := ensure_field_get p s fs k
    simp only [C06.absorbKVs, absorbPairs, hg, stepField_eq]
    cases absorb .fixed o (curT p s k (tr (fs.find k))) v with
    | error e => rfl
    | ok ft' => simp only [hset]; exact absorbKVs_eq_pairs o p s r _

/-- effect of the field loop (before `end`) on the lookup of one key -/
def stepKey (o : Options) (path : String) (seen : Nat) (cur : Option (Nat × Tracer)) (k : String)
    (vs : List SVal) : R (Option (Nat × Tracer)) :=
  match vs with
  | [] => .ok cur
  | _ :: _ =>
    match absorbAll .fixed o (curT path seen k (tr cur)) vs with
    | .ok t' => .ok (some (seen, t'))
    | .error e => .error e

theorem stepField_find {o : Options} {path : String} {seen : Nat} {fs fs1 : TFields} {k0 : String} {v : SVal}
    (h : stepField o path seen fs k0 v = .ok fs1) :
    ∃ ft', absorb .fixed o (curT path seen k0 (tr (fs.find k0))) v = .ok ft' ∧ fs1.find k0 = some (seen, ft') ∧
      ∀ k, k0 ≠ k → fs1.find k = fs.find k := by
  unfold stepField at h
  cases hf : fs.find k0 with
  | none =>
    rw [hf] at h
    simp only at h
    cases ha : absorb .fixed o (freshField path seen k0) v with
    | error e => rw [ha] at h; cases h
    | ok ft' =>
      rw [ha] at h; cases h
      refine ⟨ft', ha, ?_, ?_⟩
      · rw [find_push, hf]; simp
      · intro k hk; rw [find_push]; cases fs.find k <;> simp [hk]
  | some lt =>
    obtain ⟨l, t⟩ := lt
    rw [hf] at h
    simp only at h
    cases ha : absorb .fixed o t v with
    | error e => rw [ha] at h; cases h
    | ok ft' =>
      rw [ha] at h; cases h
      refine ⟨ft', ha, ?_, ?_⟩
      · rw [find_put, hf]; simp
      · intro k hk; rw [find_put]; simp [hk]

theorem stepField_mk {o : Options} {path : String} {seen : Nat} {fs : TFields} {k0 : String} {v : SVal} {ft' : Tracer}
    (h : absorb .fixed o (curT path seen k0 (tr (fs.find k0))) v = .ok ft') :
    ∃ fs1, stepField o path seen fs k0 v = .ok fs1 := by
  unfold stepField
  cases hf : fs.find k0 with
  | none => rw [hf] at h; simp only [tr, Option.map, curT] at h; simp only [h]; exact ⟨_, rfl⟩
  | some lt =>
    obtain ⟨l, t⟩ := lt
    rw [hf] at h; simp only [tr, Option.map, curT] at h; simp only [h]; exact ⟨_, rfl⟩

theorem keyVals_cons_ne {k0 k : String} (h : k0 ≠ k) (v : SVal) (r : List (String × SVal)) :
    keyVals k ((k0, v) :: r) = keyVals k r := by simp [keyVals, h]

theorem keyVals_cons_eq (k : String) (v : SVal) (r : List (String × SVal)) :
    keyVals k ((k, v) :: r) = v :: keyVals k r := by simp [keyVals]

/-- Lemma A: the loop acts on every key separately -/
theorem pairs_find {o : Options} {path : String} {seen : Nat} : ∀ {ps : List (String × SVal)} {fs fs' : TFields},
    absorbPairs o path seen fs ps = .ok fs' →
    ∀ k, stepKey o path seen (fs.find k) k (keyVals k ps) = .ok (fs'.find k)
  | [], fs, fs', h => by
    simp only [absorbPairs] at h; cases h
    exact fun k => rfl
  | (k0, v) :: r, fs, fs', h => by
    simp only [absorbPairs] at h
    cases h1 : stepField o path seen fs k0 v with
    | error e => rw [h1] at h; cases h
    | ok fs1 =>
      rw [h1] at h
      obtain ⟨ft', ha, hf0, hfk⟩ := stepField_find h1
      have ih := pairs_find h
      intro k
      by_cases hk : k0 = k
      · subst hk
        rw [keyVals_cons_eq]
        have ihk := ih k0
        rw [hf0] at ihk
        simp only [stepKey, absorbAll, bind, Except.bind, ha]
        cases hr : keyVals k0 r with
        | nil => rw [hr] at ihk; simp only [stepKey] at ihk; simp only [absorbAll]; rw [← ihk]
        | cons w ws =>
          rw [hr] at ihk
          simp only [stepKey, tr, Option.map, curT] at ihk
          exact ihk
      · rw [keyVals_cons_ne hk, ← hfk k hk]; exact ih k

/-- Lemma B: the loop succeeds when every key does -/
theorem pairs_mk {o : Options} {path : String} {seen : Nat} : ∀ {ps : List (String × SVal)} {fs : TFields},
    (∀ k, ∃ r, stepKey o path seen (fs.find k) k (keyVals k ps) = .ok r) → ∃ fs', absorbPairs o path seen fs ps = .ok fs'
  | [], fs, _ => ⟨fs, rfl⟩
  | (k0, v) :: r, fs, h => by
    obtain ⟨r0, h0⟩ := h k0
    rw [keyVals_cons_eq] at h0
    simp only [stepKey, absorbAll, bind, Except.bind] at h0
    cases ha : absorb .fixed o (curT path seen k0 (tr (fs.find k0))) v with
    | error e => rw [ha] at h0; cases h0
    | ok ft' =>
      rw [ha] at h0
      dsimp only at h0
      obtain ⟨fs1, h1⟩ := stepField_mk ha
      obtain ⟨ft'', ha', hf0, hfk⟩ := stepField_find h1
      rw [ha] at ha'; cases ha'
      have : ∀ k, ∃ r', stepKey o path seen (fs1.find k) k (keyVals k r) = .ok r' := by
        intro k
        by_cases hk : k0 = k
        · subst hk
          rw [hf0]
          cases hr : keyVals k0 r with
          | nil => exact ⟨_, rfl⟩
          | cons w ws =>
            rw [hr] at h0
            simp only [stepKey, tr, Option.map, curT]
            cases hb : absorbAll .fixed o ft' (w :: ws) with
            | error e => rw [hb] at h0; cases h0
            | ok t'' => exact ⟨_, rfl⟩
        · obtain ⟨r', hr'⟩ := h k
          rw [keyVals_cons_ne hk] at hr'
          rw [hfk k hk]; exact ⟨r', hr'⟩
      obtain ⟨fs', h2⟩ := pairs_mk this
      exact ⟨fs', by simp only [absorbPairs, h1]; exact h2⟩

/-- the tracer found under `k` after one sample with the values `vs` for `k` -/
def keyT (o : Options) (path : String) (seen : Nat) (cur : Option Tracer) (k : String) (vs : List SVal) :
    R (Option Tracer) :=
  match vs with
  | [] => .ok (cur.map Tracer.mark_nullable)
  | _ :: _ =>
    match absorbAll .fixed o (curT path seen k cur) vs with
    | .ok t' => .ok (some t')
    | .error e => .error e

def ORel (x y : Option Tracer) : Prop :=
  match x, y with
  | none, none => True
  | some a, some b => TEq a b
  | _, _ => False

def OWF (o : Options) (x : Option Tracer) : Prop := ∀ t, x = some t → WF o t

theorem TEq_struct_of {o : Options} {n p : String} {nl : Bool} {m : StructMode} {s s' : Nat} {A B : TFields}
    (hw : FWF o s A) (hs : s = 0 ↔ s' = 0) (h : ∀ k, ORel (tr (A.find k)) (tr (B.find k))) :
    TEq (.struct n p nl A m s) (.struct n p nl B m s') := by
  rw [TEq]
  refine ⟨B, s', rfl, hs, ?_, FSub_of_find hw ?_⟩
  · intro k
    have := h k
    cases ha : A.find k <;> cases hb : B.find k <;> simp [ha, hb, tr, ORel] at this ⊢
  · intro k l t ha
    have := h k
    rw [ha] at this
    cases hb : B.find k with
    | none => simp [hb, tr, ORel] at this
    | some lt => obtain ⟨l', t'⟩ := lt; simp [hb, tr, ORel] at this; exact ⟨l', t', rfl, this⟩

/-- the sample-level effect on lookups: Lemma A followed by `end` -/
theorem sample_find {o : Options} {path : String} {seen : Nat} {ps : List (String × SVal)} {fs fs' : TFields}
    (hl : ∀ k l t, fs.find k = some (l, t) → l < seen) (h : absorbPairs o path seen fs ps = .ok fs') :
    ∀ k, keyT o path seen (tr (fs.find k)) k (keyVals k ps) = .ok (tr ((fs'.end_ seen).find k)) := by
  have hA := pairs_find h
  intro k
  have := hA k
  rw [find_end]
  unfold stepKey at this
  unfold keyT
  cases hv : keyVals k ps with
  | nil =>
    rw [hv] at this; simp only at this
    have e := Except.ok.inj this
    rw [← e]
    cases hf : fs.find k with
    | none => rfl
    | some lt =>
      obtain ⟨l, t⟩ := lt
      have := hl k l t hf
      simp [tr]
      intro e'; omega
  | cons w ws =>
    rw [hv] at this; simp only at this ⊢
    cases hb : absorbAll .fixed o (curT path seen k (tr (fs.find k))) (w :: ws) with
    | error e => rw [hb] at this; cases this
    | ok t' => rw [hb] at this; have e := Except.ok.inj this; rw [← e]; simp [tr]

theorem sample_mk {o : Options} {path : String} {seen : Nat} {ps : List (String × SVal)} {fs : TFields}
    (h : ∀ k, ∃ r, keyT o path seen (tr (fs.find k)) k (keyVals k ps) = .ok r) :
    ∃ fs', absorbPairs o path seen fs ps = .ok fs' := by
  apply pairs_mk
  intro k
  obtain ⟨r, hr⟩ := h k
  unfold keyT at hr
  unfold stepKey
  cases hv : keyVals k ps with
  | nil => exact ⟨_, rfl⟩
  | cons w ws =>
    rw [hv] at hr; simp only at hr ⊢
    cases hb : absorbAll .fixed o (curT path seen k (tr (fs.find k))) (w :: ws) with
    | error e => rw [hb] at hr; cases hr
    | ok t' => exact ⟨_, rfl⟩

theorem absorbAll_mark (c : Code) (o : Options) : ∀ (vs : List SVal) (t : Tracer),
    absorbAll c o t.mark_nullable vs = (absorbAll c o t vs).map Tracer.mark_nullable
  | [], t => rfl
  | v :: vs, t => by
    simp only [absorbAll, bind, Except.bind, absorb_mark c o v t]
    cases absorb c o t v with
    | error e => rfl
    | ok m => simp only [Except.map]; exact absorbAll_mark c o vs m

theorem curT_wf {o : Options} {p : String} {s : Nat} {k : String} {cur : Option Tracer} (h : OWF o cur) :
    WF o (curT p s k cur) := by
  cases cur with
  | none => exact WF_fresh o p s k
  | some t => exact h t rfl

theorem curT_succ (p : String) (s : Nat) (k : String) (cur : Option Tracer) :
    curT p (s + 1) k (cur.map Tracer.mark_nullable) = (curT p s k cur).mark_nullable := by
  cases cur with
  | none => exact freshField_succ p s k
  | some t => rfl

/-! ### the struct family at node level: the samples that are absorbed as "`ensure_struct(mode)`, field loop
over `ps`, `end`" (`StructFam`: records, and maps / key-value streams under `map_as_struct`), and what `ensure_struct`
hands to the field loop. -/

def StructFam (o : Options) (x : SVal) (mode : StructMode) (ps : List (String × SVal)) : Prop :=
  C06.fam o x = .struct mode ps

theorem StructFam.ok {o : Options} {x : SVal} {mode : StructMode} {ps : List (String × SVal)}
    (hx : StructFam o x mode ps) (t a : Tracer) :
    absorb .fixed o t x = .ok a ↔ ∃ n p nl fs m s fs', t.ensure_struct .fixed [] mode = .ok (.struct n p nl fs m s) ∧
      absorbPairs o p s fs ps = .ok fs' ∧ a = .struct n p nl (fs'.end_ s) m (s + 1) := by
  rw [C06.absorb_ok_iff, hx]
  simp only [C06.Run, absorbKVs_eq_pairs]

theorem structFam_record (o : Options) (name : String) (flds : SFields) :
    StructFam o (.record name flds) .struct (C06.SFields.kvs flds) := rfl

def StructLike (o : Options) (x : SVal) (mode : StructMode) (ps : List (String × SVal)) : Prop :=
  ∀ t a, absorb .fixed o t x = .ok a ↔ ∃ n p nl fs m s fs', t.ensure_struct .fixed [] mode = .ok (.struct n p nl fs m s) ∧
    absorbPairs o p s fs ps = .ok fs' ∧ a = .struct n p nl (fs'.end_ s) m (s + 1)

theorem StructFam.like {o : Options} {x : SVal} {mode : StructMode} {ps : List (String × SVal)}
    (hx : StructFam o x mode ps) : StructLike o x mode ps := hx.ok

theorem structLike_record (o : Options) (name : String) (flds : SFields) :
    StructLike o (.record name flds) .struct (C06.SFields.kvs flds) := (structFam_record o name flds).like

theorem ensure_struct_facts {o : Options} {t : Tracer} {mode : StructMode} {n p nl fs m s} (hw : WF o t)
    (h : t.ensure_struct .fixed [] mode = .ok (.struct n p nl fs m s)) :
    FWF o s fs ∧ (∀ fs' m' s', depthOk (.struct n p nl fs' m' s')) ∧
      ((t.is_unknown_or_null = true ∧ fs = .nil ∧ s = 0 ∧ m = mode ∧ n = t.name ∧ p = t.path ∧ nl = t.nullable) ∨
       (∃ m0, t = .struct n p nl fs m0 s ∧ m = joinMode m0 mode)) := by
  obtain ⟨hd, hc⟩ := ensure_struct_inv h
  rcases hc with ⟨hu, e⟩ | ⟨n', p', nl', fs', m0, s', rfl, e⟩
  · cases e
    refine ⟨by rw [FWF]; trivial, fun _ _ _ => (depthOk_path (a := t) rfl).mpr hd, .inl ⟨hu, rfl, rfl, rfl, rfl, rfl, rfl⟩⟩
  · cases e
    rw [WF] at hw
    exact ⟨hw, fun _ _ _ => (depthOk_path (a := .struct n p nl fs m0 s) rfl).mpr hd, .inr ⟨m0, rfl, rfl⟩⟩

theorem OWF_find {o : Options} {s : Nat} {fs : TFields} (hw : FWF o s fs) (k : String) : OWF o (tr (fs.find k)) := by
  intro t ht
  cases hf : fs.find k with
  | none => rw [hf] at ht; cases ht
  | some lt =>
    obtain ⟨l, t'⟩ := lt
    rw [hf] at ht; cases ht
    exact (find_wf hw hf).2

end SaModel.Lemmas.C07
