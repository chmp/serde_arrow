import SaModel.Lemmas.C16Push
import SaModel.Lemmas.C16New
import SaModel.Lemmas.Yields
import SaModel.Lemmas.C01New
/-
C16: the front ends.  `into_array` (`finish`), `build_arrays`, `ArrayBuilder::extend`, the `Serializer`, a whole
history of pushes (`foldlM`), `runRows`, `to_marrow`: none of them unwinds, for every schema `newRoot` accepts and
every list of rows.
-/
namespace SaModel.Lemmas.C16
open SaModel SaModel.Build SaModel.Spec

mutual
theorem finish_np (ext : Ext) (he : ExtNP ext) : ∀ (b : B), NPInv b → (finish ext b).isPanic = false
  | .null _ _, _ => rfl
  | .unknownVariant _, _ => rfl
  | .leaf _ _ _ _, _ => rfl
  | .bytes _ _ _ _ _, _ => rfl
  | .bytesView _ _ _ _ _, _ => rfl
  | .fixedSizeBinary _ _ _ _ _ _, _ => by unfold finish; split <;> rfl
  | .list _ _ _ _ _ el, h => by
    unfold finish
    exact bind_no_panic _ _ (finish_np ext he el h) (fun _ => rfl)
  | .fixedSizeList _ _ _ _ _ _ el, h => by
    unfold finish
    split
    · rfl
    · exact bind_no_panic _ _ (finish_np ext he el h) (fun _ => rfl)
  | .map _ _ _ _ ks vs, h => by
    unfold finish
    refine bind_no_panic _ _ (finish_np ext he ks h.1) (fun _ => ?_)
    exact bind_no_panic _ _ (finish_np ext he vs h.2) (fun _ => rfl)
  | .struct _ _ _ fs _ _ _, h => by
    unfold finish
    exact bind_no_panic _ _ (finishFields_np ext he fs h.2.2) (fun _ => rfl)
  | .dictionary _ idx vals index, h => by
    unfold finish
    refine bind_no_panic _ _ (finish_np ext he idx h.1) (fun _ => ?_)
    refine bind_no_panic _ _ (finish_np ext he vals h.2) (fun _ => ?_)
    split
    · refine bind_no_panic _ _ ?_ (fun _ => rfl)
      rw [ctx_isPanic]; exact pushScalar_np ext he vals _ h.2
    · rfl
  | .union _ fs _ _ _, h => by
    unfold finish
    exact bind_no_panic _ _ (finishUFields_np ext he fs 0 h.2) (fun _ => rfl)
theorem finishFields_np (ext : Ext) (he : ExtNP ext) : ∀ (fs : BL), NPInvL fs → (finishFields ext fs).isPanic = false
  | .nil, _ => rfl
  | .cons b _ rest, h => by
    unfold finishFields
    refine bind_no_panic _ _ (finish_np ext he b h.1) (fun _ => ?_)
    exact bind_no_panic _ _ (finishFields_np ext he rest h.2) (fun _ => rfl)
theorem finishUFields_np (ext : Ext) (he : ExtNP ext) : ∀ (fs : BL) (idx : Nat), NPInvL fs →
    (finishUFields ext fs idx).isPanic = false
  | .nil, _, _ => rfl
  | .cons b _ rest, idx, h => by
    unfold finishUFields
    split
    · rfl
    · refine bind_no_panic _ _ (finish_np ext he b h.1) (fun _ => ?_)
      exact bind_no_panic _ _ (finishUFields_np ext he rest (idx + 1) h.2) (fun _ => rfl)
end

/-- a whole history of pushes: no step unwinds, and the invariant holds at the end -/
theorem foldlM_np (ext : Ext) (he : ExtNP ext) : ∀ (rows : List SVal) (root : B), NPInv root →
    (rows.foldlM (push ext) root).isPanic = false ∧ ∀ r', rows.foldlM (push ext) root = .ok r' → NPInv r' :=
  Yields.foldlM fun b x hb => ⟨push_np ext he x b hb, fun _ => push_npInv ext x hb⟩

theorem pushAll_np (ext : Ext) (he : ExtNP ext) : ∀ (xs : SVals) (root : B), NPInv root →
    (extend.pushAll ext root xs).isPanic = false
  | .nil, _, _ => rfl
  | .cons x rest, root, h => by
    simp only [extend.pushAll]
    exact bind_np (push_np ext he x root h) (fun r1 h1 => pushAll_np ext he rest r1 (push_npInv ext x h h1))

/-- `ArrayBuilder::extend` -/
theorem extend_np (ext : Ext) (he : ExtNP ext) (root : B) (h : NPInv root) (x : SVal) :
    (extend ext root x).isPanic = false := by
  fun_induction extend ext root x <;>
    first
    | assumption
    | exact pushAll_np ext he _ root h
    | exact pushNone_no_panic root
    | (rw [ctx_isPanic]; rfl)

/-- the `Serializer` front end -/
theorem serializeWith_np (ext : Ext) (he : ExtNP ext) (root : B) (h : NPInv root) (x : SVal) :
    (serializeWith ext root x).isPanic = false := by
  fun_induction serializeWith ext root x <;>
    first
    | assumption
    | exact pushAll_np ext he _ root h
    | rfl

/-- `build_arrays` on a struct root -/
theorem buildArrays_np (ext : Ext) (he : ExtNP ext) {p len v fs cached next seen}
    (h : NPInv (.struct p len v fs cached next seen)) :
    (buildArrays ext (.struct p len v fs cached next seen)).isPanic = false := by
  unfold buildArrays
  exact bind_no_panic _ _ (finishFields_np ext he fs h.2.2) (fun _ => rfl)

/-- the root stays a struct through every push (what `take` leaves behind never changes) -/
theorem root_is_struct {ext : Ext} {fields : List Field} {rows : List SVal} {r0 root : B}
    (h0 : newRoot fields = .ok r0) (h : rows.foldlM (push ext) r0 = .ok root) :
    ∃ p len v fs cached next seen, root = .struct p len v fs cached next seen := by
  obtain ⟨p, bl, c, s, rfl⟩ := newRoot_struct h0
  have := foldlM_push_takeRest ext rows _ root h
  cases root <;> simp [takeRest] at this
  exact ⟨_, _, _, _, _, _, _, rfl⟩

theorem runRows_np (ext : Ext) (he : ExtNP ext) (fields : List Field) (rows : List SVal) :
    (runRows ext fields rows).isPanic = false := by
  unfold runRows
  exact bind_np (newRoot_np fields) (fun r0 h0 => (foldlM_np ext he rows r0 (newRoot_npInv h0)).1)

/-- `to_marrow(fields, rows)`: builder construction, every push, and `build_arrays` -/
theorem toMarrow_np (ext : Ext) (he : ExtNP ext) (fields : List Field) (rows : List SVal) :
    (toMarrow ext fields rows).isPanic = false := by
  unfold toMarrow
  refine bind_np (newRoot_np fields) (fun r0 h0 => ?_)
  have hf := foldlM_np ext he rows r0 (newRoot_npInv h0)
  refine bind_np hf.1 (fun root h1 => ?_)
  obtain ⟨p, len, v, fs, cached, next, seen, rfl⟩ := root_is_struct h0 h1
  exact bind_no_panic _ _ (buildArrays_np ext he (hf.2 _ h1)) (fun _ => rfl)

end SaModel.Lemmas.C16
