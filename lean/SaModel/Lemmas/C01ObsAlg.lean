import SaModel.Lemmas.C01ObsDefs
/-
C01 "hidden rows" — algebra of `Refines`, and the relation of the observable rows `decH` to `dec`:
  decH_sound    a DETERMINED observable row is the row `dec` reads (and the observable rows are as many: `decH_length`)
  decH_of_WFB   under the strict invariant `WFB` every row is determined
  WFH_of_WFB    the strict invariant implies the weak one
Also: the childless families (`flat_WFB`, `flat_decH`), and `NoDictKey`: it follows from `Safe` and only looks at what `take`
leaves behind.
-/
namespace SaModel.Build
open SaModel SaModel.Spec

theorem Refines.refl (a : H) : Refines a a := ⟨rfl, fun _ _ h => h⟩

theorem Refines.trans {a b c : H} (h1 : Refines a b) (h2 : Refines b c) : Refines a c :=
  ⟨h1.1.trans h2.1, fun i x h => h1.2 i x (h2.2 i x h)⟩

theorem Refines.length {a b : H} (h : Refines a b) : a.length = b.length := h.1

theorem lt_of_getElem?_some {α} {l : List α} {i : Nat} {x : α} (h : l[i]? = some x) : i < l.length := by
  rcases Nat.lt_or_ge i l.length with h' | h'
  · exact h'
  · rw [List.getElem?_eq_none h'] at h; cases h

theorem Refines.nil : Refines [] [] := Refines.refl []

theorem Refines.cons_iff {x y : Option LVal} {a b : H} :
    Refines (x :: a) (y :: b) ↔ (∀ z, y = some z → x = some z) ∧ Refines a b := by
  constructor
  · intro h
    refine ⟨?_, ?_, ?_⟩
    · intro z hz
      have := h.2 0 z (by simp [hz])
      simpa using this
    · have := h.1; simpa using this
    · intro i z hz
      have := h.2 (i + 1) z (by simpa using hz)
      simpa using this
  · intro ⟨h1, h2⟩
    refine ⟨by simp [h2.1], ?_⟩
    intro i z hz
    cases i with
    | zero => simp at hz ⊢; exact h1 z hz
    | succ i => simp at hz ⊢; exact h2.2 i z hz

theorem Refines.nil_left {b : H} (h : Refines [] b) : b = [] := by
  have := h.1; simp at this; exact List.eq_nil_of_length_eq_zero this.symm

theorem Refines.nil_right {a : H} (h : Refines a []) : a = [] := by
  have := h.1; simp at this; exact this

theorem Refines.append {a a' b b' : H} (h1 : Refines a a') (h2 : Refines b b') : Refines (a ++ b) (a' ++ b') := by
  refine ⟨by simp [h1.1, h2.1], ?_⟩
  intro i x h
  rw [List.getElem?_append] at h ⊢
  rw [h1.1]
  split at h
  · rename_i hc; rw [if_pos hc]; exact h1.2 i x h
  · rename_i hc; rw [if_neg hc]; exact h2.2 _ x h

theorem Refines.split {a b c : H} (h : Refines a (b ++ c)) :
    Refines (a.take b.length) b ∧ Refines (a.drop b.length) c := by
  have hl : a.length = b.length + c.length := by simpa using h.1
  refine ⟨⟨by simp [List.length_take]; omega, ?_⟩, ⟨by simp [List.length_drop]; omega, ?_⟩⟩
  · intro i x hi
    have hlt : i < b.length := lt_of_getElem?_some hi
    rw [List.getElem?_take, if_pos hlt]
    apply h.2
    rw [List.getElem?_append_left hlt]; exact hi
  · intro i x hi
    rw [List.getElem?_drop]
    apply h.2
    rw [List.getElem?_append_right (by omega)]
    have : b.length + i - b.length = i := by omega
    rw [this]; exact hi

/-- nothing refines a fully determined list but itself -/
theorem Refines.of_map_some {a : H} {xs : List LVal} (h : Refines a (xs.map some)) : a = xs.map some := by
  apply List.ext_getElem?
  intro i
  rcases Nat.lt_or_ge i xs.length with hi | hi
  · have e : (xs.map some)[i]? = some (some xs[i]) := by simp [hi]
    rw [e]; exact h.2 i _ e
  · rw [List.getElem?_eq_none (by rw [h.1]; simpa using hi), List.getElem?_eq_none (by simpa using hi)]

/-- undetermined rows may become anything -/
theorem Refines.of_none {a : H} {k : Nat} (h : a.length = k) : Refines a (List.replicate k none) := by
  refine ⟨by simp [h], ?_⟩
  intro i x hx
  rw [List.getElem?_replicate] at hx
  split at hx <;> cases hx

theorem Refines.extend {c0 c c' a t : H} (h1 : Refines c (c0 ++ a)) (h2 : Refines c' (c ++ t)) :
    Refines c' (c0 ++ (a ++ t)) := by
  rw [← List.append_assoc]
  exact h2.trans (h1.append (Refines.refl t))

/-- the appended determined row is unique -/
theorem Refines.snoc_inj {a b : H} {x y : LVal} (h1 : Refines a (b ++ [some x])) (h2 : Refines a (b ++ [some y])) :
    x = y := by
  have e1 := h1.2 b.length x (by simp)
  have e2 := h2.2 b.length y (by simp)
  rw [e1] at e2
  cases e2; rfl

theorem Refines.getElem?_some {a b : H} (h : Refines a b) {i : Nat} {x : LVal} (hb : b[i]? = some (some x)) :
    a[i]? = some (some x) := h.2 i x hb

theorem Refines.take {a b : H} (h : Refines a b) (n : Nat) : Refines (a.take n) (b.take n) := by
  refine ⟨by simp [h.1], ?_⟩
  intro i x hx
  rw [List.getElem?_take] at hx ⊢
  split at hx
  · rename_i hc; rw [if_pos hc]; exact h.2 i x hx
  · cases hx

theorem Refines.drop {a b : H} (h : Refines a b) (n : Nat) : Refines (a.drop n) (b.drop n) := by
  refine ⟨by simp [h.1], ?_⟩
  intro i x hx
  rw [List.getElem?_drop] at hx ⊢
  exact h.2 _ x hx

theorem Refines.slice {a b : H} (h : Refines a b) (s e : Int) : Refines (sliceL a s e) (sliceL b s e) := by
  unfold sliceL
  exact (h.drop _).take _

theorem allSome_map_some {α} (xs : List α) : allSome (xs.map some) = some xs := by
  induction xs with
  | nil => rfl
  | cons x xs ih => simp [allSome, ih]

theorem allSome_eq_some_iff {α} : ∀ {b : List (Option α)} {xs : List α}, allSome b = some xs ↔ b = xs.map some
  | [], xs => by
    cases xs <;> simp [allSome]
  | none :: r, xs => by
    cases xs <;> simp [allSome]
  | some x :: r, xs => by
    cases xs with
    | nil => simp [allSome]
    | cons y ys =>
      simp only [allSome, Option.map_eq_some_iff, List.map_cons, List.cons.injEq, Option.some.injEq]
      constructor
      · rintro ⟨zs, hz, rfl, rfl⟩
        exact ⟨rfl, allSome_eq_some_iff.1 hz⟩
      · rintro ⟨rfl, hr⟩
        exact ⟨ys, allSome_eq_some_iff.2 hr, rfl, rfl⟩

theorem allSome_refines {a b : H} (h : Refines a b) {xs : List LVal} (hb : allSome b = some xs) : allSome a = some xs := by
  rw [allSome_eq_some_iff] at hb ⊢
  subst hb
  exact h.of_map_some

theorem allSome_append {α} (a b : List (Option α)) :
    allSome (a ++ b) = (match allSome a, allSome b with | some x, some y => some (x ++ y) | _, _ => none) := by
  induction a with
  | nil => simp only [List.nil_append, allSome]; cases allSome b <;> rfl
  | cons x a ih =>
    cases x with
    | none => simp [allSome]
    | some x =>
      simp only [List.cons_append, allSome, ih]
      cases allSome a <;> cases allSome b <;> rfl

theorem maskNullH_length {v : Validity} {xs : H} (hv : VLen v xs.length) : (maskNullH v xs).length = xs.length := by
  cases v with
  | none => rfl
  | some bits => simp [maskNullH, hv bits rfl]

theorem maskNullH_map_some (v : Validity) (xs : List LVal) : maskNullH v (xs.map some) = (maskNull v xs).map some := by
  cases v with
  | none => rfl
  | some bits =>
    simp only [maskNullH, maskNull, List.zipWith_map_right, List.map_zipWith]
    congr 1
    funext b x
    cases b <;> rfl

theorem maskNullH_refines (v : Validity) {a b : H} (h : Refines a b) : Refines (maskNullH v a) (maskNullH v b) := by
  cases v with
  | none => exact h
  | some bits =>
    refine ⟨by simp [maskNullH, h.1], ?_⟩
    intro i x hx
    simp only [maskNullH, List.getElem?_zipWith] at hx ⊢
    cases hbi : bits[i]? with
    | none => rw [hbi] at hx; cases hx
    | some bt =>
      cases hb : b[i]? with
      | none => rw [hbi, hb] at hx; cases hx
      | some y =>
        rw [hbi, hb] at hx
        have hlt : i < a.length := by rw [h.1]; exact lt_of_getElem?_some hb
        obtain ⟨w, hw⟩ : ∃ w, a[i]? = some w := ⟨a[i], by simp [hlt]⟩
        rw [hw]
        cases bt with
        | false => exact hx
        | true =>
          simp only [if_true, Option.some.injEq] at hx ⊢
          subst hx
          have := h.2 i x hb
          rw [hw] at this
          cases this; rfl

theorem maskNullH_append {v : Validity} {xs : H} (hv : VLen v xs.length) (bs : List Bool) (ys : H) :
    maskNullH (v.map (· ++ bs)) (xs ++ ys) = maskNullH v xs ++ maskNullH (v.map fun _ => bs) ys := by
  cases v with
  | none => simp [maskNullH]
  | some bits =>
    have hl : bits.length = xs.length := hv bits rfl
    simp only [maskNullH, Option.map_some]
    rw [List.zipWith_append hl]

/-- the observable form of `rowOf` -/
theorem maskNullH_const_one (v : Validity) (b : Bool) (y : LVal) :
    maskNullH (v.map fun _ => [b]) [some y] = [some (rowOf v b y)] := by
  cases v with
  | none => simp [maskNullH]
  | some bits => cases b <;> simp [maskNullH, rowOf]

/-- a row whose bit is clear is a determined null whatever the payload -/
theorem maskNullH_const_false (v : Validity) (k : Nat) (ys : H) (hy : ys.length = k) :
    maskNullH (v.map fun _ => List.replicate k false) ys = if v.isSome then List.replicate k (some LVal.null) else ys := by
  cases v with
  | none => simp [maskNullH]
  | some bits =>
    simp only [maskNullH, Option.map_some, Option.isSome_some, if_true]
    subst hy
    induction ys with
    | nil => rfl
    | cons y ys ih => simp [List.replicate_succ, ih]

/-- the observable column of child `j` -/
def colAtH (fs : BL) (j : Nat) : H := ((decHCols fs).getD j ("", [])).2

theorem colAtH_get : ∀ (fs : BL) (j : Nat) (x : B × FieldMeta), fs.get? j = some x → colAtH fs j = decH x.1
  | .nil, _, _, h => by simp [BL.get?] at h
  | .cons b m r, 0, x, h => by simp [BL.get?] at h; subst h; simp [colAtH, decHCols]
  | .cons b m r, j + 1, x, h => by
    simp only [BL.get?] at h
    have := colAtH_get r j x h
    simpa [colAtH, decHCols] using this

theorem colAtH_set_ne : ∀ (fs : BL) (i j : Nat) (c : B), i ≠ j → colAtH (fs.set i c) j = colAtH fs j
  | .nil, _, _, _, _ => rfl
  | .cons _ _ r, 0, 0, _, h => absurd rfl h
  | .cons _ _ r, 0, j + 1, _, _ => by simp [colAtH, decHCols, BL.set]
  | .cons _ _ r, i + 1, 0, _, _ => by simp [colAtH, decHCols, BL.set]
  | .cons _ _ r, i + 1, j + 1, c, h => by
    have := colAtH_set_ne r i j c (by omega)
    simpa [colAtH, decHCols, BL.set] using this

theorem decHCols_names : ∀ (fs : BL), (decHCols fs).map (·.1) = fs.names
  | .nil => rfl
  | .cons b m r => by simp [decHCols, BL.names, decHCols_names r]

/-! ### the pure row functions: monotone w.r.t. `Refines`, and on determined children the rows `dec` reads -/

theorem sliceL_map {α β} (f : α → β) (xs : List α) (s e : Int) : sliceL (xs.map f) s e = (sliceL xs s e).map f := by
  simp [sliceL, List.map_drop, List.map_take]

/-- two maps of the same list: every determined row of the old map is the row of the new one -/
theorem refines_map {α} (l : List α) (f g : α → Option LVal)
    (h : ∀ a ∈ l, ∀ y, g a = some y → f a = some y) : Refines (l.map f) (l.map g) := by
  refine ⟨by simp, ?_⟩
  intro i x hi
  rw [List.getElem?_map] at hi ⊢
  cases hl : l[i]? with
  | none => simp [hl] at hi
  | some a =>
    rw [hl] at hi
    simp only [Option.map_some] at hi ⊢
    have := h a (List.mem_of_getElem? hl) x (Option.some.inj hi)
    rw [this]

theorem Refines.map_some_congr {α} {l : List α} {f : α → LVal} {g : α → Option LVal}
    (h : ∀ x ∈ l, ∀ z, g x = some z → f x = z) : Refines ((l.map f).map some) (l.map g) := by
  rw [List.map_map]
  exact refines_map _ _ _ fun x hx z hz => by simp [h x hx z hz]

theorem Refines.zipWith_some {α β} {l1 : List α} {l2 : List β} {f : α → β → LVal} {g : α → β → Option LVal}
    (h : ∀ a b z, g a b = some z → f a b = z) : Refines ((List.zipWith f l1 l2).map some) (List.zipWith g l1 l2) := by
  rw [← List.map_uncurry_zip_eq_zipWith, ← List.map_uncurry_zip_eq_zipWith, List.map_map]
  exact refines_map _ _ _ fun p _ z hz => congrArg some (h p.1 p.2 z hz)

theorem allSome_map_mono {a b : H} (h : Refines a b) {β} (F : List LVal → β) {z : β}
    (hz : (allSome b).map F = some z) : (allSome a).map F = some z := by
  obtain ⟨xs, hx, rfl⟩ := Option.map_eq_some_iff.1 hz
  rw [allSome_refines h hx]; rfl

theorem listRowsH_refines (offs : List Int) {a b : H} (h : Refines a b) :
    Refines (listRowsH offs a) (listRowsH offs b) :=
  refines_map _ _ _ fun se _ _ hz => allSome_map_mono (h.slice se.1 se.2) _ hz

theorem listRowsH_map_some (offs : List Int) (xs : List LVal) :
    listRowsH offs (xs.map some) = ((pairs offs).map fun se => LVal.list (LVals.ofList (sliceL xs se.1 se.2))).map some := by
  simp only [listRowsH, List.map_map]
  apply List.map_congr_left
  intro se _
  simp [sliceL_map, allSome_map_some]

theorem fslRowsH_refines (n len : Nat) {a b : H} (h : Refines a b) :
    Refines (fslRowsH n len a) (fslRowsH n len b) :=
  refines_map _ _ _ fun i _ _ hz => allSome_map_mono ((h.drop (i * n)).take n) _ hz

theorem fslRowsH_map_some (n len : Nat) (xs : List LVal) :
    fslRowsH n len (xs.map some) = ((List.range len).map fun i => LVal.list (LVals.ofList ((xs.drop (i * n)).take n))).map some := by
  simp only [fslRowsH, List.map_map]
  apply List.map_congr_left
  intro i _
  have : ((xs.map some).drop (i * n)).take n = ((xs.drop (i * n)).take n).map some := by
    rw [← List.map_drop, ← List.map_take]
  rw [this, allSome_map_some]; rfl

theorem mapRowsH_refines (offs : List Int) {ka kb va vb : H} (hk : Refines ka kb) (hv : Refines va vb) :
    Refines (mapRowsH offs ka va) (mapRowsH offs kb vb) := by
  apply refines_map
  intro se _ z hz
  cases h1 : allSome (sliceL kb se.1 se.2) with
  | none => rw [h1] at hz; simp [mapRowH] at hz
  | some k =>
    cases h2 : allSome (sliceL vb se.1 se.2) with
    | none => rw [h1, h2] at hz; simp [mapRowH] at hz
    | some w =>
      rw [h1, h2] at hz
      rw [allSome_refines (hk.slice _ _) h1, allSome_refines (hv.slice _ _) h2]; exact hz

theorem mapRowsH_map_some (offs : List Int) (ks vs : List LVal) :
    mapRowsH offs (ks.map some) (vs.map some) =
      ((pairs offs).map fun se => LVal.map (LEntries.ofList ((sliceL ks se.1 se.2).zip (sliceL vs se.1 se.2)))).map some := by
  simp only [mapRowsH, List.map_map]
  apply List.map_congr_left
  intro se _
  simp [sliceL_map, allSome_map_some, mapRowH]

theorem getD_map_some (xs : List LVal) (i : Nat) (d : LVal) : (xs.map some).getD i (some d) = some (xs.getD i d) := by
  simp only [List.getD_eq_getElem?_getD, List.getElem?_map]
  cases xs[i]? <;> rfl

theorem rowAtH_map_some (cols : List (String × List LVal)) (i : Nat) :
    rowAtH (cols.map fun c => (c.1, c.2.map some)) i = some (rowAt cols i) := by
  simp only [rowAtH, rowAt, List.map_map]
  have : (cols.map ((fun c : String × H => (c.2.getD i (some LVal.null)).map fun x => (c.1, x)) ∘ fun c => (c.1, c.2.map some)))
      = (cols.map fun c => (c.1, c.2.getD i LVal.null)).map some := by
    rw [List.map_map]; apply List.map_congr_left; intro c _
    simp only [Function.comp, getD_map_some, Option.map_some]
  rw [this, allSome_map_some]; rfl

theorem structRowsH_map_some (len : Nat) (cols : List (String × List LVal)) :
    structRowsH len (cols.map fun c => (c.1, c.2.map some)) = ((List.range len).map (rowAt cols)).map some := by
  simp only [structRowsH, List.map_map]
  apply List.map_congr_left
  intro i _
  simp [rowAtH_map_some]

theorem dictRowH_map_some (vs : List LVal) (k : LVal) (hk : ∀ j : Int, k = .int j → j.toNat < vs.length) :
    dictRowH (vs.map some) (some k) = some (dictRow vs k) := by
  cases k with
  | int j =>
    have := hk j rfl
    simp only [dictRowH, dictRow, List.getD_eq_getElem?_getD, List.getElem?_map]
    rw [List.getElem?_eq_getElem this]; rfl
  | _ => rfl

theorem unionRowH_eq (fs : BL) (t o : Int) :
    unionRowH (decHCols fs) t o = ((colAtH fs t.toNat).getD o.toNat (some .null)).map (LVal.union t) := rfl

theorem colAtH_of_cols {fs : BL} (h : decHCols fs = (decCols fs).map fun c => (c.1, c.2.map some)) (j : Nat) :
    colAtH fs j = (colAt fs j).map some := by
  simp only [colAtH, colAt, h, List.getD_eq_getElem?_getD, List.getElem?_map]
  cases (decCols fs)[j]? <;> rfl

/-- a determined entry of an observable column (or the `null` read past its end) is the entry of the column -/
theorem getD_sound {a : List LVal} {b : H} (h : Refines (a.map some) b) {i : Nat} {x : LVal}
    (hx : b.getD i (some .null) = some x) : a.getD i .null = x := by
  have hl : a.length = b.length := by simpa using h.1
  simp only [List.getD_eq_getElem?_getD] at hx ⊢
  rcases Nat.lt_or_ge i b.length with hi | hi
  · rw [List.getElem?_eq_getElem hi] at hx
    simp only [Option.getD_some] at hx
    have := h.2 i x (by rw [List.getElem?_eq_getElem hi, hx])
    rw [List.getElem?_map] at this
    cases ha : a[i]? with
    | none => rw [ha] at this; cases this
    | some y => rw [ha] at this; simp at this; simp [this]
  · rw [List.getElem?_eq_none hi] at hx
    rw [List.getElem?_eq_none (by omega)]
    simpa using hx

theorem dictRow_sound {vs : List LVal} {vh : H} (h : Refines (vs.map some) vh) {k x : LVal}
    (hx : dictRowH vh (some k) = some x) : dictRow vs k = x := by
  cases k with
  | int j =>
    simp only [dictRowH, List.getD_eq_getElem?_getD] at hx
    simp only [dictRow, List.getD_eq_getElem?_getD]
    cases hv : vh[j.toNat]? with
    | none => rw [hv] at hx; cases hx
    | some y =>
      rw [hv] at hx; simp only [Option.getD_some] at hx; subst hx
      have := h.2 _ x hv
      rw [List.getElem?_map] at this
      cases ha : vs[j.toNat]? with
      | none => rw [ha] at this; cases this
      | some w => rw [ha] at this; simp at this; simp [this]
  | _ => simp only [dictRowH, Option.some.injEq] at hx; simpa [dictRow] using hx

mutual
/-- **a determined observable row is the row `dec` reads** (no hypothesis) -/
theorem decH_sound : ∀ (b : B), Refines ((dec b).map some) (decH b)
  | .null _ _ => by simp only [decH]; exact Refines.refl _
  | .unknownVariant _ => by simp only [decH]; exact Refines.refl _
  | .leaf _ _ _ _ => by simp only [decH]; exact Refines.refl _
  | .bytes _ _ _ _ _ => by simp only [decH]; exact Refines.refl _
  | .bytesView _ _ _ _ _ => by simp only [decH]; exact Refines.refl _
  | .fixedSizeBinary _ _ _ _ _ _ => by simp only [decH]; exact Refines.refl _
  | .list _ _ _ v offs el => by
    simp only [decH, dec]
    rw [← maskNullH_map_some, ← listRowsH_map_some]
    exact maskNullH_refines v (listRowsH_refines offs (decH_sound el))
  | .fixedSizeList _ _ n len v _ el => by
    simp only [decH, dec]
    rw [← maskNullH_map_some, ← fslRowsH_map_some]
    exact maskNullH_refines v (fslRowsH_refines n len (decH_sound el))
  | .map _ _ v offs ks vs => by
    simp only [decH, dec]
    rw [← maskNullH_map_some, ← mapRowsH_map_some]
    exact maskNullH_refines v (mapRowsH_refines offs (decH_sound ks) (decH_sound vs))
  | .struct p len v fs c n s => by
    rw [dec_struct]; simp only [decH]
    rw [← maskNullH_map_some]
    apply maskNullH_refines
    exact Refines.map_some_congr fun i _ z hz => by
      obtain ⟨fl, hfl, rfl⟩ := Option.map_eq_some_iff.1 hz
      rw [decHCols_row_sound fs i fl hfl]; rfl
  | .dictionary p idx vals index => by
    rw [dec_dictionary]; simp only [decH]
    have hi := decH_sound idx
    have hv := decH_sound vals
    refine ⟨by simpa using hi.length, ?_⟩
    intro i x hx
    rw [List.getElem?_map] at hx
    cases hk : (decH idx)[i]? with
    | none => rw [hk] at hx; cases hx
    | some ko =>
      rw [hk] at hx; simp only [Option.map_some, Option.some.injEq] at hx
      cases ko with
      | none => simp [dictRowH] at hx
      | some k =>
        have hk' := hi.2 i k hk
        rw [List.getElem?_map] at hk'
        have hk'' : (dec idx)[i]? = some k := by
          cases h : (dec idx)[i]? with
          | none => rw [h] at hk'; cases hk'
          | some w => rw [h] at hk'; simp at hk'; rw [hk']
        simp only [List.getElem?_map, hk'', Option.map_some]
        rw [dictRow_sound hv hx]
  | .union p fs types offs cur => by
    rw [dec_union]; simp only [decH]
    exact Refines.zipWith_some fun t o z hz => by
      rw [unionRowH_eq] at hz
      obtain ⟨y, hy, rfl⟩ := Option.map_eq_some_iff.1 hz
      rw [getD_sound (decHCols_sound fs t.toNat) hy]
theorem decHCols_sound : ∀ (fs : BL) (j : Nat), Refines ((colAt fs j).map some) (colAtH fs j)
  | .nil, _ => by simp [colAt, colAtH, decCols, decHCols]; exact Refines.refl _
  | .cons b m r, 0 => by
    have := decH_sound b
    simpa [colAt, colAtH, decCols, decHCols] using this
  | .cons b m r, j + 1 => by
    have := decHCols_sound r j
    simpa [colAt, colAtH, decCols, decHCols] using this
/-- a determined struct row reads the fields `dec` reads -/
theorem decHCols_row_sound : ∀ (fs : BL) (i : Nat) (fl : List (String × LVal)),
    allSome ((decHCols fs).map fun c => (c.2.getD i (some LVal.null)).map fun x => (c.1, x)) = some fl →
    fl = (decCols fs).map fun c => (c.1, c.2.getD i LVal.null)
  | .nil, _, fl, h => by simp [decHCols, allSome] at h; simp [decCols, h]
  | .cons b m r, i, fl, h => by
    simp only [decHCols, List.map_cons] at h
    cases hb : (decH b).getD i (some LVal.null) with
    | none => rw [hb] at h; simp [allSome] at h
    | some x =>
      rw [hb] at h
      simp only [Option.map_some, allSome] at h
      obtain ⟨fl', hfl', rfl⟩ := Option.map_eq_some_iff.1 h
      rw [decHCols_row_sound r i fl' hfl']
      simp only [decCols, List.map_cons]
      rw [getD_sound (decH_sound b) hb]
end

/-- the observable rows are as many as the rows: the length clause of `decH_sound` -/
theorem decH_length : ∀ (b : B), (decH b).length = (dec b).length :=
  fun b => by simpa using (decH_sound b).length.symm
theorem decHCols_length : ∀ (fs : BL), (decHCols fs).map (fun c => (c.1, c.2.length)) = (decCols fs).map (fun c => (c.1, c.2.length))
  | .nil => rfl
  | .cons b m r => by simp only [decHCols, decCols, List.map_cons, decH_length b, decHCols_length r]

mutual
/-- under the strict state invariant every row is determined -/
theorem decH_of_WFB : ∀ (b : B), WFB b → decH b = (dec b).map some
  | .null _ _, _ => by simp only [decH]
  | .unknownVariant _, _ => by simp only [decH]
  | .leaf _ _ _ _, _ => by simp only [decH]
  | .bytes _ _ _ _ _, _ => by simp only [decH]
  | .bytesView _ _ _ _ _, _ => by simp only [decH]
  | .fixedSizeBinary _ _ _ _ _ _, _ => by simp only [decH]
  | .list _ _ _ v offs el, h => by
    simp only [WFB] at h
    simp only [decH, dec]
    rw [decH_of_WFB el h.2.2, listRowsH_map_some, maskNullH_map_some]
  | .fixedSizeList _ _ n len v _ el, h => by
    simp only [WFB] at h
    simp only [decH, dec]
    rw [decH_of_WFB el h.2.2, fslRowsH_map_some, maskNullH_map_some]
  | .map _ _ v offs ks vs, h => by
    simp only [WFB] at h
    simp only [decH, dec]
    rw [decH_of_WFB ks h.2.2.2.1, decH_of_WFB vs h.2.2.2.2, mapRowsH_map_some, maskNullH_map_some]
  | .struct p len v fs c n s, h => by
    simp only [WFB] at h
    rw [dec_struct]; simp only [decH]
    rw [decHCols_of_WFL fs len h.2.1, structRowsH_map_some, maskNullH_map_some]
  | .dictionary p idx vals index, h => by
    simp only [WFB] at h
    rw [dec_dictionary]; simp only [decH]
    rw [decH_of_WFB idx h.1, decH_of_WFB vals h.2.1, List.map_map, List.map_map]
    apply List.map_congr_left
    intro k hk
    simp only [Function.comp]
    exact dictRowH_map_some _ k (by
      intro j hj
      have := (h.2.2.2.2.1 k hk j hj).2
      rw [h.2.2.2.1]; exact this)
  | .union p fs types offs cur, h => by
    simp only [WFB] at h
    have hc := decHCols_of_WFU fs cur h.2.2.1
    rw [dec_union]; simp only [decH]
    rw [List.map_zipWith]
    congr 1
    funext t o
    rw [unionRowH_eq, colAtH_of_cols hc, getD_map_some]; rfl
theorem decHCols_of_WFL : ∀ (fs : BL) (len : Nat), WFL fs len → decHCols fs = (decCols fs).map (fun c => (c.1, c.2.map some))
  | .nil, _, _ => rfl
  | .cons b m r, len, h => by
    simp only [WFL] at h
    simp only [decHCols, decCols, List.map_cons, decH_of_WFB b h.1, decHCols_of_WFL r len h.2.2]
theorem decHCols_of_WFU : ∀ (fs : BL) (cur : List Int), WFU fs cur → decHCols fs = (decCols fs).map (fun c => (c.1, c.2.map some))
  | .nil, _, _ => rfl
  | .cons b m r, cur, h => by
    simp only [WFU] at h
    simp only [decHCols, decCols, List.map_cons, decH_of_WFB b h.1, decHCols_of_WFU r cur.tail h.2.2]
end

mutual
theorem WFH_of_WFB : ∀ (b : B), WFB b → WFH b
  | .null _ _, _ => by simp [WFH]
  | .unknownVariant _, _ => by simp [WFH]
  | .leaf _ _ _ _, h => by simpa [WFH, WFB] using h
  | .bytes _ _ _ _ _, h => by simpa [WFH, WFB] using h
  | .bytesView _ _ _ _ _, h => by simp only [WFB] at h; simp only [WFH]; exact h
  | .fixedSizeBinary _ _ _ _ _ _, h => by simpa [WFH, WFB] using h
  | .list _ _ _ _ _ el, h => by
    simp only [WFB] at h; simp only [WFH]; exact ⟨h.1, h.2.1, WFH_of_WFB el h.2.2⟩
  | .fixedSizeList _ _ _ _ _ _ el, h => by
    simp only [WFB] at h; simp only [WFH]; exact ⟨h.1, h.2.1, WFH_of_WFB el h.2.2⟩
  | .map _ _ _ _ ks vs, h => by
    simp only [WFB] at h; simp only [WFH]
    exact ⟨h.1, h.2.1, h.2.2.1, WFH_of_WFB ks h.2.2.2.1, WFH_of_WFB vs h.2.2.2.2⟩
  | .struct _ len _ fs _ _ _, h => by
    simp only [WFB] at h; simp only [WFH]
    exact ⟨h.1, WFHL_of_WFL fs len h.2.1, h.2.2⟩
  | .dictionary _ idx vals index, h => by
    simp only [WFB] at h; simp only [WFH]
    refine ⟨WFH_of_WFB idx h.1, WFH_of_WFB vals h.2.1, h.2.2.1, h.2.2.2.1, ?_, h.2.2.2.2.2, ?_⟩
    · intro k hk j hj
      have := h.2.2.2.2.1 k hk j hj
      exact ⟨this.1, Or.inl this.2⟩
    · intro r hr
      rw [decH_of_WFB vals h.2.1] at hr
      obtain ⟨x, _, rfl⟩ := List.mem_map.1 hr
      rfl
  | .union _ fs _ _ cur, h => by
    simp only [WFB] at h; simp only [WFH]
    exact ⟨h.1, h.2.1, WFHU_of_WFU fs cur h.2.2.1, h.2.2.2⟩
theorem WFHL_of_WFL : ∀ (fs : BL) (len : Nat), WFL fs len → WFHL fs len
  | .nil, _, _ => by simp [WFHL]
  | .cons b _ r, len, h => by
    simp only [WFL] at h; simp only [WFHL]
    exact ⟨WFH_of_WFB b h.1, h.2.1, WFHL_of_WFL r len h.2.2⟩
theorem WFHU_of_WFU : ∀ (fs : BL) (cur : List Int), WFU fs cur → WFHU fs cur
  | .nil, _, _ => by simp [WFHU]
  | .cons b _ r, cur, h => by
    simp only [WFU] at h; simp only [WFHU]
    exact ⟨WFH_of_WFB b h.1, h.2.1, WFHU_of_WFU r cur.tail h.2.2⟩
end

/-- the builder families without children: no row of theirs can be undetermined, `WFH` is `WFB`, `Safe` holds -/
theorem flat_WFB {b : B} (hf : b.isFlat = true) (h : WFH b) : WFB b := by
  cases b <;> simp [B.isFlat] at hf <;> simp only [WFH] at h <;> simp only [WFB] <;> exact h
theorem flat_Safe {b : B} (hf : b.isFlat = true) : Safe b := by
  cases b <;> simp [B.isFlat] at hf <;> simp [Safe]
theorem flat_DefSafe {b : B} (hf : b.isFlat = true) : DefSafe b := by
  cases b <;> simp [B.isFlat] at hf <;> simp [DefSafe]
theorem flat_decH {b : B} (hf : b.isFlat = true) : decH b = (dec b).map some := by
  cases b <;> simp [B.isFlat] at hf <;> simp only [decH]
theorem isFlat_takeRest (b : B) : (takeRest b).isFlat = b.isFlat := by cases b <;> rfl
theorem flat_of_takeRest {b b' : B} (h : takeRest b' = takeRest b) (hf : b.isFlat = true) : b'.isFlat = true := by
  rw [← isFlat_takeRest, h, isFlat_takeRest, hf]

theorem mem_maskNull {v : Validity} {xs : List LVal} {k : LVal} (h : k ∈ maskNull v xs) : k = .null ∨ k ∈ xs := by
  cases v with
  | none => exact Or.inr h
  | some bits =>
    simp only [maskNull] at h
    obtain ⟨i, hi, rfl⟩ := List.getElem_of_mem h
    simp only [List.getElem_zipWith]
    split
    · exact Or.inr (List.getElem_mem _)
    · exact Or.inl rfl

/-- rows of a container builder (everything that is neither flat nor a dictionary) are never integers -/
theorem dec_container_not_int {b : B} (hf : b.isFlat = false) (hd : b.isDict = false) :
    ∀ k ∈ dec b, ∀ j : Int, k ≠ .int j := by
  intro k hk j hj
  subst hj
  cases b with
  | list _ _ _ v offs el =>
    simp only [dec] at hk
    rcases mem_maskNull hk with h | h
    · cases h
    · simp at h
  | fixedSizeList _ _ n len v _ el =>
    simp only [dec] at hk
    rcases mem_maskNull hk with h | h
    · cases h
    · simp at h
  | map _ _ v offs ks vs =>
    simp only [dec] at hk
    rcases mem_maskNull hk with h | h
    · cases h
    · simp at h
  | struct _ len v fs _ _ _ =>
    simp only [dec] at hk
    rcases mem_maskNull hk with h | h
    · cases h
    · simp at h
  | union _ fs types offs _ =>
    simp only [dec] at hk
    rw [← List.map_uncurry_zip_eq_zipWith] at hk
    obtain ⟨p, _, hp⟩ := List.mem_map.1 hk
    simp [Function.uncurry] at hp
  | dictionary _ _ _ _ => simp [B.isDict] at hd
  | _ => simp [B.isFlat] at hf

mutual
theorem NoDictKey_takeRest : ∀ (b : B), NoDictKey (takeRest b) ↔ NoDictKey b
  | .null _ _ | .unknownVariant _ | .leaf _ _ _ _ | .bytes _ _ _ _ _ | .bytesView _ _ _ _ _
  | .fixedSizeBinary _ _ _ _ _ _ => Iff.rfl
  | .list _ _ _ _ _ el | .fixedSizeList _ _ _ _ _ _ el => NoDictKey_takeRest el
  | .map _ _ _ _ ks vs => by simp only [takeRest, NoDictKey, NoDictKey_takeRest ks, NoDictKey_takeRest vs]
  | .struct _ _ _ fs _ _ _ | .union _ fs _ _ _ => NoDictKeyL_takeRest fs
  | .dictionary _ idx vals _ => by
    simp only [takeRest, NoDictKey, NoDictKey_takeRest idx, NoDictKey_takeRest vals, isDict_takeRest idx]
theorem NoDictKeyL_takeRest : ∀ (fs : BL), NoDictKeyL (takeRestAll fs) ↔ NoDictKeyL fs
  | .nil => Iff.rfl
  | .cons b _ r => by simp only [takeRestAll, NoDictKeyL, NoDictKey_takeRest b, NoDictKeyL_takeRest r]
end

theorem NoDictKey.of_takeRest {b b' : B} (h : takeRest b' = takeRest b) (hs : NoDictKey b) : NoDictKey b' :=
  (NoDictKey_takeRest b').1 (h ▸ (NoDictKey_takeRest b).2 hs)

mutual
theorem NoDictKey_of_Safe : ∀ (b : B), Safe b → NoDictKey b
  | .null _ _, _ => by simp [NoDictKey]
  | .unknownVariant _, _ => by simp [NoDictKey]
  | .leaf _ _ _ _, _ => by simp [NoDictKey]
  | .bytes _ _ _ _ _, _ => by simp [NoDictKey]
  | .bytesView _ _ _ _ _, _ => by simp [NoDictKey]
  | .fixedSizeBinary _ _ _ _ _ _, _ => by simp [NoDictKey]
  | .list _ _ _ _ _ el, h => by simp only [Safe] at h; simp only [NoDictKey]; exact NoDictKey_of_Safe el h
  | .fixedSizeList _ _ _ _ _ _ el, h => by simp only [Safe] at h; simp only [NoDictKey]; exact NoDictKey_of_Safe el h.1
  | .map _ _ _ _ ks vs, h => by
    simp only [Safe] at h; simp only [NoDictKey]; exact ⟨NoDictKey_of_Safe ks h.1, NoDictKey_of_Safe vs h.2⟩
  | .struct _ _ _ fs _ _ _, h => by simp only [Safe] at h; simp only [NoDictKey]; exact NoDictKeyL_of_SafeL fs h.1
  | .dictionary _ idx vals _, h => by
    simp only [Safe] at h; simp only [NoDictKey]
    exact ⟨h.1, NoDictKey_of_Safe idx h.2.1, NoDictKey_of_Safe vals h.2.2⟩
  | .union _ fs _ _ _, h => by simp only [Safe] at h; simp only [NoDictKey]; exact NoDictKeyL_of_SafeL fs h
theorem NoDictKeyL_of_SafeL : ∀ (fs : BL), SafeL fs → NoDictKeyL fs
  | .nil, _ => by simp [NoDictKeyL]
  | .cons b _ r, h => by
    simp only [SafeL] at h; simp only [NoDictKeyL]; exact ⟨NoDictKey_of_Safe b h.1, NoDictKeyL_of_SafeL r h.2⟩
end

theorem NoDictKeyL.get : ∀ (fs : BL) (i : Nat) (x : B × FieldMeta), NoDictKeyL fs → fs.get? i = some x → NoDictKey x.1
  | .nil, _, _, _, h => by simp [BL.get?] at h
  | .cons b m r, 0, x, hs, h => by simp [BL.get?] at h; subst h; simp only [NoDictKeyL] at hs; exact hs.1
  | .cons b m r, i + 1, x, hs, h => by
    simp only [BL.get?] at h; simp only [NoDictKeyL] at hs; exact NoDictKeyL.get r i x hs.2 h
theorem NoDictKeyL.set : ∀ (fs : BL) (i : Nat) (c : B), NoDictKeyL fs → NoDictKey c → NoDictKeyL (fs.set i c)
  | .nil, _, _, _, _ => by simp [BL.set, NoDictKeyL]
  | .cons b m r, 0, c, hs, hc => by simp only [NoDictKeyL] at hs; simp only [BL.set, NoDictKeyL]; exact ⟨hc, hs.2⟩
  | .cons b m r, i + 1, c, hs, hc => by
    simp only [NoDictKeyL] at hs; simp only [BL.set, NoDictKeyL]; exact ⟨hs.1, NoDictKeyL.set r i c hs.2 hc⟩

end SaModel.Build
