import SaModel.Lemmas.C18BlameSeq
/-
C18, blame against the specification: struct rows.  The field loops are handled in
continuation-passing style (`… >>= k`), so that one induction gives both the blame of the loop and the state the
`end` call (`finishRow`) starts from: `seen[j]` is set exactly for the names presented so far (`SeenIs`).
-/
namespace SaModel.Props.C18
open SaModel SaModel.Build SaModel.Spec

def knownKeys (fs : List Field) (keys : List String) : List String := keys.filter fun k => fs.any (·.name == k)

theorem dupKeys_mem {k : String} {r : List String} : ∀ {done : List String}, k ∈ done → dupKeys (done ++ k :: r) = true
  | [], h => by cases h
  | d :: ds, h => by
    simp only [List.cons_append, dupKeys, Bool.or_eq_true]
    rcases List.mem_cons.1 h with rfl | h
    · left; simp
    · right; exact dupKeys_mem h

theorem find_of_get {key : String} : ∀ {l : List Field} {idx : Nat} {f : Field}, (l.map Field.name).Nodup → l[idx]? = some f →
    f.name = key → l.find? (·.name == key) = some f
  | [], _, _, _, h, _ => by simp at h
  | g :: l, 0, f, _, h, hk => by
    simp only [List.getElem?_cons_zero, Option.some.injEq] at h
    subst h
    simp [List.find?, hk]
  | g :: l, idx + 1, f, hnd, h, hk => by
    simp only [List.getElem?_cons_succ] at h
    simp only [List.map_cons, List.nodup_cons] at hnd
    have hne : (g.name == key) = false := by
      cases hh : (g.name == key) with
      | false => rfl
      | true =>
        have : g.name = key := by simpa using hh
        exfalso; apply hnd.1
        rw [this, ← hk]
        exact List.mem_map.2 ⟨f, List.mem_of_getElem? h, rfl⟩
    simp only [List.find?, hne]
    exact find_of_get hnd.2 h hk

theorem find_none_of {key : String} {l : List Field} (h : ∀ (j : Nat), (l.map Field.name)[j]? ≠ some key) :
    l.find? (·.name == key) = none := by
  rw [List.find?_eq_none]
  intro f hf hk
  obtain ⟨j, hj⟩ := List.getElem?_of_mem hf
  apply h j
  simp only [List.getElem?_map, hj, Option.map_some]
  congr 1
  simpa using hk

theorem any_known_of_get {key : String} {l : List Field} {idx : Nat} (h : (l.map Field.name)[idx]? = some key) :
    l.any (·.name == key) = true := by
  simp only [List.getElem?_map] at h
  cases hf : l[idx]? with
  | none => simp [hf] at h
  | some f =>
    simp only [hf, Option.map_some, Option.some.injEq] at h
    exact List.any_eq_true.2 ⟨f, List.mem_of_getElem? hf, by simp [h]⟩

theorem any_unknown_of {key : String} {l : List Field} (h : ∀ (j : Nat), (l.map Field.name)[j]? ≠ some key) :
    l.any (·.name == key) = false := by
  cases hh : l.any (·.name == key) with
  | false => rfl
  | true =>
    obtain ⟨f, hf, hk⟩ := List.any_eq_true.1 hh
    obtain ⟨j, hj⟩ := List.getElem?_of_mem hf
    exfalso; apply h j
    simp only [List.getElem?_map, hj, Option.map_some]
    congr 1; simpa using hk

/-! ### the state of a struct builder inside a row -/

structure MidS (path : String) (sfs : Fields) (s : SS) : Prop where
  hpath : s.path = path
  nodup : s.fields.names.Nodup
  cache : CacheInv s.fields.names s.cached
  seenlen : s.seen.length = s.fields.length
  kids : Kids path s.fields sfs

/-- `seen[j]` is set exactly when the name of field `j` has been presented -/
def SeenIs (s : SS) (done : List String) : Prop :=
  ∀ (j : Nat) (name : String), s.fields.names[j]? = some name → (s.seen[j]? = some true ↔ name ∈ done)

theorem BL.names_length : ∀ (fs : BL), fs.names.length = fs.length := Build.BL.names_length

theorem MidS.names {path sfs s} (hm : MidS path sfs s) : s.fields.names = sfs.toList.map Field.name := hm.kids.names

theorem MidS.unknown {path sfs s} {key : String} (hm : MidS path sfs s) (h : indexOfName s.fields.names key = none) :
    ∀ (j : Nat), (sfs.toList.map Field.name)[j]? ≠ some key := by
  intro j hj
  rw [← hm.names] at hj
  have := SaModel.Props.C11Front.indexOfName_of_get _ hm.nodup key j hj
  rw [h] at this; cases this

theorem MidS.find {path sfs s} {idx : Nat} {key : String} {f : Field} (hm : MidS path sfs s)
    (hname : s.fields.names[idx]? = some key) (hf : sfs.toList[idx]? = some f) :
    sfs.toList.find? (·.name == key) = some f := by
  rw [hm.names] at hname
  refine find_of_get (hm.names ▸ hm.nodup) hf ?_
  simpa only [List.getElem?_map, hf, Option.map_some, Option.some.injEq] using hname

theorem MidS.cached {path sfs s} (hm : MidS path sfs s) (c' : List (Option (String × Nat)))
    (hc : CacheInv s.fields.names c') : MidS path sfs { s with cached := c' } :=
  ⟨hm.hpath, hm.nodup, hc, hm.seenlen, hm.kids⟩

theorem MidS.next {path sfs s} (hm : MidS path sfs s) (n : Nat) : MidS path sfs { s with next := n } :=
  ⟨hm.hpath, hm.nodup, hm.cache, hm.seenlen, hm.kids⟩

theorem MidS.step {path sfs s} (hm : MidS path sfs s) {idx : Nat} {c c' : B} {m : FieldMeta} {f : Field} {nx : Nat}
    (hget : s.fields.get? idx = some (c, m)) (hf : sfs.toList[idx]? = some f)
    (hg : GoodH c' f.dataType f.nullable f.metadata) (ha : At (path ++ "." ++ f.name) f.dataType f.nullable f.metadata c') :
    MidS path sfs { s with fields := s.fields.set idx c', seen := s.seen.set idx true, next := nx } :=
  ⟨hm.hpath, by simp only [BL.names_set]; exact hm.nodup, by simp only [BL.names_set]; exact hm.cache,
    by simp only [List.length_set, BL.length_set]; exact hm.seenlen, hm.kids.set hget hf hg ha⟩

theorem SeenIs.step {path sfs s done} (hm : MidS path sfs s) (hs : SeenIs s done) {idx : Nat} {key : String} {c' : B} {nx : Nat}
    (hname : s.fields.names[idx]? = some key) :
    SeenIs { s with fields := s.fields.set idx c', seen := s.seen.set idx true, next := nx } (done ++ [key]) := by
  intro j name hj
  simp only [BL.names_set] at hj
  have hlt : idx < s.seen.length := by
    rw [hm.seenlen, ← BL.names_length]
    exact (List.getElem?_eq_some_iff.1 hname).1
  by_cases hij : idx = j
  · subst hij
    rw [hname] at hj; cases hj
    simp [hlt]
  · have hne : name ≠ key := by
      intro he; subst he
      have h1 := SaModel.Props.C11Front.indexOfName_of_get _ hm.nodup name idx hname
      have h2 := SaModel.Props.C11Front.indexOfName_of_get _ hm.nodup name j hj
      rw [h1] at h2; cases h2; exact hij rfl
    simp only [List.getElem?_set, hij, if_false, List.mem_append, List.mem_singleton, hne, or_false]
    exact hs j name hj

theorem SeenIs.cached {s done} (hs : SeenIs s done) (c' : List (Option (String × Nat))) : SeenIs { s with cached := c' } done := hs
theorem SeenIs.next {s done} (hs : SeenIs s done) (n : Nat) : SeenIs { s with next := n } done := hs

theorem element_ok_inv {s s' : SS} {idx : Nat} {pc : B → R B} (h : s.element idx pc = .ok s') :
    ∃ c m c', s.seen[idx]? = some false ∧ s.fields.get? idx = some (c, m) ∧ pc c = .ok c' ∧
      s' = { s with fields := s.fields.set idx c', seen := s.seen.set idx true, next := idx + 1 } := by
  unfold SS.element at h
  split at h
  · cases h
  · simp [SaModel.ctx, SaModel.fail] at h
  · rename_i hseen
    split at h
    · cases h
    · rename_i c m hget
      obtain ⟨c', hc', h⟩ := (Build.bind_ok _ _ _).1 h
      cases h
      exact ⟨c, m, c', hseen, hget, hc', rfl⟩

/-- `StructBuilder::element`: a field seen before is the struct's own failure (`Duplicate field`), otherwise the
child's error passes through -/
theorem element_blo {ext : Ext} {x : SVal} {path sfs s idx key done} {S : List String}
    (hm : MidS path sfs s) (hs : SeenIs s done) (hname : s.fields.names[idx]? = some key)
    (hdup : key ∈ done → path ∈ S)
    (hpush : ∀ c m, s.fields.get? idx = some (c, m) → Bl S (push ext c x)) :
    Blo S path (s.element idx (fun c => push ext c x)) := by
  unfold SS.element
  split
  · exact Blo.of_panic _
  · rename_i hseen
    have hp := hdup ((hs idx key hname).1 hseen)
    have hp' : s.toB.path ∈ S := by rw [show s.toB.path = path from hm.hpath]; exact hp
    exact ⟨Bl.ctx_self s.toB hp' (NoCtx.bl _), fun msg h => absurd h (ctx_never_plain rfl _ msg)⟩
  · split
    · exact Blo.of_panic _
    · rename_i c m hget
      exact Blo.bind (Blo.of_bl (hpush c m hget) (push_never_plain ext x c)) fun _ _ => Blo.of_ok _

/-! ### `StructBuilder::end` -/

theorem endFields_blo {path : String} {S : List String} : ∀ (fs : BL) (seen : List Bool) (sfs : Fields), Kids path fs sfs →
    1 ≤ roomL fs →
    (∀ (j : Nat) f, sfs.toList[j]? = some f → seen[j]? = some false → f.nullable = false → path ∈ S) →
    (∀ (j : Nat) f, sfs.toList[j]? = some f → seen[j]? = some false → f.nullable = true →
      (interpNull f.dataType f.nullable f.metadata).isOk = false → (path ++ "." ++ f.name) ∈ S) →
    Blo S path (endFields fs seen)
  | .nil, _, _, _, _, _, _ => by unfold endFields; exact Blo.of_ok _
  | .cons b m r, [], _, _, _, _, _ => by unfold endFields; exact Blo.of_panic _
  | .cons b m r, s :: ss, .nil, hk, _, _, _ => by simp [Kids] at hk
  | .cons b m r, s :: ss, .cons (.mk fname fdt fn fmd) rest, hk, hcap, h1, h2 => by
    simp only [Kids] at hk
    simp only [roomL] at hcap
    have ih : Blo S path (endFields r ss) := endFields_blo r ss rest hk.2.2.2.2 (by omega)
      (fun j f hj hs hn => h1 (j + 1) f (by simpa [Fields.toList] using hj) (by simpa using hs) hn)
      (fun j f hj hs hn hi => h2 (j + 1) f (by simpa [Fields.toList] using hj) (by simpa using hs) hn hi)
    unfold endFields
    simp only
    split
    · exact Blo.bind ih fun _ _ => Blo.of_ok _
    · rename_i hsf
      have hsf : s = false := by simpa using hsf
      subst hsf
      split
      · rename_i hnn
        have hnn : fn = false := by rw [← hk.2.1]; simpa using hnn
        exact Blo.of_noctx_mem _ (h1 0 (.mk fname fdt fn fmd) (by simp [Fields.toList]) (by simp) hnn)
      · rename_i hnn
        have hnn : fn = true := by rw [← hk.2.1]; simpa using hnn
        refine Blo.bind ?_ fun _ _ => Blo.bind ih fun _ _ => Blo.of_ok _
        refine Blo.of_bl ?_ (pushNone_never_plain b)
        cases hi : (interpNull fdt fn fmd).isOk with
        | true =>
          cases hlv : interpNull fdt fn fmd with
          | error e => rw [hlv] at hi; cases hi
          | ok lv =>
            obtain ⟨b', hb', _⟩ := pushNone_completeH b fdt fn fmd lv hk.2.2.1.wf hk.2.2.1.shape hk.2.2.1.tot hlv (by omega)
            exact Bl.of_eq_ok hb'
        | false =>
          have hmem := h2 0 (.mk fname fdt fn fmd) (by simp [Fields.toList]) (by simp) hnn hi
          exact Bl.mono (fun q hq => by rw [List.mem_singleton.1 hq]; exact hmem) (pushNone_bl hk.2.2.1 hk.2.2.2.1 (by omega))

/-- the blame set of a struct position (the arm shared by the record presentations in `Spec.blameDT`) -/
def structS (path : String) (fs : List Field) (keys : List String) (own' : Bool) (inner : List String) : List String :=
  (if (structOwnFails fs keys || own') || (inner.isEmpty && (blameMissing path fs keys).isEmpty) then [path] else []) ++
    inner ++ blameMissing path fs keys

theorem mem_structS_inner {path fs keys own' inner} : ∀ q ∈ inner, q ∈ structS path fs keys own' inner := by
  intro q hq; simp only [structS, List.mem_append]; exact .inl (.inr hq)

theorem mem_structS_own {path fs keys own' inner} (h : structOwnFails fs keys = true) : path ∈ structS path fs keys own' inner := by
  simp [structS, h]

theorem mem_structS_own' {path fs keys inner} : path ∈ structS path fs keys true inner := by
  simp [structS]

/-- one row of a struct builder (`start`, the field loop `pf`, `end`), the loop given in continuation-passing style -/
theorem struct_row_bl {pf : SS → R SS} {path : String} {sfs : Fields} {n : Bool} {md : Metadata} {keys : List String}
    {own' : Bool} {inner : List String} {p len v fs cached next seen}
    (hg : GoodH (.struct p len v fs cached next seen) (.struct sfs) n md)
    (ha : At path (.struct sfs) n md (.struct p len v fs cached next seen))
    (hloop : ∀ {β : Type} (k : SS → R β) (s : SS), MidS path sfs s → SeenIs s [] → s.fields = fs → s.next = 0 →
      (∀ s', MidS path sfs s' → SeenIs s' (knownKeys sfs.toList keys) → 1 ≤ roomL s'.fields →
        Blo (structS path sfs.toList keys own' inner) path (k s')) →
      Blo (structS path sfs.toList keys own' inner) path (pf s >>= k)) :
    Bl (structS path sfs.toList keys own' inner) (ctx (B.struct p len v fs cached next seen).ann (do
      let s ← SS.start ⟨p, len, v, fs, cached, next, seen⟩
      let s ← pf s
      let s ← s.finishRow
      pure s.toB : R B)) := by
  have hpath : p = path := ha.path
  have hw := hg.wf
  simp only [WFH] at hw
  obtain ⟨_, _, hseen, hnd, hcache⟩ := hw
  have hkids := ha.struct_kids hg
  obtain ⟨v', hv'⟩ := setValidity_true_total v len
  have hstart : SS.start ⟨p, len, v, fs, cached, next, seen⟩ =
      .ok ⟨p, len + 1, v', fs, cached, 0, List.replicate seen.length false⟩ := by
    simp only [SS.start, hv', bind, Except.bind, pure, Except.pure]
  rw [hstart]
  have hm0 : MidS path sfs ⟨p, len + 1, v', fs, cached, 0, List.replicate seen.length false⟩ :=
    ⟨hpath, hnd, hcache, by simp [hseen], hkids⟩
  have hs0 : SeenIs ⟨p, len + 1, v', fs, cached, 0, List.replicate seen.length false⟩ [] := by
    intro j name _
    simp only [List.not_mem_nil, iff_false]
    intro h
    have := List.getElem?_eq_some_iff.1 h
    obtain ⟨hlt, he⟩ := this
    simp at he
  have hb : (B.struct p len v fs cached next seen).path = path := hpath
  refine Blo.ctx _ ?_
  rw [hb]
  show Blo _ path (pf _ >>= fun s => s.finishRow >>= fun s => pure s.toB)
  refine hloop _ _ hm0 hs0 rfl rfl fun s' hm' hs' hr' => ?_
  refine Blo.bind ?_ fun _ _ => Blo.of_ok _
  unfold SS.finishRow
  refine Blo.bind ?_ fun _ _ => Blo.of_ok _
  have hnames := hm'.names
  have hseen' : ∀ (j : Nat) f, sfs.toList[j]? = some f → s'.seen[j]? = some false → f.name ∉ keys := by
    intro j f hj hsf hc
    have hnj : s'.fields.names[j]? = some f.name := by rw [hnames]; simp [List.getElem?_map, hj]
    have hnot : f.name ∉ knownKeys sfs.toList keys := by
      intro hin
      have := (hs' j f.name hnj).2 hin
      rw [hsf] at this; cases this
    apply hnot
    simp only [knownKeys, List.mem_filter]
    refine ⟨hc, any_known_of_get (idx := j) ?_⟩
    simp [List.getElem?_map, hj]
  refine endFields_blo s'.fields s'.seen sfs hm'.kids hr' ?_ ?_
  · intro j f hj hsf hn
    apply mem_structS_own
    simp only [structOwnFails, Bool.or_eq_true]
    right
    exact List.any_eq_true.2 ⟨f, List.mem_of_getElem? hj, by simp [hn, hseen' j f hj hsf]⟩
  · intro j f hj hsf hn hi
    simp only [structS, List.mem_append]
    right
    simp only [blameMissing, List.mem_filterMap]
    exact ⟨f, List.mem_of_getElem? hj, by rw [hn] at hi; simp [hn, hseen' j f hj hsf, hi]⟩

end SaModel.Props.C18
