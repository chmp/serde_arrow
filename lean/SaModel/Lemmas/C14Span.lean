import SaModel.Lemmas.C14Digits
/-
C14, spans: the specification of a span's Arrow duration (`specDuration`: exact total in nanoseconds, floor to the
unit, sign, i64 range) and the lemmas that relate `Span::to_arrow_duration` / `match_span` to it.
-/
namespace SaModel.Props.C14
open SaModel SaModel.Codec

def optVal : Option (List Char) → Nat
  | none => 0
  | some ds => digitsVal ds

def secondsTotal (sp : Span) : Nat :=
  optVal sp.week * 604800 + optVal sp.day * 86400 + optVal sp.hour * 3600 + optVal sp.minute * 60 + optVal sp.second

/-- `⌊0.f · 10^9⌋`: the nanoseconds of a decimal fraction, every digit taken into account -/
def fracNanos : Option (List Char) → Nat
  | none => 0
  | some ds => digitsVal ds * 10 ^ 9 / 10 ^ ds.length

def totalNanos (sp : Span) : Nat := secondsTotal sp * 1000000000 + fracNanos sp.subsecond

/-- the magnitude in `unit`: whole units, sub-unit digits dropped -/
def specMagnitude (sp : Span) (u : TimeUnit) : Int := ((totalNanos sp / u.nsPer : Nat) : Int)

def specSigned (sp : Span) (u : TimeUnit) : Int :=
  if sp.sign = some '-' then -specMagnitude sp u else specMagnitude sp u

/-- what the Arrow duration of a span is: defined iff it is not interval-style and the value fits i64 -/
def specDuration (sp : Span) (u : TimeUnit) : Option Int :=
  if optVal sp.year ≠ 0 ∨ optVal sp.month ≠ 0 then none
  else if inI64 (specSigned sp u) then some (specSigned sp u) else none

def OptAllDigits (o : Option (List Char)) : Prop := ∀ ds, o = some ds → AllDigits ds

theorem frac_take9 {ds : List Char} (h : AllDigits ds) :
    digitsVal (ds.take 9) * 10 ^ (9 - (ds.take 9).length) = digitsVal ds * 10 ^ 9 / 10 ^ ds.length := by
  have := Digits.value_take_scaled [] ds h.small 9
  rw [List.nil_append, List.nil_append] at this
  rw [digitsVal_eq, digitsVal_eq, ← this, List.length_take]
  congr 2; omega

theorem fracNanos_lt (o : Option (List Char)) (h : OptAllDigits o) : fracNanos o < 1000000000 := by
  cases o with
  | none => simp [fracNanos]
  | some ds =>
    have := digitsVal_lt (h ds rfl)
    simp only [fracNanos]
    rw [Nat.div_lt_iff_lt_mul (Nat.pow_pos (by decide)), show (10 : Nat) ^ 9 = 1000000000 from rfl, Nat.mul_comm]
    exact Nat.mul_lt_mul_of_pos_left this (by decide)

theorem godv_ok (o : Option (List Char)) (h : optVal o ≤ u64Max) : getOptionalDigitValue o = .ok (optVal o) := by
  cases o with
  | none => rfl
  | some ds => simp only [getOptionalDigitValue, optVal] at *; rw [if_pos h]

theorem godv_err (o : Option (List Char)) (h : ¬ optVal o ≤ u64Max) : ∃ m, getOptionalDigitValue o = .error (.err m) := by
  cases o with
  | none => simp [optVal, u64Max] at h
  | some ds => simp only [getOptionalDigitValue, optVal] at *; rw [if_neg h]; exact ⟨_, rfl⟩

theorem getNanosecondValue_eq (sp : Span) (h : OptAllDigits sp.subsecond) :
    sp.getNanosecondValue = .ok (fracNanos sp.subsecond) := by
  unfold Span.getNanosecondValue
  cases hs : sp.subsecond with
  | none => rfl
  | some ds => simp only [fracNanos]; rw [frac_take9 (h ds hs)]


theorem getSecondValue_ok (sp : Span) (hw : optVal sp.week ≤ u64Max) (hd : optVal sp.day ≤ u64Max)
    (hh : optVal sp.hour ≤ u64Max) (hm : optVal sp.minute ≤ u64Max) (hs : optVal sp.second ≤ u64Max) :
    sp.getSecondValue = .ok (secondsTotal sp) := by
  unfold Span.getSecondValue
  rw [godv_ok _ hw, godv_ok _ hd, godv_ok _ hh, godv_ok _ hm, godv_ok _ hs]
  simp only [bind, Except.bind, pure, Except.pure, secondsTotal]
  congr 1; omega

theorem getSecondValue_err (sp : Span) (h : ¬ (optVal sp.week ≤ u64Max ∧ optVal sp.day ≤ u64Max ∧
    optVal sp.hour ≤ u64Max ∧ optVal sp.minute ≤ u64Max ∧ optVal sp.second ≤ u64Max)) :
    ∃ m, sp.getSecondValue = .error (.err m) := by
  unfold Span.getSecondValue
  by_cases hw : optVal sp.week ≤ u64Max
  · rw [godv_ok _ hw]
    by_cases hd : optVal sp.day ≤ u64Max
    · rw [godv_ok _ hd]
      by_cases hh : optVal sp.hour ≤ u64Max
      · rw [godv_ok _ hh]
        by_cases hm : optVal sp.minute ≤ u64Max
        · rw [godv_ok _ hm]
          have hs : ¬ optVal sp.second ≤ u64Max := fun hs => h ⟨hw, hd, hh, hm, hs⟩
          obtain ⟨m, e⟩ := godv_err _ hs
          rw [e]; exact ⟨m, rfl⟩
        · obtain ⟨m, e⟩ := godv_err _ hm
          rw [e]; exact ⟨m, rfl⟩
      · obtain ⟨m, e⟩ := godv_err _ hh
        rw [e]; exact ⟨m, rfl⟩
    · obtain ⟨m, e⟩ := godv_err _ hd
      rw [e]; exact ⟨m, rfl⟩
  · obtain ⟨m, e⟩ := godv_err _ hw
    rw [e]; exact ⟨m, rfl⟩

/-- the magnitude in `unit` is at least the number of whole seconds -/
theorem secondsTotal_le_mag (sp : Span) (u : TimeUnit) : secondsTotal sp ≤ totalNanos sp / u.nsPer := by
  unfold totalNanos
  generalize secondsTotal sp = S
  generalize fracNanos sp.subsecond = F
  cases u <;> simp only [TimeUnit.nsPer] <;> omega

theorem secondsTotal_le_of_inI64 (sp : Span) (u : TimeUnit) (hin : inI64 (specSigned sp u) = true) :
    secondsTotal sp ≤ 9223372036854775808 := by
  have hle := secondsTotal_le_mag sp u
  unfold specSigned specMagnitude at hin
  generalize totalNanos sp / u.nsPer = M at *
  by_cases hs : sp.sign = some '-'
  · rw [if_pos hs] at hin
    rw [inI64_iff] at hin; omega
  · rw [if_neg hs] at hin
    rw [inI64_iff] at hin; omega

theorem toArrowDuration_ok (sp : Span) (u : TimeUnit) (hf : OptAllDigits sp.subsecond) (v : Int)
    (h : specDuration sp u = some v) : sp.toArrowDuration u = .ok v := by
  unfold specDuration at h
  split at h
  · cases h
  · rename_i hym
    have hy : optVal sp.year = 0 := by omega
    have hm : optVal sp.month = 0 := by omega
    split at h
    · rename_i hin
      cases h
      have hS := secondsTotal_le_of_inI64 sp u hin
      unfold secondsTotal at hS
      unfold Span.toArrowDuration
      rw [godv_ok _ (by simp only [u64Max]; omega), godv_ok _ (by simp only [u64Max]; omega),
        getSecondValue_ok sp (by simp only [u64Max]; omega) (by simp only [u64Max]; omega) (by simp only [u64Max]; omega)
          (by simp only [u64Max]; omega) (by simp only [u64Max]; omega),
        getNanosecondValue_eq sp hf]
      simp only [bind, Except.bind, hy, hm, ne_eq, not_true_eq_false, if_false, buildDuration]
      unfold specSigned specMagnitude totalNanos at hin ⊢
      rw [if_pos hin]
    · cases h

theorem toArrowDuration_err (sp : Span) (u : TimeUnit) (hf : OptAllDigits sp.subsecond)
    (h : specDuration sp u = none) : ∃ m, sp.toArrowDuration u = .error (.err m) := by
  unfold Span.toArrowDuration
  by_cases hyb : optVal sp.year ≤ u64Max
  · rw [godv_ok _ hyb]
    by_cases hy : optVal sp.year = 0
    · by_cases hmb : optVal sp.month ≤ u64Max
      · rw [godv_ok _ hmb]
        by_cases hm : optVal sp.month = 0
        · simp only [bind, Except.bind, hy, hm, ne_eq, not_true_eq_false, if_false]
          unfold specDuration at h
          rw [if_neg (by omega)] at h
          by_cases hin : inI64 (specSigned sp u) = true
          · rw [if_pos hin] at h; cases h
          · by_cases hb : (optVal sp.week ≤ u64Max ∧ optVal sp.day ≤ u64Max ∧
                optVal sp.hour ≤ u64Max ∧ optVal sp.minute ≤ u64Max ∧ optVal sp.second ≤ u64Max)
            · rw [getSecondValue_ok sp hb.1 hb.2.1 hb.2.2.1 hb.2.2.2.1 hb.2.2.2.2, getNanosecondValue_eq sp hf]
              simp only [buildDuration]
              unfold specSigned specMagnitude totalNanos at hin
              rw [if_neg hin]; exact ⟨_, rfl⟩
            · obtain ⟨m, e⟩ := getSecondValue_err sp hb
              rw [e]; exact ⟨m, rfl⟩
        · simp only [bind, Except.bind, hy, hm, ne_eq, not_true_eq_false, not_false_eq_true, if_false, if_true]
          exact ⟨_, rfl⟩
      · obtain ⟨m, e⟩ := godv_err _ hmb
        simp only [bind, Except.bind, hy, ne_eq, not_true_eq_false, if_false]
        rw [e]; exact ⟨m, rfl⟩
    · simp only [bind, Except.bind, hy, ne_eq, not_false_eq_true, if_true]
      exact ⟨_, rfl⟩
  · obtain ⟨m, e⟩ := godv_err _ hyb
    rw [e]; exact ⟨m, rfl⟩

/-! the parser only puts ASCII digits into the span -/

theorem matchOptionalSpanSeconds_digits {s rest : List Char} {sec sub : Option (List Char)}
    (h : matchOptionalSpanSeconds s = some (rest, sec, sub)) : OptAllDigits sub := by
  unfold matchOptionalSpanSeconds at h
  split at h
  · cases h; intro ds hds; cases hds
  · split at h
    · split at h
      · cases h
      · rename_i hsub
        split at h
        · cases h; intro ds hds; cases hds
        · cases h; intro ds hds; cases hds; exact matchOneOrMoreDigits_allDigits hsub
    · split at h <;> (cases h; intro ds hds; cases hds)

theorem matchSpan_digits {s rest : List Char} {sp : Span} (h : matchSpan s = some (rest, sp)) :
    OptAllDigits sp.subsecond := by
  unfold matchSpan at h
  simp only at h
  split at h
  · cases h
  · split at h
    · split at h
      · split at h
        · cases h
        · rename_i hsec
          cases h
          exact matchOptionalSpanSeconds_digits hsec
      · cases h; intro ds hds; cases hds
    · cases h; intro ds hds; cases hds

theorem parseSpan_digits {s : List Char} {sp : Span} (h : parseSpan s = .ok sp) : OptAllDigits sp.subsecond := by
  unfold parseSpan at h
  split at h
  · rename_i hm; cases h; exact matchSpan_digits hm
  · cases h

theorem signOf_spec (v : Int) (body : List Char) (hb : ∃ r, body = 'P' :: r) :
    matchOptionalSign ((if v < 0 then ['-'] else []) ++ body) = (body, if v < 0 then some '-' else none) := by
  obtain ⟨r, rfl⟩ := hb
  by_cases h : v < 0 <;> simp [h, matchOptionalSign]

theorem specDuration_formatted (v : Int) (u : TimeUnit) (hv : inI64 v = true) (sp : Span)
    (hsign : sp.sign = if v < 0 then some '-' else none)
    (hy : sp.year = none) (hmo : sp.month = none)
    (hmag : totalNanos sp / u.nsPer = v.natAbs) : specDuration sp u = some v := by
  unfold specDuration
  rw [hy, hmo]
  have hs : specSigned sp u = v := by
    unfold specSigned specMagnitude
    rw [hmag, hsign]
    by_cases h : v < 0 <;> simp [h] <;> omega
  simp only [optVal, ne_eq, not_true_eq_false, or_self, if_false]
  rw [hs, if_pos hv]


/-- parse of what the formatter writes for a magnitude with a fraction of `w` digits -/
theorem parse_format_frac (v : Int) (a b w : Nat) (hw : 0 < w) :
    parseSpan ((if v < 0 then ['-'] else []) ++ ("PT".toList ++ natDigits a ++ ['.'] ++ padDigits w b ++ ['s'])) =
      .ok { sign := if v < 0 then some '-' else none, second := some (natDigits a), subsecond := some (padDigits w b) } := by
  have hbody : "PT".toList ++ natDigits a ++ ['.'] ++ padDigits w b ++ ['s'] =
      'P' :: 'T' :: (natDigits a ++ '.' :: (padDigits w b ++ ['s'])) := by simp
  rw [hbody]
  unfold parseSpan
  rw [matchSpan_PT _ _ '.' _ (natDigits_allDigits a) (natDigits_ne_nil a) (signOf_spec v _ ⟨_, rfl⟩) (by decide)
    (by decide) (by decide) _ _
    (matchOptionalSpanSeconds_frac (natDigits_allDigits a) (natDigits_ne_nil a) (padDigits_allDigits w b)
      (padDigits_ne_nil (by omega) b))]

theorem parse_format_plain (v : Int) (a : Nat) :
    parseSpan ((if v < 0 then ['-'] else []) ++ ("PT".toList ++ natDigits a ++ ['s'])) =
      .ok { sign := if v < 0 then some '-' else none, second := some (natDigits a) } := by
  have hbody : "PT".toList ++ natDigits a ++ ['s'] = 'P' :: 'T' :: (natDigits a ++ 's' :: []) := by simp
  rw [hbody]
  unfold parseSpan
  rw [matchSpan_PT _ _ 's' _ (natDigits_allDigits a) (natDigits_ne_nil a) (signOf_spec v _ ⟨_, rfl⟩) (by decide)
    (by decide) (by decide) _ _ (matchOptionalSpanSeconds_plain (natDigits_allDigits a) (natDigits_ne_nil a))]

theorem fracNanos_pad (w b : Nat) (hw : w ≤ 9) (hb : b < 10 ^ w) :
    fracNanos (some (padDigits w b)) = b * 10 ^ (9 - w) := by
  simp only [fracNanos, padDigits_length, digitsVal_padDigits, Nat.mod_eq_of_lt hb]
  have : 10 ^ 9 = 10 ^ (9 - w) * 10 ^ w := by rw [← Nat.pow_add]; congr 1; omega
  rw [this, ← Nat.mul_assoc, Nat.mul_div_cancel _ (Nat.pow_pos (by decide))]


end SaModel.Props.C14
