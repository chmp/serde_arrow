import SaModel.Build.Finish
/-
C18, path assembly (builder half).

`segsDT dt md` walks a schema and lists, in pre-order, every position below (and including) a field of type `dt`
as the list of child names that leads to it, together with the `data_type` label of the builder family
`build_builder` picks there.  The conventions are the ones of the Rust code
(`serialization/outer_sequence_builder.rs::build_builder`, `utils::ChildName`):

  struct child            the raw field name                      (`build_struct`: `{path}.{field_name}`)
  list / large list / fixed size list child   `ChildName(name)`   (empty name ⇒ `<empty>`)
  map key / value         two segments: `ChildName(entries name)`, `ChildName(key / value name)`
  dictionary              `key` / `value`
  union variant           `ChildName(variant name)`

`render root segs` is the `.`-separated concatenation below `root`; `positions b` reads the (path, label) pairs
off a builder tree in the same order.  `paths_assembled` (Props/C18.lean) says the two agree for every builder
`newDT` / `newRoot` creates.
-/
namespace SaModel.Props.C18
open SaModel SaModel.Build

/-- a position: (`field`, `data_type`) -/
abbrev Pos := String × String

/-- what a builder at that position annotates (a `BTreeMap`: sorted by key) -/
def posAnn (q : Pos) : List (String × String) := [("data_type", q.2), ("field", q.1)]

/-- `{root}.{s1}.{s2}…` -/
def render (root : String) (segs : List String) : String := segs.foldl (fun p s => p ++ "." ++ s) root

theorem render_nil (root : String) : render root [] = root := rfl
theorem render_cons (root s : String) (segs : List String) : render root (s :: segs) = render (root ++ "." ++ s) segs := rfl
theorem render_append (root : String) (a b : List String) : render root (a ++ b) = render (render root a) b := by
  simp [render, List.foldl_append]

/-- label of the builder family chosen for a data type without children -/
def leafLabel : DataType → Metadata → String
  | .null, md => if strategyOf md == some "UnknownVariant" then "<unknown variant>" else "Null"
  | .boolean, _ => "Boolean"
  | .int8, _ => "Int8" | .int16, _ => "Int16" | .int32, _ => "Int32" | .int64, _ => "Int64"
  | .uint8, _ => "UInt8" | .uint16, _ => "UInt16" | .uint32, _ => "UInt32" | .uint64, _ => "UInt64"
  | .float16, _ => "Float16" | .float32, _ => "Float32" | .float64, _ => "Float64"
  | .date32, _ => "Date32" | .date64, _ => "Date64"
  | .timestamp _ _, _ => "Timestamp(..)"
  | .time32 _, _ => "Time32" | .time64 _, _ => "Time64"
  | .duration _, _ => "Duration(..)"
  | .decimal128 _ _, _ => "Decimal128(..)"
  | .utf8, _ => "Utf8" | .largeUtf8, _ => "LargeUtf8" | .utf8View, _ => "Utf8View"
  | .binary, _ => "Binary" | .largeBinary, _ => "LargeBinary" | .binaryView, _ => "BinaryView"
  | .fixedSizeBinary _, _ => "FixedSizeBinary(..)"
  | .list _, _ => "List" | .largeList _, _ => "LargeList"
  | .fixedSizeList _ _, _ => "FixedSizeList(..)"
  | .map _ _, _ => "Map(..)"
  | .struct _, _ => "Struct(..)"
  | .dictionary _ _, _ => "Dictionary(..)"
  | .union _ _, _ => "Union(..)"
  | .interval _, _ => "Interval"
  | .runEndEncoded _ _, _ => "RunEndEncoded"

def under (seg : List String) (l : List (List String × String)) : List (List String × String) :=
  l.map fun q => (seg ++ q.1, q.2)

mutual
def segsDT : DataType → Metadata → List (List String × String)
  | .list child, md => ([], leafLabel (.list child) md) :: under [childName child.name] (segsF child)
  | .largeList child, md => ([], leafLabel (.largeList child) md) :: under [childName child.name] (segsF child)
  | .fixedSizeList child n, md =>
    ([], leafLabel (.fixedSizeList child n) md) :: under [childName child.name] (segsF child)
  | .map (.mk ename (.struct (.cons kf (.cons vf _))) _ _) _, _ =>
    ([], "Map(..)") :: (under [childName ename, childName kf.name] (segsF kf)
      ++ under [childName ename, childName vf.name] (segsF vf))
  | .struct fs, _ => ([], "Struct(..)") :: segsFs fs
  | .dictionary k v, _ => ([], "Dictionary(..)") :: (under ["key"] (segsDT k []) ++ under ["value"] (segsDT v []))
  | .union fs _, _ => ([], "Union(..)") :: segsU fs
  | dt, md => [([], leafLabel dt md)]
def segsF : Field → List (List String × String)
  | .mk _ dt _ md => segsDT dt md
def segsFs : Fields → List (List String × String)
  | .nil => []
  | .cons f rest => under [f.name] (segsF f) ++ segsFs rest
def segsU : UFields → List (List String × String)
  | .nil => []
  | .cons _ f rest => under [childName f.name] (segsF f) ++ segsU rest
end

/-- the positions of a field of type `dt` whose own path is `root` -/
def positionsAt (root : String) (l : List (List String × String)) : List Pos :=
  l.map fun q => (render root q.1, q.2)

theorem positionsAt_under (root : String) (seg : List String) (l : List (List String × String)) :
    positionsAt root (under seg l) = positionsAt (render root seg) l := by
  simp [positionsAt, under, render_append, Function.comp_def]

theorem positionsAt_append (root : String) (a b : List (List String × String)) :
    positionsAt root (a ++ b) = positionsAt root a ++ positionsAt root b := by
  simp [positionsAt]

theorem positionsAt_cons (root : String) (q : List String × String) (l : List (List String × String)) :
    positionsAt root (q :: l) = (render root q.1, q.2) :: positionsAt root l := rfl

/- the (path, label) pairs of a builder tree, pre-order -/
mutual
def positions : B → List Pos
  | .null p len => [(p, (B.null p len).label)]
  | .unknownVariant p => [(p, (B.unknownVariant p).label)]
  | .leaf p k v vals => [(p, (B.leaf p k v vals).label)]
  | .bytes p ty v o d => [(p, (B.bytes p ty v o d).label)]
  | .bytesView p ty v vs b0 => [(p, (B.bytesView p ty v vs b0).label)]
  | .fixedSizeBinary p n len v buf c => [(p, (B.fixedSizeBinary p n len v buf c).label)]
  | .list p large _ _ _ el => (p, if large then "LargeList" else "List") :: positions el
  | .fixedSizeList p _ _ _ _ _ el => (p, "FixedSizeList(..)") :: positions el
  | .map p _ _ _ ks vs => (p, "Map(..)") :: (positions ks ++ positions vs)
  | .struct p _ _ fs _ _ _ => (p, "Struct(..)") :: positionsL fs
  | .dictionary p idx vals _ => (p, "Dictionary(..)") :: (positions idx ++ positions vals)
  | .union p fs _ _ _ => (p, "Union(..)") :: positionsL fs
def positionsL : BL → List Pos
  | .nil => []
  | .cons b _ rest => positions b ++ positionsL rest
end

theorem positions_head (b : B) : ∃ rest, positions b = (b.path, b.label) :: rest := by
  cases b <;> simp [positions, B.path, B.label]

theorem self_mem_positions (b : B) : (b.path, b.label) ∈ positions b := by
  obtain ⟨r, h⟩ := positions_head b
  rw [h]; exact List.mem_cons_self

theorem ann_eq_posAnn (b : B) : b.ann = posAnn (b.path, b.label) := rfl

/- positions are part of what `take` leaves behind: they never change while rows are pushed -/
mutual
theorem positions_takeRest : ∀ (b : B), positions (takeRest b) = positions b
  | .null _ _ | .unknownVariant _ | .leaf _ _ _ _ | .bytes _ _ _ _ _ | .bytesView _ _ _ _ _
  | .fixedSizeBinary _ _ _ _ _ _ => by simp [takeRest, positions, B.label]
  | .list _ _ _ _ _ el => by simp [takeRest, positions, positions_takeRest el]
  | .fixedSizeList _ _ _ _ _ _ el => by simp [takeRest, positions, positions_takeRest el]
  | .map _ _ _ _ ks vs => by simp [takeRest, positions, positions_takeRest ks, positions_takeRest vs]
  | .struct _ _ _ fs _ _ _ => by simp [takeRest, positions, positionsL_takeRestAll fs]
  | .dictionary _ idx vals _ => by simp [takeRest, positions, positions_takeRest idx, positions_takeRest vals]
  | .union _ fs _ _ _ => by simp [takeRest, positions, positionsL_takeRestAll fs]
theorem positionsL_takeRestAll : ∀ (fs : BL), positionsL (takeRestAll fs) = positionsL fs
  | .nil => rfl
  | .cons b _ rest => by simp [takeRestAll, positionsL, positions_takeRest b, positionsL_takeRestAll rest]
end

theorem positions_of_takeRest {b b' : B} (h : takeRest b' = takeRest b) : positions b' = positions b := by
  rw [← positions_takeRest b', h, positions_takeRest]

theorem positionsL_of_takeRestAll {fs fs' : BL} (h : takeRestAll fs' = takeRestAll fs) : positionsL fs' = positionsL fs := by
  rw [← positionsL_takeRestAll fs', h, positionsL_takeRestAll]

end SaModel.Props.C18
