import SaModel.Lemmas.C03PhysCnt
import SaModel.Lemmas.C03ObsFinish
import SaModel.Lemmas.C03PX
import SaModel.Lemmas.C03ReadPhys
import SaModel.Lemmas.SchemaAll
/-
C03 → C02 bridge, `Read.physical` for ALL types, part 2: from the final builder state to the arrays.

`sizeOKDT dt L` is a decidable predicate on (data type, bound `L` on the number of rows of an array of that type): the
lengths `Read.physical` speaks about, computed from the schema —

  FixedSizeList<f, n>   `n * L ≤ usize::MAX`, and the child (of `n * L` slots) is fine
  Dictionary            `L ≤ i64::MAX` (the values are at most as many as the keys: `Cnt`)
  List / Map            the child has at most `i32::MAX` slots (the offsets are `i32`), LargeList: `i64::MAX`
  Struct / Union        the children have at most `L` slots (a dense union child: the per-variant counter, `Cnt`)

`finish_sized`: `into_array` of a state with the invariants `WFH` (row counts), `PX` (offsets within `i32` / `i64`) and `Cnt`
(Lemmas/C03PhysCnt.lean) that holds at most `L` rows, for a type with `sizeOKDT dt L`, is `Read.physical`.
A bound on the input alone cannot do: `serialize_none` into a nullable FixedSizeList<_, n> appends `n` child slots for ONE
call (`Props.C03.input_bound_not_enough`).
-/
namespace SaModel.Lemmas.C03
open SaModel SaModel.Build SaModel.Spec SaModel.Read

mutual
/-- the lengths `Read.physical` bounds, for an array of this type with at most `L` rows -/
def sizeOKDT : DataType → Nat → Bool
  | .fixedSizeList f n, L => decide (n.toNat * L ≤ usizeMax) && sizeOKF f (n.toNat * L)
  | .dictionary _ _, L => decide (L ≤ 9223372036854775807)
  | .list f, _ => sizeOKF f 2147483647
  | .largeList f, _ => sizeOKF f 9223372036854775807
  | .map (.mk _ (.struct (.cons kf (.cons vf .nil))) _ _) _, _ => sizeOKF kf 2147483647 && sizeOKF vf 2147483647
  | .struct fs, L => sizeOKFs fs L
  | .union ufs _, L => sizeOKUs ufs L
  | _, _ => true
def sizeOKF : Field → Nat → Bool
  | .mk _ dt _ _, L => sizeOKDT dt L
def sizeOKFs : Fields → Nat → Bool
  | .nil, _ => true
  | .cons f r, L => sizeOKF f L && sizeOKFs r L
def sizeOKUs : UFields → Nat → Bool
  | .nil, _ => true
  | .cons _ f r, L => sizeOKF f L && sizeOKUs r L
end

theorem sizeOKF_dt (f : Field) (L : Nat) : sizeOKF f L = sizeOKDT f.dataType L := by
  cases f; simp [sizeOKF, Field.dataType]

theorem dec_length_rows : ∀ (b : B), WFH b → (dec b).length = b.rows
  | .null _ len, _ => by simp [dec, B.rows]
  | .unknownVariant _, _ => by simp [dec, B.rows]
  | .leaf _ k v vals, h => by
    simp only [WFH] at h
    simp only [dec, B.rows]
    exact Lemmas.C03.maskNull_length v _ _ h (by simp)
  | .bytes _ ty v offs data, h => by
    simp only [WFH] at h
    simp only [dec, B.rows]
    exact Lemmas.C03.maskNull_length v _ _ h.2 (by simp [Lemmas.C03.pairs_length])
  | .bytesView _ ty v views buf, h => by
    simp only [WFH] at h
    simp only [dec, B.rows]
    exact Lemmas.C03.maskNull_length v _ _ h.1 (by simp)
  | .fixedSizeBinary _ n len v buf _, h => by
    simp only [WFH] at h
    simp only [dec, B.rows]
    exact Lemmas.C03.maskNull_length v _ _ h.1 (by simp)
  | .list _ _ _ v offs el, h => by
    simp only [WFH] at h
    simp only [dec, B.rows]
    exact Lemmas.C03.maskNull_length v _ _ h.2.1 (by simp [Lemmas.C03.pairs_length])
  | .fixedSizeList _ _ n len v _ el, h => by
    simp only [WFH] at h
    simp only [dec, B.rows]
    exact Lemmas.C03.maskNull_length v _ _ h.1 (by simp)
  | .map _ _ v offs ks vs, h => by
    simp only [WFH] at h
    simp only [dec, B.rows]
    exact Lemmas.C03.maskNull_length v _ _ h.2.2.1 (by simp [Lemmas.C03.pairs_length])
  | .struct _ len v fs _ _ _, h => by
    simp only [WFH] at h
    simp only [dec, B.rows]
    exact Lemmas.C03.maskNull_length v _ _ h.1 (by simp)
  | .dictionary _ idx vals _, h => by
    simp only [WFH] at h
    simp only [dec, B.rows, List.length_map]
    exact dec_length_rows idx h.1
  | .union _ fs types offs _, h => by
    simp only [WFH] at h
    simp only [dec, B.rows, List.length_zipWith]
    omega

theorem lenOf_finishLeaf (k : LeafKind) (v : Validity) (vals : List Int) : lenOf (finishLeaf k v vals) = vals.length := by
  cases k <;> simp [finishLeaf, lenOf]

/-- the finished array has (at most) the rows the state holds -/
theorem finish_lenOf_le (ext : Ext) : ∀ (b : B) (a : Arr), finish ext b = .ok a → WFH b → lenOf a ≤ b.rows
  | .null _ _, a, h, _ => by rw [finish_null] at h; cases h; exact Nat.le_refl _
  | .unknownVariant _, a, h, _ => by rw [finish_unknownVariant] at h; cases h; exact Nat.le_refl _
  | .leaf _ k v vals, a, h, _ => by rw [finish_leaf] at h; cases h; rw [lenOf_finishLeaf]; exact Nat.le_refl _
  | .bytes _ _ _ _ _, a, h, _ => by rw [finish_bytes] at h; cases h; exact Nat.le_refl _
  | .bytesView _ _ _ _ _, a, h, _ => by rw [finish_bytesView] at h; cases h; exact Nat.le_refl _
  | .fixedSizeBinary _ n len _ buf _, a, h, hw => by
    cases finish_fixedSizeBinary_inv h
    simp only [WFH] at hw
    simp only [lenOf, B.rows]
    split
    · exact Nat.zero_le _
    · rename_i hn
      have hn' : 0 < n := by omega
      rw [hw.2, Int.toNat_natCast, Nat.mul_div_cancel _ hn']
      exact Nat.le_refl _
  | .list _ _ _ _ _ el, a, h, _ => by obtain ⟨_, _, rfl⟩ := finish_list_inv h; exact Nat.le_refl _
  | .fixedSizeList _ _ _ _ _ _ el, a, h, _ => by obtain ⟨_, _, rfl⟩ := finish_fixedSizeList_inv h; exact Nat.le_refl _
  | .map _ _ _ _ ks vs, a, h, _ => by obtain ⟨_, _, _, _, rfl⟩ := finish_map_inv h; exact Nat.le_refl _
  | .struct _ _ _ fs _ _ _, a, h, _ => by obtain ⟨_, _, rfl⟩ := finish_struct_inv h; exact Nat.le_refl _
  | .dictionary _ idx vals index, a, h, hw => by
    obtain ⟨ka, va, hk, _, ⟨_, _, rfl⟩ | ⟨_, rfl⟩⟩ := finish_dictionary_inv h <;>
      exact finish_lenOf_le ext idx ka hk (WFH_dictionary hw).1
  | .union _ fs _ _ _, a, h, _ => by obtain ⟨_, _, rfl⟩ := finish_union_inv h; exact Nat.le_refl _

theorem lenOf_appendEmptyStr (a : Arr) : lenOf (appendEmptyStr a) ≤ lenOf a + 1 := by
  cases a <;> simp [appendEmptyStr, lenOf] <;> omega

/-- the last offset is the child length and within the offset type -/
theorem child_rows_le {offs : List Int} {n : Nat} {m : Int} (ho : OffsOK offs n) (hl : OffsLe offs m) : (n : Int) ≤ m :=
  hl _ (List.mem_of_getLast? ho.2.1)

/-- a list row: the child holds at most `offMax large` rows -/
theorem list_child_rows {p large fm v offs el} (hw : WFH (.list p large fm v offs el)) (hp : PX (.list p large fm v offs el)) :
    (el.rows : Int) ≤ offMax large := by
  have hwl := WFH_list hw
  simp only [PX] at hp
  have := child_rows_le hwl.1 hp.1
  rwa [dec_length_rows el hwl.2.2] at this

theorem sized_cases (ext : Ext) : BuiltForCases
    (fun dt _ b => ∀ a L, finish ext b = .ok a → WFH b → PX b → Cnt b → b.rows ≤ L → sizeOKDT dt L = true → physical a = true)
    (fun fields fs => ∀ afs len L, Build.finishFields ext fs = .ok afs → WFHL fs len → PXL fs → CntL fs → len ≤ L →
      sizeOKFs fields L = true → physicalFields afs = true)
    (fun ufs fs _ => ∀ idx afs (cur : List Int) (n L : Nat), finishUFields ext fs idx = .ok afs → WFHU fs cur → PXL fs →
      CntL fs → (∀ c ∈ cur, c ≤ (n : Int)) → n ≤ L → sizeOKUs ufs L = true → physicalUFields afs = true) where
  null a _ h _ _ _ _ _ := by rw [finish_null] at h; cases h; rfl
  unknownVariant a _ h _ _ _ _ _ := by rw [finish_unknownVariant] at h; cases h; rfl
  leaf := @fun _ k _ _ a _ h _ _ _ _ _ => by rw [finish_leaf] at h; cases h; cases k <;> rfl
  bytes a _ h _ _ _ _ _ := by rw [finish_bytes] at h; cases h; rfl
  bytesView a _ h _ _ _ _ _ := by rw [finish_bytesView] at h; cases h; rfl
  fixedSizeBinary a _ h _ _ _ _ _ := by cases finish_fixedSizeBinary_inv h; rfl
  list _ ih a L h hw hp hc _ hs := by
    obtain ⟨ea, he, rfl⟩ := finish_list_inv h
    have hle := list_child_rows hw hp
    simp only [offMax, Bool.false_eq_true, if_false] at hle
    simp only [PX] at hp
    exact ih ea 2147483647 he (WFH_list hw).2.2 hp.2 hc (by omega) hs
  largeList _ ih a L h hw hp hc _ hs := by
    obtain ⟨ea, he, rfl⟩ := finish_list_inv h
    have hle := list_child_rows hw hp
    simp only [offMax, if_true] at hle
    simp only [PX] at hp
    exact ih ea 9223372036854775807 he (WFH_list hw).2.2 hp.2 hc (by omega) hs
  fixedSizeList := @fun _ n _ _ _ el _ _ _ _ _ ih a L h hw hp hc hL hs => by
    obtain ⟨ea, he, rfl⟩ := finish_fixedSizeList_inv h
    have hwl := WFH_fixedSizeList hw
    simp only [sizeOKDT, sizeOKF, Int.toNat_natCast, Bool.and_eq_true, decide_eq_true_eq] at hs
    simp only [B.rows] at hL
    have hrows : el.rows ≤ n * L := by
      rw [← dec_length_rows el hwl.2.2, hwl.2.1, Nat.mul_comm]
      exact Nat.mul_le_mul_left n hL
    have hlen := finish_lenOf_le ext el ea he hwl.2.2
    simp only [physical, Bool.and_eq_true, decide_eq_true_eq]
    exact ⟨by omega, ih ea (n * L) he hwl.2.2 hp hc hrows hs.2⟩
  map := @fun _ _ _ ks vs _ _ _ _ _ _ _ _ _ _ _ _ _ ihk _ ihv a L h hw hp hc _ hs => by
    obtain ⟨ka, va, hk, hv, rfl⟩ := finish_map_inv h
    have hwm := WFH_map hw
    simp only [PX] at hp
    simp only [Cnt] at hc
    simp only [sizeOKDT, sizeOKF, Bool.and_eq_true] at hs
    have hle := child_rows_le hwm.1 hp.1
    simp only [offMax, Bool.false_eq_true, if_false] at hle
    have hkr : ks.rows ≤ 2147483647 := by rw [← dec_length_rows ks hwm.2.2.2.1]; omega
    have hvr : vs.rows ≤ 2147483647 := by rw [← dec_length_rows vs hwm.2.2.2.2, hwm.2.1]; omega
    simp only [physical, Bool.and_eq_true]
    exact ⟨ihk ka _ hk hwm.2.2.2.1 hp.2.1 hc.1 hkr hs.1, ihv va _ hv hwm.2.2.2.2 hp.2.2 hc.2 hvr hs.2⟩
  struct _ ih a L h hw hp hc hL hs := by
    obtain ⟨afs, hf, rfl⟩ := finish_struct_inv h
    exact ih afs _ L hf (WFH_struct hw).2 hp hc hL hs
  dictionary := @fun _ idx vals index _ _ _ _ _ _ _ _ a L h hw _ hc hL hs => by
    have hwd := WFH_dictionary hw
    simp only [Cnt] at hc
    simp only [sizeOKDT, decide_eq_true_eq] at hs
    simp only [B.rows] at hL
    have hmax : Read.i64Max.toNat = 9223372036854775807 := by decide
    obtain ⟨ka, va, _, hv, hcase⟩ := finish_dictionary_inv h
    have hva := finish_lenOf_le ext vals va hv hwd.2.1
    rw [← dec_length_rows vals hwd.2.1, hwd.2.2] at hva
    rcases hcase with ⟨hcond, _, rfl⟩ | ⟨_, rfl⟩
    · -- the placeholder `""` is appended only to an empty index
      have hz : index.length = 0 := by
        simp only [needsPlaceholder, Bool.and_eq_true, List.isEmpty_iff] at hcond
        rw [hcond.2]; rfl
      have := lenOf_appendEmptyStr va
      simp only [physical, decide_eq_true_eq, hmax]
      omega
    · simp only [physical, decide_eq_true_eq, hmax]
      omega
  union := @fun _ fs types _ cur _ _ _ _ ih a L h hw hp hc hL hs => by
    obtain ⟨afs, hf, rfl⟩ := finish_union_inv h
    simp only [Cnt] at hc
    simp only [B.rows] at hL
    exact ih 0 afs cur types.length L hf (WFH_union hw).2.1 hp hc.1 hc.2 hL hs
  nilL afs _ _ h _ _ _ _ _ := by rw [finishFields_nil] at h; cases h; rfl
  consL := @fun b _ _ _ _ _ _ _ ih _ ihr afs len L h hw hp hc hL hs => by
    obtain ⟨a, r, ha, hr, rfl⟩ := finishFields_cons_inv h
    simp only [WFHL] at hw
    simp only [sizeOKFs, sizeOKF, Bool.and_eq_true] at hs
    simp only [physicalFields, Bool.and_eq_true]
    exact ⟨ih a L ha hw.1 hp.1 hc.1 (by rw [← dec_length_rows b hw.1, hw.2.1]; exact hL) hs.1,
      ihr r len L hr hw.2.2 hp.2 hc.2 hL hs.2⟩
  nilU _ afs _ _ _ h _ _ _ _ _ _ := by rw [finishUFields_nil] at h; cases h; rfl
  consU := @fun b _ _ _ _ _ _ _ _ ih _ ihr idx afs cur n L h hw hp hc hcur hL hs => by
    obtain ⟨a, r, ha, hr, rfl⟩ := finishUFields_cons_inv h
    simp only [WFHU] at hw
    simp only [sizeOKUs, sizeOKF, Bool.and_eq_true] at hs
    have hrows : b.rows ≤ L := by
      rw [← dec_length_rows b hw.1]
      have := hcur _ (List.mem_of_head? hw.2.1)
      omega
    simp only [physicalUFields, Bool.and_eq_true]
    exact ⟨ih a L ha hw.1 hp.1 hc.1 hrows hs.1,
      ihr (idx + 1) r cur.tail n L hr hw.2.2 hp.2 hc.2 (fun c hc' => hcur c (List.mem_of_mem_tail hc')) hL hs.2⟩

/-- **`into_array` of a counted state is `physical`** when the schema-computed lengths fit (`sizeOKDT`) -/
theorem finish_sized (ext : Ext) : ∀ (b : B) (a : Arr) (dt : DataType) (nl : Bool) (L : Nat),
    finish ext b = .ok a → WFH b → PX b → Cnt b → BuiltFor dt nl b → b.rows ≤ L → sizeOKDT dt L = true →
    physical a = true :=
  fun b a dt nl L h hw hp hc hb hL hs => (sized_cases ext).builtFor b dt nl hb a L h hw hp hc hL hs

theorem finishFields_sized (ext : Ext) : ∀ (fs : BL) (afs : ArrFields) (fields : Fields) (len L : Nat),
    Build.finishFields ext fs = .ok afs → WFHL fs len → PXL fs → CntL fs → BuiltForL fields fs → len ≤ L →
    sizeOKFs fields L = true → physicalFields afs = true :=
  fun fs afs fields len L h hw hp hc hb hL hs => (sized_cases ext).builtForL fs fields hb afs len L h hw hp hc hL hs

theorem finishUFields_sized (ext : Ext) : ∀ (fs : BL) (idx : Nat) (afs : ArrUFields) (ufs : UFields) (k : Nat)
    (cur : List Int) (n L : Nat),
    finishUFields ext fs idx = .ok afs → WFHU fs cur → PXL fs → CntL fs → BuiltForU ufs fs k →
    (∀ c ∈ cur, c ≤ (n : Int)) → n ≤ L → sizeOKUs ufs L = true → physicalUFields afs = true :=
  fun fs idx afs ufs k cur n L h hw hp hc hb hcur hL hs =>
    (sized_cases ext).builtForU fs ufs k hb idx afs cur n L h hw hp hc hcur hL hs

mutual
/-- `sizeOKDT` is downward closed in the row bound -/
theorem sizeOKDT_mono : ∀ (dt : DataType) (L L' : Nat), L' ≤ L → sizeOKDT dt L = true → sizeOKDT dt L' = true
  | .fixedSizeList f n => fun L L' hl h => by
    simp only [sizeOKDT, Bool.and_eq_true, decide_eq_true_eq] at h ⊢
    have := Nat.mul_le_mul_left n.toNat hl
    exact ⟨by omega, sizeOKF_mono f _ _ this h.2⟩
  | .dictionary _ _ => fun L L' hl h => by
    simp only [sizeOKDT, decide_eq_true_eq] at h ⊢; omega
  | .list f => fun _ _ _ h => by simpa only [sizeOKDT] using h
  | .largeList f => fun _ _ _ h => by simpa only [sizeOKDT] using h
  | .map ef _ => fun _ _ _ h => by
    rcases ef with ⟨en, edt, enl, emd⟩
    cases edt with
    | struct efs =>
      cases efs with
      | nil => simp [sizeOKDT]
      | cons kf r1 =>
        cases r1 with
        | nil => simp [sizeOKDT]
        | cons vf r2 =>
          cases r2 with
          | nil => simpa only [sizeOKDT] using h
          | cons _ _ => simp [sizeOKDT]
    | _ => simp [sizeOKDT]
  | .struct fs => fun L L' hl h => by simp only [sizeOKDT] at h ⊢; exact sizeOKFs_mono fs L L' hl h
  | .union ufs _ => fun L L' hl h => by simp only [sizeOKDT] at h ⊢; exact sizeOKUs_mono ufs L L' hl h
  | .null | .boolean | .int8 | .int16 | .int32
  | .int64 | .uint8 | .uint16 | .uint32 | .uint64
  | .float16 | .float32 | .float64
  | .utf8 | .largeUtf8 | .utf8View | .binary | .largeBinary
  | .binaryView | .fixedSizeBinary _ | .date32 | .date64
  | .timestamp _ _ | .time32 _ | .time64 _ | .duration _
  | .interval _ | .decimal128 _ _ | .runEndEncoded _ _ => fun _ _ _ _ => by simp [sizeOKDT]
theorem sizeOKF_mono : ∀ (f : Field) (L L' : Nat), L' ≤ L → sizeOKF f L = true → sizeOKF f L' = true
  | .mk _ dt _ _ => fun L L' hl h => by simp only [sizeOKF] at h ⊢; exact sizeOKDT_mono dt L L' hl h
theorem sizeOKFs_mono : ∀ (fs : Fields) (L L' : Nat), L' ≤ L → sizeOKFs fs L = true → sizeOKFs fs L' = true
  | .nil => fun _ _ _ _ => by simp [sizeOKFs]
  | .cons f r => fun L L' hl h => by
    simp only [sizeOKFs, Bool.and_eq_true] at h ⊢
    exact ⟨sizeOKF_mono f L L' hl h.1, sizeOKFs_mono r L L' hl h.2⟩
theorem sizeOKUs_mono : ∀ (ufs : UFields) (L L' : Nat), L' ≤ L → sizeOKUs ufs L = true → sizeOKUs ufs L' = true
  | .nil => fun _ _ _ _ => by simp [sizeOKUs]
  | .cons _ f r => fun L L' hl h => by
    simp only [sizeOKUs, Bool.and_eq_true] at h ⊢
    exact ⟨sizeOKF_mono f L L' hl h.1, sizeOKUs_mono r L L' hl h.2⟩
end

mutual
/-- no FixedSizeList anywhere in the type -/
def fslFreeDT : DataType → Bool
  | .fixedSizeList _ _ => false
  | .struct fs => fslFreeFs fs
  | .list f | .largeList f => fslFreeF f
  | .map (.mk _ (.struct (.cons kf (.cons vf .nil))) _ _) _ => fslFreeF kf && fslFreeF vf
  | .union fs _ => fslFreeUFs fs
  | _ => true
def fslFreeF : Field → Bool
  | .mk _ dt _ _ => fslFreeDT dt
def fslFreeFs : Fields → Bool
  | .nil => true
  | .cons f r => fslFreeF f && fslFreeFs r
def fslFreeUFs : UFields → Bool
  | .nil => true
  | .cons _ f r => fslFreeF f && fslFreeUFs r
end

mutual
/-- without FixedSizeList the only condition is that the number of rows fits `i64` (Dictionary columns outside a list) -/
theorem sizeOKDT_of_fslFree : ∀ (dt : DataType) (L : Nat), fslFreeDT dt = true → L ≤ 9223372036854775807 →
    sizeOKDT dt L = true
  | .fixedSizeList f n => fun _ h _ => by simp [fslFreeDT] at h
  | .dictionary _ _ => fun L _ hl => by simp only [sizeOKDT, decide_eq_true_eq]; exact hl
  | .list f => fun _ h _ => by
    simp only [fslFreeDT] at h; simp only [sizeOKDT]; exact sizeOKF_of_fslFree f _ h (by omega)
  | .largeList f => fun _ h _ => by
    simp only [fslFreeDT] at h; simp only [sizeOKDT]; exact sizeOKF_of_fslFree f _ h (by omega)
  | .map ef _ => fun _ h _ => by
    rcases ef with ⟨en, edt, enl, emd⟩
    cases edt with
    | struct efs =>
      cases efs with
      | nil => simp [sizeOKDT]
      | cons kf r1 =>
        cases r1 with
        | nil => simp [sizeOKDT]
        | cons vf r2 =>
          cases r2 with
          | nil =>
            simp only [fslFreeDT, Bool.and_eq_true] at h
            simp only [sizeOKDT, Bool.and_eq_true]
            exact ⟨sizeOKF_of_fslFree kf _ h.1 (by omega), sizeOKF_of_fslFree vf _ h.2 (by omega)⟩
          | cons _ _ => simp [sizeOKDT]
    | _ => simp [sizeOKDT]
  | .struct fs => fun L h hl => by simp only [fslFreeDT] at h; simp only [sizeOKDT]; exact sizeOKFs_of_fslFree fs L h hl
  | .union ufs _ => fun L h hl => by simp only [fslFreeDT] at h; simp only [sizeOKDT]; exact sizeOKUs_of_fslFree ufs L h hl
  | .null | .boolean | .int8 | .int16 | .int32
  | .int64 | .uint8 | .uint16 | .uint32 | .uint64
  | .float16 | .float32 | .float64
  | .utf8 | .largeUtf8 | .utf8View | .binary | .largeBinary
  | .binaryView | .fixedSizeBinary _ | .date32 | .date64
  | .timestamp _ _ | .time32 _ | .time64 _ | .duration _
  | .interval _ | .decimal128 _ _ | .runEndEncoded _ _ => fun _ _ _ => by simp [sizeOKDT]
theorem sizeOKF_of_fslFree : ∀ (f : Field) (L : Nat), fslFreeF f = true → L ≤ 9223372036854775807 → sizeOKF f L = true
  | .mk _ dt _ _ => fun L h hl => by simp only [fslFreeF] at h; simp only [sizeOKF]; exact sizeOKDT_of_fslFree dt L h hl
theorem sizeOKFs_of_fslFree : ∀ (fs : Fields) (L : Nat), fslFreeFs fs = true → L ≤ 9223372036854775807 →
    sizeOKFs fs L = true
  | .nil => fun _ _ _ => by simp [sizeOKFs]
  | .cons f r => fun L h hl => by
    simp only [fslFreeFs, Bool.and_eq_true] at h
    simp only [sizeOKFs, Bool.and_eq_true]
    exact ⟨sizeOKF_of_fslFree f L h.1 hl, sizeOKFs_of_fslFree r L h.2 hl⟩
theorem sizeOKUs_of_fslFree : ∀ (ufs : UFields) (L : Nat), fslFreeUFs ufs = true → L ≤ 9223372036854775807 →
    sizeOKUs ufs L = true
  | .nil => fun _ _ _ => by simp [sizeOKUs]
  | .cons _ f r => fun L h hl => by
    simp only [fslFreeUFs, Bool.and_eq_true] at h
    simp only [sizeOKUs, Bool.and_eq_true]
    exact ⟨sizeOKF_of_fslFree f L h.1 hl, sizeOKUs_of_fslFree r L h.2 hl⟩
end

theorem sizeOKFs_ofList : ∀ (l : List Field) (L : Nat), (∀ f ∈ l, sizeOKDT f.dataType L = true) →
    sizeOKFs (Fields.ofList l) L = true :=
  fun _ L h => Fields.all_ofList (pFs := (sizeOKFs · L)) rfl (fun _ _ => rfl) fun f hf => by rw [sizeOKF_dt]; exact h f hf

end SaModel.Lemmas.C03
