import SaModel.Lemmas.C03ObsRoot
import SaModel.Lemmas.SchemaAll
/-
`Sound` of the final builder state WITHOUT the schema hypothesis `coveredF`.

`Sound_of_WFH` needs `PlaceholderOK`: the value builder of every dictionary with non-nullable keys has a placeholder row
(a Utf8 / LargeUtf8 / Utf8View builder), which `coveredF` gives.  But `Sound` is only ever used of a state whose
`into_array` SUCCEEDED, and a successful `into_array` of a dictionary that needs the placeholder has pushed `""` into its
value builder — so a value builder that REFUSES strings (`B.refusesStr`: Null, Boolean, integers, floats, binary types,
lists, maps, structs, unions) cannot have been in that situation.  Hence:

  PlaceholderW px       shape only (invariant under `take`): the value builder of every dictionary with non-nullable keys
                        has a placeholder row OR refuses strings OR (`px = true`) is a leaf builder that PARSES strings
  ExtNoEmpty ext        the external parsers accept no empty string; `pushScalar_parsesStr_empty`: then the placeholder
                        `serialize_str("")` fails on a parsing value builder as well
  Sound_of_finishH      (px = true → ExtNoEmpty ext) → WFH b → ShapeOK b → PlaceholderW px b → finish ext b = ok a → Sound b
  coveredP px           the schema predicate that gives `PlaceholderW px`: everything `build_builder` accepts except
                        `Dictionary(integer, V)` with `V` in `dictValExcl px`: a nested Dictionary always; for `px = false` also the
                        seven types whose builder parses strings (`dictValParsed`: Date32, Date64, Time32, Time64, Timestamp,
                        Duration, Decimal128); `coveredW ⊆ coveredP px`, and `Dictionary(integer, Utf8View)` is inside `coveredP px`
  root_factsW           `BuiltFor`, `Sound`, `PX` of the final state of a successful `to_marrow`
  C03_wf_of_WFHW, toMarrow_decode_of_WFHW   `C03_wf_of_WFH` / `toMarrow_decode_of_WFH` with `coveredPF` for `coveredF`
-/
namespace SaModel.Lemmas.C03
open SaModel SaModel.Build SaModel.Spec

/-- the leaf builders that parse `serialize_str` (dates, times, timestamps, durations, decimals) -/
def parsesStr : B → Bool
  | .leaf _ k _ _ =>
    match k with
    | .date32 | .date64 | .time32 _ | .time64 _ | .duration _ | .timestamp _ _ _ | .decimal _ _ => true
    | _ => false
  | _ => false

theorem parsesStr_takeRest (b : B) : parsesStr (takeRest b) = parsesStr b := by
  cases b <;> rfl

/-- the external parsers accept no EMPTY string (chrono: "premature end of input"; the span parser: "unmatched content";
the decimal parser: "no digits found" — a theorem for the codec models the driver plugs in: `Props.C03.codecExt_noEmpty`) -/
structure ExtNoEmpty (ext : Ext) : Prop where
  date : ∀ (is64 : Bool) (v : Int), ext.parseDate is64 "" ≠ .ok v
  time : ∀ (u : TimeUnit) (v : Int), ext.parseTime u "" ≠ .ok v
  timestamp : ∀ (u : TimeUnit) (utc : Bool) (v : Int), ext.parseTimestamp u utc "" ≠ .ok v
  duration : ∀ (u : TimeUnit) (v : Int), ext.parseDuration u "" ≠ .ok v
  decimal : ∀ (p : Nat) (s : Int) (v : Int), ext.parseDecimal p s "" ≠ .ok v

/-- with such parsers the placeholder `serialize_str("")` of `into_array` fails on a parsing value builder -/
theorem pushScalar_parsesStr_empty (ext : Ext) (hne : ExtNoEmpty ext) {vals vals' : B} (hp : parsesStr vals = true)
    (h : pushScalar ext vals (.str "") = .ok vals') : False := by
  cases vals with
  | leaf p k v xs =>
    simp only [pushScalar] at h
    obtain ⟨val, h1, _⟩ := (bind_ok _ _ _).1 h
    cases k with
    | date32 => exact hne.date false val (by simpa [convLeaf] using h1)
    | date64 => exact hne.date true val (by simpa [convLeaf] using h1)
    | time32 u =>
      simp only [convLeaf] at h1
      obtain ⟨t, h2, _⟩ := (bind_ok _ _ _).1 h1
      exact hne.time u t h2
    | time64 u => exact hne.time u val (by simpa [convLeaf] using h1)
    | duration u => exact hne.duration u val (by simpa [convLeaf] using h1)
    | timestamp u tz utc => exact hne.timestamp u utc val (by simpa [convLeaf] using h1)
    | decimal pr sc => exact hne.decimal pr sc val (by simpa [convLeaf] using h1)
    | _ => simp [parsesStr] at hp
  | _ => simp [parsesStr] at hp

variable {px : Bool}

mutual
/-- the value builder of every dictionary with NON-nullable keys has a placeholder row or refuses strings or (`px`) parses them -/
def PlaceholderW (px : Bool) : B → Prop
  | .list _ _ _ _ _ el => PlaceholderW px el
  | .fixedSizeList _ _ _ _ _ _ el => PlaceholderW px el
  | .map _ _ _ _ ks vs => PlaceholderW px ks ∧ PlaceholderW px vs
  | .struct _ _ _ fs _ _ _ => PlaceholderWL px fs
  | .dictionary _ idx vals _ =>
    (idx.isNullable = false →
      placeholderVals vals ≠ [] ∨ vals.refusesStr = true ∨ (px = true ∧ parsesStr vals = true)) ∧ PlaceholderW px idx ∧ PlaceholderW px vals
  | .union _ fs _ _ _ => PlaceholderWL px fs
  | _ => True
def PlaceholderWL (px : Bool) : BL → Prop
  | .nil => True
  | .cons b _ r => PlaceholderW px b ∧ PlaceholderWL px r
end

mutual
theorem PlaceholderW_takeRest : ∀ (b : B), PlaceholderW px (takeRest b) ↔ PlaceholderW px b
  | .null _ _ | .unknownVariant _ | .leaf _ _ _ _ | .bytes _ _ _ _ _ | .bytesView _ _ _ _ _
  | .fixedSizeBinary _ _ _ _ _ _ => by simp only [takeRest, PlaceholderW]
  | .list _ _ _ _ _ el | .fixedSizeList _ _ _ _ _ _ el => by simp only [takeRest, PlaceholderW, PlaceholderW_takeRest el]
  | .map _ _ _ _ ks vs => by simp only [takeRest, PlaceholderW, PlaceholderW_takeRest ks, PlaceholderW_takeRest vs]
  | .struct _ _ _ fs _ _ _ => by simp only [takeRest, PlaceholderW, PlaceholderWL_takeRestAll fs]
  | .dictionary _ idx vals _ => by
    simp only [takeRest, PlaceholderW, isNullable_takeRest, placeholderVals_takeRest, refusesStr_takeRest, parsesStr_takeRest,
      PlaceholderW_takeRest idx, PlaceholderW_takeRest vals]
  | .union _ fs _ _ _ => by simp only [takeRest, PlaceholderW, PlaceholderWL_takeRestAll fs]
theorem PlaceholderWL_takeRestAll : ∀ (bl : BL), PlaceholderWL px (takeRestAll bl) ↔ PlaceholderWL px bl
  | .nil => by simp only [takeRestAll]
  | .cons b _ r => by simp only [takeRestAll, PlaceholderWL, PlaceholderW_takeRest b, PlaceholderWL_takeRestAll r]
end

theorem PlaceholderW_of_takeRest_eq (b b' : B) (h : takeRest b' = takeRest b) (hb : PlaceholderW px b) :
    PlaceholderW px b' := by
  rw [← PlaceholderW_takeRest b', h, PlaceholderW_takeRest b]; exact hb

mutual
/-- `PlaceholderOK` is the special case -/
theorem PlaceholderW_of_OK : ∀ (b : B), PlaceholderOK b → PlaceholderW px b
  | .null _ _ | .unknownVariant _ | .leaf _ _ _ _ | .bytes _ _ _ _ _ | .bytesView _ _ _ _ _
  | .fixedSizeBinary _ _ _ _ _ _ => fun _ => by simp only [PlaceholderW]
  | .list _ _ _ _ _ el => fun h => by
    simp only [PlaceholderOK] at h; simp only [PlaceholderW]; exact PlaceholderW_of_OK el h
  | .fixedSizeList _ _ _ _ _ _ el => fun h => by
    simp only [PlaceholderOK] at h; simp only [PlaceholderW]; exact PlaceholderW_of_OK el h
  | .map _ _ _ _ ks vs => fun h => by
    simp only [PlaceholderOK] at h; simp only [PlaceholderW]
    exact ⟨PlaceholderW_of_OK ks h.1, PlaceholderW_of_OK vs h.2⟩
  | .struct _ _ _ fs _ _ _ => fun h => by
    simp only [PlaceholderOK] at h; simp only [PlaceholderW]; exact PlaceholderWL_of_OKL fs h
  | .dictionary _ idx vals _ => fun h => by
    simp only [PlaceholderOK] at h; simp only [PlaceholderW]
    exact ⟨fun hn => Or.inl (h.1 hn), PlaceholderW_of_OK idx h.2.1, PlaceholderW_of_OK vals h.2.2⟩
  | .union _ fs _ _ _ => fun h => by
    simp only [PlaceholderOK] at h; simp only [PlaceholderW]; exact PlaceholderWL_of_OKL fs h
theorem PlaceholderWL_of_OKL : ∀ (bl : BL), PlaceholderOKL bl → PlaceholderWL px bl
  | .nil => fun _ => trivial
  | .cons b _ r => fun h => by
    simp only [PlaceholderOKL] at h; simp only [PlaceholderWL]
    exact ⟨PlaceholderW_of_OK b h.1, PlaceholderWL_of_OKL r h.2⟩
end

mutual
/-- **`Sound` without `Safe` and without `coveredF`**: when `into_array` succeeds, the placeholder key `0` of a non-nullable
key builder designates a value of the finished dictionary — a dictionary whose value builder refuses strings and that would
need the placeholder has no successful `into_array` -/
theorem Sound_of_finishH (ext : Ext) (hne : px = true → ExtNoEmpty ext) : ∀ (b : B) (a : Arr), WFH b → ShapeOK b → PlaceholderW px b → finish ext b = .ok a →
    Sound b
  | .null _ _ | .unknownVariant _ | .leaf _ _ _ _ | .bytes _ _ _ _ _ | .bytesView _ _ _ _ _ =>
    fun _ _ _ _ _ => by simp only [Sound]
  | .fixedSizeBinary _ n _ _ _ _ => fun _ _ ho _ _ => by
    simp only [ShapeOK] at ho
    simp only [Sound]
    intro h; exact absurd h ho
  | .list _ _ _ _ _ el => fun a hw ho hp h => by
    simp only [ShapeOK] at ho; simp only [PlaceholderW] at hp; simp only [Sound]
    obtain ⟨ela, he, _⟩ := finish_list_inv h
    exact Sound_of_finishH ext hne el ela (WFH_list hw).2.2 ho hp he
  | .fixedSizeList _ _ _ _ _ _ el => fun a hw ho hp h => by
    simp only [ShapeOK] at ho; simp only [PlaceholderW] at hp; simp only [Sound]
    obtain ⟨ela, he, _⟩ := finish_fixedSizeList_inv h
    exact Sound_of_finishH ext hne el ela (WFH_fixedSizeList hw).2.2 ho hp he
  | .map _ _ _ _ ks vs => fun a hw ho hp h => by
    simp only [ShapeOK] at ho; simp only [PlaceholderW] at hp; simp only [Sound]
    obtain ⟨ka, va, hek, hev, _⟩ := finish_map_inv h
    exact ⟨Sound_of_finishH ext hne ks ka (WFH_map hw).2.2.2.1 ho.1 hp.1 hek,
      Sound_of_finishH ext hne vs va (WFH_map hw).2.2.2.2 ho.2 hp.2 hev⟩
  | .struct _ len _ fs _ _ _ => fun a hw ho hp h => by
    simp only [ShapeOK] at ho; simp only [PlaceholderW] at hp; simp only [Sound]
    obtain ⟨afs, he, _⟩ := finish_struct_inv h
    exact SoundL_of_finishFieldsH ext hne fs afs (WFHL_WFHs fs len (WFH_struct hw).2) ho hp he
  | .dictionary _ idx vals index => fun a hw ho hp h => by
    simp only [ShapeOK] at ho; simp only [PlaceholderW] at hp; simp only [Sound]
    obtain ⟨ka, va, _, hev, hcase⟩ := finish_dictionary_inv h
    refine ⟨intLeaf_Sound idx ho.1, Sound_of_finishH ext hne vals va (WFH_dictionary hw).2.1 ho.2 hp.2.2 hev,
      Sound_keys_of_WFH hw ho.1 (fun hnp => ?_)⟩
    -- the placeholder branch of `into_array` ran and its `serialize_str("")` succeeded
    have hnn : idx.isNullable = false := by
      simp only [needsPlaceholder, Bool.and_eq_true, Bool.not_eq_true'] at hnp; exact hnp.1.1
    rcases hcase with ⟨_, ⟨v', hps⟩, _⟩ | ⟨hnp', _⟩
    · rcases hp.1 hnn with hne' | hr | ⟨hpx, hr⟩
      · exact hne'
      · exact (pushScalar_refusesStr ext hr hps).elim
      · exact (pushScalar_parsesStr_empty ext (hne hpx) hr hps).elim
    · rw [hnp] at hnp'; cases hnp'
  | .union _ fs _ _ cur => fun a hw ho hp h => by
    simp only [ShapeOK] at ho; simp only [PlaceholderW] at hp; simp only [Sound]
    obtain ⟨afs, he, _⟩ := finish_union_inv h
    exact SoundL_of_finishUFieldsH ext hne fs 0 afs (WFHU_WFHs fs cur (WFH_union hw).2.1) ho hp he
theorem SoundL_of_finishFieldsH (ext : Ext) (hne : px = true → ExtNoEmpty ext) : ∀ (fs : BL) (afs : ArrFields), WFHs fs → ShapeOKL fs → PlaceholderWL px fs →
    finishFields ext fs = .ok afs → SoundL fs
  | .nil => fun _ _ _ _ _ => trivial
  | .cons b _ r => fun afs hw ho hp h => by
    simp only [ShapeOKL] at ho; simp only [PlaceholderWL] at hp
    obtain ⟨a, ar, hb, hr, _⟩ := finishFields_cons_inv h
    exact ⟨Sound_of_finishH ext hne b a hw.1 ho.1 hp.1 hb, SoundL_of_finishFieldsH ext hne r ar hw.2 ho.2 hp.2 hr⟩
theorem SoundL_of_finishUFieldsH (ext : Ext) (hne : px = true → ExtNoEmpty ext) : ∀ (fs : BL) (k : Nat) (afs : ArrUFields), WFHs fs → ShapeOKL fs →
    PlaceholderWL px fs → finishUFields ext fs k = .ok afs → SoundL fs
  | .nil => fun _ _ _ _ _ _ => trivial
  | .cons b _ r => fun k afs hw ho hp h => by
    simp only [ShapeOKL] at ho; simp only [PlaceholderWL] at hp
    obtain ⟨a, ar, hb, hr, _⟩ := finishUFields_cons_inv h
    exact ⟨Sound_of_finishH ext hne b a hw.1 ho.1 hp.1 hb,
      SoundL_of_finishUFieldsH ext hne r (k + 1) ar hw.2 ho.2 hp.2 hr⟩
end

/-- value types of a dictionary whose builder accepts `serialize_str` WITHOUT storing the string: the parsing leaf builders
and a nested dictionary.  For these the placeholder `serialize_str("")` of `into_array` neither certainly fails nor appends
an empty string — the physical layer covers the parsing ones only under `ExtNoEmpty` (`px`), the nested dictionary never. -/
def dictValParsed : DataType → Bool
  | .date32 | .date64 | .time32 _ | .time64 _ | .timestamp _ _ | .duration _ | .decimal128 _ _ | .dictionary _ _ => true
  | _ => false

/-- the value types excluded at a dictionary: a nested Dictionary always; the parsed kinds unless `px` -/
def dictValExcl (px : Bool) (v : DataType) : Bool :=
  match v with
  | .dictionary _ _ => true
  | _ => !px && dictValParsed v

mutual
/-- data types covered by the physical layer (C03, and the physical half of C01): every dictionary with an integer key type
has a value type whose builder stores strings (Utf8, LargeUtf8, Utf8View) or refuses them or (`px`) parses them -/
def coveredP (px : Bool) : DataType → Bool
  | .dictionary k v => !isIntDT k || (!dictValExcl px v && coveredP px v)
  | .list f | .largeList f => coveredPF px f
  | .fixedSizeList f _ => coveredPF px f
  | .map f _ => coveredPF px f
  | .struct fs => coveredPFs px fs
  | .union ufs _ => coveredPU px ufs
  | _ => true
def coveredPF (px : Bool) : Field → Bool
  | .mk _ dt _ _ => coveredP px dt
def coveredPFs (px : Bool) : Fields → Bool
  | .nil => true
  | .cons f r => coveredPF px f && coveredPFs px r
def coveredPU (px : Bool) : UFields → Bool
  | .nil => true
  | .cons _ f r => coveredPF px f && coveredPU px r
end

theorem dictValExcl_of_open {v : DataType} (h : dictValOpen v = false) : dictValExcl px v = false := by
  cases v <;> first | exact Bool.and_false _ | cases h

mutual
theorem coveredP_of_coveredW : ∀ (dt : DataType), coveredW dt = true → coveredP px dt = true
  | .dictionary k v => fun h => by
    simp only [coveredW, Bool.or_eq_true, Bool.not_eq_true', Bool.and_eq_true] at h
    simp only [coveredP, Bool.or_eq_true, Bool.not_eq_true', Bool.and_eq_true]
    rcases h with h | h
    · exact Or.inl h
    · exact Or.inr ⟨dictValExcl_of_open h.1, coveredP_of_coveredW v h.2⟩
  | .list f => fun h => by simp only [coveredW] at h; simp only [coveredP]; exact coveredPF_of_coveredWF f h
  | .largeList f => fun h => by simp only [coveredW] at h; simp only [coveredP]; exact coveredPF_of_coveredWF f h
  | .fixedSizeList f _ => fun h => by simp only [coveredW] at h; simp only [coveredP]; exact coveredPF_of_coveredWF f h
  | .map f _ => fun h => by simp only [coveredW] at h; simp only [coveredP]; exact coveredPF_of_coveredWF f h
  | .struct fs => fun h => by simp only [coveredW] at h; simp only [coveredP]; exact coveredPFs_of_coveredWFs fs h
  | .union ufs _ => fun h => by simp only [coveredW] at h; simp only [coveredP]; exact coveredPU_of_coveredWU ufs h
  | .null | .boolean | .int8 | .int16 | .int32 | .int64 | .uint8 | .uint16 | .uint32
  | .uint64 | .float16 | .float32 | .float64 | .utf8 | .largeUtf8 | .utf8View | .binary
  | .largeBinary | .binaryView | .fixedSizeBinary _ | .date32 | .date64 | .timestamp _ _
  | .time32 _ | .time64 _ | .duration _ | .interval _ | .decimal128 _ _ | .runEndEncoded _ _ => fun _ => rfl
theorem coveredPF_of_coveredWF : ∀ (f : Field), coveredWF f = true → coveredPF px f = true
  | .mk _ dt _ _ => fun h => by simp only [coveredWF] at h; simp only [coveredPF]; exact coveredP_of_coveredW dt h
theorem coveredPFs_of_coveredWFs : ∀ (fs : Fields), coveredWFs fs = true → coveredPFs px fs = true
  | .nil => fun _ => rfl
  | .cons f r => fun h => by
    simp only [coveredWFs, Bool.and_eq_true] at h
    simp only [coveredPFs, Bool.and_eq_true]
    exact ⟨coveredPF_of_coveredWF f h.1, coveredPFs_of_coveredWFs r h.2⟩
theorem coveredPU_of_coveredWU : ∀ (ufs : UFields), coveredWU ufs = true → coveredPU px ufs = true
  | .nil => fun _ => rfl
  | .cons _ f r => fun h => by
    simp only [coveredWU, Bool.and_eq_true] at h
    simp only [coveredPU, Bool.and_eq_true]
    exact ⟨coveredPF_of_coveredWF f h.1, coveredPU_of_coveredWU r h.2⟩
end

theorem all_coveredPF_of_coveredWF {fields : List Field} (h : fields.all coveredWF = true) :
    fields.all (coveredPF px) = true := by
  simp only [List.all_eq_true] at h ⊢
  exact fun f hf => coveredPF_of_coveredWF f (h f hf)

theorem all_coveredPF_of_coveredF {fields : List Field} (h : fields.all coveredF = true) :
    fields.all (coveredPF px) = true :=
  all_coveredPF_of_coveredWF (all_coveredWF_of_coveredF h)

theorem coveredPF_iff (f : Field) : coveredPF px f = coveredP px f.dataType := by
  cases f; simp only [coveredPF, Field.dataType]

theorem coveredPFs_ofList : ∀ (fields : List Field), coveredPFs px (Fields.ofList fields) = fields.all (coveredPF px) :=
  Fields.all_ofList_eq rfl fun _ _ => rfl

/-- the (non-nullable) value builder of a value type outside `dictValExcl` has a placeholder row, or refuses strings, or
(`px`) parses them -/
theorem dictVal_builtFor (b : B) (vdt : DataType) (hv : dictValExcl px vdt = false) (hb : BuiltFor vdt false b) :
    placeholderVals b ≠ [] ∨ b.refusesStr = true ∨ (px = true ∧ parsesStr b = true) := by
  cases b with
  | null p len | unknownVariant p => exact Or.inr (Or.inl rfl)
  | leaf p kind v vals =>
    simp only [BuiltFor] at hb
    obtain ⟨rfl, _⟩ := hb
    right
    cases px with
    | false => left; cases kind <;> first | rfl | (simp [leafDT, dictValExcl, dictValParsed] at hv)
    | true =>
      cases kind with
      | bool | int _ | f16 | f32 | f64 => exact Or.inl rfl
      | _ => exact Or.inr ⟨rfl, rfl⟩
  | bytes p ty v offs data =>
    simp only [BuiltFor] at hb
    obtain ⟨_, hn⟩ := hb
    cases v with
    | some bits => cases hn
    | none =>
      cases ty
      · exact Or.inl (by simp [placeholderVals])
      · exact Or.inl (by simp [placeholderVals])
      · exact Or.inr (Or.inl rfl)
      · exact Or.inr (Or.inl rfl)
  | bytesView p ty v views buf =>
    simp only [BuiltFor] at hb
    obtain ⟨_, hn⟩ := hb
    cases v with
    | some bits => cases hn
    | none =>
      cases ty
      · exact Or.inl (by simp [placeholderVals])
      · exact Or.inr (Or.inl rfl)
  | fixedSizeBinary p n len v buf cur | list p large fm v offs el | fixedSizeList p fm n len v cur el
  | map p mm v offs ks vs | struct p len v fs c n s => exact Or.inr (Or.inl rfl)
  | dictionary p idx vals index =>
    simp only [BuiltFor] at hb; obtain ⟨_, _, rfl, _⟩ := hb; simp [dictValExcl] at hv
  | union p fs t o c => exact Or.inr (Or.inl rfl)

theorem intLeaf_PlaceholderW (idx : B) (h : isIntLeaf idx = true) : PlaceholderW px idx := by
  cases idx with
  | leaf p kind v vals => simp only [PlaceholderW]
  | _ => simp [isIntLeaf] at h

theorem PlaceholderW_cases : BuiltForCases (fun dt _ b => coveredP px dt = true → PlaceholderW px b)
    (fun fs bl => coveredPFs px fs = true → PlaceholderWL px bl)
    (fun ufs bl _ => coveredPU px ufs = true → PlaceholderWL px bl) where
  null _ := trivial
  unknownVariant _ := trivial
  leaf _ := trivial
  bytes _ := trivial
  bytesView _ := trivial
  fixedSizeBinary _ := trivial
  list _ ih hc := ih hc
  largeList _ ih hc := ih hc
  fixedSizeList _ ih hc := ih hc
  map _ ihk _ ihv hc := by
    simp only [coveredP, coveredPF, coveredPFs, Bool.and_true, Bool.and_eq_true] at hc
    exact ⟨ihk hc.1, ihv hc.2⟩
  struct _ ih hc := ih hc
  dictionary hk hbi _ hbv ihv hc := by
    simp only [coveredP, hk, Bool.not_true, Bool.false_or, Bool.and_eq_true, Bool.not_eq_true'] at hc
    exact ⟨fun _ => dictVal_builtFor _ _ hc.1 hbv, intLeaf_PlaceholderW _ (isIntLeaf_of_builtFor _ _ _ hk hbi), ihv hc.2⟩
  union _ ih hc := ih hc
  nilL _ := trivial
  consL _ ih _ ihr hc := by
    simp only [coveredPFs, coveredPF, Bool.and_eq_true] at hc
    exact ⟨ih hc.1, ihr hc.2⟩
  nilU _ := trivial
  consU _ ih _ ihr hc := by
    simp only [coveredPU, coveredPF, Bool.and_eq_true] at hc
    exact ⟨ih hc.1, ihr hc.2⟩

/-- the builder of a `coveredP` data type is `PlaceholderW` -/
theorem BuiltFor_PlaceholderW : ∀ (b : B) (dt : DataType) (nl : Bool), BuiltFor dt nl b → coveredP px dt = true →
    PlaceholderW px b :=
  PlaceholderW_cases.builtFor

theorem BuiltForL_PlaceholderWL : ∀ (bl : BL) (fs : Fields), BuiltForL fs bl → coveredPFs px fs = true → PlaceholderWL px bl :=
  PlaceholderW_cases.builtForL

theorem BuiltForU_PlaceholderWL : ∀ (bl : BL) (ufs : UFields) (k : Nat), BuiltForU ufs bl k → coveredPU px ufs = true →
    PlaceholderWL px bl :=
  PlaceholderW_cases.builtForU

/-- every state of a run over a `coveredPF` schema is `PlaceholderW` -/
theorem runRows_PlaceholderW (ext : Ext) (fields : List Field) (rows : List SVal) (root : B)
    (hc : fields.all (coveredPF px) = true) (h : runRows ext fields rows = .ok root) : PlaceholderW px root :=
  BuiltFor_PlaceholderW root _ _ (runRows_builtFor ext fields rows root (Build.push_takeRest ext) h) (by
    simp only [coveredP]; rw [coveredPFs_ofList]; exact hc)

/-- `root_factsH` with `coveredPF` and the success of `build_arrays` in place of `PlaceholderOK` -/
theorem root_factsW (ext : Ext) (hne : px = true → ExtNoEmpty ext) (fields : List Field) (rows : List SVal) (root : B) (out : List Arr × B)
    (hschema : ∀ f ∈ fields, SchemaOKF f) (hcov : fields.all (coveredPF px) = true) (hw : WFH root)
    (hrun : runRows ext fields rows = .ok root) (hba : buildArrays ext root = .ok out) :
    BuiltFor (.struct (Fields.ofList fields)) false root ∧ Sound root ∧ PX root := by
  have hb := runRows_builtFor ext fields rows root (Build.push_takeRest ext) hrun
  have hshape := BuiltFor_ShapeOK root _ _ hb (by
    simp only [SchemaOK]; exact Props.C03.SchemaOKFs_ofList fields hschema)
  have hp := runRows_PlaceholderW ext fields rows root hcov hrun
  refine ⟨hb, ?_, runRows_PX ext fields rows root hrun⟩
  cases root with
  | struct p len v fs cached next seen =>
    obtain ⟨afs, hf, _⟩ := R.bind_ok_inv hba
    simp only [ShapeOK] at hshape; simp only [PlaceholderW] at hp; simp only [Sound]
    exact SoundL_of_finishFieldsH ext hne fs afs (WFHL_WFHs fs len (WFH_struct hw).2) hshape hp hf
  | _ => cases hba

/-- **C03 without `Safe`, modulo the refinement, on `coveredPF`** (`C03_wf_of_WFH` with the wider schema predicate) -/
theorem C03_wf_of_WFHW (ext : Ext) (hne : px = true → ExtNoEmpty ext) (fields : List Field) (rows : List SVal) (arrs : List Arr)
    (hschema : ∀ f ∈ fields, SchemaOKF f)
    (hcov : fields.all (coveredPF px) = true)
    (hext : ExtOK ext)
    (hrows : ∀ x ∈ rows, SValOK x)
    (hwfh : ∀ root, runRows ext fields rows = .ok root → WFH root)
    (h : toMarrow ext fields rows = .ok arrs) :
    arrs.length = fields.length ∧
    ∃ n : Nat, ∀ (j : Nat) (f : Field) (a : Arr), fields[j]? = some f → arrs[j]? = some a →
      WFS f a = true ∧ (decodeAll a).length = n := by
  obtain ⟨root, hrun, rest, hba⟩ := Props.C03.toMarrow_split ext fields rows arrs h
  have hw := hwfh root hrun
  obtain ⟨hb, hs, _⟩ := root_factsW ext hne fields rows root _ hschema hcov hw hrun hba
  obtain ⟨hlen, hall⟩ := Props.C03.buildArrays_wf ext fields root _ hw hb hs
    (runRows_WFX ext hext fields rows root hrows hrun (WFH_small root hw)) hba
  exact ⟨hlen, _, hall⟩

/-- **the physical half of C01 without `Safe`, modulo the refinement, on `coveredPF`** -/
theorem toMarrow_decode_of_WFHW (ext : Ext) (hne : px = true → ExtNoEmpty ext) (fields : List Field) (rows : List SVal) (arrs : List Arr)
    (hschema : ∀ f ∈ fields, SchemaOKF f)
    (hcov : fields.all (coveredPF px) = true)
    (hwfh : ∀ root, runRows ext fields rows = .ok root → WFH root)
    (hdet : ∀ root, runRows ext fields rows = .ok root → ∀ c ∈ decHRoot root, ∀ r ∈ c, r.isSome = true)
    (h : toMarrow ext fields rows = .ok arrs) :
    ∃ root, runRows ext fields rows = .ok root ∧ arrs.map decodeAll = (decRoot root).map (·.map .ok) := by
  obtain ⟨root, hrun, rest, hba⟩ := Props.C03.toMarrow_split ext fields rows arrs h
  have hw := hwfh root hrun
  exact ⟨root, hrun, Props.C03.buildArrays_decode ext root _ hw
    (root_factsW ext hne fields rows root _ hschema hcov hw hrun hba).2.1 (hdet root hrun) hba⟩

end SaModel.Lemmas.C03
