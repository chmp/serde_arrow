import SaModel.Lemmas.C01ObsInterp
import SaModel.Lemmas.C01Seq
/-
C01 "hidden rows" — the row a container push appends, as a function of the rows its children received (`RowIs`,
`list_row`, `map_row`, `struct_row`: a record row is the specified struct value, for any collection discipline).
-/
namespace SaModel.Build
open SaModel SaModel.Spec
open SaModel.Lemmas.C03 (ViewSmall ViewSmallL)

theorem ExtLH.unique : ∀ (fs0 fs : BL) (a1 a2 : List (List LVal)),
    ExtLH fs0 fs (a1.map (·.map some)) → ExtLH fs0 fs (a2.map (·.map some)) → a1 = a2
  | .nil, .nil, [], [], _, _ => rfl
  | .cons b0 m0 r0, .cons b m r, a :: as, a' :: as', h1, h2 => by
    simp only [List.map_cons, ExtLH] at h1 h2
    have := rows_uniqueH h1.2.2.1 h2.2.2.1
    rw [this, ExtLH.unique r0 r as as' h1.2.2.2 h2.2.2.2]
  | .nil, .nil, [], _ :: _, _, h => by simp [ExtLH] at h
  | .nil, .nil, _ :: _, _, h, _ => by simp [ExtLH] at h
  | .cons _ _ _, .cons _ _ _, [], _, h, _ => by simp [ExtLH] at h
  | .cons _ _ _, .cons _ _ _, _ :: _, [], _, h => by simp [ExtLH] at h
  | .nil, .cons _ _ _, a1, _, h, _ => by cases a1 <;> simp [ExtLH] at h
  | .cons _ _ _, .nil, a1, _, h, _ => by cases a1 <;> simp [ExtLH] at h

theorem MidH.unique {fs0 : BL} {s : SS} {a1 a2 : List (List LVal)} (h1 : MidH fs0 s a1) (h2 : MidH fs0 s a2) : a1 = a2 :=
  ExtLH.unique _ _ _ _ h1.ext h2.ext

/-- `b'` is `b` with the determined row `lv` appended -/
def RowIs (b b' : B) (lv : LVal) : Prop := WFH b' ∧ Refines (decH b') (decH b ++ [some lv])

theorem RowIs.of_flat {b b' : B} {lv : LVal} (hf : b.isFlat = true) (hf' : b'.isFlat = true) (hw : WFB b')
    (hd : dec b' = dec b ++ [lv]) : RowIs b b' lv := by
  refine ⟨WFH_of_WFB _ hw, ?_⟩
  rw [flat_decH hf', flat_decH hf, hd, List.map_append]
  exact Refines.refl _

theorem list_row {p large fm v offs el v' o1 el' o2} {ls : List LVal} (hwf : WFH (.list p large fm v offs el))
    (h1 : setValidity v (offs.length - 1) true = .ok v') (h2 : duplicateLast offs = .ok o1) (hel : WFH el')
    (hdec : Refines (decH el') (decH el ++ ls.map some))
    (ho : ∀ base l, o1 = base ++ [l] → o2 = base ++ [l + (ls.length : Int)]) :
    RowIs (.list p large fm v offs el) (.list p large fm v' o2 el') (.list (LVals.ofList ls)) := by
  have hw' := hwf
  simp only [WFH] at hw'
  obtain ⟨rfl, _⟩ := setValidity_ok hw'.2.1 h1
  obtain ⟨l, hl, rfl⟩ := duplicateLast_ok h2
  rw [hw'.1.2.1] at hl; cases hl
  obtain rfl := ho _ _ rfl
  have := list_stepH hwf true ls hel hdec
  rwa [rowOf_true] at this

theorem map_row {p mm v offs ks vs v' o1 o2 ks' vs'} {lk lw : List LVal} (hwf : WFH (.map p mm v offs ks vs))
    (h1 : setValidity v (offs.length - 1) true = .ok v') (h2 : duplicateLast offs = .ok o1) (hks : WFH ks') (hvs : WFH vs')
    (hdk : Refines (decH ks') (decH ks ++ lk.map some)) (hdv : Refines (decH vs') (decH vs ++ lw.map some))
    (hlen : lw.length = lk.length) (ho : ∀ base l, o1 = base ++ [l] → o2 = base ++ [l + (lk.length : Int)]) :
    RowIs (.map p mm v offs ks vs) (.map p mm v' o2 ks' vs') (.map (LEntries.ofList (lk.zip lw))) := by
  have hw' := hwf
  simp only [WFH] at hw'
  obtain ⟨rfl, _⟩ := setValidity_ok hw'.2.2.1 h1
  obtain ⟨l, hl, rfl⟩ := duplicateLast_ok h2
  rw [hw'.1.2.1] at hl; cases hl
  obtain rfl := ho _ _ rfl
  have := map_stepH hwf true lk lw hks hvs hdk hdv hlen
  rwa [rowOf_true] at this

/-- a struct row: the record its children hold after `end`, and the struct value it is once the loop's additions are known
to be what `collect` gathers -/
theorem struct_row {s s1 s2 s3 : SS} {adds2 : List (List LVal)} (hwf : WFH s.toB) (h1 : s.start = .ok s1)
    (hf1 : s1.fields = s.fields) (hm2 : MidH s.fields s2 adds2) (hsame : Same s2 s1) (hskel : SSkel s2 s1)
    (h3 : s2.finishRow = .ok s3) :
    ∃ lv, RowIs s.toB s3.toB lv ∧ ∀ (sfs : Fields) (collect : Field → R (List LVal)), ShapeL s.fields sfs →
      (∀ j f, sfs.toList[j]? = some f → ∃ found, collect f = .ok found ∧
        adds2.getD j [] = (List.replicate s.fields.length []).getD j [] ++ found) →
      structOf sfs.toList collect = .ok lv := by
  obtain ⟨adds3, hl3, hrel, hb', hrow⟩ := row_rowsH h1 hm2 hsame h3 hwf
  refine ⟨_, ⟨hb', hrow⟩, fun sfs collect hsl hcol => ?_⟩
  have hsl2 : ShapeL s2.fields sfs := ShapeL.of_takeRest (by rw [hskel.2.2.1, hf1]) hsl
  refine structOf_of_rows collect hsl hsl2 hl3 hm2.flags (by have := hm2.adds_length; omega) hrel fun j f hj => ?_
  obtain ⟨found, hc, ha⟩ := hcol j f hj
  rw [getD_replicate_nil, List.nil_append] at ha
  exact ⟨found, hc, ha⟩

end SaModel.Build
