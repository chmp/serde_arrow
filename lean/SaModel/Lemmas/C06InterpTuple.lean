import SaModel.Lemmas.C06InterpBase
import SaModel.Lemmas.C06InterpTupleA
/-
C06, closure, tracer ⇒ documented mapping: tuples and tuple structs.

`tupleBody_ok`: the positional record mapping (`structOf … interpNth …`) at the fields `Tracers.to_fields` builds from a
tuple node whose positions are named after their index is defined as soon as the mapping of every item is defined at
its position and every position beyond the sample is nullable and not a Union.  `mapped_tuple`, `mapped_tupleStruct`.
-/
namespace SaModel.Lemmas.C06
open SaModel SaModel.Spec SaModel.Build SaModel.Trace

theorem tupleBody_ok {o : Options} {ext : Ext} (h0 : o.overwrites = []) {ts : Tracers} {flds : List Field}
    (items : SVals) (hf : ts.to_fields o = .ok flds) (hn : TNT 0 ts)
    (hlt : ∀ i c v, ts.get? i = some c → items.toList[i]? = some v → ∀ g, c.to_field o = .ok g →
      hits (exclAny ext) g.dataType v = false → IOk ext g v)
    (hge : ∀ i c, ts.get? i = some c → items.length ≤ i → c.nullable = true)
    (hex : (flds.any fun f =>
      hitsNth (exclAny ext) f.dataType ((indexOfName (flds.map Field.name) f.name).getD 0) items) = false) :
    ∃ lv, structOf flds (fun g => interpNth ext g.dataType g.nullable g.metadata
      ((indexOfName (flds.map Field.name) g.name).getD 0) items) = .ok lv := by
  apply structOf_ok
  intro g hgm
  obtain ⟨hl, hget⟩ := to_fields_get ts flds hf
  have hnames := tuple_fields_names h0 hf hn
  obtain ⟨i, hi, hgi⟩ := List.getElem_of_mem hgm
  obtain ⟨c, hc⟩ := Tracers.get?_of_lt (show i < ts.length by omega)
  obtain ⟨g', hg1, hg2⟩ := hget i c hc
  have hgg : g' = g := by
    have := List.getElem?_eq_getElem hi
    rw [hg1, hgi] at this; exact Option.some.inj this
  subst hgg
  have hname : g'.name = toString i := by
    have := hnames i (by rw [List.length_map]; exact hi)
    rw [List.getElem_map, hgi] at this; exact this
  have hidx : (indexOfName (flds.map Field.name) g'.name).getD 0 = i := by
    rw [hname, indexOfName_toString _ hnames i (by rw [List.length_map]; exact hi)]; rfl
  have hexg := List.any_eq_false.mp hex g' hgm
  simp only [Bool.not_eq_true] at hexg
  rw [hidx] at hexg ⊢
  cases hv : items.toList[i]? with
  | some v =>
    rw [hitsNth_some _ _ items i v hv] at hexg
    obtain ⟨lv, hlv⟩ := hlt i c v hc hv g' hg2 hexg
    refine ⟨[lv], lv, ?_, rfl⟩
    rw [interpNth_some ext _ _ _ items i v hv, hlv]; rfl
  | none =>
    have hle : items.length ≤ i := by
      have := List.getElem?_eq_none_iff.mp hv
      rw [SVals.length_toList] at this; exact this
    rw [hitsNth_none _ _ items i hle] at hexg
    have hcn := hge i c hc hle
    have hgn := to_field_nullable h0 hg2 hcn
    have hu : isUnionDT g'.dataType = false := by
      simpa [exclAny, nullAtEnum, dateLookalike, u64AboveI64, dataLessNewtype] using hexg
    refine ⟨[], .null, interpNth_none ext _ _ _ items i hle, ?_⟩
    simp only [pickOne, hgn, Bool.not_true, Bool.false_eq_true, if_false]
    have := interpNull_of_nullable h0 hg2 hcn hu
    rw [hgn] at this; exact this

theorem mapped_tuple (o : Options) (ext : Ext) (h0 : o.overwrites = []) (items : SVals)
    (ih : ∀ v ∈ items.toList, Mapped o ext v) : Mapped o ext (.tuple items) := by
  intro t2 h hinv f hf hok hex
  obtain ⟨_, n, p, nl2, tsC, rfl, hwas, hnull⟩ : Later .fixed o (.tuple items.toList) t2 := was_later h
  have htn : TNT 0 tsC := by have := hinv.2; simpa only [TN] using this
  obtain ⟨flds, hflds, rfl⟩ := to_field_node h0 hf
  simp only [sampleOK] at hok
  simp only [Field.dataType, hits, Fields.toList_ofList] at hex
  have := tupleBody_ok (ext := ext) h0 items hflds htn ?_ ?_ hex
  · obtain ⟨lv, hlv⟩ := this
    refine ⟨lv, ?_⟩
    simp only [Field.dataType, Field.nullable, Field.metadata]
    simp only [interpDT]
    simp only [isUnknownVariant, Bool.false_eq_true, if_false, Fields.toList_ofList]
    exact hlv
  · intro i c v hci hv g hg hexv
    obtain ⟨ft, hft, hw⟩ := hwas i v hv
    rw [hci] at hft; cases hft
    have hv' := List.mem_of_getElem? hv
    exact ih v hv' c hw (Inv_tuple_get hinv hci) g hg (samplesOK_mem _ items hok v hv') hexv
  · have := hnull rfl
    rw [SVals.length_toList] at this
    exact this

theorem mapped_tupleStruct (o : Options) (ext : Ext) (h0 : o.overwrites = []) (n : String) (items : SVals)
    (ih : ∀ v ∈ items.toList, Mapped o ext v) : Mapped o ext (.tupleStruct n items) := by
  intro t2 h hinv f hf hok hex
  have h' : Was .fixed o (.tuple items) t2 := by
    obtain ⟨a, b, hw, ha, hs⟩ := h
    exact ⟨a, b, hw, by rw [← absorb_tupleStruct]; exact ha, hs⟩
  obtain ⟨lv, hlv⟩ := mapped_tuple o ext h0 items ih t2 h' hinv f hf
    (by simpa only [sampleOK] using hok) (by simpa only [hits] using hex)
  exact ⟨lv, by simp only [interpDT] at hlv ⊢; exact hlv⟩

end SaModel.Lemmas.C06
