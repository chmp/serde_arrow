import SaModel.Lemmas.C08Walk
/-
C08 — the COMPLETE tracer of a type description (`done`): the tree the exploration of `from_type` ends with, written
down directly from the type.  Proved here, for every type (enums included): it is complete (`done_complete`) and its
paths are the documented paths (`done_paths`); that its `to_field` is the documented mapping is `done_to_field`
(SaModel/Lemmas/C08DoneField.lean).
-/
namespace SaModel.Lemmas.C08
open SaModel SaModel.Trace SaModel.Trace.Spec

/-- both succeed with the same value, or both fail with a (Rust) error; messages are not compared, a panic never agrees -/
def Agree {α} (a b : R α) : Prop :=
  match a, b with
  | .ok x, .ok y => x = y
  | .error (.err _), .error (.err _) => True
  | _, _ => False

theorem Agree.ok {α} (x : α) : Agree (.ok x : R α) (.ok x) := rfl

theorem Agree.fail {α} (m m' : String) : Agree (fail m : R α) (fail m') := trivial

theorem Agree.bind {α β} {a b : R α} {f g : α → R β} (h : Agree a b) (hf : ∀ x, Agree (f x) (g x)) :
    Agree (a >>= f) (b >>= g) := by
  unfold Agree at h
  split at h
  · cases h; exact hf _
  · trivial
  · exact h.elim

theorem Agree.of_eq {α} {a b : R α} (x : α) (ha : a = .ok x) (hb : b = .ok x) : Agree a b := by
  rw [ha, hb]; rfl

theorem childPath_element (p : String) : p ++ ".element" = childPath p "element" := by
  simp [childPath, String.append_assoc]

theorem childPath_key (p : String) : p ++ ".key" = childPath p "key" := by
  simp [childPath, String.append_assoc]

theorem childPath_value (p : String) : p ++ ".value" = childPath p "value" := by
  simp [childPath, String.append_assoc]

theorem get_overwrite_eq (o : Options) (p : String) :
    o.get_overwrite p = (o.overwrites.find? (fun kv => kv.1 = p)).map (·.2) := by
  unfold Options.get_overwrite
  have : (fun kv : String × Field => kv.1 == p) = (fun kv => decide (kv.1 = p)) := by
    funext kv; rfl
  rw [this]
  cases o.overwrites.find? (fun kv => decide (kv.1 = p)) <;> rfl

/-- the overwrite lookup of the tracer and of the documented mapping are the same rule -/
theorem Agree.overwrite (o : Options) (n p : String) {k k' : Unit → R Field} (h : Agree (k ()) (k' ())) :
    Agree (withOverwrite o n p k) (overwritten o n p k') := by
  unfold withOverwrite overwritten
  rw [get_overwrite_eq]
  cases hf : o.overwrites.find? (fun kv => kv.1 = p) with
  | none => exact h
  | some kv =>
    obtain ⟨key, f⟩ := kv
    simp only [Option.map]
    by_cases hn : f.name = n
    · simp [hn, Agree]
    · simp [hn, Agree, SaModel.fail]

mutual
def done (o : Options) (n p : String) (nl : Bool) : Ty → Tracer
  | .unit => .primitive n p true .null none
  | .unitStruct _ => .primitive n p true .null none
  | .bool => .primitive n p nl .boolean none
  | .int t => .primitive n p nl (intDataType t) none
  | .f32 => .primitive n p nl .float32 none
  | .f64 => .primitive n p nl .float64 none
  | .char => .primitive n p nl .uint32 none
  | .string => .primitive n p nl o.string_type none
  | .bytes => .primitive n p nl .largeBinary none
  | .option t => done o n p true t
  | .newtypeStruct _ t => done o n p nl t
  | .vec t => .list n p nl (done o "element" (childPath p "element") false t)
  | .tuple ts => .tuple n p nl (doneTys o p 0 ts)
  | .tupleStruct _ ts => .tuple n p nl (doneTys o p 0 ts)
  | .map k v => .map n p nl (done o "key" (childPath p "key") false k) (done o "value" (childPath p "value") false v)
  | .struct _ fs => .struct n p nl (doneFields o p fs) .struct 0
  | .enum _ vs => .union n p nl (doneVariants o p vs)
def doneTys (o : Options) (p : String) : Nat → Tys → Tracers
  | _, .nil => .nil
  | i, .cons t r => .cons (done o (toString i) (childPath p (toString i)) false t) (doneTys o p (i + 1) r)
def doneFields (o : Options) (p : String) : TyFields → TFields
  | .nil => .nil
  | .cons n t r => .cons n 0 (done o n (childPath p n) false t) (doneFields o p r)
def doneVariants (o : Options) (p : String) : TyVariants → Variants
  | .nil => .nil
  | .unit n r => .present n (.primitive n (childPath p n) true .null none) (doneVariants o p r)
  | .newtype n t r => .present n (done o n (childPath p n) false t) (doneVariants o p r)
  | .tuple n ts r =>
    .present n (.tuple n (childPath p n) false (doneTys o (childPath p n) 0 ts)) (doneVariants o p r)
  | .struct n fs r =>
    .present n (.struct n (childPath p n) false (doneFields o (childPath p n) fs) .struct 0) (doneVariants o p r)
end

namespace VHead

theorem done_eq {vs r : TyVariants} {n : String} {T : Ty} (h : VHead vs n T r) (o : Options) (p : String) :
    doneVariants o p vs = .present n (done o n (childPath p n) false T) (doneVariants o p r) := by
  cases h <;> simp only [doneVariants, done]

end VHead

mutual
theorem done_complete (o : Options) : ∀ (ty : Ty) (n p : String) (nl : Bool), (done o n p nl ty).is_complete = true
  | .unit | .unitStruct _ | .bool | .int _ | .f32 | .f64 | .char | .string | .bytes => by
    intro _ _ _
    simp only [done, Tracer.is_complete]
  | .option t => by intro n p _; simp only [done]; exact done_complete o t n p true
  | .newtypeStruct _ t => by intro n p nl; simp only [done]; exact done_complete o t n p nl
  | .vec t => by intro _ _ _; simp only [done, Tracer.is_complete]; exact done_complete o t _ _ _
  | .tuple ts => by intro _ p _; simp only [done, Tracer.is_complete]; exact doneTys_complete o ts p 0
  | .tupleStruct _ ts => by intro _ p _; simp only [done, Tracer.is_complete]; exact doneTys_complete o ts p 0
  | .map k v => by
    intro _ _ _
    simp only [done, Tracer.is_complete, done_complete o k, done_complete o v, Bool.and_self]
  | .struct _ fs => by intro _ p _; simp only [done, Tracer.is_complete]; exact doneFields_complete o fs p
  | .enum _ vs => by intro _ p _; simp only [done, Tracer.is_complete]; exact doneVariants_complete o vs p
theorem doneTys_complete (o : Options) : ∀ (ts : Tys) (p : String) (i : Nat), (doneTys o p i ts).all_complete = true
  | .nil, _, _ => by simp only [doneTys, Tracers.all_complete]
  | .cons t r, p, i => by
    simp only [doneTys, Tracers.all_complete, done_complete o t, doneTys_complete o r, Bool.and_self]
theorem doneFields_complete (o : Options) : ∀ (fs : TyFields) (p : String), (doneFields o p fs).all_complete = true
  | .nil, _ => by simp only [doneFields, TFields.all_complete]
  | .cons _ t r, p => by
    simp only [doneFields, TFields.all_complete, done_complete o t, doneFields_complete o r, Bool.and_self]
theorem doneVariants_complete (o : Options) : ∀ (vs : TyVariants) (p : String),
    (doneVariants o p vs).all_complete = true
  | .nil, _ => by simp only [doneVariants, Variants.all_complete]
  | .unit _ r, p => by
    simp only [doneVariants, Variants.all_complete, Tracer.is_complete, doneVariants_complete o r, Bool.and_self]
  | .newtype _ t r, p => by
    simp only [doneVariants, Variants.all_complete, done_complete o t, doneVariants_complete o r, Bool.and_self]
  | .tuple _ ts r, p => by
    simp only [doneVariants, Variants.all_complete, Tracer.is_complete, doneTys_complete o ts,
      doneVariants_complete o r, Bool.and_self]
  | .struct _ fs r, p => by
    simp only [doneVariants, Variants.all_complete, Tracer.is_complete, doneFields_complete o fs,
      doneVariants_complete o r, Bool.and_self]
end

mutual
theorem done_paths (o : Options) : ∀ (ty : Ty) (n p : String) (nl : Bool),
    (done o n p nl ty).collect_paths = tyPaths p ty
  | .unit | .unitStruct _ | .bool | .int _ | .f32 | .f64 | .char | .string | .bytes => by
    intro _ _ _
    simp only [done, Tracer.collect_paths, tyPaths]
  | .option t => by intro n p _; simp only [done, tyPaths]; exact done_paths o t n p true
  | .newtypeStruct _ t => by intro n p nl; simp only [done, tyPaths]; exact done_paths o t n p nl
  | .vec t => by intro _ _ _; simp only [done, Tracer.collect_paths, tyPaths, done_paths o t]
  | .tuple ts => by intro _ p _; simp only [done, Tracer.collect_paths, tyPaths, doneTys_paths o ts]
  | .tupleStruct _ ts => by intro _ p _; simp only [done, Tracer.collect_paths, tyPaths, doneTys_paths o ts]
  | .map k v => by intro _ _ _; simp only [done, Tracer.collect_paths, tyPaths, done_paths o k, done_paths o v]
  | .struct _ fs => by intro _ p _; simp only [done, Tracer.collect_paths, tyPaths, doneFields_paths o fs]
  | .enum _ vs => by intro _ p _; simp only [done, Tracer.collect_paths, tyPaths, doneVariants_paths o vs]
theorem doneTys_paths (o : Options) : ∀ (ts : Tys) (p : String) (i : Nat),
    (doneTys o p i ts).collect_paths = tyPathsTys p i ts
  | .nil, _, _ => by simp only [doneTys, Tracers.collect_paths, tyPathsTys]
  | .cons t r, p, i => by
    simp only [doneTys, Tracers.collect_paths, tyPathsTys, done_paths o t, doneTys_paths o r]
theorem doneFields_paths (o : Options) : ∀ (fs : TyFields) (p : String),
    (doneFields o p fs).collect_paths = tyPathsFields p fs
  | .nil, _ => by simp only [doneFields, TFields.collect_paths, tyPathsFields]
  | .cons _ t r, p => by
    simp only [doneFields, TFields.collect_paths, tyPathsFields, done_paths o t, doneFields_paths o r]
theorem doneVariants_paths (o : Options) : ∀ (vs : TyVariants) (p : String),
    (doneVariants o p vs).collect_paths = tyPathsVariants p vs
  | .nil, _ => by simp only [doneVariants, Variants.collect_paths, tyPathsVariants]
  | .unit _ r, p => by
    simp only [doneVariants, Variants.collect_paths, Tracer.collect_paths, tyPathsVariants,
      doneVariants_paths o r, List.cons_append, List.nil_append]
  | .newtype _ t r, p => by
    simp only [doneVariants, Variants.collect_paths, tyPathsVariants, done_paths o t, doneVariants_paths o r]
  | .tuple _ ts r, p => by
    simp only [doneVariants, Variants.collect_paths, Tracer.collect_paths, tyPathsVariants, doneTys_paths o ts,
      doneVariants_paths o r]
  | .struct _ fs r, p => by
    simp only [doneVariants, Variants.collect_paths, Tracer.collect_paths, tyPathsVariants, doneFields_paths o fs,
      doneVariants_paths o r]
end

end SaModel.Lemmas.C08
