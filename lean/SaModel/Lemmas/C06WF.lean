import SaModel.Lemmas.C06Every
import SaModel.Lemmas.C06Erase
/-
C06: the reachable-state invariant `WF o t` of the tracer and its preservation by `absorb`.

`WF o t`: every primitive node carries strategy `None` and a state of the leaf alphabet (`leafStates o`), and in every
struct node each field's `last_seen_in_sample` is below the node's `seen_samples` (true after `StructTracer::end`).
`Tracer::new` satisfies it and every successful `absorb` preserves it (`absorb_wf`), so it holds for every tracer
`from_samples` can reach.  It is `Every (wfNode o)`; what is proved here is that one `absorb` keeps `wfNode o` at the
node it is applied to: leaves step inside the alphabet (`step_facts`), a struct pass stamps its fields with the current
sample number and `end` raises `seen_samples` above it.
-/
namespace SaModel.Lemmas.C06
open SaModel SaModel.Trace SaModel.Lemmas.C07 SaModel.Props.C07

mutual
def WF (o : Options) : Tracer → Prop
  | .unknown _ _ _ => True
  | .primitive _ _ nl ty st => st = none ∧ (some ty, nl) ∈ leafStates o
  | .list _ _ _ i => WF o i
  | .map _ _ _ k v => WF o k ∧ WF o v
  | .struct _ _ _ fs _ s => WFF o s fs
  | .tuple _ _ _ ts => WFT o ts
  | .union _ _ _ vs => WFV o vs
def WFT (o : Options) : Tracers → Prop
  | .nil => True
  | .cons t r => WF o t ∧ WFT o r
def WFF (o : Options) (b : Nat) : TFields → Prop
  | .nil => True
  | .cons _ l t r => l < b ∧ WF o t ∧ WFF o b r
def WFV (o : Options) : Variants → Prop
  | .nil => True
  | .absent r => WFV o r
  | .present _ t r => WF o t ∧ WFV o r
end

theorem WF_new (o : Options) (n p : String) : WF o (Tracer.new n p) := by simp [Tracer.new, WF]

def wfNode (o : Options) : Tracer → Prop
  | .primitive _ _ nl ty st => st = none ∧ (some ty, nl) ∈ leafStates o
  | .struct _ _ _ fs _ s => ∀ i l, lastSeen? fs i = some l → l < s
  | _ => True

theorem lastSeen?_cons_lt (n : String) (l : Nat) (t : Tracer) (r : TFields) (b : Nat) :
    (∀ i l', lastSeen? (.cons n l t r) i = some l' → l' < b) ↔ l < b ∧ ∀ i l', lastSeen? r i = some l' → l' < b :=
  ⟨fun h => ⟨h 0 l rfl, fun i => h (i + 1)⟩, fun h i l' hl => by
    cases i with
    | zero => cases hl; exact h.1
    | succ i => exact h.2 i l' hl⟩

mutual
theorem WF_every (o : Options) : ∀ t : Tracer, WF o t ↔ Every (wfNode o) t
  | .unknown _ _ _ => by simp only [WF, Every, wfNode]
  | .primitive _ _ _ _ _ => by simp only [WF, Every, wfNode]
  | .list _ _ _ i => by simp only [WF, Every, wfNode, true_and, WF_every o i]
  | .map _ _ _ k v => by simp only [WF, Every, wfNode, true_and, WF_every o k, WF_every o v]
  | .struct _ _ _ fs _ s => by simp only [WF, Every, wfNode, WFF_every o s fs, and_comm]
  | .tuple _ _ _ ts => by simp only [WF, Every, wfNode, true_and, WFT_every o ts]
  | .union _ _ _ vs => by simp only [WF, Every, wfNode, true_and, WFV_every o vs]
theorem WFT_every (o : Options) : ∀ ts : Tracers, WFT o ts ↔ EveryT (wfNode o) ts
  | .nil => by simp only [WFT, EveryT]
  | .cons t r => by simp only [WFT, EveryT, WF_every o t, WFT_every o r]
theorem WFF_every (o : Options) (b : Nat) : ∀ fs : TFields,
    WFF o b fs ↔ EveryF (wfNode o) fs ∧ ∀ i l, lastSeen? fs i = some l → l < b
  | .nil => by simp [WFF, EveryF, lastSeen?]
  | .cons n l t r => by
    simp only [WFF, EveryF, WF_every o t, WFF_every o b r, lastSeen?_cons_lt]
    exact ⟨fun ⟨h1, h2, h3, h4⟩ => ⟨⟨h2, h3⟩, h1, h4⟩, fun ⟨⟨h2, h3⟩, h1, h4⟩ => ⟨h1, h2, h3, h4⟩⟩
theorem WFV_every (o : Options) : ∀ vs : Variants, WFV o vs ↔ EveryV (wfNode o) vs
  | .nil => by simp only [WFV, EveryV]
  | .absent r => by simp only [WFV, EveryV, WFV_every o r]
  | .present _ t r => by simp only [WFV, EveryV, WF_every o t, WFV_every o r]
end

theorem WF.node {o : Options} {t : Tracer} (h : WF o t) : wfNode o t := ((WF_every o t).mp h).node

theorem WFT_iff (o : Options) (ts : Tracers) : WFT o ts ↔ ∀ i t, ts.get? i = some t → WF o t := by
  simp only [WFT_every, EveryT_iff, WF_every]

theorem WFF_iff (o : Options) (b : Nat) (fs : TFields) :
    WFF o b fs ↔ (∀ i t, fs.get? i = some t → WF o t) ∧ (∀ i l, lastSeen? fs i = some l → l < b) := by
  simp only [WFF_every, EveryF_iff, WF_every]

theorem WFV_iff (o : Options) (vs : Variants) : WFV o vs ↔ ∀ i n t, vs.get? i = some (some (n, t)) → WF o t := by
  simp only [WFV_every, EveryV_iff, WF_every]

theorem WFF_mono (o : Options) {b b' : Nat} (hb : b ≤ b') {fs : TFields} (h : WFF o b fs) : WFF o b' fs := by
  rw [WFF_iff] at h ⊢
  exact ⟨h.1, fun i l hl => Nat.lt_of_lt_of_le (h.2 i l hl) hb⟩

/-- `leafStates` lists every type with both flags, except `Null` (nullable only) -/
theorem mark_mem (o : Options) {s : LeafSt} (hs : s ∈ leafStates o) : mark s ∈ leafStates o := by
  obtain ⟨ty, nl⟩ := s
  simp only [leafStates, mark, List.mem_append, List.mem_cons, List.mem_flatMap, List.not_mem_nil, or_false,
    Prod.mk.injEq] at hs ⊢
  rcases hs with (⟨rfl, _⟩ | ⟨rfl, _⟩ | ⟨rfl, _⟩) | ⟨a, ha, ⟨rfl, _⟩ | ⟨rfl, _⟩⟩
  · simp
  · simp
  · simp
  · exact .inr ⟨a, ha, by simp⟩
  · exact .inr ⟨a, ha, by simp⟩

theorem unknown_mem (o : Options) (nl : Bool) : ((none, nl) : LeafSt) ∈ leafStates o := by
  cases nl <;> simp [leafStates]

theorem wfNode_mark (o : Options) {t : Tracer} (h : wfNode o t) : wfNode o t.mark_nullable := by
  cases t <;> try exact h
  exact ⟨h.1, mark_mem o h.2⟩

theorem WF_mark_nullable (o : Options) {t : Tracer} (h : WF o t) : WF o t.mark_nullable := by
  rw [WF_every, every_iff] at h ⊢
  exact ⟨wfNode_mark o h.1, by rw [kids_mark]; exact h.2⟩

theorem wfNode_embed (o : Options) (n p : String) {s : LeafSt} (hs : s ∈ leafStates o) :
    wfNode o (LeafSt.embed n p s) := by
  obtain ⟨ty, nl⟩ := s
  cases ty with
  | none => trivial
  | some ty => exact ⟨rfl, hs⟩

theorem leaf_node_cases (t : Tracer) :
    (∃ n p s, t = LeafSt.embed n p s ∧ s.1 = none) ∨ (∃ n p nl ty st, t = .primitive n p nl ty st) ∨
    (isUnknown t = false ∧ ∀ n p nl pty st, t ≠ .primitive n p nl pty st) := by
  cases t with
  | unknown n p nl => exact .inl ⟨n, p, (none, nl), rfl, rfl⟩
  | primitive n p nl ty st => exact .inr (.inl ⟨n, p, nl, ty, st, rfl⟩)
  | _ => exact .inr (.inr ⟨rfl, fun _ _ _ _ _ h => by cases h⟩)

/-- `ensure_primitive` on a well-formed node: a leaf node (an embedded leaf state) steps by `act`, a container only
takes `Null` and becomes nullable -/
theorem ensure_primitive_leaf (o : Options) {t t' : Tracer} {ty : DataType} (hw : wfNode o t)
    (h : t.ensure_primitive o ty = .ok t') :
    (∃ n p s s', s ∈ leafStates o ∧ t = LeafSt.embed n p s ∧ act o s ty = .ok s' ∧ t' = LeafSt.embed n p s') ∨
    (isUnknown t = false ∧ (∀ n p nl pty st, t ≠ .primitive n p nl pty st) ∧ ty = .null ∧ t' = t.mark_nullable) := by
  have leaf : ∀ n p (s : LeafSt), s ∈ leafStates o → t = LeafSt.embed n p s →
      ∃ n p s s', s ∈ leafStates o ∧ t = LeafSt.embed n p s ∧ act o s ty = .ok s' ∧ t' = LeafSt.embed n p s' := by
    intro n p s hs ht
    rw [ht, ensure_primitive_embed] at h
    cases ha : act o s ty with
    | error e => rw [ha] at h; cases h
    | ok s' => rw [ha] at h; cases h; exact ⟨n, p, s, s', hs, ht, ha, rfl⟩
  rcases ensure_primitive_ok h with ⟨n, p, nl, rfl, _⟩ | ⟨n, p, nl, pty, st, _, _, _, rfl, _, _⟩ | hc
  · exact .inl (leaf n p (none, nl) (unknown_mem o nl) rfl)
  · obtain ⟨rfl, hs⟩ := hw
    exact .inl (leaf n p (some pty, nl) hs rfl)
  · exact .inr hc

theorem ensure_primitive_wfNode (o : Options) {t t' : Tracer} {ty : DataType} (hty : ty ∈ leafTypes o)
    (hw : wfNode o t) (h : t.ensure_primitive o ty = .ok t') : wfNode o t' := by
  rcases ensure_primitive_leaf o hw h with ⟨n, p, s, s', hs, _, ha, rfl⟩ | ⟨_, _, _, rfl⟩
  · exact wfNode_embed o n p (step_facts o hs hty ha).1
  · exact wfNode_mark o hw

theorem ensure_primitive_wf (o : Options) {t t' : Tracer} {ty : DataType} (hty : ty ∈ leafTypes o) (hwf : WF o t)
    (h : t.ensure_primitive o ty = .ok t') : WF o t' := by
  have hn := ensure_primitive_wfNode o hty hwf.node h
  rcases ensure_primitive_ok h with ⟨_, _, _, rfl, rfl⟩ | ⟨_, _, _, _, _, _, _, _, rfl, _, rfl⟩ | ⟨_, _, _, rfl⟩
  · simpa only [WF, wfNode] using hn
  · simpa only [WF, wfNode] using hn
  · exact WF_mark_nullable o hwf

theorem ensure_field_lastSeen_lt (path : String) (s : Nat) (fs : TFields) (k : String) {b : Nat} (hb : s < b)
    (h : ∀ i l, lastSeen? fs i = some l → l < b) :
    ∀ i l, lastSeen? (ensure_field path s fs k).2 i = some l → l < b := by
  intro i l hl
  by_cases e : i = (ensure_field path s fs k).1
  · rw [e, ensure_field_lastSeen] at hl; cases hl; exact hb
  · exact h i l (ensure_field_lastSeen_ne path s fs k i l e hl)

theorem absorbKVs_lastSeen_lt (c : Code) (o : Options) (path : String) (s : Nat) {b : Nat} (hb : s < b) :
    ∀ (kvs : List (String × SVal)) (fs fs' : TFields), (∀ i l, lastSeen? fs i = some l → l < b) →
    absorbKVs c o path s fs kvs = .ok fs' → ∀ i l, lastSeen? fs' i = some l → l < b
  | [], fs, fs', hw, h => by cases h; exact hw
  | kv :: kvs, fs, fs', hw, h => by
    obtain ⟨ft, ft', _, _, h⟩ := absorbKVs_cons_ok.mp h
    refine absorbKVs_lastSeen_lt c o path s hb kvs _ fs' (fun i l hl => ?_) h
    rw [lastSeen?_set] at hl
    exact ensure_field_lastSeen_lt path s fs kv.1 hb hw i l hl

theorem wfNode_step (c : Code) (o : Options) : ∀ x t t', wfNode o t → absorb c o t x = .ok t' → wfNode o t' := by
  intro x t t' hw h
  revert hw
  refine absorb_rel c o (fun t t' => wfNode o t → wfNode o t') ?_ ?_ ?_ ?_ ?_ ?_ ?_ ?_ x t t' h
  · exact fun t => wfNode_mark o
  · exact fun t t2 h hw => h (wfNode_mark o hw)
  · exact fun t ty t2 hty h hw => ensure_primitive_wfNode o hty hw h
  -- a list, map or tuple node carries no condition of its own
  · exact fun _ _ _ _ _ _ _ _ _ _ _ => trivial
  · exact fun _ _ _ _ _ _ _ _ _ _ _ _ _ _ _ _ => trivial
  · exact fun _ _ _ _ _ _ _ _ _ _ _ => trivial
  · intro t mode n p nl fs m s kvs fs' _ h h2 hw i l hl
    rw [lastSeen?_end] at hl
    refine absorbKVs_lastSeen_lt c o p s (Nat.lt_succ_self s) kvs fs fs' ?_ h2 i l hl
    obtain ⟨_, ⟨_, he⟩ | ⟨_, _, _, _, _, _, rfl, he⟩⟩ := ensure_struct_ok h <;> cases he
    · intro i l hi; cases hi
    · exact fun i l hi => Nat.lt_succ_of_lt (hw i l hi)
  · exact fun _ _ _ _ _ _ _ _ _ _ _ _ _ _ _ _ _ _ => trivial

def PW (c : Code) (o : Options) (v : SVal) : Prop := ∀ t t', WF o t → absorb c o t v = .ok t' → WF o t'

theorem absorb_wf (c : Code) (o : Options) : ∀ x : SVal, PW c o x := by
  intro x t t' hw h
  rw [WF_every] at hw ⊢
  exact absorb_every (fun _ _ => trivial) (wfNode_step c o) x t t' hw h

theorem absorbAll_wf (c : Code) (o : Options) : ∀ vs : List SVal, (∀ v ∈ vs, PW c o v) → ∀ t t', WF o t →
    absorbAll c o t vs = .ok t' → WF o t'
  | [], _, t, t', hw, h => by cases h; exact hw
  | v :: vs, hp, t, t', hw, h => by
    obtain ⟨t1, ha, h⟩ := absorbAll_cons_ok.mp h
    exact absorbAll_wf c o vs (fun x hx => hp x (by simp [hx])) t1 t' (hp v (by simp) t t1 hw ha) h

theorem absorbAll_wf' (c : Code) (o : Options) (xs : List SVal) {t t' : Tracer} (hw : WF o t)
    (h : absorbAll c o t xs = .ok t') : WF o t' :=
  absorbAll_wf c o xs (fun v _ => absorb_wf c o v) t t' hw h

theorem Steps.wf {c : Code} {o : Options} {t t' : Tracer} (h : Steps c o t t') (hw : WF o t) : WF o t' := by
  obtain ⟨ys, h⟩ := h
  exact absorbAll_wf' c o ys hw h

/-- lifting a reflexive, (head-)transitive relation from one step to `Steps` -/
theorem Steps.lift {c : Code} {o : Options} (Q : Tracer → Tracer → Prop) (hrefl : ∀ t, Q t t)
    (hstep : ∀ t y t1 t2, WF o t → absorb c o t y = .ok t1 → Q t1 t2 → Q t t2) :
    ∀ {t t2 : Tracer}, WF o t → Steps c o t t2 → Q t t2 := by
  intro t t2 hw ⟨ys, h⟩
  induction ys generalizing t with
  | nil => simp [absorbAll] at h; subst h; exact hrefl t
  | cons y ys ih =>
    obtain ⟨t1, ha, h⟩ := absorbAll_cons_ok.mp h
    exact hstep t y t1 t2 hw ha (ih (absorb_wf c o y t t1 hw ha) h)

theorem WF.kids {o : Options} : ∀ {t : Tracer}, WF o t → Kids (WF o) t
  | .unknown .., _ | .primitive .., _ => trivial
  | .list .., h | .map .., h => h
  | .struct .., h => ((WFF_iff ..).mp h).1
  | .tuple .., h => (WFT_iff ..).mp h
  | .union .., h => (WFV_iff ..).mp h

/-- the struct node `ensure_struct` returns, with its counters (the children alone: `ensure_struct_kids`) -/
theorem ensure_struct_wf (o : Options) {c : Code} {mode : StructMode} {t : Tracer} {n p : String} {nl : Bool}
    {fs : TFields} {m : StructMode} {s : Nat} (hw : WF o t)
    (h : t.ensure_struct c [] mode = .ok (.struct n p nl fs m s)) : WFF o s fs := by
  obtain ⟨_, ⟨_, he⟩ | ⟨_, _, _, _, _, _, rfl, he⟩⟩ := ensure_struct_ok h <;> cases he
  · trivial
  · exact hw

theorem WFT_set (o : Options) {ts : Tracers} (i : Nat) {x : Tracer} (h : WFT o ts) (hx : WF o x) :
    WFT o (ts.set i x) := by
  rw [WFT_iff] at h ⊢; exact Tracers.forall_set i h hx

theorem WFT_field_tracer_grow (o : Options) (path : String) (pos : Nat) {ts : Tracers} (h : WFT o ts) :
    WFT o (field_tracer_grow path pos ts) := by
  rw [WFT_iff] at h ⊢
  rw [field_tracer_grow_eq]; exact Tracers.forall_growN _ (fun _ => WF_new o _ _) _ h

theorem WFF_set (o : Options) (b : Nat) {fs : TFields} (i : Nat) {x : Tracer} (h : WFF o b fs) (hx : WF o x) :
    WFF o b (fs.set i x) := by
  rw [WFF_iff] at h ⊢
  exact ⟨TFields.forall_set i h.1 hx, fun j l hl => h.2 j l (by rw [lastSeen?_set] at hl; exact hl)⟩

theorem ensure_field_wff (o : Options) (path : String) (s : Nat) {fs : TFields} (k : String)
    (h : WFF o (s + 1) fs) : WFF o (s + 1) (ensure_field path s fs k).2 := by
  rw [WFF_iff] at h ⊢
  exact ⟨forall_ensure_field (WF_new o) (fun _ => WF_mark_nullable o) path s k h.1,
    ensure_field_lastSeen_lt path s fs k (Nat.lt_succ_self s) h.2⟩

end SaModel.Lemmas.C06
