import SaModel.Spec.Blame
import SaModel.Lemmas.C01LeafBridge
/-
Bridges between the vocabulary of `Spec/Blame.lean` (which imports no `Build/*` module) and the builder model's helpers:
`Spec.segName` = `Build.childName`, `Spec.textOf` = `Build.scalarToString` (`textOf_eq`, Lemmas/C01LeafBridge.lean),
`Spec.keyOf` = `(Build.keyStr ·).toOption` (`keyOf_eq`).  The lemmas below restate the defining equations of the blame
functions in the builder model's vocabulary, the form the proofs of `Lemmas/C18Blame*.lean` rewrite with.
-/
namespace SaModel.Spec
open SaModel SaModel.Build

/-- the path segment of the specification is the builder model's `ChildName` -/
@[simp] theorem segName_eq (s : String) : segName s = childName s := rfl

/-- … and the reader model's (Read/Annot.lean keeps its own copy `rchildName`; `childName` is the common form) -/
theorem segName_def (s : String) : segName s = if s.isEmpty then "<empty>" else s := rfl

theorem blameScalarAt_old (ext : Ext) (path : String) (dt : DataType) (x : SVal) :
    blameScalarAt ext path dt x =
      (match dt with
       | .dictionary _ v =>
         match scalarToString ext x with
         | some _ => [blameDictStr (path ++ ".value") v]
         | none => [path]
       | _ => [path]) := by
  unfold blameScalarAt
  rw [textOf_eq]
  cases dt <;> rfl

theorem entryKeys_old : ∀ es : SEntries, entryKeys es =
    (match es with
     | .nil => []
     | .cons k _ rest => (match keyStr k with | .ok s => [s] | .error _ => []) ++ entryKeys rest)
  | .nil => by simp [entryKeys]
  | .cons k _ rest => by
    simp only [entryKeys, keyOf_eq]
    cases keyStr k <;> rfl

theorem opsKeys_old : ∀ ops : SMapOps, opsKeys ops =
    (match ops with
     | .key k (.value _ rest) => (match keyStr k with | .ok s => [s] | .error _ => []) ++ opsKeys rest
     | _ => [])
  | .key k (.value _ rest) => by
    simp only [opsKeys, keyOf_eq]
    cases keyStr k <;> rfl
  | .nil => by simp [opsKeys]
  | .value _ _ => by simp [opsKeys]
  | .key _ .nil => by simp [opsKeys]
  | .key _ (.key _ _) => by simp [opsKeys]

end SaModel.Spec
