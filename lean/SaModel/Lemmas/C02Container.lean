import SaModel.Lemmas.C02Leaf
/-
Container cases of C02 (`read_any_decode`): `physical`; a successful `seqAt` slot by slot (`seqAt_induct`) and the ranges the
list / fixed-size-list / map readers compute on it (`listRange_eval`, `fsl_range_facts`); per container kind what a slot that
decodes is and what `is_some` answers (`struct_inv` … `map_inv`).  Dictionaries and dense unions: Lemmas/C02Any.lean.
-/
namespace SaModel.Read
open SaModel SaModel.Spec

/-! physical representability: what the Rust types guarantee and Lean's unbounded lists do not -/
mutual
/-- lengths a Rust `usize` / slice can hold: the child of a FixedSizeList has at most `usize::MAX` slots, the values
of a dictionary at most `i64::MAX` (a slice holds at most `isize::MAX` elements) -/
def physical : Arr → Bool
  | .struct _ _ fs => physicalFields fs
  | .list _ _ _ _ el => physical el
  | .fixedSizeList _ _ _ _ el => decide (lenOf el ≤ usizeMax) && physical el
  | .map _ _ _ ks vs => physical ks && physical vs
  | .dictionary _ vs => decide (lenOf vs ≤ i64Max.toNat)
  | .union _ _ fs => physicalUFields fs
  | _ => true
def physicalFields : ArrFields → Bool
  | .nil => true
  | .cons _ a r => physical a && physicalFields r
def physicalUFields : ArrUFields → Bool
  | .nil => true
  | .cons _ _ a r => physical a && physicalUFields r
end

theorem bind_ok_inv {α β} {x : R α} {f : α → R β} {b : β} (h : (x >>= f) = .ok b) : ∃ a, x = .ok a ∧ f a = .ok b :=
  R.bind_ok_inv h

/-- the only dictionaries a reader is built for: integer keys over string values without bitmap -/
theorem new_dictionary_inv {fx : Fixes} {ks vs : Arr} (h : new fx (.dictionary ks vs) = .ok ()) :
    ∃ kty kv kvals vty voffs vdata, ks = .prim kty kv kvals ∧ vs = .bytes vty none voffs vdata ∧
      isIntPrim kty = true ∧ isUtf8Ty vty = true := by
  unfold new at h
  split at h
  · rename_i kty kv kvals vty vv voffs vdata
    split at h
    · rename_i hty
      simp only [Bool.and_eq_true] at hty
      cases vv with
      | none => exact ⟨_, _, _, _, _, _, rfl, rfl, hty.1, hty.2⟩
      | some b => cases h
    · cases h
  · cases h

/-- on a view the reader accepts, `ViewExt::len` is the Arrow length -/
theorem vlen_eq_lenOf (fx : Fixes) (a : Arr) (h : new fx a = .ok ()) : vlen a = lenOf a := by
  cases a with
  | dictionary ks vs =>
    obtain ⟨_, _, _, _, _, _, rfl, rfl, _, _⟩ := new_dictionary_inv h
    rfl
  | _ => rfl

/-! ### ranges -/

/-- a successful `seqAt`, slot by slot: `nil`, and `cons` for a slot that decoded (with what is known of every value) -/
theorem seqAt_induct {f : Nat → R LVal} {P : LVal → Prop} {motive : Nat → Nat → List LVal → Prop}
    (nil : ∀ s, motive s 0 [])
    (cons : ∀ s n v vs, f s = .ok v → P v → motive (s + 1) n vs → motive s (n + 1) (v :: vs)) :
    ∀ (n s : Nat) (xs : List LVal), seqAt f s n = .ok xs → (∀ v ∈ xs, P v) → motive s n xs
  | 0, s, xs, hs, _ => by unfold seqAt at hs; cases hs; exact nil s
  | n + 1, s, xs, hs, hp => by
    unfold seqAt at hs
    obtain ⟨v, hv, hs⟩ := bind_ok_inv hs
    obtain ⟨vs, hvs, hs⟩ := bind_ok_inv hs
    cases hs
    exact cons s n v vs hv (hp v (by simp)) (seqAt_induct nil cons n (s + 1) vs hvs fun w hw => hp w (by simp [hw]))

/-- the same for two loops over the same slots (keys and values of a map column) -/
theorem seqAt2_induct {f1 f2 : Nat → R LVal} {P1 P2 : LVal → Prop} {motive : Nat → Nat → List LVal → List LVal → Prop}
    (nil : ∀ s, motive s 0 [] [])
    (cons : ∀ s n k ks w ws, f1 s = .ok k → f2 s = .ok w → P1 k → P2 w → motive (s + 1) n ks ws →
      motive s (n + 1) (k :: ks) (w :: ws)) :
    ∀ (n s : Nat) (ks ws : List LVal), seqAt f1 s n = .ok ks → seqAt f2 s n = .ok ws →
      (∀ v ∈ ks, P1 v) → (∀ v ∈ ws, P2 v) → motive s n ks ws
  | 0, s, ks, ws, hk, hw, _, _ => by unfold seqAt at hk hw; cases hk; cases hw; exact nil s
  | n + 1, s, ks, ws, hk, hw, pk, pw => by
    unfold seqAt at hk hw
    obtain ⟨k, hk1, hk⟩ := bind_ok_inv hk
    obtain ⟨ks', hks, hk⟩ := bind_ok_inv hk
    cases hk
    obtain ⟨w, hw1, hw⟩ := bind_ok_inv hw
    obtain ⟨ws', hws, hw⟩ := bind_ok_inv hw
    cases hw
    exact cons s n k ks' w ws' hk1 hw1 (pk k (by simp)) (pw w (by simp))
      (seqAt2_induct nil cons n (s + 1) ks' ws' hks hws (fun v hv => pk v (by simp [hv])) fun v hv => pw v (by simp [hv]))

theorem readRange_of_seqAt {f : Nat → R LVal} {g : Nat → R DVal} {h : LVal → DVal} {P : LVal → Prop}
    (hfg : ∀ j v, f j = .ok v → P v → g j = .ok (h v)) :
    ∀ (n s : Nat) (xs : List LVal), seqAt f s n = .ok xs → (∀ v ∈ xs, P v) → readRange g s n = .ok (xs.map h) :=
  seqAt_induct (fun _ => rfl) fun s n v vs hv hp ih => by
    unfold readRange; rw [hfg s v hv hp, ih]; rfl

theorem readRange_pairs_of_seqAt {f1 f2 : Nat → R LVal} {g1 g2 : Nat → R DVal} {h1 h2 : LVal → DVal} {P1 P2 : LVal → Prop}
    (hfg1 : ∀ j v, f1 j = .ok v → P1 v → g1 j = .ok (h1 v)) (hfg2 : ∀ j v, f2 j = .ok v → P2 v → g2 j = .ok (h2 v)) :
    ∀ (n s : Nat) (ks ws : List LVal), seqAt f1 s n = .ok ks → seqAt f2 s n = .ok ws →
      (∀ v ∈ ks, P1 v) → (∀ v ∈ ws, P2 v) →
      readRange (fun j => do let k ← g1 j; let v ← g2 j; pure (k, v)) s n = .ok ((ks.zip ws).map fun (k, w) => (h1 k, h2 w)) :=
  seqAt2_induct (fun _ => rfl) fun s n k ks w ws hk hw pk pw ih => by
    unfold readRange; rw [hfg1 s k hk pk, hfg2 s w hw pw, ih]; rfl

theorem rangeAt_ok {f : Nat → R LVal} {len : Nat} {s e : Int} {xs : List LVal} (h : rangeAt f len s e = .ok xs) :
    0 ≤ s ∧ s ≤ e ∧ e ≤ len ∧ seqAt f s.toNat (e.toNat - s.toNat) = .ok xs := by
  unfold rangeAt at h
  split at h
  · rename_i hc; exact ⟨hc.1, hc.2.1, hc.2.2, h⟩
  · cases h

theorem listRange_eval {offs : List Int} {i : Nat} (hi : i < offs.length - 1)
    (h0 : 0 ≤ offs.getD i 0) (h1 : offs.getD i 0 ≤ offs.getD (i + 1) 0) :
    listRange Fixes.all offs i = .ok ((offs.getD i 0).toNat, (offs.getD (i + 1) 0).toNat) := by
  unfold listRange
  have a1 : i < offs.length := by omega
  have a2 : i + 1 < offs.length := by omega
  have hc : ¬ (i + 1 ≥ offs.length) := by omega
  rw [getD_of_lt _ _ _ a1] at h0 h1
  rw [getD_of_lt _ _ _ a2] at h1
  have e1 : tryIntoUsize offs[i] = .ok offs[i].toNat := tryIntoUsize_nonneg h0
  have e2 : tryIntoUsize offs[i + 1] = .ok offs[i + 1].toNat := tryIntoUsize_nonneg (by omega)
  have hc2 : ¬ (offs[i].toNat > offs[i + 1].toNat) := by omega
  simp only [hc, if_false, List.getElem?_eq_getElem a1, List.getElem?_eq_getElem a2, getD_of_lt _ _ _ a1,
    getD_of_lt _ _ _ a2, e1, e2, bind, Except.bind, all_offsetsOrder, Bool.true_and, decide_eq_true_eq, hc2,
    pure, Except.pure]

theorem list_range_facts {lg : Bool} {v : Option Bits} {offs : List Int} {fm : FieldMeta} {el : Arr} {i : Nat} {xs : List LVal}
    (hi : i < offs.length - 1)
    (hxs : rangeAt (decodeAt el) (lenOf el) (offs.getD i 0) (offs.getD (i + 1) 0) = .ok xs) :
    ∃ s e, listRange Fixes.all offs i = .ok (s, e) ∧ seqAt (decodeAt el) s (e - s) = .ok xs := by
  let _ := lg; let _ := v; let _ := fm
  obtain ⟨h0, h1, _, hseq⟩ := rangeAt_ok hxs
  exact ⟨_, _, listRange_eval hi h0 h1, hseq⟩

theorem fsl_range_facts {len : Nat} {n : Int} {el : Arr} {i : Nat} {xs : List LVal}
    (hi : i < len) (hn0 : 0 ≤ n) (hlen : lenOf el ≤ usizeMax)
    (hxs : rangeAt (decodeAt el) (lenOf el) (i * n) ((i + 1) * n) = .ok xs) :
    ∃ s e, fslRange Fixes.all len n i = .ok (s, e) ∧ seqAt (decodeAt el) s (e - s) = .ok xs := by
  obtain ⟨_, _, hle, hseq⟩ := rangeAt_ok hxs
  have hlt : ¬ i ≥ len := by omega
  have e1 : ((i : Int) * n).toNat = i * n.toNat := by
    have : (i : Int) * n = ((i * n.toNat : Nat) : Int) := by
      rw [Int.natCast_mul, Int.toNat_of_nonneg hn0]
    rw [this, Int.toNat_natCast]
  have e2 : (((i : Int) + 1) * n).toNat = (i + 1) * n.toNat := by
    have : ((i : Int) + 1) * n = (((i + 1) * n.toNat : Nat) : Int) := by
      rw [Int.natCast_mul, Int.toNat_of_nonneg hn0]; simp
    rw [this, Int.toNat_natCast]
  have hfit : ¬ (i + 1) * n.toNat > usizeMax := by
    have : (((i + 1) * n.toNat : Nat) : Int) ≤ (lenOf el : Int) := by
      rw [Int.natCast_mul, Int.toNat_of_nonneg hn0]; simpa using hle
    omega
  have hrange : fslRange Fixes.all len n i = .ok (i * n.toNat, (i + 1) * n.toNat) := by
    unfold fslRange
    simp only [hlt, if_false, tryIntoUsize_nonneg hn0, bind, Except.bind, hfit, pure, Except.pure]
  rw [e1, e2] at hseq
  exact ⟨_, _, hrange, hseq⟩

theorem toDList_ofList (el : Arr) : ∀ (xs : List LVal), toDList el (LVals.ofList xs) = DVals.ofList (xs.map (toD el))
  | [] => by simp [LVals.ofList, toDList, DVals.ofList]
  | x :: xs => by simp [LVals.ofList, toDList, DVals.ofList, toDList_ofList el xs]

theorem utf8OkList_mem : ∀ (xs : List LVal), utf8OkList (LVals.ofList xs) = true → ∀ v ∈ xs, utf8Ok v = true
  | [], _, v, hv => by cases hv
  | x :: xs, h, v, hv => by
    simp only [LVals.ofList, utf8OkList, Bool.and_eq_true] at h
    cases hv with
    | head => exact h.1
    | tail _ hm => exact utf8OkList_mem xs h.2 v hm

theorem toDEntries_ofList (ks vs : Arr) : ∀ (es : List (LVal × LVal)),
    toDEntries ks vs (LEntries.ofList es) = DEntries.ofList (es.map fun (k, w) => (toD ks k, toD vs w))
  | [] => by simp [LEntries.ofList, toDEntries, DEntries.ofList]
  | (k, w) :: es => by simp [LEntries.ofList, toDEntries, DEntries.ofList, toDEntries_ofList ks vs es]

theorem utf8OkEntries_zip : ∀ (ks ws : List LVal), ks.length = ws.length →
    utf8OkEntries (LEntries.ofList (ks.zip ws)) = true → (∀ v ∈ ks, utf8Ok v = true) ∧ (∀ v ∈ ws, utf8Ok v = true)
  | [], [], _, _ => by constructor <;> intro v hv <;> cases hv
  | [], _ :: _, hl, _ => by simp at hl
  | _ :: _, [], hl, _ => by simp at hl
  | k :: ks, w :: ws, hl, h => by
    simp only [List.zip_cons_cons, LEntries.ofList, utf8OkEntries, Bool.and_eq_true] at h
    have ih := utf8OkEntries_zip ks ws (by simpa using hl) h.2
    constructor
    · intro v hv
      cases hv with
      | head => exact h.1.1
      | tail _ hm => exact ih.1 v hm
    · intro v hv
      cases hv with
      | head => exact h.1.2
      | tail _ hm => exact ih.2 v hm

theorem seqAt_length {f : Nat → R LVal} : ∀ (n s : Nat) (xs : List LVal), seqAt f s n = .ok xs → xs.length = n
  | 0, _, xs, h => by unfold seqAt at h; cases h; rfl
  | n + 1, s, xs, h => by
    unfold seqAt at h
    obtain ⟨v, _, h⟩ := bind_ok_inv h
    obtain ⟨vs, hvs, h⟩ := bind_ok_inv h
    cases h
    simp [seqAt_length n (s + 1) vs hvs]

/-! ### evaluating `is_some` of the containers -/

theorem container_isSome {a : Arr} {v : Option Bits} {i : Nat} {b : Bool} (hv : isValid v i = .ok b)
    (hs : isSome Fixes.all a i = validityIsSet Fixes.all v i) : isSome Fixes.all a i = .ok b := by
  rw [hs, validityIsSet_all, hv]

/-! ### what a container slot that decodes is: in range, null or its payload, and what `is_some` answers -/

theorem struct_inv {len : Nat} {v : Option Bits} {fs : ArrFields} {i : Nat} {lv : LVal}
    (h : decodeAt (.struct len v fs) i = .ok lv) :
    i < len ∧ ((lv = .null ∧ isSome Fixes.all (.struct len v fs) i = .ok false) ∨
      ∃ vals, decodeFieldsAt fs i = .ok vals ∧ lv = .struct (LFields.ofList vals) ∧
        isSome Fixes.all (.struct len v fs) i = .ok true) := by
  unfold decodeAt at h
  obtain ⟨hi, hv⟩ := guarded_inv h
  have his : isSome Fixes.all (.struct len v fs) i = validityIsSet Fixes.all v i := by
    simp only [isSome, show ¬ i ≥ len by omega, if_false]
  refine ⟨hi, ?_⟩
  rcases hv with ⟨hv, rfl⟩ | ⟨hv, hpay⟩
  · exact .inl ⟨rfl, container_isSome hv his⟩
  · obtain ⟨vals, hvals, hpay⟩ := bind_ok_inv hpay
    cases hpay
    exact .inr ⟨vals, hvals, rfl, container_isSome hv his⟩

theorem list_inv {lg : Bool} {v : Option Bits} {offs : List Int} {fm : FieldMeta} {el : Arr} {i : Nat} {lv : LVal}
    (h : decodeAt (.list lg v offs fm el) i = .ok lv) :
    i < offs.length - 1 ∧ ((lv = .null ∧ isSome Fixes.all (.list lg v offs fm el) i = .ok false) ∨
      ∃ xs, rangeAt (decodeAt el) (lenOf el) (offs.getD i 0) (offs.getD (i + 1) 0) = .ok xs ∧
        lv = .list (LVals.ofList xs) ∧ isSome Fixes.all (.list lg v offs fm el) i = .ok true) := by
  unfold decodeAt at h
  obtain ⟨hi, hv⟩ := guarded_inv h
  have his : isSome Fixes.all (.list lg v offs fm el) i = validityIsSet Fixes.all v i := by
    simp only [isSome, show ¬ i + 1 ≥ offs.length by omega, if_false]
  refine ⟨hi, ?_⟩
  rcases hv with ⟨hv, rfl⟩ | ⟨hv, hpay⟩
  · exact .inl ⟨rfl, container_isSome hv his⟩
  · obtain ⟨xs, hxs, hpay⟩ := bind_ok_inv hpay
    cases hpay
    exact .inr ⟨xs, hxs, rfl, container_isSome hv his⟩

theorem fsl_inv {len : Nat} {v : Option Bits} {n : Int} {fm : FieldMeta} {el : Arr} {i : Nat} {lv : LVal}
    (h : decodeAt (.fixedSizeList len v n fm el) i = .ok lv) :
    i < len ∧ ((lv = .null ∧ isSome Fixes.all (.fixedSizeList len v n fm el) i = .ok false) ∨
      ∃ xs, ¬ n < 0 ∧ rangeAt (decodeAt el) (lenOf el) (i * n) ((i + 1) * n) = .ok xs ∧
        lv = .list (LVals.ofList xs) ∧ isSome Fixes.all (.fixedSizeList len v n fm el) i = .ok true) := by
  unfold decodeAt at h
  obtain ⟨hi, hv⟩ := guarded_inv h
  have his : isSome Fixes.all (.fixedSizeList len v n fm el) i = validityIsSet Fixes.all v i := by
    simp only [isSome, show ¬ i ≥ len by omega, if_false]
  refine ⟨hi, ?_⟩
  rcases hv with ⟨hv, rfl⟩ | ⟨hv, hpay⟩
  · exact .inl ⟨rfl, container_isSome hv his⟩
  · split at hpay
    · cases hpay
    · rename_i hneg
      obtain ⟨xs, hxs, hpay⟩ := bind_ok_inv hpay
      cases hpay
      exact .inr ⟨xs, hneg, hxs, rfl, container_isSome hv his⟩

theorem map_inv {v : Option Bits} {offs : List Int} {mm : MapMeta} {ks vs : Arr} {i : Nat} {lv : LVal}
    (h : decodeAt (.map v offs mm ks vs) i = .ok lv) :
    i < offs.length - 1 ∧ ((lv = .null ∧ isSome Fixes.all (.map v offs mm ks vs) i = .ok false) ∨ ∃ kxs wxs,
      rangeAt (decodeAt ks) (lenOf ks) (offs.getD i 0) (offs.getD (i + 1) 0) = .ok kxs ∧
      rangeAt (decodeAt vs) (lenOf vs) (offs.getD i 0) (offs.getD (i + 1) 0) = .ok wxs ∧
      lv = .map (LEntries.ofList (kxs.zip wxs)) ∧ isSome Fixes.all (.map v offs mm ks vs) i = .ok true) := by
  unfold decodeAt at h
  obtain ⟨hi, hv⟩ := guarded_inv h
  have his : isSome Fixes.all (.map v offs mm ks vs) i = validityIsSet Fixes.all v i := by
    simp only [isSome, show ¬ i + 1 ≥ offs.length by omega, if_false]
  refine ⟨hi, ?_⟩
  rcases hv with ⟨hv, rfl⟩ | ⟨hv, hpay⟩
  · exact .inl ⟨rfl, container_isSome hv his⟩
  · obtain ⟨kxs, hk, hpay⟩ := bind_ok_inv hpay
    obtain ⟨wxs, hw, hpay⟩ := bind_ok_inv hpay
    cases hpay
    exact .inr ⟨kxs, wxs, hk, hw, rfl, container_isSome hv his⟩

end SaModel.Read
