import SaModel.Lemmas.C18DeSeq
import SaModel.Lemmas.C05ReadCont2
/-
C18, reader-side blame against `Spec.blameRead`: tuples / tuple structs over struct columns (element `k` from field `k`;
the struct's own failure: fewer fields than elements), maps over struct columns (field names as keys) and over map columns.
-/
namespace SaModel.Props.C18
open SaModel SaModel.Read SaModel.Spec

theorem readTupleFieldsA_bo : ∀ (ts : Targets), (∀ t ∈ Targets.toList ts, BlR t) →
    ∀ (fs : ArrFields) (i : Nat) (vals : List (String × LVal)) (p : String) (S : List Pos) (self : Pos),
    SlotFields fs i vals → noKnownTuple ts fs (LFields.ofList vals) = true →
    (∀ q ∈ positionsAt p (blameTuple ts fs (LFields.ofList vals)), q ∈ S) → (ts.length > fs.length → self ∈ S) →
    Bo S self (readTupleFieldsA AnnFixes.all Fixes.all p ts fs i)
  | .nil, _, fs, i, vals, p, S, self, _, _, _, _ => by unfold readTupleFieldsA; exact Bo.of_ok _
  | .cons t rest, hS, .nil, i, vals, p, S, self, _, _, _, hlen => by
    unfold readTupleFieldsA
    exact Bo.noctx _ fun _ => hlen (by simp [Targets.length, ArrFields.length])
  | .cons t rest, hS, .cons fm a frest, i, vals, p, S, self, h, hk, hsub, hlen => by
    obtain ⟨v, r, rfl, sa, sr⟩ := h.cons
    simp only [LFields.ofList, noKnownTuple, Bool.and_eq_true] at hk
    simp only [LFields.ofList, blameTuple, positionsAt_append, positionsAt_below1, List.mem_append] at hsub
    unfold readTupleFieldsA
    refine Bo.bind (Wn.bo _ (Wn.mono (fun q hq => hsub q (.inl hq)) ((hS t (by simp [Targets.toList])).at sa hk.1)))
      fun _ _ => ?_
    refine Bo.bind (readTupleFieldsA_bo rest (fun t' ht' => hS t' (by simp [Targets.toList, ht'])) frest i r p S self
      sr hk.2 (fun q hq => hsub q (.inr hq))
      (fun hl => hlen (by simp only [Targets.length, ArrFields.length] at hl ⊢; omega))) fun _ _ => Bo.of_ok _

/-- `deserialize_tuple` / `deserialize_tuple_struct` / `tuple_variant` of the reader of `a` at `p` -/
theorem tupleVisitA_blame {ts : Targets} (hS : ∀ t ∈ Targets.toList ts, BlR t) (p : String) (a : Arr) (i : Nat) (lv : LVal)
    (h : decodeAt a i = .ok lv) (hn : new Fixes.all a = .ok ()) (hp : physical a = true) (hu : utf8Ok lv = true)
    (hk : structPart (fun fs lfs => noKnownTuple ts fs lfs) a lv = true) :
    Within (positionsAt p (blameTupleAt ts.length (fun fs lfs => blameTuple ts fs lfs) a lv))
      (tupleVisitA Fixes.all p (fun fs => readTupleFieldsA AnnFixes.all Fixes.all p ts fs i) a i) := by
  unfold tupleVisitA
  cases a with
  | struct len v fs =>
    obtain ⟨hitem, rfl | ⟨vals, rfl, sf⟩⟩ := (Slot.mk h hn hp hu).struct
    · simp [structPart] at hk
    · simp only [structPart] at hk
      simp only [blameTupleAt, tupleVisit]
      rw [rann_eq']
      refine Bo.ctx (Bo.bind (Bo.of_eq_ok hitem) fun _ _ => ?_)
      refine Bo.bind (readTupleFieldsA_bo ts hS fs i vals p _ _ sf hk ?_ ?_) fun _ _ => Bo.of_ok _
      · intro q hq
        rw [positionsAt_append]; exact List.mem_append_right _ hq
      · intro hl
        rw [positionsAt_append, if_pos hl]
        exact List.mem_append_left _ (self_mem_here p _)
  | _ =>
    simp only [blameTupleAt, tupleVisit]
    exact own_here _

theorem blr_tuple {ts : Targets} (hS : ∀ t ∈ Targets.toList ts, BlR t) : BlR (.tuple ts) := by
  intro p a i lv h hn hp hu hk
  simp only [noKnown] at hk
  simp only [readAsA, blameRead]
  exact tupleVisitA_blame hS p a i lv h hn hp hu hk

theorem blr_tupleStruct {ts : Targets} (hS : ∀ t ∈ Targets.toList ts, BlR t) : BlR (.tupleStruct ts) := by
  intro p a i lv h hn hp hu hk
  simp only [noKnown] at hk
  simp only [readAsA, blameRead]
  exact tupleVisitA_blame hS p a i lv h hn hp hu hk

theorem strDeAs_key_ok {k : Target} (hk : k = .string ∨ k = .any) (name : String) : ∃ d, strDeAs k name = .ok d := by
  rcases hk with rfl | rfl <;> exact ⟨_, rfl⟩

theorem structAsMapA_bo {k v : Target} (hV : BlR v) : ∀ (fs : ArrFields) (i : Nat) (vals : List (String × LVal)) (p : String)
    (S : List Pos) (self : Pos),
    SlotFields fs i vals → allStructAsMap (fun c w => noKnown v c w) fs (LFields.ofList vals) = true →
    (∀ q ∈ positionsAt p (blameStructAsMap (fun c w => blameRead v c w) fs (LFields.ofList vals)), q ∈ S) →
    (¬ (k = .string ∨ k = .any) → self ∈ S) →
    Bo S self (fs.toList.mapM fun (x : FieldMeta × Arr) => do
      let kk ← strDeAs k x.1.name
      let vv ← readAsA AnnFixes.all Fixes.all (rchild p x.1.name) v x.2 i
      pure (kk, vv))
  | .nil, i, vals, p, S, self, _, _, _, _ => by
    simp only [ArrFields.toList, List.mapM_nil]; exact Bo.of_ok _
  | .cons fm a rest, i, vals, p, S, self, h, hk, hsub, hself => by
    obtain ⟨w, r, rfl, sa, sr⟩ := h.cons
    simp only [LFields.ofList, allStructAsMap, Bool.and_eq_true] at hk
    simp only [LFields.ofList, blameStructAsMap, positionsAt_append, positionsAt_below1, List.mem_append] at hsub
    simp only [ArrFields.toList, List.mapM_cons]
    refine Bo.bind (Bo.bind ?_ fun _ _ => Bo.bind (Wn.bo _ (Wn.mono (fun q hq => hsub q (.inl hq)) (hV.at sa hk.1)))
      fun _ _ => Bo.of_ok _) fun _ _ => ?_
    · by_cases hkk : k = .string ∨ k = .any
      · obtain ⟨d, hd⟩ := strDeAs_key_ok hkk fm.name
        exact Bo.of_eq_ok hd
      · exact Bo.noctx _ fun _ => hself hkk
    · exact Bo.bind (structAsMapA_bo hV rest i r p S self sr hk.2 (fun q hq => hsub q (.inr hq)) hself)
        fun _ _ => Bo.of_ok _

theorem readRange_pairs_wn {S : List Pos} {p : String} {f1 f2 : Nat → R LVal} {g1 g2 : Nat → R DVal} {c1 c2 : LVal → Bool}
    {fk fv : LVal → List RPos} {P1 P2 : LVal → Prop}
    (h1 : ∀ j x, f1 j = .ok x → P1 x → c1 x = true → Wn (positionsAt p (fk x)) (g1 j))
    (h2 : ∀ j x, f2 j = .ok x → P2 x → c2 x = true → Wn (positionsAt p (fv x)) (g2 j)) :
    ∀ (n s : Nat) (kxs wxs : List LVal), seqAt f1 s n = .ok kxs → seqAt f2 s n = .ok wxs →
    (∀ x ∈ kxs, P1 x) → (∀ x ∈ wxs, P2 x) → allEntries c1 c2 (LEntries.ofList (kxs.zip wxs)) = true →
    (∀ q ∈ positionsAt p (blameEntriesR fk fv (LEntries.ofList (kxs.zip wxs))), q ∈ S) →
    Wn S (readRange (fun j => do let kk ← g1 j; let vv ← g2 j; pure (kk, vv)) s n) :=
  seqAt2_induct (fun _ _ _ => by unfold readRange; exact Wn.of_ok _) fun s n k kr w wr hk hw pk pw ih hc hsub => by
    simp only [List.zip_cons_cons, LEntries.ofList, blameEntriesR, positionsAt_append, List.mem_append] at hsub
    simp only [List.zip_cons_cons, LEntries.ofList, allEntries, Bool.and_eq_true] at hc
    unfold readRange
    refine Wn.bind (Wn.bind (Wn.mono (fun q hq => hsub q (.inl (.inl hq))) (h1 s k hk pk hc.1.1)) fun _ _ =>
      Wn.bind (Wn.mono (fun q hq => hsub q (.inl (.inr hq))) (h2 s w hw pw hc.1.2)) fun _ _ => Wn.of_ok _)
      fun _ _ => ?_
    exact Wn.bind (ih hc.2 fun q hq => hsub q (.inr hq)) fun _ _ => Wn.of_ok _

theorem blr_map {k v : Target} (hK : BlR k) (hV : BlR v) : BlR (.map k v) := by
  intro p a i lv h hn hp hu hk
  cases a with
  | struct len vv fs =>
    obtain ⟨hitem, rfl | ⟨vals, rfl, sf⟩⟩ := (Slot.mk h hn hp hu).struct
    · simp [noKnown] at hk
    · simp only [noKnown] at hk
      simp only [readAsA, blameRead]
      rw [rann_eq']
      refine Bo.ctx (Bo.bind (Bo.of_eq_ok hitem) fun _ _ => ?_)
      refine Bo.bind (structAsMapA_bo (k := k) hV fs i vals p _ _ sf hk ?_ ?_) fun _ _ => Bo.of_ok _
      · intro q hq
        rw [positionsAt_append]; exact List.mem_append_right _ hq
      · intro hkk
        rw [positionsAt_append]
        refine List.mem_append_left _ ?_
        cases k <;> first | exact self_mem_here p _ | exact absurd (.inl rfl) hkk | exact absurd (.inr rfl) hkk
  | map vv offs mm ks vs =>
    rcases (Slot.mk h hn hp hu).map with rfl | ⟨kxs, wxs, s, en, rfl, hr, hseqk, hseqv, hks, hvs⟩
    · simp [noKnown] at hk
    · simp only [noKnown] at hk
      simp only [readAsA, blameRead]
      rw [rann_eq']
      refine Bo.ctx (Bo.bind (Bo.of_eq_ok hr) fun se hse => ?_)
      rw [hr] at hse; cases hse
      refine Bo.bind (Wn.bo _ ?_) fun _ _ => Bo.of_ok _
      refine readRange_pairs_wn (p := p) (c1 := fun w => noKnown k ks w) (c2 := fun w => noKnown v vs w)
        (P1 := (· ∈ kxs)) (P2 := (· ∈ wxs)) (fun j x hj hx hc => ?_) (fun j x hj hx hc => ?_) _ _ kxs wxs hseqk hseqv
        (fun _ h => h) (fun _ h => h) hk (fun q hq => hq)
      · rw [positionsAt_below2]; exact hK.at (hks j x hj hx) hc
      · rw [positionsAt_below2]; exact hV.at (hvs j x hj hx) hc
  | _ =>
    simp only [blameRead, readAsA]
    exact own_here _

end SaModel.Props.C18
