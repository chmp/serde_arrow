import SaModel.Lemmas.C03WfInv
import SaModel.Spec.DecodeAt
import SaModel.Read.ToD
import SaModel.Lemmas.C02DecodeAt
import SaModel.Lemmas.C03ReadValid
import SaModel.Lemmas.C02TypedLeaf
/-
Bridge builder side → reader side, part 2: every string inside the logical value of a slot of a well-formed array is
valid UTF-8 (`Read.utf8Ok`, the third precondition of `Props.C02.read_any_decode`).  `Spec.wf` asks UTF-8 validity of
the data of Utf8 / LargeUtf8 / Utf8View columns (`bytesUtf8`, the slot-wise clause of Utf8View); this file carries it
through every container to the decoded value of any slot.  No hypothesis besides `Spec.wf`.
-/
namespace SaModel.Lemmas.C03
open SaModel SaModel.Spec SaModel.Read

theorem ite_oob_ok {α} {c : Prop} [Decidable c] {x : R α} {y : α} (h : (if c then x else oob) = .ok y) : c ∧ x = .ok y := by
  split at h
  · exact ⟨‹_›, h⟩
  · cases h

theorem seqAt_mem {f : Nat → R LVal} : ∀ (n s : Nat) (xs : List LVal), seqAt f s n = .ok xs →
    ∀ v ∈ xs, ∃ j, f j = .ok v :=
  fun n s xs h => seqAt_induct (P := fun _ => True) (motive := fun _ _ xs => ∀ v ∈ xs, ∃ j, f j = .ok v)
    (fun _ _ hv => nomatch hv)
    (fun s _ _ _ hv _ ih w hw => (List.mem_cons.1 hw).elim (fun e => ⟨s, e ▸ hv⟩) (ih w)) n s xs h fun _ _ => trivial

theorem rangeAt_mem {f : Nat → R LVal} {len : Nat} {s e : Int} {xs : List LVal} (h : rangeAt f len s e = .ok xs) :
    ∀ v ∈ xs, ∃ j, f j = .ok v := by
  unfold rangeAt at h
  split at h
  · exact seqAt_mem _ _ _ h
  · simp [fail] at h

theorem utf8OkList_ofList : ∀ (xs : List LVal), (∀ v ∈ xs, utf8Ok v = true) → utf8OkList (LVals.ofList xs) = true
  | [] => fun _ => by simp [LVals.ofList, utf8OkList]
  | x :: r => fun h => by
    simp [LVals.ofList, utf8OkList, h x (by simp), utf8OkList_ofList r (fun v hv => h v (by simp [hv]))]

theorem utf8OkEntries_zip : ∀ (ks ws : List LVal), (∀ v ∈ ks, utf8Ok v = true) → (∀ v ∈ ws, utf8Ok v = true) →
    utf8OkEntries (LEntries.ofList (ks.zip ws)) = true
  | [], _, _, _ => by simp [LEntries.ofList, utf8OkEntries]
  | _ :: _, [], _, _ => by simp [LEntries.ofList, utf8OkEntries]
  | k :: kr, w :: wr, hk, hw => by
    simp [LEntries.ofList, utf8OkEntries, hk k (by simp), hw w (by simp),
      utf8OkEntries_zip kr wr (fun v hv => hk v (by simp [hv])) (fun v hv => hw v (by simp [hv]))]

/-- the slot-wise content of `bytesUtf8` -/
theorem bytesUtf8_slot (offs : List Int) (data : Bytes) (h : bytesUtf8 offs data = true) (i : Nat)
    (hi : i < offs.length - 1) :
    Spec.validUtf8 ((data.drop (offs.getD i 0).toNat).take ((offs.getD (i + 1) 0).toNat - (offs.getD i 0).toNat)) = true := by
  unfold bytesUtf8 at h
  rw [List.all_eq_true] at h
  have h1 : i < offs.length := by omega
  have h2 : i < offs.tail.length := by simp; omega
  have hmem : (offs[i], offs.tail[i]) ∈ offs.zip offs.tail := by
    have : (offs.zip offs.tail)[i]'(by simp; omega) = (offs[i], offs.tail[i]) := by simp
    rw [← this]; exact List.getElem_mem _
  have := h _ hmem
  have e1 : offs.getD i 0 = offs[i] := by simp [List.getD, List.getElem?_eq_getElem h1]
  have e2 : offs.getD (i + 1) 0 = offs.tail[i] := by
    have h3 : i + 1 < offs.length := by omega
    simp [List.getD, List.getElem?_eq_getElem h3]
  rw [e1, e2]; exact this

theorem utf8Ok_leafOf (ty : PrimTy) (x : Int) : utf8Ok (leafOf ty x) = true := by
  cases ty <;> simp [leafOf, utf8Ok]

/-- slot `i` of `decodeAll` is `decodeAt … i` for an in-range slot -/
theorem decodeAll_getElem (a : Arr) (i : Nat) (hi : i < lenOf a) : decodeAt a i ∈ decodeAll a := by
  rw [decodeAll_eq_map_decodeAt]
  exact List.mem_map.2 ⟨i, by simpa using hi, rfl⟩

mutual
/-- **`wf_utf8`**: the logical value of ANY slot of a well-formed array only holds valid UTF-8 strings -/
theorem wf_utf8 : ∀ (a : Arr) (dt : DataType) (nl : Bool) (i : Nat) (lv : LVal), wf dt nl a = true →
    decodeAt a i = .ok lv → utf8Ok lv = true
  | .null len => fun _ _ i lv _ hd => by
    simp only [decodeAt] at hd
    obtain ⟨_, hd⟩ := ite_oob_ok hd; cases hd; simp [utf8Ok]
  | .boolean len v vals => fun _ _ i lv _ hd => by
    simp only [decodeAt] at hd
    obtain ⟨_, ⟨_, rfl⟩ | ⟨_, hd⟩⟩ := guarded_inv hd
    · simp [utf8Ok]
    · obtain ⟨b, _, hd⟩ := R.bind_ok_inv hd; cases hd; simp [utf8Ok]
  | .prim ty v vals => fun _ _ i lv _ hd => by
    simp only [decodeAt] at hd
    obtain ⟨_, ⟨_, rfl⟩ | ⟨_, hd⟩⟩ := guarded_inv hd
    · simp [utf8Ok]
    · cases hd; exact utf8Ok_leafOf _ _
  | .time _ _ v vals | .timestamp _ _ v vals | .decimal128 _ _ v vals => fun _ _ i lv _ hd => by
    simp only [decodeAt] at hd
    obtain ⟨_, ⟨_, rfl⟩ | ⟨_, hd⟩⟩ := guarded_inv hd
    · simp [utf8Ok]
    · cases hd; simp [utf8Ok]
  | .fixedSizeBinary n v data => fun _ _ i lv _ hd => by
    simp only [decodeAt] at hd
    split at hd
    · simp [oob, fail] at hd
    · obtain ⟨_, ⟨_, rfl⟩ | ⟨_, hd⟩⟩ := guarded_inv hd
      · simp [utf8Ok]
      · cases hd; simp [utf8Ok]
  | .bytes ty v offs data => fun dt nl i lv h hd => by
    simp only [decodeAt] at hd
    obtain ⟨hi, ⟨_, rfl⟩ | ⟨_, hd⟩⟩ := guarded_inv hd
    · simp [utf8Ok]
    · split at hd
      · cases hd
        cases ty
        case binary => simp [bytesVal, isUtf8Ty, utf8Ok]
        case largeBinary => simp [bytesVal, isUtf8Ty, utf8Ok]
        all_goals
          have hb : bytesUtf8 offs data = true := (wf_inv h).2.2 rfl
          simp only [bytesVal, isUtf8Ty, if_true, utf8Ok]
          exact validUtf8_spec_read _ (bytesUtf8_slot offs data hb i hi)
      · simp [fail] at hd
  | .bytesView ty v views buffers => fun dt nl i lv h hd => by
    cases ty
    case binaryView =>
      simp only [decodeAt] at hd
      obtain ⟨_, ⟨_, rfl⟩ | ⟨_, hd⟩⟩ := guarded_inv hd
      · simp [utf8Ok]
      · obtain ⟨b, _, hd⟩ := R.bind_ok_inv hd
        cases hd
        have : (ViewTy.binaryView == ViewTy.utf8View) = false := by decide
        simp [bytesVal, this, utf8Ok]
    case utf8View =>
      have hi : i < lenOf (.bytesView .utf8View v views buffers) := by
        simp only [decodeAt] at hd
        exact (ite_oob_ok hd).1
      have hall := (wf_inv h).2.2.2 rfl
      rw [List.all_eq_true] at hall
      have := hall _ (decodeAll_getElem _ i hi)
      rw [hd] at this
      cases lv <;> simp at this
      · simp [utf8Ok]
      · simp only [utf8Ok]; exact validUtf8_spec_read _ this
  | .struct len v cols => fun dt nl i lv h hd => by
    obtain ⟨_, ⟨rfl, _⟩ | ⟨l, hl, rfl, _⟩⟩ := struct_inv hd
    · rfl
    · obtain ⟨fs, _, _, hw⟩ := wf_inv h
      simp only [utf8Ok]
      exact wfFields_utf8 cols fs len i l hw hl
  | .list lg v offs fm el => fun dt nl i lv h hd => by
    obtain ⟨_, ⟨rfl, _⟩ | ⟨xs, hxs, rfl, _⟩⟩ := list_inv hd
    · rfl
    · obtain ⟨f, _, _, _, hw⟩ := wf_inv h
      simp only [utf8Ok]
      refine utf8OkList_ofList xs (fun x hx => ?_)
      obtain ⟨j, hj⟩ := rangeAt_mem hxs x hx
      exact wf_utf8 el _ _ j x hw hj
  | .fixedSizeList len v n fm el => fun dt nl i lv h hd => by
    obtain ⟨_, ⟨rfl, _⟩ | ⟨xs, _, hxs, rfl, _⟩⟩ := fsl_inv hd
    · rfl
    · obtain ⟨f, _, _, _, _, _, hw⟩ := wf_inv h
      simp only [utf8Ok]
      refine utf8OkList_ofList xs (fun x hx => ?_)
      obtain ⟨j, hj⟩ := rangeAt_mem hxs x hx
      exact wf_utf8 el _ _ j x hw hj
  | .map v offs mm ks vs => fun dt nl i lv h hd => by
    obtain ⟨_, ⟨rfl, _⟩ | ⟨k, w, hk, hw, rfl, _⟩⟩ := map_inv hd
    · rfl
    · obtain ⟨kf, vf, _, _, _, _, _, _, hwk, hwv⟩ := wf_inv h
      simp only [utf8Ok]
      refine utf8OkEntries_zip k w (fun x hx => ?_) (fun x hx => ?_)
      · obtain ⟨j, hj⟩ := rangeAt_mem hk x hx
        exact wf_utf8 ks _ _ j x hwk hj
      · obtain ⟨j, hj⟩ := rangeAt_mem hw x hx
        exact wf_utf8 vs _ _ j x hwv hj
  | .dictionary ks vs => fun dt nl i lv h hd => by
    simp only [decodeAt] at hd
    obtain ⟨_, hd⟩ := ite_oob_ok hd
    obtain ⟨k, hk, hd⟩ := R.bind_ok_inv hd
    obtain ⟨_, vdt, _, _, hwv⟩ := wf_inv h
    cases k with
    | null => cases hd; simp [utf8Ok]
    | int j =>
      simp only at hd
      split at hd
      · exact wf_utf8 vs _ _ _ lv hwv hd
      · simp [fail] at hd
    | _ => simp [fail] at hd
  | .union types offs cols => fun dt nl i lv h hd => by
    simp only [decodeAt] at hd
    obtain ⟨_, hd⟩ := ite_oob_ok hd
    obtain ⟨fs, _, _, _, _, _, hw⟩ := wf_inv h
    split at hd
    · simp [fail] at hd
    · rename_i pos _
      split at hd
      · split at hd
        · obtain ⟨x, hv, hd⟩ := R.bind_ok_inv hd
          cases hd
          simp only [utf8Ok]
          exact wfUFields_utf8 cols fs 0 pos _ x hw hv
        · simp [fail] at hd
      · obtain ⟨x, hv, hd⟩ := R.bind_ok_inv hd
        cases hd
        simp only [utf8Ok]
        exact wfUFields_utf8 cols fs 0 pos _ x hw hv
theorem wfFields_utf8 : ∀ (cols : ArrFields) (fs : Fields) (len i : Nat) (l : List (String × LVal)),
    wfFields fs cols len = true → decodeFieldsAt cols i = .ok l → utf8OkFields (LFields.ofList l) = true
  | .nil => fun _ _ _ l _ hd => by
    simp only [decodeFieldsAt] at hd; cases hd; simp [LFields.ofList, utf8OkFields]
  | .cons fm a rest => fun fs len i l h hd => by
    obtain ⟨f, frest, rfl, _, _, hw, hrest⟩ := wfFields_cons_inv h
    simp only [decodeFieldsAt] at hd
    obtain ⟨x, hx, hd⟩ := R.bind_ok_inv hd
    obtain ⟨r, hr, hd⟩ := R.bind_ok_inv hd
    cases hd
    simp [LFields.ofList, utf8OkFields, wf_utf8 a _ _ i x hw hx, wfFields_utf8 rest frest len i r hrest hr]
theorem wfUFields_utf8 : ∀ (cols : ArrUFields) (fs : UFields) (k : Int) (pos j : Nat) (x : LVal),
    wfUFields fs cols k = true → decodeVariantAt cols pos j = .ok x → utf8Ok x = true
  | .nil => fun _ _ _ _ _ _ hd => by simp [decodeVariantAt, oob, fail] at hd
  | .cons tid fm a rest => fun fs k pos j x h hd => by
    obtain ⟨f, frest, rfl, _, _, hw, hrest⟩ := wfUFields_cons_inv h
    cases pos with
    | zero => simp only [decodeVariantAt] at hd; exact wf_utf8 a _ _ j x hw hd
    | succ p => simp only [decodeVariantAt] at hd; exact wfUFields_utf8 rest frest (k + 1) p j x hrest hd
end

theorem WF_utf8 (f : Field) (a : Arr) (i : Nat) (lv : LVal) (h : WFS f a = true) (hd : decodeAt a i = .ok lv) :
    utf8Ok lv = true := wf_utf8 a _ _ i lv h hd

end SaModel.Lemmas.C03
