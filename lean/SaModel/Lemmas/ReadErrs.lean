import SaModel.Lemmas.ReadLeaf
/-
What a read can end in.  `Errs G r`: every error of `r` lies in `G`.  `NodeOps fx G`: the operations of a reader node that
look at the buffers — the required read of a reader without children, `is_some`, the heads of the list /
fixed-size-list / union reads — end only in errors of `G`, and `G` holds every plain `Err`.  Then so does every read,
whatever the target (`readAs_errs`, `readAny_errs`): the readers combine those operations by `>>=`, loops and plain
failures only.  "Never unwinds" (`Fixes.all`, Props/C17) and "never annotated" (every `fx`, C18ReadNoCtx) are instances.
-/
namespace SaModel.Read
open SaModel

structure NodeOps (fx : Fixes) (G : Fail → Prop) : Prop where
  err : ∀ m, G (.err m)
  leafReq : ∀ {a i} {β : Type} {r : R β}, LeafReq fx a i r → Errs G r
  isSome : ∀ a i, Errs G (isSome fx a i)
  listRange : ∀ offs i, Errs G (listRange fx offs i)
  fslRange : ∀ len n i, Errs G (fslRange fx len n i)
  unionSelect : ∀ types offs n i, Errs G (unionSelect fx types offs n i)

theorem NoPanic.errs {α} {x : R α} (h : NoPanic x) : Errs (fun e => ∀ s, e ≠ .panic s) x := fun _ he s hs => h s (hs ▸ he)
theorem Errs.noPanic {α} {x : R α} (h : Errs (fun e => ∀ s, e ≠ .panic s) x) : NoPanic x := fun s hs => h _ hs s rfl

/-- the variant `unionSelect` hands out is one the union has -/
theorem unionSelect_lt {fx : Fixes} {types : List Int} {offs : Option (List Int)} {n idx k off : Nat}
    (h : unionSelect fx types offs n idx = .ok (k, off)) : k < n := by
  unfold unionSelect at h
  split at h
  · cases h
  · split at h
    · cases h
    · split at h
      · cases h
      · split at h
        · obtain ⟨_, _, h⟩ := R.bind_ok_inv h
          split at h
          · rename_i hk; cases h; exact hk.2
          · split at h <;> cases h
        · cases h

theorem nth_of_lt : ∀ (fs : ArrUFields) (k : Nat), k < fs.length → ∃ fm c, ArrUFields.nth fs k = some (fm, c)
  | .nil, _, h => by simp [ArrUFields.length] at h
  | .cons _ fm c _, 0, _ => ⟨fm, c, rfl⟩
  | .cons _ _ _ rest, k + 1, h => by
    simp only [ArrUFields.nth]
    exact nth_of_lt rest k (by simp [ArrUFields.length] at h; omega)

section
variable {fx : Fixes} {G : Fail → Prop} (h : NodeOps fx G)
include h

theorem NodeOps.plain {α} {r : R α} (hr : PlainOnly r) : Errs G r := fun e he => by
  obtain ⟨m, rfl⟩ := hr e he; exact h.err m

theorem NodeOps.fail {α} (m : String) : Errs G (fail m : R α) := h.plain (PlainOnly.fail m)

theorem anyAt_errs (a : Arr) {f : Nat → R DVal} (hf : ∀ j, Errs G (f j)) (i : Nat) : Errs G (anyAt fx a f i) := by
  unfold anyAt
  refine Errs.bind (h.isSome a i) fun b _ => ?_
  cases b
  · exact Errs.pure _
  · exact hf i

mutual
theorem readAnySome_errs : ∀ (a : Arr) (i : Nat), Errs G (readAnySome fx a i)
  | .struct len v fs, i => by
    unfold readAnySome
    split
    · exact h.fail _
    · exact Errs.bind (readAnyFields_errs fs i) fun _ _ => Errs.pure _
  | .list l v offs fm el, i => by
    unfold readAnySome
    exact Errs.bind (h.listRange _ _) fun _ _ =>
      Errs.bind (Errs.readRange (anyAt_errs h el (readAnySome_errs el)) _ _) fun _ _ => Errs.pure _
  | .fixedSizeList len v n fm el, i => by
    unfold readAnySome
    exact Errs.bind (h.fslRange _ _ _) fun _ _ =>
      Errs.bind (Errs.readRange (anyAt_errs h el (readAnySome_errs el)) _ _) fun _ _ => Errs.pure _
  | .map v offs mm ks vs, i => by
    unfold readAnySome
    refine Errs.bind (h.listRange _ _) fun _ _ => Errs.bind (Errs.readRange (fun j => ?_) _ _) fun _ _ => Errs.pure _
    exact Errs.bind (anyAt_errs h ks (readAnySome_errs ks) j) fun _ _ =>
      Errs.bind (anyAt_errs h vs (readAnySome_errs vs) j) fun _ _ => Errs.pure _
  | .union types offs fs, i => by
    unfold readAnySome
    exact Errs.bind (h.unionSelect _ _ _ _) fun r hs => readAnyVariant_errs fs r.1 r.2 (unionSelect_lt hs)
  | .null _, i | .boolean _ _ _, i | .prim _ _ _, i | .time _ _ _ _, i | .timestamp _ _ _ _, i | .decimal128 _ _ _ _, i
  | .bytes _ _ _ _, i | .bytesView _ _ _ _, i | .fixedSizeBinary _ _ _, i | .dictionary _ _, i =>
    anySome_cases fx _ i rfl fun _ _ hr => Errs.bind (h.leafReq hr) fun _ _ => Errs.pure _
theorem readAnyFields_errs : ∀ (fs : ArrFields) (i : Nat), Errs G (readAnyFields fx fs i)
  | .nil, _ => Errs.ok _
  | .cons fm a rest, i => by
    unfold readAnyFields
    exact Errs.bind (anyAt_errs h a (readAnySome_errs a) i) fun _ _ =>
      Errs.bind (readAnyFields_errs rest i) fun _ _ => Errs.pure _
theorem readAnyVariant_errs : ∀ (fs : ArrUFields) (k off : Nat), k < fs.length → Errs G (readAnyVariant fx fs k off)
  | .nil, _, _, hk => by simp [ArrUFields.length] at hk
  | .cons _ fm a _, 0, off, _ => by
    unfold readAnyVariant
    exact Errs.bind (anyAt_errs h a (readAnySome_errs a) off) fun _ _ => Errs.pure _
  | .cons _ _ _ rest, k + 1, off, hk => by
    unfold readAnyVariant
    exact readAnyVariant_errs rest k off (by simp [ArrUFields.length] at hk; omega)
end

theorem readAny_errs (a : Arr) (i : Nat) : Errs G (readAny fx a i) := anyAt_errs h a (readAnySome_errs h a) i

theorem scalarAs_errs (t : Target) (m : Method) (a : Arr) (i : Nat) : Errs G (do accept t (← scalar fx m a i)) :=
  Errs.bind (scalar_cases fx m a i (h.fail _) fun _ _ hr hk => Errs.bind (h.leafReq hr) fun x _ => h.plain (hk x))
    fun _ _ => h.plain (plainOnly_accept _ _)

theorem tupleVisit_errs {rf : ArrFields → R (List DVal)} (hrf : ∀ fs, Errs G (rf fs)) (a : Arr) (i : Nat) :
    Errs G (tupleVisit fx rf a i) := by
  unfold tupleVisit
  split
  · exact Errs.bind (h.plain (plainOnly_structItem _ _ _)) fun _ _ => Errs.bind (hrf _) fun _ _ => Errs.pure _
  · exact h.fail _

theorem structVisit_errs {rf : Slots → String → Arr → R (Option (Nat × DVal))} (hrf : ∀ s n c, Errs G (rf s n c))
    (tfs : TFields) (a : Arr) (i : Nat) : Errs G (structVisit fx rf tfs a i) := by
  unfold structVisit
  split
  · refine Errs.bind (h.plain (plainOnly_structItem _ _ _)) fun _ _ => Errs.bind (Errs.foldlM _ _ fun slots x _ => ?_) fun _ _ =>
      Errs.bind (h.plain (plainOnly_finishFields _ _ _)) fun _ _ => Errs.pure _
    refine Errs.bind (hrf _ _ _) fun r _ => ?_
    cases r
    · exact Errs.bind (readAny_errs h _ _) fun _ _ => Errs.pure _
    · exact Errs.pure _
  · exact h.fail _

mutual
theorem readAs_errs : ∀ (t : Target) (a : Arr) (i : Nat), Errs G (readAs fx t a i)
  | .any, a, i => by unfold readAs; exact readAny_errs h a i
  | .ignored, a, i => by unfold readAs; exact Errs.bind (readAny_errs h a i) fun _ _ => Errs.pure _
  | .unit, a, i | .unitStruct, a, i | .bool, a, i | .int _, a, i | .f32, a, i | .f64, a, i | .char, a, i
  | .string, a, i | .str, a, i => by unfold readAs; exact scalarAs_errs h _ _ a i
  | .bytes, a, i => by
    unfold readAs
    split
    · exact Errs.bind (h.listRange _ _) fun _ _ => h.fail _
    · exact scalarAs_errs h _ _ a i
  | .byteBuf, a, i => by
    unfold readAs
    split
    · exact Errs.bind (h.listRange _ _) fun _ _ =>
        Errs.bind (Errs.readRange (fun j => scalarAs_errs h _ _ _ j) _ _) fun _ _ => Errs.pure _
    · exact scalarAs_errs h _ _ a i
  | .option t, a, i => by
    unfold readAs
    refine Errs.bind (h.isSome a i) fun b _ => ?_
    cases b
    · exact Errs.pure _
    · exact Errs.bind (readAs_errs t a i) fun _ _ => Errs.pure _
  | .newtype t, a, i => by unfold readAs; exact readAs_errs t a i
  | .seq t, a, i => by
    unfold readAs
    split
    · exact Errs.bind (h.listRange _ _) fun _ _ =>
        Errs.bind (Errs.readRange (fun j => readAs_errs t _ j) _ _) fun _ _ => Errs.pure _
    · exact Errs.bind (h.fslRange _ _ _) fun _ _ =>
        Errs.bind (Errs.readRange (fun j => readAs_errs t _ j) _ _) fun _ _ => Errs.pure _
    · split
      · rename_i rb hb
        exact Errs.bind (h.leafReq (binaryElems_cases hb)) fun b _ =>
          Errs.bind (Errs.mapM b fun x _ => h.plain (plainOnly_u8As t x)) fun _ _ => Errs.pure _
      · exact h.fail _
  | .tuple ts, a, i | .tupleStruct ts, a, i => by
    unfold readAs; exact tupleVisit_errs h (fun fs => readTupleFields_errs ts fs i) a i
  | .map k v, a, i => by
    unfold readAs
    split
    · refine Errs.bind (h.plain (plainOnly_structItem _ _ _)) fun _ _ => Errs.bind (Errs.mapM _ fun p _ => ?_) fun _ _ => Errs.pure _
      exact Errs.bind (h.plain (plainOnly_strDeAs _ _)) fun _ _ => Errs.bind (readAs_errs v _ i) fun _ _ => Errs.pure _
    · refine Errs.bind (h.listRange _ _) fun _ _ => Errs.bind (Errs.readRange (fun j => ?_) _ _) fun _ _ => Errs.pure _
      exact Errs.bind (readAs_errs k _ j) fun _ _ => Errs.bind (readAs_errs v _ j) fun _ _ => Errs.pure _
    · exact h.fail _
  | .struct tfs, a, i => by
    unfold readAs
    exact structVisit_errs h (fun slots name c => readFieldAs_errs tfs 0 slots name c i) tfs a i
  | .enum byIndex vs, a, i => by
    unfold readAs
    split
    · rename_i types offs fs
      refine Errs.bind (h.unionSelect _ _ _ _) fun r hs => ?_
      obtain ⟨fm, c, hn⟩ := nth_of_lt fs r.1 (unionSelect_lt hs)
      simp only [hn]
      exact readVariantAs_errs vs _ fm.name (some (c, r.2))
    · split
      · rename_i rs hs
        refine Errs.bind (h.leafReq (stringElem_cases hs)) fun b _ => ?_
        split
        · exact h.fail _
        · exact readVariantAsBytes_errs vs b
      · exact h.fail _
theorem readTupleFields_errs : ∀ (ts : Targets) (fs : ArrFields) (i : Nat), Errs G (readTupleFields fx ts fs i)
  | .nil, _, _ => by unfold readTupleFields; exact Errs.ok _
  | .cons t rest, fs, i => by
    unfold readTupleFields
    split
    · exact h.fail _
    · exact Errs.bind (readAs_errs t _ i) fun _ _ => Errs.bind (readTupleFields_errs rest _ i) fun _ _ => Errs.pure _
theorem readFieldAs_errs : ∀ (tfs : TFields) (pos : Nat) (slots : Slots) (name : String) (c : Arr) (i : Nat),
    Errs G (readFieldAs fx tfs pos slots name c i)
  | .nil, _, _, _, _, _ => by unfold readFieldAs; exact Errs.ok _
  | .cons n t rest, pos, slots, name, c, i => by
    unfold readFieldAs
    split
    · split
      · exact h.fail _
      · exact Errs.bind (readAs_errs t c i) fun _ _ => Errs.pure _
    · exact readFieldAs_errs rest (pos + 1) slots name c i
theorem readVariantAs_errs : ∀ (vs : TVariants) (sel : Option Nat) (name : String) (src : Option (Arr × Nat)),
    Errs G (readVariantAs fx vs sel name src)
  | .nil, _, _, _ => by unfold readVariantAs; exact h.fail _
  | .cons n k rest, sel, name, src => by
    unfold readVariantAs
    split <;> (split <;> first
      | exact Errs.bind (readKind_errs k src) fun _ _ => Errs.pure _
      | exact readVariantAs_errs rest _ name src)
theorem readVariantAsBytes_errs : ∀ (vs : TVariants) (s : Bytes), Errs G (readVariantAsBytes fx vs s)
  | .nil, _ => by unfold readVariantAsBytes; exact h.fail _
  | .cons n k rest, s => by
    unfold readVariantAsBytes
    split
    · exact Errs.bind (readKind_errs k none) fun _ _ => Errs.pure _
    · exact readVariantAsBytes_errs rest s
theorem readKind_errs : ∀ (k : VKind) (src : Option (Arr × Nat)), Errs G (readKind fx k src)
  | .unit, some (c, off) => by unfold readKind; exact scalarAs_errs h _ _ c off
  | .unit, none => by unfold readKind; exact Errs.ok _
  | .newtype t, some (c, off) => by unfold readKind; exact readAs_errs t c off
  | .tuple ts, some (c, off) => by
    unfold readKind; exact tupleVisit_errs h (fun fs => readTupleFields_errs ts fs off) c off
  | .struct tfs, some (c, off) => by
    unfold readKind; exact structVisit_errs h (fun slots name c' => readFieldAs_errs tfs 0 slots name c' off) tfs c off
  | .newtype _, none | .tuple _, none | .struct _, none => by unfold readKind; exact h.fail _
end
end

end SaModel.Read
