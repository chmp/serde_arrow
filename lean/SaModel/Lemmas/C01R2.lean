import SaModel.Lemmas.C01ObsR2
/-
R2 on the strict invariant — the appended row is the documented one: `push ext b x = ok b'` with `dec b' = dec b ++ [lv]`
implies `Spec.interpDT ext dt nullable md x = ok lv` whenever `b` is the builder of the field `(dt, nullable, md)`.
Every statement is the one of Lemmas/C01ObsR2.lean (`WFH` / `NoDictKey`, observable rows) at a strictly well-formed
state: there every row is determined, so `dec b' = dec b ++ ls` says the same as `Refines (decH b') (decH b ++ ls.map some)`
(`refines_of_dec`), and a strict mid-record state is an observable one (`Mid.toH`).

Hypotheses beside those of R1: `Shape b dt nullable md` and `rawOK` (raw key/value call streams alternate).
-/
namespace SaModel.Build
open SaModel SaModel.Spec
open SaModel.Lemmas.C03 (ViewSmall ViewSmallL)

/-! ### R2 and its loops -/

theorem push_interp (ext : Ext) (nar : Bool) : ∀ (x : SVal) (b b' : B) (dt : DataType) (n : Bool) (md : Metadata) (lv : LVal),
    rawOK nar x = true → (nar = true → narrowDT dt = true) → WFB b → Safe b → Shape b dt n md → push ext b x = .ok b' →
    dec b' = dec b ++ [lv] →
    ViewSmall b' → interpDT ext dt n md x = .ok lv := by
  intro x b b' dt n md lv hraw hnar hwf hs hsh h hd hsm
  have hw := WFH_of_WFB b hwf
  have hn := NoDictKey_of_Safe b hs
  obtain ⟨_, lv', hr⟩ := push_refines ext x b b' hw hn h
  exact push_interpH ext nar x b b' dt n md lv hraw hnar hw hn hsh h (refines_of_dec (ls' := [lv']) hwf hr hd) hsm

theorem pushElems_interp (ext : Ext) (nar : Bool) : ∀ (xs : SVals), rawOKs nar xs = true →
    ElemsSpec ext (nar = true) xs (fun large el offs => pushElems ext large el offs xs) := by
  intro xs hraw large el offs r cdt cn cmd ls hnc hwf hs hsh h hd hsm
  have hw := WFH_of_WFB el hwf
  have hn := NoDictKey_of_Safe el hs
  obtain ⟨_, ls', hr, _⟩ := (obs_cases ext nar).elems xs large el offs r h hw hn
  exact pushElems_interpH ext nar xs hraw large el offs r cdt cn cmd ls hnc hw hn hsh h (refines_of_dec hwf hr hd) hsm

theorem pushCountElems_interp (ext : Ext) (nar : Bool) : ∀ (xs : SVals), rawOKs nar xs = true →
    CountSpec ext (nar = true) xs (fun el c => pushCountElems ext el c xs) := by
  intro xs hraw el c r cdt cn cmd ls hnc hwf hs hsh h hd hsm
  have hw := WFH_of_WFB el hwf
  have hn := NoDictKey_of_Safe el hs
  obtain ⟨_, ls', hr, _⟩ := (obs_cases ext nar).count xs el c r h hw hn
  exact pushCountElems_interpH ext nar xs hraw el c r cdt cn cmd ls hnc hw hn hsh h (refines_of_dec hwf hr hd) hsm

theorem pushTupleElems_interp (ext : Ext) (nar : Bool) : ∀ (xs : SVals) (fs0 : BL) (s s' : SS) (adds adds' : List (List LVal))
    (sfs : Fields), rawOKs nar xs = true → (nar = true → narrowFs sfs = true) → Mid fs0 s adds → Mid fs0 s' adds' → ShapeL s.fields sfs →
    pushTupleElems ext s xs = .ok s' → ViewSmallL s'.fields →
    ∀ j f, sfs.toList[j]? = some f → (j < s.next → adds'.getD j [] = adds.getD j []) ∧
      (s.next ≤ j → ∃ found, interpNth ext f.dataType f.nullable f.metadata (j - s.next) xs = .ok found ∧
        adds'.getD j [] = adds.getD j [] ++ found) :=
  fun xs fs0 s s' adds adds' sfs hraw hnf hm hm' =>
    pushTupleElems_interpH ext nar xs fs0 s s' adds adds' sfs hraw hnf hm.toH hm'.toH

theorem pushFields_interp (ext : Ext) (nar : Bool) : ∀ (fields : SFields) (fs0 : BL) (s s' : SS) (adds adds' : List (List LVal))
    (sfs : Fields), rawOKf nar fields = true → (nar = true → narrowFs sfs = true) → Mid fs0 s adds → Mid fs0 s' adds' → ShapeL s.fields sfs →
    pushFields ext s fields = .ok s' → ViewSmallL s'.fields →
    ∀ j f, sfs.toList[j]? = some f → ∃ found,
      interpByName ext f.name f.dataType f.nullable f.metadata fields = .ok found ∧
      adds'.getD j [] = adds.getD j [] ++ found :=
  fun fields fs0 s s' adds adds' sfs hraw hnf hm hm' =>
    pushFields_interpH ext nar fields fs0 s s' adds adds' sfs hraw hnf hm.toH hm'.toH

theorem pushStructEntries_interp (ext : Ext) (nar : Bool) : ∀ (es : SEntries) (fs0 : BL) (s s' : SS) (adds adds' : List (List LVal))
    (sfs : Fields), rawOKe nar es = true → (nar = true → narrowFs sfs = true) → Mid fs0 s adds → Mid fs0 s' adds' → ShapeL s.fields sfs →
    pushStructEntries ext s es = .ok s' → ViewSmallL s'.fields →
    ∀ j f, sfs.toList[j]? = some f → ∃ found,
      interpByKey ext f.name f.dataType f.nullable f.metadata es = .ok found ∧
      adds'.getD j [] = adds.getD j [] ++ found :=
  fun es fs0 s s' adds adds' sfs hraw hnf hm hm' =>
    pushStructEntries_interpH ext nar es fs0 s s' adds adds' sfs hraw hnf hm.toH hm'.toH

theorem pushStructOps_interp (ext : Ext) (nar : Bool) : ∀ (ops : SMapOps) (fs0 : BL) (s s' : SS) (adds adds' : List (List LVal))
    (sfs : Fields), nar = true → ssaO ops = true → narrowFs sfs = true → s.fields.length < UNKNOWN_KEY → Mid fs0 s adds →
    Mid fs0 s' adds' → ShapeL s.fields sfs → pushStructOps ext s ops = .ok s' → ViewSmallL s'.fields →
    ∀ j f, sfs.toList[j]? = some f → ∃ found,
      interpByKeyOps ext f.name f.dataType f.nullable f.metadata ops = .ok found ∧
      adds'.getD j [] = adds.getD j [] ++ found :=
  fun ops fs0 s s' adds adds' sfs hn hraw hnf hlen hm hm' =>
    pushStructOps_interpH ext nar ops fs0 s s' adds adds' sfs hn hraw hnf hlen hm.toH hm'.toH

theorem pushMapOps_interp (ext : Ext) (nar : Bool) : ∀ (ops : SMapOps) (offs : List Int) (ks vs : B) (r : List Int × B × B)
    (kdt : DataType) (kn : Bool) (kmd : Metadata) (vdt : DataType) (vn : Bool) (vmd : Metadata) (lk lw : List LVal),
    nar = true → ssaO ops = true → narrowDT kdt = true → narrowDT vdt = true → WFB ks → WFB vs → Safe ks → Safe vs →
    Shape ks kdt kn kmd → Shape vs vdt vn vmd →
    pushMapOps ext false offs ks vs ops = .ok r → dec r.2.1 = dec ks ++ lk → dec r.2.2 = dec vs ++ lw →
    ViewSmall r.2.1 ∧ ViewSmall r.2.2 → interpOps ext kdt kn kmd vdt vn vmd ops = .ok (lk.zip lw) := by
  intro ops offs ks vs r kdt kn kmd vdt vn vmd lk lw hn hraw hnk hnv hwk hwv hsk hsv hshk hshv h hdk hdv hsm
  have hk := WFH_of_WFB ks hwk
  have hv := WFH_of_WFB vs hwv
  have hnk' := NoDictKey_of_Safe ks hsk
  have hnv' := NoDictKey_of_Safe vs hsv
  obtain ⟨_, _, lk', lw', _, hrk, hrv, _⟩ := (obs_cases ext nar).mapOps ops false offs ks vs r h hk hv hnk' hnv'
  exact pushMapOps_interpH ext nar ops offs ks vs r kdt kn kmd vdt vn vmd lk lw hn hraw hnk hnv hk hv hnk' hnv' hshk hshv h
    (refines_of_dec hwk hrk hdk) (refines_of_dec hwv hrv hdv) hsm

theorem pushMapEntries_interp (ext : Ext) (nar : Bool) : ∀ (es : SEntries) (offs : List Int) (ks vs : B) (r : List Int × B × B)
    (kdt : DataType) (kn : Bool) (kmd : Metadata) (vdt : DataType) (vn : Bool) (vmd : Metadata) (lk lw : List LVal),
    rawOKe nar es = true → (nar = true → narrowDT kdt = true) → (nar = true → narrowDT vdt = true) → WFB ks → WFB vs → Safe ks → Safe vs →
    Shape ks kdt kn kmd → Shape vs vdt vn vmd →
    pushMapEntries ext offs ks vs es = .ok r → dec r.2.1 = dec ks ++ lk → dec r.2.2 = dec vs ++ lw →
    ViewSmall r.2.1 ∧ ViewSmall r.2.2 → interpEntries ext kdt kn kmd vdt vn vmd es = .ok (lk.zip lw) := by
  intro es offs ks vs r kdt kn kmd vdt vn vmd lk lw hraw hnk hnv hwk hwv hsk hsv hshk hshv h hdk hdv hsm
  have hk := WFH_of_WFB ks hwk
  have hv := WFH_of_WFB vs hwv
  have hnk' := NoDictKey_of_Safe ks hsk
  have hnv' := NoDictKey_of_Safe vs hsv
  obtain ⟨_, _, lk', lw', _, hrk, hrv, _⟩ := (obs_cases ext nar).mapEntries es offs ks vs r h hk hv hnk' hnv'
  exact pushMapEntries_interpH ext nar es offs ks vs r kdt kn kmd vdt vn vmd lk lw hraw hnk hnv hk hv hnk' hnv' hshk hshv h
    (refines_of_dec hwk hrk hdk) (refines_of_dec hwv hrv hdv) hsm

end SaModel.Build
