import SaModel.Lemmas.C03AllPush
/-
`push` (the whole mutual block) preserves `LR` (leaf values within the physical range of their type):
    ExtOK ext → FloatOK → SValOK x → LR b → push ext b x = ok b' → LR b'
`LR` is `All lrInv`; its one clause survives a null / placeholder slot (`inLR_zero`) and a scalar call that carries a value
of its own width (`convLeaf_inLR`); the walk over the push block is `push_All` (Lemmas/C03AllPush.lean).
-/
namespace SaModel.Lemmas.C03
open SaModel SaModel.Build SaModel.Spec

def lrInv : NodeInv where
  leaf := LeafOK
  bytes := fun _ _ _ => True
  view := fun _ _ _ => True
  offs := fun _ _ => True
  dict := fun pk pv _ _ => pk ∧ pv
  union := fun pf _ _ => pf

mutual
theorem All_lr : ∀ (b : B), All lrInv b ↔ LR b
  | .null _ _ | .unknownVariant _ | .leaf _ _ _ _ | .bytes _ _ _ _ _ | .bytesView _ _ _ _ _
  | .fixedSizeBinary _ _ _ _ _ _ => by simp only [All, LR, lrInv]
  | .list _ _ _ _ _ el => by simp only [All, LR, All_lr el]; exact ⟨And.right, And.intro trivial⟩
  | .fixedSizeList _ _ _ _ _ _ el => by simp only [All, LR, All_lr el]
  | .map _ _ _ _ ks vs => by simp only [All, LR, All_lr ks, All_lr vs]; exact ⟨And.right, And.intro trivial⟩
  | .struct _ _ _ fs _ _ _ => by simp only [All, LR, AllL_lr fs]
  | .dictionary _ idx vals _ => by simp only [All, LR, All_lr idx, All_lr vals]; exact Iff.rfl
  | .union _ fs _ _ _ => by simp only [All, LR, AllL_lr fs]; exact Iff.rfl
theorem AllL_lr : ∀ (fs : BL), AllL lrInv fs ↔ LRL fs
  | .nil => Iff.rfl
  | .cons b _ r => by simp only [AllL, LRL, All_lr b, AllL_lr r]
end

theorem lrKeeps : Keeps False lrInv where
  leaf_zero := fun h => LeafOK_snoc h (inLR_zero _)
  bytes_chunk := fun _ _ _ _ => trivial
  view_push := fun _ _ _ => trivial
  offs_dup := fun _ _ => trivial
  offs_inc := fun _ _ => trivial
  dict_default := fun _ hk _ h => ⟨hk h.1, h.2⟩
  union_default := fun hf h => hf h

theorem lrKeepsPush (ext : Ext) (he : ExtOK ext) (hf : FloatOK) : KeepsPush ext True False lrInv where
  toKeeps := lrKeeps
  leaf_conv := fun hx hc h => LeafOK_snoc h (convLeaf_inLR ext he hf _ _ _ (hx trivial) hc)
  dict_old := fun hk _ _ h => ⟨hk h.1, h.2⟩
  dict_new := fun hk hv _ h => ⟨hk h.1, hv h.2⟩
  union_row := fun hf _ h => hf h

theorem pushDefaultKAt_LR : ∀ (fs : BL) (j k : Nat) (fs' : BL), pushDefaultKAt fs j k = .ok fs' → LRL fs → LRL fs' :=
  fun fs j k fs' h hp => (AllL_lr fs').1 (pushDefaultKAt_All lrKeeps fs j k fs' False.elim h ((AllL_lr fs).2 hp))

theorem push_LR (ext : Ext) (he : ExtOK ext) (hf : FloatOK) : ∀ (x : SVal) (b b' : B), SValOK x →
    push ext b x = .ok b' → LR b → LR b' :=
  fun x b b' hx h hp =>
    (All_lr b').1 (push_All (lrKeepsPush ext he hf) x b b' (fun _ => hx) h False.elim ((All_lr b).2 hp))

theorem pushElems_LR (ext : Ext) (he : ExtOK ext) (hf : FloatOK) :
    ∀ (xs : SVals) (large : Bool) (el : B) (offs : List Int) (r : B × List Int), SValsOK xs →
    pushElems ext large el offs xs = .ok r → LR el → LR r.1 := by
  intro xs large el offs r hx h hp
  rw [← All_lr] at hp ⊢
  exact (pushElems_All (lrKeepsPush ext he hf) xs (fun _ => hx) large el offs r h False.elim trivial hp).2

theorem pushCountElems_LR (ext : Ext) (he : ExtOK ext) (hf : FloatOK) :
    ∀ (xs : SVals) (el : B) (c : Nat) (r : B × Nat), SValsOK xs →
    pushCountElems ext el c xs = .ok r → LR el → LR r.1 := by
  intro xs el c r hx h hp
  rw [← All_lr] at hp ⊢
  exact pushCountElems_All (lrKeepsPush ext he hf) xs (fun _ => hx) el c r h False.elim hp

theorem pushTupleElems_LR (ext : Ext) (he : ExtOK ext) (hf : FloatOK) :
    ∀ (xs : SVals) (s s' : SS), SValsOK xs → pushTupleElems ext s xs = .ok s' → LRL s.fields → LRL s'.fields := by
  intro xs s s' hx h hp
  rw [← AllL_lr] at hp ⊢
  exact pushTupleElems_All (lrKeepsPush ext he hf) xs (fun _ => hx) s s' h False.elim hp

theorem pushFields_LR (ext : Ext) (he : ExtOK ext) (hf : FloatOK) :
    ∀ (fs : SFields) (s s' : SS), SFieldsOK fs → pushFields ext s fs = .ok s' → LRL s.fields → LRL s'.fields := by
  intro fs s s' hx h hp
  rw [← AllL_lr] at hp ⊢
  exact pushFields_All (lrKeepsPush ext he hf) fs (fun _ => hx) s s' h False.elim hp

theorem pushStructEntries_LR (ext : Ext) (he : ExtOK ext) (hf : FloatOK) : ∀ (es : SEntries) (s s' : SS),
    SEntriesOK es → pushStructEntries ext s es = .ok s' → LRL s.fields → LRL s'.fields := by
  intro es s s' hx h hp
  rw [← AllL_lr] at hp ⊢
  exact pushStructEntries_All (lrKeepsPush ext he hf) es (fun _ => hx) s s' h False.elim hp

theorem pushStructOps_LR (ext : Ext) (he : ExtOK ext) (hf : FloatOK) : ∀ (ops : SMapOps) (s s' : SS),
    SOpsOK ops → pushStructOps ext s ops = .ok s' → LRL s.fields → LRL s'.fields := by
  intro ops s s' hx h hp
  rw [← AllL_lr] at hp ⊢
  exact pushStructOps_All (lrKeepsPush ext he hf) ops (fun _ => hx) s s' h False.elim hp

theorem pushMapEntries_LR (ext : Ext) (he : ExtOK ext) (hf : FloatOK) :
    ∀ (es : SEntries) (offs : List Int) (ks vs : B) (r : List Int × B × B), SEntriesOK es →
    pushMapEntries ext offs ks vs es = .ok r → LR ks → LR vs → LR r.2.1 ∧ LR r.2.2 := by
  intro es offs ks vs r hx h hk hv
  rw [← All_lr] at hk hv ⊢
  rw [← All_lr]
  exact (pushMapEntries_All (lrKeepsPush ext he hf) es (fun _ => hx) offs ks vs r h False.elim False.elim trivial hk hv).2

theorem pushMapOps_LR (ext : Ext) (he : ExtOK ext) (hf : FloatOK) :
    ∀ (ops : SMapOps) (pd : Bool) (offs : List Int) (ks vs : B) (r : List Int × B × B), SOpsOK ops →
    pushMapOps ext pd offs ks vs ops = .ok r → LR ks → LR vs → LR r.2.1 ∧ LR r.2.2 := by
  intro ops pd offs ks vs r hx h hk hv
  rw [← All_lr] at hk hv ⊢
  rw [← All_lr]
  exact (pushMapOps_All (lrKeepsPush ext he hf) ops (fun _ => hx) pd offs ks vs r h False.elim False.elim trivial hk hv).2

end SaModel.Lemmas.C03
