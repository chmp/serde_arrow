import SaModel.Props.C07
/-
C07, tree level — definitions: the schema equivalence on tracers (`TEq`: struct fields as a finite map by name,
`last_seen_in_sample` ignored, `seen_samples` compared only as zero / non-zero), the reachability invariant `WF`,
sample sizes, and the finite-map lemmas about `TFields`.
-/
namespace SaModel.Trace
open SaModel

/-- lookup of a struct field by name (first match): `(last_seen_in_sample, tracer)` -/
def TFields.find : TFields → String → Option (Nat × Tracer)
  | .nil, _ => none
  | .cons n l t r, k => if n = k then some (l, t) else r.find k

def TFields.put : TFields → String → Nat → Tracer → TFields
  | .nil, _, _, _ => .nil
  | .cons n l t r, k, l', t' => if n = k then .cons n l' t' r else .cons n l t (r.put k l' t')

def TFields.names : TFields → List String
  | .nil => []
  | .cons n _ _ r => n :: r.names

end SaModel.Trace

namespace SaModel.Lemmas.C07
open SaModel SaModel.Trace SaModel.Props.C07

mutual
/-- one direction of the equivalence (a simulation); `Eqv` is both directions -/
def TEq : Tracer → Tracer → Prop
  | .unknown n p nl, t' => t' = .unknown n p nl
  | .primitive n p nl ty st, t' => t' = .primitive n p nl ty st
  | .list n p nl i, t' => ∃ i', t' = .list n p nl i' ∧ TEq i i'
  | .map n p nl k v, t' => ∃ k' v', t' = .map n p nl k' v' ∧ TEq k k' ∧ TEq v v'
  | .struct n p nl fs m s, t' => ∃ fs' s', t' = .struct n p nl fs' m s' ∧ (s = 0 ↔ s' = 0) ∧
      (∀ k, (fs.find k).isSome = (fs'.find k).isSome) ∧ FSub fs fs'
  | .tuple n p nl ts, t' => ∃ ts', t' = .tuple n p nl ts' ∧ TsEq ts ts'
  | .union n p nl vs, t' => ∃ vs', t' = .union n p nl vs' ∧ VEq vs vs'
def TsEq : Tracers → Tracers → Prop
  | .nil, ts' => ts' = .nil
  | .cons t r, ts' => ∃ t' r', ts' = .cons t' r' ∧ TEq t t' ∧ TsEq r r'
def FSub : TFields → TFields → Prop
  | .nil, _ => True
  | .cons n _ t r, fs' => (∃ l' t', fs'.find n = some (l', t') ∧ TEq t t') ∧ FSub r fs'
def VEq : Variants → Variants → Prop
  | .nil, vs' => vs' = .nil
  | .absent r, vs' => ∃ r', vs' = .absent r' ∧ VEq r r'
  | .present n t r, vs' => ∃ t' r', vs' = .present n t' r' ∧ TEq t t' ∧ VEq r r'
end

/-- the schema equivalence on tracers the property allows -/
def Eqv (a b : Tracer) : Prop := TEq a b ∧ TEq b a

mutual
/-- what every tracer `from_samples` can reach satisfies: primitive nodes hold a reachable leaf state (type of the
alphabet, no strategy, `Null` only with the nullable flag), struct fields have distinct names, the tracer of a field is
named after the field, and `last_seen_in_sample < seen_samples` between two samples -/
def WF (o : Options) : Tracer → Prop
  | .unknown _ _ _ => True
  | .primitive _ _ nl ty st => st = none ∧ (some ty, nl) ∈ leafStates o
  | .list _ _ _ i => WF o i
  | .map _ _ _ k v => WF o k ∧ WF o v
  | .struct _ _ _ fs _ s => FWF o s fs
  | .tuple _ _ _ ts => TsWF o ts
  | .union _ _ _ vs => VWF o vs
def TsWF (o : Options) : Tracers → Prop
  | .nil => True
  | .cons t r => WF o t ∧ TsWF o r
def FWF (o : Options) (s : Nat) : TFields → Prop
  | .nil => True
  | .cons n l t r => l < s ∧ r.find n = none ∧ t.name = n ∧ WF o t ∧ FWF o s r
def VWF (o : Options) : Variants → Prop
  | .nil => True
  | .absent r => VWF o r
  | .present _ t r => WF o t ∧ VWF o r
end

mutual
def sz : SVal → Nat
  | .some v => sz v + 1
  | .seq items => szs items + 1
  | .tuple items => szs items + 1
  | .tupleStruct _ items => szs items + 1
  | .newtypeStruct _ v => sz v + 1
  | .record _ fields => szf fields + 1
  | .map es => sze es + 1
  | .mapRaw ops => szo ops + 1
  | .unitVariant _ _ _ => 2
  | .newtypeVariant _ _ _ v => sz v + 2
  | .tupleVariant _ _ _ items => szs items + 3
  | .structVariant _ _ _ fields => szf fields + 3
  | _ => 1
def szs : SVals → Nat
  | .nil => 0
  | .cons v r => sz v + szs r + 1
def szf : SFields → Nat
  | .nil => 0
  | .cons _ _ v r => sz v + szf r + 1
def sze : SEntries → Nat
  | .nil => 0
  | .cons k v r => sz k + sz v + sze r + 1
def szo : SMapOps → Nat
  | .nil => 0
  | .key k r => sz k + szo r + 1
  | .value v r => sz v + szo r + 1
end

theorem sz_pos : ∀ x : SVal, 0 < sz x := by
  intro x; cases x <;> simp [sz]

theorem szs_mem : ∀ (l : SVals) (v : SVal), v ∈ l.toList → sz v < szs l + 1
  | .nil, v, h => by simp [SVals.toList] at h
  | .cons a r, v, h => by
    simp only [SVals.toList, List.mem_cons] at h
    simp only [szs]
    rcases h with rfl | h
    · omega
    · have := szs_mem r v h; omega

theorem find_names {fs : TFields} {k : String} : fs.find k = none ↔ k ∉ fs.names := by
  match fs with
  | .nil => simp [TFields.find, TFields.names]
  | .cons n l t r =>
    simp only [TFields.find, TFields.names, List.mem_cons, not_or]
    by_cases h : n = k
    · simp [h]
    · have := @find_names r k
      simp only [h, if_false, this]
      constructor
      · intro h2; exact ⟨fun e => h e.symm, h2⟩
      · intro h2; exact h2.2

theorem indexOf_find {fs : TFields} {k : String} : (fs.indexOf k).isSome = (fs.find k).isSome := by
  match fs with
  | .nil => rfl
  | .cons n l t r =>
    simp only [TFields.indexOf, TFields.find]
    by_cases h : n = k
    · simp [h]
    · simp only [h, if_false, Option.isSome_map]; exact indexOf_find

theorem indexOf_none {fs : TFields} {k : String} (h : fs.find k = none) : fs.indexOf k = none := by
  have := @indexOf_find fs k
  rw [h] at this
  cases h2 : fs.indexOf k with
  | none => rfl
  | some _ => rw [h2] at this; cases this

/-- `ensure_field` + `get` + `set` on an existing key is `put` -/
theorem indexOf_some {fs : TFields} {k : String} {l : Nat} {t : Tracer} (h : fs.find k = some (l, t)) :
    ∃ idx, fs.indexOf k = some idx ∧ ∀ s, (fs.setLastSeen idx s).get? idx = some t ∧
      ∀ t', (fs.setLastSeen idx s).set idx t' = fs.put k s t' := by
  match fs with
  | .nil => simp [TFields.find] at h
  | .cons n l0 t0 r =>
    simp only [TFields.find] at h
    by_cases hn : n = k
    · simp only [hn, if_true, Option.some.injEq, Prod.mk.injEq] at h
      obtain ⟨rfl, rfl⟩ := h
      refine ⟨0, by simp [TFields.indexOf, hn], ?_⟩
      intro s
      simp [TFields.setLastSeen, TFields.get?, TFields.set, TFields.put, hn]
    · simp only [hn, if_false] at h
      obtain ⟨idx, h1, h2⟩ := indexOf_some h
      refine ⟨idx + 1, by simp [TFields.indexOf, hn, h1], ?_⟩
      intro s
      obtain ⟨h3, h4⟩ := h2 s
      refine ⟨by simpa [TFields.setLastSeen, TFields.get?] using h3, ?_⟩
      intro t'
      simp [TFields.setLastSeen, TFields.set, TFields.put, hn, h4 t']

theorem push_get (fs : TFields) (k : String) (l : Nat) (t : Tracer) :
    (fs.push k l t).get? fs.length = some t ∧ ∀ t', (fs.push k l t).set fs.length t' = fs.push k l t' := by
  match fs with
  | .nil => simp [TFields.push, TFields.get?, TFields.length, TFields.set]
  | .cons n l0 t0 r =>
    have := push_get r k l t
    simp [TFields.push, TFields.get?, TFields.length, TFields.set, this.1, this.2]

theorem find_put (fs : TFields) (k : String) (l : Nat) (t : Tracer) (k' : String) :
    (fs.put k l t).find k' = if k = k' then (fs.find k').map (fun _ => (l, t)) else fs.find k' := by
  match fs with
  | .nil => simp [TFields.put, TFields.find]
  | .cons n l0 t0 r =>
    simp only [TFields.put]
    by_cases hn : n = k
    · subst hn
      by_cases hk : n = k' <;> simp [TFields.find, hk]
    · simp only [hn, if_false, TFields.find]
      by_cases hk : n = k'
      · subst hk; simp [Ne.symm hn]
      · simp only [hk, if_false]; exact find_put r k l t k'

theorem find_push (fs : TFields) (k : String) (l : Nat) (t : Tracer) (k' : String) :
    (fs.push k l t).find k' = match fs.find k' with
      | some x => some x
      | none => if k = k' then some (l, t) else none := by
  match fs with
  | .nil => simp [TFields.push, TFields.find]
  | .cons n l0 t0 r =>
    simp only [TFields.push, TFields.find]
    by_cases hk : n = k'
    · simp [hk]
    · simp only [hk, if_false]; exact find_push r k l t k'

theorem find_end (s : Nat) (fs : TFields) (k : String) :
    (fs.end_ s).find k = (fs.find k).map fun lt => (lt.1, if lt.1 != s then lt.2.mark_nullable else lt.2) := by
  match fs with
  | .nil => rfl
  | .cons n l t r =>
    simp only [TFields.end_, TFields.find]
    by_cases hn : n = k
    · simp [hn]
    · simp only [hn, if_false]; exact find_end s r k

end SaModel.Lemmas.C07
