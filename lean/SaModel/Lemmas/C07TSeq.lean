import SaModel.Lemmas.C07TWF
/-
C07, tree level — sample lists (`absorbAll` along `::` and `++`); leaf nodes: `Unknown` / `Primitive` nodes are
the embedded leaf states, container nodes take only `Null` from `ensure_primitive`; then the kinds of container nodes and the
`seq` family.
-/
namespace SaModel.Lemmas.C07
open SaModel SaModel.Trace SaModel.Props.C07

theorem absorbAll_cons_ok {c o t x xs a} (h : absorbAll c o t (x :: xs) = .ok a) :
    ∃ m, absorb c o t x = .ok m ∧ absorbAll c o m xs = .ok a := R.bind_ok_inv h

theorem absorbAll_cons_mk {c o t x xs m a} (h1 : absorb c o t x = .ok m) (h2 : absorbAll c o m xs = .ok a) :
    absorbAll c o t (x :: xs) = .ok a := by
  simp only [absorbAll, bind, Except.bind, h1]; exact h2

theorem absorbAll_append_ok {c o} {xs ys : List SVal} {t a} (h : absorbAll c o t (xs ++ ys) = .ok a) :
    ∃ m, absorbAll c o t xs = .ok m ∧ absorbAll c o m ys = .ok a := by
  rw [C06.absorbAll_append] at h
  cases h1 : absorbAll c o t xs with
  | ok m => rw [h1] at h; exact ⟨m, rfl, h⟩
  | error e => rw [h1] at h; cases h

theorem absorbAll_append_mk {c o} {xs ys : List SVal} {t m a} (h1 : absorbAll c o t xs = .ok m)
    (h2 : absorbAll c o m ys = .ok a) : absorbAll c o t (xs ++ ys) = .ok a := by
  rw [C06.absorbAll_append, h1]; exact h2

def Tracer.isLeaf : Tracer → Bool
  | .unknown _ _ _ | .primitive _ _ _ _ _ => true
  | _ => false

theorem TEq_leaf {a b : Tracer} (h : TEq a b) (hl : Tracer.isLeaf a = true) : b = a := by
  cases a <;> rw [TEq] at h <;> first | exact h | (simp [Tracer.isLeaf] at hl)

theorem ensure_prim_container (o : Options) {t : Tracer} (hl : Tracer.isLeaf t = false) (ty : DataType)
    (st : Option Strategy) : t.ensure_primitive_with_strategy o ty st =
      if isNull ty then .ok t.mark_nullable else fail "Cannot merge container with primitive" := by
  cases t <;> first | rfl | (simp [Tracer.isLeaf] at hl)

theorem WF_leaf_embed {o : Options} {t : Tracer} (hw : WF o t) (hl : Tracer.isLeaf t = true) :
    ∃ s, s ∈ (leafStates o) ∧ t = LeafSt.embed t.name t.path s := by
  cases t <;> simp [Tracer.isLeaf] at hl
  case unknown n p nl =>
    refine ⟨(none, nl), ?_, rfl⟩
    unfold leafStates; cases nl <;> simp
  case primitive n p nl ty st =>
    rw [WF] at hw
    obtain ⟨rfl, h⟩ := hw
    exact ⟨(some ty, nl), h, rfl⟩

theorem WF_embed {o : Options} {n p : String} {s : LeafSt} (h : s ∈ leafStates o) : WF o (LeafSt.embed n p s) := by
  obtain ⟨ty, nl⟩ := s
  cases ty with
  | none => simp only [LeafSt.embed]; rw [WF]; trivial
  | some ty => simp only [LeafSt.embed]; rw [WF]; exact ⟨rfl, h⟩

theorem embed_name (n p : String) (s : LeafSt) : (LeafSt.embed n p s).name = n ∧ (LeafSt.embed n p s).path = p := by
  obtain ⟨ty, nl⟩ := s
  cases ty <;> exact ⟨rfl, rfl⟩

/-! ### the kinds of container nodes (`Shape`), and the `seq` family: what `ensure_list` hands to the element loop. -/

inductive Shape where
  | list | map | struct | tuple | union
deriving DecidableEq, Repr

def Tracer.shape : Tracer → Option Shape
  | .unknown _ _ _ | .primitive _ _ _ _ _ => none
  | .list _ _ _ _ => some .list
  | .map _ _ _ _ _ => some .map
  | .struct _ _ _ _ _ _ => some .struct
  | .tuple _ _ _ _ => some .tuple
  | .union _ _ _ _ => some .union

/-- the container node a sample needs (none: leaves and the transparent wrappers) -/
def cshape (o : Options) : SVal → Option Shape
  | .seq _ => some .list
  | .tuple _ | .tupleStruct _ _ => some .tuple
  | .record _ _ => some .struct
  | .map _ | .mapRaw _ => if o.map_as_struct then some .struct else some .map
  | .unitVariant _ _ _ | .newtypeVariant _ _ _ _ | .tupleVariant _ _ _ _ | .structVariant _ _ _ _ => some .union
  | _ => none

theorem shape_isLeaf {t : Tracer} : Tracer.shape t = none ↔ Tracer.isLeaf t = true := by
  cases t <;> simp [Tracer.shape, Tracer.isLeaf]

theorem shape_mark (t : Tracer) : Tracer.shape t.mark_nullable = Tracer.shape t := by cases t <;> rfl

theorem absorb_seq_ok {o : Options} {t a : Tracer} {items : SVals} (h : absorb .fixed o t (.seq items) = .ok a) :
    ∃ n p nl i i', t.ensure_list = .ok (.list n p nl i) ∧ absorbAll .fixed o i items.toList = .ok i' ∧
      a = .list n p nl i' := (C06.absorb_seq_ok .fixed o t a items).mp h

theorem absorb_seq_mk {o : Options} {t : Tracer} {items : SVals} {n p nl i i'}
    (h1 : t.ensure_list = .ok (.list n p nl i)) (h2 : absorbAll .fixed o i items.toList = .ok i') :
    absorb .fixed o t (.seq items) = .ok (.list n p nl i') :=
  (C06.absorb_seq_ok .fixed o t _ items).mpr ⟨n, p, nl, i, i', h1, h2, rfl⟩

/-- what `ensure_list` hands to the element loop -/
theorem ensure_list_facts {o : Options} {t : Tracer} {n p nl i} (hw : WF o t) (h : t.ensure_list = .ok (.list n p nl i)) :
    WF o i ∧ (∀ j, depthOk (.list n p nl j)) ∧
      ((t.is_unknown_or_null = true) ∨ t = .list n p nl i) := by
  obtain ⟨hd, hc⟩ := ensure_list_inv h
  rcases hc with ⟨hu, e⟩ | ⟨n', p', nl', i', rfl, e⟩
  · cases e
    refine ⟨by rw [Tracer.new, WF]; trivial, fun j => (depthOk_path (a := t) rfl).mpr hd, .inl hu⟩
  · cases e
    rw [WF] at hw
    exact ⟨hw, fun j => (depthOk_path (a := .list n p nl i) rfl).mpr hd, .inr rfl⟩

end SaModel.Lemmas.C07
