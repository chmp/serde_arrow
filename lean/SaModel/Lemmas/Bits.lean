import SaModel.Build.Finish
import SaModel.Spec.Decode
/-
Bitmaps at two levels (DESIGN.md section 3): the builders hold abstract bits (`List Bool`), arrays hold
bytes (`packBits`, LSB first, zero padded).  The two levels are related once, here:

  getBit_packBits      i < |bs|                       → getBit ⟨packBits bs, 0⟩ i = ok bs[i]
  getBit_packBits_pad  |bs| ≤ i < 8 * |packBits bs|   → getBit ⟨packBits bs, 0⟩ i = ok false     (padding is clear)
  getBit_packBits_oob  8 * |packBits bs| ≤ i          → getBit ⟨packBits bs, 0⟩ i = error
  getBit_offset        getBit ⟨d, o + k⟩ i = getBit ⟨d, o⟩ (k + i)                              (slices, C12)
  packBits_length'     |packBits bs| = ⌈|bs| / 8⌉
-/
namespace SaModel.Lemmas.Bits
open SaModel SaModel.Build SaModel.Spec

/-- little-endian value of a bit list -/
def bitsVal : List Bool → Nat
  | [] => 0
  | b :: bs => b.toNat + 2 * bitsVal bs

theorem zipIdx_sum (bs : List Bool) (k : Nat) :
    ((bs.zipIdx k).map fun (b, i) => if b then 2 ^ i else 0).sum = 2 ^ k * bitsVal bs := by
  induction bs generalizing k with
  | nil => simp [bitsVal]
  | cons b rest ih =>
    simp only [List.zipIdx_cons, List.map_cons, List.sum_cons, ih, bitsVal]
    cases b
    · simp [Nat.pow_succ, Nat.mul_assoc]
    · simp [Nat.pow_succ, Nat.mul_add, Nat.mul_assoc]

theorem bitsVal_lt (bs : List Bool) : bitsVal bs < 2 ^ bs.length := by
  induction bs with
  | nil => simp [bitsVal]
  | cons b rest ih =>
    simp only [bitsVal, List.length_cons, Nat.pow_succ]
    cases b <;> simp <;> omega

theorem testBit_bitsVal (bs : List Bool) (j : Nat) : (bitsVal bs).testBit j = bs.getD j false := by
  induction bs generalizing j with
  | nil => simp [bitsVal]
  | cons b rest ih =>
    cases j with
    | zero =>
      simp only [bitsVal, Nat.testBit_zero, List.getD_cons_zero]
      cases b <;> simp <;> omega
    | succ j =>
      simp only [bitsVal, Nat.testBit_succ, List.getD_cons_succ]
      have : (b.toNat + 2 * bitsVal rest) / 2 = bitsVal rest := by cases b <;> simp <;> omega
      rw [this, ih]

theorem packByte_toNat (bs : List Bool) (h : bs.length ≤ 8) : (packByte bs).toNat = bitsVal bs := by
  unfold packByte
  have hs := zipIdx_sum bs 0
  simp only [Nat.pow_zero, Nat.one_mul] at hs
  rw [hs]
  have h1 := bitsVal_lt bs
  have h2 : 2 ^ bs.length ≤ 2 ^ 8 := Nat.pow_le_pow_right (by omega) h
  simp only [UInt8.toNat_ofNat']
  exact Nat.mod_eq_of_lt (by omega)

/-- bit `j` of a packed chunk of at most 8 bits is the `j`-th bit of the chunk (clear beyond its end) -/
theorem testBit_packByte (bs : List Bool) (h : bs.length ≤ 8) (j : Nat) :
    (packByte bs).toNat.testBit j = bs.getD j false := by
  rw [packByte_toNat bs h, testBit_bitsVal]

theorem packBits_cons_eq (b : Bool) (bs : List Bool) :
    packBits (b :: bs) = packByte ((b :: bs).take 8) :: packBits ((b :: bs).drop 8) := by
  rw [packBits]

/-- byte `k` of the packed bitmap is the packed `k`-th chunk of 8 bits -/
theorem packBits_getElem? : ∀ (n : Nat) (bs : List Bool) (k : Nat), bs.length = n →
    (packBits bs)[k]? = if 8 * k < bs.length then some (packByte ((bs.drop (8 * k)).take 8)) else none := by
  intro n
  induction n using Nat.strongRecOn with
  | _ n ih =>
    intro bs k hn
    cases bs with
    | nil => simp [packBits]
    | cons b rest =>
      rw [packBits_cons_eq]
      cases k with
      | zero => simp
      | succ k =>
        have hlen : ((b :: rest).drop 8).length = n - 8 := by
          simp only [List.length_drop, hn]
        simp only [List.getElem?_cons_succ]
        rw [ih (n - 8) (by simp at hn; omega) _ k hlen, hlen]
        have hd : List.drop (8 * k) (List.drop 8 (b :: rest)) = List.drop (8 * (k + 1)) (b :: rest) := by
          rw [List.drop_drop]; congr 1; omega
        rw [hd, hn]
        by_cases hk : 8 * k < n - 8
        · have : 8 * (k + 1) < n := by omega
          simp [hk, this]
        · have : ¬ 8 * (k + 1) < n := by omega
          simp [hk, this]

theorem packBits_length' : ∀ (n : Nat) (bs : List Bool), bs.length = n → (packBits bs).length = (n + 7) / 8 := by
  intro n
  induction n using Nat.strongRecOn with
  | _ n ih =>
    intro bs hn
    cases bs with
    | nil => simp at hn; subst hn; simp [packBits]
    | cons b rest =>
      rw [packBits_cons_eq]
      simp only [List.length_cons]
      have hlen : ((b :: rest).drop 8).length = n - 8 := by simp only [List.length_drop, hn]
      rw [ih (n - 8) (by simp at hn; omega) _ hlen]
      simp at hn
      omega

theorem packBits_length (bs : List Bool) : (packBits bs).length = (bs.length + 7) / 8 :=
  packBits_length' _ bs rfl

/-- every bit inside the packed bytes: the abstract bit, or `false` in the padding -/
theorem getBit_packBits_getD (bs : List Bool) (i : Nat) (h : i < 8 * (packBits bs).length) :
    getBit ⟨packBits bs, 0⟩ i = .ok (bs.getD i false) := by
  rw [packBits_length] at h
  have hk : 8 * (i / 8) < bs.length := by omega
  simp only [getBit, Nat.add_zero]
  rw [packBits_getElem? _ bs (i / 8) rfl]
  simp only [hk, if_true]
  congr 1
  rw [testBit_packByte _ (by simp [List.length_take]; omega)]
  have hi : i = 8 * (i / 8) + i % 8 := by omega
  have h8 : i % 8 < 8 := Nat.mod_lt _ (by omega)
  simp only [List.getD_eq_getElem?_getD, List.getElem?_take, h8, if_true, List.getElem?_drop]
  rw [← hi]

/-- **the two levels agree**: bit `i` of the packed bitmap is the abstract bit `i` -/
theorem getBit_packBits (bs : List Bool) (i : Nat) (h : i < bs.length) :
    getBit ⟨packBits bs, 0⟩ i = .ok bs[i] := by
  rw [getBit_packBits_getD bs i (by rw [packBits_length]; omega)]
  simp [List.getD_eq_getElem?_getD, h]

/-- **padding bits are clear** -/
theorem getBit_packBits_pad (bs : List Bool) (i : Nat) (h1 : bs.length ≤ i) (h2 : i < 8 * (packBits bs).length) :
    getBit ⟨packBits bs, 0⟩ i = .ok false := by
  rw [getBit_packBits_getD bs i h2]
  simp [List.getD_eq_getElem?_getD, List.getElem?_eq_none h1]

/-- reading beyond the last byte is an error (never a panic, never foreign data) -/
theorem getBit_packBits_oob (bs : List Bool) (i : Nat) (h : 8 * (packBits bs).length ≤ i) :
    getBit ⟨packBits bs, 0⟩ i = fail "Invalid access in bitset" := by
  simp only [getBit, Nat.add_zero]
  have : (packBits bs).length ≤ i / 8 := by omega
  rw [List.getElem?_eq_none this]

/-- **offset law**: a bitmap with bit offset `o + k` is the bitmap with offset `o` read `k` bits further on -/
theorem getBit_offset (d : Bytes) (o k i : Nat) : getBit ⟨d, o + k⟩ i = getBit ⟨d, o⟩ (k + i) := by
  have : i + (o + k) = k + i + o := by omega
  simp only [getBit, this]

theorem isValid_offset (d : Bytes) (o k i : Nat) : isValid (some ⟨d, o + k⟩) i = isValid (some ⟨d, o⟩) (k + i) := by
  simp only [isValid, getBit_offset]

/-! ### non-vacuity (`packBits` is defined by well-founded recursion, so it is evaluated by rewriting) -/
example : packBits [true, false, true, true, false, false, false, false, true] = [13, 1] := by
  simp [packBits, packByte, List.zipIdx]
example : getBit ⟨packBits [true, false, true, true, false, false, false, false, true], 0⟩ 8 = .ok true :=
  getBit_packBits _ 8 (by decide)
example : getBit ⟨packBits [true, false, true], 0⟩ 5 = .ok false :=
  getBit_packBits_pad _ 5 (by decide) (by rw [packBits_length]; decide)
example : getBit ⟨packBits [true, false, true], 0⟩ 8 = fail "Invalid access in bitset" :=
  getBit_packBits_oob _ 8 (by rw [packBits_length]; decide)
example : getBit ⟨[13, 1], 3⟩ 5 = getBit ⟨[13, 1], 0⟩ 8 := by decide

end SaModel.Lemmas.Bits
