import SaModel.Lemmas.C18DeEnum
import SaModel.Lemmas.C05ReadStruct
/-
C18, reader-side blame against `Spec.blameRead`: struct targets read by field NAME from a struct column
(`deserialize_struct` with a derived visitor).  An error of a field's read lies inside the blame of that (target field,
column field of the same name) pair; the struct reader's own failures — `duplicate field`, `missing field` — occur only
when names repeat on either side or a non-`Option` target field has no column field of its name: exactly the own
reasons of `Spec.blameStructAt`.  Invariant of the key loop (`Inv`): the filled slots are exactly the target positions of
the column field names seen so far.
-/
namespace SaModel.Props.C18
open SaModel SaModel.Read SaModel.Spec

theorem readFieldAsA_eq : ∀ (tfs : TFields) (pos : Nat) (slots : Slots) (name cp : String) (child : Arr) (idx : Nat),
    readFieldAsA AnnFixes.all Fixes.all tfs pos slots name cp child idx =
      match lookupT tfs name pos with
      | none => .ok none
      | some (q, t) =>
        if (Slots.get? slots q).isSome then fail "duplicate field"
        else (do pure (some (q, ← readAsA AnnFixes.all Fixes.all cp t child idx)))
  | .nil, pos, slots, name, cp, child, idx => by simp [readFieldAsA, lookupT]
  | .cons n t rest, pos, slots, name, cp, child, idx => by
    unfold readFieldAsA lookupT
    by_cases hn : (n == name) = true
    · simp only [hn, if_true]
    · simp only [hn, if_false]
      exact readFieldAsA_eq rest (pos + 1) slots name cp child idx

/-- one `next_key` / `next_value` step of the derived visitor over the struct reader at `p` -/
def keyStepA (tfs : TFields) (p : String) (i : Nat) (slots : Slots) (x : FieldMeta × Arr) : R Slots := do
  match (← readFieldAsA AnnFixes.all Fixes.all tfs 0 slots x.1.name (rchild p x.1.name) x.2 i) with
  | some kv => pure (slots ++ [kv])
  | none => do let _ ← readAnyA Fixes.all (rchild p x.1.name) x.2 i; pure slots

theorem readAnyA_ok {p : String} {a : Arr} {i : Nat} {lv : LVal} (s : Slot a i lv) :
    readAnyA Fixes.all p a i = .ok (toD a lv) := by
  have e := eraseAnn_readAnyA Fixes.all p a i
  rw [Props.C02.read_any_decode a i lv s.dec s.new s.phys s.utf8] at e
  cases hr : readAnyA Fixes.all p a i with
  | ok d => rw [hr] at e; simpa [eraseAnn] using e
  | error f => rw [hr] at e; cases f <;> simp [eraseAnn] at e

theorem mem_blameNamed {f : Arr → LVal → List RPos} : ∀ (fs : ArrFields) (lfs : LFields) (n : String) (a : Arr) (v : LVal),
    fieldNamed fs lfs n = some (a, v) → ∀ q ∈ below [segName n] (f a v), q ∈ blameNamed f n fs lfs
  | .nil, _, _, _, _, h, _, _ => by simp [fieldNamed] at h
  | .cons fm a' rest, .nil, _, _, _, h, _, _ => by simp [fieldNamed] at h
  | .cons fm a' rest, .cons _ v' lrest, n, a, v, h, q, hq => by
    unfold fieldNamed at h
    simp only [blameNamed, List.mem_append]
    split at h
    · rename_i hn
      cases h
      rw [if_pos hn]
      simp only [beq_iff_eq] at hn
      rw [hn]; exact .inl hq
    · exact .inr (mem_blameNamed rest lrest n a v h q hq)

theorem mem_blameFieldsR : ∀ (tfs : TFields) (fs : ArrFields) (lfs : LFields) (m : String) (pos q : Nat) (t : Target) (a : Arr) (v : LVal),
    lookupT tfs m pos = some (q, t) → fieldNamed fs lfs m = some (a, v) →
    ∀ x ∈ below [segName m] (blameRead t a v), x ∈ blameFieldsR tfs fs lfs
  | .nil, _, _, _, _, _, _, _, _, h, _, _, _ => by simp [lookupT] at h
  | .cons n t' rest, fs, lfs, m, pos, q, t, a, v, h, hf, x, hx => by
    unfold lookupT at h
    simp only [blameFieldsR, List.mem_append]
    split at h
    · rename_i hn
      cases h
      simp only [beq_iff_eq] at hn
      subst hn
      exact .inl (mem_blameNamed fs lfs n a v hf x hx)
    · exact .inr (mem_blameFieldsR rest fs lfs m (pos + 1) q t a v h hf x hx)

/-- the filled slots are exactly the target positions of the column field names seen so far -/
def Inv (tfs : TFields) (pre : List String) (slots : Slots) : Prop :=
  (∀ q, (slots.lookup q).isSome = true → ∃ m ∈ pre, ∃ t, lookupT tfs m 0 = some (q, t)) ∧
  (∀ m ∈ pre, ∀ q t, lookupT tfs m 0 = some (q, t) → (slots.lookup q).isSome = true)

theorem nodup_append_mem : ∀ (pre : List String) (m : String) (r : List String), m ∈ pre → nodupNames (pre ++ m :: r) = false
  | [], _, _, h => by cases h
  | x :: pre, m, r, h => by
    simp only [List.cons_append, nodupNames]
    rcases List.mem_cons.1 h with rfl | h
    · simp
    · simp [nodup_append_mem pre m r h]

theorem lookup_snoc_isSome {s : Slots} {q q' : Nat} {d : DVal} :
    ((s ++ [(q, d)]).lookup q').isSome = true ↔ (s.lookup q').isSome = true ∨ q' = q := by
  rw [List.lookup_append]
  cases hs : s.lookup q' with
  | some x => simp
  | none =>
    by_cases hq : q' = q
    · simp [List.lookup, hq]
    · have : (q' == q) = false := by simpa using hq
      simp [List.lookup, this, hq]

theorem keyLoopA_bo {tfs : TFields} (hS : ∀ x ∈ TFields.toList tfs, BlR x.2) (p : String) (S : List Pos) (self : Pos)
    (fs0 : ArrFields) (lfs0 : LFields) (hk0 : noKnownFields tfs fs0 lfs0 = true)
    (hdup : nodupNames (ArrFields.names fs0) = false → self ∈ S)
    (hsub : ∀ q ∈ positionsAt p (blameFieldsR tfs fs0 lfs0), q ∈ S) :
    ∀ (fs : ArrFields) (i : Nat) (vals : List (String × LVal)) (pre : List String) (slots : Slots),
    SlotFields fs i vals → (∀ m, m ∉ pre → fieldNamed fs0 lfs0 m = fieldNamed fs (LFields.ofList vals) m) →
    ArrFields.names fs0 = pre ++ ArrFields.names fs → Inv tfs pre slots →
    Bo S self (fs.toList.foldlM (keyStepA tfs p i) slots) ∧
    (∀ slots', fs.toList.foldlM (keyStepA tfs p i) slots = .ok slots' → Inv tfs (ArrFields.names fs0) slots')
  | .nil, i, vals, pre, slots, _, _, hnames, hinv => by
    simp only [ArrFields.toList, List.foldlM_nil]
    refine ⟨Bo.of_ok _, fun s' hs' => ?_⟩
    cases hs'
    simpa [hnames, ArrFields.names] using hinv
  | .cons fm a rest, i, vals, pre, slots, h, hfn, hnames, hinv => by
    obtain ⟨v, r, rfl, sa, sr⟩ := h.cons
    simp only [ArrFields.toList, List.foldlM_cons]
    -- the recursive call, for any state that satisfies the invariant with `fm.name` added
    have hrec : ∀ slots1, Inv tfs (pre ++ [fm.name]) slots1 →
        Bo S self (rest.toList.foldlM (keyStepA tfs p i) slots1) ∧
        (∀ slots', rest.toList.foldlM (keyStepA tfs p i) slots1 = .ok slots' → Inv tfs (ArrFields.names fs0) slots') := by
      intro slots1 hinv1
      refine keyLoopA_bo hS p S self fs0 lfs0 hk0 hdup hsub rest i r (pre ++ [fm.name]) slots1 sr ?_ ?_ hinv1
      · intro m hm
        simp only [List.mem_append, List.mem_singleton, not_or] at hm
        rw [hfn m hm.1]
        simp only [LFields.ofList, fieldNamed]
        have : (fm.name == m) = false := by simpa using fun e => hm.2 e.symm
        simp [this]
      · rw [hnames]; simp [ArrFields.names]
    have hstep : keyStepA tfs p i slots (fm, a) =
        (match lookupT tfs fm.name 0 with
         | none => (do let _ ← readAnyA Fixes.all (rchild p fm.name) a i; pure slots)
         | some (q, t) =>
           if (Slots.get? slots q).isSome then fail "duplicate field"
           else (do let d ← readAsA AnnFixes.all Fixes.all (rchild p fm.name) t a i; pure (slots ++ [(q, d)]))) := by
      unfold keyStepA
      rw [readFieldAsA_eq]
      cases hl : lookupT tfs fm.name 0 with
      | none => rfl
      | some qt =>
        obtain ⟨q, t⟩ := qt
        simp only
        split
        · rfl
        · cases readAsA AnnFixes.all Fixes.all (rchild p fm.name) t a i <;> rfl
    rw [hstep]
    cases hl : lookupT tfs fm.name 0 with
    | none =>
      simp only [readAnyA_ok sa, bind, Except.bind, pure, Except.pure]
      have hinv1 : Inv tfs (pre ++ [fm.name]) slots := by
        refine ⟨fun q hq => ?_, fun m hm q t hlm => ?_⟩
        · obtain ⟨m, hm, t, ht⟩ := hinv.1 q hq
          exact ⟨m, by simp [hm], t, ht⟩
        · simp only [List.mem_append, List.mem_singleton] at hm
          rcases hm with hm | rfl
          · exact hinv.2 m hm q t hlm
          · rw [hl] at hlm; cases hlm
      exact hrec slots hinv1
    | some qt =>
      obtain ⟨q, t⟩ := qt
      simp only
      by_cases hpre : fm.name ∈ pre
      · -- an earlier column field of the same name: its slot is filled, `duplicate field`
        have hfilled := hinv.2 fm.name hpre q t hl
        have hself : self ∈ S := hdup (by rw [hnames]; simp only [ArrFields.names]; exact nodup_append_mem pre fm.name _ hpre)
        simp only [Slots.get?, hfilled, if_true]
        refine ⟨Bo.bind (Bo.noctx _ fun _ => hself) fun _ hv' => (by cases hv'), fun s' hs' => ?_⟩
        simp [fail, bind, Except.bind] at hs'
      · -- the first column field of this name: the slot is empty, the value is read
        have hempty : (slots.lookup q).isSome = false := by
          cases hq : (slots.lookup q).isSome with
          | false => rfl
          | true =>
            obtain ⟨m', hm', t', ht'⟩ := hinv.1 q hq
            have := lookupT_inj tfs m' fm.name 0 q t' t ht' hl
            exact absurd (this ▸ hm') hpre
        simp only [Slots.get?, hempty, Bool.false_eq_true, if_false]
        have hf0 : fieldNamed fs0 lfs0 fm.name = some (a, v) := by
          rw [hfn fm.name hpre]; simp [LFields.ofList, fieldNamed]
        obtain ⟨hmem, _, _⟩ := lookupT_mem tfs fm.name 0 q t hl
        have hkn := noKnownFields_mem tfs fs0 lfs0 hk0 fm.name t hmem a v hf0
        have hchild := (hS (fm.name, t) hmem).at (p := rchild p fm.name) sa hkn
        have hchild' : Wn S (readAsA AnnFixes.all Fixes.all (rchild p fm.name) t a i) := by
          refine Wn.mono (fun x hx => hsub x ?_) hchild
          rw [← positionsAt_below1] at hx
          exact mem_positionsAt (mem_blameFieldsR tfs fs0 lfs0 fm.name 0 q t a v hl hf0) x hx
        have hinvd : ∀ d, Inv tfs (pre ++ [fm.name]) (slots ++ [(q, d)]) := by
          intro d
          refine ⟨fun q' hq' => ?_, fun m hm q' t' hlm => ?_⟩
          · rcases lookup_snoc_isSome.1 hq' with hq' | rfl
            · obtain ⟨m, hm, t', ht'⟩ := hinv.1 q' hq'
              exact ⟨m, by simp [hm], t', ht'⟩
            · exact ⟨fm.name, by simp, t, hl⟩
          · simp only [List.mem_append, List.mem_singleton] at hm
            rcases hm with hm | rfl
            · exact lookup_snoc_isSome.2 (.inl (hinv.2 m hm q' t' hlm))
            · rw [hl] at hlm; cases hlm
              exact lookup_snoc_isSome.2 (.inr rfl)
        cases hread : readAsA AnnFixes.all Fixes.all (rchild p fm.name) t a i with
        | error e =>
          rw [hread] at hchild'
          refine ⟨?_, fun s' hs' => by simp [bind, Except.bind] at hs'⟩
          have : ((Except.error e : R DVal) >>= fun d => (pure (slots ++ [(q, d)]) : R Slots)) >>=
              (fun s => rest.toList.foldlM (keyStepA tfs p i) s) = (Except.error e : R Slots) := rfl
          rw [this]
          exact (Wn.bo self ⟨fun msg ann he => hchild'.1 msg ann (by cases he; rfl), fun msg he => hchild'.2 msg (by cases he; rfl)⟩)
        | ok d =>
          simp only [bind, Except.bind, pure, Except.pure]
          exact hrec _ (hinvd d)

theorem requiredMissing_false : ∀ (tfs : TFields) (names : List String), requiredMissing tfs names = false →
    ∀ n t, (n, t) ∈ TFields.toList tfs → t.isOption = false → n ∈ names
  | .nil, _, _, n, t, h, _ => by simp [TFields.toList] at h
  | .cons n' t' rest, names, hr, n, t, h, ho => by
    simp only [requiredMissing, Bool.or_eq_false_iff, Bool.and_eq_false_iff, Bool.not_eq_false', Bool.not_eq_eq_eq_not,
      Bool.not_true] at hr
    simp only [TFields.toList, List.mem_cons, Prod.mk.injEq] at h
    rcases h with ⟨rfl, rfl⟩ | h
    · rcases hr.1 with h1 | h1
      · rw [ho] at h1; cases h1
      · simpa using h1
    · exact requiredMissing_false rest names hr.2 n t h ho

theorem finishFields_ok : ∀ (tfs' : TFields) (pos : Nat) (slots : Slots), nodupNames (TFields.names tfs') = true →
    (∀ n q t, lookupT tfs' n pos = some (q, t) → t.isOption = false → (slots.lookup q).isSome = true) →
    ∃ r, finishFields tfs' pos slots = .ok r
  | .nil, _, _, _, _ => ⟨[], rfl⟩
  | .cons n t rest, pos, slots, hnd, hfill => by
    simp only [TFields.names] at hnd
    obtain ⟨hnotin, hnd'⟩ := nodupNames_cons hnd
    have hhead : ∃ d, slotOrMissing t (Slots.get? slots pos) = .ok d := by
      unfold slotOrMissing Slots.get?
      cases hs : slots.lookup pos with
      | some d => exact ⟨d, rfl⟩
      | none =>
        cases ho : t.isOption with
        | true => exact ⟨.none, by simp⟩
        | false =>
          have := hfill n pos t (by simp [lookupT]) ho
          rw [hs] at this; cases this
    obtain ⟨d, hd⟩ := hhead
    obtain ⟨r, hr⟩ := finishFields_ok rest (pos + 1) slots hnd' (fun n' q t' hl ho => by
      refine hfill n' q t' ?_ ho
      unfold lookupT
      have hne : (n == n') = false := by
        simp only [beq_eq_false_iff_ne, ne_eq]
        intro e; rw [e] at hnotin
        exact hnotin (lookupT_mem rest n' (pos + 1) q t' hl).2.1
      simp [hne, hl])
    refine ⟨(.str .transient (strBytes n), d) :: r, ?_⟩
    simp only [finishFields, hd, hr, bind, Except.bind, pure, Except.pure]

/-- `deserialize_struct` / `struct_variant` of the reader of `a` at `p` -/
theorem structVisitA_blame {tfs : TFields} (hS : ∀ x ∈ TFields.toList tfs, BlR x.2) (p : String) (a : Arr) (i : Nat) (lv : LVal)
    (h : decodeAt a i = .ok lv) (hn : new Fixes.all a = .ok ()) (hp : physical a = true) (hu : utf8Ok lv = true)
    (hk : structPart (fun fs lfs => noKnownFields tfs fs lfs) a lv = true) :
    Within (positionsAt p (blameStructAt tfs (fun fs lfs => blameFieldsR tfs fs lfs) a lv))
      (structVisitA Fixes.all p (fun slots fm child =>
        readFieldAsA AnnFixes.all Fixes.all tfs 0 slots fm.name (rchild p fm.name) child i) tfs a i) := by
  unfold structVisitA
  cases a with
  | struct len v fs =>
    obtain ⟨hitem, rfl | ⟨vals, rfl, sf⟩⟩ := (Slot.mk h hn hp hu).struct
    · simp [structPart] at hk
    · simp only [structPart] at hk
      simp only [blameStructAt]
      rw [rann_eq']
      have hfun : (fun (slots : Slots) (x : FieldMeta × Arr) => (do
          match (← readFieldAsA AnnFixes.all Fixes.all tfs 0 slots x.1.name (rchild p x.1.name) x.2 i) with
          | some kv => pure (slots ++ [kv])
          | none => do let _ ← readAnyA Fixes.all (rchild p x.1.name) x.2 i; pure slots : R Slots)) = keyStepA tfs p i := rfl
      generalize hown : (!nodupNames (ArrFields.names fs) || !nodupNames (TFields.names tfs) ||
        requiredMissing tfs (ArrFields.names fs)) = own
      have hselfOwn : own = true → (p, Read.label (.struct len v fs)) ∈
          positionsAt p ((if own = true then here (.struct len v fs) else []) ++ blameFieldsR tfs fs (LFields.ofList vals)) := by
        intro ho
        rw [positionsAt_append, if_pos ho]
        exact List.mem_append_left _ (self_mem_here p _)
      obtain ⟨hloop, hfinal⟩ := keyLoopA_bo hS p
        (positionsAt p ((if own = true then here (.struct len v fs) else []) ++ blameFieldsR tfs fs (LFields.ofList vals)))
        (p, Read.label (.struct len v fs)) fs (LFields.ofList vals) hk
        (fun hd => hselfOwn (by rw [← hown, hd]; rfl))
        (fun q hq => by rw [positionsAt_append]; exact List.mem_append_right _ hq)
        fs i vals [] [] sf (fun _ _ => rfl) (by simp)
        ⟨fun q hq => by simp at hq, fun m hm => by cases hm⟩
      refine Bo.ctx (Bo.bind (Bo.of_eq_ok hitem) fun _ _ => ?_)
      refine Bo.bind hloop fun slots' hs' => ?_
      have hinv := hfinal slots' hs'
      refine Bo.bind (Bo.noctx _ fun ⟨e, he⟩ => ?_) fun _ _ => Bo.of_ok _
      by_cases ho : own = true
      · exact hselfOwn ho
      · have ho' : own = false := by simpa using ho
        rw [ho'] at hown
        simp only [Bool.or_eq_false_iff, Bool.not_eq_false'] at hown
        obtain ⟨r, hr⟩ := finishFields_ok tfs 0 slots' hown.1.2 (fun n q t hl hopt => by
          obtain ⟨hmem, _, _⟩ := lookupT_mem tfs n 0 q t hl
          exact hinv.2 n (requiredMissing_false tfs _ hown.2 n t hmem hopt) q t hl)
        rw [hr] at he; cases he
  | _ =>
    simp only [blameStructAt]
    exact own_here _

theorem blr_struct {tfs : TFields} (hS : ∀ x ∈ TFields.toList tfs, BlR x.2) : BlR (.struct tfs) := by
  intro p a i lv h hn hp hu hk
  simp only [noKnown] at hk
  simp only [readAsA, blameRead]
  exact structVisitA_blame hS p a i lv h hn hp hu hk

theorem kbl_struct {tfs : TFields} (hS : ∀ x ∈ TFields.toList tfs, BlR x.2) : KBl (.struct tfs) := by
  intro cp child off lv h hn hp hu hk
  simp only [noKnownKind] at hk
  simp only [readKindA, blameKind]
  refine ⟨structVisitA_blame hS cp child off lv h hn hp hu hk, ?_⟩
  unfold structVisitA; exact ctx_never_plain rfl _

end SaModel.Props.C18
