import SaModel.Basic.Outcome
/-
Helper lemmas for Props/C19.lean: `List.mapM` in the outcome monad `R`, and a pointwise relation on two lists
(core Lean has no `List.Forall₂`).
-/
namespace SaModel.Lemmas.C19
open SaModel

inductive AllRel {α β} (r : α → β → Prop) : List α → List β → Prop
  | nil : AllRel r [] []
  | cons {a b l l'} : r a b → AllRel r l l' → AllRel r (a :: l) (b :: l')

theorem AllRel.length_eq {α β} {r : α → β → Prop} {l : List α} {l' : List β} (h : AllRel r l l') : l.length = l'.length := by
  induction h with
  | nil => rfl
  | cons _ _ ih => simp [ih]

theorem AllRel.refl_eq {α} (l : List α) : AllRel (fun a b => a = b) l l := by
  induction l with
  | nil => exact .nil
  | cons v vs ih => exact .cons rfl ih

theorem AllRel.eq_of_eq {α} {l l' : List α} (h : AllRel (fun a b => a = b) l l') : l = l' := by
  induction h with
  | nil => rfl
  | cons hab _ ih => rw [hab, ih]

/-- related by an equation between images = equal after mapping -/
theorem AllRel.map_eq_iff {α β γ} {f : α → γ} {g : β → γ} : ∀ {l : List α} {l' : List β},
    AllRel (fun a b => f a = g b) l l' ↔ l.map f = l'.map g
  | [], [] => ⟨fun _ => rfl, fun _ => .nil⟩
  | [], _ :: _ => ⟨nofun, nofun⟩
  | _ :: _, [] => ⟨nofun, nofun⟩
  | a :: l, b :: l' => by
    rw [List.map_cons, List.map_cons, List.cons.injEq, ← AllRel.map_eq_iff]
    exact ⟨fun | .cons h t => ⟨h, t⟩, fun h => .cons h.1 h.2⟩

theorem mapM_ok_forall₂ {α β} (f : α → R β) (l : List α) (l' : List β) (h : l.mapM f = .ok l') :
    AllRel (fun a b => f a = .ok b) l l' :=
  AllRel.map_eq_iff.2 (R.mapM_eq_ok_iff.1 h)

theorem mapM_ok_length {α β} (f : α → R β) : ∀ (l : List α) (l' : List β), l.mapM f = .ok l' → l'.length = l.length :=
  fun _ _ => R.mapM_ok_length

theorem mapM_of_forall₂ {α β} (f : α → R β) (l : List α) (l' : List β)
    (h : AllRel (fun a b => f a = .ok b) l l') : l.mapM f = .ok l' :=
  R.mapM_eq_ok_iff.2 (AllRel.map_eq_iff.1 h)

/-- a successful `mapM` whose results mean the same as the inputs (`g' (f a) = g a`) preserves the meaning -/
theorem allRel_map {α β γ} (f : α → R β) (g : α → γ) (g' : β → γ)
    (h : ∀ a b, f a = .ok b → g' b = g a) (l : List α) (l' : List β)
    (hr : AllRel (fun a b => f a = .ok b) l l') : l'.map g' = l.map g := by
  induction hr with
  | nil => rfl
  | cons hab _ ih => simp [h _ _ hab, ih]

theorem mapM_ok_map {α β γ} (f : α → R β) (g : α → γ) (g' : β → γ)
    (h : ∀ a b, f a = .ok b → g' b = g a) (l : List α) (l' : List β) (hl : l.mapM f = .ok l') :
    l'.map g' = l.map g :=
  allRel_map f g g' h l l' (mapM_ok_forall₂ f l l' hl)

theorem mapM_error {α β} (f : α → R β) : ∀ (l : List α) (e : Fail), l.mapM f = .error e →
    ∃ a ∈ l, f a = .error e
  | [], e, h => nomatch h
  | a :: l, e, h => by
    rw [List.mapM_cons] at h
    cases ha : f a with
    | error e' => rw [ha] at h; cases h; exact ⟨a, by simp, ha⟩
    | ok b =>
      rw [ha, R.ok_bind] at h
      cases hl : l.mapM f with
      | error e' =>
        rw [hl] at h; cases h
        exact (mapM_error f l _ hl).imp fun x hx => ⟨by simp [hx.1], hx.2⟩
      | ok bs => rw [hl] at h; cases h

theorem mapM_total {α β} (f : α → R β) (l : List α) (h : ∀ a ∈ l, ∃ b, f a = .ok b) : ∃ l', l.mapM f = .ok l' := by
  cases hl : l.mapM f with
  | ok l' => exact ⟨l', rfl⟩
  | error e =>
    obtain ⟨a, ha, he⟩ := mapM_error f l e hl
    obtain ⟨b, hb⟩ := h a ha
    rw [hb] at he; cases he

theorem mapM_pure_id {α} (l : List α) : l.mapM (pure : α → R α) = .ok l := by
  have := R.mapM_ok_of_forall (f := (pure : α → R α)) (g := id) (l := l) (fun _ _ => rfl)
  rwa [List.map_id] at this

end SaModel.Lemmas.C19
