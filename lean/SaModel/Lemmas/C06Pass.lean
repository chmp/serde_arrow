import SaModel.Lemmas.C06Steps
import SaModel.Lemmas.C06Erase
/-
C06: what one pass of a compound serializer does to the child list it works on
(`absorbKVs`: struct fields; `absorbTupleL`: tuple positions): existing children only move along `Steps`, names keep
their index, fields created after the first sample are nullable.
-/
namespace SaModel.Lemmas.C06
open SaModel SaModel.Trace SaModel.Lemmas.C07 SaModel.Props.C07

/-- `fs2` extends `fs`: every field is still there at the same index (same key lookup), its tracer moved along `Steps` -/
def FsExt (c : Code) (o : Options) (fs fs2 : TFields) : Prop :=
  (∀ i t, fs.get? i = some t → ∃ t2, fs2.get? i = some t2 ∧ Steps c o t t2) ∧
  (∀ k i, fs.indexOf k = some i → fs2.indexOf k = some i)

def NewNullable (fs fs2 : TFields) : Prop := ∀ i t2, fs2.get? i = some t2 → fs.get? i = none → t2.nullable = true

theorem FsExt.refl (c : Code) (o : Options) (fs : TFields) : FsExt c o fs fs :=
  ⟨fun _ t h => ⟨t, h, Steps.refl c o t⟩, fun _ _ h => h⟩

theorem FsExt.trans {c : Code} {o : Options} {f1 f2 f3 : TFields} (h1 : FsExt c o f1 f2) (h2 : FsExt c o f2 f3) :
    FsExt c o f1 f3 := by
  refine ⟨fun i t h => ?_, fun k i h => h2.2 k i (h1.2 k i h)⟩
  obtain ⟨t2, hg2, hs2⟩ := h1.1 i t h
  obtain ⟨t3, hg3, hs3⟩ := h2.1 i t2 hg2
  exact ⟨t3, hg3, hs2.trans hs3⟩

theorem NewNullable.trans {c : Code} {o : Options} {f1 f2 f3 : TFields} (n1 : NewNullable f1 f2)
    (h2 : FsExt c o f2 f3) (n2 : NewNullable f2 f3) : NewNullable f1 f3 := by
  intro i t3 hg3 hn1
  cases hg2 : f2.get? i with
  | none => exact n2 i t3 hg3 hg2
  | some t2 =>
    obtain ⟨t3', hg3', hs⟩ := h2.1 i t2 hg2
    rw [hg3] at hg3'; cases hg3'
    exact hs.keeps.1 (n1 i t2 hg2 hn1)

theorem NewNullable.of_length {fs fs2 : TFields} (h : fs2.length = fs.length) : NewNullable fs fs2 := by
  intro i t2 hg hn
  have := TFields.get?_lt hg
  rw [TFields.get?_none_iff] at hn
  omega

theorem ensure_field_ext (c : Code) (o : Options) (path : String) (s : Nat) (fs : TFields) (k : String) :
    FsExt c o fs (ensure_field path s fs k).2 ∧ (s ≠ 0 → NewNullable fs (ensure_field path s fs k).2) := by
  cases hi : fs.indexOf k with
  | some i =>
    rw [ensure_field_found hi]; simp only
    refine ⟨⟨fun j t h => ⟨t, by rw [TFields.get?_setLastSeen]; exact h, Steps.refl c o t⟩,
      fun k' j h => by rw [TFields.indexOf_setLastSeen]; exact h⟩, fun _ => ?_⟩
    exact NewNullable.of_length (TFields.length_setLastSeen fs i s)
  | none =>
    rw [ensure_field_new hi]; simp only
    refine ⟨⟨fun j t h => ⟨t, by rw [TFields.get?_push_lt _ _ _ _ _ (TFields.get?_lt h)]; exact h, Steps.refl c o t⟩,
      fun k' j h => TFields.indexOf_push_some fs _ _ _ k' j h⟩, fun hs => ?_⟩
    intro j t2 hg hn
    rw [TFields.get?_none_iff] at hn
    have hlt := TFields.get?_lt hg
    rw [TFields.length_push] at hlt
    have : j = fs.length := by omega
    subst this
    rw [TFields.get?_push_len] at hg; cases hg
    have : (s != 0) = true := by simpa using hs
    rw [if_pos this]; exact mark_nullable_nullable _

theorem set_ext (c : Code) (o : Options) (fs : TFields) (i : Nat) (ft ft' : Tracer) (hg : fs.get? i = some ft)
    (hs : Steps c o ft ft') : FsExt c o fs (fs.set i ft') ∧ NewNullable fs (fs.set i ft') := by
  refine ⟨⟨fun j t h => ?_, fun k j h => by rw [TFields.indexOf_set]; exact h⟩,
    NewNullable.of_length (TFields.length_set fs i ft')⟩
  by_cases e : i = j
  · subst e
    rw [hg] at h; cases h
    exact ⟨ft', TFields.get?_set_eq fs i ft' (TFields.get?_lt hg), hs⟩
  · exact ⟨t, by rw [TFields.get?_set_ne _ _ _ _ e]; exact h, Steps.refl c o t⟩

theorem end_ext (c : Code) (o : Options) (s : Nat) (fs : TFields) :
    FsExt c o fs (fs.end_ s) ∧ NewNullable fs (fs.end_ s) := by
  refine ⟨⟨fun j t h => ?_, fun k j h => by rw [TFields.indexOf_end]; exact h⟩,
    NewNullable.of_length (TFields.length_end s fs)⟩
  obtain ⟨l, hl⟩ := lastSeen?_of_lt (TFields.get?_lt h)
  refine ⟨_, TFields.get?_end s fs j t l h hl, ?_⟩
  split
  · exact Steps.mark c o t
  · exact Steps.refl c o t

theorem absorbKVs_ext (c : Code) (o : Options) (path : String) (s : Nat) : ∀ (kvs : List (String × SVal))
    (fs fs' : TFields), absorbKVs c o path s fs kvs = .ok fs' → FsExt c o fs fs' ∧ (s ≠ 0 → NewNullable fs fs')
  | [], fs, fs', h => by
    simp [absorbKVs] at h; subst h
    exact ⟨FsExt.refl c o fs, fun _ => NewNullable.of_length rfl⟩
  | kv :: kvs, fs, fs', h => by
    obtain ⟨ft, ft', hg, ha, h⟩ := absorbKVs_cons_ok.mp h
    have h1 := ensure_field_ext c o path s fs kv.1
    have h2 := set_ext c o _ _ ft ft' hg (Steps.single ha)
    have h3 := absorbKVs_ext c o path s kvs _ fs' h
    refine ⟨(h1.1.trans h2.1).trans h3.1, fun hs => ?_⟩
    exact ((h1.2 hs).trans h2.1 h2.2).trans h3.1 (h3.2 hs)

def TsExt (c : Code) (o : Options) (ts ts2 : Tracers) : Prop :=
  ∀ i t, ts.get? i = some t → ∃ t2, ts2.get? i = some t2 ∧ Steps c o t t2

theorem TsExt.refl (c : Code) (o : Options) (ts : Tracers) : TsExt c o ts ts :=
  fun _ t h => ⟨t, h, Steps.refl c o t⟩

theorem TsExt.trans {c : Code} {o : Options} {f1 f2 f3 : Tracers} (h1 : TsExt c o f1 f2) (h2 : TsExt c o f2 f3) :
    TsExt c o f1 f3 := by
  intro i t h
  obtain ⟨t2, hg2, hs2⟩ := h1 i t h
  obtain ⟨t3, hg3, hs3⟩ := h2 i t2 hg2
  exact ⟨t3, hg3, hs2.trans hs3⟩

theorem TsExt.length_le {c : Code} {o : Options} {f1 f2 : Tracers} (h : TsExt c o f1 f2) : f1.length ≤ f2.length := by
  apply Nat.le_of_not_lt
  intro hlt
  have hpos : f1.length - 1 < f1.length := by omega
  obtain ⟨t, ht⟩ := Tracers.get?_of_lt hpos
  obtain ⟨t2, hg2, _⟩ := h _ t ht
  have := Tracers.get?_lt hg2
  omega

theorem growN_ext (c : Code) (o : Options) (g : Tracers → Tracer) (k : Nat) (ts : Tracers) :
    TsExt c o ts (growN g k ts) :=
  fun i t h => ⟨t, by rw [growN_get?_lt g k ts i (Tracers.get?_lt h)]; exact h, Steps.refl c o t⟩

theorem setT_ext (c : Code) (o : Options) (ts : Tracers) (i : Nat) (ft ft' : Tracer) (hg : ts.get? i = some ft)
    (hs : Steps c o ft ft') : TsExt c o ts (ts.set i ft') := by
  intro j t h
  by_cases e : i = j
  · subst e
    rw [hg] at h; cases h
    exact ⟨ft', Tracers.get?_set_eq ts i ft' (Tracers.get?_lt hg), hs⟩
  · exact ⟨t, by rw [Tracers.get?_set_ne _ _ _ _ e]; exact h, Steps.refl c o t⟩

theorem markFrom_ext (c : Code) (o : Options) (ts : Tracers) (k : Nat) : TsExt c o ts (ts.markFrom k) := by
  intro i t h
  refine ⟨_, by rw [Tracers.get?_markFrom, h]; rfl, ?_⟩
  split
  · exact Steps.mark c o t
  · exact Steps.refl c o t

theorem absorbTupleL_ext (c : Code) (o : Options) (path : String) : ∀ (vs : List SVal) (ts : Tracers) (pos : Nat)
    (ts' : Tracers), absorbTupleL c o path ts pos vs = .ok ts' →
    TsExt c o ts ts' ∧ (pos + vs.length ≤ ts.length → ts'.length = ts.length) ∧
    (∀ j, pos ≤ j → j < pos + vs.length → j < ts'.length)
  | [], ts, pos, ts', h => by
    simp [absorbTupleL] at h; subst h
    exact ⟨TsExt.refl c o ts, fun _ => rfl, fun j h1 h2 => by simp at h2; omega⟩
  | v :: vs, ts, pos, ts', h => by
    obtain ⟨ft, ft', hg, ha, h⟩ := absorbTupleL_cons_ok.mp h
    have h1 : TsExt c o ts (field_tracer_grow path pos ts) := by
      rw [field_tracer_grow_eq]; exact growN_ext c o _ _ ts
    have h2 := setT_ext c o _ pos ft ft' hg (Steps.single ha)
    obtain ⟨h3, h4, h5⟩ := absorbTupleL_ext c o path vs _ (pos + 1) ts' h
    refine ⟨(h1.trans h2).trans h3, fun hle => ?_, ?_⟩
    · simp only [List.length_cons] at hle
      rw [field_tracer_grow_of_lt path pos ts (by omega)] at h4
      rw [Tracers.length_set] at h4
      exact h4 (by omega)
    · intro j hj1 hj2
      simp only [List.length_cons] at hj2
      by_cases e : j = pos
      · subst e
        obtain ⟨t3, hg3, _⟩ := h3 j ft' (Tracers.get?_set_eq _ j ft' (Tracers.get?_lt hg))
        exact Tracers.get?_lt hg3
      · exact h5 j (by omega) (by omega)

end SaModel.Lemmas.C06
