import SaModel.Lemmas.C12Basic
import SaModel.Lemmas.ReadLeaf
/-
C12 helpers: reads BEYOND the length of a view (in particular at `i ≥ l` of `sliceView a o l`).  Bitmaps, data
buffers and unsliced children are shared with the whole array, so the question is whether a read outside the window can
return a value of the whole array.  Under `OutFixes fx` every accessor checks the row against the view's OWN length before
it looks at a shared buffer: every read beyond the length is an `Err` (`fail`), never a value and never an unwind.
-/
namespace SaModel.Lemmas.C12
open SaModel SaModel.Read SaModel.Spec

/-- an un-annotated `Err`: not a value, not an unwind -/
def IsFail {α} (r : R α) : Prop := ∃ msg, r = .error (.err msg)

theorem IsFail.bind {α β} {r : R α} (h : IsFail r) (f : α → R β) : IsFail (r >>= f) := by
  obtain ⟨m, rfl⟩ := h; exact ⟨m, rfl⟩

theorem IsFail.not_ok {α} {r : R α} (h : IsFail r) (v : α) : r ≠ .ok v := by
  obtain ⟨m, rfl⟩ := h; intro h; cases h

theorem IsFail.not_panic {α} {r : R α} (h : IsFail r) (s : String) : r ≠ .error (.panic s) := by
  obtain ⟨m, rfl⟩ := h; intro h; cases h

/-- the four `fix:` commits the out-of-bounds behaviour depends on (the other four are irrelevant here): `BytesView::get`'s
index check, `FixedSizeBinaryDeserializer::new`'s `% 0`, the row checks of the Struct and Null readers -/
structure OutFixes (fx : Fixes) : Prop where
  bytesGet : fx.bytesGet = true
  fsbZero : fx.fsbZero = true
  structIdx : fx.structIdx = true
  nullLen : fx.nullLen = true

theorem OutFixes.all : OutFixes Fixes.all := ⟨rfl, rfl, rfl, rfl⟩

/-! ### the accessors -/

theorem primGet_beyond (fx : Fixes) (v : Option Bits) (vals : List Int) (idx : Nat) (h : vals.length ≤ idx) :
    primGet fx v vals idx = fail "Access beyond array length" := by
  simp only [primGet, List.getElem?_eq_none h]

theorem boolGet_beyond (fx : Fixes) (len : Nat) (v : Option Bits) (vals : Bits) (idx : Nat) (h : len ≤ idx) :
    boolGet fx len v vals idx = fail "Out of bounds access" := by
  have c : idx ≥ len := h
  simp only [boolGet, c, if_true]

theorem bytesGet_beyond {fx : Fixes} (hf : OutFixes fx) (v : Option Bits) (offs : List Int) (data : Bytes) (idx : Nat) (h : offs.length - 1 ≤ idx) :
    bytesGet fx v offs data idx = fail "Invalid access: tried to get element of array" := by
  have c : idx + 1 ≥ offs.length := by omega
  simp only [bytesGet, hf.bytesGet, c, if_true]

theorem bytesColGet_beyond {fx : Fixes} (hf : OutFixes fx) (ty : BytesTy) (v : Option Bits) (offs : List Int) (data : Bytes) (idx : Nat)
    (h : offs.length - 1 ≤ idx) :
    bytesColGet fx ty v offs data idx = fail "Invalid access: tried to get element of array" := by
  simp only [bytesColGet, bytesGet_beyond hf v offs data idx h]
  split <;> rfl

theorem viewGet_beyond (fx : Fixes) (v : Option Bits) (views : List Nat) (buffers : List Bytes) (idx : Nat)
    (h : views.length ≤ idx) : viewGet fx v views buffers idx = fail "Invalid access: tried to get element of array" := by
  simp only [viewGet, List.getElem?_eq_none h]

theorem viewColGet_beyond (fx : Fixes) (ty : ViewTy) (v : Option Bits) (views : List Nat) (buffers : List Bytes) (idx : Nat)
    (h : views.length ≤ idx) :
    viewColGet fx ty v views buffers idx = fail "Invalid access: tried to get element of array" := by
  simp only [viewColGet, viewGet_beyond fx v views buffers idx h]
  split <;> rfl

theorem fsbColGet_beyond {fx : Fixes} (hf : OutFixes fx) (n : Int) (v : Option Bits) (data : Bytes) (idx : Nat)
    (h : lenOf (.fixedSizeBinary n v data) ≤ idx) : IsFail (fsbColGet fx n v data idx) := by
  simp only [lenOf] at h
  unfold fsbColGet fsbNew
  by_cases h1 : n < 0
  · simp only [h1, if_true]; exact ⟨_, rfl⟩
  · by_cases h2 : n.toNat = 0
    · simp only [h1, h2, if_false, if_true, hf.fsbZero]
      split
      · have c : idx ≥ 0 := Nat.zero_le _
        simp only [bind, Except.bind, fsbGet, c, if_true]; exact ⟨_, rfl⟩
      · exact ⟨_, rfl⟩
    · by_cases h3 : data.length % n.toNat = 0
      · have hn : ¬ n ≤ 0 := by omega
        simp only [hn, if_false] at h
        have c : idx ≥ data.length / n.toNat := h
        simp only [h1, h2, h3, if_false, ne_eq, not_true_eq_false, bind, Except.bind, fsbGet, c, if_true]; exact ⟨_, rfl⟩
      · simp only [h1, h2, h3, if_false, ne_eq, not_false_eq_true, if_true]; exact ⟨_, rfl⟩

theorem listRange_beyond (fx : Fixes) (offs : List Int) (idx : Nat) (h : offs.length - 1 ≤ idx) :
    listRange fx offs idx = fail "Out of bounds access" := by
  have c : idx + 1 ≥ offs.length := by omega
  simp only [listRange, c, if_true]

theorem fslRange_beyond (fx : Fixes) (len : Nat) (n : Int) (idx : Nat) (h : len ≤ idx) :
    fslRange fx len n idx = fail "Out of bounds access" := by
  have c : idx ≥ len := h
  simp only [fslRange, c, if_true]

theorem nullCheck_beyond {fx : Fixes} (hf : OutFixes fx) (len idx : Nat) (h : len ≤ idx) : nullCheck fx len idx = fail "Out of bounds access" := by
  have c : idx ≥ len := h
  simp only [nullCheck, hf.nullLen, c, decide_true, Bool.and_self, if_true]

theorem structItem_beyond {fx : Fixes} (hf : OutFixes fx) (len idx : Nat) (h : len ≤ idx) : structItem fx len idx = fail "Out of bounds access" := by
  have c : idx ≥ len := h
  simp only [structItem, hf.structIdx, c, decide_true, Bool.and_self, if_true]

theorem unionSelect_beyond (fx : Fixes) (types : List Int) (offs : Option (List Int)) (nv idx : Nat)
    (h : types.length ≤ idx) : unionSelect fx types offs nv idx = fail "Exhausted deserializer" := by
  have c : idx ≥ types.length := h
  simp only [unionSelect, c, if_true]

theorem dictGetStr_beyond (fx : Fixes) (ks vs : Arr) (idx : Nat) (h : lenOf ks ≤ idx) : IsFail (dictGetStr fx ks vs idx) := by
  unfold dictGetStr
  split
  · simp only [lenOf] at h
    simp only [primGet_beyond fx _ _ idx h]; exact ⟨_, rfl⟩
  · exact ⟨_, rfl⟩

/-! ### `is_some`, the scalar methods, the element accessors -/

theorem leafGet_beyond {fx : Fixes} (hf : OutFixes fx) {b : Arr} {idx : Nat} {β : Type} {g : R (Option β)}
    (hg : LeafGet fx b idx g) (h : lenOf b ≤ idx) : IsFail g := by
  cases hg with
  | boolean => exact ⟨_, boolGet_beyond _ _ _ _ idx h⟩
  | prim | time | timestamp | decimal128 => exact ⟨_, primGet_beyond _ _ _ idx h⟩
  | bytes => exact ⟨_, bytesColGet_beyond hf _ _ _ _ idx h⟩
  | bytesView => exact ⟨_, viewColGet_beyond _ _ _ _ _ idx h⟩
  | fixedSizeBinary => exact fsbColGet_beyond hf _ _ _ idx h

theorem isSome_beyond {fx : Fixes} (hf : OutFixes fx) (b : Arr) (idx : Nat) (h : lenOf b ≤ idx) : IsFail (isSome fx b idx) := by
  cases b with
  | null len => simp only [lenOf] at h; simp only [isSome, nullCheck_beyond hf len idx h]; exact ⟨_, rfl⟩
  | struct len _ _ | fixedSizeList len _ _ _ _ =>
    simp only [lenOf] at h; have c : idx ≥ len := h; simp only [isSome, c, if_true]; exact ⟨_, rfl⟩
  | list _ _ offs _ _ | map _ offs _ _ _ =>
    simp only [lenOf] at h; have c : idx + 1 ≥ offs.length := by omega
    simp only [isSome, c, if_true]; exact ⟨_, rfl⟩
  | dictionary ks vs =>
    simp only [lenOf] at h
    simp only [isSome]
    split
    · simp only [lenOf] at h; simp only [primGet_beyond _ _ _ idx h]; exact ⟨_, rfl⟩
    · exact ⟨_, rfl⟩
  | union types offs fs => simp only [lenOf] at h; have c : idx ≥ types.length := h; simp only [isSome, c, if_true]; exact ⟨_, rfl⟩
  | _ => exact isSome_get_cases fx _ idx rfl fun _ hg => (leafGet_beyond hf hg h).bind _

theorem readAny_beyond {fx : Fixes} (hf : OutFixes fx) (b : Arr) (idx : Nat) (h : lenOf b ≤ idx) : IsFail (readAny fx b idx) := by
  unfold readAny anyAt
  exact (isSome_beyond hf b idx h).bind _

theorem leafReq_beyond {fx : Fixes} (hf : OutFixes fx) {b : Arr} {idx : Nat} {β : Type} {r : R β} (hr : LeafReq fx b idx r)
    (h : lenOf b ≤ idx) : IsFail r := by
  cases hr with
  | get hg => exact (leafGet_beyond hf hg h).bind _
  | null => exact ⟨_, nullCheck_beyond hf _ idx h⟩
  | dictionary => exact dictGetStr_beyond _ _ _ idx h

theorem scalar_beyond {fx : Fixes} (hf : OutFixes fx) (m : Method) (b : Arr) (idx : Nat) (h : lenOf b ≤ idx) :
    IsFail (scalar fx m b idx) :=
  scalar_cases fx m b idx ⟨_, rfl⟩ fun _ _ hr _ => (leafReq_beyond hf hr h).bind _

theorem binaryElems_beyond {fx : Fixes} (hf : OutFixes fx) (b : Arr) (idx : Nat) (h : lenOf b ≤ idx) (rb : R Bytes)
    (hb : binaryElems fx b idx = some rb) : IsFail rb := leafReq_beyond hf (binaryElems_cases hb) h

theorem stringElem_beyond {fx : Fixes} (hf : OutFixes fx) (b : Arr) (idx : Nat) (h : lenOf b ≤ idx) (rs : R Bytes)
    (hb : stringElem fx b idx = some rs) : IsFail rs := leafReq_beyond hf (stringElem_cases hb) h

/-! ### the typed reads -/

theorem scalarRead_beyond {fx : Fixes} (hf : OutFixes fx) (t : Target) (m : Method) (b : Arr) (idx : Nat) (h : lenOf b ≤ idx) :
    IsFail (scalar fx m b idx >>= accept t) := (scalar_beyond hf m b idx h).bind _

theorem tupleVisit_beyond {fx : Fixes} (hf : OutFixes fx) (rf : ArrFields → R (List DVal)) (b : Arr) (idx : Nat) (h : lenOf b ≤ idx) :
    IsFail (tupleVisit fx rf b idx) := by
  unfold tupleVisit
  split
  · simp only [lenOf] at h; simp only [structItem_beyond hf _ idx h]; exact ⟨_, rfl⟩
  · exact ⟨_, rfl⟩

theorem structVisit_beyond {fx : Fixes} (hf : OutFixes fx) (rf : Slots → String → Arr → R (Option (Nat × DVal))) (tfs : TFields) (b : Arr) (idx : Nat)
    (h : lenOf b ≤ idx) : IsFail (structVisit fx rf tfs b idx) := by
  unfold structVisit
  split
  · simp only [lenOf] at h; simp only [structItem_beyond hf _ idx h]; exact ⟨_, rfl⟩
  · exact ⟨_, rfl⟩

/-- every typed read beyond the length of a view is an `Err` — for EVERY target and EVERY array, no hypothesis -/
theorem readAs_beyond {fx : Fixes} (hf : OutFixes fx) : ∀ (t : Target) (b : Arr) (idx : Nat), lenOf b ≤ idx → IsFail (readAs fx t b idx)
  | .any, b, idx, h => by unfold readAs; exact readAny_beyond hf b idx h
  | .ignored, b, idx, h => by unfold readAs; exact (readAny_beyond hf b idx h).bind _
  | .unit, b, idx, h | .unitStruct, b, idx, h | .bool, b, idx, h | .int _, b, idx, h | .f32, b, idx, h | .f64, b, idx, h
  | .char, b, idx, h | .string, b, idx, h | .str, b, idx, h => by
    unfold readAs; exact scalarRead_beyond hf _ _ b idx h
  | .bytes, b, idx, h => by
    unfold readAs
    split
    · simp only [lenOf] at h; simp only [listRange_beyond _ _ idx h]; exact ⟨_, rfl⟩
    · exact scalarRead_beyond hf _ _ _ idx h
  | .byteBuf, b, idx, h => by
    unfold readAs
    split
    · simp only [lenOf] at h; simp only [listRange_beyond _ _ idx h]; exact ⟨_, rfl⟩
    · exact scalarRead_beyond hf _ _ _ idx h
  | .option t, b, idx, h => by unfold readAs; exact (isSome_beyond hf b idx h).bind _
  | .newtype t, b, idx, h => by unfold readAs; exact readAs_beyond hf t b idx h
  | .seq t, b, idx, h => by
    unfold readAs
    split
    · simp only [lenOf] at h; simp only [listRange_beyond _ _ idx h]; exact ⟨_, rfl⟩
    · simp only [lenOf] at h; simp only [fslRange_beyond _ _ _ idx h]; exact ⟨_, rfl⟩
    · split
      · rename_i rb hb
        exact (binaryElems_beyond hf _ idx h rb hb).bind _
      · exact ⟨_, rfl⟩
  | .tuple ts, b, idx, h => by unfold readAs; exact tupleVisit_beyond hf _ b idx h
  | .tupleStruct ts, b, idx, h => by unfold readAs; exact tupleVisit_beyond hf _ b idx h
  | .map k v, b, idx, h => by
    unfold readAs
    split
    · simp only [lenOf] at h; simp only [structItem_beyond hf _ idx h]; exact ⟨_, rfl⟩
    · simp only [lenOf] at h; simp only [listRange_beyond _ _ idx h]; exact ⟨_, rfl⟩
    · exact ⟨_, rfl⟩
  | .struct tfs, b, idx, h => by unfold readAs; exact structVisit_beyond hf _ tfs b idx h
  | .enum byIndex vs, b, idx, h => by
    unfold readAs
    split
    · simp only [lenOf] at h; simp only [unionSelect_beyond _ _ _ _ idx h]; exact ⟨_, rfl⟩
    · split
      · rename_i rs hb
        exact (stringElem_beyond hf _ idx h rs hb).bind _
      · exact ⟨_, rfl⟩

/-! ### out of the window of a slice -/

theorem window_length_le {α} (xs : List α) (o n : Nat) : (window xs o n).length ≤ n := by
  simp only [window, List.length_take]; omega

/-- the length of a slice is at most `l` — for EVERY window, also one that sticks out of the array -/
theorem lenOf_slice_le : ∀ (a : Arr) (o l : Nat), lenOf (sliceView a o l) ≤ l
  | .null _, _, _ | .boolean _ _ _, _, _ | .struct _ _ _, _, _ | .fixedSizeList _ _ _ _ _, _, _ => Nat.le_refl _
  | .prim _ _ vals, o, l | .time _ _ _ vals, o, l | .timestamp _ _ _ vals, o, l | .decimal128 _ _ _ vals, o, l
  | .bytesView _ _ vals _, o, l => window_length_le vals o l
  | .bytes _ _ offs _, o, l | .list _ _ offs _ _, o, l | .map _ offs _ _ _, o, l => by
    simp only [sliceView, lenOf]; have := window_length_le offs o (l + 1); omega
  | .fixedSizeBinary n _ data, o, l => by
    simp only [sliceView, lenOf]
    split
    · exact Nat.zero_le _
    · apply Nat.div_le_of_le_mul
      have := window_length_le data (o * n.toNat) (l * n.toNat)
      rw [Nat.mul_comm n.toNat l]
      exact this
  | .dictionary ks _, o, l => lenOf_slice_le ks o l
  | .union types offs _, o, l => by
    cases offs <;> exact window_length_le types o l

end SaModel.Lemmas.C12
