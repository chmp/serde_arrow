import SaModel.Lemmas.C08Covers
import SaModel.Lemmas.C08SDone
/-
C08 — `from_samples` over ARBITRARY values of a type: `sstate o n p nl ty xs` is the tracer at position (name `n`, path
`p`, nullable `nl`) after absorbing the values `xs` of type `ty`, in this order, written down from the type and the values
found at each position (the projections of SaModel/Lemmas/C08Covers.lean).  A node that has seen no value is `unknown`;
an `Option` position is nullable as soon as it has seen any value; a struct node counts its samples; a union node has a
slot for every variant up to the last one that occurred, `absent` for the variants that have not occurred yet.
-/
namespace SaModel.Lemmas.C08
open SaModel SaModel.Trace SaModel.Trace.Spec

/-- a node that has seen the values `xs`: fresh when there are none -/
def seen (xs : List SVal) (n p : String) (nl : Bool) (t : Tracer) : Tracer :=
  if xs.isEmpty then .unknown n p nl else t

/-- does any of the `len` variants from index `i` on occur -/
def anyFrom : Nat → Nat → List SVal → Bool
  | 0, _, _ => false
  | len + 1, i, xs => !(payloadsAt i xs).isEmpty || anyFrom len (i + 1) xs

def slot (ys : List SVal) (n : String) (t : Tracer) (rest : Variants) : Variants :=
  if ys.isEmpty then .absent rest else .present n t rest

mutual
def sstate (o : Options) (n p : String) (nl : Bool) : Ty → List SVal → Tracer
  | .unit, xs => seen xs n p nl (.primitive n p true .null none)
  | .unitStruct _, xs => seen xs n p nl (.primitive n p true .null none)
  | .bool, xs => seen xs n p nl (.primitive n p nl .boolean none)
  | .int t, xs => seen xs n p nl (.primitive n p nl (intDataType t) none)
  | .f32, xs => seen xs n p nl (.primitive n p nl .float32 none)
  | .f64, xs => seen xs n p nl (.primitive n p nl .float64 none)
  | .char, xs => seen xs n p nl (.primitive n p nl .uint32 none)
  | .string, xs => seen xs n p nl (.primitive n p nl o.string_type none)
  | .bytes, xs => seen xs n p nl (.primitive n p nl .largeBinary none)
  | .option t, xs => sstate o n p (nl || !xs.isEmpty) t (somes xs)
  | .newtypeStruct _ t, xs => sstate o n p nl t (xs.filterMap unNewtype)
  | .vec t, xs => seen xs n p nl (.list n p nl (sstate o "element" (childPath p "element") false t (elems xs)))
  | .tuple ts, xs => seen xs n p nl (.tuple n p nl (sstateTys o p 0 ts (xs.filterMap tupleItems)))
  | .tupleStruct _ ts, xs => seen xs n p nl (.tuple n p nl (sstateTys o p 0 ts (xs.filterMap tupleItems)))
  | .map kt vt, xs =>
    seen xs n p nl (.map n p nl (sstate o "key" (childPath p "key") false kt (xs.flatMap mapKeys))
      (sstate o "value" (childPath p "value") false vt (xs.flatMap mapVals)))
  | .struct _ fs, xs =>
    seen xs n p nl (.struct n p nl (sstateFields o p xs.length fs (xs.filterMap recFields)) .struct xs.length)
  | .enum _ vs, xs => seen xs n p nl (.union n p nl (sstateVariants o p 0 vs xs))
def sstateTys (o : Options) (p : String) : Nat → Tys → List SVals → Tracers
  | _, .nil, _ => .nil
  | i, .cons t r, xss =>
    .cons (sstate o (toString i) (childPath p (toString i)) false t (xss.filterMap headV))
      (sstateTys o p (i + 1) r (xss.filterMap tailV))
/-- `m` = number of samples the struct node has seen -/
def sstateFields (o : Options) (p : String) (m : Nat) : TyFields → List SFields → TFields
  | .nil, _ => .nil
  | .cons n t r, xss =>
    .cons n (m - 1) (sstate o n (childPath p n) false t (xss.filterMap headF)) (sstateFields o p m r (xss.filterMap tailF))
def sstateVariants (o : Options) (p : String) : Nat → TyVariants → List SVal → Variants
  | _, .nil, _ => .nil
  | i, .unit n rest, xs =>
    if anyFrom (rest.length + 1) i xs then
      slot (payloadsAt i xs) n (.primitive n (childPath p n) true .null none) (sstateVariants o p (i + 1) rest xs)
    else .nil
  | i, .newtype n t rest, xs =>
    if anyFrom (rest.length + 1) i xs then
      slot (payloadsAt i xs) n (sstate o n (childPath p n) false t (payloadsAt i xs)) (sstateVariants o p (i + 1) rest xs)
    else .nil
  | i, .tuple n ts rest, xs =>
    if anyFrom (rest.length + 1) i xs then
      slot (payloadsAt i xs) n
        (.tuple n (childPath p n) false (sstateTys o (childPath p n) 0 ts ((payloadsAt i xs).filterMap tupleItems)))
        (sstateVariants o p (i + 1) rest xs)
    else .nil
  | i, .struct n fs rest, xs =>
    if anyFrom (rest.length + 1) i xs then
      slot (payloadsAt i xs) n
        (.struct n (childPath p n) false
          (sstateFields o (childPath p n) (payloadsAt i xs).length fs ((payloadsAt i xs).filterMap recFields)) .struct
          (payloadsAt i xs).length)
        (sstateVariants o p (i + 1) rest xs)
    else .nil
end

theorem seen_nil (n p : String) (nl : Bool) (t : Tracer) : seen [] n p nl t = .unknown n p nl := rfl

theorem seen_ne {xs : List SVal} (h : xs ≠ []) (n p : String) (nl : Bool) (t : Tracer) : seen xs n p nl t = t := by
  cases xs with
  | nil => exact absurd rfl h
  | cons _ _ => rfl

theorem seen_append (xs : List SVal) (x : SVal) (n p : String) (nl : Bool) (t : Tracer) :
    seen (xs ++ [x]) n p nl t = t := seen_ne (by simp) n p nl t

theorem sstate_nil (o : Options) : ∀ (ty : Ty) (n p : String) (nl : Bool), sstate o n p nl ty [] = .unknown n p nl
  | .unit | .unitStruct _ | .bool | .int _ | .f32 | .f64 | .char | .string | .bytes | .vec _ | .tuple _
  | .tupleStruct _ _ | .map _ _ | .struct _ _ | .enum _ _ => by
    intro _ _ _
    simp only [sstate, seen_nil]
  | .option t => by
    intro n p nl
    simp only [sstate, somes, List.filterMap_nil, List.isEmpty_nil, Bool.not_true, Bool.or_false]
    exact sstate_nil o t n p nl
  | .newtypeStruct _ t => by intro n p nl; simp only [sstate, List.filterMap_nil]; exact sstate_nil o t n p nl

/-- marking a position nullable = having been created nullable -/
theorem sstate_mark_nullable (o : Options) : ∀ (ty : Ty) (n p : String) (nl : Bool) (xs : List SVal),
    (sstate o n p nl ty xs).mark_nullable = sstate o n p true ty xs
  | .unit | .unitStruct _ | .bool | .int _ | .f32 | .f64 | .char | .string | .bytes | .vec _ | .tuple _
  | .tupleStruct _ _ | .map _ _ | .struct _ _ | .enum _ _ => by
    intro _ _ _ xs
    cases xs <;> simp only [sstate, seen, List.isEmpty_nil, List.isEmpty_cons, if_true, Bool.false_eq_true, if_false,
      Tracer.mark_nullable, Tracer.set_nullable]
  | .option t => by
    intro n p nl xs
    simp only [sstate, Bool.true_or]
    rw [sstate_mark_nullable o t n p _ (somes xs)]
  | .newtypeStruct _ t => by intro n p nl xs; simp only [sstate]; exact sstate_mark_nullable o t n p nl _

theorem sstateTys_length (o : Options) (p : String) : ∀ (ts : Tys) (i : Nat) (xss : List SVals),
    (sstateTys o p i ts xss).length = ts.length
  | .nil, _, _ => rfl
  | .cons t r, i, xss => by simp only [sstateTys, Tracers.length, Tys.length, sstateTys_length o p r]

/-- the variant vector over the plain list of (name, type the payload is a value of) -/
def sVg (o : Options) (p : String) : Nat → List (String × Ty) → List SVal → Variants
  | _, [], _ => .nil
  | i, (n, T) :: rest, xs =>
    if anyFrom (rest.length + 1) i xs then
      slot (payloadsAt i xs) n (sstate o n (childPath p n) false T (payloadsAt i xs)) (sVg o p (i + 1) rest xs)
    else .nil

theorem slot_congr (ys : List SVal) (n : String) (t t' : Tracer) (rest : Variants) (h : ys ≠ [] → t = t') :
    slot ys n t rest = slot ys n t' rest := by
  cases ys with
  | nil => rfl
  | cons y r => simp only [slot, List.isEmpty_cons, Bool.false_eq_true, if_false]; rw [h (by simp)]

theorem sstateVariants_eq (o : Options) (p : String) : ∀ (vs : TyVariants) (i : Nat) (xs : List SVal),
    sstateVariants o p i vs xs = sVg o p i (vList vs) xs
  | .nil, _, _ => rfl
  | .unit n rest, i, xs => by
    simp only [sstateVariants, vList, sVg, vList_length, sstateVariants_eq o p rest]
    split
    · exact slot_congr _ _ _ _ _ (fun h => by simp only [sstate, seen_ne h])
    · rfl
  | .newtype n t rest, i, xs => by
    simp only [sstateVariants, vList, sVg, vList_length, sstateVariants_eq o p rest]
  | .tuple n ts rest, i, xs => by
    simp only [sstateVariants, vList, sVg, vList_length, sstateVariants_eq o p rest]
    split
    · exact slot_congr _ _ _ _ _ (fun h => by simp only [sstate, seen_ne h])
    · rfl
  | .struct n fs rest, i, xs => by
    simp only [sstateVariants, vList, sVg, vList_length, sstateVariants_eq o p rest]
    split
    · exact slot_congr _ _ _ _ _ (fun h => by simp only [sstate, seen_ne h])
    · rfl

namespace VHead

theorem sstate_eq {vs r : TyVariants} {n : String} {T : Ty} (h : VHead vs n T r) (o : Options) (p : String) (i : Nat)
    (xs : List SVal) : sstateVariants o p i vs xs =
      if anyFrom (r.length + 1) i xs then
        slot (payloadsAt i xs) n (sstate o n (childPath p n) false T (payloadsAt i xs)) (sstateVariants o p (i + 1) r xs)
      else .nil := by
  rw [sstateVariants_eq, h.vList_eq, sVg, vList_length, ← sstateVariants_eq]

end VHead

end SaModel.Lemmas.C08
