import SaModel.Data.Schema
/-
`ofList` undoes `toList`.  A Boolean predicate on field lists (`Fields`, `UFields`) that is defined as the conjunction
of a predicate over the fields is `List.all` of it over `toList`: stated once for any such pair (the two defining
equations are the hypotheses, `rfl` at every instance), with the two forms in which it is used: on a schema built by
`ofList`, and on the members of `toList`. Likewise for predicates into `Prop`.
-/
namespace SaModel

theorem Fields.ofList_toList : ∀ fs : Fields, Fields.ofList fs.toList = fs
  | .nil => rfl
  | .cons f r => by rw [Fields.toList, Fields.ofList, Fields.ofList_toList r]

theorem UFields.ofList_toList : ∀ us : UFields, UFields.ofList us.toList = us
  | .nil => rfl
  | .cons i f r => by rw [UFields.toList, UFields.ofList, UFields.ofList_toList r]

theorem Fields.all_eq {pF : Field → Bool} {pFs : Fields → Bool} (hnil : pFs .nil = true)
    (hcons : ∀ f r, pFs (.cons f r) = (pF f && pFs r)) : ∀ fs : Fields, pFs fs = fs.toList.all pF
  | .nil => hnil
  | .cons f r => by rw [hcons, Fields.toList, List.all_cons, Fields.all_eq hnil hcons r]

theorem Fields.all_ofList_eq {pF : Field → Bool} {pFs : Fields → Bool} (hnil : pFs .nil = true)
    (hcons : ∀ f r, pFs (.cons f r) = (pF f && pFs r)) (l : List Field) : pFs (Fields.ofList l) = l.all pF := by
  rw [Fields.all_eq hnil hcons, Fields.toList_ofList]

theorem Fields.all_ofList {pF : Field → Bool} {pFs : Fields → Bool} (hnil : pFs .nil = true)
    (hcons : ∀ f r, pFs (.cons f r) = (pF f && pFs r)) {l : List Field} (h : ∀ f ∈ l, pF f = true) :
    pFs (Fields.ofList l) = true := by
  rw [Fields.all_ofList_eq hnil hcons]; exact List.all_eq_true.mpr h

theorem Fields.all_toList {pF : Field → Bool} {pFs : Fields → Bool} (hnil : pFs .nil = true)
    (hcons : ∀ f r, pFs (.cons f r) = (pF f && pFs r)) {fs : Fields} (h : pFs fs = true) : ∀ f ∈ fs.toList, pF f = true :=
  List.all_eq_true.mp (Fields.all_eq hnil hcons fs ▸ h)

theorem Fields.all_of_toList {pF : Field → Bool} {pFs : Fields → Bool} (hnil : pFs .nil = true)
    (hcons : ∀ f r, pFs (.cons f r) = (pF f && pFs r)) {fs : Fields} (h : ∀ f ∈ fs.toList, pF f = true) : pFs fs = true := by
  rw [Fields.all_eq hnil hcons]; exact List.all_eq_true.mpr h

theorem UFields.all_eq {pF : Field → Bool} {pUs : UFields → Bool} (hnil : pUs .nil = true)
    (hcons : ∀ i f r, pUs (.cons i f r) = (pF f && pUs r)) : ∀ us : UFields, pUs us = us.toList.all (pF ·.2)
  | .nil => hnil
  | .cons i f r => by rw [hcons, UFields.toList, List.all_cons, UFields.all_eq hnil hcons r]

theorem UFields.all_ofList {pF : Field → Bool} {pUs : UFields → Bool} (hnil : pUs .nil = true)
    (hcons : ∀ i f r, pUs (.cons i f r) = (pF f && pUs r)) {l : List (Int × Field)} (h : ∀ p ∈ l, pF p.2 = true) :
    pUs (UFields.ofList l) = true := by
  rw [UFields.all_eq hnil hcons, UFields.toList_ofList]; exact List.all_eq_true.mpr h

/-! The same for a predicate into `Prop` (the two defining equations as `Iff.rfl`). -/

theorem Fields.forall_iff {pF : Field → Prop} {pFs : Fields → Prop} (hnil : pFs .nil)
    (hcons : ∀ f r, pFs (.cons f r) ↔ pF f ∧ pFs r) : ∀ fs : Fields, pFs fs ↔ ∀ f ∈ fs.toList, pF f
  | .nil => Iff.intro (fun _ _ hf => nomatch hf) fun _ => hnil
  | .cons f r => by rw [hcons, Fields.toList, List.forall_mem_cons, Fields.forall_iff hnil hcons r]

theorem Fields.forall_ofList {pF : Field → Prop} {pFs : Fields → Prop} (hnil : pFs .nil)
    (hcons : ∀ f r, pFs (.cons f r) ↔ pF f ∧ pFs r) {l : List Field} : pFs (Fields.ofList l) ↔ ∀ f ∈ l, pF f := by
  rw [Fields.forall_iff hnil hcons, Fields.toList_ofList]

end SaModel
