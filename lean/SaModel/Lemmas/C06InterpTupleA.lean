import SaModel.Lemmas.C06InterpBase
/-
C06, closure, tracer ⇒ documented mapping, tuples — helpers: the invariant `Inv` position by position,
`Tracers.to_fields` as a map over the list, `interpNth` / `hitsNth` by position.
-/
namespace SaModel.Lemmas.C06
open SaModel SaModel.Spec SaModel.Build SaModel.Trace

theorem Inv_tuple_get {o : Options} {n p : String} {nl : Bool} {ts : Tracers} (h : Inv o (.tuple n p nl ts))
    {i : Nat} {a : Tracer} (hg : ts.get? i = some a) : Inv o a := by
  obtain ⟨h1, h2⟩ := h
  simp only [C07.WF] at h1
  simp only [TN] at h2
  exact ⟨C07.TsWF_get h1 i a hg, ((TNT_iff ts).mp h2 i a hg).2⟩

theorem to_fields_get {o : Options} : ∀ (ts : Tracers) (flds : List Field), ts.to_fields o = .ok flds →
    flds.length = ts.length ∧ ∀ i t, ts.get? i = some t → ∃ g, flds[i]? = some g ∧ t.to_field o = .ok g
  | .nil, flds, h => by
    rw [Tracers.to_fields] at h; cases h
    exact ⟨rfl, fun i t hi => by simp [Tracers.get?] at hi⟩
  | .cons t r, flds, h => by
    obtain ⟨f, fs, h1, h3, rfl⟩ := to_fieldsT_cons_inv h
    obtain ⟨hl, hg⟩ := to_fields_get r fs h3
    refine ⟨by simp [Tracers.length, hl], ?_⟩
    intro i t' hi
    cases i with
    | zero => cases hi; exact ⟨f, rfl, h1⟩
    | succ i => exact hg i t' hi

theorem tuple_fields_names {o : Options} (h0 : o.overwrites = []) {ts : Tracers} {flds : List Field}
    (hf : ts.to_fields o = .ok flds) (hn : TNT 0 ts) :
    ∀ i (h : i < (flds.map Field.name).length), (flds.map Field.name)[i] = toString i := by
  intro i h
  obtain ⟨hl, hg⟩ := to_fields_get ts flds hf
  rw [List.length_map] at h
  obtain ⟨c, hc⟩ := Tracers.get?_of_lt (show i < ts.length by omega)
  obtain ⟨g, hg1, hg2⟩ := hg i c hc
  have hgi : flds[i] = g := by
    have := List.getElem?_eq_getElem h
    rw [hg1] at this; exact (Option.some.inj this).symm
  rw [List.getElem_map, hgi, (to_field_facts h0 hg2).1]
  exact ((TNT_iff ts).mp hn i c hc).1

theorem interpNth_some (ext : Ext) (dt : DataType) (nl : Bool) (md : Metadata) : ∀ (xs : SVals) (i : Nat) (v : SVal),
    xs.toList[i]? = some v → interpNth ext dt nl md i xs = (do pure [← interpDT ext dt nl md v])
  | .nil, i, v, h => by simp [SVals.toList] at h
  | .cons x r, 0, v, h => by
    simp only [SVals.toList, List.getElem?_cons_zero, Option.some.injEq] at h; subst h
    rw [interpNth]
  | .cons x r, i + 1, v, h => by
    simp only [SVals.toList, List.getElem?_cons_succ] at h
    rw [interpNth]; exact interpNth_some ext dt nl md r i v h

theorem interpNth_none (ext : Ext) (dt : DataType) (nl : Bool) (md : Metadata) : ∀ (xs : SVals) (i : Nat),
    xs.length ≤ i → interpNth ext dt nl md i xs = .ok []
  | .nil, i, _ => by rw [interpNth]
  | .cons x r, 0, h => by simp [SVals.length] at h
  | .cons x r, i + 1, h => by
    simp only [SVals.length] at h
    rw [interpNth]; exact interpNth_none ext dt nl md r i (by omega)

theorem hitsNth_some (p : DataType → SVal → Bool) (dt : DataType) : ∀ (xs : SVals) (i : Nat) (v : SVal),
    xs.toList[i]? = some v → hitsNth p dt i xs = hits p dt v
  | .nil, i, v, h => by simp [SVals.toList] at h
  | .cons x r, 0, v, h => by
    simp only [SVals.toList, List.getElem?_cons_zero, Option.some.injEq] at h; subst h
    rw [hitsNth]
  | .cons x r, i + 1, v, h => by
    simp only [SVals.toList, List.getElem?_cons_succ] at h
    rw [hitsNth]; exact hitsNth_some p dt r i v h

theorem hitsNth_none (p : DataType → SVal → Bool) (dt : DataType) : ∀ (xs : SVals) (i : Nat),
    xs.length ≤ i → hitsNth p dt i xs = p dt .none
  | .nil, i, _ => by rw [hitsNth]
  | .cons x r, 0, h => by simp [SVals.length] at h
  | .cons x r, i + 1, h => by
    simp only [SVals.length] at h
    rw [hitsNth]; exact hitsNth_none p dt r i (by omega)

end SaModel.Lemmas.C06
