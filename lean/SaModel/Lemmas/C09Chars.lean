/-
`String.toList` on a literal is dear to evaluate in the kernel (it decodes UTF-8 through `ByteArray.utf8Decode?`, with
proofs).  `charsOf` is the same function, written so that an ASCII literal is read off its bytes; the kernel tables over
string literals (SaModel/Props/C09Gen.lean, C09.lean) rewrite with `toList_eq_charsOf` before they evaluate.
-/
namespace SaModel.Lemmas.C09

def charsOf (s : String) : List Char :=
  if s.toByteArray.data.toList.all (· < 128) then s.toByteArray.data.toList.map (fun b => Char.ofNat b.toNat)
  else s.toList

theorem utf8EncodeChar_ascii (b : UInt8) (h : b < 128) : String.utf8EncodeChar (Char.ofNat b.toNat) = [b] := by
  have hb : b.toNat < 128 := h
  have hv : (Char.ofNat b.toNat).val.toNat = b.toNat := by
    rw [Char.ofNat, dif_pos (Or.inl (by omega))]; simp [Char.ofNatAux]
  unfold String.utf8EncodeChar
  simp only [hv]
  rw [if_pos (by omega)]
  simp

theorem flatMap_utf8EncodeChar_ascii : ∀ (bs : List UInt8), bs.all (· < 128) = true →
    bs.flatMap (fun b => String.utf8EncodeChar (Char.ofNat b.toNat)) = bs
  | [], _ => rfl
  | b :: r, h => by
    rw [List.all_cons, Bool.and_eq_true, decide_eq_true_eq] at h
    rw [List.flatMap_cons, utf8EncodeChar_ascii b h.1, flatMap_utf8EncodeChar_ascii r h.2]; rfl

theorem toList_eq_charsOf (s : String) : s.toList = charsOf s := by
  unfold charsOf
  split
  next h =>
    rw [← String.toList_ofList (l := List.map _ _)]
    congr 1
    apply String.toByteArray_inj.mp
    rw [String.toByteArray_ofList, List.utf8Encode, List.flatMap_map, flatMap_utf8EncodeChar_ascii _ h]
    exact ByteArray.ext (by rw [List.data_toByteArray])
  · rfl

end SaModel.Lemmas.C09
