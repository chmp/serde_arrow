import SaModel.Lemmas.C06Was
/-
C06: stable acceptance.  `Again c o x`: every later state of a node that has absorbed `x` (`Was`,
SaModel/Lemmas/C06Was.lean) absorbs `x` again without any change except sample counters.
`again_all : ∀ x, Again c o x` (`absorb_stable` in the form `PS`): induction over nested samples, scheme by scheme, each case
starting from the description `was_later` of the node.
-/
namespace SaModel.Lemmas.C06
open SaModel SaModel.Trace SaModel.Lemmas.C07 SaModel.Props.C07

def Again (c : Code) (o : Options) (x : SVal) : Prop :=
  ∀ t2, Was c o x t2 → ∃ t3, absorb c o t2 x = .ok t3 ∧ erase t3 = erase t2

/-- every well-formed tracer reachable from `t` absorbs `x` again, changing nothing but sample counters -/
def Stable (c : Code) (o : Options) (t : Tracer) (x : SVal) : Prop :=
  ∀ t2, WF o t2 → Steps c o t t2 → ∃ t3, absorb c o t2 x = .ok t3 ∧ erase t3 = erase t2

/-- absorbing `x` into a well-formed tracer gives a tracer that stably accepts `x`: `Again` with the absorbing step spelt out -/
def PS (c : Code) (o : Options) (x : SVal) : Prop := ∀ t t', WF o t → absorb c o t x = .ok t' → Stable c o t' x

theorem Again.ps {c : Code} {o : Options} {x : SVal} (h : Again c o x) : PS c o x :=
  fun t t' hw ha t2 _ hs => h t2 ⟨t, t', hw, ha, hs⟩

theorem ensure_primitive_null_id (o : Options) {t : Tracer} (hw : WF o t) (hn : t.nullable = true)
    (hu : isUnknown t = false) : t.ensure_primitive o .null = .ok t := by
  cases t with
  | unknown n p nl => simp [isUnknown] at hu
  | primitive n p nl ty st =>
    obtain ⟨rfl, _⟩ := hw.node
    simp only [Tracer.nullable] at hn; subst hn
    simp only [Tracer.ensure_primitive, Tracer.ensure_primitive_with_strategy, coerce_primitive_type]
    by_cases hty : ty = .null
    · subst hty; simp; rfl
    · rw [if_neg (by intro h'; exact hty h'.1), if_neg hty]; simp; rfl
  | _ =>
    simp only [Tracer.ensure_primitive, Tracer.ensure_primitive_with_strategy, isNull, if_true]
    simp only [Tracer.nullable] at hn; subst hn; rfl

variable {c : Code} {o : Options}

theorem again_leaf (x : SVal) (a : DataType) (hx : fam o x = .leaf a) : Again c o x := by
  intro t2 h
  have hl := was_later h
  rw [hx] at hl
  obtain ⟨ha, hl⟩ := hl
  suffices ∃ t3, t2.ensure_primitive o a = .ok t3 ∧ erase t3 = erase t2 from
    this.imp fun t3 h3 => ⟨absorb_of_run hx ⟨ha, h3.1⟩, h3.2⟩
  by_cases hnull : a = .null
  · subst hnull
    rw [if_pos rfl] at hl
    exact ⟨t2, ensure_primitive_null_id o h.wf hl.1 hl.2, rfl⟩
  · -- the state has absorbed `a`: the step is the identity
    rw [if_neg hnull] at hl
    obtain ⟨n, p, nl, ty, rfl, _, hstay⟩ := hl
    have e := ensure_primitive_embed o n p (some ty, nl) a
    simp only [LeafSt.embed] at e
    rw [e, hstay]
    exact ⟨_, rfl, rfl⟩

theorem again_none (x : SVal) (hx : fam o x = .none) : Again c o x := by
  intro t2 h
  have hl := was_later h
  rw [hx] at hl
  exact ⟨_, absorb_of_run hx rfl, by rw [mark_nullable_of_nullable hl]⟩

theorem again_wrap (x : SVal) (m : Bool) (v : SVal) (hx : fam o x = .wrap m v) (ih : Again c o v) : Again c o x := by
  intro t2 h
  have hl := was_later h
  rw [hx] at hl
  refine (ih t2 hl.2).imp fun t3 h3 => ⟨absorb_of_run hx ?_, h3.2⟩
  cases m
  · exact h3.1
  · show absorb c o t2.mark_nullable v = .ok t3
    rw [mark_nullable_of_nullable (hl.1 rfl)]; exact h3.1

theorem PS_leaf (c : Code) (o : Options) (x : SVal) (a : DataType) (hx : fam o x = .leaf a) : PS c o x :=
  (again_leaf x a hx).ps

theorem PS_none (c : Code) (o : Options) (x : SVal) (hx : fam o x = .none) : PS c o x :=
  (again_none x hx).ps

end SaModel.Lemmas.C06

/-! ### the passes of the compound serializers (elements of a sequence, positions of a tuple, fields of a struct) over a child
list every child of which has absorbed its part of the sample, by list induction over the children of the sample -/
namespace SaModel.Lemmas.C06
open SaModel SaModel.Trace SaModel.Lemmas.C07 SaModel.Props.C07

variable {c : Code} {o : Options}

theorem absorbAll_again : ∀ vs : List SVal, (∀ v ∈ vs, Again c o v) → ∀ i2, (∀ v ∈ vs, Was c o v i2) →
    ∃ i3, absorbAll c o i2 vs = .ok i3 ∧ erase i3 = erase i2
  | [], _, i2, _ => ⟨i2, rfl, rfl⟩
  | v :: vs, hp, i2, hwas => by
    obtain ⟨j, ha, he⟩ := hp v (by simp) i2 (hwas v (by simp))
    obtain ⟨i3, h3, he3⟩ := absorbAll_again vs (fun x hx => hp x (by simp [hx])) j
      fun x hx => (hwas x (by simp [hx])).steps (Steps.single ha)
    exact ⟨i3, by rw [absorbAll_cons, ha]; exact h3, by rw [he3, he]⟩

theorem markFrom_id : ∀ (ts : Tracers) (k : Nat), (∀ i t, ts.get? i = some t → k ≤ i → t.nullable = true) →
    ts.markFrom k = ts
  | .nil, _, _ => rfl
  | .cons t r, 0, h => by
    simp only [Tracers.markFrom]
    rw [mark_nullable_of_nullable (h 0 t rfl (Nat.le_refl 0)),
      markFrom_id r 0 (fun i t' hg _ => h (i + 1) t' hg (Nat.zero_le _))]
  | .cons t r, k + 1, h => by
    simp only [Tracers.markFrom]
    rw [markFrom_id r k (fun i t' hg hk => h (i + 1) t' hg (by omega))]

theorem absorbTupleL_again (path : String) : ∀ vs : List SVal, (∀ v ∈ vs, Again c o v) → ∀ (ts : Tracers) (pos : Nat),
    (∀ i v, vs[i]? = some v → ∃ ft, ts.get? (pos + i) = some ft ∧ Was c o v ft) →
    ∃ tsD, absorbTupleL c o path ts pos vs = .ok tsD ∧ eraseT tsD = eraseT ts
  | [], _, ts, _, _ => ⟨ts, rfl, rfl⟩
  | v :: vs, hp, ts, pos, hwas => by
    obtain ⟨ft, hft, hw⟩ := hwas 0 v rfl
    rw [Nat.add_zero] at hft
    obtain ⟨ft', hac, hec⟩ := hp v (by simp) ft hw
    obtain ⟨tsD, hD, heD⟩ := absorbTupleL_again path vs (fun x hx => hp x (by simp [hx])) (ts.set pos ft') (pos + 1)
      fun i x hx => by
        obtain ⟨g, hg, hwg⟩ := hwas (i + 1) x hx
        exact ⟨g, by rw [Tracers.get?_set_ne _ _ _ _ (by omega), show pos + 1 + i = pos + (i + 1) by omega]; exact hg, hwg⟩
    refine ⟨tsD, ?_, by rw [heD, eraseT_set_same ts pos ft ft' hft hec]⟩
    simp only [absorbTupleL]
    rw [field_tracer_grow_of_lt path pos ts (Tracers.get?_lt hft), hft]
    simp only
    rw [hac]
    exact hD

/-- the pass finds every field of the sample, stamps it with the sample number and leaves the other counters alone -/
theorem absorbKVs_again (path : String) (s : Nat) : ∀ kvs : List (String × SVal), (∀ kv ∈ kvs, Again c o kv.2) →
    ∀ fs : TFields, (∀ kv ∈ kvs, ∃ i ft, fs.indexOf kv.1 = some i ∧ fs.get? i = some ft ∧ Was c o kv.2 ft) →
    ∃ fsD, absorbKVs c o path s fs kvs = .ok fsD ∧ eraseF fsD = eraseF fs ∧
      (∀ kv ∈ kvs, ∀ i, fs.indexOf kv.1 = some i → lastSeen? fsD i = some s) ∧
      (∀ i, lastSeen? fs i = some s → lastSeen? fsD i = some s)
  | [], _, fs, _ => ⟨fs, rfl, rfl, fun _ hkv => (List.not_mem_nil hkv).elim, fun _ h => h⟩
  | kv :: kvs, hp, fs, hwas => by
    obtain ⟨idx, ft, hidx, hft, hw⟩ := hwas kv (by simp)
    obtain ⟨ft', hac, hec⟩ := hp kv (by simp) ft hw
    have hft2 : (fs.setLastSeen idx s).get? idx = some ft := by rw [TFields.get?_setLastSeen]; exact hft
    have hlt : idx < (fs.setLastSeen idx s).length := TFields.get?_lt hft2
    obtain ⟨fsD, hD, heD, hseen, hkept⟩ := absorbKVs_again path s kvs (fun x hx => hp x (by simp [hx]))
      ((fs.setLastSeen idx s).set idx ft') fun kv' hkv' => by
        obtain ⟨i, g, hi, hg, hwg⟩ := hwas kv' (by simp [hkv'])
        refine ⟨i, ?_⟩
        rw [TFields.indexOf_set, TFields.indexOf_setLastSeen]
        by_cases e : idx = i
        · subst e
          rw [hft] at hg; cases hg
          exact ⟨ft', hi, TFields.get?_set_eq _ _ _ hlt, hwg.steps (Steps.single hac)⟩
        · exact ⟨g, hi, by rw [TFields.get?_set_ne _ _ _ _ e, TFields.get?_setLastSeen]; exact hg, hwg⟩
    have hls : lastSeen? ((fs.setLastSeen idx s).set idx ft') idx = some s := by
      rw [lastSeen?_set]; exact lastSeen?_setLastSeen_eq fs idx s (TFields.get?_lt hft)
    refine ⟨fsD, ?_, ?_, ?_, ?_⟩
    · simp only [absorbKVs]
      rw [ensure_field_found hidx]
      simp only
      rw [hft2]
      simp only
      rw [hac]
      exact hD
    · rw [heD, eraseF_set_same _ idx ft ft' hft2 hec, eraseF_setLastSeen]
    · intro kv' hkv' i hi
      rcases List.mem_cons.mp hkv' with rfl | hkv'
      · rw [hidx] at hi; cases hi
        exact hkept idx hls
      · exact hseen kv' hkv' i (by rw [TFields.indexOf_set, TFields.indexOf_setLastSeen]; exact hi)
    · intro i hi
      apply hkept
      rw [lastSeen?_set]
      by_cases e : idx = i
      · subst e; rw [lastSeen?_set] at hls; exact hls
      · rw [lastSeen?_setLastSeen_ne _ _ _ _ e]; exact hi

end SaModel.Lemmas.C06

namespace SaModel.Lemmas.C06
open SaModel SaModel.Trace SaModel.Lemmas.C07 SaModel.Props.C07

variable {c : Code} {o : Options}

theorem again_list (x : SVal) (items : List SVal) (hx : fam o x = .list items) (ih : ∀ v ∈ items, Again c o v) :
    Again c o x := by
  intro t2 h
  have hl := was_later h
  rw [hx] at hl
  obtain ⟨hd, n, p, nl, i2, rfl, hwas⟩ := hl
  obtain ⟨i3, h3, he3⟩ := absorbAll_again _ ih i2 hwas
  exact ⟨.list n p nl i3, absorb_of_run hx ⟨_, _, _, i2, i3, ensure_list_id hd, h3, rfl⟩, by simp only [erase, he3]⟩

theorem again_map (x : SVal) (ks vs : List SVal) (hx : fam o x = .map ks vs) (ihk : ∀ v ∈ ks, Again c o v)
    (ihv : ∀ v ∈ vs, Again c o v) : Again c o x := by
  intro t2 h
  have hl := was_later h
  rw [hx] at hl
  obtain ⟨hd, n, p, nl, k2, v2, rfl, hwk, hwv⟩ := hl
  obtain ⟨k3, hk3, hek⟩ := absorbAll_again _ ihk k2 hwk
  obtain ⟨v3, hv3, hev⟩ := absorbAll_again _ ihv v2 hwv
  exact ⟨.map n p nl k3 v3, absorb_of_run hx ⟨_, _, _, k2, v2, k3, v3, ensure_map_id hd, hk3, hv3, rfl⟩,
    by simp only [erase, hek, hev]⟩

theorem again_tuple (x : SVal) (items : List SVal) (hx : fam o x = .tuple items) (ih : ∀ v ∈ items, Again c o v) :
    Again c o x := by
  intro t2 h
  have hl := was_later h
  rw [hx] at hl
  obtain ⟨hd, n, p, nl, ts, rfl, hwas, hnull⟩ := hl
  have hk : items.length ≤ ts.length := by
    by_cases h0 : items.length = 0
    · omega
    · obtain ⟨ft, hft, _⟩ := hwas (items.length - 1) _ (List.getElem?_eq_getElem (by omega))
      have := Tracers.get?_lt hft; omega
  -- the repaired `ensure_tuple` finds nothing to mark and nothing to add
  have hens : (Tracer.tuple n p nl ts).ensure_tuple c items.length = .ok (.tuple n p nl ts) := by
    rw [ensure_tuple_id c items.length hd]
    by_cases hc : c.tuple_arity_nullable = true
    · rw [if_pos hc, markFrom_id ts _ (hnull hc), tupleGrowNullable_of_le _ _ _ hk]
    · rw [if_neg hc]
  obtain ⟨tsD, hD, heD⟩ := absorbTupleL_again p items ih ts 0 fun i v hv => by rw [Nat.zero_add]; exact hwas i v hv
  exact ⟨.tuple n p nl tsD, absorb_of_run hx ⟨_, _, _, ts, tsD, hens, hD, rfl⟩, by simp only [erase, heD]⟩

theorem again_struct (x : SVal) (mode : StructMode) (kvs : List (String × SVal)) (hx : fam o x = .struct mode kvs)
    (ih : ∀ kv ∈ kvs, Again c o kv.2) : Again c o x := by
  intro t2 h
  have hl := was_later h
  rw [hx] at hl
  obtain ⟨hd, n, p, nl, fs, m, s, rfl, hmode, hs0, hwas, hnull⟩ := hl
  have hens : (Tracer.struct n p nl fs m s).ensure_struct c [] mode = .ok (.struct n p nl fs m s) := by
    rw [ensure_struct_id c mode hd]
    by_cases hc : (c.struct_mode_join && mode == .map) = true
    · rw [if_pos hc, hmode hc]
    · rw [if_neg hc]
  obtain ⟨fsD, hD, heD, hseen, _⟩ := absorbKVs_again p s kvs ih fs hwas
  obtain ⟨hCD, hnewD⟩ := absorbKVs_ext c o p s kvs fs fsD hD
  refine ⟨.struct n p nl (fsD.end_ s) m (s + 1), absorb_of_run hx ⟨_, _, _, fs, m, s, fsD, hens, hD, rfl⟩, ?_⟩
  simp only [erase]
  rw [eraseF_end s fsD, heD]
  -- `end` marks only what is nullable already: a field of the sample carries the sample number, any other is nullable
  intro i tD l hgD hlD
  cases hg2 : fs.get? i with
  | none => exact .inr (hnewD hs0 i tD hgD hg2)
  | some t2i =>
    obtain ⟨tD', hgD', hsD⟩ := hCD.1 i t2i hg2
    rw [hgD] at hgD'; cases hgD'
    rcases hnull i t2i hg2 with hn | ⟨kv, hkv, hidx⟩
    · exact .inr (hsD.keeps.1 hn)
    · left
      have := hseen kv hkv i hidx
      rw [hlD] at this
      simpa using this

theorem again_variant (x : SVal) (idx : Nat) (vn : String) (v : SVal) (hx : fam o x = .variant idx vn v)
    (ih : Again c o v) : Again c o x := by
  intro t2 h
  have hl := was_later h
  rw [hx] at hl
  obtain ⟨hd, n, p, nl, vs, ft, rfl, hlim, hg, hw⟩ := hl
  obtain ⟨ft', hac, hec⟩ := ih ft hw
  exact ⟨.union n p nl (vs.set idx vn ft'),
    absorb_of_run hx ⟨_, _, _, vs, vs, vn, ft, ft', ensure_union_id hd, ensure_variant_present hlim hg, hg, hac, rfl⟩,
    by simp only [erase]; rw [eraseV_set_same vs idx vn ft ft' hg hec]⟩

theorem again_all (c : Code) (o : Options) : ∀ x : SVal, Again c o x := by
  refine fam_induct o fun x ih => ?_
  cases hx : fam o x <;> rw [hx] at ih
  case none => exact again_none x hx
  case wrap m v => exact again_wrap x m v hx (ih v (List.mem_singleton_self v))
  case leaf a => exact again_leaf x a hx
  case never => exact fun t2 h => by have hl := was_later h; rw [hx] at hl; exact hl.elim
  case list items => exact again_list x items hx ih
  case map ks vs =>
    exact again_map x ks vs hx (fun v hv => ih v (List.mem_append_left _ hv)) fun v hv => ih v (List.mem_append_right _ hv)
  case struct mode kvs => exact again_struct x mode kvs hx fun kv hkv => ih _ (List.mem_map_of_mem hkv)
  case tuple items => exact again_tuple x items hx ih
  case variant idx vn v => exact again_variant x idx vn v hx (ih v (List.mem_singleton_self v))

theorem absorb_stable (c : Code) (o : Options) : ∀ x : SVal, PS c o x :=
  fun x => (again_all c o x).ps

end SaModel.Lemmas.C06
