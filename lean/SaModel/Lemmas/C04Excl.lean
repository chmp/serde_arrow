import SaModel.Lemmas.C04Interp
import SaModel.Lemmas.C04Scope
/-
C04: the type-directed exclusion `inScopeU o t v` (no `None`, nor a field left out by `skip_serializing_if`, at a position
traced to a Union) IS the run-time exclusion the `roundtrip` driver decides on (schema, serialized row):
      inScopeU o t v = !noneAtUnion (mappingDT o t).1 (ser t v)          (fragE t, wt t v)
and at the root   inScopeU o (.struct n fs) v = !noneAtUnionRow (mappingFields o fs).toList (ser (.struct n fs) v).
Whole grammar `fragE` (enums in both storage forms, all four variant kinds), every option set.
An instance of the induction over well-typed values (`WtClosed`, Lemmas/C04Mapping.lean).
-/
namespace SaModel.Roundtrip
open SaModel SaModel.Build

theorem mappingDT_option_fst (o : TraceOpts) (t : Ty) : (mappingDT o (.option t)).1 = (mappingDT o t).1 := by
  rcases hm : mappingDT o t with ⟨dt, nb, md⟩
  simp only [mappingDT, hm]

theorem mappingDT_newtype_eq (o : TraceOpts) (n : String) (t : Ty) : mappingDT o (.newtype n t) = mappingDT o t := by
  simp only [mappingDT]

theorem nullTy_dt (o : TraceOpts) : ∀ (t : Ty), isNullTy t = true → (mappingDT o t).1 = .null
  | .unit, _ => by simp only [mappingDT]
  | .unitStruct _, _ => by simp only [mappingDT]
  | .option t, h => by
    rw [mappingDT_option_fst]; exact nullTy_dt o t h
  | .newtype n t, h => by
    rw [mappingDT_newtype_eq]; exact nullTy_dt o t h
  | .prim _, h | .vec _, h | .tuple _, h | .struct _ _, h | .tupleStruct _ _, h | .enum _ _, h | .map _ _, h => by
    simp [isNullTy] at h

/-- no Union below a data-less type: the exclusion is vacuous there -/
theorem nullTy_inScopeU (o : TraceOpts) : ∀ (t : Ty) (v : Val), isNullTy t = true → inScopeU o t v = true
  | .unit, v, _ => by cases v <;> simp [inScopeU]
  | .unitStruct _, v, _ => by cases v <;> simp [inScopeU]
  | .option t, v, h => by
    have h' : isNullTy t = true := h
    cases v with
    | none => simp [inScopeU, nullTy_dt o t h', isUnion]
    | some v => exact nullTy_inScopeU o t v h'
    | _ => simp [inScopeU]
  | .newtype n t, v, h => by
    have h' : isNullTy t = true := h
    cases v with
    | newtype v => exact nullTy_inScopeU o t v h'
    | _ => simp [inScopeU]
  | .prim _, _, h | .vec _, _, h | .tuple _, _, h | .struct _ _, _, h | .tupleStruct _ _, _, h | .enum _ _, _, h
  | .map _ _, _, h => by
    simp [isNullTy] at h

/-- the variants of an enum "without data" (unit variants, newtype variants around data-less types): the payload type carries no data -/
theorem withoutData_get (vars : Variants) (i : Nat) (vn : String) (kind : Variant)
    (hw : vars.withoutData = true) (hg : vars.get? i = some (vn, kind)) : isNullTy (kind.payload vn) = true :=
  Variants.get?_all (P := fun v => isNullTy (v.payload vn)) (PV := Variants.withoutData)
    (fun _ v _ => by cases v <;> simp [Variants.withoutData, Variant.payload, isNullTy]) vars i vn kind hw hg

/-- the data type of the child of the Union an enum is traced to, for one variant (`(variantField o vn kind).dataType`) -/
def variantDT (o : TraceOpts) : Variant → DataType
  | .unit => .null
  | .newtype t => (mappingDT o t).1
  | .tuple ts => .struct (mappingPos o 0 ts)
  | .struct fs => .struct (mappingFields o fs)

theorem variantDT_eq (o : TraceOpts) (vn : String) (kind : Variant) : variantDT o kind = (variantField o vn kind).dataType := by
  cases kind <;> rfl

theorem UFields.dtAt_toList : ∀ (U : UFields) (i : Nat), UFields.dtAt U i = U.toList[i]?.map (·.2.dataType)
  | .nil, _ => by simp [UFields.dtAt, UFields.toList]
  | .cons _ (.mk _ _ _ _) _, 0 => by simp [UFields.dtAt, UFields.toList, Field.dataType]
  | .cons _ _ r, i + 1 => by simp only [UFields.dtAt, UFields.toList, List.getElem?_cons_succ]; exact UFields.dtAt_toList r i

theorem dtAt_variant (o : TraceOpts) {vars : Variants} {i : Nat} {vn : String} {kind : Variant}
    (hg : vars.get? i = some (vn, kind)) : UFields.dtAt (mappingVariants o 0 vars) i = some (variantDT o kind) := by
  rw [UFields.dtAt_toList, union_child o hg, variantDT_eq o vn]; rfl

private theorem beq_false_symm {a b : String} (h : (a == b) = false) : (b == a) = false := by
  have h1 : a ≠ b := by simpa using h
  have h2 : b ≠ a := fun e => h1 e.symm
  simpa using h2

theorem hasKey_serFields (name : String) : ∀ (fs : TFields) (vs : Vals), fs.names.contains name = false →
    SFields.hasKey (serFields fs vs) name = false
  | .nil, _, _ => by simp [serFields, SFields.hasKey]
  | .cons _ _ _ _, .nil, _ => by simp [serFields, SFields.hasKey]
  | .cons n s t rest, .cons v vrest, h => by
    simp only [TFields.names, List.contains_cons, Bool.or_eq_false_iff] at h
    have ih := hasKey_serFields name rest vrest h.2
    have hne : (n == name) = false := beq_false_symm h.1
    by_cases hs : s = true ∧ v = .none
    · simp [serFields.eq_1, hs, ih]
    · simp [serFields.eq_1, hs, SFields.hasKey, hne, ih]

/-- a key that is no field name of the schema does not change which union-typed fields are missing -/
theorem missingUnion_cons_key (o : TraceOpts) (k : String) (a : Nat) (x : SVal) : ∀ (fs : TFields) (S : SFields),
    fs.names.contains k = false →
    missingUnion (mappingFields o fs) (.cons k a x S) = missingUnion (mappingFields o fs) S
  | .nil, _, _ => by simp [mappingFields, missingUnion]
  | .cons n s t rest, S, h => by
    rcases hm : mappingDT o t with ⟨dt, nb, md⟩
    simp only [TFields.names, List.contains_cons, Bool.or_eq_false_iff] at h
    have hne : (k == n) = false := h.1
    simp [mappingFields, hm, missingUnion, SFields.hasKey, hne, missingUnion_cons_key o k a x rest S h.2]

/-- a schema field whose name is no key of the record is never looked up -/
theorem noneAtUnionNamed_cons_field (n : String) (dt : DataType) (nb : Bool) (md : Metadata) (F : Fields) :
    ∀ (S : SFields), SFields.hasKey S n = false →
    noneAtUnionNamed (.cons (.mk n dt nb md) F) S = noneAtUnionNamed F S
  | .nil, _ => by simp [noneAtUnionNamed]
  | .cons k a x rest, h => by
    simp only [SFields.hasKey, Bool.or_eq_false_iff] at h
    have hne : (n == k) = false := beq_false_symm h.1
    simp [noneAtUnionNamed, Fields.dtOf, hne, noneAtUnionNamed_cons_field n dt nb md F rest h.2]

private theorem bool_step_skip (u m x : Bool) (a b : Bool) (ha : a = !u) (hb : b = !(m || x)) :
    (a && b) = !((u && !false || m) || x) := by
  subst ha; subst hb; cases u <;> cases m <;> cases x <;> rfl

private theorem bool_step_keep (u c m x : Bool) (a b : Bool) (ha : a = !c) (hb : b = !(m || x)) :
    (a && b) = !((u && !true || m) || (c || x)) := by
  subst ha; subst hb; cases u <;> cases c <;> cases m <;> cases x <;> rfl

private theorem bool_and_not (c x a b : Bool) (ha : a = !c) (hb : b = !x) : (a && b) = !(c || x) := by
  subst ha; subst hb; cases c <;> cases x <;> rfl

theorem inScopeU_iff_prim (o : TraceOpts) (p : Prim) (v : Val) (h : p.wt v = true) :
    inScopeU o (.prim p) v = !noneAtUnion (mappingDT o (.prim p)).1 (ser (.prim p) v) := by
  unfold Prim.wt at h
  split at h <;> first | contradiction | simp [inScopeU, ser, noneAtUnion, mappingDT, primDT]

theorem noneAtUnion_variant (o : TraceOpts) {n : String} {vars : Variants} {i : Nat} {p : Vals} {vn : String} {kind : Variant}
    (hg : vars.get? i = some (vn, kind)) (hw : wt (.enum n vars) (.variant i p) = true) :
    noneAtUnion (.union (mappingVariants o 0 vars) .dense) (ser (.enum n vars) (.variant i p)) =
      noneAtUnion (mappingDT o (kind.payload vn)).1 (ser (kind.payload vn) (kind.payloadVal p)) := by
  cases variant_val hg hw <;>
    simp [ser, hg, serSingle, noneAtUnion, dtAt_variant o hg, variantDT, Variant.payload, Variant.payloadVal, mappingDT, isUnion]

/-- **the type-directed exclusion is the driver's run-time exclusion**, shape by shape of a well-typed value -/
theorem closed_inScopeU (o : TraceOpts) :
    WtClosed (fun t v => fragE t = true → inScopeU o t v = !noneAtUnion (mappingDT o t).1 (ser t v))
      (fun t vs => fragE t = true → inScopeUAll o t vs = !noneAtUnionAll (mappingDT o t).1 (serAll t vs))
      (fun ts vs => fragETys ts = true → ∀ i, inScopeUPos o ts vs = !noneAtUnionPos (mappingPos o i ts) (serPos ts vs))
      (fun fs vs => hasDup fs.names = false → fragEFields fs = true → inScopeUFields o fs vs =
        !(missingUnion (mappingFields o fs) (serFields fs vs) || noneAtUnionNamed (mappingFields o fs) (serFields fs vs)))
      (fun k v es => fragE k = true → fragE v = true →
        inScopeUEntries o k v es = !noneAtUnionEntries (mappingDT o k).1 (mappingDT o v).1 (serEntries k v es)) where
  prim p v hp _ := inScopeU_iff_prim o p v hp
  unit _ := by simp [inScopeU, ser, noneAtUnion, mappingDT, isUnion]
  unitStruct _ _ := by simp [inScopeU, ser, noneAtUnion]
  optNone _ _ := by rw [mappingDT_option_fst]; simp [inScopeU, ser, noneAtUnion]
  optSome _ _ _ ih hf := by rw [mappingDT_option_fst]; exact ih hf
  newtype _ _ _ _ ih hf := by rw [mappingDT_newtype_eq]; exact ih hf
  vec _ _ _ ih hf := by
    rw [mappingDT_vec]
    split <;> simp [inScopeU, ser, noneAtUnion, ih hf]
  tuple _ _ _ ih hf := by simp [inScopeU, ser, mappingDT, noneAtUnion, ih hf 0]
  tupleStruct _ _ _ _ ih hf := by simp [inScopeU, ser, mappingDT, noneAtUnion, ih hf 0]
  struct _ _ _ _ ih hf := by
    simp only [fragE, Bool.and_eq_true, Bool.not_eq_true'] at hf
    simp [inScopeU, ser, mappingDT, noneAtUnion, ih hf.1 hf.2]
  map _ _ _ _ ih hf := by
    simp only [fragE, Bool.and_eq_true] at hf
    rw [mappingDT_map]
    simp [inScopeU, ser, noneAtUnion, ih hf.1 hf.2]
  variant n vars i vn kind p hg hw ih hf := by
    simp only [fragE, Bool.and_eq_true, Bool.not_eq_true'] at hf
    rw [inScopeU_variant hg hw]
    by_cases hform : (vars.withoutData && o.enumsWithoutDataAsStrings) = true
    · -- stored as a string: not a Union, and nothing below it is one
      have hnone : noneAtUnion (.dictionary .uint32 (strDT o)) (ser (.enum n vars) (.variant i p)) = false := by
        cases variant_val hg hw <;>
          simp [ser, hg, serSingle, noneAtUnion]
      simp only [mappingDT, hform, if_true, hnone, Bool.not_false]
      simp only [Bool.and_eq_true] at hform
      exact nullTy_inScopeU o _ _ (withoutData_get vars i vn _ hform.1 hg)
    · rw [ih (fragE_payload vn kind ▸ fragEVariants_get vars i vn _ hf.2 hg), ← noneAtUnion_variant o hg hw]
      simp only [mappingDT, hform, Bool.false_eq_true, if_false]
  allNil _ _ := by simp [inScopeUAll, serAll, noneAtUnionAll]
  allCons _ _ _ _ _ ih1 ih2 hf := by
    simp only [inScopeUAll, serAll, noneAtUnionAll]
    exact bool_and_not _ _ _ _ (ih1 hf) (ih2 hf)
  posNil _ _ := by simp [inScopeUPos, serPos, noneAtUnionPos]
  posCons _ _ _ _ _ _ ih1 ih2 hf i := by
    simp only [fragETys, Bool.and_eq_true] at hf
    simp only [inScopeUPos, serPos, mappingPos_cons, noneAtUnionPos]
    exact bool_and_not _ _ _ _ (ih1 hf.1) (ih2 hf.2 (i + 1))
  fieldsNil _ _ := by simp [inScopeUFields, serFields, mappingFields, missingUnion, noneAtUnionNamed]
  fieldsCons n s t fs v rest _ _ ih1 ih2 hd hf := by
    simp only [TFields.names, hasDup, Bool.or_eq_false_iff] at hd
    simp only [fragEFields, Bool.and_eq_true] at hf
    have h1 := ih1 hf.1.1
    have h2 := ih2 hd.2 hf.2
    have hk := hasKey_serFields n fs rest hd.1
    by_cases hs : s = true ∧ v = .none
    · -- the field is left out: an Option whose `None` is missing
      obtain ⟨hs1, rfl⟩ := hs
      have hopt : isOption t = true := by simpa [hs1] using hf.1.2
      cases t with
      | option t' =>
        simp only [ser, noneAtUnion] at h1
        simp only [inScopeUFields, serFields, hs1, and_self, if_true, mappingFields_cons, missingUnion, hk,
          noneAtUnionNamed_cons_field n _ _ _ (mappingFields o fs) _ hk]
        exact bool_step_skip _ _ _ _ _ h1 h2
      | _ => simp [isOption] at hopt
    · simp only [inScopeUFields, serFields, hs, if_false, mappingFields_cons, missingUnion, SFields.hasKey, beq_self_eq_true,
        Bool.true_or, noneAtUnionNamed, Fields.dtOf, if_true,
        noneAtUnionNamed_cons_field n _ _ _ (mappingFields o fs) _ hk, missingUnion_cons_key o n 0 _ fs _ hd.1]
      exact bool_step_keep _ _ _ _ _ _ h1 h2
  entriesNil _ _ _ _ := by simp [inScopeUEntries, serEntries, noneAtUnionEntries]
  entriesCons k v a b rest _ _ _ ih1 ih2 ih3 hfk hfv := by
    simp only [inScopeUEntries, serEntries, noneAtUnionEntries, ih1 hfk, ih2 hfv, ih3 hfk hfv]
    cases noneAtUnion (mappingDT o k).1 (ser k a) <;> cases noneAtUnion (mappingDT o v).1 (ser v b) <;>
      cases noneAtUnionEntries (mappingDT o k).1 (mappingDT o v).1 (serEntries k v rest) <;> rfl

theorem inScopeU_iff (o : TraceOpts) : ∀ (t : Ty) (v : Val), fragE t = true → wt t v = true →
    inScopeU o t v = !noneAtUnion (mappingDT o t).1 (ser t v) :=
  fun t v hf hw => (closed_inScopeU o).val t v hw hf

theorem inScopeUAll_iff (o : TraceOpts) : ∀ (t : Ty) (vs : Vals), fragE t = true → wtAll t vs = true →
    inScopeUAll o t vs = !noneAtUnionAll (mappingDT o t).1 (serAll t vs) :=
  fun t vs hf hw => (closed_inScopeU o).all t vs hw hf

theorem inScopeUPos_iff (o : TraceOpts) : ∀ (i : Nat) (ts : Tys) (vs : Vals), fragETys ts = true → wtPos ts vs = true →
    inScopeUPos o ts vs = !noneAtUnionPos (mappingPos o i ts) (serPos ts vs) :=
  fun i ts vs hf hw => (closed_inScopeU o).pos ts vs hw hf i

theorem inScopeUFields_iff (o : TraceOpts) : ∀ (fs : TFields) (vs : Vals), hasDup fs.names = false →
    fragEFields fs = true → wtFields fs vs = true →
    inScopeUFields o fs vs =
      !(missingUnion (mappingFields o fs) (serFields fs vs) || noneAtUnionNamed (mappingFields o fs) (serFields fs vs)) :=
  fun fs vs hd hf hw => (closed_inScopeU o).fields fs vs hw hd hf

theorem inScopeUEntries_iff (o : TraceOpts) : ∀ (k v : Ty) (es : VEntries), fragE k = true → fragE v = true →
    wtEntries k v es = true →
    inScopeUEntries o k v es = !noneAtUnionEntries (mappingDT o k).1 (mappingDT o v).1 (serEntries k v es) :=
  fun k v es hfk hfv hw => (closed_inScopeU o).entries k v es hw hfk hfv

/-- **the driver's exclusion** `rows.any (noneAtUnionRow fields)` **on a traced root is the type-directed one** -/
theorem inScopeU_root (o : TraceOpts) (n : String) (fs : TFields) (v : Val) (fields : List Field)
    (hf : fragE (.struct n fs) = true) (hw : wt (.struct n fs) v = true) (hfields : fields = (mappingFields o fs).toList) :
    inScopeU o (.struct n fs) v = !noneAtUnionRow fields (ser (.struct n fs) v) := by
  have h := inScopeU_iff o (.struct n fs) v hf hw
  have hdt : (mappingDT o (.struct n fs)).1 = .struct (mappingFields o fs) := by simp only [mappingDT]
  rw [hdt] at h
  rw [h, hfields, noneAtUnionRow, fields_ofList_toList]

/-- the same through `mappingRoot` (the schema `from_type` returns) -/
theorem inScopeU_mappingRoot (o : TraceOpts) (n : String) (fs : TFields) (v : Val) (fields : List Field)
    (hf : fragE (.struct n fs) = true) (hw : wt (.struct n fs) v = true) (hroot : mappingRoot o (.struct n fs) = some fields) :
    inScopeU o (.struct n fs) v = !noneAtUnionRow fields (ser (.struct n fs) v) := by
  refine inScopeU_root o n fs v fields hf hw ?_
  simp only [mappingRoot, mappingDT, Option.some.injEq] at hroot
  exact hroot.symm

/-! ### an instance: `struct R { a: i32, e: Option<E> }`, `enum E { A, B(bool) }`, value `R { a: 1, e: None }` -/

def exclExE : Ty := .enum "E" (.cons "A" .unit (.cons "B" (.newtype (.prim .bool)) .nil))
def exclExFs (skip : Bool) : TFields := .cons "a" false (.prim (.int .i32)) (.cons "e" skip (.option exclExE) .nil)
def exclExR (skip : Bool) : Ty := .struct "R" (exclExFs skip)
def exclExNone : Val := .struct (.cons (.int 1) (.cons .none .nil))
def exclExSome : Val := .struct (.cons (.int 1) (.cons (.some (.variant 1 (.cons (.bool true) .nil))) .nil))

/-- `e = None` at a Union position: both forms say "excluded", whether the field is presented as `None` or left out by
`skip_serializing_if`; `e = Some(B(true))` is in scope -/
example : ∀ skip : Bool,
    inScopeU {} (exclExR skip) exclExNone = false ∧
    noneAtUnionRow (mappingFields {} (exclExFs skip)).toList (ser (exclExR skip) exclExNone) = true ∧
    inScopeU {} (exclExR skip) exclExSome = true ∧
    noneAtUnionRow (mappingFields {} (exclExFs skip)).toList (ser (exclExR skip) exclExSome) = false := by decide +kernel

/-- a data-less enum stored as a string is no Union: `None` is in scope there -/
example :
    let o : TraceOpts := { enumsWithoutDataAsStrings := true }
    let t : Ty := .struct "R" (.cons "e" true (.option (.enum "E" (.cons "A" .unit (.cons "B" (.newtype .unit) .nil)))) .nil)
    let v : Val := .struct (.cons .none .nil)
    inScopeU o t v = true ∧ noneAtUnion (mappingDT o t).1 (ser t v) = false := by decide +kernel

end SaModel.Roundtrip
