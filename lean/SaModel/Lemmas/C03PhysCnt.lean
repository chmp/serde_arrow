import SaModel.Lemmas.C11PhysBasic
import SaModel.Lemmas.C03BuiltFor
import SaModel.Lemmas.C03AllPush
/-
C03 → C02 bridge, `Read.physical` for ALL types: the COUNTING invariant of the builders.

`Read.physical` bounds two lengths no Arrow buffer bounds: the number of VALUES of a dictionary and the length of the
children of a (dense) union (below which a FixedSizeList multiplies).  Neither `Spec.wf` nor the state invariant `WFH`
bounds them from above.  `Cnt` does:

  dictionary   the key builder is an integer leaf and `index.length ≤ (number of keys pushed)` — a string enters the index
               only together with a key; `serialize_none` / `serialize_default` push a key and no value
  union        every per-variant counter is at most the number of rows (`types.length`)

`Cnt` is a tree invariant `All cntInv` (Lemmas/C03All.lean) whose clauses survive every write of the builders, so every
push keeps it (`push_cnt`, no hypothesis) and a fresh builder has it (`takeRest_cnt`).  It only mentions state that survives
`erase` (`Cnt_erase`) and is also kept by `pushL` (Lemmas/C11PhysDefs.lean: the state after a push as a TOTAL function of the
documented value; `pushL_cnt`).
-/
namespace SaModel.Build
open SaModel SaModel.Spec

mutual
def Cnt : B → Prop
  | .list _ _ _ _ _ el => Cnt el
  | .fixedSizeList _ _ _ _ _ _ el => Cnt el
  | .map _ _ _ _ ks vs => Cnt ks ∧ Cnt vs
  | .struct _ _ _ fs _ _ _ => CntL fs
  | .dictionary _ idx _ index => idx.isIntLeaf = true ∧ index.length ≤ idx.rows
  | .union _ fs types _ cur => CntL fs ∧ ∀ c ∈ cur, c ≤ (types.length : Int)
  | _ => True
def CntL : BL → Prop
  | .nil => True
  | .cons b _ r => Cnt b ∧ CntL r
end

theorem erase_isIntLeaf (b : B) : (erase b).isIntLeaf = b.isIntLeaf := by
  cases b <;> rfl

mutual
theorem Cnt_erase : ∀ (b : B), Cnt (erase b) ↔ Cnt b
  | .null _ _ | .unknownVariant _ | .leaf _ _ _ _ | .bytes _ _ _ _ _ | .bytesView _ _ _ _ _
  | .fixedSizeBinary _ _ _ _ _ _ => by simp [erase, Cnt]
  | .list _ _ _ _ _ el => by simp only [erase, Cnt]; exact Cnt_erase el
  | .fixedSizeList _ _ _ _ _ _ el => by simp only [erase, Cnt]; exact Cnt_erase el
  | .map _ _ _ _ ks vs => by simp only [erase, Cnt]; rw [Cnt_erase ks, Cnt_erase vs]
  | .struct _ _ _ fs _ _ _ => by simp only [erase, Cnt]; exact CntL_eraseL fs
  | .dictionary _ idx _ index => by simp only [erase, Cnt, erase_isIntLeaf, erase_rows]
  | .union _ fs _ _ _ => by simp only [erase, Cnt]; rw [CntL_eraseL fs]
theorem CntL_eraseL : ∀ (fs : BL), CntL (eraseL fs) ↔ CntL fs
  | .nil => by simp [eraseL, CntL]
  | .cons b _ r => by simp only [eraseL, CntL]; rw [Cnt_erase b, CntL_eraseL r]
end

theorem CntL_set : ∀ (fs : BL) (j : Nat) (c : B), CntL fs → Cnt c → CntL (fs.set j c)
  | .nil, _, _, _, _ => by simp [BL.set, CntL]
  | .cons b m r, 0, c, h, hc => by simp only [CntL] at h; simp only [BL.set, CntL]; exact ⟨hc, h.2⟩
  | .cons b m r, j + 1, c, h, hc => by
    simp only [CntL] at h; simp only [BL.set, CntL]; exact ⟨h.1, CntL_set r j c h.2 hc⟩

theorem CntL_get : ∀ (fs : BL) (j : Nat) (c : B) (m : FieldMeta), CntL fs → fs.get? j = some (c, m) → Cnt c
  | .nil, _, _, _, _, h => by simp [BL.get?] at h
  | .cons b m r, 0, c, m', h, hg => by
    simp only [BL.get?, Option.some.injEq, Prod.mk.injEq] at hg
    simp only [CntL] at h; rw [← hg.1]; exact h.1
  | .cons b m r, j + 1, c, m', h, hg => by
    simp only [BL.get?] at hg; simp only [CntL] at h; exact CntL_get r j c m' h.2 hg

/-- the per-variant counters after `k` more rows of variant `j` -/
theorem counters_step (cur : List Int) (n k : Nat) (j : Nat) (h : ∀ c ∈ cur, c ≤ (n : Int)) :
    ∀ c ∈ cur.set j (cur.getD j 0 + (k : Int)), c ≤ ((n + k : Nat) : Int) := by
  intro c hc
  have hget : cur.getD j 0 ≤ (n : Int) := by
    rw [List.getD_eq_getElem?_getD]
    cases hj : cur[j]? with
    | none => simp
    | some x => simp only [Option.getD_some]; exact h x (List.mem_of_getElem? hj)
  rcases List.mem_or_eq_of_mem_set hc with hc | rfl
  · have := h c hc; omega
  · omega

theorem iter_leaf_len (k : Nat) (v v' : Validity) (vals vals' : List Int)
    (h : iter k (fun (s : Validity × List Int) => (.ok (setValidityDefault s.1 s.2.length, s.2 ++ [0]) : R _)) (v, vals) =
      .ok (v', vals')) : vals.length ≤ vals'.length := by
  have := Lemmas.C03.iter_inv (fun (s : Validity × List Int) => vals.length ≤ s.2.length) _
    (fun a a' ha hp => by cases ha; simp only [List.length_append, List.length_singleton]; omega) k (v, vals) (v', vals') h
    (Nat.le_refl _)
  exact this

theorem pushDefaultK_intLeaf (b b' : B) (k : Nat) (hb : b.isIntLeaf = true) (h : pushDefaultK b k = .ok b') :
    b'.isIntLeaf = true ∧ b.rows ≤ b'.rows := by
  cases b with
  | leaf p kind v vals =>
    cases kind with
    | int t =>
      simp only [pushDefaultK] at h
      obtain ⟨⟨v', vals'⟩, h1, h2⟩ := (bind_ok _ _ _).1 h
      cases h2
      exact ⟨rfl, iter_leaf_len k v v' vals vals' h1⟩
    | _ => simp [B.isIntLeaf] at hb
  | _ => simp [B.isIntLeaf] at hb

theorem pushScalar_intLeaf (ext : Ext) (b b' : B) (x : SVal) (hb : b.isIntLeaf = true) (h : pushScalar ext b x = .ok b') :
    b'.isIntLeaf = true ∧ b'.rows = b.rows + 1 := by
  cases b with
  | leaf p kind v vals =>
    cases kind with
    | int t =>
      simp only [pushScalar] at h
      obtain ⟨val, _, h⟩ := (bind_ok _ _ _).1 h
      obtain ⟨v', _, h⟩ := (bind_ok _ _ _).1 h
      cases h
      exact ⟨rfl, by simp [B.rows]⟩
    | _ => simp [B.isIntLeaf] at hb
  | _ => simp [B.isIntLeaf] at hb

/-- the clauses of `Cnt`: a dictionary is not descended into -/
def cntInv : Lemmas.C03.NodeInv where
  leaf := fun _ _ => True
  bytes := fun _ _ _ => True
  view := fun _ _ _ => True
  offs := fun _ _ => True
  dict := fun _ _ idx index => idx.isIntLeaf = true ∧ index.length ≤ idx.rows
  union := fun pf types cur => pf ∧ ∀ c ∈ cur, c ≤ (types.length : Int)

mutual
theorem All_cnt : ∀ (b : B), Lemmas.C03.All cntInv b ↔ Cnt b
  | .null _ _ | .unknownVariant _ | .leaf _ _ _ _ | .bytes _ _ _ _ _ | .bytesView _ _ _ _ _
  | .fixedSizeBinary _ _ _ _ _ _ => by simp only [Lemmas.C03.All, Cnt, cntInv]
  | .list _ _ _ _ _ el => by simp only [Lemmas.C03.All, Cnt, All_cnt el]; exact ⟨And.right, And.intro trivial⟩
  | .fixedSizeList _ _ _ _ _ _ el => by simp only [Lemmas.C03.All, Cnt, All_cnt el]
  | .map _ _ _ _ ks vs => by simp only [Lemmas.C03.All, Cnt, All_cnt ks, All_cnt vs]; exact ⟨And.right, And.intro trivial⟩
  | .struct _ _ _ fs _ _ _ => by simp only [Lemmas.C03.All, Cnt, AllL_cnt fs]
  | .dictionary _ _ _ _ => by simp only [Lemmas.C03.All, Cnt]; exact Iff.rfl
  | .union _ fs _ _ _ => by simp only [Lemmas.C03.All, Cnt, AllL_cnt fs]; exact Iff.rfl
theorem AllL_cnt : ∀ (fs : BL), Lemmas.C03.AllL cntInv fs ↔ CntL fs
  | .nil => Iff.rfl
  | .cons b _ r => by simp only [Lemmas.C03.AllL, CntL, All_cnt b, AllL_cnt r]
end

theorem cntKeeps : Lemmas.C03.Keeps False cntInv where
  leaf_zero := fun _ => trivial
  bytes_chunk := fun _ _ _ _ => trivial
  view_push := fun _ _ _ => trivial
  offs_dup := fun _ _ => trivial
  offs_inc := fun _ _ => trivial
  dict_default := fun _ _ hd h => by
    obtain ⟨hl, hr⟩ := pushDefaultK_intLeaf _ _ _ h.1 hd
    exact ⟨hl, Nat.le_trans h.2 hr⟩
  union_default := fun hf h => by
    refine ⟨hf h.1, ?_⟩
    simpa only [List.length_append, List.length_replicate] using counters_step _ _ _ _ h.2

theorem pushDefaultKAt_cnt : ∀ (fs : BL) (j k : Nat) (fs' : BL), pushDefaultKAt fs j k = .ok fs' → CntL fs → CntL fs' :=
  fun fs j k fs' h hc => (AllL_cnt fs').1 (Lemmas.C03.pushDefaultKAt_All cntKeeps fs j k fs' False.elim h ((AllL_cnt fs).2 hc))

theorem pushNone_cnt (b b' : B) (h : pushNone b = .ok b') (hc : Cnt b) : Cnt b' :=
  (All_cnt b').1 (Lemmas.C03.pushNone_All cntKeeps b b' False.elim h ((All_cnt b).2 hc))

/-- the clauses of `Cnt` do not look at values: nothing is asked of the pushed value -/
theorem cntKeepsPush (ext : Ext) : Lemmas.C03.KeepsPush ext False False cntInv where
  toKeeps := cntKeeps
  leaf_conv := fun _ _ _ => trivial
  dict_old := fun _ hd _ h => by
    obtain ⟨hl, hr⟩ := pushScalar_intLeaf ext _ _ _ h.1 hd
    have h2 := h.2
    exact ⟨hl, by omega⟩
  dict_new := fun _ _ hd h => by
    obtain ⟨hl, hr⟩ := pushScalar_intLeaf ext _ _ _ h.1 hd
    have h2 := h.2
    exact ⟨hl, by simp only [List.length_append, List.length_singleton]; omega⟩
  union_row := fun {_ _ types cur i co} hf hco h => by
    refine ⟨hf h.1, ?_⟩
    have := counters_step cur types.length 1 i h.2
    rw [List.getD_eq_getElem?_getD, hco] at this
    simpa only [List.length_append, List.length_singleton, Option.getD_some, Int.natCast_one] using this

theorem push_cnt (ext : Ext) (x : SVal) (b b' : B) (h : push ext b x = .ok b') (hc : Cnt b) : Cnt b' :=
  (All_cnt b').1 (Lemmas.C03.push_All (cntKeepsPush ext) x b b' False.elim h False.elim ((All_cnt b).2 hc))

theorem foldlM_push_cnt (ext : Ext) : ∀ (rows : List SVal) (b b' : B), rows.foldlM (push ext) b = .ok b' → Cnt b → Cnt b' :=
  R.foldlM_induct (fun _ hc => hc) fun x _ b b1 _ h1 _ ih hc => ih (push_cnt ext x b b1 h1 hc)

theorem noneL_cnt (b : B) (h : Cnt b) : Cnt (noneL b) := by
  unfold noneL
  cases hp : pushNone b with
  | error e => exact h
  | ok b' => exact pushNone_cnt b b' hp h

theorem scalarL_intLeaf (un : Bytes → String) (b : B) (lv : LVal) (hb : b.isIntLeaf = true) :
    (scalarL un b lv).isIntLeaf = true ∧ (scalarL un b lv).rows = b.rows + 1 := by
  cases b with
  | leaf p kind v vals =>
    cases kind with
    | int t => simp [scalarL, B.isIntLeaf, B.rows]
    | _ => simp [B.isIntLeaf] at hb
  | _ => simp [B.isIntLeaf] at hb

theorem scalarL_cnt (un : Bytes → String) (b : B) (lv : LVal) (h : Cnt b) : Cnt (scalarL un b lv) := by
  cases b with
  | dictionary p idx vals index =>
    simp only [Cnt] at h
    unfold scalarL
    split
    · rename_i i hi
      obtain ⟨hl, hr⟩ := scalarL_intLeaf un idx (.int i) h.1
      simp only [Cnt]
      exact ⟨hl, by omega⟩
    · obtain ⟨hl, hr⟩ := scalarL_intLeaf un idx (.int index.length) h.1
      simp only [Cnt, List.length_append, List.length_singleton]
      exact ⟨hl, by omega⟩
  | bytesView p ty v views buf =>
    unfold scalarL
    split <;> simp [Cnt]
  | leaf _ _ _ _ | bytes _ _ _ _ _ | fixedSizeBinary _ _ _ _ _ _ => simp [scalarL, Cnt]
  | null _ _ | unknownVariant _ | list _ _ _ _ _ _ | fixedSizeList _ _ _ _ _ _ _ | map _ _ _ _ _ _
  | struct _ _ _ _ _ _ _ | union _ _ _ _ _ => simpa [scalarL] using h

mutual
theorem pushL_cnt (un : Bytes → String) : ∀ (lv : LVal) (b : B), Cnt b → Cnt (pushL un lv b)
  | .null => fun b h => by simp only [pushL]; exact noneL_cnt b h
  | .bool c => fun b h => by simp only [pushL]; exact scalarL_cnt un b _ h
  | .int v => fun b h => by simp only [pushL]; exact scalarL_cnt un b _ h
  | .float v => fun b h => by simp only [pushL]; exact scalarL_cnt un b _ h
  | .str bs => fun b h => by simp only [pushL]; exact scalarL_cnt un b _ h
  | .bin bs => fun b h => by simp only [pushL]; exact scalarL_cnt un b _ h
  | .list items => fun b h => by
    cases b with
    | list p large fm v offs el =>
      simp only [pushL, Cnt] at h ⊢
      exact pushLs_cnt un items el h
    | fixedSizeList p fm n len v cur el =>
      simp only [pushL, Cnt] at h ⊢
      exact pushLs_cnt un items el h
    | _ => simpa only [pushL] using h
  | .struct lfs => fun b h => by
    cases b with
    | struct p len v fs cached next seen =>
      simp only [pushL, Cnt] at h ⊢
      exact pushLF_cnt un lfs fs h
    | _ => simpa only [pushL] using h
  | .map es => fun b h => by
    cases b with
    | map p mm v offs ks vs =>
      simp only [pushL, Cnt] at h ⊢
      exact ⟨pushLK_cnt un es ks h.1, pushLW_cnt un es vs h.2⟩
    | _ => simpa only [pushL] using h
  | .union tid lv => fun b h => by
    cases b with
    | union p fs types offs cur =>
      simp only [pushL]
      cases hg : fs.get? tid.toNat with
      | none => simpa only using h
      | some cm =>
        obtain ⟨c, m⟩ := cm
        simp only [Cnt] at h ⊢
        refine ⟨CntL_set fs _ _ h.1 (pushL_cnt un lv c (CntL_get fs _ c m h.1 hg)), ?_⟩
        have := counters_step cur types.length 1 tid.toNat h.2
        simpa only [List.length_append, List.length_singleton, Int.natCast_one] using this
    | _ => simpa only [pushL] using h
theorem pushLs_cnt (un : Bytes → String) : ∀ (items : LVals) (el : B), Cnt el → Cnt (pushLs un items el)
  | .nil, el, h => by simpa only [pushLs] using h
  | .cons v r, el, h => by simp only [pushLs]; exact pushLs_cnt un r _ (pushL_cnt un v el h)
theorem pushLF_cnt (un : Bytes → String) : ∀ (lfs : LFields) (fs : BL), CntL fs → CntL (pushLF un lfs fs)
  | .nil, fs, h => by simpa only [pushLF] using h
  | .cons _ v r, .nil, _ => by simp [pushLF, CntL]
  | .cons _ v r, .cons b m rest, h => by
    simp only [CntL] at h
    simp only [pushLF, CntL]
    exact ⟨pushL_cnt un v b h.1, pushLF_cnt un r rest h.2⟩
theorem pushLK_cnt (un : Bytes → String) : ∀ (es : LEntries) (ks : B), Cnt ks → Cnt (pushLK un es ks)
  | .nil, ks, h => by simpa only [pushLK] using h
  | .cons k _ r, ks, h => by simp only [pushLK]; exact pushLK_cnt un r _ (pushL_cnt un k ks h)
theorem pushLW_cnt (un : Bytes → String) : ∀ (es : LEntries) (vs : B), Cnt vs → Cnt (pushLW un es vs)
  | .nil, vs, h => by simpa only [pushLW] using h
  | .cons _ w r, vs, h => by simp only [pushLW]; exact pushLW_cnt un r _ (pushL_cnt un w vs h)
end

theorem takeRest_cnt_cases : Lemmas.C03.BuiltForCases (fun _ _ b => Cnt (takeRest b)) (fun _ bl => CntL (takeRestAll bl))
    (fun _ bl _ => CntL (takeRestAll bl)) where
  null := by simp [takeRest, Cnt]
  unknownVariant := by simp [takeRest, Cnt]
  leaf := by simp [takeRest, Cnt]
  bytes := by simp [takeRest, Cnt]
  bytesView := by simp [takeRest, Cnt]
  fixedSizeBinary := by simp [takeRest, Cnt]
  list _ ih := ih
  largeList _ ih := ih
  fixedSizeList _ ih := ih
  map _ ihk _ ihv := ⟨ihk, ihv⟩
  struct _ ih := ih
  dictionary hk hidx _ _ _ := by
    simp only [takeRest, Cnt, isIntLeaf_takeRest, List.length_nil]
    exact ⟨builtFor_intLeaf _ _ _ hidx hk, Nat.zero_le _⟩
  union _ ih := by
    simp only [takeRest, Cnt, List.length_nil]
    refine ⟨ih, fun c hc => ?_⟩
    rw [List.mem_replicate] at hc
    simp [hc.2]
  nilL := trivial
  consL _ ih _ ihr := ⟨ih, ihr⟩
  nilU := trivial
  consU _ ih _ ihr := ⟨ih, ihr⟩

/-- what `take` leaves behind has the counting invariant — in particular every builder `build_builder` constructs -/
theorem takeRest_cnt : ∀ (b : B) (dt : DataType) (nl : Bool), Lemmas.C03.BuiltFor dt nl b → Cnt (takeRest b) :=
  takeRest_cnt_cases.builtFor

theorem takeRestAll_cnt : ∀ (fs : BL) (fields : Fields), Lemmas.C03.BuiltForL fields fs → CntL (takeRestAll fs) :=
  takeRest_cnt_cases.builtForL

theorem takeRestAllU_cnt : ∀ (fs : BL) (ufs : UFields) (k : Nat), Lemmas.C03.BuiltForU ufs fs k → CntL (takeRestAll fs) :=
  takeRest_cnt_cases.builtForU

/-- the number of records is at most the sum of their sizes (`vsize`: one unit per serde call at least) -/
theorem length_le_vsize_sum (ext : Ext) : ∀ (xs : List SVal), xs.length ≤ (xs.map (vsize ext)).sum
  | [] => by simp
  | x :: r => by
    have := length_le_vsize_sum ext r
    have := vsize_pos ext x
    simp only [List.length_cons, List.map_cons, List.sum_cons]; omega

end SaModel.Build
