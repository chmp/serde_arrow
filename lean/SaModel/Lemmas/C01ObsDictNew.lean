import SaModel.Lemmas.C01ObsInterp
import SaModel.Lemmas.C03ObsRoot
/-
C01 — the dictionary step lemma for value types OUTSIDE `coveredW`: the part of R2' that holds
without a new state invariant.

A scalar pushed into a `Dictionary(integer, V)` builder goes through `to_string` and then either HITS the index (the row is
`values[index s]`) or is NEW (the string is pushed into the value builder, the row is the row that push appended).  For a NEW
string and a childless value builder (`isFlat`: every leaf builder — the parsing ones — and the Utf8View builder) the appended
row is what the specification says, `Spec.interpDictStr ext V s`, for EVERY such `V` (Utf8View, Date32, Date64, Time32, Time64,
Timestamp, Duration, Decimal128): it is the row of the table of the VALUE builder (`ScalarRow`, `scalarRow_iff`), and
`Spec.dictValue ext V s = Spec.specLeaf ext V (.str s)` for these `V` (`dictValue_eq_specLeaf_str`).

  dict_push_new_interp_partial    … MISSING for the full R2' at these value types: the index-HIT case, where the row is
                                  `dec vals[i]` for the position `i` of an EARLIER push of the same string — the state fact
                                  "values decoded = index entries interpreted at V" (`dec vals = index.map (interpDictStr ext V)`)
                                  is not part of `WFB` / `WFH` (for the parsed kinds it depends on `ext`); and a nested
                                  dictionary as value type (not `isFlat`)
-/
namespace SaModel.Build
open SaModel SaModel.Spec
open SaModel.Lemmas.C03 (ViewSmall ViewSmallL)

/-- the value types whose builder takes `serialize_str` without being a Utf8 / LargeUtf8 builder or a nested dictionary -/
def dictValFlatOpen : DataType → Bool
  | .utf8View | .date32 | .date64 | .time32 _ | .time64 _ | .timestamp _ _ | .duration _ | .decimal128 _ _ => true
  | _ => false

/-- at these value types a string means in the dictionary what it means in a plain column of that type -/
theorem dictValue_eq_specLeaf_str (ext : Ext) (v : DataType) (s : String) (hv : dictValFlatOpen v = true) :
    dictValue ext v s = specLeaf ext v (.str s) := by
  cases v <;> simp [dictValFlatOpen] at hv <;>
    simp [dictValue, specLeaf, i32Stored, i64Stored, timestampCell, durationCell, decimalCell, textOf]

/-- **R2' at a dictionary with an arbitrary flat value builder, NEW strings only** (see the file header for what is missing) -/
theorem dict_push_new_interp_partial (ext : Ext) {p : String} {idx vals : B} {index : List String} {x : SVal} {b' : B}
    {lv : LVal} {vdt : DataType} {s : String}
    (hwf : WFH (.dictionary p idx vals index)) (hil : idx.isIntLeaf = true)
    (hsv : Shape vals vdt false []) (hfv : vals.isFlat = true) (hv : dictValFlatOpen vdt = true)
    (hs : scalarToString ext x = some s) (hnew : indexOfName index s = none)
    (h : pushScalar ext (.dictionary p idx vals index) x = .ok b')
    (hd : Refines (decH b') (decH (.dictionary p idx vals index) ++ [some lv])) :
    interpDictStr ext vdt s = .ok lv := by
  unfold pushScalar at h
  simp only [hs, hnew] at h
  have hw' := hwf
  simp only [WFH] at hw'
  obtain ⟨vals', h1, h2⟩ := (bind_ok _ _ _).1 h
  obtain ⟨idx', h3, h4⟩ := (bind_ok _ _ _).1 h2
  cases h4
  rw [ctx_eq_ok] at h1 h3
  have hk := intLeaf_pushH ext hil hw'.1 h3
  obtain ⟨hwv', lv', hdv, hrow⟩ := pushScalar_flat ext hfv hw'.2.1 h1
  have hfv' := flat_of_takeRest (pushScalar_takeRest ext vals _ vals' h1) hfv
  have hvd : dec vals' = dec vals ++ [lv'] := flat_dec_of_refines hfv hfv' (ls := [lv']) hdv
  obtain ⟨hi, _⟩ := (scalarRow_iff ext hsv (.str s) lv').1 hrow
  rw [decH_dictionary, decH_dictionary, hk, List.map_append] at hd
  have := last_of_refines (by simp) hd
  have hl : (dec vals).length = index.length := hw'.2.2.2.1
  simp only [dictRowH, Int.toNat_natCast, flat_decH hfv', hvd, List.getD_eq_getElem?_getD, List.getElem?_map, ← hl,
    List.getElem?_append_right (Nat.le_refl _), Nat.sub_self, List.getElem?_cons_zero, List.map_append, List.map_cons,
    List.map_nil, List.length_map,
    Option.map_some, Option.getD_some, Option.some.injEq] at this
  have e : (List.map some (dec vals) ++ [some lv'])[(dec vals).length]? = some (some lv') := by
    rw [List.getElem?_append_right (by simp)]; simp
  rw [e] at this
  simp only [Option.getD_some, Option.some.injEq] at this
  subst this
  simp only [interpScalar] at hi
  simp only [interpDictStr, dictValue_eq_specLeaf_str ext vdt s hv]
  exact hi

end SaModel.Build
