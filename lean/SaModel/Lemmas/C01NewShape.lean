import SaModel.Lemmas.SchemaAll
import SaModel.Lemmas.C01R2
/-
`build_builder` establishes `Shape` for the data types R2 covers.

Two decidable predicates on the schema (both TRUE of every type `build_builder` refuses — RunEndEncoded, Interval, a
dictionary whose key type is not an integer type —, so neither excludes anything by refusing it: `newDT_refusedHead`, `covered_refusedHead`):

* `coveredW` (establishes `Shape`, the hypothesis of R2: `newDT_shapeW`, `newRoot_shapeW`; the schema hypothesis of R3'
  `Props.C01.runRows_interp'` and of `Props.C05.C05_toMarrow_undefined_rejected`): everything `build_builder` accepts except
  `Dictionary(integer key, V)` with `V` a type whose builder ACCEPTS strings without being a Utf8 / LargeUtf8 builder
  (`dictValOpen`: Utf8View, the parsed kinds Date32 / Date64 / Time32 / Time64 / Timestamp / Duration / Decimal128, a
  nested Dictionary).  For every OTHER `V` (Null, Boolean, integers, floats, binary types, lists, maps, structs, unions)
  the value builder refuses `serialize_str`, every non-null push into the dictionary fails and the theorems hold there.
* `covered` ⊆ `coveredW` (the hypothesis of `Props.C01.C01_build_decode'`, `toMarrow_complete'` and `C03_wf'`, where
  `into_array` must be able to append the placeholder string; their `''` forms — Props/C01Obs.lean, C01Dict.lean,
  C01DictComplete.lean — ask less): dictionaries with integer keys have Utf8 / LargeUtf8 values.
-/
namespace SaModel.Build
open SaModel SaModel.Spec

/-- the value types `DictionaryUtf8Builder` is meant for -/
def isStrDT : DataType → Bool
  | .utf8 | .largeUtf8 => true
  | _ => false

/-- value types of a dictionary whose builder accepts `serialize_str` but which R2 does not cover: the row a
string denotes is the parsed value (or the view string), and the link "values decoded = index entries interpreted at
V" is not part of the state invariant -/
def dictValOpen : DataType → Bool
  | .utf8View | .date32 | .date64 | .time32 _ | .time64 _ | .timestamp _ _ | .duration _ | .decimal128 _ _
  | .dictionary _ _ => true
  | _ => false

mutual
def covered : DataType → Bool
  | .dictionary k v => !isIntDT k || isStrDT v
  | .list f | .largeList f => coveredF f
  | .fixedSizeList f _ => coveredF f
  | .map f _ => coveredF f
  | .struct fs => coveredFs fs
  | .union ufs _ => coveredU ufs
  | _ => true
def coveredF : Field → Bool
  | .mk _ dt _ _ => covered dt
def coveredFs : Fields → Bool
  | .nil => true
  | .cons f r => coveredF f && coveredFs r
def coveredU : UFields → Bool
  | .nil => true
  | .cons _ f r => coveredF f && coveredU r
end

mutual
/-- data types covered by R2 -/
def coveredW : DataType → Bool
  | .dictionary k v => !isIntDT k || (!dictValOpen v && coveredW v)
  | .list f | .largeList f => coveredWF f
  | .fixedSizeList f _ => coveredWF f
  | .map f _ => coveredWF f
  | .struct fs => coveredWFs fs
  | .union ufs _ => coveredWU ufs
  | _ => true
def coveredWF : Field → Bool
  | .mk _ dt _ _ => coveredW dt
def coveredWFs : Fields → Bool
  | .nil => true
  | .cons f r => coveredWF f && coveredWFs r
def coveredWU : UFields → Bool
  | .nil => true
  | .cons _ f r => coveredWF f && coveredWU r
end

mutual
theorem coveredW_of_covered : ∀ (dt : DataType), covered dt = true → coveredW dt = true
  | .dictionary k v, h => by
    simp only [covered, Bool.or_eq_true, Bool.not_eq_true'] at h
    simp only [coveredW, Bool.or_eq_true, Bool.not_eq_true', Bool.and_eq_true]
    rcases h with h | h
    · exact Or.inl h
    · right; cases v <;> simp [isStrDT] at h <;> exact ⟨rfl, rfl⟩
  | .list f, h => by simp only [covered] at h; simp only [coveredW]; exact coveredWF_of_coveredF f h
  | .largeList f, h => by simp only [covered] at h; simp only [coveredW]; exact coveredWF_of_coveredF f h
  | .fixedSizeList f _, h => by simp only [covered] at h; simp only [coveredW]; exact coveredWF_of_coveredF f h
  | .map f _, h => by simp only [covered] at h; simp only [coveredW]; exact coveredWF_of_coveredF f h
  | .struct fs, h => by simp only [covered] at h; simp only [coveredW]; exact coveredWFs_of_coveredFs fs h
  | .union ufs _, h => by simp only [covered] at h; simp only [coveredW]; exact coveredWU_of_coveredU ufs h
  | .null, _ | .boolean, _ | .int8, _ | .int16, _ | .int32, _ | .int64, _ | .uint8, _ | .uint16, _ | .uint32, _
  | .uint64, _ | .float16, _ | .float32, _ | .float64, _ | .utf8, _ | .largeUtf8, _ | .utf8View, _ | .binary, _
  | .largeBinary, _ | .binaryView, _ | .fixedSizeBinary _, _ | .date32, _ | .date64, _ | .timestamp _ _, _
  | .time32 _, _ | .time64 _, _ | .duration _, _ | .interval _, _ | .decimal128 _ _, _ | .runEndEncoded _ _, _ => rfl
theorem coveredWF_of_coveredF : ∀ (f : Field), coveredF f = true → coveredWF f = true
  | .mk _ dt _ _, h => by simp only [coveredF] at h; simp only [coveredWF]; exact coveredW_of_covered dt h
theorem coveredWFs_of_coveredFs : ∀ (fs : Fields), coveredFs fs = true → coveredWFs fs = true
  | .nil, _ => rfl
  | .cons f r, h => by
    simp only [coveredFs, Bool.and_eq_true] at h
    simp only [coveredWFs, Bool.and_eq_true]
    exact ⟨coveredWF_of_coveredF f h.1, coveredWFs_of_coveredFs r h.2⟩
theorem coveredWU_of_coveredU : ∀ (ufs : UFields), coveredU ufs = true → coveredWU ufs = true
  | .nil, _ => rfl
  | .cons _ f r, h => by
    simp only [coveredU, Bool.and_eq_true] at h
    simp only [coveredWU, Bool.and_eq_true]
    exact ⟨coveredWF_of_coveredF f h.1, coveredWU_of_coveredU r h.2⟩
end

theorem all_coveredWF_of_coveredF {fields : List Field} (h : fields.all coveredF = true) : fields.all coveredWF = true := by
  simp only [List.all_eq_true] at h ⊢
  exact fun f hf => coveredWF_of_coveredF f (h f hf)

/-- the builder of a value type outside `dictValOpen` is a Utf8 / LargeUtf8 builder or refuses strings -/
theorem dictVal_of_shape {b : B} {v : DataType} {n : Bool} {md : Metadata} (hs : Shape b v n md)
    (ho : dictValOpen v = false) : b.isUtf8B = true ∨ b.refusesStr = true := by
  cases b with
  | null _ _ => exact Or.inr rfl
  | unknownVariant _ => exact Or.inr rfl
  | leaf p k vl xs =>
    simp only [Shape] at hs
    obtain ⟨hk, _⟩ := hs
    right
    cases v <;> simp [kindOf] at hk <;> subst hk <;> simp [dictValOpen] at ho <;> rfl
  | bytes p ty vl offs data =>
    simp only [Shape] at hs
    obtain ⟨rfl, _⟩ := hs
    cases ty
    · exact Or.inl rfl
    · exact Or.inl rfl
    · exact Or.inr rfl
    · exact Or.inr rfl
  | bytesView p ty vl views buf =>
    simp only [Shape] at hs
    obtain ⟨rfl, _⟩ := hs
    cases ty
    · simp [viewDT, dictValOpen] at ho
    · exact Or.inr rfl
  | fixedSizeBinary _ _ _ _ _ _ => exact Or.inr rfl
  | list _ _ _ _ _ _ => exact Or.inr rfl
  | fixedSizeList _ _ _ _ _ _ _ => exact Or.inr rfl
  | map _ _ _ _ _ _ => exact Or.inr rfl
  | struct _ _ _ _ _ _ _ => exact Or.inr rfl
  | dictionary _ _ _ _ =>
    simp only [Shape] at hs
    obtain ⟨⟨_, _, rfl, _⟩, _⟩ := hs
    simp [dictValOpen] at ho
  | union _ _ _ _ _ => exact Or.inr rfl

theorem shape_leaf {p : String} {k : LeafKind} {dt : DataType} {n : Bool} {md : Metadata} (hk : kindOf dt = some k) :
    Shape (.leaf p k (newValidity n) []) dt n md := by
  simp only [Shape]; exact ⟨hk, isSome_newValidity n⟩

/-- `Shape` of everything `build_builder` returns for a covered type, by induction over what it builds -/
theorem new_shapeW :
    (∀ path dt n md b, newDT path dt n md = .ok b → coveredW dt = true → Shape b dt n md) ∧
    (∀ path ufs idx bl, newUnionFields path ufs idx = .ok bl → coveredWU ufs = true → ShapeU bl ufs idx) ∧
    (∀ path f b, newB path f = .ok b → coveredW f.dataType = true → Shape b f.dataType f.nullable f.metadata) ∧
    (∀ path fs bl, newFields path fs = .ok bl → coveredWFs fs = true → ShapeL bl fs) := by
  apply newDT_induct (P := fun _ dt n md b => coveredW dt = true → Shape b dt n md)
    (PL := fun _ fs bl => coveredWFs fs = true → ShapeL bl fs)
    (PU := fun _ ufs idx bl => coveredWU ufs = true → ShapeU bl ufs idx)
  case unknown => intro path n md hs _; simp only [Shape, isUnknownVariant]; exact ⟨trivial, hs⟩
  case null => intro path n md hs _; simp only [Shape, isUnknownVariant]; exact ⟨trivial, by simpa using hs⟩
  case leaf => intro path dt k n md hk _ _; exact shape_leaf hk
  case bytes => intro path ty n md _; exact ⟨rfl, isSome_newValidity n⟩
  case view => intro path ty n md _; exact ⟨rfl, isSome_newValidity n⟩
  case fixedSizeBinary => intro path k n md _; exact ⟨rfl, isSome_newValidity n⟩
  case list =>
    intro path large child n md el ih hc
    cases child with | mk cname cdt cn cmd =>
    have hc' : coveredW cdt = true := by cases large <;> simpa [coveredW, coveredWF] using hc
    simp only [Shape]
    exact ⟨isSome_newValidity n, cname, cdt, cn, cmd, rfl, ih hc'⟩
  case fixedSizeList =>
    intro path child k n md el ih hc
    cases child with | mk cname cdt cn cmd =>
    have hc' : coveredW cdt = true := by simpa [coveredW, coveredWF] using hc
    simp only [Shape]
    exact ⟨isSome_newValidity n, cname, cdt, cn, cmd, rfl, ih hc'⟩
  case map =>
    intro path ename kf vf emd sorted n md kb vb ihk ihv hc
    cases kf with | mk kn kdt knl kmd =>
    cases vf with | mk vn vdt vnl vmd =>
    have hc' : coveredW kdt = true ∧ coveredW vdt = true ∧ coveredWFs .nil = true := by
      simpa [coveredW, coveredWF, coveredWFs, Bool.and_assoc] using hc
    simp only [Shape]
    exact ⟨isSome_newValidity n, ename, kn, kdt, knl, kmd, vn, vdt, vnl, vmd, .nil, false, emd, sorted, rfl,
      ihk hc'.1, ihv hc'.2.1⟩
  case struct =>
    intro path fs n md bl b ih h hc
    unfold mkStruct at h
    split at h
    · simp [fail] at h
    · cases h
      simp only [Shape]
      exact ⟨isSome_newValidity n, fs, rfl, ih (by simpa [coveredW] using hc)⟩
  case dictionary =>
    intro path k t v n md vb hik _ ihv hc
    simp only [coveredW, hik, Bool.not_true, Bool.false_or, Bool.and_eq_true, Bool.not_eq_true'] at hc
    have hsv := ihv hc.2
    simp only [Shape]
    exact ⟨⟨k, v, rfl, hsv⟩, rfl, isSome_newValidity n, dictVal_of_shape hsv hc.1⟩
  case union =>
    intro path ufs n md bl ih hc
    simp only [Shape]
    exact ⟨ufs, .dense, rfl, ih (by simpa [coveredW] using hc)⟩
  case nil => intro _ _; simp [ShapeL]
  case cons =>
    intro _ f rest b r ihb ihr hc
    cases f with | mk fname fdt fn fmd =>
    have hc' : coveredW fdt = true ∧ coveredWFs rest = true := by simpa [coveredWFs, coveredWF] using hc
    simp only [ShapeL, metaOfField]
    exact ⟨trivial, trivial, ihb hc'.1, ihr hc'.2⟩
  case unil => intro _ idx _; simp [ShapeU]
  case ucons =>
    intro _ idx f rest b r ihb ihr hc
    cases f with | mk fname fdt fn fmd =>
    have hc' : coveredW fdt = true ∧ coveredWU rest = true := by simpa [coveredWU, coveredWF] using hc
    exact ⟨rfl, ihb hc'.1, ihr hc'.2⟩

theorem newDT_shapeW : ∀ (dt : DataType) (path : String) (n : Bool) (md : Metadata) (b : B), coveredW dt = true →
    newDT path dt n md = .ok b → Shape b dt n md :=
  fun dt path n md b hc h => new_shapeW.1 path dt n md b h hc
theorem newFields_shapeW : ∀ (fs : Fields) (path : String) (bl : BL), coveredWFs fs = true →
    newFields path fs = .ok bl → ShapeL bl fs :=
  fun fs path bl hc h => new_shapeW.2.2.2 path fs bl h hc
theorem newUnionFields_shapeW : ∀ (ufs : UFields) (path : String) (idx : Nat) (bl : BL), coveredWU ufs = true →
    newUnionFields path ufs idx = .ok bl → ShapeU bl ufs idx :=
  fun ufs path idx bl hc h => new_shapeW.2.1 path ufs idx bl h hc

theorem coveredFs_ofList : ∀ (fields : List Field), coveredFs (Fields.ofList fields) = fields.all coveredF :=
  Fields.all_ofList_eq rfl fun _ _ => rfl

theorem coveredWFs_ofList : ∀ (fields : List Field), coveredWFs (Fields.ofList fields) = fields.all coveredWF :=
  Fields.all_ofList_eq rfl fun _ _ => rfl

theorem newRoot_shapeW {fields : List Field} {root : B} (hc : fields.all coveredWF = true)
    (h : newRoot fields = .ok root) : Shape root (.struct (Fields.ofList fields)) false [] := by
  simp only [newRoot] at h
  obtain ⟨bl, h1, h⟩ := (bind_ok _ _ _).1 h
  have hsl := newFields_shapeW _ _ bl (by rw [coveredWFs_ofList]; exact hc) h1
  unfold mkStruct at h
  split at h
  · simp [fail] at h
  · cases h
    simp only [Shape]
    exact ⟨rfl, _, rfl, hsl⟩

/-! ### neither predicate excludes a type by refusing it -/

/-- the data types `build_builder` refuses at their head: RunEndEncoded, Interval, a dictionary whose key type is not an
integer type (repo fix 7359431) -/
def refusedHead : DataType → Bool
  | .runEndEncoded _ _ | .interval _ => true
  | .dictionary k _ => !isIntDT k
  | _ => false

theorem newDT_refusedHead {dt : DataType} (hr : refusedHead dt = true) (path : String) (n : Bool) (md : Metadata) (b : B) :
    newDT path dt n md ≠ .ok b := by
  intro h
  cases dt <;> simp [refusedHead] at hr
  · simp [newDT, fail] at h
  · rename_i k v
    simp only [newDT, hr] at h
    simp [ctx_ok, fail] at h
  · simp [newDT, fail] at h

/-- `covered` / `coveredW` are TRUE of every type `build_builder` refuses at its head: the theorems that carry them hold
there because `to_marrow` fails at construction, not because the predicate excludes the type -/
theorem covered_refusedHead {dt : DataType} (hr : refusedHead dt = true) : covered dt = true ∧ coveredW dt = true := by
  cases dt <;> simp [refusedHead] at hr <;> simp [covered, coveredW, hr]

/-! the statements with the stronger predicate `covered` -/

theorem newDT_shape (dt : DataType) (path : String) (n : Bool) (md : Metadata) (b : B) (hc : covered dt = true)
    (h : newDT path dt n md = .ok b) : Shape b dt n md :=
  newDT_shapeW dt path n md b (coveredW_of_covered dt hc) h

theorem newRoot_shape {fields : List Field} {root : B} (hc : fields.all coveredF = true)
    (h : newRoot fields = .ok root) : Shape root (.struct (Fields.ofList fields)) false [] :=
  newRoot_shapeW (all_coveredWF_of_coveredF hc) h

end SaModel.Build
