import SaModel.Lemmas.C06Phys
import SaModel.Lemmas.C03PhysSize
/-
C06 (closure): the size condition `sizeOKDT` of `Props.C03.toMarrow_physical` for TRACED schemas.  A traced schema has no
FixedSizeList (`physKeysDT`, `to_schema_physKeys`), so the condition is `number of samples ≤ i64::MAX`
(`Lemmas.C03.sizeOKDT_of_fslFree`).
-/
namespace SaModel.Lemmas.C06
open SaModel SaModel.Lemmas.C03

mutual
theorem fslFree_of_physKeys : ∀ (dt : DataType), physKeysDT dt = true → fslFreeDT dt = true
  | .fixedSizeList _ _, h => by simp [physKeysDT] at h
  | .list f, h | .largeList f, h => by simp only [physKeysDT] at h; simp only [fslFreeDT]; exact fslFreeF_of_physKeys f h
  | .map ef _, h => by
    rcases ef with ⟨en, edt, enl, emd⟩
    simp only [physKeysDT, physKeysF] at h
    cases edt with
    | struct efs =>
      cases efs with
      | nil => simp [fslFreeDT]
      | cons kf r1 =>
        cases r1 with
        | nil => simp [fslFreeDT]
        | cons vf r2 =>
          cases r2 with
          | nil =>
            simp only [physKeysDT, physKeysFs, Bool.and_eq_true, Bool.and_true] at h
            simp only [fslFreeDT, Bool.and_eq_true]
            exact ⟨fslFreeF_of_physKeys kf h.1, fslFreeF_of_physKeys vf h.2⟩
          | cons _ _ => simp [fslFreeDT]
    | _ => simp [fslFreeDT]
  | .struct fs, h => by simp only [physKeysDT] at h; simp only [fslFreeDT]; exact fslFreeFs_of_physKeys fs h
  | .union ufs _, h => by simp only [physKeysDT] at h; simp only [fslFreeDT]; exact fslFreeUs_of_physKeys ufs h
  | .dictionary _ _, _ => by simp [fslFreeDT]
  | .null, _ | .boolean, _ | .int8, _ | .int16, _ | .int32, _ | .int64, _
  | .uint8, _ | .uint16, _ | .uint32, _ | .uint64, _
  | .float16, _ | .float32, _ | .float64, _
  | .utf8, _ | .largeUtf8, _ | .utf8View, _ | .binary, _ | .largeBinary, _
  | .binaryView, _ | .fixedSizeBinary _, _ | .date32, _ | .date64, _
  | .timestamp _ _, _ | .time32 _, _ | .time64 _, _ | .duration _, _
  | .interval _, _ | .decimal128 _ _, _ | .runEndEncoded _ _, _ => by simp [fslFreeDT]
theorem fslFreeF_of_physKeys : ∀ (f : Field), physKeysF f = true → fslFreeF f = true
  | .mk _ dt _ _, h => by simp only [physKeysF] at h; simp only [fslFreeF]; exact fslFree_of_physKeys dt h
theorem fslFreeFs_of_physKeys : ∀ (fs : Fields), physKeysFs fs = true → fslFreeFs fs = true
  | .nil, _ => rfl
  | .cons f r, h => by
    simp only [physKeysFs, Bool.and_eq_true] at h
    simp [fslFreeFs, fslFreeF_of_physKeys f h.1, fslFreeFs_of_physKeys r h.2]
theorem fslFreeUs_of_physKeys : ∀ (ufs : UFields), physKeysU ufs = true → fslFreeUFs ufs = true
  | .nil, _ => rfl
  | .cons _ f r, h => by
    simp only [physKeysU, Bool.and_eq_true] at h
    simp [fslFreeUFs, fslFreeF_of_physKeys f h.1, fslFreeUs_of_physKeys r h.2]
end

theorem fslFreeFs_mem : ∀ (l : List Field), fslFreeFs (Fields.ofList l) = true → ∀ f ∈ l, fslFreeDT f.dataType = true :=
  fun _ h f hf => by
    have := Fields.all_toList rfl (fun _ _ => rfl) h f (by rwa [Fields.toList_ofList])
    cases f; simpa [fslFreeF, Field.dataType] using this

/-- **the size condition of `toMarrow_physical` for a traced schema**: at most `i64::MAX` samples -/
theorem traced_sizeOK (fields : List Field) (L : Nat) (hk : physKeysFs (Fields.ofList fields) = true)
    (hL : L ≤ 9223372036854775807) : ∀ f ∈ fields, sizeOKDT f.dataType L = true :=
  fun f hf => sizeOKDT_of_fslFree _ L (fslFreeFs_mem fields (fslFreeFs_of_physKeys _ hk) f hf) hL

end SaModel.Lemmas.C06
