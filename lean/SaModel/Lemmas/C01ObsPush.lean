import SaModel.Lemmas.C01ObsRows
import SaModel.Lemmas.C01Variant
import SaModel.Lemmas.C01Typed
import SaModel.Lemmas.SpecInterp
/-
C01 "hidden rows" — the one walk over `push` on observable rows, WITHOUT the first clause of `Safe`: an instance of
`PushCases` (Lemmas/PushInd.lean, `obs_cases`), one clause per row a push writes.
R1': every successful `push` keeps the weak state invariant `WFH` and appends exactly ONE DETERMINED observable row, for
every value (`push_refines` and its loops, the work-horse of the other properties).
R2': where the builder is that of a field (`Shape`) and the raw call streams in the value alternate (`rawOK`), that row is
the documented one, `Spec.interpDT` (read off in Lemmas/C01ObsR2.lean).
Each clause computes the row once (`list_row`, `map_row`, `struct_row`, Lemmas/C01ObsRows.lean; `fsl_stepH`, `union_appendH`,
Lemmas/C01ObsCont.lean) and compares it with the clause of `interpDT` for the value's form.
-/
namespace SaModel.Build
open SaModel SaModel.Spec
open SaModel.Lemmas.C03 (ViewSmall ViewSmallL)

/-- map entries: keys and values grow in step, the open offset by the number of keys -/
def MapOKH (pm : List Int → B → B → R (List Int × B × B)) : Prop :=
  ∀ base l ks vs r, WFH ks → WFH vs → NoDictKey ks → NoDictKey vs → pm (base ++ [l]) ks vs = .ok r →
    WFH r.2.1 ∧ WFH r.2.2 ∧ ∃ lk lw : List LVal, lw.length = lk.length ∧
      Refines (decH r.2.1) (decH ks ++ lk.map some) ∧ Refines (decH r.2.2) (decH vs ++ lw.map some) ∧
      r.1 = base ++ [l + (lk.length : Int)]

theorem StepOKH.of_push {ext : Ext} {x : SVal}
    (h : ∀ (b b' : B), WFH b → NoDictKey b → push ext b x = .ok b' → WFH b' ∧ ∃ lv, Refines (decH b') (decH b ++ [some lv])) :
    StepOKH (fun c => push ext c x) := by
  intro c c' hw hs hp
  obtain ⟨a, b⟩ := h c c' hw hs hp
  exact ⟨a, NoDictKey.of_takeRest (push_takeRest ext x c c' hp) hs, b⟩

theorem FieldsOKH.next {pf : SS → R SS} (h : FieldsOKH pf) (n : Nat) : FieldsOKH (fun s => pf { s with next := n }) := by
  intro fs0 s adds s' hm hp
  obtain ⟨a, b⟩ := h fs0 _ adds s' (hm.next n) hp
  exact ⟨a, b⟩

/-! ### the specification by value form -/

theorem interpDT_seqLike {x : SVal} {k : SeqKind} {xs : SVals} (hx : IsSeqLike x k xs) (ext : Ext) (dt n md) :
    interpDT ext dt n md x = seqSpec ext (k != .seq) dt md xs := by
  cases hx
  · exact interpDT_seq ext dt n md xs
  · exact interpDT_tuple ext dt n md xs
  · exact interpDT_tupleStruct ext dt n md _ xs

theorem rawOK_seqLike {x : SVal} {k : SeqKind} {xs : SVals} (hx : IsSeqLike x k xs) (nar : Bool) :
    rawOK nar x = rawOKs nar xs := by
  cases hx
  · exact rawOK_seq nar xs
  · exact rawOK_tuple nar xs
  · exact rawOK_tupleStruct nar _ xs

theorem interpDT_scalar {b : B} {x : SVal} (hx : IsScalar b x) (ext : Ext) {dt : DataType} (n : Bool) {md : Metadata}
    (hdt : isScalarDT dt = true) (hu : isUnknownVariant dt md = false) :
    interpDT ext dt n md x = interpScalar ext dt x := by
  cases hx with
  | bytes bs _ => rw [interpDT_bytes_scalar ext dt n md bs hdt, hu]; rfl
  | unitVariant a i vn _ => exact interpDT_unitVariant_scalar ext dt n md a i vn hdt
  | _ => rw [Spec.interpDT.eq_def]; exact if_neg (by rw [hu]; exact Bool.false_ne_true)

theorem rawOK_variant {x y : SVal} {i : Nat} (hx : IsVariant x i y) {nar : Bool} (h : rawOK nar x = true) :
    rawOK nar y = true := by
  cases hx
  · cases nar <;> rfl
  · rwa [rawOK_newtypeVariant] at h
  · rwa [rawOK_tupleVariant, ← rawOK_tupleStruct] at h
  · rwa [rawOK_structVariant, ← rawOK_record] at h

theorem shape_struct {s : SS} {dt : DataType} {n : Bool} {md : Metadata} (h : Shape s.toB dt n md) :
    ∃ sfs, dt = .struct sfs ∧ ShapeL s.fields sfs := by
  simp only [SS.toB, Shape] at h
  exact h.2

theorem narrowDT_struct {sfs : Fields} (h : narrowDT (.struct sfs) = true) :
    sfs.toList.length < UNKNOWN_KEY ∧ narrowFs sfs = true := by
  simpa only [narrowDT, Bool.and_eq_true, decide_eq_true_eq] using h

/-! ### the motives -/

section
variable (ext : Ext) (nar : Bool)

/-- a push appends one determined row, for every value; it is the meaning of the value where the builder is that of a field -/
def PushF (b : B) (x : SVal) (b' : B) : Prop :=
  WFH b → NoDictKey b → ∃ lv, RowIs b b' lv ∧ ∀ dt n md, rawOK nar x = true → (nar = true → narrowDT dt = true) →
    Shape b dt n md → ViewSmall b' → interpDT ext dt n md x = .ok lv

/-- `SS.element`: child `idx` of a mid-record state receives one determined row, the meaning of `x` at field `idx` -/
def ElemF (s : SS) (idx : Nat) (x : SVal) (s' : SS) : Prop :=
  ∀ fs0 adds, MidH fs0 s adds → ∃ lv, MidH fs0 s' (adds.set idx [lv]) ∧ adds.getD idx [] = [] ∧ idx < adds.length ∧
    s'.next = idx + 1 ∧ Same s' s ∧ ∀ sfs, ShapeL s.fields sfs → ShapeL s'.fields sfs ∧ ∀ f, sfs.toList[idx]? = some f →
      rawOK nar x = true → (nar = true → narrowDT f.dataType = true) → ViewSmallL s'.fields →
      interpDT ext f.dataType f.nullable f.metadata x = .ok lv

/-- an element loop appends determined rows `ls` with `cnt ls` (what its counter did); they are the meanings of the elements -/
def ElemsF (el : B) (xs : SVals) (el' : B) (cnt : List LVal → Prop) : Prop :=
  WFH el → NoDictKey el → WFH el' ∧ ∃ ls : List LVal, Refines (decH el') (decH el ++ ls.map some) ∧ cnt ls ∧
    (rawOKs nar xs = true → ∀ cdt cn cmd, (nar = true → narrowDT cdt = true) → Shape el cdt cn cmd → ViewSmall el' →
      interpAll ext cdt cn cmd xs = .ok ls)

/-- a field loop takes a mid-record state to a mid-record state whose additions satisfy `Q` -/
def FieldsF (s s' : SS) (Q : List (List LVal) → List (List LVal) → Prop) : Prop :=
  ∀ fs0 adds, MidH fs0 s adds → ∃ adds', MidH fs0 s' adds' ∧ Same s' s ∧ Q adds adds'

/-- what a keyed field loop adds to a field is what `collect` gathers for it -/
def Gathers (s s' : SS) (collect : Field → R (List LVal)) (adds adds' : List (List LVal)) : Prop :=
  ∀ sfs, (nar = true → narrowFs sfs = true) → ShapeL s.fields sfs → ViewSmallL s'.fields → ∀ j f, sfs.toList[j]? = some f →
    ∃ found, collect f = .ok found ∧ adds'.getD j [] = adds.getD j [] ++ found

/-- a map loop appends determined rows to keys and values (`pd`: a key is waiting for its value, so one value more), the
open offset grows by the number of keys; at the two fields the rows are the entries `spec` gives -/
def MapF (pd : Bool) (offs : List Int) (ks vs : B) (r : List Int × B × B)
    (spec : DataType → Bool → Metadata → DataType → Bool → Metadata → List LVal → List LVal → Prop) : Prop :=
  WFH ks → WFH vs → NoDictKey ks → NoDictKey vs → WFH r.2.1 ∧ WFH r.2.2 ∧ ∃ lk lw : List LVal,
    lw.length = lk.length + (if pd then 1 else 0) ∧
    Refines (decH r.2.1) (decH ks ++ lk.map some) ∧ Refines (decH r.2.2) (decH vs ++ lw.map some) ∧
    (∀ base l, offs = base ++ [l] → r.1 = base ++ [l + (lk.length : Int)]) ∧
    ∀ kdt kn kmd vdt vn vmd, (nar = true → narrowDT kdt = true) → (nar = true → narrowDT vdt = true) →
      Shape ks kdt kn kmd → Shape vs vdt vn vmd → ViewSmall r.2.1 ∧ ViewSmall r.2.2 → spec kdt kn kmd vdt vn vmd lk lw
end

/-- The raw call streams arrive one call at a time while `interpOps` / `interpByKeyOps` read pairs: their motives have two
halves, for a state after a value (the stream alternates from here) and for a state after the key `k` (the stream is `k`'s
value, then alternates). -/
theorem obs_cases (ext : Ext) (nar : Bool) : PushCases ext (PushF ext nar) (ElemF ext nar)
    (fun _ el offs xs r => ElemsF ext nar el xs r.1 fun ls => ∀ base l, offs = base ++ [l] → r.2 = base ++ [l + (ls.length : Int)])
    (fun el c xs r => ElemsF ext nar el xs r.1 fun ls => r.2 = c + ls.length)
    (fun s xs s' => FieldsF s s' fun adds adds' => rawOKs nar xs = true → ∀ sfs, (nar = true → narrowFs sfs = true) →
      ShapeL s.fields sfs → ViewSmallL s'.fields → ∀ j f, sfs.toList[j]? = some f →
        (j < s.next → adds'.getD j [] = adds.getD j []) ∧
        (s.next ≤ j → ∃ found, interpNth ext f.dataType f.nullable f.metadata (j - s.next) xs = .ok found ∧
          adds'.getD j [] = adds.getD j [] ++ found))
    (fun s fs s' => FieldsF s s' fun adds adds' => rawOKf nar fs = true →
      Gathers nar s s' (fun f => interpByName ext f.name f.dataType f.nullable f.metadata fs) adds adds')
    (fun s es s' => FieldsF s s' fun adds adds' => rawOKe nar es = true →
      Gathers nar s s' (fun f => interpByKey ext f.name f.dataType f.nullable f.metadata es) adds adds')
    (fun s ops s' => FieldsF s s' fun adds adds' => nar = true → s.fields.length < UNKNOWN_KEY →
      (ssaO ops = true → Gathers nar s s' (fun f => interpByKeyOps ext f.name f.dataType f.nullable f.metadata ops) adds adds') ∧
      ∀ k key, ssaO (.key k ops) = true → keyStr k = .ok key → s.next = (indexOfName s.fields.names key).getD UNKNOWN_KEY →
        Gathers nar s s' (fun f => interpByKeyOps ext f.name f.dataType f.nullable f.metadata (.key k ops)) adds adds')
    (fun offs ks vs es r => MapF nar false offs ks vs r fun kdt kn kmd vdt vn vmd lk lw =>
      rawOKe nar es = true → interpEntries ext kdt kn kmd vdt vn vmd es = .ok (lk.zip lw))
    (fun pd offs ks vs ops r => MapF nar pd offs ks vs r fun kdt kn kmd vdt vn vmd lk lw => nar = true →
      (pd = false → ssaO ops = true → interpOps ext kdt kn kmd vdt vn vmd ops = .ok (lk.zip lw)) ∧
      (pd = true → ∀ k kv, ssaO (.key k ops) = true → interpDT ext kdt kn kmd k = .ok kv →
        interpOps ext kdt kn kmd vdt vn vmd (.key k ops) = .ok ((kv :: lk).zip lw))) where
  fwdSome ih hwf hs :=
    have ⟨lv, hr, sp⟩ := ih hwf hs
    ⟨lv, hr, fun dt n md hraw => by rw [interpDT]; exact sp dt n md (by simpa only [rawOK_some] using hraw)⟩
  fwdNewtype ih hwf hs :=
    have ⟨lv, hr, sp⟩ := ih hwf hs
    ⟨lv, hr, fun dt n md hraw => by rw [interpDT]; exact sp dt n md (by simpa only [rawOK_newtypeStruct] using hraw)⟩
  null hx h hwf hs :=
    ⟨_, pushNone_refines _ _ hwf hs h, fun dt n md _ _ hsh _ => by
      cases hx <;> (rw [interpDT]; exact pushNone_interp _ _ dt n md hsh h)⟩
  scalar hx h hwf hs := by
    obtain ⟨hb', lv, hd, sp⟩ := pushScalar_rowH ext hwf hs h
    refine ⟨lv, ⟨hb', hd⟩, fun dt n md _ _ hsh _ => ?_⟩
    obtain ⟨hi, hu⟩ := sp dt n md hsh
    rw [interpDT_scalar hx ext n (pushScalar_scalarDT ext _ _ _ dt n md hsh h) hu]
    exact hi
  list {p large fm v offs el x k xs v' o1 el' o2} hx h1 h2 _ ih hwf hs := by
    have hw' := hwf
    simp only [WFH] at hw'
    simp only [NoDictKey] at hs
    obtain ⟨hel, ls, hdec, ho, his⟩ := ih hw'.2.2 hs
    refine ⟨_, list_row hwf h1 h2 hel hdec ho, fun dt n md hraw hnar hsh hsm => ?_⟩
    obtain ⟨cname, cdt, cn, cmd, hdt, hsel, hspec, _⟩ := hsh.list_row
    have hi := his (by rw [← rawOK_seqLike hx]; exact hraw) cdt cn cmd
      (fun hn => by have := hnar hn; subst hdt; cases large <;> simpa [narrowDT, narrowF] using this) hsel hsm
    rw [interpDT_seqLike hx, hspec, hi]
    rfl
  listBytes {p large fm v offs el bs v' o1 el' o2} _ _ _ ih hwf hs := by
    obtain ⟨lv, hr, sp⟩ := ih hwf hs
    refine ⟨lv, hr, fun dt n md _ hnar hsh hsm => ?_⟩
    exact (interpDT_list_bytes hsh ext bs lv).2 (sp dt n md (by rw [rawOK_seq]; exact rawOKs_byteVals nar bs) hnar hsh hsm)
  fixedSizeList {p fm n len v cur el x k xs v' el'} hx h1 _ ih hwf hs := by
    have hw' := hwf
    simp only [WFH] at hw'
    simp only [NoDictKey] at hs
    obtain ⟨rfl, _⟩ := setValidity_ok hw'.1 h1
    obtain ⟨hel, ls, hdec, hc, his⟩ := ih hw'.2.2 hs
    have hn : ls.length = n := by simpa using hc.symm
    have := fsl_stepH hwf true ls n hel hdec hn
    rw [rowOf_true] at this
    refine ⟨_, this, fun dt nn md hraw hnar hsh hsm => ?_⟩
    simp only [Shape] at hsh
    obtain ⟨_, cname, cdt, cn, cmd, rfl, hsel⟩ := hsh
    have hi := his (by rw [← rawOK_seqLike hx]; exact hraw) cdt cn cmd (fun h => by simpa [narrowDT, narrowF] using hnar h)
      hsel hsm
    rw [interpDT_seqLike hx]
    simp [seqSpec, isUnknownVariant, hi, hn, bind, Except.bind, pure, Except.pure]
  binary {p ty v offs data x k xs v' o1 bs o2} hx hb h1 h2 h3 h4 hwf _ := by
    have hwb := flat_WFB (b := .bytes p ty v offs data) rfl hwf
    obtain ⟨rfl, _⟩ := setValidity_ok (by simp only [WFB] at hwb; exact hwb.2) h1
    obtain ⟨l, hl, rfl⟩ := duplicateLast_ok h2
    rw [bytes_last hwb] at hl; cases hl
    have := iter_incrementLast _ h4
    subst this
    have := bytes_step hwb true bs
    rw [rowOf_true] at this
    refine ⟨_, RowIs.of_flat rfl rfl this.1 this.2, fun dt n md _ _ hsh _ => ?_⟩
    rw [interpDT_seqLike hx, hsh.bytes_row.2, if_pos hb, (specBytes_ok_iff _ _).2 h3]
    cases ty <;> first | rfl | cases hb
  binaryView {p v views buf x k xs v' bs views' buf'} hx h1 h2 h3 hwf _ := by
    have hwb := flat_WFB (b := .bytesView p .binaryView v views buf) rfl hwf
    obtain ⟨rfl, _⟩ := setValidity_ok (by simp only [WFB] at hwb; exact hwb.1) h1
    obtain ⟨d, extra, e, hok, hlen, _⟩ := viewSeq_ok h3
    cases e
    have := view_step hwb true d extra hok (hlen (view_buf_lt hwb))
    rw [rowOf_true] at this
    refine ⟨_, RowIs.of_flat rfl rfl this.1 this.2, fun dt n md _ _ hsh hsm => ?_⟩
    obtain ⟨d', extra', e', hok', hex⟩ := viewSeq_exact h3
    obtain ⟨e1, e2⟩ := Prod.mk.inj e'
    obtain rfl : d = d' := by simpa using (List.append_inj' e1 rfl).2
    obtain rfl := List.append_cancel_left e2
    have hlv := row_unique this.2 (view_push_row hwb bs hok' hex hsm)
    simp only [Shape] at hsh
    obtain ⟨rfl, _⟩ := hsh
    rw [interpDT_seqLike hx, hlv]
    simp [seqSpec, isUnknownVariant, viewDT, (specBytes_ok_iff _ _).2 h2, bytesVal, Functor.map, Except.map,
      show (ViewTy.binaryView == ViewTy.utf8View) = false by decide]
  fixedSizeBinary {p len v buf cur x k xs v' bs} hx h1 h2 hwf _ := by
    have hwb := flat_WFB (b := .fixedSizeBinary p bs.length len v buf cur) rfl hwf
    obtain ⟨rfl, _⟩ := setValidity_ok (by simp only [WFB] at hwb; exact hwb.1) h1
    have := fsb_step hwb true bs rfl bs.length
    rw [rowOf_true] at this
    refine ⟨_, RowIs.of_flat rfl rfl this.1 this.2, fun dt n md _ _ hsh _ => ?_⟩
    simp only [Shape] at hsh
    obtain ⟨rfl, _⟩ := hsh
    rw [interpDT_seqLike hx]
    simp [seqSpec, isUnknownVariant, (specBytes_ok_iff _ _).2 h2, bind, Except.bind, pure, Except.pure]
  structTuple {s x k xs s1 s2 s3} hx hk h1 h2 ih h3 hwf hs := by
    obtain ⟨hn0, hf1, hm1⟩ := SS.start_midH h1 hwf hs
    obtain ⟨adds2, hm2, hsame, hq⟩ := ih _ _ hm1
    obtain ⟨lv, hrow, hsp⟩ := struct_row hwf h1 hf1 hm2 hsame (pushTupleElems_takeRest ext xs s1 s2 h2) h3
    refine ⟨lv, hrow, fun dt n md hraw hnar hsh hsm => ?_⟩
    obtain ⟨sfs, rfl, hsl⟩ := shape_struct hsh
    have hw' := hwf
    simp only [SS.toB, WFH] at hw'
    rw [interpDT_seqLike hx, show (k != .seq) = true by cases k <;> first | rfl | exact absurd rfl hk]
    simp only [seqSpec, isUnknownVariant, Bool.false_eq_true, if_false, if_true]
    refine hsp sfs _ hsl fun j f hj => ?_
    obtain ⟨found, hf, ha⟩ := (hq (by rw [← rawOK_seqLike hx]; exact hraw) sfs (fun hn => (narrowDT_struct (hnar hn)).2)
      (hf1 ▸ hsl) (SS.finishRow_small h3 (by simpa only [SS.toB, ViewSmall] using hsm)) j f hj).2 (by omega)
    refine ⟨found, ?_, ha⟩
    have hnames : (sfs.toList.map Field.name)[j]? = some f.name := by simp [hj]
    have hnd : (sfs.toList.map Field.name).Nodup := by rw [← ShapeL.names _ sfs hsl]; exact hw'.2.2.2.1
    rw [SaModel.Props.C11Front.indexOfName_of_get _ hnd f.name j hnames, hn0] at *
    exact hf
  structRecord {s n fs s1 s2 s3} h1 h2 ih h3 hwf hs := by
    obtain ⟨_, hf1, hm1⟩ := SS.start_midH h1 hwf hs
    obtain ⟨adds2, hm2, hsame, hq⟩ := ih _ _ hm1
    obtain ⟨lv, hrow, hsp⟩ := struct_row hwf h1 hf1 hm2 hsame (pushFields_takeRest ext fs s1 s2 h2) h3
    refine ⟨lv, hrow, fun dt nn md hraw hnar hsh hsm => ?_⟩
    obtain ⟨sfs, rfl, hsl⟩ := shape_struct hsh
    simp only [interpDT, isUnknownVariant, Bool.false_eq_true, if_false]
    exact hsp sfs _ hsl (hq (by simpa only [rawOK_record] using hraw) sfs (fun hn => (narrowDT_struct (hnar hn)).2)
      (hf1 ▸ hsl) (SS.finishRow_small h3 (by simpa only [SS.toB, ViewSmall] using hsm)))
  structMap {s es s1 s2 s3} h1 h2 ih h3 hwf hs := by
    obtain ⟨_, hf1, hm1⟩ := SS.start_midH h1 hwf hs
    obtain ⟨adds2, hm2, hsame, hq⟩ := ih _ _ (hm1.next UNKNOWN_KEY)
    obtain ⟨lv, hrow, hsp⟩ := struct_row hwf h1 hf1 hm2 hsame
      ((pushStructEntries_takeRest ext es _ s2 h2).trans (SSkel.next s1 _)) h3
    refine ⟨lv, hrow, fun dt n md hraw hnar hsh hsm => ?_⟩
    obtain ⟨sfs, rfl, hsl⟩ := shape_struct hsh
    simp only [interpDT, isUnknownVariant, Bool.false_eq_true, if_false, pushStructEntries_keys ext es _ s2 h2, bind,
      Except.bind]
    exact hsp sfs _ hsl (hq (by simpa only [rawOK_map] using hraw) sfs (fun hn => (narrowDT_struct (hnar hn)).2)
      (hf1 ▸ hsl) (SS.finishRow_small h3 (by simpa only [SS.toB, ViewSmall] using hsm)))
  structMapRaw {s ops s1 s2 s3} h1 h2 ih h3 hwf hs := by
    obtain ⟨_, hf1, hm1⟩ := SS.start_midH h1 hwf hs
    obtain ⟨adds2, hm2, hsame, hq⟩ := ih _ _ (hm1.next UNKNOWN_KEY)
    obtain ⟨lv, hrow, hsp⟩ := struct_row hwf h1 hf1 hm2 hsame
      ((pushStructOps_takeRest ext ops _ s2 h2).trans (SSkel.next s1 _)) h3
    refine ⟨lv, hrow, fun dt n md hraw hnar hsh hsm => ?_⟩
    obtain ⟨sfs, rfl, hsl⟩ := shape_struct hsh
    obtain ⟨hn, hraw'⟩ : nar = true ∧ ssaO ops = true := by simpa only [rawOK_mapRaw, Bool.and_eq_true] using hraw
    obtain ⟨hlen, hnf⟩ := narrowDT_struct (hnar hn)
    simp only [interpDT, isUnknownVariant, Bool.false_eq_true, if_false, ssaO_alternating ops hraw', Bool.not_true,
      pushStructOps_keys ext ops _ s2 h2, bind, Except.bind]
    exact hsp sfs _ hsl ((hq hn (by show s1.fields.length < _; rw [hf1, ← hsl.length]; exact hlen)).1 hraw' sfs (fun _ => hnf)
      (hf1 ▸ hsl) (SS.finishRow_small h3 (by simpa only [SS.toB, ViewSmall] using hsm)))
  map {p mm v offs ks vs es v' o1 o2 ks' vs'} h1 h2 _ ih hwf hs := by
    have hw' := hwf
    simp only [WFH] at hw'
    simp only [NoDictKey] at hs
    obtain ⟨hks, hvs, lk, lw, hlen, hdk, hdv, ho, his⟩ := ih hw'.2.2.2.1 hw'.2.2.2.2 hs.1 hs.2
    refine ⟨_, map_row hwf h1 h2 hks hvs hdk hdv (by simpa using hlen) ho, fun dt n md hraw hnar hsh hsm => ?_⟩
    simp only [Shape] at hsh
    obtain ⟨_, ename, kn, kdt, knl, kmd, vn, vdt, vnl, vmd, rest, en, emd, sorted, rfl, hsk, hsv⟩ := hsh
    have hnkv : nar = true → narrowDT kdt = true ∧ narrowDT vdt = true := fun hn => by
      have := hnar hn
      simp only [narrowDT, narrowF, narrowFs, Bool.and_eq_true] at this; exact ⟨this.2.1, this.2.2.1⟩
    have hi := his kdt knl kmd vdt vnl vmd (fun hn => (hnkv hn).1) (fun hn => (hnkv hn).2) hsk hsv hsm
      (by simpa only [rawOK_map] using hraw)
    simp only [interpDT, isUnknownVariant, Bool.false_eq_true, if_false, hi]
    rfl
  mapRaw {p mm v offs ks vs ops v' o1 o2 ks' vs'} h1 h2 _ ih hwf hs := by
    have hw' := hwf
    simp only [WFH] at hw'
    simp only [NoDictKey] at hs
    obtain ⟨hks, hvs, lk, lw, hlen, hdk, hdv, ho, his⟩ := ih hw'.2.2.2.1 hw'.2.2.2.2 hs.1 hs.2
    refine ⟨_, map_row hwf h1 h2 hks hvs hdk hdv (by simpa using hlen) ho, fun dt n md hraw hnar hsh hsm => ?_⟩
    obtain ⟨hn, hraw'⟩ : nar = true ∧ ssaO ops = true := by simpa only [rawOK_mapRaw, Bool.and_eq_true] using hraw
    simp only [Shape] at hsh
    obtain ⟨_, ename, kn, kdt, knl, kmd, vn, vdt, vnl, vmd, rest, en, emd, sorted, rfl, hsk, hsv⟩ := hsh
    have hnkv : narrowDT kdt = true ∧ narrowDT vdt = true := by
      have := hnar hn
      simp only [narrowDT, narrowF, narrowFs, Bool.and_eq_true] at this; exact ⟨this.2.1, this.2.2.1⟩
    have hi := (his kdt knl kmd vdt vnl vmd (fun _ => hnkv.1) (fun _ => hnkv.2) hsk hsv hsm hn).1 rfl hraw'
    simp only [interpDT, isUnknownVariant, Bool.false_eq_true, if_false, ssaO_alternating ops hraw', Bool.not_true, hi]
    rfl
  union {p fs types offs cur x i y c m co c'} hx hget hco _ _ _ ih hwf hs := by
    have hw' := hwf
    simp only [WFH] at hw'
    simp only [NoDictKey] at hs
    obtain ⟨hco', hwc⟩ := WFHU_get fs cur i _ hw'.2.2.1 hget
    simp only at hco' hwc
    rw [hco] at hco'; cases hco'
    obtain ⟨lvc, ⟨hc', hdc⟩, hsp⟩ := ih hwc (NoDictKeyL.get _ _ _ hs hget)
    have := union_appendH hwf i c c' m hget [some lvc] hc' hdc
    simp only [List.length_singleton, List.replicate_one, List.range_one, List.map_cons, List.map_nil,
      Int.natCast_zero, Int.add_zero, Int.natCast_one, Option.map_some] at this
    refine ⟨_, this, fun dt n md hraw hnar hsh hsm => ?_⟩
    simp only [Shape] at hsh
    obtain ⟨ufs, mode, rfl, hsu⟩ := hsh
    obtain ⟨fname, fdt, fn, fmd, hufs, hshc⟩ := ShapeU.get fs ufs 0 i c m hsu hget
    rw [Nat.zero_add] at hufs
    exact (interpDT_variant_iff hx hufs).2 ⟨lvc, hsp fdt fn fmd (rawOK_variant hx hraw)
      (fun hn => narrowU_get ufs i _ _ _ _ _ (by simpa [narrowDT] using hnar hn) hufs) hshc
      (ViewSmallL_set_get _ _ c c' m hget (by simpa only [ViewSmall] using hsm)), rfl⟩
  element {s idx x c m c'} hseen hget h1 ih fs0 adds hm := by
    have hwc := ExtLH.get _ _ _ _ _ hm.ext hget
    have hsc := NoDictKeyL.get _ _ _ hm.safe hget
    obtain ⟨lv, ⟨hc', hdec⟩, hsp⟩ := ih hwc hsc
    have ht := push_takeRest ext x c c' h1
    obtain ⟨hm1, hun, hlt⟩ := hm.wrote hseen hget hc' (NoDictKey.of_takeRest ht hsc) hdec
    refine ⟨lv, hm1, hun, hlt, rfl, ⟨rfl, rfl, rfl⟩, fun sfs hsl =>
      ⟨ShapeL.set_push hsl hget ht, fun f hf hraw hnar hsm => ?_⟩⟩
    obtain ⟨fi, hji, hshc, _, _⟩ := ShapeL.get _ _ _ _ _ hsl hget
    rw [hji] at hf; cases hf
    exact hsp _ _ _ hraw hnar hshc (ViewSmallL_set_get _ _ c c' m hget hsm)
  elemsNil hwf _ := ⟨hwf, [], by simpa using Refines.refl _, fun _ _ e => by simp [e], fun _ _ _ _ _ _ _ => rfl⟩
  elemsCons {large el offs x rest o' el' r} h1 h2 ih h ihr hwf hs := by
    obtain ⟨lv, ⟨hel', hdec⟩, hsp⟩ := ih hwf hs
    have ht := push_takeRest ext x el el' h2
    obtain ⟨hr, ls, hd, ho, his⟩ := ihr hel' (NoDictKey.of_takeRest ht hs)
    refine ⟨hr, lv :: ls, Refines.cons_some hdec hd, fun base l e => ?_, fun hraw cdt cn cmd hnc hsh hsm => ?_⟩
    · subst e; rw [ho base (l + 1) (incrementLast_snoc h1)]; simp; omega
    · obtain ⟨hraw1, hraw2⟩ : rawOK nar x = true ∧ rawOKs nar rest = true := by
        simpa only [rawOKs_cons, Bool.and_eq_true] using hraw
      have hi := hsp cdt cn cmd hraw1 hnc hsh (pushElems_small ext rest large el' _ r h hsm)
      simp only [interpAll, hi, his hraw2 cdt cn cmd hnc (Shape.of_takeRest ht hsh) hsm, bind, Except.bind]; rfl
  countNil hwf _ := ⟨hwf, [], by simpa using Refines.refl _, by simp, fun _ _ _ _ _ _ _ => rfl⟩
  countCons {el c x rest el' r} h2 ih h ihr hwf hs := by
    obtain ⟨lv, ⟨hel', hdec⟩, hsp⟩ := ih hwf hs
    have ht := push_takeRest ext x el el' h2
    obtain ⟨hr, ls, hd, ho, his⟩ := ihr hel' (NoDictKey.of_takeRest ht hs)
    refine ⟨hr, lv :: ls, Refines.cons_some hdec hd, by rw [ho]; simp; omega, fun hraw cdt cn cmd hnc hsh hsm => ?_⟩
    obtain ⟨hraw1, hraw2⟩ : rawOK nar x = true ∧ rawOKs nar rest = true := by
      simpa only [rawOKs_cons, Bool.and_eq_true] using hraw
    have hi := hsp cdt cn cmd hraw1 hnc hsh (pushCountElems_small ext rest el' _ r h hsm)
    simp only [interpAll, hi, his hraw2 cdt cn cmd hnc (Shape.of_takeRest ht hsh) hsm, bind, Except.bind]; rfl
  tupleNil fs0 adds hm :=
    ⟨adds, hm, Same.refl _, fun _ sfs _ _ _ j f _ => ⟨fun _ => rfl, fun _ => ⟨[], by simp [interpNth], by simp⟩⟩⟩
  tupleCons {s x rest s1 s'} _ hel h ih fs0 adds hm := by
    obtain ⟨lv, hm1, hun, hlta, hnext, hsame1, hsh⟩ := hel fs0 adds hm
    obtain ⟨adds', hm', hsame, hq⟩ := ih fs0 _ hm1
    refine ⟨adds', hm', hsame.trans hsame1, fun hraw sfs hnf hsl hsm j f hj => ?_⟩
    obtain ⟨hraw1, hraw2⟩ : rawOK nar x = true ∧ rawOKs nar rest = true := by
      simpa only [rawOKs_cons, Bool.and_eq_true] using hraw
    obtain ⟨hsl1, hlv⟩ := hsh sfs hsl
    obtain ⟨ih1, ih2⟩ := hq hraw2 sfs hnf hsl1 hsm j f hj
    rw [hnext] at ih1 ih2
    rw [getD_set _ _ _ _ _ hlta] at ih1 ih2
    refine ⟨fun hjn => ?_, fun hjn => ?_⟩
    · have := ih1 (Nat.lt_succ_of_lt hjn)
      rwa [if_neg (Nat.ne_of_gt hjn)] at this
    · by_cases hij : s.next = j
      · have := ih1 (hij ▸ Nat.lt_succ_self _)
        rw [if_pos hij] at this
        subst hij
        refine ⟨[lv], ?_, by rw [this, hun]; rfl⟩
        rw [Nat.sub_self]
        simp only [interpNth, hlv f hj hraw1 (fun hn => narrowFs_get sfs _ f (hnf hn) hj)
          (pushTupleElems_small ext rest s1 s' h hsm), bind, Except.bind]; rfl
      · have hlt : s.next < j := Nat.lt_of_le_of_ne hjn hij
        obtain ⟨found, hf, ha⟩ := ih2 hlt
        rw [if_neg hij] at ha
        refine ⟨found, ?_, ha⟩
        rw [show j - s.next = (j - (s.next + 1)) + 1 by omega]
        simp only [interpNth]; exact hf
  tupleExtra {s x rest s'} hge h ih fs0 adds hm := by
    obtain ⟨adds', hm', hsame, hq⟩ := ih fs0 adds hm
    refine ⟨adds', hm', hsame, fun hraw sfs hnf hsl hsm j f hj => ?_⟩
    obtain ⟨ih1, _⟩ := hq (by simp only [rawOKs_cons, Bool.and_eq_true] at hraw; exact hraw.2) sfs hnf hsl hsm j f hj
    have hjlt : j < s.fields.length := by
      rw [← hsl.length]
      rcases Nat.lt_or_ge j sfs.toList.length with h | h
      · exact h
      · rw [List.getElem?_eq_none_iff.mpr h] at hj; cases hj
    exact ⟨ih1, fun hle => absurd hjlt (by omega)⟩
  fieldsNil fs0 adds hm :=
    ⟨adds, hm, Same.refl _, fun _ sfs _ _ _ j f _ => ⟨[], by simp [interpByName], by simp⟩⟩
  fieldsCons {s key al x rest idx cached' s1 s'} heq hel h ih fs0 adds hm := by
    have hls := SaModel.Props.C11Front.lookup_sound s.fields.names s.cached s.next (key, al) hm.nodup hm.cache
    rw [heq] at hls
    obtain ⟨lv, hm1, hun, hlta, _, hsame1, hsh⟩ := hel fs0 adds (hm.cached cached' hls.2)
    obtain ⟨adds', hm', hsame, hq⟩ := ih fs0 _ hm1
    refine ⟨adds', hm', hsame.trans hsame1, fun hraw sfs hnf hsl hsm j f hj => ?_⟩
    obtain ⟨hraw1, hraw2⟩ : rawOK nar x = true ∧ rawOKf nar rest = true := by
      simpa only [rawOKf_cons, Bool.and_eq_true] using hraw
    obtain ⟨hsl1, hlv⟩ := hsh sfs hsl
    obtain ⟨found, hf, ha⟩ := hq hraw2 sfs hnf hsl1 hsm j f hj
    rw [getD_set _ _ _ _ _ hlta] at ha
    have hk := key_at hm.nodup hls.1.symm (names_at hsl hj)
    by_cases hij : idx = j
    · subst hij
      rw [if_pos rfl] at ha
      simp only [decide_true] at hk
      exact ⟨lv :: found, interpByName_cons_ok hk hf (hlv f hj hraw1
        (fun hn => narrowFs_get sfs _ f (hnf hn) hj) (pushFields_small ext rest s1 s' h hsm)), by rw [ha, hun]; rfl⟩
    · rw [if_neg hij] at ha
      simp only [hij, decide_false] at hk
      exact ⟨found, (interpByName_cons_ne hk).trans hf, ha⟩
  fieldsUnknown {s key al x rest cached' s'} heq h ih fs0 adds hm := by
    have hls := SaModel.Props.C11Front.lookup_sound s.fields.names s.cached s.next (key, al) hm.nodup hm.cache
    rw [heq] at hls
    obtain ⟨adds', hm', hsame, hq⟩ := ih fs0 adds (hm.cached cached' hls.2)
    refine ⟨adds', hm', hsame, fun hraw sfs hnf hsl hsm j f hj => ?_⟩
    obtain ⟨found, hf, ha⟩ := hq (by simp only [rawOKf_cons, Bool.and_eq_true] at hraw; exact hraw.2) sfs hnf hsl hsm j f hj
    exact ⟨found, (interpByName_cons_ne (key_none hm.nodup hls.1.symm (names_at hsl hj))).trans hf, ha⟩
  entriesNil fs0 adds hm :=
    ⟨adds, hm, Same.refl _, fun _ sfs _ _ _ j f _ => ⟨[], by simp [interpByKey], by simp⟩⟩
  entriesCons {s k x rest key idx s1 s'} hkey hidx hel h ih fs0 adds hm := by
    obtain ⟨lv, hm1, hun, hlta, _, hsame1, hsh⟩ := hel fs0 adds hm
    obtain ⟨adds', hm', hsame, hq⟩ := ih fs0 _ (hm1.next UNKNOWN_KEY)
    refine ⟨adds', hm', hsame.trans hsame1, fun hraw sfs hnf hsl hsm j f hj => ?_⟩
    obtain ⟨⟨_, hraw1⟩, hraw2⟩ : (rawOK nar k = true ∧ rawOK nar x = true) ∧ rawOKe nar rest = true := by
      simpa only [rawOKe_cons, Bool.and_eq_true] using hraw
    have hopt := keyStr_opt hkey
    obtain ⟨hsl1, hlv⟩ := hsh sfs hsl
    obtain ⟨found, hf, ha⟩ := hq hraw2 sfs hnf hsl1 hsm j f hj
    rw [getD_set _ _ _ _ _ hlta] at ha
    have hk := key_at hm.nodup hidx (names_at hsl hj)
    by_cases hij : idx = j
    · subst hij
      rw [if_pos rfl] at ha
      simp only [decide_true] at hk
      exact ⟨lv :: found, interpByKey_cons_ok (by rw [hopt]; exact hk) hf (hlv f hj hraw1
        (fun hn => narrowFs_get sfs _ f (hnf hn) hj) (pushStructEntries_small ext rest s1.unkeyed s' h hsm)),
        by rw [ha, hun]; rfl⟩
    · rw [if_neg hij] at ha
      simp only [hij, decide_false] at hk
      exact ⟨found, (interpByKey_cons_ne (by rw [hopt]; exact hk)).trans hf, ha⟩
  entriesUnknown {s k x rest key s'} hkey hidx h ih fs0 adds hm := by
    obtain ⟨adds', hm', hsame, hq⟩ := ih fs0 adds (hm.next UNKNOWN_KEY)
    refine ⟨adds', hm', hsame, fun hraw sfs hnf hsl hsm j f hj => ?_⟩
    have hopt := keyStr_opt hkey
    obtain ⟨found, hf, ha⟩ := hq (by simp only [rawOKe_cons, Bool.and_eq_true] at hraw; exact hraw.2) sfs hnf hsl hsm j f hj
    exact ⟨found, (interpByKey_cons_ne (by rw [hopt]; exact key_none hm.nodup hidx (names_at hsl hj))).trans hf, ha⟩
  opsNil fs0 adds hm :=
    ⟨adds, hm, Same.refl _, fun _ _ => ⟨fun _ sfs _ _ _ j f _ => ⟨[], by simp [interpByKeyOps], by simp⟩,
      fun k key hraw => by simp [ssaO] at hraw⟩⟩
  opsKey {s k rest key s'} hkey h ih fs0 adds hm := by
    obtain ⟨adds', hm', hsame, hq⟩ := ih fs0 adds (hm.next _)
    exact ⟨adds', hm', hsame, fun hn hlen => ⟨fun hraw => (hq hn hlen).2 k key hraw hkey rfl,
      fun k' key' hraw => by simp [ssaO] at hraw⟩⟩
  opsValue {s x rest s1 s'} hne hel h ih fs0 adds hm := by
    obtain ⟨lv, hm1, hun, hlta, _, hsame1, hsh⟩ := hel fs0 adds hm
    obtain ⟨adds', hm', hsame, hq⟩ := ih fs0 _ (hm1.next UNKNOWN_KEY)
    refine ⟨adds', hm', hsame.trans hsame1, fun hn hlen => ⟨fun hraw => by simp [ssaO] at hraw,
      fun k key hraw hkey hnext sfs hnf hsl hsm j f hj => ?_⟩⟩
    obtain ⟨⟨_, hraw1⟩, hraw2⟩ : (rawOK nar k = true ∧ rawOK nar x = true) ∧ ssaO rest = true := by
      subst hn; simpa [ssaO, rawOK] using hraw
    have hopt := keyStr_opt hkey
    have hidx : indexOfName s.fields.names key = some s.next := by
      cases hi : indexOfName s.fields.names key with
      | none => rw [hi] at hnext; exact absurd hnext hne
      | some idx => rw [hi] at hnext; rw [hnext]; rfl
    obtain ⟨hsl1, hlv⟩ := hsh sfs hsl
    have hlen1 : s1.unkeyed.fields.length < UNKNOWN_KEY := by
      show s1.fields.length < _
      rw [← hsl1.length, hsl.length]; exact hlen
    obtain ⟨found, hf, ha⟩ := (hq hn hlen1).1 hraw2 sfs hnf hsl1 hsm j f hj
    rw [getD_set _ _ _ _ _ hlta] at ha
    have hk := key_at hm.nodup hidx (names_at hsl hj)
    by_cases hij : s.next = j
    · subst hij
      rw [if_pos rfl] at ha
      refine ⟨lv :: found, ?_, by rw [ha, hun]; rfl⟩
      simp only [decide_true] at hk
      simp only [interpByKeyOps, keyOf_eq, hf, bind, Except.bind, hopt, hk, if_true, hlv f hj hraw1
        (fun hn => narrowFs_get sfs _ f (hnf hn) hj) (pushStructOps_small ext rest s1.unkeyed s' h hsm)]; rfl
    · rw [if_neg hij] at ha
      refine ⟨found, ?_, ha⟩
      simp only [hij, decide_false] at hk
      simp only [interpByKeyOps, keyOf_eq, hf, bind, Except.bind, hopt, hk]; rfl
  opsValueUnkeyed {s x rest s'} hnk h ih fs0 adds hm := by
    obtain ⟨adds', hm', hsame, hq⟩ := ih fs0 adds (hm.next UNKNOWN_KEY)
    refine ⟨adds', hm', hsame, fun hn hlen => ⟨fun hraw => by simp [ssaO] at hraw,
      fun k key hraw hkey hnext sfs hnf hsl hsm j f hj => ?_⟩⟩
    have hraw2 : ssaO rest = true := by simp only [ssaO, Bool.and_eq_true] at hraw; exact hraw.2
    have hopt := keyStr_opt hkey
    have hidx : indexOfName s.fields.names key = none := by
      cases hi : indexOfName s.fields.names key with
      | none => rfl
      | some idx =>
        have := indexOfName_lt hi
        rw [BL.names_length] at this
        rw [hi, hnk] at hnext
        exact absurd hnext (by simp only [Option.getD_some]; omega)
    obtain ⟨found, hf, ha⟩ := (hq hn hlen).1 hraw2 sfs hnf hsl hsm j f hj
    refine ⟨found, ?_, ha⟩
    have hne := key_none hm.nodup hidx (names_at hsl hj)
    simp only [interpByKeyOps, keyOf_eq, hf, bind, Except.bind, hopt, hne]; rfl
  mapEntriesNil hk hv _ _ :=
    ⟨hk, hv, [], [], rfl, by simpa using Refines.refl _, by simpa using Refines.refl _, fun _ _ e => by simp [e],
      fun _ _ _ _ _ _ _ _ _ _ _ _ => rfl⟩
  mapEntriesCons {offs ks vs k x rest o' ks' vs' r} h1 h2 ihk h3 ihv h ih hk hv hsk hsv := by
    obtain ⟨lk0, ⟨hk', hdk0⟩, hspk⟩ := ihk hk hsk
    obtain ⟨lv0, ⟨hv', hdv0⟩, hspv⟩ := ihv hv hsv
    have htk := push_takeRest ext k ks ks' h2
    have htv := push_takeRest ext x vs vs' h3
    obtain ⟨g1, g2, lk, lw, hlen, gk, gv, go, his⟩ := ih hk' hv' (NoDictKey.of_takeRest htk hsk) (NoDictKey.of_takeRest htv hsv)
    refine ⟨g1, g2, lk0 :: lk, lv0 :: lw, by simpa using hlen, Refines.cons_some hdk0 gk, Refines.cons_some hdv0 gv,
      fun base l e => ?_, fun kdt kn kmd vdt vn vmd hnk hnv hshk hshv hsm hraw => ?_⟩
    · subst e; rw [go base (l + 1) (incrementLast_snoc h1)]; simp; omega
    · obtain ⟨⟨hrawk, hrawx⟩, hraw2⟩ : (rawOK nar k = true ∧ rawOK nar x = true) ∧ rawOKe nar rest = true := by
        simpa only [rawOKe_cons, Bool.and_eq_true] using hraw
      have hsm1 := pushMapEntries_small ext rest _ ks' vs' r h hsm
      have hik := hspk kdt kn kmd hrawk hnk hshk hsm1.1
      have hiv := hspv vdt vn vmd hrawx hnv hshv hsm1.2
      simp only [interpEntries, hik, hiv, his kdt kn kmd vdt vn vmd hnk hnv (Shape.of_takeRest htk hshk)
        (Shape.of_takeRest htv hshv) hsm hraw2, bind, Except.bind]; rfl
  mapOpsNil hk hv _ _ :=
    ⟨hk, hv, [], [], rfl, by simpa using Refines.refl _, by simpa using Refines.refl _, fun _ _ e => by simp [e],
      fun _ _ _ _ _ _ _ _ _ _ _ _ => ⟨fun _ _ => rfl, fun h => nomatch h⟩⟩
  mapOpsKey {offs ks vs k rest o' ks' r} h1 h2 ihk h ih hk hv hsk hsv := by
    obtain ⟨lk0, ⟨hk', hdk0⟩, hspk⟩ := ihk hk hsk
    have htk := push_takeRest ext k ks ks' h2
    obtain ⟨g1, g2, lk, lw, hlen, gk, gv, go, his⟩ := ih hk' hv (NoDictKey.of_takeRest htk hsk) hsv
    refine ⟨g1, g2, lk0 :: lk, lw, by simpa using hlen, Refines.cons_some hdk0 gk, gv, fun base l e => ?_,
      fun kdt kn kmd vdt vn vmd hnk hnv hshk hshv hsm hn => ⟨fun _ hraw => ?_, fun h => nomatch h⟩⟩
    · subst e; rw [go base (l + 1) (incrementLast_snoc h1)]; simp; omega
    · have hrawk : rawOK nar k = true := by
        cases rest <;> simp [ssaO] at hraw
        subst hn; simpa [rawOK] using hraw.1.1
      have hik := hspk kdt kn kmd hrawk hnk hshk (pushMapOps_small ext rest true _ ks' vs r h hsm).1
      exact (his kdt kn kmd vdt vn vmd hnk hnv (Shape.of_takeRest htk hshk) hshv hsm hn).2 rfl k lk0 hraw hik
  mapOpsValue {offs ks vs x rest vs' r} h3 ihv h ih hk hv hsk hsv := by
    obtain ⟨lv0, ⟨hv', hdv0⟩, hspv⟩ := ihv hv hsv
    have htv := push_takeRest ext x vs vs' h3
    obtain ⟨g1, g2, lk, lw, hlen, gk, gv, go, his⟩ := ih hk hv' hsk (NoDictKey.of_takeRest htv hsv)
    refine ⟨g1, g2, lk, lv0 :: lw, by simpa using hlen, gk, Refines.cons_some hdv0 gv, go,
      fun kdt kn kmd vdt vn vmd hnk hnv hshk hshv hsm hn => ⟨(fun h => nomatch h), fun _ k kv hraw hkv => ?_⟩⟩
    obtain ⟨⟨_, hrawx⟩, hraw2⟩ : (rawOK nar k = true ∧ rawOK nar x = true) ∧ ssaO rest = true := by
      subst hn; simpa [ssaO, rawOK] using hraw
    have hiv := hspv vdt vn vmd hrawx hnv hshv (pushMapOps_small ext rest false _ ks vs' r h hsm).2
    have ih' := (his kdt kn kmd vdt vn vmd hnk hnv hshk (Shape.of_takeRest htv hshv) hsm hn).1 rfl hraw2
    simp only [interpOps, hkv, hiv, ih', bind, Except.bind]; rfl

/-! ### R1': every successful push appends one determined row -/

theorem push_refines (ext : Ext) : ∀ (x : SVal) (b b' : B), WFH b → NoDictKey b → push ext b x = .ok b' →
    WFH b' ∧ ∃ lv, Refines (decH b') (decH b ++ [some lv]) :=
  fun x b b' hwf hs h => have ⟨lv, ⟨hw, hr⟩, _⟩ := (obs_cases ext false).push x b b' h hwf hs; ⟨hw, lv, hr⟩

theorem pushElems_refines (ext : Ext) : ∀ (xs : SVals),
    ElemsOKH (fun large el offs => pushElems ext large el offs xs) :=
  fun xs large el base l r hwf hs h =>
    have ⟨hw, ls, hd, ho, _⟩ := (obs_cases ext false).elems xs large el _ r h hwf hs; ⟨hw, ls, hd, ho base l rfl⟩

/-- the bytes of a `serialize_bytes` call into a list builder are its elements (`pushByteElems_eq`) -/
theorem pushByteElems_refines (ext : Ext) (large : Bool) (bs : Bytes) (el : B) (base : List Int) (l : Int) (r : B × List Int)
    (hw : WFH el) (hn : NoDictKey el) (h : pushByteElems ext large el (base ++ [l]) bs = .ok r) :
    WFH r.1 ∧ ∃ ls : List LVal, Refines (decH r.1) (decH el ++ ls.map some) ∧ r.2 = base ++ [l + (ls.length : Int)] :=
  pushElems_refines ext _ large el base l r hw hn (pushByteElems_eq ext large bs el _ ▸ h)

theorem pushCountElems_refines (ext : Ext) : ∀ (xs : SVals),
    CountOKH (fun el c => pushCountElems ext el c xs) :=
  fun xs el c r hwf hs h => have ⟨hw, ls, hd, hc, _⟩ := (obs_cases ext false).count xs el c r h hwf hs; ⟨hw, ls, hd, hc⟩

theorem pushTupleElems_refines (ext : Ext) : ∀ (xs : SVals),
    FieldsOKH (fun s => pushTupleElems ext s xs) :=
  fun xs fs0 s adds s' hm h => have ⟨a, hm', hs, _⟩ := (obs_cases ext false).tuple xs s s' h fs0 adds hm; ⟨⟨a, hm'⟩, hs⟩

theorem pushFields_refines (ext : Ext) : ∀ (fs : SFields),
    FieldsOKH (fun s => pushFields ext s fs) :=
  fun fs fs0 s adds s' hm h => have ⟨a, hm', hs, _⟩ := (obs_cases ext false).fields fs s s' h fs0 adds hm; ⟨⟨a, hm'⟩, hs⟩

theorem pushStructEntries_refines (ext : Ext) : ∀ (es : SEntries),
    FieldsOKH (fun s => pushStructEntries ext s es) :=
  fun es fs0 s adds s' hm h =>
    have ⟨a, hm', hs, _⟩ := (obs_cases ext false).structEntries es s s' h fs0 adds hm; ⟨⟨a, hm'⟩, hs⟩

theorem pushStructOps_refines (ext : Ext) : ∀ (ops : SMapOps),
    FieldsOKH (fun s => pushStructOps ext s ops) :=
  fun ops fs0 s adds s' hm h =>
    have ⟨a, hm', hs, _⟩ := (obs_cases ext false).structOps ops s s' h fs0 adds hm; ⟨⟨a, hm'⟩, hs⟩

theorem pushMapEntries_refines (ext : Ext) : ∀ (es : SEntries),
    MapOKH (fun offs ks vs => pushMapEntries ext offs ks vs es) :=
  fun es base l ks vs r hk hv hsk hsv h =>
    have ⟨g1, g2, lk, lw, hlen, gk, gv, go, _⟩ := (obs_cases ext false).mapEntries es _ ks vs r h hk hv hsk hsv
    ⟨g1, g2, lk, lw, by simpa using hlen, gk, gv, go base l rfl⟩

theorem pushMapOps_refines_gen (ext : Ext) : ∀ (ops : SMapOps) (pd : Bool) (base : List Int) (l : Int) (ks vs : B)
    (r : List Int × B × B), WFH ks → WFH vs → NoDictKey ks → NoDictKey vs → pushMapOps ext pd (base ++ [l]) ks vs ops = .ok r →
    WFH r.2.1 ∧ WFH r.2.2 ∧ ∃ lk lw : List LVal, lw.length = lk.length + (if pd then 1 else 0) ∧
      Refines (decH r.2.1) (decH ks ++ lk.map some) ∧ Refines (decH r.2.2) (decH vs ++ lw.map some) ∧
      r.1 = base ++ [l + (lk.length : Int)] :=
  fun ops pd base l ks vs r hk hv hsk hsv h =>
    have ⟨g1, g2, lk, lw, hlen, gk, gv, go, _⟩ := (obs_cases ext false).mapOps ops pd _ ks vs r h hk hv hsk hsv
    ⟨g1, g2, lk, lw, hlen, gk, gv, go base l rfl⟩

theorem pushMapOps_refines (ext : Ext) (ops : SMapOps) : MapOKH (fun offs ks vs => pushMapOps ext false offs ks vs ops) := by
  intro base l ks vs r hk hv hsk hsv h
  obtain ⟨g1, g2, lk, lw, hlen, rest⟩ := pushMapOps_refines_gen ext ops false base l ks vs r hk hv hsk hsv h
  exact ⟨g1, g2, lk, lw, by simpa using hlen, rest⟩

end SaModel.Build
