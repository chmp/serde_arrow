import SaModel.Lemmas.C04Mapping
/-
C04: `norm` is the identity on types without an `Option` directly over a nullable position.

`nullableTy t`  — a value of `t` can be stored as a null: `()`, unit structs, `Option<_>`, newtype structs of those;
`plainOpt t`    — no `Option<t'>` with `nullableTy t'` occurs anywhere in `t` (no `Option<Option<_>>`, `Option<()>`, …).
  lv_ne_null    : ¬ nullableTy t → wt t v → lv t v ≠ null
  norm_eq_self  : plainOpt t → wt t v → norm t v = v            (whole grammar)
so for such types the round trip of C04 is literally the identity.
-/
namespace SaModel.Roundtrip
open SaModel

def nullableTy : Ty → Bool
  | .unit | .unitStruct _ | .option _ => true
  | .newtype _ t => nullableTy t
  | _ => false

mutual
def plainOpt : Ty → Bool
  | .prim _ | .unit | .unitStruct _ => true
  | .option t => !nullableTy t && plainOpt t
  | .newtype _ t | .vec t => plainOpt t
  | .map k v => plainOpt k && plainOpt v
  | .struct _ fs => plainOptFields fs
  | .tuple ts | .tupleStruct _ ts => plainOptTys ts
  | .enum _ vars => plainOptVariants vars
def plainOptTys : Tys → Bool
  | .nil => true
  | .cons t r => plainOpt t && plainOptTys r
def plainOptFields : TFields → Bool
  | .nil => true
  | .cons _ _ t r => plainOpt t && plainOptFields r
def plainOptVariant : Variant → Bool
  | .unit => true
  | .newtype t => plainOpt t
  | .tuple ts => plainOptTys ts
  | .struct fs => plainOptFields fs
def plainOptVariants : Variants → Bool
  | .nil => true
  | .cons _ v r => plainOptVariant v && plainOptVariants r
end

theorem plainOptVariants_get : ∀ (vars : Variants) (i : Nat) (vn : String) (kind : Variant),
    plainOptVariants vars = true → vars.get? i = some (vn, kind) → plainOptVariant kind = true :=
  Variants.get?_all fun _ _ _ => by rw [plainOptVariants]

theorem lv_prim_ne_null (p : Prim) (v : Val) (h : p.wt v = true) : lv (.prim p) v ≠ .null := by
  unfold Prim.wt at h
  split at h <;> first | contradiction | simp [lv]

/-- the payload of a newtype variant is one value, so the variant is stored as a union slot -/
theorem lvSingle_ne_null (i : Nat) (t : Ty) : ∀ vs : Vals, wtSingle t vs = true → lvSingle i t vs ≠ .null
  | .cons _ .nil, _ => by simp [lvSingle]
  | .nil, h | .cons _ (.cons _ _), h => by simp [wtSingle] at h

theorem lv_ne_null : ∀ (t : Ty) (v : Val), nullableTy t = false → wt t v = true → lv t v ≠ .null := by
  -- along the definition of `wt`: only a newtype struct passes the inner value on
  apply wt.induct (motive_1 := fun t v => nullableTy t = false → wt t v = true → lv t v ≠ .null)
    (motive_2 := fun _ _ _ => True) (motive_3 := fun _ _ => True) (motive_4 := fun _ _ => True)
    (motive_5 := fun _ _ => True) (motive_6 := fun _ _ => True)
  case case1 => exact fun p v _ h => lv_prim_ne_null p v (by simpa only [wt] using h)
  all_goals intros
  all_goals first | trivial | skip
  all_goals rename_i hn hw
  all_goals try simp only [nullableTy] at hn
  all_goals try simp only [wt, Bool.false_eq_true, *] at hw
  all_goals try simp only [lv, ne_eq, reduceCtorEq, not_false_eq_true, *]
  exact lvSingle_ne_null _ _ _ hw

/-- **`norm` is the identity** on well-typed values of types without `Option` directly over a nullable position, shape by shape -/
theorem closed_norm : WtClosed (fun t v => plainOpt t = true → norm t v = v) (fun t vs => plainOpt t = true → normAll t vs = vs)
    (fun ts vs => plainOptTys ts = true → normPos ts vs = vs) (fun fs vs => plainOptFields fs = true → normFields fs vs = vs)
    (fun k v es => plainOpt k = true → plainOpt v = true → normEntries k v es = es) where
  prim _ v _ _ := by cases v <;> simp [norm]
  unit _ := by simp [norm]
  unitStruct _ _ := by simp [norm]
  optNone _ _ := by simp [norm]
  optSome t v hw ih hp := by
    simp only [plainOpt, Bool.and_eq_true, Bool.not_eq_true'] at hp
    simp [norm, lv_ne_null t v hp.1 hw, ih hp.2]
  newtype _ _ _ _ ih hp := by simp [norm, ih hp]
  vec _ _ _ ih hp := by simp [norm, ih hp]
  tuple _ _ _ ih hp := by simp [norm, ih hp]
  tupleStruct _ _ _ _ ih hp := by simp [norm, ih hp]
  struct _ _ _ _ ih hp := by simp [norm, ih hp]
  map _ _ _ _ ih hp := by
    simp only [plainOpt, Bool.and_eq_true] at hp
    simp [norm, ih hp.1 hp.2]
  variant _ vars i vn _ _ hg hw ih hp := by
    have hk := plainOptVariants_get vars i vn _ hp hg
    cases variant_val hg hw with
    | unit => simp [norm, hg]
    | newtype t v =>
      have ih : norm t v = v := ih hk
      simp [norm, hg, normSingle, ih]
    | _ => simpa [norm, hg, Variant.payload, Variant.payloadVal] using ih hk
  allNil _ _ := by simp [normAll]
  allCons _ _ _ _ _ ih1 ih2 hp := by simp [normAll, ih1 hp, ih2 hp]
  posNil _ := by simp [normPos]
  posCons _ _ _ _ _ _ ih1 ih2 hp := by
    simp only [plainOptTys, Bool.and_eq_true] at hp
    simp [normPos, ih1 hp.1, ih2 hp.2]
  fieldsNil _ := by simp [normFields]
  fieldsCons _ _ _ _ _ _ _ _ ih1 ih2 hp := by
    simp only [plainOptFields, Bool.and_eq_true] at hp
    simp [normFields, ih1 hp.1, ih2 hp.2]
  entriesNil _ _ _ _ := by simp [normEntries]
  entriesCons _ _ _ _ _ _ _ _ ih1 ih2 ih3 hk hv := by simp [normEntries, ih1 hk, ih2 hv, ih3 hk hv]

theorem norm_eq_self : ∀ (t : Ty) (v : Val), plainOpt t = true → wt t v = true → norm t v = v :=
  fun t v hp hw => closed_norm.val t v hw hp
theorem normAll_eq_self : ∀ (t : Ty) (vs : Vals), plainOpt t = true → wtAll t vs = true → normAll t vs = vs :=
  fun t vs hp hw => closed_norm.all t vs hw hp
theorem normPos_eq_self : ∀ (ts : Tys) (vs : Vals), plainOptTys ts = true → wtPos ts vs = true → normPos ts vs = vs :=
  fun ts vs hp hw => closed_norm.pos ts vs hw hp
theorem normFields_eq_self : ∀ (fs : TFields) (vs : Vals), plainOptFields fs = true → wtFields fs vs = true → normFields fs vs = vs :=
  fun fs vs hp hw => closed_norm.fields fs vs hw hp
theorem normEntries_eq_self : ∀ (k v : Ty) (es : VEntries), plainOpt k = true → plainOpt v = true → wtEntries k v es = true →
    normEntries k v es = es :=
  fun k v es hk hv hw => closed_norm.entries k v es hw hk hv

end SaModel.Roundtrip
