import SaModel.Lemmas.C11PhysStruct
import SaModel.Lemmas.C01Typed
/-
C11, physical equality: **the state after a push depends on the documented value only.**

  push_phys   push ext b x = ok b'  →  interpDT ext dt n md x = ok lv  →  pushL un lv (erase b) = erase b'

for every builder family and every serde value without raw key/value streams, at any nesting (hypotheses of R2:
`WFH`, `NoDictKey`, `Shape`).  An instance of `PushCases` (`phys_cases`): the hypotheses live in the motives, one clause
per row a push writes.  A variant value is the union row around its payload (`interpDT_variant_iff`); with `noRaw` in the
motives the clauses of the raw streams are empty.
-/
namespace SaModel.Build
open SaModel SaModel.Spec

/-! ### what `push_phys` says of the element loops of sequences, and one row of a union from the push into the variant's
child -/

/-- the statement of `pushElems_phys` about an element loop `pe` -/
def ElemsPhys (ext : Ext) (un : Bytes → String) (xs : SVals) (pe : Bool → B → List Int → R (B × List Int)) : Prop :=
  ∀ large el offs r cdt cn cmd ls, WFH el → NoDictKey el → Shape el cdt cn cmd → pe large el offs = .ok r →
    interpAll ext cdt cn cmd xs = .ok ls →
    pushLs un (LVals.ofList ls) (erase el) = erase r.1 ∧ ∀ base l, offs = base ++ [l] → r.2 = base ++ [l + (ls.length : Int)]

/-- the statement of `pushCountElems_phys` about a counting loop `pc` -/
def CountPhys (ext : Ext) (un : Bytes → String) (xs : SVals) (pc : B → Nat → R (B × Nat)) : Prop :=
  ∀ el c r cdt cn cmd ls, WFH el → NoDictKey el → Shape el cdt cn cmd → pc el c = .ok r →
    interpAll ext cdt cn cmd xs = .ok ls →
    pushLs un (LVals.ofList ls) (erase el) = erase r.1 ∧ r.2 = c + ls.length

/-- one row of a union, from the push into the variant's child -/
theorem union_row_erase {un : Bytes → String} {p fs types offs cur} {i : Nat} {c c' : B} {m : FieldMeta} {co : Int} {lvc : LVal}
    (hget : fs.get? i = some (c, m)) (hco : cur[i]? = some co) (hc : pushL un lvc (erase c) = erase c') :
    pushL un (.union (i : Int) lvc) (erase (.union p fs types offs cur)) =
      erase (.union p (fs.set i c') (types ++ [(i : Int)]) (offs ++ [co]) (cur.set i (co + 1))) := by
  have hge : (eraseL fs).get? i = some (erase c, m) := by rw [BL.get?_eraseL, hget]; rfl
  have hcd : cur.getD i 0 = co := by rw [List.getD_eq_getElem?_getD, hco]; rfl
  simp only [pushL, erase, Int.toNat_natCast, hge, hcd, hc, BL.set_eraseL]

/-- one row of a union: bookkeeping + the variant's child -/
theorem union_row_phys {un : Bytes → String} {p fs types offs cur} {i : Nat} {pc : B → R B} {b' : B} {tid : Int} {lvc : LVal}
    (htid : tid = (i : Int))
    (h : (do
      let (c, types', offs', cur') ← serializeVariant fs types offs cur i
      let c' ← pc c
      pure (.union p (fs.set i c') types' offs' cur') : R B) = .ok b')
    (hpc : ∀ c m c', fs.get? i = some (c, m) → pc c = .ok c' → pushL un lvc (erase c) = erase c') :
    pushL un (.union tid lvc) (erase (.union p fs types offs cur)) = erase b' := by
  obtain ⟨⟨c, t', o', cur'⟩, h1, h⟩ := (bind_ok _ _ _).1 h
  obtain ⟨c', h2, h⟩ := (bind_ok _ _ _).1 h
  cases h
  obtain ⟨m, co, hget, hco, _, ht, ho, hcur⟩ := serializeVariant_ok h1
  simp only at hget hco ht ho hcur
  subst ht ho hcur htid
  exact union_row_erase hget hco (hpc c m c' hget h2)

/-! ### the calls -/

theorem LEntries.length_ofList : ∀ (l : List (LVal × LVal)), LEntries.length (LEntries.ofList l) = l.length
  | [] => rfl
  | (_, _) :: r => by simp [LEntries.ofList, LEntries.length, LEntries.length_ofList r]

/-- a push keeps what `push_phys` assumes about the builder -/
theorem push_keeps {ext : Ext} {x : SVal} {b b' : B} {dt : DataType} {n : Bool} {md : Metadata} (hwf : WFH b)
    (hs : NoDictKey b) (hsh : Shape b dt n md) (h : push ext b x = .ok b') : WFH b' ∧ NoDictKey b' ∧ Shape b' dt n md :=
  have ht := push_takeRest ext x b b' h
  ⟨(push_refines ext x b b' hwf hs h).1, NoDictKey.of_takeRest ht hs, Shape.of_takeRest ht hsh⟩

/-- `serialize_none`, and `serialize_unit` and its relatives, which do the same -/
theorem noneCall_phys {un : Bytes → String} {b b' : B} {dt : DataType} {n : Bool} {md : Metadata} {lv : LVal}
    (h : pushNone b = .ok b') (hi : interpNull dt n md = .ok lv) : pushL un lv (erase b) = erase b' := by
  cases interpNull_ok hi
  simp only [pushL]
  exact noneL_erase h

theorem noRaw_seqLike {x : SVal} {k : SeqKind} {xs : SVals} (hx : IsSeqLike x k xs) : noRaw x = noRaws xs := by
  cases hx <;> rfl

theorem noRaw_variant {x y : SVal} {i : Nat} (hx : IsVariant x i y) (h : noRaw x = true) : noRaw y = true := by
  cases hx <;> first | rfl | exact h

/-- one row of a list builder whose element builder has received `ls` -/
theorem list_row_phys {un : Bytes → String} {p large fm v offs el v' o1 el' o2} {ls : List LVal}
    (h1 : setValidity v (offs.length - 1) true = .ok v') (h2 : duplicateLast offs = .ok o1)
    (he : pushLs un (LVals.ofList ls) (erase el) = erase el')
    (ho : ∀ base l, o1 = base ++ [l] → o2 = base ++ [l + (ls.length : Int)]) :
    pushL un (.list (LVals.ofList ls)) (erase (.list p large fm v offs el)) = erase (.list p large fm v' o2 el') := by
  cases setValidity_setV h1
  obtain ⟨l, hl, rfl⟩ := duplicateLast_ok h2
  obtain rfl := ho _ _ rfl
  simp only [pushL, erase, he, lastOff, hl, Option.getD_some, LVals.length_ofList]

/-- the candidates of field `j` after one more entry, addressed to child `idx` -/
theorem ChildRel.entry {un : Bytes → String} {s s' : SS} {idx j : Nat} {vs found : List LVal} {r : R LVal}
    (hne : idx ≠ j → ChildRel un s s' j vs) (heq : ∀ lv, idx = j → r = .ok lv → ChildRel un s s' j (lv :: vs))
    (hf : (if decide (idx = j) = true then (do pure ((← r) :: vs)) else pure vs : R (List LVal)) = .ok found) :
    ChildRel un s s' j found := by
  by_cases hij : idx = j
  · simp only [hij, decide_true, if_true] at hf
    obtain ⟨lv, hlv, hf⟩ := (bind_ok _ _ _).1 hf
    cases hf
    exact heq lv hij hlv
  · simp only [hij, decide_false, Bool.false_eq_true, if_false] at hf
    cases hf
    exact hne hij

theorem keyOf_of_keyStr {k : SVal} {key : String} (h : keyStr k = .ok key) (fname : String) :
    (keyOf k == some fname) = (key == fname) := by
  rw [keyOf_eq, h]; simp [Except.toOption]

/-- The motives carry the hypotheses of `push_phys` and of its loops.  `El`: after one `element` call of a field loop in a
mid-record state the state is again one, of the same shape, and a description of the rest of the loop for a child
extends to the whole loop — another child is not touched, child `idx` has received the pushed value first. -/
theorem phys_cases (ext : Ext) (un : Bytes → String) (hun : ∀ s, un (strBytes s) = s) : PushCases ext
    (fun b x b' => noRaw x = true → ∀ dt n md lv, WFH b → NoDictKey b → Shape b dt n md →
      interpDT ext dt n md x = .ok lv → pushL un lv (erase b) = erase b')
    (fun s idx x s1 => noRaw x = true → ∀ fs0 adds sfs, MidH fs0 s adds → ShapeL s.fields sfs →
      (∃ adds1, MidH fs0 s1 adds1) ∧ ShapeL s1.fields sfs ∧ s1.next = idx + 1 ∧
      ∀ s' j found, ChildRel un s1 s' j found → (idx ≠ j → ChildRel un s s' j found) ∧
        ∀ f lv, idx = j → sfs.toList[j]? = some f → interpDT ext f.dataType f.nullable f.metadata x = .ok lv →
          ChildRel un s s' j (lv :: found))
    (fun _ el offs xs r => noRaws xs = true → ∀ cdt cn cmd ls, WFH el → NoDictKey el → Shape el cdt cn cmd →
      interpAll ext cdt cn cmd xs = .ok ls → pushLs un (LVals.ofList ls) (erase el) = erase r.1 ∧
        ∀ base l, offs = base ++ [l] → r.2 = base ++ [l + (ls.length : Int)])
    (fun el c xs r => noRaws xs = true → ∀ cdt cn cmd ls, WFH el → NoDictKey el → Shape el cdt cn cmd →
      interpAll ext cdt cn cmd xs = .ok ls → pushLs un (LVals.ofList ls) (erase el) = erase r.1 ∧ r.2 = c + ls.length)
    (fun s xs s' => noRaws xs = true → ∀ fs0 adds sfs, MidH fs0 s adds → ShapeL s.fields sfs → ∀ j f found,
      sfs.toList[j]? = some f → (j < s.next → ChildRel un s s' j []) ∧
        (s.next ≤ j → interpNth ext f.dataType f.nullable f.metadata (j - s.next) xs = .ok found → ChildRel un s s' j found))
    (fun s fields s' => noRawf fields = true → ∀ fs0 adds sfs, MidH fs0 s adds → ShapeL s.fields sfs → ∀ j f found,
      sfs.toList[j]? = some f → interpByName ext f.name f.dataType f.nullable f.metadata fields = .ok found →
        ChildRel un s s' j found)
    (fun s es s' => noRawe es = true → ∀ fs0 adds sfs, MidH fs0 s adds → ShapeL s.fields sfs → ∀ j f found,
      sfs.toList[j]? = some f → interpByKey ext f.name f.dataType f.nullable f.metadata es = .ok found →
        ChildRel un s s' j found)
    (fun _ _ _ => True)
    (fun offs ks vs es r => noRawe es = true → ∀ kdt kn kmd vdt vn vmd ents, WFH ks → WFH vs → NoDictKey ks →
      NoDictKey vs → Shape ks kdt kn kmd → Shape vs vdt vn vmd → interpEntries ext kdt kn kmd vdt vn vmd es = .ok ents →
      pushLK un (LEntries.ofList ents) (erase ks) = erase r.2.1 ∧ pushLW un (LEntries.ofList ents) (erase vs) = erase r.2.2 ∧
        ∀ base l, offs = base ++ [l] → r.1 = base ++ [l + (ents.length : Int)])
    (fun _ _ _ _ _ _ => True) where
  fwdSome ih := ih
  fwdNewtype ih := ih
  null hx h _ dt n md lv _ _ _ hi := noneCall_phys (dt := dt) (n := n) (md := md) h (by cases hx <;> exact hi)
  scalar hx h _ dt n md lv _ _ hsh hi := by
    have hdt := pushScalar_scalarDT ext _ _ _ dt n md hsh h
    refine pushScalar_phys ext un hun _ _ _ dt n md lv hsh h ?_
    cases hx with
    | unitVariant a i vn => rwa [interpDT_unitVariant_scalar ext dt n md a i vn hdt] at hi
    | bytes bs => rw [interpDT_bytes_scalar ext dt n md bs hdt] at hi; exact (ite_fail_ok hi).2
    | _ => exact (ite_fail_ok hi).2
  list {p large fm v offs el x k xs v' o1 el' o2} hx h1 h2 _ ih hraw dt n md lv hwf hs hsh hi := by
    rw [noRaw_seqLike hx] at hraw
    rw [interpDT_seqLike hx] at hi
    simp only [WFH] at hwf
    simp only [NoDictKey] at hs
    obtain ⟨cname, cdt, cn, cmd, _, hsel, hspec, _⟩ := hsh.list_row
    rw [hspec] at hi
    obtain ⟨ls, hls, hi⟩ := (bind_ok _ _ _).1 hi
    cases hi
    obtain ⟨hel, ho⟩ := ih hraw cdt cn cmd ls hwf.2.2 hs hsel hls
    exact list_row_phys h1 h2 hel ho
  listBytes {p large fm v offs el bs v' o1 el' o2} _ _ _ ih _ dt n md lv hwf hs hsh hi :=
    ih (rawOKs_byteVals false bs) dt n md lv hwf hs hsh ((interpDT_list_bytes hsh ext bs lv).1 hi)
  fixedSizeList {p fm cnt len v cur el x k xs v' el'} hx h1 _ ih hraw dt n md lv hwf hs hsh hi := by
    rw [noRaw_seqLike hx] at hraw
    rw [interpDT_seqLike hx] at hi
    simp only [WFH] at hwf
    simp only [NoDictKey] at hs
    cases setValidity_setV h1
    simp only [Shape] at hsh
    obtain ⟨_, cname, cdt, cn, cmd, rfl, hsel⟩ := hsh
    simp only [seqSpec, isUnknownVariant, Bool.false_eq_true, if_false] at hi
    obtain ⟨ls, hls, hi⟩ := (bind_ok _ _ _).1 hi
    split at hi <;> cases hi
    simp only [pushL, erase, (ih hraw cdt cn cmd ls hwf.2.2 hs hsel hls).1]
  binary {p ty v offs data x k xs v' o1 bs o2} hx hb h1 h2 h3 h4 _ dt n md lv _ _ hsh hi := by
    rw [interpDT_seqLike hx] at hi
    cases setValidity_setV h1
    obtain ⟨l, hl, rfl⟩ := duplicateLast_ok h2
    cases iter_incrementLast _ h4
    rw [hsh.bytes_row.2, if_pos hb, (specBytes_ok_iff _ _).2 h3] at hi
    cases hi
    simp only [pushL, erase, scalarL, bytesOfL, lastOff, hl, Option.getD_some]
  binaryView {p v views buf x k xs v' bs views' buf'} hx h1 h2 h3 _ dt n md lv _ _ hsh hi := by
    rw [interpDT_seqLike hx] at hi
    cases setValidity_setV h1
    simp only [Shape] at hsh
    obtain ⟨rfl, _⟩ := hsh
    simp only [seqSpec, isUnknownVariant, viewDT, Bool.false_eq_true, if_false, (specBytes_ok_iff _ _).2 h2] at hi
    cases hi
    obtain ⟨d, extra, hr, _, _, hc⟩ := viewSeq_ok h3
    cases hr
    have e : bytesOfL (.bin bs) = bs := rfl
    simp only [pushL, erase, scalarL]
    rw [e]
    rcases hc with ⟨rfl, rfl, hle⟩ | ⟨rfl, rfl, hgt, _⟩
    · rw [if_pos hle, List.append_nil]
    · rw [if_neg (by omega)]
  fixedSizeBinary {p len v buf cur x k xs v' bs} hx h1 h2 _ dt n md lv _ _ hsh hi := by
    rw [interpDT_seqLike hx] at hi
    cases setValidity_setV h1
    simp only [Shape] at hsh
    obtain ⟨rfl, _⟩ := hsh
    simp only [seqSpec, isUnknownVariant, Bool.false_eq_true, if_false, (specBytes_ok_iff _ _).2 h2] at hi
    have hlv : lv = .bin bs := by
      simp only [bind, Except.bind] at hi
      split at hi <;> cases hi
      rfl
    subst hlv
    simp only [pushL, erase, scalarL, bytesOfL]
  structTuple {s x k xs s1 s2 s3} hx hk h1 h2 ih h3 hraw dt n md lv hwf hs hsh hi := by
    rw [noRaw_seqLike hx] at hraw
    rw [interpDT_seqLike hx] at hi
    have hk : (k != .seq) = true := by cases k <;> first | rfl | exact absurd rfl hk
    simp only [SS.toB, Shape] at hsh
    obtain ⟨_, sfs, rfl, hsl⟩ := hsh
    simp only [hk, seqSpec, isUnknownVariant, Bool.false_eq_true, if_false, if_true] at hi
    have hnd : s.fields.names.Nodup := by simp only [SS.toB, WFH] at hwf; exact hwf.2.2.2.1
    refine row_phys _ hwf hs hsl h1 (fun hn0 hf1 hm1 =>
      ⟨pushTupleElems_refines ext xs _ _ _ _ hm1 h2, fun j f found hj hc => ?_⟩) h3 hi
    have hidx : indexOfName (sfs.toList.map Field.name) f.name = some j := by
      rw [← ShapeL.names _ sfs hsl]
      exact SaModel.Props.C11Front.indexOfName_of_get _ hnd _ j (names_at hsl hj)
    rw [hidx, Option.getD_some] at hc
    exact (ih hraw _ _ sfs hm1 (by rw [hf1]; exact hsl) j f found hj).2 (by omega) (by rw [hn0]; exact hc)
  structRecord {s nm fs s1 s2 s3} h1 h2 ih h3 hraw dt n md lv hwf hs hsh hi := by
    simp only [SS.toB, Shape] at hsh
    obtain ⟨_, sfs, rfl, hsl⟩ := hsh
    simp only [interpDT, isUnknownVariant, Bool.false_eq_true, if_false] at hi
    exact row_phys _ hwf hs hsl h1 (fun _ hf1 hm1 =>
      ⟨pushFields_refines ext fs _ _ _ _ hm1 h2, ih hraw _ _ sfs hm1 (by rw [hf1]; exact hsl)⟩) h3 hi
  structMap {s es s1 s2 s3} h1 h2 ih h3 hraw dt n md lv hwf hs hsh hi := by
    simp only [SS.toB, Shape] at hsh
    obtain ⟨_, sfs, rfl, hsl⟩ := hsh
    simp only [interpDT, isUnknownVariant, Bool.false_eq_true, if_false] at hi
    obtain ⟨_, _, hi⟩ := (bind_ok _ _ _).1 hi
    exact row_phys _ hwf hs hsl h1 (fun _ hf1 hm1 =>
      ⟨pushStructEntries_refines ext es _ s1.unkeyed _ _ (hm1.next UNKNOWN_KEY) h2, fun j f found hj hc =>
        ChildRel.of_eq rfl rfl (ih hraw _ _ sfs (hm1.next UNKNOWN_KEY) (hf1.symm ▸ hsl : ShapeL s1.fields sfs) j f found hj hc)⟩) h3 hi
  structMapRaw _ _ _ _ hraw := nomatch hraw
  map {p mm v offs ks vs es v' o1 o2 ks' vs'} h1 h2 _ ih hraw dt n md lv hwf hs hsh hi := by
    simp only [Shape] at hsh
    obtain ⟨_, ename, kn, kdt, knl, kmd, vn, vdt, vnl, vmd, rest, en, emd, sorted, rfl, hsk, hsv⟩ := hsh
    simp only [interpDT, isUnknownVariant, Bool.false_eq_true, if_false] at hi
    obtain ⟨ents, hents, hi⟩ := (bind_ok _ _ _).1 hi
    cases hi
    simp only [WFH] at hwf
    simp only [NoDictKey] at hs
    obtain ⟨l, hl, rfl⟩ := duplicateLast_ok h2
    obtain ⟨hk, hv, ho⟩ := ih hraw kdt knl kmd vdt vnl vmd ents hwf.2.2.2.1 hwf.2.2.2.2 hs.1 hs.2 hsk hsv hents
    obtain rfl := ho offs l rfl
    cases setValidity_setV h1
    simp only [pushL, erase, hk, hv, LEntries.length_ofList, lastOff, hl, Option.getD_some]
  mapRaw _ _ _ _ hraw := nomatch hraw
  union {p fs types offs cur x i y c m co c'} hx hget hco _ _ _ ih hraw dt n md lv hwf hs hsh hi := by
    simp only [Shape] at hsh
    obtain ⟨ufs, mode, rfl, hsu⟩ := hsh
    simp only [WFH] at hwf
    simp only [NoDictKey] at hs
    obtain ⟨fname, fdt, fn, fmd, hufs, hshc⟩ := ShapeU.get fs ufs 0 i c m hsu hget
    rw [Nat.zero_add] at hufs
    obtain ⟨lvc, hlvc, rfl⟩ := (interpDT_variant_iff hx hufs).1 hi
    exact union_row_erase hget hco (ih (noRaw_variant hx hraw) fdt fn fmd lvc (WFHU_get _ _ _ _ hwf.2.2.1 hget).2
      (NoDictKeyL.get _ _ _ hs hget) hshc hlvc)
  element {s idx x c m c'} hseen hget hpc ih hraw fs0 adds sfs hm hsl := by
    obtain ⟨fi, hji, hshc, _, _⟩ := ShapeL.get _ _ _ _ _ hsl hget
    refine ⟨(SS.element_midH hm (StepOKH.of_push fun c c' => push_refines ext x c c')
        (SS.element_wrote hseen hget hpc)).1,
      ShapeL.set_push hsl hget (push_takeRest ext x c c' hpc), rfl, fun s' j found hrel =>
        ⟨fun hij => ChildRel.step_ne hij rfl rfl hrel, ?_⟩⟩
    rintro f lv rfl hj hlv
    rw [hji] at hj
    cases hj
    exact ChildRel.step_eq hget hseen rfl rfl (ih hraw _ _ _ lv (ExtLH.get _ _ _ _ _ hm.ext hget)
      (NoDictKeyL.get _ _ _ hm.safe hget) hshc hlv) hrel
  elemsNil _ cdt cn cmd ls _ _ _ hi := by
    simp only [interpAll] at hi; cases hi
    exact ⟨rfl, fun base l ho => by simpa using ho⟩
  elemsCons {large el offs x rest o' el' r} h1 h2 ih _ ihr hraw cdt cn cmd ls hwf hs hsh hi := by
    have hraw' : noRaw x = true ∧ noRaws rest = true := Bool.and_eq_true_iff.1 hraw
    simp only [interpAll] at hi
    obtain ⟨lv, hlv, hi⟩ := (bind_ok _ _ _).1 hi
    obtain ⟨ls', hls', hi⟩ := (bind_ok _ _ _).1 hi
    cases hi
    have hx := ih hraw'.1 cdt cn cmd lv hwf hs hsh hlv
    obtain ⟨hwf', hs', hsh'⟩ := push_keeps hwf hs hsh h2
    obtain ⟨ih1, ih2⟩ := ihr hraw'.2 cdt cn cmd ls' hwf' hs' hsh' hls'
    exact ⟨by simp only [LVals.ofList, pushLs, hx]; exact ih1, offs_step h1 ih2⟩
  countNil _ cdt cn cmd ls _ _ _ hi := by
    simp only [interpAll] at hi; cases hi
    exact ⟨rfl, rfl⟩
  countCons {el c x rest el' r} h2 ih _ ihr hraw cdt cn cmd ls hwf hs hsh hi := by
    have hraw' : noRaw x = true ∧ noRaws rest = true := Bool.and_eq_true_iff.1 hraw
    simp only [interpAll] at hi
    obtain ⟨lv, hlv, hi⟩ := (bind_ok _ _ _).1 hi
    obtain ⟨ls', hls', hi⟩ := (bind_ok _ _ _).1 hi
    cases hi
    have hx := ih hraw'.1 cdt cn cmd lv hwf hs hsh hlv
    obtain ⟨hwf', hs', hsh'⟩ := push_keeps hwf hs hsh h2
    obtain ⟨ih1, ih2⟩ := ihr hraw'.2 cdt cn cmd ls' hwf' hs' hsh' hls'
    refine ⟨by simp only [LVals.ofList, pushLs, hx]; exact ih1, ?_⟩
    rw [ih2]; simp only [List.length_cons]; omega
  tupleNil {s} _ fs0 adds sfs _ _ j f found _ := by
    refine ⟨fun _ => ChildRel.refl un s j, fun _ hf => ?_⟩
    simp only [interpNth] at hf; cases hf
    exact ChildRel.refl un s j
  tupleCons {s x rest s1 s'} _ hel _ ih hraw fs0 adds sfs hm hsl j f found hj := by
    have hraw' : noRaw x = true ∧ noRaws rest = true := Bool.and_eq_true_iff.1 hraw
    obtain ⟨⟨_, hm1⟩, hsl1, hnext, hstep⟩ := hel hraw'.1 fs0 adds sfs hm hsl
    obtain ⟨ih1, ih2⟩ := ih hraw'.2 fs0 _ sfs hm1 hsl1 j f found hj
    rw [hnext] at ih1 ih2
    refine ⟨fun hjn => (hstep s' j [] (ih1 (Nat.lt_succ_of_lt hjn))).1 (Nat.ne_of_gt hjn), fun hjn hf => ?_⟩
    -- `j = s.next + d`: element `d` of `x :: rest` is `x` or element `d - 1` of `rest`
    obtain ⟨d, rfl⟩ := Nat.exists_eq_add_of_le hjn
    rw [Nat.add_sub_cancel_left] at hf
    cases d with
    | zero =>
      simp only [interpNth] at hf
      obtain ⟨lv, hlv, hf⟩ := (bind_ok _ _ _).1 hf
      cases hf
      exact (hstep s' _ [] (ih1 (Nat.lt_succ_self _))).2 f lv rfl hj hlv
    | succ d =>
      simp only [interpNth] at hf
      have e : s.next + (d + 1) - (s.next + 1) = d := by omega
      rw [e] at ih2
      exact (hstep s' _ found (ih2 (by omega) hf)).1 (by omega)
  tupleExtra {s x rest s'} hge _ ih hraw fs0 adds sfs hm hsl j f found hj := by
    have hraw' : noRaw x = true ∧ noRaws rest = true := Bool.and_eq_true_iff.1 hraw
    have hjlt : j < s.fields.length := by rw [← hsl.length]; exact (List.getElem?_eq_some_iff.1 hj).1
    exact ⟨(ih hraw'.2 fs0 adds sfs hm hsl j f found hj).1, fun hle => absurd hjlt (by omega)⟩
  fieldsNil {s} _ fs0 adds sfs _ _ j f found _ hf := by
    simp only [interpByName] at hf; cases hf
    exact ChildRel.refl un s j
  fieldsCons {s key al x rest idx cached' s1 s'} heq hel _ ih hraw fs0 adds sfs hm hsl j f found hj hf := by
    have hraw' : noRaw x = true ∧ noRawf rest = true := Bool.and_eq_true_iff.1 hraw
    have hls := SaModel.Props.C11Front.lookup_sound s.fields.names s.cached s.next (key, al) hm.nodup hm.cache
    rw [heq] at hls
    obtain ⟨⟨_, hm1⟩, hsl1, _, hstep⟩ := hel hraw'.1 fs0 adds sfs (hm.cached cached' hls.2) hsl
    simp only [interpByName, key_at hm.nodup hls.1.symm (names_at hsl hj)] at hf
    obtain ⟨vs, hvs, hf⟩ := (bind_ok _ _ _).1 hf
    obtain ⟨hne, heq'⟩ := hstep s' j vs (ih hraw'.2 fs0 _ sfs hm1 hsl1 j f vs hj hvs)
    exact ChildRel.of_eq rfl rfl (ChildRel.entry hne (fun lv hij => heq' f lv hij hj) hf)
  fieldsUnknown {s key al x rest cached' s'} heq _ ih hraw fs0 adds sfs hm hsl j f found hj hf := by
    have hraw' : noRaw x = true ∧ noRawf rest = true := Bool.and_eq_true_iff.1 hraw
    have hls := SaModel.Props.C11Front.lookup_sound s.fields.names s.cached s.next (key, al) hm.nodup hm.cache
    rw [heq] at hls
    rw [interpByName_cons_ne (key_none hm.nodup hls.1.symm (names_at hsl hj))] at hf
    exact ChildRel.of_eq rfl rfl (ih hraw'.2 fs0 adds sfs (hm.cached cached' hls.2) hsl j f _ hj hf)
  entriesNil {s} _ fs0 adds sfs _ _ j f found _ hf := by
    simp only [interpByKey] at hf; cases hf
    exact ChildRel.refl un s j
  entriesCons {s k x rest key idx s1 s'} hkey hidx hel _ ih hraw fs0 adds sfs hm hsl j f found hj hf := by
    have hraw' : (noRaw k = true ∧ noRaw x = true) ∧ noRawe rest = true := by simpa [noRawe] using hraw
    obtain ⟨⟨_, hm1⟩, hsl1, _, hstep⟩ := hel hraw'.1.2 fs0 adds sfs hm hsl
    simp only [interpByKey, keyOf_of_keyStr hkey, key_at hm.nodup hidx (names_at hsl hj)] at hf
    obtain ⟨vs, hvs, hf⟩ := (bind_ok _ _ _).1 hf
    obtain ⟨hne, heq⟩ := hstep s' j vs
      (ChildRel.of_eq rfl rfl (ih hraw'.2 fs0 _ sfs (hm1.next UNKNOWN_KEY) hsl1 j f vs hj hvs))
    exact ChildRel.entry hne (fun lv hij => heq f lv hij hj) hf
  entriesUnknown {s k x rest key s'} hkey hnone _ ih hraw fs0 adds sfs hm hsl j f found hj hf := by
    have hraw' : (noRaw k = true ∧ noRaw x = true) ∧ noRawe rest = true := by simpa [noRawe] using hraw
    rw [interpByKey_cons_ne (by rw [← keyOf_eq, keyOf_of_keyStr hkey]; exact key_none hm.nodup hnone (names_at hsl hj))] at hf
    exact ChildRel.of_eq rfl rfl (ih hraw'.2 fs0 adds sfs (hm.next UNKNOWN_KEY) hsl j f _ hj hf)
  opsNil := trivial
  opsKey _ _ _ := trivial
  opsValue _ _ _ _ := trivial
  opsValueUnkeyed _ _ _ := trivial
  mapEntriesNil _ kdt kn kmd vdt vn vmd ents _ _ _ _ _ _ hi := by
    simp only [interpEntries] at hi; cases hi
    exact ⟨rfl, rfl, fun base l ho => by simpa using ho⟩
  mapEntriesCons {offs ks vs k x rest o' ks' vs' r} h1 h2 ihk h3 ihv _ ih hraw kdt kn kmd vdt vn vmd ents hk hv hsk hsv
      hshk hshv hi := by
    have hraw' : (noRaw k = true ∧ noRaw x = true) ∧ noRawe rest = true := by simpa [noRawe] using hraw
    simp only [interpEntries] at hi
    obtain ⟨kv, hkv, hi⟩ := (bind_ok _ _ _).1 hi
    obtain ⟨vv, hvv, hi⟩ := (bind_ok _ _ _).1 hi
    obtain ⟨ents', hents', hi⟩ := (bind_ok _ _ _).1 hi
    cases hi
    have hxk := ihk hraw'.1.1 kdt kn kmd kv hk hsk hshk hkv
    have hxv := ihv hraw'.1.2 vdt vn vmd vv hv hsv hshv hvv
    obtain ⟨hk', hsk', hshk'⟩ := push_keeps hk hsk hshk h2
    obtain ⟨hv', hsv', hshv'⟩ := push_keeps hv hsv hshv h3
    obtain ⟨ih1, ih2, ih3⟩ := ih hraw'.2 kdt kn kmd vdt vn vmd ents' hk' hv' hsk' hsv' hshk' hshv' hents'
    exact ⟨by simp only [LEntries.ofList, pushLK, hxk]; exact ih1, by simp only [LEntries.ofList, pushLW, hxv]; exact ih2,
      offs_step h1 ih3⟩
  mapOpsNil := trivial
  mapOpsKey _ _ _ _ _ := trivial
  mapOpsValue _ _ _ _ := trivial

theorem push_phys (ext : Ext) (un : Bytes → String) (hun : ∀ s, un (strBytes s) = s) :
    ∀ (x : SVal) (b b' : B) (dt : DataType) (n : Bool) (md : Metadata) (lv : LVal),
    noRaw x = true → WFH b → NoDictKey b → Shape b dt n md → push ext b x = .ok b' → interpDT ext dt n md x = .ok lv →
    pushL un lv (erase b) = erase b' :=
  fun x b b' dt n md lv hraw hwf hs hsh h hi => (phys_cases ext un hun).push x b b' h hraw dt n md lv hwf hs hsh hi

theorem pushElems_phys (ext : Ext) (un : Bytes → String) (hun : ∀ s, un (strBytes s) = s) : ∀ (xs : SVals), noRaws xs = true →
    ElemsPhys ext un xs (fun large el offs => pushElems ext large el offs xs) :=
  fun xs hraw large el offs r cdt cn cmd ls hwf hs hsh h hi =>
    (phys_cases ext un hun).elems xs large el offs r h hraw cdt cn cmd ls hwf hs hsh hi

theorem pushCountElems_phys (ext : Ext) (un : Bytes → String) (hun : ∀ s, un (strBytes s) = s) : ∀ (xs : SVals), noRaws xs = true →
    CountPhys ext un xs (fun el c => pushCountElems ext el c xs) :=
  fun xs hraw el c r cdt cn cmd ls hwf hs hsh h hi =>
    (phys_cases ext un hun).count xs el c r h hraw cdt cn cmd ls hwf hs hsh hi

/-- positional records: field `j ≥ next` receives element `j - next`, fields before `next` are not touched -/
def TuplePhys (ext : Ext) (un : Bytes → String) (xs : SVals) : Prop :=
  ∀ (fs0 : BL) (s s' : SS) (adds : List (List LVal)) (sfs : Fields), MidH fs0 s adds → ShapeL s.fields sfs →
    pushTupleElems ext s xs = .ok s' →
    ∀ j f found, sfs.toList[j]? = some f → (j < s.next → ChildRel un s s' j []) ∧
      (s.next ≤ j → interpNth ext f.dataType f.nullable f.metadata (j - s.next) xs = .ok found → ChildRel un s s' j found)

theorem pushTupleElems_phys (ext : Ext) (un : Bytes → String) (hun : ∀ s, un (strBytes s) = s) :
    ∀ (xs : SVals), noRaws xs = true → TuplePhys ext un xs :=
  fun xs hraw fs0 s s' adds sfs hm hsl h => (phys_cases ext un hun).tuple xs s s' h hraw fs0 adds sfs hm hsl

/-- records by field name: child `j` receives the values of the entries named like field `j` -/
def FieldsPhys (ext : Ext) (un : Bytes → String) (fields : SFields) : Prop :=
  ∀ (fs0 : BL) (s s' : SS) (adds : List (List LVal)) (sfs : Fields), MidH fs0 s adds → ShapeL s.fields sfs →
    pushFields ext s fields = .ok s' →
    ∀ j f found, sfs.toList[j]? = some f →
      interpByName ext f.name f.dataType f.nullable f.metadata fields = .ok found → ChildRel un s s' j found

theorem pushFields_phys (ext : Ext) (un : Bytes → String) (hun : ∀ s, un (strBytes s) = s) :
    ∀ (fields : SFields), noRawf fields = true → FieldsPhys ext un fields :=
  fun fields hraw fs0 s s' adds sfs hm hsl h => (phys_cases ext un hun).fields fields s s' h hraw fs0 adds sfs hm hsl

theorem pushStructEntries_phys (ext : Ext) (un : Bytes → String) (hun : ∀ s, un (strBytes s) = s) :
    ∀ (es : SEntries) (fs0 : BL) (s s' : SS) (adds : List (List LVal)) (sfs : Fields), noRawe es = true →
    MidH fs0 s adds → ShapeL s.fields sfs → pushStructEntries ext s es = .ok s' →
    ∀ j f found, sfs.toList[j]? = some f →
      interpByKey ext f.name f.dataType f.nullable f.metadata es = .ok found → ChildRel un s s' j found :=
  fun es fs0 s s' adds sfs hraw hm hsl h => (phys_cases ext un hun).structEntries es s s' h hraw fs0 adds sfs hm hsl

theorem pushMapEntries_phys (ext : Ext) (un : Bytes → String) (hun : ∀ s, un (strBytes s) = s) :
    ∀ (es : SEntries) (offs : List Int) (ks vs : B) (r : List Int × B × B)
    (kdt : DataType) (kn : Bool) (kmd : Metadata) (vdt : DataType) (vn : Bool) (vmd : Metadata) (ents : List (LVal × LVal)),
    noRawe es = true → WFH ks → WFH vs → NoDictKey ks → NoDictKey vs → Shape ks kdt kn kmd → Shape vs vdt vn vmd →
    pushMapEntries ext offs ks vs es = .ok r → interpEntries ext kdt kn kmd vdt vn vmd es = .ok ents →
    pushLK un (LEntries.ofList ents) (erase ks) = erase r.2.1 ∧ pushLW un (LEntries.ofList ents) (erase vs) = erase r.2.2 ∧
      ∀ base l, offs = base ++ [l] → r.1 = base ++ [l + (ents.length : Int)] :=
  fun es offs ks vs r kdt kn kmd vdt vn vmd ents hraw hk hv hsk hsv hshk hshv h hi =>
    (phys_cases ext un hun).mapEntries es offs ks vs r h hraw kdt kn kmd vdt vn vmd ents hk hv hsk hsv hshk hshv hi

end SaModel.Build
