import SaModel.Read.Slice
import SaModel.Spec.DecodeAt
/-
C12 helpers: the bit lemma, windows of lists, the well-formedness predicate `sliceable`, the length of a slice.
-/
namespace SaModel.Lemmas.C12
open SaModel SaModel.Read SaModel.Spec

/-- the key bit lemma: a bitmap whose bit offset was advanced by `o`, read at `i`, is the original bitmap read at
`o + i` — windows may start anywhere inside a byte -/
theorem getBit_shift (b : Bits) (o i : Nat) : getBit (shiftBits b o) i = getBit b (o + i) := by
  simp only [getBit, shiftBits]
  have : i + (b.offset + o) = o + i + b.offset := by omega
  rw [this]

theorem isValid_shift (v : Option Bits) (o i : Nat) : isValid (shiftV v o) i = isValid v (o + i) := by
  cases v
  · rfl
  · simp only [shiftV, isValid, getBit_shift]

theorem withValidity_shift (v : Option Bits) (o i : Nat) (p : R LVal) :
    withValidity (shiftV v o) i p = withValidity v (o + i) p := by
  simp only [withValidity, isValid_shift]

theorem shiftBits_shiftBits (b : Bits) (o1 o2 : Nat) : shiftBits (shiftBits b o1) o2 = shiftBits b (o1 + o2) := by
  simp only [shiftBits, Nat.add_assoc]

theorem shiftV_shiftV (v : Option Bits) (o1 o2 : Nat) : shiftV (shiftV v o1) o2 = shiftV v (o1 + o2) := by
  cases v
  · rfl
  · simp only [shiftV, shiftBits_shiftBits]

/-! ### windows of lists -/

theorem window_length {α} (xs : List α) (o n : Nat) (h : o + n ≤ xs.length) : (window xs o n).length = n := by
  simp only [window, List.length_take, List.length_drop]; omega

theorem window_getD {α} (xs : List α) (o n i : Nat) (d : α) (hi : i < n) : (window xs o n).getD i d = xs.getD (o + i) d := by
  simp only [window, List.getD_eq_getElem?_getD, List.getElem?_take, hi, if_true, List.getElem?_drop]

theorem drop_take_window (data : Bytes) (a b c d : Nat) (h : c + d ≤ b) :
    ((window data a b).drop c).take d = (data.drop (a + c)).take d := by
  simp only [window]
  rw [List.drop_take, List.drop_drop, List.take_take]
  congr 1
  omega

/-- a window of a window is a window (no bound on the list itself is needed) -/
theorem window_window {α} (xs : List α) (o1 l1 o2 l2 : Nat) (h : o2 + l2 ≤ l1) :
    window (window xs o1 l1) o2 l2 = window xs (o1 + o2) l2 := by
  simp only [window]
  rw [List.drop_take, List.drop_drop, List.take_take]
  congr 1
  omega

/-- `(o, l)` inside `len` rows of `n` entries each is `(o·n, l·n)` inside the child -/
theorem mul_window_le {o l len n L : Nat} (h : o + l ≤ len) (hL : len * n ≤ L) : o * n + l * n ≤ L := by
  have := Nat.mul_le_mul_right n h
  rw [Nat.add_mul] at this
  omega

/-! `sliceable`: the well-formedness `slice` relies on — children that are sliced ALONG WITH the parent are at least
as long as the parent says (Arrow validity): Struct children ≥ len, FixedSizeList child ≥ len·n, sparse-Union children
≥ number of type ids; recursively through these and through Dictionary keys.  Children that `slice` does not touch
(List / LargeList / Map / dense Union children, Dictionary values) carry no condition.  Decidable (a `Bool`). -/
mutual
def sliceable : Arr → Bool
  | .struct len _ fs => sliceableFields fs len
  | .fixedSizeList len _ n _ el => decide (len * n.toNat ≤ lenOf el) && sliceable el
  | .dictionary ks _ => sliceable ks
  | .union types offs fs =>
    match offs with
    | some _ => true
    | none => sliceableUFields fs types.length
  | _ => true
def sliceableFields : ArrFields → Nat → Bool
  | .nil, _ => true
  | .cons _ a r, len => decide (len ≤ lenOf a) && sliceable a && sliceableFields r len
def sliceableUFields : ArrUFields → Nat → Bool
  | .nil, _ => true
  | .cons _ _ a r, len => decide (len ≤ lenOf a) && sliceable a && sliceableUFields r len
end

/-- `len + 1` offsets windowed to `l + 1` entries are the offsets of `l` rows (also when there are no offsets at all) -/
theorem window_offs_length {α} (offs : List α) (o l : Nat) (h : o + l ≤ offs.length - 1) :
    (window offs o (l + 1)).length - 1 = l := by
  simp only [window, List.length_take, List.length_drop]; omega

theorem lenOf_slice : ∀ (a : Arr) (o l : Nat), o + l ≤ lenOf a → lenOf (sliceView a o l) = l
  | .null _, _, _, _ | .boolean _ _ _, _, _, _ | .struct _ _ _, _, _, _ | .fixedSizeList _ _ _ _ _, _, _, _ => rfl
  | .prim _ _ vals, o, l, h | .time _ _ _ vals, o, l, h | .timestamp _ _ _ vals, o, l, h | .decimal128 _ _ _ vals, o, l, h
  | .bytesView _ _ vals _, o, l, h => window_length vals o l h
  | .bytes _ _ offs _, o, l, h | .list _ _ offs _ _, o, l, h | .map _ offs _ _ _, o, l, h => window_offs_length offs o l h
  | .fixedSizeBinary n _ data, o, l, h => by
    simp only [sliceView, lenOf] at h ⊢
    by_cases hn : n ≤ 0
    · simp only [hn, if_true] at h ⊢; omega
    · simp only [hn, if_false] at h ⊢
      rw [window_length _ _ _ (mul_window_le h (Nat.div_mul_le_self data.length n.toNat))]
      exact Nat.mul_div_cancel l (by omega)
  | .dictionary ks _, o, l, h => lenOf_slice ks o l h
  | .union types offs _, o, l, h => by
    cases offs <;> exact window_length types o l h

/-! ### ranges of a child: `seqAt` / `rangeAt` only look at the slots they name -/

theorem seqAt_congr (f g : Nat → R LVal) : ∀ (n s t : Nat), (∀ j, j < n → f (s + j) = g (t + j)) →
    seqAt f s n = seqAt g t n
  | 0, _, _, _ => by simp only [seqAt]
  | n + 1, s, t, h => by
    have h0 := h 0 (by omega)
    simp only [Nat.add_zero] at h0
    have ih := seqAt_congr f g n (s + 1) (t + 1) (fun j hj => by
      have := h (j + 1) (by omega)
      rw [show s + 1 + j = s + (j + 1) by omega, show t + 1 + j = t + (j + 1) by omega]
      exact this)
    simp only [seqAt, h0, ih]

theorem rangeAt_natCast (f : Nat → R LVal) (len s e : Nat) (h1 : s ≤ e) (h2 : e ≤ len) :
    rangeAt f len (s : Int) (e : Int) = seqAt f s (e - s) := by
  unfold rangeAt
  have : (0 : Int) ≤ s ∧ (s : Int) ≤ e ∧ (e : Int) ≤ len := by omega
  simp only [this, and_self, if_true, Int.toNat_natCast]

end SaModel.Lemmas.C12
