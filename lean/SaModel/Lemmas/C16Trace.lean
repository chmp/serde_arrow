import SaModel.Trace.FromType
import SaModel.Lemmas.C06Ensure
import SaModel.Lemmas.C16Basic
import SaModel.Lemmas.Yields
/-
C16, tracing from samples: `absorb c o t x` (= `x.serialize(TracerSerializer(&mut t))`) never unwinds, for EVERY
tracer state `t` (no invariant) and every serde value `x` whose variant indices are below the allocation bound of
the executable model (finding #29: the real `ensure_variant` resizes `variants` up to the index; the model refuses
indices ≥ `VARIANT_ALLOC_LIMIT` instead of building the list).  The `unreachable` arms after the `ensure_*` calls are
not taken (`ensure_*_yields`), and the `variants[idx]` / `fields[idx]` / `field_tracers[idx]` slots are shown to exist.
-/
namespace SaModel.Lemmas.C16
open SaModel SaModel.Trace

theorem bind_eq_ok {α β} {r : R α} {f : α → R β} {v : β} (h : (r >>= f) = .ok v) : ∃ a, r = .ok a ∧ f a = .ok v :=
  R.bind_ok_inv h

/-! ### `ensure_*`: a node of the wanted kind, or an error value -/

/-- the shape the container `ensure_*` methods share (`C06.ensure_shape`), for every outcome -/
theorem ensure_shape_yields {t fresh : Tracer} {keep : R Tracer} {Q : Tracer → Prop} (hf : Q fresh) (hk : Yields Q keep) :
    Yields Q (do t.enforce_depth_limit; if t.is_unknown_or_null then .ok fresh else keep) := by
  unfold Tracer.enforce_depth_limit
  split
  · exact .fail _
  · show Yields Q (if t.is_unknown_or_null then .ok fresh else keep)
    split
    · exact .ok hf
    · exact hk

theorem ensure_list_yields (t : Tracer) : Yields (fun t' => ∃ n p nl i, t' = .list n p nl i) t.ensure_list :=
  ensure_shape_yields ⟨_, _, _, _, rfl⟩ (by cases t <;> first | exact .fail _ | exact .ok ⟨_, _, _, _, rfl⟩)

theorem ensure_map_yields (t : Tracer) : Yields (fun t' => ∃ n p nl k v, t' = .map n p nl k v) t.ensure_map :=
  ensure_shape_yields ⟨_, _, _, _, _, rfl⟩ (by cases t <;> first | exact .fail _ | exact .ok ⟨_, _, _, _, _, rfl⟩)

theorem ensure_union_yields (t : Tracer) (vs : List String) :
    Yields (fun t' => ∃ n p nl v, t' = .union n p nl v) (t.ensure_union vs) :=
  ensure_shape_yields ⟨_, _, _, _, rfl⟩ (by cases t <;> first | exact .fail _ | exact .ok ⟨_, _, _, _, rfl⟩)

theorem ensure_tuple_yields (c : Code) (t : Tracer) (k : Nat) :
    Yields (fun t' => ∃ n p nl ts, t' = .tuple n p nl ts) (t.ensure_tuple c k) :=
  ensure_shape_yields ⟨_, _, _, _, rfl⟩ (by
    cases t <;> first | exact .fail _ | (dsimp only; split <;> exact .ok ⟨_, _, _, _, rfl⟩))

theorem ensure_struct_yields (c : Code) (t : Tracer) (fields : List String) (m : StructMode) :
    Yields (fun t' => ∃ n p nl fs m' s, t' = .struct n p nl fs m' s) (t.ensure_struct c fields m) :=
  ensure_shape_yields ⟨_, _, _, _, _, _, rfl⟩ (by
    cases t <;> first | exact .fail _ | (dsimp only; split <;> exact .ok ⟨_, _, _, _, _, _, rfl⟩))

theorem ite_np {α} {c : Prop} [Decidable c] {a b : R α} (ha : a.isPanic = false) (hb : b.isPanic = false) :
    (if c then a else b).isPanic = false := by
  split <;> assumption

theorem coerce_primitive_type_np (o : Options) (a : DataType) (n : Bool) (s : Option Strategy) (b : DataType)
    (s' : Option Strategy) : (coerce_primitive_type o a n s b s').isPanic = false := by
  unfold coerce_primitive_type
  repeat (refine ite_np rfl ?_)
  rfl

theorem ensure_primitive_with_strategy_np (o : Options) (t : Tracer) (ty : DataType) (st : Option Strategy) :
    (t.ensure_primitive_with_strategy o ty st).isPanic = false := by
  unfold Tracer.ensure_primitive_with_strategy
  split
  · rfl
  · exact bind_no_panic _ _ (coerce_primitive_type_np _ _ _ _ _ _) (fun _ => rfl)
  · split <;> rfl

theorem ensure_primitive_np (o : Options) (t : Tracer) (ty : DataType) : (t.ensure_primitive o ty).isPanic = false :=
  ensure_primitive_with_strategy_np o t ty none

theorem ensure_number_np (o : Options) (t : Tracer) (ty : DataType) : (Tracer.ensure_number o t ty).isPanic = false :=
  ensure_primitive_with_strategy_np o t ty none

/-! ### the slots the serializers index exist (index facts of Lemmas/C06Lists.lean) -/

theorem ensure_variant_np (path : String) (vs : Variants) (variant : String) (idx : Nat) (h : idx < VARIANT_ALLOC_LIMIT) :
    (ensure_variant path vs variant idx).isPanic = false := by
  unfold ensure_variant
  rw [if_neg (by omega)]
  simp only []
  split
  · split <;> rfl
  · rfl
  · rename_i hnone
    have := (C06.Variants.get?_none_iff _ _).mp hnone
    rw [C06.Variants.padNone_length] at this
    omega

theorem ensure_union_variant_np (t : Tracer) (vn : String) (idx : Nat) (h : idx < VARIANT_ALLOC_LIMIT) :
    (ensure_union_variant t vn idx).isPanic = false := by
  unfold ensure_union_variant
  refine (ensure_union_yields t []).bind ?_
  rintro _ ⟨n, p, nl, vs, rfl⟩
  refine bind_np (ensure_variant_np p vs vn idx h) (fun vs' hv => ?_)
  obtain ⟨t'', hget⟩ := (C06.ensure_variant_ok hv).2.1
  simp only [hget]
  rfl

theorem field_tracer_grow_get (path : String) (idx : Nat) (ts : Tracers) :
    ∃ t, (field_tracer_grow path idx ts).get? idx = some t :=
  C06.Tracers.get?_of_lt (by rw [C06.field_tracer_grow_eq, C06.growN_length]; omega)

theorem ensure_field_get (path : String) (seen : Nat) (fs : TFields) (key : String) :
    ∃ t, (ensure_field path seen fs key).2.get? (ensure_field path seen fs key).1 = some t :=
  C06.TFields.get?_of_lt (C06.ensure_field_lt path seen fs key)

/-! ### variant indices below the allocation bound of the executable model -/

mutual
def idxOK : SVal → Bool
  | .some v => idxOK v
  | .newtypeStruct _ v => idxOK v
  | .seq xs => idxOKs xs
  | .tuple xs => idxOKs xs
  | .tupleStruct _ xs => idxOKs xs
  | .record _ fs => idxOKf fs
  | .map es => idxOKe es
  | .mapRaw ops => idxOKo ops
  | .unitVariant _ i _ => decide (i < VARIANT_ALLOC_LIMIT)
  | .newtypeVariant _ i _ v => decide (i < VARIANT_ALLOC_LIMIT) && idxOK v
  | .tupleVariant _ i _ xs => decide (i < VARIANT_ALLOC_LIMIT) && idxOKs xs
  | .structVariant _ i _ fs => decide (i < VARIANT_ALLOC_LIMIT) && idxOKf fs
  | _ => true
def idxOKs : SVals → Bool
  | .nil => true
  | .cons v r => idxOK v && idxOKs r
def idxOKf : SFields → Bool
  | .nil => true
  | .cons _ _ v r => idxOK v && idxOKf r
def idxOKe : SEntries → Bool
  | .nil => true
  | .cons k v r => idxOK k && idxOK v && idxOKe r
def idxOKo : SMapOps → Bool
  | .nil => true
  | .key k r => idxOK k && idxOKo r
  | .value v r => idxOK v && idxOKo r
end

theorem serializeToString_np (x : SVal) : (serializeToString x).isPanic = false := by
  unfold serializeToString; split <;> rfl

mutual
theorem absorb_np (c : Code) (o : Options) : ∀ (x : SVal) (t : Tracer), idxOK x = true → (absorb c o t x).isPanic = false
  | .bool _, t, _ => by simp only [absorb]; exact ensure_primitive_np _ _ _
  | .int _ _, t, _ => by simp only [absorb]; exact ensure_number_np _ _ _
  | .f32 _, t, _ => by simp only [absorb]; exact ensure_number_np _ _ _
  | .f64 _, t, _ => by simp only [absorb]; exact ensure_number_np _ _ _
  | .char _, t, _ => by simp only [absorb]; exact ensure_primitive_np _ _ _
  | .unit, t, _ => by simp only [absorb]; exact ensure_primitive_np _ _ _
  | .str _, t, _ => by simp only [absorb]; exact ensure_primitive_with_strategy_np _ _ _ _
  | .bytes _, t, _ => by simp only [absorb]; exact ensure_primitive_np _ _ _
  | .none, t, _ => by simp only [absorb]; rfl
  | .some v, t, h => by simp only [absorb]; exact absorb_np c o v _ (by simpa [idxOK] using h)
  | .unitStruct _, t, _ => by simp only [absorb]; exact ensure_primitive_np _ _ _
  | .newtypeStruct _ v, t, h => by simp only [absorb]; exact absorb_np c o v _ (by simpa [idxOK] using h)
  | .map es, t, h => by
    have h' : idxOKe es = true := by simpa [idxOK] using h
    simp only [absorb]
    split
    · refine (ensure_struct_yields c t [] .map).bind ?_
      rintro _ ⟨n, p, nl, fs, m, s, rfl⟩
      exact bind_no_panic _ _ (absorbEntriesAsStruct_np c o p s es fs h') (fun _ => rfl)
    · refine (ensure_map_yields t).bind ?_
      rintro _ ⟨n, p, nl, k, v, rfl⟩
      exact bind_no_panic _ _ (absorbEntriesAsMap_np c o es k v h') (fun _ => rfl)
  | .mapRaw ops, t, h => by
    have h' : idxOKo ops = true := by simpa [idxOK] using h
    simp only [absorb]
    split
    · refine (ensure_struct_yields c t [] .map).bind ?_
      rintro _ ⟨n, p, nl, fs, m, s, rfl⟩
      exact bind_no_panic _ _ (absorbOpsAsStruct_np c o p s ops fs none h') (fun _ => rfl)
    · refine (ensure_map_yields t).bind ?_
      rintro _ ⟨n, p, nl, k, v, rfl⟩
      exact bind_no_panic _ _ (absorbOpsAsMap_np c o ops k v h') (fun _ => rfl)
  | .seq items, t, h => by
    have h' : idxOKs items = true := by simpa [idxOK] using h
    simp only [absorb]
    refine (ensure_list_yields t).bind ?_
    rintro _ ⟨n, p, nl, i, rfl⟩
    exact bind_no_panic _ _ (absorbSeq_np c o items i h') (fun _ => rfl)
  | .tuple items, t, h => by
    have h' : idxOKs items = true := by simpa [idxOK] using h
    simp only [absorb]
    refine (ensure_tuple_yields c t _).bind ?_
    rintro _ ⟨n, p, nl, ts, rfl⟩
    exact bind_no_panic _ _ (absorbTuple_np c o p items ts 0 h') (fun _ => rfl)
  | .tupleStruct _ items, t, h => by
    have h' : idxOKs items = true := by simpa [idxOK] using h
    simp only [absorb]
    refine (ensure_tuple_yields c t _).bind ?_
    rintro _ ⟨n, p, nl, ts, rfl⟩
    exact bind_no_panic _ _ (absorbTuple_np c o p items ts 0 h') (fun _ => rfl)
  | .record _ fields, t, h => by
    have h' : idxOKf fields = true := by simpa [idxOK] using h
    simp only [absorb]
    refine (ensure_struct_yields c t [] .struct).bind ?_
    rintro _ ⟨n, p, nl, fs, m, s, rfl⟩
    exact bind_no_panic _ _ (absorbFields_np c o p s fields fs h') (fun _ => rfl)
  | .unitVariant _ idx vn, t, h => by
    have h' : idx < VARIANT_ALLOC_LIMIT := by simpa [idxOK] using h
    simp only [absorb]
    refine bind_no_panic _ _ (ensure_union_variant_np t vn idx h') (fun r => ?_)
    obtain ⟨n, p, nl, vs, vt⟩ := r
    exact bind_no_panic _ _ (ensure_primitive_np _ _ _) (fun _ => rfl)
  | .newtypeVariant _ idx vn v, t, h => by
    have h' : idx < VARIANT_ALLOC_LIMIT ∧ idxOK v = true := by simpa [idxOK] using h
    simp only [absorb]
    refine bind_no_panic _ _ (ensure_union_variant_np t vn idx h'.1) (fun r => ?_)
    obtain ⟨n, p, nl, vs, vt⟩ := r
    exact bind_no_panic _ _ (absorb_np c o v vt h'.2) (fun _ => rfl)
  | .tupleVariant _ idx vn items, t, h => by
    have h' : idx < VARIANT_ALLOC_LIMIT ∧ idxOKs items = true := by simpa [idxOK] using h
    simp only [absorb]
    refine bind_no_panic _ _ (ensure_union_variant_np t vn idx h'.1) (fun r => ?_)
    obtain ⟨n, p, nl, vs, vt⟩ := r
    refine (ensure_tuple_yields c vt _).bind ?_
    rintro _ ⟨n', p', nl', ts, rfl⟩
    exact bind_no_panic _ _ (absorbTuple_np c o p' items ts 0 h'.2) (fun _ => rfl)
  | .structVariant _ idx vn fields, t, h => by
    have h' : idx < VARIANT_ALLOC_LIMIT ∧ idxOKf fields = true := by simpa [idxOK] using h
    simp only [absorb]
    refine bind_no_panic _ _ (ensure_union_variant_np t vn idx h'.1) (fun r => ?_)
    obtain ⟨n, p, nl, vs, vt⟩ := r
    refine (ensure_struct_yields c vt [] .struct).bind ?_
    rintro _ ⟨n', p', nl', fs, m, s, rfl⟩
    exact bind_no_panic _ _ (absorbFields_np c o p' s fields fs h'.2) (fun _ => rfl)

theorem absorbSeq_np (c : Code) (o : Options) : ∀ (xs : SVals) (i : Tracer), idxOKs xs = true →
    (absorbSeq c o i xs).isPanic = false
  | .nil, _, _ => by simp only [absorbSeq]; rfl
  | .cons v r, i, h => by
    have h' : idxOK v = true ∧ idxOKs r = true := by simpa [idxOKs] using h
    simp only [absorbSeq]
    exact bind_no_panic _ _ (absorb_np c o v i h'.1) (fun i' => absorbSeq_np c o r i' h'.2)

theorem absorbTuple_np (c : Code) (o : Options) (path : String) : ∀ (xs : SVals) (ts : Tracers) (pos : Nat),
    idxOKs xs = true → (absorbTuple c o path ts pos xs).isPanic = false
  | .nil, _, _, _ => by simp only [absorbTuple]; rfl
  | .cons v r, ts, pos, h => by
    have h' : idxOK v = true ∧ idxOKs r = true := by simpa [idxOKs] using h
    simp only [absorbTuple]
    obtain ⟨ft, hft⟩ := field_tracer_grow_get path pos ts
    simp only [hft]
    exact bind_no_panic _ _ (absorb_np c o v ft h'.1) (fun ft' => absorbTuple_np c o path r _ _ h'.2)

theorem absorbFields_np (c : Code) (o : Options) (path : String) (seen : Nat) : ∀ (xs : SFields) (fs : TFields),
    idxOKf xs = true → (absorbFields c o path seen fs xs).isPanic = false
  | .nil, _, _ => by simp only [absorbFields]; rfl
  | .cons key _ v r, fs, h => by
    have h' : idxOK v = true ∧ idxOKf r = true := by simpa [idxOKf] using h
    simp only [absorbFields]
    obtain ⟨ft, hft⟩ := ensure_field_get path seen fs key
    simp only [hft]
    exact bind_no_panic _ _ (absorb_np c o v ft h'.1) (fun ft' => absorbFields_np c o path seen r _ h'.2)

theorem absorbEntriesAsStruct_np (c : Code) (o : Options) (path : String) (seen : Nat) : ∀ (es : SEntries) (fs : TFields),
    idxOKe es = true → (absorbEntriesAsStruct c o path seen fs es).isPanic = false
  | .nil, _, _ => by simp only [absorbEntriesAsStruct]; rfl
  | .cons k v r, fs, h => by
    have h' : (idxOK k = true ∧ idxOK v = true) ∧ idxOKe r = true := by simpa [idxOKe] using h
    simp only [absorbEntriesAsStruct]
    refine bind_no_panic _ _ (serializeToString_np k) (fun key => ?_)
    obtain ⟨ft, hft⟩ := ensure_field_get path seen fs key
    simp only [hft]
    exact bind_no_panic _ _ (absorb_np c o v ft h'.1.2) (fun ft' => absorbEntriesAsStruct_np c o path seen r _ h'.2)

theorem absorbEntriesAsMap_np (c : Code) (o : Options) : ∀ (es : SEntries) (kt vt : Tracer),
    idxOKe es = true → (absorbEntriesAsMap c o kt vt es).isPanic = false
  | .nil, _, _, _ => by simp only [absorbEntriesAsMap]; rfl
  | .cons k v r, kt, vt, h => by
    have h' : (idxOK k = true ∧ idxOK v = true) ∧ idxOKe r = true := by simpa [idxOKe] using h
    simp only [absorbEntriesAsMap]
    refine bind_no_panic _ _ (absorb_np c o k kt h'.1.1) (fun kt' => ?_)
    exact bind_no_panic _ _ (absorb_np c o v vt h'.1.2) (fun vt' => absorbEntriesAsMap_np c o r kt' vt' h'.2)

theorem absorbOpsAsStruct_np (c : Code) (o : Options) (path : String) (seen : Nat) : ∀ (ops : SMapOps) (fs : TFields)
    (next : Option String), idxOKo ops = true → (absorbOpsAsStruct c o path seen fs next ops).isPanic = false
  | .nil, _, _, _ => by simp only [absorbOpsAsStruct]; rfl
  | .key k r, fs, next, h => by
    have h' : idxOK k = true ∧ idxOKo r = true := by simpa [idxOKo] using h
    simp only [absorbOpsAsStruct]
    exact bind_no_panic _ _ (serializeToString_np k) (fun key => absorbOpsAsStruct_np c o path seen r fs _ h'.2)
  | .value v r, fs, next, h => by
    have h' : idxOK v = true ∧ idxOKo r = true := by simpa [idxOKo] using h
    simp only [absorbOpsAsStruct]
    cases next with
    | none => rfl
    | some key =>
      simp only []
      obtain ⟨ft, hft⟩ := ensure_field_get path seen fs key
      simp only [hft]
      exact bind_no_panic _ _ (absorb_np c o v ft h'.1) (fun ft' => absorbOpsAsStruct_np c o path seen r _ none h'.2)

theorem absorbOpsAsMap_np (c : Code) (o : Options) : ∀ (ops : SMapOps) (kt vt : Tracer),
    idxOKo ops = true → (absorbOpsAsMap c o kt vt ops).isPanic = false
  | .nil, _, _, _ => by simp only [absorbOpsAsMap]; rfl
  | .key k r, kt, vt, h => by
    have h' : idxOK k = true ∧ idxOKo r = true := by simpa [idxOKo] using h
    simp only [absorbOpsAsMap]
    exact bind_no_panic _ _ (absorb_np c o k kt h'.1) (fun kt' => absorbOpsAsMap_np c o r kt' vt h'.2)
  | .value v r, kt, vt, h => by
    have h' : idxOK v = true ∧ idxOKo r = true := by simpa [idxOKo] using h
    simp only [absorbOpsAsMap]
    exact bind_no_panic _ _ (absorb_np c o v vt h'.1) (fun vt' => absorbOpsAsMap_np c o r kt vt' h'.2)
end

end SaModel.Lemmas.C16
