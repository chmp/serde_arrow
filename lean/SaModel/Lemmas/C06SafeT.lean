import SaModel.Lemmas.C06SafeS
import SaModel.Lemmas.C06Readable
import SaModel.Lemmas.C01NewShape
/-
C06 (closure): C01's `Safe` for traced schemas.

* `newRoot_safe_iff`: for the root builder of ANY schema `build_builder` accepts (dictionary values Utf8 / LargeUtf8:
  `coveredF`), `Safe root0 ↔ safeFs fields` — the hypothesis of the builder theorems as a decidable predicate on the schema.
* `to_schema_safeFs`: when no option asks for dictionary-encoded strings (`string_dictionary_encoding = false`,
  `enums_without_data_as_strings = false`) every traced schema is `safeFs` — unions INCLUDED
  (`to_schema_safe`, SaModel/Lemmas/C06Side.lean, asks for a tracer without union nodes).
* With dictionary-encoded strings `safeFs` CAN fail for a traced schema: the tracer gives the Dictionary field the
  nullability of the string position, `build_builder` gives the key builder that nullability, and a NON-nullable string
  inside a struct that is `None` in some sample is exactly C01's excluded shape (`Props/C06Closure.lean`
  `safeSchema_can_fail`).  No theorem there assumes `safeSchema`.
-/
namespace SaModel.Lemmas.C06
open SaModel SaModel.Spec SaModel.Build SaModel.Trace

/-- **`Safe` of the root builder is `safeFs` of the schema** -/
theorem newRoot_safe_iff {fields : List Field} {root0 : B} (hc : fields.all coveredF = true)
    (h : newRoot fields = .ok root0) : Safe root0 ↔ safeFs (Fields.ofList fields) = true := by
  rw [safe_iff_safeDT root0 _ false [] (newRoot_shape hc h)]
  simp [safeDT]

def SafeBoth (f : Field) : Prop := safeF f = true ∧ defSafeF f = true

theorem safeU_ofList : ∀ l : List (Int × Field), (∀ p ∈ l, SafeBoth p.2) →
    safeU (UFields.ofList l) = true ∧ defSafeFirst (UFields.ofList l) = true
  | [], _ => by simp [UFields.ofList, safeU, defSafeFirst]
  | (i, f) :: r, h => by
    have h1 := h (i, f) (by simp)
    have h2 := safeU_ofList r (fun g hg => h g (by simp [hg]))
    simp only [UFields.ofList, safeU, defSafeFirst, h1.1, h2.1, Bool.and_self, true_and]
    split
    · exact h2.2
    · exact h1.2

/-- data types without children -/
def plainOrNull : DataType → Bool
  | .struct _ | .list _ | .largeList _ | .fixedSizeList _ _ | .map _ _ | .dictionary _ _ | .runEndEncoded _ _
  | .union _ _ => false
  | _ => true

theorem plainOrNull_leafTypes (o : Options) : ∀ ty ∈ leafTypes o, plainOrNull ty = true := by
  simp only [leafTypes, Options.string_type]
  cases o.string_as_large_utf8 <;> decide

theorem closed_safe (o : Options) (hd : o.string_dictionary_encoding = false)
    (he : o.enums_without_data_as_strings = false) : Closed o SafeBoth where
  null := fun n nl => by simp [SafeBoth, safeF, safeDT, defSafeF, defSafeDT]
  leaf := fun n nl ty h => by
    have := plainOrNull_leafTypes o ty (Props.C07.state_type_mem o h)
    cases ty <;> simp [plainOrNull] at this <;> simp [SafeBoth, safeF, safeDT, defSafeF, defSafeDT]
  dict := fun n nl h => by rcases h with h | h <;> simp_all
  unknownVariant := by simp [SafeBoth, unknown_variant_field, safeF, safeDT, defSafeF, defSafeDT]
  list := fun n nl item h => by simp [SafeBoth, safeF, safeDT, defSafeF, defSafeDT, h.1]
  map := fun n nl kf vf hk hv => by
    simp [SafeBoth, safeF, safeDT, defSafeF, defSafeDT, Fields.ofList, hk.1, hv.1]
  struct := fun n nl l md _ h => by
    simp [SafeBoth, safeF, safeDT, defSafeF, defSafeDT,
      Fields.all_ofList (pFs := safeFs) rfl (fun _ _ => rfl) fun f hf => (h f hf).1,
      Fields.all_ofList (pFs := defSafeFs) rfl (fun _ _ => rfl) fun f hf => (h f hf).2]
  union := fun n nl l h => by
    have := safeU_ofList l h
    simp [SafeBoth, safeF, safeDT, defSafeF, defSafeDT, this.1, this.2]

/-- **every schema traced without dictionary-encoded strings is `safeFs`** (unions included) -/
theorem to_schema_safeFs (o : Options) (h0 : o.overwrites = []) (hd : o.string_dictionary_encoding = false)
    (he : o.enums_without_data_as_strings = false) (t : Tracer) (hw : WF o t) (fields : List Field)
    (h : t.to_schema o = .ok fields) : safeFs (Fields.ofList fields) = true := by
  obtain ⟨n, children, md, hr, rfl⟩ := to_schema_ok o t fields h
  have hs := (to_field_closed o h0 (closed_safe o hd he) t _ hw hr).1
  rw [Roundtrip.ofList_toList']
  simp only [safeF, safeDT, Bool.and_eq_true] at hs
  exact hs.1

end SaModel.Lemmas.C06
