import SaModel.Lemmas.C02Any
import SaModel.Lemmas.C02PresentBridge
/-
C02 / C05, typed reads: scalar targets (`bool`, integers, floats, `char`, `String`, `&str`, `&[u8]`, `ByteBuf`,
`()`).  `deserialize_<m>` + the visitor HONOUR the value-level specification `castScalar` at every slot whose Arrow reading
is defined (`scalar_honours`): they return the value it demands (`scalar_sound`, C02) and fail where it says the read must
fail (`scalar_rej`, C05: null into a non-Option target; integer out of the target's range; not a char) — except for known
finding #24 (integer column read as bool), excluded by `intAsBool`.

Per array kind: the `…_get` lemma says what the column getter returns; with that put into the unfolded `scalar`, each cell
(target × column type) of the two tables is closed: both sides compute, or it is one of the few rows with a range check or a
created text (`Honours.intoInt` …).
-/
namespace SaModel.Read
open SaModel SaModel.Spec

@[simp] theorem unsupported_ne_ok {α} {d : α} : ((unsupported : R α) = .ok d) = False := by
  simp [unsupported, fail]

@[simp] theorem ok_ne_unsupported {α} {d : α} : (.ok d = (unsupported : R α)) = False := by
  simp [unsupported, fail]

@[simp] theorem mustFail_ne_ok {w : String} {x : Option DVal} : (mustFail w = Except.ok x) = False := by
  simp [mustFail, fail]

@[simp] theorem mustFail_ne_must {w : String} {d : DVal} : (mustFail w = must d) = False := by
  simp [mustFail, fail, must]

theorem must_inj {d d' : DVal} (h : must d = must d') : d = d' := by
  simp only [must, Except.ok.injEq, Option.some.injEq] at h; exact h

theorem map_ok_inv {α β} {f : α → β} {x : R α} {d : β} (h : Except.map f x = .ok d) : ∃ b, x = .ok b ∧ d = f b := by
  cases x with
  | ok b => simp only [Except.map, Except.ok.injEq] at h; exact ⟨b, rfl, h.symm⟩
  | error e => simp [Except.map] at h

/-- finish a scalar case: `hc` says what `castLeaf` demands (possibly under `if`s), the goal is the read -/
macro "leaf_close" hc:ident : tactic => `(tactic| (
  (repeat' split at $hc:ident) <;>
  first
  | (exfalso; simp (config := { decide := true }) [fail] at $hc:ident; done)
  | ((try simp (config := { decide := true }) at $hc:ident); subst $hc:ident; unfold scalar;
     simp_all [getRequired, accept, intoInt, codecRead, bind, Except.bind, pure, Except.pure, fail, rejected]; done)
  | (obtain ⟨b, hr, rfl⟩ := map_ok_inv $hc:ident; unfold scalar;
     simp_all [getRequired, accept, codecRead, ownedStr, ownedBytes, bind, Except.bind, pure, Except.pure]; done)))

/-- **known finding #24** (C05-int-as-bool): an integer column read as `bool` yields `true` for every non-zero value -/
def intAsBool (t : Target) (a : Arr) (lv : LVal) : Bool :=
  match t, a, lv with
  | .bool, .prim ty _ _, .int x => isIntPrim ty && x != 0 && x != 1
  | _, _, _ => false

theorem intAsBool_not_bool {t : Target} (ht : t ≠ .bool) (a : Arr) (lv : LVal) : intAsBool t a lv = false := by
  unfold intAsBool
  split
  · exact absurd rfl ht
  · rfl

/-- the outcome `r` of a read honours the claim `c`: it is the demanded value; it fails where the read must fail.  The
failure is owed only when `k` holds (the slot meets no known finding); written so that `Honours true r c` computes. -/
def Honours {α} (k : Bool) (r : R α) : R (Option α) → Prop
  | .ok (some d) => r = .ok d
  | .ok none => True
  | .error _ => (k && r.isOk) = false

theorem Honours.sound {α} {k : Bool} {r : R α} {c : R (Option α)} {d : α} (h : Honours k r c) (hc : c = .ok (some d)) :
    r = .ok d := by
  subst hc; exact h

theorem Honours.rej {α} {k : Bool} {r : R α} {c : R (Option α)} {e : Fail} (h : Honours k r c) (hk : k = true)
    (hc : c = .error e) : r.isOk = false := by
  subst hc hk; exact h

theorem Honours.fails {α} {k : Bool} {r : R α} {e : Fail} (h : k = true → r.isOk = false) : Honours k r (.error e) := by
  cases k
  · rfl
  · exact h rfl

theorem Honours.of_halves {α} {k : Bool} {r : R α} {c : R (Option α)} (hs : ∀ d, c = .ok (some d) → r = .ok d)
    (hr : ∀ e, k = true → c = .error e → r.isOk = false) : Honours k r c := by
  cases c with
  | error e => exact .fails fun hk => hr e hk rfl
  | ok o =>
    cases o with
    | none => trivial
    | some d => exact hs d rfl

/-! ### the rows of the two tables in which the value decides -/

/-- an integer into an integer type: by value, in the range of the target (`intoInt`, then the integer visitor) -/
theorem Honours.intoInt (ty : IntTy) (x : Int) : Honours true (intoInt ty x >>= accept (.int ty))
    (ofLeaf (if ty.inRange x then some (.ok (.int ty x)) else some (fail "out of range"))) := by
  unfold Read.intoInt
  have ha : accept (.int ty) (.int ty x) = if ty.inRange x then .ok (.int ty x) else rejected := rfl
  cases h : ty.inRange x
  · rfl
  · exact ha.trans (by rw [h]; rfl)

/-- a stored `i64` handed over as it is (Duration, Timestamp): the visitor's range check never fires on an `i64` value,
the claim fails outside `i64` (such a value is in no view) and so does the visitor -/
theorem Honours.stored (x : Int) : Honours true (pure (.int .i64 x) >>= accept (.int .i64))
    (ofLeaf (if IntTy.i64.inRange x then some (.ok (.int .i64 x)) else some (fail "out of range"))) := by
  have ha : accept (.int .i64) (.int .i64 x) = if IntTy.i64.inRange x then .ok (.int .i64 x) else rejected := rfl
  show Honours true (accept (.int .i64) (.int .i64 x)) _
  rw [ha]
  cases IntTy.i64.inRange x <;> rfl

/-- an integer column as `bool`: 0 and 1 (finding #24 set aside) -/
theorem Honours.intBool (x : Int) (hk : (x != 0 && x != 1) = false) : Honours true (pure (.bool (x != 0)) >>= accept .bool)
    (ofLeaf (if x == 0 then some (.ok (.bool false)) else if x == 1 then some (.ok (.bool true)) else some (fail "not a bool"))) := by
  by_cases h0 : x = 0
  · subst h0; rfl
  · by_cases h1 : x = 1
    · subst h1; rfl
    · simp [h0, h1] at hk

/-- an integer column as `char`: a `u32` that is a Unicode scalar value -/
theorem Honours.intChar (x : Int) : Honours true
    ((if IntTy.u32.inRange x then
        (if isScalarValue x.toNat then pure (.char x.toNat) else fail "converted integer out of range for `char`")
      else fail "out of range integral type conversion attempted") >>= accept .char)
    (ofLeaf (if IntTy.u32.inRange x && isScalarValue x.toNat then some (.ok (.char x.toNat)) else some (fail "not a char"))) := by
  cases IntTy.u32.inRange x <;> cases isScalarValue x.toNat <;> rfl

/-- a text the codec may refuse (date, time of day, timestamp), as `String` and as `ByteBuf` -/
theorem Honours.ownedStr (r : R Bytes) : Honours true (ownedStr r >>= accept .string) (ofLeaf (some (r.map (.str .owned)))) := by
  cases r <;> rfl

theorem Honours.ownedBytes (r : R Bytes) : Honours true (ownedBytes r >>= accept .byteBuf) (ofLeaf (some (r.map (.bytes .owned)))) := by
  cases r <;> rfl

/-- … and cannot be borrowed: the `&str` / `&[u8]` visitors reject the created text -/
theorem ownedStr_not_borrowed (r : R Bytes) : (ownedStr r >>= accept .str).isOk = false := by
  cases r <;> rfl

theorem ownedBytes_not_borrowed (r : R Bytes) : (ownedBytes r >>= accept .bytes).isOk = false := by
  cases r <;> rfl

/-- a null slot into a scalar target: only `()` from a Null column does not fail -/
theorem castScalar_null {t : Target} {a : Arr} (h : isNullArr a = false) :
    castScalar t a .null = mustFail "null into a non-Option target" := by
  cases t <;> simp only [castScalar, h] <;> rfl

/-- … and the reader fails there as soon as the method does -/
theorem Honours.null {r : R DVal} {t : Target} {a : Arr} (h : isNullArr a = false) (hr : r.isOk = false) :
    Honours true (r >>= accept t) (castScalar t a .null) := by
  rw [castScalar_null h]; exact bind_fails_left hr

/-- a null slot: only `()` from a Null column is demanded -/
theorem null_lv_scalar {t : Target} {a : Arr} {d : DVal} (hc : castScalar t a .null = must d) :
    isNullArr a = true ∧ (t = .unit ∨ t = .unitStruct) ∧ d = .unit := by
  cases hna : isNullArr a <;> cases t <;> simp [castScalar, hna, mustFail, must, fail] at hc <;> simp [hc]

theorem ofLeaf_must {x : Option (R DVal)} {d : DVal} : ofLeaf x = must d ↔ x = some (.ok d) := by
  unfold ofLeaf must na
  split <;> simp_all

theorem castScalar_list {t : Target} {a : Arr} {items : LVals} {d : DVal} : castScalar t a (.list items) ≠ must d := by
  intro hc
  -- a list is no leaf value: `castLeaf` has no row for it, whatever the target and the column
  have hl := Props.C02.castLeaf_notLeaf t a (lv := .list items) trivial
  simp only [castScalar, hl, ofLeaf_must, Option.some.injEq] at hc
  cases hc

/-! ### one array kind at a time -/

theorem leafOf_isInt {ty : PrimTy} (hty : isIntPrim ty = true) (x : Int) : leafOf ty x = .int x := by
  cases ty <;> first | rfl | cases hty

/-- the eight integer column types answer every method alike -/
theorem scalar_prim_isInt {fx : Fixes} {m : Method} {ty : PrimTy} {v : Option Bits} {vals : List Int} {i : Nat}
    (hty : isIntPrim ty = true) : scalar fx m (.prim ty v vals) i = scalar fx m (.prim .int64 v vals) i := by
  cases ty <;> first | rfl | cases hty

/-- a non-null slot of an integer column -/
theorem prim_int_honours {t : Target} {m : Method} (hm : methodOf t = some m) {ty : PrimTy} (hty : isIntPrim ty = true)
    {v : Option Bits} {vals : List Int} {i : Nat} {x : Int} (hg : primGet Fixes.all v vals i = .ok (some x))
    (hk : intAsBool t (.prim ty v vals) (.int x) = false) :
    Honours true (scalar Fixes.all m (.prim ty v vals) i >>= accept t) (castScalar t (.prim ty v vals) (.int x)) := by
  rw [scalar_prim_isInt hty]
  unfold scalar
  simp only [hg]
  cases t with
  | bool =>
    cases hm
    simp only [intAsBool, hty, Bool.true_and] at hk
    simp only [castScalar, castLeaf, hty, if_true]
    exact Honours.intBool x hk
  | int ity =>
    cases hm
    simp only [castScalar, castLeaf, hty, Bool.true_or, if_true]
    exact Honours.intoInt ity x
  | char =>
    cases hm
    simp only [castScalar, castLeaf, hty, if_true]
    exact Honours.intChar x
  | _ => cases hm <;> cases ty <;> first | exact rfl | cases hty

/-- a non-null slot of a float or date column -/
theorem prim_other_honours {t : Target} {m : Method} (hm : methodOf t = some m) {ty : PrimTy} (hty : ¬ isIntPrim ty = true)
    {v : Option Bits} {vals : List Int} {i : Nat} {x : Int} (hg : primGet Fixes.all v vals i = .ok (some x)) :
    Honours true (scalar Fixes.all m (.prim ty v vals) i >>= accept t) (castScalar t (.prim ty v vals) (leafOf ty x)) := by
  unfold scalar codecRead
  simp only [hg]
  cases ty with
  | float16 | float32 | float64 => cases t <;> cases hm <;> exact rfl
  | date32 | date64 =>
    cases t with
    | int ity => cases hm; cases ity <;> first | exact Honours.intoInt _ x | exact rfl
    | string => cases hm; exact Honours.ownedStr (dateRepr _ x)
    | byteBuf => cases hm; exact Honours.ownedBytes (dateRepr _ x)
    | str => cases hm; exact ownedStr_not_borrowed (dateRepr _ x)
    | bytes => cases hm; exact ownedBytes_not_borrowed (dateRepr _ x)
    | _ => cases hm <;> exact rfl
  | _ => exact absurd rfl hty

theorem prim_honours {t : Target} {m : Method} (hm : methodOf t = some m) {ty : PrimTy} {v : Option Bits} {vals : List Int}
    {i : Nat} {lv : LVal} (h : decodeAt (.prim ty v vals) i = .ok lv) (hk : intAsBool t (.prim ty v vals) lv = false) :
    Honours true (scalar Fixes.all m (.prim ty v vals) i >>= accept t) (castScalar t (.prim ty v vals) lv) := by
  rcases prim_get h with ⟨rfl, hg⟩ | ⟨rfl, hg⟩
  · refine Honours.null rfl ?_
    unfold scalar codecRead
    simp only [hg]
    repeat' split
    all_goals rfl
  · by_cases hty : isIntPrim ty = true
    · rw [leafOf_isInt hty] at hk ⊢
      exact prim_int_honours hm hty hg hk
    · exact prim_other_honours hm hty hg

theorem time_honours {t : Target} {m : Method} (hm : methodOf t = some m) {ty : TimeTy} {u : TimeUnit} {v : Option Bits}
    {vals : List Int} {i : Nat} {lv : LVal} (h : decodeAt (.time ty u v vals) i = .ok lv) :
    Honours true (scalar Fixes.all m (.time ty u v vals) i >>= accept t) (castScalar t (.time ty u v vals) lv) := by
  rcases time_get h with ⟨rfl, hg⟩ | ⟨rfl, hg⟩
  · refine Honours.null rfl ?_
    unfold scalar codecRead
    simp only [hg]
    repeat' split
    all_goals rfl
  · generalize vals.getD i 0 = x at hg
    unfold scalar codecRead
    simp only [hg]
    cases ty with
    | duration =>
      cases t with
      | int ity => cases hm; cases ity <;> first | exact Honours.stored x | exact rfl
      | _ => cases hm <;> exact rfl
    | time32 | time64 =>
      cases t with
      | int ity => cases hm; cases ity <;> first | exact Honours.intoInt _ x | exact rfl
      | string => cases hm; exact Honours.ownedStr (timeRepr u x)
      | byteBuf => cases hm; exact Honours.ownedBytes (timeRepr u x)
      | str => cases hm; exact ownedStr_not_borrowed (timeRepr u x)
      | bytes => cases hm; exact ownedBytes_not_borrowed (timeRepr u x)
      | _ => cases hm <;> exact rfl

theorem timestamp_honours {t : Target} {m : Method} (hm : methodOf t = some m) {u : TimeUnit} {tz : Option String}
    {v : Option Bits} {vals : List Int} {i : Nat} {lv : LVal} (h : decodeAt (.timestamp u tz v vals) i = .ok lv) :
    Honours true (scalar Fixes.all m (.timestamp u tz v vals) i >>= accept t) (castScalar t (.timestamp u tz v vals) lv) := by
  rcases timestamp_get h with ⟨rfl, hg⟩ | ⟨rfl, hg⟩
  · refine Honours.null rfl ?_
    unfold scalar codecRead
    simp only [hg]
    repeat' split
    all_goals rfl
  · generalize vals.getD i 0 = x at hg
    unfold scalar codecRead
    simp only [hg]
    cases t with
    | int ity => cases hm; cases ity <;> first | exact Honours.stored x | exact rfl
    | string => cases hm; exact Honours.ownedStr (timestampRepr u tz x)
    | byteBuf => cases hm; exact Honours.ownedBytes (timestampRepr u tz x)
    | str => cases hm; exact ownedStr_not_borrowed (timestampRepr u tz x)
    | bytes => cases hm; exact ownedBytes_not_borrowed (timestampRepr u tz x)
    | _ => cases hm <;> exact rfl

theorem decimal_honours {t : Target} {m : Method} (hm : methodOf t = some m) {p : Nat} {s : Int}
    {v : Option Bits} {vals : List Int} {i : Nat} {lv : LVal} (h : decodeAt (.decimal128 p s v vals) i = .ok lv) :
    Honours true (scalar Fixes.all m (.decimal128 p s v vals) i >>= accept t) (castScalar t (.decimal128 p s v vals) lv) := by
  rcases decimal_get h with ⟨rfl, hg⟩ | ⟨rfl, hg⟩
  · refine Honours.null rfl ?_
    unfold scalar codecRead
    simp only [hg]
    repeat' split
    all_goals rfl
  · unfold scalar codecRead
    simp only [hg]
    cases t <;> cases hm <;> exact rfl

theorem null_honours {t : Target} {m : Method} (hm : methodOf t = some m) {len : Nat}
    {i : Nat} {lv : LVal} (h : decodeAt (.null len) i = .ok lv) :
    Honours true (scalar Fixes.all m (.null len) i >>= accept t) (castScalar t (.null len) lv) := by
  obtain ⟨rfl, hg⟩ := null_get h
  unfold scalar
  simp only [hg]
  cases t <;> cases hm <;> exact rfl

theorem bool_honours {t : Target} {m : Method} (hm : methodOf t = some m) {len : Nat} {v : Option Bits} {vals : Bits}
    {i : Nat} {lv : LVal} (h : decodeAt (.boolean len v vals) i = .ok lv) :
    Honours true (scalar Fixes.all m (.boolean len v vals) i >>= accept t) (castScalar t (.boolean len v vals) lv) := by
  rcases bool_get h with ⟨rfl, hg⟩ | ⟨b, rfl, hg⟩
  · refine Honours.null rfl ?_
    unfold scalar
    simp only [hg]
    repeat' split
    all_goals rfl
  · unfold scalar
    simp only [hg]
    cases t with
    | int ity => cases hm; cases b <;> cases ity <;> exact rfl
    | _ => cases hm <;> exact rfl

theorem bytes_honours {t : Target} {m : Method} (hm : methodOf t = some m) {ty : BytesTy} {v : Option Bits}
    {offs : List Int} {data : Bytes} {i : Nat} {lv : LVal} (h : decodeAt (.bytes ty v offs data) i = .ok lv)
    (hu : utf8Ok lv = true) :
    Honours true (scalar Fixes.all m (.bytes ty v offs data) i >>= accept t) (castScalar t (.bytes ty v offs data) lv) := by
  rcases bytes_get h hu with ⟨rfl, hg⟩ | ⟨b, rfl, hg⟩
  · refine Honours.null rfl ?_
    unfold scalar
    simp only [hg]
    repeat' split
    all_goals rfl
  · unfold scalar
    simp only [hg]
    cases isUtf8Ty ty <;> cases t <;> cases hm <;> exact rfl

theorem view_honours {t : Target} {m : Method} (hm : methodOf t = some m) {ty : ViewTy} {v : Option Bits}
    {views : List Nat} {buffers : List Bytes} {i : Nat} {lv : LVal}
    (h : decodeAt (.bytesView ty v views buffers) i = .ok lv) (hu : utf8Ok lv = true) :
    Honours true (scalar Fixes.all m (.bytesView ty v views buffers) i >>= accept t)
      (castScalar t (.bytesView ty v views buffers) lv) := by
  rcases view_get h hu with ⟨rfl, hg⟩ | ⟨b, rfl, hg⟩
  · refine Honours.null rfl ?_
    unfold scalar
    simp only [hg]
    repeat' split
    all_goals rfl
  · unfold scalar
    simp only [hg]
    cases isUtf8View ty <;> cases t <;> cases hm <;> exact rfl

theorem fsb_honours {t : Target} {m : Method} (hm : methodOf t = some m) {n : Int} {v : Option Bits}
    {data : Bytes} {i : Nat} {lv : LVal} (h : decodeAt (.fixedSizeBinary n v data) i = .ok lv)
    (hn : new Fixes.all (.fixedSizeBinary n v data) = .ok ()) :
    Honours true (scalar Fixes.all m (.fixedSizeBinary n v data) i >>= accept t) (castScalar t (.fixedSizeBinary n v data) lv) := by
  rcases fsb_get h hn with ⟨rfl, hg⟩ | ⟨b, rfl, hg⟩
  · refine Honours.null rfl ?_
    unfold scalar
    simp only [hg]
    repeat' split
    all_goals rfl
  · unfold scalar
    simp only [hg]
    cases t <;> cases hm <;> exact rfl

/-- a null dictionary slot: the key getter returns `None`, `get_str` fails -/
theorem dictGetStr_null {ks vs : Arr} {i : Nat} (hn : new Fixes.all (.dictionary ks vs) = .ok ())
    (hs : isSome Fixes.all (.dictionary ks vs) i = .ok false) : (dictGetStr Fixes.all ks vs i).isOk = false := by
  unfold new at hn
  split at hn
  · rename_i kty kv kvals vty vv voffs vdata
    simp only [isSome] at hs
    unfold dictGetStr
    cases hp : primGet Fixes.all kv kvals i with
    | error e => simp [getRequired, hp, bind, Except.bind, R.isOk]
    | ok o =>
      rw [optIsSome_ok hp] at hs
      cases o with
      | some x => simp at hs
      | none => simp [getRequired, hp, bind, Except.bind, fail, R.isOk]
  · cases hn

theorem dict_honours {t : Target} {m : Method} (hm : methodOf t = some m) {ks vs : Arr}
    {i : Nat} {lv : LVal} (h : decodeAt (.dictionary ks vs) i = .ok lv)
    (hn : new Fixes.all (.dictionary ks vs) = .ok ()) (hp : physical (.dictionary ks vs) = true) (hu : utf8Ok lv = true) :
    Honours true (scalar Fixes.all m (.dictionary ks vs) i >>= accept t) (castScalar t (.dictionary ks vs) lv) := by
  rcases dict_get h hn hp hu with ⟨rfl, hs⟩ | ⟨b, rfl, _, hg⟩
  · obtain ⟨e, hg⟩ := isOk_false_iff.1 (dictGetStr_null hn hs)
    refine Honours.null rfl ?_
    unfold scalar
    simp only [hg]
    repeat' split
    all_goals rfl
  · unfold scalar
    simp only [hg]
    cases t <;> cases hm <;> exact rfl

/-! ### shapes of container slots -/

theorem union_inv {types : List Int} {offs : Option (List Int)} {fs : ArrUFields} {i : Nat} {lv : LVal}
    (h : decodeAt (.union types offs fs) i = .ok lv) : ∃ t w, lv = .union t w := by
  unfold decodeAt at h
  split at h
  · simp only at h
    split at h
    · cases h
    · split at h
      · try simp only at h
        split at h
        · obtain ⟨w, _, h⟩ := bind_ok_inv h; cases h; exact ⟨_, _, rfl⟩
        · cases h
      · obtain ⟨w, _, h⟩ := bind_ok_inv h; cases h; exact ⟨_, _, rfl⟩
  · cases h

/-- container columns implement no scalar method, and `castScalar` makes no demand on their values -/
theorem container_honours {t : Target} {m : Method} (hm : methodOf t = some m) {a : Arr} {lv : LVal} {i : Nat}
    (ha : (∃ len v fs lfs, a = .struct len v fs ∧ lv = .struct lfs) ∨ (∃ lg v offs fm el xs, a = .list lg v offs fm el ∧ lv = .list xs) ∨
      (∃ len v n fm el xs, a = .fixedSizeList len v n fm el ∧ lv = .list xs) ∨
      (∃ v offs mm ks vs es, a = .map v offs mm ks vs ∧ lv = .map es) ∨
      (∃ types offs fs ti w, a = .union types offs fs ∧ lv = .union ti w)) :
    Honours true (scalar Fixes.all m a i >>= accept t) (castScalar t a lv) := by
  rcases ha with ⟨_, _, _, _, rfl, rfl⟩ | ⟨_, _, _, _, _, _, rfl, rfl⟩ | ⟨_, _, _, _, _, _, rfl, rfl⟩ |
    ⟨_, _, _, _, _, _, rfl, rfl⟩ | ⟨_, _, _, _, _, rfl, rfl⟩ <;> cases t <;> cases hm <;> exact rfl

/-! ### every array kind -/

/-- where finding #24 bites, `castScalar` says the read must fail -/
theorem intAsBool_of_must {t : Target} {a : Arr} {lv : LVal} {d : DVal} (hc : castScalar t a lv = must d) :
    intAsBool t a lv = false := by
  unfold intAsBool
  split
  · rename_i ty _ _ x
    cases hb : (isIntPrim ty && x != 0 && x != 1)
    · rfl
    · simp only [Bool.and_eq_true, bne_iff_ne, ne_eq] at hb
      simp [castScalar, castLeaf, hb.1.1, hb.1.2, hb.2, ofLeaf, fail, must] at hc
  · rfl

/-- **scalar targets**: at a slot whose Arrow reading is defined, `deserialize_<m>` + the visitor honour `castScalar`;
where finding #24 bites the claim is a failure, and none is owed -/
theorem scalar_honours {t : Target} {m : Method} (hm : methodOf t = some m) (a : Arr) (i : Nat) (lv : LVal)
    (h : decodeAt a i = .ok lv) (hn : new Fixes.all a = .ok ()) (hp : physical a = true) (hu : utf8Ok lv = true) :
    Honours (!intAsBool t a lv) (scalar Fixes.all m a i >>= accept t) (castScalar t a lv) := by
  cases hk : intAsBool t a lv with
  | true => exact .of_halves (fun d hc => by rw [intAsBool_of_must hc] at hk; cases hk) (fun _ hf => by cases hf)
  | false =>
    cases a with
    | null len => exact null_honours hm h
    | boolean len v vals => exact bool_honours hm h
    | prim ty v vals => exact prim_honours hm h hk
    | time ty u v vals => exact time_honours hm h
    | timestamp u tz v vals => exact timestamp_honours hm h
    | decimal128 p s v vals => exact decimal_honours hm h
    | bytes ty v offs data => exact bytes_honours hm h hu
    | bytesView ty v views buffers => exact view_honours hm h hu
    | fixedSizeBinary n v data => exact fsb_honours hm h hn
    | dictionary ks vs => exact dict_honours hm h hn hp hu
    | struct len v fs =>
      rcases (struct_inv h).2 with ⟨rfl, _⟩ | ⟨vals, _, rfl, _⟩
      · exact Honours.null rfl rfl
      · exact container_honours hm (.inl ⟨_, _, _, _, rfl, rfl⟩)
    | list lg v offs fm el =>
      rcases (list_inv h).2 with ⟨rfl, _⟩ | ⟨xs, _, rfl, _⟩
      · exact Honours.null rfl rfl
      · exact container_honours hm (.inr (.inl ⟨_, _, _, _, _, _, rfl, rfl⟩))
    | fixedSizeList len v n fm el =>
      rcases (fsl_inv h).2 with ⟨rfl, _⟩ | ⟨xs, _, _, rfl, _⟩
      · exact Honours.null rfl rfl
      · exact container_honours hm (.inr (.inr (.inl ⟨_, _, _, _, _, _, rfl, rfl⟩)))
    | map v offs mm ks vs =>
      rcases (map_inv h).2 with ⟨rfl, _⟩ | ⟨kxs, wxs, _, _, rfl, _⟩
      · exact Honours.null rfl rfl
      · exact container_honours hm (.inr (.inr (.inr (.inl ⟨_, _, _, _, _, _, rfl, rfl⟩))))
    | union types offs fs =>
      obtain ⟨ti, w, rfl⟩ := union_inv h
      exact container_honours hm (.inr (.inr (.inr (.inr ⟨_, _, _, _, _, rfl, rfl⟩))))

/-- what `castScalar` demands is what `deserialize_<m>` + the visitor return -/
theorem scalar_sound {t : Target} {m : Method} (hm : methodOf t = some m) (a : Arr) (i : Nat) (lv : LVal) (d : DVal)
    (h : decodeAt a i = .ok lv) (hn : new Fixes.all a = .ok ()) (hp : physical a = true) (hu : utf8Ok lv = true)
    (hc : castScalar t a lv = must d) : (scalar Fixes.all m a i >>= accept t) = .ok d :=
  (scalar_honours hm a i lv h hn hp hu).sound hc

end SaModel.Read
