import SaModel.Lemmas.C18BlameRows
/-
C18, blame against the specification: `serialize_map` on every builder family — a map into a struct builder (entries
by key, a key that is not a string is the struct's own failure), into a map builder (keys and values below the entries
name; the map itself fails only on the offset overflow `NoCap` excludes), refused by every other builder.
-/
namespace SaModel.Props.C18
open SaModel SaModel.Build SaModel.Spec

/-- the body of `push b (.map es)` below the `.ctx(self)` wrapper -/
def mapWith (ext : Ext) (es : SEntries) : B → R B
  | .struct p len v fs cached next seen => do
    let s ← SS.start ⟨p, len, v, fs, cached, next, seen⟩
    let s ← pushStructEntries ext { s with next := UNKNOWN_KEY } es
    let s ← s.finishRow
    pure s.toB
  | .map p mm v offs ks vs => do
    let v' ← setValidity v (offs.length - 1) true
    let offs' ← duplicateLast offs
    let (offs'', ks', vs') ← pushMapEntries ext offs' ks vs es
    pure (.map p mm v' offs'' ks' vs')
  | .unknownVariant _ => fail "Unknown variant does not support serialize_map_start"
  | _ => notSupported "serialize_map_start"

theorem push_map_eq (ext : Ext) (b : B) (es : SEntries) : push ext b (.map es) = ctx b.ann (mapWith ext es b) := by
  cases b <;> simp only [push, mapWith]

def mapS (ext : Ext) (path : String) (dt : DataType) (es : SEntries) : List String :=
  match dt with
  | .struct fs =>
    structS path fs.toList (entryKeys es) (!(keysAreStrings es).isOk) (blameEntriesStruct ext path fs.toList es)
  | .map (.mk en (.struct (.cons (.mk kn kdt knl kmd) (.cons (.mk vn vdt vnl vmd) _))) _ _) _ =>
    let base := path ++ "." ++ childName en
    let inner := blameEntriesMap ext (base ++ "." ++ childName kn) kdt knl kmd (base ++ "." ++ childName vn) vdt vnl vmd es
    if inner.isEmpty then [path] else inner
  | _ => [path]

theorem blameDT_map_eq {ext : Ext} {path : String} {dt n md} {es : SEntries}
    (hi : (interpDT ext dt n md (.map es)).isOk = false) :
    blameDT ext path dt n md (.map es) = mapS ext path dt es := by
  unfold mapS
  split
  · simp [blameDT, hi, structS]
  · simp [blameDT, hi]
  · rename_i h1 h2
    unfold blameDT
    rw [hi, if_neg Bool.false_ne_true]
    split
    · exact absurd rfl (h1 _)
    · exact absurd rfl (h2 _ _ _ _ _ _ _ _ _ _ _ _ _)
    · rfl

theorem mapS_self {ext : Ext} {b : B} {path : String} {dt n md} {es : SEntries} (hsh : Shape b dt n md)
    (hb : b.isStruct = false) (hm : b.isMap = false) : path ∈ mapS ext path dt es := by
  cases dt
  case struct sfs =>
    obtain ⟨_, _, _, _, _, _, _, rfl⟩ := Shape_struct_form hsh; simp [B.isStruct] at hb
  case map f s =>
    obtain ⟨_, _, _, _, _, _, rfl⟩ := Shape_map_form hsh; simp [B.isMap] at hm
  all_goals simp [mapS]

theorem At.map_kids {path ename kn kdt knl kmd vn vdt vnl vmd rest en emd sorted n md p mm v offs ks vs}
    (h : At path (.map (.mk ename (.struct (.cons (.mk kn kdt knl kmd) (.cons (.mk vn vdt vnl vmd) rest))) en emd) sorted) n md
      (.map p mm v offs ks vs)) :
    At (path ++ "." ++ childName ename ++ "." ++ childName kn) kdt knl kmd ks ∧
    At (path ++ "." ++ childName ename ++ "." ++ childName vn) vdt vnl vmd vs := by
  obtain ⟨b0, h0, ht⟩ := h
  cases rest with
  | cons _ _ => simp [newDT, SaModel.fail] at h0
  | nil =>
    cases en with
    | true => simp [newDT, ctx_ok, SaModel.fail] at h0
    | false =>
    simp only [newDT, newB] at h0
    obtain ⟨kb, hkb, h0⟩ := (Build.bind_ok _ _ _).1 h0
    obtain ⟨vb, hvb, h0⟩ := (Build.bind_ok _ _ _).1 h0
    cases h0
    simp only [takeRest, B.map.injEq] at ht
    exact ⟨⟨kb, hkb, ht.2.2.2.2.1⟩, ⟨vb, hvb, ht.2.2.2.2.2⟩⟩

theorem pushMapEntries_plain (ext : Ext) : ∀ (es : SEntries) (offs : List Int) (ks vs : B) (l : Int) (msg : String),
    offs.getLast? = some l → 0 ≤ l → pushMapEntries ext offs ks vs es = .error (.err msg) →
    msg = "offset overflow" ∧ l + elen es > offMax false
  | .nil, offs, ks, vs, l, msg, _, _, h => by simp [pushMapEntries] at h
  | .cons k x rest, offs, ks, vs, l, msg, hl, h0, h => by
    simp only [pushMapEntries] at h
    simp only [elen]
    rcases incr_plain hl h with ⟨hm, hov⟩ | h
    · exact ⟨hm, by omega⟩
    · rcases bind_err_plain h with h | ⟨ks', _, h⟩
      · exact absurd h (push_never_plain ext k ks msg)
      · rcases bind_err_plain h with h | ⟨vs', _, h⟩
        · exact absurd h (push_never_plain ext x vs msg)
        · obtain ⟨hm, hgt⟩ := pushMapEntries_plain ext rest _ ks' vs' (l + ((1 : Nat) : Int)) msg (by simp) (by omega) h
          exact ⟨hm, by omega⟩

theorem pushMapEntries_not_plain (ext : Ext) (es : SEntries) (offs : List Int) (ks vs : B) (l : Int) (msg : String)
    (hl : offs.getLast? = some l) (h0 : 0 ≤ l) (hle : l + elen es ≤ 2147483647) :
    pushMapEntries ext offs ks vs es ≠ .error (.err msg) := fun h => by
  have := (pushMapEntries_plain ext es offs ks vs l msg hl h0 h).2
  simp only [offMax] at this
  omega

theorem structMap_bl {ext : Ext} {es : SEntries} (hpe : EntriesBl ext es) {path : String} {sfs : Fields} {n md}
    {p len v fs cached next seen} (hg : GoodH (.struct p len v fs cached next seen) (.struct sfs) n md)
    (ha : At path (.struct sfs) n md (.struct p len v fs cached next seen)) (hcap : vsizee ext es + 1 ≤ roomL fs) :
    Bl (mapS ext path (.struct sfs) es) (ctx (B.struct p len v fs cached next seen).ann
      (mapWith ext es (.struct p len v fs cached next seen))) := by
  refine struct_row_bl hg ha (pf := fun s => pushStructEntries ext { s with next := UNKNOWN_KEY } es)
    fun k s hm hs hfs _ hk => ?_
  refine hpe k _ path sfs _ [] (hm.next _) (hs.next _) (by simp only; rw [hfs]; omega)
    (fun hd => mem_structS_own (by simp only [structOwnFails, Bool.or_eq_true]; left; simpa [knownKeys] using hd))
    (fun hk' => ?_) mem_structS_inner (by simpa using hk)
  rw [hk']; exact mem_structS_own'

theorem mapMap_bl {ext : Ext} {es : SEntries} (hpm : MapEntriesBl ext es) {path : String} {dt n md} {p mm v offs ks vs}
    (hg : GoodH (.map p mm v offs ks vs) dt n md) (ha : At path dt n md (.map p mm v offs ks vs))
    (hcap : vsizee ext es + 1 ≤ room (.map p mm v offs ks vs)) :
    Bl (mapS ext path dt es) (ctx (B.map p mm v offs ks vs).ann (mapWith ext es (.map p mm v offs ks vs))) := by
  have hp : p = path := ha.path
  have hsh := hg.shape
  simp only [Shape] at hsh
  obtain ⟨_, ename, kn, kdt, knl, kmd, vn, vdt, vnl, vmd, rest, en, emd, sorted, he, hsk, hsv⟩ := hsh
  subst he
  have hw := hg.wf
  simp only [WFH] at hw
  have hsafe := hg.nd
  simp only [NoDictKey] at hsafe
  have ht := hg.tot
  simp only [total, totalF, Bool.and_eq_true] at ht
  have hgk : GoodH ks kdt knl kmd := ⟨hw.2.2.2.1, hsafe.1, hsk, ht.1⟩
  have hgv : GoodH vs vdt vnl vmd := ⟨hw.2.2.2.2, hsafe.2, hsv, ht.2⟩
  obtain ⟨hak, hav⟩ := ha.map_kids
  have hlast := hw.1.2.1
  have hln : lastNat offs = (dec ks).length := by simp [lastNat_of_getLast hlast]
  simp only [room, hln, LIM] at hcap
  have hel := elen_le ext es
  obtain ⟨v', hv'⟩ := setValidity_true_total v (offs.length - 1)
  have hbody : mapWith ext es (.map p mm v offs ks vs) = (do
      let (offs'', ks', vs') ← pushMapEntries ext (offs ++ [((dec ks).length : Int)]) ks vs es
      pure (.map p mm v' offs'' ks' vs')) := by
    simp only [mapWith, hv', duplicateLast_total hlast, bind, Except.bind]
  rw [hbody]
  have h1 := hpm (offs ++ [((dec ks).length : Int)]) ks vs _ kdt knl kmd _ vdt vnl vmd hgk hak hgv hav (by omega) (by omega)
  refine Bl.ctx_own _ ?_ (Bl.bind (Bl.mono mem_ite_inner h1) fun _ _ => Bl.of_ok _)
  intro msg h
  rcases bind_err_plain h with h | ⟨r, _, h⟩
  · exact absurd h (pushMapEntries_not_plain ext es _ ks vs ((dec ks).length : Int) msg (by simp) (by omega) (by omega))
  · cases h

theorem mapLike_bl {ext : Ext} [ExtPlain ext] {es : SEntries} (hpe : EntriesBl ext es) (hpm : MapEntriesBl ext es)
    {b : B} {path : String} {dt n md} (hg : GoodH b dt n md) (ha : At path dt n md b)
    (hcap : vsizee ext es + 1 ≤ room b) :
    Bl (mapS ext path dt es) (ctx b.ann (mapWith ext es b)) := by
  cases b with
  | struct p len v fs cached next seen =>
    obtain ⟨_, sfs, rfl, _⟩ := (show _ ∧ ∃ sfs, dt = .struct sfs ∧ _ by simpa only [Shape] using hg.shape)
    exact structMap_bl hpe hg ha hcap
  | map p mm v offs ks vs => exact mapMap_bl hpm hg ha hcap
  | unknownVariant _ =>
    refine Bl.ctx_self _ (by rw [ha.path]; exact mapS_self hg.shape rfl rfl) ?_
    unfold mapWith; exact NoCtx.bl _
  | null _ _ | leaf _ _ _ _ | bytes _ _ _ _ _ | bytesView _ _ _ _ _ | fixedSizeBinary _ _ _ _ _ _
  | list _ _ _ _ _ _ | fixedSizeList _ _ _ _ _ _ _ | dictionary _ _ _ _ | union _ _ _ _ _ =>
    refine Bl.ctx_self _ (by rw [ha.path]; exact mapS_self hg.shape rfl rfl) ?_
    unfold mapWith; exact NoCtx.bl _

end SaModel.Props.C18
