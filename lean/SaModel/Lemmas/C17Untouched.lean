import SaModel.Lemmas.C17Range
import SaModel.Spec.TouchEq
/-
C17, `untouched_ok` — inversion of `Spec.touchEqW` (SaModel/Spec/TouchEq.lean) for the columns with child readers,
constructor by constructor: the shape of the second view and what the relation says about row `i` (`RowAgree`), the
`Option` layer (`RowAgree.weaken`, `touchEq_option`), the element ranges (`rangeEq_elim`).  (The columns without child
readers: `leafSim_agree`, C17UntouchedLeaf.lean.)
-/
namespace SaModel.Props.C17
open SaModel SaModel.Read SaModel.Spec

theorem ltEq_iff {i len len' : Nat} (h : ltEq i len len' = true) : (i < len) = (i < len') := by
  unfold ltEq at h
  simp only [beq_iff_eq, decide_eq_decide] at h
  exact propext h

theorem ge_of_lt_eq {i len len' : Nat} (hl : (i < len) = (i < len')) : (i ≥ len) = (i ≥ len') := by
  apply propext
  have := Eq.to_iff hl
  omega

/-- what `rowEq` says -/
def RowAgree (o : Bool) (i len len' : Nat) (v v' : Option Bits) (C : Prop) : Prop :=
  (i < len) = (i < len') ∧ (o = true → i < len → isValid v i = isValid v' i) ∧
    (i < len → (o = true → isValid v i = .ok true) → C)

theorem whenValid_elim {v : Option Bits} {i : Nat} {c : Bool} (h : whenValid v i c = true) (hv : isValid v i = .ok true) :
    c = true := by
  unfold whenValid at h
  simp only [hv] at h
  exact h

theorem rowEq_elim {o : Bool} {i len len' : Nat} {v v' : Option Bits} {c : Bool} (h : rowEq o i len len' v v' c = true) :
    RowAgree o i len len' v v' (c = true) := by
  unfold rowEq at h
  simp only [Bool.and_eq_true] at h
  refine ⟨ltEq_iff h.1, fun ho hi => ?_, fun hi hv => ?_⟩
  · have h2 := h.2
    simp only [hi, ho, if_true, Bool.and_eq_true, bitEq, decide_eq_true_eq] at h2
    exact h2.1
  · have h2 := h.2
    cases o with
    | false => simp only [hi, if_true, Bool.false_eq_true, if_false] at h2; exact h2
    | true =>
      simp only [hi, if_true, Bool.and_eq_true, bitEq, decide_eq_true_eq] at h2
      exact whenValid_elim h2.2 (hv rfl)

theorem RowAgree.mono {o : Bool} {i len len' : Nat} {v v' : Option Bits} {C D : Prop} (h : RowAgree o i len len' v v' C)
    (hcd : C → D) : RowAgree o i len len' v v' D :=
  ⟨h.1, h.2.1, fun hi hv => hcd (h.2.2 hi hv)⟩

/-- the `Option` layer: once the slot is known to be valid the validity bit need not be consulted -/
theorem RowAgree.weaken {o : Bool} {i len len' : Nat} {v v' : Option Bits} {C : Prop} (h : RowAgree true i len len' v v' C)
    (hv : i < len → isValid v i = .ok true) : RowAgree o i len len' v v' C :=
  ⟨h.1, fun _ hi => h.2.1 rfl hi, fun hi _ => h.2.2 hi (fun _ => hv hi)⟩

/-! ### element ranges -/

theorem rangeEqN_elim {f : Nat → Bool} {w : Bool} {len s e : Nat} (h : rangeEqN f w len s e = true) :
    w = true ∨ ∀ k, k < e - s → f (s + k) = true := by
  unfold rangeEqN at h
  split at h
  · split at h
    · simp only [List.all_eq_true, List.mem_range] at h
      exact Or.inr h
    · exact Or.inl h
  · exact Or.inr (fun k hk => by omega)

theorem rangeEq_elim {f : Nat → Bool} {w : Bool} {len : Nat} {so eo : Int} {s e : Nat} (h : rangeEq f w len so eo = true)
    (hs : so = (s : Int)) (he : eo = (e : Int)) : w = true ∨ ∀ k, k < e - s → f (s + k) = true := by
  subst hs he
  unfold rangeEq at h
  simp only [Int.natCast_nonneg, and_self, if_true, Int.toNat_natCast] at h
  exact rangeEqN_elim h

/-! ### containers -/

/-- what a read of target `p` looks at in the fields of a struct column -/
def structContent (p : Target) (fs fs' : ArrFields) (i : Nat) : Bool :=
  match p with
  | .struct tfs => namedEq tfs fs fs' i
  | .tuple ts | .tupleStruct ts => tupleEq ts fs fs' i
  | .map _ w => allEq w fs fs' i
  | .any | .ignored => allEq .any fs fs' i
  | _ => true

theorem touchEqW_struct {o : Bool} {p : Target} {len : Nat} {v : Option Bits} {fs : ArrFields} {a' : Arr} {i : Nat}
    (h : touchEqW o p (.struct len v fs) a' i = true) :
    ∃ len' v' fs', a' = .struct len' v' fs' ∧ RowAgree o i len len' v v' (structContent p fs fs' i = true) := by
  unfold touchEqW at h
  split at h
  · exact ⟨_, _, _, rfl, rowEq_elim h⟩
  · cases h

/-- the elements of a list-like column: the children are equal, or every designated element agrees -/
def ElemsAgree (et : Target) (el el' : Arr) (s e : Nat) : Prop :=
  el = el' ∨ ∀ k, k < e - s → touchEq et el el' (s + k) = true

/-- what a read of target `p` looks at in row `i` of a list column -/
def ListAgree (p : Target) (offs offs' : List Int) (el el' : Arr) (i : Nat) : Prop :=
  readsList p = true → offs[i]? = offs'[i]? ∧ offs[i + 1]? = offs'[i + 1]? ∧
    ∀ (et : Target) (s e : Nat), elemTarget? p = some et → offs[i]? = some (s : Int) → offs[i + 1]? = some (e : Int) → ElemsAgree et el el' s e

theorem touchEqW_list {o : Bool} {p : Target} {l : Bool} {v : Option Bits} {offs : List Int} {fm : FieldMeta} {el : Arr}
    {a' : Arr} {i : Nat} (h : touchEqW o p (.list l v offs fm el) a' i = true) :
    ∃ l' v' offs' fm' el', a' = .list l' v' offs' fm' el' ∧
      RowAgree o i (offs.length - 1) (offs'.length - 1) v v' (ListAgree p offs offs' el el' i) := by
  unfold touchEqW at h
  split at h
  · refine ⟨_, _, _, _, _, rfl, (rowEq_elim h).mono (fun hc => ?_)⟩
    intro hr
    simp only [hr, Bool.not_true, Bool.false_or, Bool.and_eq_true, decide_eq_true_eq] at hc
    refine ⟨hc.1.1, hc.1.2, ?_⟩
    intro et s e het hs he
    have h3 := hc.2
    simp only [het] at h3
    exact (rangeEq_elim h3 (getD_of_getElem? hs) (getD_of_getElem? he)).imp of_decide_eq_true id
  · cases h

/-- what a read of target `p` looks at in row `i` of a fixed-size-list column -/
def FslAgree (p : Target) (n : Int) (el el' : Arr) (i : Nat) : Prop :=
  ∀ et, fslElemTarget? p = some et → 0 ≤ n → ElemsAgree et el el' (i * n.toNat) ((i + 1) * n.toNat)

theorem touchEqW_fsl {o : Bool} {p : Target} {len : Nat} {v : Option Bits} {n : Int} {fm : FieldMeta} {el : Arr} {a' : Arr}
    {i : Nat} (h : touchEqW o p (.fixedSizeList len v n fm el) a' i = true) :
    ∃ len' v' fm' el', a' = .fixedSizeList len' v' n fm' el' ∧ RowAgree o i len len' v v' (FslAgree p n el el' i) := by
  unfold touchEqW at h
  split at h
  · simp only [Bool.and_eq_true, decide_eq_true_eq] at h
    obtain ⟨rfl, hs⟩ := h
    refine ⟨_, _, _, _, rfl, (rowEq_elim hs).mono (fun hc => ?_)⟩
    intro et het hn
    simp only [het, hn, if_true] at hc
    exact (rangeEqN_elim hc).imp of_decide_eq_true id
  · cases h

/-- what a read of target `p` looks at in row `i` of a map column -/
def MapAgree (p : Target) (offs offs' : List Int) (ks ks' vs vs' : Arr) (i : Nat) : Prop :=
  ∀ kt vt, entryTargets? p = some (kt, vt) → offs[i]? = offs'[i]? ∧ offs[i + 1]? = offs'[i + 1]? ∧
    ∀ (s e : Nat), offs[i]? = some (s : Int) → offs[i + 1]? = some (e : Int) → ElemsAgree kt ks ks' s e ∧ ElemsAgree vt vs vs' s e

theorem touchEqW_map {o : Bool} {p : Target} {v : Option Bits} {offs : List Int} {mm : MapMeta} {ks vs : Arr} {a' : Arr}
    {i : Nat} (h : touchEqW o p (.map v offs mm ks vs) a' i = true) :
    ∃ v' offs' mm' ks' vs', a' = .map v' offs' mm' ks' vs' ∧
      RowAgree o i (offs.length - 1) (offs'.length - 1) v v' (MapAgree p offs offs' ks ks' vs vs' i) := by
  unfold touchEqW at h
  split at h
  · refine ⟨_, _, _, _, _, rfl, (rowEq_elim h).mono (fun hc => ?_)⟩
    intro kt vt het
    simp only [het, Bool.and_eq_true, decide_eq_true_eq] at hc
    refine ⟨hc.1.1.1, hc.1.1.2, ?_⟩
    intro s e hs he
    exact ⟨(rangeEq_elim hc.1.2 (getD_of_getElem? hs) (getD_of_getElem? he)).imp of_decide_eq_true id,
      (rangeEq_elim hc.2 (getD_of_getElem? hs) (getD_of_getElem? he)).imp of_decide_eq_true id⟩
  · cases h

theorem touchEqW_dictionary {o : Bool} {p : Target} {ks vs : Arr} {a' : Arr} {i : Nat}
    (h : touchEqW o p (.dictionary ks vs) a' i = true) :
    ∃ ks' vs', a' = .dictionary ks' vs' ∧ kind ks = kind ks' ∧ kind vs = kind vs' ∧
      (∀ ty kv kvals, ks = .prim ty kv kvals → touchEqW false p ks ks' i = true) ∧
      (∀ ty kv kvals vty vv voffs vdata k, ks = .prim ty kv kvals → vs = .bytes vty vv voffs vdata →
        isValid kv i = .ok true → kvals[i]? = some k → 0 ≤ k → touchEqW false p vs vs' k.toNat = true) := by
  unfold touchEqW at h
  split at h
  · simp only [Bool.and_eq_true, beq_iff_eq] at h
    refine ⟨_, _, rfl, h.1.1, h.1.2, ?_, ?_⟩
    · intro ty kv kvals hks
      have h2 := h.2
      subst hks
      simp only [Bool.and_eq_true] at h2
      exact h2.1
    · intro ty kv kvals vty vv voffs vdata k hks hvs hv hk h0
      have h2 := h.2
      subst hks hvs
      simp only [Bool.and_eq_true, hv, hk, h0, if_true] at h2
      exact h2.2
  · cases h

theorem touchEqW_union {o : Bool} {p : Target} {types : List Int} {offs : Option (List Int)} {fs : ArrUFields} {a' : Arr}
    {i : Nat} (h : touchEqW o p (.union types offs fs) a' i = true) :
    ∃ types' offs' fs', a' = .union types' offs' fs' ∧ unionHead types offs i = unionHead types' offs' i ∧
      fs.length = fs'.length ∧
      ∀ t ofs off, types[i]? = some t → offs = some ofs → ofs[i]? = some off → 0 ≤ t → 0 ≤ off →
        variantEq (variantTarget? p t.toNat) fs fs' t.toNat off.toNat = true := by
  unfold touchEqW at h
  split at h
  · simp only [Bool.and_eq_true, decide_eq_true_eq] at h
    refine ⟨_, _, _, rfl, h.1.1, h.1.2, ?_⟩
    intro t ofs off ht ho hoff h0 h1
    have h2 := h.2
    subst ho
    simp only [ht, hoff, h0, h1, and_self, if_true] at h2
    exact h2
  · cases h

theorem kind_eq_prim {a : Arr} (h : kind a = 2) : ∃ ty v vals, a = .prim ty v vals := by
  cases a <;> first | exact absurd h (Nat.ne_of_beq_eq_false rfl) | exact ⟨_, _, _, rfl⟩

theorem kind_eq_bytes {a : Arr} (h : kind a = 6) : ∃ ty v offs data, a = .bytes ty v offs data := by
  cases a <;> first | exact absurd h (Nat.ne_of_beq_eq_false rfl) | exact ⟨_, _, _, _, rfl⟩

theorem kind_eq_struct {a : Arr} (h : kind a = 9) : ∃ len v fs, a = .struct len v fs := by
  cases a <;> first | exact absurd h (Nat.ne_of_beq_eq_false rfl) | exact ⟨_, _, _, rfl⟩

theorem kind_eq_list {a : Arr} (h : kind a = 10) : ∃ l v offs fm el, a = .list l v offs fm el := by
  cases a <;> first | exact absurd h (Nat.ne_of_beq_eq_false rfl) | exact ⟨_, _, _, _, _, rfl⟩

theorem kind_eq_fsl {a : Arr} (h : kind a = 11) : ∃ len v n fm el, a = .fixedSizeList len v n fm el := by
  cases a <;> first | exact absurd h (Nat.ne_of_beq_eq_false rfl) | exact ⟨_, _, _, _, _, rfl⟩

theorem kind_eq_map {a : Arr} (h : kind a = 12) : ∃ v offs mm ks vs, a = .map v offs mm ks vs := by
  cases a <;> first | exact absurd h (Nat.ne_of_beq_eq_false rfl) | exact ⟨_, _, _, _, _, rfl⟩

theorem kind_eq_union {a : Arr} (h : kind a = 14) : ∃ types offs fs, a = .union types offs fs := by
  cases a <;> first | exact absurd h (Nat.ne_of_beq_eq_false rfl) | exact ⟨_, _, _, rfl⟩

/-! ### a column of another kind than a reader's `match` names (the hypotheses of `Read.readAs_bytes_other` …) -/

theorem ne_struct_of_kind {a : Arr} (h : kind a ≠ 9) (len : Nat) (v : Option Bits) (fs : ArrFields) : a ≠ .struct len v fs :=
  fun e => h (e ▸ rfl)

theorem ne_list_of_kind {a : Arr} (h : kind a ≠ 10) (l : Bool) (v : Option Bits) (offs : List Int) (fm : FieldMeta) (el : Arr) :
    a ≠ .list l v offs fm el :=
  fun e => h (e ▸ rfl)

theorem ne_fsl_of_kind {a : Arr} (h : kind a ≠ 11) (len : Nat) (v : Option Bits) (n : Int) (fm : FieldMeta) (el : Arr) :
    a ≠ .fixedSizeList len v n fm el :=
  fun e => h (e ▸ rfl)

theorem ne_map_of_kind {a : Arr} (h : kind a ≠ 12) (v : Option Bits) (offs : List Int) (mm : MapMeta) (ks vs : Arr) :
    a ≠ .map v offs mm ks vs :=
  fun e => h (e ▸ rfl)

theorem ne_union_of_kind {a : Arr} (h : kind a ≠ 14) (types : List Int) (offs : Option (List Int)) (fs : ArrUFields) :
    a ≠ .union types offs fs :=
  fun e => h (e ▸ rfl)

/-! ### the target layers -/

theorem touchEq_newtype (t : Target) (a a' : Arr) (i : Nat) : touchEq (.newtype t) a a' i = touchEq t a a' i := rfl

theorem touchEq_option (t : Target) (a a' : Arr) (i : Nat) :
    touchEq (.option t) a a' i = touchEqW true (peelTarget t).1 a a' i := by
  unfold touchEq optOf
  simp only [peelTarget, Bool.true_or]

theorem touchEq_any (a a' : Arr) (i : Nat) : touchEq .any a a' i = touchEqW true .any a a' i := by
  unfold touchEq optOf
  simp [peelTarget, isAnyLike]

/-! ### fields of struct columns, children of union columns -/

theorem allEq_nil {t : Target} {fs' : ArrFields} {i : Nat} (h : allEq t .nil fs' i = true) : fs' = .nil := by
  unfold allEq at h
  split at h
  · rfl
  · cases h

theorem allEq_cons {t : Target} {fm : FieldMeta} {c : Arr} {r fs' : ArrFields} {i : Nat}
    (h : allEq t (.cons fm c r) fs' i = true) :
    ∃ fm' c' r', fs' = .cons fm' c' r' ∧ fm.name = fm'.name ∧ touchEq t c c' i = true ∧ allEq t r r' i = true := by
  unfold allEq at h
  split at h
  · simp only [Bool.and_eq_true, decide_eq_true_eq] at h
    exact ⟨_, _, _, rfl, h.1.1, h.1.2, h.2⟩
  · cases h

theorem namedEq_nil {tfs : TFields} {fs' : ArrFields} {i : Nat} (h : namedEq tfs .nil fs' i = true) : fs' = .nil := by
  unfold namedEq at h
  split at h
  · rfl
  · cases h

theorem namedEq_cons {tfs : TFields} {fm : FieldMeta} {c : Arr} {r fs' : ArrFields} {i : Nat}
    (h : namedEq tfs (.cons fm c r) fs' i = true) :
    ∃ fm' c' r', fs' = .cons fm' c' r' ∧ fm.name = fm'.name ∧
      (∀ tt, tfieldNamed tfs fm.name = some tt → touchEq tt c c' i = true) ∧
      (tfieldNamed tfs fm.name = none → touchEqW true .any c c' i = true) ∧ namedEq tfs r r' i = true := by
  unfold namedEq at h
  split at h
  · simp only [Bool.and_eq_true, decide_eq_true_eq] at h
    refine ⟨_, _, _, rfl, h.1.1, ?_, ?_, h.2⟩
    · intro tt htt
      have h2 := h.1.2
      simp only [htt] at h2
      exact h2
    · intro htt
      have h2 := h.1.2
      simp only [htt] at h2
      exact h2
  · cases h

theorem tupleEq_cons_nil {t : Target} {ts : Targets} {fs' : ArrFields} {i : Nat} (h : tupleEq (.cons t ts) .nil fs' i = true) :
    fs' = .nil := by
  unfold tupleEq at h
  split at h
  · rfl
  · cases h

theorem tupleEq_cons_cons {t : Target} {ts : Targets} {fm : FieldMeta} {c : Arr} {r fs' : ArrFields} {i : Nat}
    (h : tupleEq (.cons t ts) (.cons fm c r) fs' i = true) :
    ∃ fm' c' r', fs' = .cons fm' c' r' ∧ touchEq t c c' i = true ∧ tupleEq ts r r' i = true := by
  unfold tupleEq at h
  split at h
  · simp only [Bool.and_eq_true] at h
    exact ⟨_, _, _, rfl, h.1, h.2⟩
  · cases h

theorem variantEq_zero {vt : String → Option Target} {tid : Int} {fm : FieldMeta} {c : Arr} {r fs' : ArrUFields} {j : Nat}
    (h : variantEq vt (.cons tid fm c r) fs' 0 j = true) :
    ∃ tid' fm' c' r', fs' = .cons tid' fm' c' r' ∧ fm.name = fm'.name ∧ ∀ t, vt fm.name = some t → touchEq t c c' j = true := by
  unfold variantEq at h
  split at h
  · simp only [Bool.and_eq_true, decide_eq_true_eq] at h
    refine ⟨_, _, _, _, rfl, h.1, ?_⟩
    intro t ht
    have h2 := h.2
    simp only [ht] at h2
    exact h2
  · cases h

theorem variantEq_succ {vt : String → Option Target} {tid : Int} {fm : FieldMeta} {c : Arr} {r fs' : ArrUFields} {k j : Nat}
    (h : variantEq vt (.cons tid fm c r) fs' (k + 1) j = true) :
    ∃ tid' fm' c' r', fs' = .cons tid' fm' c' r' ∧ variantEq vt r r' k j = true := by
  unfold variantEq at h
  split at h
  · exact ⟨_, _, _, _, rfl, h⟩
  · cases h

end SaModel.Props.C17
