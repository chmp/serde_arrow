import SaModel.Lemmas.C01NewShape
import SaModel.Lemmas.C01CompDefs
import SaModel.Lemmas.C01CompLeaf
/-
C01's `Safe` (hypothesis of the `Safe`-carrying C01 / C03 theorems; of no C04 theorem, which go through the hidden-rows
refinement of Props/C01Obs.lean) as a DECIDABLE property of the schema.

  safeDT dt n        — `Safe` of the builder `build_builder` creates for a field ⟨dt, n, _⟩
  defSafeDT dt n md  — `DefSafe` of that builder
  safe_iff_shape     : Shape b dt n md → (Safe b ↔ safeDT dt n = true) ∧ (DefSafe b ↔ defSafeDT dt n md = true)
  safe_of_schema     : fields.all coveredF → safeFs (ofList fields) → newRoot fields = ok root0 → Safe root0
  safe_schema_iff    : fields.all coveredF → newRoot fields = ok root0 → (Safe root0 ↔ safeFs (ofList fields) = true)

`Safe` fails exactly for a dictionary with non-nullable keys that receives `serialize_default`: below a nullable
struct / fixed-size list (directly, through non-nullable structs / fixed-size lists, or as the first non-placeholder
variant of a union).
-/
namespace SaModel.Build
open SaModel SaModel.Spec

mutual
def defSafeDT : DataType → Bool → Metadata → Bool
  | .dictionary _ _, n, _ => n
  | .struct fs, _, _ => defSafeFs fs
  | .fixedSizeList f _, _, _ => defSafeF f
  | .union ufs _, _, _ => defSafeFirstU ufs
  | _, _, _ => true
def defSafeF : Field → Bool
  | .mk _ dt n md => defSafeDT dt n md
def defSafeFs : Fields → Bool
  | .nil => true
  | .cons f r => defSafeF f && defSafeFs r
/-- the variant `UnionBuilder::serialize_default` delegates to: the first that is not a placeholder -/
def defSafeFirstU : UFields → Bool
  | .nil => true
  | .cons _ f r => if isPlaceholderF f then defSafeFirstU r else defSafeF f
end

mutual
def safeDT : DataType → Bool → Bool
  | .list f, _ => safeF f
  | .largeList f, _ => safeF f
  | .fixedSizeList f _, n => safeF f && (!n || defSafeF f)
  | .map (.mk _ (.struct (.cons kf (.cons vf _))) _ _) _, _ => safeF kf && safeF vf
  | .struct fs, n => safeFs fs && (!n || defSafeFs fs)
  | .union ufs _, _ => safeUs ufs
  | .dictionary _ v, _ => safeDT v false     -- the value builder is the builder of the non-nullable value field
  | _, _ => true
def safeF : Field → Bool
  | .mk _ dt n _ => safeDT dt n
def safeFs : Fields → Bool
  | .nil => true
  | .cons f r => safeF f && safeFs r
def safeUs : UFields → Bool
  | .nil => true
  | .cons _ f r => safeF f && safeUs r
end

/-- the entries struct of a map: `Safe` of the map builder only looks at the key and value children -/
theorem safeDT_map (f : Field) (s n : Bool) (h : safeF f = true) : safeDT (.map f s) n = true := by
  unfold safeDT
  split <;> first | rfl | skip
  all_goals simp_all [safeF, safeDT, safeFs]

theorem safe_of_intLeaf (b : B) (h : b.isIntLeaf = true) : b.isDict = false ∧ Safe b ∧ DefSafe b := by
  cases b <;> simp [B.isIntLeaf] at h <;> simp [B.isDict, Safe, DefSafe]

theorem safe_of_utf8B (b : B) (h : b.isUtf8B = true) : Safe b := by
  cases b <;> simp [B.isUtf8B] at h <;> simp [Safe]

mutual
/-- **`Safe` / `DefSafe` of a builder are the schema-level conditions `safeDT` / `defSafeDT` of its field** -/
theorem safe_iff_shape : ∀ (b : B) (dt : DataType) (n : Bool) (md : Metadata), Shape b dt n md →
    (Safe b ↔ safeDT dt n = true) ∧ (DefSafe b ↔ defSafeDT dt n md = true)
  | .null _ _, dt, n, md, h => by
    simp only [Shape] at h; obtain ⟨rfl, _⟩ := h; simp [Safe, DefSafe, safeDT, defSafeDT]
  | .unknownVariant _, dt, n, md, h => by
    simp only [Shape] at h; obtain ⟨rfl, _⟩ := h; simp [Safe, DefSafe, safeDT, defSafeDT]
  | .leaf _ k v _, dt, n, md, h => by
    simp only [Shape] at h
    cases dt <;> simp [kindOf] at h <;> simp [Safe, DefSafe, safeDT, defSafeDT]
  | .bytes _ ty _ _ _, dt, n, md, h => by
    simp only [Shape] at h; obtain ⟨rfl, _⟩ := h
    cases ty <;> simp [Safe, DefSafe, safeDT, defSafeDT, bytesDT]
  | .bytesView _ ty _ _ _, dt, n, md, h => by
    simp only [Shape] at h; obtain ⟨rfl, _⟩ := h
    cases ty <;> simp [Safe, DefSafe, safeDT, defSafeDT, viewDT]
  | .fixedSizeBinary _ _ _ _ _ _, dt, n, md, h => by
    simp only [Shape] at h; obtain ⟨rfl, _⟩ := h; simp [Safe, DefSafe, safeDT, defSafeDT]
  | .list _ large _ v _ el, dt, n, md, h => by
    simp only [Shape] at h
    obtain ⟨_, cname, cdt, cn, cmd, rfl, hel⟩ := h
    have ih := safe_iff_shape el cdt cn cmd hel
    cases large <;> simp [Safe, DefSafe, safeDT, defSafeDT, safeF, ih.1]
  | .fixedSizeList _ _ k _ v _ el, dt, n, md, h => by
    simp only [Shape] at h
    obtain ⟨hv, cname, cdt, cn, cmd, rfl, hel⟩ := h
    have ih := safe_iff_shape el cdt cn cmd hel
    simp only [Safe, DefSafe, safeDT, defSafeDT, safeF, defSafeF, hv, ih.1, ih.2]
    cases n <;> simp
  | .map _ _ v _ ks vs, dt, n, md, h => by
    simp only [Shape] at h
    obtain ⟨_, ename, kn, kdt, knl, kmd, vn, vdt, vnl, vmd, rest, en, emd, sorted, rfl, hk, hv⟩ := h
    have ihk := safe_iff_shape ks kdt knl kmd hk
    have ihv := safe_iff_shape vs vdt vnl vmd hv
    simp [Safe, DefSafe, safeDT, defSafeDT, safeF, ihk.1, ihv.1]
  | .struct _ _ v fs _ _ _, dt, n, md, h => by
    simp only [Shape] at h
    obtain ⟨hv, sfs, rfl, hl⟩ := h
    have ih := safeL_iff_shape fs sfs hl
    simp only [Safe, DefSafe, safeDT, defSafeDT, hv, ih.1, ih.2]
    cases n <;> simp
  | .dictionary _ idx vals _, dt, n, md, h => by
    simp only [Shape] at h
    obtain ⟨⟨kdt, vdt, rfl, hsv⟩, hi, hn, hu⟩ := h
    have h1 := safe_of_intLeaf idx hi
    have h2 := (safe_iff_shape vals vdt false [] hsv).1
    simp [Safe, DefSafe, safeDT, defSafeDT, h1.1, h1.2.1, h1.2.2, h2, hn]
  | .union _ fs _ _ _, dt, n, md, h => by
    simp only [Shape] at h
    obtain ⟨ufs, mode, rfl, hu⟩ := h
    have ih := safeU_iff_shape fs ufs 0 hu
    simp only [Safe, DefSafe, safeDT, defSafeDT]
    exact ih
theorem safeL_iff_shape : ∀ (bl : BL) (fs : Fields), ShapeL bl fs →
    (SafeL bl ↔ safeFs fs = true) ∧ (DefSafeL bl ↔ defSafeFs fs = true)
  | .nil, .nil, _ => by simp [SafeL, DefSafeL, safeFs, defSafeFs]
  | .cons b m r, .cons (.mk fname fdt fn fmd) rest, h => by
    simp only [ShapeL] at h
    have ih1 := safe_iff_shape b fdt fn fmd h.2.2.1
    have ih2 := safeL_iff_shape r rest h.2.2.2
    simp [SafeL, DefSafeL, safeFs, defSafeFs, safeF, defSafeF, ih1.1, ih1.2, ih2.1, ih2.2]
  | .nil, .cons _ _, h => by simp [ShapeL] at h
  | .cons _ _ _, .nil, h => by simp [ShapeL] at h
theorem safeU_iff_shape : ∀ (bl : BL) (ufs : UFields) (k : Nat), ShapeU bl ufs k →
    (SafeL bl ↔ safeUs ufs = true) ∧ (DefSafeFirst bl ↔ defSafeFirstU ufs = true)
  | .nil, .nil, _, _ => by simp [SafeL, DefSafeFirst, safeUs, defSafeFirstU]
  | .cons b m r, .cons tid (.mk fname fdt fn fmd) rest, k, h => by
    simp only [ShapeU] at h
    have ih1 := safe_iff_shape b fdt fn fmd h.2.1
    have ih2 := safeU_iff_shape r rest (k + 1) h.2.2
    have hp := Shape_placeholder h.2.1
    refine ⟨by simp [SafeL, safeUs, safeF, ih1.1, ih2.1], ?_⟩
    simp only [DefSafeFirst, defSafeFirstU, isPlaceholderF, defSafeF, ← hp, ih1.2, ih2.2]
    cases b.isPlaceholder <;> simp
  | .nil, .cons _ _ _, _, h => by simp [ShapeU] at h
  | .cons _ _ _, .nil, _, h => by simp [ShapeU] at h
end

/-- the direction the C01 / C03 / C04 theorems use -/
theorem safe_of_shape (b : B) (dt : DataType) (n : Bool) (md : Metadata) (h : Shape b dt n md) :
    (safeDT dt n = true → Safe b) ∧ (defSafeDT dt n md = true → DefSafe b) :=
  ⟨(safe_iff_shape b dt n md h).1.2, (safe_iff_shape b dt n md h).2.2⟩

theorem safeL_of_shape (bl : BL) (fs : Fields) (h : ShapeL bl fs) :
    (safeFs fs = true → SafeL bl) ∧ (defSafeFs fs = true → DefSafeL bl) :=
  ⟨(safeL_iff_shape bl fs h).1.2, (safeL_iff_shape bl fs h).2.2⟩

theorem safeU_of_shape (bl : BL) (ufs : UFields) (k : Nat) (h : ShapeU bl ufs k) :
    (safeUs ufs = true → SafeL bl) ∧ (defSafeFirstU ufs = true → DefSafeFirst bl) :=
  ⟨(safeU_iff_shape bl ufs k h).1.2, (safeU_iff_shape bl ufs k h).2.2⟩

/-- **`Safe` of the root builder is the decidable condition `safeFs` of the schema** (exact) -/
theorem safe_schema_iff (fields : List Field) (hc : fields.all coveredF = true) :
    ∀ root0, newRoot fields = .ok root0 → (Safe root0 ↔ safeFs (Fields.ofList fields) = true) := by
  intro root0 h0
  have hs := newRoot_shape hc h0
  have := (safe_iff_shape root0 _ _ _ hs).1
  simpa [safeDT] using this

theorem safe_of_schema (fields : List Field) (hc : fields.all coveredF = true)
    (hs : safeFs (Fields.ofList fields) = true) : ∀ root0, newRoot fields = .ok root0 → Safe root0 :=
  fun root0 h0 => (safe_schema_iff fields hc root0 h0).2 hs

/-! ### the condition is neither vacuous nor trivial -/

/-- dictionaries at the top level of the root struct (which is not nullable) are fine, nullable or not -/
example : safeFs (Fields.ofList
    [.mk "s" (.dictionary .uint32 .largeUtf8) false [], .mk "t" (.dictionary .uint32 .largeUtf8) true []]) = true := by
  decide

/-- `Option<struct { s: String }>` with `string_dictionary_encoding`: the non-nullable dictionary below a nullable struct -/
example : safeFs (Fields.ofList
    [.mk "o" (.struct (.cons (.mk "s" (.dictionary .uint32 .largeUtf8) false []) .nil)) true []]) = false := by
  decide

/-- … and it is fine again when the dictionary itself is nullable -/
example : safeFs (Fields.ofList
    [.mk "o" (.struct (.cons (.mk "s" (.dictionary .uint32 .largeUtf8) true []) .nil)) true []]) = true := by
  decide

end SaModel.Build
