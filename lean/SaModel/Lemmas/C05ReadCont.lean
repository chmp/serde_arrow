import SaModel.Lemmas.C02TypedCont
import SaModel.Lemmas.C02TypedLeaf
/-
C02 / C05, typed reads: the side condition `noKnown` (the two recorded known findings, anywhere in the value) and
one lemma per target constructor.  `ReadHonours t`: at every slot whose Arrow reading is defined `readAs t` HONOURS the
value-level specification `cast t` — it returns the value demanded (`Sound t`, C02) and fails where the read must fail
(`Rej t`, C05; outside `noKnown`).  Every lemma takes `ReadHonours` of the component targets as hypotheses;
`Props/C02.lean` ties the knot by structural recursion over `Target`.  Here: scalar targets (the `Rej` half), the combinators, `Option`,
newtype, sequences, `&[u8]`, `ByteBuf`.
-/
namespace SaModel.Read
open SaModel SaModel.Spec

/-! ### scalar targets.  Whenever the value-level specification `castScalar` says the read
must fail (null into a non-Option target; integer out of the target's range; not a char), `deserialize_<m>` + the
visitor fail — except for known finding #24 (integer column read as bool), excluded by `intAsBool`.  This is the failing
half of `scalar_honours` (`Lemmas/C02TypedLeaf.lean`), where the two tables are compared cell by cell. -/

theorem scalar_rej {t : Target} {m : Method} (hm : methodOf t = some m) (a : Arr) (i : Nat) (lv : LVal) (e : Fail)
    (h : decodeAt a i = .ok lv) (hn : new Fixes.all a = .ok ()) (hp : physical a = true) (hu : utf8Ok lv = true)
    (hk : intAsBool t a lv = false)
    (hc : castScalar t a lv = .error e) : (scalar Fixes.all m a i >>= accept t).isOk = false :=
  (scalar_honours hm a i lv h hn hp hu).rej (by rw [hk]; rfl) hc

/-! ### the side condition -/

def allVals (f : LVal → Bool) : LVals → Bool
  | .nil => true
  | .cons v r => f v && allVals f r

def allEntries (fk fv : LVal → Bool) : LEntries → Bool
  | .nil => true
  | .cons k v r => fk k && fv v && allEntries fk fv r

def allStructAsMap (f : Arr → LVal → Bool) : ArrFields → LFields → Bool
  | .cons _ a rest, .cons _ lv lrest => f a lv && allStructAsMap f rest lrest
  | _, _ => true

/-- **known finding #23** (C05-null-container-into-non-option) at a struct column: a null slot read into a tuple /
struct / map target -/
def structPart (f : ArrFields → LFields → Bool) (a : Arr) (lv : LVal) : Bool :=
  match a, lv with
  | .struct _ _ fs, .struct lfs => f fs lfs
  | .struct _ _ _, .null => false
  | _, _ => true

mutual
/-- `noKnown t a lv`: reading the value `lv` of column `a` into `t` meets neither known finding anywhere:
* #23 — a NULL Struct / List / LargeList / FixedSizeList / Map slot read into a non-`Option` container target
  (`Vec`, tuple, tuple struct, map, struct, tuple / struct variant payload, `ByteBuf` from a list);
* #24 — an integer column read as `bool` with a value other than 0 / 1.
Mirrors the recursion of `cast` (decidable: a `Bool`). -/
def noKnown : Target → Arr → LVal → Bool
  | .any, _, _ => true
  | .ignored, _, _ => true
  | .option t, a, lv =>
    match lv with
    | .null => true
    | lv => noKnown t a lv
  | .newtype t, a, lv => noKnown t a lv
  | .seq t, a, lv =>
    match a, lv with
    | .list _ _ _ _ el, .list items => allVals (fun v => noKnown t el v) items
    | .fixedSizeList _ _ _ _ el, .list items => allVals (fun v => noKnown t el v) items
    | .list _ _ _ _ _, .null => false
    | .fixedSizeList _ _ _ _ _, .null => false
    | _, _ => true
  | .tuple ts, a, lv => structPart (fun fs lfs => noKnownTuple ts fs lfs) a lv
  | .tupleStruct ts, a, lv => structPart (fun fs lfs => noKnownTuple ts fs lfs) a lv
  | .map k v, a, lv =>
    match a, lv with
    | .struct _ _ fs, .struct lfs => allStructAsMap (fun c w => noKnown v c w) fs lfs
    | .map _ _ _ ks vs, .map es => allEntries (fun w => noKnown k ks w) (fun w => noKnown v vs w) es
    | .struct _ _ _, .null => false
    | .map _ _ _ _ _, .null => false
    | _, _ => true
  | .struct tfs, a, lv => structPart (fun fs lfs => noKnownFields tfs fs lfs) a lv
  | .enum byIndex vs, a, lv =>
    match a, lv with
    | .union _ _ fs, .union t v =>
      (match ArrUFields.findId fs t with
       | none => true
       | some (fm, child) =>
         if byIndex then noKnownVariant vs (some t.toNat) fm.name child v else noKnownVariant vs none fm.name child v)
    | _, _ => true
  | .bool, a, lv => !intAsBool .bool a lv
  | .byteBuf, a, lv =>
    match a, lv with
    | .list _ _ _ _ _, .null => false
    | _, _ => true
  | .unit, _, _ => true
  | .unitStruct, _, _ => true
  | .int _, _, _ => true
  | .f32, _, _ => true
  | .f64, _, _ => true
  | .char, _, _ => true
  | .string, _, _ => true
  | .str, _, _ => true
  | .bytes, _, _ => true
def noKnownTuple : Targets → ArrFields → LFields → Bool
  | .cons t rest, .cons _ a frest, .cons _ v lrest => noKnown t a v && noKnownTuple rest frest lrest
  | _, _, _ => true
def noKnownFields : TFields → ArrFields → LFields → Bool
  | .nil, _, _ => true
  | .cons n t rest, fs, lfs =>
    (match fieldNamed fs lfs n with
     | some (a, v) => noKnown t a v
     | none => true) && noKnownFields rest fs lfs
def noKnownVariant : TVariants → Option Nat → String → Arr → LVal → Bool
  | .nil, _, _, _, _ => true
  | .cons n k rest, sel, name, child, v =>
    if (match sel with | some i => i == 0 | none => n == name) then noKnownKind k child v
    else noKnownVariant rest (sel.map (· - 1)) name child v
def noKnownKind : VKind → Arr → LVal → Bool
  | .unit, _, _ => true
  | .newtype t, child, v => noKnown t child v
  | .tuple ts, child, v => structPart (fun fs lfs => noKnownTuple ts fs lfs) child v
  | .struct tfs, child, v => structPart (fun fs lfs => noKnownFields tfs fs lfs) child v
end

def Rej (t : Target) : Prop :=
  ∀ (a : Arr) (i : Nat) (lv : LVal) (e : Fail), decodeAt a i = .ok lv → new Fixes.all a = .ok () → physical a = true →
    utf8Ok lv = true → noKnown t a lv = true → cast t a lv = .error e → (readAs Fixes.all t a i).isOk = false

/-- `ReadHonours t`: at every slot whose Arrow reading is defined, `readAs t` honours the value-level specification
`cast t`: it returns the value demanded, and fails where the read must fail — the latter outside the two known findings
(`noKnown`) -/
def ReadHonours (t : Target) : Prop :=
  ∀ (a : Arr) (i : Nat) (lv : LVal), decodeAt a i = .ok lv → new Fixes.all a = .ok () → physical a = true →
    utf8Ok lv = true → Honours (noKnown t a lv) (readAs Fixes.all t a i) (cast t a lv)

theorem ReadHonours.at {t : Target} (h : ReadHonours t) {a : Arr} {i : Nat} {lv : LVal} (s : Slot a i lv) :
    Honours (noKnown t a lv) (readAs Fixes.all t a i) (cast t a lv) := h a i lv s.dec s.new s.phys s.utf8

theorem ReadHonours.sound {t : Target} (h : ReadHonours t) : Sound t :=
  fun a i lv _ hd hn hp hu hc => (h a i lv hd hn hp hu).sound hc

theorem ReadHonours.rej {t : Target} (h : ReadHonours t) : Rej t :=
  fun a i lv _ hd hn hp hu hk hc => (h a i lv hd hn hp hu).rej hk hc

/-! ### combinators -/

theorem andThen_err {x : Claim} {f : DVal → Claim} {e : Fail} (hf : ∀ d e', f d ≠ .error e')
    (h : x.andThen f = .error e) : x = .error e := by
  unfold Claim.andThen at h
  split at h
  · exact absurd h (hf _ _)
  · simp [na] at h
  · exact h

theorem andThenL_err {x : R (Option (List DVal))} {f : List DVal → Claim} {e : Fail} (hf : ∀ d e', f d ≠ .error e')
    (h : andThenL x f = .error e) : x = .error e := by
  unfold andThenL at h
  split at h
  · exact absurd h (hf _ _)
  · simp [na] at h
  · cases h; rfl

theorem andThenE_err {x : R (Option (List (DVal × DVal)))} {f : List (DVal × DVal) → Claim} {e : Fail}
    (hf : ∀ d e', f d ≠ .error e') (h : andThenE x f = .error e) : x = .error e := by
  unfold andThenE at h
  split at h
  · exact absurd h (hf _ _)
  · simp [na] at h
  · cases h; rfl

theorem must_ne_err {d : DVal} {e : Fail} : must d ≠ .error e := by simp [must]

theorem consClaim_err {α} {x : R (Option α)} {rest : R (Option (List α))} {e : Fail}
    (h : consClaim x rest = .error e) : (∃ e', x = .error e') ∨ (∃ e', rest = .error e') := by
  unfold consClaim at h
  split at h
  · exact .inl ⟨_, rfl⟩
  · split at h
    · exact .inr ⟨_, rfl⟩
    · cases h
  · split at h
    · cases h
    · exact .inr ⟨_, h⟩

theorem Honours.weaken {α} {k : Bool} {r : R α} {c : R (Option α)} (h : Honours true r c) : Honours k r c := by
  cases k
  · exact .of_halves (fun _ hc => h.sound hc) (fun _ hk => by cases hk)
  · exact h

/-- a claim passed on under a constructor (`Some`, a sequence, a map, a variant) -/
theorem Honours.andThen {k : Bool} {r : R DVal} {x : Claim} (g : DVal → DVal) (h : Honours k r x) :
    Honours k (do pure (g (← r))) (x.andThen fun d => must (g d)) := by
  cases x with
  | error e => exact .fails fun hk => bind_fails_left (h.rej hk rfl)
  | ok o =>
    cases o with
    | none => trivial
    | some d => cases h.sound rfl; exact rfl

theorem Honours.andThenL {k : Bool} {r : R (List DVal)} {x : R (Option (List DVal))} (g : List DVal → DVal)
    (h : Honours k r x) : Honours k (do pure (g (← r))) (andThenL x fun d => must (g d)) := by
  cases x with
  | error e => exact .fails fun hk => bind_fails_left (h.rej hk rfl)
  | ok o =>
    cases o with
    | none => trivial
    | some d => cases h.sound rfl; exact rfl

theorem Honours.andThenE {k : Bool} {r : R (List (DVal × DVal))} {x : R (Option (List (DVal × DVal)))}
    (g : List (DVal × DVal) → DVal) (h : Honours k r x) :
    Honours k (do pure (g (← r))) (andThenE x fun d => must (g d)) := by
  cases x with
  | error e => exact .fails fun hk => bind_fails_left (h.rej hk rfl)
  | ok o =>
    cases o with
    | none => trivial
    | some d => cases h.sound rfl; exact rfl

/-- the first part and the rest of a sequence -/
theorem Honours.cons {α} {k1 k2 : Bool} {r1 : R α} {r2 : R (List α)} {c1 : R (Option α)} {c2 : R (Option (List α))}
    (h1 : Honours k1 r1 c1) (h2 : Honours k2 r2 c2) :
    Honours (k1 && k2) (do let d ← r1; let ds ← r2; pure (d :: ds)) (consClaim c1 c2) := by
  cases c1 with
  | error e => exact .fails fun hk => bind_fails_left (h1.rej (Bool.and_eq_true_iff.1 hk).1 rfl)
  | ok o1 =>
    cases c2 with
    | error e =>
      have : Honours (k1 && k2) (do let d ← r1; let ds ← r2; pure (d :: ds)) (.error e) :=
        .fails fun hk => bind_fails fun _ _ => bind_fails_left (h2.rej (Bool.and_eq_true_iff.1 hk).2 rfl)
      cases o1 <;> exact this
    | ok o2 =>
      cases o1 with
      | none => trivial
      | some d =>
        cases o2 with
        | none => trivial
        | some ds => cases h1.sound rfl; cases h2.sound rfl; exact rfl

/-- key and value of a map entry -/
theorem Honours.pair {k1 k2 : Bool} {r1 r2 : R DVal} {c1 c2 : Claim} (h1 : Honours k1 r1 c1) (h2 : Honours k2 r2 c2) :
    Honours (k1 && k2) (do let a ← r1; let b ← r2; pure (a, b)) (pairClaim c1 c2) := by
  cases c1 with
  | error e => exact .fails fun hk => bind_fails_left (h1.rej (Bool.and_eq_true_iff.1 hk).1 rfl)
  | ok o1 =>
    cases c2 with
    | error e =>
      have : Honours (k1 && k2) (do let a ← r1; let b ← r2; pure (a, b)) (.error e) :=
        .fails fun hk => bind_fails fun _ _ => bind_fails_left (h2.rej (Bool.and_eq_true_iff.1 hk).2 rfl)
      cases o1 <;> exact this
    | ok o2 =>
      cases o1 with
      | none => cases o2 <;> trivial
      | some d =>
        cases o2 with
        | none => trivial
        | some ds => cases h1.sound rfl; cases h2.sound rfl; exact rfl

/-! ### targets without components, `Option`, newtype -/

theorem honours_any : ReadHonours .any := by
  intro a i lv h hn hp hu
  simp only [cast, readAs]
  exact readAny_decodeAt a i lv h hn hp hu

theorem honours_ignored : ReadHonours .ignored := by
  intro a i lv h hn hp hu
  simp only [cast, readAs, readAny_decodeAt a i lv h hn hp hu]
  exact rfl

/-- the scalar targets whose read is `deserialize_<m>` + the visitor on every column -/
theorem honours_scalar {t : Target} {m : Method} (hm : methodOf t = some m) (hb : t ≠ .bytes) (hb' : t ≠ .byteBuf) :
    ReadHonours t := by
  intro a i lv h hn hp hu
  have hs := scalar_honours hm a i lv h hn hp hu
  cases t <;> cases hm <;> first | exact hs | exact absurd rfl hb | exact absurd rfl hb'

theorem honours_option {t : Target} (hS : ReadHonours t) : ReadHonours (.option t) := by
  intro a i lv h hn hp hu
  have hs := isSome_of_decode a i lv h hn hp hu
  simp only [readAs, hs]
  cases lv with
  | null => exact rfl
  | _ => exact (hS a i _ h hn hp hu).andThen .some

theorem honours_newtype {t : Target} (hS : ReadHonours t) : ReadHonours (.newtype t) := by
  intro a i lv h hn hp hu
  simp only [cast, noKnown, readAs]
  exact hS a i lv h hn hp hu

/-! ### sequences -/

theorem allVals_mem {f : LVal → Bool} : ∀ (xs : List LVal), allVals f (LVals.ofList xs) = true → ∀ v ∈ xs, f v = true
  | [], _, v, hv => by cases hv
  | x :: xs, h, v, hv => by
    simp only [LVals.ofList, allVals, Bool.and_eq_true] at h
    rcases List.mem_cons.1 hv with rfl | hv
    · exact h.1
    · exact allVals_mem xs h.2 v hv

theorem readRange_honours {f : Nat → R LVal} {g : Nat → R DVal} {c : LVal → Claim} {k : LVal → Bool} {P : LVal → Prop}
    (hfg : ∀ j v, f j = .ok v → P v → Honours (k v) (g j) (c v)) :
    ∀ (n s : Nat) (xs : List LVal), seqAt f s n = .ok xs → (∀ v ∈ xs, P v) →
      Honours (allVals k (LVals.ofList xs)) (readRange g s n) (claimVals c (LVals.ofList xs)) :=
  seqAt_induct (fun _ => rfl) fun s n v vs hv hp ih => (hfg s v hv hp).cons ih

theorem u8As_honours (t : Target) (x : UInt8) : Honours true (u8As t x) (u8Claim t x) := by
  cases t with
  | int ty =>
    simp only [u8As, u8Claim]
    cases ty.inRange x.toNat <;> exact rfl
  | _ => exact rfl

theorem mapM_u8As_honours (t : Target) : ∀ (b : Bytes), Honours true (b.mapM (u8As t)) (claimList (b.map (u8Claim t)))
  | [] => rfl
  | x :: b => by
    rw [List.mapM_cons]
    exact (u8As_honours t x).cons (mapM_u8As_honours t b)

/-- a sequence target over the bytes of a binary column (`U8SliceDeserializer`) -/
theorem castBinSeq_honours (t : Target) (b : Bytes) :
    Honours true (do pure (.seq (DVals.ofList (← b.mapM (u8As t))))) (castBinSeq t b) :=
  (mapM_u8As_honours t b).andThenL fun ds => .seq (DVals.ofList ds)

theorem cast_seq_null {t : Target} {a : Arr} : cast (.seq t) a .null = mustFail "null into a non-Option target" := by
  cases a <;> rfl

theorem cast_seq_bin {t : Target} {a : Arr} {b : Bytes} :
    cast (.seq t) a (.bin b) = if isBinaryLike a then castBinSeq t b else mustFail "unsupported (target, column) pair" := by
  cases a <;> rfl

/-- a column that is neither a list nor binary-like answers no sequence target, and `cast` demands no value of it -/
theorem honours_seq_other {t : Target} {a : Arr} {i : Nat} {lv : LVal} {k : Bool}
    (hl : ∀ lg v offs fm el, a ≠ .list lg v offs fm el) (hf : ∀ len v n fm el, a ≠ .fixedSizeList len v n fm el)
    (hb : binaryElems Fixes.all a i = none) (hb' : isBinaryLike a = false) :
    Honours k (readAs Fixes.all (.seq t) a i) (cast (.seq t) a lv) := by
  rw [readAs_seq_other hl hf, hb]
  refine .of_halves (fun d hc => ?_) (fun _ _ _ => rfl)
  simp only [cast] at hc
  split at hc
  all_goals first | exact absurd rfl (hl _ _ _ _ _) | exact absurd rfl (hf _ _ _ _ _) | simp [hb'] at hc

/-- a binary-like column: the sequence visitor gets the bytes of the slot one by one -/
theorem honours_seq_binary {t : Target} {a : Arr} {i : Nat} {lv : LVal} {k : Bool} {get : R (Option Bytes)}
    (hl : ∀ lg v offs fm el, a ≠ .list lg v offs fm el) (hf : ∀ len v n fm el, a ≠ .fixedSizeList len v n fm el)
    (hb : binaryElems Fixes.all a i = some (getRequired get)) (hb' : isBinaryLike a = true)
    (hg : (lv = .null ∧ get = .ok none) ∨ ∃ b, lv = .bin b ∧ get = .ok (some b)) :
    Honours k (readAs Fixes.all (.seq t) a i) (cast (.seq t) a lv) := by
  rw [readAs_seq_other hl hf, hb]
  rcases hg with ⟨rfl, rfl⟩ | ⟨b, rfl, rfl⟩
  · rw [cast_seq_null]
    exact .fails fun _ => rfl
  · rw [cast_seq_bin, hb', if_pos rfl]
    exact (castBinSeq_honours t b).weaken

theorem honours_seq {t : Target} (hS : ReadHonours t) : ReadHonours (.seq t) := by
  intro a i lv h hn hp hu
  cases a with
  | list lg v offs fm el =>
    rcases (Slot.mk h hn hp hu).list with rfl | ⟨xs, s, en, rfl, hr, hseq, hel⟩
    · exact rfl
    · simp only [readAs, hr]
      exact (readRange_honours (P := (· ∈ xs)) (fun j x hj hx => hS.at (hel j x hj hx)) _ _ xs hseq
        fun _ h => h).andThenL fun ds => .seq (DVals.ofList ds)
  | fixedSizeList len v n fm el =>
    rcases (Slot.mk h hn hp hu).fixedSizeList with rfl | ⟨xs, s, en, rfl, hr, hseq, hel⟩
    · exact rfl
    · simp only [readAs, hr]
      exact (readRange_honours (P := (· ∈ xs)) (fun j x hj hx => hS.at (hel j x hj hx)) _ _ xs hseq
        fun _ h => h).andThenL fun ds => .seq (DVals.ofList ds)
  | bytes ty v offs data =>
    cases hty : isUtf8Ty ty with
    | true =>
      exact honours_seq_other (fun _ _ _ _ _ => Arr.noConfusion) (fun _ _ _ _ _ => Arr.noConfusion)
        (by rw [binaryElems, hty]; rfl) (by rw [isBinaryLike, hty]; rfl)
    | false =>
      have hg := bytes_get h hu
      rw [hty] at hg
      exact honours_seq_binary (fun _ _ _ _ _ => Arr.noConfusion) (fun _ _ _ _ _ => Arr.noConfusion)
        (by rw [binaryElems, hty]; rfl) (by rw [isBinaryLike, hty]; rfl) hg
  | bytesView ty v views buffers =>
    cases hty : isUtf8View ty with
    | true =>
      exact honours_seq_other (fun _ _ _ _ _ => Arr.noConfusion) (fun _ _ _ _ _ => Arr.noConfusion)
        (by rw [binaryElems, hty]; rfl) (by rw [isBinaryLike, hty]; rfl)
    | false =>
      have hg := view_get h hu
      rw [hty] at hg
      exact honours_seq_binary (fun _ _ _ _ _ => Arr.noConfusion) (fun _ _ _ _ _ => Arr.noConfusion)
        (by rw [binaryElems, hty]; rfl) (by rw [isBinaryLike, hty]; rfl) hg
  | fixedSizeBinary n v data =>
    exact honours_seq_binary (fun _ _ _ _ _ => Arr.noConfusion) (fun _ _ _ _ _ => Arr.noConfusion) rfl rfl (fsb_get h hn)
  | _ => exact honours_seq_other (fun _ _ _ _ _ => Arr.noConfusion) (fun _ _ _ _ _ => Arr.noConfusion) rfl rfl

/-! ### `&[u8]` and `ByteBuf` -/

theorem allVals_true : ∀ (xs : LVals), allVals (fun _ => true) xs = true
  | .nil => rfl
  | .cons _ r => allVals_true r

/-- `&[u8]`: `visit_seq` is not taken, and a list column answers no scalar method -/
theorem honours_bytes : ReadHonours .bytes := by
  intro a i lv h hn hp hu
  have hs := scalar_honours (t := .bytes) rfl a i lv h hn hp hu
  by_cases hl : ∃ lg v offs fm el, a = .list lg v offs fm el
  · obtain ⟨lg, v, offs, fm, el, rfl⟩ := hl
    refine .of_halves (fun d hc => ?_) (fun _ _ _ => ?_)
    · cases hs.sound hc
    · simp only [readAs]
      exact bind_fails fun _ _ => rfl
  · rw [readAs_bytes_other fun lg v offs fm el he => hl ⟨lg, v, offs, fm, el, he⟩]
    exact hs

/-- `ByteBuf`: from a List / LargeList column every element by value as `u8`; otherwise a scalar read -/
theorem honours_byteBuf : ReadHonours .byteBuf := by
  intro a i lv h hn hp hu
  by_cases hl : ∃ lg v offs fm el, a = .list lg v offs fm el
  · obtain ⟨lg, v, offs, fm, el, rfl⟩ := hl
    rcases (Slot.mk h hn hp hu).list with rfl | ⟨xs, s, en, rfl, hr, hseq, hsl⟩
    · exact rfl
    · have hel := readRange_honours (g := fun j => scalar Fixes.all (.int .u8) el j >>= accept (.int .u8))
        (c := fun x => castScalar (.int .u8) el x) (k := fun _ => true) (P := (· ∈ xs))
        (fun j x hj hx => have sx := hsl j x hj hx; scalar_honours (t := .int .u8) rfl el j x sx.dec sx.new sx.phys sx.utf8)
        _ _ xs hseq fun _ h => h
      rw [allVals_true] at hel
      simp only [readAs, hr]
      exact hel.andThenL fun ds => .bytes .owned (ds.map byteOfD)
  · have hl' : ∀ lg v offs fm el, a ≠ .list lg v offs fm el := fun lg v offs fm el he => hl ⟨lg, v, offs, fm, el, he⟩
    have hc : cast .byteBuf a lv = castScalar .byteBuf a lv ∧ noKnown .byteBuf a lv = true := by
      cases a <;> first | exact absurd rfl (hl' _ _ _ _ _) | exact ⟨rfl, rfl⟩
    rw [readAs_byteBuf_other hl', hc.1, hc.2]
    exact scalar_honours (t := .byteBuf) rfl a i lv h hn hp hu

end SaModel.Read
