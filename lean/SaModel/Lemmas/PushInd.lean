import SaModel.Lemmas.PushRows
import SaModel.Lemmas.OpsInd
/-
What a SUCCESSFUL `push` does, as one induction principle (`PushCases` + `PushCases.push` and its eight siblings).
`PushCases` lists the rows of Lemmas/PushRows.lean with every `bind`, `ctx`, refused builder family, `serializeVariant`
and `SS.element` already resolved: an invariant of `push` gives one motive per function of the mutual block and proves
one clause per row; each clause receives the equations of the run (so that facts proved earlier apply to the same run)
and the motive at the sub-runs.  The successful runs are the outcomes `.ok _` of `PushRowsE` (`PushCases.toRows`), so
the definition of `push` is walked there and nowhere else.
-/
namespace SaModel.Build
open SaModel SaModel.Spec

/-- the converse of `PushCases.element_ok`: a field that is there and not yet seen takes the child's successful call -/
theorem SS.element_wrote {s : SS} {idx : Nat} {pc : B → R B} {c c' : B} {m : FieldMeta} (hseen : s.seen[idx]? = some false)
    (hget : s.fields.get? idx = some (c, m)) (h : pc c = .ok c') : s.element idx pc = .ok (s.wrote idx c') := by
  unfold SS.element
  rw [hseen]
  simp only [hget, h]
  rfl

theorem recordWith_struct {pf : SS → R SS} {b b' : B} (h : recordWith pf b = .ok b') :
    ∃ p len v fs cached next seen, b = .struct p len v fs cached next seen := by
  cases b with
  | struct p len v fs cached next seen => exact ⟨p, len, v, fs, cached, next, seen, rfl⟩
  | _ => cases h

/-- the clauses of the four loops over a struct row; `El` speaks of `SS.element` around a push -/
structure StructLoopCases (ext : Ext) (El : SS → Nat → SVal → SS → Prop) (PT : SS → SVals → SS → Prop)
    (PF : SS → SFields → SS → Prop) (PSE : SS → SEntries → SS → Prop) (PSO : SS → SMapOps → SS → Prop) : Prop where
  tupleNil : ∀ {s}, PT s .nil s
  tupleCons : ∀ {s : SS} {x rest s1 s'}, s.next < s.fields.length → El s s.next x s1 →
    pushTupleElems ext s1 rest = .ok s' → PT s1 rest s' → PT s (.cons x rest) s'
  tupleExtra : ∀ {s : SS} {x rest s'}, ¬ s.next < s.fields.length → pushTupleElems ext s rest = .ok s' → PT s rest s' →
    PT s (.cons x rest) s'
  fieldsNil : ∀ {s}, PF s .nil s
  fieldsCons : ∀ {s : SS} {key al x rest idx cached' s1 s'},
    lookup s.fields.names s.cached s.next (key, al) = (Option.some idx, cached') →
    El { s with cached := cached' } idx x s1 → pushFields ext s1 rest = .ok s' → PF s1 rest s' →
    PF s (.cons key al x rest) s'
  fieldsUnknown : ∀ {s : SS} {key al x rest cached' s'},
    lookup s.fields.names s.cached s.next (key, al) = (Option.none, cached') →
    pushFields ext { s with cached := cached' } rest = .ok s' → PF { s with cached := cached' } rest s' →
    PF s (.cons key al x rest) s'
  entriesNil : ∀ {s}, PSE s .nil s
  entriesCons : ∀ {s : SS} {k x rest key idx} {s1 : SS} {s'}, keyStr k = .ok key → indexOfName s.fields.names key = Option.some idx →
    El s idx x s1 → pushStructEntries ext s1.unkeyed rest = .ok s' → PSE s1.unkeyed rest s' → PSE s (.cons k x rest) s'
  entriesUnknown : ∀ {s : SS} {k x rest key s'}, keyStr k = .ok key → indexOfName s.fields.names key = Option.none →
    pushStructEntries ext s.unkeyed rest = .ok s' → PSE s.unkeyed rest s' → PSE s (.cons k x rest) s'
  opsNil : ∀ {s}, PSO s .nil s
  opsKey : ∀ {s : SS} {k rest key s'}, keyStr k = .ok key →
    pushStructOps ext { s with next := (indexOfName s.fields.names key).getD UNKNOWN_KEY } rest = .ok s' →
    PSO { s with next := (indexOfName s.fields.names key).getD UNKNOWN_KEY } rest s' → PSO s (.key k rest) s'
  opsValue : ∀ {s : SS} {x rest} {s1 : SS} {s'}, s.next ≠ UNKNOWN_KEY → El s s.next x s1 →
    pushStructOps ext s1.unkeyed rest = .ok s' → PSO s1.unkeyed rest s' → PSO s (.value x rest) s'
  opsValueUnkeyed : ∀ {s : SS} {x rest s'}, s.next = UNKNOWN_KEY → pushStructOps ext s.unkeyed rest = .ok s' →
    PSO s.unkeyed rest s' → PSO s (.value x rest) s'

/-- a relation between the state of a struct row before and after some of its fields were written, for invariants that do
not look at the values: the four loops compose its steps -/
structure StructRel (Rel : SS → SS → Prop) : Prop where
  refl : ∀ s, Rel s s
  trans : ∀ {a b c}, Rel a b → Rel b c → Rel a c
  next : ∀ s n, Rel s { s with next := n }
  cached : ∀ {s : SS} {key : String × Nat} {r}, lookup s.fields.names s.cached s.next key = r → Rel s { s with cached := r.2 }

theorem StructRel.loops {ext : Ext} {Rel : SS → SS → Prop} (h : StructRel Rel) :
    StructLoopCases ext (fun s _ _ s' => Rel s s') (fun s _ s' => Rel s s') (fun s _ s' => Rel s s')
      (fun s _ s' => Rel s s') (fun s _ s' => Rel s s') where
  tupleNil := h.refl _
  tupleCons _ hel _ ih := h.trans hel ih
  tupleExtra _ _ ih := ih
  fieldsNil := h.refl _
  fieldsCons heq hel _ ih := h.trans (h.cached heq) (h.trans hel ih)
  fieldsUnknown heq _ ih := h.trans (h.cached heq) ih
  entriesNil := h.refl _
  entriesCons _ _ hel _ ih := h.trans hel (h.trans (h.next _ _) ih)
  entriesUnknown _ _ _ ih := h.trans (h.next _ _) ih
  opsNil := h.refl _
  opsKey _ _ ih := h.trans (h.next _ _) ih
  opsValue _ hel _ ih := h.trans hel (h.trans (h.next _ _) ih)
  opsValueUnkeyed _ _ ih := h.trans (h.next _ _) ih

/-- one clause per thing a successful push does; `P` speaks of `push`, `El` of `SS.element`, the others of the loops -/
structure PushCases (ext : Ext) (P : B → SVal → B → Prop) (El : SS → Nat → SVal → SS → Prop)
    (PE : Bool → B → List Int → SVals → B × List Int → Prop) (PC : B → Nat → SVals → B × Nat → Prop)
    (PT : SS → SVals → SS → Prop) (PF : SS → SFields → SS → Prop) (PSE : SS → SEntries → SS → Prop)
    (PSO : SS → SMapOps → SS → Prop) (PME : List Int → B → B → SEntries → List Int × B × B → Prop)
    (PMO : Bool → List Int → B → B → SMapOps → List Int × B × B → Prop) : Prop
    extends StructLoopCases ext El PT PF PSE PSO where
  fwdSome : ∀ {b v b'}, P b v b' → P b (.some v) b'
  fwdNewtype : ∀ {b n v b'}, P b v b' → P b (.newtypeStruct n v) b'
  null : ∀ {b x b'}, IsUnitLike x → pushNone b = .ok b' → P b x b'
  scalar : ∀ {b x b'}, IsScalar b x → pushScalar ext b x = .ok b' → P b x b'
  list : ∀ {p large fm v offs el x k xs v' o1 el' o2}, IsSeqLike x k xs →
    setValidity v (offs.length - 1) true = .ok v' → duplicateLast offs = .ok o1 →
    pushElems ext large el o1 xs = .ok (el', o2) → PE large el o1 xs (el', o2) →
    P (.list p large fm v offs el) x (.list p large fm v' o2 el')
  /-- bytes into a list are the sequence of their `u8`s (`push_list_bytes`, Lemmas/PushRows.lean): the motive at that
  sequence is at hand -/
  listBytes : ∀ {p large fm v offs el bs v' o1 el' o2},
    setValidity v (offs.length - 1) true = .ok v' → duplicateLast offs = .ok o1 →
    pushByteElems ext large el o1 bs = .ok (el', o2) →
    P (.list p large fm v offs el) (.seq (byteVals bs)) (.list p large fm v' o2 el') →
    P (.list p large fm v offs el) (.bytes bs) (.list p large fm v' o2 el')
  fixedSizeList : ∀ {p fm n len v cur el x k xs v' el'}, IsSeqLike x k xs → setValidity v len true = .ok v' →
    pushCountElems ext el 0 xs = .ok (el', n) → PC el 0 xs (el', n) →
    P (.fixedSizeList p fm n len v cur el) x (.fixedSizeList p fm n (len + 1) v' n el')
  binary : ∀ {p ty v offs data x k xs v' o1 bs o2}, IsSeqLike x k xs → isBinaryTy ty = true →
    setValidity v (offs.length - 1) true = .ok v' → duplicateLast offs = .ok o1 → u8All xs = .ok bs →
    iter bs.length (fun o => incrementLast true (isLargeTy ty) o 1) o1 = .ok o2 →
    P (.bytes p ty v offs data) x (.bytes p ty v' o2 (data ++ bs))
  binaryView : ∀ {p v views buf x k xs v' bs views' buf'}, IsSeqLike x k xs →
    setValidity v views.length true = .ok v' → u8All xs = .ok bs → viewSeq views buf bs = .ok (views', buf') →
    P (.bytesView p .binaryView v views buf) x (.bytesView p .binaryView v' views' buf')
  fixedSizeBinary : ∀ {p len v buf cur x k xs v' bs}, IsSeqLike x k xs → setValidity v len true = .ok v' →
    u8All xs = .ok bs →
    P (.fixedSizeBinary p bs.length len v buf cur) x (.fixedSizeBinary p bs.length (len + 1) v' (buf ++ bs) bs.length)
  structTuple : ∀ {s : SS} {x k xs s1 s2 s3}, IsSeqLike x k xs → k ≠ .seq → s.start = .ok s1 →
    pushTupleElems ext s1 xs = .ok s2 → PT s1 xs s2 → s2.finishRow = .ok s3 → P s.toB x s3.toB
  structRecord : ∀ {s : SS} {n fs s1 s2 s3}, s.start = .ok s1 → pushFields ext s1 fs = .ok s2 → PF s1 fs s2 →
    s2.finishRow = .ok s3 → P s.toB (.record n fs) s3.toB
  structMap : ∀ {s : SS} {es} {s1 : SS} {s2 s3}, s.start = .ok s1 → pushStructEntries ext s1.unkeyed es = .ok s2 →
    PSE s1.unkeyed es s2 → s2.finishRow = .ok s3 → P s.toB (.map es) s3.toB
  structMapRaw : ∀ {s : SS} {ops} {s1 : SS} {s2 s3}, s.start = .ok s1 → pushStructOps ext s1.unkeyed ops = .ok s2 →
    PSO s1.unkeyed ops s2 → s2.finishRow = .ok s3 → P s.toB (.mapRaw ops) s3.toB
  map : ∀ {p mm v offs ks vs es v' o1 o2 ks' vs'},
    setValidity v (offs.length - 1) true = .ok v' → duplicateLast offs = .ok o1 →
    pushMapEntries ext o1 ks vs es = .ok (o2, ks', vs') → PME o1 ks vs es (o2, ks', vs') →
    P (.map p mm v offs ks vs) (.map es) (.map p mm v' o2 ks' vs')
  mapRaw : ∀ {p mm v offs ks vs ops v' o1 o2 ks' vs'},
    setValidity v (offs.length - 1) true = .ok v' → duplicateLast offs = .ok o1 →
    pushMapOps ext false o1 ks vs ops = .ok (o2, ks', vs') → PMO false o1 ks vs ops (o2, ks', vs') →
    P (.map p mm v offs ks vs) (.mapRaw ops) (.map p mm v' o2 ks' vs')
  union : ∀ {p fs types offs cur x i y c m co c'}, IsVariant x i y → fs.get? i = some (c, m) → cur[i]? = some co →
    i ≤ 127 → co + 1 ≤ 2147483647 → push ext c y = .ok c' → P c y c' →
    P (.union p fs types offs cur) x (.union p (fs.set i c') (types ++ [(i : Int)]) (offs ++ [co]) (cur.set i (co + 1)))
  element : ∀ {s : SS} {idx x c m c'}, s.seen[idx]? = some false → s.fields.get? idx = some (c, m) →
    push ext c x = .ok c' → P c x c' → El s idx x (s.wrote idx c')
  elemsNil : ∀ {large el offs}, PE large el offs .nil (el, offs)
  elemsCons : ∀ {large el offs x rest o' el' r}, incrementLast true large offs 1 = .ok o' → push ext el x = .ok el' →
    P el x el' → pushElems ext large el' o' rest = .ok r → PE large el' o' rest r → PE large el offs (.cons x rest) r
  countNil : ∀ {el c}, PC el c .nil (el, c)
  countCons : ∀ {el c x rest el' r}, push ext el x = .ok el' → P el x el' →
    pushCountElems ext el' (c + 1) rest = .ok r → PC el' (c + 1) rest r → PC el c (.cons x rest) r
  mapEntriesNil : ∀ {offs ks vs}, PME offs ks vs .nil (offs, ks, vs)
  mapEntriesCons : ∀ {offs ks vs k x rest o' ks' vs' r}, incrementLast true false offs 1 = .ok o' →
    push ext ks k = .ok ks' → P ks k ks' → push ext vs x = .ok vs' → P vs x vs' →
    pushMapEntries ext o' ks' vs' rest = .ok r → PME o' ks' vs' rest r → PME offs ks vs (.cons k x rest) r
  mapOpsNil : ∀ {offs ks vs}, PMO false offs ks vs .nil (offs, ks, vs)
  mapOpsKey : ∀ {offs ks vs k rest o' ks' r}, incrementLast true false offs 1 = .ok o' → push ext ks k = .ok ks' →
    P ks k ks' → pushMapOps ext true o' ks' vs rest = .ok r → PMO true o' ks' vs rest r →
    PMO false offs ks vs (.key k rest) r
  mapOpsValue : ∀ {offs ks vs x rest vs' r}, push ext vs x = .ok vs' → P vs x vs' →
    pushMapOps ext false offs ks vs' rest = .ok r → PMO false offs ks vs' rest r → PMO true offs ks vs (.value x rest) r

namespace PushCases
variable {ext : Ext} {P : B → SVal → B → Prop} {El : SS → Nat → SVal → SS → Prop}
  {PE : Bool → B → List Int → SVals → B × List Int → Prop} {PC : B → Nat → SVals → B × Nat → Prop}
  {PT : SS → SVals → SS → Prop} {PF : SS → SFields → SS → Prop} {PSE : SS → SEntries → SS → Prop}
  {PSO : SS → SMapOps → SS → Prop} {PME : List Int → B → B → SEntries → List Int × B × B → Prop}
  {PMO : Bool → List Int → B → B → SMapOps → List Int × B × B → Prop}

/-- `SS.element` around a child call of which `P` is known -/
theorem element_ok (H : PushCases ext P El PE PC PT PF PSE PSO PME PMO) {s s' : SS} {idx : Nat} {x : SVal}
    (hp : ∀ c c', push ext c x = .ok c' → P c x c') (h : s.element idx (fun c => push ext c x) = .ok s') :
    El s idx x s' := by
  unfold SS.element at h
  split at h
  · cases h
  · rw [ctx_ok] at h; cases h
  · rename_i hseen
    split at h
    · cases h
    · rename_i c m hget
      obtain ⟨c', h1, h2⟩ := R.bind_ok_inv h
      cases h2
      exact H.element hseen hget h1 (hp c c' h1)

/-- a struct row: `start`, the fields through `pf`, `end` -/
theorem row_ok {pf : SS → R SS} {s : SS} {b' : B}
    (h : (do
      let s ← SS.start s
      let s ← pf s
      let s ← s.finishRow
      pure s.toB : R B) = .ok b') :
    ∃ s1 s2 s3, s.start = .ok s1 ∧ pf s1 = .ok s2 ∧ s2.finishRow = .ok s3 ∧ b' = s3.toB := by
  obtain ⟨s1, h1, h⟩ := R.bind_ok_inv h
  obtain ⟨s2, h2, h⟩ := R.bind_ok_inv h
  obtain ⟨s3, h3, h⟩ := R.bind_ok_inv h
  cases h
  exact ⟨s1, s2, s3, h1, h2, h3, rfl⟩

theorem seqLike_ok (H : PushCases ext P El PE PC PT PF PSE PSO PME PMO) {x : SVal} {k : SeqKind} {xs : SVals}
    (hx : IsSeqLike x k xs)
    (hE : ∀ large el offs r, pushElems ext large el offs xs = .ok r → PE large el offs xs r)
    (hC : ∀ el c r, pushCountElems ext el c xs = .ok r → PC el c xs r)
    (hT : ∀ s s', pushTupleElems ext s xs = .ok s' → PT s xs s') {b b' : B}
    (h : seqLikeWith (fun large el offs => pushElems ext large el offs xs) (fun el c => pushCountElems ext el c xs)
      (fun s => pushTupleElems ext s xs) (u8All xs) b k = .ok b') : P b x b' := by
  unfold seqLikeWith at h
  cases b with
  | list p large fm v offs el =>
    obtain ⟨v', h1, h⟩ := R.bind_ok_inv h
    obtain ⟨o1, h2, h⟩ := R.bind_ok_inv h
    obtain ⟨⟨el', o2⟩, h3, h⟩ := R.bind_ok_inv h
    cases h
    exact H.list hx h1 h2 h3 (hE _ _ _ _ h3)
  | fixedSizeList p fm n len v cur el =>
    obtain ⟨v', h1, h⟩ := R.bind_ok_inv h
    obtain ⟨⟨el', cnt⟩, h3, h⟩ := R.bind_ok_inv h
    obtain ⟨hn, h⟩ := ite_fail_ok h
    cases h
    have : cnt = n := by simpa using hn
    subst this
    exact H.fixedSizeList hx h1 h3 (hC _ _ _ h3)
  | bytes p ty v offs data =>
    simp only at h
    split at h
    · rename_i hb
      obtain ⟨v', h1, h⟩ := R.bind_ok_inv h
      obtain ⟨o1, h2, h⟩ := R.bind_ok_inv h
      obtain ⟨bs, h3, h⟩ := R.bind_ok_inv h
      obtain ⟨o2, h4, h⟩ := R.bind_ok_inv h
      cases h
      exact H.binary hx hb h1 h2 h3 h4
    · cases h
  | bytesView p ty v views buf =>
    simp only at h
    split at h
    · rename_i hb
      obtain ⟨v', h1, h⟩ := R.bind_ok_inv h
      obtain ⟨bs, h2, h⟩ := R.bind_ok_inv h
      obtain ⟨⟨views', buf'⟩, h3, h⟩ := R.bind_ok_inv h
      cases h
      have : ty = .binaryView := by cases ty with | binaryView => rfl | utf8View => exact absurd hb (by decide)
      subst this
      exact H.binaryView hx h1 h2 h3
    · cases h
  | fixedSizeBinary p n len v buf cur =>
    obtain ⟨v', h1, h⟩ := R.bind_ok_inv h
    obtain ⟨bs, h2, h⟩ := R.bind_ok_inv h
    obtain ⟨hn, h⟩ := ite_fail_ok h
    cases h
    have : bs.length = n := by simpa using hn
    subst this
    exact H.fixedSizeBinary hx h1 h2
  | struct p len v fs cached next seen =>
    cases k with
    | seq => cases h
    | _ =>
      obtain ⟨s1, s2, s3, h1, h2, h3, rfl⟩ := row_ok (s := ⟨p, len, v, fs, cached, next, seen⟩) h
      exact H.structTuple (s := ⟨p, len, v, fs, cached, next, seen⟩) hx (by simp) h1 h2 (hT _ _ h2) h3
  | _ => cases h

theorem record_ok (H : PushCases ext P El PE PC PT PF PSE PSO PME PMO) {n : String} {fs : SFields}
    (hF : ∀ s s', pushFields ext s fs = .ok s' → PF s fs s') {b b' : B}
    (h : recordWith (fun s => pushFields ext s fs) b = .ok b') : P b (.record n fs) b' := by
  obtain ⟨p, len, v, bl, cached, next, seen, rfl⟩ := recordWith_struct h
  obtain ⟨s1, s2, s3, h1, h2, h3, rfl⟩ := row_ok (s := ⟨p, len, v, bl, cached, next, seen⟩) h
  exact H.structRecord (s := ⟨p, len, v, bl, cached, next, seen⟩) h1 h2 (hF _ _ h2) h3

theorem union_ok (H : PushCases ext P El PE PC PT PF PSE PSO PME PMO) {x y : SVal} {i : Nat} (hx : IsVariant x i y)
    (hp : ∀ c c', push ext c y = .ok c' → P c y c') {p fs types offs cur} {b' : B}
    (h : (do
      let (c, types', offs', cur') ← serializeVariant fs types offs cur i
      let c' ← push ext c y
      pure (.union p (fs.set i c') types' offs' cur') : R B) = .ok b') : P (.union p fs types offs cur) x b' := by
  obtain ⟨⟨c, t', o', cur'⟩, h1, h⟩ := R.bind_ok_inv h
  obtain ⟨c', h2, h⟩ := R.bind_ok_inv h
  cases h
  unfold serializeVariant at h1
  split at h1
  · cases h1
  · rename_i c0 m hget
    split at h1
    · cases h1
    · rename_i co hco
      obtain ⟨hco', h1⟩ := ite_fail_ok h1
      obtain ⟨h127, h1⟩ := ite_fail_ok h1
      cases h1
      exact H.union hx hget hco (by omega) (by omega) h2 (hp _ _ h2)

/-- the successful runs are the outcomes `.ok _` -/
theorem toRows (H : PushCases ext P El PE PC PT PF PSE PSO PME PMO) :
    PushRowsE (fun b x r => ∀ b', r ext = .ok b' → P b x b') (fun s idx x r => ∀ s', r ext = .ok s' → El s idx x s')
      (fun large el offs xs r => ∀ r', r ext = .ok r' → PE large el offs xs r')
      (fun el c xs r => ∀ r', r ext = .ok r' → PC el c xs r')
      (fun s xs r => ∀ s', r ext = .ok s' → PT s xs s') (fun s fs r => ∀ s', r ext = .ok s' → PF s fs s')
      (fun s es r => ∀ s', r ext = .ok s' → PSE s es s') (fun s ops r => ∀ s', r ext = .ok s' → PSO s ops s')
      (fun offs ks vs es r => ∀ r', r ext = .ok r' → PME offs ks vs es r')
      (fun pd offs ks vs ops r => ∀ r', r ext = .ok r' → PMO pd offs ks vs ops r') where
  fwdSome ih b' h := H.fwdSome (ih b' h)
  fwdNewtype ih b' h := H.fwdNewtype (ih b' h)
  null hx b' h := H.null hx h
  refused _ _ b' h := by rw [ctx_ok] at h; cases h
  scalar hx b' h := H.scalar hx ((ctx_ok _ _ _).1 h)
  seqLike hx ihE ihC ihT b' h := H.seqLike_ok hx (fun _ _ _ r hr => ihE _ _ _ r hr) (fun _ _ r hr => ihC _ _ r hr)
    (fun _ s' hs => ihT _ s' hs) ((ctx_ok _ _ _).1 h)
  listBytes {p large fm v offs el bs} ih b' h := by
    have hseq := ih b' ((push_list_bytes ext p large fm v offs el bs).symm.trans h)
    obtain ⟨v', h1, h⟩ := R.bind_ok_inv ((ctx_ok _ _ _).1 h)
    obtain ⟨o1, h2, h⟩ := R.bind_ok_inv h
    obtain ⟨⟨el', o2⟩, h3, h⟩ := R.bind_ok_inv h
    cases h
    exact H.listBytes h1 h2 h3 hseq
  record ih b' h := H.record_ok (fun _ s' hs => ih _ s' hs) ((ctx_ok _ _ _).1 h)
  structMap {p len v bl cached next seen es} ih b' h := by
    obtain ⟨s1, s2, s3, h1, h2, h3, rfl⟩ := row_ok (s := ⟨p, len, v, bl, cached, next, seen⟩) ((ctx_ok _ _ _).1 h)
    exact H.structMap (s := ⟨p, len, v, bl, cached, next, seen⟩) h1 h2 (ih _ _ h2) h3
  structMapRaw {p len v bl cached next seen ops} ih b' h := by
    obtain ⟨s1, s2, s3, h1, h2, h3, rfl⟩ := row_ok (s := ⟨p, len, v, bl, cached, next, seen⟩) ((ctx_ok _ _ _).1 h)
    exact H.structMapRaw (s := ⟨p, len, v, bl, cached, next, seen⟩) h1 h2 (ih _ _ h2) h3
  map ih b' h := by
    obtain ⟨v', h1, h⟩ := R.bind_ok_inv ((ctx_ok _ _ _).1 h)
    obtain ⟨o1, h2, h⟩ := R.bind_ok_inv h
    obtain ⟨⟨o2, ks', vs'⟩, h3, h⟩ := R.bind_ok_inv h
    cases h
    exact H.map h1 h2 h3 (ih _ _ _ _ h3)
  mapRaw ih b' h := by
    obtain ⟨v', h1, h⟩ := R.bind_ok_inv ((ctx_ok _ _ _).1 h)
    obtain ⟨o1, h2, h⟩ := R.bind_ok_inv h
    obtain ⟨⟨o2, ks', vs'⟩, h3, h⟩ := R.bind_ok_inv h
    cases h
    exact H.mapRaw h1 h2 h3 (ih _ _ _ _ h3)
  union hx ih b' h := H.union_ok hx (fun c c' hc => ih c c' hc) ((ctx_ok _ _ _).1 h)
  element ih s' h := H.element_ok (fun c c' hc => ih c c' hc) h
  elemsNil r' h := by cases h; exact H.elemsNil
  elemsCons ih ihr r' h := by
    obtain ⟨o', h1, h⟩ := R.bind_ok_inv h
    obtain ⟨el', h2, h⟩ := R.bind_ok_inv h
    exact H.elemsCons h1 h2 (ih _ h2) h (ihr _ _ _ h)
  countNil r' h := by cases h; exact H.countNil
  countCons ih ihr r' h := by
    obtain ⟨el', h2, h⟩ := R.bind_ok_inv h
    exact H.countCons h2 (ih _ h2) h (ihr _ _ _ h)
  tupleNil s' h := by cases h; exact H.tupleNil
  tupleCons hlt hel ih s' h := by
    obtain ⟨s1, h1, h⟩ := R.bind_ok_inv h
    exact H.tupleCons hlt (hel _ h1) h (ih _ _ h)
  tupleExtra hlt ih s' h := H.tupleExtra hlt h (ih _ h)
  fieldsNil s' h := by cases h; exact H.fieldsNil
  fieldsCons heq hel ih s' h := by
    obtain ⟨s1, h1, h⟩ := R.bind_ok_inv h
    exact H.fieldsCons heq (hel _ h1) h (ih _ _ h)
  fieldsUnknown heq ih s' h := H.fieldsUnknown heq h (ih _ h)
  entriesNil s' h := by cases h; exact H.entriesNil
  entriesCons hel ih s' h := by
    obtain ⟨key, hk, h⟩ := R.bind_ok_inv h
    split at h
    · exact H.entriesUnknown hk ‹_› h (ih _ _ h)
    · obtain ⟨s1, h1, h⟩ := R.bind_ok_inv h
      exact H.entriesCons hk ‹_› (hel _ _ h1) h (ih _ _ h)
  opsNil s' h := by cases h; exact H.opsNil
  opsKey ih s' h := by
    obtain ⟨key, hk, h⟩ := R.bind_ok_inv h
    exact H.opsKey hk h (ih _ _ h)
  opsValue hn hel ih s' h := by
    obtain ⟨s1, h1, h⟩ := R.bind_ok_inv h
    exact H.opsValue hn (hel _ h1) h (ih _ _ h)
  opsValueUnkeyed hn ih s' h := H.opsValueUnkeyed hn h (ih _ h)
  mapEntriesNil r' h := by cases h; exact H.mapEntriesNil
  mapEntriesCons ihk ihv ih r' h := by
    obtain ⟨o', h1, h⟩ := R.bind_ok_inv h
    obtain ⟨ks', h2, h⟩ := R.bind_ok_inv h
    obtain ⟨vs', h3, h⟩ := R.bind_ok_inv h
    exact H.mapEntriesCons h1 h2 (ihk _ h2) h3 (ihv _ h3) h (ih _ _ _ _ h)
  mapOpsNil r' h := by cases h; exact H.mapOpsNil
  mapOpsRefused r' h := by cases h
  mapOpsKey ihk ih r' h := by
    obtain ⟨o', h1, h⟩ := R.bind_ok_inv h
    obtain ⟨ks', h2, h⟩ := R.bind_ok_inv h
    exact H.mapOpsKey h1 h2 (ihk _ h2) h (ih _ _ _ h)
  mapOpsValue ihv ih r' h := by
    obtain ⟨vs', h3, h⟩ := R.bind_ok_inv h
    exact H.mapOpsValue h3 (ihv _ h3) h (ih _ _ h)

variable (H : PushCases ext P El PE PC PT PF PSE PSO PME PMO)
include H

theorem push (x : SVal) (b b' : B) (h : Build.push ext b x = .ok b') : P b x b' := H.toRows.push x b b' h

theorem elems (xs : SVals) (large : Bool) (el : B) (offs : List Int) (r : B × List Int)
    (h : pushElems ext large el offs xs = .ok r) : PE large el offs xs r := H.toRows.elems xs large el offs r h

theorem count (xs : SVals) (el : B) (c : Nat) (r : B × Nat) (h : pushCountElems ext el c xs = .ok r) : PC el c xs r :=
  H.toRows.count xs el c r h

theorem tuple (xs : SVals) (s s' : SS) (h : pushTupleElems ext s xs = .ok s') : PT s xs s' := H.toRows.tuple xs s s' h

theorem fields (fs : SFields) (s s' : SS) (h : pushFields ext s fs = .ok s') : PF s fs s' := H.toRows.fields fs s s' h

theorem structEntries (es : SEntries) (s s' : SS) (h : pushStructEntries ext s es = .ok s') : PSE s es s' :=
  H.toRows.structEntries es s s' h

theorem structOps (ops : SMapOps) (s s' : SS) (h : pushStructOps ext s ops = .ok s') : PSO s ops s' :=
  H.toRows.structOps ops s s' h

theorem mapEntries (es : SEntries) (offs : List Int) (ks vs : B) (r : List Int × B × B)
    (h : pushMapEntries ext offs ks vs es = .ok r) : PME offs ks vs es r := H.toRows.mapEntries es offs ks vs r h

theorem mapOps (ops : SMapOps) (pd : Bool) (offs : List Int) (ks vs : B) (r : List Int × B × B)
    (h : pushMapOps ext pd offs ks vs ops = .ok r) : PMO pd offs ks vs ops r := H.toRows.mapOps ops pd offs ks vs r h

end PushCases

end SaModel.Build
