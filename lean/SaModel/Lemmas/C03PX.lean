import SaModel.Lemmas.C03View
/-
`PX`: the offsets / UTF-8 part of `WFX`, as a self-contained push invariant.

  bytes builders   offsets start at 0, never decrease, end at `data.length`, stay ≤ i32/i64 max (`increment_last`
                   checks), and — for Utf8 / LargeUtf8 — every slot is valid UTF-8 (every chunk is a Rust `&str`)
  list / map       offsets ≤ i32/i64 max
  view builders    every descriptor designates bytes of the buffer; while the buffer is below 4 GiB every Utf8View
                   slot is valid UTF-8 (`ViewPX`, Lemmas/C03View.lean)

`PX` needs no other invariant and no assumption on the pushed values or on `Ext`:
   PX b → push ext b x = ok b' → PX b'          (Lemmas/C03PXPush.lean; this file: the clauses and what they survive)
The two remaining clauses of `WFX` (leaf values in physical range, Utf8View slots valid UTF-8) are `WFXrest`.
-/
namespace SaModel.Lemmas.C03
open SaModel SaModel.Build SaModel.Spec

theorem ctx_ok {α} (ann : List (String × String)) (r : R α) (a : α) : ctx ann r = .ok a ↔ r = .ok a :=
  ctx_eq_ok ann r a

def OffsLe (offs : List Int) (m : Int) : Prop := ∀ o ∈ offs, o ≤ m

theorem incrementLast_ok {c large : Bool} {offs offs' : List Int} {inc : Nat}
    (h : incrementLast c large offs inc = .ok offs') :
    ∃ l, offs.getLast? = some l ∧ offs' = offs.dropLast ++ [l + inc] ∧ l + inc ≤ offMax large := by
  unfold incrementLast at h
  split at h
  · cases h
  · rename_i l hl
    split at h
    · cases h
    · split at h
      · split at h <;> cases h
      · cases h; exact ⟨l, hl, rfl, by omega⟩

theorem OffsLe_dup {offs : List Int} {m l : Int} (h : OffsLe offs m) (hl : offs.getLast? = some l) :
    OffsLe (offs ++ [l]) m := by
  intro o ho
  rw [List.mem_append, List.mem_singleton] at ho
  rcases ho with ho | rfl
  · exact h o ho
  · exact h _ (List.mem_of_getLast? hl)

theorem OffsLe_inc {offs : List Int} {m x : Int} (h : OffsLe offs m) (hx : x ≤ m) :
    OffsLe (offs.dropLast ++ [x]) m := by
  intro o ho
  rw [List.mem_append, List.mem_singleton] at ho
  rcases ho with ho | rfl
  · exact h o (List.dropLast_subset _ ho)
  · exact hx

theorem OffsLe_duplicateLast {offs offs' : List Int} {m : Int} (h : OffsLe offs m)
    (hd : duplicateLast offs = .ok offs') : OffsLe offs' m := by
  obtain ⟨l, hl, rfl⟩ := duplicateLast_ok hd
  exact OffsLe_dup h hl

theorem OffsLe_incrementLast {c large : Bool} {offs offs' : List Int} {inc : Nat} (h : OffsLe offs (offMax large))
    (hi : incrementLast c large offs inc = .ok offs') : OffsLe offs' (offMax large) := by
  obtain ⟨l, _, rfl, hle⟩ := incrementLast_ok hi
  exact OffsLe_inc h hle

theorem iter_inv {α} (P : α → Prop) (f : α → R α) (hstep : ∀ a a', f a = .ok a' → P a → P a') :
    ∀ (k : Nat) (a a' : α), iter k f a = .ok a' → P a → P a' :=
  fun k a a' h hp => Build.iter_inv (fun _ => P) f (fun _ a a' hp h => hstep a a' h hp) k 0 a a' hp h

/-- the local invariant of a `BytesArray<O>` builder -/
def BytesPX (ty : BytesTy) (offs : List Int) (data : Bytes) : Prop :=
  OffsOK offs data.length ∧ OffsLe offs (offMax (isLargeTy ty)) ∧ (isUtf8Ty ty = true → bytesUtf8 offs data = true)

theorem OffsOK_snoc (offs : List Int) (n : Nat) (x : Nat) (h : OffsOK offs n) (hx : n ≤ x) :
    OffsOK (offs ++ [(x : Int)]) x := by
  have hl := h.2.1
  have hne : offs ≠ [] := by intro e; rw [e] at hl; cases hl
  refine ⟨?_, by simp, ?_⟩
  · have h1 := h.1
    cases offs with
    | nil => exact absurd rfl hne
    | cons a r => simpa using h1
  · rw [List.pairwise_append]
    refine ⟨h.2.2, by simp, ?_⟩
    intro a ha b hb
    simp only [List.mem_singleton] at hb
    subst hb
    have := (OffsOK_mem offs n h a ha).2
    omega

theorem slice_append_left (data extra : Bytes) (s e : Int) (_h0 : 0 ≤ s) (h1 : s ≤ e) (h2 : e ≤ (data.length : Int)) :
    ((data ++ extra).drop s.toNat).take (e.toNat - s.toNat) = (data.drop s.toNat).take (e.toNat - s.toNat) := by
  have hs : s.toNat ≤ data.length := by omega
  rw [List.drop_append_of_le_length hs, List.take_append_of_le_length (by simp [List.length_drop]; omega)]

theorem bytesUtf8_snoc (offs : List Int) (data bs : Bytes) (h : OffsOK offs data.length)
    (hu : bytesUtf8 offs data = true) (hb : validUtf8 bs = true) :
    bytesUtf8 (offs ++ [((data.length + bs.length : Nat) : Int)]) (data ++ bs) = true := by
  have hp := pairs_append_last offs _ h.2.1 ((data.length + bs.length : Nat) : Int)
  simp only [pairs] at hp
  unfold bytesUtf8 at hu ⊢
  rw [hp, List.all_append]
  simp only [Bool.and_eq_true, List.all_eq_true] at hu ⊢
  refine ⟨?_, ?_⟩
  · intro se hse
    have hv := hu se hse
    obtain ⟨i, hi, rfl⟩ := List.getElem_of_mem hse
    have hi' : i < (pairs offs).length := hi
    rw [pairs_length] at hi'
    have hpair := OffsOK_pair offs _ h i (by omega)
    simp only [List.getElem_zip, List.getElem_tail] at hv ⊢
    rw [slice_append_left data bs _ _ hpair.1 hpair.2.1 hpair.2.2]
    exact hv
  · intro se hse
    simp only [List.mem_singleton] at hse
    subst hse
    have e1 : ((data.length : Nat) : Int).toNat = data.length := by simp
    have e2 : (((data.length + bs.length : Nat) : Int)).toNat - data.length = bs.length := by
      rw [Int.toNat_natCast]; omega
    simp only [e1, e2, List.drop_left, List.take_length]
    exact hb

/-- a new last offset `bs.length` beyond the old one (checked against the offset type unless `bs` is empty) -/
theorem BytesPX_chunk {ty : BytesTy} {offs : List Int} {data bs : Bytes} {l : Int} (hl : offs.getLast? = some l)
    (hle : bs.length ≠ 0 → l + (bs.length : Int) ≤ offMax (isLargeTy ty))
    (hb : isUtf8Ty ty = true → validUtf8 bs = true) (h : BytesPX ty offs data) :
    BytesPX ty (offs ++ [l + (bs.length : Int)]) (data ++ bs) := by
  obtain ⟨ho, hm, hu⟩ := h
  have hld : l = (data.length : Int) := by have := ho.2.1; rw [hl] at this; exact Option.some.inj this
  subst hld
  have hx : (data.length : Int) + bs.length = ((data.length + bs.length : Nat) : Int) := by omega
  rw [hx]
  refine ⟨?_, ?_, ?_⟩
  · have := OffsOK_snoc offs data.length (data.length + bs.length) ho (by omega)
    simpa [List.length_append] using this
  · intro o hom
    rw [List.mem_append, List.mem_singleton] at hom
    rcases hom with hom | rfl
    · exact hm o hom
    · by_cases hn : bs.length = 0
      · have := hm _ (List.mem_of_getLast? hl); omega
      · have := hle hn; omega
  · intro hty
    exact bytesUtf8_snoc offs data bs ho (hu hty) (hb hty)

theorem dropLast_snoc {α} (l : List α) (x : α) : (l ++ [x]).dropLast = l := by simp

/-- `n` single increments of the last offset -/
theorem iter_incrementLast {c large : Bool} : ∀ (n : Nat) (base : List Int) (l : Int) (offs' : List Int),
    iter n (fun o => incrementLast c large o 1) (base ++ [l]) = .ok offs' →
    offs' = base ++ [l + (n : Int)] ∧ (n ≠ 0 → l + (n : Int) ≤ offMax large)
  | 0, base, l, offs', h => by
    simp only [iter] at h; cases h
    exact ⟨by simp, fun h => absurd rfl h⟩
  | n + 1, base, l, offs', h => by
    simp only [iter] at h
    obtain ⟨o1, h1, h2⟩ := (bind_ok _ _ _).1 h
    obtain ⟨l', hl', rfl, hle⟩ := incrementLast_ok h1
    simp only [List.getLast?_append, List.getLast?_singleton, Option.some_or, Option.some.injEq] at hl'
    subst hl'
    rw [dropLast_snoc] at h2
    obtain ⟨e, hm⟩ := iter_incrementLast n base (l + ((1 : Nat) : Int)) offs' h2
    refine ⟨by rw [e]; congr 2; omega, fun _ => ?_⟩
    by_cases hn : n = 0
    · subst hn; simpa using hle
    · have := hm hn; omega

mutual
def PX : B → Prop
  | .bytes _ ty _ offs data => BytesPX ty offs data
  | .bytesView _ ty _ views buf => ViewPX ty views buf
  | .list _ large _ _ offs el => OffsLe offs (offMax large) ∧ PX el
  | .fixedSizeList _ _ _ _ _ _ el => PX el
  | .map _ _ _ offs ks vs => OffsLe offs (offMax false) ∧ PX ks ∧ PX vs
  | .struct _ _ _ fs _ _ _ => PXL fs
  | .dictionary _ idx vals _ => PX idx ∧ PX vals
  | .union _ fs _ _ _ => PXL fs
  | _ => True
def PXL : BL → Prop
  | .nil => True
  | .cons b _ r => PX b ∧ PXL r
end

mutual
/-- what `PX` leaves of `WFX`: leaf values in physical range, Utf8View slots valid UTF-8 -/
def WFXrest : B → Prop
  | .leaf _ k _ vals => ∀ r, leafRange k = some r → inRng r vals = true
  | .bytesView _ ty _ views buf => ty = .utf8View → ∀ d ∈ views, validUtf8 (viewBytes buf d) = true
  | .list _ _ _ _ _ el => WFXrest el
  | .fixedSizeList _ _ _ _ _ _ el => WFXrest el
  | .map _ _ _ _ ks vs => WFXrest ks ∧ WFXrest vs
  | .struct _ _ _ fs _ _ _ => WFXrestL fs
  | .dictionary _ idx vals _ => WFXrest idx ∧ WFXrest vals
  | .union _ fs _ _ _ => WFXrestL fs
  | _ => True
def WFXrestL : BL → Prop
  | .nil => True
  | .cons b _ r => WFXrest b ∧ WFXrestL r
end

mutual
theorem WFX_of_PX : ∀ (b : B), PX b → WFXrest b → WFX b
  | .null _ _ => fun _ _ => by simp only [WFX]
  | .unknownVariant _ => fun _ _ => by simp only [WFX]
  | .leaf _ _ _ _ => fun _ hr => by simpa only [WFX, WFXrest] using hr
  | .bytes _ _ _ _ _ => fun hp _ => by
    simp only [PX] at hp; simp only [WFX]; exact ⟨hp.2.1, hp.2.2⟩
  | .bytesView _ _ _ _ _ => fun _ hr => by simpa only [WFX, WFXrest] using hr
  | .fixedSizeBinary _ _ _ _ _ _ => fun _ _ => by simp only [WFX]
  | .list _ _ _ _ _ el => fun hp hr => by
    simp only [PX] at hp; simp only [WFXrest] at hr; simp only [WFX]
    exact ⟨hp.1, WFX_of_PX el hp.2 hr⟩
  | .fixedSizeList _ _ _ _ _ _ el => fun hp hr => by
    simp only [PX] at hp; simp only [WFXrest] at hr; simp only [WFX]
    exact WFX_of_PX el hp hr
  | .map _ _ _ _ ks vs => fun hp hr => by
    simp only [PX] at hp; simp only [WFXrest] at hr; simp only [WFX]
    exact ⟨hp.1, WFX_of_PX ks hp.2.1 hr.1, WFX_of_PX vs hp.2.2 hr.2⟩
  | .struct _ _ _ fs _ _ _ => fun hp hr => by
    simp only [PX] at hp; simp only [WFXrest] at hr; simp only [WFX]
    exact WFXL_of_PXL fs hp hr
  | .dictionary _ idx vals _ => fun hp hr => by
    simp only [PX] at hp; simp only [WFXrest] at hr; simp only [WFX]
    exact ⟨WFX_of_PX idx hp.1 hr.1, WFX_of_PX vals hp.2 hr.2⟩
  | .union _ fs _ _ _ => fun hp hr => by
    simp only [PX] at hp; simp only [WFXrest] at hr; simp only [WFX]
    exact WFXL_of_PXL fs hp hr
theorem WFXL_of_PXL : ∀ (fs : BL), PXL fs → WFXrestL fs → WFXL fs
  | .nil => fun _ _ => trivial
  | .cons b _ r => fun hp hr => by
    simp only [PXL] at hp; simp only [WFXrestL] at hr; simp only [WFXL]
    exact ⟨WFX_of_PX b hp.1 hr.1, WFXL_of_PXL r hp.2 hr.2⟩
end

end SaModel.Lemmas.C03
