import SaModel.Lemmas.C08Class
import SaModel.Lemmas.C08Local
/-
C08 — `done_to_field_c`: the field of the complete tracer of a type is the documented mapping of that type, error class
included (`AgreeC`), at every position and under every option record (overwrites included), for every type description
(enums included).  `done_to_field` is the same with the class forgotten (`Agree`).
-/
namespace SaModel.Lemmas.C08
open SaModel SaModel.Trace SaModel.Trace.Spec

theorem done_is_null (o : Options) : ∀ (ty : Ty) (n p : String) (nl : Bool),
    (done o n p nl ty).is_unknown_or_null = isNullTy ty
  | .unit | .unitStruct _ | .bool | .f32 | .f64 | .char | .bytes | .vec _ | .tuple _ | .tupleStruct _ _ | .map _ _
  | .struct _ _ | .enum _ _ => by
    intro _ _ _
    simp only [done, Tracer.is_unknown_or_null, isNullTy]
  | .int t => by intro _ _ _; cases t <;> simp only [done, Tracer.is_unknown_or_null, isNullTy, intDataType]
  | .string => by
    intro _ _ _
    simp only [done, isNullTy, Options.string_type]
    split <;> simp only [Tracer.is_unknown_or_null]
  | .option t => by intro n p _; simp only [done, isNullTy]; exact done_is_null o t n p true
  | .newtypeStruct _ t => by intro n p nl; simp only [done, isNullTy]; exact done_is_null o t n p nl

theorem doneVariants_without_data (o : Options) : ∀ (vs : TyVariants) (p : String),
    (doneVariants o p vs).is_without_data = withoutData vs
  | .nil, _ => by simp only [doneVariants, Variants.is_without_data, withoutData]
  | .unit _ r, p => by
    simp only [doneVariants, Variants.is_without_data, withoutData, is_null_variant, Tracer.is_unknown_or_null,
      doneVariants_without_data o r, Bool.true_and]
  | .newtype _ t r, p => by
    simp only [doneVariants, Variants.is_without_data, withoutData, is_null_variant, done_is_null,
      doneVariants_without_data o r]
  | .tuple _ _ r, p => by
    simp only [doneVariants, Variants.is_without_data, withoutData, is_null_variant, Tracer.is_unknown_or_null,
      Bool.false_and]
  | .struct _ _ r, p => by
    simp only [doneVariants, Variants.is_without_data, withoutData, is_null_variant, Tracer.is_unknown_or_null,
      Bool.false_and]

theorem tupleMeta_eq : strategyMeta .tupleAsStruct = tupleMeta := rfl

/-- a `Null` primitive against the documented null field -/
theorem agree_null_c (o : Options) (n : String) :
    AgreeC (if (!o.allow_null_fields && isNull .null) = true then fail "Encountered null only field"
      else if isNull .null = true then .ok (Field.mk n .null true [])
      else if (isLargeUtf8 .null || isUtf8 .null) = true then
        if (!o.string_dictionary_encoding) = true then .ok (.mk n .null true [])
        else .ok (default_dictionary_field n true o.string_type)
      else .ok (.mk n .null true [])) (nullField o n) := by
  unfold nullField
  cases o.allow_null_fields
  · simp only [Bool.not_false, isNull, Bool.and_self, if_true, Bool.false_eq_true, if_false]
    exact AgreeC.fail .nullField
  · simp [isNull, AgreeC]

/-- a non-null, non-string primitive -/
theorem agree_prim_c (o : Options) (n : String) (nl : Bool) (dt : DataType) (h1 : isNull dt = false)
    (h2 : isLargeUtf8 dt = false) (h3 : isUtf8 dt = false) :
    AgreeC (if (!o.allow_null_fields && isNull dt) = true then fail "Encountered null only field"
      else if isNull dt = true then .ok (Field.mk n .null true [])
      else if (isLargeUtf8 dt || isUtf8 dt) = true then
        if (!o.string_dictionary_encoding) = true then .ok (.mk n dt nl [])
        else .ok (default_dictionary_field n nl o.string_type)
      else .ok (.mk n dt nl (match (none : Option Strategy) with | some s => strategyMeta s | none => [])))
      (.ok (.mk n dt nl [])) := by
  simp [h1, h2, h3, AgreeC]

theorem agree_string_c (o : Options) (n : String) (nl : Bool) :
    AgreeC (if (!o.allow_null_fields && isNull o.string_type) = true then fail "Encountered null only field"
      else if isNull o.string_type = true then .ok (Field.mk n .null true [])
      else if (isLargeUtf8 o.string_type || isUtf8 o.string_type) = true then
        if (!o.string_dictionary_encoding) = true then .ok (.mk n o.string_type nl [])
        else .ok (default_dictionary_field n nl o.string_type)
      else .ok (.mk n o.string_type nl (match (none : Option Strategy) with | some s => strategyMeta s | none => [])))
      (.ok (stringField o n nl)) := by
  unfold stringField Options.string_type default_dictionary_field
  cases o.string_as_large_utf8 <;> cases o.string_dictionary_encoding <;> simp [isNull, isLargeUtf8, isUtf8, AgreeC]

theorem done_to_field_all (o : Options) :
    (∀ (ty : Ty) (n p : String) (nl : Bool), AgreeC ((done o n p nl ty).to_field o) (mapping o n p nl ty)) ∧
    (∀ (ts : Tys) (p : String) (i : Nat), AgreeC ((doneTys o p i ts).to_fields o) (mappingTys o p i ts)) ∧
    (∀ (fs : TyFields) (p : String), AgreeC ((doneFields o p fs).to_fields o) (mappingFields o p fs)) ∧
    (∀ (vs : TyVariants) (p : String) (i : Nat),
      AgreeC ((doneVariants o p vs).to_fields o i) (mappingVariants o p i vs)) := by
  apply Ty.walk
  case node =>
    intro ty ih n p nl
    match ty, ih with
    | .unit, _ | .unitStruct _, _ =>
      simp only [done, Tracer.to_field, mapping]
      exact AgreeC.overwrite o n p (agree_null_c o n)
    | .bool, _ | .f32, _ | .f64, _ | .char, _ | .bytes, _ =>
      simp only [done, Tracer.to_field, mapping]
      exact AgreeC.overwrite o n p (agree_prim_c o n nl _ rfl rfl rfl)
    | .int t, _ =>
      simp only [done, Tracer.to_field, mapping]
      exact AgreeC.overwrite o n p (agree_prim_c o n nl _ (by cases t <;> rfl) (by cases t <;> rfl) (by cases t <;> rfl))
    | .string, _ =>
      simp only [done, Tracer.to_field, mapping]
      exact AgreeC.overwrite o n p (agree_string_c o n nl)
    | .option t, ih => simp only [done, mapping]; exact ih n p true
    | .newtypeStruct _ t, ih => simp only [done, mapping]; exact ih n p nl
    | .vec t, ih =>
      simp only [done, Tracer.to_field, mapping]
      exact AgreeC.overwrite o n p (AgreeC.bind (ih _ _ _) fun _ => AgreeC.ok _)
    | .tuple ts, ih | .tupleStruct _ ts, ih =>
      simp only [done, Tracer.to_field, mapping, tupleMeta_eq]
      exact AgreeC.overwrite o n p (AgreeC.bind (ih p 0) fun _ => AgreeC.ok _)
    | .map k v, ih =>
      simp only [done, Tracer.to_field, mapping]
      exact AgreeC.overwrite o n p (AgreeC.bind (ih.1 _ _ _) fun _ => AgreeC.bind (ih.2 _ _ _) fun _ => AgreeC.ok _)
    | .struct _ fs, ih =>
      simp only [done, Tracer.to_field, mapping]
      exact AgreeC.overwrite o n p (AgreeC.bind (ih p) fun _ => AgreeC.ok _)
    | .enum _ vs, ih =>
      simp only [done, Tracer.to_field, mapping, doneVariants_without_data]
      refine AgreeC.overwrite o n p ?_
      split
      · exact AgreeC.ok _
      · split
        · exact AgreeC.fail .enumWithoutData
        · exact AgreeC.bind (ih p 0) fun _ => AgreeC.ok _
  case tnil => intro _ _; simp only [doneTys, Tracers.to_fields, mappingTys]; exact AgreeC.ok _
  case tcons =>
    intro t r iht ihr p i
    simp only [doneTys, Tracers.to_fields, mappingTys]
    exact AgreeC.bind (iht _ _ _) fun _ => AgreeC.bind (ihr p (i + 1)) fun _ => AgreeC.ok _
  case fnil => intro _; simp only [doneFields, TFields.to_fields, mappingFields]; exact AgreeC.ok _
  case fcons =>
    intro n t r iht ihr p
    simp only [doneFields, TFields.to_fields, mappingFields]
    exact AgreeC.bind (iht _ _ _) fun _ => AgreeC.bind (ihr p) fun _ => AgreeC.ok _
  case vnil => intro _ _; simp only [doneVariants, Variants.to_fields, mappingVariants]; exact AgreeC.ok _
  case vcons =>
    intro vs n T r hh ihT ihr p i
    rw [hh.done_eq, hh.mapping_eq]
    simp only [Variants.to_fields]
    split
    · exact AgreeC.fail .tooManyVariants
    · exact AgreeC.bind (ihT _ _ _) fun _ => AgreeC.bind (ihr p (i + 1)) fun _ => AgreeC.ok _

theorem done_to_field_c (o : Options) : ∀ (ty : Ty) (n p : String) (nl : Bool),
    AgreeC ((done o n p nl ty).to_field o) (mapping o n p nl ty) :=
  (done_to_field_all o).1

theorem doneTys_to_fields_c (o : Options) : ∀ (ts : Tys) (p : String) (i : Nat),
    AgreeC ((doneTys o p i ts).to_fields o) (mappingTys o p i ts) :=
  (done_to_field_all o).2.1

theorem doneFields_to_fields_c (o : Options) : ∀ (fs : TyFields) (p : String),
    AgreeC ((doneFields o p fs).to_fields o) (mappingFields o p fs) :=
  (done_to_field_all o).2.2.1

theorem doneVariants_to_fields_c (o : Options) : ∀ (vs : TyVariants) (p : String) (i : Nat),
    AgreeC ((doneVariants o p vs).to_fields o i) (mappingVariants o p i vs) :=
  (done_to_field_all o).2.2.2

theorem done_to_field (o : Options) : ∀ (ty : Ty) (n p : String) (nl : Bool),
    Agree ((done o n p nl ty).to_field o) (mapping o n p nl ty) :=
  fun ty n p nl => (done_to_field_c o ty n p nl).agree

theorem doneTys_to_fields (o : Options) : ∀ (ts : Tys) (p : String) (i : Nat),
    Agree ((doneTys o p i ts).to_fields o) (mappingTys o p i ts) :=
  fun ts p i => (doneTys_to_fields_c o ts p i).agree

theorem doneFields_to_fields (o : Options) : ∀ (fs : TyFields) (p : String),
    Agree ((doneFields o p fs).to_fields o) (mappingFields o p fs) :=
  fun fs p => (doneFields_to_fields_c o fs p).agree

theorem doneVariants_to_fields (o : Options) : ∀ (vs : TyVariants) (p : String) (i : Nat),
    Agree ((doneVariants o p vs).to_fields o i) (mappingVariants o p i vs) :=
  fun vs p i => (doneVariants_to_fields_c o vs p i).agree

end SaModel.Lemmas.C08
