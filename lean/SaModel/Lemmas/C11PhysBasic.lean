import SaModel.Lemmas.C11PhysDefs
import SaModel.Build.Finish
/-
C11, physical equality: `erase` commutes with everything that does not look at a serde value —
`serialize_none`, `serialize_default`, the scalar calls, `into_array`.
-/
namespace SaModel.Build
open SaModel SaModel.Spec

theorem setValidity_setV {v v' : Validity} {i : Nat} {b : Bool} (h : setValidity v i b = .ok v') : v' = setV v i b := by
  cases v with
  | none => cases b <;> simp [setValidity, fail] at h; subst h; rfl
  | some bits => simp [setValidity] at h; subst h; rfl

theorem BL.get?_eraseL : ∀ (fs : BL) (j : Nat), (eraseL fs).get? j = (fs.get? j).map fun x => (erase x.1, x.2)
  | .nil, _ => by simp [eraseL, BL.get?]
  | .cons b m r, 0 => by simp [eraseL, BL.get?]
  | .cons b m r, j + 1 => by simp [eraseL, BL.get?, BL.get?_eraseL r j]

theorem BL.set_eraseL : ∀ (fs : BL) (j : Nat) (c : B), eraseL (fs.set j c) = (eraseL fs).set j (erase c)
  | .nil, _, _ => by simp [eraseL, BL.set]
  | .cons b m r, 0, c => by simp [eraseL, BL.set]
  | .cons b m r, j + 1, c => by simp [eraseL, BL.set, BL.set_eraseL r j c]

theorem BL.length_eraseL : ∀ (fs : BL), (eraseL fs).length = fs.length
  | .nil => by simp [eraseL]
  | .cons b m r => by simp [eraseL, BL.length, BL.length_eraseL r]

theorem BL.names_eraseL : ∀ (fs : BL), (eraseL fs).names = fs.names
  | .nil => by simp [eraseL]
  | .cons b m r => by simp [eraseL, BL.names, BL.names_eraseL r]

theorem erase_ann (b : B) : (erase b).ann = b.ann := by
  cases b <;> rfl

theorem erase_isNullable : ∀ (b : B), (erase b).isNullable = b.isNullable
  | .dictionary p idx vals index => by simp only [erase, B.isNullable, erase_isNullable idx]
  | .null .. | .unknownVariant .. | .leaf .. | .bytes .. | .bytesView .. | .fixedSizeBinary ..
  | .list .. | .fixedSizeList .. | .map .. | .struct .. | .union .. => rfl

theorem erase_rows : ∀ (b : B), (erase b).rows = b.rows
  | .dictionary p idx vals index => by simp only [erase, B.rows, erase_rows idx]
  | .null .. | .unknownVariant .. | .leaf .. | .bytes .. | .bytesView .. | .fixedSizeBinary ..
  | .list .. | .fixedSizeList .. | .map .. | .struct .. | .union .. => rfl

theorem erase_isPlaceholder (b : B) : (erase b).isPlaceholder = b.isPlaceholder := by
  cases b <;> rfl

theorem firstReal?_eraseL : ∀ (fs : BL), firstReal? (eraseL fs) = firstReal? fs
  | .nil => by simp [eraseL]
  | .cons b m r => by simp [eraseL, firstReal?, erase_isPlaceholder, firstReal?_eraseL r]

theorem firstReal_eraseL (fs : BL) : firstReal (eraseL fs) = firstReal fs := by
  simp [firstReal, firstReal?_eraseL]

mutual
theorem erase_erase : ∀ (b : B), erase (erase b) = erase b
  | .null .. | .unknownVariant .. | .leaf .. | .bytes .. | .bytesView .. | .fixedSizeBinary .. => by simp [erase]
  | .list p large fm v offs el => by simp [erase, erase_erase el]
  | .fixedSizeList p fm n len v cur el => by simp [erase, erase_erase el]
  | .map p mm v offs ks vs => by simp [erase, erase_erase ks, erase_erase vs]
  | .struct p len v fs _ _ _ => by simp [erase, eraseL_eraseL fs]
  | .dictionary p idx vals index => by simp [erase, erase_erase idx, erase_erase vals]
  | .union p fs types offs cur => by simp [erase, eraseL_eraseL fs]
theorem eraseL_eraseL : ∀ (fs : BL), eraseL (eraseL fs) = eraseL fs
  | .nil => by simp [eraseL]
  | .cons b m r => by simp [eraseL, erase_erase b, eraseL_eraseL r]
end

/-! `erase` commutes with the operations that do not look at a serde value: `f (erase b) = erase <$> f b`, errors
included.  Each arm is the functor laws (`map_bind`, `map_pure`, `bind_map_left`) plus `ctx_map`. -/

theorem ctx_map {α β} (f : α → β) (ann : List (String × String)) (r : R α) : ctx ann (f <$> r) = f <$> ctx ann r := by
  cases r with
  | ok v => rfl
  | error e =>
    cases e with
    | err msg => show ctx ann (.error (.err msg)) = f <$> ctx ann (.error (.err msg)); simp only [ctx]; split <;> rfl
    | _ => rfl

theorem map_fail {α β} (f : α → β) (s : String) : f <$> (fail s : R α) = fail s := rfl

mutual
theorem pushDefaultK_erase : ∀ (b : B) (k : Nat), pushDefaultK (erase b) k = erase <$> pushDefaultK b k
  | .null .., k => rfl
  | .leaf .., k | .bytesView .., k | .fixedSizeBinary .., k => by
    simp only [erase, pushDefaultK, map_bind, map_pure]
  | .unknownVariant p, k => by
    simp only [erase, pushDefaultK]
    split <;> rfl
  | .bytes .., k | .list .., k | .map .., k => by
    simp only [erase, pushDefaultK, B.ann, B.label, B.path, ← ctx_map, map_bind, map_pure]
  | .fixedSizeList p fm n len v cur el, k => by
    simp only [erase, pushDefaultK, B.ann, B.label, B.path, ← ctx_map, map_bind, map_pure, pushDefaultK_erase el, bind_map_left]
  | .struct p len v fs cached next seen, k => by
    simp only [erase, pushDefaultK, B.ann, B.label, B.path, ← ctx_map, map_bind, map_pure, pushDefaultKAll_erase fs,
      bind_map_left]
  | .dictionary p idx vals index, k => by
    simp only [erase, pushDefaultK, B.ann, B.label, B.path, ← ctx_map, map_bind, map_pure, pushDefaultK_erase idx,
      bind_map_left]
  | .union p .nil types offs cur, k => by
    simp only [erase, eraseL, pushDefaultK, B.ann, B.label, B.path, ← ctx_map]
    split <;> rfl
  | .union p (.cons c m rest) types offs cur, k => by
    have hfr := firstReal_eraseL (.cons c m rest)
    have hat := pushDefaultKAt_eraseL (.cons c m rest) (firstReal (.cons c m rest)) k
    simp only [eraseL] at hfr hat
    simp only [erase, eraseL, pushDefaultK, B.ann, B.label, B.path, ← ctx_map, hfr, hat, apply_ite (erase <$> ·), map_bind,
      bind_map_left, map_pure, map_fail]
theorem pushDefaultKAll_erase : ∀ (fs : BL) (k : Nat), pushDefaultKAll (eraseL fs) k = eraseL <$> pushDefaultKAll fs k
  | .nil, k => rfl
  | .cons b m rest, k => by
    simp only [eraseL, pushDefaultKAll, pushDefaultK_erase b, pushDefaultKAll_erase rest, map_bind, map_pure, bind_map_left]
theorem pushDefaultKAt_eraseL : ∀ (fs : BL) (j k : Nat), pushDefaultKAt (eraseL fs) j k = eraseL <$> pushDefaultKAt fs j k
  | .nil, j, k => rfl
  | .cons b m rest, 0, k => by
    simp only [eraseL, pushDefaultKAt, pushDefaultK_erase b, map_bind, map_pure, bind_map_left]
  | .cons b m rest, j + 1, k => by
    simp only [eraseL, pushDefaultKAt, pushDefaultKAt_eraseL rest, map_bind, map_pure, bind_map_left]
end

theorem pushDefaultKAt_erase : ∀ (fs : BL) (j k : Nat) (fs' : BL), pushDefaultKAt fs j k = .ok fs' →
    pushDefaultKAt (eraseL fs) j k = .ok (eraseL fs') := by
  intro fs j k fs' h
  rw [pushDefaultKAt_eraseL, h]
  rfl

theorem pushNone_erase : ∀ (b : B), pushNone (erase b) = erase <$> pushNone b
  | .null .. | .unknownVariant .. | .union .. => rfl
  | .leaf .. | .bytes .. | .bytesView .. | .fixedSizeBinary .. | .list .. | .map .. => by
    simp only [erase, pushNone, B.ann, B.label, B.path, ← ctx_map, map_bind, map_pure]
  | .fixedSizeList p fm n len v cur el => by
    simp only [erase, pushNone, B.ann, B.label, B.path, ← ctx_map, map_bind, map_pure, pushDefaultK_erase, bind_map_left]
  | .struct p len v fs cached next seen => by
    simp only [erase, pushNone, B.ann, B.label, B.path, ← ctx_map, map_bind, map_pure, pushDefaultKAll_erase, bind_map_left]
  | .dictionary p idx vals index => by
    simp only [erase, pushNone, B.ann, B.label, B.path, erase_isNullable, pushNone_erase idx, ctx_map, bind_map_left]
    simp only [← ctx_map, apply_ite (erase <$> ·), map_bind, map_pure, map_fail, erase]

theorem noneL_erase {b b' : B} (h : pushNone b = .ok b') : noneL (erase b) = erase b' := by
  simp only [noneL, pushNone_erase, h]
  rfl

/-- the scalar calls do not look at the erased parts -/
theorem pushScalar_erase (ext : Ext) : ∀ (b : B) (x : SVal), pushScalar ext (erase b) x = erase <$> pushScalar ext b x
  | .null p len, x => by
    simp only [erase, pushScalar]
    split <;> rfl
  | .leaf .., x | .bytes .., x | .bytesView .., x => by
    simp only [erase, pushScalar, map_bind, map_pure]
  | .fixedSizeBinary p n len v buf cur, x => by
    simp only [erase, pushScalar]
    split
    · simp only [apply_ite (erase <$> ·), map_bind, map_pure, map_fail, erase]
    · rfl
  | .dictionary p idx vals index, x => by
    simp only [erase, pushScalar, pushScalar_erase ext idx, pushScalar_erase ext vals, erase_ann, ctx_map]
    split
    · split <;> simp only [map_bind, map_pure, bind_map_left, erase]
    · rfl
  | .unknownVariant .., x | .list .., x | .fixedSizeList .., x | .map .., x | .struct .., x | .union .., x => rfl

mutual
theorem finish_erase (ext : Ext) : ∀ (b : B), finish ext (erase b) = finish ext b
  | .null .. | .unknownVariant .. | .leaf .. | .bytes .. | .bytesView .. => by simp only [erase]
  | .fixedSizeBinary .. => by simp only [erase, finish]
  | .list p large fm v offs el => by simp only [erase, finish, finish_erase ext el]
  | .fixedSizeList p fm n len v cur el => by simp only [erase, finish, finish_erase ext el]
  | .map p mm v offs ks vs => by simp only [erase, finish, finish_erase ext ks, finish_erase ext vs]
  | .struct p len v fs _ _ _ => by simp only [erase, finish, finishFields_erase ext fs]
  | .dictionary p idx vals index => by
    simp only [erase, finish, finish_erase ext idx, finish_erase ext vals, erase_isNullable, erase_rows,
      erase_ann, pushScalar_erase, ctx_map, bind_map_left]
  | .union p fs types offs cur => by simp only [erase, finish, finishUFields_erase ext fs 0]
theorem finishFields_erase (ext : Ext) : ∀ (fs : BL), finishFields ext (eraseL fs) = finishFields ext fs
  | .nil => by simp only [eraseL]
  | .cons b m rest => by simp only [eraseL, finishFields, finish_erase ext b, finishFields_erase ext rest]
theorem finishUFields_erase (ext : Ext) : ∀ (fs : BL) (idx : Nat), finishUFields ext (eraseL fs) idx = finishUFields ext fs idx
  | .nil, _ => by simp only [eraseL]
  | .cons b m rest, idx => by
    simp only [eraseL, finishUFields, finish_erase ext b, finishUFields_erase ext rest (idx + 1)]
end

end SaModel.Build
