import SaModel.Lemmas.C06InterpBase
import SaModel.Lemmas.C07TStruct
import SaModel.Lemmas.C19MapM
/-
C06, closure, tracer ⇒ documented mapping, STRUCT family: records, and maps traced as structs (`map_as_struct`).

`asStruct_fields` is the tracer-side core over the (key, value) list of the sample: for every field `g` of the struct type
the tracer ends up with, every value the sample files under `g.name` maps at `g` (induction hypothesis at the field tracer
found under the key, which has absorbed the value: `Later`), and when the sample has no such value `g` is nullable and
takes a null.
`record_ok` adds the spec side: `interpByName` finds exactly one candidate (no duplicate keys) or none, `structOf`
assembles them in any field order (`sortByName` in map mode); a map with string keys is read as the record of its entries
(`SEntries.as_record`).
-/
namespace SaModel.Lemmas.C06
open SaModel SaModel.Spec SaModel.Build SaModel.Trace

def AllInv (o : Options) (fs : TFields) : Prop := ∀ i t, fs.get? i = some t → Inv o t

theorem FWF_get : ∀ {o : Options} {s : Nat} {fs : TFields}, C07.FWF o s fs → ∀ i t, fs.get? i = some t → C07.WF o t
  | _, _, .nil, _, i, t, h => by simp [TFields.get?] at h
  | o, s, .cons n l t0 r, hw, 0, t, h => by
    rw [C07.FWF] at hw
    simp only [TFields.get?, Option.some.injEq] at h
    subst h; exact hw.2.2.2.1
  | o, s, .cons n l t0 r, hw, i + 1, t, h => by
    rw [C07.FWF] at hw
    exact FWF_get hw.2.2.2.2 i t h

theorem FWF_indexOf_name : ∀ {o : Options} {s : Nat} {fs : TFields}, C07.FWF o s fs → ∀ j c, fs.get? j = some c →
    fs.indexOf c.name = some j
  | _, _, .nil, _, j, c, h => by simp [TFields.get?] at h
  | o, s, .cons n l t0 r, hw, 0, c, h => by
    rw [C07.FWF] at hw
    simp only [TFields.get?, Option.some.injEq] at h
    subst h
    simp [TFields.indexOf, hw.2.2.1]
  | o, s, .cons n l t0 r, hw, j + 1, c, h => by
    rw [C07.FWF] at hw
    have ih := FWF_indexOf_name hw.2.2.2.2 j c h
    simp only [TFields.indexOf]
    by_cases e : n = c.name
    · have := C07.indexOf_none hw.2.1
      rw [e, ih] at this; cases this
    · rw [if_neg e, ih]; rfl

theorem FWF_name_of_indexOf : ∀ {o : Options} {s : Nat} {fs : TFields}, C07.FWF o s fs → ∀ k i c,
    fs.indexOf k = some i → fs.get? i = some c → c.name = k
  | _, _, .nil, _, k, i, c, h, _ => by simp [TFields.indexOf] at h
  | o, s, .cons n l t0 r, hw, k, i, c, h, hg => by
    rw [C07.FWF] at hw
    simp only [TFields.indexOf] at h
    by_cases e : n = k
    · rw [if_pos e] at h; cases h
      simp only [TFields.get?, Option.some.injEq] at hg
      subst hg; rw [hw.2.2.1]; exact e
    · rw [if_neg e] at h
      cases hr : r.indexOf k with
      | none => rw [hr] at h; cases h
      | some i' =>
        rw [hr] at h; cases h
        exact FWF_name_of_indexOf hw.2.2.2.2 k i' c hr hg

theorem Inv_struct {o : Options} {n p : String} {nl : Bool} {fs : TFields} {m : StructMode} {s : Nat}
    (h : Inv o (.struct n p nl fs m s)) : C07.FWF o s fs ∧ AllInv o fs := by
  obtain ⟨h1, h2⟩ := h
  rw [C07.WF] at h1
  rw [TN] at h2
  exact ⟨h1, fun i t hg => ⟨FWF_get h1 i t hg, (TNF_iff fs).mp h2 i t hg⟩⟩

theorem to_fields_mem (o : Options) : ∀ (fs : TFields) (flds : List Field), fs.to_fields o = .ok flds →
    ∀ g ∈ flds, ∃ j c, fs.get? j = some c ∧ c.to_field o = .ok g
  | .nil, flds, h, g, hg => by
    simp only [TFields.to_fields, Except.ok.injEq] at h
    subst h; simp at hg
  | .cons n l t r, flds, h, g, hg => by
    obtain ⟨f0, rest, h1, h3, rfl⟩ := to_fieldsF_cons_inv h
    rcases List.mem_cons.mp hg with rfl | hg
    · exact ⟨0, t, rfl, h1⟩
    · obtain ⟨j, c, hj, hc⟩ := to_fields_mem o r rest h3 g hg
      exact ⟨j + 1, c, hj, hc⟩

theorem asStruct_fields (o : Options) (ext : Ext) (h0 : o.overwrites = []) (mode : StructMode)
    (kvs : List (String × SVal)) (ih : ∀ kv ∈ kvs, Mapped o ext kv.2) {t2 : Tracer}
    (hl : Later .fixed o (.struct mode kvs) t2) (hinv : Inv o t2) {f : Field} (hf : t2.to_field o = .ok f) :
    ∃ flds, isUnknownVariant f.dataType f.metadata = false ∧
      (f.dataType = .struct (Fields.ofList flds) ∨ f.dataType = .struct (Fields.ofList (sortByName flds))) ∧
      ∀ g ∈ flds,
        (∀ kv ∈ kvs, kv.1 = g.name → sampleOK o.map_as_struct kv.2 = true →
          hits (exclAny ext) g.dataType kv.2 = false → IOk ext g kv.2) ∧
        ((∀ kv ∈ kvs, kv.1 ≠ g.name) → g.nullable = true ∧
          (isUnionDT g.dataType = false → interpNull g.dataType g.nullable g.metadata = .ok .null)) := by
  obtain ⟨_, n, p, nl2, fs2, m2, s2, rfl, _, _, hwas, hnull⟩ := hl
  obtain ⟨hF2, hAll⟩ := Inv_struct hinv
  obtain ⟨flds, hflds, hcase⟩ := to_field_node h0 hf
  refine ⟨flds, ?_, ?_, ?_⟩
  · rcases hcase with ⟨_, rfl⟩ | ⟨_, rfl⟩ <;> rfl
  · rcases hcase with ⟨_, rfl⟩ | ⟨_, rfl⟩
    · exact .inr rfl
    · exact .inl rfl
  intro g hg
  obtain ⟨j, c, hj, hc⟩ := to_fields_mem o fs2 flds hflds g hg
  obtain ⟨hname, _, _⟩ := to_field_facts h0 hc
  have hjidx : fs2.indexOf c.name = some j := FWF_indexOf_name hF2 j c hj
  constructor
  · intro kv hkv hkey hok hex
    obtain ⟨i, ft, hi, hft, hw⟩ := hwas kv hkv
    rw [hkey, hname, hjidx] at hi
    cases hi
    rw [hj] at hft; cases hft
    exact ih kv hkv c hw (hAll j c hj) g hc hok hex
  · intro hno
    have hn : c.nullable = true := by
      rcases hnull j c hj with hn | ⟨kv, hkv, hidx⟩
      · exact hn
      · exact absurd (by rw [hname, FWF_name_of_indexOf hF2 kv.1 j c hidx hj]) (hno kv hkv)
    exact ⟨to_field_nullable h0 hc hn, fun hu => interpNull_of_nullable h0 hc hn hu⟩

theorem pickOne_nil {g : Field} (hn : g.nullable = true)
    (hi : interpNull g.dataType g.nullable g.metadata = .ok .null) :
    pickOne g.name g.nullable g.dataType g.metadata [] = .ok .null := by
  simp only [pickOne, hn, Bool.not_true, Bool.false_eq_true, if_false]
  rw [← hn]; exact hi

theorem exclAny_none {ext : Ext} {dt : DataType} (h : exclAny ext dt .none = false) : isUnionDT dt = false := by
  simpa [exclAny, nullAtEnum, dateLookalike, u64AboveI64, dataLessNewtype] using h

theorem SFields.hasKey_false : ∀ (fs : SFields) (name : String), SFields.hasKey fs name = false →
    ∀ kv ∈ SFields.kvs fs, kv.1 ≠ name
  | .nil, _, _, kv, hkv => by simp [SFields.kvs] at hkv
  | .cons k a v r, name, h, kv, hkv => by
    simp only [SFields.hasKey, Bool.or_eq_false_iff, beq_eq_false_iff_ne] at h
    simp only [SFields.kvs, List.mem_cons] at hkv
    rcases hkv with rfl | hkv
    · exact h.1
    · exact SFields.hasKey_false r name h.2 kv hkv

theorem hitsByName_false (p : DataType → SVal → Bool) (name : String) (dt : DataType) : ∀ fs : SFields,
    hitsByName p name dt fs = false → ∀ kv ∈ SFields.kvs fs, kv.1 = name → hits p dt kv.2 = false
  | .nil, _, kv, hkv, _ => by simp [SFields.kvs] at hkv
  | .cons k a v r, h, kv, hkv, hkey => by
    rw [hitsByName] at h
    simp only [Bool.or_eq_false_iff, Bool.and_eq_false_imp, beq_iff_eq] at h
    simp only [SFields.kvs, List.mem_cons] at hkv
    rcases hkv with rfl | hkv
    · exact h.1 hkey
    · exact hitsByName_false p name dt r h.2 kv hkv hkey

theorem sfieldsOK_memS (b : Bool) : ∀ fs : SFields, sfieldsOK b fs = true → ∀ kv ∈ SFields.kvs fs, sampleOK b kv.2 = true
  | .nil, _, kv, hkv => by simp [SFields.kvs] at hkv
  | .cons k a v r, h, kv, hkv => by
    rw [sfieldsOK] at h
    simp only [Bool.and_eq_true] at h
    simp only [SFields.kvs, List.mem_cons] at hkv
    rcases hkv with rfl | hkv
    · exact h.1
    · exact sfieldsOK_memS b r h.2 kv hkv

theorem interpByName_cases (ext : Ext) (name : String) (dt : DataType) (nl : Bool) (md : Metadata) : ∀ fs : SFields,
    SFields.dupKeys fs = false →
    (∀ kv ∈ SFields.kvs fs, kv.1 = name → ∃ lv, interpDT ext dt nl md kv.2 = .ok lv) →
    (SFields.hasKey fs name = true ∧ ∃ lv, interpByName ext name dt nl md fs = .ok [lv]) ∨
    (SFields.hasKey fs name = false ∧ interpByName ext name dt nl md fs = .ok [])
  | .nil, _, _ => .inr ⟨rfl, by rw [interpByName]⟩
  | .cons k a v r, hd, hv => by
    simp only [SFields.dupKeys, Bool.or_eq_false_iff] at hd
    have ih := interpByName_cases ext name dt nl md r hd.2
      (fun kv hkv => hv kv (by simp only [SFields.kvs, List.mem_cons]; exact .inr hkv))
    by_cases e : k = name
    · subst e
      obtain ⟨lv, hlv⟩ := hv (k, v) (by simp [SFields.kvs]) rfl
      rcases ih with ⟨hh, _⟩ | ⟨_, hr⟩
      · rw [hd.1] at hh; cases hh
      · exact .inl ⟨by simp [SFields.hasKey], lv, interpByName_cons_ok (beq_self_eq_true k) hr hlv⟩
    · have e' : (k == name) = false := by simpa using e
      rcases ih with ⟨hh, lv, hr⟩ | ⟨hh, hr⟩
      · exact .inl ⟨by simp [SFields.hasKey, hh], lv, (interpByName_cons_ne e').trans hr⟩
      · exact .inr ⟨by simp [SFields.hasKey, hh, e'], (interpByName_cons_ne e').trans hr⟩

/-- a record at the struct field a tracer yields: every schema field finds exactly one value of the record (no duplicate
keys), defined by `hflds`, or none, and is then nullable -/
theorem record_ok (ext : Ext) (b : Bool) {f : Field} (n : String) (fs : SFields) {flds : List Field}
    (huv : isUnknownVariant f.dataType f.metadata = false)
    (hdt : f.dataType = .struct (Fields.ofList flds) ∨ f.dataType = .struct (Fields.ofList (sortByName flds)))
    (hflds : ∀ g ∈ flds,
      (∀ kv ∈ SFields.kvs fs, kv.1 = g.name → sampleOK b kv.2 = true →
        hits (exclAny ext) g.dataType kv.2 = false → IOk ext g kv.2) ∧
      ((∀ kv ∈ SFields.kvs fs, kv.1 ≠ g.name) → g.nullable = true ∧
        (isUnionDT g.dataType = false → interpNull g.dataType g.nullable g.metadata = .ok .null)))
    (hok : sampleOK b (.record n fs) = true) (hex : hits (exclAny ext) f.dataType (.record n fs) = false) :
    IOk ext f (.record n fs) := by
  simp only [sampleOK, Bool.and_eq_true, Bool.not_eq_true'] at hok
  have key : ∀ flds' : List Field, (∀ g, g ∈ flds' → g ∈ flds) → f.dataType = .struct (Fields.ofList flds') →
      IOk ext f (.record n fs) := by
    intro flds' hsub hdt'
    unfold IOk
    rw [hdt'] at hex huv ⊢
    simp only [interpDT, huv, Bool.false_eq_true, if_false]
    simp only [Bool.false_eq_true, if_false, Fields.toList_ofList]
    simp only [hits, Fields.toList_ofList] at hex
    apply structOf_ok
    intro g hg
    have hex' := List.any_eq_false.mp hex g hg
    simp only [Bool.or_eq_true, Bool.and_eq_true, Bool.not_eq_true', not_or, not_and, Bool.not_eq_true] at hex'
    obtain ⟨hA, hB⟩ := hflds g (hsub g hg)
    rcases interpByName_cases ext g.name g.dataType g.nullable g.metadata fs hok.2
      (fun kv hkv hkey => hA kv hkv hkey (sfieldsOK_memS _ fs hok.1 kv hkv)
        (hitsByName_false _ _ _ fs hex'.1 kv hkv hkey)) with ⟨_, lv, hr⟩ | ⟨hh, hr⟩
    · exact ⟨[lv], lv, hr, rfl⟩
    · obtain ⟨hn, hi⟩ := hB (SFields.hasKey_false fs g.name hh)
      exact ⟨[], .null, hr, pickOne_nil hn (hi (exclAny_none (hex'.2 hh)))⟩
  rcases hdt with hdt | hdt
  · exact key flds (fun g hg => hg) hdt
  · exact key (sortByName flds) (fun g hg => (mem_sortByName flds g).mp hg) hdt

theorem mapped_record (o : Options) (ext : Ext) (h0 : o.overwrites = []) (n : String) (fs : SFields)
    (ih : ∀ kv ∈ SFields.kvs fs, Mapped o ext kv.2) : Mapped o ext (.record n fs) := by
  intro t2 h hinv f hf hok hex
  obtain ⟨flds, huv, hdt, hflds⟩ := asStruct_fields o ext h0 .struct (SFields.kvs fs) ih (was_later h) hinv hf
  exact record_ok ext _ n fs huv hdt hflds hok hex

theorem SEntries.kvs_cons_inv {k v : SVal} {r : SEntries} {kvs : List (String × SVal)}
    (h : SEntries.kvs (.cons k v r) = .ok kvs) :
    ∃ key rest, k = .str key ∧ SEntries.kvs r = .ok rest ∧ kvs = (key, v) :: rest := by
  rw [SEntries.kvs] at h
  obtain ⟨key, h1, h2⟩ := bind_ok'.mp h
  obtain ⟨rest, h3, h4⟩ := bind_ok'.mp h2
  cases h4
  cases k <;> simp only [serializeToString, fail, reduceCtorEq] at h1
  cases h1
  exact ⟨key, rest, rfl, h3, rfl⟩

theorem keyStr_str (key : String) : (keyStr (.str key)).toOption = some key := by
  simp [keyStr, Except.toOption]

/-- the record a map with string keys amounts to at a struct column -/
def SFields.ofKvs : List (String × SVal) → SFields
  | [] => .nil
  | kv :: r => .cons kv.1 0 kv.2 (SFields.ofKvs r)

theorem SFields.kvs_ofKvs : ∀ kvs : List (String × SVal), SFields.kvs (SFields.ofKvs kvs) = kvs
  | [] => rfl
  | kv :: r => by rw [SFields.ofKvs, SFields.kvs, SFields.kvs_ofKvs r]

/-- the specification, the exclusion walk and `sampleOK` read a map with string keys at a struct column as they read the
record of its entries -/
theorem SEntries.as_record : ∀ (es : SEntries) (kvs : List (String × SVal)), SEntries.kvs es = .ok kvs →
    keysAreStrings es = .ok () ∧
    (∀ ext name dt nl md, interpByKey ext name dt nl md es = interpByName ext name dt nl md (SFields.ofKvs kvs)) ∧
    (∀ p name dt, hitsByKey p name dt es = hitsByName p name dt (SFields.ofKvs kvs)) ∧
    (∀ name, SEntries.hasKey es name = SFields.hasKey (SFields.ofKvs kvs) name) ∧
    SEntries.dupKeys es = SFields.dupKeys (SFields.ofKvs kvs) ∧
    ∀ b, sentriesOK b es = true → sfieldsOK b (SFields.ofKvs kvs) = true
  | .nil, kvs, h => by
    cases h
    exact ⟨by rw [keysAreStrings], fun _ _ _ _ _ => by rw [interpByKey, SFields.ofKvs, interpByName],
      fun _ _ _ => rfl, fun _ => rfl, rfl, fun _ _ => rfl⟩
  | .cons k v r, kvs, h => by
    obtain ⟨key, rest, rfl, hr, rfl⟩ := SEntries.kvs_cons_inv h
    obtain ⟨i1, i2, i3, i4, i5, i6⟩ := SEntries.as_record r rest hr
    refine ⟨?_, fun ext name dt nl md => ?_, fun p name dt => ?_, fun name => ?_, ?_, fun b hb => ?_⟩
    · rw [keysAreStrings]
      simp only [specKey_eq, normErr_ok, keyStr, bind, Except.bind]
      exact i1
    · rw [interpByKey, SFields.ofKvs, interpByName, i2, keyOf_eq, keyStr_str]
      simp
    · rw [hitsByKey, SFields.ofKvs, hitsByName, i3, keyStr_str]
      simp
    · rw [SEntries.hasKey, SFields.ofKvs, SFields.hasKey, i4, keyStr_str]
      simp
    · rw [SEntries.dupKeys, SFields.ofKvs, SFields.dupKeys, i5, keyStr_str]
      simp only [i4]
    · rw [sentriesOK] at hb
      simp only [Bool.and_eq_true] at hb
      rw [SFields.ofKvs, sfieldsOK, hb.1.2, i6 b hb.2]
      rfl

theorem mapped_mapAsStruct (o : Options) (ext : Ext) (h0 : o.overwrites = []) (hm : o.map_as_struct = true) (es : SEntries)
    (ihv : ∀ v ∈ SEntries.vals es, Mapped o ext v) : Mapped o ext (.map es) := by
  intro t2 h hinv f hf hok hex
  have hl := was_later h
  rw [show fam o (.map es) = .ofKvs (SEntries.kvs es) by simp only [fam, leafTypeOf, if_pos hm]] at hl
  cases hk : SEntries.kvs es with
  | error e => rw [hk] at hl; exact hl.elim
  | ok kvs =>
    rw [hk] at hl
    obtain ⟨flds, huv, hdt, hflds⟩ := asStruct_fields o ext h0 .map kvs
      (fun kv hkv => ihv _ (SEntries.kvs_vals es kvs hk kv hkv)) hl hinv hf
    obtain ⟨i1, i2, i3, i4, i5, i6⟩ := SEntries.as_record es kvs hk
    obtain ⟨sfs, hs⟩ : ∃ sfs, f.dataType = .struct sfs := hdt.elim (fun h => ⟨_, h⟩) (fun h => ⟨_, h⟩)
    rw [← SFields.kvs_ofKvs kvs] at hflds
    simp only [sampleOK, hm, Bool.and_eq_true, Bool.not_true, Bool.false_or, Bool.not_eq_true'] at hok
    have hrec := record_ok ext o.map_as_struct "" (SFields.ofKvs kvs) huv hdt hflds
      (by simp only [sampleOK, Bool.and_eq_true, Bool.not_eq_true']; rw [hm, ← i5]; exact ⟨i6 true hok.1, hok.2⟩)
      (by rw [hs] at hex ⊢; simpa only [hits, i3, i4] using hex)
    unfold IOk at hrec ⊢
    rw [hs] at hrec huv ⊢
    simp only [interpDT, huv, Bool.false_eq_true, if_false, i1, i2, bind, Except.bind] at hrec ⊢
    exact hrec

end SaModel.Lemmas.C06
