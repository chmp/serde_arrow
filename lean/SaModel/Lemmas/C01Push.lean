import SaModel.Lemmas.C01ObsPush
import SaModel.Lemmas.C01Strict
/-
R1 — the work-horse: every successful `push` keeps the builder state well formed and appends exactly ONE
logical row.  It is R1' (`push_refines`, Lemmas/C01ObsPush.lean) plus the strict dictionary clause of the new state
(Lemmas/C01Strict.lean).

Hypotheses, beside the state invariant `WFB`:
* `Safe b` (schema property, see Build/Inv.lean): no dictionary with non-nullable keys can receive
  `serialize_default` — for such schemas the statement is false as it stands (placeholder key 0, see
  `Props.C01.dict_placeholder_unstable`, Props/C01Refine.lean).
No hypothesis on the value: a MAP builder refuses every raw key/value call stream (`SVal.mapRaw`, a malformed
`SerializeMap` user) that does not alternate key, value, key, value … (repo fix eafdf15: the `key_pending` flag,
`pushMapOps`), so a SUCCESSFUL push has kept keys and values in step.
-/
namespace SaModel.Build
open SaModel SaModel.Spec
open SaModel.Lemmas.C03 (push_All pushElems_All pushCountElems_All pushMapEntries_All pushMapOps_All)

theorem push_appends (ext : Ext) : ∀ (x : SVal) (b b' : B), WFB b → Safe b → push ext b x = .ok b' →
    WFB b' ∧ ∃ lv, dec b' = dec b ++ [lv] := by
  intro x b b' hw hs h
  have hnd := NoDictKey_of_Safe b hs
  obtain ⟨hw', lv, hr⟩ := push_refines ext x b b' (WFH_of_WFB b hw) hnd h
  obtain ⟨hb', hd⟩ := strict_of_refines (ls := [lv]) hw hw'
    (push_All (sd_keepsPush ext) x b b' (fun w => w.elim) h (fun _ => hs) (SD_of_WFB b hw hnd)) hr
  exact ⟨hb', lv, hd⟩

/-- the element loop of a list: the child grows by rows `ls`, the open offset by `|ls|` -/
theorem pushElems_appends (ext : Ext) (xs : SVals) (large : Bool) (el : B) (base : List Int) (l : Int) (r : B × List Int)
    (hw : WFB el) (hs : Safe el) (h : pushElems ext large el (base ++ [l]) xs = .ok r) :
    WFB r.1 ∧ ∃ ls, dec r.1 = dec el ++ ls ∧ r.2 = base ++ [l + (ls.length : Int)] := by
  have hnd := NoDictKey_of_Safe el hs
  obtain ⟨hw', ls, hr, ho⟩ := pushElems_refines ext xs large el base l r (WFH_of_WFB el hw) hnd h
  obtain ⟨hb', hd⟩ := strict_of_refines hw hw'
    (pushElems_All (sd_keepsPush ext) xs (fun w => w.elim) large el _ r h (fun _ => hs) trivial (SD_of_WFB el hw hnd)).2 hr
  exact ⟨hb', ls, hd, ho⟩

/-- map entries: keys and values grow in step, the open offset by the number of keys -/
theorem pushMapEntries_appends (ext : Ext) (es : SEntries) (base : List Int) (l : Int) (ks vs : B) (r : List Int × B × B)
    (hk : WFB ks) (hv : WFB vs) (hsk : Safe ks) (hsv : Safe vs) (h : pushMapEntries ext (base ++ [l]) ks vs es = .ok r) :
    WFB r.2.1 ∧ WFB r.2.2 ∧ ∃ lk lw : List LVal, lw.length = lk.length ∧ dec r.2.1 = dec ks ++ lk ∧
      dec r.2.2 = dec vs ++ lw ∧ r.1 = base ++ [l + (lk.length : Int)] := by
  have hnk := NoDictKey_of_Safe ks hsk
  have hnv := NoDictKey_of_Safe vs hsv
  obtain ⟨hk', hv', lk, lw, hlen, hrk, hrv, ho⟩ :=
    pushMapEntries_refines ext es base l ks vs r (WFH_of_WFB ks hk) (WFH_of_WFB vs hv) hnk hnv h
  obtain ⟨_, hsk', hsv'⟩ := pushMapEntries_All (sd_keepsPush ext) es (fun w => w.elim) _ ks vs r h (fun _ => hsk)
    (fun _ => hsv) trivial (SD_of_WFB ks hk hnk) (SD_of_WFB vs hv hnv)
  obtain ⟨gk, dk⟩ := strict_of_refines hk hk' hsk' hrk
  obtain ⟨gv, dv⟩ := strict_of_refines hv hv' hsv' hrv
  exact ⟨gk, gv, lk, lw, hlen, dk, dv, ho⟩

theorem pushMapOps_appends_gen (ext : Ext) : ∀ (ops : SMapOps) (pd : Bool) (base : List Int) (l : Int) (ks vs : B)
    (r : List Int × B × B), WFB ks → WFB vs → Safe ks → Safe vs → pushMapOps ext pd (base ++ [l]) ks vs ops = .ok r →
    WFB r.2.1 ∧ WFB r.2.2 ∧ ∃ lk lw : List LVal, lw.length = lk.length + (if pd then 1 else 0) ∧
      dec r.2.1 = dec ks ++ lk ∧ dec r.2.2 = dec vs ++ lw ∧ r.1 = base ++ [l + (lk.length : Int)] := by
  intro ops pd base l ks vs r hk hv hsk hsv h
  have hnk := NoDictKey_of_Safe ks hsk
  have hnv := NoDictKey_of_Safe vs hsv
  obtain ⟨hk', hv', lk, lw, hlen, hrk, hrv, ho⟩ :=
    pushMapOps_refines_gen ext ops pd base l ks vs r (WFH_of_WFB ks hk) (WFH_of_WFB vs hv) hnk hnv h
  obtain ⟨_, hsk', hsv'⟩ := pushMapOps_All (sd_keepsPush ext) ops (fun w => w.elim) pd _ ks vs r h (fun _ => hsk)
    (fun _ => hsv) trivial (SD_of_WFB ks hk hnk) (SD_of_WFB vs hv hnv)
  obtain ⟨gk, dk⟩ := strict_of_refines hk hk' hsk' hrk
  obtain ⟨gv, dv⟩ := strict_of_refines hv hv' hsv' hrv
  exact ⟨gk, gv, lk, lw, hlen, dk, dv, ho⟩

theorem pushMapOps_appends (ext : Ext) (ops : SMapOps) (base : List Int) (l : Int) (ks vs : B) (r : List Int × B × B)
    (hk : WFB ks) (hv : WFB vs) (hsk : Safe ks) (hsv : Safe vs) (h : pushMapOps ext false (base ++ [l]) ks vs ops = .ok r) :
    WFB r.2.1 ∧ WFB r.2.2 ∧ ∃ lk lw : List LVal, lw.length = lk.length ∧ dec r.2.1 = dec ks ++ lk ∧
      dec r.2.2 = dec vs ++ lw ∧ r.1 = base ++ [l + (lk.length : Int)] := by
  obtain ⟨g1, g2, lk, lw, hlen, rest⟩ := pushMapOps_appends_gen ext ops false base l ks vs r hk hv hsk hsv h
  exact ⟨g1, g2, lk, lw, by simpa using hlen, rest⟩

/-- the element loop of a fixed-size list: the child grows by rows `ls`, the counter by `|ls|` -/
theorem pushCountElems_appends (ext : Ext) (xs : SVals) (el : B) (c : Nat) (r : B × Nat) (hw : WFB el) (hs : Safe el)
    (h : pushCountElems ext el c xs = .ok r) : WFB r.1 ∧ ∃ ls, dec r.1 = dec el ++ ls ∧ r.2 = c + ls.length := by
  have hnd := NoDictKey_of_Safe el hs
  obtain ⟨hw', ls, hr, ho⟩ := pushCountElems_refines ext xs el c r (WFH_of_WFB el hw) hnd h
  obtain ⟨hb', hd⟩ := strict_of_refines hw hw'
    (pushCountElems_All (sd_keepsPush ext) xs (fun w => w.elim) el c r h (fun _ => hs) (SD_of_WFB el hw hnd)) hr
  exact ⟨hb', ls, hd, ho⟩

/-- a `serialize_bytes` call into a list of `u8`: the bytes are its elements (`pushByteElems_eq`) -/
theorem pushByteElems_appends (ext : Ext) (large : Bool) (bs : Bytes) (el : B) (base : List Int) (l : Int) (r : B × List Int)
    (hw : WFB el) (hs : Safe el) (h : pushByteElems ext large el (base ++ [l]) bs = .ok r) :
    WFB r.1 ∧ ∃ ls, dec r.1 = dec el ++ ls ∧ r.2 = base ++ [l + (ls.length : Int)] :=
  pushElems_appends ext _ large el base l r hw hs (pushByteElems_eq ext large bs el _ ▸ h)

/-! ### the field loops keep a strict mid-record state (`FieldsOK`, the hypothesis of `struct_interp`) -/

/-- a strict mid-record state stays one -/
def MidKeeps (s s' : SS) : Prop := ∀ fs0 adds, Mid fs0 s adds → (∃ adds', Mid fs0 s' adds') ∧ Same s' s

theorem MidKeeps.refl (s : SS) : MidKeeps s s := fun _ adds hm => ⟨⟨adds, hm⟩, Same.refl _⟩

theorem MidKeeps.trans {a b c : SS} (h1 : MidKeeps a b) (h2 : MidKeeps b c) : MidKeeps a c := fun fs0 adds hm => by
  obtain ⟨⟨adds1, hm1⟩, hs1⟩ := h1 fs0 adds hm
  obtain ⟨a2, hs2⟩ := h2 fs0 adds1 hm1
  exact ⟨a2, hs2.trans hs1⟩

theorem MidKeeps.next (s : SS) (n : Nat) : MidKeeps s { s with next := n } := fun _ adds hm =>
  ⟨⟨adds, hm.next n⟩, Same.refl _⟩

theorem MidKeeps.cached {s : SS} {key : String × Nat} {r : Option Nat × List (Option (String × Nat))}
    (h : lookup s.fields.names s.cached s.next key = r) : MidKeeps s { s with cached := r.2 } := fun _ adds hm =>
  ⟨⟨adds, hm.cached _ (h ▸ (SaModel.Props.C11Front.lookup_sound _ _ _ key hm.nodup hm.cache).2)⟩, Same.refl _⟩

theorem MidKeeps.wrote (ext : Ext) {s : SS} {idx : Nat} {x : SVal} {c c' : B} {m : FieldMeta}
    (hseen : s.seen[idx]? = some false) (hget : s.fields.get? idx = some (c, m)) (hc : push ext c x = .ok c') :
    MidKeeps s (s.wrote idx c') := by
  intro fs0 adds hm
  have hsc := SafeL.get _ _ _ hm.safe hget
  obtain ⟨hc', lv, hdec⟩ := push_appends ext x c c' (ExtL.get _ _ _ _ _ hm.ext hget) hsc hc
  refine ⟨⟨adds.set idx (adds.getD idx [] ++ [lv]), ?_, ?_, ?_, ?_, ?_⟩, rfl, rfl, rfl⟩
  · exact ExtL.set _ _ _ _ c c' m [lv] hm.ext hget hc' hdec
  · exact Flags.set _ _ _ lv hm.flags hseen
  · simp only [SS.wrote, BL.names_set]; exact hm.cache
  · exact SafeL.set _ _ _ hm.safe (Safe.of_takeRest (push_takeRest ext x c c' hc) hsc)
  · simp only [SS.wrote, BL.names_set]; exact hm.nodup

/-- only the clauses of `SS.element` and of the four field loops say anything -/
theorem mid_cases (ext : Ext) : PushCases ext (fun _ _ _ => True) (fun s _ _ s' => MidKeeps s s') (fun _ _ _ _ _ => True)
    (fun _ _ _ _ => True) (fun s _ s' => MidKeeps s s') (fun s _ s' => MidKeeps s s') (fun s _ s' => MidKeeps s s')
    (fun s _ s' => MidKeeps s s') (fun _ _ _ _ _ => True) (fun _ _ _ _ _ _ => True) where
  fwdSome _ := trivial
  fwdNewtype _ := trivial
  null _ _ := trivial
  scalar _ _ := trivial
  list _ _ _ _ _ := trivial
  listBytes _ _ _ _ := trivial
  fixedSizeList _ _ _ _ := trivial
  binary _ _ _ _ _ _ := trivial
  binaryView _ _ _ _ := trivial
  fixedSizeBinary _ _ _ := trivial
  structTuple _ _ _ _ _ _ := trivial
  structRecord _ _ _ _ := trivial
  structMap _ _ _ _ := trivial
  structMapRaw _ _ _ _ := trivial
  map _ _ _ _ := trivial
  mapRaw _ _ _ _ := trivial
  union _ _ _ _ _ _ _ := trivial
  element hseen hget hc _ := MidKeeps.wrote ext hseen hget hc
  elemsNil := trivial
  elemsCons _ _ _ _ _ := trivial
  countNil := trivial
  countCons _ _ _ _ := trivial
  toStructLoopCases := StructRel.loops ⟨MidKeeps.refl, MidKeeps.trans, MidKeeps.next, fun h => MidKeeps.cached h⟩
  mapEntriesNil := trivial
  mapEntriesCons _ _ _ _ _ _ _ := trivial
  mapOpsNil := trivial
  mapOpsKey _ _ _ _ _ := trivial
  mapOpsValue _ _ _ _ := trivial

theorem pushTupleElems_appends (ext : Ext) : ∀ (xs : SVals),
    FieldsOK (fun s => pushTupleElems ext s xs) :=
  fun xs fs0 s adds s' hm h => (mid_cases ext).tuple xs s s' h fs0 adds hm

theorem pushFields_appends (ext : Ext) : ∀ (fs : SFields),
    FieldsOK (fun s => pushFields ext s fs) :=
  fun fs fs0 s adds s' hm h => (mid_cases ext).fields fs s s' h fs0 adds hm

theorem pushStructEntries_appends (ext : Ext) : ∀ (es : SEntries),
    FieldsOK (fun s => pushStructEntries ext s es) :=
  fun es fs0 s adds s' hm h => (mid_cases ext).structEntries es s s' h fs0 adds hm

theorem pushStructOps_appends (ext : Ext) : ∀ (ops : SMapOps),
    FieldsOK (fun s => pushStructOps ext s ops) :=
  fun ops fs0 s adds s' hm h => (mid_cases ext).structOps ops s s' h fs0 adds hm

end SaModel.Build
