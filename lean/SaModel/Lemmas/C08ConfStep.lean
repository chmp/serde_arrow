import SaModel.Lemmas.C08Conf
/-
C08 — `explore_conf`: an exploration pass over a tracer that conforms to the type ends in a tracer that conforms to the
type, or in a Rust error; it never panics.  Consequence (`fromType_not_walkable`, SaModel/Lemmas/C08NotWalkable.lean):
for a type that cannot be walked the loop of `from_type` ends in an error.
-/
namespace SaModel.Lemmas.C08
open SaModel SaModel.Trace SaModel.Trace.Spec

theorem Pres.mono {α} {r : R α} {P Q : α → Prop} (h : Pres r P) (hpq : ∀ x, P x → Q x) : Pres r Q := by
  unfold Pres at h
  split at h
  · exact hpq _ h
  · trivial
  · exact h.elim

theorem Pres.ite {α} {P : α → Prop} {c : Prop} [Decidable c] {a b : R α} (ha : Pres a P) (hb : Pres b P) :
    Pres (if c then a else b) P := by
  split <;> assumption

theorem coerce_pres (o : Options) (a : DataType) (nl : Bool) (s : Option Strategy) (b : DataType) (s' : Option Strategy) :
    Pres (coerce_primitive_type o a nl s b s') (fun _ => True) := by
  unfold coerce_primitive_type
  repeat (first | exact Pres.ok trivial | exact Pres.fail _ | apply Pres.ite)

theorem ensure_primitive_pres (o : Options) (t : Tracer) (dt : DataType) (st : Option Strategy) :
    Pres (t.ensure_primitive_with_strategy o dt st) (fun _ => True) := by
  cases t with
  | unknown n p nl => trivial
  | primitive n p nl ty s =>
    simp only [Tracer.ensure_primitive_with_strategy]
    exact Pres.bind (coerce_pres o ty nl s dt st) fun _ _ => trivial
  | list n p nl i => simp only [Tracer.ensure_primitive_with_strategy]; split <;> trivial
  | map n p nl k v => simp only [Tracer.ensure_primitive_with_strategy]; split <;> trivial
  | struct n p nl fs m s => simp only [Tracer.ensure_primitive_with_strategy]; split <;> trivial
  | tuple n p nl ts => simp only [Tracer.ensure_primitive_with_strategy]; split <;> trivial
  | union n p nl vs => simp only [Tracer.ensure_primitive_with_strategy]; split <;> trivial

theorem explore_vec_node (c : Code) (o : Options) (n p : String) (nl : Bool) (i : Tracer) (t : Ty)
    (hd : tooDeep p = false) :
    explore c o (.list n p nl i) (.vec t) = (explore c o i t >>= fun i' => .ok (.list n p nl i')) := by
  simp only [explore, ensure_list_list n p nl _ hd, bind, Except.bind]

theorem explore_map_node (c : Code) (o : Options) (n p : String) (nl : Bool) (kt vt : Tracer) (k v : Ty)
    (hm : o.map_as_struct = false) (hd : tooDeep p = false) :
    explore c o (.map n p nl kt vt) (.map k v) =
      (explore c o kt k >>= fun kt' => explore c o vt v >>= fun vt' => .ok (.map n p nl kt' vt')) := by
  simp only [explore, hm, ensure_map_map n p nl _ _ hd, bind, Except.bind, Bool.false_eq_true, if_false]

theorem explore_map_fail (c : Code) (o : Options) (t : Tracer) (k v : Ty) (hm : o.map_as_struct = true) :
    explore c o t (.map k v) = fail "Cannot trace maps as structs with `from_type`" := by
  simp only [explore, hm, if_true]

theorem explore_tuple_node (c : Code) (o : Options) (n p : String) (nl : Bool) (fts : Tracers) (ts : Tys)
    (hd : tooDeep p = false) (hl : fts.length = ts.length) :
    explore c o (.tuple n p nl fts) (.tuple ts) = (exploreTys c o fts 0 ts >>= fun f => .ok (.tuple n p nl f)) := by
  have h2 := ensure_tuple_tuple c n p nl fts hd
  rw [hl] at h2
  simp only [explore, h2, bind, Except.bind]

theorem explore_struct_node (c : Code) (o : Options) (n p : String) (nl : Bool) (tfs : TFields) (s : Nat) (sn : String)
    (fs : TyFields) (hd : tooDeep p = false) :
    explore c o (.struct n p nl tfs .struct s) (.struct sn fs) =
      (exploreFields c o tfs 0 fs >>= fun f => .ok (.struct n p nl f .struct s)) := by
  simp only [explore, ensure_struct_struct c n p nl _ _ _ hd, bind, Except.bind]

theorem explore_deep_vec (c : Code) (o : Options) (n p : String) (nl : Bool) (t : Ty) (hd : tooDeep p = true) :
    explore c o (.unknown n p nl) (.vec t) = fail "Too deeply nested type detected" := by
  simp only [explore, ensure_list_deep (.unknown n p nl) hd]; rfl

theorem explore_deep_map (c : Code) (o : Options) (n p : String) (nl : Bool) (k v : Ty) (hm : o.map_as_struct = false)
    (hd : tooDeep p = true) :
    explore c o (.unknown n p nl) (.map k v) = fail "Too deeply nested type detected" := by
  simp only [explore, hm, ensure_map_deep (.unknown n p nl) hd, Bool.false_eq_true, if_false]; rfl

theorem explore_deep_tuple (c : Code) (o : Options) (n p : String) (nl : Bool) (ts : Tys) (hd : tooDeep p = true) :
    explore c o (.unknown n p nl) (.tuple ts) = fail "Too deeply nested type detected" := by
  simp only [explore, ensure_tuple_deep c (.unknown n p nl) _ hd]; rfl

theorem explore_deep_struct (c : Code) (o : Options) (n p : String) (nl : Bool) (sn : String) (fs : TyFields)
    (hd : tooDeep p = true) :
    explore c o (.unknown n p nl) (.struct sn fs) = fail "Too deeply nested type detected" := by
  simp only [explore, ensure_struct_deep c (.unknown n p nl) _ _ hd]; rfl

theorem explore_deep_enum (c : Code) (o : Options) (n p : String) (nl : Bool) (en : String) (vs : TyVariants)
    (hd : tooDeep p = true) :
    explore c o (.unknown n p nl) (.enum en vs) = fail "Too deeply nested type detected" := by
  simp only [explore, ensure_union_deep (.unknown n p nl) _ hd]; rfl

/-- a union node that conforms holds no unseen slot: looking for the first incomplete variant cannot panic -/
theorem confVariants_firstIncomplete (o : Options) (p : String) (vs : TyVariants) : ∀ (V : Variants) (i0 : Nat),
    ConfVariants o p vs V → ∃ r, V.firstIncomplete i0 = .ok r := by
  induction vs using VHead.walk with
  | vnil => intro _ _ h; simp only [ConfVariants] at h; subst h; exact ⟨none, rfl⟩
  | vcons vs n T r hh ih =>
    intro _ i0 h
    obtain ⟨vn, vt, R, rfl, _, h2⟩ := (hh.conf_iff o p _).1 h
    simp only [Variants.firstIncomplete]
    split
    · exact ⟨_, rfl⟩
    · exact ih R (i0 + 1) h2

theorem union_conf_of (c : Code) (o : Options) (en : String) (vs : TyVariants) (n p : String) (nl : Bool) (V : Variants)
    (hd : tooDeep p = false) (hV : ConfVariants o p vs V)
    (hEV : ∀ idx vn vt, V.get? idx = some (some (vn, vt)) →
      Pres (exploreVariant c o vt idx vs) (fun vt' => ConfVariants o p vs (V.set idx vn vt'))) :
    Pres (explore c o (.union n p nl V) (.enum en vs)) (Conf o p (.enum en vs)) := by
  obtain ⟨r, hr⟩ := confVariants_firstIncomplete o p vs V 0 hV
  simp only [explore, ensure_union_union n p nl _ _ hd, bind, Except.bind, hr]
  by_cases hidx : r.getD 0 ≥ V.length
  · simp only [hidx, if_true]; exact Pres.fail _
  · simp only [hidx, if_false]
    cases hg : V.get? (r.getD 0) with
    | none => exact Pres.fail _
    | some x =>
      cases x with
      | none => exact Pres.fail _
      | some pr =>
        obtain ⟨vn, vt⟩ := pr
        have hne : vs.length ≠ 0 := by
          cases vs with
          | nil => simp only [ConfVariants] at hV; subst hV; simp only [Variants.get?] at hg; cases hg
          | unit _ _ | newtype _ _ _ | tuple _ _ _ | struct _ _ _ => simp only [TyVariants.length]; omega
        show Pres (exploreVariant c o vt (r.getD 0) vs >>= fun v => .ok (Tracer.union n p nl (V.set (r.getD 0) vn v))) _
        refine Pres.bind (hEV _ _ _ hg) fun vt' hx => Pres.ok ?_
        simp only [Conf]; exact Or.inr ⟨n, nl, _, rfl, hd, hne, hx⟩

/-- a pass keeps conformance; a variant of the union node is explored as its payload type (`VHead`) -/
theorem explore_conf_all (c : Code) (o : Options) :
    (∀ (ty : Ty) (p : String) (t : Tracer), Conf o p ty t → Pres (explore c o t ty) (Conf o p ty)) ∧
    (∀ (ts : Tys) (p : String) (i : Nat) (fts : Tracers),
      ConfTys o p i ts fts → Pres (exploreTys c o fts 0 ts) (ConfTys o p i ts)) ∧
    (∀ (fs : TyFields) (p : String) (tfs : TFields),
      ConfFields o p fs tfs → Pres (exploreFields c o tfs 0 fs) (ConfFields o p fs)) ∧
    (∀ (vs : TyVariants) (p : String) (V : Variants), ConfVariants o p vs V →
      ∀ (idx : Nat) (vn : String) (vt : Tracer), V.get? idx = some (some (vn, vt)) →
      Pres (exploreVariant c o vt idx vs) (fun vt' => ConfVariants o p vs (V.set idx vn vt'))) := by
  have tuple : ∀ ts, (∀ (p : String) (i : Nat) (fts : Tracers),
      ConfTys o p i ts fts → Pres (exploreTys c o fts 0 ts) (ConfTys o p i ts)) →
      ∀ p t, Conf o p (.tuple ts) t → Pres (explore c o t (.tuple ts)) (Conf o p (.tuple ts)) := by
    intro ts ih p t h
    have node : ∀ n nl fts, tooDeep p = false → ConfTys o p 0 ts fts →
        Pres (explore c o (.tuple n p nl fts) (.tuple ts)) (Conf o p (.tuple ts)) := by
      intro n nl fts hd hc
      rw [explore_tuple_node c o n p nl fts ts hd (confTys_length o p ts 0 fts hc)]
      refine Pres.bind (ih p 0 fts hc) fun f hf => Pres.ok ?_
      simp only [Conf]; exact Or.inr ⟨n, nl, f, rfl, hd, hf⟩
    simp only [Conf] at h
    rcases h with ⟨n, nl, rfl⟩ | ⟨n, nl, fts, rfl, hd, hc⟩
    · rcases Bool.eq_false_or_eq_true (tooDeep p) with hd | hd
      · rw [explore_deep_tuple c o n p nl ts hd]; exact Pres.fail _
      · rw [explore_tuple_unknown c o n p nl ts hd]; exact node n nl _ hd (confTys_fresh o p ts 0)
    · exact node n nl fts hd hc
  apply Ty.walk
  case node =>
    intro ty ih
    match ty, ih with
    | .unit, _ | .unitStruct _, _ | .bool, _ | .int _, _ | .f32, _ | .f64, _ | .char, _ | .string, _ | .bytes, _ =>
      intro p t _
      simp only [explore]
      exact Pres.mono (ensure_primitive_pres o t _ none) fun _ _ => by simp only [Conf]
    | .option ty, ih =>
      intro p t h
      simp only [Conf] at h
      simp only [explore]
      exact Pres.mono (ih p _ (conf_set_nullable o true ty p t h)) fun _ hx => by simpa only [Conf] using hx
    | .newtypeStruct _ ty, ih =>
      intro p t h
      simp only [Conf] at h
      simp only [explore]
      exact Pres.mono (ih p t h) fun _ hx => by simpa only [Conf] using hx
    | .vec ty, ih =>
      intro p t h
      simp only [Conf] at h
      have node : ∀ n nl i, tooDeep p = false → Conf o (childPath p "element") ty i →
          Pres (explore c o (.list n p nl i) (.vec ty)) (Conf o p (.vec ty)) := by
        intro n nl i hd hc
        rw [explore_vec_node c o n p nl i ty hd]
        refine Pres.bind (ih _ i hc) fun i' hi' => Pres.ok ?_
        simp only [Conf]; exact Or.inr ⟨n, nl, i', rfl, hd, hi'⟩
      rcases h with ⟨n, nl, rfl⟩ | ⟨n, nl, i, rfl, hd, hc⟩
      · cases hd : tooDeep p with
        | true => rw [explore_deep_vec c o n p nl ty hd]; exact Pres.fail _
        | false => rw [explore_vec_unknown c o n p nl ty hd]; exact node n nl _ hd (conf_fresh o ty _ _ _)
      · exact node n nl i hd hc
    | .map k v, ih =>
      intro p t h
      simp only [Conf] at h
      cases hm : o.map_as_struct with
      | true => rw [explore_map_fail c o t k v hm]; exact Pres.fail _
      | false =>
        have node : ∀ n nl kt vt, tooDeep p = false → Conf o (childPath p "key") k kt →
            Conf o (childPath p "value") v vt → Pres (explore c o (.map n p nl kt vt) (.map k v)) (Conf o p (.map k v)) := by
          intro n nl kt vt hd hk hv
          rw [explore_map_node c o n p nl kt vt k v hm hd]
          refine Pres.bind (ih.1 _ kt hk) fun kt' hk' => Pres.bind (ih.2 _ vt hv) fun vt' hv' => Pres.ok ?_
          simp only [Conf]; exact Or.inr ⟨n, nl, kt', vt', rfl, hm, hd, hk', hv'⟩
        rcases h with ⟨n, nl, rfl⟩ | ⟨n, nl, kt, vt, rfl, _, hd, hk, hv⟩
        · cases hd : tooDeep p with
          | true => rw [explore_deep_map c o n p nl k v hm hd]; exact Pres.fail _
          | false =>
            rw [explore_map_unknown c o n p nl k v hd]
            exact node n nl _ _ hd (conf_fresh o k _ _ _) (conf_fresh o v _ _ _)
        · exact node n nl kt vt hd hk hv
    | .tuple ts, ih => exact tuple ts ih
    | .tupleStruct sn ts, ih =>
      intro p t h
      rw [explore_tupleStruct_eq]
      exact tuple ts ih p t h
    | .struct sn fs, ih =>
      intro p t h
      have node : ∀ n nl tfs s, tooDeep p = false → ConfFields o p fs tfs →
          Pres (explore c o (.struct n p nl tfs .struct s) (.struct sn fs)) (Conf o p (.struct sn fs)) := by
        intro n nl tfs s hd hc
        rw [explore_struct_node c o n p nl tfs s sn fs hd]
        refine Pres.bind (ih p tfs hc) fun f hf => Pres.ok ?_
        simp only [Conf]; exact Or.inr ⟨n, nl, f, s, rfl, hd, hf⟩
      simp only [Conf] at h
      rcases h with ⟨n, nl, rfl⟩ | ⟨n, nl, tfs, s, rfl, hd, hc⟩
      · rcases Bool.eq_false_or_eq_true (tooDeep p) with hd | hd
        · rw [explore_deep_struct c o n p nl sn fs hd]; exact Pres.fail _
        · rw [explore_struct_unknown c o n p nl sn fs hd]; exact node n nl _ 0 hd (confFields_fresh o p fs)
      · exact node n nl tfs s hd hc
    | .enum en vs, ih =>
      intro p t h
      simp only [Conf] at h
      rcases h with ⟨n, nl, rfl⟩ | ⟨n, nl, V, rfl, hd, _, hV⟩
      · cases hd : tooDeep p with
        | true => rw [explore_deep_enum c o n p nl en vs hd]; exact Pres.fail _
        | false =>
          rw [explore_enum_unknown c o n p nl en vs hd]
          exact union_conf_of c o en vs n p nl _ hd (confVariants_fresh o p vs) (ih p _ (confVariants_fresh o p vs))
      · exact union_conf_of c o en vs n p nl V hd hV (ih p V hV)
  case tnil => intro _ _ _ h; simp only [exploreTys]; exact Pres.ok h
  case tcons =>
    intro t r iht ihr p i _ h
    simp only [ConfTys] at h
    obtain ⟨tr, rest, rfl, h1, h2⟩ := h
    simp only [exploreTys, Tracers.get?]
    refine Pres.bind (iht _ tr h1) fun tr' h1' => ?_
    simp only [Tracers.set, exploreTys_shift]
    refine Pres.map (ihr p (i + 1) rest h2) fun rest' h2' => ?_
    simp only [ConfTys]; exact ⟨tr', rest', rfl, h1', h2'⟩
  case fnil => intro _ _ h; simp only [exploreFields]; exact Pres.ok h
  case fcons =>
    intro fname t r iht ihr p _ h
    simp only [ConfFields] at h
    obtain ⟨n, l, tr, rest, rfl, h1, h2⟩ := h
    simp only [exploreFields, TFields.get?]
    refine Pres.bind (iht _ tr h1) fun tr' h1' => ?_
    simp only [TFields.set, exploreFields_shift]
    refine Pres.map (ihr p rest h2) fun rest' h2' => ?_
    simp only [ConfFields]; exact ⟨n, l, tr', rest', rfl, h1', h2'⟩
  case vnil =>
    intro _ _ h idx vn vt hg
    simp only [ConfVariants] at h; subst h; simp only [Variants.get?] at hg; cases hg
  case vcons =>
    intro vs n T r hh ihT ihr p _ h idx vn vt hg
    obtain ⟨hn, ht, R, rfl, h1, h2⟩ := (hh.conf_iff o p _).1 h
    cases idx with
    | zero =>
      simp only [Variants.get?, Option.some.injEq, Prod.mk.injEq] at hg
      obtain ⟨rfl, rfl⟩ := hg
      rw [hh.explore_zero]
      exact Pres.mono (ihT _ ht h1) fun vt' hx => (hh.conf_iff o p _).2 ⟨_, _, _, rfl, hx, h2⟩
    | succ idx =>
      simp only [Variants.get?] at hg
      rw [hh.explore_succ]
      exact Pres.mono (ihr p R h2 idx vn vt hg) fun vt' hx => (hh.conf_iff o p _).2 ⟨_, _, _, rfl, h1, hx⟩

theorem explore_conf (c : Code) (o : Options) : ∀ (ty : Ty) (p : String) (t : Tracer),
    Conf o p ty t → Pres (explore c o t ty) (Conf o p ty) :=
  (explore_conf_all c o).1

theorem exploreTys_conf (c : Code) (o : Options) : ∀ (ts : Tys) (p : String) (i : Nat) (fts : Tracers),
    ConfTys o p i ts fts → Pres (exploreTys c o fts 0 ts) (ConfTys o p i ts) :=
  (explore_conf_all c o).2.1

theorem exploreFields_conf (c : Code) (o : Options) : ∀ (fs : TyFields) (p : String) (tfs : TFields),
    ConfFields o p fs tfs → Pres (exploreFields c o tfs 0 fs) (ConfFields o p fs) :=
  (explore_conf_all c o).2.2.1

theorem exploreVariant_conf (c : Code) (o : Options) : ∀ (vs : TyVariants) (p : String) (V : Variants),
    ConfVariants o p vs V → ∀ (idx : Nat) (vn : String) (vt : Tracer), V.get? idx = some (some (vn, vt)) →
    Pres (exploreVariant c o vt idx vs) (fun vt' => ConfVariants o p vs (V.set idx vn vt')) :=
  (explore_conf_all c o).2.2.2

end SaModel.Lemmas.C08
