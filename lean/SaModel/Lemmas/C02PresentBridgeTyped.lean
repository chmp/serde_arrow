import SaModel.Lemmas.C02PresentBridge
/-
C02 — `Read.cast` (the value-level specification of typed reads the C02 / C05 theorems are stated with; it lives in `Read/*` and
calls `toD` / `castLeaf`, hence the reader model's leaf functions) computes the independent table `Spec.typedRead`
(`Spec/Present.lean`) for EVERY target (any nesting), column and logical value:

  `cast_eq_typedRead : demandOf (Read.cast t a lv) = Spec.typedRead readCodec t a lv`

with `castTuple_eq_positional`, `castFields_eq_named`, `castVariant_eq_variantRead`, `castKind_eq_payloadRead` (mutual structural
recursion over `Target` / `Targets` / `TFields` / `TVariants` / `VKind`), from the leaf bridge `castLeaf_eq_present` /
`toD_eq_present` (`Lemmas/C02PresentBridge.lean`) and one lemma per combinator.
-/
namespace SaModel.Props.C02
open SaModel SaModel.Read SaModel.Spec

/-! ### scalars -/

theorem castScalar_eq_present (t : Target) (a : Arr) (lv : LVal) :
    demandOf (castScalar t a lv) = presentScalar readCodec t a lv := by
  cases lv with
  | null =>
    cases t with
    | unit | unitStruct => cases a <;> rfl
    | _ => rfl
  | _ => simp only [castScalar, presentScalar]; exact castLeaf_eq_present _ _ _

/-! ### combinators -/

theorem demandOf_consClaim {α : Type} (x : R (Option α)) (r : R (Option (List α))) :
    demandOf (consClaim x r) = Demand.cons (demandOf x) (demandOf r) := by
  rcases x with e | (_ | d) <;> rcases r with e' | (_ | ds) <;> rfl

theorem demandOf_pairClaim (k v : Claim) : demandOf (pairClaim k v) = Demand.both (demandOf k) (demandOf v) := by
  rcases k with e | (_ | d) <;> rcases v with e' | (_ | d') <;> rfl

theorem demandOf_andThen (x : Claim) (g : DVal → DVal) :
    demandOf (x.andThen fun d => must (g d)) = (demandOf x).map g := by
  rcases x with e | (_ | d) <;> rfl

theorem demandOf_andThenL (x : R (Option (List DVal))) (g : List DVal → DVal) :
    demandOf (andThenL x fun ds => must (g ds)) = (demandOf x).map g := by
  rcases x with e | (_ | d) <;> rfl

theorem demandOf_andThenE (x : R (Option (List (DVal × DVal)))) (g : List (DVal × DVal) → DVal) :
    demandOf (andThenE x fun ds => must (g ds)) = (demandOf x).map g := by
  rcases x with e | (_ | d) <;> rfl

theorem claimVals_eq {f : LVal → Claim} {g : LVal → Demand DVal} (h : ∀ v, demandOf (f v) = g v) :
    ∀ (xs : LVals), demandOf (claimVals f xs) = itemsRead g xs
  | .nil => rfl
  | .cons v r => by simp only [claimVals, itemsRead, demandOf_consClaim, h v, claimVals_eq h r]

theorem claimEntries_eq {fk fv : LVal → Claim} {gk gv : LVal → Demand DVal} (hk : ∀ v, demandOf (fk v) = gk v)
    (hv : ∀ v, demandOf (fv v) = gv v) : ∀ (es : LEntries), demandOf (claimEntries fk fv es) = entriesRead gk gv es
  | .nil => rfl
  | .cons k v r => by
    simp only [claimEntries, entriesRead, demandOf_consClaim, demandOf_pairClaim, hk k, hv v, claimEntries_eq hk hv r]

theorem claimStructAsMap_eq {key : String → Claim} {f : Arr → LVal → Claim} {key' : String → Demand DVal}
    {f' : Arr → LVal → Demand DVal} (hk : ∀ n, demandOf (key n) = key' n) (hf : ∀ a lv, demandOf (f a lv) = f' a lv) :
    ∀ (fs : ArrFields) (lfs : LFields), demandOf (claimStructAsMap key f fs lfs) = fieldsAsEntries key' f' fs lfs
  | .nil, .nil => rfl
  | .nil, .cons _ _ _ => rfl
  | .cons _ _ _, .nil => rfl
  | .cons fm a rest, .cons n lv lrest => by
    simp only [claimStructAsMap, fieldsAsEntries, demandOf_consClaim, demandOf_pairClaim, hk, hf,
      claimStructAsMap_eq hk hf rest lrest]

theorem claimList_eq {f : UInt8 → Claim} {g : UInt8 → Demand DVal} (h : ∀ b, demandOf (f b) = g b) :
    ∀ (bs : Bytes), demandOf (claimList (bs.map f)) = Demand.all (bs.map g)
  | [] => rfl
  | b :: r => by simp only [List.map, claimList, Demand.all, demandOf_consClaim, h b, claimList_eq h r]

theorem u8Claim_eq_present (t : Target) (b : UInt8) : demandOf (u8Claim t b) = byteAs t b := by
  cases t <;> first | rfl | (simp only [u8Claim, byteAs]; split <;> rfl)

theorem castBinSeq_eq_present (t : Target) (b : Bytes) :
    demandOf (castBinSeq t b) = (Demand.all (b.map (byteAs t))).map fun ds => .seq (DVals.ofList ds) := by
  rw [← claimList_eq (u8Claim_eq_present t) b]
  unfold castBinSeq
  rcases claimList (b.map (u8Claim t)) with e | (_ | ds) <;> rfl

theorem castVariantStr_eq_present : ∀ (vs : TVariants) (s : Bytes), demandOf (castVariantStr vs s) = unitVariantNamed vs s
  | .nil, _ => rfl
  | .cons n k rest, s => by
    simp only [castVariantStr, unitVariantNamed]
    split
    · cases k <;> rfl
    · exact castVariantStr_eq_present rest s

theorem mapKeyClaim_eq_present (k : Target) (name : String) : demandOf (mapKeyClaim k name) = nameAsKey k name := by
  cases k with
  | char => simp only [mapKeyClaim, nameAsKey]; rcases name.toList with _ | ⟨c, _ | ⟨c', r⟩⟩ <;> rfl
  | «enum» byIndex vs =>
    simp only [mapKeyClaim, nameAsKey]; cases byIndex
    · exact castVariantStr_eq_present _ _
    · rfl
  | _ => rfl

theorem names_eq : ∀ (fs : ArrFields), ArrFields.names fs = columnNames fs
  | .nil => rfl
  | .cons fm a r => by simp only [ArrFields.names, columnNames, names_eq r]

theorem tnames_eq : ∀ (tfs : TFields), TFields.names tfs = targetNames tfs
  | .nil => rfl
  | .cons n t r => by simp only [TFields.names, targetNames, tnames_eq r]

theorem nodupNames_eq : ∀ (l : List String), nodupNames l = distinct l
  | [] => rfl
  | x :: xs => by simp only [nodupNames, distinct, nodupNames_eq xs]

theorem fieldNamed_eq : ∀ (fs : ArrFields) (lfs : LFields) (n : String), fieldNamed fs lfs n = childNamed fs lfs n
  | .nil, .nil, _ => rfl
  | .nil, .cons _ _ _, _ => rfl
  | .cons _ _ _, .nil, _ => rfl
  | .cons fm a rest, .cons m v lrest, n => by simp only [fieldNamed, childNamed, fieldNamed_eq rest lrest n]

theorem isBinaryLike_eq (a : Arr) : isBinaryLike a = binaryColumn a := by
  cases a <;> first | rfl | (rename_i ty _ _ _; cases ty <;> rfl)

theorem isStringLike_eq (a : Arr) : isStringLike a = textColumn a := by
  cases a <;> first | rfl | (rename_i ty _ _ _; cases ty <;> rfl)

theorem isNullArr_eq (a : Arr) : isNullArr a = isNullColumn a := by cases a <;> rfl
theorem isNull_eq (v : LVal) : LVal.isNull v = isNullValue v := by cases v <;> rfl

/-- along the match of `tupleClaim`: the struct / struct arm is the claim about the fields; in the two failing arms the
match of `byPosition` cannot be in its struct / struct arm -/
theorem tupleClaim_eq {f : ArrFields → LFields → R (Option (List DVal))} {f' : ArrFields → LFields → Demand (List DVal)}
    (h : ∀ fs lfs, demandOf (f fs lfs) = f' fs lfs) (a : Arr) (lv : LVal) :
    demandOf (tupleClaim f a lv) = byPosition f' a lv := by
  unfold tupleClaim byPosition
  split
  · simp only []
    rw [← h]; exact demandOf_andThenL _ _
  all_goals
    split
    · first | contradiction | (rename_i hne; exact (hne _ _ _ _ rfl rfl).elim)
    · rfl

theorem structClaim_eq {tn : List String} {f : ArrFields → LFields → R (Option (List (DVal × DVal)))}
    {f' : ArrFields → LFields → Demand (List (DVal × DVal))}
    (h : ∀ fs lfs, demandOf (f fs lfs) = f' fs lfs) (a : Arr) (lv : LVal) :
    demandOf (structClaim tn f a lv) = byName tn f' a lv := by
  unfold structClaim byName
  split
  · rename_i fs lfs
    simp only []
    rw [← h fs lfs, names_eq, nodupNames_eq, nodupNames_eq]
    cases distinct (columnNames fs) <;> cases distinct tn <;>
      simp only [Bool.not_true, Bool.not_false, Bool.or_false, Bool.or_true, Bool.and_true, Bool.and_false, Bool.false_eq_true,
        Bool.or_self, Bool.and_self, if_true, if_false] <;> first | rfl | exact demandOf_andThenE _ _
  all_goals
    split
    · first | contradiction | (rename_i hne; exact (hne _ _ _ _ rfl rfl).elim)
    · rfl

/-! ### every target -/

mutual
/-- **`Read.cast` is the independent table `Spec.typedRead`**: every target, column and logical value -/
theorem cast_eq_typedRead : ∀ (t : Target) (a : Arr) (lv : LVal), demandOf (Read.cast t a lv) = typedRead readCodec t a lv
  | .any, a, lv => by simp only [Read.cast, typedRead, demandOf_must, toD_eq_present]
  | .ignored, a, lv => by simp only [Read.cast, typedRead, demandOf_must]
  | .option t, a, lv => by
    cases lv <;> simp only [Read.cast, typedRead, demandOf_must] <;>
      (rw [← cast_eq_typedRead t a]; exact demandOf_andThen _ _)
  | .newtype t, a, lv => by simp only [Read.cast, typedRead]; exact cast_eq_typedRead t a lv
  | .seq t, a, lv => by
    have hv : ∀ el, ∀ v, demandOf (Read.cast t el v) = typedRead readCodec t el v := fun el v => cast_eq_typedRead t el v
    simp only [Read.cast, typedRead, isBinaryLike_eq]
    split
    · simp only []; rw [← claimVals_eq (hv _)]; exact demandOf_andThenL _ _
    · simp only []; rw [← claimVals_eq (hv _)]; exact demandOf_andThenL _ _
    · -- the bytes of a binary column: both sides ask whether the column is binary
      split <;> split <;> first
        | rfl
        | contradiction
        | (rename_i heq hb; cases heq; first
            | (rw [if_pos hb]; exact castBinSeq_eq_present _ _) | (rw [if_neg hb]; rfl))
        | (rename_i hne _ _; exact (hne _ rfl).elim)
    -- the other arms of `cast`: the match of `typedRead` cannot be in an arm that `cast` has excluded
    all_goals
      split <;> first
        | rfl
        | contradiction
        | (rename_i hb _ hl hf; first
            | exact (hl _ _ _ _ _ _ rfl rfl).elim | exact (hf _ _ _ _ _ _ rfl rfl).elim | exact (hb _ rfl).elim)
  | .tuple ts, a, lv => by
    simp only [Read.cast, typedRead]; exact tupleClaim_eq (fun fs lfs => castTuple_eq_positional ts fs lfs) a lv
  | .tupleStruct ts, a, lv => by
    simp only [Read.cast, typedRead]; exact tupleClaim_eq (fun fs lfs => castTuple_eq_positional ts fs lfs) a lv
  | .map k v, a, lv => by
    have hk : ∀ el, ∀ w, demandOf (Read.cast k el w) = typedRead readCodec k el w := fun el w => cast_eq_typedRead k el w
    have hv : ∀ el, ∀ w, demandOf (Read.cast v el w) = typedRead readCodec v el w := fun el w => cast_eq_typedRead v el w
    simp only [Read.cast, typedRead]
    split
    · simp only []; rw [← claimStructAsMap_eq (mapKeyClaim_eq_present k) hv]; exact demandOf_andThenE _ _
    · simp only []; rw [← claimEntries_eq (hk _) (hv _)]; exact demandOf_andThenE _ _
    -- the failing arms of `cast`: the match of `typedRead` cannot be in one of its two reading arms
    all_goals
      split
      · first | contradiction | (rename_i _ hs _; exact (hs _ _ _ _ rfl rfl).elim)
      · first | contradiction | (rename_i _ _ hm; exact (hm _ _ _ _ _ _ rfl rfl).elim)
      · rfl
  | .struct tfs, a, lv => by
    simp only [Read.cast, typedRead, tnames_eq]; exact structClaim_eq (fun fs lfs => castFields_eq_named tfs fs lfs) a lv
  | .enum byIndex vs, a, lv => by
    simp only [Read.cast, typedRead, isStringLike_eq]
    split
    · rename_i fs t v
      simp only []
      rw [findId_eq_variantOf]
      cases variantOf fs t with
      | none => rfl
      | some p =>
        obtain ⟨fm, child⟩ := p
        cases byIndex <;> simp only [Bool.false_eq_true, if_false, if_true] <;> exact castVariant_eq_variantRead vs _ _ child v
    · -- the string of a string-like column: both sides ask whether the column is one and the variant is named
      split <;> split <;> first
        | rfl
        | contradiction
        | (rename_i heq hb; cases heq; first
            | (rw [if_pos hb]; exact castVariantStr_eq_present _ _) | (rw [if_neg hb]; rfl))
        | (rename_i hne _; exact (hne _ rfl).elim)
    -- the failing arms of `cast`: the match of `typedRead` cannot be in one of its two reading arms
    all_goals
      split <;> first
        | rfl
        | contradiction
        | (rename_i hs _ hu; first | exact (hu _ _ _ _ _ rfl rfl).elim | exact (hs _ rfl).elim)
  | .unit, a, lv => castScalar_eq_present _ a lv
  | .unitStruct, a, lv => castScalar_eq_present _ a lv
  | .bool, a, lv => castScalar_eq_present _ a lv
  | .int ty, a, lv => castScalar_eq_present _ a lv
  | .f32, a, lv => castScalar_eq_present _ a lv
  | .f64, a, lv => castScalar_eq_present _ a lv
  | .char, a, lv => castScalar_eq_present _ a lv
  | .string, a, lv => castScalar_eq_present _ a lv
  | .str, a, lv => castScalar_eq_present _ a lv
  | .bytes, a, lv => castScalar_eq_present _ a lv
  | .byteBuf, a, lv => by
    cases a with
    | list lg vl offs fm el =>
      cases lv <;> simp only [Read.cast, typedRead] <;>
        first
          | exact castScalar_eq_present _ _ _
          | (rw [← claimVals_eq (fun v => castScalar_eq_present (.int .u8) _ v)]; exact demandOf_andThenL _ _)
    | _ => simp only [Read.cast, typedRead]; exact castScalar_eq_present _ _ _
theorem castTuple_eq_positional : ∀ (ts : Targets) (fs : ArrFields) (lfs : LFields),
    demandOf (castTuple ts fs lfs) = positional readCodec ts fs lfs
  | .nil, fs, lfs => by simp only [castTuple, positional]; rfl
  | .cons t rest, .cons fm a frest, .cons n v lrest => by
    simp only [castTuple, positional, demandOf_consClaim, cast_eq_typedRead t a v, castTuple_eq_positional rest frest lrest]
  | .cons t rest, .nil, lfs => by simp only [castTuple, positional]; rfl
  | .cons t rest, .cons fm a frest, .nil => by simp only [castTuple, positional]; rfl
theorem castFields_eq_named : ∀ (tfs : TFields) (fs : ArrFields) (lfs : LFields),
    demandOf (castFields tfs fs lfs) = named readCodec tfs fs lfs
  | .nil, fs, lfs => by simp only [castFields, named]; rfl
  | .cons n t rest, fs, lfs => by
    simp only [castFields, named, demandOf_consClaim, castFields_eq_named rest fs lfs, fieldNamed_eq]
    congr 1
    cases hch : childNamed fs lfs n with
    | some p =>
      obtain ⟨a, v⟩ := p
      simp only []
      rw [← cast_eq_typedRead t a v]
      rcases Read.cast t a v with e | (_ | d) <;> rfl
    | none =>
      simp only []
      cases t.isOption <;> rfl
theorem castVariant_eq_variantRead : ∀ (vs : TVariants) (sel : Option Nat) (name : String) (child : Arr) (v : LVal),
    demandOf (castVariant vs sel name child v) = variantRead readCodec vs sel name child v
  | .nil, _, _, _, _ => by simp only [castVariant, variantRead]; rfl
  | .cons n k rest, sel, name, child, v => by
    simp only [castVariant, variantRead]
    rw [← castKind_eq_payloadRead k child v, ← castVariant_eq_variantRead rest (sel.map (· - 1)) name child v]
    cases sel <;> simp only [] <;> split <;> first | rfl | exact demandOf_andThen _ _
theorem castKind_eq_payloadRead : ∀ (k : VKind) (child : Arr) (v : LVal),
    demandOf (castKind k child v) = payloadRead readCodec k child v
  | .unit, child, v => by
    simp only [castKind, payloadRead, isNullArr_eq, isNull_eq]; split <;> rfl
  | .newtype t, child, v => by simp only [castKind, payloadRead]; exact cast_eq_typedRead t child v
  | .tuple ts, child, v => by
    simp only [castKind, payloadRead]; exact tupleClaim_eq (fun fs lfs => castTuple_eq_positional ts fs lfs) child v
  | .struct tfs, child, v => by
    simp only [castKind, payloadRead, tnames_eq]; exact structClaim_eq (fun fs lfs => castFields_eq_named tfs fs lfs) child v
end

end SaModel.Props.C02
