import SaModel.Lemmas.C01ObsComb
import SaModel.Lemmas.C01ObsOps
import SaModel.Lemmas.C01ObsCont
import SaModel.Lemmas.C03AllPush
/-
The strict state invariant is the observable one plus one clause that speaks of one node at a time:
    WFB b ↔ WFH b ∧ SD b            (given `NoDictKey b`)
`SD`: at every dictionary of the tree, every key designates a value.  `SD` is an instance `All sdInv` of the tree invariants
of Lemmas/C03All.lean, and on a `Safe` tree every operation keeps it (the guard of the walker: `serialize_default` reaches a
dictionary only when its keys are nullable, so no placeholder key is written).  Hence a strict statement (`WFB`, `Safe`,
`dec`) is its observable twin (`WFH`, `NoDictKey`, `decH`; Lemmas/C01ObsOps.lean, C01ObsPush.lean) plus `SD` of the new
state: `pushScalar_appends` here, `push_appends` in Lemmas/C01Push.lean.  (`pushNone_appends` is `pushDefaultK_appends` at
k = 1: `pushNone_ok_iff`, Lemmas/OpsInd.lean.)

`serialize_default` (`pushDefaultK_appends`) is stated WITHOUT `NoDictKey` (a nullable dictionary whose key builder is a
dictionary is covered), which the observable chain excludes: it keeps its own walk, over the strict row steps (`list_step`,
`fsl_append`, `map_step`, `struct_append`, `union_append`), and these are the observable steps of Lemmas/C01ObsCont.lean read
on well-formed states (`strict_of_obs`).
-/
namespace SaModel.Build
open SaModel SaModel.Spec
open SaModel.Lemmas.C03 (NodeInv All AllL Keeps KeepsPush pushDefaultK_All pushNone_All pushScalar_All)

/-- every key designates a value of an index of `n` entries -/
abbrev StrictKeys (idx : B) (n : Nat) : Prop := KeysP (fun j => 0 ≤ j ∧ j.toNat < n) idx

/-- the dictionary clause of `SD`; `isDict`, `NoDictKey` and `WFH` of the key builder ride along because the walker hands
the clause the key builder only -/
def SDK (idx : B) (index : List String) : Prop :=
  idx.isDict = false ∧ NoDictKey idx ∧ WFH idx ∧ StrictKeys idx index.length

def sdInv : NodeInv where
  leaf _ _ := True
  bytes _ _ _ := True
  view _ _ _ := True
  offs _ _ := True
  dict pk pv idx index := pk ∧ pv ∧ SDK idx index
  union pf _ _ := pf

abbrev SD := All sdInv
abbrev SDL := AllL sdInv

/-! ### `WFB` = `WFH` + `SD` -/

mutual
theorem WFB_of_SD : ∀ (b : B), WFH b → SD b → WFB b
  | .null _ _, _, _ => by simp [WFB]
  | .unknownVariant _, _, _ => by simp [WFB]
  | .leaf _ _ _ _, h, _ => by simpa [WFH, WFB] using h
  | .bytes _ _ _ _ _, h, _ => by simpa [WFH, WFB] using h
  | .bytesView _ _ _ _ _, h, _ => by simp only [WFH] at h; simp only [WFB]; exact h
  | .fixedSizeBinary _ _ _ _ _ _, h, _ => by simpa [WFH, WFB] using h
  | .list _ _ _ _ _ el, h, hs => by
    simp only [WFH] at h; simp only [WFB]; exact ⟨h.1, h.2.1, WFB_of_SD el h.2.2 hs.2⟩
  | .fixedSizeList _ _ _ _ _ _ el, h, hs => by
    simp only [WFH] at h; simp only [WFB]; exact ⟨h.1, h.2.1, WFB_of_SD el h.2.2 hs⟩
  | .map _ _ _ _ ks vs, h, hs => by
    simp only [WFH] at h; simp only [WFB]
    exact ⟨h.1, h.2.1, h.2.2.1, WFB_of_SD ks h.2.2.2.1 hs.2.1, WFB_of_SD vs h.2.2.2.2 hs.2.2⟩
  | .struct _ len _ fs _ _ _, h, hs => by
    simp only [WFH] at h; simp only [WFB]
    exact ⟨h.1, WFL_of_SDL fs len h.2.1 hs, h.2.2⟩
  | .dictionary _ idx vals index, h, hs => by
    simp only [WFH] at h; simp only [WFB]
    obtain ⟨hsi, hsv, _, _, _, hk⟩ := hs
    exact ⟨WFB_of_SD idx h.1 hsi, WFB_of_SD vals h.2.1 hsv, h.2.2.1, h.2.2.2.1, hk, h.2.2.2.2.2.1⟩
  | .union _ fs _ _ cur, h, hs => by
    simp only [WFH] at h; simp only [WFB]
    exact ⟨h.1, h.2.1, WFU_of_SDL fs cur h.2.2.1 hs, h.2.2.2⟩
theorem WFL_of_SDL : ∀ (fs : BL) (len : Nat), WFHL fs len → SDL fs → WFL fs len
  | .nil, _, _, _ => by simp [WFL]
  | .cons b _ r, len, h, hs => by
    simp only [WFHL] at h; simp only [WFL]
    exact ⟨WFB_of_SD b h.1 hs.1, h.2.1, WFL_of_SDL r len h.2.2 hs.2⟩
theorem WFU_of_SDL : ∀ (fs : BL) (cur : List Int), WFHU fs cur → SDL fs → WFU fs cur
  | .nil, _, _, _ => by simp [WFU]
  | .cons b _ r, cur, h, hs => by
    simp only [WFHU] at h; simp only [WFU]
    exact ⟨WFB_of_SD b h.1 hs.1, h.2.1, WFU_of_SDL r cur.tail h.2.2 hs.2⟩
end

mutual
theorem SD_of_WFB : ∀ (b : B), WFB b → NoDictKey b → SD b
  | .null _ _, _, _ | .unknownVariant _, _, _ | .leaf _ _ _ _, _, _ | .bytes _ _ _ _ _, _, _ | .bytesView _ _ _ _ _, _, _
  | .fixedSizeBinary _ _ _ _ _ _, _, _ => trivial
  | .list _ _ _ _ _ el, h, hn => ⟨trivial, SD_of_WFB el (by simp only [WFB] at h; exact h.2.2) hn⟩
  | .fixedSizeList _ _ _ _ _ _ el, h, hn => SD_of_WFB el (by simp only [WFB] at h; exact h.2.2) hn
  | .map _ _ _ _ ks vs, h, hn => by
    simp only [WFB] at h
    exact ⟨trivial, SD_of_WFB ks h.2.2.2.1 hn.1, SD_of_WFB vs h.2.2.2.2 hn.2⟩
  | .struct _ len _ fs _ _ _, h, hn => by simp only [WFB] at h; exact SDL_of_WFL fs len h.2.1 hn
  | .dictionary _ idx vals index, h, hn => by
    simp only [WFB] at h
    exact ⟨SD_of_WFB idx h.1 hn.2.1, SD_of_WFB vals h.2.1 hn.2.2, hn.1, hn.2.1, WFH_of_WFB idx h.1, h.2.2.2.2.1⟩
  | .union _ fs _ _ cur, h, hn => by simp only [WFB] at h; exact SDL_of_WFU fs cur h.2.2.1 hn
theorem SDL_of_WFL : ∀ (fs : BL) (len : Nat), WFL fs len → NoDictKeyL fs → SDL fs
  | .nil, _, _, _ => trivial
  | .cons b _ r, len, h, hn => by
    simp only [WFL] at h; exact ⟨SD_of_WFB b h.1 hn.1, SDL_of_WFL r len h.2.2 hn.2⟩
theorem SDL_of_WFU : ∀ (fs : BL) (cur : List Int), WFU fs cur → NoDictKeyL fs → SDL fs
  | .nil, _, _, _ => trivial
  | .cons b _ r, cur, h, hn => by
    simp only [WFU] at h; exact ⟨SD_of_WFB b h.1 hn.1, SDL_of_WFU r cur.tail h.2.2 hn.2⟩
end

/-- strict rows from observable rows: both states determine every row -/
theorem strict_of_obs {b b' : B} {ls : List LVal} (hw : WFB b) (hw' : WFB b')
    (hr : Refines (decH b') (decH b ++ ls.map some)) : dec b' = dec b ++ ls := by
  rw [decH_of_WFB b hw, decH_of_WFB b' hw', ← List.map_append] at hr
  exact (List.map_inj_right (fun _ _ h => Option.some.inj h)).1 hr.of_map_some

theorem isDict_of_takeRest {b b' : B} (h : takeRest b' = takeRest b) (hd : b.isDict = false) : b'.isDict = false := by
  rw [← isDict_takeRest, h, isDict_takeRest]; exact hd

/-- `SD` survives `serialize_default` and `serialize_none` on a `Safe` tree -/
theorem sd_keeps : Keeps True sdInv where
  leaf_zero _ := trivial
  bytes_chunk _ _ _ _ := trivial
  view_push _ _ _ := trivial
  offs_dup _ _ := trivial
  offs_inc _ _ := trivial
  dict_default hn hpk h := fun ⟨hk, hv, hd, hnd, hw, hs⟩ =>
    have htr := pushDefaultK_takeRest _ _ _ h
    ⟨hpk hk, hv, isDict_of_takeRest htr hd, hnd.of_takeRest htr, (pushDefaultK_refines _ _ _ hw hnd h).1,
      pushDefaultK_keysP hd hw h (fun h0 => by rw [hn trivial] at h0; cases h0) hs⟩
  union_default hpf h := hpf h

theorem sd_keepsPush (ext : Ext) : KeepsPush ext False True sdInv where
  toKeeps := sd_keeps
  leaf_conv _ _ _ := trivial
  dict_old hpk h hlt := fun ⟨hk, hv, hd, hnd, hw, hs⟩ =>
    have htr := pushScalar_takeRest ext _ _ _ h
    ⟨hpk hk, hv, isDict_of_takeRest htr hd, hnd.of_takeRest htr, (pushScalar_key ext hd hw h).1,
      pushScalar_keysP ext hd hw h ⟨by omega, by simpa using hlt⟩ hs⟩
  dict_new hpk hpv h := fun ⟨hk, hv, hd, hnd, hw, hs⟩ =>
    have htr := pushScalar_takeRest ext _ _ _ h
    ⟨hpk hk, hpv hv, isDict_of_takeRest htr hd, hnd.of_takeRest htr, (pushScalar_key ext hd hw h).1,
      pushScalar_keysP ext hd hw h ⟨by omega, by simp⟩ (hs.mono fun _ h => ⟨h.1, by simp; omega⟩)⟩
  union_row hpf _ h := hpf h

/-! ### the strict row steps, from the observable ones

On well-formed states every row is determined (`decH = dec.map some`), so a strict step is its observable twin
(Lemmas/C01ObsCont.lean) read through `strict_of_obs`; only the strict invariant of the new state is shown here. -/

theorem Refines.of_dec {b b' : B} {ls : List LVal} (hw : WFB b) (hw' : WFB b') (hd : dec b' = dec b ++ ls) :
    Refines (decH b') (decH b ++ ls.map some) := by
  rw [decH_of_WFB b hw, decH_of_WFB b' hw', hd, List.map_append]; exact Refines.refl _

theorem list_step {p : String} {large : Bool} {fm : FieldMeta} {v : Validity} {offs : List Int} {el el' : B}
    (hwf : WFB (.list p large fm v offs el)) (b : Bool) (ls : List LVal) (hel : WFB el') (hdec : dec el' = dec el ++ ls) :
    WFB (.list p large fm (v.map (· ++ [b])) (offs ++ [((dec el).length : Int) + ls.length]) el') ∧
    dec (.list p large fm (v.map (· ++ [b])) (offs ++ [((dec el).length : Int) + ls.length]) el') =
      dec (.list p large fm v offs el) ++ [rowOf v b (.list (LVals.ofList ls))] := by
  have hw' := hwf
  simp only [WFB] at hw'
  obtain ⟨g1, g2⟩ := list_stepH (WFH_of_WFB _ hwf) b ls (WFH_of_WFB _ hel) (Refines.of_dec hw'.2.2 hel hdec)
  simp only [WFH] at g1
  have hb : WFB (.list p large fm (v.map (· ++ [b])) (offs ++ [((dec el).length : Int) + ls.length]) el') := by
    simp only [WFB]; exact ⟨g1.1, g1.2.1, hel⟩
  exact ⟨hb, strict_of_obs (ls := [_]) hwf hb g2⟩

theorem fsl_append {p : String} {fm : FieldMeta} {n len : Nat} {v : Validity} {cur : Nat} {el el' : B}
    (hwf : WFB (.fixedSizeList p fm n len v cur el)) (bs : List Bool) (ls : List LVal) (cur' : Nat)
    (hel : WFB el') (hdec : dec el' = dec el ++ ls) (hls : ls.length = bs.length * n) :
    WFB (.fixedSizeList p fm n (len + bs.length) (v.map (· ++ bs)) cur' el') ∧
    dec (.fixedSizeList p fm n (len + bs.length) (v.map (· ++ bs)) cur' el') =
      dec (.fixedSizeList p fm n len v cur el) ++
        maskNull (v.map fun _ => bs) ((List.range bs.length).map fun i => .list (LVals.ofList ((ls.drop (i * n)).take n))) := by
  have hw' := hwf
  simp only [WFB] at hw'
  obtain ⟨g1, g2⟩ := fsl_appendH (WFH_of_WFB _ hwf) bs (ls.map some) cur' (WFH_of_WFB _ hel)
    (Refines.of_dec hw'.2.2 hel hdec) (by simpa using hls)
  simp only [WFH] at g1
  have hb : WFB (.fixedSizeList p fm n (len + bs.length) (v.map (· ++ bs)) cur' el') := by
    simp only [WFB]; exact ⟨g1.1, g1.2.1, hel⟩
  rw [fslRowsH_map_some, maskNullH_map_some] at g2
  exact ⟨hb, strict_of_obs hwf hb g2⟩

theorem fsl_step {p : String} {fm : FieldMeta} {n len : Nat} {v : Validity} {cur : Nat} {el el' : B}
    (hwf : WFB (.fixedSizeList p fm n len v cur el)) (b : Bool) (ls : List LVal) (cur' : Nat)
    (hel : WFB el') (hdec : dec el' = dec el ++ ls) (hls : ls.length = n) :
    WFB (.fixedSizeList p fm n (len + 1) (v.map (· ++ [b])) cur' el') ∧
    dec (.fixedSizeList p fm n (len + 1) (v.map (· ++ [b])) cur' el') =
      dec (.fixedSizeList p fm n len v cur el) ++ [rowOf v b (.list (LVals.ofList ls))] := by
  subst hls
  have := fsl_append hwf [b] ls cur' hel hdec (by simp)
  simp only [List.length_singleton, List.range_one, List.map_cons, List.map_nil, Nat.zero_mul, List.drop_zero,
    maskNull_const_one, List.take_length] at this
  exact this

theorem map_step {p : String} {mm : MapMeta} {v : Validity} {offs : List Int} {ks vs ks' vs' : B}
    (hwf : WFB (.map p mm v offs ks vs)) (b : Bool) (lk lw : List LVal) (hks : WFB ks') (hvs : WFB vs')
    (hdk : dec ks' = dec ks ++ lk) (hdv : dec vs' = dec vs ++ lw) (hl : lw.length = lk.length) :
    WFB (.map p mm (v.map (· ++ [b])) (offs ++ [((dec ks).length : Int) + lk.length]) ks' vs') ∧
    dec (.map p mm (v.map (· ++ [b])) (offs ++ [((dec ks).length : Int) + lk.length]) ks' vs') =
      dec (.map p mm v offs ks vs) ++ [rowOf v b (.map (LEntries.ofList (lk.zip lw)))] := by
  have hw' := hwf
  simp only [WFB] at hw'
  obtain ⟨g1, g2⟩ := map_stepH (WFH_of_WFB _ hwf) b lk lw (WFH_of_WFB _ hks) (WFH_of_WFB _ hvs)
    (Refines.of_dec hw'.2.2.2.1 hks hdk) (Refines.of_dec hw'.2.2.2.2 hvs hdv) hl
  simp only [WFH] at g1
  have hb : WFB (.map p mm (v.map (· ++ [b])) (offs ++ [((dec ks).length : Int) + lk.length]) ks' vs') := by
    simp only [WFB]; exact ⟨g1.1, g1.2.1, g1.2.2.1, hks, hvs⟩
  exact ⟨hb, strict_of_obs (ls := [_]) hwf hb g2⟩

/-- `k` more rows in a struct all of whose children grew by `k` rows -/
theorem struct_append {p : String} {len : Nat} {v : Validity} {fs0 fs : BL} {cached cached' : List (Option (String × Nat))}
    {next next' : Nat} {seen seen' : List Bool} (hwf : WFB (.struct p len v fs0 cached next seen))
    (adds : List (List LVal)) (bs : List Bool) (hext : ExtL fs0 fs adds) (hk : ∀ a ∈ adds, a.length = bs.length)
    (hc : CacheInv fs.names cached') (hs : seen'.length = fs.length) :
    WFB (.struct p (len + bs.length) (v.map (· ++ bs)) fs cached' next' seen') ∧
    dec (.struct p (len + bs.length) (v.map (· ++ bs)) fs cached' next' seen') =
      dec (.struct p len v fs0 cached next seen) ++
        maskNull (v.map fun _ => bs) ((List.range bs.length).map (rowAt (fs0.names.zip adds))) := by
  have hw' := hwf
  simp only [WFB] at hw'
  obtain ⟨hv, hwfl, _, hnd, _⟩ := hw'
  have hb : WFB (.struct p (len + bs.length) (v.map (· ++ bs)) fs cached' next' seen') := by
    simp only [WFB]
    exact ⟨hv.map_append bs, ExtL.wfl fs0 fs adds len _ hwfl hext hk, hs,
      by rw [ExtL.names fs0 fs adds hext]; exact hnd, hc⟩
  obtain ⟨_, g2⟩ := struct_appendH (cached' := cached') (next' := next') (seen' := seen') (WFH_of_WFB _ hwf)
    (adds.map (·.map some)) bs hext.toH (by
      intro a ha
      obtain ⟨a', ha', rfl⟩ := List.mem_map.1 ha
      simpa using hk a' ha') hc hs
  have e : fs0.names.zip (adds.map (·.map some)) = (fs0.names.zip adds).map fun c => (c.1, c.2.map some) := by
    rw [List.zip_map_right]; exact List.map_congr_left fun c _ => rfl
  rw [e, structRowsH_map_some, maskNullH_map_some] at g2
  exact ⟨hb, strict_of_obs hwf hb g2⟩

/-- `k` rows of variant `i`: the variant's child grew by `ls`, type ids / dense offsets / counter accordingly -/
theorem union_append {p : String} {fs : BL} {types offs cur : List Int} (hwf : WFB (.union p fs types offs cur))
    (i : Nat) (c c' : B) (m : FieldMeta) (hget : fs.get? i = some (c, m)) (ls : List LVal)
    (hc : WFB c') (hdec : dec c' = dec c ++ ls) :
    WFB (.union p (fs.set i c') (types ++ List.replicate ls.length (i : Int))
      (offs ++ (List.range ls.length).map (fun (r : Nat) => ((dec c).length : Int) + (r : Int)))
      (cur.set i (((dec c).length : Int) + ls.length))) ∧
    dec (.union p (fs.set i c') (types ++ List.replicate ls.length (i : Int))
      (offs ++ (List.range ls.length).map (fun (r : Nat) => ((dec c).length : Int) + (r : Int)))
      (cur.set i (((dec c).length : Int) + ls.length))) =
      dec (.union p fs types offs cur) ++ ls.map (LVal.union (i : Int)) := by
  have hw' := hwf
  simp only [WFB] at hw'
  obtain ⟨_, _, hwu, _⟩ := hw'
  obtain ⟨_, hwc⟩ := WFU_get fs cur i _ hwu hget
  obtain ⟨g1, g2⟩ := union_appendH (WFH_of_WFB _ hwf) i c c' m hget (ls.map some) (WFH_of_WFB _ hc)
    (Refines.of_dec hwc hc hdec)
  simp only [List.length_map] at g1 g2
  simp only [WFH] at g1
  have hb : WFB (.union p (fs.set i c') (types ++ List.replicate ls.length (i : Int))
      (offs ++ (List.range ls.length).map (fun (r : Nat) => ((dec c).length : Int) + (r : Int)))
      (cur.set i (((dec c).length : Int) + ls.length))) := by
    simp only [WFB]
    refine ⟨g1.1, g1.2.1, ?_, g1.2.2.2⟩
    have := WFU_set fs cur i c' hwu hc (BL.get?_lt fs i _ hget)
    rw [hdec] at this
    simpa using this
  have e : (ls.map some).map (fun r => r.map (LVal.union (i : Int))) = (ls.map (LVal.union (i : Int))).map some := by
    simp
  rw [e] at g2
  exact ⟨hb, strict_of_obs hwf hb g2⟩

/-! ### `serialize_default` × k, every builder family -/

/-- the childless families are Lemmas/C01Ops.lean (the run itself is in the motive) -/
theorem appends_default : DefaultCases
    (fun b k b' => pushDefaultK b k = .ok b' → WFB b → DefSafe b →
      WFB b' ∧ ∃ ls, ls.length = k ∧ dec b' = dec b ++ ls ∧ (b.isNullable = true → ls = List.replicate k .null))
    (fun fs k fs' => ∀ len, WFL fs len → DefSafeL fs → ∃ adds, ExtL fs fs' adds ∧ ∀ a ∈ adds, a.length = k) where
  defNull h hw _ := pushDefaultK_appends_flat _ _ _ rfl hw h
  defUnknown h hw _ := pushDefaultK_appends_flat _ _ _ rfl hw h
  defLeaf _ h hw _ := pushDefaultK_appends_flat _ _ _ rfl hw h
  defBytes _ h hw _ := pushDefaultK_appends_flat _ _ _ rfl hw h
  defView _ h hw _ := pushDefaultK_appends_flat _ _ _ rfl hw h
  defFixedSizeBinary _ h hw _ := pushDefaultK_appends_flat _ _ _ rfl hw h
  defList {p large fm v offs el k v' offs'} h1 _ hwf _ := by
    refine iter_rows (fun (s : Validity × List Int) => B.list p large fm s.1 s.2 el) _ v.isSome ?_ k (v, offs) (v', offs') hwf rfl h1
    intro a a' hw hn ha
    obtain ⟨o, ho, ha⟩ := (bind_ok _ _ _).1 ha
    cases ha
    obtain ⟨l, hl, rfl⟩ := duplicateLast_ok ho
    have hw' := hw
    simp only [WFB] at hw'
    rw [hw'.1.2.1] at hl; cases hl
    rw [setValidityDefault_eq hw'.2.1]
    obtain ⟨h1, h2⟩ := list_step hw false [] hw'.2.2 (by simp)
    simp only [List.length_nil, Int.natCast_zero, Int.add_zero] at h1 h2
    refine ⟨h1, by simpa [B.isNullable] using hn, _, h2, ?_⟩
    intro hs; exact rowOf_false_of_isSome (hn.trans hs) _
  defFixedSizeList {p fm n len v cur el k len' v' el'} h1 h3 ih _ hwf hsafe := by
    have hw' := hwf
    simp only [WFB] at hw'
    rw [show iter k countSlot (len, v) = _ from iter_lenv k len v hw'.1] at h1
    cases h1
    simp only [DefSafe] at hsafe
    obtain ⟨hel, ls, hls, hdec, _⟩ := ih h3 hw'.2.2 hsafe
    obtain ⟨g1, g2⟩ := fsl_append hwf (List.replicate k false) ls cur hel hdec (by simpa using hls)
    simp only [List.length_replicate] at g1 g2
    refine ⟨g1, _, ?_, g2, ?_⟩
    · rw [maskNull_const_length _ _ _ (by simp)]; simp
    · intro hn
      rw [maskNull_const_false _ _ _ (by simp)]
      simp only [B.isNullable] at hn
      simp [hn]
  defMap {p mm v offs ks vs k v' offs'} h1 _ hwf _ := by
    refine iter_rows (fun (s : Validity × List Int) => B.map p mm s.1 s.2 ks vs) _ v.isSome ?_ k (v, offs) (v', offs') hwf rfl h1
    intro a a' hw hn ha
    obtain ⟨o, ho, ha⟩ := (bind_ok _ _ _).1 ha
    cases ha
    obtain ⟨l, hl, rfl⟩ := duplicateLast_ok ho
    have hw' := hw
    simp only [WFB] at hw'
    rw [hw'.1.2.1] at hl; cases hl
    rw [setValidityDefault_eq hw'.2.2.1]
    obtain ⟨h1, h2⟩ := map_step hw false [] [] hw'.2.2.2.1 hw'.2.2.2.2 (by simp) (by simp) rfl
    simp only [List.length_nil, Int.natCast_zero, Int.add_zero] at h1 h2
    refine ⟨h1, by simpa [B.isNullable] using hn, _, h2, ?_⟩
    intro hs; exact rowOf_false_of_isSome (hn.trans hs) _
  defStruct {p len v fs cached next seen k len' v' fs'} h1 _ ih _ hwf hsafe := by
    have hw' := hwf
    simp only [WFB] at hw'
    rw [show iter k countSlot (len, v) = _ from iter_lenv k len v hw'.1] at h1
    cases h1
    simp only [DefSafe] at hsafe
    obtain ⟨adds, hext, hk⟩ := ih len hw'.2.1 hsafe
    obtain ⟨g1, g2⟩ := struct_append (cached' := cached) (next' := next) (seen' := seen) hwf adds
      (List.replicate k false) hext (by simpa using hk)
      (by rw [ExtL.names fs fs' adds hext]; exact hw'.2.2.2.2)
      (by rw [(ExtL.length fs fs' adds hext).1]; exact hw'.2.2.1)
    simp only [List.length_replicate] at g1 g2
    refine ⟨g1, _, ?_, g2, ?_⟩
    · rw [maskNull_const_length _ _ _ (by simp)]; simp
    · intro hn
      rw [maskNull_const_false _ _ _ (by simp)]
      simp only [B.isNullable] at hn
      simp [hn]
  defDict {p idx vals index k idx'} h1 ih _ hwf hsafe := by
    have hw' := hwf
    simp only [WFB] at hw'
    simp only [DefSafe] at hsafe
    obtain ⟨hidx, ls, hls, hdec, hnull⟩ := ih h1 hw'.1 hsafe.2
    have hls' := hnull hsafe.1
    subst hls'
    obtain ⟨g1, g2⟩ := dict_append hwf (List.replicate k .null) [] [] hidx hw'.2.1 hdec (by simp)
      (by simpa using hw'.2.2.1) rfl (by
        intro k' hk' j hj
        rw [(List.mem_replicate.1 hk').2] at hj; cases hj) (by rw [List.append_nil]; exact DictVals.of_wf hwf)
    simp only [List.append_nil] at g1 g2
    refine ⟨g1, _, by simp, g2, ?_⟩
    intro _
    simp [dictRow]
  defUnionNil _ hwf _ := ⟨hwf, [], rfl, by simp, by intro h; cases h⟩
  defUnion {p fs types offs cur k c m c'} hget _ h3 ih _ hwf hsafe := by
    have hw' := hwf
    simp only [WFB] at hw'
    simp only [DefSafe] at hsafe
    obtain ⟨hcur, hwc⟩ := WFU_get _ cur _ (c, m) hw'.2.2.1 hget
    obtain ⟨hc, ls, hls, hdec, _⟩ := ih h3 hwc (DefSafeFirst_get _ c m hsafe hget)
    obtain ⟨g1, g2⟩ := union_append hwf _ c c' m hget ls hc hdec
    have hc0 : cur.getD (firstReal fs) 0 = ((dec c).length : Int) := by
      simp only [List.getD_eq_getElem?_getD, hcur, Option.getD_some]
    subst hls
    rw [hc0]
    exact ⟨g1, ls.map (LVal.union _), by simp, g2, by intro h; cases h⟩
  allNil _ _ _ := ⟨[], by simp [ExtL], by simp⟩
  allCons h1 ih _ ihr len hw hs := by
    simp only [WFL] at hw
    simp only [DefSafeL] at hs
    obtain ⟨hb, ls, hls, hdec, _⟩ := ih h1 hw.1 hs.1
    obtain ⟨adds, hext, hk⟩ := ihr len hw.2.2 hs.2
    refine ⟨ls :: adds, by simp only [ExtL]; exact ⟨trivial, hb, hdec, hext⟩, ?_⟩
    intro a ha
    rcases List.mem_cons.1 ha with rfl | ha
    · exact hls
    · exact hk a ha

theorem pushDefaultK_appends : ∀ (b : B) (k : Nat) (b' : B), WFB b → DefSafe b → pushDefaultK b k = .ok b' →
    WFB b' ∧ ∃ ls, ls.length = k ∧ dec b' = dec b ++ ls ∧ (b.isNullable = true → ls = List.replicate k .null) :=
  fun b k b' hw hs h => appends_default.default b k b' h h hw hs

theorem pushDefaultKAll_appends : ∀ (fs : BL) (k : Nat) (fs' : BL) (len : Nat), WFL fs len → DefSafeL fs →
    pushDefaultKAll fs k = .ok fs' → ∃ adds, ExtL fs fs' adds ∧ ∀ a ∈ adds, a.length = k :=
  fun fs k fs' len hw hs h => appends_default.defaultAll fs k fs' h len hw hs

theorem pushDefaultK_appends_at : ∀ (fs : BL) (j : Nat) (c : B) (m : FieldMeta), fs.get? j = some (c, m) →
    ∀ (k : Nat) (c' : B), WFB c → DefSafe c → pushDefaultK c k = .ok c' →
    WFB c' ∧ ∃ ls, ls.length = k ∧ dec c' = dec c ++ ls ∧ (c.isNullable = true → ls = List.replicate k .null) :=
  fun _ _ c _ _ k c' => pushDefaultK_appends c k c'

/-! ### strict statements as instances -/

/-- what the observable twin and the walker give together -/
theorem strict_of_refines {b b' : B} {ls : List LVal} (hw : WFB b) (hw' : WFH b') (hsd : SD b')
    (hr : Refines (decH b') (decH b ++ ls.map some)) : WFB b' ∧ dec b' = dec b ++ ls :=
  have hb' := WFB_of_SD b' hw' hsd
  ⟨hb', strict_of_obs hw hb' hr⟩

theorem pushNone_appends : ∀ (b b' : B), WFB b → Safe b → pushNone b = .ok b' → WFB b' ∧ dec b' = dec b ++ [.null] :=
  fun b b' hw hs h => by
    obtain ⟨hn, hd⟩ := pushNone_ok_iff.1 h
    obtain ⟨hw', ls, _, hdec, hnull⟩ := pushDefaultK_appends b 1 b' hw (hs.defSafe hn) hd
    exact ⟨hw', by rw [hdec, hnull hn]; rfl⟩

/-- the row a scalar call appends (and, for an integer call, that an integer row shows exactly that integer) -/
theorem pushScalar_appends (ext : Ext) : ∀ (b : B) (x : SVal) (b' : B), WFB b → Safe b → pushScalar ext b x = .ok b' →
    WFB b' ∧ ∃ lv, dec b' = dec b ++ [lv] ∧ (∀ t v j, b.isDict = false → x = .int t v → lv = .int j → j = v) := by
  intro b x b' hw hs h
  have hnd := NoDictKey_of_Safe b hs
  have hwh := WFH_of_WFB b hw
  obtain ⟨hw', lv, hr⟩ := pushScalar_refines ext b x b' hwh hnd h
  obtain ⟨hb', hd⟩ := strict_of_refines (ls := [lv]) hw hw'
    (pushScalar_All (sd_keepsPush ext) b x b' (fun w => w.elim) h (SD_of_WFB b hw hnd)) hr
  refine ⟨hb', lv, hd, ?_⟩
  rintro t v j hdict rfl rfl
  obtain ⟨_, lv', hr', hrow⟩ := pushScalar_key ext hdict hwh h
  cases Refines.snoc_inj hr' hr
  exact hrow.int_inv

end SaModel.Build
