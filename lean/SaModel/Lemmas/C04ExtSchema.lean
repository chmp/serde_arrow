import SaModel.Lemmas.C04ExtFinish
import SaModel.Lemmas.C04Mapping
/-
C04, removing `ExtOK`: the documented mapping of a Rust type (`Roundtrip.mappingDT`, what `from_type` returns) never
contains a temporal type — for EVERY type and EVERY option set —, so `to_marrow` against a traced schema never consults
the chrono parsers of `ext` (`toMarrow_refuse_traced`).
-/
namespace SaModel.Roundtrip
open SaModel SaModel.Spec SaModel.Build

theorem closed_noTemporal (o : TraceOpts) : MappingClosed o (fun _ dt _ _ => noTemporalDT dt = true)
    (fun _ _ F => noTemporalFs F = true) (fun _ F => noTemporalFs F = true) (fun _ _ U => noTemporalUs U = true) := by
  apply MappingClosed.of_fields (leaf := by decide) (dict := fun _ => by decide)
  all_goals intros
  all_goals simp_all [noTemporalDT, noTemporalF, noTemporalFs, noTemporalUs]

theorem mapping_noTemporal (o : TraceOpts) :
    ∀ (t : Ty) (dt : DataType) (nb : Bool) (md : Metadata), mappingDT o t = (dt, nb, md) → noTemporalDT dt = true :=
  fun _ _ _ _ hm => (closed_noTemporal o).mapping' hm
theorem mappingPos_noTemporal (o : TraceOpts) : ∀ (ts : Tys) (i : Nat), noTemporalFs (mappingPos o i ts) = true :=
  fun ts i => (closed_noTemporal o).pos i ts
theorem mappingFields_noTemporal (o : TraceOpts) : ∀ (fs : TFields), noTemporalFs (mappingFields o fs) = true :=
  (closed_noTemporal o).fields
theorem mappingVariants_noTemporal (o : TraceOpts) : ∀ (vs : Variants) (i : Nat),
    noTemporalUs (mappingVariants o i vs) = true :=
  fun vs i => (closed_noTemporal o).variants i vs

theorem mappingFields_toList_noTemporal (o : TraceOpts) (fs : TFields) :
    ∀ f ∈ (mappingFields o fs).toList, noTemporalDT f.dataType = true :=
  noTemporalFs_toList _ (mappingFields_noTemporal o fs)

/-- **`to_marrow` against a traced schema does not depend on the chrono parsers**: the same outcome under `refuseExt ext` -/
theorem toMarrow_refuse_traced (ext : Ext) (o : TraceOpts) (fs : TFields) (fields : List Field)
    (hfields : fields = (mappingFields o fs).toList) (rows : List SVal) :
    toMarrow ext fields rows = toMarrow (refuseExt ext) fields rows :=
  toMarrow_refuse ext fields rows (by rw [hfields]; exact mappingFields_toList_noTemporal o fs)

/-! non-vacuity: a traced schema (a struct with an `i32`, an `Option<String>` and a `Vec<bool>`), the out-of-range parsers
`exBadExt` (for which `ExtOK` is FALSE): serialization succeeds, and `refuseExt` gives the same arrays -/
def exRefuseTy : TFields :=
  .cons "a" false (.prim (.int .i32)) (.cons "s" false (.option (.prim .str)) (.cons "v" false (.vec (.prim .bool)) .nil))
def exRefuseTyRows : List SVal :=
  [ser (.struct "R" exRefuseTy) (.struct (.cons (.int 7) (.cons (.some (.str "x")) (.cons (.vec (.cons (.bool true) .nil)) .nil)))),
   ser (.struct "R" exRefuseTy) (.struct (.cons (.int (-1)) (.cons .none (.cons (.vec .nil) .nil))))]

example : (toMarrow exBadExt (mappingFields {} exRefuseTy).toList exRefuseTyRows).isOk = true ∧
    ((mappingFields {} exRefuseTy).toList.map (·.dataType)).length = 3 := by decide +kernel

example : toMarrow (refuseExt exBadExt) (mappingFields {} exRefuseTy).toList exRefuseTyRows =
    toMarrow exBadExt (mappingFields {} exRefuseTy).toList exRefuseTyRows :=
  (toMarrow_refuse_traced exBadExt {} exRefuseTy _ rfl exRefuseTyRows).symm

end SaModel.Roundtrip
