import SaModel.Lemmas.C09Type
import SaModel.Lemmas.C16Dsl
/-
C16, schema side: the nesting limit of the data-type mini language.  Before the fix d2b4b5b `Term::from_str` descended
without a bound: `SerdeArrowSchema::from_value` on a `data_type` text nested some 50 000 levels deep exhausted the stack
(abort).  After it: every term the parser returns is nested at most `MAX_TERM_DEPTH` levels (`fromStr_depth_le`) and
the texts `A(A(…I8…))` with more levels are refused with an error (`fromStr_nest`), whatever their size.
-/
namespace SaModel.Lemmas.C16
open SaModel SaModel.Dsl

/-- every term `Term::from_str` returns is nested at most `MAX_TERM_DEPTH` levels deep -/
theorem fromStr_depth_le (pinned : Bool) (s : Text) (t : Term) (h : Term.fromStrWith pinned s = .ok t) :
    t.depth ≤ MAX_TERM_DEPTH := by
  unfold Term.fromStrWith at h
  cases hp : parseTerm pinned (3 * s.length + 16) s with
  | error e => rw [hp] at h; cases h
  | ok v =>
    rw [hp] at h
    simp only [bind, Except.bind] at h
    split at h
    · cases h
    · rename_i hd
      split at h
      · cases h; omega
      · cases h

/-- `A(A(…(I8)…))`, `n` levels -/
def nestTerm : Nat → Term
  | 0 => identT "I8".toList
  | n + 1 => callT "A".toList (.cons (nestTerm n) .nil)

theorem nestTerm_OK : ∀ n, (nestTerm n).OK
  | 0 => identT_OK (by decide)
  | n + 1 => by
    simp only [nestTerm, callT, Term.OK, Terms.OK, and_true]
    exact ⟨fun _ => by decide, nestTerm_OK n⟩

theorem nestTerm_need : ∀ n, (nestTerm n).need = 3 * n + 2
  | 0 => rfl
  | n + 1 => by
    simp only [nestTerm, callT, Term.need, Terms.need, nestTerm_need n]; omega

theorem nestTerm_depth : ∀ n, (nestTerm n).depth = n
  | 0 => rfl
  | n + 1 => by
    have := nestTerm_depth n
    simp only [nestTerm, callT, Term.depth, Terms.depth] at *
    omega

theorem nestTerm_length (esc : Char → Bool) : ∀ n, (showTerm esc (nestTerm n)).length = 3 * n + 2
  | 0 => rfl
  | n + 1 => by
    have ih := nestTerm_length esc n
    have e : showTerm esc (nestTerm (n + 1)) = 'A' :: '(' :: (showTerm esc (nestTerm n) ++ [')']) := by
      simp only [nestTerm, callT, showTerm, showArgs, showArgsTail, Bool.false_eq_true, if_false]
      rfl
    rw [e]
    simp only [List.length_cons, List.length_append, List.length_nil, ih]
    omega

/-- the nested text is read back as the nested term while it is within the limit, and refused with an error beyond —
for every `n`, i.e. for texts of any size -/
theorem fromStr_nest (esc : Char → Bool) (n : Nat) :
    Term.fromStr (showTerm esc (nestTerm n)) =
      if n ≤ MAX_TERM_DEPTH then .ok (nestTerm n) else fail "Term is nested too deeply" := by
  rw [fromStr_show esc _ (nestTerm_OK n) (by rw [nestTerm_need, nestTerm_length]; omega), nestTerm_depth]
  by_cases h : n ≤ MAX_TERM_DEPTH
  · rw [if_pos h, if_neg (by omega)]
  · rw [if_neg h, if_pos (by omega)]

/-- `build_data_type` on the nested text: `I8` for `n = 0`, an error (unknown type name `A`, or too deep) for every
other `n` -/
theorem buildDataType_nest (esc : Char → Bool) (n : Nat) (children : List Field) :
    (buildDataType (showTerm esc (nestTerm (n + 1))) children).isErr = true := by
  have h := fromStr_nest esc (n + 1)
  simp only [Term.fromStr] at h
  simp only [buildDataType, buildDataTypeWith, h]
  split
  · simp only [bind, Except.bind]
    rfl
  · rfl

end SaModel.Lemmas.C16
