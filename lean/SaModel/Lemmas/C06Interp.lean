import SaModel.Lemmas.C06InterpLeaf
import SaModel.Lemmas.C06InterpSeq
import SaModel.Lemmas.C06InterpStruct
import SaModel.Lemmas.C06InterpTuple
import SaModel.Lemmas.C06InterpUnion
/-
C06, closure, tracer ⇒ documented mapping: `PI_all : ∀ x, PI o ext x` (from `mapped_all`) — induction over nested
samples putting the families together (leaves `C06InterpLeaf`, `None`/`Some`/newtype structs `C06InterpBase`, sequences
and maps traced as maps `C06InterpSeq`, records and maps traced as structs `C06InterpStruct`, tuples and tuple structs
`C06InterpTuple`, the four variant kinds `C06InterpUnion`).  ALL sample constructors are covered (raw key/value call
streams are not `sampleOK`).
-/
namespace SaModel.Lemmas.C06
open SaModel SaModel.Spec SaModel.Build SaModel.Trace

theorem mapped_all (o : Options) (ext : Ext) (h0 : o.overwrites = []) : ∀ x : SVal, Mapped o ext x := by
  apply sval_induct o (Mapped o ext)
  · exact fun x a hx => mapped_leaf o ext h0 x a hx
  · exact mapped_none o ext h0
  · exact mapped_some o ext
  · exact mapped_newtypeStruct o ext
  · exact mapped_seq o ext h0
  · exact mapped_tuple o ext h0
  · exact fun n items ih => mapped_tupleStruct o ext h0 n items ih
  · exact fun n fs ih => mapped_record o ext h0 n fs ih
  · intro es ihk ihv
    by_cases hm : o.map_as_struct = true
    · exact mapped_mapAsStruct o ext h0 hm es ihv
    · exact mapped_mapAsMap o ext h0 (by simpa using hm) es ihk ihv
  · intro ops _ _ t2 _ _ f _ hok
    simp [sampleOK] at hok
  · exact fun n i vn => mapped_unitVariant o ext h0 n i vn
  · exact fun n i vn v ih => mapped_newtypeVariant o ext h0 n i vn v ih
  · exact fun n i vn items ih => mapped_tupleVariant o ext h0 n i vn items (mapped_tupleStruct o ext h0 vn items ih)
  · exact fun n i vn fs ih => mapped_structVariant o ext h0 n i vn fs (mapped_record o ext h0 vn fs ih)

/-- absorbing ANY sample into a reachable tracer gives a tracer from which — whatever else is absorbed — the traced
field maps the sample (unless the sample is ill-formed or excluded at some position) -/
theorem PI_all (o : Options) (ext : Ext) (h0 : o.overwrites = []) : ∀ x : SVal, PI o ext x :=
  fun x => (mapped_all o ext h0 x).pi

end SaModel.Lemmas.C06
