import SaModel.Lemmas.C18OwnPlain
/-
C18, builder half: every annotated error of `push` is the OWN failure of a builder of the subtree on a call issued while
the value is serialized, row by row (`raised_rows`, an instance of the walk of Lemmas/PushRows.lean).
-/
namespace SaModel.Props.C18
open SaModel SaModel.Build

theorem map_sub_k {p mm v offs ks vs} : ∀ q ∈ positions ks ++ positions vs, q ∈ positions (.map p mm v offs ks vs) := by
  intro q hq; simp only [positions]; exact tail_sub _ hq

theorem hP_of {x : SVal} : ∀ c, Placeholder c → CallsOf x c := fun _ h => .inr h

set_option linter.unusedSectionVars false
variable (ext : Ext) [ExtPlain ext]

theorem CallsOf.of_seqLike {x : SVal} {k : SeqKind} {xs : SVals} (hx : IsSeqLike x k xs) (c : Call) (h : CallsOfL xs c) :
    CallsOf x c :=
  match hx with
  | .seq _ => h.imp Sub.seq id
  | .tuple _ => h.imp Sub.tuple id
  | .tupleStruct _ _ => h.imp Sub.tupleStruct id

theorem CallsOf.of_variant {x y : SVal} {i : Nat} (hx : IsVariant x i y) (c : Call) (h : CallsOf y c) : CallsOf x c :=
  match hx with
  | .unit .. => h.imp Sub.unitVariant id
  | .newtype .. => h.imp Sub.newtypeVariant id
  | .tuple .. => h.imp Sub.tupleVariant id
  | .struct .. => h.imp Sub.structVariant id

theorem element_ssPos {s s' : SS} {idx : Nat} {x : SVal} (h : s.element idx (fun c => push ext c x) = .ok s') :
    ssPos s' = ssPos s :=
  ssPos_of_skel ((takeRest_cases ext).element_ok (push_takeRest ext x) h)

/-- row by row: a plain error of the row's body is the builder's own (`Raised.ctx_own`, the body being `valBody`), an
annotated one comes from a child or a loop, whose builders lie in the subtree; along a loop the subtree keeps its
positions because a successful push keeps `takeRest` -/
theorem raised_rows : PushRowsE (fun b x r => Raised ext (positions b) (CallsOf x) (r ext))
    (fun s _ x r => Raised ext (ssPos s) (CallsOf x) (r ext))
    (fun _ el _ xs r => Raised ext (positions el) (CallsOfL xs) (r ext))
    (fun el _ xs r => Raised ext (positions el) (CallsOfL xs) (r ext))
    (fun s xs r => Raised ext (ssPos s) (CallsOfL xs) (r ext)) (fun s fs r => Raised ext (ssPos s) (CallsOfF fs) (r ext))
    (fun s es r => Raised ext (ssPos s) (CallsOfE es) (r ext)) (fun s ops r => Raised ext (ssPos s) (CallsOfO ops) (r ext))
    (fun _ ks vs es r => Raised ext (positions ks ++ positions vs) (CallsOfE es) (r ext))
    (fun _ _ ks vs ops r => Raised ext (positions ks ++ positions vs) (CallsOfO ops) (r ext)) where
  fwdSome ih := Raised.monoC (fun c h => h.imp Sub.some id) ih
  fwdNewtype ih := Raised.monoC (fun c h => h.imp Sub.newtypeStruct id) ih
  null _ := Raised.monoC hP_of (pushNone_raised _)
  refused {b x msg} hr hp := Raised.ctx_own b (.val x) subset_refl' (.inl (.self _))
    (fun m h => by cases h; exact .body (valBody_refused hr (hp ext))) (NoCtx.raised _)
  scalar {b x} hx := Raised.ctx_own b (.val x) subset_refl' (.inl (.self _)) (fun m h => .body ((valBody_scalar hx).trans h))
    (Raised.monoC (fun _ h => .inl h) (pushScalar_raised ext b x))
  seqLike {b x k xs} hx ihE ihC ihT := Raised.ctx_own b (.val x) subset_refl' (.inl (.self _))
    (fun m h => .body (by cases hx <;> exact h))
    (seqLikeWith_raised hP_of _ _ _ _ (fun l el o => Raised.monoC (CallsOf.of_seqLike hx) (ihE l el o))
      (fun el c => Raised.monoC (CallsOf.of_seqLike hx) (ihC el c)) (fun s => Raised.monoC (CallsOf.of_seqLike hx) (ihT s))
      (fun s s' h => pushTupleElems_takeRest ext xs s s' h) _ b)
  listBytes {p large fm v offs el bs} _ := Raised.ctx_own _ (.val (.bytes bs)) subset_refl' (.inl (.self _)) (fun m h => .body h)
    (Raised.bind (NoCtx.raised _) fun _ _ => Raised.bind (NoCtx.raised _) fun _ _ =>
      Raised.bind (Raised.monoS (by simp only [positions]; exact tail_sub)
        (pushByteElems_raised ext large bs el _ fun x hx c hc => .inl (.byte hx hc))) fun _ _ => Raised.of_ok _)
  record {b n fs} ih := Raised.ctx_own b (.val (.record n fs)) subset_refl' (.inl (.self _)) (fun m h => .body h)
    (recordWith_raised hP_of _ (fun s => Raised.monoC (fun c h => h.imp Sub.record id) (ih s))
      (fun s s' h => pushFields_takeRest ext fs s s' h) b)
  structMap {p len v bl cached next seen es} ih := Raised.ctx_own _ (.val (.map es)) subset_refl' (.inl (.self _))
    (fun m h => .body h)
    (recordWith_raised hP_of _ (fun s => Raised.monoC (fun c h => h.imp Sub.map id) (ih s.unkeyed))
      (fun s s' h => (pushStructEntries_takeRest ext es _ s' h).trans (SSkel.next s _)) _)
  structMapRaw {p len v bl cached next seen ops} ih := Raised.ctx_own _ (.val (.mapRaw ops)) subset_refl' (.inl (.self _))
    (fun m h => .body h)
    (recordWith_raised hP_of _ (fun s => Raised.monoC (fun c h => h.imp Sub.mapRaw id) (ih s.unkeyed))
      (fun s s' h => (pushStructOps_takeRest ext ops _ s' h).trans (SSkel.next s _)) _)
  map {p mm v offs ks vs es} ih := Raised.ctx_own _ (.val (.map es)) subset_refl' (.inl (.self _)) (fun m h => .body h)
    (Raised.bind (NoCtx.raised _) fun _ _ => Raised.bind (NoCtx.raised _) fun _ _ =>
      Raised.bind (Raised.mono map_sub_k (fun c h => h.imp Sub.map id) (ih _ ks vs)) fun _ _ => Raised.of_ok _)
  mapRaw {p mm v offs ks vs ops} ih := Raised.ctx_own _ (.val (.mapRaw ops)) subset_refl' (.inl (.self _)) (fun m h => .body h)
    (Raised.bind (NoCtx.raised _) fun _ _ => Raised.bind (NoCtx.raised _) fun _ _ =>
      Raised.bind (Raised.mono map_sub_k (fun c h => h.imp Sub.mapRaw id) (ih _ ks vs)) fun _ _ => Raised.of_ok _)
  union {p fs types offs cur x i y} hx ih := Raised.ctx_own _ (.val x) subset_refl' (.inl (.self _))
    (fun m h => .body (by cases hx <;> exact h))
    (union_row_raised (pc := fun c => push ext c y) fun c => Raised.monoC (CallsOf.of_variant hx) (ih c))
  element {s idx x} ih := element_raised hP_of s idx _ fun c => ih c
  elemsNil := Raised.of_ok _
  elemsCons {large el offs x rest} ih ihr := Raised.bind (NoCtx.raised _) fun _ _ =>
    Raised.bind (Raised.monoC (fun c h => h.imp SubL.head id) ih) fun el' h' =>
      positions_of_takeRest (push_takeRest ext x el el' h') ▸ Raised.monoC (fun c h => h.imp SubL.tail id) (ihr el' _)
  countNil := Raised.of_ok _
  countCons {el c x rest} ih ihr := Raised.bind (Raised.monoC (fun c h => h.imp SubL.head id) ih) fun el' h' =>
    positions_of_takeRest (push_takeRest ext x el el' h') ▸ Raised.monoC (fun c h => h.imp SubL.tail id) (ihr el' _)
  tupleNil := Raised.of_ok _
  tupleCons _ hel ih := Raised.bind (Raised.monoC (fun c h => h.imp SubL.head id) hel) fun s1 h1 =>
    element_ssPos ext h1 ▸ Raised.monoC (fun c h => h.imp SubL.tail id) (ih s1)
  tupleExtra _ ih := Raised.monoC (fun c h => h.imp SubL.tail id) ih
  fieldsNil := Raised.of_ok _
  fieldsCons {s key al x rest idx cached'} _ hel ih := Raised.bind (Raised.monoC (fun c h => h.imp SubF.head id) hel) fun s1 h1 =>
    (show ssPos s1 = ssPos s from element_ssPos ext (s := { s with cached := cached' }) h1) ▸
      Raised.monoC (fun c h => h.imp SubF.tail id) (ih s1)
  fieldsUnknown _ ih := Raised.monoC (fun c h => h.imp SubF.tail id) ih
  entriesNil := Raised.of_ok _
  entriesCons {s k x rest} hel ih := Raised.bind (NoCtx.raised _) fun key _ => by
    split
    · exact Raised.monoC (fun c h => h.imp SubE.tail id) (ih s.unkeyed)
    · rename_i idx _
      refine Raised.bind (Raised.monoC (fun c h => h.imp SubE.value id) (hel idx)) fun s1 h1 => ?_
      exact (show ssPos s1.unkeyed = ssPos s from element_ssPos ext (s' := s1) h1) ▸
        Raised.monoC (fun c h => h.imp SubE.tail id) (ih s1.unkeyed)
  opsNil := Raised.of_ok _
  opsKey ih := Raised.bind (NoCtx.raised _) fun key _ => Raised.monoC (fun c h => h.imp SubO.keyTail id) (ih _)
  opsValue {s x rest} _ hel ih := Raised.bind (Raised.monoC (fun c h => h.imp SubO.value id) hel) fun s1 h1 =>
    (show ssPos s1.unkeyed = ssPos s from element_ssPos ext (s' := s1) h1) ▸
      Raised.monoC (fun c h => h.imp SubO.valueTail id) (ih s1.unkeyed)
  opsValueUnkeyed _ ih := Raised.monoC (fun c h => h.imp SubO.valueTail id) ih
  mapEntriesNil := Raised.of_ok _
  mapEntriesCons {offs ks vs k x rest} ihk ihv ih := Raised.bind (NoCtx.raised _) fun _ _ =>
    Raised.bind (Raised.mono (fun q hq => List.mem_append_left _ hq) (fun c h => h.imp SubE.key id) ihk) fun ks' hk =>
    Raised.bind (Raised.mono (fun q hq => List.mem_append_right _ hq) (fun c h => h.imp SubE.value id) ihv) fun vs' hv =>
      positions_of_takeRest (push_takeRest ext k ks ks' hk) ▸ positions_of_takeRest (push_takeRest ext x vs vs' hv) ▸
        Raised.monoC (fun c h => h.imp SubE.tail id) (ih _ ks' vs')
  mapOpsNil := Raised.of_ok _
  mapOpsRefused := NoCtx.raised _
  mapOpsKey {offs ks vs k rest} ihk ih := Raised.bind (NoCtx.raised _) fun _ _ =>
    Raised.bind (Raised.mono (fun q hq => List.mem_append_left _ hq) (fun c h => h.imp SubO.key id) ihk) fun ks' hk =>
      positions_of_takeRest (push_takeRest ext k ks ks' hk) ▸ Raised.monoC (fun c h => h.imp SubO.keyTail id) (ih _ ks')
  mapOpsValue {offs ks vs x rest} ihv ih :=
    Raised.bind (Raised.mono (fun q hq => List.mem_append_right _ hq) (fun c h => h.imp SubO.value id) ihv) fun vs' hv =>
      positions_of_takeRest (push_takeRest ext x vs vs' hv) ▸ Raised.monoC (fun c h => h.imp SubO.valueTail id) (ih vs')

theorem push_raised : ∀ (x : SVal) (b : B), Raised ext (positions b) (CallsOf x) (push ext b x) :=
  (raised_rows ext).push

theorem pushElems_raised : ∀ (xs : SVals) (large : Bool) (el : B) (offs : List Int),
    Raised ext (positions el) (CallsOfL xs) (pushElems ext large el offs xs) :=
  (raised_rows ext).elems

theorem pushCountElems_raised : ∀ (xs : SVals) (el : B) (c : Nat),
    Raised ext (positions el) (CallsOfL xs) (pushCountElems ext el c xs) :=
  (raised_rows ext).count

theorem pushTupleElems_raised : ∀ (xs : SVals) (s : SS), Raised ext (ssPos s) (CallsOfL xs) (pushTupleElems ext s xs) :=
  (raised_rows ext).tuple

theorem pushFields_raised : ∀ (fs : SFields) (s : SS), Raised ext (ssPos s) (CallsOfF fs) (pushFields ext s fs) :=
  (raised_rows ext).fields

theorem pushStructEntries_raised : ∀ (es : SEntries) (s : SS), Raised ext (ssPos s) (CallsOfE es) (pushStructEntries ext s es) :=
  (raised_rows ext).structEntries

theorem pushStructOps_raised : ∀ (ops : SMapOps) (s : SS), Raised ext (ssPos s) (CallsOfO ops) (pushStructOps ext s ops) :=
  (raised_rows ext).structOps

theorem pushMapEntries_raised : ∀ (es : SEntries) (offs : List Int) (ks vs : B),
    Raised ext (positions ks ++ positions vs) (CallsOfE es) (pushMapEntries ext offs ks vs es) :=
  (raised_rows ext).mapEntries

theorem pushMapOps_raised : ∀ (ops : SMapOps) (pend : Bool) (offs : List Int) (ks vs : B),
    Raised ext (positions ks ++ positions vs) (CallsOfO ops) (pushMapOps ext pend offs ks vs ops) :=
  (raised_rows ext).mapOps

end SaModel.Props.C18

/-
Every annotated error `push` returns carries the annotation of a builder of the subtree — the builder whose own step failed
(`Raised.within` of the statements above and of C18OwnPlain.lean).
-/
namespace SaModel.Props.C18
open SaModel SaModel.Build

theorem pushScalar_within (ext : Ext) [ExtPlain ext] : ∀ (b : B) (x : SVal), Within (positions b) (pushScalar ext b x) :=
  fun b x => (pushScalar_raised ext b x).within

theorem pushDefaultKAt_within : ∀ (fs : BL) (j k : Nat), Within (positionsL fs) (pushDefaultKAt fs j k) :=
  fun fs j k => (pushDefaultKAt_raised (ext := {}) fs j k).within

set_option linter.unusedSectionVars false
variable (ext : Ext) [ExtPlain ext]

theorem push_within : ∀ (x : SVal) (b : B), Within (positions b) (push ext b x) :=
  fun x b => (push_raised ext x b).within
theorem pushElems_within : ∀ (xs : SVals) (large : Bool) (el : B) (offs : List Int),
    Within (positions el) (pushElems ext large el offs xs) :=
  fun xs large el offs => (pushElems_raised ext xs large el offs).within
theorem pushCountElems_within : ∀ (xs : SVals) (el : B) (c : Nat), Within (positions el) (pushCountElems ext el c xs) :=
  fun xs el c => (pushCountElems_raised ext xs el c).within
theorem pushTupleElems_within : ∀ (xs : SVals) (s : SS), Within (ssPos s) (pushTupleElems ext s xs) :=
  fun xs s => (pushTupleElems_raised ext xs s).within
theorem pushFields_within : ∀ (fs : SFields) (s : SS), Within (ssPos s) (pushFields ext s fs) :=
  fun fs s => (pushFields_raised ext fs s).within
theorem pushStructEntries_within : ∀ (es : SEntries) (s : SS), Within (ssPos s) (pushStructEntries ext s es) :=
  fun es s => (pushStructEntries_raised ext es s).within
theorem pushStructOps_within : ∀ (ops : SMapOps) (s : SS), Within (ssPos s) (pushStructOps ext s ops) :=
  fun ops s => (pushStructOps_raised ext ops s).within
theorem pushMapEntries_within : ∀ (es : SEntries) (offs : List Int) (ks vs : B),
    Within (positions ks ++ positions vs) (pushMapEntries ext offs ks vs es) :=
  fun es offs ks vs => (pushMapEntries_raised ext es offs ks vs).within
theorem pushMapOps_within : ∀ (ops : SMapOps) (pd : Bool) (offs : List Int) (ks vs : B),
    Within (positions ks ++ positions vs) (pushMapOps ext pd offs ks vs ops) :=
  fun ops pd offs ks vs => (pushMapOps_raised ext ops pd offs ks vs).within

end SaModel.Props.C18
