import SaModel.Lemmas.C08Step
/-
C08 — the `while !tracer.is_complete()` loop of `Tracer::from_type` with its budget, and the tail of `from_type`
(`finish`, `check`, `to_schema`) against `Spec.fromTypeSpec`.
-/
namespace SaModel.Lemmas.C08
open SaModel SaModel.Trace SaModel.Trace.Spec

theorem after_complete_iff (o : Options) (ty : Ty) (n p : String) (nl : Bool) (k : Nat) (hw : walkable o p ty = true) :
    (after o n p nl k ty).is_complete = decide (passes ty ≤ k) := by
  have hpos := passes_pos o ty p hw
  by_cases h : passes ty ≤ k
  · obtain ⟨k', rfl⟩ : ∃ k', k = k' + 1 := ⟨k - 1, by omega⟩
    rw [after_done o ty n p nl k' hw h, done_complete]; simp [h]
  · rw [after_incomplete o ty n p nl k (by omega)]; simp [h]

/-- the loop: `b` passes left, `k` passes done -/
theorem loop_after (c : Code) (o : Options) (ty : Ty) (n p : String) (nl : Bool) (hw : walkable o p ty = true) :
    ∀ (b k : Nat), fromTypeLoop c o ty b (after o n p nl k ty) =
      if passes ty ≤ k + b then .ok (done o n p nl ty)
      else fail "Could not determine schema from the type after {budget} iterations"
  | 0, k => by
    unfold fromTypeLoop
    rw [after_complete_iff o ty n p nl k hw]
    have hpos := passes_pos o ty p hw
    by_cases h : passes ty ≤ k
    · obtain ⟨k', rfl⟩ : ∃ k', k = k' + 1 := ⟨k - 1, by omega⟩
      simp only [h, decide_true, if_true, Nat.add_zero, after_done o ty n p nl k' hw h]
    · simp only [h, decide_false, Bool.false_eq_true, if_false, Nat.add_zero]
  | b + 1, k => by
    unfold fromTypeLoop
    rw [after_complete_iff o ty n p nl k hw]
    have hpos := passes_pos o ty p hw
    by_cases h : passes ty ≤ k
    · obtain ⟨k', rfl⟩ : ∃ k', k = k' + 1 := ⟨k - 1, by omega⟩
      have h2 : passes ty ≤ k' + 1 + (b + 1) := by omega
      simp only [h, h2, decide_true, if_true, after_done o ty n p nl k' hw h]
    · simp only [h, decide_false, Bool.false_eq_true, if_false, explore_step c o ty n p nl k hw, bind, Except.bind,
        loop_after c o ty n p nl hw b (k + 1)]
      have : k + 1 + b = k + (b + 1) := by omega
      rw [this]

theorem done_name (o : Options) : ∀ (ty : Ty) (n p : String) (nl : Bool), (done o n p nl ty).name = n
  | .unit | .unitStruct _ | .bool | .int _ | .f32 | .f64 | .char | .string | .bytes | .vec _ | .tuple _
  | .tupleStruct _ _ | .map _ _ | .struct _ _ | .enum _ _ => by
    intro _ _ _
    simp only [done, Tracer.name]
  | .option t => by intro n p _; simp only [done]; exact done_name o t n p true
  | .newtypeStruct _ t => by intro n p nl; simp only [done]; exact done_name o t n p nl

/-- `Tracer::from_type`: the complete tracer, or the budget error, or the unknown-overwrite error -/
theorem fromTypeTracer_walkable (c : Code) (o : Options) (ty : Ty) (hw : walkable o "$" ty = true) :
    fromTypeTracer c o ty =
      if passes ty ≤ o.from_type_budget then
        (if (o.overwrites.all fun kv => (tyPaths "$" ty).contains kv.1) = true then .ok (done o "$" "$" false ty)
         else fail "Overwritten fields could not be found")
      else fail "Could not determine schema from the type after {budget} iterations" := by
  unfold fromTypeTracer
  have h := loop_after c o ty "$" "$" false hw o.from_type_budget 0
  rw [after_zero, Nat.zero_add] at h
  rw [Tracer.new, h]
  by_cases hb : passes ty ≤ o.from_type_budget
  · simp only [hb, if_true, bind, Except.bind, Tracer.finish, Tracer.check, done_name, bne_self_eq_false,
      Bool.false_eq_true, if_false, Tracer.check_overwrites, done_paths]
    cases (o.overwrites.all fun kv => (tyPaths "$" ty).contains kv.1) <;> rfl
  · simp only [hb, if_false]; rfl

/-- `SerdeArrowSchema::from_type` of a type that can be walked is the documented result, error class included -/
theorem fromType_walkable_c (c : Code) (o : Options) (ty : Ty) (hw : walkable o "$" ty = true) :
    AgreeC (fromType c o ty) (fromTypeSpec o ty) := by
  unfold fromType fromTypeSpec
  rw [fromTypeTracer_walkable c o ty hw]
  simp only [hw, Bool.not_true, Bool.false_eq_true, if_false]
  by_cases hb : passes ty ≤ o.from_type_budget
  · have hb' : ¬ passes ty > o.from_type_budget := by omega
    simp only [hb, hb', if_true, if_false]
    cases ho : (o.overwrites.all fun kv => (tyPaths "$" ty).contains kv.1)
    · exact AgreeC.fail .unknownOverwrite
    · simp only [if_true, Bool.not_true, Bool.false_eq_true, if_false, bind, Except.bind, Tracer.to_schema]
      exact AgreeC.bind (done_to_field_c o ty "$" "$" false) to_schema_tail_c
  · have hb' : passes ty > o.from_type_budget := by omega
    simp only [hb, hb', if_true, if_false]
    exact AgreeC.fail .budget

theorem fromType_walkable (c : Code) (o : Options) (ty : Ty) (hw : walkable o "$" ty = true) :
    Agree (fromType c o ty) (fromTypeSpec o ty) :=
  (fromType_walkable_c c o ty hw).agree

end SaModel.Lemmas.C08
