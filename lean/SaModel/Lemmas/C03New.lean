import SaModel.Lemmas.C03WF
import SaModel.Lemmas.C03TypeOf
import SaModel.Lemmas.C01NewInd
/-
`newDT_builtFor`: the builder `build_builder` creates for a field stands for that field (`BuiltFor`).  No hypothesis:
`build_builder` refuses Map types with other than two entry children and dictionaries with a non-integer key type (repo
fixes 095456f / 7359431; the pinned code ignored further entry children and the array it then produced was not of the
declared type, see notes/C03.md, Findings).
-/
namespace SaModel.Lemmas.C03
open SaModel SaModel.Build SaModel.Spec

theorem leafDT_of_kindOf {dt : DataType} {k : LeafKind} (h : kindOf dt = some k) : dt = leafDT k := by
  unfold kindOf at h
  split at h <;> cases h <;> rfl

theorem StrictDT_leafDT (k : LeafKind) : StrictDT (leafDT k) := by
  cases k with
  | int t => cases t <;> simp only [leafDT, intDT, StrictDT]
  | _ => simp only [leafDT, StrictDT]

/-- one walk over what `build_builder` builds (`Build.newDT_induct`) for both facts: the builder stands for the field, and
the type is strict (sparse unions and nullable Map entries are refused) -/
theorem newDT_builtFor_strict_all :
    (∀ (path : String) (dt : DataType) (nl : Bool) (md : Metadata),
      ∀ b, newDT path dt nl md = .ok b → BuiltFor dt nl b ∧ (PlainDT dt → StrictDT dt)) ∧
    (∀ (path : String) (ufs : UFields) (k : Nat),
      ∀ bl, newUnionFields path ufs k = .ok bl → BuiltForU ufs bl k ∧ (PlainU ufs → StrictU ufs)) ∧
    (∀ (path : String) (f : Field),
      ∀ b, newB path f = .ok b → BuiltFor f.dataType f.nullable b ∧ (PlainF f → StrictF f)) ∧
    (∀ (path : String) (fs : Fields),
      ∀ bl, newFields path fs = .ok bl → BuiltForL fs bl ∧ (PlainFs fs → StrictFs fs)) := by
  have key := newDT_induct (P := fun _ dt nl _ b => BuiltFor dt nl b ∧ (PlainDT dt → StrictDT dt))
    (PL := fun _ fs bl => BuiltForL fs bl ∧ (PlainFs fs → StrictFs fs))
    (PU := fun _ ufs k bl => BuiltForU ufs bl k ∧ (PlainU ufs → StrictU ufs))
    (unknown := fun _ _ _ _ => ⟨by simp only [BuiltFor], fun _ => by simp only [StrictDT]⟩)
    (null := fun _ _ _ _ => ⟨by simp only [BuiltFor], fun _ => by simp only [StrictDT]⟩)
    (leaf := fun _ dt k nl _ hk _ => by
      cases leafDT_of_kindOf hk
      exact ⟨by simp only [BuiltFor]; exact ⟨trivial, isSome_newValidity nl⟩, fun _ => StrictDT_leafDT k⟩)
    (bytes := fun _ ty nl _ => by
      refine ⟨by simp only [BuiltFor]; exact ⟨by cases ty <;> rfl, isSome_newValidity nl⟩, fun _ => ?_⟩
      cases ty <;> simp only [Build.bytesDT, StrictDT])
    (view := fun _ ty nl _ => by
      refine ⟨by simp only [BuiltFor]; exact ⟨by cases ty <;> rfl, isSome_newValidity nl⟩, fun _ => ?_⟩
      cases ty <;> simp only [Build.viewDT, StrictDT])
    (fixedSizeBinary := fun _ k nl _ =>
      ⟨by simp only [BuiltFor]; exact ⟨trivial, isSome_newValidity nl⟩, fun _ => by simp only [StrictDT]⟩)
    (list := fun _ large child nl _ el ih => by
      refine ⟨by simp only [BuiltFor]; exact ⟨child, rfl, rfl, isSome_newValidity nl, ih.1⟩, ?_⟩
      cases large <;> simp only [StrictDT, PlainDT, StrictF_iff, PlainF_iff, Bool.false_eq_true, if_false, if_true] <;>
        exact ih.2)
    (fixedSizeList := fun _ child k nl _ el ih => by
      refine ⟨by simp only [BuiltFor]; exact ⟨child, rfl, rfl, isSome_newValidity nl, ih.1⟩, ?_⟩
      simp only [StrictDT, PlainDT, StrictF_iff, PlainF_iff]; exact ih.2)
    (map := fun _ ename kf vf emd sorted nl _ kb vb ihk ihv => by
      refine ⟨by simp only [BuiltFor]; exact ⟨ename, kf, vf, sorted, false, emd, rfl, rfl, isSome_newValidity nl, ihk.1, ihv.1⟩, ?_⟩
      simp only [StrictDT, PlainDT, StrictFs, PlainFs, StrictF_iff, PlainF_iff]
      exact fun hp => ⟨trivial, hp.1, ihk.2 hp.2.1, ihv.2 hp.2.2.1, trivial⟩)
    (struct := fun path fs nl _ bl b ih hb => by
      simp only [mkStruct] at hb
      split at hb
      · cases hb
      · cases hb
        refine ⟨by simp only [BuiltFor]; exact ⟨fs, rfl, isSome_newValidity nl, ih.1⟩, ?_⟩
        simp only [StrictDT, PlainDT]; exact ih.2)
    (dictionary := fun _ k t v nl _ vb hint hk ihv => by
      cases leafDT_of_kindOf hk
      refine ⟨by simp only [BuiltFor]; exact ⟨_, v, rfl, hint, ⟨rfl, isSome_newValidity nl⟩, ihv.1⟩, ?_⟩
      simp only [StrictDT, PlainDT]
      exact fun hp => ⟨StrictDT_leafDT _, ihv.2 hp.2⟩)
    (union := fun _ ufs nl _ bl ih =>
      ⟨by simp only [BuiltFor]; exact ⟨ufs, .dense, rfl, ih.1⟩, by simp only [StrictDT, PlainDT]; exact fun hp => ⟨trivial, ih.2 hp⟩⟩)
    (nil := fun _ => ⟨by simp only [BuiltForL], fun _ => trivial⟩)
    (cons := fun _ f rest b r ihf ihr => by
      refine ⟨by simp only [BuiltForL]; exact ⟨trivial, ihf.1, ihr.1⟩, ?_⟩
      simp only [StrictFs, PlainFs, StrictF_iff, PlainF_iff]
      exact fun hp => ⟨ihf.2 hp.1, ihr.2 hp.2⟩)
    (unil := fun _ _ => ⟨by simp only [BuiltForU], fun _ => trivial⟩)
    (ucons := fun _ idx f rest b r ihf ihr => by
      refine ⟨by simp only [BuiltForU]; exact ⟨trivial, trivial, ihf.1, ihr.1⟩, ?_⟩
      simp only [StrictU, PlainU, StrictF_iff, PlainF_iff]
      exact fun hp => ⟨ihf.2 hp.1, ihr.2 hp.2⟩)
  refine ⟨key.1, key.2.1, fun path f b h => ?_, key.2.2.2⟩
  rw [StrictF_iff, PlainF_iff]; exact key.2.2.1 path f b h

theorem newDT_builtFor (path : String) (dt : DataType) (nl : Bool) (md : Metadata) (b : B)
    (h : newDT path dt nl md = .ok b) : BuiltFor dt nl b :=
  (newDT_builtFor_strict_all.1 path dt nl md b h).1

theorem newB_builtFor (path : String) (f : Field) (b : B) (h : newB path f = .ok b) :
    BuiltFor f.dataType f.nullable b :=
  (newDT_builtFor_strict_all.2.2.1 path f b h).1

theorem newFields_builtFor (path : String) (fs : Fields) (bl : BL) (h : newFields path fs = .ok bl) :
    BuiltForL fs bl :=
  (newDT_builtFor_strict_all.2.2.2 path fs bl h).1

/-- the root builder (`OuterSequenceBuilder::new`) stands for the non-nullable struct of the fields -/
theorem newRoot_builtFor (fields : List Field) (root : B) (h : newRoot fields = .ok root) :
    BuiltFor (.struct (Fields.ofList fields)) false root := by
  simp only [newRoot, bind, Except.bind] at h
  cases hf : newFields "$" (Fields.ofList fields) with
  | error e => rw [hf] at h; cases h
  | ok bl =>
    rw [hf] at h
    simp only [mkStruct] at h
    split at h
    · cases h
    · cases h
      simp only [BuiltFor]
      exact ⟨_, rfl, rfl, newFields_builtFor "$" _ bl hf⟩

/-! ### reading the per-column facts off `wfFields` -/

theorem wfFields_get : ∀ (fs : Fields) (afs : ArrFields) (len : Nat), wfFields fs afs len = true →
    afs.toList.length = fs.toList.length ∧
    ∀ (j : Nat) (f : Field) (ma : FieldMeta × Arr), fs.toList[j]? = some f → afs.toList[j]? = some ma →
      metaMatches ma.1 f = true ∧ (decodeAll ma.2).length = len ∧ WFS f ma.2 = true
  | .nil, .nil, _, _ => by simp [ArrFields.toList, Fields.toList]
  | .nil, .cons _ _ _, _, h => by simp [wfFields] at h
  | .cons _ _, .nil, _, h => by simp [wfFields] at h
  | .cons f r, .cons m a ar, len, h => by
    simp only [wfFields, Bool.and_eq_true, beq_iff_eq] at h
    obtain ⟨⟨⟨h1, h2⟩, h3⟩, h4⟩ := h
    obtain ⟨ihl, ih⟩ := wfFields_get r ar len h4
    refine ⟨by simp [ArrFields.toList, Fields.toList, ihl], ?_⟩
    intro j g ma hg hma
    cases j with
    | zero =>
      simp only [Fields.toList, ArrFields.toList, List.getElem?_cons_zero, Option.some.injEq] at hg hma
      subst hg; subst hma
      exact ⟨h1, h2, h3⟩
    | succ j =>
      simp only [Fields.toList, ArrFields.toList, List.getElem?_cons_succ] at hg hma
      exact ih j g ma hg hma

end SaModel.Lemmas.C03
