import SaModel.Trace.FromSamples
import SaModel.Trace.Spec
/- a zoo of nested sample shapes on which the swap and repetition laws of `from_samples` are stated as computations
(`swapOK`, `repeatOK`; `absorb_comm_on_zoo`, SaModel/Props/C07Tree.lean) -/
namespace SaModel.Lemmas.C07
open SaModel SaModel.Trace

def zi (v : Int) : SVal := .int .i32 v
def zrec (fs : List (String × SVal)) : SVal := .record "S" (SFields.ofList (fs.map fun (k, v) => (k, 0, v)))
def zmap (fs : List (String × SVal)) : SVal := .map (SEntries.ofList (fs.map fun (k, v) => (.str k, v)))
def zseq (xs : List SVal) : SVal := .seq (SVals.ofList xs)
def ztup (xs : List SVal) : SVal := .tuple (SVals.ofList xs)

/-- nested sample shapes: optional, list, struct with missing fields, map with varying keys, tuples, enum variants -/
def zooVals : List SVal := [
  .none, .some (zi 1), zi 2, .str "x", .unit,
  zseq [], zseq [zi 1], zseq [.none, .str "a"],
  zrec [("a", zi 1)], zrec [("b", .str "s"), ("a", zi 2)], zrec [],
  zmap [("k", zi 1)], zmap [("b", zi 1), ("a", .none)],
  ztup [zi 1, .str "a"], ztup [zi 1],
  .unitVariant "E" 1 "B", .newtypeVariant "E" 0 "A" (zrec [("x", .some (zi 1))]), .newtypeVariant "E" 0 "A" (zrec [("y", zi 1)]),
  zrec [("a", zrec [("p", zseq [zi 1])])], zrec [("a", zrec [("q", .bool true)]), ("c", .none)]
]

def zooOpts : List Options := [
  {}, { allow_null_fields := true }, { allow_null_fields := true, map_as_struct := false },
  { allow_null_fields := true, coerce_numbers := true, allow_to_string := true }
]

def swapOK (o : Options) (x y : SVal) : Bool :=
  match fromSamples .fixed o (itemsOf [x, y]), fromSamples .fixed o (itemsOf [y, x]) with
  | .ok a, .ok b => Spec.schemaEquiv a b
  | .error _, .error _ => true
  | _, _ => o.allow_to_string

def repeatOK (o : Options) (x y : SVal) : Bool :=
  match fromSamples .fixed o (itemsOf [x, y, x, y]), fromSamples .fixed o (itemsOf [x, y]) with
  | .ok a, .ok b => Spec.schemaEquiv a b
  | .error _, .error _ => true
  | _, _ => false

end SaModel.Lemmas.C07
