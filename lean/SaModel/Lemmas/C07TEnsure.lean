import SaModel.Lemmas.C07TBasic
import SaModel.Lemmas.C06Ensure
/-
C07, tree level — the `ensure_*` methods case by case (fresh node / same kind / mismatch; of an `Unknown` / `Null` node
they read only name, path and the nullable flag), and `mark_nullable` commutes with `absorb` for every sample.
-/
namespace SaModel.Lemmas.C07
open SaModel SaModel.Trace SaModel.Props.C07

def depthOk (t : Tracer) : Prop := t.get_depth < MAX_TYPE_DEPTH

theorem enforce_ok {t : Tracer} (h : depthOk t) : t.enforce_depth_limit = .ok () := by
  unfold Tracer.enforce_depth_limit depthOk at *
  split <;> first | rfl | omega

theorem enforce_fail {t : Tracer} (h : ¬ depthOk t) : ∃ e, t.enforce_depth_limit = .error e := by
  unfold Tracer.enforce_depth_limit depthOk at *
  split
  · exact ⟨_, rfl⟩
  · omega

theorem depthOk_of {t : Tracer} (h : t.enforce_depth_limit = .ok ()) : depthOk t :=
  Classical.byContradiction fun hd => by obtain ⟨e, he⟩ := enforce_fail hd; rw [he] at h; cases h

theorem depthOk_path {a b : Tracer} (h : b.path = a.path) : depthOk b ↔ depthOk a := by
  unfold depthOk Tracer.get_depth; rw [h]

/-- `mode` of a struct node after a sample of mode `mode` (fix #26) -/
def joinMode (m mode : StructMode) : StructMode := if mode == .map then .map else m

/-- the common shape of the container `ensure_*` methods (`C06.ensure_shape`) on an `Unknown` / `Null` node -/
theorem ensure_fresh_shape {t fresh : Tracer} {keep : R Tracer} (hd : depthOk t) (hu : t.is_unknown_or_null = true) :
    (do t.enforce_depth_limit; if t.is_unknown_or_null then .ok fresh else keep : R Tracer) = .ok fresh := by
  rw [enforce_ok hd, hu]; rfl

theorem ensure_list_fresh {t : Tracer} (hd : depthOk t) (hu : t.is_unknown_or_null = true) :
    t.ensure_list = .ok (.list t.name t.path t.nullable (Tracer.new "element" (t.path ++ ".element"))) := ensure_fresh_shape hd hu

theorem ensure_list_same {n p nl i} (hd : depthOk (.list n p nl i)) :
    (Tracer.list n p nl i).ensure_list = .ok (.list n p nl i) := C06.ensure_list_id (enforce_ok hd)

theorem ensure_list_inv {t t1 : Tracer} (h : t.ensure_list = .ok t1) : depthOk t ∧
    ((t.is_unknown_or_null = true ∧ t1 = .list t.name t.path t.nullable (Tracer.new "element" (t.path ++ ".element"))) ∨
     (∃ n p nl i, t = .list n p nl i ∧ t1 = t)) := 
  (C06.ensure_list_ok h).imp depthOk_of id

theorem ensure_map_fresh {t : Tracer} (hd : depthOk t) (hu : t.is_unknown_or_null = true) :
    t.ensure_map = .ok (.map t.name t.path t.nullable (Tracer.new "key" (t.path ++ ".key"))
      (Tracer.new "value" (t.path ++ ".value"))) := ensure_fresh_shape hd hu

theorem ensure_map_same {n p nl k v} (hd : depthOk (.map n p nl k v)) :
    (Tracer.map n p nl k v).ensure_map = .ok (.map n p nl k v) := C06.ensure_map_id (enforce_ok hd)

theorem ensure_map_inv {t t1 : Tracer} (h : t.ensure_map = .ok t1) : depthOk t ∧
    ((t.is_unknown_or_null = true ∧ t1 = .map t.name t.path t.nullable (Tracer.new "key" (t.path ++ ".key"))
      (Tracer.new "value" (t.path ++ ".value"))) ∨
     (∃ n p nl k v, t = .map n p nl k v ∧ t1 = t)) := 
  (C06.ensure_map_ok h).imp depthOk_of id

/-! ### `ensure_struct` (repaired code, `fields = []` as on every call from `TracerSerializer`) -/

theorem ensure_struct_fresh {t : Tracer} (mode : StructMode) (hd : depthOk t) (hu : t.is_unknown_or_null = true) :
    t.ensure_struct .fixed [] mode = .ok (.struct t.name t.path t.nullable .nil mode 0) := ensure_fresh_shape hd hu

theorem ensure_struct_same {n p nl fs m s} (mode : StructMode) (hd : depthOk (.struct n p nl fs m s)) :
    (Tracer.struct n p nl fs m s).ensure_struct .fixed [] mode = .ok (.struct n p nl fs (joinMode m mode) s) := C06.ensure_struct_id .fixed mode (enforce_ok hd)

theorem ensure_struct_inv {t t1 : Tracer} {mode : StructMode} (h : t.ensure_struct .fixed [] mode = .ok t1) : depthOk t ∧
    ((t.is_unknown_or_null = true ∧ t1 = .struct t.name t.path t.nullable .nil mode 0) ∨
     (∃ n p nl fs m s, t = .struct n p nl fs m s ∧ t1 = .struct n p nl fs (joinMode m mode) s)) := 
  (C06.ensure_struct_ok h).imp depthOk_of id

theorem ensure_tuple_fresh {t : Tracer} (k : Nat) (hd : depthOk t) (hu : t.is_unknown_or_null = true) :
    t.ensure_tuple .fixed k = .ok (.tuple t.name t.path t.nullable (mkTupleFields t.path k k)) := ensure_fresh_shape hd hu

theorem ensure_tuple_same {n p nl ts} (k : Nat) (hd : depthOk (.tuple n p nl ts)) :
    (Tracer.tuple n p nl ts).ensure_tuple .fixed k = .ok (.tuple n p nl (tupleGrowNullable p k (ts.markFrom k))) := C06.ensure_tuple_id .fixed k (enforce_ok hd)

theorem ensure_tuple_inv {t t1 : Tracer} {k : Nat} (h : t.ensure_tuple .fixed k = .ok t1) : depthOk t ∧
    ((t.is_unknown_or_null = true ∧ t1 = .tuple t.name t.path t.nullable (mkTupleFields t.path k k)) ∨
     (∃ n p nl ts, t = .tuple n p nl ts ∧ t1 = .tuple n p nl (tupleGrowNullable p k (ts.markFrom k)))) := 
  (C06.ensure_tuple_ok h).imp depthOk_of id

theorem ensure_union_fresh {t : Tracer} (hd : depthOk t) (hu : t.is_unknown_or_null = true) :
    t.ensure_union [] = .ok (.union t.name t.path t.nullable .nil) := ensure_fresh_shape hd hu

theorem ensure_union_same {n p nl vs} (hd : depthOk (.union n p nl vs)) :
    (Tracer.union n p nl vs).ensure_union [] = .ok (.union n p nl vs) := C06.ensure_union_id (enforce_ok hd)

theorem ensure_union_inv {t t1 : Tracer} (h : t.ensure_union [] = .ok t1) : depthOk t ∧
    ((t.is_unknown_or_null = true ∧ t1 = .union t.name t.path t.nullable .nil) ∨
     (∃ n p nl vs, t = .union n p nl vs ∧ t1 = t)) := 
  (C06.ensure_union_ok h).imp depthOk_of id

/-! ### container samples only read name, path and the nullable flag of an `Unknown` / `Null` node -/

theorem ensure_list_unk {t1 t2 : Tracer} (h1 : t1.is_unknown_or_null = true) (h2 : t2.is_unknown_or_null = true)
    (hn : t1.name = t2.name) (hp : t1.path = t2.path) (hl : t1.nullable = t2.nullable) :
    t1.ensure_list = t2.ensure_list := by
  unfold Tracer.ensure_list
  rw [C06.enforce_depth_limit_path hp, h1, h2, hn, hp, hl]
  simp

theorem ensure_struct_unk {t1 t2 : Tracer} (h1 : t1.is_unknown_or_null = true) (h2 : t2.is_unknown_or_null = true)
    (hn : t1.name = t2.name) (hp : t1.path = t2.path) (hl : t1.nullable = t2.nullable) (c : Code) (f : List String)
    (m : StructMode) : t1.ensure_struct c f m = t2.ensure_struct c f m := by
  unfold Tracer.ensure_struct
  rw [C06.enforce_depth_limit_path hp, h1, h2, hn, hp, hl]
  simp

theorem ensure_map_unk {t1 t2 : Tracer} (h1 : t1.is_unknown_or_null = true) (h2 : t2.is_unknown_or_null = true)
    (hn : t1.name = t2.name) (hp : t1.path = t2.path) (hl : t1.nullable = t2.nullable) :
    t1.ensure_map = t2.ensure_map := by
  unfold Tracer.ensure_map
  rw [C06.enforce_depth_limit_path hp, h1, h2, hn, hp, hl]
  simp

theorem ensure_tuple_unk {t1 t2 : Tracer} (h1 : t1.is_unknown_or_null = true) (h2 : t2.is_unknown_or_null = true)
    (hn : t1.name = t2.name) (hp : t1.path = t2.path) (hl : t1.nullable = t2.nullable) (c : Code) (k : Nat) :
    t1.ensure_tuple c k = t2.ensure_tuple c k := by
  unfold Tracer.ensure_tuple
  rw [C06.enforce_depth_limit_path hp, h1, h2, hn, hp, hl]
  simp

theorem ensure_union_unk {t1 t2 : Tracer} (h1 : t1.is_unknown_or_null = true) (h2 : t2.is_unknown_or_null = true)
    (hn : t1.name = t2.name) (hp : t1.path = t2.path) (hl : t1.nullable = t2.nullable) (vs : List String) :
    t1.ensure_union vs = t2.ensure_union vs := by
  unfold Tracer.ensure_union
  rw [C06.enforce_depth_limit_path hp, h1, h2, hn, hp, hl]
  simp

theorem coerce_nullable (o : Options) (p c : DataType) (nl : Bool) (ps cs : Option Strategy) :
    coerce_primitive_type o p true ps c cs =
      (coerce_primitive_type o p nl ps c cs).map (fun r => (r.1, true, r.2.2)) := by
  simp only [coerce_primitive_type, apply_ite (Except.map (fun r : DataType × Bool × Option Strategy => (r.1, true, r.2.2)))]
  rfl

theorem name_mark (t : Tracer) : t.mark_nullable.name = t.name := C06.mark_nullable_name t

theorem depth_mark (t : Tracer) : t.mark_nullable.enforce_depth_limit = t.enforce_depth_limit := by
  cases t <;> rfl

theorem unknownish_mark (t : Tracer) : t.mark_nullable.is_unknown_or_null = t.is_unknown_or_null := by
  cases t <;> simp only [Tracer.mark_nullable, Tracer.set_nullable, is_unknown_or_null_prim] <;> rfl

/-- the common shape of the container `ensure_*` methods (`C06.ensure_shape`) on a node marked nullable -/
theorem ensure_mark_shape (t : Tracer) {fresh fresh' : Tracer} {keep keep' : R Tracer}
    (hf : fresh' = fresh.mark_nullable) (hk : keep' = keep.map Tracer.mark_nullable) :
    (do t.mark_nullable.enforce_depth_limit
        if t.mark_nullable.is_unknown_or_null then .ok fresh' else keep') =
      (do t.enforce_depth_limit; if t.is_unknown_or_null then .ok fresh else keep : R Tracer).map
        Tracer.mark_nullable := by
  rw [depth_mark, unknownish_mark, hf, hk]
  cases t.enforce_depth_limit with
  | error e => rfl
  | ok u => simp only [bind, Except.bind]; split <;> rfl

theorem ensure_list_mark (t : Tracer) : t.mark_nullable.ensure_list = (t.ensure_list).map Tracer.mark_nullable :=
  ensure_mark_shape t (by cases t <;> rfl) (by cases t <;> rfl)

theorem ensure_map_mark (t : Tracer) : t.mark_nullable.ensure_map = (t.ensure_map).map Tracer.mark_nullable :=
  ensure_mark_shape t (by cases t <;> rfl) (by cases t <;> rfl)

theorem ensure_union_mark (t : Tracer) (vs : List String) :
    t.mark_nullable.ensure_union vs = (t.ensure_union vs).map Tracer.mark_nullable :=
  ensure_mark_shape t (by cases t <;> rfl) (by cases t <;> rfl)

theorem ensure_struct_mark (c : Code) (t : Tracer) (fs : List String) (mode : StructMode) :
    t.mark_nullable.ensure_struct c fs mode = (t.ensure_struct c fs mode).map Tracer.mark_nullable :=
  ensure_mark_shape t (by cases t <;> rfl) (by
    cases t <;> try rfl
    simp only [Tracer.mark_nullable, Tracer.set_nullable]
    split <;> rfl)

theorem ensure_tuple_mark (c : Code) (t : Tracer) (k : Nat) :
    t.mark_nullable.ensure_tuple c k = (t.ensure_tuple c k).map Tracer.mark_nullable :=
  ensure_mark_shape t (by cases t <;> rfl) (by
    cases t <;> try rfl
    simp only [Tracer.mark_nullable, Tracer.set_nullable]
    split <;> rfl)

theorem ensure_prim_mark (o : Options) (t : Tracer) (ty : DataType) (st : Option Strategy) :
    t.mark_nullable.ensure_primitive_with_strategy o ty st =
      (t.ensure_primitive_with_strategy o ty st).map Tracer.mark_nullable := by
  cases t <;> simp only [Tracer.mark_nullable, Tracer.set_nullable, Tracer.ensure_primitive_with_strategy]
  case unknown => simp [Except.map, Tracer.mark_nullable, Tracer.set_nullable]
  case primitive n p nl pty pst =>
    rw [coerce_nullable o pty ty nl pst st]
    cases coerce_primitive_type o pty nl pst ty st <;> rfl
  all_goals (split <;> rfl)

theorem ensure_union_variant_mark (t : Tracer) (vn : String) (idx : Nat) :
    ensure_union_variant t.mark_nullable vn idx =
      (ensure_union_variant t vn idx).map (fun r => (r.1, r.2.1, true, r.2.2.2)) := by
  unfold ensure_union_variant
  rw [ensure_union_mark]
  cases h : t.ensure_union [] with
  | error e => rfl
  | ok t1 =>
    simp only [Except.map, bind, Except.bind]
    cases t1 <;> simp only [Tracer.mark_nullable, Tracer.set_nullable]
    case union n p nl vs =>
      cases ensure_variant p vs vn idx with
      | error e => rfl
      | ok vs' =>
        simp only
        split <;> rfl
    all_goals rfl

/-- `mark_nullable` (on the tracer: `g`, on the result: itself) passes through `do let r ← e; k r` when it passes
through `k` -/
theorem map_bind_mark {α} {e : R α} (g : α → α) {k : α → R Tracer}
    (hk : ∀ r, k (g r) = (k r).map Tracer.mark_nullable) : (e.map g >>= k) = (e >>= k).map Tracer.mark_nullable := by
  cases e with
  | error _ => rfl
  | ok r => exact hk r

/-- Every container arm is `ensure_*` (which commutes with `mark_nullable`) followed by a match on the node that only
copies the nullable flag. -/
theorem absorb_mark (c : Code) (o : Options) : ∀ (x : SVal) (t : Tracer),
    absorb c o t.mark_nullable x = (absorb c o t x).map Tracer.mark_nullable
  | .bool _, t | .char _, t | .unit, t | .bytes _, t | .unitStruct _, t => by
    simp only [absorb, Tracer.ensure_primitive, ensure_prim_mark]
  | .int _ _, t | .f32 _, t | .f64 _, t => by
    simp only [absorb, Tracer.ensure_number, Tracer.ensure_primitive, ensure_prim_mark]
  | .str _, t => by simp only [absorb, ensure_prim_mark]
  | .none, t => by simp only [absorb, mark_mark, Except.map]
  | .some v, t => by
    simp only [absorb, mark_mark]
    have := absorb_mark c o v t.mark_nullable
    rw [mark_mark] at this
    exact this
  | .newtypeStruct _ v, t => by simp only [absorb]; exact absorb_mark c o v t
  | .seq items, t => by
    simp only [absorb, ensure_list_mark]
    refine map_bind_mark _ fun t1 => ?_
    cases t1 <;> first | rfl | (simp only [Tracer.mark_nullable, Tracer.set_nullable, Except.map, bind, Except.bind]; split <;> rfl)
  | .tuple items, t | .tupleStruct _ items, t => by
    simp only [absorb, ensure_tuple_mark]
    refine map_bind_mark _ fun t1 => ?_
    cases t1 <;> first | rfl | (simp only [Tracer.mark_nullable, Tracer.set_nullable, Except.map, bind, Except.bind]; split <;> rfl)
  | .record _ fields, t => by
    simp only [absorb, ensure_struct_mark]
    refine map_bind_mark _ fun t1 => ?_
    cases t1 <;> first | rfl | (simp only [Tracer.mark_nullable, Tracer.set_nullable, Except.map, bind, Except.bind]; split <;> rfl)
  | .map es, t | .mapRaw es, t => by
    simp only [absorb, ensure_struct_mark, ensure_map_mark]
    split <;> refine map_bind_mark _ fun t1 => ?_ <;>
      cases t1 <;> first | rfl | (simp only [Tracer.mark_nullable, Tracer.set_nullable, Except.map, bind, Except.bind]; split <;> rfl)
  | .unitVariant _ idx vn, t => by
    simp only [absorb, ensure_union_variant_mark]
    refine map_bind_mark _ fun ⟨n, p, nl, vs, vt⟩ => ?_
    simp only [Except.map, bind, Except.bind]
    cases Tracer.ensure_primitive o vt .null <;> rfl
  | .newtypeVariant _ idx vn v, t => by
    simp only [absorb, ensure_union_variant_mark]
    refine map_bind_mark _ fun ⟨n, p, nl, vs, vt⟩ => ?_
    simp only [Except.map, bind, Except.bind]
    cases absorb c o vt v <;> rfl
  | .tupleVariant _ idx vn items, t => by
    simp only [absorb, ensure_union_variant_mark]
    refine map_bind_mark _ fun ⟨n, p, nl, vs, vt⟩ => ?_
    simp only [Except.map, bind, Except.bind]
    cases vt.ensure_tuple c items.length with
    | error e => rfl
    | ok vt1 => cases vt1 <;> first | rfl | (simp only; split <;> rfl)
  | .structVariant _ idx vn fields, t => by
    simp only [absorb, ensure_union_variant_mark]
    refine map_bind_mark _ fun ⟨n, p, nl, vs, vt⟩ => ?_
    simp only [Except.map, bind, Except.bind]
    cases vt.ensure_struct c [] .struct with
    | error e => rfl
    | ok vt1 => cases vt1 <;> first | rfl | (simp only; split <;> rfl)

end SaModel.Lemmas.C07
