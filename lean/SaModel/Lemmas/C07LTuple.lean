import SaModel.Lemmas.C07LStruct
/-
C07, least-upper-bound argument — the tuple family (`tuple`, `tuple_struct`, the payload of tuple variants): a tuple
node is a finite map over positions (an existing node plays `seen_samples = 1`, an `Unknown` node `0`).
-/
namespace SaModel.Lemmas.C07
open SaModel SaModel.Trace SaModel.Props.C07

theorem one_bne : ((1 : Nat) != 0) = true := rfl

theorem TLe_tuple_of_K {o : Options} {n p : String} {nl nl' : Bool} {A B : Tracers}
    (hn : nl = true → nl' = true) (hK : ∀ j, KLe o p 1 (toString j) (A.get? j) (B.get? j)) :
    TLe o (.tuple n p nl A) (.tuple n p nl' B) := by
  refine .tuple hn ?_ ?_ ?_
  · intro j h
    cases hb : B.get? j with
    | some _ => rfl
    | none =>
      have := hK j
      rw [hb] at this
      have e : A.get? j = none := this
      rw [e] at h; cases h
  · intro j a b ha hb
    have := hK j
    rw [ha, hb] at this
    exact this
  · intro j b ha hb
    have := hK j
    rw [ha, hb] at this
    have h2 : TLe o (freshField p 1 (toString j)) b := this
    rw [freshField_eq, one_bne] at h2
    cases h2 with
    | unk hu hc => exact ⟨hu, hc⟩

theorem K_of_TLe_tuple {o : Options} {n p : String} {nl : Bool} {A : Tracers} {u : Tracer}
    (h : TLe o (.tuple n p nl A) u) : ∃ nl' B, u = .tuple n p nl' B ∧ (nl = true → nl' = true) ∧
      ∀ j, KLe o p 1 (toString j) (A.get? j) (B.get? j) := by
  cases h with
  | @tuple _ _ _ nl' _ B hn hk hf hx =>
    refine ⟨_, _, rfl, hn, ?_⟩
    intro j
    cases hb : B.get? j with
    | none =>
      show A.get? j = none
      cases ha : A.get? j with
      | none => rfl
      | some _ => have := hk j (by rw [ha]; rfl); rw [hb] at this; cases this
    | some b =>
      cases ha : A.get? j with
      | none =>
        show TLe o (freshField p 1 (toString j)) b
        rw [freshField_eq, one_bne]
        obtain ⟨hu, hc⟩ := hx j b ha hb
        exact .unk hu hc
      | some a => exact hf j a b ha hb

/-- the order on two nodes as `ensure_tuple` sees them (`ensure_tuple_facts`: seen `0` and no fields for an `Unknown` /
`Null` node, seen `1` and its fields for a tuple node) -/
theorem tuple_view_le {o : Options} {t u : Tracer} {s s' : Nat} {n p n' p' : String} {nl nl' : Bool} {ts0 us0 : Tracers}
    (htu : TLe o t u) (h0 : s = 0 → ts0 = .nil) (h0' : s' = 0 → us0 = .nil)
    (hct : (t.is_unknown_or_null = true ∧ s = 0 ∧ n = t.name ∧ p = t.path ∧ nl = t.nullable) ∨
      (t = .tuple n p nl ts0 ∧ s = 1))
    (hcu : (u.is_unknown_or_null = true ∧ s' = 0 ∧ n' = u.name ∧ p' = u.path ∧ nl' = u.nullable) ∨
      (u = .tuple n' p' nl' us0 ∧ s' = 1)) :
    n' = n ∧ p' = p ∧ (nl = true → nl' = true) ∧ (s ≠ 0 → s' ≠ 0) ∧
      ∀ j, KLe o p s (toString j) (ts0.get? j) (us0.get? j) := by
  rcases hct with ⟨hu, rfl, rfl, rfl, rfl⟩ | ⟨rfl, rfl⟩
  · have := h0 rfl
    subst this
    obtain ⟨ule, hcan⟩ := unknownish_le hu htu
    rcases hcu with ⟨hu', rfl, rfl, rfl, rfl⟩ | ⟨rfl, rfl⟩
    · have := h0' rfl
      subst this
      exact ⟨ule.1, ule.2.1, ule.2.2, fun h => absurd rfl h, fun j => rfl⟩
    · simp only [ULe, Tracer.name, Tracer.path, Tracer.nullable] at ule
      obtain ⟨rfl, rfl, hn⟩ := ule
      refine ⟨rfl, rfl, hn, fun h => absurd rfl h, fun j => ?_⟩
      cases hb : us0.get? j with
      | none => rfl
      | some b =>
        show TLe o (freshField _ 0 (toString j)) b
        rw [freshField_eq]
        cases hcan with
        | tuple hu' hc' => exact .unk (hu' j b hb) (hc' j b hb)
  · obtain ⟨nl'', B, rfl, hn, hK⟩ := K_of_TLe_tuple htu
    rcases hcu with ⟨hu', _⟩ | ⟨e2, rfl⟩
    · simp [Tracer.is_unknown_or_null] at hu'
    · cases e2
      exact ⟨rfl, rfl, hn, fun _ => by omega, hK⟩

theorem ensure_tuple_down {o : Options} {t u u1 : Tracer} {k : Nat} (htu : TLe o t u)
    (g : u.ensure_tuple .fixed k = .ok u1) : ∃ n p nl ts, t.ensure_tuple .fixed k = .ok (.tuple n p nl ts) := by
  obtain ⟨hdu, hcu⟩ := ensure_tuple_inv g
  have hdt := (depthOk_le htu).mp hdu
  by_cases hu : t.is_unknown_or_null = true
  · exact ⟨_, _, _, _, ensure_tuple_fresh k hdt hu⟩
  · rcases hcu with ⟨hu', _⟩ | ⟨_, _, _, _, rfl, _⟩
    · exact absurd (unknownish_down htu hu') hu
    · cases htu with
      | unk _ _ => exact absurd rfl hu
      | null _ _ _ => exact absurd rfl hu
      | tuple _ _ _ _ => exact ⟨_, _, _, _, ensure_tuple_same k hdt⟩

theorem lub_tuple {o : Options} {x : SVal} {items : SVals} (hx : TupleFam o x items)
    (hc : ∀ v ∈ items.toList, Lub o v) : Lub o x := by
  intro t u a wt wu htu h
  obtain ⟨n, p, nl, ts, R, e1, r1, rfl⟩ := (hx.ok t _).mp h
  obtain ⟨s, ts0, h0, rfl, wts, hd, hcase⟩ := ensure_tuple_facts wt e1
  have KA := tuple_sample_find h0 r1
  have LK : ∀ j, LubL o (optList (SVals.get? items j)) := fun j => lubL (fun v hv => hc v (optList_mem hv))
  have hu1 : ∀ n' p' nl' us, u.ensure_tuple .fixed items.length = .ok (.tuple n' p' nl' us) →
      ∃ s' us0, (s' = 0 → us0 = .nil) ∧ us = tupleEns s' p' items.length us0 ∧ TsWF o us0 ∧ n' = n ∧ p' = p ∧
        (nl = true → nl' = true) ∧ (s ≠ 0 → s' ≠ 0) ∧
        ((u.is_unknown_or_null = true ∧ s' = 0) ∨ (u = .tuple n' p' nl' us0 ∧ s' = 1)) ∧
        ∀ j, KLe o p s (toString j) (ts0.get? j) (us0.get? j) := by
    intro n' p' nl' us e
    obtain ⟨s', us0, h0', rfl, wus, _, hcu⟩ := ensure_tuple_facts wu e
    obtain ⟨e1, e2, hn, hs, hK⟩ := tuple_view_le htu h0 h0' hcase hcu
    exact ⟨s', us0, h0', rfl, wus, e1, e2, hn, hs, hcu.imp (fun h => ⟨h.1, h.2.1⟩) id, hK⟩
  have hself : ∀ j, KLe o p s (toString j) (ts0.get? j) (R.get? j) := fun j =>
    (keyT_lub (s' := s) (LK j) (TsWF_get wts j) (TsWF_get wts j) id (KLe_refl (TsWF_get wts j)) (KA j)).1
  have hs1 : s + 1 = 0 ↔ (1 : Nat) = 0 := by constructor <;> intro h <;> omega
  refine ⟨?_, ?_, ?_⟩
  · rcases hcase with ⟨hu, rfl, rfl, rfl, rfl⟩ | ⟨rfl, rfl⟩
    · have := h0 rfl
      subst this
      refine unknownish_le_mk wt hu rfl ⟨rfl, rfl, id⟩ (.tuple ?_ ?_)
      · intro j b hb
        have := hself j
        rw [hb] at this
        have h2 : TLe o (freshField t.path 0 (toString j)) b := this
        rw [freshField_eq] at h2
        cases h2 with
        | unk hu' _ => exact hu'
      · intro j b hb
        have := hself j
        rw [hb] at this
        have h2 : TLe o (freshField t.path 0 (toString j)) b := this
        rw [freshField_eq] at h2
        cases h2 with
        | unk _ hc' => exact hc'
    · exact TLe_tuple_of_K id hself
  · intro b hb
    obtain ⟨n', p', nl', us, R', g1, g2, rfl⟩ := (hx.ok u _).mp hb
    obtain ⟨s', us0, h0', rfl, wus, rfl, rfl, hn, hs, _, hK⟩ := hu1 _ _ _ _ g1
    have KB := tuple_sample_find h0' g2
    refine TLe_tuple_of_K hn ?_
    intro j
    exact KLe_seen hs1
      ((keyT_lub (s' := s') (LK j) (TsWF_get wts j) (TsWF_get wus j) hs (hK j) (KA j)).2.2.1 _ (KB j)).1
  · intro hau
    obtain ⟨nl'', B, rfl, hn, hK'⟩ := K_of_TLe_tuple hau
    have hdu : depthOk (.tuple n p nl'' B) := (depthOk_path (a := .tuple n p nl R) rfl).mpr (hd _)
    have g1 := ensure_tuple_same items.length hdu
    obtain ⟨s', us0, h0', e2, wus, _, _, _, hs, hcu, hK⟩ := hu1 _ _ _ _ g1
    rcases hcu with ⟨hu', _⟩ | ⟨e3, rfl⟩
    · simp [Tracer.is_unknown_or_null] at hu'
    · cases e3
      have key : ∀ j, ∃ r', keyT o p 1 (B.get? j) (toString j) (optList (SVals.get? items j)) = .ok r' ∧
          KLe o p (1 + 1) (toString j) r' (B.get? j) := fun j =>
        (keyT_lub (s' := 1) (LK j) (TsWF_get wts j) (TsWF_get wus j) hs (hK j) (KA j)).2.2.2 (KLe_seen hs1.symm (hK' j))
      obtain ⟨R', g2⟩ := tuple_sample_mk h0' (fun j => let ⟨r', h1, _⟩ := key j; ⟨r', h1⟩)
      have KB := tuple_sample_find h0' g2
      refine ⟨.tuple n p nl'' R', (hx.ok _ _).mpr ⟨n, p, nl'', _, R', g1, ?_, rfl⟩, ?_⟩
      · simpa [tupleEns] using g2
      · refine TLe_tuple_of_K id ?_
        intro j
        obtain ⟨r', h1, h2⟩ := key j
        have := KB j
        rw [h1] at this
        rw [← Except.ok.inj this]
        exact KLe_seen (by constructor <;> intro h <;> omega) h2

end SaModel.Lemmas.C07
