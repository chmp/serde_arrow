import SaModel.Lemmas.C03New
import SaModel.Lemmas.SchemaAll
/-
`newDT_strict_all` (corollaries `newB_strict`, `newFields_strict`, `newRoot_strict`): whatever `build_builder` accepts is
a strict type (`StrictDT`: dense unions, Map entries not nullable) up to the metadata of Map entries fields (`PlainDT`, the
exclusion of the KNOWN finding C03-map-entries-metadata): the second half of the walk over `build_builder` in
Lemmas/C03New.lean (`newDT_builtFor_strict_all`).
-/
namespace SaModel.Lemmas.C03
open SaModel SaModel.Build SaModel.Spec

theorem newDT_strict_all :
    (∀ (path : String) (dt : DataType) (nl : Bool) (md : Metadata),
      ∀ b, newDT path dt nl md = .ok b → PlainDT dt → StrictDT dt) ∧
    (∀ (path : String) (ufs : UFields) (k : Nat),
      ∀ bl, newUnionFields path ufs k = .ok bl → PlainU ufs → StrictU ufs) ∧
    (∀ (path : String) (f : Field),
      ∀ b, newB path f = .ok b → PlainF f → StrictF f) ∧
    (∀ (path : String) (fs : Fields),
      ∀ bl, newFields path fs = .ok bl → PlainFs fs → StrictFs fs) := by
  have h := newDT_builtFor_strict_all
  exact ⟨fun path dt nl md b hb => (h.1 path dt nl md b hb).2, fun path ufs k bl hb => (h.2.1 path ufs k bl hb).2,
    fun path f b hb => (h.2.2.1 path f b hb).2, fun path fs bl hb => (h.2.2.2 path fs bl hb).2⟩

/-- **what `build_builder` accepts is a strict type** (up to the metadata of Map entries fields) -/
theorem newB_strict (path : String) (f : Field) (b : B) (h : newB path f = .ok b) (hp : PlainF f) : StrictF f :=
  newDT_strict_all.2.2.1 path f b h hp

theorem newFields_strict (path : String) (fs : Fields) (bl : BL) (h : newFields path fs = .ok bl) (hp : PlainFs fs) :
    StrictFs fs :=
  newDT_strict_all.2.2.2 path fs bl h hp

theorem StrictFs_mem : ∀ (l : List Field), StrictFs (Fields.ofList l) → ∀ f ∈ l, StrictDT f.dataType :=
  fun _ h f hf => (StrictF_iff _).1 ((Fields.forall_ofList trivial fun _ _ => Iff.rfl).mp h f hf)

theorem PlainFs_of_mem : ∀ (l : List Field), (∀ f ∈ l, PlainF f) → PlainFs (Fields.ofList l) :=
  fun _ => (Fields.forall_ofList trivial fun _ _ => Iff.rfl).mpr

/-- the root: every field of an accepted schema has a strict type -/
theorem newRoot_strict (fields : List Field) (root : B) (h : newRoot fields = .ok root) (hp : ∀ f ∈ fields, PlainF f) :
    ∀ f ∈ fields, StrictDT f.dataType := by
  simp only [newRoot, bind, Except.bind] at h
  cases hf : newFields "$" (Fields.ofList fields) with
  | error e => rw [hf] at h; cases h
  | ok bl => exact StrictFs_mem fields (newFields_strict "$" _ bl hf (PlainFs_of_mem fields hp))

end SaModel.Lemmas.C03
