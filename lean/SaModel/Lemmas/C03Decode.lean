import SaModel.Build.Inv
import SaModel.Lemmas.Bits
import SaModel.Lemmas.C01List
import SaModel.Lemmas.DataBasic
/-
List-level facts used by the lemmas about `finish` (Lemmas/C03Finish.lean): reading a validity-masked column, offset
pairs, `range` over successfully decoded children, `mapM` over columns, type-id lookup.
Nothing here mentions `finish`; everything is about the oracle's combinators (`withValidity`, `range`, `slot`,
`allOk`, `indexOfTypeId`) against the abstraction function's (`maskNull`, `pairs`, `sliceL`).
-/
namespace SaModel.Lemmas.C03
open SaModel SaModel.Build SaModel.Spec SaModel.Lemmas.Bits

theorem maskNull_length (v : Validity) (n : Nat) (xs : List LVal) (hv : VLen v n) (hx : xs.length = n) :
    (maskNull v xs).length = n := by
  cases v with
  | none => simpa [maskNull] using hx
  | some bits => simp [maskNull, hv bits rfl, hx]

/-- validity bit of a finished bitmap: the abstract bit (rows without bitmap are valid) -/
theorem isValid_finishValidity (v : Validity) (n i : Nat) (hv : VLen v n) (hi : i < n) :
    isValid (finishValidity v) i = .ok (match v with | none => true | some bits => bits.getD i false) := by
  cases v with
  | none => rfl
  | some bits =>
    have hl : bits.length = n := hv bits rfl
    simp only [finishValidity, Option.map_some, isValid]
    rw [getBit_packBits bits i (by omega)]
    simp [List.getD_eq_getElem?_getD, hl, hi]

/-- **a validity-masked column, read slot by slot.**  `p i` is the payload of slot `i`; it only has to be what the
state holds (`xs[i]`) — under a clear validity bit it is not even looked at. -/
theorem map_withValidity (v : Validity) (n : Nat) (hv : VLen v n) (p : Nat → R LVal) (xs : List LVal)
    (hx : xs.length = n) (hp : ∀ i (h : i < n), p i = .ok (xs[i]'(by omega))) :
    (List.range n).map (fun i => withValidity (finishValidity v) i (p i)) = (maskNull v xs).map .ok := by
  apply List.ext_getElem
  · simp [maskNull_length v n xs hv hx]
  · intro i h1 h2
    have hi : i < n := by simpa using h1
    simp only [List.getElem_map, List.getElem_range]
    simp only [withValidity, bind, Except.bind]
    rw [isValid_finishValidity v n i hv hi]
    cases v with
    | none => simp [maskNull, hp i hi]
    | some bits =>
      have hl : bits.length = n := hv bits rfl
      have hb : bits.getD i false = bits[i]'(by omega) := by
        rw [List.getD_eq_getElem?_getD, List.getElem?_eq_getElem (by omega)]; rfl
      simp only [maskNull, List.getElem_zipWith, hb]
      cases bits[i]'(by omega)
      · simp [pure, Except.pure]
      · simp [hp i hi]

theorem pairs_length (offs : List Int) : (pairs offs).length = offs.length - 1 := Build.pairs_length offs

theorem pairs_getElem (offs : List Int) (i : Nat) (h : i < (pairs offs).length) :
    (pairs offs)[i] = (offs[i]'(by rw [pairs_length] at h; omega), offs[i + 1]'(by rw [pairs_length] at h; omega)) := by
  simp [pairs]

/-- consecutive offsets of a well-formed offset list delimit a range inside the child -/
theorem OffsOK_pair (offs : List Int) (n : Nat) (h : OffsOK offs n) (i : Nat) (hi : i + 1 < offs.length) :
    0 ≤ offs[i] ∧ offs[i] ≤ offs[i + 1] ∧ offs[i + 1] ≤ (n : Int) := by
  obtain ⟨hh, hl, hp⟩ := h
  rw [List.pairwise_iff_getElem] at hp
  have h0 : offs[0]'(by omega) = 0 := by
    have : offs[0]? = some 0 := by rw [← List.head?_eq_getElem?]; exact hh
    simpa [List.getElem?_eq_getElem (show 0 < offs.length by omega)] using this
  have hlast : offs[offs.length - 1]'(by omega) = (n : Int) := by
    rw [List.getLast?_eq_getElem?] at hl
    simpa [List.getElem?_eq_getElem (show offs.length - 1 < offs.length by omega)] using hl
  refine ⟨?_, hp i (i + 1) (by omega) (by omega) (by omega), ?_⟩
  · by_cases hz : i = 0
    · subst hz; omega
    · have := hp 0 i (by omega) (by omega) (by omega); omega
  · by_cases hz : i + 1 = offs.length - 1
    · simp only [hz]; omega
    · have := hp (i + 1) (offs.length - 1) (by omega) (by omega) (by omega); omega

theorem getD_eq_getElem {α} (l : List α) (i : Nat) (d : α) (h : i < l.length) : l.getD i d = l[i] :=
  List.getD_of_lt l i d h

theorem allOk_map_ok (xs : List LVal) : allOk (xs.map .ok) = .ok xs := by
  induction xs with
  | nil => rfl
  | cons x r ih => simp [allOk, ih, bind, Except.bind, pure, Except.pure]

theorem range_map_ok (xs : List LVal) (s e : Int) (h0 : 0 ≤ s) (h1 : s ≤ e) (h2 : e ≤ (xs.length : Int)) :
    range (xs.map .ok) s e = .ok (sliceL xs s e) := by
  unfold range
  simp only [List.length_map, h0, h1, h2, and_self, if_true]
  rw [← List.map_drop, ← List.map_take, allOk_map_ok]
  rfl

theorem slot_map_ok (xs : List LVal) (i : Nat) (h : i < xs.length) : slot (xs.map .ok) i = .ok xs[i] := by
  simp [slot, h]

theorem mapM_ok {α β} (l : List α) (f : α → R β) (g : α → β) (h : ∀ x ∈ l, f x = .ok (g x)) :
    l.mapM f = .ok (l.map g) := R.mapM_ok_of_forall h

theorem indexOfTypeId_go_range (m k acc : Nat) (p : Nat) (hp : p < m) :
    indexOfTypeId.go ((k + p : Nat) : Int) ((List.range m).map fun i => ((k + i : Nat) : Int)) acc = some (acc + p) := by
  induction m generalizing k acc p with
  | zero => omega
  | succ m ih =>
    rw [List.range_succ_eq_map]
    simp only [List.map_cons, List.map_map, indexOfTypeId.go, Nat.add_zero]
    cases p with
    | zero => simp
    | succ p =>
      have hne : ¬ ((k : Int) = ((k + (p + 1) : Nat) : Int)) := by omega
      have : (((k : Nat) : Int) == ((k + (p + 1) : Nat) : Int)) = false := by simpa using hne
      simp only [this, Bool.false_eq_true, if_false]
      have hf : ((fun i => ((k + i : Nat) : Int)) ∘ Nat.succ) = fun i => ((k + 1 + i : Nat) : Int) := by
        funext i; simp only [Function.comp]; congr 1; omega
      rw [hf]
      have := ih (k + 1) (acc + 1) p (by omega)
      have e1 : k + 1 + p = k + (p + 1) := by omega
      have e2 : acc + 1 + p = acc + (p + 1) := by omega
      rw [e1, e2] at this
      exact this

/-- consecutive type ids `0 … m-1`: id `t` sits at position `t` -/
theorem indexOfTypeId_range (m : Nat) (t : Int) (h0 : 0 ≤ t) (h1 : t.toNat < m) :
    indexOfTypeId ((List.range m).map fun i => ((i : Nat) : Int)) t = some t.toNat := by
  have := indexOfTypeId_go_range m 0 0 t.toNat h1
  simp only [Nat.zero_add] at this
  have ht : ((t.toNat : Nat) : Int) = t := by omega
  rw [ht] at this
  exact this

end SaModel.Lemmas.C03
