import SaModel.Lemmas.C12Read
import SaModel.Lemmas.C12Decode
import SaModel.Read.Access
/-
C12 helpers: record batches.  `RecordBatch::slice(o, l)` slices every column with the same window
(`sliceFields`); `Deserializer::new(fields, views)` (SaModel/Read/Access.lean `new`) checks the columns' lengths
(`ViewExt::len` = `vlen`) and builds the root struct reader `batch len cols` (no validity) over them.
-/
namespace SaModel.Lemmas.C12
open SaModel SaModel.Read SaModel.Spec

/-- the columns' lengths as `Deserializer::new` sees them (`ViewExt::len`) -/
def colLens : ArrFields → List Nat
  | .nil => []
  | .cons _ a r => vlen a :: colLens r

/-- the root reader `Deserializer::new` builds over the columns once its checks returned `len`
(`StructDeserializer::new(path, fields, None, len)`; `Reader.record` is the one-column instance) -/
def batch (len : Nat) (cols : ArrFields) : Arr := .struct len none cols

def sliceableCols : ArrFields → Bool
  | .nil => true
  | .cons _ a r => sliceable a && sliceableCols r

/-- on a view the reader accepts, `ViewExt::len` is the Arrow length -/
theorem vlen_eq_lenOf (fx : Fixes) (a : Arr) (h : new fx a = .ok ()) : vlen a = lenOf a :=
  Read.vlen_eq_lenOf fx a h

theorem colLens_length : ∀ (cols : ArrFields), (colLens cols).length = cols.length
  | .nil => rfl
  | .cons _ _ r => by simp only [colLens, ArrFields.length, List.length_cons, colLens_length r]

theorem sliceFields_length : ∀ (cols : ArrFields) (o l : Nat), (sliceFields cols o l).length = cols.length
  | .nil, _, _ => rfl
  | .cons _ _ r, o, l => by simp only [sliceFields, ArrFields.length, sliceFields_length r o l]

theorem sliceableFields_of_cols (fx : Fixes) : ∀ (cols : ArrFields) (len : Nat), (∀ x ∈ colLens cols, x = len) →
    newFields fx cols = .ok () → sliceableCols cols = true → sliceableFields cols len = true
  | .nil, _, _, _, _ => by simp only [sliceableFields]
  | .cons fm a r, len, hl, hn, hs => by
    simp only [sliceableCols, Bool.and_eq_true] at hs
    simp only [newFields] at hn
    obtain ⟨u1, _, hn⟩ := bind_ok_inv hn
    obtain ⟨u2, h2, hn⟩ := bind_ok_inv hn
    cases u2
    have h0 : vlen a = len := hl (vlen a) (by simp [colLens])
    have hle : len ≤ lenOf a := by rw [← vlen_eq_lenOf fx a h2, h0]; exact Nat.le_refl _
    simp only [sliceableFields, Bool.and_eq_true, decide_eq_true_eq]
    exact ⟨⟨hle, hs.1⟩, sliceableFields_of_cols fx r len (fun x hx => hl x (by simp [colLens, hx])) hn hs.2⟩

theorem colLens_slice (fx : Fixes) : ∀ (cols : ArrFields) (len o l : Nat), o + l ≤ len → sliceableFields cols len = true →
    newFields fx cols = .ok () → ∀ x ∈ colLens (sliceFields cols o l), x = l
  | .nil, _, _, _, _, _, _ => by simp [sliceFields, colLens]
  | .cons fm a r, len, o, l, hb, hs, hn => by
    simp only [sliceableFields, Bool.and_eq_true, decide_eq_true_eq] at hs
    simp only [newFields] at hn
    obtain ⟨u1, _, hn⟩ := bind_ok_inv hn
    obtain ⟨u2, h2, hn⟩ := bind_ok_inv hn
    cases u2
    have hw : o + l ≤ lenOf a := by omega
    have h0 : vlen (sliceView a o l) = l := by
      rw [vlen_eq_lenOf fx _ (new_slice fx a o l hw hs.1.2 h2), lenOf_slice a o l hw]
    intro x hx
    simp only [sliceFields, colLens, List.mem_cons] at hx
    rcases hx with hx | hx
    · rw [hx, h0]
    · exact colLens_slice fx r len o l hb hs.2 hn x hx

end SaModel.Lemmas.C12
