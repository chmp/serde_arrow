import SaModel.Lemmas.C07TInd
/-
C07, least-upper-bound argument — definitions: the information order `TLe o t u` on tracers (leaf: the coercion order
`sle`; nullable `false ⊑ true`; `Unknown` / `Primitive(Null)` below every node of the same name and path whose children
carry the canonical names and paths; struct: fields by name, missing fields below present ones, mode `struct ⊑ map`,
`seen_samples` zero below non-zero; tuple and union by position; list / map pointwise), and two leaf facts it rests on
(the others are in Props/C07.lean).
-/
namespace SaModel.Lemmas.C07
open SaModel SaModel.Trace SaModel.Props.C07

theorem step_mono (o : Options) {s s' u u' : LeafSt} {a : DataType} (hs : s ∈ leafStates o) (hu : u ∈ leafStates o)
    (ha : a ∈ leafTypes o) (hle : sle o s u = true) (h1 : act o s a = .ok s') (h2 : act o u a = .ok u') :
    sle o s' u' = true := by
  have hu' := (step_facts o hu ha h2).1
  have h3 := sle_trans o hs hu hu' hle (step_sle o hu ha h2)
  exact least_step o hs hu' ha h3 (coerce_idem o hu ha h2) h1

theorem step_up (o : Options) {s s' u : LeafSt} {a : DataType} (hs : s ∈ leafStates o) (hu : u ∈ leafStates o)
    (ha : a ∈ leafTypes o) (h1 : act o s a = .ok s') (hle : sle o s' u = true) : act o u a = .ok u :=
  upRow_holds o (step_facts o hs ha h1).1 hu ha (coerce_idem o hs ha h1) hle

/-- `b` sits where a fresh `Unknown { name, path, nullable }` would sit -/
def ULe (n p : String) (nl : Bool) (b : Tracer) : Prop :=
  b.name = n ∧ b.path = p ∧ (nl = true → b.nullable = true)

def vget (vs : Variants) (j : Nat) : Option (String × Tracer) :=
  match vs.get? j with
  | some (some nt) => some nt
  | _ => none

/-- the children of every container node carry the names and paths `Tracer::new` gives them -/
inductive Canon : Tracer → Prop
  | unknown {n p nl} : Canon (.unknown n p nl)
  | primitive {n p nl ty st} : Canon (.primitive n p nl ty st)
  | list {n p nl i} : ULe "element" (p ++ ".element") false i → Canon i → Canon (.list n p nl i)
  | map {n p nl k v} : ULe "key" (p ++ ".key") false k → Canon k → ULe "value" (p ++ ".value") false v → Canon v →
      Canon (.map n p nl k v)
  | struct {n p nl fs m s} : (∀ k l b, fs.find k = some (l, b) → ULe k (p ++ "." ++ k) false b) →
      (∀ k l b, fs.find k = some (l, b) → Canon b) → Canon (.struct n p nl fs m s)
  | tuple {n p nl ts} : (∀ j b, ts.get? j = some b → ULe (toString j) (p ++ "." ++ toString j) false b) →
      (∀ j b, ts.get? j = some b → Canon b) → Canon (.tuple n p nl ts)
  | union {n p nl vs} : (∀ j a b, vget vs j = some (a, b) → ULe a (p ++ "." ++ a) false b) →
      (∀ j a b, vget vs j = some (a, b) → Canon b) → Canon (.union n p nl vs)

inductive TLe (o : Options) : Tracer → Tracer → Prop
  | unk {n p nl b} : ULe n p nl b → Canon b → TLe o (.unknown n p nl) b
  | prim {n p nl nl' ty ty' st} : sle o (some ty, nl) (some ty', nl') = true →
      TLe o (.primitive n p nl ty st) (.primitive n p nl' ty' st)
  | null {n p nl st b} : Tracer.isLeaf b = false → ULe n p true b → Canon b → TLe o (.primitive n p nl .null st) b
  | list {n p nl nl' i i'} : (nl = true → nl' = true) → TLe o i i' → TLe o (.list n p nl i) (.list n p nl' i')
  | map {n p nl nl' k k' v v'} : (nl = true → nl' = true) → TLe o k k' → TLe o v v' →
      TLe o (.map n p nl k v) (.map n p nl' k' v')
  | struct {n p nl nl' A B m m' s s'} : (nl = true → nl' = true) → (m = .map → m' = .map) → (s ≠ 0 → s' ≠ 0) →
      (∀ k, (A.find k).isSome = true → (B.find k).isSome = true) →
      (∀ k l a l' b, A.find k = some (l, a) → B.find k = some (l', b) → TLe o a b) →
      (∀ k l b, A.find k = none → B.find k = some (l, b) → ULe k (p ++ "." ++ k) (s != 0) b ∧ Canon b) →
      TLe o (.struct n p nl A m s) (.struct n p nl' B m' s')
  | tuple {n p nl nl' A B} : (nl = true → nl' = true) →
      (∀ j, (A.get? j).isSome = true → (B.get? j).isSome = true) →
      (∀ j a b, A.get? j = some a → B.get? j = some b → TLe o a b) →
      (∀ j b, A.get? j = none → B.get? j = some b → ULe (toString j) (p ++ "." ++ toString j) true b ∧ Canon b) →
      TLe o (.tuple n p nl A) (.tuple n p nl' B)
  | union {n p nl nl' A B} : (nl = true → nl' = true) → A.length ≤ B.length →
      (∀ j a x, vget A j = some (a, x) → ∃ y, vget B j = some (a, y)) →
      (∀ j a x b y, vget A j = some (a, x) → vget B j = some (b, y) → TLe o x y) →
      (∀ j b y, vget A j = none → vget B j = some (b, y) → ULe b (p ++ "." ++ b) false y ∧ Canon y) →
      TLe o (.union n p nl A) (.union n p nl' B)

theorem ULe.mono {n p : String} {nl nl' : Bool} {b : Tracer} (h : ULe n p nl b) (hn : nl' = true → nl = true) :
    ULe n p nl' b := ⟨h.1, h.2.1, fun e => h.2.2 (hn e)⟩

theorem ULe.weak {n p : String} {nl : Bool} {b : Tracer} (h : ULe n p nl b) : ULe n p false b :=
  h.mono (fun e => by cases e)

theorem TLe_top {o : Options} {a b : Tracer} (h : TLe o a b) : ULe a.name a.path a.nullable b := by
  cases h with
  | unk h _ => exact h
  | prim h => exact ⟨rfl, rfl, fun e => sle_flag h e⟩
  | null _ h _ => exact ⟨h.1, h.2.1, fun _ => h.2.2 rfl⟩
  | list h _ => exact ⟨rfl, rfl, h⟩
  | map h _ _ => exact ⟨rfl, rfl, h⟩
  | struct h _ _ _ _ _ => exact ⟨rfl, rfl, h⟩
  | tuple h _ _ _ => exact ⟨rfl, rfl, h⟩
  | union h _ _ _ _ => exact ⟨rfl, rfl, h⟩

theorem ULe_of_le {o : Options} {n p : String} {nl : Bool} {a b : Tracer} (h : ULe n p nl a) (hab : TLe o a b) :
    ULe n p nl b := by
  have := TLe_top hab
  exact ⟨this.1.trans h.1, this.2.1.trans h.2.1, fun e => this.2.2 (h.2.2 e)⟩

theorem TLe_isLeaf {o : Options} {a b : Tracer} (h : TLe o a b) (ha : Tracer.isLeaf a = false) :
    Tracer.shape b = Tracer.shape a := by
  cases h <;> first | rfl | (simp [Tracer.isLeaf] at ha)

theorem TLe_leaf_r {o : Options} {a b : Tracer} (h : TLe o a b) (hb : Tracer.isLeaf b = true) :
    Tracer.isLeaf a = true := by
  cases h <;> first | rfl | (simp [Tracer.isLeaf] at hb)

theorem vget_wf {o : Options} {vs : Variants} (hw : VWF o vs) {j : Nat} {a : String} {x : Tracer}
    (h : vget vs j = some (a, x)) : WF o x := by
  unfold vget at h
  cases hg : vs.get? j with
  | none => rw [hg] at h; cases h
  | some y =>
    rw [hg] at h
    cases y with
    | none => cases h
    | some nt => simp only [Option.some.injEq] at h; subst h; exact VWF_get hw j a x hg

theorem get_wf {o : Options} {ts : Tracers} (hw : TsWF o ts) {j : Nat} {a : Tracer} (h : ts.get? j = some a) : WF o a :=
  TsWF_get hw j a h

theorem TLe_refl_leaf {o : Options} {t : Tracer} (hw : WF o t) (hl : Tracer.isLeaf t = true) : TLe o t t := by
  cases t <;> simp [Tracer.isLeaf] at hl
  case unknown n p nl => exact .unk ⟨rfl, rfl, id⟩ .unknown
  case primitive n p nl ty st =>
    rw [WF] at hw
    exact .prim (sle_refl o hw.2)

/-- the three pointwise conditions of the order on variant lists -/
def VK (o : Options) (p : String) (A B : Variants) : Prop :=
  (∀ j a x, vget A j = some (a, x) → ∃ y, vget B j = some (a, y)) ∧
  (∀ j a x b y, vget A j = some (a, x) → vget B j = some (b, y) → TLe o x y) ∧
  (∀ j b y, vget A j = none → vget B j = some (b, y) → ULe b (p ++ "." ++ b) false y ∧ Canon y)

theorem vget_nil (j : Nat) : vget .nil j = none := by simp [vget, Variants.get?]

mutual
theorem TLe_of_TEq (o : Options) : ∀ a b, TEq a b → WF o a → WF o b → TLe o a b
  | .unknown n p nl, b, h, _, _ => by rw [TEq] at h; subst h; exact .unk ⟨rfl, rfl, id⟩ .unknown
  | .primitive n p nl ty st, b, h, wa, _ => by rw [TEq] at h; subst h; exact TLe_refl_leaf wa rfl
  | .list _ _ _ i, b, h, wa, wb => by
    rw [TEq] at h; obtain ⟨i', rfl, h⟩ := h
    rw [WF] at wa wb; exact .list id (TLe_of_TEq o i i' h wa wb)
  | .map _ _ _ k v, b, h, wa, wb => by
    rw [TEq] at h; obtain ⟨k', v', rfl, h1, h2⟩ := h
    rw [WF] at wa wb; exact .map id (TLe_of_TEq o k k' h1 wa.1 wb.1) (TLe_of_TEq o v v' h2 wa.2 wb.2)
  | .struct _ _ _ fs _ s, b, h, wa, wb => by
    rw [TEq] at h; obtain ⟨fs', s', rfl, hs, hk, hsub⟩ := h
    rw [WF] at wa wb
    refine .struct id id (fun h0 e => h0 (hs.mpr e)) (fun k h => by rw [← hk k]; exact h)
      (fun k l a l' b h1 h2 => FLe_of_FSub o s s' fs fs' hsub wa wb k l a h1 l' b h2) ?_
    intro k l b h1 h2
    have := hk k; rw [h1, h2] at this; cases this
  | .tuple _ _ _ ts, b, h, wa, wb => by
    rw [TEq] at h; obtain ⟨ts', rfl, h⟩ := h
    rw [WF] at wa wb
    have hg := TsEq_get h
    refine .tuple id ?_ (TsLe_of_TsEq o ts ts' h wa wb) ?_
    · intro j hj
      have := hg j
      cases ha : ts.get? j <;> cases hb : ts'.get? j <;> simp [ha, hb, ORel] at this hj ⊢
    · intro j b h1 h2
      have := hg j; rw [h1, h2] at this; exact this.elim
  | .union _ _ _ vs, b, h, wa, wb => by
    rw [TEq] at h; obtain ⟨vs', rfl, h⟩ := h
    rw [WF] at wa wb
    obtain ⟨h1, h2, h3⟩ := VK_of_VEq o vs vs' h wa wb
    exact .union id (Nat.le_of_eq (VEq_length h).symm) h1 h2 h3
termination_by structural a => a
theorem FLe_of_FSub (o : Options) (s s' : Nat) : ∀ (fs big : TFields), FSub fs big → FWF o s fs → FWF o s' big →
    ∀ k l a, fs.find k = some (l, a) → ∀ l' b, big.find k = some (l', b) → TLe o a b
  | .nil, _, _, _, _, k, l, a, h => by simp [TFields.find] at h
  | .cons n l0 t r, big, hsub, hw, hw', k, l, a, h => by
    rw [FSub] at hsub; rw [FWF] at hw
    intro l' b hb
    simp only [TFields.find] at h
    by_cases hn : n = k
    · simp only [hn, if_true, Option.some.injEq, Prod.mk.injEq] at h
      obtain ⟨⟨l'', t', hf, he⟩, _⟩ := hsub
      rw [hn, hb] at hf; cases hf
      rw [← h.2]
      exact TLe_of_TEq o t b he hw.2.2.2.1 (find_wf hw' hb).2
    · simp only [hn, if_false] at h
      exact FLe_of_FSub o s s' r big hsub.2 hw.2.2.2.2 hw' k l a h l' b hb
termination_by structural fs => fs
theorem TsLe_of_TsEq (o : Options) : ∀ (ts ts' : Tracers), TsEq ts ts' → TsWF o ts → TsWF o ts' →
    ∀ j a b, ts.get? j = some a → ts'.get? j = some b → TLe o a b
  | .nil, _, _, _, _, j, a, b, h => by simp [Tracers.get?] at h
  | .cons t r, ts', h, hw, hw', j, a, b, ha => by
    rw [TsEq] at h; obtain ⟨t', r', rfl, h1, h2⟩ := h
    rw [TsWF] at hw hw'
    intro hb
    cases j with
    | zero =>
      simp only [Tracers.get?, Option.some.injEq] at ha hb
      rw [← ha, ← hb]; exact TLe_of_TEq o t t' h1 hw.1 hw'.1
    | succ j => simp only [Tracers.get?] at ha hb; exact TsLe_of_TsEq o r r' h2 hw.2 hw'.2 j a b ha hb
termination_by structural ts => ts
theorem VK_of_VEq (o : Options) : ∀ (vs vs' : Variants), VEq vs vs' → VWF o vs → VWF o vs' → ∀ {p : String}, VK o p vs vs'
  | .nil, _, h, _, _, p => by
    rw [VEq] at h; subst h
    exact ⟨fun j a x h => (by rw [vget_nil] at h; cases h), fun j a x b y h => (by rw [vget_nil] at h; cases h),
      fun j b y _ h => (by rw [vget_nil] at h; cases h)⟩
  | .absent r, vs', h, hw, hw', p => by
    rw [VEq] at h; obtain ⟨r', rfl, h⟩ := h
    rw [VWF] at hw hw'
    obtain ⟨h1, h2, h3⟩ := VK_of_VEq o r r' h hw hw' (p := p)
    refine ⟨fun j a x hv => ?_, fun j a x b y hv hv' => ?_, fun j b y hv hv' => ?_⟩ <;> cases j
    · simp [vget, Variants.get?] at hv
    · exact h1 _ a x hv
    · simp [vget, Variants.get?] at hv
    · exact h2 _ a x b y hv hv'
    · simp [vget, Variants.get?] at hv'
    · exact h3 _ b y hv hv'
  | .present n t r, vs', h, hw, hw', p => by
    rw [VEq] at h; obtain ⟨t', r', rfl, he, h⟩ := h
    rw [VWF] at hw hw'
    obtain ⟨h1, h2, h3⟩ := VK_of_VEq o r r' h hw.2 hw'.2 (p := p)
    refine ⟨fun j a x hv => ?_, fun j a x b y hv hv' => ?_, fun j b y hv hv' => ?_⟩ <;> cases j
    · simp only [vget, Variants.get?, Option.some.injEq, Prod.mk.injEq] at hv ⊢
      exact ⟨t', hv.1, rfl⟩
    · exact h1 _ a x hv
    · simp only [vget, Variants.get?, Option.some.injEq, Prod.mk.injEq] at hv hv'
      rw [← hv.2, ← hv'.2]; exact TLe_of_TEq o t t' he hw.1 hw'.1
    · exact h2 _ a x b y hv hv'
    · simp [vget, Variants.get?] at hv
    · exact h3 _ b y hv hv'
termination_by structural vs => vs
end

theorem TLe_refl (o : Options) : ∀ t, WF o t → TLe o t t := fun t hw => TLe_of_TEq o t t (TEq_refl o t hw) hw hw

theorem FLe_refl (o : Options) (s : Nat) : ∀ fs, FWF o s fs → ∀ k l a, fs.find k = some (l, a) → TLe o a a :=
  fun _ hw _ _ a h => TLe_refl o a (find_wf hw h).2

theorem TsLe_refl (o : Options) : ∀ ts, TsWF o ts → ∀ j a, ts.get? j = some a → TLe o a a :=
  fun _ hw _ a h => TLe_refl o a (get_wf hw h)

theorem VLe_refl (o : Options) : ∀ vs, VWF o vs → ∀ j a x, vget vs j = some (a, x) → TLe o x x :=
  fun _ hw _ _ x h => TLe_refl o x (vget_wf hw h)

end SaModel.Lemmas.C07
