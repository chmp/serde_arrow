import SaModel.Lemmas.C07LKey
/-
C07, least-upper-bound argument — the struct family (`record`, maps and raw key/value streams traced as structs,
the payload of struct variants): a struct node is a finite map, the law holds key by key (`keyT_lub`).
-/
namespace SaModel.Lemmas.C07
open SaModel SaModel.Trace SaModel.Props.C07

theorem TLe_struct_of_K {o : Options} {n p : String} {nl nl' : Bool} {A B : TFields} {m m' : StructMode} {s s' : Nat}
    (hn : nl = true → nl' = true) (hm : m = .map → m' = .map) (hs : s ≠ 0 → s' ≠ 0)
    (hK : ∀ k, KLe o p s k (tr (A.find k)) (tr (B.find k))) :
    TLe o (.struct n p nl A m s) (.struct n p nl' B m' s') := by
  refine .struct hn hm hs ?_ ?_ ?_
  · intro k h
    cases hb : B.find k with
    | some _ => rfl
    | none =>
      have := hK k
      rw [hb] at this
      have e : tr (A.find k) = none := this
      cases ha : A.find k with
      | none => rw [ha] at h; cases h
      | some _ => rw [ha] at e; cases e
  · intro k l a l' b ha hb
    have := hK k
    rw [ha, hb] at this
    exact this
  · intro k l b ha hb
    have := hK k
    rw [ha, hb] at this
    have h2 : TLe o (freshField p s k) b := this
    rw [freshField_eq] at h2
    cases h2 with
    | unk hu hc => exact ⟨hu, hc⟩

theorem K_of_TLe_struct {o : Options} {n p : String} {nl : Bool} {A : TFields} {m : StructMode} {s : Nat} {u : Tracer}
    (h : TLe o (.struct n p nl A m s) u) : ∃ nl' B m' s', u = .struct n p nl' B m' s' ∧ (nl = true → nl' = true) ∧
      (m = .map → m' = .map) ∧ (s ≠ 0 → s' ≠ 0) ∧ ∀ k, KLe o p s k (tr (A.find k)) (tr (B.find k)) := by
  cases h with
  | @struct _ _ _ nl' _ B _ m' _ s' hn hm hs hk hf hx =>
    refine ⟨_, _, _, _, rfl, hn, hm, hs, ?_⟩
    intro k
    cases hb : B.find k with
    | none =>
      show tr (A.find k) = none
      cases ha : A.find k with
      | none => rfl
      | some _ => have := hk k (by rw [ha]; rfl); rw [hb] at this; cases this
    | some lb =>
      obtain ⟨l', b⟩ := lb
      cases ha : A.find k with
      | none =>
        show TLe o (freshField p s k) b
        rw [freshField_eq]
        obtain ⟨hu, hc⟩ := hx k l' b ha hb
        exact .unk hu hc
      | some la => obtain ⟨l, a⟩ := la; exact hf k l a l' b ha hb

theorem KLe_refl {o : Options} {p : String} {s : Nat} {k : String} {cur : Option Tracer} (hw : OWF o cur) :
    KLe o p s k cur cur := by
  cases cur with
  | none => rfl
  | some a => exact TLe_refl o a (hw a rfl)

theorem joinMode_of_le {m mode : StructMode} (h : mode = .map → m = .map) : joinMode m mode = m := by
  cases m <;> cases mode <;> first | rfl | (simp at h)

theorem joinMode_mono {m m' mode : StructMode} (h : m = .map → m' = .map) :
    joinMode m mode = .map → joinMode m' mode = .map := by
  cases mode
  · exact h
  · exact fun _ => rfl

theorem ensure_struct_le {o : Options} {t u : Tracer} {mode : StructMode} {n p : String} {nl : Bool} {B : TFields}
    {m' : StructMode} {s' : Nat} (htu : TLe o t u)
    (g : u.ensure_struct .fixed [] mode = .ok (.struct n p nl B m' s')) :
    ∃ nl0 A m s, t.ensure_struct .fixed [] mode = .ok (.struct n p nl0 A m s) ∧ (nl0 = true → nl = true) ∧
      (m = .map → m' = .map) ∧ (s ≠ 0 → s' ≠ 0) ∧ ∀ k, KLe o p s k (tr (A.find k)) (tr (B.find k)) := by
  obtain ⟨hdu, hcu⟩ := ensure_struct_inv g
  have hdt := (depthOk_le htu).mp hdu
  by_cases hu : t.is_unknown_or_null = true
  · obtain ⟨ule, hcan⟩ := unknownish_le hu htu
    rcases hcu with ⟨_, e⟩ | ⟨_, _, _, _, m1, _, rfl, e⟩ <;> cases e
    · rw [ule.1, ule.2.1]
      exact ⟨_, _, _, _, ensure_struct_fresh mode hdt hu, ule.2.2, id, id, fun k => rfl⟩
    · obtain ⟨rfl, rfl, hn⟩ := ule
      refine ⟨_, _, _, _, ensure_struct_fresh mode hdt hu, hn, (fun e => by subst e; cases m1 <;> rfl),
        (fun h => absurd rfl h), fun k => ?_⟩
      cases hb : B.find k with
      | none => rfl
      | some lb =>
        show TLe o (freshField _ 0 k) lb.2
        rw [freshField_eq]
        cases hcan with
        | struct hu' hc' => exact .unk (hu' k lb.1 lb.2 hb) (hc' k lb.1 lb.2 hb)
  · rcases hcu with ⟨hu', _⟩ | ⟨_, _, _, _, _, _, rfl, e⟩
    · exact absurd (unknownish_down htu hu') hu
    · cases e
      cases htu with
      | unk _ _ => exact absurd rfl hu
      | null _ _ _ => exact absurd rfl hu
      | struct hn hm hs hk hf hx =>
        obtain ⟨_, _, _, _, e, _, _, _, hK⟩ := K_of_TLe_struct (n := n) (.struct hn hm hs hk hf hx)
        cases e
        exact ⟨_, _, _, _, ensure_struct_same mode hdt, hn, joinMode_mono hm, hs, hK⟩

theorem lub_struct {o : Options} {x : SVal} {mode : StructMode} {ps : List (String × SVal)}
    (hx : StructFam o x mode ps) (hc : ∀ kv ∈ ps, Lub o kv.2) : Lub o x := by
  intro t u a wt wu htu h
  obtain ⟨n, p, nl, A, m, s, A1, e1, r1, rfl⟩ := (hx.ok t _).mp h
  obtain ⟨wA, hd, hcase⟩ := ensure_struct_facts wt e1
  have KA := sample_find (fun k l t hf => (find_wf wA hf).1) r1
  have LK : ∀ k, LubL o (keyVals k ps) := fun k => lubL (fun v hv => hc (k, v) (keyVals_mem hv))
  have hmode : mode = .map → m = .map := by
    rcases hcase with ⟨_, _, _, rfl, _⟩ | ⟨m0, _, rfl⟩
    · exact id
    · intro e; subst e; cases m0 <;> rfl
  have hu1 : ∀ n' p' nl' B m' s', u.ensure_struct .fixed [] mode = .ok (.struct n' p' nl' B m' s') →
      n' = n ∧ p' = p ∧ (nl = true → nl' = true) ∧ (m = .map → m' = .map) ∧ (s ≠ 0 → s' ≠ 0) ∧ FWF o s' B ∧
        ∀ k, KLe o p s k (tr (A.find k)) (tr (B.find k)) := by
    intro n' p' nl' B m' s' e
    obtain ⟨_, _, _, _, e', hn, hm, hs, hK⟩ := ensure_struct_le htu e
    rw [e1] at e'; cases e'
    exact ⟨rfl, rfl, hn, hm, hs, (ensure_struct_facts wu e).1, hK⟩
  have hself : ∀ k, KLe o p s k (tr (A.find k)) (tr ((A1.end_ s).find k)) := fun k =>
    (keyT_lub (s' := s) (LK k) (OWF_find wA k) (OWF_find wA k) id (KLe_refl (OWF_find wA k)) (KA k)).1
  refine ⟨?_, ?_, ?_⟩
  · obtain ⟨_, hct⟩ := ensure_struct_inv e1
    rcases hct with ⟨hu, e2⟩ | ⟨n0, p0, nl0, A0, m0, s0, rfl, e2⟩
    · cases e2
      refine unknownish_le_mk wt hu rfl ⟨rfl, rfl, id⟩ (.struct ?_ ?_)
      · intro k l b hb
        have := hself k
        rw [hb] at this
        have h2 : TLe o (freshField t.path 0 k) b := this
        rw [freshField_eq] at h2
        cases h2 with
        | unk hu' _ => exact hu'
      · intro k l b hb
        have := hself k
        rw [hb] at this
        have h2 : TLe o (freshField t.path 0 k) b := this
        rw [freshField_eq] at h2
        cases h2 with
        | unk _ hc' => exact hc'
    · cases e2
      refine TLe_struct_of_K id ?_ (by omega) hself
      intro e; subst e; cases mode <;> rfl
  · intro b hb
    obtain ⟨n', p', nl', B, m', s', B1, g1, g2, rfl⟩ := (hx.ok u _).mp hb
    obtain ⟨rfl, rfl, hn, hm, hs, wB, hK⟩ := hu1 _ _ _ _ _ _ g1
    have KB := sample_find (fun k l t hf => (find_wf wB hf).1) g2
    refine TLe_struct_of_K hn hm (by omega) ?_
    intro k
    exact ((keyT_lub (s' := s') (LK k) (OWF_find wA k) (OWF_find wB k) hs (hK k) (KA k)).2.2.1 _ (KB k)).1
  · intro hau
    obtain ⟨nl'', B, m'', s'', rfl, hn, hm, hs, hK'⟩ := K_of_TLe_struct hau
    have hdu : depthOk (.struct n p nl'' B m'' s'') := (depthOk_path (a := .struct n p nl A m s) rfl).mpr (hd _ _ _)
    have g1 := ensure_struct_same mode hdu
    have hjm : joinMode m'' mode = m'' := joinMode_of_le (fun e => hm (hmode e))
    rw [hjm] at g1
    obtain ⟨_, _, _, _, hs2, wB, hK⟩ := hu1 _ _ _ _ _ _ g1
    have key : ∀ k, ∃ r', keyT o p s'' (tr (B.find k)) k (keyVals k ps) = .ok r' ∧
        KLe o p (s'' + 1) k r' (tr (B.find k)) := fun k =>
      (keyT_lub (s' := s'') (LK k) (OWF_find wA k) (OWF_find wB k) hs2 (hK k) (KA k)).2.2.2 (hK' k)
    obtain ⟨B1, g2⟩ := sample_mk (fun k => let ⟨r', h1, _⟩ := key k; ⟨r', h1⟩)
    have KB := sample_find (fun k l t hf => (find_wf wB hf).1) g2
    refine ⟨_, (hx.ok _ _).mpr ⟨_, _, _, _, _, _, B1, g1, g2, rfl⟩, ?_⟩
    refine TLe_struct_of_K id id (fun _ => hs (by omega)) ?_
    intro k
    obtain ⟨r', h1, h2⟩ := key k
    have := KB k
    rw [h1] at this
    rw [← Except.ok.inj this]
    exact h2

end SaModel.Lemmas.C07
