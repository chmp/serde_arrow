import SaModel.Build.Dec
import SaModel.Spec.Interp
/-
THE BRIDGE between the leaf semantics of the specification (`Spec/Leaf.lean`: `specLeaf`, `dictValue`, `textOf`,
`bytesOf`, `keyOf` — written from the documentation, no import of `Build/*`) and the builder model's scalar conversions
(`convLeaf`, `scalarToString`, `u8All`, `keyStr`, `tryInto`, Build/Builder.lean) — proved ONCE, for every call kind and
every data type:

  convLeaf_eq_specLeaf   kindOf dt = some k → specLeaf ext dt x = ((convLeaf ext k x).toOption).map (leafVal k)
  textOf_eq              textOf ext x = scalarToString ext x
  fits_eq                fits t v = (tryInto t v).toOption
  bytesOf_eq / keyOf_eq  bytesOf xs = (u8All xs).toOption,  keyOf k = (keyStr k).toOption
  interpScalar_eq_old    Spec.interpScalar ext dt x = normErr (interpScalarOld ext dt x)
  interpDictStr_eq_old   Spec.interpDictStr ext dt s = normErr (interpDictStrOld ext dt s)
  specBytes_eq / specKey_eq

`interpScalarOld` / `interpDictStrOld` define the same functions THROUGH THE MODEL (`convLeaf`, `scalarToString`,
`tryInto`).  The proofs of the refinement theorems unfold that text: they rewrite `Spec.interpScalar` /
`Spec.interpDictStr` with the bridge first.  `normErr` forgets which
error: the specification has ONE undefined outcome (`Spec.undefinedLeaf`), the model's conversions return messages;
no theorem observes the message of a specification error.
-/
namespace SaModel.Build
open SaModel SaModel.Spec

/-- forget which error (the specification's leaves have one undefined outcome) -/
def normErr {α} : R α → R α
  | .ok a => .ok a
  | .error _ => undefinedLeaf

@[simp] theorem normErr_ok {α} (a : α) : normErr (.ok a : R α) = .ok a := rfl
@[simp] theorem normErr_error {α} (e : Fail) : normErr (.error e : R α) = undefinedLeaf := rfl
@[simp] theorem normErr_fail {α} (m : String) : normErr (fail m : R α) = undefinedLeaf := rfl
@[simp] theorem normErr_pure {α} (a : α) : normErr (pure a : R α) = .ok a := rfl
/-- simp unfolds the one undefined outcome to the error it is -/
@[simp] theorem undefinedLeaf_eq {α} :
    (undefinedLeaf : R α) = .error (.err "the value has no representation in the column") := rfl

@[simp] theorem normErr_ok_iff {α} (r : R α) (a : α) : normErr r = .ok a ↔ r = .ok a := by
  cases r <;> simp [normErr, undefinedLeaf, fail]

@[simp] theorem normErr_isOk {α} (r : R α) : (normErr r).isOk = r.isOk := by
  cases r <;> rfl

theorem normErr_error_iff {α} (r : R α) : (∃ e, normErr r = .error e) ↔ ∃ e, r = .error e := by
  cases r <;> simp [normErr, undefinedLeaf, fail]

theorem mapM_normErr {α β} (f : α → R β) : ∀ xs : List α, xs.mapM (fun x => normErr (f x)) = normErr (xs.mapM f)
  | [] => rfl
  | x :: xs => by
    rw [List.mapM_cons, List.mapM_cons, mapM_normErr f xs]
    cases f x <;> simp [normErr, bind, Except.bind, undefinedLeaf, fail]
    cases xs.mapM f <;> simp [pure, Except.pure]

theorem liftO_toOption {α} (r : R α) : liftO r.toOption = normErr r := by
  cases r <;> rfl

theorem liftO_toOption_map {α β} (r : R α) (f : α → β) :
    liftO (r.toOption.map f) = normErr (r >>= fun v => pure (f v)) := by
  cases r <;> rfl

theorem fits_eq (t : IntTy) (v : Int) : fits t v = (tryInto t v).toOption := by
  unfold fits tryInto IntTy.inRange
  by_cases h1 : t.min ≤ v <;> by_cases h2 : v ≤ t.max <;> simp [h1, h2, Except.toOption, fail]

theorem liftO_toOption_fits {β} (r : R Int) (t : IntTy) (f : Int → β) :
    liftO ((r.toOption.bind (fits t)).map f) = normErr (do let a ← r; let b ← tryInto t a; pure (f b)) := by
  cases r with
  | error e => rfl
  | ok a =>
    simp only [Except.toOption, Option.bind, bind, Except.bind, fits_eq]
    cases tryInto t a <;> rfl

def kindOf (dt : DataType) : Option LeafKind :=
  match dt with
  | .boolean => some .bool
  | .int8 => some (.int .i8) | .int16 => some (.int .i16) | .int32 => some (.int .i32) | .int64 => some (.int .i64)
  | .uint8 => some (.int .u8) | .uint16 => some (.int .u16) | .uint32 => some (.int .u32) | .uint64 => some (.int .u64)
  | .float16 => some .f16 | .float32 => some .f32 | .float64 => some .f64
  | .date32 => some .date32 | .date64 => some .date64
  | .time32 u => some (.time32 u) | .time64 u => some (.time64 u) | .duration u => some (.duration u)
  | .timestamp u tz => some (.timestamp u tz (match tz with | some t => t.toUpper == "UTC" | none => false))
  | .decimal128 p s => some (.decimal p s)
  | _ => none

/-! ### the definitions through the model -/

/-- `Spec.interpDictStr` defined through `Ext` and the model's `tryInto`.  `build_builder` takes ANY value type for a
`Dictionary`; the value builder receives every distinct string once, through `serialize_str`: the string types keep the
string, the temporal and decimal types store the PARSED value (`Dictionary(Int8, Date32)` holds dates), a nested
dictionary hands the string on to its own value type, every other type refuses strings. -/
def interpDictStrOld (ext : Ext) : DataType → String → R LVal
  | .utf8, s | .largeUtf8, s | .utf8View, s => .ok (.str (strBytes s))
  | .date32, s => do pure (.int (← ext.parseDate false s))
  | .date64, s => do pure (.int (← ext.parseDate true s))
  | .time32 u, s => do pure (.int (← tryInto .i32 (← ext.parseTime u s)))
  | .time64 u, s => do pure (.int (← ext.parseTime u s))
  | .timestamp u tz, s => do
    pure (.int (← ext.parseTimestamp u (match tz with | some t => t.toUpper == "UTC" | none => false) s))
  | .duration u, s => do pure (.int (← ext.parseDuration u s))
  | .decimal128 p sc, s => do pure (.int (← ext.parseDecimal p sc s))
  | .dictionary _ v, s => interpDictStrOld ext v s
  | _, _ => fail "the value type of the dictionary takes no strings"

/-- `Spec.interpScalar` defined through the model's `convLeaf` / `scalarToString` -/
def interpScalarOld (ext : Ext) (dt : DataType) (x : SVal) : R LVal :=
  let kind : Option LeafKind :=
    match dt with
    | .boolean => some .bool
    | .int8 => some (.int .i8) | .int16 => some (.int .i16) | .int32 => some (.int .i32) | .int64 => some (.int .i64)
    | .uint8 => some (.int .u8) | .uint16 => some (.int .u16) | .uint32 => some (.int .u32) | .uint64 => some (.int .u64)
    | .float16 => some .f16 | .float32 => some .f32 | .float64 => some .f64
    | .date32 => some .date32 | .date64 => some .date64
    | .time32 u => some (.time32 u) | .time64 u => some (.time64 u) | .duration u => some (.duration u)
    | .timestamp u tz => some (.timestamp u tz (match tz with | some t => t.toUpper == "UTC" | none => false))
    | .decimal128 p s => some (.decimal p s)
    | _ => none
  match kind with
  | some k => do
    let v ← convLeaf ext k x
    match k with
    | .bool => pure (.bool (v != 0))
    | .f16 | .f32 | .f64 => pure (.float v)
    | _ => pure (.int v)
  | none =>
    match dt with
    | .utf8 | .largeUtf8 | .utf8View =>
      match scalarToString ext x with
      | some s => .ok (.str (strBytes s))
      | none => fail "not a string"
    | .binary | .largeBinary | .binaryView =>
      match x with
      | .bytes b => .ok (.bin b)
      | _ => fail "not bytes"
    | .fixedSizeBinary n =>
      match x with
      | .bytes b => if (b.length : Int) = n then .ok (.bin b) else fail "wrong length"
      | _ => fail "not bytes"
    | .dictionary _ v =>
      -- the scalars a string column accepts, as strings, at the VALUE type of the dictionary
      match scalarToString ext x with
      | some s => interpDictStr ext v s   -- the specification's (`interpDictStr_eq_old` relates it to `interpDictStrOld`)
      | none => fail "not a string"
    | .null =>
      match x with
      | .unitStruct _ => .ok .null
      | _ => fail "not a unit"
    | _ => fail "not representable"

/-! ### the pieces -/

theorem textOf_eq (ext : Ext) (x : SVal) : textOf ext x = scalarToString ext x := by
  cases x <;> try rfl
  case bool b => cases b <;> rfl

theorem isUtc_eq (tz : Option String) : isUtc tz = (match tz with | some t => t.toUpper == "UTC" | none => false) := by
  cases tz <;> rfl

theorem byteOf_eq : ∀ x : SVal, byteOf x = (u8Of x).toOption
  | .int _ v => by
    unfold byteOf u8Of IntTy.inRange
    by_cases h1 : 0 ≤ v <;> by_cases h2 : v ≤ 255 <;> simp [h1, h2, IntTy.min, IntTy.max, Except.toOption, fail]
  | .some v => by unfold byteOf u8Of; exact byteOf_eq v
  | .newtypeStruct _ v => by unfold byteOf u8Of; exact byteOf_eq v
  | .none | .unit | .bool _ | .f32 _ | .f64 _ | .char _ | .str _ | .bytes _ | .seq _ | .tuple _ | .tupleStruct _ _
  | .unitStruct _ | .record _ _ | .map _ | .mapRaw _ | .unitVariant _ _ _ | .newtypeVariant _ _ _ _
  | .tupleVariant _ _ _ _ | .structVariant _ _ _ _ => rfl

/-- **bytes given element by element**: the model's `U8Serializer` loop computes `Spec.bytesOf` -/
theorem bytesOf_eq : ∀ xs : SVals, bytesOf xs = (u8All xs).toOption
  | .nil => rfl
  | .cons v r => by
    unfold bytesOf u8All
    rw [byteOf_eq v, bytesOf_eq r]
    cases u8Of v <;> cases u8All r <;> rfl

/-- **map keys of a struct column**: the model's `KeyLookupSerializer` computes `Spec.keyOf` -/
theorem keyOf_eq : ∀ k : SVal, keyOf k = (keyStr k).toOption
  | .str _ => rfl
  | .some v => by unfold keyOf keyStr; exact keyOf_eq v
  | .newtypeStruct _ v => by unfold keyOf keyStr; exact keyOf_eq v
  | .none | .unit | .bool _ | .int _ _ | .f32 _ | .f64 _ | .char _ | .bytes _ | .seq _ | .tuple _ | .tupleStruct _ _
  | .unitStruct _ | .record _ _ | .map _ | .mapRaw _ | .unitVariant _ _ _ | .newtypeVariant _ _ _ _
  | .tupleVariant _ _ _ _ | .structVariant _ _ _ _ => rfl

theorem specBytes_eq (xs : SVals) : specBytes xs = normErr (u8All xs) := by
  unfold specBytes; rw [bytesOf_eq, liftO_toOption]

theorem specKey_eq (k : SVal) : specKey k = normErr (keyStr k) := by
  unfold specKey; rw [keyOf_eq, liftO_toOption]

theorem specBytes_ok_iff (xs : SVals) (b : Bytes) : specBytes xs = .ok b ↔ u8All xs = .ok b := by
  rw [specBytes_eq, normErr_ok_iff]

theorem keyStr_opt {k : SVal} {key : String} (h : keyStr k = .ok key) (fname : String) :
    ((keyStr k).toOption == some fname) = (key == fname) := by
  rw [h]; simp [Except.toOption]

theorem specKey_ok_iff (k : SVal) (s : String) : specKey k = .ok s ↔ keyStr k = .ok s := by
  rw [specKey_eq, normErr_ok_iff]

/-! ### the leaf table -/

theorem boolInt_ne_zero (b : Bool) : (boolInt b != 0) = b := by cases b <;> rfl

theorem toOption_bind_fits (r : R Int) (t : IntTy) : r.toOption.bind (fits t) = (r >>= tryInto t).toOption := by
  cases r with
  | error e => rfl
  | ok a => exact fits_eq t a

theorem map_fits (t : IntTy) (v : Int) (f : Int → LVal) : (fits t v).map f = ((tryInto t v).toOption).map f := by
  rw [fits_eq]

/-- the eight integer column types at once: the number the call presents, range-checked by `tryInto` -/
theorem intCell_eq (ext : Ext) (t : IntTy) (x : SVal) :
    intCell t x = ((convLeaf ext (.int t) x).toOption).map (leafVal (.int t)) := by
  cases x <;> try rfl
  all_goals
    simp only [intCell, numberOf, convLeaf, boolInt, fits_eq, bind, Option.bind, pure]
    cases tryInto t _ <;> rfl

/-- **convLeaf = specLeaf**: at every column type with a primitive-array builder (`kindOf dt = some k`) and for EVERY
serde call, the specification's leaf value is what the model's `convLeaf` stores, read as a logical value (`leafVal`:
Boolean columns as bools, float columns as bit patterns, all others as integers); undefined exactly where `convLeaf`
is an error. -/
theorem convLeaf_eq_specLeaf (ext : Ext) {dt : DataType} {k : LeafKind} (hk : kindOf dt = some k) (x : SVal) :
    specLeaf ext dt x = ((convLeaf ext k x).toOption).map (leafVal k) := by
  unfold kindOf at hk
  split at hk <;> cases hk
  case h_1 =>
    cases x <;> try rfl
    case bool b => cases b <;> rfl
  case h_2 | h_3 | h_4 | h_5 | h_6 | h_7 | h_8 | h_9 => exact intCell_eq ext _ x
  case h_10 | h_11 | h_12 => cases x <;> rfl
  case h_13 =>
    cases x <;> try rfl
    case int t v =>
      cases t <;> try rfl
      simp only [specLeaf, i32Stored, convLeaf, fits_eq, tryInto]
      split <;> rfl
  case h_14 =>
    cases x <;> try rfl
    case int t v => cases t <;> rfl
  case h_15 u =>
    cases x <;> try rfl
    case int t v =>
      cases t <;> try rfl
      exact map_fits .i32 v _
    case str s => exact congrArg (Option.map LVal.int) (toOption_bind_fits (ext.parseTime u s) .i32)
  case h_16 u =>
    cases x <;> try rfl
    case int t v => cases t <;> rfl
  case h_17 u =>
    cases x <;> try rfl
    case int t v =>
      cases t <;> try rfl
      exact map_fits .i64 v _
  case h_18 u tz =>
    cases x <;> try rfl
    case int t v => cases t <;> rfl
  case h_19 p sc => cases x <;> rfl

/-- `interpScalarOld` at a column with a primitive-array builder -/
theorem interpScalarOld_kind {ext : Ext} {dt : DataType} {k : LeafKind} (hk : kindOf dt = some k) (x : SVal) :
    interpScalarOld ext dt x = (do
      let v ← convLeaf ext k x
      pure (leafVal k v)) := by
  unfold interpScalarOld
  rw [← kindOf.eq_def dt]
  simp only [hk]
  cases k <;> rfl

/-- **dictionary value types**: `Spec.dictValue` (lifted: `interpDictStr`) equals `interpDictStrOld`, the definition through `Ext` and `tryInto`, up to which error -/
theorem interpDictStr_eq_old (ext : Ext) : ∀ (dt : DataType) (s : String),
    interpDictStr ext dt s = normErr (interpDictStrOld ext dt s) := by
  intro dt s
  fun_induction interpDictStrOld ext dt s
  all_goals first
    | rfl
    | assumption
    | (simp only [interpDictStr, dictValue, textValue, isUtc_eq]
       first
         | rfl
         | exact liftO_toOption_map _ _
         | exact liftO_toOption_fits _ _ _)

/-- the specification's leaf table (`Spec.specLeaf`, Spec/Leaf.lean) IS the definition
through the model's conversions, up to which error — for every data type and every serde call.  This is the one place
where the two sides meet; the refinement proofs unfold the right-hand side. -/
theorem interpScalar_eq_old (ext : Ext) (dt : DataType) (x : SVal) :
    interpScalar ext dt x = normErr (interpScalarOld ext dt x) := by
  have leaf : ∀ {k}, kindOf dt = some k → interpScalar ext dt x = normErr (interpScalarOld ext dt x) := fun hk => by
    rw [interpScalarOld_kind hk, interpScalar, convLeaf_eq_specLeaf ext hk, liftO_toOption_map]
  have bin : liftO (match x with | .bytes b => some (LVal.bin b) | _ => none) =
      normErr (match x with | .bytes b => (.ok (LVal.bin b) : R LVal) | _ => fail "not bytes") := by cases x <;> rfl
  cases dt
  case boolean | int8 | int16 | int32 | int64 | uint8 | uint16 | uint32 | uint64 | float16 | float32 | float64
    | date32 | date64 | time32 | time64 | timestamp | duration | decimal128 => exact leaf rfl
  case utf8 | largeUtf8 | utf8View =>
    simp only [interpScalar, specLeaf, interpScalarOld, textOf_eq]; cases scalarToString ext x <;> rfl
  case binary | largeBinary | binaryView => exact bin
  case fixedSizeBinary n =>
    cases x <;> try rfl
    case bytes b => by_cases h : (b.length : Int) = n <;> simp [interpScalar, specLeaf, interpScalarOld, h, liftO, undefinedLeaf, fail]
  case dictionary kt vt =>
    simp only [interpScalar, specLeaf, interpScalarOld, textOf_eq]
    cases scalarToString ext x with
    | none => rfl
    | some s => simp only [Option.bind, interpDictStr]; cases dictValue ext vt s <;> rfl
  case null => cases x <;> rfl
  all_goals rfl
theorem interpScalar_ok_iff (ext : Ext) (dt : DataType) (x : SVal) (lv : LVal) :
    interpScalar ext dt x = .ok lv ↔ interpScalarOld ext dt x = .ok lv := by
  rw [interpScalar_eq_old, normErr_ok_iff]

theorem interpScalar_isOk (ext : Ext) (dt : DataType) (x : SVal) :
    (interpScalar ext dt x).isOk = (interpScalarOld ext dt x).isOk := by
  rw [interpScalar_eq_old, normErr_isOk]

theorem interpDictStr_ok_iff (ext : Ext) (dt : DataType) (s : String) (lv : LVal) :
    interpDictStr ext dt s = .ok lv ↔ interpDictStrOld ext dt s = .ok lv := by
  rw [interpDictStr_eq_old, normErr_ok_iff]

end SaModel.Build
