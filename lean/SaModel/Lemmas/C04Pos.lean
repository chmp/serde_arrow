import SaModel.Spec.Interp
import SaModel.Lemmas.C01LeafBridge
import SaModel.Lemmas.SpecInterp
import SaModel.Roundtrip.Types
import SaModel.Build.Builder
import Std.Data.String.ToNat
/-
C04: tuples / tuple structs / arrays / tuple variants in `interp_ser`.  A tuple is traced to a Struct whose children are
called "0", "1", …; `Spec.interpDT` matches element `k` of the serialized tuple with the field whose name has index `k`
among the field names (`indexOfName`).  Because the positional names are distinct (`posName_injective`), field `i` gets element `i`.
-/

/-! ### the positional names `"0"`, `"1"`, … that `ensure_tuple` gives the elements of a tuple are pairwise distinct
(`toString : Nat → String` is injective: `Nat.repr_injective` of the toolchain's `Std.Data.String.ToNat`), hence
`indexOfName` finds position `i` under the name `posName i` -/
namespace SaModel.Roundtrip
open SaModel SaModel.Build

theorem posName_injective {i j : Nat} (h : posName i = posName j) : i = j := by
  unfold posName at h
  exact Nat.repr_injective h

theorem posName_beq (i j : Nat) : (posName i == posName j) = decide (i = j) := by
  by_cases h : i = j
  · subst h; simp
  · have : posName i ≠ posName j := fun e => h (posName_injective e)
    simp [h, this]

/-- `indexOfName` over the positional names `s, s+1, …, s+n-1` finds `i` at offset `i - s` -/
theorem indexOfName_go_posNames (i : Nat) : ∀ (n s k : Nat), s ≤ i → i < s + n →
    indexOfName.go (posName i) (posNames s n) k = some (k + (i - s))
  | 0, s, k, h1, h2 => by omega
  | n + 1, s, k, h1, h2 => by
    simp only [posNames, indexOfName.go, posName_beq]
    by_cases h : s = i
    · subst h; simp
    · simp only [h, decide_false, Bool.false_eq_true, if_false]
      rw [indexOfName_go_posNames i n (s + 1) (k + 1) (by omega) (by omega)]
      congr 1; omega

theorem indexOfName_posNames (i n : Nat) (h : i < n) : indexOfName (posNames 0 n) (posName i) = some i := by
  unfold indexOfName
  rw [indexOfName_go_posNames i n 0 0 (by omega) (by omega)]
  simp

theorem hasDup_posNames : ∀ (n s : Nat), hasDup (posNames s n) = false
  | 0, _ => rfl
  | n + 1, s => by
    simp only [posNames, hasDup, Bool.or_eq_false_iff]
    refine ⟨?_, hasDup_posNames n (s + 1)⟩
    have : ∀ (m t : Nat), s < t → (posNames t m).contains (posName s) = false := by
      intro m
      induction m with
      | zero => intro t _; rfl
      | succ m ih =>
        intro t ht
        simp only [posNames, List.contains_cons, Bool.or_eq_false_iff]
        refine ⟨?_, ih (t + 1) (by omega)⟩
        rw [posName_beq]; simp; omega
    exact this n (s + 1) (by omega)

theorem mappingPos_names (o : TraceOpts) : ∀ (ts : Tys) (i : Nat),
    (mappingPos o i ts).toList.map Field.name = posNames i ts.length
  | .nil, _ => rfl
  | .cons t r, i => by
    rcases hm : mappingDT o t with ⟨dt, nb, md⟩
    simp [mappingPos, hm, Fields.toList, Tys.length, posNames, Field.name, mappingPos_names o r (i + 1)]

end SaModel.Roundtrip

/-! ### field `i` gets element `i` -/
namespace SaModel.Roundtrip
open SaModel SaModel.Build SaModel.Spec

/-- the `k`-th component of a tuple value with its type -/
def nthTV : Tys → Vals → Nat → Option (Ty × Val)
  | .cons t _, .cons v _, 0 => some (t, v)
  | .cons _ ts, .cons _ vs, k + 1 => nthTV ts vs k
  | _, _, _ => none

theorem interpNth_serPos (ext : Ext) (dt : DataType) (nb : Bool) (md : Metadata) : ∀ (ts : Tys) (vs : Vals) (k : Nat),
    interpNth ext dt nb md k (serPos ts vs) =
      match nthTV ts vs k with
      | some (t, v) => (do pure [← interpDT ext dt nb md (ser t v)])
      | none => .ok []
  | .nil, vs, k => by cases k <;> simp [serPos, interpNth, nthTV]
  | .cons t ts, .nil, k => by cases k <;> simp [serPos, interpNth, nthTV]
  | .cons t ts, .cons v vs, 0 => by simp [serPos, interpNth, nthTV]
  | .cons t ts, .cons v vs, k + 1 => by
    simp only [serPos, interpNth, nthTV]
    exact interpNth_serPos ext dt nb md ts vs k

/-- every component satisfies `interp_serO` (option-dependent logical value `lvO o`) at its own traced field -/
def EachOkPos (ext : Ext) (o : TraceOpts) : Tys → Vals → Prop
  | .cons t rest, .cons v vrest =>
    (∀ dt nb0 md, mappingDT o t = (dt, nb0, md) → interpDT ext dt nb0 md (ser t v) = .ok (lvO o t v)) ∧ EachOkPos ext o rest vrest
  | _, _ => True

/-- one step of `structOf` at a positional presentation -/
abbrev stepP (ext : Ext) (names : List String) (xs : SVals) : Field → R (String × LVal) :=
  pickField fun f => interpNth ext f.dataType f.nullable f.metadata (indexOfName names f.name |>.getD 0) xs

theorem mapM_tuple (ext : Ext) (o : TraceOpts) (tsAll : Tys) (vsAll : Vals) :
    ∀ (ts2 : Tys) (vs2 : Vals) (i : Nat), wtPos ts2 vs2 = true →
    (∀ j, nthTV tsAll vsAll (i + j) = nthTV ts2 vs2 j) → i + ts2.length ≤ tsAll.length → EachOkPos ext o ts2 vs2 →
    (mappingPos o i ts2).toList.mapM (stepP ext (posNames 0 tsAll.length) (serPos tsAll vsAll)) = .ok (lvOPos o i ts2 vs2).toList
  | .nil, .nil, i, _, _, _, _ => by simp [mappingPos, Fields.toList, lvOPos, LFields.toList, pure, Except.pure]
  | .nil, .cons _ _, _, hw, _, _, _ => by simp [wtPos] at hw
  | .cons _ _, .nil, _, hw, _, _, _ => by simp [wtPos] at hw
  | .cons t rest, .cons v vrest, i, hw, hsuf, hlen, heach => by
    simp only [wtPos, Bool.and_eq_true] at hw
    simp only [Tys.length] at hlen
    obtain ⟨hev, her⟩ := heach
    have ih := mapM_tuple ext o tsAll vsAll rest vrest (i + 1) hw.2
      (fun j => by have := hsuf (j + 1); simp only [nthTV] at this; rw [← this]; congr 1; omega) (by omega) her
    rcases hm : mappingDT o t with ⟨dt, nb0, md⟩
    have hidx := indexOfName_posNames i tsAll.length (by omega)
    have hnth : nthTV tsAll vsAll i = some (t, v) := hsuf 0
    have hint := interpNth_serPos ext dt nb0 md tsAll vsAll i
    rw [hnth] at hint
    simp only [hev dt nb0 md hm] at hint
    simp only [mappingPos, hm, Fields.toList, List.mapM_cons, ih, lvOPos, LFields.toList]
    simp [pickField, Field.name, Field.dataType, Field.nullable, Field.metadata, hidx, hint, pickOne,
      bind, Except.bind, pure, Except.pure]

/-- a serialized tuple of well-typed components, at the Struct its type is traced to, is the struct of the
(option-dependent) logical values `lvOPos o` -/
theorem interp_tuple (ext : Ext) (o : TraceOpts) (ts : Tys) (vs : Vals) (hw : wtPos ts vs = true)
    (heach : EachOkPos ext o ts vs) :
    structOf (mappingPos o 0 ts).toList (fun f => interpNth ext f.dataType f.nullable f.metadata
        (indexOfName ((mappingPos o 0 ts).toList.map Field.name) f.name |>.getD 0) (serPos ts vs)) =
      .ok (.struct (LFields.ofList (lvOPos o 0 ts vs).toList)) := by
  rw [structOf_eq, mappingPos_names,
    mapM_tuple ext o ts vs ts vs 0 hw (fun j => by simp) (by omega) heach]
  rfl

end SaModel.Roundtrip
