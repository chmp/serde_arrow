import SaModel.Lemmas.C09Json
/-
C09: `validate_field` (after `fix: validate_map_field validates the entries field itself`) accepts a field only if the
entries struct of every map inside it, at any depth, carries a strategy a struct admits or none (`entriesField`,
`Spec/SchemaSide.lean`).  No side condition: nothing in that part depends on the range of the numeric parameters.  Then, under
`rangeField`, `validate_field` accepts only valid fields (`validate_iff_valid`).
-/
namespace SaModel.SchemaJson
open SaModel SaModel.Dsl

/-- what `validate_struct_field` asks of the field itself, and that it goes on to the children -/
theorem struct_of_validate {m : Metadata} {fs : Fields} (h : validateDataType m (.struct fs) = .ok ()) :
    structStrat m = true ∧ validateFields fs = .ok () := by
  simp only [validateDataType, getStrategy_eq] at h
  unfold structStrat
  cases hc : stratClass m with
  | known st => cases st <;> simp_all [bind, Except.bind, fail]
  | _ => simp_all [bind, Except.bind, fail]

mutual
theorem entriesField_of_validate : (f : Field) → validateField f = .ok () → entriesField f = true
  | .mk _ dt _ m, h => by
    simp only [validateField] at h
    simp only [entriesField]
    exact entriesType_of_validate m dt h
termination_by structural f => f
theorem entriesType_of_validate (m : Metadata) : (dt : DataType) → validateDataType m dt = .ok () → entriesType dt = true
  | .struct fs, h => by
    simp only [entriesType]
    exact entriesFields_of_validate fs (struct_of_validate h).2
  | .list f, h => by
    simp only [validateDataType] at h
    simp only [entriesType]
    exact entriesField_of_validate f (R.bind_unit_iff.1 h).2
  | .largeList f, h => by
    simp only [validateDataType] at h
    simp only [entriesType]
    exact entriesField_of_validate f (R.bind_unit_iff.1 h).2
  | .fixedSizeList f n, h => by
    simp only [validateDataType] at h
    simp only [entriesType]
    split at h
    · cases h
    · exact entriesField_of_validate f (R.bind_unit_iff.1 h).2
  | .map e sorted, h => by
    simp only [validateDataType] at h
    have h2 := (R.bind_unit_iff.1 h).2
    have ih := entriesField_of_validate e
    simp only [entriesType, Bool.and_eq_true]
    split at h2
    · rename_i en kf vf enl em
      refine ⟨?_, ih h2⟩
      simp only [validateField] at h2
      simpa [entryStrat] using (struct_of_validate h2).1
    · cases h2
  | .union us mode, h => by
    simp only [validateDataType] at h
    simp only [entriesType]
    exact entriesUFields_of_validate us (R.bind_unit_iff.1 h).2
  | .null, _ | .boolean, _ | .int8, _ | .int16, _ | .int32, _ | .int64, _ | .uint8, _ | .uint16, _ | .uint32, _
  | .uint64, _ | .float16, _ | .float32, _ | .float64, _ | .utf8, _ | .largeUtf8, _ | .utf8View, _ | .binary, _
  | .largeBinary, _ | .binaryView, _ | .fixedSizeBinary _, _ | .date32, _ | .date64, _ | .timestamp _ _, _
  | .time32 _, _ | .time64 _, _ | .duration _, _ | .interval _, _ | .decimal128 _ _, _ | .dictionary _ _, _
  | .runEndEncoded _ _, _ => rfl
termination_by structural dt => dt
theorem entriesFields_of_validate : (fs : Fields) → validateFields fs = .ok () → entriesFields fs = true
  | .nil, _ => rfl
  | .cons f r, h => by
    simp only [validateFields] at h
    obtain ⟨h1, h2⟩ := R.bind_unit_iff.1 h
    simp [entriesFields, entriesField_of_validate f h1, entriesFields_of_validate r h2]
termination_by structural fs => fs
theorem entriesUFields_of_validate : (us : UFields) → validateUFields us = .ok () → entriesUFields us = true
  | .nil, _ => rfl
  | .cons _ f r, h => by
    simp only [validateUFields] at h
    obtain ⟨h1, h2⟩ := R.bind_unit_iff.1 h
    simp [entriesUFields, entriesField_of_validate f h1, entriesUFields_of_validate r h2]
termination_by structural us => us
end

/-! ## the repair changes nothing else: on fields whose map entries are annotated like structs the pinned and the
repaired `validate_field` are the same function (same outcome, same error) -/

theorem bind_pure_unit (y : R Unit) : (y >>= fun _ => (pure () : R Unit)) = y := by
  cases y <;> rfl

theorem structCheck_of_structStrat {m : Metadata} (h : structStrat m = true) :
    ∃ o, getStrategyFromMetadata m = .ok o ∧ (o = none ∨ o = some .mapAsStruct ∨ o = some .tupleAsStruct) := by
  simp only [structStrat, Bool.or_eq_true, decide_eq_true_eq] at h
  rcases h with (h | h) | h
  · exact ⟨_, getStrategy_absent h, Or.inl rfl⟩
  · exact ⟨_, getStrategy_known h, Or.inr (Or.inl rfl)⟩
  · exact ⟨_, getStrategy_known h, Or.inr (Or.inr rfl)⟩

/-- the `Map` arm: given that the entries field carries a struct's strategy or none, validating the key and the value
field (pinned) is validating the entries field as a struct field (repaired) -/
theorem validateMapPinned_eq (m : Metadata) (e : Field) (sorted : Bool) (hs : entryStrat e = true)
    (ih : validateFieldPinned e = validateField e) :
    validateDataTypePinned m (.map e sorted) = validateDataType m (.map e sorted) := by
  obtain ⟨en, edt, enl, em⟩ := e
  cases edt with
  | struct fs =>
    cases fs with
    | nil => simp only [validateDataTypePinned, validateDataType]
    | cons kf r =>
      cases r with
      | nil => simp only [validateDataTypePinned, validateDataType]
      | cons vf r2 =>
        cases r2 with
        | cons _ _ => simp only [validateDataTypePinned, validateDataType]
        | nil =>
          simp only [entryStrat] at hs
          obtain ⟨o, ho, hc⟩ := structCheck_of_structStrat hs
          rw [validateDataTypePinned.eq_def, validateDataType.eq_def]
          simp only []
          rw [← ih]
          simp only [validateFieldPinned, validateDataTypePinned, validateFieldsPinned, ho]
          rcases hc with rfl | rfl | rfl <;>
            simp only [bind, Except.bind] <;>
            (congr 1; funext _; congr 1; funext _; exact (bind_pure_unit _).symm)
  | _ => simp only [validateDataTypePinned, validateDataType]

mutual
theorem validateFieldPinned_eq : (f : Field) → entriesField f = true → validateFieldPinned f = validateField f
  | .mk _ dt _ m, he => by
    simp only [entriesField] at he
    simp only [validateFieldPinned, validateField]
    exact validateDataTypePinned_eq m dt he
theorem validateDataTypePinned_eq (m : Metadata) : (dt : DataType) → entriesType dt = true →
    validateDataTypePinned m dt = validateDataType m dt
  | .struct fs, he => by
    simp only [entriesType] at he
    simp only [validateDataTypePinned, validateDataType, validateFieldsPinned_eq fs he]
  | .list f, he => by
    simp only [entriesType] at he
    simp only [validateDataTypePinned, validateDataType, validateFieldPinned_eq f he]
  | .largeList f, he => by
    simp only [entriesType] at he
    simp only [validateDataTypePinned, validateDataType, validateFieldPinned_eq f he]
  | .fixedSizeList f n, he => by
    simp only [entriesType] at he
    simp only [validateDataTypePinned, validateDataType, validateFieldPinned_eq f he]
  | .union us mode, he => by
    simp only [entriesType] at he
    simp only [validateDataTypePinned, validateDataType, validateUFieldsPinned_eq us he]
  | .map e sorted, he => by
    simp only [entriesType, Bool.and_eq_true] at he
    exact validateMapPinned_eq m e sorted he.1 (validateFieldPinned_eq e he.2)
  | .null, _ | .boolean, _ | .int8, _ | .int16, _ | .int32, _ | .int64, _ | .uint8, _ | .uint16, _ | .uint32, _
  | .uint64, _ | .float16, _ | .float32, _ | .float64, _ | .utf8, _ | .largeUtf8, _ | .utf8View, _ | .binary, _
  | .largeBinary, _ | .binaryView, _ | .fixedSizeBinary _, _ | .date32, _ | .date64, _ | .timestamp _ _, _
  | .time32 _, _ | .time64 _, _ | .duration _, _ | .interval _, _ | .decimal128 _ _, _ | .dictionary _ _, _
  | .runEndEncoded _ _, _ => by simp only [validateDataTypePinned, validateDataType]
theorem validateFieldsPinned_eq : (fs : Fields) → entriesFields fs = true → validateFieldsPinned fs = validateFields fs
  | .nil, _ => rfl
  | .cons f r, he => by
    simp only [entriesFields, Bool.and_eq_true] at he
    simp only [validateFieldsPinned, validateFields, validateFieldPinned_eq f he.1, validateFieldsPinned_eq r he.2]
theorem validateUFieldsPinned_eq : (us : UFields) → entriesUFields us = true →
    validateUFieldsPinned us = validateUFields us
  | .nil, _ => rfl
  | .cons _ f r, he => by
    simp only [entriesUFields, Bool.and_eq_true] at he
    simp only [validateUFieldsPinned, validateUFields, validateFieldPinned_eq f he.1, validateUFieldsPinned_eq r he.2]
end

/-! ### `validate_field` accepts ONLY valid fields — the converse of `validateField_of_valid`, under the side condition
`rangeField` of `Spec/SchemaSide.lean` (parameters in the range of their Rust types), which follows from `validField`.
Both directions are `valid_iff` (Lemmas/C09Json.lean) read one way.
(The pinned `validate_field`, `validateFieldPinned`, needs a second side condition, `entriesField`: it does not validate
the entries field of a map as the struct field it is; `validField` implies it, `side_of_valid`.) -/

theorem validField_of_validate : (f : Field) → rangeField f = true → validateField f = .ok () → validField f = true :=
  fun f hr h => (valid_iff f).2 ⟨h, hr⟩
theorem validType_of_validate (m : Metadata) : (dt : DataType) → rangeType dt = true →
    validateDataType m dt = .ok () → validType m dt = true :=
  fun dt hr h => (validType_iff m dt).2 ⟨h, hr⟩
theorem validFields_of_validate : (fs : Fields) → rangeFields fs = true →
    validateFields fs = .ok () → validFields fs = true :=
  fun fs hr h => (validFields_iff fs).2 ⟨h, hr⟩
theorem validUFields_of_validate : (us : UFields) → rangeUFields us = true →
    validateUFields us = .ok () → validUFields us = true :=
  fun us hr h => (validUFields_iff us).2 ⟨h, hr⟩

/-! ## valid fields have parameters in range and map entries annotated like structs -/

theorem side_of_valid : (f : Field) → validField f = true → rangeField f = true ∧ entriesField f = true :=
  fun f h => ⟨((valid_iff f).1 h).2, entriesField_of_validate f ((valid_iff f).1 h).1⟩
theorem sideType_of_valid (m : Metadata) : (dt : DataType) → validType m dt = true →
    rangeType dt = true ∧ entriesType dt = true :=
  fun dt h => ⟨((validType_iff m dt).1 h).2, entriesType_of_validate m dt ((validType_iff m dt).1 h).1⟩
theorem sideFields_of_valid : (fs : Fields) → validFields fs = true → rangeFields fs = true ∧ entriesFields fs = true :=
  fun fs h => ⟨((validFields_iff fs).1 h).2, entriesFields_of_validate fs ((validFields_iff fs).1 h).1⟩
theorem sideUFields_of_valid : (us : UFields) → validUFields us = true →
    rangeUFields us = true ∧ entriesUFields us = true :=
  fun us h => ⟨((validUFields_iff us).1 h).2, entriesUFields_of_validate us ((validUFields_iff us).1 h).1⟩

/-- `validate_field` decides `validField` (on fields whose numeric parameters are values of their Rust types: the model's
`Field` carries unbounded integers) -/
theorem validate_iff_valid (f : Field) (hr : rangeField f = true) : validateField f = .ok () ↔ validField f = true :=
  ⟨validField_of_validate f hr, validateField_of_valid f⟩

end SaModel.SchemaJson
