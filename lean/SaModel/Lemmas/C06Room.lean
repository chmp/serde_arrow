import SaModel.Lemmas.C01CompSmall
import SaModel.Lemmas.C03WF
import SaModel.Lemmas.C03PhysCnt
import SaModel.Lemmas.C06SafeS
/-
C06 (closure), the capacity bound in closed form: the head room of a FRESH builder.

`room b = min (2^31 - 1 - used b) (keysRoom b)` (`Build.room_eq`).  A builder that holds nothing (`takeRest b = b`, part
of `Fresh`) has `used b = 0`; its dictionaries hold no values, so `keysRoom b` is the least capacity `max + 1` of a
dictionary key type in the schema.  When every dictionary key type is at least as wide as `Int32` (`wideDT`: Int32,
UInt32, Int64, UInt64 — the tracer only emits UInt32 keys) that is ≥ 2^31, and

    room b = 2^31 - 1      (`fresh_room`).
-/
namespace SaModel.Lemmas.C06
open SaModel SaModel.Build SaModel.Lemmas.C03

/-- key types with at least `2^31 - 1` keys -/
def wideKey : DataType → Bool
  | .int32 | .uint32 | .int64 | .uint64 => true
  | _ => false

mutual
/-- every dictionary in the type has a key type at least as wide as `Int32` -/
def wideDT : DataType → Bool
  | .dictionary k v => wideKey k && wideDT v
  | .list f | .largeList f | .fixedSizeList f _ | .map f _ => wideF f
  | .struct fs => wideFs fs
  | .union ufs _ => wideU ufs
  | _ => true
def wideF : Field → Bool
  | .mk _ dt _ _ => wideDT dt
def wideFs : Fields → Bool
  | .nil => true
  | .cons f r => wideF f && wideFs r
def wideU : UFields → Bool
  | .nil => true
  | .cons _ f r => wideF f && wideU r
end

theorem wideF_dt (f : Field) : wideF f = wideDT f.dataType := by cases f; simp [wideF, Field.dataType]

theorem lastNat_zero : lastNat [0] = 0 := by decide

mutual
theorem used_takeRest : ∀ b : B, used (takeRest b) = 0
  | .null _ _ | .unknownVariant _ | .leaf _ _ _ _ | .fixedSizeBinary _ _ _ _ _ _ => by simp [takeRest, used]
  | .bytes _ _ _ _ _ => by simp [takeRest, used, lastNat_zero]
  | .bytesView _ _ _ _ _ => by simp [takeRest, used]
  | .list _ _ _ _ _ el => by simp [takeRest, used, lastNat_zero, used_takeRest el]
  | .fixedSizeList _ _ _ _ _ _ el => by simp [takeRest, used, used_takeRest el]
  | .map _ _ _ _ ks vs => by simp [takeRest, used, lastNat_zero, used_takeRest ks, used_takeRest vs]
  | .struct _ _ _ fs _ _ _ => by simp [takeRest, used, usedL_takeRestAll fs]
  | .dictionary _ _ vals _ => by simp [takeRest, used, used_takeRest vals]
  | .union _ fs _ _ cur => by simp [takeRest, used, usedL_takeRestAll fs, curUsed_zeros]
theorem usedL_takeRestAll : ∀ bl : BL, usedL (takeRestAll bl) = 0
  | .nil => by simp [takeRestAll, usedL]
  | .cons b _ r => by simp [takeRestAll, usedL, used_takeRest b, usedL_takeRestAll r]
end

theorem builtFor_intKey {idx : B} {k : DataType} {nl : Bool} (hb : BuiltFor k nl idx) (hk : isIntDT k = true) :
    ∃ p t v vals, idx = .leaf p (.int t) v vals ∧ k = intDT t := by
  obtain ⟨p, t, v, vals, rfl⟩ := isIntLeaf_form (builtFor_intLeaf idx k nl hb hk)
  simp only [BuiltFor] at hb
  exact ⟨p, t, v, vals, rfl, hb.1⟩

/-- the key builder of a dictionary with a wide key type has at least `2^31 - 1` free keys when no value is held -/
theorem keyRoom_wide {idx : B} {k : DataType} {nl : Bool} (hb : BuiltFor k nl idx) (hk : isIntDT k = true)
    (hw : wideKey k = true) : LIM ≤ keyRoom (takeRest idx) 0 := by
  obtain ⟨p, t, v, vals, rfl, rfl⟩ := builtFor_intKey hb hk
  cases t <;> simp [intDT, wideKey] at hw <;> simp [takeRest, keyRoom, IntTy.max, LIM]

theorem keysRoom_cases : BuiltForCases (fun dt _ b => wideDT dt = true → LIM ≤ keysRoom (takeRest b))
    (fun fs bl => wideFs fs = true → LIM ≤ keysRoomL (takeRestAll bl))
    (fun ufs bl _ => wideU ufs = true → LIM ≤ keysRoomL (takeRestAll bl)) where
  null _ := Nat.le_refl _
  unknownVariant _ := Nat.le_refl _
  leaf _ := Nat.le_refl _
  bytes _ := Nat.le_refl _
  bytesView _ := Nat.le_refl _
  fixedSizeBinary _ := Nat.le_refl _
  list _ ih hw := ih hw
  largeList _ ih hw := ih hw
  fixedSizeList _ ih hw := ih hw
  map _ ihk _ ihv hw := by
    simp only [wideDT, wideF, wideFs, Bool.and_eq_true, Bool.and_true] at hw
    have := ihk hw.1
    have := ihv hw.2
    simp only [takeRest, keysRoom]; omega
  struct _ ih hw := ih hw
  dictionary hk hidx _ _ ihv hw := by
    simp only [wideDT, Bool.and_eq_true] at hw
    have := keyRoom_wide hidx hk hw.1
    have := ihv hw.2
    simp only [takeRest, keysRoom, List.length_nil]; omega
  union _ ih hw := ih hw
  nilL _ := Nat.le_refl _
  consL _ ih _ ihr hw := by
    simp only [wideFs, wideF, Bool.and_eq_true] at hw
    have := ih hw.1
    have := ihr hw.2
    simp only [takeRestAll, keysRoomL]; omega
  nilU _ := Nat.le_refl _
  consU _ ih _ ihr hw := by
    simp only [wideU, wideF, Bool.and_eq_true] at hw
    have := ih hw.1
    have := ihr hw.2
    simp only [takeRestAll, keysRoomL]; omega

theorem keysRoom_takeRest : ∀ (b : B) (dt : DataType) (nl : Bool), BuiltFor dt nl b → wideDT dt = true →
    LIM ≤ keysRoom (takeRest b) :=
  keysRoom_cases.builtFor

theorem keysRoomL_takeRestAll : ∀ (bl : BL) (fs : Fields), BuiltForL fs bl → wideFs fs = true →
    LIM ≤ keysRoomL (takeRestAll bl) :=
  keysRoom_cases.builtForL

theorem keysRoomU_takeRestAll : ∀ (bl : BL) (ufs : UFields) (k : Nat), BuiltForU ufs bl k → wideU ufs = true →
    LIM ≤ keysRoomL (takeRestAll bl) :=
  keysRoom_cases.builtForU

mutual
theorem keysRoom_le : ∀ b : B, keysRoom b ≤ LIM
  | .list _ _ _ _ _ el | .fixedSizeList _ _ _ _ _ _ el => by rw [keysRoom]; exact keysRoom_le el
  | .map _ _ _ _ ks _ => by rw [keysRoom]; exact Nat.le_trans (Nat.min_le_left _ _) (keysRoom_le ks)
  | .struct _ _ _ fs _ _ _ | .union _ fs _ _ _ => by rw [keysRoom]; exact keysRoomL_le fs
  | .dictionary _ _ vals _ => by rw [keysRoom]; exact Nat.le_trans (Nat.min_le_right _ _) (keysRoom_le vals)
  | .null _ _ | .unknownVariant _ | .leaf _ _ _ _ | .bytes _ _ _ _ _ | .bytesView _ _ _ _ _
  | .fixedSizeBinary _ _ _ _ _ _ => by simp [keysRoom]
theorem keysRoomL_le : ∀ bl : BL, keysRoomL bl ≤ LIM
  | .nil => Nat.le_refl _
  | .cons _ _ r => by rw [keysRoomL]; exact Nat.le_trans (Nat.min_le_right _ _) (keysRoomL_le r)
end

/-- a builder that holds nothing, of a type whose dictionary keys are wide: no counter is used, and the scarcest dictionary has
exactly the `2^31 - 1` free keys the bound `LIM` caps the count at -/
theorem fresh_full {b : B} {dt : DataType} {nl : Bool} (hf : takeRest b = b) (hb : BuiltFor dt nl b) (hw : wideDT dt = true) :
    used b = 0 ∧ keysRoom b = LIM := by
  have h1 := used_takeRest b
  have h2 := keysRoom_takeRest b dt nl hb hw
  rw [hf] at h1 h2
  exact ⟨h1, Nat.le_antisymm (keysRoom_le b) h2⟩

theorem fresh_fullL {bl : BL} {fs : Fields} (hf : takeRestAll bl = bl) (hb : BuiltForL fs bl) (hw : wideFs fs = true) :
    usedL bl = 0 ∧ keysRoomL bl = LIM := by
  have h1 := usedL_takeRestAll bl
  have h2 := keysRoomL_takeRestAll bl fs hb hw
  rw [hf] at h1 h2
  exact ⟨h1, Nat.le_antisymm (keysRoomL_le bl) h2⟩

theorem fresh_fullU {bl : BL} {ufs : UFields} {k : Nat} (hf : takeRestAll bl = bl) (hb : BuiltForU ufs bl k)
    (hw : wideU ufs = true) : usedL bl = 0 ∧ keysRoomL bl = LIM := by
  have h1 := usedL_takeRestAll bl
  have h2 := keysRoomU_takeRestAll bl ufs k hb hw
  rw [hf] at h1 h2
  exact ⟨h1, Nat.le_antisymm (keysRoomL_le bl) h2⟩

/-- **the head room of a fresh builder is `i32::MAX`** when every dictionary key type is at least as wide as `Int32` -/
theorem fresh_room (b : B) (dt : DataType) (nl : Bool) (hf : takeRest b = b) (hb : BuiltFor dt nl b)
    (hw : wideDT dt = true) : room b = 2147483647 := by
  rw [room_eq, (fresh_full hf hb hw).1, (fresh_full hf hb hw).2]; rfl

/-- the key type matters: a fresh `Dictionary(Int8, Utf8)` builder has room for 128 values only -/
example : room (.dictionary "$.d" (.leaf "$.d.key" (.int .i8) none []) (.bytes "$.d.value" .utf8 none [0] []) []) = 128 := by
  decide

end SaModel.Lemmas.C06
