import SaModel.Lemmas.C01Comb
import SaModel.Build.Obs
/-
C01 "hidden rows" — vocabulary of the refinement that speaks about OBSERVABLE rows only.

`dec b` (Build/Dec.lean) reads every slot of a builder, also the slots hidden below a null ancestor.  For one builder
family that reading is not stable: a dictionary with NON-nullable keys that receives `serialize_default` (its parent row
is null) stores the placeholder key 0, which designates nothing while the dictionary is empty and the FIRST real value
later (`Props.C01.dict_placeholder_unstable`).  The property says such slots "may hold anything".

`decH b : List (Option LVal)` (MODEL file Build/Obs.lean, executable) is `dec b` with every row that is NOT DETERMINED by the state replaced by `none`:
  * a dictionary row whose key designates no value (yet) is `none`;
  * a struct / list / fixed-size list / map / union row is `none` when a child row it READS is `none` — a row whose own
    validity bit is clear reads no child and is the determined value `null`.
So the slots below a null parent never reach the parent's rows, whatever they hold — the Arrow reading rule
(`Spec.decodeAll` stops at a null parent), no mask has to be threaded through the builder tree.

`Refines new old`: same length, and every row that was determined is unchanged ("`none` may become anything").
The refinement theorem R1' reads   push ext b x = ok b' → Refines (decH b') (decH b ++ [some lv]).

`WFH` is the state invariant `WFB` with the dictionary key clause weakened to what the builders really maintain: a key
is in range OR it is the placeholder 0 of a non-nullable key builder; and every row of the VALUE builder of a dictionary
is determined (values never receive `serialize_default`).  `NoDictKey` is the second clause of `Safe` (the
key builder of a dictionary is not itself a dictionary) — `build_builder` only constructs such builders.
-/
namespace SaModel.Build
open SaModel SaModel.Spec

/-- same length, determined rows unchanged -/
def Refines (new old : H) : Prop :=
  new.length = old.length ∧ ∀ (i : Nat) (x : LVal), old[i]? = some (some x) → new[i]? = some (some x)

/-- the key clause the dictionary builders really maintain: in range, or the placeholder `0` of a non-nullable key
builder (pushed by `serialize_default` below a null ancestor) -/
def KeysH (idx : B) (index : List String) : Prop :=
  ∀ k ∈ dec idx, ∀ j : Int, k = .int j → 0 ≤ j ∧ (j.toNat < index.length ∨ (j = 0 ∧ idx.isNullable = false))

mutual
/-- the state invariant without `Safe`: `WFB` with the dictionary key clause weakened to `KeysH` -/
def WFH : B → Prop
  | .null _ _ => True
  | .unknownVariant _ => True
  | .leaf _ _ v vals => VLen v vals.length
  | .bytes _ _ v offs data => OffsOK offs data.length ∧ VLen v (offs.length - 1)
  | .bytesView _ _ v views buf =>
    VLen v views.length ∧ (∀ d ∈ views, (decodeView [buf] d).isOk = true) ∧ buf.length < 2 ^ 32
  | .fixedSizeBinary _ n len v buf _ => VLen v len ∧ buf.length = len * n
  | .list _ _ _ v offs el => OffsOK offs (dec el).length ∧ VLen v (offs.length - 1) ∧ WFH el
  | .fixedSizeList _ _ n len v _ el => VLen v len ∧ (dec el).length = len * n ∧ WFH el
  | .map _ _ v offs ks vs =>
    OffsOK offs (dec ks).length ∧ (dec vs).length = (dec ks).length ∧ VLen v (offs.length - 1) ∧ WFH ks ∧ WFH vs
  | .struct _ len v fs cached _ seen =>
    VLen v len ∧ WFHL fs len ∧ seen.length = fs.length ∧ fs.names.Nodup ∧ CacheInv fs.names cached
  | .dictionary _ idx vals index =>
    WFH idx ∧ WFH vals ∧ index.Nodup ∧
    (dec vals).length = index.length ∧
    KeysH idx index ∧
    DictVals vals index ∧
    (∀ r ∈ decH vals, r.isSome = true)
  | .union _ fs types offs cur =>
    types.length = offs.length ∧ cur.length = fs.length ∧ WFHU fs cur ∧
    (∀ to ∈ types.zip offs,
      0 ≤ to.1 ∧ 0 ≤ to.2 ∧ ∃ c, fs.get? to.1.toNat = some c ∧ to.2.toNat < (dec c.1).length)
def WFHL : BL → Nat → Prop
  | .nil, _ => True
  | .cons b _ r, len => WFH b ∧ (dec b).length = len ∧ WFHL r len
def WFHU : BL → List Int → Prop
  | .nil, _ => True
  | .cons b _ r, cur => WFH b ∧ cur.head? = some ((dec b).length : Int) ∧ WFHU r cur.tail
end

mutual
/-- the second clause of `Safe`: the KEY builder of a dictionary is not itself a dictionary.  A property of the schema
(invariant under `takeRest`); every builder `build_builder` constructs has it (`isIntDT k` is checked). -/
def NoDictKey : B → Prop
  | .list _ _ _ _ _ el => NoDictKey el
  | .fixedSizeList _ _ _ _ _ _ el => NoDictKey el
  | .map _ _ _ _ ks vs => NoDictKey ks ∧ NoDictKey vs
  | .struct _ _ _ fs _ _ _ => NoDictKeyL fs
  | .dictionary _ idx vals _ => idx.isDict = false ∧ NoDictKey idx ∧ NoDictKey vals
  | .union _ fs _ _ _ => NoDictKeyL fs
  | _ => True
def NoDictKeyL : BL → Prop
  | .nil => True
  | .cons b _ r => NoDictKey b ∧ NoDictKeyL r
end

/-- `fs` = `fs0` with the observable rows `adds[j]` appended to child `j` (rows of `fs0` that were not determined may
have changed) -/
def ExtLH : BL → BL → List H → Prop
  | .nil, .nil, [] => True
  | .cons b0 m0 r0, .cons b m r, a :: as =>
    m = m0 ∧ WFH b ∧ Refines (decH b) (decH b0 ++ a) ∧ ExtLH r0 r as
  | _, _, _ => False

end SaModel.Build
