import SaModel.Lemmas.MappingInd
import SaModel.Lemmas.C03Total
import SaModel.Lemmas.SchemaAll
/-
The schema side of C03 / C01 for TRACED schemas.  The documented mapping of schema tracing (`Trace.Spec.mapping`,
Trace/Mapping.lean — by `Props.C08.C08_from_type` it is what `from_type` returns, for every type description and all
options) never produces a `FixedSizeBinary` column, and its union type ids are the declaration indices 0 … 127.  Hence
every field it produces satisfies `SchemaOKF` (the exclusion of the known finding FixedSizeBinary(0)) and the typing
invariant `typedF` (sizes `i32`, type ids `i8`) — provided the user's overwrites do (an overwritten field is taken as
given):

    mapping_good      : (∀ kv ∈ o.overwrites, GoodF kv.2) → mapping o name path nl ty = ok f → GoodF f
    fromTypeSpec_good : … → fromTypeSpec o ty = ok fields → ∀ f ∈ fields, GoodF f
-/
namespace SaModel.Lemmas.C03
open SaModel SaModel.Build SaModel.Spec SaModel.Trace SaModel.Trace.Spec

/-- what C03 / the completeness of `to_marrow` ask of a field: no `FixedSizeBinary(0)`, integer parameters of their
Rust width -/
def GoodF (f : Field) : Prop := SchemaOKF f ∧ typedF f = true

def GoodFs (fs : List Field) : Prop := SchemaOKFs (Fields.ofList fs) ∧ typedFs (Fields.ofList fs) = true

/-- union children whose type ids are at most 127 -/
def GoodU (us : List (Int × Field)) : Prop := SchemaOKU (UFields.ofList us) ∧ typedU (UFields.ofList us) = true

theorem GoodFs_nil : GoodFs [] := ⟨trivial, rfl⟩

theorem GoodFs_cons {f : Field} {fs : List Field} (hf : GoodF f) (hfs : GoodFs fs) : GoodFs (f :: fs) := by
  refine ⟨?_, ?_⟩
  · simp only [Fields.ofList, SchemaOKFs]; exact ⟨hf.1, hfs.1⟩
  · simp only [Fields.ofList, typedFs, hf.2, hfs.2, Bool.and_self]

theorem GoodU_nil : GoodU [] := ⟨trivial, rfl⟩

theorem GoodU_cons {i : Nat} {f : Field} {us : List (Int × Field)} (hi : ¬ i > 127) (hf : GoodF f) (hus : GoodU us) :
    GoodU ((Int.ofNat i, f) :: us) := by
  refine ⟨?_, ?_⟩
  · simp only [UFields.ofList, SchemaOKU]; exact ⟨hf.1, hus.1⟩
  · have : (-128 : Int) ≤ Int.ofNat i ∧ Int.ofNat i ≤ 127 := by simp only [Int.ofNat_eq_natCast]; omega
    simp only [UFields.ofList, typedU, this, hf.2, hus.2, and_self, decide_true, Bool.and_self]

theorem GoodF_struct {name : String} {fs : List Field} {nl : Bool} {md : Metadata} (h : GoodFs fs) :
    GoodF (.mk name (.struct (Fields.ofList fs)) nl md) := by
  refine ⟨?_, ?_⟩
  · simp only [SchemaOKF, SchemaOK]; exact h.1
  · simp only [typedF, typedDT]; exact h.2

theorem GoodF_leaf (name : String) (dt : DataType) (nl : Bool) (md : Metadata) (h1 : SchemaOK dt) (h2 : typedDT dt = true) :
    GoodF (.mk name dt nl md) := ⟨by simp only [SchemaOKF]; exact h1, by simp only [typedF]; exact h2⟩

theorem GoodF_string (o : Options) (name : String) (nl : Bool) : GoodF (stringField o name nl) := by
  unfold stringField Options.string_type
  split <;> split <;> exact GoodF_leaf _ _ _ _ (by simp [SchemaOK]) (by simp [typedDT])

/-- the clauses of `GoodF` along the documented mapping (`MappingCases`, Lemmas/MappingInd.lean) -/
theorem good_cases (o : Options) (ho : ∀ kv ∈ o.overwrites, GoodF kv.2) :
    MappingCases o GoodF GoodFs (fun _ us => GoodU us) where
  overwrite := ho
  null _ := GoodF_leaf _ _ _ _ (by simp [SchemaOK]) (by simp [typedDT])
  bool _ _ := GoodF_leaf _ _ _ _ (by simp [SchemaOK]) (by simp [typedDT])
  int t _ _ := by cases t <;> exact GoodF_leaf _ _ _ _ (by simp [intDataType, SchemaOK]) (by simp [intDataType, typedDT])
  f32 _ _ := GoodF_leaf _ _ _ _ (by simp [SchemaOK]) (by simp [typedDT])
  f64 _ _ := GoodF_leaf _ _ _ _ (by simp [SchemaOK]) (by simp [typedDT])
  bytes _ _ := GoodF_leaf _ _ _ _ (by simp [SchemaOK]) (by simp [typedDT])
  string := GoodF_string o
  list _ _ _ ih :=
    GoodF_leaf _ _ _ _ (by split <;> (simp only [SchemaOK]; exact ih.1)) (by split <;> (simp only [typedDT]; exact ih.2))
  tuple _ _ _ := GoodF_struct
  struct _ _ _ := GoodF_struct
  map _ _ _ _ ihk ihv := by
    have hs := GoodFs_cons ihk (GoodFs_cons ihv GoodFs_nil)
    exact GoodF_leaf _ _ _ _ (by simp only [SchemaOK, SchemaOKF]; exact hs.1) (by simp only [typedDT, typedF]; exact hs.2)
  enumStrings _ _ := by
    unfold Options.string_type
    split <;> exact GoodF_leaf _ _ _ _ (by simp [SchemaOK]) (by simp [typedDT])
  union _ _ _ ih := GoodF_leaf _ _ _ _ (by simp only [SchemaOK]; exact ih.1) (by simp only [typedDT]; exact ih.2)
  nil := GoodFs_nil
  cons _ _ := GoodFs_cons
  unil _ := GoodU_nil
  ucons _ _ _ := GoodU_cons

theorem mapping_good (o : Options) (ho : ∀ kv ∈ o.overwrites, GoodF kv.2) :
    ∀ (ty : Ty) (name path : String) (nl : Bool) (f : Field), mapping o name path nl ty = .ok f → GoodF f :=
  (good_cases o ho).mapping

theorem mappingTys_good (o : Options) (ho : ∀ kv ∈ o.overwrites, GoodF kv.2) :
    ∀ (ts : Tys) (path : String) (i : Nat) (fs : List Field), mappingTys o path i ts = .ok fs → GoodFs fs :=
  (good_cases o ho).tys

theorem mappingFields_good (o : Options) (ho : ∀ kv ∈ o.overwrites, GoodF kv.2) :
    ∀ (tfs : TyFields) (path : String) (fs : List Field), mappingFields o path tfs = .ok fs → GoodFs fs :=
  (good_cases o ho).fields

theorem mappingVariants_good (o : Options) (ho : ∀ kv ∈ o.overwrites, GoodF kv.2) :
    ∀ (vs : TyVariants) (path : String) (i : Nat) (us : List (Int × Field)), mappingVariants o path i vs = .ok us → GoodU us :=
  (good_cases o ho).variants

theorem SchemaOKFs_toList : ∀ (fs : Fields), SchemaOKFs fs → ∀ f ∈ fs.toList, SchemaOKF f :=
  fun fs => (Fields.forall_iff trivial (fun _ _ => Iff.rfl) fs).mp

/-- the documented result of `from_type`: every field satisfies `SchemaOKF`, and the field list is well typed -/
theorem fromTypeSpec_good (o : Options) (ho : ∀ kv ∈ o.overwrites, GoodF kv.2) (ty : Ty) (fields : List Field)
    (h : fromTypeSpec o ty = .ok fields) :
    (∀ f ∈ fields, SchemaOKF f) ∧ typedFs (Fields.ofList fields) = true := by
  obtain ⟨n, children, md, hr, rfl⟩ := fromTypeSpec_root h
  obtain ⟨h1, h2⟩ := mapping_good o ho ty _ _ _ _ hr
  simp only [SchemaOKF, SchemaOK] at h1
  simp only [typedF, typedDT] at h2
  exact ⟨SchemaOKFs_toList children h1, by rw [Fields.ofList_toList]; exact h2⟩

end SaModel.Lemmas.C03
