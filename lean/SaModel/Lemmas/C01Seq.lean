import SaModel.Lemmas.C01Raw
/-
R2 vocabulary that mentions no invariant: the specification of a sequence-like value (`seqSpec`), what the element
loops have to show (`ElemsSpec`, `CountSpec`), the variants of a union builder (`ShapeU.get`), and the small facts about
field names, offsets and scalar data types both forms of R2 use.
-/
namespace SaModel.Build
open SaModel SaModel.Spec
open SaModel.Lemmas.C03 (ViewSmall ViewSmallL)

/-- the specification of a sequence-like value (`seq`, `tuple`, `tuple_struct`) at a field; `pos`: the value is a
positional record presentation (tuple / tuple struct — a plain sequence is not) -/
def seqSpec (ext : Ext) (pos : Bool) (dt : DataType) (md : Metadata) (xs : SVals) : R LVal :=
  if isUnknownVariant dt md then fail "unknown variant" else
  match dt with
  | .list (.mk _ cdt cn cmd) | .largeList (.mk _ cdt cn cmd) => do
    pure (.list (LVals.ofList (← interpAll ext cdt cn cmd xs)))
  | .fixedSizeList (.mk _ cdt cn cmd) n => do
    let vs ← interpAll ext cdt cn cmd xs
    if (vs.length : Int) = n then pure (.list (LVals.ofList vs)) else fail "wrong element count"
  | .binary | .largeBinary | .binaryView => do pure (.bin (← specBytes xs))
  | .fixedSizeBinary n => do
    let b ← specBytes xs
    if (b.length : Int) = n then pure (.bin b) else fail "wrong length"
  | .struct fs =>
    if pos then structOf fs.toList (fun f => interpNth ext f.dataType f.nullable f.metadata (indexOfName (fs.toList.map Field.name) f.name |>.getD 0) xs)
    else fail "a sequence is not a presentation of a record"
  | _ => fail "not a sequence type"

/- the two sides are the same `if` over matches on `dt` with the same arms -/
theorem interpDT_seq (ext : Ext) (dt n md) (xs : SVals) : interpDT ext dt n md (.seq xs) = seqSpec ext false dt md xs := by
  rw [interpDT.eq_def]; rfl
theorem interpDT_tuple (ext : Ext) (dt n md) (xs : SVals) : interpDT ext dt n md (.tuple xs) = seqSpec ext true dt md xs := by
  rw [interpDT.eq_def]; rfl
theorem interpDT_tupleStruct (ext : Ext) (dt n md) (nm : String) (xs : SVals) :
    interpDT ext dt n md (.tupleStruct nm xs) = seqSpec ext true dt md xs := by
  rw [interpDT.eq_def]; rfl

def ElemsSpec (ext : Ext) (N : Prop) (xs : SVals) (pe : Bool → B → List Int → R (B × List Int)) : Prop :=
  ∀ large el offs r cdt cn cmd ls, (N → narrowDT cdt = true) → WFB el → Safe el → Shape el cdt cn cmd → pe large el offs = .ok r →
    dec r.1 = dec el ++ ls → ViewSmall r.1 → interpAll ext cdt cn cmd xs = .ok ls

def CountSpec (ext : Ext) (N : Prop) (xs : SVals) (pc : B → Nat → R (B × Nat)) : Prop :=
  ∀ el c r cdt cn cmd ls, (N → narrowDT cdt = true) → WFB el → Safe el → Shape el cdt cn cmd → pc el c = .ok r →
    dec r.1 = dec el ++ ls → ViewSmall r.1 → interpAll ext cdt cn cmd xs = .ok ls

theorem getD_replicate_nil (n j : Nat) : (List.replicate n ([] : List LVal)).getD j [] = [] := by
  simp only [List.getD_eq_getElem?_getD, List.getElem?_replicate]
  split <;> rfl

/-! ### union rows -/

theorem ShapeU.get : ∀ (fs : BL) (ufs : UFields) (k i : Nat) (c : B) (m : FieldMeta), ShapeU fs ufs k →
    fs.get? i = some (c, m) →
    ∃ fname fdt fn fmd, ufs.toList[i]? = some (((k + i : Nat) : Int), .mk fname fdt fn fmd) ∧ Shape c fdt fn fmd
  | .nil, .nil, _, _, _, _, _, h => by simp [BL.get?] at h
  | .cons b m r, .cons tid (.mk fname fdt fn fmd) rest, k, 0, c, m', hs, h => by
    simp only [ShapeU] at hs
    simp [BL.get?] at h; obtain ⟨rfl, rfl⟩ := h
    exact ⟨fname, fdt, fn, fmd, by simp [UFields.toList, hs.1], hs.2.1⟩
  | .cons b m r, .cons tid (.mk fname fdt fn fmd) rest, k, i + 1, c, m', hs, h => by
    simp only [ShapeU] at hs
    simp only [BL.get?] at h
    obtain ⟨a1, a2, a3, a4, h1, h2⟩ := ShapeU.get r rest (k + 1) i c m' hs.2.2 h
    refine ⟨a1, a2, a3, a4, ?_, h2⟩
    have e : k + 1 + i = k + (i + 1) := by omega
    simpa [UFields.toList, e] using h1
  | .nil, .cons _ _ _, _, _, _, _, hs, _ => by simp [ShapeU] at hs
  | .cons _ _ _, .nil, _, _, _, _, hs, _ => by simp [ShapeU] at hs

/-! ### names -/

theorem key_at {names : List String} {key fname : String} {idx j : Nat} (hnd : names.Nodup)
    (hi : indexOfName names key = some idx) (hj : names[j]? = some fname) : (key == fname) = decide (idx = j) := by
  by_cases hij : idx = j
  · subst hij
    have := SaModel.Props.C11Front.indexOfName_some names key idx hi
    rw [this] at hj; cases hj
    simp
  · have : key ≠ fname := by
      intro he; subst he
      have := SaModel.Props.C11Front.indexOfName_of_get names hnd key j hj
      rw [hi] at this; cases this; exact hij rfl
    simp [this, hij]

theorem key_none {names : List String} {key fname : String} {j : Nat} (hnd : names.Nodup)
    (hi : indexOfName names key = none) (hj : names[j]? = some fname) : (key == fname) = false := by
  have : key ≠ fname := by
    intro he; subst he
    have := SaModel.Props.C11Front.indexOfName_of_get names hnd key j hj
    rw [hi] at this; cases this
  simp [this]

theorem names_at {fs : BL} {sfs : Fields} (hsl : ShapeL fs sfs) {j : Nat} {f : Field} (hj : sfs.toList[j]? = some f) :
    fs.names[j]? = some f.name := by
  rw [ShapeL.names fs sfs hsl]; simp [hj]

theorem ShapeL.set_push {fs : BL} {sfs : Fields} {i : Nat} {c c' : B} {m : FieldMeta} (hsl : ShapeL fs sfs)
    (hget : fs.get? i = some (c, m)) (ht : takeRest c' = takeRest c) : ShapeL (fs.set i c') sfs :=
  ShapeL.of_takeRest (takeRestAll_set fs i c c' m hget ht) hsl

theorem incrementLast_form {c large : Bool} {offs offs' : List Int} {inc : Nat}
    (h : incrementLast c large offs inc = .ok offs') : ∃ base l, offs = base ++ [l] := by
  unfold incrementLast at h
  split at h
  · simp [fail] at h
  · rename_i l hl
    obtain ⟨ys, rfl⟩ := List.getLast?_eq_some_iff.1 hl
    exact ⟨ys, l, rfl⟩

/-! ### scalar data types -/

def isScalarDT (dt : DataType) : Bool :=
  match dt with
  | .null | .utf8 | .largeUtf8 | .binary | .largeBinary | .fixedSizeBinary _ | .utf8View | .binaryView
  | .dictionary _ _ => true
  | _ => (kindOf dt).isSome

theorem pushScalar_scalarDT (ext : Ext) (b : B) (x : SVal) (b' : B) (dt : DataType) (n : Bool) (md : Metadata)
    (hs : Shape b dt n md) (h : pushScalar ext b x = .ok b') : isScalarDT dt = true := by
  cases b with
  | null p len => simp only [Shape] at hs; rw [hs.1]; rfl
  | leaf p k v vals =>
    simp only [Shape] at hs
    cases dt <;> simp [kindOf] at hs <;> simp [isScalarDT, kindOf]
  | bytes p ty v offs data => simp only [Shape] at hs; rw [hs.1]; cases ty <;> rfl
  | fixedSizeBinary p k len v buf cur => simp only [Shape] at hs; rw [hs.1]; rfl
  | bytesView _ ty _ _ _ => simp only [Shape] at hs; rw [hs.1]; cases ty <;> rfl
  | dictionary _ _ _ _ => simp only [Shape] at hs; obtain ⟨⟨kdt, vdt, rfl, _⟩, _⟩ := hs; rfl
  | unknownVariant _ => simp [pushScalar, fail] at h
  | list _ _ _ _ _ _ => simp [pushScalar, notSupported, fail] at h
  | fixedSizeList _ _ _ _ _ _ _ => simp [pushScalar, notSupported, fail] at h
  | map _ _ _ _ _ _ => simp [pushScalar, notSupported, fail] at h
  | struct _ _ _ _ _ _ _ => simp [pushScalar, notSupported, fail] at h
  | union _ _ _ _ _ => simp [pushScalar, notSupported, fail] at h

theorem interpDT_bytes_nonlist (ext : Ext) {dt : DataType} (n : Bool) (md : Metadata) (bs : Bytes)
    (h1 : ∀ f, dt ≠ .list f) (h2 : ∀ f, dt ≠ .largeList f) :
    interpDT ext dt n md (.bytes bs) =
      if isUnknownVariant dt md then fail "unknown variant" else interpScalar ext dt (.bytes bs) := by
  simp only [interpDT]
  split
  · rfl
  · split
    · exact absurd rfl (h1 _)
    · exact absurd rfl (h2 _)
    · rfl

theorem interpDT_unitVariant_nonunion (ext : Ext) {dt : DataType} (n : Bool) (md : Metadata) (a : String) (i : Nat)
    (vn : String) (h : ∀ ufs mode, dt ≠ .union ufs mode) :
    interpDT ext dt n md (.unitVariant a i vn) = interpScalar ext dt (.unitVariant a i vn) := by
  simp only [interpDT]

theorem interpDT_bytes_scalar (ext : Ext) (dt : DataType) (n : Bool) (md : Metadata) (bs : Bytes)
    (h : isScalarDT dt = true) :
    interpDT ext dt n md (.bytes bs) = if isUnknownVariant dt md then fail "unknown variant" else interpScalar ext dt (.bytes bs) :=
  interpDT_bytes_nonlist ext n md bs (fun _ e => by subst e; cases h) (fun _ e => by subst e; cases h)

theorem interpDT_unitVariant_scalar (ext : Ext) (dt : DataType) (n : Bool) (md : Metadata) (a : String) (i : Nat)
    (vn : String) (h : isScalarDT dt = true) :
    interpDT ext dt n md (.unitVariant a i vn) = interpScalar ext dt (.unitVariant a i vn) :=
  interpDT_unitVariant_nonunion ext n md a i vn (fun _ _ e => by subst e; cases h)

/-! ### what the struct loops leave alone -/

theorem FieldsSkel.next {pf : SS → R SS} (h : ∀ s1 s2, pf s1 = .ok s2 → SSkel s2 s1) (n : Nat) :
    ∀ s1 s2, pf { s1 with next := n } = .ok s2 → SSkel s2 s1 :=
  fun s1 s2 hp => (h _ s2 hp).trans (SSkel.next s1 n)

theorem pushStructEntries_keys (ext : Ext) : ∀ (es : SEntries) (s s' : SS), pushStructEntries ext s es = .ok s' →
    keysAreStrings es = .ok ()
  | .nil, _, _, _ => by simp [keysAreStrings, specKey_eq, normErr_ok, normErr_error]
  | .cons k x rest, s, s', h => by
    simp only [pushStructEntries] at h
    obtain ⟨key, hk, h⟩ := (bind_ok _ _ _).1 h
    simp only [keysAreStrings, specKey_eq, normErr_ok, normErr_error, hk, bind, Except.bind]
    split at h
    · exact pushStructEntries_keys ext rest _ s' h
    · obtain ⟨s1, _, h⟩ := (bind_ok _ _ _).1 h
      exact pushStructEntries_keys ext rest _ s' h

theorem pushStructOps_keys (ext : Ext) : ∀ (ops : SMapOps) (s s' : SS), pushStructOps ext s ops = .ok s' →
    opsKeysAreStrings ops = .ok ()
  | .nil, _, _, _ => by simp [opsKeysAreStrings, specKey_eq, normErr_ok, normErr_error]
  | .key k rest, s, s', h => by
    rw [pushStructOps] at h
    obtain ⟨key, hk, h⟩ := (bind_ok _ _ _).1 h
    simp only [opsKeysAreStrings, specKey_eq, normErr_ok, normErr_error, hk, bind, Except.bind]
    exact pushStructOps_keys ext rest _ s' h
  | .value x rest, s, s', h => by
    rw [pushStructOps] at h
    simp only [opsKeysAreStrings, specKey_eq, normErr_ok, normErr_error]
    split at h
    · obtain ⟨s1, _, h⟩ := (bind_ok _ _ _).1 h
      exact pushStructOps_keys ext rest _ s' h
    · exact pushStructOps_keys ext rest _ s' h

end SaModel.Build
