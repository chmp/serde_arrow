import SaModel.Roundtrip.Bridge
/-
C04: `Trace.Spec.mapping` (SaModel/Trace/Mapping.lean, what C08 proves `from_type` to be) against `Roundtrip.mappingDT`
(SaModel/Roundtrip/Types.lean, what C04's `interp_ser` / `cast_lv` are about) — the facts both directions of the comparison in
Lemmas/C04FromType.lean use: the options seen through `viewOpts`, "carries no data" / "enum without data" on the two descriptions
of a type, what a successful bind and a passed variant-count guard say.
-/
namespace SaModel.Roundtrip
open SaModel SaModel.Trace

mutual
def noEnum : Ty → Bool
  | .prim _ | .unit | .unitStruct _ => true
  | .option t | .newtype _ t | .vec t => noEnum t
  | .map k v => noEnum k && noEnum v
  | .tuple ts | .tupleStruct _ ts => noEnumTys ts
  | .struct _ fs => noEnumFields fs
  | .enum _ _ => false
def noEnumTys : Tys → Bool
  | .nil => true
  | .cons t r => noEnum t && noEnumTys r
def noEnumFields : TFields → Bool
  | .nil => true
  | .cons _ _ t r => noEnum t && noEnumFields r
end

theorem overwritten_none (O : Options) (h : O.overwrites = []) (name path : String) (k : Unit → R Field) :
    Spec.overwritten O name path k = k () := by
  simp [Spec.overwritten, h]

theorem bind_ok {α β} {x : R α} {f : α → R β} {b : β} (h : (x >>= f) = .ok b) : ∃ a, x = .ok a ∧ f a = .ok b :=
  R.bind_ok_inv h

theorem strDT_view (O : Options) : strDT (viewOpts O) = O.string_type := rfl

theorem view_large (O : Options) : (viewOpts O).sequenceAsLargeList = O.sequence_as_large_list := rfl
theorem view_dict (O : Options) : (viewOpts O).stringDictionaryEncoding = O.string_dictionary_encoding := rfl

theorem view_enumStr (O : Options) : (viewOpts O).enumsWithoutDataAsStrings = O.enums_without_data_as_strings := rfl
theorem view_allowNull (O : Options) : (viewOpts O).allowNullFields = O.allow_null_fields := rfl

/-- "carries no data" is the same predicate on both descriptions of the type -/
theorem isNullTy_trace : ∀ (t : Ty), Spec.isNullTy (toTraceTy t) = isNullTy t
  | .prim p => by cases p <;> rfl
  | .unit => rfl
  | .unitStruct _ => rfl
  | .option t => by simp only [toTraceTy, Spec.isNullTy, isNullTy]; exact isNullTy_trace t
  | .newtype _ t => by simp only [toTraceTy, Spec.isNullTy, isNullTy]; exact isNullTy_trace t
  | .vec _ => rfl
  | .tuple _ => rfl
  | .tupleStruct _ _ => rfl
  | .struct _ _ => rfl
  | .enum _ _ => rfl
  | .map _ _ => rfl

/-- "enum without data" is the same predicate on both descriptions of the type -/
theorem withoutData_trace : ∀ (vars : Variants), Spec.withoutData (toTraceVariants vars) = vars.withoutData
  | .nil => rfl
  | .cons _ .unit r => by
    simp only [toTraceVariants, Spec.withoutData, Variants.withoutData]; exact withoutData_trace r
  | .cons _ (.newtype t) r => by
    simp only [toTraceVariants, Spec.withoutData, Variants.withoutData, isNullTy_trace, withoutData_trace r]
  | .cons _ (.tuple _) _ => rfl
  | .cons _ (.struct _) _ => rfl

/-- the guard `if i > 127 then fail …` of `Spec.mappingVariants`, passed -/
theorem guard_ok {β} {i : Nat} {m : String} {k k' : R β} {b : β}
    (h : (if i > 127 then ((fail m : R PUnit) >>= fun _ => k') else k) = .ok b) : i ≤ 127 ∧ k = .ok b := by
  by_cases hi : i > 127
  · rw [if_pos hi] at h; cases h
  · rw [if_neg hi] at h; exact ⟨by omega, h⟩

end SaModel.Roundtrip
