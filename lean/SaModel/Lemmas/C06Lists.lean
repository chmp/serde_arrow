import SaModel.Trace.FromSamples
/-
C06: index-based facts about the child lists of the tracer (`Tracers`, `TFields`, `Variants`) and the
functions of `tracer.rs` that edit them (`set`, `push`, `setLastSeen`, `ensure_field`, `end_`, `markFrom`, the two tuple
growth loops, `padNone`).  The tracer types are mutual inductives with their own list types, so all statements are
phrased through `get?`; for `Tracers` and `Variants` they are the facts of `List` carried over along `toList`.  The last
section carries an arbitrary predicate on the children through the edits.
-/
namespace SaModel.Lemmas.C06
open SaModel SaModel.Trace

/-! The vector is its `toList`: the index facts are those of `List`. -/

theorem Tracers.get?_eq : ∀ (ts : Tracers) (i : Nat), ts.get? i = ts.toList[i]?
  | .nil, _ => rfl
  | .cons _ _, 0 => rfl
  | .cons _ r, i + 1 => by rw [Tracers.get?, Tracers.toList, List.getElem?_cons_succ, Tracers.get?_eq r i]

theorem Tracers.length_eq : ∀ ts : Tracers, ts.length = ts.toList.length
  | .nil => rfl
  | .cons _ r => by rw [Tracers.length, Tracers.toList, List.length_cons, Tracers.length_eq r]

theorem Tracers.toList_set : ∀ (ts : Tracers) (i : Nat) (x : Tracer), (ts.set i x).toList = ts.toList.set i x
  | .nil, _, _ => rfl
  | .cons _ _, 0, _ => rfl
  | .cons _ r, i + 1, x => by rw [Tracers.set, Tracers.toList, Tracers.toList, List.set_cons_succ, Tracers.toList_set r i x]

theorem Tracers.toList_push : ∀ (ts : Tracers) (x : Tracer), (ts.push x).toList = ts.toList ++ [x]
  | .nil, _ => rfl
  | .cons _ r, x => by rw [Tracers.push, Tracers.toList, Tracers.toList, List.cons_append, Tracers.toList_push r x]

theorem Tracers.get?_none_iff (ts : Tracers) (i : Nat) : ts.get? i = none ↔ ts.length ≤ i := by
  rw [Tracers.get?_eq, Tracers.length_eq]; exact List.getElem?_eq_none_iff

theorem Tracers.forall_get?_cons (t : Tracer) (r : Tracers) (P : Nat → Tracer → Prop) :
    (∀ i x, (Tracers.cons t r).get? i = some x → P i x) ↔ P 0 t ∧ ∀ i x, r.get? i = some x → P (i + 1) x :=
  ⟨fun h => ⟨h 0 t rfl, fun i => h (i + 1)⟩, fun h i x hx => by
    cases i with
    | zero => cases hx; exact h.1
    | succ i => exact h.2 i x hx⟩

theorem Tracers.get?_lt {ts : Tracers} {i : Nat} {t : Tracer} (h : ts.get? i = some t) : i < ts.length := by
  rw [Tracers.get?_eq] at h
  rw [Tracers.length_eq]; exact (List.getElem?_eq_some_iff.mp h).1

theorem Tracers.get?_of_lt {ts : Tracers} {i : Nat} (h : i < ts.length) : ∃ t, ts.get? i = some t := by
  rw [Tracers.length_eq] at h
  exact ⟨_, by rw [Tracers.get?_eq]; exact List.getElem?_eq_getElem h⟩

theorem Tracers.length_set (ts : Tracers) (i : Nat) (x : Tracer) : (ts.set i x).length = ts.length := by
  rw [Tracers.length_eq, Tracers.toList_set, List.length_set, ← Tracers.length_eq]

theorem Tracers.get?_set_eq (ts : Tracers) (i : Nat) (x : Tracer) (h : i < ts.length) :
    (ts.set i x).get? i = some x := by
  rw [Tracers.length_eq] at h
  rw [Tracers.get?_eq, Tracers.toList_set]; exact List.getElem?_set_self h

theorem Tracers.get?_set_ne (ts : Tracers) (i j : Nat) (x : Tracer) (h : i ≠ j) :
    (ts.set i x).get? j = ts.get? j := by
  rw [Tracers.get?_eq, Tracers.toList_set, Tracers.get?_eq]; exact List.getElem?_set_ne h

theorem Tracers.length_push (ts : Tracers) (x : Tracer) : (ts.push x).length = ts.length + 1 := by
  rw [Tracers.length_eq, Tracers.toList_push, List.length_append, ← Tracers.length_eq]; rfl

theorem Tracers.get?_push_lt (ts : Tracers) (x : Tracer) (i : Nat) (h : i < ts.length) :
    (ts.push x).get? i = ts.get? i := by
  rw [Tracers.length_eq] at h
  rw [Tracers.get?_eq, Tracers.toList_push, Tracers.get?_eq]; exact List.getElem?_append_left h

theorem Tracers.get?_push_len (ts : Tracers) (x : Tracer) : (ts.push x).get? ts.length = some x := by
  rw [Tracers.get?_eq, Tracers.toList_push, Tracers.length_eq]; exact List.getElem?_concat_length

theorem Tracers.get?_markFrom : ∀ (ts : Tracers) (k i : Nat),
    (ts.markFrom k).get? i = (ts.get? i).map (fun t => if k ≤ i then t.mark_nullable else t)
  | .nil, _, _ => rfl
  | .cons _ _, 0, 0 => rfl
  | .cons _ r, 0, i + 1 => by
    simp only [Tracers.markFrom, Tracers.get?]
    rw [Tracers.get?_markFrom r 0 i]; simp
  | .cons _ _, k + 1, 0 => by simp [Tracers.markFrom, Tracers.get?]
  | .cons _ r, k + 1, i + 1 => by
    simp only [Tracers.markFrom, Tracers.get?]
    rw [Tracers.get?_markFrom r k i]; simp

theorem Tracers.length_markFrom : ∀ (ts : Tracers) (k : Nat), (ts.markFrom k).length = ts.length
  | .nil, _ => rfl
  | .cons _ r, 0 => by simp [Tracers.markFrom, Tracers.length, Tracers.length_markFrom r 0]
  | .cons _ r, k + 1 => by simp [Tracers.markFrom, Tracers.length, Tracers.length_markFrom r k]

/-- `k` pushes, each new element computed from the vector so far -/
def growN (g : Tracers → Tracer) : Nat → Tracers → Tracers
  | 0, ts => ts
  | k + 1, ts => growN g k (ts.push (g ts))

theorem foldl_growN (g : Tracers → Tracer) : ∀ (l : List Nat) (ts : Tracers),
    l.foldl (fun acc _ => acc.push (g acc)) ts = growN g l.length ts
  | [], _ => rfl
  | _ :: l, ts => by simp only [List.foldl, List.length, growN]; exact foldl_growN g l _

theorem growN_length (g : Tracers → Tracer) : ∀ (k : Nat) (ts : Tracers), (growN g k ts).length = ts.length + k
  | 0, _ => rfl
  | k + 1, ts => by simp only [growN]; rw [growN_length g k, Tracers.length_push]; omega

theorem growN_get?_lt (g : Tracers → Tracer) : ∀ (k : Nat) (ts : Tracers) (i : Nat), i < ts.length →
    (growN g k ts).get? i = ts.get? i
  | 0, _, _, _ => rfl
  | k + 1, ts, i, h => by
    simp only [growN]
    rw [growN_get?_lt g k _ i (by rw [Tracers.length_push]; omega), Tracers.get?_push_lt _ _ _ h]

/-- a slot created by `growN` at position `i` is `g acc` for a vector `acc` of length `i` -/
theorem growN_get?_new_at (g : Tracers → Tracer) (Q : Nat → Tracer → Prop) (hQ : ∀ acc, Q acc.length (g acc)) :
    ∀ (k : Nat) (ts : Tracers) (i : Nat) (t : Tracer), ts.length ≤ i → (growN g k ts).get? i = some t → Q i t
  | 0, ts, i, t, h, hg => by
    simp only [growN] at hg
    rw [(Tracers.get?_none_iff ts i).mpr h] at hg; cases hg
  | k + 1, ts, i, t, h, hg => by
    simp only [growN] at hg
    by_cases hi : i = ts.length
    · subst hi
      rw [growN_get?_lt g k _ _ (by rw [Tracers.length_push]; omega), Tracers.get?_push_len] at hg
      cases hg; exact hQ ts
    · exact growN_get?_new_at g Q hQ k _ i t (by rw [Tracers.length_push]; omega) hg

theorem growN_get?_new (g : Tracers → Tracer) (Q : Tracer → Prop) (hQ : ∀ acc, Q (g acc)) (k : Nat) (ts : Tracers)
    (i : Nat) (t : Tracer) : ts.length ≤ i → (growN g k ts).get? i = some t → Q t :=
  growN_get?_new_at g (fun _ => Q) hQ k ts i t

theorem growN_zero (g : Tracers → Tracer) (ts : Tracers) : growN g 0 ts = ts := rfl

theorem tupleGrowNullable_eq (path : String) (n : Nat) (ts : Tracers) :
    tupleGrowNullable path n ts =
      growN (fun acc => (Tracer.new (toString acc.length) (path ++ "." ++ toString acc.length)).mark_nullable)
        (n - ts.length) ts := by
  unfold tupleGrowNullable
  rw [foldl_growN]; simp

theorem field_tracer_grow_eq (path : String) (idx : Nat) (ts : Tracers) :
    field_tracer_grow path idx ts =
      growN (fun _ => Tracer.new (toString idx) (path ++ "." ++ toString idx)) (idx + 1 - ts.length) ts := by
  unfold field_tracer_grow
  rw [foldl_growN]; simp

theorem field_tracer_grow_of_lt (path : String) (idx : Nat) (ts : Tracers) (h : idx < ts.length) :
    field_tracer_grow path idx ts = ts := by
  rw [field_tracer_grow_eq]
  have : idx + 1 - ts.length = 0 := by omega
  rw [this]; rfl

theorem tupleGrowNullable_of_le (path : String) (n : Nat) (ts : Tracers) (h : n ≤ ts.length) :
    tupleGrowNullable path n ts = ts := by
  rw [tupleGrowNullable_eq]
  have : n - ts.length = 0 := by omega
  rw [this]; rfl

theorem mkTupleFields_length (path : String) (n : Nat) : ∀ k, (mkTupleFields path n k).length = k
  | 0 => rfl
  | k + 1 => by simp [mkTupleFields, Tracers.length, mkTupleFields_length path n k]

def lastSeen? : TFields → Nat → Option Nat
  | .nil, _ => none
  | .cons _ l _ _, 0 => some l
  | .cons _ _ _ r, i + 1 => lastSeen? r i

/-! The field list is its `toList` (name, counter, tracer): `get?` and `lastSeen?` are its two projections. -/

theorem TFields.get?_eq : ∀ (fs : TFields) (i : Nat), fs.get? i = fs.toList[i]?.map (·.2.2)
  | .nil, _ => rfl
  | .cons _ _ _ _, 0 => rfl
  | .cons _ _ _ r, i + 1 => by rw [TFields.get?, TFields.toList, List.getElem?_cons_succ, TFields.get?_eq r i]

theorem lastSeen?_eq : ∀ (fs : TFields) (i : Nat), lastSeen? fs i = fs.toList[i]?.map (·.2.1)
  | .nil, _ => rfl
  | .cons _ _ _ _, 0 => rfl
  | .cons _ _ _ r, i + 1 => by rw [lastSeen?, TFields.toList, List.getElem?_cons_succ, lastSeen?_eq r i]

theorem TFields.length_eq : ∀ fs : TFields, fs.length = fs.toList.length
  | .nil => rfl
  | .cons _ _ _ r => by rw [TFields.length, TFields.toList, List.length_cons, TFields.length_eq r]

theorem TFields.toList_set : ∀ (fs : TFields) (i : Nat) (x : Tracer),
    (fs.set i x).toList = fs.toList.modify i (fun e => (e.1, e.2.1, x))
  | .nil, i, _ => by cases i <;> rfl
  | .cons _ _ _ _, 0, _ => rfl
  | .cons _ _ _ r, i + 1, x => by
    rw [TFields.set, TFields.toList, TFields.toList, List.modify_succ_cons, TFields.toList_set r i x]

theorem TFields.toList_setLastSeen : ∀ (fs : TFields) (i s : Nat),
    (fs.setLastSeen i s).toList = fs.toList.modify i (fun e => (e.1, s, e.2.2))
  | .nil, i, _ => by cases i <;> rfl
  | .cons _ _ _ _, 0, _ => rfl
  | .cons _ _ _ r, i + 1, s => by
    rw [TFields.setLastSeen, TFields.toList, TFields.toList, List.modify_succ_cons, TFields.toList_setLastSeen r i s]

theorem TFields.toList_push : ∀ (fs : TFields) (n : String) (l : Nat) (x : Tracer),
    (fs.push n l x).toList = fs.toList ++ [(n, l, x)]
  | .nil, _, _, _ => rfl
  | .cons _ _ _ r, n, l, x => by
    rw [TFields.push, TFields.toList, TFields.toList, List.cons_append, TFields.toList_push r n l x]

theorem TFields.get?_none_iff (fs : TFields) (i : Nat) : fs.get? i = none ↔ fs.length ≤ i := by
  rw [TFields.get?_eq, TFields.length_eq, Option.map_eq_none_iff]; exact List.getElem?_eq_none_iff

theorem lastSeen?_none_iff (fs : TFields) (i : Nat) : lastSeen? fs i = none ↔ fs.length ≤ i := by
  rw [lastSeen?_eq, TFields.length_eq, Option.map_eq_none_iff]; exact List.getElem?_eq_none_iff

theorem TFields.get?_lt {fs : TFields} {i : Nat} {t : Tracer} (h : fs.get? i = some t) : i < fs.length :=
  Nat.lt_of_not_le fun hle => by rw [(TFields.get?_none_iff fs i).mpr hle] at h; cases h

theorem TFields.get?_of_lt {fs : TFields} {i : Nat} (h : i < fs.length) : ∃ t, fs.get? i = some t := by
  rw [TFields.length_eq] at h
  exact ⟨_, by rw [TFields.get?_eq, List.getElem?_eq_getElem h]; rfl⟩

theorem lastSeen?_lt {fs : TFields} {i l : Nat} (h : lastSeen? fs i = some l) : i < fs.length :=
  Nat.lt_of_not_le fun hle => by rw [(lastSeen?_none_iff fs i).mpr hle] at h; cases h

theorem lastSeen?_of_lt {fs : TFields} {i : Nat} (h : i < fs.length) : ∃ l, lastSeen? fs i = some l := by
  rw [TFields.length_eq] at h
  exact ⟨_, by rw [lastSeen?_eq, List.getElem?_eq_getElem h]; rfl⟩

theorem TFields.indexOf_lt : ∀ {fs : TFields} {k : String} {i : Nat}, fs.indexOf k = some i → i < fs.length
  | .nil, _, _, h => by simp [TFields.indexOf] at h
  | .cons n _ _ r, k, i, h => by
    simp only [TFields.indexOf] at h
    split at h
    · cases h; simp [TFields.length]
    · cases hr : r.indexOf k with
      | none => rw [hr] at h; cases h
      | some j =>
        rw [hr] at h; cases h
        have := TFields.indexOf_lt hr
        simp [TFields.length]; omega

theorem TFields.length_set (fs : TFields) (i : Nat) (x : Tracer) : (fs.set i x).length = fs.length := by
  rw [TFields.length_eq, TFields.toList_set, List.length_modify, ← TFields.length_eq]

theorem TFields.get?_set_eq (fs : TFields) (i : Nat) (x : Tracer) (h : i < fs.length) :
    (fs.set i x).get? i = some x := by
  rw [TFields.length_eq] at h
  rw [TFields.get?_eq, TFields.toList_set, List.getElem?_modify_eq, List.getElem?_eq_getElem h]; rfl

theorem TFields.get?_set_ne (fs : TFields) (i j : Nat) (x : Tracer) (h : i ≠ j) :
    (fs.set i x).get? j = fs.get? j := by
  rw [TFields.get?_eq, TFields.toList_set, List.getElem?_modify_ne _ _ h, TFields.get?_eq]

theorem TFields.indexOf_set : ∀ (fs : TFields) (i : Nat) (x : Tracer) (k : String),
    (fs.set i x).indexOf k = fs.indexOf k
  | .nil, _, _, _ => rfl
  | .cons _ _ _ _, 0, _, _ => rfl
  | .cons _ _ _ r, i + 1, x, k => by simp only [TFields.set, TFields.indexOf]; rw [TFields.indexOf_set r i x k]

theorem lastSeen?_set (fs : TFields) (i : Nat) (x : Tracer) (j : Nat) : lastSeen? (fs.set i x) j = lastSeen? fs j := by
  rw [lastSeen?_eq, TFields.toList_set, List.getElem?_modify, lastSeen?_eq]
  cases fs.toList[j]? <;> simp <;> split <;> rfl

theorem TFields.length_setLastSeen (fs : TFields) (i s : Nat) : (fs.setLastSeen i s).length = fs.length := by
  rw [TFields.length_eq, TFields.toList_setLastSeen, List.length_modify, ← TFields.length_eq]

theorem TFields.get?_setLastSeen (fs : TFields) (i s j : Nat) : (fs.setLastSeen i s).get? j = fs.get? j := by
  rw [TFields.get?_eq, TFields.toList_setLastSeen, List.getElem?_modify, TFields.get?_eq]
  cases fs.toList[j]? <;> simp <;> split <;> rfl

theorem TFields.indexOf_setLastSeen : ∀ (fs : TFields) (i s : Nat) (k : String),
    (fs.setLastSeen i s).indexOf k = fs.indexOf k
  | .nil, _, _, _ => rfl
  | .cons _ _ _ _, 0, _, _ => rfl
  | .cons _ _ _ r, i + 1, s, k => by
    simp only [TFields.setLastSeen, TFields.indexOf]; rw [TFields.indexOf_setLastSeen r i s k]

theorem lastSeen?_setLastSeen_eq (fs : TFields) (i s : Nat) (h : i < fs.length) :
    lastSeen? (fs.setLastSeen i s) i = some s := by
  rw [TFields.length_eq] at h
  rw [lastSeen?_eq, TFields.toList_setLastSeen, List.getElem?_modify_eq, List.getElem?_eq_getElem h]; rfl

theorem lastSeen?_setLastSeen_ne (fs : TFields) (i s j : Nat) (h : i ≠ j) :
    lastSeen? (fs.setLastSeen i s) j = lastSeen? fs j := by
  rw [lastSeen?_eq, TFields.toList_setLastSeen, List.getElem?_modify_ne _ _ h, lastSeen?_eq]

theorem TFields.length_push (fs : TFields) (n : String) (l : Nat) (x : Tracer) :
    (fs.push n l x).length = fs.length + 1 := by
  rw [TFields.length_eq, TFields.toList_push, List.length_append, ← TFields.length_eq]; rfl

theorem TFields.get?_push_lt (fs : TFields) (n : String) (l : Nat) (x : Tracer) (i : Nat) (h : i < fs.length) :
    (fs.push n l x).get? i = fs.get? i := by
  rw [TFields.length_eq] at h
  rw [TFields.get?_eq, TFields.toList_push, List.getElem?_append_left h, TFields.get?_eq]

theorem TFields.get?_push_len (fs : TFields) (n : String) (l : Nat) (x : Tracer) :
    (fs.push n l x).get? fs.length = some x := by
  rw [TFields.get?_eq, TFields.toList_push, TFields.length_eq, List.getElem?_concat_length]; rfl

theorem lastSeen?_push_lt (fs : TFields) (n : String) (l : Nat) (x : Tracer) (i : Nat) (h : i < fs.length) :
    lastSeen? (fs.push n l x) i = lastSeen? fs i := by
  rw [TFields.length_eq] at h
  rw [lastSeen?_eq, TFields.toList_push, List.getElem?_append_left h, lastSeen?_eq]

theorem lastSeen?_push_len (fs : TFields) (n : String) (l : Nat) (x : Tracer) :
    lastSeen? (fs.push n l x) fs.length = some l := by
  rw [lastSeen?_eq, TFields.toList_push, TFields.length_eq, List.getElem?_concat_length]; rfl

theorem TFields.indexOf_push_some : ∀ (fs : TFields) (n : String) (l : Nat) (x : Tracer) (k : String) (i : Nat),
    fs.indexOf k = some i → (fs.push n l x).indexOf k = some i
  | .nil, _, _, _, _, _, h => by simp [TFields.indexOf] at h
  | .cons n' _ _ r, n, l, x, k, i, h => by
    simp only [TFields.push, TFields.indexOf] at h ⊢
    split
    · rename_i hn; rw [if_pos hn] at h; exact h
    · rename_i hn
      rw [if_neg hn] at h
      cases hr : r.indexOf k with
      | none => rw [hr] at h; cases h
      | some j => rw [hr] at h; rw [TFields.indexOf_push_some r n l x k j hr]; exact h

theorem TFields.indexOf_push_none : ∀ (fs : TFields) (l : Nat) (x : Tracer) (k : String),
    fs.indexOf k = none → (fs.push k l x).indexOf k = some fs.length
  | .nil, _, _, _, _ => by simp [TFields.push, TFields.indexOf, TFields.length]
  | .cons n' _ _ r, l, x, k, h => by
    simp only [TFields.push, TFields.indexOf] at h ⊢
    split
    · rename_i hn; rw [if_pos hn] at h; cases h
    · rename_i hn
      rw [if_neg hn] at h
      cases hr : r.indexOf k with
      | none => rw [TFields.indexOf_push_none r l x k hr]; simp [TFields.length]
      | some j => rw [hr] at h; cases h

theorem TFields.length_end : ∀ (s : Nat) (fs : TFields), (fs.end_ s).length = fs.length
  | _, .nil => rfl
  | s, .cons _ _ _ r => by simp [TFields.end_, TFields.length, TFields.length_end s r]

theorem TFields.indexOf_end : ∀ (s : Nat) (fs : TFields) (k : String), (fs.end_ s).indexOf k = fs.indexOf k
  | _, .nil, _ => rfl
  | s, .cons _ _ _ r, k => by simp only [TFields.end_, TFields.indexOf]; rw [TFields.indexOf_end s r k]

theorem lastSeen?_end : ∀ (s : Nat) (fs : TFields) (i : Nat), lastSeen? (fs.end_ s) i = lastSeen? fs i
  | _, .nil, _ => rfl
  | _, .cons _ _ _ _, 0 => rfl
  | s, .cons _ _ _ r, i + 1 => by simp only [TFields.end_, lastSeen?]; exact lastSeen?_end s r i

theorem TFields.get?_end : ∀ (s : Nat) (fs : TFields) (i : Nat) (t : Tracer) (l : Nat), fs.get? i = some t →
    lastSeen? fs i = some l → (fs.end_ s).get? i = some (if l != s then t.mark_nullable else t)
  | _, .nil, _, _, _, h, _ => by simp [TFields.get?] at h
  | _, .cons _ _ _ _, 0, _, _, h, hl => by
    simp only [TFields.get?, lastSeen?, Option.some.injEq] at h hl
    subst h; subst hl; rfl
  | s, .cons _ _ _ r, i + 1, t, l, h, hl => by
    simp only [TFields.end_, TFields.get?, lastSeen?] at h hl ⊢
    exact TFields.get?_end s r i t l h hl

theorem ensure_field_found {path : String} {s : Nat} {fs : TFields} {k : String} {i : Nat} (h : fs.indexOf k = some i) :
    ensure_field path s fs k = (i, fs.setLastSeen i s) := by
  unfold ensure_field; rw [h]

theorem ensure_field_new {path : String} {s : Nat} {fs : TFields} {k : String} (h : fs.indexOf k = none) :
    ensure_field path s fs k =
      (fs.length, fs.push k s (if s != 0 then (Tracer.new k (path ++ "." ++ k)).mark_nullable
        else Tracer.new k (path ++ "." ++ k))) := by
  unfold ensure_field; rw [h]

theorem ensure_field_indexOf (path : String) (s : Nat) (fs : TFields) (k : String) :
    (ensure_field path s fs k).2.indexOf k = some (ensure_field path s fs k).1 := by
  cases h : fs.indexOf k with
  | some i => rw [ensure_field_found h]; simp only; rw [TFields.indexOf_setLastSeen]; exact h
  | none => rw [ensure_field_new h]; simp only; exact TFields.indexOf_push_none fs _ _ k h

theorem ensure_field_lt (path : String) (s : Nat) (fs : TFields) (k : String) :
    (ensure_field path s fs k).1 < (ensure_field path s fs k).2.length :=
  TFields.indexOf_lt (ensure_field_indexOf path s fs k)

theorem ensure_field_lastSeen (path : String) (s : Nat) (fs : TFields) (k : String) :
    lastSeen? (ensure_field path s fs k).2 (ensure_field path s fs k).1 = some s := by
  cases h : fs.indexOf k with
  | some i =>
    rw [ensure_field_found h]; simp only
    exact lastSeen?_setLastSeen_eq fs i s (TFields.indexOf_lt h)
  | none => rw [ensure_field_new h]; simp only; exact lastSeen?_push_len fs _ _ _

theorem ensure_field_lastSeen_ne (path : String) (s : Nat) (fs : TFields) (k : String) (i l : Nat)
    (hne : i ≠ (ensure_field path s fs k).1) (h : lastSeen? (ensure_field path s fs k).2 i = some l) :
    lastSeen? fs i = some l := by
  cases hi : fs.indexOf k with
  | some j =>
    rw [ensure_field_found hi] at hne h
    simp only at hne h
    rw [lastSeen?_setLastSeen_ne _ _ _ _ (Ne.symm hne)] at h; exact h
  | none =>
    rw [ensure_field_new hi] at hne h
    simp only at hne h
    have hlt := lastSeen?_lt h
    rw [TFields.length_push] at hlt
    rw [lastSeen?_push_lt _ _ _ _ _ (by omega)] at h; exact h

def _root_.SaModel.Trace.Variants.toList : Variants → List (Option (String × Tracer))
  | .nil => []
  | .absent r => none :: SaModel.Trace.Variants.toList r
  | .present n t r => some (n, t) :: SaModel.Trace.Variants.toList r

theorem Variants.get?_eq : ∀ (vs : Variants) (i : Nat), vs.get? i = vs.toList[i]?
  | .nil, _ => rfl
  | .absent _, 0 => rfl
  | .present _ _ _, 0 => rfl
  | .absent r, i + 1 => by rw [Variants.get?, Variants.toList, List.getElem?_cons_succ, Variants.get?_eq r i]
  | .present _ _ r, i + 1 => by rw [Variants.get?, Variants.toList, List.getElem?_cons_succ, Variants.get?_eq r i]

theorem Variants.length_eq : ∀ vs : Variants, vs.length = vs.toList.length
  | .nil => rfl
  | .absent r => by rw [Variants.length, Variants.toList, List.length_cons, Variants.length_eq r]
  | .present _ _ r => by rw [Variants.length, Variants.toList, List.length_cons, Variants.length_eq r]

theorem Variants.toList_set : ∀ (vs : Variants) (i : Nat) (n : String) (x : Tracer),
    (vs.set i n x).toList = vs.toList.set i (some (n, x))
  | .nil, _, _, _ => rfl
  | .absent _, 0, _, _ => rfl
  | .present _ _ _, 0, _, _ => rfl
  | .absent r, i + 1, n, x => by
    rw [Variants.set, Variants.toList, Variants.toList, List.set_cons_succ, Variants.toList_set r i n x]
  | .present _ _ r, i + 1, n, x => by
    rw [Variants.set, Variants.toList, Variants.toList, List.set_cons_succ, Variants.toList_set r i n x]

theorem Variants.toList_nones : ∀ k : Nat, (Variants.nones k).toList = List.replicate k none
  | 0 => rfl
  | k + 1 => by rw [Variants.nones, Variants.toList, List.replicate_succ, Variants.toList_nones k]

theorem Variants.toList_padNone : ∀ (vs : Variants) (k : Nat), (vs.padNone k).toList = vs.toList ++ List.replicate k none
  | .nil, k => by rw [Variants.padNone, Variants.toList_nones]; rfl
  | .absent r, k => by rw [Variants.padNone, Variants.toList, Variants.toList, List.cons_append, Variants.toList_padNone r k]
  | .present _ _ r, k => by
    rw [Variants.padNone, Variants.toList, Variants.toList, List.cons_append, Variants.toList_padNone r k]

theorem Variants.get?_none_iff (vs : Variants) (i : Nat) : vs.get? i = none ↔ vs.length ≤ i := by
  rw [Variants.get?_eq, Variants.length_eq]; exact List.getElem?_eq_none_iff

theorem Variants.get?_lt {vs : Variants} {i : Nat} {x} (h : vs.get? i = some x) : i < vs.length := by
  rw [Variants.get?_eq] at h
  rw [Variants.length_eq]; exact (List.getElem?_eq_some_iff.mp h).1

theorem Variants.get?_set_eq (vs : Variants) (i : Nat) (n : String) (x : Tracer) (h : i < vs.length) :
    (vs.set i n x).get? i = some (some (n, x)) := by
  rw [Variants.length_eq] at h
  rw [Variants.get?_eq, Variants.toList_set]; exact List.getElem?_set_self h

theorem Variants.get?_set_ne (vs : Variants) (i j : Nat) (n : String) (x : Tracer) (h : i ≠ j) :
    (vs.set i n x).get? j = vs.get? j := by
  rw [Variants.get?_eq, Variants.toList_set, Variants.get?_eq]; exact List.getElem?_set_ne h

theorem Variants.length_set (vs : Variants) (i : Nat) (n : String) (x : Tracer) : (vs.set i n x).length = vs.length := by
  rw [Variants.length_eq, Variants.toList_set, List.length_set, ← Variants.length_eq]

theorem Variants.padNone_zero : ∀ (vs : Variants), vs.padNone 0 = vs
  | .nil => rfl
  | .absent r => by rw [Variants.padNone, Variants.padNone_zero r]
  | .present _ _ r => by rw [Variants.padNone, Variants.padNone_zero r]

theorem Variants.padNone_length : ∀ (vs : Variants) (k : Nat), (vs.padNone k).length = vs.length + k := by
  intro vs k
  rw [Variants.length_eq, Variants.toList_padNone, List.length_append, List.length_replicate, ← Variants.length_eq]

theorem Variants.padNone_get? (vs : Variants) (k i : Nat) :
    (i < vs.length → (vs.padNone k).get? i = vs.get? i) ∧
    (vs.length ≤ i → ∀ x, (vs.padNone k).get? i = some x → x = none) := by
  rw [Variants.get?_eq, Variants.toList_padNone, Variants.get?_eq, Variants.length_eq]
  refine ⟨fun h => List.getElem?_append_left h, fun h x hx => ?_⟩
  rw [List.getElem?_append_right h, List.getElem?_replicate] at hx
  split at hx <;> cases hx
  rfl

section children
variable {P : Tracer → Prop}

theorem Tracers.forall_set {ts : Tracers} (i : Nat) {x : Tracer} (h : ∀ j t, ts.get? j = some t → P t) (hx : P x) :
    ∀ j t, (ts.set i x).get? j = some t → P t := by
  intro j t hj
  by_cases e : i = j
  · subst e
    have hlt := Tracers.get?_lt hj
    rw [Tracers.length_set] at hlt
    rw [Tracers.get?_set_eq _ _ _ hlt] at hj; cases hj; exact hx
  · rw [Tracers.get?_set_ne _ _ _ _ e] at hj; exact h j t hj

theorem Tracers.forall_growN (g : Tracers → Tracer) (hg : ∀ acc, P (g acc)) (k : Nat) {ts : Tracers}
    (h : ∀ j t, ts.get? j = some t → P t) : ∀ j t, (growN g k ts).get? j = some t → P t := by
  intro j t hj
  by_cases hlt : j < ts.length
  · rw [growN_get?_lt g k ts j hlt] at hj; exact h j t hj
  · exact growN_get?_new g P hg k ts j t (by omega) hj

theorem Tracers.forall_markFrom (hm : ∀ t, P t → P t.mark_nullable) (k : Nat) {ts : Tracers}
    (h : ∀ j t, ts.get? j = some t → P t) : ∀ j t, (ts.markFrom k).get? j = some t → P t := by
  intro j t hj
  rw [Tracers.get?_markFrom] at hj
  cases hg : ts.get? j with
  | none => rw [hg] at hj; cases hj
  | some t0 =>
    rw [hg] at hj
    simp only [Option.map_some, Option.some.injEq] at hj
    subst hj
    split
    · exact hm _ (h j t0 hg)
    · exact h j t0 hg

theorem forall_mkTupleFields (hn : ∀ n p, P (Tracer.new n p)) (path : String) (n : Nat) :
    ∀ k j t, (mkTupleFields path n k).get? j = some t → P t
  | 0, _, _, h => by simp [mkTupleFields, Tracers.get?] at h
  | k + 1, 0, t, h => by simp only [mkTupleFields, Tracers.get?, Option.some.injEq] at h; subst h; exact hn _ _
  | k + 1, j + 1, t, h => forall_mkTupleFields hn path n k j t h

theorem TFields.forall_set {fs : TFields} (i : Nat) {x : Tracer} (h : ∀ j t, fs.get? j = some t → P t) (hx : P x) :
    ∀ j t, (fs.set i x).get? j = some t → P t := by
  intro j t hj
  by_cases e : i = j
  · subst e
    have hlt := TFields.get?_lt hj
    rw [TFields.length_set] at hlt
    rw [TFields.get?_set_eq _ _ _ hlt] at hj; cases hj; exact hx
  · rw [TFields.get?_set_ne _ _ _ _ e] at hj; exact h j t hj

theorem TFields.forall_end (hm : ∀ t, P t → P t.mark_nullable) (s : Nat) {fs : TFields}
    (h : ∀ j t, fs.get? j = some t → P t) : ∀ j t, (fs.end_ s).get? j = some t → P t := by
  intro j t hj
  have hlt := TFields.get?_lt hj
  rw [TFields.length_end] at hlt
  obtain ⟨t0, h0⟩ := TFields.get?_of_lt hlt
  obtain ⟨l, hl⟩ := lastSeen?_of_lt hlt
  rw [TFields.get?_end s fs j t0 l h0 hl] at hj
  cases hj
  split
  · exact hm _ (h j t0 h0)
  · exact h j t0 h0

theorem forall_ensure_field (hn : ∀ n p, P (Tracer.new n p)) (hm : ∀ t, P t → P t.mark_nullable) (path : String)
    (s : Nat) {fs : TFields} (k : String) (h : ∀ j t, fs.get? j = some t → P t) :
    ∀ j t, (ensure_field path s fs k).2.get? j = some t → P t := by
  cases hi : fs.indexOf k with
  | some i =>
    rw [ensure_field_found hi]
    exact fun j t hj => h j t (by rw [TFields.get?_setLastSeen] at hj; exact hj)
  | none =>
    rw [ensure_field_new hi]
    intro j t hj
    have hlt := TFields.get?_lt hj
    rw [TFields.length_push] at hlt
    by_cases e : j = fs.length
    · subst e
      rw [TFields.get?_push_len] at hj; cases hj
      split
      · exact hm _ (hn _ _)
      · exact hn _ _
    · rw [TFields.get?_push_lt _ _ _ _ _ (by omega)] at hj; exact h j t hj

theorem Variants.forall_set {vs : Variants} (i : Nat) (n : String) {x : Tracer}
    (h : ∀ j m t, vs.get? j = some (some (m, t)) → P t) (hx : P x) :
    ∀ j m t, (vs.set i n x).get? j = some (some (m, t)) → P t := by
  intro j m t hj
  by_cases e : i = j
  · subst e
    have hlt := Variants.get?_lt hj
    rw [Variants.length_set] at hlt
    rw [Variants.get?_set_eq _ _ _ _ hlt] at hj
    simp only [Option.some.injEq, Prod.mk.injEq] at hj
    rw [← hj.2]; exact hx
  · rw [Variants.get?_set_ne _ _ _ _ _ e] at hj; exact h j m t hj

end children

end SaModel.Lemmas.C06
