import SaModel.Lemmas.C04Physical
import SaModel.Lemmas.C03PhysSize
import SaModel.Lemmas.SchemaAll
/-
C04: the size condition `sizeOKDT` of `Props.C03.toMarrow_physical` for schemas traced by `from_type`.  The documented mapping
never produces a FixedSizeList (arrays / tuples are structs), EVERY option — so the condition is `number of records ≤ i64::MAX`
(`Lemmas.C03.sizeOKDT_of_fslFree`), dictionary-encoded strings and data-less enums included.
-/
namespace SaModel.Roundtrip
open SaModel SaModel.Spec SaModel.Lemmas.C03

theorem closed_fslFree (o : TraceOpts) : MappingClosed o (fun _ dt _ _ => fslFreeDT dt = true)
    (fun _ _ F => fslFreeFs F = true) (fun _ F => fslFreeFs F = true) (fun _ _ U => fslFreeUFs U = true) := by
  apply MappingClosed.of_fields (leaf := by decide) (dict := fun _ => by decide)
  all_goals intros
  all_goals simp_all [fslFreeDT, fslFreeF, fslFreeFs, fslFreeUFs]

theorem mapping_fslFree (o : TraceOpts) :
    ∀ (t : Ty) (dt : DataType) (nb : Bool) (md : Metadata), mappingDT o t = (dt, nb, md) → fslFreeDT dt = true :=
  fun _ _ _ _ hm => (closed_fslFree o).mapping' hm
theorem mappingPos_fslFree (o : TraceOpts) : ∀ (ts : Tys) (i : Nat), fslFreeFs (mappingPos o i ts) = true :=
  fun ts i => (closed_fslFree o).pos i ts
theorem mappingFields_fslFree (o : TraceOpts) : ∀ (fs : TFields), fslFreeFs (mappingFields o fs) = true :=
  (closed_fslFree o).fields
theorem mappingVariants_fslFree (o : TraceOpts) : ∀ (vs : Variants) (i : Nat), fslFreeUFs (mappingVariants o i vs) = true :=
  fun vs i => (closed_fslFree o).variants i vs

theorem fslFreeFs_toList : ∀ (fs : Fields), fslFreeFs fs = true → ∀ f ∈ fs.toList, fslFreeDT f.dataType = true :=
  fun _ h f hf => by cases f; exact Fields.all_toList (pFs := fslFreeFs) rfl (fun _ _ => rfl) h _ hf

/-- **the size condition of `toMarrow_physical` for a schema traced by `from_type`**: at most `i64::MAX` records -/
theorem mapped_sizeOK (o : TraceOpts) (fs : TFields) (L : Nat) (hL : L ≤ 9223372036854775807) :
    ∀ f ∈ (mappingFields o fs).toList, sizeOKDT f.dataType L = true :=
  fun f hf => sizeOKDT_of_fslFree _ L (fslFreeFs_toList _ (mappingFields_fslFree o fs) f hf) hL

end SaModel.Roundtrip
