import SaModel.Lemmas.C08GState
/-
C08 — the variant vector of a union node under `from_samples` over arbitrary values of an enum: `ensure_variant` on the
state `sVg … xs` for a sample of variant `a`, and what putting the variant's new tracer there gives (`sVg_ensure`).
-/
namespace SaModel.Lemmas.C08
open SaModel SaModel.Trace SaModel.Trace.Spec

/-- `ensure_variant` below the allocation limit of the model -/
def ensureV (path : String) (vs : Variants) (variant : String) (idx : Nat) : R Variants :=
  let vs := vs.padNone (idx + 1 - vs.length)
  match vs.get? idx with
  | some (some (prev, _)) => if prev != variant then fail "Incompatible names for variant" else .ok vs
  | some none => .ok (vs.set idx variant (Tracer.new variant (path ++ "." ++ variant)))
  | none => panic "unreachable: variants[idx]"

theorem ensure_variant_eq (path : String) (vs : Variants) (variant : String) (idx : Nat) (h : idx < VARIANT_ALLOC_LIMIT) :
    ensure_variant path vs variant idx = ensureV path vs variant idx := by
  unfold ensure_variant
  have : ¬ idx ≥ VARIANT_ALLOC_LIMIT := by omega
  rw [if_neg this]; rfl

theorem padNone_zero : ∀ V : Variants, V.padNone 0 = V := C06.Variants.padNone_zero

theorem ensureV_cons (path : String) (n : String) (t : Tracer) (R : Variants) (vn : String) (j : Nat) :
    ensureV path (.present n t R) vn (j + 1) = (ensureV path R vn j).map (Variants.present n t) := by
  unfold ensureV
  have e : j + 1 + 1 - (Variants.present n t R).length = j + 1 - R.length := by simp only [Variants.length]; omega
  simp only [e, Variants.padNone, Variants.get?]
  cases (R.padNone (j + 1 - R.length)).get? j with
  | none => rfl
  | some x =>
    cases x with
    | none => rfl
    | some pr =>
      obtain ⟨prev, _⟩ := pr
      simp only
      split <;> rfl

theorem ensureV_nil_zero (path vn : String) :
    ensureV path .nil vn 0 = .ok (.present vn (.unknown vn (childPath path vn) false) .nil) := rfl

theorem ensureV_present_zero (path vn : String) (t : Tracer) (R : Variants) :
    ensureV path (.present vn t R) vn 0 = .ok (.present vn t R) := by
  unfold ensureV
  have e : 0 + 1 - (Variants.present vn t R).length = 0 := by simp only [Variants.length]; omega
  simp only [e, padNone_zero, Variants.get?, bne_self_eq_false, Bool.false_eq_true, if_false]

theorem ensureV_absent_zero (path vn : String) (R : Variants) :
    ensureV path (.absent R) vn 0 = .ok (.present vn (.unknown vn (childPath path vn) false) R) := by
  unfold ensureV
  have e : 0 + 1 - (Variants.absent R).length = 0 := by simp only [Variants.length]; omega
  simp only [e, padNone_zero, Variants.get?, Variants.set]
  rfl

theorem ensureV_absent_succ (path : String) (R : Variants) (vn : String) (j : Nat) :
    ensureV path (.absent R) vn (j + 1) = (ensureV path R vn j).map Variants.absent := by
  unfold ensureV
  have e : j + 1 + 1 - (Variants.absent R).length = j + 1 - R.length := by simp only [Variants.length]; omega
  simp only [e, Variants.padNone, Variants.get?]
  cases (R.padNone (j + 1 - R.length)).get? j with
  | none => rfl
  | some x =>
    cases x with
    | none => rfl
    | some pr =>
      obtain ⟨prev, _⟩ := pr
      simp only
      split <;> rfl

theorem ensureV_nil_succ (path : String) (vn : String) (j : Nat) :
    ensureV path .nil vn (j + 1) = (ensureV path .nil vn j).map Variants.absent := by
  unfold ensureV
  simp only [Variants.length, Nat.sub_zero, Variants.padNone, Variants.nones, Variants.get?]
  generalize (Variants.absent (Variants.nones j)).get? j = g
  cases g with
  | none => rfl
  | some x =>
    cases x with
    | none => rfl
    | some pr =>
      obtain ⟨prev, _⟩ := pr
      simp only
      split <;> rfl

theorem anyFrom_congr (xs zs : List SVal) : ∀ (len i : Nat), (∀ k, i ≤ k → payloadsAt k zs = payloadsAt k xs) →
    anyFrom len i zs = anyFrom len i xs
  | 0, _, _ => rfl
  | len + 1, i, h => by
    simp only [anyFrom, h i (Nat.le_refl _), anyFrom_congr xs zs len (i + 1) (fun k hk => h k (by omega))]

theorem sVg_congr (o : Options) (p : String) (xs zs : List SVal) : ∀ (vl : List (String × Ty)) (i : Nat),
    (∀ k, i ≤ k → payloadsAt k zs = payloadsAt k xs) → sVg o p i vl zs = sVg o p i vl xs
  | [], _, _ => rfl
  | (n, T) :: rest, i, h => by
    simp only [sVg, anyFrom_congr xs zs _ i h, h i (Nat.le_refl _),
      sVg_congr o p xs zs rest (i + 1) (fun k hk => h k (by omega))]

theorem sVg_nil_of_anyFrom (o : Options) (p : String) (xs : List SVal) (vl : List (String × Ty)) (i : Nat)
    (h : anyFrom vl.length i xs = false) : sVg o p i vl xs = .nil := by
  cases vl with
  | nil => rfl
  | cons x rest => obtain ⟨n, T⟩ := x; simp only [List.length_cons] at h; simp only [sVg, h, Bool.false_eq_true, if_false]

theorem anyFrom_of_get (zs : List SVal) : ∀ (vl : List (String × Ty)) (i j : Nat) x, vl[j]? = some x →
    payloadsAt (i + j) zs ≠ [] → anyFrom vl.length i zs = true
  | [], _, _ => by intro _ h _; simp at h
  | _ :: rest, i, 0 => by
    intro _ _ hne
    simp only [List.length_cons, anyFrom, Nat.add_zero] at hne ⊢
    cases h : payloadsAt i zs with
    | nil => exact absurd h hne
    | cons _ _ => rfl
  | _ :: rest, i, j + 1 => by
    intro x h hne
    simp only [List.getElem?_cons_succ] at h
    have e : i + (j + 1) = i + 1 + j := by omega
    rw [e] at hne
    simp only [List.length_cons, anyFrom, anyFrom_of_get zs rest (i + 1) j x h hne, Bool.or_true]

/-- a sample of variant `a = i + j` (relative position `j` in `vl`) with payload `y`; `zs` = the samples `xs` and then this
one: the variant exists after `ensure_variant`, holds the tracer of the payloads seen so far, and putting the tracer of
the payloads with `y` there is the state for `zs` -/
theorem sVg_ensure (o : Options) (p : String) (xs zs : List SVal) (y : SVal) :
    ∀ (vl : List (String × Ty)) (i j : Nat) (vn : String) (T : Ty), vl[j]? = some (vn, T) →
    payloadsAt (i + j) zs = payloadsAt (i + j) xs ++ [y] → (∀ k, k ≠ i + j → payloadsAt k zs = payloadsAt k xs) →
    ∃ V', ensureV p (sVg o p i vl xs) vn j = .ok V' ∧
      V'.get? j = some (some (vn, sstate o vn (childPath p vn) false T (payloadsAt (i + j) xs))) ∧
      V'.set j vn (sstate o vn (childPath p vn) false T (payloadsAt (i + j) xs ++ [y])) = sVg o p i vl zs
  | [], _, _, _, _, h, _, _ => by simp at h
  | (n, T') :: rest, i, 0, vn, T, h, hs, ho => by
    simp only [List.getElem?_cons_zero, Option.some.injEq, Prod.mk.injEq] at h
    obtain ⟨rfl, rfl⟩ := h
    simp only [Nat.add_zero] at hs ho ⊢
    have hrest : sVg o p (i + 1) rest zs = sVg o p (i + 1) rest xs :=
      sVg_congr o p xs zs rest (i + 1) (fun k hk => ho k (by omega))
    have hany : anyFrom (rest.length + 1) i zs = true := by
      simp only [anyFrom, hs]; simp
    have hz : sVg o p i ((n, T') :: rest) zs =
        .present n (sstate o n (childPath p n) false T' (payloadsAt i xs ++ [y])) (sVg o p (i + 1) rest xs) := by
      simp only [sVg, hany, if_true, hs, hrest, slot]; simp
    rw [hz]
    by_cases ha : anyFrom (rest.length + 1) i xs = true
    · cases hy : payloadsAt i xs with
      | nil =>
        simp only [sVg, ha, if_true, hy, slot, List.isEmpty_nil]
        refine ⟨_, ensureV_absent_zero p n _, ?_, ?_⟩
        · simp only [Variants.get?, sstate_nil]
        · simp only [Variants.set]
      | cons y0 yr =>
        simp only [sVg, ha, if_true, hy, slot, List.isEmpty_cons, Bool.false_eq_true, if_false]
        refine ⟨_, ensureV_present_zero p n _ _, ?_, ?_⟩
        · simp only [Variants.get?]
        · simp only [Variants.set]
    · have ha' : anyFrom (rest.length + 1) i xs = false := by simpa using ha
      have ha2 := ha'
      simp only [anyFrom, Bool.or_eq_false_iff, Bool.not_eq_false'] at ha2
      have hy : payloadsAt i xs = [] := List.isEmpty_iff.mp ha2.1
      have hr : sVg o p (i + 1) rest xs = .nil := sVg_nil_of_anyFrom o p xs rest (i + 1) ha2.2
      simp only [sVg, ha', Bool.false_eq_true, if_false, hy, hr]
      refine ⟨_, ensureV_nil_zero p n, ?_, ?_⟩
      · simp only [Variants.get?, sstate_nil]
      · simp only [Variants.set]
  | (n, T') :: rest, i, j + 1, vn, T, h, hs, ho => by
    simp only [List.getElem?_cons_succ] at h
    have e : i + (j + 1) = i + 1 + j := by omega
    rw [e] at hs ho ⊢
    obtain ⟨V'', h1, h2, h3⟩ := sVg_ensure o p xs zs y rest (i + 1) j vn T h hs ho
    have hi : payloadsAt i zs = payloadsAt i xs := ho i (by omega)
    have hany : anyFrom (rest.length + 1) i zs = true := by
      have := anyFrom_of_get zs rest (i + 1) j _ h (by rw [hs]; simp)
      simp only [anyFrom, this, Bool.or_true]
    have hz : sVg o p i ((n, T') :: rest) zs =
        slot (payloadsAt i xs) n (sstate o n (childPath p n) false T' (payloadsAt i xs)) (sVg o p (i + 1) rest zs) := by
      simp only [sVg, hany, if_true, hi]
    rw [hz, ← h3]
    by_cases ha : anyFrom (rest.length + 1) i xs = true
    · cases hy : payloadsAt i xs with
      | nil =>
        simp only [sVg, ha, if_true, hy, slot, List.isEmpty_nil, ensureV_absent_succ, h1]
        refine ⟨_, rfl, ?_, ?_⟩
        · simp only [Variants.get?, h2]
        · simp only [Variants.set]
      | cons y0 yr =>
        simp only [sVg, ha, if_true, hy, slot, List.isEmpty_cons, Bool.false_eq_true, if_false, ensureV_cons, h1]
        refine ⟨_, rfl, ?_, ?_⟩
        · simp only [Variants.get?, h2]
        · simp only [Variants.set]
    · have ha' : anyFrom (rest.length + 1) i xs = false := by simpa using ha
      have ha2 := ha'
      simp only [anyFrom, Bool.or_eq_false_iff, Bool.not_eq_false'] at ha2
      have hy : payloadsAt i xs = [] := List.isEmpty_iff.mp ha2.1
      have hr : sVg o p (i + 1) rest xs = .nil := sVg_nil_of_anyFrom o p xs rest (i + 1) ha2.2
      rw [hr] at h1
      simp only [sVg, ha', Bool.false_eq_true, if_false, hy, slot, List.isEmpty_nil, if_true, ensureV_nil_succ, h1]
      refine ⟨_, rfl, ?_, ?_⟩
      · simp only [Variants.get?, h2]
      · simp only [Variants.set]

end SaModel.Lemmas.C08
