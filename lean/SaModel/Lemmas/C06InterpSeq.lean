import SaModel.Lemmas.C06InterpBase
import SaModel.Lemmas.C01R2
/-
C06, closure, tracer ⇒ documented mapping: sequences (traced as List / LargeList) and maps traced as Arrow maps
(`map_as_struct = false`).  Also: well-formed samples contain no raw key/value call stream.
-/
namespace SaModel.Lemmas.C06
open SaModel SaModel.Spec SaModel.Build SaModel.Trace

mutual
theorem sampleOK_noRaw (b : Bool) : ∀ x : SVal, sampleOK b x = true → SaModel.Build.noRaw x = true
  | .some v, h => by simp only [sampleOK] at h; simpa [noRaw] using sampleOK_noRaw b v h
  | .newtypeStruct _ v, h => by simp only [sampleOK] at h; simpa [noRaw] using sampleOK_noRaw b v h
  | .seq xs, h => by simp only [sampleOK] at h; simpa [noRaw] using samplesOK_noRaws b xs h
  | .tuple xs, h => by simp only [sampleOK] at h; simpa [noRaw] using samplesOK_noRaws b xs h
  | .tupleStruct _ xs, h => by simp only [sampleOK] at h; simpa [noRaw] using samplesOK_noRaws b xs h
  | .record _ fs, h => by
    simp only [sampleOK, Bool.and_eq_true] at h; simpa [noRaw] using sfieldsOK_noRawf b fs h.1
  | .map es, h => by
    simp only [sampleOK, Bool.and_eq_true] at h; simpa [noRaw] using sentriesOK_noRawe b es h.1
  | .mapRaw _, h => by simp [sampleOK] at h
  | .newtypeVariant _ _ _ v, h => by simp only [sampleOK] at h; simpa [noRaw] using sampleOK_noRaw b v h
  | .tupleVariant _ _ _ xs, h => by simp only [sampleOK] at h; simpa [noRaw] using samplesOK_noRaws b xs h
  | .structVariant _ _ _ fs, h => by
    simp only [sampleOK, Bool.and_eq_true] at h; simpa [noRaw] using sfieldsOK_noRawf b fs h.1
  | .none, _ => by simp [noRaw]
  | .unit, _ => by simp [noRaw]
  | .bool _, _ => by simp [noRaw]
  | .int _ _, _ => by simp [noRaw]
  | .f32 _, _ => by simp [noRaw]
  | .f64 _, _ => by simp [noRaw]
  | .char _, _ => by simp [noRaw]
  | .str _, _ => by simp [noRaw]
  | .bytes _, _ => by simp [noRaw]
  | .unitStruct _, _ => by simp [noRaw]
  | .unitVariant _ _ _, _ => by simp [noRaw]
theorem samplesOK_noRaws (b : Bool) : ∀ xs : SVals, samplesOK b xs = true → SaModel.Build.noRaws xs = true
  | .nil, _ => by simp [noRaws]
  | .cons v r, h => by
    simp only [samplesOK, Bool.and_eq_true] at h
    simp [noRaws, sampleOK_noRaw b v h.1, samplesOK_noRaws b r h.2]
theorem sfieldsOK_noRawf (b : Bool) : ∀ fs : SFields, sfieldsOK b fs = true → SaModel.Build.noRawf fs = true
  | .nil, _ => by simp [noRawf]
  | .cons _ _ v r, h => by
    simp only [sfieldsOK, Bool.and_eq_true] at h
    simp [noRawf, sampleOK_noRaw b v h.1, sfieldsOK_noRawf b r h.2]
theorem sentriesOK_noRawe (b : Bool) : ∀ es : SEntries, sentriesOK b es = true → SaModel.Build.noRawe es = true
  | .nil, _ => by simp [noRawe]
  | .cons k v r, h => by
    simp only [sentriesOK, Bool.and_eq_true] at h
    simp [noRawe, sampleOK_noRaw b k h.1.1, sampleOK_noRaw b v h.1.2, sentriesOK_noRawe b r h.2]
end

theorem interpAll_ok (ext : Ext) (dt : DataType) (n : Bool) (md : Metadata) : ∀ xs : SVals,
    (∀ v ∈ xs.toList, ∃ lv, interpDT ext dt n md v = .ok lv) → ∃ l, interpAll ext dt n md xs = .ok l
  | .nil, _ => ⟨[], by rw [interpAll]⟩
  | .cons x r, h => by
    obtain ⟨lv, hlv⟩ := h x (by simp [SVals.toList])
    obtain ⟨l, hl⟩ := interpAll_ok ext dt n md r (fun v hv => h v (by simp [SVals.toList, hv]))
    exact ⟨lv :: l, by rw [interpAll, hlv, hl]; rfl⟩

theorem interpEntries_ok (ext : Ext) (kdt : DataType) (kn : Bool) (kmd : Metadata) (vdt : DataType) (vn : Bool)
    (vmd : Metadata) : ∀ es : SEntries,
    (∀ v ∈ SEntries.keys es, ∃ lv, interpDT ext kdt kn kmd v = .ok lv) →
    (∀ v ∈ SEntries.vals es, ∃ lv, interpDT ext vdt vn vmd v = .ok lv) →
    ∃ l, interpEntries ext kdt kn kmd vdt vn vmd es = .ok l
  | .nil, _, _ => ⟨[], by rw [interpEntries]⟩
  | .cons k x r, hk, hv => by
    obtain ⟨lk, hlk⟩ := hk k (by simp [SEntries.keys])
    obtain ⟨lx, hlx⟩ := hv x (by simp [SEntries.vals])
    obtain ⟨l, hl⟩ := interpEntries_ok ext kdt kn kmd vdt vn vmd r
      (fun v h => hk v (by simp [SEntries.keys, h])) (fun v h => hv v (by simp [SEntries.vals, h]))
    exact ⟨(lk, lx) :: l, by rw [interpEntries, hlk, hlx, hl]; rfl⟩

theorem hitsAll_mem (p : DataType → SVal → Bool) (dt : DataType) : ∀ xs : SVals, hitsAll p dt xs = false →
    ∀ v ∈ xs.toList, hits p dt v = false
  | .nil, _ => fun _ h => nomatch h
  | .cons x r, h => by
    simp only [hitsAll, Bool.or_eq_false_iff] at h
    exact List.forall_mem_cons.mpr ⟨h.1, hitsAll_mem p dt r h.2⟩

theorem sentriesOK_mem (b : Bool) : ∀ es : SEntries, sentriesOK b es = true →
    (∀ v ∈ SEntries.keys es, sampleOK b v = true) ∧ (∀ v ∈ SEntries.vals es, sampleOK b v = true)
  | .nil, _ => ⟨(fun _ h => nomatch h), (fun _ h => nomatch h)⟩
  | .cons k x r, h => by
    simp only [sentriesOK, Bool.and_eq_true] at h
    obtain ⟨ih1, ih2⟩ := sentriesOK_mem b r h.2
    exact ⟨List.forall_mem_cons.mpr ⟨h.1.1, ih1⟩, List.forall_mem_cons.mpr ⟨h.1.2, ih2⟩⟩

theorem hitsEntries_mem (p : DataType → SVal → Bool) (kdt vdt : DataType) : ∀ es : SEntries,
    hitsEntries p kdt vdt es = false →
    (∀ v ∈ SEntries.keys es, hits p kdt v = false) ∧ (∀ v ∈ SEntries.vals es, hits p vdt v = false)
  | .nil, _ => ⟨(fun _ h => nomatch h), (fun _ h => nomatch h)⟩
  | .cons k x r, h => by
    simp only [hitsEntries, Bool.or_eq_false_iff] at h
    obtain ⟨ih1, ih2⟩ := hitsEntries_mem p kdt vdt r h.2
    exact ⟨List.forall_mem_cons.mpr ⟨h.1.1, ih1⟩, List.forall_mem_cons.mpr ⟨h.1.2, ih2⟩⟩

theorem interp_list_ok (ext : Ext) (large : Bool) (item : Field) (nl : Bool) (xs : SVals)
    (h : ∀ v ∈ xs.toList, IOk ext item v) :
    ∃ lv, interpDT ext (if large then .largeList item else .list item) nl [] (.seq xs) = .ok lv := by
  obtain ⟨a, cdt, cn, cmd⟩ := item
  obtain ⟨l, hl⟩ := interpAll_ok ext cdt cn cmd xs h
  cases large
  · refine ⟨.list (LVals.ofList l), ?_⟩
    simp only [Bool.false_eq_true, if_false]
    simp only [interpDT]
    simp only [isUnknownVariant, Bool.false_eq_true, if_false, hl]
    rfl
  · refine ⟨.list (LVals.ofList l), ?_⟩
    simp only [if_true]
    simp only [interpDT]
    simp only [isUnknownVariant, Bool.false_eq_true, if_false, hl]
    rfl

theorem hits_list (p : DataType → SVal → Bool) (large : Bool) (item : Field) (xs : SVals) :
    hits p (if large then .largeList item else .list item) (.seq xs) = hitsAll p item.dataType xs := by
  obtain ⟨a, cdt, cn, cmd⟩ := item
  cases large <;> simp [hits, Field.dataType]

theorem interp_map_ok (ext : Ext) (kf vf : Field) (nl : Bool) (es : SEntries)
    (hk : ∀ v ∈ SEntries.keys es, IOk ext kf v) (hv : ∀ v ∈ SEntries.vals es, IOk ext vf v) :
    ∃ lv, interpDT ext (.map (Field.mk "entries" (.struct (Fields.ofList [kf, vf])) false []) false) nl []
      (.map es) = .ok lv := by
  obtain ⟨a, kdt, kn, kmd⟩ := kf
  obtain ⟨b, vdt, vn, vmd⟩ := vf
  obtain ⟨l, hl⟩ := interpEntries_ok ext kdt kn kmd vdt vn vmd es hk hv
  refine ⟨.map (LEntries.ofList l), ?_⟩
  simp only [Fields.ofList]
  simp only [interpDT]
  simp only [isUnknownVariant, Bool.false_eq_true, if_false, hl]
  rfl

theorem hits_map (p : DataType → SVal → Bool) (kf vf : Field) (es : SEntries) :
    hits p (.map (Field.mk "entries" (.struct (Fields.ofList [kf, vf])) false []) false) (.map es) =
      hitsEntries p kf.dataType vf.dataType es := by
  obtain ⟨a, kdt, kn, kmd⟩ := kf
  obtain ⟨b, vdt, vn, vmd⟩ := vf
  simp [hits, Fields.ofList, Field.dataType]

theorem mapped_seq (o : Options) (ext : Ext) (h0 : o.overwrites = []) (items : SVals)
    (ih : ∀ v ∈ items.toList, Mapped o ext v) : Mapped o ext (.seq items) := by
  intro t2 h hinv f hf hok hex
  obtain ⟨_, n, p, nl2, i2, rfl, hwas⟩ : Later .fixed o (.list items.toList) t2 := was_later h
  obtain ⟨item, hitem, rfl⟩ := to_field_node h0 hf
  simp only [sampleOK] at hok
  simp only [Field.dataType] at hex
  rw [hits_list] at hex
  exact interp_list_ok ext _ item nl2 items (fun v hv =>
    ih v hv i2 (hwas v hv) (Inv_list hinv) item hitem (samplesOK_mem _ items hok v hv) (hitsAll_mem _ _ items hex v hv))

theorem mapped_mapAsMap (o : Options) (ext : Ext) (h0 : o.overwrites = []) (hm : o.map_as_struct = false) (es : SEntries)
    (ihk : ∀ v ∈ SEntries.keys es, Mapped o ext v) (ihv : ∀ v ∈ SEntries.vals es, Mapped o ext v) :
    Mapped o ext (.map es) := by
  intro t2 h hinv f hf hok hex
  have hl := was_later h
  rw [show fam o (.map es) = .map (SEntries.keys es) (SEntries.vals es) by simp [fam, leafTypeOf, hm]] at hl
  obtain ⟨_, n, p, nl2, k2, v2, rfl, hwk, hwv⟩ := hl
  obtain ⟨kf, vf, hkf, hvf, rfl⟩ := to_field_node h0 hf
  simp only [sampleOK, Bool.and_eq_true] at hok
  obtain ⟨hokk, hokv⟩ := sentriesOK_mem _ es hok.1
  simp only [Field.dataType] at hex
  rw [hits_map] at hex
  obtain ⟨hexk, hexv⟩ := hitsEntries_mem _ _ _ es hex
  exact interp_map_ok ext kf vf nl2 es
    (fun v hv => ihk v hv k2 (hwk v hv) (Inv_map hinv).1 kf hkf (hokk v hv) (hexk v hv))
    (fun v hv => ihv v hv v2 (hwv v hv) (Inv_map hinv).2 vf hvf (hokv v hv) (hexv v hv))

end SaModel.Lemmas.C06
