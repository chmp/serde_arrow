import SaModel.Codec.Decimal
import SaModel.Lemmas.C15Digits
/-
What the three truncating digit-copy functions compute, in terms of the integer digits `I`
(everything before the first point) and the fraction digits `F` (everything after it).
-/
namespace SaModel.Lemmas.C15
open SaModel SaModel.Decimal SaModel.Spec.Decimal

theorem ne48_iff (c : UInt8) : (c != 48) = true ↔ c ≠ 48 := by simp

theorem notDigit_iff (c : UInt8) : (c < 48 || c > 57) = !isDigit c := by
  have e1 : (48 : UInt8).toNat = 48 := rfl
  have e2 : (57 : UInt8).toNat = 57 := rfl
  rw [Bool.eq_iff_iff]
  simp only [isDigit, Bool.or_eq_true, decide_eq_true_eq, Bool.not_eq_true', decide_eq_false_iff_not,
    UInt8.lt_iff_toNat_lt, gt_iff_lt, e1, e2]
  omega

theorem isAsciiDigit_iff (c : UInt8) : (c >= 48 && c <= 57) = isDigit c := by
  have e1 : (48 : UInt8).toNat = 48 := rfl
  have e2 : (57 : UInt8).toNat = 57 := rfl
  rw [Bool.eq_iff_iff]
  simp only [isDigit, Bool.and_eq_true, decide_eq_true_eq, ge_iff_le, UInt8.le_iff_toNat_le, e1, e2]

theorem checkZero_ok (s : List UInt8) (l : Bool) : checkAllAsciiZero s l = .ok () ↔ AllZero s := by
  unfold checkAllAsciiZero AllZero
  by_cases h : s.any (fun c => c != 48) = true
  · simp only [h, if_true]
    constructor
    · intro h'; cases l <;> simp [fail] at h'
    · intro h'
      obtain ⟨c, hc, hne⟩ := List.any_eq_true.mp h
      exact absurd (h' c hc) (by simpa using hne)
  · simp only [h]
    constructor
    · intro _ c hc
      apply Classical.byContradiction
      intro hne
      exact h (List.any_eq_true.mpr ⟨c, hc, by simpa using hne⟩)
    · intro _; rfl

theorem checkZero_cases (s : List UInt8) (l : Bool) :
    (checkAllAsciiZero s l = .ok () ∧ AllZero s) ∨ (∃ m, checkAllAsciiZero s l = fail m ∧ ¬ AllZero s) := by
  by_cases h : AllZero s
  · exact .inl ⟨(checkZero_ok s l).mpr h, h⟩
  · right
    have hne : checkAllAsciiZero s l ≠ .ok () := fun h' => h ((checkZero_ok s l).mp h')
    unfold checkAllAsciiZero at hne ⊢
    split at hne
    · rename_i hany; simp only [hany, if_true]; cases l
      · exact ⟨_, rfl, h⟩
      · exact ⟨_, rfl, h⟩
    · exact absurd rfl hne

theorem checkDigit_cases (s : List UInt8) :
    (checkAllAsciiDigit s = .ok () ∧ AllDigits s) ∨ (∃ m, checkAllAsciiDigit s = fail m ∧ ¬ AllDigits s) := by
  unfold checkAllAsciiDigit AllDigits
  by_cases h : s.any (fun c => c < 48 || c > 57) = true
  · right
    simp only [h, if_true]
    refine ⟨_, rfl, ?_⟩
    intro h'
    obtain ⟨c, hc, hne⟩ := List.any_eq_true.mp h
    rw [notDigit_iff] at hne
    simp [h' c hc] at hne
  · left
    simp only [h]
    refine ⟨rfl, ?_⟩
    intro c hc
    apply Classical.byContradiction
    intro hne
    apply h
    exact List.any_eq_true.mpr ⟨c, hc, by rw [notDigit_iff]; simpa using hne⟩


/-! ### `find_period` -/

theorem position_spec (s : List UInt8) :
    match position s with
    | none => s.takeWhile (· != 46) = s ∧ s.dropWhile (· != 46) = []
    | some pos => pos < s.length ∧ s.takeWhile (· != 46) = s.take pos ∧
        s.dropWhile (· != 46) = 46 :: s.drop (pos + 1) := by
  induction s with
  | nil => simp [position]
  | cons c rest ih =>
    by_cases hc : c = 46
    · subst hc; simp [position]
    · have hb : (c == 46) = false := by simpa using hc
      simp only [position, hb]
      cases hp : position rest with
      | none =>
        rw [hp] at ih
        simp [hc, ih.1, ih.2]
      | some pos =>
        rw [hp] at ih
        simp [hc, ih.1, ih.2.1, ih.2.2]

/-- everything the parsers need to know about `find_period` -/
structure PeriodFacts (s : List UInt8) (bp ap : Nat) : Prop where
  le : bp ≤ ap
  ap_le : ap ≤ s.length
  step : ap = bp ∨ ap = bp + 1
  nodot : ap = bp → bp = s.length
  int_eq : s.takeWhile (· != 46) = s.take bp
  rest_eq : s.dropWhile (· != 46) = if ap = bp then [] else 46 :: s.drop ap

theorem findPeriod_facts (s : List UInt8) : PeriodFacts s (findPeriod s).1 (findPeriod s).2 := by
  have h := position_spec s
  unfold findPeriod
  cases hp : position s with
  | none =>
    rw [hp] at h
    exact ⟨Nat.le_refl _, Nat.le_refl _, .inl rfl, fun _ => rfl, by simp [h.1], by simp [h.2]⟩
  | some pos =>
    rw [hp] at h
    refine ⟨by simp, by simp; omega, .inr rfl, by simp, h.2.1, ?_⟩
    simp [h.2.2]

theorem slice_ok (s : List UInt8) (a b : Nat) (h : a ≤ b ∧ b ≤ s.length) :
    slice s a b = .ok ((s.drop a).take (b - a)) := by
  simp [slice, h]

theorem checkedSub_ok (a b : Nat) (h : b ≤ a) : checkedSub a b = .ok (a - b) := by
  simp [checkedSub, h]

/-- the first `a` bytes, and the bytes from `a` on, of the first `b` bytes of the input -/
theorem slice_take (r : List UInt8) (a b : Nat) (hab : a ≤ b) (hb : b ≤ r.length) :
    slice r 0 a = .ok ((r.take b).take a) ∧ slice r a b = .ok ((r.take b).drop a) := by
  rw [slice_ok _ _ _ ⟨Nat.zero_le _, Nat.le_trans hab hb⟩, slice_ok _ _ _ ⟨hab, hb⟩, List.take_take, Nat.min_eq_left hab,
    List.drop_take]
  exact ⟨rfl, rfl⟩

theorem slice_end (r : List UInt8) (a : Nat) (h : a ≤ r.length) : slice r a r.length = .ok (r.drop a) := by
  rw [slice_ok _ _ _ ⟨h, Nat.le_refl _⟩, List.take_of_length_le (Nat.le_of_eq List.length_drop)]

/-- `k` bytes from position `a`, both ends cut off at the end of the input (`min(s.len(), ..)` in the source): the
slice, and the number of bytes it has -/
theorem slice_min (r : List UInt8) (a k : Nat) :
    slice r (min r.length a) (min r.length (a + k)) = .ok ((r.drop a).take k) ∧
    min r.length (a + k) - min r.length a = ((r.drop a).take k).length := by
  rcases Nat.le_total a r.length with h | h
  · have e : min r.length (a + k) - a = min k (r.drop a).length := by rw [List.length_drop]; omega
    rw [Nat.min_eq_right h, slice_ok _ _ _ ⟨Nat.le_min.2 ⟨h, Nat.le_add_right _ _⟩, Nat.min_le_left _ _⟩, e,
      ← List.take_eq_take_min, List.length_take]
    exact ⟨rfl, rfl⟩
  · rw [Nat.min_eq_left h, Nat.min_eq_left (Nat.le_trans h (Nat.le_add_right _ _)), slice_ok _ _ _ ⟨Nat.le_refl _, Nat.le_refl _⟩,
      List.drop_eq_nil_of_le h, Nat.sub_self, List.take_nil]
    exact ⟨rfl, rfl⟩

theorem slice_min_end (r : List UInt8) (a : Nat) : slice r (min r.length a) r.length = .ok (r.drop a) := by
  rcases Nat.le_total a r.length with h | h
  · rw [Nat.min_eq_right h, slice_end r a h]
  · rw [Nat.min_eq_left h, slice_end r _ (Nat.le_refl _), List.drop_length, List.drop_eq_nil_of_le h]

/-- `k` digits of `F`, filled up with zeros where `F` has fewer, are `k` digits -/
theorem padded_length (F : List UInt8) (k : Nat) : (F.take k).length + (k - F.length) = k := by
  rw [List.length_take]; omega

theorem bind_ok' {α β} (x : α) (f : α → R β) : (Except.ok x >>= f) = f x := rfl
theorem bind_fail' {α β} (m : String) (f : α → R β) : ((fail m : R α) >>= f) = fail m := rfl

/-- three checks in sequence, each failing exactly when its condition does not hold, and then a result -/
theorem three_checks {A B C : Prop} {ca cb cc : R Unit} {k : R (List UInt8)} {v : List UInt8}
    (ha : (ca = .ok () ∧ A) ∨ (∃ m, ca = fail m ∧ ¬ A)) (hb : (cb = .ok () ∧ B) ∨ (∃ m, cb = fail m ∧ ¬ B))
    (hc : (cc = .ok () ∧ C) ∨ (∃ m, cc = fail m ∧ ¬ C)) (hk : k = .ok v) :
    (A ∧ B ∧ C ∧ (ca >>= fun _ => cb >>= fun _ => cc >>= fun _ => k) = .ok v) ∨
    (¬ (A ∧ B ∧ C) ∧ ∃ m, (ca >>= fun _ => cb >>= fun _ => cc >>= fun _ => k) = fail m) := by
  rcases ha with ⟨e1, z1⟩ | ⟨m, e1, z1⟩
  · rcases hb with ⟨e2, z2⟩ | ⟨m, e2, z2⟩
    · rcases hc with ⟨e3, z3⟩ | ⟨m, e3, z3⟩
      · exact .inl ⟨z1, z2, z3, by rw [e1, e2, e3, hk]; rfl⟩
      · exact .inr ⟨fun h => z3 h.2.2, m, by rw [e1, e2, e3]; rfl⟩
    · exact .inr ⟨fun h => z2 h.2.1, m, by rw [e1, e2]; rfl⟩
  · exact .inr ⟨fun h => z1 h.1, m, by rw [e1]; rfl⟩

theorem copyDigitsMixed_spec (bufLen : Nat) (r : List UInt8) (p k : Nat) (hk : k < p) (hp : p ≤ bufLen)
    (bp ap : Nat) (hfp : findPeriod r = (bp, ap)) :
    (AllZero ((r.take bp).take (bp - (p - k))) ∧ AllDigits ((r.take bp).drop (bp - (p - k))) ∧ AllDigits (r.drop ap) ∧
      copyDigitsMixed bufLen r p k true =
        .ok ((r.take bp).drop (bp - (p - k)) ++ (r.drop ap).take k ++ zeros (k - (r.drop ap).length))) ∨
    (¬ (AllZero ((r.take bp).take (bp - (p - k))) ∧ AllDigits ((r.take bp).drop (bp - (p - k))) ∧ AllDigits (r.drop ap)) ∧
      ∃ m, copyDigitsMixed bufLen r p k true = fail m) := by
  have facts := findPeriod_facts r
  rw [hfp] at facts
  obtain ⟨h1, h2, -, -, -, -⟩ := facts
  simp only at h1 h2
  obtain ⟨s1, s2⟩ := slice_take r (bp - (p - k)) bp (Nat.sub_le _ _) (Nat.le_trans h1 h2)
  have s3 := slice_end r ap h2
  obtain ⟨s4, hspan⟩ := slice_min r ap k
  rw [Nat.min_eq_right h2] at s4 hspan
  have s5 : checkedSub k (min r.length (ap + k) - ap) = .ok (k - (r.drop ap).length) := by
    rw [hspan, checkedSub_ok _ _ (List.length_take_le _ _), List.length_take, ← Nat.sub_eq_sub_min]
  have hlen : ¬ ((r.take bp).drop (bp - (p - k))).length + ((r.drop ap).take k).length + (k - (r.drop ap).length) > bufLen := by
    have a1 : ((r.take bp).drop (bp - (p - k))).length ≤ p - k := by rw [List.length_drop, List.length_take]; omega
    have a2 := padded_length (r.drop ap) k
    omega
  unfold copyDigitsMixed
  simp only [hfp, hk, not_true_eq_false, if_false, s1, s2, s3, s4, s5, bind_ok', Bool.not_true, Bool.false_eq_true, if_neg hlen]
  exact three_checks (checkZero_cases _ true) (checkDigit_cases _) (checkDigit_cases _) rfl

theorem copyDigitsIntegerOnly_spec (bufLen : Nat) (r : List UInt8) (p k : Nat) (hp : p ≤ bufLen)
    (bp ap : Nat) (hfp : findPeriod r = (bp, ap)) :
    (AllZero ((r.take bp).take (bp - k - p)) ∧ AllDigits ((r.take bp).drop (bp - k - p)) ∧ AllDigits (r.drop ap) ∧
      copyDigitsIntegerOnly bufLen r p k true = .ok (((r.take bp).take (bp - k)).drop (bp - k - p))) ∨
    (¬ (AllZero ((r.take bp).take (bp - k - p)) ∧ AllDigits ((r.take bp).drop (bp - k - p)) ∧ AllDigits (r.drop ap)) ∧
      ∃ m, copyDigitsIntegerOnly bufLen r p k true = fail m) := by
  have facts := findPeriod_facts r
  rw [hfp] at facts
  obtain ⟨h1, h2, -, -, -, -⟩ := facts
  simp only at h1 h2
  have hbp : bp ≤ r.length := Nat.le_trans h1 h2
  obtain ⟨s1, s2⟩ := slice_take r (bp - k - p) bp (Nat.le_trans (Nat.sub_le _ _) (Nat.sub_le _ _)) hbp
  have s3 := slice_end r ap h2
  have s4 : slice r (bp - k - p) (bp - k) = .ok (((r.take bp).take (bp - k)).drop (bp - k - p)) := by
    rw [List.take_take, Nat.min_eq_left (Nat.sub_le _ _)]
    exact (slice_take r (bp - k - p) (bp - k) (Nat.sub_le _ _) (Nat.le_trans (Nat.sub_le _ _) hbp)).2
  unfold copyDigitsIntegerOnly
  simp only [hfp, s1, s2, s3, bind_ok', Bool.not_true, Bool.false_eq_true, if_false, if_neg (show ¬ bp - k - (bp - k - p) > bufLen by omega)]
  exact three_checks (checkZero_cases _ true) (checkDigit_cases _) (checkDigit_cases _) s4

theorem copyDigitsFractionOnly_spec (bufLen : Nat) (r : List UInt8) (p k : Nat) (hk : p ≤ k) (hp : p ≤ bufLen)
    (bp ap : Nat) (hfp : findPeriod r = (bp, ap)) :
    (AllZero (r.take bp) ∧ AllZero ((r.drop ap).take (k - p)) ∧ AllDigits ((r.drop ap).drop (k - p)) ∧
      copyDigitsFractionOnly bufLen r p k true =
        .ok (((r.drop ap).drop (k - p)).take p ++ zeros (p - (((r.drop ap).drop (k - p)).take p).length))) ∨
    (¬ (AllZero (r.take bp) ∧ AllZero ((r.drop ap).take (k - p)) ∧ AllDigits ((r.drop ap).drop (k - p))) ∧
      ∃ m, copyDigitsFractionOnly bufLen r p k true = fail m) := by
  have facts := findPeriod_facts r
  rw [hfp] at facts
  obtain ⟨h1, h2, -, -, -, -⟩ := facts
  simp only at h1 h2
  -- the copy starts `k - p` bytes after the point (cut off at the end of the input) and has at most `p` digits
  rw [List.drop_drop]
  have c1 : checkedSub (ap + k) p = .ok (ap + (k - p)) := by rw [checkedSub_ok _ _ (by omega)]; congr 1; omega
  have hend : ap + k = ap + (k - p) + p := by omega
  have s1 : slice r 0 bp = .ok (r.take bp) := slice_ok _ _ _ ⟨Nat.zero_le _, Nat.le_trans h1 h2⟩
  obtain ⟨s2, -⟩ := slice_min r ap (k - p)
  rw [Nat.min_eq_right h2] at s2
  have s3 := slice_min_end r (ap + (k - p))
  obtain ⟨s4, hspan⟩ := slice_min r (ap + (k - p)) p
  have hcopy : ((r.drop (ap + (k - p))).take p).length ≤ p := List.length_take_le _ _
  have c2 : checkedSub p (min r.length (ap + (k - p) + p) - min r.length (ap + (k - p))) =
      .ok (p - ((r.drop (ap + (k - p))).take p).length) := by
    rw [hspan, checkedSub_ok _ _ hcopy]
  have hlen : ¬ (min r.length (ap + (k - p) + p) - min r.length (ap + (k - p))) +
      (p - ((r.drop (ap + (k - p))).take p).length) > bufLen := by
    rw [hspan]; omega
  unfold copyDigitsFractionOnly
  simp only [hfp, show ¬ k < p by omega, if_false, c1, bind_ok']
  rw [hend]
  simp only [c2, s1, s2, s3, s4, bind_ok', Bool.not_true, Bool.false_eq_true, if_false, if_neg hlen]
  exact three_checks (checkZero_cases _ true) (checkZero_cases _ true) (checkDigit_cases _) rfl

/-- the digit string of `⌊N(I.F) · 10^s⌋` -/
def scaledDigits (I F : List UInt8) (s : Int) : List UInt8 :=
  if s < 0 then I.take (I.length - s.natAbs) else I ++ F.take s.toNat ++ zeros (s.toNat - F.length)

theorem scaledDigits_val (I F : List UInt8) (hI : AllDigits I) (hF : AllDigits F) (s : Int) :
    digitsVal (scaledDigits I F s) = digitsVal (I ++ F) * 10 ^ s.toNat / 10 ^ (F.length + (-s).toNat) := by
  unfold scaledDigits
  by_cases hs : s < 0
  · simp only [hs, if_true]
    have e1 : s.toNat = 0 := by omega
    have e2 : (-s).toNat = s.natAbs := by omega
    rw [e1, e2, digitsVal_take_div hI]
    simp only [Nat.pow_zero, Nat.mul_one]
    rw [digitsVal_int_div I F hF]
  · simp only [hs, if_false]
    have e2 : (-s).toNat = 0 := by omega
    rw [e2, digitsVal_pad I F hF]; simp

theorem scaledDigits_allDigits (I F : List UInt8) (hI : AllDigits I) (hF : AllDigits F) (s : Int) :
    AllDigits (scaledDigits I F s) := by
  unfold scaledDigits
  split
  · exact hI.take _
  · exact (hI.append (hF.take _)).append (allZero_zeros _).allDigits

theorem allDigits_split {ds : List UInt8} (n : Nat) : AllDigits ds ↔ AllDigits (ds.take n) ∧ AllDigits (ds.drop n) := by
  conv => lhs; rw [← List.take_append_drop n ds]
  exact allDigits_append

theorem padded_take_allZero (F : List UInt8) (k n : Nat) (h : n ≤ k) :
    AllZero ((F.take k ++ zeros (k - F.length)).take n) ↔ AllZero (F.take n) := by
  rw [List.take_append, List.take_take, Nat.min_eq_left h, allZero_append]
  constructor
  · exact fun h => h.1
  · intro h; refine ⟨h, ?_⟩
    intro c hc; exact allZero_zeros _ c (List.mem_of_mem_take hc)

/-- `j + p` digits of `F` filled up with zeros, without the first `j`: `p` digits of what `F` has from `j` on, filled up -/
theorem padded_drop_add (F : List UInt8) (j p : Nat) :
    (F.take (j + p) ++ zeros (j + p - F.length)).drop j = (F.drop j).take p ++ zeros (p - (F.drop j).length) := by
  induction j generalizing F with
  | zero => simp
  | succ j ih =>
    cases F with
    | nil => simp [List.drop_replicate]
    | cons c F =>
      rw [Nat.add_right_comm, List.take_succ_cons, List.cons_append, List.drop_succ_cons, List.drop_succ_cons,
        List.length_cons, Nat.add_sub_add_right]
      exact ih F

theorem padded_drop (F : List UInt8) (k p : Nat) (h : p ≤ k) :
    (F.take k ++ zeros (k - F.length)).drop (k - p) =
      (F.drop (k - p)).take p ++ zeros (p - ((F.drop (k - p)).take p).length) := by
  rw [List.length_take, ← Nat.sub_eq_sub_min]
  have := padded_drop_add F (k - p) p
  rwa [Nat.sub_add_cancel h] at this

/-- the digits `D` of `scaledDigits` for a scale `k < p`: its last `p` digits reach into the integer digits -/
theorem scaled_last_mixed (I F : List UInt8) (k p : Nat) (hk : k < p) :
    let D := I ++ (F.take k ++ zeros (k - F.length))
    D.take (D.length - p) = I.take (I.length - (p - k)) ∧
    D.drop (D.length - p) = I.drop (I.length - (p - k)) ++ F.take k ++ zeros (k - F.length) := by
  intro D
  have hst : D.length - p = I.length - (p - k) := by
    rw [List.length_append, List.length_append, List.length_replicate, padded_length]; omega
  rw [hst, List.take_append_of_le_length (Nat.sub_le _ _), List.drop_append_of_le_length (Nat.sub_le _ _), List.append_assoc]
  exact ⟨rfl, rfl⟩

/-- … and for a scale `k ≥ p`: its last `p` digits are fraction digits -/
theorem scaled_last_fraction (I F : List UInt8) (k p : Nat) (hk : p ≤ k) :
    let D := I ++ (F.take k ++ zeros (k - F.length))
    (AllZero (D.take (D.length - p)) ↔ AllZero I ∧ AllZero (F.take (k - p))) ∧
    D.drop (D.length - p) = (F.drop (k - p)).take p ++ zeros (p - ((F.drop (k - p)).take p).length) := by
  intro D
  have hst : D.length - p = I.length + (k - p) := by
    rw [List.length_append, List.length_append, List.length_replicate, padded_length]; omega
  rw [hst, List.take_length_add_append, List.drop_length_add_append, allZero_append, padded_take_allZero _ _ _ (Nat.sub_le _ _)]
  exact ⟨Iff.rfl, padded_drop _ _ _ hk⟩

/-- The three truncating parsers implement one condition: with `D` the digit string of
`⌊|value| · 10^s⌋`, everything above the last `p` digits of `D` must be zero; the copied digits are
the last `p` digits of `D`. -/
theorem copyDigits_unified (p : Nat) (s : Int) (hp : p ≤ 64) (r : List UInt8) (parser : DecimalParser)
    (hnew : DecimalParser.new p s true = .ok parser) (bp ap : Nat) (hfp : findPeriod r = (bp, ap)) :
    let D := scaledDigits (r.take bp) (r.drop ap) s
    (AllDigits (r.take bp) ∧ AllDigits (r.drop ap) ∧ AllZero (D.take (D.length - p)) ∧
      parser.copyDigitsWith false 64 r = .ok (D.drop (D.length - p))) ∨
    (¬ (AllDigits (r.take bp) ∧ AllDigits (r.drop ap) ∧ AllZero (D.take (D.length - p))) ∧
      ∃ m, parser.copyDigitsWith false 64 r = fail m) := by
  intro D
  have facts := findPeriod_facts r
  rw [hfp] at facts
  obtain ⟨h1, h2, -, -, -, -⟩ := facts
  simp only at h1 h2
  have hIlen : (r.take bp).length = bp := by rw [List.length_take]; omega
  unfold DecimalParser.new DecimalParser.newWith unsignedAbs at hnew
  simp only [Bool.not_true, Bool.and_false, Bool.false_eq_true, if_false, bind_ok'] at hnew
  by_cases hs : s < 0
  · -- integer only
    simp only [hs, if_true] at hnew
    cases hnew
    have hD : D = (r.take bp).take ((r.take bp).length - s.natAbs) := if_pos hs
    rw [hIlen] at hD
    have hDlen : D.length = bp - s.natAbs := by rw [hD, List.length_take, hIlen]; exact Nat.min_eq_left (Nat.sub_le _ _)
    rw [hDlen, hD, List.take_take, Nat.min_eq_left (Nat.sub_le _ _)]
    simp only [DecimalParser.copyDigitsWith, Bool.false_and, Bool.false_eq_true, if_false]
    rcases copyDigitsIntegerOnly_spec 64 r p s.natAbs hp bp ap hfp with ⟨z1, z2, z3, e⟩ | ⟨hn, m, e⟩
    · left
      exact ⟨(allDigits_split (bp - s.natAbs - p)).mpr ⟨z1.allDigits, z2⟩, z3, z1, e⟩
    · right
      exact ⟨fun h => hn ⟨h.2.2, ((allDigits_split _).mp h.1).2, h.2.1⟩, m, e⟩
  · simp only [hs, if_false] at hnew
    have hD : D = r.take bp ++ ((r.drop ap).take s.toNat ++ zeros (s.toNat - (r.drop ap).length)) := by
      rw [← List.append_assoc]; exact if_neg hs
    by_cases hk : s.toNat < p
    · -- mixed
      simp only [hk, if_true] at hnew
      cases hnew
      obtain ⟨e1, e2⟩ := scaled_last_mixed (r.take bp) (r.drop ap) s.toNat p hk
      rw [hD, e1, e2, hIlen]
      simp only [DecimalParser.copyDigitsWith, Bool.false_and, Bool.false_eq_true, if_false]
      rcases copyDigitsMixed_spec 64 r p s.toNat hk hp bp ap hfp with ⟨z1, z2, z3, e⟩ | ⟨hn, m, e⟩
      · left
        exact ⟨(allDigits_split (bp - (p - s.toNat))).mpr ⟨z1.allDigits, z2⟩, z3, z1, e⟩
      · right
        exact ⟨fun h => hn ⟨h.2.2, ((allDigits_split _).mp h.1).2, h.2.1⟩, m, e⟩
    · -- fraction only
      simp only [hk, if_false] at hnew
      cases hnew
      have hkp : p ≤ s.toNat := Nat.le_of_not_lt hk
      obtain ⟨e1, e2⟩ := scaled_last_fraction (r.take bp) (r.drop ap) s.toNat p hkp
      rw [hD, e1, e2]
      simp only [DecimalParser.copyDigitsWith, Bool.false_and, Bool.false_eq_true, if_false]
      rcases copyDigitsFractionOnly_spec 64 r p s.toNat hkp hp bp ap hfp with ⟨z1, z2, z3, e⟩ | ⟨hn, m, e⟩
      · left
        exact ⟨z1.allDigits, (allDigits_split (s.toNat - p)).mpr ⟨z2.allDigits, z3⟩, ⟨z1, z2⟩, e⟩
      · right
        exact ⟨fun h => hn ⟨h.2.2.1, h.2.2.2, ((allDigits_split _).mp h.2.1).2⟩, m, e⟩

/-! ### spec decomposition = what `parse_sign` / `find_period` see -/

def specSign : Decimal.Sign → Spec.Decimal.Sign
  | .minus => .minus
  | .plus => .plus
  | .none => .none

theorem splitSign_eq (txt : List UInt8) : splitSign txt = (specSign (parseSign txt).2, (parseSign txt).1) := by
  unfold splitSign parseSign
  split <;> simp [specSign]

theorem splitPoint_eq (sg : Spec.Decimal.Sign) (r : List UInt8) (bp ap : Nat) (hfp : findPeriod r = (bp, ap)) :
    (splitPoint sg r).sign = sg ∧ (splitPoint sg r).int = r.take bp ∧ (splitPoint sg r).fracDigits = r.drop ap := by
  have facts := findPeriod_facts r
  rw [hfp] at facts
  obtain ⟨h1, h2, h3, h4, h5, h6⟩ := facts
  simp only at h1 h2 h3 h4 h5 h6
  unfold splitPoint
  rw [h6, h5]
  by_cases h : ap = bp
  · simp only [h, if_true, Parts.fracDigits, Option.getD_none]
    refine ⟨trivial, trivial, ?_⟩
    rw [List.drop_eq_nil_of_le (by have := h4 h; omega)]
  · simp [h, Parts.fracDigits]

theorem r_split (r : List UInt8) (bp ap : Nat) (hfp : findPeriod r = (bp, ap)) :
    r = r.take bp ++ (if ap = bp then [] else 46 :: r.drop ap) := by
  have facts := findPeriod_facts r
  rw [hfp] at facts
  obtain ⟨-, -, -, -, h5, h6⟩ := facts
  simp only at h5 h6
  conv => lhs; rw [← List.takeWhile_append_dropWhile (p := (· != 46)) (l := r)]
  rw [h5, h6]

theorem isDigit_46 : isDigit 46 = false := by decide

theorem anyAsciiDigit_iff (r : List UInt8) : anyAsciiDigit r = true ↔ ∃ c ∈ r, isDigit c = true := by
  unfold anyAsciiDigit
  rw [List.any_eq_true]
  constructor
  · rintro ⟨c, hc, h⟩; exact ⟨c, hc, by rw [← isAsciiDigit_iff]; exact h⟩
  · rintro ⟨c, hc, h⟩; exact ⟨c, hc, by rw [isAsciiDigit_iff]; exact h⟩

theorem anyAsciiDigit_parts (r : List UInt8) (bp ap : Nat) (hfp : findPeriod r = (bp, ap))
    (hI : AllDigits (r.take bp)) (hF : AllDigits (r.drop ap)) :
    anyAsciiDigit r = true ↔ 1 ≤ (r.take bp).length + (r.drop ap).length := by
  rw [anyAsciiDigit_iff]
  constructor
  · rintro ⟨c, hc, hd⟩
    rw [r_split r bp ap hfp] at hc
    rcases List.mem_append.mp hc with h | h
    · have := List.length_pos_of_mem h; omega
    · by_cases hab : ap = bp
      · simp [hab] at h
      · simp only [hab, if_false] at h
        rcases List.mem_cons.mp h with rfl | h
        · rw [isDigit_46] at hd; cases hd
        · have := List.length_pos_of_mem h; omega
  · intro h
    by_cases h0 : 1 ≤ (r.take bp).length
    · obtain ⟨c, hc⟩ := List.exists_mem_of_length_pos (show 0 < (r.take bp).length by omega)
      exact ⟨c, List.mem_of_mem_take hc, hI c hc⟩
    · obtain ⟨c, hc⟩ := List.exists_mem_of_length_pos (show 0 < (r.drop ap).length by omega)
      exact ⟨c, List.mem_of_mem_drop hc, hF c hc⟩

/-! ### `str::parse::<i128>` on a digit string -/

theorem digitsNat?_eq (ds : List UInt8) (hd : AllDigits ds) (acc : Nat) :
    digitsNat? ds acc = some (acc * 10 ^ ds.length + digitsVal ds) := by
  rw [show digitsVal ds = Digits.value digitVal ds from rfl, ← Digits.foldl_value]
  induction ds generalizing acc with
  | nil => rfl
  | cons c rest ih =>
    have hn : (c < 48 || c > 57) = false := by rw [notDigit_iff, hd c List.mem_cons_self]; rfl
    simp only [digitsNat?, hn, Bool.false_eq_true, if_false]
    exact ih (fun d h => hd d (List.mem_cons_of_mem _ h)) _

theorem pow38_le : (10 : Nat) ^ 38 ≤ 170141183460469231731687303715884105727 := by decide

theorem parseI128_digits (ds : List UInt8) (hd : AllDigits ds) (hne : ds ≠ []) (hlen : ds.length ≤ 38) :
    parseI128 ds = .ok (digitsVal ds : Int) := by
  cases ds with
  | nil => exact absurd rfl hne
  | cons c rest =>
    have hc := hd c List.mem_cons_self
    have h43 : (c == 43) = false := by
      apply Classical.byContradiction; intro h; simp at h; subst h; revert hc; decide
    have h45 : (c == 45) = false := by
      apply Classical.byContradiction; intro h; simp at h; subst h; revert hc; decide
    have hv := digitsVal_lt hd
    have hp := Nat.pow_le_pow_right (n := 10) (by omega) hlen
    have h38 := pow38_le
    unfold parseI128
    simp only [h43, h45, Bool.false_eq_true, if_false, List.isEmpty_cons, digitsNat?_eq _ hd, Nat.zero_mul, Nat.zero_add]
    rw [if_pos]
    unfold I128_MIN I128_MAX
    constructor <;> omega

end SaModel.Lemmas.C15
