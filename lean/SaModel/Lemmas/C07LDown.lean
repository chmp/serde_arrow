import SaModel.Lemmas.C07LMain
/-
C07, least-upper-bound argument — when `absorb` succeeds: a sample that a tracer absorbs is absorbed by every tracer
below it (`Down`; at a leaf this is the second half of `lub_step`), sample family by family as for `Lub`.  Under
`allow_to_string` a leaf step may fail below a state that absorbs the type (`allow_to_string_needed`), so there the
lower tracer has to be equivalent to the upper one (`Below`).  With the least-upper-bound law: unless `allow_to_string`
a run whose samples all occur in a successful run from the same tracer succeeds (`run_ok_of_subset`), because the
result of that run is an upper bound that has absorbed them, so the outcome of a run depends only on the set of its
samples; and for every option setting runs from equivalent tracers succeed together.  Congruence, the swap law and the
permutation law are these two facts (SaModel/Lemmas/C07TLift.lean).
-/
namespace SaModel.Lemmas.C07
open SaModel SaModel.Trace SaModel.Props.C07

def Below (o : Options) (t u : Tracer) : Prop := TLe o t u ∧ (o.allow_to_string = true → TLe o u t)

theorem Below.of_le {o : Options} (hno : o.allow_to_string = false) {t u : Tracer} (h : TLe o t u) : Below o t u :=
  ⟨h, fun e => by rw [hno] at e; cases e⟩

def Down (o : Options) (x : SVal) : Prop :=
  ∀ t u b, WF o t → WF o u → Below o t u → absorb .fixed o u x = .ok b → ∃ a, absorb .fixed o t x = .ok a

/-- the same for a list of samples: the two runs stay ordered (`Lub`, monotone clause) -/
theorem downL {o : Options} : ∀ {xs : List SVal}, (∀ x ∈ xs, Down o x) → ∀ {t u b}, WF o t → WF o u → Below o t u →
    absorbAll .fixed o u xs = .ok b → ∃ a, absorbAll .fixed o t xs = .ok a
  | [], _, t, _, _, _, _, _, _ => ⟨t, rfl⟩
  | x :: xs, hd, t, u, b, wt, wu, htu, h => by
    obtain ⟨m', h1, h2⟩ := absorbAll_cons_ok h
    obtain ⟨m, h3⟩ := hd x (by simp) t u m' wt wu htu h1
    obtain ⟨a, h4⟩ := downL (fun y hy => hd y (by simp [hy])) (absorb_wf o wt h3) (absorb_wf o wu h1)
      ⟨(lub_any o x t u m wt wu htu.1 h3).2.1 m' h1, fun e => (lub_any o x u t m' wu wt (htu.2 e) h1).2.1 m h3⟩ h2
    exact ⟨a, absorbAll_cons_mk h3 h4⟩

theorem down_none (o : Options) : Down o .none := fun t _ _ _ _ _ _ => ⟨_, C06.absorb_none .fixed o t⟩

theorem down_some {o : Options} {v : SVal} (hv : Down o v) : Down o (.some v) := by
  intro t u b wt wu htu hb
  rw [C06.absorb_some] at hb ⊢
  exact hv _ _ b (WF_mark wt) (WF_mark wu) ⟨TLe_mark htu.1 wt wu, fun e => TLe_mark (htu.2 e) wu wt⟩ hb

theorem down_newtype {o : Options} {n : String} {v : SVal} (hv : Down o v) : Down o (.newtypeStruct n v) := by
  intro t u b wt wu htu hb
  rw [C06.absorb_newtypeStruct] at hb ⊢
  exact hv t u b wt wu htu hb

theorem Never.down {o : Options} {x : SVal} (h : Never o x) : Down o x := fun _ u b _ _ _ hb => absurd hb (h u b)

/-- leaves: below an upper bound of the state and the type a step can only fail under `allow_to_string` (`lub_step`) -/
theorem down_leaf {o : Options} {x : SVal} {ty : DataType} (hx : leafTypeOf o x = some ty) : Down o x := by
  intro t u b wt wu ⟨htu, hut⟩ hb
  by_cases hty : ty = .null
  · subst hty; exact ⟨_, absorb_null_leaf hx wt⟩
  have hmem := leafTypeOf_mem o hx
  rw [absorb_prim .fixed o u hx] at hb
  rw [absorb_prim .fixed o t hx]
  cases hlu : Tracer.isLeaf u with
  | false =>
    -- a container node only takes `Null`
    rw [Tracer.ensure_primitive, ensure_prim_container o hlu] at hb
    split at hb
    · rename_i hn; exact absurd (isNull_iff.mp hn) hty
    · cases hb
  | true =>
    obtain ⟨su, hsu, eu⟩ := WF_leaf_embed wu hlu
    obtain ⟨s, hs, e⟩ := WF_leaf_embed wt (TLe_leaf_r htu hlu)
    rw [e, eu] at htu hut
    obtain ⟨_, _, hle⟩ := TLe_embed_inv htu
    rw [eu, ensure_primitive_embed] at hb
    rw [e, ensure_primitive_embed]
    cases h2 : act o su ty with
    | error _ => rw [h2] at hb; cases hb
    | ok su' =>
      cases hno : o.allow_to_string with
      | true => rw [sle_antisymm o hs hsu hle (TLe_embed_inv (hut hno)).2.2, h2]; exact ⟨_, rfl⟩
      | false =>
        have hsu' := (step_facts o hsu hmem h2).1
        have := lub_step o hs hsu' hmem (sle_trans o hs hsu hsu' hle (step_sle o hsu hmem h2)) (coerce_idem o hsu hmem h2)
        cases h1 : act o s ty with
        | ok s' => exact ⟨_, rfl⟩
        | error e' => rw [h1, hno] at this; cases this

theorem down_seq {o : Options} {items : SVals} (hi : ∀ v ∈ items.toList, Down o v) : Down o (.seq items) := by
  intro t u b wt wu ⟨htu, hut⟩ hb
  obtain ⟨n, p, nl, j, j', g1, g2, rfl⟩ := absorb_seq_ok hb
  obtain ⟨nl0, i, e1, _, hij⟩ := ensure_list_le wu htu g1
  have hji : o.allow_to_string = true → TLe o j i := fun e => by
    obtain ⟨_, _, g, _, h⟩ := ensure_list_le wt (hut e) e1
    rw [g1] at g; cases g; exact h
  obtain ⟨i', h2⟩ := downL hi (ensure_list_facts wt e1).1 (ensure_list_facts wu g1).1 ⟨hij, hji⟩ g2
  exact ⟨_, absorb_seq_mk e1 h2⟩

theorem down_map {o : Options} {x : SVal} {ks vs : List SVal} (hx : MapFam o x ks vs)
    (hk : ∀ v ∈ ks, Down o v) (hv : ∀ v ∈ vs, Down o v) : Down o x := by
  intro t u b wt wu ⟨htu, hut⟩ hb
  obtain ⟨n, p, nl, j, w, j', w', g1, g2, g3, rfl⟩ := (hx.ok u _).mp hb
  obtain ⟨nl0, k, v, e1, _, hkj, hvw⟩ := ensure_map_le wu htu g1
  have hr : o.allow_to_string = true → TLe o j k ∧ TLe o w v := fun e => by
    obtain ⟨_, _, _, g, _, h⟩ := ensure_map_le wt (hut e) e1
    rw [g1] at g; cases g; exact h
  obtain ⟨wk, wv, _⟩ := ensure_map_facts wt e1
  obtain ⟨wj, ww, _⟩ := ensure_map_facts wu g1
  obtain ⟨k', h2⟩ := downL hk wk wj ⟨hkj, fun e => (hr e).1⟩ g2
  obtain ⟨v', h3⟩ := downL hv wv ww ⟨hvw, fun e => (hr e).2⟩ g3
  exact ⟨_, (hx.ok t _).mpr ⟨_, _, _, _, _, k', v', e1, h2, h3, rfl⟩⟩

theorem keyT_down {o : Options} {p : String} {s s' : Nat} {k : String} {vs : List SVal} {cur cur' r' : Option Tracer}
    (hd : ∀ v ∈ vs, Down o v) (hw : OWF o cur) (hw' : OWF o cur') (hs : s ≠ 0 → s' ≠ 0) (hle : KLe o p s k cur cur')
    (hr : o.allow_to_string = true → (s' ≠ 0 → s ≠ 0) ∧ KLe o p s' k cur' cur)
    (h : keyT o p s' cur' k vs = .ok r') : ∃ r, keyT o p s cur k vs = .ok r := by
  cases vs with
  | nil => exact ⟨_, rfl⟩
  | cons w ws =>
    simp only [keyT] at h ⊢
    cases hb : absorbAll .fixed o (curT p s' k cur') (w :: ws) with
    | error e => rw [hb] at h; cases h
    | ok b =>
      obtain ⟨a, ha⟩ := downL hd (curT_wf hw) (curT_wf hw') ⟨curT_le hs hle, fun e => curT_le (hr e).1 (hr e).2⟩ hb
      rw [ha]; exact ⟨_, rfl⟩

theorem down_struct {o : Options} {x : SVal} {mode : StructMode} {ps : List (String × SVal)}
    (hx : StructFam o x mode ps) (hc : ∀ kv ∈ ps, Down o kv.2) : Down o x := by
  intro t u b wt wu ⟨htu, hut⟩ hb
  obtain ⟨n, p, nl, B, m', s', B1, g1, g2, rfl⟩ := (hx.ok u _).mp hb
  obtain ⟨nl0, A, m, s, e1, _, _, hs, hK⟩ := ensure_struct_le htu g1
  have hr : o.allow_to_string = true → (s' ≠ 0 → s ≠ 0) ∧ ∀ k, KLe o p s' k (tr (B.find k)) (tr (A.find k)) := fun e => by
    obtain ⟨_, _, _, _, g, _, _, h⟩ := ensure_struct_le (hut e) e1
    rw [g1] at g; cases g; exact h
  obtain ⟨wA, _, _⟩ := ensure_struct_facts wt e1
  obtain ⟨wB, _, _⟩ := ensure_struct_facts wu g1
  have KB := sample_find (fun k l t hf => (find_wf wB hf).1) g2
  obtain ⟨A1, r1⟩ := sample_mk (fs := A) fun k =>
    keyT_down (fun v hv => hc (k, v) (keyVals_mem hv)) (OWF_find wA k) (OWF_find wB k) hs (hK k)
      (fun e => ⟨(hr e).1, (hr e).2 k⟩) (KB k)
  exact ⟨_, (hx.ok t _).mpr ⟨_, _, _, _, _, _, A1, e1, r1, rfl⟩⟩

theorem down_tuple {o : Options} {x : SVal} {items : SVals} (hx : TupleFam o x items)
    (hc : ∀ v ∈ items.toList, Down o v) : Down o x := by
  intro t u b wt wu ⟨htu, hut⟩ hb
  obtain ⟨n', p', nl', us, R', g1, g2, rfl⟩ := (hx.ok u _).mp hb
  obtain ⟨n, p, nl, ts, e1⟩ := ensure_tuple_down htu g1
  obtain ⟨s, ts0, h0, rfl, wts, _, hct⟩ := ensure_tuple_facts wt e1
  obtain ⟨s', us0, h0', rfl, wus, _, hcu⟩ := ensure_tuple_facts wu g1
  obtain ⟨rfl, rfl, _, hs, hK⟩ := tuple_view_le htu h0 h0' hct hcu
  have KB := tuple_sample_find h0' g2
  obtain ⟨R, r1⟩ := tuple_sample_mk h0 fun j =>
    keyT_down (fun v hv => hc v (optList_mem hv)) (TsWF_get wts j) (TsWF_get wus j) hs (hK j)
      (fun e => let ⟨_, _, _, a, b⟩ := tuple_view_le (hut e) h0' h0 hcu hct; ⟨a, b j⟩) (KB j)
  exact ⟨_, (hx.ok t _).mpr ⟨_, _, _, _, R, e1, r1, rfl⟩⟩

theorem down_union {o : Options} {x : SVal} {idx : Nat} {vn : String} {payload : SVal}
    (hx : UnionFam o x idx vn payload) (hp : Down o payload) : Down o x := by
  intro t u b wt wu ⟨htu, hut⟩ hb
  obtain ⟨n, p, nl, B, su, vu', g1, hl, gs, ga, rfl⟩ := (hx.ok _ _).mp hb
  obtain ⟨nl0, A, e1, _, _, vk⟩ := ensure_union_le htu g1
  have hr : o.allow_to_string = true → VK o p B A := fun e => by
    obtain ⟨_, _, g, _, _, h⟩ := ensure_union_le (hut e) e1
    rw [g1] at g; cases g; exact h
  obtain ⟨st, hs⟩ := slot_down vk gs
  obtain ⟨wA, _, _⟩ := ensure_union_facts wt e1
  obtain ⟨wB, _, _⟩ := ensure_union_facts wu g1
  obtain ⟨vt', ha⟩ := hp st su vu' (slot_wf wA hs) (slot_wf wB gs) ⟨slot_le vk hs gs, fun e => slot_le (hr e) gs hs⟩ ga
  exact ⟨_, (hx.ok _ _).mpr ⟨_, _, _, A, st, vt', e1, hl, hs, ha, rfl⟩⟩

theorem down_any (o : Options) (x : SVal) : Down o x :=
  sample_induct o (down_none o) down_some down_newtype down_leaf Never.down down_seq down_struct down_map down_tuple
    down_union x

theorem downL_any {o : Options} {xs : List SVal} {t u b : Tracer} (wt : WF o t) (wu : WF o u) (h : Below o t u)
    (hb : absorbAll .fixed o u xs = .ok b) : ∃ a, absorbAll .fixed o t xs = .ok a :=
  downL (fun y _ => down_any o y) wt wu h hb

/-- unless `allow_to_string`, a run whose samples all occur in a successful run from the same tracer succeeds: the result
of that run is above the start and has absorbed them -/
theorem run_ok_of_subset {o : Options} (hno : o.allow_to_string = false) {xs ys : List SVal} {t r : Tracer} (wt : WF o t)
    (h : absorbAll .fixed o t xs = .ok r) (hsub : ∀ y ∈ ys, y ∈ xs) : ∃ b, absorbAll .fixed o t ys = .ok b := by
  have wr := absorbAll_wf o wt h
  obtain ⟨c, hc, _⟩ := accepts_list wr (fun y hy => run_accepts wt h y (hsub y hy))
  exact downL_any wt wr (.of_le hno (run_le wt h)) hc

end SaModel.Lemmas.C07
