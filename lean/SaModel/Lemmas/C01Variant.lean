import SaModel.Lemmas.PushRows
import SaModel.Spec.Interp
/-
What a variant value means at a union type: the union tag around what its payload means at the variant's field
(`interpDT_variant_iff`); both directions, for the four variant forms at once (`IsVariant`).
-/
namespace SaModel.Build
open SaModel SaModel.Spec

/-- the ok side of two computations that differ by a wrapper `f` around the result -/
theorem R.wrap_ok_iff {α β γ} {A : R α} {k : α → R β} {k' : α → R γ} {f : β → γ} {v : γ} (hk : ∀ r, k' r = f <$> k r) :
    (A >>= k') = .ok v ↔ ∃ w, (A >>= k) = .ok w ∧ v = f w := by
  cases A with
  | error e => exact Iff.intro (fun h => nomatch h) (fun ⟨w, hw, _⟩ => nomatch hw)
  | ok r =>
    show k' r = .ok v ↔ ∃ w, k r = .ok w ∧ v = f w
    rw [hk r]
    cases k r with
    | error e => exact Iff.intro (fun h => nomatch h) (fun ⟨w, hw, _⟩ => nomatch hw)
    | ok w => exact Iff.intro (fun h => ⟨w, rfl, by cases h; rfl⟩) (fun ⟨w, hw, h⟩ => by cases hw; cases h; rfl)

theorem R.wrap_pure_ok_iff {α γ} {A : R α} {f : α → γ} {v : γ} :
    (do pure (f (← A)) : R γ) = .ok v ↔ ∃ w, A = .ok w ∧ v = f w := by
  cases A with
  | error e => exact Iff.intro (fun h => nomatch h) (fun ⟨w, hw, _⟩ => nomatch hw)
  | ok w => exact Iff.intro (fun h => ⟨w, rfl, by cases h; rfl⟩) (fun ⟨w, hw, h⟩ => by cases hw; cases h; rfl)

theorem interpDT_variant_iff {ext : Ext} {ufs : UFields} {mode : UnionMode} {n : Bool} {md : Metadata} {x y : SVal} {i : Nat}
    {tid : Int} {nm : String} {cdt : DataType} {cn : Bool} {cmd : Metadata} {lv : LVal} (hx : IsVariant x i y)
    (hufs : ufs.toList[i]? = some (tid, .mk nm cdt cn cmd)) :
    interpDT ext (.union ufs mode) n md x = .ok lv ↔ ∃ lvc, interpDT ext cdt cn cmd y = .ok lvc ∧ lv = .union tid lvc := by
  have hfail : ∀ {s t : String}, (fail s : R LVal) = .ok lv ↔ ∃ lvc, (fail t : R LVal) = .ok lvc ∧ lv = .union tid lvc :=
    Iff.intro (fun h => nomatch h) (fun ⟨w, hw, _⟩ => nomatch hw)
  cases hx with
  | unit | newtype =>
    simp only [interpDT, hufs]
    exact R.wrap_pure_ok_iff
  | tuple a i vn xs =>
    simp only [interpDT, hufs]
    split
    · exact hfail
    cases cdt with
    | struct cfs => exact R.wrap_pure_ok_iff
    | binary | largeBinary | binaryView => exact R.wrap_ok_iff fun _ => rfl
    | list f | largeList f => cases f; exact R.wrap_ok_iff fun _ => rfl
    | fixedSizeBinary k => exact R.wrap_ok_iff fun _ => by split <;> rfl
    | fixedSizeList f k => cases f; exact R.wrap_ok_iff fun _ => by split <;> rfl
    | _ => exact hfail
  | struct a i vn fs =>
    simp only [interpDT, hufs]
    split
    · exact hfail
    cases cdt with
    | struct cfs => exact R.wrap_pure_ok_iff
    | _ => exact hfail
end SaModel.Build
