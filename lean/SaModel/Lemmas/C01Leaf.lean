import SaModel.Lemmas.C01List
/-
Step lemmas of the non-recursive builder families: what ONE more row (validity bit `b`, payload) does to the
well-formedness invariant and to the decoded rows.  Stated on the raw state so that `push`, `pushNone` and
`pushDefaultK` can all use them.
-/
namespace SaModel.Build
open SaModel SaModel.Spec

/-- the row a masked container shows for a new slot: null iff there is a bitmap and the bit is clear -/
def rowOf (v : Validity) (b : Bool) (x : LVal) : LVal := if v.isSome && !b then LVal.null else x

@[simp] theorem rowOf_true (v : Validity) (x : LVal) : rowOf v true x = x := by simp [rowOf]
@[simp] theorem rowOf_none (b : Bool) (x : LVal) : rowOf none b x = x := by simp [rowOf]
@[simp] theorem rowOf_some_false (bits : List Bool) (x : LVal) : rowOf (some bits) false x = .null := by simp [rowOf]

theorem rowOf_false_of_isSome {v : Validity} (h : v.isSome = true) (x : LVal) : rowOf v false x = .null := by
  simp [rowOf, h]

/-! ### offsets operations -/

theorem duplicateLast_ok {offs offs' : List Int} (h : duplicateLast offs = .ok offs') :
    ∃ l, offs.getLast? = some l ∧ offs' = offs ++ [l] := by
  unfold duplicateLast at h
  split at h
  · cases h
  · rename_i l hl; cases h; exact ⟨l, hl, rfl⟩

theorem incrementLast_snoc {c large : Bool} {base : List Int} {l : Int} {inc : Nat} {offs' : List Int}
    (h : incrementLast c large (base ++ [l]) inc = .ok offs') : offs' = base ++ [l + inc] := by
  unfold incrementLast at h
  simp only [List.getLast?_append, List.getLast?_singleton, Option.some_or] at h
  split at h
  · cases h
  · split at h
    · cases c <;> cases h
    · simp at h; exact h.symm

/-- the repaired `increment_last` never unwinds (the pinned one does at the top of the offset type) -/
theorem incrementLast_no_panic (large : Bool) (offs : List Int) (inc : Nat) :
    (incrementLast true large offs inc).isPanic = false := by
  unfold incrementLast
  split
  · rfl
  · split
    · rfl
    · split <;> rfl

theorem iter_incrementLast {c large : Bool} : ∀ (n : Nat) {base : List Int} {l : Int} {offs' : List Int},
    iter n (fun o => incrementLast c large o 1) (base ++ [l]) = .ok offs' → offs' = base ++ [l + n]
  | 0, base, l, offs', h => by simp [iter] at h; simp [← h]
  | n + 1, base, l, offs', h => by
    simp only [iter] at h
    obtain ⟨o1, h1, h2⟩ := (bind_ok _ _ _).1 h
    have := incrementLast_snoc h1
    subst this
    have := iter_incrementLast n h2
    rw [this]
    simp; omega

theorem iter_inv {α} (P : Nat → α → Prop) (f : α → R α)
    (hstep : ∀ i a a', P i a → f a = .ok a' → P (i + 1) a') :
    ∀ (k : Nat) (i : Nat) (a a' : α), P i a → iter k f a = .ok a' → P (i + k) a'
  | 0, i, a, a', h0, h => by simp [iter] at h; subst h; exact h0
  | k + 1, i, a, a', h0, h => by
    simp only [iter] at h
    obtain ⟨a1, h1, h2⟩ := (bind_ok _ _ _).1 h
    have := iter_inv P f hstep k (i + 1) a1 a' (hstep i a a1 h0 h1) h2
    have e : i + (k + 1) = i + 1 + k := by omega
    rw [e]; exact this

/-! ### leaf (`PrimitiveArray` / `BooleanArray`) -/

theorem leaf_step {p : String} {k : LeafKind} {v : Validity} {vals : List Int} (hwf : WFB (.leaf p k v vals))
    (b : Bool) (val : Int) :
    WFB (.leaf p k (v.map (· ++ [b])) (vals ++ [val])) ∧
    dec (.leaf p k (v.map (· ++ [b])) (vals ++ [val])) = dec (.leaf p k v vals) ++ [rowOf v b (leafVal k val)] := by
  simp only [WFB] at hwf
  refine ⟨?_, ?_⟩
  · simp only [WFB, List.length_append, List.length_singleton]; exact hwf.snoc b
  · simp only [dec, List.map_append, List.map_cons, List.map_nil]
    exact maskNull_snoc (by simpa using hwf) b _

/-! ### bytes (`BytesArray<O>`) -/

theorem bytes_last {p ty v offs data} (hwf : WFB (.bytes p ty v offs data)) :
    offs.getLast? = some (data.length : Int) := by
  simp only [WFB] at hwf; exact hwf.1.2.1

theorem bytes_step {p : String} {ty : BytesTy} {v : Validity} {offs : List Int} {data : Bytes}
    (hwf : WFB (.bytes p ty v offs data)) (b : Bool) (bs : Bytes) :
    WFB (.bytes p ty (v.map (· ++ [b])) (offs ++ [(data.length : Int) + bs.length]) (data ++ bs)) ∧
    dec (.bytes p ty (v.map (· ++ [b])) (offs ++ [(data.length : Int) + bs.length]) (data ++ bs)) =
      dec (.bytes p ty v offs data) ++ [rowOf v b (bytesVal (isUtf8Ty ty) bs)] := by
  simp only [WFB] at hwf
  obtain ⟨hoffs, hv⟩ := hwf
  have hpos := hoffs.length_pos
  have e : (data.length : Int) + bs.length = ((data.length + bs.length : Nat) : Int) := by simp
  refine ⟨?_, ?_⟩
  · simp only [WFB, List.length_append, List.length_singleton]
    refine ⟨?_, ?_⟩
    · rw [e]; exact hoffs.snoc bs.length
    · have := hv.snoc b
      have e2 : offs.length + 1 - 1 = offs.length - 1 + 1 := by omega
      rw [e2]; exact this
  · simp only [dec]
    rw [pairs_snoc hoffs.2.1, List.map_append, List.map_cons, List.map_nil]
    rw [map_pairs_stable hoffs data bs rfl (fun l => bytesVal (isUtf8Ty ty) l)]
    rw [e, sliceL_append_right data bs _ _ rfl rfl]
    exact maskNull_snoc (by simpa [pairs_length] using hv) b _

/-! ### bytes view -/

theorem leBytes_lt : ∀ (b : Bytes), leBytes b < 256 ^ b.length
  | [] => by simp [leBytes]
  | x :: r => by
    have ih := leBytes_lt r
    have hx : x.toNat < 256 := x.toNat_lt
    have : leBytes (x :: r) = x.toNat + 256 * leBytes r := by simp [leBytes]
    rw [this, List.length_cons, Nat.pow_succ]
    have : 256 * leBytes r + 256 ≤ 256 * 256 ^ r.length := by
      have := Nat.mul_le_mul_left 256 (Nat.succ_le_of_lt ih)
      simpa [Nat.mul_succ] using this
    omega

theorem decodeView_inline_isOk (bufs : List Bytes) (data : Bytes) (h : data.length ≤ 12) :
    (decodeView bufs (packInline data)).isOk = true := by
  unfold decodeView packInline
  have : (data.length + 2 ^ 32 * leBytes data) % 4294967296 = data.length := by omega
  simp only [this, h, if_true, R.isOk]

theorem add_mul_mod_lt {W a y : Nat} (ha : a < W) : (a + W * y) % W = a := by
  rw [Nat.add_mul_mod_self_left, Nat.mod_eq_of_lt ha]

theorem add_mul_div_lt {W a y : Nat} (ha : a < W) : (a + W * y) / W = y := by
  rw [Nat.add_mul_div_left _ _ (by omega), Nat.div_eq_of_lt ha, Nat.zero_add]

/-- the fields of a little-endian word of four digits in base `W` -/
theorem word_fields {W a b c : Nat} (d : Nat) (ha : a < W) (hb : b < W) (hc : c < W) :
    (a + W * b + W * W * c + W * W * W * d) % W = a ∧
    (a + W * b + W * W * c + W * W * W * d) / (W * W) % W = c ∧
    (a + W * b + W * W * c + W * W * W * d) / (W * W * W) % W = d % W := by
  have e : a + W * b + W * W * c + W * W * W * d = a + W * (b + W * (c + W * d)) := by
    simp only [Nat.mul_add, Nat.mul_assoc, Nat.add_assoc]
  rw [e]
  refine ⟨add_mul_mod_lt ha, ?_, ?_⟩
  · rw [← Nat.div_div_eq_div_mul, add_mul_div_lt ha, add_mul_div_lt hb, add_mul_mod_lt hc]
  · rw [← Nat.div_div_eq_div_mul, ← Nat.div_div_eq_div_mul, add_mul_div_lt ha, add_mul_div_lt hb, add_mul_div_lt hc]

theorem leBytes_take4_lt (data : Bytes) : leBytes (data.take 4) < 2 ^ 32 := by
  have := leBytes_lt (data.take 4)
  have hl : (data.take 4).length ≤ 4 := by simp; omega
  have : (256 : Nat) ^ (data.take 4).length ≤ 256 ^ 4 := Nat.pow_le_pow_right (by omega) hl
  omega

/-- what the length, buffer and offset fields of an out-of-line descriptor read back as (`decodeView` reads these three) -/
theorem packExtern_fields (data : Bytes) (buffer offset : Nat) :
    packExtern data buffer offset % 4294967296 = data.length % 2 ^ 32 ∧
    (packExtern data buffer offset >>> 64) % 4294967296 = buffer % 2 ^ 32 ∧
    (packExtern data buffer offset >>> 96) % 4294967296 = offset % 2 ^ 32 := by
  have h := word_fields (W := 2 ^ 32) (offset % 2 ^ 32) (Nat.mod_lt data.length (by decide)) (leBytes_take4_lt data)
    (Nat.mod_lt buffer (by decide))
  rw [Nat.mod_mod] at h
  unfold packExtern
  simp only [Nat.shiftRight_eq_div_pow]
  rw [show (2 : Nat) ^ 64 = 2 ^ 32 * 2 ^ 32 from rfl, show (2 : Nat) ^ 96 = 2 ^ 32 * 2 ^ 32 * 2 ^ 32 from rfl,
    show (4294967296 : Nat) = 2 ^ 32 from rfl]
  exact h

theorem decodeView_extern_isOk (buf data : Bytes) :
    (decodeView [buf ++ data] (packExtern data 0 buf.length)).isOk = true := by
  obtain ⟨e1, e2, e3⟩ := packExtern_fields data 0 buf.length
  unfold decodeView
  simp only [e1, e2, e3, Nat.zero_mod, List.getElem?_cons_zero, List.length_append]
  split
  · rfl
  · have := Nat.mod_le data.length (2 ^ 32)
    have := Nat.mod_le buf.length (2 ^ 32)
    rw [if_pos (by omega)]
    rfl

theorem decodeView_append_of_isOk (buf extra : Bytes) (d : Nat) (h : (decodeView [buf] d).isOk = true) :
    decodeView [buf ++ extra] d = decodeView [buf] d := by
  unfold decodeView at h ⊢
  simp only at h ⊢
  split
  · rfl
  · rename_i hlen
    simp only [hlen, if_false] at h
    cases hb : (d >>> 64) % 4294967296 with
    | zero =>
      simp only [hb, List.getElem?_cons_zero] at h ⊢
      split at h
      · rename_i hle
        rw [if_pos (by simp; omega)]
        rw [List.drop_append_of_le_length (by omega), List.take_append_of_le_length (by simp; omega)]
        rw [if_pos hle]
      · simp [R.isOk, fail] at h
    | succ n =>
      simp only [hb] at h ⊢
      simp [R.isOk, fail] at h

theorem view_step {p : String} {ty : ViewTy} {v : Validity} {views : List Nat} {buf : Bytes}
    (hwf : WFB (.bytesView p ty v views buf)) (b : Bool) (d : Nat) (extra : Bytes)
    (hd : (decodeView [buf ++ extra] d).isOk = true) (hlen : (buf ++ extra).length < 2 ^ 32) :
    WFB (.bytesView p ty (v.map (· ++ [b])) (views ++ [d]) (buf ++ extra)) ∧
    dec (.bytesView p ty (v.map (· ++ [b])) (views ++ [d]) (buf ++ extra)) =
      dec (.bytesView p ty v views buf) ++ [rowOf v b (bytesVal (ty == .utf8View) (viewBytes (buf ++ extra) d))] := by
  simp only [WFB] at hwf
  obtain ⟨hv, hviews, _⟩ := hwf
  refine ⟨?_, ?_⟩
  · simp only [WFB, List.length_singleton]
    refine ⟨by rw [List.length_append]; exact hv.snoc b, ?_, hlen⟩
    intro d' hd'
    rcases List.mem_append.1 hd' with h | h
    · rw [decodeView_append_of_isOk buf extra d' (hviews d' h)]; exact hviews d' h
    · simp at h; subst h; exact hd
  · simp only [dec, List.map_append, List.map_cons, List.map_nil]
    have : views.map (fun d => bytesVal (ty == .utf8View) (viewBytes (buf ++ extra) d)) =
        views.map (fun d => bytesVal (ty == .utf8View) (viewBytes buf d)) := by
      apply List.map_congr_left
      intro d' hd'
      simp only [viewBytes]
      rw [decodeView_append_of_isOk buf extra d' (hviews d' hd')]
    rw [this]
    exact maskNull_snoc (by simpa using hv) b _

theorem view_buf_lt {p ty v views buf} (hwf : WFB (.bytesView p ty v views buf)) : buf.length < 2 ^ 32 := by
  simp only [WFB] at hwf; exact hwf.2.2

/-- a successful `push_scalar_value`: one more descriptor designating bytes of the (possibly extended) buffer; the
buffer stays below 4 GiB (an out-of-line value is refused when its length or its offset exceeds `i32::MAX`) -/
theorem viewPushValue_ok {views : List Nat} {buf value : Bytes} {r : List Nat × Bytes}
    (h : viewPushValue views buf value = .ok r) :
    ∃ d extra, r = (views ++ [d], buf ++ extra) ∧ (decodeView [buf ++ extra] d).isOk = true ∧
      (buf.length < 2 ^ 32 → (buf ++ extra).length < 2 ^ 32) ∧
      ((d = packInline value ∧ extra = [] ∧ value.length ≤ 12) ∨
       (d = packExtern value 0 buf.length ∧ extra = value ∧ 12 < value.length ∧ (buf ++ value).length < 2 ^ 32)) := by
  unfold viewPushValue at h
  split at h
  · rename_i hle
    cases h
    exact ⟨packInline value, [], by simp, decodeView_inline_isOk _ _ hle, by simp, .inl ⟨rfl, rfl, hle⟩⟩
  · rename_i hgt
    split at h
    · simp [fail] at h
    · rename_i hmax
      cases h
      have hb : (buf ++ value).length < 2 ^ 32 := by
        simp only [I32_MAX] at hmax; rw [List.length_append]; omega
      exact ⟨packExtern value 0 buf.length, value, rfl, decodeView_extern_isOk _ _, fun _ => hb,
        .inr ⟨rfl, rfl, by omega, hb⟩⟩

/-- the sequence path (`start_seq` … `end_seq`) accepts what `push_scalar_value` accepts, with the same result: it checks
the length first and the buffer offset only for an out-of-line value -/
theorem viewSeq_pushValue {views : List Nat} {buf value : Bytes} {r : List Nat × Bytes}
    (h : viewSeq views buf value = .ok r) : viewPushValue views buf value = .ok r := by
  unfold viewSeq at h
  unfold viewPushValue
  split at h
  · cases h
  · rename_i hlen
    split at h
    · rename_i hle; rw [if_pos hle]; exact h
    · rename_i hgt
      split at h
      · cases h
      · rename_i hmax; rw [if_neg hgt, if_neg (by omega)]; exact h

theorem viewSeq_ok {views : List Nat} {buf value : Bytes} {r : List Nat × Bytes}
    (h : viewSeq views buf value = .ok r) :
    ∃ d extra, r = (views ++ [d], buf ++ extra) ∧ (decodeView [buf ++ extra] d).isOk = true ∧
      (buf.length < 2 ^ 32 → (buf ++ extra).length < 2 ^ 32) ∧
      ((d = packInline value ∧ extra = [] ∧ value.length ≤ 12) ∨
       (d = packExtern value 0 buf.length ∧ extra = value ∧ 12 < value.length ∧ (buf ++ value).length < 2 ^ 32)) :=
  viewPushValue_ok (viewSeq_pushValue h)

/-! ### fixed-size binary -/

theorem fsb_step {p : String} {n len : Nat} {v : Validity} {buf : Bytes} {cur : Nat}
    (hwf : WFB (.fixedSizeBinary p n len v buf cur)) (b : Bool) (bs : Bytes) (hn : bs.length = n) (cur' : Nat) :
    WFB (.fixedSizeBinary p n (len + 1) (v.map (· ++ [b])) (buf ++ bs) cur') ∧
    dec (.fixedSizeBinary p n (len + 1) (v.map (· ++ [b])) (buf ++ bs) cur') =
      dec (.fixedSizeBinary p n len v buf cur) ++ [rowOf v b (.bin bs)] := by
  simp only [WFB] at hwf
  obtain ⟨hv, hbuf⟩ := hwf
  refine ⟨?_, ?_⟩
  · simp only [WFB, List.length_append]
    exact ⟨hv.snoc b, by rw [hbuf, hn, Nat.add_mul]; simp⟩
  · simp only [dec]
    rw [List.range_succ, List.map_append, List.map_cons, List.map_nil]
    rw [range_map_stable buf bs n len hbuf (fun l => LVal.bin l), chunk_append_right buf bs n len hbuf hn]
    exact maskNull_snoc (by simpa using hv) b _

/-! ### null -/

theorem null_step (p : String) (len k : Nat) :
    dec (.null p (len + k)) = dec (.null p len) ++ List.replicate k .null := by
  simp [dec, List.replicate_append_replicate]

end SaModel.Build
