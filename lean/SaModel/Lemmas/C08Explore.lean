import SaModel.Lemmas.C08Ensure
/-
C08 — one exploration pass over an enum-free type description, started on a fresh node, ends in the complete tracer
`done` of the type (when the type can be walked: depth limit, `map_as_struct`), and is the documented error otherwise.
-/
namespace SaModel.Lemmas.C08
open SaModel SaModel.Trace SaModel.Trace.Spec

mutual
def enumFree : Ty → Bool
  | .option t | .vec t | .newtypeStruct _ t => enumFree t
  | .tuple ts | .tupleStruct _ ts => enumFreeTys ts
  | .map k v => enumFree k && enumFree v
  | .struct _ fs => enumFreeFields fs
  | .enum _ _ => false
  | _ => true
def enumFreeTys : Tys → Bool
  | .nil => true
  | .cons t r => enumFree t && enumFreeTys r
def enumFreeFields : TyFields → Bool
  | .nil => true
  | .cons _ t r => enumFree t && enumFreeFields r
end

/-- outcome of a pass: the tracer `d` when the type is walkable (`w`), a Rust error otherwise -/
def PassTo {α} (r : R α) (w : Bool) (d : α) : Prop :=
  (w = true → r = .ok d) ∧ (w = false → ∃ m, r = .error (.err m))

theorem PassTo.ok {α} (d : α) : PassTo (.ok d : R α) true d := ⟨fun _ => rfl, fun h => Bool.noConfusion h⟩

theorem PassTo.fail {α} (m : String) (d : α) : PassTo (fail m : R α) false d := ⟨fun h => Bool.noConfusion h, fun _ => ⟨m, rfl⟩⟩

theorem ensure_primitive_unknown (o : Options) (n p : String) (nl : Bool) (dt : DataType) :
    (Tracer.unknown n p nl).ensure_primitive o dt = .ok (.primitive n p (nl || isNull dt) dt none) := rfl

namespace PassTo

/-- two steps in a row: walkable iff both are; the first error is the error -/
theorem bind {α β} {a : R α} {f : α → R β} {w₁ w₂ : Bool} {d₁ : α} {d₂ : β} (h₁ : PassTo a w₁ d₁)
    (h₂ : PassTo (f d₁) w₂ d₂) : PassTo (a >>= f) (w₁ && w₂) d₂ := by
  cases w₁ with
  | false => obtain ⟨m, hm⟩ := h₁.2 rfl; rw [hm]; exact PassTo.fail m _
  | true => rw [h₁.1 rfl, R.ok_bind, Bool.true_and]; exact h₂

theorem map {α β} {a : R α} {w : Bool} {d : α} (h : PassTo a w d) (g : α → β) :
    PassTo (a >>= fun x => .ok (g x)) w (g d) := by
  have := h.bind (f := fun x => .ok (g x)) (PassTo.ok (g d))
  rwa [Bool.and_true] at this

end PassTo

mutual
theorem explore_done (c : Code) (o : Options) : ∀ (ty : Ty) (n p : String) (nl : Bool), enumFree ty = true →
    PassTo (explore c o (.unknown n p nl) ty) (walkable o p ty) (done o n p nl ty)
  | .unit | .unitStruct _ => by
    intro n p nl _
    simp only [explore, ensure_primitive_unknown, isNull, Bool.or_true, walkable, done]; exact PassTo.ok _
  | .bool | .f32 | .f64 | .char | .bytes => by
    intro n p nl _
    simp only [explore, ensure_primitive_unknown, isNull, Bool.or_false, walkable, done]; exact PassTo.ok _
  | .int t => by
    intro n p nl _
    simp only [explore, ensure_primitive_unknown, walkable, done]
    cases t <;> simp only [intDataType, isNull, Bool.or_false] <;> exact PassTo.ok _
  | .string => by
    intro n p nl _
    simp only [explore, walkable, done]
    show PassTo (.ok (Tracer.primitive n p (nl || isNull o.string_type) o.string_type none)) true _
    have : isNull o.string_type = false := by unfold Options.string_type; split <;> rfl
    rw [this, Bool.or_false]; exact PassTo.ok _
  | .option t => by
    intro n p nl h
    simp only [explore, walkable, done, Tracer.mark_nullable, Tracer.set_nullable]
    exact explore_done c o t n p true (by simpa only [enumFree] using h)
  | .newtypeStruct _ t => by
    intro n p nl h
    simp only [explore, walkable, done]
    exact explore_done c o t n p nl (by simpa only [enumFree] using h)
  | .vec t => by
    intro n p nl h
    simp only [explore, walkable, done]
    cases hd : tooDeep p with
    | true => rw [ensure_list_deep (.unknown n p nl) hd]; exact PassTo.fail _ _
    | false =>
      rw [ensure_list_unknown n p nl hd, R.ok_bind, Bool.not_false, Bool.true_and]
      exact (explore_done c o t "element" (childPath p "element") false (by simpa only [enumFree] using h)).map _
  | .map k v => by
    intro n p nl h
    simp only [explore, walkable, done]
    simp only [enumFree, Bool.and_eq_true] at h
    cases hm : o.map_as_struct with
    | true => simp only [if_true, Bool.not_true, Bool.false_and]; exact PassTo.fail _ _
    | false =>
      simp only [Bool.false_eq_true, if_false, Bool.not_false, Bool.true_and]
      cases hd : tooDeep p with
      | true => rw [ensure_map_deep (.unknown n p nl) hd]; exact PassTo.fail _ _
      | false =>
        rw [ensure_map_unknown n p nl hd, R.ok_bind, Bool.not_false, Bool.true_and]
        exact (explore_done c o k "key" (childPath p "key") false h.1).bind
          ((explore_done c o v "value" (childPath p "value") false h.2).map _)
  | .tuple ts | .tupleStruct _ ts => by
    intro n p nl h
    simp only [explore, walkable, done]
    cases hd : tooDeep p with
    | true => rw [ensure_tuple_deep c (.unknown n p nl) _ hd]; exact PassTo.fail _ _
    | false =>
      rw [ensure_tuple_unknown c n p nl _ hd, R.ok_bind, Bool.not_false, Bool.true_and]
      have ih := exploreTys_done c o ts p ts.length (by simpa only [enumFree] using h) (Nat.le_refl _)
      rw [Nat.sub_self] at ih
      exact ih.map _
  | .struct _ fs => by
    intro n p nl h
    simp only [explore, walkable, done]
    cases hd : tooDeep p with
    | true => rw [ensure_struct_deep c (.unknown n p nl) _ _ hd]; exact PassTo.fail _ _
    | false =>
      rw [ensure_struct_unknown c n p nl _ _ hd, R.ok_bind, Bool.not_false, Bool.true_and]
      exact (exploreFields_done c o fs p (by simpa only [enumFree] using h)).map _
  | .enum _ _ => by intro _ _ _ h; simp [enumFree] at h
theorem exploreTys_done (c : Code) (o : Options) : ∀ (ts : Tys) (p : String) (N : Nat), enumFreeTys ts = true →
    ts.length ≤ N →
    PassTo (exploreTys c o (mkTupleFields p N ts.length) 0 ts) (walkableTys o p (N - ts.length) ts)
      (doneTys o p (N - ts.length) ts)
  | .nil => by
    intro p N _ _
    simp only [exploreTys, walkableTys, doneTys, Tys.length, mkTupleFields]; exact PassTo.ok _
  | .cons t r => by
    intro p N h hl
    simp only [enumFreeTys, Bool.and_eq_true] at h
    simp only [Tys.length] at hl ⊢
    simp only [exploreTys, walkableTys, doneTys, mkTupleFields, Tracers.get?, Tracer.new]
    have e : N - (r.length + 1) + 1 = N - r.length := by omega
    have ih := explore_done c o t (toString (N - (r.length + 1))) (childPath p (toString (N - (r.length + 1)))) false h.1
    have ihr := exploreTys_done c o r p N h.2 (by omega)
    rw [e]
    refine ih.bind ?_
    simp only [Tracers.set, exploreTys_shift]
    exact ihr.map _
theorem exploreFields_done (c : Code) (o : Options) : ∀ (fs : TyFields) (p : String), enumFreeFields fs = true →
    PassTo (exploreFields c o (mkStructFields p fs.names) 0 fs) (walkableFields o p fs) (doneFields o p fs)
  | .nil, p, _ => by
    simp only [exploreFields, walkableFields, doneFields]; exact PassTo.ok _
  | .cons fname t r, p, h => by
    simp only [enumFreeFields, Bool.and_eq_true] at h
    simp only [exploreFields, walkableFields, doneFields, TyFields.names, mkStructFields, TFields.get?, Tracer.new]
    refine (explore_done c o t fname (childPath p fname) false h.1).bind ?_
    simp only [TFields.set, exploreFields_shift]
    exact (exploreFields_done c o r p h.2).map _
end

end SaModel.Lemmas.C08
