import SaModel.Spec.SchemaDenote
import SaModel.Lemmas.C09SoundField
/-
C09: the reader computes exactly the denotation of `Spec/SchemaDenote.lean`:
`(parseSchema j).toOption = denoteSchema j` for every JSON value.
-/
namespace SaModel.SchemaJson
open SaModel SaModel.Dsl

theorem getName_toOption (a : Option JVal) : (getName a).toOption = strOf a := by
  rcases a with _ | (_|_|_|_|_|_) <;> rfl

theorem getDataType_toOption (a : Option JVal) : (getDataType a).toOption = (strOf a).map (·.toList) := by
  rcases a with _ | (_|_|_|_|_|_) <;> rfl

theorem getNullable_toOption (a : Option JVal) : (getNullable a).toOption = nullableDenotes a := by
  rcases a with _ | (_|_|_|_|_|_) <;> rfl

theorem parseStrategyOpt_toOption (a : Option JVal) : (parseStrategyOpt a).toOption = strategyDenotes a := by
  rcases a with _ | (_|_|_|s|_|_) <;> try rfl
  simp only [parseStrategyOpt, strategyDenotes, Strategy.parse]
  repeat' split
  all_goals rfl

theorem metaOfObj_toOption : (o : JObj) → (metaOfObj o).toOption = (objStrings o).map canonMeta
  | .nil => rfl
  | .cons k (.str v) r => by
    have ih := metaOfObj_toOption r
    unfold metaOfObj objStrings
    cases hm : metaOfObj r with
    | error e =>
      simp only [hm, Except.toOption] at ih
      cases ho : objStrings r with
      | none => rfl
      | some l => simp [ho] at ih
    | ok m =>
      simp only [hm, Except.toOption] at ih
      cases ho : objStrings r with
      | none => simp [ho] at ih
      | some l =>
        simp only [ho, Option.map_some, Option.some.injEq] at ih
        subst ih
        rfl
  | .cons _ .null _ | .cons _ (.bool _) _ | .cons _ (.num _) _ | .cons _ (.arr _) _ | .cons _ (.obj _) _ => rfl

theorem getMetadata_toOption (a : Option JVal) : (getMetadata a).toOption = metadataDenotes a := by
  rcases a with _ | (_|_|_|_|_|m) <;> try rfl
  exact metaOfObj_toOption m

theorem metadataDenotes_sorted {a : Option JVal} {md : Metadata} (h : metadataDenotes a = some md) :
    sortedMeta md = true := by
  rw [← getMetadata_toOption] at h
  cases hg : getMetadata a with
  | error e => simp [hg, Except.toOption] at h
  | ok m =>
    simp only [hg, Except.toOption, Option.some.injEq] at h
    subst h
    unfold getMetadata at hg
    split at hg
    · cases hg; rfl
    · exact metaOfObj_sorted _ _ hg
    · cases hg

theorem merge_eq (md : Metadata) (strat : Option Strategy) :
    mergeStrategyWithMetadata md strat =
      if hasKey md STRATEGY_KEY && strat.isSome then
        fail "Duplicate strategy: metadata map contains SERDE_ARROW:strategy and strategy given"
      else .ok (withStrategy md strat) := by
  unfold mergeStrategyWithMetadata
  split
  · rfl
  · cases strat <;> rfl

/-- `into_field` against the specification, for children in `SchemaOK` and HashMap metadata -/
theorem intoField_denote (name ty : String) (nl : Bool) (strat : Option Strategy) (cs : List Field) (md : Metadata)
    (hc : ∀ c ∈ cs, SchemaOK c) :
    (intoField false name ty.toList nl strat cs md).toOption = fieldDenotes name ty nl strat md cs := by
  unfold intoField fieldDenotes readType buildDataType
  rw [merge_eq]
  cases hb : buildDataTypeWith false ty.toList cs with
  | error e =>
    simp only [bind, Except.bind, Except.toOption]
    split <;> rfl
  | ok dt =>
    by_cases hd : (hasKey md STRATEGY_KEY && strat.isSome) = true
    · simp only [hd, if_true, bind, Except.bind, fail, Except.toOption]
    · simp only [hd, if_false, bind, Except.bind, Bool.false_eq_true]
      unfold buildDataTypeWith at hb
      obtain ⟨t, _, hdt⟩ := R.bind_ok_inv hb
      have hbuilt := buildDataTypeOfTerm_built t cs dt hdt
      obtain ⟨h1, _⟩ := side_repr_of_built hbuilt hc nl
      have hiff := validate_iff_valid (.mk name dt (normNullable dt nl) (withStrategy md strat))
        (by simpa [rangeField] using h1)
      cases hv : validateField (.mk name dt (normNullable dt nl) (withStrategy md strat)) with
      | ok u =>
        have := hiff.mp hv
        simp [this, Except.toOption, pure, Except.pure]
      | error e =>
        have : validField (.mk name dt (normNullable dt nl) (withStrategy md strat)) = false := by
          cases hvf : validField (.mk name dt (normNullable dt nl) (withStrategy md strat)) with
          | false => rfl
          | true => rw [hiff.mpr hvf] at hv; cases hv
        simp [this, Except.toOption]

theorem ok_of_toOption {α} {x : R α} {a : α} (h : x.toOption = some a) : x = .ok a := by
  cases x with
  | error e => cases h
  | ok b => cases h; rfl

mutual
theorem parseField_denote : (j : JVal) → (parseFieldWith false j).toOption = denoteField j
  | .obj o => by
    have ihc := parseChildren_denote o
    rw [parseFieldWith_obj]
    unfold denoteField dupKeys
    by_cases hd : (knownKeys.any fun k => decide (o.count k > 1)) = true
    · rw [if_pos hd, if_pos hd]; rfl
    · rw [if_neg hd, if_neg hd]
      rw [R.toOption_bind, getName_toOption]
      cases strOf (o.get? "name") with
      | none => rfl
      | some name =>
        simp only [Option.bind_some]
        rw [R.toOption_bind, getDataType_toOption]
        cases strOf (o.get? "data_type") with
        | none => rfl
        | some ty =>
          simp only [Option.map_some, Option.bind_some]
          rw [R.toOption_bind, getNullable_toOption]
          cases nullableDenotes (o.get? "nullable") with
          | none => rfl
          | some nl =>
            simp only [Option.bind_some]
            rw [R.toOption_bind, parseStrategyOpt_toOption]
            cases strategyDenotes (o.get? "strategy") with
            | none => rfl
            | some strat =>
              simp only [Option.bind_some]
              rw [R.toOption_bind, getMetadata_toOption]
              cases metadataDenotes (o.get? "metadata") with
              | none => rfl
              | some md =>
                simp only [Option.bind_some]
                rw [R.toOption_bind, ihc]
                cases hch : denoteChildren o with
                | none => rfl
                | some cs =>
                  simp only [Option.bind_some]
                  rw [hch] at ihc
                  have hc := parseChildren_sound false o cs (ok_of_toOption ihc)
                  exact intoField_denote name ty nl strat cs md hc
  | .null | .bool _ | .num _ | .str _ | .arr _ => rfl
theorem parseChildren_denote : (o : JObj) → (parseChildrenWith false o).toOption = denoteChildren o
  | .nil => rfl
  | .cons k v r => by
    unfold parseChildrenWith denoteChildren
    split
    · match v with
      | .arr vs => exact parseFieldList_denote vs
      | .null | .bool _ | .num _ | .str _ | .obj _ => rfl
    · exact parseChildren_denote r
theorem parseFieldList_denote : (vs : JVals) → (parseFieldListWith false vs).toOption = denoteList vs
  | .nil => rfl
  | .cons v r => by
    unfold parseFieldListWith denoteList
    rw [R.toOption_bind, parseField_denote v]
    cases denoteField v with
    | none => rfl
    | some f =>
      simp only [Option.bind_some]
      rw [R.toOption_bind, parseFieldList_denote r]
      cases denoteList r <;> rfl
end

theorem parseFieldsKey_denote : (o : JObj) → (parseFieldsKeyWith false o).toOption = denoteFieldsKey o
  | .nil => rfl
  | .cons k v r => by
    unfold parseFieldsKeyWith denoteFieldsKey
    split
    · match v with
      | .arr vs =>
        show ((parseFieldListWith false vs >>= fun fs => parseFieldsKeyWith false r >>= fun later =>
          pure (some (later.getD fs))) : R _).toOption =
          (denoteList vs).bind fun fs => (denoteFieldsKey r).bind fun later => some (some (later.getD fs))
        rw [R.toOption_bind, parseFieldList_denote vs]
        cases denoteList vs with
        | none => rfl
        | some fs =>
          simp only [Option.bind_some]
          rw [R.toOption_bind, parseFieldsKey_denote r]
          cases denoteFieldsKey r <;> rfl
      | .null | .bool _ | .num _ | .str _ | .obj _ => rfl
    · exact parseFieldsKey_denote r

theorem parseSchema_denote (j : JVal) : (parseSchemaWith false j).toOption = denoteSchema j := by
  cases j with
  | arr vs => exact parseFieldList_denote vs
  | obj o =>
    show ((parseFieldsKeyWith false o >>= fun r => match r with
      | some fs => pure fs
      | none => fail "missing field `fields`") : R (List Field)).toOption = (denoteFieldsKey o).bind id
    rw [R.toOption_bind, parseFieldsKey_denote o]
    cases denoteFieldsKey o with
    | none => rfl
    | some r => cases r <;> rfl
  | null => rfl
  | bool _ => rfl
  | num _ => rfl
  | str _ => rfl

end SaModel.SchemaJson
