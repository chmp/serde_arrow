import SaModel.Lemmas.ReadBasic
/-
The readers without child readers.  Each looks at its view through ONE getter (`LeafGet`: `BoolDeserializer::get`,
`PrimitiveView::get`, `BytesView::get` …); where a value is required that is `get_required` of it, the row check of
`NullDeserializer`, or `get_str` of the dictionary reader (`LeafReq`).  The scalar `deserialize_*`,
`deserialize_any_some` and the byte / string element accessors are that read followed by a step that looks at no
buffer (`scalar_cases`, `anySome_cases`, `binaryElems_cases`, `stringElem_cases`): a fact about them is a fact about
the getters, stated once per property (`leafReq_noPanic` here; C12Out, C17TouchLeaf, C18ReadPlain for the others).
-/
namespace SaModel.Read
open SaModel

/-- the reader of the array holds no child reader -/
def childless : Arr → Bool
  | .struct _ _ _ | .list _ _ _ _ _ | .fixedSizeList _ _ _ _ _ | .map _ _ _ _ _ | .union _ _ _ => false
  | _ => true

/-- `g` is the `get(idx)` of the reader of the array -/
inductive LeafGet (fx : Fixes) : Arr → Nat → {β : Type} → R (Option β) → Prop
  | boolean {len v vals i} : LeafGet fx (.boolean len v vals) i (boolGet fx len v vals i)
  | prim {ty v vals i} : LeafGet fx (.prim ty v vals) i (primGet fx v vals i)
  | time {ty u v vals i} : LeafGet fx (.time ty u v vals) i (primGet fx v vals i)
  | timestamp {u tz v vals i} : LeafGet fx (.timestamp u tz v vals) i (primGet fx v vals i)
  | decimal128 {p s v vals i} : LeafGet fx (.decimal128 p s v vals) i (primGet fx v vals i)
  | bytes {ty v offs data i} : LeafGet fx (.bytes ty v offs data) i (bytesColGet fx ty v offs data i)
  | bytesView {ty v views bufs i} : LeafGet fx (.bytesView ty v views bufs) i (viewColGet fx ty v views bufs i)
  | fixedSizeBinary {n v data i} : LeafGet fx (.fixedSizeBinary n v data) i (fsbColGet fx n v data i)

/-- the readers that answer `is_some` through their getter -/
def hasGet : Arr → Bool
  | .boolean _ _ _ | .prim _ _ _ | .time _ _ _ _ | .timestamp _ _ _ _ | .decimal128 _ _ _ _ | .bytes _ _ _ _
  | .bytesView _ _ _ _ | .fixedSizeBinary _ _ _ => true
  | _ => false

/-- `is_some` of such a reader: `get(idx)?.is_some()` -/
theorem isSome_get_cases (fx : Fixes) (a : Arr) (i : Nat) (hg : hasGet a = true) {motive : R Bool → Prop}
    (k : ∀ {β : Type} (g : R (Option β)), LeafGet fx a i g → motive (optIsSome g)) : motive (isSome fx a i) := by
  cases a <;> first | (cases hg; done) | exact k _ (by constructor)

/-- `r` is the read the reader of the array makes of slot `i` when a value is required -/
inductive LeafReq (fx : Fixes) : Arr → Nat → {β : Type} → R β → Prop
  | get {a i β} {g : R (Option β)} : LeafGet fx a i g → LeafReq fx a i (getRequired g)
  | null {len i} : LeafReq fx (.null len) i (nullCheck fx len i)
  | dictionary {ks vs i} : LeafReq fx (.dictionary ks vs) i (dictGetStr fx ks vs i)

/-- a scalar `deserialize_*`: not implemented by the reader of the array, or its required read and then a step that
fails, if at all, with a plain `Err` -/
theorem scalar_cases (fx : Fixes) (m : Method) (a : Arr) (i : Nat) {motive : R DVal → Prop} (hn : motive notImpl)
    (hg : ∀ {β : Type} (r : R β) (k : β → R DVal), LeafReq fx a i r → (∀ x, PlainOnly (k x)) → motive (r >>= k)) :
    motive (scalar fx m a i) := by
  unfold scalar
  -- with_reducible: the alternatives that do not fit must fail before the model functions are unfolded
  split <;> (repeat' split) <;> first
    | (with_reducible exact hn)
    | (refine hg _ _ (by first | exact .null | exact .dictionary | exact .get (by constructor)) fun _ => ?_
       with_reducible first
        | exact Errs.pure _ | exact plainOnly_intoInt _ _
        | exact plainOnly_ownedStr (plainOnly_dateRepr _ _) | exact plainOnly_ownedBytes (plainOnly_dateRepr _ _)
        | exact plainOnly_ownedStr (plainOnly_timeRepr _ _) | exact plainOnly_ownedBytes (plainOnly_timeRepr _ _)
        | exact plainOnly_ownedStr (plainOnly_timestampRepr _ _ _) | exact plainOnly_ownedBytes (plainOnly_timestampRepr _ _ _)
        | exact Errs.ite (Errs.ite (Errs.pure _) (PlainOnly.fail _)) (PlainOnly.fail _))

/-- `deserialize_any_some`: the required read, then a total conversion -/
theorem anySome_cases (fx : Fixes) (a : Arr) (i : Nat) (hc : childless a = true) {motive : R DVal → Prop}
    (hg : ∀ {β : Type} (r : R β) (f : β → DVal), LeafReq fx a i r → motive (r >>= fun x => pure (f x))) :
    motive (readAnySome fx a i) := by
  cases a <;> first
    | (cases hc; done)
    | (unfold readAnySome; exact hg _ _ (by first | exact .null | exact .dictionary | exact .get (by constructor)))

theorem binaryElems_cases {fx : Fixes} {a : Arr} {i : Nat} {rb : R Bytes} (h : binaryElems fx a i = some rb) :
    LeafReq fx a i rb := by
  unfold binaryElems at h
  split at h
  · split at h <;> cases h; exact .get .bytes
  · split at h <;> cases h; exact .get .bytesView
  · cases h; exact .get .fixedSizeBinary
  · cases h

theorem stringElem_cases {fx : Fixes} {a : Arr} {i : Nat} {rs : R Bytes} (h : stringElem fx a i = some rs) :
    LeafReq fx a i rs := by
  unfold stringElem at h
  split at h
  · split at h <;> cases h; exact .get .bytes
  · split at h <;> cases h; exact .get .bytesView
  · cases h; exact .dictionary
  · cases h

/-! ### no panic -/

theorem leafGet_noPanic {a : Arr} {i : Nat} {β : Type} {g : R (Option β)} (h : LeafGet Fixes.all a i g) : NoPanic g := by
  cases h with
  | boolean => exact noPanic_boolGet _ _ _ _
  | prim | time | timestamp | decimal128 => exact noPanic_primGet _ _ _
  | bytes => exact noPanic_bytesColGet _ _ _ _ _
  | bytesView => exact noPanic_viewColGet _ _ _ _ _
  | fixedSizeBinary => exact noPanic_fsbColGet _ _ _ _

theorem leafReq_noPanic {a : Arr} {i : Nat} {β : Type} {r : R β} (h : LeafReq Fixes.all a i r) : NoPanic r := by
  cases h with
  | get hg => exact noPanic_getRequired (leafGet_noPanic hg)
  | null => exact noPanic_nullCheck _ _
  | dictionary => exact noPanic_dictGetStr _ _ _

theorem noPanic_scalar (m : Method) (a : Arr) (idx : Nat) : NoPanic (scalar Fixes.all m a idx) :=
  scalar_cases Fixes.all m a idx NoPanic.notImpl fun _ _ hr hk => NoPanic.bind (leafReq_noPanic hr) fun x => (hk x).noPanic

theorem noPanic_binaryElems {a : Arr} {idx : Nat} {rb : R Bytes} (h : binaryElems Fixes.all a idx = some rb) : NoPanic rb :=
  leafReq_noPanic (binaryElems_cases h)

theorem noPanic_stringElem {a : Arr} {idx : Nat} {rs : R Bytes} (h : stringElem Fixes.all a idx = some rs) : NoPanic rs :=
  leafReq_noPanic (stringElem_cases h)

/-! ### two views -/

/-- the two arrays have the same constructor and type tags, and their getters give the same outcome at the slots
`i` / `i'`: all that the reader of an array without children can tell -/
inductive LeafSim (fx : Fixes) : Arr → Nat → Arr → Nat → Prop
  | null {len len' i i'} : nullCheck fx len i = nullCheck fx len' i' → LeafSim fx (.null len) i (.null len') i'
  | boolean {len v vals len' v' vals' i i'} : boolGet fx len v vals i = boolGet fx len' v' vals' i' →
      LeafSim fx (.boolean len v vals) i (.boolean len' v' vals') i'
  | prim (ty) {v vals v' vals' i i'} : primGet fx v vals i = primGet fx v' vals' i' →
      LeafSim fx (.prim ty v vals) i (.prim ty v' vals') i'
  | time (ty u) {v vals v' vals' i i'} : primGet fx v vals i = primGet fx v' vals' i' →
      LeafSim fx (.time ty u v vals) i (.time ty u v' vals') i'
  | timestamp (u tz) {v vals v' vals' i i'} : primGet fx v vals i = primGet fx v' vals' i' →
      LeafSim fx (.timestamp u tz v vals) i (.timestamp u tz v' vals') i'
  | decimal128 (p s) {v vals v' vals' i i'} : primGet fx v vals i = primGet fx v' vals' i' →
      LeafSim fx (.decimal128 p s v vals) i (.decimal128 p s v' vals') i'
  | bytes (ty) {v offs data v' offs' data' i i'} : bytesColGet fx ty v offs data i = bytesColGet fx ty v' offs' data' i' →
      LeafSim fx (.bytes ty v offs data) i (.bytes ty v' offs' data') i'
  | bytesView (ty) {v views bufs v' views' bufs' i i'} :
      viewColGet fx ty v views bufs i = viewColGet fx ty v' views' bufs' i' →
      LeafSim fx (.bytesView ty v views bufs) i (.bytesView ty v' views' bufs') i'
  | fixedSizeBinary (n) {v data v' data' i i'} : fsbColGet fx n v data i = fsbColGet fx n v' data' i' →
      LeafSim fx (.fixedSizeBinary n v data) i (.fixedSizeBinary n v' data') i'
  | dictionary {ks vs ks' vs' i i'} : isSome fx (.dictionary ks vs) i = isSome fx (.dictionary ks' vs') i' →
      dictGetStr fx ks vs i = dictGetStr fx ks' vs' i' → LeafSim fx (.dictionary ks vs) i (.dictionary ks' vs') i'

namespace LeafSim
variable {fx : Fixes} {a a' : Arr} {i i' : Nat}

theorem isSome (h : LeafSim fx a i a' i') : isSome fx a i = Read.isSome fx a' i' := by
  cases h <;> first | assumption | (rename_i h; simp only [Read.isSome, h])

theorem scalar (h : LeafSim fx a i a' i') (m : Method) : scalar fx m a i = Read.scalar fx m a' i' := by
  cases h <;> rename_i h <;> unfold Read.scalar <;> simp only [codecRead, h]

theorem anySome (h : LeafSim fx a i a' i') : readAnySome fx a i = readAnySome fx a' i' := by
  cases h <;> rename_i h <;> simp only [readAnySome, h]

theorem binaryElems (h : LeafSim fx a i a' i') : binaryElems fx a i = Read.binaryElems fx a' i' := by
  cases h <;> first | rfl | (rename_i h; simp only [Read.binaryElems, h])

theorem stringElem (h : LeafSim fx a i a' i') : stringElem fx a i = Read.stringElem fx a' i' := by
  cases h <;> first | rfl | (rename_i h; simp only [Read.stringElem, h])

end LeafSim

theorem container_ops {fx : Fixes} {a : Arr} (hc : childless a = false) (i : Nat) :
    (∀ m, scalar fx m a i = notImpl) ∧ binaryElems fx a i = none ∧ stringElem fx a i = none := by
  cases a <;> first | (cases hc; done) | exact ⟨fun _ => rfl, rfl, rfl⟩

theorem leafOps_congr {fx : Fixes} {a a' : Arr} {i i' : Nat} (hk : childless a' = childless a)
    (hs : childless a = true → LeafSim fx a i a' i') :
    (∀ m, scalar fx m a i = scalar fx m a' i') ∧ binaryElems fx a i = binaryElems fx a' i' ∧
      stringElem fx a i = stringElem fx a' i' := by
  cases hc : childless a with
  | true => exact ⟨(hs hc).scalar, (hs hc).binaryElems, (hs hc).stringElem⟩
  | false =>
    obtain ⟨h1, h2, h3⟩ := container_ops (fx := fx) hc i
    obtain ⟨h1', h2', h3'⟩ := container_ops (fx := fx) (hk.trans hc) i'
    exact ⟨fun m => (h1 m).trans (h1' m).symm, h2.trans h2'.symm, h3.trans h3'.symm⟩

end SaModel.Read
