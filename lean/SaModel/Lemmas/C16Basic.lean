import SaModel.Build.Finish
import SaModel.Lemmas.C01Leaf
/-
C16 plumbing: the "no panic" predicate `r.isPanic = false` and its closure under `ctx`, bind and `iter`; the
offset / validity helpers; placeholders and nulls in ANY builder state (structural recursion over the builder
tree).  Restated as property theorems in Props/C16.lean.
-/
namespace SaModel.Lemmas.C16
open SaModel SaModel.Build

theorem ctx_isPanic {α} (ann : List (String × String)) (r : R α) : (ctx ann r).isPanic = r.isPanic := by
  unfold ctx
  split
  · split <;> simp [R.isPanic]
  · rfl

/-- bind with the continuation only considered on the value the first step produced -/
theorem bind_np {α β} {r : R α} {f : α → R β} (h1 : r.isPanic = false) (h2 : ∀ v, r = .ok v → (f v).isPanic = false) :
    (r >>= f).isPanic = false := by
  cases r with
  | ok v => exact h2 v rfl
  | error e => cases e <;> first | rfl | cases h1

theorem bind_no_panic {α β} (r : R α) (f : α → R β) (h1 : r.isPanic = false) (h2 : ∀ v, (f v).isPanic = false) :
    (r >>= f).isPanic = false := bind_np h1 fun v _ => h2 v

theorem ok_no_panic {α} (v : α) : R.isPanic (Except.ok v : R α) = false := rfl
theorem fail_no_panic {α} (msg : String) : (fail msg : R α).isPanic = false := rfl
theorem notSupported_no_panic {α} (msg : String) : (notSupported msg : R α).isPanic = false := rfl

theorem ne_panic_of_isPanic {α} {r : R α} (h : r.isPanic = false) (site : String) : r ≠ panic site := by
  intro e; rw [e] at h; simp [panic, R.isPanic] at h

theorem setValidity_no_panic (v : Validity) (idx : Nat) (value : Bool) : (setValidity v idx value).isPanic = false := by
  unfold setValidity; split <;> try rfl
  split <;> rfl

theorem duplicateLast_no_panic (offs : List Int) : (duplicateLast offs).isPanic = false := by
  unfold duplicateLast; split <;> rfl

theorem incrementLast_no_panic (large : Bool) (offs : List Int) (inc : Nat) :
    (incrementLast true large offs inc).isPanic = false :=
  Build.incrementLast_no_panic large offs inc

theorem iter_no_panic {α} (f : α → R α) (hf : ∀ a, (f a).isPanic = false) : ∀ (k : Nat) (a : α), (iter k f a).isPanic = false
  | 0, _ => rfl
  | k + 1, a => by
    rw [iter]
    exact bind_no_panic _ _ (hf a) (fun a' => iter_no_panic f hf k a')

mutual
theorem pushDefaultK_no_panic : ∀ (b : B) (k : Nat), (pushDefaultK b k).isPanic = false
  | .null _ _, _ => by simp [pushDefaultK, R.isPanic]
  | .unknownVariant _, k => by
    unfold pushDefaultK
    split
    · rfl
    · rw [ctx_isPanic]; rfl
  | .leaf _ _ _ _, k | .bytesView _ _ _ _ _, k | .fixedSizeBinary _ _ _ _ _ _, k => by
    unfold pushDefaultK
    exact bind_no_panic _ _ (iter_no_panic _ (fun _ => rfl) _ _) (fun _ => rfl)
  | .bytes _ _ _ _ _, k | .list _ _ _ _ _ _, k | .map _ _ _ _ _ _, k => by
    unfold pushDefaultK
    rw [ctx_isPanic]
    refine bind_no_panic _ _ (iter_no_panic _ (fun s => ?_) _ _) (fun _ => rfl)
    exact bind_no_panic _ _ (duplicateLast_no_panic _) (fun _ => rfl)
  | .fixedSizeList _ _ n _ _ _ el, k => by
    unfold pushDefaultK
    rw [ctx_isPanic]
    refine bind_no_panic _ _ (iter_no_panic _ (fun _ => rfl) _ _) (fun _ => ?_)
    exact bind_no_panic _ _ (pushDefaultK_no_panic el (k * n)) (fun _ => rfl)
  | .struct _ _ _ fs _ _ _, k => by
    unfold pushDefaultK
    rw [ctx_isPanic]
    refine bind_no_panic _ _ (iter_no_panic _ (fun _ => rfl) _ _) (fun _ => ?_)
    exact bind_no_panic _ _ (pushDefaultKAll_no_panic fs k) (fun _ => rfl)
  | .dictionary _ idx _ _, k => by
    unfold pushDefaultK
    rw [ctx_isPanic]
    exact bind_no_panic _ _ (pushDefaultK_no_panic idx k) (fun _ => rfl)
  | .union _ fs _ _ _, k => by
    unfold pushDefaultK
    rw [ctx_isPanic]
    cases fs with
    | nil => simp only []; split <;> rfl
    | cons c m rest =>
      simp only []
      split
      · rfl
      split
      · rfl
      · exact bind_no_panic _ _ (pushDefaultKAt_no_panic (.cons c m rest) _ k) (fun _ => by split <;> rfl)
theorem pushDefaultKAll_no_panic : ∀ (fs : BL) (k : Nat), (pushDefaultKAll fs k).isPanic = false
  | .nil, _ => rfl
  | .cons b _ rest, k => by
    unfold pushDefaultKAll
    refine bind_no_panic _ _ (pushDefaultK_no_panic b k) (fun _ => ?_)
    exact bind_no_panic _ _ (pushDefaultKAll_no_panic rest k) (fun _ => rfl)
theorem pushDefaultKAt_no_panic : ∀ (fs : BL) (j k : Nat), (pushDefaultKAt fs j k).isPanic = false
  | .nil, _, _ => rfl
  | .cons b _ rest, 0, k => by
    unfold pushDefaultKAt
    exact bind_no_panic _ _ (pushDefaultK_no_panic b k) (fun _ => rfl)
  | .cons b _ rest, j + 1, k => by
    unfold pushDefaultKAt
    exact bind_no_panic _ _ (pushDefaultKAt_no_panic rest j k) (fun _ => rfl)
end

theorem pushNone_no_panic : ∀ (b : B), (pushNone b).isPanic = false
  | .null _ _ => rfl
  | .unknownVariant _ => by unfold pushNone; rw [ctx_isPanic]; rfl
  | .leaf _ _ _ _ | .bytesView _ _ _ _ _ | .fixedSizeBinary _ _ _ _ _ _ => by
    unfold pushNone; rw [ctx_isPanic]
    exact bind_no_panic _ _ (setValidity_no_panic _ _ _) (fun _ => rfl)
  | .bytes _ _ _ _ _ | .list _ _ _ _ _ _ | .map _ _ _ _ _ _ => by
    unfold pushNone; rw [ctx_isPanic]
    refine bind_no_panic _ _ (setValidity_no_panic _ _ _) (fun _ => ?_)
    exact bind_no_panic _ _ (duplicateLast_no_panic _) (fun _ => rfl)
  | .fixedSizeList _ _ n _ _ _ el => by
    unfold pushNone; rw [ctx_isPanic]
    refine bind_no_panic _ _ (setValidity_no_panic _ _ _) (fun _ => ?_)
    exact bind_no_panic _ _ (pushDefaultK_no_panic el n) (fun _ => rfl)
  | .struct _ _ _ fs _ _ _ => by
    unfold pushNone; rw [ctx_isPanic]
    refine bind_no_panic _ _ (setValidity_no_panic _ _ _) (fun _ => ?_)
    exact bind_no_panic _ _ (pushDefaultKAll_no_panic fs 1) (fun _ => rfl)
  | .dictionary _ idx _ _ => by
    unfold pushNone; rw [ctx_isPanic]
    split
    · rfl
    · refine bind_no_panic _ _ ?_ (fun _ => rfl)
      rw [ctx_isPanic]; exact pushNone_no_panic idx
  | .union _ _ _ _ _ => by unfold pushNone; rw [ctx_isPanic]; rfl

end SaModel.Lemmas.C16
