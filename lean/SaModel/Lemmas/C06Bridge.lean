import SaModel.Lemmas.C06Lists
import SaModel.Trace.Leaf
/-
C06: the compound serializers of `from_samples` restated over ordinary lists, so that the nested laws
can be proved with ordinary list induction, plus an induction principle for `SVal` that hands the statement for all
children of a compound sample to the caller.

* `absorbSeq` = `absorbAll` on the element list;
* a map sample is the raw call stream of its entries (`SEntries.ops`, `absorb_map`);
* `absorbFields`, `absorbOpsAsStruct` = `absorbKVs` on the (key, value) list of the sample;
* `absorbOpsAsMap` = two independent `absorbAll` runs (keys, values);
* `absorbTuple` = `absorbTupleL`;
* the unit / tuple / struct variants are the newtype variant of `()` / the tuple / the struct.
-/
namespace SaModel.Lemmas.C06
open SaModel SaModel.Trace

theorem bind_ok {α β} {x : R α} {f : α → R β} {b : β} : (x >>= f) = .ok b ↔ ∃ a, x = .ok a ∧ f a = .ok b :=
  R.bind_eq_ok

def SFields.kvs : SFields → List (String × SVal)
  | .nil => []
  | .cons k _ v r => (k, v) :: SFields.kvs r

def SEntries.keys : SEntries → List SVal
  | .nil => []
  | .cons k _ r => k :: SEntries.keys r

def SEntries.vals : SEntries → List SVal
  | .nil => []
  | .cons _ v r => v :: SEntries.vals r

/-- the (key, value) list of a map sample traced as a struct: every key must be a string -/
def SEntries.kvs : SEntries → R (List (String × SVal))
  | .nil => .ok []
  | .cons k v r => do
    let key ← serializeToString k
    let rest ← SEntries.kvs r
    .ok ((key, v) :: rest)

def SMapOps.keys : SMapOps → List SVal
  | .nil => []
  | .key k r => k :: SMapOps.keys r
  | .value _ r => SMapOps.keys r

def SMapOps.vals : SMapOps → List SVal
  | .nil => []
  | .key _ r => SMapOps.vals r
  | .value v r => v :: SMapOps.vals r

/-- the (key, value) list a raw call stream amounts to under `MapSerializer::AsStruct`; `nk` is the pending key -/
def SMapOps.kvs : Option String → SMapOps → R (List (String × SVal))
  | _, .nil => .ok []
  | _, .key k r => do
    let key ← serializeToString k
    SMapOps.kvs (some key) r
  | nk, .value v r =>
    match nk with
    | none => fail "serialize_value called without prior call to serialize_key"
    | some key => do
      let rest ← SMapOps.kvs none r
      .ok ((key, v) :: rest)

/-- the call stream of a map sample: `serialize_key`, `serialize_value` for every entry -/
def SEntries.ops : SEntries → SMapOps
  | .nil => .nil
  | .cons k v r => .key k (.value v (SEntries.ops r))

theorem SEntries.keys_ops : ∀ es : SEntries, SMapOps.keys (SEntries.ops es) = SEntries.keys es
  | .nil => rfl
  | .cons k v r => by simp only [SEntries.ops, SMapOps.keys, SEntries.keys, SEntries.keys_ops r]

theorem SEntries.vals_ops : ∀ es : SEntries, SMapOps.vals (SEntries.ops es) = SEntries.vals es
  | .nil => rfl
  | .cons k v r => by simp only [SEntries.ops, SMapOps.vals, SEntries.vals, SEntries.vals_ops r]

theorem SEntries.kvs_ops : ∀ es : SEntries, SMapOps.kvs none (SEntries.ops es) = SEntries.kvs es
  | .nil => rfl
  | .cons k v r => by simp only [SEntries.ops, SMapOps.kvs, SEntries.kvs, SEntries.kvs_ops r]

section induct
variable (o : Options) (P : SVal → Prop)
  (hleaf : ∀ x ty, leafTypeOf o x = some ty → P x)
  (hnone : P .none)
  (hsome : ∀ v, P v → P (.some v))
  (hnewtype : ∀ n v, P v → P (.newtypeStruct n v))
  (hseq : ∀ items : SVals, (∀ v ∈ items.toList, P v) → P (.seq items))
  (htuple : ∀ items : SVals, (∀ v ∈ items.toList, P v) → P (.tuple items))
  (htupleStruct : ∀ n (items : SVals), (∀ v ∈ items.toList, P v) → P (.tupleStruct n items))
  (hrecord : ∀ n (fs : SFields), (∀ kv ∈ SFields.kvs fs, P kv.2) → P (.record n fs))
  (hmap : ∀ es : SEntries, (∀ v ∈ SEntries.keys es, P v) → (∀ v ∈ SEntries.vals es, P v) → P (.map es))
  (hmapRaw : ∀ ops : SMapOps, (∀ v ∈ SMapOps.keys ops, P v) → (∀ v ∈ SMapOps.vals ops, P v) → P (.mapRaw ops))
  (hunitVariant : ∀ n i vn, P (.unitVariant n i vn))
  (hnewtypeVariant : ∀ n i vn v, P v → P (.newtypeVariant n i vn v))
  (htupleVariant : ∀ n i vn (items : SVals), (∀ v ∈ items.toList, P v) → P (.tupleVariant n i vn items))
  (hstructVariant : ∀ n i vn (fs : SFields), (∀ kv ∈ SFields.kvs fs, P kv.2) → P (.structVariant n i vn fs))
include hleaf hnone hsome hnewtype hseq htuple htupleStruct hrecord hmap hmapRaw hunitVariant hnewtypeVariant
  htupleVariant hstructVariant

mutual
theorem sval_induct : ∀ x : SVal, P x
  | .none => hnone
  | .unit => hleaf _ _ rfl
  | .some v => hsome v (sval_induct v)
  | .bool _ => hleaf _ _ rfl
  | .int _ _ => hleaf _ _ rfl
  | .f32 _ => hleaf _ _ rfl
  | .f64 _ => hleaf _ _ rfl
  | .char _ => hleaf _ _ rfl
  | .str _ => hleaf _ _ rfl
  | .bytes _ => hleaf _ _ rfl
  | .seq items => hseq items (svals_induct items)
  | .tuple items => htuple items (svals_induct items)
  | .tupleStruct n items => htupleStruct n items (svals_induct items)
  | .newtypeStruct n v => hnewtype n v (sval_induct v)
  | .unitStruct _ => hleaf _ _ rfl
  | .record n fs => hrecord n fs (sfields_induct fs)
  | .map es => hmap es (sentries_induct es).1 (sentries_induct es).2
  | .mapRaw ops => hmapRaw ops (sops_induct ops).1 (sops_induct ops).2
  | .unitVariant n i vn => hunitVariant n i vn
  | .newtypeVariant n i vn v => hnewtypeVariant n i vn v (sval_induct v)
  | .tupleVariant n i vn items => htupleVariant n i vn items (svals_induct items)
  | .structVariant n i vn fs => hstructVariant n i vn fs (sfields_induct fs)
theorem svals_induct : ∀ xs : SVals, ∀ v ∈ xs.toList, P v
  | .nil => fun _ h => nomatch h
  | .cons x r => List.forall_mem_cons.mpr ⟨sval_induct x, svals_induct r⟩
theorem sfields_induct : ∀ fs : SFields, ∀ kv ∈ SFields.kvs fs, P kv.2
  | .nil => fun _ h => nomatch h
  | .cons _ _ x r => List.forall_mem_cons.mpr ⟨sval_induct x, sfields_induct r⟩
theorem sentries_induct : ∀ es : SEntries, (∀ v ∈ SEntries.keys es, P v) ∧ (∀ v ∈ SEntries.vals es, P v)
  | .nil => ⟨(fun _ h => nomatch h), (fun _ h => nomatch h)⟩
  | .cons k x r => ⟨List.forall_mem_cons.mpr ⟨sval_induct k, (sentries_induct r).1⟩,
      List.forall_mem_cons.mpr ⟨sval_induct x, (sentries_induct r).2⟩⟩
theorem sops_induct : ∀ ops : SMapOps, (∀ v ∈ SMapOps.keys ops, P v) ∧ (∀ v ∈ SMapOps.vals ops, P v)
  | .nil => ⟨(fun _ h => nomatch h), (fun _ h => nomatch h)⟩
  | .key k r => ⟨List.forall_mem_cons.mpr ⟨sval_induct k, (sops_induct r).1⟩, (sops_induct r).2⟩
  | .value x r => ⟨(sops_induct r).1, List.forall_mem_cons.mpr ⟨sval_induct x, (sops_induct r).2⟩⟩
end
end induct

/-- `StructSerializer::serialize_field` for every (key, value) -/
def absorbKVs (c : Code) (o : Options) (path : String) (seen : Nat) : TFields → List (String × SVal) → R TFields
  | fs, [] => .ok fs
  | fs, kv :: r =>
    match (ensure_field path seen fs kv.1).2.get? (ensure_field path seen fs kv.1).1 with
    | some ft =>
      match absorb c o ft kv.2 with
      | .ok ft' => absorbKVs c o path seen ((ensure_field path seen fs kv.1).2.set (ensure_field path seen fs kv.1).1 ft') r
      | .error e => .error e
    | none => panic "unreachable: get_field_tracer_mut"

def absorbTupleL (c : Code) (o : Options) (path : String) : Tracers → Nat → List SVal → R Tracers
  | ts, _, [] => .ok ts
  | ts, pos, v :: r =>
    match (field_tracer_grow path pos ts).get? pos with
    | some ft =>
      match absorb c o ft v with
      | .ok ft' => absorbTupleL c o path ((field_tracer_grow path pos ts).set pos ft') (pos + 1) r
      | .error e => .error e
    | none => panic "unreachable: field_tracer"

theorem absorbAll_cons (c : Code) (o : Options) (t : Tracer) (x : SVal) (xs : List SVal) :
    absorbAll c o t (x :: xs) = match absorb c o t x with
      | .ok t' => absorbAll c o t' xs
      | .error e => .error e := by
  simp only [absorbAll]
  cases absorb c o t x <;> rfl

theorem absorbAll_cons_ok {c : Code} {o : Options} {t t' : Tracer} {x : SVal} {xs : List SVal} :
    absorbAll c o t (x :: xs) = .ok t' ↔ ∃ t1, absorb c o t x = .ok t1 ∧ absorbAll c o t1 xs = .ok t' := by
  rw [absorbAll_cons]
  cases absorb c o t x <;> simp

theorem absorbKVs_cons_ok {c : Code} {o : Options} {path : String} {s : Nat} {fs fs' : TFields} {kv : String × SVal}
    {kvs : List (String × SVal)} : absorbKVs c o path s fs (kv :: kvs) = .ok fs' ↔
      ∃ ft ft', (ensure_field path s fs kv.1).2.get? (ensure_field path s fs kv.1).1 = some ft ∧
        absorb c o ft kv.2 = .ok ft' ∧
        absorbKVs c o path s ((ensure_field path s fs kv.1).2.set (ensure_field path s fs kv.1).1 ft') kvs = .ok fs' := by
  simp only [absorbKVs]
  cases (ensure_field path s fs kv.1).2.get? (ensure_field path s fs kv.1).1 with
  | none => simp [panic]
  | some ft => cases ha : absorb c o ft kv.2 <;> simp [ha]

theorem absorbTupleL_cons_ok {c : Code} {o : Options} {path : String} {ts ts' : Tracers} {pos : Nat} {v : SVal}
    {vs : List SVal} : absorbTupleL c o path ts pos (v :: vs) = .ok ts' ↔
      ∃ ft ft', (field_tracer_grow path pos ts).get? pos = some ft ∧ absorb c o ft v = .ok ft' ∧
        absorbTupleL c o path ((field_tracer_grow path pos ts).set pos ft') (pos + 1) vs = .ok ts' := by
  simp only [absorbTupleL]
  cases (field_tracer_grow path pos ts).get? pos with
  | none => simp [panic]
  | some ft => cases ha : absorb c o ft v <;> simp [ha]

theorem absorbAll_append (c : Code) (o : Options) : ∀ (xs ys : List SVal) (t : Tracer),
    absorbAll c o t (xs ++ ys) = match absorbAll c o t xs with
      | .ok t' => absorbAll c o t' ys
      | .error e => .error e
  | [], ys, t => by simp [absorbAll]
  | x :: xs, ys, t => by
    simp only [List.cons_append, absorbAll_cons]
    cases absorb c o t x with
    | ok t' => simp only; exact absorbAll_append c o xs ys t'
    | error e => rfl

theorem absorbSeq_eq (c : Code) (o : Options) : ∀ (items : SVals) (i : Tracer),
    absorbSeq c o i items = absorbAll c o i items.toList
  | .nil, i => by simp [absorbSeq, SVals.toList, absorbAll]
  | .cons v r, i => by
    simp only [absorbSeq, SVals.toList, absorbAll_cons]
    cases absorb c o i v with
    | ok i' => exact absorbSeq_eq c o r i'
    | error e => rfl

theorem absorbTuple_eq (c : Code) (o : Options) (path : String) : ∀ (items : SVals) (ts : Tracers) (pos : Nat),
    absorbTuple c o path ts pos items = absorbTupleL c o path ts pos items.toList
  | .nil, ts, pos => by simp [absorbTuple, SVals.toList, absorbTupleL]
  | .cons v r, ts, pos => by
    simp only [absorbTuple, SVals.toList, absorbTupleL]
    cases (field_tracer_grow path pos ts).get? pos with
    | none => rfl
    | some ft =>
      simp only
      cases absorb c o ft v with
      | ok ft' => exact absorbTuple_eq c o path r _ _
      | error e => rfl

theorem absorbFields_eq (c : Code) (o : Options) (path : String) (seen : Nat) : ∀ (fields : SFields) (fs : TFields),
    absorbFields c o path seen fs fields = absorbKVs c o path seen fs (SFields.kvs fields)
  | .nil, fs => by simp [absorbFields, SFields.kvs, absorbKVs]
  | .cons k _ v r, fs => by
    simp only [absorbFields, SFields.kvs, absorbKVs]
    cases (ensure_field path seen fs k).2.get? (ensure_field path seen fs k).1 with
    | none => rfl
    | some ft =>
      simp only
      cases absorb c o ft v with
      | ok ft' => exact absorbFields_eq c o path seen r _
      | error e => rfl

theorem absorbEntriesAsStruct_eq (c : Code) (o : Options) (path : String) (seen : Nat) : ∀ (es : SEntries) (fs : TFields),
    absorbEntriesAsStruct c o path seen fs es = absorbOpsAsStruct c o path seen fs none (SEntries.ops es)
  | .nil, fs => by simp only [absorbEntriesAsStruct, SEntries.ops, absorbOpsAsStruct]
  | .cons k v r, fs => by
    simp only [absorbEntriesAsStruct, SEntries.ops, absorbOpsAsStruct, absorbEntriesAsStruct_eq c o path seen r]

theorem absorbEntriesAsMap_eq (c : Code) (o : Options) : ∀ (es : SEntries) (kt vt : Tracer),
    absorbEntriesAsMap c o kt vt es = absorbOpsAsMap c o kt vt (SEntries.ops es)
  | .nil, kt, vt => by simp only [absorbEntriesAsMap, SEntries.ops, absorbOpsAsMap]
  | .cons k v r, kt, vt => by
    simp only [absorbEntriesAsMap, SEntries.ops, absorbOpsAsMap, absorbEntriesAsMap_eq c o r]

theorem absorb_map (c : Code) (o : Options) (t : Tracer) (es : SEntries) :
    absorb c o t (.map es) = absorb c o t (.mapRaw (SEntries.ops es)) := by
  simp only [absorb, absorbEntriesAsStruct_eq, absorbEntriesAsMap_eq]

theorem absorbOpsAsStruct_ok (c : Code) (o : Options) (path : String) (seen : Nat) :
    ∀ (ops : SMapOps) (nk : Option String) (fs fs' : TFields),
    absorbOpsAsStruct c o path seen fs nk ops = .ok fs' ↔
      ∃ kvs, SMapOps.kvs nk ops = .ok kvs ∧ absorbKVs c o path seen fs kvs = .ok fs'
  | .nil, nk, fs, fs' => by simp [absorbOpsAsStruct, SMapOps.kvs, absorbKVs]
  | .key k r, nk, fs, fs' => by
    simp only [absorbOpsAsStruct, SMapOps.kvs]
    cases hk : serializeToString k with
    | error e => simp [bind, Except.bind]
    | ok key =>
      simp only [bind, Except.bind]
      exact absorbOpsAsStruct_ok c o path seen r (some key) fs fs'
  | .value v r, none, fs, fs' => by simp [absorbOpsAsStruct, SMapOps.kvs, fail]
  | .value v r, some key, fs, fs' => by
    have step : absorbOpsAsStruct c o path seen fs (some key) (.value v r) = .ok fs' ↔
        ∃ ft ft', (ensure_field path seen fs key).2.get? (ensure_field path seen fs key).1 = some ft ∧
          absorb c o ft v = .ok ft' ∧
          absorbOpsAsStruct c o path seen ((ensure_field path seen fs key).2.set (ensure_field path seen fs key).1 ft')
            none r = .ok fs' := by
      simp only [absorbOpsAsStruct]
      cases (ensure_field path seen fs key).2.get? (ensure_field path seen fs key).1 with
      | none => simp [panic]
      | some ft => cases ha : absorb c o ft v <;> simp [ha, bind, Except.bind]
    rw [step]
    simp only [SMapOps.kvs, bind_ok, Except.ok.injEq, absorbOpsAsStruct_ok c o path seen r]
    constructor
    · rintro ⟨ft, ft', hg, ha, kvs, hk, h⟩
      exact ⟨(key, v) :: kvs, ⟨kvs, hk, rfl⟩, absorbKVs_cons_ok.mpr ⟨ft, ft', hg, ha, h⟩⟩
    · rintro ⟨_, ⟨kvs, hk, rfl⟩, h⟩
      obtain ⟨ft, ft', hg, ha, h⟩ := absorbKVs_cons_ok.mp h
      exact ⟨ft, ft', hg, ha, kvs, hk, h⟩

theorem SMapOps.kvs_vals : ∀ (ops : SMapOps) (nk : Option String) (kvs : List (String × SVal)),
    SMapOps.kvs nk ops = .ok kvs → ∀ kv ∈ kvs, kv.2 ∈ SMapOps.vals ops
  | .nil, nk, kvs, h => by simp [SMapOps.kvs] at h; subst h; simp
  | .key k r, nk, kvs, h => by
    simp only [SMapOps.kvs, bind, Except.bind] at h
    cases hk : serializeToString k with
    | error e => rw [hk] at h; cases h
    | ok key =>
      rw [hk] at h; simp only at h
      simp only [SMapOps.vals]
      exact SMapOps.kvs_vals r (some key) kvs h
  | .value v r, none, kvs, h => by simp [SMapOps.kvs, fail] at h
  | .value v r, some key, kvs, h => by
    simp only [SMapOps.kvs, bind, Except.bind] at h
    cases hr : SMapOps.kvs none r with
    | error e => rw [hr] at h; cases h
    | ok rest =>
      rw [hr] at h; cases h
      intro kv hkv
      simp only [List.mem_cons] at hkv
      rcases hkv with rfl | hkv
      · simp [SMapOps.vals]
      · simp only [SMapOps.vals, List.mem_cons]; exact .inr (SMapOps.kvs_vals r none rest hr kv hkv)

theorem SEntries.kvs_vals (es : SEntries) (kvs : List (String × SVal)) (h : SEntries.kvs es = .ok kvs) :
    ∀ kv ∈ kvs, kv.2 ∈ SEntries.vals es := by
  rw [← SEntries.kvs_ops] at h
  rw [← SEntries.vals_ops]
  exact SMapOps.kvs_vals _ none kvs h

theorem absorbOpsAsMap_ok (c : Code) (o : Options) : ∀ (ops : SMapOps) (kt vt kt' vt' : Tracer),
    absorbOpsAsMap c o kt vt ops = .ok (kt', vt') ↔
      absorbAll c o kt (SMapOps.keys ops) = .ok kt' ∧ absorbAll c o vt (SMapOps.vals ops) = .ok vt'
  | .nil, kt, vt, kt', vt' => by simp [absorbOpsAsMap, SMapOps.keys, SMapOps.vals, absorbAll]
  | .key k r, kt, vt, kt', vt' => by
    simp only [absorbOpsAsMap, SMapOps.keys, SMapOps.vals, absorbAll_cons, bind, Except.bind]
    cases absorb c o kt k with
    | error e => simp
    | ok kt1 => simp only; exact absorbOpsAsMap_ok c o r kt1 vt kt' vt'
  | .value v r, kt, vt, kt', vt' => by
    simp only [absorbOpsAsMap, SMapOps.keys, SMapOps.vals, absorbAll_cons, bind, Except.bind]
    cases absorb c o vt v with
    | error e => simp
    | ok vt1 => simp only; exact absorbOpsAsMap_ok c o r kt vt1 kt' vt'

theorem absorbEntriesAsMap_ok (c : Code) (o : Options) : ∀ (es : SEntries) (kt vt kt' vt' : Tracer),
    absorbEntriesAsMap c o kt vt es = .ok (kt', vt') ↔
      absorbAll c o kt (SEntries.keys es) = .ok kt' ∧ absorbAll c o vt (SEntries.vals es) = .ok vt' := by
  intro es kt vt kt' vt'
  rw [absorbEntriesAsMap_eq, absorbOpsAsMap_ok, SEntries.keys_ops, SEntries.vals_ops]

theorem absorb_tupleStruct (c : Code) (o : Options) (t : Tracer) (n : String) (items : SVals) :
    absorb c o t (.tupleStruct n items) = absorb c o t (.tuple items) := by
  simp only [absorb]

theorem absorb_unitVariant (c : Code) (o : Options) (t : Tracer) (n : String) (i : Nat) (vn : String) :
    absorb c o t (.unitVariant n i vn) = absorb c o t (.newtypeVariant n i vn .unit) := by
  simp only [absorb]

theorem absorb_tupleVariant (c : Code) (o : Options) (t : Tracer) (n : String) (i : Nat) (vn : String) (items : SVals) :
    absorb c o t (.tupleVariant n i vn items) = absorb c o t (.newtypeVariant n i vn (.tuple items)) := by
  simp only [absorb, bind, Except.bind]
  cases ensure_union_variant t vn i with
  | error e => rfl
  | ok r =>
    obtain ⟨n', p, nl, vs, vt⟩ := r
    simp only
    cases vt.ensure_tuple c items.length with
    | error e => rfl
    | ok vt' =>
      simp only
      cases vt' <;> try rfl
      rename_i n2 p2 nl2 ts
      simp only
      cases absorbTuple c o p2 ts 0 items <;> rfl

theorem absorb_structVariant (c : Code) (o : Options) (t : Tracer) (n : String) (i : Nat) (vn : String) (fs : SFields) :
    absorb c o t (.structVariant n i vn fs) = absorb c o t (.newtypeVariant n i vn (.record n fs)) := by
  simp only [absorb, bind, Except.bind]
  cases ensure_union_variant t vn i with
  | error e => rfl
  | ok r =>
    obtain ⟨n', p, nl, vs, vt⟩ := r
    simp only
    cases vt.ensure_struct c [] .struct with
    | error e => rfl
    | ok vt' =>
      simp only
      cases vt' <;> try rfl
      rename_i n2 p2 nl2 fs2 m2 s2
      simp only
      cases absorbFields c o p2 s2 fs2 fs <;> rfl

end SaModel.Lemmas.C06
