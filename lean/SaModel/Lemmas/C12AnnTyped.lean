import SaModel.Lemmas.C12AnnAny
import SaModel.Lemmas.C12Typed
/-
C12 helpers: the ANNOTATED typed reads (`Read.readAsA`, C18) on a slice, one combinator per target constructor
(`SlicePA t` from `SlicePA` of the component targets); `SaModel/Props/C12.lean` (`slicePA_all`) assembles them by
structural recursion over the target.  Equalities of OUTCOMES including the annotations of an `Err` (`Fail.errCtx msg ann`).
-/
namespace SaModel.Lemmas.C12
open SaModel SaModel.Read SaModel.Spec

/-- the annotated read of target `t` at slot `i` of any slice (reader built at any path `p`) = the annotated read at
slot `o + i` of the whole array -/
def SlicePA (af : AnnFixes) (fx : Fixes) (t : Target) : Prop :=
  ∀ (p : String) (a : Arr) (o l i : Nat), i < l → SliceOK fx a o l →
    readAsA af fx p t (sliceView a o l) i = readAsA af fx p t a (o + i)

/-! ### any, ignored, scalars -/

theorem slicePA_any (af : AnnFixes) (fx : Fixes) : SlicePA af fx .any := fun p a o l i hi h => by
  unfold readAsA; exact readAnyA_slice fx p a o l i hi h

theorem slicePA_ignored (af : AnnFixes) (fx : Fixes) : SlicePA af fx .ignored := fun p a o l i hi h => by
  unfold readAsA; rw [readAnyA_slice fx p a o l i hi h]

/-- the scalar targets: `.ctx(self)` around `deserialize_<m>` and the visitor, on every array -/
theorem readAsA_of_method {af : AnnFixes} {fx : Fixes} {t : Target} {m : Method} (hm : methodOf t = some m) (hb : t ≠ .bytes)
    (hb' : t ≠ .byteBuf) (p : String) (a : Arr) (i : Nat) :
    readAsA af fx p t a i = ctx (rann p a) (do accept t (← scalar fx m a i)) := by
  cases t <;> cases hm <;> first | (unfold readAsA; rfl) | exact absurd rfl hb | exact absurd rfl hb'

theorem slicePA_scalar (af : AnnFixes) (fx : Fixes) {t : Target} {m : Method} (hm : methodOf t = some m) (hb : t ≠ .bytes)
    (hb' : t ≠ .byteBuf) : SlicePA af fx t := fun p a o l i hi h => by
  rw [readAsA_of_method hm hb hb', readAsA_of_method hm hb hb', scalar_slice fx _ a o l i hi h, rann_slice]

/-- `&[u8]`: a list column answers `visit_seq` (rejected) after looking at its offsets; otherwise a scalar read -/
theorem slicePA_bytes (af : AnnFixes) (fx : Fixes) : SlicePA af fx .bytes := fun p a o l i hi h => by
  unfold readAsA
  rw [rann_slice]
  congr 1
  have hs := scalar_slice fx .bytes a o l i hi h
  cases a with
  | list lg v offs fm el =>
    have hb := h.1; simp only [lenOf] at hb
    simp only [sliceView, listRange_window fx offs o l i hi hb]
  | union types offs fs => cases offs <;> (simp only [sliceView] at hs ⊢; rw [hs])
  | _ => simp only [sliceView] at hs ⊢; rw [hs]

/-- `ByteBuf`: a list column is read element by element from the (unsliced) child, each element read annotated by the
child reader -/
theorem slicePA_byteBuf (af : AnnFixes) (fx : Fixes) : SlicePA af fx .byteBuf := fun p a o l i hi h => by
  unfold readAsA
  rw [rann_slice]
  congr 1
  have hs := scalar_slice fx .byteBuf a o l i hi h
  cases a with
  | list lg v offs fm el =>
    have hb := h.1; simp only [lenOf] at hb
    simp only [sliceView, listRange_window fx offs o l i hi hb]
  | union types offs fs => cases offs <;> (simp only [sliceView] at hs ⊢; rw [hs])
  | _ => simp only [sliceView] at hs ⊢; rw [hs]

/-! ### layers that stay on the same array -/

theorem slicePA_option {af : AnnFixes} {fx : Fixes} {t : Target} (hS : SlicePA af fx t) : SlicePA af fx (.option t) :=
  fun p a o l i hi h => by
    unfold readAsA
    rw [rann_slice, isSome_slice fx a o l i hi h, hS p a o l i hi h]

theorem slicePA_newtype {af : AnnFixes} {fx : Fixes} {t : Target} (hS : SlicePA af fx t) : SlicePA af fx (.newtype t) :=
  fun p a o l i hi h => by
    unfold readAsA
    exact hS p a o l i hi h

/-! ### sequences -/

theorem slicePA_seq {af : AnnFixes} {fx : Fixes} {t : Target} (hS : SlicePA af fx t) : SlicePA af fx (.seq t) :=
  fun p a o l i hi h => by
    unfold readAsA
    have hbe := binaryElems_slice fx a o l i hi h
    have hra := rann_slice p a o l
    cases a with
    | list lg v offs fm el =>
      have hb := h.1; simp only [lenOf] at hb
      simp only [sliceView] at hra
      simp only [sliceView, hra, listRange_window fx offs o l i hi hb]
    | fixedSizeList len v n fm el =>
      obtain ⟨e1, e2, hj⟩ := fslRange_slice fx hi h
      have hel := h.fsl.1
      have hr : readRange (fun j => readAsA af fx (rchild p fm.name) t (sliceView el (o * n.toNat) (l * n.toNat)) j)
            (i * n.toNat) n.toNat
          = readRange (fun j => readAsA af fx (rchild p fm.name) t el j) ((o + i) * n.toNat) n.toNat := by
        apply readRange_congr
        intro j hjn
        obtain ⟨j1, j2⟩ := hj j hjn
        rw [j2]
        exact hS _ el _ _ _ j1 hel
      simp only [sliceView] at hra
      simp only [sliceView, hra, e1, e2, bind, Except.bind, succ_mul_sub, hr]
    | union types offs fs => cases offs <;> (simp only [sliceView] at hbe hra ⊢; rw [hbe, hra])
    | _ => simp only [sliceView] at hbe hra ⊢; rw [hbe, hra]

/-! ### tuples over a struct column -/

theorem readTupleFieldsA_slice {af : AnnFixes} {fx : Fixes} : ∀ (ts : Targets), AllT (SlicePA af fx) ts →
    ∀ (p : String) (fs : ArrFields) (len o l i : Nat), i < l → FieldsOK fx fs len o l →
    readTupleFieldsA af fx p ts (sliceFields fs o l) i = readTupleFieldsA af fx p ts fs (o + i)
  | .nil, _, _, _, _, _, _, _, _, _ => by unfold readTupleFieldsA; rfl
  | .cons t rest, hS, p, fs, len, o, l, i, hi, h => by
    cases fs with
    | nil => simp only [sliceFields]; unfold readTupleFieldsA; rfl
    | cons fm a r =>
      obtain ⟨ha, hr⟩ := h.cons
      simp only [sliceFields]
      unfold readTupleFieldsA
      simp only [hS.1 (rchild p fm.name) a o l i hi ha, readTupleFieldsA_slice rest hS.2 p r len o l i hi hr]

theorem tupleVisitA_slice {af : AnnFixes} {fx : Fixes} {ts : Targets} (hS : AllT (SlicePA af fx) ts) (p q : String)
    (a : Arr) (o l i : Nat) (hi : i < l) (h : SliceOK fx a o l) :
    tupleVisitA fx p (fun fs => readTupleFieldsA af fx q ts fs i) (sliceView a o l) i
      = tupleVisitA fx p (fun fs => readTupleFieldsA af fx q ts fs (o + i)) a (o + i) := by
  unfold tupleVisitA
  rw [rann_slice]
  congr 1
  cases a with
  | struct len v fs =>
    have hb := h.1; simp only [lenOf] at hb
    simp only [sliceView, tupleVisit, structItem_slice fx len o l i hi hb,
      readTupleFieldsA_slice ts hS q fs len o l i hi h.struct]
  | union types offs fs => cases offs <;> simp only [sliceView, tupleVisit]
  | _ => simp only [sliceView, tupleVisit]

theorem slicePA_tuple {af : AnnFixes} {fx : Fixes} {ts : Targets} (hS : AllT (SlicePA af fx) ts) :
    SlicePA af fx (.tuple ts) := fun p a o l i hi h => by
  unfold readAsA
  exact tupleVisitA_slice hS p p a o l i hi h

theorem slicePA_tupleStruct {af : AnnFixes} {fx : Fixes} {ts : Targets} (hS : AllT (SlicePA af fx) ts) :
    SlicePA af fx (.tupleStruct ts) := fun p a o l i hi h => by
  unfold readAsA
  exact tupleVisitA_slice hS p p a o l i hi h

/-! ### maps: a struct column (field names as keys) or a map column (children untouched by `slice`) -/

theorem slicePA_map {af : AnnFixes} {fx : Fixes} {k v : Target} (hV : SlicePA af fx v) : SlicePA af fx (.map k v) :=
  fun p a o l i hi h => by
    unfold readAsA
    rw [rann_slice]
    congr 1
    cases a with
    | struct len vv fs =>
      have hb := h.1; simp only [lenOf] at hb
      simp only [sliceView, structItem_slice fx len o l i hi hb]
      congr 1; funext _; congr 1
      exact mapM_fields_slice _ _ (fun fm a ha => by simp only [hV (rchild p fm.name) a o l i hi ha]) fs h.struct
    | map vv offs mm ks vs =>
      have hb := h.1; simp only [lenOf] at hb
      simp only [sliceView, listRange_window fx offs o l i hi hb]
    | union types offs fs => cases offs <;> simp only [sliceView]
    | _ => simp only [sliceView]

/-! ### derived structs over a struct column -/

theorem readFieldAsA_slice {af : AnnFixes} {fx : Fixes} : ∀ (tfs : TFields), AllF (SlicePA af fx) tfs →
    ∀ (pos : Nat) (slots : Slots) (name cp : String) (a : Arr) (o l i : Nat), i < l → SliceOK fx a o l →
    readFieldAsA af fx tfs pos slots name cp (sliceView a o l) i = readFieldAsA af fx tfs pos slots name cp a (o + i)
  | .nil, _, _, _, _, _, _, _, _, _, _, _ => by unfold readFieldAsA; rfl
  | .cons n t rest, hS, pos, slots, name, cp, a, o, l, i, hi, h => by
    unfold readFieldAsA
    simp only [hS.1 cp a o l i hi h, readFieldAsA_slice rest hS.2 (pos + 1) slots name cp a o l i hi h]

theorem structVisitA_slice {af : AnnFixes} {fx : Fixes} {tfs tfs' : TFields} (hS : AllF (SlicePA af fx) tfs)
    (p : String) (a : Arr) (o l i : Nat) (hi : i < l) (h : SliceOK fx a o l) :
    structVisitA fx p (fun slots fm child => readFieldAsA af fx tfs 0 slots fm.name (rchild p fm.name) child i) tfs'
        (sliceView a o l) i
      = structVisitA fx p (fun slots fm child => readFieldAsA af fx tfs 0 slots fm.name (rchild p fm.name) child (o + i))
        tfs' a (o + i) := by
  unfold structVisitA
  rw [rann_slice]
  congr 1
  cases a with
  | struct len v fs =>
    have hb := h.1; simp only [lenOf] at hb
    simp only [sliceView, structItem_slice fx len o l i hi hb]
    congr 1; funext _; congr 1
    exact foldlM_fields_slice _ _ (fun s fm a ha => by
      simp only [readFieldAsA_slice tfs hS 0 s fm.name (rchild p fm.name) a o l i hi ha,
        readAnyA_slice fx (rchild p fm.name) a o l i hi ha]) fs [] h.struct
  | union types offs fs => cases offs <;> simp only [sliceView]
  | _ => simp only [sliceView]

theorem slicePA_struct {af : AnnFixes} {fx : Fixes} {tfs : TFields} (hS : AllF (SlicePA af fx) tfs) :
    SlicePA af fx (.struct tfs) := fun p a o l i hi h => by
  unfold readAsA
  exact structVisitA_slice hS p a o l i hi h

/-! ### enums: dense union columns (type ids and offsets windowed, children untouched), string / dictionary columns -/

theorem slicePA_enum (af : AnnFixes) (fx : Fixes) (byIndex : Bool) (vs : TVariants) : SlicePA af fx (.enum byIndex vs) :=
  fun p a o l i hi h => by
    unfold readAsA
    have hse := stringElem_slice fx a o l i hi h
    have hra := rann_slice p a o l
    cases a with
    | union types offs fs =>
      have hb := h.1; simp only [lenOf] at hb
      cases offs with
      | none => have := h.2.2.1; simp only [new] at this; cases this
      | some ofs =>
        simp only [sliceView] at hra
        simp only [sliceView, hra, unionSelect_window fx types ofs fs.length o l i hi hb (new_union_lens h.2.2.1)]
    | _ => simp only [sliceView] at hse hra ⊢; rw [hse, hra]

end SaModel.Lemmas.C12
