import SaModel.Lemmas.C01CompLeaf
/-
Completeness, scalar calls: the steps of `pushScalar_completeH` (Lemmas/C01ObsCompScalar.lean) that speak of flat
builders only — a value into a bytes builder, an integer into a key builder, sizes of scalars.
-/
namespace SaModel.Build
open SaModel SaModel.Spec

theorem setValidity_true_total (v : Validity) (i : Nat) : ∃ v', setValidity v i true = .ok v' := by
  cases v with
  | none => exact ⟨_, rfl⟩
  | some bits => exact ⟨_, rfl⟩

theorem incrementLast_total {large : Bool} {offs : List Int} {l : Int} {inc : Nat}
    (hl : offs.getLast? = some l) (h : l + inc ≤ 2147483647) (h0 : 0 ≤ l) :
    incrementLast true large offs inc = .ok (offs.dropLast ++ [l + inc]) := by
  unfold incrementLast
  simp only [hl]
  have h1 : ¬ ((inc : Int) > offMax large) := by cases large <;> simp [offMax] <;> omega
  have h2 : ¬ (l + inc > offMax large) := by cases large <;> simp [offMax] <;> omega
  simp only [h1, h2, if_false]

theorem vsize_strLen {ext : Ext} {x : SVal} {s : String} (h : scalarToString ext x = some s) :
    (strBytes s).length + 1 ≤ vsize ext x := by
  have : strLen ext x = (strBytes s).length := by simp [strLen, h]
  cases x <;> simp [scalarToString] at h <;> simp only [vsize] <;> omega

theorem vsize_bytes (ext : Ext) (bs : Bytes) : bs.length + 1 ≤ vsize ext (.bytes bs) := by
  simp only [vsize]; omega

/-- one value into a `BytesArray`-like builder -/
theorem bytes_value_total {v : Validity} {offs : List Int} {n : Nat} (large : Bool) (hoffs : OffsOK offs n) (k : Nat)
    (hk : k + 1 ≤ LIM - lastNat offs) :
    ∃ v' offs', setValidity v (offs.length - 1) true = .ok v' ∧ duplicateLast offs = .ok (offs ++ [(n : Int)]) ∧
      incrementLast true large (offs ++ [(n : Int)]) k = .ok offs' ∧ lastNat offs' = lastNat offs + k := by
  obtain ⟨v', hv⟩ := setValidity_true_total v (offs.length - 1)
  have hl := hoffs.2.1
  have hln : lastNat offs = n := by simp [lastNat_of_getLast hl]
  rw [hln] at hk
  simp only [LIM] at hk
  refine ⟨v', _, hv, duplicateLast_total hl, incrementLast_total (l := (n : Int)) (by simp) (by omega) (by omega), ?_⟩
  rw [lastNat_snoc, hln]; omega

theorem isUtf8B_form {b : B} (h : b.isUtf8B = true) : ∃ p ty v offs data, b = .bytes p ty v offs data ∧ isUtf8Ty ty = true := by
  cases b <;> simp [B.isUtf8B] at h
  exact ⟨_, _, _, _, _, rfl, h⟩

theorem pushScalar_bytes_total (ext : Ext) {p : String} {ty : BytesTy} {v : Validity} {offs : List Int} {data : Bytes}
    (x : SVal) (bs : Bytes) (hwf : WFB (.bytes p ty v offs data))
    (hval : (if isUtf8Ty ty then
        match scalarToString ext x with
        | some s => .ok (strBytes s)
        | none => notSupported s!"serialize_{x.kind}"
      else match x with
        | .bytes bs => .ok bs
        | _ => notSupported s!"serialize_{x.kind}" : R Bytes) = .ok bs)
    (hk : bs.length + 1 ≤ LIM - lastNat offs) :
    ∃ v' offs', pushScalar ext (.bytes p ty v offs data) x = .ok (.bytes p ty v' offs' (data ++ bs)) ∧
      lastNat offs' = lastNat offs + bs.length := by
  simp only [WFB] at hwf
  obtain ⟨v', offs', h1, h2, h3, h4⟩ := bytes_value_total (v := v) (isLargeTy ty) hwf.1 bs.length hk
  refine ⟨v', offs', ?_, h4⟩
  simp only [pushScalar]
  exact (bind_ok _ _ _).2 ⟨bs, hval, (bind_ok _ _ _).2 ⟨_, h1, (bind_ok _ _ _).2 ⟨_, h2, (bind_ok _ _ _).2 ⟨_, h3, rfl⟩⟩⟩⟩

theorem intTy_min_le (t : IntTy) : t.min ≤ 0 := by cases t <;> simp [IntTy.min]

theorem intLeaf_push_total (ext : Ext) (p : String) (t : IntTy) (v : Validity) (vals : List Int) (i : Nat)
    (h : (i : Int) ≤ t.max) :
    ∃ v', pushScalar ext (.leaf p (.int t) v vals) (.int .u64 i) = .ok (.leaf p (.int t) v' (vals ++ [(i : Int)])) := by
  obtain ⟨v', hv⟩ := setValidity_true_total v vals.length
  refine ⟨v', ?_⟩
  have hc : convLeaf ext (.int t) (.int .u64 i) = .ok (i : Int) := by
    have := intTy_min_le t
    have hr : t.inRange (i : Int) = true := by
      simp only [IntTy.inRange, Bool.and_eq_true, decide_eq_true_eq]; omega
    simp only [convLeaf, tryInto, hr, if_true]
  simp only [pushScalar]
  exact (bind_ok _ _ _).2 ⟨_, hc, (bind_ok _ _ _).2 ⟨_, hv, rfl⟩⟩

theorem keyRoom_le {p : String} {t : IntTy} {v : Validity} {vals : List Int} {n i : Nat}
    (h : 1 ≤ keyRoom (.leaf p (.int t) v vals) n) (hi : i ≤ n) : (i : Int) ≤ t.max := by
  simp only [keyRoom] at h
  have : 0 ≤ t.max := by cases t <;> simp [IntTy.max]
  omega

end SaModel.Build
