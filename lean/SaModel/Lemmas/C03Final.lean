import SaModel.Lemmas.C03LRNew
import SaModel.Lemmas.FloatBounds
/-
`WFX` of the final builder state from the push invariants:
   PX root (unconditional) + LR root (ExtOK, FloatOK, well-formed rows) + ViewSmall root (view buffers < 4 GiB) → WFX root
-/
namespace SaModel.Lemmas.C03
open SaModel SaModel.Build SaModel.Spec

mutual
/-- every bytes-view buffer is below 4 GiB (descriptors hold 32-bit lengths and offsets) -/
def ViewSmall : B → Prop
  | .bytesView _ _ _ _ buf => buf.length < 2 ^ 32
  | .list _ _ _ _ _ el => ViewSmall el
  | .fixedSizeList _ _ _ _ _ _ el => ViewSmall el
  | .map _ _ _ _ ks vs => ViewSmall ks ∧ ViewSmall vs
  | .struct _ _ _ fs _ _ _ => ViewSmallL fs
  | .dictionary _ idx vals _ => ViewSmall idx ∧ ViewSmall vals
  | .union _ fs _ _ _ => ViewSmallL fs
  | _ => True
def ViewSmallL : BL → Prop
  | .nil => True
  | .cons b _ r => ViewSmall b ∧ ViewSmallL r
end

mutual
theorem VU_of_PX : ∀ (b : B), PX b → ViewSmall b → VU b
  | .null _ _ | .unknownVariant _ | .leaf _ _ _ _ | .bytes _ _ _ _ _ => fun _ _ => by simp only [VU]
  | .bytesView _ _ _ _ _ => fun hp hs => by
    simp only [PX] at hp; simp only [ViewSmall] at hs; simp only [VU]
    intro hty; exact hp.2 hty hs
  | .fixedSizeBinary _ _ _ _ _ _ => fun _ _ => by simp only [VU]
  | .list _ _ _ _ _ el => fun hp hs => by
    simp only [PX] at hp; simp only [ViewSmall] at hs; simp only [VU]; exact VU_of_PX el hp.2 hs
  | .fixedSizeList _ _ _ _ _ _ el => fun hp hs => by
    simp only [PX] at hp; simp only [ViewSmall] at hs; simp only [VU]; exact VU_of_PX el hp hs
  | .map _ _ _ _ ks vs => fun hp hs => by
    simp only [PX] at hp; simp only [ViewSmall] at hs; simp only [VU]
    exact ⟨VU_of_PX ks hp.2.1 hs.1, VU_of_PX vs hp.2.2 hs.2⟩
  | .struct _ _ _ fs _ _ _ => fun hp hs => by
    simp only [PX] at hp; simp only [ViewSmall] at hs; simp only [VU]; exact VUL_of_PXL fs hp hs
  | .dictionary _ idx vals _ => fun hp hs => by
    simp only [PX] at hp; simp only [ViewSmall] at hs; simp only [VU]
    exact ⟨VU_of_PX idx hp.1 hs.1, VU_of_PX vals hp.2 hs.2⟩
  | .union _ fs _ _ _ => fun hp hs => by
    simp only [PX] at hp; simp only [ViewSmall] at hs; simp only [VU]; exact VUL_of_PXL fs hp hs
theorem VUL_of_PXL : ∀ (fs : BL), PXL fs → ViewSmallL fs → VUL fs
  | .nil => fun _ _ => trivial
  | .cons b _ r => fun hp hs => by
    simp only [PXL] at hp; simp only [ViewSmallL] at hs; simp only [VUL]
    exact ⟨VU_of_PX b hp.1 hs.1, VUL_of_PXL r hp.2 hs.2⟩
end

mutual
/-- the weak invariant carries the 4 GiB bound of the view buffers too -/
theorem WFH_small : ∀ (b : B), WFH b → ViewSmall b
  | .null _ _ | .unknownVariant _ | .leaf _ _ _ _ | .bytes _ _ _ _ _ => fun _ => by simp [ViewSmall]
  | .bytesView _ _ _ _ _ => fun h => by simp only [WFH] at h; simp only [ViewSmall]; exact h.2.2
  | .fixedSizeBinary _ _ _ _ _ _ => fun _ => by simp [ViewSmall]
  | .list _ _ _ _ _ el | .fixedSizeList _ _ _ _ _ _ el =>
    fun h => by simp only [WFH] at h; simp only [ViewSmall]; exact WFH_small el h.2.2
  | .map _ _ _ _ ks vs => fun h => by
    simp only [WFH] at h; simp only [ViewSmall]; exact ⟨WFH_small ks h.2.2.2.1, WFH_small vs h.2.2.2.2⟩
  | .struct _ len _ fs _ _ _ => fun h => by simp only [WFH] at h; simp only [ViewSmall]; exact WFHL_small fs len h.2.1
  | .dictionary _ idx vals _ => fun h => by
    simp only [WFH] at h; simp only [ViewSmall]; exact ⟨WFH_small idx h.1, WFH_small vals h.2.1⟩
  | .union _ fs _ _ cur => fun h => by simp only [WFH] at h; simp only [ViewSmall]; exact WFHU_small fs cur h.2.2.1
theorem WFHL_small : ∀ (fs : BL) (len : Nat), WFHL fs len → ViewSmallL fs
  | .nil => fun _ _ => by simp [ViewSmallL]
  | .cons b _ r => fun len h => by
    simp only [WFHL] at h; simp only [ViewSmallL]; exact ⟨WFH_small b h.1, WFHL_small r len h.2.2⟩
theorem WFHU_small : ∀ (fs : BL) (cur : List Int), WFHU fs cur → ViewSmallL fs
  | .nil => fun _ _ => by simp [ViewSmallL]
  | .cons b _ r => fun cur h => by
    simp only [WFHU] at h; simp only [ViewSmallL]; exact ⟨WFH_small b h.1, WFHU_small r cur.tail h.2.2⟩
end

/-- the IEEE conversions of `Basic/Float.lean` return bit patterns of the target width (Lemmas/FloatBounds.lean) -/
theorem floatOK : FloatOK where
  ofInt32 v := by
    have := FloatBounds.ofInt_lt Float.f32 (by decide) v
    rwa [show (2 : Nat) ^ Float.f32.width = 4294967296 by decide] at this
  ofInt64 v := by
    have := FloatBounds.ofInt_lt Float.f64 (by decide) v
    rwa [show (2 : Nat) ^ Float.f64.width = 18446744073709551616 by decide] at this
  narrow64_32 b := by
    have := FloatBounds.convert_lt Float.f64 Float.f32 (by decide) (by decide) b
    rwa [show (2 : Nat) ^ Float.f32.width = 4294967296 by decide] at this
  widen32_64 b := by
    have := FloatBounds.convert_lt Float.f32 Float.f64 (by decide) (by decide) b
    rwa [show (2 : Nat) ^ Float.f64.width = 18446744073709551616 by decide] at this
  narrow32_16 b := by
    have := FloatBounds.convert_lt Float.f32 Float.f16 (by decide) (by decide) b
    rwa [show (2 : Nat) ^ Float.f16.width = 65536 by decide] at this
  narrow64_16 b := by
    have := FloatBounds.convert_lt Float.f64 Float.f16 (by decide) (by decide) b
    rwa [show (2 : Nat) ^ Float.f16.width = 65536 by decide] at this

/-- **`WFX` after any accepted sequence of well-formed rows** -/
theorem runRows_WFX (ext : Ext) (he : ExtOK ext) (fields : List Field) (rows : List SVal) (root : B)
    (hx : ∀ x ∈ rows, SValOK x) (h : runRows ext fields rows = .ok root) (hs : ViewSmall root) : WFX root := by
  have hp := runRows_PX ext fields rows root h
  exact WFX_of_PX root hp (WFXrest_of root (runRows_LR ext he floatOK fields rows root hx h) (VU_of_PX root hp hs))

end SaModel.Lemmas.C03
