import SaModel.Props.C14
import SaModel.Lemmas.Yields
/-
C16, the timestamp string parser (`TimestampBuilder::serialize_str`): `timestampOfString` never unwinds.

The model of `parse_str_to_timestamp` has ONE panic branch: `timestamp_millis()` / `timestamp_micros()` of chrono
overflow `i64` (documented panic of chrono).  It is unreachable: every instant the two parser models
(`parseNaiveDateTime`, `parseUtcDateTime`) return lies inside chrono's date range, has a second of day below 86 400 and
a nanosecond below 2·10^9 (`parseNaiveDateTime_range`, `parseUtcDateTime_range`), and inside that range the products
fit (`C14.instantToUnits_no_panic`).  Every failing branch of the parsers is a `fail`.
-/
namespace SaModel.Lemmas.C16
open SaModel SaModel.Codec

/-- a fraction scanned by `scan::nanosecond` is below one second -/
theorem scanNanosecond_lt {s rest : List Char} {v : Nat} (h : scanNanosecond s = some (rest, v)) : v < 1000000000 := by
  unfold scanNanosecond at h
  have had := takeDigits_allDigits s
  split at h
  · cases h
  · rename_i ds rest' _ heq
    rw [heq] at had
    simp only [Option.some.injEq, Prod.mk.injEq] at h
    obtain ⟨_, rfl⟩ := h
    have h9 : AllDigits (ds.take 9) := fun c hc => had c (List.mem_of_mem_take hc)
    rw [digitsVal_eq]
    exact Digits.value_scaled_lt h9.small (by rw [List.length_take]; exact Nat.min_le_left _ _)

theorem itemNanosecond_lt {s rest : List Char} {ns : Option Nat} (h : itemNanosecond s = some (rest, ns)) :
    ns.getD 0 < 1000000000 := by
  unfold itemNanosecond at h
  split at h
  · rename_i r
    cases hs : scanNanosecond r with
    | none => rw [hs] at h; cases h
    | some p =>
      obtain ⟨rest', v⟩ := p
      rw [hs] at h
      simp only [Option.map_some, Option.some.injEq, Prod.mk.injEq] at h
      obtain ⟨_, rfl⟩ := h
      exact scanNanosecond_lt hs
  · simp only [Option.some.injEq, Prod.mk.injEq] at h
    obtain ⟨_, rfl⟩ := h
    decide

theorem parseSecondNanos_lt {s rest : List Char} {sec : Nat} {ns : Option Nat}
    (h : parseSecondNanos s = some (rest, sec, ns)) : ns.getD 0 < 1000000000 := by
  unfold parseSecondNanos at h
  cases h1 : itemLit ':' (skipWs s) with
  | none => simp [h1] at h
  | some s1 =>
    cases h2 : itemTwo s1 with
    | none => simp [h1, h2] at h
    | some p2 =>
      obtain ⟨s2, sec'⟩ := p2
      cases h3 : itemNanosecond s2 with
      | none => simp [h1, h2, h3] at h
      | some p3 =>
        obtain ⟨s3, ns'⟩ := p3
        simp [h1, h2, h3] at h
        obtain ⟨_, _, rfl⟩ := h
        exact itemNanosecond_lt h3

theorem parseTimeItems_lt {s rest : List Char} {h mi sec : Nat} {ns : Option Nat}
    (hp : parseTimeItems s = some (rest, h, mi, sec, ns)) : ns.getD 0 < 1000000000 := by
  unfold parseTimeItems at hp
  cases h1 : parseHourMinute s with
  | none => simp [h1] at hp
  | some p1 =>
    obtain ⟨s1, h', mi'⟩ := p1
    cases h2 : parseSecondNanos s1 with
    | none => simp [h1, h2] at hp
    | some p2 =>
      obtain ⟨s2, sec', ns'⟩ := p2
      simp [h1, h2] at hp
      obtain ⟨_, _, _, _, rfl⟩ := hp
      exact parseSecondNanos_lt h2

/-- the resolved time of day: second of day below 86 400; the nanosecond exceeds 10^9 only for the leap second -/
theorem resolveTime_range {h mi sec : Nat} {ns : Option Nat} {secs nanos : Nat} (hns : ns.getD 0 < 1000000000)
    (hr : resolveTime h mi (some sec) ns = some (secs, nanos)) : secs < 86400 ∧ nanos < 2000000000 := by
  refine ⟨SaModel.Props.C14.resolveTime_bounds hr, ?_⟩
  unfold resolveTime at hr
  split at hr
  · simp only at hr
    split at hr
    · cases hr; omega
    · split at hr
      · cases hr; omega
      · cases hr
  · cases hr

/-- the day count of every civil date (day ≤ 31) with a year in chrono's range lies in chrono's range of days; both
bounds are attained (-262143-01-01, +262142-12-31).  The count is the first day of the March-based year plus the days before
the month plus the day (`daysFromCivil_eq`), the first is monotone in the year (`yearStart_mono`): the four end points are
evaluated — January and February belong to the March-based year before -/
theorem daysFromCivil_range (y m d : Int) (hy1 : -262143 ≤ y) (hy2 : y ≤ 262142) (hm : 1 ≤ m ∧ m ≤ 12)
    (hd : 1 ≤ d ∧ d ≤ 31) : -96465292 ≤ daysFromCivil y m d ∧ daysFromCivil y m d ≤ 95026236 := by
  rw [daysFromCivil_eq]
  unfold monthStart
  split
  · have := yearStart_mono (a := -262144) (b := y - 1) (by omega)
    have := yearStart_mono (a := y - 1) (b := 262141) (by omega)
    have : yearStart (-262144) = -95746130 := by decide
    have : yearStart 262141 = 95745034 := by decide
    omega
  · have := yearStart_mono (a := -262143) (b := y) hy1
    have := yearStart_mono (a := y) (b := 262142) hy2
    have : yearStart (-262143) = -95745765 := by decide
    have : yearStart 262142 = 95745399 := by decide
    omega

/-- `Parsed::to_naive_date`: a resolved date lies inside chrono's range of days -/
theorem resolveDate_range {y : Int} {m d : Nat} {days : Int} (h : resolveDate y m d = some days) :
    inChronoDays days = true := by
  unfold resolveDate at h
  split at h
  · rename_i hc
    cases h
    obtain ⟨hy1, hy2, hv⟩ := hc
    have hb := validDate_bounds hv
    rw [SaModel.Props.C14.inChronoDays_iff]
    exact daysFromCivil_range y m d hy1 hy2 hb.1 hb.2
  · cases h

/-- what the parser models return: an instant inside chrono's range -/
def InRange (t : Instant) : Prop := inChronoDays t.days = true ∧ t.secs < 86400 ∧ t.nanos < 2000000000

theorem parseNaiveDateTime_spec (s : List Char) : Yields InRange (parseNaiveDateTime s) := by
  unfold parseNaiveDateTime
  split
  · exact .fail _
  · split
    · exact .fail _
    · split
      · exact .fail _
      · rename_i hti
        split
        · rename_i days secs nanos hd ht
          have := resolveTime_range (parseTimeItems_lt hti) ht
          exact .ok ⟨resolveDate_range hd, this.1, this.2⟩
        · exact .fail _
      · exact .fail _

theorem parseNaiveDateTime_range {s : List Char} {t : Instant} (h : parseNaiveDateTime s = .ok t) :
    inChronoDays t.days = true ∧ t.secs < 86400 ∧ t.nanos < 2000000000 :=
  (parseNaiveDateTime_spec s).2 t h

theorem parseUtcDateTime_spec (s : List Char) : Yields InRange (parseUtcDateTime s) := by
  unfold parseUtcDateTime
  split
  · exact .fail _
  · split
    · split
      · split
        · exact .fail _
        · rename_i hti
          simp only
          split
          · exact .fail _
          · split
            · split
              · rename_i days secs nanos hd ht
                split
                · exact .fail _
                · split
                  · rename_i hin
                    have := resolveTime_range (parseTimeItems_lt hti) ht
                    exact .ok ⟨hin, by simp only; omega, this.2⟩
                  · exact .fail _
              · exact .fail _
            · exact .fail _
      · exact .fail _
    · exact .fail _

theorem parseUtcDateTime_range {s : List Char} {t : Instant} (h : parseUtcDateTime s = .ok t) :
    inChronoDays t.days = true ∧ t.secs < 86400 ∧ t.nanos < 2000000000 :=
  (parseUtcDateTime_spec s).2 t h

theorem parseNaiveDateTime_no_panic (s : List Char) : (parseNaiveDateTime s).isPanic = false :=
  (parseNaiveDateTime_spec s).1

theorem parseUtcDateTime_no_panic (s : List Char) : (parseUtcDateTime s).isPanic = false :=
  (parseUtcDateTime_spec s).1

/-- after either parser: inside chrono's range the products of `timestamp_millis` / `timestamp_micros` fit, and an
overflow of `timestamp_nanos` is an error value -/
theorem instantToUnits_of_spec (u : TimeUnit) {r : R Instant} (h : Yields InRange r) :
    (r >>= fun t => instantToUnits u t).isPanic = false :=
  h.bind fun t ht => SaModel.Props.C14.instantToUnits_no_panic u t ht.1 ht.2.1 ht.2.2

/-- `TimestampBuilder::serialize_str`: for every string, unit and time-zone setting a value or an error -/
theorem timestampOfString_np (u : TimeUnit) (utc : Bool) (s : List Char) : (timestampOfString u utc s).isPanic = false := by
  unfold timestampOfString
  cases utc with
  | true => exact instantToUnits_of_spec u (parseUtcDateTime_spec s)
  | false => exact instantToUnits_of_spec u (parseNaiveDateTime_spec s)

end SaModel.Lemmas.C16
