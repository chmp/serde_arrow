import SaModel.Data.SVal
/-
Facts about core types and the value types of Data/ that several areas use and core Lean does not state.
-/
namespace SaModel

theorem String.lt_of_not_lt_ne {a b : String} (h1 : ¬ a < b) (h2 : a ≠ b) : b < a := by
  apply Classical.byContradiction
  intro h3
  exact h2 (String.le_antisymm (String.not_lt.mp h3) (String.not_lt.mp h1))

theorem List.getD_of_lt {α} (l : List α) (i : Nat) (d : α) (h : i < l.length) : l.getD i d = l[i] := by
  simp [List.getD_eq_getElem?_getD, h]

theorem IntTy.inRange_iff (t : IntTy) (v : Int) : t.inRange v = true ↔ t.min ≤ v ∧ v ≤ t.max := by
  simp [IntTy.inRange]

end SaModel
