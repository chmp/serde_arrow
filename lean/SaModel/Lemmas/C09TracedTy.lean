import SaModel.Lemmas.C09Traced
import SaModel.Lemmas.C08NotWalkable
import SaModel.Lemmas.MappingInd
/-
C09 (b), `from_type`: every field of the documented mapping `Spec.mapping` lies in the round-trip domain `SchemaOK`
(`schemaOK_cases`, an instance of `MappingCases`), hence — `C08_from_type` (`fromType_spec`): `from_type` IS the documented
result — every schema `from_type` returns, for ALL options (a `Null` field of the mapping is always nullable, so
`allow_null_fields` needs no hypothesis here) whose overwrites are in the domain.
-/
namespace SaModel.Lemmas.C09T
open SaModel SaModel.Trace SaModel.Trace.Spec SaModel.SchemaJson SaModel.Lemmas.C06 SaModel.Lemmas.C08

theorem ok_plain {n : String} {nl : Bool} {ty : DataType} (h : (validType [] ty && reprType false ty) = true) :
    schemaOK (.mk n ty nl []) = true := by
  simp only [Bool.and_eq_true] at h
  exact ok_mk h.1 meta_nil (repr_mono h.2)

theorem ok_stringField (o : Options) (n : String) (nl : Bool) : schemaOK (stringField o n nl) = true := by
  unfold stringField
  split
  · exact ok_dictionary o n nl
  · simp only [Options.string_type]; split <;> exact ok_plain (by decide)

theorem structMeta_tupleMeta : structMeta tupleMeta = true := by decide +kernel

/-- the `ok_*` lemmas of Lemmas/C09Traced.lean are the clauses of `schemaOK` along the documented mapping (`MappingCases`,
Lemmas/MappingInd.lean) -/
theorem schemaOK_cases (o : Options) (how : OwOK o) :
    MappingCases o (fun f => schemaOK f = true) (fun l => ∀ f ∈ l, schemaOK f = true) OkU where
  overwrite := how
  null := ok_null
  bool _ _ := ok_plain (by decide)
  int t _ _ := by cases t <;> exact ok_plain (by decide)
  f32 _ _ := ok_plain (by decide)
  f64 _ _ := ok_plain (by decide)
  bytes _ _ := ok_plain (by decide)
  string := ok_stringField o
  list _ _ _ := ok_list _
  tuple _ _ _ := ok_struct structMeta_tupleMeta
  struct _ _ _ := ok_struct structMeta_nil
  map _ _ _ _ := ok_map
  enumStrings := ok_dictionary o
  union _ _ _ := ok_union
  nil := fun _ hf => nomatch hf
  cons _ _ hf hl g hg := by
    rcases List.mem_cons.1 hg with rfl | hg
    · exact hf
    · exact hl g hg
  unil := okU_nil
  ucons _ _ _ := okU_cons

theorem mapping_schemaOK (o : Options) (how : OwOK o) :
    ∀ (ty : Ty) (name path : String) (nl : Bool) (f : Field), mapping o name path nl ty = .ok f → schemaOK f = true :=
  (schemaOK_cases o how).mapping

theorem mappingTys_schemaOK (o : Options) (how : OwOK o) :
    ∀ (ts : Tys) (path : String) (i : Nat) (l : List Field), mappingTys o path i ts = .ok l → ∀ f ∈ l, schemaOK f = true :=
  (schemaOK_cases o how).tys

theorem mappingFields_schemaOK (o : Options) (how : OwOK o) :
    ∀ (fs : TyFields) (path : String) (l : List Field), mappingFields o path fs = .ok l → ∀ f ∈ l, schemaOK f = true :=
  (schemaOK_cases o how).fields

theorem mappingVariants_schemaOK (o : Options) (how : OwOK o) :
    ∀ (vs : TyVariants) (path : String) (i : Nat) (l : List (Int × Field)), mappingVariants o path i vs = .ok l → OkU i l :=
  (schemaOK_cases o how).variants

/-- the documented result of `from_type` is a list of fields of the domain -/
theorem fromTypeSpec_schemaOK (o : Options) (how : OwOK o) (ty : Ty) (fields : List Field)
    (h : fromTypeSpec o ty = .ok fields) : ∀ f ∈ fields, schemaOK f = true := by
  obtain ⟨n, children, md, hr, rfl⟩ := fromTypeSpec_root h
  exact ok_struct_children (mapping_schemaOK o how ty _ _ _ _ hr)

/-- **every schema `from_type` returns lies in the domain** -/
theorem fromType_schemaOK (c : Code) (o : Options) (how : OwOK o) (ty : Ty) (fields : List Field)
    (h : fromType c o ty = .ok fields) : ∀ f ∈ fields, schemaOK f = true := by
  have ha := fromType_spec c o ty
  rw [h] at ha
  cases hs : fromTypeSpec o ty with
  | error e => rw [hs] at ha; cases e <;> exact ha.elim
  | ok fs' =>
    rw [hs] at ha
    have : fields = fs' := ha
    subst this
    exact fromTypeSpec_schemaOK o how ty fields hs

end SaModel.Lemmas.C09T
