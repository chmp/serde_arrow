import SaModel.Lemmas.C16Inv
/-
C16: `build_builder` (`newDT`, `newRoot`) never unwinds, for any data type / field list (it returns an error for
the types it does not support).
-/
namespace SaModel.Lemmas.C16
open SaModel SaModel.Build

theorem isUtcTz_np (tz : Option String) : (isUtcTz tz).isPanic = false := by
  unfold isUtcTz; split
  · rfl
  · split <;> rfl

theorem mkStruct_np (path : String) (bl : BL) (n : Bool) : (mkStruct path bl n).isPanic = false := by
  unfold mkStruct; split <;> rfl

theorem newDT_np_all :
    (∀ (path : String) (dt : DataType) (nl : Bool) (md : Metadata), (newDT path dt nl md).isPanic = false) ∧
    (∀ (path : String) (ufs : UFields) (k : Nat), (newUnionFields path ufs k).isPanic = false) ∧
    (∀ (path : String) (f : Field), (newB path f).isPanic = false) ∧
    (∀ (path : String) (fs : Fields), (newFields path fs).isPanic = false) := by
  apply newDT.mutual_induct
    (motive_1 := fun path dt nl md => (newDT path dt nl md).isPanic = false)
    (motive_2 := fun path ufs k => (newUnionFields path ufs k).isPanic = false)
    (motive_3 := fun path f => (newB path f).isPanic = false)
    (motive_4 := fun path fs => (newFields path fs).isPanic = false)
  /- `case k` counts the arms of `newDT` in the order of its definition, an `if` giving two (condition true first):
  1–32 the leaves (17 `timestamp`), 33 `list`, 34 `largeList`, 35–36 `fixedSizeList`, 37–42 `map` (38 entries that are a
  non-nullable struct of two fields), 43 `struct`, 44–45 `dictionary`, 46–47 `union` (46 dense), 48–49 `interval` and
  `runEndEncoded`; then 50 `newB`, 51–52 `newFields`, 53–55 `newUnionFields` (55 a type id equal to its position).
  Named below are the arms with a bind; the others return at once. -/
  case case17 =>
    intro path u tz nl md
    simp only [newDT]
    exact bind_no_panic _ _ (isUtcTz_np tz) (fun _ => rfl)
  case case33 =>
    intro path child nl md ih
    simp only [newDT]
    exact bind_no_panic _ _ ih (fun _ => rfl)
  case case34 =>
    intro path child nl md ih
    simp only [newDT]
    exact bind_no_panic _ _ ih (fun _ => rfl)
  case case36 =>
    intro path child n nl md hn ih
    simp only [newDT, hn, if_false]
    exact bind_no_panic _ _ ih (fun _ => rfl)
  case case38 =>
    intro path ename kf vf emd sorted nl md ihk ihv
    simp only [newDT]
    exact bind_no_panic _ _ ihk (fun _ => bind_no_panic _ _ ihv (fun _ => rfl))
  case case43 =>
    intro path fs nl md ih
    simp only [newDT]
    exact bind_no_panic _ _ ih (fun _ => mkStruct_np _ _ _)
  case case44 =>
    intro path k v nl md hint ihk ihv
    simp only [newDT, hint, if_true]
    exact bind_no_panic _ _ ihk (fun _ => bind_no_panic _ _ ihv (fun _ => rfl))
  case case46 =>
    intro path fs nl md ih
    simp only [newDT]
    exact bind_no_panic _ _ ih (fun _ => rfl)
  case case50 =>
    intro path name dt nl md ih
    simp only [newB]
    exact ih
  case case52 =>
    intro path f rest ihf ihr
    simp only [newFields]
    exact bind_no_panic _ _ ihf (fun _ => bind_no_panic _ _ ihr (fun _ => rfl))
  case case55 =>
    intro path tid f rest idx hne ihf ihr
    simp only [newUnionFields, hne]
    exact bind_no_panic _ _ ihf (fun _ => bind_no_panic _ _ ihr (fun _ => rfl))
  all_goals (
    intros
    simp only [newDT, newFields, newUnionFields, newB, *, if_true, if_false]
    first
      | rfl
      | (rw [ctx_isPanic]; rfl)
      | (split <;> first | rfl | (rw [ctx_isPanic]; rfl)))

theorem newDT_np (path : String) (dt : DataType) (nl : Bool) (md : Metadata) : (newDT path dt nl md).isPanic = false :=
  newDT_np_all.1 path dt nl md

theorem newRoot_np (fields : List Field) : (newRoot fields).isPanic = false := by
  unfold newRoot
  exact bind_no_panic _ _ (newDT_np_all.2.2.2 _ _) (fun _ => mkStruct_np _ _ _)

end SaModel.Lemmas.C16
