import SaModel.Lemmas.C04Cast
import SaModel.Lemmas.C04Bytes
/-
C04: helpers for typed reads of enums (Union columns).  A well-formed array of the Union an enum is traced to has one
child per variant, with consecutive type ids; the reader finds the child by type id and the variant by the child's
NAME (`castVariant … none name`), which is the right one because variant names are distinct.

Enums stored as strings (`enums_without_data_as_strings`: a Dictionary(UInt32, string type) column): the logical value
is the variant NAME, the reader finds the variant by that name (`castVariantStr_get`; names distinct, a name is
determined by its UTF-8 bytes: `strBytes_inj`) and answers for unit variants only.
-/
namespace SaModel.Roundtrip
open SaModel SaModel.Spec SaModel.Build

theorem wf_union {nl : Bool} {a : Arr} {ufs : UFields} {m : UnionMode} (h : Spec.wf (.union ufs m) nl a = true) :
    ∃ types offs cols, a = .union types offs cols ∧ Spec.wfUFields ufs cols 0 = true :=
  wf_shape h

/-- in well-formed union columns (type ids from `k`) the `i`-th child of the schema has its column under the id `k + i` -/
theorem wfUFields_findId : ∀ (U : UFields) (cols : ArrUFields) (k i : Nat) (tid : Int) (f : Field),
    Spec.wfUFields U cols (k : Int) = true → U.toList[i]? = some (tid, f) →
    ∃ fm child, Read.ArrUFields.findId cols ((k + i : Nat) : Int) = some (fm, child) ∧ Spec.metaMatches fm f = true ∧
      Spec.wf f.dataType f.nullable child = true
  | .nil, _, _, _, _, _, _, hg => by simp [UFields.toList] at hg
  | .cons _ _ _, .nil, _, _, _, _, h, _ => by simp [Spec.wfUFields] at h
  | .cons t g rest, .cons tid' fm a arest, k, i, tid, f, h, hg => by
    simp only [Spec.wfUFields, Bool.and_eq_true, beq_iff_eq] at h
    obtain ⟨⟨⟨⟨rfl, rfl⟩, hm⟩, hw⟩, hr⟩ := h
    cases i with
    | zero =>
      simp only [UFields.toList, List.getElem?_cons_zero, Option.some.injEq, Prod.mk.injEq] at hg
      obtain ⟨-, rfl⟩ := hg
      exact ⟨fm, a, by simp [Read.ArrUFields.findId], hm, hw⟩
    | succ i =>
      obtain ⟨fm', child, h1, h2⟩ := wfUFields_findId rest arest (k + 1) i tid f (by rw [Int.natCast_succ]; exact hr)
        (by simpa [UFields.toList] using hg)
      refine ⟨fm', child, ?_, h2⟩
      rw [show k + (i + 1) = k + 1 + i by omega]
      simp only [Read.ArrUFields.findId, beq_iff_eq]
      rw [if_neg (by omega)]; exact h1

theorem findId_variant (o : TraceOpts) : ∀ (vars : Variants) (cols : ArrUFields) (k i : Nat) (vn : String) (kind : Variant),
    Spec.wfUFields (mappingVariants o k vars) cols (k : Int) = true → vars.get? i = some (vn, kind) →
    ∃ fm child, Read.ArrUFields.findId cols ((k + i : Nat) : Int) = some (fm, child) ∧ fm.name = vn ∧
      Spec.wf (variantField o vn kind).dataType (variantField o vn kind).nullable child = true := by
  intro vars cols k i vn kind h hg
  obtain ⟨fm, child, h1, h2, h3⟩ := wfUFields_findId _ cols k i _ _ h (by rw [mappingVariants_get, hg]; rfl)
  refine ⟨fm, child, h1, ?_, h3⟩
  simp only [Spec.metaMatches, Bool.and_eq_true, beq_iff_eq] at h2
  rw [h2.1.1]; cases kind <;> rfl

def toTargetKind : Variant → Read.VKind
  | .unit => .unit
  | .newtype t => .newtype (toTarget t)
  | .tuple ts => .tuple (toTargets ts)
  | .struct fs => .struct (toTargetFields fs)

theorem toTargetVariants_cons (n : String) (v : Variant) (r : Variants) :
    toTargetVariants (.cons n v r) = .cons n (toTargetKind v) (toTargetVariants r) := by
  cases v <;> rfl

/-- the payload of a variant is read like a value of the payload type (a unit variant: a null of a Null column) -/
theorem castKind_payload (o : TraceOpts) (vn : String) (kind : Variant) (p : Vals) {nl : Bool} {child : Arr}
    (hchild : Spec.wf (mappingDT o (kind.payload vn)).1 nl child = true) :
    Read.castKind (toTargetKind kind) child (lvO o (kind.payload vn) (kind.payloadVal p)) =
      Read.cast (toTarget (kind.payload vn)) child (lvO o (kind.payload vn) (kind.payloadVal p)) := by
  cases kind with
  | unit =>
    obtain ⟨len, rfl⟩ := wf_null (by simpa only [Variant.payload, mappingDT] using hchild)
    simp [toTargetKind, Variant.payload, Variant.payloadVal, toTarget, lvO, Read.castKind, Read.cast, Read.castScalar, Read.isNullArr,
      Read.LVal.isNull]
  | _ => simp only [toTargetKind, Variant.payload, toTarget, Read.castKind, Read.cast]

theorem dvalOf_norm_variant {n : String} {vars : Variants} {i : Nat} {p : Vals} {vn : String} {kind : Variant}
    (hg : vars.get? i = some (vn, kind)) (hw : wt (.enum n vars) (.variant i p) = true) :
    dvalOf (.enum n vars) (norm (.enum n vars) (.variant i p)) =
      .enum (nameKey vn) (dvalOf (kind.payload vn) (norm (kind.payload vn) (kind.payloadVal p))) := by
  cases variant_val hg hw <;>
    simp [norm, dvalOf, hg, normSingle, dvalSingle, Variant.payload, Variant.payloadVal]

theorem get?_mem_names : ∀ (vars : Variants) (i : Nat) (vn : String) (kind : Variant),
    vars.get? i = some (vn, kind) → vars.names.contains vn = true
  | .nil, _, _, _, h => by simp [Variants.get?] at h
  | .cons n v r, 0, vn, kind, h => by
    simp only [Variants.get?, Option.some.injEq, Prod.mk.injEq] at h
    simp [Variants.names, h.1]
  | .cons n v r, i + 1, vn, kind, h => by
    have := get?_mem_names r i vn kind (by simpa [Variants.get?] using h)
    simp only [Variants.names, List.contains_cons, this, Bool.or_true]

theorem castVariant_get (child : Arr) (x : LVal) : ∀ (vars : Variants) (i : Nat) (vn : String) (kind : Variant),
    hasDup vars.names = false → vars.get? i = some (vn, kind) →
    Read.castVariant (toTargetVariants vars) none vn child x =
      (Read.castKind (toTargetKind kind) child x).andThen fun p => Read.must (.enum (nameKey vn) p)
  | .nil, _, _, _, _, h => by simp [Variants.get?] at h
  | .cons n v r, 0, vn, kind, _, h => by
    simp only [Variants.get?, Option.some.injEq, Prod.mk.injEq] at h
    obtain ⟨rfl, rfl⟩ := h
    simp [toTargetVariants_cons, Read.castVariant, nameKey]
  | .cons n v r, i + 1, vn, kind, hd, h => by
    simp only [Variants.names, hasDup, Bool.or_eq_false_iff] at hd
    have hmem := get?_mem_names r i vn kind (by simpa [Variants.get?] using h)
    have hne : (n == vn) = false := by
      cases hb : (n == vn) with
      | false => rfl
      | true =>
        have : n = vn := by simpa using hb
        subst this
        rw [hd.1] at hmem; cases hmem
    have ih := castVariant_get child x r i vn kind hd.2 (by simpa [Variants.get?] using h)
    simp [toTargetVariants_cons, Read.castVariant, hne, ih]

theorem wf_dictionary_shape {nl : Bool} {a : Arr} {k v : DataType} (h : Spec.wf (.dictionary k v) nl a = true) :
    ∃ ks vs, a = .dictionary ks vs :=
  wf_shape h

theorem strBytes_inj {a b : String} (h : Read.strBytes a = Read.strBytes b) : a = b :=
  Lemmas.Utf8.strBytes_inj h

theorem castVariantStr_get : ∀ (vars : Variants) (i : Nat) (vn : String) (kind : Variant),
    hasDup vars.names = false → vars.get? i = some (vn, kind) →
    Read.castVariantStr (toTargetVariants vars) (Read.strBytes vn) =
      (match kind with
       | .unit => Read.must (.enum (nameKey vn) .unit)
       | _ => Read.mustFail "strings carry no variant data")
  | .nil, _, _, _, _, h => by simp [Variants.get?] at h
  | .cons n v r, 0, vn, kind, _, h => by
    simp only [Variants.get?, Option.some.injEq, Prod.mk.injEq] at h
    obtain ⟨rfl, rfl⟩ := h
    cases v <;> simp [toTargetVariants_cons, toTargetKind, Read.castVariantStr, nameKey]
  | .cons n v r, i + 1, vn, kind, hd, h => by
    simp only [Variants.names, hasDup, Bool.or_eq_false_iff] at hd
    have hmem := get?_mem_names r i vn kind (by simpa [Variants.get?] using h)
    have hne : (Read.strBytes n == Read.strBytes vn) = false := by
      cases hb : (Read.strBytes n == Read.strBytes vn) with
      | false => rfl
      | true =>
        have : n = vn := strBytes_inj (by simpa using hb)
        subst this
        rw [hd.1] at hmem; cases hmem
    have ih := castVariantStr_get r i vn kind hd.2 (by simpa [Variants.get?] using h)
    simp only [toTargetVariants_cons, Read.castVariantStr, hne, Bool.false_eq_true, if_false, ih]

end SaModel.Roundtrip
