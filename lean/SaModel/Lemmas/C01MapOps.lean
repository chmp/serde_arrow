import SaModel.Build.Push
import SaModel.Spec.Interp
import SaModel.Lemmas.C01LeafBridge
/-
Inversion lemmas for `pushMapOps` (a raw `serialize_key` / `serialize_value` stream into a `MapBuilder`, with the
`key_pending` flag of repo fix eafdf15): what a SUCCESSFUL step says about the flag and the sub-steps, and that an accepted
stream alternates (`pushMapOps_ok_alternating`).
-/
namespace SaModel.Build
open SaModel SaModel.Spec

theorem pushMapOps_nil_ok {ext : Ext} {pd : Bool} {offs : List Int} {ks vs : B} {r : List Int × B × B}
    (h : pushMapOps ext pd offs ks vs .nil = .ok r) : pd = false ∧ r = (offs, ks, vs) := by
  cases pd
  · simp only [pushMapOps, Bool.false_eq_true, if_false] at h; cases h; exact ⟨rfl, rfl⟩
  · simp [pushMapOps, fail] at h

theorem pushMapOps_key_ok {ext : Ext} {pd : Bool} {offs : List Int} {ks vs : B} {k : SVal} {rest : SMapOps}
    {r : List Int × B × B} (h : pushMapOps ext pd offs ks vs (.key k rest) = .ok r) :
    pd = false ∧ ∃ o' ks', incrementLast true false offs 1 = .ok o' ∧ push ext ks k = .ok ks' ∧
      pushMapOps ext true o' ks' vs rest = .ok r := by
  cases pd
  · simp only [pushMapOps, Bool.false_eq_true, if_false] at h
    obtain ⟨o', h1, h⟩ := R.bind_ok_inv h
    obtain ⟨ks', h2, h⟩ := R.bind_ok_inv h
    exact ⟨rfl, o', ks', h1, h2, h⟩
  · simp [pushMapOps, fail] at h

theorem pushMapOps_value_ok {ext : Ext} {pd : Bool} {offs : List Int} {ks vs : B} {x : SVal} {rest : SMapOps}
    {r : List Int × B × B} (h : pushMapOps ext pd offs ks vs (.value x rest) = .ok r) :
    pd = true ∧ ∃ vs', push ext vs x = .ok vs' ∧ pushMapOps ext false offs ks vs' rest = .ok r := by
  cases pd
  · simp [pushMapOps, fail] at h
  · simp only [pushMapOps, Bool.not_true, Bool.false_eq_true, if_false] at h
    obtain ⟨vs', h2, h⟩ := R.bind_ok_inv h
    exact ⟨rfl, vs', h2, h⟩

/-- the three refusals, as equations -/
theorem pushMapOps_nil_pending (ext : Ext) (offs : List Int) (ks vs : B) :
    pushMapOps ext true offs ks vs .nil = fail "Invalid map: the last key has no value" := by
  simp [pushMapOps]

theorem pushMapOps_key_pending (ext : Ext) (offs : List Int) (ks vs : B) (k : SVal) (rest : SMapOps) :
    pushMapOps ext true offs ks vs (.key k rest) =
      fail "Invalid map: a key was serialized before the value of the previous key" := by
  simp [pushMapOps]

theorem pushMapOps_value_not_pending (ext : Ext) (offs : List Int) (ks vs : B) (x : SVal) (rest : SMapOps) :
    pushMapOps ext false offs ks vs (.value x rest) = fail "Invalid map: a value was serialized without a key" := by
  simp [pushMapOps]

/-- what an accepted raw stream looks like, from either state of the flag: alternating, starting with a value
exactly if a key is pending -/
theorem pushMapOps_ok_alternating (ext : Ext) : ∀ (ops : SMapOps) (pd : Bool) (offs : List Int) (ks vs : B)
    (r : List Int × B × B), pushMapOps ext pd offs ks vs ops = .ok r →
    if pd then ∃ x rest, ops = .value x rest ∧ isAlternating rest = true else isAlternating ops = true
  | .nil, pd, offs, ks, vs, r, h => by
    obtain ⟨rfl, _⟩ := pushMapOps_nil_ok h; simp [isAlternating]
  | .key k rest, pd, offs, ks, vs, r, h => by
    obtain ⟨rfl, o', ks', _, _, h⟩ := pushMapOps_key_ok h
    have := pushMapOps_ok_alternating ext rest true o' ks' vs r h
    simp only [if_true] at this
    obtain ⟨x, rest', rfl, ha⟩ := this
    simpa [isAlternating] using ha
  | .value x rest, pd, offs, ks, vs, r, h => by
    obtain ⟨rfl, vs', _, h⟩ := pushMapOps_value_ok h
    have := pushMapOps_ok_alternating ext rest false offs ks vs' r h
    simp only [Bool.false_eq_true, if_false] at this
    simp only [if_true]
    exact ⟨x, rest, rfl, this⟩

/-- a Map builder accepts a raw key/value call stream only if it alternates -/
theorem push_map_raw_ok_alternating {ext : Ext} {p : String} {mm : MapMeta} {v : Validity} {offs : List Int}
    {ks vs : B} {ops : SMapOps} {b' : B} (h : push ext (.map p mm v offs ks vs) (.mapRaw ops) = .ok b') :
    isAlternating ops = true := by
  unfold push at h
  obtain ⟨_, _, h'⟩ := R.bind_ok_inv ((ctx_eq_ok _ _ _).1 h)
  obtain ⟨_, _, h'⟩ := R.bind_ok_inv h'
  obtain ⟨_, h3, _⟩ := R.bind_ok_inv h'
  exact pushMapOps_ok_alternating ext ops false _ _ _ _ h3

end SaModel.Build
