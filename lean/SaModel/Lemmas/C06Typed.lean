import SaModel.Lemmas.C06Seen
import SaModel.Lemmas.C06Room
import SaModel.Lemmas.C06NewRoot
import SaModel.Lemmas.C03Total
import SaModel.Lemmas.SchemaAll
/-
C06 (closure): the BUILDER-side schema conditions of `Props.C01.toMarrow_complete` hold for every schema `from_samples`
traces (repaired code, options without overwrites).  For every tracer `from_samples` can reach — `C07.WF o t` (leaf
alphabet) and `US t` (every union node has a seen variant, `Lemmas/C06Seen.lean`) — and every field `f = t.to_field o`:

  typedF f     sizes are `i32`, union type ids `i8` values: the tracer never emits FixedSizeBinary / FixedSizeList, and
               `UnionTracer::to_field` converts every variant index with `i8::try_from` (the model's `idx > 127` guard),
               so a Union that was emitted has at most 128 variants with the type ids 0, 1, …
  defOKF f     the builder of `f` supports `serialize_default`: a traced `Null` field is never an `UnknownVariant`
               placeholder (those only stand inside unions), and a traced Union has a variant that is not a placeholder —
               the first seen one — whose field is again `defOKF` (induction)
  totalF f     C01's `total` (every nullable struct has `defOK` children; unions ≤ 128 variants)
  wideF f      dictionary keys are UInt32 (`Lemmas/C06Room.lean`)

`to_schema_good`: the packaging for `Tracer.to_schema`.  `totalFs` / `typedFs` are no hypotheses of the closure:
after repo fix 837fa53 `total` CANNOT fail for a traced schema.
-/
namespace SaModel.Lemmas.C06
open SaModel SaModel.Spec SaModel.Build SaModel.Trace

/-- what `toMarrow_complete` and the capacity bound ask of a field -/
def GoodF (f : Field) : Prop :=
  C03.typedF f = true ∧ defOKF f = true ∧ totalF f = true ∧ wideF f = true

theorem goodF_mk {n : String} {dt : DataType} {nl : Bool} {md : Metadata} (h1 : C03.typedDT dt = true)
    (h2 : defOK dt md = true) (h3 : total dt nl md = true) (h4 : wideDT dt = true) : GoodF (.mk n dt nl md) := by
  simp only [GoodF, C03.typedF, defOKF, totalF, wideF]; exact ⟨h1, h2, h3, h4⟩

theorem good_struct {n : String} {nl : Bool} {md : Metadata} {l : List Field} (h : ∀ f ∈ l, GoodF f) :
    GoodF (.mk n (.struct (Fields.ofList l)) nl md) := by
  have h1 := Fields.all_ofList (pFs := C03.typedFs) rfl (fun _ _ => rfl) fun f hf => (h f hf).1
  have h2 := Fields.all_ofList (pFs := defOKFs) rfl (fun _ _ => rfl) fun f hf => (h f hf).2.1
  have h3 := Fields.all_ofList (pFs := totalFs) rfl (fun _ _ => rfl) fun f hf => (h f hf).2.2.1
  have h4 := Fields.all_ofList (pFs := wideFs) rfl (fun _ _ => rfl) fun f hf => (h f hf).2.2.2
  refine goodF_mk ?_ ?_ ?_ ?_
  · simpa [C03.typedDT] using h1
  · simpa [defOK] using h2
  · simp [total, h2, h3]
  · simpa [wideDT] using h4

/-- the leaf types: no children, no size parameter, not `Null` -/
def plainDT : DataType → Bool
  | .null | .struct _ | .list _ | .largeList _ | .fixedSizeList _ _ | .map _ _ | .dictionary _ _ | .runEndEncoded _ _
  | .union _ _ | .fixedSizeBinary _ => false
  | _ => true

theorem plain_leafTypes (o : Options) : ∀ ty ∈ leafTypes o, ty = .null ∨ plainDT ty = true := by
  simp only [leafTypes, Options.string_type]
  cases o.string_as_large_utf8 <;> decide

theorem good_plain {n : String} {dt : DataType} {nl : Bool} {md : Metadata} (h : plainDT dt = true) :
    GoodF (.mk n dt nl md) := by
  cases dt <;> simp only [plainDT, Bool.false_eq_true] at h <;> exact goodF_mk rfl rfl rfl rfl

theorem good_null (n : String) (nl : Bool) : GoodF (.mk n .null nl []) :=
  goodF_mk rfl (by decide) (by simp [total]) rfl

theorem good_dictionary (o : Options) (n : String) (nl : Bool) : GoodF (default_dictionary_field n nl o.string_type) := by
  simp only [default_dictionary_field, Options.string_type]
  split <;> exact goodF_mk (by simp [C03.typedDT]) (by simp [defOK]) (by simp [total]) (by simp [wideDT, wideKey])

theorem good_list (o : Options) {n : String} {nl : Bool} {item : Field} (h : GoodF item) :
    GoodF (.mk n (if o.sequence_as_large_list then .largeList item else .list item) nl []) := by
  obtain ⟨h1, _, h3, h4⟩ := h
  split <;> exact goodF_mk (by simpa [C03.typedDT] using h1) (by simp [defOK]) (by simpa [total] using h3)
    (by simpa [wideDT] using h4)

theorem good_map {n : String} {nl : Bool} {kf vf : Field} (hk : GoodF kf) (hv : GoodF vf) :
    GoodF (.mk n (.map (Field.mk "entries" (.struct (Fields.ofList [kf, vf])) false []) false) nl []) := by
  obtain ⟨k1, _, k3, k4⟩ := hk
  obtain ⟨v1, _, v3, v4⟩ := hv
  exact goodF_mk (by simp [C03.typedDT, C03.typedF, C03.typedFs, Fields.ofList, k1, v1]) (by simp [defOK])
    (by simp [total, Fields.ofList, k3, v3]) (by simp [wideDT, wideF, wideFs, Fields.ofList, k4, v4])

/-- what the variant loop of `UnionTracer::to_field` establishes, from variant index `idx` on -/
structure GoodV (vs : Variants) (idx : Nat) (l : List (Int × Field)) : Prop where
  typed : C03.typedU (UFields.ofList l) = true
  total : totalUs (UFields.ofList l) = true
  wide : wideU (UFields.ofList l) = true
  len : idx ≤ 128 → idx + UFields.length (UFields.ofList l) ≤ 128
  first : vs.hasPresent = true → defOKFirst (UFields.ofList l) = true

theorem placeholder_unknown_variant_field : isPlaceholderF unknown_variant_field = true := by decide +kernel

theorem good_union {n : String} {nl : Bool} {vs : Variants} {l : List (Int × Field)} (h : GoodV vs 0 l)
    (hp : vs.hasPresent = true) : GoodF (.mk n (.union (UFields.ofList l) .dense) nl []) := by
  have hl := h.len (by omega)
  exact goodF_mk (by simpa [C03.typedDT] using h.typed)
    (by simp only [defOK, Bool.and_eq_true, decide_eq_true_eq]; exact ⟨by omega, h.first hp⟩)
    (by simp only [total, Bool.and_eq_true, decide_eq_true_eq]; exact ⟨by omega, h.total⟩)
    (by simpa [wideDT] using h.wide)

theorem good_walk (o : Options) (h0 : o.overwrites = []) :
    (∀ t f, t.to_field o = .ok f → C07.WF o t → US t → GoodF f) ∧
    (∀ ts l, ts.to_fields o = .ok l → C07.TsWF o ts → UST ts → ∀ f ∈ l, GoodF f) ∧
    (∀ fs l, fs.to_fields o = .ok l → (∃ s, C07.FWF o s fs) → USF fs → ∀ f ∈ l, GoodF f) ∧
    (∀ vs idx l, vs.to_fields o idx = .ok l → C07.VWF o vs → USV vs → GoodV vs idx l) := by
  refine to_field_induct o (fun t f => C07.WF o t → US t → GoodF f)
    (fun ts l => C07.TsWF o ts → UST ts → ∀ f ∈ l, GoodF f)
    (fun fs l => (∃ s, C07.FWF o s fs) → USF fs → ∀ f ∈ l, GoodF f)
    (fun vs idx l => C07.VWF o vs → USV vs → GoodV vs idx l) (over_nil h0) ?_ ?_ ?_ ?_ ?_ ?_ ?_ ?_ ?_ ?_ ?_ ?_ ?_ ?_ ?_
  · exact fun n p nl _ _ => good_null n true
  · intro n p nl ty st f h hw _
    rw [C07.WF] at hw
    have hty := (C07.mem_leafStates.mp hw.2).1
    rcases to_field_node h0 h with ⟨_, rfl⟩ | ⟨hne, _, ⟨_, rfl⟩ | ⟨_, rfl⟩⟩ | ⟨hne, _, rfl⟩
    · exact good_null n true
    · exact good_plain ((plain_leafTypes o ty hty).resolve_left hne)
    · exact good_dictionary o n nl
    · exact good_plain ((plain_leafTypes o ty hty).resolve_left hne)
  · exact fun n p nl i item ih hw hu => good_list o (ih hw hu)
  · exact fun n p nl k v kf vf ihk ihv hw hu => good_map (ihk hw.1 hu.1) (ihv hw.2 hu.2)
  · exact fun n p nl fs s l _ ih => ⟨fun hw hu => good_struct (ih ⟨s, hw⟩ hu),
      fun hw hu => good_struct (fun g hg => ih ⟨s, hw⟩ hu g ((mem_sortByName l g).1 hg))⟩
  · exact fun n p nl ts l _ ih hw hu => good_struct (ih hw hu)
  · exact fun n p nl vs _ _ _ _ => good_dictionary o n nl
  · exact fun n p nl vs l _ ih hw hu => good_union (ih hw hu.2) hu.1
  · exact fun _ _ _ h => nomatch h
  · exact fun t r f l ih ihr hw hu => List.forall_mem_cons.mpr ⟨ih hw.1 hu.1, ihr hw.2 hu.2⟩
  · exact fun _ _ _ h => nomatch h
  · exact fun n ls t r f l ih ihr ⟨s, hw⟩ hu =>
      List.forall_mem_cons.mpr ⟨ih hw.2.2.2.1 hu.1, ihr ⟨s, hw.2.2.2.2⟩ hu.2⟩
  · exact fun idx _ _ => ⟨rfl, by simp [UFields.ofList, totalUs], by simp [UFields.ofList, wideU],
      by simp [UFields.ofList, UFields.length], by simp [Variants.hasPresent]⟩
  · intro r idx l hidx ih hw hu
    have ih := ih hw hu
    refine ⟨?_, ?_, ?_, ?_, ?_⟩
    · simp only [UFields.ofList, C03.typedU, Bool.and_eq_true, decide_eq_true_eq, Int.ofNat_eq_natCast]
      exact ⟨⟨⟨by omega, by omega⟩, by decide⟩, ih.typed⟩
    · simp only [UFields.ofList, totalUs, Bool.and_eq_true]; exact ⟨by decide, ih.total⟩
    · simp only [UFields.ofList, wideU, Bool.and_eq_true]; exact ⟨by decide, ih.wide⟩
    · intro _
      have := ih.len (by omega)
      simp only [UFields.ofList, UFields.length]; omega
    · intro hp
      simp only [Variants.hasPresent] at hp
      simp only [UFields.ofList, defOKFirst, placeholder_unknown_variant_field, if_true]
      exact ih.first hp
  · intro n t r idx f l hidx hf ih ihr hw hu
    have ihr := ihr hw.2 hu.2
    obtain ⟨g1, g2, g3, g4⟩ := ih hw.1 hu.1
    have hnp : isPlaceholderF f = false := by
      have := (to_field_facts h0 hf).2.1
      cases f; simpa [isPlaceholderF, Field.dataType, Field.metadata] using this
    refine ⟨?_, ?_, ?_, ?_, ?_⟩
    · simp only [UFields.ofList, C03.typedU, Bool.and_eq_true, decide_eq_true_eq, Int.ofNat_eq_natCast]
      exact ⟨⟨⟨by omega, by omega⟩, g1⟩, ihr.typed⟩
    · simp only [UFields.ofList, totalUs, Bool.and_eq_true]; exact ⟨g3, ihr.total⟩
    · simp only [UFields.ofList, wideU, Bool.and_eq_true]; exact ⟨g4, ihr.wide⟩
    · intro _
      have := ihr.len (by omega)
      simp only [UFields.ofList, UFields.length]; omega
    · intro _
      simp only [UFields.ofList, defOKFirst, hnp, Bool.false_eq_true, if_false]
      exact g2

theorem to_field_good (o : Options) (h0 : o.overwrites = []) :
    ∀ (t : Tracer) (f : Field), C07.WF o t → US t → t.to_field o = .ok f → GoodF f :=
  fun t f hw hu h => (good_walk o h0).1 t f h hw hu

theorem to_fieldsT_good (o : Options) (h0 : o.overwrites = []) :
    ∀ (ts : Tracers) (l : List Field), C07.TsWF o ts → UST ts → ts.to_fields o = .ok l → ∀ f ∈ l, GoodF f :=
  fun ts l hw hu h => (good_walk o h0).2.1 ts l h hw hu

theorem to_fieldsF_good (o : Options) (h0 : o.overwrites = []) (s : Nat) :
    ∀ (fs : TFields) (l : List Field), C07.FWF o s fs → USF fs → fs.to_fields o = .ok l → ∀ f ∈ l, GoodF f :=
  fun fs l hw hu h => (good_walk o h0).2.2.1 fs l h ⟨s, hw⟩ hu

theorem to_fieldsV_good (o : Options) (h0 : o.overwrites = []) :
    ∀ (vs : Variants) (idx : Nat) (l : List (Int × Field)), C07.VWF o vs → USV vs → vs.to_fields o idx = .ok l →
      GoodV vs idx l :=
  fun vs idx l hw hu h => (good_walk o h0).2.2.2 vs idx l h hw hu

theorem typedFs_toList' : ∀ fs : Fields, C03.typedFs (Fields.ofList fs.toList) = C03.typedFs fs := fun fs => by
  rw [Roundtrip.ofList_toList']

/-- **every schema `from_samples` traces is well typed, `total`, and has UInt32 dictionary keys** -/
theorem to_schema_good (o : Options) (h0 : o.overwrites = []) (t : Tracer) (hw : C07.WF o t) (hu : US t)
    (fields : List Field) (h : t.to_schema o = .ok fields) :
    C03.typedFs (Fields.ofList fields) = true ∧ totalFs (Fields.ofList fields) = true ∧
      wideFs (Fields.ofList fields) = true := by
  obtain ⟨n, children, md, hr, rfl⟩ := to_schema_ok o t fields h
  obtain ⟨h1, _, h3, h4⟩ := to_field_good o h0 t _ hw hu hr
  rw [Roundtrip.ofList_toList']
  simp only [C03.typedF, C03.typedDT, totalF, total, wideF, wideDT, Bool.and_eq_true] at h1 h3 h4
  exact ⟨h1, h3.1, h4⟩

end SaModel.Lemmas.C06
