import SaModel.Lemmas.C09ParseForm
import SaModel.Lemmas.SchemaAll
import SaModel.Lemmas.DataBasic
import SaModel.Lemmas.C09Meta
import SaModel.Lemmas.C09Sound
/-
C09: whatever `CustomField::into_field` returns lies in `SchemaOK` — the reader never produces a field outside the
domain of the round-trip theorem.  `parseField_sound` is the statement for every JSON value.
-/
namespace SaModel.SchemaJson
open SaModel SaModel.Dsl

/-! ### the metadata `CustomField` / `into_field` produce is a HashMap in normal form (`metaOK`): what `metaOfObj` returns is
strictly key-sorted, and `merge_strategy_with_metadata` keeps it so -/

theorem mem_insertMeta (k v : String) : (m : Metadata) → ∀ kv ∈ insertMeta k v m, kv = (k, v) ∨ kv ∈ m
  | [], kv, h => by simp [insertMeta] at h; exact Or.inl h
  | (k', v') :: r, kv, h => by
    unfold insertMeta at h
    split at h
    · simp only [List.mem_cons] at h ⊢
      rcases h with h | h | h
      · exact Or.inl h
      · exact Or.inr (Or.inl h)
      · exact Or.inr (Or.inr h)
    · split at h
      · simp only [List.mem_cons] at h ⊢
        rcases h with h | h
        · exact Or.inl h
        · exact Or.inr (Or.inr h)
      · simp only [List.mem_cons] at h ⊢
        rcases h with h | h
        · exact Or.inr (Or.inl h)
        · rcases mem_insertMeta k v r kv h with h | h
          · exact Or.inl h
          · exact Or.inr (Or.inr h)

theorem sorted_insertMeta (k v : String) : (m : Metadata) → sortedMeta m = true → sortedMeta (insertMeta k v m) = true
  | [], _ => rfl
  | (k', v') :: r, h => by
    have h' := h
    simp only [sortedMeta, Bool.and_eq_true, List.all_eq_true, decide_eq_true_eq] at h
    unfold insertMeta
    split
    · rename_i hlt
      simp only [sortedMeta, Bool.and_eq_true, List.all_eq_true, decide_eq_true_eq, List.mem_cons]
      refine ⟨?_, h.1, h.2⟩
      intro kv hkv
      rcases hkv with rfl | hkv
      · exact hlt
      · exact String.lt_trans hlt (h.1 kv hkv)
    · split
      · rename_i _ heq
        subst heq
        simp only [sortedMeta, Bool.and_eq_true, List.all_eq_true, decide_eq_true_eq]
        exact h
      · rename_i h1 h2
        have hlt : k' < k := String.lt_of_not_lt_ne h1 h2
        simp only [sortedMeta, Bool.and_eq_true, List.all_eq_true, decide_eq_true_eq]
        refine ⟨?_, sorted_insertMeta k v r h.2⟩
        intro kv hkv
        rcases mem_insertMeta k v r kv hkv with rfl | hkv
        · exact hlt
        · exact h.1 kv hkv

theorem metaOfObj_sorted : (o : JObj) → (m : Metadata) → metaOfObj o = .ok m → sortedMeta m = true
  | .nil, m, h => by cases h; rfl
  | .cons k (.str v) r, m, h => by
    unfold metaOfObj at h
    obtain ⟨m', hm', h⟩ := R.bind_ok_inv h
    have ih := metaOfObj_sorted r m' hm'
    cases h
    split
    · exact ih
    · exact sorted_insertMeta k v m' ih
  | .cons _ .null _, _, h | .cons _ (.bool _) _, _, h | .cons _ (.num _) _, _, h | .cons _ (.arr _) _, _, h
  | .cons _ (.obj _) _, _, h => by simp [metaOfObj, fail] at h

theorem merge_sorted {md m : Metadata} {st : Option Strategy} (h : mergeStrategyWithMetadata md st = .ok m)
    (hs : sortedMeta md = true) : sortedMeta m = true := by
  unfold mergeStrategyWithMetadata at h
  split at h
  · cases h
  · cases st with
    | none => cases h; exact hs
    | some s => cases h; exact sorted_insertMeta _ _ _ hs

theorem rangeFields_of_all : (fs : Fields) → (∀ c ∈ fs.toList, rangeField c = true) → rangeFields fs = true :=
  fun _ => Fields.all_of_toList rfl fun _ _ => rfl
theorem reprFields_of_all : (fs : Fields) → (∀ c ∈ fs.toList, reprField c = true) → reprFields fs = true :=
  fun _ => Fields.all_of_toList rfl fun _ _ => rfl
theorem rangeUFields_of_all : (us : UFields) → (∀ c ∈ us.toList.map (·.2), rangeField c = true) → rangeUFields us = true :=
  fun us h => (UFields.all_eq rfl (fun _ _ _ => rfl) us).trans
    (List.all_eq_true.mpr fun p hp => h p.2 (List.mem_map_of_mem hp))
theorem reprUFields_of_all : (us : UFields) → (∀ c ∈ us.toList.map (·.2), reprField c = true) → reprUFields us = true :=
  fun us h => (UFields.all_eq rfl (fun _ _ _ => rfl) us).trans
    (List.all_eq_true.mpr fun p hp => h p.2 (List.mem_map_of_mem hp))

theorem side_repr_of_built {children : List Field} {dt : DataType} (hb : Built children dt)
    (hc : ∀ c ∈ children, SchemaOK c) (nl : Bool) :
    rangeType dt = true ∧ reprType (normNullable dt nl) dt = true := by
  obtain ⟨ht, hr, hk⟩ := hb
  have hv : ∀ c ∈ kids dt, validField c = true := fun c h => by
    have := hc c (hk c h); simp only [SchemaOK, schemaOK, Bool.and_eq_true] at this; exact this.1
  have hp : ∀ c ∈ kids dt, reprField c = true := fun c h => by
    have := hc c (hk c h); simp only [SchemaOK, schemaOK, Bool.and_eq_true] at this; exact this.2
  have hrg : ∀ c ∈ kids dt, rangeField c = true := fun c h => (side_of_valid c (hv c h)).1
  cases dt with
  | struct fs =>
    simp only [kids, childList] at hrg hp
    exact ⟨rangeFields_of_all fs hrg, reprFields_of_all fs hp⟩
  | list f =>
    simp only [kids, childList, List.mem_singleton, forall_eq] at hrg hp
    exact ⟨hrg, hp⟩
  | largeList f =>
    simp only [kids, childList, List.mem_singleton, forall_eq] at hrg hp
    exact ⟨hrg, hp⟩
  | fixedSizeList f n =>
    simp only [kids, childList, List.mem_singleton, forall_eq] at hrg hp
    simp only [Built.rangeTop] at hr
    exact ⟨by simp [rangeType, hr, hrg], hp⟩
  | map e sorted =>
    simp only [kids, childList, List.mem_singleton, forall_eq] at hrg hp
    simp only [typeOK] at ht
    exact ⟨hrg, by simp [reprType, ht, hp]⟩
  | union us mode =>
    simp only [kids, childList] at hrg hp
    simp only [typeOK, Bool.and_eq_true] at ht
    exact ⟨rangeUFields_of_all us hrg, by simp [reprType, ht.1, ht.2, reprUFields_of_all us hp]⟩
  | fixedSizeBinary n => exact ⟨hr, rfl⟩
  | decimal128 p s => exact ⟨ht, rfl⟩
  | null => exact ⟨rfl, rfl⟩
  | _ => exact ⟨rfl, rfl⟩

/-- `CustomField::into_field`: children in `SchemaOK` and sorted metadata in, a field in `SchemaOK` out -/
theorem intoField_sound (pinned : Bool) (name : String) (s : Text) (nl : Bool) (strat : Option Strategy)
    (children : List Field) (md : Metadata) (f : Field) (hc : ∀ c ∈ children, SchemaOK c) (hm : sortedMeta md = true)
    (h : intoField pinned name s nl strat children md = .ok f) : SchemaOK f := by
  unfold intoField at h
  obtain ⟨dt, hdt, h⟩ := R.bind_ok_inv h
  obtain ⟨md', hmd, h⟩ := R.bind_ok_inv h
  obtain ⟨u, hval, h⟩ := R.bind_ok_inv h
  cases h
  unfold buildDataTypeWith at hdt
  obtain ⟨t, _, hdt⟩ := R.bind_ok_inv hdt
  have hb := buildDataTypeOfTerm_built t children dt hdt
  obtain ⟨h1, h3⟩ := side_repr_of_built hb hc nl
  have hv := validField_of_validate _ (by simpa [rangeField] using h1) hval
  have hmo := metaOK_of_sorted md' (merge_sorted hmd hm)
  simp only [SchemaOK, schemaOK, hv, reprField, hmo, h3, Bool.and_self]

mutual
theorem parseField_sound (pinned : Bool) : (j : JVal) → (f : Field) → parseFieldWith pinned j = .ok f → SchemaOK f
  | .obj o, f, h => by
    rw [parseFieldWith_obj] at h
    split at h
    · cases h
    obtain ⟨name, _, h⟩ := R.bind_ok_inv h
    obtain ⟨dataType, _, h⟩ := R.bind_ok_inv h
    obtain ⟨nullable, _, h⟩ := R.bind_ok_inv h
    obtain ⟨strategy, _, h⟩ := R.bind_ok_inv h
    obtain ⟨metadata, hmd, h⟩ := R.bind_ok_inv h
    obtain ⟨children, hch, h⟩ := R.bind_ok_inv h
    have hc := parseChildren_sound pinned o children hch
    have hm : sortedMeta metadata = true := by
      unfold getMetadata at hmd
      split at hmd
      · cases hmd; rfl
      · exact metaOfObj_sorted _ _ hmd
      · cases hmd
    exact intoField_sound pinned name dataType nullable strategy children metadata f hc hm h
  | .null, _, h | .bool _, _, h | .num _, _, h | .str _, _, h | .arr _, _, h => by
    simp [parseFieldWith, fail] at h
theorem parseChildren_sound (pinned : Bool) : (o : JObj) → (fs : List Field) → parseChildrenWith pinned o = .ok fs →
    ∀ c ∈ fs, SchemaOK c
  | .nil, fs, h => by cases h; intro c hc; cases hc
  | .cons k v r, fs, h => by
    unfold parseChildrenWith at h
    split at h
    · match v, h with
      | .arr vs, h => exact parseFieldList_sound pinned vs fs h
      | .null, h | .bool _, h | .num _, h | .str _, h | .obj _, h => cases h
    · exact parseChildren_sound pinned r fs h
theorem parseFieldList_sound (pinned : Bool) : (vs : JVals) → (fs : List Field) → parseFieldListWith pinned vs = .ok fs →
    ∀ c ∈ fs, SchemaOK c
  | .nil, fs, h => by cases h; intro c hc; cases hc
  | .cons v r, fs, h => by
    unfold parseFieldListWith at h
    obtain ⟨f, hf, h⟩ := R.bind_ok_inv h
    obtain ⟨rest, hr, h⟩ := R.bind_ok_inv h
    cases h
    intro c hc
    simp only [List.mem_cons] at hc
    rcases hc with rfl | hc
    · exact parseField_sound pinned v _ hf
    · exact parseFieldList_sound pinned r rest hr c hc
end

end SaModel.SchemaJson
