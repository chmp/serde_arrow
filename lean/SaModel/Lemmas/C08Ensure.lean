import SaModel.Lemmas.C08DoneField
/-
C08 — the `ensure_*` calls of one exploration pass on a fresh (`unknown`) node and on a node of the right kind; the
position-shift lemmas of the element / field loops of `TraceTupleStruct` and `TraceStruct`.
-/
namespace SaModel.Lemmas.C08
open SaModel SaModel.Trace SaModel.Trace.Spec

theorem depth_ok (t : Tracer) (h : tooDeep t.path = false) : t.enforce_depth_limit = .ok () := by
  unfold Tracer.enforce_depth_limit Tracer.get_depth
  unfold tooDeep at h
  simp at h
  simp; intro h2; omega

theorem depth_err (t : Tracer) (h : tooDeep t.path = true) :
    t.enforce_depth_limit = fail "Too deeply nested type detected" := by
  unfold Tracer.enforce_depth_limit Tracer.get_depth
  unfold tooDeep at h
  simp at h
  simp [h]

/-! ### beyond the depth limit every container `ensure_*` is the documented error -/

theorem ensure_list_deep (t : Tracer) (h : tooDeep t.path = true) :
    t.ensure_list = fail "Too deeply nested type detected" := by
  unfold Tracer.ensure_list; rw [depth_err t h]; rfl

theorem ensure_map_deep (t : Tracer) (h : tooDeep t.path = true) :
    t.ensure_map = fail "Too deeply nested type detected" := by
  unfold Tracer.ensure_map; rw [depth_err t h]; rfl

theorem ensure_tuple_deep (c : Code) (t : Tracer) (k : Nat) (h : tooDeep t.path = true) :
    t.ensure_tuple c k = fail "Too deeply nested type detected" := by
  unfold Tracer.ensure_tuple; rw [depth_err t h]; rfl

theorem ensure_struct_deep (c : Code) (t : Tracer) (fs : List String) (m : StructMode) (h : tooDeep t.path = true) :
    t.ensure_struct c fs m = fail "Too deeply nested type detected" := by
  unfold Tracer.ensure_struct; rw [depth_err t h]; rfl

theorem ensure_union_deep (t : Tracer) (vs : List String) (h : tooDeep t.path = true) :
    t.ensure_union vs = fail "Too deeply nested type detected" := by
  unfold Tracer.ensure_union; rw [depth_err t h]; rfl

theorem ensure_list_unknown (n p : String) (nl : Bool) (h : tooDeep p = false) :
    (Tracer.unknown n p nl).ensure_list = .ok (.list n p nl (.unknown "element" (childPath p "element") false)) := by
  rw [← childPath_element]
  unfold Tracer.ensure_list
  rw [depth_ok (.unknown n p nl) h]
  rfl

theorem ensure_map_unknown (n p : String) (nl : Bool) (h : tooDeep p = false) :
    (Tracer.unknown n p nl).ensure_map =
      .ok (.map n p nl (.unknown "key" (childPath p "key") false) (.unknown "value" (childPath p "value") false)) := by
  rw [← childPath_key, ← childPath_value]
  unfold Tracer.ensure_map
  rw [depth_ok (.unknown n p nl) h]
  rfl

theorem ensure_tuple_unknown (c : Code) (n p : String) (nl : Bool) (k : Nat) (h : tooDeep p = false) :
    (Tracer.unknown n p nl).ensure_tuple c k = .ok (.tuple n p nl (mkTupleFields p k k)) := by
  unfold Tracer.ensure_tuple
  rw [depth_ok (.unknown n p nl) h]
  rfl

theorem ensure_struct_unknown (c : Code) (n p : String) (nl : Bool) (fs : List String) (m : StructMode)
    (h : tooDeep p = false) :
    (Tracer.unknown n p nl).ensure_struct c fs m = .ok (.struct n p nl (mkStructFields p fs) m 0) := by
  unfold Tracer.ensure_struct
  rw [depth_ok (.unknown n p nl) h]
  rfl

theorem ensure_union_unknown (n p : String) (nl : Bool) (vs : List String) (h : tooDeep p = false) :
    (Tracer.unknown n p nl).ensure_union vs = .ok (.union n p nl (mkVariants p vs)) := by
  unfold Tracer.ensure_union
  rw [depth_ok (.unknown n p nl) h]
  rfl

/-! ### on a node of the right kind (second and later passes) -/

theorem ensure_list_list (n p : String) (nl : Bool) (i : Tracer) (h : tooDeep p = false) :
    (Tracer.list n p nl i).ensure_list = .ok (.list n p nl i) := by
  unfold Tracer.ensure_list
  rw [depth_ok (.list n p nl i) h]
  rfl

theorem ensure_map_map (n p : String) (nl : Bool) (k v : Tracer) (h : tooDeep p = false) :
    (Tracer.map n p nl k v).ensure_map = .ok (.map n p nl k v) := by
  unfold Tracer.ensure_map
  rw [depth_ok (.map n p nl k v) h]
  rfl

theorem ensure_struct_struct (c : Code) (n p : String) (nl : Bool) (fs : TFields) (s : Nat) (names : List String)
    (h : tooDeep p = false) :
    (Tracer.struct n p nl fs .struct s).ensure_struct c names .struct = .ok (.struct n p nl fs .struct s) := by
  unfold Tracer.ensure_struct
  rw [depth_ok (.struct n p nl fs .struct s) h]
  cases c.struct_mode_join <;> rfl

theorem ensure_union_union (n p : String) (nl : Bool) (vs : Variants) (names : List String) (h : tooDeep p = false) :
    (Tracer.union n p nl vs).ensure_union names = .ok (.union n p nl vs) := by
  unfold Tracer.ensure_union
  rw [depth_ok (.union n p nl vs) h]
  rfl

theorem markFrom_length : ∀ (ts : Tracers), ts.markFrom ts.length = ts
  | .nil => rfl
  | .cons t r => by simp only [Tracers.length, Tracers.markFrom, markFrom_length r]

theorem ensure_tuple_tuple (c : Code) (n p : String) (nl : Bool) (ts : Tracers) (h : tooDeep p = false) :
    (Tracer.tuple n p nl ts).ensure_tuple c ts.length = .ok (.tuple n p nl ts) := by
  unfold Tracer.ensure_tuple
  rw [depth_ok (.tuple n p nl ts) h]
  cases c.tuple_arity_nullable
  · rfl
  · simp only [bind, Except.bind, Tracer.is_unknown_or_null, markFrom_length, tupleGrowNullable, Nat.sub_self,
      List.range_zero, List.foldl_nil]
    rfl

/-! ### the element / field loops: a prefix that is not visited stays -/

theorem exploreTys_shift (c : Code) (o : Options) (t : Tracer) : ∀ (ts : Tys) (fts : Tracers) (pos : Nat),
    exploreTys c o (.cons t fts) (pos + 1) ts = (exploreTys c o fts pos ts).map (Tracers.cons t)
  | .nil, _, _ => by simp only [exploreTys]; rfl
  | .cons ty r, fts, pos => by
    simp only [exploreTys, Tracers.get?]
    cases fts.get? pos with
    | none => rfl
    | some ft =>
      simp only
      cases explore c o ft ty with
      | error e => rfl
      | ok ft' =>
        simp only [bind, Except.bind, Tracers.set]
        exact exploreTys_shift c o t r (fts.set pos ft') (pos + 1)

theorem exploreFields_shift (c : Code) (o : Options) (n : String) (l : Nat) (t : Tracer) :
    ∀ (fields : TyFields) (fs : TFields) (pos : Nat),
    exploreFields c o (.cons n l t fs) (pos + 1) fields = (exploreFields c o fs pos fields).map (TFields.cons n l t)
  | .nil, _, _ => by simp only [exploreFields]; rfl
  | .cons _ ty r, fs, pos => by
    simp only [exploreFields, TFields.get?]
    cases fs.get? pos with
    | none => rfl
    | some ft =>
      simp only
      cases explore c o ft ty with
      | error e => rfl
      | ok ft' =>
        simp only [bind, Except.bind, TFields.set]
        exact exploreFields_shift c o n l t r (fs.set pos ft') (pos + 1)

end SaModel.Lemmas.C08
