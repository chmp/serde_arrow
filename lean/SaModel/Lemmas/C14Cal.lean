import SaModel.Codec.Calendar
/-
C14 helper lemmas: the calendar bijection (Hinnant's `days_from_civil` / `civil_from_days`).

Proof idea (no era-sized table): inside one 400-year era the year-of-era formula
`yoeOf doe = (doe - doe/1460 + doe/36524 - doe/146096) / 365` is monotone in `doe` (step lemma by omega,
then induction), and a 400-row kernel table shows that it returns `y` on the first and on the last day of
every year-of-era `y`.  Hence `yearStart (yoeOf doe) ≤ doe < yearStart (yoeOf doe + 1)` for all 146 097
days of the era, and conversely a day inside year `y` has `yoeOf = y`.

Outside the era nothing depends on it: with floor division `yearStart` is the first day of the March-based year
on all of ℤ (`yearStart_add_era`), `daysFromCivil` is `yearStart` of the year + `monthStart` of the month + day
(`daysFromCivil_eq`), and `civilFromDays` finds the year and the day of the year of which a day count is made
(`exists_year_doy`, `civilFromDays_of_year_doy`).  The round trips, validity and chrono's year range are then
linear arithmetic about the length of a year (`yearStart_succ`) and of a month (`daysInMonth_of_march`,
`daysInMonth_feb`).
-/
namespace SaModel.Codec

/-- year of era of a day of era (the formula inside `civilFromDays`) -/
def yoeOf (doe : Int) : Int := (doe - doe / 1460 + doe / 36524 - doe / 146096) / 365

/-- first day of the March-based year `y`, counted from March 1 of the year 0; inside an era the first day of era of
the year of era `y` (`yearStart 400 = 146097`) -/
def yearStart (y : Int) : Int := 365 * y + y / 4 - y / 100 + y / 400

theorem yoeOf_step (doe : Int) (h0 : 0 ≤ doe) (h1 : doe + 1 < 146097) : yoeOf doe ≤ yoeOf (doe + 1) := by
  unfold yoeOf
  by_cases h : doe + 1 = 146096
  · have : doe = 146095 := by omega
    subst this; decide
  · have e1 : doe / 146096 = 0 := by omega
    have e2 : (doe + 1) / 146096 = 0 := by omega
    rw [e1, e2]
    omega

theorem yoeOf_mono_nat (a : Int) (h0 : 0 ≤ a) : ∀ n : Nat, a + n < 146097 → yoeOf a ≤ yoeOf (a + n) := by
  intro n
  induction n with
  | zero => intro _; simp
  | succ n ih =>
    intro h
    have h1 := ih (by omega)
    have h2 := yoeOf_step (a + n) (by omega) (by omega)
    have e : a + ((n + 1 : Nat) : Int) = a + n + 1 := by omega
    rw [e]; omega

theorem yoeOf_mono {a b : Int} (h0 : 0 ≤ a) (hab : a ≤ b) (hb : b < 146097) : yoeOf a ≤ yoeOf b := by
  have := yoeOf_mono_nat a h0 (b - a).toNat (by omega)
  have e : a + ((b - a).toNat : Int) = b := by omega
  rwa [e] at this

/-- the 400-row table: the formula is right on the first and on the last day of every year of the era -/
theorem yoeOf_table : ∀ y : Nat, y < 400 →
    yoeOf (yearStart y) = y ∧ yoeOf (yearStart ((y : Int) + 1) - 1) = y := by decide +kernel

theorem yearStart_mono {a b : Int} (h : a ≤ b) : yearStart a ≤ yearStart b := by
  unfold yearStart; omega

theorem yearStart_bounds {y : Int} (h0 : 0 ≤ y) (h1 : y ≤ 399) :
    0 ≤ yearStart y ∧ yearStart (y + 1) ≤ 146097 ∧ yearStart y + 365 ≤ yearStart (y + 1) := by
  unfold yearStart; omega

/-- a day inside the year of era `y` has `yoeOf = y` -/
theorem yoeOf_unique {doe y : Int} (h0 : 0 ≤ y) (h1 : y ≤ 399) (hlo : yearStart y ≤ doe)
    (hhi : doe < yearStart (y + 1)) : yoeOf doe = y := by
  obtain ⟨n, rfl⟩ := Int.eq_ofNat_of_zero_le h0
  have ht := yoeOf_table n (by omega)
  have hb := yearStart_bounds h0 h1
  have l1 := yoeOf_mono hb.1 hlo (by omega)
  have l2 := yoeOf_mono (a := doe) (b := yearStart ((n : Int) + 1) - 1) (by omega) (by omega) (by omega)
  omega

theorem yoeOf_range {doe : Int} (h0 : 0 ≤ doe) (h1 : doe < 146097) : 0 ≤ yoeOf doe ∧ yoeOf doe ≤ 399 := by
  have l1 := yoeOf_mono (a := 0) (b := doe) (by omega) h0 h1
  have l2 := yoeOf_mono (a := doe) (b := 146096) h0 (by omega) (by omega)
  have e1 : yoeOf 0 = 0 := by decide
  have e2 : yoeOf 146096 = 399 := by decide
  omega

/-- every day of the era lies inside the year the formula computes -/
theorem yoeOf_spec {doe : Int} (h0 : 0 ≤ doe) (h1 : doe < 146097) :
    (0 ≤ yoeOf doe ∧ yoeOf doe ≤ 399) ∧ yearStart (yoeOf doe) ≤ doe ∧ doe < yearStart (yoeOf doe + 1) := by
  have hr := yoeOf_range h0 h1
  refine ⟨hr, ?_, ?_⟩
  · -- otherwise `doe` is at most the last day of the previous year, whose `yoeOf` is smaller
    apply Classical.byContradiction
    intro hc
    have hpos : 1 ≤ yoeOf doe := by
      apply Classical.byContradiction
      intro h; have : yoeOf doe = 0 := by omega
      rw [this] at hc; exact hc (by unfold yearStart; omega)
    obtain ⟨n, hn⟩ := Int.eq_ofNat_of_zero_le (show 0 ≤ yoeOf doe - 1 by omega)
    have ht := (yoeOf_table n (by omega)).2
    have e : (n : Int) + 1 = yoeOf doe := by omega
    rw [e] at ht
    have hb := yearStart_bounds (y := yoeOf doe - 1) (by omega) (by omega)
    rw [show yoeOf doe - 1 + 1 = yoeOf doe by omega] at hb
    have l := yoeOf_mono (a := doe) (b := yearStart (yoeOf doe) - 1) h0 (by omega) (by omega)
    omega
  · apply Classical.byContradiction
    intro hc
    have hlt : yoeOf doe + 1 ≤ 399 := by
      apply Classical.byContradiction
      intro h; have : yoeOf doe = 399 := by omega
      rw [this] at hc; exact hc (by unfold yearStart; omega)
    obtain ⟨n, hn⟩ := Int.eq_ofNat_of_zero_le (show 0 ≤ yoeOf doe + 1 by omega)
    have ht := (yoeOf_table n (by omega)).1
    rw [← hn] at ht
    have hb := yearStart_bounds (y := yoeOf doe + 1) (by omega) (by omega)
    have l := yoeOf_mono (a := yearStart (yoeOf doe + 1)) (b := doe) (by omega) (by omega) h1
    omega

/-- day of the (March-based) year on which month `mp` (0 = March … 11 = February) starts -/
def monthStart (mp : Int) : Int := (153 * mp + 2) / 5

/-- With floor division the era of `daysFromCivil` cancels: the day count is the first day of the March-based year, on all of
ℤ, plus the start of the month, plus the day. -/
theorem daysFromCivil_eq (y m d : Int) :
    daysFromCivil y m d = yearStart (if m ≤ 2 then y - 1 else y) + monthStart ((m + 9) % 12) + d - 1 - 719468 := by
  unfold daysFromCivil yearStart monthStart
  simp only
  generalize (if m ≤ 2 then y - 1 else y) = y0
  omega

theorem yearStart_add_era (e x : Int) : yearStart (400 * e + x) = 146097 * e + yearStart x := by
  unfold yearStart; omega

/-- the March-based year `y` has 365 days, and one more when the civil year `y + 1` (whose February ends it) is a leap year -/
theorem yearStart_succ (y : Int) :
    yearStart (y + 1) = yearStart y + 365 + (if (y + 1) % 4 = 0 ∧ ((y + 1) % 100 ≠ 0 ∨ (y + 1) % 400 = 0) then 1 else 0) := by
  unfold yearStart
  split <;> omega

theorem yearStart_succ_bounds (y : Int) : yearStart y + 365 ≤ yearStart (y + 1) ∧ yearStart (y + 1) ≤ yearStart y + 366 := by
  rw [yearStart_succ]; split <;> omega

/-- `(5 * doy + 2) / 153` is the month in which the day `doy` of the March-based year lies -/
theorem month_iff (doy mp : Int) : (5 * doy + 2) / 153 = mp ↔ monthStart mp ≤ doy ∧ doy < monthStart (mp + 1) := by
  unfold monthStart; omega

theorem isLeapYear_iff (y : Int) : isLeapYear y = true ↔ (y % 4 = 0 ∧ (y % 100 ≠ 0 ∨ y % 400 = 0)) := by
  unfold isLeapYear
  simp only [Bool.and_eq_true, Bool.or_eq_true, decide_eq_true_eq, ne_eq]

/-- month lengths, as linear facts -/
theorem daysInMonth_cases (y m : Int) :
    (m = 2 → daysInMonth y m = 28 + (if y % 4 = 0 ∧ (y % 100 ≠ 0 ∨ y % 400 = 0) then 1 else 0)) ∧
    ((m = 4 ∨ m = 6 ∨ m = 9 ∨ m = 11) → daysInMonth y m = 30) ∧
    ((m = 1 ∨ m = 3 ∨ m = 5 ∨ m = 7 ∨ m = 8 ∨ m = 10 ∨ m = 12) → daysInMonth y m = 31) := by
  unfold daysInMonth
  refine ⟨?_, ?_, ?_⟩
  · intro h
    rw [if_pos h]
    by_cases hl : isLeapYear y = true
    · rw [if_pos hl, if_pos ((isLeapYear_iff y).1 hl)]; rfl
    · rw [if_neg hl, if_neg (fun h => hl ((isLeapYear_iff y).2 h))]; rfl
  · intro h
    rw [if_neg (by omega), if_pos h]
  · intro h
    rw [if_neg (by omega), if_neg (by omega)]

theorem validDate_iff (y m d : Int) :
    validDate y m d = true ↔ (1 ≤ m ∧ m ≤ 12 ∧ 1 ≤ d ∧ d ≤ daysInMonth y m) := by
  unfold validDate
  simp only [Bool.and_eq_true, decide_eq_true_eq, and_assoc]

theorem validDate_bounds {y m d : Int} (h : validDate y m d = true) : (1 ≤ m ∧ m ≤ 12) ∧ (1 ≤ d ∧ d ≤ 31) := by
  rw [validDate_iff] at h
  obtain ⟨c2, c30, c31⟩ := daysInMonth_cases y m
  refine ⟨⟨h.1, h.2.1⟩, h.2.2.1, ?_⟩
  have hm : m = 2 ∨ (m = 4 ∨ m = 6 ∨ m = 9 ∨ m = 11) ∨ (m = 1 ∨ m = 3 ∨ m = 5 ∨ m = 7 ∨ m = 8 ∨ m = 10 ∨ m = 12) := by omega
  rcases hm with hm | hm | hm
  · have := c2 hm; split at this <;> omega
  · have := c30 hm; omega
  · have := c31 hm; omega

/-- the civil month of the month `mp` of the March-based year -/
def civilMonth (mp : Int) : Int := if mp < 10 then mp + 3 else mp - 9

/-- March … January last from their start to the start of the next month -/
theorem daysInMonth_of_march (y mp : Int) (h0 : 0 ≤ mp) (h1 : mp ≤ 10) :
    daysInMonth y (civilMonth mp) = monthStart (mp + 1) - monthStart mp := by
  have hcases : mp = 0 ∨ mp = 1 ∨ mp = 2 ∨ mp = 3 ∨ mp = 4 ∨ mp = 5 ∨ mp = 6 ∨ mp = 7 ∨ mp = 8 ∨ mp = 9 ∨ mp = 10 := by omega
  rcases hcases with h | h | h | h | h | h | h | h | h | h | h <;> subst h <;> rfl

/-- February lasts from its start to the end of the March-based year -/
theorem daysInMonth_feb (y : Int) : daysInMonth (y + 1) 2 = yearStart (y + 1) - yearStart y - monthStart 11 := by
  rw [(daysInMonth_cases (y + 1) 2).1 rfl, yearStart_succ, show monthStart 11 = 337 from rfl]
  omega

theorem exists_year_doy (z : Int) :
    ∃ y doy : Int, 0 ≤ doy ∧ yearStart y + doy < yearStart (y + 1) ∧ z = yearStart y + doy - 719468 := by
  have hd : 0 ≤ z + 719468 - (z + 719468) / 146097 * 146097 ∧ z + 719468 - (z + 719468) / 146097 * 146097 < 146097 := by omega
  generalize hdoe : z + 719468 - (z + 719468) / 146097 * 146097 = doe at hd
  obtain ⟨_, hlo, hhi⟩ := yoeOf_spec hd.1 hd.2
  refine ⟨400 * ((z + 719468) / 146097) + yoeOf doe, doe - yearStart (yoeOf doe), by omega, ?_, ?_⟩
  · rw [Int.add_assoc, yearStart_add_era, yearStart_add_era]; omega
  · rw [yearStart_add_era]; omega

/-- what `civilFromDays` computes, from the March-based year and the day of that year -/
theorem civilFromDays_of_year_doy (y doy : Int) (h0 : 0 ≤ doy) (h1 : yearStart y + doy < yearStart (y + 1)) :
    civilFromDays (yearStart y + doy - 719468) =
      (if civilMonth ((5 * doy + 2) / 153) ≤ 2 then y + 1 else y, civilMonth ((5 * doy + 2) / 153),
        doy - monthStart ((5 * doy + 2) / 153) + 1) := by
  obtain ⟨era, yoe, rfl, hyoe⟩ : ∃ era yoe, y = 400 * era + yoe ∧ 0 ≤ yoe ∧ yoe ≤ 399 :=
    ⟨y / 400, y % 400, by omega, by omega, by omega⟩
  rw [Int.add_assoc, yearStart_add_era, yearStart_add_era] at h1
  have hb := yearStart_bounds hyoe.1 hyoe.2
  have hu := yoeOf_unique (doe := yearStart yoe + doy) hyoe.1 hyoe.2 (by omega) (by omega)
  have hys : 365 * yoe + yoe / 4 - yoe / 100 = yearStart yoe := by unfold yearStart; omega
  rw [yearStart_add_era]
  unfold civilFromDays
  simp only
  rw [show (146097 * era + yearStart yoe + doy - 719468 + 719468) / 146097 = era by omega,
    show 146097 * era + yearStart yoe + doy - 719468 + 719468 - era * 146097 = yearStart yoe + doy by omega]
  unfold yoeOf at hu
  rw [hu, hys, show yearStart yoe + doy - yearStart yoe = doy by omega, show yoe + era * 400 = 400 * era + yoe by omega]
  rfl

/-- the month index of a day of the year -/
theorem month_range {y doy : Int} (h0 : 0 ≤ doy) (h1 : yearStart y + doy < yearStart (y + 1)) :
    0 ≤ (5 * doy + 2) / 153 ∧ (5 * doy + 2) / 153 ≤ 11 := by
  have := yearStart_succ_bounds y
  omega

theorem civilMonth_range {mp : Int} (h0 : 0 ≤ mp) (h1 : mp ≤ 11) :
    (1 ≤ civilMonth mp ∧ civilMonth mp ≤ 12) ∧ (civilMonth mp + 9) % 12 = mp := by
  unfold civilMonth; split <;> omega

theorem civilMonth_of_month {m : Int} (h1 : 1 ≤ m) (h2 : m ≤ 12) : civilMonth ((m + 9) % 12) = m := by
  unfold civilMonth; split <;> omega

theorem daysFromCivil_civilFromDays (z : Int) :
    daysFromCivil (civilFromDays z).1 (civilFromDays z).2.1 (civilFromDays z).2.2 = z := by
  obtain ⟨y, doy, h0, h1, rfl⟩ := exists_year_doy z
  have hr := month_range h0 h1
  rw [civilFromDays_of_year_doy y doy h0 h1, daysFromCivil_eq]
  simp only
  rw [(civilMonth_range hr.1 hr.2).2]
  split
  · rw [Int.add_sub_cancel]; omega
  · omega

theorem civilFromDays_daysFromCivil (y m d : Int) (hv : validDate y m d = true) :
    civilFromDays (daysFromCivil y m d) = (y, m, d) := by
  rw [validDate_iff] at hv
  obtain ⟨h1, h2, h3, h4⟩ := hv
  rw [daysFromCivil_eq]
  generalize hy0 : (if m ≤ 2 then y - 1 else y) = y0
  generalize hmp : (m + 9) % 12 = mp
  have hm : m = civilMonth mp := by rw [← hmp, civilMonth_of_month h1 h2]
  have hs0 : 0 ≤ monthStart mp := by unfold monthStart; omega
  -- the day lies inside the month, and the month inside the year
  have hin : monthStart mp + d - 1 < monthStart (mp + 1) ∧ yearStart y0 + (monthStart mp + d - 1) < yearStart (y0 + 1) := by
    have hlen := yearStart_succ_bounds y0
    by_cases hf : mp ≤ 10
    · have := daysInMonth_of_march y mp (by omega) hf
      rw [← hm] at this
      have : monthStart (mp + 1) ≤ 337 := by unfold monthStart; omega
      omega
    · have hmp' : mp = 11 := by omega
      subst hmp'
      have := daysInMonth_feb y0
      rw [show m = 2 by omega, if_pos (by decide)] at hy0
      rw [show y = y0 + 1 by omega, show m = 2 by omega] at h4
      rw [show monthStart (11 + 1) = 367 from rfl]
      omega
  rw [show yearStart y0 + monthStart mp + d - 1 - 719468 = yearStart y0 + (monthStart mp + d - 1) - 719468 by omega,
    civilFromDays_of_year_doy _ _ (by omega) hin.2, (month_iff _ mp).2 ⟨by omega, hin.1⟩, ← hm,
    show monthStart mp + d - 1 - monthStart mp + 1 = d by omega]
  split at hy0 <;> rename_i h
  · rw [if_pos h, show y0 + 1 = y by omega]
  · rw [if_neg h, hy0]

theorem civilFromDays_valid (z : Int) :
    validDate (civilFromDays z).1 (civilFromDays z).2.1 (civilFromDays z).2.2 = true := by
  obtain ⟨y, doy, h0, h1, rfl⟩ := exists_year_doy z
  have hr := month_range h0 h1
  rw [civilFromDays_of_year_doy y doy h0 h1, validDate_iff]
  simp only
  generalize hmp : (5 * doy + 2) / 153 = mp at hr
  have hm := (month_iff doy mp).1 hmp
  have hc := (civilMonth_range hr.1 hr.2).1
  refine ⟨hc.1, hc.2, by omega, ?_⟩
  by_cases hf : mp ≤ 10
  · rw [daysInMonth_of_march _ mp hr.1 hf]; omega
  · have hmp' : mp = 11 := by omega
    subst hmp'
    rw [show civilMonth 11 = 2 from rfl, if_pos (by decide), daysInMonth_feb]
    omega

/-- a day count inside chrono's range has a year inside chrono's range -/
theorem civilFromDays_year_bounds (z : Int) (h : inChronoDays z = true) :
    chronoMinYear ≤ (civilFromDays z).1 ∧ (civilFromDays z).1 ≤ chronoMaxYear := by
  unfold inChronoDays chronoMinDays chronoMaxDays at h
  simp only [Bool.and_eq_true, decide_eq_true_eq] at h
  unfold chronoMinYear chronoMaxYear
  obtain ⟨y, doy, h0, h1, rfl⟩ := exists_year_doy z
  have hr := month_range h0 h1
  rw [civilFromDays_of_year_doy y doy h0 h1]
  simp only
  generalize hmp : (5 * doy + 2) / 153 = mp at hr
  have hm := (month_iff doy mp).1 hmp
  -- -262143-01-01 is day 306 of the March-based year -262144, +262142-12-31 is day 305 of the year 262142
  have emin : yearStart (-262144) = -95746130 := by decide
  have emax : yearStart 262142 = 95745399 := by decide
  have emax' : yearStart 262143 = 95745764 := by decide
  have hlo : -262144 ≤ y := by
    apply Classical.byContradiction; intro hc
    have := yearStart_mono (a := y + 1) (b := -262144) (by omega)
    omega
  have hhi : y ≤ 262142 := by
    apply Classical.byContradiction; intro hc
    have := yearStart_mono (a := 262143) (b := y) (by omega)
    omega
  unfold civilMonth monthStart at *
  constructor
  · by_cases hy : y = -262144
    · subst hy; rw [if_pos (by split <;> omega)]; omega
    · split <;> omega
  · by_cases hy : y = 262142
    · subst hy; rw [if_neg (by split <;> omega)]; omega
    · split <;> omega

end SaModel.Codec
