import SaModel.Lemmas.C07TStruct
/-
C07, tree level — samples no tracer accepts (`Never`: under `map_as_struct`, a map with a key that is not a string or a
malformed key / value stream) and the map family (key and value tracer absorb the keys and the values separately).
-/
namespace SaModel.Lemmas.C07
open SaModel SaModel.Trace SaModel.Props.C07

def Never (o : Options) (x : SVal) : Prop := ∀ t a, absorb .fixed o t x ≠ .ok a

theorem never_of_fam {o : Options} {x : SVal} (hx : C06.fam o x = .never) : Never o x :=
  fun _ _ h => (C06.run_of_absorb hx h).elim

def MapFam (o : Options) (x : SVal) (ks vs : List SVal) : Prop := C06.fam o x = .map ks vs

theorem MapFam.ok {o : Options} {x : SVal} {ks vs : List SVal} (hx : MapFam o x ks vs) (t a : Tracer) :
    absorb .fixed o t x = .ok a ↔ ∃ n p nl k v k' v', t.ensure_map = .ok (.map n p nl k v) ∧
      absorbAll .fixed o k ks = .ok k' ∧ absorbAll .fixed o v vs = .ok v' ∧ a = .map n p nl k' v' := by
  rw [C06.absorb_ok_iff, hx]; rfl

theorem mapFam_map {o : Options} (hm : o.map_as_struct = false) (es : SEntries) :
    MapFam o (.map es) (C06.SEntries.keys es) (C06.SEntries.vals es) := by
  rw [MapFam, C06.fam_map, hm]; rfl

theorem mapFam_mapRaw {o : Options} (hm : o.map_as_struct = false) (ops : SMapOps) :
    MapFam o (.mapRaw ops) (C06.SMapOps.keys ops) (C06.SMapOps.vals ops) := by
  rw [MapFam, C06.fam_mapRaw, hm]; rfl

def MapLike (o : Options) (x : SVal) (ks vs : List SVal) : Prop :=
  ∀ t a, absorb .fixed o t x = .ok a ↔ ∃ n p nl k v k' v', t.ensure_map = .ok (.map n p nl k v) ∧
    absorbAll .fixed o k ks = .ok k' ∧ absorbAll .fixed o v vs = .ok v' ∧ a = .map n p nl k' v'

theorem MapFam.like {o : Options} {x : SVal} {ks vs : List SVal} (hx : MapFam o x ks vs) : MapLike o x ks vs := hx.ok

theorem mapLike_map {o : Options} (hm : o.map_as_struct = false) (es : SEntries) :
    MapLike o (.map es) (C06.SEntries.keys es) (C06.SEntries.vals es) := (mapFam_map hm es).like

theorem mapLike_mapRaw {o : Options} (hm : o.map_as_struct = false) (ops : SMapOps) :
    MapLike o (.mapRaw ops) (C06.SMapOps.keys ops) (C06.SMapOps.vals ops) := (mapFam_mapRaw hm ops).like

/-- a key / value stream traced as a struct reads as (key, value) pairs, or (a key that is no string, a value without
key) is never accepted -/
theorem ofKvs_cases {o : Options} {x : SVal} {rk : R (List (String × SVal))} (h : C06.fam o x = .ofKvs rk) :
    (∃ ps, rk = .ok ps ∧ StructFam o x .map ps) ∨ Never o x := by
  cases rk with
  | error e => exact .inr (never_of_fam h)
  | ok ps => exact .inl ⟨ps, rfl, h⟩

theorem map_as_struct_cases {o : Options} (hm : o.map_as_struct = true) (es : SEntries) :
    (∃ ps, C06.SEntries.kvs es = .ok ps ∧ StructFam o (.map es) .map ps) ∨ Never o (.map es) :=
  ofKvs_cases (by rw [C06.fam_map, if_pos hm])

theorem mapRaw_as_struct_cases {o : Options} (hm : o.map_as_struct = true) (ops : SMapOps) :
    (∃ ps, C06.SMapOps.kvs none ops = .ok ps ∧ StructFam o (.mapRaw ops) .map ps) ∨ Never o (.mapRaw ops) :=
  ofKvs_cases (by rw [C06.fam_mapRaw, if_pos hm])

theorem ensure_map_facts {o : Options} {t : Tracer} {n p nl k v} (hw : WF o t) (h : t.ensure_map = .ok (.map n p nl k v)) :
    WF o k ∧ WF o v ∧ (∀ k' v', depthOk (.map n p nl k' v')) ∧
      ((t.is_unknown_or_null = true) ∨ t = .map n p nl k v) := by
  obtain ⟨hd, hc⟩ := ensure_map_inv h
  rcases hc with ⟨hu, e⟩ | ⟨n', p', nl', k', v', rfl, e⟩
  · cases e
    refine ⟨by rw [Tracer.new, WF]; trivial, by rw [Tracer.new, WF]; trivial,
      fun _ _ => (depthOk_path (a := t) rfl).mpr hd, .inl hu⟩
  · cases e
    rw [WF] at hw
    exact ⟨hw.1, hw.2, fun _ _ => (depthOk_path (a := .map n p nl k v) rfl).mpr hd, .inr rfl⟩

end SaModel.Lemmas.C07
