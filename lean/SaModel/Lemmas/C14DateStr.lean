import SaModel.Lemmas.C14Cal
import SaModel.Lemmas.C14Span
import SaModel.Codec.Time
/-
C14 helper lemmas: chrono's date / time / date-time parsers (model) on the strings the date, time and timestamp readers
(model of `NaiveDate`'s `Debug` and of the crate's own `-YYYYYY` branch) produce.
-/
namespace SaModel.Codec

/-! ### the hour and minute items of the time parser on two padded digits each (`parseHourMinute_fmt`; the whole time string is
`parseNaiveTime_formatTime` below) -/

theorem padDigits_two (n : Nat) : padDigits 2 n = [digitChar (n / 10), digitChar n] := by
  simp [padDigits]

theorem isWs_of_isDigit {c : Char} (h : isDigit c = true) : isWs c = false := by
  unfold isDigit at h
  simp only [Bool.and_eq_true, decide_eq_true_eq] at h
  unfold isWs
  simp only [Bool.or_eq_false_iff, Bool.and_eq_false_iff, decide_eq_false_iff_not]
  omega

theorem skipWs_digit {c : Char} (h : isDigit c = true) (cs : List Char) : skipWs (c :: cs) = c :: cs := by
  simp [skipWs, isWs_of_isDigit h]

theorem itemTwo_pad (n : Nat) (hn : n < 100) (rest : List Char) : itemTwo (padDigits 2 n ++ rest) = some (rest, n) := by
  rw [padDigits_two]
  unfold itemTwo
  simp only [List.cons_append, List.nil_append]
  rw [skipWs_digit (isDigit_digitChar _)]
  simp only [scanNumber, isDigit_digitChar, if_true, scanNumberAux, Nat.zero_mul, Nat.zero_add, digitVal_digitChar]
  congr 2; omega


theorem skipWs_colon (cs : List Char) : skipWs (':' :: cs) = ':' :: cs := by
  simp [skipWs, isWs]

theorem parseHourMinute_fmt (h mi : Nat) (hh : h < 100) (hm : mi < 100) (rest : List Char) :
    parseHourMinute (padDigits 2 h ++ [':'] ++ padDigits 2 mi ++ rest) = some (rest, h, mi) := by
  unfold parseHourMinute
  rw [List.append_assoc, List.append_assoc, itemTwo_pad h hh]
  simp only [List.cons_append, List.nil_append, Option.bind_eq_bind, Option.bind_some, skipWs_colon, itemLit, if_true]
  rw [itemTwo_pad mi hm]
  rfl

/-! ### the time units: `perSec · nsPer` is one second in nanoseconds -/

theorem TimeUnit.perSec_mul_nsPer (u : TimeUnit) : u.perSec * u.nsPer = 1000000000 := by cases u <;> rfl
theorem TimeUnit.perSec_mul_nsPer_int (u : TimeUnit) : (u.perSec : Int) * (u.nsPer : Int) = 1000000000 := by cases u <;> rfl
theorem TimeUnit.perSec_pos (u : TimeUnit) : 0 < u.perSec := by cases u <;> decide
theorem TimeUnit.nsPer_pos (u : TimeUnit) : 0 < u.nsPer := by cases u <;> decide

/-- the sub-second part of a time in the unit `u` is less than one second -/
theorem TimeUnit.div_nsPer_lt (u : TimeUnit) {nanos : Nat} (h : nanos < 1000000000) : nanos / u.nsPer < u.perSec := by
  rw [← u.perSec_mul_nsPer, Nat.mul_comm] at h
  exact Nat.div_lt_of_lt_mul h

/-- for a non-leap instant the arm of `timestamp()` is the general one, with `perSec = 1` -/
theorem instantUnitsValue_uniform (u : TimeUnit) (t : Instant) (hn : t.nanos < 1000000000) :
    instantUnitsValue u t = t.timestamp * u.perSec + (t.nanos / u.nsPer : Nat) := by
  cases u
  · simp only [instantUnitsValue, TimeUnit.perSec, TimeUnit.nsPer]; omega
  all_goals rfl

/-! ### numbers and dates -/

theorem scanNumberAux_digits (ds : List Char) : ∀ (k acc : Nat) (rest : List Char), AllDigits ds → ds.length ≤ k →
    (∀ c r, rest = c :: r → isDigit c = false) →
    scanNumberAux k acc (ds ++ rest) = (acc * 10 ^ ds.length + digitsVal ds, rest) := by
  intro k acc rest had hk hr
  rw [digitsVal_eq, ← Digits.foldl_value]
  induction ds generalizing k acc with
  | nil =>
    cases k with
    | zero => rfl
    | succ k =>
      cases rest with
      | nil => rfl
      | cons c r => simp [scanNumberAux, hr c r rfl]
  | cons c cs ih =>
    cases k with
    | zero => simp at hk
    | succ k =>
      have hc : isDigit c = true := had c (by simp)
      simp only [List.cons_append, scanNumberAux, hc, if_true, List.foldl_cons]
      exact ih k _ (fun x hx => had x (by simp [hx])) (by simpa using hk)

theorem scanNumber_digits (ds rest : List Char) (k : Nat) (had : AllDigits ds) (hne : ds ≠ []) (hk : ds.length ≤ k)
    (hr : ∀ c r, rest = c :: r → isDigit c = false) : scanNumber (ds ++ rest) k = some (rest, digitsVal ds) := by
  cases ds with
  | nil => exact absurd rfl hne
  | cons c cs =>
    have hc : isDigit c = true := had c (by simp)
    have := scanNumberAux_digits (c :: cs) k 0 rest had hk hr
    rw [List.cons_append] at this ⊢
    simp only [scanNumber, hc, if_true, this, Nat.zero_mul, Nat.zero_add]

theorem digitsVal_replicate_zero (k : Nat) : digitsVal (List.replicate k '0') = 0 := by
  rw [digitsVal_eq]; exact Digits.value_replicate (v := digitVal) (z := '0') rfl k

theorem padDigitsMin_allDigits (w n : Nat) : AllDigits (padDigitsMin w n) := by
  intro c hc
  simp only [padDigitsMin, List.mem_append, List.mem_replicate] at hc
  rcases hc with h | h
  · rw [h.2]; decide
  · exact natDigits_allDigits n c h

theorem digitsVal_padDigitsMin (w n : Nat) : digitsVal (padDigitsMin w n) = n := by
  simp only [padDigitsMin, digitsVal_append, digitsVal_replicate_zero, Nat.zero_mul, Nat.zero_add, digitsVal_natDigits]

theorem padDigitsMin_ne_nil (w n : Nat) : padDigitsMin w n ≠ [] := by
  have := natDigits_ne_nil n
  simp only [padDigitsMin, ne_eq, List.append_eq_nil_iff, not_and]
  intro _; exact this

/-- the year part of `formatDate` -/
def formatYear (y : Int) : List Char :=
  if y < 0 then ['-'] ++ padDigitsMin 6 (-y).toNat
  else if y ≤ 9999 then padDigits 4 y.toNat
  else ['+'] ++ natDigits y.toNat

theorem formatDate_eq (y m d : Int) :
    formatDate y m d = formatYear y ++ ['-'] ++ padDigits 2 m.toNat ++ ['-'] ++ padDigits 2 d.toNat := by
  unfold formatDate formatYear
  simp only
  split
  · simp only [List.append_assoc]
  · split <;> simp only [List.append_assoc]

theorem skipWs_of_not_ws {c : Char} (h : isWs c = false) (cs : List Char) : skipWs (c :: cs) = c :: cs := by
  simp [skipWs, h]

theorem itemYear_formatYear (y : Int) (rest : List Char) :
    itemYear (formatYear y ++ '-' :: rest) = some ('-' :: rest, y) := by
  have hr : ∀ (c : Char) (r : List Char), '-' :: rest = c :: r → isDigit c = false := by
    intro c r h; cases h; decide
  unfold formatYear
  split
  · rename_i hy
    unfold itemYear
    simp only [List.cons_append, List.nil_append]
    rw [skipWs_of_not_ws (by decide)]
    simp only
    rw [scanNumber_digits _ _ _ (padDigitsMin_allDigits _ _) (padDigitsMin_ne_nil _ _) (by simp) hr]
    simp only [Option.map_some, digitsVal_padDigitsMin, Option.some.injEq, Prod.mk.injEq, true_and]
    omega
  · rename_i hy
    split
    · rename_i hy2
      have e : padDigits 4 y.toNat = digitChar (y.toNat / 10 / 10 / 10) :: padDigits 3 y.toNat := by
        simp [padDigits]
      have hd : isDigit (digitChar (y.toNat / 10 / 10 / 10)) = true := isDigit_digitChar _
      generalize hc : digitChar (y.toNat / 10 / 10 / 10) = c at e hd
      have hsc := scanNumber_digits (padDigits 4 y.toNat) ('-' :: rest) 4 (padDigits_allDigits _ _)
        (padDigits_ne_nil (by decide) _) (by rw [padDigits_length]; omega) hr
      rw [digitsVal_padDigits, Nat.mod_eq_of_lt (by omega)] at hsc
      unfold itemYear
      rw [e, List.cons_append, skipWs_digit hd]
      rw [e, List.cons_append] at hsc
      split
      · rename_i heq; cases heq; exact absurd hd (by decide)
      · rename_i heq; cases heq; exact absurd hd (by decide)
      · rename_i s _ _
        rw [hsc]
        simp only [Option.map_some, Option.some.injEq, Prod.mk.injEq, true_and]
        omega
    · rename_i hy2
      unfold itemYear
      simp only [List.cons_append, List.nil_append]
      rw [skipWs_of_not_ws (by decide)]
      simp only
      rw [scanNumber_digits _ _ _ (natDigits_allDigits _) (natDigits_ne_nil _) (by simp) hr]
      simp only [Option.map_some, digitsVal_natDigits, Option.some.injEq, Prod.mk.injEq, true_and]
      omega

theorem parseDateItems_formatDate (y m d : Int) (hm : 0 ≤ m ∧ m < 100) (hd : 0 ≤ d ∧ d < 100) (rest : List Char) :
    parseDateItems (formatDate y m d ++ rest) = some (rest, y, m.toNat, d.toNat) := by
  rw [formatDate_eq]
  have e : formatYear y ++ ['-'] ++ padDigits 2 m.toNat ++ ['-'] ++ padDigits 2 d.toNat ++ rest =
      formatYear y ++ '-' :: (padDigits 2 m.toNat ++ '-' :: (padDigits 2 d.toNat ++ rest)) := by
    simp only [List.append_assoc, List.cons_append, List.nil_append]
  rw [e]
  unfold parseDateItems
  rw [itemYear_formatYear]
  simp only [Option.bind_eq_bind, Option.bind_some]
  rw [skipWs_of_not_ws (by decide)]
  simp only [itemLit, if_true, Option.bind_some]
  rw [itemTwo_pad _ (by omega)]
  simp only [Option.bind_some]
  rw [skipWs_of_not_ws (by decide)]
  simp only [if_true, Option.bind_some]
  rw [itemTwo_pad _ (by omega)]
  rfl

theorem resolveDate_civilFromDays (z : Int) (h : inChronoDays z = true) :
    resolveDate (civilFromDays z).1 (civilFromDays z).2.1.toNat (civilFromDays z).2.2.toNat = some z := by
  have hv := civilFromDays_valid z
  have hy := civilFromDays_year_bounds z h
  have hb := validDate_bounds hv
  unfold resolveDate
  rw [Int.toNat_of_nonneg (by omega), Int.toNat_of_nonneg (by omega)]
  rw [if_pos ⟨hy.1, hy.2, hv⟩, daysFromCivil_civilFromDays]

/-- **date string round trip** (parser side): the string form of any day count inside chrono's range is parsed
back to that day count -/
theorem parseNaiveDate_formatDays (z : Int) (h : inChronoDays z = true) : parseNaiveDate (formatDays z) = .ok z := by
  have hv := civilFromDays_valid z
  have hb := validDate_bounds hv
  unfold parseNaiveDate formatDays
  have := parseDateItems_formatDate (civilFromDays z).1 (civilFromDays z).2.1 (civilFromDays z).2.2
    (by omega) (by omega) []
  rw [List.append_nil] at this
  simp only [this, skipWs, resolveDate_civilFromDays z h]

theorem scanNanosecond_pad_rest (w x : Nat) (hw : 0 < w ∧ w ≤ 9) (hx : x < 10 ^ w) (rest : List Char)
    (hr : ∀ c r, rest = c :: r → isDigit c = false) :
    scanNanosecond (padDigits w x ++ rest) = some (rest, x * 10 ^ (9 - w)) := by
  unfold scanNanosecond
  rw [takeDigits_append (padDigits_allDigits w x) rest hr]
  have hne := padDigits_ne_nil hw.1 x
  cases hp : padDigits w x with
  | nil => exact absurd hp hne
  | cons c cs =>
    simp only
    rw [← hp, List.take_of_length_le (by rw [padDigits_length]; omega), padDigits_length, digitsVal_padDigits,
      Nat.mod_eq_of_lt hx]

theorem parseSecondNanos_plain_rest (s : Nat) (hs : s < 100) (rest : List Char) (hrest : rest = [] ∨ rest = ['Z']) :
    parseSecondNanos ([':'] ++ padDigits 2 s ++ rest) = some (rest, s, none) := by
  unfold parseSecondNanos
  simp only [List.cons_append, List.nil_append, skipWs_colon, itemLit, if_true, Option.bind_eq_bind, Option.bind_some]
  rw [itemTwo_pad s hs]
  rcases hrest with rfl | rfl <;> rfl

theorem parseSecondNanos_frac_rest (s w x : Nat) (hs : s < 100) (hw : 0 < w ∧ w ≤ 9) (hx : x < 10 ^ w)
    (rest : List Char) (hrest : rest = [] ∨ rest = ['Z']) :
    parseSecondNanos ([':'] ++ padDigits 2 s ++ ['.'] ++ padDigits w x ++ rest) = some (rest, s, some (x * 10 ^ (9 - w))) := by
  have hr : ∀ c r, rest = c :: r → isDigit c = false := by
    rcases hrest with rfl | rfl
    · intro c r h; cases h
    · intro c r h; cases h; decide
  unfold parseSecondNanos
  simp only [List.cons_append, List.nil_append, skipWs_colon, itemLit, if_true, Option.bind_eq_bind, Option.bind_some,
    List.append_assoc]
  rw [itemTwo_pad s hs]
  simp only [Option.bind_some, itemNanosecond, scanNanosecond_pad_rest w x hw hx rest hr, Option.map_some]
  rcases hrest with rfl | rfl <;> rfl

/-- the fraction `formatTime` prints: none, or 3 / 6 / 9 digits -/
def fracOf (nanos : Nat) : Option Nat := if nanos = 0 then none else some nanos

/-- chrono's time items read the reader's time string back: hour, minute, second, nanosecond -/
theorem parseTimeItems_formatTime (secs nanos : Nat) (hs : secs < 86400) (hn : nanos < 1000000000)
    (rest : List Char) (hrest : rest = [] ∨ rest = ['Z']) :
    parseTimeItems (formatTime secs nanos ++ rest) =
      some (rest, secs / 3600, secs / 60 % 60, secs % 60, fracOf nanos) := by
  have e3 : nanos % 1000000 = 0 → nanos / 1000000 * 10 ^ (9 - 3) = nanos := by
    intro h; rw [show (10 : Nat) ^ (9 - 3) = 1000000 by simp]; omega
  have e6 : nanos % 1000 = 0 → nanos / 1000 * 10 ^ (9 - 6) = nanos := by
    intro h; rw [show (10 : Nat) ^ (9 - 6) = 1000 by simp]; omega
  have key : ∀ tailStr ns, parseSecondNanos (tailStr ++ rest) = some (rest, secs % 60, ns) →
      parseTimeItems (padDigits 2 (secs / 3600) ++ [':'] ++ padDigits 2 (secs / 60 % 60) ++ tailStr ++ rest) =
        some (rest, secs / 3600, secs / 60 % 60, secs % 60, ns) := by
    intro tailStr ns ht
    unfold parseTimeItems
    rw [List.append_assoc _ tailStr rest, parseHourMinute_fmt _ _ (by omega) (by omega)]
    simp only [Option.bind_eq_bind, Option.bind_some, ht]
    rfl
  unfold formatTime fracOf
  rw [if_neg (by omega)]
  simp only
  split
  · rename_i h0
    have := key _ none (parseSecondNanos_plain_rest (secs % 60) (by omega) rest hrest)
    simp only [← List.append_assoc] at this ⊢
    rw [this]
  · rename_i h0
    split
    · rename_i h3
      have := key _ _ (parseSecondNanos_frac_rest (secs % 60) 3 (nanos / 1000000) (by omega) (by decide)
        (by simp only [Nat.reducePow]; omega) rest hrest)
      simp only [← List.append_assoc] at this ⊢
      rw [this, e3 h3]
    · split
      · rename_i h6
        have := key _ _ (parseSecondNanos_frac_rest (secs % 60) 6 (nanos / 1000) (by omega) (by decide)
          (by simp only [Nat.reducePow]; omega) rest hrest)
        simp only [← List.append_assoc] at this ⊢
        rw [this, e6 h6]
      · have := key _ _ (parseSecondNanos_frac_rest (secs % 60) 9 nanos (by omega) (by decide)
          (by simp only [Nat.reducePow]; omega) rest hrest)
        simp only [← List.append_assoc] at this ⊢
        rw [this]
        simp only [Nat.reduceSub, Nat.pow_zero, Nat.mul_one]

theorem resolveTime_fracOf (secs nanos : Nat) (hs : secs < 86400) :
    resolveTime (secs / 3600) (secs / 60 % 60) (some (secs % 60)) (fracOf nanos) = some (secs, nanos) := by
  unfold resolveTime
  rw [if_pos ⟨by omega, by omega⟩]
  simp only
  rw [if_pos (by omega)]
  have : (fracOf nanos).getD 0 = nanos := by
    unfold fracOf; split
    · rename_i h; rw [h]; rfl
    · rfl
  rw [this]
  congr 2; omega

/-- `NaiveTime::from_str` on a string whose time items (seconds included) use up the input -/
theorem parseNaiveTime_of_items {s : List Char} {h mi sec : Nat} {ns : Option Nat}
    (hi : parseTimeItems s = some ([], h, mi, sec, ns)) :
    parseNaiveTime s = match resolveTime h mi (some sec) ns with
      | some t => .ok t
      | none => fail "chrono::ParseError: out of range" := by
  unfold parseTimeItems at hi
  unfold parseNaiveTime
  cases hp : parseHourMinute s with
  | none => simp [hp] at hi
  | some p =>
    obtain ⟨s1, h', mi'⟩ := p
    cases hq : parseSecondNanos s1 with
    | none => simp [hp, hq] at hi
    | some q =>
      obtain ⟨r, sec', ns'⟩ := q
      simp only [hp, hq, Option.bind_eq_bind, Option.bind_some, Option.pure_def, Option.some.injEq, Prod.mk.injEq] at hi
      obtain ⟨rfl, rfl, rfl, rfl, rfl⟩ := hi
      simp only [hq, skipWs]
      cases resolveTime h' mi' (some sec') ns' <;> rfl

/-- the reader's string form of a time of day is parsed back by the builder's parser to the same time -/
theorem parseNaiveTime_formatTime (secs nanos : Nat) (hs : secs < 86400) (hn : nanos < 1000000000) :
    parseNaiveTime (formatTime secs nanos) = .ok (secs, nanos) := by
  have := parseTimeItems_formatTime secs nanos hs hn [] (.inl rfl)
  rw [List.append_nil] at this
  rw [parseNaiveTime_of_items this, resolveTime_fracOf secs nanos hs]

theorem formatInstant_eq (t : Instant) (suffix : List Char) :
    formatInstant t suffix = formatDate (civilFromDays t.days).1 (civilFromDays t.days).2.1 (civilFromDays t.days).2.2 ++
      ('T' :: (formatTime t.secs t.nanos ++ suffix)) := by
  simp only [formatInstant, formatDays, List.append_assoc, List.cons_append, List.nil_append]

/-- `NaiveDateTime::from_str` (model) reads the reader's naive timestamp string back to the same instant -/
theorem parseNaiveDateTime_formatInstant (t : Instant) (hd : inChronoDays t.days = true) (hs : t.secs < 86400)
    (hn : t.nanos < 1000000000) : parseNaiveDateTime (formatInstant t []) = .ok t := by
  have hv := civilFromDays_valid t.days
  have hb := validDate_bounds hv
  rw [formatInstant_eq]
  unfold parseNaiveDateTime
  rw [parseDateItems_formatDate _ _ _ (by omega) (by omega)]
  simp only
  rw [skipWs_of_not_ws (by decide)]
  simp only [itemLit, if_true]
  rw [parseTimeItems_formatTime t.secs t.nanos hs hn [] (Or.inl rfl)]
  simp only [resolveDate_civilFromDays t.days hd, resolveTime_fracOf t.secs t.nanos hs]

/-- `DateTime::<Utc>::from_str` (model) reads the reader's UTC timestamp string (`Z` suffix) back to the same instant -/
theorem parseUtcDateTime_formatInstant (t : Instant) (hd : inChronoDays t.days = true) (hs : t.secs < 86400)
    (hn : t.nanos < 1000000000) : parseUtcDateTime (formatInstant t ['Z']) = .ok t := by
  have hv := civilFromDays_valid t.days
  have hb := validDate_bounds hv
  rw [formatInstant_eq]
  unfold parseUtcDateTime
  rw [parseDateItems_formatDate _ _ _ (by omega) (by omega)]
  simp only [or_true, true_or, if_true]
  rw [parseTimeItems_formatTime t.secs t.nanos hs hn ['Z'] (Or.inr rfl)]
  simp only [scanTimezoneOffset, skipWs, resolveDate_civilFromDays t.days hd, resolveTime_fracOf t.secs t.nanos hs]
  have e1 : ((t.secs : Int) - 0) / 86400 = 0 := by omega
  have e2 : (((t.secs : Int) - 0) % 86400).toNat = t.secs := by omega
  simp only [e1, e2, Int.add_zero, hd, if_true]
  rw [if_neg (by omega)]

end SaModel.Codec
