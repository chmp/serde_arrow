import SaModel.Lemmas.C04Cast
import SaModel.Lemmas.C04CastEnum
import SaModel.Lemmas.C04Scope
import SaModel.Roundtrip.Types
import SaModel.Lemmas.C04Reader
import SaModel.Lemmas.C04Interp
import SaModel.Read.ToD
import SaModel.Lemmas.C04Norm
/-
C04: `cast_lvO` — the typed read specification `Read.cast`, at the target of a type, on the OPTION-DEPENDENT logical value
`lvO o` of a value of that type, in a well-formed array of the field the type is traced to under the options `o`, demands
exactly the normalised value (fragment `fragE`, enums in both storage forms: dense Union, and Dictionary(UInt32, string)
for enums without data under `enums_without_data_as_strings`, where the logical value is the variant NAME).
Exclusions: `inScopeU` (no `None` at a Union position) and `strOK` (a value of a string-stored enum is a unit variant).
The right-hand side does not depend on the storage form: `norm` (defined through `lv`) is the normalisation of both forms
(`lvO_null_iff`).  An instance of the induction over well-typed values (`WtClosed`).
-/

/-! ### small facts about the option-dependent logical value `lvO o` (Roundtrip/Types.lean).

  lvO_null_iff   a well-typed value is stored as a null under `lvO o` exactly when it is under `lv` (an enum value is
                 never null, in the Union form nor in the string form): `norm` (defined through `lv`) is also the
                 normalisation of the option-dependent form
  utf8Ok_lvO     every string inside `lvO o t v` is well-formed UTF-8 (strings of the value and variant NAMES are `String`s)
  (`scope_of_inScope`, Lemmas/C04Interp.lean: under the stronger exclusion `inScope` the two logical values agree) -/
namespace SaModel.Roundtrip
open SaModel

theorem lvOSingle_ne_null (o : TraceOpts) (i : Nat) (t : Ty) : ∀ vs : Vals, wtSingle t vs = true → lvOSingle o i t vs ≠ .null
  | .cons _ .nil, _ => by simp [lvOSingle]
  | .nil, h | .cons _ (.cons _ _), h => by simp [wtSingle] at h

/-- an enum value is never null, in either storage form; everything else is stored alike up to the enums inside -/
theorem lvO_null_iff (o : TraceOpts) : ∀ (t : Ty) (v : Val), wt t v = true → (lvO o t v = .null ↔ lv t v = .null) := by
  apply wt.induct (motive_1 := fun t v => wt t v = true → (lvO o t v = .null ↔ lv t v = .null))
    (motive_2 := fun _ _ _ => True) (motive_3 := fun _ _ => True) (motive_4 := fun _ _ => True)
    (motive_5 := fun _ _ => True) (motive_6 := fun _ _ => True)
  case case1 => intro p v _; rw [lvO_prim]
  all_goals intros
  all_goals try trivial
  all_goals rename_i hw
  all_goals try simp only [wt, Bool.false_eq_true, *] at hw
  all_goals try simp only [lvO, lv, reduceCtorEq, iff_self, *]
  -- left: the value of an enum under `lvO`, a name in the string form, a union slot in the Union form
  all_goals split <;> simp [lvSingle_ne_null, lvOSingle_ne_null, *]

/-- by induction along the definition of `lvO`: the strings inside are the UTF-8 encodings of `String`s (string values,
variant names) -/
theorem utf8Ok_lvO_mutual (o : TraceOpts) :
    (∀ t v, Read.utf8Ok (lvO o t v) = true) ∧
    (∀ k v es, Read.utf8OkEntries (lvOEntries o k v es) = true) ∧
    (∀ i t vs, Read.utf8Ok (lvOSingle o i t vs) = true) ∧
    (∀ fs vs, Read.utf8OkFields (lvOFields o fs vs) = true) ∧
    (∀ i ts vs, Read.utf8OkFields (lvOPos o i ts vs) = true) ∧
    (∀ t vs, Read.utf8OkList (lvOAll o t vs) = true) := by
  have hstr (s : String) : Read.validUtf8 s.toUTF8.toList = true := Lemmas.C04Utf8.validUtf8_strBytes s
  apply lvO.mutual_induct o
  all_goals intros
  all_goals simp only [lvO, lvOSingle, lvOAll, lvOPos, lvOFields, lvOEntries, Read.utf8Ok, Read.utf8OkList,
    Read.utf8OkFields, Read.utf8OkEntries, Bool.and_self, Bool.false_eq_true, if_true, if_false, hstr, *]

theorem utf8Ok_lvO (o : TraceOpts) : ∀ (t : Ty) (v : Val), Read.utf8Ok (lvO o t v) = true :=
  (utf8Ok_lvO_mutual o).1
theorem utf8Ok_lvOAll (o : TraceOpts) : ∀ (t : Ty) (vs : Vals), Read.utf8OkList (lvOAll o t vs) = true :=
  (utf8Ok_lvO_mutual o).2.2.2.2.2
theorem utf8Ok_lvOPos (o : TraceOpts) : ∀ (i : Nat) (ts : Tys) (vs : Vals), Read.utf8OkFields (lvOPos o i ts vs) = true :=
  (utf8Ok_lvO_mutual o).2.2.2.2.1
theorem utf8Ok_lvOFields (o : TraceOpts) : ∀ (fs : TFields) (vs : Vals), Read.utf8OkFields (lvOFields o fs vs) = true :=
  (utf8Ok_lvO_mutual o).2.2.2.1
theorem utf8Ok_lvOEntries (o : TraceOpts) : ∀ (k v : Ty) (es : VEntries), Read.utf8OkEntries (lvOEntries o k v es) = true :=
  (utf8Ok_lvO_mutual o).2.1

/-! ### the stronger exclusion `inScope` implies the exclusions `inScopeO` of the composed theorems (`scope_of_inScope`,
Lemmas/C04Interp.lean); in particular they are vacuous in the enum-free fragment -/

theorem inScopeO_of_inScope (o : TraceOpts) (t : Ty) (v : Val) (h : inScope o t v = true) : inScopeO o t v = true := by
  have := scope_of_inScope o t v h
  simp [inScopeO, this.1, this.2.1]

theorem frag_inScopeO (o : TraceOpts) (t : Ty) (v : Val) (hf : frag t = true) : inScopeO o t v = true :=
  inScopeO_of_inScope o t v (frag_inScope o t v hf)

end SaModel.Roundtrip

/-! ### `cast_lvO` -/
namespace SaModel.Roundtrip
open SaModel SaModel.Spec SaModel.Build

theorem union_col (o : TraceOpts) {vars : Variants} {i : Nat} {vn : String} {kind : Variant} {a : Arr} {nl : Bool}
    (hg : vars.get? i = some (vn, kind)) (hwf : Spec.wf (.union (mappingVariants o 0 vars) .dense) nl a = true) :
    ∃ types offs cols fm child, a = .union types offs cols ∧ Read.ArrUFields.findId cols (i : Int) = some (fm, child) ∧
      fm.name = vn ∧ Spec.wf (variantField o vn kind).dataType (variantField o vn kind).nullable child = true := by
  obtain ⟨types, offs, cols, rfl, hcols⟩ := wf_union hwf
  obtain ⟨fm, child, hfind, hname, hchild⟩ := findId_variant o vars cols 0 i vn _ (by simpa using hcols) hg
  exact ⟨types, offs, cols, fm, child, rfl, by simpa using hfind, hname, hchild⟩

/-- **the typed read of the logical value of a value in scope, in any well-formed array of the traced type, demands the normalised
value**; shape by shape of a well-typed value -/
theorem closed_cast (o : TraceOpts) :
    WtClosed (fun t v => ∀ a nl, fragE t = true → inScopeU o t v = true → strOK o t v = true → Spec.wf (mappingDT o t).1 nl a = true →
        Read.cast (toTarget t) a (lvO o t v) = Read.must (dvalOf t (norm t v)))
      (fun t vs => ∀ el nl, fragE t = true → inScopeUAll o t vs = true → strOKAll o t vs = true →
        Spec.wf (mappingDT o t).1 nl el = true →
        Read.claimVals (fun x => Read.cast (toTarget t) el x) (lvOAll o t vs) = .ok (some (dvalAll t (normAll t vs)).toList))
      (fun ts vs => ∀ i cols len, fragETys ts = true → inScopeUPos o ts vs = true → strOKPos o ts vs = true →
        Spec.wfFields (mappingPos o i ts) cols len = true →
        Read.castTuple (toTargets ts) cols (lvOPos o i ts vs) = .ok (some (dvalPos ts (normPos ts vs)).toList))
      (fun fs vs => ∀ cols lfs, fragEFields fs = true → inScopeUFields o fs vs = true → strOKFields o fs vs = true →
        FoundA o cols lfs fs vs →
        Read.castFields (toTargetFields fs) cols lfs = .ok (some (dvalFields fs (normFields fs vs)).toList))
      (fun k v es => ∀ ks vs, fragE k = true → fragE v = true → inScopeUEntries o k v es = true → strOKEntries o k v es = true →
        Spec.wf (mappingDT o k).1 (mappingDT o k).2.1 ks = true → Spec.wf (mappingDT o v).1 (mappingDT o v).2.1 vs = true →
        Read.claimEntries (fun w => Read.cast (toTarget k) ks w) (fun w => Read.cast (toTarget v) vs w) (lvOEntries o k v es) =
          .ok (some (dvalEntries k v (normEntries k v es)).toList)) where
  prim p v hp a nl _ _ _ hwf := by rw [norm_prim, lvO_prim]; exact cast_prim o p v a nl hp hwf
  unit a nl _ _ _ hwf := by
    obtain ⟨len, rfl⟩ := wf_null hwf
    simp [toTarget, lvO, norm, dvalOf, Read.cast, Read.castScalar, Read.isNullArr]
  unitStruct n a nl _ _ _ hwf := by
    obtain ⟨len, rfl⟩ := wf_null hwf
    simp [toTarget, lvO, norm, dvalOf, Read.cast, Read.castScalar, Read.isNullArr]
  optNone t a nl _ _ _ _ := by simp [toTarget, lvO, norm, dvalOf, Read.cast]
  optSome t v hw ih a nl hf hs hk hwf := by
    rw [mappingDT_option] at hwf
    have hiff := lvO_null_iff o t v hw
    by_cases hn : lv t v = .null
    · simp [toTarget, lvO, norm, dvalOf, hn, hiff.mpr hn, Read.cast]
    · simp only [toTarget, lvO, norm, hn, if_false, dvalOf]
      exact cast_option_nonnull _ a _ _ (fun h => hn (hiff.mp h)) (ih a nl hf hs hk hwf)
  newtype n t v _ ih a nl hf hs hk hwf := by rw [mappingDT] at hwf; exact ih a nl hf hs hk hwf
  vec t vs _ ih a nl hf hs hk hwf := by
    rw [mappingDT_vec] at hwf
    have hel : ∃ lg v offs fm el, a = .list lg v offs fm el ∧ Spec.wf (mappingDT o t).1 (mappingDT o t).2.1 el = true := by
      split at hwf
      · obtain ⟨v, offs, fm, el, rfl, _, h⟩ := wf_largeList hwf
        exact ⟨_, v, offs, fm, el, rfl, h⟩
      · obtain ⟨v, offs, fm, el, rfl, _, h⟩ := wf_list hwf
        exact ⟨_, v, offs, fm, el, rfl, h⟩
    obtain ⟨lg, vv, offs, fm, el, rfl, hel⟩ := hel
    simp [toTarget, lvO, norm, dvalOf, Read.cast, ih el _ hf hs hk hel, Read.andThenL, DVals.ofList_toList]
  tuple ts vs _ ih a nl hf hs hk hwf := by
    obtain ⟨len, vv, cols, rfl, _, hcols⟩ := wf_struct (by simpa only [mappingDT] using hwf)
    simp [toTarget, lvO, norm, dvalOf, Read.cast, Read.tupleClaim, ih 0 cols len hf hs hk hcols, Read.andThenL, DVals.ofList_toList]
  tupleStruct n ts vs _ ih a nl hf hs hk hwf := by
    obtain ⟨len, vv, cols, rfl, _, hcols⟩ := wf_struct (by simpa only [mappingDT] using hwf)
    simp [toTarget, lvO, norm, dvalOf, Read.cast, Read.tupleClaim, ih 0 cols len hf hs hk hcols, Read.andThenL, DVals.ofList_toList]
  struct n fs vs hw ih a nl hf hs hk hwf := by
    simp only [fragE, Bool.and_eq_true, Bool.not_eq_true'] at hf
    obtain ⟨len, vv, cols, rfl, _, hcols⟩ := wf_struct (by simpa only [mappingDT] using hwf)
    simp [toTarget, lvO, norm, dvalOf, Read.cast, Read.structClaim, wfFields_names o fs cols len hcols, toTargetFields_names,
      nodupNames_eq, hf.1, ih cols _ hf.2 hs hk (foundA_of o len fs vs cols hcols hw hf.1), Read.andThenE, DEntries.ofList_toList]
  map k v es _ ih a nl hf hs hk hwf := by
    simp only [fragE, Bool.and_eq_true] at hf
    rw [mappingDT_map] at hwf
    obtain ⟨vv, offs, mm, ks, vs, rfl, _, _, hwk, hwv⟩ := wf_map hwf
    simp [toTarget, lvO, norm, dvalOf, Read.cast, ih ks vs hf.1 hf.2 hs hk hwk hwv, Read.andThenE, DEntries.ofList_toList]
  variant n vars i vn kind p hg hw ih a nl hf hs hk hwf := by
    simp only [fragE, Bool.and_eq_true, Bool.not_eq_true'] at hf
    cases hform : (vars.withoutData && o.enumsWithoutDataAsStrings) with
    | true =>
      -- stored as a string: Dictionary(UInt32, string type), a unit variant (`strOK`), the logical value is its name
      cases variant_val hg hw with
      | unit =>
        simp only [mappingDT, hform, if_true] at hwf
        obtain ⟨ks, vs, rfl⟩ := wf_dictionary_shape hwf
        have hcs := castVariantStr_get vars i vn .unit hf.1 hg
        simp only [Read.strBytes] at hcs
        simp only [toTarget, lvO, hform, norm, dvalOf, hg, Read.cast, Read.isStringLike, if_true, Bool.not_false, Bool.and_self]
        exact hcs
      | _ => simp [strOK, hform, hg] at hk
    | false =>
      -- the Union form: the child is found by type id, the variant by the child's name, the payload read at the payload type
      simp only [mappingDT, hform, Bool.false_eq_true, if_false] at hwf
      rw [inScopeU_variant hg hw] at hs
      rw [strOK_variant hg hw hform] at hk
      obtain ⟨types, offs, cols, fm, child, rfl, hfind, hname, hchild⟩ := union_col o hg hwf
      rw [variantField_eq] at hchild
      rw [lvO_variant hg hw hform, dvalOf_norm_variant hg hw]
      simp [toTarget, Read.cast, hfind, hname, castVariant_get child _ vars i vn kind hf.1 hg, castKind_payload o vn kind p hchild,
        ih child _ (fragE_payload vn kind ▸ fragEVariants_get vars i vn _ hf.2 hg) hs hk hchild, Read.Claim.andThen, Read.must]
  allNil t el nl _ _ _ _ := by simp [lvOAll, normAll, dvalAll, Read.claimVals, Read.DVals.toList]
  allCons t v rest _ _ ih1 ih2 el nl hf hs hk hwf := by
    simp only [inScopeUAll, strOKAll, Bool.and_eq_true] at hs hk
    simp [lvOAll, normAll, dvalAll, Read.claimVals, Read.DVals.toList, ih1 el nl hf hs.1 hk.1 hwf, ih2 el nl hf hs.2 hk.2 hwf,
      Read.consClaim, Read.must]
  posNil i cols len _ _ _ _ := by simp [toTargets, Read.castTuple, normPos, dvalPos, Read.DVals.toList, lvOPos]
  posCons t ts v rest _ _ ih1 ih2 i cols len hf hs hk hwf := by
    simp only [fragETys, inScopeUPos, strOKPos, Bool.and_eq_true] at hf hs hk
    rw [mappingPos_cons] at hwf
    cases cols with
    | nil => simp [Spec.wfFields] at hwf
    | cons fm a arest =>
      simp only [Spec.wfFields, Bool.and_eq_true] at hwf
      simp [toTargets, lvOPos.eq_1, Read.castTuple,
        ih1 a _ hf.1 hs.1 hk.1 (by simpa [Field.dataType, Field.nullable] using hwf.1.2),
        ih2 (i + 1) arest len hf.2 hs.2 hk.2 hwf.2, normPos.eq_1, dvalPos.eq_1, Read.DVals.toList, Read.consClaim, Read.must]
  fieldsNil cols lfs _ _ _ _ := by simp [toTargetFields, Read.castFields, normFields, dvalFields, Read.DEntries.toList]
  fieldsCons n s t fs v rest _ _ ih1 ih2 cols lfs hf hs hk hfound := by
    simp only [fragEFields, inScopeUFields, strOKFields, Bool.and_eq_true] at hf hs hk
    obtain ⟨⟨a, dt, nb, md, nl, h1, h2, h3⟩, hr⟩ := hfound
    have hc := ih1 a nl hf.1.1 hs.1 hk.1 (by rw [h2]; exact h3)
    simp [toTargetFields, Read.castFields, h1, hc, ih2 cols lfs hf.2 hs.2 hk.2 hr, normFields.eq_1, dvalFields.eq_1,
      Read.DEntries.toList, Read.consClaim, Read.must, nameKey]
  entriesNil k v ks vs _ _ _ _ _ _ := by simp [lvOEntries, normEntries, dvalEntries, Read.claimEntries, Read.DEntries.toList]
  entriesCons k v a b rest _ _ _ ih1 ih2 ih3 ks vs hfk hfv hs hk hwk hwv := by
    simp only [inScopeUEntries, strOKEntries, Bool.and_eq_true] at hs hk
    simp [lvOEntries, normEntries, dvalEntries, Read.claimEntries, Read.DEntries.toList, ih1 ks _ hfk hs.1.1 hk.1.1 hwk,
      ih2 vs _ hfv hs.1.2 hk.1.2 hwv, ih3 ks vs hfk hfv hs.2 hk.2 hwk hwv, Read.consClaim, Read.pairClaim, Read.must]

theorem cast_lvO (o : TraceOpts) : ∀ (t : Ty) (v : Val) (a : Arr) (dt : DataType) (nb : Bool) (md : Metadata) (nl : Bool),
    fragE t = true → wt t v = true → inScopeU o t v = true → strOK o t v = true → mappingDT o t = (dt, nb, md) → Spec.wf dt nl a = true →
    Read.cast (toTarget t) a (lvO o t v) = Read.must (dvalOf t (norm t v)) :=
  fun t v a _ _ _ nl hf hw hs hk hm hwf => (closed_cast o).val t v hw a nl hf hs hk (by rw [hm]; exact hwf)

theorem cast_lvAllO (o : TraceOpts) : ∀ (t : Ty) (vs : Vals) (el : Arr) (dt : DataType) (nb : Bool) (md : Metadata) (nl : Bool),
    fragE t = true → wtAll t vs = true → inScopeUAll o t vs = true → strOKAll o t vs = true → mappingDT o t = (dt, nb, md) → Spec.wf dt nl el = true →
    Read.claimVals (fun x => Read.cast (toTarget t) el x) (lvOAll o t vs) = .ok (some (dvalAll t (normAll t vs)).toList) :=
  fun t vs el _ _ _ nl hf hw hs hk hm hwf => (closed_cast o).all t vs hw el nl hf hs hk (by rw [hm]; exact hwf)

theorem cast_lvEntriesO (o : TraceOpts) : ∀ (k v : Ty) (es : VEntries) (ks vs : Arr)
    (kdt : DataType) (knb : Bool) (kmd : Metadata) (vdt : DataType) (vnb : Bool) (vmd : Metadata),
    fragE k = true → fragE v = true → wtEntries k v es = true → inScopeUEntries o k v es = true → strOKEntries o k v es = true →
    mappingDT o k = (kdt, knb, kmd) → mappingDT o v = (vdt, vnb, vmd) →
    Spec.wf kdt knb ks = true → Spec.wf vdt vnb vs = true →
    Read.claimEntries (fun w => Read.cast (toTarget k) ks w) (fun w => Read.cast (toTarget v) vs w) (lvOEntries o k v es) =
      .ok (some (dvalEntries k v (normEntries k v es)).toList) :=
  fun k v es ks vs _ _ _ _ _ _ hfk hfv hw hs hk hkm hvm hwk hwv =>
    (closed_cast o).entries k v es hw ks vs hfk hfv hs hk (by rw [hkm]; exact hwk) (by rw [hvm]; exact hwv)

theorem cast_lvFieldsO (o : TraceOpts) (cols : ArrFields) (lfs : LFields) : ∀ (fs2 : TFields) (vs2 : Vals),
    fragEFields fs2 = true → wtFields fs2 vs2 = true → inScopeUFields o fs2 vs2 = true → strOKFields o fs2 vs2 = true → FoundA o cols lfs fs2 vs2 →
    Read.castFields (toTargetFields fs2) cols lfs = .ok (some (dvalFields fs2 (normFields fs2 vs2)).toList) :=
  fun fs vs hf hw => (closed_cast o).fields fs vs hw cols lfs hf

theorem cast_lvPosO (o : TraceOpts) : ∀ (ts : Tys) (vs : Vals) (i : Nat) (cols : ArrFields) (len : Nat),
    fragETys ts = true → wtPos ts vs = true → inScopeUPos o ts vs = true → strOKPos o ts vs = true → Spec.wfFields (mappingPos o i ts) cols len = true →
    Read.castTuple (toTargets ts) cols (lvOPos o i ts vs) = .ok (some (dvalPos ts (normPos ts vs)).toList) :=
  fun ts vs i cols len hf hw => (closed_cast o).pos ts vs hw i cols len hf

/-! ### the statements about `lv` (stronger exclusion `inScope`: no value of a string-stored enum at all), derived from `cast_lvO`

Under `inScope` the two exclusions hold and `lvO o = lv` (`scope_of_inScope`, Lemmas/C04Interp.lean). -/

theorem cast_lvE (o : TraceOpts) (t : Ty) (v : Val) (a : Arr) (dt : DataType) (nb : Bool) (md : Metadata) (nl : Bool)
    (hf : fragE t = true) (hw : wt t v = true) (hs : inScope o t v = true) (hm : mappingDT o t = (dt, nb, md))
    (hwf : Spec.wf dt nl a = true) : Read.cast (toTarget t) a (lv t v) = Read.must (dvalOf t (norm t v)) := by
  have h := scope_of_inScope o t v hs
  rw [← h.2.2]; exact cast_lvO o t v a dt nb md nl hf hw h.1 h.2.1 hm hwf

theorem cast_lvAllE (o : TraceOpts) (t : Ty) (vs : Vals) (el : Arr) (dt : DataType) (nb : Bool) (md : Metadata) (nl : Bool)
    (hf : fragE t = true) (hw : wtAll t vs = true) (hs : inScopeAll o t vs = true) (hm : mappingDT o t = (dt, nb, md))
    (hwf : Spec.wf dt nl el = true) :
    Read.claimVals (fun x => Read.cast (toTarget t) el x) (lvAll t vs) = .ok (some (dvalAll t (normAll t vs)).toList) := by
  have h := scope_of_inScopeAll o t vs hs
  rw [← h.2.2]; exact cast_lvAllO o t vs el dt nb md nl hf hw h.1 h.2.1 hm hwf

theorem cast_lvEntriesE (o : TraceOpts) (k v : Ty) (es : VEntries) (ks vs : Arr)
    (kdt : DataType) (knb : Bool) (kmd : Metadata) (vdt : DataType) (vnb : Bool) (vmd : Metadata)
    (hfk : fragE k = true) (hfv : fragE v = true) (hw : wtEntries k v es = true) (hs : inScopeEntries o k v es = true)
    (hk : mappingDT o k = (kdt, knb, kmd)) (hv : mappingDT o v = (vdt, vnb, vmd))
    (hwk : Spec.wf kdt knb ks = true) (hwv : Spec.wf vdt vnb vs = true) :
    Read.claimEntries (fun w => Read.cast (toTarget k) ks w) (fun w => Read.cast (toTarget v) vs w) (lvEntries k v es) =
      .ok (some (dvalEntries k v (normEntries k v es)).toList) := by
  have h := scope_of_inScopeEntries o k v es hs
  rw [← h.2.2]; exact cast_lvEntriesO o k v es ks vs kdt knb kmd vdt vnb vmd hfk hfv hw h.1 h.2.1 hk hv hwk hwv

theorem cast_lvPosE (o : TraceOpts) (ts : Tys) (vs : Vals) (i : Nat) (cols : ArrFields) (len : Nat)
    (hf : fragETys ts = true) (hw : wtPos ts vs = true) (hs : inScopePos o ts vs = true)
    (h : Spec.wfFields (mappingPos o i ts) cols len = true) :
    Read.castTuple (toTargets ts) cols (lvPos i ts vs) = .ok (some (dvalPos ts (normPos ts vs)).toList) := by
  have hh := scope_of_inScopePos o i ts vs hs
  rw [← hh.2.2]; exact cast_lvPosO o ts vs i cols len hf hw hh.1 hh.2.1 h

theorem cast_lv (o : TraceOpts) (t : Ty) (v : Val) (a : Arr) (dt : DataType) (nb : Bool) (md : Metadata) (nl : Bool)
    (hf : frag t = true) (hw : wt t v = true) (hm : mappingDT o t = (dt, nb, md)) (hwf : Spec.wf dt nl a = true) :
    Read.cast (toTarget t) a (lv t v) = Read.must (dvalOf t (norm t v)) :=
  cast_lvE o t v a dt nb md nl (frag_fragE t hf) hw (frag_inScope o t v hf) hm hwf

end SaModel.Roundtrip
