import SaModel.Lemmas.C12Basic
import SaModel.Lemmas.C02Container
import SaModel.Read.ToD
/-
C12 helpers: what the hypotheses of C02 (`read_any_decode`) become on a slice — the type skeleton (`toD`) is
untouched, the reader can still be built (`new`), the lengths stay representable (`physical`).
-/
namespace SaModel.Lemmas.C12
open SaModel SaModel.Read SaModel.Spec

/-! ### `toD`: slicing never touches names, widths, or variant tables -/

theorem toDList_congr (a b : Arr) (h : ∀ v, toD a v = toD b v) : ∀ items, toDList a items = toDList b items
  | .nil => by simp only [toDList]
  | .cons v r => by simp only [toDList, h v, toDList_congr a b h r]

/-- the union arm of `toD`, as a function of the variant found -/
def variantD (v : LVal) : Option (FieldMeta × Arr) → DVal
  | some (fm, child) => .enum (.str .transient (strBytes fm.name)) (toD child v)
  | none => .none

theorem toD_union (types : List Int) (offs : Option (List Int)) (fs : ArrUFields) (t : Int) (v : LVal) :
    toD (.union types offs fs) (.union t v) = variantD v (ArrUFields.findId fs t) := by
  simp only [toD]
  cases ArrUFields.findId fs t with
  | none => rfl
  | some p => rfl

mutual
theorem toD_slice : ∀ (a : Arr) (o l : Nat) (lv : LVal), toD (sliceView a o l) lv = toD a lv
  | .struct _ _ fs, o, l, lv => by
    cases lv with
    | struct lfs => simp only [sliceView, toD, toDFields_slice fs o l]
    | _ => rfl
  | .fixedSizeList _ _ n _ el, o, l, lv => by
    cases lv with
    | list items => simp only [sliceView, toD, toDList_congr _ _ (toD_slice el (o * n.toNat) (l * n.toNat))]
    | _ => rfl
  | .union _ offs fs, o, l, lv => by
    cases offs with
    | some ofs => cases lv <;> rfl
    | none =>
      cases lv with
      | union t v => simp only [sliceView, toD_union, variantD_slice fs o l t v]
      | _ => rfl
  -- the other kinds keep their children and type parameters, and `toD` looks at nothing else
  | .null _, _, _, lv | .boolean _ _ _, _, _, lv | .prim _ _ _, _, _, lv | .time _ _ _ _, _, _, lv
  | .timestamp _ _ _ _, _, _, lv | .decimal128 _ _ _ _, _, _, lv | .bytes _ _ _ _, _, _, lv | .bytesView _ _ _ _, _, _, lv
  | .fixedSizeBinary _ _ _, _, _, lv | .list _ _ _ _ _, _, _, lv | .map _ _ _ _ _, _, _, lv | .dictionary _ _, _, _, lv => by
    cases lv <;> rfl
theorem toDFields_slice : ∀ (fs : ArrFields) (o l : Nat) (lfs : LFields), toDFields (sliceFields fs o l) lfs = toDFields fs lfs
  | .nil, _, _, lfs => by cases lfs <;> simp only [sliceFields, toDFields]
  | .cons _ a r, o, l, lfs => by
    cases lfs with
    | nil => simp only [sliceFields, toDFields]
    | cons _ v lr => simp only [sliceFields, toDFields, toD_slice a o l v, toDFields_slice r o l lr]
theorem variantD_slice : ∀ (fs : ArrUFields) (o l : Nat) (t : Int) (v : LVal),
    variantD v (ArrUFields.findId (sliceUFields fs o l) t) = variantD v (ArrUFields.findId fs t)
  | .nil, _, _, _, _ => by simp only [sliceUFields, ArrUFields.findId]
  | .cons i _ a r, o, l, t, v => by
    simp only [sliceUFields, ArrUFields.findId]
    by_cases h : (i == t) = true
    · simp only [h, if_true, variantD, toD_slice a o l v]
    · simp only [h, Bool.false_eq_true, if_false, variantD_slice r o l t v]
end

/-! ### `new`: a reader can be built on the slice whenever it can be built on the array -/

theorem fsbNew_slice (fx : Fixes) (n : Int) (data : Bytes) (o l : Nat) (r : Nat × Nat)
    (hb : o + l ≤ lenOf (.fixedSizeBinary n none data)) (h : fsbNew fx n data = .ok r) :
    ∃ r', fsbNew fx n (window data (o * n.toNat) (l * n.toNat)) = .ok r' := by
  unfold fsbNew at h ⊢
  by_cases h1 : n < 0
  · simp only [h1, if_true] at h; cases h
  · simp only [h1, if_false] at h ⊢
    by_cases h2 : n.toNat = 0
    · simp only [h2, if_true] at h ⊢
      cases hz : fx.fsbZero with
      | false => simp only [hz] at h; cases h
      | true =>
        refine ⟨(0, 0), ?_⟩
        simp [window]
    · simp only [h2, if_false] at h ⊢
      split at h
      · cases h
      · rename_i hdiv
        have hn : ¬ n ≤ 0 := by omega
        simp only [lenOf, hn, if_false] at hb
        rw [window_length _ _ _ (mul_window_le hb (Nat.div_mul_le_self data.length n.toNat))]
        simp only [Nat.mul_mod_left, ne_eq, not_true_eq_false, if_false]
        exact ⟨_, rfl⟩

mutual
theorem new_slice (fx : Fixes) : ∀ (a : Arr) (o l : Nat), o + l ≤ lenOf a → sliceable a = true →
    new fx a = .ok () → new fx (sliceView a o l) = .ok ()
  | .fixedSizeBinary n v data, o, l, hb, _, h => by
    simp only [sliceView, new] at h ⊢
    obtain ⟨r, hr, _⟩ := bind_ok_inv h
    obtain ⟨r', hr'⟩ := fsbNew_slice fx n data o l r (by simpa only [lenOf] using hb) hr
    rw [hr']; rfl
  | .struct len _ fs, o, l, hb, hs, h => by
    simp only [lenOf] at hb
    simp only [sliceable] at hs
    simp only [sliceView, new] at h ⊢
    exact newFields_slice fx fs len o l hb hs h
  | .fixedSizeList len _ n fm el, o, l, hb, hs, h => by
    simp only [lenOf] at hb
    simp only [sliceable, Bool.and_eq_true, decide_eq_true_eq] at hs
    simp only [sliceView, new] at h ⊢
    obtain ⟨u1, h1, h⟩ := bind_ok_inv h
    obtain ⟨u2, h2, h⟩ := bind_ok_inv h
    cases u1; cases u2
    rw [h1, new_slice fx el _ _ (mul_window_le hb hs.1) hs.2 h2]
    exact h
  | .dictionary ks vs, o, l, _, _, h => by
    obtain ⟨kty, kv, kvals, vty, voffs, vdata, rfl, rfl, _, _⟩ := new_dictionary_inv h
    exact h
  | .union types offs fs, o, l, hb, _, h => by
    simp only [lenOf] at hb
    cases offs with
    | none => simp only [new] at h; cases h
    | some ofs =>
      simp only [sliceView, new] at h ⊢
      split at h
      · cases h
      · rename_i hlen
        have hlen' : types.length = ofs.length := by omega
        have : (window types o l).length = (window ofs o l).length := by
          rw [window_length _ _ _ hb, window_length _ _ _ (by omega)]
        simp only [this, ne_eq, not_true_eq_false, if_false]
        exact h
  -- `new` looks at nothing that `slice` changes in the other kinds (the children of lists and maps are not sliced)
  | .null _, _, _, _, _, h | .boolean _ _ _, _, _, _, _, h | .prim _ _ _, _, _, _, _, h | .time _ _ _ _, _, _, _, _, h
  | .timestamp _ _ _ _, _, _, _, _, h | .decimal128 _ _ _ _, _, _, _, _, h | .bytes _ _ _ _, _, _, _, _, h
  | .bytesView _ _ _ _, _, _, _, _, h | .list _ _ _ _ _, _, _, _, _, h | .map _ _ _ _ _, _, _, _, _, h => h
theorem newFields_slice (fx : Fixes) : ∀ (fs : ArrFields) (len o l : Nat), o + l ≤ len → sliceableFields fs len = true →
    newFields fx fs = .ok () → newFields fx (sliceFields fs o l) = .ok ()
  | .nil, _, _, _, _, _, _ => by simp only [sliceFields, newFields]
  | .cons fm a r, len, o, l, hb, hs, h => by
    simp only [sliceableFields, Bool.and_eq_true, decide_eq_true_eq] at hs
    simp only [sliceFields, newFields] at h ⊢
    obtain ⟨u1, h1, h⟩ := bind_ok_inv h
    obtain ⟨u2, h2, h⟩ := bind_ok_inv h
    cases u1; cases u2
    rw [h1, new_slice fx a o l (by omega) hs.1.2 h2]
    exact newFields_slice fx r len o l hb hs.2 h
end

/-! ### `physical`: lengths stay representable -/

mutual
theorem physical_slice : ∀ (a : Arr) (o l : Nat), o + l ≤ lenOf a → sliceable a = true →
    physical a = true → physical (sliceView a o l) = true
  | .struct len _ fs, o, l, hb, hs, h => by
    simp only [lenOf] at hb
    simp only [sliceable] at hs
    simp only [sliceView, physical] at h ⊢
    exact physicalFields_slice fs len o l hb hs h
  | .fixedSizeList len _ n _ el, o, l, hb, hs, h => by
    simp only [lenOf] at hb
    simp only [sliceable, Bool.and_eq_true, decide_eq_true_eq] at hs
    simp only [sliceView, physical, Bool.and_eq_true, decide_eq_true_eq] at h ⊢
    have hw := mul_window_le hb hs.1
    refine ⟨?_, physical_slice el _ _ hw hs.2 h.2⟩
    rw [lenOf_slice el _ _ hw]; omega
  | .union types offs fs, o, l, hb, hs, h => by
    simp only [lenOf] at hb
    cases offs with
    | some ofs => simp only [sliceView, physical] at h ⊢; exact h
    | none =>
      simp only [sliceable] at hs
      simp only [sliceView, physical] at h ⊢
      exact physicalUFields_slice fs types.length o l hb hs h
  -- `physical` looks at nothing that `slice` changes in the other kinds
  | .null _, _, _, _, _, h | .boolean _ _ _, _, _, _, _, h | .prim _ _ _, _, _, _, _, h | .time _ _ _ _, _, _, _, _, h
  | .timestamp _ _ _ _, _, _, _, _, h | .decimal128 _ _ _ _, _, _, _, _, h | .bytes _ _ _ _, _, _, _, _, h
  | .bytesView _ _ _ _, _, _, _, _, h | .fixedSizeBinary _ _ _, _, _, _, _, h | .list _ _ _ _ _, _, _, _, _, h
  | .map _ _ _ _ _, _, _, _, _, h | .dictionary _ _, _, _, _, _, h => h
theorem physicalFields_slice : ∀ (fs : ArrFields) (len o l : Nat), o + l ≤ len → sliceableFields fs len = true →
    physicalFields fs = true → physicalFields (sliceFields fs o l) = true
  | .nil, _, _, _, _, _, _ => by simp only [sliceFields, physicalFields]
  | .cons _ a r, len, o, l, hb, hs, h => by
    simp only [sliceableFields, Bool.and_eq_true, decide_eq_true_eq] at hs
    simp only [sliceFields, physicalFields, Bool.and_eq_true] at h ⊢
    exact ⟨physical_slice a o l (by omega) hs.1.2 h.1, physicalFields_slice r len o l hb hs.2 h.2⟩
theorem physicalUFields_slice : ∀ (fs : ArrUFields) (len o l : Nat), o + l ≤ len → sliceableUFields fs len = true →
    physicalUFields fs = true → physicalUFields (sliceUFields fs o l) = true
  | .nil, _, _, _, _, _, _ => by simp only [sliceUFields, physicalUFields]
  | .cons _ _ a r, len, o, l, hb, hs, h => by
    simp only [sliceableUFields, Bool.and_eq_true, decide_eq_true_eq] at hs
    simp only [sliceUFields, physicalUFields, Bool.and_eq_true] at h ⊢
    exact ⟨physical_slice a o l (by omega) hs.1.2 h.1, physicalUFields_slice r len o l hb hs.2 h.2⟩
end

/-- the reader refuses sparse unions at construction (`enum_deserializer.rs`: "Only dense unions are supported"), so
no read of a sparse union — sliced or not — ever happens; the slice property for them lives at the level of the
Arrow reading rules (`decodeAt_slice`) only -/
theorem new_sparse_union_fails (fx : Fixes) (types : List Int) (fs : ArrUFields) :
    new fx (.union types none fs) = fail "Only dense unions are supported" := by
  simp only [new]

end SaModel.Lemmas.C12
