import SaModel.Lemmas.C04Schema
import SaModel.Props.C03
import SaModel.Lemmas.C04SafeDT
/-
C04: C01's `Safe` hypothesis holds for every schema without Dictionary types (unions included) — in particular for every
traced schema when neither strings (`string_dictionary_encoding`) nor data-less enums (`enums_without_data_as_strings`)
are dictionary encoded.

  safe_of_noDict   : BuiltFor dt nl b → noDictDT dt → Safe b ∧ DefSafe b
  mapping_noDict   : o.stringDictionaryEncoding = false → noEnum t → mappingDT o t = (dt, nb, md) → noDictDT dt
  mapping_noDictE  : o.stringDictionaryEncoding = false → o.enumsWithoutDataAsStrings = false →
                     mappingDT o t = (dt, nb, md) → noDictDT dt                      (every type, enums included)
  safeDT_of_noDict : noDictDT dt → safeDT dt n ∧ defSafeDT dt n md   (the decidable condition of Lemmas/C04SafeDT.lean)
  safe_of_traced / safe_of_tracedE / safe_of_traced_schema : `Safe root0` for traced schemas
-/
namespace SaModel.Roundtrip
open SaModel SaModel.Spec SaModel.Build SaModel.Lemmas.C03

mutual
def noDictDT : DataType → Bool
  | .dictionary _ _ | .runEndEncoded _ _ => false
  | .list f | .largeList f | .fixedSizeList f _ | .map f _ => noDictF f
  | .struct fs => noDictFs fs
  | .union ufs _ => noDictUs ufs
  | _ => true
def noDictF : Field → Bool
  | .mk _ dt _ _ => noDictDT dt
def noDictFs : Fields → Bool
  | .nil => true
  | .cons f r => noDictF f && noDictFs r
def noDictUs : UFields → Bool
  | .nil => true
  | .cons _ f r => noDictF f && noDictUs r
end

theorem noDictF_dt (f : Field) : noDictF f = noDictDT f.dataType := by cases f; simp [noDictF, Field.dataType]

/-- `DefSafe` of every child gives `DefSafe` of the child `serialize_default` delegates to -/
theorem defSafeFirst_of_defSafeL : ∀ (bl : BL), DefSafeL bl → DefSafeFirst bl
  | .nil, _ => by simp [DefSafeFirst]
  | .cons b _ r, h => by
    simp only [DefSafeL] at h
    simp only [DefSafeFirst]
    exact ⟨fun _ => defSafeFirst_of_defSafeL r h.2, fun _ => h.1⟩

theorem safe_cases : BuiltForCases (fun dt _ b => noDictDT dt = true → Safe b ∧ DefSafe b)
    (fun fs bl => noDictFs fs = true → SafeL bl ∧ DefSafeL bl) (fun ufs bl _ => noDictUs ufs = true → SafeL bl ∧ DefSafeL bl) where
  null _ := ⟨trivial, trivial⟩
  unknownVariant _ := ⟨trivial, trivial⟩
  leaf _ := ⟨trivial, trivial⟩
  bytes _ := ⟨trivial, trivial⟩
  bytesView _ := ⟨trivial, trivial⟩
  fixedSizeBinary _ := ⟨trivial, trivial⟩
  list _ ih hn := ⟨(ih hn).1, trivial⟩
  largeList _ ih hn := ⟨(ih hn).1, trivial⟩
  fixedSizeList _ ih hn := ⟨⟨(ih hn).1, fun _ => (ih hn).2⟩, (ih hn).2⟩
  map _ ihk _ ihv hn := by
    simp only [noDictDT, noDictF, noDictFs, Bool.and_eq_true, Bool.and_true] at hn
    exact ⟨⟨(ihk hn.1).1, (ihv hn.2).1⟩, trivial⟩
  struct _ ih hn := ⟨⟨(ih hn).1, fun _ => (ih hn).2⟩, (ih hn).2⟩
  dictionary _ _ _ _ _ hn := nomatch hn
  union _ ih hn := ⟨(ih hn).1, defSafeFirst_of_defSafeL _ (ih hn).2⟩
  nilL _ := ⟨trivial, trivial⟩
  consL _ ih _ ihr hn := by
    simp only [noDictFs, noDictF, Bool.and_eq_true] at hn
    exact ⟨⟨(ih hn.1).1, (ihr hn.2).1⟩, (ih hn.1).2, (ihr hn.2).2⟩
  nilU _ := ⟨trivial, trivial⟩
  consU _ ih _ ihr hn := by
    simp only [noDictUs, noDictF, Bool.and_eq_true] at hn
    exact ⟨⟨(ih hn.1).1, (ihr hn.2).1⟩, (ih hn.1).2, (ihr hn.2).2⟩

theorem safe_of_noDict : ∀ (b : B) (dt : DataType) (nl : Bool), BuiltFor dt nl b → noDictDT dt = true → Safe b ∧ DefSafe b :=
  safe_cases.builtFor

theorem safeL_of_noDict : ∀ (bl : BL) (fs : Fields), BuiltForL fs bl → noDictFs fs = true → SafeL bl ∧ DefSafeL bl :=
  safe_cases.builtForL

theorem safeU_of_noDict : ∀ (bl : BL) (ufs : UFields) (k : Nat), BuiltForU ufs bl k → noDictUs ufs = true →
    SafeL bl ∧ DefSafeL bl :=
  safe_cases.builtForU

theorem noDict_prim (o : TraceOpts) (hd : o.stringDictionaryEncoding = false) : ∀ p, noDictDT (primDT o p) = true :=
  primDT_cases (Q := fun dt => noDictDT dt = true) (by decide) (by simp [hd])

theorem closed_noDict (o : TraceOpts) (hd : o.stringDictionaryEncoding = false) :
    MappingClosed o (fun t dt _ _ => noEnum t = true → noDictDT dt = true) (fun _ ts F => noEnumTys ts = true → noDictFs F = true)
      (fun fs F => noEnumFields fs = true → noDictFs F = true) (fun _ _ _ => True) := by
  constructor
  case prim => exact fun p _ => noDict_prim o hd p
  case vec => intro t dt nb md ih hn; split <;> exact ih hn
  all_goals intros
  all_goals simp_all [noEnum, noEnumTys, noEnumFields, noDictDT, noDictF, noDictFs]

theorem mapping_noDict (o : TraceOpts) (hd : o.stringDictionaryEncoding = false) :
    ∀ (t : Ty) (dt : DataType) (nb : Bool) (md : Metadata), noEnum t = true → mappingDT o t = (dt, nb, md) → noDictDT dt = true :=
  fun _ _ _ _ hn hm => (closed_noDict o hd).mapping' hm hn
theorem mappingPos_noDict (o : TraceOpts) (hd : o.stringDictionaryEncoding = false) :
    ∀ (ts : Tys) (i : Nat), noEnumTys ts = true → noDictFs (mappingPos o i ts) = true :=
  fun ts i => (closed_noDict o hd).pos i ts
theorem mappingFields_noDict (o : TraceOpts) (hd : o.stringDictionaryEncoding = false) :
    ∀ (fs : TFields), noEnumFields fs = true → noDictFs (mappingFields o fs) = true :=
  (closed_noDict o hd).fields

theorem ofList_toList' : ∀ (l : Fields), Fields.ofList l.toList = l := fields_ofList_toList

/-- **`Safe` for traced schemas without dictionary-encoded strings** -/
theorem safe_of_traced (o : TraceOpts) (hd : o.stringDictionaryEncoding = false) (fs : TFields) (hn : noEnumFields fs = true)
    (fields : List Field) (hfields : fields = (mappingFields o fs).toList) :
    ∀ root0, newRoot fields = .ok root0 → Safe root0 := by
  intro root0 h0
  have hb := Props.C03.newRoot_builtFor fields root0 h0
  have hofl : Fields.ofList fields = mappingFields o fs := by
    rw [hfields]
    exact ofList_toList' _
  exact (safe_of_noDict root0 _ _ hb (by rw [hofl]; simpa [noDictDT] using mappingFields_noDict o hd fs hn)).1

theorem closed_noDictE (o : TraceOpts) (hd : o.stringDictionaryEncoding = false) (he : o.enumsWithoutDataAsStrings = false) :
    MappingClosed o (fun _ dt _ _ => noDictDT dt = true) (fun _ _ F => noDictFs F = true) (fun _ F => noDictFs F = true)
      (fun _ _ U => noDictUs U = true) := by
  apply MappingClosed.of_fields (leaf := by decide) (dict := by simp [hd, he])
  all_goals intros
  all_goals simp_all [noDictDT, noDictF, noDictFs, noDictUs]

theorem mapping_noDictE (o : TraceOpts) (hd : o.stringDictionaryEncoding = false) (he : o.enumsWithoutDataAsStrings = false) :
    ∀ (t : Ty) (dt : DataType) (nb : Bool) (md : Metadata), mappingDT o t = (dt, nb, md) → noDictDT dt = true :=
  fun _ _ _ _ hm => (closed_noDictE o hd he).mapping' hm
theorem mappingPos_noDictE (o : TraceOpts) (hd : o.stringDictionaryEncoding = false) (he : o.enumsWithoutDataAsStrings = false) :
    ∀ (ts : Tys) (i : Nat), noDictFs (mappingPos o i ts) = true :=
  fun ts i => (closed_noDictE o hd he).pos i ts
theorem mappingFields_noDictE (o : TraceOpts) (hd : o.stringDictionaryEncoding = false) (he : o.enumsWithoutDataAsStrings = false) :
    ∀ (fs : TFields), noDictFs (mappingFields o fs) = true :=
  (closed_noDictE o hd he).fields
theorem mappingVariants_noDictE (o : TraceOpts) (hd : o.stringDictionaryEncoding = false) (he : o.enumsWithoutDataAsStrings = false) :
    ∀ (vs : Variants) (i : Nat), noDictUs (mappingVariants o i vs) = true :=
  fun vs i => (closed_noDictE o hd he).variants i vs

/-- **`Safe` for every traced schema (enums included) without dictionary encoding** -/
theorem safe_of_tracedE (o : TraceOpts) (hd : o.stringDictionaryEncoding = false) (he : o.enumsWithoutDataAsStrings = false)
    (fs : TFields) (fields : List Field) (hfields : fields = (mappingFields o fs).toList) :
    ∀ root0, newRoot fields = .ok root0 → Safe root0 := by
  intro root0 h0
  have hb := Props.C03.newRoot_builtFor fields root0 h0
  have hofl : Fields.ofList fields = mappingFields o fs := by
    rw [hfields]
    exact ofList_toList' _
  exact (safe_of_noDict root0 _ _ hb (by rw [hofl]; simpa [noDictDT] using mappingFields_noDictE o hd he fs)).1

mutual
theorem safeDT_of_noDict : ∀ (dt : DataType) (n : Bool) (md : Metadata), noDictDT dt = true →
    safeDT dt n = true ∧ defSafeDT dt n md = true
  | .list f, n, md, h | .largeList f, n, md, h => by
    simp only [noDictDT] at h
    simp [safeDT, defSafeDT, (safeF_of_noDict f h).1]
  | .fixedSizeList f _, n, md, h => by
    simp only [noDictDT] at h
    simp [safeDT, defSafeDT, (safeF_of_noDict f h).1, (safeF_of_noDict f h).2]
  | .map f s, n, md, h => by
    simp only [noDictDT] at h
    exact ⟨safeDT_map f s n (safeF_of_noDict f h).1, by simp [defSafeDT]⟩
  | .struct fs, n, md, h => by
    simp only [noDictDT] at h
    simp [safeDT, defSafeDT, (safeFs_of_noDict fs h).1, (safeFs_of_noDict fs h).2]
  | .union ufs _, n, md, h => by
    simp only [noDictDT] at h
    simp [safeDT, defSafeDT, (safeUs_of_noDict ufs h).1, (safeUs_of_noDict ufs h).2]
  | .dictionary _ _, _, _, h => by simp [noDictDT] at h
  | .runEndEncoded _ _, _, _, h => by simp [noDictDT] at h
  | .null, _, _, _ | .boolean, _, _, _ | .int8, _, _, _ | .int16, _, _, _ | .int32, _, _, _ | .int64, _, _, _
  | .uint8, _, _, _ | .uint16, _, _, _ | .uint32, _, _, _ | .uint64, _, _, _
  | .float16, _, _, _ | .float32, _, _, _ | .float64, _, _, _
  | .utf8, _, _, _ | .largeUtf8, _, _, _ | .utf8View, _, _, _ | .binary, _, _, _ | .largeBinary, _, _, _
  | .binaryView, _, _, _ | .fixedSizeBinary _, _, _, _ | .date32, _, _, _ | .date64, _, _, _
  | .timestamp _ _, _, _, _ | .time32 _, _, _, _ | .time64 _, _, _, _ | .duration _, _, _, _
  | .interval _, _, _, _ | .decimal128 _ _, _, _, _ => by simp [safeDT, defSafeDT]
theorem safeF_of_noDict : ∀ (f : Field), noDictF f = true → safeF f = true ∧ defSafeF f = true
  | .mk _ dt n md, h => by
    simp only [noDictF] at h
    exact safeDT_of_noDict dt n md h
theorem safeFs_of_noDict : ∀ (fs : Fields), noDictFs fs = true → safeFs fs = true ∧ defSafeFs fs = true
  | .nil, _ => by simp [safeFs, defSafeFs]
  | .cons f r, h => by
    simp only [noDictFs, Bool.and_eq_true] at h
    simp [safeFs, defSafeFs, safeF_of_noDict f h.1, safeFs_of_noDict r h.2]
theorem safeUs_of_noDict : ∀ (ufs : UFields), noDictUs ufs = true → safeUs ufs = true ∧ defSafeFirstU ufs = true
  | .nil, _ => by simp [safeUs, defSafeFirstU]
  | .cons _ f r, h => by
    simp only [noDictUs, Bool.and_eq_true] at h
    have h1 := safeF_of_noDict f h.1
    have h2 := safeUs_of_noDict r h.2
    simp only [safeUs, defSafeFirstU, h1.1, h1.2, h2.1, h2.2]
    simp
end

/-- **`Safe` for a traced schema from the decidable condition `safeFs`** (any option set; with dictionary-encoded strings
or enums the condition says: no non-nullable dictionary receives `serialize_default`) -/
theorem safe_of_traced_schema (o : TraceOpts) (fs : TFields) (hc : coveredFs (mappingFields o fs) = true)
    (hs : safeFs (mappingFields o fs) = true) (fields : List Field) (hfields : fields = (mappingFields o fs).toList) :
    ∀ root0, newRoot fields = .ok root0 → Safe root0 := by
  have hofl : Fields.ofList fields = mappingFields o fs := by
    rw [hfields]
    exact ofList_toList' _
  exact safe_of_schema fields (by rw [← coveredFs_ofList, hofl]; exact hc) (by rw [hofl]; exact hs)

/-- … the coverage side condition is `mappingFields_side` (every type, enums included) -/
theorem safe_of_traced_safeFs (o : TraceOpts) (fs : TFields)
    (hs : safeFs (mappingFields o fs) = true) (fields : List Field) (hfields : fields = (mappingFields o fs).toList) :
    ∀ root0, newRoot fields = .ok root0 → Safe root0 :=
  safe_of_traced_schema o fs (mappingFields_side o fs).2 hs fields hfields

end SaModel.Roundtrip
