import SaModel.Lemmas.C01New
import SaModel.Lemmas.C01LeafBridge
/-
`Shape b dt nullable md`: builder `b` is the builder of a field with data type `dt`, nullability `nullable`
and metadata `md` (what `build_builder` establishes; unchanged by every push because it only looks at the part of
the state that survives `take`).  R2 relates `push` to `Spec.interpDT`, which is indexed by the field.

Coverage of R2 (see notes/C01.md): all families; of the dictionaries those whose value builder is a Utf8 / LargeUtf8
builder or a builder that refuses `serialize_str` (`B.refusesStr`: every non-null push fails, the specification is
undefined).  `Shape` is `False` for a dictionary whose value builder accepts strings without being a Utf8 / LargeUtf8
builder (Utf8View, the parsing kinds, a nested dictionary — `dictValOpen` of Lemmas/C01NewShape.lean; R1 covers them).
-/
namespace SaModel.Build
open SaModel SaModel.Spec

/- `kindOf` (the leaf kind of a data type): Lemmas/C01LeafBridge.lean; `bytesDT`, `viewDT`: Lemmas/C01NewInd.lean -/

mutual
def Shape : B → DataType → Bool → Metadata → Prop
  | .null _ _, dt, _, md => dt = .null ∧ isUnknownVariant .null md = false
  | .unknownVariant _, dt, _, md => dt = .null ∧ isUnknownVariant .null md = true
  | .leaf _ k v _, dt, n, _ => kindOf dt = some k ∧ v.isSome = n
  | .bytes _ ty v _ _, dt, n, _ => dt = bytesDT ty ∧ v.isSome = n
  | .bytesView _ ty v _ _, dt, n, _ => dt = viewDT ty ∧ v.isSome = n
  | .fixedSizeBinary _ k _ v _ _, dt, n, _ => dt = .fixedSizeBinary (k : Int) ∧ v.isSome = n
  | .list _ large _ v _ el, dt, n, _ =>
    v.isSome = n ∧ ∃ cname cdt cn cmd,
      dt = (if large then .largeList (.mk cname cdt cn cmd) else .list (.mk cname cdt cn cmd)) ∧ Shape el cdt cn cmd
  | .fixedSizeList _ _ k _ v _ el, dt, n, _ =>
    v.isSome = n ∧ ∃ cname cdt cn cmd, dt = .fixedSizeList (.mk cname cdt cn cmd) (k : Int) ∧ Shape el cdt cn cmd
  | .map _ _ v _ ks vs, dt, n, _ =>
    v.isSome = n ∧ ∃ ename kn kdt knl kmd vn vdt vnl vmd rest en emd sorted,
      dt = .map (.mk ename (.struct (.cons (.mk kn kdt knl kmd) (.cons (.mk vn vdt vnl vmd) rest))) en emd) sorted ∧
      Shape ks kdt knl kmd ∧ Shape vs vdt vnl vmd
  | .struct _ _ v fs _ _ _, dt, n, _ => v.isSome = n ∧ ∃ sfs, dt = .struct sfs ∧ ShapeL fs sfs
  | .dictionary _ idx vals _, dt, n, _ =>
    -- the value builder is the builder of the (non-nullable, metadata-free) value field; R2 covers the string builders
    -- (Utf8 / LargeUtf8) and the builders that refuse strings
    (∃ kdt vdt, dt = .dictionary kdt vdt ∧ Shape vals vdt false []) ∧ idx.isIntLeaf = true ∧ idx.isNullable = n ∧
      (vals.isUtf8B = true ∨ vals.refusesStr = true)
  | .union _ fs _ _ _, dt, _, _ => ∃ ufs mode, dt = .union ufs mode ∧ ShapeU fs ufs 0
def ShapeL : BL → Fields → Prop
  | .nil, .nil => True
  | .cons b m r, .cons (.mk fname fdt fn fmd) rest =>
    m.name = fname ∧ m.nullable = fn ∧ Shape b fdt fn fmd ∧ ShapeL r rest
  | .nil, .cons _ _ => False
  | .cons _ _ _, .nil => False
def ShapeU : BL → UFields → Nat → Prop
  | .nil, .nil, _ => True
  | .cons b _ r, .cons tid (.mk _ fdt fn fmd) rest, idx => tid = (idx : Int) ∧ Shape b fdt fn fmd ∧ ShapeU r rest (idx + 1)
  | .nil, .cons _ _ _, _ => False
  | .cons _ _ _, .nil, _ => False
end

mutual
theorem Shape_takeRest : ∀ (b : B) (dt : DataType) (n : Bool) (md : Metadata), Shape (takeRest b) dt n md ↔ Shape b dt n md
  | .null _ _, _, _, _ | .unknownVariant _, _, _, _ => Iff.rfl
  | .leaf _ _ v _, _, _, _ | .bytes _ _ v _ _, _, _, _ | .bytesView _ _ v _ _, _, _, _
  | .fixedSizeBinary _ _ _ v _ _, _, _, _ => by simp only [takeRest, Shape, Option.isSome_map]
  | .list _ _ _ v _ el, _, _, _ | .fixedSizeList _ _ _ _ v _ el, _, _, _ => by
    simp only [takeRest, Shape, Option.isSome_map, Shape_takeRest el]
  | .map _ _ v _ ks vs, _, _, _ => by simp only [takeRest, Shape, Option.isSome_map, Shape_takeRest ks, Shape_takeRest vs]
  | .struct _ _ v fs _ _ _, _, _, _ => by simp only [takeRest, Shape, Option.isSome_map, ShapeL_takeRest fs]
  | .dictionary _ idx vals _, _, _, _ => by
    simp only [takeRest, Shape, isIntLeaf_takeRest, isUtf8B_takeRest, isNullable_takeRest, refusesStr_takeRest,
      Shape_takeRest vals]
  | .union _ fs _ _ _, _, _, _ => by simp only [takeRest, Shape, ShapeU_takeRest fs]
theorem ShapeL_takeRest : ∀ (fs : BL) (sfs : Fields), ShapeL (takeRestAll fs) sfs ↔ ShapeL fs sfs
  | .nil, .nil | .nil, .cons _ _ | .cons _ _ _, .nil => Iff.rfl
  | .cons b m r, .cons (.mk fname fdt fn fmd) rest => by
    simp only [takeRestAll, ShapeL, Shape_takeRest b, ShapeL_takeRest r rest]
theorem ShapeU_takeRest : ∀ (fs : BL) (ufs : UFields) (idx : Nat), ShapeU (takeRestAll fs) ufs idx ↔ ShapeU fs ufs idx
  | .nil, .nil, _ | .nil, .cons _ _ _, _ | .cons _ _ _, .nil, _ => Iff.rfl
  | .cons b m r, .cons tid (.mk fname fdt fn fmd) rest, idx => by
    simp only [takeRestAll, ShapeU, Shape_takeRest b, ShapeU_takeRest r rest]
end

theorem Shape.of_takeRest {b b' : B} {dt n md} (h : takeRest b' = takeRest b) (hs : Shape b dt n md) : Shape b' dt n md :=
  (Shape_takeRest b' dt n md).1 (h ▸ (Shape_takeRest b dt n md).2 hs)

theorem ShapeL.of_takeRest {fs fs' : BL} {sfs} (h : takeRestAll fs' = takeRestAll fs) (hs : ShapeL fs sfs) : ShapeL fs' sfs :=
  (ShapeL_takeRest fs' sfs).1 (h ▸ (ShapeL_takeRest fs sfs).2 hs)

/-! ### scalars and nulls against the specification -/

/-- the specification's leaf table at a column with a primitive-array builder: what `convLeaf` stores, read as a
logical value (`convLeaf_eq_specLeaf`, Lemmas/C01LeafBridge.lean), up to which error -/
theorem interpScalar_kind {ext : Ext} {dt : DataType} {k : LeafKind} (hk : kindOf dt = some k) (x : SVal) :
    interpScalar ext dt x = normErr (do
      let v ← convLeaf ext k x
      pure (leafVal k v)) := by
  rw [interpScalar_eq_old, interpScalarOld_kind hk]

theorem kindOf_not_unknown {dt : DataType} {k : LeafKind} (hk : kindOf dt = some k) (md : Metadata) :
    isUnknownVariant dt md = false := by
  cases dt <;> simp [kindOf] at hk <;> rfl

/-- the meaning of a null is `null`, where it has one: at a `Null` column that is no placeholder for an unknown variant,
and at a nullable field that is no union -/
theorem interpNull_ok_iff {dt : DataType} {n : Bool} {md : Metadata} {lv : LVal} :
    interpNull dt n md = .ok lv ↔
      lv = .null ∧ isUnknownVariant dt md = false ∧ (dt = .null ∨ (n = true ∧ ∀ ufs mode, dt ≠ .union ufs mode)) := by
  unfold interpNull
  cases hu : isUnknownVariant dt md
  · simp only [Bool.false_eq_true, if_false, true_and]
    split
    · simp [eq_comm]
    · simp [fail]
    · rename_i h1 h2
      have e1 : dt ≠ .null := h1
      have e2 : ∀ ufs mode, dt ≠ .union ufs mode := h2
      cases n
      · simp [fail, e1]
      · simp only [if_true, Except.ok.injEq, e1, false_or, true_and]
        exact ⟨fun h => ⟨h.symm, e2⟩, fun h => h.1.symm⟩
  · simp [fail]

theorem bytesDT_ne_null (ty : BytesTy) : bytesDT ty ≠ .null := by cases ty <;> simp [bytesDT]
theorem viewDT_ne_null (ty : ViewTy) : viewDT ty ≠ .null := by cases ty <;> simp [viewDT]
theorem kindOf_ne_null {dt : DataType} {k : LeafKind} (h : kindOf dt = some k) : dt ≠ .null := by
  rintro rfl; cases h

/-- **a builder takes nulls exactly where the specification gives a null a meaning**: with `pushNone_ok_iff`
(Lemmas/OpsInd.lean) what `serialize_none` means (R2) and where it succeeds (completeness) -/
theorem Shape.nullable_iff {b : B} {dt : DataType} {n : Bool} {md : Metadata} (hs : Shape b dt n md) :
    b.isNullable = true ↔ interpNull dt n md = .ok .null := by
  have key : ∀ {dt : DataType}, isUnknownVariant dt md = false → dt ≠ .null → (∀ ufs mode, dt ≠ .union ufs mode) →
      ∀ {v : Bool}, v = n → (v = true ↔ interpNull dt n md = .ok .null) := by
    intro dt h1 h2 h3 v hv
    subst hv
    simp [interpNull_ok_iff, h1, h2, h3]
  cases b with
  | null => obtain ⟨rfl, h⟩ := hs; simp [B.isNullable, interpNull_ok_iff, h]
  | unknownVariant => obtain ⟨rfl, h⟩ := hs; simp [B.isNullable, interpNull_ok_iff, h]
  | leaf p k v vals =>
    have hs : kindOf dt = some k ∧ _ := hs
    exact key (kindOf_not_unknown hs.1 md) (kindOf_ne_null hs.1) (by rintro _ _ rfl; cases hs.1) hs.2
  | bytes p ty v offs data =>
    obtain ⟨rfl, h⟩ := hs; exact key (by cases ty <;> rfl) (bytesDT_ne_null ty) (by cases ty <;> simp [bytesDT]) h
  | bytesView p ty v views buf =>
    obtain ⟨rfl, h⟩ := hs; exact key (by cases ty <;> rfl) (viewDT_ne_null ty) (by cases ty <;> simp [viewDT]) h
  | fixedSizeBinary p k len v buf cur => obtain ⟨rfl, h⟩ := hs; exact key rfl (by simp) (by simp) h
  | list p large fm v offs el =>
    obtain ⟨h, _, _, _, _, rfl, _⟩ := hs
    exact key (by cases large <;> rfl) (by cases large <;> simp) (by cases large <;> simp) h
  | fixedSizeList p fm k len v cur el => obtain ⟨h, _, _, _, _, rfl, _⟩ := hs; exact key rfl (by simp) (by simp) h
  | map p mm v offs ks vs =>
    obtain ⟨h, _, _, _, _, _, _, _, _, _, _, _, _, _, rfl, _⟩ := hs; exact key rfl (by simp) (by simp) h
  | struct p len v fs c nx sn => obtain ⟨h, _, rfl, _⟩ := hs; exact key rfl (by simp) (by simp) h
  | dictionary p idx vals index => obtain ⟨⟨_, _, rfl, _⟩, _, h, _⟩ := hs; exact key rfl (by simp) (by simp) h
  | union p fs types offs cur => obtain ⟨_, _, rfl, _⟩ := hs; simp [B.isNullable, interpNull_ok_iff]

/-! ### dictionaries: the value builder against the value type -/

/-- the data type of a value builder that refuses strings gives strings no meaning -/
theorem interpDictStr_refused (ext : Ext) {vals : B} {vdt : DataType} {n : Bool} {md : Metadata} (s : String)
    (hs : Shape vals vdt n md) (hr : vals.refusesStr = true) : ∃ e, interpDictStr ext vdt s = .error e := by
  cases vals with
  | null _ _ => simp only [Shape] at hs; obtain ⟨rfl, _⟩ := hs; exact ⟨_, rfl⟩
  | unknownVariant _ => simp only [Shape] at hs; obtain ⟨rfl, _⟩ := hs; exact ⟨_, rfl⟩
  | leaf p k v xs =>
    simp only [Shape] at hs
    obtain ⟨hk, _⟩ := hs
    cases vdt <;> simp [kindOf] at hk <;> subst hk <;> simp [B.refusesStr] at hr <;> exact ⟨_, rfl⟩
  | bytes p ty v offs data =>
    simp only [Shape] at hs
    obtain ⟨rfl, _⟩ := hs
    cases ty <;> simp [B.refusesStr, isUtf8Ty] at hr <;> exact ⟨_, rfl⟩
  | bytesView p ty v views buf =>
    simp only [Shape] at hs
    obtain ⟨rfl, _⟩ := hs
    cases ty with
    | utf8View => simp only [B.refusesStr] at hr; exact absurd hr (by decide)
    | binaryView => exact ⟨_, rfl⟩
  | fixedSizeBinary _ _ _ _ _ _ => simp only [Shape] at hs; obtain ⟨rfl, _⟩ := hs; exact ⟨_, rfl⟩
  | list _ large _ _ _ _ =>
    simp only [Shape] at hs
    obtain ⟨_, _, _, _, _, rfl, _⟩ := hs
    cases large <;> exact ⟨_, rfl⟩
  | fixedSizeList _ _ _ _ _ _ _ => simp only [Shape] at hs; obtain ⟨_, _, _, _, _, rfl, _⟩ := hs; exact ⟨_, rfl⟩
  | map _ _ _ _ _ _ =>
    simp only [Shape] at hs
    obtain ⟨_, _, _, _, _, _, _, _, _, _, _, _, _, _, rfl, _⟩ := hs
    exact ⟨_, rfl⟩
  | struct _ _ _ _ _ _ _ => simp only [Shape] at hs; obtain ⟨_, _, rfl, _⟩ := hs; exact ⟨_, rfl⟩
  | dictionary _ _ _ _ => simp [B.refusesStr] at hr
  | union _ _ _ _ _ => simp only [Shape] at hs; obtain ⟨_, _, rfl, _⟩ := hs; exact ⟨_, rfl⟩

/-- a Utf8 / LargeUtf8 value builder: the string is the value -/
theorem interpDictStr_utf8 (ext : Ext) {vals : B} {vdt : DataType} {n : Bool} {md : Metadata} (s : String)
    (hs : Shape vals vdt n md) (hu : vals.isUtf8B = true) : interpDictStr ext vdt s = .ok (.str (strBytes s)) := by
  cases vals with
  | bytes p ty v offs data =>
    simp only [Shape] at hs
    obtain ⟨rfl, _⟩ := hs
    cases ty <;> simp [B.isUtf8B, isUtf8Ty] at hu <;> rfl
  | _ => simp [B.isUtf8B] at hu

/-- a scalar that means something at a covered dictionary: the value builder is a Utf8 / LargeUtf8 builder -/
theorem dict_interp_utf8 {ext : Ext} {x : SVal} {kdt vdt : DataType} {lv : LVal} {vals : B} {n : Bool} {md : Metadata}
    (hsv : Shape vals vdt n md) (hu : vals.isUtf8B = true ∨ vals.refusesStr = true)
    (hi : interpScalar ext (.dictionary kdt vdt) x = .ok lv) : vals.isUtf8B = true := by
  rcases hu with h | hr
  · exact h
  · exfalso
    simp only [interpScalar_eq_old, normErr_ok_iff, interpScalarOld] at hi
    cases hs : scalarToString ext x with
    | none => simp [hs, fail] at hi
    | some s =>
      obtain ⟨e, he⟩ := interpDictStr_refused ext s hsv hr
      simp [hs, he] at hi

/-- the dictionary clause of `interpScalar` at a Utf8 / LargeUtf8 value builder -/
theorem interpScalar_dict_utf8 {ext : Ext} {x : SVal} {kdt vdt : DataType} {vals : B} {n : Bool} {md : Metadata}
    (hsv : Shape vals vdt n md) (hu : vals.isUtf8B = true) :
    interpScalar ext (.dictionary kdt vdt) x =
      normErr (match scalarToString ext x with
      | some s => .ok (.str (strBytes s))
      | none => fail "not a string") := by
  simp only [interpScalar_eq_old, interpScalarOld]
  cases hs : scalarToString ext x with
  | none => rfl
  | some s => simp only [interpDictStr_utf8 ext s hsv hu]

end SaModel.Build
