import SaModel.Spec.SchemaOK
import SaModel.Lemmas.C06InterpBase
import SaModel.Lemmas.C06Side
import SaModel.Lemmas.SchemaAll
/-
C09 (b): every field `Tracer::to_field` emits lies in the round-trip domain `SchemaOK` of the JSON form.

`to_field_schemaOK`: for every tracer whose primitive nodes hold a type of the tracer's leaf alphabet and no strategy
(`C07.WF`, the reachable-state invariant of `from_samples`), options whose overwrites are themselves in the domain
(`OwOK`; an overwrite replaces the traced field as given), the field is `schemaOK` — for EVERY option, `allow_null_fields`
included: a `Null` field is always emitted nullable, also for a position no sample reached (`Tracer::Unknown`; repo fix
5168cf7 — before it `UnknownTracer::to_field` kept the unset nullable flag and the JSON form read the field back nullable:
`Props.C09.C09_unseen_position_outside_pinned`).
The constructor lemmas `ok_*` are shared with the `from_type` side (Lemmas/C09TracedTy.lean).
-/
namespace SaModel.Lemmas.C09T
open SaModel SaModel.Trace SaModel.SchemaJson SaModel.Lemmas.C06

/-- the overwrites of the options are fields of the domain -/
def OwOK (o : Options) : Prop := ∀ kv ∈ o.overwrites, schemaOK kv.2 = true

theorem ok_mk {n : String} {dt : DataType} {nl : Bool} {m : Metadata} (h1 : validType m dt = true)
    (h2 : metaOK m = true) (h3 : reprType nl dt = true) : schemaOK (.mk n dt nl m) = true := by
  simp [schemaOK, validField, reprField, h1, h2, h3]

theorem ok_inv {n : String} {dt : DataType} {nl : Bool} {m : Metadata} (h : schemaOK (.mk n dt nl m) = true) :
    validType m dt = true ∧ metaOK m = true ∧ reprType nl dt = true := by
  simpa [schemaOK, validField, reprField, and_assoc] using h

theorem ok_valid {f : Field} (h : schemaOK f = true) : validField f = true := by
  simp only [schemaOK, Bool.and_eq_true] at h; exact h.1

theorem ok_repr {f : Field} (h : schemaOK f = true) : reprField f = true := by
  simp only [schemaOK, Bool.and_eq_true] at h; exact h.2

theorem meta_nil : metaOK [] = true := by decide
theorem strat_nil : stratClass [] = .absent := by decide
theorem noStrat_nil : noStrat [] = true := by decide

theorem validFields_ofList : ∀ l : List Field, (∀ f ∈ l, validField f = true) → validFields (Fields.ofList l) = true :=
  fun _ => Fields.all_ofList rfl fun _ _ => rfl

theorem reprFields_ofList : ∀ l : List Field, (∀ f ∈ l, reprField f = true) → reprFields (Fields.ofList l) = true :=
  fun _ => Fields.all_ofList rfl fun _ _ => rfl

theorem validFields_mem : ∀ fs : Fields, validFields fs = true → ∀ f ∈ fs.toList, validField f = true :=
  fun _ => Fields.all_toList rfl fun _ _ => rfl

theorem reprFields_mem : ∀ fs : Fields, reprFields fs = true → ∀ f ∈ fs.toList, reprField f = true :=
  fun _ => Fields.all_toList rfl fun _ _ => rfl

/-- the strategies a struct field may carry -/
def structMeta (m : Metadata) : Bool :=
  (stratClass m = .absent || stratClass m = .known .mapAsStruct || stratClass m = .known .tupleAsStruct) && metaOK m

theorem structMeta_nil : structMeta [] = true := by decide
theorem structMeta_map : structMeta (strategyMeta .mapAsStruct) = true := by decide +kernel
theorem structMeta_tuple : structMeta (strategyMeta .tupleAsStruct) = true := by decide +kernel

theorem ok_struct {n : String} {nl : Bool} {m : Metadata} {l : List Field} (hm : structMeta m = true)
    (h : ∀ f ∈ l, schemaOK f = true) : schemaOK (.mk n (.struct (Fields.ofList l)) nl m) = true := by
  simp only [structMeta, Bool.and_eq_true] at hm
  refine ok_mk ?_ hm.2 ?_
  · simp only [validType, Bool.and_eq_true]
    exact ⟨hm.1, validFields_ofList l (fun f hf => ok_valid (h f hf))⟩
  · simp only [reprType]
    exact reprFields_ofList l (fun f hf => ok_repr (h f hf))

/-- the children of a struct field of the domain are fields of the domain -/
theorem ok_struct_children {n : String} {nl : Bool} {m : Metadata} {fs : Fields}
    (h : schemaOK (.mk n (.struct fs) nl m) = true) : ∀ f ∈ fs.toList, schemaOK f = true := by
  obtain ⟨h1, _, h3⟩ := ok_inv h
  simp only [validType, Bool.and_eq_true] at h1
  simp only [reprType] at h3
  intro f hf
  simp only [schemaOK, Bool.and_eq_true]
  exact ⟨validFields_mem fs h1.2 f hf, reprFields_mem fs h3 f hf⟩

theorem ok_null (n : String) : schemaOK (.mk n .null true []) = true :=
  ok_mk (by simp [validType, strat_nil]) meta_nil (by simp [reprType])

theorem ok_list (b : Bool) {n : String} {nl : Bool} {item : Field} (h : schemaOK item = true) :
    schemaOK (.mk n (if b then .largeList item else .list item) nl []) = true := by
  cases b <;>
    exact ok_mk (by simp [validType, noStrat_nil, ok_valid h]) meta_nil (by simp [reprType, ok_repr h])

theorem ok_map {n : String} {nl : Bool} {kf vf : Field} (hk : schemaOK kf = true) (hv : schemaOK vf = true) :
    schemaOK (.mk n (.map (Field.mk "entries" (.struct (Fields.ofList [kf, vf])) false []) false) nl []) = true := by
  have he : schemaOK (Field.mk "entries" (.struct (Fields.ofList [kf, vf])) false []) = true :=
    ok_struct structMeta_nil (by intro f hf; simp at hf; rcases hf with rfl | rfl <;> assumption)
  refine ok_mk ?_ meta_nil ?_
  · simp only [validType, noStrat_nil, Bool.true_and, Bool.and_eq_true]
    exact ⟨by simp [isStruct2, Fields.ofList], ok_valid he⟩
  · simp only [reprType, Bool.not_false, Bool.true_and]; exact ok_repr he

theorem ok_dictionary (o : Options) (n : String) (nl : Bool) :
    schemaOK (default_dictionary_field n nl o.string_type) = true := by
  simp only [default_dictionary_field, Options.string_type]
  split <;> exact ok_mk (by simp [validType, noStrat_nil, isIntType, isDictValueType]) meta_nil (by simp [reprType])

theorem ok_unknown_variant : schemaOK unknown_variant_field = true := by decide +kernel

/-- the leaf types of the tracer's alphabet other than `Null`: valid without a strategy, expressible -/
theorem leaf_plain (o : Options) : ∀ ty ∈ leafTypes o, isNull ty = true ∨ (validType [] ty && reprType false ty) = true := by
  simp only [leafTypes, Options.string_type]
  cases o.string_as_large_utf8 <;> decide

theorem repr_mono {nl : Bool} {ty : DataType} (h : reprType false ty = true) : reprType nl ty = true := by
  cases ty <;> simp_all [reprType]

theorem ok_leaf (o : Options) {n : String} {nl : Bool} {ty : DataType} (hty : ty ∈ leafTypes o) (hn : isNull ty = false) :
    schemaOK (.mk n ty nl []) = true := by
  rcases leaf_plain o ty hty with h | h
  · rw [hn] at h; cases h
  · simp only [Bool.and_eq_true] at h
    exact ok_mk h.1 meta_nil (repr_mono h.2)

/-- what the variant loop of `UnionTracer::to_field` establishes from index `idx` on -/
structure OkU (idx : Nat) (l : List (Int × Field)) : Prop where
  valid : validUFields (UFields.ofList l) = true
  repr : reprUFields (UFields.ofList l) = true
  ids : idsFrom idx (UFields.ofList l) = true

theorem okU_nil (idx : Nat) : OkU idx [] :=
  ⟨by simp [UFields.ofList, validUFields], by simp [UFields.ofList, reprUFields], by simp [UFields.ofList, idsFrom]⟩

theorem okU_cons {idx : Nat} {f : Field} {l : List (Int × Field)} (hi : ¬ idx > 127) (hf : schemaOK f = true)
    (h : OkU (idx + 1) l) : OkU idx ((Int.ofNat idx, f) :: l) :=
  ⟨by simp only [UFields.ofList, validUFields, Bool.and_eq_true]; exact ⟨ok_valid hf, h.valid⟩,
   by simp only [UFields.ofList, reprUFields, Bool.and_eq_true]; exact ⟨ok_repr hf, h.repr⟩,
   by simp [UFields.ofList, idsFrom, h.ids]; omega⟩

theorem ok_union {n : String} {nl : Bool} {l : List (Int × Field)} (h : OkU 0 l) :
    schemaOK (.mk n (.union (UFields.ofList l) .dense) nl []) = true :=
  ok_mk (by simp [validType, noStrat_nil, h.valid]) meta_nil (by simp [reprType, h.ids, h.repr])

/-- the instance of `to_field_induct`: the `ok_*` lemmas above are its cases -/
theorem schemaOK_walk (o : Options) (how : OwOK o) :
    (∀ t f, t.to_field o = .ok f → C07.WF o t → schemaOK f = true) ∧
    (∀ ts l, ts.to_fields o = .ok l → C07.TsWF o ts → ∀ f ∈ l, schemaOK f = true) ∧
    (∀ fs l, fs.to_fields o = .ok l → ∀ s, C07.FWF o s fs → ∀ f ∈ l, schemaOK f = true) ∧
    (∀ vs idx l, vs.to_fields o idx = .ok l → C07.VWF o vs → OkU idx l) := by
  refine to_field_induct o (fun t f => C07.WF o t → schemaOK f = true)
    (fun ts l => C07.TsWF o ts → ∀ f ∈ l, schemaOK f = true) (fun fs l => ∀ s, C07.FWF o s fs → ∀ f ∈ l, schemaOK f = true)
    (fun vs idx l => C07.VWF o vs → OkU idx l) (fun _ kv hkv _ => how kv hkv) (fun n _ _ _ => ok_null n)
    ?_ ?_ ?_ ?_ ?_ (fun n _ nl _ _ _ _ => ok_dictionary o n nl) ?_ (fun _ => by simp) ?_ (fun _ _ => by simp) ?_
    (fun idx _ => okU_nil idx) ?_ ?_
  · intro n p nl ty st f h hw
    rw [C07.WF] at hw
    obtain ⟨rfl, hs⟩ := hw
    have hty := (C07.mem_leafStates.mp hs).1
    rw [Tracer.to_field] at h
    rcases wo_inv h with ⟨kv, hkv, rfl⟩ | h
    · exact how kv hkv
    · cases hnull : isNull ty with
      | true =>
        simp only [hnull, Bool.and_true, if_true] at h
        split at h
        · cases h
        · cases h; exact ok_null n
      | false =>
        simp only [hnull, Bool.and_false, Bool.false_eq_true, if_false] at h
        split at h
        · split at h
          · cases h; exact ok_leaf o hty hnull
          · cases h; exact ok_dictionary o n nl
        · cases h; exact ok_leaf o hty hnull
  · exact fun n p nl i item ih hw => ok_list _ (ih (by rw [C07.WF] at hw; exact hw))
  · intro n p nl k v kf vf ihk ihv hw
    rw [C07.WF] at hw
    exact ok_map (ihk hw.1) (ihv hw.2)
  · intro n p nl fs s l _ ih
    refine ⟨fun hw => ?_, fun hw => ?_⟩ <;> rw [C07.WF] at hw
    · exact ok_struct structMeta_nil (ih s hw)
    · exact ok_struct structMeta_map (fun g hg => ih s hw g ((mem_sortByName l g).1 hg))
  · exact fun n p nl ts l _ ih hw => ok_struct structMeta_tuple (ih (by rw [C07.WF] at hw; exact hw))
  · exact fun n p nl vs l _ ih hw => ok_union (ih (by rw [C07.WF] at hw; exact hw))
  · intro t r f l iht ihr hw g hg
    rw [C07.TsWF] at hw
    rcases List.mem_cons.1 hg with rfl | hg
    · exact iht hw.1
    · exact ihr hw.2 g hg
  · intro n ls t r f l iht ihr s hw g hg
    rw [C07.FWF] at hw
    rcases List.mem_cons.1 hg with rfl | hg
    · exact iht hw.2.2.2.1
    · exact ihr s hw.2.2.2.2 g hg
  · intro r idx l hidx ih hw
    rw [C07.VWF] at hw
    exact okU_cons (by omega) ok_unknown_variant (ih hw)
  · intro n t r idx f l hidx _ iht ihr hw
    rw [C07.VWF] at hw
    exact okU_cons (by omega) (iht hw.1) (ihr hw.2)

theorem to_field_schemaOK (o : Options) (how : OwOK o) :
    ∀ (t : Tracer) (f : Field), C07.WF o t → t.to_field o = .ok f → schemaOK f = true :=
  fun t f hw h => (schemaOK_walk o how).1 t f h hw
theorem to_fieldsT_schemaOK (o : Options) (how : OwOK o) :
    ∀ (ts : Tracers) (l : List Field), C07.TsWF o ts → ts.to_fields o = .ok l → ∀ f ∈ l, schemaOK f = true :=
  fun ts l hw h => (schemaOK_walk o how).2.1 ts l h hw
theorem to_fieldsF_schemaOK (o : Options) (how : OwOK o) (s : Nat) :
    ∀ (fs : TFields) (l : List Field), C07.FWF o s fs → fs.to_fields o = .ok l → ∀ f ∈ l, schemaOK f = true :=
  fun fs l hw h => (schemaOK_walk o how).2.2.1 fs l h s hw
theorem to_fieldsV_schemaOK (o : Options) (how : OwOK o) :
    ∀ (vs : Variants) (idx : Nat) (l : List (Int × Field)), C07.VWF o vs → vs.to_fields o idx = .ok l → OkU idx l :=
  fun vs idx l hw h => (schemaOK_walk o how).2.2.2 vs idx l h hw

/-- the packaging for `Tracer.to_schema` -/
theorem to_schema_schemaOK (o : Options) (how : OwOK o) (t : Tracer)
    (hw : C07.WF o t) (fields : List Field) (h : t.to_schema o = .ok fields) : ∀ f ∈ fields, schemaOK f = true := by
  obtain ⟨n, children, md, hr, rfl⟩ := to_schema_ok o t fields h
  exact ok_struct_children (to_field_schemaOK o how t _ hw hr)

end SaModel.Lemmas.C09T
