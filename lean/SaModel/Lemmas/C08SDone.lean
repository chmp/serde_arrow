import SaModel.Lemmas.C08SAfter
/-
C08 — once every covering sample has been absorbed (`width ty ≤ m`), the tracer of `from_samples` is, up to the sample
counters, the complete tracer `done` of `from_type`.
-/
namespace SaModel.Lemmas.C08
open SaModel SaModel.Trace SaModel.Trace.Spec

theorem widthTys_pos : ∀ ts : Tys, 1 ≤ widthTys ts
  | .nil => by simp only [widthTys]; omega
  | .cons t r => by simp only [widthTys]; have := widthTys_pos r; omega

theorem widthFields_pos : ∀ fs : TyFields, 1 ≤ widthFields fs
  | .nil => by simp only [widthFields]; omega
  | .cons _ t r => by simp only [widthFields]; have := widthFields_pos r; omega

theorem widthVariants_pos : ∀ vs : TyVariants, 1 ≤ widthVariants vs
  | .nil => by simp only [widthVariants]; omega
  | .unit _ r => by simp only [widthVariants]; exact widthVariants_pos r
  | .newtype _ t r => by simp only [widthVariants]; have := widthVariants_pos r; omega
  | .tuple _ ts r => by simp only [widthVariants]; have := widthVariants_pos r; omega
  | .struct _ fs r => by simp only [widthVariants]; have := widthVariants_pos r; omega

theorem width_pos : ∀ ty : Ty, 1 ≤ width ty
  | .unit | .unitStruct _ | .bool | .int _ | .f32 | .f64 | .char | .string | .bytes => by simp only [width]; omega
  | .option t | .vec t | .newtypeStruct _ t => by simp only [width]; exact width_pos t
  | .tuple ts | .tupleStruct _ ts => by simp only [width]; exact widthTys_pos ts
  | .map k v => by simp only [width]; have := width_pos k; omega
  | .struct _ fs => by simp only [width]; exact widthFields_pos fs
  | .enum _ vs => by simp only [width]; omega

theorem le_cnt (q r i : Nat) : q ≤ cnt q r i := by unfold cnt; split <;> omega

namespace VHead

theorem width_le {vs r : TyVariants} {n : String} {T : Ty} (h : VHead vs n T r) :
    width T ≤ widthVariants vs ∧ widthVariants r ≤ widthVariants vs := by
  have := widthVariants_pos r
  cases h <;> simp only [widthVariants, width] <;> omega

theorem safterV_eq {vs r : TyVariants} {n : String} {T : Ty} (h : VHead vs n T r) (o : Options) (p : String)
    (q r' i : Nat) : safterVariants o p q r' i vs =
      match cnt q r' i with
      | 0 => .nil
      | c + 1 => .present n (safter o n (childPath p n) false (c + 1) T) (safterVariants o p q r' (i + 1) r) := by
  rw [safterVariants_eq, h.vList_eq, sV, ← safterVariants_eq]
  cases cnt q r' i <;> rfl

end VHead

theorem erase_safter_all (o : Options) :
    (∀ (ty : Ty) (n p : String) (nl : Bool) (m : Nat), walkable o p ty = true →
      width ty ≤ m + 1 → erase (safter o n p nl (m + 1) ty) = done o n p nl ty) ∧
    (∀ (ts : Tys) (p : String) (i m : Nat), walkableTys o p i ts = true →
      widthTys ts ≤ m + 1 → eraseTracers (safterTys o p (m + 1) i ts) = doneTys o p i ts) ∧
    (∀ (fs : TyFields) (p : String) (m : Nat), walkableFields o p fs = true →
      widthFields fs ≤ m + 1 → eraseFields (safterFields o p (m + 1) fs) = doneFields o p fs) ∧
    (∀ (vs : TyVariants) (p : String) (q r i : Nat),
      walkableVariants o p vs = true → widthVariants vs ≤ q → 1 ≤ q →
      eraseVariants (safterVariants o p q r i vs) = doneVariants o p vs) := by
  apply Ty.walk
  case node =>
    intro ty ih n p nl m hw hm
    match ty, ih with
    | .unit, _ | .unitStruct _, _ | .bool, _ | .int _, _ | .f32, _ | .f64, _ | .char, _ | .string, _ | .bytes, _ =>
      simp only [safter, erase, done]
    | .option t, ih =>
      simp only [walkable] at hw; simp only [width] at hm; simp only [safter, done]; exact ih n p true m hw hm
    | .newtypeStruct _ t, ih =>
      simp only [walkable] at hw; simp only [width] at hm; simp only [safter, done]; exact ih n p nl m hw hm
    | .vec t, ih =>
      simp only [walkable, Bool.and_eq_true] at hw; simp only [width] at hm
      simp only [safter, erase, done, ih _ _ _ m hw.2 hm]
    | .tuple ts, ih | .tupleStruct _ ts, ih =>
      simp only [walkable, Bool.and_eq_true] at hw; simp only [width] at hm
      simp only [safter, erase, done, ih p 0 m hw.2 hm]
    | .map kt vt, ih =>
      simp only [walkable, Bool.and_eq_true] at hw; simp only [width] at hm
      simp only [safter, erase, done, ih.1 _ _ _ m hw.1.2 (by omega), ih.2 _ _ _ m hw.2 (by omega)]
    | .struct _ fs, ih =>
      simp only [walkable, Bool.and_eq_true] at hw; simp only [width] at hm
      simp only [safter, erase, done, ih p m hw.2 hm]
    | .enum _ vs, ih =>
      simp only [walkable, Bool.and_eq_true, bne_iff_ne, ne_eq] at hw; simp only [width] at hm
      have hL : 0 < vs.length := by omega
      have hwv := widthVariants_pos vs
      have hq : widthVariants vs ≤ (m + 1) / vs.length := by
        rw [Nat.le_div_iff_mul_le hL, Nat.mul_comm]; omega
      simp only [safter, erase, done, ih p _ _ 0 hw.2 hq (by omega)]
  case tnil => intro _ _ _ _ _; simp only [safterTys, eraseTracers, doneTys]
  case tcons =>
    intro t r iht ihr p i m hw hm
    simp only [walkableTys, Bool.and_eq_true] at hw; simp only [widthTys] at hm
    simp only [safterTys, eraseTracers, doneTys, iht _ _ _ m hw.1 (by omega), ihr p (i + 1) m hw.2 (by omega)]
  case fnil => intro _ _ _ _; simp only [safterFields, eraseFields, doneFields]
  case fcons =>
    intro _ t r iht ihr p m hw hm
    simp only [walkableFields, Bool.and_eq_true] at hw; simp only [widthFields] at hm
    simp only [safterFields, eraseFields, doneFields, iht _ _ _ m hw.1 (by omega), ihr p m hw.2 (by omega)]
  case vnil => intro _ _ _ _ _ _ _; simp only [safterVariants, eraseVariants, doneVariants]
  case vcons =>
    intro vs n T rest hh ihT ihr p q r i hw hq h1
    simp only [hh.walkable_eq, Bool.and_eq_true] at hw
    have hwd := hh.width_le
    obtain ⟨c, hc⟩ : ∃ c, cnt q r i = c + 1 := ⟨cnt q r i - 1, by have := le_cnt q r i; omega⟩
    have hcq : q ≤ c + 1 := by have := le_cnt q r i; omega
    rw [hh.safterV_eq, hc, hh.done_eq]
    simp only [eraseVariants, ihT _ _ _ c hw.1 (by omega), ihr p q r (i + 1) hw.2 (by omega) h1]

theorem erase_safter (o : Options) : ∀ (ty : Ty) (n p : String) (nl : Bool) (m : Nat), walkable o p ty = true →
    width ty ≤ m + 1 → erase (safter o n p nl (m + 1) ty) = done o n p nl ty :=
  (erase_safter_all o).1

theorem eraseTracers_safter (o : Options) : ∀ (ts : Tys) (p : String) (i m : Nat), walkableTys o p i ts = true →
    widthTys ts ≤ m + 1 → eraseTracers (safterTys o p (m + 1) i ts) = doneTys o p i ts :=
  (erase_safter_all o).2.1

theorem eraseFields_safter (o : Options) : ∀ (fs : TyFields) (p : String) (m : Nat), walkableFields o p fs = true →
    widthFields fs ≤ m + 1 → eraseFields (safterFields o p (m + 1) fs) = doneFields o p fs :=
  (erase_safter_all o).2.2.1

theorem eraseVariants_safter (o : Options) : ∀ (vs : TyVariants) (p : String) (q r i : Nat),
    walkableVariants o p vs = true → widthVariants vs ≤ q → 1 ≤ q →
    eraseVariants (safterVariants o p q r i vs) = doneVariants o p vs :=
  (erase_safter_all o).2.2.2

end SaModel.Lemmas.C08
