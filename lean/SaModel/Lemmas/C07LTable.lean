import SaModel.Lemmas.C07Tables
/-
C07, least-upper-bound argument — one more leaf fact, as a table: whatever a state `q` has absorbed, every state above `q`
(`sle`) has absorbed too.  (Also the transitivity of `sle`: take `a` = the type of a state below `q`.)  The table is
evaluated nowhere: the statement is `Props.C07.upRow_holds`, proved from `pairT`.
-/
namespace SaModel.Lemmas.C07
open SaModel SaModel.Trace

def upRow (o : Options) (q u : LeafSt) (a : DataType) : Bool :=
  !(decide (act o q a = .ok q) && sle o q u) || decide (act o u a = .ok u)

def upTable (o : Options) : Bool :=
  (leafStates o).all fun q => (leafStates o).all fun u => (leafTypes o).all fun a => upRow o q u a

end SaModel.Lemmas.C07
