import SaModel.Read.Reader
import SaModel.Spec.TouchEq
/-
Helper lemmas for the reader theorems (C02, C12, C17, C18): what an outcome can be — `NoPanic`, and `Errs G` (every error
lies in `G`; `PlainOnly` is the instance "a plain `Err`") with its closure under `>>=`, `if` and the element loops —
and the primitives of the reader model under `Fixes.all`: every `get` is a `gate` (row test, validity bit, payload of a
valid slot), `primGet_all` … `fsbGet_all`; at the end the catch-all arms of the typed reads (`readAs_*_other`).
-/
namespace SaModel.Read
open SaModel

/-- the outcome is a value or an `Err`, never an unwind -/
def NoPanic {α} (x : R α) : Prop := ∀ s, x ≠ .error (.panic s)

theorem NoPanic.ok {α} (a : α) : NoPanic (Except.ok a : R α) := by intro s h; cases h
theorem NoPanic.pure {α} (a : α) : NoPanic (pure a : R α) := by intro s h; cases h
theorem NoPanic.fail {α} (m : String) : NoPanic (fail m : R α) := by intro s h; cases h
theorem NoPanic.err {α} (m : String) : NoPanic (Except.error (.err m) : R α) := by intro s h; cases h

theorem NoPanic.bind {α β} {x : R α} {f : α → R β} (hx : NoPanic x) (hf : ∀ a, NoPanic (f a)) :
    NoPanic (x >>= f) := by
  intro s h
  cases x with
  | ok a => exact hf a s h
  | error e =>
    cases e with
    | err m => cases h
    | errCtx m a => cases h
    | panic p => exact hx p rfl

theorem NoPanic.map {α β} {x : R α} {f : α → β} (hx : NoPanic x) : NoPanic (f <$> x) := by
  intro s h
  cases x with
  | ok a => cases h
  | error e =>
    cases e with
    | err m => cases h
    | errCtx m a => cases h
    | panic p => exact hx p rfl

theorem NoPanic.ite {α} {c : Prop} [Decidable c] {a b : R α} (ha : NoPanic a) (hb : NoPanic b) :
    NoPanic (if c then a else b) := by split <;> assumption

theorem NoPanic.notImpl {α} : NoPanic (notImpl : R α) := NoPanic.fail _
theorem NoPanic.rejected {α} : NoPanic (rejected : R α) := NoPanic.fail _

end SaModel.Read

namespace SaModel.Lemmas.C12
open SaModel SaModel.Read

/-- the `SeqAccess` / `MapAccess` loop is `mapM` over the indices `s, …, s+n-1` -/
theorem readRange_eq_mapM {α} (f : Nat → R α) : ∀ (n s : Nat), readRange f s n = (List.range' s n).mapM f
  | 0, _ => by simp only [readRange, List.range'_zero, List.mapM_nil]; rfl
  | n + 1, s => by simp only [readRange, List.range'_succ, List.mapM_cons, readRange_eq_mapM f n (s + 1)]

end SaModel.Lemmas.C12

namespace SaModel.Read
open SaModel

/-- every error the outcome can be lies in `G` -/
def Errs (G : Fail → Prop) {α} (x : R α) : Prop := ∀ e, x = .error e → G e

namespace Errs
variable {G : Fail → Prop} {α β γ : Type _}

theorem ok (a : α) : Errs G (Except.ok a : R α) := fun _ h => nomatch h
theorem pure (a : α) : Errs G (Pure.pure a : R α) := fun _ h => nomatch h

/-- the continuation only on the value the first step returned -/
theorem bind {x : R α} {f : α → R β} (hx : Errs G x) (hf : ∀ a, x = .ok a → Errs G (f a)) : Errs G (x >>= f) := by
  cases x with
  | ok a => exact hf a rfl
  | error e => exact fun e' h => hx e' (by cases h; rfl)

theorem ite {c : Prop} [Decidable c] {a b : R α} (ha : Errs G a) (hb : Errs G b) : Errs G (if c then a else b) := by
  split <;> assumption

theorem mapM {f : γ → R β} : ∀ (l : List γ), (∀ x ∈ l, Errs G (f x)) → Errs G (l.mapM f)
  | [], _ => by simp only [List.mapM_nil]; exact pure _
  | x :: xs, h => by
    simp only [List.mapM_cons]
    exact bind (h x (by simp)) fun _ _ => bind (mapM xs fun y hy => h y (by simp [hy])) fun _ _ => pure _

theorem readRange {f : Nat → R α} (hf : ∀ j, Errs G (f j)) (n s : Nat) : Errs G (readRange f s n) :=
  Lemmas.C12.readRange_eq_mapM f n s ▸ mapM _ fun x _ => hf x

theorem foldlM {f : β → γ → R β} : ∀ (l : List γ) (init : β), (∀ b, ∀ x ∈ l, Errs G (f b x)) → Errs G (l.foldlM f init)
  | [], _, _ => by simp only [List.foldlM_nil]; exact pure _
  | x :: xs, init, h => by
    simp only [List.foldlM_cons]
    exact bind (h init x (by simp)) fun b _ => foldlM xs b fun b y hy => h b y (by simp [hy])
end Errs

/-- the outcome is a value or an un-annotated `Err`: neither an unwind nor an error that carries annotations -/
abbrev PlainOnly {α} (x : R α) : Prop := Errs (fun e => ∃ m, e = .err m) x

theorem PlainOnly.fail {α} (m : String) : PlainOnly (fail m : R α) := fun _ h => by cases h; exact ⟨m, rfl⟩

theorem PlainOnly.noPanic {α} {x : R α} (h : PlainOnly x) : NoPanic x := fun s hs => by
  obtain ⟨m, hm⟩ := h _ hs; cases hm

/-! ### failing reads -/

theorem isOk_false_iff {α} {x : R α} : x.isOk = false ↔ ∃ e, x = .error e := by
  cases x with
  | ok a => simp [R.isOk]
  | error e => simp [R.isOk]

theorem bind_fails_left {α β} {x : R α} {f : α → R β} (h : x.isOk = false) : (x >>= f).isOk = false := by
  cases x with
  | ok a => cases h
  | error e => rfl

theorem bind_fails {α β} {x : R α} {f : α → R β} (h : ∀ a, x = .ok a → (f a).isOk = false) : (x >>= f).isOk = false := by
  cases x with
  | ok a => exact h a rfl
  | error e => rfl

theorem not_ok_of_fails {α} {x : R α} {a : α} (h : x.isOk = false) : x ≠ .ok a := by
  intro hx; rw [hx] at h; cases h

theorem fails_of_not_ok {α} {x : R α} (h : ∀ a, x ≠ .ok a) : x.isOk = false := by
  cases x with
  | ok a => exact absurd rfl (h a)
  | error e => rfl

/-! ### primitives, with every fix applied -/

theorem getBitBuffer_all (b : Bits) (idx : Nat) : getBitBuffer Fixes.all b idx = Spec.getBit b idx := by
  simp only [getBitBuffer, Fixes.all, Spec.getBit, Bool.not_true, Bool.false_and, Bool.false_eq_true, if_false]
  cases b.data[(idx + b.offset) / 8]? <;> rfl

theorem validityIsSet_all (v : Option Bits) (idx : Nat) : validityIsSet Fixes.all v idx = Spec.isValid v idx := by
  cases v <;> simp [validityIsSet, Spec.isValid, getBitBuffer_all]

theorem noPanic_getBit (b : Bits) (idx : Nat) : NoPanic (Spec.getBit b idx) := by
  unfold Spec.getBit; split
  · exact NoPanic.fail _
  · exact NoPanic.ok _

theorem noPanic_getBitBuffer (b : Bits) (idx : Nat) : NoPanic (getBitBuffer Fixes.all b idx) := by
  rw [getBitBuffer_all]; exact noPanic_getBit b idx

theorem noPanic_validityIsSet (v : Option Bits) (idx : Nat) : NoPanic (validityIsSet Fixes.all v idx) := by
  cases v
  · exact NoPanic.ok _
  · exact noPanic_getBitBuffer _ _

theorem noPanic_tryIntoUsize (x : Int) : NoPanic (tryIntoUsize x) := by
  unfold tryIntoUsize; split
  · exact NoPanic.ok _
  · exact NoPanic.fail _

theorem noPanic_getRequired {α} {x : R (Option α)} (hx : NoPanic x) : NoPanic (getRequired x) := by
  unfold getRequired
  refine NoPanic.bind hx ?_
  intro a; cases a
  · exact NoPanic.fail _
  · exact NoPanic.pure _

theorem noPanic_optIsSome {α} {x : R (Option α)} (hx : NoPanic x) : NoPanic (optIsSome x) := by
  unfold optIsSome
  exact NoPanic.bind hx (fun _ => NoPanic.pure _)

/-! ### the getters, with every fix applied: row test, validity bit, payload -/

/-- the shape of every `get` after the fixes: the row test; the validity bit; the payload only for a valid slot -/
def gate {α} (c : Prop) [Decidable c] (msg : String) (v : Option Bits) (i : Nat) (x : R (Option α)) : R (Option α) :=
  if c then (do if (← Spec.isValid v i) then x else pure none) else fail msg

section gate
variable {α : Type} {c c' : Prop} [Decidable c] [Decidable c'] {msg : String} {v v' : Option Bits} {i : Nat}
  {x x' : R (Option α)} {o : Option α}

theorem noPanic_isValid (v : Option Bits) (i : Nat) : NoPanic (Spec.isValid v i) :=
  validityIsSet_all v i ▸ noPanic_validityIsSet v i

theorem gate_noPanic (hx : c → NoPanic x) : NoPanic (gate c msg v i x) := by
  unfold gate
  split
  · rename_i hc
    exact NoPanic.bind (noPanic_isValid v i) fun b => by cases b <;> first | exact hx hc | exact NoPanic.pure _
  · exact NoPanic.fail _

theorem gate_ok (h : gate c msg v i x = .ok o) :
    c ∧ ((Spec.isValid v i = .ok false ∧ o = none) ∨ (Spec.isValid v i = .ok true ∧ x = .ok o)) := by
  unfold gate at h
  split at h
  · rename_i hc
    obtain ⟨b, hb, h⟩ := R.bind_ok_inv h
    cases b with
    | false => cases h; exact ⟨hc, .inl ⟨hb, rfl⟩⟩
    | true => exact ⟨hc, .inr ⟨hb, h⟩⟩
  · cases h

theorem gate_congr (hc : c = c') (h : c → Spec.isValid v i = Spec.isValid v' i ∧ (Spec.isValid v i = .ok true → x = x')) :
    gate c msg v i x = gate c' msg v' i x' := by
  unfold gate
  by_cases hh : c
  · obtain ⟨hv, hx⟩ := h hh
    rw [if_pos hh, if_pos (hc ▸ hh), ← hv]
    cases hval : Spec.isValid v i with
    | error e => rfl
    | ok b => cases b with
      | false => rfl
      | true => rw [hx hval]
  · rw [if_neg hh, if_neg (hc ▸ hh)]

end gate

/-- `PrimitiveView::get` -/
theorem primGet_all (v : Option Bits) (vals : List Int) (i : Nat) :
    primGet Fixes.all v vals i = gate (i < vals.length) "Access beyond array length" v i (.ok vals[i]?) := by
  unfold primGet gate
  by_cases hi : i < vals.length
  · rw [List.getElem?_eq_getElem hi, if_pos hi, validityIsSet_all]; rfl
  · rw [List.getElem?_eq_none_iff.mpr (Nat.le_of_not_lt hi), if_neg hi]

/-- `BoolDeserializer::get` -/
theorem boolGet_all (len : Nat) (v : Option Bits) (vals : Bits) (i : Nat) :
    boolGet Fixes.all len v vals i = gate (i < len) "Out of bounds access" v i (do pure (some (← Spec.getBit vals i))) := by
  unfold boolGet gate
  by_cases hi : i < len
  · rw [if_neg (Nat.not_le.2 hi), if_pos hi, getBitBuffer_all, validityIsSet_all]
  · rw [if_pos (Nat.le_of_not_lt hi), if_neg hi]

/-- `BytesViewView::get` -/
theorem viewGet_all (v : Option Bits) (views : List Nat) (bufs : List Bytes) (i : Nat) :
    viewGet Fixes.all v views bufs i = gate (i < views.length) "Invalid access: tried to get element of array" v i
      (do pure (some (← viewBytes bufs (views.getD i 0)))) := by
  unfold viewGet gate
  by_cases hi : i < views.length
  · rw [List.getD_eq_getElem?_getD, List.getElem?_eq_getElem hi, if_pos hi, validityIsSet_all]; rfl
  · rw [List.getElem?_eq_none_iff.mpr (Nat.le_of_not_lt hi), if_neg hi]

/-- what an offset pair gives: the slice of the data buffer it designates (`Spec.byteSlice`), or why there is none -/
def bytesAt (data : Bytes) (s e : Int) : R (Option Bytes) :=
  match Spec.byteSlice data s e with
  | some b => .ok (some b)
  | none => fail (if s < 0 ∨ e < 0 then "out of range integral type conversion attempted" else "Invalid offsets")

theorem bytesAt_eq (data : Bytes) (s e : Int) :
    (do let start ← tryIntoUsize s
        let stop ← tryIntoUsize e
        if start ≤ stop ∧ stop ≤ data.length then pure (some ((data.drop start).take (stop - start)))
        else fail "Invalid offsets") = bytesAt data s e := by
  unfold bytesAt Spec.byteSlice tryIntoUsize
  by_cases hs : 0 ≤ s
  · by_cases he : 0 ≤ e
    · have hiff : (s.toNat ≤ e.toNat ∧ e.toNat ≤ data.length) ↔ (0 ≤ s ∧ s ≤ e ∧ e ≤ (data.length : Int)) := by omega
      rw [if_pos hs, if_pos he]
      simp only [bind, Except.bind]
      by_cases hc : 0 ≤ s ∧ s ≤ e ∧ e ≤ (data.length : Int)
      · rw [if_pos hc, if_pos (hiff.mpr hc)]; rfl
      · rw [if_neg hc, if_neg (fun h => hc (hiff.mp h)), if_neg (show ¬ (s < 0 ∨ e < 0) by omega)]
    · rw [if_pos hs, if_neg he, if_neg (show ¬ (0 ≤ s ∧ s ≤ e ∧ e ≤ (data.length : Int)) by omega),
        if_pos (show s < 0 ∨ e < 0 by omega)]; rfl
  · rw [if_neg hs, if_neg (show ¬ (0 ≤ s ∧ s ≤ e ∧ e ≤ (data.length : Int)) by omega),
      if_pos (show s < 0 ∨ e < 0 by omega)]; rfl

/-- `BytesView::get` -/
theorem bytesGet_all (v : Option Bits) (offs : List Int) (data : Bytes) (i : Nat) :
    bytesGet Fixes.all v offs data i = gate (i < offs.length - 1) "Invalid access: tried to get element of array" v i
      (bytesAt data (offs.getD i 0) (offs.getD (i + 1) 0)) := by
  unfold bytesGet gate
  simp only [show Fixes.all.bytesGet = true from rfl, if_true]
  by_cases hi : i < offs.length - 1
  · have h1 : i + 1 < offs.length := by omega
    rw [if_neg (Nat.not_le.2 h1), if_pos hi, List.getD_eq_getElem?_getD, List.getD_eq_getElem?_getD,
      List.getElem?_eq_getElem (Nat.lt_of_succ_lt h1), List.getElem?_eq_getElem h1, validityIsSet_all, ← bytesAt_eq]
    rfl
  · rw [if_pos (show i + 1 ≥ offs.length by omega), if_neg hi]

theorem noPanic_primGet (v : Option Bits) (vals : List Int) (idx : Nat) : NoPanic (primGet Fixes.all v vals idx) := by
  rw [primGet_all]; exact gate_noPanic fun _ => NoPanic.ok _

theorem noPanic_boolGet (len : Nat) (v : Option Bits) (vals : Bits) (idx : Nat) :
    NoPanic (boolGet Fixes.all len v vals idx) := by
  rw [boolGet_all]; exact gate_noPanic fun _ => NoPanic.bind (noPanic_getBit _ _) fun _ => NoPanic.pure _

theorem noPanic_bytesGet (v : Option Bits) (offs : List Int) (data : Bytes) (idx : Nat) :
    NoPanic (bytesGet Fixes.all v offs data idx) := by
  rw [bytesGet_all]
  exact gate_noPanic fun _ => by unfold bytesAt; split <;> first | exact NoPanic.ok _ | exact NoPanic.fail _

/-- `BytesViewView::get`'s closure answers what the descriptor designates under the Arrow reading rules (`Spec.decodeView`) -/
theorem viewBytes_slice (buffers : List Bytes) (desc : Nat) :
    viewBytes buffers desc =
      match Spec.viewSlice buffers desc with
      | some b => .ok b
      | none => fail "invalid state in bytes deserialization" := by
  unfold viewBytes Spec.viewSlice Spec.decodeView
  simp only
  split
  · rfl
  · split
    · rename_i h; simp only [h]; rfl
    · rename_i buf h
      simp only [h]
      split <;> rfl

theorem noPanic_viewBytes (buffers : List Bytes) (desc : Nat) : NoPanic (viewBytes buffers desc) := by
  rw [viewBytes_slice]
  split
  · exact NoPanic.ok _
  · exact NoPanic.fail _

theorem noPanic_viewGet (v : Option Bits) (views : List Nat) (buffers : List Bytes) (idx : Nat) :
    NoPanic (viewGet Fixes.all v views buffers idx) := by
  rw [viewGet_all]; exact gate_noPanic fun _ => NoPanic.bind (noPanic_viewBytes _ _) fun _ => NoPanic.pure _

theorem noPanic_asStr {x : R (Option Bytes)} (hx : NoPanic x) : NoPanic (asStr x) := by
  unfold asStr
  refine NoPanic.bind hx ?_
  intro a; cases a
  · exact NoPanic.pure _
  · simp only; split
    · exact NoPanic.pure _
    · exact NoPanic.fail _

theorem noPanic_fsbNew (n : Int) (data : Bytes) : NoPanic (fsbNew Fixes.all n data) := by
  unfold fsbNew
  simp only [Fixes.all, if_true]
  split
  · exact NoPanic.fail _
  · split
    · split
      · exact NoPanic.ok _
      · exact NoPanic.fail _
    · split
      · exact NoPanic.fail _
      · exact NoPanic.ok _

theorem fsbNew_ok {n : Int} {data : Bytes} {n' len : Nat} (h : fsbNew Fixes.all n data = .ok (n', len)) :
    len * n' ≤ data.length := by
  unfold fsbNew at h
  simp only [Fixes.all, if_true] at h
  split at h
  · cases h
  · split at h
    · split at h
      · cases h; simp
      · cases h
    · split at h
      · cases h
      · cases h
        exact Nat.div_mul_le_self _ _

/-- `FixedSizeBinaryDeserializer::get`; the slice expression cannot unwind for the `(n, len)` that `new` stored (`fsbNew_ok`) -/
theorem fsbGet_all (n len : Nat) (v : Option Bits) (data : Bytes) (i : Nat) :
    fsbGet Fixes.all n len v data i = gate (i < len) "Out of bounds access" v i
      (if (i + 1) * n ≤ data.length then pure (some ((data.drop (i * n)).take n))
       else panic "FixedSizeBinaryDeserializer::get: data[start..end]") := by
  unfold fsbGet gate
  by_cases hi : i < len
  · rw [if_neg (Nat.not_le.2 hi), if_pos hi, validityIsSet_all]
  · rw [if_pos (Nat.le_of_not_lt hi), if_neg hi]

theorem noPanic_fsbGet {n len : Nat} (v : Option Bits) (data : Bytes) (idx : Nat) (hlen : len * n ≤ data.length) :
    NoPanic (fsbGet Fixes.all n len v data idx) := by
  rw [fsbGet_all]
  exact gate_noPanic fun hi => by
    rw [if_pos (Nat.le_trans (Nat.mul_le_mul_right n hi) hlen)]; exact NoPanic.pure _

theorem noPanic_fsbColGet (n : Int) (v : Option Bits) (data : Bytes) (idx : Nat) :
    NoPanic (fsbColGet Fixes.all n v data idx) := by
  unfold fsbColGet
  intro s h
  cases hn : fsbNew Fixes.all n data with
  | error e =>
    rw [hn] at h
    cases e with
    | err m => cases h
    | errCtx m a => cases h
    | panic p => exact noPanic_fsbNew n data p hn
  | ok r =>
    obtain ⟨n', len⟩ := r
    rw [hn] at h
    exact noPanic_fsbGet v data idx (fsbNew_ok hn) s h

theorem noPanic_listRange (offs : List Int) (idx : Nat) : NoPanic (listRange Fixes.all offs idx) := by
  unfold listRange; split
  · exact NoPanic.fail _
  · have h1 : idx < offs.length := by omega
    have h2 : idx + 1 < offs.length := by omega
    simp only [List.getElem?_eq_getElem h1, List.getElem?_eq_getElem h2]
    refine NoPanic.bind (noPanic_tryIntoUsize _) ?_
    intro s
    refine NoPanic.bind (noPanic_tryIntoUsize _) ?_
    intro e
    split
    · exact NoPanic.fail _
    · exact NoPanic.pure _

theorem noPanic_fslRange (len : Nat) (n : Int) (idx : Nat) : NoPanic (fslRange Fixes.all len n idx) := by
  unfold fslRange; split
  · exact NoPanic.fail _
  · refine NoPanic.bind (noPanic_tryIntoUsize _) ?_
    intro m
    simp only [Fixes.all, if_true]
    split
    · exact NoPanic.fail _
    · exact NoPanic.pure _

theorem readRange_ext {α} {f g : Nat → R α} : ∀ (n s t : Nat), (∀ j, j < n → f (s + j) = g (t + j)) →
    readRange f s n = readRange g t n
  | 0, _, _, _ => by simp only [readRange]
  | n + 1, s, t, h => by
    have h0 := h 0 (by omega)
    simp only [Nat.add_zero] at h0
    have ih := readRange_ext n (s + 1) (t + 1) (fun j hj => by
      have := h (j + 1) (by omega)
      rw [show s + 1 + j = s + (j + 1) by omega, show t + 1 + j = t + (j + 1) by omega]
      exact this)
    simp only [readRange, h0, ih]

theorem noPanic_strategyOk (m : Metadata) : NoPanic (strategyOk m) := by
  unfold strategyOk; split
  · exact NoPanic.ok _
  · split
    · exact NoPanic.ok _
    · exact NoPanic.fail _

theorem noPanic_nullCheck (len idx : Nat) : NoPanic (nullCheck Fixes.all len idx) := by
  unfold nullCheck; split
  · exact NoPanic.fail _
  · exact NoPanic.ok _

theorem noPanic_bytesColGet (ty : BytesTy) (v : Option Bits) (offs : List Int) (data : Bytes) (idx : Nat) :
    NoPanic (bytesColGet Fixes.all ty v offs data idx) := by
  unfold bytesColGet; split
  · exact noPanic_asStr (noPanic_bytesGet _ _ _ _)
  · exact noPanic_bytesGet _ _ _ _

theorem noPanic_viewColGet (ty : ViewTy) (v : Option Bits) (views : List Nat) (buffers : List Bytes) (idx : Nat) :
    NoPanic (viewColGet Fixes.all ty v views buffers idx) := by
  unfold viewColGet; split
  · exact noPanic_asStr (noPanic_viewGet _ _ _ _)
  · exact noPanic_viewGet _ _ _ _

theorem noPanic_dictGetStr (ks vs : Arr) (idx : Nat) : NoPanic (dictGetStr Fixes.all ks vs idx) := by
  unfold dictGetStr
  split
  · refine NoPanic.bind (noPanic_getRequired (noPanic_primGet _ _ _)) ?_
    intro k
    split
    · exact NoPanic.fail _
    · refine NoPanic.bind (noPanic_tryIntoUsize _) ?_
      intro key
      exact noPanic_getRequired (noPanic_asStr (noPanic_bytesGet _ _ _ _))
  · exact NoPanic.fail _

/-! the steps that follow the getter in a scalar read look at no buffer -/

theorem plainOnly_intoInt (ty : IntTy) (x : Int) : PlainOnly (intoInt ty x) := by
  unfold intoInt; exact Errs.ite (Errs.ok _) (PlainOnly.fail _)

theorem plainOnly_dateRepr (ty : PrimTy) (x : Int) : PlainOnly (dateRepr ty x) := by
  unfold dateRepr Codec.dateToString
  refine Errs.bind ?_ (fun _ _ => Errs.pure _)
  dsimp only
  (repeat' split) <;> first | exact Errs.ok _ | exact PlainOnly.fail _

theorem plainOnly_timeRepr (u : SaModel.TimeUnit) (x : Int) : PlainOnly (timeRepr u x) := by
  unfold timeRepr Codec.timeToString
  refine Errs.bind ?_ (fun _ _ => Errs.pure _)
  split
  · exact Errs.ok _
  · exact PlainOnly.fail _

theorem plainOnly_timestampRepr (u : SaModel.TimeUnit) (tz : Option String) (x : Int) : PlainOnly (timestampRepr u tz x) := by
  unfold timestampRepr Codec.timestampToString
  refine Errs.bind ?_ (fun _ _ => Errs.pure _)
  split
  · exact Errs.ok _
  · exact PlainOnly.fail _

theorem plainOnly_ownedStr {r : R Bytes} (h : PlainOnly r) : PlainOnly (ownedStr r) := by
  unfold ownedStr; exact Errs.bind h (fun _ _ => Errs.pure _)

theorem plainOnly_ownedBytes {r : R Bytes} (h : PlainOnly r) : PlainOnly (ownedBytes r) := by
  unfold ownedBytes; exact Errs.bind h (fun _ _ => Errs.pure _)

theorem PlainOnly.rejected {α} : PlainOnly (rejected : R α) := PlainOnly.fail _

theorem plainOnly_strVariant : ∀ (vs : TVariants) (s : Bytes), PlainOnly (strVariant vs s)
  | .nil, _ => PlainOnly.fail _
  | .cons n k rest, s => by
    unfold strVariant
    split
    · split
      · exact Errs.ok _
      · exact PlainOnly.fail _
    · exact plainOnly_strVariant rest s

theorem plainOnly_accept (t : Target) (d : DVal) : PlainOnly (accept t d) := by
  unfold accept
  split <;> first | exact Errs.ok _ | exact PlainOnly.rejected | exact Errs.ite (Errs.ok _) PlainOnly.rejected

theorem plainOnly_u8As (t : Target) (b : UInt8) : PlainOnly (u8As t b) := by
  unfold u8As
  split <;> first | exact Errs.ok _ | exact PlainOnly.fail _ | exact Errs.ite (Errs.ok _) (PlainOnly.fail _)

theorem plainOnly_strDeAs (t : Target) (name : String) : PlainOnly (strDeAs t name) := by
  unfold strDeAs
  split <;> first
    | exact Errs.ok _ | exact PlainOnly.rejected
    | exact Errs.ite PlainOnly.rejected (plainOnly_strVariant _ _)
    | (split <;> first | exact Errs.ok _ | exact PlainOnly.rejected)

theorem plainOnly_structItem (fx : Fixes) (len idx : Nat) : PlainOnly (structItem fx len idx) :=
  Errs.ite (PlainOnly.fail _) (Errs.ok _)

theorem plainOnly_finishFields : ∀ (tfs : TFields) (pos : Nat) (slots : Slots), PlainOnly (finishFields tfs pos slots)
  | .nil, _, _ => by unfold finishFields; exact Errs.ok _
  | .cons n t rest, pos, slots => by
    unfold finishFields
    refine Errs.bind ?_ (fun _ _ => ?_)
    · unfold slotOrMissing
      split
      · exact Errs.ok _
      · exact Errs.ite (Errs.ok _) (PlainOnly.fail _)
    · exact Errs.bind (plainOnly_finishFields rest (pos + 1) slots) (fun _ _ => Errs.pure _)

/-- `Deserializer::get(idx)` hands out an item exactly below the length, and the item is read by the root struct reader -/
theorem readRecord_some {fx : Fixes} {t : Target} {fm : FieldMeta} {col : Arr} {idx : Nat} {r : R DVal} :
    readRecord fx t fm col idx = some r ↔ idx < vlen col ∧ r = readAs fx t (record fm col) idx := by
  unfold readRecord
  split
  · exact ⟨nofun, fun h => absurd h.1 (by omega)⟩
  · exact ⟨fun h => ⟨by omega, (Option.some.inj h).symm⟩, fun h => h.2 ▸ rfl⟩

/-- the targets whose read is `deserialize_<m>` and the visitor, on every array -/
theorem readAs_of_method {fx : Fixes} {t : Target} {m : Method} (hm : methodOf t = some m) (hb : t ≠ .bytes)
    (hb' : t ≠ .byteBuf) (a : Arr) (i : Nat) : readAs fx t a i = (do accept t (← scalar fx m a i)) := by
  cases t <;> cases hm <;> first | (unfold readAs; rfl) | exact absurd rfl hb | exact absurd rfl hb'

/-! ### the catch-all arms of the typed reads, stated once -/

theorem readAs_bytes_other {fx : Fixes} {a : Arr} {i : Nat} (hl : ∀ lg v offs fm el, a ≠ .list lg v offs fm el) :
    readAs fx .bytes a i = (scalar fx .bytes a i >>= accept .bytes) := by
  unfold readAs
  split
  · exact absurd rfl (hl _ _ _ _ _)
  · rfl

theorem readAs_byteBuf_other {fx : Fixes} {a : Arr} {i : Nat} (hl : ∀ lg v offs fm el, a ≠ .list lg v offs fm el) :
    readAs fx .byteBuf a i = (scalar fx .byteBuf a i >>= accept .byteBuf) := by
  unfold readAs
  split
  · exact absurd rfl (hl _ _ _ _ _)
  · rfl

theorem readAs_seq_other {fx : Fixes} {t : Target} {a : Arr} {i : Nat} (hl : ∀ lg v offs fm el, a ≠ .list lg v offs fm el)
    (hf : ∀ len v n fm el, a ≠ .fixedSizeList len v n fm el) :
    readAs fx (.seq t) a i =
      match binaryElems fx a i with
      | some rb => do
        let b ← rb
        pure (.seq (DVals.ofList (← b.mapM (u8As t))))
      | none => notImpl := by
  unfold readAs
  split
  · exact absurd rfl (hl _ _ _ _ _)
  · exact absurd rfl (hf _ _ _ _ _)
  · rfl

theorem readAs_map_other {fx : Fixes} {k v : Target} {a : Arr} {i : Nat} (hs : ∀ len vl fs, a ≠ .struct len vl fs)
    (hm : ∀ vl offs mm ks vs, a ≠ .map vl offs mm ks vs) : readAs fx (.map k v) a i = notImpl := by
  unfold readAs
  split
  · exact absurd rfl (hs _ _ _)
  · exact absurd rfl (hm _ _ _ _ _)
  · rfl

theorem readAs_enum_other {fx : Fixes} {byIndex : Bool} {vs : TVariants} {a : Arr} {i : Nat}
    (hu : ∀ types offs fs, a ≠ .union types offs fs) :
    readAs fx (.enum byIndex vs) a i =
      match stringElem fx a i with
      | some rs => do
        let s ← rs
        if byIndex then fail "Unsupported: EnumDeserializer does not implement deserialize_u64"
        else readVariantAsBytes fx vs s
      | none => notImpl := by
  unfold readAs
  split
  · exact absurd rfl (hu _ _ _)
  · rfl

theorem tupleVisit_other {fx : Fixes} {rf : ArrFields → R (List DVal)} {a : Arr} {i : Nat}
    (hs : ∀ len v fs, a ≠ .struct len v fs) : tupleVisit fx rf a i = notImpl := by
  unfold tupleVisit
  split
  · exact absurd rfl (hs _ _ _)
  · rfl

theorem structVisit_other {fx : Fixes} {rf : Slots → String → Arr → R (Option (Nat × DVal))} {tfs : TFields} {a : Arr} {i : Nat}
    (hs : ∀ len v fs, a ≠ .struct len v fs) : structVisit fx rf tfs a i = notImpl := by
  unfold structVisit
  split
  · exact absurd rfl (hs _ _ _)
  · rfl

end SaModel.Read
