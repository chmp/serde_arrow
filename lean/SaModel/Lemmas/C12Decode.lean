import SaModel.Lemmas.C12Basic
/-
C12 helpers: decoding commutes with slicing, every constructor.
-/
namespace SaModel.Lemmas.C12
open SaModel SaModel.Read SaModel.Spec

theorem ids_sliceUFields : ∀ (fs : ArrUFields) (o l : Nat), ArrUFields.ids (sliceUFields fs o l) = ArrUFields.ids fs
  | .nil, _, _ => by simp only [sliceUFields, ArrUFields.ids]
  | .cons _ _ _ r, o, l => by simp only [sliceUFields, ArrUFields.ids, ids_sliceUFields r o l]

/-- the entries of row `i` of a FixedSizeList slice are the entries of row `o + i` of the whole array, given that the
child's slots commute (`hc`) -/
theorem fsl_range_slice (el el' : Arr) (o l i N len : Nat) (hi : i < l) (h : o + l ≤ len) (hL : len * N ≤ lenOf el)
    (hlen : lenOf el' = l * N)
    (hc : ∀ j, j < l * N → decodeAt el' j = decodeAt el (o * N + j)) :
    rangeAt (decodeAt el') (lenOf el') ((i : Int) * (N : Int)) (((i : Int) + 1) * (N : Int))
      = rangeAt (decodeAt el) (lenOf el) (((o + i : Nat) : Int) * (N : Int)) ((((o + i : Nat) : Int) + 1) * (N : Int)) := by
  have e1 : (i : Int) * (N : Int) = ((i * N : Nat) : Int) := by rw [Int.natCast_mul]
  have e2 : ((i : Int) + 1) * (N : Int) = (((i + 1) * N : Nat) : Int) := by rw [Int.natCast_mul]; simp
  have e3 : ((o + i : Nat) : Int) * (N : Int) = (((o + i) * N : Nat) : Int) := by rw [Int.natCast_mul]
  have e4 : (((o + i : Nat) : Int) + 1) * (N : Int) = (((o + i + 1) * N : Nat) : Int) := by rw [Int.natCast_mul]; simp
  have a1 : i * N ≤ (i + 1) * N := Nat.mul_le_mul_right N (by omega)
  have a2 : (i + 1) * N ≤ l * N := Nat.mul_le_mul_right N (by omega)
  have a3 : (o + i) * N ≤ (o + i + 1) * N := Nat.mul_le_mul_right N (by omega)
  have a4 : (o + i + 1) * N ≤ lenOf el := Nat.le_trans (Nat.mul_le_mul_right N (by omega)) hL
  have w1 : (i + 1) * N - i * N = N := by rw [Nat.add_mul]; omega
  have w2 : (o + i + 1) * N - (o + i) * N = N := by rw [Nat.add_mul (o + i) 1 N]; omega
  rw [e1, e2, e3, e4, rangeAt_natCast _ _ _ _ a1 (by rw [hlen]; exact a2), rangeAt_natCast _ _ _ _ a3 a4, w1, w2]
  apply seqAt_congr
  intro j hj
  have hlt : i * N + j < l * N := by
    have : (i + 1) * N = i * N + N := by rw [Nat.add_mul]; omega
    omega
  rw [hc _ hlt, Nat.add_mul, Nat.add_assoc]

mutual
/-- C12, slot-wise: reading slot `i` of the slice is reading slot `o + i` of the whole array — every
constructor, nested to any depth -/
theorem decodeAt_slice : ∀ (a : Arr) (o l i : Nat), i < l → o + l ≤ lenOf a → sliceable a = true →
    decodeAt (sliceView a o l) i = decodeAt a (o + i)
  | .null len, o, l, i, hi, h, _ => by
    simp only [lenOf] at h
    have : o + i < len := by omega
    simp only [sliceView, decodeAt, hi, this, if_true]
  | .boolean len v vals, o, l, i, hi, h, _ => by
    simp only [lenOf] at h
    have : o + i < len := by omega
    simp only [sliceView, decodeAt, hi, this, if_true, withValidity_shift, getBit_shift]
  | .fixedSizeBinary n v data, o, l, i, hi, h, _ => by
    simp only [lenOf] at h
    by_cases hn : n ≤ 0
    · simp only [hn, if_true] at h; omega
    · simp only [hn, if_false] at h
      have hpos : 0 < n.toNat := by omega
      have hw := mul_window_le h (Nat.div_mul_le_self data.length n.toNat)
      have h1 : o + i < data.length / n.toNat := by omega
      have h2 : i < (l * n.toNat) / n.toNat := by rw [Nat.mul_div_cancel l hpos]; exact hi
      have h3 : i * n.toNat + n.toNat ≤ l * n.toNat := by
        have := Nat.mul_le_mul_right n.toNat (show i + 1 ≤ l by omega)
        rw [Nat.add_mul] at this; omega
      simp only [sliceView, decodeAt, hn, if_false, window_length _ _ _ hw, h1, h2, if_true, withValidity_shift,
        drop_take_window _ _ _ _ _ h3, Nat.add_mul]
  | .struct len v fs, o, l, i, hi, h, hs => by
    simp only [lenOf] at h
    simp only [sliceable] at hs
    have : o + i < len := by omega
    simp only [sliceView, decodeAt, hi, this, if_true, withValidity_shift, decodeFieldsAt_slice fs len o l i hi h hs]
  | .fixedSizeList len v n fm el, o, l, i, hi, h, hs => by
    simp only [lenOf] at h
    simp only [sliceable, Bool.and_eq_true, decide_eq_true_eq] at hs
    have h1 : o + i < len := by omega
    simp only [sliceView, decodeAt, hi, h1, if_true, withValidity_shift]
    congr 1
    by_cases hn : n < 0
    · simp only [hn, if_true]
    · simp only [hn, if_false]
      obtain ⟨N, rfl⟩ := Int.eq_ofNat_of_zero_le (show 0 ≤ n by omega)
      simp only [Int.toNat_natCast] at hs ⊢
      have hw := mul_window_le h hs.1
      rw [fsl_range_slice el (sliceView el (o * N) (l * N)) o l i N len hi h hs.1 (lenOf_slice el _ _ hw)
        (fun j hj => decodeAt_slice el (o * N) (l * N) j hj hw hs.2)]
  | .dictionary ks vs, o, l, i, hi, h, hs => by
    simp only [lenOf] at h
    simp only [sliceable] at hs
    have : o + i < lenOf ks := by omega
    simp only [sliceView, decodeAt, lenOf_slice ks o l h, hi, this, if_true, decodeAt_slice ks o l i hi h hs]
  | .union types offs fs, o, l, i, hi, h, hs => by
    simp only [lenOf] at h
    have h1 : o + i < types.length := by omega
    cases offs with
    | none =>
      simp only [sliceable] at hs
      simp only [sliceView, decodeAt, window_length _ _ _ h, hi, h1, if_true, window_getD _ _ _ _ _ hi, ids_sliceUFields]
      cases indexOfTypeId (ArrUFields.ids fs) (types.getD (o + i) 0) with
      | none => rfl
      | some pos => simp only [decodeVariantAt_slice fs types.length pos o l i hi h hs]
    | some ofs =>
      have hlen : (i < (window ofs o l).length) = (o + i < ofs.length) := by
        simp only [window, List.length_take, List.length_drop, eq_iff_iff]; omega
      simp only [sliceView, decodeAt, window_length _ _ _ h, hi, h1, if_true, window_getD _ _ _ _ _ hi, hlen]
  -- one entry per slot, windowed to `[o, o + l)`
  | .prim _ _ vals, o, l, i, hi, h, _ | .time _ _ _ vals, o, l, i, hi, h, _ | .timestamp _ _ _ vals, o, l, i, hi, h, _
  | .decimal128 _ _ _ vals, o, l, i, hi, h, _ | .bytesView _ _ vals _, o, l, i, hi, h, _ => by
    simp only [lenOf] at h
    have : o + i < vals.length := by omega
    simp only [sliceView, decodeAt, window_length _ _ _ h, hi, this, if_true, withValidity_shift, window_getD _ _ _ _ _ hi]
  -- `len + 1` offsets, windowed to `[o, o + l]`, into data / children that are not sliced
  | .bytes _ _ offs _, o, l, i, hi, h, _ | .list _ _ offs _ _, o, l, i, hi, h, _ | .map _ offs _ _ _, o, l, i, hi, h, _ => by
    simp only [lenOf] at h
    have hl : o + (l + 1) ≤ offs.length := by omega
    have h1 : o + i < offs.length - 1 := by omega
    have h2 : i < l + 1 - 1 := by omega
    simp only [sliceView, decodeAt, window_length _ _ _ hl, h1, h2, if_true, withValidity_shift,
      window_getD _ _ _ _ _ (show i < l + 1 by omega), window_getD _ _ _ _ _ (show i + 1 < l + 1 by omega), Nat.add_assoc]
theorem decodeFieldsAt_slice : ∀ (fs : ArrFields) (len o l i : Nat), i < l → o + l ≤ len → sliceableFields fs len = true →
    decodeFieldsAt (sliceFields fs o l) i = decodeFieldsAt fs (o + i)
  | .nil, _, _, _, _, _, _, _ => by simp only [sliceFields, decodeFieldsAt]
  | .cons fm a rest, len, o, l, i, hi, h, hs => by
    simp only [sliceableFields, Bool.and_eq_true, decide_eq_true_eq] at hs
    simp only [sliceFields, decodeFieldsAt, decodeAt_slice a o l i hi (by omega) hs.1.2,
      decodeFieldsAt_slice rest len o l i hi h hs.2]
theorem decodeVariantAt_slice : ∀ (fs : ArrUFields) (len pos o l i : Nat), i < l → o + l ≤ len →
    sliceableUFields fs len = true → decodeVariantAt (sliceUFields fs o l) pos i = decodeVariantAt fs pos (o + i)
  | .nil, _, _, _, _, _, _, _, _ => by simp only [sliceUFields, decodeVariantAt]
  | .cons tid fm a rest, len, 0, o, l, i, hi, h, hs => by
    simp only [sliceableUFields, Bool.and_eq_true, decide_eq_true_eq] at hs
    simp only [sliceUFields, decodeVariantAt, decodeAt_slice a o l i hi (by omega) hs.1.2]
  | .cons tid fm a rest, len, pos + 1, o, l, i, hi, h, hs => by
    simp only [sliceableUFields, Bool.and_eq_true, decide_eq_true_eq] at hs
    simp only [sliceUFields, decodeVariantAt, decodeVariantAt_slice rest len pos o l i hi h hs.2]
end

end SaModel.Lemmas.C12
