import SaModel.Lemmas.C06WF
import SaModel.Lemmas.C07TEnsure
/-
C07, tree level — the reachability invariant `WF` is the one of C06 (`C06.WF`: leaf alphabet, field counters) plus "the
fields of a struct node have distinct names and each field's tracer is named after the field" (`NM`).  Both parts are
`C06.Every` of a node predicate, so both are kept by `absorb`, for either code, through `C06.absorb_every`; the node
step of `NM` needs only that `absorb` keeps names.
-/
namespace SaModel.Lemmas.C07
open SaModel SaModel.Trace SaModel.Lemmas.C06

abbrev Ent := String × Nat × Tracer

def NamedL (l : List Ent) : Prop :=
  (∀ (i j : Nat) (ei ej : Ent), l[i]? = some ei → l[j]? = some ej → ei.1 = ej.1 → i = j) ∧
    ∀ (i : Nat) (e : Ent), l[i]? = some e → e.2.2.name = e.1

theorem NamedL.of_map {l l' : List Ent} (h : NamedL l) (g : Nat → Ent → Ent)
    (hl : ∀ j, l'[j]? = (l[j]?).map (g j))
    (hg : ∀ j e, l[j]? = some e → (g j e).1 = e.1 ∧ (g j e).2.2.name = e.2.2.name) : NamedL l' := by
  have inv : ∀ j e', l'[j]? = some e' → ∃ e, l[j]? = some e ∧ e' = g j e := fun j e' he => by
    rw [hl j] at he
    cases hj : l[j]? with
    | none => rw [hj] at he; cases he
    | some e => rw [hj] at he; exact ⟨e, rfl, (Option.some.inj he).symm⟩
  refine ⟨fun i j ei ej hi hj hn => ?_, fun i e' he => ?_⟩
  · obtain ⟨a, ha, rfl⟩ := inv i ei hi
    obtain ⟨b, hb, rfl⟩ := inv j ej hj
    rw [(hg i a ha).1, (hg j b hb).1] at hn
    exact h.1 i j a b ha hb hn
  · obtain ⟨e, he0, rfl⟩ := inv i e' he
    rw [(hg i e he0).1, (hg i e he0).2]; exact h.2 i e he0

theorem NamedL.modify {l : List Ent} (h : NamedL l) (i : Nat) (f : Ent → Ent)
    (hf : ∀ e, l[i]? = some e → (f e).1 = e.1 ∧ (f e).2.2.name = e.2.2.name) : NamedL (l.modify i f) :=
  h.of_map (fun j a => if i = j then f a else a) (fun j => List.getElem?_modify f i l j) fun j e he => by
    by_cases e' : i = j
    · subst e'; rw [if_pos rfl]; exact hf e he
    · rw [if_neg e']; exact ⟨rfl, rfl⟩

theorem NamedL.push {l : List Ent} (h : NamedL l) (k : String) (s : Nat) (x : Tracer) (hx : x.name = k)
    (hk : ∀ (i : Nat) (e : Ent), l[i]? = some e → e.1 ≠ k) : NamedL (l ++ [(k, s, x)]) := by
  have get : ∀ j e, (l ++ [(k, s, x)])[j]? = some e → (j < l.length ∧ l[j]? = some e) ∨ (j = l.length ∧ e = (k, s, x)) := by
    intro j e he
    rw [List.getElem?_append] at he
    split at he
    · exact .inl ⟨by assumption, he⟩
    · rename_i hj
      cases hd : j - l.length with
      | zero => rw [hd] at he; exact .inr ⟨by omega, (Option.some.inj he).symm⟩
      | succ d => rw [hd] at he; cases he
  refine ⟨fun i j ei ej hi hj hn => ?_, fun i e he => ?_⟩
  · rcases get i ei hi with ⟨_, hi'⟩ | ⟨hi', rfl⟩ <;> rcases get j ej hj with ⟨_, hj'⟩ | ⟨hj', rfl⟩
    · exact h.1 i j ei ej hi' hj' hn
    · exact absurd hn (hk i ei hi')
    · exact absurd hn.symm (hk j ej hj')
    · rw [hi', hj']
  · rcases get i e he with ⟨_, he⟩ | ⟨_, rfl⟩
    · exact h.2 i e he
    · exact hx

def Named (fs : TFields) : Prop := NamedL fs.toList

theorem indexOf_none_ne : ∀ {fs : TFields} {k : String}, fs.indexOf k = none →
    ∀ (i : Nat) (e : Ent), fs.toList[i]? = some e → e.1 ≠ k
  | .nil, _, _, i, e, he => by cases he
  | .cons n l t r, k, h, i, e, he => by
    simp only [TFields.indexOf] at h
    by_cases hn : n = k
    · rw [if_pos hn] at h; cases h
    · rw [if_neg hn] at h
      cases i with
      | zero => cases he; exact hn
      | succ i =>
        refine indexOf_none_ne (fs := r) ?_ i e he
        cases hr : r.indexOf k with
        | none => rfl
        | some j => rw [hr] at h; cases h

theorem toList_end (s : Nat) : ∀ fs : TFields, (fs.end_ s).toList =
    fs.toList.map fun e => (e.1, e.2.1, if e.2.1 != s then e.2.2.mark_nullable else e.2.2)
  | .nil => rfl
  | .cons n l t r => by rw [TFields.end_, TFields.toList, TFields.toList, List.map_cons, toList_end s r]

theorem Named.set {fs : TFields} (h : Named fs) {i : Nat} {ft x : Tracer} (hg : fs.get? i = some ft)
    (hx : x.name = ft.name) : Named (fs.set i x) := by
  rw [Named, TFields.toList_set]
  refine NamedL.modify h i _ fun e he => ⟨rfl, ?_⟩
  rw [TFields.get?_eq, he] at hg
  rw [← Option.some.inj hg] at hx; exact hx

theorem Named.ensure_field {fs : TFields} (h : Named fs) (path : String) (s : Nat) (k : String) :
    Named (ensure_field path s fs k).2 := by
  cases hi : fs.indexOf k with
  | some i =>
    rw [ensure_field_found hi, Named, TFields.toList_setLastSeen]
    exact NamedL.modify h i _ fun e _ => ⟨rfl, rfl⟩
  | none =>
    rw [ensure_field_new hi, Named, TFields.toList_push]
    exact NamedL.push h k s _ (by split <;> rfl) (indexOf_none_ne hi)

theorem Named.end_ {fs : TFields} (h : Named fs) (s : Nat) : Named (fs.end_ s) := by
  rw [Named, toList_end]
  refine NamedL.of_map h (fun _ e => (e.1, e.2.1, if e.2.1 != s then e.2.2.mark_nullable else e.2.2))
    (fun j => List.getElem?_map) fun j e _ => ⟨rfl, ?_⟩
  dsimp only; split
  · exact name_mark _
  · rfl

/-- the field loop keeps `Named`: `absorb` keeps the name of the tracer it is applied to -/
theorem absorbKVs_named {c : Code} {o : Options} (path : String) (s : Nat) : ∀ (kvs : List (String × SVal)) (fs fs' : TFields),
    Named fs → absorbKVs c o path s fs kvs = .ok fs' → Named fs'
  | [], fs, fs', h, hk => by cases hk; exact h
  | kv :: kvs, fs, fs', h, hk => by
    obtain ⟨ft, ft', hg, ha, hk⟩ := absorbKVs_cons_ok.mp hk
    exact absorbKVs_named path s kvs _ fs' ((h.ensure_field path s kv.1).set hg (absorb_keeps c o _ _ _ ha).2.2.1) hk

def nmNode : Tracer → Prop
  | .struct _ _ _ fs _ _ => Named fs
  | _ => True

theorem nmNode_mark {t : Tracer} (h : nmNode t) : nmNode t.mark_nullable := by cases t <;> exact h

theorem nmNode_step (c : Code) (o : Options) : ∀ x t t', nmNode t → absorb c o t x = .ok t' → nmNode t' := by
  intro x t t' hw h
  revert hw
  refine absorb_rel c o (fun t t' => nmNode t → nmNode t') ?_ ?_ ?_ ?_ ?_ ?_ ?_ ?_ x t t' h
  · exact fun t => nmNode_mark
  · exact fun t t2 h hw => h (nmNode_mark hw)
  · intro t ty t2 _ h hw
    rcases ensure_primitive_ok h with ⟨_, _, _, _, rfl⟩ | ⟨_, _, _, _, _, _, _, _, _, _, rfl⟩ | ⟨_, _, _, rfl⟩
    · trivial
    · trivial
    · exact nmNode_mark hw
  · exact fun _ _ _ _ _ _ _ _ _ _ _ => trivial
  · exact fun _ _ _ _ _ _ _ _ _ _ _ _ _ _ _ _ => trivial
  · exact fun _ _ _ _ _ _ _ _ _ _ _ => trivial
  · intro t mode n p nl fs m s kvs fs' _ h h2 hw
    refine (absorbKVs_named p s kvs fs fs' ?_ h2).end_ s
    obtain ⟨_, ⟨_, he⟩ | ⟨_, _, _, _, _, _, rfl, he⟩⟩ := ensure_struct_ok h <;> cases he
    · exact show NamedL [] from ⟨fun i j ei ej hi _ _ => (nomatch hi), fun i e he => (nomatch he)⟩
    · exact hw
  · exact fun _ _ _ _ _ _ _ _ _ _ _ _ _ _ _ _ _ _ => trivial

def NM (t : Tracer) : Prop := Every nmNode t

theorem absorb_nm (c : Code) (o : Options) {x : SVal} {t t' : Tracer} (hw : NM t) (h : absorb c o t x = .ok t') :
    NM t' :=
  absorb_every (fun _ _ => trivial) (nmNode_step c o) x t t' hw h


theorem NamedL_cons (e : Ent) (l : List Ent) :
    NamedL (e :: l) ↔ (∀ (i : Nat) (e' : Ent), l[i]? = some e' → e'.1 ≠ e.1) ∧ e.2.2.name = e.1 ∧ NamedL l := by
  constructor
  · intro h
    refine ⟨fun i e' he hn => ?_, h.2 0 e rfl, fun i j ei ej hi hj hn => ?_, fun i e' he => h.2 (i + 1) e' he⟩
    · exact absurd (h.1 (i + 1) 0 e' e he rfl hn) (Nat.succ_ne_zero i)
    · exact Nat.succ.inj (h.1 (i + 1) (j + 1) ei ej hi hj hn)
  · rintro ⟨h1, h2, h3⟩
    refine ⟨fun i j ei ej hi hj hn => ?_, fun i e' he => ?_⟩
    · cases i <;> cases j
      · rfl
      · cases hi; exact absurd hn.symm (h1 _ ej hj)
      · cases hj; exact absurd hn (h1 _ ei hi)
      · rw [h3.1 _ _ ei ej hi hj hn]
    · cases i
      · cases he; exact h2
      · exact h3.2 _ e' he

theorem find_none_iff : ∀ {fs : TFields} {k : String},
    fs.find k = none ↔ ∀ (i : Nat) (e : Ent), fs.toList[i]? = some e → e.1 ≠ k
  | .nil, k => ⟨fun _ i e he => (nomatch he), fun _ => rfl⟩
  | .cons n l t r, k => by
    simp only [TFields.find]
    by_cases hn : n = k
    · rw [if_pos hn]; exact ⟨fun h => (nomatch h), fun h => absurd hn (h 0 _ rfl)⟩
    · rw [if_neg hn, find_none_iff (fs := r)]
      exact ⟨fun h i e he => by cases i with
        | zero => cases he; exact hn
        | succ i => exact h i e he, fun h i e he => h (i + 1) e he⟩

mutual
theorem wf7_iff (o : Options) : ∀ t : Tracer, WF o t ↔ C06.WF o t ∧ NM t
  | .unknown _ _ _ => by simp [WF, C06.WF, NM, Every, nmNode]
  | .primitive _ _ _ _ _ => by simp [WF, C06.WF, NM, Every, nmNode]
  | .list _ _ _ i => by simp only [WF, C06.WF, NM, Every, nmNode, true_and]; exact wf7_iff o i
  | .map _ _ _ k v => by
    simp only [WF, C06.WF, NM, Every, nmNode, true_and, wf7_iff o k, wf7_iff o v, NM]
    exact ⟨fun ⟨⟨a, b⟩, c, d⟩ => ⟨⟨a, c⟩, b, d⟩, fun ⟨⟨a, c⟩, b, d⟩ => ⟨⟨a, b⟩, c, d⟩⟩
  | .struct _ _ _ fs _ s => by
    simp only [WF, C06.WF, NM, Every, nmNode, wf7F_iff o s fs]
    exact ⟨fun ⟨a, b, c⟩ => ⟨a, c, b⟩, fun ⟨a, c, b⟩ => ⟨a, b, c⟩⟩
  | .tuple _ _ _ ts => by simp only [WF, C06.WF, NM, Every, nmNode, true_and]; exact wf7T_iff o ts
  | .union _ _ _ vs => by simp only [WF, C06.WF, NM, Every, nmNode, true_and]; exact wf7V_iff o vs
theorem wf7T_iff (o : Options) : ∀ ts : Tracers, TsWF o ts ↔ WFT o ts ∧ EveryT nmNode ts
  | .nil => by simp [TsWF, WFT, EveryT]
  | .cons t r => by
    simp only [TsWF, WFT, EveryT, wf7_iff o t, wf7T_iff o r, NM]
    exact ⟨fun ⟨⟨a, b⟩, c, d⟩ => ⟨⟨a, c⟩, b, d⟩, fun ⟨⟨a, c⟩, b, d⟩ => ⟨⟨a, b⟩, c, d⟩⟩
theorem wf7F_iff (o : Options) (s : Nat) : ∀ fs : TFields, FWF o s fs ↔ WFF o s fs ∧ EveryF nmNode fs ∧ Named fs
  | .nil => by
    simp only [FWF, WFF, EveryF, true_and]
    exact ⟨fun _ => ⟨fun i j ei ej hi _ _ => (nomatch hi), fun i e he => (nomatch he)⟩, fun _ => trivial⟩
  | .cons n l t r => by
    simp only [FWF, WFF, EveryF, Named, TFields.toList, NamedL_cons, wf7_iff o t, wf7F_iff o s r, NM, find_none_iff]
    exact ⟨fun ⟨a, b, c, ⟨d, e⟩, f, g, h⟩ => ⟨⟨a, d, f⟩, ⟨e, g⟩, b, c, h⟩,
      fun ⟨⟨a, d, f⟩, ⟨e, g⟩, b, c, h⟩ => ⟨a, b, c, ⟨d, e⟩, f, g, h⟩⟩
theorem wf7V_iff (o : Options) : ∀ vs : Variants, VWF o vs ↔ WFV o vs ∧ EveryV nmNode vs
  | .nil => by simp [VWF, WFV, EveryV]
  | .absent r => by simp only [VWF, WFV, EveryV]; exact wf7V_iff o r
  | .present _ t r => by
    simp only [VWF, WFV, EveryV, wf7_iff o t, wf7V_iff o r, NM]
    exact ⟨fun ⟨⟨a, b⟩, c, d⟩ => ⟨⟨a, c⟩, b, d⟩, fun ⟨⟨a, c⟩, b, d⟩ => ⟨⟨a, b⟩, c, d⟩⟩
end

theorem absorb_wf7 (c : Code) (o : Options) {x : SVal} {t a : Tracer} (hw : WF o t) (h : absorb c o t x = .ok a) :
    WF o a := by
  rw [wf7_iff] at hw ⊢
  exact ⟨C06.absorb_wf c o x t a hw.1 h, absorb_nm c o hw.2 h⟩

theorem absorb_wf (o : Options) {t a : Tracer} {x : SVal} (hw : WF o t) (h : absorb .fixed o t x = .ok a) : WF o a :=
  absorb_wf7 .fixed o hw h

theorem absorbAll_name (o : Options) (xs : List SVal) (t a : Tracer) (h : absorbAll .fixed o t xs = .ok a) :
    a.name = t.name :=
  (C06.Steps.keeps ⟨xs, h⟩).2.2.1

theorem absorbAll_wf (o : Options) : ∀ {xs : List SVal} {t a : Tracer}, WF o t → absorbAll .fixed o t xs = .ok a → WF o a
  | [], t, a, hw, h => by cases h; exact hw
  | x :: xs, t, a, hw, h => by
    obtain ⟨m, h1, h2⟩ := C06.absorbAll_cons_ok.mp h
    exact absorbAll_wf o (absorb_wf o hw h1) h2

end SaModel.Lemmas.C07
