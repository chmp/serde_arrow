import SaModel.Lemmas.C09Dsl
/-
`parseTerm (showTerm t ++ rest) = (t, rest)` for every well-formed term (C09, dsl level), by structural recursion
over the mutual `Term` / `Terms`.
-/
namespace SaModel.Dsl

mutual
/-- fuel that certainly suffices to parse the printed form -/
def Term.need : Term → Nat
  | .mk _ _ args => args.need + 2
def Terms.need : Terms → Nat
  | .nil => 0
  | .cons t r => max t.need r.need + 1
end

mutual
/-- well-formed: an unquoted name is a non-empty run of identifier characters -/
def Term.OK : Term → Prop
  | .mk name quoted args => (quoted = false → name ≠ [] ∧ ∀ c ∈ name, isIdentChar c = true) ∧ args.OK
def Terms.OK : Terms → Prop
  | .nil => True
  | .cons t r => t.OK ∧ r.OK
end

/-- what may follow a printed term: nothing, a comma or a closing parenthesis -/
def RestOK (rest : Text) : Prop := ∀ c r, rest = c :: r → c = ',' ∨ c = ')'

theorem RestOK.not_ident {rest : Text} (h : RestOK rest) : ∀ c r, rest = c :: r → isIdentChar c = false := by
  intro c r hr
  rcases h c r hr with rfl | rfl <;> decide

theorem RestOK.trim {rest : Text} (h : RestOK rest) : trimStart rest = rest := by
  cases rest with
  | nil => rfl
  | cons c r =>
    apply trimStart_cons_of_not_ws
    rcases h c r rfl with rfl | rfl <;> decide

theorem RestOK.not_paren {rest : Text} (h : RestOK rest) : startsWith '(' rest = false := by
  cases rest with
  | nil => rfl
  | cons c r =>
    rcases h c r rfl with rfl | rfl <;> rfl

theorem restOK_tail (esc : Char → Bool) (r : Terms) (rest : Text) : RestOK (showArgsTail esc r ++ rest) := by
  intro c r' h
  cases r with
  | nil => simp [showArgsTail] at h; exact Or.inr h.1.symm
  | cons t r => simp [showArgsTail] at h; exact Or.inl h.1.symm

theorem parseArgLoop_space (p : Bool) (f : Nat) (s : Text) : parseArgLoop p f (' ' :: s) = parseArgLoop p f s := by
  cases f with
  | zero => simp [parseArgLoop]
  | succ f =>
    have : trimStart (' ' :: s) = trimStart s := by
      have : isWhitespace ' ' = true := by decide
      simp [trimStart, this]
    simp [parseArgLoop, this]

theorem trimStart_showTerm (esc : Char → Bool) (t : Term) (h : t.OK) (x : Text) :
    trimStart (showTerm esc t ++ x) = showTerm esc t ++ x := by
  cases t with
  | mk name quoted args =>
    simp only [Term.OK] at h
    cases quoted with
    | true =>
      simp only [showTerm, showQuoted, ↓reduceIte, List.cons_append]
      exact trimStart_cons_of_not_ws (by decide)
    | false =>
      obtain ⟨hne, hid⟩ := h.1 rfl
      cases name with
      | nil => exact absurd rfl hne
      | cons c n =>
        simp only [showTerm, Bool.false_eq_true, ↓reduceIte, List.cons_append]
        exact trimStart_cons_of_not_ws (identChar_not_ws (hid c (by simp)))

theorem parseTermName_show (esc : Char → Bool) (name : Text) (quoted : Bool)
    (h : quoted = false → name ≠ [] ∧ ∀ c ∈ name, isIdentChar c = true) (x : Text)
    (hx : ∀ c r, x = c :: r → isIdentChar c = false) :
    parseTermName false ((if quoted then showQuoted esc name else name) ++ x) = .ok (name, quoted, x) := by
  cases quoted with
  | true =>
    have := scanQuoted_escapeStr esc name x
    simp only [↓reduceIte, showQuoted, List.cons_append, List.append_assoc, List.nil_append, parseTermName, startsWith,
      decide_true, List.tail_cons, Bool.false_eq_true, this]
    rfl
  | false =>
    obtain ⟨hne, hid⟩ := h rfl
    cases name with
    | nil => exact absurd rfl hne
    | cons c n =>
      have hq : c ≠ '"' := by
        intro hc; subst hc
        have := hid '"' (by simp)
        revert this; decide
      have hs := spanIdent_append (c :: n) x hid hx
      simp only [List.cons_append] at hs
      simp only [Bool.false_eq_true, ↓reduceIte, List.cons_append, parseTermName, startsWith, hq, decide_false,
        parseIdentTermName, hs]
      rfl

mutual
theorem parseTerm_show (esc : Char → Bool) : (t : Term) → t.OK → ∀ (f : Nat) (rest : Text), t.need ≤ f → RestOK rest →
    parseTerm false f (showTerm esc t ++ rest) = .ok (t, rest)
  | .mk name quoted args, hok, f, rest, hf, hrest => by
    simp only [Term.need] at hf
    obtain ⟨f', rfl⟩ : ∃ f', f = f' + 1 := ⟨f - 1, by omega⟩
    obtain ⟨f'', rfl⟩ : ∃ f'', f' = f'' + 1 := ⟨f' - 1, by omega⟩
    simp only [Term.OK] at hok
    have htrim := trimStart_showTerm esc (.mk name quoted args) (by simpa [Term.OK] using hok) rest
    -- what follows the name is `(`, or the rest
    have hx : ∀ c r, showArgs esc args ++ rest = c :: r → isIdentChar c = false := by
      intro c r h
      cases args with
      | nil => exact hrest.not_ident c r (by simpa [showArgs] using h)
      | cons a as =>
        simp [showArgs] at h
        rw [← h.1]; decide
    have hname := parseTermName_show esc name quoted hok.1 (showArgs esc args ++ rest) hx
    have htrim2 : trimStart (showArgs esc args ++ rest) = showArgs esc args ++ rest := by
      cases args with
      | nil => simpa [showArgs] using hrest.trim
      | cons a as =>
        simp only [showArgs, List.cons_append]
        exact trimStart_cons_of_not_ws (by decide)
    have hargs : parseArguments false (f'' + 1) (showArgs esc args ++ rest) = .ok (args, rest) := by
      cases args with
      | nil =>
        simp only [showArgs, List.nil_append, parseArguments, hrest.not_paren, Bool.false_eq_true, ↓reduceIte]
        rfl
      | cons a as =>
        have hl := parseArgLoop_show esc (.cons a as) hok.2 (by simp) f'' rest (by simp only [Terms.need] at hf ⊢; omega)
        have hp : trimStart (')' :: rest) = ')' :: rest := trimStart_cons_of_not_ws (by decide)
        have hs1 : ∀ x, startsWith '(' ('(' :: x) = true := by intro x; simp [startsWith]
        have hs2 : ∀ x, startsWith ')' (')' :: x) = true := by intro x; simp [startsWith]
        simp only [showArgs, List.tail_cons, List.append_assoc] at hl
        simp only [showArgs, List.cons_append, List.append_assoc, parseArguments, hs1, ↓reduceIte,
          List.tail_cons, hl, bind, Except.bind, hp, hs2]
        rfl
    rw [showTerm, List.append_assoc] at htrim ⊢
    simp only [parseTerm, htrim, hname, bind, Except.bind, htrim2, hargs]
    rfl
theorem parseArgLoop_show (esc : Char → Bool) : (ts : Terms) → ts.OK → ts ≠ .nil → ∀ (f : Nat) (rest : Text), ts.need ≤ f →
    parseArgLoop false f ((showArgs esc ts).tail ++ rest) = .ok (ts, ')' :: rest)
  | .nil, _, hne, _, _, _ => absurd rfl hne
  | .cons t r, hok, _, f, rest, hf => by
    simp only [Terms.need] at hf
    obtain ⟨f', rfl⟩ : ∃ f', f = f' + 1 := ⟨f - 1, by omega⟩
    simp only [Terms.OK] at hok
    have ht := parseTerm_show esc t hok.1 f' (showArgsTail esc r ++ rest) (by omega) (restOK_tail esc r rest)
    have htrim := trimStart_showTerm esc t hok.1 (showArgsTail esc r ++ rest)
    have htrim2 := (restOK_tail esc r rest).trim
    simp only [showArgs, List.tail_cons, List.append_assoc, parseArgLoop, htrim, ht, bind, Except.bind, htrim2]
    cases r with
    | nil =>
      have hs : startsWith ',' (')' :: rest) = false := by simp [startsWith]
      simp only [showArgsTail, List.cons_append, List.nil_append, hs, Bool.false_eq_true, ↓reduceIte]
      rfl
    | cons t' r' =>
      have hl := parseArgLoop_show esc (.cons t' r') hok.2 (by simp) f' rest (by omega)
      have hs : ∀ x, startsWith ',' (',' :: x) = true := by intro x; simp [startsWith]
      simp only [showArgs, List.tail_cons, List.append_assoc] at hl
      simp only [showArgsTail, List.cons_append, List.append_assoc, hs, ↓reduceIte, List.tail_cons,
        parseArgLoop_space, hl]
      rfl
end

/-- `Term::from_str` reads a printed term back, or refuses it as too deep; `hf`: the fuel `from_str` takes from the length of the
text covers the term (a bound on `need`, instance by instance) -/
theorem fromStr_show (esc : Char → Bool) (t : Term) (hok : t.OK) (hf : t.need ≤ 3 * (showTerm esc t).length + 16) :
    Term.fromStr (showTerm esc t) = if t.depth > MAX_TERM_DEPTH then fail "Term is nested too deeply" else .ok t := by
  have hp := parseTerm_show esc t hok _ [] hf (by intro c r h; cases h)
  rw [List.append_nil] at hp
  simp only [Term.fromStr, Term.fromStrWith, hp, bind, Except.bind, trimStart]
  rfl

end SaModel.Dsl
