import SaModel.Lemmas.C01Leaf
/-
What the step lemmas of the container families share (`maskNull` on constant bits, `BL.get?` / `BL.set`, `colAt`, the
counters of a union) and the one step that is genuinely strict: `dict_append` (the keys grew, the values grew, every new key
designates a value).  The other strict steps (`list_step`, `fsl_append`, `map_step`, `struct_append`, `union_append`) are
Lemmas/C01Strict.lean: corollaries of their observable twins (Lemmas/C01ObsCont.lean).
-/
namespace SaModel.Build
open SaModel SaModel.Spec

theorem maskNull_const_false (v : Validity) (k : Nat) (ys : List LVal) (hy : ys.length = k) :
    maskNull (v.map fun _ => List.replicate k false) ys = if v.isSome then List.replicate k LVal.null else ys := by
  cases v with
  | none => simp [maskNull]
  | some bits =>
    simp only [maskNull, Option.map_some, Option.isSome_some, if_true]
    subst hy
    induction ys with
    | nil => rfl
    | cons y ys ih => simp [List.replicate_succ, ih]

theorem maskNull_const_length (v : Validity) (bs : List Bool) (ys : List LVal) (hy : ys.length = bs.length) :
    (maskNull (v.map fun _ => bs) ys).length = ys.length := by
  cases v with
  | none => simp [maskNull]
  | some bits => simp [maskNull, hy]

theorem maskNull_const_one (v : Validity) (b : Bool) (y : LVal) :
    maskNull (v.map fun _ => [b]) [y] = [rowOf v b y] := by
  cases v with
  | none => simp [maskNull]
  | some bits => cases b <;> simp [maskNull, rowOf]

/-! ### dictionary -/

def dictRow (vs : List LVal) (k : LVal) : LVal :=
  match k with
  | .int j => vs.getD j.toNat .null
  | _ => .null

theorem dec_dictionary (p : String) (idx vals : B) (index : List String) :
    dec (.dictionary p idx vals index) = (dec idx).map (dictRow (dec vals)) := by
  simp only [dec]
  apply List.map_congr_left
  intro k _
  cases k <;> rfl

theorem dictRow_append {vs : List LVal} (ws : List LVal) {k : LVal}
    (hk : ∀ j : Int, k = .int j → 0 ≤ j ∧ j.toNat < vs.length) : dictRow (vs ++ ws) k = dictRow vs k := by
  cases k with
  | int j =>
    have := (hk j rfl).2
    simp only [dictRow, List.getD_eq_getElem?_getD]
    rw [List.getElem?_append_left this]
  | _ => rfl

/-- a dictionary row: the keys grew by `lk`, the values by `lw`, the index by as many entries as the values -/
theorem dict_append {p : String} {idx vals idx' vals' : B} {index : List String}
    (hwf : WFB (.dictionary p idx vals index)) (lk lw : List LVal) (index' : List String)
    (hi : WFB idx') (hv : WFB vals') (hdi : dec idx' = dec idx ++ lk) (hdv : dec vals' = dec vals ++ lw)
    (hnd : (index ++ index').Nodup) (hlen : index'.length = lw.length)
    (hkeys : ∀ k ∈ lk, ∀ j : Int, k = .int j → 0 ≤ j ∧ j.toNat < index.length + index'.length)
    (hvals : DictVals vals' (index ++ index')) :
    WFB (.dictionary p idx' vals' (index ++ index')) ∧
    dec (.dictionary p idx' vals' (index ++ index')) =
      dec (.dictionary p idx vals index) ++ lk.map (dictRow (dec vals ++ lw)) := by
  simp only [WFB] at hwf
  obtain ⟨_, _, _, hvl, hk, _⟩ := hwf
  refine ⟨?_, ?_⟩
  · simp only [WFB, hdi, hdv, List.length_append]
    refine ⟨hi, hv, hnd, by omega, ?_, hvals⟩
    intro k hk' j hj
    rcases List.mem_append.1 hk' with h | h
    · have := hk k h j hj; omega
    · exact hkeys k h j hj
  · rw [dec_dictionary, dec_dictionary, hdi, hdv, List.map_append]
    congr 1
    apply List.map_congr_left
    intro k hk'
    exact dictRow_append lw (by intro j hj; have := hk k hk' j hj; omega)

theorem DictVals.of_wf {p : String} {idx vals : B} {index : List String} (h : WFB (.dictionary p idx vals index)) :
    DictVals vals index := by
  simp only [WFB] at h; exact h.2.2.2.2.2

/-! ### builder lists -/

theorem BL.length_set : ∀ (fs : BL) (i : Nat) (c : B), (fs.set i c).length = fs.length
  | .nil, _, _ => rfl
  | .cons _ _ r, 0, _ => rfl
  | .cons _ _ r, i + 1, c => by simp [BL.set, BL.length, BL.length_set r i c]

theorem BL.names_set : ∀ (fs : BL) (i : Nat) (c : B), (fs.set i c).names = fs.names
  | .nil, _, _ => rfl
  | .cons _ _ r, 0, _ => rfl
  | .cons _ _ r, i + 1, c => by simp [BL.set, BL.names, BL.names_set r i c]

theorem BL.names_length : ∀ (fs : BL), fs.names.length = fs.length
  | .nil => rfl
  | .cons _ _ r => by simp [BL.names, BL.length, BL.names_length r]

theorem takeRestAll_length : ∀ (fs : BL), (takeRestAll fs).length = fs.length
  | .nil => rfl
  | .cons _ _ r => by simp only [takeRestAll, BL.length, takeRestAll_length r]

theorem BL.get?_set_eq : ∀ (fs : BL) (i : Nat) (c : B) (x : B × FieldMeta), fs.get? i = some x →
    (fs.set i c).get? i = some (c, x.2)
  | .nil, _, _, _, h => by simp [BL.get?] at h
  | .cons _ _ r, 0, _, x, h => by simp [BL.get?] at h; subst h; rfl
  | .cons _ _ r, i + 1, c, x, h => by simp only [BL.get?, BL.set] at h ⊢; exact BL.get?_set_eq r i c x h

theorem BL.get?_set_ne : ∀ (fs : BL) (i j : Nat) (c : B), i ≠ j → (fs.set i c).get? j = fs.get? j
  | .nil, _, _, _, _ => rfl
  | .cons _ _ r, 0, 0, _, h => absurd rfl h
  | .cons _ _ r, 0, j + 1, _, _ => rfl
  | .cons _ _ r, i + 1, 0, _, _ => rfl
  | .cons _ _ r, i + 1, j + 1, c, h => by
    simp only [BL.get?, BL.set]; exact BL.get?_set_ne r i j c (by omega)

theorem BL.get?_lt : ∀ (fs : BL) (i : Nat) (x : B × FieldMeta), fs.get? i = some x → i < fs.length
  | .nil, _, _, h => by simp [BL.get?] at h
  | .cons _ _ r, 0, _, _ => by simp [BL.length]
  | .cons _ _ r, i + 1, x, h => by
    simp only [BL.get?] at h; have := BL.get?_lt r i x h; simp [BL.length]; omega

theorem BL.get?_of_lt : ∀ (fs : BL) (i : Nat), i < fs.length → ∃ x, fs.get? i = some x
  | .nil, _, h => by simp [BL.length] at h
  | .cons b m r, 0, _ => ⟨(b, m), rfl⟩
  | .cons _ _ r, i + 1, h => by
    simp only [BL.get?]; exact BL.get?_of_lt r i (by simp [BL.length] at h; omega)

/-- the decoded column of child `j` (empty when there is no such child) -/
def colAt (fs : BL) (j : Nat) : List LVal := ((decCols fs).getD j ("", [])).2

/-! ### union -/

theorem zipWith_replicate_left {α β γ} (f : α → β → γ) (a : α) :
    ∀ (l : List β), List.zipWith f (List.replicate l.length a) l = l.map (f a)
  | [] => rfl
  | x :: l => by simp [List.replicate_succ, zipWith_replicate_left f a l]

theorem map_range_getD {α β} (g : α → β) (d : α) (ls : List α) :
    (List.range ls.length).map (fun r => g (ls.getD r d)) = ls.map g := by
  apply List.ext_getElem?
  intro j
  simp only [List.getElem?_map]
  by_cases h : j < ls.length
  · simp [List.getD_eq_getElem?_getD, h]
  · simp at h
    simp [List.getElem?_eq_none h]
    omega

theorem dec_union (p : String) (fs : BL) (types offs cur : List Int) :
    dec (.union p fs types offs cur) =
      List.zipWith (fun t o => LVal.union t ((colAt fs t.toNat).getD o.toNat .null)) types offs := by
  simp only [dec, colAt]

theorem WFU_get : ∀ (fs : BL) (cur : List Int) (i : Nat) (x : B × FieldMeta), WFU fs cur → fs.get? i = some x →
    cur[i]? = some ((dec x.1).length : Int) ∧ WFB x.1
  | .nil, _, _, _, _, h => by simp [BL.get?] at h
  | .cons b m r, cur, 0, x, hw, h => by
    simp [BL.get?] at h; subst h
    simp only [WFU] at hw
    cases cur with
    | nil => simp at hw
    | cons a t => simp at hw ⊢; exact ⟨hw.2.1, hw.1⟩
  | .cons b m r, cur, i + 1, x, hw, h => by
    simp only [BL.get?] at h
    simp only [WFU] at hw
    cases cur with
    | nil => simp at hw
    | cons a t => simpa using WFU_get r t i x hw.2.2 h

theorem WFU_set : ∀ (fs : BL) (cur : List Int) (i : Nat) (c' : B), WFU fs cur → WFB c' → i < fs.length →
    WFU (fs.set i c') (cur.set i ((dec c').length : Int))
  | .nil, _, _, _, _, _, h => by simp [BL.length] at h
  | .cons b m r, cur, 0, c', hw, hc, _ => by
    simp only [WFU] at hw
    cases cur with
    | nil => simp at hw
    | cons a t => simp only [BL.set, WFU, List.set_cons_zero, List.head?_cons, List.tail_cons]; exact ⟨hc, trivial, hw.2.2⟩
  | .cons b m r, cur, i + 1, c', hw, hc, h => by
    simp only [WFU] at hw
    cases cur with
    | nil => simp at hw
    | cons a t =>
      simp only [BL.set, WFU, List.set_cons_succ, List.head?_cons, List.tail_cons] at hw ⊢
      exact ⟨hw.1, hw.2.1, WFU_set r t i c' hw.2.2 hc (by simp [BL.length] at h; omega)⟩

end SaModel.Build
