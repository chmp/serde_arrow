import SaModel.Lemmas.C06Room
import SaModel.Lemmas.C06Readable
import SaModel.Lemmas.C02Container
import SaModel.Lemmas.C03Finish
import SaModel.Lemmas.C01NewShape
import SaModel.Lemmas.C03ObsFinish
/-
C06 (closure): the shape of TRACED schemas that the size precondition `Read.physical` of the reader depends on.

`Read.physical` asks that the value count of every Dictionary array fits `i64` (and bounds FixedSizeList children; traced
schemas have none).  What the closure uses of this file (`Props.C06.C06_closure_physical`, through
`Lemmas/C06PhysSize.lean: traced_sizeOK`):

  physKeysDT          the schema shape: Dictionary(UInt32, Utf8 | LargeUtf8) only, no FixedSizeList
  closed_physKeys,
  to_schema_physKeys  every traced schema has it

`Read.physical` of the built arrays itself comes from `Props.C03.toMarrow_physical` (the builders' counting invariant: a
dictionary holds at most as many values as keys were pushed) with `xs.length ≤ 2^63 - 1`, NOT from this file.

Also in this file, used by NO theorem of `Props/C06*.lean` and by no other module (`Lemmas/C06PhysSize.lean` and
`Props/C06Closure.lean` import this file for `physKeysDT` / `to_schema_physKeys` only): a capacity argument for the same
conclusion under the stricter bound `Σ vsize < 2^31 - 1` — `room b` is at most the number of FREE KEYS of every dictionary
in the builder tree (`keyRoom idx index.length = 2^32 - index.length` for UInt32 keys), so a final builder with
`1 ≤ room root` holds fewer than `2^32` values in every dictionary (`PhysB`: every dictionary has `index.length < 2^32` and
a string value builder; `physB_of_room`), and `into_array` turns such a state into `physical` arrays (`finish_physical`,
`buildArrays_physical`).  It is not wired into `C06_closure` on purpose: its conclusion (`Read.physical` of the built
arrays) is `C06_closure_physical` under the WEAKER premise `xs.length ≤ 2^63 - 1`, which `C06_closure` derives from its
capacity bound (`length_le_vsize_sum`); a corollary through `physB_of_room` would restate a proved statement under a
stronger hypothesis.  It is an independent second proof of the same fact.
-/
namespace SaModel.Lemmas.C06
open SaModel SaModel.Build SaModel.Spec SaModel.Lemmas.C03 SaModel.Trace

def isU32 : DataType → Bool
  | .uint32 => true
  | _ => false

mutual
def physKeysDT : DataType → Bool
  | .dictionary k v => isU32 k && isStrDT v
  | .fixedSizeList _ _ => false
  | .list f | .largeList f | .map f _ => physKeysF f
  | .struct fs => physKeysFs fs
  | .union ufs _ => physKeysU ufs
  | _ => true
def physKeysF : Field → Bool
  | .mk _ dt _ _ => physKeysDT dt
def physKeysFs : Fields → Bool
  | .nil => true
  | .cons f r => physKeysF f && physKeysFs r
def physKeysU : UFields → Bool
  | .nil => true
  | .cons _ f r => physKeysF f && physKeysU r
end

theorem physKeysF_dt (f : Field) : physKeysF f = physKeysDT f.dataType := by cases f; simp [physKeysF, Field.dataType]

mutual
/-- every dictionary in the builder tree holds fewer than `2^32` values in a string builder; no fixed-size list -/
def PhysB : B → Prop
  | .list _ _ _ _ _ el => PhysB el
  | .fixedSizeList _ _ _ _ _ _ _ => False
  | .map _ _ _ _ ks vs => PhysB ks ∧ PhysB vs
  | .struct _ _ _ fs _ _ _ => PhysBL fs
  | .dictionary _ _ vals index => index.length < 4294967296 ∧ ∃ p ty v offs data, vals = .bytes p ty v offs data
  | .union _ fs _ _ _ => PhysBL fs
  | _ => True
def PhysBL : BL → Prop
  | .nil => True
  | .cons b _ r => PhysB b ∧ PhysBL r
end

theorem isU32_eq {k : DataType} (h : isU32 k = true) : k = .uint32 := by
  unfold isU32 at h
  split at h
  · rfl
  · cases h

theorem physB_cases : BuiltForCases (fun dt _ b => physKeysDT dt = true → 1 ≤ room b → PhysB b)
    (fun fs bl => physKeysFs fs = true → 1 ≤ roomL bl → PhysBL bl)
    (fun ufs bl _ => physKeysU ufs = true → 1 ≤ roomL bl → PhysBL bl) where
  null _ _ := trivial
  unknownVariant _ _ := trivial
  leaf _ _ := trivial
  bytes _ _ := trivial
  bytesView _ _ := trivial
  fixedSizeBinary _ _ := trivial
  list _ ih hk hr := ih hk (Nat.le_min.mp hr).2
  largeList _ ih hk hr := ih hk (Nat.le_min.mp hr).2
  fixedSizeList _ _ hk := nomatch hk
  map _ ihk _ ihv hk hr := by
    simp only [physKeysDT, physKeysF, physKeysFs, Bool.and_eq_true, Bool.and_true] at hk
    simp only [room, Nat.le_min] at hr
    exact ⟨ihk hk.1 hr.2.1, ihv hk.2 hr.2.2⟩
  struct _ ih hk hr := ih hk hr
  dictionary hki hidx _ hvals _ hk hr := by
    simp only [physKeysDT, Bool.and_eq_true] at hk
    obtain ⟨p, t, v, ivals, rfl, hkt⟩ := builtFor_intKey hidx hki
    have ht : t = .u32 := by rw [isU32_eq hk.1] at hkt; cases t <;> first | rfl | cases hkt
    subst ht
    obtain ⟨p', ty, v', offs, data, rfl, _⟩ := strDT_builtFor_bytes _ _ false hk.2 hvals
    simp only [room, keyRoom, IntTy.max, Nat.le_min] at hr
    exact ⟨by omega, p', ty, v', offs, data, rfl⟩
  union _ ih hk hr := ih hk (Nat.le_min.mp hr).2
  nilL _ _ := trivial
  consL _ ih _ ihr hk hr := by
    simp only [physKeysFs, physKeysF, Bool.and_eq_true] at hk
    simp only [roomL, Nat.le_min] at hr
    exact ⟨ih hk.1 hr.1, ihr hk.2 hr.2⟩
  nilU _ _ := trivial
  consU _ ih _ ihr hk hr := by
    simp only [physKeysU, physKeysF, Bool.and_eq_true] at hk
    simp only [roomL, Nat.le_min] at hr
    exact ⟨ih hk.1 hr.1, ihr hk.2 hr.2⟩

theorem physB_of_room : ∀ (b : B) (dt : DataType) (nl : Bool), BuiltFor dt nl b → physKeysDT dt = true → 1 ≤ room b →
    PhysB b :=
  physB_cases.builtFor

theorem physBL_of_room : ∀ (bl : BL) (fs : Fields), BuiltForL fs bl → physKeysFs fs = true → 1 ≤ roomL bl → PhysBL bl :=
  physB_cases.builtForL

theorem physBU_of_room : ∀ (bl : BL) (ufs : UFields) (k : Nat), BuiltForU ufs bl k → physKeysU ufs = true →
    1 ≤ roomL bl → PhysBL bl :=
  physB_cases.builtForU

/-! ### through `into_array` (on the WEAK state invariant `WFH` of the hidden-rows refinement: no `Safe`; the placeholder
branch of `DictionaryUtf8Builder::into_array` appends ONE dummy value, still far below `i64::MAX`) -/

theorem physical_finishLeaf (k : LeafKind) (v : Validity) (vals : List Int) :
    Read.physical (finishLeaf k v vals) = true := by
  cases k <;> simp [finishLeaf, Read.physical]

theorem dec_bytes_length {p ty v offs data} (h : WFH (.bytes p ty v offs data)) :
    (dec (.bytes p ty v offs data)).length = offs.length - 1 := by
  simp only [WFH] at h
  simp only [dec]
  rw [Build.maskNull_length (by simpa [Build.pairs_length] using h.2)]
  simp [Build.pairs_length]

mutual
/-- **`into_array` of a `PhysB` state is `physical`** -/
theorem finish_physical (ext : Ext) : ∀ (b : B) (a : Arr), finish ext b = .ok a → WFH b → PhysB b →
    Read.physical a = true
  | .null _ _ | .unknownVariant _ | .bytes _ _ _ _ _ | .bytesView _ _ _ _ _ => by
    intro a h _ _; simp only [finish] at h; cases h; rfl
  | .leaf _ k v vals => by intro a h _ _; rw [finish_leaf] at h; cases h; exact physical_finishLeaf k v vals
  | .fixedSizeBinary _ _ _ _ _ _ => by intro a h _ _; cases finish_fixedSizeBinary_inv h; rfl
  | .list _ _ _ _ _ el => by
    intro a h hw hp
    obtain ⟨ea, he, rfl⟩ := finish_list_inv h
    exact finish_physical ext el ea he (WFH_list hw).2.2 hp
  | .fixedSizeList _ _ _ _ _ _ _ => by intro _ _ _ hp; simp only [PhysB] at hp
  | .map _ _ _ _ ks vs => by
    intro a h hw hp
    obtain ⟨ka, va, hk, hv, rfl⟩ := finish_map_inv h
    simp only [Read.physical, Bool.and_eq_true]
    exact ⟨finish_physical ext ks ka hk (WFH_map hw).2.2.2.1 hp.1, finish_physical ext vs va hv (WFH_map hw).2.2.2.2 hp.2⟩
  | .struct _ len _ fs _ _ _ => by
    intro a h hw hp
    obtain ⟨afs, hf, rfl⟩ := finish_struct_inv h
    exact finishFields_physical ext fs afs hf (WFHL_WFHs fs len (WFH_struct hw).2) hp
  | .dictionary _ idx vals index => by
    intro a h hw hp
    obtain ⟨hlen, p, ty, v, offs, data, rfl⟩ := hp
    have hl := dec_bytes_length (WFH_dictionary hw).2.1
    rw [(WFH_dictionary hw).2.2] at hl
    have hmax : Read.i64Max.toNat = 9223372036854775807 := by decide
    obtain ⟨ka, va, _, hv, ⟨_, _, rfl⟩ | ⟨_, rfl⟩⟩ := finish_dictionary_inv h <;> rw [finish_bytes] at hv <;> cases hv
    · simp only [appendEmptyStr, Read.physical, lenOf, decide_eq_true_eq, List.length_append, List.length_singleton, hmax]
      omega
    · simp only [Read.physical, lenOf, decide_eq_true_eq, hmax]
      omega
  | .union _ fs _ _ cur => by
    intro a h hw hp
    obtain ⟨afs, hf, rfl⟩ := finish_union_inv h
    exact finishUFields_physical ext fs 0 afs hf (WFHU_WFHs fs cur (WFH_union hw).2.1) hp
theorem finishFields_physical (ext : Ext) : ∀ (fs : BL) (afs : ArrFields), finishFields ext fs = .ok afs → WFHs fs →
    PhysBL fs → Read.physicalFields afs = true
  | .nil => by intro afs h _ _; rw [finishFields_nil] at h; cases h; rfl
  | .cons b m rest => by
    intro afs h hw hp
    obtain ⟨a, r, ha, hr, rfl⟩ := finishFields_cons_inv h
    simp only [Read.physicalFields, Bool.and_eq_true]
    exact ⟨finish_physical ext b a ha hw.1 hp.1, finishFields_physical ext rest r hr hw.2 hp.2⟩
theorem finishUFields_physical (ext : Ext) : ∀ (fs : BL) (idx : Nat) (afs : ArrUFields),
    finishUFields ext fs idx = .ok afs → WFHs fs → PhysBL fs → Read.physicalUFields afs = true
  | .nil => by intro _ afs h _ _; rw [finishUFields_nil] at h; cases h; rfl
  | .cons b m rest => by
    intro idx afs h hw hp
    obtain ⟨a, r, ha, hr, rfl⟩ := finishUFields_cons_inv h
    simp only [Read.physicalUFields, Bool.and_eq_true]
    exact ⟨finish_physical ext b a ha hw.1 hp.1, finishUFields_physical ext rest (idx + 1) r hr hw.2 hp.2⟩
end

/-- **`build_arrays` of a `PhysB` root gives `physical` arrays** -/
theorem buildArrays_physical (ext : Ext) (root rest : B) (arrs : List Arr)
    (h : buildArrays ext root = .ok (arrs, rest)) (hw : WFH root) (hp : PhysB root) : ∀ a ∈ arrs, Read.physical a = true := by
  cases root with
  | struct p len v fs cached next seen =>
    simp only [buildArrays] at h
    obtain ⟨cols, hc, h⟩ := Read.bind_ok_inv h
    simp only [pure, Except.pure, Except.ok.injEq, Prod.mk.injEq] at h
    obtain ⟨rfl, _⟩ := h
    have := finishFields_physical ext fs cols hc (WFHL_WFHs fs len (WFH_struct hw).2) (by simpa [PhysB] using hp)
    intro a ha
    obtain ⟨c, hc, rfl⟩ := List.mem_map.mp ha
    exact physicalFields_mem cols this c hc
  | _ => simp [buildArrays, panic] at h

theorem physKeys_leafTypes (o : Options) : ∀ ty ∈ leafTypes o, physKeysDT ty = true := by
  simp only [leafTypes, Options.string_type]
  cases o.string_as_large_utf8 <;> decide

theorem closed_physKeys (o : Options) : Closed o (fun f => physKeysF f = true) where
  null := fun n nl => by simp [physKeysF, physKeysDT]
  leaf := fun n nl ty h => by
    simp [physKeysF, physKeys_leafTypes o ty (Props.C07.state_type_mem o h)]
  dict := fun n nl _ => by
    simp only [default_dictionary_field, Options.string_type]
    split <;> simp [physKeysF, physKeysDT, isU32, isStrDT]
  unknownVariant := by decide
  list := fun n nl item h => by simp [physKeysF, physKeysDT, h]
  map := fun n nl kf vf hk hv => by simp [physKeysF, physKeysDT, physKeysFs, Fields.ofList, hk, hv]
  struct := fun n nl l md _ h => by simp [physKeysF, physKeysDT, Fields.all_ofList (pFs := physKeysFs) rfl (fun _ _ => rfl) h]
  union := fun n nl l h => by simp [physKeysF, physKeysDT, UFields.all_ofList (pUs := physKeysU) rfl (fun _ _ _ => rfl) h]

/-- **every traced schema has Dictionary(UInt32, string) columns only and no FixedSizeList** -/
theorem to_schema_physKeys (o : Options) (h0 : o.overwrites = []) (t : Tracer) (hw : WF o t) (fields : List Field)
    (h : t.to_schema o = .ok fields) : physKeysFs (Fields.ofList fields) = true := by
  obtain ⟨n, children, md, hr, rfl⟩ := to_schema_ok o t fields h
  have hs := to_field_closed o h0 (closed_physKeys o) t _ hw hr
  rw [Roundtrip.ofList_toList']
  simpa [physKeysF, physKeysDT] using hs

end SaModel.Lemmas.C06
