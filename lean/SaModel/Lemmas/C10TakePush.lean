import SaModel.Lemmas.C10Take
import SaModel.Lemmas.PushInd
/-
`push` (the whole mutual block) never changes what `take` leaves behind.
-/
namespace SaModel.Build
open SaModel SaModel.Spec

/-- the part of a struct state that survives `take` -/
def SSkel (s' s : SS) : Prop :=
  s'.path = s.path ∧ (s'.validity.map fun _ => ([] : List Bool)) = (s.validity.map fun _ => []) ∧
  takeRestAll s'.fields = takeRestAll s.fields ∧ s'.cached.length = s.cached.length ∧ s'.seen.length = s.seen.length

theorem SSkel.refl (s : SS) : SSkel s s := ⟨rfl, rfl, rfl, rfl, rfl⟩

theorem SSkel.trans {a b c : SS} (h1 : SSkel a b) (h2 : SSkel b c) : SSkel a c :=
  ⟨h1.1.trans h2.1, h1.2.1.trans h2.2.1, h1.2.2.1.trans h2.2.2.1, h1.2.2.2.1.trans h2.2.2.2.1,
    h1.2.2.2.2.trans h2.2.2.2.2⟩

theorem SSkel.toB {s' s : SS} (h : SSkel s' s) : takeRest s'.toB = takeRest s.toB := by
  obtain ⟨h1, h2, h3, h4, h5⟩ := h
  simp [SS.toB, takeRest, h1, h2, h3, h4, h5]

theorem SSkel.next (s : SS) (n : Nat) : SSkel { s with next := n } s := ⟨rfl, rfl, rfl, rfl, rfl⟩

theorem lookup_length (names : List String) (cached : List (Option (String × Nat))) (guess : Nat) (key : String × Nat) :
    (lookup names cached guess key).2.length = cached.length := by
  unfold lookup
  split
  · rfl
  · split
    · rfl
    · simp only; split <;> simp

theorem SS.start_skel {s s' : SS} (h : s.start = .ok s') : SSkel s' s := by
  simp only [SS.start] at h
  obtain ⟨v', h1, h2⟩ := (bind_ok _ _ _).1 h
  cases h2
  exact ⟨rfl, setValidity_skel h1, rfl, rfl, by simp⟩

theorem SSkel.wrote {s : SS} {idx : Nat} {c c' : B} {m : FieldMeta} (hget : s.fields.get? idx = some (c, m))
    (hc : takeRest c' = takeRest c) : SSkel (s.wrote idx c') s :=
  ⟨rfl, rfl, takeRestAll_set _ _ c c' m hget hc, rfl, by simp [SS.wrote]⟩

theorem SSkel.cached {s : SS} {names : List String} {key : String × Nat} {r : Option Nat × List (Option (String × Nat))}
    (h : lookup names s.cached s.next key = r) : SSkel { s with cached := r.2 } s :=
  ⟨rfl, rfl, rfl, by rw [← h]; exact lookup_length _ _ _ _, rfl⟩

theorem endFields_takeRest : ∀ (fs : BL) (seen : List Bool) (fs' : BL), endFields fs seen = .ok fs' →
    takeRestAll fs' = takeRestAll fs :=
  endFields_ok (P := fun fs _ fs' => takeRestAll fs' = takeRestAll fs) rfl
    (fun _ ih => by simp [takeRestAll, ih]) (fun _ h0 _ ih => by simp [takeRestAll, ih, pushNone_takeRest _ _ h0])

theorem SS.finishRow_skel {s s' : SS} (h : s.finishRow = .ok s') : SSkel s' s := by
  simp only [SS.finishRow] at h
  obtain ⟨fs, h1, h2⟩ := (bind_ok _ _ _).1 h
  cases h2
  exact ⟨rfl, rfl, endFields_takeRest _ _ _ h1, rfl, rfl⟩

/-- a struct row: `start`, fields that keep the skeleton, `end` -/
theorem row_skel {s s1 s2 s3 : SS} (h1 : s.start = .ok s1) (h2 : SSkel s2 s1) (h3 : s2.finishRow = .ok s3) :
    takeRest s3.toB = takeRest s.toB :=
  ((SS.finishRow_skel h3).trans (h2.trans (SS.start_skel h1))).toB

theorem serializeVariant_ok {fs : BL} {types offs cur : List Int} {idx : Nat} {r : B × List Int × List Int × List Int}
    (h : serializeVariant fs types offs cur idx = .ok r) :
    ∃ m co, fs.get? idx = some (r.1, m) ∧ cur[idx]? = some co ∧ idx ≤ 127 ∧
      r.2.1 = types ++ [(idx : Int)] ∧ r.2.2.1 = offs ++ [co] ∧ r.2.2.2 = cur.set idx (co + 1) := by
  unfold serializeVariant at h
  split at h
  · simp [fail] at h
  · rename_i c m hget
    split at h
    · simp [panic] at h
    · rename_i co hco
      obtain ⟨h127, h⟩ := ite_fail_ok (ite_fail_ok h).2
      cases h
      exact ⟨m, co, hget, hco, by omega, rfl, rfl, rfl⟩

theorem SSkel.rel : StructRel fun s s' => SSkel s' s :=
  ⟨SSkel.refl, fun h1 h2 => h2.trans h1, SSkel.next, SSkel.cached⟩

/-- every row a push writes keeps what `take` leaves behind: of a builder its `takeRest`, of a struct state `SSkel` -/
theorem takeRest_cases (ext : Ext) : PushCases ext (fun b _ b' => takeRest b' = takeRest b) (fun s _ _ s' => SSkel s' s)
    (fun _ el _ _ r => takeRest r.1 = takeRest el) (fun el _ _ r => takeRest r.1 = takeRest el)
    (fun s _ s' => SSkel s' s) (fun s _ s' => SSkel s' s) (fun s _ s' => SSkel s' s) (fun s _ s' => SSkel s' s)
    (fun _ ks vs _ r => takeRest r.2.1 = takeRest ks ∧ takeRest r.2.2 = takeRest vs)
    (fun _ _ ks vs _ r => takeRest r.2.1 = takeRest ks ∧ takeRest r.2.2 = takeRest vs) where
  fwdSome h := h
  fwdNewtype h := h
  null _ h := pushNone_takeRest _ _ h
  scalar _ h := pushScalar_takeRest ext _ _ _ h
  list _ h1 _ _ ih := by simp [takeRest, setValidity_skel h1, ih]
  listBytes _ _ _ ih := ih
  fixedSizeList _ h1 _ ih := by simp [takeRest, setValidity_skel h1, ih]
  binary _ _ h1 _ _ _ := by simp [takeRest, setValidity_skel h1]
  binaryView _ h1 _ _ := by simp [takeRest, setValidity_skel h1]
  fixedSizeBinary _ h1 _ := by simp [takeRest, setValidity_skel h1]
  structTuple _ _ h1 _ ih h3 := row_skel h1 ih h3
  structRecord h1 _ ih h3 := row_skel h1 ih h3
  structMap h1 _ ih h3 := row_skel h1 (ih.trans (SSkel.next _ _)) h3
  structMapRaw h1 _ ih h3 := row_skel h1 (ih.trans (SSkel.next _ _)) h3
  map h1 _ _ ih := by simp [takeRest, setValidity_skel h1, ih.1, ih.2]
  mapRaw h1 _ _ ih := by simp [takeRest, setValidity_skel h1, ih.1, ih.2]
  union _ hget _ _ _ _ ih := by simp [takeRest, takeRestAll_set _ _ _ _ _ hget ih]
  element _ hget _ ih := SSkel.wrote hget ih
  elemsNil := rfl
  elemsCons _ _ ih _ ihr := ihr.trans ih
  countNil := rfl
  countCons _ ih _ ihr := ihr.trans ih
  toStructLoopCases := SSkel.rel.loops
  mapEntriesNil := ⟨rfl, rfl⟩
  mapEntriesCons _ _ ihk _ ihv _ ih := ⟨ih.1.trans ihk, ih.2.trans ihv⟩
  mapOpsNil := ⟨rfl, rfl⟩
  mapOpsKey _ _ ihk _ ih := ⟨ih.1.trans ihk, ih.2⟩
  mapOpsValue _ ihv _ ih := ⟨ih.1, ih.2.trans ihv⟩

theorem push_takeRest (ext : Ext) : ∀ (x : SVal) (b b' : B), push ext b x = .ok b' → takeRest b' = takeRest b :=
  (takeRest_cases ext).push

theorem foldlM_push_takeRest (ext : Ext) : ∀ (rows : List SVal) (b b' : B),
    rows.foldlM (push ext) b = .ok b' → takeRest b' = takeRest b :=
  R.foldlM_induct (fun _ => rfl) fun x _ b b1 _ h1 _ ih => ih.trans (push_takeRest ext x b b1 h1)

theorem pushElems_takeRest (ext : Ext) : ∀ (xs : SVals) (large : Bool) (el : B) (offs : List Int) (r : B × List Int),
    pushElems ext large el offs xs = .ok r → takeRest r.1 = takeRest el :=
  (takeRest_cases ext).elems

theorem pushCountElems_takeRest (ext : Ext) : ∀ (xs : SVals) (el : B) (c : Nat) (r : B × Nat),
    pushCountElems ext el c xs = .ok r → takeRest r.1 = takeRest el :=
  (takeRest_cases ext).count

theorem pushTupleElems_takeRest (ext : Ext) : ∀ (xs : SVals) (s s' : SS), pushTupleElems ext s xs = .ok s' → SSkel s' s :=
  (takeRest_cases ext).tuple

theorem pushFields_takeRest (ext : Ext) : ∀ (fs : SFields) (s s' : SS), pushFields ext s fs = .ok s' → SSkel s' s :=
  (takeRest_cases ext).fields

theorem pushStructEntries_takeRest (ext : Ext) : ∀ (es : SEntries) (s s' : SS),
    pushStructEntries ext s es = .ok s' → SSkel s' s :=
  (takeRest_cases ext).structEntries

theorem pushStructOps_takeRest (ext : Ext) : ∀ (ops : SMapOps) (s s' : SS),
    pushStructOps ext s ops = .ok s' → SSkel s' s :=
  (takeRest_cases ext).structOps

theorem pushMapEntries_takeRest (ext : Ext) : ∀ (es : SEntries) (offs : List Int) (ks vs : B) (r : List Int × B × B),
    pushMapEntries ext offs ks vs es = .ok r → takeRest r.2.1 = takeRest ks ∧ takeRest r.2.2 = takeRest vs :=
  (takeRest_cases ext).mapEntries

theorem pushMapOps_takeRest (ext : Ext) : ∀ (ops : SMapOps) (pd : Bool) (offs : List Int) (ks vs : B) (r : List Int × B × B),
    pushMapOps ext pd offs ks vs ops = .ok r → takeRest r.2.1 = takeRest ks ∧ takeRest r.2.2 = takeRest vs :=
  (takeRest_cases ext).mapOps

end SaModel.Build
