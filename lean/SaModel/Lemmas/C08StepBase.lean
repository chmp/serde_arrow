import SaModel.Lemmas.C08After
import SaModel.Lemmas.C06Lists
/-
C08 — building blocks of the pass invariant `explore (after k ty) = after (k+1) ty`: a pass over a fresh node is a pass
over the freshly created container node; a pass over a container node is a pass over its children; one pass over an
enum node (first incomplete variant, else variant 0).
-/
namespace SaModel.Lemmas.C08
open SaModel SaModel.Trace SaModel.Trace.Spec

/-! ### `after` at 0 passes is what the `ensure_*` calls create -/

theorem mkTupleFields_after (o : Options) (p : String) (N : Nat) : ∀ (ts : Tys), ts.length ≤ N →
    mkTupleFields p N ts.length = afterTys o p 0 (N - ts.length) ts
  | .nil, _ => by simp only [Tys.length, mkTupleFields, afterTys]
  | .cons t r, h => by
    simp only [Tys.length] at h ⊢
    have e : N - (r.length + 1) + 1 = N - r.length := by omega
    simp only [mkTupleFields, afterTys, after_zero, Tracer.new, e, mkTupleFields_after o p N r (by omega)]
    rfl

theorem mkStructFields_after (o : Options) (p : String) : ∀ (fs : TyFields),
    mkStructFields p fs.names = afterFields o p 0 fs
  | .nil => by simp only [TyFields.names, mkStructFields, afterFields]
  | .cons n t r => by
    simp only [TyFields.names, mkStructFields, afterFields, after_zero, Tracer.new, mkStructFields_after o p r]
    rfl

theorem mkVariants_after (o : Options) (p : String) : ∀ (vs : TyVariants),
    mkVariants p vs.names = afterVariants o p 0 vs
  | .nil => by simp only [TyVariants.names, mkVariants, afterVariants]
  | .unit n r | .newtype n t r | .tuple n ts r | .struct n fs r => by
    simp only [TyVariants.names, mkVariants, afterVariants, after_zero, Tracer.new, Nat.zero_sub,
      mkVariants_after o p r]
    rfl

theorem afterTys_length (o : Options) (p : String) (k : Nat) : ∀ (ts : Tys) (i : Nat),
    (afterTys o p k i ts).length = ts.length
  | .nil, _ => rfl
  | .cons t r, i => by simp only [afterTys, Tracers.length, Tys.length, afterTys_length o p k r]

/-- `Option`: marking a node nullable that was explored as nullable changes nothing -/
theorem after_mark_nullable (o : Options) : ∀ (ty : Ty) (n p : String) (k : Nat),
    (after o n p true k ty).mark_nullable = after o n p true k ty
  | ty, n, p, 0 => by rw [after_zero]; rfl
  | .unit, _, _, k + 1 | .unitStruct _, _, _, k + 1 | .bool, _, _, k + 1 | .int _, _, _, k + 1 | .f32, _, _, k + 1
  | .f64, _, _, k + 1 | .char, _, _, k + 1 | .string, _, _, k + 1 | .bytes, _, _, k + 1 | .vec _, _, _, k + 1
  | .tuple _, _, _, k + 1 | .tupleStruct _ _, _, _, k + 1 | .map _ _, _, _, k + 1 | .struct _ _, _, _, k + 1
  | .enum _ _, _, _, k + 1 => by simp only [after, Tracer.mark_nullable, Tracer.set_nullable]
  | .option t, n, p, k + 1 => by simp only [after]; exact after_mark_nullable o t n p (k + 1)
  | .newtypeStruct _ t, n, p, k + 1 => by simp only [after]; exact after_mark_nullable o t n p (k + 1)

theorem ensure_primitive_same (o : Options) (n p : String) (nl : Bool) (dt : DataType) (st : Option Strategy) :
    (Tracer.primitive n p nl dt st).ensure_primitive_with_strategy o dt st = .ok (.primitive n p nl dt st) := by
  simp only [Tracer.ensure_primitive_with_strategy, coerce_primitive_type, and_self, if_true, bind, Except.bind]

/-! ### containers: fresh node = freshly created container; container = its children -/

theorem explore_vec_unknown (c : Code) (o : Options) (n p : String) (nl : Bool) (t : Ty) (hd : tooDeep p = false) :
    explore c o (.unknown n p nl) (.vec t) =
      explore c o (.list n p nl (.unknown "element" (childPath p "element") false)) (.vec t) := by
  simp only [explore, ensure_list_unknown n p nl hd, ensure_list_list n p nl _ hd]

theorem explore_vec_list (c : Code) (o : Options) (n p : String) (nl : Bool) (i i' : Tracer) (t : Ty)
    (hd : tooDeep p = false) (h : explore c o i t = .ok i') :
    explore c o (.list n p nl i) (.vec t) = .ok (.list n p nl i') := by
  simp only [explore, ensure_list_list n p nl _ hd, bind, Except.bind, h]

theorem explore_map_unknown (c : Code) (o : Options) (n p : String) (nl : Bool) (k v : Ty) (hd : tooDeep p = false) :
    explore c o (.unknown n p nl) (.map k v) =
      explore c o (.map n p nl (.unknown "key" (childPath p "key") false)
        (.unknown "value" (childPath p "value") false)) (.map k v) := by
  simp only [explore, ensure_map_unknown n p nl hd, ensure_map_map n p nl _ _ hd]

theorem explore_map_map (c : Code) (o : Options) (n p : String) (nl : Bool) (kt kt' vt vt' : Tracer) (k v : Ty)
    (hm : o.map_as_struct = false) (hd : tooDeep p = false) (hk : explore c o kt k = .ok kt')
    (hv : explore c o vt v = .ok vt') :
    explore c o (.map n p nl kt vt) (.map k v) = .ok (.map n p nl kt' vt') := by
  simp only [explore, hm, ensure_map_map n p nl _ _ hd, bind, Except.bind, hk, hv, Bool.false_eq_true, if_false]

theorem explore_tuple_unknown (c : Code) (o : Options) (n p : String) (nl : Bool) (ts : Tys) (hd : tooDeep p = false) :
    explore c o (.unknown n p nl) (.tuple ts) = explore c o (.tuple n p nl (afterTys o p 0 0 ts)) (.tuple ts) := by
  have h1 := mkTupleFields_after o p ts.length ts (Nat.le_refl _)
  rw [Nat.sub_self] at h1
  have h2 := ensure_tuple_tuple c n p nl (afterTys o p 0 0 ts) hd
  rw [afterTys_length] at h2
  simp only [explore, ensure_tuple_unknown c n p nl _ hd, h1, h2]

theorem explore_tuple_tuple (c : Code) (o : Options) (n p : String) (nl : Bool) (ts : Tys) (k i : Nat) (fts' : Tracers)
    (hd : tooDeep p = false) (h : exploreTys c o (afterTys o p k i ts) 0 ts = .ok fts') :
    explore c o (.tuple n p nl (afterTys o p k i ts)) (.tuple ts) = .ok (.tuple n p nl fts') := by
  have h2 := ensure_tuple_tuple c n p nl (afterTys o p k i ts) hd
  rw [afterTys_length] at h2
  simp only [explore, h2, bind, Except.bind, h]

theorem explore_tupleStruct_eq (c : Code) (o : Options) (t : Tracer) (sn : String) (ts : Tys) :
    explore c o t (.tupleStruct sn ts) = explore c o t (.tuple ts) := by
  simp only [explore]

theorem explore_struct_unknown (c : Code) (o : Options) (n p : String) (nl : Bool) (sn : String) (fs : TyFields)
    (hd : tooDeep p = false) :
    explore c o (.unknown n p nl) (.struct sn fs) =
      explore c o (.struct n p nl (afterFields o p 0 fs) .struct 0) (.struct sn fs) := by
  simp only [explore, ensure_struct_unknown c n p nl _ _ hd, mkStructFields_after o p fs,
    ensure_struct_struct c n p nl _ _ _ hd]

theorem explore_struct_struct (c : Code) (o : Options) (n p : String) (nl : Bool) (sn : String) (fs : TyFields)
    (tfs tfs' : TFields) (hd : tooDeep p = false) (h : exploreFields c o tfs 0 fs = .ok tfs') :
    explore c o (.struct n p nl tfs .struct 0) (.struct sn fs) = .ok (.struct n p nl tfs' .struct 0) := by
  simp only [explore, ensure_struct_struct c n p nl _ _ _ hd, bind, Except.bind, h]

theorem explore_enum_unknown (c : Code) (o : Options) (n p : String) (nl : Bool) (en : String) (vs : TyVariants)
    (hd : tooDeep p = false) :
    explore c o (.unknown n p nl) (.enum en vs) =
      explore c o (.union n p nl (afterVariants o p 0 vs)) (.enum en vs) := by
  simp only [explore, ensure_union_unknown n p nl _ hd, mkVariants_after o p vs, ensure_union_union n p nl _ _ hd]

/-! ### a variant is explored as its payload type -/

namespace VHead

theorem explore_zero {vs r : TyVariants} {n : String} {T : Ty} (h : VHead vs n T r) (c : Code) (o : Options)
    (vt : Tracer) : exploreVariant c o vt 0 vs = explore c o vt T := by
  cases h <;> simp only [exploreVariant, explore]

theorem explore_succ {vs r : TyVariants} {n : String} {T : Ty} (h : VHead vs n T r) (c : Code) (o : Options)
    (vt : Tracer) (i : Nat) : exploreVariant c o vt (i + 1) vs = exploreVariant c o vt i r := by
  cases h <;> simp only [exploreVariant]

end VHead


theorem explore_union (c : Code) (o : Options) (n p : String) (nl : Bool) (V : Variants) (en : String)
    (vs : TyVariants) (hd : tooDeep p = false) (r : Option Nat) (h1 : V.firstIncomplete 0 = .ok r)
    (vn : String) (vt vt' : Tracer) (hg : V.get? (r.getD 0) = some (some (vn, vt)))
    (he : exploreVariant c o vt (r.getD 0) vs = .ok vt') :
    explore c o (.union n p nl V) (.enum en vs) = .ok (.union n p nl (V.set (r.getD 0) vn vt')) := by
  have hlt := C06.Variants.get?_lt hg
  have : ¬ (r.getD 0 ≥ V.length) := by omega
  simp only [explore, ensure_union_union n p nl _ _ hd, bind, Except.bind, h1, this, if_false, hg, he]

theorem doneVariants_firstIncomplete (o : Options) : ∀ (vs : TyVariants) (p : String) (i0 : Nat),
    (doneVariants o p vs).firstIncomplete i0 = .ok none := by
  intro vs
  induction vs using VHead.walk with
  | vnil => exact fun _ _ => rfl
  | vcons vs n T r hh ih =>
    intro p i0
    simp only [hh.done_eq, Variants.firstIncomplete, done_complete, Bool.not_true, Bool.false_eq_true, if_false]
    exact ih p (i0 + 1)

end SaModel.Lemmas.C08
