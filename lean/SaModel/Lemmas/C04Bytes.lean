import SaModel.Roundtrip.Types
import SaModel.Lemmas.Utf8
/-
C04 helper: the UTF-8 bytes of a string determine the string (`unserStr ∘ strBytes = some`).
`ByteArray.toList` is defined by an index loop in core; `Lemmas.Utf8.toList_eq` relates it to the underlying array.
-/
namespace SaModel.Roundtrip

theorem ByteArray.toByteArray_toList (bs : ByteArray) : bs.toList.toByteArray = bs := by
  rw [Lemmas.Utf8.toList_eq]
  apply ByteArray.ext
  apply Array.toList_inj.mp
  rw [List.toList_data_toByteArray]

theorem fromUTF8?_toUTF8 (s : String) : String.fromUTF8? s.toUTF8 = some s := by
  unfold String.fromUTF8?
  split
  · rfl
  · rename_i h; exact absurd s.isValidUTF8 h

theorem unserStr_toUTF8 (s : String) : unserStr s.toUTF8.toList = some s := by
  unfold unserStr; rw [ByteArray.toByteArray_toList, fromUTF8?_toUTF8]

theorem unserStr_toByteArray (s : String) : unserStr s.toByteArray.toList = some s := unserStr_toUTF8 s

end SaModel.Roundtrip
