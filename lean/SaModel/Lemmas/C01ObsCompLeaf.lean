import SaModel.Lemmas.C01ObsR2
import SaModel.Lemmas.C01CompLeaf
/-
C01 "hidden rows" — completeness, non-recursive operations, under the WEAK state invariant `WFH`:
`serialize_default` (k placeholders) and `serialize_none` (one placeholder of a nullable builder) succeed on every
builder whose schema supports them, at the cost of at most one unit of head room per call (none unless a union
receives the default: one row of its first real variant, repo fix 217d612).  The state-free steps are in
Lemmas/C01CompLeaf.lean.
-/
namespace SaModel.Build
open SaModel SaModel.Spec

/-- the first real variant has a row counter -/
theorem firstReal?_curH {fs : BL} {cur : List Int} {j : Nat} (hw : WFHU fs cur) (hj : firstReal? fs = some j) :
    ∃ cj, cur[j]? = some cj := by
  obtain ⟨c, m, hg, _⟩ := firstReal?_get fs j hj
  exact ⟨_, (WFHU_get fs cur j _ hw hg).1⟩

mutual
/-- `k` defaults succeed on a builder whose type supports them and cost at most `k` units of head room — none when no
union receives them (`noDefU`); otherwise the `k` rows must fit (`k ≤ room b`) -/
theorem pushDefaultK_totalH : ∀ (b : B) (k : Nat) (dt : DataType) (n : Bool) (md : Metadata), WFH b → Shape b dt n md →
    defOK dt md = true → (noDefU dt = false → k ≤ room b) →
    ∃ b', pushDefaultK b k = .ok b' ∧ room b ≤ room b' + k ∧ (noDefU dt = true → room b' = room b)
  | .null p len, k, _, _, _, _, _, _, _ => ⟨_, rfl, room_both rfl⟩
  | .unknownVariant p, k, dt, n, md, _, hs, hd, _ => by
    simp only [Shape] at hs
    obtain ⟨rfl, hu⟩ := hs
    simp [defOK, hu] at hd
  | .leaf p kd v vals, k, _, _, _, _, _, _, _ => by
    obtain ⟨v', vals', h⟩ := pushDefaultK_leaf p kd v vals k
    exact ⟨_, h, room_both rfl⟩
  | .bytes p ty v offs data, k, _, _, _, hwf, _, _, _ => by
    simp only [WFH] at hwf
    obtain ⟨v', offs', h, _, hl⟩ := iter_dup_total k v offs hwf.1.ne_nil
    refine ⟨.bytes p ty v' offs' data, ?_, room_both (by simp only [room, hl])⟩
    simp only [pushDefaultK, ctx_ok]
    exact (bind_ok _ _ _).2 ⟨(v', offs'), h, rfl⟩
  | .bytesView p ty v views buf, k, _, _, _, _, _, _, _ => by
    obtain ⟨⟨v', views'⟩, h⟩ := iter_pure_total (fun (s : Validity × List Nat) => (setValidityDefault s.1 s.2.length, s.2 ++ [packInline []])) k (v, views)
    refine ⟨.bytesView p ty v' views' buf, ?_, room_both rfl⟩
    simp only [pushDefaultK, h, bind, Except.bind]; rfl
  | .fixedSizeBinary p m len v buf cur, k, _, _, _, _, _, _, _ => by
    obtain ⟨⟨len', v', buf'⟩, h⟩ := iter_pure_total (fun (s : Nat × Validity × Bytes) =>
      (s.1 + 1, setValidityDefault s.2.1 s.1, s.2.2 ++ List.replicate m 0)) k (len, v, buf)
    refine ⟨.fixedSizeBinary p m len' v' buf' cur, ?_, room_both rfl⟩
    simp only [pushDefaultK, h, bind, Except.bind]; rfl
  | .list p large fm v offs el, k, _, _, _, hwf, _, _, _ => by
    simp only [WFH] at hwf
    obtain ⟨v', offs', h, _, hl⟩ := iter_dup_total k v offs hwf.1.ne_nil
    refine ⟨.list p large fm v' offs' el, ?_, room_both (by simp only [room, hl])⟩
    simp only [pushDefaultK, ctx_ok]
    exact (bind_ok _ _ _).2 ⟨(v', offs'), h, rfl⟩
  | .fixedSizeList p fm m len v cur el, k, dt, n, md, hwf, hs, hd, hk => by
    simp only [WFH] at hwf
    simp only [Shape] at hs
    obtain ⟨_, cname, cdt, cn, cmd, rfl, hsel⟩ := hs
    simp only [defOK, defOKF, noDefUF, Bool.and_eq_true, Bool.or_eq_true, decide_eq_true_eq] at hd
    simp only [noDefU, noDefUF, room] at hk
    obtain ⟨⟨len', v'⟩, h⟩ := iter_pure_total (fun (s : Nat × Validity) => (s.1 + 1, setValidityDefault s.2 s.1)) k (len, v)
    cases hnd : noDefU cdt with
    | true =>
      obtain ⟨el', hel, _, hr⟩ := pushDefaultK_totalH el (k * m) cdt cn cmd hwf.2.2 hsel hd.1
        (fun h => by rw [hnd] at h; cases h)
      have hr := hr hnd
      refine ⟨.fixedSizeList p fm m len' v' cur el', ?_, room_both (by simp only [room, hr])⟩
      simp only [pushDefaultK, ctx_ok, h, hel, bind, Except.bind]; rfl
    | false =>
      -- a union below receives the defaults: the list has at most one element per row
      have hm : m ≤ 1 := by
        rcases hd.2 with h' | h'
        · omega
        · rw [hnd] at h'; cases h'
      have hkm : k * m ≤ k := by
        calc k * m ≤ k * 1 := Nat.mul_le_mul_left k hm
          _ = k := Nat.mul_one k
      have hk' := hk hnd
      obtain ⟨el', hel, hr, _⟩ := pushDefaultK_totalH el (k * m) cdt cn cmd hwf.2.2 hsel hd.1 (fun _ => by omega)
      refine ⟨.fixedSizeList p fm m len' v' cur el', ?_, by simp only [room]; omega,
        fun h' => by simp only [noDefU, noDefUF, hnd] at h'; cases h'⟩
      simp only [pushDefaultK, ctx_ok, h, hel, bind, Except.bind]; rfl
  | .map p mm v offs ks vs, k, _, _, _, hwf, _, _, _ => by
    simp only [WFH] at hwf
    obtain ⟨v', offs', h, _, hl⟩ := iter_dup_total k v offs hwf.1.ne_nil
    refine ⟨.map p mm v' offs' ks vs, ?_, room_both (by simp only [room, hl])⟩
    simp only [pushDefaultK, ctx_ok]
    exact (bind_ok _ _ _).2 ⟨(v', offs'), h, rfl⟩
  | .struct p len v fs cached next seen, k, dt, n, md, hwf, hs, hd, hk => by
    simp only [WFH] at hwf
    simp only [Shape] at hs
    obtain ⟨_, sfs, rfl, hsl⟩ := hs
    simp only [defOK] at hd
    simp only [noDefU, room] at hk
    obtain ⟨fs', hfs, hr, hr'⟩ := pushDefaultKAll_totalH fs k sfs len hwf.2.1 hsl hd hk
    obtain ⟨⟨len', v'⟩, h⟩ := iter_pure_total (fun (s : Nat × Validity) => (s.1 + 1, setValidityDefault s.2 s.1)) k (len, v)
    refine ⟨.struct p len' v' fs' cached next seen, ?_, by simp only [room]; exact hr, by simp only [room, noDefU]; exact hr'⟩
    simp only [pushDefaultK, ctx_ok, h, hfs, bind, Except.bind]; rfl
  | .dictionary p idx vals index, k, dt, n, md, _, hs, _, _ => by
    simp only [Shape] at hs
    obtain ⟨_, hil, _, _⟩ := hs
    obtain ⟨p', t, v, vals', rfl⟩ := isIntLeaf_form hil
    obtain ⟨v', vals'', h⟩ := pushDefaultK_leaf p' (.int t) v vals' k
    refine ⟨.dictionary p (.leaf p' (.int t) v' vals'') vals index, ?_, room_both (by simp only [room, keyRoom])⟩
    rw [pushDefaultK]
    simp only [ctx_ok]
    exact (bind_ok _ _ _).2 ⟨_, h, rfl⟩
  | .union p .nil types offs cur, k, dt, n, md, _, hs, hd, _ => by
    simp only [Shape] at hs
    obtain ⟨ufs, mode, rfl, hsu⟩ := hs
    cases ufs with
    | nil => simp [defOK, defOKFirst] at hd
    | cons _ _ _ => simp [ShapeU] at hsu
  | .union p (.cons c m rest) types offs cur, k, dt, n, md, hwf, hs, hd, hk => by
    simp only [WFH] at hwf
    simp only [Shape] at hs
    obtain ⟨ufs, mode, rfl, hsu⟩ := hs
    simp only [defOK, Bool.and_eq_true, decide_eq_true_eq] at hd
    have hk := hk rfl
    simp only [room] at hk
    obtain ⟨j, fs', hj, hat, hroom⟩ := pushDefaultK_total_firstH (.cons c m rest) k ufs 0 cur hwf.2.2.1 hsu hd.2 (by omega)
    have hj127 : j ≤ 127 := by
      obtain ⟨cj, mj, hg, _⟩ := firstReal?_get _ j hj
      have h1 := BL.get?_lt _ _ _ hg
      have h2 := ShapeU_length _ _ _ hsu
      omega
    obtain ⟨cj, hcj⟩ := firstReal?_curH hwf.2.2.1 hj
    refine ⟨_, pushDefaultK_union_ok hj hj127 hcj hat (by omega), ?_, fun h => by simp [noDefU] at h⟩
    have := curRoom_setK cur j cj k hcj
    simp only [room]
    omega
theorem pushDefaultKAll_totalH : ∀ (fs : BL) (k : Nat) (sfs : Fields) (len : Nat), WFHL fs len → ShapeL fs sfs →
    defOKFs sfs = true → (noDefUFs sfs = false → k ≤ roomL fs) →
    ∃ fs', pushDefaultKAll fs k = .ok fs' ∧ roomL fs ≤ roomL fs' + k ∧ (noDefUFs sfs = true → roomL fs' = roomL fs)
  | .nil, _, _, _, _, _, _, _ => ⟨.nil, rfl, room_both rfl⟩
  | .cons b m r, k, .cons (.mk fname fdt fn fmd) rest, len, hwf, hs, hd, hk => by
    simp only [WFHL] at hwf
    simp only [ShapeL] at hs
    simp only [defOKFs, defOKF, Bool.and_eq_true] at hd
    simp only [noDefUFs, noDefUF, roomL, Bool.and_eq_false_iff] at hk
    obtain ⟨b', hb, hr, hre⟩ := pushDefaultK_totalH b k fdt fn fmd hwf.1 hs.2.2.1 hd.1 (fun h => by have := hk (.inl h); omega)
    obtain ⟨r', hrest, hr', hre'⟩ := pushDefaultKAll_totalH r k rest len hwf.2.2 hs.2.2.2 hd.2 (fun h => by have := hk (.inr h); omega)
    refine ⟨.cons b' m r', ?_, by simp only [roomL]; omega, fun h => ?_⟩
    · simp only [pushDefaultKAll, hb, hrest, bind, Except.bind]; rfl
    · simp only [noDefUFs, noDefUF, Bool.and_eq_true] at h
      simp only [roomL, hre h.1, hre' h.2]
  | .cons _ _ _, _, .nil, _, _, hs, _, _ => by simp [ShapeL] at hs
/-- the union step: some variant is not a placeholder, and `k` placeholders go into the first such -/
theorem pushDefaultK_total_firstH : ∀ (fs : BL) (k : Nat) (ufs : UFields) (i : Nat) (cur : List Int), WFHU fs cur →
    ShapeU fs ufs i → defOKFirst ufs = true → k ≤ roomL fs →
    ∃ j fs', firstReal? fs = some j ∧ pushDefaultKAt fs j k = .ok fs' ∧ roomL fs ≤ roomL fs' + k
  | .nil, _, .nil, _, _, _, _, hd, _ => by simp [defOKFirst] at hd
  | .nil, _, .cons _ _ _, _, _, _, hs, _, _ => by simp [ShapeU] at hs
  | .cons _ _ _, _, .nil, _, _, _, hs, _, _ => by simp [ShapeU] at hs
  | .cons b m r, k, .cons tid (.mk fname fdt fn fmd) rest, i, cur, hwf, hs, hd, hk => by
    simp only [WFHU] at hwf
    simp only [ShapeU] at hs
    simp only [roomL] at hk
    have hp := Shape_placeholder hs.2.1
    simp only [defOKFirst, isPlaceholderF, ← hp] at hd
    cases hb : b.isPlaceholder with
    | true =>
      rw [hb] at hd; simp only [if_true] at hd
      obtain ⟨j, r', hj, hr, hroom⟩ := pushDefaultK_total_firstH r k rest (i + 1) cur.tail hwf.2.2 hs.2.2 hd (by omega)
      refine ⟨j + 1, .cons b m r', by simp [firstReal?, hb, hj], ?_, by simp only [roomL]; omega⟩
      simp only [pushDefaultKAt, hr, bind, Except.bind]; rfl
    | false =>
      rw [hb] at hd; simp only [Bool.false_eq_true, if_false, defOKF] at hd
      obtain ⟨b', hb', hr, _⟩ := pushDefaultK_totalH b k fdt fn fmd hwf.1 hs.2.1 hd (fun _ => by omega)
      refine ⟨0, .cons b' m r, by simp [firstReal?, hb], ?_, by simp only [roomL]; omega⟩
      simp only [pushDefaultKAt, hb', bind, Except.bind]; rfl
end

theorem pushDefaultK_total_first : ∀ (fs : BL) (k : Nat) (ufs : UFields) (i : Nat) (cur : List Int), WFU fs cur →
    ShapeU fs ufs i → defOKFirst ufs = true → k ≤ roomL fs →
    ∃ j fs', firstReal? fs = some j ∧ pushDefaultKAt fs j k = .ok fs' ∧ roomL fs ≤ roomL fs' + k :=
  fun fs k ufs i cur hwf => pushDefaultK_total_firstH fs k ufs i cur (WFHU_of_WFU fs cur hwf)

/-! ### `serialize_none` -/

/-- a null is `serialize_default` once (`pushNone_ok_iff`), and the builder is nullable where the null has a meaning -/
theorem pushNone_completeH : ∀ (b : B) (dt : DataType) (n : Bool) (md : Metadata) (lv : LVal), WFH b → Shape b dt n md →
    total dt n md = true → interpNull dt n md = .ok lv → 1 ≤ room b → ∃ b', pushNone b = .ok b' ∧ room b ≤ room b' + 1 :=
  fun b dt n md lv hw hs ht hi hk => by
    obtain ⟨b', hd, hr, _⟩ := pushDefaultK_totalH b 1 dt n md hw hs (total_defOK ht hi) (fun _ => hk)
    cases (interpNull_ok_iff.1 hi).1
    exact ⟨b', pushNone_ok_iff.2 ⟨hs.nullable_iff.2 hi, hd⟩, hr⟩

theorem pushNone_complete : ∀ (b : B) (dt : DataType) (n : Bool) (md : Metadata) (lv : LVal), WFB b → Shape b dt n md →
    total dt n md = true → interpNull dt n md = .ok lv → 1 ≤ room b → ∃ b', pushNone b = .ok b' ∧ room b ≤ room b' + 1 :=
  fun b dt n md lv hw => pushNone_completeH b dt n md lv (WFH_of_WFB b hw)

end SaModel.Build
