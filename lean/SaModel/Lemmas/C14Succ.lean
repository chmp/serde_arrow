import SaModel.Spec.Calendar
import SaModel.Lemmas.C14Cal
/-
C14 helper lemmas: the calendar model of `Codec/Calendar.lean` against the independent calendar of
`Spec/Calendar.lean` — same leap years, same month lengths, same valid dates; the closed formula
`daysFromCivil` grows by exactly one from a date to the next day (all years of ℤ).
-/
namespace SaModel.Codec
open SaModel.Spec.Calendar

theorem isLeap_eq (y : Int) : isLeap y = isLeapYear y := by
  rw [Bool.eq_iff_iff, isLeapYear_iff]
  unfold isLeap
  by_cases h400 : y % 400 = 0
  · rw [if_pos h400]; simp only [true_iff]; omega
  · rw [if_neg h400]
    by_cases h100 : y % 100 = 0
    · rw [if_pos h100]; simp only [Bool.false_eq_true, false_iff]; omega
    · rw [if_neg h100]
      by_cases h4 : y % 4 = 0
      · rw [if_pos h4]; simp only [true_iff]; omega
      · rw [if_neg h4]; simp only [Bool.false_eq_true, false_iff]; omega

theorem monthLength_eq (y m : Int) (h1 : 1 ≤ m) (h2 : m ≤ 12) : monthLength y m = daysInMonth y m := by
  have hm : m = 1 ∨ m = 2 ∨ m = 3 ∨ m = 4 ∨ m = 5 ∨ m = 6 ∨ m = 7 ∨ m = 8 ∨ m = 9 ∨ m = 10 ∨ m = 11 ∨ m = 12 := by omega
  unfold monthLength daysInMonth
  rw [isLeap_eq]
  generalize isLeapYear y = b
  rcases hm with rfl | rfl | rfl | rfl | rfl | rfl | rfl | rfl | rfl | rfl | rfl | rfl <;> cases b <;> decide

theorem valid_eq (y m d : Int) : valid (y, m, d) = validDate y m d := by
  unfold valid validDate
  simp only
  by_cases h : 1 ≤ m ∧ m ≤ 12
  · rw [monthLength_eq y m h.1 h.2]
  · by_cases h1 : 1 ≤ m
    · have : ¬ m ≤ 12 := fun h2 => h ⟨h1, h2⟩
      simp [h1, this]
    · simp [h1]

theorem valid_iff (y m d : Int) : valid (y, m, d) = true ↔ validDate y m d = true := by rw [valid_eq]

/-- inside a month -/
theorem daysFromCivil_day_succ (y m d : Int) : daysFromCivil y m (d + 1) = daysFromCivil y m d + 1 := by
  unfold daysFromCivil
  simp only
  omega

/-- from the last day of February to the first of March: the only step that crosses the boundary of the
March-based years of the formula; the leap rule of the calendar against the length of the March-based year -/
theorem daysFromCivil_feb_mar (y : Int) : daysFromCivil y 3 1 = daysFromCivil y 2 (daysInMonth y 2) + 1 := by
  have h := daysInMonth_feb (y - 1)
  rw [Int.sub_add_cancel] at h
  rw [daysFromCivil_eq, daysFromCivil_eq, h]
  simp only [Int.reduceLE, if_true, if_false, Int.reduceAdd, Int.reduceMod]
  rw [show monthStart 0 = 0 from rfl]
  omega

/-- from the last day of a month to the first of the next, inside a year -/
theorem daysFromCivil_month_succ (y m : Int) (h1 : 1 ≤ m) (h2 : m < 12) :
    daysFromCivil y (m + 1) 1 = daysFromCivil y m (daysInMonth y m) + 1 := by
  by_cases hf : m = 2
  · subst hf; exact daysFromCivil_feb_mar y
  · -- both days lie in the same March-based year, in the months `mp` and `mp + 1`
    generalize hmp : (m + 9) % 12 = mp
    have hm : m = civilMonth mp := by rw [← hmp, civilMonth_of_month h1 (by omega)]
    have hlen := daysInMonth_of_march y mp (by omega) (by omega)
    rw [← hm] at hlen
    rw [daysFromCivil_eq, daysFromCivil_eq, hmp, show (m + 1 + 9) % 12 = mp + 1 by omega, hlen,
      show (if m + 1 ≤ 2 then y - 1 else y) = if m ≤ 2 then y - 1 else y by split <;> split <;> omega]
    omega

/-- from the 31st of December to the first of January -/
theorem daysFromCivil_year_succ (y : Int) : daysFromCivil (y + 1) 1 1 = daysFromCivil y 12 31 + 1 := by
  rw [daysFromCivil_eq, daysFromCivil_eq]
  simp only [Int.reduceLE, if_true, if_false, Int.reduceAdd, Int.reduceMod, Int.add_sub_cancel]
  rw [show monthStart 10 = 306 from rfl, show monthStart 9 = 275 from rfl]
  omega

def daysOf (dt : Date) : Int := daysFromCivil dt.1 dt.2.1 dt.2.2

/-- **the successor step**: the day after a valid date has the next number, for every year of ℤ -/
theorem daysOf_nextDay (y m d : Int) (hv : validDate y m d = true) : daysOf (nextDay (y, m, d)) = daysFromCivil y m d + 1 := by
  rw [validDate_iff] at hv
  obtain ⟨h1, h2, h3, h4⟩ := hv
  unfold nextDay
  simp only
  rw [monthLength_eq y m h1 h2]
  by_cases hd : d < daysInMonth y m
  · rw [if_pos hd]; exact daysFromCivil_day_succ y m d
  · rw [if_neg hd]
    have hd' : d = daysInMonth y m := by omega
    by_cases hm : m < 12
    · rw [if_pos hm, hd']; exact daysFromCivil_month_succ y m h1 hm
    · rw [if_neg hm]
      have hm' : m = 12 := by omega
      subst hm'
      have : d = 31 := by rw [hd']; exact (daysInMonth_cases y 12).2.2 (by omega)
      subst this
      exact daysFromCivil_year_succ y

theorem daysInMonth_range (y m : Int) : 28 ≤ daysInMonth y m ∧ daysInMonth y m ≤ 31 := by
  unfold daysInMonth
  split
  · split <;> omega
  · split <;> omega

theorem nextDay_validDate (y m d : Int) (hv : validDate y m d = true) :
    validDate (nextDay (y, m, d)).1 (nextDay (y, m, d)).2.1 (nextDay (y, m, d)).2.2 = true := by
  rw [validDate_iff] at hv
  obtain ⟨h1, h2, h3, h4⟩ := hv
  unfold nextDay
  simp only
  rw [monthLength_eq y m h1 h2]
  by_cases hd : d < daysInMonth y m
  · rw [if_pos hd, validDate_iff]; simp only; omega
  · rw [if_neg hd]
    by_cases hm : m < 12
    · rw [if_pos hm, validDate_iff]; simp only
      have := daysInMonth_range y (m + 1); omega
    · rw [if_neg hm, validDate_iff]; simp only
      have := daysInMonth_range (y + 1) 1; omega

theorem prevDay_validDate (y m d : Int) (hv : validDate y m d = true) :
    validDate (prevDay (y, m, d)).1 (prevDay (y, m, d)).2.1 (prevDay (y, m, d)).2.2 = true := by
  rw [validDate_iff] at hv
  obtain ⟨h1, h2, h3, h4⟩ := hv
  unfold prevDay
  simp only
  by_cases hd : 1 < d
  · rw [if_pos hd, validDate_iff]; simp only; omega
  · rw [if_neg hd]
    by_cases hm : 1 < m
    · rw [if_pos hm, validDate_iff]; simp only
      rw [monthLength_eq y (m - 1) (by omega) (by omega)]
      have := daysInMonth_range y (m - 1); omega
    · rw [if_neg hm, validDate_iff]; simp only
      have := (daysInMonth_cases (y - 1) 12).2.2 (by omega); omega

theorem prevDay_nextDay_of_valid (y m d : Int) (hv : validDate y m d = true) : prevDay (nextDay (y, m, d)) = (y, m, d) := by
  rw [validDate_iff] at hv
  obtain ⟨h1, h2, h3, h4⟩ := hv
  unfold nextDay
  simp only
  by_cases hd : d < monthLength y m
  · rw [if_pos hd]; unfold prevDay; simp only
    rw [if_pos (by omega), show d + 1 - 1 = d by omega]
  · rw [if_neg hd]
    have hd' : d = monthLength y m := by rw [monthLength_eq y m h1 h2] at hd ⊢; omega
    by_cases hm : m < 12
    · rw [if_pos hm]; unfold prevDay; simp only
      rw [if_neg (by omega), if_pos (by omega), show m + 1 - 1 = m by omega, ← hd']
    · rw [if_neg hm]; unfold prevDay; simp only
      have hm' : m = 12 := by omega
      subst hm'
      have : d = 31 := by rw [hd', monthLength_eq y 12 h1 h2]; exact (daysInMonth_cases y 12).2.2 (by omega)
      rw [if_neg (by omega), if_neg (by omega), show y + 1 - 1 = y by omega, this]

theorem nextDay_prevDay_of_valid (y m d : Int) (hv : validDate y m d = true) : nextDay (prevDay (y, m, d)) = (y, m, d) := by
  rw [validDate_iff] at hv
  obtain ⟨h1, h2, h3, h4⟩ := hv
  unfold prevDay
  simp only
  by_cases hd : 1 < d
  · rw [if_pos hd]; unfold nextDay; simp only
    rw [monthLength_eq y m h1 h2, if_pos (by omega), show d - 1 + 1 = d by omega]
  · rw [if_neg hd]
    have hd' : d = 1 := by omega
    subst hd'
    by_cases hm : 1 < m
    · rw [if_pos hm]; unfold nextDay; simp only
      rw [if_neg (by omega), if_pos (by omega), show m - 1 + 1 = m by omega]
    · rw [if_neg hm]; unfold nextDay; simp only
      have hm' : m = 1 := by omega
      subst hm'
      have : monthLength (y - 1) 12 = 31 := by
        rw [monthLength_eq (y - 1) 12 (by omega) (by omega)]; exact (daysInMonth_cases (y - 1) 12).2.2 (by omega)
      rw [this, if_neg (by omega), if_neg (by omega), show y - 1 + 1 = y by omega]

/-- the predecessor step, from the successor step -/
theorem daysOf_prevDay (y m d : Int) (hv : validDate y m d = true) : daysOf (prevDay (y, m, d)) = daysFromCivil y m d - 1 := by
  have hp := prevDay_validDate y m d hv
  have hs := daysOf_nextDay _ _ _ hp
  rw [show ((prevDay (y, m, d)).1, (prevDay (y, m, d)).2.1, (prevDay (y, m, d)).2.2) = prevDay (y, m, d) from rfl,
    nextDay_prevDay_of_valid y m d hv] at hs
  unfold daysOf at hs ⊢
  simp only at hs
  omega

/-! ### the inverse formula steps too; every integer is the day number of its civil date -/

theorem civilFromDays_succ (z : Int) : civilFromDays (z + 1) = nextDay (civilFromDays z) := by
  have hv := civilFromDays_valid z
  have hz := daysFromCivil_civilFromDays z
  generalize civilFromDays z = dt at hv hz ⊢
  obtain ⟨y, m, d⟩ := dt
  have hs := daysOf_nextDay y m d hv
  have hr := civilFromDays_daysFromCivil _ _ _ (nextDay_validDate y m d hv)
  unfold daysOf at hs
  rw [hs, hz] at hr
  -- name the next day, so that `(p.1, p.2.1, p.2.2) = p` is seen without unfolding `nextDay`
  generalize nextDay (y, m, d) = p at hr ⊢
  exact hr

theorem civilFromDays_pred (z : Int) : civilFromDays (z - 1) = prevDay (civilFromDays z) := by
  have h := civilFromDays_succ (z - 1)
  rw [show z - 1 + 1 = z by omega] at h
  have hv := civilFromDays_valid (z - 1)
  have := prevDay_nextDay_of_valid _ _ _ hv
  rw [show ((civilFromDays (z - 1)).1, (civilFromDays (z - 1)).2.1, (civilFromDays (z - 1)).2.2) = civilFromDays (z - 1) from rfl,
    ← h] at this
  exact this.symm

theorem civilFromDays_zero : civilFromDays 0 = epoch := by decide

theorem isDayNumber_civilFromDays_nat (n : Nat) :
    IsDayNumber (civilFromDays n) n ∧ IsDayNumber (civilFromDays (-(n : Int))) (-(n : Int)) := by
  induction n with
  | zero => exact ⟨by rw [show ((0 : Nat) : Int) = 0 from rfl, civilFromDays_zero]; exact .epoch,
      by rw [show (-((0 : Nat) : Int)) = 0 from rfl, civilFromDays_zero]; exact .epoch⟩
  | succ n ih =>
    constructor
    · have := IsDayNumber.next ih.1
      rw [← civilFromDays_succ] at this
      rw [show ((n + 1 : Nat) : Int) = (n : Int) + 1 by omega]; exact this
    · have := IsDayNumber.prev ih.2
      rw [← civilFromDays_pred] at this
      rw [show -((n + 1 : Nat) : Int) = -(n : Int) - 1 by omega]; exact this

/-- every integer `z` is the day number (in the sense of the independent specification) of `civilFromDays z` -/
theorem isDayNumber_civilFromDays (z : Int) : IsDayNumber (civilFromDays z) z := by
  by_cases h : 0 ≤ z
  · obtain ⟨n, rfl⟩ := Int.eq_ofNat_of_zero_le h
    exact (isDayNumber_civilFromDays_nat n).1
  · obtain ⟨n, hn⟩ := Int.eq_ofNat_of_zero_le (show 0 ≤ -z by omega)
    have := (isDayNumber_civilFromDays_nat n).2
    rw [← hn, show - -z = z by omega] at this
    exact this

/-- the closed formula computes the day number of every valid date -/
theorem isDayNumber_daysFromCivil (y m d : Int) (hv : validDate y m d = true) : IsDayNumber (y, m, d) (daysFromCivil y m d) := by
  have := isDayNumber_civilFromDays (daysFromCivil y m d)
  rwa [civilFromDays_daysFromCivil y m d hv] at this

/-- conversely: whatever the specification relates is a valid date and the number the formula computes -/
theorem isDayNumber_sound {dt : Date} {n : Int} (h : IsDayNumber dt n) :
    validDate dt.1 dt.2.1 dt.2.2 = true ∧ n = daysOf dt := by
  induction h with
  | epoch => exact ⟨by decide, by decide⟩
  | @next dt n _ ih =>
    obtain ⟨hv, hn⟩ := ih
    exact ⟨nextDay_validDate _ _ _ hv, by rw [show nextDay dt = nextDay (dt.1, dt.2.1, dt.2.2) from rfl, daysOf_nextDay _ _ _ hv, hn]; rfl⟩
  | @prev dt n _ ih =>
    obtain ⟨hv, hn⟩ := ih
    exact ⟨prevDay_validDate _ _ _ hv, by rw [show prevDay dt = prevDay (dt.1, dt.2.1, dt.2.2) from rfl, daysOf_prevDay _ _ _ hv, hn]; rfl⟩

end SaModel.Codec
