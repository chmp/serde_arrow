import SaModel.Lemmas.C08Samples
/-
C08 — `from_samples` over the covering samples of a type WITH enums: `safter m ty` is the tracer after absorbing the
covering samples `0 … m-1` (`sampleAt ty k`), written down from the type.  Sample `k` of an enum with `L` variants
exercises variant `k % L` with payload sample `k / L`; after `m = q·L + r` samples the variants `< r` have absorbed
`q + 1` payload samples and the others `q` (variants that have absorbed none do not exist yet).
This file: the definitions, and `erase (safter m ty) = done ty` once `m` reaches `width ty` (`erase` forgets the sample
counters of struct nodes, which `to_field`, `collect_paths` and `name` do not read).
-/
namespace SaModel.Lemmas.C08
open SaModel SaModel.Trace SaModel.Trace.Spec

/-- payload samples absorbed by variant `i` after `q·L + r` samples -/
def cnt (q r i : Nat) : Nat := if i < r then q + 1 else q

mutual
def safter (o : Options) (n p : String) (nl : Bool) : Nat → Ty → Tracer
  | 0, _ => .unknown n p nl
  | _ + 1, .unit => .primitive n p true .null none
  | _ + 1, .unitStruct _ => .primitive n p true .null none
  | _ + 1, .bool => .primitive n p nl .boolean none
  | _ + 1, .int t => .primitive n p nl (intDataType t) none
  | _ + 1, .f32 => .primitive n p nl .float32 none
  | _ + 1, .f64 => .primitive n p nl .float64 none
  | _ + 1, .char => .primitive n p nl .uint32 none
  | _ + 1, .string => .primitive n p nl o.string_type none
  | _ + 1, .bytes => .primitive n p nl .largeBinary none
  | m + 1, .option t => safter o n p true (m + 1) t
  | m + 1, .newtypeStruct _ t => safter o n p nl (m + 1) t
  | m + 1, .vec t => .list n p nl (safter o "element" (childPath p "element") false (m + 1) t)
  | m + 1, .tuple ts => .tuple n p nl (safterTys o p (m + 1) 0 ts)
  | m + 1, .tupleStruct _ ts => .tuple n p nl (safterTys o p (m + 1) 0 ts)
  | m + 1, .map kt vt =>
    .map n p nl (safter o "key" (childPath p "key") false (m + 1) kt)
      (safter o "value" (childPath p "value") false (m + 1) vt)
  | m + 1, .struct _ fs => .struct n p nl (safterFields o p (m + 1) fs) .struct (m + 1)
  | m + 1, .enum _ vs => .union n p nl (safterVariants o p ((m + 1) / vs.length) ((m + 1) % vs.length) 0 vs)
def safterTys (o : Options) (p : String) (m : Nat) : Nat → Tys → Tracers
  | _, .nil => .nil
  | i, .cons t r => .cons (safter o (toString i) (childPath p (toString i)) false m t) (safterTys o p m (i + 1) r)
def safterFields (o : Options) (p : String) (m : Nat) : TyFields → TFields
  | .nil => .nil
  | .cons n t r => .cons n (m - 1) (safter o n (childPath p n) false m t) (safterFields o p m r)
def safterVariants (o : Options) (p : String) (q r : Nat) : Nat → TyVariants → Variants
  | _, .nil => .nil
  | i, .unit n rest =>
    match cnt q r i with
    | 0 => .nil
    | _ + 1 => .present n (.primitive n (childPath p n) true .null none) (safterVariants o p q r (i + 1) rest)
  | i, .newtype n t rest =>
    match cnt q r i with
    | 0 => .nil
    | c + 1 => .present n (safter o n (childPath p n) false (c + 1) t) (safterVariants o p q r (i + 1) rest)
  | i, .tuple n ts rest =>
    match cnt q r i with
    | 0 => .nil
    | c + 1 =>
      .present n (.tuple n (childPath p n) false (safterTys o (childPath p n) (c + 1) 0 ts))
        (safterVariants o p q r (i + 1) rest)
  | i, .struct n fs rest =>
    match cnt q r i with
    | 0 => .nil
    | c + 1 =>
      .present n (.struct n (childPath p n) false (safterFields o (childPath p n) (c + 1) fs) .struct (c + 1))
        (safterVariants o p q r (i + 1) rest)
end

theorem safter_zero (o : Options) (n p : String) (nl : Bool) (ty : Ty) : safter o n p nl 0 ty = .unknown n p nl := by
  cases ty <;> simp only [safter]

/-- the variants as (name, type the payload is explored as) -/
def vList : TyVariants → List (String × Ty)
  | .nil => []
  | .unit n r => (n, .unit) :: vList r
  | .newtype n t r => (n, t) :: vList r
  | .tuple n ts r => (n, .tuple ts) :: vList r
  | .struct n fs r => (n, .struct n fs) :: vList r

theorem vList_length : ∀ vs : TyVariants, (vList vs).length = vs.length
  | .nil => rfl
  | .unit _ r | .newtype _ _ r | .tuple _ _ r | .struct _ _ r => by
    simp only [vList, List.length_cons, TyVariants.length, vList_length r]

namespace VHead

theorem vList_eq {vs r : TyVariants} {n : String} {T : Ty} (h : VHead vs n T r) : vList vs = (n, T) :: vList r := by
  cases h <;> rfl

theorem uniqueNames_eq {vs r : TyVariants} {n : String} {T : Ty} (h : VHead vs n T r) :
    uniqueNamesVariants vs = (!(r.names.contains n) && uniqueNames T && uniqueNamesVariants r) := by
  cases h <;> simp only [uniqueNamesVariants, uniqueNames, Bool.and_true]

theorem smallEnums_eq {vs r : TyVariants} {n : String} {T : Ty} (h : VHead vs n T r) :
    smallEnumsVariants vs = (smallEnums T && smallEnumsVariants r) := by
  cases h <;> simp only [smallEnumsVariants, smallEnums, Bool.true_and]

end VHead

/-- `safterVariants` over the plain list -/
def sV (o : Options) (p : String) (q r : Nat) : Nat → List (String × Ty) → Variants
  | _, [] => .nil
  | i, (n, T) :: rest =>
    match cnt q r i with
    | 0 => .nil
    | c + 1 => .present n (safter o n (childPath p n) false (c + 1) T) (sV o p q r (i + 1) rest)

theorem safterVariants_eq (o : Options) (p : String) (q r : Nat) : ∀ (vs : TyVariants) (i : Nat),
    safterVariants o p q r i vs = sV o p q r i (vList vs)
  | .nil, _ => rfl
  | .unit n rest, i => by
    simp only [safterVariants, vList, sV, safterVariants_eq o p q r rest]
    cases cnt q r i <;> simp only [safter]
  | .newtype n t rest, i => by
    simp only [safterVariants, vList, sV, safterVariants_eq o p q r rest]
  | .tuple n ts rest, i => by
    simp only [safterVariants, vList, sV, safterVariants_eq o p q r rest]
    cases cnt q r i <;> simp only [safter]
  | .struct n fs rest, i => by
    simp only [safterVariants, vList, sV, safterVariants_eq o p q r rest]
    cases cnt q r i <;> simp only [safter]

mutual
def erase : Tracer → Tracer
  | .unknown n p nl => .unknown n p nl
  | .primitive n p nl ty st => .primitive n p nl ty st
  | .list n p nl i => .list n p nl (erase i)
  | .map n p nl k v => .map n p nl (erase k) (erase v)
  | .struct n p nl fs m _ => .struct n p nl (eraseFields fs) m 0
  | .tuple n p nl ts => .tuple n p nl (eraseTracers ts)
  | .union n p nl vs => .union n p nl (eraseVariants vs)
def eraseTracers : Tracers → Tracers
  | .nil => .nil
  | .cons t r => .cons (erase t) (eraseTracers r)
def eraseFields : TFields → TFields
  | .nil => .nil
  | .cons n _ t r => .cons n 0 (erase t) (eraseFields r)
def eraseVariants : Variants → Variants
  | .nil => .nil
  | .absent r => .absent (eraseVariants r)
  | .present n t r => .present n (erase t) (eraseVariants r)
end

theorem erase_is_null (t : Tracer) : (erase t).is_unknown_or_null = t.is_unknown_or_null := by
  cases t <;> simp only [erase, Tracer.is_unknown_or_null]

theorem eraseVariants_without_data : ∀ V : Variants, (eraseVariants V).is_without_data = V.is_without_data
  | .nil => rfl
  | .absent _ => rfl
  | .present _ t r => by
    simp only [eraseVariants, Variants.is_without_data, is_null_variant, erase_is_null, eraseVariants_without_data r]

mutual
theorem erase_to_field (o : Options) : ∀ t : Tracer, (erase t).to_field o = t.to_field o
  | .unknown _ _ _ | .primitive _ _ _ _ _ => by simp only [erase]
  | .list _ _ _ i => by simp only [erase, Tracer.to_field, erase_to_field o i]
  | .map _ _ _ k v => by simp only [erase, Tracer.to_field, erase_to_field o k, erase_to_field o v]
  | .struct _ _ _ fs _ _ => by simp only [erase, Tracer.to_field, eraseFields_to_fields o fs]
  | .tuple _ _ _ ts => by simp only [erase, Tracer.to_field, eraseTracers_to_fields o ts]
  | .union _ _ _ vs => by
    simp only [erase, Tracer.to_field, eraseVariants_without_data, eraseVariants_to_fields o vs]
theorem eraseTracers_to_fields (o : Options) : ∀ ts : Tracers, (eraseTracers ts).to_fields o = ts.to_fields o
  | .nil => rfl
  | .cons t r => by simp only [eraseTracers, Tracers.to_fields, erase_to_field o t, eraseTracers_to_fields o r]
theorem eraseFields_to_fields (o : Options) : ∀ fs : TFields, (eraseFields fs).to_fields o = fs.to_fields o
  | .nil => rfl
  | .cons _ _ t r => by simp only [eraseFields, TFields.to_fields, erase_to_field o t, eraseFields_to_fields o r]
theorem eraseVariants_to_fields (o : Options) : ∀ (vs : Variants) (i : Nat),
    (eraseVariants vs).to_fields o i = vs.to_fields o i
  | .nil, _ => rfl
  | .absent r, i => by simp only [eraseVariants, Variants.to_fields, eraseVariants_to_fields o r]
  | .present _ t r, i => by
    simp only [eraseVariants, Variants.to_fields, erase_to_field o t, eraseVariants_to_fields o r]
end

mutual
theorem erase_paths : ∀ t : Tracer, (erase t).collect_paths = t.collect_paths
  | .unknown _ _ _ | .primitive _ _ _ _ _ => by simp only [erase]
  | .list _ _ _ i => by simp only [erase, Tracer.collect_paths, erase_paths i]
  | .map _ _ _ k v => by simp only [erase, Tracer.collect_paths, erase_paths k, erase_paths v]
  | .struct _ _ _ fs _ _ => by simp only [erase, Tracer.collect_paths, eraseFields_paths fs]
  | .tuple _ _ _ ts => by simp only [erase, Tracer.collect_paths, eraseTracers_paths ts]
  | .union _ _ _ vs => by simp only [erase, Tracer.collect_paths, eraseVariants_paths vs]
theorem eraseTracers_paths : ∀ ts : Tracers, (eraseTracers ts).collect_paths = ts.collect_paths
  | .nil => rfl
  | .cons t r => by simp only [eraseTracers, Tracers.collect_paths, erase_paths t, eraseTracers_paths r]
theorem eraseFields_paths : ∀ fs : TFields, (eraseFields fs).collect_paths = fs.collect_paths
  | .nil => rfl
  | .cons _ _ t r => by simp only [eraseFields, TFields.collect_paths, erase_paths t, eraseFields_paths r]
theorem eraseVariants_paths : ∀ vs : Variants, (eraseVariants vs).collect_paths = vs.collect_paths
  | .nil => rfl
  | .absent r => by simp only [eraseVariants, Variants.collect_paths, eraseVariants_paths r]
  | .present _ t r => by simp only [eraseVariants, Variants.collect_paths, erase_paths t, eraseVariants_paths r]
end

theorem erase_name (t : Tracer) : (erase t).name = t.name := by
  cases t <;> simp only [erase, Tracer.name]

end SaModel.Lemmas.C08
