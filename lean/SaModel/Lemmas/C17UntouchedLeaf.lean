import SaModel.Lemmas.C17Untouched
/-
C17, `untouched_ok` — the reads that stay on one array depend only on what `touchEqW` fixes: the getters (`slotEq` of
Spec/TouchEq.lean is the hypothesis of `Read.gate_congr`), hence everything a reader without children does (`leafSim_agree`);
`is_some`, dictionary lookups, the heads of the list / fixed-size list / map / union reads.
-/
namespace SaModel.Props.C17
open SaModel SaModel.Read SaModel.Spec

theorem validityIsSet_congr {v v' : Option Bits} {i : Nat} (hv : isValid v i = isValid v' i) :
    validityIsSet Fixes.all v i = validityIsSet Fixes.all v' i := by
  rw [validityIsSet_all, validityIsSet_all, hv]

/-- the row test of the offset-based columns, `i + 1 ≥ offsets.len()` -/
theorem succ_ge_of_lt_eq {i n n' : Nat} (h : (i < n - 1) = (i < n' - 1)) : (i + 1 ≥ n) = (i + 1 ≥ n') := by
  apply propext
  have := Eq.to_iff h
  omega

/-- what `slotEq` (Spec/TouchEq.lean) says of slot `i` of a leaf column is what its `get` depends on -/
theorem slotEq_gate {α} {i len len' : Nat} {v v' : Option Bits} {c : Bool} {msg : String} {x x' : R (Option α)}
    (h : slotEq i len len' v v' c = true) (hx : i < len → i < len' → c = true → x = x') :
    gate (i < len) msg v i x = gate (i < len') msg v' i x' := by
  unfold slotEq at h
  simp only [Bool.and_eq_true] at h
  refine gate_congr (ltEq_iff h.1) fun hi => ?_
  have h2 := h.2
  simp only [hi, if_true, Bool.and_eq_true, bitEq, decide_eq_true_eq] at h2
  exact ⟨h2.1, fun hv => hx hi (ltEq_iff h.1 ▸ hi) (whenValid_elim h2.2 hv)⟩

theorem getD_congr {α} {l l' : List α} {k : Nat} (h : l[k]? = l'[k]?) (d : α) : l'.getD k d = l.getD k d := by
  rw [List.getD_eq_getElem?_getD, List.getD_eq_getElem?_getD, h]

theorem primGet_congr {v v' : Option Bits} {vals vals' : List Int} {i : Nat}
    (h : slotEq i vals.length vals'.length v v' (decide (vals[i]? = vals'[i]?)) = true) :
    primGet Fixes.all v vals i = primGet Fixes.all v' vals' i := by
  rw [primGet_all, primGet_all]; exact slotEq_gate h fun _ _ hc => by rw [of_decide_eq_true hc]

theorem nullCheck_congr {len len' i : Nat} (hl : (i < len) = (i < len')) :
    nullCheck Fixes.all len i = nullCheck Fixes.all len' i := by
  unfold nullCheck
  simp only [ge_of_lt_eq hl]

theorem structItem_congr {len len' i : Nat} (hl : (i < len) = (i < len')) :
    structItem Fixes.all len i = structItem Fixes.all len' i := by
  unfold structItem
  simp only [ge_of_lt_eq hl]

theorem boolGet_congr {len len' : Nat} {v v' : Option Bits} {vals vals' : Bits} {i : Nat}
    (h : slotEq i len len' v v' (decide (getBit vals i = getBit vals' i)) = true) :
    boolGet Fixes.all len v vals i = boolGet Fixes.all len' v' vals' i := by
  rw [boolGet_all, boolGet_all]; exact slotEq_gate h fun _ _ hc => by rw [of_decide_eq_true hc]

/-! ### string / binary columns -/

theorem bytesGet_congr {v v' : Option Bits} {offs offs' : List Int} {data data' : Bytes} {i : Nat}
    (h : slotEq i (offs.length - 1) (offs'.length - 1) v v'
      (decide (offs[i]? = offs'[i]?) && decide (offs[i + 1]? = offs'[i + 1]?) &&
        decide (byteSlice data (offs.getD i 0) (offs.getD (i + 1) 0) = byteSlice data' (offs.getD i 0) (offs.getD (i + 1) 0)))
      = true) :
    bytesGet Fixes.all v offs data i = bytesGet Fixes.all v' offs' data' i := by
  rw [bytesGet_all, bytesGet_all]
  refine slotEq_gate h fun _ _ hc => ?_
  simp only [Bool.and_eq_true, decide_eq_true_eq] at hc
  rw [getD_congr hc.1.1, getD_congr hc.1.2]
  unfold bytesAt
  rw [hc.2]

theorem viewGet_congr {v v' : Option Bits} {views views' : List Nat} {buffers buffers' : List Bytes} {i : Nat}
    (h : slotEq i views.length views'.length v v'
      (decide (views[i]? = views'[i]?) && decide (viewSlice buffers (views.getD i 0) = viewSlice buffers' (views.getD i 0)))
      = true) :
    viewGet Fixes.all v views buffers i = viewGet Fixes.all v' views' buffers' i := by
  rw [viewGet_all, viewGet_all]
  refine slotEq_gate h fun _ _ hc => ?_
  simp only [Bool.and_eq_true, decide_eq_true_eq] at hc
  rw [getD_congr hc.1, viewBytes_slice, viewBytes_slice, hc.2]

/-! ### fixed-size binary columns -/

theorem fsbNew_len (n : Int) (data : Bytes) :
    fsbNew Fixes.all n data =
      match fsbLen n data with
      | some len => .ok (n.toNat, len)
      | none =>
        if n < 0 then fail "out of range integral type conversion attempted"
        else fail "Invalid FixedSizeBinary array: not evenly divisible" := by
  unfold fsbNew fsbLen
  simp only [show Fixes.all.fsbZero = true from rfl, if_true]
  by_cases h0 : n < 0
  · simp only [h0, if_true]
  · simp only [h0, if_false]
    by_cases h1 : n.toNat = 0
    · simp only [h1, if_true]
      by_cases h2 : data.length = 0
      · simp only [h2, if_true]
      · simp only [h2, if_false]
    · simp only [h1, if_false]
      by_cases h2 : data.length % n.toNat = 0
      · simp only [h2, if_true]
        simp
      · simp only [h2, if_false]
        simp [h2]

/-- the buffers are both not divisible into rows of `n` bytes, or both are and slot `i` agrees -/
theorem fsbColGet_congr {n : Int} {v v' : Option Bits} {data data' : Bytes} {i : Nat}
    (h : (match fsbLen n data, fsbLen n data' with
      | some len, some len' =>
        slotEq i len len' v v' (decide ((data.drop (i * n.toNat)).take n.toNat = (data'.drop (i * n.toNat)).take n.toNat))
      | none, none => true
      | _, _ => false) = true) :
    fsbColGet Fixes.all n v data i = fsbColGet Fixes.all n v' data' i := by
  unfold fsbColGet
  have e := fsbNew_len n data
  have e' := fsbNew_len n data'
  split at h
  · rename_i len len' h1 h2
    rw [h1] at e; rw [h2] at e'
    rw [e, e']
    show fsbGet _ _ _ _ _ _ = fsbGet _ _ _ _ _ _
    rw [fsbGet_all, fsbGet_all]
    exact slotEq_gate h fun hi hi' hc => by
      rw [if_pos (Nat.le_trans (Nat.mul_le_mul_right _ hi) (fsbNew_ok e)),
        if_pos (Nat.le_trans (Nat.mul_le_mul_right _ hi') (fsbNew_ok e')), of_decide_eq_true hc]
  · rename_i h1 h2
    rw [h1] at e; rw [h2] at e'
    rw [e, e']
    by_cases hn : n < 0 <;> simp only [hn, if_true, if_false] <;> rfl
  · cases h

/-! ### the heads of the container reads -/

theorem listRange_congr {offs offs' : List Int} {i : Nat} (hl : (i < offs.length - 1) = (i < offs'.length - 1))
    (h : i < offs.length - 1 → offs[i]? = offs'[i]? ∧ offs[i + 1]? = offs'[i + 1]?) :
    listRange Fixes.all offs i = listRange Fixes.all offs' i := by
  unfold listRange
  simp only [succ_ge_of_lt_eq hl]
  split
  · rfl
  · rename_i hi
    have hi' : i < offs.length - 1 := by have := (succ_ge_of_lt_eq hl).symm ▸ hi; omega
    rw [(h hi').1, (h hi').2]

theorem fslRange_congr {len len' : Nat} {n : Int} {i : Nat} (hl : (i < len) = (i < len')) :
    fslRange Fixes.all len n i = fslRange Fixes.all len' n i := by
  unfold fslRange
  simp only [ge_of_lt_eq hl]

theorem getElem?_none_congr {α} {l l' : List α} {k : Nat} (h : l[k]? = l'[k]?) : (k ≥ l.length) = (k ≥ l'.length) := by
  apply propext
  rw [ge_iff_le, ge_iff_le, ← List.getElem?_eq_none_iff, ← List.getElem?_eq_none_iff, h]

theorem unionSelect_congr {types types' : List Int} {offs offs' : Option (List Int)} {n i : Nat}
    (h : unionHead types offs i = unionHead types' offs' i) :
    unionSelect Fixes.all types offs n i = unionSelect Fixes.all types' offs' n i := by
  unfold unionHead at h
  simp only [Prod.mk.injEq] at h
  obtain ⟨ht, ho⟩ := h
  unfold unionSelect
  simp only [getElem?_none_congr ht]
  cases offs with
  | none =>
    cases offs' with
    | none => rfl
    | some o' => simp at ho
  | some o =>
    cases offs' with
    | none => simp at ho
    | some o' =>
      simp only [Option.map_some, Option.some.injEq, Prod.mk.injEq, decide_eq_decide] at ho
      have hne : (types.length ≠ o.length) = (types'.length ≠ o'.length) := by
        apply propext; have := ho.1; omega
      simp only [hne, ht, ho.2]

/-! ### scalar reads, dictionary lookups -/

theorem primGet_some_valid {v : Option Bits} {vals : List Int} {i : Nat} {k : Int}
    (h : primGet Fixes.all v vals i = .ok (some k)) : vals[i]? = some k ∧ isValid v i = .ok true := by
  obtain ⟨_, ⟨_, ho⟩ | ⟨hv, ho⟩⟩ := primGet_ok h
  · cases ho
  · exact ⟨ho.symm, hv⟩

/-- a primitive column (also the keys of a dictionary column) -/
theorem touchEqW_prim {o : Bool} {p : Target} {ty : PrimTy} {v : Option Bits} {vals : List Int} {a' : Arr} {i : Nat}
    (h : touchEqW o p (.prim ty v vals) a' i = true) :
    ∃ v' vals', a' = .prim ty v' vals' ∧ primGet Fixes.all v vals i = primGet Fixes.all v' vals' i := by
  unfold touchEqW at h
  split at h
  · simp only [Bool.and_eq_true, decide_eq_true_eq] at h
    obtain ⟨rfl, hs⟩ := h
    exact ⟨_, _, rfl, primGet_congr hs⟩
  · cases h

/-- a string / binary column (also the values of a dictionary column) -/
theorem touchEqW_bytes {o : Bool} {p : Target} {ty : BytesTy} {v : Option Bits} {offs : List Int} {data : Bytes} {a' : Arr}
    {i : Nat} (h : touchEqW o p (.bytes ty v offs data) a' i = true) :
    ∃ v' offs' data', a' = .bytes ty v' offs' data' ∧ bytesGet Fixes.all v offs data i = bytesGet Fixes.all v' offs' data' i := by
  unfold touchEqW at h
  split at h
  · simp only [Bool.and_eq_true, decide_eq_true_eq] at h
    obtain ⟨rfl, hs⟩ := h
    exact ⟨_, _, _, rfl, bytesGet_congr hs⟩
  · cases h

theorem dictGetStr_other {fx : Fixes} {ks vs : Arr} (h : kind ks ≠ 2 ∨ kind vs ≠ 6) (i : Nat) :
    dictGetStr fx ks vs i = fail "Unsupported dictionary array type" := by
  cases ks with
  | prim ty v vals =>
    cases vs with
    | bytes => exact absurd rfl (h.resolve_left (fun h => h rfl))
    | _ => rfl
  | _ => rfl

/-- `DictionaryDeserializer::get_str` -/
theorem dictGetStr_agree {o : Bool} {p : Target} {ks vs ks' vs' : Arr} {i : Nat}
    (h : touchEqW o p (.dictionary ks vs) (.dictionary ks' vs') i = true) :
    dictGetStr Fixes.all ks vs i = dictGetStr Fixes.all ks' vs' i := by
  obtain ⟨ks2, vs2, he, hkind, hkv, hk, hvs⟩ := touchEqW_dictionary h
  cases he
  by_cases hd : kind ks = 2 ∧ kind vs = 6
  · obtain ⟨ty, v, vals, rfl⟩ := kind_eq_prim hd.1
    obtain ⟨vty, vv, voffs, vdata, rfl⟩ := kind_eq_bytes hd.2
    obtain ⟨v', vals', rfl, hg⟩ := touchEqW_prim (hk ty v vals rfl)
    obtain ⟨vty', vv', voffs', vdata', rfl⟩ := kind_eq_bytes (hkv ▸ hd.2)
    unfold dictGetStr
    simp only [← hg]
    refine R.bind_congr_ok (fun k hg => ?_)
    split
    · rfl
    · refine R.bind_congr_ok (fun key hkey => ?_)
      obtain ⟨h0, rfl⟩ := tryIntoUsize_ok hkey
      obtain ⟨hkey, hval⟩ := primGet_some_valid (getRequired_ok hg)
      obtain ⟨_, _, _, he2, hb⟩ := touchEqW_bytes (hvs ty v vals vty vv voffs vdata _ rfl rfl hval hkey h0)
      cases he2
      rw [Int.toNat_natCast] at hb
      rw [hb]
  · have hd := Decidable.not_and_iff_not_or_not.mp hd
    rw [dictGetStr_other hd, dictGetStr_other (hkind ▸ hkv ▸ hd)]

theorem isSome_dictionary_other {fx : Fixes} {ks : Arr} (h : kind ks ≠ 2) (vs : Arr) (i : Nat) :
    isSome fx (.dictionary ks vs) i = fail "Unsupported dictionary array type" := by
  cases ks <;> first | rfl | exact absurd rfl h


/-- what `touchEqW` says of an array without children: the second array has the same constructor and tags, and the
getters of the two answer alike at slot `i` -/
theorem leafSim_agree {o : Bool} {p : Target} {a a' : Arr} {i : Nat} (h : touchEqW o p a a' i = true)
    (hc : childless a = true) : LeafSim Fixes.all a i a' i := by
  cases a with
  | null len =>
    unfold touchEqW at h; split at h
    · exact .null (nullCheck_congr (ltEq_iff h))
    · cases h
  | boolean len v vals =>
    unfold touchEqW at h; split at h
    · exact .boolean (boolGet_congr h)
    · cases h
  | prim ty v vals => obtain ⟨v', vals', rfl, hg⟩ := touchEqW_prim h; exact .prim ty hg
  | time ty u v vals =>
    unfold touchEqW at h; split at h
    · simp only [Bool.and_eq_true, decide_eq_true_eq] at h
      obtain ⟨⟨rfl, rfl⟩, hs⟩ := h
      exact .time ty u (primGet_congr hs)
    · cases h
  | timestamp u tz v vals =>
    unfold touchEqW at h; split at h
    · simp only [Bool.and_eq_true, decide_eq_true_eq] at h
      obtain ⟨⟨rfl, rfl⟩, hs⟩ := h
      exact .timestamp u tz (primGet_congr hs)
    · cases h
  | decimal128 pr s v vals =>
    unfold touchEqW at h; split at h
    · simp only [Bool.and_eq_true, decide_eq_true_eq] at h
      obtain ⟨⟨rfl, rfl⟩, hs⟩ := h
      exact .decimal128 pr s (primGet_congr hs)
    · cases h
  | bytes ty v offs data =>
    obtain ⟨v', offs', data', rfl, hg⟩ := touchEqW_bytes h
    exact .bytes ty (by unfold bytesColGet; rw [hg])
  | bytesView ty v views buffers =>
    unfold touchEqW at h; split at h
    · simp only [Bool.and_eq_true, decide_eq_true_eq] at h
      obtain ⟨rfl, hs⟩ := h
      exact .bytesView ty (by unfold viewColGet; rw [viewGet_congr hs])
    · cases h
  | fixedSizeBinary n v data =>
    unfold touchEqW at h; split at h
    · simp only [Bool.and_eq_true, decide_eq_true_eq] at h
      obtain ⟨rfl, hs⟩ := h
      exact .fixedSizeBinary n (fsbColGet_congr hs)
    · cases h
  | dictionary ks vs =>
    obtain ⟨ks', vs', rfl, hkind, _, hk, _⟩ := touchEqW_dictionary h
    refine .dictionary ?_ (dictGetStr_agree h)
    by_cases hp : kind ks = 2
    · obtain ⟨ty, v, vals, rfl⟩ := kind_eq_prim hp
      obtain ⟨v', vals', rfl, hg⟩ := touchEqW_prim (hk ty v vals rfl); simp only [isSome, hg]
    · rw [isSome_dictionary_other hp, isSome_dictionary_other (hkind ▸ hp)]
  | _ => cases hc

theorem leafSim_kind {fx : Fixes} {a a' : Arr} {i i' : Nat} (h : LeafSim fx a i a' i') : kind a = kind a' := by
  cases h <;> rfl

theorem touchEqW_kind {o : Bool} {p : Target} {a a' : Arr} {i : Nat} (h : touchEqW o p a a' i = true) : kind a = kind a' := by
  cases a with
  | struct len v fs => obtain ⟨_, _, _, rfl, _⟩ := touchEqW_struct h; rfl
  | list l v offs fm el => obtain ⟨_, _, _, _, _, rfl, _⟩ := touchEqW_list h; rfl
  | fixedSizeList len v n fm el => obtain ⟨_, _, _, _, rfl, _⟩ := touchEqW_fsl h; rfl
  | map v offs mm ks vs => obtain ⟨_, _, _, _, _, rfl, _⟩ := touchEqW_map h; rfl
  | union types offs fs => obtain ⟨_, _, _, rfl, _⟩ := touchEqW_union h; rfl
  | _ => exact leafSim_kind (leafSim_agree h rfl)

theorem childless_kind (a : Arr) : childless a = (decide (kind a < 9) || kind a == 13) := by cases a <;> rfl

/-- the scalar reads (`deserialize_bool`, `…_i32`, `…_str`, …), binary columns read as a sequence of `u8`, string
columns read as an enum -/
theorem leafOps_agree {o : Bool} {p : Target} {a a' : Arr} {i : Nat} (h : touchEqW o p a a' i = true) :
    (∀ m, scalar Fixes.all m a i = scalar Fixes.all m a' i) ∧ binaryElems Fixes.all a i = binaryElems Fixes.all a' i ∧
      stringElem Fixes.all a i = stringElem Fixes.all a' i :=
  leafOps_congr (by rw [childless_kind, childless_kind, touchEqW_kind h]) (leafSim_agree h)

theorem scalar_agree (m : Method) {o : Bool} {p : Target} {a a' : Arr} {i : Nat} (h : touchEqW o p a a' i = true) :
    scalar Fixes.all m a i = scalar Fixes.all m a' i := (leafOps_agree h).1 m

theorem binaryElems_agree {o : Bool} {p : Target} {a a' : Arr} {i : Nat} (h : touchEqW o p a a' i = true) :
    binaryElems Fixes.all a i = binaryElems Fixes.all a' i := (leafOps_agree h).2.1

theorem stringElem_agree {o : Bool} {p : Target} {a a' : Arr} {i : Nat} (h : touchEqW o p a a' i = true) :
    stringElem Fixes.all a i = stringElem Fixes.all a' i := (leafOps_agree h).2.2

/-! ### `is_some`, the `Option` layer -/

/-- the `is_some` of the struct / list / map / fixed-size-list columns: the row test, then the validity bit -/
theorem rowBit_congr {m : String} {c c' : Prop} [Decidable c] [Decidable c'] {v v' : Option Bits} {i : Nat} (hc : c = c')
    (hv : ¬ c → isValid v i = isValid v' i) :
    (if c then (fail m : R Bool) else validityIsSet Fixes.all v i) = (if c' then fail m else validityIsSet Fixes.all v' i) := by
  by_cases h : c
  · rw [if_pos h, if_pos (hc ▸ h)]
  · rw [if_neg h, if_neg (hc ▸ h), validityIsSet_congr (hv h)]

theorem rowBit_true {m : String} {c : Prop} [Decidable c] {v : Option Bits} {i : Nat}
    (h : (if c then (fail m : R Bool) else validityIsSet Fixes.all v i) = .ok true) : isValid v i = .ok true := by
  split at h
  · cases h
  · rwa [validityIsSet_all] at h

theorem isSome_agree {p : Target} {a a' : Arr} {i : Nat} (h : touchEqW true p a a' i = true) :
    isSome Fixes.all a i = isSome Fixes.all a' i := by
  cases a with
  | struct len v fs =>
    obtain ⟨len', v', fs', rfl, hl, hv, _⟩ := touchEqW_struct h
    exact rowBit_congr (ge_of_lt_eq hl) (fun hi => hv rfl (Nat.lt_of_not_ge hi))
  | list l v offs fm el =>
    obtain ⟨l', v', offs', fm', el', rfl, hl, hv, _⟩ := touchEqW_list h
    exact rowBit_congr (succ_ge_of_lt_eq hl) (fun hi => hv rfl (by omega))
  | fixedSizeList len v n fm el =>
    obtain ⟨len', v', fm', el', rfl, hl, hv, _⟩ := touchEqW_fsl h
    exact rowBit_congr (ge_of_lt_eq hl) (fun hi => hv rfl (Nat.lt_of_not_ge hi))
  | map v offs mm ks vs =>
    obtain ⟨v', offs', mm', ks', vs', rfl, hl, hv, _⟩ := touchEqW_map h
    exact rowBit_congr (succ_ge_of_lt_eq hl) (fun hi => hv rfl (by omega))
  | union types offs fs =>
    obtain ⟨types', offs', fs', rfl, hh, _, _⟩ := touchEqW_union h
    have ht : types[i]? = types'[i]? := by
      unfold unionHead at hh; simp only [Prod.mk.injEq] at hh; exact hh.1
    simp only [isSome, getElem?_none_congr ht]
  | _ => exact (leafSim_agree h rfl).isSome

theorem rowEq_weaken {o : Bool} {i len len' : Nat} {v v' : Option Bits} {c : Bool}
    (h : rowEq true i len len' v v' c = true) (hv : i < len → isValid v i = .ok true) : rowEq o i len len' v v' c = true := by
  have hr := rowEq_elim h
  unfold rowEq
  simp only [Bool.and_eq_true]
  refine ⟨by unfold rowEq at h; simp only [Bool.and_eq_true] at h; exact h.1, ?_⟩
  by_cases hi : i < len
  · have hc := hr.2.2 hi (fun _ => hv hi)
    cases o with
    | false => simp only [hi, if_true, Bool.false_eq_true, if_false, hc]
    | true =>
      simp only [hi, if_true, Bool.and_eq_true, bitEq, decide_eq_true_eq]
      refine ⟨hr.2.1 rfl hi, ?_⟩
      unfold whenValid
      simp only [hv hi, hc]
  · simp only [hi, if_false]

/-- the `Option` layer: after `is_some` said yes, the relation holds without consulting the validity bit again -/
theorem touchEqW_weaken {o : Bool} {p : Target} {a a' : Arr} {i : Nat} (h : touchEqW true p a a' i = true)
    (hs : isSome Fixes.all a i = .ok true) : touchEqW o p a a' i = true := by
  cases a with
  | struct len v fs =>
    obtain ⟨len', v', fs', rfl, _⟩ := touchEqW_struct h
    exact rowEq_weaken h (fun _ => rowBit_true hs)
  | list l v offs fm el =>
    obtain ⟨l', v', offs', fm', el', rfl, _⟩ := touchEqW_list h
    exact rowEq_weaken h (fun _ => rowBit_true hs)
  | fixedSizeList len v n fm el =>
    obtain ⟨len', v', fm', el', rfl, _⟩ := touchEqW_fsl h
    unfold touchEqW at h ⊢
    simp only [Bool.and_eq_true] at h ⊢
    exact ⟨h.1, rowEq_weaken h.2 (fun _ => rowBit_true hs)⟩
  | map v offs mm ks vs =>
    obtain ⟨v', offs', mm', ks', vs', rfl, _⟩ := touchEqW_map h
    exact rowEq_weaken h (fun _ => rowBit_true hs)
  | _ => unfold touchEqW at h ⊢; exact h

/-- the `Option` layer of a target: `is_some` agrees, and where it says yes the views agree for the inner target -/
theorem touchEq_option_elim {t : Target} {a a' : Arr} {i : Nat} (h : touchEq (.option t) a a' i = true) :
    isSome Fixes.all a i = isSome Fixes.all a' i ∧ (isSome Fixes.all a i = .ok true → touchEq t a a' i = true) := by
  rw [touchEq_option] at h
  exact ⟨isSome_agree h, fun hs => touchEqW_weaken h hs⟩

end SaModel.Props.C17
