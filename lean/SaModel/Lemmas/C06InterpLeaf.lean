import SaModel.Lemmas.C06InterpBase
import SaModel.Lemmas.DataBasic
/-
C06, closure, leaf positions: the coerced leaf type accepts every absorbed leaf kind.

`okPair ty a`: the explicit list of (traced type, type of the serde call) pairs at which the mapping is defined for every
well-formed value of that call kind (up to the exclusions): same type; UInt64 for unsigned calls; Int64 for every integer
call; Float64 for integer and float calls; a string type for the to-string sources and timestamps.  `acc_okPair` (arm by arm
along `coerce_primitive_type`): a non-null state that has absorbed a non-null call type (`act o s a = ok s`) is one of
these pairs.  `leaf_interp`: at such a pair `interpScalar` is defined
for every sample of that kind which is `sampleOK` and not excluded.  `mapped_leaf` puts both together.
-/
namespace SaModel.Lemmas.C06
open SaModel SaModel.Spec SaModel.Build SaModel.Trace SaModel.Props.C07

def isUInt64DT : DataType → Bool
  | .uint64 => true
  | _ => false

def isFloat64DT : DataType → Bool
  | .float64 => true
  | _ => false

def okPair (ty a : DataType) : Bool :=
  decide (ty = a) || (isUInt64DT ty && isUnsigned a) || (isInt64DT ty && isInt a) ||
  (isFloat64DT ty && (isInt a || isFloat3264 a)) ||
  ((isUtf8 ty || isLargeUtf8 ty) && (isToStringSource a || isTimestamp a))

theorem ite_prop_of {α} {P : α → Prop} {c : Prop} [Decidable c] {x y : α} (hx : c → P x) (hy : P y) :
    P (if c then x else y) := by
  split
  · exact hx ‹_›
  · exact hy

theorem isUtf8_iff (d : DataType) : isUtf8 d = true ↔ d = .utf8 := by cases d <;> simp [isUtf8]
theorem isLargeUtf8_iff (d : DataType) : isLargeUtf8 d = true ↔ d = .largeUtf8 := by cases d <;> simp [isLargeUtf8]

/-- a non-null type that coercion with a non-null `a` leaves unchanged is `a` itself or one of the widened types `a` is
coerced to: arm by arm, the arm's result is the type and the arm's guard says what `a` is -/
theorem coerce_fix_okPair (o : Options) (ty a : DataType) (nl : Bool) (hty : ty ≠ .null) (hna : a ≠ .null) :
    ∀ nl' st', coerce_primitive_type o ty nl none a none = .ok (ty, nl', st') → okPair ty a = true := by
  unfold coerce_primitive_type
  by_cases h1 : ty = a ∧ (none : Option Strategy) = none
  · intro _ _ _; simp [okPair, h1.1]
  rw [if_neg h1, if_neg hty, if_neg hna]
  clear h1 hty hna
  -- an arm that returns `ty`: the conjuncts of its guard are the facts about `a` that `okPair` asks for
  repeat (first
    | (refine ite_prop_of (P := fun r => ∀ nl' st', r = Except.ok (ty, nl', st') → okPair ty a = true) ?_ ?_
       · intro hc nl' st' h
         simp only [Except.ok.injEq, Prod.mk.injEq] at h
         obtain ⟨rfl, _⟩ := h
         simp only [Bool.and_eq_true, isInt, isLargeUtf8_iff, isUtf8_iff] at hc
         simp [okPair, isUInt64DT, isInt64DT, isFloat64DT, isUtf8, isLargeUtf8, isInt, hc])
    | (intro nl' st' h; cases h))
  -- the last arm returns `o.string_type` for two timestamps: not a timestamp itself
  refine ite_prop_of (P := fun r => ∀ nl' st', r = Except.ok (ty, nl', st') → okPair ty a = true) ?_ ?_
  · intro hc nl' st' h
    cases h
    rcases string_type_cases o with e | e <;> simp [e, isTimestamp] at hc
  · intro nl' st' h; cases h

theorem acc_okPair (o : Options) {ty a : DataType} {nl : Bool} (hty : ty ≠ .null) (hna : a ≠ .null)
    (h : act o (some ty, nl) a = .ok (some ty, nl)) : okPair ty a = true := by
  simp only [act] at h
  cases hc : coerce_primitive_type o ty nl none a none with
  | error e => rw [hc] at h; cases h
  | ok r =>
    obtain ⟨ty', nl', st'⟩ := r
    rw [hc] at h
    simp only [Except.ok.injEq, Prod.mk.injEq, Option.some.injEq] at h
    obtain ⟨rfl, _⟩ := h
    exact coerce_fix_okPair o ty' a nl hty hna nl' st' hc

theorem inRange_char (T : IntTy) (c : Nat) (hc : c < 1114112) (hT : 1114111 ≤ T.max) : T.inRange c = true := by
  rw [IntTy.inRange_iff]
  cases T <;> simp only [IntTy.min, IntTy.max] at hT ⊢ <;> omega

theorem inRange_i64_of (t : IntTy) (v : Int) (h : t.inRange v = true) (hu : t = .u64 → v ≤ 9223372036854775807) :
    IntTy.i64.inRange v = true := by
  rw [IntTy.inRange_iff] at h ⊢
  cases t <;> simp only [IntTy.min, IntTy.max] at h ⊢
  all_goals first | omega | (have := hu rfl; omega)

theorem inRange_u64_of (t : IntTy) (v : Int) (h : t.inRange v = true) (hu : isUnsigned (intDataType t) = true) :
    IntTy.u64.inRange v = true := by
  rw [IntTy.inRange_iff] at h ⊢
  cases t <;> simp [intDataType, isUnsigned] at hu <;> simp only [IntTy.min, IntTy.max] at h ⊢ <;> omega

theorem scalar_int (ext : Ext) (T t : IntTy) (v : Int) (h : T.inRange v = true) :
    ∃ lv, interpScalar ext (intDataType T) (.int t v) = .ok lv := by
  cases T <;> simp [interpScalar_eq_old, normErr_ok_iff, interpScalarOld, intDataType, convLeaf, tryInto, h, bind, Except.bind, pure, Except.pure]

theorem scalar_char (ext : Ext) (T : IntTy) (c : Nat) (h : T.inRange c = true) :
    ∃ lv, interpScalar ext (intDataType T) (.char c) = .ok lv := by
  cases T <;> simp [interpScalar_eq_old, normErr_ok_iff, interpScalarOld, intDataType, convLeaf, tryInto, h, bind, Except.bind, pure, Except.pure]

theorem scalar_string (ext : Ext) (dt : DataType) (x : SVal) (s : String)
    (hdt : dt = .utf8 ∨ dt = .largeUtf8 ∨ ∃ k v, dt = .dictionary k v ∧ (v = .utf8 ∨ v = .largeUtf8))
    (hs : scalarToString ext x = some s) :
    ∃ lv, interpScalar ext dt x = .ok lv := by
  rcases hdt with rfl | rfl | ⟨k, v, rfl, rfl | rfl⟩ <;> simp [interpScalar_eq_old, normErr_ok_iff, interpScalarOld, interpDictStr, dictValue, liftO, hs]

theorem isUInt64DT_iff (d : DataType) : isUInt64DT d = true ↔ d = .uint64 := by cases d <;> simp [isUInt64DT]
theorem isInt64DT_iff (d : DataType) : isInt64DT d = true ↔ d = .int64 := by cases d <;> simp [isInt64DT]
theorem isFloat64DT_iff (d : DataType) : isFloat64DT d = true ↔ d = .float64 := by cases d <;> simp [isFloat64DT]

theorem strType_cases (o : Options) (s : String) :
    strType o s = o.string_type ∨ isGuessedDT (strType o s) = true := by
  unfold strType
  repeat (first | (split; first | exact .inl rfl | exact .inr rfl) | exact .inl rfl | exact .inr rfl)

theorem strType_ne_null (o : Options) (s : String) : strType o s ≠ .null := by
  rcases strType_cases o s with h | h
  · rw [h]; rcases string_type_cases o with h' | h' <;> rw [h'] <;> simp
  · intro e; rw [e] at h; simp [isGuessedDT] at h

theorem guessed_not_numeric {d : DataType} (h : isGuessedDT d = true) :
    isUnsigned d = false ∧ isSigned d = false ∧ isFloat3264 d = false := by
  cases d <;> first | exact ⟨rfl, rfl, rfl⟩ | cases h

theorem guessed_not_string {d : DataType} (h : isGuessedDT d = true) : (isLargeUtf8 d || isUtf8 d) = false := by
  cases d <;> first | rfl | cases h

theorem string_type_not_numeric (o : Options) :
    isUnsigned o.string_type = false ∧ isSigned o.string_type = false ∧ isFloat3264 o.string_type = false := by
  rcases string_type_cases o with h | h <;> rw [h] <;> exact ⟨rfl, rfl, rfl⟩

/-- the field data type of a primitive tracer of type `ty`: the type itself or (strings, dictionary encoding) a
dictionary -/
def FieldOf (ty dt : DataType) : Prop :=
  dt = ty ∨ ((isLargeUtf8 ty || isUtf8 ty) = true ∧ ∃ k v, dt = .dictionary k v ∧ (v = .utf8 ∨ v = .largeUtf8))

theorem leaf_interp (ext : Ext) (o : Options) (b : Bool) {ty a : DataType} (hp : okPair ty a = true) {x : SVal}
    (hx : leafTypeOf o x = some a) (hna : a ≠ .null) (hok : sampleOK b x = true) {dt : DataType} (hdt : FieldOf ty dt)
    (hex : exclAny ext dt x = false) : ∃ lv, interpScalar ext dt x = .ok lv := by
  simp only [exclAny, Bool.or_eq_false_iff] at hex
  obtain ⟨⟨⟨hex1, hdate⟩, hu64⟩, hex4⟩ := hex
  -- a string-typed field takes every to-string source
  have hstring : (isUtf8 ty || isLargeUtf8 ty) = true → ∀ s, scalarToString ext x = some s →
      ∃ lv, interpScalar ext dt x = .ok lv := by
    intro hty s hs
    refine scalar_string ext dt x s ?_ hs
    rcases hdt with rfl | ⟨_, k, v, rfl, hv⟩
    · simp only [Bool.or_eq_true, isUtf8_iff, isLargeUtf8_iff] at hty
      rcases hty with h | h
      · exact .inl h
      · exact .inr (.inl h)
    · exact .inr (.inr ⟨k, v, rfl, hv⟩)
  have hnostr : (isLargeUtf8 ty || isUtf8 ty) = false → dt = ty := by
    intro h
    rcases hdt with rfl | ⟨h', _⟩
    · rfl
    · rw [h] at h'; cases h'
  have hstring' : isUtf8 ty = true ∨ isLargeUtf8 ty = true → ∀ s, scalarToString ext x = some s →
      ∃ lv, interpScalar ext dt x = .ok lv := fun h => hstring (by simpa using h)
  -- by the kind of the call; `okPair` then lists the column types
  cases x <;> simp only [leafTypeOf, Option.some.injEq, reduceCtorEq] at hx <;> subst hx
  case unit => exact absurd rfl hna
  case unitStruct => exact absurd rfl hna
  case bool bb =>
    simp [okPair, isUnsigned, isInt, isSigned, isFloat3264, isToStringSource, isBoolean, isTimestamp] at hp
    rcases hp with rfl | h
    · rw [hnostr rfl]; exact ⟨_, rfl⟩
    · exact hstring' h _ rfl
  case int t v =>
    have hr : t.inRange v = true := by simpa [sampleOK] using hok
    simp only [okPair, Bool.or_eq_true, Bool.and_eq_true, decide_eq_true_eq] at hp
    rcases hp with (((rfl | ⟨h1, h2⟩) | ⟨h1, _⟩) | ⟨h1, _⟩) | ⟨h1, _⟩
    · rw [hnostr (by cases t <;> rfl)]; exact scalar_int ext t t v hr
    · cases (isUInt64DT_iff ty).mp h1
      rw [hnostr rfl]; exact scalar_int ext .u64 t v (inRange_u64_of t v hr h2)
    · cases (isInt64DT_iff ty).mp h1
      rw [hnostr rfl] at hu64 ⊢
      refine scalar_int ext .i64 t v (inRange_i64_of t v hr ?_)
      intro ht; subst ht
      simp only [u64AboveI64, isInt64DT, Bool.true_and, decide_eq_false_iff_not] at hu64
      omega
    · cases (isFloat64DT_iff ty).mp h1
      rw [hnostr rfl]; exact ⟨_, rfl⟩
    · exact hstring (by simpa using h1) _ rfl
  case f32 bits =>
    simp [okPair, isUnsigned, isInt, isSigned, isFloat3264, isToStringSource, isBoolean, isTimestamp] at hp
    rcases hp with (rfl | h) | h
    · rw [hnostr rfl]; exact ⟨_, rfl⟩
    · cases (isFloat64DT_iff ty).mp h
      rw [hnostr rfl]; exact ⟨_, rfl⟩
    · exact hstring' h _ rfl
  case f64 bits =>
    simp [okPair, isUnsigned, isInt, isSigned, isFloat3264, isToStringSource, isBoolean, isTimestamp] at hp
    rcases hp with (rfl | h) | h
    · rw [hnostr rfl]; exact ⟨_, rfl⟩
    · cases (isFloat64DT_iff ty).mp h
      rw [hnostr rfl]; exact ⟨_, rfl⟩
    · exact hstring' h _ rfl
  case char c =>
    have hc : c < 1114112 := by simpa [sampleOK] using hok
    simp [okPair, isUnsigned, isInt, isSigned, isFloat3264, isToStringSource, isBoolean, isTimestamp] at hp
    rcases hp with (((rfl | h) | h) | h) | h
    · rw [hnostr rfl]; exact scalar_char ext .u32 c (inRange_char _ c hc (by decide))
    · cases (isUInt64DT_iff ty).mp h
      rw [hnostr rfl]; exact scalar_char ext .u64 c (inRange_char _ c hc (by decide))
    · cases (isInt64DT_iff ty).mp h
      rw [hnostr rfl]; exact scalar_char ext .i64 c (inRange_char _ c hc (by decide))
    · cases (isFloat64DT_iff ty).mp h
      rw [hnostr rfl]; exact ⟨_, rfl⟩
    · exact hstring' h _ rfl
  case str s =>
    simp only [okPair, Bool.or_eq_true, Bool.and_eq_true, decide_eq_true_eq] at hp
    rcases strType_cases o s with hs | hs
    · -- the string type: every column type that absorbs it is a string type
      have hnum := string_type_not_numeric o
      rw [hs] at hp
      rcases hp with (((rfl | ⟨_, h2⟩) | ⟨_, h2⟩) | ⟨_, h2⟩) | ⟨h1, _⟩
      · exact hstring (by rcases string_type_cases o with h' | h' <;> rw [h'] <;> rfl) s rfl
      · rw [hnum.1] at h2; cases h2
      · rw [isInt, hnum.2.1, hnum.1] at h2; cases h2
      · simp [isInt, hnum.1, hnum.2.1, hnum.2.2] at h2
      · exact hstring' h1 s rfl
    · -- a guessed temporal type: no number column absorbs it; the column itself takes what its parser takes
      have hnum := guessed_not_numeric hs
      rcases hp with (((rfl | ⟨_, h2⟩) | ⟨_, h2⟩) | ⟨_, h2⟩) | ⟨h1, _⟩
      · rw [hnostr (guessed_not_string hs)] at hdate ⊢
        simp only [dateLookalike, hs, Bool.true_and, Bool.not_eq_false'] at hdate
        cases hi : interpScalar ext (strType o s) (.str s) with
        | ok lv => exact ⟨lv, rfl⟩
        | error e => rw [hi] at hdate; cases hdate
      · rw [hnum.1] at h2; cases h2
      · rw [isInt, hnum.2.1, hnum.1] at h2; cases h2
      · simp [isInt, hnum.1, hnum.2.1, hnum.2.2] at h2
      · exact hstring' h1 s rfl
  case bytes bs =>
    simp [okPair, isUnsigned, isInt, isSigned, isFloat3264, isToStringSource, isBoolean, isTimestamp] at hp
    subst hp
    rw [hnostr rfl]; exact ⟨_, rfl⟩

theorem mapped_leaf (o : Options) (ext : Ext) (h0 : o.overwrites = []) (x : SVal) (a : DataType)
    (hx : leafTypeOf o x = some a) : Mapped o ext x := by
  intro t2 h _ f hf hok hex
  have hl := was_later h
  rw [fam_leaf hx] at hl
  obtain ⟨_, huv, _⟩ := to_field_facts h0 hf
  by_cases hnull : a = .null
  · subst hnull
    have hn : t2.nullable = true := ((if_pos rfl).mp hl.2).1
    cases x <;> simp only [leafTypeOf, Option.some.injEq, reduceCtorEq] at hx
    case unit =>
      have hu : isUnionDT f.dataType = false := by
        simpa [hits, exclAny, nullAtEnum, dateLookalike, u64AboveI64, dataLessNewtype] using hex
      exact ⟨.null, by simp only [interpDT]; exact interpNull_of_nullable h0 hf hn hu⟩
    case unitStruct nm =>
      have hu : isUnionDT f.dataType = false := by
        simpa [hits, exclAny, nullAtEnum, dateLookalike, u64AboveI64, dataLessNewtype] using hex
      exact ⟨.null, by simp only [interpDT]; exact interpNull_of_nullable h0 hf hn hu⟩
    case int tt v => cases tt <;> simp [intDataType] at hx
    case str s => exact absurd hx (strType_ne_null o s)
  · obtain ⟨n, p, nl2, ty2, rfl, hty2, hstay⟩ := (if_neg hnull).mp hl.2
    have hw2 := h.wf
    simp only [WF] at hw2
    have hp := acc_okPair o hty2 hnull hstay
    have hfield : FieldOf ty2 f.dataType := by
      rcases to_field_node h0 hf with ⟨e, _⟩ | ⟨_, hs', ⟨_, rfl⟩ | ⟨_, rfl⟩⟩ | ⟨_, _, rfl⟩
      · exact absurd e hty2
      · exact .inl rfl
      · exact .inr ⟨hs', _, _, rfl, string_type_cases o⟩
      · exact .inl rfl
    have hex' : exclAny ext f.dataType x = false := by
      cases x <;> simp only [leafTypeOf, reduceCtorEq] at hx <;> simpa [hits] using hex
    obtain ⟨lv, hlv⟩ := leaf_interp ext o _ hp hx hnull hok hfield hex'
    refine ⟨lv, ?_⟩
    cases x <;> simp only [leafTypeOf, reduceCtorEq] at hx
    case bytes bs =>
      have ha' : a = .largeBinary := (Option.some.inj hx).symm
      subst ha'
      have hty : ty2 = .largeBinary := by
        simpa [okPair, isUnsigned, isInt, isSigned, isFloat3264, isToStringSource, isBoolean, isTimestamp] using hp
      subst hty
      have hdt : f.dataType = .largeBinary := by
        rcases hfield with h | ⟨h, _⟩
        · exact h
        · simp [isLargeUtf8, isUtf8] at h
      rw [hdt] at hlv huv
      simp only [interpDT, hdt, huv, Bool.false_eq_true, if_false]
      exact hlv
    all_goals first | exact absurd (Option.some.inj hx).symm hnull | (simp only [interpDT, huv, Bool.false_eq_true, if_false]; exact hlv)

theorem PI_leaf (o : Options) (ext : Ext) (h0 : o.overwrites = []) (x : SVal) (a : DataType)
    (hx : leafTypeOf o x = some a) : PI o ext x :=
  (mapped_leaf o ext h0 x a hx).pi

end SaModel.Lemmas.C06
