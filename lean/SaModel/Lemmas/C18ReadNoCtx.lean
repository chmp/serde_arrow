import SaModel.Lemmas.C18ReadPlain
import SaModel.Lemmas.ReadErrs
/-
C18, reader half: the un-annotated reader model (`Reader.readAny`, `Reader.readAs`: the subject of C02 / C12 / C17) never
returns an annotated error — it has no `.ctx(..)`.  Hence `eraseAnn` is the identity on it.  Instances of
`Read.readAs_errs` / `Read.readAny_errs`: no operation of a reader node returns an annotated error.
-/
namespace SaModel.Props.C18
open SaModel SaModel.Read

theorem NoCtx.errs {α} (x : R α) [h : NoCtx x] : Errs (fun e => ∀ m a, e ≠ .errCtx m a) x :=
  fun _ he m a hs => h.out m a (hs ▸ he)

theorem NoCtx.of_errs {α} {x : R α} (h : Errs (fun e => ∀ m a, e ≠ .errCtx m a) x) : NoCtx x :=
  ⟨fun m a hs => h _ hs m a rfl⟩

theorem nodeOps_noCtx (fx : Fixes) : NodeOps fx (fun e => ∀ m a, e ≠ .errCtx m a) where
  err := fun _ _ _ h => nomatch h
  leafReq := fun hr => have := leafReq_noCtx hr; NoCtx.errs _
  isSome := fun _ _ => NoCtx.errs _
  listRange := fun _ _ => NoCtx.errs _
  fslRange := fun _ _ _ => NoCtx.errs _
  unionSelect := fun _ _ _ _ => NoCtx.errs _

theorem readAnySome_noctx (fx : Fixes) : ∀ (a : Arr) (idx : Nat), NoCtx (readAnySome fx a idx) :=
  fun a i => .of_errs (readAnySome_errs (nodeOps_noCtx fx) a i)
theorem readAnyFields_noctx (fx : Fixes) : ∀ (fs : ArrFields) (idx : Nat), NoCtx (readAnyFields fx fs idx) :=
  fun fs i => .of_errs (readAnyFields_errs (nodeOps_noCtx fx) fs i)
/-- also for a position the union does not have: the unwind there is not an annotated error -/
theorem readAnyVariant_noctx (fx : Fixes) : ∀ (fs : ArrUFields) (k off : Nat), NoCtx (readAnyVariant fx fs k off)
  | .nil, k, off => by unfold readAnyVariant; infer_instance
  | .cons _ fm a rest, 0, off => by
    unfold readAnyVariant
    exact .of_errs (Errs.bind (anyAt_errs (nodeOps_noCtx fx) a (readAnySome_errs (nodeOps_noCtx fx) a) off) fun _ _ => Errs.pure _)
  | .cons _ fm a rest, k + 1, off => by
    unfold readAnyVariant; exact readAnyVariant_noctx fx rest k off

instance readAny_noctx (fx : Fixes) (a : Arr) (idx : Nat) : NoCtx (readAny fx a idx) :=
  .of_errs (readAny_errs (nodeOps_noCtx fx) a idx)

theorem readAs_noctx (fx : Fixes) : ∀ (t : Target) (a : Arr) (idx : Nat), NoCtx (readAs fx t a idx) :=
  fun t a i => .of_errs (readAs_errs (nodeOps_noCtx fx) t a i)
theorem readTupleFields_noctx (fx : Fixes) : ∀ (ts : Targets) (fs : ArrFields) (idx : Nat), NoCtx (readTupleFields fx ts fs idx) :=
  fun ts fs i => .of_errs (readTupleFields_errs (nodeOps_noCtx fx) ts fs i)
theorem readFieldAs_noctx (fx : Fixes) : ∀ (tfs : TFields) (pos : Nat) (slots : Slots) (name : String) (child : Arr) (idx : Nat),
    NoCtx (readFieldAs fx tfs pos slots name child idx) :=
  fun tfs pos slots name c i => .of_errs (readFieldAs_errs (nodeOps_noCtx fx) tfs pos slots name c i)
theorem readVariantAs_noctx (fx : Fixes) : ∀ (vs : TVariants) (sel : Option Nat) (name : String) (src : Option (Arr × Nat)),
    NoCtx (readVariantAs fx vs sel name src) :=
  fun vs sel name src => .of_errs (readVariantAs_errs (nodeOps_noCtx fx) vs sel name src)
theorem readVariantAsBytes_noctx (fx : Fixes) : ∀ (vs : TVariants) (s : Bytes), NoCtx (readVariantAsBytes fx vs s) :=
  fun vs s => .of_errs (readVariantAsBytes_errs (nodeOps_noCtx fx) vs s)
theorem readKind_noctx (fx : Fixes) : ∀ (k : VKind) (src : Option (Arr × Nat)), NoCtx (readKind fx k src) :=
  fun k src => .of_errs (readKind_errs (nodeOps_noCtx fx) k src)

instance readAs_noctx' (fx : Fixes) (t : Target) (a : Arr) (idx : Nat) : NoCtx (readAs fx t a idx) := readAs_noctx fx t a idx

end SaModel.Props.C18
