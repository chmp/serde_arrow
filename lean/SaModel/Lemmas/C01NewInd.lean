import SaModel.Lemmas.C01List
import SaModel.Lemmas.C01LeafBridge
/-
What `build_builder` builds, as an induction principle: a property of (data type, nullability, metadata, builder)
that holds of the twelve kinds of builder `newDT` can return, given it of the children, holds of everything `newDT`
returns.  The types `newDT` refuses, and the refused forms of a Map, are dealt with here once.
-/
namespace SaModel.Build
open SaModel SaModel.Spec

def bytesDT : BytesTy → DataType
  | .utf8 => .utf8 | .largeUtf8 => .largeUtf8 | .binary => .binary | .largeBinary => .largeBinary

def viewDT : ViewTy → DataType
  | .utf8View => .utf8View | .binaryView => .binaryView

theorem isSome_newValidity (n : Bool) : (newValidity n).isSome = n := by cases n <;> rfl

theorem isUtcTz_ok {tz : Option String} {utc : Bool} (h : isUtcTz tz = .ok utc) :
    utc = (match (generalizing := false) tz with | some t => t.toUpper == "UTC" | none => false) := by
  cases tz with
  | none => cases h; rfl
  | some t =>
    simp only [isUtcTz] at h
    split at h
    · rename_i ht; cases h; exact ht.symm
    · cases h

/-- the builder of an integer type is its leaf -/
theorem newDT_int {k : DataType} (hk : isIntDT k = true) : ∃ t, kindOf k = some (.int t) ∧
    ∀ path n md, newDT path k n md = .ok (.leaf path (.int t) (newValidity n) []) := by
  unfold isIntDT at hk
  split at hk
  case h_9 => cases hk
  all_goals exact ⟨_, rfl, fun _ _ _ => by simp only [newDT]⟩

/-- **induction over a successful `build_builder`**, the path of every builder in the motive: the child of a list,
fixed-size list or union sits below `ChildName` of its field, a map's children below the entries name, a struct's child
below its raw name, a dictionary's below `key` / `value`.  The leaf case hands over the successful call itself, for what
`newDT` checks of a leaf type (units, precision).  The key builder of a dictionary is always the leaf of an integer type,
so its case names that leaf instead of an induction hypothesis. -/
theorem newDT_induct {P : String → DataType → Bool → Metadata → B → Prop} {PL : String → Fields → BL → Prop}
    {PU : String → UFields → Nat → BL → Prop}
    (unknown : ∀ path n md, (strategyOf md == some "UnknownVariant") = true → P path .null n md (.unknownVariant path))
    (null : ∀ path n md, ¬(strategyOf md == some "UnknownVariant") = true → P path .null n md (.null path 0))
    (leaf : ∀ path dt k n md, kindOf dt = some k → newDT path dt n md = .ok (.leaf path k (newValidity n) []) →
      P path dt n md (.leaf path k (newValidity n) []))
    (bytes : ∀ path ty n md, P path (bytesDT ty) n md (.bytes path ty (newValidity n) [0] []))
    (view : ∀ path ty n md, P path (viewDT ty) n md (.bytesView path ty (newValidity n) [] []))
    (fixedSizeBinary : ∀ path (k : Nat) n md,
      P path (.fixedSizeBinary k) n md (.fixedSizeBinary path k 0 (newValidity n) [] 0))
    (list : ∀ path large child n md el,
      P (path ++ "." ++ childName child.name) child.dataType child.nullable child.metadata el →
      P path (if large then .largeList child else .list child) n md
        (.list path large (metaOfField child) (newValidity n) [0] el))
    (fixedSizeList : ∀ path child (k : Nat) n md el,
      P (path ++ "." ++ childName child.name) child.dataType child.nullable child.metadata el →
      P path (.fixedSizeList child k) n md (.fixedSizeList path (metaOfField child) k 0 (newValidity n) 0 el))
    (map : ∀ path ename kf vf emd sorted n md kb vb,
      P (path ++ "." ++ childName ename ++ "." ++ childName kf.name) kf.dataType kf.nullable kf.metadata kb →
      P (path ++ "." ++ childName ename ++ "." ++ childName vf.name) vf.dataType vf.nullable vf.metadata vb →
      P path (.map (.mk ename (.struct (.cons kf (.cons vf .nil))) false emd) sorted) n md
        (.map path { entriesName := ename, sorted := sorted, keys := metaOfField kf, values := metaOfField vf }
          (newValidity n) [0] kb vb))
    (struct : ∀ path fs n md bl b, PL path fs bl → mkStruct path bl n = .ok b → P path (.struct fs) n md b)
    (dictionary : ∀ path k t v n md vb, isIntDT k = true → kindOf k = some (.int t) → P (path ++ ".value") v false [] vb →
      P path (.dictionary k v) n md (.dictionary path (.leaf (path ++ ".key") (.int t) (newValidity n) []) vb []))
    (union : ∀ path ufs n md bl, PU path ufs 0 bl →
      P path (.union ufs .dense) n md (.union path bl [] [] (List.replicate bl.length 0)))
    (nil : ∀ path, PL path .nil .nil)
    (cons : ∀ path f rest b r, P (path ++ "." ++ f.name) f.dataType f.nullable f.metadata b → PL path rest r →
      PL path (.cons f rest) (.cons b (metaOfField f) r))
    (unil : ∀ path idx, PU path .nil idx .nil)
    (ucons : ∀ path (idx : Nat) f rest b r, P (path ++ "." ++ childName f.name) f.dataType f.nullable f.metadata b →
      PU path rest (idx + 1) r → PU path (.cons idx f rest) idx (.cons b (metaOfField f) r)) :
    (∀ path dt n md b, newDT path dt n md = .ok b → P path dt n md b) ∧
    (∀ path ufs idx bl, newUnionFields path ufs idx = .ok bl → PU path ufs idx bl) ∧
    (∀ path f b, newB path f = .ok b → P path f.dataType f.nullable f.metadata b) ∧
    (∀ path fs bl, newFields path fs = .ok bl → PL path fs bl) := by
  apply newDT.mutual_induct
    (motive_1 := fun path dt n md => ∀ b, newDT path dt n md = .ok b → P path dt n md b)
    (motive_2 := fun path ufs idx => ∀ bl, newUnionFields path ufs idx = .ok bl → PU path ufs idx bl)
    (motive_3 := fun path f => ∀ b, newB path f = .ok b → P path f.dataType f.nullable f.metadata b)
    (motive_4 := fun path fs => ∀ bl, newFields path fs = .ok bl → PL path fs bl)
  case case1 => intro path n md hs b h; simp only [newDT, hs, if_true] at h; cases h; exact unknown path n md hs
  case case2 => intro path n md hs b h; simp only [newDT, hs] at h; cases h; exact null path n md hs
  case case3 | case4 | case5 | case6 | case7 | case8 | case9 | case10 | case11 | case12 | case13 | case14 | case15
      | case16 =>
    intro path n md b h; have h0 := h; simp only [newDT] at h; cases h; exact leaf path _ _ n md rfl h0
  case case17 =>
    intro path u tz n md b h
    simp only [newDT] at h
    have h0 := h
    obtain ⟨utc, hu, h⟩ := (bind_ok _ _ _).1 h
    cases h
    exact leaf path _ _ n md (by rw [isUtcTz_ok hu]; rfl) (by simpa only [newDT] using h0)
  case case18 | case20 => intro path u n md hu b h; have h0 := h; simp only [newDT, hu, if_true] at h; cases h; exact leaf path _ _ n md rfl h0
  case case19 | case21 => intro path u n md hu b h; simp only [newDT, hu] at h; cases h
  case case22 => intro path u n md b h; have h0 := h; simp only [newDT] at h; cases h; exact leaf path _ _ n md rfl h0
  case case23 => intro path p s n md hp b h; have h0 := h; simp only [newDT, hp] at h; cases h; exact leaf path _ _ n md rfl h0
  case case24 => intro path p s n md hp b h; simp only [newDT, hp, if_false, ctx_ok] at h; cases h
  case case25 => intro path n md b h; simp only [newDT] at h; cases h; exact bytes path .utf8 n md
  case case26 => intro path n md b h; simp only [newDT] at h; cases h; exact bytes path .largeUtf8 n md
  case case27 => intro path n md b h; simp only [newDT] at h; cases h; exact view path .utf8View n md
  case case28 => intro path n md b h; simp only [newDT] at h; cases h; exact bytes path .binary n md
  case case29 => intro path n md b h; simp only [newDT] at h; cases h; exact bytes path .largeBinary n md
  case case30 => intro path n md b h; simp only [newDT] at h; cases h; exact view path .binaryView n md
  case case31 => intro path k n md hk b h; simp only [newDT, hk, if_true, ctx_ok] at h; cases h
  case case32 =>
    intro path k n md hk b h
    simp only [newDT, hk, if_false] at h
    cases h
    have := fixedSizeBinary path k.toNat n md
    rwa [Int.toNat_of_nonneg (by omega)] at this
  case case33 =>
    intro path child n md ih b h
    simp only [newDT] at h
    obtain ⟨el, h1, h⟩ := (bind_ok _ _ _).1 h
    cases h
    exact list path false child n md el (ih el h1)
  case case34 =>
    intro path child n md ih b h
    simp only [newDT] at h
    obtain ⟨el, h1, h⟩ := (bind_ok _ _ _).1 h
    cases h
    exact list path true child n md el (ih el h1)
  case case35 => intro path child k n md hk b h; simp only [newDT, hk, if_true, ctx_ok] at h; cases h
  case case36 =>
    intro path child k n md hk ih b h
    simp only [newDT, hk, if_false] at h
    obtain ⟨el, h1, h⟩ := (bind_ok _ _ _).1 h
    cases h
    have := fixedSizeList path child k.toNat n md el (ih el h1)
    rwa [Int.toNat_of_nonneg (by omega)] at this
  case case38 =>
    intro path ename kf vf emd sorted n md ihk ihv b h
    simp only [newDT] at h
    obtain ⟨kb, h1, h⟩ := (bind_ok _ _ _).1 h
    obtain ⟨vb, h2, h⟩ := (bind_ok _ _ _).1 h
    cases h
    exact map path ename kf vf emd sorted n md kb vb (ihk kb h1) (ihv vb h2)
  case case37 | case40 | case41 => intros; rename_i h; simp only [newDT] at h; cases h
  case case39 => intros; rename_i h; simp only [newDT, ctx_ok] at h; cases h
  case case42 => intros; rename_i h; simp only [newDT, *] at h; cases h
  case case43 =>
    intro path fs n md ih b h
    simp only [newDT] at h
    obtain ⟨bl, h1, h⟩ := (bind_ok _ _ _).1 h
    exact struct path fs n md bl b (ih bl h1) h
  case case44 =>
    intro path k v n md hk ihk ihv b h
    simp only [newDT, hk, if_true] at h
    obtain ⟨kb, h1, h⟩ := (bind_ok _ _ _).1 h
    obtain ⟨vb, h2, h⟩ := (bind_ok _ _ _).1 h
    cases h
    obtain ⟨t, ht, hnew⟩ := newDT_int hk
    rw [hnew] at h1
    cases h1
    exact dictionary path k t v n md vb hk ht (ihv vb h2)
  case case45 => intro path k v n md hk b h; simp only [newDT, hk] at h; cases h
  case case46 =>
    intro path ufs n md ih b h
    simp only [newDT] at h
    obtain ⟨bl, h1, h⟩ := (bind_ok _ _ _).1 h
    cases h
    exact union path ufs n md bl (ih bl h1)
  case case47 | case48 | case49 => intros; rename_i h; simp only [newDT, ctx_ok] at h; cases h
  case case50 => intro path name dt n md ih b h; exact ih b h
  case case51 => intro path bl h; cases h; exact nil path
  case case52 =>
    intro path f rest ihf ihr bl h
    simp only [newFields] at h
    obtain ⟨b, h1, h⟩ := (bind_ok _ _ _).1 h
    obtain ⟨r, h2, h⟩ := (bind_ok _ _ _).1 h
    cases h
    exact cons path f rest b r (ihf b h1) (ihr r h2)
  case case53 => intro path idx bl h; cases h; exact unil path idx
  case case54 => intro path tid f rest idx ht bl h; simp only [newUnionFields, ht] at h; cases h
  case case55 =>
    intro path tid f rest idx ht ihf ihr bl h
    simp only [newUnionFields, ht] at h
    obtain ⟨b, h1, h⟩ := (bind_ok _ _ _).1 h
    obtain ⟨r, h2, h⟩ := (bind_ok _ _ _).1 h
    cases h
    have : tid = (idx : Int) := by simpa using ht
    subst this
    exact ucons path idx f rest b r (ihf b h1) (ihr r h2)

end SaModel.Build
