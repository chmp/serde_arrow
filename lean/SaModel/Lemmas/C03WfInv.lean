import SaModel.Spec.WF
/-
`Spec.wf` read backwards: what `wf dt nl a = true` says about `dt` and about the parts of `a`, by the constructor of `a`.
`wf` is one match over (data type, array) with a catch-all `false`; every proof by recursion over a well-formed ARRAY
(`wf_typeOf`, `wf_new`, `wf_utf8`, `wf_physical_plain`, …) starts from `wf_inv` instead of unfolding `wf` against every data type.
For the leaves the type is stated through the helpers of `Spec.typeOf`, so that `typeOf a = dt` can be read off.
`metaMatches_metaOfField` is for the other direction: showing `wf` of an array that was put together (`finish_wf`, `zip_wf`).
-/
namespace SaModel.Lemmas.C03
open SaModel SaModel.Spec

theorem metaMatches_metaOfField (f : Field) : metaMatches (metaOfField f) f = true := by
  cases f; simp [metaMatches, metaOfField, Field.name, Field.nullable, Field.metadata]

theorem primMatches_primDT (ty : PrimTy) (dt : DataType) : primMatches ty dt = true → primDT ty = dt := by
  intro h
  unfold primMatches at h
  split at h <;> first | rfl | cases h

theorem timeUnit_eq_of_beq (u u' : TimeUnit) : (u == u') = true → u = u' := by
  cases u <;> cases u' <;> intro h <;> first | rfl | cases h

theorem wf_inv {dt : DataType} {nl : Bool} {a : Arr} : wf dt nl a = true →
    match a with
    | .null _ => dt = .null
    | .boolean len v _ => dt = .boolean ∧ validityOk nl v len = true
    | .prim ty v vals =>
      primMatches ty dt = true ∧ validityOk nl v vals.length = true ∧ inRng (primRange ty) vals = true
    | .time ty u v vals => dt = timeDT ty u ∧ validityOk nl v vals.length = true
    | .timestamp u tz v vals => dt = .timestamp u tz ∧ validityOk nl v vals.length = true
    | .decimal128 p s v vals => dt = .decimal128 p s ∧ validityOk nl v vals.length = true
    | .bytes ty v offs data =>
      dt = bytesTyDT ty ∧ validityOk nl v (offs.length - 1) = true ∧ (isUtf8Ty ty = true → bytesUtf8 offs data = true)
    | .bytesView ty v views bufs =>
      dt = viewTyDT ty ∧ validityOk nl v views.length = true ∧ slotsAllOk (.bytesView ty v views bufs) = true ∧
      (ty = .utf8View → (decodeAll (.bytesView ty v views bufs)).all
        (fun r => match r with | .ok (.str b) => validUtf8 b | .ok .null => true | _ => false) = true)
    | .fixedSizeBinary n v data =>
      dt = .fixedSizeBinary n ∧ 0 ≤ n ∧ (if n = 0 then data.isEmpty = true else data.length % n.toNat = 0) ∧
      validityOk nl v (if n ≤ 0 then 0 else data.length / n.toNat) = true
    | .struct len v cols => ∃ fs, dt = .struct fs ∧ validityOk nl v len = true ∧ wfFields fs cols len = true
    | .list large v offs fm el =>
      ∃ f : Field, dt = (if large then .largeList f else .list f) ∧ validityOk nl v (offs.length - 1) = true ∧
        metaMatches fm f = true ∧ wf f.dataType f.nullable el = true
    | .fixedSizeList len v n fm el =>
      ∃ f : Field, dt = .fixedSizeList f n ∧ 0 ≤ n ∧ validityOk nl v len = true ∧ metaMatches fm f = true ∧
        (decodeAll el).length = len * n.toNat ∧ wf f.dataType f.nullable el = true
    | .map v offs mm ks vs =>
      ∃ (kf vf : Field) (enl : Bool) (emd : Metadata),
        dt = .map (.mk mm.entriesName (.struct (.cons kf (.cons vf .nil))) enl emd) mm.sorted ∧
        validityOk nl v (offs.length - 1) = true ∧ metaMatches mm.keys kf = true ∧ metaMatches mm.values vf = true ∧
        wf kf.dataType kf.nullable ks = true ∧ wf vf.dataType vf.nullable vs = true
    | .dictionary ks vs => ∃ k vdt, dt = .dictionary k vdt ∧ wf k nl ks = true ∧ wf vdt false vs = true
    | .union types offs cols =>
      ∃ fs mode o, dt = .union fs mode ∧ offs = some o ∧ o.length = types.length ∧ wfUFields fs cols 0 = true := by
  intro h
  unfold wf at h
  split at h <;> try simp only [Bool.and_eq_true, beq_iff_eq, decide_eq_true_eq] at h
  · rfl
  · exact ⟨rfl, h.1.1⟩
  · exact ⟨by rw [timeUnit_eq_of_beq _ _ h.1.1]; rfl, h.1.2⟩
  · exact ⟨by rw [timeUnit_eq_of_beq _ _ h.1.1]; rfl, h.1.2⟩
  · exact ⟨by rw [timeUnit_eq_of_beq _ _ h.1.1]; rfl, h.1.2⟩
  · exact ⟨by rw [timeUnit_eq_of_beq _ _ h.1.1.1, h.1.1.2], h.1.2⟩
  · exact ⟨by rw [h.1.1, h.1.2], h.2⟩
  · exact ⟨rfl, h.1.1, fun _ => h.2⟩
  · exact ⟨rfl, h.1.1, fun _ => h.2⟩
  · exact ⟨rfl, h.1, fun hu => by cases hu⟩
  · exact ⟨rfl, h.1, fun hu => by cases hu⟩
  · exact ⟨rfl, h.1.1, h.1.2, fun _ => h.2⟩
  · exact ⟨rfl, h.1, h.2, fun hu => by cases hu⟩
  · obtain ⟨⟨⟨rfl, h0⟩, hd⟩, hv⟩ := h
    refine ⟨rfl, h0, ?_, hv⟩
    split at hd
    · rw [if_pos ‹_›]; exact hd
    · rw [if_neg ‹_›]; exact beq_iff_eq.mp hd
  · exact ⟨_, rfl, h.1, h.2⟩
  · exact ⟨_, rfl, h.1.1.1, h.1.1.2, h.2⟩
  · exact ⟨_, rfl, h.1.1.1, h.1.1.2, h.2⟩
  · obtain ⟨⟨⟨⟨⟨rfl, h0⟩, hv⟩, hm⟩, hl⟩, hw⟩ := h
    exact ⟨_, rfl, h0, hv, hm, hl, hw⟩
  · obtain ⟨⟨⟨⟨⟨⟨⟨⟨hv, hen⟩, hso⟩, hmk⟩, hmv⟩, _⟩, _⟩, hwk⟩, hwv⟩ := h
    exact ⟨_, _, _, _, by rw [hen, hso], hv, hmk, hmv, hwk, hwv⟩
  · exact ⟨_, _, rfl, h.1.1, h.1.2⟩
  · obtain ⟨⟨⟨hs, hl⟩, hw⟩, _⟩ := h
    rename_i offs _ _
    cases offs with
    | none => cases hs
    | some o => exact ⟨_, _, o, rfl, rfl, hl, hw⟩
  · exact ⟨h.1.1, h.1.2, h.2⟩
  · cases h

/-- (The equations of `wf` are derived here, once: a module that is the first to ask for them pays for all 23 arms.) -/
theorem wf_null (nl : Bool) (n : Nat) : wf .null nl (.null n) = true := by simp only [wf]

theorem wfFields_cons_inv {fs : Fields} {fm : FieldMeta} {a : Arr} {rest : ArrFields} {len : Nat}
    (h : wfFields fs (.cons fm a rest) len = true) :
    ∃ f frest, fs = .cons f frest ∧ metaMatches fm f = true ∧ (decodeAll a).length = len ∧
      wf f.dataType f.nullable a = true ∧ wfFields frest rest len = true := by
  cases fs with
  | nil => simp only [wfFields, Bool.false_eq_true] at h
  | cons f frest =>
    simp only [wfFields, Bool.and_eq_true, beq_iff_eq] at h
    exact ⟨f, frest, rfl, h.1.1.1, h.1.1.2, h.1.2, h.2⟩

theorem wfUFields_cons_inv {fs : UFields} {tid : Int} {fm : FieldMeta} {a : Arr} {rest : ArrUFields} {k : Int}
    (h : wfUFields fs (.cons tid fm a rest) k = true) :
    ∃ f frest, fs = .cons tid f frest ∧ tid = k ∧ metaMatches fm f = true ∧ wf f.dataType f.nullable a = true ∧
      wfUFields frest rest (k + 1) = true := by
  cases fs with
  | nil => simp only [wfUFields, Bool.false_eq_true] at h
  | cons tid' f frest =>
    simp only [wfUFields, Bool.and_eq_true, beq_iff_eq] at h
    obtain ⟨⟨⟨⟨rfl, hk⟩, hm⟩, hw⟩, hr⟩ := h
    exact ⟨f, frest, rfl, hk, hm, hw, hr⟩

end SaModel.Lemmas.C03
