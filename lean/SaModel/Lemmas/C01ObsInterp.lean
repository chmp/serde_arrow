import SaModel.Lemmas.C01ObsComb
import SaModel.Lemmas.C01Interp
/-
C01 "hidden rows" — uniqueness of the appended determined rows; R2' for the scalar calls in the form "told the row"
(`pushScalar_interpH`; the statement that names the row is `pushScalar_rowH`, Lemmas/C01ObsOps.lean); and the strict forms
(`dict_push_row`, `pushScalar_interp`): on a well-formed state the rows `dec` reads are the observable ones (`refines_of_dec`).
-/
namespace SaModel.Build
open SaModel SaModel.Spec
open SaModel.Lemmas.C03 (ViewSmall ViewSmallL)

theorem row_uniqueH {xs ys : H} {a b : LVal} (h1 : Refines ys (xs ++ [some a])) (h2 : Refines ys (xs ++ [some b])) : a = b :=
  Refines.snoc_inj h1 h2

theorem map_some_inj {α} {as bs : List α} (h : as.map some = bs.map some) : as = bs := by
  have := congrArg allSome h
  rw [allSome_map_some, allSome_map_some] at this
  exact Option.some.inj this

theorem rows_uniqueH {xs ys : H} {as bs : List LVal} (h1 : Refines ys (xs ++ as.map some))
    (h2 : Refines ys (xs ++ bs.map some)) : as = bs := by
  have e1 := h1.split.2.of_map_some
  have e2 := h2.split.2.of_map_some
  rw [e1] at e2
  exact map_some_inj e2

/-- for the childless families a refinement by determined rows is the equation `dec b' = dec b ++ ls` -/
theorem flat_dec_of_refines {b b' : B} (hf : b.isFlat = true) (hf' : b'.isFlat = true) {ls : List LVal}
    (h : Refines (decH b') (decH b ++ ls.map some)) : dec b' = dec b ++ ls := by
  rw [flat_decH hf, flat_decH hf', ← List.map_append] at h
  exact map_some_inj h.of_map_some

theorem last_of_refines {A A' : H} {r : Option LVal} {lv : LVal} (hl : A.length = A'.length)
    (h : Refines (A ++ [r]) (A' ++ [some lv])) : r = some lv := by
  have := h.2 A'.length lv (by simp)
  rw [← hl] at this
  simpa using this

/-- the `u64` index a dictionary pushes into its (integer leaf) key builder shows up as exactly that key -/
theorem intLeaf_pushH (ext : Ext) {idx idx' : B} {i : Nat} (hil : idx.isIntLeaf = true) (hw : WFH idx)
    (h : pushScalar ext idx (.int .u64 i) = .ok idx') : decH idx' = decH idx ++ [some (.int i)] := by
  have hf := isFlat_of_isIntLeaf hil
  have hf' := flat_of_takeRest (pushScalar_takeRest ext idx _ idx' h) hf
  rw [flat_decH hf', flat_decH hf, intLeaf_push ext hil (flat_WFB hf hw) h, List.map_append]
  rfl

/-- R2' of a scalar call, told the row: the second half of `pushScalar_rowH` (Lemmas/C01ObsOps.lean) -/
theorem pushScalar_interpH (ext : Ext) (b : B) (x : SVal) (b' : B) (dt : DataType) (n : Bool) (md : Metadata) (lv : LVal)
    (hw : WFH b) (hn : NoDictKey b) (hs : Shape b dt n md) (h : pushScalar ext b x = .ok b')
    (hd : Refines (decH b') (decH b ++ [some lv])) :
    interpScalar ext dt x = .ok lv ∧ isUnknownVariant dt md = false := by
  obtain ⟨_, lv', hd', sp⟩ := pushScalar_rowH ext hw hn h
  cases row_uniqueH hd hd'
  exact sp dt n md hs

/-- from a strictly well-formed `b`: once `b'` is known to extend `b` by SOME determined rows, the rows `dec` reads are
those rows -/
theorem refines_of_dec {b b' : B} {ls ls' : List LVal} (hw : WFB b) (hr : Refines (decH b') (decH b ++ ls'.map some))
    (hd : dec b' = dec b ++ ls) : Refines (decH b') (decH b ++ ls.map some) := by
  have e : decH b' = (dec b ++ ls').map some := by
    rw [decH_of_WFB b hw, ← List.map_append] at hr; exact hr.of_map_some
  have s := decH_sound b'
  rw [e] at s
  have := (List.map_inj_right (fun _ _ hxy => Option.some.inj hxy)).1 s.of_map_some
  rw [hd] at this
  rw [List.append_cancel_left this]
  exact hr

/-! ### the strict statements about scalar calls: the observable ones on a well-formed state -/

theorem flat_NoDictKey {b : B} (hf : b.isFlat = true) : NoDictKey b := by
  cases b <;> first | trivial | cases hf

/-- the row a string-like scalar appends to a `Dictionary(integer, Utf8/LargeUtf8)` builder is that string:
`values[index[s]] = s` (invariant `DictVals`) and the pushed key is `index[s]` (the clauses `dictOld` / `dictNew` of
`refines_scalar`) -/
theorem dict_push_row (ext : Ext) {p : String} {idx vals : B} {index : List String} {x : SVal} {b' : B} {lv : LVal}
    (hwf : WFB (.dictionary p idx vals index)) (hil : idx.isIntLeaf = true) (hu : vals.isUtf8B = true)
    (h : pushScalar ext (.dictionary p idx vals index) x = .ok b')
    (hd : dec b' = dec (.dictionary p idx vals index) ++ [lv]) :
    ∃ s, scalarToString ext x = some s ∧ lv = .str (strBytes s) := by
  have hnd : NoDictKey (.dictionary p idx vals index) := by
    have hid : idx.isDict = false := by cases idx <;> first | rfl | cases hil
    simp only [NoDictKey]
    exact ⟨hid, flat_NoDictKey (isFlat_of_isIntLeaf hil), flat_NoDictKey (isFlat_of_isUtf8B hu)⟩
  obtain ⟨_, lv', hr, hrow⟩ := (refines_scalar ext).scalar _ x b' h h (WFH_of_WFB _ hwf) hnd
  cases row_uniqueH (refines_of_dec (ls' := [lv']) (ls := [lv]) hwf hr hd) hr
  cases hrow ⟨hil, .inl hu⟩ with | dictionary hs' _ => exact ⟨_, hs', rfl⟩

/-- R2 of a scalar call on a well-formed state -/
theorem pushScalar_interp (ext : Ext) (b : B) (x : SVal) (b' : B) (dt : DataType) (n : Bool) (md : Metadata) (lv : LVal)
    (hwf : WFB b) (hn : NoDictKey b) (hs : Shape b dt n md) (h : pushScalar ext b x = .ok b')
    (hd : dec b' = dec b ++ [lv]) : interpScalar ext dt x = .ok lv ∧ isUnknownVariant dt md = false := by
  obtain ⟨_, lv', hr, sp⟩ := pushScalar_rowH ext (WFH_of_WFB b hwf) hn h
  cases row_uniqueH (refines_of_dec (ls' := [lv']) (ls := [lv]) hwf hr hd) hr
  exact sp dt n md hs

end SaModel.Build
