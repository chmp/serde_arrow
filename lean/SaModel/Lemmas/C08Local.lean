import SaModel.Lemmas.C08Walk
/-
C08 — an overwrite is LOCAL: the documented mapping of a type consults the overwrite table only at the paths of the traced
tree of that type (`mapping_lookups`), so registering an overwrite at a path that is not a path of a subtree leaves the
field of that subtree unchanged (`mapping_overwrite_foreign`), while at the node with that path the field is the
overwrite (`Props.C08.C08_mapping_overwrite`).  Together: an overwrite replaces EXACTLY the field at its path.
-/
namespace SaModel.Lemmas.C08
open SaModel SaModel.Trace SaModel.Trace.Spec

/-- `o` with another overwrite table and other values of the three flags that say how SAMPLES are read -/
abbrev withUnread (o : Options) (ows' : List (String × Field)) (a b d : Bool) : Options :=
  { o with overwrites := ows', coerce_numbers := a, allow_to_string := b, guess_dates := d }

theorem overwritten_congr (o : Options) (ows' : List (String × Field)) (a b d : Bool) (name path : String) (k k' : Unit → R Field)
    (h : ows'.find? (fun kv => kv.1 = path) = o.overwrites.find? (fun kv => kv.1 = path)) (hk : k () = k' ()) :
    overwritten (withUnread o ows' a b d) name path k = overwritten o name path k' := by
  unfold overwritten
  simp only [withUnread, h]
  split
  · rfl
  · exact hk

namespace VHead

theorem mapping_eq {vs r : TyVariants} {n : String} {T : Ty} (h : VHead vs n T r) (o : Options) (path : String)
    (i : Nat) : mappingVariants o path i vs = (do
      if i > 127 then fail "more than 128 variants"
      let f ← mapping o n (childPath path n) false T
      let fs ← mappingVariants o path (i + 1) r
      .ok ((Int.ofNat i, f) :: fs)) := by
  cases h <;> simp only [mappingVariants, mapping]

theorem tyPaths_eq {vs r : TyVariants} {n : String} {T : Ty} (h : VHead vs n T r) (path : String) :
    tyPathsVariants path vs = tyPaths (childPath path n) T ++ tyPathsVariants path r := by
  cases h <;> simp only [tyPathsVariants, tyPaths, List.cons_append, List.nil_append]

end VHead

/-- the mapping of a type reads the overwrite table only at the paths of its tree, and does not read the three flags -/
theorem mapping_reads_all (o : Options) (ows' : List (String × Field)) (a b d : Bool) :
    (∀ (ty : Ty) (name path : String) (nl : Bool),
      (∀ q ∈ tyPaths path ty, ows'.find? (fun kv => kv.1 = q) = o.overwrites.find? (fun kv => kv.1 = q)) →
      mapping (withUnread o ows' a b d) name path nl ty = mapping o name path nl ty) ∧
    (∀ (ts : Tys) (path : String) (i : Nat),
      (∀ q ∈ tyPathsTys path i ts, ows'.find? (fun kv => kv.1 = q) = o.overwrites.find? (fun kv => kv.1 = q)) →
      mappingTys (withUnread o ows' a b d) path i ts = mappingTys o path i ts) ∧
    (∀ (fs : TyFields) (path : String),
      (∀ q ∈ tyPathsFields path fs, ows'.find? (fun kv => kv.1 = q) = o.overwrites.find? (fun kv => kv.1 = q)) →
      mappingFields (withUnread o ows' a b d) path fs = mappingFields o path fs) ∧
    (∀ (vs : TyVariants) (path : String) (i : Nat),
      (∀ q ∈ tyPathsVariants path vs, ows'.find? (fun kv => kv.1 = q) = o.overwrites.find? (fun kv => kv.1 = q)) →
      mappingVariants (withUnread o ows' a b d) path i vs = mappingVariants o path i vs) := by
  apply Ty.walk
  case node =>
    intro ty ih name path nl h
    match ty, ih with
    | .option t, ih => simp only [tyPaths] at h; simp only [mapping]; exact ih name path true h
    | .newtypeStruct _ t, ih => simp only [tyPaths] at h; simp only [mapping]; exact ih name path nl h
    | .unit, _ | .unitStruct _, _ | .bool, _ | .int _, _ | .f32, _ | .f64, _ | .char, _ | .string, _ | .bytes, _ =>
      simp only [mapping]
      exact overwritten_congr o ows' a b d name path _ _ (h path (by simp only [tyPaths]; exact List.mem_cons_self)) rfl
    | .vec t, ih =>
      simp only [tyPaths] at h
      simp only [mapping]
      refine overwritten_congr o ows' a b d name path _ _ (h path List.mem_cons_self) ?_
      simp only [ih "element" _ false (fun q hq => h q (List.mem_cons_of_mem _ hq))]
    | .tuple ts, ih | .tupleStruct _ ts, ih =>
      simp only [tyPaths] at h
      simp only [mapping]
      refine overwritten_congr o ows' a b d name path _ _ (h path List.mem_cons_self) ?_
      simp only [ih path 0 (fun q hq => h q (List.mem_cons_of_mem _ hq))]
    | .map k v, ih =>
      simp only [tyPaths] at h
      simp only [mapping]
      refine overwritten_congr o ows' a b d name path _ _ (h path List.mem_cons_self) ?_
      simp only [ih.1 "key" _ false (fun q hq => h q (List.mem_cons_of_mem _ (List.mem_append_left _ hq))),
        ih.2 "value" _ false (fun q hq => h q (List.mem_cons_of_mem _ (List.mem_append_right _ hq)))]
    | .struct _ fs, ih =>
      simp only [tyPaths] at h
      simp only [mapping]
      refine overwritten_congr o ows' a b d name path _ _ (h path List.mem_cons_self) ?_
      simp only [ih path (fun q hq => h q (List.mem_cons_of_mem _ hq))]
    | .enum _ vs, ih =>
      simp only [tyPaths] at h
      simp only [mapping]
      refine overwritten_congr o ows' a b d name path _ _ (h path List.mem_cons_self) ?_
      simp only [ih path 0 (fun q hq => h q (List.mem_cons_of_mem _ hq))]
      rfl
  case tnil => intro _ _ _; simp only [mappingTys]
  case tcons =>
    intro t r iht ihr path i h
    simp only [tyPathsTys] at h
    simp only [mappingTys, iht _ _ false (fun q hq => h q (List.mem_append_left _ hq)),
      ihr path (i + 1) (fun q hq => h q (List.mem_append_right _ hq))]
  case fnil => intro _ _; simp only [mappingFields]
  case fcons =>
    intro n t r iht ihr path h
    simp only [tyPathsFields] at h
    simp only [mappingFields, iht n _ false (fun q hq => h q (List.mem_append_left _ hq)),
      ihr path (fun q hq => h q (List.mem_append_right _ hq))]
  case vnil => intro _ _ _; simp only [mappingVariants]
  case vcons =>
    intro vs n T r hh ihT ihr path i h
    rw [hh.tyPaths_eq] at h
    simp only [hh.mapping_eq, ihT n _ false (fun q hq => h q (List.mem_append_left _ hq)),
      ihr path (i + 1) (fun q hq => h q (List.mem_append_right _ hq))]

theorem mapping_reads (o : Options) (ows' : List (String × Field)) (a b d : Bool) : ∀ (ty : Ty) (name path : String) (nl : Bool),
    (∀ q ∈ tyPaths path ty, ows'.find? (fun kv => kv.1 = q) = o.overwrites.find? (fun kv => kv.1 = q)) →
    mapping (withUnread o ows' a b d) name path nl ty = mapping o name path nl ty :=
  (mapping_reads_all o ows' a b d).1

theorem mapping_lookups (o : Options) (ows' : List (String × Field)) : ∀ (ty : Ty) (name path : String) (nl : Bool),
    (∀ q ∈ tyPaths path ty, ows'.find? (fun kv => kv.1 = q) = o.overwrites.find? (fun kv => kv.1 = q)) →
    mapping { o with overwrites := ows' } name path nl ty = mapping o name path nl ty :=
  mapping_reads o ows' o.coerce_numbers o.allow_to_string o.guess_dates

theorem mappingTys_lookups (o : Options) (ows' : List (String × Field)) : ∀ (ts : Tys) (path : String) (i : Nat),
    (∀ q ∈ tyPathsTys path i ts, ows'.find? (fun kv => kv.1 = q) = o.overwrites.find? (fun kv => kv.1 = q)) →
    mappingTys { o with overwrites := ows' } path i ts = mappingTys o path i ts :=
  (mapping_reads_all o ows' o.coerce_numbers o.allow_to_string o.guess_dates).2.1

theorem mappingFields_lookups (o : Options) (ows' : List (String × Field)) : ∀ (fs : TyFields) (path : String),
    (∀ q ∈ tyPathsFields path fs, ows'.find? (fun kv => kv.1 = q) = o.overwrites.find? (fun kv => kv.1 = q)) →
    mappingFields { o with overwrites := ows' } path fs = mappingFields o path fs :=
  (mapping_reads_all o ows' o.coerce_numbers o.allow_to_string o.guess_dates).2.2.1

theorem mappingVariants_lookups (o : Options) (ows' : List (String × Field)) : ∀ (vs : TyVariants) (path : String) (i : Nat),
    (∀ q ∈ tyPathsVariants path vs, ows'.find? (fun kv => kv.1 = q) = o.overwrites.find? (fun kv => kv.1 = q)) →
    mappingVariants { o with overwrites := ows' } path i vs = mappingVariants o path i vs :=
  (mapping_reads_all o ows' o.coerce_numbers o.allow_to_string o.guess_dates).2.2.2

/-! ### `TracingOptions::overwrite` -/

theorem find_filter_ne (key q : String) (h : q ≠ key) : ∀ (ows : List (String × Field)),
    (ows.filter (fun kv => kv.1 != key)).find? (fun kv => kv.1 = q) = ows.find? (fun kv => kv.1 = q)
  | [] => rfl
  | kv :: r => by
    by_cases hk : kv.1 = key
    · have hq : ¬ key = q := fun e => h e.symm
      simp only [List.filter_cons, hk, bne_self_eq_false, Bool.false_eq_true, if_false, List.find?_cons, hq,
        decide_false, find_filter_ne key q h r]
    · have : (kv.1 != key) = true := by simp [hk]
      simp only [List.filter_cons, this, if_true, List.find?_cons, find_filter_ne key q h r]

theorem find_filter_self (key : String) : ∀ (ows : List (String × Field)),
    (ows.filter (fun kv => kv.1 != key)).find? (fun kv => kv.1 = key) = none
  | [] => rfl
  | kv :: r => by
    by_cases hk : kv.1 = key
    · simp only [List.filter_cons, hk, bne_self_eq_false, Bool.false_eq_true, if_false, find_filter_self key r]
    · have : (kv.1 != key) = true := by simp [hk]
      simp only [List.filter_cons, this, if_true, List.find?_cons, hk, decide_false, find_filter_self key r]

theorem overwrite_find (o : Options) (pth : String) (f : Field) (q : String) :
    (o.overwrite pth f).overwrites.find? (fun kv => kv.1 = q) =
      if q = "$." ++ pth then some ("$." ++ pth, f) else o.overwrites.find? (fun kv => kv.1 = q) := by
  unfold Options.overwrite
  simp only [List.find?_append]
  by_cases hq : q = "$." ++ pth
  · subst hq
    simp only [find_filter_self, if_true, List.find?_cons, decide_true, Option.none_or]
  · have hq' : ¬ "$." ++ pth = q := fun e => hq e.symm
    simp only [find_filter_ne _ q hq, hq, if_false, List.find?_cons, hq', decide_false, List.find?_nil, Option.or_none]

theorem mapping_overwrite_foreign (o : Options) (pth : String) (f : Field) (ty : Ty) (name path : String) (nl : Bool)
    (hk : "$." ++ pth ∉ tyPaths path ty) :
    mapping (o.overwrite pth f) name path nl ty = mapping o name path nl ty := by
  have h := mapping_lookups o (o.overwrite pth f).overwrites ty name path nl (fun q hq => by
    rw [overwrite_find]
    have : q ≠ "$." ++ pth := fun e => hk (e ▸ hq)
    simp only [this, if_false])
  exact h

end SaModel.Lemmas.C08
