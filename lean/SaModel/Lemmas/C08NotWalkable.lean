import SaModel.Lemmas.C08ConfStep
import SaModel.Lemmas.C08Loop
/-
C08 — types that cannot be walked: `from_type` is a Rust error (never a success, never a panic), hence
`fromType c o ty` agrees with `Spec.fromTypeSpec o ty` for EVERY type description.  Recursive types: every unrolling of
a type constructor that descends one path level per unrolling is beyond the depth limit from 21 unrollings on.
-/
namespace SaModel.Lemmas.C08
open SaModel SaModel.Trace SaModel.Trace.Spec

/-- the loop keeps conformance; when it succeeds the tracer is complete -/
theorem loop_conf (c : Code) (o : Options) (ty : Ty) (p : String) : ∀ (b : Nat) (t : Tracer), Conf o p ty t →
    Pres (fromTypeLoop c o ty b t) (fun t' => Conf o p ty t' ∧ t'.is_complete = true)
  | 0, t, h => by
    unfold fromTypeLoop
    cases hc : t.is_complete with
    | true => exact Pres.ok ⟨h, hc⟩
    | false => exact Pres.fail _
  | b + 1, t, h => by
    unfold fromTypeLoop
    cases hc : t.is_complete with
    | true => exact Pres.ok ⟨h, hc⟩
    | false => exact Pres.bind (explore_conf c o ty p t h) fun t' h' => loop_conf c o ty p b t' h'

theorem fromType_not_walkable (c : Code) (o : Options) (ty : Ty) (hw : walkable o "$" ty = false) :
    ∃ m, fromType c o ty = .error (.err m) := by
  have h := loop_conf c o ty "$" o.from_type_budget (Tracer.new "$" "$") (conf_fresh o ty "$" "$" false)
  unfold fromType fromTypeTracer
  cases hl : fromTypeLoop c o ty o.from_type_budget (Tracer.new "$" "$") with
  | ok t' =>
    rw [hl] at h
    have := conf_complete_walkable o ty "$" t' h.1 h.2
    rw [hw] at this; cases this
  | error e =>
    rw [hl] at h
    cases e with
    | err m => exact ⟨m, rfl⟩
    | panic s => exact h.elim
    | errCtx m a => exact h.elim

/-- `from_type` is the documented result, for every type description and every option record -/
theorem fromType_spec (c : Code) (o : Options) (ty : Ty) : Agree (fromType c o ty) (fromTypeSpec o ty) := by
  cases hw : walkable o "$" ty with
  | true => exact fromType_walkable c o ty hw
  | false =>
    obtain ⟨m, hm⟩ := fromType_not_walkable c o ty hw
    rw [hm]
    unfold fromTypeSpec
    simp only [hw, Bool.not_false, if_true]
    exact Agree.fail m _

theorem countDots_child (p n : String) : countDots (childPath p n) = countDots p + 1 + countDots n := by
  simp [countDots, childPath, List.filter_append]
  omega

/-- `n`-fold unrolling of a recursive type definition `T = F T`, cut off with `base` -/
def unroll (F : Ty → Ty) : Nat → Ty → Ty
  | 0, base => base
  | n + 1, base => F (unroll F n base)

/-- `F` puts its argument below a container, at least one path level down -/
def Descends (o : Options) (F : Ty → Ty) : Prop :=
  ∀ (t : Ty) (p : String), walkable o p (F t) = true →
    tooDeep p = false ∧ ∃ q, countDots p + 1 ≤ countDots q ∧ walkable o q t = true

theorem unroll_depth (o : Options) (F : Ty → Ty) (hF : Descends o F) (base : Ty) : ∀ (n : Nat) (p : String),
    walkable o p (unroll F (n + 1) base) = true → countDots p + n < MAX_TYPE_DEPTH
  | 0, p, h => by
    have := (hF _ p h).1
    unfold tooDeep at this
    simp at this
    omega
  | n + 1, p, h => by
    obtain ⟨_, q, hq, hwq⟩ := hF _ p h
    have := unroll_depth o F hF base n q hwq
    omega

theorem unroll_not_walkable (o : Options) (F : Ty → Ty) (hF : Descends o F) (base : Ty) (n : Nat)
    (hn : MAX_TYPE_DEPTH < n) : walkable o "$" (unroll F n base) = false := by
  obtain ⟨k, rfl⟩ : ∃ k, n = k + 1 := ⟨n - 1, by unfold MAX_TYPE_DEPTH at hn; omega⟩
  cases hw : walkable o "$" (unroll F (k + 1) base) with
  | false => rfl
  | true =>
    have := unroll_depth o F hF base k "$" hw
    omega

end SaModel.Lemmas.C08
