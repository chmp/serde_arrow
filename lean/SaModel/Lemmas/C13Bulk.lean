import SaModel.Read.AccessVal
/-
C13 helpers, bulk reads: `List.mapM` in the outcome monad over an index range (all results, or the FIRST failure), and the
`SeqAccess` loop of the model (`Deser.seqLoop`, no fuel) as such a `mapM`.
-/
namespace SaModel.Lemmas.C13Bulk
open SaModel SaModel.AccessVal

theorem mapM_cons_ok {α β} (f : α → R β) (a : α) (l : List α) (x : β) (h : f a = .ok x) :
    (a :: l).mapM f = (l.mapM f).map (x :: ·) := by
  rw [List.mapM_cons, h]
  cases l.mapM f <;> rfl

theorem mapM_cons_error {α β} (f : α → R β) (a : α) (l : List α) (e : Fail) (h : f a = .error e) :
    (a :: l).mapM f = .error e := by
  rw [List.mapM_cons, h]; rfl

/-- all elements succeed: the results are the element results, one by one -/
theorem mapM_range'_ok_iff {α} (f : Nat → R α) : ∀ (n s : Nat) (xs : List α),
    (List.range' s n).mapM f = .ok xs ↔ (List.range' s n).map f = xs.map .ok :=
  fun _ _ _ => R.mapM_eq_ok_iff

/-- the read fails exactly with the error of the FIRST failing element -/
theorem mapM_range'_error_iff {α} (f : Nat → R α) : ∀ (n s : Nat) (e : Fail),
    (List.range' s n).mapM f = .error e ↔
      ∃ i, i < n ∧ f (s + i) = .error e ∧ ∀ j, j < i → (f (s + j)).isOk = true
  | 0, s, e => by
    simp only [List.range'_zero, List.mapM_nil, pure, Except.pure]
    constructor
    · intro h; cases h
    · rintro ⟨i, hi, _⟩; omega
  | n + 1, s, e => by
    simp only [List.range'_succ]
    have ih := mapM_range'_error_iff f n (s + 1) e
    cases hf : f s with
    | error e' =>
      rw [mapM_cons_error f _ _ e' hf]
      constructor
      · intro h; cases h
        exact ⟨0, by omega, by simpa using hf, by intro j hj; omega⟩
      · rintro ⟨i, _, h2, h3⟩
        cases i with
        | zero => rw [Nat.add_zero, hf] at h2; cases h2; rfl
        | succ i =>
          have := h3 0 (by omega)
          rw [Nat.add_zero, hf] at this; cases this
    | ok x =>
      rw [mapM_cons_ok f _ _ x hf]
      cases hm : (List.range' (s + 1) n).mapM f with
      | error e'' =>
        rw [hm] at ih
        simp only [Except.map, Except.error.injEq]
        constructor
        · intro h
          obtain ⟨i, h1, h2, h3⟩ := ih.mp (by rw [h])
          refine ⟨i + 1, by omega, by rw [← h2]; congr 1; omega, ?_⟩
          intro j hj
          cases j with
          | zero => rw [Nat.add_zero, hf]; rfl
          | succ j => have := h3 j (by omega); rw [← this]; congr 2; omega
        · rintro ⟨i, h1, h2, h3⟩
          cases i with
          | zero => rw [Nat.add_zero, hf] at h2; cases h2
          | succ i =>
            have := ih.mpr ⟨i, by omega, by rw [← h2]; congr 1; omega, fun j hj => by
              have := h3 (j + 1) (by omega); rw [← this]; congr 2; omega⟩
            cases this; rfl
      | ok zs =>
        rw [hm] at ih
        simp only [Except.map]
        constructor
        · intro h; cases h
        · rintro ⟨i, h1, h2, h3⟩
          cases i with
          | zero => rw [Nat.add_zero, hf] at h2; cases h2
          | succ i =>
            have := ih.mpr ⟨i, by omega, by rw [← h2]; congr 1; omega, fun j hj => by
              have := h3 (j + 1) (by omega); rw [← this]; congr 2; omega⟩
            cases this

/-- the `SeqAccess` loop from cursor `k`: the records `k … len-1`, in order, up to the first failure -/
theorem seqLoop_eq (d : Deser) (t : Read.Target) (n : Nat) : ∀ (k : Nat), d.len - k = n →
    d.seqLoop t k = (List.range' k n).mapM (d.item t) := by
  induction n with
  | zero =>
    intro k h
    rw [Deser.seqLoop]
    have : k ≥ d.len := by omega
    simp only [this, dite_true, List.range'_zero, List.mapM_nil, pure, Except.pure]
  | succ n ih =>
    intro k h
    rw [Deser.seqLoop]
    have : ¬ k ≥ d.len := by omega
    simp only [this, dite_false, List.range'_succ, List.mapM_cons]
    rw [ih (k + 1) (by omega)]

theorem bulk_eq_mapM (d : Deser) (t : Read.Target) : d.bulk t = (List.range d.len).mapM (d.item t) := by
  rw [Deser.bulk, seqLoop_eq d t d.len 0 (by omega), List.range_eq_range']

end SaModel.Lemmas.C13Bulk
