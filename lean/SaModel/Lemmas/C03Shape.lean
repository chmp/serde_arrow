import SaModel.Lemmas.C03New
/-
`BuiltFor` only depends on what `take` leaves behind (`takeRest`: kind, parameters, child metas, presence of the
bitmap).  So shape preservation by `push` is exactly `Build.push_takeRest : push ext b x = ok b' →
takeRest b' = takeRest b` (Lemmas/C10TakePush.lean); `runRows_builtFor` takes that statement as a hypothesis and yields the
`hshape` hypothesis of `Props.C03.C03_wf_of_root`.
-/
namespace SaModel.Lemmas.C03
open SaModel SaModel.Build SaModel.Spec

mutual
theorem BuiltFor_takeRest : ∀ (b : B) (dt : DataType) (nl : Bool), BuiltFor dt nl (takeRest b) ↔ BuiltFor dt nl b
  | .null _ _, _, _ => by simp only [takeRest, BuiltFor]
  | .unknownVariant _, _, _ => by simp only [takeRest, BuiltFor]
  | .leaf _ _ v _, _, _ => by simp only [takeRest, BuiltFor, Option.isSome_map]
  | .bytes _ _ v _ _, _, _ => by simp only [takeRest, BuiltFor, Option.isSome_map]
  | .bytesView _ _ v _ _, _, _ => by simp only [takeRest, BuiltFor, Option.isSome_map]
  | .fixedSizeBinary _ _ _ v _ _, _, _ => by simp only [takeRest, BuiltFor, Option.isSome_map]
  | .list _ _ _ v _ el, _, _ => by
    simp only [takeRest, BuiltFor, Option.isSome_map, BuiltFor_takeRest el]
  | .fixedSizeList _ _ _ _ v _ el, _, _ => by
    simp only [takeRest, BuiltFor, Option.isSome_map, BuiltFor_takeRest el]
  | .map _ _ v _ ks vs, _, _ => by
    simp only [takeRest, BuiltFor, Option.isSome_map, BuiltFor_takeRest ks, BuiltFor_takeRest vs]
  | .struct _ _ v fs _ _ _, _, _ => by
    simp only [takeRest, BuiltFor, Option.isSome_map, BuiltForL_takeRestAll fs]
  | .dictionary _ idx vals _, _, _ => by
    simp only [takeRest, BuiltFor, BuiltFor_takeRest idx, BuiltFor_takeRest vals]
  | .union _ fs _ _ _, _, _ => by
    simp only [takeRest, BuiltFor, BuiltForU_takeRestAll fs]
theorem BuiltForL_takeRestAll : ∀ (bl : BL) (fs : Fields), BuiltForL fs (takeRestAll bl) ↔ BuiltForL fs bl
  | .nil, fs => by simp only [takeRestAll]
  | .cons b m r, .nil => by simp only [takeRestAll, BuiltForL]
  | .cons b m r, .cons f fr => by
    simp only [takeRestAll, BuiltForL, BuiltFor_takeRest b, BuiltForL_takeRestAll r]
theorem BuiltForU_takeRestAll : ∀ (bl : BL) (ufs : UFields) (k : Nat),
    BuiltForU ufs (takeRestAll bl) k ↔ BuiltForU ufs bl k
  | .nil, ufs, k => by simp only [takeRestAll]
  | .cons b m r, .nil, k => by simp only [takeRestAll, BuiltForU]
  | .cons b m r, .cons t f fr, k => by
    simp only [takeRestAll, BuiltForU, BuiltFor_takeRest b, BuiltForU_takeRestAll r]
end

/-- two builder states that leave the same thing behind stand for the same field -/
theorem BuiltFor_of_takeRest_eq (b b' : B) (dt : DataType) (nl : Bool) (h : takeRest b' = takeRest b)
    (hb : BuiltFor dt nl b) : BuiltFor dt nl b' := by
  rw [← BuiltFor_takeRest b', h, BuiltFor_takeRest b]; exact hb

theorem foldlM_takeRest (ext : Ext)
    (hpush : ∀ (x : SVal) (b b' : B), push ext b x = .ok b' → takeRest b' = takeRest b) :
    ∀ (rows : List SVal) (r0 root : B), rows.foldlM (push ext) r0 = .ok root → takeRest root = takeRest r0 :=
  R.foldlM_induct (fun _ => rfl) fun x _ r0 r1 _ h1 _ ih => ih.trans (hpush x r0 r1 h1)

/-- **`hshape` of `Props.C03.C03_wf_of_root`, from `push_takeRest`**: after any accepted sequence of rows the root builder
still stands for the struct of the declared fields. -/
theorem runRows_builtFor (ext : Ext) (fields : List Field) (rows : List SVal) (root : B)
    (hpush : ∀ (x : SVal) (b b' : B), push ext b x = .ok b' → takeRest b' = takeRest b)
    (h : runRows ext fields rows = .ok root) :
    BuiltFor (.struct (Fields.ofList fields)) false root :=
  runRows_induct h (newRoot_builtFor fields) fun x _ b b' hp hb => BuiltFor_of_takeRest_eq b b' _ _ (hpush x b b' hp) hb

/-- bridge to the strict dictionary clause of `WFB` (`k = .int j → 0 ≤ j ∧ j.toNat < |index|`): together
with "every key is null or an integer" it is the dictionary clause of `Faithful` -/
theorem faithful_keys_of_strict (ks : List LVal) (n : Nat)
    (h1 : ∀ k ∈ ks, k = .null ∨ ∃ j : Int, k = .int j)
    (h2 : ∀ k ∈ ks, ∀ j : Int, k = .int j → 0 ≤ j ∧ j.toNat < n) :
    ∀ k ∈ ks, k = .null ∨ ∃ j : Nat, k = .int j ∧ j < n := by
  intro k hk
  rcases h1 k hk with h | ⟨j, hj⟩
  · exact Or.inl h
  · obtain ⟨h0, hlt⟩ := h2 k hk j hj
    refine Or.inr ⟨j.toNat, ?_, hlt⟩
    rw [hj, Int.toNat_of_nonneg h0]

/-- the keys of an integer leaf builder are null or integers -/
theorem leaf_int_keys (p : String) (t : IntTy) (v : Validity) (vals : List Int) :
    ∀ k ∈ dec (.leaf p (.int t) v vals), k = .null ∨ ∃ j : Int, k = .int j := by
  intro k hk
  simp only [dec] at hk
  rcases mem_maskNull _ _ _ hk with h | h
  · exact Or.inl h
  · obtain ⟨x, _, rfl⟩ := List.mem_map.mp h
    exact Or.inr ⟨x, by cases t <;> rfl⟩

end SaModel.Lemmas.C03
