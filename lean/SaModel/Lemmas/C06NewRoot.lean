import SaModel.Lemmas.C06InterpTupleA
import SaModel.Lemmas.C06Side
import SaModel.Lemmas.NewDTNodes
/-
C06, closure: `build_builder` accepts every traced schema (no overwrites).  For every tracer `from_samples` can reach
(`Inv o t`) and every field `f` it produces, `newB path f` succeeds at every path; at the root, `newRoot` succeeds on
the fields `to_schema` returns.  The facts about `newDT` at a container given its children are Lemmas/NewDTNodes.lean.
-/
namespace SaModel.Lemmas.C06
open SaModel SaModel.Spec SaModel.Build SaModel.Trace

theorem hasDup_of_nodup : ∀ l : List String, l.Nodup → hasDup l = false
  | [], _ => rfl
  | n :: ns, h => by
    rw [List.nodup_cons] at h
    simp only [hasDup, Bool.or_eq_false_iff]
    exact ⟨by simpa using h.1, hasDup_of_nodup ns h.2⟩

theorem nodup_sortByName {l : List Field} (h : (l.map Field.name).Nodup) :
    ((sortByName l).map Field.name).Nodup :=
  (((perm_sortByName l).map Field.name).nodup_iff).mpr h

theorem newFields_ok : ∀ (l : List Field), (∀ f ∈ l, NB f) → ∀ path,
    ∃ bl, newFields path (Fields.ofList l) = .ok bl ∧ bl.names = l.map Field.name
  | [], _, path => ⟨.nil, by simp [Fields.ofList, newFields], rfl⟩
  | f :: r, h, path => by
    obtain ⟨bl, hbl, hn⟩ := newFields_ok r (fun g hg => h g (by simp [hg])) path
    obtain ⟨b, hb⟩ := newFields_cons (h f (by simp)) hbl
    refine ⟨_, hb, ?_⟩
    rcases f with ⟨n, dt, nl, md⟩
    simp [BL.names, metaOfField, hn, Field.name]

theorem mkStruct_ok (path : String) (bl : BL) (nl : Bool) (h : bl.names.Nodup) : ∃ b, mkStruct path bl nl = .ok b := by
  simp [mkStruct, hasDup_of_nodup _ h]

theorem newDT_struct_ok {l : List Field} (h : ∀ f ∈ l, NB f) (hd : (l.map Field.name).Nodup) (nl : Bool)
    (md : Metadata) : ∀ path, ∃ b, newDT path (.struct (Fields.ofList l)) nl md = .ok b := by
  intro path
  obtain ⟨bl, hbl, hn⟩ := newFields_ok l h path
  exact newDT_struct_of hbl (hasDup_of_nodup _ (hn ▸ hd)) nl md

theorem newRoot_ok {l : List Field} (h : ∀ f ∈ l, NB f) (hd : (l.map Field.name).Nodup) :
    ∃ b, newRoot l = .ok b := by
  obtain ⟨bl, hbl, hn⟩ := newFields_ok l h "$"
  obtain ⟨b, hb⟩ := mkStruct_ok "$" bl false (hn ▸ hd)
  exact ⟨b, by simp only [newRoot, hbl, bind, Except.bind, hb]⟩

theorem toUpper_UTC : "UTC".toUpper = "UTC" := by
  rw [String.toUpper, String.map_eq_internal]
  decide

theorem isUtcTz_UTC : isUtcTz (some "UTC") = .ok true := by
  simp only [isUtcTz, toUpper_UTC]
  rfl

theorem newDT_string_type_ok (o : Options) (nl : Bool) (md : Metadata) (path : String) :
    ∃ b, newDT path o.string_type nl md = .ok b := by
  simp only [Options.string_type]
  split <;> exact ⟨_, rfl⟩

theorem newDT_leaf_ok (o : Options) {ty : DataType} (h : ty ∈ leafTypes o) (nl : Bool) (md : Metadata) :
    ∀ path, ∃ b, newDT path ty nl md = .ok b := by
  intro path
  simp only [leafTypes, List.mem_cons, List.not_mem_nil, or_false] at h
  rcases h with h | h | h | h | h | h | h | h | h | h | h | h | h | h | h | h | h | h
  all_goals subst h
  case inr.inr.inr.inr.inr.inr.inr.inr.inr.inr.inr.inr.inl => exact newDT_string_type_ok o nl md path
  case inr.inr.inr.inr.inr.inr.inr.inr.inr.inr.inr.inr.inr.inr.inl =>
    exact ⟨_, by simp only [newDT, isUtcTz, bind, Except.bind, pure, Except.pure]; rfl⟩
  case inr.inr.inr.inr.inr.inr.inr.inr.inr.inr.inr.inr.inr.inr.inr.inl =>
    exact ⟨_, by simp only [newDT, isUtcTz_UTC, bind, Except.bind, pure, Except.pure]; rfl⟩
  case inr.inr.inr.inr.inr.inr.inr.inr.inr.inr.inr.inr.inr.inr.inr.inr.inl =>
    exact ⟨_, by simp only [newDT]; rfl⟩
  all_goals first
    | exact ⟨_, rfl⟩
    | (simp only [newDT]; split <;> exact ⟨_, rfl⟩)

theorem newDT_dictionary_ok (o : Options) (nl : Bool) (md : Metadata) (path : String) :
    ∃ b, newDT path (.dictionary .uint32 o.string_type) nl md = .ok b := by
  obtain ⟨vb, hv⟩ := newDT_string_type_ok o false [] (path ++ ".value")
  exact ⟨_, by simp only [newDT, hv, bind, Except.bind, pure, Except.pure]; rfl⟩

theorem NB_default_dictionary_field (o : Options) (n : String) (nl : Bool) :
    NB (default_dictionary_field n nl o.string_type) :=
  NB_mk (newDT_dictionary_ok o nl [])

theorem NB_unknown_variant_field : NB unknown_variant_field := by
  intro path
  simp only [unknown_variant_field, newB, newDT]
  split <;> exact ⟨_, rfl⟩

theorem to_fieldsF_names {o : Options} (h0 : o.overwrites = []) (s : Nat) : ∀ (fs : TFields) (l : List Field),
    C07.FWF o s fs → fs.to_fields o = .ok l → l.map Field.name = fs.names
  | .nil, l, _, h => by
    simp only [TFields.to_fields] at h; cases h; rfl
  | .cons n ls t r, l, hw, h => by
    rw [C07.FWF] at hw
    simp only [TFields.to_fields] at h
    obtain ⟨f, hf, h⟩ := bind_ok'.mp h
    obtain ⟨fs', hfs, h⟩ := bind_ok'.mp h
    cases h
    simp only [List.map_cons, TFields.names, to_fieldsF_names h0 s r fs' hw.2.2.2.2 hfs, (to_field_facts h0 hf).1,
      hw.2.2.1]

theorem NB_walk (o : Options) (h0 : o.overwrites = []) :
    (∀ t f, t.to_field o = .ok f → C07.WF o t → TN t → NB f) ∧
    (∀ ts l, ts.to_fields o = .ok l → C07.TsWF o ts → (∃ k, TNT k ts) → ∀ f ∈ l, NB f) ∧
    (∀ fs l, fs.to_fields o = .ok l → (∃ s, C07.FWF o s fs) → TNF fs → ∀ f ∈ l, NB f) ∧
    (∀ vs idx l, vs.to_fields o idx = .ok l → C07.VWF o vs → TNV vs →
      ∀ path, ∃ bl, newUnionFields path (UFields.ofList l) idx = .ok bl) := by
  refine to_field_induct o (fun t f => C07.WF o t → TN t → NB f)
    (fun ts l => C07.TsWF o ts → (∃ k, TNT k ts) → ∀ f ∈ l, NB f)
    (fun fs l => (∃ s, C07.FWF o s fs) → TNF fs → ∀ f ∈ l, NB f)
    (fun vs idx l => C07.VWF o vs → TNV vs → ∀ path, ∃ bl, newUnionFields path (UFields.ofList l) idx = .ok bl)
    (over_nil h0) ?_ ?_ ?_ ?_ ?_ ?_ ?_ ?_ ?_ ?_ ?_ ?_ ?_ ?_ ?_
  · refine fun n p nl _ _ => NB_mk fun path => ?_
    simp only [newDT]; split <;> exact ⟨_, rfl⟩
  · intro n p nl ty st f h hw _
    rw [C07.WF] at hw
    have hty := (C07.mem_leafStates.mp hw.2).1
    rcases to_field_node h0 h with ⟨_, rfl⟩ | ⟨_, _, ⟨_, rfl⟩ | ⟨_, rfl⟩⟩ | ⟨_, _, rfl⟩
    · refine NB_mk fun path => ?_
      simp only [newDT]; split <;> exact ⟨_, rfl⟩
    · exact NB_mk (newDT_leaf_ok o hty nl [])
    · exact NB_default_dictionary_field o n nl
    · exact NB_mk (newDT_leaf_ok o hty nl _)
  · exact fun n p nl i item ih hw ht => NB_mk (newDT_list_ok o.sequence_as_large_list (ih hw ht) nl [])
  · exact fun n p nl k v kf vf ihk ihv hw ht => NB_mk (newDT_map_ok (ihk hw.1 ht.1) (ihv hw.2 ht.2) nl [])
  · intro n p nl fs s l hl ih
    have key : C07.FWF o s fs → TNF fs → (∀ f ∈ l, NB f) ∧ (l.map Field.name).Nodup := fun hw ht =>
      ⟨ih ⟨s, hw⟩ ht, by rw [to_fieldsF_names h0 s fs l hw hl]; exact C07.FWF_nodup hw⟩
    exact ⟨fun hw ht => NB_mk (newDT_struct_ok (key hw ht).1 (key hw ht).2 nl _),
      fun hw ht => NB_mk (newDT_struct_ok (fun g hg => (key hw ht).1 g ((mem_sortByName l g).1 hg))
        (nodup_sortByName (key hw ht).2) nl _)⟩
  · exact fun n p nl ts l hl ih hw ht =>
      NB_mk (newDT_struct_ok (ih hw ⟨0, ht⟩) (nodup_of_toString (tuple_fields_names h0 hl ht)) nl _)
  · exact fun n p nl vs _ _ _ _ => NB_default_dictionary_field o n nl
  · exact fun n p nl vs l _ ih hw ht => NB_mk (newDT_union_ok (ih hw ht) nl [])
  · exact fun _ _ _ h => nomatch h
  · exact fun t r f l ih ihr hw ⟨k, ht⟩ => List.forall_mem_cons.mpr ⟨ih hw.1 ht.2.1, ihr hw.2 ⟨k + 1, ht.2.2⟩⟩
  · exact fun _ _ _ h => nomatch h
  · exact fun n ls t r f l ih ihr ⟨s, hw⟩ ht =>
      List.forall_mem_cons.mpr ⟨ih hw.2.2.2.1 ht.1, ihr ⟨s, hw.2.2.2.2⟩ ht.2⟩
  · exact fun idx _ _ path => ⟨.nil, by simp only [UFields.ofList, newUnionFields]⟩
  · exact fun r idx l _ ih hw ht => newUnionFields_cons NB_unknown_variant_field (ih hw ht)
  · exact fun n t r idx f l _ _ ih ihr hw ht => newUnionFields_cons (ih hw.1 ht.1) (ihr hw.2 ht.2)

theorem to_fieldsT_NB (o : Options) (h0 : o.overwrites = []) :
    ∀ (ts : Tracers) (k : Nat) (l : List Field), C07.TsWF o ts → TNT k ts → ts.to_fields o = .ok l → ∀ f ∈ l, NB f :=
  fun ts k l hw ht h => (NB_walk o h0).2.1 ts l h hw ⟨k, ht⟩

theorem to_fieldsF_NB (o : Options) (h0 : o.overwrites = []) (s : Nat) :
    ∀ (fs : TFields) (l : List Field), C07.FWF o s fs → TNF fs → fs.to_fields o = .ok l → ∀ f ∈ l, NB f :=
  fun fs l hw ht h => (NB_walk o h0).2.2.1 fs l h ⟨s, hw⟩ ht

theorem to_fieldsV_NB (o : Options) (h0 : o.overwrites = []) :
    ∀ (vs : Variants) (idx : Nat) (l : List (Int × Field)), C07.VWF o vs → TNV vs → vs.to_fields o idx = .ok l →
      ∀ path, ∃ bl, newUnionFields path (UFields.ofList l) idx = .ok bl :=
  fun vs idx l hw ht h => (NB_walk o h0).2.2.2 vs idx l h hw ht

theorem to_field_newB (o : Options) (h0 : o.overwrites = []) (t : Tracer) (hinv : Inv o t) (f : Field)
    (h : t.to_field o = .ok f) : ∀ path, ∃ b, newB path f = .ok b :=
  (NB_walk o h0).1 t f h hinv.1 hinv.2

/-- **`build_builder` accepts every traced schema** -/
theorem newRoot_traced (o : Options) (h0 : o.overwrites = []) (t : Tracer) (hinv : Inv o t) (fields : List Field)
    (h : t.to_schema o = .ok fields) : ∃ root0, newRoot fields = .ok root0 := by
  obtain ⟨n, children, md, hr, rfl⟩ := to_schema_ok o t fields h
  obtain ⟨b, hb⟩ := to_field_newB o h0 t hinv _ hr "$"
  refine ⟨b, ?_⟩
  rw [newB, newDT] at hb
  rw [newRoot, Roundtrip.ofList_toList']
  exact hb

end SaModel.Lemmas.C06
