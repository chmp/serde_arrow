import SaModel.Spec.Decimal
import SaModel.Lemmas.Digits
/-
Digit-string arithmetic for C15: `Spec.Decimal.digitsVal` is `Digits.value digitVal`; the lemmas of Lemmas/Digits.lean on
bytes, and what only the decimal parser needs (leading zeros).
-/
namespace SaModel.Lemmas.C15
open SaModel.Spec.Decimal SaModel.Digits

abbrev zeros (n : Nat) : Bytes := List.replicate n 48

def AllDigits (ds : Bytes) : Prop := ∀ c ∈ ds, isDigit c = true
def AllZero (ds : Bytes) : Prop := ∀ c ∈ ds, c = 48

theorem isDigit_48 : isDigit 48 = true := by decide

theorem AllZero.allDigits {ds : Bytes} (h : AllZero ds) : AllDigits ds := by
  intro c hc; rw [h c hc]; exact isDigit_48

theorem allZero_zeros (n : Nat) : AllZero (zeros n) := by
  intro c hc; exact (List.mem_replicate.mp hc).2

theorem AllDigits.append {a b : Bytes} (ha : AllDigits a) (hb : AllDigits b) : AllDigits (a ++ b) := by
  intro c hc; rcases List.mem_append.mp hc with h | h
  · exact ha c h
  · exact hb c h

theorem AllDigits.take {a : Bytes} (ha : AllDigits a) (n : Nat) : AllDigits (a.take n) :=
  fun c hc => ha c (List.mem_of_mem_take hc)

theorem AllDigits.drop {a : Bytes} (ha : AllDigits a) (n : Nat) : AllDigits (a.drop n) :=
  fun c hc => ha c (List.mem_of_mem_drop hc)

theorem AllZero.append {a b : Bytes} (ha : AllZero a) (hb : AllZero b) : AllZero (a ++ b) := by
  intro c hc; rcases List.mem_append.mp hc with h | h
  · exact ha c h
  · exact hb c h

theorem allZero_append {a b : Bytes} : AllZero (a ++ b) ↔ AllZero a ∧ AllZero b :=
  ⟨fun h => ⟨fun c hc => h c (List.mem_append.mpr (.inl hc)), fun c hc => h c (List.mem_append.mpr (.inr hc))⟩,
   fun ⟨ha, hb⟩ => ha.append hb⟩

theorem allDigits_append {a b : Bytes} : AllDigits (a ++ b) ↔ AllDigits a ∧ AllDigits b :=
  ⟨fun h => ⟨fun c hc => h c (List.mem_append.mpr (.inl hc)), fun c hc => h c (List.mem_append.mpr (.inr hc))⟩,
   fun ⟨ha, hb⟩ => ha.append hb⟩

theorem digitsVal_nil : digitsVal [] = 0 := rfl

theorem digitsVal_cons (c : UInt8) (ds : Bytes) :
    digitsVal (c :: ds) = digitVal c * 10 ^ ds.length + digitsVal ds := value_cons c ds

theorem digitsVal_append (a b : Bytes) :
    digitsVal (a ++ b) = digitsVal a * 10 ^ b.length + digitsVal b := value_append a b

theorem digitVal_lt {c : UInt8} (h : isDigit c = true) : digitVal c < 10 := by
  simp only [isDigit, decide_eq_true_eq] at h
  simp only [digitVal]; omega

theorem AllDigits.small {ds : Bytes} (h : AllDigits ds) : Small digitVal ds := fun c hc => digitVal_lt (h c hc)

theorem digitVal_eq_zero {c : UInt8} (h : isDigit c = true) : digitVal c = 0 ↔ c = 48 := by
  simp only [isDigit, decide_eq_true_eq] at h
  simp only [digitVal]
  constructor
  · intro h0
    have : c.toNat = 48 := by omega
    exact UInt8.toNat_inj.mp (by simpa using this)
  · intro h0; subst h0; rfl

theorem digitsVal_lt {ds : Bytes} (h : AllDigits ds) : digitsVal ds < 10 ^ ds.length := value_lt h.small

theorem digitsVal_allZero {ds : Bytes} (h : AllZero ds) : digitsVal ds = 0 := by
  induction ds with
  | nil => rfl
  | cons c rest ih =>
    rw [digitsVal_cons, ih (fun d hd => h d (List.mem_cons_of_mem _ hd)), h c (List.mem_cons_self)]
    simp [digitVal]

theorem digitsVal_zeros (n : Nat) : digitsVal (zeros n) = 0 := value_replicate (v := digitVal) (z := 48) rfl n

theorem allZero_of_digitsVal_eq_zero {ds : Bytes} (hd : AllDigits ds) (h : digitsVal ds = 0) : AllZero ds := by
  induction ds with
  | nil => intro c hc; cases hc
  | cons c rest ih =>
    rw [digitsVal_cons] at h
    have hpos : 0 < 10 ^ rest.length := p10 _
    have h1 : digitVal c * 10 ^ rest.length = 0 := by omega
    have h2 : digitsVal rest = 0 := by omega
    have hc0 : digitVal c = 0 := by
      rcases Nat.mul_eq_zero.mp h1 with h | h
      · exact h
      · omega
    have hc : c = 48 := (digitVal_eq_zero (hd c (List.mem_cons_self))).mp hc0
    intro d hdm
    rcases List.mem_cons.mp hdm with rfl | hm
    · exact hc
    · exact ih (fun d hd' => hd d (List.mem_cons_of_mem _ hd')) h2 d hm

theorem digitsVal_drop_of_allZero (ds : Bytes) (n : Nat) (h : AllZero (ds.take n)) :
    digitsVal (ds.drop n) = digitsVal ds := by
  conv => rhs; rw [← List.take_append_drop n ds]
  rw [digitsVal_append, digitsVal_allZero h]; simp

/-- a digit string has a value below `10^p` iff everything above its last `p` digits is zero -/
theorem digitsVal_lt_pow_iff {ds : Bytes} (hd : AllDigits ds) (p : Nat) :
    digitsVal ds < 10 ^ p ↔ AllZero (ds.take (ds.length - p)) := by
  have hsplit : digitsVal ds = digitsVal (ds.take (ds.length - p)) * 10 ^ (ds.drop (ds.length - p)).length
      + digitsVal (ds.drop (ds.length - p)) := by
    conv => lhs; rw [← List.take_append_drop (ds.length - p) ds]
    rw [digitsVal_append]
  have hlow := digitsVal_lt (hd.drop (ds.length - p))
  have hlen : (ds.drop (ds.length - p)).length = ds.length - (ds.length - p) := List.length_drop
  constructor
  · intro hlt
    apply allZero_of_digitsVal_eq_zero (hd.take _)
    apply Classical.byContradiction
    intro hne
    have hpos : 1 ≤ digitsVal (ds.take (ds.length - p)) := by omega
    -- then the string is longer than p and the kept part has exactly p digits
    have hlong : p < ds.length := by
      apply Classical.byContradiction
      intro hle
      have : ds.length - p = 0 := by omega
      rw [this] at hpos; simp [digitsVal] at hpos
    have hl : (ds.drop (ds.length - p)).length = p := by omega
    rw [hl] at hsplit
    have : 1 * 10 ^ p ≤ digitsVal (ds.take (ds.length - p)) * 10 ^ p := Nat.mul_le_mul_right _ hpos
    omega
  · intro hz
    rw [hsplit, digitsVal_allZero hz]
    have : (ds.drop (ds.length - p)).length ≤ p := by omega
    have := Nat.pow_le_pow_right (n := 10) (by omega) this
    omega

theorem digitsVal_take_div {ds : Bytes} (hd : AllDigits ds) (k : Nat) :
    digitsVal (ds.take (ds.length - k)) = digitsVal ds / 10 ^ k := value_take_div hd.small k

/-- the digit string of `⌊N(I.F) · 10^k⌋` for `k ≥ 0`: fraction cut / padded to exactly `k` digits -/
theorem digitsVal_pad (I F : Bytes) (hF : AllDigits F) (k : Nat) :
    digitsVal (I ++ F.take k ++ zeros (k - F.length)) = digitsVal (I ++ F) * 10 ^ k / 10 ^ F.length :=
  value_pad (v := digitVal) (z := 48) rfl I F hF.small k

/-- for a negative scale only the integer digits matter -/
theorem digitsVal_int_div (I F : Bytes) (hF : AllDigits F) (k : Nat) :
    digitsVal (I ++ F) / 10 ^ (F.length + k) = digitsVal I / 10 ^ k := by
  rw [digitsVal_append, Nat.pow_add, ← Nat.div_div_eq_div_mul,
    div_lemma _ _ _ (p10 _) (digitsVal_lt hF)]

end SaModel.Lemmas.C15
