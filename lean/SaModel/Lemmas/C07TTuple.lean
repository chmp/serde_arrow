import SaModel.Lemmas.C07TMap
/-
C07, tree level — tuples, position by position: `ensure_tuple` (repaired code) and `absorbTuple` through `get?`;
a tuple node behaves like a struct node whose keys are the positions (`keyT` with key `toString j`); then the tuple family at
node level (`TupleFam`).
-/
namespace SaModel.Lemmas.C07
open SaModel SaModel.Trace SaModel.Props.C07

def newAt (p : String) (j : Nat) : Tracer := Tracer.new (toString j) (p ++ "." ++ toString j)

theorem Ts.get?_some_lt {ts : Tracers} {j : Nat} {t : Tracer} (h : ts.get? j = some t) : j < ts.length :=
  C06.Tracers.get?_lt h

theorem Ts.get?_set (ts : Tracers) (i : Nat) (x : Tracer) (j : Nat) :
    (ts.set i x).get? j = if i = j then (ts.get? j).map (fun _ => x) else ts.get? j := by
  rw [C06.Tracers.get?_eq, C06.Tracers.toList_set, C06.Tracers.get?_eq, List.getElem?_set]
  split
  · rename_i h; subst h
    split
    · rename_i h; rw [List.getElem?_eq_getElem h]; rfl
    · rename_i h; rw [List.getElem?_eq_none (Nat.le_of_not_lt h)]; rfl
  · rfl

theorem mkTuple_get (p : String) (n : Nat) : ∀ k j, k ≤ n →
    (mkTupleFields p n k).get? j = if j < k then some (newAt p (n - k + j)) else none
  | 0, j, _ => by simp [mkTupleFields, Tracers.get?]
  | k + 1, 0, _ => by simp [mkTupleFields, Tracers.get?, newAt]
  | k + 1, j + 1, h => by
    simp only [mkTupleFields, Tracers.get?, mkTuple_get p n k j (by omega)]
    have : n - k + j = n - (k + 1) + (j + 1) := by omega
    by_cases hj : j < k
    · simp [hj, this]
    · simp [hj]

/-- the fields `ensure_tuple` adds to an existing tuple node, by position (`C06.growN`) -/
theorem growNullable_get (p : String) (k : Nat) (ts : Tracers) :
    (tupleGrowNullable p k ts).length = ts.length + (k - ts.length) ∧ ∀ j, (tupleGrowNullable p k ts).get? j =
      if j < ts.length then ts.get? j else if j < ts.length + (k - ts.length) then some (newAt p j).mark_nullable else none := by
  rw [C06.tupleGrowNullable_eq]
  have hl := C06.growN_length
    (fun acc => (Tracer.new (toString acc.length) (p ++ "." ++ toString acc.length)).mark_nullable) (k - ts.length) ts
  refine ⟨hl, fun j => ?_⟩
  by_cases h1 : j < ts.length
  · rw [if_pos h1, C06.growN_get?_lt _ _ ts j h1]
  · rw [if_neg h1]
    by_cases h2 : j < ts.length + (k - ts.length)
    · obtain ⟨t, ht⟩ := C06.Tracers.get?_of_lt (hl ▸ h2)
      rw [if_pos h2, ht, C06.growN_get?_new_at _ (fun i t => t = (newAt p i).mark_nullable) (fun _ => rfl) _ ts j t
        (Nat.le_of_not_lt h1) ht]
    · rw [if_neg h2]; exact (C06.Tracers.get?_none_iff _ _).mpr (hl ▸ Nat.le_of_not_lt h2)

/-- `s = 0`: the node was `Unknown` (then `ts = nil`); otherwise an existing tuple node with fields `ts` -/
def tupleEns (s : Nat) (p : String) (k : Nat) (ts : Tracers) : Tracers :=
  if s = 0 then mkTupleFields p k k else tupleGrowNullable p k (ts.markFrom k)

theorem freshField_pos (p : String) {s : Nat} (j : Nat) :
    freshField p s (toString j) = if s = 0 then newAt p j else (newAt p j).mark_nullable := by
  unfold freshField newAt
  by_cases h : s = 0 <;> simp [h]

theorem tupleEns_get {s : Nat} {p : String} {k : Nat} {ts : Tracers} (h0 : s = 0 → ts = .nil) :
    k ≤ (tupleEns s p k ts).length ∧ ∀ j, (tupleEns s p k ts).get? j =
      if j < k then some (curT p s (toString j) (ts.get? j)) else (ts.get? j).map Tracer.mark_nullable := by
  unfold tupleEns
  by_cases hs : s = 0
  · have := h0 hs; subst this; subst hs
    simp only [if_true]
    refine ⟨by rw [C06.mkTupleFields_length]; exact Nat.le_refl _, fun j => ?_⟩
    rw [mkTuple_get p k k j (Nat.le_refl _)]
    by_cases hj : j < k
    · simp only [hj, if_true, Tracers.get?, curT, freshField_pos, Nat.sub_self, Nat.zero_add]
    · simp [hj, Tracers.get?]
  · simp only [hs, if_false]
    obtain ⟨hl, hg⟩ := growNullable_get p k (ts.markFrom k)
    rw [C06.Tracers.length_markFrom] at hl hg
    refine ⟨by rw [hl]; omega, fun j => ?_⟩
    rw [hg j, C06.Tracers.get?_markFrom]
    by_cases h1 : j < ts.length
    · obtain ⟨t, ht⟩ := C06.Tracers.get?_of_lt h1
      by_cases h2 : j < k
      · have : ¬ k ≤ j := by omega
        simp only [h1, h2, ht, curT, this, if_true, if_false, Option.map]
      · have : k ≤ j := by omega
        simp only [h1, h2, ht, this, if_true, if_false, Option.map]
    · have hn := (C06.Tracers.get?_none_iff _ _).mpr (Nat.le_of_not_lt h1)
      by_cases h2 : j < k
      · have : j < ts.length + (k - ts.length) := by omega
        simp only [h1, h2, hn, this, curT, freshField_pos, hs, if_true, if_false]
      · have : ¬ j < ts.length + (k - ts.length) := by omega
        simp only [h1, h2, hn, this, if_false, Option.map]

def SVals.get? : SVals → Nat → Option SVal
  | .nil, _ => none
  | .cons v _, 0 => some v
  | .cons _ r, i + 1 => SVals.get? r i

theorem SVals.get?_mem : ∀ {l : SVals} {i : Nat} {v : SVal}, SVals.get? l i = some v → v ∈ l.toList
  | .nil, _, _, h => by simp [SVals.get?] at h
  | .cons a r, 0, v, h => by simp [SVals.get?] at h; simp [SVals.toList, h]
  | .cons a r, i + 1, v, h => by
    simp only [SVals.get?] at h
    simp [SVals.toList, SVals.get?_mem h]

theorem SVals.get?_none : ∀ {l : SVals} {i : Nat}, SVals.get? l i = none ↔ l.length ≤ i
  | .nil, i => by simp [SVals.get?, SVals.length]
  | .cons a r, 0 => by simp [SVals.get?, SVals.length]
  | .cons a r, i + 1 => by simp [SVals.get?, SVals.length, SVals.get?_none (l := r) (i := i)]

theorem absorbTuple_get {o : Options} {p : String} : ∀ {items : SVals} {ts R : Tracers} {pos : Nat},
    pos + items.length ≤ ts.length → absorbTuple .fixed o p ts pos items = .ok R →
    (∀ j, (j < pos ∨ pos + items.length ≤ j) → R.get? j = ts.get? j) ∧
    (∀ i v, SVals.get? items i = some v → ∃ t t', ts.get? (pos + i) = some t ∧ absorb .fixed o t v = .ok t' ∧
      R.get? (pos + i) = some t')
  | .nil, ts, R, pos, _, h => by
    simp only [absorbTuple] at h; cases h
    exact ⟨fun _ _ => rfl, fun i v hv => by simp [SVals.get?] at hv⟩
  | .cons v r, ts, R, pos, hl, h => by
    simp only [SVals.length] at hl
    simp only [absorbTuple, bind, Except.bind] at h
    rw [C06.field_tracer_grow_of_lt p pos ts (by omega)] at h
    obtain ⟨ft, hft⟩ := C06.Tracers.get?_of_lt (ts := ts) (i := pos) (by omega)
    rw [hft] at h
    simp only at h
    cases ha : absorb .fixed o ft v with
    | error e => rw [ha] at h; cases h
    | ok ft' =>
      rw [ha] at h
      simp only at h
      obtain ⟨ih1, ih2⟩ := absorbTuple_get (items := r) (ts := ts.set pos ft') (pos := pos + 1)
        (by rw [C06.Tracers.length_set]; omega) h
      constructor
      · intro j hj
        rw [ih1 j (by simp only [SVals.length] at hj; omega), Ts.get?_set]
        have : pos ≠ j := by simp only [SVals.length] at hj; omega
        simp [this]
      · intro i w hw
        cases i with
        | zero =>
          simp only [SVals.get?, Option.some.injEq] at hw
          subst hw
          refine ⟨ft, ft', hft, ha, ?_⟩
          rw [ih1 (pos + 0) (by omega), Ts.get?_set]
          simp [hft]
        | succ i =>
          simp only [SVals.get?] at hw
          obtain ⟨t, t', h1, h2, h3⟩ := ih2 i w hw
          rw [Ts.get?_set] at h1
          have : pos ≠ pos + 1 + i := by omega
          simp only [this, if_false] at h1
          have e : pos + (i + 1) = pos + 1 + i := by omega
          exact ⟨t, t', by rw [e]; exact h1, h2, by rw [e]; exact h3⟩

theorem absorbTuple_mk {o : Options} {p : String} : ∀ {items : SVals} {ts : Tracers} {pos : Nat},
    pos + items.length ≤ ts.length →
    (∀ i v, SVals.get? items i = some v → ∃ t t', ts.get? (pos + i) = some t ∧ absorb .fixed o t v = .ok t') →
    ∃ R, absorbTuple .fixed o p ts pos items = .ok R
  | .nil, ts, pos, _, _ => ⟨ts, by simp only [absorbTuple]⟩
  | .cons v r, ts, pos, hl, h => by
    simp only [SVals.length] at hl
    obtain ⟨ft, ft', hft, ha⟩ := h 0 v (by simp [SVals.get?])
    obtain ⟨R, hR⟩ := absorbTuple_mk (o := o) (p := p) (items := r) (ts := ts.set pos ft') (pos := pos + 1)
      (by rw [C06.Tracers.length_set]; omega) (by
        intro i w hw
        obtain ⟨t, t', h1, h2⟩ := h (i + 1) w (by simp [SVals.get?, hw])
        have e : pos + (i + 1) = pos + 1 + i := by omega
        refine ⟨t, t', ?_, h2⟩
        rw [Ts.get?_set]
        have : pos ≠ pos + 1 + i := by omega
        simp only [this, if_false]
        rw [← e]; exact h1)
    refine ⟨R, ?_⟩
    simp only [absorbTuple, bind, Except.bind]
    rw [C06.field_tracer_grow_of_lt p pos ts (by omega)]
    simp only [Nat.add_zero] at hft
    rw [hft]
    simp only [ha]
    exact hR

def optList : Option SVal → List SVal
  | none => []
  | some v => [v]

/-- one tuple sample on a node, position by position (Lemma A) -/
theorem tuple_sample_find {o : Options} {p : String} {s : Nat} {items : SVals} {ts R : Tracers}
    (h0 : s = 0 → ts = .nil) (h : absorbTuple .fixed o p (tupleEns s p items.length ts) 0 items = .ok R) :
    ∀ j, keyT o p s (ts.get? j) (toString j) (optList (SVals.get? items j)) = .ok (R.get? j) := by
  obtain ⟨hl, hg⟩ := tupleEns_get (p := p) (k := items.length) h0
  obtain ⟨h1, h2⟩ := absorbTuple_get (by omega) h
  intro j
  cases hv : SVals.get? items j with
  | none =>
    have hj := SVals.get?_none.mp hv
    simp only [optList, keyT]
    rw [h1 j (by omega), hg j]
    have : ¬ j < items.length := by omega
    simp [this]
  | some v =>
    obtain ⟨t, t', a1, a2, a3⟩ := h2 j v hv
    simp only [Nat.zero_add] at a1 a3
    have hj : j < items.length := by
      apply Nat.lt_of_not_le; intro hle
      rw [SVals.get?_none.mpr hle] at hv; cases hv
    rw [hg j] at a1
    simp only [hj, if_true, Option.some.injEq] at a1
    simp only [optList, keyT, absorbAll, bind, Except.bind, a1, a2, a3]

/-- Lemma B -/
theorem tuple_sample_mk {o : Options} {p : String} {s : Nat} {items : SVals} {ts : Tracers}
    (h0 : s = 0 → ts = .nil)
    (h : ∀ j, ∃ r, keyT o p s (ts.get? j) (toString j) (optList (SVals.get? items j)) = .ok r) :
    ∃ R, absorbTuple .fixed o p (tupleEns s p items.length ts) 0 items = .ok R := by
  obtain ⟨hl, hg⟩ := tupleEns_get (p := p) (k := items.length) h0
  apply absorbTuple_mk (by omega)
  intro i v hv
  have hi : i < items.length := by
    apply Nat.lt_of_not_le; intro hle
    rw [SVals.get?_none.mpr hle] at hv; cases hv
  obtain ⟨r, hr⟩ := h i
  rw [hv] at hr
  simp only [optList, keyT, absorbAll, bind, Except.bind] at hr
  simp only [Nat.zero_add, hg i, hi, if_true]
  cases ha : absorb .fixed o (curT p s (toString i) (ts.get? i)) v with
  | error e => rw [ha] at hr; cases hr
  | ok t' => exact ⟨_, t', rfl, ha⟩

theorem TsEq_get : ∀ {A B : Tracers}, TsEq A B → ∀ j, ORel (A.get? j) (B.get? j)
  | .nil, B, h, j => by rw [TsEq] at h; subst h; simp [Tracers.get?, ORel]
  | .cons t r, B, h, j => by
    rw [TsEq] at h
    obtain ⟨t', r', rfl, h1, h2⟩ := h
    cases j with
    | zero => simp [Tracers.get?, ORel, h1]
    | succ j => simp only [Tracers.get?]; exact TsEq_get h2 j

theorem TsEq_of_get : ∀ {A B : Tracers}, (∀ j, ORel (A.get? j) (B.get? j)) → TsEq A B
  | .nil, B, h => by
    rw [TsEq]
    cases B with
    | nil => rfl
    | cons t r => have := h 0; simp [Tracers.get?, ORel] at this
  | .cons t r, B, h => by
    rw [TsEq]
    cases B with
    | nil => have := h 0; simp [Tracers.get?, ORel] at this
    | cons t' r' =>
      have h0 := h 0
      simp only [Tracers.get?, ORel] at h0
      exact ⟨t', r', rfl, h0, TsEq_of_get fun j => by have := h (j + 1); simpa [Tracers.get?] using this⟩

theorem TsWF_get {o : Options} : ∀ {A : Tracers}, TsWF o A → ∀ j, OWF o (A.get? j)
  | .nil, _, j => by intro t ht; simp [Tracers.get?] at ht
  | .cons t r, h, j => by
    rw [TsWF] at h
    cases j with
    | zero => intro t' ht; simp only [Tracers.get?, Option.some.injEq] at ht; subst ht; exact h.1
    | succ j => simp only [Tracers.get?]; exact TsWF_get h.2 j

theorem TsWF_of_get {o : Options} : ∀ {A : Tracers}, (∀ j, OWF o (A.get? j)) → TsWF o A
  | .nil, _ => by rw [TsWF]; trivial
  | .cons t r, h => by
    rw [TsWF]
    exact ⟨h 0 t (by simp [Tracers.get?]), TsWF_of_get fun j => by have := h (j + 1); simpa [Tracers.get?] using this⟩

/-! ### the tuple family at node level (`tuple`, `tuple_struct`; also the payload of tuple variants). -/

def TupleFam (o : Options) (x : SVal) (items : SVals) : Prop := C06.fam o x = .tuple items.toList

theorem TupleFam.ok {o : Options} {x : SVal} {items : SVals} (hx : TupleFam o x items) (t a : Tracer) :
    absorb .fixed o t x = .ok a ↔ ∃ n p nl ts ts', t.ensure_tuple .fixed items.length = .ok (.tuple n p nl ts) ∧
      absorbTuple .fixed o p ts 0 items = .ok ts' ∧ a = .tuple n p nl ts' := by
  rw [C06.absorb_ok_iff, hx]
  simp only [C06.Run, C06.absorbTuple_eq, SVals.length_toList]

theorem tupleFam_tuple (o : Options) (items : SVals) : TupleFam o (.tuple items) items := rfl

theorem tupleFam_tupleStruct (o : Options) (name : String) (items : SVals) :
    TupleFam o (.tupleStruct name items) items := rfl

def TupleLike (o : Options) (x : SVal) (items : SVals) : Prop :=
  ∀ t a, absorb .fixed o t x = .ok a ↔ ∃ n p nl ts ts', t.ensure_tuple .fixed items.length = .ok (.tuple n p nl ts) ∧
    absorbTuple .fixed o p ts 0 items = .ok ts' ∧ a = .tuple n p nl ts'

theorem TupleFam.like {o : Options} {x : SVal} {items : SVals} (hx : TupleFam o x items) : TupleLike o x items := hx.ok

theorem tupleLike_tuple (o : Options) (items : SVals) : TupleLike o (.tuple items) items := (tupleFam_tuple o items).like

theorem tupleLike_tupleStruct (o : Options) (name : String) (items : SVals) :
    TupleLike o (.tupleStruct name items) items := (tupleFam_tupleStruct o name items).like

theorem ensure_tuple_facts {o : Options} {t : Tracer} {k : Nat} {n p nl ts} (hw : WF o t)
    (h : t.ensure_tuple .fixed k = .ok (.tuple n p nl ts)) :
    ∃ s ts0, (s = 0 → ts0 = .nil) ∧ ts = tupleEns s p k ts0 ∧ TsWF o ts0 ∧ (∀ ts', depthOk (.tuple n p nl ts')) ∧
      ((t.is_unknown_or_null = true ∧ s = 0 ∧ n = t.name ∧ p = t.path ∧ nl = t.nullable) ∨
       (t = .tuple n p nl ts0 ∧ s = 1)) := by
  obtain ⟨hd, hc⟩ := ensure_tuple_inv h
  rcases hc with ⟨hu, e⟩ | ⟨n', p', nl', ts0, rfl, e⟩
  · cases e
    refine ⟨0, .nil, fun _ => rfl, (by simp [tupleEns]), (by rw [TsWF]; trivial),
      fun _ => (depthOk_path (a := t) rfl).mpr hd, .inl ⟨hu, rfl, rfl, rfl, rfl⟩⟩
  · cases e
    rw [WF] at hw
    refine ⟨1, ts0, (fun h => by cases h), (by simp [tupleEns]), hw,
      fun _ => (depthOk_path (a := .tuple n p nl ts0) rfl).mpr hd, .inr ⟨rfl, rfl⟩⟩

theorem optList_mem {items : SVals} {j : Nat} {v : SVal} (hv : v ∈ optList (SVals.get? items j)) : v ∈ items.toList := by
  cases hg : SVals.get? items j with
  | none => rw [hg] at hv; simp [optList] at hv
  | some w =>
    rw [hg] at hv
    simp only [optList, List.mem_singleton] at hv
    subst hv
    exact SVals.get?_mem hg

end SaModel.Lemmas.C07
