import SaModel.Lemmas.C09Match
import SaModel.Lemmas.C09Entries
/-
C09: what `build_data_type` returns (model `Dsl.buildDataTypeOfTerm`), for EVERY term and list of children: parameters
in the range of their Rust types, maps unsorted, unions dense with ids 0,1,2,…, and the nested fields are among the
children handed in.  Proved arm by arm through `buildDataTypeOfTerm_match_elim`.
-/
namespace SaModel.SchemaJson
open SaModel SaModel.Dsl SaModel.Lemmas.C09

theorem parseIntLit_range {signed : Bool} {lo hi : Int} {s : Text} {v : Int} (h : parseIntLit signed lo hi s = .ok v) :
    lo ≤ v ∧ v ≤ hi := by
  unfold parseIntLit at h
  simp only [] at h
  have key : ∀ w, (if lo ≤ w ∧ w ≤ hi then (pure w : R Int)
      else fail "number too large or too small to fit in target type") = .ok v → lo ≤ v ∧ v ≤ hi := by
    intro w hw
    split at hw
    · rename_i hc; cases hw; exact hc
    · cases hw
  split at h
  · obtain ⟨n, _, h⟩ := R.bind_ok_inv h
    obtain ⟨w, _, h⟩ := R.bind_ok_inv h
    exact key _ h
  · split at h
    · obtain ⟨w, _, h⟩ := R.bind_ok_inv h
      exact key _ h
    · obtain ⟨n, _, h⟩ := R.bind_ok_inv h
      obtain ⟨w, _, h⟩ := R.bind_ok_inv h
      exact key _ h

theorem parseI32_range {s : Text} {n : Int} (h : parseI32 s = .ok n) : i32Range n = true := by
  have := parseIntLit_range h
  unfold i32Range i32Max
  simp only [Bool.and_eq_true, decide_eq_true_eq]
  exact this

theorem parseI8_range {s : Text} {n : Int} (h : parseI8 s = .ok n) : -128 ≤ n ∧ n ≤ 127 := parseIntLit_range h

theorem parseU8_range {s : Text} {p : Nat} (h : parseU8 s = .ok p) : p ≤ 255 := by
  unfold parseU8 at h
  obtain ⟨v, hv, h2⟩ := R.bind_ok_inv h
  have := parseIntLit_range hv
  cases h2
  omega

theorem unionChildren_sound : (cs : List Field) → (idx : Nat) → (us : UFields) → unionChildren idx cs = .ok us →
    idsFrom idx us = true ∧ us.toList.map (·.2) = cs
  | [], _, us, h => by cases h; exact ⟨rfl, rfl⟩
  | f :: r, idx, us, h => by
    unfold unionChildren at h
    simp only [] at h
    split at h
    · cases h
    · rename_i hi
      obtain ⟨rest, hr, h3⟩ := R.bind_ok_inv h
      cases h3
      have ih := unionChildren_sound r (idx + 1) rest hr
      simp only [idsFrom, UFields.toList, List.map_cons, ih, Bool.and_true, decide_true, Bool.true_and, decide_eq_true_eq]
      exact ⟨by omega, trivial⟩

/-- the nested fields of a data type, as far as they are fields of the schema (the two types of a dictionary are not) -/
def kids : DataType → List Field
  | .dictionary _ _ => []
  | dt => childList dt

/-- what every result of `build_data_type` satisfies -/
def Built (children : List Field) (dt : DataType) : Prop :=
  typeOK dt = true ∧ rangeTop dt = true ∧ ∀ c ∈ kids dt, c ∈ children
where
  /-- parameters of the type itself in range -/
  rangeTop : DataType → Bool
    | .fixedSizeBinary n => i32Range n
    | .fixedSizeList _ n => i32Range n
    | _ => true

theorem built_leaf (children : List Field) (dt : DataType) (h1 : typeOK dt = true) (h2 : Built.rangeTop dt = true)
    (h3 : kids dt = []) : Built children dt :=
  ⟨h1, h2, by rw [h3]; intro c hc; cases hc⟩

theorem buildDataTypeOfTerm_built (t : Term) (children : List Field) (dt : DataType)
    (h : buildDataTypeOfTerm t children = .ok dt) : Built children dt := by
  unfold buildDataTypeOfTerm at h
  obtain ⟨⟨name, args⟩, _, hb⟩ := R.bind_ok_inv h
  clear h
  dsimp only at hb
  revert dt
  apply buildDataTypeOfTerm_match_elim (fun r => ∀ dt, r = .ok dt → Built children dt)
  case H_33 =>
    intro a _ _ dt h
    obtain ⟨s, _, h⟩ := R.bind_ok_inv h
    obtain ⟨n, hn, h⟩ := R.bind_ok_inv h
    cases h
    have := parseI32_range hn
    refine ⟨?_, this, by intro c hc; cases hc⟩
    simpa [typeOK, i32Range] using this
  case H_35 =>
    intro a b _ _ dt h
    obtain ⟨s, _, h⟩ := R.bind_ok_inv h
    obtain ⟨u, _, h⟩ := R.bind_ok_inv h
    obtain ⟨o, _, h⟩ := R.bind_ok_inv h
    cases o with
    | none => cases h; exact built_leaf _ _ rfl rfl rfl
    | some term =>
      obtain ⟨tz, _, h⟩ := R.bind_ok_inv h
      cases h; exact built_leaf _ _ rfl rfl rfl
  case H_36 =>
    intro a _ _ dt h
    obtain ⟨s, _, h⟩ := R.bind_ok_inv h
    obtain ⟨u, _, h⟩ := R.bind_ok_inv h
    cases h; exact built_leaf _ _ rfl rfl rfl
  case H_37 =>
    intro a _ _ dt h
    obtain ⟨s, _, h⟩ := R.bind_ok_inv h
    obtain ⟨u, _, h⟩ := R.bind_ok_inv h
    cases h; exact built_leaf _ _ rfl rfl rfl
  case H_38 =>
    intro a _ _ dt h
    obtain ⟨s, _, h⟩ := R.bind_ok_inv h
    obtain ⟨u, _, h⟩ := R.bind_ok_inv h
    cases h; exact built_leaf _ _ rfl rfl rfl
  case H_39 =>
    intro a b _ _ dt h
    obtain ⟨s, _, h⟩ := R.bind_ok_inv h
    obtain ⟨p, hp, h⟩ := R.bind_ok_inv h
    obtain ⟨s2, _, h⟩ := R.bind_ok_inv h
    obtain ⟨sc, hsc, h⟩ := R.bind_ok_inv h
    cases h
    have h1 := parseU8_range hp
    have h2 := parseI8_range hsc
    refine built_leaf _ _ ?_ rfl rfl
    simp [typeOK, h1, h2]
  case H_40 =>
    intro _ _ dt h
    cases h
    refine ⟨rfl, rfl, ?_⟩
    simp [kids, childList]
  case H_41 =>
    intro _ _ dt h
    split at h
    · cases h; exact ⟨rfl, rfl, by simp [kids, childList]⟩
    · cases h
  case H_42 =>
    intro _ _ dt h
    split at h
    · cases h; exact ⟨rfl, rfl, by simp [kids, childList]⟩
    · cases h
  case H_43 =>
    intro a _ _ dt h
    split at h
    · obtain ⟨s, _, h⟩ := R.bind_ok_inv h
      obtain ⟨n, hn, h⟩ := R.bind_ok_inv h
      cases h
      have := parseI32_range hn
      refine ⟨?_, this, by simp [kids, childList]⟩
      simpa [typeOK, i32Range] using this
    · cases h
  case H_44 =>
    intro _ _ dt h
    split at h
    · cases h; exact built_leaf _ _ rfl rfl rfl
    · cases h
  case H_45 =>
    intro _ _ dt h
    split at h
    · cases h; exact ⟨rfl, rfl, by simp [kids, childList]⟩
    · cases h
  case H_46 =>
    intro _ _ dt h
    obtain ⟨us, hu, h⟩ := R.bind_ok_inv h
    cases h
    have := unionChildren_sound children 0 us hu
    refine ⟨by simp [typeOK, this.1], rfl, ?_⟩
    simp only [kids, childList, this.2]
    intro c hc; exact hc
  case H_47 =>
    intro _ dt h; cases h
  all_goals
    intro _ _ dt h
    cases h
    exact built_leaf _ _ rfl rfl rfl

end SaModel.SchemaJson
