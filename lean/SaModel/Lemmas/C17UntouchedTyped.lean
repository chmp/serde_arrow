import SaModel.Lemmas.C17UntouchedAny
import SaModel.Lemmas.C17TouchTyped
/-
C17, `untouched_ok` — the typed reads, one combinator per target constructor (`AgreeP t` from `AgreeP` of the
component targets); `SaModel/Props/C17.lean` assembles them by structural recursion over the target.
-/
namespace SaModel.Props.C17
open SaModel SaModel.Read SaModel.Spec

/-- reads of target `t` at slot `i` see only what `touchEq t · · i` fixes -/
def AgreeP (t : Target) : Prop :=
  ∀ (a a' : Arr) (i : Nat), touchEq t a a' i = true → readAs Fixes.all t a i = readAs Fixes.all t a' i

/-- the target the payload of a variant of kind `k` is read with -/
def vkTarget : VKind → Target
  | .unit => .unit
  | .newtype t => t
  | .tuple ts => .tuple ts
  | .struct tfs => .struct tfs

def KAgree (k : VKind) : Prop :=
  ∀ (c c' : Arr) (off : Nat), touchEq (vkTarget k) c c' off = true →
    readKind Fixes.all k (some (c, off)) = readKind Fixes.all k (some (c', off))

/-- a target without `newtype` / `Option` layers that is not `any` / `IgnoredAny` -/
theorem touchEq_plain {t : Target} (hp : peelTarget t = (t, false)) (ha : isAnyLike t = false) (a a' : Arr) (i : Nat) :
    touchEq t a a' i = touchEqW false t a a' i := by
  unfold touchEq optOf
  rw [hp]
  simp only [ha, Bool.or_self]

theorem agreeP_any : AgreeP .any := fun a a' i h => by
  unfold readAs; exact readAny_agree (p := .any) rfl (by rw [← touchEq_any]; exact h)
theorem agreeP_ignored : AgreeP .ignored := fun a a' i h => by
  have h' : touchEqW true .ignored a a' i = true := h
  unfold readAs; rw [readAny_agree (p := .ignored) rfl h']
theorem agreeP_scalar {t : Target} {m : Method} (hm : methodOf t = some m) (hb : t ≠ .bytes) (hb' : t ≠ .byteBuf) :
    AgreeP t := fun a a' i h => by
  rw [readAs_of_method hm hb hb', readAs_of_method hm hb hb', scalar_agree _ h]

theorem agreeP_bytes : AgreeP .bytes := fun a a' i h => by
  rw [touchEq_plain rfl rfl] at h
  by_cases hk : kind a = 10
  · obtain ⟨l, v, offs, fm, el, rfl⟩ := kind_eq_list hk
    obtain ⟨l', v', offs', fm', el', rfl, _⟩ := touchEqW_list h
    unfold readAs
    simp only [list_head rfl rfl h]
  · rw [readAs_bytes_other (ne_list_of_kind hk), readAs_bytes_other (ne_list_of_kind (touchEqW_kind h ▸ hk)), scalar_agree .bytes h]

theorem agreeP_byteBuf : AgreeP .byteBuf := fun a a' i h => by
  rw [touchEq_plain rfl rfl] at h
  by_cases hk : kind a = 10
  · obtain ⟨l, v, offs, fm, el, rfl⟩ := kind_eq_list hk
    obtain ⟨l', v', offs', fm', el', rfl, _⟩ := touchEqW_list h
    unfold readAs
    exact list_rows rfl rfl rfl h (fun el j => do accept (.int .u8) (← scalar Fixes.all (.int .u8) el j)) _
      (fun j hj => by simp only [scalar_agree (.int .u8) hj])
  · rw [readAs_byteBuf_other (ne_list_of_kind hk), readAs_byteBuf_other (ne_list_of_kind (touchEqW_kind h ▸ hk)),
      scalar_agree .byteBuf h]

theorem agreeP_option {t : Target} (hS : AgreeP t) : AgreeP (.option t) := fun a a' i h => by
  obtain ⟨hs, ht⟩ := touchEq_option_elim h
  unfold readAs
  rw [← hs]
  refine R.bind_congr_ok (fun b hb => ?_)
  cases b with
  | false => rfl
  | true => rw [hS a a' i (ht hb)]

theorem agreeP_newtype {t : Target} (hS : AgreeP t) : AgreeP (.newtype t) := fun a a' i h => by
  unfold readAs
  exact hS a a' i h

theorem agreeP_seq {t : Target} (hS : AgreeP t) : AgreeP (.seq t) := fun a a' i h => by
  rw [touchEq_plain rfl rfl] at h
  by_cases hk : kind a = 10
  · obtain ⟨l, v, offs, fm, el, rfl⟩ := kind_eq_list hk
    obtain ⟨l', v', offs', fm', el', rfl, _⟩ := touchEqW_list h
    unfold readAs
    exact list_rows rfl rfl rfl h (fun el j => readAs Fixes.all t el j) _ (fun j hj => hS el el' j hj)
  by_cases hk' : kind a = 11
  · obtain ⟨len, v, n, fm, el, rfl⟩ := kind_eq_fsl hk'
    obtain ⟨len', v', fm', el', rfl, _⟩ := touchEqW_fsl h
    unfold readAs
    exact fsl_rows rfl rfl h (fun el j => readAs Fixes.all t el j) _ (fun j hj => hS el el' j hj)
  · have hkind := touchEqW_kind h
    rw [readAs_seq_other (ne_list_of_kind hk) (ne_fsl_of_kind hk'),
      readAs_seq_other (ne_list_of_kind (hkind ▸ hk)) (ne_fsl_of_kind (hkind ▸ hk')), binaryElems_agree h]

/-! ### tuples -/

theorem readTupleFields_agree : ∀ (ts : Targets), AllT AgreeP ts → ∀ (fs fs' : ArrFields) (i : Nat),
    tupleEq ts fs fs' i = true → readTupleFields Fixes.all ts fs i = readTupleFields Fixes.all ts fs' i
  | .nil, _, _, _, _, _ => by unfold readTupleFields; rfl
  | .cons t rest, hS, fs, fs', i, h => by
    cases fs with
    | nil => cases tupleEq_cons_nil h; rfl
    | cons fm a r =>
      obtain ⟨fm', a', r', rfl, ha, hr⟩ := tupleEq_cons_cons h
      unfold readTupleFields
      simp only [hS.1 a a' i ha, readTupleFields_agree rest hS.2 r r' i hr]

/-- the typed struct reads: the row check, then the fields — which the relation covers for rows in range -/
theorem struct_row {α} {p : Target} {len len' : Nat} {v v' : Option Bits} {fs fs' : ArrFields} {i : Nat}
    (h : touchEqW false p (.struct len v fs) (.struct len' v' fs') i = true) (f : ArrFields → R α)
    (hf : structContent p fs fs' i = true → f fs = f fs') :
    (structItem Fixes.all len i >>= fun _ => f fs) = (structItem Fixes.all len' i >>= fun _ => f fs') := by
  obtain ⟨_, _, _, he, hl, _, hc⟩ := touchEqW_struct h
  cases he
  rw [structItem_congr hl]
  cases hsi : structItem Fixes.all len' i with
  | error e => rfl
  | ok u =>
    have hi : i < len := by rw [hl]; exact structItem_ok_lt hsi
    simp only [bind, Except.bind]
    exact hf (hc hi (fun h => nomatch h))

theorem tupleVisit_agree {ts : Targets} (hS : AllT AgreeP ts) {p : Target}
    (hp : ∀ fs fs' i, structContent p fs fs' i = tupleEq ts fs fs' i) {a a' : Arr} {i : Nat}
    (h : touchEqW false p a a' i = true) :
    tupleVisit Fixes.all (fun fs => readTupleFields Fixes.all ts fs i) a i =
      tupleVisit Fixes.all (fun fs => readTupleFields Fixes.all ts fs i) a' i := by
  by_cases hk : kind a = 9
  · obtain ⟨len, v, fs, rfl⟩ := kind_eq_struct hk
    obtain ⟨len', v', fs', rfl, _⟩ := touchEqW_struct h
    exact struct_row h (fun fs => do pure (DVal.seq (DVals.ofList (← readTupleFields Fixes.all ts fs i)))) (fun hc => by
      rw [hp] at hc
      simp only [readTupleFields_agree ts hS fs fs' i hc])
  · rw [tupleVisit_other (ne_struct_of_kind hk), tupleVisit_other (ne_struct_of_kind (touchEqW_kind h ▸ hk))]

theorem agreeP_tuple {ts : Targets} (hS : AllT AgreeP ts) : AgreeP (.tuple ts) := fun a a' i h => by
  rw [touchEq_plain rfl rfl] at h
  unfold readAs; exact tupleVisit_agree hS (fun _ _ _ => rfl) h

theorem agreeP_tupleStruct {ts : Targets} (hS : AllT AgreeP ts) : AgreeP (.tupleStruct ts) := fun a a' i h => by
  rw [touchEq_plain rfl rfl] at h
  unfold readAs; exact tupleVisit_agree hS (fun _ _ _ => rfl) h

/-! ### maps -/

theorem mapM_fields_agree {k v : Target} (hV : AgreeP v) (i : Nat) : ∀ (fs fs' : ArrFields), allEq v fs fs' i = true →
    fs.toList.mapM (fun (p : FieldMeta × Arr) => do
        let kk ← strDeAs k p.1.name
        let vv ← readAs Fixes.all v p.2 i
        pure (kk, vv)) =
    fs'.toList.mapM (fun (p : FieldMeta × Arr) => do
        let kk ← strDeAs k p.1.name
        let vv ← readAs Fixes.all v p.2 i
        pure (kk, vv))
  | .nil, fs', h => by cases allEq_nil h; rfl
  | .cons fm a r, fs', h => by
    obtain ⟨fm', a', r', rfl, hn, ha, hr⟩ := allEq_cons h
    simp only [ArrFields.toList, List.mapM_cons, hn, hV a a' i ha, mapM_fields_agree hV i r r' hr]

theorem agreeP_map {k v : Target} (hK : AgreeP k) (hV : AgreeP v) : AgreeP (.map k v) := fun a a' i h => by
  rw [touchEq_plain rfl rfl] at h
  by_cases hk : kind a = 9
  · obtain ⟨len, vl, fs, rfl⟩ := kind_eq_struct hk
    obtain ⟨len', v', fs', rfl, _⟩ := touchEqW_struct h
    unfold readAs
    exact struct_row h (fun fs => do
        let es ← fs.toList.mapM fun (fm, child) => do
          let kk ← strDeAs k fm.name
          let vv ← readAs Fixes.all v child i
          pure (kk, vv)
        pure (DVal.map (DEntries.ofList es))) (fun hc => by
      have hc' : allEq v fs fs' i = true := hc
      exact congrArg (· >>= _) (mapM_fields_agree (k := k) hV i fs fs' hc'))
  by_cases hk' : kind a = 12
  · obtain ⟨vl, offs, mm, ks, vs, rfl⟩ := kind_eq_map hk'
    obtain ⟨v', offs', mm', ks', vs', rfl, _⟩ := touchEqW_map h
    unfold readAs
    refine map_rows rfl rfl h (fun ks vs j => do
      let kk ← readAs Fixes.all k ks j
      let vv ← readAs Fixes.all v vs j
      pure (kk, vv)) _ (fun j hk hv => ?_)
    rw [hk.elim (fun e => e ▸ rfl) (hK ks ks' j), hv.elim (fun e => e ▸ rfl) (hV vs vs' j)]
  · have hkind := touchEqW_kind h
    rw [readAs_map_other (ne_struct_of_kind hk) (ne_map_of_kind hk'),
      readAs_map_other (ne_struct_of_kind (hkind ▸ hk)) (ne_map_of_kind (hkind ▸ hk'))]

/-! ### structs by field name -/

theorem allF_named {P : Target → Prop} : ∀ (tfs : TFields), AllF P tfs → ∀ (name : String) (tt : Target),
    tfieldNamed tfs name = some tt → P tt
  | .nil, _, _, _, h => by simp [tfieldNamed] at h
  | .cons n t rest, hS, name, tt, h => by
    unfold tfieldNamed at h
    split at h
    · cases h; exact hS.1
    · exact allF_named rest hS.2 name tt h

theorem readFieldAs_congr : ∀ (tfs : TFields) (pos : Nat) (slots : Slots) (name : String) (c c' : Arr) (i : Nat),
    (∀ tt, tfieldNamed tfs name = some tt → readAs Fixes.all tt c i = readAs Fixes.all tt c' i) →
    readFieldAs Fixes.all tfs pos slots name c i = readFieldAs Fixes.all tfs pos slots name c' i
  | .nil, _, _, _, _, _, _, _ => by unfold readFieldAs; rfl
  | .cons n t rest, pos, slots, name, c, c', i, h => by
    unfold readFieldAs
    by_cases hn : (n == name) = true
    · have := h t (by simp [tfieldNamed, hn])
      simp only [hn, if_true, this]
    · simp only [hn]
      exact readFieldAs_congr rest (pos + 1) slots name c c' i (fun tt htt => h tt (by simp [tfieldNamed, hn, htt]))

/-- `next_key` finds no target field only when the target has none of that name -/
theorem readFieldAs_none : ∀ (tfs : TFields) (pos : Nat) (slots : Slots) (name : String) (c : Arr) (i : Nat),
    readFieldAs Fixes.all tfs pos slots name c i = .ok none → tfieldNamed tfs name = none
  | .nil, _, _, _, _, _, _ => by simp [tfieldNamed]
  | .cons n t rest, pos, slots, name, c, i, h => by
    unfold readFieldAs at h
    unfold tfieldNamed
    split at h
    · split at h
      · cases h
      · obtain ⟨x, _, h⟩ := ok_bind_inv h
        cases h
    · rename_i hn
      simp only [hn]
      exact readFieldAs_none rest (pos + 1) slots name c i h

theorem foldlM_fields_agree {tfs : TFields} {i : Nat} {step : Slots → FieldMeta × Arr → R Slots}
    (hstep : ∀ slots fm fm' c c', fm.name = fm'.name →
      (∀ tt, tfieldNamed tfs fm.name = some tt → touchEq tt c c' i = true) →
      (tfieldNamed tfs fm.name = none → touchEqW true .any c c' i = true) → step slots (fm, c) = step slots (fm', c')) :
    ∀ (fs fs' : ArrFields) (slots : Slots), namedEq tfs fs fs' i = true →
      fs.toList.foldlM step slots = fs'.toList.foldlM step slots
  | .nil, fs', _, h => by cases namedEq_nil h; rfl
  | .cons fm a r, fs', slots, h => by
    obtain ⟨fm', a', r', rfl, hn, h1, h2, hr⟩ := namedEq_cons h
    simp only [ArrFields.toList, List.foldlM_cons, hstep slots fm fm' a a' hn h1 h2]
    cases step slots (fm', a') with
    | error e => rfl
    | ok s1 => exact foldlM_fields_agree hstep r r' s1 hr

theorem structVisit_agree {tfs : TFields} (hS : AllF AgreeP tfs) {p : Target}
    (hp : ∀ fs fs' i, structContent p fs fs' i = namedEq tfs fs fs' i) {a a' : Arr} {i : Nat}
    (h : touchEqW false p a a' i = true) :
    structVisit Fixes.all (fun slots name child => readFieldAs Fixes.all tfs 0 slots name child i) tfs a i =
      structVisit Fixes.all (fun slots name child => readFieldAs Fixes.all tfs 0 slots name child i) tfs a' i := by
  by_cases hk : kind a = 9
  · obtain ⟨len, v, fs, rfl⟩ := kind_eq_struct hk
    obtain ⟨len', v', fs', rfl, _⟩ := touchEqW_struct h
    refine struct_row h (fun fs => do
        let slots ← fs.toList.foldlM (fun (slots : Slots) (fm, child) => do
          match (← readFieldAs Fixes.all tfs 0 slots fm.name child i) with
          | some kv => pure (slots ++ [kv])
          | none => do let _ ← readAny Fixes.all child i; pure slots) []
        pure (DVal.map (DEntries.ofList (← finishFields tfs 0 slots)))) (fun hc => ?_)
    rw [hp] at hc
    rw [foldlM_fields_agree (tfs := tfs) (i := i) ?_ fs fs' [] hc]
    intro slots fm fm' c c' hn h1 h2
    have hrf : readFieldAs Fixes.all tfs 0 slots fm.name c i = readFieldAs Fixes.all tfs 0 slots fm.name c' i :=
      readFieldAs_congr tfs 0 slots fm.name c c' i (fun tt htt => allF_named tfs hS fm.name tt htt c c' i (h1 tt htt))
    simp only [← hn, ← hrf]
    refine R.bind_congr_ok (fun r hr => ?_)
    cases r with
    | some kv => rfl
    | none => simp only [readAny_agree (p := .any) rfl (h2 (readFieldAs_none tfs 0 slots fm.name c i hr))]
  · rw [structVisit_other (ne_struct_of_kind hk), structVisit_other (ne_struct_of_kind (touchEqW_kind h ▸ hk))]

theorem agreeP_struct {tfs : TFields} (hS : AllF AgreeP tfs) : AgreeP (.struct tfs) := fun a a' i h => by
  rw [touchEq_plain rfl rfl] at h
  unfold readAs; exact structVisit_agree hS (fun _ _ _ => rfl) h

/-! ### enums -/

theorem kagree_unit : KAgree .unit := fun c c' off h => by unfold readKind; rw [scalar_agree _ h]
theorem kagree_newtype {t : Target} (hS : AgreeP t) : KAgree (.newtype t) := fun c c' off h => by
  unfold readKind; exact hS c c' off h
theorem kagree_tuple {ts : Targets} (hS : AllT AgreeP ts) : KAgree (.tuple ts) := fun c c' off h => by
  have h' : touchEq (.tuple ts) c c' off = true := h
  rw [touchEq_plain rfl rfl] at h'
  unfold readKind; exact tupleVisit_agree hS (fun _ _ _ => rfl) h'
theorem kagree_struct {tfs : TFields} (hS : AllF AgreeP tfs) : KAgree (.struct tfs) := fun c c' off h => by
  have h' : touchEq (.struct tfs) c c' off = true := h
  rw [touchEq_plain rfl rfl] at h'
  unfold readKind; exact structVisit_agree hS (fun _ _ _ => rfl) h'

theorem readVariantAs_agree : ∀ (vs : TVariants), AllV KAgree vs → ∀ (sel : Option Nat) (name : String) (c c' : Arr)
    (off : Nat), (∀ k, lookupVariant vs sel name = some k → touchEq (vkTarget k) c c' off = true) →
    readVariantAs Fixes.all vs sel name (some (c, off)) = readVariantAs Fixes.all vs sel name (some (c', off))
  | .nil, _, _, _, _, _, _, _ => by unfold readVariantAs; rfl
  | .cons n k rest, hS, sel, name, c, c', off, h => by
    unfold readVariantAs
    cases sel with
    | none =>
      simp only [Option.map_none]
      by_cases hc : (n == name) = true
      · have := hS.1 c c' off (h k (by simp [lookupVariant, variantNamed, hc]))
        simp only [hc, if_true, this]
      · simp only [hc]
        exact readVariantAs_agree rest hS.2 none name c c' off (fun k' hk' => h k' (by
          simp only [Bool.not_eq_true] at hc
          simpa [lookupVariant, variantNamed, hc] using hk'))
    | some p =>
      simp only [Option.map_some, beq_iff_eq]
      by_cases hc : p = 0
      · subst hc
        have := hS.1 c c' off (h k (by simp [lookupVariant, variantNth]))
        simp only [if_true, this]
      · simp only [hc, if_false]
        exact readVariantAs_agree rest hS.2 (some (p - 1)) name c c' off (fun k' hk' => h k' (by
          cases p with
          | zero => exact absurd rfl hc
          | succ p => simpa [lookupVariant, variantNth] using hk'))

theorem variantTarget?_enum {byIndex : Bool} {vs : TVariants} {pos : Nat} {name : String} {k : VKind}
    (h : lookupVariant vs (if byIndex then some pos else none) name = some k) :
    variantTarget? (.enum byIndex vs) pos name = some (vkTarget k) := by
  cases byIndex <;> simp only [lookupVariant, Bool.false_eq_true, if_false, if_true] at h <;>
    simp only [variantTarget?, Bool.false_eq_true, if_false, if_true, h] <;> cases k <;> rfl

theorem nth_agree {vt : String → Option Target} : ∀ (fs fs' : ArrUFields) (k j : Nat), variantEq vt fs fs' k j = true →
    fs.length = fs'.length →
    (ArrUFields.nth fs k = none ∧ ArrUFields.nth fs' k = none) ∨
    ∃ fm c fm' c', ArrUFields.nth fs k = some (fm, c) ∧ ArrUFields.nth fs' k = some (fm', c') ∧ fm.name = fm'.name ∧
      ∀ t, vt fm.name = some t → touchEq t c c' j = true
  | .nil, fs', _, _, _, hl => by
    cases fs' with
    | nil => exact Or.inl ⟨rfl, rfl⟩
    | cons _ _ _ _ => simp [ArrUFields.length] at hl
  | .cons _ fm a _, fs', 0, j, h, hl => by
    obtain ⟨tid', fm', a', r', rfl, hn, ha⟩ := variantEq_zero h
    exact Or.inr ⟨_, _, _, _, rfl, rfl, hn, ha⟩
  | .cons _ _ _ r, fs', k + 1, j, h, hl => by
    obtain ⟨tid', fm', a', r', rfl, hr⟩ := variantEq_succ h
    simp only [ArrUFields.nth]
    exact nth_agree r r' k j hr (by simp [ArrUFields.length] at hl; exact hl)

theorem agreeP_enum {byIndex : Bool} {vs : TVariants} (hS : AllV KAgree vs) : AgreeP (.enum byIndex vs) := fun a a' i h => by
  rw [touchEq_plain rfl rfl] at h
  by_cases hk : kind a = 14
  · obtain ⟨types, offs, fs, rfl⟩ := kind_eq_union hk
    obtain ⟨types', offs', fs', rfl, hh, hlen, hvar⟩ := touchEqW_union h
    unfold readAs
    simp only [← unionSelect_congr hh, ← hlen]
    refine R.bind_congr_ok (fun r hr => ?_)
    obtain ⟨k, off⟩ := r
    obtain ⟨t, o, offv, ht, ho, hoff, h0, h1, hk, hof, _⟩ := unionSelect_parts hr
    have hv := hvar t o offv ht ho hoff h0 h1
    rw [← hk, ← hof] at hv
    rcases nth_agree fs fs' k off hv hlen with ⟨hn, hn'⟩ | ⟨fm, c, fm', c', hn, hn', hname, hc⟩
    · simp only [hn, hn']
    · simp only [hn, hn', ← hname]
      exact readVariantAs_agree vs hS _ fm.name c c' off (fun kk hkk => hc _ (variantTarget?_enum hkk))
  · rw [readAs_enum_other (ne_union_of_kind hk), readAs_enum_other (ne_union_of_kind (touchEqW_kind h ▸ hk)), stringElem_agree h]

end SaModel.Props.C17
