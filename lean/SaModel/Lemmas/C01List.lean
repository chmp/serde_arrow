import SaModel.Build.Inv
/-
List-level facts the refinement proofs (C01/C03/C10) rest on: validity masks, offset pairs, slices, and
what one more offset / one more bit / one more child row does to them.  No builder recursion here.
-/
namespace SaModel.Build
open SaModel SaModel.Spec

/-! ### outcome monad plumbing -/

theorem ctx_ok {α} (ann : List (String × String)) (r : R α) (v : α) : ctx ann r = .ok v ↔ r = .ok v :=
  ctx_eq_ok ann r v

theorem bind_ok {α β} (r : R α) (f : α → R β) (v : β) :
    (r >>= f) = .ok v ↔ ∃ a, r = .ok a ∧ f a = .ok v :=
  R.bind_eq_ok

/-- a successful fold, step by step: the induction principle for every fact about `l.foldlM f s = .ok s'` -/
theorem _root_.SaModel.R.foldlM_induct {α σ} {f : σ → α → R σ} {P : List α → σ → σ → Prop} (nil : ∀ s, P [] s s)
    (cons : ∀ x l s s1 s', f s x = .ok s1 → l.foldlM f s1 = .ok s' → P l s1 s' → P (x :: l) s s') :
    ∀ (l : List α) (s s' : σ), l.foldlM f s = .ok s' → P l s s'
  | [], s, s', h => by cases h; exact nil s
  | x :: l, s, s', h => by
    rw [List.foldlM_cons] at h
    obtain ⟨s1, h1, h2⟩ := R.bind_ok_inv h
    exact cons x l s s1 s' h1 h2 (R.foldlM_induct nil cons l s1 s' h2)

/-! ### pointwise relation between two lists (core Lean has no `Forall₂`) -/

inductive All2 {α β} (R : α → β → Prop) : List α → List β → Prop
  | nil : All2 R [] []
  | cons {a b l1 l2} : R a b → All2 R l1 l2 → All2 R (a :: l1) (b :: l2)

theorem All2.append {α β} {R : α → β → Prop} : ∀ {l1 : List α} {l2 : List β} {l1' : List α} {l2' : List β},
    All2 R l1 l2 → All2 R l1' l2' → All2 R (l1 ++ l1') (l2 ++ l2')
  | [], [], _, _, _, h => h
  | _ :: _, _ :: _, _, _, .cons h t, h' => .cons h (All2.append t h')

theorem All2.length {α β} {R : α → β → Prop} : ∀ {l1 : List α} {l2 : List β}, All2 R l1 l2 → l1.length = l2.length
  | [], [], _ => rfl
  | _ :: _, _ :: _, .cons _ t => by simp [All2.length t]

theorem All2.imp {α β} {R S : α → β → Prop} (himp : ∀ a b, R a b → S a b) :
    ∀ {l1 : List α} {l2 : List β}, All2 R l1 l2 → All2 S l1 l2
  | [], [], _ => .nil
  | _ :: _, _ :: _, .cons h t => .cons (himp _ _ h) (All2.imp himp t)

/-! ### validity -/

theorem setBit_append (bits : List Bool) (value : Bool) : setBit bits bits.length value = bits ++ [value] := by
  unfold setBit
  have : ¬ bits.length < bits.length := by omega
  simp only [this, if_false]
  have : bits.length + 1 - bits.length = 1 := by omega
  rw [this]
  simp [List.replicate]

theorem VLen.none (n : Nat) : VLen none n := by intro b h; cases h

theorem setValidity_ok {v v' : Validity} {n : Nat} {b : Bool} (hv : VLen v n) (h : setValidity v n b = .ok v') :
    v' = v.map (· ++ [b]) ∧ (v = none → b = true) := by
  cases v with
  | none =>
    cases b with
    | true => simp [setValidity] at h; simp [← h]
    | false => simp [setValidity, fail] at h
  | some bits =>
    have hl : bits.length = n := hv bits rfl
    simp only [setValidity] at h
    cases h
    subst hl
    simp [setBit_append]

theorem setValidityDefault_eq {v : Validity} {n : Nat} (hv : VLen v n) :
    setValidityDefault v n = v.map (· ++ [false]) := by
  cases v with
  | none => rfl
  | some bits =>
    have hl : bits.length = n := hv bits rfl
    subst hl
    simp [setValidityDefault, setBit_append]

theorem VLen.map_append {v : Validity} {n : Nat} (hv : VLen v n) (bs : List Bool) :
    VLen (v.map (· ++ bs)) (n + bs.length) := by
  intro bits hb
  cases v with
  | none => cases hb
  | some b0 =>
    simp at hb; subst hb
    simp [hv b0 rfl]

theorem VLen.snoc {v : Validity} {n : Nat} (hv : VLen v n) (b : Bool) : VLen (v.map (· ++ [b])) (n + 1) :=
  hv.map_append [b]

theorem maskNull_length {v : Validity} {xs : List LVal} (hv : VLen v xs.length) : (maskNull v xs).length = xs.length := by
  cases v with
  | none => rfl
  | some bits => simp [maskNull, hv bits rfl]

/-- masks distribute over appended rows -/
theorem maskNull_append {v : Validity} {xs : List LVal} (hv : VLen v xs.length) (bs : List Bool) (ys : List LVal) :
    maskNull (v.map (· ++ bs)) (xs ++ ys) = maskNull v xs ++ maskNull (v.map fun _ => bs) ys := by
  cases v with
  | none => simp [maskNull]
  | some bits =>
    have hl : bits.length = xs.length := hv bits rfl
    simp only [maskNull, Option.map_some]
    rw [List.zipWith_append hl]

/-- one more row: valid ⇒ the row itself, a cleared bit ⇒ null -/
theorem maskNull_snoc {v : Validity} {xs : List LVal} (hv : VLen v xs.length) (b : Bool) (x : LVal) :
    maskNull (v.map (· ++ [b])) (xs ++ [x]) = maskNull v xs ++ [if v.isSome && !b then LVal.null else x] := by
  rw [maskNull_append hv]
  cases v with
  | none => simp [maskNull]
  | some bits => cases b <;> simp [maskNull]

theorem maskNull_snoc_true {v : Validity} {xs : List LVal} (hv : VLen v xs.length) (x : LVal) :
    maskNull (v.map (· ++ [true])) (xs ++ [x]) = maskNull v xs ++ [x] := by
  rw [maskNull_snoc hv]; simp

theorem maskNull_snoc_null {bits : List Bool} {xs : List LVal} (hv : VLen (some bits) xs.length) (x : LVal) :
    maskNull (some (bits ++ [false])) (xs ++ [x]) = maskNull (some bits) xs ++ [LVal.null] := by
  have := maskNull_snoc hv false x
  simpa using this

/-- `k` placeholder rows: nulls when there is a bitmap, the raw rows otherwise -/
theorem maskNull_defaults {v : Validity} {xs : List LVal} (hv : VLen v xs.length) (k : Nat) (ys : List LVal)
    (hy : ys.length = k) :
    maskNull (v.map (· ++ List.replicate k false)) (xs ++ ys) =
      maskNull v xs ++ (if v.isSome then List.replicate k LVal.null else ys) := by
  rw [maskNull_append hv]
  cases v with
  | none => simp [maskNull]
  | some bits =>
    simp only [maskNull, Option.map_some, Option.isSome_some, if_true]
    congr 1
    subst hy
    induction ys with
    | nil => rfl
    | cons y ys ih => simp [List.replicate_succ, ih]

/-! ### offsets -/

theorem pairs_snoc {offs : List Int} {last : Int} (h : offs.getLast? = some last) (l : Int) :
    pairs (offs ++ [l]) = pairs offs ++ [(last, l)] := by
  induction offs with
  | nil => simp at h
  | cons a t ih =>
    cases t with
    | nil => simp at h; subst h; simp [pairs]
    | cons b t' =>
      have h' : (b :: t').getLast? = some last := by simpa [List.getLast?_cons_cons] using h
      have := ih h'
      simp only [pairs, List.cons_append, List.tail_cons, List.zip_cons_cons] at this ⊢
      rw [this]

theorem pairs_length (offs : List Int) : (pairs offs).length = offs.length - 1 := by
  simp [pairs]

theorem le_getLast_of_pairwise {l : List Int} {m : Int} (hp : l.Pairwise (· ≤ ·)) (hl : l.getLast? = some m) :
    ∀ x ∈ l, x ≤ m := by
  intro x hx
  obtain ⟨ys, rfl⟩ := List.getLast?_eq_some_iff.1 hl
  rw [List.pairwise_append] at hp
  rcases List.mem_append.1 hx with hx | hx
  · exact hp.2.2 x hx m (by simp)
  · simp at hx; omega

theorem OffsOK.ne_nil {offs : List Int} {n : Nat} (h : OffsOK offs n) : offs ≠ [] := by
  intro hn; subst hn; simp [OffsOK] at h

theorem OffsOK.nonneg {offs : List Int} {n : Nat} (h : OffsOK offs n) : ∀ x ∈ offs, 0 ≤ x := by
  obtain ⟨hh, _, hp⟩ := h
  intro x hx
  cases offs with
  | nil => simp at hx
  | cons a t =>
    simp at hh; subst hh
    rcases List.mem_cons.1 hx with rfl | hx
    · omega
    · exact (List.pairwise_cons.1 hp).1 x hx

theorem OffsOK.le {offs : List Int} {n : Nat} (h : OffsOK offs n) : ∀ x ∈ offs, x ≤ (n : Int) :=
  le_getLast_of_pairwise h.2.2 h.2.1

theorem mem_pairs {offs : List Int} {se : Int × Int} (h : se ∈ pairs offs) : se.1 ∈ offs ∧ se.2 ∈ offs := by
  obtain ⟨s, e⟩ := se
  have := List.of_mem_zip h
  exact ⟨this.1, List.mem_of_mem_tail this.2⟩

/-- appending an offset `n + k` (k more child rows) keeps the offsets well formed -/
theorem OffsOK.snoc {offs : List Int} {n : Nat} (h : OffsOK offs n) (k : Nat) :
    OffsOK (offs ++ [((n + k : Nat) : Int)]) (n + k) := by
  have hne := h.ne_nil
  refine ⟨?_, by simp, ?_⟩
  · cases offs with
    | nil => exact absurd rfl hne
    | cons a t => simpa using h.1
  · rw [List.pairwise_append]
    refine ⟨h.2.2, by simp, ?_⟩
    intro a ha b hb
    simp at hb; subst hb
    have := h.le a ha
    omega

theorem OffsOK.length_pos {offs : List Int} {n : Nat} (h : OffsOK offs n) : 0 < offs.length := by
  have := h.ne_nil
  cases offs with
  | nil => exact absurd rfl this
  | cons _ _ => simp

/-! ### slices -/

theorem sliceL_append_left {α} (xs ys : List α) (s e : Int) (he : e.toNat ≤ xs.length) :
    sliceL (xs ++ ys) s e = sliceL xs s e := by
  unfold sliceL
  by_cases hs : s.toNat ≤ xs.length
  · rw [List.drop_append_of_le_length hs, List.take_append_of_le_length]
    simp; omega
  · have : e.toNat - s.toNat = 0 := by omega
    simp [this]

theorem sliceL_append_right {α} (xs ys : List α) (n k : Nat) (hn : xs.length = n) (hk : ys.length = k) :
    sliceL (xs ++ ys) (n : Int) ((n + k : Nat) : Int) = ys := by
  unfold sliceL
  subst hn hk
  have : ((xs.length + ys.length : Nat) : Int).toNat - ((xs.length : Nat) : Int).toNat = ys.length := by omega
  rw [this]
  simp

/-- old rows of an offsets-based container do not see rows appended to the child -/
theorem map_pairs_stable {α β} {offs : List Int} {n : Nat} (h : OffsOK offs n) (xs ys : List α) (hx : xs.length = n)
    (f : List α → β) :
    (pairs offs).map (fun se => f (sliceL (xs ++ ys) se.1 se.2)) = (pairs offs).map (fun se => f (sliceL xs se.1 se.2)) := by
  apply List.map_congr_left
  intro se hse
  have := h.le se.2 (mem_pairs hse).2
  rw [sliceL_append_left]
  omega

/-! ### fixed-size rows -/

theorem chunk_append_left {α} (xs ys : List α) (i n len : Nat) (hx : xs.length = len * n) (hi : i < len) :
    ((xs ++ ys).drop (i * n)).take n = (xs.drop (i * n)).take n := by
  have h1 : (i + 1) * n ≤ len * n := Nat.mul_le_mul_right n hi
  have h2 : (i + 1) * n = i * n + n := by rw [Nat.add_mul]; simp
  rw [List.drop_append_of_le_length (by omega), List.take_append_of_le_length]
  simp; omega

theorem chunk_append_right {α} (xs ys : List α) (n len : Nat) (hx : xs.length = len * n) (hy : ys.length = n) :
    ((xs ++ ys).drop (len * n)).take n = ys := by
  rw [← hx, List.drop_left]
  subst hy; simp

theorem range_map_stable {α β} (xs ys : List α) (n len : Nat) (hx : xs.length = len * n) (f : List α → β) :
    (List.range len).map (fun i => f (((xs ++ ys).drop (i * n)).take n)) =
      (List.range len).map (fun i => f ((xs.drop (i * n)).take n)) := by
  apply List.map_congr_left
  intro i hi
  rw [chunk_append_left xs ys i n len hx (List.mem_range.1 hi)]

end SaModel.Build
