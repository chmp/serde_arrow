import SaModel.Lemmas.C06Ext
import SaModel.Lemmas.C06WF
/-
C06: one `absorb` step respects `ExtShape`, hence so does every `Steps` chain (`steps_extShape`).
-/
namespace SaModel.Lemmas.C06
open SaModel SaModel.Trace SaModel.Lemmas.C07 SaModel.Props.C07

/-- the repaired `ensure_tuple` on an existing tuple: old positions move along `Steps`, the vector is at least as long
as the new arity and every position beyond the old vector is nullable -/
theorem tupleGrow_ext (c : Code) (o : Options) (p : String) (k : Nat) (ts0 : Tracers) :
    TsExt c o ts0 (tupleGrowNullable p k (ts0.markFrom k)) ∧ k ≤ (tupleGrowNullable p k (ts0.markFrom k)).length ∧
    (∀ i t, (tupleGrowNullable p k (ts0.markFrom k)).get? i = some t → ts0.get? i = none → t.nullable = true) := by
  rw [tupleGrowNullable_eq]
  refine ⟨(markFrom_ext c o ts0 k).trans (growN_ext c o _ _ _), ?_, ?_⟩
  · rw [growN_length, Tracers.length_markFrom]; omega
  · intro i t hg hn
    rw [Tracers.get?_none_iff] at hn
    exact growN_get?_new _ (fun x => x.nullable = true) (fun acc => mark_nullable_nullable _) _ _ i t
      (by rw [Tracers.length_markFrom]; exact hn) hg

theorem absorb_extShape (c : Code) (o : Options) : ∀ y t t1, absorb c o t y = .ok t1 → WF o t → ExtShape c o t t1 := by
  apply absorb_rel c o (fun t t1 => WF o t → ExtShape c o t t1)
  · exact fun t _ => ExtShape.mark c o t
  · intro t t2 h hw; exact (ExtShape.mark c o t).trans (h (WF_mark_nullable o hw))
  · intro t ty t2 hty h hw
    rcases ensure_primitive_leaf o hw.node h with ⟨n, p, s, s', hs, rfl, ha, rfl⟩ | ⟨_, _, _, rfl⟩
    · obtain ⟨ty0, nl⟩ := s
      cases ty0 with
      | none => trivial
      | some pty =>
        intro hpty
        obtain ⟨ty2, h1, h2⟩ := act_nonnull o ha
        obtain ⟨t2, nl2⟩ := s'
        simp only at h1; subst h1
        exact ⟨nl2, ty2, rfl, h2 (.inr ⟨pty, rfl, hpty⟩), LeafReach.step hty ha⟩
    · exact ExtShape.mark c o _
  · intro t n p nl i i' vs _ h h2 _
    obtain ⟨_, ⟨hu, _⟩ | ⟨_, _, nl0, _, rfl, he⟩⟩ := ensure_list_ok h
    · exact ExtShape.of_unknown_or_null c o _ hu
    · cases he; exact ⟨_, i', rfl, vs, h2⟩
  · intro t n p nl k v k' v' ks vs _ _ h h2 h3 _
    obtain ⟨_, ⟨hu, _⟩ | ⟨_, _, nl0, _, _, rfl, he⟩⟩ := ensure_map_ok h
    · exact ExtShape.of_unknown_or_null c o _ hu
    · cases he; exact ⟨_, k', v', rfl, ⟨ks, h2⟩, ⟨vs, h3⟩⟩
  · intro t n p nl ts ts' vs _ h hpass _
    obtain ⟨_, ⟨hu, _⟩ | ⟨_, p0, nl0, ts0, rfl, he⟩⟩ := ensure_tuple_ok h
    · exact ExtShape.of_unknown_or_null c o _ hu
    · cases he
      obtain ⟨hp1, hp2, _⟩ := absorbTupleL_ext c o _ vs _ 0 ts' hpass
      refine ⟨_, ts', rfl, ?_⟩
      by_cases hc : c.tuple_arity_nullable = true
      · rw [if_pos hc] at hp1 hp2
        obtain ⟨g1, g2, g3⟩ := tupleGrow_ext c o p vs.length ts0
        refine ⟨g1.trans hp1, fun _ i t2 hg hn => ?_⟩
        have hlt := Tracers.get?_lt hg
        rw [hp2 (by omega)] at hlt
        obtain ⟨t1, ht1⟩ := Tracers.get?_of_lt hlt
        obtain ⟨t2', hg', hs⟩ := hp1 i t1 ht1
        rw [hg] at hg'; cases hg'
        exact hs.keeps.1 (g3 i t1 ht1 hn)
      · rw [if_neg hc] at hp1
        exact ⟨hp1, fun h' => absurd h' hc⟩
  · intro t mode n p nl fs m s kvs fs' _ h hpass _
    obtain ⟨_, ⟨hu, _⟩ | ⟨_, _, nl0, fs0, m0, s0, rfl, he⟩⟩ := ensure_struct_ok h
    · exact ExtShape.of_unknown_or_null c o _ hu
    · cases he
      obtain ⟨hp1, hp2⟩ := absorbKVs_ext c o _ _ kvs _ fs' hpass
      obtain ⟨he1, he2⟩ := end_ext c o s fs'
      refine ⟨_, _, _, _, rfl, hp1.trans he1, Nat.le_succ _, ?_, fun hs => (hp2 hs).trans he1 he2⟩
      intro hm0
      rw [hm0]; simp
  · intro t n p nl vs0 vs vn idx nm' vt vt' v _ h hv hg ha _
    obtain ⟨_, ⟨hu, _⟩ | ⟨_, _, nl0, _, rfl, he⟩⟩ := ensure_union_ok h
    · exact ExtShape.of_unknown_or_null c o _ hu
    · cases he
      obtain ⟨_, ⟨vt0, hvt0⟩, hold, _, _⟩ := ensure_variant_ok hv
      rw [hg] at hvt0
      simp only [Option.some.injEq, Prod.mk.injEq] at hvt0
      obtain ⟨rfl, rfl⟩ := hvt0
      refine ⟨_, _, rfl, ?_⟩
      intro j n' t' hj
      have hj' := hold j _ hj
      by_cases e : idx = j
      · subst e
        rw [hg] at hj'
        simp only [Option.some.injEq, Prod.mk.injEq] at hj'
        obtain ⟨rfl, rfl⟩ := hj'
        exact ⟨vt', Variants.get?_set_eq _ _ _ _ (Variants.get?_lt hg), Steps.single ha⟩
      · exact ⟨t', by rw [Variants.get?_set_ne _ _ _ _ _ e]; exact hj', Steps.refl c o t'⟩

theorem steps_extShape {c : Code} {o : Options} {t t2 : Tracer} (hw : WF o t) (h : Steps c o t t2) :
    ExtShape c o t t2 :=
  Steps.lift (ExtShape c o) (ExtShape.refl c o)
    (fun t y t1 _ hw ha h => (absorb_extShape c o y t t1 ha hw).trans h) hw h

end SaModel.Lemmas.C06
