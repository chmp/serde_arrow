import SaModel.Lemmas.C02TypedCont
/-
C02, typed reads: a struct target read by field name from a struct column (`deserialize_struct` with a
derived visitor: `visit_map` over the column's fields, unknown fields skipped through `IgnoredAny`, then
`missing_field` for the target fields nobody filled) returns what `castFields` demands.
-/
namespace SaModel.Read
open SaModel SaModel.Spec

/-- the target field a column field called `name` goes to: `(position, type)` -/
def lookupT : TFields → String → Nat → Option (Nat × Target)
  | .nil, _, _ => none
  | .cons n t rest, name, pos => if n == name then some (pos, t) else lookupT rest name (pos + 1)

theorem readFieldAs_eq : ∀ (tfs : TFields) (pos : Nat) (slots : Slots) (name : String) (child : Arr) (idx : Nat),
    readFieldAs Fixes.all tfs pos slots name child idx =
      match lookupT tfs name pos with
      | none => .ok none
      | some (p, t) =>
        if (Slots.get? slots p).isSome then fail "duplicate field"
        else (do pure (some (p, ← readAs Fixes.all t child idx)))
  | .nil, pos, slots, name, child, idx => by simp [readFieldAs, lookupT]
  | .cons n t rest, pos, slots, name, child, idx => by
    unfold readFieldAs lookupT
    by_cases hn : (n == name) = true
    · simp only [hn, if_true]
    · simp only [hn, if_false]
      exact readFieldAs_eq rest (pos + 1) slots name child idx

theorem lookupT_mem : ∀ (tfs : TFields) (name : String) (pos p : Nat) (t : Target),
    lookupT tfs name pos = some (p, t) → (name, t) ∈ TFields.toList tfs ∧ name ∈ TFields.names tfs ∧ pos ≤ p
  | .nil, _, _, _, _, h => by simp [lookupT] at h
  | .cons n t' rest, name, pos, p, t, h => by
    unfold lookupT at h
    split at h
    · rename_i hn
      simp only [beq_iff_eq] at hn
      cases h
      simp [TFields.toList, TFields.names, hn]
    · obtain ⟨h1, h2, h3⟩ := lookupT_mem rest name (pos + 1) p t h
      simp [TFields.toList, TFields.names, h1, h2]
      omega

theorem lookupT_inj : ∀ (tfs : TFields) (n1 n2 : String) (pos p : Nat) (t1 t2 : Target),
    lookupT tfs n1 pos = some (p, t1) → lookupT tfs n2 pos = some (p, t2) → n1 = n2
  | .nil, _, _, _, _, _, _, h, _ => by simp [lookupT] at h
  | .cons n t rest, n1, n2, pos, p, t1, t2, h1, h2 => by
    unfold lookupT at h1 h2
    split at h1
    · rename_i e1
      cases h1
      split at h2
      · rename_i e2
        simp only [beq_iff_eq] at e1 e2
        rw [← e1, ← e2]
      · have := (lookupT_mem rest n2 (pos + 1) pos t2 h2).2.2
        omega
    · split at h2
      · cases h2
        have := (lookupT_mem rest n1 (pos + 1) pos t1 h1).2.2
        omega
      · exact lookupT_inj rest n1 n2 (pos + 1) p t1 t2 h1 h2

theorem nodupNames_cons {x : String} {xs : List String} (h : nodupNames (x :: xs) = true) :
    x ∉ xs ∧ nodupNames xs = true := by
  simp only [nodupNames, Bool.and_eq_true, Bool.not_eq_true', List.contains_eq_mem, decide_eq_false_iff_not] at h
  exact h

theorem fieldNamed_mem : ∀ (fs : ArrFields) (lfs : LFields) (name : String) (a : Arr) (v : LVal),
    fieldNamed fs lfs name = some (a, v) → name ∈ ArrFields.names fs
  | .nil, _, _, _, _, h => by simp [fieldNamed] at h
  | .cons fm a' rest, .nil, _, _, _, h => by simp [fieldNamed] at h
  | .cons fm a' rest, .cons _ v' lrest, name, a, v, h => by
    unfold fieldNamed at h
    split at h
    · rename_i hn
      simp only [beq_iff_eq] at hn
      simp [ArrFields.names, hn]
    · simp [ArrFields.names, fieldNamed_mem rest lrest name a v h]

/-- the slots the key loop fills: one per column field that has a target field -/
def expSlots (tfs : TFields) : ArrFields → List (String × LVal) → Slots
  | .cons fm a rest, (_, v) :: r =>
    (match lookupT tfs fm.name 0 with
     | some (p, t) => (match cast t a v with | .ok (some d) => [(p, d)] | _ => [])
     | none => []) ++ expSlots tfs rest r
  | _, _ => []

/-- the key loop of `structVisit` -/
def keyStep (tfs : TFields) (i : Nat) (slots : Slots) (p : FieldMeta × Arr) : R Slots := do
  match (← readFieldAs Fixes.all tfs 0 slots p.1.name p.2 i) with
  | some kv => pure (slots ++ [kv])
  | none => do let _ ← readAny Fixes.all p.2 i; pure slots

theorem lookup_append_none {s : Slots} {p q : Nat} {d : DVal} (h : s.lookup p = none) (hne : q ≠ p) :
    (s ++ [(q, d)]).lookup p = none := by
  rw [List.lookup_append, h]
  simp [List.lookup, hne]
  have : (p == q) = false := by simp; omega
  simp [this]

theorem keyLoop_sound {tfs : TFields} (hS : ∀ p ∈ TFields.toList tfs, Sound p.2) (i : Nat) :
    ∀ (rest : ArrFields) (rvals : List (String × LVal)) (slots0 : Slots), SlotFields rest i rvals →
    (∀ name a v, fieldNamed rest (LFields.ofList rvals) name = some (a, v) → ∀ p t, lookupT tfs name 0 = some (p, t) →
      ∃ d, cast t a v = must d) →
    (∀ name ∈ ArrFields.names rest, ∀ p t, lookupT tfs name 0 = some (p, t) → slots0.lookup p = none) →
    nodupNames (ArrFields.names rest) = true →
    rest.toList.foldlM (keyStep tfs i) slots0 = .ok (slots0 ++ expSlots tfs rest rvals)
  | .nil => by
    intro rvals slots0 h _ _ _
    have h := h.dec
    unfold decodeFieldsAt at h; cases h
    simp [ArrFields.toList, expSlots, pure, Except.pure]
  | .cons fm a rest => by
    intro rvals slots0 h hG hfree hnd
    obtain ⟨v, r, rfl, sa, sr⟩ := h.cons
    simp only [ArrFields.names] at hnd hfree
    obtain ⟨hnotin, hnd'⟩ := nodupNames_cons hnd
    have hhead : fieldNamed (.cons fm a rest) (LFields.ofList ((fm.name, v) :: r)) fm.name = some (a, v) := by
      simp [LFields.ofList, fieldNamed]
    have hG' : ∀ name a' v', fieldNamed rest (LFields.ofList r) name = some (a', v') → ∀ p t,
        lookupT tfs name 0 = some (p, t) → ∃ d, cast t a' v' = must d := by
      intro name a' v' hf p t hl
      have hmem := fieldNamed_mem rest _ name a' v' hf
      have hne : (fm.name == name) = false := by
        simp only [beq_eq_false_iff_ne, ne_eq]
        intro he; rw [he] at hnotin; exact hnotin hmem
      apply hG name a' v' _ p t hl
      simp [LFields.ofList, fieldNamed, hne, hf]
    rw [ArrFields.toList, List.foldlM_cons]
    simp only [expSlots]
    cases hl : lookupT tfs fm.name 0 with
    | none =>
      have hany := readAny_decodeAt a i v sa.dec sa.new sa.phys sa.utf8
      have hstep : keyStep tfs i slots0 (fm, a) = .ok slots0 := by
        simp only [keyStep, readFieldAs_eq, hl, hany, bind, Except.bind, pure, Except.pure]
      rw [hstep]
      simp only [bind, Except.bind, List.nil_append]
      exact keyLoop_sound hS i rest r slots0 sr hG'
        (fun name hm p t hlt => hfree name (by simp [hm]) p t hlt) hnd'
    | some pt =>
      obtain ⟨p, t⟩ := pt
      obtain ⟨d, hd⟩ := hG fm.name a v hhead p t hl
      have hread := hS (fm.name, t) (lookupT_mem tfs fm.name 0 p t hl).1 a i v d sa.dec sa.new sa.phys sa.utf8 hd
      have hfr : slots0.lookup p = none := hfree fm.name (by simp) p t hl
      have hstep : keyStep tfs i slots0 (fm, a) = .ok (slots0 ++ [(p, d)]) := by
        simp only [keyStep, readFieldAs_eq, hl, Slots.get?, hfr, Option.isSome_none, Bool.false_eq_true, if_false, hread,
          bind, Except.bind, pure, Except.pure]
      rw [hstep]
      simp only [bind, Except.bind, hd, must]
      have ih := keyLoop_sound hS i rest r (slots0 ++ [(p, d)]) sr hG'
        (fun name hm p' t' hlt => by
          have h0 := hfree name (by simp [hm]) p' t' hlt
          apply lookup_append_none h0
          intro hpp
          subst hpp
          have := lookupT_inj tfs fm.name name 0 p t t' hl hlt
          rw [← this] at hm
          exact hnotin hm) hnd'
      rw [ih]
      simp

/-! ### after the key loop: `missing_field` / the filled slots, against `castFields` -/

theorem expSlots_lookup {tfs : TFields} {n : String} {p : Nat} {t : Target} (hl : lookupT tfs n 0 = some (p, t)) :
    ∀ (fs : ArrFields) (vals : List (String × LVal)),
    (∀ a v d, fieldNamed fs (LFields.ofList vals) n = some (a, v) → cast t a v = must d →
      (expSlots tfs fs vals).lookup p = some d) ∧
    (fieldNamed fs (LFields.ofList vals) n = none → (expSlots tfs fs vals).lookup p = none)
  | .nil, vals => by
    constructor
    · intro a v d h; simp [fieldNamed] at h
    · intro _; cases vals <;> simp [expSlots]
  | .cons fm a rest, [] => by
    constructor
    · intro a v d h; simp [LFields.ofList, fieldNamed] at h
    · intro _; simp [expSlots]
  | .cons fm a rest, (nm, v) :: r => by
    obtain ⟨ih1, ih2⟩ := expSlots_lookup hl rest r
    by_cases hn : (fm.name == n) = true
    · have hn' : fm.name = n := by simpa using hn
      constructor
      · intro a' v' d h hc
        simp only [LFields.ofList, fieldNamed, hn, if_true, Option.some.injEq, Prod.mk.injEq] at h
        obtain ⟨rfl, rfl⟩ := h
        simp only [expSlots, hn', hl, hc, must, List.cons_append, List.nil_append, List.lookup, beq_self_eq_true]
      · intro h
        simp [LFields.ofList, fieldNamed, hn] at h
    · have hhead : ∀ (tl : Slots), ((match lookupT tfs fm.name 0 with
            | some (p, t) => (match cast t a v with | .ok (some d) => [(p, d)] | _ => [])
            | none => []) ++ tl).lookup p = tl.lookup p := by
        intro tl
        cases hl' : lookupT tfs fm.name 0 with
        | none => simp
        | some pt =>
          obtain ⟨p', t'⟩ := pt
          have hne : (p == p') = false := by
            simp only [beq_eq_false_iff_ne, ne_eq]
            intro he; subst he
            have := lookupT_inj tfs fm.name n 0 p t' t hl' hl
            exact hn (by simp [this])
          simp only
          split <;> simp [List.lookup, hne]
      constructor
      · intro a' v' d h hc
        simp only [LFields.ofList, fieldNamed, hn, if_false] at h
        simp only [expSlots, hhead]
        exact ih1 a' v' d h hc
      · intro h
        simp only [LFields.ofList, fieldNamed, hn, if_false] at h
        simp only [expSlots, hhead]
        exact ih2 h

theorem finish_sound {tfs : TFields} (fs : ArrFields) (vals : List (String × LVal)) :
    ∀ (tfs' : TFields) (pos : Nat) (es : List (DVal × DVal)), nodupNames (TFields.names tfs') = true →
    (∀ name p t, lookupT tfs' name pos = some (p, t) → lookupT tfs name 0 = some (p, t)) →
    castFields tfs' fs (LFields.ofList vals) = .ok (some es) →
    finishFields tfs' pos (expSlots tfs fs vals) = .ok es
  | .nil, pos, es, _, _, hc => by
    simp only [castFields] at hc; cases hc
    simp [finishFields]
  | .cons n t rest, pos, es, hnd, hH, hc => by
    simp only [TFields.names] at hnd
    obtain ⟨hnotin, hnd'⟩ := nodupNames_cons hnd
    have hown : lookupT tfs n 0 = some (pos, t) := hH n pos t (by simp [lookupT])
    have hH' : ∀ name p t', lookupT rest name (pos + 1) = some (p, t') → lookupT tfs name 0 = some (p, t') := by
      intro name p t' hl
      apply hH
      have hmem := (lookupT_mem rest name (pos + 1) p t' hl).2.1
      have hne : (n == name) = false := by
        simp only [beq_eq_false_iff_ne, ne_eq]
        intro he; rw [he] at hnotin; exact hnotin hmem
      simp [lookupT, hne, hl]
    simp only [castFields] at hc
    obtain ⟨e, es', h1, h2, rfl⟩ := consClaim_some hc
    have ih := finish_sound fs vals rest (pos + 1) es' hnd' hH' h2
    obtain ⟨k1, k2⟩ := expSlots_lookup hown fs vals
    have hslot : slotOrMissing t (Slots.get? (expSlots tfs fs vals) pos) = .ok e.2 ∧ e.1 = .str .transient (strBytes n) := by
      cases hf : fieldNamed fs (LFields.ofList vals) n with
      | none =>
        rw [hf] at h1
        simp only [Slots.get?, k2 hf, slotOrMissing]
        cases hopt : t.isOption
        · simp [hopt, mustFail, fail] at h1
        · simp only [hopt, if_true, must, Except.ok.injEq, Option.some.injEq] at h1
          subst h1; simp
      | some av =>
        obtain ⟨a, v⟩ := av
        rw [hf] at h1
        simp only at h1
        cases hcv : cast t a v with
        | error err => rw [hcv] at h1; simp at h1
        | ok o =>
          cases o with
          | none => rw [hcv] at h1; simp at h1
          | some d =>
            rw [hcv] at h1
            simp only [Except.ok.injEq, Option.some.injEq] at h1
            subst h1
            simp only [Slots.get?, k1 a v d hf hcv, slotOrMissing, and_self]
    simp only [finishFields, hslot.1, ih, bind, Except.bind, pure, Except.pure]
    rw [← hslot.2]

theorem castFields_claims : ∀ (tfs' : TFields) (fs : ArrFields) (lfs : LFields) (es : List (DVal × DVal)),
    castFields tfs' fs lfs = .ok (some es) → ∀ n t, (n, t) ∈ TFields.toList tfs' → ∀ a v, fieldNamed fs lfs n = some (a, v) →
    ∃ d, cast t a v = must d
  | .nil, _, _, _, _, n, t, hm, _, _, _ => by simp [TFields.toList] at hm
  | .cons n' t' rest, fs, lfs, es, hc, n, t, hm, a, v, hf => by
    simp only [castFields] at hc
    obtain ⟨e, es', h1, h2, rfl⟩ := consClaim_some hc
    simp only [TFields.toList, List.mem_cons, Prod.mk.injEq] at hm
    rcases hm with ⟨rfl, rfl⟩ | hm
    · rw [hf] at h1
      simp only at h1
      cases hcv : cast t a v with
      | error err => rw [hcv] at h1; simp at h1
      | ok o =>
        cases o with
        | none => rw [hcv] at h1; simp at h1
        | some d => exact ⟨d, rfl⟩
    · exact castFields_claims rest fs lfs es' h2 n t hm a v hf

/-- only a struct column answers a struct target -/
theorem structClaim_other {tn : List String} {f : ArrFields → LFields → R (Option (List (DVal × DVal)))} {a : Arr} {lv : LVal}
    (hs : ∀ len v fs, a ≠ .struct len v fs) : ∃ e, structClaim tn f a lv = .error e := by
  unfold structClaim
  split
  · exact absurd rfl (hs _ _ _)
  · exact ⟨_, rfl⟩
  · exact ⟨_, rfl⟩

/-- `structClaim` + `structVisit` (struct target, struct variant) -/
theorem structVisit_sound {tfs : TFields} (hS : ∀ p ∈ TFields.toList tfs, Sound p.2) (a : Arr) (i : Nat) (lv : LVal) (d : DVal)
    (h : decodeAt a i = .ok lv) (hn : new Fixes.all a = .ok ()) (hp : physical a = true) (hu : utf8Ok lv = true)
    (hc : structClaim (TFields.names tfs) (fun fs lfs => castFields tfs fs lfs) a lv = must d) :
    structVisit Fixes.all (fun slots name child => readFieldAs Fixes.all tfs 0 slots name child i) tfs a i = .ok d := by
  by_cases hs : ∃ len v fs, a = .struct len v fs
  · obtain ⟨len, v, fs, rfl⟩ := hs
    obtain ⟨hitem, rfl | ⟨vals, rfl, sf⟩⟩ := (Slot.mk h hn hp hu).struct
    · simp [structClaim, mustFail, must, fail] at hc
    · simp only [structClaim] at hc
      split at hc
      · simp [na, must] at hc
      · rename_i hdup
        simp only [Bool.or_eq_true, Bool.not_eq_true', not_or, Bool.not_eq_false] at hdup
        obtain ⟨es, hcl, hd⟩ := andThenE_must hc
        cases must_inj hd
        have hG : ∀ name a' v', fieldNamed fs (LFields.ofList vals) name = some (a', v') → ∀ p t,
            lookupT tfs name 0 = some (p, t) → ∃ d, cast t a' v' = must d := by
          intro name a' v' hf p t hl
          exact castFields_claims tfs fs _ es hcl name t (lookupT_mem tfs name 0 p t hl).1 a' v' hf
        have hloop := keyLoop_sound hS i fs vals [] sf hG
          (fun _ _ _ _ _ => rfl) hdup.1
        have hfin := finish_sound (tfs := tfs) fs vals tfs 0 es hdup.2 (fun _ _ _ hl => hl) hcl
        simp only [List.nil_append] at hloop
        have e : structVisit Fixes.all (fun slots name child => readFieldAs Fixes.all tfs 0 slots name child i) tfs
            (.struct len v fs) i =
            (do structItem Fixes.all len i
                let slots ← fs.toList.foldlM (keyStep tfs i) []
                pure (.map (DEntries.ofList (← finishFields tfs 0 slots)))) := rfl
        rw [e, hitem, hloop]
        simp only [bind, Except.bind, hfin, pure, Except.pure]
  · obtain ⟨e, he⟩ := structClaim_other (tn := TFields.names tfs) (f := fun fs lfs => castFields tfs fs lfs) (lv := lv)
      fun len v fs he => hs ⟨len, v, fs, he⟩
    rw [he] at hc
    cases hc

end SaModel.Read
