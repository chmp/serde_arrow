import SaModel.Lemmas.C18BlameSeq
/-
C18, blame against the specification: a scalar call on a DICTIONARY column (`Spec.blameScalarAt`).

A dictionary builder hands every scalar that has a string form to its VALUE builder (`self.values.serialize_str(..)`),
whose own wrapper annotates what it refuses: the value child `{path}.value` is the innermost field being processed and
the one the specification blames.  A call without a string form is refused by the dictionary's own code: `{path}`.
Under `Shape` (the coverage of the C01 completeness theorems) the value builder is a Utf8 / LargeUtf8 builder — every
string has a meaning, nothing to blame — or a builder that takes no strings at all (`B.refusesStr`).
-/
namespace SaModel.Props.C18
open SaModel SaModel.Build SaModel.Spec

theorem At.dictionary_value {path kdt vdt n md p idx vals index}
    (h : At path (.dictionary kdt vdt) n md (.dictionary p idx vals index)) : vals.path = path ++ ".value" :=
  h.dictionary_paths.2

/-- the builder of a dictionary-typed field is a dictionary builder: the type of any other builder is no dictionary,
and `blameDictStr` stays at `p` -/
theorem Shape_not_dict {b : B} {dt : DataType} {n : Bool} {md : Metadata} (hs : Shape b dt n md) (hb : b.isDict = false) :
    ∀ (p : String), blameDictStr p dt = p := by
  intro p
  cases b with
  | dictionary _ _ _ _ => simp [B.isDict] at hb
  | null _ _ => simp only [Shape] at hs; obtain ⟨rfl, _⟩ := hs; rfl
  | unknownVariant _ => simp only [Shape] at hs; obtain ⟨rfl, _⟩ := hs; rfl
  | leaf _ k _ _ =>
    simp only [Shape] at hs
    cases dt <;> first | rfl | (simp [kindOf] at hs)
  | bytes _ ty _ _ _ => simp only [Shape] at hs; obtain ⟨rfl, _⟩ := hs; cases ty <;> rfl
  | bytesView _ ty _ _ _ => simp only [Shape] at hs; obtain ⟨rfl, _⟩ := hs; cases ty <;> rfl
  | fixedSizeBinary _ _ _ _ _ _ => simp only [Shape] at hs; obtain ⟨rfl, _⟩ := hs; rfl
  | list _ large _ _ _ _ =>
    simp only [Shape] at hs
    obtain ⟨_, _, _, _, _, rfl, _⟩ := hs
    cases large <;> rfl
  | fixedSizeList _ _ _ _ _ _ _ => simp only [Shape] at hs; obtain ⟨_, _, _, _, _, rfl, _⟩ := hs; rfl
  | map _ _ _ _ _ _ =>
    simp only [Shape] at hs
    obtain ⟨_, _, _, _, _, _, _, _, _, _, _, _, _, _, rfl, _⟩ := hs
    rfl
  | struct _ _ _ _ _ _ _ => simp only [Shape] at hs; obtain ⟨_, _, rfl, _⟩ := hs; rfl
  | union _ _ _ _ _ => simp only [Shape] at hs; obtain ⟨_, _, rfl, _⟩ := hs; rfl

theorem Shape_dict_form {b : B} {k v : DataType} {n : Bool} {md : Metadata}
    (h : Shape b (.dictionary k v) n md) : ∃ p idx vals index, b = .dictionary p idx vals index := by
  cases b with
  | dictionary p idx vals index => exact ⟨_, _, _, _, rfl⟩
  | bytes _ ty _ _ _ => cases ty <;> simp [Shape, bytesDT] at h
  | bytesView _ ty _ _ _ => cases ty <;> simp [Shape, viewDT] at h
  | list _ large _ _ _ _ => cases large <;> simp [Shape] at h
  | _ => simp [Shape, kindOf] at h

theorem blameScalarAt_of_not_dict {ext : Ext} {b : B} {path : String} {dt : DataType} {n : Bool} {md : Metadata} {x : SVal}
    (hs : Shape b dt n md) (hb : b.isDict = false) : blameScalarAt ext path dt x = [path] := by
  cases dt
  case dictionary k v => obtain ⟨_, _, _, _, rfl⟩ := Shape_dict_form hs; simp [B.isDict] at hb
  all_goals rfl

theorem blameScalarAt_of_nostr {ext : Ext} {path : String} {dt : DataType} {x : SVal}
    (h : scalarToString ext x = none) : blameScalarAt ext path dt x = [path] := by
  cases dt <;> simp [blameScalarAt_old, h]

theorem pushScalar_nostr_noctx (ext : Ext) [ExtPlain ext] (b : B) (x : SVal) (h : scalarToString ext x = none) :
    NoCtx (pushScalar ext b x) := by
  cases b with
  | dictionary p idx vals index => unfold pushScalar; simp only [h]; infer_instance
  | _ => exact pushScalar_noctx ext _ x rfl

/-- every integer has a string form: the blame of an integer call does not depend on the integer -/
theorem blameScalarAt_int {ext : Ext} {path : String} {dt : DataType} (t t' : IntTy) (v v' : Int) :
    blameScalarAt ext path dt (.int t v) = blameScalarAt ext path dt (.int t' v') := by
  cases dt <;> simp [blameScalarAt_old, scalarToString]

theorem mapM_interp_dict_utf8 {ext : Ext} {kdt vdt : DataType} {vals : B} {n : Bool} {md : Metadata}
    (hsv : Shape vals vdt n md) (hu : vals.isUtf8B = true) : ∀ (bs : Bytes),
    ∃ ls, bs.mapM (fun x => interpScalar ext (.dictionary kdt vdt) (.int .u8 x.toNat)) = .ok ls
  | [] => ⟨[], rfl⟩
  | x :: r => by
    obtain ⟨ls, h⟩ := mapM_interp_dict_utf8 (ext := ext) (kdt := kdt) hsv hu r
    refine ⟨.str (strBytes (toString ((x.toNat : Nat) : Int))) :: ls, ?_⟩
    rw [List.mapM_cons, interpScalar_dict_utf8 hsv hu, h]
    rfl

theorem refusesStr_not_dict {b : B} (h : b.refusesStr = true) : b.isDict = false := by
  cases b <;> first | rfl | (simp [B.refusesStr] at h)

/-- **a scalar call on a dictionary column**: the specification's `blameScalarAt` covers every annotated error — the
dictionary itself for a call without a string form, the value child for a string the value type does not take -/
theorem dict_scalar_bl {ext : Ext} [ExtPlain ext] {x : SVal} {p : String} {idx vals : B} {index : List String}
    {path : String} {kdt vdt : DataType} {n : Bool} {md : Metadata}
    (hg : GoodH (.dictionary p idx vals index) (.dictionary kdt vdt) n md)
    (ha : At path (.dictionary kdt vdt) n md (.dictionary p idx vals index))
    (hi : (interpScalar ext (.dictionary kdt vdt) x).isOk = false) :
    Bl (blameScalarAt ext path (.dictionary kdt vdt) x)
      (ctx (B.dictionary p idx vals index).ann (pushScalar ext (.dictionary p idx vals index) x)) := by
  have hsh := hg.shape
  simp only [Shape] at hsh
  obtain ⟨⟨kdt', vdt', heq, hsv⟩, hil, _, hu⟩ := hsh
  cases heq
  have hw := hg.wf
  simp only [WFH] at hw
  have hdv : DictVals vals index := hw.2.2.2.2.2.1
  have hvp := ha.dictionary_value
  simp only [blameScalarAt_old]
  cases hs : scalarToString ext x with
  | none =>
    simp only
    unfold pushScalar
    simp only [hs]
    exact Bl.ctx_self _ (by rw [ha.path]; exact List.mem_singleton.2 rfl) (NoCtx.bl _)
  | some s =>
    simp only
    rcases hu with hu | hr
    · rw [interpScalar_dict_utf8 hsv hu, hs] at hi
      cases hi
    · have hnd := refusesStr_not_dict hr
      rw [Shape_not_dict hsv hnd]
      have hidx : index = [] := hdv.2 hr
      subst hidx
      have hval : Bl [path ++ ".value"] (ctx vals.ann (pushScalar ext vals (.str s))) :=
        Bl.ctx_self vals (by rw [hvp]; exact List.mem_singleton.2 rfl)
          (@NoCtx.bl _ _ _ (pushScalar_noctx ext vals _ hnd))
      have hnok : ∀ v, ctx vals.ann (pushScalar ext vals (.str s)) ≠ .ok v := fun v hv =>
        pushScalar_refusesStr ext hr ((ctx_eq_ok _ _ _).1 hv)
      unfold pushScalar
      simp only [hs, indexOfName, indexOfName.go]
      refine Bl.ctx_own _ (fun msg hm => ?_) (Bl.bind hval fun v hv => absurd hv (hnok v))
      rcases bind_err_plain hm with h | ⟨v, hv, _⟩
      · exact absurd h (ctx_never_plain rfl _ _)
      · exact absurd hv (hnok v)

end SaModel.Props.C18
