import SaModel.Lemmas.C03BuiltFor
/-
The assembled recursion for `finish_wf` (statement and vocabulary: Lemmas/C03WF.lean), under the weak state invariant `WFH`
(`finish_wfH`); `finish_wf` is the instance at the strict invariant.  The key clause of the invariant is not used: that every
key of a finished dictionary designates a value comes from `Sound` (through `finish_slotsH`: every slot of the finished array
can be read).
-/
namespace SaModel.Lemmas.C03
open SaModel SaModel.Build SaModel.Spec SaModel.Lemmas.Bits

theorem WFX_list {p large fm v offs el} (h : WFX (.list p large fm v offs el)) :
    (∀ o ∈ offs, o ≤ offMax large) ∧ WFX el := by simp only [WFX] at h; exact h
theorem WFX_fixedSizeList {p fm n len v cur el} (h : WFX (.fixedSizeList p fm n len v cur el)) : WFX el := by
  simp only [WFX] at h; exact h
theorem WFX_map {p mm v offs ks vs} (h : WFX (.map p mm v offs ks vs)) :
    (∀ o ∈ offs, o ≤ 2147483647) ∧ WFX ks ∧ WFX vs := by simp only [WFX] at h; exact h
theorem WFX_struct {p len v fs cached next seen} (h : WFX (.struct p len v fs cached next seen)) : WFXL fs := by
  simp only [WFX] at h; exact h
theorem WFX_union {p fs types offs cur} (h : WFX (.union p fs types offs cur)) : WFXL fs := by
  simp only [WFX] at h; exact h
theorem WFX_dictionary {p idx vals index} (h : WFX (.dictionary p idx vals index)) : WFX idx ∧ WFX vals := by
  simp only [WFX] at h; exact h

theorem wfH_cases (ext : Ext) : BuiltForCases
    (fun dt nl b => ∀ a, WFH b → Sound b → WFX b → finish ext b = .ok a → wf dt nl a = true)
    (fun fields fs => ∀ len afs, WFHL fs len → SoundL fs → WFXL fs → finishFields ext fs = .ok afs →
      wfFields fields afs len = true)
    (fun ufs fs k => ∀ afs, WFHs fs → SoundL fs → WFXL fs → finishUFields ext fs k = .ok afs →
      wfUFields ufs afs (k : Int) = true) where
  null a _ _ _ h := by rw [finish_null] at h; cases h; simp [wf]
  unknownVariant a _ _ _ h := by rw [finish_unknownVariant] at h; cases h; simp [wf]
  leaf := @fun _ k v vals a hw _ hx h => by
    rw [finish_leaf] at h; cases h
    simp only [WFX] at hx
    exact finishLeaf_wf k v vals _ rfl (WFH_leaf hw) hx
  bytes := @fun _ ty v offs data a hw _ hx h => by
    rw [finish_bytes] at h; cases h
    simp only [WFX] at hx
    obtain ⟨ho, hv⟩ := WFH_bytes hw
    have hvo := validityOk_finish v _ _ rfl hv
    cases ty
    · simp only [bytesDT, wf, hvo, Bool.true_and, Bool.and_eq_true]
      exact ⟨offsetsOk_of offs _ _ ho hx.1, hx.2 rfl⟩
    · simp only [bytesDT, wf, hvo, Bool.true_and, Bool.and_eq_true]
      exact ⟨offsetsOk_of offs _ _ ho hx.1, hx.2 rfl⟩
    · simp only [bytesDT, wf, hvo, Bool.true_and]
      exact offsetsOk_of offs _ _ ho hx.1
    · simp only [bytesDT, wf, hvo, Bool.true_and]
      exact offsetsOk_of offs _ _ ho hx.1
  bytesView := @fun p ty v views buf a hw hs hx h => by
    have hsl := finish_slotsH ext _ a hw hs h
    have hd := finish_decodePH ext _ a hw hs h
    rw [finish_bytesView] at h; cases h
    simp only [WFX] at hx
    obtain ⟨hv, _⟩ := WFH_bytesView hw
    have hvo := validityOk_finish v _ _ rfl hv
    cases ty
    · simp only [viewDT, wf, hvo, Bool.true_and, slotsAllOk_of _ hsl.2]
      rw [hd]
      simp only [List.all_map, List.all_eq_true, Function.comp]
      intro x hxm
      simp only [decP] at hxm
      rcases mem_maskNull _ _ _ hxm with rfl | hm
      · rfl
      · obtain ⟨d, hdm, rfl⟩ := List.mem_map.mp hm
        simp only [bytesVal]
        exact hx rfl d hdm
    · simp only [viewDT, wf, hvo, Bool.true_and, slotsAllOk_of _ hsl.2]
  fixedSizeBinary := @fun _ n len v buf _ a hw hs _ h => by
    cases finish_fixedSizeBinary_inv h
    obtain ⟨hv, hbl⟩ := WFH_fixedSizeBinary hw
    have h0 := Sound_fixedSizeBinary hs
    simp only [wf, beq_self_eq_true, Bool.true_and, Bool.and_eq_true, decide_eq_true_eq]
    refine ⟨⟨by omega, ?_⟩, ?_⟩
    · by_cases hz : n = 0
      · have := h0 hz; subst hz; subst this
        simp at hbl; simp [hbl]
      · have : ¬ ((n : Int) = 0) := by omega
        simp only [beq_iff_eq, this, if_false, Int.toNat_natCast, hbl, Nat.mul_mod_left]
    · by_cases hz : n = 0
      · have := h0 hz; subst hz; subst this
        simpa using validityOk_finish v _ 0 rfl hv
      · have : ¬ ((n : Int) ≤ 0) := by omega
        simp only [this, if_false, Int.toNat_natCast, hbl, Nat.mul_div_cancel _ (Nat.pos_of_ne_zero hz)]
        exact validityOk_finish v _ len rfl hv
  list := @fun _ v offs el _ _ _ _ _ ih a hw hs hx h => by
    obtain ⟨ho, hv, hwe⟩ := WFH_list hw
    obtain ⟨hmax, hxe⟩ := WFX_list hx
    obtain ⟨ela, he, rfl⟩ := finish_list_inv h
    have ih := ih ela hwe (Sound_list hs) hxe he
    have hlen := (finish_slotsH ext el ela hwe (Sound_list hs) he).1
    simp only [wf, Field.dataType, Field.nullable, validityOk_finish v _ _ rfl hv, metaMatches_metaOfField, Bool.true_and, ih,
      Bool.and_true]
    rw [hlen]; exact offsetsOk_of offs _ _ ho hmax
  largeList := @fun _ v offs el _ _ _ _ _ ih a hw hs hx h => by
    obtain ⟨ho, hv, hwe⟩ := WFH_list hw
    obtain ⟨hmax, hxe⟩ := WFX_list hx
    obtain ⟨ela, he, rfl⟩ := finish_list_inv h
    have ih := ih ela hwe (Sound_list hs) hxe he
    have hlen := (finish_slotsH ext el ela hwe (Sound_list hs) he).1
    simp only [wf, Field.dataType, Field.nullable, validityOk_finish v _ _ rfl hv, metaMatches_metaOfField, Bool.true_and, ih,
      Bool.and_true]
    rw [hlen]; exact offsetsOk_of offs _ _ ho hmax
  fixedSizeList := @fun _ n len v _ el _ _ _ _ _ ih a hw hs hx h => by
    obtain ⟨hv, hxl, hwe⟩ := WFH_fixedSizeList hw
    obtain ⟨ela, he, rfl⟩ := finish_fixedSizeList_inv h
    have ih := ih ela hwe (Sound_fixedSizeList hs) (WFX_fixedSizeList hx) he
    have hlen := (finish_slotsH ext el ela hwe (Sound_fixedSizeList hs) he).1
    have h0 : (0 : Int) ≤ (n : Int) := by omega
    simp only [wf, Field.dataType, Field.nullable, beq_self_eq_true, validityOk_finish v _ _ rfl hv, metaMatches_metaOfField,
      ih, Bool.and_true, h0, decide_true, Int.toNat_natCast, hlen, hxl]
  map := @fun _ v offs ks vs _ _ _ _ _ _ _ _ _ _ _ _ _ ihk _ ihv a hw hs hx h => by
    obtain ⟨ho, hlen, hv, hwk, hwv⟩ := WFH_map hw
    obtain ⟨hmax, hxk, hxv⟩ := WFX_map hx
    obtain ⟨ka, va, hek, hev, rfl⟩ := finish_map_inv h
    have ihk := ihk ka hwk (Sound_map hs).1 hxk hek
    have ihv := ihv va hwv (Sound_map hs).2 hxv hev
    have hlk := (finish_slotsH ext ks ka hwk (Sound_map hs).1 hek).1
    have hlv := (finish_slotsH ext vs va hwv (Sound_map hs).2 hev).1
    simp only [wf, Field.dataType, Field.nullable, validityOk_finish v _ _ rfl hv, beq_self_eq_true, metaMatches_metaOfField,
      ihk, ihv, Bool.and_true, hlk, hlv, hlen, offsetsOk_of offs _ _ ho hmax]
  struct := @fun _ len v fs _ _ _ _ _ ih a hw hs hx h => by
    obtain ⟨hv, hl⟩ := WFH_struct hw
    obtain ⟨afs, he, rfl⟩ := finish_struct_inv h
    simp only [wf, validityOk_finish v _ _ rfl hv, ih len afs hl (Sound_struct hs) (WFX_struct hx) he, Bool.and_self]
  dictionary := @fun _ idx vals _ _ vdt _ _ _ ihk _ ihv a hw hs hx h => by
    have hsl := finish_slotsH ext _ a hw hs h
    obtain ⟨hwi, hwv, _⟩ := WFH_dictionary hw
    obtain ⟨hsi, hsv, _⟩ := Sound_dictionary hs
    obtain ⟨hxi, hxv⟩ := WFX_dictionary hx
    obtain ⟨ka, va, hei, hev, hcase⟩ := finish_dictionary_inv h
    have ihk := ihk ka hwi hsi hxi hei
    have ihv := ihv va hwv hsv hxv hev
    rcases hcase with ⟨_, _, rfl⟩ | ⟨_, rfl⟩
    · simp only [wf, ihk, wf_appendEmptyStr vdt va ihv, slotsAllOk_of _ hsl.2, Bool.and_self]
    · simp only [wf, ihk, ihv, slotsAllOk_of _ hsl.2, Bool.and_self]
  union := @fun _ fs _ _ cur _ _ _ _ ih a hw hs hx h => by
    have hsl := finish_slotsH ext _ a hw hs h
    obtain ⟨hlen, hwu, _⟩ := WFH_union hw
    obtain ⟨afs, he, rfl⟩ := finish_union_inv h
    have ih := ih afs (WFHU_WFHs fs cur hwu) (Sound_union hs) (WFX_union hx) he
    simp only [wf, Option.isSome_some, Option.getD_some, hlen, beq_self_eq_true, slotsAllOk_of _ hsl.2,
      Bool.true_and, Bool.and_true]
    exact ih
  nilL len afs _ _ _ h := by rw [finishFields_nil] at h; cases h; simp [wfFields]
  consL := @fun b _ _ _ _ _ _ _ ih _ ihr len afs hw hs hx h => by
    obtain ⟨a, ar, hfb, hr, rfl⟩ := finishFields_cons_inv h
    have ih1 := ih a hw.1 hs.1 hx.1 hfb
    have ih2 := ihr len ar hw.2.2 hs.2 hx.2 hr
    have hlen := (finish_slotsH ext b a hw.1 hs.1 hfb).1
    simp only [wfFields, Field.dataType, Field.nullable, metaMatches_metaOfField, ih1, ih2, hlen, hw.2.1, beq_self_eq_true,
      Bool.and_self]
  nilU afs _ _ _ h := by rw [finishUFields_nil] at h; cases h; simp [wfUFields]
  consU := @fun b _ _ k _ _ _ _ _ ih _ ihr afs hw hs hx h => by
    obtain ⟨a, ar, hfb, hr, rfl⟩ := finishUFields_cons_inv h
    have ih1 := ih a hw.1 hs.1 hx.1 hfb
    have ih2 := ihr ar hw.2 hs.2 hx.2 hr
    have e : ((k + 1 : Nat) : Int) = (k : Int) + 1 := by omega
    rw [e] at ih2
    simp only [wfUFields, Field.dataType, Field.nullable, metaMatches_metaOfField, ih1, ih2, beq_self_eq_true, Bool.and_self]

/-- **the finished array is a well-formed array of the field the builder was created for** -/
theorem finish_wfH (ext : Ext) : ∀ (b : B) (dt : DataType) (nl : Bool) (a : Arr),
    BuiltFor dt nl b → WFH b → Sound b → WFX b → finish ext b = .ok a → wf dt nl a = true :=
  fun b dt nl a hb => (wfH_cases ext).builtFor b dt nl hb a

theorem finishFields_wfH (ext : Ext) : ∀ (fs : BL) (fields : Fields) (len : Nat) (afs : ArrFields),
    BuiltForL fields fs → WFHL fs len → SoundL fs → WFXL fs → finishFields ext fs = .ok afs →
    wfFields fields afs len = true :=
  fun fs fields len afs hb => (wfH_cases ext).builtForL fs fields hb len afs

theorem finishUFields_wfH (ext : Ext) : ∀ (fs : BL) (ufs : UFields) (k : Nat) (afs : ArrUFields),
    BuiltForU ufs fs k → WFHs fs → SoundL fs → WFXL fs → finishUFields ext fs k = .ok afs →
    wfUFields ufs afs (k : Int) = true :=
  fun fs ufs k afs hb => (wfH_cases ext).builtForU fs ufs k hb afs

theorem finish_wf (ext : Ext) : ∀ (b : B) (dt : DataType) (nl : Bool) (a : Arr),
    BuiltFor dt nl b → WFB b → Sound b → WFX b → finish ext b = .ok a → wf dt nl a = true :=
  fun b dt nl a hb hw hs hx h => finish_wfH ext b dt nl a hb (WFH_of_WFB b hw) hs hx h

theorem finishUFields_wf (ext : Ext) : ∀ (fs : BL) (ufs : UFields) (k : Nat) (afs : ArrUFields),
    BuiltForU ufs fs k → WFBs fs → SoundL fs → WFXL fs → finishUFields ext fs k = .ok afs →
    wfUFields ufs afs (k : Int) = true :=
  fun fs ufs k afs hb hw hs hx h => finishUFields_wfH ext fs ufs k afs hb (WFHs_of_WFBs fs hw) hs hx h

theorem finishFields_wf (ext : Ext) : ∀ (fs : BL) (fields : Fields) (len : Nat) (afs : ArrFields),
    BuiltForL fields fs → WFL fs len → SoundL fs → WFXL fs → finishFields ext fs = .ok afs →
    wfFields fields afs len = true :=
  fun fs fields len afs hb hw => finishFields_wfH ext fs fields len afs hb (WFHL_of_WFL fs len hw)

end SaModel.Lemmas.C03
