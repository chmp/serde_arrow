import SaModel.Lemmas.C07LLub
/-
C07, least-upper-bound argument — the per-key form of the order on struct and tuple nodes (`KLe`), the law for the
tracer of one key over one sample (`keyT_lub`), `Unknown` / `Null` nodes below containers, and the `seq` and map
families.
-/
namespace SaModel.Lemmas.C07
open SaModel SaModel.Trace SaModel.Props.C07

theorem freshField_eq (p : String) (s : Nat) (k : String) :
    freshField p s k = .unknown k (p ++ "." ++ k) (s != 0) := by
  unfold freshField
  by_cases h : s = 0
  · subst h; rfl
  · have : (s != 0) = true := by simp [h]
    simp [this, Tracer.new, Tracer.mark_nullable, Tracer.set_nullable]

/-- the order on the lookups of one key: a missing entry counts as the field `ensure_field` would create -/
def KLe (o : Options) (p : String) (s : Nat) (k : String) (cur cur' : Option Tracer) : Prop :=
  match cur' with
  | none => cur = none
  | some b => TLe o (curT p s k cur) b

theorem KLe_seen {o : Options} {p : String} {s s' : Nat} (hs : s = 0 ↔ s' = 0) {k : String} {cur cur' : Option Tracer}
    (h : KLe o p s k cur cur') : KLe o p s' k cur cur' := by
  cases cur' with
  | none => exact h
  | some b =>
    cases cur with
    | none => simp only [KLe, curT] at h ⊢; rw [← freshField_zero p hs k]; exact h
    | some a => exact h

theorem fresh_le_fresh {o : Options} (p : String) {s s' : Nat} (hs : s ≠ 0 → s' ≠ 0) (k : String) :
    TLe o (freshField p s k) (freshField p s' k) := by
  rw [freshField_eq, freshField_eq]
  refine .unk ⟨rfl, rfl, ?_⟩ .unknown
  intro e
  simp only [bne_iff_ne, ne_eq, Tracer.nullable] at e ⊢
  exact hs e

theorem curT_le {o : Options} {p : String} {s s' : Nat} {k : String} {cur cur' : Option Tracer} (hs : s ≠ 0 → s' ≠ 0)
    (hle : KLe o p s k cur cur') : TLe o (curT p s k cur) (curT p s' k cur') := by
  cases cur' with
  | some b => exact hle
  | none => simp only [KLe] at hle; subst hle; exact fresh_le_fresh p hs k

theorem keyT_lub {o : Options} {p : String} {s s' : Nat} {k : String} {vs : List SVal} {cur cur' r : Option Tracer}
    (hl : LubL o vs) (hw : OWF o cur) (hw' : OWF o cur') (hs : s ≠ 0 → s' ≠ 0) (hle : KLe o p s k cur cur')
    (h : keyT o p s cur k vs = .ok r) :
    KLe o p s k cur r ∧ OWF o r ∧ (∀ r', keyT o p s' cur' k vs = .ok r' → KLe o p (s + 1) k r r' ∧ OWF o r') ∧
      (KLe o p (s + 1) k r cur' → ∃ r', keyT o p s' cur' k vs = .ok r' ∧ KLe o p (s' + 1) k r' cur') := by
  have wc := curT_wf (p := p) (s := s) (k := k) hw
  have wc' := curT_wf (p := p) (s := s') (k := k) hw'
  cases vs with
  | nil =>
    simp only [keyT] at h ⊢
    cases h
    have owf : ∀ c : Option Tracer, OWF o c → OWF o (c.map Tracer.mark_nullable) := by
      intro c hc t ht
      cases c with
      | none => cases ht
      | some t0 => cases ht; exact WF_mark (hc t0 rfl)
    refine ⟨?_, owf cur hw, ?_, ?_⟩
    · cases cur with
      | none => rfl
      | some a => exact TLe_mark_self (hw a rfl)
    · intro r' hr'
      cases hr'
      refine ⟨?_, owf cur' hw'⟩
      cases cur' with
      | none => simp only [KLe] at hle ⊢; rw [hle]; rfl
      | some b =>
        have hle' : TLe o (curT p s k cur) b := hle
        show TLe o (curT p (s + 1) k (cur.map Tracer.mark_nullable)) b.mark_nullable
        rw [curT_succ]
        exact TLe_mark hle' wc (hw' b rfl)
    · intro hk
      refine ⟨_, rfl, ?_⟩
      cases cur' with
      | none => rfl
      | some b =>
        have hk' : TLe o (curT p (s + 1) k (cur.map Tracer.mark_nullable)) b := hk
        rw [curT_succ] at hk'
        show TLe o b.mark_nullable b
        rw [nullable_of_mark_le hk']
        exact TLe_refl o _ (hw' b rfl)
  | cons w ws =>
    simp only [keyT] at h ⊢
    cases hb : absorbAll .fixed o (curT p s k cur) (w :: ws) with
    | error e => rw [hb] at h; cases h
    | ok a =>
      rw [hb] at h; cases h
      have wa := absorbAll_wf o wc hb
      obtain ⟨L1, L2, L3⟩ := hl _ _ a wc wc' (curT_le hs hle) hb
      refine ⟨L1, fun t ht => by cases ht; exact wa, ?_, ?_⟩
      · intro r' hr'
        cases hb' : absorbAll .fixed o (curT p s' k cur') (w :: ws) with
        | error e => rw [hb'] at hr'; cases hr'
        | ok b' =>
          rw [hb'] at hr'; cases hr'
          exact ⟨L2 b' hb', fun t ht => by cases ht; exact absorbAll_wf o wc' hb'⟩
      · intro hk
        cases cur' with
        | none => cases hk
        | some b =>
          simp only [KLe, curT] at hk L3 ⊢
          obtain ⟨b', h1, h2⟩ := L3 hk
          rw [h1]
          exact ⟨_, rfl, h2⟩

theorem unknownish_le {o : Options} {t u : Tracer} (hu : t.is_unknown_or_null = true) (h : TLe o t u) :
    ULe t.name t.path t.nullable u ∧ Canon u := by
  refine ⟨TLe_top h, ?_⟩
  cases h with
  | unk _ hc => exact hc
  | prim _ => exact .primitive
  | null _ _ hc => exact hc
  | list _ _ => simp [Tracer.is_unknown_or_null] at hu
  | map _ _ _ => simp [Tracer.is_unknown_or_null] at hu
  | struct _ _ _ _ _ _ => simp [Tracer.is_unknown_or_null] at hu
  | tuple _ _ _ _ => simp [Tracer.is_unknown_or_null] at hu
  | union _ _ _ _ _ => simp [Tracer.is_unknown_or_null] at hu

theorem unknownish_le_mk {o : Options} {t c : Tracer} (wt : WF o t) (hu : t.is_unknown_or_null = true)
    (hl : Tracer.isLeaf c = false) (h : ULe t.name t.path t.nullable c) (hc : Canon c) : TLe o t c := by
  cases t <;> simp [Tracer.is_unknown_or_null] at hu
  case unknown n p nl => exact .unk h hc
  case primitive n p nl ty st =>
    cases ty <;> simp at hu
    rw [WF] at wt
    have := (mem_leafStates.mp wt.2).2 rfl
    subst this
    exact .null hl h hc

theorem depthOk_le {o : Options} {t u : Tracer} (h : TLe o t u) : depthOk u ↔ depthOk t :=
  depthOk_path (TLe_top h).2.1

theorem new_le {o : Options} {n p : String} {b : Tracer} (h : ULe n p false b) (hc : Canon b) : TLe o (Tracer.new n p) b :=
  .unk h hc

theorem unknownish_down {o : Options} {t u : Tracer} (h : TLe o t u) (hu : u.is_unknown_or_null = true) :
    t.is_unknown_or_null = true := by
  cases h with
  | unk _ _ => rfl
  | prim hs =>
    rw [is_unknown_or_null_prim, isNull_iff] at hu ⊢
    subst hu; exact sle_null hs
  | null _ _ _ => rfl
  | list _ _ => exact hu
  | map _ _ _ => exact hu
  | struct _ _ _ _ _ _ => exact hu
  | tuple _ _ _ _ => exact hu
  | union _ _ _ _ _ => exact hu

/-! ### `seq`

Each container `ensure_*` is monotone in the order, and defined below where it is defined (`ensure_list_le`, .. ): an
`Unknown` / `Null` node below becomes a fresh node below whatever the upper node becomes, a node of the kind stays one. -/

theorem ensure_list_le {o : Options} {t u : Tracer} {n p : String} {nl : Bool} {j : Tracer} (wu : WF o u)
    (htu : TLe o t u) (g : u.ensure_list = .ok (.list n p nl j)) :
    ∃ nl0 i, t.ensure_list = .ok (.list n p nl0 i) ∧ (nl0 = true → nl = true) ∧ TLe o i j := by
  obtain ⟨hdu, hcu⟩ := ensure_list_inv g
  have hdt := (depthOk_le htu).mp hdu
  by_cases hu : t.is_unknown_or_null = true
  · obtain ⟨ule, hcan⟩ := unknownish_le hu htu
    rcases hcu with ⟨_, e⟩ | ⟨_, _, _, _, rfl, e⟩ <;> cases e
    · rw [ule.1, ule.2.1]
      exact ⟨_, _, ensure_list_fresh hdt hu, ule.2.2, TLe_refl o _ (ensure_list_facts wu g).1⟩
    · obtain ⟨rfl, rfl, hn⟩ := ule
      cases hcan with
      | list hu' hc' => exact ⟨_, _, ensure_list_fresh hdt hu, hn, new_le hu' hc'⟩
  · rcases hcu with ⟨hu', _⟩ | ⟨_, _, _, _, rfl, e⟩
    · exact absurd (unknownish_down htu hu') hu
    · cases e
      cases htu with
      | unk _ _ => exact absurd rfl hu
      | null _ _ _ => exact absurd rfl hu
      | list hn hij => exact ⟨_, _, ensure_list_same hdt, hn, hij⟩

theorem lub_seq {o : Options} {items : SVals} (hi : ∀ v ∈ items.toList, Lub o v) : Lub o (.seq items) := by
  intro t u a wt wu htu h
  obtain ⟨n, p, nl, i, i', h1, h2, rfl⟩ := absorb_seq_ok h
  obtain ⟨wi, hd, hcase⟩ := ensure_list_facts wt h1
  have L := lubL hi
  have wi' := absorbAll_wf o wi h2
  have wa : WF o (.list n p nl i') := by rw [WF]; exact wi'
  -- what `ensure_list` does on the `u` side
  have hu1 : ∀ n' p' nl' j, u.ensure_list = .ok (.list n' p' nl' j) →
      n' = n ∧ p' = p ∧ (nl = true → nl' = true) ∧ TLe o i j ∧ WF o j := by
    intro n' p' nl' j e
    obtain ⟨_, _, e', hn, hij⟩ := ensure_list_le wu htu e
    rw [h1] at e'; cases e'
    exact ⟨rfl, rfl, hn, hij, (ensure_list_facts wu e).1⟩
  have ht1 : TLe o t (.list n p nl i') := by
    obtain ⟨L1, _, _⟩ := L i i i' wi wi (TLe_refl o _ wi) h2
    obtain ⟨_, hct⟩ := ensure_list_inv h1
    rcases hct with ⟨hu, e1⟩ | ⟨n0, p0, nl0, i0, rfl, e1⟩
    · cases e1
      refine unknownish_le_mk wt hu rfl ⟨rfl, rfl, id⟩ (.list ?_ ?_)
      · exact ULe_of_le ⟨rfl, rfl, nofun⟩ L1
      · exact TLe_canon L1 .unknown
    · cases e1
      exact .list id L1
  refine ⟨ht1, ?_, ?_⟩
  · intro b hb
    obtain ⟨n', p', nl', j, j', g1, g2, rfl⟩ := absorb_seq_ok hb
    obtain ⟨rfl, rfl, hn, hij, wj⟩ := hu1 _ _ _ _ g1
    exact .list hn ((L i j i' wi wj hij h2).2.1 j' g2)
  · intro hau
    cases hau with
    | @list _ _ _ nl'' _ j hn hi'j =>
      have hdu : depthOk (.list n p nl'' j) := (depthOk_path (a := .list n p nl i) rfl).mpr (hd i)
      have g1 := ensure_list_same hdu
      obtain ⟨_, _, _, hij, wj⟩ := hu1 _ _ _ _ g1
      obtain ⟨j', g2, g3⟩ := (L i j i' wi wj hij h2).2.2 hi'j
      exact ⟨_, absorb_seq_mk g1 g2, .list id g3⟩

theorem ensure_map_le {o : Options} {t u : Tracer} {n p : String} {nl : Bool} {j w : Tracer} (wu : WF o u)
    (htu : TLe o t u) (g : u.ensure_map = .ok (.map n p nl j w)) :
    ∃ nl0 k v, t.ensure_map = .ok (.map n p nl0 k v) ∧ (nl0 = true → nl = true) ∧ TLe o k j ∧ TLe o v w := by
  obtain ⟨hdu, hcu⟩ := ensure_map_inv g
  have hdt := (depthOk_le htu).mp hdu
  by_cases hu : t.is_unknown_or_null = true
  · obtain ⟨ule, hcan⟩ := unknownish_le hu htu
    rcases hcu with ⟨_, e⟩ | ⟨_, _, _, _, _, rfl, e⟩ <;> cases e
    · obtain ⟨wj, ww, _⟩ := ensure_map_facts wu g
      rw [ule.1, ule.2.1]
      exact ⟨_, _, _, ensure_map_fresh hdt hu, ule.2.2, TLe_refl o _ wj, TLe_refl o _ ww⟩
    · obtain ⟨rfl, rfl, hn⟩ := ule
      cases hcan with
      | map hu1 hc1 hu2 hc2 => exact ⟨_, _, _, ensure_map_fresh hdt hu, hn, new_le hu1 hc1, new_le hu2 hc2⟩
  · rcases hcu with ⟨hu', _⟩ | ⟨_, _, _, _, _, rfl, e⟩
    · exact absurd (unknownish_down htu hu') hu
    · cases e
      cases htu with
      | unk _ _ => exact absurd rfl hu
      | null _ _ _ => exact absurd rfl hu
      | map hn hkj hvw => exact ⟨_, _, _, ensure_map_same hdt, hn, hkj, hvw⟩

theorem lub_map {o : Options} {x : SVal} {ks vs : List SVal} (hx : MapFam o x ks vs)
    (hk : ∀ v ∈ ks, Lub o v) (hv : ∀ v ∈ vs, Lub o v) : Lub o x := by
  intro t u a wt wu htu h
  obtain ⟨n, p, nl, k, v, k', v', h1, h2, h3, rfl⟩ := (hx.ok t _).mp h
  obtain ⟨wk, wv, hd, hcase⟩ := ensure_map_facts wt h1
  have LK := lubL hk
  have LV := lubL hv
  have wk' := absorbAll_wf o wk h2
  have wv' := absorbAll_wf o wv h3
  have hu1 : ∀ n' p' nl' j w, u.ensure_map = .ok (.map n' p' nl' j w) →
      n' = n ∧ p' = p ∧ (nl = true → nl' = true) ∧ TLe o k j ∧ TLe o v w ∧ WF o j ∧ WF o w := by
    intro n' p' nl' j w e
    obtain ⟨_, _, _, e', hn, hkj, hvw⟩ := ensure_map_le wu htu e
    rw [h1] at e'; cases e'
    obtain ⟨wj, ww, _⟩ := ensure_map_facts wu e
    exact ⟨rfl, rfl, hn, hkj, hvw, wj, ww⟩
  have ht1 : TLe o t (.map n p nl k' v') := by
    obtain ⟨K1, _, _⟩ := LK k k k' wk wk (TLe_refl o _ wk) h2
    obtain ⟨V1, _, _⟩ := LV v v v' wv wv (TLe_refl o _ wv) h3
    obtain ⟨_, hct⟩ := ensure_map_inv h1
    rcases hct with ⟨hu, e1⟩ | ⟨n0, p0, nl0, k0, v0, rfl, e1⟩
    · cases e1
      refine unknownish_le_mk wt hu rfl ⟨rfl, rfl, id⟩ (.map ?_ ?_ ?_ ?_)
      · exact ULe_of_le ⟨rfl, rfl, nofun⟩ K1
      · exact TLe_canon K1 .unknown
      · exact ULe_of_le ⟨rfl, rfl, nofun⟩ V1
      · exact TLe_canon V1 .unknown
    · cases e1
      exact .map id K1 V1
  refine ⟨ht1, ?_, ?_⟩
  · intro b hb
    obtain ⟨n', p', nl', j, w, j', w', g1, g2, g3, rfl⟩ := (hx.ok u _).mp hb
    obtain ⟨rfl, rfl, hn, hkj, hvw, wj, ww⟩ := hu1 _ _ _ _ _ g1
    exact .map hn ((LK k j k' wk wj hkj h2).2.1 j' g2) ((LV v w v' wv ww hvw h3).2.1 w' g3)
  · intro hau
    cases hau with
    | @map _ _ _ nl'' _ j _ w hn hk'j hv'w =>
      have hdu : depthOk (.map n p nl'' j w) := (depthOk_path (a := .map n p nl k v) rfl).mpr (hd k v)
      have g1 := ensure_map_same hdu
      obtain ⟨_, _, _, hkj, hvw, wj, ww⟩ := hu1 _ _ _ _ _ g1
      obtain ⟨j', g2, g3⟩ := (LK k j k' wk wj hkj h2).2.2 hk'j
      obtain ⟨w', g4, g5⟩ := (LV v w v' wv ww hvw h3).2.2 hv'w
      exact ⟨_, (hx.ok _ _).mpr ⟨_, _, _, _, _, _, _, g1, g2, g4, rfl⟩, .map id g3 g5⟩

end SaModel.Lemmas.C07
