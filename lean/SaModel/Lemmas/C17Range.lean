import SaModel.Lemmas.ReadLeaf
import SaModel.Lemmas.C12Out
/-
C17 helpers: what a successful (`.ok`) read of the reader model (SaModel/Read/Reader.lean) tells — each getter inverted
once (`primGet_ok`, `boolGet_ok`, `bytesGet_ok`, `viewGet_ok`, `fsbGet_ok`: row in range; slot null, or valid with the value
it designates; all through `Read.gate_ok`), the heads of the container reads (`listRange_parts`, `fslRange_parts`,
`unionSelect_parts`); where an accessor answered the row was below the length (`lt_of_ok`: the contrapositive of
Lemmas/C12Out.lean).  Used by SaModel/Props/C17.lean (`*_in_range`) and SaModel/Lemmas/C17Touch*.lean, C17Untouched*.lean.
-/
namespace SaModel.Props.C17
open SaModel SaModel.Read SaModel.Spec

theorem ok_bind_inv {α β} {x : R α} {f : α → R β} {b : β} (h : (x >>= f) = .ok b) : ∃ a, x = .ok a ∧ f a = .ok b :=
  R.bind_ok_inv h

theorem tryIntoUsize_ok {x : Int} {n : Nat} (h : tryIntoUsize x = .ok n) : 0 ≤ x ∧ x = (n : Int) := by
  unfold tryIntoUsize at h
  split at h
  · rename_i h0
    cases h
    exact ⟨h0, (Int.toNat_of_nonneg h0).symm⟩
  · cases h

theorem getD_of_getElem? {l : List Int} {k : Nat} {x d : Int} (h : l[k]? = some x) : l.getD k d = x := by
  simp [List.getD, h]

/-! ### the heads of the container reads, inverted -/

/-- `listRange` succeeded: the row is in range, the two offsets it read are the natural numbers returned, in order -/
theorem listRange_parts {offs : List Int} {i s e : Nat} (h : listRange Fixes.all offs i = .ok (s, e)) :
    i < offs.length - 1 ∧ offs[i]? = some (s : Int) ∧ offs[i + 1]? = some (e : Int) ∧ s ≤ e := by
  unfold listRange at h
  split at h
  · cases h
  · rename_i hlen
    have h1 : i < offs.length := by omega
    have h2 : i + 1 < offs.length := by omega
    simp only [List.getElem?_eq_getElem h1, List.getElem?_eq_getElem h2] at h ⊢
    obtain ⟨s', hs, h⟩ := ok_bind_inv h
    obtain ⟨e', he, h⟩ := ok_bind_inv h
    simp only [show Fixes.all.offsetsOrder = true from rfl, Bool.true_and, decide_eq_true_eq] at h
    split at h
    · cases h
    · cases h
      exact ⟨by omega, by rw [(tryIntoUsize_ok hs).2], by rw [(tryIntoUsize_ok he).2], by omega⟩

theorem fslRange_parts {len : Nat} {n : Int} {i s e : Nat} (h : fslRange Fixes.all len n i = .ok (s, e)) :
    i < len ∧ 0 ≤ n ∧ s = i * n.toNat ∧ e = (i + 1) * n.toNat := by
  unfold fslRange at h
  split at h
  · cases h
  · rename_i hlt
    obtain ⟨n', hn, h⟩ := ok_bind_inv h
    obtain ⟨h0, hn'⟩ := tryIntoUsize_ok hn
    have hn'' : n' = n.toNat := by omega
    subst hn''
    split at h
    · simp only [show Fixes.all.fslMul = true from rfl, if_true] at h; cases h
    · cases h
      exact ⟨by omega, h0, rfl, rfl⟩

/-- `unionSelect` succeeded: the type id and the offset of the row, both non-negative, the type id below the number of
variants -/
theorem unionSelect_parts {types : List Int} {offs : Option (List Int)} {n i k off : Nat}
    (h : unionSelect Fixes.all types offs n i = .ok (k, off)) :
    ∃ t o offv, types[i]? = some t ∧ offs = some o ∧ o[i]? = some offv ∧ 0 ≤ t ∧ 0 ≤ offv ∧ k = t.toNat ∧ off = offv.toNat ∧
      k < n := by
  unfold unionSelect at h
  split at h
  · cases h
  · split at h
    · cases h
    · rename_i o
      split at h
      · cases h
      · split at h
        · rename_i t offv ht ho
          obtain ⟨off', hoff, h⟩ := ok_bind_inv h
          obtain ⟨h0, hoff'⟩ := tryIntoUsize_ok hoff
          split at h
          · rename_i hc
            cases h
            exact ⟨t, o, offv, ht, rfl, ho, hc.1, h0, rfl, by omega, hc.2⟩
          · simp only [show Fixes.all.enumTypeId = true from rfl, if_true] at h; cases h
        · cases h

theorem getRequired_ok {α} {x : R (Option α)} {a : α} (h : getRequired x = .ok a) : x = .ok (some a) := by
  unfold getRequired at h
  obtain ⟨o, hx, h⟩ := ok_bind_inv h
  cases o
  · cases h
  · cases h; exact hx

theorem asStr_ok {x : R (Option Bytes)} {b : Bytes} (h : asStr x = .ok (some b)) : x = .ok (some b) ∧ validUtf8 b = true := by
  unfold asStr at h
  obtain ⟨o, hx, h⟩ := ok_bind_inv h
  cases o
  · cases h
  · simp only at h
    split at h
    · rename_i hv; cases h; exact ⟨hx, hv⟩
    · cases h


theorem optIsSome_ok {α} {x : R (Option α)} {b : Bool} (h : optIsSome x = .ok b) : ∃ o, x = .ok o := by
  unfold optIsSome at h
  obtain ⟨o, hx, _⟩ := ok_bind_inv h
  exact ⟨o, hx⟩

/-! ### a successful `get`, per column kind: the row is in range; the slot is null, or valid with the value it designates -/

theorem primGet_ok {v : Option Bits} {vals : List Int} {idx : Nat} {o : Option Int}
    (h : primGet Fixes.all v vals idx = .ok o) :
    idx < vals.length ∧ ((isValid v idx = .ok false ∧ o = none) ∨ (isValid v idx = .ok true ∧ o = vals[idx]?)) := by
  rw [primGet_all] at h
  exact (gate_ok h).imp id (Or.imp id fun hs => ⟨hs.1, by cases hs.2; rfl⟩)

/-- `BytesView::get`: the two offsets are natural numbers in order inside the data buffer, the value is that slice -/
theorem bytesGet_ok {v : Option Bits} {offs : List Int} {data : Bytes} {idx : Nat} {o : Option Bytes}
    (h : bytesGet Fixes.all v offs data idx = .ok o) :
    idx + 1 < offs.length ∧ ((isValid v idx = .ok false ∧ o = none) ∨ (isValid v idx = .ok true ∧
      ∃ s e : Nat, offs[idx]? = some (s : Int) ∧ offs[idx + 1]? = some (e : Int) ∧ s ≤ e ∧ e ≤ data.length ∧
        o = some ((data.drop s).take (e - s)))) := by
  rw [bytesGet_all] at h
  obtain ⟨hi, hs⟩ := gate_ok h
  have h2 : idx + 1 < offs.length := by omega
  refine ⟨h2, hs.imp id fun hs => ⟨hs.1, ?_⟩⟩
  have hx := hs.2
  unfold bytesAt byteSlice at hx
  split at hx
  · rename_i b hb
    split at hb <;> cases hb
    rename_i hc
    cases hx
    refine ⟨(offs.getD idx 0).toNat, (offs.getD (idx + 1) 0).toNat, ?_, ?_, by omega, by omega, rfl⟩
    · rw [Int.toNat_of_nonneg hc.1, List.getD_eq_getElem?_getD, List.getElem?_eq_getElem (Nat.lt_of_succ_lt h2)]; rfl
    · rw [Int.toNat_of_nonneg (by omega), List.getD_eq_getElem?_getD, List.getElem?_eq_getElem h2]; rfl
  · cases hx

/-- `BytesViewView::get`: the value is what the descriptor of the row designates -/
theorem viewGet_ok {v : Option Bits} {views : List Nat} {buffers : List Bytes} {idx : Nat} {o : Option Bytes}
    (h : viewGet Fixes.all v views buffers idx = .ok o) :
    ∃ desc, views[idx]? = some desc ∧ ((isValid v idx = .ok false ∧ o = none) ∨ (isValid v idx = .ok true ∧
      ∃ b, viewBytes buffers desc = .ok b ∧ o = some b)) := by
  rw [viewGet_all] at h
  obtain ⟨hi, hs⟩ := gate_ok h
  refine ⟨views.getD idx 0, by rw [List.getD_eq_getElem?_getD, List.getElem?_eq_getElem hi]; rfl,
    hs.imp id fun hs => ⟨hs.1, ?_⟩⟩
  obtain ⟨b, hb, hx⟩ := ok_bind_inv hs.2
  cases hx
  exact ⟨b, hb, rfl⟩

theorem boolGet_ok {len : Nat} {v : Option Bits} {vals : Bits} {idx : Nat} {o : Option Bool}
    (h : boolGet Fixes.all len v vals idx = .ok o) :
    idx < len ∧ ((isValid v idx = .ok false ∧ o = none) ∨ (isValid v idx = .ok true ∧
      ∃ b, getBit vals idx = .ok b ∧ o = some b)) := by
  rw [boolGet_all] at h
  refine (gate_ok h).imp id (Or.imp id fun hs => ⟨hs.1, ?_⟩)
  obtain ⟨b, hb, hx⟩ := ok_bind_inv hs.2
  cases hx
  exact ⟨b, hb, rfl⟩

/-- `FixedSizeBinaryDeserializer::get`: the value is row `idx` of the data, which lies inside it -/
theorem fsbGet_ok {n len : Nat} {v : Option Bits} {data : Bytes} {idx : Nat} {o : Option Bytes}
    (h : fsbGet Fixes.all n len v data idx = .ok o) :
    idx < len ∧ ((isValid v idx = .ok false ∧ o = none) ∨ (isValid v idx = .ok true ∧
      (idx + 1) * n ≤ data.length ∧ o = some ((data.drop (idx * n)).take n))) := by
  rw [fsbGet_all] at h
  refine (gate_ok h).imp id (Or.imp id fun hs => ⟨hs.1, ?_⟩)
  have hx := hs.2
  split at hx
  · rename_i hc; cases hx; exact ⟨hc, rfl⟩
  · cases hx

/-- every accessor fails beyond the length of its view (Lemmas/C12Out.lean): where it answered, the row was below it -/
theorem lt_of_ok {α} {r : R α} {x : α} {n i : Nat} (hb : n ≤ i → Lemmas.C12.IsFail r) (h : r = .ok x) : i < n :=
  Nat.lt_of_not_le fun hle => (hb hle).not_ok x h

theorem primGet_ok_lt {fx : Fixes} {v : Option Bits} {vals : List Int} {idx : Nat} {o : Option Int}
    (h : primGet fx v vals idx = .ok o) : idx < vals.length :=
  lt_of_ok (fun hle => ⟨_, Lemmas.C12.primGet_beyond fx v vals idx hle⟩) h

theorem boolGet_ok_lt {fx : Fixes} {len : Nat} {v : Option Bits} {vals : Bits} {idx : Nat} {o : Option Bool}
    (h : boolGet fx len v vals idx = .ok o) : idx < len :=
  lt_of_ok (fun hle => ⟨_, Lemmas.C12.boolGet_beyond fx len v vals idx hle⟩) h

theorem bytesGet_ok_lt {v : Option Bits} {offs : List Int} {data : Bytes} {idx : Nat} {o : Option Bytes}
    (h : bytesGet Fixes.all v offs data idx = .ok o) : idx < offs.length - 1 :=
  Nat.lt_sub_of_add_lt (bytesGet_ok h).1

theorem viewGet_ok_lt {fx : Fixes} {v : Option Bits} {views : List Nat} {buffers : List Bytes} {idx : Nat} {o : Option Bytes}
    (h : viewGet fx v views buffers idx = .ok o) : idx < views.length :=
  lt_of_ok (fun hle => ⟨_, Lemmas.C12.viewGet_beyond fx v views buffers idx hle⟩) h

theorem fsbColGet_ok_lt {n : Int} {v : Option Bits} {data : Bytes} {idx : Nat} {o : Option Bytes}
    (h : fsbColGet Fixes.all n v data idx = .ok o) : idx < vlen (.fixedSizeBinary n v data) :=
  lt_of_ok (Lemmas.C12.fsbColGet_beyond Lemmas.C12.OutFixes.all n v data idx) h

end SaModel.Props.C17
