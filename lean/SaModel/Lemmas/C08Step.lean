import SaModel.Lemmas.C08StepBase
/-
C08 — the pass invariant of `from_type`: for every type description that can be walked, a pass over the tracer reached
after `k` passes gives the tracer of `k + 1` passes (`explore_step`).  For an enum node: with `b` passes spent, the pass
explores the first incomplete variant (`StepV`), or variant 0 again when every variant is complete (`RedoV`).
-/
namespace SaModel.Lemmas.C08
open SaModel SaModel.Trace SaModel.Trace.Spec

/-- a pass over an enum node that still has an incomplete variant: the loop invariant of the variant list.
`i0` = index of the head of `vs` in the enum -/
def StepV (c : Code) (o : Options) (p : String) (vs : TyVariants) (b i0 : Nat) : Prop :=
  ∃ i vn vt vt', (afterVariants o p b vs).firstIncomplete i0 = .ok (some (i0 + i)) ∧
    (afterVariants o p b vs).get? i = some (some (vn, vt)) ∧
    exploreVariant c o vt i vs = .ok vt' ∧
    (afterVariants o p b vs).set i vn vt' = afterVariants o p (b + 1) vs

/-- a pass over an enum node whose variants are all complete: variant 0 is explored again and nothing changes -/
def RedoV (c : Code) (o : Options) (p : String) (vs : TyVariants) (b : Nat) : Prop :=
  ∃ vn vt vt', (afterVariants o p b vs).get? 0 = some (some (vn, vt)) ∧
    exploreVariant c o vt 0 vs = .ok vt' ∧
    (afterVariants o p b vs).set 0 vn vt' = afterVariants o p (b + 1) vs

theorem prim_step (o : Options) (n p : String) (nl : Bool) (dt : DataType) (hnn : isNull dt = false) (t : Tracer)
    (ht : t = .unknown n p nl ∨ t = .primitive n p nl dt none) :
    t.ensure_primitive_with_strategy o dt none = .ok (.primitive n p nl dt none) := by
  rcases ht with rfl | rfl
  · simp only [Tracer.ensure_primitive_with_strategy, hnn, Bool.or_false]
  · exact ensure_primitive_same o n p nl dt none

theorem null_step (o : Options) (n p : String) (nl : Bool) (t : Tracer)
    (ht : t = .unknown n p nl ∨ t = .primitive n p true .null none) :
    t.ensure_primitive_with_strategy o .null none = .ok (.primitive n p true .null none) := by
  rcases ht with rfl | rfl
  · simp only [Tracer.ensure_primitive_with_strategy, isNull, Bool.or_true]
  · exact ensure_primitive_same o n p true .null none

/-- the pass invariant; at an enum node the head variant explores like its payload type (`VHead`) -/
theorem explore_step_all (c : Code) (o : Options) :
    (∀ (ty : Ty) (n p : String) (nl : Bool) (k : Nat),
      walkable o p ty = true → explore c o (after o n p nl k ty) ty = .ok (after o n p nl (k + 1) ty)) ∧
    (∀ (ts : Tys) (p : String) (k i : Nat),
      walkableTys o p i ts = true → exploreTys c o (afterTys o p k i ts) 0 ts = .ok (afterTys o p (k + 1) i ts)) ∧
    (∀ (fs : TyFields) (p : String) (k : Nat),
      walkableFields o p fs = true → exploreFields c o (afterFields o p k fs) 0 fs = .ok (afterFields o p (k + 1) fs)) ∧
    (∀ (vs : TyVariants) (p : String), walkableVariants o p vs = true →
      (∀ b i0, b < passesVariants vs → StepV c o p vs b i0) ∧
      (vs.length ≠ 0 → ∀ b, passesVariants vs ≤ b → RedoV c o p vs b)) := by
  have tuple : ∀ ts, (∀ (p : String) (k i : Nat), walkableTys o p i ts = true →
      exploreTys c o (afterTys o p k i ts) 0 ts = .ok (afterTys o p (k + 1) i ts)) →
      ∀ (n p : String) (nl : Bool) (k : Nat), walkable o p (.tuple ts) = true →
      explore c o (after o n p nl k (.tuple ts)) (.tuple ts) = .ok (after o n p nl (k + 1) (.tuple ts)) := by
    intro ts ih n p nl k hw
    simp only [walkable, Bool.and_eq_true, Bool.not_eq_true'] at hw
    cases k with
    | zero =>
      rw [after_zero, explore_tuple_unknown c o n p nl ts hw.1]
      simp only [after]
      exact explore_tuple_tuple c o n p nl ts 0 0 _ hw.1 (ih p 0 0 hw.2)
    | succ k =>
      simp only [after]
      exact explore_tuple_tuple c o n p nl ts (k + 1) 0 _ hw.1 (ih p (k + 1) 0 hw.2)
  apply Ty.walk
  case node =>
    intro ty ih
    match ty, ih with
    | .unit, _ | .unitStruct _, _ =>
      intro n p nl k _
      cases k <;> simp only [after, explore] <;> exact null_step o n p nl _ (by simp)
    | .bool, _ | .f32, _ | .f64, _ | .char, _ | .bytes, _ =>
      intro n p nl k _
      cases k <;> simp only [after, explore] <;> exact prim_step o n p nl _ rfl _ (by simp)
    | .int t, _ =>
      intro n p nl k _
      cases k <;> simp only [after, explore] <;> exact prim_step o n p nl _ (by cases t <;> rfl) _ (by simp)
    | .string, _ =>
      intro n p nl k _
      have : isNull o.string_type = false := by unfold Options.string_type; split <;> rfl
      cases k <;> simp only [after, explore] <;> exact prim_step o n p nl _ this _ (by simp)
    | .option t, ih =>
      intro n p nl k hw
      simp only [walkable] at hw
      have ih := ih n p true k hw
      cases k with
      | zero =>
        rw [after_zero] at ih ⊢
        simp only [explore, Tracer.mark_nullable, Tracer.set_nullable, after]; exact ih
      | succ k => simp only [explore, after, after_mark_nullable]; exact ih
    | .newtypeStruct _ t, ih =>
      intro n p nl k hw
      simp only [walkable] at hw
      have ih := ih n p nl k hw
      cases k with
      | zero => rw [after_zero] at ih ⊢; simp only [explore, after]; exact ih
      | succ k => simp only [explore, after]; exact ih
    | .vec t, ih =>
      intro n p nl k hw
      simp only [walkable, Bool.and_eq_true, Bool.not_eq_true'] at hw
      have ih := ih "element" (childPath p "element") false k hw.2
      cases k with
      | zero =>
        rw [after_zero] at ih
        rw [after_zero, explore_vec_unknown c o n p nl t hw.1]
        simp only [after]; exact explore_vec_list c o n p nl _ _ t hw.1 ih
      | succ k => simp only [after]; exact explore_vec_list c o n p nl _ _ t hw.1 ih
    | .map kt vt, ih =>
      intro n p nl k hw
      simp only [walkable, Bool.and_eq_true, Bool.not_eq_true'] at hw
      have ihk := ih.1 "key" (childPath p "key") false k hw.1.2
      have ihv := ih.2 "value" (childPath p "value") false k hw.2
      cases k with
      | zero =>
        rw [after_zero] at ihk ihv
        rw [after_zero, explore_map_unknown c o n p nl kt vt hw.1.1.2]
        simp only [after]; exact explore_map_map c o n p nl _ _ _ _ kt vt hw.1.1.1 hw.1.1.2 ihk ihv
      | succ k => simp only [after]; exact explore_map_map c o n p nl _ _ _ _ kt vt hw.1.1.1 hw.1.1.2 ihk ihv
    | .tuple ts, ih => exact tuple ts ih
    | .tupleStruct sn ts, ih =>
      intro n p nl k hw
      have := tuple ts ih n p nl k hw
      rw [explore_tupleStruct_eq]
      cases k <;> simpa only [after] using this
    | .struct sn fs, ih =>
      intro n p nl k hw
      simp only [walkable, Bool.and_eq_true, Bool.not_eq_true'] at hw
      cases k with
      | zero =>
        rw [after_zero, explore_struct_unknown c o n p nl sn fs hw.1]
        simp only [after]
        exact explore_struct_struct c o n p nl sn fs _ _ hw.1 (ih p 0 hw.2)
      | succ k =>
        simp only [after]
        exact explore_struct_struct c o n p nl sn fs _ _ hw.1 (ih p (k + 1) hw.2)
    | .enum en vs, ih =>
      intro n p nl k hw
      simp only [walkable, Bool.and_eq_true, Bool.not_eq_true', bne_iff_ne, ne_eq] at hw
      obtain ⟨⟨hd, hne⟩, hwv⟩ := hw
      have hv := ih p hwv
      have key : explore c o (.union n p nl (afterVariants o p k vs)) (.enum en vs) =
          .ok (.union n p nl (afterVariants o p (k + 1) vs)) := by
        by_cases hb : k < passesVariants vs
        · obtain ⟨i, vn, vt, vt', h1, h2, h3, h4⟩ := hv.1 k 0 hb
          rw [Nat.zero_add] at h1
          have := explore_union c o n p nl _ en vs hd (some i) h1 vn vt vt' h2 h3
          simp only [Option.getD] at this
          rw [this, h4]
        · obtain ⟨vn, vt, vt', h2, h3, h4⟩ := hv.2 hne k (by omega)
          have h1 : (afterVariants o p k vs).firstIncomplete 0 = .ok none := by
            rw [afterVariants_done o vs p k hwv (by omega)]; exact doneVariants_firstIncomplete o vs p 0
          have := explore_union c o n p nl _ en vs hd none h1 vn vt vt' h2 h3
          simp only [Option.getD] at this
          rw [this, h4]
      cases k with
      | zero => rw [after_zero, explore_enum_unknown c o n p nl en vs hd]; simp only [after]; exact key
      | succ k => simp only [after]; exact key
  case tnil => intro _ _ _ _; simp only [afterTys, exploreTys]
  case tcons =>
    intro t r iht ihr p k i hw
    simp only [walkableTys, Bool.and_eq_true] at hw
    simp only [afterTys, exploreTys, Tracers.get?, iht _ _ _ k hw.1, bind, Except.bind, Tracers.set,
      exploreTys_shift, ihr p k (i + 1) hw.2]
    rfl
  case fnil => intro _ _ _; simp only [afterFields, exploreFields]
  case fcons =>
    intro fname t r iht ihr p k hw
    simp only [walkableFields, Bool.and_eq_true] at hw
    simp only [afterFields, exploreFields, TFields.get?, iht _ _ _ k hw.1, bind, Except.bind, TFields.set,
      exploreFields_shift, ihr p k hw.2]
    rfl
  case vnil => exact fun _ _ => ⟨fun b i0 h => by simp only [passesVariants] at h; omega, fun h => absurd rfl h⟩
  case vcons =>
    intro vs n T r hh ihT ihr p hw
    simp only [hh.walkable_eq, Bool.and_eq_true] at hw
    obtain ⟨hwT, hwr⟩ := hw
    have hA := hh.after_eq o p
    have hstep := fun k => ihT n (childPath p n) false k hwT
    have hP := hh.passes_eq
    have hpos := passes_pos o T _ hwT
    refine ⟨fun b i0 hb => ?_, fun _ b hb => ?_⟩
    · by_cases h : b < passes T
      · refine ⟨0, n, after o n (childPath p n) false b T, after o n (childPath p n) false (b + 1) T, ?_, ?_, ?_, ?_⟩
        · rw [hA b]
          simp only [Variants.firstIncomplete, after_incomplete o T _ _ _ b h, Bool.not_false, if_true, Nat.add_zero]
        · rw [hA b]; rfl
        · rw [hh.explore_zero]; exact hstep b
        · rw [hA b, hA (b + 1)]
          have : b - passes T = b + 1 - passes T := by omega
          simp only [Variants.set, this]
      · obtain ⟨b', rfl⟩ : ∃ b', b = b' + 1 := ⟨b - 1, by omega⟩
        have hd := after_done o T n (childPath p n) false b' hwT (by omega)
        have hd2 := after_done o T n (childPath p n) false (b' + 1) hwT (by omega)
        obtain ⟨i, vn, vt, vt', h1, h2, h3, h4⟩ := (ihr p hwr).1 (b' + 1 - passes T) (i0 + 1) (by omega)
        refine ⟨i + 1, vn, vt, vt', ?_, ?_, ?_, ?_⟩
        · rw [hA]
          simp only [Variants.firstIncomplete, hd, done_complete, Bool.not_true, Bool.false_eq_true, if_false]
          rw [h1]
          have : i0 + 1 + i = i0 + (i + 1) := by omega
          rw [this]
        · rw [hA]; simp only [Variants.get?]; exact h2
        · rw [hh.explore_succ]; exact h3
        · rw [hA, hA (b' + 1 + 1)]
          have : b' + 1 - passes T + 1 = b' + 1 + 1 - passes T := by omega
          simp only [Variants.set, h4, hd, hd2, this]
    · refine ⟨n, after o n (childPath p n) false b T, after o n (childPath p n) false (b + 1) T, ?_, ?_, ?_⟩
      · rw [hA b]; rfl
      · rw [hh.explore_zero]; exact hstep b
      · rw [hA b, hA (b + 1)]
        simp only [Variants.set, afterVariants_done o r p (b - passes T) hwr (by omega),
          afterVariants_done o r p (b + 1 - passes T) hwr (by omega)]

theorem explore_step (c : Code) (o : Options) : ∀ (ty : Ty) (n p : String) (nl : Bool) (k : Nat),
    walkable o p ty = true → explore c o (after o n p nl k ty) ty = .ok (after o n p nl (k + 1) ty) :=
  (explore_step_all c o).1

theorem exploreTys_step (c : Code) (o : Options) : ∀ (ts : Tys) (p : String) (k i : Nat),
    walkableTys o p i ts = true → exploreTys c o (afterTys o p k i ts) 0 ts = .ok (afterTys o p (k + 1) i ts) :=
  (explore_step_all c o).2.1

theorem exploreFields_step (c : Code) (o : Options) : ∀ (fs : TyFields) (p : String) (k : Nat),
    walkableFields o p fs = true → exploreFields c o (afterFields o p k fs) 0 fs = .ok (afterFields o p (k + 1) fs) :=
  (explore_step_all c o).2.2.1

theorem variants_step (c : Code) (o : Options) : ∀ (vs : TyVariants) (p : String), walkableVariants o p vs = true →
    (∀ b i0, b < passesVariants vs → StepV c o p vs b i0) ∧
    (vs.length ≠ 0 → ∀ b, passesVariants vs ≤ b → RedoV c o p vs b) :=
  (explore_step_all c o).2.2.2

end SaModel.Lemmas.C08
