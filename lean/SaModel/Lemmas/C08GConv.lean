import SaModel.Lemmas.C08GDone
/-
C08 — `covers` is exactly what the tracer needs: the tracer of the values `xs` is (up to the sample counters) the complete
tracer `done` of the type IF AND ONLY IF `covers ty xs` (`covers_iff_done`); the covering samples of `sampleAt` are values
of the type (`hasTy_sampleAt`).
-/
namespace SaModel.Lemmas.C08
open SaModel SaModel.Trace SaModel.Trace.Spec

theorem covers_iff_done (o : Options) (ty : Ty) (n p : String) (nl : Bool) (xs : List SVal) :
    covers ty xs = true ↔ erase (sstate o n p nl ty xs) = done o n p nl ty :=
  ⟨erase_sstate o ty n p nl xs, covers_of_erase o ty n p nl nl xs⟩

/-- the sample of variant `i` of `vs` (absolute index `idx`) is a value of any enum whose variant `idx` is that variant -/
theorem sampleVariant_kind (en : String) : ∀ (vs : TyVariants) (idx i q : Nat), i < vs.length →
    ∃ vn k, variantAt vs i = some (vn, k) ∧
      sampleVariant en vs idx i q = (match k with
        | .unit => .unitVariant en idx vn
        | .newtype t => .newtypeVariant en idx vn (sampleAt t q)
        | .tuple ts => .tupleVariant en idx vn (samplesTys ts q)
        | .struct fs => .structVariant en idx vn (samplesFields fs q))
  | .nil, _, _, _, h => by simp [TyVariants.length] at h
  | .unit n r, idx, 0, q, _ => ⟨n, .unit, rfl, rfl⟩
  | .newtype n t r, idx, 0, q, _ => ⟨n, .newtype t, rfl, rfl⟩
  | .tuple n ts r, idx, 0, q, _ => ⟨n, .tuple ts, rfl, rfl⟩
  | .struct n fs r, idx, 0, q, _ => ⟨n, .struct fs, rfl, rfl⟩
  | .unit _ r, idx, i + 1, q, h | .newtype _ _ r, idx, i + 1, q, h | .tuple _ _ r, idx, i + 1, q, h
  | .struct _ _ r, idx, i + 1, q, h => by
    simp only [TyVariants.length] at h
    simp only [variantAt, sampleVariant]
    exact sampleVariant_kind en r idx i q (by omega)

/-- the covering samples of a type that can be walked are values of the type (`walkable` is used for: no empty enum) -/
theorem hasTy_sampleAt_all (o : Options) :
    (∀ (ty : Ty) (p : String) (k : Nat), walkable o p ty = true → hasTy o (sampleAt ty k) ty = true) ∧
    (∀ (ts : Tys) (p : String) (i k : Nat), walkableTys o p i ts = true → hasTys o (samplesTys ts k) ts = true) ∧
    (∀ (fs : TyFields) (p : String) (k : Nat), walkableFields o p fs = true →
      hasFields o (samplesFields fs k) fs = true) ∧
    (∀ (vs : TyVariants) (p : String) (j : Nat) (vn : String) (T : Ty), walkableVariants o p vs = true →
      (vList vs)[j]? = some (vn, T) → ∀ q, hasTy o (sampleAt T q) T = true) := by
  apply Ty.walk
  case node =>
    intro ty ih p k hw
    match ty, ih with
    | .unit, _ | .unitStruct _, _ | .bool, _ | .f32, _ | .f64, _ | .char, _ | .bytes, _ => simp only [sampleAt, hasTy]
    | .int t, _ => simp only [sampleAt, hasTy, decide_true]
    | .string, _ => simp only [sampleAt, hasTy, strType_s, decide_true]
    | .option t, ih | .newtypeStruct _ t, ih => simp only [walkable] at hw; simp only [sampleAt, hasTy]; exact ih p k hw
    | .vec t, ih =>
      simp only [walkable, Bool.and_eq_true] at hw
      simp only [sampleAt, hasTy, hasTyAll, ih _ k hw.2, Bool.and_self]
    | .tuple ts, ih | .tupleStruct _ ts, ih =>
      simp only [walkable, Bool.and_eq_true] at hw
      simp only [sampleAt, hasTy]; exact ih p 0 k hw.2
    | .map kt vt, ih =>
      simp only [walkable, Bool.and_eq_true] at hw
      simp only [sampleAt, hasTy, hasEntries, ih.1 _ k hw.1.2, ih.2 _ k hw.2, Bool.and_self]
    | .struct _ fs, ih =>
      simp only [walkable, Bool.and_eq_true] at hw
      simp only [sampleAt, hasTy]; exact ih p k hw.2
    | .enum en vs, ih =>
      simp only [walkable, Bool.and_eq_true, bne_iff_ne, ne_eq] at hw
      have hr : k % vs.length < vs.length := Nat.mod_lt _ (by omega)
      obtain ⟨vn, kd, hv, hsv⟩ := sampleVariant_kind en vs (k % vs.length) (k % vs.length) (k / vs.length) hr
      have hpay := ih p _ vn _ hw.2 (variantAt_vList vs _ vn kd hv) (k / vs.length)
      simp only [sampleAt, hw.1.2, if_false, hsv]
      cases kd <;> simp only [hasTy, hv, decide_true, Bool.true_and] <;>
        simpa only [VKind.toTy, sampleAt, hasTy] using hpay
  case tnil => intro _ _ _ _; simp only [samplesTys, hasTys]
  case tcons =>
    intro t r iht ihr p i k hw
    simp only [walkableTys, Bool.and_eq_true] at hw
    simp only [samplesTys, hasTys, iht _ k hw.1, ihr p (i + 1) k hw.2, Bool.and_self]
  case fnil => intro _ _ _; simp only [samplesFields, hasFields]
  case fcons =>
    intro n t r iht ihr p k hw
    simp only [walkableFields, Bool.and_eq_true] at hw
    simp only [samplesFields, hasFields, decide_true, iht _ k hw.1, ihr p k hw.2, Bool.and_self]
  case vnil => intro _ _ _ _ _ h; simp [vList] at h
  case vcons =>
    intro vs n T r hh ihT ihr p j vn T' hw h q
    simp only [hh.walkable_eq, Bool.and_eq_true] at hw
    rw [hh.vList_eq] at h
    cases j with
    | zero =>
      simp only [List.getElem?_cons_zero, Option.some.injEq, Prod.mk.injEq] at h
      obtain ⟨rfl, rfl⟩ := h
      exact ihT _ q hw.1
    | succ j => exact ihr p j vn T' hw.2 (by simpa only [List.getElem?_cons_succ] using h) q

theorem hasTy_sampleAt (o : Options) : ∀ (ty : Ty) (p : String) (k : Nat), walkable o p ty = true →
    hasTy o (sampleAt ty k) ty = true :=
  (hasTy_sampleAt_all o).1

theorem hasTys_samples (o : Options) : ∀ (ts : Tys) (p : String) (i k : Nat), walkableTys o p i ts = true →
    hasTys o (samplesTys ts k) ts = true :=
  (hasTy_sampleAt_all o).2.1

theorem hasFields_samples (o : Options) : ∀ (fs : TyFields) (p : String) (k : Nat), walkableFields o p fs = true →
    hasFields o (samplesFields fs k) fs = true :=
  (hasTy_sampleAt_all o).2.2.1

theorem hasVariant_samples (o : Options) : ∀ (vs : TyVariants) (p : String) (i q : Nat) (vn : String) (kd : VKind),
    walkableVariants o p vs = true → variantAt vs i = some (vn, kd) →
    (match kd with
      | .unit => True
      | .newtype t => hasTy o (sampleAt t q) t = true
      | .tuple ts => hasTys o (samplesTys ts q) ts = true
      | .struct fs => hasFields o (samplesFields fs q) fs = true) := by
  intro vs p i q vn kd hw h
  have := (hasTy_sampleAt_all o).2.2.2 vs p i vn _ hw (variantAt_vList vs i vn kd h) q
  cases kd with
  | unit => trivial
  | newtype _ | tuple _ | struct _ => simpa only [VKind.toTy, sampleAt, hasTy] using this

end SaModel.Lemmas.C08
