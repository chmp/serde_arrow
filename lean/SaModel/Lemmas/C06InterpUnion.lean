import SaModel.Lemmas.C06InterpLeaf
import SaModel.Lemmas.C01Variant
/-
C06, closure, tracer ⇒ documented mapping: the four enum variant kinds, as one (`mapped_variant` over `Build.IsVariant`): the
tracer absorbs each as the newtype variant of its payload, and at a Union field the mapping, the exclusion walk and
`sampleOK` go on with the payload at the variant's field (`Build.interpDT_variant_iff`).
-/
namespace SaModel.Lemmas.C06
open SaModel SaModel.Spec SaModel.Build SaModel.Trace

theorem Inv_variant {o : Options} {n p : String} {nl : Bool} {vs : Variants} (h : Inv o (.union n p nl vs))
    {i : Nat} {nm : String} {t : Tracer} (hg : vs.get? i = some (some (nm, t))) : Inv o t := by
  obtain ⟨h1, h2⟩ := h
  simp only [C07.WF] at h1
  simp only [TN] at h2
  exact ⟨C07.VWF_get h1 i nm t hg, (TNV_iff vs).mp h2 i nm t hg⟩

theorem variants_to_fields_get {o : Options} : ∀ (vs : Variants) (k : Nat) (fields : List (Int × Field)) (i : Nat)
    (nm : String) (c : Tracer), vs.to_fields o k = .ok fields → vs.get? i = some (some (nm, c)) →
    ∃ g, fields[i]? = some (Int.ofNat (k + i), g) ∧ c.to_field o = .ok g
  | .nil, _, _, _, _, _, _, hg => by simp [Variants.get?] at hg
  | .absent r, k, fields, i, nm, c, h, hg => by
    obtain ⟨_, fs, h1, rfl⟩ := to_fieldsV_absent_inv h
    cases i with
    | zero => cases hg
    | succ i =>
      obtain ⟨g, hg1, hg2⟩ := variants_to_fields_get r (k + 1) fs i nm c h1 hg
      exact ⟨g, by rw [List.getElem?_cons_succ, hg1, show k + 1 + i = k + (i + 1) by omega], hg2⟩
  | .present n t r, k, fields, i, nm, c, h, hg => by
    obtain ⟨_, f, fs, hf, h1, rfl⟩ := to_fieldsV_present_inv h
    cases i with
    | zero => cases hg; exact ⟨f, rfl, hf⟩
    | succ i =>
      obtain ⟨g, hg1, hg2⟩ := variants_to_fields_get r (k + 1) fs i nm c h1 hg
      exact ⟨g, by rw [List.getElem?_cons_succ, hg1, show k + 1 + i = k + (i + 1) by omega], hg2⟩

theorem is_without_data_false : ∀ (vs : Variants) (i : Nat) (n : String) (c : Tracer),
    vs.get? i = some (some (n, c)) → c.is_unknown_or_null = false → vs.is_without_data = false
  | .nil, _, _, _, hg, _ => by simp [Variants.get?] at hg
  | .absent _, _, _, _, _, _ => rfl
  | .present m t r, i, n, c, hg, hc => by
    cases i with
    | zero =>
      simp only [Variants.get?, Option.some.injEq, Prod.mk.injEq] at hg
      obtain ⟨_, rfl⟩ := hg
      simp [Variants.is_without_data, is_null_variant, hc]
    | succ i =>
      simp only [Variants.get?] at hg
      simp [Variants.is_without_data, is_without_data_false r i n c hg hc]

theorem absorb_isVariant (c : Code) (o : Options) {x y : SVal} {idx : Nat} (hx : IsVariant x idx y) :
    ∃ nm vn, ∀ t, absorb c o t x = absorb c o t (.newtypeVariant nm idx vn y) := by
  cases hx with
  | unit n _ vn => exact ⟨n, vn, fun t => absorb_unitVariant c o t n idx vn⟩
  | newtype n _ vn v => exact ⟨n, vn, fun _ => rfl⟩
  | tuple n _ vn xs => exact ⟨n, vn, fun t => by rw [absorb_tupleVariant]; simp only [absorb]⟩
  | struct n _ vn fs => exact ⟨n, vn, fun t => by rw [absorb_structVariant]; simp only [absorb]⟩

theorem sampleOK_isVariant (b : Bool) {x y : SVal} {idx : Nat} (hx : IsVariant x idx y) :
    sampleOK b x = sampleOK b y := by
  cases hx <;> simp only [sampleOK]

theorem hits_isVariant (p : DataType → SVal → Bool) {x y : SVal} {idx : Nat} (hx : IsVariant x idx y) {ufs : UFields}
    {m : UnionMode} {tid : Int} {gn : String} {cdt : DataType} {cn : Bool} {cmd : Metadata}
    (hg : ufs.toList[idx]? = some (tid, .mk gn cdt cn cmd)) : hits p (.union ufs m) x = hits p cdt y := by
  cases hx with
  | unit | newtype => simp only [hits, hg]
  | tuple | struct => simp only [hits, hg]; cases cdt <;> rfl

theorem was_isVariant {o : Options} {x y : SVal} {idx : Nat} {t2 : Tracer} (hx : IsVariant x idx y)
    (h : Was .fixed o x t2) :
    ∃ n p nl vs vn ft, t2 = .union n p nl vs ∧ vs.get? idx = some (some (vn, ft)) ∧ Was .fixed o y ft := by
  obtain ⟨nm, vn, hab⟩ := absorb_isVariant .fixed o hx
  obtain ⟨a, b, hw, ha, hs⟩ := h
  rw [hab] at ha
  obtain ⟨_, n, p, nl, vs, ft, rfl, _, hg, hwas⟩ : Later .fixed o (.variant idx vn y) t2 := was_later ⟨a, b, hw, ha, hs⟩
  exact ⟨n, p, nl, vs, vn, ft, rfl, hg, hwas⟩

theorem mapped_variant (o : Options) (ext : Ext) (h0 : o.overwrites = []) {x y : SVal} {idx : Nat} (hx : IsVariant x idx y)
    (ih : Mapped o ext y) : Mapped o ext x := by
  intro t2 h hinv f hf hok hex
  obtain ⟨n, p, nl2, vs2, vn, c2, rfl, hc2, hwas⟩ := was_isVariant hx h
  rw [sampleOK_isVariant _ hx] at hok
  rcases to_field_node h0 hf with ⟨hwd, _, rfl⟩ | ⟨fields, hfs, rfl, _⟩
  · -- no variant has carried data so far and the union is traced as a string column
    cases hx with
    | unit _ _ vn' =>
      refine ⟨.str (strBytes vn'), ?_⟩
      simp only [default_dictionary_field, Field.dataType, Field.nullable, Field.metadata]
      rw [interpDT]
      · rcases string_type_cases o with hst | hst <;> simp [interpScalar_eq_old, interpScalarOld, interpDictStr, dictValue, liftO, hst, scalarToString]
      · intro fs mode e; cases e
    | newtype => simp [hits, default_dictionary_field, Field.dataType, exclAny, dataLessNewtype, isDictDT] at hex
    | tuple _ _ _ items =>
      obtain ⟨_, n1, p1, nl1, ts, rfl, _⟩ : Later .fixed o (.tuple items.toList) c2 := was_later hwas
      rw [is_without_data_false vs2 _ vn _ hc2 rfl] at hwd; cases hwd
    | struct _ _ _ fs =>
      obtain ⟨_, n1, p1, nl1, fs1, m, s, rfl, _⟩ : Later .fixed o (.struct .struct (SFields.kvs fs)) c2 := was_later hwas
      rw [is_without_data_false vs2 _ vn _ hc2 rfl] at hwd; cases hwd
  · obtain ⟨⟨gn, cdt, cn, cmd⟩, hg1, hg2⟩ := variants_to_fields_get vs2 0 fields idx vn c2 hfs hc2
    rw [← UFields.toList_ofList fields] at hg1
    simp only [Field.dataType] at hex
    rw [hits_isVariant _ hx hg1] at hex
    obtain ⟨lv, hlv⟩ := ih c2 hwas (Inv_variant hinv hc2) _ hg2 hok hex
    exact ⟨_, (interpDT_variant_iff hx hg1).mpr ⟨lv, hlv, rfl⟩⟩

theorem mapped_unitVariant (o : Options) (ext : Ext) (h0 : o.overwrites = []) (nm : String) (idx : Nat) (vn : String) :
    Mapped o ext (.unitVariant nm idx vn) :=
  mapped_variant o ext h0 (.unit nm idx vn) (mapped_leaf o ext h0 .unit .null rfl)

theorem PI_unitVariant (o : Options) (ext : Ext) (h0 : o.overwrites = []) (nm : String) (idx : Nat) (vn : String) :
    PI o ext (.unitVariant nm idx vn) :=
  (mapped_unitVariant o ext h0 nm idx vn).pi

theorem mapped_newtypeVariant (o : Options) (ext : Ext) (h0 : o.overwrites = []) (nm : String) (idx : Nat) (vn : String)
    (v : SVal) (ih : Mapped o ext v) : Mapped o ext (.newtypeVariant nm idx vn v) :=
  mapped_variant o ext h0 (.newtype nm idx vn v) ih

theorem mapped_tupleVariant (o : Options) (ext : Ext) (h0 : o.overwrites = []) (nm : String) (idx : Nat) (vn : String)
    (items : SVals) (ih : Mapped o ext (.tupleStruct vn items)) : Mapped o ext (.tupleVariant nm idx vn items) :=
  mapped_variant o ext h0 (.tuple nm idx vn items) ih

theorem mapped_structVariant (o : Options) (ext : Ext) (h0 : o.overwrites = []) (nm : String) (idx : Nat) (vn : String)
    (fs : SFields) (ih : Mapped o ext (.record vn fs)) : Mapped o ext (.structVariant nm idx vn fs) :=
  mapped_variant o ext h0 (.struct nm idx vn fs) ih

end SaModel.Lemmas.C06
