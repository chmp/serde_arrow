import SaModel.Lemmas.PushRows
import SaModel.Lemmas.C01ObsCompSeq
import SaModel.Lemmas.C01CompLoops
/-
C01 "hidden rows" — completeness of the builders (converse of R2') under the WEAK invariant `WFH` / `NoDictKey`: whenever
the documented mapping `Spec.interpDT` accepts a value at the builder's field, and the value fits into the head room of
the builder (`vsize ≤ room`), `push` succeeds — and the head room shrinks by at most `vsize`.  An instance of the walk
over `push` (`PushRowsE`, Lemmas/PushRows.lean): one clause per row of a builder; the specification is read by the same
classes of calls (`IsUnitLike`, `IsScalar`, `IsSeqLike`, `IsVariant`, `Refused`) as `push` dispatches on.
-/
namespace SaModel.Build
open SaModel SaModel.Spec

/-! ### what the walk proves for each field loop (`…LoopH`), and the child a step of a field loop writes to (`field_childH`,
`keyed_hitH`) -/

def CompH (ext : Ext) (x : SVal) : Prop :=
  ∀ b dt n md lv, GoodH b dt n md → vsize ext x ≤ room b → interpDT ext dt n md x = .ok lv →
    ∃ b', push ext b x = .ok b' ∧ room b ≤ room b' + vsize ext x

def TupleLoopH (ext : Ext) (xs : SVals) : Prop :=
  ∀ fs0 s adds sfs, MidH fs0 s adds → ShapeL s.fields sfs → totalFs sfs = true → vsizes ext xs ≤ roomL s.fields →
    PendT ext xs s.next s.seen sfs →
    ∃ s', pushTupleElems ext s xs = .ok s' ∧ EndOK s'.seen sfs ∧ roomL s.fields ≤ roomL s'.fields + vsizes ext xs

def FieldsLoopH (ext : Ext) (fields : SFields) : Prop :=
  ∀ fs0 s adds sfs, MidH fs0 s adds → ShapeL s.fields sfs → totalFs sfs = true → vsizef ext fields ≤ roomL s.fields →
    PendN (fun f => interpByName ext f.name f.dataType f.nullable f.metadata fields) s.seen sfs →
    ∃ s', pushFields ext s fields = .ok s' ∧ EndOK s'.seen sfs ∧ roomL s.fields ≤ roomL s'.fields + vsizef ext fields

def EntriesLoopH (ext : Ext) (es : SEntries) : Prop :=
  ∀ fs0 s adds sfs, MidH fs0 s adds → ShapeL s.fields sfs → totalFs sfs = true → vsizee ext es ≤ roomL s.fields →
    keysAreStrings es = .ok () →
    PendN (fun f => interpByKey ext f.name f.dataType f.nullable f.metadata es) s.seen sfs →
    ∃ s', pushStructEntries ext s es = .ok s' ∧ EndOK s'.seen sfs ∧ roomL s.fields ≤ roomL s'.fields + vsizee ext es

/-- the child a key designates: it exists, is the builder of the schema field of that name, and is `GoodH` -/
theorem field_childH {fs0 : BL} {s : SS} {adds : List (List LVal)} {sfs : Fields} {idx : Nat}
    (hm : MidH fs0 s adds) (hsl : ShapeL s.fields sfs) (ht : totalFs sfs = true) (hlt : idx < s.fields.length) :
    ∃ c m f, s.fields.get? idx = some (c, m) ∧ sfs.toList[idx]? = some f ∧ s.fields.names[idx]? = some f.name ∧
      GoodH c f.dataType f.nullable f.metadata ∧ idx < s.seen.length := by
  obtain ⟨⟨c, m⟩, hget⟩ := BL.get?_of_lt s.fields idx hlt
  obtain ⟨f, hj, hsh, _, _⟩ := ShapeL.get _ _ _ _ _ hsl hget
  exact ⟨c, m, f, hget, hj, names_at hsl hj, ⟨ExtLH.get _ _ _ _ _ hm.ext hget, NoDictKeyL.get _ _ _ hm.safe hget, hsh,
    totalFs_get sfs idx f ht hj⟩, by rw [hm.adds_length.2.1]; exact hlt⟩

/-- a keyed loop (`pushFields`, `pushStructEntries`) at an entry whose key names field `idx`, `c1` collecting the
candidates of a field from this entry on and `c2` from the next: the child to write to is fresh, the value has a meaning
at its type, and the remaining entries owe what is still pending -/
theorem keyed_hitH {ext : Ext} {x : SVal} {fs0 : BL} {s : SS} {adds : List (List LVal)} {sfs : Fields} {idx : Nat}
    {key : String} {c1 c2 : Field → R (List LVal)} (hm : MidH fs0 s adds) (hsl : ShapeL s.fields sfs)
    (ht : totalFs sfs = true) (hidx : indexOfName s.fields.names key = some idx) (hp : PendN c1 s.seen sfs)
    (hne : ∀ f : Field, (key == f.name) = false → c1 f = c2 f)
    (heq : ∀ (f : Field) found, (key == f.name) = true → c1 f = .ok found →
      ∃ lv vs, c2 f = .ok vs ∧ interpDT ext f.dataType f.nullable f.metadata x = .ok lv ∧ found = lv :: vs) :
    ∃ c m, ∃ (f : Field) (lv : LVal), s.fields.get? idx = some (c, m) ∧ GoodH c f.dataType f.nullable f.metadata ∧
      s.seen[idx]? = some false ∧
      interpDT ext f.dataType f.nullable f.metadata x = .ok lv ∧ PendN c2 (s.seen.set idx true) sfs := by
  have hlt : idx < s.fields.length := by rw [← BL.names_length]; exact indexOfName_lt hidx
  obtain ⟨c, m, f, hget, hj, hnm, hgc, hlseen⟩ := field_childH hm hsl ht hlt
  obtain ⟨hseen, ⟨lv, hlv⟩, hp'⟩ := PendN.hit (c2 := c2)
    (P := fun lv => interpDT ext f.dataType f.nullable f.metadata x = .ok lv) hp hj hlseen
    (fun j f' hj' hne' => hne f' (by rw [key_at hm.nodup hidx (names_at hsl hj')]; simp; exact fun h => hne' h.symm))
    (fun found hf => heq f found (by rw [key_at hm.nodup hidx hnm]; simp) hf)
  exact ⟨c, m, f, lv, hget, hgc, hseen, hlv, hp'⟩

def MapLoopH (ext : Ext) (es : SEntries) : Prop :=
  ∀ offs (l : Int) ks vs kdt kn kmd vdt vn vmd r, GoodH ks kdt kn kmd → GoodH vs vdt vn vmd →
    vsizee ext es ≤ room ks → vsizee ext es ≤ room vs → offs.getLast? = some l → 0 ≤ l → l + elen es ≤ 2147483647 →
    interpEntries ext kdt kn kmd vdt vn vmd es = .ok r →
    ∃ r', pushMapEntries ext offs ks vs es = .ok r' ∧ room ks ≤ room r'.2.1 + vsizee ext es ∧
      room vs ≤ room r'.2.2 + vsizee ext es ∧ r'.1.getLast? = some (l + elen es)

/-! ### the motives -/

def CompAt (ext : Ext) (b : B) (x : SVal) (r : R B) : Prop :=
  noRaw x = true → ∀ dt n md lv, GoodH b dt n md → vsize ext x ≤ room b → interpDT ext dt n md x = .ok lv →
    ∃ b', r = .ok b' ∧ room b ≤ room b' + vsize ext x

/-- one field of a record being written takes a value that has a meaning at the field's type -/
def ElemCompAt (ext : Ext) (s : SS) (idx : Nat) (x : SVal) (r : R SS) : Prop :=
  noRaw x = true → ∀ fs0 adds sfs c m dt n md lv, MidH fs0 s adds → ShapeL s.fields sfs → s.fields.get? idx = some (c, m) →
    GoodH c dt n md → s.seen[idx]? = some false → vsize ext x ≤ roomL s.fields → interpDT ext dt n md x = .ok lv →
    ∃ s' adds', r = .ok s' ∧ MidH fs0 s' adds' ∧ ShapeL s'.fields sfs ∧ s'.seen = s.seen.set idx true ∧ s'.next = idx + 1 ∧
      s'.cached = s.cached ∧ roomL s.fields ≤ roomL s'.fields + vsize ext x

def ElemsCompAt (ext : Ext) (_large : Bool) (el : B) (offs : List Int) (xs : SVals) (r : R (B × List Int)) : Prop :=
  noRaws xs = true → ∀ (l : Int) cdt cn cmd ls, GoodH el cdt cn cmd → vsizes ext xs ≤ room el → offs.getLast? = some l →
    0 ≤ l → l + xs.length ≤ 2147483647 → interpAll ext cdt cn cmd xs = .ok ls →
    ∃ r', r = .ok r' ∧ room el ≤ room r'.1 + vsizes ext xs ∧ r'.2.getLast? = some (l + xs.length)

def CountCompAt (ext : Ext) (el : B) (c : Nat) (xs : SVals) (r : R (B × Nat)) : Prop :=
  noRaws xs = true → ∀ cdt cn cmd ls, GoodH el cdt cn cmd → vsizes ext xs ≤ room el → interpAll ext cdt cn cmd xs = .ok ls →
    ∃ el', r = .ok (el', c + xs.length) ∧ room el ≤ room el' + vsizes ext xs

def MapCompAt (ext : Ext) (offs : List Int) (ks vs : B) (es : SEntries) (r : R (List Int × B × B)) : Prop :=
  noRawe es = true → ∀ (l : Int) kdt kn kmd vdt vn vmd r0, GoodH ks kdt kn kmd → GoodH vs vdt vn vmd →
    vsizee ext es ≤ room ks → vsizee ext es ≤ room vs → offs.getLast? = some l → 0 ≤ l → l + elen es ≤ 2147483647 →
    interpEntries ext kdt kn kmd vdt vn vmd es = .ok r0 →
    ∃ r', r = .ok r' ∧ room ks ≤ room r'.2.1 + vsizee ext es ∧
      room vs ≤ room r'.2.2 + vsizee ext es ∧ r'.1.getLast? = some (l + elen es)

theorem complete_rows (ext : Ext) : PushRowsE (fun b x r => CompAt ext b x (r ext)) (fun s idx x r => ElemCompAt ext s idx x (r ext))
    (fun large el offs xs r => ElemsCompAt ext large el offs xs (r ext)) (fun el c xs r => CountCompAt ext el c xs (r ext))
    (fun s xs r => noRaws xs = true → LoopCompAt s (vsizes ext xs) (PendT ext xs s.next s.seen) (r ext))
    (fun s fs r => noRawf fs = true → LoopCompAt s (vsizef ext fs)
      (PendN (fun f => interpByName ext f.name f.dataType f.nullable f.metadata fs) s.seen) (r ext))
    (fun s es r => noRawe es = true → LoopCompAt s (vsizee ext es) (fun sfs => keysAreStrings es = .ok () ∧
      PendN (fun f => interpByKey ext f.name f.dataType f.nullable f.metadata es) s.seen sfs) (r ext))
    (fun _ _ _ => True)
    (fun offs ks vs es r => MapCompAt ext offs ks vs es (r ext)) (fun _ _ _ _ _ _ => True) where
  fwdSome ih hraw dt n md lv hg hr hi :=
    let ⟨b', h1, h2⟩ := ih hraw dt n md lv hg (Nat.le_of_succ_le hr) hi
    ⟨b', h1, Nat.le_succ_of_le h2⟩
  fwdNewtype ih hraw dt n md lv hg hr hi :=
    let ⟨b', h1, h2⟩ := ih hraw dt n md lv hg (Nat.le_of_succ_le hr) hi
    ⟨b', h1, Nat.le_succ_of_le h2⟩
  null {b x} hx _ dt n md lv hg hr hi := by
    rw [(hx.interp ext dt n md).1] at hi
    rw [(hx.interp ext dt n md).2] at hr ⊢
    exact pushNone_completeH b dt n md lv hg.wf hg.shape hg.tot hi hr
  refused hrf _ hraw dt n md lv hg _ hi := (hrf.elim hraw hg.shape hi).elim
  scalar {b x} hx _ dt n md lv hg hr hi :=
    let ⟨hu, hi⟩ := hx.interp hg.shape hi
    let ⟨b', h1, h2⟩ := pushScalar_completeH ext b x dt n md lv hg.wf hg.shape hu hr hi
    ⟨b', (ctx_ok _ _ _).2 h1, h2⟩
  seqLike {b x k xs} hx ihE ihC ihT hraw dt n md lv hg hr hi := by
    rw [(hx.size ext).2] at hraw
    rw [interpDT_seqLike hx] at hi
    rw [(hx.size ext).1] at hr ⊢
    obtain ⟨b', hb', hroom⟩ := seqLike_completeH (fun large el offs => ihE large el offs hraw) (fun el c => ihC el c hraw)
      (pushTupleElems_refines ext xs) (fun s1 s2 hp => pushTupleElems_takeRest ext xs s1 s2 hp) (fun s => ihT s hraw)
      b k dt n md lv hg hr hi
    exact ⟨b', (ctx_ok _ _ _).2 hb', hroom⟩
  listBytes {p large fm v offs el bs} ih _ dt n md lv hg hr hi := by
    have hv := vsize_byteVals ext bs
    obtain ⟨b', hb', hroom⟩ := ih (rawOKs_byteVals false bs) dt n md lv hg (Nat.le_trans hv hr)
      ((interpDT_list_bytes hg.shape ext bs lv).1 hi)
    exact ⟨b', (push_list_bytes ext p large fm v offs el bs).trans hb', Nat.le_trans hroom (Nat.add_le_add_left hv _)⟩
  record {b nm fs} ih hraw dt n md lv hg hr hi := by
    obtain ⟨sfs, rfl, hi⟩ := interpDT_record_inv hi
    obtain ⟨p, len, v, bl, cached, next, seen, rfl⟩ := Shape_struct_form hg.shape
    obtain ⟨b', hb', hroom⟩ := record_completeH hg (pushFields_refines ext fs)
      (fun s1 s2 hp => pushFields_takeRest ext fs s1 s2 hp) (fun s => ih s hraw) hr
      (fun s _ _ hs => hs ▸ PendN.fresh (structOf_inv hi))
    exact ⟨b', (ctx_ok _ _ _).2 hb', hroom⟩
  structMap {p len v bl cached next seen es} ih hraw dt n md lv hg hr hi := by
    have hsh := hg.shape
    simp only [Shape] at hsh
    obtain ⟨_, sfs, rfl, _⟩ := hsh
    simp only [interpDT, isUnknownVariant, Bool.false_eq_true, if_false] at hi
    obtain ⟨⟨⟩, hkeys, hi⟩ := (bind_ok _ _ _).1 hi
    obtain ⟨b', hb', hroom⟩ := record_completeH hg ((pushStructEntries_refines ext es).next _)
      (FieldsSkel.next (fun s1 s2 hp => pushStructEntries_takeRest ext es s1 s2 hp) _)
      (fun s fs0 adds sfs hm => ih s.unkeyed hraw fs0 adds sfs (hm.next _)) hr
      (fun s _ _ hs => ⟨hkeys, hs ▸ PendN.fresh (structOf_inv hi)⟩)
    exact ⟨b', (ctx_ok _ _ _).2 hb', hroom⟩
  structMapRaw _ hraw := by simp [noRaw] at hraw
  map {p mm v offs ks vs es} ih hraw dt n md lv hg hr hi := by
    have hsh := hg.shape
    simp only [Shape] at hsh
    obtain ⟨_, ename, kn, kdt, knl, kmd, vn, vdt, vnl, vmd, rest, en, emd, sorted', rfl, hsk, hsv⟩ := hsh
    simp only [interpDT, isUnknownVariant, Bool.false_eq_true, if_false] at hi
    obtain ⟨r, hie, _⟩ := (bind_ok _ _ _).1 hi
    have hw := hg.wf
    simp only [WFH] at hw
    have hsafe := hg.nd
    simp only [NoDictKey] at hsafe
    have ht := hg.tot
    simp only [total, totalF, Bool.and_eq_true] at ht
    have hlast := hw.1.2.1
    have hln : lastNat offs = (dec ks).length := by simp [lastNat_of_getLast hlast]
    simp only [room, hln] at hr ⊢
    obtain ⟨r1, r2, r3, r4⟩ := offs_row (elen_le ext es) hr
    obtain ⟨v', hv'⟩ := setValidity_true_total v (offs.length - 1)
    obtain ⟨r', hpr, hrk, hrv, hl2⟩ := ih (offs ++ [((dec ks).length : Int)]) ks vs hraw
      ((dec ks).length : Int) kdt knl kmd vdt vnl vmd r ⟨hw.2.2.2.1, hsafe.1, hsk, ht.1⟩
      ⟨hw.2.2.2.2, hsafe.2, hsv, ht.2⟩ (Nat.le_min.1 r1).1 (Nat.le_min.1 r1).2 (by simp) r2 r3 hie
    refine ⟨.map p mm v' r'.1 r'.2.1 r'.2.2, (ctx_ok _ _ _).2 ((bind_ok _ _ _).2 ⟨_, hv', (bind_ok _ _ _).2
      ⟨_, duplicateLast_total hlast, (bind_ok _ _ _).2 ⟨r', hpr, rfl⟩⟩⟩), ?_⟩
    simp only [room, lastNat_of_getLast hl2]
    exact r4 (min_le_min_add hrk hrv)
  mapRaw _ hraw := by simp [noRaw] at hraw
  union {p fs types offs cur x i y} hx ih hraw dt n md lv hg hr hi := by
    have hsh := hg.shape
    simp only [Shape] at hsh
    obtain ⟨ufs, mode, rfl, _⟩ := hsh
    obtain ⟨_, _, tid, nm, cdt, cn, cmd, lvc, ⟨⟩, hufs, hiy⟩ := hx.interp hi (.inl ⟨_, _, rfl⟩)
    obtain ⟨hsz, hry⟩ := hx.size ext
    simp only [room] at hr
    obtain ⟨b', hb', hroom⟩ := union_row_completeH (pc := fun c => push ext c y) (cost := vsize ext y) hg hufs (by omega)
      (fun c hgc hrc => ih c (hry ▸ hraw) cdt cn cmd lvc hgc (by omega) hiy)
    exact ⟨b', (ctx_ok _ _ _).2 hb', by simp only [room]; omega⟩
  element {s idx x} ih hraw fs0 adds sfs c m dt n md lv hm hsl hget hgc hseen hr hlv := by
    obtain ⟨c', hpc, hroomc⟩ := ih c hraw dt n md lv hgc (Nat.le_trans hr (roomL_get _ _ _ _ hget)) hlv
    obtain ⟨⟨adds', hm'⟩, _⟩ := SS.element_midH hm (StepOKH.of_push (fun c c' => push_refines ext x c c'))
      (SS.element_total (pc := fun c => push ext c x) hget hseen hpc)
    exact ⟨_, adds', SS.element_total hget hseen hpc, hm', ShapeL.set_push hsl hget (push_takeRest ext x c c' hpc), rfl, rfl,
      rfl, roomL_set _ _ _ _ _ _ hget hroomc⟩
  elemsNil {large el offs} _ l cdt cn cmd ls _ _ hl _ _ _ :=
    ⟨(el, offs), rfl, by simp [vsizes], by simpa [SVals.length] using hl⟩
  elemsCons {large el offs x rest} ih ihr hraw l cdt cn cmd ls hg hr hl h0 hle hi := by
    have hraw' := Bool.and_eq_true_iff.1 hraw
    simp only [interpAll] at hi
    obtain ⟨lv0, hi0, hi⟩ := (bind_ok _ _ _).1 hi
    obtain ⟨ls', hi', _⟩ := (bind_ok _ _ _).1 hi
    obtain ⟨o1, o2, o3, o4⟩ := offs_next h0 hle
    obtain ⟨el', hp, hroom⟩ := ih hraw'.1 cdt cn cmd lv0 hg (room_fst hr) hi0
    obtain ⟨r, hrest, hr2, hl2⟩ := ihr el' (offs.dropLast ++ [l + (1 : Nat)]) hraw'.2 (l + (1 : Nat))
      cdt cn cmd ls' (hg.push hraw'.1 hp) (room_rest hr hroom) (by simp) o2 o3 hi'
    exact ⟨r, (bind_ok _ _ _).2 ⟨_, incrementLast_total hl o1 h0, (bind_ok _ _ _).2 ⟨el', hp, hrest⟩⟩, room_two hroom hr2,
      o4 ▸ hl2⟩
  countNil {el c} _ cdt cn cmd ls _ _ _ := ⟨el, rfl, by simp [vsizes]⟩
  countCons {el c x rest} ih ihr hraw cdt cn cmd ls hg hr hi := by
    have hraw' := Bool.and_eq_true_iff.1 hraw
    simp only [interpAll] at hi
    obtain ⟨lv0, hi0, hi⟩ := (bind_ok _ _ _).1 hi
    obtain ⟨ls', hi', _⟩ := (bind_ok _ _ _).1 hi
    obtain ⟨el', hp, hroom⟩ := ih hraw'.1 cdt cn cmd lv0 hg (room_fst hr) hi0
    obtain ⟨el'', hrest, hr2⟩ := ihr el' (c + 1) hraw'.2 cdt cn cmd ls' (hg.push hraw'.1 hp) (room_rest hr hroom) hi'
    exact ⟨el'', (bind_ok _ _ _).2 ⟨el', hp, (Nat.add_right_comm c 1 _ ▸ hrest :)⟩, room_two hroom hr2⟩
  tupleNil {s} _ fs0 adds sfs _ _ _ _ hp := ⟨s, rfl, hp.endOK, by simp [vsizes]⟩
  tupleCons {s x rest} hlt hel ih hraw fs0 adds sfs hm hsl ht hr hp := by
    have hraw' := Bool.and_eq_true_iff.1 hraw
    obtain ⟨c, m, f, hget, hj, _, hgc, hls⟩ := field_childH hm hsl ht hlt
    obtain ⟨hseen, ⟨lv, hlv⟩, hp'⟩ := hp.hit hj hls
    obtain ⟨s1, adds1, he, hm1, hsl1, hseen1, hnext1, _, hroom1⟩ :=
      hel hraw'.1 fs0 adds sfs c m _ _ _ lv hm hsl hget hgc hseen (room_fst hr) hlv
    obtain ⟨s', hrest, hend, hroom⟩ := ih s1 hraw'.2 fs0 adds1 sfs hm1 hsl1 ht (room_rest hr hroom1)
      (by rw [hnext1, hseen1]; exact hp')
    exact ⟨s', (bind_ok _ _ _).2 ⟨s1, he, hrest⟩, hend, room_two hroom1 hroom⟩
  tupleExtra {s x rest} hlt ih hraw fs0 adds sfs hm hsl ht hr hp := by
    obtain ⟨s', hrest, hend, hroom⟩ := ih (Bool.and_eq_true_iff.1 hraw).2 fs0 adds sfs hm hsl ht
      (room_snd hr) (hp.skip (by rw [hsl.length]; omega))
    exact ⟨s', hrest, hend, room_skip hroom⟩
  fieldsNil {s} _ fs0 adds sfs _ _ _ _ hp := ⟨s, rfl, hp.endOK (fun f => by simp [interpByName]), by simp [vsizef]⟩
  fieldsCons {s key al x rest idx cached'} hlk hel ih hraw fs0 adds sfs hm hsl ht hr hp := by
    have hraw' := Bool.and_eq_true_iff.1 hraw
    have hls := SaModel.Props.C11Front.lookup_sound s.fields.names s.cached s.next (key, al) hm.nodup hm.cache
    rw [hlk] at hls
    have hmc := hm.cached cached' hls.2
    obtain ⟨c, m, f, lv, hget, hgc, hseen, hlv, hp'⟩ := keyed_hitH (x := x) hmc hsl ht hls.1.symm hp
      (fun f h => interpByName_cons_ne h) (fun f found h hf => interpByName_cons_eq h hf)
    obtain ⟨s1, adds1, he, hm1, hsl1, hseen1, _, _, hroom1⟩ :=
      hel hraw'.1 fs0 adds sfs c m _ _ _ lv hmc hsl hget hgc hseen (room_fst hr) hlv
    obtain ⟨s', hrest, hend, hroom⟩ := ih s1 hraw'.2 fs0 adds1 sfs hm1 hsl1 ht (room_rest hr hroom1)
      (by rw [hseen1]; exact hp')
    exact ⟨s', (bind_ok _ _ _).2 ⟨s1, he, hrest⟩, hend, room_two hroom1 hroom⟩
  fieldsUnknown {s key al x rest cached'} hlk ih hraw fs0 adds sfs hm hsl ht hr hp := by
    have hls := SaModel.Props.C11Front.lookup_sound s.fields.names s.cached s.next (key, al) hm.nodup hm.cache
    rw [hlk] at hls
    obtain ⟨s', hrest, hend, hroom⟩ := ih (Bool.and_eq_true_iff.1 hraw).2 fs0 adds sfs (hm.cached cached' hls.2) hsl ht
      (room_snd hr)
      (hp.congr (fun j f hj => interpByName_cons_ne (key_none hm.nodup hls.1.symm (names_at hsl hj))))
    exact ⟨s', hrest, hend, room_skip hroom⟩
  entriesNil {s} _ fs0 adds sfs _ _ _ _ hp :=
    ⟨s, rfl, hp.2.endOK (fun f => by simp [interpByKey]), by simp [vsizee]⟩
  entriesCons {s k x rest} hel ih hraw fs0 adds sfs hm hsl ht hr hp := by
    obtain ⟨hkeys, hp⟩ := hp
    have hraw' := Bool.and_eq_true_iff.1 hraw
    have hr := room_r hr
    simp only [keysAreStrings, specKey_eq] at hkeys
    obtain ⟨key, hkey, hkeys'⟩ := (bind_ok _ _ _).1 hkeys
    rw [normErr_ok_iff] at hkey
    have hopt := keyStr_opt hkey
    cases hidx : indexOfName s.fields.names key with
    | none =>
      obtain ⟨s', hrest, hend, hroom⟩ := ih s.unkeyed hraw'.2 fs0 adds sfs (hm.next _) hsl ht
        (room_snd hr) ⟨hkeys', hp.congr (fun j f hj =>
          interpByKey_cons_ne (by rw [hopt]; exact key_none hm.nodup hidx (names_at hsl hj)))⟩
      exact ⟨s', (bind_ok _ _ _).2 ⟨key, hkey, by simp only [hidx]; exact hrest⟩, hend,
        room_skip_r (room_skip hroom)⟩
    | some idx =>
      obtain ⟨c, m, f, lv, hget, hgc, hseen, hlv, hp'⟩ := keyed_hitH (x := x) hm hsl ht hidx hp
        (fun f h => interpByKey_cons_ne (by rw [hopt]; exact h))
        (fun f found h hf => interpByKey_cons_eq (by rw [hopt]; exact h) hf)
      obtain ⟨s1, adds1, he, hm1, hsl1, hseen1, _, _, hroom1⟩ :=
        hel idx (Bool.and_eq_true_iff.1 hraw'.1).2 fs0 adds sfs c m _ _ _ lv hm hsl hget hgc hseen
          (room_fst hr) hlv
      obtain ⟨s', hrest, hend, hroom⟩ := ih s1.unkeyed hraw'.2 fs0 adds1 sfs (hm1.next _) hsl1 ht
        (room_rest hr hroom1) ⟨hkeys', hseen1 ▸ hp'⟩
      exact ⟨s', (bind_ok _ _ _).2 ⟨key, hkey, by simp only [hidx]; exact (bind_ok _ _ _).2 ⟨s1, he, hrest⟩⟩, hend,
        room_skip_r (room_two hroom1 hroom)⟩
  opsNil := trivial
  opsKey _ := trivial
  opsValue _ _ _ := trivial
  opsValueUnkeyed _ _ := trivial
  mapEntriesNil {offs ks vs} _ l kdt kn kmd vdt vn vmd r _ _ _ _ hl _ _ _ :=
    ⟨(offs, ks, vs), rfl, by simp [vsizee], by simp [vsizee], by simpa [elen] using hl⟩
  mapEntriesCons {offs ks vs k x rest} ihk ihv ih hraw l kdt kn kmd vdt vn vmd r hgk hgv hrk hrv hl h0 hle hi := by
    have hraw' := Bool.and_eq_true_iff.1 hraw
    have hraw'' := Bool.and_eq_true_iff.1 hraw'.1
    simp only [interpEntries] at hi
    obtain ⟨kv, hik, hi⟩ := (bind_ok _ _ _).1 hi
    obtain ⟨vv, hiv, hi⟩ := (bind_ok _ _ _).1 hi
    obtain ⟨r0, hir, _⟩ := (bind_ok _ _ _).1 hi
    obtain ⟨o1, o2, o3, o4⟩ := offs_next h0 hle
    have hrk := room_l hrk
    have hrv := room_r hrv
    obtain ⟨ks', hpk, hroomk⟩ := ihk hraw''.1 kdt kn kmd kv hgk (room_fst hrk) hik
    obtain ⟨vs', hpv, hroomv⟩ := ihv hraw''.2 vdt vn vmd vv hgv (room_fst hrv) hiv
    obtain ⟨r', hrest, hr1, hr2, hl2⟩ := ih (offs.dropLast ++ [l + (1 : Nat)]) ks' vs' hraw'.2 (l + (1 : Nat))
      kdt kn kmd vdt vn vmd r0 (hgk.push hraw''.1 hpk) (hgv.push hraw''.2 hpv) (room_rest hrk hroomk) (room_rest hrv hroomv)
      (by simp) o2 o3 hir
    exact ⟨r', (bind_ok _ _ _).2 ⟨_, incrementLast_total hl o1 h0, (bind_ok _ _ _).2 ⟨ks', hpk, (bind_ok _ _ _).2 ⟨vs', hpv, hrest⟩⟩⟩,
      room_skip_l (room_two hroomk hr1), room_skip_r (room_two hroomv hr2), o4 ▸ hl2⟩
  mapOpsNil := trivial
  mapOpsRefused := trivial
  mapOpsKey _ _ := trivial
  mapOpsValue _ _ := trivial


theorem push_completeH (ext : Ext) : ∀ (x : SVal), noRaw x = true → CompH ext x :=
  fun x hraw b => (complete_rows ext).push x b hraw

theorem pushElems_completeH (ext : Ext) : ∀ (xs : SVals), noRaws xs = true →
    ElemsCompH ext xs (fun large el offs => pushElems ext large el offs xs) :=
  fun xs hraw large el offs => (complete_rows ext).elems xs large el offs hraw

theorem pushCountElems_completeH (ext : Ext) : ∀ (xs : SVals), noRaws xs = true →
    CountCompH ext xs (fun el c => pushCountElems ext el c xs) :=
  fun xs hraw el c => (complete_rows ext).count xs el c hraw

theorem pushTupleElems_completeH (ext : Ext) : ∀ (xs : SVals), noRaws xs = true → TupleLoopH ext xs :=
  fun xs hraw fs0 s adds sfs => (complete_rows ext).tuple xs s hraw fs0 adds sfs

theorem pushFields_completeH (ext : Ext) : ∀ (fields : SFields), noRawf fields = true → FieldsLoopH ext fields :=
  fun fields hraw fs0 s adds sfs => (complete_rows ext).fields fields s hraw fs0 adds sfs

theorem pushStructEntries_completeH (ext : Ext) : ∀ (es : SEntries), noRawe es = true → EntriesLoopH ext es :=
  fun es hraw fs0 s adds sfs hm hsl ht hr hk hp => (complete_rows ext).structEntries es s hraw fs0 adds sfs hm hsl ht hr ⟨hk, hp⟩

theorem pushMapEntries_completeH (ext : Ext) : ∀ (es : SEntries), noRawe es = true → MapLoopH ext es :=
  fun es hraw offs l ks vs => (complete_rows ext).mapEntries es offs ks vs hraw l

end SaModel.Build
