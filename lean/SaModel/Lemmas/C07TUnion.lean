import SaModel.Lemmas.C07TTuple
/-
C07, tree level — enum variants: the variant list by position (`padNone`, `set`, `get?`) and the slot a variant sample
works on (`slot`); the union family is `Lemmas/C07TUnion2.lean`.
-/
namespace SaModel.Lemmas.C07
open SaModel SaModel.Trace SaModel.Props.C07

theorem Vs.get?_none : ∀ {vs : Variants} {j : Nat}, vs.get? j = none ↔ vs.length ≤ j :=
  fun {vs j} => C06.Variants.get?_none_iff vs j

theorem Vs.get?_padNone (vs : Variants) (k j : Nat) : (vs.padNone k).get? j =
    if j < vs.length then vs.get? j else if j < vs.length + k then some none else none := by
  rw [C06.Variants.get?_eq, C06.Variants.toList_padNone, C06.Variants.get?_eq, C06.Variants.length_eq,
    List.getElem?_append, List.getElem?_replicate]
  split
  · rfl
  · rename_i h
    by_cases h2 : j < vs.toList.length + k
    · rw [if_pos h2, if_pos (by omega)]
    · rw [if_neg h2, if_neg (by omega)]

theorem Vs.get?_set (vs : Variants) (i : Nat) (a : String) (t : Tracer) (j : Nat) :
    (vs.set i a t).get? j = if i = j then (vs.get? j).map (fun _ => some (a, t)) else vs.get? j := by
  rw [C06.Variants.get?_eq, C06.Variants.toList_set, C06.Variants.get?_eq, List.getElem?_set]
  split
  · rename_i h; subst h
    split
    · rename_i h; rw [List.getElem?_eq_getElem h]; rfl
    · rename_i h; rw [List.getElem?_eq_none (Nat.le_of_not_lt h)]; rfl
  · rfl

/-- the variant list after a sample of variant `(i, a)` whose slot tracer became `t` -/
def upd (vs : Variants) (i : Nat) (a : String) (t : Tracer) : Variants :=
  (vs.padNone (i + 1 - vs.length)).set i a t

/-- `get?` of the list padded to length `≥ m` -/
def padGet (vs : Variants) (m k : Nat) : Option (Option (String × Tracer)) :=
  if k < vs.length then vs.get? k else if k < m then some none else none

theorem padGet_eq (vs : Variants) (m k : Nat) : (vs.padNone (m - vs.length)).get? k = padGet vs m k := by
  rw [Vs.get?_padNone]; unfold padGet
  by_cases h1 : k < vs.length
  · simp [h1]
  · have : (k < vs.length + (m - vs.length)) = (k < m) := by simp; omega
    simp [h1, this]

theorem upd_length (vs : Variants) (i : Nat) (a : String) (t : Tracer) :
    (upd vs i a t).length = max vs.length (i + 1) := by
  unfold upd; rw [C06.Variants.length_set, C06.Variants.padNone_length]; omega

theorem upd_get (vs : Variants) (i : Nat) (a : String) (t : Tracer) (k : Nat) :
    (upd vs i a t).get? k = if k = i then some (some (a, t)) else padGet vs (i + 1) k := by
  unfold upd
  rw [Vs.get?_set, padGet_eq]
  by_cases h : i = k
  · subst h
    simp only [if_true]
    unfold padGet
    by_cases h1 : i < vs.length
    · simp only [h1, if_true]
      cases hg : vs.get? i with
      | none => have := Vs.get?_none.mp hg; omega
      | some x => rfl
    · simp [h1]
  · have : ¬ k = i := fun e => h e.symm
    simp [h, this]

/-- the tracer a sample of variant `(i, a)` works on: the slot's tracer (names must agree), a fresh tracer for an
unseen slot -/
def slot (p : String) (vs : Variants) (i : Nat) (a : String) : Option Tracer :=
  match padGet vs (i + 1) i with
  | some (some (prev, t)) => if prev = a then some t else none
  | some none => some (Tracer.new a (p ++ "." ++ a))
  | none => none

theorem VEq_length : ∀ {A B : Variants}, VEq A B → B.length = A.length
  | .nil, B, h => by rw [VEq] at h; subst h; rfl
  | .absent r, B, h => by
    rw [VEq] at h; obtain ⟨r', rfl, h⟩ := h
    simp [Variants.length, VEq_length h]
  | .present _ _ r, B, h => by
    rw [VEq] at h; obtain ⟨t', r', rfl, _, h⟩ := h
    simp [Variants.length, VEq_length h]

def SRel : Option (Option (String × Tracer)) → Option (Option (String × Tracer)) → Prop
  | none, none => True
  | some none, some none => True
  | some (some (n, t)), some (some (n', t')) => n = n' ∧ TEq t t'
  | _, _ => False

theorem VWF_get {o : Options} : ∀ {A : Variants}, VWF o A → ∀ j n t, A.get? j = some (some (n, t)) → WF o t
  | .nil, _, j, n, t, h => by simp [Variants.get?] at h
  | .absent r, hw, j, n, t, h => by
    rw [VWF] at hw
    cases j with
    | zero => simp [Variants.get?] at h
    | succ j => simp only [Variants.get?] at h; exact VWF_get hw j n t h
  | .present _ _ r, hw, j, n, t, h => by
    rw [VWF] at hw
    cases j with
    | zero => simp only [Variants.get?, Option.some.injEq, Prod.mk.injEq] at h; rw [← h.2]; exact hw.1
    | succ j => simp only [Variants.get?] at h; exact VWF_get hw.2 j n t h

theorem VWF_padNone {o : Options} : ∀ {A : Variants} (k : Nat), VWF o A → VWF o (A.padNone k)
  | .nil, k, _ => by
    simp only [Variants.padNone]
    induction k with
    | zero => simp only [Variants.nones]; rw [VWF]; trivial
    | succ k ih => simp only [Variants.nones]; rw [VWF]; exact ih
  | .absent r, k, h => by rw [VWF] at h; simp only [Variants.padNone]; rw [VWF]; exact VWF_padNone k h
  | .present _ _ r, k, h => by
    rw [VWF] at h; simp only [Variants.padNone]; rw [VWF]; exact ⟨h.1, VWF_padNone k h.2⟩

theorem slot_wf {o : Options} {p : String} {vs : Variants} {i : Nat} {a : String} {st : Tracer} (hw : VWF o vs)
    (h : slot p vs i a = some st) : WF o st := by
  unfold slot at h
  rw [← padGet_eq] at h
  have hw' := VWF_padNone (i + 1 - vs.length) hw
  cases hg : (vs.padNone (i + 1 - vs.length)).get? i with
  | none => rw [hg] at h; cases h
  | some x =>
    rw [hg] at h
    cases x with
    | none => simp only [Option.some.injEq] at h; subst h; rw [Tracer.new, WF]; trivial
    | some nt =>
      obtain ⟨prev, t⟩ := nt
      simp only at h
      split at h
      · cases h; exact VWF_get hw' i prev st hg
      · cases h

end SaModel.Lemmas.C07
