import SaModel.Lemmas.C06ExtStep
/-
C06: what every LATER state of a node that has absorbed a sample looks like.  `Was c o x t2`: `t2` is reached, by absorbing
any further samples, from the result of absorbing `x` into a well-formed node.  `was_later : Was c o x t2 → Later c o (fam o x) t2`
says, scheme by scheme, what such a node is: nullable after `None`; a primitive whose state still takes the leaf kind; a
container of the kind whose children have in turn absorbed the children of the sample (`Was` again: the element tracer every
item, the field found under a key the value filed under it, position `i` the `i`-th item, the variant's tracer the payload),
and whose other fields / positions are nullable.  Stable acceptance (SaModel/Lemmas/C06Stable.lean) and the closure
(SaModel/Lemmas/C06Interp*.lean) are inductions over samples that start from this description.
-/
namespace SaModel.Lemmas.C06
open SaModel SaModel.Trace SaModel.Lemmas.C07 SaModel.Props.C07

variable {c : Code} {o : Options}

def Was (c : Code) (o : Options) (x : SVal) (t2 : Tracer) : Prop :=
  ∃ a b, WF o a ∧ absorb c o a x = .ok b ∧ Steps c o b t2

theorem Was.steps {x : SVal} {t t' : Tracer} (h : Was c o x t) (hs : Steps c o t t') : Was c o x t' :=
  let ⟨a, b, hw, ha, h⟩ := h; ⟨a, b, hw, ha, h.trans hs⟩

theorem Was.wf {x : SVal} {t : Tracer} (h : Was c o x t) : WF o t :=
  let ⟨a, b, hw, ha, hs⟩ := h; hs.wf (absorb_wf c o x a b hw ha)

def Later (c : Code) (o : Options) : Fam → Tracer → Prop
  | .none, t => t.nullable = true
  | .wrap m v, t => (m = true → t.nullable = true) ∧ Was c o v t
  | .leaf a, t => a ∈ leafTypes o ∧
      if a = .null then t.nullable = true ∧ isUnknown t = false
      else ∃ n p nl ty, t = .primitive n p nl ty none ∧ ty ≠ .null ∧ act o (some ty, nl) a = .ok (some ty, nl)
  | .never, _ => False
  | .list items, t => t.enforce_depth_limit = .ok () ∧ ∃ n p nl i, t = .list n p nl i ∧ ∀ v ∈ items, Was c o v i
  | .map ks vs, t => t.enforce_depth_limit = .ok () ∧ ∃ n p nl k v, t = .map n p nl k v ∧
      (∀ x ∈ ks, Was c o x k) ∧ ∀ x ∈ vs, Was c o x v
  | .struct mode kvs, t => t.enforce_depth_limit = .ok () ∧ ∃ n p nl fs m s, t = .struct n p nl fs m s ∧
      ((c.struct_mode_join && mode == .map) = true → m = .map) ∧ s ≠ 0 ∧
      (∀ kv ∈ kvs, ∃ i ft, fs.indexOf kv.1 = some i ∧ fs.get? i = some ft ∧ Was c o kv.2 ft) ∧
      ∀ i ft, fs.get? i = some ft → ft.nullable = true ∨ ∃ kv ∈ kvs, fs.indexOf kv.1 = some i
  | .tuple items, t => t.enforce_depth_limit = .ok () ∧ ∃ n p nl ts, t = .tuple n p nl ts ∧
      (∀ i v, items[i]? = some v → ∃ ft, ts.get? i = some ft ∧ Was c o v ft) ∧
      (c.tuple_arity_nullable = true → ∀ i ft, ts.get? i = some ft → items.length ≤ i → ft.nullable = true)
  | .variant idx vn y, t => t.enforce_depth_limit = .ok () ∧ ∃ n p nl vs ft, t = .union n p nl vs ∧
      idx < VARIANT_ALLOC_LIMIT ∧ vs.get? idx = some (some (vn, ft)) ∧ Was c o y ft

theorem ensure_primitive_null_nullable (o : Options) {t t' : Tracer} (hw : WF o t)
    (h : t.ensure_primitive o .null = .ok t') : t'.nullable = true := by
  rcases ensure_primitive_leaf o hw.node h with ⟨n, p, s, s', hs, _, ha, rfl⟩ | ⟨_, _, _, rfl⟩
  · have ht := table_at nullTable_all o
    unfold nullTable at ht
    rw [leafStates_coerceView] at hs
    have hr := List.all_eq_true.mp ht _ hs
    rw [← act_coerceView, ha] at hr
    obtain ⟨t2, nl2⟩ := s'
    simp only at hr; subst hr
    cases t2 <;> rfl
  · exact mark_nullable_nullable t

theorem absorb_leaf_state (o : Options) {t t' : Tracer} {a : DataType} (hw : WF o t) (ha : a ∈ leafTypes o)
    (hnull : a ≠ .null) (h : t.ensure_primitive o a = .ok t') :
    ∃ n p ty' nl', t' = .primitive n p nl' ty' none ∧ ty' ≠ .null ∧ (some ty', nl') ∈ leafStates o ∧
      act o (some ty', nl') a = .ok (some ty', nl') := by
  rcases ensure_primitive_leaf o hw.node h with ⟨n, p, s, s', hs, _, hact, rfl⟩ | ⟨_, _, e, _⟩
  · obtain ⟨hm, _, hidem⟩ := step_facts o hs ha hact
    obtain ⟨ty', h1, h2⟩ := act_nonnull o hact
    obtain ⟨t2', nl'⟩ := s'
    simp only at h1; subst h1
    exact ⟨n, p, ty', nl', rfl, h2 (.inl hnull), hm, hidem⟩
  · exact absurd e hnull

theorem absorbAll_was : ∀ (vs : List SVal) (i0 i1 : Tracer), WF o i0 → absorbAll c o i0 vs = .ok i1 →
    ∀ v ∈ vs, Was c o v i1
  | [], _, _, _, _, _, hv => nomatch hv
  | y :: ys, i0, i1, hw, h, v, hv => by
    obtain ⟨j, ha, hys⟩ := absorbAll_cons_ok.mp h
    rcases List.mem_cons.mp hv with rfl | hv
    · exact ⟨i0, j, hw, ha, ys, hys⟩
    · exact absorbAll_was ys j i1 (absorb_wf c o y i0 j hw ha) hys v hv

theorem absorbTupleL_was (path : String) : ∀ (vs : List SVal) (tsA : Tracers) (pos : Nat) (tsB : Tracers), WFT o tsA →
    absorbTupleL c o path tsA pos vs = .ok tsB →
    ∀ i v, vs[i]? = some v → ∃ ft, tsB.get? (pos + i) = some ft ∧ Was c o v ft
  | [], _, _, _, _, _, i, v, hv => by simp at hv
  | x :: vs, tsA, pos, tsB, hwA, h, i, v, hv => by
    obtain ⟨ft, ft', hg, ha, h⟩ := absorbTupleL_cons_ok.mp h
    have hwA' := WFT_field_tracer_grow o path pos hwA
    have hft : WF o ft := (WFT_iff o _).mp hwA' _ _ hg
    cases i with
    | zero =>
      cases hv
      obtain ⟨hmidB, _, _⟩ := absorbTupleL_ext c o path vs _ (pos + 1) tsB h
      obtain ⟨b', hb', hsb⟩ := hmidB pos ft' (Tracers.get?_set_eq _ pos ft' (Tracers.get?_lt hg))
      exact ⟨b', hb', ft, ft', hft, ha, hsb⟩
    | succ i =>
      obtain ⟨b', hb', hwas⟩ := absorbTupleL_was path vs _ (pos + 1) tsB
        (WFT_set o pos hwA' (absorb_wf c o x ft ft' hft ha)) h i v hv
      exact ⟨b', by rw [show pos + (i + 1) = pos + 1 + i by omega]; exact hb', hwas⟩

theorem absorbKVs_was (path : String) (s : Nat) : ∀ (kvs : List (String × SVal)) (fsA fsB : TFields),
    WFF o (s + 1) fsA → absorbKVs c o path s fsA kvs = .ok fsB →
    ∀ kv ∈ kvs, ∃ i ft, fsB.indexOf kv.1 = some i ∧ fsB.get? i = some ft ∧ Was c o kv.2 ft
  | [], _, _, _, _, kv, hkv => nomatch hkv
  | kv0 :: kvs, fsA, fsB, hwA, h, kv, hkv => by
    obtain ⟨ft, ft', hg, ha, h⟩ := absorbKVs_cons_ok.mp h
    have hwA' := ensure_field_wff o path s kv0.1 hwA
    have hft : WF o ft := ((WFF_iff o _ _).mp hwA').1 _ _ hg
    rcases List.mem_cons.mp hkv with rfl | hkv
    · have hmidB := (absorbKVs_ext c o path s kvs _ fsB h).1
      obtain ⟨b', hb', hsb⟩ := hmidB.1 _ ft' (TFields.get?_set_eq _ _ ft' (TFields.get?_lt hg))
      exact ⟨_, b', hmidB.2 _ _ (by rw [TFields.indexOf_set]; exact ensure_field_indexOf path s fsA kv.1), hb',
        ft, ft', hft, ha, hsb⟩
    · exact absorbKVs_was path s kvs _ fsB (WFF_set o _ _ hwA' (absorb_wf c o kv0.2 ft ft' hft ha)) h kv hkv

/-- after the pass of a tuple sample of `k` items under the repaired `ensure_tuple`, every position from `k` on of any
later state of the node is nullable: it was marked by `ensure_tuple`, or it was added later (nullable) -/
theorem tuple_tail_nullable {c : Code} {o : Options} {t : Tracer} {n p : String} {nl : Bool} {tsA tsB tsC : Tracers}
    {vs : List SVal} (hc : c.tuple_arity_nullable = true) (h1 : t.ensure_tuple c vs.length = .ok (.tuple n p nl tsA))
    (h2 : absorbTupleL c o p tsA 0 vs = .ok tsB) (hext : TExt c o tsB tsC) :
    ∀ i x, tsC.get? i = some x → vs.length ≤ i → x.nullable = true := by
  intro i x hg hki
  obtain ⟨hAB, hlenAB, _⟩ := absorbTupleL_ext c o p vs tsA 0 tsB h2
  have hlenB : tsB.length = tsA.length := hlenAB (by have := ensure_tuple_len hc h1; omega)
  cases hb : tsB.get? i with
  | none => exact hext.2 hc i x hg hb
  | some b =>
    obtain ⟨x', hg', hs'⟩ := hext.1 i b hb
    rw [hg] at hg'; cases hg'
    obtain ⟨a, ha⟩ := Tracers.get?_of_lt (show i < tsA.length by have := Tracers.get?_lt hb; omega)
    obtain ⟨b', hb', hsb⟩ := hAB i a ha
    rw [hb] at hb'; cases hb'
    exact hs'.keeps.1 (hsb.keeps.1 (ensure_tuple_nullable hc h1 i a ha hki))

/-- a field whose counter equals the current sample number was either so before the pass or is named by the sample -/
theorem absorbKVs_seen (c : Code) (o : Options) (path : String) (s : Nat) : ∀ (kvs : List (String × SVal))
    (fsA fsB : TFields), absorbKVs c o path s fsA kvs = .ok fsB →
    ∀ i, lastSeen? fsB i = some s → lastSeen? fsA i = some s ∨ ∃ kv ∈ kvs, fsB.indexOf kv.1 = some i
  | [], fsA, fsB, h, i, hl => by simp [absorbKVs] at h; subst h; exact .inl hl
  | kv :: kvs, fsA, fsB, h, i, hl => by
    obtain ⟨ft, ft', hg, ha, h⟩ := absorbKVs_cons_ok.mp h
    rcases absorbKVs_seen c o path s kvs _ fsB h i hl with h1 | ⟨kv', hkv', h2⟩
    · rw [lastSeen?_set] at h1
      by_cases e : i = (ensure_field path s fsA kv.1).1
      · right
        refine ⟨kv, by simp, ?_⟩
        have hidx := ensure_field_indexOf path s fsA kv.1
        rw [← TFields.indexOf_set _ (ensure_field path s fsA kv.1).1 ft'] at hidx
        rw [e]
        exact (absorbKVs_ext c o path s kvs _ fsB h).1.2 _ _ hidx
      · exact .inl (ensure_field_lastSeen_ne path s fsA kv.1 i s e h1)
    · exact .inr ⟨kv', by simp [hkv'], h2⟩

/-- after the pass of a struct sample and `end`, a field of any later state of the node is nullable unless the sample
named it: a field the pass did not stamp was marked by `end`, a field that appeared later was created nullable -/
theorem pass_nullable_or_named {c : Code} {o : Options} {p : String} {s : Nat} {kvs : List (String × SVal)}
    {fsA fsB fs2 : TFields} (hwA : WFF o s fsA) (h2 : absorbKVs c o p s fsA kvs = .ok fsB)
    (hfs : FsExt c o (fsB.end_ s) fs2) (hnew : NewNullable (fsB.end_ s) fs2) {i : Nat} {t : Tracer}
    (hg2 : fs2.get? i = some t) : t.nullable = true ∨ ∃ kv ∈ kvs, fsB.indexOf kv.1 = some i := by
  cases hgE : (fsB.end_ s).get? i with
  | none => exact .inl (hnew i t hg2 hgE)
  | some e =>
    have hlt : i < fsB.length := by have := TFields.get?_lt hgE; rw [TFields.length_end] at this; exact this
    obtain ⟨b, hb⟩ := TFields.get?_of_lt hlt
    obtain ⟨lb, hlb⟩ := lastSeen?_of_lt hlt
    have hgE' := TFields.get?_end s fsB i b lb hb hlb
    rw [hgE] at hgE'
    simp only [Option.some.injEq] at hgE'
    obtain ⟨t', hg2', hsE⟩ := hfs.1 i e hgE
    rw [hg2] at hg2'; cases hg2'
    by_cases hlbs : lb = s
    · subst hlbs
      rcases absorbKVs_seen c o p lb kvs fsA fsB h2 i hlb with hA | hnamed
      · have := ((WFF_iff o _ _).mp hwA).2 i lb hA
        omega
      · exact .inr hnamed
    · left
      apply hsE.keeps.1
      have : (lb != s) = true := by simpa using hlbs
      rw [if_pos this] at hgE'
      rw [hgE']; exact mark_nullable_nullable b

theorem was_later {x : SVal} {t2 : Tracer} (h : Was c o x t2) : Later c o (fam o x) t2 := by
  obtain ⟨a, b, hw, ha, hs⟩ := h
  have hw' := absorb_wf c o x a b hw ha
  have hr := (absorb_ok_iff a b x).mp ha
  -- a later state sits at the path of `a`, so it passes the depth check of an `ensure_*` method if `a` did
  have hd : a.enforce_depth_limit = .ok () → t2.enforce_depth_limit = .ok () :=
    (enforce_depth_limit_path (hs.keeps.2.2.2.trans (absorb_keeps c o x a b ha).2.2.2)).trans
  cases hf : fam o x <;> rw [hf] at hr
  case none => cases hr; exact hs.keeps.1 (mark_nullable_nullable a)
  case wrap m v =>
    refine ⟨fun hm => ?_, _, b, ?_, hr, hs⟩
    · subst hm; exact hs.keeps.1 ((absorb_keeps c o v _ _ hr).1 (mark_nullable_nullable a))
    · cases m
      · exact hw
      · exact WF_mark_nullable o hw
  case leaf ty =>
    refine ⟨hr.1, ?_⟩
    by_cases hnull : ty = .null
    · subst hnull
      exact (if_pos rfl).mpr ⟨hs.keeps.1 (ensure_primitive_null_nullable o hw hr.2),
        hs.keeps.2.1 (ensure_primitive_mono o hr.2).2.1⟩
    · obtain ⟨n, p, ty', nl', rfl, hty', hm, hidem⟩ := absorb_leaf_state o hw hr.1 hnull hr.2
      obtain ⟨nl2, ty2, rfl, hty2, ys, hys, hrun⟩ := steps_extShape hw' hs hty'
      exact (if_neg hnull).mpr ⟨n, p, nl2, ty2, rfl, hty2, run_stays o hr.1 ys _ _ hm hys hidem hrun⟩
  case never => exact hr
  case list items =>
    obtain ⟨n, p, nl, i0, i1, h1, h2, rfl⟩ := hr
    obtain ⟨nl2, i2, rfl, hsi⟩ := steps_extShape hw' hs
    exact ⟨hd (ensure_list_ok h1).1, n, p, nl2, i2, rfl,
      fun v hv => (absorbAll_was _ i0 i1 (ensure_list_kids (WF_new o) h1 hw.kids) h2 v hv).steps hsi⟩
  case map ks vs =>
    obtain ⟨n, p, nl, k0, v0, k1, v1, h1, h2, h3, rfl⟩ := hr
    obtain ⟨nl2, k2, v2, rfl, hsk, hsv⟩ := steps_extShape hw' hs
    have hwi := ensure_map_kids (WF_new o) h1 hw.kids
    exact ⟨hd (ensure_map_ok h1).1, n, p, nl2, k2, v2, rfl,
      fun x hx => (absorbAll_was _ k0 k1 hwi.1 h2 x hx).steps hsk,
      fun x hx => (absorbAll_was _ v0 v1 hwi.2 h3 x hx).steps hsv⟩
  case struct mode kvs =>
    obtain ⟨n, p, nl, fsA, m, s, fsB, h1, h2, rfl⟩ := hr
    obtain ⟨nl2, fs2, m2, s2, rfl, hfs, hss, hmm, hnew⟩ := steps_extShape hw' hs
    have hwA := ensure_struct_wf o hw h1
    have hBC : FsExt c o fsB fs2 := (end_ext c o s fsB).1.trans hfs
    refine ⟨hd (ensure_struct_ok h1).1, n, p, nl2, fs2, m2, s2, rfl, fun hc => hmm (ensure_struct_mode h1 hc),
      by omega, fun kv hkv => ?_, fun i ft hg => ?_⟩
    · obtain ⟨i, b', hi, hb', hwas⟩ := absorbKVs_was p s kvs fsA fsB (WFF_mono o (Nat.le_succ _) hwA) h2 kv hkv
      obtain ⟨ft, hft, hsf⟩ := hBC.1 i b' hb'
      exact ⟨i, ft, hBC.2 _ _ hi, hft, hwas.steps hsf⟩
    · exact (pass_nullable_or_named hwA h2 hfs (hnew (by omega)) hg).imp id
        fun ⟨kv, hkv, hi⟩ => ⟨kv, hkv, hBC.2 _ _ hi⟩
  case tuple items =>
    obtain ⟨n, p, nl, tsA, tsB, h1, h2, rfl⟩ := hr
    obtain ⟨nl2, tsC, rfl, hext, hnew⟩ := steps_extShape hw' hs
    refine ⟨hd (ensure_tuple_ok h1).1, n, p, nl2, tsC, rfl, fun i v hv => ?_,
      fun hc => tuple_tail_nullable hc h1 h2 ⟨hext, hnew⟩⟩
    obtain ⟨b', hb', hwas⟩ := absorbTupleL_was p items tsA 0 tsB
      ((WFT_iff o _).mpr (ensure_tuple_kids (WF_new o) (fun _ => WF_mark_nullable o) h1 hw.kids)) h2 i v hv
    rw [Nat.zero_add] at hb'
    obtain ⟨ft, hft, hsf⟩ := hext i b' hb'
    exact ⟨ft, hft, hwas.steps hsf⟩
  case variant idx vn y =>
    obtain ⟨n, p, nl, vs0, vs, nm, vt, vt', h1, h2, h3, h4, rfl⟩ := hr
    obtain ⟨hlim, ⟨vt0, hvt0⟩, _, hnewv, _⟩ := ensure_variant_ok h2
    rw [h3] at hvt0
    simp only [Option.some.injEq, Prod.mk.injEq] at hvt0
    obtain ⟨rfl, rfl⟩ := hvt0
    have hwvt : WF o vt := by
      rcases hnewv idx nm vt h3 with hh | hh
      · exact ensure_union_kids h1 hw.kids idx nm vt hh
      · rw [hh]; exact WF_new o _ _
    obtain ⟨nl2, vs2, rfl, hext⟩ := steps_extShape hw' hs
    obtain ⟨c2, hc2, hsc2⟩ := hext idx nm vt' (Variants.get?_set_eq _ _ _ _ (Variants.get?_lt h3))
    exact ⟨hd (ensure_union_ok h1).1, n, p, nl2, vs2, c2, rfl, hlim, hc2, vt, vt', hwvt, h4, hsc2⟩

end SaModel.Lemmas.C06
