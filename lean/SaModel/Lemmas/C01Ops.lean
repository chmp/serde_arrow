import SaModel.Lemmas.C01Struct
import SaModel.Lemmas.C10TakePush
import SaModel.Lemmas.C01DefaultAt
/-
R1 for `serialize_default` (k placeholders) and `serialize_none` (its case k = 1) on the CHILDLESS builder families
(`B.isFlat`), where `WFH` is `WFB`: the observable chain (Lemmas/C01ObsOps.lean) starts from them; the scalar calls on
these families are Lemmas/C01Interp.lean (`stored_scalar`), here only what they need of `convLeaf` and of value builders
that refuse strings.  For every family: `pushDefaultK_appends`, `pushNone_appends`, `pushScalar_appends` in
Lemmas/C01Strict.lean.  Also: `Safe` / `DefSafe` are properties of the schema.
-/
namespace SaModel.Build
open SaModel SaModel.Spec

/-! ### `Safe` / `DefSafe` are properties of what `take` leaves behind (the schema) -/

theorem isNullable_takeRest : ∀ (b : B), (takeRest b).isNullable = b.isNullable
  | .null _ _ => rfl
  | .unknownVariant _ => rfl
  | .leaf _ _ v _ => by cases v <;> rfl
  | .bytes _ _ v _ _ => by cases v <;> rfl
  | .bytesView _ _ v _ _ => by cases v <;> rfl
  | .fixedSizeBinary _ _ _ v _ _ => by cases v <;> rfl
  | .list _ _ _ v _ _ => by cases v <;> rfl
  | .fixedSizeList _ _ _ _ v _ _ => by cases v <;> rfl
  | .map _ _ v _ _ _ => by cases v <;> rfl
  | .struct _ _ v _ _ _ _ => by cases v <;> rfl
  | .dictionary _ idx _ _ => by simp only [takeRest, B.isNullable]; exact isNullable_takeRest idx
  | .union _ _ _ _ _ => rfl

theorem isPlaceholder_takeRest (b : B) : (takeRest b).isPlaceholder = b.isPlaceholder := by cases b <;> rfl

mutual
theorem DefSafe_takeRest : ∀ (b : B), DefSafe (takeRest b) ↔ DefSafe b
  | .null _ _ | .unknownVariant _ | .leaf _ _ _ _ | .bytes _ _ _ _ _ | .bytesView _ _ _ _ _
  | .fixedSizeBinary _ _ _ _ _ _ | .list _ _ _ _ _ _ | .map _ _ _ _ _ _ => Iff.rfl
  | .fixedSizeList _ _ _ _ _ _ el => DefSafe_takeRest el
  | .struct _ _ _ fs _ _ _ => DefSafeL_takeRest fs
  | .dictionary _ idx _ _ => by simp only [takeRest, DefSafe, isNullable_takeRest, DefSafe_takeRest idx]
  | .union _ fs _ _ _ => DefSafeFirst_takeRest fs
theorem DefSafeL_takeRest : ∀ (fs : BL), DefSafeL (takeRestAll fs) ↔ DefSafeL fs
  | .nil => Iff.rfl
  | .cons b _ r => by simp only [takeRestAll, DefSafeL, DefSafe_takeRest b, DefSafeL_takeRest r]
theorem DefSafeFirst_takeRest : ∀ (fs : BL), DefSafeFirst (takeRestAll fs) ↔ DefSafeFirst fs
  | .nil => Iff.rfl
  | .cons b _ r => by
    simp only [takeRestAll, DefSafeFirst, isPlaceholder_takeRest, DefSafe_takeRest b, DefSafeFirst_takeRest r]
end

theorem isDict_takeRest (b : B) : (takeRest b).isDict = b.isDict := by cases b <;> rfl

mutual
theorem Safe_takeRest : ∀ (b : B), Safe (takeRest b) ↔ Safe b
  | .null _ _ | .unknownVariant _ | .leaf _ _ _ _ | .bytes _ _ _ _ _ | .bytesView _ _ _ _ _
  | .fixedSizeBinary _ _ _ _ _ _ => Iff.rfl
  | .list _ _ _ _ _ el => Safe_takeRest el
  | .fixedSizeList _ _ _ _ v _ el => by
    simp only [takeRest, Safe, Option.isSome_map, Safe_takeRest el, DefSafe_takeRest el]
  | .map _ _ _ _ ks vs => by simp only [takeRest, Safe, Safe_takeRest ks, Safe_takeRest vs]
  | .struct _ _ v fs _ _ _ => by simp only [takeRest, Safe, Option.isSome_map, SafeL_takeRest fs, DefSafeL_takeRest fs]
  | .dictionary _ idx vals _ => by
    simp only [takeRest, Safe, Safe_takeRest idx, Safe_takeRest vals, isDict_takeRest idx]
  | .union _ fs _ _ _ => SafeL_takeRest fs
theorem SafeL_takeRest : ∀ (fs : BL), SafeL (takeRestAll fs) ↔ SafeL fs
  | .nil => Iff.rfl
  | .cons b _ r => by simp only [takeRestAll, SafeL, Safe_takeRest b, SafeL_takeRest r]
end

theorem Safe.of_takeRest {b b' : B} (h : takeRest b' = takeRest b) (hs : Safe b) : Safe b' :=
  (Safe_takeRest b').1 (h ▸ (Safe_takeRest b).2 hs)

theorem DefSafe.of_takeRest {b b' : B} (h : takeRest b' = takeRest b) (hs : DefSafe b) : DefSafe b' :=
  (DefSafe_takeRest b').1 (h ▸ (DefSafe_takeRest b).2 hs)

theorem isNullable_of_takeRest {b b' : B} (h : takeRest b' = takeRest b) : b'.isNullable = b.isNullable := by
  rw [← isNullable_takeRest b', h, isNullable_takeRest]

/-- the childless builder families -/
def B.isFlat : B → Bool
  | .null _ _ | .unknownVariant _ | .leaf _ _ _ _ | .bytes _ _ _ _ _ | .bytesView _ _ _ _ _
  | .fixedSizeBinary _ _ _ _ _ _ => true
  | _ => false

/-! ### `serialize_default` × k -/

theorem iter_lenv : ∀ (k len : Nat) (v : Validity), VLen v len →
    iter k (fun (s : Nat × Validity) => (.ok (s.1 + 1, setValidityDefault s.2 s.1) : R (Nat × Validity))) (len, v) =
      .ok (len + k, v.map (· ++ List.replicate k false))
  | 0, len, v, _ => by cases v <;> simp [iter]
  | k + 1, len, v, hv => by
    simp only [iter, bind, Except.bind]
    rw [setValidityDefault_eq hv, iter_lenv k (len + 1) _ (hv.snoc false)]
    have e : len + 1 + k = len + (k + 1) := by omega
    rw [e]
    cases v <;> simp [List.replicate_succ]

/-- a builder whose `serialize_default` is a step on its own state only -/
theorem iter_rows {α} (mk : α → B) (f : α → R α) (nl : Bool)
    (hstep : ∀ a a', WFB (mk a) → (mk a).isNullable = nl → f a = .ok a' →
      WFB (mk a') ∧ (mk a').isNullable = nl ∧ ∃ l, dec (mk a') = dec (mk a) ++ [l] ∧ (nl = true → l = .null))
    (k : Nat) (a a' : α) (hwf : WFB (mk a)) (hn : (mk a).isNullable = nl) (h : iter k f a = .ok a') :
    WFB (mk a') ∧ ∃ ls, ls.length = k ∧ dec (mk a') = dec (mk a) ++ ls ∧ (nl = true → ls = List.replicate k .null) := by
  have := iter_inv (fun i x => WFB (mk x) ∧ (mk x).isNullable = nl ∧
      ∃ ls, ls.length = i ∧ dec (mk x) = dec (mk a) ++ ls ∧ (nl = true → ls = List.replicate i .null)) f (by
    intro i x x' ⟨hw, hnl, ls, hl, hd, hnull⟩ hf
    obtain ⟨hw', hnl', l, hd', hl'⟩ := hstep x x' hw hnl hf
    refine ⟨hw', hnl', ls ++ [l], by simp [hl], by rw [hd', hd, List.append_assoc], ?_⟩
    intro hn
    rw [hnull hn, hl' hn, List.replicate_succ']) k 0 a a' ⟨hwf, hn, [], rfl, by simp, by intro; rfl⟩ h
  simp only [Nat.zero_add] at this
  exact ⟨this.1, this.2.2⟩

theorem isSome_of_setValidity_false {v v' : Validity} {n : Nat} (hv : VLen v n) (h : setValidity v n false = .ok v') :
    v' = v.map (· ++ [false]) ∧ v.isSome = true := by
  obtain ⟨h1, h2⟩ := setValidity_ok hv h
  refine ⟨h1, ?_⟩
  cases v with
  | none => simp at h2
  | some _ => rfl

/-- `k` placeholders into a childless builder append `k` rows (nulls when the builder is nullable), a null appends the row
`null` (`pushNone_ok_iff`): the childless half of what Lemmas/C01Strict.lean states for every builder, and where the
observable chain starts -/
theorem appends_default_flat : DefaultCases
    (fun b k b' => b.isFlat = true → WFB b →
      WFB b' ∧ ∃ ls, ls.length = k ∧ dec b' = dec b ++ ls ∧ (b.isNullable = true → ls = List.replicate k .null))
    (fun _ _ _ => True) where
  defNull {p len k} _ _ := ⟨by simp [WFB], List.replicate k .null, by simp, null_step p len k, fun _ => rfl⟩
  defUnknown _ hwf := ⟨hwf, [], rfl, by simp, by intro h; cases h⟩
  defLeaf {p kind v vals k v' vals'} h1 _ hwf := by
    refine iter_rows (fun (s : Validity × List Int) => B.leaf p kind s.1 s.2) _ v.isSome ?_ k (v, vals) (v', vals') hwf rfl h1
    intro a a' hw hn ha
    cases ha
    have hv : VLen a.1 a.2.length := by simpa [WFB] using hw
    rw [setValidityDefault_eq hv]
    obtain ⟨h1, h2⟩ := leaf_step hw false 0
    refine ⟨h1, by simpa [B.isNullable] using hn, _, h2, ?_⟩
    intro hs; exact rowOf_false_of_isSome (hn.trans hs) _
  defBytes {p ty v offs data k v' offs'} h1 _ hwf := by
    refine iter_rows (fun (s : Validity × List Int) => B.bytes p ty s.1 s.2 data) _ v.isSome ?_ k (v, offs) (v', offs') hwf rfl h1
    intro a a' hw hn ha
    obtain ⟨o, ho, ha⟩ := (bind_ok _ _ _).1 ha
    cases ha
    obtain ⟨l, hl, rfl⟩ := duplicateLast_ok ho
    have hl' := bytes_last hw
    rw [hl'] at hl; cases hl
    have hv : VLen a.1 (a.2.length - 1) := by simp only [WFB] at hw; exact hw.2
    rw [setValidityDefault_eq hv]
    obtain ⟨h1, h2⟩ := bytes_step hw false []
    simp only [List.length_nil, Int.natCast_zero, Int.add_zero, List.append_nil] at h1 h2
    refine ⟨h1, by simpa [B.isNullable] using hn, _, h2, ?_⟩
    intro hs; exact rowOf_false_of_isSome (hn.trans hs) _
  defView {p ty v views buf k v' views'} h1 _ hwf := by
    refine iter_rows (fun (s : Validity × List Nat) => B.bytesView p ty s.1 s.2 buf) _ v.isSome ?_ k (v, views) (v', views') hwf rfl h1
    intro a a' hw hn ha
    cases ha
    have hv : VLen a.1 a.2.length := by simp only [WFB] at hw; exact hw.1
    rw [setValidityDefault_eq hv]
    obtain ⟨h1, h2⟩ := view_step hw false (packInline []) [] (decodeView_inline_isOk _ _ (by simp))
      (by simpa using view_buf_lt hw)
    simp only [List.append_nil] at h1 h2
    refine ⟨h1, by simpa [B.isNullable] using hn, _, h2, ?_⟩
    intro hs; exact rowOf_false_of_isSome (hn.trans hs) _
  defFixedSizeBinary {p n len v buf cur k len' v' buf'} h1 _ hwf := by
    refine iter_rows (fun (s : Nat × Validity × Bytes) => B.fixedSizeBinary p n s.1 s.2.1 s.2.2 cur) _ v.isSome ?_ k
      (len, v, buf) (len', v', buf') hwf rfl h1
    intro a a' hw hn ha
    cases ha
    have hv : VLen a.2.1 a.1 := by simp only [WFB] at hw; exact hw.1
    rw [setValidityDefault_eq hv]
    obtain ⟨h1, h2⟩ := fsb_step hw false (List.replicate n 0) (by simp) cur
    refine ⟨h1, by simpa [B.isNullable] using hn, _, h2, ?_⟩
    intro hs; exact rowOf_false_of_isSome (hn.trans hs) _
  defList _ hf := nomatch hf
  defFixedSizeList _ _ _ hf := nomatch hf
  defMap _ hf := nomatch hf
  defStruct _ _ _ hf := nomatch hf
  defDict _ _ hf := nomatch hf
  defUnionNil hf := nomatch hf
  defUnion _ _ _ _ hf := nomatch hf
  allNil := trivial
  allCons _ _ _ _ := trivial

theorem pushDefaultK_appends_flat : ∀ (b : B) (k : Nat) (b' : B), b.isFlat = true → WFB b → pushDefaultK b k = .ok b' →
    WFB b' ∧ ∃ ls, ls.length = k ∧ dec b' = dec b ++ ls ∧ (b.isNullable = true → ls = List.replicate k .null) :=
  fun b k b' hf hw h => appends_default_flat.default b k b' h hf hw

/-! ### scalar calls -/

theorem tryInto_ok {t : IntTy} {v w : Int} (h : tryInto t v = .ok w) : w = v := by
  unfold tryInto at h
  split at h
  · cases h; rfl
  · simp [fail] at h

theorem convLeaf_int {ext : Ext} {k : LeafKind} {t : IntTy} {v val j : Int}
    (h : convLeaf ext k (.int t v) = .ok val) (hj : leafVal k val = .int j) : j = v := by
  have e1 : ∀ {a b : Int}, (Except.ok a : R Int) = .ok b → b = a := by intro a b h; cases h; rfl
  -- an integer row is the stored value itself (booleans and floats show as other rows)
  have hjv : j = val := by cases k <;> simp only [leafVal] at hj <;> cases hj <;> rfl
  subst hjv
  cases k with
  | int t' => simp only [convLeaf] at h; exact tryInto_ok h
  | duration u =>
    simp only [convLeaf] at h
    split at h
    · exact tryInto_ok h
    · exact e1 h
  | bool | f16 | f32 | f64 => simp only [leafVal] at hj; cases hj
  | decimal p s => simp [convLeaf, notSupported, fail] at h
  | _ =>
    cases t <;> simp only [convLeaf, notSupported, fail] at h <;>
      first
      | (cases h; done)
      | exact tryInto_ok h
      | exact e1 h
      | (split at h <;> first | exact e1 h | cases h)

theorem isUtf8B_takeRest (b : B) : (takeRest b).isUtf8B = b.isUtf8B := by cases b <;> rfl

theorem refusesStr_takeRest (b : B) : (takeRest b).refusesStr = b.refusesStr := by cases b <;> rfl

/-- a value builder that refuses strings refuses every string -/
theorem pushScalar_refusesStr (ext : Ext) {vals vals' : B} {s : String} (hr : vals.refusesStr = true)
    (h : pushScalar ext vals (.str s) = .ok vals') : False := by
  cases vals with
  | leaf p k v xs =>
    cases k <;> simp [B.refusesStr] at hr <;>
      simp [pushScalar, convLeaf, notSupported, fail, bind, Except.bind] at h
  | bytes p ty v offs data =>
    simp only [B.refusesStr, Bool.not_eq_true'] at hr
    simp [pushScalar, hr, notSupported, fail, bind, Except.bind] at h
  | bytesView p ty v views buf =>
    simp only [B.refusesStr, Bool.not_eq_true'] at hr
    simp [pushScalar, hr, notSupported, fail, bind, Except.bind] at h
  | dictionary _ _ _ _ => simp [B.refusesStr] at hr
  | _ => simp [pushScalar, notSupported, fail] at h

theorem isIntLeaf_takeRest (b : B) : (takeRest b).isIntLeaf = b.isIntLeaf := by
  cases b with
  | leaf p k v vals => cases k <;> rfl
  | _ => rfl

end SaModel.Build
