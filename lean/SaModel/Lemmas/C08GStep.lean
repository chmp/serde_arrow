import SaModel.Lemmas.C08GBase
/-
C08 — the general sample invariant of `from_samples`: absorbing ANY value `x` of the type `ty` into the tracer of the
values `xs` gives the tracer of `xs ++ [x]` (`absorb_gen`), for every walkable type description with unique field names.
-/
namespace SaModel.Lemmas.C08
open SaModel SaModel.Trace SaModel.Trace.Spec

theorem absorbSeq_gen (c : Code) (o : Options) (t : Ty) (S : List SVal → Tracer)
    (hS : ∀ E v, hasTy o v t = true → absorb c o (S E) v = .ok (S (E ++ [v]))) :
    ∀ (items : SVals) (E : List SVal), hasTyAll o items t = true →
      absorbSeq c o (S E) items = .ok (S (E ++ items.toList))
  | .nil, E, _ => by simp only [absorbSeq, SVals.toList, List.append_nil]
  | .cons v r, E, h => by
    simp only [hasTyAll, Bool.and_eq_true] at h
    simp only [absorbSeq, hS E v h.1, bind, Except.bind, absorbSeq_gen c o t S hS r (E ++ [v]) h.2, SVals.toList,
      List.append_assoc, List.singleton_append]

theorem absorbEntries_gen (c : Code) (o : Options) (kt vt : Ty) (SK SV : List SVal → Tracer)
    (hK : ∀ E v, hasTy o v kt = true → absorb c o (SK E) v = .ok (SK (E ++ [v])))
    (hV : ∀ E v, hasTy o v vt = true → absorb c o (SV E) v = .ok (SV (E ++ [v]))) :
    ∀ (es : SEntries) (K V : List SVal), hasEntries o es kt vt = true →
      absorbEntriesAsMap c o (SK K) (SV V) es = .ok (SK (K ++ entryKeys es), SV (V ++ entryVals es))
  | .nil => by intro K V _; simp only [absorbEntriesAsMap, entryKeys, entryVals, List.append_nil]
  | .cons k v r => by
    intro K V h
    simp only [hasEntries, Bool.and_eq_true] at h
    simp only [absorbEntriesAsMap, hK K k h.1.1, hV V v h.1.2, bind, Except.bind,
      absorbEntries_gen c o kt vt SK SV hK hV r (K ++ [k]) (V ++ [v]) h.2, entryKeys, entryVals,
      List.append_assoc, List.singleton_append]

/-! ### the field loop of a struct: a first field that is not named stays -/

theorem absorbFields_shift_gen (c : Code) (o : Options) (path : String) (sn : Nat) (n0 : String) (l0 : Nat) (t0 : Tracer) :
    ∀ (fs : TyFields) (sf : SFields) (rest : TFields), hasFields o sf fs = true → ¬ n0 ∈ fs.names →
    absorbFields c o path sn (.cons n0 l0 t0 rest) sf = (absorbFields c o path sn rest sf).map (TFields.cons n0 l0 t0)
  | .nil => by intro sf _ hf _; rw [hasFields_nil hf]; simp only [absorbFields]; rfl
  | .cons key t r => by
    intro sf rest hf h
    obtain ⟨a, v, sr, rfl, _, h3⟩ := hasFields_cons hf
    simp only [TyFields.names, List.mem_cons, not_or] at h
    simp only [absorbFields, ensure_field_cons path sn n0 l0 t0 rest key h.1, TFields.get?]
    cases (ensure_field path sn rest key).2.get? (ensure_field path sn rest key).1 with
    | none => rfl
    | some ft =>
      simp only
      cases absorb c o ft v with
      | error e => rfl
      | ok ft' =>
        simp only [bind, Except.bind, TFields.set]
        exact absorbFields_shift_gen c o path sn n0 l0 t0 r sr _ h3 h.2

theorem sstateFields_end (o : Options) (p : String) (m : Nat) : ∀ (fs : TyFields) (XS : List SFields),
    (sstateFields o p (m + 1) fs XS).end_ m = sstateFields o p (m + 1) fs XS
  | .nil, _ => rfl
  | .cons n t r, XS => by
    simp only [sstateFields, TFields.end_, Nat.add_sub_cancel, bne_self_eq_false, Bool.false_eq_true, if_false,
      sstateFields_end o p m r]

theorem enum_gen_of (c : Code) (o : Options) (en : String) (vs : TyVariants) (n p : String) (nl : Bool)
    (hd : tooDeep p = false) (hlim : vs.length ≤ VARIANT_ALLOC_LIMIT)
    (hpay : ∀ (j : Nat) vn T, (vList vs)[j]? = some (vn, T) → ∀ ys y, hasTy o y T = true →
      absorb c o (sstate o vn (childPath p vn) false T ys) y = .ok (sstate o vn (childPath p vn) false T (ys ++ [y])))
    (xs : List SVal) (x : SVal) (hx : hasTy o x (.enum en vs) = true) :
    absorb c o (sstate o n p nl (.enum en vs) xs) x = .ok (sstate o n p nl (.enum en vs) (xs ++ [x])) := by
  obtain ⟨idx, vn, T, y, hget, hpa, hpo, hy, habs⟩ := variant_absorb c o en vs x hx
  have hidx : idx < vs.length := by
    rw [← vList_length]
    exact (List.getElem?_eq_some_iff.mp hget).1
  have hs := payloadsAt_snoc_same xs x y idx hpa
  have ho : ∀ k, k ≠ 0 + idx → payloadsAt k (xs ++ [x]) = payloadsAt k xs :=
    fun k hk => payloadsAt_snoc_other xs x k (hpo k (by omega))
  obtain ⟨V', h1, h2, h3⟩ := sVg_ensure o p xs (xs ++ [x]) y (vList vs) 0 idx vn T hget
    (by rw [Nat.zero_add]; exact hs) ho
  simp only [Nat.zero_add] at h1 h2 h3
  rw [← ensure_variant_eq p _ vn _ (by omega)] at h1
  have ht : (sstate o n p nl (.enum en vs) xs = .unknown n p nl ∧ sVg o p 0 (vList vs) xs = .nil) ∨
      sstate o n p nl (.enum en vs) xs = .union n p nl (sVg o p 0 (vList vs) xs) := by
    cases xs with
    | nil =>
      left
      exact ⟨sstate_nil o _ n p nl, sVg_nil_of_anyFrom o p [] _ 0 (anyFrom_nil _ _)⟩
    | cons y0 r => right; simp only [sstate, seen_ne (List.cons_ne_nil y0 r), sstateVariants_eq]
  have heuv := euv_of _ n p nl _ V' vn _ _ ht hd h1 h2
  rw [habs _ n p nl V' _ _ heuv (hpay idx vn T hget _ y hy), h3]
  simp only [sstate, seen_append, sstateVariants_eq]

/-- absorbing a value of the type into the tracer of the values `xs` gives the tracer of `xs ++ [x]`; the payload of a
variant is absorbed as a value of its payload type (`VHead`) -/
theorem absorb_gen_all (c : Code) (o : Options) :
    (∀ (ty : Ty) (n p : String) (nl : Bool) (xs : List SVal) (x : SVal),
      walkable o p ty = true → uniqueNames ty = true → smallEnums ty = true → hasTy o x ty = true →
      absorb c o (sstate o n p nl ty xs) x = .ok (sstate o n p nl ty (xs ++ [x]))) ∧
    (∀ (ts : Tys) (p : String) (i : Nat) (XS : List SVals) (items : SVals),
      walkableTys o p i ts = true → uniqueNamesTys ts = true → smallEnumsTys ts = true → hasTys o items ts = true →
      absorbTuple c o p (sstateTys o p i ts XS) 0 items = .ok (sstateTys o p i ts (XS ++ [items]))) ∧
    (∀ (fs : TyFields) (p : String),
      walkableFields o p fs = true → uniqueNamesFields fs = true → smallEnumsFields fs = true →
      (∀ (acc : TFields) (sf : SFields), hasFields o sf fs = true → (∀ m, m ∈ fs.names → acc.indexOf m = none) →
        absorbFields c o p 0 acc sf = .ok (TFields.append acc (sstateFields o p 1 fs [sf]))) ∧
      (∀ (m : Nat) (XS : List SFields) (sf : SFields), hasFields o sf fs = true →
        absorbFields c o p m (sstateFields o p m fs XS) sf = .ok (sstateFields o p (m + 1) fs (XS ++ [sf])))) ∧
    (∀ (vs : TyVariants) (p : String), walkableVariants o p vs = true →
      uniqueNamesVariants vs = true → smallEnumsVariants vs = true →
      ∀ (j : Nat) vn T, (vList vs)[j]? = some (vn, T) → ∀ ys y, hasTy o y T = true →
        absorb c o (sstate o vn (childPath p vn) false T ys) y =
          .ok (sstate o vn (childPath p vn) false T (ys ++ [y]))) := by
  have tuple : ∀ ts, (∀ (p : String) (i : Nat) (XS : List SVals) (items : SVals),
      walkableTys o p i ts = true → uniqueNamesTys ts = true → smallEnumsTys ts = true → hasTys o items ts = true →
      absorbTuple c o p (sstateTys o p i ts XS) 0 items = .ok (sstateTys o p i ts (XS ++ [items]))) →
      ∀ (n p : String) (nl : Bool) (xs : List SVal) (x : SVal),
      walkable o p (.tuple ts) = true → uniqueNames (.tuple ts) = true → smallEnums (.tuple ts) = true →
      hasTy o x (.tuple ts) = true →
      absorb c o (sstate o n p nl (.tuple ts) xs) x = .ok (sstate o n p nl (.tuple ts) (xs ++ [x])) := by
    intro ts ih n p nl xs x hw hu hs hx
    simp only [walkable, Bool.and_eq_true, Bool.not_eq_true'] at hw
    simp only [uniqueNames] at hu; simp only [smallEnums] at hs
    obtain ⟨items, rfl, hi⟩ := hasTy_tuple hx
    have he := ensure_tuple_seen c o xs n p nl ts hw.1 (fun xs => xs.filterMap tupleItems) rfl
    simp only [sstate, absorb, hasTys_length hi, he, bind, Except.bind, ih p 0 _ items hw.2 hu hs hi, seen_append,
      List.filterMap_append, List.filterMap_cons, tupleItems, List.filterMap_nil]
  apply Ty.walk
  case node =>
    intro ty ih
    match ty, ih with
    | .unit, _ =>
      intro n p nl xs x _ _ _ hx
      rw [hasTy_unit hx]; simp only [sstate, absorb]; exact null_gen o n p nl xs _
    | .unitStruct _, _ =>
      intro n p nl xs x _ _ _ hx
      obtain ⟨m, rfl⟩ := hasTy_unitStruct hx; simp only [sstate, absorb]; exact null_gen o n p nl xs _
    | .bool, _ =>
      intro n p nl xs x _ _ _ hx
      obtain ⟨b, rfl⟩ := hasTy_bool hx; simp only [sstate, absorb]; exact leaf_gen o n p nl _ rfl xs _
    | .char, _ =>
      intro n p nl xs x _ _ _ hx
      obtain ⟨b, rfl⟩ := hasTy_char hx; simp only [sstate, absorb]; exact leaf_gen o n p nl _ rfl xs _
    | .bytes, _ =>
      intro n p nl xs x _ _ _ hx
      obtain ⟨b, rfl⟩ := hasTy_bytes hx; simp only [sstate, absorb]; exact leaf_gen o n p nl _ rfl xs _
    | .f32, _ =>
      intro n p nl xs x _ _ _ hx
      obtain ⟨b, rfl⟩ := hasTy_f32 hx
      simp only [sstate, absorb, Tracer.ensure_number]; exact leaf_gen o n p nl _ rfl xs _
    | .f64, _ =>
      intro n p nl xs x _ _ _ hx
      obtain ⟨b, rfl⟩ := hasTy_f64 hx
      simp only [sstate, absorb, Tracer.ensure_number]; exact leaf_gen o n p nl _ rfl xs _
    | .int t, _ =>
      intro n p nl xs x _ _ _ hx
      obtain ⟨b, rfl⟩ := hasTy_int hx
      simp only [sstate, absorb, Tracer.ensure_number]; exact leaf_gen o n p nl _ (by cases t <;> rfl) xs _
    | .string, _ =>
      intro n p nl xs x _ _ _ hx
      obtain ⟨s, rfl, hs⟩ := hasTy_string hx
      have : isNull o.string_type = false := by unfold Options.string_type; split <;> rfl
      simp only [sstate, absorb, hs]; exact leaf_gen o n p nl _ this xs _
    | .option t, ih =>
      intro n p nl xs x hw hu hs hx
      simp only [walkable] at hw; simp only [uniqueNames] at hu; simp only [smallEnums] at hs
      rcases hasTy_option hx with rfl | ⟨v, rfl, hv⟩
      · simp only [sstate, absorb, sstate_mark_nullable, isEmpty_snoc, Bool.not_false, Bool.or_true, somes,
          List.filterMap_append, List.filterMap_cons, unSome, List.filterMap_nil, List.append_nil]
      · simp only [sstate, absorb, sstate_mark_nullable, isEmpty_snoc, Bool.not_false, Bool.or_true, somes,
          List.filterMap_append, List.filterMap_cons, unSome, List.filterMap_nil]
        exact ih n p true _ v hw hu hs hv
    | .newtypeStruct _ t, ih =>
      intro n p nl xs x hw hu hs hx
      simp only [walkable] at hw; simp only [uniqueNames] at hu; simp only [smallEnums] at hs
      obtain ⟨m, v, rfl, hv⟩ := hasTy_newtypeStruct hx
      simp only [sstate, absorb, List.filterMap_append, List.filterMap_cons, unNewtype, List.filterMap_nil]
      exact ih n p nl _ v hw hu hs hv
    | .vec t, ih =>
      intro n p nl xs x hw hu hs hx
      simp only [walkable, Bool.and_eq_true, Bool.not_eq_true'] at hw
      simp only [uniqueNames] at hu; simp only [smallEnums] at hs
      obtain ⟨items, rfl, hi⟩ := hasTy_vec hx
      have he := ensure_list_seen xs n p nl (sstate o "element" (childPath p "element") false t) (sstate_nil o t _ _ _)
        hw.1 elems rfl
      have hl := absorbSeq_gen c o t (sstate o "element" (childPath p "element") false t)
        (fun E v hv => ih _ _ _ E v hw.2 hu hs hv) items (elems xs) hi
      have hel : elems (xs ++ [SVal.seq items]) = elems xs ++ items.toList := by
        simp only [elems, List.flatMap_append, List.flatMap_cons, seqItems, List.flatMap_nil, List.append_nil]
      simp only [sstate, absorb, he, bind, Except.bind, hl, seen_append, hel]
    | .map kt vt, ih =>
      intro n p nl xs x hw hu hs hx
      simp only [walkable, Bool.and_eq_true, Bool.not_eq_true'] at hw
      simp only [uniqueNames, Bool.and_eq_true] at hu; simp only [smallEnums, Bool.and_eq_true] at hs
      obtain ⟨es, rfl, he⟩ := hasTy_map hx
      have hm := ensure_map_seen xs n p nl (sstate o "key" (childPath p "key") false kt (xs.flatMap mapKeys))
        (sstate o "value" (childPath p "value") false vt (xs.flatMap mapVals))
        (fun e => by rw [e]; exact sstate_nil o kt _ _ _) (fun e => by rw [e]; exact sstate_nil o vt _ _ _) hw.1.1.2
      have hl := absorbEntries_gen c o kt vt (sstate o "key" (childPath p "key") false kt)
        (sstate o "value" (childPath p "value") false vt)
        (fun E v hv => ih.1 _ _ _ E v hw.1.2 hu.1 hs.1 hv)
        (fun E v hv => ih.2 _ _ _ E v hw.2 hu.2 hs.2 hv) es (xs.flatMap mapKeys) (xs.flatMap mapVals) he
      simp only [sstate, absorb, hw.1.1.1, Bool.false_eq_true, if_false, hm, bind, Except.bind, hl, seen_append,
        List.flatMap_append, List.flatMap_cons, mapKeys, mapVals, List.flatMap_nil, List.append_nil]
    | .tuple ts, ih => exact tuple ts ih
    | .tupleStruct sn ts, ih =>
      intro n p nl xs x hw hu hs hx
      obtain ⟨m, items, rfl, hi⟩ := hasTy_tupleStruct hx
      have := tuple ts ih n p nl xs (.tuple items) hw hu hs (by simpa [hasTy] using hi)
      simpa only [sstate, absorb, List.filterMap_append, List.filterMap_cons, tupleItems, List.filterMap_nil,
        seen_append] using this
    | .struct sn fs, ih =>
      intro n p nl xs x hw hu hs hx
      simp only [walkable, Bool.and_eq_true, Bool.not_eq_true'] at hw
      simp only [uniqueNames] at hu; simp only [smallEnums] at hs
      obtain ⟨hF0, hF⟩ := ih p hw.2 hu hs
      obtain ⟨m, sf, rfl, hsf⟩ := hasTy_struct hx
      have h0 := hF0 .nil sf hsf (fun _ _ => rfl)
      simp only [TFields.append] at h0
      cases xs with
      | nil =>
        simp only [sstate, seen_nil, absorb, ensure_struct_unknown c n p nl _ _ hw.1, mkStructFields, bind, Except.bind,
          h0, sstateFields_end o p 0 fs, List.nil_append, seen_ne (List.cons_ne_nil _ _), List.filterMap_cons,
          recFields, List.filterMap_nil, List.length_cons, List.length_nil]
      | cons y r =>
        simp only [sstate, seen_ne (List.cons_ne_nil y r), absorb, ensure_struct_struct c n p nl _ _ _ hw.1, bind,
          Except.bind, hF _ _ sf hsf, seen_append, List.filterMap_append, List.filterMap_cons, recFields,
          List.filterMap_nil, List.length_append, List.length_cons, List.length_nil]
        rw [sstateFields_end o p (r.length + 1) fs]
    | .enum en vs, ih =>
      intro n p nl xs x hw hu hs hx
      simp only [walkable, Bool.and_eq_true, Bool.not_eq_true', bne_iff_ne, ne_eq] at hw
      simp only [uniqueNames] at hu
      simp only [smallEnums, Bool.and_eq_true, decide_eq_true_eq] at hs
      exact enum_gen_of c o en vs n p nl hw.1.1 hs.1 (ih p hw.2 hu hs.2) xs x hx
  case tnil =>
    intro _ _ _ items _ _ _ hi
    rw [hasTys_nil hi]; simp only [sstateTys, absorbTuple]
  case tcons =>
    intro t r iht ihr p i XS items hw hu hs hi
    obtain ⟨v, ir, rfl, hv, hir⟩ := hasTys_cons hi
    simp only [walkableTys, Bool.and_eq_true] at hw
    simp only [uniqueNamesTys, Bool.and_eq_true] at hu; simp only [smallEnumsTys, Bool.and_eq_true] at hs
    have h0 : 0 < (Tracers.cons (sstate o (toString i) (childPath p (toString i)) false t (XS.filterMap headV))
        (sstateTys o p (i + 1) r (XS.filterMap tailV))).length := by simp only [Tracers.length]; omega
    have hshift := absorbTuple_shift c o p (sstate o (toString i) (childPath p (toString i)) false t (XS.filterMap headV ++ [v]))
      ir (sstateTys o p (i + 1) r (XS.filterMap tailV)) 0 (by rw [hasTys_length hir, sstateTys_length]; omega)
    simp only [sstateTys, absorbTuple, field_tracer_grow_id p 0 _ h0, Tracers.get?,
      iht _ _ _ _ v hw.1 hu.1 hs.1 hv, bind, Except.bind, Tracers.set, hshift,
      ihr p (i + 1) _ ir hw.2 hu.2 hs.2 hir, List.filterMap_append, List.filterMap_cons, headV, tailV,
      List.filterMap_nil]
    rfl
  case fnil =>
    intro _ _ _ _
    refine ⟨fun acc sf hsf _ => ?_, fun _ _ sf hsf => ?_⟩
    · rw [hasFields_nil hsf]; simp only [absorbFields, sstateFields, TFields.append_nil]
    · rw [hasFields_nil hsf]; simp only [sstateFields, absorbFields]
  case fcons =>
    intro fname t r iht ihr p hw hu hs
    simp only [walkableFields, Bool.and_eq_true] at hw
    simp only [uniqueNamesFields, Bool.and_eq_true, Bool.not_eq_true'] at hu
    simp only [smallEnumsFields, Bool.and_eq_true] at hs
    have hnot : ¬ fname ∈ r.names := by
      have := hu.1.1
      simpa only [List.contains_eq_mem, decide_eq_false_iff_not] using this
    obtain ⟨ihr0, ihrN⟩ := ihr p hw.2 hu.2 hs.2
    refine ⟨fun acc sf hsf hacc => ?_, fun m XS sf hsf => ?_⟩
    · obtain ⟨a, v, sr, rfl, hv, hsr⟩ := hasFields_cons hsf
      have hnone : acc.indexOf fname = none := hacc fname (by simp only [TyFields.names]; exact List.mem_cons_self)
      have ih := iht fname (childPath p fname) false [] v hw.1 hu.1.2 hs.1 hv
      rw [sstate_nil] at ih
      simp only [childPath, List.nil_append] at ih
      have hacc' : ∀ m, m ∈ r.names →
          (acc.push fname 0 (sstate o fname (p ++ "." ++ fname) false t [v])).indexOf m = none := by
        intro m hm
        refine TFields.indexOf_push_none acc fname 0 _ m
          (hacc m (by simp only [TyFields.names]; exact List.mem_cons_of_mem _ hm)) ?_
        intro heq
        subst heq
        exact hnot hm
      simp only [absorbFields, ensure_field, hnone, Tracer.new, bne_self_eq_false, Bool.false_eq_true,
        if_false, TFields.get?_push, ih, bind, Except.bind, TFields.set_push, ihr0 _ sr hsr hacc', TFields.push_append,
        sstateFields, Nat.sub_self, List.filterMap_cons, headF, tailF, List.filterMap_nil]
      rfl
    · obtain ⟨a, v, sr, rfl, hv, hsr⟩ := hasFields_cons hsf
      have hshift := absorbFields_shift_gen c o p m fname m
        (sstate o fname (childPath p fname) false t (XS.filterMap headF ++ [v])) r sr
        (sstateFields o p m r (XS.filterMap tailF)) hsr hnot
      simp only [sstateFields, absorbFields, ensure_field, TFields.indexOf, if_true, TFields.setLastSeen,
        TFields.get?, iht _ _ _ _ v hw.1 hu.1.2 hs.1 hv, bind, Except.bind, TFields.set, hshift,
        ihrN m _ sr hsr, Nat.add_sub_cancel, List.filterMap_append,
        List.filterMap_cons, headF, tailF, List.filterMap_nil]
      rfl
  case vnil => intro _ _ _ _ _ _ _ h; simp [vList] at h
  case vcons =>
    intro vs n T r hh ihT ihr p hw hu hs j vn T' h ys y hy
    simp only [hh.walkable_eq, Bool.and_eq_true] at hw
    simp only [hh.uniqueNames_eq, Bool.and_eq_true] at hu
    simp only [hh.smallEnums_eq, Bool.and_eq_true] at hs
    rw [hh.vList_eq] at h
    cases j with
    | zero =>
      simp only [List.getElem?_cons_zero, Option.some.injEq, Prod.mk.injEq] at h
      obtain ⟨rfl, rfl⟩ := h
      exact ihT n _ false ys y hw.1 hu.1.2 hs.1 hy
    | succ j =>
      simp only [List.getElem?_cons_succ] at h
      exact ihr p hw.2 hu.2 hs.2 j vn T' h ys y hy

theorem absorb_gen (c : Code) (o : Options) : ∀ (ty : Ty) (n p : String) (nl : Bool) (xs : List SVal) (x : SVal),
    walkable o p ty = true → uniqueNames ty = true → smallEnums ty = true → hasTy o x ty = true →
    absorb c o (sstate o n p nl ty xs) x = .ok (sstate o n p nl ty (xs ++ [x])) :=
  (absorb_gen_all c o).1

theorem absorbTuple_gen (c : Code) (o : Options) : ∀ (ts : Tys) (p : String) (i : Nat) (XS : List SVals) (items : SVals),
    walkableTys o p i ts = true → uniqueNamesTys ts = true → smallEnumsTys ts = true → hasTys o items ts = true →
    absorbTuple c o p (sstateTys o p i ts XS) 0 items = .ok (sstateTys o p i ts (XS ++ [items])) :=
  (absorb_gen_all c o).2.1

theorem absorbFields_first_gen (c : Code) (o : Options) : ∀ (fs : TyFields) (p : String) (acc : TFields) (sf : SFields),
    walkableFields o p fs = true → uniqueNamesFields fs = true → smallEnumsFields fs = true → hasFields o sf fs = true →
    (∀ m, m ∈ fs.names → acc.indexOf m = none) →
    absorbFields c o p 0 acc sf = .ok (TFields.append acc (sstateFields o p 1 fs [sf])) :=
  fun fs p acc sf hw hu hs hsf hacc => ((absorb_gen_all c o).2.2.1 fs p hw hu hs).1 acc sf hsf hacc

theorem absorbFields_next_gen (c : Code) (o : Options) : ∀ (fs : TyFields) (p : String) (m : Nat) (XS : List SFields)
    (sf : SFields),
    walkableFields o p fs = true → uniqueNamesFields fs = true → smallEnumsFields fs = true → hasFields o sf fs = true →
    absorbFields c o p m (sstateFields o p m fs XS) sf = .ok (sstateFields o p (m + 1) fs (XS ++ [sf])) :=
  fun fs p m XS sf hw hu hs hsf => ((absorb_gen_all c o).2.2.1 fs p hw hu hs).2 m XS sf hsf

theorem payload_gen (c : Code) (o : Options) : ∀ (vs : TyVariants) (p : String), walkableVariants o p vs = true →
    uniqueNamesVariants vs = true → smallEnumsVariants vs = true →
    ∀ (j : Nat) vn T, (vList vs)[j]? = some (vn, T) → ∀ ys y, hasTy o y T = true →
      absorb c o (sstate o vn (childPath p vn) false T ys) y = .ok (sstate o vn (childPath p vn) false T (ys ++ [y])) :=
  (absorb_gen_all c o).2.2.2

end SaModel.Lemmas.C08
