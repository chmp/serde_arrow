import SaModel.Lemmas.C18Paths
import SaModel.Lemmas.C01NewInd
/-
C18, path assembly (builder half): `build_builder` stores, in every builder of the tree it creates, the
`.`-separated concatenation of the child names that lead to it (`newDT_positions_all`).
-/
namespace SaModel.Props.C18
open SaModel SaModel.Build

local macro "leaf_case" h:ident : tactic =>
  `(tactic| (simp only [newDT] at $h:ident; cases $h:ident
             simp [positions, segsDT, positionsAt, render, leafLabel, B.label, intTyLabel]))

theorem mkStruct_positions {path : String} {bl : BL} {nullable : Bool} {b : B} (h : mkStruct path bl nullable = .ok b) :
    positions b = (path, "Struct(..)") :: positionsL bl := by
  unfold mkStruct at h
  split at h
  · simp [fail] at h
  · cases h; simp [positions]

theorem segsF_eq (f : Field) : segsF f = segsDT f.dataType f.metadata := by cases f; rw [segsF]; rfl

theorem leaf_positions {dt : DataType} {k : LeafKind} (hk : kindOf dt = some k) (path : String) (v : Validity)
    (vals : List Int) (md : Metadata) : positions (.leaf path k v vals) = positionsAt path (segsDT dt md) := by
  unfold kindOf at hk
  split at hk <;> cases hk <;> simp [positions, segsDT, positionsAt, render, leafLabel, B.label, intTyLabel]

/-- paths assembled: the builder tree holds, in schema order, one builder per position of the schema, with its path and
the label of its family (an instance of `newDT_induct`) -/
theorem newDT_positions_all :
    (∀ path dt n md b, newDT path dt n md = .ok b → positions b = positionsAt path (segsDT dt md)) ∧
    (∀ path ufs idx bl, newUnionFields path ufs idx = .ok bl → positionsL bl = positionsAt path (segsU ufs)) ∧
    (∀ path f b, newB path f = .ok b → positions b = positionsAt path (segsDT f.dataType f.metadata)) ∧
    (∀ path fs bl, newFields path fs = .ok bl → positionsL bl = positionsAt path (segsFs fs)) :=
  newDT_induct (P := fun path dt _ md b => positions b = positionsAt path (segsDT dt md))
    (PL := fun path fs bl => positionsL bl = positionsAt path (segsFs fs))
    (PU := fun path ufs _ bl => positionsL bl = positionsAt path (segsU ufs))
    (unknown := fun path n md hs => by simp [positions, segsDT, positionsAt, render, leafLabel, B.label, hs])
    (null := fun path n md hs => by simp [positions, segsDT, positionsAt, render, leafLabel, B.label, hs])
    (leaf := fun path dt k n md hk _ => leaf_positions hk path _ _ md)
    (bytes := fun path ty n md => by cases ty <;> simp [positions, bytesDT, segsDT, positionsAt, render, leafLabel, B.label])
    (view := fun path ty n md => by cases ty <;> simp [positions, viewDT, segsDT, positionsAt, render, leafLabel, B.label])
    (fixedSizeBinary := fun path k n md => by simp [positions, segsDT, positionsAt, render, leafLabel, B.label])
    (list := fun path large child n md el ih => by
      cases large <;> simp [positions, segsDT, segsF_eq, positionsAt_cons, positionsAt_under, ih, leafLabel, render])
    (fixedSizeList := fun path child k n md el ih => by
      simp [positions, segsDT, segsF_eq, positionsAt_cons, positionsAt_under, ih, leafLabel, render])
    (map := fun path ename kf vf emd sorted n md kb vb ihk ihv => by
      simp [positions, segsDT, segsF_eq, positionsAt_cons, positionsAt_append, positionsAt_under, ihk, ihv, render])
    (struct := fun path fs n md bl b ih h => by
      rw [mkStruct_positions h, ih]; simp [segsDT, positionsAt_cons, render])
    (dictionary := fun path k t v n md vb hk ht ihv => by
      have e1 : path ++ "." ++ "key" = path ++ ".key" := by rw [String.append_assoc]; rfl
      have e2 : path ++ "." ++ "value" = path ++ ".value" := by rw [String.append_assoc]; rfl
      simp [positions, segsDT, positionsAt_cons, positionsAt_append, positionsAt_under, ihv, render, e1, e2]
      rw [← leaf_positions ht _ (newValidity n) [] []]; simp [positions])
    (union := fun path ufs n md bl ih => by simp [positions, ih, segsDT, positionsAt_cons, render])
    (nil := fun path => by simp [positionsL, segsFs, positionsAt])
    (cons := fun path f rest b r ihb ihr => by
      simp [positionsL, segsFs, segsF_eq, positionsAt_append, positionsAt_under, ihb, ihr, render])
    (unil := fun path idx => by simp [positionsL, segsU, positionsAt])
    (ucons := fun path idx f rest b r ihb ihr => by
      simp [positionsL, segsU, segsF_eq, positionsAt_append, positionsAt_under, ihb, ihr, render])

theorem newDT_positions : ∀ (dt : DataType) (path : String) (nullable : Bool) (md : Metadata) (b : B),
    newDT path dt nullable md = .ok b → positions b = positionsAt path (segsDT dt md) :=
  fun dt path nullable md b h => newDT_positions_all.1 path dt nullable md b h
theorem newB_positions : ∀ (f : Field) (path : String) (b : B), newB path f = .ok b →
    positions b = positionsAt path (segsF f) :=
  fun f path b h => segsF_eq f ▸ newDT_positions_all.2.2.1 path f b h
theorem newFields_positions : ∀ (fs : Fields) (path : String) (bl : BL), newFields path fs = .ok bl →
    positionsL bl = positionsAt path (segsFs fs) :=
  fun fs path bl h => newDT_positions_all.2.2.2 path fs bl h
theorem newUnionFields_positions : ∀ (fs : UFields) (path : String) (idx : Nat) (bl : BL),
    newUnionFields path fs idx = .ok bl → positionsL bl = positionsAt path (segsU fs) :=
  fun fs path idx bl h => newDT_positions_all.2.1 path fs idx bl h

theorem newRoot_positions {fields : List Field} {root : B} (h : newRoot fields = .ok root) :
    positions root = positionsAt "$" (segsDT (.struct (Fields.ofList fields)) []) := by
  simp only [newRoot] at h
  obtain ⟨bl, h1, h⟩ := (bind_ok _ _ _).1 h
  rw [mkStruct_positions h, newFields_positions _ _ bl h1]
  simp [segsDT, positionsAt_cons, render]

theorem segsDT_head (dt : DataType) (md : Metadata) : ∃ l r, segsDT dt md = ([], l) :: r := by
  unfold segsDT; split <;> exact ⟨_, _, rfl⟩

/-- the builder `build_builder` creates at `path` sits at `path`: the first position of the schema is the empty list
of child names -/
theorem newDT_path' (dt : DataType) (path : String) (nullable : Bool) (md : Metadata) (b : B)
    (h : newDT path dt nullable md = .ok b) : b.path = path := by
  have hp := newDT_positions dt path nullable md b h
  obtain ⟨rest, hr⟩ := positions_head b
  obtain ⟨l, r, hs⟩ := segsDT_head dt md
  rw [hr, hs] at hp
  exact (Prod.mk.inj (List.cons.inj hp).1).1

end SaModel.Props.C18
