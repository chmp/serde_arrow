import SaModel.Basic.Outcome
/-
An outcome with a postcondition: `Yields Q r` says that `r` does not unwind and that a value it returns satisfies `Q` — the
form in which "cannot panic" composes when the next step is only safe on what the previous one returns (an `ensure_*` of
the tracer returns a node of the wanted kind, a push keeps the state invariant, a parser returns an instant in range).
-/
namespace SaModel

/-- `r` does not unwind, and a value it returns satisfies `Q` -/
def Yields {α} (Q : α → Prop) (r : R α) : Prop := r.isPanic = false ∧ ∀ a, r = .ok a → Q a

namespace Yields
variable {α β : Type _} {Q : α → Prop} {Q' : β → Prop} {r : R α} {f : α → R β}

theorem ok {a : α} (h : Q a) : Yields Q (.ok a) := ⟨rfl, fun _ e => by cases e; exact h⟩
theorem fail (m : String) : Yields Q (SaModel.fail m) := ⟨rfl, fun _ e => nomatch e⟩

/-- the continuation is only looked at on the values `Q` admits -/
theorem andThen (h : Yields Q r) (hf : ∀ a, Q a → Yields Q' (f a)) : Yields Q' (r >>= f) := by
  cases r with
  | ok a => exact hf a (h.2 a rfl)
  | error e => exact ⟨by cases e <;> first | rfl | exact h.1, fun _ e => nomatch e⟩

theorem bind (h : Yields Q r) (hf : ∀ a, Q a → (f a).isPanic = false) : (r >>= f).isPanic = false :=
  (h.andThen (Q' := fun _ => True) fun a ha => ⟨hf a ha, fun _ _ => trivial⟩).1

/-- a loop whose step keeps `I`, or fails without unwinding, does so as a whole -/
theorem foldlM {σ} {I : σ → Prop} {f : σ → α → R σ} (hf : ∀ s x, I s → Yields I (f s x)) :
    ∀ (l : List α) (s : σ), I s → Yields I (l.foldlM f s)
  | [], _, hs => ok hs
  | x :: l, s, hs => by
    rw [List.foldlM_cons]
    exact (hf s x hs).andThen fun s1 h1 => foldlM hf l s1 h1
end Yields

end SaModel
