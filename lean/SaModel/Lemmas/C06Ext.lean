import SaModel.Lemmas.C06Pass
/-
C06: the shape of everything reachable from a tracer node (`ExtShape`): a container stays the same kind
of container with the same name and path and its children move along `Steps`; a non-null primitive stays a primitive
whose state is reached by a run of leaf types; struct fields keep their index, fields added after the first sample are
nullable, map mode is sticky; tuple positions added by the repaired `ensure_tuple` are nullable; union variants keep
index and name.  `steps_extShape : WF o t → Steps c o t t2 → ExtShape c o t t2`.
-/
set_option linter.unusedVariables false
namespace SaModel.Lemmas.C06
open SaModel SaModel.Trace SaModel.Lemmas.C07 SaModel.Props.C07

def LeafReach (o : Options) (s s2 : LeafSt) : Prop := ∃ ys, (∀ a ∈ ys, a ∈ leafTypes o) ∧ run o s ys = .ok s2

theorem LeafReach.refl (o : Options) (s : LeafSt) : LeafReach o s s := ⟨[], by simp, rfl⟩

theorem LeafReach.trans {o : Options} {s1 s2 s3 : LeafSt} (h1 : LeafReach o s1 s2) (h2 : LeafReach o s2 s3) :
    LeafReach o s1 s3 := by
  obtain ⟨ys, hy, h1⟩ := h1
  obtain ⟨zs, hz, h2⟩ := h2
  refine ⟨ys ++ zs, ?_, by rw [run_append, h1]; exact h2⟩
  intro a ha
  rcases List.mem_append.mp ha with h | h
  · exact hy a h
  · exact hz a h

theorem LeafReach.step {o : Options} {s s' : LeafSt} {a : DataType} (ha : a ∈ leafTypes o) (h : act o s a = .ok s') :
    LeafReach o s s' := ⟨[a], by simpa using ha, by simp [run, h]⟩

theorem string_type_cases (o : Options) : o.string_type = .utf8 ∨ o.string_type = .largeUtf8 := by
  unfold Options.string_type; split
  · exact .inr rfl
  · exact .inl rfl

theorem string_type_ne_null (o : Options) : o.string_type ≠ .null := by
  rcases string_type_cases o with h | h <;> rw [h] <;> exact fun h => nomatch h

/-- the coerced type is `Null` only when both types are: the same-type arm returns the type, the two `Null` arms the other
type, every other arm a literal number or string type -/
theorem coerce_ne_null (o : Options) (pty a : DataType) (nl : Bool) (st st' : Option Strategy) :
    ∀ ty' nl' st'', coerce_primitive_type o pty nl st a st' = .ok (ty', nl', st'') →
      (a ≠ .null ∨ pty ≠ .null) → ty' ≠ .null := by
  unfold coerce_primitive_type
  by_cases h1 : pty = a ∧ st = st'
  · rw [if_pos h1]; intro ty' nl' st'' he hne; cases he
    exact hne.elim id (fun h => h1.1 ▸ h)
  rw [if_neg h1]
  by_cases h2 : pty = .null
  · rw [if_pos h2]; intro ty' nl' st'' he hne; cases he
    exact hne.resolve_right (fun h' => h' h2)
  rw [if_neg h2]
  by_cases h3 : a = .null
  · rw [if_pos h3]; intro ty' nl' st'' he _; cases he; exact h2
  rw [if_neg h3]
  repeat (first
    | (refine ite_prop (P := fun r => ∀ ty' nl' st'', r = Except.ok (ty', nl', st'') →
          (a ≠ DataType.null ∨ pty ≠ DataType.null) → ty' ≠ DataType.null) ?_ ?_
       · intro ty' nl' st'' h _; cases h; first | exact string_type_ne_null o | (intro hh; cases hh))
    | (intro ty' nl' st'' h; cases h))

/-- the type of a state becomes (or stays) `Null` only by absorbing `Null` into `Unknown` / `Null` -/
theorem act_nonnull (o : Options) {s s' : LeafSt} {a : DataType} (h : act o s a = .ok s') :
    ∃ ty2, s'.1 = some ty2 ∧ ((a ≠ .null ∨ ∃ ty, s.1 = some ty ∧ ty ≠ .null) → ty2 ≠ .null) := by
  obtain ⟨ty, nl⟩ := s
  cases ty with
  | none =>
    cases h
    exact ⟨a, rfl, fun hc => hc.elim id (fun ⟨_, h1, _⟩ => by cases h1)⟩
  | some pty =>
    simp only [act] at h
    cases hc : coerce_primitive_type o pty nl none a none with
    | error e => rw [hc] at h; cases h
    | ok r =>
      obtain ⟨ty', nl', st'⟩ := r
      rw [hc] at h; cases h
      refine ⟨ty', rfl, fun hne => coerce_ne_null o pty a nl none none ty' nl' st' hc ?_⟩
      exact hne.imp id (fun ⟨ty, h1, h2⟩ => by cases h1; exact h2)

theorem act_null_of_nonnull (o : Options) {ty : DataType} (nl : Bool) (h : ty ≠ .null) :
    act o (some ty, nl) .null = .ok (some ty, true) := by
  simp only [act, coerce_primitive_type]
  rw [if_neg (by intro h'; exact h h'.1), if_neg h]; simp

def SExt (c : Code) (o : Options) (fs : TFields) (m : StructMode) (s : Nat) (fs2 : TFields) (m2 : StructMode)
    (s2 : Nat) : Prop :=
  FsExt c o fs fs2 ∧ s ≤ s2 ∧ (m = .map → m2 = .map) ∧ (s ≠ 0 → NewNullable fs fs2)

def TExt (c : Code) (o : Options) (ts ts2 : Tracers) : Prop :=
  TsExt c o ts ts2 ∧
  (c.tuple_arity_nullable = true → ∀ i t2, ts2.get? i = some t2 → ts.get? i = none → t2.nullable = true)

def VExt (c : Code) (o : Options) (vs vs2 : Variants) : Prop :=
  ∀ i n t, vs.get? i = some (some (n, t)) → ∃ t2, vs2.get? i = some (some (n, t2)) ∧ Steps c o t t2

def ExtShape (c : Code) (o : Options) : Tracer → Tracer → Prop
  | .unknown _ _ _, _ => True
  | .primitive n p nl ty st, t2 =>
    ty ≠ .null → ∃ nl2 ty2, t2 = .primitive n p nl2 ty2 st ∧ ty2 ≠ .null ∧ LeafReach o (some ty, nl) (some ty2, nl2)
  | .list n p _ i, t2 => ∃ nl2 i2, t2 = .list n p nl2 i2 ∧ Steps c o i i2
  | .map n p _ k v, t2 => ∃ nl2 k2 v2, t2 = .map n p nl2 k2 v2 ∧ Steps c o k k2 ∧ Steps c o v v2
  | .struct n p _ fs m s, t2 => ∃ nl2 fs2 m2 s2, t2 = .struct n p nl2 fs2 m2 s2 ∧ SExt c o fs m s fs2 m2 s2
  | .tuple n p _ ts, t2 => ∃ nl2 ts2, t2 = .tuple n p nl2 ts2 ∧ TExt c o ts ts2
  | .union n p _ vs, t2 => ∃ nl2 vs2, t2 = .union n p nl2 vs2 ∧ VExt c o vs vs2

theorem SExt.refl (c : Code) (o : Options) (fs : TFields) (m : StructMode) (s : Nat) : SExt c o fs m s fs m s :=
  ⟨FsExt.refl c o fs, Nat.le_refl s, id, fun _ => NewNullable.of_length rfl⟩

theorem SExt.trans {c : Code} {o : Options} {f1 f2 f3 : TFields} {m1 m2 m3 : StructMode} {s1 s2 s3 : Nat}
    (h1 : SExt c o f1 m1 s1 f2 m2 s2) (h2 : SExt c o f2 m2 s2 f3 m3 s3) : SExt c o f1 m1 s1 f3 m3 s3 :=
  ⟨h1.1.trans h2.1, Nat.le_trans h1.2.1 h2.2.1, fun h => h2.2.2.1 (h1.2.2.1 h),
    fun hs => (h1.2.2.2 hs).trans h2.1 (h2.2.2.2 (by have := h1.2.1; omega))⟩

theorem TExt.refl (c : Code) (o : Options) (ts : Tracers) : TExt c o ts ts :=
  ⟨TsExt.refl c o ts, fun _ i t2 h hn => by rw [h] at hn; cases hn⟩

theorem TExt.trans {c : Code} {o : Options} {f1 f2 f3 : Tracers} (h1 : TExt c o f1 f2) (h2 : TExt c o f2 f3) :
    TExt c o f1 f3 := by
  refine ⟨h1.1.trans h2.1, fun hc i t3 hg3 hn1 => ?_⟩
  cases hg2 : f2.get? i with
  | none => exact h2.2 hc i t3 hg3 hg2
  | some t2 =>
    obtain ⟨t3', hg3', hs⟩ := h2.1 i t2 hg2
    rw [hg3] at hg3'; cases hg3'
    exact hs.keeps.1 (h1.2 hc i t2 hg2 hn1)

theorem VExt.refl (c : Code) (o : Options) (vs : Variants) : VExt c o vs vs :=
  fun _ _ t h => ⟨t, h, Steps.refl c o t⟩

theorem VExt.trans {c : Code} {o : Options} {f1 f2 f3 : Variants} (h1 : VExt c o f1 f2) (h2 : VExt c o f2 f3) :
    VExt c o f1 f3 := by
  intro i n t h
  obtain ⟨t2, hg2, hs2⟩ := h1 i n t h
  obtain ⟨t3, hg3, hs3⟩ := h2 i n t2 hg2
  exact ⟨t3, hg3, hs2.trans hs3⟩

theorem ExtShape.refl (c : Code) (o : Options) : ∀ t, ExtShape c o t t
  | .unknown _ _ _ => trivial
  | .primitive n p nl ty st => fun h => ⟨nl, ty, rfl, h, LeafReach.refl o _⟩
  | .list n p nl i => ⟨nl, i, rfl, Steps.refl c o i⟩
  | .map n p nl k v => ⟨nl, k, v, rfl, Steps.refl c o k, Steps.refl c o v⟩
  | .struct n p nl fs m s => ⟨nl, fs, m, s, rfl, SExt.refl c o fs m s⟩
  | .tuple n p nl ts => ⟨nl, ts, rfl, TExt.refl c o ts⟩
  | .union n p nl vs => ⟨nl, vs, rfl, VExt.refl c o vs⟩

theorem ExtShape.trans {c : Code} {o : Options} : ∀ {t1 t2 t3 : Tracer}, ExtShape c o t1 t2 → ExtShape c o t2 t3 →
    ExtShape c o t1 t3
  | .unknown _ _ _, _, _, _, _ => trivial
  | .primitive n p nl ty st, t2, t3, h1, h2 => by
    intro hty
    obtain ⟨nl2, ty2, rfl, hty2, hr⟩ := h1 hty
    obtain ⟨nl3, ty3, rfl, hty3, hr'⟩ := h2 hty2
    exact ⟨nl3, ty3, rfl, hty3, hr.trans hr'⟩
  | .list n p nl i, t2, t3, h1, h2 => by
    obtain ⟨nl2, i2, rfl, hs⟩ := h1
    obtain ⟨nl3, i3, rfl, hs'⟩ := h2
    exact ⟨nl3, i3, rfl, hs.trans hs'⟩
  | .map n p nl k v, t2, t3, h1, h2 => by
    obtain ⟨nl2, k2, v2, rfl, hk, hv⟩ := h1
    obtain ⟨nl3, k3, v3, rfl, hk', hv'⟩ := h2
    exact ⟨nl3, k3, v3, rfl, hk.trans hk', hv.trans hv'⟩
  | .struct n p nl fs m s, t2, t3, h1, h2 => by
    obtain ⟨nl2, fs2, m2, s2, rfl, hs⟩ := h1
    obtain ⟨nl3, fs3, m3, s3, rfl, hs'⟩ := h2
    exact ⟨nl3, fs3, m3, s3, rfl, hs.trans hs'⟩
  | .tuple n p nl ts, t2, t3, h1, h2 => by
    obtain ⟨nl2, ts2, rfl, hs⟩ := h1
    obtain ⟨nl3, ts3, rfl, hs'⟩ := h2
    exact ⟨nl3, ts3, rfl, hs.trans hs'⟩
  | .union n p nl vs, t2, t3, h1, h2 => by
    obtain ⟨nl2, vs2, rfl, hs⟩ := h1
    obtain ⟨nl3, vs3, rfl, hs'⟩ := h2
    exact ⟨nl3, vs3, rfl, hs.trans hs'⟩

theorem ExtShape.mark (c : Code) (o : Options) : ∀ t, ExtShape c o t t.mark_nullable
  | .unknown _ _ _ => trivial
  | .primitive n p nl ty st => fun h =>
    ⟨true, ty, rfl, h, LeafReach.step (a := .null) (by simp [leafTypes]) (act_null_of_nonnull o nl h)⟩
  | .list n p nl i => ⟨true, i, rfl, Steps.refl c o i⟩
  | .map n p nl k v => ⟨true, k, v, rfl, Steps.refl c o k, Steps.refl c o v⟩
  | .struct n p nl fs m s => ⟨true, fs, m, s, rfl, SExt.refl c o fs m s⟩
  | .tuple n p nl ts => ⟨true, ts, rfl, TExt.refl c o ts⟩
  | .union n p nl vs => ⟨true, vs, rfl, VExt.refl c o vs⟩

theorem ExtShape.of_unknown_or_null (c : Code) (o : Options) {t : Tracer} (t2 : Tracer)
    (h : t.is_unknown_or_null = true) : ExtShape c o t t2 := by
  cases t with
  | unknown _ _ _ => trivial
  | primitive n p nl ty st =>
    intro hty
    cases ty <;> simp [Tracer.is_unknown_or_null] at h hty
  | _ => simp [Tracer.is_unknown_or_null] at h

end SaModel.Lemmas.C06
