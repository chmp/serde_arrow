import SaModel.Lemmas.C06Steps
/-
C06: invariants of the tracer tree that `absorb` keeps, proved once.

`Every Q t`: the predicate `Q` (which may look at a node and its child lists, not deeper) holds at every node of `t`.
`absorb_every`: if a fresh tracer satisfies `Q` and one `absorb` keeps `Q` AT THE NODE IT IS APPLIED TO, then `absorb`
keeps `Every Q` — the children of the result are children of the old node, fresh tracers, marked nullable, or results of
`absorb` on such.  The reachable-state invariants (`WF`, `TN`, `US`) are instances.
-/
namespace SaModel.Lemmas.C06
open SaModel SaModel.Trace

mutual
def Every (Q : Tracer → Prop) : Tracer → Prop
  | .unknown n p nl => Q (.unknown n p nl)
  | .primitive n p nl ty st => Q (.primitive n p nl ty st)
  | .list n p nl i => Q (.list n p nl i) ∧ Every Q i
  | .map n p nl k v => Q (.map n p nl k v) ∧ Every Q k ∧ Every Q v
  | .struct n p nl fs m s => Q (.struct n p nl fs m s) ∧ EveryF Q fs
  | .tuple n p nl ts => Q (.tuple n p nl ts) ∧ EveryT Q ts
  | .union n p nl vs => Q (.union n p nl vs) ∧ EveryV Q vs
def EveryT (Q : Tracer → Prop) : Tracers → Prop
  | .nil => True
  | .cons t r => Every Q t ∧ EveryT Q r
def EveryF (Q : Tracer → Prop) : TFields → Prop
  | .nil => True
  | .cons _ _ t r => Every Q t ∧ EveryF Q r
def EveryV (Q : Tracer → Prop) : Variants → Prop
  | .nil => True
  | .absent r => EveryV Q r
  | .present _ t r => Every Q t ∧ EveryV Q r
end

variable {Q : Tracer → Prop}

theorem EveryT_iff : ∀ ts : Tracers, EveryT Q ts ↔ ∀ i t, ts.get? i = some t → Every Q t
  | .nil => by simp [EveryT, Tracers.get?]
  | .cons t r => by
    simp only [EveryT, EveryT_iff r]
    constructor
    · rintro ⟨h1, h2⟩ i t' hg
      cases i with
      | zero => cases hg; exact h1
      | succ i => exact h2 i t' hg
    · exact fun h => ⟨h 0 t rfl, fun i t' hg => h (i + 1) t' hg⟩

theorem EveryF_iff : ∀ fs : TFields, EveryF Q fs ↔ ∀ i t, fs.get? i = some t → Every Q t
  | .nil => by simp [EveryF, TFields.get?]
  | .cons n l t r => by
    simp only [EveryF, EveryF_iff r]
    constructor
    · rintro ⟨h1, h2⟩ i t' hg
      cases i with
      | zero => cases hg; exact h1
      | succ i => exact h2 i t' hg
    · exact fun h => ⟨h 0 t rfl, fun i t' hg => h (i + 1) t' hg⟩

theorem EveryV_iff : ∀ vs : Variants, EveryV Q vs ↔ ∀ i n t, vs.get? i = some (some (n, t)) → Every Q t
  | .nil => by simp [EveryV, Variants.get?]
  | .absent r => by
    simp only [EveryV, EveryV_iff r]
    constructor
    · intro h i n t hg
      cases i with
      | zero => cases hg
      | succ i => exact h i n t hg
    · exact fun h i n t hg => h (i + 1) n t hg
  | .present n' t' r => by
    simp only [EveryV, EveryV_iff r]
    constructor
    · rintro ⟨h1, h2⟩ i n t hg
      cases i with
      | zero => cases hg; exact h1
      | succ i => exact h2 i n t hg
    · exact fun h => ⟨h 0 n' t' rfl, fun i n t hg => h (i + 1) n t hg⟩

def Kids (P : Tracer → Prop) : Tracer → Prop
  | .list _ _ _ i => P i
  | .map _ _ _ k v => P k ∧ P v
  | .struct _ _ _ fs _ _ => ∀ i t, fs.get? i = some t → P t
  | .tuple _ _ _ ts => ∀ i t, ts.get? i = some t → P t
  | .union _ _ _ vs => ∀ i n t, vs.get? i = some (some (n, t)) → P t
  | _ => True

/-! The children of the node a container `ensure_*` method returns are fresh tracers or the children of the old node (the
repaired `ensure_tuple` marks some of them and adds marked fresh ones). -/

theorem ensure_union_kids {P : Tracer → Prop} {t t1 : Tracer} (h : t.ensure_union [] = .ok t1) (hk : Kids P t) :
    Kids P t1 := by
  obtain ⟨_, ⟨_, rfl⟩ | ⟨_, _, _, _, rfl, rfl⟩⟩ := ensure_union_ok h
  · exact fun _ _ _ hi => nomatch hi
  · exact hk

theorem ensure_struct_kids {P : Tracer → Prop} {c : Code} {mode : StructMode} {t t1 : Tracer}
    (h : t.ensure_struct c [] mode = .ok t1) (hk : Kids P t) : Kids P t1 := by
  obtain ⟨_, ⟨_, rfl⟩ | ⟨_, _, _, _, _, _, rfl, rfl⟩⟩ := ensure_struct_ok h
  · exact fun _ _ hi => nomatch hi
  · exact hk

section ensure
variable {P : Tracer → Prop} (hn : ∀ n p, P (Tracer.new n p))
include hn

theorem ensure_list_kids {t t1 : Tracer} (h : t.ensure_list = .ok t1) (hk : Kids P t) : Kids P t1 := by
  obtain ⟨_, ⟨_, rfl⟩ | ⟨_, _, _, _, rfl, rfl⟩⟩ := ensure_list_ok h
  · exact hn _ _
  · exact hk

theorem ensure_map_kids {t t1 : Tracer} (h : t.ensure_map = .ok t1) (hk : Kids P t) : Kids P t1 := by
  obtain ⟨_, ⟨_, rfl⟩ | ⟨_, _, _, _, _, rfl, rfl⟩⟩ := ensure_map_ok h
  · exact ⟨hn _ _, hn _ _⟩
  · exact hk

theorem ensure_tuple_kids (hm : ∀ t, P t → P t.mark_nullable) {c : Code} {k : Nat} {t t1 : Tracer}
    (h : t.ensure_tuple c k = .ok t1) (hk : Kids P t) : Kids P t1 := by
  obtain ⟨_, ⟨_, rfl⟩ | ⟨_, _, _, _, rfl, rfl⟩⟩ := ensure_tuple_ok h
  · exact forall_mkTupleFields hn _ _ _
  · intro i x hi
    split at hi
    · rw [tupleGrowNullable_eq] at hi
      exact Tracers.forall_growN _ (fun _ => hm _ (hn _ _)) _ (Tracers.forall_markFrom hm _ hk) i x hi
    · exact hk i x hi

end ensure

theorem every_iff {t : Tracer} : Every Q t ↔ Q t ∧ Kids (Every Q) t := by
  cases t <;> simp only [Every, Kids, EveryT_iff, EveryF_iff, EveryV_iff, and_true]

theorem Every.node {t : Tracer} (h : Every Q t) : Q t := (every_iff.mp h).1

theorem Every.kids {t : Tracer} (h : Every Q t) : Kids (Every Q) t := (every_iff.mp h).2

theorem every_new (hnew : ∀ n p, Q (Tracer.new n p)) (n p : String) : Every Q (Tracer.new n p) := hnew n p

theorem kids_mark (P : Tracer → Prop) (t : Tracer) : Kids P t.mark_nullable = Kids P t := by cases t <;> rfl

section absorb
variable {c : Code} {o : Options} (hnew : ∀ n p, Q (Tracer.new n p))
  (hstep : ∀ x t t', Q t → absorb c o t x = .ok t' → Q t')
include hstep

-- marking a node is absorbing `None`: `hstep` at the sample `.none` covers it, so no hypothesis speaks of `mark_nullable`
theorem Every.mark {t : Tracer} (h : Every Q t) : Every Q t.mark_nullable :=
  every_iff.mpr ⟨hstep .none t _ h.node (absorb_none c o t), by rw [kids_mark]; exact h.kids⟩

theorem Every.step {x : SVal} {a b : Tracer} (ha : Every Q a) (h : absorb c o a x = .ok b)
    (hk : Every Q a → Kids (Every Q) b) : Every Q b :=
  every_iff.mpr ⟨hstep x a b ha.node h, hk ha⟩

theorem absorbAll_every : ∀ vs : List SVal, (∀ v ∈ vs, ∀ a b, absorb c o a v = .ok b → Every Q a → Kids (Every Q) b) →
    ∀ t t', Every Q t → absorbAll c o t vs = .ok t' → Every Q t'
  | [], _, t, t', hw, h => by cases h; exact hw
  | v :: vs, hp, t, t', hw, h => by
    obtain ⟨t1, ha, h⟩ := absorbAll_cons_ok.mp h
    exact absorbAll_every vs (fun x hx => hp x (by simp [hx])) t1 t'
      (Every.step hstep hw ha (hp v (by simp) t t1 ha)) h

include hnew

theorem absorbKVs_every (path : String) (s : Nat) : ∀ kvs : List (String × SVal),
    (∀ kv ∈ kvs, ∀ a b, absorb c o a kv.2 = .ok b → Every Q a → Kids (Every Q) b) →
    ∀ fs fs', (∀ i t, fs.get? i = some t → Every Q t) → absorbKVs c o path s fs kvs = .ok fs' →
    ∀ i t, fs'.get? i = some t → Every Q t
  | [], _, fs, fs', hw, h => by cases h; exact hw
  | kv :: kvs, hp, fs, fs', hw, h => by
    obtain ⟨ft, ft', hg, ha, h⟩ := absorbKVs_cons_ok.mp h
    have hw1 := forall_ensure_field (P := Every Q) (every_new hnew) (fun t => Every.mark hstep) path s kv.1 hw
    exact absorbKVs_every path s kvs (fun x hx => hp x (by simp [hx])) _ fs'
      (TFields.forall_set _ hw1 (Every.step hstep (hw1 _ _ hg) ha (hp kv (by simp) ft ft' ha))) h

theorem absorbTupleL_every (path : String) : ∀ vs : List SVal,
    (∀ v ∈ vs, ∀ a b, absorb c o a v = .ok b → Every Q a → Kids (Every Q) b) →
    ∀ ts pos ts', (∀ i t, ts.get? i = some t → Every Q t) → absorbTupleL c o path ts pos vs = .ok ts' →
    ∀ i t, ts'.get? i = some t → Every Q t
  | [], _, ts, pos, ts', hw, h => by cases h; exact hw
  | v :: vs, hp, ts, pos, ts', hw, h => by
    obtain ⟨ft, ft', hg, ha, h⟩ := absorbTupleL_cons_ok.mp h
    have hw1 : ∀ i t, (field_tracer_grow path pos ts).get? i = some t → Every Q t := by
      rw [field_tracer_grow_eq]; exact Tracers.forall_growN (P := Every Q) _ (fun _ => every_new hnew _ _) _ hw
    exact absorbTupleL_every path vs (fun x hx => hp x (by simp [hx])) _ _ ts'
      (Tracers.forall_set _ hw1 (Every.step hstep (hw1 _ _ hg) ha (hp v (by simp) ft ft' ha))) h

theorem absorb_every : ∀ (x : SVal) (t t' : Tracer), Every Q t → absorb c o t x = .ok t' → Every Q t' := by
  have key : ∀ x a b, absorb c o a x = .ok b → Every Q a → Kids (Every Q) b := by
    apply absorb_rel c o (fun a b => Every Q a → Kids (Every Q) b)
    · intro t ht; rw [kids_mark]; exact ht.kids
    · exact fun t t2 h ht => h (Every.mark hstep ht)
    · intro t ty t2 _ h ht
      rcases ensure_primitive_ok h with ⟨_, _, _, _, rfl⟩ | ⟨_, _, _, _, _, _, _, _, _, _, rfl⟩ | ⟨_, _, _, rfl⟩
      · trivial
      · trivial
      · rw [kids_mark]; exact ht.kids
    · exact fun t n p nl i i' vs ih h h2 ht =>
        absorbAll_every hstep vs ih i i' (ensure_list_kids (every_new hnew) h ht.kids) h2
    · intro t n p nl k v k' v' ks vs ihk ihv h h2 h3 ht
      have := ensure_map_kids (every_new hnew) h ht.kids
      exact ⟨absorbAll_every hstep ks ihk k k' this.1 h2, absorbAll_every hstep vs ihv v v' this.2 h3⟩
    · exact fun t n p nl ts ts' vs ih h h2 ht => absorbTupleL_every hnew hstep p vs ih ts 0 ts'
        (ensure_tuple_kids (every_new hnew) (fun _ => Every.mark hstep) h ht.kids) h2
    · exact fun t mode n p nl fs m s kvs fs' ih h h2 ht => TFields.forall_end (P := Every Q) (fun t => Every.mark hstep) s
        (absorbKVs_every hnew hstep p s kvs ih fs fs' (ensure_struct_kids h ht.kids) h2)
    · intro t n p nl vs0 vs vn idx nm' vt vt' v ih h h2 h3 h4 ht
      have h0 := ensure_union_kids h ht.kids
      have hvs : ∀ i n t, vs.get? i = some (some (n, t)) → Every Q t := by
        intro j n' t1 hj
        rcases (ensure_variant_ok h2).2.2.2.1 j n' t1 hj with h | h
        · exact h0 j n' t1 h
        · rw [h]; exact every_new hnew _ _
      exact Variants.forall_set idx vn hvs (Every.step hstep (hvs _ _ _ h3) h4 ih)
  exact fun x t t' ht h => Every.step hstep ht h (key x t t' h)

theorem absorbAll_every' (xs : List SVal) {t t' : Tracer} (ht : Every Q t) (h : absorbAll c o t xs = .ok t') :
    Every Q t' :=
  absorbAll_every hstep xs (fun v _ a b ha hq => (absorb_every hnew hstep v a b hq ha).kids) t t' ht h

end absorb

end SaModel.Lemmas.C06
