import SaModel.Lemmas.C18PushPlain
/-
C18, builder half: WHERE an error is raised.  The `innermost` half of the property, stated operationally:

  `Call`            what a builder is asked to do: a serde value (`x.serialize(Mut(b))`) or `k` × `serialize_default`
  `callBody ext b c` the code of builder `b` for the call `c` WITHOUT its own `.ctx(self)` wrapper (the argument of
                    `ctx b.ann (…)` in `push` / `pushNone` / `pushDefaultK`, copied arm by arm; the recursive calls into
                    the children are the real `push` / `pushNone` / `pushDefaultK`, with their wrappers)
  `OwnFails ext b c msg`  the own step of `b` fails on `c` with message `msg`: `callBody ext b c` is the PLAIN error
                    `msg` (the errors of the children are never plain — `push_not_plain` — so a plain error of the body is
                    raised by the code of `b` itself, not forwarded), or `b` is a struct builder in the state `s` whose own
                    `seen[idx]` check refuses a field (`fail!(in self, "Duplicate field")` inside the field loop)
  `Sub c x`         the call `c` is issued (to some builder) while `x` is serialized: `x` itself, the calls of its parts,
                    and the calls the builders synthesise (`serialize_unit` for a unit variant, the tuple / struct calls
                    of a variant's payload, one `u8` per byte of `serialize_bytes` on a list, the `serialize_str` a
                    dictionary builder issues to its value builder and the `serialize_u64` it issues to its key builder)
  `Placeholder c`   `serialize_none` / `serialize_default` (issued to the builders a value does not fill)
  `Raised ext S C r`  if `r` is an annotated error, its annotation is the own annotation of a builder state `b'` whose
                    subtree lies in `S`, and `OwnFails ext b' c msg` for a call `c` with `C c`
-/
namespace SaModel.Props.C18
open SaModel SaModel.Build
open SaModel.Spec (isUtf8Ty)

inductive Call where
  | val (x : SVal)
  | default (k : Nat)

/-- `serialize_none` of `b` without the `.ctx(self)` wrapper (copy of the arms of `pushNone`) -/
def noneBody : B → R B
  | .null p len => .ok (.null p (len + 1))
  | .unknownVariant _ => fail "Unknown variant does not support serialize_none"
  | .leaf p k v vals => do
      let v' ← setValidity v vals.length false
      pure (.leaf p k v' (vals ++ [0]))
  | .bytes p ty v offs data => do
      let v' ← setValidity v (offs.length - 1) false
      let offs' ← duplicateLast offs
      pure (.bytes p ty v' offs' data)
  | .bytesView p ty v views buf => do
      let v' ← setValidity v views.length false
      pure (.bytesView p ty v' (views ++ [packInline []]) buf)
  | .fixedSizeBinary p n len v buf cur => do
      let v' ← setValidity v len false
      pure (.fixedSizeBinary p n (len + 1) v' (buf ++ List.replicate n 0) cur)
  | .list p large fm v offs el => do
      let v' ← setValidity v (offs.length - 1) false
      let offs' ← duplicateLast offs
      pure (.list p large fm v' offs' el)
  | .fixedSizeList p fm n len v cur el => do
      let v' ← setValidity v len false
      let el' ← pushDefaultK el n
      pure (.fixedSizeList p fm n (len + 1) v' cur el')
  | .map p mm v offs ks vs => do
      let v' ← setValidity v (offs.length - 1) false
      let offs' ← duplicateLast offs
      pure (.map p mm v' offs' ks vs)
  | .struct p len v fs cached next seen => do
      let v' ← setValidity v len false
      let fs' ← pushDefaultKAll fs 1
      pure (.struct p (len + 1) v' fs' cached next seen)
  | b@(.dictionary p idx vals index) =>
      if idx.isNullable = false then fail "Cannot push null for non-nullable array"
      else do
        let idx' ← ctx b.ann (pushNone idx)
        pure (.dictionary p idx' vals index)
  | .union _ _ _ _ _ => fail "serialize_unit/serialize_none is not supported"

/-- `k` × `serialize_default` of `b` without the `.ctx(self)` wrapper (copy of the arms of `pushDefaultK`) -/
def defaultBody : B → Nat → R B
  | .null p len, k => .ok (.null p (len + k))
  | b@(.unknownVariant _), k =>
    if k = 0 then .ok b else fail "Unknown variant does not support serialize_default"
  | .leaf p kind v vals, k => do
    let (v', vals') ← iter k (fun (s : Validity × List Int) => .ok (setValidityDefault s.1 s.2.length, s.2 ++ [0])) (v, vals)
    pure (.leaf p kind v' vals')
  | .bytes p ty v offs data, k => do
    let (v', offs') ← iter k (fun (s : Validity × List Int) => do
      let o ← duplicateLast s.2
      pure (setValidityDefault s.1 (s.2.length - 1), o)) (v, offs)
    pure (.bytes p ty v' offs' data)
  | .bytesView p ty v views buf, k => do
    let (v', views') ← iter k (fun (s : Validity × List Nat) => .ok (setValidityDefault s.1 s.2.length, s.2 ++ [packInline []])) (v, views)
    pure (.bytesView p ty v' views' buf)
  | .fixedSizeBinary p n len v buf cur, k => do
    let (len', v', buf') ← iter k (fun (s : Nat × Validity × Bytes) =>
      .ok (s.1 + 1, setValidityDefault s.2.1 s.1, s.2.2 ++ List.replicate n 0)) (len, v, buf)
    pure (.fixedSizeBinary p n len' v' buf' cur)
  | .list p large fm v offs el, k => do
    let (v', offs') ← iter k (fun (s : Validity × List Int) => do
      let o ← duplicateLast s.2
      pure (setValidityDefault s.1 (s.2.length - 1), o)) (v, offs)
    pure (.list p large fm v' offs' el)
  | .fixedSizeList p fm n len v cur el, k => do
    let (len', v') ← iter k (fun (s : Nat × Validity) => .ok (s.1 + 1, setValidityDefault s.2 s.1)) (len, v)
    let el' ← pushDefaultK el (k * n)
    pure (.fixedSizeList p fm n len' v' cur el')
  | .map p mm v offs ks vs, k => do
    let (v', offs') ← iter k (fun (s : Validity × List Int) => do
      let o ← duplicateLast s.2
      pure (setValidityDefault s.1 (s.2.length - 1), o)) (v, offs)
    pure (.map p mm v' offs' ks vs)
  | .struct p len v fs cached next seen, k => do
    let (len', v') ← iter k (fun (s : Nat × Validity) => .ok (s.1 + 1, setValidityDefault s.2 s.1)) (len, v)
    let fs' ← pushDefaultKAll fs k
    pure (.struct p len' v' fs' cached next seen)
  | .dictionary p idx vals index, k => do
    let idx' ← pushDefaultK idx k
    pure (.dictionary p idx' vals index)
  | b@(.union p fs types offs cur), k =>
    match fs with
    | .nil => if k = 0 then .ok b else fail "Could not find variant 0 in Union"
    | .cons _ _ _ =>
      let j := firstReal fs
      let cj := cur.getD j 0
      if k ≠ 0 ∧ cj + 1 > 2147483647 then
        fail s!"Invalid union offsets: the offset type cannot represent the number of elements of variant {j}"
      else if k ≠ 0 ∧ j > 127 then fail "out of range integral type conversion attempted"
      else do
        let fs' ← pushDefaultKAt fs j k
        if k ≠ 0 ∧ cj + k > 2147483647 then
          fail s!"Invalid union offsets: the offset type cannot represent the number of elements of variant {j}"
        else
          pure (.union p fs' (types ++ List.replicate k (j : Int))
            (offs ++ (List.range k).map (fun (i : Nat) => cj + (i : Int))) (cur.set j (cj + k)))

/-- `x.serialize(Mut(b))` without the `.ctx(self)` wrapper of `b` (copy of the arms of `push`; the `Some` / newtype
layers are transparent in `push` — they are never the blamed call) -/
def valBody (ext : Ext) (b : B) : SVal → R B
  | .some v => push ext b v
  | .newtypeStruct _ v => push ext b v
  | .none => noneBody b
  | .unit =>
    match b with
    | .unknownVariant _ => fail "Unknown variant does not support serialize_unit"
    | _ => noneBody b
  | .seq xs => seqLikeWith (fun large el offs => pushElems ext large el offs xs) (fun el c => pushCountElems ext el c xs) (fun s => pushTupleElems ext s xs) (u8All xs) b .seq
  | .tuple xs => seqLikeWith (fun large el offs => pushElems ext large el offs xs) (fun el c => pushCountElems ext el c xs) (fun s => pushTupleElems ext s xs) (u8All xs) b .tuple
  | .tupleStruct _ xs => seqLikeWith (fun large el offs => pushElems ext large el offs xs) (fun el c => pushCountElems ext el c xs) (fun s => pushTupleElems ext s xs) (u8All xs) b .tupleStruct
  | .record _ fs => recordWith (fun s => pushFields ext s fs) b
  | .map es =>
      match b with
      | .struct p len v fs cached next seen => do
        let s ← SS.start ⟨p, len, v, fs, cached, next, seen⟩
        let s ← pushStructEntries ext { s with next := UNKNOWN_KEY } es
        let s ← s.finishRow
        pure s.toB
      | .map p mm v offs ks vs => do
        let v' ← setValidity v (offs.length - 1) true
        let offs' ← duplicateLast offs
        let (offs'', ks', vs') ← pushMapEntries ext offs' ks vs es
        pure (.map p mm v' offs'' ks' vs')
      | .unknownVariant _ => fail "Unknown variant does not support serialize_map_start"
      | _ => notSupported "serialize_map_start"
  | .mapRaw ops =>
      match b with
      | .struct p len v fs cached next seen => do
        let s ← SS.start ⟨p, len, v, fs, cached, next, seen⟩
        let s ← pushStructOps ext { s with next := UNKNOWN_KEY } ops
        let s ← s.finishRow
        pure s.toB
      | .map p mm v offs ks vs => do
        let v' ← setValidity v (offs.length - 1) true
        let offs' ← duplicateLast offs
        let (offs'', ks', vs') ← pushMapOps ext false offs' ks vs ops
        pure (.map p mm v' offs'' ks' vs')
      | .unknownVariant _ => fail "Unknown variant does not support serialize_map_start"
      | _ => notSupported "serialize_map_start"
  | .unitVariant n i vn =>
      match b with
      | .union p fs types offs cur => do
        let (c, types', offs', cur') ← serializeVariant fs types offs cur i
        let c' ← (match c with
          | .unknownVariant _ => ctx c.ann (fail "Unknown variant does not support serialize_unit")
          | _ => pushNone c)
        pure (.union p (fs.set i c') types' offs' cur')
      | _ => pushScalar ext b (.unitVariant n i vn)
  | .newtypeVariant _ i _ v =>
      match b with
      | .union p fs types offs cur => do
        let (c, types', offs', cur') ← serializeVariant fs types offs cur i
        let c' ← push ext c v
        pure (.union p (fs.set i c') types' offs' cur')
      | .bytes _ ty _ _ _ => if isUtf8Ty ty then fail "Cannot serialize enum with data as string" else notSupported "serialize_newtype_variant"
      | .bytesView _ ty _ _ _ => if ty == .utf8View then fail "Cannot serialize enum with data as string" else notSupported "serialize_newtype_variant"
      | .dictionary _ _ _ _ => fail "Cannot serialize enum with data as string"
      | .unknownVariant _ => fail "Unknown variant does not support serialize_newtype_variant"
      | _ => notSupported "serialize_newtype_variant"
  | .tupleVariant _ i _ xs =>
      match b with
      | .union p fs types offs cur => do
        let (c, types', offs', cur') ← serializeVariant fs types offs cur i
        let c' ← ctx c.ann (seqLikeWith (fun large el offs => pushElems ext large el offs xs) (fun el c => pushCountElems ext el c xs) (fun s => pushTupleElems ext s xs) (u8All xs) c .tupleStruct)
        pure (.union p (fs.set i c') types' offs' cur')
      | .bytes _ ty _ _ _ => if isUtf8Ty ty then fail "Cannot serialize enum with data as string" else notSupported "serialize_tuple_variant_start"
      | .bytesView _ ty _ _ _ => if ty == .utf8View then fail "Cannot serialize enum with data as string" else notSupported "serialize_tuple_variant_start"
      | .dictionary _ _ _ _ => fail "Cannot serialize enum with data as string"
      | .unknownVariant _ => fail "Unknown variant does not support serialize_tuple_variant_start"
      | _ => notSupported "serialize_tuple_variant_start"
  | .structVariant _ i _ fields =>
      match b with
      | .union p fs types offs cur => do
        let (c, types', offs', cur') ← serializeVariant fs types offs cur i
        let c' ← ctx c.ann (recordWith (fun s => pushFields ext s fields) c)
        pure (.union p (fs.set i c') types' offs' cur')
      | .bytes _ ty _ _ _ => if isUtf8Ty ty then fail "Cannot serialize enum with data as string" else notSupported "serialize_struct_variant_start"
      | .bytesView _ ty _ _ _ => if ty == .utf8View then fail "Cannot serialize enum with data as string" else notSupported "serialize_struct_variant_start"
      | .dictionary _ _ _ _ => fail "Cannot serialize enum with data as string"
      | .unknownVariant _ => fail "Unknown variant does not support serialize_struct_variant_start"
      | _ => notSupported "serialize_struct_variant_start"
  | .bytes bs =>
      match b with
      | .list p large fm v offs el => do
        let v' ← setValidity v (offs.length - 1) true
        let offs' ← duplicateLast offs
        let (el', offs'') ← pushByteElems ext large el offs' bs
        pure (.list p large fm v' offs'' el')
      | _ => pushScalar ext b (.bytes bs)
  | .bool x => pushScalar ext b (.bool x)
  | .int t x => pushScalar ext b (.int t x)
  | .f32 x => pushScalar ext b (.f32 x)
  | .f64 x => pushScalar ext b (.f64 x)
  | .char x => pushScalar ext b (.char x)
  | .str x => pushScalar ext b (.str x)
  | .unitStruct _ =>
    match b with
    | .unknownVariant _ => fail "Unknown variant does not support serialize_unit_struct"
    | _ => noneBody b

def callBody (ext : Ext) (b : B) : Call → R B
  | .val x => valBody ext b x
  | .default k => defaultBody b k

inductive OwnFails (ext : Ext) : B → Call → String → Prop
  /-- the code of `b` (children's errors are annotated, never plain) returns the plain error `msg` -/
  | body {b : B} {c : Call} {msg : String} : callBody ext b c = .error (.err msg) → OwnFails ext b c msg
  /-- `StructBuilder::element`: the struct builder, in the state `s` it has inside the row, has already seen field `idx` -/
  | duplicate {s : SS} {idx : Nat} {c : Call} : s.seen[idx]? = some true → OwnFails ext s.toB c "Duplicate field"

theorem pushNone_eq_body (b : B) : pushNone b = ctx b.ann (noneBody b) := by
  cases b <;> rfl

theorem push_eq_body (ext : Ext) (b : B) (x : SVal) (hs : ∀ v, x ≠ .some v) (hn : ∀ n v, x ≠ .newtypeStruct n v) :
    push ext b x = ctx b.ann (valBody ext b x) := by
  cases x with
  | some v => exact absurd rfl (hs v)
  | newtypeStruct n v => exact absurd rfl (hn n v)
  | none => rw [push, pushNone_eq_body]; rfl
  | unit =>
    unfold push valBody
    cases b <;> first | rfl | exact pushNone_eq_body _
  | unitStruct n =>
    unfold push valBody
    cases b <;> first | rfl | exact pushNone_eq_body _
  | _ => unfold push valBody; rfl

theorem valBody_scalar {ext : Ext} {b : B} {x : SVal} (hx : IsScalar b x) : valBody ext b x = pushScalar ext b x := by
  cases hx with
  | bytes bs hb => cases b <;> first | rfl | cases hb
  | unitVariant n i vn hb => cases b <;> first | rfl | cases hb
  | _ => rfl

theorem err_of_ctx_fail {ann : List (String × String)} {a msg : String}
    (h : ctx ann (fail a : R B) = ctx ann (fail msg)) : (fail a : R B) = .error (.err msg) := by
  simp only [SaModel.ctx, SaModel.fail] at h
  split at h <;> cases h <;> rfl

/-- Every case is the same line: the body of a refusing family is a literal `fail`, and the wrapper keeps its message. -/
theorem valBody_refused {ext : Ext} {b : B} {x : SVal} {msg : String} (hr : Refused b x)
    (h : push ext b x = ctx b.ann (fail msg)) : valBody ext b x = .error (.err msg) := by
  have hs : ∀ v, x ≠ .some v := by intro v e; subst e; cases hr; rename_i hx; cases hx
  have hn : ∀ n v, x ≠ .newtypeStruct n v := by intro n v e; subst e; cases hr; rename_i hx; cases hx
  have h := (push_eq_body ext b x hs hn).symm.trans h
  have key : ∃ a, valBody ext b x = fail a := by
    cases hr with
    | unit hx => cases hx <;> exact ⟨_, rfl⟩
    | map es h1 h2 => cases b <;> first | exact ⟨_, rfl⟩ | (cases h1; done) | cases h2
    | mapRaw ops h1 h2 => cases b <;> first | exact ⟨_, rfl⟩ | (cases h1; done) | cases h2
    | newtypeVariant n i vn v h1 | tupleVariant n i vn xs h1 | structVariant n i vn fs h1 =>
      cases b with
      | union p fs types offs cur => cases h1
      | bytes p ty v o d => cases ty <;> exact ⟨_, rfl⟩
      | bytesView p ty v vw bf => cases ty <;> exact ⟨_, rfl⟩
      | _ => exact ⟨_, rfl⟩
  obtain ⟨a, ha⟩ := key
  rw [ha] at h ⊢
  exact err_of_ctx_fail h

mutual
inductive Sub : Call → SVal → Prop
  | self (x : SVal) : Sub (.val x) x
  | some {c v} : Sub c v → Sub c (.some v)
  | newtypeStruct {c n v} : Sub c v → Sub c (.newtypeStruct n v)
  | seq {c xs} : SubL c xs → Sub c (.seq xs)
  | tuple {c xs} : SubL c xs → Sub c (.tuple xs)
  | tupleStruct {c n xs} : SubL c xs → Sub c (.tupleStruct n xs)
  | record {c n fs} : SubF c fs → Sub c (.record n fs)
  | map {c es} : SubE c es → Sub c (.map es)
  | mapRaw {c ops} : SubO c ops → Sub c (.mapRaw ops)
  /-- `UnionBuilder::serialize_unit_variant` issues `serialize_unit` to the variant's builder -/
  | unitVariant {c n i vn} : Sub c .unit → Sub c (.unitVariant n i vn)
  | newtypeVariant {c n i vn v} : Sub c v → Sub c (.newtypeVariant n i vn v)
  /-- … `serialize_tuple_struct_start` + elements + `end` -/
  | tupleVariant {c n i vn xs} : Sub c (.tupleStruct vn xs) → Sub c (.tupleVariant n i vn xs)
  /-- … `serialize_struct_start` + fields + `end` -/
  | structVariant {c n i vn fs} : Sub c (.record vn fs) → Sub c (.structVariant n i vn fs)
  /-- `ListBuilder::serialize_bytes`: one `serialize_u8` per byte -/
  | byte {c} {bs : List UInt8} {x : UInt8} : x ∈ bs → Sub c (.int .u8 x.toNat) → Sub c (.bytes bs)
  /-- `DictionaryUtf8Builder::serialize_str` (reached by every scalar with a string form — `v.to_string()`, a unit
  variant's name; `ext` is the external float formatter): `self.values.serialize_str(s)` to the VALUE builder … -/
  | dictValue {c x s} (ext : Ext) : scalarToString ext x = some s → Sub c (.str s) → Sub c x
  /-- … and `idx.serialize(Mut(self.indices))`, a `serialize_u64`, to the KEY builder -/
  | dictKey {c x} (ext : Ext) (i : Int) : (scalarToString ext x).isSome = true → Sub c (.int .u64 i) → Sub c x
inductive SubL : Call → SVals → Prop
  | head {c x r} : Sub c x → SubL c (.cons x r)
  | tail {c x r} : SubL c r → SubL c (.cons x r)
inductive SubF : Call → SFields → Prop
  | head {c k a x r} : Sub c x → SubF c (.cons k a x r)
  | tail {c k a x r} : SubF c r → SubF c (.cons k a x r)
inductive SubE : Call → SEntries → Prop
  | key {c k x r} : Sub c k → SubE c (.cons k x r)
  | value {c k x r} : Sub c x → SubE c (.cons k x r)
  | tail {c k x r} : SubE c r → SubE c (.cons k x r)
inductive SubO : Call → SMapOps → Prop
  | key {c k r} : Sub c k → SubO c (.key k r)
  | keyTail {c k r} : SubO c r → SubO c (.key k r)
  | value {c x r} : Sub c x → SubO c (.value x r)
  | valueTail {c x r} : SubO c r → SubO c (.value x r)
end

def Placeholder (c : Call) : Prop := c = .val .none ∨ ∃ k, c = .default k

def CallsOf (x : SVal) (c : Call) : Prop := Sub c x ∨ Placeholder c
def CallsOfL (xs : SVals) (c : Call) : Prop := SubL c xs ∨ Placeholder c
def CallsOfF (fs : SFields) (c : Call) : Prop := SubF c fs ∨ Placeholder c
def CallsOfE (es : SEntries) (c : Call) : Prop := SubE c es ∨ Placeholder c
def CallsOfO (ops : SMapOps) (c : Call) : Prop := SubO c ops ∨ Placeholder c

def Raised (ext : Ext) (S : List Pos) (C : Call → Prop) {α} (r : R α) : Prop :=
  ∀ msg a, r = .error (.errCtx msg a) →
    ∃ (b' : B) (c : Call), a = b'.ann ∧ (∀ q ∈ positions b', q ∈ S) ∧ C c ∧ OwnFails ext b' c msg

variable {ext : Ext}

theorem NoCtx.raised {α} {S : List Pos} {C : Call → Prop} (r : R α) [h : NoCtx r] : Raised ext S C r := NoCtx.ann r

theorem Raised.within {α} {S : List Pos} {C : Call → Prop} {r : R α} (h : Raised ext S C r) : Within S r :=
  fun msg a e => let ⟨b', _, ha, hs, _, _⟩ := h msg a e; ⟨_, hs _ (self_mem_positions b'), ha⟩

theorem Raised.of_ok {α} {S : List Pos} {C : Call → Prop} (v : α) : Raised ext S C (.ok v : R α) := Ann.of_ok v

theorem Raised.mono {α} {S S' : List Pos} {C C' : Call → Prop} {r : R α} (hs : ∀ q ∈ S, q ∈ S') (hc : ∀ c, C c → C' c)
    (h : Raised ext S C r) : Raised ext S' C' r :=
  fun msg a e => let ⟨b', c, ha, hsub, hC, ho⟩ := h msg a e; ⟨b', c, ha, fun q hq => hs q (hsub q hq), hc c hC, ho⟩

theorem Raised.monoS {α} {S S' : List Pos} {C : Call → Prop} {r : R α} (hs : ∀ q ∈ S, q ∈ S')
    (h : Raised ext S C r) : Raised ext S' C r := Raised.mono hs (fun _ h => h) h

theorem Raised.monoC {α} {S : List Pos} {C C' : Call → Prop} {r : R α} (hc : ∀ c, C c → C' c)
    (h : Raised ext S C r) : Raised ext S C' r := Raised.mono (fun _ h => h) hc h

theorem Raised.bind {α β} {S : List Pos} {C : Call → Prop} {r : R α} {f : α → R β} (hr : Raised ext S C r)
    (hf : ∀ v, r = .ok v → Raised ext S C (f v)) : Raised ext S C (r >>= f) := Ann.bind hr hf

theorem Raised.ite {α} {S : List Pos} {C : Call → Prop} (c : Prop) [Decidable c] {x y : R α} (hx : Raised ext S C x)
    (hy : Raised ext S C y) : Raised ext S C (if c then x else y) := Ann.ite c hx hy

theorem Raised.ctx_own {α} {S : List Pos} {C : Call → Prop} {r : R α} (b : B) (c : Call) (hs : ∀ q ∈ positions b, q ∈ S)
    (hc : C c) (hown : ∀ msg, r = .error (.err msg) → OwnFails ext b c msg) (h : Raised ext S C r) :
    Raised ext S C (ctx b.ann r) :=
  Ann.ctx rfl (fun msg e => ⟨b, c, rfl, hs, hc, hown msg e⟩) h

theorem subset_refl' {S : List Pos} : ∀ q ∈ S, q ∈ S := fun _ h => h

theorem placeholder_none : Placeholder (.val .none) := .inl rfl
theorem placeholder_default (k : Nat) : Placeholder (.default k) := .inr ⟨k, rfl⟩

end SaModel.Props.C18
