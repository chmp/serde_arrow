import SaModel.Lemmas.C01ObsCompComb
import SaModel.Lemmas.C01CompFields
import SaModel.Lemmas.C01Typed
/-
C01 "hidden rows" — completeness of `seqLikeWith` and of union rows under the weak invariant `WFH` / `NoDictKey`, with the
recursive parts as hypotheses (`u8All_length`, `interpAll_length`, `iter_incrementLast_total`: Lemmas/C01CompComb.lean).
-/
namespace SaModel.Build
open SaModel SaModel.Spec

def ElemsCompH (ext : Ext) (xs : SVals) (pe : Bool → B → List Int → R (B × List Int)) : Prop :=
  ∀ large el offs (l : Int) cdt cn cmd ls, GoodH el cdt cn cmd → vsizes ext xs ≤ room el → offs.getLast? = some l →
    0 ≤ l → l + xs.length ≤ 2147483647 → interpAll ext cdt cn cmd xs = .ok ls →
    ∃ r, pe large el offs = .ok r ∧ room el ≤ room r.1 + vsizes ext xs ∧ r.2.getLast? = some (l + xs.length)

def CountCompH (ext : Ext) (xs : SVals) (pc : B → Nat → R (B × Nat)) : Prop :=
  ∀ el c cdt cn cmd ls, GoodH el cdt cn cmd → vsizes ext xs ≤ room el → interpAll ext cdt cn cmd xs = .ok ls →
    ∃ el', pc el c = .ok (el', c + xs.length) ∧ room el ≤ room el' + vsizes ext xs

/-- the arithmetic of one row of a builder with an offsets vector over `m` child rows, at cost `k + 1`: `cnt ≤ k` new
child rows fit below `i32::MAX`, and the closed row has all but `k + 1` of the head room left -/
theorem offs_row {m cnt k r : Nat} (hcnt : cnt ≤ k) (hr : k + 1 ≤ min (LIM - m) r) :
    k ≤ r ∧ (0 : Int) ≤ m ∧ (m : Int) + cnt ≤ 2147483647 ∧
      ∀ {r'}, r ≤ r' + k → min (LIM - m) r ≤ min (LIM - ((m : Int) + cnt).toNat) r' + (k + 1) := by
  simp only [LIM] at hr ⊢
  exact ⟨by omega, by omega, by omega, fun h => by omega⟩

/-- one row of a list builder at cost `k + 1` with `cnt ≤ k` elements: the row opens, the child is `GoodH` with room for
`k`, the elements' offsets fit, and the row closes with all but `k + 1` of the head room left -/
theorem list_rowH {p large fm v offs el dt n md} {k cnt : Nat} (hg : GoodH (.list p large fm v offs el) dt n md)
    (hcnt : cnt ≤ k) (hr : k + 1 ≤ room (.list p large fm v offs el)) :
    ∃ cname cdt cn cmd v', dt = (if large then .largeList (.mk cname cdt cn cmd) else .list (.mk cname cdt cn cmd)) ∧
      (∀ ext pos xs, seqSpec ext pos dt md xs = (do pure (.list (LVals.ofList (← interpAll ext cdt cn cmd xs))))) ∧
      (∀ ext bs, interpDT ext dt n md (.bytes bs) =
        (do pure (.list (LVals.ofList (← bs.mapM fun x => interpScalar ext cdt (.int .u8 x.toNat)))))) ∧
      GoodH el cdt cn cmd ∧ k ≤ room el ∧ setValidity v (offs.length - 1) true = .ok v' ∧
      duplicateLast offs = .ok (offs ++ [((dec el).length : Int)]) ∧ (0 : Int) ≤ (dec el).length ∧
      ((dec el).length : Int) + cnt ≤ 2147483647 ∧
      ∀ {el' : B} {offs' : List Int}, room el ≤ room el' + k → offs'.getLast? = some (((dec el).length : Int) + cnt) →
        room (.list p large fm v offs el) ≤ room (.list p large fm v' offs' el') + (k + 1) := by
  have hw := hg.wf
  simp only [WFH] at hw
  obtain ⟨cname, cdt, cn, cmd, hdt, hsel, hspec, hbytes⟩ := hg.shape.list_row
  have hlast := hw.1.2.1
  have hln : lastNat offs = (dec el).length := by simp [lastNat_of_getLast hlast]
  simp only [room, hln] at hr ⊢
  obtain ⟨r1, r2, r3, r4⟩ := offs_row hcnt hr
  obtain ⟨v', hv'⟩ := setValidity_true_total v (offs.length - 1)
  refine ⟨cname, cdt, cn, cmd, v', hdt, hspec, hbytes, ⟨hw.2.2, hg.nd, hsel, by subst hdt; cases large <;> simpa [total, totalF] using hg.tot⟩, r1, hv',
    duplicateLast_total hlast, r2, r3, fun h hl => ?_⟩
  rw [lastNat_of_getLast hl]
  exact r4 h

theorem seqLike_completeH {ext : Ext} {xs : SVals} {pe : Bool → B → List Int → R (B × List Int)}
    {pc : B → Nat → R (B × Nat)} {pt : SS → R SS}
    (hpe : ElemsCompH ext xs pe) (hpc : CountCompH ext xs pc)
    (hpt1 : FieldsOKH pt) (hptskel : ∀ s1 s2, pt s1 = .ok s2 → SSkel s2 s1)
    (hpt : ∀ s, LoopCompAt s (vsizes ext xs) (PendT ext xs s.next s.seen) (pt s))
    (b : B) (k : SeqKind) (dt : DataType) (n : Bool) (md : Metadata) (lv : LVal)
    (hg : GoodH b dt n md) (hr : vsizes ext xs + 1 ≤ room b) (hi : seqSpec ext (k != .seq) dt md xs = .ok lv) :
    ∃ b', seqLikeWith pe pc pt (u8All xs) b k = .ok b' ∧ room b ≤ room b' + (vsizes ext xs + 1) := by
  have hlen := vsizes_length ext xs
  cases b with
  | list p large fm v offs el =>
    obtain ⟨cname, cdt, cn, cmd, v', _, hspec, _, hgel, hk, hv', hdup, h0, hle, hclose⟩ := list_rowH hg hlen hr
    rw [hspec] at hi
    obtain ⟨ls, hia, _⟩ := (bind_ok _ _ _).1 hi
    obtain ⟨r, hpr, hroom, hl2⟩ := hpe large el (offs ++ [((dec el).length : Int)]) ((dec el).length : Int) cdt cn cmd ls hgel hk
      (by simp) h0 hle hia
    exact ⟨.list p large fm v' r.2 r.1, (bind_ok _ _ _).2 ⟨_, hv', (bind_ok _ _ _).2 ⟨_, hdup, (bind_ok _ _ _).2 ⟨r, hpr, rfl⟩⟩⟩,
      hclose hroom hl2⟩
  | fixedSizeList p fm m len v cur el =>
    have hw := hg.wf
    simp only [WFH] at hw
    have hsafe := hg.nd
    simp only [NoDictKey] at hsafe
    have hsh := hg.shape
    simp only [Shape] at hsh
    obtain ⟨_, cname, cdt, cn, cmd, rfl, hsel⟩ := hsh
    have ht := hg.tot
    simp only [total, totalF, Bool.and_eq_true] at ht
    simp only [room] at hr
    have hgel : GoodH el cdt cn cmd := ⟨hw.2.2, hsafe, hsel, ht.1⟩
    simp only [seqSpec, isUnknownVariant, Bool.false_eq_true, if_false] at hi
    obtain ⟨ls, hia, hi⟩ := (bind_ok _ _ _).1 hi
    have hcnt : xs.length = m := by
      have := interpAll_length ext cdt cn cmd xs ls hia
      by_cases hm : (ls.length : Int) = (m : Int)
      · omega
      · simp [hm, fail] at hi
    obtain ⟨v', hv'⟩ := setValidity_true_total v len
    obtain ⟨el', hpr, hroom⟩ := hpc el 0 cdt cn cmd ls hgel (by omega) hia
    refine ⟨.fixedSizeList p fm m (len + 1) v' (0 + xs.length) el', ?_, by simp only [room]; omega⟩
    simp only [seqLikeWith]
    refine (bind_ok _ _ _).2 ⟨_, hv', (bind_ok _ _ _).2 ⟨_, hpr, ?_⟩⟩
    have : ((0 + xs.length) != m) = false := by simp; omega
    simp only [this, Bool.false_eq_true, if_false]
    rfl
  | bytes p ty v offs data =>
    have hw := hg.wf
    simp only [WFH] at hw
    have hlast := hw.1.2.1
    have hln : lastNat offs = data.length := by simp [lastNat_of_getLast hlast]
    simp only [room, hln, LIM] at hr
    rw [hg.shape.bytes_row.2] at hi
    have hbin : isBinaryTy ty = true := Decidable.by_contra fun h => by rw [if_neg h] at hi; cases hi
    rw [if_pos hbin] at hi
    obtain ⟨bs, hbs, _⟩ := (bind_ok _ _ _).1 hi
    rw [specBytes_ok_iff] at hbs
    have hbl := u8All_length xs bs hbs
    obtain ⟨v', hv'⟩ := setValidity_true_total v (offs.length - 1)
    obtain ⟨offs', hit, hl2⟩ := iter_incrementLast_total (isLargeTy ty) bs.length (offs ++ [(data.length : Int)]) (data.length : Int) (by simp)
      (by omega) (by omega)
    refine ⟨.bytes p ty v' offs' (data ++ bs), ?_, ?_⟩
    · simp only [seqLikeWith, hbin, if_true]
      exact (bind_ok _ _ _).2 ⟨_, hv', (bind_ok _ _ _).2 ⟨_, duplicateLast_total hlast, (bind_ok _ _ _).2 ⟨bs, hbs,
        (bind_ok _ _ _).2 ⟨_, hit, rfl⟩⟩⟩⟩
    · simp only [room, hln, lastNat_of_getLast hl2, LIM]; omega
  | bytesView p ty v views buf =>
    have hsh := hg.shape
    simp only [Shape] at hsh
    obtain ⟨rfl, _⟩ := hsh
    simp only [room, LIM] at hr
    have hbs : ∃ bs, u8All xs = .ok bs ∧ (ty == .binaryView) = true := by
      cases ty <;> simp only [viewDT, seqSpec, isUnknownVariant, Bool.false_eq_true, if_false, fail] at hi <;>
        first
        | cases hi
        | (cases hh : u8All xs with
            | ok bs => exact ⟨bs, rfl, rfl⟩
            | error e => simp [specBytes_eq, hh, bind, Except.bind] at hi)
    obtain ⟨bs, hbs, hbin⟩ := hbs
    have hbl := u8All_length xs bs hbs
    obtain ⟨v', hv'⟩ := setValidity_true_total v views.length
    have hvs : ∃ r, viewSeq views buf bs = .ok r ∧ r.2.length ≤ buf.length + bs.length := by
      unfold viewSeq
      rw [if_neg (by simp only [I32_MAX]; omega)]
      split
      · exact ⟨_, rfl, by simp⟩
      · rw [if_neg (by simp only [I32_MAX]; omega)]
        exact ⟨_, rfl, by simp⟩
    obtain ⟨⟨views', buf'⟩, hvs, hbl2⟩ := hvs
    refine ⟨.bytesView p ty v' views' buf', ?_, ?_⟩
    · simp only [seqLikeWith, hbin, if_true]
      exact (bind_ok _ _ _).2 ⟨_, hv', (bind_ok _ _ _).2 ⟨bs, hbs, (bind_ok _ _ _).2 ⟨_, hvs, rfl⟩⟩⟩
    · simp only [room, LIM]; simp only at hbl2; omega
  | fixedSizeBinary p m len v buf cur =>
    have hsh := hg.shape
    simp only [Shape] at hsh
    obtain ⟨rfl, _⟩ := hsh
    simp only [seqSpec, isUnknownVariant, Bool.false_eq_true, if_false] at hi
    obtain ⟨bs, hbs, hi⟩ := (bind_ok _ _ _).1 hi
    have hbs := (specBytes_ok_iff _ _).1 hbs
    have hcnt : (bs.length != m) = false := by
      by_cases hm : (bs.length : Int) = (m : Int)
      · simp; omega
      · simp [hm, fail] at hi
    obtain ⟨v', hv'⟩ := setValidity_true_total v len
    refine ⟨.fixedSizeBinary p m (len + 1) v' (buf ++ bs) bs.length, ?_, by simp [room]⟩
    simp only [seqLikeWith]
    refine (bind_ok _ _ _).2 ⟨_, hv', (bind_ok _ _ _).2 ⟨bs, hbs, ?_⟩⟩
    simp only [hcnt, Bool.false_eq_true, if_false]
    rfl
  | struct p len v fs cached next seen =>
    have hsh := hg.shape
    simp only [Shape] at hsh
    obtain ⟨_, sfs, rfl, hsl⟩ := hsh
    have hw := hg.wf
    simp only [WFH] at hw
    have hnd : (sfs.toList.map Field.name).Nodup := by rw [← ShapeL.names _ _ hsl]; exact hw.2.2.2.1
    have hrow : ∀ (_ : structOf sfs.toList (fun f => interpNth ext f.dataType f.nullable f.metadata
        (indexOfName (sfs.toList.map Field.name) f.name |>.getD 0) xs) = .ok lv), ∃ b', (do
          let s ← SS.start ⟨p, len, v, fs, cached, next, seen⟩
          let s ← pt s
          let s ← s.finishRow
          pure s.toB : R B) = .ok b' ∧ roomL fs ≤ room b' + (vsizes ext xs + 1) := fun hst =>
      record_completeH hg hpt1 hptskel hpt hr
        (fun s _ hn hs => by rw [hn, hs]; exact PendT.fresh hnd (fun j f hj => structOf_inv hst j f hj))
    cases k with
    | seq => simp [seqSpec, isUnknownVariant, fail, show (SeqKind.seq != SeqKind.seq) = false from by decide] at hi
    | tuple => exact hrow (by simpa [seqSpec, isUnknownVariant, show (SeqKind.tuple != SeqKind.seq) = true from by decide] using hi)
    | tupleStruct =>
      exact hrow (by simpa [seqSpec, isUnknownVariant, show (SeqKind.tupleStruct != SeqKind.seq) = true from by decide] using hi)
  | null p len =>
    have hsh := hg.shape
    simp only [Shape] at hsh
    obtain ⟨rfl, hu⟩ := hsh
    simp [seqSpec, hu, fail] at hi
  | unknownVariant p =>
    have hsh := hg.shape
    simp only [Shape] at hsh
    obtain ⟨rfl, hu⟩ := hsh
    simp [seqSpec, hu, fail] at hi
  | leaf p kd v vals =>
    have hsh := hg.shape
    simp only [Shape] at hsh
    have hk := hsh.1
    -- along the arms of `seqSpec`: a sequence type has no leaf kind
    unfold seqSpec at hi
    split at hi
    · cases hi
    · split at hi <;> first | cases hi | simp [kindOf] at hk
  | map p mm v offs ks vs =>
    have hsh := hg.shape
    simp only [Shape] at hsh
    obtain ⟨_, ename, kn, kdt, knl, kmd, vn, vdt, vnl, vmd, rest, en, emd, sorted, rfl, _, _⟩ := hsh
    simp [seqSpec, isUnknownVariant, fail] at hi
  | dictionary p idx vals index =>
    have hsh := hg.shape
    simp only [Shape] at hsh
    obtain ⟨⟨kdt, vdt, rfl, hsv⟩, _⟩ := hsh
    simp [seqSpec, isUnknownVariant, fail] at hi
  | union p fs types offs cur =>
    have hsh := hg.shape
    simp only [Shape] at hsh
    obtain ⟨ufs, mode, rfl, _⟩ := hsh
    simp [seqSpec, isUnknownVariant, fail] at hi

/-! ### union rows -/

theorem union_row_completeH {p fs types offs cur} {i : Nat} {pc : B → R B} {ufs : UFields} {mode : UnionMode} {n : Bool}
    {md : Metadata} {cost : Nat} {tid : Int} {nm : String} {cdt : DataType} {cn : Bool} {cmd : Metadata}
    (hg : GoodH (.union p fs types offs cur) (.union ufs mode) n md)
    (hufs : ufs.toList[i]? = some (tid, .mk nm cdt cn cmd))
    (hcap : 1 ≤ curRoom cur)
    (hpc : ∀ c, GoodH c cdt cn cmd → roomL fs ≤ room c → ∃ c', pc c = .ok c' ∧ room c ≤ room c' + cost) :
    ∃ b', (do
      let (c, types', offs', cur') ← serializeVariant fs types offs cur i
      let c' ← pc c
      pure (.union p (fs.set i c') types' offs' cur') : R B) = .ok b' ∧
        min (curRoom cur) (roomL fs) ≤ room b' + max cost 1 := by
  have hw := hg.wf
  simp only [WFH] at hw
  have hsafe := hg.nd
  simp only [NoDictKey] at hsafe
  have hsh := hg.shape
  simp only [Shape] at hsh
  obtain ⟨ufs', mode', he, hsu⟩ := hsh
  cases he
  have ht := hg.tot
  simp only [total, Bool.and_eq_true, decide_eq_true_eq] at ht
  obtain ⟨c, m, hget, hshc⟩ := ShapeU.get' fs ufs 0 i tid nm cdt cn cmd hsu hufs
  obtain ⟨hcur, hwc⟩ := WFHU_get fs cur i _ hw.2.2.1 hget
  have hi127 : ¬ (i > 127) := by
    have : i < ufs.toList.length := by
      rcases Nat.lt_or_ge i ufs.toList.length with h | h
      · exact h
      · rw [List.getElem?_eq_none_iff.mpr h] at hufs; cases hufs
    rw [UFields.length_toList] at this
    omega
  have hgc : GoodH c cdt cn cmd := ⟨hwc, NoDictKeyL.get _ _ _ hsafe hget, hshc, totalUs_get ufs i tid _ ht.2 hufs⟩
  obtain ⟨c', hpc', hroom⟩ := hpc c hgc (roomL_get fs i c m hget)
  refine ⟨.union p (fs.set i c') (types ++ [(i : Int)]) (offs ++ [((dec c).length : Int)]) (cur.set i (((dec c).length : Int) + 1)), ?_, ?_⟩
  · refine (bind_ok _ _ _).2 ⟨(c, types ++ [(i : Int)], offs ++ [((dec c).length : Int)], cur.set i (((dec c).length : Int) + 1)), ?_,
      (bind_ok _ _ _).2 ⟨c', hpc', rfl⟩⟩
    simp only [serializeVariant, hget, hcur, hi127, curRoom_pos_get hcur hcap, if_false]
  · simp only [room]
    have h1 := roomL_set fs i c c' m cost hget hroom
    have h2 := curRoom_set cur i _ hcur
    exact min_le_min_max h1 h2

end SaModel.Build
