import SaModel.Lemmas.C01Interp
import SaModel.Lemmas.C01ObsComb
import SaModel.Lemmas.SpecInterp
/-
R2, struct family: the row a record appends agrees with `Spec.structOf` for any way of collecting the candidate values of
a field (by name, by position, by map key).  `struct_interp` is the strict reading of the row lemmas of Lemmas/C01ObsComb.lean
(`SS.start_midH`, `row_rowsH`); `structOf_of_rows` is shared with the observable `struct_row` (Lemmas/C01ObsRows.lean).
-/
namespace SaModel.Build
open SaModel SaModel.Spec
open SaModel.Lemmas.C03 (ViewSmall ViewSmallL)

theorem getD_set {α} (l : List α) (i j : Nat) (a d : α) (hi : i < l.length) :
    (l.set i a).getD j d = if i = j then a else l.getD j d := by
  simp only [List.getD_eq_getElem?_getD, List.getElem?_set]
  by_cases h : i = j
  · subst h; simp only [if_true, hi]; rfl
  · simp only [h, if_false]

theorem ExtL.unique : ∀ (fs0 fs : BL) (a1 a2 : List (List LVal)), ExtL fs0 fs a1 → ExtL fs0 fs a2 → a1 = a2 :=
  fun fs0 fs a1 a2 h1 => ExtL.elim (motive := fun fs0 fs a1 => ∀ a2, ExtL fs0 fs a2 → a1 = a2)
    (fun a2 h => by cases a2 <;> simp [ExtL] at h ⊢)
    (fun _ hr _ ih a2 h2 => by
      cases a2 with
      | nil => simp [ExtL] at h2
      | cons a' as' =>
        simp only [ExtL] at h2
        rw [rows_unique hr h2.2.2.1, ih as' h2.2.2.2]) fs0 fs a1 h1 a2

theorem Mid.unique {fs0 : BL} {s : SS} {a1 a2 : List (List LVal)} (h1 : Mid fs0 s a1) (h2 : Mid fs0 s a2) : a1 = a2 :=
  ExtL.unique _ _ _ _ h1.ext h2.ext

theorem Mid.adds_length {fs0 : BL} {s : SS} {adds : List (List LVal)} (h : Mid fs0 s adds) :
    adds.length = s.fields.length ∧ s.seen.length = s.fields.length ∧ s.fields.length = fs0.length := by
  have h1 := ExtL.length _ _ _ h.ext
  have h2 := Flags.length _ _ h.flags
  omega

theorem ShapeL.get : ∀ (fs : BL) (sfs : Fields) (j : Nat) (c : B) (m : FieldMeta), ShapeL fs sfs →
    fs.get? j = some (c, m) →
    ∃ f, sfs.toList[j]? = some f ∧ Shape c f.dataType f.nullable f.metadata ∧ m.name = f.name ∧ m.nullable = f.nullable
  | .nil, .nil, _, _, _, _, h => by simp [BL.get?] at h
  | .cons b m r, .cons (.mk fname fdt fn fmd) rest, 0, c, m', hs, h => by
    simp only [ShapeL] at hs
    simp [BL.get?] at h; obtain ⟨rfl, rfl⟩ := h
    exact ⟨.mk fname fdt fn fmd, by simp [Fields.toList], hs.2.2.1, hs.1, hs.2.1⟩
  | .cons b m r, .cons (.mk fname fdt fn fmd) rest, j + 1, c, m', hs, h => by
    simp only [ShapeL] at hs
    simp only [BL.get?] at h
    simpa [Fields.toList] using ShapeL.get r rest j c m' hs.2.2.2 h
  | .nil, .cons _ _, _, _, _, hs, _ => by simp [ShapeL] at hs
  | .cons _ _ _, .nil, _, _, _, hs, _ => by simp [ShapeL] at hs

theorem ShapeL.names : ∀ (fs : BL) (sfs : Fields), ShapeL fs sfs → fs.names = sfs.toList.map Field.name
  | .nil, .nil, _ => rfl
  | .cons b m r, .cons (.mk fname fdt fn fmd) rest, hs => by
    simp only [ShapeL] at hs
    simp [BL.names, Fields.toList, Field.name, hs.1, ShapeL.names r rest hs.2.2.2]
  | .nil, .cons _ _, hs => by simp [ShapeL] at hs
  | .cons _ _ _, .nil, hs => by simp [ShapeL] at hs

theorem ShapeL.length {fs : BL} {sfs : Fields} (h : ShapeL fs sfs) : sfs.toList.length = fs.length := by
  have := congrArg List.length (ShapeL.names fs sfs h)
  simp [BL.names_length] at this
  omega

/-! ### assembling `structOf` -/

theorem mapM_fields_ok (collect : Field → R (List LVal)) : ∀ (fields : List Field) (adds3 : List (List LVal)),
    adds3.length = fields.length →
    (∀ j f, fields[j]? = some f → ∃ found, collect f = .ok found ∧
      pickOne f.name f.nullable f.dataType f.metadata found = .ok ((adds3.getD j []).getD 0 .null)) →
    fields.mapM (pickField collect) = .ok (((fields.map Field.name).zip adds3).map fun c => (c.1, c.2.getD 0 LVal.null))
  | [], [], _, _ => rfl
  | f :: rest, a :: as, hl, h => by
    obtain ⟨found, h1, h2⟩ := h 0 f rfl
    rw [List.mapM_cons, pickField_eq_ok.mpr ⟨found, _, h1, h2, rfl⟩,
      mapM_fields_ok collect rest as (by simpa using hl) (fun j f' hj => by simpa using h (j + 1) f' (by simpa using hj))]
    rfl
  | [], _ :: _, hl, _ => by simp at hl
  | _ :: _, [], hl, _ => by simp at hl

theorem structOf_ok (collect : Field → R (List LVal)) (fields : List Field) (names : List String)
    (adds3 : List (List LVal)) (hn : names = fields.map Field.name) (hl : adds3.length = fields.length)
    (h : ∀ j f, fields[j]? = some f → ∃ found, collect f = .ok found ∧
      pickOne f.name f.nullable f.dataType f.metadata found = .ok ((adds3.getD j []).getD 0 .null)) :
    structOf fields collect = .ok (rowAt (names.zip adds3) 0) := by
  rw [structOf_eq, mapM_fields_ok collect fields adds3 hl h, hn]
  rfl

theorem struct_interp.flags_at : ∀ (seen : List Bool) (adds : List (List LVal)), Flags seen adds →
    ∀ (j : Nat) (h : j < seen.length), (adds.getD j []).length = if seen[j] then 1 else 0
  | [], [], _, _, h => by simp at h
  | s :: ss, a :: as, hf, 0, _ => by simp only [Flags] at hf; simpa using hf.1
  | s :: ss, a :: as, hf, j + 1, h => by
    simp only [Flags] at hf
    simpa using struct_interp.flags_at ss as hf.2 j (by simpa using h)
  | [], _ :: _, hf, _, _ => by simp [Flags] at hf
  | _ :: _, [], hf, _, _ => by simp [Flags] at hf

/-- the rows the children of a record hold after `end` are what the specification picks from the candidates `collect` gathers:
a seen child holds its one candidate, an unseen (nullable) child the null it received -/
theorem structOf_of_rows (collect : Field → R (List LVal)) {fs : BL} {s2 : SS} {sfs : Fields} {adds2 adds3 : List (List LVal)}
    (hshape : ShapeL fs sfs) (hshape2 : ShapeL s2.fields sfs) (hl3 : adds3.length = fs.length) (hflags : Flags s2.seen adds2)
    (hlen : s2.seen.length = fs.length)
    (hrel : ∀ j, (s2.seen[j]? = some true → adds3.getD j [] = adds2.getD j []) ∧
      (s2.seen[j]? = some false → adds3.getD j [] = [.null] ∧
        ∃ c m c', s2.fields.get? j = some (c, m) ∧ m.nullable = true ∧ pushNone c = .ok c'))
    (hcol : ∀ j f, sfs.toList[j]? = some f → ∃ found, collect f = .ok found ∧ adds2.getD j [] = found) :
    structOf sfs.toList collect = .ok (rowAt (fs.names.zip adds3) 0) := by
  refine structOf_ok collect sfs.toList fs.names adds3 (ShapeL.names fs sfs hshape) (by rw [hl3, hshape.length]) ?_
  intro j f hj
  obtain ⟨found, hc, ha2⟩ := hcol j f hj
  refine ⟨found, hc, ?_⟩
  have hjlt : j < s2.seen.length := by
    have hj' : j < sfs.toList.length := by
      rcases Nat.lt_or_ge j sfs.toList.length with h | h
      · exact h
      · rw [List.getElem?_eq_none_iff.mpr h] at hj; cases hj
    rw [hshape.length] at hj'
    omega
  have hflag := struct_interp.flags_at _ _ hflags j hjlt
  cases hs : s2.seen[j]'hjlt with
  | true =>
    have hs' : s2.seen[j]? = some true := by rw [List.getElem?_eq_getElem hjlt, hs]
    rw [(hrel j).1 hs', ha2]
    rw [hs] at hflag
    simp only [if_true] at hflag
    rw [ha2] at hflag
    match found, hflag with
    | [a], _ => simp [pickOne]
  | false =>
    have hs' : s2.seen[j]? = some false := by rw [List.getElem?_eq_getElem hjlt, hs]
    obtain ⟨h3, c, m, c', hget, hnl, hpn⟩ := (hrel j).2 hs'
    rw [h3]
    rw [hs] at hflag
    simp only [Bool.false_eq_true, if_false] at hflag
    rw [ha2] at hflag
    have hfound : found = [] := List.eq_nil_of_length_eq_zero hflag
    subst hfound
    obtain ⟨f', hj', hsh, _, hnl'⟩ := ShapeL.get _ _ _ _ _ hshape2 hget
    rw [hj] at hj'; cases hj'
    have hfn : f.nullable = true := by rw [← hnl']; exact hnl
    simp only [pickOne, hfn, Bool.not_true, Bool.false_eq_true, if_false, List.getD_cons_zero]
    have := pushNone_interp c c' _ _ _ hsh hpn
    rwa [hfn] at this

/-- **A record row is the specified struct value**, for any way `collect` of gathering the candidates of a field
that the field loop `pf` implements. -/
theorem struct_interp {p len v fs cached next seen} {pf : SS → R SS} {b' : B} {sfs : Fields} {lv : LVal}
    (collect : Field → R (List LVal))
    (hwf : WFB (.struct p len v fs cached next seen)) (hsafe : Safe (.struct p len v fs cached next seen))
    (hshape : ShapeL fs sfs) (hpf : FieldsOK pf) (hskel : ∀ s1 s2, pf s1 = .ok s2 → SSkel s2 s1)
    (hcol : ∀ s1 s2 adds2, s1.next = 0 → s1.fields = fs → Mid fs s1 (List.replicate fs.length []) → Mid fs s2 adds2 →
      pf s1 = .ok s2 → ViewSmallL s2.fields →
      ∀ j f, sfs.toList[j]? = some f → ∃ found, collect f = .ok found ∧ adds2.getD j [] = found)
    (h : (do
      let s ← SS.start ⟨p, len, v, fs, cached, next, seen⟩
      let s ← pf s
      let s ← s.finishRow
      pure s.toB : R B) = .ok b')
    (hd : dec b' = dec (.struct p len v fs cached next seen) ++ [lv]) (hsm : ViewSmall b') :
    structOf sfs.toList collect = .ok lv := by
  obtain ⟨s1, s2, s3, h1, h2, h3, rfl⟩ := PushCases.row_ok (s := ⟨p, len, v, fs, cached, next, seen⟩) h
  have hwh := WFH_of_WFB _ hwf
  obtain ⟨hn0, hf1, hm1H⟩ := SS.start_midH h1 hwh (NoDictKey_of_Safe _ hsafe)
  -- the strict mid-record state at `start` (its observable reading is `hm1H`)
  have hm1 : Mid fs s1 (List.replicate fs.length []) := by
    have hw' := hwf
    simp only [WFB] at hw'
    simp only [Safe] at hsafe
    simp only [SS.start] at h1
    obtain ⟨v', _, h1⟩ := (bind_ok _ _ _).1 h1
    cases h1
    exact ⟨ExtL.refl fs len hw'.2.1, by rw [hw'.2.2.1]; exact Flags.fresh _, hw'.2.2.2.2, hsafe.1, hw'.2.2.2.1⟩
  obtain ⟨⟨adds2, hm2⟩, hsame⟩ := hpf _ _ _ _ hm1 h2
  obtain ⟨adds3, hl3, hrel, _, hr⟩ := row_rowsH h1 hm2.toH hsame h3 hwh
  -- the row the struct shows is `lv`
  have e : (dec s3.toB).map some = decH (.struct p len v fs cached next seen) ++ [some lv] := by
    rw [hd, decH_of_WFB (.struct p len v fs cached next seen) hwf]; simp
  have hr' := (decH_sound s3.toB).trans hr
  rw [e] at hr'
  have := Refines.snoc_inj (Refines.refl _) hr'
  subst this
  have hshape2 : ShapeL s2.fields sfs := by
    have := (hskel s1 s2 h2).2.2.1
    rw [hf1] at this
    exact ShapeL.of_takeRest this hshape
  have hsm2 : ViewSmallL s2.fields := by
    simp only [SS.finishRow] at h3
    obtain ⟨fs3, h3', h4⟩ := (bind_ok _ _ _).1 h3
    cases h4
    exact endFields_small _ _ _ h3' (by simpa only [SS.toB, ViewSmall] using hsm)
  exact structOf_of_rows collect hshape hshape2 hl3 hm2.flags (by have := hm2.adds_length; simp only at this ⊢; omega) hrel
    (hcol s1 s2 adds2 hn0 hf1 hm1 hm2 h2 hsm2)

end SaModel.Build
