import SaModel.Trace.Leaf
/-
Finite tables about the leaf lattice (`SaModel/Trace/Leaf.lean`), each a Bool-valued checker over the complete
alphabet `leafStates o × leafTypes o …`.  `stateTypesTable` and `nullTable` are evaluated by the kernel as they stand
(`leafTables_all`, SaModel/Lemmas/C07TablesEval.lean), for every one of the 2^3 settings of the options
`coerce_primitive_type` reads; what the other tables say `SaModel/Props/C07.lean` proves from two evaluated tables over
the TYPES of the states (`stepT`, `pairT`; a step only ORs the nullable flag into its result) — `stepTable_all`,
`markTable_all` there (of the others only `tripleRow` occurs in a statement: `coerce_assoc_on_success`).
-/
namespace SaModel.Lemmas.C07
open SaModel SaModel.Trace

/-- two steps -/
def act2 (o : Options) (s : LeafSt) (a b : DataType) : R LeafSt :=
  match act o s a with
  | .ok s' => act o s' b
  | .error e => .error e

/-- both orders give the same state, or both fail; a success/failure mismatch only under `allow_to_string` -/
def commRow (o : Options) (s : LeafSt) (a b : DataType) : Bool :=
  match act2 o s a b, act2 o s b a with
  | .ok x, .ok y => decide (x = y)
  | .error _, .error _ => true
  | .ok _, .error _ => o.allow_to_string
  | .error _, .ok _ => o.allow_to_string

def commTable (o : Options) : Bool :=
  (leafStates o).all fun s => (leafTypes o).all fun a => (leafTypes o).all fun b => commRow o s a b

/-- a step stays inside the alphabet; the nullable flag is never lost; absorbing the same type again changes nothing -/
def stepRow (o : Options) (s : LeafSt) (a : DataType) : Bool :=
  match act o s a with
  | .ok s' => (leafStates o).any (fun x => decide (x = s')) && (!s.2 || s'.2) && decide (act o s' a = .ok s')
  | .error (.err _) => true
  | .error (.errCtx _ _) => true
  | .error (.panic _) => false

def stepTable (o : Options) : Bool :=
  (leafStates o).all fun s => (leafTypes o).all fun a => stepRow o s a

/-- `mark_nullable` commutes with a step -/
def markRow (o : Options) (s : LeafSt) (a : DataType) : Bool :=
  match act o s a, act o (mark s) a with
  | .ok s', .ok s'' => decide (s'' = mark s')
  | .error _, .error _ => true
  | _, _ => false

def markTable (o : Options) : Bool :=
  (leafStates o).all fun s => (leafTypes o).all fun a => markRow o s a

/-- a type a state has absorbed stays absorbed after any further step -/
def staysRow (o : Options) (r : LeafSt) (a b : DataType) : Bool :=
  !decide (act o r a = .ok r) ||
    match act o r b with
    | .ok r' => decide (act o r' a = .ok r')
    | .error _ => true

def staysTable (o : Options) : Bool :=
  (leafStates o).all fun r => (leafTypes o).all fun a => (leafTypes o).all fun b => staysRow o r a b

/-- `s ⊑ r`: `r` has absorbed the type of `s` and kept its nullable flag -/
def sle (o : Options) (s r : LeafSt) : Bool :=
  (match s.1 with
   | none => true
   | some ty => decide (act o r ty = .ok r)) && (!s.2 || r.2)

/-- the type of every state of the alphabet is a type of the alphabet -/
def stateTypesTable (o : Options) : Bool :=
  (leafStates o).all fun s => match s.1 with
    | none => true
    | some ty => (leafTypes o).any fun x => decide (x = ty)

/-- a null sample makes the position nullable -/
def nullTable (o : Options) : Bool :=
  (leafStates o).all fun s => match act o s .null with
    | .ok s' => s'.2
    | .error _ => false

/-- a state is above itself -/
def reflTable (o : Options) : Bool := (leafStates o).all fun s => sle o s s

/-- the result of a step is the LEAST state above the old state that has absorbed the new type -/
def leastRow (o : Options) (q r : LeafSt) (a : DataType) : Bool :=
  !(sle o q r && decide (act o r a = .ok r)) ||
    match act o q a with
    | .ok q' => sle o q' r
    | .error _ => true

def leastTable (o : Options) : Bool :=
  (leafStates o).all fun q => (leafStates o).all fun r => (leafTypes o).all fun a => leastRow o q r a

def antisymTable (o : Options) : Bool :=
  (leafStates o).all fun r1 => (leafStates o).all fun r2 => !(sle o r1 r2 && sle o r2 r1) || decide (r1 = r2)

/-- all six orders of a triple from the empty state: the successful ones agree, and unless `allow_to_string` they
succeed or fail together -/
def act3 (o : Options) (a b c : DataType) : Option LeafSt :=
  match act2 o (none, false) a b with
  | .ok s => (match act o s c with | .ok r => some r | .error _ => none)
  | .error _ => none

def tripleRow (o : Options) (a b c : DataType) : Bool :=
  let outs := [act3 o a b c, act3 o a c b, act3 o b a c, act3 o b c a, act3 o c a b, act3 o c b a]
  let succ := outs.filterMap id
  (match succ with
   | [] => true
   | r :: rest => rest.all fun r' => decide (r' = r)) &&
  (o.allow_to_string || succ.length == 6 || succ.length == 0)

def tripleTable (o : Options) : Bool :=
  (leafTypes o).all fun a => (leafTypes o).all fun b => (leafTypes o).all fun c => tripleRow o a b c

end SaModel.Lemmas.C07
