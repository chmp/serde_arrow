import SaModel.Spec.WF
import SaModel.Lemmas.C04Utf8
/-
Bridge builder side → reader side: the specification's UTF-8 recogniser (`Spec.validUtf8`, what `Spec.wf` asks of string
data) implies the READER's (`Read.validUtf8`, the model of `std::str::from_utf8`; what `Read.utf8Ok` and the string
readers use).  For arbitrary byte strings — `Lemmas.C04Utf8.validUtf8_strBytes` is the special case of the bytes of a `String`.
-/
namespace SaModel.Lemmas.C03
open SaModel

theorem validUtf8_spec_read (b : Bytes) (h : Spec.validUtf8 b = true) : Read.validUtf8 b = true := by
  revert h
  -- one case per branch of `Spec.validUtf8`; the reader's recogniser takes the same branch (`C04Utf8.valid1` … `valid4`)
  induction b using Spec.validUtf8.induct with (intro h; rw [Spec.validUtf8.eq_def] at h; dsimp only at h)
  | case1 => rw [Read.validUtf8]
  | case2 b0 rest _ h0 ih =>
    rw [if_pos h0] at h
    rw [C04Utf8.valid1 b0 rest h0]; exact ih h
  | case3 b0 _ n0 h0 b1 r ih =>
    rw [if_neg n0, if_pos h0, Bool.and_eq_true, decide_eq_true_eq] at h
    rw [C04Utf8.valid2 b0 b1 r h0 h.1]; exact ih h.2
  | case4 b0 rest _ n0 h0 hr =>
    rw [if_neg n0, if_pos h0] at h
    split at h
    · exact (hr _ _ rfl).elim
    · cases h
  | case5 b0 _ n0 n1 h0 b1 b2 r ih =>
    rw [if_neg n0, if_neg n1, if_pos h0] at h
    simp only [Bool.and_eq_true, decide_eq_true_eq] at h
    rw [C04Utf8.valid3 b0 b1 b2 r h0 h.1.1 h.1.2]; exact ih h.2
  | case6 b0 rest _ n0 n1 h0 hr =>
    rw [if_neg n0, if_neg n1, if_pos h0] at h
    split at h
    · exact (hr _ _ _ rfl).elim
    · cases h
  | case7 b0 _ n0 n1 n2 h0 b1 b2 b3 r ih =>
    rw [if_neg n0, if_neg n1, if_neg n2, if_pos h0] at h
    simp only [Bool.and_eq_true, decide_eq_true_eq] at h
    rw [C04Utf8.valid4 b0 b1 b2 b3 r h0 h.1.1.1 h.1.1.2 h.1.2]; exact ih h.2
  | case8 b0 rest _ n0 n1 n2 h0 hr =>
    rw [if_neg n0, if_neg n1, if_neg n2, if_pos h0] at h
    split at h
    · exact (hr _ _ _ _ rfl).elim
    · cases h
  | case9 b0 rest _ n0 n1 n2 n3 =>
    rw [if_neg n0, if_neg n1, if_neg n2, if_neg n3] at h
    cases h

end SaModel.Lemmas.C03
