import SaModel.Lemmas.C09Build
import SaModel.Spec.SchemaSide
/-
C09, field level: `get_strategy_from_metadata` by the class of the metadata's strategy entry (`stratClass`), and `validate_field`
decides `validField` up to the range of the numeric parameters (`rangeField`: the checker does not look at what the Rust types
guarantee).
-/
namespace SaModel.SchemaJson
open SaModel SaModel.Dsl

theorem getStrategy_eq (m : Metadata) :
    getStrategyFromMetadata m = match stratClass m with
      | .absent => .ok none
      | .known st => .ok (some st)
      | .junk => fail "Unknown strategy" := by
  unfold getStrategyFromMetadata stratClass Strategy.parse
  cases m.get? STRATEGY_KEY with
  | none => rfl
  | some s =>
    dsimp only
    by_cases h1 : s = "InconsistentTypes"; · rw [if_pos h1, if_pos h1]; rfl
    by_cases h2 : s = "TupleAsStruct"; · rw [if_neg h1, if_pos h2, if_neg h1, if_pos h2]; rfl
    by_cases h3 : s = "MapAsStruct"; · rw [if_neg h1, if_neg h2, if_pos h3, if_neg h1, if_neg h2, if_pos h3]; rfl
    by_cases h4 : s = "UnknownVariant"
    · rw [if_neg h1, if_neg h2, if_neg h3, if_pos h4, if_neg h1, if_neg h2, if_neg h3, if_pos h4]; rfl
    · rw [if_neg h1, if_neg h2, if_neg h3, if_neg h4, if_neg h1, if_neg h2, if_neg h3, if_neg h4]; rfl

theorem noStrategy_ok_iff (m : Metadata) : noStrategy m = .ok () ↔ noStrat m = true := by
  unfold noStrategy noStrat
  rw [getStrategy_eq]
  cases stratClass m <;> simp [bind, Except.bind, fail, pure, Except.pure]

theorem getStrategy_absent {m : Metadata} (h : stratClass m = .absent) : getStrategyFromMetadata m = .ok none := by
  rw [getStrategy_eq, h]

theorem getStrategy_known {m : Metadata} {st : Strategy} (h : stratClass m = .known st) :
    getStrategyFromMetadata m = .ok (some st) := by
  rw [getStrategy_eq, h]

theorem getStrategy_ok {m : Metadata} {o : Option Strategy} (h : getStrategyFromMetadata m = .ok o) :
    stratClass m = (match o with | none => .absent | some st => .known st) := by
  rw [getStrategy_eq] at h
  cases hc : stratClass m <;> rw [hc] at h <;> cases h <;> rfl

theorem bind_unit_ok {x : R Unit} {f : Unit → R Unit} (h : (x >>= f) = .ok ()) : x = .ok () ∧ f () = .ok () :=
  R.bind_unit_iff.1 h

theorem get_of_stratClass_absent {m : Metadata} (h : stratClass m = .absent) : m.get? STRATEGY_KEY = none := by
  unfold stratClass at h
  cases hg : m.get? STRATEGY_KEY with
  | none => rfl
  | some s =>
    simp only [hg] at h
    repeat (split at h <;> try cases h)

theorem parse_of_stratClass_known {m : Metadata} {st : Strategy} (h : stratClass m = .known st) :
    ∃ s, m.get? STRATEGY_KEY = some s ∧ Strategy.parse s = .ok st ∧ st.toString = s := by
  unfold stratClass at h
  cases hg : m.get? STRATEGY_KEY with
  | none => simp [hg] at h
  | some s =>
    refine ⟨s, rfl, ?_⟩
    simp only [hg] at h
    unfold Strategy.parse
    split at h
    · rename_i h1; cases h; simp [h1, Strategy.toString]; rfl
    split at h
    · rename_i h1 h2; cases h; simp [h2, Strategy.toString]; rfl
    split at h
    · rename_i h1 h2 h3; cases h; simp [h3, Strategy.toString]; rfl
    split at h
    · rename_i h1 h2 h3 h4; cases h; simp [h4, Strategy.toString]; rfl
    · cases h

mutual
theorem valid_iff : (f : Field) → (validField f = true ↔ validateField f = .ok () ∧ rangeField f = true)
  | .mk _ dt _ m => by
    simp only [validField, validateField, rangeField]
    exact validType_iff m dt
theorem validType_iff (m : Metadata) : (dt : DataType) →
    (validType m dt = true ↔ validateDataType m dt = .ok () ∧ rangeType dt = true)
  | .null => by
    simp only [validType, validateDataType, rangeType, getStrategy_eq]
    cases stratClass m with
    | known st => cases st <;> simp [bind, Except.bind, fail, pure, Except.pure]
    | _ => simp [bind, Except.bind, fail, pure, Except.pure]
  | .struct fs => by
    simp only [validType, validateDataType, rangeType, getStrategy_eq, Bool.and_eq_true, validFields_iff fs]
    cases stratClass m with
    | known st => cases st <;> simp [bind, Except.bind, fail]
    | _ => simp [bind, Except.bind, fail]
  | .fixedSizeBinary n => by
    simp only [validType, validateDataType, rangeType, i32Range, i32Max, Bool.and_eq_true, decide_eq_true_eq]
    by_cases hn : n < 0
    · rw [if_pos hn]; exact ⟨fun h => absurd h.1.2 (by omega), fun h => nomatch h.1⟩
    · rw [if_neg hn, noStrategy_ok_iff]
      exact ⟨fun ⟨⟨a, _⟩, c⟩ => ⟨a, by omega, c⟩, fun ⟨a, _, c⟩ => ⟨⟨a, by omega⟩, c⟩⟩
  | .time32 u => by
    simp only [validType, validateDataType, rangeType, R.bind_unit_iff, noStrategy_ok_iff, Bool.and_eq_true]
    cases u <;> simp [fail, pure, Except.pure]
  | .time64 u => by
    simp only [validType, validateDataType, rangeType, R.bind_unit_iff, noStrategy_ok_iff, Bool.and_eq_true]
    cases u <;> simp [fail, pure, Except.pure]
  | .decimal128 p s => by
    simp only [validType, validateDataType, rangeType, noStrategy_ok_iff, Bool.and_eq_true, and_assoc]
  | .list f => by
    simp only [validType, validateDataType, rangeType, R.bind_unit_iff, noStrategy_ok_iff, Bool.and_eq_true, valid_iff f,
      and_assoc]
  | .largeList f => by
    simp only [validType, validateDataType, rangeType, R.bind_unit_iff, noStrategy_ok_iff, Bool.and_eq_true, valid_iff f,
      and_assoc]
  | .fixedSizeList f n => by
    have ih := valid_iff f
    simp only [validType, validateDataType, rangeType, i32Range, i32Max, Bool.and_eq_true, decide_eq_true_eq, ih]
    by_cases hn : n < 0
    · rw [if_pos hn]; exact ⟨fun h => absurd h.1.1.2 (by omega), fun h => nomatch h.1⟩
    · rw [if_neg hn, R.bind_unit_iff, noStrategy_ok_iff]
      constructor
      · rintro ⟨⟨⟨a, b⟩, c⟩, d, e⟩; exact ⟨⟨a, d⟩, ⟨by omega, c⟩, e⟩
      · rintro ⟨⟨a, d⟩, ⟨_, c⟩, e⟩; exact ⟨⟨⟨a, by omega⟩, c⟩, d, e⟩
  | .map e sorted => by
    have ih := valid_iff e
    simp only [validType, validateDataType, rangeType, R.bind_unit_iff, noStrategy_ok_iff, Bool.and_eq_true, ih]
    unfold isStruct2
    split <;> simp [fail, and_assoc]
  | .dictionary k v => by
    simp only [validType, validateDataType, rangeType, R.bind_unit_iff, noStrategy_ok_iff, Bool.and_eq_true]
    cases isIntType k <;> cases isDictValueType v <;> simp [fail, pure, Except.pure]
  | .union us mode => by
    simp only [validType, validateDataType, rangeType, R.bind_unit_iff, noStrategy_ok_iff, Bool.and_eq_true,
      validUFields_iff us, and_assoc]
  | .interval _ => by simp [validType, validateDataType, fail]
  | .runEndEncoded _ _ => by simp [validType, validateDataType, fail]
  | .boolean | .int8 | .int16 | .int32 | .int64 | .uint8 | .uint16 | .uint32 | .uint64
  | .float16 | .float32 | .float64 | .utf8 | .largeUtf8 | .utf8View | .binary | .largeBinary
  | .binaryView | .date32 | .date64 | .timestamp _ _ | .duration _ => by
    simp only [validType, validateDataType, rangeType, noStrategy_ok_iff, and_true]
theorem validFields_iff : (fs : Fields) → (validFields fs = true ↔ validateFields fs = .ok () ∧ rangeFields fs = true)
  | .nil => by simp [validFields, validateFields, rangeFields, pure, Except.pure]
  | .cons f r => by
    simp only [validFields, validateFields, rangeFields, Bool.and_eq_true, R.bind_unit_iff, valid_iff f, validFields_iff r]
    constructor
    · rintro ⟨⟨a, b⟩, c, d⟩; exact ⟨⟨a, c⟩, b, d⟩
    · rintro ⟨⟨a, c⟩, b, d⟩; exact ⟨⟨a, b⟩, c, d⟩
theorem validUFields_iff : (us : UFields) →
    (validUFields us = true ↔ validateUFields us = .ok () ∧ rangeUFields us = true)
  | .nil => by simp [validUFields, validateUFields, rangeUFields, pure, Except.pure]
  | .cons _ f r => by
    simp only [validUFields, validateUFields, rangeUFields, Bool.and_eq_true, R.bind_unit_iff, valid_iff f,
      validUFields_iff r]
    constructor
    · rintro ⟨⟨a, b⟩, c, d⟩; exact ⟨⟨a, c⟩, b, d⟩
    · rintro ⟨⟨a, c⟩, b, d⟩; exact ⟨⟨a, b⟩, c, d⟩
end

theorem validateField_of_valid : (f : Field) → validField f = true → validateField f = .ok () :=
  fun f h => ((valid_iff f).1 h).1
theorem validateDataType_of_valid (m : Metadata) : (dt : DataType) → validType m dt = true → validateDataType m dt = .ok () :=
  fun dt h => ((validType_iff m dt).1 h).1
theorem validateFields_of_valid : (fs : Fields) → validFields fs = true → validateFields fs = .ok () :=
  fun fs h => ((validFields_iff fs).1 h).1
theorem validateUFields_of_valid : (us : UFields) → validUFields us = true → validateUFields us = .ok () :=
  fun us h => ((validUFields_iff us).1 h).1

theorem valid_strat_not_junk (m : Metadata) (dt : DataType) (h : validType m dt = true) : stratClass m ≠ .junk := by
  intro hj
  cases dt <;> simp [validType, noStrat, hj] at h

end SaModel.SchemaJson
