import SaModel.Lemmas.C03WfInv
import SaModel.Lemmas.C02Container
import SaModel.Lemmas.C12WF
/-
Bridge builder side → reader side, part 3: `Read.physical` (lengths a Rust `usize` / `i64` can hold — the second
precondition of `Props.C02.read_any_decode`).

`Read.physical` has two clauses: the child of a FixedSizeList has at most `usize::MAX` slots, the values of a dictionary
at most `i64::MAX`.  Both are facts about Rust memory that the model's unbounded lists / counters cannot see:
`Spec.wf` does NOT imply them (`wf_not_physical`: a well-formed FixedSizeList<Null, 2> of 2^63 rows — `Null` arrays are a
bare counter, so no buffer bounds the row count).  What IS derivable from `Spec.wf` alone:

  wf_physical_plain   for every data type without FixedSizeList and Dictionary (`physFreeDT`, any nesting of struct /
                      list / large list / map / union / leaves), `Spec.wf dt nl a → Read.physical a`.
-/
namespace SaModel.Lemmas.C03
open SaModel SaModel.Spec SaModel.Read

mutual
/-- no FixedSizeList and no Dictionary anywhere in the type -/
def physFreeDT : DataType → Bool
  | .fixedSizeList _ _ | .dictionary _ _ => false
  | .struct fs => physFreeFs fs
  | .list f | .largeList f => physFreeF f
  | .map (.mk _ (.struct (.cons kf (.cons vf .nil))) _ _) _ => physFreeF kf && physFreeF vf
  | .union fs _ => physFreeUFs fs
  | _ => true
def physFreeF : Field → Bool
  | .mk _ dt _ _ => physFreeDT dt
def physFreeFs : Fields → Bool
  | .nil => true
  | .cons f r => physFreeF f && physFreeFs r
def physFreeUFs : UFields → Bool
  | .nil => true
  | .cons _ f r => physFreeF f && physFreeUFs r
end

theorem physFreeF_dt (f : Field) : physFreeF f = physFreeDT f.dataType := by cases f; simp [physFreeF, Field.dataType]

mutual
theorem wf_physical_plain : ∀ (a : Arr) (dt : DataType) (nl : Bool), physFreeDT dt = true → wf dt nl a = true →
    physical a = true
  | .null _ => fun _ _ _ _ => by simp only [physical]
  | .boolean _ _ _ => fun _ _ _ _ => by simp only [physical]
  | .prim _ _ _ => fun _ _ _ _ => by simp only [physical]
  | .time _ _ _ _ => fun _ _ _ _ => by simp only [physical]
  | .timestamp _ _ _ _ => fun _ _ _ _ => by simp only [physical]
  | .decimal128 _ _ _ _ => fun _ _ _ _ => by simp only [physical]
  | .bytes _ _ _ _ => fun _ _ _ _ => by simp only [physical]
  | .bytesView _ _ _ _ => fun _ _ _ _ => by simp only [physical]
  | .fixedSizeBinary _ _ _ => fun _ _ _ _ => by simp only [physical]
  | .struct len v cols => fun dt nl hp h => by
    obtain ⟨fs, rfl, _, hw⟩ := wf_inv h
    simp only [physFreeDT] at hp
    simp only [physical]
    exact wfFields_physical_plain cols fs len hp hw
  | .list lg v offs fm el => fun dt nl hp h => by
    obtain ⟨f, rfl, _, _, hw⟩ := wf_inv h
    have hp : physFreeDT f.dataType = true := by rw [← physFreeF_dt]; cases lg <;> exact hp
    simp only [physical]
    exact wf_physical_plain el _ _ hp hw
  | .fixedSizeList len v n fm el => fun dt nl hp h => by
    obtain ⟨f, rfl, _⟩ := wf_inv h
    simp [physFreeDT] at hp
  | .map v offs mm ks vs => fun dt nl hp h => by
    obtain ⟨kf, vf, enl, emd, rfl, _, _, _, hwk, hwv⟩ := wf_inv h
    simp only [physFreeDT, physFreeF_dt, Bool.and_eq_true] at hp
    simp only [physical, Bool.and_eq_true]
    exact ⟨wf_physical_plain ks _ _ hp.1 hwk, wf_physical_plain vs _ _ hp.2 hwv⟩
  | .dictionary ks vs => fun dt nl hp h => by
    obtain ⟨k, vdt, rfl, _⟩ := wf_inv h
    simp [physFreeDT] at hp
  | .union types offs cols => fun dt nl hp h => by
    obtain ⟨fs, m, o, rfl, rfl, _, hw⟩ := wf_inv h
    simp only [physFreeDT] at hp
    simp only [physical]
    exact wfUFields_physical_plain cols fs 0 hp hw
theorem wfFields_physical_plain : ∀ (cols : ArrFields) (fs : Fields) (len : Nat), physFreeFs fs = true →
    wfFields fs cols len = true → physicalFields cols = true
  | .nil => fun _ _ _ _ => by simp only [physicalFields]
  | .cons fm a rest => fun fs len hp h => by
    obtain ⟨f, frest, rfl, _, _, hw, hrest⟩ := wfFields_cons_inv h
    simp only [physFreeFs, physFreeF_dt, Bool.and_eq_true] at hp
    simp only [physicalFields, Bool.and_eq_true]
    exact ⟨wf_physical_plain a _ _ hp.1 hw, wfFields_physical_plain rest frest len hp.2 hrest⟩
theorem wfUFields_physical_plain : ∀ (cols : ArrUFields) (fs : UFields) (k : Int), physFreeUFs fs = true →
    wfUFields fs cols k = true → physicalUFields cols = true
  | .nil => fun _ _ _ _ => by simp only [physicalUFields]
  | .cons tid fm a rest => fun fs k hp h => by
    obtain ⟨f, frest, rfl, _, _, hw, hrest⟩ := wfUFields_cons_inv h
    simp only [physFreeUFs, physFreeF_dt, Bool.and_eq_true] at hp
    simp only [physicalUFields, Bool.and_eq_true]
    exact ⟨wf_physical_plain a _ _ hp.1 hw, wfUFields_physical_plain rest frest (k + 1) hp.2 hrest⟩
end

theorem physicalFields_mem : ∀ (afs : ArrFields), physicalFields afs = true → ∀ c ∈ afs.toList, physical c.2 = true
  | .nil, _, c, hc => by simp [ArrFields.toList] at hc
  | .cons m a r, h, c, hc => by
    simp only [physicalFields, Bool.and_eq_true] at h
    simp only [ArrFields.toList, List.mem_cons] at hc
    rcases hc with rfl | hc
    · exact h.1
    · exact physicalFields_mem r h.2 c hc

theorem WF_physical_plain (f : Field) (a : Arr) (hp : physFreeDT f.dataType = true) (h : WFS f a = true) :
    physical a = true := wf_physical_plain a _ _ hp h

/-- `Spec.wf` alone does NOT give `Read.physical`: a FixedSizeList<Null, 2> column of 2^63 rows is well formed (a Null
array is a bare row counter) and its child has 2^64 > `usize::MAX` slots.  The size hypothesis of the read-back theorems
for FixedSizeList / Dictionary columns cannot be dropped in the model (unbounded `Nat` counters). -/
theorem wf_not_physical :
    let f : Field := .mk "c" (.fixedSizeList (.mk "element" .null false []) 2) false []
    let a : Arr := .fixedSizeList (2 ^ 63) none 2 ⟨"element", false, []⟩ (.null (2 ^ 64))
    WFS f a = true ∧ physical a = false := by
  refine ⟨?_, ?_⟩
  · simp only [WFS, Field.dataType, Field.nullable, wf, C12.decodeAll_length, lenOf, validityOk, metaMatches, Field.name,
      Field.metadata]
    decide
  · simp only [physical, lenOf, usizeMax]
    decide

end SaModel.Lemmas.C03
