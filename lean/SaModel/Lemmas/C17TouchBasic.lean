import SaModel.Lemmas.C17Range
import SaModel.Spec.TouchRange
/-
C17, `readAs_touch_in_range` — basic layer.

* `unionIdsOK a`: every union node of `a` lists its children under the type ids 0, 1, 2, … in order.  This is the
  one thing `ArrayDeserializer::new` validates that the reads do not re-check (`EnumDeserializer` indexes its
  variants by type id), so it is the hypothesis of the touch theorems; `new_ok_unionIdsOK`: `new` establishes it.
* introduction rules for `touchOK` per array constructor (`touch_leaf`, `touch_struct_named`, `touch_list`, …).
* `rangeOK_of_reads`: the element loop.
-/
namespace SaModel.Props.C17
open SaModel SaModel.Read SaModel.Spec

/-! ### consecutive union type ids -/

mutual
def unionIdsOK : Arr → Bool
  | .struct _ _ fs => fieldsIdsOK fs
  | .list _ _ _ _ el => unionIdsOK el
  | .fixedSizeList _ _ _ _ el => unionIdsOK el
  | .map _ _ _ ks vs => unionIdsOK ks && unionIdsOK vs
  | .union _ _ fs => ufieldsIdsOK fs 0
  | _ => true
def fieldsIdsOK : ArrFields → Bool
  | .nil => true
  | .cons _ a r => unionIdsOK a && fieldsIdsOK r
def ufieldsIdsOK : ArrUFields → Nat → Bool
  | .nil, _ => true
  | .cons tid _ a r, k => tid == Int.ofNat k && unionIdsOK a && ufieldsIdsOK r (k + 1)
end

mutual
theorem new_ok_unionIdsOK : ∀ (a : Arr), new Fixes.all a = .ok () → unionIdsOK a = true
  | .null _, _ | .boolean _ _ _, _ | .prim _ _ _, _ | .time _ _ _ _, _ | .decimal128 _ _ _ _, _
  | .timestamp _ _ _ _, _ | .bytes _ _ _ _, _ | .bytesView _ _ _ _, _ | .fixedSizeBinary _ _ _, _
  | .dictionary _ _, _ => by simp [unionIdsOK]
  | .struct _ _ fs, h => by
    unfold new at h; simp only [unionIdsOK]; exact newFields_ok_ids fs h
  | .list _ _ _ fm el, h => by
    unfold new at h; simp only [unionIdsOK]
    exact new_ok_unionIdsOK el (R.bind_unit_iff.1 h).2
  | .fixedSizeList _ _ n fm el, h => by
    unfold new at h; simp only [unionIdsOK]
    have h2 := (R.bind_unit_iff.1 h).2
    obtain ⟨u, hx, _⟩ := ok_bind_inv h2
    exact new_ok_unionIdsOK el hx
  | .map _ _ mm ks vs, h => by
    unfold new at h; simp only [unionIdsOK, Bool.and_eq_true]
    have h2 := (R.bind_unit_iff.1 h).2
    have h3 := R.bind_unit_iff.1 h2
    exact ⟨new_ok_unionIdsOK ks h3.1, new_ok_unionIdsOK vs (R.bind_unit_iff.1 h3.2).2⟩
  | .union types offs fs, h => by
    unfold new at h; simp only [unionIdsOK]
    split at h
    · cases h
    · split at h
      · cases h
      · exact newUFields_ok_ids fs 0 h
theorem newFields_ok_ids : ∀ (fs : ArrFields), newFields Fixes.all fs = .ok () → fieldsIdsOK fs = true
  | .nil, _ => by simp [fieldsIdsOK]
  | .cons fm a rest, h => by
    unfold newFields at h; simp only [fieldsIdsOK, Bool.and_eq_true]
    have h2 := R.bind_unit_iff.1 (R.bind_unit_iff.1 h).2
    exact ⟨new_ok_unionIdsOK a h2.1, newFields_ok_ids rest h2.2⟩
theorem newUFields_ok_ids : ∀ (fs : ArrUFields) (k : Nat), newUFields Fixes.all fs k = .ok () → ufieldsIdsOK fs k = true
  | .nil, _, _ => by simp [ufieldsIdsOK]
  | .cons tid fm a rest, k, h => by
    unfold newUFields at h; simp only [ufieldsIdsOK, Bool.and_eq_true]
    split at h
    · cases h
    · rename_i hne
      have h2 := R.bind_unit_iff.1 (R.bind_unit_iff.1 h).2
      refine ⟨⟨?_, new_ok_unionIdsOK a h2.1⟩, newUFields_ok_ids rest (k + 1) h2.2⟩
      simpa using hne
end

theorem indexOfTypeId_go_consecutive : ∀ (fs : ArrUFields) (k p : Nat), ufieldsIdsOK fs k = true → p < fs.length →
    indexOfTypeId.go (Int.ofNat (k + p)) (ArrUFields.ids fs) k = some (k + p)
  | .nil, _, _, _, hp => by simp [ArrUFields.length] at hp
  | .cons tid fm a rest, k, p, h, hp => by
    simp only [ufieldsIdsOK, Bool.and_eq_true, beq_iff_eq] at h
    obtain ⟨⟨htid, _⟩, hrest⟩ := h
    subst htid
    simp only [ArrUFields.ids, indexOfTypeId.go]
    cases p with
    | zero => simp
    | succ p =>
      have hne : ¬ (Int.ofNat k = Int.ofNat (k + (p + 1))) := by
        intro hc; have := Int.ofNat.inj hc; omega
      simp only [beq_iff_eq, hne, if_false]
      have := indexOfTypeId_go_consecutive rest (k + 1) p hrest (by simp [ArrUFields.length] at hp; omega)
      have e : k + 1 + p = k + (p + 1) := by omega
      rw [e] at this
      exact this

/-- with consecutive type ids the Arrow reading (child whose id is `t`) and the reader (child at position `t`) agree -/
theorem indexOfTypeId_consecutive {fs : ArrUFields} {t : Int} (h : ufieldsIdsOK fs 0 = true) (h0 : 0 ≤ t)
    (hlt : t.toNat < fs.length) : indexOfTypeId (ArrUFields.ids fs) t = some t.toNat := by
  have := indexOfTypeId_go_consecutive fs 0 t.toNat h hlt
  simp only [Nat.zero_add] at this
  have e : Int.ofNat t.toNat = t := Int.toNat_of_nonneg h0
  rw [e] at this
  exact this

theorem nth_unionIdsOK : ∀ (fs : ArrUFields) (k p : Nat) (fm : FieldMeta) (c : Arr), ufieldsIdsOK fs k = true →
    ArrUFields.nth fs p = some (fm, c) → unionIdsOK c = true
  | .nil, _, _, _, _, _, h => by simp [ArrUFields.nth] at h
  | .cons _ _ a _, _, 0, fm, c, hi, h => by
    simp only [ArrUFields.nth, Option.some.injEq, Prod.mk.injEq] at h
    simp only [ufieldsIdsOK, Bool.and_eq_true] at hi
    rw [← h.2]; exact hi.1.2
  | .cons _ _ _ rest, k, p + 1, fm, c, hi, h => by
    simp only [ArrUFields.nth] at h
    simp only [ufieldsIdsOK, Bool.and_eq_true] at hi
    exact nth_unionIdsOK rest (k + 1) p fm c hi.2 h

/-! ### introduction rules for `touchOK` -/

theorem touchOK_lt {t : Target} {a : Arr} {i : Nat} (h : touchOK t a i = true) : i < lenOf a := by
  refine Nat.lt_of_not_le fun hge => ?_
  unfold touchOK at h
  rw [if_pos hge] at h
  cases h

/-- `touchOK` looks at the target only through `peelTarget` -/
theorem touchOK_congr {t t' : Target} (h : peelTarget t = peelTarget t') (a : Arr) (i : Nat) :
    touchOK t a i = touchOK t' a i := by
  unfold touchOK
  rw [h]

theorem touchOK_newtype (t : Target) (a : Arr) (i : Nat) : touchOK (.newtype t) a i = touchOK t a i :=
  touchOK_congr (by simp [peelTarget]) a i

/-- a null slot under a target that stops there -/
theorem touch_null_slot {t : Target} {a : Arr} {i : Nat} (hlt : i < lenOf a)
    (hs : ((peelTarget t).2 || isAnyLike (peelTarget t).1) = true) (hn : slotNull a i = true) : touchOK t a i = true := by
  unfold touchOK
  have : ¬ i ≥ lenOf a := by omega
  simp only [this, if_false, hs, hn, Bool.and_self, if_true]

theorem touchOK_option_of {t : Target} {a : Arr} {i : Nat} (h : touchOK t a i = true) : touchOK (.option t) a i = true := by
  have hlt := touchOK_lt h
  cases hn : slotNull a i with
  | true => exact touch_null_slot hlt (by simp [peelTarget]) hn
  | false =>
    unfold touchOK at h ⊢
    simp only [peelTarget, hn, Bool.and_false] at h ⊢
    exact h

def isLeaf : Arr → Bool
  | .struct _ _ _ | .list _ _ _ _ _ | .fixedSizeList _ _ _ _ _ | .map _ _ _ _ _ | .dictionary _ _ | .union _ _ _ => false
  | _ => true

/-- past the two tests every `touchOK` starts with: the row is in range, and what the column itself asks holds -/
theorem pass_guards {c₁ c₂ : Prop} [Decidable c₁] [Decidable c₂] {b : Bool} (h₁ : ¬ c₁) (hb : b = true) :
    (if c₁ then false else if c₂ then true else b) = true := by
  rw [if_neg h₁]
  split
  · rfl
  · exact hb

/-- a leaf column: the row is below the length and the slot is null or designates bytes inside its buffer -/
theorem touch_leaf (t : Target) {a : Arr} {i : Nat} (hl : isLeaf a = true) (hlt : i < lenOf a)
    (hs : leafSlotOK a i = true) : touchOK t a i = true := by
  unfold touchOK
  exact pass_guards (Nat.not_le.2 hlt) (by cases a <;> first | exact hs | cases hl)

/-- the leaves whose slots designate no byte range -/
theorem leafSlotOK_of_leafOK {a : Arr} {i : Nat} (h : leafOK a i = true) : leafSlotOK a i = true := by
  simp only [leafSlotOK, h, Bool.or_true]

/-! #### containers -/

theorem touch_struct_named {t : Target} {tfs : TFields} {len : Nat} {v : Option Bits} {fs : ArrFields} {i : Nat}
    (hp : (peelTarget t).1 = .struct tfs) (hlt : i < len) (h : touchNamed tfs fs i = true) :
    touchOK t (.struct len v fs) i = true := by
  unfold touchOK
  exact pass_guards (Nat.not_le.2 hlt) (by simp only [hp]; exact h)

theorem touch_struct_tuple {t : Target} {ts : Targets} {len : Nat} {v : Option Bits} {fs : ArrFields} {i : Nat}
    (hp : (peelTarget t).1 = .tuple ts ∨ (peelTarget t).1 = .tupleStruct ts) (hlt : i < len) (h : touchTuple ts fs i = true) :
    touchOK t (.struct len v fs) i = true := by
  unfold touchOK
  exact pass_guards (Nat.not_le.2 hlt) (by rcases hp with hp | hp <;> (simp only [hp]; exact h))

theorem touch_struct_map {t k w : Target} {len : Nat} {v : Option Bits} {fs : ArrFields} {i : Nat}
    (hp : (peelTarget t).1 = .map k w) (hlt : i < len) (h : touchAll w fs i = true) :
    touchOK t (.struct len v fs) i = true := by
  unfold touchOK
  exact pass_guards (Nat.not_le.2 hlt) (by simp only [hp]; exact h)

theorem touch_struct_any {t : Target} {len : Nat} {v : Option Bits} {fs : ArrFields} {i : Nat}
    (hp : isAnyLike (peelTarget t).1 = true) (hlt : i < len) (h : touchAll (peelTarget t).1 fs i = true) :
    touchOK t (.struct len v fs) i = true := by
  unfold touchOK
  refine pass_guards (Nat.not_le.2 hlt) ?_
  generalize (peelTarget t).1 = c at hp h
  cases c <;> first | exact h | cases hp

theorem touch_list {t : Target} {l : Bool} {v : Option Bits} {offs : List Int} {fm : FieldMeta} {el : Arr} {i : Nat}
    (hlt : i + 1 < offs.length)
    (h : rangeOK (fun k j => touchOK (elemTarget (peelTarget t).1 k) el j) (lenOf el) (offs.getD i 0) (offs.getD (i + 1) 0) = true) :
    touchOK t (.list l v offs fm el) i = true := by
  unfold touchOK
  exact pass_guards (by simp only [lenOf]; omega) ((if_pos hlt).trans h)

theorem touch_fsl {t : Target} {len : Nat} {v : Option Bits} {n : Int} {fm : FieldMeta} {el : Arr} {i : Nat}
    (hlt : i < len) (hn : 0 ≤ n)
    (h : rangeOK (fun k j => touchOK (elemTarget (peelTarget t).1 k) el j) (lenOf el) (i * n) ((i + 1) * n) = true) :
    touchOK t (.fixedSizeList len v n fm el) i = true := by
  unfold touchOK
  exact pass_guards (Nat.not_le.2 hlt) ((if_neg (Int.not_lt.2 hn)).trans h)

theorem touch_map {t : Target} {v : Option Bits} {offs : List Int} {mm : MapMeta} {ks vs : Arr} {i : Nat}
    (hlt : i + 1 < offs.length)
    (hk : rangeOK (fun _ j => touchOK (entryTargets (peelTarget t).1).1 ks j) (lenOf ks) (offs.getD i 0) (offs.getD (i + 1) 0) = true)
    (hv : rangeOK (fun _ j => touchOK (entryTargets (peelTarget t).1).2 vs j) (lenOf vs) (offs.getD i 0) (offs.getD (i + 1) 0) = true) :
    touchOK t (.map v offs mm ks vs) i = true := by
  unfold touchOK
  exact pass_guards (by simp only [lenOf]; omega) ((if_pos hlt).trans (by rw [hk, hv]; rfl))

theorem touch_dict {t : Target} {ks vs : Arr} {i : Nat} (hlt : i < lenOf ks)
    (h : ∀ j, decodeAt ks i = .ok (.int j) → 0 ≤ j ∧ j.toNat < lenOf vs ∧ leafSlotOK vs j.toNat = true) :
    touchOK t (.dictionary ks vs) i = true := by
  unfold touchOK
  refine pass_guards (Nat.not_le.2 hlt) ?_
  dsimp only
  split
  · rename_i j hj
    have := h j hj
    simp [this.1, this.2.1, this.2.2]
  · rfl

theorem touch_union {t : Target} {types : List Int} {offs : Option (List Int)} {fs : ArrUFields} {i pos : Nat}
    (hlt : i < types.length) (hidx : indexOfTypeId (ArrUFields.ids fs) (types.getD i 0) = some pos)
    (h : touchVariant fs pos (variantTarget (peelTarget t).1 pos) (unionSlot offs i) = true) :
    touchOK t (.union types offs fs) i = true := by
  unfold touchOK
  exact pass_guards (Nat.not_le.2 hlt) (by simp only [hidx]; exact h)

theorem touchVariant_nth : ∀ (fs : ArrUFields) (k : Nat) (vt : String → Target) (j : Nat) (fm : FieldMeta) (c : Arr),
    ArrUFields.nth fs k = some (fm, c) → touchOK (vt fm.name) c j = true → touchVariant fs k vt (some j) = true
  | .nil, _, _, _, _, _, h, _ => by simp [ArrUFields.nth] at h
  | .cons _ _ a _, 0, vt, j, fm, c, h, ht => by
    simp only [ArrUFields.nth, Option.some.injEq, Prod.mk.injEq] at h
    obtain ⟨h1, h2⟩ := h
    subst h1 h2
    have hlt := touchOK_lt ht
    have : ¬ j ≥ lenOf a := by omega
    simp only [touchVariant, this, if_false]
    exact ht
  | .cons _ _ _ rest, k + 1, vt, j, fm, c, h, ht => by
    simp only [ArrUFields.nth] at h
    simp only [touchVariant]
    exact touchVariant_nth rest k vt j fm c h ht

/-! ### the element loop -/

/-- elements `s … e-1` of a child, every one of them in range ⇒ `rangeOK` (an empty range lies anywhere) -/
theorem rangeOK_of_reads {f : Nat → Nat → Bool} {len : Nat} {so eo : Int} {s e : Nat} (hs : so = (s : Int)) (he : eo = (e : Int))
    (hle : s ≤ e) (hel : ∀ k, k < e - s → f k (s + k) = true ∧ s + k < len) : rangeOK f len so eo = true := by
  subst hs he
  unfold rangeOK
  split
  · rfl
  · rename_i hne
    have hne' : s ≠ e := by
      intro hc; apply hne; simp [hc]
    have hlast := (hel (e - s - 1) (by omega)).2
    have hc : 0 ≤ (s : Int) ∧ (s : Int) ≤ (e : Int) ∧ (e : Int) ≤ (len : Int) := by omega
    simp only [hc, and_self, if_true, Int.toNat_natCast, List.all_eq_true, List.mem_range]
    intro k hk
    exact (hel k hk).1

theorem readRange_ok_all {α} {f : Nat → R α} : ∀ (n s : Nat) (xs : List α), readRange f s n = .ok xs →
    ∀ k, k < n → ∃ x, f (s + k) = .ok x := fun n s xs h k hk =>
  R.mapM_ok_mem (Lemmas.C12.readRange_eq_mapM f n s ▸ h) (List.mem_range'_1.mpr ⟨Nat.le_add_right s k, by omega⟩)

end SaModel.Props.C17
