import SaModel.Generated.CoerceArms
import SaModel.Trace.Leaf
/-
C07, translation obligation — definitions of the finite tables that compare the arms of `coerce_primitive_type` as
the translator reads them out of tracer.rs (`Generated.CoerceArms.arms`) with the hand-written model
(`Trace.coerce_primitive_type`), and the lemmas that relate a table to the equation.  The obligations themselves are in
SaModel/Props/C07Gen.lean.
-/
namespace SaModel.Lemmas.C07Gen
open SaModel SaModel.Trace SaModel.Trace.CoerceTable SaModel.Generated.CoerceArms

/-- every value of `Option<Strategy>` -/
def strategies : List (Option Strategy) :=
  [none, some .inconsistentTypes, some .tupleAsStruct, some .mapAsStruct, some .unknownVariant]

theorem strategies_complete (s : Option Strategy) : s ∈ strategies := by
  cases s with
  | none => simp [strategies]
  | some s => cases s <;> simp [strategies]

/-- one row: the interpreter on the generated arms and the hand-written model return the same value, or both return an
`Err` (the message of an `Err` is the same constant on both sides: `evalArms_err`, `coerce_err`; comparing the two
strings in every row would dominate the evaluation time) -/
def agreeRow (o : Options) (p : DataType) (nl : Bool) (ps : Option Strategy) (c : DataType) (cs : Option Strategy) : Bool :=
  match evalArms arms o (p, nl, ps) (c, cs), coerce_primitive_type o p nl ps c cs with
  | .ok x, .ok y => decide (x = y)
  | .error (.err _), .error (.err _) => true
  | _, _ => false

/-- the rows over an alphabet `ts` of data types and `ss` of strategies: every previous type × both nullable flags ×
every strategy × every current type × every strategy -/
def agreeOn (ts : List DataType) (ss : List (Option Strategy)) (o : Options) : Bool :=
  ts.all fun p => [false, true].all fun nl => ss.all fun ps => ts.all fun c => ss.all fun cs => agreeRow o p nl ps c cs

/-- an `Err` of the interpreter carries the message of `Res.fail`, whatever the list of arms -/
theorem evalArms_err (o : Options) (p : Prev) (c : Curr) (m : String) :
    (as : List Arm) → evalArms as o p c = .error (.err m) → m = failMsg
  | [], h => by simp [evalArms, SaModel.panic] at h
  | a :: rest, h => by
    simp only [evalArms] at h
    split at h
    · cases hr : a.res with
      | fail => rw [hr] at h; simp only [Res.eval, SaModel.fail, Except.error.injEq, Fail.err.injEq] at h; exact h.symm
      | ok ty nl st =>
        rw [hr] at h
        cases ty with
        | ctor k =>
          simp only [Res.eval] at h
          split at h
          · cases h
          · simp [SaModel.panic] at h
        | _ => simp [Res.eval] at h
    · exact evalArms_err o p c m rest h

theorem ite_ok_err {α} {c : Prop} [Decidable c] {x : α} {e : R α} {f : Fail}
    (h : (if c then .ok x else e) = Except.error f) : e = .error f := by
  split at h
  · cases h
  · exact h

/-- the model fails in its last arm only, with that message -/
theorem coerce_err {o : Options} {p c : DataType} {nl : Bool} {ps cs : Option Strategy} {e : Fail}
    (h : coerce_primitive_type o p nl ps c cs = .error e) : e = .err failMsg := by
  unfold coerce_primitive_type at h
  repeat (replace h := ite_ok_err h)
  simp only [SaModel.fail, Except.error.injEq] at h
  exact h.symm

/-- where the interpreter and the model agree the row holds: the model's only failure is an `Err` -/
theorem agreeRow_of_eq {o : Options} {p c : DataType} {nl : Bool} {ps cs : Option Strategy}
    (h : evalArms arms o (p, nl, ps) (c, cs) = coerce_primitive_type o p nl ps c cs) : agreeRow o p nl ps c cs = true := by
  unfold agreeRow
  rw [h]
  cases hc : coerce_primitive_type o p nl ps c cs with
  | ok x => exact decide_eq_true rfl
  | error e => rw [coerce_err hc]

theorem agreeOn_of_eq {o : Options}
    (h : ∀ p nl ps c cs, evalArms arms o (p, nl, ps) (c, cs) = coerce_primitive_type o p nl ps c cs)
    (ts : List DataType) (ss : List (Option Strategy)) : agreeOn ts ss o = true := by
  simp only [agreeOn, List.all_eq_true]
  intros
  exact agreeRow_of_eq (h _ _ _ _ _)

/-- a wider alphabet: every constructor without arguments, both string types whatever `o` says, time stamps of several
units and time zones, and one representative of every parameterised constructor -/
def wideTypes : List DataType :=
  [.null, .boolean, .int8, .int16, .int32, .int64, .uint8, .uint16, .uint32, .uint64, .float16, .float32, .float64,
   .utf8, .largeUtf8, .utf8View, .binary, .largeBinary, .binaryView, .date32, .date64,
   .timestamp .second none, .timestamp .millisecond none, .timestamp .millisecond (some "UTC"),
   .timestamp .nanosecond (some "UTC"), .timestamp .millisecond (some "+01:00"),
   .fixedSizeBinary 4, .time32 .second, .time64 .nanosecond, .duration .microsecond, .interval .dayTime,
   .decimal128 5 2, .struct .nil, .list (.mk "element" .int8 false []), .largeList (.mk "element" .int8 true []),
   .fixedSizeList (.mk "element" .int8 false []) 2, .map (.mk "entries" (.struct .nil) false []) false,
   .dictionary .uint32 .largeUtf8, .runEndEncoded (.mk "r" .int32 false []) (.mk "v" .utf8 true []),
   .union .nil .dense]

/-- the types on which the strategies are varied: one per group of arms -/
def stratTypes : List DataType :=
  [.null, .int8, .uint16, .float32, .boolean, .utf8, .largeUtf8, .timestamp .millisecond none,
   .timestamp .millisecond (some "UTC"), .date32]

/-- the flags that occur in guards are among the three `Options.coerceView` keeps -/
def usesCoerceFlagsOnly (as : List Arm) : Bool :=
  as.all fun a => a.guard.all fun g =>
    match g with
    | .opt f => decide (f = .coerce_numbers ∨ f = .allow_to_string ∨ f = .string_as_large_utf8)
    | _ => true

theorem holds_coerceView (o : Options) (p : Prev) (c : Curr) (g : GuardAtom)
    (h : (match g with
      | .opt f => decide (f = .coerce_numbers ∨ f = .allow_to_string ∨ f = .string_as_large_utf8)
      | _ => true) = true) : g.holds o p c = g.holds o.coerceView p c := by
  cases g with
  | opt f =>
    simp only [decide_eq_true_eq] at h
    rcases h with h | h | h <;> subst h <;> rfl
  | _ => rfl

/-- the interpreter reads the options through `OptFlag.get` and `string_type` only: with guards over the three coerce
flags it cannot tell `o` from `o.coerceView` -/
theorem evalArms_coerceView (o : Options) (p : Prev) (c : Curr) :
    (as : List Arm) → usesCoerceFlagsOnly as = true → evalArms as o p c = evalArms as o.coerceView p c
  | [], _ => rfl
  | a :: rest, h => by
    simp only [usesCoerceFlagsOnly, List.all_cons, Bool.and_eq_true] at h
    have ih := evalArms_coerceView o p c rest (by simpa [usesCoerceFlagsOnly] using h.2)
    have hg : a.guard.all (·.holds o p c) = a.guard.all (·.holds o.coerceView p c) := by
      have h1 := h.1
      clear h ih
      generalize a.guard = gs at h1 ⊢
      induction gs with
      | nil => rfl
      | cons g gs ihg =>
        simp only [List.all_cons, Bool.and_eq_true] at h1 ⊢
        rw [holds_coerceView o p c g h1.1, ihg h1.2]
    have hr : a.res.eval o p c = a.res.eval o.coerceView p c := by
      cases a.res with
      | fail => rfl
      | ok ty nl st => cases ty <;> rfl
    show (if a.fires o p c then a.res.eval o p c else evalArms rest o p c) =
      (if a.fires o.coerceView p c then a.res.eval o.coerceView p c else evalArms rest o.coerceView p c)
    unfold Arm.fires
    rw [hg, hr, ih]

theorem coerce_coerceView (o : Options) (p : DataType) (nl : Bool) (ps : Option Strategy) (c : DataType)
    (cs : Option Strategy) : coerce_primitive_type o p nl ps c cs = coerce_primitive_type o.coerceView p nl ps c cs := rfl

end SaModel.Lemmas.C07Gen
