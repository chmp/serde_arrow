import SaModel.Lemmas.C01Comp
/-
`small_NoCap`: the head room in closed form.  `used b` is the largest capacity-limited counter of the builder tree
(last offsets, view-buffer lengths, per-variant row counters of unions), `keysRoom b` the least number of free dictionary keys; `room b` is exactly
`min (2^31 - 1 - used b) (keysRoom b)`.
-/
namespace SaModel.Build
open SaModel SaModel.Spec

/-- the largest per-variant row counter of a union (`current_offset`) -/
def curUsed : List Int → Nat
  | [] => 0
  | co :: r => max co.toNat (curUsed r)

theorem curRoom_eq : ∀ (cur : List Int), curRoom cur = LIM - curUsed cur
  | [] => rfl
  | co :: r => by simp only [curRoom, curUsed, curRoom_eq r, Nat.sub_min_sub_left]

theorem curUsed_zeros : ∀ (n : Nat), curUsed (List.replicate n 0) = 0
  | 0 => rfl
  | n + 1 => by simp only [List.replicate_succ, curUsed, curUsed_zeros n]; rfl

mutual
/-- the largest counter a capacity check looks at (offsets: bytes / list / map; view buffers; union row counters) -/
def used : B → Nat
  | .bytes _ _ _ offs _ => lastNat offs
  | .bytesView _ _ _ _ buf => buf.length
  | .list _ _ _ _ offs el => max (lastNat offs) (used el)
  | .fixedSizeList _ _ _ _ _ _ el => used el
  | .map _ _ _ offs ks vs => max (lastNat offs) (max (used ks) (used vs))
  | .struct _ _ _ fs _ _ _ => usedL fs
  | .dictionary _ _ vals _ => used vals
  | .union _ fs _ _ cur => max (curUsed cur) (usedL fs)
  | _ => 0
def usedL : BL → Nat
  | .nil => 0
  | .cons b _ r => max (used b) (usedL r)
end

mutual
/-- the least number of values a dictionary in the builder tree can still take before its key type overflows -/
def keysRoom : B → Nat
  | .list _ _ _ _ _ el => keysRoom el
  | .fixedSizeList _ _ _ _ _ _ el => keysRoom el
  | .map _ _ _ _ ks vs => min (keysRoom ks) (keysRoom vs)
  | .struct _ _ _ fs _ _ _ => keysRoomL fs
  | .dictionary _ idx vals index => min (keyRoom idx index.length) (keysRoom vals)
  | .union _ fs _ _ _ => keysRoomL fs
  | _ => LIM
def keysRoomL : BL → Nat
  | .nil => LIM
  | .cons b _ r => min (keysRoom b) (keysRoomL r)
end

/- `LIM - max a b = min (LIM - a) (LIM - b)` (`Nat.sub_min_sub_left`, right to left) turns both sides into a minimum of
the same terms; the rest is associativity and commutativity of `min` -/
mutual
theorem room_eq : ∀ (b : B), room b = min (LIM - used b) (keysRoom b)
  | .null _ _ => by simp [room, used, keysRoom]
  | .unknownVariant _ => by simp [room, used, keysRoom]
  | .leaf _ _ _ _ => by simp [room, used, keysRoom]
  | .bytes _ _ _ _ _ => by simp only [room, used, keysRoom]; omega
  | .bytesView _ _ _ _ _ => by simp only [room, used, keysRoom]; omega
  | .fixedSizeBinary _ _ _ _ _ _ => by simp [room, used, keysRoom]
  | .list _ _ _ _ _ el => by simp only [room, used, keysRoom, room_eq el, ← Nat.sub_min_sub_left, Nat.min_assoc]
  | .fixedSizeList _ _ _ _ _ _ el => by simp only [room, used, keysRoom, room_eq el]
  | .map _ _ _ _ ks vs => by
    simp only [room, used, keysRoom, room_eq ks, room_eq vs, ← Nat.sub_min_sub_left, Nat.min_assoc, Nat.min_left_comm,
      Nat.min_comm]
  | .struct _ _ _ fs _ _ _ => by simp only [room, used, keysRoom, roomL_eq fs]
  | .dictionary _ _ vals _ => by simp only [room, used, keysRoom, room_eq vals, Nat.min_left_comm]
  | .union _ fs _ _ cur => by
    simp only [room, used, keysRoom, roomL_eq fs, curRoom_eq cur, ← Nat.sub_min_sub_left, Nat.min_assoc]
theorem roomL_eq : ∀ (fs : BL), roomL fs = min (LIM - usedL fs) (keysRoomL fs)
  | .nil => by simp [roomL, usedL, keysRoomL]
  | .cons b _ r => by
    simp only [roomL, usedL, keysRoomL, room_eq b, roomL_eq r, ← Nat.sub_min_sub_left, Nat.min_assoc, Nat.min_left_comm,
      Nat.min_comm]
end

/-- every capacity-limited counter of the builder plus the size of the value stays within `i32::MAX`, and every
dictionary has that many free keys ⇒ no capacity check can refuse the value -/
theorem small_NoCap (ext : Ext) (b : B) (x : SVal) (h1 : used b + vsize ext x ≤ 2147483647)
    (h2 : vsize ext x ≤ keysRoom b) : NoCap ext b x := by
  unfold NoCap
  rw [room_eq]
  simp only [LIM]
  omega

end SaModel.Build
