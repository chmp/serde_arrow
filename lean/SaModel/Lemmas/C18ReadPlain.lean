import SaModel.Lemmas.C18Within
import SaModel.Lemmas.ReadLeaf
import SaModel.Read.Annot
/-
C18, reader half: the parts of the reader model that never call `.ctx(..)` return no annotated error.
-/
namespace SaModel.Props.C18
open SaModel SaModel.Read

instance (fx : Fixes) (b : Bits) (idx : Nat) : NoCtx (getBitBuffer fx b idx) := by unfold getBitBuffer; noctx
instance (fx : Fixes) (v : Option Bits) (idx : Nat) : NoCtx (validityIsSet fx v idx) := by unfold validityIsSet; noctx
instance (x : Int) : NoCtx (tryIntoUsize x) := by unfold tryIntoUsize; noctx
instance {α} (x : R (Option α)) [NoCtx x] : NoCtx (getRequired x) := by unfold getRequired; noctx
instance {α} (x : R (Option α)) [NoCtx x] : NoCtx (optIsSome x) := by unfold optIsSome; noctx
instance (fx : Fixes) (v : Option Bits) (vals : List Int) (idx : Nat) : NoCtx (primGet fx v vals idx) := by
  unfold primGet; noctx
instance (fx : Fixes) (len : Nat) (v : Option Bits) (vals : Bits) (idx : Nat) : NoCtx (boolGet fx len v vals idx) := by
  unfold boolGet; noctx
instance (fx : Fixes) (v : Option Bits) (offs : List Int) (data : Bytes) (idx : Nat) : NoCtx (bytesGet fx v offs data idx) := by
  unfold bytesGet; noctx
instance (buffers : List Bytes) (desc : Nat) : NoCtx (viewBytes buffers desc) := by unfold viewBytes; noctx
instance (fx : Fixes) (v : Option Bits) (views : List Nat) (buffers : List Bytes) (idx : Nat) :
    NoCtx (viewGet fx v views buffers idx) := by unfold viewGet; noctx
instance (x : R (Option Bytes)) [NoCtx x] : NoCtx (asStr x) := by unfold asStr; noctx
instance (fx : Fixes) (n : Int) (data : Bytes) : NoCtx (fsbNew fx n data) := by unfold fsbNew; noctx
instance (fx : Fixes) (n len : Nat) (v : Option Bits) (data : Bytes) (idx : Nat) : NoCtx (fsbGet fx n len v data idx) := by
  unfold fsbGet; noctx
instance (fx : Fixes) (offs : List Int) (idx : Nat) : NoCtx (listRange fx offs idx) := by unfold listRange; noctx
instance (fx : Fixes) (len : Nat) (n : Int) (idx : Nat) : NoCtx (fslRange fx len n idx) := by unfold fslRange; noctx
instance (fx : Fixes) (ty : BytesTy) (v : Option Bits) (offs : List Int) (data : Bytes) (idx : Nat) :
    NoCtx (bytesColGet fx ty v offs data idx) := by unfold bytesColGet; noctx
instance (fx : Fixes) (ty : ViewTy) (v : Option Bits) (views : List Nat) (buffers : List Bytes) (idx : Nat) :
    NoCtx (viewColGet fx ty v views buffers idx) := by unfold viewColGet; noctx
instance (fx : Fixes) (n : Int) (v : Option Bits) (data : Bytes) (idx : Nat) : NoCtx (fsbColGet fx n v data idx) := by
  unfold fsbColGet; noctx
instance (fx : Fixes) (len idx : Nat) : NoCtx (nullCheck fx len idx) := by unfold nullCheck; noctx
instance (fx : Fixes) (a : Arr) (idx : Nat) : NoCtx (isSome fx a idx) := by unfold isSome; noctx
instance (fx : Fixes) (ks vs : Arr) (idx : Nat) : NoCtx (dictGetStr fx ks vs idx) := by unfold dictGetStr; noctx
instance (fx : Fixes) (types : List Int) (offs : Option (List Int)) (n idx : Nat) : NoCtx (unionSelect fx types offs n idx) := by
  unfold unionSelect; noctx
instance {α} : NoCtx (notImpl : R α) := by unfold notImpl; noctx
instance {α} : NoCtx (rejected : R α) := by unfold rejected; noctx
instance (ty : IntTy) (x : Int) : NoCtx (intoInt ty x) := by unfold intoInt; noctx
instance (ty : PrimTy) (x : Int) : NoCtx (dateRepr ty x) := by
  unfold dateRepr Codec.dateToString; dsimp only; noctx
instance (u : SaModel.TimeUnit) (x : Int) : NoCtx (timeRepr u x) := by
  unfold timeRepr Codec.timeToString; noctx
instance (u : SaModel.TimeUnit) (tz : Option String) (x : Int) : NoCtx (timestampRepr u tz x) := by
  unfold timestampRepr Codec.timestampToString; noctx
instance (r : R Bytes) [NoCtx r] : NoCtx (ownedStr r) := by unfold ownedStr; noctx
instance (r : R Bytes) [NoCtx r] : NoCtx (ownedBytes r) := by unfold ownedBytes; noctx
instance (fx : Fixes) (fmt : Int → R DVal) [∀ x, NoCtx (fmt x)] (v : Option Bits) (vals : List Int) (idx : Nat) :
    NoCtx (codecRead fx fmt v vals idx) := by
  unfold codecRead; noctx
theorem noCtx_strVariant : ∀ (vs : TVariants) (s : Bytes), NoCtx (strVariant vs s)
  | .nil, _ => by unfold strVariant; infer_instance
  | .cons n k rest, s => by
    have := noCtx_strVariant rest s
    unfold strVariant; noctx
instance (vs : TVariants) (s : Bytes) : NoCtx (strVariant vs s) := noCtx_strVariant vs s
theorem NoCtx.of_plainOnly {α} {r : R α} (h : PlainOnly r) : NoCtx r :=
  ⟨fun _ _ he => by obtain ⟨_, hm⟩ := h _ he; cases hm⟩

theorem leafReq_noCtx {fx : Fixes} {a : Arr} {i : Nat} {β : Type} {r : R β} (h : LeafReq fx a i r) : NoCtx r := by
  cases h with
  | get hg => cases hg <;> infer_instance
  | null | dictionary => infer_instance

instance (fx : Fixes) (m : Method) (a : Arr) (idx : Nat) : NoCtx (scalar fx m a idx) :=
  scalar_cases fx m a idx inferInstance fun _ _ hr hk =>
    have := leafReq_noCtx hr
    have := fun x => NoCtx.of_plainOnly (hk x)
    inferInstance
instance (t : Target) (d : DVal) : NoCtx (accept t d) := by unfold accept; noctx
instance (t : Target) (b : UInt8) : NoCtx (u8As t b) := by unfold u8As; noctx
instance (t : Target) (n : String) : NoCtx (strDeAs t n) := by unfold strDeAs; noctx
instance (fx : Fixes) (len idx : Nat) : NoCtx (structItem fx len idx) := by unfold structItem; noctx
instance (t : Target) (s : Option DVal) : NoCtx (slotOrMissing t s) := by unfold slotOrMissing; noctx

instance finishFields_noctx : ∀ (tfs : TFields) (pos : Nat) (slots : Slots), NoCtx (finishFields tfs pos slots)
  | .nil, _, _ => by unfold finishFields; noctx
  | .cons n t rest, pos, slots => by
    have := finishFields_noctx rest (pos + 1) slots
    unfold finishFields; noctx

theorem binaryElems_noctx (fx : Fixes) (a : Arr) (idx : Nat) (rb : R Bytes) (h : binaryElems fx a idx = some rb) : NoCtx rb := by
  unfold binaryElems at h
  split at h
  · split at h
    · cases h
    · cases h; infer_instance
  · split at h
    · cases h
    · cases h; infer_instance
  · cases h; infer_instance
  · cases h

theorem stringElem_noctx (fx : Fixes) (a : Arr) (idx : Nat) (rb : R Bytes) (h : stringElem fx a idx = some rb) : NoCtx rb := by
  unfold stringElem at h
  split at h
  · split at h
    · cases h; infer_instance
    · cases h
  · split at h
    · cases h; infer_instance
    · cases h
  · cases h; infer_instance
  · cases h

instance mapM_noctx {α β} (f : α → R β) [∀ x, NoCtx (f x)] : ∀ (l : List α), NoCtx (l.mapM f)
  | [] => by simp only [List.mapM_nil]; infer_instance
  | x :: xs => by
    have := mapM_noctx f xs
    simp only [List.mapM_cons]; infer_instance

theorem readRecordA_some {af : AnnFixes} {fx : Fixes} {t : Target} {fm : FieldMeta} {col : Arr} {idx : Nat} {r : R DVal} :
    readRecordA af fx t fm col idx = some r ↔ idx < vlen col ∧ r = readAsA af fx "$" t (record fm col) idx := by
  unfold readRecordA
  split
  · exact ⟨nofun, fun h => absurd h.1 (by omega)⟩
  · exact ⟨fun h => ⟨by omega, (Option.some.inj h).symm⟩, fun h => h.2 ▸ rfl⟩

end SaModel.Props.C18
