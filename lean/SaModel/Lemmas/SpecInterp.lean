import SaModel.Spec.Interp
import SaModel.Lemmas.C01LeafBridge
import SaModel.Lemmas.C19MapM
/-
The record mapping of the specification (`Spec.structOf`, `interpByName`, `interpByKey` of Spec/Interp.lean), with the lemmas
through which its users reason without unfolding it: a struct value is `pickField` at every schema field, in order; one entry
of a presentation either is skipped by a field (other name) or contributes its value in front.
-/
namespace SaModel.Spec
open SaModel

/-- what `structOf` does at one schema field: gather the candidates, take the one `pickOne` accepts, under the field's name -/
def pickField (collect : Field → R (List LVal)) (f : Field) : R (String × LVal) := do
  let found ← collect f
  let v ← pickOne f.name f.nullable f.dataType f.metadata found
  pure (f.name, v)

theorem structOf_eq (fields : List Field) (collect : Field → R (List LVal)) :
    structOf fields collect = (do let vals ← fields.mapM (pickField collect); pure (.struct (LFields.ofList vals))) := rfl

theorem pickField_eq_ok {collect : Field → R (List LVal)} {f : Field} {p : String × LVal} :
    pickField collect f = .ok p ↔
      ∃ found v, collect f = .ok found ∧ pickOne f.name f.nullable f.dataType f.metadata found = .ok v ∧ p = (f.name, v) := by
  simp only [pickField, R.bind_eq_ok]
  exact ⟨fun ⟨found, h1, v, h2, h3⟩ => ⟨found, v, h1, h2, (Except.ok.inj h3).symm⟩,
    fun ⟨found, v, h1, h2, h3⟩ => ⟨found, h1, v, h2, h3 ▸ rfl⟩⟩

/-- a defined struct value, field by field: field `j` found candidates of which `pickOne` accepted the value at position `j` -/
theorem structOf_ok_inv {fields : List Field} {collect : Field → R (List LVal)} {lv : LVal}
    (h : structOf fields collect = .ok lv) :
    ∃ vals, lv = .struct (LFields.ofList vals) ∧ ∀ (j : Nat) f, fields[j]? = some f →
      ∃ found v, collect f = .ok found ∧ pickOne f.name f.nullable f.dataType f.metadata found = .ok v ∧
        vals[j]? = some (f.name, v) := by
  rw [structOf_eq, R.bind_eq_ok] at h
  obtain ⟨vals, hv, h⟩ := h
  cases h
  refine ⟨vals, rfl, fun j f hj => ?_⟩
  have := congrArg (·[j]?) (R.mapM_eq_ok_iff.mp hv)
  simp only [List.getElem?_map, hj, Option.map_some] at this
  cases hp : vals[j]? with
  | none => rw [hp] at this; cases this
  | some p =>
    rw [hp] at this
    obtain ⟨found, v, h1, h2, rfl⟩ := pickField_eq_ok.mp (Option.some.inj this)
    exact ⟨found, v, h1, h2, rfl⟩

/-- a struct value is a function of what each schema field picks -/
theorem structOf_congr {fields : List Field} {c1 c2 : Field → R (List LVal)}
    (h : ∀ f ∈ fields, pickField c1 f = pickField c2 f) : structOf fields c1 = structOf fields c2 := by
  rw [structOf_eq, structOf_eq, R.mapM_congr h]

/-- … on the success side -/
theorem structOf_mono {fields : List Field} {c1 c2 : Field → R (List LVal)} {lv : LVal}
    (himp : ∀ f ∈ fields, ∀ p, pickField c1 f = .ok p → pickField c2 f = .ok p)
    (h : structOf fields c1 = .ok lv) : structOf fields c2 = .ok lv := by
  rw [structOf_eq, R.bind_eq_ok] at h ⊢
  obtain ⟨vals, hv, h⟩ := h
  exact ⟨vals, R.mapM_mono himp hv, h⟩

/-- a struct value is defined as soon as every field picks a value -/
theorem structOf_total {fields : List Field} {collect : Field → R (List LVal)}
    (h : ∀ f ∈ fields, ∃ p, pickField collect f = .ok p) : ∃ lv, structOf fields collect = .ok lv := by
  obtain ⟨vals, hv⟩ := Lemmas.C19.mapM_total _ fields h
  exact ⟨_, by rw [structOf_eq, hv]; rfl⟩

/-- … and undefined as soon as one field's candidates are refused -/
theorem structOf_error_of_mem {fields : List Field} {collect : Field → R (List LVal)} {f : Field} (hf : f ∈ fields)
    (he : ∃ e, pickField collect f = .error e) : ∃ e, structOf fields collect = .error e := by
  obtain ⟨e, he⟩ := R.mapM_error_of_mem hf he
  exact ⟨e, by rw [structOf_eq, he]; rfl⟩

end SaModel.Spec

namespace SaModel.Build
open SaModel SaModel.Spec

/-! ### what `pickOne` accepted -/

theorem pickOne_nil_inv {name : String} {nullable : Bool} {dt : DataType} {md : Metadata} {lv : LVal}
    (h : pickOne name nullable dt md [] = .ok lv) : nullable = true ∧ interpNull dt nullable md = .ok lv := by
  simp only [pickOne] at h
  cases nullable
  · simp [fail] at h
  · exact ⟨rfl, by simpa using h⟩

theorem pickOne_cons_inv {name : String} {nullable : Bool} {dt : DataType} {md : Metadata} {lv a : LVal} {vs : List LVal}
    (h : pickOne name nullable dt md (a :: vs) = .ok lv) : vs = [] := by
  cases vs with
  | nil => rfl
  | cons _ _ => simp [pickOne, fail] at h

/-! ### one entry of a presentation, seen from one schema field -/

theorem interpByName_cons_ne {ext : Ext} {name key : String} {al : Nat} {dt n md} {x : SVal} {rest : SFields}
    (h : (key == name) = false) :
    interpByName ext name dt n md (.cons key al x rest) = interpByName ext name dt n md rest := by
  simp only [interpByName, h, Bool.false_eq_true, if_false]
  cases interpByName ext name dt n md rest <;> rfl

theorem interpByName_cons_eq {ext : Ext} {name key : String} {al : Nat} {dt n md} {x : SVal} {rest : SFields}
    {found : List LVal} (h : (key == name) = true)
    (hf : interpByName ext name dt n md (.cons key al x rest) = .ok found) :
    ∃ lv vs, interpByName ext name dt n md rest = .ok vs ∧ interpDT ext dt n md x = .ok lv ∧ found = lv :: vs := by
  simp only [interpByName, h, if_true] at hf
  obtain ⟨vs, h1, hf⟩ := R.bind_ok_inv hf
  obtain ⟨lv, h2, hf⟩ := R.bind_ok_inv hf
  cases hf
  exact ⟨lv, vs, h1, h2, rfl⟩

theorem interpByName_cons_ok {ext : Ext} {name key : String} {al : Nat} {dt n md} {x : SVal} {rest : SFields}
    {lv : LVal} {vs : List LVal} (h : (key == name) = true) (h1 : interpByName ext name dt n md rest = .ok vs)
    (h2 : interpDT ext dt n md x = .ok lv) : interpByName ext name dt n md (.cons key al x rest) = .ok (lv :: vs) := by
  simp only [interpByName, h, if_true, h1, h2]
  rfl

theorem interpByKey_cons_ne {ext : Ext} {name : String} {k : SVal} {dt n md} {x : SVal} {rest : SEntries}
    (h : ((keyStr k).toOption == some name) = false) :
    interpByKey ext name dt n md (.cons k x rest) = interpByKey ext name dt n md rest := by
  simp only [interpByKey, keyOf_eq, h, Bool.false_eq_true, if_false]
  cases interpByKey ext name dt n md rest <;> rfl

theorem interpByKey_cons_eq {ext : Ext} {name : String} {k : SVal} {dt n md} {x : SVal} {rest : SEntries}
    {found : List LVal} (h : ((keyStr k).toOption == some name) = true)
    (hf : interpByKey ext name dt n md (.cons k x rest) = .ok found) :
    ∃ lv vs, interpByKey ext name dt n md rest = .ok vs ∧ interpDT ext dt n md x = .ok lv ∧ found = lv :: vs := by
  simp only [interpByKey, keyOf_eq, h, if_true] at hf
  obtain ⟨vs, h1, hf⟩ := R.bind_ok_inv hf
  obtain ⟨lv, h2, hf⟩ := R.bind_ok_inv hf
  cases hf
  exact ⟨lv, vs, h1, h2, rfl⟩

theorem interpByKey_cons_ok {ext : Ext} {name : String} {k : SVal} {dt n md} {x : SVal} {rest : SEntries}
    {lv : LVal} {vs : List LVal} (h : ((keyStr k).toOption == some name) = true)
    (h1 : interpByKey ext name dt n md rest = .ok vs) (h2 : interpDT ext dt n md x = .ok lv) :
    interpByKey ext name dt n md (.cons k x rest) = .ok (lv :: vs) := by
  simp only [interpByKey, keyOf_eq, h, if_true, h1, h2]
  rfl

end SaModel.Build
