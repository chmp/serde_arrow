import SaModel.Lemmas.C18ReadPlain
/-
C18, reader half: path assembly of the reader tree, and the loops of the annotated readers.
-/
namespace SaModel.Props.C18
open SaModel SaModel.Read

mutual
/-- positions of the reader tree of a view, as lists of child names (`ChildName` everywhere; map children below the
entries name; the dictionary reader has no child readers), with the `data_type` labels of the readers -/
def segsArr : Arr → List (List String × String)
  | .struct _ _ fs => ([], "Struct(..)") :: segsArrF fs
  | .list large _ _ fm el => ([], if large then "LargeList(..)" else "List(..)") :: under [rchildName fm.name] (segsArr el)
  | .fixedSizeList _ _ _ fm el => ([], "FixedSizeList(..)") :: under [rchildName fm.name] (segsArr el)
  | .map _ _ mm ks vs =>
    ([], "Map(..)") :: (under [rchildName mm.entriesName, rchildName mm.keys.name] (segsArr ks)
      ++ under [rchildName mm.entriesName, rchildName mm.values.name] (segsArr vs))
  | .union _ _ fs => ([], "Union(..)") :: segsArrU fs
  | a => [([], rlabel a)]
def segsArrF : ArrFields → List (List String × String)
  | .nil => []
  | .cons fm a rest => under [rchildName fm.name] (segsArr a) ++ segsArrF rest
def segsArrU : ArrUFields → List (List String × String)
  | .nil => []
  | .cons _ fm a rest => under [rchildName fm.name] (segsArr a) ++ segsArrU rest
end

mutual
theorem rpositions_eq : ∀ (a : Arr) (p : String), rpositions p a = positionsAt p (segsArr a)
  | .struct _ _ fs, p => by
    simp only [rpositions, segsArr, positionsAt_cons, rpositionsF_eq fs p]; simp [render, rlabel]
  | .list large _ _ fm el, p => by
    simp only [rpositions, segsArr, positionsAt_cons, positionsAt_under, rpositions_eq el]
    simp [render, rlabel, rchild]
  | .fixedSizeList _ _ _ fm el, p => by
    simp only [rpositions, segsArr, positionsAt_cons, positionsAt_under, rpositions_eq el]
    simp [render, rlabel, rchild]
  | .map _ _ mm ks vs, p => by
    simp only [rpositions, segsArr, positionsAt_cons, positionsAt_append, positionsAt_under, rpositions_eq ks, rpositions_eq vs]
    simp [render, rlabel, rmapChild]
  | .union _ _ fs, p => by
    simp only [rpositions, segsArr, positionsAt_cons, rpositionsU_eq fs p]; simp [render, rlabel]
  | .null _, p | .boolean _ _ _, p | .prim _ _ _, p | .time _ _ _ _, p | .timestamp _ _ _ _, p | .decimal128 _ _ _ _, p
  | .bytes _ _ _ _, p | .bytesView _ _ _ _, p | .fixedSizeBinary _ _ _, p | .dictionary _ _, p => by
    simp [rpositions, segsArr, positionsAt, render]
theorem rpositionsF_eq : ∀ (fs : ArrFields) (p : String), rpositionsF p fs = positionsAt p (segsArrF fs)
  | .nil, p => by simp [rpositionsF, segsArrF, positionsAt]
  | .cons fm a rest, p => by
    simp only [rpositionsF, segsArrF, positionsAt_append, positionsAt_under, rpositions_eq a, rpositionsF_eq rest p]
    simp [render, rchild]
theorem rpositionsU_eq : ∀ (fs : ArrUFields) (p : String), rpositionsU p fs = positionsAt p (segsArrU fs)
  | .nil, p => by simp [rpositionsU, segsArrU, positionsAt]
  | .cons _ fm a rest, p => by
    simp only [rpositionsU, segsArrU, positionsAt_append, positionsAt_under, rpositions_eq a, rpositionsU_eq rest p]
    simp [render, rchild]
end

theorem rann_eq (p : String) (a : Arr) : rann p a = posAnn (p, rlabel a) := rfl

theorem self_mem_rpositions (p : String) (a : Arr) : (p, rlabel a) ∈ rpositions p a := by
  cases a <;> simp [rpositions]

theorem fields_sub (p : String) : ∀ (fs : ArrFields) (fm : FieldMeta) (child : Arr), (fm, child) ∈ fs.toList →
    ∀ q ∈ rpositions (rchild p fm.name) child, q ∈ rpositionsF p fs
  | .nil, _, _, h => by simp [ArrFields.toList] at h
  | .cons fm' a rest, fm, child, h => by
    intro q hq
    simp only [ArrFields.toList, List.mem_cons, Prod.mk.injEq] at h
    simp only [rpositionsF, List.mem_append]
    rcases h with ⟨rfl, rfl⟩ | h
    · exact .inl hq
    · exact .inr (fields_sub p rest fm child h q hq)

theorem ufields_sub (p : String) : ∀ (fs : ArrUFields) (k : Nat) (fm : FieldMeta) (child : Arr),
    ArrUFields.nth fs k = some (fm, child) → ∀ q ∈ rpositions (rchild p fm.name) child, q ∈ rpositionsU p fs
  | .nil, _, _, _, h => by simp [ArrUFields.nth] at h
  | .cons _ fm' a rest, 0, fm, child, h => by
    simp only [ArrUFields.nth, Option.some.injEq, Prod.mk.injEq] at h
    obtain ⟨rfl, rfl⟩ := h
    intro q hq; simp only [rpositionsU, List.mem_append]; exact .inl hq
  | .cons _ fm' a rest, k + 1, fm, child, h => by
    simp only [ArrUFields.nth] at h
    intro q hq; simp only [rpositionsU, List.mem_append]; exact .inr (ufields_sub p rest k fm child h q hq)

/-- `Ann P` says of the annotated errors what `Read.Errs` says of all; so the element loops, which hand an error on as it
is, keep it (`Within S` and `RaisedR af fx S` are instances) -/
theorem Ann.errs {α} {P : String → List (String × String) → Prop} {r : R α} (h : Ann P r) :
    Errs (fun e => ∀ msg a, e = .errCtx msg a → P msg a) r := fun _ he msg a hs => h msg a (hs ▸ he)

theorem Ann.of_errs {α} {P : String → List (String × String) → Prop} {r : R α}
    (h : Errs (fun e => ∀ msg a, e = .errCtx msg a → P msg a) r) : Ann P r := fun msg a he => h _ he msg a rfl

theorem Ann.readRange {α} {P : String → List (String × String) → Prop} {f : Nat → R α} (hf : ∀ j, Ann P (f j))
    (n s : Nat) : Ann P (readRange f s n) := .of_errs (Errs.readRange (fun j => (hf j).errs) n s)

theorem Ann.mapM {α β} {P : String → List (String × String) → Prop} {f : α → R β} (l : List α)
    (h : ∀ x ∈ l, Ann P (f x)) : Ann P (l.mapM f) := .of_errs (Errs.mapM l fun x hx => (h x hx).errs)

theorem Ann.foldlM {α σ} {P : String → List (String × String) → Prop} {f : σ → α → R σ} (l : List α) (init : σ)
    (h : ∀ s, ∀ x ∈ l, Ann P (f s x)) : Ann P (l.foldlM f init) := .of_errs (Errs.foldlM l init fun s x hx => (h s x hx).errs)

theorem readRange_within {α} {S : List Pos} {f : Nat → R α} (hf : ∀ j, Within S (f j)) :
    ∀ (n s : Nat), Within S (readRange f s n) := Ann.readRange hf

theorem mapM_within {α β} {S : List Pos} {f : α → R β} : ∀ (l : List α), (∀ x ∈ l, Within S (f x)) → Within S (l.mapM f) :=
  Ann.mapM

theorem foldlM_within {α σ} {S : List Pos} {f : σ → α → R σ} : ∀ (l : List α) (init : σ),
    (∀ s, ∀ x ∈ l, Within S (f s x)) → Within S (l.foldlM f init) := Ann.foldlM

/-- the subtree a variant payload is read from -/
def srcPositions : Option (String × Arr × Nat) → List Pos
  | some (cp, child, _) => rpositions cp child
  | none => []

end SaModel.Props.C18
