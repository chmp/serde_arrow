import SaModel.Lemmas.C16Inv
import SaModel.Lemmas.C01Struct
import SaModel.Lemmas.Yields
/-
C16: `push` cannot unwind.  For EVERY serde value (malformed raw key/value streams, tuples longer or shorter than
the struct, wrong lengths, wrong kinds, variants out of range …) and every builder state satisfying `NPInv`
(Lemmas/C16Inv.lean), `push ext b x` is `ok` or an error value — row by row (`np_rows`, an instance of the walk of
Lemmas/PushRows.lean), all builder families.

The only hypothesis beside the invariant is `ExtNP ext`: the conversions taken from other models / crates
(chrono parsing, the decimal parser, the float → decimal product) do not unwind.  For the codec models of C14/C15
this is a theorem (`Props/C16.lean: codecExt_np`).
-/
namespace SaModel.Lemmas.C16
open SaModel SaModel.Build SaModel.Spec

/-- the external conversions never unwind (the decimal parser on the precisions a builder can have) -/
structure ExtNP (ext : Ext) : Prop where
  parseDate : ∀ is64 s, (ext.parseDate is64 s).isPanic = false
  parseTime : ∀ u s, (ext.parseTime u s).isPanic = false
  parseTimestamp : ∀ u utc s, (ext.parseTimestamp u utc s).isPanic = false
  parseDuration : ∀ u s, (ext.parseDuration u s).isPanic = false
  parseDecimal : ∀ p sc s, 1 ≤ p → p ≤ 38 → (ext.parseDecimal p sc s).isPanic = false
  floatToDecimal : ∀ p sc is64 bits, (ext.floatToDecimal p sc is64 bits).isPanic = false

theorem tryInto_np (t : IntTy) (v : Int) : (tryInto t v).isPanic = false := by
  unfold tryInto; split <;> rfl

theorem convLeaf_np (ext : Ext) (he : ExtNP ext) (k : LeafKind) (hk : KindOK k) (x : SVal) :
    (convLeaf ext k x).isPanic = false := by
  unfold convLeaf
  split <;> first
    | with_reducible first
      | exact ok_no_panic _
      | exact notSupported_no_panic _
      | exact tryInto_np _ _
      | exact he.parseDate _ _
      | exact he.parseTime _ _
      | exact he.parseTimestamp _ _ _
      | exact he.parseDuration _ _
      | exact he.floatToDecimal _ _ _ _
      | exact bind_no_panic _ _ (he.parseTime _ _) (fun _ => tryInto_np _ _)
      | (split <;> first | exact ok_no_panic _ | exact fail_no_panic _ | exact tryInto_np _ _)
    | exact he.parseDecimal _ _ _ hk.1 hk.2

theorem keyStr_np (x : SVal) : (keyStr x).isPanic = false := by
  fun_induction keyStr x <;> first | rfl | assumption

theorem u8Of_np (x : SVal) : (u8Of x).isPanic = false := by
  fun_induction u8Of x <;> first | rfl | assumption | (split <;> rfl)

theorem u8All_np : ∀ (xs : SVals), (u8All xs).isPanic = false
  | .nil => rfl
  | .cons v r => by
    simp only [u8All]
    exact bind_no_panic _ _ (u8Of_np v) (fun _ => bind_no_panic _ _ (u8All_np r) (fun _ => rfl))

theorem bytesValue_np (ext : Ext) (c : Bool) (x : SVal) :
    R.isPanic (if c then
        match scalarToString ext x with
        | some s => (.ok (strBytes s) : R Bytes)
        | none => notSupported s!"serialize_{x.kind}"
      else match x with
        | .bytes bs => .ok bs
        | _ => notSupported s!"serialize_{x.kind}") = false := by
  split
  · split <;> rfl
  · split <;> rfl

theorem viewPushValue_np (views : List Nat) (buf value : Bytes) : (viewPushValue views buf value).isPanic = false := by
  unfold viewPushValue
  split
  · rfl
  · split <;> rfl

theorem viewSeq_np (views : List Nat) (buf bytes : Bytes) : (viewSeq views buf bytes).isPanic = false := by
  unfold viewSeq
  split
  · rfl
  · split
    · rfl
    · split <;> rfl

theorem pushScalar_np (ext : Ext) (he : ExtNP ext) : ∀ (b : B) (x : SVal), NPInv b → (pushScalar ext b x).isPanic = false
  | .null _ _, x, _ => by unfold pushScalar; split <;> rfl
  | .unknownVariant _, x, _ => by unfold pushScalar; rfl
  | .leaf _ k _ _, x, h => by
    unfold pushScalar
    exact bind_no_panic _ _ (convLeaf_np ext he k h x)
      (fun _ => bind_no_panic _ _ (setValidity_no_panic _ _ _) (fun _ => rfl))
  | .bytes _ ty _ _ _, x, _ => by
    unfold pushScalar
    refine bind_no_panic _ _ (bytesValue_np ext _ x) (fun _ => ?_)
    refine bind_no_panic _ _ (setValidity_no_panic _ _ _) (fun _ => ?_)
    refine bind_no_panic _ _ (duplicateLast_no_panic _) (fun _ => ?_)
    exact bind_no_panic _ _ (incrementLast_no_panic _ _ _) (fun _ => rfl)
  | .bytesView _ ty _ _ _, x, _ => by
    unfold pushScalar
    refine bind_no_panic _ _ (bytesValue_np ext _ x) (fun _ => ?_)
    refine bind_no_panic _ _ (viewPushValue_np _ _ _) (fun _ => ?_)
    exact bind_no_panic _ _ (setValidity_no_panic _ _ _) (fun _ => rfl)
  | .fixedSizeBinary _ _ _ _ _ _, x, _ => by
    unfold pushScalar
    split
    · split
      · rfl
      · exact bind_no_panic _ _ (setValidity_no_panic _ _ _) (fun _ => rfl)
    · rfl
  | .dictionary _ idx vals index, x, h => by
    unfold pushScalar
    simp only []
    split
    · split
      · exact bind_no_panic _ _ ((ctx_isPanic _ _).trans (pushScalar_np ext he idx _ h.1)) (fun _ => rfl)
      · refine bind_no_panic _ _ ((ctx_isPanic _ _).trans (pushScalar_np ext he vals _ h.2)) (fun _ => ?_)
        exact bind_no_panic _ _ ((ctx_isPanic _ _).trans (pushScalar_np ext he idx _ h.1)) (fun _ => rfl)
    · rfl
  | .list _ _ _ _ _ _, x, _ => by unfold pushScalar; rfl
  | .fixedSizeList _ _ _ _ _ _ _, x, _ => by unfold pushScalar; rfl
  | .map _ _ _ _ _ _, x, _ => by unfold pushScalar; rfl
  | .struct _ _ _ _ _ _ _, x, _ => by unfold pushScalar; rfl
  | .union _ _ _ _ _, x, _ => by unfold pushScalar; rfl

theorem endFields_np : ∀ (fs : BL) (seen : List Bool), seen.length = fs.length → (endFields fs seen).isPanic = false
  | .nil, _, _ => rfl
  | .cons b m rest, [], h => by simp [BL.length] at h
  | .cons b m rest, s :: sr, h => by
    have h' : sr.length = rest.length := by simpa [BL.length] using h
    simp only [endFields]
    split
    · exact bind_no_panic _ _ (endFields_np rest sr h') (fun _ => rfl)
    · split
      · rfl
      · exact bind_no_panic _ _ (pushNone_no_panic b)
          (fun _ => bind_no_panic _ _ (endFields_np rest sr h') (fun _ => rfl))

theorem finishRow_np {s : SS} (hs : SInv s) : s.finishRow.isPanic = false := by
  unfold SS.finishRow
  exact bind_no_panic _ _ (endFields_np _ _ hs.1) (fun _ => rfl)

theorem start_np (s : SS) : s.start.isPanic = false := by
  unfold SS.start
  exact bind_no_panic _ _ (setValidity_no_panic _ _ _) (fun _ => rfl)

/-- `element(idx, value)` with an index below the number of fields: both raw indexings are in range -/
theorem element_np {s : SS} {idx : Nat} {pc : B → R B} (hs : SInv s) (hi : idx < s.fields.length)
    (hpc : ∀ c m, s.fields.get? idx = some (c, m) → (pc c).isPanic = false) : (s.element idx pc).isPanic = false := by
  unfold SS.element
  split
  · rename_i hnone
    have : idx < s.seen.length := by rw [hs.1]; exact hi
    rw [List.getElem?_eq_none_iff] at hnone
    omega
  · rw [ctx_isPanic]; rfl
  · split
    · rename_i hnone
      obtain ⟨x, hx⟩ := BL.get?_of_lt s.fields idx hi
      rw [hx] at hnone; cases hnone
    · rename_i c m hget
      exact bind_no_panic _ _ (hpc c m hget) (fun _ => rfl)

/-- one record into a struct builder: `start`, the fields through `pf`, `end` -/
theorem record_np {p len v fs cached next seen} {pf : SS → R SS}
    (hinv : NPInv (.struct p len v fs cached next seen))
    (hpf : ∀ s, SInv s → Yields SInv (pf s)) :
    ((do
      let s ← SS.start ⟨p, len, v, fs, cached, next, seen⟩
      let s ← pf s
      let s ← s.finishRow
      pure s.toB) : R B).isPanic = false := by
  have h0 : SInv ⟨p, len, v, fs, cached, next, seen⟩ := hinv
  refine bind_np (start_np _) (fun s1 h1 => ?_)
  have hs1 : SInv s1 := SInv.of_skel (SS.start_skel h1) h0
  exact (hpf s1 hs1).bind fun s2 hs2 => bind_no_panic _ _ (finishRow_np hs2) (fun _ => rfl)

theorem recordWith_np {pf : SS → R SS}
    (hpf : ∀ s, SInv s → Yields SInv (pf s)) :
    ∀ (b : B), NPInv b → (recordWith pf b).isPanic = false := by
  intro b hb
  cases b with
  | struct p len v fs cached next seen => simp only [recordWith]; exact record_np hb hpf
  | _ => rfl

theorem serializeVariant_np {fs : BL} {types offs cur : List Int} (idx : Nat) (h : cur.length = fs.length) :
    (serializeVariant fs types offs cur idx).isPanic = false := by
  unfold serializeVariant
  split
  · rfl
  · rename_i c m hget
    split
    · rename_i hnone
      have := BL.get?_lt fs idx _ hget
      rw [List.getElem?_eq_none_iff] at hnone
      omega
    · split
      · rfl
      · split <;> rfl

theorem union_row_np {p fs types offs cur} {i : Nat} {pc : B → R B} (hinv : NPInv (.union p fs types offs cur))
    (hpc : ∀ c, NPInv c → (pc c).isPanic = false) :
    ((do
      let (c, types', offs', cur') ← serializeVariant fs types offs cur i
      let c' ← pc c
      pure (.union p (fs.set i c') types' offs' cur')) : R B).isPanic = false := by
  refine bind_np (serializeVariant_np i hinv.1) ?_
  intro r h1
  obtain ⟨m, co, hget, _⟩ := serializeVariant_ok h1
  obtain ⟨c, t', o', cu'⟩ := r
  exact bind_no_panic _ _ (hpc c (NPInvL.get hinv.2 hget)) (fun _ => rfl)

theorem map_row_np {p mm v offs ks vs} {pm : List Int → B → B → R (List Int × B × B)}
    (hpm : ∀ o, (pm o ks vs).isPanic = false) :
    ((do
      let v' ← setValidity v (offs.length - 1) true
      let offs' ← duplicateLast offs
      let (offs'', ks', vs') ← pm offs' ks vs
      pure (.map p mm v' offs'' ks' vs')) : R B).isPanic = false := by
  refine bind_no_panic _ _ (setValidity_no_panic _ _ _) (fun _ => ?_)
  refine bind_no_panic _ _ (duplicateLast_no_panic _) (fun o => ?_)
  exact bind_no_panic _ _ (hpm o) (fun _ => rfl)

theorem seqLikeWith_np {pe : Bool → B → List Int → R (B × List Int)} {pc : B → Nat → R (B × Nat)}
    {pt : SS → R SS} {bytes : R Bytes}
    (hpe : ∀ large el offs, NPInv el → (pe large el offs).isPanic = false)
    (hpc : ∀ el c, NPInv el → (pc el c).isPanic = false)
    (hpt : ∀ s, SInv s → Yields SInv (pt s))
    (hbytes : bytes.isPanic = false) :
    ∀ (b : B) (k : SeqKind), NPInv b → (seqLikeWith pe pc pt bytes b k).isPanic = false := by
  intro b k hb
  cases b with
  | list p large fm v offs el =>
    simp only [seqLikeWith]
    refine bind_no_panic _ _ (setValidity_no_panic _ _ _) (fun _ => ?_)
    refine bind_no_panic _ _ (duplicateLast_no_panic _) (fun o => ?_)
    exact bind_no_panic _ _ (hpe large el o hb) (fun _ => rfl)
  | fixedSizeList p fm n len v cur el =>
    simp only [seqLikeWith]
    refine bind_no_panic _ _ (setValidity_no_panic _ _ _) (fun _ => ?_)
    refine bind_no_panic _ _ (hpc el 0 hb) (fun r => ?_)
    obtain ⟨el', cnt⟩ := r
    simp only []
    split <;> rfl
  | bytes p ty v offs data =>
    simp only [seqLikeWith]
    split
    · refine bind_no_panic _ _ (setValidity_no_panic _ _ _) (fun _ => ?_)
      refine bind_no_panic _ _ (duplicateLast_no_panic _) (fun o => ?_)
      refine bind_no_panic _ _ hbytes (fun bs => ?_)
      exact bind_no_panic _ _ (iter_no_panic _ (fun o => incrementLast_no_panic _ _ _) _ _) (fun _ => rfl)
    · rfl
  | bytesView p ty v views buf =>
    simp only [seqLikeWith]
    split
    · refine bind_no_panic _ _ (setValidity_no_panic _ _ _) (fun _ => ?_)
      refine bind_no_panic _ _ hbytes (fun bs => ?_)
      exact bind_no_panic _ _ (viewSeq_np _ _ _) (fun _ => rfl)
    · rfl
  | fixedSizeBinary p n len v buf cur =>
    simp only [seqLikeWith]
    refine bind_no_panic _ _ (setValidity_no_panic _ _ _) (fun _ => ?_)
    refine bind_no_panic _ _ hbytes (fun bs => ?_)
    split <;> rfl
  | struct p len v fs cached next seen =>
    cases k with
    | seq => rfl
    | tuple => simp only [seqLikeWith]; exact record_np hb hpt
    | tupleStruct => simp only [seqLikeWith]; exact record_np hb hpt
  | _ => rfl

theorem lookup_lt {names : List String} {cached : List (Option (String × Nat))} {guess : Nat} {key : String × Nat}
    {idx : Nat} {c' : List (Option (String × Nat))} (hc : cached.length = names.length)
    (h : lookup names cached guess key = (some idx, c')) : idx < names.length := by
  unfold lookup at h
  split at h
  · rename_i hg
    simp only [Prod.mk.injEq, Option.some.injEq] at h
    rw [← h.1, ← hc]
    have hg' : cached[guess]? = some (some key) := by simpa using hg
    exact (List.getElem?_eq_some_iff.1 hg').1
  · split at h
    · simp at h
    · rename_i i hi
      simp only [Prod.mk.injEq, Option.some.injEq] at h
      rw [← h.1]
      exact indexOfName_lt hi

theorem lookup_SInv {s : SS} {key : String × Nat} {r : Option Nat × List (Option (String × Nat))}
    (h : lookup s.fields.names s.cached s.next key = r) (hs : SInv s) : SInv { s with cached := r.2 } :=
  ⟨hs.1, (show r.2.length = s.cached.length from h ▸ lookup_length _ _ _ _).trans hs.2.1, hs.2.2⟩

theorem element_SInv (ext : Ext) {s s' : SS} {idx : Nat} {x : SVal} (h : s.element idx (fun c => push ext c x) = .ok s')
    (hs : SInv s) : SInv s' :=
  SInv.of_skel ((takeRest_cases ext).element_ok (push_takeRest ext x) h) hs

/-- no row of `push` unwinds under the invariant; what carries `NPInv` / `SInv` from one step of a loop to the next is that a
successful push keeps `takeRest` (`push_npInv`, `element_SInv`) -/
theorem np_rows (ext : Ext) (he : ExtNP ext) : PushRowsE (fun b _ r => NPInv b → (r ext).isPanic = false)
    (fun s idx _ r => SInv s → idx < s.fields.length → (r ext).isPanic = false)
    (fun _ el _ _ r => NPInv el → (r ext).isPanic = false) (fun el _ _ r => NPInv el → (r ext).isPanic = false)
    (fun s _ r => SInv s → (r ext).isPanic = false) (fun s _ r => SInv s → (r ext).isPanic = false)
    (fun s _ r => SInv s → (r ext).isPanic = false)
    (fun s _ r => SInv s → (s.next = UNKNOWN_KEY ∨ s.next < s.fields.length) → (r ext).isPanic = false)
    (fun _ ks vs _ r => NPInv ks → NPInv vs → (r ext).isPanic = false)
    (fun _ _ ks vs _ r => NPInv ks → NPInv vs → (r ext).isPanic = false) where
  fwdSome ih := ih
  fwdNewtype ih := ih
  null _ _ := pushNone_no_panic _
  refused _ _ _ := (ctx_isPanic _ _).trans rfl
  scalar _ h := (ctx_isPanic _ _).trans (pushScalar_np ext he _ _ h)
  seqLike {b x k xs} _ ihE ihC ihT h := (ctx_isPanic _ _).trans (seqLikeWith_np (fun l el o => ihE l el o) (fun el c => ihC el c)
    (fun s hs => ⟨ihT s hs, fun s' h' => SInv.of_skel (pushTupleElems_takeRest ext xs s s' h') hs⟩) (u8All_np xs) b k h)
  listBytes {p large fm v offs el bs} ih h := (congrArg R.isPanic (push_list_bytes ext p large fm v offs el bs)).trans (ih h)
  record {b n fs} ih h := (ctx_isPanic _ _).trans (recordWith_np
    (fun s hs => ⟨ih s hs, fun s' h' => SInv.of_skel (pushFields_takeRest ext fs s s' h') hs⟩) b h)
  structMap {p len v bl cached next seen es} ih h := (ctx_isPanic _ _).trans (recordWith_np
    (fun s hs => ⟨ih _ (hs.next _), fun s' h' => SInv.of_skel ((pushStructEntries_takeRest ext es _ s' h').trans (SSkel.next s _)) hs⟩)
    _ h)
  structMapRaw {p len v bl cached next seen ops} ih h := (ctx_isPanic _ _).trans (recordWith_np
    (fun s hs => ⟨ih _ (hs.next _) (.inl rfl),
      fun s' h' => SInv.of_skel ((pushStructOps_takeRest ext ops _ s' h').trans (SSkel.next s _)) hs⟩) _ h)
  map ih h := (ctx_isPanic _ _).trans (map_row_np (pm := fun o ks vs => pushMapEntries ext o ks vs _) fun o => ih o _ _ h.1 h.2)
  mapRaw ih h := (ctx_isPanic _ _).trans (map_row_np (pm := fun o ks vs => pushMapOps ext false o ks vs _) fun o => ih o _ _ h.1 h.2)
  union _ ih h := (ctx_isPanic _ _).trans (union_row_np h fun c hc => ih c hc)
  element ih hs hi := element_np hs hi fun c m hg => ih c (NPInvL.get hs.2.2 hg)
  elemsNil _ := rfl
  elemsCons ih ihr h := bind_no_panic _ _ (incrementLast_no_panic _ _ _) fun o =>
    bind_np (ih h) fun el' h' => ihr el' o (push_npInv ext _ h h')
  countNil _ := rfl
  countCons ih ihr h := bind_np (ih h) fun el' h' => ihr el' _ (push_npInv ext _ h h')
  tupleNil _ := rfl
  tupleCons hlt hel ih hs := bind_np (hel hs hlt) fun s' h' => ih s' (element_SInv ext h' hs)
  tupleExtra _ ih hs := ih hs
  fieldsNil _ := rfl
  fieldsCons heq hel ih hs :=
    have hs' := lookup_SInv heq hs
    bind_np (hel hs' (by have := lookup_lt (by rw [hs.2.1, BL.names_length]) heq; rwa [BL.names_length] at this))
      fun s' h' => ih s' (element_SInv ext h' hs')
  fieldsUnknown heq ih hs := ih (lookup_SInv heq hs)
  entriesNil _ := rfl
  entriesCons {s k x rest} hel ih hs := bind_no_panic _ _ (keyStr_np k) fun key => by
    split
    · exact ih _ (hs.next _)
    · rename_i idx hidx
      exact bind_np (hel idx hs (by have := indexOfName_lt hidx; rwa [BL.names_length] at this))
        fun s' h' => ih _ (SInv.next (element_SInv ext h' hs) _)
  opsNil _ _ := rfl
  opsKey {s k rest} ih hs _ := bind_no_panic _ _ (keyStr_np k) fun key => ih _ (hs.next _) (by
    cases hi : indexOfName s.fields.names key with
    | none => exact .inl rfl
    | some j => exact .inr (by have := indexOfName_lt hi; rwa [BL.names_length] at this))
  opsValue hne hel ih hs hn := bind_np (hel hs (hn.resolve_left hne)) fun s' h' =>
    ih _ (SInv.next (element_SInv ext h' hs) _) (.inl rfl)
  opsValueUnkeyed _ ih hs _ := ih (hs.next _) (.inl rfl)
  mapEntriesNil _ _ := rfl
  mapEntriesCons ihk ihv ih hk hv := bind_no_panic _ _ (incrementLast_no_panic _ _ _) fun o =>
    bind_np (ihk hk) fun ks' hk' => bind_np (ihv hv) fun vs' hv' =>
      ih o ks' vs' (push_npInv ext _ hk hk') (push_npInv ext _ hv hv')
  mapOpsNil _ _ := rfl
  mapOpsRefused _ _ := rfl
  mapOpsKey ihk ih hk hv := bind_no_panic _ _ (incrementLast_no_panic _ _ _) fun o =>
    bind_np (ihk hk) fun ks' hk' => ih o ks' (push_npInv ext _ hk hk') hv
  mapOpsValue ihv ih hk hv := bind_np (ihv hv) fun vs' hv' => ih vs' hk (push_npInv ext _ hv hv')

theorem push_np (ext : Ext) (he : ExtNP ext) : ∀ (x : SVal) (b : B), NPInv b → (push ext b x).isPanic = false :=
  (np_rows ext he).push

theorem pushElems_np (ext : Ext) (he : ExtNP ext) : ∀ (xs : SVals) (large : Bool) (el : B) (offs : List Int),
    NPInv el → (pushElems ext large el offs xs).isPanic = false :=
  (np_rows ext he).elems

theorem pushCountElems_np (ext : Ext) (he : ExtNP ext) : ∀ (xs : SVals) (el : B) (c : Nat),
    NPInv el → (pushCountElems ext el c xs).isPanic = false :=
  (np_rows ext he).count

theorem pushTupleElems_np (ext : Ext) (he : ExtNP ext) : ∀ (xs : SVals) (s : SS),
    SInv s → (pushTupleElems ext s xs).isPanic = false :=
  (np_rows ext he).tuple

theorem pushFields_np (ext : Ext) (he : ExtNP ext) : ∀ (fs : SFields) (s : SS),
    SInv s → (pushFields ext s fs).isPanic = false :=
  (np_rows ext he).fields

theorem pushStructEntries_np (ext : Ext) (he : ExtNP ext) : ∀ (es : SEntries) (s : SS),
    SInv s → (pushStructEntries ext s es).isPanic = false :=
  (np_rows ext he).structEntries

/-- raw key / value call streams into a struct: `next` is either the "no key" marker or a field index, whatever
the order of the calls (value without key, two keys in a row, a trailing key …) -/
theorem pushStructOps_np (ext : Ext) (he : ExtNP ext) : ∀ (ops : SMapOps) (s : SS),
    SInv s → (s.next = UNKNOWN_KEY ∨ s.next < s.fields.length) → (pushStructOps ext s ops).isPanic = false :=
  (np_rows ext he).structOps

theorem pushMapEntries_np (ext : Ext) (he : ExtNP ext) : ∀ (es : SEntries) (offs : List Int) (ks vs : B),
    NPInv ks → NPInv vs → (pushMapEntries ext offs ks vs es).isPanic = false :=
  (np_rows ext he).mapEntries

/-- raw key / value call streams into a map builder, in any order and from either state of `key_pending`
(the three refusals of a non-alternating stream are error values) -/
theorem pushMapOps_np (ext : Ext) (he : ExtNP ext) : ∀ (ops : SMapOps) (pd : Bool) (offs : List Int) (ks vs : B),
    NPInv ks → NPInv vs → (pushMapOps ext pd offs ks vs ops).isPanic = false :=
  (np_rows ext he).mapOps

end SaModel.Lemmas.C16
