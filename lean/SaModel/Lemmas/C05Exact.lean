import SaModel.Lemmas.C01Shape
/-
C05 — the documented-lossy cells of the Rust → Arrow mapping, and the proof that they are the only cells of
`Spec.interpScalar` (every leaf of `Spec.interpDT` goes through it) where the stored logical value is not the
value presented.  A *cell* is a pair (leaf kind of the column, serde scalar call).
-/
namespace SaModel.Props.C05
open SaModel SaModel.Build SaModel.Spec

/-- **The documented lossy cells** (serde_arrow/Status.md, float_builder.rs, decimal_builder.rs):
integer → float (`v as f32/f64`, chars included: they go through `u32`), float narrowing (f64 → f32, f32/f64 → f16),
and decimal columns fed from text or floats (digits beyond the declared scale are truncated). -/
def documentedLossy : LeafKind → SVal → Bool
  | .f32, .int _ _ | .f64, .int _ _ | .f32, .char _ | .f64, .char _ => true
  | .f32, .f64 _ | .f16, .f32 _ | .f16, .f64 _ => true
  | .decimal _ _, .str _ | .decimal _ _, .f32 _ | .decimal _ _, .f64 _ => true
  | _, _ => false

/-- the same on data types (`kindOf`: the leaf-kind table of `interpScalar`); string, binary and Null columns have none -/
def documentedLossyDT (dt : DataType) (x : SVal) : Bool :=
  match kindOf dt with
  | some k => documentedLossy k x
  | none => false

/-- the number a scalar call presents (a bool is 0 / 1, a char its code point) -/
def numOf : SVal → Option Int
  | .bool b => some (boolInt b)
  | .int _ v => some v
  | .char c => some (c : Int)
  | _ => none

/-- temporal text goes through the codecs (`Ext.parse…`; their exactness is C14); Time32 additionally narrows checked -/
def parseTemporal (ext : Ext) : LeafKind → String → Option (R Int)
  | .date32, s => some (ext.parseDate false s)
  | .date64, s => some (ext.parseDate true s)
  | .time32 u, s => some (do tryInto .i32 (← ext.parseTime u s))
  | .time64 u, s => some (ext.parseTime u s)
  | .timestamp u _ utc, s => some (ext.parseTimestamp u utc s)
  | .duration u, s => some (ext.parseDuration u s)
  | _, _ => none

/-- What "stored unchanged" means for the storage integer `w` of a leaf builder of kind `k` and the scalar `x`:
numbers by value, floats of the column's own width by bit pattern, f32 → f64 by the (exact) IEEE widening, temporal
text by the codec. -/
inductive StoredExact (ext : Ext) : LeafKind → SVal → Int → Prop
  | num {k x w} (h : numOf x = some w) : StoredExact ext k x w
  | f32 (b : Nat) : StoredExact ext .f32 (.f32 b) b
  | f64 (b : Nat) : StoredExact ext .f64 (.f64 b) b
  | widen (b : Nat) : StoredExact ext .f64 (.f32 b) (Float.convert Float.f32 Float.f64 b)
  | text {k s r w} (hp : parseTemporal ext k s = some r) (hr : r = .ok w) : StoredExact ext k (.str s) w

/-- every accepting cell of `convLeaf` is a documented lossy one or stores the value unchanged: along the arms of
`convLeaf` — a lossy cell contradicts `hl`, a refusal contradicts `h`, every other arm names its constructor -/
theorem convLeaf_exact (ext : Ext) (k : LeafKind) (x : SVal) (w : Int) (h : convLeaf ext k x = .ok w)
    (hl : documentedLossy k x = false) : StoredExact ext k x w := by
  unfold convLeaf at h
  split at h
  all_goals first
    | (cases hl; done)
    | (cases h; done)
    | (cases h; exact .num rfl)
    | exact .num (by rw [tryInto_ok h]; rfl)
    | (cases h; exact .f32 _)
    | (cases h; exact .f64 _)
    | (cases h; exact .widen _)
    | exact .text rfl h
    | (split at h <;> first | (cases h; done) | (cases h; exact .num rfl) | exact .num (by rw [tryInto_ok h]; rfl))

/-- What "the stored logical value is the value presented" means at the level of `interpScalar`:
* `bool`    a bool in a Boolean column;
* `int`     a number (bool as 0/1, char as code point, any integer width) in an integer-backed column: same number;
* `float`   a float in a float column of the same width: same bit pattern; f32 into Float64: the IEEE widening;
* `codec`   temporal text in a temporal column: the value the codec returns (C14);
* `text`    a scalar in a string / dictionary column: its `to_string()` — for a `str` the string itself;
* `bytes`   bytes in a binary column: the same bytes (FixedSizeBinary: of exactly the declared length);
* `unit`    a unit struct in a Null column. -/
inductive Faithful (ext : Ext) : DataType → SVal → LVal → Prop
  | bool {dt} (b : Bool) (hk : kindOf dt = some .bool) : Faithful ext dt (.bool b) (.bool b)
  | int {dt x k w} (hk : kindOf dt = some k) (hx : numOf x = some w) : Faithful ext dt x (.int w)
  | float32 (b : Nat) : Faithful ext .float32 (.f32 b) (.float b)
  | float64 (b : Nat) : Faithful ext .float64 (.f64 b) (.float b)
  | widen (b : Nat) : Faithful ext .float64 (.f32 b) (.float (Float.convert Float.f32 Float.f64 b))
  | codec {dt k s r w} (hk : kindOf dt = some k) (hp : parseTemporal ext k s = some r) (hr : r = .ok w) :
      Faithful ext dt (.str s) (.int w)
  | text {dt x s} (hd : dt = .utf8 ∨ dt = .largeUtf8 ∨ dt = .utf8View)
      (hs : scalarToString ext x = some s) : Faithful ext dt x (.str (strBytes s))
  /-- a dictionary column: the string form of the scalar, at the VALUE type of the dictionary (the string itself for
  the string types, the parsed value for `Dictionary(_, Date32)` … — `Spec.interpDictStr`) -/
  | dict {kt vt x s lv} (hs : scalarToString ext x = some s) (hv : interpDictStr ext vt s = .ok lv) :
      Faithful ext (.dictionary kt vt) x lv
  | bytes {dt} (b : Bytes) (hd : dt = .binary ∨ dt = .largeBinary ∨ dt = .binaryView ∨ dt = .fixedSizeBinary b.length) :
      Faithful ext dt (.bytes b) (.bin b)
  | unit (n : String) : Faithful ext .null (.unitStruct n) .null

/-- **the documented lossy cells are the only ones**: wherever `interpScalar` is defined outside them, the logical
value is the value presented -/
theorem interpScalar_faithful (ext : Ext) (dt : DataType) (x : SVal) (lv : LVal)
    (h : interpScalar ext dt x = .ok lv) (hl : documentedLossyDT dt x = false) : Faithful ext dt x lv := by
  cases hk : kindOf dt with
  | some k =>
    rw [interpScalar_kind hk, normErr_ok_iff] at h
    obtain ⟨w, hc, hp⟩ := R.bind_ok_inv h
    simp only [pure, Except.pure, Except.ok.injEq] at hp
    subst hp
    simp only [documentedLossyDT, hk] at hl
    have hs := convLeaf_exact ext k x w hc hl
    cases hs with
    | num hx =>
      cases k with
      | bool =>
        -- only a bool reaches a Boolean column
        cases x <;> try (cases hx; done)
        · cases hc
          simp only [leafVal, boolInt_ne_zero]
          exact .bool _ hk
        · cases hc
        · cases hc
      | f16 | f32 | f64 =>
        -- no number is stored unchanged in a float column: int / char are lossy cells, bool is refused
        cases x <;> try (cases hx; done)
        all_goals first | (cases hl; done) | (cases hc; done)
      | _ => exact .int hk hx
    | f32 b => cases dt <;> first | exact .float32 b | cases hk
    | f64 b => cases dt <;> first | exact .float64 b | cases hk
    | widen b => cases dt <;> first | exact .widen b | cases hk
    | text hp hr => cases k <;> first | exact .codec hk hp hr | cases hp
  | none =>
    cases dt <;> try (cases hk; done)
    all_goals simp only [interpScalar_eq_old, normErr_ok_iff, interpScalarOld] at h
    case utf8 | largeUtf8 | utf8View =>
      split at h
      · cases h; exact .text (by simp) (by assumption)
      · cases h
    case dictionary kt vt =>
      split at h
      · exact .dict (by assumption) h
      · cases h
    case binary | largeBinary | binaryView =>
      split at h
      · cases h; exact .bytes _ (by simp)
      · cases h
    case fixedSizeBinary n =>
      split at h
      · split at h
        · cases h; rename_i hn; exact .bytes _ (by simp [hn])
        · cases h
      · cases h
    case null =>
      split at h
      · cases h; exact .unit _
      · cases h
    all_goals (cases h)

end SaModel.Props.C05
