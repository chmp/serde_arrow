import SaModel.Lemmas.C01Shape
import SaModel.Lemmas.C01Small
/-
The scalar calls and the null against the specification.  `ScalarRow ext b x lv` is the table of what a builder stores
for a scalar call, read as a logical value (the childless families, and a dictionary of strings).  A successful call appends the row of the table (`stored_scalar`: R1
for the childless builders), and at the type the builder is built for the table IS `Spec.interpScalar` (`scalarRow_iff`,
state-free, both directions): R2 (`pushScalar_rowH`, Lemmas/C01ObsOps.lean) and completeness
(Lemmas/C01ObsCompScalar.lean) read it in one direction each.  A null: `pushNone_ok_iff` with `Shape.nullable_iff`.
-/
namespace SaModel.Build
open SaModel SaModel.Spec
open SaModel.Lemmas.C03 (ViewSmall ViewSmallL)

theorem row_unique {xs : List LVal} {ys : List LVal} {a b : LVal} (h1 : ys = xs ++ [a]) (h2 : ys = xs ++ [b]) : a = b := by
  rw [h1] at h2
  have := List.append_cancel_left h2
  simpa using this

theorem rows_unique {xs ys as bs : List LVal} (h1 : ys = xs ++ as) (h2 : ys = xs ++ bs) : as = bs := by
  rw [h1] at h2
  exact List.append_cancel_left h2

/-- a null is accepted only where the specification allows one -/
theorem pushNone_interp : ∀ (b b' : B) (dt : DataType) (n : Bool) (md : Metadata), Shape b dt n md →
    pushNone b = .ok b' → interpNull dt n md = .ok .null :=
  fun _ _ _ _ _ hs h => hs.nullable_iff.1 (pushNone_ok_iff.1 h).1

/-! ### the table of scalar calls -/

/-- the row a builder stores for a scalar call: the five childless families, and a dictionary of strings -/
inductive ScalarRow (ext : Ext) : B → SVal → LVal → Prop
  | null {p len n} : ScalarRow ext (.null p len) (.unitStruct n) .null
  | leaf {p k v vals x val} : convLeaf ext k x = .ok val → ScalarRow ext (.leaf p k v vals) x (leafVal k val)
  | bytes {p ty v offs data x bs} : ScalarBytes ext (isUtf8Ty ty) x bs →
    ScalarRow ext (.bytes p ty v offs data) x (bytesVal (isUtf8Ty ty) bs)
  | view {p ty v views buf x bs} : ScalarBytes ext (ty == .utf8View) x bs →
    ScalarRow ext (.bytesView p ty v views buf) x (bytesVal (ty == .utf8View) bs)
  | fixedSizeBinary {p n len v buf cur bs} : bs.length = n →
    ScalarRow ext (.fixedSizeBinary p n len v buf cur) (.bytes bs) (.bin bs)
  /-- a dictionary of strings shows the scalars a string column accepts, as strings -/
  | dictionary {p idx vals index x s} : scalarToString ext x = some s → vals.isUtf8B = true →
    ScalarRow ext (.dictionary p idx vals index) x (.str (strBytes s))

/-- a successful scalar call into a childless builder appends the row of the table (a view descriptor reads back the
pushed bytes: `view_value_exact`) -/
theorem stored_scalar (ext : Ext) : ScalarCases ext fun b x b' => b.isFlat = true → WFB b →
    WFB b' ∧ ∃ lv, ScalarRow ext b x lv ∧ dec b' = dec b ++ [lv] where
  null {p len n} _ _ := ⟨by simp [WFB], .null, .null, null_step p len 1⟩
  leaf {p k v vals x val v'} hc h3 _ hwf := by
    have hv : VLen v vals.length := by simpa [WFB] using hwf
    obtain ⟨rfl, _⟩ := setValidity_ok hv h3
    obtain ⟨g1, g2⟩ := leaf_step hwf true val
    rw [rowOf_true] at g2
    exact ⟨g1, _, .leaf hc, g2⟩
  bytes {p ty v offs data x bs v' o1 o2} hb h3 h5 h7 _ hwf := by
    have hv : VLen v (offs.length - 1) := by simp only [WFB] at hwf; exact hwf.2
    obtain ⟨rfl, _⟩ := setValidity_ok hv h3
    obtain ⟨l, hl, rfl⟩ := duplicateLast_ok h5
    rw [bytes_last hwf] at hl; cases hl
    have := incrementLast_snoc h7
    subst this
    obtain ⟨g1, g2⟩ := bytes_step hwf true bs
    rw [rowOf_true] at g2
    exact ⟨g1, _, .bytes hb, g2⟩
  view {p ty v views buf x bs views' buf' v'} hb hp h3 _ hwf := by
    have hv : VLen v views.length := by simp only [WFB] at hwf; exact hwf.1
    obtain ⟨rfl, _⟩ := setValidity_ok hv h3
    obtain ⟨d, extra, e, hd, hlen, hc⟩ := viewPushValue_ok hp
    cases e
    obtain ⟨g1, g2⟩ := view_step hwf true d extra hd (hlen (view_buf_lt hwf))
    rw [rowOf_true, view_value_exact hc] at g2
    exact ⟨g1, _, .view hb, g2⟩
  fixedSizeBinary {p n len v buf cur bs v'} hn h3 _ hwf := by
    have hv : VLen v len := by simp only [WFB] at hwf; exact hwf.1
    obtain ⟨rfl, _⟩ := setValidity_ok hv h3
    obtain ⟨g1, g2⟩ := fsb_step hwf true bs hn cur
    rw [rowOf_true] at g2
    exact ⟨g1, _, .fixedSizeBinary hn, g2⟩
  dictOld _ _ _ _ hf := nomatch hf
  dictNew _ _ _ _ _ _ hf := nomatch hf

/-- an integer call shows as that integer, if it shows as an integer at all (booleans and floats show as other rows) -/
theorem ScalarRow.int_inv {ext : Ext} {b : B} {t : IntTy} {v j : Int} (h : ScalarRow ext b (.int t v) (.int j)) : j = v := by
  generalize hx : SVal.int t v = x at h
  generalize hl : LVal.int j = lv at h
  cases h with
  | leaf hc => subst hx; exact convLeaf_int hc hl.symm
  | bytes | view => simp only [bytesVal] at hl; split at hl <;> cases hl
  | _ => cases hl

/-- a string call into a Utf8 / LargeUtf8 builder shows as that string -/
theorem ScalarRow.utf8_str {ext : Ext} {b : B} {s : String} {lv : LVal} (hu : b.isUtf8B = true)
    (h : ScalarRow ext b (.str s) lv) : lv = .str (strBytes s) := by
  cases h with
  | @bytes p ty _ _ _ _ bs hb =>
    have hty : isUtf8Ty ty = true := hu
    simp only [ScalarBytes, hty, if_true, scalarToString, Option.some.injEq] at hb
    obtain ⟨_, rfl, rfl⟩ := hb
    simp [bytesVal, hty]
  | _ => cases hu

/-- the row a scalar call into a childless builder appends (and, for an integer call, that an integer row shows exactly that
integer) -/
theorem pushScalar_appends_flat (ext : Ext) (b : B) (x : SVal) (b' : B) (hf : b.isFlat = true) (hw : WFB b)
    (h : pushScalar ext b x = .ok b') :
    WFB b' ∧ ∃ lv, dec b' = dec b ++ [lv] ∧ (∀ t v j, x = .int t v → lv = .int j → j = v) := by
  obtain ⟨hw', lv, hr, hd⟩ := (stored_scalar ext).scalar b x b' h hf hw
  exact ⟨hw', lv, hd, fun t v j hx hj => by subst hx hj; exact hr.int_inv⟩

theorem isFlat_of_isIntLeaf {b : B} (h : b.isIntLeaf = true) : b.isFlat = true := by
  cases b <;> simp [B.isIntLeaf] at h <;> rfl

theorem isFlat_of_isUtf8B {b : B} (h : b.isUtf8B = true) : b.isFlat = true := by
  cases b <;> simp [B.isUtf8B] at h <;> rfl

/-- a string pushed into a Utf8 / LargeUtf8 builder appends exactly that string -/
theorem pushScalar_utf8_str (ext : Ext) {vals vals' : B} {s : String} (hw : WFB vals) (hu : vals.isUtf8B = true)
    (h : pushScalar ext vals (.str s) = .ok vals') : dec vals' = dec vals ++ [.str (strBytes s)] := by
  obtain ⟨_, lv, hr, hd⟩ := (stored_scalar ext).scalar _ _ _ h (isFlat_of_isUtf8B hu) hw
  rw [hd, hr.utf8_str hu]

/-- the `u64` index a dictionary hands to its (integer leaf) key builder shows as exactly that key -/
theorem ScalarRow.intLeaf {ext : Ext} {idx : B} {i : Nat} {lv : LVal} (hil : idx.isIntLeaf = true)
    (h : ScalarRow ext idx (.int .u64 i) lv) : lv = .int i := by
  cases idx with
  | leaf p k v vals =>
    cases k with
    | int t => cases h with | leaf hc => simp only [convLeaf] at hc; cases tryInto_ok hc; rfl
    | _ => cases hil
  | _ => cases hil

theorem intLeaf_push (ext : Ext) {idx idx' : B} {i : Nat} (hil : idx.isIntLeaf = true) (hw : WFB idx)
    (h : pushScalar ext idx (.int .u64 i) = .ok idx') : dec idx' = dec idx ++ [.int i] := by
  obtain ⟨_, lv, hr, hd⟩ := (stored_scalar ext).scalar _ _ _ h (isFlat_of_isIntLeaf hil) hw
  rw [hd, hr.intLeaf hil]

/-- what the specification says of a call at a string / binary type: the bytes the builder stores -/
theorem interp_bytes_iff (ext : Ext) {dt : DataType} (utf8 : Bool)
    (hdt : ∀ x, interpScalarOld ext dt x = (if utf8 then
        match scalarToString ext x with
        | some s => .ok (.str (strBytes s))
        | none => fail "not a string"
      else match x with
        | .bytes b => .ok (.bin b)
        | _ => fail "not bytes"))
    (x : SVal) (lv : LVal) :
    interpScalar ext dt x = .ok lv ↔ ∃ bs, ScalarBytes ext utf8 x bs ∧ lv = bytesVal utf8 bs := by
  rw [interpScalar_eq_old, normErr_ok_iff, hdt]
  cases utf8
  · simp only [Bool.false_eq_true, if_false, ScalarBytes, bytesVal]
    cases x <;> simp [fail, eq_comm]
  · simp only [if_true, ScalarBytes, bytesVal]
    cases scalarToString ext x <;> simp [fail, eq_comm]

/-- **the table is the specification**: at the type a builder is built for, the rows of the table are the meanings
`Spec.interpScalar` gives (none at all at a list, map, struct or union) -/
theorem scalarRow_iff (ext : Ext) {b : B} {dt : DataType} {n : Bool} {md : Metadata} (hs : Shape b dt n md)
    (x : SVal) (lv : LVal) :
    ScalarRow ext b x lv ↔ interpScalar ext dt x = .ok lv ∧ isUnknownVariant dt md = false := by
  cases b with
  | null p len =>
    obtain ⟨rfl, h2⟩ := hs
    rw [interpScalar_eq_old, normErr_ok_iff]
    constructor
    · rintro ⟨⟩; exact ⟨rfl, h2⟩
    · rintro ⟨h, _⟩
      cases x <;> simp [interpScalarOld, fail] at h
      subst h; exact .null
  | unknownVariant p =>
    obtain ⟨rfl, h2⟩ := hs
    constructor
    · rintro ⟨⟩
    · rintro ⟨_, h⟩; rw [h2] at h; cases h
  | leaf p k v vals =>
    have hs : kindOf dt = some k ∧ _ := hs
    rw [interpScalar_kind hs.1, normErr_ok_iff]
    constructor
    · intro h; cases h with | leaf hc => exact ⟨by rw [hc]; rfl, kindOf_not_unknown hs.1 md⟩
    · rintro ⟨h, _⟩
      obtain ⟨val, hc, h2⟩ := (bind_ok _ _ _).1 h
      cases h2; exact .leaf hc
  | bytes p ty v offs data =>
    obtain ⟨rfl, _⟩ := hs
    rw [interp_bytes_iff ext (isUtf8Ty ty) (by intro x; cases ty <;> rfl)]
    constructor
    · intro h; cases h with | bytes hb => exact ⟨⟨_, hb, rfl⟩, by cases ty <;> rfl⟩
    · rintro ⟨⟨bs, hb, rfl⟩, _⟩; exact .bytes hb
  | bytesView p ty v views buf =>
    obtain ⟨rfl, _⟩ := hs
    rw [interp_bytes_iff ext (ty == .utf8View) (by intro x; cases ty <;> rfl)]
    constructor
    · intro h; cases h with | view hb => exact ⟨⟨_, hb, rfl⟩, by cases ty <;> rfl⟩
    · rintro ⟨⟨bs, hb, rfl⟩, _⟩; exact .view hb
  | fixedSizeBinary p k len v buf cur =>
    obtain ⟨rfl, _⟩ := hs
    rw [interpScalar_eq_old, normErr_ok_iff]
    constructor
    · intro h; cases h with | fixedSizeBinary hn => subst hn; simp [interpScalarOld, isUnknownVariant]
    · rintro ⟨h, _⟩
      cases x <;> simp only [interpScalarOld, fail] at h <;> try cases h
      split at h <;> cases h
      exact .fixedSizeBinary (by omega)
  | dictionary p idx vals index =>
    obtain ⟨⟨kdt, vdt, rfl, hsv⟩, _, _, hu⟩ := hs
    constructor
    · intro h; cases h with | dictionary hs' hu8 => exact ⟨by rw [interpScalar_dict_utf8 hsv hu8, hs']; rfl, rfl⟩
    · rintro ⟨hi, _⟩
      have hu8 := dict_interp_utf8 hsv hu hi
      rw [interpScalar_dict_utf8 hsv hu8, normErr_ok_iff] at hi
      cases hs' : scalarToString ext x with
      | none => rw [hs'] at hi; cases hi
      | some s => rw [hs'] at hi; cases hi; exact .dictionary hs' hu8
  | list p large fm v offs el =>
    obtain ⟨_, _, _, _, _, rfl, _⟩ := hs
    exact ⟨(nomatch ·), fun h => by have := h.1; cases large <;> simp [interpScalar_eq_old, interpScalarOld, fail] at this⟩
  | fixedSizeList p fm k len v cur el =>
    obtain ⟨_, _, _, _, _, rfl, _⟩ := hs
    exact ⟨(nomatch ·), fun h => by have := h.1; simp [interpScalar_eq_old, interpScalarOld, fail] at this⟩
  | map p mm v offs ks vs =>
    obtain ⟨_, _, _, _, _, _, _, _, _, _, _, _, _, _, rfl, _⟩ := hs
    exact ⟨(nomatch ·), fun h => by have := h.1; simp [interpScalar_eq_old, interpScalarOld, fail] at this⟩
  | struct p len v fs c nx sn =>
    obtain ⟨_, _, rfl, _⟩ := hs
    exact ⟨(nomatch ·), fun h => by have := h.1; simp [interpScalar_eq_old, interpScalarOld, fail] at this⟩
  | union p fs types offs cur =>
    obtain ⟨_, _, rfl, _⟩ := hs
    exact ⟨(nomatch ·), fun h => by have := h.1; simp [interpScalar_eq_old, interpScalarOld, fail] at this⟩

/-- the dictionaries `Shape` admits: keys in an integer leaf, values in a Utf8 / LargeUtf8 builder or in a builder that
refuses strings (every other builder: no condition) -/
def StrDict : B → Prop
  | .dictionary _ idx vals _ => idx.isIntLeaf = true ∧ (vals.isUtf8B = true ∨ vals.refusesStr = true)
  | _ => True

theorem Shape.strDict {b : B} {dt : DataType} {n : Bool} {md : Metadata} (hs : Shape b dt n md) : StrDict b := by
  cases b <;> first | trivial | exact ⟨hs.2.1, hs.2.2.2⟩

theorem StrDict.of_flat {b : B} (hf : b.isFlat = true) : StrDict b := by
  cases b <;> first | trivial | cases hf

/-- a dictionary whose value builder refuses strings refuses every scalar (its index is empty: `DictVals`) -/
theorem dict_push_refused (ext : Ext) {p : String} {idx vals : B} {index : List String} {x : SVal} {b' : B}
    (hidx : vals.refusesStr = true → index = []) (hr : vals.refusesStr = true)
    (h : pushScalar ext (.dictionary p idx vals index) x = .ok b') : False := by
  have hi := hidx hr
  subst hi
  unfold pushScalar at h
  simp only at h
  split at h
  · simp only [indexOfName, indexOfName.go] at h
    obtain ⟨vals', h1, _⟩ := (bind_ok _ _ _).1 h
    rw [ctx_eq_ok] at h1
    exact pushScalar_refusesStr ext hr h1
  · simp [notSupported, fail] at h

end SaModel.Build
