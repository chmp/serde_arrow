import SaModel.Data.DVal
import SaModel.Basic.Float
/- C02 — one row of the comparison of `Read.f16ToF32` with `Float.convert Float.f16 Float.f32`; `Lemmas/C02PresentFloat.lean` proves
every one of the 65 536 rows, by IEEE class of the pattern. -/
namespace SaModel.Props.C02
open SaModel SaModel.Read

/-- one row of the table -/
def f16Agrees (h : Nat) : Bool :=
  if Float.isNan Float.f16 h then
    Float.isNan Float.f32 (f16ToF32 (Int.ofNat h)).toNat && ((f16ToF32 (Int.ofNat h)).toNat / 2147483648 == h / 32768)
  else f16ToF32 (Int.ofNat h) == Int.ofNat (Float.convert Float.f16 Float.f32 h)

end SaModel.Props.C02
