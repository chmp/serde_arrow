import SaModel.Lemmas.C07TSort
/-
C07, tree level — from tracers to schemas: equivalent well-formed tracers give `to_field` / `to_schema` results that
are equal up to `Spec.normField` / `Spec.schemaEquiv` (children of plain structs as a set; map-mode structs are sorted
by `to_field` itself), and fail together.
-/
namespace SaModel.Lemmas.C07
open SaModel SaModel.Trace SaModel.Props.C07
open SaModel.Trace.Spec (insertField sortFields normField normType normFields normUFields normSchema schemaEquiv)

/-- equal up to the order of the children of plain structs -/
def NEq (f g : Field) : Prop := normField f = normField g

def FSim (r r' : R Field) : Prop := ∀ f, r = .ok f → ∃ g, r' = .ok g ∧ NEq f g

theorem FSim.refl (r : R Field) : FSim r r := fun f h => ⟨f, h, rfl⟩

theorem FSim.withOverwrite {o : Options} {n p : String} {k k' : Unit → R Field} (h : FSim (k ()) (k' ())) :
    FSim (withOverwrite o n p k) (withOverwrite o n p k') := by
  unfold Trace.withOverwrite
  cases o.get_overwrite p with
  | none => exact h
  | some ov => exact FSim.refl _

theorem FSim.bind1 {r r' : R Field} (F : Field → Field) (h : FSim r r') (hF : ∀ f g, NEq f g → NEq (F f) (F g)) :
    FSim (r >>= fun x => .ok (F x)) (r' >>= fun x => .ok (F x)) := by
  intro f hf
  obtain ⟨x, hr, hf⟩ := R.bind_ok_inv hf
  cases hf
  obtain ⟨y, hy, e⟩ := h x hr
  exact ⟨F y, by rw [hy]; rfl, hF x y e⟩

theorem FSim.bind2 {r1 r1' r2 r2' : R Field} (F : Field → Field → Field) (h1 : FSim r1 r1') (h2 : FSim r2 r2')
    (hF : ∀ f g f' g', NEq f g → NEq f' g' → NEq (F f f') (F g g')) :
    FSim (r1 >>= fun x => r2 >>= fun y => .ok (F x y)) (r1' >>= fun x => r2' >>= fun y => .ok (F x y)) := by
  intro f hf
  obtain ⟨x, hr, hf⟩ := R.bind_ok_inv hf
  obtain ⟨y, hs, hf⟩ := R.bind_ok_inv hf
  cases hf
  obtain ⟨x', hx', e⟩ := h1 x hr
  obtain ⟨y', hy', e'⟩ := h2 y hs
  exact ⟨F x' y', by rw [hx', hy']; rfl, hF _ _ _ _ e e'⟩

theorem normField_name (f : Field) : (normField f).name = f.name := by
  cases f; rw [normField]; rfl

theorem normFields_ofList : ∀ (l : List Field), normFields (Fields.ofList l) = l.map normField
  | [] => by simp [Fields.ofList, normFields]
  | f :: r => by simp [Fields.ofList, normFields, normFields_ofList r]

theorem normFields_toList : ∀ (F : Fields), normFields F = F.toList.map normField
  | .nil => by simp [Fields.toList, normFields]
  | .cons f r => by simp [Fields.toList, normFields, normFields_toList r]

theorem normUFields_ofList : ∀ (l : List (Int × Field)),
    normUFields (UFields.ofList l) = UFields.ofList (l.map fun x => (x.1, normField x.2))
  | [] => by simp [UFields.ofList, normUFields]
  | (i, f) :: r => by simp [UFields.ofList, normUFields, normUFields_ofList r]

/-- what both struct modes need: the children agree as sorted lists of normalised fields -/
theorem struct_NEq {n : String} {nl : Bool} {F G : List Field}
    (h : sortFields (F.map normField) = sortFields (G.map normField)) :
    NEq (.mk n (.struct (Fields.ofList F)) nl []) (.mk n (.struct (Fields.ofList G)) nl []) ∧
    NEq (.mk n (.struct (Fields.ofList (sortByName F))) nl (strategyMeta .mapAsStruct))
      (.mk n (.struct (Fields.ofList (sortByName G))) nl (strategyMeta .mapAsStruct)) := by
  constructor
  · unfold NEq
    rw [normField, normField]
    simp only [List.isEmpty, normType, normFields_ofList, if_true, h]
  · unfold NEq
    rw [normField, normField]
    have e : (strategyMeta Strategy.mapAsStruct).isEmpty = false := rfl
    simp only [e, normType, normFields_ofList, Bool.false_eq_true, if_false, sortByName_eq]
    rw [← sort_map normField normField_name, ← sort_map normField normField_name, h]

theorem tfields_spec {o : Options} : ∀ {fs : TFields} {F : List Field}, fs.to_fields o = .ok F →
    (∀ k l t, (k, l, t) ∈ fs.toList → ∃ f, t.to_field o = .ok f ∧ f ∈ F) ∧
    (∀ f ∈ F, ∃ k l t, (k, l, t) ∈ fs.toList ∧ t.to_field o = .ok f) ∧
    F.map Field.name = fs.toList.map (fun e => e.2.2.name)
  | .nil, F, h => by
    simp only [TFields.to_fields] at h; cases h
    simp [TFields.toList]
  | .cons n l t r, F, h => by
    simp only [TFields.to_fields, bind, Except.bind] at h
    cases h1 : t.to_field o with
    | error e => rw [h1] at h; cases h
    | ok f =>
      rw [h1] at h
      simp only at h
      cases h2 : r.to_fields o with
      | error e => rw [h2] at h; cases h
      | ok F' =>
        rw [h2] at h; cases h
        obtain ⟨a1, a2, a3⟩ := tfields_spec h2
        refine ⟨?_, ?_, ?_⟩
        · intro k l' t' hm
          simp only [TFields.toList, List.mem_cons, Prod.mk.injEq] at hm
          rcases hm with ⟨rfl, rfl, rfl⟩ | hm
          · exact ⟨f, h1, by simp⟩
          · obtain ⟨g, hg, hgm⟩ := a1 k l' t' hm
            exact ⟨g, hg, List.mem_cons_of_mem _ hgm⟩
        · intro g hg
          rcases List.mem_cons.mp hg with rfl | hg
          · exact ⟨n, l, t, by simp [TFields.toList], h1⟩
          · obtain ⟨k, l', t', hm, ht⟩ := a2 g hg
            exact ⟨k, l', t', by simp [TFields.toList, hm], ht⟩
        · simp only [List.map_cons, TFields.toList, a3, C06.to_field_name h1]

theorem tfields_mk {o : Options} : ∀ {fs : TFields}, (∀ k l t, (k, l, t) ∈ fs.toList → ∃ f, t.to_field o = .ok f) →
    ∃ F, fs.to_fields o = .ok F
  | .nil, _ => ⟨[], rfl⟩
  | .cons n l t r, h => by
    obtain ⟨f, hf⟩ := h n l t (by simp [TFields.toList])
    obtain ⟨F, hF⟩ := tfields_mk (fs := r) fun k l' t' hm => h k l' t' (by simp [TFields.toList, hm])
    exact ⟨f :: F, by simp only [TFields.to_fields, bind, Except.bind, hf, hF]⟩

theorem names_of_FWF {o : Options} {s : Nat} : ∀ {fs : TFields}, FWF o s fs →
    fs.toList.map (fun e => e.2.2.name) = fs.names
  | .nil, _ => rfl
  | .cons n l t r, h => by
    rw [FWF] at h
    simp only [TFields.toList, List.map_cons, TFields.names, h.2.2.1, names_of_FWF h.2.2.2.2]

theorem to_fields_nodup {o : Options} {s : Nat} {fs : TFields} {F : List Field} (hw : FWF o s fs)
    (hF : fs.to_fields o = .ok F) : ((F.map normField).map Field.name).Nodup := by
  rw [List.map_map, show (Field.name ∘ normField) = Field.name from funext normField_name, (tfields_spec hF).2.2,
    names_of_FWF hw]
  exact FWF_nodup hw

/-- entries of `A` have partners in `B` whose `to_field` follows -/
def FSR (o : Options) (A B : TFields) : Prop :=
  ∀ k l t, (k, l, t) ∈ A.toList → ∃ l' t', B.find k = some (l', t') ∧ FSim (t.to_field o) (t'.to_field o)

/-- Two struct nodes with the same keys: every entry of `B` is the partner of an entry of `A` (names are distinct), so
`B.to_fields` succeeds when `A.to_fields` does, with the same fields up to `NEq` as a set. -/
theorem struct_side {o : Options} {s s' : Nat} {A B : TFields} (hA : FWF o s A) (hB : FWF o s' B)
    (hk : ∀ k, (A.find k).isSome = (B.find k).isSome) (h : FSR o A B) {F : List Field} (hF : A.to_fields o = .ok F) :
    ∃ G, B.to_fields o = .ok G ∧ sortFields (F.map normField) = sortFields (G.map normField) := by
  obtain ⟨a1, a2, _⟩ := tfields_spec hF
  have back : ∀ k l' t', (k, l', t') ∈ B.toList → ∃ f g, f ∈ F ∧ t'.to_field o = .ok g ∧ NEq f g := by
    intro k l' t' hm
    have hb := (mem_find hB hm).1
    have hs := hk k
    rw [hb] at hs
    cases ha : A.find k with
    | none => rw [ha] at hs; cases hs
    | some lt =>
      obtain ⟨l, t⟩ := lt
      obtain ⟨l'', t'', hb', hr⟩ := h k l t (find_mem ha)
      rw [hb] at hb'; cases hb'
      obtain ⟨f, hf, hfm⟩ := a1 k l t (find_mem ha)
      obtain ⟨g, hg, e⟩ := hr f hf
      exact ⟨f, g, hfm, hg, e⟩
  obtain ⟨G, hG⟩ := tfields_mk (o := o) (fs := B) fun k l' t' hm =>
    let ⟨_, g, _, hg, _⟩ := back k l' t' hm; ⟨g, hg⟩
  obtain ⟨b1, b2, _⟩ := tfields_spec hG
  refine ⟨G, hG, sort_ext (to_fields_nodup hA hF) (to_fields_nodup hB hG) ?_⟩
  intro x
  simp only [List.mem_map]
  constructor
  · rintro ⟨f, hf, rfl⟩
    obtain ⟨k, l, t, hm, ht⟩ := a2 f hf
    obtain ⟨l', t', hfind, hr⟩ := h k l t hm
    obtain ⟨g, hg, e⟩ := hr f ht
    obtain ⟨g', hg', hgm⟩ := b1 k l' t' (find_mem hfind)
    rw [hg] at hg'; cases hg'
    exact ⟨g, hgm, e.symm⟩
  · rintro ⟨g, hg, rfl⟩
    obtain ⟨k, l', t', hm, ht⟩ := b2 g hg
    obtain ⟨f, g', hfm, hg', e⟩ := back k l' t' hm
    rw [ht] at hg'; cases hg'
    exact ⟨f, hfm, e⟩

def LRel (r r' : R (List Field)) : Prop :=
  (∀ F, r = .ok F → ∃ G, r' = .ok G ∧ F.map normField = G.map normField) ∧
  (∀ G, r' = .ok G → ∃ F, r = .ok F ∧ F.map normField = G.map normField)

def URel (r r' : R (List (Int × Field))) : Prop :=
  (∀ F, r = .ok F → ∃ G, r' = .ok G ∧ F.map (fun x => (x.1, normField x.2)) = G.map (fun x => (x.1, normField x.2))) ∧
  (∀ G, r' = .ok G → ∃ F, r = .ok F ∧ F.map (fun x => (x.1, normField x.2)) = G.map (fun x => (x.1, normField x.2)))

theorem VEq_without_data : ∀ {A B : Variants}, VEq A B → B.is_without_data = A.is_without_data
  | .nil, B, h => by rw [VEq] at h; subst h; rfl
  | .absent r, B, h => by rw [VEq] at h; obtain ⟨r', rfl, _⟩ := h; rfl
  | .present _ t r, B, h => by
    rw [VEq] at h; obtain ⟨t', r', rfl, h1, h2⟩ := h
    simp only [Variants.is_without_data, is_null_variant, (TEq_top h1).2.2.2, VEq_without_data h2]

/-! ### `to_field` of equivalent tracers

One direction: when `a.to_field` succeeds, so does `b.to_field` for `TEq a b`; the other direction is the same statement
for `TEq b a`. -/

mutual
theorem tf_sim (o : Options) : ∀ (a b : Tracer), TEq a b → WF o a → WF o b → FSim (a.to_field o) (b.to_field o)
  | .unknown _ _ _, b, h, _, _ => by rw [TEq] at h; subst h; exact FSim.refl _
  | .primitive _ _ _ _ _, b, h, _, _ => by rw [TEq] at h; subst h; exact FSim.refl _
  | .list n p nl i, b, h, hw, hw' => by
    rw [TEq] at h; obtain ⟨i', rfl, e⟩ := h
    rw [WF] at hw hw'
    simp only [Tracer.to_field]
    refine FSim.withOverwrite (FSim.bind1
      (fun item => Field.mk n (if o.sequence_as_large_list then .largeList item else .list item) nl [])
      (tf_sim o i i' e hw hw') ?_)
    intro f g e
    unfold NEq at e ⊢
    rw [normField, normField]
    split <;> simp only [normType, e]
  | .map n p nl k v, b, h, hw, hw' => by
    rw [TEq] at h; obtain ⟨k', v', rfl, e, e'⟩ := h
    rw [WF] at hw hw'
    simp only [Tracer.to_field]
    refine FSim.withOverwrite (FSim.bind2
      (fun kf vf => Field.mk n (.map (Field.mk "entries" (.struct (Fields.ofList [kf, vf])) false []) false) nl [])
      (tf_sim o k k' e hw.1 hw'.1) (tf_sim o v v' e' hw.2 hw'.2) ?_)
    intro f g f' g' e e'
    unfold NEq at e e' ⊢
    rw [normField, normField]
    simp only [normType]
    rw [normField, normField]
    simp only [List.isEmpty, normType, normFields_ofList, if_true, List.map_cons, List.map_nil, e, e']
  | .struct n p nl fs m s, b, h, hw, hw' => by
    rw [TEq] at h; obtain ⟨fs', s', rfl, _, hk, hsub⟩ := h
    rw [WF] at hw hw'
    have hsr : FSR o fs fs' := fs_sim o fs fs' fun k l t hm =>
      let ⟨l', t', hf', he⟩ := FSub_mem hsub hm
      ⟨l', t', hf', he, (mem_find hw hm).2.2.1, (find_wf hw' hf').2⟩
    simp only [Tracer.to_field]
    refine FSim.withOverwrite fun f hf => ?_
    obtain ⟨F, hF, hf⟩ := R.bind_ok_inv hf
    obtain ⟨G, hG, hs⟩ := struct_side hw hw' hk hsr hF
    cases m <;> simp only at hf <;> cases hf
    · exact ⟨_, by rw [hG]; rfl, (struct_NEq hs).1⟩
    · exact ⟨_, by rw [hG]; rfl, (struct_NEq hs).2⟩
  | .tuple n p nl ts, b, h, hw, hw' => by
    rw [TEq] at h; obtain ⟨ts', rfl, e⟩ := h
    rw [WF] at hw hw'
    simp only [Tracer.to_field]
    refine FSim.withOverwrite fun f hf => ?_
    obtain ⟨F, hF, hf⟩ := R.bind_ok_inv hf
    cases hf
    obtain ⟨G, hG, e'⟩ := ts_sim o ts ts' e hw hw' F hF
    refine ⟨_, by rw [hG]; rfl, ?_⟩
    unfold NEq
    rw [normField, normField]
    have e0 : (strategyMeta Strategy.tupleAsStruct).isEmpty = false := rfl
    simp only [e0, normType, normFields_ofList, Bool.false_eq_true, if_false, e']
  | .union n p nl vs, b, h, hw, hw' => by
    rw [TEq] at h; obtain ⟨vs', rfl, e⟩ := h
    rw [WF] at hw hw'
    simp only [Tracer.to_field]
    refine FSim.withOverwrite ?_
    rw [VEq_without_data e]
    split
    · exact FSim.refl _
    · split
      · exact FSim.refl _
      · intro f hf
        obtain ⟨F, hF, hf⟩ := R.bind_ok_inv hf
        cases hf
        obtain ⟨G, hG, e'⟩ := vs_sim o vs vs' 0 e hw hw' F hF
        refine ⟨_, by rw [hG]; rfl, ?_⟩
        unfold NEq
        rw [normField, normField]
        simp only [normType, normUFields_ofList, e']
termination_by structural a => a
theorem fs_sim (o : Options) : ∀ (sub big : TFields),
    (∀ k l t, (k, l, t) ∈ sub.toList → ∃ l' t', big.find k = some (l', t') ∧ TEq t t' ∧ WF o t ∧ WF o t') →
    FSR o sub big
  | .nil, _, _ => by intro k l t hm; simp [TFields.toList] at hm
  | .cons n l0 t0 r, big, h => by
    obtain ⟨l', t', hf, e, w1, w2⟩ := h n l0 t0 (by simp [TFields.toList])
    have h0 := tf_sim o t0 t' e w1 w2
    have hr := fs_sim o r big fun k l t hm => h k l t (by simp [TFields.toList, hm])
    intro k l t hm
    simp only [TFields.toList, List.mem_cons, Prod.mk.injEq] at hm
    rcases hm with ⟨rfl, rfl, rfl⟩ | hm
    · exact ⟨l', t', hf, h0⟩
    · exact hr k l t hm
termination_by structural sub => sub
theorem ts_sim (o : Options) : ∀ (a b : Tracers), TsEq a b → TsWF o a → TsWF o b →
    ∀ F, a.to_fields o = .ok F → ∃ G, b.to_fields o = .ok G ∧ F.map normField = G.map normField
  | .nil, b, h, _, _ => by rw [TsEq] at h; subst h; exact fun F hF => ⟨F, hF, rfl⟩
  | .cons t r, b, h, hw, hw' => by
    rw [TsEq] at h; obtain ⟨t', r', rfl, e, e'⟩ := h
    rw [TsWF] at hw hw'
    intro F hF
    simp only [Tracers.to_fields] at hF ⊢
    obtain ⟨f, h3, hF⟩ := R.bind_ok_inv hF
    obtain ⟨F', h4, hF⟩ := R.bind_ok_inv hF
    cases hF
    obtain ⟨g, hg, eg⟩ := tf_sim o t t' e hw.1 hw'.1 f h3
    obtain ⟨G', hG', eG⟩ := ts_sim o r r' e' hw.2 hw'.2 F' h4
    exact ⟨g :: G', by rw [hg, hG']; rfl, by simp only [List.map_cons, eG, show normField f = normField g from eg]⟩
termination_by structural a => a
theorem vs_sim (o : Options) : ∀ (a b : Variants) (idx : Nat), VEq a b → VWF o a → VWF o b →
    ∀ F, a.to_fields o idx = .ok F → ∃ G, b.to_fields o idx = .ok G ∧
      F.map (fun x => (x.1, normField x.2)) = G.map (fun x => (x.1, normField x.2))
  | .nil, b, idx, h, _, _ => by rw [VEq] at h; subst h; exact fun F hF => ⟨F, hF, rfl⟩
  | .absent r, b, idx, h, hw, hw' => by
    rw [VEq] at h; obtain ⟨r', rfl, e⟩ := h
    rw [VWF] at hw hw'
    intro F hF
    simp only [Variants.to_fields, bind, Except.bind] at hF ⊢
    split at hF
    · simp [fail] at hF
    · rename_i hi
      rw [if_neg hi]
      try simp only [pure, Except.pure] at hF ⊢
      cases h4 : r.to_fields o (idx + 1) with
      | error e => rw [h4] at hF; cases hF
      | ok F' =>
        rw [h4] at hF; cases hF
        obtain ⟨G', hG', e'⟩ := vs_sim o r r' (idx + 1) e hw hw' F' h4
        rw [hG']
        exact ⟨_, rfl, by simp only [List.map_cons, e']⟩
  | .present nm t r, b, idx, h, hw, hw' => by
    rw [VEq] at h; obtain ⟨t', r', rfl, e, e'⟩ := h
    rw [VWF] at hw hw'
    intro F hF
    simp only [Variants.to_fields, bind, Except.bind] at hF ⊢
    split at hF
    · simp [fail] at hF
    · rename_i hi
      rw [if_neg hi]
      try simp only [pure, Except.pure] at hF ⊢
      cases h3 : t.to_field o with
      | error e => rw [h3] at hF; cases hF
      | ok f =>
        rw [h3] at hF
        cases h4 : r.to_fields o (idx + 1) with
        | error e => rw [h4] at hF; cases hF
        | ok F' =>
          rw [h4] at hF; cases hF
          obtain ⟨g, hg, eg⟩ := tf_sim o t t' e hw.1 hw'.1 f h3
          obtain ⟨G', hG', eG⟩ := vs_sim o r r' (idx + 1) e' hw.2 hw'.2 F' h4
          rw [hg, hG']
          exact ⟨_, rfl, by simp only [List.map_cons, eG, show normField f = normField g from eg]⟩
termination_by structural a => a
end

theorem ts_eqv (o : Options) : ∀ (a b : Tracers), TsEq a b → TsEq b a → TsWF o a → TsWF o b →
    LRel (a.to_fields o) (b.to_fields o) :=
  fun a b h1 h2 hw hw' => ⟨ts_sim o a b h1 hw hw', fun G hG =>
    let ⟨F, hF, e⟩ := ts_sim o b a h2 hw' hw G hG; ⟨F, hF, e.symm⟩⟩

theorem vs_eqv (o : Options) : ∀ (a b : Variants) (idx : Nat), VEq a b → VEq b a → VWF o a → VWF o b →
    URel (a.to_fields o idx) (b.to_fields o idx) :=
  fun a b idx h1 h2 hw hw' => ⟨vs_sim o a b idx h1 hw hw', fun G hG =>
    let ⟨F, hF, e⟩ := vs_sim o b a idx h2 hw' hw G hG; ⟨F, hF, e.symm⟩⟩

/-! ### `to_schema` of equivalent tracers: `Spec.schemaEquiv` schemas, or both fail. -/

/-- outcomes of schema tracing agree: both succeed with `Spec.schemaEquiv` schemas, or both fail -/
def SchemaOutEq (r r' : R (List Field)) : Prop :=
  (∃ s s', r = .ok s ∧ r' = .ok s' ∧ schemaEquiv s s' = true) ∨ (r.isOk = false ∧ r'.isOk = false)

theorem normType_struct {p : Bool} {dt : DataType} {X : Fields} (h : normType p dt = .struct X) : ∃ G, dt = .struct G := by
  cases dt <;> simp [normType] at h
  exact ⟨_, rfl⟩

theorem ofList_inj {l l' : List Field} (h : Fields.ofList l = Fields.ofList l') : l = l' := by
  have := congrArg Fields.toList h
  simpa using this

theorem schema_side {o : Options} {a b : Tracer} (h : FSim (a.to_field o) (b.to_field o)) {s : List Field}
    (hs : a.to_schema o = .ok s) : ∃ s', b.to_schema o = .ok s' ∧ schemaEquiv s s' = true := by
  obtain ⟨n, F, md, hf, rfl⟩ := C06.to_schema_ok_iff.mp hs
  obtain ⟨g, hg, e⟩ := h _ hf
  obtain ⟨n', dt', nl', md'⟩ := g
  unfold NEq at e
  rw [normField, normField] at e
  simp only [Field.mk.injEq] at e
  obtain ⟨rfl, e2, rfl, rfl⟩ := e
  have : ∃ G, dt' = .struct G := by
    cases hp : md.isEmpty <;> rw [hp] at e2 <;> simp only [normType] at e2
    · exact normType_struct e2.symm
    · exact normType_struct e2.symm
  obtain ⟨G, rfl⟩ := this
  refine ⟨G.toList, C06.to_schema_ok_iff.mpr ⟨n, G, md, hg, rfl⟩, ?_⟩
  unfold schemaEquiv normSchema
  simp only [decide_eq_true_eq]
  rw [← normFields_toList, ← normFields_toList]
  cases hp : md.isEmpty <;> rw [hp] at e2 <;> simp only [normType, Bool.false_eq_true, if_false, if_true,
    DataType.struct.injEq] at e2
  · rw [ofList_inj e2]
  · exact ofList_inj e2

theorem schema_out {o : Options} {a b : Tracer} (he : Eqv a b) (hw : WF o a) (hw' : WF o b) :
    SchemaOutEq (a.to_schema o) (b.to_schema o) := by
  cases hs : a.to_schema o with
  | ok s =>
    obtain ⟨s', hs', e⟩ := schema_side (tf_sim o a b he.1 hw hw') hs
    exact .inl ⟨s, s', rfl, hs', e⟩
  | error e =>
    cases hs' : b.to_schema o with
    | ok s' =>
      obtain ⟨s, hs2, _⟩ := schema_side (tf_sim o b a he.2 hw' hw) hs'
      rw [hs] at hs2; cases hs2
    | error e' => exact .inr ⟨rfl, rfl⟩

theorem fromSamples_eq (c : Code) (o : Options) (xs : List SVal) :
    fromSamples c o xs = match fromSamplesTracer c o xs with
      | .ok t => t.to_schema o
      | .error e => .error e := by
  unfold fromSamples
  simp only [bind, Except.bind]
  cases fromSamplesTracer c o xs <;> rfl

theorem schema_of_tracers {o : Options} {xs ys : List SVal}
    (h : OutEqv o (fromSamplesTracer .fixed o xs) (fromSamplesTracer .fixed o ys)) :
    SchemaOutEq (fromSamples .fixed o xs) (fromSamples .fixed o ys) := by
  rw [fromSamples_eq, fromSamples_eq]
  rcases h with ⟨a, b, h1, h2, he, hwa, hwb⟩ | ⟨h1, h2⟩
  · rw [h1, h2]; exact schema_out he hwa hwb
  · cases h3 : fromSamplesTracer .fixed o xs with
    | ok _ => rw [h3] at h1; cases h1
    | error _ =>
      cases h4 : fromSamplesTracer .fixed o ys with
      | ok _ => rw [h4] at h2; cases h2
      | error _ => exact .inr ⟨rfl, rfl⟩

end SaModel.Lemmas.C07
