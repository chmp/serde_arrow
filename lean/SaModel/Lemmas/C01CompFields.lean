import SaModel.Lemmas.C01CompComb
/-
Completeness, the record disciplines: the invariant relating the unprocessed part of a record presentation
(specification side: the candidates `collect` still gathers per schema field) to the `seen` flags of the struct
builder, and one step of a field loop.
-/
namespace SaModel.Build
open SaModel SaModel.Spec

/-- name-keyed disciplines: what the rest of the presentation still gathers for field `j`: nothing more if `j` has
been seen, otherwise something `pickOne` accepts -/
def PendN (collect : Field → R (List LVal)) (seen : List Bool) (sfs : Fields) : Prop :=
  ∀ (j : Nat) f, sfs.toList[j]? = some f → ∃ found, collect f = .ok found ∧
    (seen.getD j false = true → found = []) ∧
    (seen.getD j false = false → ∃ lv, pickOne f.name f.nullable f.dataType f.metadata found = .ok lv)

theorem getD_replicate_false (n j : Nat) : (List.replicate n false).getD j false = false := by
  simp only [List.getD_eq_getElem?_getD, List.getElem?_replicate]
  split <;> rfl

theorem PendN.fresh {collect : Field → R (List LVal)} {sfs : Fields} {k : Nat}
    (h : ∀ (j : Nat) f, sfs.toList[j]? = some f → ∃ found lv, collect f = .ok found ∧
      pickOne f.name f.nullable f.dataType f.metadata found = .ok lv) : PendN collect (List.replicate k false) sfs := by
  intro j f hj
  obtain ⟨found, lv, h1, h2⟩ := h j f hj
  refine ⟨found, h1, ?_, fun _ => ⟨lv, h2⟩⟩
  rw [getD_replicate_false]; intro h; cases h

theorem PendN.endOK {collect : Field → R (List LVal)} {seen : List Bool} {sfs : Fields}
    (h : PendN collect seen sfs) (hnil : ∀ f, collect f = .ok []) : EndOK seen sfs := by
  intro j f hj
  obtain ⟨found, h1, _, h3⟩ := h j f hj
  rw [hnil f] at h1; cases h1
  cases hs : seen.getD j false with
  | true => exact Or.inl rfl
  | false =>
    obtain ⟨lv, hlv⟩ := h3 hs
    obtain ⟨hn, hi⟩ := pickOne_nil_inv hlv
    exact Or.inr ⟨hn, lv, hi⟩

theorem PendN.congr {c1 c2 : Field → R (List LVal)} {seen : List Bool} {sfs : Fields}
    (h : PendN c1 seen sfs) (he : ∀ (j : Nat) f, sfs.toList[j]? = some f → c1 f = c2 f) : PendN c2 seen sfs := by
  intro j f hj
  obtain ⟨found, h1, h2, h3⟩ := h j f hj
  exact ⟨found, by rw [← he j f hj]; exact h1, h2, h3⟩

theorem PendN.hit {c1 c2 : Field → R (List LVal)} {seen : List Bool} {sfs : Fields} {idx : Nat} {fi : Field}
    {P : LVal → Prop}
    (hp : PendN c1 seen sfs) (hidx : sfs.toList[idx]? = some fi) (hlt : idx < seen.length)
    (hother : ∀ (j : Nat) f, sfs.toList[j]? = some f → j ≠ idx → c1 f = c2 f)
    (hhit : ∀ found, c1 fi = .ok found → ∃ lv vs, c2 fi = .ok vs ∧ P lv ∧ found = lv :: vs) :
    seen[idx]? = some false ∧ (∃ lv, P lv) ∧ PendN c2 (seen.set idx true) sfs := by
  obtain ⟨found, h1, h2, h3⟩ := hp idx fi hidx
  obtain ⟨lv, vs, hc2, hP, rfl⟩ := hhit found h1
  have hs : seen.getD idx false = false := by
    cases hs : seen.getD idx false with
    | false => rfl
    | true => cases h2 hs
  obtain ⟨lv', hpick⟩ := h3 hs
  have hvs := pickOne_cons_inv hpick
  subst hvs
  refine ⟨?_, ⟨lv, hP⟩, ?_⟩
  · rw [List.getD_eq_getElem?_getD, List.getElem?_eq_getElem hlt] at hs
    rw [List.getElem?_eq_getElem hlt]
    simpa using hs
  · intro j f hj
    by_cases hji : j = idx
    · subst hji
      rw [hidx] at hj; cases hj
      exact ⟨[], hc2, fun _ => rfl, by rw [getD_set _ _ _ _ _ hlt, if_pos rfl]; intro h; cases h⟩
    · obtain ⟨found', g1, g2, g3⟩ := hp j f hj
      refine ⟨found', by rw [← hother j f hj hji]; exact g1, ?_, ?_⟩
      · rw [getD_set _ _ _ _ _ hlt, if_neg (Ne.symm hji)]; exact g2
      · rw [getD_set _ _ _ _ _ hlt, if_neg (Ne.symm hji)]; exact g3

/-! ### positional records -/

def PendT (ext : Ext) (xs : SVals) (k : Nat) (seen : List Bool) (sfs : Fields) : Prop :=
  ∀ (j : Nat) f, sfs.toList[j]? = some f → (j < k → seen.getD j false = true) ∧
    (k ≤ j → seen.getD j false = false ∧ ∃ found lv,
      interpNth ext f.dataType f.nullable f.metadata (j - k) xs = .ok found ∧
      pickOne f.name f.nullable f.dataType f.metadata found = .ok lv)

theorem PendT.endOK {ext : Ext} {k : Nat} {seen : List Bool} {sfs : Fields} (h : PendT ext .nil k seen sfs) :
    EndOK seen sfs := by
  intro j f hj
  obtain ⟨h1, h2⟩ := h j f hj
  rcases Nat.lt_or_ge j k with hlt | hge
  · exact Or.inl (h1 hlt)
  · obtain ⟨_, found, lv, hf, hp⟩ := h2 hge
    simp only [interpNth] at hf; cases hf
    obtain ⟨hn, hi⟩ := pickOne_nil_inv hp
    exact Or.inr ⟨hn, lv, hi⟩

theorem PendT.skip {ext : Ext} {x : SVal} {rest : SVals} {k : Nat} {seen : List Bool} {sfs : Fields}
    (h : PendT ext (.cons x rest) k seen sfs) (hk : sfs.toList.length ≤ k) : PendT ext rest k seen sfs := by
  intro j f hj
  have hjlt : j < sfs.toList.length := by
    rcases Nat.lt_or_ge j sfs.toList.length with h | h
    · exact h
    · rw [List.getElem?_eq_none_iff.mpr h] at hj; cases hj
  exact ⟨(h j f hj).1, fun hle => absurd hjlt (by omega)⟩

theorem PendT.hit {ext : Ext} {x : SVal} {rest : SVals} {k : Nat} {seen : List Bool} {sfs : Fields} {fk : Field}
    (h : PendT ext (.cons x rest) k seen sfs) (hk : sfs.toList[k]? = some fk) (hlt : k < seen.length) :
    seen[k]? = some false ∧ (∃ lv, interpDT ext fk.dataType fk.nullable fk.metadata x = .ok lv) ∧
      PendT ext rest (k + 1) (seen.set k true) sfs := by
  obtain ⟨_, h2⟩ := h k fk hk
  obtain ⟨hs, found, lv, hf, _⟩ := h2 (Nat.le_refl _)
  simp only [Nat.sub_self, interpNth] at hf
  obtain ⟨lv0, hlv0, _⟩ := (bind_ok _ _ _).1 hf
  refine ⟨?_, ⟨lv0, hlv0⟩, ?_⟩
  · rw [List.getD_eq_getElem?_getD, List.getElem?_eq_getElem hlt] at hs
    rw [List.getElem?_eq_getElem hlt]
    simpa using hs
  · intro j f hj
    obtain ⟨g1, g2⟩ := h j f hj
    refine ⟨?_, ?_⟩
    · intro hjk
      rw [getD_set _ _ _ _ _ hlt]
      by_cases e : k = j
      · rw [if_pos e]
      · rw [if_neg e]; exact g1 (by omega)
    · intro hjk
      obtain ⟨gs, found', lv', gf, gp⟩ := g2 (by omega)
      rw [getD_set _ _ _ _ _ hlt, if_neg (by omega)]
      refine ⟨gs, found', lv', ?_, gp⟩
      have e : j - k = (j - (k + 1)) + 1 := by omega
      rw [e] at gf
      simpa only [interpNth] using gf

theorem PendT.fresh {ext : Ext} {xs : SVals} {sfs : Fields} {n : Nat} (hnd : (sfs.toList.map Field.name).Nodup)
    (h : ∀ (j : Nat) f, sfs.toList[j]? = some f → ∃ found lv,
      interpNth ext f.dataType f.nullable f.metadata (indexOfName (sfs.toList.map Field.name) f.name |>.getD 0) xs = .ok found ∧
      pickOne f.name f.nullable f.dataType f.metadata found = .ok lv) : PendT ext xs 0 (List.replicate n false) sfs := by
  intro j f hj
  refine ⟨fun h => absurd h (by omega), fun _ => ⟨getD_replicate_false _ _, ?_⟩⟩
  obtain ⟨found, lv, h1, h2⟩ := h j f hj
  have : indexOfName (sfs.toList.map Field.name) f.name = some j :=
    SaModel.Props.C11Front.indexOfName_of_get _ hnd f.name j (by simp [hj])
  rw [this] at h1
  exact ⟨found, lv, by simpa using h1, h2⟩

end SaModel.Build
