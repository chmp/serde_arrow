import SaModel.Lemmas.C18Blame
import SaModel.Lemmas.C01Comp
import SaModel.Lemmas.C01ObsComp
/-
C18, blame against the specification: the non-recursive parts (one successful push, nulls, list / fixed-size list
rows), with the element loops as hypotheses.
-/
namespace SaModel.Props.C18
open SaModel SaModel.Build SaModel.Spec

/-- one successful push: the invariants survive and the head room shrinks by at most the size of the value
(soundness R2 + completeness, used as black boxes) -/
theorem push_step {ext : Ext} {x : SVal} {b b' : B} {dt n md} (hg : GoodH b dt n md) (hraw : noRaw x = true)
    (hcap : vsize ext x ≤ room b) (h : push ext b x = .ok b') : GoodH b' dt n md ∧ room b ≤ room b' + vsize ext x := by
  refine ⟨hg.push hraw h, ?_⟩
  obtain ⟨_, _, _, lv, _, hlv⟩ := C01.push_interp' ext x b b' dt n md (noRaw_ssa x hraw) (Or.inl hraw) hg.wf hg.nd hg.shape h
  obtain ⟨b'', h2, hr⟩ := Build.push_completeH ext x hraw b dt n md lv hg hcap hlv
  rw [h] at h2; cases h2; exact hr

theorem bl_of_interp_ok {ext : Ext} {x : SVal} {b : B} {dt n md} {S : List String} (hg : GoodH b dt n md)
    (hraw : noRaw x = true) (hcap : vsize ext x ≤ room b) (hi : (interpDT ext dt n md x).isOk = true) :
    Bl S (push ext b x) := by
  cases hlv : interpDT ext dt n md x with
  | error e => rw [hlv] at hi; cases hi
  | ok lv =>
    obtain ⟨b', h, _⟩ := Build.push_completeH ext x hraw b dt n md lv hg hcap hlv
    exact Bl.of_eq_ok h

theorem not_isOk_false {α} {r : R α} (h : ¬ r.isOk = true) : r.isOk = false := by
  cases hh : r.isOk <;> simp_all

theorem GoodH.list_el {p large fm v offs el dt n md cname cdt cn cmd}
    (hg : GoodH (.list p large fm v offs el) dt n md)
    (hdt : dt = (if large then .largeList (.mk cname cdt cn cmd) else .list (.mk cname cdt cn cmd)))
    (hsel : Shape el cdt cn cmd) : GoodH el cdt cn cmd := by
  have hw := hg.wf
  simp only [WFH] at hw
  have hsafe := hg.nd
  simp only [NoDictKey] at hsafe
  have ht := hg.tot
  subst hdt
  exact ⟨hw.2.2, hsafe, hsel, by cases large <;> simpa [total, totalF] using ht⟩

theorem list_child {p large fm v offs el path dt n md} (hg : GoodH (.list p large fm v offs el) dt n md)
    (ha : At path dt n md (.list p large fm v offs el)) :
    ∃ cname cdt cn cmd, (dt = .list (.mk cname cdt cn cmd) ∨ dt = .largeList (.mk cname cdt cn cmd)) ∧
      GoodH el cdt cn cmd ∧ At (path ++ "." ++ childName cname) cdt cn cmd el := by
  have hsh := hg.shape
  simp only [Shape] at hsh
  obtain ⟨_, cname, cdt, cn, cmd, hdt, hsel⟩ := hsh
  refine ⟨cname, cdt, cn, cmd, ?_, GoodH.list_el hg hdt hsel, ?_⟩ <;> cases large <;>
    simp only [Bool.false_eq_true, if_false, if_true] at hdt <;> subst hdt
  · exact .inl rfl
  · exact .inr rfl
  · exact At.list (.inl ha)
  · exact At.list (.inr ha)

theorem At.dictionary_paths {path kdt vdt n md p idx vals index}
    (h : At path (.dictionary kdt vdt) n md (.dictionary p idx vals index)) :
    idx.path = path ++ ".key" ∧ vals.path = path ++ ".value" := by
  obtain ⟨b0, h0, ht⟩ := h
  simp only [newDT] at h0
  split at h0
  case isFalse => simp [SaModel.ctx, SaModel.fail] at h0
  obtain ⟨kb, hkb, h0⟩ := (Build.bind_ok _ _ _).1 h0
  obtain ⟨vb, hvb, h0⟩ := (Build.bind_ok _ _ _).1 h0
  cases h0
  simp only [takeRest, B.dictionary.injEq] at ht
  exact ⟨by rw [← path_takeRest idx, ht.2.1, path_takeRest, newDT_path' _ _ _ _ _ hkb],
    by rw [← path_takeRest vals, ht.2.2.1, path_takeRest, newDT_path' _ _ _ _ _ hvb]⟩

theorem At.dictionary_key {path kdt vdt n md p idx vals index}
    (h : At path (.dictionary kdt vdt) n md (.dictionary p idx vals index)) : idx.path = path ++ ".key" :=
  h.dictionary_paths.1

theorem setValidity_false_some {v : Validity} {i : Nat} {v' : Validity} (h : setValidity v i false = .ok v') :
    v.isSome = true := by
  cases v with
  | none => simp [setValidity, SaModel.fail] at h
  | some _ => rfl

/-- a null has a meaning exactly where the builder is nullable (`Shape.nullable_iff`), and then it is accepted
(completeness, as a black box); a builder that is not nullable refuses it in its own first step, before any child -/
theorem pushNone_bl {b : B} {path dt n md} (hg : GoodH b dt n md) (ha : At path dt n md b) (hcap : 1 ≤ room b) :
    Bl [path] (pushNone b) := by
  by_cases hn : b.isNullable = true
  · obtain ⟨b', h, _⟩ := Build.pushNone_completeH b dt n md .null hg.wf hg.shape hg.tot (hg.shape.nullable_iff.1 hn) hcap
    exact Bl.of_eq_ok h
  · have hself : b.path ∈ [path] := by rw [ha.path]; exact List.mem_singleton.2 rfl
    cases b with
    | null p len => exact Bl.of_ok _
    | unknownVariant _ | leaf _ _ _ _ | bytes _ _ _ _ _ | bytesView _ _ _ _ _ | fixedSizeBinary _ _ _ _ _ _
    | list _ _ _ _ _ _ | map _ _ _ _ _ _ | union _ _ _ _ _ => unfold pushNone; exact Bl.ctx_self _ hself (NoCtx.bl _)
    | fixedSizeList p fm k len v cur el | struct p len v fs cached next seen =>
      unfold pushNone
      exact Bl.ctx_self _ hself (Bl.bind (NoCtx.bl _) fun v' hv => absurd (setValidity_false_some hv) hn)
    | dictionary p idx vals index =>
      unfold pushNone
      rw [if_pos (by simpa [B.isNullable] using hn)]
      exact Bl.ctx_self _ hself (NoCtx.bl _)

/-- one more element: the offset counter the builder owns overflows — its only plain error — or the last offset moves on -/
theorem incr_plain {α} {large : Bool} {offs : List Int} {l : Int} {msg : String} {k : List Int → R α}
    (hl : offs.getLast? = some l) (h : (incrementLast true large offs 1 >>= k) = .error (.err msg)) :
    (msg = "offset overflow" ∧ l + ((1 : Nat) : Int) > offMax large) ∨
      k (offs.dropLast ++ [l + ((1 : Nat) : Int)]) = .error (.err msg) := by
  unfold incrementLast at h
  simp only [hl] at h
  rw [if_neg (by cases large <;> simp [offMax])] at h
  by_cases hov : l + ((1 : Nat) : Int) > offMax large
  · rw [if_pos hov] at h; cases h; exact .inl ⟨rfl, hov⟩
  · rw [if_neg hov] at h; exact .inr h

theorem pushElems_plain (ext : Ext) (large : Bool) : ∀ (xs : SVals) (el : B) (offs : List Int) (l : Int) (msg : String),
    offs.getLast? = some l → 0 ≤ l → pushElems ext large el offs xs = .error (.err msg) →
    msg = "offset overflow" ∧ l + xs.length > offMax large
  | .nil, el, offs, l, msg, _, _, h => by simp [pushElems] at h
  | .cons x rest, el, offs, l, msg, hl, h0, h => by
    simp only [pushElems] at h
    simp only [SVals.length]
    rcases incr_plain hl h with ⟨hm, hov⟩ | h
    · exact ⟨hm, by omega⟩
    · rcases bind_err_plain h with h | ⟨el', _, h⟩
      · exact absurd h (push_never_plain ext x el msg)
      · obtain ⟨hm, hgt⟩ := pushElems_plain ext large rest el' _ (l + ((1 : Nat) : Int)) msg (by simp) (by omega) h
        exact ⟨hm, by omega⟩

theorem pushElems_not_plain (ext : Ext) (large : Bool) (xs : SVals) (el : B) (offs : List Int) (l : Int) (msg : String)
    (hl : offs.getLast? = some l) (h0 : 0 ≤ l) (hle : l + xs.length ≤ 2147483647) :
    pushElems ext large el offs xs ≠ .error (.err msg) := fun h => by
  have := (pushElems_plain ext large xs el offs l msg hl h0 h).2
  cases large <;> simp only [offMax] at this <;> omega

theorem mem_ite_inner {path : String} {inner : List String} : ∀ q ∈ inner, q ∈ (if inner.isEmpty then [path] else inner) := by
  intro q hq
  cases inner with
  | nil => cases hq
  | cons a r => simpa using hq

/-- a sequence into a list builder: the list itself cannot fail (absent capacity), an element error is blamed below
`element` -/
theorem list_row_bl {ext : Ext} {xs : SVals} {pe : Bool → B → List Int → R (B × List Int)} {pc : B → Nat → R (B × Nat)}
    {pt : SS → R SS} {bytes : R Bytes} {k : SeqKind} {p large fm v offs el} {inner : List String}
    (hw : WFH (.list p large fm v offs el)) (hcap : vsizes ext xs + 1 ≤ room (.list p large fm v offs el))
    (hpe : ∀ offs' (l : Int), offs'.getLast? = some l → 0 ≤ l → l + xs.length ≤ 2147483647 →
      Bl inner (pe large el offs') ∧ ∀ msg, pe large el offs' ≠ .error (.err msg)) :
    Bl (if inner.isEmpty then [p] else inner)
      (ctx (B.list p large fm v offs el).ann (seqLikeWith pe pc pt bytes (.list p large fm v offs el) k)) := by
  simp only [WFH] at hw
  have hlast := hw.1.2.1
  have hln : lastNat offs = (dec el).length := by simp [lastNat_of_getLast hlast]
  simp only [room, hln, LIM] at hcap
  have hlen := vsizes_length ext xs
  obtain ⟨v', hv'⟩ := setValidity_true_total v (offs.length - 1)
  obtain ⟨h1, h2⟩ := hpe (offs ++ [((dec el).length : Int)]) ((dec el).length : Int) (by simp) (by omega) (by omega)
  have hbody : seqLikeWith pe pc pt bytes (.list p large fm v offs el) k = (do
      let (el', offs'') ← pe large el (offs ++ [((dec el).length : Int)])
      pure (.list p large fm v' offs'' el')) := by
    simp only [seqLikeWith, hv', duplicateLast_total hlast, bind, Except.bind]
  rw [hbody]
  refine Bl.ctx_own _ ?_ (Bl.bind (Bl.mono mem_ite_inner h1) fun _ _ => Bl.of_ok _)
  intro msg h
  rcases bind_err_plain h with h | ⟨r, _, h⟩
  · exact absurd h (h2 msg)
  · cases h

theorem pushCountElems_count (ext : Ext) : ∀ (xs : SVals) (el : B) (c : Nat) (r : B × Nat),
    pushCountElems ext el c xs = .ok r → r.2 = c + xs.length
  | .nil, el, c, r, h => by simp only [pushCountElems] at h; cases h; simp [SVals.length]
  | .cons x rest, el, c, r, h => by
    simp only [pushCountElems] at h
    obtain ⟨el', _, h⟩ := (Build.bind_ok _ _ _).1 h
    rw [pushCountElems_count ext rest el' (c + 1) r h]
    simp only [SVals.length]; omega

/-- a sequence into a fixed-size list builder: the list fails itself only on a wrong element count -/
theorem fsl_row_bl {xs : SVals} {pe : Bool → B → List Int → R (B × List Int)} {pc : B → Nat → R (B × Nat)}
    {pt : SS → R SS} {bytes : R Bytes} {k : SeqKind} {p fm} {m : Nat} {len v cur el} {inner : List String}
    (hcnt : ∀ r, pc el 0 = .ok r → r.2 = xs.length) (hpc : Bl inner (pc el 0)) (hnp : ∀ msg, pc el 0 ≠ .error (.err msg)) :
    Bl ((if ((xs.length : Int) != (m : Int)) || inner.isEmpty then [p] else []) ++ inner)
      (ctx (B.fixedSizeList p fm m len v cur el).ann (seqLikeWith pe pc pt bytes (.fixedSizeList p fm m len v cur el) k)) := by
  obtain ⟨v', hv'⟩ := setValidity_true_total v len
  have hbody : seqLikeWith pe pc pt bytes (.fixedSizeList p fm m len v cur el) k = (do
      let (el', cnt) ← pc el 0
      if cnt != m then SaModel.fail "Invalid number of elements for FixedSizedList"
      else pure (.fixedSizeList p fm m (len + 1) v' cnt el')) := by
    simp only [seqLikeWith, hv', bind, Except.bind]
  rw [hbody]
  refine Bl.ctx_own _ ?_ (Bl.bind (Bl.mono (fun q hq => List.mem_append_right _ hq) hpc) fun _ _ => NoCtx.bl _)
  intro msg h
  rcases bind_err_plain h with h | ⟨r, hr, h⟩
  · exact absurd h (hnp msg)
  · have hc := hcnt r hr
    obtain ⟨el', cnt⟩ := r
    simp only at hc h
    subst hc
    have hne : (xs.length != m) = true := by
      cases hh : (xs.length != m) with
      | true => rfl
      | false => simp [hh, pure, Except.pure] at h
    have : ((xs.length : Int) != (m : Int)) = true := by
      simp only [bne_iff_ne, ne_eq] at hne ⊢
      omega
    simp [this, B.path]

end SaModel.Props.C18
