import SaModel.Lemmas.C12Basic
/-
C12 helpers: slicing twice is slicing once (structurally), and slices of well-formed views are well-formed.
-/
namespace SaModel.Lemmas.C12
open SaModel SaModel.Read SaModel.Spec

theorem mul_window_le' {o2 l2 l1 : Nat} (n : Nat) (h : o2 + l2 ≤ l1) : o2 * n + l2 * n ≤ l1 * n :=
  mul_window_le h (Nat.le_refl _)

mutual
/-- a slice of a slice IS the slice by the composed window — the same view, field for field; the only hypothesis is
that the second window lies inside the first (nothing is assumed about the array) -/
theorem sliceView_sliceView' : ∀ (a : Arr) (o1 l1 o2 l2 : Nat), o2 + l2 ≤ l1 →
    sliceView (sliceView a o1 l1) o2 l2 = sliceView a (o1 + o2) l2
  | .null _, _, _, _, _, _ => by simp only [sliceView]
  | .boolean _ _ _, _, _, _, _, _ => by simp only [sliceView, shiftV_shiftV, shiftBits_shiftBits]
  | .prim _ _ _, _, _, _, _, h | .time _ _ _ _, _, _, _, _, h | .timestamp _ _ _ _, _, _, _, _, h
  | .decimal128 _ _ _ _, _, _, _, _, h | .bytesView _ _ _ _, _, _, _, _, h => by
    simp only [sliceView, shiftV_shiftV, window_window _ _ _ _ _ h]
  | .bytes _ _ _ _, _, l1, o2, l2, h | .list _ _ _ _ _, _, l1, o2, l2, h | .map _ _ _ _ _, _, l1, o2, l2, h => by
    simp only [sliceView, shiftV_shiftV, window_window _ _ _ _ _ (show o2 + (l2 + 1) ≤ l1 + 1 by omega)]
  | .fixedSizeBinary n _ _, o1, l1, o2, l2, h => by
    simp only [sliceView, shiftV_shiftV, window_window _ _ _ _ _ (mul_window_le' n.toNat h), Nat.add_mul]
  | .struct _ _ fs, o1, l1, o2, l2, h => by
    simp only [sliceView, shiftV_shiftV, sliceFields_sliceFields fs o1 l1 o2 l2 h]
  | .fixedSizeList _ _ n _ el, o1, l1, o2, l2, h => by
    simp only [sliceView, shiftV_shiftV,
      sliceView_sliceView' el (o1 * n.toNat) (l1 * n.toNat) (o2 * n.toNat) (l2 * n.toNat) (mul_window_le' n.toNat h), Nat.add_mul]
  | .dictionary ks _, o1, l1, o2, l2, h => by simp only [sliceView, sliceView_sliceView' ks o1 l1 o2 l2 h]
  | .union _ offs fs, o1, l1, o2, l2, h => by
    cases offs with
    | some ofs => simp only [sliceView, window_window _ _ _ _ _ h]
    | none => simp only [sliceView, window_window _ _ _ _ _ h, sliceUFields_sliceUFields fs o1 l1 o2 l2 h]
theorem sliceFields_sliceFields : ∀ (fs : ArrFields) (o1 l1 o2 l2 : Nat), o2 + l2 ≤ l1 →
    sliceFields (sliceFields fs o1 l1) o2 l2 = sliceFields fs (o1 + o2) l2
  | .nil, _, _, _, _, _ => by simp only [sliceFields]
  | .cons _ a r, o1, l1, o2, l2, h => by
    simp only [sliceFields, sliceView_sliceView' a o1 l1 o2 l2 h, sliceFields_sliceFields r o1 l1 o2 l2 h]
theorem sliceUFields_sliceUFields : ∀ (fs : ArrUFields) (o1 l1 o2 l2 : Nat), o2 + l2 ≤ l1 →
    sliceUFields (sliceUFields fs o1 l1) o2 l2 = sliceUFields fs (o1 + o2) l2
  | .nil, _, _, _, _, _ => by simp only [sliceUFields]
  | .cons _ _ a r, o1, l1, o2, l2, h => by
    simp only [sliceUFields, sliceView_sliceView' a o1 l1 o2 l2 h, sliceUFields_sliceUFields r o1 l1 o2 l2 h]
end

mutual
theorem sliceable_slice : ∀ (a : Arr) (o l : Nat), o + l ≤ lenOf a → sliceable a = true → sliceable (sliceView a o l) = true
  | .struct len _ fs, o, l, h, hs => by
    simp only [lenOf] at h
    simp only [sliceable] at hs
    simp only [sliceView, sliceable, sliceableFields_slice fs len o l h hs]
  | .fixedSizeList len _ n _ el, o, l, h, hs => by
    simp only [lenOf] at h
    simp only [sliceable, Bool.and_eq_true, decide_eq_true_eq] at hs
    have hw := mul_window_le h hs.1
    simp only [sliceView, sliceable, Bool.and_eq_true, decide_eq_true_eq, lenOf_slice el _ _ hw, Nat.le_refl, true_and]
    exact sliceable_slice el _ _ hw hs.2
  | .dictionary ks _, o, l, h, hs => by
    simp only [lenOf] at h
    simp only [sliceable] at hs
    simp only [sliceView, sliceable, sliceable_slice ks o l h hs]
  | .union types offs fs, o, l, h, hs => by
    simp only [lenOf] at h
    cases offs with
    | some ofs => simp only [sliceView, sliceable]
    | none =>
      simp only [sliceable] at hs
      simp only [sliceView, sliceable, window_length _ _ _ h, sliceableUFields_slice fs types.length o l h hs]
  -- no condition on the kinds whose children are not sliced
  | .null _, _, _, _, _ | .boolean _ _ _, _, _, _, _ | .prim _ _ _, _, _, _, _ | .time _ _ _ _, _, _, _, _
  | .timestamp _ _ _ _, _, _, _, _ | .decimal128 _ _ _ _, _, _, _, _ | .bytes _ _ _ _, _, _, _, _ | .bytesView _ _ _ _, _, _, _, _
  | .fixedSizeBinary _ _ _, _, _, _, _ | .list _ _ _ _ _, _, _, _, _ | .map _ _ _ _ _, _, _, _, _ => rfl
theorem sliceableFields_slice : ∀ (fs : ArrFields) (len o l : Nat), o + l ≤ len → sliceableFields fs len = true →
    sliceableFields (sliceFields fs o l) l = true
  | .nil, _, _, _, _, _ => by simp only [sliceFields, sliceableFields]
  | .cons _ a r, len, o, l, h, hs => by
    simp only [sliceableFields, Bool.and_eq_true, decide_eq_true_eq] at hs
    have hb : o + l ≤ lenOf a := by omega
    simp only [sliceFields, sliceableFields, Bool.and_eq_true, decide_eq_true_eq, lenOf_slice a o l hb, Nat.le_refl,
      sliceable_slice a o l hb hs.1.2, sliceableFields_slice r len o l h hs.2, and_self]
theorem sliceableUFields_slice : ∀ (fs : ArrUFields) (len o l : Nat), o + l ≤ len → sliceableUFields fs len = true →
    sliceableUFields (sliceUFields fs o l) l = true
  | .nil, _, _, _, _, _ => by simp only [sliceUFields, sliceableUFields]
  | .cons _ _ a r, len, o, l, h, hs => by
    simp only [sliceableUFields, Bool.and_eq_true, decide_eq_true_eq] at hs
    have hb : o + l ≤ lenOf a := by omega
    simp only [sliceUFields, sliceableUFields, Bool.and_eq_true, decide_eq_true_eq, lenOf_slice a o l hb, Nat.le_refl,
      sliceable_slice a o l hb hs.1.2, sliceableUFields_slice r len o l h hs.2, and_self]
end

end SaModel.Lemmas.C12
