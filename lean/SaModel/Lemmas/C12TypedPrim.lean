import SaModel.Lemmas.C12Read
/-
C12 helpers (typed reads on slices): what each primitive accessor of the reader model looks at.  Every lemma
is an EQUALITY OF OUTCOMES (value, `Err` or unwind alike) between the accessor on the windowed buffers at `i` and
the accessor on the whole buffers at `o + i`, for every `Fixes`.  At the end the hypotheses of the reads on slices, bundled
(`SliceOK`, `FieldsOK`).
-/
namespace SaModel.Lemmas.C12
open SaModel SaModel.Read SaModel.Spec

/-! ### bitmaps -/

theorem getBitBuffer_shift (fx : Fixes) (b : Bits) (o i : Nat) :
    getBitBuffer fx (shiftBits b o) i = getBitBuffer fx b (o + i) := by
  have e : i + (b.offset + o) = o + i + b.offset := by omega
  simp only [getBitBuffer, shiftBits, e]

theorem validityIsSet_shift (fx : Fixes) (v : Option Bits) (o i : Nat) :
    validityIsSet fx (shiftV v o) i = validityIsSet fx v (o + i) := by
  cases v
  · rfl
  · simp only [shiftV, validityIsSet, getBitBuffer_shift]

/-! ### windows -/

theorem window_getElem? {α} (xs : List α) (o n i : Nat) (hi : i < n) : (window xs o n)[i]? = xs[o + i]? := by
  simp only [window, List.getElem?_take, hi, if_true, List.getElem?_drop]

theorem primGet_window (fx : Fixes) (v : Option Bits) (vals : List Int) (o l i : Nat) (hi : i < l) :
    primGet fx (shiftV v o) (window vals o l) i = primGet fx v vals (o + i) := by
  simp only [primGet, window_getElem? _ _ _ _ hi, validityIsSet_shift]

theorem boolGet_shift (fx : Fixes) (len : Nat) (v : Option Bits) (vals : Bits) (o l i : Nat) (hi : i < l)
    (h : o + l ≤ len) : boolGet fx l (shiftV v o) (shiftBits vals o) i = boolGet fx len v vals (o + i) := by
  have h1 : ¬ i ≥ l := by omega
  have h2 : ¬ o + i ≥ len := by omega
  simp only [boolGet, h1, h2, if_false, validityIsSet_shift, getBitBuffer_shift]

/-- offsets windowed to `l + 1` entries: the window holds all `l + 1` of them, and both entries of element `o + i` exist -/
theorem offs_window_len (offs : List Int) (o l i : Nat) (hi : i < l) (h : o + l ≤ offs.length - 1) :
    (window offs o (l + 1)).length = l + 1 ∧ o + i + 1 < offs.length := by
  refine ⟨window_length _ _ _ (by omega), by omega⟩

theorem bytesGet_window (fx : Fixes) (v : Option Bits) (offs : List Int) (data : Bytes) (o l i : Nat) (hi : i < l)
    (h : o + l ≤ offs.length - 1) :
    bytesGet fx (shiftV v o) (window offs o (l + 1)) data i = bytesGet fx v offs data (o + i) := by
  obtain ⟨hlen, hlt⟩ := offs_window_len offs o l i hi h
  have c1 : ¬ i + 1 ≥ l + 1 := by omega
  have c2 : ¬ i + 1 > l + 1 := by omega
  have c3 : ¬ o + i + 1 ≥ offs.length := by omega
  have c4 : ¬ o + i + 1 > offs.length := by omega
  simp only [bytesGet, hlen, c1, c2, c3, c4, ite_self, if_false, validityIsSet_shift,
    window_getElem? offs o (l + 1) i (by omega), window_getElem? offs o (l + 1) (i + 1) (by omega),
    show o + (i + 1) = o + i + 1 by omega]

theorem bytesColGet_window (fx : Fixes) (ty : BytesTy) (v : Option Bits) (offs : List Int) (data : Bytes)
    (o l i : Nat) (hi : i < l) (h : o + l ≤ offs.length - 1) :
    bytesColGet fx ty (shiftV v o) (window offs o (l + 1)) data i = bytesColGet fx ty v offs data (o + i) := by
  simp only [bytesColGet, bytesGet_window fx v offs data o l i hi h]

theorem viewGet_window (fx : Fixes) (v : Option Bits) (views : List Nat) (buffers : List Bytes) (o l i : Nat)
    (hi : i < l) : viewGet fx (shiftV v o) (window views o l) buffers i = viewGet fx v views buffers (o + i) := by
  simp only [viewGet, window_getElem? _ _ _ _ hi, validityIsSet_shift]

theorem viewColGet_window (fx : Fixes) (ty : ViewTy) (v : Option Bits) (views : List Nat) (buffers : List Bytes)
    (o l i : Nat) (hi : i < l) :
    viewColGet fx ty (shiftV v o) (window views o l) buffers i = viewColGet fx ty v views buffers (o + i) := by
  simp only [viewColGet, viewGet_window fx v views buffers o l i hi]

theorem listRange_window (fx : Fixes) (offs : List Int) (o l i : Nat) (hi : i < l) (h : o + l ≤ offs.length - 1) :
    listRange fx (window offs o (l + 1)) i = listRange fx offs (o + i) := by
  obtain ⟨hlen, hlt⟩ := offs_window_len offs o l i hi h
  have c1 : ¬ i + 1 ≥ l + 1 := by omega
  have c3 : ¬ o + i + 1 ≥ offs.length := by omega
  simp only [listRange, hlen, c1, c3, if_false,
    window_getElem? offs o (l + 1) i (by omega), window_getElem? offs o (l + 1) (i + 1) (by omega),
    show o + (i + 1) = o + i + 1 by omega]

/-! ### FixedSizeBinary: the only accessor that needs `new` of the whole array (the divisibility check of
`FixedSizeBinaryDeserializer::new` is about ALL the data; a slice of an array that fails it may pass it) -/

theorem fsbColGet_window (fx : Fixes) (n : Int) (v : Option Bits) (data : Bytes) (o l i : Nat) (hi : i < l)
    (h : o + l ≤ lenOf (.fixedSizeBinary n v data)) (hn : new fx (.fixedSizeBinary n v data) = .ok ()) :
    fsbColGet fx n (shiftV v o) (window data (o * n.toNat) (l * n.toNat)) i = fsbColGet fx n v data (o + i) := by
  simp only [lenOf] at h
  by_cases hn0 : n ≤ 0
  · simp only [hn0, if_true] at h; omega
  · simp only [hn0, if_false] at h
    have hpos : 0 < n.toNat := by omega
    have hmul' := mul_window_le h (Nat.div_mul_le_self data.length n.toNat)
    have hdiv : data.length % n.toNat = 0 := by
      simp only [new, fsbNew] at hn
      have c1 : ¬ n < 0 := by omega
      have c2 : ¬ n.toNat = 0 := by omega
      simp only [c1, c2, if_false] at hn
      by_cases hd : data.length % n.toNat = 0
      · exact hd
      · simp only [ne_eq, hd, not_false_eq_true, if_true] at hn
        cases hn
    have c1 : ¬ n < 0 := by omega
    have c2 : ¬ n.toNat = 0 := by omega
    have hwl := window_length data (o * n.toNat) (l * n.toNat) hmul'
    have e1 : fsbNew fx n (window data (o * n.toNat) (l * n.toNat)) = .ok (n.toNat, l) := by
      simp only [fsbNew, c1, c2, if_false, hwl, Nat.mul_mod_left, ne_eq, not_true_eq_false,
        Nat.mul_div_cancel l hpos]
    have e2 : fsbNew fx n data = .ok (n.toNat, data.length / n.toNat) := by
      simp only [fsbNew, c1, c2, if_false, hdiv, ne_eq, not_true_eq_false]
    have d1 : ¬ i ≥ l := by omega
    have d2 : ¬ o + i ≥ data.length / n.toNat := by omega
    have d3 : (i + 1) * n.toNat ≤ l * n.toNat := Nat.mul_le_mul_right _ (by omega)
    have d4 : (o + i + 1) * n.toNat ≤ data.length :=
      Nat.le_trans (Nat.mul_le_mul_right _ (by omega)) (Nat.div_mul_le_self data.length n.toNat)
    have d5 : ((window data (o * n.toNat) (l * n.toNat)).drop (i * n.toNat)).take n.toNat
        = (data.drop ((o + i) * n.toNat)).take n.toNat := by
      rw [drop_take_window data _ _ _ _ (by rw [Nat.add_mul, Nat.one_mul] at d3; exact d3), Nat.add_mul]
    simp only [fsbColGet, e1, e2, bind, Except.bind, fsbGet, d1, d2, d3, d4, d5, hwl, if_false, if_true,
      validityIsSet_shift]

/-! ### FixedSizeList: the element range moves by `o·n` -/

theorem fslRange_eq (fx : Fixes) (len : Nat) (n : Int) (idx : Nat) (hi : idx < len) (h0 : 0 ≤ n)
    (hu : (idx + 1) * n.toNat ≤ usizeMax) :
    fslRange fx len n idx = .ok (idx * n.toNat, (idx + 1) * n.toNat) := by
  have c1 : ¬ idx ≥ len := by omega
  have c2 : ¬ (idx + 1) * n.toNat > usizeMax := by omega
  simp only [fslRange, c1, if_false, tryIntoUsize, h0, if_true, bind, Except.bind, c2, pure, Except.pure]

/-! ### the `SeqAccess` loop only looks at the slots it names -/

theorem readRange_congr {α} (f g : Nat → R α) : ∀ (n s t : Nat), (∀ j, j < n → f (s + j) = g (t + j)) →
    readRange f s n = readRange g t n := readRange_ext

/-! ### dense unions: type ids and offsets are windowed together -/

theorem unionSelect_window (fx : Fixes) (types ofs : List Int) (nv : Nat) (o l i : Nat) (hi : i < l)
    (h : o + l ≤ types.length) (hlen : types.length = ofs.length) :
    unionSelect fx (window types o l) (some (window ofs o l)) nv i = unionSelect fx types (some ofs) nv (o + i) := by
  have w1 := window_length types o l h
  have w2 := window_length ofs o l (by omega)
  have c1 : ¬ i ≥ l := by omega
  have c2 : ¬ o + i ≥ types.length := by omega
  simp only [unionSelect, w1, w2, c1, hlen, if_false, ne_eq, not_true_eq_false,
    window_getElem? types o l i hi, window_getElem? ofs o l i hi]
  rw [← hlen]
  simp only [c2, if_false]

theorem new_union_lens {fx : Fixes} {types ofs : List Int} {fs : ArrUFields}
    (hn : new fx (.union types (some ofs) fs) = .ok ()) : types.length = ofs.length := by
  simp only [new] at hn
  by_cases h : types.length = ofs.length
  · exact h
  · simp only [ne_eq, h, not_false_eq_true, if_true] at hn
    cases hn

/-! ### the hypotheses, bundled: window inside the array, `sliceable`, the reader was built, lengths fit `usize` -/

def SliceOK (fx : Fixes) (a : Arr) (o l : Nat) : Prop :=
  o + l ≤ lenOf a ∧ sliceable a = true ∧ new fx a = .ok () ∧ physical a = true

def FieldsOK (fx : Fixes) (fs : ArrFields) (len o l : Nat) : Prop :=
  o + l ≤ len ∧ sliceableFields fs len = true ∧ newFields fx fs = .ok () ∧ physicalFields fs = true

theorem SliceOK.struct {fx : Fixes} {len : Nat} {v : Option Bits} {fs : ArrFields} {o l : Nat}
    (h : SliceOK fx (.struct len v fs) o l) : FieldsOK fx fs len o l := by
  obtain ⟨h1, h2, h3, h4⟩ := h
  simp only [lenOf] at h1
  simp only [sliceable] at h2
  simp only [new] at h3
  simp only [physical] at h4
  exact ⟨h1, h2, h3, h4⟩

namespace FieldsOK

theorem cons {fx : Fixes} {fm : FieldMeta} {a : Arr} {r : ArrFields} {len o l : Nat}
    (h : FieldsOK fx (.cons fm a r) len o l) : SliceOK fx a o l ∧ FieldsOK fx r len o l := by
  obtain ⟨h1, h2, h3, h4⟩ := h
  simp only [sliceableFields, Bool.and_eq_true, decide_eq_true_eq] at h2
  simp only [physicalFields, Bool.and_eq_true] at h4
  simp only [newFields] at h3
  obtain ⟨u1, _, h3⟩ := bind_ok_inv h3
  obtain ⟨u2, hn, h3⟩ := bind_ok_inv h3
  cases u2
  exact ⟨⟨by omega, h2.1.2, hn, h4.1⟩, ⟨h1, h2.2, h3, h4.2⟩⟩

end FieldsOK

namespace SliceOK

/-- FixedSizeList: the child is sliced to `(o·n, l·n)`, which lies inside it; `n ≥ 0`; no row range overflows -/
theorem fsl {fx : Fixes} {len : Nat} {v : Option Bits} {n : Int} {fm : FieldMeta} {el : Arr} {o l : Nat}
    (h : SliceOK fx (.fixedSizeList len v n fm el) o l) :
    SliceOK fx el (o * n.toNat) (l * n.toNat) ∧ 0 ≤ n ∧ o + l ≤ len ∧ len * n.toNat ≤ usizeMax := by
  obtain ⟨h1, h2, h3, h4⟩ := h
  simp only [lenOf] at h1
  simp only [sliceable, Bool.and_eq_true, decide_eq_true_eq] at h2
  simp only [physical, Bool.and_eq_true, decide_eq_true_eq] at h4
  simp only [new] at h3
  obtain ⟨u1, _, h3⟩ := bind_ok_inv h3
  obtain ⟨u2, hn, h3⟩ := bind_ok_inv h3
  cases u2
  obtain ⟨u3, hu, _⟩ := bind_ok_inv h3
  have h0 : 0 ≤ n := by
    by_cases h0 : 0 ≤ n
    · exact h0
    · simp only [tryIntoUsize, h0, if_false] at hu; cases hu
  exact ⟨⟨mul_window_le h1 h2.1, h2.2, hn, h4.2⟩, h0, h1, by omega⟩

theorem dict {fx : Fixes} {ks vs : Arr} {o l : Nat} (h : SliceOK fx (.dictionary ks vs) o l) :
    ∃ kty kv kvals vty voffs vdata, ks = .prim kty kv kvals ∧ vs = .bytes vty none voffs vdata ∧ o + l ≤ kvals.length := by
  obtain ⟨kty, kv, kvals, vty, voffs, vdata, rfl, rfl, _, _⟩ := new_dictionary_inv h.2.2.1
  exact ⟨kty, kv, kvals, vty, voffs, vdata, rfl, rfl, h.1⟩

end SliceOK

end SaModel.Lemmas.C12
