import SaModel.Lemmas.C03AllPush
/-
`push` (the whole mutual block) preserves `PX`:  PX b → push ext b x = ok b' → PX b'.
No assumption on the value, on `Ext`, or on any other invariant: `PX` is `All pxInv`, its clauses survive every elementary
write (`pxKeeps`), and the walk over the push block is `push_All` (Lemmas/C03AllPush.lean).
-/
namespace SaModel.Lemmas.C03
open SaModel SaModel.Build SaModel.Spec

def pxInv : NodeInv where
  leaf := fun _ _ => True
  bytes := BytesPX
  view := ViewPX
  offs := fun large offs => OffsLe offs (offMax large)
  dict := fun pk pv _ _ => pk ∧ pv
  union := fun pf _ _ => pf

mutual
theorem All_px : ∀ (b : B), All pxInv b ↔ PX b
  | .null _ _ | .unknownVariant _ | .leaf _ _ _ _ | .bytes _ _ _ _ _ | .bytesView _ _ _ _ _
  | .fixedSizeBinary _ _ _ _ _ _ => by simp only [All, PX, pxInv]
  | .list _ _ _ _ _ el => by simp only [All, PX, All_px el]; exact Iff.rfl
  | .fixedSizeList _ _ _ _ _ _ el => by simp only [All, PX, All_px el]
  | .map _ _ _ _ ks vs => by simp only [All, PX, All_px ks, All_px vs]; exact Iff.rfl
  | .struct _ _ _ fs _ _ _ => by simp only [All, PX, AllL_px fs]
  | .dictionary _ idx vals _ => by simp only [All, PX, All_px idx, All_px vals]; exact Iff.rfl
  | .union _ fs _ _ _ => by simp only [All, PX, AllL_px fs]; exact Iff.rfl
theorem AllL_px : ∀ (fs : BL), AllL pxInv fs ↔ PXL fs
  | .nil => Iff.rfl
  | .cons b _ r => by simp only [AllL, PXL, All_px b, AllL_px r]
end

theorem pxKeeps : Keeps False pxInv where
  leaf_zero := fun _ => trivial
  bytes_chunk := BytesPX_chunk
  view_push := fun hv hr h => ViewPX_push h hv hr
  offs_dup := fun hd h => OffsLe_duplicateLast h hd
  offs_inc := fun hi h => OffsLe_incrementLast h hi
  dict_default := fun _ hk _ h => ⟨hk h.1, h.2⟩
  union_default := fun hf h => hf h

/-- the leaf clause is empty, so nothing is asked of the pushed values -/
theorem pxKeepsPush (ext : Ext) : KeepsPush ext False False pxInv where
  toKeeps := pxKeeps
  leaf_conv := fun _ _ _ => trivial
  dict_old := fun hk _ _ h => ⟨hk h.1, h.2⟩
  dict_new := fun hk hv _ h => ⟨hk h.1, hv h.2⟩
  union_row := fun hf _ h => hf h

theorem pushDefaultKAt_PX : ∀ (fs : BL) (j k : Nat) (fs' : BL), pushDefaultKAt fs j k = .ok fs' → PXL fs → PXL fs' :=
  fun fs j k fs' h hp => (AllL_px fs').1 (pushDefaultKAt_All pxKeeps fs j k fs' False.elim h ((AllL_px fs).2 hp))

theorem push_PX (ext : Ext) : ∀ (x : SVal) (b b' : B), push ext b x = .ok b' → PX b → PX b' :=
  fun x b b' h hp => (All_px b').1 (push_All (pxKeepsPush ext) x b b' False.elim h False.elim ((All_px b).2 hp))

theorem pushElems_PX (ext : Ext) : ∀ (xs : SVals) (large : Bool) (el : B) (offs : List Int) (r : B × List Int),
    pushElems ext large el offs xs = .ok r → OffsLe offs (offMax large) → PX el →
    OffsLe r.2 (offMax large) ∧ PX r.1 := by
  intro xs large el offs r h ho hp
  rw [← All_px] at hp ⊢
  exact pushElems_All (pxKeepsPush ext) xs False.elim large el offs r h False.elim ho hp

theorem pushCountElems_PX (ext : Ext) : ∀ (xs : SVals) (el : B) (c : Nat) (r : B × Nat),
    pushCountElems ext el c xs = .ok r → PX el → PX r.1 := by
  intro xs el c r h hp
  rw [← All_px] at hp ⊢
  exact pushCountElems_All (pxKeepsPush ext) xs False.elim el c r h False.elim hp

theorem pushTupleElems_PX (ext : Ext) : ∀ (xs : SVals) (s s' : SS), pushTupleElems ext s xs = .ok s' →
    PXL s.fields → PXL s'.fields := by
  intro xs s s' h hp
  rw [← AllL_px] at hp ⊢
  exact pushTupleElems_All (pxKeepsPush ext) xs False.elim s s' h False.elim hp

theorem pushFields_PX (ext : Ext) : ∀ (fs : SFields) (s s' : SS), pushFields ext s fs = .ok s' →
    PXL s.fields → PXL s'.fields := by
  intro fs s s' h hp
  rw [← AllL_px] at hp ⊢
  exact pushFields_All (pxKeepsPush ext) fs False.elim s s' h False.elim hp

theorem pushStructEntries_PX (ext : Ext) : ∀ (es : SEntries) (s s' : SS),
    pushStructEntries ext s es = .ok s' → PXL s.fields → PXL s'.fields := by
  intro es s s' h hp
  rw [← AllL_px] at hp ⊢
  exact pushStructEntries_All (pxKeepsPush ext) es False.elim s s' h False.elim hp

theorem pushStructOps_PX (ext : Ext) : ∀ (ops : SMapOps) (s s' : SS),
    pushStructOps ext s ops = .ok s' → PXL s.fields → PXL s'.fields := by
  intro ops s s' h hp
  rw [← AllL_px] at hp ⊢
  exact pushStructOps_All (pxKeepsPush ext) ops False.elim s s' h False.elim hp

theorem pushMapEntries_PX (ext : Ext) : ∀ (es : SEntries) (offs : List Int) (ks vs : B) (r : List Int × B × B),
    pushMapEntries ext offs ks vs es = .ok r → OffsLe offs (offMax false) → PX ks → PX vs →
    OffsLe r.1 (offMax false) ∧ PX r.2.1 ∧ PX r.2.2 := by
  intro es offs ks vs r h ho hk hv
  rw [← All_px] at hk hv ⊢
  rw [← All_px]
  exact pushMapEntries_All (pxKeepsPush ext) es False.elim offs ks vs r h False.elim False.elim ho hk hv

theorem pushMapOps_PX (ext : Ext) : ∀ (ops : SMapOps) (pd : Bool) (offs : List Int) (ks vs : B) (r : List Int × B × B),
    pushMapOps ext pd offs ks vs ops = .ok r → OffsLe offs (offMax false) → PX ks → PX vs →
    OffsLe r.1 (offMax false) ∧ PX r.2.1 ∧ PX r.2.2 := by
  intro ops pd offs ks vs r h ho hk hv
  rw [← All_px] at hk hv ⊢
  rw [← All_px]
  exact pushMapOps_All (pxKeepsPush ext) ops False.elim pd offs ks vs r h False.elim False.elim ho hk hv

end SaModel.Lemmas.C03
