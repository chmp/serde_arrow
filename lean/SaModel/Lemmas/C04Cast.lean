import SaModel.Roundtrip.Bridge
import SaModel.Lemmas.C04Interp
import SaModel.Spec.WF
import SaModel.Lemmas.C03Read
import SaModel.Lemmas.C03WfInv
/-
C04: reading the logical value of a typed value back at its own type.

  cast_lvO : fragE t → wt t v → inScopeU o t v → strOK o t v → mappingDT o t = (dt, nb, md) → Spec.wf dt nl a →
             Read.cast (toTarget t) a (lvO o t v) = must (dvalOf t (norm t v))            (Lemmas/C04CastLv.lean)

`Read.cast` is the value-level specification of typed reads that `Props.C02.read_typed_decode` proves the reader model
against; `a` is any well-formed array of the traced field (only its type skeleton is used).
-/
namespace SaModel.Roundtrip
open SaModel SaModel.Spec SaModel.Build

/-- the array of a well-formed column, by its data type: `Lemmas.C03.wf_inv` read from the side of the type, for the types the
mapping produces (the integers are `wf_int`) -/
theorem wf_shape {dt : DataType} {nl : Bool} {a : Arr} (h : Spec.wf dt nl a = true) :
    match dt with
    | .null => ∃ len, a = .null len
    | .boolean => ∃ len v vals, a = .boolean len v vals
    | .float32 => ∃ v vals, a = .prim .float32 v vals
    | .float64 => ∃ v vals, a = .prim .float64 v vals
    | .list f => ∃ v offs fm el, a = .list false v offs fm el ∧ Spec.metaMatches fm f = true ∧ Spec.wf f.dataType f.nullable el = true
    | .largeList f => ∃ v offs fm el, a = .list true v offs fm el ∧ Spec.metaMatches fm f = true ∧ Spec.wf f.dataType f.nullable el = true
    | .struct fs => ∃ len v cols, a = .struct len v cols ∧ Spec.validityOk nl v len = true ∧ Spec.wfFields fs cols len = true
    | .map (.mk _ (.struct (.cons kf (.cons vf .nil))) _ _) _ =>
      ∃ v offs mm ks vs, a = .map v offs mm ks vs ∧ Spec.metaMatches mm.keys kf = true ∧ Spec.metaMatches mm.values vf = true ∧
      Spec.wf kf.dataType kf.nullable ks = true ∧ Spec.wf vf.dataType vf.nullable vs = true
    | .dictionary _ _ => ∃ ks vs, a = .dictionary ks vs
    | .union ufs _ => ∃ types offs cols, a = .union types offs cols ∧ Spec.wfUFields ufs cols 0 = true
    | _ => True := by
  have hi := Lemmas.C03.wf_inv h
  cases a with
  | null len => obtain rfl := hi; exact ⟨_, rfl⟩
  | boolean len v vals => obtain ⟨rfl, _⟩ := hi; exact ⟨_, _, _, rfl⟩
  | prim ty v vals =>
    obtain rfl := Lemmas.C03.primMatches_primDT ty dt hi.1
    cases ty <;> first | exact ⟨_, _, rfl⟩ | trivial
  | time ty u v vals => obtain ⟨rfl, _⟩ := hi; cases ty <;> trivial
  | timestamp u tz v vals => obtain ⟨rfl, _⟩ := hi; trivial
  | decimal128 p s v vals => obtain ⟨rfl, _⟩ := hi; trivial
  | bytes ty v offs data => obtain ⟨rfl, _⟩ := hi; cases ty <;> trivial
  | bytesView ty v views bufs => obtain ⟨rfl, _⟩ := hi; cases ty <;> trivial
  | fixedSizeBinary n v data => obtain ⟨rfl, _⟩ := hi; trivial
  | struct len v cols => obtain ⟨fs, rfl, hv, hc⟩ := hi; exact ⟨_, _, _, rfl, hv, hc⟩
  | list large v offs fm el =>
    obtain ⟨f, rfl, _, hm, hw⟩ := hi
    cases large <;> exact ⟨_, _, _, _, rfl, hm, hw⟩
  | fixedSizeList len v n fm el => obtain ⟨f, rfl, _⟩ := hi; trivial
  | map v offs mm ks vs => obtain ⟨kf, vf, enl, emd, rfl, _, hk, hv, hwk, hwv⟩ := hi; exact ⟨_, _, _, _, _, rfl, hk, hv, hwk, hwv⟩
  | dictionary ks vs => obtain ⟨k, vdt, rfl, _⟩ := hi; exact ⟨_, _, rfl⟩
  | union types offs cols => obtain ⟨fs, mode, o, rfl, _, _, hw⟩ := hi; exact ⟨_, _, _, rfl, hw⟩

theorem wf_null {nl : Bool} {a : Arr} (h : Spec.wf .null nl a = true) : ∃ len, a = .null len :=
  wf_shape h

theorem wf_boolean {nl : Bool} {a : Arr} (h : Spec.wf .boolean nl a = true) : ∃ len v vals, a = .boolean len v vals :=
  wf_shape h

theorem wf_int {nl : Bool} {a : Arr} (t : IntTy) (h : Spec.wf (intDT t) nl a = true) :
    ∃ ty v vals, a = .prim ty v vals ∧ Read.isIntPrim ty = true :=
  Lemmas.C03.wf_intDT (by cases t <;> rfl) h

theorem wf_float32 {nl : Bool} {a : Arr} (h : Spec.wf .float32 nl a = true) : ∃ v vals, a = .prim .float32 v vals :=
  wf_shape h

theorem wf_float64 {nl : Bool} {a : Arr} (h : Spec.wf .float64 nl a = true) : ∃ v vals, a = .prim .float64 v vals :=
  wf_shape h

theorem wf_list {nl : Bool} {a : Arr} {f : Field} (h : Spec.wf (.list f) nl a = true) :
    ∃ v offs fm el, a = .list false v offs fm el ∧ Spec.metaMatches fm f = true ∧ Spec.wf f.dataType f.nullable el = true :=
  wf_shape h

theorem wf_largeList {nl : Bool} {a : Arr} {f : Field} (h : Spec.wf (.largeList f) nl a = true) :
    ∃ v offs fm el, a = .list true v offs fm el ∧ Spec.metaMatches fm f = true ∧ Spec.wf f.dataType f.nullable el = true :=
  wf_shape h

theorem wf_struct {nl : Bool} {a : Arr} {fs : Fields} (h : Spec.wf (.struct fs) nl a = true) :
    ∃ len v cols, a = .struct len v cols ∧ Spec.validityOk nl v len = true ∧ Spec.wfFields fs cols len = true :=
  wf_shape h

theorem wf_map {nl : Bool} {a : Arr} {en : String} {kf vf : Field} {enl : Bool} {emd : Metadata} {sorted : Bool}
    (h : Spec.wf (.map (.mk en (.struct (.cons kf (.cons vf .nil))) enl emd) sorted) nl a = true) :
    ∃ v offs mm ks vs, a = .map v offs mm ks vs ∧ Spec.metaMatches mm.keys kf = true ∧ Spec.metaMatches mm.values vf = true ∧
      Spec.wf kf.dataType kf.nullable ks = true ∧ Spec.wf vf.dataType vf.nullable vs = true :=
  wf_shape h

theorem norm_prim (p : Prim) (v : Val) : norm (.prim p) v = v := by
  cases v <;> simp [norm]

theorem cast_prim (o : TraceOpts) (p : Prim) (v : Val) (a : Arr) (nl : Bool) (hw : p.wt v = true)
    (hwf : Spec.wf (primDT o p) nl a = true) :
    Read.cast (primTarget p) a (lv (.prim p) v) = Read.must (dvalOf (.prim p) v) := by
  -- arm by arm of `Prim.wt`; strings and binary values of ANY column are handed to the target (`Read.castLeaf`): owned, or for
  -- `&'de str` / `&'de [u8]` as a BORROWED slice (`visit_borrowed_str` / `visit_borrowed_bytes`)
  unfold Prim.wt at hw
  split at hw
  · obtain ⟨len, vv, vals, rfl⟩ := wf_boolean hwf
    simp [primTarget, lv, dvalOf, Read.cast, Read.castScalar, Read.castLeaf, Read.ofLeaf]
  · rename_i t x
    obtain ⟨ty, vv, vals, rfl, hty⟩ := wf_int t hwf
    simp [primTarget, lv, dvalOf, Read.cast, Read.castScalar, Read.castLeaf, Read.ofLeaf, hty, hw]
  · obtain ⟨vv, vals, rfl⟩ := wf_float32 hwf
    simp [primTarget, lv, dvalOf, Read.cast, Read.castScalar, Read.castLeaf, Read.ofLeaf]
  · obtain ⟨vv, vals, rfl⟩ := wf_float64 hwf
    simp [primTarget, lv, dvalOf, Read.cast, Read.castScalar, Read.castLeaf, Read.ofLeaf]
  · rename_i c
    obtain ⟨ty, vv, vals, rfl, hty⟩ := wf_int .u32 hwf
    have hc : c < 0xD800 ∨ (0xE000 ≤ c ∧ c ≤ 0x10FFFF) := by simpa using hw
    have hr : IntTy.u32.inRange (c : Int) = true := by
      have h1 : (c : Int) ≤ 4294967295 := by omega
      simp [IntTy.inRange, IntTy.min, IntTy.max, h1]
    have hs : Read.isScalarValue c = true := by
      simp [Read.isScalarValue]; omega
    simp [primTarget, lv, dvalOf, Read.cast, Read.castScalar, Read.castLeaf, Read.ofLeaf, hty, hr, hs]
  all_goals first | contradiction |
    simp [primTarget, lv, dvalOf, Read.cast, Read.castScalar, Read.castLeaf, Read.ofLeaf, Read.strBytes]

theorem cast_option_nonnull (t : Read.Target) (a : Arr) (x : LVal) (d : Read.DVal) (hx : x ≠ .null)
    (h : Read.cast t a x = Read.must d) : Read.cast (.option t) a x = Read.must (.some d) := by
  cases x <;> first | exact absurd rfl hx | simp [Read.cast, h, Read.Claim.andThen, Read.must]

theorem nodupNames_eq : ∀ (l : List String), Read.nodupNames l = !hasDup l
  | [] => rfl
  | x :: xs => by simp [Read.nodupNames, hasDup, nodupNames_eq xs]

theorem DVals.ofList_toList : ∀ (l : Read.DVals), Read.DVals.ofList l.toList = l
  | .nil => rfl
  | .cons v r => by simp [Read.DVals.toList, Read.DVals.ofList, DVals.ofList_toList r]

theorem DEntries.ofList_toList : ∀ (l : Read.DEntries), Read.DEntries.ofList l.toList = l
  | .nil => rfl
  | .cons k v r => by simp [Read.DEntries.toList, Read.DEntries.ofList, DEntries.ofList_toList r]

theorem toTargetFields_names : ∀ (fs : TFields), Read.TFields.names (toTargetFields fs) = fs.names
  | .nil => rfl
  | .cons n s t r => by simp [toTargetFields, Read.TFields.names, TFields.names, toTargetFields_names r]

theorem wfFields_names (o : TraceOpts) : ∀ (fs : TFields) (cols : ArrFields) (len : Nat),
    Spec.wfFields (mappingFields o fs) cols len = true → Read.ArrFields.names cols = fs.names
  | .nil, .nil, _, _ => rfl
  | .nil, .cons _ _ _, _, h => by simp [mappingFields, Spec.wfFields] at h
  | .cons n s t r, .nil, _, h => by
    rcases hm : mappingDT o t with ⟨dt, nb, md⟩
    simp [mappingFields, hm, Spec.wfFields] at h
  | .cons n s t r, .cons fm a rest, len, h => by
    rcases hm : mappingDT o t with ⟨dt, nb, md⟩
    simp only [mappingFields, hm, Spec.wfFields, Bool.and_eq_true] at h
    have hn : fm.name = n := by
      have := h.1.1.1
      simp only [Spec.metaMatches, Field.name, Bool.and_eq_true, beq_iff_eq] at this
      exact this.1.1
    simp [Read.ArrFields.names, TFields.names, hn, wfFields_names o r rest len h.2]

/-- every field of the suffix `(fs2, vs2)` is found by name among the columns, with its (option-dependent) logical value
`lvO o`, in a well-formed column of its traced type -/
def FoundA (o : TraceOpts) (cols : ArrFields) (lfs : LFields) : TFields → Vals → Prop
  | .cons n _ t rest, .cons v vrest =>
    (∃ a dt nb md nl, Read.fieldNamed cols lfs n = some (a, lvO o t v) ∧ mappingDT o t = (dt, nb, md) ∧ Spec.wf dt nl a = true) ∧
      FoundA o cols lfs rest vrest
  | _, _ => True

theorem foundA_mono (o : TraceOpts) (c c' : ArrFields) (l l' : LFields) : ∀ (fs2 : TFields) (vs2 : Vals),
    (∀ m, fs2.names.contains m = true → Read.fieldNamed c' l' m = Read.fieldNamed c l m) →
    FoundA o c l fs2 vs2 → FoundA o c' l' fs2 vs2
  | .nil, _, _, _ => by simp [FoundA]
  | .cons _ _ _ _, .nil, _, _ => by simp [FoundA]
  | .cons n s t rest, .cons v vrest, hall, h => by
    obtain ⟨⟨a, dt, nb, md, nl, h1, h2, h3⟩, hr⟩ := h
    refine ⟨⟨a, dt, nb, md, nl, ?_, h2, h3⟩, foundA_mono o c c' l l' rest vrest ?_ hr⟩
    · rw [hall n (by simp [TFields.names])]; exact h1
    · intro m hm
      exact hall m (by simp only [TFields.names, List.contains_cons, hm, Bool.or_true])

theorem foundA_of (o : TraceOpts) (len : Nat) : ∀ (fs : TFields) (vs : Vals) (cols : ArrFields),
    Spec.wfFields (mappingFields o fs) cols len = true → wtFields fs vs = true → hasDup fs.names = false →
    FoundA o cols (lvOFields o fs vs) fs vs
  | .nil, _, _, _, _, _ => by simp [FoundA]
  | .cons _ _ _ _, .nil, _, _, hw, _ => by simp [wtFields] at hw
  | .cons n s t r, .cons v vrest, .nil, h, _, _ => by
    rcases hm : mappingDT o t with ⟨dt, nb, md⟩
    simp [mappingFields, hm, Spec.wfFields] at h
  | .cons n s t r, .cons v vrest, .cons fm a rest, h, hw, hd => by
    rcases hm : mappingDT o t with ⟨dt, nb, md⟩
    simp only [mappingFields, hm, Spec.wfFields, Bool.and_eq_true] at h
    simp only [wtFields, Bool.and_eq_true] at hw
    simp only [TFields.names, hasDup, Bool.or_eq_false_iff] at hd
    have hn : fm.name = n := by
      have := h.1.1.1
      simp only [Spec.metaMatches, Field.name, Bool.and_eq_true, beq_iff_eq] at this
      exact this.1.1
    have ih := foundA_of o len r vrest rest h.2 hw.2 hd.2
    refine ⟨⟨a, dt, nb, md, nb, ?_, hm, ?_⟩, foundA_mono o rest _ (lvOFields o r vrest) _ r vrest ?_ ih⟩
    · simp [lvOFields, Read.fieldNamed, hn]
    · simpa [Field.dataType, Field.nullable] using h.1.2
    · intro m hmem
      have hne : (fm.name == m) = false := by
        cases hb : (fm.name == m) with
        | false => rfl
        | true =>
          have : fm.name = m := by simpa using hb
          rw [hn] at this; subst this
          rw [hd.1] at hmem; cases hmem
      simp [lvOFields, Read.fieldNamed, hne]

end SaModel.Roundtrip
