import SaModel.Lemmas.C07LDefs
/-
C07, least-upper-bound argument — the order is a partial order up to the schema equivalence: transitive
(`TLe_trans`), antisymmetric up to `TEq` (`TLe_antisymm`), compatible with `mark_nullable`.
-/
namespace SaModel.Lemmas.C07
open SaModel SaModel.Trace SaModel.Props.C07

theorem bool_eq_of_imp {a b : Bool} (h1 : a = true → b = true) (h2 : b = true → a = true) : a = b := by
  cases a <;> cases b <;> simp_all

theorem isSome_some {α} {x : Option α} (h : x.isSome = true) : ∃ y, x = some y := by
  cases x with
  | none => cases h
  | some y => exact ⟨y, rfl⟩

theorem TLe_canon {o : Options} {a b : Tracer} (h : TLe o a b) : Canon a → Canon b := by
  induction h with
  | unk _ hc => intro _; exact hc
  | prim _ => intro _; exact .primitive
  | null _ _ hc => intro _; exact hc
  | list _ hi ih =>
    intro hc; cases hc with
    | list hu hci => exact .list (ULe_of_le hu hi) (ih hci)
  | map _ hk hv ihk ihv =>
    intro hc; cases hc with
    | map hu1 hc1 hu2 hc2 => exact .map (ULe_of_le hu1 hk) (ihk hc1) (ULe_of_le hu2 hv) (ihv hc2)
  | @struct n p nl nl' A B m m' s s' _ _ _ hk hf hx ih =>
    intro hc; cases hc with
    | struct hu hcc =>
      refine .struct ?_ ?_
      · intro k l b hb
        cases ha : A.find k with
        | none => exact (hx k l b ha hb).1.weak
        | some la => obtain ⟨l0, a⟩ := la; exact ULe_of_le (hu k l0 a ha) (hf k l0 a l b ha hb)
      · intro k l b hb
        cases ha : A.find k with
        | none => exact (hx k l b ha hb).2
        | some la => obtain ⟨l0, a⟩ := la; exact ih k l0 a l b ha hb (hcc k l0 a ha)
  | @tuple n p nl nl' A B _ hk hf hx ih =>
    intro hc; cases hc with
    | tuple hu hcc =>
      refine .tuple ?_ ?_
      · intro j b hb
        cases ha : A.get? j with
        | none => exact (hx j b ha hb).1.weak
        | some a => exact ULe_of_le (hu j a ha) (hf j a b ha hb)
      · intro j b hb
        cases ha : A.get? j with
        | none => exact (hx j b ha hb).2
        | some a => exact ih j a b ha hb (hcc j a ha)
  | @union n p nl nl' A B _ _ hp hf hx ih =>
    intro hc; cases hc with
    | union hu hcc =>
      refine .union ?_ ?_
      · intro j b y hb
        cases ha : vget A j with
        | none => exact (hx j b y ha hb).1
        | some ax =>
          obtain ⟨a, x⟩ := ax
          obtain ⟨y', hy'⟩ := hp j a x ha
          have e := Option.some.inj (hb.symm.trans hy')
          have e1 : b = a := congrArg Prod.fst e
          rw [e1] at hb ⊢
          exact ULe_of_le (hu j a x ha) (hf j a x a y ha hb)
      · intro j b y hb
        cases ha : vget A j with
        | none => exact (hx j b y ha hb).2
        | some ax => obtain ⟨a, x⟩ := ax; exact ih j a x b y ha hb (hcc j a x ha)

theorem sle_null {o : Options} {ty : DataType} {nl nl' : Bool} (h : sle o (some ty, nl) (some .null, nl') = true) :
    ty = .null := by
  unfold sle at h
  simp only [Bool.and_eq_true, decide_eq_true_eq] at h
  have h1 := h.1
  simp only [act, coerce_primitive_type] at h1
  by_cases e : DataType.null = ty
  · exact e.symm
  · simp [e] at h1
    exact h1.1

theorem WF_prim {o : Options} {n p : String} {nl : Bool} {ty : DataType} {st : Option Strategy}
    (h : WF o (.primitive n p nl ty st)) : (some ty, nl) ∈ leafStates o := by rw [WF] at h; exact h.2

theorem TLe_trans {o : Options} {a b : Tracer} (hab : TLe o a b) :
    ∀ {c}, WF o a → WF o b → WF o c → TLe o b c → TLe o a c := by
  induction hab with
  | unk hu hc => intro c _ _ _ hbc; exact .unk (ULe_of_le hu hbc) (TLe_canon hbc hc)
  | prim hs =>
    intro c wa wb wc hbc
    cases hbc with
    | prim hs' => exact .prim (sle_trans o (WF_prim wa) (WF_prim wb) (WF_prim wc) hs hs')
    | null hl hu hc => have := sle_null hs; subst this; exact .null hl hu hc
  | null hl hu hc =>
    intro c _ _ _ hbc
    refine .null ?_ (ULe_of_le hu hbc) (TLe_canon hbc hc)
    have := TLe_isLeaf hbc hl
    cases hc' : Tracer.isLeaf c with
    | false => rfl
    | true =>
      rw [shape_isLeaf.mpr hc'] at this
      have h2 := shape_isLeaf.mp this.symm
      rw [hl] at h2; cases h2
  | list hn _ ih =>
    intro c wa wb wc hbc
    cases hbc with
    | list hn' hi' =>
      rw [WF] at wa wb wc
      exact .list (fun e => hn' (hn e)) (ih wa wb wc hi')
  | map hn _ _ ihk ihv =>
    intro c wa wb wc hbc
    cases hbc with
    | map hn' hk' hv' =>
      rw [WF] at wa wb wc
      exact .map (fun e => hn' (hn e)) (ihk wa.1 wb.1 wc.1 hk') (ihv wa.2 wb.2 wc.2 hv')
  | @struct n p nl nl' A B m m' s s' hn hm hs hk hf hx ih =>
    intro c wa wb wc hbc
    cases hbc with
    | @struct _ _ _ nl'' _ C _ m'' _ s'' hn' hm' hs' hk' hf' hx' =>
      rw [WF] at wa wb wc
      refine .struct (fun e => hn' (hn e)) (fun e => hm' (hm e)) (fun e => hs' (hs e)) (fun k h => hk' k (hk k h)) ?_ ?_
      · intro k l a l'' c' h1 h3
        obtain ⟨lb, h2⟩ := isSome_some (hk k (by rw [h1]; rfl))
        obtain ⟨l', b⟩ := lb
        exact ih k l a l' b h1 h2 (find_wf wa h1).2 (find_wf wb h2).2 (find_wf wc h3).2 (hf' k l' b l'' c' h2 h3)
      · intro k l c' h1 h3
        cases h2 : B.find k with
        | none =>
          obtain ⟨u1, u2⟩ := hx' k l c' h2 h3
          refine ⟨u1.mono ?_, u2⟩
          intro e
          simp only [bne_iff_ne, ne_eq] at e ⊢
          exact hs e
        | some lb =>
          obtain ⟨l', b⟩ := lb
          obtain ⟨u1, u2⟩ := hx k l' b h1 h2
          have hbc' := hf' k l' b l c' h2 h3
          exact ⟨ULe_of_le u1 hbc', TLe_canon hbc' u2⟩
  | @tuple n p nl nl' A B hn hk hf hx ih =>
    intro c wa wb wc hbc
    cases hbc with
    | @tuple _ _ _ nl'' _ C hn' hk' hf' hx' =>
      rw [WF] at wa wb wc
      refine .tuple (fun e => hn' (hn e)) (fun j h => hk' j (hk j h)) ?_ ?_
      · intro j a c' h1 h3
        obtain ⟨b, h2⟩ := isSome_some (hk j (by rw [h1]; rfl))
        exact ih j a b h1 h2 (get_wf wa h1) (get_wf wb h2) (get_wf wc h3) (hf' j b c' h2 h3)
      · intro j c' h1 h3
        cases h2 : B.get? j with
        | none => exact hx' j c' h2 h3
        | some b =>
          obtain ⟨u1, u2⟩ := hx j b h1 h2
          have hbc' := hf' j b c' h2 h3
          exact ⟨ULe_of_le u1 hbc', TLe_canon hbc' u2⟩
  | @union n p nl nl' A B hn hlen hp hf hx ih =>
    intro c wa wb wc hbc
    cases hbc with
    | @union _ _ _ nl'' _ C hn' hlen' hp' hf' hx' =>
      rw [WF] at wa wb wc
      refine .union (fun e => hn' (hn e)) (Nat.le_trans hlen hlen') ?_ ?_ ?_
      · intro j a x h1
        obtain ⟨y, h2⟩ := hp j a x h1
        exact hp' j a y h2
      · intro j a x c' z h1 h3
        obtain ⟨y, h2⟩ := hp j a x h1
        exact ih j a x a y h1 h2 (vget_wf wa h1) (vget_wf wb h2) (vget_wf wc h3) (hf' j a y c' z h2 h3)
      · intro j c' z h1 h3
        cases h2 : vget B j with
        | none => exact hx' j c' z h2 h3
        | some by' =>
          obtain ⟨b, y⟩ := by'
          obtain ⟨u1, u2⟩ := hx j b y h1 h2
          obtain ⟨z', h3'⟩ := hp' j b y h2
          have e := Option.some.inj (h3.symm.trans h3')
          have e1 : c' = b := congrArg Prod.fst e
          rw [e1] at h3 ⊢
          have hbc' := hf' j b y b z h2 h3
          exact ⟨ULe_of_le u1 hbc', TLe_canon hbc' u2⟩

theorem mark_of_nullable {t : Tracer} (h : t.nullable = true) : t.mark_nullable = t := C06.mark_nullable_of_nullable h

theorem nullable_mark (t : Tracer) : t.mark_nullable.nullable = true := C06.mark_nullable_nullable t
theorem path_mark (t : Tracer) : t.mark_nullable.path = t.path := by cases t <;> rfl
theorem isLeaf_mark (t : Tracer) : Tracer.isLeaf t.mark_nullable = Tracer.isLeaf t := by cases t <;> rfl

theorem ULe_mark {n p : String} {nl : Bool} {b : Tracer} (h : ULe n p nl b) : ULe n p true b.mark_nullable :=
  ⟨by rw [name_mark]; exact h.1, by rw [path_mark]; exact h.2.1, fun _ => nullable_mark b⟩

theorem Canon_mark {b : Tracer} (h : Canon b) : Canon b.mark_nullable := by
  cases h with
  | unknown => exact .unknown
  | primitive => exact .primitive
  | list h1 h2 => exact .list h1 h2
  | map h1 h2 h3 h4 => exact .map h1 h2 h3 h4
  | struct h1 h2 => exact .struct h1 h2
  | tuple h1 h2 => exact .tuple h1 h2
  | union h1 h2 => exact .union h1 h2

theorem sle_mark {o : Options} {s r : LeafSt} (h : sle o s r = true) (hr : r ∈ leafStates o)
    (hty : ∀ ty, s.1 = some ty → ty ∈ leafTypes o) : sle o (mark s) (mark r) = true := by
  obtain ⟨ty, nl⟩ := s
  obtain ⟨ty', nl'⟩ := r
  unfold sle at h ⊢
  rw [Bool.and_eq_true] at h ⊢
  refine ⟨?_, by simp [mark]⟩
  cases ty with
  | none => rfl
  | some ty =>
    have h1 := h.1
    simp only [decide_eq_true_eq] at h1
    have := (mark_commutes o hr (hty ty rfl)).1 _ h1
    simp only [mark] at this ⊢
    exact decide_eq_true this

theorem TLe_mark {o : Options} {a b : Tracer} (h : TLe o a b) (wa : WF o a) (wb : WF o b) :
    TLe o a.mark_nullable b.mark_nullable := by
  cases h with
  | unk hu hc => exact .unk (ULe_mark hu) (Canon_mark hc)
  | prim hs =>
    refine .prim ?_
    have := sle_mark hs (WF_prim wb) (fun ty e => by cases e; exact state_type_mem o (WF_prim wa))
    exact this
  | null hl hu hc => exact .null (by rw [isLeaf_mark]; exact hl) (ULe_mark hu) (Canon_mark hc)
  | list _ hi => exact .list (fun _ => rfl) hi
  | map _ hk hv => exact .map (fun _ => rfl) hk hv
  | struct _ h2 h3 h4 h5 h6 => exact .struct (fun _ => rfl) h2 h3 h4 h5 h6
  | tuple _ h2 h3 h4 => exact .tuple (fun _ => rfl) h2 h3 h4
  | union _ h2 h3 h4 h5 => exact .union (fun _ => rfl) h2 h3 h4 h5

theorem TLe_mark_self {o : Options} {a : Tracer} (wa : WF o a) : TLe o a a.mark_nullable := by
  have h := TLe_refl o a wa
  cases a <;> simp only [Tracer.mark_nullable, Tracer.set_nullable]
  case unknown n p nl => exact .unk ⟨rfl, rfl, fun _ => rfl⟩ .unknown
  case primitive n p nl ty st =>
    refine .prim ?_
    have hm := WF_prim wa
    have h1 := sle_refl o hm
    unfold sle at h1 ⊢
    rw [Bool.and_eq_true] at h1 ⊢
    refine ⟨?_, by simp⟩
    simp only [decide_eq_true_eq] at h1 ⊢
    exact (mark_commutes o hm (state_type_mem o hm)).1 _ h1.1
  case list => cases h with | list _ hi => exact .list (fun _ => rfl) hi
  case map => cases h with | map _ hk hv => exact .map (fun _ => rfl) hk hv
  case struct => cases h with | struct _ h2 h3 h4 h5 h6 => exact .struct (fun _ => rfl) h2 h3 h4 h5 h6
  case tuple => cases h with | tuple _ h2 h3 h4 => exact .tuple (fun _ => rfl) h2 h3 h4
  case union => cases h with | union _ h2 h3 h4 h5 => exact .union (fun _ => rfl) h2 h3 h4 h5

theorem VEq_of_get : ∀ {A B : Variants}, (∀ j, SRel (A.get? j) (B.get? j)) → VEq A B
  | .nil, B, h => by
    rw [VEq]
    cases B with
    | nil => rfl
    | absent r => have := h 0; simp [Variants.get?, SRel] at this
    | present n t r => have := h 0; simp [Variants.get?, SRel] at this
  | .absent r, B, h => by
    rw [VEq]
    cases B with
    | nil => have := h 0; simp [Variants.get?, SRel] at this
    | absent r' => exact ⟨r', rfl, VEq_of_get fun j => by have := h (j + 1); simpa [Variants.get?] using this⟩
    | present n t r' => have := h 0; simp [Variants.get?, SRel] at this
  | .present n t r, B, h => by
    rw [VEq]
    cases B with
    | nil => have := h 0; simp [Variants.get?, SRel] at this
    | absent r' => have := h 0; simp [Variants.get?, SRel] at this
    | present n' t' r' =>
      have h0 := h 0
      simp only [Variants.get?, SRel] at h0
      obtain ⟨rfl, h0⟩ := h0
      exact ⟨t', r', rfl, h0, VEq_of_get fun j => by have := h (j + 1); simpa [Variants.get?] using this⟩

theorem mode_eq {m m' : StructMode} (h1 : m = .map → m' = .map) (h2 : m' = .map → m = .map) : m = m' := by
  cases m <;> cases m' <;> simp_all

theorem TLe_antisymm {o : Options} {a b : Tracer} (hab : TLe o a b) : WF o a → WF o b → TLe o b a → TEq a b := by
  induction hab with
  | @unk n p nl b hu hc =>
    intro _ _ hba
    have hl := TLe_leaf_r hba rfl
    cases hba with
    | unk hu' _ =>
      rw [TEq]
      simp only [ULe, Tracer.name, Tracer.path, Tracer.nullable] at hu hu'
      obtain ⟨rfl, rfl, h1⟩ := hu
      rw [bool_eq_of_imp h1 hu'.2.2]
    | null hl' _ _ => simp [Tracer.isLeaf] at hl'
  | prim hs =>
    intro wa wb hba
    cases hba with
    | prim hs' =>
      have := sle_antisymm o (WF_prim wa) (WF_prim wb) hs hs'
      simp only [Prod.mk.injEq, Option.some.injEq] at this
      obtain ⟨rfl, rfl⟩ := this
      rw [TEq]
    | null hl' _ _ => simp [Tracer.isLeaf] at hl'
  | null hl _ _ =>
    intro _ _ hba
    have := TLe_leaf_r hba rfl
    rw [hl] at this; cases this
  | list hn _ ih =>
    intro wa wb hba
    cases hba with
    | list hn' hi' =>
      rw [WF] at wa wb
      have := bool_eq_of_imp hn hn'
      subst this
      rw [TEq]
      exact ⟨_, rfl, ih wa wb hi'⟩
  | map hn _ _ ihk ihv =>
    intro wa wb hba
    cases hba with
    | map hn' hk' hv' =>
      rw [WF] at wa wb
      have := bool_eq_of_imp hn hn'
      subst this
      rw [TEq]
      exact ⟨_, _, rfl, ihk wa.1 wb.1 hk', ihv wa.2 wb.2 hv'⟩
  | @struct n p nl nl' A B m m' s s' hn hm hs hk hf hx ih =>
    intro wa wb hba
    cases hba with
    | struct hn' hm' hs' hk' hf' hx' =>
      rw [WF] at wa wb
      have e1 := bool_eq_of_imp hn hn'
      have e2 := mode_eq hm hm'
      subst e1; subst e2
      refine TEq_struct_of wa ⟨fun e => Classical.byContradiction fun h => hs' h e, fun e => Classical.byContradiction fun h => hs h e⟩ ?_
      intro k
      cases h1 : A.find k with
      | none =>
        cases h2 : B.find k with
        | none => simp [tr, ORel]
        | some lb => have := hk' k (by rw [h2]; rfl); rw [h1] at this; cases this
      | some la =>
        obtain ⟨l, x⟩ := la
        obtain ⟨lb, h2⟩ := isSome_some (hk k (by rw [h1]; rfl))
        obtain ⟨l', y⟩ := lb
        rw [h2]
        simp only [tr, Option.map, ORel]
        exact ih k l x l' y h1 h2 (find_wf wa h1).2 (find_wf wb h2).2 (hf' k l' y l x h2 h1)
  | @tuple n p nl nl' A B hn hk hf hx ih =>
    intro wa wb hba
    cases hba with
    | tuple hn' hk' hf' hx' =>
      rw [WF] at wa wb
      have e1 := bool_eq_of_imp hn hn'
      subst e1
      rw [TEq]
      refine ⟨B, rfl, TsEq_of_get ?_⟩
      intro j
      cases h1 : A.get? j with
      | none =>
        cases h2 : B.get? j with
        | none => simp [ORel]
        | some y => have := hk' j (by rw [h2]; rfl); rw [h1] at this; cases this
      | some x =>
        obtain ⟨y, h2⟩ := isSome_some (hk j (by rw [h1]; rfl))
        rw [h2]
        simp only [ORel]
        exact ih j x y h1 h2 (get_wf wa h1) (get_wf wb h2) (hf' j y x h2 h1)
  | @union n p nl nl' A B hn hlen hp hf hx ih =>
    intro wa wb hba
    cases hba with
    | union hn' hlen' hp' hf' hx' =>
      rw [WF] at wa wb
      have e1 := bool_eq_of_imp hn hn'
      subst e1
      rw [TEq]
      refine ⟨B, rfl, VEq_of_get ?_⟩
      intro j
      have hlen2 : A.length = B.length := Nat.le_antisymm hlen hlen'
      cases h1 : A.get? j with
      | none =>
        have := Vs.get?_none.mp h1
        have h2 : B.get? j = none := Vs.get?_none.mpr (by omega)
        rw [h2]; simp [SRel]
      | some x =>
        cases h2 : B.get? j with
        | none =>
          have := Vs.get?_none.mp h2
          have : A.get? j = none := Vs.get?_none.mpr (by omega)
          rw [h1] at this; cases this
        | some y =>
          cases x with
          | none =>
            cases y with
            | none => simp [SRel]
            | some by' =>
              obtain ⟨b, y⟩ := by'
              obtain ⟨x', hx''⟩ := hp' j b y (by simp [vget, h2])
              simp [vget, h1] at hx''
          | some ax =>
            obtain ⟨a, x⟩ := ax
            have v1 : vget A j = some (a, x) := by simp [vget, h1]
            obtain ⟨y', v2⟩ := hp j a x v1
            cases y with
            | none => simp [vget, h2] at v2
            | some by' =>
              obtain ⟨b, y⟩ := by'
              have v2' : vget B j = some (b, y) := by simp [vget, h2]
              rw [v2'] at v2
              simp only [Option.some.injEq, Prod.mk.injEq] at v2
              obtain ⟨rfl, rfl⟩ := v2
              simp only [SRel, true_and]
              exact ih j b x b y v1 v2' (vget_wf wa v1) (vget_wf wb v2') (hf' j b y b x v2' v1)

end SaModel.Lemmas.C07
