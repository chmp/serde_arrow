import SaModel.Build.Builder
import SaModel.Spec.WF
/-
Rust `&str` is valid UTF-8 by type; the model's counterpart: the bytes of a Lean `String` (`strBytes s`, what a string
builder appends) satisfy the specification's RFC 3629 recogniser `Spec.validUtf8`.

  validUtf8_strBytes : validUtf8 (strBytes s) = true

from core facts only: a `String` is a `ByteArray` that is the UTF-8 encoding of some `List Char`
(`ByteArray.IsValidUTF8`), `String.utf8EncodeChar` is given by div/mod arithmetic, and a `Char` is a scalar value
(`< 0xD800` or `0xDFFF < · < 0x110000`).  `strBytes` is injective (`strBytes_inj`).
-/
namespace SaModel.Lemmas.Utf8
open SaModel SaModel.Build SaModel.Spec

theorem valid1 (b0 : UInt8) (rest : Bytes) (h : b0.toNat < 0x80) : validUtf8 (b0 :: rest) = validUtf8 rest := by
  rw [validUtf8.eq_def]
  simp only [h, if_true]

theorem valid2 (b0 b1 : UInt8) (rest : Bytes) (h0 : 0xC2 ≤ b0.toNat ∧ b0.toNat ≤ 0xDF)
    (h1 : 0x80 ≤ b1.toNat ∧ b1.toNat ≤ 0xBF) : validUtf8 (b0 :: b1 :: rest) = validUtf8 rest := by
  have n0 : ¬ b0.toNat < 0x80 := by omega
  simp only [validUtf8, n0, if_false, h0, and_self, if_true, h1, decide_true, Bool.true_and]

theorem valid3 (b0 b1 b2 : UInt8) (rest : Bytes) (h0 : 0xE0 ≤ b0.toNat ∧ b0.toNat ≤ 0xEF)
    (h1 : (if b0.toNat = 0xE0 then 0xA0 else 0x80) ≤ b1.toNat ∧ b1.toNat ≤ (if b0.toNat = 0xED then 0x9F else 0xBF))
    (h2 : 0x80 ≤ b2.toNat ∧ b2.toNat ≤ 0xBF) : validUtf8 (b0 :: b1 :: b2 :: rest) = validUtf8 rest := by
  have n0 : ¬ b0.toNat < 0x80 := by omega
  have n1 : ¬ (0xC2 ≤ b0.toNat ∧ b0.toNat ≤ 0xDF) := by omega
  simp only [validUtf8, n0, if_false, n1, h0, and_self, if_true, h1, h2, decide_true, Bool.true_and]

theorem valid4 (b0 b1 b2 b3 : UInt8) (rest : Bytes) (h0 : 0xF0 ≤ b0.toNat ∧ b0.toNat ≤ 0xF4)
    (h1 : (if b0.toNat = 0xF0 then 0x90 else 0x80) ≤ b1.toNat ∧ b1.toNat ≤ (if b0.toNat = 0xF4 then 0x8F else 0xBF))
    (h2 : 0x80 ≤ b2.toNat ∧ b2.toNat ≤ 0xBF) (h3 : 0x80 ≤ b3.toNat ∧ b3.toNat ≤ 0xBF) :
    validUtf8 (b0 :: b1 :: b2 :: b3 :: rest) = validUtf8 rest := by
  have n0 : ¬ b0.toNat < 0x80 := by omega
  have n1 : ¬ (0xC2 ≤ b0.toNat ∧ b0.toNat ≤ 0xDF) := by omega
  have n2 : ¬ (0xE0 ≤ b0.toNat ∧ b0.toNat ≤ 0xEF) := by omega
  simp only [validUtf8, n0, if_false, n1, n2, h0, and_self, if_true, h1, h2, h3, decide_true, Bool.true_and]

theorem toNat_ofNat_lt (x : Nat) (h : x < 256) : (UInt8.ofNat x).toNat = x := by
  simp only [UInt8.toNat_ofNat']; omega

/-- the encoding of one scalar value is accepted and consumed -/
theorem validUtf8_encodeChar_append (c : Char) (rest : Bytes) :
    validUtf8 (String.utf8EncodeChar c ++ rest) = validUtf8 rest := by
  have hv : c.val.toNat < 55296 ∨ 57343 < c.val.toNat ∧ c.val.toNat < 1114112 := c.valid
  unfold String.utf8EncodeChar
  generalize c.val.toNat = v at hv
  simp only []
  split
  · apply valid1
    rw [toNat_ofNat_lt _ (by omega)]; omega
  · split
    · apply valid2
      · rw [toNat_ofNat_lt _ (by omega)]; omega
      · rw [toNat_ofNat_lt _ (by omega)]; omega
    · split
      · apply valid3
        · rw [toNat_ofNat_lt _ (by omega)]; omega
        · rw [toNat_ofNat_lt (v / 4096 % 16 + 224) (by omega), toNat_ofNat_lt (v / 64 % 64 + 128) (by omega)]
          constructor
          · split <;> omega
          · split <;> omega
        · rw [toNat_ofNat_lt _ (by omega)]; omega
      · apply valid4
        · rw [toNat_ofNat_lt _ (by omega)]; omega
        · rw [toNat_ofNat_lt (v / 262144 % 8 + 240) (by omega), toNat_ofNat_lt (v / 4096 % 64 + 128) (by omega)]
          constructor
          · split <;> omega
          · split <;> omega
        · rw [toNat_ofNat_lt _ (by omega)]; omega
        · rw [toNat_ofNat_lt _ (by omega)]; omega

theorem validUtf8_flatMap (cs : List Char) : validUtf8 (cs.flatMap String.utf8EncodeChar) = true := by
  induction cs with
  | nil => rfl
  | cons c r ih => rw [List.flatMap_cons, validUtf8_encodeChar_append, ih]

theorem toList_loop (bs : ByteArray) : ∀ (n i : Nat) (r : List UInt8), bs.size - i = n →
    ByteArray.toList.loop bs i r = r.reverse ++ bs.data.toList.drop i := by
  intro n
  induction n with
  | zero =>
    intro i r h
    have hi : ¬ i < bs.size := by omega
    rw [ByteArray.toList.loop]
    simp only [hi, if_false]
    have : bs.data.toList.length ≤ i := by
      have : bs.data.toList.length = bs.size := by cases bs; rfl
      omega
    rw [List.drop_eq_nil_of_le this, List.append_nil]
  | succ n ih =>
    intro i r h
    have hi : i < bs.size := by omega
    rw [ByteArray.toList.loop]
    simp only [hi, if_true]
    rw [ih (i + 1) _ (by omega)]
    have hlen : i < bs.data.toList.length := by
      have : bs.data.toList.length = bs.size := by cases bs; rfl
      omega
    have hget : bs.get! i = bs.data.toList[i] := by
      have hsz : i < bs.data.size := by cases bs; exact hi
      cases bs with
      | mk data => simp only [ByteArray.get!]; rw [getElem!_pos data i hsz]; simp
    rw [List.drop_eq_getElem_cons hlen, hget]
    simp

theorem toList_eq (bs : ByteArray) : bs.toList = bs.data.toList := by
  rw [ByteArray.toList, toList_loop bs _ 0 [] rfl]
  simp

/-- **every string the builders receive is valid UTF-8** -/
theorem validUtf8_strBytes (s : String) : validUtf8 (strBytes s) = true := by
  obtain ⟨m, hm⟩ := s.isValidUTF8
  unfold strBytes String.toUTF8
  rw [toList_eq, hm, List.utf8Encode, List.toList_data_toByteArray]
  exact validUtf8_flatMap m

/-- a string is its UTF-8 bytes -/
theorem strBytes_inj {s t : String} (h : strBytes s = strBytes t) : s = t := by
  unfold strBytes at h
  rw [toList_eq, toList_eq] at h
  have h2 : s.toUTF8 = t.toUTF8 := ByteArray.ext (Array.toList_inj.1 h)
  simp only [String.toUTF8_eq_toByteArray] at h2
  exact String.toByteArray_inj.1 h2

example : validUtf8 (strBytes "") = true := validUtf8_strBytes ""
example : validUtf8 [0xE2, 0x82, 0xAC] = true := by decide           -- "€"
example : validUtf8 [0xED, 0xA0, 0x80] = false := by decide          -- a surrogate
example : validUtf8 [0xC0, 0x80] = false := by decide                -- overlong

end SaModel.Lemmas.Utf8
