import SaModel.Lemmas.C03PX
/-
`LR`: leaf values stay within the physical range of their type (the leaf clause of `WFXrest`).

Unlike `PX` this needs assumptions, all explicit:
  * `SValOK x`   the pushed value is a well-formed serde value: an `iN`/`uN` call carries a value of that width,
                 an `f32`/`f64` call a bit pattern of that width
  * `ExtOK ext`  what chrono parsing returns fits the column's storage (Date32: i32; everything else: i64)
  * `FloatOK`    the IEEE conversions of `Basic/Float.lean` return bit patterns of the target width
                 (proved: Lemmas/FloatBounds.lean, instance `floatOK` in Lemmas/C03Final.lean)
-/
namespace SaModel.Lemmas.C03
open SaModel SaModel.Build SaModel.Spec

def inLR (k : LeafKind) (v : Int) : Prop := ∀ r, leafRange k = some r → r.1 ≤ v ∧ v ≤ r.2

def LeafOK (k : LeafKind) (vals : List Int) : Prop := ∀ r, leafRange k = some r → inRng r vals = true

theorem LeafOK_snoc {k : LeafKind} {vals : List Int} {v : Int} (h : LeafOK k vals) (hv : inLR k v) :
    LeafOK k (vals ++ [v]) := by
  intro r hr
  have h1 := h r hr
  have h2 := hv r hr
  simp only [inRng, List.all_append, List.all_cons, List.all_nil, Bool.and_true, Bool.and_eq_true,
    decide_eq_true_eq] at h1 ⊢
  exact ⟨h1, h2⟩

theorem inLR_zero (k : LeafKind) : inLR k 0 := by
  intro r hr
  cases k with
  | int t => cases t <;> (simp only [leafRange, primOfInt, primRange, Option.some.injEq] at hr; subst hr; decide)
  | bool => simp [leafRange] at hr
  | decimal p s => simp [leafRange] at hr
  | _ => (simp only [leafRange, i32Rng, i64Rng, Option.some.injEq] at hr; subst hr; decide)

structure ExtOK (ext : Ext) : Prop where
  date32 : ∀ s v, ext.parseDate false s = .ok v → -2147483648 ≤ v ∧ v ≤ 2147483647
  date64 : ∀ s v, ext.parseDate true s = .ok v → -9223372036854775808 ≤ v ∧ v ≤ 9223372036854775807
  time : ∀ u s v, ext.parseTime u s = .ok v → -9223372036854775808 ≤ v ∧ v ≤ 9223372036854775807
  timestamp : ∀ u utc s v, ext.parseTimestamp u utc s = .ok v → -9223372036854775808 ≤ v ∧ v ≤ 9223372036854775807
  duration : ∀ u s v, ext.parseDuration u s = .ok v → -9223372036854775808 ≤ v ∧ v ≤ 9223372036854775807

structure FloatOK : Prop where
  ofInt32 : ∀ v, Float.ofInt Float.f32 v < 4294967296
  ofInt64 : ∀ v, Float.ofInt Float.f64 v < 18446744073709551616
  narrow64_32 : ∀ b, Float.convert Float.f64 Float.f32 b < 4294967296
  widen32_64 : ∀ b, Float.convert Float.f32 Float.f64 b < 18446744073709551616
  narrow32_16 : ∀ b, Float.convert Float.f32 Float.f16 b < 65536
  narrow64_16 : ∀ b, Float.convert Float.f64 Float.f16 b < 65536

/-- a scalar serde call carries a value of its own width (integer calls below `u64`, float calls) -/
def ScalarOK : SVal → Prop
  | .int t v => t = .u64 ∨ t.inRange v = true   -- (`u64` is only ever narrowed through a checked conversion)
  | .f32 b => b < 4294967296
  | .f64 b => b < 18446744073709551616
  | _ => True

theorem tryInto_inRange {t : IntTy} {v w : Int} (h : tryInto t v = .ok w) : w = v ∧ t.min ≤ v ∧ v ≤ t.max := by
  unfold tryInto at h
  split at h
  · rename_i hr
    cases h
    simp only [IntTy.inRange, Bool.and_eq_true, decide_eq_true_eq] at hr
    exact ⟨rfl, hr⟩
  · simp [fail] at h

theorem inLR_mk {k : LeafKind} {lo hi v : Int} (hk : leafRange k = some (lo, hi)) (h1 : lo ≤ v) (h2 : v ≤ hi) :
    inLR k v := by
  intro r hr; rw [hk] at hr; cases hr; exact ⟨h1, h2⟩

theorem inLR_none {k : LeafKind} {v : Int} (hk : leafRange k = none) : inLR k v := by
  intro r hr; rw [hk] at hr; cases hr

theorem inLR_int (t : IntTy) (v : Int) (h1 : t.min ≤ v) (h2 : v ≤ t.max) : inLR (.int t) v := by
  cases t <;> exact inLR_mk rfl h1 h2

theorem inRange_iff (t : IntTy) (v : Int) : t.inRange v = true ↔ t.min ≤ v ∧ v ≤ t.max :=
  IntTy.inRange_iff t v

theorem convLeaf_inLR (ext : Ext) (he : ExtOK ext) (hf : FloatOK) (k : LeafKind) (x : SVal) (v : Int)
    (hx : ScalarOK x) (h : convLeaf ext k x = .ok v) : inLR k v := by
  unfold convLeaf at h
  split at h
  -- bool
  · exact inLR_none rfl
  -- int t ← bool / int / char
  · obtain ⟨rfl, h1, h2⟩ := tryInto_inRange h; exact inLR_int _ _ h1 h2
  · obtain ⟨rfl, h1, h2⟩ := tryInto_inRange h; exact inLR_int _ _ h1 h2
  · obtain ⟨rfl, h1, h2⟩ := tryInto_inRange h; exact inLR_int _ _ h1 h2
  -- f32
  · cases h; rename_i _ w; have := hf.ofInt32 w; exact inLR_mk rfl (by omega) (by omega)
  · cases h; simp only [ScalarOK] at hx; exact inLR_mk rfl (by omega) (by omega)
  · cases h; rename_i b; have := hf.narrow64_32 b; exact inLR_mk rfl (by omega) (by omega)
  · cases h; rename_i c; have := hf.ofInt32 c; exact inLR_mk rfl (by omega) (by omega)
  -- f64
  · cases h; rename_i _ w; have := hf.ofInt64 w; exact inLR_mk rfl (by omega) (by omega)
  · cases h; rename_i b; have := hf.widen32_64 b; exact inLR_mk rfl (by omega) (by omega)
  · cases h; simp only [ScalarOK] at hx; exact inLR_mk rfl (by omega) (by omega)
  · cases h; rename_i c; have := hf.ofInt64 c; exact inLR_mk rfl (by omega) (by omega)
  -- f16
  · cases h; rename_i b; have := hf.narrow32_16 b; exact inLR_mk rfl (by omega) (by omega)
  · cases h; rename_i b; have := hf.narrow64_16 b; exact inLR_mk rfl (by omega) (by omega)
  -- date32
  · have := he.date32 _ _ h
    exact inLR_mk rfl this.1 this.2
  · cases h
    have := (inRange_iff _ _).1 (hx.resolve_left (by first | decide | (intro e; subst e; simp at hne)))
    exact inLR_mk rfl this.1 this.2
  · split at h
    · rename_i hin
      cases h
      have := (inRange_iff _ _).1 hin
      exact inLR_mk rfl this.1 this.2
    · simp [fail] at h
  -- date64
  · have := he.date64 _ _ h
    exact inLR_mk rfl this.1 this.2
  · cases h
    have := (inRange_iff _ _).1 (hx.resolve_left (by first | decide | (intro e; subst e; simp at hne)))
    simp only [IntTy.min, IntTy.max] at this
    exact inLR_mk rfl (by omega) (by omega)
  · cases h
    have := (inRange_iff _ _).1 (hx.resolve_left (by first | decide | (intro e; subst e; simp at hne)))
    exact inLR_mk rfl this.1 this.2
  -- time32
  · obtain ⟨d, _, h2⟩ := (bind_ok _ _ _).1 h
    obtain ⟨rfl, h1, h2⟩ := tryInto_inRange h2
    exact inLR_mk rfl h1 h2
  · cases h
    have := (inRange_iff _ _).1 (hx.resolve_left (by first | decide | (intro e; subst e; simp at hne)))
    exact inLR_mk rfl this.1 this.2
  · obtain ⟨rfl, h1, h2⟩ := tryInto_inRange h
    exact inLR_mk rfl h1 h2
  -- time64
  · have := he.time _ _ _ h
    exact inLR_mk rfl this.1 this.2
  · cases h
    have := (inRange_iff _ _).1 (hx.resolve_left (by first | decide | (intro e; subst e; simp at hne)))
    simp only [IntTy.min, IntTy.max] at this
    exact inLR_mk rfl (by omega) (by omega)
  · cases h
    have := (inRange_iff _ _).1 (hx.resolve_left (by first | decide | (intro e; subst e; simp at hne)))
    exact inLR_mk rfl this.1 this.2
  -- timestamp
  · have := he.timestamp _ _ _ _ h
    exact inLR_mk rfl this.1 this.2
  · cases h
    have := (inRange_iff _ _).1 (hx.resolve_left (by first | decide | (intro e; subst e; simp at hne)))
    exact inLR_mk rfl this.1 this.2
  -- duration
  · have := he.duration _ _ _ h
    exact inLR_mk rfl this.1 this.2
  · split at h
    · obtain ⟨rfl, h1, h2⟩ := tryInto_inRange h
      exact inLR_mk rfl h1 h2
    · rename_i hne
      cases h
      rename_i _ t
      have hne' : t ≠ .u64 := by intro e; subst e; exact absurd hne (by decide)
      have := (inRange_iff _ _).1 (hx.resolve_left hne')
      cases t <;> simp only [IntTy.min, IntTy.max] at this <;>
        first | exact inLR_mk rfl (by omega) (by omega) | exact absurd rfl hne'
  -- decimal
  · exact inLR_none rfl
  · exact inLR_none rfl
  · exact inLR_none rfl
  -- everything else is refused
  · simp [notSupported, fail] at h

mutual
def LR : B → Prop
  | .leaf _ k _ vals => LeafOK k vals
  | .list _ _ _ _ _ el => LR el
  | .fixedSizeList _ _ _ _ _ _ el => LR el
  | .map _ _ _ _ ks vs => LR ks ∧ LR vs
  | .struct _ _ _ fs _ _ _ => LRL fs
  | .dictionary _ idx vals _ => LR idx ∧ LR vals
  | .union _ fs _ _ _ => LRL fs
  | _ => True
def LRL : BL → Prop
  | .nil => True
  | .cons b _ r => LR b ∧ LRL r
end

mutual
/-- every scalar call inside a serde value is `ScalarOK` -/
def SValOK : SVal → Prop
  | .some v => SValOK v
  | .newtypeStruct _ v => SValOK v
  | .seq xs => SValsOK xs
  | .tuple xs => SValsOK xs
  | .tupleStruct _ xs => SValsOK xs
  | .record _ fs => SFieldsOK fs
  | .map es => SEntriesOK es
  | .mapRaw ops => SOpsOK ops
  | .newtypeVariant _ _ _ v => SValOK v
  | .tupleVariant _ _ _ xs => SValsOK xs
  | .structVariant _ _ _ fs => SFieldsOK fs
  | .int t v => ScalarOK (.int t v)
  | .f32 b => ScalarOK (.f32 b)
  | .f64 b => ScalarOK (.f64 b)
  | _ => True
def SValsOK : SVals → Prop
  | .nil => True
  | .cons v r => SValOK v ∧ SValsOK r
def SFieldsOK : SFields → Prop
  | .nil => True
  | .cons _ _ v r => SValOK v ∧ SFieldsOK r
def SEntriesOK : SEntries → Prop
  | .nil => True
  | .cons k v r => SValOK k ∧ SValOK v ∧ SEntriesOK r
def SOpsOK : SMapOps → Prop
  | .nil => True
  | .key k r => SValOK k ∧ SOpsOK r
  | .value v r => SValOK v ∧ SOpsOK r
end

end SaModel.Lemmas.C03
