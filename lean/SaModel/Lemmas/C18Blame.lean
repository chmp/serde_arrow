import SaModel.Lemmas.C18OwnPlain
import SaModel.Lemmas.C18Assembled
import SaModel.Lemmas.C01CompSmall
import SaModel.Lemmas.C01ObsComp
import SaModel.Props.C01Obs
import SaModel.Lemmas.C18SpecBridge
/-
C18, blame against the SPECIFICATION (`Spec.blameDT`): vocabulary.

  `Bl S r`            if `r` is an annotated error, its `field` is one of the paths in `S` (without exception: a `None`
                      for a non-nullable dictionary column is refused by the dictionary builder itself, under the
                      column's path, not by its key builder under `{p}.key` — repo fix ca6f255)
  `Blo S p r`         `Bl S r`, and a PLAIN error of `r` (which the wrapper of the builder at `p` will take as its own) is
                      allowed only if `p ∈ S`
  `At path dt n md b` `b` is a (later) state of the builder `build_builder` creates at `path` for a field of type `dt`
  `Kids…`             the children of a struct / union state, each `GoodH` and `At` its own path
-/
namespace SaModel.Props.C18
open SaModel SaModel.Build SaModel.Spec

def Bl (S : List String) {α} (r : R α) : Prop :=
  ∀ msg a, r = .error (.errCtx msg a) → ∃ p ∈ S, a.lookup "field" = some p

theorem NoCtx.bl {α} {S : List String} (r : R α) [h : NoCtx r] : Bl S r := NoCtx.ann r

theorem Bl.of_ok {α} {S : List String} (v : α) : Bl S (.ok v : R α) := Ann.of_ok v

theorem Bl.of_eq_ok {α} {S : List String} {r : R α} {v : α} (h : r = .ok v) : Bl S r := h ▸ Bl.of_ok v

theorem Bl.mono {α} {S S' : List String} {r : R α} (hs : ∀ q ∈ S, q ∈ S') (h : Bl S r) : Bl S' r :=
  fun msg a e => let ⟨p, hp, ha⟩ := h msg a e; ⟨p, hs p hp, ha⟩

theorem Bl.bind {α β} {S : List String} {r : R α} {f : α → R β} (hr : Bl S r)
    (hf : ∀ v, r = .ok v → Bl S (f v)) : Bl S (r >>= f) := Ann.bind hr hf

theorem Bl.ctx_own {α} {S : List String} {r : R α} (b : B) (hown : ∀ msg, r = .error (.err msg) → b.path ∈ S)
    (h : Bl S r) : Bl S (ctx b.ann r) :=
  Ann.ctx rfl (fun msg e => ⟨b.path, hown msg e, rfl⟩) h

theorem Bl.ctx_self {α} {S : List String} {r : R α} (b : B) (hp : b.path ∈ S) (h : Bl S r) : Bl S (ctx b.ann r) :=
  Bl.ctx_own b (fun _ _ => hp) h

theorem mem_self {p : String} : ∀ q ∈ [p], q ∈ [p] := fun _ h => h

def Blo (S : List String) (p : String) {α} (r : R α) : Prop := Bl S r ∧ ∀ msg, r = .error (.err msg) → p ∈ S

theorem Blo.of_ok {α} {S : List String} {p : String} (v : α) : Blo S p (.ok v : R α) :=
  ⟨Bl.of_ok v, Plain.of_ok v⟩

theorem Blo.of_panic {α} {S : List String} {p : String} (s : String) : Blo S p (SaModel.panic s : R α) := by
  constructor
  · intro msg a h; simp [SaModel.panic] at h
  · intro msg h; simp [SaModel.panic] at h

theorem Blo.bind {α β} {S : List String} {p : String} {r : R α} {f : α → R β} (hr : Blo S p r)
    (hf : ∀ v, r = .ok v → Blo S p (f v)) : Blo S p (r >>= f) :=
  ⟨Bl.bind hr.1 fun v hv => (hf v hv).1, Plain.bind hr.2 fun v hv => (hf v hv).2⟩

theorem Blo.ctx {α} {S : List String} {r : R α} (b : B) (h : Blo S b.path r) : Bl S (ctx b.ann r) :=
  Bl.ctx_own b h.2 h.1

theorem Blo.of_noctx_mem {α} {S : List String} {p : String} (r : R α) [NoCtx r] (hp : p ∈ S) : Blo S p r :=
  ⟨NoCtx.bl r, fun _ _ => hp⟩

theorem Blo.of_bl {α} {S : List String} {p : String} {r : R α} (h : Bl S r) (hnp : ∀ msg, r ≠ .error (.err msg)) :
    Blo S p r := ⟨h, fun msg hm => absurd hm (hnp msg)⟩

theorem Blo.mono {α} {S S' : List String} {p : String} {r : R α} (hs : ∀ q ∈ S, q ∈ S') (h : Blo S p r) : Blo S' p r :=
  ⟨Bl.mono hs h.1, fun msg hm => hs _ (h.2 msg hm)⟩

def At (path : String) (dt : DataType) (n : Bool) (md : Metadata) (b : B) : Prop :=
  ∃ b0, newDT path dt n md = .ok b0 ∧ takeRest b = takeRest b0

theorem path_takeRest (b : B) : (takeRest b).path = b.path := by cases b <;> rfl

theorem At.path {path dt n md b} (h : At path dt n md b) : b.path = path := by
  obtain ⟨b0, h0, ht⟩ := h
  rw [← path_takeRest b, ht, path_takeRest, newDT_path' dt path n md b0 h0]

theorem At.of_takeRest {path dt n md b b'} (ht : takeRest b' = takeRest b) (h : At path dt n md b) : At path dt n md b' := by
  obtain ⟨b0, h0, h1⟩ := h
  exact ⟨b0, h0, ht.trans h1⟩

theorem At.push {ext : Ext} {x : SVal} {path dt n md b b'} (h : At path dt n md b) (hp : push ext b x = .ok b') :
    At path dt n md b' := h.of_takeRest (push_takeRest ext x b b' hp)

theorem At.fresh {path dt n md b} (h : newDT path dt n md = .ok b) : At path dt n md b := ⟨b, h, rfl⟩

theorem At.list {path cn cdt cnl cmd n md p large fm v offs el}
    (h : At path (.list (.mk cn cdt cnl cmd)) n md (.list p large fm v offs el) ∨
      At path (.largeList (.mk cn cdt cnl cmd)) n md (.list p large fm v offs el)) :
    At (path ++ "." ++ childName cn) cdt cnl cmd el := by
  rcases h with ⟨b0, h0, ht⟩ | ⟨b0, h0, ht⟩
  all_goals
    simp only [newDT, newB] at h0
    obtain ⟨el0, hel0, h0⟩ := (Build.bind_ok _ _ _).1 h0
    cases h0
    simp only [takeRest, B.list.injEq] at ht
    exact ⟨el0, hel0, ht.2.2.2.2.2⟩

theorem At.fixedSizeList {path cn cdt cnl cmd k n md p fm m len v cur el}
    (h : At path (.fixedSizeList (.mk cn cdt cnl cmd) k) n md (.fixedSizeList p fm m len v cur el)) :
    At (path ++ "." ++ childName cn) cdt cnl cmd el := by
  obtain ⟨b0, h0, ht⟩ := h
  simp only [newDT, newB] at h0
  split at h0
  · simp [SaModel.ctx, SaModel.fail] at h0
  · obtain ⟨el0, hel0, h0⟩ := (Build.bind_ok _ _ _).1 h0
    cases h0
    simp only [takeRest, B.fixedSizeList.injEq] at ht
    exact ⟨el0, hel0, ht.2.2.2.2.2.2⟩

/-- struct children: child `j` is `GoodH` for field `j` and sits at `{path}.{name j}` (raw name) -/
def Kids (path : String) : BL → Fields → Prop
  | .nil, .nil => True
  | .cons b m r, .cons (.mk fname fdt fn fmd) rest =>
    m.name = fname ∧ m.nullable = fn ∧ GoodH b fdt fn fmd ∧ At (path ++ "." ++ fname) fdt fn fmd b ∧ Kids path r rest
  | .nil, .cons _ _ => False
  | .cons _ _ _, .nil => False

/-- union children: through `ChildName` -/
def KidsU (path : String) : BL → UFields → Prop
  | .nil, .nil => True
  | .cons b _ r, .cons _ (.mk fname fdt fn fmd) rest =>
    GoodH b fdt fn fmd ∧ At (path ++ "." ++ childName fname) fdt fn fmd b ∧ KidsU path r rest
  | .nil, .cons _ _ _ => False
  | .cons _ _ _, .nil => False

theorem newFields_at (path : String) : ∀ (sfs : Fields) (bl0 : BL) (fs : BL), newFields path sfs = .ok bl0 →
    takeRestAll fs = takeRestAll bl0 → ∀ (len : Nat), WFHL fs len → NoDictKeyL fs → ShapeL fs sfs → totalFs sfs = true →
    Kids path fs sfs
  | .nil, bl0, fs, h0, ht, _, _, _, hsl, _ => by
    cases fs with
    | nil => trivial
    | cons _ _ _ => simp [ShapeL] at hsl
  | .cons (.mk fname fdt fn fmd) rest, bl0, fs, h0, ht, len, hw, hs, hsl, htot => by
    cases fs with
    | nil => simp [ShapeL] at hsl
    | cons b m r =>
      simp only [newFields, newB] at h0
      obtain ⟨b0, hb0, h0⟩ := (Build.bind_ok _ _ _).1 h0
      obtain ⟨r0, hr0, h0⟩ := (Build.bind_ok _ _ _).1 h0
      cases h0
      simp only [takeRestAll, BL.cons.injEq] at ht
      simp only [ShapeL] at hsl
      simp only [WFHL] at hw
      simp only [NoDictKeyL] at hs
      simp only [totalFs, totalF, Bool.and_eq_true] at htot
      exact ⟨hsl.1, hsl.2.1, ⟨hw.1, hs.1, hsl.2.2.1, htot.1⟩, ⟨b0, hb0, ht.1⟩,
        newFields_at path rest r0 r hr0 ht.2.2 len hw.2.2 hs.2 hsl.2.2.2 htot.2⟩

theorem Kids.get {path : String} : ∀ {fs : BL} {sfs : Fields} {j : Nat} {c : B} {m : FieldMeta}, Kids path fs sfs →
    fs.get? j = some (c, m) → ∃ f, sfs.toList[j]? = some f ∧ m.name = f.name ∧ m.nullable = f.nullable ∧
      GoodH c f.dataType f.nullable f.metadata ∧ At (path ++ "." ++ f.name) f.dataType f.nullable f.metadata c
  | .nil, _, _, _, _, _, h => by simp [BL.get?] at h
  | .cons b m r, .nil, _, _, _, hk, _ => by simp [Kids] at hk
  | .cons b m r, .cons (.mk fname fdt fn fmd) rest, 0, c, m', hk, h => by
    simp only [BL.get?, Option.some.injEq, Prod.mk.injEq] at h
    obtain ⟨rfl, rfl⟩ := h
    simp only [Kids] at hk
    exact ⟨.mk fname fdt fn fmd, by simp [Fields.toList], hk.1, hk.2.1, hk.2.2.1, hk.2.2.2.1⟩
  | .cons b m r, .cons (.mk fname fdt fn fmd) rest, j + 1, c, m', hk, h => by
    simp only [BL.get?] at h
    simp only [Kids] at hk
    obtain ⟨f, hf, h1⟩ := Kids.get hk.2.2.2.2 h
    exact ⟨f, by simpa [Fields.toList] using hf, h1⟩

theorem Kids.set {path : String} : ∀ {fs : BL} {sfs : Fields} {j : Nat} {c c' : B} {m : FieldMeta} {f : Field},
    Kids path fs sfs → fs.get? j = some (c, m) → sfs.toList[j]? = some f →
    GoodH c' f.dataType f.nullable f.metadata → At (path ++ "." ++ f.name) f.dataType f.nullable f.metadata c' →
    Kids path (fs.set j c') sfs
  | .nil, _, _, _, _, _, _, _, h, _, _, _ => by simp [BL.get?] at h
  | .cons b m r, .nil, _, _, _, _, _, hk, _, _, _, _ => by simp [Kids] at hk
  | .cons b m r, .cons (.mk fname fdt fn fmd) rest, 0, c, c', m', f, hk, h, hf, hg, ha => by
    simp only [Fields.toList, List.getElem?_cons_zero, Option.some.injEq] at hf
    subst hf
    simp only [Kids] at hk
    simp only [BL.set, Kids]
    exact ⟨hk.1, hk.2.1, hg, ha, hk.2.2.2.2⟩
  | .cons b m r, .cons (.mk fname fdt fn fmd) rest, j + 1, c, c', m', f, hk, h, hf, hg, ha => by
    simp only [BL.get?] at h
    simp only [Kids] at hk
    simp only [BL.set, Kids]
    exact ⟨hk.1, hk.2.1, hk.2.2.1, hk.2.2.2.1, Kids.set hk.2.2.2.2 h (by simpa [Fields.toList] using hf) hg ha⟩

theorem Kids.names {path : String} : ∀ {fs : BL} {sfs : Fields}, Kids path fs sfs → fs.names = sfs.toList.map Field.name
  | .nil, .nil, _ => rfl
  | .nil, .cons _ _, h => by simp [Kids] at h
  | .cons _ _ _, .nil, h => by simp [Kids] at h
  | .cons b m r, .cons (.mk fname fdt fn fmd) rest, h => by
    simp only [Kids] at h
    simp only [BL.names, Fields.toList, List.map_cons, h.1, Kids.names h.2.2.2.2]; rfl

theorem At.struct_kids {path sfs n md p len v fs cached next seen}
    (hg : GoodH (.struct p len v fs cached next seen) (.struct sfs) n md)
    (h : At path (.struct sfs) n md (.struct p len v fs cached next seen)) : Kids path fs sfs := by
  obtain ⟨b0, h0, ht⟩ := h
  simp only [newDT] at h0
  obtain ⟨bl0, hbl0, h0⟩ := (Build.bind_ok _ _ _).1 h0
  simp only [mkStruct] at h0
  split at h0
  · simp [SaModel.fail] at h0
  · cases h0
    simp only [takeRest, B.struct.injEq] at ht
    have hw := hg.wf
    simp only [WFH] at hw
    have hs := hg.nd
    simp only [NoDictKey] at hs
    have hsh := hg.shape
    simp only [Shape] at hsh
    obtain ⟨_, sfs', he, hsl⟩ := hsh
    cases he
    have htot := hg.tot
    simp only [total, Bool.and_eq_true] at htot
    exact newFields_at path sfs bl0 fs hbl0 ht.2.2.2.1 len hw.2.1 hs hsl htot.1

end SaModel.Props.C18
