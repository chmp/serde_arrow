import SaModel.Read.AccessVal
import SaModel.Props.C13
/-
C13 helpers, constructor: `AccessVal.Deser.new` (the statements of `Deserializer::new` in the order of the Rust code)
against the two-phase form the other properties use (`Access.new` for counts and lengths, then `Read.new` of the root
struct reader: `Roundtrip.readRecord`, `Roundtrip.readAll`).
-/
namespace SaModel.Lemmas.C13Ctor
open SaModel SaModel.Access SaModel.AccessVal

theorem newCols_ok_iff (len : Nat) : ∀ (fields : List Field) (arrs : List Arr), fields.length = arrs.length →
    (newCols len fields arrs = .ok () ↔
      (∀ a ∈ arrs, Read.vlen a = len) ∧ Read.newFields Read.Fixes.all (Roundtrip.zipCols fields arrs) = .ok ())
  | [], [], _ => by simp [newCols, Roundtrip.zipCols, Read.newFields]
  | [], _ :: _, h => by simp at h
  | _ :: _, [], h => by simp at h
  | f :: fs, a :: as, h => by
    have ih := newCols_ok_iff len fs as (by simpa using h)
    simp only [newCols, Roundtrip.zipCols, Read.newFields, List.mem_cons, forall_eq_or_imp]
    by_cases hv : Read.vlen a = len
    · subst hv
      simp only [bne_self_eq_false, Bool.false_eq_true, if_false, true_and]
      cases hs : Read.strategyOk (metaOfField f).metadata with
      | error e => simp [bind, Except.bind]
      | ok u =>
        cases hn : Read.new Read.Fixes.all a with
        | error e => simp [bind, Except.bind]
        | ok u' =>
          simp only [bind, Except.bind]
          exact ih
    · have hb : (Read.vlen a != len) = true := by simp [hv]
      simp [hb, hv, fail]

/-- the constructor in the order of the Rust code succeeds exactly when the two-phase form does, with the same record count -/
theorem new_ok_iff (fields : List Field) (arrs : List Arr) (d : Deser) :
    Deser.new fields arrs = .ok d ↔
      d.fields = fields ∧ d.arrs = arrs ∧
      Access.new true fields.length (arrs.map Read.vlen) = .ok d.len ∧
      Read.new Read.Fixes.all (Roundtrip.rootArr fields arrs d.len) = .ok () := by
  rw [Props.C13.ctor_checks]
  unfold Deser.new
  by_cases hc : fields.length = arrs.length
  · have hb : (fields.length != arrs.length) = false := by simp [hc]
    simp only [hb, Bool.false_eq_true, if_false]
    have hroot : ∀ len, Read.new Read.Fixes.all (Roundtrip.rootArr fields arrs len)
        = Read.newFields Read.Fixes.all (Roundtrip.zipCols fields arrs) := by
      intro len; simp [Roundtrip.rootArr, Read.new]
    constructor
    · intro h
      cases hn : newCols (firstLen arrs) fields arrs with
      | error e => rw [hn] at h; simp [bind, Except.bind] at h
      | ok u =>
        rw [hn] at h
        simp only [bind, Except.bind, pure, Except.pure, Except.ok.injEq] at h
        subst h
        obtain ⟨h1, h2⟩ := (newCols_ok_iff _ fields arrs hc).mp hn
        refine ⟨rfl, rfl, ⟨by simp [hc], ?_, ?_⟩, ?_⟩
        · intro l hl
          obtain ⟨a, ha, rfl⟩ := List.mem_map.mp hl
          exact h1 a ha
        · intro he
          have : arrs = [] := by simpa using he
          subst this; rfl
        · rw [hroot]; exact h2
    · rintro ⟨hf, ha, ⟨_, hl, hz⟩, hr⟩
      have hlen : firstLen arrs = d.len := by
        cases arrs with
        | nil => exact (hz rfl).symm
        | cons a as => exact hl _ (by simp [firstLen])
      rw [hlen]
      have : newCols d.len fields arrs = .ok () := by
        rw [newCols_ok_iff _ fields arrs hc]
        refine ⟨fun a ha => hl _ (List.mem_map.mpr ⟨a, ha, rfl⟩), ?_⟩
        rw [← hroot d.len]; exact hr
      rw [this]
      simp only [bind, Except.bind, pure, Except.pure, Except.ok.injEq]
      cases d; simp only at hf ha; subst hf; subst ha; rfl
  · have hb : (fields.length != arrs.length) = true := by simp [hc]
    simp only [hb, if_true, fail]
    constructor
    · intro h; cases h
    · rintro ⟨_, _, ⟨h, _⟩, _⟩
      simp at h; exact absurd h.symm hc

/-- reading a record of a constructed deserializer is `Roundtrip.readRecord`: a function of the batch, the index and the
target -/
theorem item_eq_readRecord {fields : List Field} {arrs : List Arr} {d : Deser} (h : Deser.new fields arrs = .ok d)
    (t : Read.Target) (i : Nat) (hi : i < d.len) : d.item t i = Roundtrip.readRecord t fields arrs i := by
  obtain ⟨hf, ha, hc, hr⟩ := (new_ok_iff fields arrs d).mp h
  unfold Roundtrip.readRecord Deser.item Deser.root
  rw [hc]
  simp only [bind, Except.bind]
  rw [hr]
  simp only [Props.C13.get_eq, hi, if_true, hf, ha]

/-- … and conversely a `readRecord` that succeeds at `i` comes from a batch the constructor accepts, with `i` below its
record count: where the constructor refuses, every such read is refused before it starts -/
theorem new_ok_of_readRecord {fields : List Field} {arrs : List Arr} (t : Read.Target) (i : Nat) (v : Read.DVal)
    (h : Roundtrip.readRecord t fields arrs i = .ok v) : ∃ d, Deser.new fields arrs = .ok d ∧ i < d.len := by
  unfold Roundtrip.readRecord at h
  cases hc : Access.new true fields.length (arrs.map Read.vlen) with
  | error e => rw [hc] at h; simp [bind, Except.bind] at h
  | ok len =>
    rw [hc] at h
    simp only [bind, Except.bind] at h
    cases hr : Read.new Read.Fixes.all (Roundtrip.rootArr fields arrs len) with
    | error e => rw [hr] at h; simp at h
    | ok u =>
      rw [hr] at h
      refine ⟨{ fields, arrs, len }, (new_ok_iff fields arrs _).mpr ⟨rfl, rfl, hc, hr⟩, ?_⟩
      simp only [Props.C13.get_eq] at h
      by_cases hi : i < len
      · exact hi
      · simp [hi, fail] at h

end SaModel.Lemmas.C13Ctor
