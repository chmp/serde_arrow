import SaModel.Lemmas.C14Succ
/-
C14 helper lemmas: the closed formula `daysFromCivil` equals the day number obtained by COUNTING
(`Spec.Calendar.dayNumber`: whole years one by one from 1970, whole months one by one from January, days).
-/
namespace SaModel.Codec
open SaModel.Spec.Calendar

theorem yearLength_eq (y : Int) :
    yearLength y = 365 + (if y % 4 = 0 ∧ (y % 100 ≠ 0 ∨ y % 400 = 0) then 1 else 0) := by
  unfold yearLength
  rw [isLeap_eq]
  by_cases hl : isLeapYear y = true
  · rw [if_pos hl, if_pos ((isLeapYear_iff y).1 hl)]; rfl
  · rw [if_neg hl, if_neg (fun h => hl ((isLeapYear_iff y).2 h))]; rfl

/-- from the first of January to the first of January of the next year: the length of the year -/
theorem daysFromCivil_jan1_succ (y : Int) : daysFromCivil (y + 1) 1 1 = daysFromCivil y 1 1 + yearLength y := by
  have h := yearStart_succ (y - 1)
  rw [Int.sub_add_cancel] at h
  rw [yearLength_eq, daysFromCivil_eq, daysFromCivil_eq]
  simp only [Int.reduceLE, if_true, Int.add_sub_cancel]
  omega

theorem daysUp_eq (k : Nat) : daysUp k = daysFromCivil (1970 + k) 1 1 := by
  induction k with
  | zero => decide
  | succ k ih =>
    unfold daysUp
    rw [ih, show (1970 : Int) + ((k + 1 : Nat) : Int) = 1970 + k + 1 by omega, daysFromCivil_jan1_succ]

theorem daysDown_eq (k : Nat) : daysDown k = - daysFromCivil (1970 - k) 1 1 := by
  induction k with
  | zero => decide
  | succ k ih =>
    unfold daysDown
    have := daysFromCivil_jan1_succ (1970 - ((k + 1 : Nat) : Int))
    rw [show (1970 : Int) - ((k + 1 : Nat) : Int) + 1 = 1970 - k by omega] at this
    rw [ih]; omega

theorem daysBeforeYear_eq (y : Int) : daysBeforeYear y = daysFromCivil y 1 1 := by
  unfold daysBeforeYear
  by_cases h : 1970 ≤ y
  · rw [if_pos h, daysUp_eq, show (1970 : Int) + ((y - 1970).toNat : Int) = y by omega]
  · rw [if_neg h, daysDown_eq, show (1970 : Int) - ((1970 - y).toNat : Int) = y by omega]; omega

theorem daysFromCivil_day_add (y m d : Int) : daysFromCivil y m d = daysFromCivil y m 1 + (d - 1) := by
  unfold daysFromCivil
  simp only
  omega

theorem daysBeforeMonth_eq (y : Int) (k : Nat) (hk : k ≤ 11) :
    daysBeforeMonth y k = daysFromCivil y (k + 1) 1 - daysFromCivil y 1 1 := by
  induction k with
  | zero => unfold daysBeforeMonth; simp
  | succ k ih =>
    unfold daysBeforeMonth
    rw [ih (by omega), monthLength_eq y _ (by omega) (by omega)]
    have h1 := daysFromCivil_month_succ y ((k + 1 : Nat) : Int) (by omega) (by omega)
    have h2 := daysFromCivil_day_add y ((k + 1 : Nat) : Int) (daysInMonth y ((k + 1 : Nat) : Int))
    rw [show ((k + 1 : Nat) : Int) = (k : Int) + 1 by omega] at h1 h2 ⊢
    omega

theorem daysFromCivil_eq_dayNumber (y m d : Int) (h1 : 1 ≤ m) (h2 : m ≤ 12) : daysFromCivil y m d = dayNumber (y, m, d) := by
  unfold dayNumber
  simp only
  rw [daysBeforeYear_eq, daysBeforeMonth_eq y _ (by omega), show (((m - 1).toNat : Nat) : Int) + 1 = m by omega,
    daysFromCivil_day_add y m d]
  omega

end SaModel.Codec
