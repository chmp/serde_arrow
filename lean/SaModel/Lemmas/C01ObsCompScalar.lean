import SaModel.Lemmas.C01ObsCompLeaf
import SaModel.Lemmas.C01CompScalar
/-
C01 "hidden rows" — completeness, scalar calls, under the weak state invariant `WFH`: whenever `Spec.interpScalar` accepts a scalar at the builder's field and the value fits into
the head room, `pushScalar` succeeds, and the head room shrinks by at most `vsize`.
-/
namespace SaModel.Build
open SaModel SaModel.Spec

/-- the bytes the table names are the value the builder computes, and they fit into `vsize` -/
theorem ScalarBytes.value {ext : Ext} {utf8 : Bool} {x : SVal} {bs : Bytes} : ScalarBytes ext utf8 x bs →
    (if utf8 then
        match scalarToString ext x with
        | some s => .ok (strBytes s)
        | none => notSupported s!"serialize_{x.kind}"
      else match x with
        | .bytes bs => .ok bs
        | _ => notSupported s!"serialize_{x.kind}" : R Bytes) = .ok bs ∧ bs.length + 1 ≤ vsize ext x := by
  intro h
  unfold ScalarBytes at h
  cases utf8
  · simp only [Bool.false_eq_true, if_false] at h ⊢
    subst h; exact ⟨rfl, vsize_bytes ext _⟩
  · simp only [if_true] at h ⊢
    obtain ⟨s, hs, rfl⟩ := h
    rw [hs]; exact ⟨rfl, vsize_strLen hs⟩

/-- **a call that has a row in the table succeeds** while there is head room (childless builders; the state side of
completeness: what the call means is `scalarRow_iff`) -/
theorem ScalarRow.total {ext : Ext} {b : B} {x : SVal} {lv : LVal} (h : ScalarRow ext b x lv) (hf : b.isFlat = true)
    (hwf : WFH b) (hr : vsize ext x ≤ room b) : ∃ b', pushScalar ext b x = .ok b' ∧ room b ≤ room b' + vsize ext x := by
  cases h with
  | null => exact ⟨_, rfl, by simp [room]⟩
  | @leaf p k v vals _ val hc =>
    obtain ⟨v', hv⟩ := setValidity_true_total v vals.length
    refine ⟨.leaf p k v' (vals ++ [val]), ?_, by simp [room]⟩
    simp only [pushScalar]
    exact (bind_ok _ _ _).2 ⟨_, hc, (bind_ok _ _ _).2 ⟨_, hv, rfl⟩⟩
  | @bytes p ty v offs data _ bs hb =>
    obtain ⟨hval, hlen⟩ := hb.value
    simp only [room] at hr
    obtain ⟨v', offs', hp, hl⟩ := pushScalar_bytes_total ext x bs (flat_WFB rfl hwf) hval (by omega)
    exact ⟨_, hp, by simp only [room, hl]; omega⟩
  | @view p ty v views buf _ bs hb =>
    obtain ⟨hval, hlen⟩ := hb.value
    simp only [room] at hr
    obtain ⟨v', hv⟩ := setValidity_true_total v views.length
    have hvp : ∃ r, viewPushValue views buf bs = .ok r ∧ r.2.length ≤ buf.length + bs.length := by
      unfold viewPushValue
      split
      · exact ⟨_, rfl, by simp⟩
      · rw [if_neg (by simp only [I32_MAX]; simp only [LIM] at hr; omega)]
        exact ⟨_, rfl, by simp⟩
    obtain ⟨⟨views', buf'⟩, hvp, hbl⟩ := hvp
    refine ⟨.bytesView p ty v' views' buf', ?_, by simp only [room]; simp only at hbl; omega⟩
    simp only [pushScalar]
    exact (bind_ok _ _ _).2 ⟨bs, hval, (bind_ok _ _ _).2 ⟨_, hvp, (bind_ok _ _ _).2 ⟨_, hv, rfl⟩⟩⟩
  | @fixedSizeBinary p m len v buf cur bs hn =>
    obtain ⟨v', hv⟩ := setValidity_true_total v len
    refine ⟨.fixedSizeBinary p m (len + 1) v' (buf ++ bs) cur, ?_, by simp [room]⟩
    have : (bs.length != m) = false := by simp [hn]
    simp only [pushScalar, this, Bool.false_eq_true, if_false]
    exact (bind_ok _ _ _).2 ⟨_, hv, rfl⟩
  | dictionary => cases hf

/-- whatever `Spec.interpScalar` accepts has a row in the table (`scalarRow_iff`), and a call with a row succeeds
(`ScalarRow.total`; a dictionary: its key and value builders do) -/
theorem pushScalar_completeH (ext : Ext) (b : B) (x : SVal) (dt : DataType) (n : Bool) (md : Metadata) (lv : LVal)
    (hwf : WFH b) (hs : Shape b dt n md) (hu : isUnknownVariant dt md = false) (hr : vsize ext x ≤ room b)
    (hi : interpScalar ext dt x = .ok lv) : ∃ b', pushScalar ext b x = .ok b' ∧ room b ≤ room b' + vsize ext x := by
  have hrow := (scalarRow_iff ext hs x lv).2 ⟨hi, hu⟩
  by_cases hf : b.isFlat = true
  · exact hrow.total hf hwf hr
  · cases hrow with
    | @dictionary p idx vals index _ s hs' hu8 =>
      simp only [Shape] at hs
      obtain ⟨_, hil, _, _⟩ := hs
      obtain ⟨p', t, v, ivals, rfl⟩ := isIntLeaf_form hil
      obtain ⟨p'', ty, v2, offs, data, rfl, hty⟩ := isUtf8B_form hu8
      simp only [room] at hr
      have hlen := vsize_strLen hs'
      have hkr : 1 ≤ keyRoom (.leaf p' (.int t) v ivals) index.length := by have := vsize_pos ext x; omega
      cases hix : indexOfName index s with
      | some i =>
        obtain ⟨v', hp⟩ := intLeaf_push_total ext p' t v ivals i (keyRoom_le hkr (Nat.le_of_lt (indexOfName_lt hix)))
        refine ⟨.dictionary p (.leaf p' (.int t) v' (ivals ++ [(i : Int)])) (.bytes p'' ty v2 offs data) index, ?_, ?_⟩
        · rw [pushScalar]
          simp only [hs', hix]
          exact (bind_ok _ _ _).2 ⟨_, (ctx_eq_ok _ _ _).2 hp, rfl⟩
        · simp only [room, keyRoom]; omega
      | none =>
        have hwv : WFB (.bytes p'' ty v2 offs data) := by simp only [WFH] at hwf; exact flat_WFB rfl hwf.2.1
        obtain ⟨v2', offs', hpv, hl⟩ := pushScalar_bytes_total ext (ty := ty) (.str s) (strBytes s) hwv
          (by simp [hty, scalarToString]) (by omega)
        obtain ⟨v', hp⟩ := intLeaf_push_total ext p' t v ivals index.length (keyRoom_le hkr (Nat.le_refl _))
        refine ⟨.dictionary p (.leaf p' (.int t) v' (ivals ++ [(index.length : Int)])) (.bytes p'' ty v2' offs' (data ++ strBytes s)) (index ++ [s]), ?_, ?_⟩
        · rw [pushScalar]
          simp only [hs', hix]
          exact (bind_ok _ _ _).2 ⟨_, (ctx_eq_ok _ _ _).2 hpv, (bind_ok _ _ _).2 ⟨_, (ctx_eq_ok _ _ _).2 hp, rfl⟩⟩
        · simp only [room, keyRoom, hl, List.length_append, List.length_singleton] at hkr ⊢
          exact min_le_min_add (by omega) (by omega)
    | _ => exact absurd rfl hf

theorem pushScalar_complete (ext : Ext) : ∀ (b : B) (x : SVal) (dt : DataType) (n : Bool) (md : Metadata) (lv : LVal),
    WFB b → Shape b dt n md → isUnknownVariant dt md = false → vsize ext x ≤ room b →
    interpScalar ext dt x = .ok lv → ∃ b', pushScalar ext b x = .ok b' ∧ room b ≤ room b' + vsize ext x :=
  fun b x dt n md lv hw => pushScalar_completeH ext b x dt n md lv (WFH_of_WFB b hw)

end SaModel.Build
