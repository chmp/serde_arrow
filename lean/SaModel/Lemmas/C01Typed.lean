import SaModel.Lemmas.C01Seq
/-
The specification at the type of a list builder and of a string / binary builder.  `Shape` gives these types as a function
of the builder (`if large ..`, `bytesDT ty`), so the arm of `seqSpec` / `interpDT` is not reached by unfolding but by a case
split: it is made here once, for every walk over `push` that reads the specification at the builder's type.
-/
namespace SaModel.Build
open SaModel SaModel.Spec

/-- a list builder: its element's field, a sequence-like value means the list of what its elements mean there, `bytes`
the list of its bytes as `u8` -/
theorem Shape.list_row {p large fm v offs el dt n md} (h : Shape (.list p large fm v offs el) dt n md) :
    ∃ cname cdt cn cmd, dt = (if large then .largeList (.mk cname cdt cn cmd) else .list (.mk cname cdt cn cmd)) ∧
      Shape el cdt cn cmd ∧
      (∀ ext pos xs, seqSpec ext pos dt md xs = (do pure (.list (LVals.ofList (← interpAll ext cdt cn cmd xs))))) ∧
      ∀ ext bs, interpDT ext dt n md (.bytes bs) =
        (do pure (.list (LVals.ofList (← bs.mapM fun x => interpScalar ext cdt (.int .u8 x.toNat))))) := by
  simp only [Shape] at h
  obtain ⟨_, cname, cdt, cn, cmd, rfl, hsel⟩ := h
  exact ⟨cname, cdt, cn, cmd, rfl, hsel, fun _ _ _ => by cases large <;> rfl, fun _ _ => by cases large <;> rfl⟩

/-- a string / binary builder takes a sequence-like value as bytes iff it is a binary one -/
theorem Shape.bytes_row {p ty v offs data dt n md} (h : Shape (.bytes p ty v offs data) dt n md) :
    dt = bytesDT ty ∧ ∀ ext pos xs, seqSpec ext pos dt md xs =
      if isBinaryTy ty = true then (do pure (.bin (← specBytes xs))) else fail "not a sequence type" := by
  simp only [Shape] at h
  obtain ⟨rfl, _⟩ := h
  exact ⟨rfl, fun _ _ _ => by cases ty <;> rfl⟩

theorem interpScalar_int_known {ext : Ext} {dt : DataType} {t : IntTy} {v : Int} {lv : LVal} (md : Metadata)
    (h : interpScalar ext dt (.int t v) = .ok lv) : isUnknownVariant dt md = false := by
  cases dt <;> simp only [isUnknownVariant]
  simp [interpScalar_eq_old, normErr_ok_iff, interpScalarOld, fail] at h

/-! ### the bytes of a `serialize_bytes` call as a sequence (`byteVals`, `push_list_bytes`: Lemmas/PushRows.lean) -/

theorem rawOKs_byteVals (nar : Bool) : ∀ (bs : Bytes), rawOKs nar (byteVals bs) = true
  | [] => by cases nar <;> rfl
  | x :: rest => by rw [byteVals, rawOKs_cons, rawOKs_byteVals nar rest]; cases nar <;> rfl

theorem interpAll_byteVals {ext : Ext} {cdt : DataType} {cn : Bool} {cmd : Metadata} : ∀ {bs : Bytes} {ls : List LVal},
    interpAll ext cdt cn cmd (byteVals bs) = .ok ls ↔ bs.mapM (fun x => interpScalar ext cdt (.int .u8 x.toNat)) = .ok ls
  | [], ls => by simp [byteVals, interpAll, pure, Except.pure]
  | x :: rest, ls => by
    have hx : ∀ lv, interpDT ext cdt cn cmd (.int .u8 x.toNat) = .ok lv ↔ interpScalar ext cdt (.int .u8 x.toNat) = .ok lv := by
      intro lv
      rw [interpDT]
      constructor
      · intro h; split at h; · cases h
        exact h
      · intro h; rw [if_neg (by rw [interpScalar_int_known cmd h]; decide)]; exact h
    simp only [byteVals, interpAll, List.mapM_cons, R.bind_eq_ok, hx, interpAll_byteVals (bs := rest)]

/-- **at a list, the bytes of a `serialize_bytes` call mean what the sequence of their `u8`s means** -/
theorem interpDT_list_bytes {p large fm v offs el dt n md} (h : Shape (.list p large fm v offs el) dt n md) (ext : Ext)
    (bs : Bytes) (lv : LVal) :
    interpDT ext dt n md (.bytes bs) = .ok lv ↔ interpDT ext dt n md (.seq (byteVals bs)) = .ok lv := by
  obtain ⟨cname, cdt, cn, cmd, _, _, hseq, hbytes⟩ := h.list_row
  rw [hbytes, interpDT_seq, hseq]
  simp only [R.bind_eq_ok, interpAll_byteVals]

end SaModel.Build
