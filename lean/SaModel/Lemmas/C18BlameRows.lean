import SaModel.Lemmas.C18BlameStruct
/-
C18, blame against the specification: the rows of the sequence-like and record-like calls on EVERY builder (the
map-like row, `mapLike_bl`, is in `C18BlameMap`), with the element / field / entry loops as hypotheses (`ElemsBl`,
`CountBl`, `TupleBl`, `FieldsBl`, `EntriesBl`, `MapEntriesBl`: what the walk `bl_rows` (C18BlamePush, an instance of
`Build.PushRowsE`) proves about
`pushElems`, `pushCountElems`, `pushTupleElems`, `pushFields`, `pushStructEntries`, `pushMapEntries`).

  `seqS`   the blame of a sequence / tuple presented at a position (the arms shared by `.seq`, `.tuple`,
           `.tupleStruct` and the payload of `.tupleVariant` in `Spec.blameDT`)
  `recS`   the same for `serialize_struct` (`.record`, payload of `.structVariant`)
  (`mapS`, the same for `serialize_map`, is in `C18BlameMap`)
-/
namespace SaModel.Props.C18
open SaModel SaModel.Build SaModel.Spec

theorem Shape_fsl_form {b : B} {f : Field} {k : Int} {n : Bool} {md : Metadata}
    (h : Shape b (.fixedSizeList f k) n md) : ∃ p fm m len v cur el, b = .fixedSizeList p fm m len v cur el := by
  cases b with
  | fixedSizeList p fm m len v cur el => exact ⟨_, _, _, _, _, _, _, rfl⟩
  | bytes _ ty _ _ _ => cases ty <;> simp [Shape, bytesDT] at h
  | bytesView _ ty _ _ _ => cases ty <;> simp [Shape, viewDT] at h
  | list _ large _ _ _ _ => cases large <;> simp [Shape] at h
  | _ => simp [Shape, kindOf] at h

def isSeqCont : B → Bool
  | .list _ _ _ _ _ _ | .fixedSizeList _ _ _ _ _ _ _ => true
  | _ => false

def isList : B → Bool
  | .list _ _ _ _ _ _ => true
  | _ => false

theorem pushCountElems_not_plain (ext : Ext) : ∀ (xs : SVals) (el : B) (c : Nat) (msg : String),
    pushCountElems ext el c xs ≠ .error (.err msg)
  | .nil, el, c, msg => by simp [pushCountElems]
  | .cons x rest, el, c, msg => by
    intro h
    simp only [pushCountElems] at h
    rcases bind_err_plain h with h | ⟨el', _, h⟩
    · exact push_never_plain ext x el msg h
    · exact pushCountElems_not_plain ext rest el' _ msg h

def ElemsBl (ext : Ext) (xs : SVals) : Prop :=
  ∀ (large : Bool) (el : B) (offs : List Int) (cpath : String) (cdt : DataType) (cn : Bool) (cmd : Metadata),
    GoodH el cdt cn cmd → At cpath cdt cn cmd el → vsizes ext xs ≤ room el →
    Bl (blameAll ext cpath cdt cn cmd xs) (pushElems ext large el offs xs)

def CountBl (ext : Ext) (xs : SVals) : Prop :=
  ∀ (el : B) (c : Nat) (cpath : String) (cdt : DataType) (cn : Bool) (cmd : Metadata),
    GoodH el cdt cn cmd → At cpath cdt cn cmd el → vsizes ext xs ≤ room el →
    Bl (blameAll ext cpath cdt cn cmd xs) (pushCountElems ext el c xs)

/-- the position the next tuple element goes to: field `j`, or beyond the last field (then it is ignored) -/
def NextIs (s : SS) (j : Nat) : Prop := s.next = j ∨ (s.fields.length ≤ s.next ∧ s.fields.length ≤ j)

/-- `pushTupleElems` in continuation-passing style: the names presented so far are the first `j` field names -/
def TupleBl (ext : Ext) (xs : SVals) : Prop :=
  ∀ {β : Type} (k : SS → R β) (S : List String) (path : String) (sfs : Fields) (s : SS) (j : Nat),
    MidS path sfs s → NextIs s j → SeenIs s ((sfs.toList.map Field.name).take j) → vsizes ext xs + 1 ≤ roomL s.fields →
    (∀ q ∈ blameNth ext path (sfs.toList.drop j) xs, q ∈ S) →
    (∀ s', MidS path sfs s' → SeenIs s' ((sfs.toList.map Field.name).take (j + xs.length)) → 1 ≤ roomL s'.fields →
      Blo S path (k s')) →
    Blo S path (pushTupleElems ext s xs >>= k)

def FieldsBl (ext : Ext) (fields : SFields) : Prop :=
  ∀ {β : Type} (k : SS → R β) (S : List String) (path : String) (sfs : Fields) (s : SS) (done : List String),
    MidS path sfs s → SeenIs s done → vsizef ext fields + 1 ≤ roomL s.fields →
    (dupKeys (done ++ knownKeys sfs.toList (fieldKeys fields)) = true → path ∈ S) →
    (∀ q ∈ blameFields ext path sfs.toList fields, q ∈ S) →
    (∀ s', MidS path sfs s' → SeenIs s' (done ++ knownKeys sfs.toList (fieldKeys fields)) → 1 ≤ roomL s'.fields →
      Blo S path (k s')) →
    Blo S path (pushFields ext s fields >>= k)

/-- `pushStructEntries`: additionally a key that is not a string is the struct's own failure -/
def EntriesBl (ext : Ext) (es : SEntries) : Prop :=
  ∀ {β : Type} (k : SS → R β) (S : List String) (path : String) (sfs : Fields) (s : SS) (done : List String),
    MidS path sfs s → SeenIs s done → vsizee ext es + 1 ≤ roomL s.fields →
    (dupKeys (done ++ knownKeys sfs.toList (entryKeys es)) = true → path ∈ S) →
    ((keysAreStrings es).isOk = false → path ∈ S) →
    (∀ q ∈ blameEntriesStruct ext path sfs.toList es, q ∈ S) →
    (∀ s', MidS path sfs s' → SeenIs s' (done ++ knownKeys sfs.toList (entryKeys es)) → 1 ≤ roomL s'.fields →
      Blo S path (k s')) →
    Blo S path (pushStructEntries ext s es >>= k)

def MapEntriesBl (ext : Ext) (es : SEntries) : Prop :=
  ∀ (offs : List Int) (ks vs : B) (kp : String) (kdt : DataType) (kn : Bool) (kmd : Metadata)
    (vp : String) (vdt : DataType) (vn : Bool) (vmd : Metadata),
    GoodH ks kdt kn kmd → At kp kdt kn kmd ks → GoodH vs vdt vn vmd → At vp vdt vn vmd vs →
    vsizee ext es ≤ room ks → vsizee ext es ≤ room vs →
    Bl (blameEntriesMap ext kp kdt kn kmd vp vdt vn vmd es) (pushMapEntries ext offs ks vs es)

/-- what `Spec.blameDT` blames for a sequence (`tup = false`) / a tuple or tuple struct (`tup = true`) at a position
of type `dt` where the documented mapping is undefined -/
def seqS (ext : Ext) (path : String) (dt : DataType) (tup : Bool) (xs : SVals) : List String :=
  match dt with
  | .list (.mk cn cdt cnl cmd) | .largeList (.mk cn cdt cnl cmd) =>
    let inner := blameAll ext (path ++ "." ++ childName cn) cdt cnl cmd xs
    if inner.isEmpty then [path] else inner
  | .fixedSizeList (.mk cn cdt cnl cmd) n =>
    let inner := blameAll ext (path ++ "." ++ childName cn) cdt cnl cmd xs
    (if ((xs.length : Int) != n) || inner.isEmpty then [path] else []) ++ inner
  | .struct fs =>
    if tup then structS path fs.toList (positionalKeys fs.toList xs.length) false (blameNth ext path fs.toList xs)
    else [path]
  | _ => [path]

/- The equations below follow the arms of `seqS` / `recS` / `mapS` (`split` on their match); in the catch-all arm the
match of `blameDT` is split in turn and the other arms contradict. -/

theorem blameDT_seq_eq {ext : Ext} {path : String} {dt n md} {xs : SVals}
    (hi : (interpDT ext dt n md (.seq xs)).isOk = false) :
    blameDT ext path dt n md (.seq xs) = seqS ext path dt false xs := by
  unfold seqS
  split
  · simp [blameDT, hi]
  · simp [blameDT, hi]
  · simp [blameDT, hi]
  · simp [blameDT, hi]
  · rename_i h1 h2 h3 _
    unfold blameDT
    rw [hi, if_neg Bool.false_ne_true]
    split
    · exact absurd rfl (h1 _ _ _ _)
    · exact absurd rfl (h2 _ _ _ _)
    · exact absurd rfl (h3 _ _ _ _ _)
    · rfl

theorem blameDT_tuple_eq {ext : Ext} {path : String} {dt n md} {xs : SVals}
    (hi : (interpDT ext dt n md (.tuple xs)).isOk = false) :
    blameDT ext path dt n md (.tuple xs) = seqS ext path dt true xs := by
  unfold blameDT seqS
  rw [hi, if_neg Bool.false_ne_true]
  split <;> simp [segName_eq, structS]

theorem blameDT_tupleStruct_eq {ext : Ext} {path : String} {dt n md} {nm : String} {xs : SVals}
    (hi : (interpDT ext dt n md (.tuple xs)).isOk = false) :
    blameDT ext path dt n md (.tupleStruct nm xs) = seqS ext path dt true xs := by
  unfold blameDT seqS
  rw [hi, if_neg Bool.false_ne_true]
  split <;> simp [segName_eq, structS]

/-- the payload of a tuple variant is blamed as a tuple at the variant's column -/
theorem seqS_sub_tupleVariant {ext : Ext} {path : String} {ufs : UFields} {mode : UnionMode} {n md} {a : String} {i : Nat}
    {vn : String} {xs : SVals} {tid : Int} {nm : String} {cdt : DataType} {cn : Bool} {cmd : Metadata}
    (hufs : ufs.toList[i]? = some (tid, .mk nm cdt cn cmd))
    (hi : (interpDT ext (.union ufs mode) n md (.tupleVariant a i vn xs)).isOk = false) :
    ∀ q ∈ seqS ext (path ++ "." ++ childName nm) cdt true xs,
      q ∈ blameDT ext path (.union ufs mode) n md (.tupleVariant a i vn xs) := by
  intro q hq
  unfold seqS at hq
  split at hq
  · simpa [blameDT, hi, hufs] using hq
  · simpa [blameDT, hi, hufs] using hq
  · simpa [blameDT, hi, hufs] using hq
  · simpa [blameDT, hi, hufs, structS] using hq
  · simp only [List.mem_singleton] at hq; subst hq
    unfold blameDT
    rw [hi, if_neg Bool.false_ne_true]
    simp only [hufs, segName_eq]
    simp

theorem seqS_self {ext : Ext} {b : B} {path : String} {dt n md} {tup : Bool} {xs : SVals} (hsh : Shape b dt n md)
    (hb : isSeqCont b = false) (hs : b.isStruct = false ∨ tup = false) : path ∈ seqS ext path dt tup xs := by
  cases dt
  case list f =>
    obtain ⟨_, _, _, _, _, _, rfl⟩ := Shape_list_form (.inl hsh); simp [isSeqCont] at hb
  case largeList f =>
    obtain ⟨_, _, _, _, _, _, rfl⟩ := Shape_list_form (.inr hsh); simp [isSeqCont] at hb
  case fixedSizeList f k =>
    obtain ⟨_, _, _, _, _, _, _, rfl⟩ := Shape_fsl_form hsh; simp [isSeqCont] at hb
  case struct sfs =>
    obtain ⟨_, _, _, _, _, _, _, rfl⟩ := Shape_struct_form hsh
    rcases hs with hs | hs
    · simp [B.isStruct] at hs
    · subst hs; simp [seqS]
  all_goals simp [seqS]

theorem knownKeys_positional (fs : List Field) (n : Nat) :
    knownKeys fs (positionalKeys fs n) = (fs.map Field.name).take n := by
  simp only [knownKeys, positionalKeys, List.map_take]
  rw [List.filter_eq_self]
  intro k hk
  obtain ⟨f, hf, rfl⟩ := List.mem_map.1 (List.mem_of_mem_take hk)
  exact List.any_eq_true.2 ⟨f, hf, by simp⟩

theorem seqLike_bl {ext : Ext} [ExtPlain ext] {xs : SVals} (hpe : ElemsBl ext xs) (hpc : CountBl ext xs)
    (hpt : TupleBl ext xs) (k : SeqKind) {b : B} {path : String} {dt n md} (hg : GoodH b dt n md)
    (ha : At path dt n md b) (hcap : vsizes ext xs + 1 ≤ room b) :
    Bl (seqS ext path dt (k != .seq) xs) (ctx b.ann (seqLikeWith (fun large el offs => pushElems ext large el offs xs)
      (fun el c => pushCountElems ext el c xs) (fun s => pushTupleElems ext s xs) (u8All xs) b k)) := by
  cases b with
  | list p large fm v offs el =>
    have hp : p = path := ha.path
    obtain ⟨cname, cdt, cn, cmd, hdt, hgel, hael⟩ := list_child hg ha
    have hS : seqS ext path dt (k != .seq) xs =
        (if (blameAll ext (path ++ "." ++ childName cname) cdt cn cmd xs).isEmpty then [path]
         else blameAll ext (path ++ "." ++ childName cname) cdt cn cmd xs) := by
      rcases hdt with rfl | rfl <;> simp [seqS]
    have hroom : vsizes ext xs ≤ room el := by simp only [room] at hcap; omega
    rw [hS, ← hp]
    exact list_row_bl hg.wf hcap fun offs' l hl h0 hle =>
      ⟨hp ▸ hpe large el offs' _ cdt cn cmd hgel hael hroom,
        fun msg => pushElems_not_plain ext large xs el offs' l msg hl h0 hle⟩
  | fixedSizeList p fm m len v cur el =>
    have hp : p = path := ha.path
    have hsh := hg.shape
    simp only [Shape] at hsh
    obtain ⟨_, cname, cdt, cn, cmd, hdt, hsel⟩ := hsh
    subst hdt
    have hw := hg.wf
    simp only [WFH] at hw
    have hsafe := hg.nd
    simp only [NoDictKey] at hsafe
    have ht := hg.tot
    simp only [total, totalF, Bool.and_eq_true] at ht
    have hgel : GoodH el cdt cn cmd := ⟨hw.2.2, hsafe, hsel, ht.1⟩
    have hael := ha.fixedSizeList
    have hS : seqS ext path (.fixedSizeList (.mk cname cdt cn cmd) (m : Int)) (k != .seq) xs =
        (if ((xs.length : Int) != (m : Int)) || (blameAll ext (path ++ "." ++ childName cname) cdt cn cmd xs).isEmpty
          then [path] else []) ++ blameAll ext (path ++ "." ++ childName cname) cdt cn cmd xs := by
      simp [seqS]
    have hroom : vsizes ext xs ≤ room el := by simp only [room] at hcap; omega
    rw [hS, ← hp]
    exact fsl_row_bl (fun r hr => by simpa using pushCountElems_count ext xs el 0 r hr)
      (hp ▸ hpc el 0 _ cdt cn cmd hgel hael hroom)
      (fun msg => pushCountElems_not_plain ext xs el 0 msg)
  | struct p len v fs cached next seen =>
    cases k with
    | seq =>
      refine Bl.ctx_self _ (by rw [ha.path]; exact seqS_self hg.shape rfl (.inr (by decide))) ?_
      unfold seqLikeWith; exact NoCtx.bl _
    | tuple | tupleStruct =>
      have hsh := hg.shape
      simp only [Shape] at hsh
      obtain ⟨_, sfs, rfl, hsl⟩ := hsh
      have hS : seqS ext path (.struct sfs) true xs =
          structS path sfs.toList (positionalKeys sfs.toList xs.length) false (blameNth ext path sfs.toList xs) := by
        simp [seqS]
      first
        | rw [show (SeqKind.tuple != SeqKind.seq) = true from by decide, hS]
        | rw [show (SeqKind.tupleStruct != SeqKind.seq) = true from by decide, hS]
      unfold seqLikeWith
      simp only [room] at hcap
      refine struct_row_bl hg ha fun kk s hm hs hfs hnx hk => ?_
      refine hpt kk _ path sfs s 0 hm (.inl hnx) (by simpa using hs) (by rw [hfs]; omega)
        (fun q hq => mem_structS_inner q (by simpa using hq)) ?_
      intro s' hm' hs' hr'
      refine hk s' hm' ?_ hr'
      rw [knownKeys_positional]
      simpa using hs'
  | null _ _ | unknownVariant _ | leaf _ _ _ _ | bytes _ _ _ _ _ | bytesView _ _ _ _ _ | fixedSizeBinary _ _ _ _ _ _
  | map _ _ _ _ _ _ | dictionary _ _ _ _ | union _ _ _ _ _ =>
    refine Bl.ctx_self _ (by rw [ha.path]; exact seqS_self hg.shape rfl (.inl rfl)) ?_
    unfold seqLikeWith; exact NoCtx.bl _

/-- the only plain error of `ListBuilder::serialize_bytes`' element loop is the overflow of the offsets the list owns
(the element builder annotates its own errors) -/
theorem pushByteElems_plain (ext : Ext) (large : Bool) : ∀ (bs : Bytes) (el : B) (offs : List Int) (l : Int) (msg : String),
    offs.getLast? = some l → 0 ≤ l → pushByteElems ext large el offs bs = .error (.err msg) →
    msg = "offset overflow" ∧ l + bs.length > offMax large
  | [], el, offs, l, msg, _, _, h => by simp [pushByteElems] at h
  | x :: rest, el, offs, l, msg, hl, h0, h => by
    simp only [pushByteElems] at h
    simp only [List.length_cons]
    rcases incr_plain hl h with ⟨hm, hov⟩ | h
    · exact ⟨hm, by omega⟩
    · rcases bind_err_plain h with h | ⟨el', _, h⟩
      · exact absurd h (ctx_never_plain rfl _ msg)
      · obtain ⟨hm, hgt⟩ := pushByteElems_plain ext large rest el' _ (l + ((1 : Nat) : Int)) msg (by simp) (by omega) h
        exact ⟨hm, by omega⟩

def recS (ext : Ext) (path : String) (dt : DataType) (fields : SFields) : List String :=
  match dt with
  | .struct fs => structS path fs.toList (fieldKeys fields) false (blameFields ext path fs.toList fields)
  | _ => [path]

theorem blameDT_record_eq {ext : Ext} {path : String} {dt n md} {nm : String} {fields : SFields}
    (hi : (interpDT ext dt n md (.record nm fields)).isOk = false) :
    blameDT ext path dt n md (.record nm fields) = recS ext path dt fields := by
  have hi' : (interpDT ext dt n md (.record "" fields)).isOk = false := by
    simpa only [interpDT] using hi
  unfold blameDT recS
  rw [hi', if_neg Bool.false_ne_true]
  split <;> simp [structS]

theorem recS_sub_structVariant {ext : Ext} {path : String} {ufs : UFields} {mode : UnionMode} {n md} {a : String} {i : Nat}
    {vn : String} {fields : SFields} {tid : Int} {nm : String} {cdt : DataType} {cn : Bool} {cmd : Metadata}
    (hufs : ufs.toList[i]? = some (tid, .mk nm cdt cn cmd))
    (hi : (interpDT ext (.union ufs mode) n md (.structVariant a i vn fields)).isOk = false) :
    ∀ q ∈ recS ext (path ++ "." ++ childName nm) cdt fields,
      q ∈ blameDT ext path (.union ufs mode) n md (.structVariant a i vn fields) := by
  intro q hq
  unfold blameDT
  rw [hi, if_neg Bool.false_ne_true]
  simp only [hufs, segName_eq]
  unfold recS at hq
  split at hq
  · simpa [structS] using hq
  · simp only [List.mem_singleton] at hq; subst hq; split <;> simp_all

theorem recS_self {ext : Ext} {b : B} {path : String} {dt n md} {fields : SFields} (hsh : Shape b dt n md)
    (hb : b.isStruct = false) : path ∈ recS ext path dt fields := by
  unfold recS
  split
  · obtain ⟨_, _, _, _, _, _, _, rfl⟩ := Shape_struct_form hsh; simp [B.isStruct] at hb
  · simp

theorem recordLike_bl {ext : Ext} [ExtPlain ext] {fields : SFields} (hpf : FieldsBl ext fields) {b : B} {path : String}
    {dt n md} (hg : GoodH b dt n md) (ha : At path dt n md b) (hcap : vsizef ext fields + 1 ≤ room b) :
    Bl (recS ext path dt fields) (ctx b.ann (recordWith (fun s => pushFields ext s fields) b)) := by
  cases b with
  | struct p len v fs cached next seen =>
    have hsh := hg.shape
    simp only [Shape] at hsh
    obtain ⟨_, sfs, rfl, hsl⟩ := hsh
    have hS : recS ext path (.struct sfs) fields =
        structS path sfs.toList (fieldKeys fields) false (blameFields ext path sfs.toList fields) := by
      simp [recS]
    rw [hS]
    unfold recordWith
    simp only [room] at hcap
    refine struct_row_bl hg ha fun k s hm hs hfs _ hk => ?_
    exact hpf k _ path sfs s [] hm hs (by rw [hfs]; omega)
      (fun hd => mem_structS_own (by simp only [structOwnFails, Bool.or_eq_true]; left; simpa [knownKeys] using hd))
      mem_structS_inner (by simpa using hk)
  | unknownVariant _ =>
    refine Bl.ctx_self _ (by rw [ha.path]; exact recS_self hg.shape rfl) ?_
    unfold recordWith; exact NoCtx.bl _
  | null _ _ | leaf _ _ _ _ | bytes _ _ _ _ _ | bytesView _ _ _ _ _ | fixedSizeBinary _ _ _ _ _ _
  | list _ _ _ _ _ _ | fixedSizeList _ _ _ _ _ _ _ | map _ _ _ _ _ _ | dictionary _ _ _ _ | union _ _ _ _ _ =>
    refine Bl.ctx_self _ (by rw [ha.path]; exact recS_self hg.shape rfl) ?_
    unfold recordWith; exact NoCtx.bl _

end SaModel.Props.C18
