import SaModel.Lemmas.C12TypedPrim
import SaModel.Lemmas.ReadLeaf
/-
C12 helpers (typed reads on slices): the leaf layer — `is_some`, the scalar `deserialize_*` methods, the
byte / string element accessors.  Equalities of outcomes under `SliceOK` (window, `sliceable`, `new`, `physical` of the
WHOLE array).
-/
namespace SaModel.Lemmas.C12
open SaModel SaModel.Read SaModel.Spec

theorem nullCheck_slice (fx : Fixes) (len o l i : Nat) (hi : i < l) (h : o + l ≤ len) :
    nullCheck fx l i = nullCheck fx len (o + i) := by
  have c1 : ¬ i ≥ l := by omega
  have c2 : ¬ o + i ≥ len := by omega
  simp only [nullCheck, c1, c2, decide_false, Bool.and_false, Bool.false_eq_true, if_false]

theorem structItem_slice (fx : Fixes) (len o l i : Nat) (hi : i < l) (h : o + l ≤ len) :
    structItem fx l i = structItem fx len (o + i) := by
  have c1 : ¬ i ≥ l := by omega
  have c2 : ¬ o + i ≥ len := by omega
  simp only [structItem, c1, c2, decide_false, Bool.and_false, Bool.false_eq_true, if_false]

theorem dictGetStr_slice (fx : Fixes) (ks vs : Arr) (o l i : Nat) (hi : i < l) (h : SliceOK fx (.dictionary ks vs) o l) :
    dictGetStr fx (sliceView ks o l) vs i = dictGetStr fx ks vs (o + i) := by
  obtain ⟨kty, kv, kvals, vty, voffs, vdata, rfl, rfl, _⟩ := h.dict
  simp only [sliceView, dictGetStr, primGet_window fx kv kvals o l i hi]

/-- an array without children and its slice: same tags, and each accessor on the windowed buffers at `i` is the
accessor on the whole buffers at `o + i` (C12TypedPrim) -/
theorem leafSim_slice (fx : Fixes) (a : Arr) (o l i : Nat) (hi : i < l) (h : SliceOK fx a o l) (hc : childless a = true) :
    LeafSim fx (sliceView a o l) i a (o + i) := by
  have hb := h.1
  cases a with
  | null len => simp only [lenOf] at hb; simp only [sliceView]; exact .null (nullCheck_slice fx len o l i hi hb)
  | boolean len v vals =>
    simp only [lenOf] at hb; simp only [sliceView]; exact .boolean (boolGet_shift fx len v vals o l i hi hb)
  | prim ty v vals => simp only [sliceView]; exact .prim ty (primGet_window fx v vals o l i hi)
  | time ty u v vals => simp only [sliceView]; exact .time ty u (primGet_window fx v vals o l i hi)
  | timestamp u tz v vals => simp only [sliceView]; exact .timestamp u tz (primGet_window fx v vals o l i hi)
  | decimal128 p s v vals => simp only [sliceView]; exact .decimal128 p s (primGet_window fx v vals o l i hi)
  | bytes ty v offs data =>
    simp only [lenOf] at hb; simp only [sliceView]; exact .bytes ty (bytesColGet_window fx ty v offs data o l i hi hb)
  | bytesView ty v views buffers => simp only [sliceView]; exact .bytesView ty (viewColGet_window fx ty v views buffers o l i hi)
  | fixedSizeBinary n v data =>
    simp only [sliceView]; exact .fixedSizeBinary n (fsbColGet_window fx n v data o l i hi hb h.2.2.1)
  | dictionary ks vs =>
    simp only [sliceView]
    refine .dictionary ?_ (dictGetStr_slice fx ks vs o l i hi h)
    obtain ⟨kty, kv, kvals, vty, voffs, vdata, rfl, rfl, _⟩ := h.dict
    simp only [sliceView, isSome, primGet_window fx kv kvals o l i hi]
  | _ => cases hc

theorem childless_slice (a : Arr) (o l : Nat) : childless (sliceView a o l) = childless a := by
  cases a <;> first | rfl | (rename_i offs _; cases offs <;> rfl)

theorem isSome_slice (fx : Fixes) (a : Arr) (o l i : Nat) (hi : i < l) (h : SliceOK fx a o l) :
    isSome fx (sliceView a o l) i = isSome fx a (o + i) := by
  have hb := h.1
  cases a with
  | struct len v _ | fixedSizeList len v _ _ _ =>
    simp only [lenOf] at hb
    have c1 : ¬ i ≥ l := by omega
    have c2 : ¬ o + i ≥ len := by omega
    simp only [sliceView, isSome, c1, c2, if_false, validityIsSet_shift]
  | list _ v offs _ _ | map v offs _ _ _ =>
    simp only [lenOf] at hb
    obtain ⟨hlen, hlt⟩ := offs_window_len offs o l i hi hb
    have c1 : ¬ i + 1 ≥ l + 1 := by omega
    have c2 : ¬ o + i + 1 ≥ offs.length := by omega
    simp only [sliceView, isSome, hlen, c1, c2, if_false, validityIsSet_shift]
  | union types offs fs =>
    simp only [lenOf] at hb
    have c1 : ¬ i ≥ l := by omega
    have c2 : ¬ o + i ≥ types.length := by omega
    cases offs <;> simp only [sliceView, isSome, window_length types o l hb, c1, c2, if_false]
  | _ => exact (leafSim_slice fx _ o l i hi h rfl).isSome

/-- the scalar `deserialize_*` methods, the bytes of a binary-like element (`deserialize_seq` over
`U8SliceDeserializer`), the string of a string-like element (`deserialize_enum` over `EnumAccess(&str)`) -/
theorem leafOps_slice (fx : Fixes) (a : Arr) (o l i : Nat) (hi : i < l) (h : SliceOK fx a o l) :
    (∀ m, scalar fx m (sliceView a o l) i = scalar fx m a (o + i)) ∧
      binaryElems fx (sliceView a o l) i = binaryElems fx a (o + i) ∧
      stringElem fx (sliceView a o l) i = stringElem fx a (o + i) :=
  leafOps_congr (childless_slice a o l).symm fun hc => leafSim_slice fx a o l i hi h ((childless_slice a o l).symm.trans hc)

theorem scalar_slice (fx : Fixes) (m : Method) (a : Arr) (o l i : Nat) (hi : i < l) (h : SliceOK fx a o l) :
    scalar fx m (sliceView a o l) i = scalar fx m a (o + i) := (leafOps_slice fx a o l i hi h).1 m

theorem binaryElems_slice (fx : Fixes) (a : Arr) (o l i : Nat) (hi : i < l) (h : SliceOK fx a o l) :
    binaryElems fx (sliceView a o l) i = binaryElems fx a (o + i) := (leafOps_slice fx a o l i hi h).2.1

theorem stringElem_slice (fx : Fixes) (a : Arr) (o l i : Nat) (hi : i < l) (h : SliceOK fx a o l) :
    stringElem fx (sliceView a o l) i = stringElem fx a (o + i) := (leafOps_slice fx a o l i hi h).2.2

end SaModel.Lemmas.C12
