import SaModel.Lemmas.C01ObsCont
import SaModel.Lemmas.C01Interp
/-
C01 "hidden rows" — R1' for the non-recursive operations `serialize_default` × k, `serialize_none` and the scalar
calls, WITHOUT the first clause of `Safe`:
  pushDefaultK_refinesN  k placeholders: `WFH` kept, k more rows, every DETERMINED row unchanged; the new rows are determined
                         nulls when the builder is nullable and left open (`none`) otherwise (`pushDefaultK_refines`: left
                         open in both cases)
  pushNone_refines       a null appends the determined row `null` (the case k = 1 of a nullable builder, `pushNone_ok_iff`)
  pushScalar_refines     a scalar call appends one determined row
Instances of `DefaultCases` / `ScalarCases` (Lemmas/OpsInd.lean).  The childless families go through the theorems of
Lemmas/C01Ops.lean (for them `WFH` is `WFB`).
-/
namespace SaModel.Build
open SaModel SaModel.Spec

theorem Refines.weaken_tail {x y ls : H} {k : Nat} (h : Refines x (y ++ ls)) (hl : ls.length = k) :
    Refines x (y ++ List.replicate k none) :=
  h.trans (Refines.append (Refines.refl _) (Refines.of_none hl))

/-! ### a clause about the integer rows of a key builder, under the operations a key builder sees

`KeysP P idx`: every integer row of `idx` satisfies `P`.  The observable key clause `KeysH` is `KeysP` at "in range, or the
placeholder 0 of a non-nullable builder"; the strict one (`StrictKeys`, Lemmas/C01Strict.lean) at "in range". -/

def KeysP (P : Int → Prop) (idx : B) : Prop := ∀ k ∈ dec idx, ∀ j : Int, k = .int j → P j

theorem KeysP.append {P : Int → Prop} {b b' : B} {ls : List LVal} (hd : dec b' = dec b ++ ls) (hk : KeysP P b)
    (hl : ∀ l ∈ ls, ∀ j : Int, l = .int j → P j) : KeysP P b' := by
  intro k hk' j hj
  rw [hd] at hk'
  rcases List.mem_append.1 hk' with h | h
  · exact hk k h j hj
  · exact hl k h j hj

theorem KeysP.mono {P Q : Int → Prop} {b : B} (hk : KeysP P b) (h : ∀ j, P j → Q j) : KeysP Q b :=
  fun k hk' j hj => h j (hk k hk' j hj)

/-- only leaf builders (and dictionaries) have integer rows -/
theorem dec_not_int_of_not_leaf : ∀ (b : B), (∀ p k v vals, b ≠ .leaf p k v vals) → b.isDict = false →
    ∀ r ∈ dec b, ∀ j : Int, r ≠ .int j
  | .null _ _, _, _ => by
    intro r hr j
    simp only [dec, List.mem_replicate] at hr
    rw [hr.2]; intro h; cases h
  | .unknownVariant _, _, _ => by simp [dec]
  | .leaf p k v vals, h, _ => absurd rfl (h p k v vals)
  | .bytes _ ty v offs data, _, _ => by
    intro r hr j
    simp only [dec] at hr
    rcases mem_maskNull hr with h | h
    · rw [h]; intro h; cases h
    · obtain ⟨se, _, rfl⟩ := List.mem_map.1 h
      simp only [bytesVal]; split <;> (intro h; cases h)
  | .bytesView _ ty v views buf, _, _ => by
    intro r hr j
    simp only [dec] at hr
    rcases mem_maskNull hr with h | h
    · rw [h]; intro h; cases h
    · obtain ⟨se, _, rfl⟩ := List.mem_map.1 h
      simp only [bytesVal]; split <;> (intro h; cases h)
  | .fixedSizeBinary _ n len v buf _, _, _ => by
    intro r hr j
    simp only [dec] at hr
    rcases mem_maskNull hr with h | h
    · rw [h]; intro h; cases h
    · obtain ⟨se, _, rfl⟩ := List.mem_map.1 h
      intro h; cases h
  | .list p l fm v offs el, _, _ => dec_container_not_int rfl rfl
  | .fixedSizeList p fm n len v c el, _, _ => dec_container_not_int rfl rfl
  | .map p mm v offs ks vs, _, _ => dec_container_not_int rfl rfl
  | .struct p len v fs c n s, _, _ => dec_container_not_int rfl rfl
  | .dictionary _ _ _ _, _, h => by simp [B.isDict] at h
  | .union p fs t o c, _, _ => dec_container_not_int rfl rfl

theorem leafVal_zero_int {kind : LeafKind} {j : Int} (h : leafVal kind 0 = .int j) : j = 0 := by
  cases kind <;> simp [leafVal] at h <;> omega

theorem iter_default_none : ∀ (k : Nat) (vals : List Int),
    iter k (fun (s : Validity × List Int) => (.ok (setValidityDefault s.1 s.2.length, s.2 ++ [0]) : R (Validity × List Int)))
      (none, vals) = .ok (none, vals ++ List.replicate k 0)
  | 0, vals => by simp [iter]
  | k + 1, vals => by
    simp only [iter, bind, Except.bind]
    have e : setValidityDefault (none : Validity) vals.length = none := rfl
    simp only [e]
    rw [iter_default_none k (vals ++ [0])]
    simp [List.replicate_succ]

/-- a key builder keeps its family (`takeRest`), and only leaf builders have integer rows: there is something to show for
a leaf only -/
theorem KeysP.of_leaf {P : Int → Prop} {b b' : B} (hd : b.isDict = false) (htr : takeRest b' = takeRest b)
    (hleaf : ∀ p kind v vals, b = .leaf p kind v vals → KeysP P b') : KeysP P b' := by
  by_cases hl : ∃ p kind v vals, b = .leaf p kind v vals
  · obtain ⟨p, kind, v, vals, rfl⟩ := hl
    exact hleaf _ _ _ _ rfl
  · intro k hk j hj
    refine absurd hj (dec_not_int_of_not_leaf b' ?_ (by rw [← isDict_takeRest, htr, isDict_takeRest]; exact hd) k hk j)
    intro p kind v vals he
    subst he
    cases b <;> first | exact hl ⟨_, _, _, _, rfl⟩ | simp only [takeRest, reduceCtorEq] at htr

/-- placeholders: a nullable builder appends nulls, a non-nullable leaf the value `0` -/
theorem pushDefaultK_keysP {P : Int → Prop} {b b' : B} {k : Nat} (hd : b.isDict = false) (hw : WFH b)
    (h : pushDefaultK b k = .ok b') (h0 : b.isNullable = false → P 0) (hk : KeysP P b) : KeysP P b' := by
  refine KeysP.of_leaf hd (pushDefaultK_takeRest b k b' h) ?_
  rintro p kind v vals rfl
  obtain ⟨_, ls, hls, hdec, hnull⟩ := pushDefaultK_appends_flat _ k b' rfl (flat_WFB rfl hw) h
  refine KeysP.append hdec hk ?_
  intro l hl j hj
  cases v with
  | some bits =>
    rw [hnull rfl] at hl
    rw [(List.mem_replicate.1 hl).2] at hj; cases hj
  | none =>
    simp only [pushDefaultK] at h
    rw [iter_default_none] at h
    simp only [bind, Except.bind, pure, Except.pure] at h
    cases h
    simp only [dec, maskNull, List.map_append, List.append_cancel_left_eq] at hdec
    rw [← hdec] at hl
    simp only [List.map_replicate, List.mem_replicate] at hl
    rw [hl.2] at hj
    rw [leafVal_zero_int hj]
    exact h0 rfl

/-- an integer call into a key builder: the new key is that integer -/
theorem pushScalar_keysP (ext : Ext) {P : Int → Prop} {b b' : B} {t : IntTy} {i : Int} (hd : b.isDict = false) (hw : WFH b)
    (h : pushScalar ext b (.int t i) = .ok b') (hi : P i) (hk : KeysP P b) : KeysP P b' := by
  refine KeysP.of_leaf hd (pushScalar_takeRest ext b _ b' h) ?_
  rintro p kind v vals rfl
  obtain ⟨_, lv, hdec, hint⟩ := pushScalar_appends_flat ext _ _ b' rfl (flat_WFB rfl hw) h
  refine KeysP.append hdec hk ?_
  intro l hl j hj
  simp only [List.mem_singleton] at hl
  subst hl
  rw [hint t i j rfl hj]
  exact hi

/-- `KeysH` of a builder of the same family (`is_nullable` is a property of what `take` leaves behind) -/
theorem KeysH.of_keysP {b b' : B} {index : List String} (htr : takeRest b' = takeRest b)
    (h : KeysP (fun j => 0 ≤ j ∧ (j.toNat < index.length ∨ (j = 0 ∧ b.isNullable = false))) b') : KeysH b' index := by
  rw [← isNullable_of_takeRest htr] at h; exact h

theorem KeysH.mono {b : B} {index index' : List String} (hk : KeysH b index) (hl : index.length ≤ index'.length) :
    KeysH b index' :=
  KeysP.mono hk fun _ h => ⟨h.1, h.2.imp (fun h => by omega) id⟩

theorem pushDefaultK_keys {b b' : B} {k : Nat} {index : List String} (hd : b.isDict = false) (hw : WFH b)
    (h : pushDefaultK b k = .ok b') (hk : KeysH b index) : KeysH b' index :=
  KeysH.of_keysP (pushDefaultK_takeRest b k b' h)
    (pushDefaultK_keysP hd hw h (fun hn => ⟨by omega, Or.inr ⟨rfl, hn⟩⟩) hk)

theorem pushScalar_keys (ext : Ext) {b b' : B} {t : IntTy} {i : Int} {index : List String} (hd : b.isDict = false)
    (hw : WFH b) (h : pushScalar ext b (.int t i) = .ok b') (hi : 0 ≤ i ∧ i.toNat < index.length) (hk : KeysH b index) :
    KeysH b' index :=
  KeysH.of_keysP (pushScalar_takeRest ext b _ b' h) (pushScalar_keysP ext hd hw h ⟨hi.1, Or.inl hi.2⟩ hk)

/-! ### the childless families, through Lemmas/C01Ops.lean -/

theorem pushScalar_flat (ext : Ext) {b b' : B} {x : SVal} (hf : b.isFlat = true) (hw : WFH b)
    (h : pushScalar ext b x = .ok b') :
    WFH b' ∧ ∃ lv, Refines (decH b') (decH b ++ [some lv]) ∧ ScalarRow ext b x lv := by
  obtain ⟨hw', lv, hr, hdec⟩ := (stored_scalar ext).scalar b x b' h hf (flat_WFB hf hw)
  have hf' := flat_of_takeRest (pushScalar_takeRest ext b x b' h) hf
  refine ⟨WFH_of_WFB _ hw', lv, ?_, hr⟩
  rw [flat_decH hf', flat_decH hf, hdec, List.map_append]
  exact Refines.refl _

/-! ### `serialize_default` × k and `serialize_none` -/

/-- what a placeholder row shows: a determined null when the builder is nullable, nothing otherwise -/
def ph (nullable : Bool) : Option LVal := if nullable then some .null else none

theorem Refines.to_ph {x y ls : H} {k : Nat} {nl : Bool} (h : Refines x (y ++ ls)) (hl : ls.length = k)
    (hn : nl = true → ls = List.replicate k (some .null)) : Refines x (y ++ List.replicate k (ph nl)) := by
  cases nl with
  | true => rw [hn rfl] at h; exact h
  | false => exact h.weaken_tail hl

theorem pushDefaultK_flatN {b b' : B} {k : Nat} (hf : b.isFlat = true) (h : pushDefaultK b k = .ok b') (hw : WFH b) :
    WFH b' ∧ Refines (decH b') (decH b ++ List.replicate k (ph b.isNullable)) := by
  obtain ⟨hw', ls, hls, hdec, hnull⟩ := pushDefaultK_appends_flat b k b' hf (flat_WFB hf hw) h
  have hf' := flat_of_takeRest (pushDefaultK_takeRest b k b' h) hf
  refine ⟨WFH_of_WFB _ hw', ?_⟩
  rw [flat_decH hf', flat_decH hf, hdec, List.map_append]
  exact (Refines.refl _).to_ph (by simp [hls]) (fun hn => by rw [hnull hn]; simp)

/-- a builder whose `serialize_default` is a step on its own state only -/
theorem iter_rowsN {α} (mk : α → B) (f : α → R α) (nl : Bool)
    (hstep : ∀ a a', WFH (mk a) → (mk a).isNullable = nl → f a = .ok a' → WFH (mk a') ∧ (mk a').isNullable = nl ∧
      ∃ l : LVal, Refines (decH (mk a')) (decH (mk a) ++ [some l]) ∧ (nl = true → l = .null))
    (k : Nat) (a a' : α) (hwf : WFH (mk a)) (hn : (mk a).isNullable = nl) (h : iter k f a = .ok a') :
    WFH (mk a') ∧ Refines (decH (mk a')) (decH (mk a) ++ List.replicate k (ph nl)) := by
  have := iter_inv (fun i x => WFH (mk x) ∧ (mk x).isNullable = nl ∧ ∃ ls : H, ls.length = i ∧
      Refines (decH (mk x)) (decH (mk a) ++ ls) ∧ (nl = true → ls = List.replicate i (some .null))) f (by
    intro i x x' ⟨hw, hnl, ls, hl, hd, hnull⟩ hf
    obtain ⟨hw', hnl', l, hd', hl'⟩ := hstep x x' hw hnl hf
    refine ⟨hw', hnl', ls ++ [some l], by simp [hl], Refines.extend hd hd', ?_⟩
    intro hn
    rw [hnull hn, hl' hn, List.replicate_succ']) k 0 a a' ⟨hwf, hn, [], rfl, by simpa using Refines.refl _, fun _ => rfl⟩ h
  simp only [Nat.zero_add] at this
  obtain ⟨hw', _, ls, hl, hd, hnull⟩ := this
  exact ⟨hw', hd.to_ph hl hnull⟩

theorem fslRowsH_length (n len : Nat) (t : H) : (fslRowsH n len t).length = len := by simp [fslRowsH]
theorem structRowsH_length (len : Nat) (cols : List (String × H)) : (structRowsH len cols).length = len := by
  simp [structRowsH]

/-- `k` placeholders: `WFH` kept, `k` more rows — determined nulls when the builder is nullable, left open otherwise —, every
determined row unchanged.  The childless families take the run itself from the motive (`pushDefaultK_flatN`). -/
theorem refines_default : DefaultCases
    (fun b k b' => pushDefaultK b k = .ok b' → WFH b → NoDictKey b →
      WFH b' ∧ Refines (decH b') (decH b ++ List.replicate k (ph b.isNullable)))
    (fun fs k fs' => ∀ len, WFHL fs len → NoDictKeyL fs → ∃ adds : List H, ExtLH fs fs' adds ∧ ∀ a ∈ adds, a.length = k) where
  defNull h hw _ := pushDefaultK_flatN rfl h hw
  defUnknown h hw _ := pushDefaultK_flatN rfl h hw
  defLeaf _ h hw _ := pushDefaultK_flatN rfl h hw
  defBytes _ h hw _ := pushDefaultK_flatN rfl h hw
  defView _ h hw _ := pushDefaultK_flatN rfl h hw
  defFixedSizeBinary _ h hw _ := pushDefaultK_flatN rfl h hw
  defList {p large fm v offs el k v' offs'} h1 _ hwf _ := by
    refine iter_rowsN (fun (s : Validity × List Int) => B.list p large fm s.1 s.2 el) _ v.isSome ?_ k (v, offs) (v', offs')
      hwf rfl h1
    intro a a' hw hn ha
    obtain ⟨o, ho, ha⟩ := (bind_ok _ _ _).1 ha
    cases ha
    obtain ⟨l, hl, rfl⟩ := duplicateLast_ok ho
    have hw' := hw
    simp only [WFH] at hw'
    rw [hw'.1.2.1] at hl; cases hl
    rw [setValidityDefault_eq hw'.2.1]
    obtain ⟨g1, g2⟩ := list_stepH hw false [] hw'.2.2 (by simpa using Refines.refl _)
    simp only [List.length_nil, Int.natCast_zero, Int.add_zero] at g1 g2
    exact ⟨g1, by simpa [B.isNullable] using hn, _, g2, fun hs => rowOf_false_of_isSome (hn.trans hs) _⟩
  defFixedSizeList {p fm n len v cur el k len' v' el'} h1 h3 ih _ hwf hnd := by
    have hw' := hwf
    simp only [WFH] at hw'
    rw [show iter k countSlot (len, v) = _ from iter_lenv k len v hw'.1] at h1
    cases h1
    simp only [NoDictKey] at hnd
    obtain ⟨hel, hdec⟩ := ih h3 hw'.2.2 hnd
    obtain ⟨g1, g2⟩ := fsl_appendH hwf (List.replicate k false) _ cur hel hdec (by simp)
    simp only [List.length_replicate] at g1 g2
    rw [maskNullH_const_false _ _ _ (fslRowsH_length _ _ _)] at g2
    refine ⟨g1, g2.to_ph (by split <;> simp [fslRowsH_length]) (fun hs => ?_)⟩
    simp only [B.isNullable] at hs
    rw [if_pos hs]
  defMap {p mm v offs ks vs k v' offs'} h1 _ hwf _ := by
    refine iter_rowsN (fun (s : Validity × List Int) => B.map p mm s.1 s.2 ks vs) _ v.isSome ?_ k (v, offs) (v', offs')
      hwf rfl h1
    intro a a' hw hn ha
    obtain ⟨o, ho, ha⟩ := (bind_ok _ _ _).1 ha
    cases ha
    obtain ⟨l, hl, rfl⟩ := duplicateLast_ok ho
    have hw' := hw
    simp only [WFH] at hw'
    rw [hw'.1.2.1] at hl; cases hl
    rw [setValidityDefault_eq hw'.2.2.1]
    obtain ⟨g1, g2⟩ := map_stepH hw false [] [] hw'.2.2.2.1 hw'.2.2.2.2 (by simpa using Refines.refl _)
      (by simpa using Refines.refl _) rfl
    simp only [List.length_nil, Int.natCast_zero, Int.add_zero] at g1 g2
    exact ⟨g1, by simpa [B.isNullable] using hn, _, g2, fun hs => rowOf_false_of_isSome (hn.trans hs) _⟩
  defStruct {p len v fs cached next seen k len' v' fs'} h1 _ ih _ hwf hnd := by
    have hw' := hwf
    simp only [WFH] at hw'
    rw [show iter k countSlot (len, v) = _ from iter_lenv k len v hw'.1] at h1
    cases h1
    simp only [NoDictKey] at hnd
    obtain ⟨adds, hext, hk⟩ := ih len hw'.2.1 hnd
    obtain ⟨g1, g2⟩ := struct_appendH (cached' := cached) (next' := next) (seen' := seen) hwf adds
      (List.replicate k false) hext (by simpa using hk)
      (by rw [ExtLH.names fs fs' adds hext]; exact hw'.2.2.2.2)
      (by rw [(ExtLH.length fs fs' adds hext).1]; exact hw'.2.2.1)
    simp only [List.length_replicate] at g1 g2
    rw [maskNullH_const_false _ _ _ (structRowsH_length _ _)] at g2
    refine ⟨g1, g2.to_ph (by split <;> simp [structRowsH_length]) (fun hs => ?_)⟩
    simp only [B.isNullable] at hs
    rw [if_pos hs]
  defDict {p idx vals index k idx'} h1 ih _ hwf hnd := by
    have hw' := hwf
    simp only [WFH] at hw'
    simp only [NoDictKey] at hnd
    obtain ⟨hidx, hdec⟩ := ih h1 hw'.1 hnd.2.1
    obtain ⟨g1, g2⟩ := dict_appendH hwf _ [] [] hidx hw'.2.1 hdec (by simpa using Refines.refl _)
      (by simpa using hw'.2.2.1) rfl
      (by rw [List.append_nil]; exact pushDefaultK_keys hnd.1 hw'.1 h1 hw'.2.2.2.2.1)
      (by rw [List.append_nil]; exact DictVals.of_wfh hwf)
    simp only [List.append_nil] at g1 g2
    refine ⟨g1, ?_⟩
    have e : ∀ nl, dictRowH (decH vals) (ph nl) = ph nl := by intro nl; cases nl <;> rfl
    simpa [B.isNullable, e] using g2
  defUnionNil _ hwf _ := ⟨hwf, by simpa using Refines.refl _⟩
  defUnion {p fs types offs cur k c m c'} hget _ h3 ih _ hwf hnd := by
    have hw' := hwf
    simp only [WFH] at hw'
    simp only [NoDictKey] at hnd
    obtain ⟨hcur, hwc⟩ := WFHU_get _ cur _ (c, m) hw'.2.2.1 hget
    obtain ⟨hc, hdec⟩ := ih h3 hwc (NoDictKeyL.get _ _ _ hnd hget)
    obtain ⟨g1, g2⟩ := union_appendH hwf _ c c' m hget _ hc (hdec.weaken_tail (k := k) (by simp))
    have hc0 : cur.getD (firstReal fs) 0 = ((dec c).length : Int) := by
      simp only [List.getD_eq_getElem?_getD, hcur, Option.getD_some]
    simp only [List.length_replicate] at g1 g2
    rw [hc0]
    exact ⟨g1, by simpa [ph, B.isNullable] using g2⟩
  allNil _ _ _ := ⟨[], by simp [ExtLH], by simp⟩
  allCons h1 ih _ ihr len hw hs := by
    simp only [WFHL] at hw
    simp only [NoDictKeyL] at hs
    obtain ⟨hb, hdec⟩ := ih h1 hw.1 hs.1
    obtain ⟨adds, hext, hk⟩ := ihr len hw.2.2 hs.2
    refine ⟨_ :: adds, by simp only [ExtLH]; exact ⟨trivial, hb, hdec, hext⟩, ?_⟩
    intro a ha
    rcases List.mem_cons.1 ha with rfl | ha
    · simp
    · exact hk a ha

/-- `k` placeholders of a nullable builder are determined nulls, those of any other builder are left open -/
theorem pushDefaultK_refinesN (b : B) (k : Nat) (b' : B) (hw : WFH b) (hn : NoDictKey b) (h : pushDefaultK b k = .ok b') :
    WFH b' ∧ Refines (decH b') (decH b ++ List.replicate k (ph b.isNullable)) :=
  refines_default.default b k b' h h hw hn

theorem pushDefaultK_refines : ∀ (b : B) (k : Nat) (b' : B), WFH b → NoDictKey b → pushDefaultK b k = .ok b' →
    WFH b' ∧ Refines (decH b') (decH b ++ List.replicate k none) :=
  fun b k b' hw hn h =>
    have ⟨g1, g2⟩ := pushDefaultK_refinesN b k b' hw hn h
    ⟨g1, g2.weaken_tail (by simp)⟩

theorem pushDefaultKAll_refines : ∀ (fs : BL) (k : Nat) (fs' : BL) (len : Nat), WFHL fs len → NoDictKeyL fs →
    pushDefaultKAll fs k = .ok fs' → ∃ adds : List H, ExtLH fs fs' adds ∧ ∀ a ∈ adds, a.length = k :=
  fun fs k fs' len hw hn h => refines_default.defaultAll fs k fs' h len hw hn

theorem pushDefaultK_refines_at : ∀ (fs : BL) (j : Nat) (c : B) (m : FieldMeta), fs.get? j = some (c, m) →
    ∀ (k : Nat) (c' : B), WFH c → NoDictKey c → pushDefaultK c k = .ok c' →
    WFH c' ∧ Refines (decH c') (decH c ++ List.replicate k none) :=
  fun _ _ c _ _ k c' => pushDefaultK_refines c k c'

/-! ### `serialize_none` -/

theorem pushNone_refines : ∀ (b b' : B), WFH b → NoDictKey b → pushNone b = .ok b' →
    WFH b' ∧ Refines (decH b') (decH b ++ [some .null]) :=
  fun b b' hw hn h => by
    obtain ⟨hnl, hd⟩ := pushNone_ok_iff.1 h
    have := pushDefaultK_refinesN b 1 b' hw hn hd
    rwa [hnl] at this

/-! ### scalar calls -/

/-- the dictionary invariant "values decoded = index entries" survives a new entry (`WFH` suffices: a Utf8 value
builder has no children) -/
theorem DictVals_pushH (ext : Ext) {vals vals' : B} {index : List String} {s : String} (hw : WFH vals)
    (hd : DictVals vals index) (h : pushScalar ext vals (.str s) = .ok vals') : DictVals vals' (index ++ [s]) := by
  refine ⟨fun hu => ?_, fun hr => ?_⟩
  · have hu0 : vals.isUtf8B = true := by
      rw [← isUtf8B_takeRest, ← pushScalar_takeRest ext vals _ vals' h, isUtf8B_takeRest]; exact hu
    have hf : vals.isFlat = true := by
      cases vals <;> simp [B.isUtf8B] at hu0 <;> rfl
    rw [pushScalar_utf8_str ext (flat_WFB hf hw) hu0 h, hd.1 hu0]
    simp
  · have hr0 : vals.refusesStr = true := by
      rw [← refusesStr_takeRest, ← pushScalar_takeRest ext vals _ vals' h, refusesStr_takeRest]; exact hr
    exact (pushScalar_refusesStr ext hr0 h).elim

/-- an integer call into a key builder (necessarily childless): one determined key row, the row of the table -/
theorem pushScalar_key (ext : Ext) {b b' : B} {t : IntTy} {i : Int} (hd : b.isDict = false) (hw : WFH b)
    (h : pushScalar ext b (.int t i) = .ok b') :
    WFH b' ∧ ∃ lv, Refines (decH b') (decH b ++ [some lv]) ∧ ScalarRow ext b (.int t i) lv := by
  by_cases hf : b.isFlat = true
  · exact pushScalar_flat ext hf hw h
  · cases b <;> first
      | (exfalso; exact hf rfl)
      | (simp [B.isDict] at hd; done)
      | (simp [pushScalar, notSupported, fail] at h; done)

theorem dictRowH_det {vs : H} (hv : ∀ r ∈ vs, r.isSome = true) (lv : LVal)
    (hk : ∀ j : Int, lv = .int j → j.toNat < vs.length) : ∃ x, dictRowH vs (some lv) = some x := by
  cases lv with
  | int j =>
    have hlt := hk j rfl
    have hm := hv vs[j.toNat] (List.getElem_mem _)
    simp only [dictRowH, List.getD_eq_getElem?_getD, List.getElem?_eq_getElem hlt, Option.getD_some]
    cases hr : vs[j.toNat] with
    | none => rw [hr] at hm; cases hm
    | some x => exact ⟨x, rfl⟩
  | _ => exact ⟨.null, rfl⟩

/-- **a scalar call appends one determined row, the row of the table** (at a dictionary under `StrDict`: keys in an integer leaf, values in a string builder: the string its key designates — `DictVals` for a string
that is in the index, the new last value otherwise).  The childless families take the run itself from the motive. -/
theorem refines_scalar (ext : Ext) : ScalarCases ext fun b x b' => pushScalar ext b x = .ok b' → WFH b → NoDictKey b →
    WFH b' ∧ ∃ lv, Refines (decH b') (decH b ++ [some lv]) ∧ (StrDict b → ScalarRow ext b x lv) where
  null h hw _ := have ⟨g, lv, hd, hr⟩ := pushScalar_flat ext rfl hw h; ⟨g, lv, hd, fun _ => hr⟩
  leaf _ _ h hw _ := have ⟨g, lv, hd, hr⟩ := pushScalar_flat ext rfl hw h; ⟨g, lv, hd, fun _ => hr⟩
  bytes _ _ _ _ h hw _ := have ⟨g, lv, hd, hr⟩ := pushScalar_flat ext rfl hw h; ⟨g, lv, hd, fun _ => hr⟩
  view _ _ _ h hw _ := have ⟨g, lv, hd, hr⟩ := pushScalar_flat ext rfl hw h; ⟨g, lv, hd, fun _ => hr⟩
  fixedSizeBinary _ _ h hw _ := have ⟨g, lv, hd, hr⟩ := pushScalar_flat ext rfl hw h; ⟨g, lv, hd, fun _ => hr⟩
  dictOld {p idx vals index x s i idx'} hs hi h1 _ _ hwf hnd := by
    have hw' := hwf
    simp only [WFH] at hw'
    simp only [NoDictKey] at hnd
    have hvl : (decH vals).length = index.length := by rw [decH_length]; exact hw'.2.2.2.1
    obtain ⟨hidx, lv, hdec, hrk⟩ := pushScalar_key ext hnd.1 hw'.1 h1
    have hget := SaModel.Props.C11Front.indexOfName_some index s i hi
    have hlt : i < index.length := indexOfName_lt hi
    obtain ⟨g1, g2⟩ := dict_appendH hwf [some lv] [] [] hidx hw'.2.1 hdec (by simpa using Refines.refl _)
      (by simpa using hw'.2.2.1) rfl
      (by rw [List.append_nil]
          exact pushScalar_keys ext hnd.1 hw'.1 h1 ⟨by omega, by simpa using hlt⟩ hw'.2.2.2.2.1)
      (by rw [List.append_nil]; exact hw'.2.2.2.2.2.1)
    simp only [List.append_nil, List.map_cons, List.map_nil] at g1 g2
    obtain ⟨y, hy⟩ := dictRowH_det hw'.2.2.2.2.2.2 lv (by
      intro j hj
      cases (hj ▸ hrk).int_inv
      rw [hvl]; simpa using hlt)
    rw [hy] at g2
    refine ⟨g1, y, g2, fun ⟨hil, hu⟩ => ?_⟩
    rcases hu with hu | hr
    · -- the key designates entry `i` of the values, which is the string `index[i] = s`
      cases hrk.intLeaf hil
      rw [flat_decH (isFlat_of_isUtf8B hu), hw'.2.2.2.2.2.1.1 hu] at hy
      simp only [dictRowH, Int.toNat_natCast, List.getD_eq_getElem?_getD, List.getElem?_map, hget, Option.map_some,
        Option.getD_some, Option.some.injEq] at hy
      subst hy
      exact .dictionary hs hu
    · rw [hw'.2.2.2.2.2.1.2 hr] at hlt; cases hlt
  dictNew {p idx vals index x s vals' idx'} hs hi h1 ihv h3 _ _ hwf hnd := by
    have hw' := hwf
    simp only [WFH] at hw'
    simp only [NoDictKey] at hnd
    have hvl : (decH vals).length = index.length := by rw [decH_length]; exact hw'.2.2.2.1
    obtain ⟨hvals, lw, hdecv, hrv⟩ := ihv h1 hw'.2.1 hnd.2.2
    obtain ⟨hidx, lv, hdec, hrk⟩ := pushScalar_key ext hnd.1 hw'.1 h3
    have hnotin : s ∉ index := by
      intro hmem
      obtain ⟨i, hi', he⟩ := List.getElem_of_mem hmem
      have := SaModel.Props.C11Front.indexOfName_go_none s index 0 hi i
      apply this
      simp [hi', he]
    obtain ⟨g1, g2⟩ := dict_appendH hwf [some lv] [lw] [s] hidx hvals hdec (by simpa using hdecv)
      (by
        rw [List.nodup_append]
        exact ⟨hw'.2.2.1, by simp, by intro a ha b hb; simp at hb; subst hb; intro he; subst he; exact hnotin ha⟩)
      rfl
      (pushScalar_keys ext hnd.1 hw'.1 h3 ⟨by omega, by simp⟩ (hw'.2.2.2.2.1.mono (by simp)))
      (DictVals_pushH ext hw'.2.1 hw'.2.2.2.2.2.1 h1)
    simp only [List.map_cons, List.map_nil] at g1 g2
    obtain ⟨y, hy⟩ := dictRowH_det (vs := decH vals ++ [some lw]) (by
        intro r hr
        rcases List.mem_append.1 hr with h | h
        · exact hw'.2.2.2.2.2.2 r h
        · simp only [List.mem_singleton] at h; subst h; rfl) lv (by
      intro j hj
      cases (hj ▸ hrk).int_inv
      simp [hvl])
    rw [hy] at g2
    refine ⟨g1, y, g2, fun ⟨hil, hu⟩ => ?_⟩
    rcases hu with hu | hr
    · -- the key designates the new last value, which is the row the value builder stored for the string
      cases hrk.intLeaf hil
      simp only [dictRowH, Int.toNat_natCast, List.getD_eq_getElem?_getD, ← hvl,
        List.getElem?_append_right (Nat.le_refl _), Nat.sub_self, List.getElem?_cons_zero, Option.getD_some,
        Option.some.injEq] at hy
      subst hy
      cases (hrv (.of_flat (isFlat_of_isUtf8B hu))).utf8_str hu
      exact .dictionary hs hu
    · exact (pushScalar_refusesStr ext hr h1).elim

theorem pushScalar_refines (ext : Ext) : ∀ (b : B) (x : SVal) (b' : B), WFH b → NoDictKey b → pushScalar ext b x = .ok b' →
    WFH b' ∧ ∃ lv, Refines (decH b') (decH b ++ [some lv]) :=
  fun b x b' hw hn h => have ⟨g, lv, hd, _⟩ := (refines_scalar ext).scalar b x b' h h hw hn; ⟨g, lv, hd⟩

/-- R1' and R2' of a scalar call in one: the appended row is the specified one -/
theorem pushScalar_rowH (ext : Ext) {b b' : B} {x : SVal} (hw : WFH b) (hn : NoDictKey b) (h : pushScalar ext b x = .ok b') :
    WFH b' ∧ ∃ lv, Refines (decH b') (decH b ++ [some lv]) ∧
      ∀ dt n md, Shape b dt n md → interpScalar ext dt x = .ok lv ∧ isUnknownVariant dt md = false :=
  have ⟨g, lv, hd, hr⟩ := (refines_scalar ext).scalar b x b' h h hw hn
  ⟨g, lv, hd, fun _ _ _ hs => (scalarRow_iff ext hs x lv).1 (hr hs.strDict)⟩

end SaModel.Build
