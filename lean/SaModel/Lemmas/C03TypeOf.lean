import SaModel.Lemmas.C03WfInv
import SaModel.Build.Builder
/-
Type equality for C03 (`Spec.WF f a = Spec.WFS f a ∧ Spec.typeOf a = f.dataType`).

* `StrictDT dt`: the data types whose arrays marrow can type EXACTLY — every union dense, the entries field of every Map
  not nullable and without metadata (marrow's `UnionArray` knows its mode through the offsets buffer, `MapMeta` has no room
  for the entries field's nullability / metadata).
* `wf_typeOf : wf dt nl a = true → StrictDT dt → typeOf a = dt` — for a strict type the structural recursion `Spec.wf`
  already forces the type of the array, names / nullability / metadata of every child and every parameter included
  (structural recursion over the ARRAY; speaks about arbitrary arrays, nothing about builders).
* `PlainDT dt`: no Map entries field carries metadata — the exclusion of the KNOWN finding C03-map-entries-metadata.
* `newDT_strict_all` (Lemmas/C03TypeNew.lean; first conjunct `newDT path dt nl md = ok b → PlainDT dt → StrictDT dt`,
  corollaries `newB_strict`, `newFields_strict`, `newRoot_strict`; `Props.C03.accepted_strict`) — `build_builder` refuses
  sparse unions and nullable Map entries (repo fixes c63d82e / 25f1351), so whatever it accepts is strict up to the
  entries metadata.
-/
namespace SaModel.Lemmas.C03
open SaModel SaModel.Build SaModel.Spec

mutual
/-- every union dense, every Map entries field non-nullable and without metadata -/
def StrictDT : DataType → Prop
  | .list f => StrictF f
  | .largeList f => StrictF f
  | .fixedSizeList f _ => StrictF f
  | .map (.mk _ dt nl md) _ => nl = false ∧ md = [] ∧ StrictDT dt
  | .struct fs => StrictFs fs
  | .dictionary k v => StrictDT k ∧ StrictDT v
  | .union fs mode => mode = .dense ∧ StrictU fs
  | _ => True
def StrictF : Field → Prop
  | .mk _ dt _ _ => StrictDT dt
def StrictFs : Fields → Prop
  | .nil => True
  | .cons f r => StrictF f ∧ StrictFs r
def StrictU : UFields → Prop
  | .nil => True
  | .cons _ f r => StrictF f ∧ StrictU r
end

mutual
/-- no Map entries field carries metadata (KNOWN finding C03-map-entries-metadata: marrow's `MapMeta` cannot hold it, the
array's entries field comes out without) -/
def PlainDT : DataType → Prop
  | .list f => PlainF f
  | .largeList f => PlainF f
  | .fixedSizeList f _ => PlainF f
  | .map (.mk _ dt _ md) _ => md = [] ∧ PlainDT dt
  | .struct fs => PlainFs fs
  | .dictionary k v => PlainDT k ∧ PlainDT v
  | .union fs _ => PlainU fs
  | _ => True
def PlainF : Field → Prop
  | .mk _ dt _ _ => PlainDT dt
def PlainFs : Fields → Prop
  | .nil => True
  | .cons f r => PlainF f ∧ PlainFs r
def PlainU : UFields → Prop
  | .nil => True
  | .cons _ f r => PlainF f ∧ PlainU r
end

theorem StrictF_iff (f : Field) : StrictF f ↔ StrictDT f.dataType := by
  cases f; simp only [StrictF, Field.dataType]

theorem PlainF_iff (f : Field) : PlainF f ↔ PlainDT f.dataType := by
  cases f; simp only [PlainF, Field.dataType]

theorem fieldOfMeta_eq (fm : FieldMeta) (f : Field) (dt : DataType) (hm : metaMatches fm f = true)
    (hd : dt = f.dataType) : fieldOfMeta fm dt = f := by
  cases f with
  | mk n d nl md =>
    simp only [metaMatches, Field.name, Field.nullable, Field.metadata, Bool.and_eq_true, beq_iff_eq] at hm
    obtain ⟨⟨h1, h2⟩, h3⟩ := hm
    simp only [Field.dataType] at hd
    simp only [fieldOfMeta, h1, h2, h3, hd]

mutual
/-- **for a strict type, a structurally valid array has exactly that type** -/
theorem wf_typeOf : ∀ (a : Arr) (dt : DataType) (nl : Bool), wf dt nl a = true → StrictDT dt → typeOf a = dt
  | .null _ => fun _ _ h _ => (wf_inv h).symm
  | .boolean _ _ _ => fun _ _ h _ => (wf_inv h).1.symm
  | .prim ty _ _ => fun dt _ h _ => primMatches_primDT ty dt (wf_inv h).1
  | .time _ _ _ _ | .timestamp _ _ _ _ | .decimal128 _ _ _ _ | .bytes _ _ _ _ | .bytesView _ _ _ _
  | .fixedSizeBinary _ _ _ => fun _ _ h _ => (wf_inv h).1.symm
  | .struct len v cols => fun dt nl h hs => by
    obtain ⟨fs, rfl, _, hw⟩ := wf_inv h
    simp only [StrictDT] at hs
    simp only [typeOf, wfFields_typeOf cols fs len hw hs]
  | .list large v offs fm el => fun dt nl h hs => by
    obtain ⟨f, rfl, _, hm, hw⟩ := wf_inv h
    cases large <;> simp only [Bool.false_eq_true, if_false, if_true, StrictDT] at hs ⊢ <;>
      simp only [typeOf, fieldOfMeta_eq fm f _ hm (wf_typeOf el f.dataType f.nullable hw ((StrictF_iff f).1 hs))]
  | .fixedSizeList len v n fm el => fun dt nl h hs => by
    obtain ⟨f, rfl, _, _, hm, _, hw⟩ := wf_inv h
    simp only [StrictDT] at hs
    simp only [typeOf, fieldOfMeta_eq fm f _ hm (wf_typeOf el f.dataType f.nullable hw ((StrictF_iff f).1 hs))]
  | .map v offs mm ks vs => fun dt nl h hs => by
    obtain ⟨kf, vf, enl, emd, rfl, _, hmk, hmv, hwk, hwv⟩ := wf_inv h
    simp only [StrictDT, StrictFs] at hs
    obtain ⟨rfl, rfl, hsk, hsv, _⟩ := hs
    simp only [typeOf, fieldOfMeta_eq mm.keys kf _ hmk (wf_typeOf ks kf.dataType kf.nullable hwk ((StrictF_iff kf).1 hsk)),
      fieldOfMeta_eq mm.values vf _ hmv (wf_typeOf vs vf.dataType vf.nullable hwv ((StrictF_iff vf).1 hsv))]
  | .dictionary ks vs => fun dt nl h hs => by
    obtain ⟨k, vdt, rfl, hk, hv⟩ := wf_inv h
    simp only [StrictDT] at hs
    simp only [typeOf, wf_typeOf ks k nl hk hs.1, wf_typeOf vs vdt false hv hs.2]
  | .union types offs cols => fun dt nl h hs => by
    obtain ⟨fs, mode, o, rfl, rfl, _, hw⟩ := wf_inv h
    simp only [StrictDT] at hs
    obtain ⟨rfl, hs⟩ := hs
    simp only [typeOf, wfUFields_typeOf cols fs 0 hw hs]
theorem wfFields_typeOf : ∀ (cols : ArrFields) (fs : Fields) (len : Nat), wfFields fs cols len = true → StrictFs fs →
    typeOfFields cols = fs
  | .nil => fun fs _ h _ => by
    cases fs with
    | nil => rfl
    | cons _ _ => simp only [wfFields, Bool.false_eq_true] at h
  | .cons fm a r => fun fs len h hs => by
    obtain ⟨f, rest, rfl, hm, _, hw, hr⟩ := wfFields_cons_inv h
    simp only [StrictFs] at hs
    simp only [typeOfFields, fieldOfMeta_eq fm f _ hm (wf_typeOf a f.dataType f.nullable hw ((StrictF_iff f).1 hs.1)),
      wfFields_typeOf r rest len hr hs.2]
theorem wfUFields_typeOf : ∀ (cols : ArrUFields) (fs : UFields) (k : Int), wfUFields fs cols k = true → StrictU fs →
    typeOfUFields cols = fs
  | .nil => fun fs _ h _ => by
    cases fs with
    | nil => rfl
    | cons _ _ _ => simp only [wfUFields, Bool.false_eq_true] at h
  | .cons tid' fm a r => fun fs k h hs => by
    obtain ⟨f, rest, rfl, _, hm, hw, hr⟩ := wfUFields_cons_inv h
    simp only [StrictU] at hs
    simp only [typeOfUFields, fieldOfMeta_eq fm f _ hm (wf_typeOf a f.dataType f.nullable hw ((StrictF_iff f).1 hs.1)),
      wfUFields_typeOf r rest (k + 1) hr hs.2]
end

/-- `WFS` + strict type ⇒ `WF` -/
theorem WF_of_WFS (f : Field) (a : Arr) (h : WFS f a = true) (hs : StrictDT f.dataType) : WF f a = true := by
  simp only [WF, h, Bool.true_and, decide_eq_true_eq]
  exact wf_typeOf a f.dataType f.nullable h hs

theorem WFS_of_WF (f : Field) (a : Arr) (h : WF f a = true) : WFS f a = true := by
  simp only [WF, Bool.and_eq_true] at h; exact h.1

theorem typeOf_of_WF (f : Field) (a : Arr) (h : WF f a = true) : typeOf a = f.dataType := by
  simp only [WF, Bool.and_eq_true, decide_eq_true_eq] at h; exact h.2

end SaModel.Lemmas.C03
