import SaModel.Lemmas.C04Trace
import SaModel.Lemmas.C04Interp
import SaModel.Props.C01
import SaModel.Lemmas.SchemaAll
/-
C04: the side conditions of C01 / C03 hold for traced schemas and derived serializations.

Schema side (EVERY type of the grammar, enums included, every option set): the documented mapping never produces a
FixedSizeBinary or a dictionary other than Dictionary(UInt32, Utf8 | LargeUtf8); an enum is either that dictionary or a
dense Union of such children:
  mapping_side : mappingDT o t = (dt, nb, md) → SchemaOK dt ∧ covered dt
  mappingVariants_side : SchemaOKU (mappingVariants o i vars) ∧ coveredU (mappingVariants o i vars)
Value side: a derived `Serialize` issues no raw key / value streams and scalars of their own width:
  ser_ok : wt t v → noRaw (ser t v) ∧ SValOK (ser t v)   (+ `serAll` / `serPos` / `serFields` / `serEntries`)
-/
namespace SaModel.Roundtrip
open SaModel SaModel.Spec SaModel.Build SaModel.Lemmas.C03

def Side (dt : DataType) : Prop := SchemaOK dt ∧ covered dt = true
def SideFs (fs : Fields) : Prop := SchemaOKFs fs ∧ coveredFs fs = true

def SideU (ufs : UFields) : Prop := SchemaOKU ufs ∧ coveredU ufs = true

theorem closed_side (o : TraceOpts) : MappingClosed o (fun _ dt _ _ => Side dt) (fun _ _ F => SideFs F) (fun _ F => SideFs F)
    (fun _ _ U => SideU U) := by
  apply MappingClosed.of_fields (leaf := by simp only [scalarDTs, List.forall_mem_cons]; simp [Side, SchemaOK, covered])
    (dict := fun _ => by simp [dictDTs, Side, SchemaOK, covered, Build.isIntDT, isStrDT])
  all_goals intros
  all_goals simp_all [Side, SideFs, SideU, SchemaOK, SchemaOKF, SchemaOKFs, SchemaOKU, covered, coveredF, coveredFs, coveredU]

theorem mapping_side (o : TraceOpts) : ∀ (t : Ty) (dt : DataType) (nb : Bool) (md : Metadata),
    mappingDT o t = (dt, nb, md) → Side dt :=
  fun _ _ _ _ hm => (closed_side o).mapping' hm
theorem mappingPos_side (o : TraceOpts) : ∀ (ts : Tys) (i : Nat), SideFs (mappingPos o i ts) :=
  fun ts i => (closed_side o).pos i ts
theorem mappingFields_side (o : TraceOpts) : ∀ (fs : TFields), SideFs (mappingFields o fs) := (closed_side o).fields
/-- the children of the dense Union an enum is traced to (type ids from `i`) -/
theorem mappingVariants_side (o : TraceOpts) : ∀ (vars : Variants) (i : Nat), SideU (mappingVariants o i vars) :=
  fun vars i => (closed_side o).variants i vars

theorem sideFs_toList : ∀ (fs : Fields), SideFs fs → ∀ f ∈ fs.toList, SchemaOKF f ∧ coveredF f = true :=
  fun fs h f hf => ⟨(Fields.forall_iff (pFs := SchemaOKFs) trivial (fun _ _ => Iff.rfl) fs).mp h.1 f hf,
    Fields.all_toList (pFs := coveredFs) rfl (fun _ _ => rfl) h.2 f hf⟩

mutual
theorem frag_noEnum : ∀ (t : Ty), frag t = true → noEnum t = true
  | .prim _, _ | .unit, _ | .unitStruct _, _ => by simp [noEnum]
  | .option t, h | .newtype _ t, h | .vec t, h => by
    simp only [frag] at h; exact frag_noEnum t h
  | .map k v, h => by
    simp only [frag, Bool.and_eq_true] at h
    simp [noEnum, frag_noEnum k h.1, frag_noEnum v h.2]
  | .struct _ fs, h => by
    simp only [frag, Bool.and_eq_true] at h
    exact fragFields_noEnum fs h.2
  | .tuple ts, h | .tupleStruct _ ts, h => by
    simp only [frag] at h
    exact fragTys_noEnum ts h
  | .enum _ _, h => by simp [frag] at h
theorem fragTys_noEnum : ∀ (ts : Tys), fragTys ts = true → noEnumTys ts = true
  | .nil, _ => by simp [noEnumTys]
  | .cons t r, h => by
    simp only [fragTys, Bool.and_eq_true] at h
    simp [noEnumTys, frag_noEnum t h.1, fragTys_noEnum r h.2]
theorem fragFields_noEnum : ∀ (fs : TFields), fragFields fs = true → noEnumFields fs = true
  | .nil, _ => by simp [noEnumFields]
  | .cons _ _ t r, h => by
    simp only [fragFields, Bool.and_eq_true] at h
    simp [noEnumFields, frag_noEnum t h.1.1, fragFields_noEnum r h.2]
end

/-- the sequence form of a byte slice (`&[u8]` without serde_bytes): no raw streams, every `u8` in range -/
theorem noRaws_u8Seq : ∀ b : List UInt8, noRaws (u8Seq b) = true
  | [] => rfl
  | _ :: r => by simp [u8Seq, noRaws, noRaw, noRaws_u8Seq r]

theorem svalsOK_u8Seq : ∀ b : List UInt8, SValsOK (u8Seq b)
  | [] => by simp [u8Seq, SValsOK]
  | x :: r => by
    have h2 : ((x.toNat : Nat) : Int) ≤ 255 := by have := x.toNat_lt; omega
    simp [u8Seq, SValsOK, SValOK, ScalarOK, IntTy.inRange, IntTy.min, IntTy.max, h2, svalsOK_u8Seq r]

theorem ser_prim_ok (p : Prim) (v : Val) (h : p.wt v = true) : noRaw (ser (.prim p) v) = true ∧ SValOK (ser (.prim p) v) := by
  unfold Prim.wt at h
  split at h <;> simp_all [ser, noRaw, SValOK, ScalarOK, noRaws_u8Seq, svalsOK_u8Seq]

/-- along the definition of `wt` -/
theorem ser_ok_mutual :
    (∀ t v, wt t v = true → noRaw (ser t v) = true ∧ SValOK (ser t v)) ∧
    (∀ k v es, wtEntries k v es = true → noRawe (serEntries k v es) = true ∧ SEntriesOK (serEntries k v es)) ∧
    (∀ t vs, wtSingle t vs = true → ∀ n i vn, noRaw (serSingle n i vn t vs) = true ∧ SValOK (serSingle n i vn t vs)) ∧
    (∀ fs vs, wtFields fs vs = true → noRawf (serFields fs vs) = true ∧ SFieldsOK (serFields fs vs)) ∧
    (∀ ts vs, wtPos ts vs = true → noRaws (serPos ts vs) = true ∧ SValsOK (serPos ts vs)) ∧
    (∀ t vs, wtAll t vs = true → noRaws (serAll t vs) = true ∧ SValsOK (serAll t vs)) := by
  apply wt.mutual_induct
  all_goals intros
  all_goals try simp only [wt, wtEntries, wtSingle, wtFields, wtPos, wtAll, Bool.and_eq_true, Bool.false_eq_true, *] at *
  all_goals try simp only [ser, serEntries, serSingle, serFields, serPos, serAll, noRaw, noRaws, noRawf, noRawe,
    SValOK, SValsOK, SFieldsOK, SEntriesOK, Bool.and_eq_true, and_self, *]
  -- left: a scalar, and a field that `skip_serializing_if` may leave out
  · exact ser_prim_ok _ _ ‹_›
  · split <;> simp only [noRawf, SFieldsOK, Bool.and_eq_true, and_self, *]

theorem ser_ok : ∀ (t : Ty) (v : Val), wt t v = true → noRaw (ser t v) = true ∧ SValOK (ser t v) := ser_ok_mutual.1
theorem serAll_ok : ∀ (t : Ty) (vs : Vals), wtAll t vs = true → noRaws (serAll t vs) = true ∧ SValsOK (serAll t vs) :=
  ser_ok_mutual.2.2.2.2.2
theorem serPos_ok : ∀ (ts : Tys) (vs : Vals), wtPos ts vs = true → noRaws (serPos ts vs) = true ∧ SValsOK (serPos ts vs) :=
  ser_ok_mutual.2.2.2.2.1
theorem serFields_ok : ∀ (fs : TFields) (vs : Vals), wtFields fs vs = true → noRawf (serFields fs vs) = true ∧ SFieldsOK (serFields fs vs) :=
  ser_ok_mutual.2.2.2.1
theorem serEntries_ok : ∀ (k v : Ty) (es : VEntries), wtEntries k v es = true →
    noRawe (serEntries k v es) = true ∧ SEntriesOK (serEntries k v es) :=
  ser_ok_mutual.2.1

end SaModel.Roundtrip
