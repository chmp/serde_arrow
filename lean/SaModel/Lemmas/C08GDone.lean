import SaModel.Lemmas.C08GStep
/-
C08 — a covering collection of values shows the tracer the whole type: once `covers ty xs`, the tracer `sstate … ty xs`
is, up to the sample counters, the complete tracer `done` of `from_type` (`erase_sstate`), and only then
(`covers_of_erase`; one walk for both directions, `covers_done_all`); hence `from_samples` on ANY covering collection =
`from_type` (`agree_covers`).
-/
namespace SaModel.Lemmas.C08
open SaModel SaModel.Trace SaModel.Trace.Spec

theorem ne_nil_of_isEmpty {α} {xs : List α} (h : (!xs.isEmpty) = true) : xs ≠ [] := by
  cases xs with
  | nil => cases h
  | cons _ _ => simp

theorem filterMap_ne_nil {α β} {f : α → Option β} {xs : List α} (h : xs.filterMap f ≠ []) : xs ≠ [] := by
  intro e; rw [e] at h; exact h rfl

theorem flatMap_ne_nil {α β} {f : α → List β} {xs : List α} (h : xs.flatMap f ≠ []) : xs ≠ [] := by
  intro e; rw [e] at h; exact h rfl

theorem covers_ne : ∀ (ty : Ty) (xs : List SVal), covers ty xs = true → xs ≠ []
  | .unit, _, h | .unitStruct _, _, h | .bool, _, h | .int _, _, h | .f32, _, h | .f64, _, h | .char, _, h
  | .string, _, h | .bytes, _, h => by simp only [covers] at h; exact ne_nil_of_isEmpty h
  | .option t, xs, h => by simp only [covers] at h; exact filterMap_ne_nil (covers_ne t _ h)
  | .newtypeStruct _ t, xs, h => by simp only [covers] at h; exact filterMap_ne_nil (covers_ne t _ h)
  | .vec t, xs, h => by simp only [covers] at h; exact flatMap_ne_nil (covers_ne t _ h)
  | .map k v, xs, h => by
    simp only [covers, Bool.and_eq_true] at h; exact flatMap_ne_nil (covers_ne k _ h.1)
  | .tuple _, _, h | .tupleStruct _ _, _, h | .struct _ _, _, h | .enum _ _, _, h => by
    simp only [covers, Bool.and_eq_true] at h; exact ne_nil_of_isEmpty h.1

theorem isEmpty_of_ne {α} {xs : List α} (h : xs ≠ []) : xs.isEmpty = false := by
  cases xs with
  | nil => exact absurd rfl h
  | cons _ _ => rfl

theorem anyFrom_head (len i : Nat) (xs : List SVal) (h : payloadsAt i xs ≠ []) : anyFrom (len + 1) i xs = true := by
  simp only [anyFrom, isEmpty_of_ne h, Bool.not_false, Bool.true_or]

theorem slot_ne {ys : List SVal} (h : ys ≠ []) (n : String) (t : Tracer) (rest : Variants) :
    slot ys n t rest = .present n t rest := by
  simp only [slot, isEmpty_of_ne h, Bool.false_eq_true, if_false]

theorem seen_erase_inv {xs : List SVal} {n p : String} {nl : Bool} {t u : Tracer} (h : erase (seen xs n p nl t) = u)
    (hu : ∀ nl', u ≠ .unknown n p nl') : (!xs.isEmpty) = true ∧ erase t = u := by
  cases xs with
  | nil => exact absurd h.symm (hu nl)
  | cons y r => exact ⟨rfl, h⟩

theorem slot_inv {ys : List SVal} {n : String} {t : Tracer} {R : Variants} {n' : String} {t' : Tracer} {R' : Variants}
    (h : eraseVariants (slot ys n t R) = .present n' t' R') :
    (!ys.isEmpty) = true ∧ erase t = t' ∧ eraseVariants R = R' := by
  cases ys with
  | nil => simp only [slot, List.isEmpty_nil, if_true, eraseVariants] at h; cases h
  | cons y r =>
    simp only [slot, List.isEmpty_cons, Bool.false_eq_true, if_false, eraseVariants, Variants.present.injEq] at h
    exact ⟨rfl, h.2.1, h.2.2⟩

namespace VHead

theorem covers_eq {vs r : TyVariants} {n : String} {T : Ty} (h : VHead vs n T r) (i : Nat) (xs : List SVal) :
    coversVariants i vs xs = (covers T (payloadsAt i xs) && coversVariants (i + 1) r xs) := by
  cases h <;> simp only [coversVariants, covers]

end VHead

/-- `covers` is exactly the condition under which the tracer of the values is, up to the sample counters, the complete
tracer of the type.  Both directions in one walk; only a position under an `Option` needs the converse for a `done` with
another nullability. -/
theorem covers_done_all (o : Options) :
    (∀ (ty : Ty) (n p : String) (nl : Bool) (xs : List SVal),
      (covers ty xs = true → erase (sstate o n p nl ty xs) = done o n p nl ty) ∧
      (∀ nl', erase (sstate o n p nl ty xs) = done o n p nl' ty → covers ty xs = true)) ∧
    (∀ (ts : Tys) (p : String) (i : Nat) (XS : List SVals),
      coversTys ts XS = true ↔ eraseTracers (sstateTys o p i ts XS) = doneTys o p i ts) ∧
    (∀ (fs : TyFields) (p : String) (m : Nat) (XS : List SFields),
      coversFields fs XS = true ↔ eraseFields (sstateFields o p m fs XS) = doneFields o p fs) ∧
    (∀ (vs : TyVariants) (p : String) (i : Nat) (xs : List SVal),
      coversVariants i vs xs = true ↔ eraseVariants (sstateVariants o p i vs xs) = doneVariants o p vs) := by
  apply Ty.walk
  case node =>
    intro ty ih n p nl xs
    refine ⟨fun h => ?_, fun nl' h => ?_⟩
    · have hne := covers_ne _ _ h
      match ty, ih with
      | .unit, _ | .unitStruct _, _ | .bool, _ | .int _, _ | .f32, _ | .f64, _ | .char, _ | .string, _ | .bytes, _ =>
        simp only [sstate, seen_ne hne, erase, done]
      | .option t, ih =>
        simp only [covers] at h
        simp only [sstate, done, isEmpty_of_ne hne, Bool.not_false, Bool.or_true]
        exact (ih n p true _).1 h
      | .newtypeStruct _ t, ih =>
        simp only [covers] at h
        simp only [sstate, done]; exact (ih n p nl _).1 h
      | .vec t, ih =>
        simp only [covers] at h
        simp only [sstate, seen_ne hne, erase, done, (ih _ _ _ _).1 h]
      | .tuple ts, ih | .tupleStruct _ ts, ih =>
        simp only [covers, Bool.and_eq_true] at h
        simp only [sstate, seen_ne hne, erase, done, (ih p 0 _).1 h.2]
      | .map kt vt, ih =>
        simp only [covers, Bool.and_eq_true] at h
        simp only [sstate, seen_ne hne, erase, done, (ih.1 _ _ _ _).1 h.1, (ih.2 _ _ _ _).1 h.2]
      | .struct _ fs, ih =>
        simp only [covers, Bool.and_eq_true] at h
        simp only [sstate, seen_ne hne, erase, done, (ih p _ _).1 h.2]
      | .enum _ vs, ih =>
        simp only [covers, Bool.and_eq_true] at h
        simp only [sstate, seen_ne hne, erase, done, (ih p 0 xs).1 h.2]
    · match ty, ih with
      | .unit, _ | .unitStruct _, _ | .bool, _ | .int _, _ | .f32, _ | .f64, _ | .char, _ | .string, _ | .bytes, _ =>
        simp only [sstate, done] at h; simp only [covers]
        exact (seen_erase_inv h (fun _ e => by cases e)).1
      | .option t, ih =>
        simp only [sstate, done] at h; simp only [covers]
        exact (ih n p _ _).2 true h
      | .newtypeStruct _ t, ih =>
        simp only [sstate, done] at h; simp only [covers]
        exact (ih n p _ _).2 nl' h
      | .vec t, ih =>
        simp only [sstate, done] at h; simp only [covers]
        obtain ⟨_, h2⟩ := seen_erase_inv h (fun _ e => by cases e)
        simp only [erase, Tracer.list.injEq] at h2
        exact (ih _ _ _ _).2 false h2.2.2.2
      | .tuple ts, ih | .tupleStruct _ ts, ih =>
        simp only [sstate, done] at h; simp only [covers]
        obtain ⟨h1, h2⟩ := seen_erase_inv h (fun _ e => by cases e)
        simp only [erase, Tracer.tuple.injEq] at h2
        simp only [h1, Bool.true_and]; exact (ih p 0 _).2 h2.2.2.2
      | .map kt vt, ih =>
        simp only [sstate, done] at h; simp only [covers]
        obtain ⟨_, h2⟩ := seen_erase_inv h (fun _ e => by cases e)
        simp only [erase, Tracer.map.injEq] at h2
        simp only [(ih.1 _ _ _ _).2 false h2.2.2.2.1, (ih.2 _ _ _ _).2 false h2.2.2.2.2, Bool.and_self]
      | .struct _ fs, ih =>
        simp only [sstate, done] at h; simp only [covers]
        obtain ⟨h1, h2⟩ := seen_erase_inv h (fun _ e => by cases e)
        simp only [erase, Tracer.struct.injEq] at h2
        simp only [h1, Bool.true_and]; exact (ih p _ _).2 h2.2.2.2.1
      | .enum _ vs, ih =>
        simp only [sstate, done] at h; simp only [covers]
        obtain ⟨h1, h2⟩ := seen_erase_inv h (fun _ e => by cases e)
        simp only [erase, Tracer.union.injEq] at h2
        simp only [h1, Bool.true_and]; exact (ih p 0 xs).2 h2.2.2.2
  case tnil => intro _ _ _; simp only [coversTys, sstateTys, eraseTracers, doneTys]
  case tcons =>
    intro t r iht ihr p i XS
    simp only [coversTys, sstateTys, eraseTracers, doneTys, Tracers.cons.injEq, Bool.and_eq_true]
    exact and_congr ⟨(iht _ _ _ _).1, (iht _ _ _ _).2 false⟩ (ihr p (i + 1) _)
  case fnil => intro _ _ _; simp only [coversFields, sstateFields, eraseFields, doneFields]
  case fcons =>
    intro fn t r iht ihr p m XS
    simp only [coversFields, sstateFields, eraseFields, doneFields, TFields.cons.injEq, true_and, Bool.and_eq_true]
    exact and_congr ⟨(iht _ _ _ _).1, (iht _ _ _ _).2 false⟩ (ihr p m _)
  case vnil => intro _ _ _; simp only [coversVariants, sstateVariants, eraseVariants, doneVariants]
  case vcons =>
    intro vs n T r hh ihT ihr p i xs
    rw [hh.covers_eq, hh.sstate_eq, hh.done_eq, Bool.and_eq_true]
    refine ⟨fun h => ?_, fun h => ?_⟩
    · have hne := covers_ne _ _ h.1
      rw [if_pos (anyFrom_head _ i xs hne), slot_ne hne]
      simp only [eraseVariants, (ihT _ _ _ _).1 h.1, (ihr p (i + 1) xs).1 h.2]
    · split at h
      · obtain ⟨_, h2, h3⟩ := slot_inv h
        exact ⟨(ihT _ _ _ _).2 false h2, (ihr p (i + 1) xs).2 h3⟩
      · simp only [eraseVariants] at h; cases h

theorem erase_sstate (o : Options) : ∀ (ty : Ty) (n p : String) (nl : Bool) (xs : List SVal), covers ty xs = true →
    erase (sstate o n p nl ty xs) = done o n p nl ty :=
  fun ty n p nl xs => ((covers_done_all o).1 ty n p nl xs).1

theorem eraseTracers_sstate (o : Options) : ∀ (ts : Tys) (p : String) (i : Nat) (XS : List SVals),
    coversTys ts XS = true → eraseTracers (sstateTys o p i ts XS) = doneTys o p i ts :=
  fun ts p i XS => ((covers_done_all o).2.1 ts p i XS).1

theorem eraseFields_sstate (o : Options) : ∀ (fs : TyFields) (p : String) (m : Nat) (XS : List SFields),
    coversFields fs XS = true → eraseFields (sstateFields o p m fs XS) = doneFields o p fs :=
  fun fs p m XS => ((covers_done_all o).2.2.1 fs p m XS).1

theorem eraseVariants_sstate (o : Options) : ∀ (vs : TyVariants) (p : String) (i : Nat) (xs : List SVal),
    coversVariants i vs xs = true → eraseVariants (sstateVariants o p i vs xs) = doneVariants o p vs :=
  fun vs p i xs => ((covers_done_all o).2.2.2 vs p i xs).1

theorem covers_of_erase (o : Options) : ∀ (ty : Ty) (n p : String) (nl nl' : Bool) (xs : List SVal),
    erase (sstate o n p nl ty xs) = done o n p nl' ty → covers ty xs = true :=
  fun ty n p nl nl' xs => ((covers_done_all o).1 ty n p nl xs).2 nl'

theorem coversTys_of_erase (o : Options) : ∀ (ts : Tys) (p : String) (i : Nat) (XS : List SVals),
    eraseTracers (sstateTys o p i ts XS) = doneTys o p i ts → coversTys ts XS = true :=
  fun ts p i XS => ((covers_done_all o).2.1 ts p i XS).2

theorem coversFields_of_erase (o : Options) : ∀ (fs : TyFields) (p : String) (m : Nat) (XS : List SFields),
    eraseFields (sstateFields o p m fs XS) = doneFields o p fs → coversFields fs XS = true :=
  fun fs p m XS => ((covers_done_all o).2.2.1 fs p m XS).2

theorem coversVariants_of_erase (o : Options) : ∀ (vs : TyVariants) (p : String) (i : Nat) (xs : List SVal),
    eraseVariants (sstateVariants o p i vs xs) = doneVariants o p vs → coversVariants i vs xs = true :=
  fun vs p i xs => ((covers_done_all o).2.2.2 vs p i xs).2

theorem absorbAll_gen (c : Code) (o : Options) (ty : Ty) (n p : String) (nl : Bool)
    (hw : walkable o p ty = true) (hu : uniqueNames ty = true) (hs : smallEnums ty = true) :
    ∀ (xs pre : List SVal), (∀ x ∈ xs, hasTy o x ty = true) →
    absorbAll c o (sstate o n p nl ty pre) xs = .ok (sstate o n p nl ty (pre ++ xs)) := by
  intro xs
  induction xs with
  | nil => intro pre _; simp only [absorbAll, List.append_nil]
  | cons x r ih =>
    intro pre h
    have hx := h x List.mem_cons_self
    have hr : ∀ y ∈ r, hasTy o y ty = true := fun y hy => h y (List.mem_cons_of_mem _ hy)
    simp only [absorbAll, absorb_gen c o ty n p nl pre x hw hu hs hx, bind, Except.bind, ih (pre ++ [x]) hr,
      List.append_assoc, List.singleton_append]

theorem fromSamples_covers (c : Code) (o : Options) (ty : Ty) (xs : List SVal) (hw : walkable o "$" ty = true)
    (hu : uniqueNames ty = true) (hs : smallEnums ty = true) (hc : Covers o ty xs) :
    fromSamples c o xs =
      if (o.overwrites.all fun kv => (tyPaths "$" ty).contains kv.1) = true then (done o "$" "$" false ty).to_schema o
      else fail "Overwritten fields could not be found" := by
  have hall := absorbAll_gen c o ty "$" "$" false hw hu hs xs [] hc.1
  rw [sstate_nil, List.nil_append] at hall
  have he := erase_sstate o ty "$" "$" false xs hc.2
  have hname : (sstate o "$" "$" false ty xs).name = "$" := by rw [← erase_name, he, done_name]
  have hpaths : (sstate o "$" "$" false ty xs).collect_paths = tyPaths "$" ty := by rw [← erase_paths, he, done_paths]
  have hfield : (sstate o "$" "$" false ty xs).to_schema o = (done o "$" "$" false ty).to_schema o := by
    unfold Tracer.to_schema; rw [← erase_to_field, he]
  unfold fromSamples fromSamplesTracer
  simp only [Tracer.new, hall, bind, Except.bind, Tracer.finish, Tracer.check, hname, bne_self_eq_false,
    Bool.false_eq_true, if_false, Tracer.check_overwrites, hpaths]
  cases (o.overwrites.all fun kv => (tyPaths "$" ty).contains kv.1)
  · rfl
  · simp only [if_true]; exact hfield

theorem agree_covers (c : Code) (o : Options) (ty : Ty) (xs : List SVal) (hw : walkable o "$" ty = true)
    (hu : uniqueNames ty = true) (hs : smallEnums ty = true) (hb : passes ty ≤ o.from_type_budget)
    (hc : Covers o ty xs) : fromSamples c o xs = fromType c o ty := by
  rw [fromSamples_covers c o ty xs hw hu hs hc]
  unfold fromType
  rw [fromTypeTracer_walkable c o ty hw]
  simp only [hb, if_true]
  cases (o.overwrites.all fun kv => (tyPaths "$" ty).contains kv.1) <;> rfl

end SaModel.Lemmas.C08
