import SaModel.Codec.Span
import SaModel.Lemmas.Digits
/-
Helper lemmas for C14: decimal digits (`digitsVal` is `Digits.value digitVal`, `natDigits` is `Digits.digits digitChar`;
`padDigits`), the digit matcher, and the span matcher on the strings the duration formatter produces (`matchSpan_PT`).
-/
namespace SaModel.Codec
open SaModel.Digits

theorem inI64_iff (v : Int) : inI64 v = true ↔ -9223372036854775808 ≤ v ∧ v ≤ 9223372036854775807 := by
  unfold inI64 i64Min i64Max
  simp only [Bool.and_eq_true, decide_eq_true_eq]

theorem inI32_iff (v : Int) : inI32 v = true ↔ -2147483648 ≤ v ∧ v ≤ 2147483647 := by
  unfold inI32 i32Min i32Max
  simp only [Bool.and_eq_true, decide_eq_true_eq]

theorem digitChar_toNat (n : Nat) : (digitChar n).toNat = 48 + n % 10 := by
  have h : ∀ k, k < 10 → (Char.ofNat (48 + k)).toNat = 48 + k := by decide
  exact h (n % 10) (Nat.mod_lt _ (by decide))

theorem digitVal_digitChar (n : Nat) : digitVal (digitChar n) = n % 10 := by
  unfold digitVal; rw [digitChar_toNat]; omega

theorem isDigit_digitChar (n : Nat) : isDigit (digitChar n) = true := by
  have := Nat.mod_lt n (show 10 > 0 by decide)
  unfold isDigit; rw [digitChar_toNat]
  simp only [Bool.and_eq_true, decide_eq_true_eq]; omega

theorem digitsValAux_eq_foldl (l : List Char) : ∀ acc, digitsValAux acc l = l.foldl (fun a c => a * 10 + digitVal c) acc := by
  induction l with
  | nil => intro _; rfl
  | cons c r ih => intro acc; exact ih _

theorem digitsVal_eq (l : List Char) : digitsVal l = value digitVal l := digitsValAux_eq_foldl l 0

theorem digitsVal_nil : digitsVal [] = 0 := rfl

theorem digitsVal_cons (c : Char) (cs : List Char) : digitsVal (c :: cs) = digitVal c * 10 ^ cs.length + digitsVal cs := by
  simp only [digitsVal_eq]; exact value_cons c cs

theorem digitsVal_append (l1 l2 : List Char) : digitsVal (l1 ++ l2) = digitsVal l1 * 10 ^ l2.length + digitsVal l2 := by
  simp only [digitsVal_eq]; exact value_append l1 l2

def AllDigits (l : List Char) : Prop := ∀ c ∈ l, isDigit c = true

theorem AllDigits.small {l : List Char} (h : AllDigits l) : Small digitVal l := fun c hc => by
  have := h c hc
  unfold isDigit at this; unfold digitVal
  simp only [Bool.and_eq_true, decide_eq_true_eq] at this; omega

theorem digitsVal_lt {l : List Char} (h : AllDigits l) : digitsVal l < 10 ^ l.length := by
  rw [digitsVal_eq]; exact value_lt h.small

theorem padDigits_length (w n : Nat) : (padDigits w n).length = w := by
  induction w generalizing n with
  | zero => rfl
  | succ w ih => simp [padDigits, ih]

theorem padDigits_ne_nil {w : Nat} (hw : 0 < w) (n : Nat) : padDigits w n ≠ [] := fun h => by
  have := padDigits_length w n; rw [h] at this; exact absurd this (by simp; omega)

theorem padDigits_allDigits (w n : Nat) : AllDigits (padDigits w n) := by
  induction w generalizing n with
  | zero => intro c hc; simp [padDigits] at hc
  | succ w ih =>
    intro c hc
    simp only [padDigits, List.mem_append, List.mem_singleton] at hc
    cases hc with
    | inl h => exact ih _ c h
    | inr h => rw [h]; exact isDigit_digitChar n

theorem digitsVal_padDigits (w n : Nat) : digitsVal (padDigits w n) = n % 10 ^ w := by
  induction w generalizing n with
  | zero => simp [padDigits, digitsVal_nil, Nat.mod_one]
  | succ w ih =>
    simp only [padDigits, digitsVal_append, ih, List.length_singleton, Nat.pow_one, digitsVal_cons, List.length_nil,
      Nat.pow_zero, Nat.mul_one, digitsVal_nil, Nat.add_zero, digitVal_digitChar]
    rw [Nat.pow_succ, Nat.mul_comm (10 ^ w) 10, Nat.mod_mul]
    omega

theorem natDigitsF_eq (f : Nat) : ∀ n, n ≤ f → natDigitsF f n = digits digitChar (f + 1) n := by
  have hd : ∀ n, digitChar n = digitChar (n % 10) := fun n => by unfold digitChar; rw [Nat.mod_mod]
  induction f with
  | zero => intro n h; obtain rfl : n = 0 := by omega
            rfl
  | succ f ih =>
    intro n h
    rw [natDigitsF, digits]
    by_cases hn : n < 10
    · rw [if_pos hn, if_pos hn]
    · rw [if_neg hn, if_neg hn, ih _ (by omega), ← hd]

theorem natDigits_spec (n : Nat) : AllDigits (natDigits n) ∧ digitsVal (natDigits n) = n ∧ natDigits n ≠ [] := by
  obtain ⟨h1, h2, h3, -⟩ := digits_spec (v := digitVal) (chr := digitChar)
    (fun d hd => by rw [digitVal_digitChar, Nat.mod_eq_of_lt hd]) (n + 1) n (by omega)
  rw [natDigits, natDigitsF_eq n n (Nat.le_refl _), digitsVal_eq]
  refine ⟨fun c hc => ?_, h2, fun e => by rw [e] at h3; cases h3⟩
  obtain ⟨d, _, rfl⟩ := h1 c hc
  exact isDigit_digitChar d

theorem natDigits_allDigits (n : Nat) : AllDigits (natDigits n) := (natDigits_spec n).1
theorem digitsVal_natDigits (n : Nat) : digitsVal (natDigits n) = n := (natDigits_spec n).2.1
theorem natDigits_ne_nil (n : Nat) : natDigits n ≠ [] := (natDigits_spec n).2.2

theorem takeDigits_append {ds : List Char} (h : AllDigits ds) (rest : List Char)
    (hr : ∀ c r, rest = c :: r → isDigit c = false) : takeDigits (ds ++ rest) = (ds, rest) := by
  induction ds with
  | nil =>
    cases rest with
    | nil => rfl
    | cons c r => simp [takeDigits, hr c r rfl]
  | cons c cs ih =>
    have hc : isDigit c = true := h c (by simp)
    have := ih (fun x hx => h x (by simp [hx]))
    simp [takeDigits, hc, this]

theorem matchOneOrMoreDigits_append {ds : List Char} (h : AllDigits ds) (hne : ds ≠ []) (rest : List Char)
    (hr : ∀ c r, rest = c :: r → isDigit c = false) : matchOneOrMoreDigits (ds ++ rest) = some (rest, ds) := by
  unfold matchOneOrMoreDigits
  rw [takeDigits_append h rest hr]
  cases ds with
  | nil => exact absurd rfl hne
  | cons c cs => rfl

theorem takeDigits_allDigits (s : List Char) : AllDigits (takeDigits s).1 := by
  induction s with
  | nil => intro c hc; simp [takeDigits] at hc
  | cons x xs ih =>
    intro c hc
    unfold takeDigits at hc
    split at hc
    · rename_i hx
      simp only [List.mem_cons] at hc
      cases hc with
      | inl h => rw [h]; exact hx
      | inr h => exact ih c h
    · simp at hc

theorem matchOneOrMoreDigits_allDigits {s rest ds : List Char} (h : matchOneOrMoreDigits s = some (rest, ds)) : AllDigits ds := by
  unfold matchOneOrMoreDigits at h
  have := takeDigits_allDigits s
  split at h
  · cases h
  · rename_i ds' rest' _ heq
    cases h
    rw [heq] at this; exact this

theorem matchOneOrMoreDigits_nondigit (c : Char) (rest : List Char) (h : isDigit c = false) :
    matchOneOrMoreDigits (c :: rest) = none := by
  simp [matchOneOrMoreDigits, takeDigits, h]

theorem matchOptionalSpanValue_nondigit (c : Char) (rest : List Char) (u : Char) (h : isDigit c = false) :
    matchOptionalSpanValue (c :: rest) u = (c :: rest, none) := by
  simp [matchOptionalSpanValue, matchOneOrMoreDigits_nondigit c rest h]

/-- digits followed by a char that is neither a digit nor the wanted designator: no value, nothing consumed -/
theorem matchOptionalSpanValue_other {ds : List Char} (h : AllDigits ds) (hne : ds ≠ []) (c : Char) (rest : List Char)
    (u : Char) (hc : isDigit c = false) (hu : c ≠ u ∧ c ≠ toAsciiLower u) :
    matchOptionalSpanValue (ds ++ c :: rest) u = (ds ++ c :: rest, none) := by
  unfold matchOptionalSpanValue
  rw [matchOneOrMoreDigits_append h hne (c :: rest) (by intro x r hx; cases hx; exact hc)]
  simp [matchCharCI, hu.1, hu.2]

theorem matchOptionalSpanSeconds_plain {ds : List Char} (h : AllDigits ds) (hne : ds ≠ []) :
    matchOptionalSpanSeconds (ds ++ ['s']) = some ([], some ds, none) := by
  unfold matchOptionalSpanSeconds
  rw [matchOneOrMoreDigits_append h hne ['s'] (by intro x r hx; cases hx; decide)]
  simp [matchCharCI, toAsciiLower]

theorem matchOptionalSpanSeconds_frac {ds fs : List Char} (h : AllDigits ds) (hne : ds ≠ [])
    (hf : AllDigits fs) (hfne : fs ≠ []) :
    matchOptionalSpanSeconds (ds ++ '.' :: (fs ++ ['s'])) = some ([], some ds, some fs) := by
  unfold matchOptionalSpanSeconds
  rw [matchOneOrMoreDigits_append h hne _ (by intro x r hx; cases hx; decide)]
  simp only
  rw [matchOneOrMoreDigits_append hf hfne ['s'] (by intro x r hx; cases hx; decide)]
  simp [matchCharCI, toAsciiLower]

theorem matchSpan_PT (s0 : List Char) (sign : Option Char) (c : Char) (rest : List Char)
    {ds : List Char} (h : AllDigits ds) (hne : ds ≠ [])
    (hs : matchOptionalSign s0 = ('P' :: 'T' :: (ds ++ c :: rest), sign))
    (hc : isDigit c = false) (hH : c ≠ 'H' ∧ c ≠ 'h') (hM : c ≠ 'M' ∧ c ≠ 'm')
    (sec sub : Option (List Char)) (hsec : matchOptionalSpanSeconds (ds ++ c :: rest) = some ([], sec, sub)) :
    matchSpan s0 = some ([], { sign := sign, second := sec, subsecond := sub }) := by
  unfold matchSpan
  rw [hs]
  have e1 : matchCharCI ('P' :: 'T' :: (ds ++ c :: rest)) 'P' = some ('T' :: (ds ++ c :: rest)) := by simp [matchCharCI]
  have eT : ∀ u, matchOptionalSpanValue ('T' :: (ds ++ c :: rest)) u = ('T' :: (ds ++ c :: rest), none) :=
    fun u => matchOptionalSpanValue_nondigit _ _ u (by decide)
  have eH : matchOptionalSpanValue (ds ++ c :: rest) 'H' = (ds ++ c :: rest, none) :=
    matchOptionalSpanValue_other h hne c rest 'H' hc (by simpa [toAsciiLower] using hH)
  have eM : matchOptionalSpanValue (ds ++ c :: rest) 'M' = (ds ++ c :: rest, none) :=
    matchOptionalSpanValue_other h hne c rest 'M' hc (by simpa [toAsciiLower] using hM)
  simp only [e1, eT, eH, eM, hsec, or_true, if_true]

end SaModel.Codec
