import SaModel.Roundtrip.Types
import SaModel.Spec.Interp
import SaModel.Lemmas.C01LeafBridge
import SaModel.Lemmas.C04Pos
import SaModel.Lemmas.C04Scope
import SaModel.Lemmas.C04Mapping
import SaModel.Lemmas.C01Variant
import SaModel.Lemmas.SpecInterp
/-
C04, injectivity of the Rust → Arrow mapping, first half: the documented mapping (`Spec.interpDT`, the very function
the `build` / `roundtrip` drivers compare the implementation's arrays with) sends the serialization of a well-typed
value at its traced field to the type-directed, option-dependent logical value:
      interpDT ext dt nb md (ser t v) = ok (lvO o t v)     where (dt, nb₀, md) = mappingDT o t and nb₀ → nb,
for every option set `o` (`interp_serO`), provided no `None` sits at a Union position (`inScopeU`, the documented
exclusion) and every value of an enum stored as a string (`enums_without_data_as_strings`) is a unit variant (`strOK`);
the logical value of such a value is the variant NAME.
Proved for the grammar `fragE` (scalars, `()`, unit structs, Option, newtype structs, Vec, maps, structs by field name
incl. `skip_serializing_if`, tuples / tuple structs / arrays by position: `Lemmas/C04Pos.lean`, enums).  On the enum-free
fragment `frag` no exclusion applies and `lvO o = lv` (`frag_scopeO`, `frag_lvO`, `interp_ser`).
An instance of the induction over well-typed values (`WtClosed`, Lemmas/C04Mapping.lean).
-/
namespace SaModel.Roundtrip
open SaModel SaModel.Build SaModel.Spec

theorem strategyOf_nil : strategyOf [] = none := rfl

theorem isUnknownVariant_nil (dt : DataType) : isUnknownVariant dt [] = false := by
  cases dt <;> simp [isUnknownVariant, strategyOf_nil]

theorem isUnknownVariant_struct (fs : Fields) (md : Metadata) : isUnknownVariant (.struct fs) md = false := rfl

theorem unknown_mapping (o : TraceOpts) : ∀ (t : Ty) (dt : DataType) (nb : Bool) (md : Metadata),
    mappingDT o t = (dt, nb, md) → isUnknownVariant dt md = false := by
  have h : MappingClosed o (fun _ dt _ md => isUnknownVariant dt md = false) (fun _ _ _ => True) (fun _ _ => True)
      (fun _ _ _ => True) := by
    apply MappingClosed.of_fields (fun _ _ => isUnknownVariant_nil _) (fun _ _ _ => isUnknownVariant_nil _)
    all_goals intros
    all_goals first | trivial | simp_all [isUnknownVariant_nil, isUnknownVariant_struct]
  exact fun _ _ _ _ hm => h.mapping' hm

theorem interpNull_ok (dt : DataType) (md : Metadata) (hu : isUnknownVariant dt md = false) (hn : isUnion dt = false) :
    interpNull dt true md = .ok .null := by
  unfold interpNull
  simp only [hu]
  cases dt <;> simp_all [isUnion]


theorem LVals.ofList_toList : ∀ (l : LVals), LVals.ofList l.toList = l
  | .nil => rfl
  | .cons v r => by simp [LVals.toList, LVals.ofList, LVals.ofList_toList r]

theorem LEntries.ofList_toList : ∀ (l : LEntries), LEntries.ofList l.toList = l
  | .nil => rfl
  | .cons k v r => by simp [LEntries.toList, LEntries.ofList, LEntries.ofList_toList r]

theorem LFields.ofList_toList : ∀ (l : LFields), LFields.ofList l.toList = l
  | .nil => rfl
  | .cons n v r => by simp [LFields.toList, LFields.ofList, LFields.ofList_toList r]

def isOption : Ty → Bool
  | .option _ => true
  | _ => false

def Variants.names : Variants → List String
  | .nil => []
  | .cons n _ r => n :: r.names

mutual
/-- the grammar for which `interp_ser` / `cast_lv` are proved, enums included: scalars, `()`, unit structs, Option,
newtype structs, Vec, maps, tuples / tuple structs / arrays, structs and enums (unit / newtype / tuple / struct
variants) with pairwise distinct field / variant names whose `skip_serializing_if = "Option::is_none"` fields are
Options (guaranteed by rustc / serde for real types). -/
def fragE : Ty → Bool
  | .prim _ | .unit | .unitStruct _ => true
  | .option t | .newtype _ t | .vec t => fragE t
  | .map k v => fragE k && fragE v
  | .struct _ fs => !hasDup fs.names && fragEFields fs
  | .tuple ts | .tupleStruct _ ts => fragETys ts
  | .enum _ vars => !hasDup vars.names && fragEVariants vars

def fragETys : Tys → Bool
  | .nil => true
  | .cons t rest => fragE t && fragETys rest

def fragEFields : TFields → Bool
  | .nil => true
  | .cons _ skip t rest => fragE t && (!skip || isOption t) && fragEFields rest

def fragEVariant : Variant → Bool
  | .unit => true
  | .newtype t => fragE t
  | .tuple ts => fragETys ts
  | .struct fs => !hasDup fs.names && fragEFields fs

def fragEVariants : Variants → Bool
  | .nil => true
  | .cons _ v rest => fragEVariant v && fragEVariants rest
end

mutual
/-- the documented exclusions, type directed: **no `None` at a position traced to a Union** (`Option<enum>` = `None`,
also as a field left out by `skip_serializing_if`), and no value of a data-less enum stored as a string
(`enums_without_data_as_strings`: the logical value is the variant name there, `lv` describes the Union form).
`noneAtUnion (mappingDT o t).1 (ser t v) = false` is the same exclusion read off schema × serialized value. -/
def inScope (o : TraceOpts) : Ty → Val → Bool
  | .option t, .none => !isUnion (mappingDT o t).1
  | .option t, .some v => inScope o t v
  | .newtype _ t, .newtype v => inScope o t v
  | .vec t, .vec vs => inScopeAll o t vs
  | .tuple ts, .tuple vs => inScopePos o ts vs
  | .tupleStruct _ ts, .tuple vs => inScopePos o ts vs
  | .struct _ fs, .struct vs => inScopeFields o fs vs
  | .map k v, .map es => inScopeEntries o k v es
  | .enum _ vars, .variant i payload =>
    !(vars.withoutData && o.enumsWithoutDataAsStrings) &&
    match vars.get? i with
    | some (_, .newtype t) => inScopeSingle o t payload
    | some (_, .tuple ts) => inScopePos o ts payload
    | some (_, .struct fs) => inScopeFields o fs payload
    | _ => true
  | _, _ => true

def inScopeSingle (o : TraceOpts) (t : Ty) : Vals → Bool
  | .cons v .nil => inScope o t v
  | _ => true

def inScopeAll (o : TraceOpts) (t : Ty) : Vals → Bool
  | .nil => true
  | .cons v rest => inScope o t v && inScopeAll o t rest

def inScopePos (o : TraceOpts) : Tys → Vals → Bool
  | .cons t ts, .cons v rest => inScope o t v && inScopePos o ts rest
  | _, _ => true

def inScopeFields (o : TraceOpts) : TFields → Vals → Bool
  | .cons _ _ t fs, .cons v rest => inScope o t v && inScopeFields o fs rest
  | _, _ => true

def inScopeEntries (o : TraceOpts) (k v : Ty) : VEntries → Bool
  | .nil => true
  | .cons a b rest => inScope o k a && inScope o v b && inScopeEntries o k v rest
end

theorem primDT_not_union (o : TraceOpts) : ∀ p, isUnion (primDT o p) = false :=
  primDT_cases (Q := fun dt => isUnion dt = false) (by decide) (fun _ => by decide)

theorem bytesOf_u8Seq : ∀ b : List UInt8, bytesOf (u8Seq b) = some b
  | [] => rfl
  | x :: r => by
    have h1 : (0 : Int) ≤ (x.toNat : Int) := Int.natCast_nonneg _
    have h2 : ((x.toNat : Nat) : Int) ≤ 255 := by have := x.toNat_lt; omega
    simp [u8Seq, bytesOf, byteOf, h1, h2, bytesOf_u8Seq r]

theorem interp_prim (ext : Ext) (o : TraceOpts) (p : Prim) (v : Val) (nb : Bool) (h : p.wt v = true) :
    interpDT ext (primDT o p) nb [] (ser (.prim p) v) = .ok (lv (.prim p) v) := by
  have hstr : ∀ s : String, interpDT ext (if o.stringDictionaryEncoding = true then .dictionary .uint32 (strDT o) else strDT o)
      nb [] (.str s) = .ok (.str s.toUTF8.toList) := by
    intro s
    simp only [strDT]
    by_cases hd : o.stringDictionaryEncoding = true <;> by_cases hl : o.stringsAsLargeUtf8 = true <;>
      simp [hd, hl, interpDT, isUnknownVariant, interpScalar_eq_old, interpScalarOld, interpDictStr, dictValue, liftO, scalarToString, strBytes]
  -- arm by arm of `Prim.wt`
  unfold Prim.wt at h
  split at h
  · simp [ser, lv, primDT, interpDT, isUnknownVariant, interpScalar_eq_old, interpScalarOld, convLeaf, boolInt_ne_zero, bind, Except.bind, pure, Except.pure]
  · rename_i t x
    cases t <;> simp [ser, lv, primDT, intDT, interpDT, isUnknownVariant, interpScalar_eq_old, interpScalarOld, convLeaf, tryInto, h, bind, Except.bind, pure, Except.pure]
  · simp [ser, lv, primDT, interpDT, isUnknownVariant, interpScalar_eq_old, interpScalarOld, convLeaf, bind, Except.bind, pure, Except.pure]
  · simp [ser, lv, primDT, interpDT, isUnknownVariant, interpScalar_eq_old, interpScalarOld, convLeaf, bind, Except.bind, pure, Except.pure]
  · rename_i c
    have hr : IntTy.u32.inRange (c : Int) = true := by
      have hc : c < 0xD800 ∨ (0xE000 ≤ c ∧ c ≤ 0x10FFFF) := by simpa using h
      have h1 : (0 : Int) ≤ c := by omega
      have h2 : (c : Int) ≤ 4294967295 := by omega
      simp [IntTy.inRange, IntTy.min, IntTy.max, h1, h2]
    simp [ser, lv, primDT, interpDT, isUnknownVariant, interpScalar_eq_old, interpScalarOld, convLeaf, tryInto, hr, bind, Except.bind, pure, Except.pure]
  · simpa only [ser, lv, primDT] using hstr _
  · simp [ser, lv, primDT, interpDT, isUnknownVariant, interpScalar_eq_old, interpScalarOld]
  · simpa only [ser, lv, primDT] using hstr _
  · simpa only [ser, lv, primDT] using hstr _
  · simp [ser, lv, primDT, interpDT, isUnknownVariant, interpScalar_eq_old, interpScalarOld]
  · -- `&[u8]` without serde_bytes: the SEQUENCE of u8 means the same binary value (`Spec.bytesOf`)
    simp [ser, lv, primDT, interpDT, isUnknownVariant, specBytes, bytesOf_u8Seq, liftO, bind, Except.bind, pure, Except.pure]
  · cases h


def lookupTV : TFields → Vals → String → Option (Bool × Ty × Val)
  | .cons n s t rest, .cons v vrest, name => if n == name then some (s, t, v) else lookupTV rest vrest name
  | _, _, _ => none

theorem lookupTV_none (name : String) : ∀ (fs : TFields) (vs : Vals), fs.names.contains name = false → lookupTV fs vs name = none
  | .nil, _, _ => by simp [lookupTV]
  | .cons n s t rest, .nil, _ => by simp [lookupTV]
  | .cons n s t rest, .cons v vrest, h => by
    simp only [TFields.names, List.contains_cons, Bool.or_eq_false_iff] at h
    have hne : (n == name) = false := by
      have h1 : (name == n) = false := h.1
      have h2 : name ≠ n := by simpa using h1
      have h3 : n ≠ name := fun e => h2 e.symm
      simpa using h3
    simp [lookupTV, hne, lookupTV_none name rest vrest h.2]

theorem interpByName_ser (ext : Ext) (L : Ty → Val → LVal) (name : String) (dt : DataType) (nb : Bool) (md : Metadata) :
    ∀ (fs : TFields) (vs : Vals), hasDup fs.names = false →
    (∀ s t v, lookupTV fs vs name = some (s, t, v) → ¬ (s = true ∧ v = .none) → interpDT ext dt nb md (ser t v) = .ok (L t v)) →
    interpByName ext name dt nb md (serFields fs vs) =
      .ok (match lookupTV fs vs name with
           | some (s, t, v) => if s = true ∧ v = .none then [] else [L t v]
           | none => [])
  | .nil, vs, _, _ => by simp [serFields, interpByName, lookupTV]
  | .cons n s t rest, .nil, _, _ => by simp [serFields, interpByName, lookupTV]
  | .cons n s t rest, .cons v vrest, hd, hi => by
    simp only [TFields.names, hasDup, Bool.or_eq_false_iff] at hd
    by_cases hn : (n == name) = true
    · have hnn : n = name := by simpa using hn
      subst hnn
      have hnone := lookupTV_none n rest vrest hd.1
      have ihr := interpByName_ser ext L n dt nb md rest vrest hd.2 (by intro s t v h; rw [hnone] at h; cases h)
      rw [hnone] at ihr
      by_cases hs : s = true ∧ v = .none
      · simp [serFields.eq_1, hs, lookupTV.eq_1, ihr]
      · have hv := hi s t v (by simp [lookupTV]) hs
        simp [serFields.eq_1, hs, lookupTV.eq_1, interpByName, ihr, hv, bind, Except.bind, pure, Except.pure]
    · have hn' : (n == name) = false := by simpa using hn
      have ihr := interpByName_ser ext L name dt nb md rest vrest hd.2 (by
        intro s' t' v' h; exact hi s' t' v' (by simp [lookupTV, hn', h]))
      by_cases hs : s = true ∧ v = .none
      · simp [serFields.eq_1, hs, lookupTV.eq_1, hn', ihr]
      · simp [serFields.eq_1, hs, lookupTV.eq_1, hn', interpByName, ihr, bind, Except.bind, pure, Except.pure]


/-- the fields of the suffix `(fs2, vs2)` are found by name in the whole record -/
def Found (fsAll : TFields) (vsAll : Vals) : TFields → Vals → Prop
  | .cons n s t rest, .cons v vrest => lookupTV fsAll vsAll n = some (s, t, v) ∧ Found fsAll vsAll rest vrest
  | _, _ => True

theorem found_of (fsAll : TFields) (vsAll : Vals) : ∀ (fs2 : TFields) (vs2 : Vals),
    (∀ name, fs2.names.contains name = true → lookupTV fsAll vsAll name = lookupTV fs2 vs2 name) →
    hasDup fs2.names = false → Found fsAll vsAll fs2 vs2
  | .nil, _, _, _ => by simp [Found]
  | .cons n s t rest, .nil, _, _ => by simp [Found]
  | .cons n s t rest, .cons v vrest, hall, hd => by
    simp only [TFields.names, hasDup, Bool.or_eq_false_iff] at hd
    refine ⟨?_, found_of fsAll vsAll rest vrest ?_ hd.2⟩
    · rw [hall n (by simp [TFields.names])]; simp [lookupTV]
    · intro name hmem
      rw [hall name (by simp only [TFields.names, List.contains_cons, hmem, Bool.or_true])]
      have hne : (n == name) = false := by
        cases hb : (n == name) with
        | false => rfl
        | true =>
          have : n = name := by simpa using hb
          subst this
          rw [hd.1] at hmem; cases hmem
      simp [lookupTV.eq_1, hne]

/-- every field value of the record satisfies `interp_serO` (logical value `lvO o`) at its own traced field -/
def EachOk (ext : Ext) (o : TraceOpts) : TFields → Vals → Prop
  | .cons _ _ t rest, .cons v vrest =>
    (∀ dt nb0 md, mappingDT o t = (dt, nb0, md) → interpDT ext dt nb0 md (ser t v) = .ok (lvO o t v)) ∧ EachOk ext o rest vrest
  | _, _ => True

/-- one step of `structOf` at a record presentation -/
abbrev stepF (ext : Ext) (sf : SFields) : Field → R (String × LVal) :=
  pickField fun f => interpByName ext f.name f.dataType f.nullable f.metadata sf

theorem mapM_struct (ext : Ext) (o : TraceOpts) (fsAll : TFields) (vsAll : Vals) (hd : hasDup fsAll.names = false) :
    ∀ (fs2 : TFields) (vs2 : Vals), wtFields fs2 vs2 = true → fragEFields fs2 = true → inScopeUFields o fs2 vs2 = true →
    Found fsAll vsAll fs2 vs2 → EachOk ext o fs2 vs2 →
    (mappingFields o fs2).toList.mapM (stepF ext (serFields fsAll vsAll)) = .ok (lvOFields o fs2 vs2).toList
  | .nil, .nil => by intro _ _ _ _ _; simp [mappingFields, Fields.toList, lvOFields, LFields.toList, pure, Except.pure]
  | .nil, .cons _ _ => by intro hw _ _ _ _; simp [wtFields] at hw
  | .cons _ _ _ _, .nil => by intro hw _ _ _ _; simp [wtFields] at hw
  | .cons n s t rest, .cons v vrest => by
    intro hw hf hsc hfound heach
    simp only [wtFields, Bool.and_eq_true] at hw
    simp only [fragEFields, Bool.and_eq_true] at hf
    simp only [inScopeUFields, Bool.and_eq_true] at hsc
    obtain ⟨hl, hfr⟩ := hfound
    obtain ⟨hev, her⟩ := heach
    have ih := mapM_struct ext o fsAll vsAll hd rest vrest hw.2 hf.2 hsc.2 hfr her
    rcases hm : mappingDT o t with ⟨dt, nb0, md⟩
    have hby := interpByName_ser ext (lvO o) n dt nb0 md fsAll vsAll hd (by
      intro s' t' v' h' _
      rw [hl] at h'
      simp only [Option.some.injEq, Prod.mk.injEq] at h'
      obtain ⟨_, rfl, rfl⟩ := h'
      exact hev dt nb0 md hm)
    rw [hl] at hby
    simp only [mappingFields, hm, Fields.toList, List.mapM_cons, ih, lvOFields, LFields.toList]
    by_cases hs : s = true ∧ v = .none
    · -- the field was left out: an Option, read as null
      obtain ⟨hs1, hs2⟩ := hs
      subst hs2
      have hopt : isOption t = true := by
        have := hf.1.2; simpa [hs1] using this
      cases t with
      | option t' =>
        rcases hm' : mappingDT o t' with ⟨dt', nb', md'⟩
        simp only [mappingDT, hm', Prod.mk.injEq] at hm; obtain ⟨rfl, rfl, rfl⟩ := hm
        have hnu : isUnion dt' = false := by simpa [inScopeU, hm'] using hsc.1
        have hnull := interpNull_ok dt' md' (unknown_mapping o t' _ _ _ hm') hnu
        simp [pickField, Field.name, Field.dataType, Field.nullable, Field.metadata, hby, hs1, pickOne, hnull, lvO,
          bind, Except.bind, pure, Except.pure]
      | _ => simp [isOption] at hopt
    · simp [pickField, Field.name, Field.dataType, Field.nullable, Field.metadata, hby, hs, pickOne,
        bind, Except.bind, pure, Except.pure]

theorem interp_record (ext : Ext) (o : TraceOpts) (fs : TFields) (vs : Vals) (hd : hasDup fs.names = false)
    (hw : wtFields fs vs = true) (hf : fragEFields fs = true) (hsc : inScopeUFields o fs vs = true) (heach : EachOk ext o fs vs) :
    structOf (mappingFields o fs).toList (fun f => interpByName ext f.name f.dataType f.nullable f.metadata (serFields fs vs)) =
      .ok (.struct (lvOFields o fs vs)) := by
  have hfound := found_of fs vs fs vs (fun _ _ => rfl) hd
  rw [structOf_eq, mapM_struct ext o fs vs hd fs vs hw hf hsc hfound heach]
  simp [bind, Except.bind, pure, Except.pure, LFields.ofList_toList]

/-- the child of the Union an enum is traced to, for one variant -/
def variantField (o : TraceOpts) (vn : String) : Variant → Field
  | .unit => .mk vn .null true []
  | .newtype t => .mk vn (mappingDT o t).1 (mappingDT o t).2.1 (mappingDT o t).2.2
  | .tuple ts => .mk vn (.struct (mappingPos o 0 ts)) false TUPLE_MD
  | .struct fs => .mk vn (.struct (mappingFields o fs)) false []

theorem variantField_eq (o : TraceOpts) (vn : String) (kind : Variant) : variantField o vn kind =
    .mk vn (mappingDT o (kind.payload vn)).1 (mappingDT o (kind.payload vn)).2.1 (mappingDT o (kind.payload vn)).2.2 := by
  cases kind <;> rfl

theorem mappingVariants_get (o : TraceOpts) : ∀ (vars : Variants) (k i : Nat),
    (mappingVariants o k vars).toList[i]? = (vars.get? i).map fun p => (((k + i : Nat) : Int), variantField o p.1 p.2)
  | .nil, _, _ => by simp [mappingVariants, UFields.toList, Variants.get?]
  | .cons vn v rest, k, 0 => by simp [mappingVariants_cons, variantField_eq, UFields.toList, Variants.get?]
  | .cons vn v rest, k, i + 1 => by
    rw [mappingVariants_cons, UFields.toList, Variants.get?, List.getElem?_cons_succ, mappingVariants_get o rest (k + 1) i,
      show k + 1 + i = k + (i + 1) by omega]

theorem fragEVariants_get : ∀ (vars : Variants) (i : Nat) (vn : String) (kind : Variant),
    fragEVariants vars = true → vars.get? i = some (vn, kind) → fragEVariant kind = true :=
  Variants.get?_all fun _ _ _ => by rw [fragEVariants]

theorem fragE_payload (vn : String) (v : Variant) : fragE (v.payload vn) = fragEVariant v := by
  cases v <;> simp only [Variant.payload, fragE, fragEVariant]

theorem enum_union (o : TraceOpts) (n : String) (vars : Variants) (dt : DataType) (nb : Bool) (md : Metadata)
    (hform : (vars.withoutData && o.enumsWithoutDataAsStrings) = false) (hm : mappingDT o (.enum n vars) = (dt, nb, md)) :
    dt = .union (mappingVariants o 0 vars) .dense ∧ nb = false ∧ md = [] := by
  simp only [mappingDT, hform, Bool.false_eq_true, if_false, Prod.mk.injEq] at hm
  exact ⟨hm.1.symm, hm.2.1.symm, hm.2.2.symm⟩

theorem lvO_prim (o : TraceOpts) (p : Prim) (v : Val) : lvO o (.prim p) v = lv (.prim p) v := by
  -- arm by arm of `lvO`: the scalar arms and the last one are those of `lv`, the others are no scalar types
  generalize ht : Ty.prim p = t
  unfold lvO
  split <;> cases ht
  all_goals simp only [lv, *]

theorem interp_primO (ext : Ext) (o : TraceOpts) (p : Prim) (v : Val) (nb : Bool) (h : p.wt v = true) :
    interpDT ext (primDT o p) nb [] (ser (.prim p) v) = .ok (lvO o (.prim p) v) := by
  rw [lvO_prim]; exact interp_prim ext o p v nb h

theorem union_child (o : TraceOpts) {vars : Variants} {i : Nat} {vn : String} {kind : Variant}
    (hg : vars.get? i = some (vn, kind)) : (mappingVariants o 0 vars).toList[i]? = some ((i : Int), variantField o vn kind) := by
  rw [mappingVariants_get, hg]; simp

section
variable {o : TraceOpts} {n : String} {vars : Variants} {i : Nat} {p : Vals} {vn : String} {kind : Variant}
  (hg : vars.get? i = some (vn, kind)) (hw : wt (.enum n vars) (.variant i p) = true)
include hg hw

theorem ser_isVariant : IsVariant (ser (.enum n vars) (.variant i p)) i (ser (kind.payload vn) (kind.payloadVal p)) := by
  cases variant_val hg hw <;>
    simp only [ser, hg, serSingle, Variant.payload, Variant.payloadVal] <;> constructor

theorem inScopeU_variant : inScopeU o (.enum n vars) (.variant i p) = inScopeU o (kind.payload vn) (kind.payloadVal p) := by
  cases variant_val hg hw <;>
    simp only [inScopeU, hg, inScopeUSingle, Variant.payload, Variant.payloadVal]

variable (hform : (vars.withoutData && o.enumsWithoutDataAsStrings) = false)
include hform

theorem strOK_variant : strOK o (.enum n vars) (.variant i p) = strOK o (kind.payload vn) (kind.payloadVal p) := by
  cases variant_val hg hw <;>
    simp only [strOK, hform, Bool.false_eq_true, if_false, hg, strOKSingle, Variant.payload, Variant.payloadVal]

theorem lvO_variant : lvO o (.enum n vars) (.variant i p) = .union i (lvO o (kind.payload vn) (kind.payloadVal p)) := by
  cases variant_val hg hw <;>
    simp only [lvO, hform, Bool.false_eq_true, if_false, hg, lvOSingle, Variant.payload, Variant.payloadVal]

end

/-- **the documented mapping sends the serialization of a well-typed value to its (option-dependent) logical value**
`lvO o`: the Union form for enums with data (or without `enums_without_data_as_strings`), the variant NAME for an enum
without data stored as a string.  Exclusions: no `None` at a Union position (`inScopeU`, documented), and the values of
string-stored enums are unit variants (`strOK`).  Shape by shape of a well-typed value. -/
theorem closed_interp (ext : Ext) (o : TraceOpts) :
    WtClosed (fun t v => ∀ nb, fragE t = true → inScopeU o t v = true → strOK o t v = true →
        ((mappingDT o t).2.1 = true → nb = true) →
        interpDT ext (mappingDT o t).1 nb (mappingDT o t).2.2 (ser t v) = .ok (lvO o t v))
      (fun t vs => fragE t = true → inScopeUAll o t vs = true → strOKAll o t vs = true →
        interpAll ext (mappingDT o t).1 (mappingDT o t).2.1 (mappingDT o t).2.2 (serAll t vs) = .ok (lvOAll o t vs).toList)
      (fun ts vs => fragETys ts = true → inScopeUPos o ts vs = true → strOKPos o ts vs = true → EachOkPos ext o ts vs)
      (fun fs vs => fragEFields fs = true → inScopeUFields o fs vs = true → strOKFields o fs vs = true → EachOk ext o fs vs)
      (fun k v es => fragE k = true → fragE v = true → inScopeUEntries o k v es = true → strOKEntries o k v es = true →
        interpEntries ext (mappingDT o k).1 (mappingDT o k).2.1 (mappingDT o k).2.2 (mappingDT o v).1 (mappingDT o v).2.1
          (mappingDT o v).2.2 (serEntries k v es) = .ok (lvOEntries o k v es).toList) where
  prim p v hp nb _ _ _ _ := interp_primO ext o p v nb hp
  unit nb _ _ _ _ := by simp [mappingDT, ser, lvO, interpDT, interpNull, isUnknownVariant, strategyOf_nil]
  unitStruct n nb _ _ _ _ := by simp [mappingDT, ser, lvO, interpDT, interpNull, isUnknownVariant, strategyOf_nil]
  optNone t nb _ hs _ hnb := by
    rw [mappingDT_option] at hnb ⊢
    obtain rfl := hnb rfl
    simp only [ser, lvO, interpDT]
    exact interpNull_ok _ _ (unknown_mapping o t _ _ _ rfl) (by simpa [inScopeU] using hs)
  optSome t v _ ih nb hf hs hk hnb := by
    rw [mappingDT_option] at hnb ⊢
    simp only [ser, lvO, interpDT]
    exact ih nb hf hs hk fun _ => hnb rfl
  newtype n t v _ ih nb hf hs hk hnb := by
    rw [mappingDT] at hnb ⊢
    simp only [ser, lvO, interpDT]
    exact ih nb hf hs hk hnb
  vec t vs _ ih nb hf hs hk _ := by
    rw [mappingDT_vec]
    split <;> simp [ser, lvO, interpDT, isUnknownVariant, ih hf hs hk, bind, Except.bind, pure, Except.pure, LVals.ofList_toList]
  tuple ts vs hw ih nb hf hs hk _ := by
    simp only [mappingDT, ser, lvO, interpDT, isUnknownVariant_struct]
    rw [interp_tuple ext o ts vs hw (ih hf hs hk)]
    simp [LFields.ofList_toList]
  tupleStruct n ts vs hw ih nb hf hs hk _ := by
    simp only [mappingDT, ser, lvO, interpDT, isUnknownVariant_struct]
    rw [interp_tuple ext o ts vs hw (ih hf hs hk)]
    simp [LFields.ofList_toList]
  struct n fs vs hw ih nb hf hs hk _ := by
    simp only [fragE, Bool.and_eq_true, Bool.not_eq_true'] at hf
    simp only [mappingDT, ser, lvO, interpDT, isUnknownVariant_struct]
    rw [interp_record ext o fs vs hf.1 hw hf.2 hs (ih hf.2 hs hk)]
    simp
  map k v es _ ih nb hf hs hk _ := by
    simp only [fragE, Bool.and_eq_true] at hf
    rw [mappingDT_map]
    simp [ser, lvO, interpDT, isUnknownVariant, ih hf.1 hf.2 hs hk, bind, Except.bind, pure, Except.pure, LEntries.ofList_toList]
  variant n vars i vn kind p hg hw ih nb hf hs hk _ := by
    simp only [fragE, Bool.and_eq_true, Bool.not_eq_true'] at hf
    cases hform : (vars.withoutData && o.enumsWithoutDataAsStrings) with
    | true =>
      -- an enum without data stored as a string: a unit variant (`strOK`), its name
      cases variant_val hg hw with
      | unit =>
        have hst : interpDictStr ext (strDT o) vn = .ok (.str (strBytes vn)) := by unfold strDT; split <;> rfl
        simp [mappingDT, ser, lvO, hg, hform, interpDT, interpScalar_eq_old, interpScalarOld, scalarToString, hst, strBytes]
      | _ => simp [strOK, hform, hg] at hk
    | false =>
      -- the Union form: the union slot around what the payload means at the variant's child
      rw [inScopeU_variant hg hw] at hs
      rw [strOK_variant hg hw hform] at hk
      simp only [mappingDT, hform, Bool.false_eq_true, if_false]
      exact (interpDT_variant_iff (ser_isVariant hg hw) ((union_child o hg).trans (by rw [variantField_eq]))).mpr
        ⟨_, ih _ (fragE_payload vn kind ▸ fragEVariants_get vars i vn _ hf.2 hg) hs hk id, lvO_variant hg hw hform⟩
  allNil t _ _ _ := by simp [serAll, lvOAll, interpAll, LVals.toList]
  allCons t v rest _ _ ih1 ih2 hf hs hk := by
    simp only [inScopeUAll, strOKAll, Bool.and_eq_true] at hs hk
    simp [serAll, lvOAll, interpAll, LVals.toList, ih1 _ hf hs.1 hk.1 id, ih2 hf hs.2 hk.2, bind, Except.bind, pure, Except.pure]
  posNil _ _ _ := trivial
  posCons t ts v rest _ _ ih1 ih2 hf hs hk := by
    simp only [fragETys, inScopeUPos, strOKPos, Bool.and_eq_true] at hf hs hk
    exact ⟨fun dt nb0 md hm => by have := ih1 nb0 hf.1 hs.1 hk.1; rw [hm] at this; exact this id, ih2 hf.2 hs.2 hk.2⟩
  fieldsNil _ _ _ := trivial
  fieldsCons n s t fs v rest _ _ ih1 ih2 hf hs hk := by
    simp only [fragEFields, inScopeUFields, strOKFields, Bool.and_eq_true] at hf hs hk
    exact ⟨fun dt nb0 md hm => by have := ih1 nb0 hf.1.1 hs.1 hk.1; rw [hm] at this; exact this id, ih2 hf.2 hs.2 hk.2⟩
  entriesNil _ _ _ _ _ _ := by simp [serEntries, lvOEntries, interpEntries, LEntries.toList]
  entriesCons k v a b rest _ _ _ ih1 ih2 ih3 hfk hfv hs hk := by
    simp only [inScopeUEntries, strOKEntries, Bool.and_eq_true] at hs hk
    simp [serEntries, lvOEntries, interpEntries, LEntries.toList, ih1 _ hfk hs.1.1 hk.1.1 id, ih2 _ hfv hs.1.2 hk.1.2 id,
      ih3 hfk hfv hs.2 hk.2, bind, Except.bind, pure, Except.pure]

theorem interp_serO (ext : Ext) (o : TraceOpts) : ∀ (t : Ty) (v : Val) (nb : Bool) (dt : DataType) (nb0 : Bool) (md : Metadata),
    fragE t = true → wt t v = true → inScopeU o t v = true → strOK o t v = true →
    mappingDT o t = (dt, nb0, md) → (nb0 = true → nb = true) →
    interpDT ext dt nb md (ser t v) = .ok (lvO o t v) := by
  intro t v nb dt nb0 md hf hw hs hk hm
  have := (closed_interp ext o).val t v hw nb hf hs hk
  rwa [hm] at this

theorem interp_serAllO (ext : Ext) (o : TraceOpts) : ∀ (t : Ty) (vs : Vals) (dt : DataType) (nb0 : Bool) (md : Metadata),
    fragE t = true → wtAll t vs = true → inScopeUAll o t vs = true → strOKAll o t vs = true → mappingDT o t = (dt, nb0, md) →
    interpAll ext dt nb0 md (serAll t vs) = .ok (lvOAll o t vs).toList :=
  fun t vs dt nb0 md hf hw hs hk hm => by have := (closed_interp ext o).all t vs hw hf hs hk; rwa [hm] at this

theorem interp_serEntriesO (ext : Ext) (o : TraceOpts) : ∀ (k v : Ty) (es : VEntries)
    (kdt : DataType) (knb : Bool) (kmd : Metadata) (vdt : DataType) (vnb : Bool) (vmd : Metadata),
    fragE k = true → fragE v = true → wtEntries k v es = true → inScopeUEntries o k v es = true →
    strOKEntries o k v es = true →
    mappingDT o k = (kdt, knb, kmd) → mappingDT o v = (vdt, vnb, vmd) →
    interpEntries ext kdt knb kmd vdt vnb vmd (serEntries k v es) = .ok (lvOEntries o k v es).toList :=
  fun k v es kdt knb kmd vdt vnb vmd hfk hfv hw hs hk hkm hvm => by
    have := (closed_interp ext o).entries k v es hw hfk hfv hs hk; rwa [hkm, hvm] at this

theorem interp_serEachO (ext : Ext) (o : TraceOpts) : ∀ (fs : TFields) (vs : Vals),
    fragEFields fs = true → wtFields fs vs = true → inScopeUFields o fs vs = true → strOKFields o fs vs = true →
    EachOk ext o fs vs :=
  fun fs vs hf hw => (closed_interp ext o).fields fs vs hw hf

theorem interp_serEachPosO (ext : Ext) (o : TraceOpts) : ∀ (ts : Tys) (vs : Vals),
    fragETys ts = true → wtPos ts vs = true → inScopeUPos o ts vs = true → strOKPos o ts vs = true →
    EachOkPos ext o ts vs :=
  fun ts vs hf hw => (closed_interp ext o).pos ts vs hw hf

mutual
/-- the fragment of the grammar for which `interp_ser` is proved: scalars, `()`, unit structs, Option, newtype
structs, Vec, maps, and structs with pairwise distinct field names whose `skip_serializing_if = "Option::is_none"`
fields are Options (both guaranteed by rustc / serde for real types), tuples / tuple structs / arrays.  Enums are not
in it. -/
def frag : Ty → Bool
  | .prim _ | .unit | .unitStruct _ => true
  | .option t | .newtype _ t | .vec t => frag t
  | .map k v => frag k && frag v
  | .struct _ fs => !hasDup fs.names && fragFields fs
  | .tuple ts | .tupleStruct _ ts => fragTys ts
  | _ => false

def fragTys : Tys → Bool
  | .nil => true
  | .cons t rest => frag t && fragTys rest

def fragFields : TFields → Bool
  | .nil => true
  | .cons _ skip t rest => frag t && (!skip || isOption t) && fragFields rest
end

theorem frag_not_union (o : TraceOpts) : ∀ (t : Ty) (dt : DataType) (nb : Bool) (md : Metadata),
    frag t = true → mappingDT o t = (dt, nb, md) → isUnion dt = false := by
  have h : MappingClosed o (fun t dt _ _ => frag t = true → isUnion dt = false) (fun _ _ _ => True) (fun _ _ => True)
      (fun _ _ _ => True) :=
    { prim := fun p _ => primDT_not_union o p, unit := fun _ => rfl, unitStruct := fun _ _ => rfl, option := fun _ _ _ _ ih => ih,
      newtype := fun _ _ _ _ _ ih => ih, vec := fun _ _ _ _ _ _ => by split <;> rfl, tuple := fun _ _ _ _ => rfl,
      tupleStruct := fun _ _ _ _ _ => rfl, struct := fun _ _ _ _ _ => rfl, enumStr := fun _ _ _ _ => rfl,
      enumUnion := fun _ _ _ _ _ hf => by simp [frag] at hf, map := fun _ _ _ _ _ _ _ _ _ _ _ => rfl,
      posNil := fun _ => trivial, posCons := fun _ _ _ _ _ _ _ _ _ => trivial, fieldsNil := trivial,
      fieldsCons := fun _ _ _ _ _ _ _ _ _ _ => trivial, variantsNil := fun _ => trivial,
      variant := fun _ _ _ _ _ _ _ _ _ _ => trivial }
  exact fun _ _ _ _ hf hm => h.mapping' hm hf

mutual
theorem frag_fragE : ∀ (t : Ty), frag t = true → fragE t = true
  | .prim _, _ | .unit, _ | .unitStruct _, _ => by simp [fragE]
  | .option t, h | .newtype _ t, h | .vec t, h => by
    simp only [frag] at h; exact frag_fragE t h
  | .map k v, h => by
    simp only [frag, Bool.and_eq_true] at h
    simp [fragE, frag_fragE k h.1, frag_fragE v h.2]
  | .struct _ fs, h => by
    simp only [frag, Bool.and_eq_true] at h
    simp [fragE, h.1, fragFields_fragE fs h.2]
  | .tuple ts, h | .tupleStruct _ ts, h => by
    simp only [frag] at h; exact fragTys_fragE ts h
  | .enum _ _, h => by simp [frag] at h
theorem fragTys_fragE : ∀ (ts : Tys), fragTys ts = true → fragETys ts = true
  | .nil, _ => by simp [fragETys]
  | .cons t r, h => by
    simp only [fragTys, Bool.and_eq_true] at h
    simp [fragETys, frag_fragE t h.1, fragTys_fragE r h.2]
theorem fragFields_fragE : ∀ (fs : TFields), fragFields fs = true → fragEFields fs = true
  | .nil, _ => by simp [fragEFields]
  | .cons _ s t r, h => by
    simp only [fragFields, Bool.and_eq_true] at h
    simp only [fragEFields, Bool.and_eq_true]
    exact ⟨⟨frag_fragE t h.1.1, h.1.2⟩, fragFields_fragE r h.2⟩
end

/-- the exclusions are vacuous in the enum-free fragment: along the definition of `inScope`; a type of the fragment is not
traced to a Union (`frag_not_union`) -/
theorem frag_inScope_mutual (o : TraceOpts) :
    (∀ t v, frag t = true → inScope o t v = true) ∧
    (∀ t vs, frag t = true → inScopeSingle o t vs = true) ∧
    (∀ k v es, frag k = true → frag v = true → inScopeEntries o k v es = true) ∧
    (∀ fs vs, fragFields fs = true → inScopeFields o fs vs = true) ∧
    (∀ ts vs, fragTys ts = true → inScopePos o ts vs = true) ∧
    (∀ t vs, frag t = true → inScopeAll o t vs = true) := by
  apply inScope.mutual_induct
  case case1 =>
    intro t hf
    rcases hm : mappingDT o t with ⟨dt, nb, md⟩
    simp [inScope, hm, frag_not_union o t _ _ _ hf hm]
  all_goals intros
  all_goals try simp only [frag, fragFields, fragTys, Bool.and_eq_true, Bool.false_eq_true] at *
  all_goals simp only [inScope, inScopeSingle, inScopeEntries, inScopeFields, inScopePos, inScopeAll, Bool.and_self, *]

theorem frag_inScope (o : TraceOpts) : ∀ (t : Ty) (v : Val), frag t = true → inScope o t v = true :=
  (frag_inScope_mutual o).1
theorem frag_inScopeAll (o : TraceOpts) : ∀ (t : Ty) (vs : Vals), frag t = true → inScopeAll o t vs = true :=
  (frag_inScope_mutual o).2.2.2.2.2
theorem frag_inScopePos (o : TraceOpts) : ∀ (ts : Tys) (vs : Vals), fragTys ts = true → inScopePos o ts vs = true :=
  (frag_inScope_mutual o).2.2.2.2.1
theorem frag_inScopeFields (o : TraceOpts) : ∀ (fs : TFields) (vs : Vals), fragFields fs = true → inScopeFields o fs vs = true :=
  (frag_inScope_mutual o).2.2.2.1
theorem frag_inScopeEntries (o : TraceOpts) : ∀ (k v : Ty) (es : VEntries), frag k = true → frag v = true →
    inScopeEntries o k v es = true :=
  (frag_inScope_mutual o).2.2.1

/-! ### the stronger exclusion `inScope` (no `None` at a Union position AND no value of a string-stored enum at all) implies the
two exclusions `inScopeU` and `strOK`, and there the option-dependent logical value `lvO o` is the option-independent `lv`.  No
hypothesis on the type or the value (ill-typed pairs fall into the default arms of every function). -/

/-- along the definition of `inScope` (the three functions have the same arms, `strOK` none for `None`) -/
theorem scopeU_of_inScope_mutual (o : TraceOpts) :
    (∀ t v, inScope o t v = true → inScopeU o t v = true ∧ strOK o t v = true) ∧
    (∀ t vs, inScopeSingle o t vs = true → inScopeUSingle o t vs = true ∧ strOKSingle o t vs = true) ∧
    (∀ k v es, inScopeEntries o k v es = true → inScopeUEntries o k v es = true ∧ strOKEntries o k v es = true) ∧
    (∀ fs vs, inScopeFields o fs vs = true → inScopeUFields o fs vs = true ∧ strOKFields o fs vs = true) ∧
    (∀ ts vs, inScopePos o ts vs = true → inScopeUPos o ts vs = true ∧ strOKPos o ts vs = true) ∧
    (∀ t vs, inScopeAll o t vs = true → inScopeUAll o t vs = true ∧ strOKAll o t vs = true) := by
  apply inScope.mutual_induct
  all_goals intros
  all_goals rename_i h
  all_goals try simp only [inScope, inScopeSingle, inScopeEntries, inScopeFields, inScopePos, inScopeAll, Bool.and_eq_true,
    Bool.not_eq_true', *] at h
  all_goals simp only [inScopeU, inScopeUSingle, inScopeUEntries, inScopeUFields, inScopeUPos, inScopeUAll,
    strOK, strOKSingle, strOKEntries, strOKFields, strOKPos, strOKAll, Bool.and_eq_true, Bool.false_eq_true, if_false, and_self, *]
  -- left: `None` where no Union is, and the payload of a variant by its kind
  · simp
  · split at h <;> simp_all

/-- along the definition of `lvO`: it differs from `lv` only at an enum in string form, which `inScope` excludes -/
theorem lvO_of_inScope_mutual (o : TraceOpts) :
    (∀ t v, inScope o t v = true → lvO o t v = lv t v) ∧
    (∀ k v es, inScopeEntries o k v es = true → lvOEntries o k v es = lvEntries k v es) ∧
    (∀ i t vs, inScopeSingle o t vs = true → lvOSingle o i t vs = lvSingle i t vs) ∧
    (∀ fs vs, inScopeFields o fs vs = true → lvOFields o fs vs = lvFields fs vs) ∧
    (∀ i ts vs, inScopePos o ts vs = true → lvOPos o i ts vs = lvPos i ts vs) ∧
    (∀ t vs, inScopeAll o t vs = true → lvOAll o t vs = lvAll t vs) := by
  apply lvO.mutual_induct o
  all_goals intros
  all_goals rename_i h
  all_goals try simp only [inScope, inScopeSingle, inScopeEntries, inScopeFields, inScopePos, inScopeAll, Bool.and_eq_true,
    Bool.not_eq_true', Bool.true_eq_false, false_and, *] at h
  all_goals simp only [lvO, lvOSingle, lvOEntries, lvOFields, lvOPos, lvOAll, lv, lvSingle, lvEntries, lvFields, lvPos, lvAll,
    Bool.false_eq_true, if_false, *]

theorem scope_of_inScope (o : TraceOpts) : ∀ (t : Ty) (v : Val), inScope o t v = true →
    inScopeU o t v = true ∧ strOK o t v = true ∧ lvO o t v = lv t v :=
  fun t v h => and_assoc.mp ⟨(scopeU_of_inScope_mutual o).1 t v h, (lvO_of_inScope_mutual o).1 t v h⟩
theorem scope_of_inScopeSingle (o : TraceOpts) : ∀ (i : Nat) (t : Ty) (vs : Vals), inScopeSingle o t vs = true →
    inScopeUSingle o t vs = true ∧ strOKSingle o t vs = true ∧ lvOSingle o i t vs = lvSingle i t vs :=
  fun i t vs h => and_assoc.mp ⟨(scopeU_of_inScope_mutual o).2.1 t vs h, (lvO_of_inScope_mutual o).2.2.1 i t vs h⟩
theorem scope_of_inScopeAll (o : TraceOpts) : ∀ (t : Ty) (vs : Vals), inScopeAll o t vs = true →
    inScopeUAll o t vs = true ∧ strOKAll o t vs = true ∧ lvOAll o t vs = lvAll t vs :=
  fun t vs h => and_assoc.mp ⟨(scopeU_of_inScope_mutual o).2.2.2.2.2 t vs h, (lvO_of_inScope_mutual o).2.2.2.2.2 t vs h⟩
theorem scope_of_inScopePos (o : TraceOpts) : ∀ (i : Nat) (ts : Tys) (vs : Vals), inScopePos o ts vs = true →
    inScopeUPos o ts vs = true ∧ strOKPos o ts vs = true ∧ lvOPos o i ts vs = lvPos i ts vs :=
  fun i ts vs h => and_assoc.mp ⟨(scopeU_of_inScope_mutual o).2.2.2.2.1 ts vs h, (lvO_of_inScope_mutual o).2.2.2.2.1 i ts vs h⟩
theorem scope_of_inScopeFields (o : TraceOpts) : ∀ (fs : TFields) (vs : Vals), inScopeFields o fs vs = true →
    inScopeUFields o fs vs = true ∧ strOKFields o fs vs = true ∧ lvOFields o fs vs = lvFields fs vs :=
  fun fs vs h => and_assoc.mp ⟨(scopeU_of_inScope_mutual o).2.2.2.1 fs vs h, (lvO_of_inScope_mutual o).2.2.2.1 fs vs h⟩
theorem scope_of_inScopeEntries (o : TraceOpts) : ∀ (k v : Ty) (es : VEntries), inScopeEntries o k v es = true →
    inScopeUEntries o k v es = true ∧ strOKEntries o k v es = true ∧ lvOEntries o k v es = lvEntries k v es :=
  fun k v es h => and_assoc.mp ⟨(scopeU_of_inScope_mutual o).2.2.1 k v es h, (lvO_of_inScope_mutual o).2.1 k v es h⟩

theorem frag_inScopeU (o : TraceOpts) : ∀ (t : Ty) (v : Val), frag t = true → inScopeU o t v = true :=
  fun t v hf => (scope_of_inScope o t v (frag_inScope o t v hf)).1
theorem frag_inScopeUAll (o : TraceOpts) : ∀ (t : Ty) (vs : Vals), frag t = true → inScopeUAll o t vs = true :=
  fun t vs hf => (scope_of_inScopeAll o t vs (frag_inScopeAll o t vs hf)).1
theorem frag_inScopeUPos (o : TraceOpts) : ∀ (ts : Tys) (vs : Vals), fragTys ts = true → inScopeUPos o ts vs = true :=
  fun ts vs hf => (scope_of_inScopePos o 0 ts vs (frag_inScopePos o ts vs hf)).1
theorem frag_inScopeUFields (o : TraceOpts) : ∀ (fs : TFields) (vs : Vals), fragFields fs = true → inScopeUFields o fs vs = true :=
  fun fs vs hf => (scope_of_inScopeFields o fs vs (frag_inScopeFields o fs vs hf)).1
theorem frag_inScopeUEntries (o : TraceOpts) : ∀ (k v : Ty) (es : VEntries), frag k = true → frag v = true →
    inScopeUEntries o k v es = true :=
  fun k v es hk hv => (scope_of_inScopeEntries o k v es (frag_inScopeEntries o k v es hk hv)).1

theorem frag_strOK (o : TraceOpts) : ∀ (t : Ty) (v : Val), frag t = true → strOK o t v = true :=
  fun t v hf => (scope_of_inScope o t v (frag_inScope o t v hf)).2.1
theorem frag_strOKAll (o : TraceOpts) : ∀ (t : Ty) (vs : Vals), frag t = true → strOKAll o t vs = true :=
  fun t vs hf => (scope_of_inScopeAll o t vs (frag_inScopeAll o t vs hf)).2.1
theorem frag_strOKPos (o : TraceOpts) : ∀ (ts : Tys) (vs : Vals), fragTys ts = true → strOKPos o ts vs = true :=
  fun ts vs hf => (scope_of_inScopePos o 0 ts vs (frag_inScopePos o ts vs hf)).2.1
theorem frag_strOKFields (o : TraceOpts) : ∀ (fs : TFields) (vs : Vals), fragFields fs = true → strOKFields o fs vs = true :=
  fun fs vs hf => (scope_of_inScopeFields o fs vs (frag_inScopeFields o fs vs hf)).2.1
theorem frag_strOKEntries (o : TraceOpts) : ∀ (k v : Ty) (es : VEntries), frag k = true → frag v = true →
    strOKEntries o k v es = true :=
  fun k v es hk hv => (scope_of_inScopeEntries o k v es (frag_inScopeEntries o k v es hk hv)).2.1

theorem frag_scopeO (o : TraceOpts) (t : Ty) (v : Val) (hf : frag t = true) :
    inScopeU o t v = true ∧ strOK o t v = true :=
  ⟨frag_inScopeU o t v hf, frag_strOK o t v hf⟩

theorem frag_lvO (o : TraceOpts) : ∀ (t : Ty) (v : Val), frag t = true → lvO o t v = lv t v :=
  fun t v hf => (scope_of_inScope o t v (frag_inScope o t v hf)).2.2
theorem frag_lvOAll (o : TraceOpts) : ∀ (t : Ty) (vs : Vals), frag t = true → lvOAll o t vs = lvAll t vs :=
  fun t vs hf => (scope_of_inScopeAll o t vs (frag_inScopeAll o t vs hf)).2.2
theorem frag_lvOPos (o : TraceOpts) : ∀ (ts : Tys) (vs : Vals) (i : Nat), fragTys ts = true → lvOPos o i ts vs = lvPos i ts vs :=
  fun ts vs i hf => (scope_of_inScopePos o i ts vs (frag_inScopePos o ts vs hf)).2.2
theorem frag_lvOFields (o : TraceOpts) : ∀ (fs : TFields) (vs : Vals), fragFields fs = true → lvOFields o fs vs = lvFields fs vs :=
  fun fs vs hf => (scope_of_inScopeFields o fs vs (frag_inScopeFields o fs vs hf)).2.2
theorem frag_lvOEntries (o : TraceOpts) : ∀ (k v : Ty) (es : VEntries), frag k = true → frag v = true →
    lvOEntries o k v es = lvEntries k v es :=
  fun k v es hk hv => (scope_of_inScopeEntries o k v es (frag_inScopeEntries o k v es hk hv)).2.2

theorem interp_ser (ext : Ext) (o : TraceOpts) (t : Ty) (v : Val) (nb : Bool) (dt : DataType) (nb0 : Bool) (md : Metadata)
    (hf : frag t = true) (hw : wt t v = true) (hm : mappingDT o t = (dt, nb0, md)) (hnb : nb0 = true → nb = true) :
    interpDT ext dt nb md (ser t v) = .ok (lv t v) := by
  rw [← frag_lvO o t v hf]
  exact interp_serO ext o t v nb dt nb0 md (frag_fragE t hf) hw (frag_inScopeU o t v hf) (frag_strOK o t v hf) hm hnb

end SaModel.Roundtrip
