import SaModel.Lemmas.C01ObsAlg
/-
C01 "hidden rows" — step lemmas of the container families with the children abstract (the observable counterparts of
Lemmas/C01Cont.lean and Lemmas/C01Struct.lean): the child moved from `el` to `el'` with
`Refines (decH el') (decH el ++ t)`, the container's own bookkeeping moved accordingly — then the container satisfies
`WFH` again and its observable rows refine the old ones plus exactly the expected additional rows.
-/
namespace SaModel.Build
open SaModel SaModel.Spec

/-! ### generic helpers: monotonicity of `dictRowH` in keys and values, pointwise `Refines` of zipped lists (the row functions
`listRowsH` / `fslRowsH` / `mapRowsH`: Lemmas/C01ObsAlg.lean) -/

theorem refines_zipWith {α β} (f g : α → β → Option LVal) (l1 : List α) (l2 : List β)
    (h : ∀ p ∈ l1.zip l2, ∀ y, g p.1 p.2 = some y → f p.1 p.2 = some y) :
    Refines (List.zipWith f l1 l2) (List.zipWith g l1 l2) := by
  rw [← List.map_uncurry_zip_eq_zipWith, ← List.map_uncurry_zip_eq_zipWith]
  exact refines_map _ _ _ (fun p hp y hy => h p hp y hy)

theorem Refines.of_eq {a b : H} (h : a = b) : Refines a b := h ▸ Refines.refl a

theorem allSome_cons_eq_some {α} (a : Option α) (r : List (Option α)) (fl : List α) :
    allSome (a :: r) = some fl ↔ ∃ x fl', a = some x ∧ allSome r = some fl' ∧ fl = x :: fl' := by
  cases a with
  | none => simp [allSome]
  | some x =>
    simp only [allSome, Option.map_eq_some_iff]
    constructor
    · rintro ⟨fl', h1, h2⟩; exact ⟨x, fl', rfl, h1, h2.symm⟩
    · rintro ⟨x', fl', h0, h1, h2⟩; cases h0; exact ⟨fl', h1, h2.symm⟩

theorem getElem?_of_getD_some {l : H} {i : Nat} {z : LVal} (hi : i < l.length) (h : l.getD i (some .null) = some z) :
    l[i]? = some (some z) := by
  rw [List.getD_eq_getElem?_getD, List.getElem?_eq_getElem hi] at h
  rw [List.getElem?_eq_getElem hi]
  simpa using h

theorem getDH_of_getElem? {l : H} {i : Nat} {z : LVal} (d : Option LVal) (h : l[i]? = some (some z)) :
    l.getD i d = some z := by
  rw [List.getD_eq_getElem?_getD, h]; rfl

/-- a refinement of fully determined rows is fully determined -/
theorem Refines.all_some {a b : H} (h : Refines a b) (hb : ∀ r ∈ b, r.isSome = true) : ∀ r ∈ a, r.isSome = true := by
  intro r hr
  obtain ⟨i, hi, rfl⟩ := List.getElem_of_mem hr
  have hib : i < b.length := h.1 ▸ hi
  have := hb b[i] (List.getElem_mem hib)
  cases hx : b[i] with
  | none => rw [hx] at this; simp at this
  | some x =>
    have h2 := h.2 i x (by rw [List.getElem?_eq_getElem hib, hx])
    rw [List.getElem?_eq_getElem hi] at h2
    rw [Option.some.inj h2]; rfl

/-- a dictionary row is monotone in keys and values -/
theorem dictRowsH_refines {a b v w : H} (h1 : Refines a b) (h2 : Refines v w) :
    Refines (a.map (dictRowH v)) (b.map (dictRowH w)) := by
  refine ⟨by simp [h1.length], ?_⟩
  intro i x hi
  rw [List.getElem?_map] at hi ⊢
  cases hb : b[i]? with
  | none => simp [hb] at hi
  | some k =>
    rw [hb] at hi
    simp only [Option.map_some] at hi
    have hi := Option.some.inj hi
    cases k with
    | none => simp [dictRowH] at hi
    | some k =>
      rw [h1.2 i k hb]
      simp only [Option.map_some]
      congr 1
      cases k with
      | int j =>
        simp only [dictRowH, List.getD_eq_getElem?_getD] at hi ⊢
        cases hw : w[j.toNat]? with
        | none => simp [hw] at hi
        | some o =>
          rw [hw] at hi
          simp only [Option.getD_some] at hi
          subst hi
          rw [h2.2 _ x hw]; rfl
      | _ => exact hi

/-- old dictionary rows do not see values appended -/
theorem dictRowH_append_refines (ks vs ws : H) :
    Refines (ks.map (dictRowH (vs ++ ws))) (ks.map (dictRowH vs)) := by
  apply refines_map
  intro k _ y hy
  cases k with
  | none => simp [dictRowH] at hy
  | some k =>
    cases k with
    | int j =>
      simp only [dictRowH, List.getD_eq_getElem?_getD] at hy ⊢
      by_cases hj : j.toNat < vs.length
      · rw [List.getElem?_append_left hj]; exact hy
      · rw [List.getElem?_eq_none (by omega)] at hy
        simp at hy
    | _ => exact hy

/-! ### list / large list -/

theorem list_stepH {p : String} {large : Bool} {fm : FieldMeta} {v : Validity} {offs : List Int} {el el' : B}
    (hwf : WFH (.list p large fm v offs el)) (b : Bool) (ls : List LVal) (hel : WFH el')
    (hdec : Refines (decH el') (decH el ++ ls.map some)) :
    WFH (.list p large fm (v.map (· ++ [b])) (offs ++ [((dec el).length : Int) + ls.length]) el') ∧
    Refines (decH (.list p large fm (v.map (· ++ [b])) (offs ++ [((dec el).length : Int) + ls.length]) el'))
      (decH (.list p large fm v offs el) ++ [some (rowOf v b (.list (LVals.ofList ls)))]) := by
  simp only [WFH] at hwf
  obtain ⟨hoffs, hv, _⟩ := hwf
  have hpos := hoffs.length_pos
  have e : ((dec el).length : Int) + ls.length = (((dec el).length + ls.length : Nat) : Int) := by simp
  have hlen : (dec el').length = (dec el).length + ls.length := by
    rw [← decH_length, hdec.length, List.length_append, decH_length, List.length_map]
  refine ⟨?_, ?_⟩
  · simp only [WFH, List.length_append, List.length_singleton, hlen]
    refine ⟨?_, ?_, hel⟩
    · rw [e]; exact hoffs.snoc ls.length
    · have := hv.snoc b
      have e2 : offs.length + 1 - 1 = offs.length - 1 + 1 := by omega
      rw [e2]; exact this
  · simp only [decH]
    refine Refines.trans (maskNullH_refines _ (listRowsH_refines _ hdec)) (Refines.of_eq ?_)
    unfold listRowsH
    rw [pairs_snoc hoffs.2.1, List.map_append, List.map_cons, List.map_nil]
    rw [map_pairs_stable hoffs (decH el) (ls.map some) (decH_length el)
      (fun l => (allSome l).map fun xs => LVal.list (LVals.ofList xs))]
    rw [e, sliceL_append_right (decH el) (ls.map some) _ _ (decH_length el) (by simp)]
    rw [allSome_map_some, Option.map_some]
    rw [maskNullH_append (by simpa [pairs_length] using hv), maskNullH_const_one]

/-! ### fixed-size list -/

theorem fsl_appendH {p : String} {fm : FieldMeta} {n len : Nat} {v : Validity} {cur : Nat} {el el' : B}
    (hwf : WFH (.fixedSizeList p fm n len v cur el)) (bs : List Bool) (t : H) (cur' : Nat)
    (hel : WFH el') (hdec : Refines (decH el') (decH el ++ t)) (hls : t.length = bs.length * n) :
    WFH (.fixedSizeList p fm n (len + bs.length) (v.map (· ++ bs)) cur' el') ∧
    Refines (decH (.fixedSizeList p fm n (len + bs.length) (v.map (· ++ bs)) cur' el'))
      (decH (.fixedSizeList p fm n len v cur el) ++ maskNullH (v.map fun _ => bs) (fslRowsH n bs.length t)) := by
  simp only [WFH] at hwf
  obtain ⟨hv, hlen, _⟩ := hwf
  have hlen' : (dec el').length = (dec el).length + t.length := by
    rw [← decH_length, hdec.length, List.length_append, decH_length]
  have hl : (decH el).length = len * n := by rw [decH_length]; exact hlen
  refine ⟨?_, ?_⟩
  · simp only [WFH, hlen']
    exact ⟨hv.map_append bs, by rw [hlen, hls, Nat.add_mul], hel⟩
  · simp only [decH]
    refine Refines.trans (maskNullH_refines _ (fslRowsH_refines _ _ hdec)) (Refines.of_eq ?_)
    have : fslRowsH n (len + bs.length) (decH el ++ t) = fslRowsH n len (decH el) ++ fslRowsH n bs.length t := by
      unfold fslRowsH
      rw [List.range_add, List.map_append, List.map_map]
      rw [range_map_stable (decH el) t n len hl (fun l => (allSome l).map fun xs => LVal.list (LVals.ofList xs))]
      congr 1
      apply List.map_congr_left
      intro i _
      simp only [Function.comp]
      have : (len + i) * n = (decH el).length + i * n := by rw [Nat.add_mul, hl]
      rw [this, List.drop_append, List.drop_eq_nil_of_le (by omega)]
      simp
    rw [this, maskNullH_append (by simpa [fslRowsH] using hv)]

theorem fsl_stepH {p : String} {fm : FieldMeta} {n len : Nat} {v : Validity} {cur : Nat} {el el' : B}
    (hwf : WFH (.fixedSizeList p fm n len v cur el)) (b : Bool) (ls : List LVal) (cur' : Nat)
    (hel : WFH el') (hdec : Refines (decH el') (decH el ++ ls.map some)) (hls : ls.length = n) :
    WFH (.fixedSizeList p fm n (len + 1) (v.map (· ++ [b])) cur' el') ∧
    Refines (decH (.fixedSizeList p fm n (len + 1) (v.map (· ++ [b])) cur' el'))
      (decH (.fixedSizeList p fm n len v cur el) ++ [some (rowOf v b (.list (LVals.ofList ls)))]) := by
  subst hls
  have := fsl_appendH hwf [b] (ls.map some) cur' hel hdec (by simp)
  have e : fslRowsH ls.length [b].length (ls.map some) = [some (.list (LVals.ofList ls))] := by
    simp only [fslRowsH, List.length_singleton, List.range_one, List.map_cons, List.map_nil, Nat.zero_mul, List.drop_zero]
    rw [← List.length_map (f := some) (as := ls), List.take_length, allSome_map_some]; rfl
  rw [e, maskNullH_const_one] at this
  exact this

/-! ### map -/

theorem map_stepH {p : String} {mm : MapMeta} {v : Validity} {offs : List Int} {ks vs ks' vs' : B}
    (hwf : WFH (.map p mm v offs ks vs)) (b : Bool) (lk lw : List LVal) (hks : WFH ks') (hvs : WFH vs')
    (hdk : Refines (decH ks') (decH ks ++ lk.map some)) (hdv : Refines (decH vs') (decH vs ++ lw.map some))
    (hl : lw.length = lk.length) :
    WFH (.map p mm (v.map (· ++ [b])) (offs ++ [((dec ks).length : Int) + lk.length]) ks' vs') ∧
    Refines (decH (.map p mm (v.map (· ++ [b])) (offs ++ [((dec ks).length : Int) + lk.length]) ks' vs'))
      (decH (.map p mm v offs ks vs) ++ [some (rowOf v b (.map (LEntries.ofList (lk.zip lw))))]) := by
  simp only [WFH] at hwf
  obtain ⟨hoffs, hvk, hv, _, _⟩ := hwf
  have hpos := hoffs.length_pos
  have e : ((dec ks).length : Int) + lk.length = (((dec ks).length + lk.length : Nat) : Int) := by simp
  have hlk : (dec ks').length = (dec ks).length + lk.length := by
    rw [← decH_length, hdk.length, List.length_append, decH_length, List.length_map]
  have hlv : (dec vs').length = (dec vs).length + lw.length := by
    rw [← decH_length, hdv.length, List.length_append, decH_length, List.length_map]
  have hvk' : (decH vs).length = (dec ks).length := by rw [decH_length]; exact hvk
  refine ⟨?_, ?_⟩
  · simp only [WFH, List.length_append, List.length_singleton, hlk, hlv]
    refine ⟨?_, by omega, ?_, hks, hvs⟩
    · rw [e]; exact hoffs.snoc lk.length
    · have := hv.snoc b
      have e2 : offs.length + 1 - 1 = offs.length - 1 + 1 := by omega
      rw [e2]; exact this
  · simp only [decH]
    refine Refines.trans (maskNullH_refines _ (mapRowsH_refines _ hdk hdv)) (Refines.of_eq ?_)
    unfold mapRowsH
    rw [pairs_snoc hoffs.2.1, List.map_append, List.map_cons, List.map_nil]
    have hst : (pairs offs).map (fun se => mapRowH (allSome (sliceL (decH ks ++ lk.map some) se.1 se.2))
          (allSome (sliceL (decH vs ++ lw.map some) se.1 se.2))) =
        (pairs offs).map (fun se => mapRowH (allSome (sliceL (decH ks) se.1 se.2)) (allSome (sliceL (decH vs) se.1 se.2))) := by
      apply List.map_congr_left
      intro se hse
      have := hoffs.le se.2 (mem_pairs hse).2
      have hkl := decH_length ks
      rw [sliceL_append_left _ _ _ _ (by omega), sliceL_append_left _ _ _ _ (by omega)]
    rw [hst]
    rw [e, sliceL_append_right (decH ks) (lk.map some) _ _ (decH_length ks) (by simp)]
    have : sliceL (decH vs ++ lw.map some) ((dec ks).length : Int) (((dec ks).length + lk.length : Nat) : Int) = lw.map some :=
      sliceL_append_right (decH vs) (lw.map some) _ _ hvk' (by simp [hl])
    rw [this, allSome_map_some, allSome_map_some]
    simp only [mapRowH]
    rw [maskNullH_append (by simpa [pairs_length] using hv), maskNullH_const_one]

/-! ### dictionary -/

theorem decH_dictionary (p : String) (idx vals : B) (index : List String) :
    decH (.dictionary p idx vals index) = (decH idx).map (dictRowH (decH vals)) := by
  simp only [decH]

/-- a dictionary: the keys grew by the observable rows `lk`, the values by the determined rows `lw`, the index by as
many entries as the values; the caller shows the key clause `KeysH` of the new state -/
theorem dict_appendH {p : String} {idx vals idx' vals' : B} {index : List String}
    (hwf : WFH (.dictionary p idx vals index)) (lk : H) (lw : List LVal) (index' : List String)
    (hi : WFH idx') (hv : WFH vals')
    (hdi : Refines (decH idx') (decH idx ++ lk)) (hdv : Refines (decH vals') (decH vals ++ lw.map some))
    (hnd : (index ++ index').Nodup) (hlen : index'.length = lw.length)
    (hkeys : KeysH idx' (index ++ index'))
    (hvals : DictVals vals' (index ++ index')) :
    WFH (.dictionary p idx' vals' (index ++ index')) ∧
    Refines (decH (.dictionary p idx' vals' (index ++ index')))
      (decH (.dictionary p idx vals index) ++ lk.map (dictRowH (decH vals ++ lw.map some))) := by
  simp only [WFH] at hwf
  obtain ⟨_, _, _, hvl, _, _, hall⟩ := hwf
  have hlv : (dec vals').length = (dec vals).length + lw.length := by
    rw [← decH_length, hdv.length, List.length_append, decH_length, List.length_map]
  refine ⟨?_, ?_⟩
  · simp only [WFH, List.length_append]
    refine ⟨hi, hv, hnd, by omega, hkeys, hvals, hdv.all_some ?_⟩
    intro r hr
    rcases List.mem_append.1 hr with h | h
    · exact hall r h
    · obtain ⟨x, _, rfl⟩ := List.mem_map.1 h; rfl
  · rw [decH_dictionary, decH_dictionary]
    refine Refines.trans (dictRowsH_refines hdi hdv) ?_
    rw [List.map_append]
    exact Refines.append (dictRowH_append_refines _ _ _) (Refines.refl _)

theorem DictVals.of_wfh {p : String} {idx vals : B} {index : List String} (h : WFH (.dictionary p idx vals index)) :
    DictVals vals index := by
  simp only [WFH] at h; exact h.2.2.2.2.2.1

/-! ### struct -/

theorem decH_struct (p : String) (len : Nat) (v : Validity) (fs : BL) (cached next seen) :
    decH (.struct p len v fs cached next seen) = maskNullH v (structRowsH len (decHCols fs)) := by
  simp only [decH]

theorem ExtLH.refl : ∀ (fs : BL) (len : Nat), WFHL fs len → ExtLH fs fs (List.replicate fs.length [])
  | .nil, _, _ => by simp [ExtLH, BL.length]
  | .cons b m r, len, h => by
    simp only [WFHL] at h
    simp only [BL.length, List.replicate_succ, ExtLH, List.append_nil, true_and]
    exact ⟨h.1, Refines.refl _, ExtLH.refl r len h.2.2⟩

/-- induction along `ExtLH`: the three lists go in step -/
theorem ExtLH.elim {motive : BL → BL → List H → Prop} (nil : motive .nil .nil [])
    (cons : ∀ {b0 m r0 b r a as}, WFH b → Refines (decH b) (decH b0 ++ a) → ExtLH r0 r as → motive r0 r as →
      motive (.cons b0 m r0) (.cons b m r) (a :: as)) :
    ∀ (fs0 fs : BL) (adds : List H), ExtLH fs0 fs adds → motive fs0 fs adds
  | .nil, .nil, [], _ => nil
  | .cons b0 m0 r0, .cons b m r, a :: as, h => by
    simp only [ExtLH] at h
    obtain ⟨rfl, h1, h2, h3⟩ := h
    exact cons h1 h2 h3 (ExtLH.elim nil cons r0 r as h3)
  | .nil, .cons _ _ _, _, h | .cons _ _ _, .nil, _, h | .nil, .nil, _ :: _, h | .cons _ _ _, .cons _ _ _, [], h => by
    simp [ExtLH] at h

theorem ExtLH.names : ∀ (fs0 fs : BL) (adds : List H), ExtLH fs0 fs adds → fs.names = fs0.names :=
  ExtLH.elim rfl fun _ _ _ ih => by simp [BL.names, ih]

theorem ExtLH.length : ∀ (fs0 fs : BL) (adds : List H), ExtLH fs0 fs adds →
    fs.length = fs0.length ∧ adds.length = fs0.length :=
  ExtLH.elim ⟨rfl, rfl⟩ fun _ _ _ ih => by simp [BL.length, ih.1, ih.2]

theorem ExtLH.get : ∀ (fs0 fs : BL) (adds : List H) (i : Nat) (x : B × FieldMeta), ExtLH fs0 fs adds →
    fs.get? i = some x → WFH x.1 :=
  fun fs0 fs adds i x h => ExtLH.elim (motive := fun _ fs _ => ∀ i x, fs.get? i = some x → WFH x.1)
    (fun _ _ hg => by simp [BL.get?] at hg)
    (fun hb _ _ ih i x hg => by
      cases i with
      | zero => simp [BL.get?] at hg; subst hg; exact hb
      | succ i => exact ih i x (by simpa only [BL.get?] using hg)) fs0 fs adds h i x

theorem ExtLH.set : ∀ (fs0 fs : BL) (adds : List H) (i : Nat) (c c' : B) (m : FieldMeta) (t : H),
    ExtLH fs0 fs adds → fs.get? i = some (c, m) → WFH c' → Refines (decH c') (decH c ++ t) →
    ExtLH fs0 (fs.set i c') (adds.set i (adds.getD i [] ++ t)) :=
  fun fs0 fs adds i c c' m t h hg hc hd => ExtLH.elim
    (motive := fun fs0 fs adds => ∀ i, fs.get? i = some (c, m) → ExtLH fs0 (fs.set i c') (adds.set i (adds.getD i [] ++ t)))
    (fun _ hg => by simp [BL.get?] at hg)
    (fun hb hr he ih i hg => by
      cases i with
      | zero =>
        simp [BL.get?] at hg; obtain ⟨rfl, rfl⟩ := hg
        simp only [BL.set, List.set_cons_zero, ExtLH, List.getD_cons_zero]
        exact ⟨trivial, hc, Refines.extend hr hd, he⟩
      | succ i =>
        simp only [BL.set, List.set_cons_succ, ExtLH, List.getD_cons_succ]
        exact ⟨trivial, hb, hr, ih i (by simpa only [BL.get?] using hg)⟩) fs0 fs adds h i hg

theorem ExtLH.wfl : ∀ (fs0 fs : BL) (adds : List H) (len k : Nat), WFHL fs0 len → ExtLH fs0 fs adds →
    (∀ a ∈ adds, a.length = k) → WFHL fs (len + k) :=
  fun fs0 fs adds len k hw h => ExtLH.elim
    (motive := fun fs0 fs adds => WFHL fs0 len → (∀ a ∈ adds, a.length = k) → WFHL fs (len + k))
    (fun _ _ => by simp [WFHL])
    (fun {b0 m r0 b r a as} hb hr _ ih hw hk => by
      simp only [WFHL] at hw ⊢
      refine ⟨hb, ?_, ih hw.2.2 fun a' ha' => hk a' (by simp [ha'])⟩
      rw [← decH_length, hr.length, List.length_append, decH_length, hw.2.1, hk a (by simp)]) fs0 fs adds h hw

/-- the fields of row `i`, each determined or not -/
def fieldsAtH (cols : List (String × H)) (i : Nat) : List (Option (String × LVal)) :=
  cols.map fun c => (c.2.getD i (some .null)).map fun x => (c.1, x)

theorem rowAtH_eq (cols : List (String × H)) (i : Nat) :
    rowAtH cols i = (allSome (fieldsAtH cols i)).map fun fl => LVal.struct (LFields.ofList fl) := rfl

/-- a determined old row of the struct stays -/
theorem ExtLH.row_old : ∀ (fs0 fs : BL) (adds : List H) (len i : Nat), WFHL fs0 len → ExtLH fs0 fs adds → i < len →
    ∀ fl, allSome (fieldsAtH (decHCols fs0) i) = some fl → allSome (fieldsAtH (decHCols fs) i) = some fl :=
  fun fs0 fs adds len i hw h hi => ExtLH.elim
    (motive := fun fs0 fs _ => WFHL fs0 len →
      ∀ fl, allSome (fieldsAtH (decHCols fs0) i) = some fl → allSome (fieldsAtH (decHCols fs) i) = some fl)
    (fun _ _ h => h)
    (fun {b0 m r0 b r a as} _ hr _ ih hw fl hfl => by
      simp only [WFHL] at hw
      simp only [decHCols, fieldsAtH, List.map_cons] at hfl ⊢
      rw [allSome_cons_eq_some] at hfl ⊢
      obtain ⟨x, fl', hx, hr', rfl⟩ := hfl
      refine ⟨x, fl', ?_, ih hw.2.2 fl' hr', rfl⟩
      obtain ⟨z, hz, rfl⟩ := Option.map_eq_some_iff.1 hx
      have hlt : i < (decH b0).length := by rw [decH_length, hw.2.1]; exact hi
      have h1 := getElem?_of_getD_some hlt hz
      have h2 := hr.2 i z (by rw [List.getElem?_append_left hlt]; exact h1)
      rw [getDH_of_getElem? _ h2]; rfl) fs0 fs adds h hw

/-- a determined additional row shows in the struct -/
theorem ExtLH.row_new : ∀ (fs0 fs : BL) (adds : List H) (len i : Nat), WFHL fs0 len → ExtLH fs0 fs adds →
    (∀ a ∈ adds, i < a.length) →
    ∀ fl, allSome (fieldsAtH (fs0.names.zip adds) i) = some fl → allSome (fieldsAtH (decHCols fs) (len + i)) = some fl :=
  fun fs0 fs adds len i hw h => ExtLH.elim
    (motive := fun fs0 fs adds => WFHL fs0 len → (∀ a ∈ adds, i < a.length) →
      ∀ fl, allSome (fieldsAtH (fs0.names.zip adds) i) = some fl → allSome (fieldsAtH (decHCols fs) (len + i)) = some fl)
    (fun _ _ _ h => h)
    (fun {b0 m r0 b r a as} _ hr _ ih hw hi fl hfl => by
      simp only [WFHL] at hw
      simp only [decHCols, fieldsAtH, List.map_cons, BL.names, List.zip_cons_cons] at hfl ⊢
      rw [allSome_cons_eq_some] at hfl ⊢
      obtain ⟨x, fl', hx, hr', rfl⟩ := hfl
      refine ⟨x, fl', ?_, ih hw.2.2 (fun a' ha' => hi a' (by simp [ha'])) fl' hr', rfl⟩
      obtain ⟨z, hz, rfl⟩ := Option.map_eq_some_iff.1 hx
      have hlt : i < a.length := hi a (by simp)
      have hl0 : (decH b0).length = len := by rw [decH_length, hw.2.1]
      have h1 := getElem?_of_getD_some hlt hz
      have h2 := hr.2 (len + i) z (by
        rw [List.getElem?_append_right (by omega), hl0, Nat.add_sub_cancel_left]; exact h1)
      rw [getDH_of_getElem? _ h2]; rfl) fs0 fs adds h hw

/-- `k` more rows in a struct all of whose children grew by `k` observable rows -/
theorem struct_appendH {p : String} {len : Nat} {v : Validity} {fs0 fs : BL} {cached cached' : List (Option (String × Nat))}
    {next next' : Nat} {seen seen' : List Bool} (hwf : WFH (.struct p len v fs0 cached next seen))
    (adds : List H) (bs : List Bool) (hext : ExtLH fs0 fs adds) (hk : ∀ a ∈ adds, a.length = bs.length)
    (hc : CacheInv fs.names cached') (hs : seen'.length = fs.length) :
    WFH (.struct p (len + bs.length) (v.map (· ++ bs)) fs cached' next' seen') ∧
    Refines (decH (.struct p (len + bs.length) (v.map (· ++ bs)) fs cached' next' seen'))
      (decH (.struct p len v fs0 cached next seen) ++
        maskNullH (v.map fun _ => bs) (structRowsH bs.length (fs0.names.zip adds))) := by
  simp only [WFH] at hwf
  obtain ⟨hv, hwfl, _, hnd, _⟩ := hwf
  refine ⟨?_, ?_⟩
  · simp only [WFH]
    exact ⟨hv.map_append bs, ExtLH.wfl fs0 fs adds len _ hwfl hext hk, hs,
      by rw [ExtLH.names fs0 fs adds hext]; exact hnd, hc⟩
  · rw [decH_struct, decH_struct]
    rw [← maskNullH_append (by simpa [structRowsH] using hv)]
    apply maskNullH_refines
    unfold structRowsH
    rw [List.range_add, List.map_append, List.map_map]
    apply Refines.append
    · apply refines_map
      intro i hi y hy
      rw [rowAtH_eq] at hy ⊢
      obtain ⟨fl, hfl, rfl⟩ := Option.map_eq_some_iff.1 hy
      rw [ExtLH.row_old fs0 fs adds len i hwfl hext (List.mem_range.1 hi) fl hfl]; rfl
    · apply refines_map
      intro i hi y hy
      simp only [Function.comp]
      rw [rowAtH_eq] at hy ⊢
      obtain ⟨fl, hfl, rfl⟩ := Option.map_eq_some_iff.1 hy
      rw [ExtLH.row_new fs0 fs adds len i hwfl hext
        (fun a ha => by rw [hk a ha]; exact List.mem_range.1 hi) fl hfl]; rfl

/-- a row all of whose fields are determined -/
theorem rowAtH_some (names : List String) (adds : List (List LVal)) (i : Nat) :
    rowAtH (names.zip (adds.map (·.map some))) i = some (rowAt (names.zip adds) i) := by
  rw [List.zip_map_right]; exact rowAtH_map_some (names.zip adds) i

/-! ### union -/

theorem decH_union (p : String) (fs : BL) (types offs cur : List Int) :
    decH (.union p fs types offs cur) = List.zipWith (unionRowH (decHCols fs)) types offs := by
  simp only [decH]

theorem WFHU_get : ∀ (fs : BL) (cur : List Int) (i : Nat) (x : B × FieldMeta), WFHU fs cur → fs.get? i = some x →
    cur[i]? = some ((dec x.1).length : Int) ∧ WFH x.1
  | .nil, _, _, _, _, h => by simp [BL.get?] at h
  | .cons b m r, cur, 0, x, hw, h => by
    simp [BL.get?] at h; subst h
    simp only [WFHU] at hw
    cases cur with
    | nil => simp at hw
    | cons a t => simp at hw ⊢; exact ⟨hw.2.1, hw.1⟩
  | .cons b m r, cur, i + 1, x, hw, h => by
    simp only [BL.get?] at h
    simp only [WFHU] at hw
    cases cur with
    | nil => simp at hw
    | cons a t => simpa using WFHU_get r t i x hw.2.2 h

theorem WFHU_set : ∀ (fs : BL) (cur : List Int) (i : Nat) (c' : B), WFHU fs cur → WFH c' → i < fs.length →
    WFHU (fs.set i c') (cur.set i ((dec c').length : Int))
  | .nil, _, _, _, _, _, h => by simp [BL.length] at h
  | .cons b m r, cur, 0, c', hw, hc, _ => by
    simp only [WFHU] at hw
    cases cur with
    | nil => simp at hw
    | cons a t => simp only [BL.set, WFHU, List.set_cons_zero, List.head?_cons, List.tail_cons]; exact ⟨hc, trivial, hw.2.2⟩
  | .cons b m r, cur, i + 1, c', hw, hc, h => by
    simp only [WFHU] at hw
    cases cur with
    | nil => simp at hw
    | cons a t =>
      simp only [BL.set, WFHU, List.set_cons_succ, List.head?_cons, List.tail_cons] at hw ⊢
      exact ⟨hw.1, hw.2.1, WFHU_set r t i c' hw.2.2 hc (by simp [BL.length] at h; omega)⟩

/-- `k` rows of variant `i`: the variant's child grew by the observable rows `t`, type ids / dense offsets / counter
accordingly -/
theorem union_appendH {p : String} {fs : BL} {types offs cur : List Int} (hwf : WFH (.union p fs types offs cur))
    (i : Nat) (c c' : B) (m : FieldMeta) (hget : fs.get? i = some (c, m)) (t : H)
    (hc : WFH c') (hdec : Refines (decH c') (decH c ++ t)) :
    WFH (.union p (fs.set i c') (types ++ List.replicate t.length (i : Int))
      (offs ++ (List.range t.length).map (fun (r : Nat) => ((dec c).length : Int) + (r : Int)))
      (cur.set i (((dec c).length : Int) + t.length))) ∧
    Refines (decH (.union p (fs.set i c') (types ++ List.replicate t.length (i : Int))
      (offs ++ (List.range t.length).map (fun (r : Nat) => ((dec c).length : Int) + (r : Int)))
      (cur.set i (((dec c).length : Int) + t.length))))
      (decH (.union p fs types offs cur) ++ t.map (fun r => r.map (LVal.union (i : Int)))) := by
  simp only [WFH] at hwf
  obtain ⟨htl, hcl, hwu, hz⟩ := hwf
  have hilt := BL.get?_lt fs i _ hget
  have hget' : (fs.set i c').get? i = some (c', m) := BL.get?_set_eq fs i c' _ hget
  have hcol' : colAtH (fs.set i c') i = decH c' := colAtH_get _ _ _ hget'
  have hlen' : (dec c').length = (dec c).length + t.length := by
    rw [← decH_length, hdec.length, List.length_append, decH_length]
  have hzl : (List.replicate t.length (i : Int)).length =
      ((List.range t.length).map (fun (r : Nat) => ((dec c).length : Int) + (r : Int))).length := by simp
  refine ⟨?_, ?_⟩
  · simp only [WFH]
    refine ⟨by simp [htl], by simp [hcl, BL.length_set], ?_, ?_⟩
    · have := WFHU_set fs cur i c' hwu hc hilt
      rw [hlen'] at this
      simpa using this
    · intro to hto
      rw [List.zip_append htl] at hto
      rcases List.mem_append.1 hto with h | h
      · obtain ⟨h1, h2, x, hx, hlt⟩ := hz to h
        refine ⟨h1, h2, ?_⟩
        by_cases hi : i = to.1.toNat
        · subst hi
          rw [hx] at hget; cases hget
          refine ⟨(c', m), hget', ?_⟩
          have hlt' : to.2.toNat < (dec c).length := hlt
          simp [hlen']; omega
        · exact ⟨x, by rw [BL.get?_set_ne _ _ _ _ hi]; exact hx, hlt⟩
      · obtain ⟨ty, o⟩ := to
        have hm := List.of_mem_zip h
        have ht : ty = (i : Int) := by simpa using (List.mem_replicate.1 hm.1).2
        obtain ⟨r, hr, ho⟩ := List.mem_map.1 hm.2
        have hr := List.mem_range.1 hr
        subst ht ho
        refine ⟨Int.natCast_nonneg _, by show (0 : Int) ≤ ((dec c).length : Int) + (r : Int); omega,
          (c', m), by simpa using hget', ?_⟩
        show (((dec c).length : Int) + (r : Int)).toNat < (dec c').length
        simp [hlen']; omega
  · rw [decH_union, decH_union, List.zipWith_append htl]
    apply Refines.append
    · -- old rows keep their meaning when they were determined
      apply refines_zipWith
      intro to hto y hy
      obtain ⟨_, _, x, hx, hlt⟩ := hz to hto
      rw [unionRowH_eq] at hy ⊢
      by_cases hi : i = to.1.toNat
      · subst hi
        rw [hx] at hget; cases hget
        rw [colAtH_get _ _ _ hx] at hy
        rw [hcol']
        obtain ⟨z, hz', rfl⟩ := Option.map_eq_some_iff.1 hy
        have hlt' : to.2.toNat < (decH c).length := by rw [decH_length]; exact hlt
        have h1 := getElem?_of_getD_some hlt' hz'
        have h2 := hdec.2 to.2.toNat z (by rw [List.getElem?_append_left hlt']; exact h1)
        rw [getDH_of_getElem? _ h2]; rfl
      · rw [colAtH_set_ne _ _ _ _ hi]; exact hy
    · -- the new rows
      have e : (List.replicate t.length (i : Int)) =
          List.replicate ((List.range t.length).map (fun (r : Nat) => ((dec c).length : Int) + (r : Int))).length (i : Int) := by
        simp
      rw [e, zipWith_replicate_left, List.map_map,
        ← map_range_getD (fun (r : Option LVal) => r.map (LVal.union (i : Int))) none t]
      apply refines_map
      intro r hr y hy
      have hr := List.mem_range.1 hr
      simp only [Function.comp]
      rw [unionRowH_eq, Int.toNat_natCast, hcol']
      obtain ⟨z, hz', rfl⟩ := Option.map_eq_some_iff.1 hy
      have h1 : t[r]? = some (some z) := by
        rw [List.getD_eq_getElem?_getD, List.getElem?_eq_getElem hr] at hz'
        rw [List.getElem?_eq_getElem hr]
        simpa using hz'
      have e2 : (((dec c).length : Int) + (r : Int)).toNat = (decH c).length + r := by rw [decH_length]; omega
      have h2 := hdec.2 ((decH c).length + r) z (by
        rw [List.getElem?_append_right (by omega), Nat.add_sub_cancel_left]; exact h1)
      rw [e2, getDH_of_getElem? _ h2]; rfl

end SaModel.Build
