import SaModel.Lemmas.C07LTable
/-
The leaf tables that are evaluated, all in one evaluation per option setting.

A step only ORs the nullable flag of the state into its result (`Props.C07.act_flag`), so the tables range over the
TYPES of the states (`tstates`: `none` for `Unknown`, 19 instead of 37 states) with the flag off (`actT`); what the step
does to the flag is part of every row.  `stepT`: a step stays in the alphabet, does not panic, is idempotent and moves
up.  `pairT`, over the pairs `q ⊑ r`: the order is antisymmetric; a step from `q` with a type `r` has absorbed stays
below `r` — it is the LEAST upper bound — and fails only under `allow_to_string`; what `q` has absorbed `r` has
absorbed.  Commutation, "stays absorbed" and the six orders of a triple are consequences (SaModel/Props/C07.lean).
-/
namespace SaModel.Lemmas.C07
open SaModel SaModel.Trace

/-- the types of the leaf states (`none`: `Unknown`) -/
def tstates (o : Options) : List (Option DataType) := none :: (leafTypes o).map some

/-- the step from the state of type `t` whose nullable flag is off: the type of the result, and whether the step sets
the flag -/
def actT (o : Options) (t : Option DataType) (a : DataType) : R LeafSt := act o (t, false) a

/-- `r` has absorbed `a` (a step with `a` keeps the type `r`); `some g`: the step sets the flag iff `g` -/
def absT (o : Options) (r : Option DataType) (a : DataType) : Option Bool :=
  match actT o r a with
  | .ok (r', g) => if r' = r then some g else none
  | .error _ => none

/-- the order on the types of states: `r` has absorbed the type of `q`; `some g`: only if `r` is nullable when `g` -/
def sleT (o : Options) (q r : Option DataType) : Option Bool :=
  match q with
  | none => some false
  | some p => absT o r p

/-- a step from `t` with `a` lands on a type of the alphabet (on `Null` only with the flag set, unless it started there),
has then absorbed `a` (setting the flag no more than the step did) and is above `t`; it does not panic -/
def stepTRow (o : Options) (t : Option DataType) (a : DataType) : Bool :=
  match actT o t a with
  | .ok (t', f) =>
    (match t' with
     | none => false
     | some ty' => (leafTypes o).any (fun x => decide (x = ty')) &&
        (!decide (ty' = .null) || f || decide (t = some .null))) &&
    (match absT o t' a with
     | some f' => !f' || f
     | none => false) &&
    (match sleT o t t' with
     | some g => !g || f || decide (t = some .null)
     | none => false)
  | .error (.panic _) => false
  | .error _ => true

def stepT (o : Options) : Bool := (tstates o).all fun t => (leafTypes o).all fun a => stepTRow o t a

/-- `q ⊑ r` (with flag demand `g2`) and a type `a`: if `r` has absorbed `a` then so has `q` or the step from `q` moves
up, staying below `r`, and fails only under `allow_to_string`; if `q` has absorbed `a` so has `r`.  The flag demands of
the conclusions are covered by those of the hypotheses (`Null` is always nullable). -/
def pairTRow (o : Options) (q r : Option DataType) (g2 : Bool) (a : DataType) : Bool :=
  match absT o r a with
  | some g3 =>
    (match absT o q a with
     | some g1 => !g3 || g1 || g2
     | none => true) &&
    (match actT o q a with
     | .ok (t', f) =>
       (match sleT o t' r with
        | some g4 => !(g4 || f) || g2 || g3 || decide (r = some .null)
        | none => false)
     | .error _ => o.allow_to_string)
  | none => (absT o q a).isNone

def pairT (o : Options) : Bool :=
  (tstates o).all fun q => (tstates o).all fun r =>
    match sleT o q r with
    | none => true
    | some g2 => ((sleT o r q).isNone || decide (q = r)) && (leafTypes o).all fun a => pairTRow o q r g2 a

def leafTables : List (Options → Bool) := [stepT, pairT, stateTypesTable, nullTable]

theorem leafTables_all : (coerceOptions.all fun o => leafTables.all fun T => T o) = true := by decide +kernel

theorem table_all {T : Options → Bool} (hT : T ∈ leafTables) : coerceOptions.all T = true :=
  List.all_eq_true.mpr fun o ho => List.all_eq_true.mp (List.all_eq_true.mp leafTables_all o ho) T hT

theorem stepT_all : coerceOptions.all stepT = true := table_all (by simp [leafTables])
theorem pairT_all : coerceOptions.all pairT = true := table_all (by simp [leafTables])
theorem stateTypesTable_all : coerceOptions.all stateTypesTable = true := table_all (by simp [leafTables])
theorem nullTable_all : coerceOptions.all nullTable = true := table_all (by simp [leafTables])

end SaModel.Lemmas.C07
