import SaModel.Lemmas.C08Loop
import SaModel.Lemmas.C06Lists
/-
C08 — `from_samples` on covering samples: unique names (`from_samples` finds a field by name, a derive by position),
enums within the allocation bound of the model of `ensure_variant`, the field vector of a struct node, the element loop
of a tuple, the covering string sample.
-/
namespace SaModel.Lemmas.C08
open SaModel SaModel.Trace SaModel.Trace.Spec

mutual
/-- field names are unique within every struct of the type -/
def uniqueNames : Ty → Bool
  | .option t | .vec t | .newtypeStruct _ t => uniqueNames t
  | .tuple ts | .tupleStruct _ ts => uniqueNamesTys ts
  | .map k v => uniqueNames k && uniqueNames v
  | .struct _ fs => uniqueNamesFields fs
  | .enum _ vs => uniqueNamesVariants vs
  | _ => true
def uniqueNamesTys : Tys → Bool
  | .nil => true
  | .cons t r => uniqueNames t && uniqueNamesTys r
def uniqueNamesFields : TyFields → Bool
  | .nil => true
  | .cons n t r => !(r.names.contains n) && uniqueNames t && uniqueNamesFields r
def uniqueNamesVariants : TyVariants → Bool
  | .nil => true
  | .unit n r => !(r.names.contains n) && uniqueNamesVariants r
  | .newtype n t r => !(r.names.contains n) && uniqueNames t && uniqueNamesVariants r
  | .tuple n ts r => !(r.names.contains n) && uniqueNamesTys ts && uniqueNamesVariants r
  | .struct n fs r => !(r.names.contains n) && uniqueNamesFields fs && uniqueNamesVariants r
end

mutual
/-- every enum has at most `VARIANT_ALLOC_LIMIT` = 2^20 variants (the executable model of `ensure_variant` refuses
larger variant indices, finding #29; Arrow type ids allow 128) -/
def smallEnums : Ty → Bool
  | .option t | .vec t | .newtypeStruct _ t => smallEnums t
  | .tuple ts | .tupleStruct _ ts => smallEnumsTys ts
  | .map k v => smallEnums k && smallEnums v
  | .struct _ fs => smallEnumsFields fs
  | .enum _ vs => decide (vs.length ≤ VARIANT_ALLOC_LIMIT) && smallEnumsVariants vs
  | _ => true
def smallEnumsTys : Tys → Bool
  | .nil => true
  | .cons t r => smallEnums t && smallEnumsTys r
def smallEnumsFields : TyFields → Bool
  | .nil => true
  | .cons _ t r => smallEnums t && smallEnumsFields r
def smallEnumsVariants : TyVariants → Bool
  | .nil => true
  | .unit _ r => smallEnumsVariants r
  | .newtype _ t r => smallEnums t && smallEnumsVariants r
  | .tuple _ ts r => smallEnumsTys ts && smallEnumsVariants r
  | .struct _ fs r => smallEnumsFields fs && smallEnumsVariants r
end

def TFields.append : TFields → TFields → TFields
  | .nil, b => b
  | .cons n l t r, b => .cons n l t (TFields.append r b)

theorem TFields.push_append : ∀ (a : TFields) (n : String) (l : Nat) (t : Tracer) (b : TFields),
    TFields.append (a.push n l t) b = TFields.append a (.cons n l t b)
  | .nil => fun _ _ _ _ => rfl
  | .cons n' l' t' r => by intro n l t b; simp only [TFields.push, TFields.append, TFields.push_append r]

theorem TFields.append_nil : ∀ (a : TFields), TFields.append a .nil = a
  | .nil => rfl
  | .cons n l t r => by simp only [TFields.append, TFields.append_nil r]

theorem TFields.get?_push : ∀ (a : TFields) (n : String) (l : Nat) (t : Tracer), (a.push n l t).get? a.length = some t :=
  C06.TFields.get?_push_len

theorem TFields.set_push : ∀ (a : TFields) (n : String) (l : Nat) (t x : Tracer),
    (a.push n l t).set a.length x = a.push n l x
  | .nil => fun _ _ _ _ => rfl
  | .cons _ _ _ r => by intro n l t x; simp only [TFields.push, TFields.length, TFields.set, TFields.set_push r]

theorem TFields.indexOf_push_none : ∀ (a : TFields) (n : String) (l : Nat) (t : Tracer) (m : String),
    a.indexOf m = none → n ≠ m → (a.push n l t).indexOf m = none
  | .nil => by intro n _ _ m _ hne; simp only [TFields.push, TFields.indexOf, hne, if_false]; rfl
  | .cons n' l' t' r => by
    intro n l t m h hne
    simp only [TFields.indexOf] at h
    simp only [TFields.push, TFields.indexOf]
    by_cases hn : n' = m
    · simp only [hn, if_true] at h; cases h
    · simp only [hn, if_false] at h ⊢
      cases hr : r.indexOf m with
      | none => simp only [TFields.indexOf_push_none r n l t m hr hne]; rfl
      | some i => rw [hr] at h; cases h

/-! ### the element loop of a tuple: a prefix that is not visited stays -/


theorem field_tracer_grow_id (path : String) (idx : Nat) (ts : Tracers) (h : idx < ts.length) :
    field_tracer_grow path idx ts = ts := C06.field_tracer_grow_of_lt path idx ts h

theorem absorbTuple_shift (c : Code) (o : Options) (path : String) (t : Tracer) : ∀ (items : SVals) (fts : Tracers)
    (pos : Nat), pos + items.length ≤ fts.length →
    absorbTuple c o path (.cons t fts) (pos + 1) items = (absorbTuple c o path fts pos items).map (Tracers.cons t)
  | .nil => by intro _ _ _; simp only [absorbTuple]; rfl
  | .cons v r => by
    intro fts pos h
    simp only [SVals.length] at h
    have h1 : pos < fts.length := by omega
    have h2 : pos + 1 < (Tracers.cons t fts).length := by simp only [Tracers.length]; omega
    simp only [absorbTuple, field_tracer_grow_id path _ _ h1, field_tracer_grow_id path _ _ h2, Tracers.get?]
    cases fts.get? pos with
    | none => rfl
    | some ft =>
      simp only
      cases absorb c o ft v with
      | error e => rfl
      | ok ft' =>
        simp only [bind, Except.bind, Tracers.set]
        exact absorbTuple_shift c o path t r (fts.set pos ft') (pos + 1)
          (by rw [C06.Tracers.length_set]; omega)

theorem samplesTys_length : ∀ (ts : Tys) (k : Nat), (samplesTys ts k).length = ts.length
  | .nil, _ => rfl
  | .cons t r, k => by simp only [samplesTys, SVals.length, Tys.length, samplesTys_length r]

theorem mkTupleFields_length (p : String) (N : Nat) : ∀ k, (mkTupleFields p N k).length = k :=
  C06.mkTupleFields_length p N

/-- the covering string sample is not a date -/
theorem strType_s (o : Options) : strType o "s" = o.string_type := by
  unfold strType
  cases o.guess_dates
  · rfl
  · have h1 : Matchers.matches_naive_datetime "s" = false := by decide
    have h2 : Matchers.matches_utc_datetime "s" = false := by decide
    have h3 : Matchers.matches_naive_time "s" = false := by decide
    have h4 : Matchers.matches_naive_date "s" = false := by decide
    simp [h1, h2, h3, h4]

end SaModel.Lemmas.C08
