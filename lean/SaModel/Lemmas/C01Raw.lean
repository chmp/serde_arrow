import SaModel.Lemmas.SchemaAll
import SaModel.Lemmas.C01Rows
/-
Raw `serialize_key` / `serialize_value` call streams (`SVal.mapRaw`) in R2: the vocabulary.

* `structStreamsAlternate x` — the decidable hypothesis of R2 / R3 / `C01_build_decode` on the value (weaker than `noRaw`, `noRaw_ssa`):
  every raw stream inside `x` alternates key, value, key, value …  (= `!Spec.containsMalformed x`, theorem
  `structStreamsAlternate_eq`).  At a MAP position it excludes nothing that matters: a Map builder refuses every other
  stream (`map_refuses_non_alternating`), so no successful push is lost.  At a STRUCT position it is needed: a struct
  builder ACCEPTS arbitrary streams (a value without a key is dropped, a key without a value leaves the field unseen —
  `normOps` below, `pushStructOps_norm` in Lemmas/C01RawNorm.lean) whereas `Spec.interpDT` calls them `malformed`: there is no
  documented row for them (witness `struct_stream_needed` in Props/C01Refine.lean).
* `narrowDT dt` — the sentinel bound: every struct type has fewer than `usize::MAX = 2^64 - 1` fields.  The struct
  builder marks "the last key was not a field" by `next = UNKNOWN_KEY = usize::MAX`; a field with exactly that index
  would be taken for an unknown key.  No Rust `Vec` has that many elements; the model's lists are unbounded, so the
  bound is a hypothesis on the schema (a typing invariant, like `typedDT`).
-/
namespace SaModel.Build
open SaModel SaModel.Spec

mutual
/-- every raw key/value call stream inside the value alternates key, value, key, value … -/
def structStreamsAlternate : SVal → Bool
  | .some v => structStreamsAlternate v
  | .newtypeStruct _ v => structStreamsAlternate v
  | .seq xs => ssaS xs
  | .tuple xs => ssaS xs
  | .tupleStruct _ xs => ssaS xs
  | .record _ fs => ssaF fs
  | .map es => ssaE es
  | .mapRaw ops => ssaO ops
  | .newtypeVariant _ _ _ v => structStreamsAlternate v
  | .tupleVariant _ _ _ xs => ssaS xs
  | .structVariant _ _ _ fs => ssaF fs
  | _ => true
def ssaS : SVals → Bool
  | .nil => true
  | .cons v r => structStreamsAlternate v && ssaS r
def ssaF : SFields → Bool
  | .nil => true
  | .cons _ _ v r => structStreamsAlternate v && ssaF r
def ssaE : SEntries → Bool
  | .nil => true
  | .cons k v r => structStreamsAlternate k && structStreamsAlternate v && ssaE r
/-- the stream itself alternates, and so does every stream inside its keys and values -/
def ssaO : SMapOps → Bool
  | .nil => true
  | .key k (.value x rest) => structStreamsAlternate k && structStreamsAlternate x && ssaO rest
  | _ => false
end

mutual
/-- the value contains no raw `serialize_key`/`serialize_value` call stream -/
def noRaw : SVal → Bool
  | .some v => noRaw v
  | .newtypeStruct _ v => noRaw v
  | .seq xs => noRaws xs
  | .tuple xs => noRaws xs
  | .tupleStruct _ xs => noRaws xs
  | .record _ fs => noRawf fs
  | .map es => noRawe es
  | .mapRaw _ => false
  | .newtypeVariant _ _ _ v => noRaw v
  | .tupleVariant _ _ _ xs => noRaws xs
  | .structVariant _ _ _ fs => noRawf fs
  | _ => true
def noRaws : SVals → Bool
  | .nil => true
  | .cons v r => noRaw v && noRaws r
def noRawf : SFields → Bool
  | .nil => true
  | .cons _ _ v r => noRaw v && noRawf r
def noRawe : SEntries → Bool
  | .nil => true
  | .cons k v r => noRaw k && noRaw v && noRawe r
end


mutual
theorem noRaw_ssa : ∀ (x : SVal), noRaw x = true → structStreamsAlternate x = true
  | .some v, h => by simp only [noRaw] at h; simp only [structStreamsAlternate]; exact noRaw_ssa v h
  | .newtypeStruct _ v, h => by simp only [noRaw] at h; simp only [structStreamsAlternate]; exact noRaw_ssa v h
  | .newtypeVariant _ _ _ v, h => by simp only [noRaw] at h; simp only [structStreamsAlternate]; exact noRaw_ssa v h
  | .seq xs, h => by simp only [noRaw] at h; simp only [structStreamsAlternate]; exact noRaws_ssa xs h
  | .tuple xs, h => by simp only [noRaw] at h; simp only [structStreamsAlternate]; exact noRaws_ssa xs h
  | .tupleStruct _ xs, h => by simp only [noRaw] at h; simp only [structStreamsAlternate]; exact noRaws_ssa xs h
  | .tupleVariant _ _ _ xs, h => by simp only [noRaw] at h; simp only [structStreamsAlternate]; exact noRaws_ssa xs h
  | .record _ fs, h => by simp only [noRaw] at h; simp only [structStreamsAlternate]; exact noRawf_ssa fs h
  | .structVariant _ _ _ fs, h => by simp only [noRaw] at h; simp only [structStreamsAlternate]; exact noRawf_ssa fs h
  | .map es, h => by simp only [noRaw] at h; simp only [structStreamsAlternate]; exact noRawe_ssa es h
  | .mapRaw _, h => by simp [noRaw] at h
  | .none, _ | .unit, _ | .bool _, _ | .int _ _, _ | .f32 _, _ | .f64 _, _ | .char _, _ | .str _, _ | .bytes _, _
  | .unitStruct _, _ | .unitVariant _ _ _, _ => by simp [structStreamsAlternate]
theorem noRaws_ssa : ∀ (xs : SVals), noRaws xs = true → ssaS xs = true
  | .nil, _ => rfl
  | .cons x r, h => by
    simp only [noRaws, Bool.and_eq_true] at h
    simp [ssaS, noRaw_ssa x h.1, noRaws_ssa r h.2]
theorem noRawf_ssa : ∀ (fs : SFields), noRawf fs = true → ssaF fs = true
  | .nil, _ => rfl
  | .cons _ _ x r, h => by
    simp only [noRawf, Bool.and_eq_true] at h
    simp [ssaF, noRaw_ssa x h.1, noRawf_ssa r h.2]
theorem noRawe_ssa : ∀ (es : SEntries), noRawe es = true → ssaE es = true
  | .nil, _ => rfl
  | .cons k x r, h => by
    simp only [noRawe, Bool.and_eq_true] at h
    simp [ssaE, noRaw_ssa k h.1.1, noRaw_ssa x h.1.2, noRawe_ssa r h.2]
end

/-! ### one hypothesis for both regimes of R2

`rawOK nar x`: with `nar = false` the value has no raw stream at all (then R2 needs no bound on the number of struct
fields); with `nar = true` raw streams are allowed as long as they alternate (then the sentinel bound `narrowDT` is
needed).  The walk of R2' (`obs_cases`, Lemmas/C01ObsPush.lean) is written once, for a fixed `nar`. -/
def rawOK (nar : Bool) (x : SVal) : Bool := if nar then structStreamsAlternate x else noRaw x
def rawOKs (nar : Bool) (xs : SVals) : Bool := if nar then ssaS xs else noRaws xs
def rawOKf (nar : Bool) (fs : SFields) : Bool := if nar then ssaF fs else noRawf fs
def rawOKe (nar : Bool) (es : SEntries) : Bool := if nar then ssaE es else noRawe es

theorem rawOK_some (nar : Bool) (v : SVal) : rawOK nar (.some v) = rawOK nar v := by
  cases nar <;> simp [rawOK, structStreamsAlternate, noRaw]
theorem rawOK_newtypeStruct (nar : Bool) (a : String) (v : SVal) : rawOK nar (.newtypeStruct a v) = rawOK nar v := by
  cases nar <;> simp [rawOK, structStreamsAlternate, noRaw]
theorem rawOK_newtypeVariant (nar : Bool) (a : String) (i : Nat) (c : String) (v : SVal) :
    rawOK nar (.newtypeVariant a i c v) = rawOK nar v := by
  cases nar <;> simp [rawOK, structStreamsAlternate, noRaw]
theorem rawOK_seq (nar : Bool) (xs : SVals) : rawOK nar (.seq xs) = rawOKs nar xs := by
  cases nar <;> simp [rawOK, rawOKs, structStreamsAlternate, noRaw]
theorem rawOK_tuple (nar : Bool) (xs : SVals) : rawOK nar (.tuple xs) = rawOKs nar xs := by
  cases nar <;> simp [rawOK, rawOKs, structStreamsAlternate, noRaw]
theorem rawOK_tupleStruct (nar : Bool) (a : String) (xs : SVals) : rawOK nar (.tupleStruct a xs) = rawOKs nar xs := by
  cases nar <;> simp [rawOK, rawOKs, structStreamsAlternate, noRaw]
theorem rawOK_tupleVariant (nar : Bool) (a : String) (i : Nat) (c : String) (xs : SVals) :
    rawOK nar (.tupleVariant a i c xs) = rawOKs nar xs := by
  cases nar <;> simp [rawOK, rawOKs, structStreamsAlternate, noRaw]
theorem rawOK_record (nar : Bool) (a : String) (fs : SFields) : rawOK nar (.record a fs) = rawOKf nar fs := by
  cases nar <;> simp [rawOK, rawOKf, structStreamsAlternate, noRaw]
theorem rawOK_structVariant (nar : Bool) (a : String) (i : Nat) (c : String) (fs : SFields) :
    rawOK nar (.structVariant a i c fs) = rawOKf nar fs := by
  cases nar <;> simp [rawOK, rawOKf, structStreamsAlternate, noRaw]
theorem rawOK_map (nar : Bool) (es : SEntries) : rawOK nar (.map es) = rawOKe nar es := by
  cases nar <;> simp [rawOK, rawOKe, structStreamsAlternate, noRaw]
theorem rawOK_mapRaw (nar : Bool) (ops : SMapOps) : rawOK nar (.mapRaw ops) = (nar && ssaO ops) := by
  cases nar <;> simp [rawOK, structStreamsAlternate, noRaw]
theorem rawOKs_cons (nar : Bool) (x : SVal) (r : SVals) : rawOKs nar (.cons x r) = (rawOK nar x && rawOKs nar r) := by
  cases nar <;> simp [rawOK, rawOKs, ssaS, noRaws]
theorem rawOKf_cons (nar : Bool) (k : String) (al : Nat) (x : SVal) (r : SFields) :
    rawOKf nar (.cons k al x r) = (rawOK nar x && rawOKf nar r) := by
  cases nar <;> simp [rawOK, rawOKf, ssaF, noRawf]
theorem rawOKe_cons (nar : Bool) (k x : SVal) (r : SEntries) :
    rawOKe nar (.cons k x r) = (rawOK nar k && rawOK nar x && rawOKe nar r) := by
  cases nar <;> simp [rawOK, rawOKe, ssaE, noRawe]
theorem rawOK_true (x : SVal) : rawOK true x = structStreamsAlternate x := rfl
theorem rawOK_false (x : SVal) : rawOK false x = noRaw x := rfl

mutual
/-- the exclusion is exactly "contains no malformed stream" of the specification -/
theorem structStreamsAlternate_eq : ∀ (x : SVal), structStreamsAlternate x = !containsMalformed x
  | .some v => by simp only [structStreamsAlternate, containsMalformed]; exact structStreamsAlternate_eq v
  | .newtypeStruct _ v => by simp only [structStreamsAlternate, containsMalformed]; exact structStreamsAlternate_eq v
  | .newtypeVariant _ _ _ v => by simp only [structStreamsAlternate, containsMalformed]; exact structStreamsAlternate_eq v
  | .seq xs => by simp only [structStreamsAlternate, containsMalformed]; exact ssaS_eq xs
  | .tuple xs => by simp only [structStreamsAlternate, containsMalformed]; exact ssaS_eq xs
  | .tupleStruct _ xs => by simp only [structStreamsAlternate, containsMalformed]; exact ssaS_eq xs
  | .tupleVariant _ _ _ xs => by simp only [structStreamsAlternate, containsMalformed]; exact ssaS_eq xs
  | .record _ fs => by simp only [structStreamsAlternate, containsMalformed]; exact ssaF_eq fs
  | .structVariant _ _ _ fs => by simp only [structStreamsAlternate, containsMalformed]; exact ssaF_eq fs
  | .map es => by simp only [structStreamsAlternate, containsMalformed]; exact ssaE_eq es
  | .mapRaw ops => by
    simp only [structStreamsAlternate, containsMalformed]
    rw [ssaO_eq ops]; simp
  | .none | .unit | .bool _ | .int _ _ | .f32 _ | .f64 _ | .char _ | .str _ | .bytes _ | .unitStruct _
  | .unitVariant _ _ _ => by simp [structStreamsAlternate, containsMalformed]
theorem ssaS_eq : ∀ (xs : SVals), ssaS xs = !anyMalformed xs
  | .nil => rfl
  | .cons x r => by simp [ssaS, anyMalformed, structStreamsAlternate_eq x, ssaS_eq r]
theorem ssaF_eq : ∀ (fs : SFields), ssaF fs = !anyMalformedF fs
  | .nil => rfl
  | .cons _ _ x r => by simp [ssaF, anyMalformedF, structStreamsAlternate_eq x, ssaF_eq r]
theorem ssaE_eq : ∀ (es : SEntries), ssaE es = !anyMalformedE es
  | .nil => rfl
  | .cons k x r => by
    simp [ssaE, anyMalformedE, structStreamsAlternate_eq k, structStreamsAlternate_eq x, ssaE_eq r, Bool.and_assoc]
theorem ssaO_eq : ∀ (ops : SMapOps), ssaO ops = (isAlternating ops && !anyMalformedO ops)
  | .nil => rfl
  | .key k (.value x rest) => by
    simp [ssaO, isAlternating, anyMalformedO, structStreamsAlternate_eq k, structStreamsAlternate_eq x, ssaO_eq rest]
    cases isAlternating rest <;> simp [Bool.and_assoc]
  | .key _ .nil => by simp [ssaO, isAlternating]
  | .key _ (.key _ _) => by simp [ssaO, isAlternating]
  | .value _ _ => by simp [ssaO, isAlternating]
end

theorem ssaO_alternating (ops : SMapOps) (h : ssaO ops = true) : isAlternating ops = true := by
  rw [ssaO_eq, Bool.and_eq_true] at h
  exact h.1

/-! ### the sentinel bound on the schema -/

mutual
/-- every struct type inside `dt` has fewer than `UNKNOWN_KEY = usize::MAX` fields -/
def narrowDT : DataType → Bool
  | .list f | .largeList f => narrowF f
  | .fixedSizeList f _ => narrowF f
  | .map f _ => narrowF f
  | .struct fs => decide (fs.toList.length < UNKNOWN_KEY) && narrowFs fs
  | .union ufs _ => narrowU ufs
  | _ => true
def narrowF : Field → Bool
  | .mk _ dt _ _ => narrowDT dt
def narrowFs : Fields → Bool
  | .nil => true
  | .cons f r => narrowF f && narrowFs r
def narrowU : UFields → Bool
  | .nil => true
  | .cons _ f r => narrowF f && narrowU r
end

theorem narrowFs_get : ∀ (sfs : Fields) (j : Nat) (f : Field), narrowFs sfs = true → sfs.toList[j]? = some f →
    narrowDT f.dataType = true
  | .nil, _, _, _, h => by simp [Fields.toList] at h
  | .cons (.mk _ _ _ _) r, 0, f, hn, h => by
    simp only [narrowFs, Bool.and_eq_true, narrowF] at hn
    simp [Fields.toList] at h; subst h; exact hn.1
  | .cons _ r, j + 1, f, hn, h => by
    simp only [narrowFs, Bool.and_eq_true] at hn
    exact narrowFs_get r j f hn.2 (by simpa [Fields.toList] using h)

theorem narrowU_get : ∀ (ufs : UFields) (i : Nat) (tid : Int) (nm : String) (dt : DataType) (n : Bool) (md : Metadata),
    narrowU ufs = true → ufs.toList[i]? = some (tid, .mk nm dt n md) → narrowDT dt = true
  | .nil, _, _, _, _, _, _, _, h => by simp [UFields.toList] at h
  | .cons _ (.mk _ _ _ _) r, 0, tid, nm, dt, n, md, hn, h => by
    simp only [narrowU, Bool.and_eq_true, narrowF] at hn
    simp [UFields.toList] at h; obtain ⟨_, _, rfl, _, _⟩ := h; exact hn.1
  | .cons _ _ r, i + 1, tid, nm, dt, n, md, hn, h => by
    simp only [narrowU, Bool.and_eq_true] at hn
    exact narrowU_get r i tid nm dt n md hn.2 (by simpa [UFields.toList] using h)

/-- the root schema: fewer than `usize::MAX` columns, and so at every struct level below -/
def narrowRoot (fields : List Field) : Bool := narrowDT (.struct (Fields.ofList fields))

theorem narrowFs_ofList : ∀ (fields : List Field), narrowFs (Fields.ofList fields) = fields.all narrowF :=
  Fields.all_ofList_eq rfl fun _ _ => rfl

theorem narrowRoot_eq (fields : List Field) :
    narrowRoot fields = (decide (fields.length < UNKNOWN_KEY) && fields.all narrowF) := by
  simp [narrowRoot, narrowDT, narrowFs_ofList]

/-- the hypothesis of R3 / `C01_build_decode` on a batch of records: every raw key/value call stream alternates, and —
unless no record contains a raw stream at all — the schema meets the sentinel bound -/
def RawRows (fields : List Field) (rows : List SVal) : Prop :=
  (∀ x ∈ rows, structStreamsAlternate x = true) ∧ ((∀ x ∈ rows, noRaw x = true) ∨ narrowRoot fields = true)

theorem RawRows.of_noRaw {fields : List Field} {rows : List SVal} (h : ∀ x ∈ rows, noRaw x = true) :
    RawRows fields rows := ⟨fun x hx => noRaw_ssa x (h x hx), Or.inl h⟩

/-! ### a struct builder and a raw stream: what survives

`normOps ops` keeps exactly the (key, value) pairs in which the value directly follows its key: a value without a key
is dropped (`next = UNKNOWN_KEY` at that point: `serialize_map_value` does nothing), a key that is followed by another
key or by the end designates a field that is then never written (it stays unseen; `end` gives it a null if nullable). -/
def normOps : SMapOps → SMapOps
  | .nil => .nil
  | .key k (.value x rest) => .key k (.value x (normOps rest))
  | .key _ rest => normOps rest
  | .value _ rest => normOps rest

theorem normOps_alternating : ∀ (ops : SMapOps), isAlternating (normOps ops) = true
  | .nil => rfl
  | .key _ (.value _ rest) => by simpa [normOps, isAlternating] using normOps_alternating rest
  | .key _ .nil => by simp [normOps, isAlternating]
  | .key _ (.key k r) => by simpa [normOps] using normOps_alternating (.key k r)
  | .value _ rest => by simpa [normOps] using normOps_alternating rest

/-- a stream that alternates is empty, or a key, its value and a stream that alternates -/
theorem isAlternating_induct {motive : SMapOps → Prop} (nil : motive .nil)
    (pair : ∀ k x rest, isAlternating rest = true → motive rest → motive (.key k (.value x rest))) :
    ∀ (ops : SMapOps), isAlternating ops = true → motive ops
  | .nil, _ => nil
  | .key k (.value x rest), h => pair k x rest h (isAlternating_induct nil pair rest h)
  | .key _ .nil, h | .key _ (.key _ _), h | .value _ _, h => by simp [isAlternating] at h

theorem normOps_id : ∀ (ops : SMapOps), isAlternating ops = true → normOps ops = ops :=
  isAlternating_induct rfl fun k x rest _ ih => by simp [normOps, ih]

end SaModel.Build
