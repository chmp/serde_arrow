import SaModel.Lemmas.C08GVariants
import SaModel.Lemmas.C06Fam
/-
C08 — building blocks of the general sample invariant `absorb (sstate ty xs) x = sstate ty (xs ++ [x])`: what a value of
a type looks like (`hasTy` inverted per type constructor), the `ensure_*` call on a node that has seen `xs`, a sample of
an enum as a sample of its variant's payload type.
-/
namespace SaModel.Lemmas.C08
open SaModel SaModel.Trace SaModel.Trace.Spec

theorem isEmpty_snoc {α} (xs : List α) (x : α) : (xs ++ [x]).isEmpty = false := by cases xs <;> rfl

theorem seen_cases (xs : List SVal) (n p : String) (nl : Bool) (t : Tracer) :
    seen xs n p nl t = .unknown n p nl ∨ seen xs n p nl t = t := by
  cases xs
  · left; rfl
  · right; rfl

theorem hasTy_unit {o : Options} {x : SVal} (h : hasTy o x .unit = true) : x = .unit := by
  cases x <;> simp [hasTy] at h ⊢

theorem hasTy_unitStruct {o : Options} {x : SVal} {sn : String} (h : hasTy o x (.unitStruct sn) = true) :
    ∃ m, x = .unitStruct m := by
  cases x <;> simp [hasTy] at h ⊢

theorem hasTy_bool {o : Options} {x : SVal} (h : hasTy o x .bool = true) : ∃ b, x = .bool b := by
  cases x <;> simp [hasTy] at h ⊢

theorem hasTy_int {o : Options} {x : SVal} {t : IntTy} (h : hasTy o x (.int t) = true) : ∃ v, x = .int t v := by
  cases x <;> simp [hasTy] at h ⊢
  exact h

theorem hasTy_f32 {o : Options} {x : SVal} (h : hasTy o x .f32 = true) : ∃ b, x = .f32 b := by
  cases x <;> simp [hasTy] at h ⊢

theorem hasTy_f64 {o : Options} {x : SVal} (h : hasTy o x .f64 = true) : ∃ b, x = .f64 b := by
  cases x <;> simp [hasTy] at h ⊢

theorem hasTy_char {o : Options} {x : SVal} (h : hasTy o x .char = true) : ∃ b, x = .char b := by
  cases x <;> simp [hasTy] at h ⊢

theorem hasTy_bytes {o : Options} {x : SVal} (h : hasTy o x .bytes = true) : ∃ b, x = .bytes b := by
  cases x <;> simp [hasTy] at h ⊢

theorem hasTy_string {o : Options} {x : SVal} (h : hasTy o x .string = true) :
    ∃ s, x = .str s ∧ strType o s = o.string_type := by
  cases x <;> simp [hasTy] at h ⊢
  exact h

theorem hasTy_option {o : Options} {x : SVal} {t : Ty} (h : hasTy o x (.option t) = true) :
    x = .none ∨ ∃ v, x = .some v ∧ hasTy o v t = true := by
  cases x <;> simp [hasTy] at h ⊢
  exact h

theorem hasTy_newtypeStruct {o : Options} {x : SVal} {sn : String} {t : Ty} (h : hasTy o x (.newtypeStruct sn t) = true) :
    ∃ m v, x = .newtypeStruct m v ∧ hasTy o v t = true := by
  cases x <;> simp [hasTy] at h ⊢
  exact ⟨_, _, ⟨rfl, rfl⟩, h⟩

theorem hasTy_vec {o : Options} {x : SVal} {t : Ty} (h : hasTy o x (.vec t) = true) :
    ∃ items, x = .seq items ∧ hasTyAll o items t = true := by
  cases x <;> simp [hasTy] at h ⊢
  exact h

theorem hasTy_tuple {o : Options} {x : SVal} {ts : Tys} (h : hasTy o x (.tuple ts) = true) :
    ∃ items, x = .tuple items ∧ hasTys o items ts = true := by
  cases x <;> simp [hasTy] at h ⊢
  exact h

theorem hasTy_tupleStruct {o : Options} {x : SVal} {sn : String} {ts : Tys} (h : hasTy o x (.tupleStruct sn ts) = true) :
    ∃ m items, x = .tupleStruct m items ∧ hasTys o items ts = true := by
  cases x <;> simp [hasTy] at h ⊢
  exact ⟨_, _, ⟨rfl, rfl⟩, h⟩

theorem hasTy_map {o : Options} {x : SVal} {k v : Ty} (h : hasTy o x (.map k v) = true) :
    ∃ es, x = .map es ∧ hasEntries o es k v = true := by
  cases x <;> simp [hasTy] at h ⊢
  exact h

theorem hasTy_struct {o : Options} {x : SVal} {sn : String} {fs : TyFields} (h : hasTy o x (.struct sn fs) = true) :
    ∃ m sf, x = .record m sf ∧ hasFields o sf fs = true := by
  cases x <;> simp [hasTy] at h ⊢
  exact ⟨_, _, ⟨rfl, rfl⟩, h⟩

theorem hasTys_nil {o : Options} {items : SVals} (h : hasTys o items .nil = true) : items = .nil := by
  cases items <;> simp [hasTys] at h ⊢

theorem hasTys_cons {o : Options} {items : SVals} {t : Ty} {r : Tys} (h : hasTys o items (.cons t r) = true) :
    ∃ v ir, items = .cons v ir ∧ hasTy o v t = true ∧ hasTys o ir r = true := by
  cases items <;> simp [hasTys] at h ⊢
  exact ⟨_, _, ⟨rfl, rfl⟩, h⟩

theorem hasTys_length {o : Options} : ∀ {ts : Tys} {items : SVals}, hasTys o items ts = true → items.length = ts.length
  | .nil, items, h => by rw [hasTys_nil h]; rfl
  | .cons t r, items, h => by
    obtain ⟨v, ir, rfl, _, h2⟩ := hasTys_cons h
    simp only [SVals.length, Tys.length, hasTys_length h2]

theorem hasFields_nil {o : Options} {sf : SFields} (h : hasFields o sf .nil = true) : sf = .nil := by
  cases sf <;> simp [hasFields] at h ⊢

theorem hasFields_cons {o : Options} {sf : SFields} {n : String} {t : Ty} {r : TyFields}
    (h : hasFields o sf (.cons n t r) = true) :
    ∃ a v sr, sf = .cons n a v sr ∧ hasTy o v t = true ∧ hasFields o sr r = true := by
  cases sf with
  | nil => simp [hasFields] at h
  | cons k a v sr =>
    simp only [hasFields, Bool.and_eq_true, decide_eq_true_eq] at h
    obtain ⟨⟨rfl, h2⟩, h3⟩ := h
    exact ⟨a, v, sr, rfl, h2, h3⟩

def VKind.toTy (vn : String) : VKind → Ty
  | .unit => .unit
  | .newtype t => t
  | .tuple ts => .tuple ts
  | .struct fs => .struct vn fs

theorem variantAt_vList : ∀ (vs : TyVariants) (idx : Nat) (vn : String) (k : VKind),
    variantAt vs idx = some (vn, k) → (vList vs)[idx]? = some (vn, k.toTy vn)
  | .nil, _ => by intro _ _ h; simp [variantAt] at h
  | .unit n r, 0 | .newtype n t r, 0 | .tuple n ts r, 0 | .struct n fs r, 0 => by
    intro vn k h
    simp only [variantAt, Option.some.injEq, Prod.mk.injEq] at h
    obtain ⟨rfl, rfl⟩ := h
    simp only [vList, List.getElem?_cons_zero, VKind.toTy]
  | .unit n r, i + 1 | .newtype n t r, i + 1 | .tuple n ts r, i + 1 | .struct n fs r, i + 1 => by
    intro vn k h
    simp only [variantAt] at h
    simp only [vList, List.getElem?_cons_succ]
    exact variantAt_vList r i vn k h

/-- a value of an enum is a sample of one variant `idx` with a payload `y` that is a value of the variant's payload type;
absorbing it is `ensure_union_variant`, absorbing `y` into the variant's tracer, and putting the result back -/
theorem variant_absorb (c : Code) (o : Options) (en : String) (vs : TyVariants) (x : SVal)
    (h : hasTy o x (.enum en vs) = true) :
    ∃ idx vn T y, (vList vs)[idx]? = some (vn, T) ∧ payAt idx x = some y ∧ (∀ k, k ≠ idx → payAt k x = none) ∧
      hasTy o y T = true ∧
      ∀ (t : Tracer) (n p : String) (nl : Bool) (V : Variants) (vt vt' : Tracer),
        ensure_union_variant t vn idx = .ok (n, p, nl, V, vt) → absorb c o vt y = .ok vt' →
        absorb c o t x = .ok (.union n p nl (V.set idx vn vt')) := by
  cases x with
  | unitVariant nm idx vn =>
    simp only [hasTy] at h
    cases hv : variantAt vs idx with
    | none => simp [hv] at h
    | some pr =>
      obtain ⟨vn', k⟩ := pr
      cases k with
      | newtype _ | tuple _ | struct _ => simp [hv] at h
      | unit =>
      simp only [hv, decide_eq_true_eq] at h
      subst h
      refine ⟨idx, vn, .unit, .unit, variantAt_vList vs idx vn _ hv, by simp [payAt], ?_, by simp [hasTy], ?_⟩
      · intro k hk; simp only [payAt]; rw [if_neg (fun e => hk e.symm)]
      · exact fun t n p nl V vt vt' => C06.variant_run c o rfl
  | newtypeVariant nm idx vn v =>
    simp only [hasTy] at h
    cases hv : variantAt vs idx with
    | none => simp [hv] at h
    | some pr =>
      obtain ⟨vn', k⟩ := pr
      cases k with
      | unit | tuple _ | struct _ => simp [hv] at h
      | newtype _ =>
      simp only [hv, decide_eq_true_eq, Bool.and_eq_true] at h
      obtain ⟨rfl, h2⟩ := h
      refine ⟨idx, vn, _, v, variantAt_vList vs idx vn _ hv, by simp [payAt], ?_, h2, ?_⟩
      · intro k hk; simp only [payAt]; rw [if_neg (fun e => hk e.symm)]
      · exact fun t n p nl V vt vt' => C06.variant_run c o rfl
  | tupleVariant nm idx vn items =>
    simp only [hasTy] at h
    cases hv : variantAt vs idx with
    | none => simp [hv] at h
    | some pr =>
      obtain ⟨vn', k⟩ := pr
      cases k with
      | unit | newtype _ | struct _ => simp [hv] at h
      | tuple _ =>
      simp only [hv, decide_eq_true_eq, Bool.and_eq_true] at h
      obtain ⟨rfl, h2⟩ := h
      refine ⟨idx, vn, _, .tuple items, variantAt_vList vs idx vn _ hv, by simp [payAt], ?_, by simpa [hasTy, VKind.toTy] using h2, ?_⟩
      · intro k hk; simp only [payAt]; rw [if_neg (fun e => hk e.symm)]
      · exact fun t n p nl V vt vt' => C06.variant_run c o rfl
  | structVariant nm idx vn sf =>
    simp only [hasTy] at h
    cases hv : variantAt vs idx with
    | none => simp [hv] at h
    | some pr =>
      obtain ⟨vn', k⟩ := pr
      cases k with
      | unit | newtype _ | tuple _ => simp [hv] at h
      | struct _ =>
      simp only [hv, decide_eq_true_eq, Bool.and_eq_true] at h
      obtain ⟨rfl, h2⟩ := h
      refine ⟨idx, vn, _, .record vn sf, variantAt_vList vs idx vn _ hv, by simp [payAt], ?_, by simpa [hasTy, VKind.toTy] using h2, ?_⟩
      · intro k hk; simp only [payAt]; rw [if_neg (fun e => hk e.symm)]
      · exact fun t n p nl V vt vt' h1 h2 =>
          C06.variant_run c o (y := .record nm sf) rfl h1 (by simp only [absorb] at h2 ⊢; exact h2)
  | none | unit | some _ | bool _ | int _ _ | f32 _ | f64 _ | char _ | str _ | bytes _ | seq _ | tuple _
  | tupleStruct _ _ | newtypeStruct _ _ | unitStruct _ | record _ _ | map _ | mapRaw _ => simp [hasTy] at h

theorem payloadsAt_snoc_same (xs : List SVal) (x y : SVal) (k : Nat) (h : payAt k x = some y) :
    payloadsAt k (xs ++ [x]) = payloadsAt k xs ++ [y] := by
  simp only [payloadsAt, List.filterMap_append, List.filterMap_cons, h, List.filterMap_nil]

theorem payloadsAt_snoc_other (xs : List SVal) (x : SVal) (k : Nat) (h : payAt k x = none) :
    payloadsAt k (xs ++ [x]) = payloadsAt k xs := by
  simp only [payloadsAt, List.filterMap_append, List.filterMap_cons, h, List.filterMap_nil, List.append_nil]

theorem anyFrom_nil : ∀ (len i : Nat), anyFrom len i [] = false
  | 0, _ => rfl
  | len + 1, i => by simp only [anyFrom, payloadsAt, List.filterMap_nil, List.isEmpty_nil, Bool.not_true, Bool.false_or,
      anyFrom_nil len (i + 1)]

/-! ### the field loop of a struct: a first field that is not named stays -/

theorem ensure_field_cons (path : String) (seen : Nat) (n0 : String) (l0 : Nat) (t0 : Tracer) (rest : TFields)
    (key : String) (h : n0 ≠ key) :
    ensure_field path seen (.cons n0 l0 t0 rest) key =
      ((ensure_field path seen rest key).1 + 1, .cons n0 l0 t0 (ensure_field path seen rest key).2) := by
  unfold ensure_field
  simp only [TFields.indexOf, h, if_false]
  cases rest.indexOf key with
  | none => simp only [Option.map, TFields.length, TFields.push]
  | some i => simp only [Option.map, TFields.setLastSeen]

/-! ### `ensure_union_variant` on a fresh node and on a union node -/

theorem euv_of (t0 : Tracer) (n p : String) (nl : Bool) (V0 V' : Variants) (vn : String) (idx : Nat) (vt : Tracer)
    (ht : (t0 = .unknown n p nl ∧ V0 = .nil) ∨ t0 = .union n p nl V0) (hd : tooDeep p = false)
    (hE : ensure_variant p V0 vn idx = .ok V') (hg : V'.get? idx = some (some (vn, vt))) :
    ensure_union_variant t0 vn idx = .ok (n, p, nl, V', vt) := by
  rcases ht with ⟨rfl, rfl⟩ | rfl
  · simp only [ensure_union_variant, ensure_union_unknown n p nl _ hd, mkVariants, bind, Except.bind, hE, hg]
  · simp only [ensure_union_variant, ensure_union_union n p nl _ _ hd, bind, Except.bind, hE, hg]

theorem leaf_gen (o : Options) (n p : String) (nl : Bool) (dt : DataType) (hnn : isNull dt = false) (xs : List SVal)
    (x : SVal) :
    (seen xs n p nl (.primitive n p nl dt none)).ensure_primitive_with_strategy o dt none =
      .ok (seen (xs ++ [x]) n p nl (.primitive n p nl dt none)) := by
  rw [seen_append]; exact prim_step o n p nl dt hnn _ (seen_cases xs n p nl _)

theorem null_gen (o : Options) (n p : String) (nl : Bool) (xs : List SVal) (x : SVal) :
    (seen xs n p nl (.primitive n p true .null none)).ensure_primitive_with_strategy o .null none =
      .ok (seen (xs ++ [x]) n p nl (.primitive n p true .null none)) := by
  rw [seen_append]; exact null_step o n p nl _ (seen_cases xs n p nl _)

theorem ensure_list_seen (xs : List SVal) (n p : String) (nl : Bool) (E : List SVal → Tracer)
    (hE : E [] = .unknown "element" (childPath p "element") false) (hd : tooDeep p = false) (f : List SVal → List SVal)
    (hf : f [] = []) :
    (seen xs n p nl (.list n p nl (E (f xs)))).ensure_list = .ok (.list n p nl (E (f xs))) := by
  cases xs with
  | nil => simp only [seen_nil, ensure_list_unknown n p nl hd, hf, hE]
  | cons y r => rw [seen_ne (by simp)]; exact ensure_list_list n p nl _ hd

theorem mkTupleFields_sstate (o : Options) (p : String) (N : Nat) : ∀ (ts : Tys), ts.length ≤ N →
    mkTupleFields p N ts.length = sstateTys o p (N - ts.length) ts []
  | .nil, _ => by simp only [Tys.length, mkTupleFields, sstateTys]
  | .cons t r, h => by
    simp only [Tys.length] at h ⊢
    have e : N - (r.length + 1) + 1 = N - r.length := by omega
    simp only [mkTupleFields, sstateTys, List.filterMap_nil, sstate_nil, Tracer.new, e,
      mkTupleFields_sstate o p N r (by omega)]
    rfl

theorem ensure_tuple_seen (c : Code) (o : Options) (xs : List SVal) (n p : String) (nl : Bool) (ts : Tys)
    (hd : tooDeep p = false) (f : List SVal → List SVals) (hf : f [] = []) :
    (seen xs n p nl (.tuple n p nl (sstateTys o p 0 ts (f xs)))).ensure_tuple c ts.length =
      .ok (.tuple n p nl (sstateTys o p 0 ts (f xs))) := by
  cases xs with
  | nil =>
    have h1 := mkTupleFields_sstate o p ts.length ts (Nat.le_refl _)
    rw [Nat.sub_self] at h1
    simp only [seen_nil, ensure_tuple_unknown c n p nl _ hd, h1, hf]
  | cons y r =>
    rw [seen_ne (by simp)]
    have h2 := ensure_tuple_tuple c n p nl (sstateTys o p 0 ts (f (y :: r))) hd
    rw [sstateTys_length] at h2
    exact h2

theorem ensure_map_seen (xs : List SVal) (n p : String) (nl : Bool) (K V : Tracer)
    (hK : xs = [] → K = .unknown "key" (childPath p "key") false)
    (hV : xs = [] → V = .unknown "value" (childPath p "value") false) (hd : tooDeep p = false) :
    (seen xs n p nl (.map n p nl K V)).ensure_map = .ok (.map n p nl K V) := by
  cases xs with
  | nil => simp only [seen_nil, ensure_map_unknown n p nl hd, hK rfl, hV rfl]
  | cons y r => rw [seen_ne (by simp)]; exact ensure_map_map n p nl _ _ hd

end SaModel.Lemmas.C08
