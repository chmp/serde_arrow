import SaModel.Lemmas.C04ExtPush
import SaModel.Lemmas.C03Shape
import SaModel.Lemmas.C03BuiltFor
import SaModel.Lemmas.SchemaAll
/-
C04, removing `ExtOK`: `finish` / `build_arrays` / `to_marrow` against a schema without temporal columns do not depend on the
chrono parsers of `ext`:

  noTemporalDT          : no Date32 / Date64 / Time32 / Time64 / Timestamp / Duration anywhere in a data type
  noParsed_of_builtFor  : BuiltFor dt nl b → noTemporalDT dt → noParsedB b
  finish_refuse         : noParsedB b → finish ext b = finish (refuseExt ext) b
  toMarrow_refuse       : (∀ f ∈ fields, noTemporalDT f.dataType) → toMarrow ext fields rows = toMarrow (refuseExt ext) fields rows
-/
namespace SaModel.Build
open SaModel SaModel.Spec SaModel.Lemmas.C03

mutual
theorem finish_refuse (ext : Ext) : ∀ (b : B), noParsedB b = true → finish ext b = finish (refuseExt ext) b
  | .null _ _, _ => by simp only [finish]
  | .unknownVariant _, _ => by simp only [finish]
  | .leaf _ _ _ _, _ => by simp only [finish]
  | .bytes _ _ _ _ _, _ => by simp only [finish]
  | .bytesView _ _ _ _ _, _ => by simp only [finish]
  | .fixedSizeBinary _ _ _ _ _ _, _ => by simp only [finish]
  | .list _ _ _ _ _ el, h => by
    simp only [noParsedB] at h
    simp only [finish, finish_refuse ext el h]
  | .fixedSizeList _ _ _ _ _ _ el, h => by
    simp only [noParsedB] at h
    simp only [finish, finish_refuse ext el h]
  | .map _ _ _ _ ks vs, h => by
    simp only [noParsedB, Bool.and_eq_true] at h
    simp only [finish, finish_refuse ext ks h.1, finish_refuse ext vs h.2]
  | .struct _ _ _ fs _ _ _, h => by
    simp only [noParsedB] at h
    simp only [finish, finishFields_refuse ext fs h]
  | .dictionary _ idx vals _, h => by
    simp only [noParsedB, Bool.and_eq_true] at h
    simp only [finish, finish_refuse ext idx h.1, finish_refuse ext vals h.2, pushScalar_refuse ext vals _ h.2]
  | .union _ fs _ _ _, h => by
    simp only [noParsedB] at h
    simp only [finish, finishUFields_refuse ext fs 0 h]
theorem finishFields_refuse (ext : Ext) : ∀ (fs : BL), noParsedBL fs = true →
    finishFields ext fs = finishFields (refuseExt ext) fs
  | .nil, _ => by simp only [finishFields]
  | .cons b _ r, h => by
    simp only [noParsedBL, Bool.and_eq_true] at h
    simp only [finishFields, finish_refuse ext b h.1, finishFields_refuse ext r h.2]
theorem finishUFields_refuse (ext : Ext) : ∀ (fs : BL) (idx : Nat), noParsedBL fs = true →
    finishUFields ext fs idx = finishUFields (refuseExt ext) fs idx
  | .nil, _, _ => by simp only [finishUFields]
  | .cons b _ r, idx, h => by
    simp only [noParsedBL, Bool.and_eq_true] at h
    simp only [finishUFields, finish_refuse ext b h.1, finishUFields_refuse ext r (idx + 1) h.2]
end

theorem buildArrays_refuse (ext : Ext) (root : B) (h : noParsedB root = true) :
    buildArrays ext root = buildArrays (refuseExt ext) root := by
  cases root with
  | struct p len v fs cached next seen =>
    simp only [noParsedB] at h
    simp only [buildArrays, finishFields_refuse ext fs h]
  | _ => simp only [buildArrays]

theorem foldlM_push_refuse (ext : Ext) : ∀ (rows : List SVal) (r0 : B), noParsedB r0 = true →
    rows.foldlM (push ext) r0 = rows.foldlM (push (refuseExt ext)) r0
  | [], _, _ => rfl
  | x :: rest, r0, h => by
    simp only [List.foldlM_cons]
    rw [push_refuse ext x r0 h]
    refine bind_congr_ok _ _ _ fun r1 h1 => ?_
    exact foldlM_push_refuse ext rest r1 (noParsedB.of_takeRest (push_takeRest _ x r0 r1 h1) h)

theorem toMarrow_refuse_of_root (ext : Ext) (fields : List Field) (rows : List SVal)
    (h : ∀ root, newRoot fields = .ok root → noParsedB root = true) :
    runRows ext fields rows = runRows (refuseExt ext) fields rows ∧
    toMarrow ext fields rows = toMarrow (refuseExt ext) fields rows := by
  constructor
  · simp only [runRows]
    refine bind_congr_ok _ _ _ fun r0 h0 => ?_
    exact foldlM_push_refuse ext rows r0 (h r0 h0)
  · simp only [toMarrow]
    refine bind_congr_ok _ _ _ fun r0 h0 => ?_
    rw [foldlM_push_refuse ext rows r0 (h r0 h0)]
    refine bind_congr_ok _ _ _ fun r1 h1 => ?_
    rw [buildArrays_refuse ext r1
      (noParsedB.of_takeRest (foldlM_push_takeRest _ rows r0 r1 h1) (h r0 h0))]

mutual
def noTemporalDT : DataType → Bool
  | .date32 | .date64 | .timestamp _ _ | .time32 _ | .time64 _ | .duration _ => false
  | .list f | .largeList f | .fixedSizeList f _ | .map f _ => noTemporalF f
  | .struct fs => noTemporalFs fs
  | .union ufs _ => noTemporalUs ufs
  | .dictionary k v => noTemporalDT k && noTemporalDT v
  | .runEndEncoded a b => noTemporalF a && noTemporalF b
  | _ => true
def noTemporalF : Field → Bool
  | .mk _ dt _ _ => noTemporalDT dt
def noTemporalFs : Fields → Bool
  | .nil => true
  | .cons f r => noTemporalF f && noTemporalFs r
def noTemporalUs : UFields → Bool
  | .nil => true
  | .cons _ f r => noTemporalF f && noTemporalUs r
end

theorem noTemporalF_dt (f : Field) : noTemporalF f = noTemporalDT f.dataType := by
  cases f; simp [noTemporalF, Field.dataType]

theorem noTemporalFs_ofList : ∀ (l : List Field), (∀ f ∈ l, noTemporalDT f.dataType = true) →
    noTemporalFs (Fields.ofList l) = true :=
  fun _ h => Fields.all_ofList (pFs := noTemporalFs) rfl (fun _ _ => rfl) fun f hf => by rw [noTemporalF_dt]; exact h f hf

theorem noTemporalFs_toList : ∀ (fs : Fields), noTemporalFs fs = true → ∀ f ∈ fs.toList, noTemporalDT f.dataType = true :=
  fun _ h f hf => by rw [← noTemporalF_dt]; exact Fields.all_toList (pFs := noTemporalFs) rfl (fun _ _ => rfl) h f hf

theorem leafDT_noTemporal (k : LeafKind) (h : noTemporalDT (leafDT k) = true) : k.isParsed = false := by
  cases k <;> first | rfl | (simp [leafDT, noTemporalDT] at h)

theorem noParsed_cases : BuiltForCases (fun dt _ b => noTemporalDT dt = true → noParsedB b = true)
    (fun fs bl => noTemporalFs fs = true → noParsedBL bl = true) (fun ufs bl _ => noTemporalUs ufs = true → noParsedBL bl = true) where
  null _ := rfl
  unknownVariant _ := rfl
  leaf hn := by simp [noParsedB, leafDT_noTemporal _ hn]
  bytes _ := rfl
  bytesView _ := rfl
  fixedSizeBinary _ := rfl
  list _ ih hn := ih hn
  largeList _ ih hn := ih hn
  fixedSizeList _ ih hn := ih hn
  map _ ihk _ ihv hn := by
    simp only [noTemporalDT, noTemporalF, noTemporalFs, Bool.and_eq_true, Bool.and_true] at hn
    simp [noParsedB, ihk hn.1, ihv hn.2]
  struct _ ih hn := ih hn
  dictionary _ _ ihk _ ihv hn := by
    simp only [noTemporalDT, Bool.and_eq_true] at hn
    simp [noParsedB, ihk hn.1, ihv hn.2]
  union _ ih hn := ih hn
  nilL _ := rfl
  consL _ ih _ ihr hn := by
    simp only [noTemporalFs, noTemporalF, Bool.and_eq_true] at hn
    simp [noParsedBL, ih hn.1, ihr hn.2]
  nilU _ := rfl
  consU _ ih _ ihr hn := by
    simp only [noTemporalUs, noTemporalF, Bool.and_eq_true] at hn
    simp [noParsedBL, ih hn.1, ihr hn.2]

theorem noParsed_of_builtFor : ∀ (b : B) (dt : DataType) (nl : Bool), BuiltFor dt nl b → noTemporalDT dt = true →
    noParsedB b = true :=
  noParsed_cases.builtFor

theorem noParsedL_of_builtFor : ∀ (bl : BL) (fs : Fields), BuiltForL fs bl → noTemporalFs fs = true →
    noParsedBL bl = true :=
  noParsed_cases.builtForL

theorem noParsedU_of_builtFor : ∀ (bl : BL) (ufs : UFields) (k : Nat), BuiltForU ufs bl k → noTemporalUs ufs = true →
    noParsedBL bl = true :=
  noParsed_cases.builtForU

theorem newRoot_noParsed (fields : List Field) (hf : ∀ f ∈ fields, noTemporalDT f.dataType = true) (root : B)
    (h : newRoot fields = .ok root) : noParsedB root = true :=
  noParsed_of_builtFor root _ _ (newRoot_builtFor fields root h)
    (by simpa [noTemporalDT] using noTemporalFs_ofList fields hf)

/-- **`to_marrow` against a schema without temporal columns never consults the chrono parsers**: it is the same function
under `refuseExt ext` (whose parsers refuse everything, so that `ExtOK (refuseExt ext)` holds trivially: `refuseExt_ok`) -/
theorem toMarrow_refuse (ext : Ext) (fields : List Field) (rows : List SVal)
    (hf : ∀ f ∈ fields, noTemporalDT f.dataType = true) :
    toMarrow ext fields rows = toMarrow (refuseExt ext) fields rows :=
  (toMarrow_refuse_of_root ext fields rows (newRoot_noParsed fields hf)).2

theorem runRows_refuse (ext : Ext) (fields : List Field) (rows : List SVal)
    (hf : ∀ f ∈ fields, noTemporalDT f.dataType = true) :
    runRows ext fields rows = runRows (refuseExt ext) fields rows :=
  (toMarrow_refuse_of_root ext fields rows (newRoot_noParsed fields hf)).1

/-! ### non-vacuity: an `ext` whose parsers return OUT-OF-RANGE values (`ExtOK` is false for it) -/

/-- every chrono parser "succeeds" with `2^63`, which fits no temporal column -/
def exBadExt : Ext :=
  { parseDate := fun _ _ => .ok 9223372036854775808
    parseTime := fun _ _ => .ok 9223372036854775808
    parseTimestamp := fun _ _ _ => .ok 9223372036854775808
    parseDuration := fun _ _ => .ok 9223372036854775808 }

example : ¬ ExtOK exBadExt := fun h => absurd (h.date32 "" _ rfl).2 (by decide)

def exRefuseFields : List Field := [⟨"a", .int32, false, []⟩, ⟨"s", .list ⟨"element", .largeUtf8, true, []⟩, true, []⟩]
def exRefuseRows : List SVal :=
  [.record "R" (.cons "a" 0 (.int .i32 7) (.cons "s" 1 (.seq (.cons (.str "x") (.cons .none .nil))) .nil)),
   .record "R" (.cons "a" 0 (.int .i32 (-1)) (.cons "s" 1 .none .nil))]

/-- the hypothesis of `toMarrow_refuse` is met, serialization succeeds under the bad `ext`, and — the theorem — under
`refuseExt exBadExt` with the same arrays -/
example : (∀ f ∈ exRefuseFields, noTemporalDT f.dataType = true) ∧
    (toMarrow exBadExt exRefuseFields exRefuseRows).isOk = true := by decide +kernel

example : toMarrow (refuseExt exBadExt) exRefuseFields exRefuseRows = toMarrow exBadExt exRefuseFields exRefuseRows :=
  (toMarrow_refuse exBadExt exRefuseFields exRefuseRows (by decide +kernel)).symm

/-- the hypothesis is needed: against a Date32 column the two differ (the bad parser's value is stored) -/
example : noTemporalDT (.date32) = false ∧
    toMarrow exBadExt [⟨"d", .date32, false, []⟩] [.record "R" (.cons "d" 0 (.str "x") .nil)] ≠
    toMarrow (refuseExt exBadExt) [⟨"d", .date32, false, []⟩] [.record "R" (.cons "d" 0 (.str "x") .nil)] := by
  decide +kernel

end SaModel.Build
