import SaModel.Lemmas.C08GConv
/-
C08 — `from_samples` on the canonical covering samples `sampleAt ty 0, 1, …` as an instance of `from_samples` on arbitrary
values of the type.  `safter m ty` (SaModel/Lemmas/C08SAfter.lean) is the tracer of the values `sampleAt ty 0 … m-1`
(`safter_eq`): the projections of `sstate` applied to canonical samples are canonical samples of the component types, and
among the first `m = q·L + r` samples of an enum with `L` variants variant `k` occurs `cnt q r k` times, with the payload
samples `0 … cnt q r k - 1` (`payloadsAt_canon`).  Hence the sample invariant `absorb_step` (absorbing covering sample
`m` into the tracer of the samples `0 … m-1` gives the tracer of the samples `0 … m`) is the instance of `absorb_gen` at
the value `sampleAt ty m`.
-/
namespace SaModel.Lemmas.C08
open SaModel SaModel.Trace SaModel.Trace.Spec

theorem filterMap_map_some {α β γ} (f : α → β) (g : β → Option γ) (h : α → γ) (hg : ∀ a, g (f a) = some (h a)) :
    ∀ l : List α, (l.map f).filterMap g = l.map h
  | [] => rfl
  | a :: l => by simp only [List.map_cons, List.filterMap_cons, hg, filterMap_map_some f g h hg l]

theorem flatMap_map_single {α β γ} (f : α → β) (g : β → List γ) (h : α → γ) (hg : ∀ a, g (f a) = [h a]) :
    ∀ l : List α, (l.map f).flatMap g = l.map h
  | [] => rfl
  | a :: l => by
    simp only [List.map_cons, List.flatMap_cons, hg, flatMap_map_single f g h hg l, List.singleton_append]

theorem map_range_succ {α} (f : Nat → α) (m : Nat) : (List.range (m + 1)).map f = (List.range m).map f ++ [f m] := by
  rw [List.range_succ, List.map_append]; rfl

theorem map_range_succ_ne_nil {α} (f : Nat → α) (m : Nat) : (List.range (m + 1)).map f ≠ [] := by
  simp [List.range_succ]

theorem cnt_self (q r : Nat) : cnt q r r = q := by unfold cnt; simp

theorem cnt_lt (q r i : Nat) (h : i < r) : cnt q r i = q + 1 := by unfold cnt; simp [h]

theorem cnt_ge (q r i : Nat) (h : r ≤ i) : cnt q r i = q := by
  unfold cnt; have : ¬ i < r := by omega
  simp [this]

theorem succ_div_mod (m L : Nat) (hL : 0 < L) :
    (m % L + 1 < L → (m + 1) / L = m / L ∧ (m + 1) % L = m % L + 1) ∧
    (m % L + 1 = L → (m + 1) / L = m / L + 1 ∧ (m + 1) % L = 0) := by
  have hm : L * (m / L) + m % L = m := Nat.div_add_mod m L
  have e : m + 1 = L * (m / L) + (m % L + 1) := by omega
  constructor
  · intro h
    rw [e, Nat.mul_add_div hL, Nat.mul_add_mod, Nat.div_eq_of_lt h, Nat.mod_eq_of_lt h]
    exact ⟨rfl, rfl⟩
  · intro h
    rw [e, Nat.mul_add_div hL, Nat.mul_add_mod, h, Nat.div_self hL, Nat.mod_self]
    exact ⟨rfl, rfl⟩

/-- variant `k` of `L` is exercised by the samples `j ≡ k (mod L)`, with payload sample `j / L`: among the first `m` samples
that is `cnt (m / L) (m % L) k` times -/
theorem filterMap_mod {α} (g : Nat → α) (L k : Nat) (hk : k < L) : ∀ m,
    (List.range m).filterMap (fun j => if j % L = k then some (g (j / L)) else none) =
      (List.range (cnt (m / L) (m % L) k)).map g
  | 0 => by simp [cnt]
  | m + 1 => by
    have hL : 0 < L := by omega
    have hr : m % L < L := Nat.mod_lt _ hL
    have hdm := succ_div_mod m L hL
    rw [List.range_succ, List.filterMap_append, filterMap_mod g L k hk m]
    simp only [List.filterMap_cons, List.filterMap_nil]
    by_cases hlt : m % L + 1 < L
    · rw [(hdm.1 hlt).1, (hdm.1 hlt).2]
      by_cases he : m % L = k
      · subst he
        rw [if_pos rfl, cnt_self, cnt_lt _ _ _ (Nat.lt_succ_self _), List.range_succ, List.map_append]; rfl
      · rw [if_neg he, List.append_nil]
        unfold cnt
        by_cases h1 : k < m % L
        · rw [if_pos h1, if_pos (by omega)]
        · rw [if_neg h1, if_neg (by omega)]
    · have heq : m % L + 1 = L := by omega
      rw [(hdm.2 heq).1, (hdm.2 heq).2, cnt_ge _ 0 k (Nat.zero_le _)]
      by_cases he : m % L = k
      · subst he
        rw [if_pos rfl, cnt_self, List.range_succ, List.map_append]; rfl
      · rw [if_neg he, List.append_nil, cnt_lt _ _ _ (by omega)]

/-- what sample `q` of variant `j` (declaration index `idx`) shows variant `k`: its payload, as a sample of the payload type -/
theorem payAt_sampleVariant (en : String) (k idx q : Nat) : ∀ (vs : TyVariants) (j : Nat) (vn : String) (T : Ty),
    (vList vs)[j]? = some (vn, T) →
    payAt k (sampleVariant en vs idx j q) = if idx = k then some (sampleAt T q) else none
  | .nil, _ => by intro _ _ h; simp [vList] at h
  | .unit n r, 0 | .newtype n t r, 0 | .tuple n ts r, 0 | .struct n fs r, 0 => by
    intro vn T h
    simp only [vList, List.getElem?_cons_zero, Option.some.injEq, Prod.mk.injEq] at h
    obtain ⟨rfl, rfl⟩ := h
    simp only [sampleVariant, payAt, sampleAt]
  | .unit _ r, j + 1 | .newtype _ _ r, j + 1 | .tuple _ _ r, j + 1 | .struct _ _ r, j + 1 => by
    intro vn T h
    simp only [vList, List.getElem?_cons_succ] at h
    simp only [sampleVariant]
    exact payAt_sampleVariant en k idx q r j vn T h

/-- the payloads the first `m` canonical samples of an enum show variant `k` -/
theorem payloadsAt_canon (en : String) (vs : TyVariants) (k : Nat) (vn : String) (T : Ty)
    (h : (vList vs)[k]? = some (vn, T)) (m : Nat) :
    payloadsAt k ((List.range m).map (sampleAt (.enum en vs))) =
      (List.range (cnt (m / vs.length) (m % vs.length) k)).map (sampleAt T) := by
  have hk : k < vs.length := by rw [← vList_length]; exact (List.getElem?_eq_some_iff.mp h).1
  have hL : vs.length ≠ 0 := by omega
  rw [← filterMap_mod (sampleAt T) vs.length k hk m, payloadsAt, List.filterMap_map]
  congr 1; funext j
  have hj : j % vs.length < (vList vs).length := by rw [vList_length]; exact Nat.mod_lt _ (by omega)
  obtain ⟨⟨vn', T'⟩, hx⟩ : ∃ x, (vList vs)[j % vs.length]? = some x := ⟨_, List.getElem?_eq_getElem hj⟩
  simp only [Function.comp, sampleAt, hL, if_false, payAt_sampleVariant en k _ _ vs _ vn' T' hx]
  by_cases he : j % vs.length = k
  · rw [he] at hx; rw [h] at hx; cases hx; rfl
  · rw [if_neg he, if_neg he]

theorem cnt_anti (q r : Nat) {i k : Nat} (h : i ≤ k) : cnt q r k ≤ cnt q r i := by
  unfold cnt; split <;> split <;> omega

theorem anyFrom_false (xs : List SVal) : ∀ (len i : Nat), (∀ j, j < len → payloadsAt (i + j) xs = []) →
    anyFrom len i xs = false
  | 0, _, _ => rfl
  | len + 1, i, h => by
    have h0 := h 0 (by omega)
    rw [Nat.add_zero] at h0
    simp only [anyFrom, h0, List.isEmpty_nil, Bool.not_true, Bool.false_or]
    exact anyFrom_false xs len (i + 1) fun j hj => by rw [Nat.add_right_comm, Nat.add_assoc]; exact h (j + 1) (by omega)

/-- the variant vector after `q·L + r` canonical samples is the variant vector of values `xs` that show every variant its
canonical payload samples -/
theorem sV_eq_sVg (o : Options) (p : String) (q r : Nat) (xs : List SVal) : ∀ (vl : List (String × Ty)) (i : Nat),
    (∀ (j : Nat) vn T, vl[j]? = some (vn, T) → payloadsAt (i + j) xs = (List.range (cnt q r (i + j))).map (sampleAt T)) →
    (∀ (j : Nat) vn T, vl[j]? = some (vn, T) → ∀ c, safter o vn (childPath p vn) false c T =
      sstate o vn (childPath p vn) false T ((List.range c).map (sampleAt T))) →
    sV o p q r i vl = sVg o p i vl xs
  | [], _, _, _ => rfl
  | (n, T) :: rest, i, hp, hT => by
    have hp0 := hp 0 n T rfl
    rw [Nat.add_zero] at hp0
    have ih := sV_eq_sVg o p q r xs rest (i + 1)
      (fun j vn T h => by rw [Nat.add_right_comm, Nat.add_assoc]; exact hp (j + 1) vn T h)
      (fun j vn T h => hT (j + 1) vn T h)
    simp only [sV, sVg]
    cases hc : cnt q r i with
    | zero =>
      have : anyFrom (rest.length + 1) i xs = false := by
        refine anyFrom_false xs _ i fun j hj => ?_
        obtain ⟨⟨vn, T'⟩, hx⟩ : ∃ x, ((n, T) :: rest)[j]? = some x :=
          ⟨_, List.getElem?_eq_getElem (by simp only [List.length_cons]; omega)⟩
        have hle : cnt q r (i + j) ≤ cnt q r i := cnt_anti q r (Nat.le_add_right i j)
        rw [hc] at hle
        rw [hp j vn T' hx, Nat.le_zero.mp hle]; rfl
      rw [this]; rfl
    | succ c =>
      rw [hc] at hp0
      have hne : payloadsAt i xs ≠ [] := by rw [hp0]; exact map_range_succ_ne_nil _ c
      simp only [anyFrom_head _ i xs hne, if_true, hp0, ← hT 0 n T rfl, ih]
      exact (slot_ne (map_range_succ_ne_nil _ c) _ _ _).symm

theorem safter_eq_all (o : Options) :
    (∀ (ty : Ty) (n p : String) (nl : Bool) (m : Nat),
      safter o n p nl m ty = sstate o n p nl ty ((List.range m).map (sampleAt ty))) ∧
    (∀ (ts : Tys) (p : String) (i m : Nat),
      safterTys o p m i ts = sstateTys o p i ts ((List.range m).map (samplesTys ts))) ∧
    (∀ (fs : TyFields) (p : String) (m : Nat),
      safterFields o p m fs = sstateFields o p m fs ((List.range m).map (samplesFields fs))) ∧
    (∀ (vs : TyVariants) (p : String) (j : Nat) (vn : String) (T : Ty),
      (vList vs)[j]? = some (vn, T) → ∀ c, safter o vn (childPath p vn) false c T =
        sstate o vn (childPath p vn) false T ((List.range c).map (sampleAt T))) := by
  apply Ty.walk
  case node =>
    intro ty ih n p nl m
    cases m with
    | zero => rw [safter_zero]; exact (sstate_nil o ty n p nl).symm
    | succ m =>
      match ty, ih with
      | .unit, _ | .unitStruct _, _ | .bool, _ | .int _, _ | .f32, _ | .f64, _ | .char, _ | .string, _ | .bytes, _ =>
        simp only [safter, sstate, seen_ne (map_range_succ_ne_nil _ m)]
      | .option t, ih =>
        simp only [safter, sstate, sampleAt, somes,
          filterMap_map_some (fun k => SVal.some (sampleAt t k)) unSome _ (fun _ => rfl),
          isEmpty_of_ne (map_range_succ_ne_nil _ m), Bool.not_false, Bool.or_true]
        exact ih n p true (m + 1)
      | .newtypeStruct sn t, ih =>
        simp only [safter, sstate, sampleAt,
          filterMap_map_some (fun k => SVal.newtypeStruct sn (sampleAt t k)) unNewtype _ (fun _ => rfl)]
        exact ih n p nl (m + 1)
      | .vec t, ih =>
        simp only [Kids] at ih
        simp only [safter, sstate, sampleAt, seen_ne (map_range_succ_ne_nil _ m), elems,
          flatMap_map_single (fun k => SVal.seq (.cons (sampleAt t k) .nil)) seqItems _ (fun _ => rfl), ih]
      | .tuple ts, ih =>
        simp only [Kids] at ih
        simp only [safter, sstate, sampleAt, seen_ne (map_range_succ_ne_nil _ m),
          filterMap_map_some (fun k => SVal.tuple (samplesTys ts k)) tupleItems _ (fun _ => rfl), ih]
      | .tupleStruct sn ts, ih =>
        simp only [Kids] at ih
        simp only [safter, sstate, sampleAt, seen_ne (map_range_succ_ne_nil _ m),
          filterMap_map_some (fun k => SVal.tupleStruct sn (samplesTys ts k)) tupleItems _ (fun _ => rfl), ih]
      | .map kt vt, ih =>
        simp only [Kids] at ih
        simp only [safter, sstate, sampleAt, seen_ne (map_range_succ_ne_nil _ m),
          flatMap_map_single (fun k => SVal.map (.cons (sampleAt kt k) (sampleAt vt k) .nil)) mapKeys _ (fun _ => rfl),
          flatMap_map_single (fun k => SVal.map (.cons (sampleAt kt k) (sampleAt vt k) .nil)) mapVals _ (fun _ => rfl),
          ih.1, ih.2]
      | .struct sn fs, ih =>
        simp only [Kids] at ih
        simp only [safter, sstate, sampleAt, seen_ne (map_range_succ_ne_nil _ m), List.length_map, List.length_range,
          filterMap_map_some (fun k => SVal.record sn (samplesFields fs k)) recFields _ (fun _ => rfl), ih]
      | .enum en vs, ih =>
        simp only [safter, sstate, seen_ne (map_range_succ_ne_nil _ m), safterVariants_eq, sstateVariants_eq]
        rw [sV_eq_sVg o p _ _ _ (vList vs) 0
          (fun j vn T h => by rw [Nat.zero_add]; exact payloadsAt_canon en vs j vn T h (m + 1)) (ih p)]
  case tnil => exact fun _ _ _ => rfl
  case tcons =>
    intro t r iht ihr p i m
    simp only [safterTys, sstateTys, samplesTys,
      filterMap_map_some (fun k => SVals.cons (sampleAt t k) (samplesTys r k)) headV _ (fun _ => rfl),
      filterMap_map_some (fun k => SVals.cons (sampleAt t k) (samplesTys r k)) tailV _ (fun _ => rfl), iht, ihr]
  case fnil => exact fun _ _ => rfl
  case fcons =>
    intro fn t r iht ihr p m
    simp only [safterFields, sstateFields, samplesFields,
      filterMap_map_some (fun k => SFields.cons fn 0 (sampleAt t k) (samplesFields r k)) headF _ (fun _ => rfl),
      filterMap_map_some (fun k => SFields.cons fn 0 (sampleAt t k) (samplesFields r k)) tailF _ (fun _ => rfl), iht, ihr]
  case vnil => intro _ _ _ _ h; simp [vList] at h
  case vcons =>
    intro vs n T r hh ihT ihr p j vn T' h
    rw [hh.vList_eq] at h
    cases j with
    | zero =>
      simp only [List.getElem?_cons_zero, Option.some.injEq, Prod.mk.injEq] at h
      obtain ⟨rfl, rfl⟩ := h
      exact ihT _ _ _
    | succ j => exact ihr p j vn T' (by simpa only [List.getElem?_cons_succ] using h)

theorem safter_eq (o : Options) : ∀ (ty : Ty) (n p : String) (nl : Bool) (m : Nat),
    safter o n p nl m ty = sstate o n p nl ty ((List.range m).map (sampleAt ty)) :=
  (safter_eq_all o).1

theorem safterTys_eq (o : Options) : ∀ (ts : Tys) (p : String) (i m : Nat),
    safterTys o p m i ts = sstateTys o p i ts ((List.range m).map (samplesTys ts)) :=
  (safter_eq_all o).2.1

theorem safterFields_eq (o : Options) : ∀ (fs : TyFields) (p : String) (m : Nat),
    safterFields o p m fs = sstateFields o p m fs ((List.range m).map (samplesFields fs)) :=
  (safter_eq_all o).2.2.1

theorem payload_eq (o : Options) : ∀ (vs : TyVariants) (p : String) (j : Nat) (vn : String) (T : Ty),
    (vList vs)[j]? = some (vn, T) → ∀ c, safter o vn (childPath p vn) false c T =
      sstate o vn (childPath p vn) false T ((List.range c).map (sampleAt T)) :=
  (safter_eq_all o).2.2.2

theorem absorb_step (c : Code) (o : Options) : ∀ (ty : Ty) (n p : String) (nl : Bool) (m : Nat),
    walkable o p ty = true → uniqueNames ty = true → smallEnums ty = true →
    absorb c o (safter o n p nl m ty) (sampleAt ty m) = .ok (safter o n p nl (m + 1) ty) := by
  intro ty n p nl m hw hu hs
  rw [safter_eq o ty n p nl (m + 1), map_range_succ, safter_eq]
  exact absorb_gen c o ty n p nl _ _ hw hu hs (hasTy_sampleAt o ty p m hw)

theorem absorbTuple_step (c : Code) (o : Options) : ∀ (ts : Tys) (p : String) (m i : Nat),
    walkableTys o p i ts = true → uniqueNamesTys ts = true → smallEnumsTys ts = true →
    absorbTuple c o p (safterTys o p m i ts) 0 (samplesTys ts m) = .ok (safterTys o p (m + 1) i ts) := by
  intro ts p m i hw hu hs
  rw [safterTys_eq o ts p i (m + 1), map_range_succ, safterTys_eq]
  exact absorbTuple_gen c o ts p i _ _ hw hu hs (hasTys_samples o ts p i m hw)

theorem absorbFields_next (c : Code) (o : Options) : ∀ (fs : TyFields) (p : String) (m : Nat),
    walkableFields o p fs = true → uniqueNamesFields fs = true → smallEnumsFields fs = true →
    absorbFields c o p (m + 1) (safterFields o p (m + 1) fs) (samplesFields fs (m + 1)) =
      .ok (safterFields o p (m + 2) fs) := by
  intro fs p m hw hu hs
  rw [safterFields_eq o fs p (m + 2), map_range_succ, safterFields_eq]
  exact absorbFields_next_gen c o fs p (m + 1) _ _ hw hu hs (hasFields_samples o fs p (m + 1) hw)

theorem payload_step (c : Code) (o : Options) : ∀ (vs : TyVariants) (p : String), walkableVariants o p vs = true →
    uniqueNamesVariants vs = true → smallEnumsVariants vs = true →
    ∀ (j : Nat) vn T, (vList vs)[j]? = some (vn, T) → ∀ q,
      absorb c o (safter o vn (childPath p vn) false q T) (sampleAt T q) =
        .ok (safter o vn (childPath p vn) false (q + 1) T) := by
  intro vs p hw hu hs j vn T h q
  rw [payload_eq o vs p j vn T h (q + 1), map_range_succ, payload_eq o vs p j vn T h]
  exact payload_gen c o vs p hw hu hs j vn T h _ _ ((hasTy_sampleAt_all o).2.2.2 vs p j vn T hw h q)

theorem sV_congr (o : Options) (p : String) (q r q' r' : Nat) : ∀ (xs : List (String × Ty)) (i : Nat),
    (∀ k, i ≤ k → k < i + xs.length → cnt q r k = cnt q' r' k) → sV o p q r i xs = sV o p q' r' i xs
  | [], _, _ => rfl
  | (n, T) :: rest, i, h => by
    simp only [sV]
    rw [h i (Nat.le_refl _) (by simp only [List.length_cons]; omega)]
    rw [sV_congr o p q r q' r' rest (i + 1) (fun k h1 h2 => h k (by omega) (by simp only [List.length_cons]; omega))]

theorem sV_nil_of_cnt (o : Options) (p : String) (q r i : Nat) (xs : List (String × Ty)) (h : cnt q r i = 0) :
    sV o p q r i xs = .nil := by
  cases xs with
  | nil => rfl
  | cons x rest => obtain ⟨n, T⟩ := x; simp only [sV, h]

theorem sV_ensure (o : Options) (p : String) (q : Nat) : ∀ (xs : List (String × Ty)) (i j : Nat) (vn : String) (T : Ty),
    xs[j]? = some (vn, T) →
    ∃ V', ensureV p (sV o p q (i + j) i xs) vn j = .ok V' ∧
      V'.get? j = some (some (vn, safter o vn (childPath p vn) false q T)) ∧
      V'.set j vn (safter o vn (childPath p vn) false (q + 1) T) = sV o p q (i + j + 1) i xs
  | [], _, _, _, _, h => by simp at h
  | (n, T') :: rest, i, 0, vn, T, h => by
    simp only [List.getElem?_cons_zero, Option.some.injEq, Prod.mk.injEq] at h
    obtain ⟨rfl, rfl⟩ := h
    simp only [Nat.add_zero, sV, cnt_self, cnt_lt q (i + 1) i (by omega)]
    have hrest : sV o p q i (i + 1) rest = sV o p q (i + 1) (i + 1) rest :=
      sV_congr o p q i q (i + 1) rest (i + 1) (fun k h1 _ => by rw [cnt_ge q i k (by omega), cnt_ge q (i + 1) k h1])
    cases q with
    | zero =>
      refine ⟨_, ensureV_nil_zero p n, ?_, ?_⟩
      · simp only [Variants.get?, safter_zero]
      · simp only [Variants.set, sV_nil_of_cnt o p 0 (i + 1) (i + 1) rest (cnt_self 0 (i + 1))]
    | succ c =>
      refine ⟨_, ensureV_present_zero p n _ _, ?_, ?_⟩
      · simp only [Variants.get?]
      · simp only [Variants.set, hrest]
  | (n, T') :: rest, i, j + 1, vn, T, h => by
    simp only [List.getElem?_cons_succ] at h
    obtain ⟨V'', h1, h2, h3⟩ := sV_ensure o p q rest (i + 1) j vn T h
    have e1 : i + (j + 1) = i + 1 + j := by omega
    have c1 : cnt q (i + 1 + j) i = q + 1 := cnt_lt q _ i (by omega)
    have c2 : cnt q (i + 1 + j + 1) i = q + 1 := cnt_lt q _ i (by omega)
    rw [e1]
    simp only [sV, c1, c2, ensureV_cons, h1]
    refine ⟨_, rfl, ?_, ?_⟩
    · simp only [Variants.get?, h2]
    · simp only [Variants.set, h3]

theorem absorbFields_shift (c : Code) (o : Options) (path : String) (seen : Nat) (n0 : String) (l0 : Nat) (t0 : Tracer)
    (k : Nat) : ∀ (fs : TyFields) (rest : TFields), ¬ n0 ∈ fs.names →
    absorbFields c o path seen (.cons n0 l0 t0 rest) (samplesFields fs k) =
      (absorbFields c o path seen rest (samplesFields fs k)).map (TFields.cons n0 l0 t0)
  | .nil, _, _ => by simp only [samplesFields, absorbFields]; rfl
  | .cons key t r, rest, h => by
    simp only [TyFields.names, List.mem_cons, not_or] at h
    simp only [samplesFields, absorbFields, ensure_field_cons path seen n0 l0 t0 rest key h.1, TFields.get?]
    cases (ensure_field path seen rest key).2.get? (ensure_field path seen rest key).1 with
    | none => rfl
    | some ft =>
      simp only
      cases absorb c o ft (sampleAt t k) with
      | error e => rfl
      | ok ft' =>
        simp only [bind, Except.bind, TFields.set]
        exact absorbFields_shift c o path seen n0 l0 t0 k r _ h.2

theorem sampleVariant_absorb (c : Code) (o : Options) (en : String) : ∀ (vs : TyVariants) (j idx k : Nat) (t : Tracer)
    (vn : String) (T : Ty) (n p : String) (nl : Bool) (V : Variants) (vt vt' : Tracer),
    (vList vs)[j]? = some (vn, T) → ensure_union_variant t vn idx = .ok (n, p, nl, V, vt) →
    absorb c o vt (sampleAt T k) = .ok vt' →
    absorb c o t (sampleVariant en vs idx j k) = .ok (.union n p nl (V.set idx vn vt')) := by
  intro vs
  induction vs using VHead.walk with
  | vnil => intro _ _ _ _ _ _ _ _ _ _ _ _ h; simp [vList] at h
  | vcons vs n' T' r hh ih =>
    intro j idx k t vn T n p nl V vt vt' h h1 h2
    rw [hh.vList_eq] at h
    cases j with
    | zero =>
      simp only [List.getElem?_cons_zero, Option.some.injEq, Prod.mk.injEq] at h
      obtain ⟨rfl, rfl⟩ := h
      cases hh with
      | unit | newtype | tuple => exact C06.variant_run c o rfl h1 h2
      | struct _ fs =>
        exact C06.variant_run c o (y := .record en (samplesFields fs k)) rfl h1 (by simp only [sampleAt, absorb] at h2 ⊢; exact h2)
    | succ j =>
      have e : sampleVariant en vs idx (j + 1) k = sampleVariant en r idx j k := by cases hh <;> rfl
      rw [e]
      exact ih j idx k t vn T n p nl V vt vt' (by simpa only [List.getElem?_cons_succ] using h) h1 h2

/-! ### the canonical list `covering ty` is a covering collection, hence `from_samples` on it = `from_type`, enums included. -/

/-- the canonical list `covering ty` is a covering collection: its tracer is `safter (width ty) ty`, which is complete -/
theorem covering_Covers (o : Options) (ty : Ty) (hw : walkable o "$" ty = true) : Covers o ty (covering ty) := by
  refine ⟨fun x hx => ?_, ?_⟩
  · simp only [covering, List.mem_map] at hx
    obtain ⟨k, _, rfl⟩ := hx
    exact hasTy_sampleAt o ty "$" k hw
  · have hpos := width_pos ty
    obtain ⟨w, hwd⟩ : ∃ w, width ty = w + 1 := ⟨width ty - 1, by omega⟩
    have he := erase_safter o ty "$" "$" false w hw (by omega)
    rw [← hwd, safter_eq] at he
    exact covers_of_erase o ty "$" "$" false false _ he

theorem agree_all (c : Code) (o : Options) (ty : Ty) (hw : walkable o "$" ty = true) (hu : uniqueNames ty = true)
    (hs : smallEnums ty = true) (hb : passes ty ≤ o.from_type_budget) :
    fromSamples c o (covering ty) = fromType c o ty :=
  agree_covers c o ty (covering ty) hw hu hs hb (covering_Covers o ty hw)

end SaModel.Lemmas.C08
