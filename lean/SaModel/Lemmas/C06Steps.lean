import SaModel.Lemmas.C06Ensure
import SaModel.Lemmas.C06Fam
/-
C06: `Steps c o t t'` (t' is reached from t by absorbing further samples), the induction over one `absorb` step for a
relation between the node before and after (`absorb_rel`), and the first monotonicity facts: the nullable flag is never
lost, a node never goes back to `Unknown`, name and path stay.
-/
namespace SaModel.Lemmas.C06
open SaModel SaModel.Trace SaModel.Lemmas.C07 SaModel.Props.C07

def Steps (c : Code) (o : Options) (t t' : Tracer) : Prop := ∃ ys, absorbAll c o t ys = .ok t'

theorem Steps.refl (c : Code) (o : Options) (t : Tracer) : Steps c o t t := ⟨[], rfl⟩

theorem Steps.trans {c : Code} {o : Options} {t1 t2 t3 : Tracer} (h1 : Steps c o t1 t2) (h2 : Steps c o t2 t3) :
    Steps c o t1 t3 := by
  obtain ⟨ys, h1⟩ := h1
  obtain ⟨zs, h2⟩ := h2
  exact ⟨ys ++ zs, by rw [absorbAll_append, h1]; exact h2⟩

theorem Steps.single {c : Code} {o : Options} {t t' : Tracer} {y : SVal} (h : absorb c o t y = .ok t') :
    Steps c o t t' := ⟨[y], by rw [absorbAll_cons, h]; rfl⟩

theorem Steps.mark (c : Code) (o : Options) (t : Tracer) : Steps c o t t.mark_nullable :=
  Steps.single (y := .none) (absorb_none c o t)

/-- induction over one `absorb` step for a relation between the node before and after: what the step does to the node it
is applied to, family by family, with the relation already known for the steps the children take -/
theorem absorb_rel (c : Code) (o : Options) (Q : Tracer → Tracer → Prop)
    (hnone : ∀ t, Q t t.mark_nullable)
    (hmark : ∀ t t2, Q t.mark_nullable t2 → Q t t2)
    (hprim : ∀ t ty t2, ty ∈ leafTypes o → t.ensure_primitive o ty = .ok t2 → Q t t2)
    (hlist : ∀ t n p nl i i' vs, (∀ v ∈ vs, ∀ a b, absorb c o a v = .ok b → Q a b) →
      t.ensure_list = .ok (.list n p nl i) → absorbAll c o i vs = .ok i' → Q t (.list n p nl i'))
    (hmap : ∀ t n p nl k v k' v' ks vs, (∀ x ∈ ks, ∀ a b, absorb c o a x = .ok b → Q a b) →
      (∀ x ∈ vs, ∀ a b, absorb c o a x = .ok b → Q a b) → t.ensure_map = .ok (.map n p nl k v) →
      absorbAll c o k ks = .ok k' → absorbAll c o v vs = .ok v' → Q t (.map n p nl k' v'))
    (htuple : ∀ t n p nl ts ts' (vs : List SVal), (∀ v ∈ vs, ∀ a b, absorb c o a v = .ok b → Q a b) →
      t.ensure_tuple c vs.length = .ok (.tuple n p nl ts) → absorbTupleL c o p ts 0 vs = .ok ts' →
      Q t (.tuple n p nl ts'))
    (hstruct : ∀ t mode n p nl fs m s kvs fs', (∀ kv ∈ kvs, ∀ a b, absorb c o a kv.2 = .ok b → Q a b) →
      t.ensure_struct c [] mode = .ok (.struct n p nl fs m s) → absorbKVs c o p s fs kvs = .ok fs' →
      Q t (.struct n p nl (fs'.end_ s) m (s + 1)))
    (hunion : ∀ t n p nl vs0 vs vn idx nm' vt vt' v, Q vt vt' → t.ensure_union [] = .ok (.union n p nl vs0) →
      ensure_variant p vs0 vn idx = .ok vs → vs.get? idx = some (some (nm', vt)) → absorb c o vt v = .ok vt' →
      Q t (.union n p nl (vs.set idx vn vt'))) :
    ∀ y t t2, absorb c o t y = .ok t2 → Q t t2 := by
  refine fam_induct o fun x ih t t2 ha => ?_
  have hr := (absorb_ok_iff t t2 x).mp ha
  cases hf : fam o x <;> rw [hf] at hr ih
  case none => cases hr; exact hnone t
  case wrap m v =>
    cases m
    · exact ih v (List.mem_singleton_self v) _ _ hr
    · exact hmark t t2 (ih v (List.mem_singleton_self v) _ _ hr)
  case leaf ty => exact hprim t ty t2 hr.1 hr.2
  case never => exact hr.elim
  case list items => obtain ⟨n, p, nl, i, i', h1, h2, rfl⟩ := hr; exact hlist t n p nl i i' _ ih h1 h2
  case map ks vs =>
    obtain ⟨n, p, nl, k, v, k', v', h1, h2, h3, rfl⟩ := hr
    exact hmap t n p nl k v k' v' ks vs (fun x hx => ih x (List.mem_append_left _ hx))
      (fun x hx => ih x (List.mem_append_right _ hx)) h1 h2 h3
  case struct mode kvs =>
    obtain ⟨n, p, nl, fs, m, s, fs', h1, h2, rfl⟩ := hr
    exact hstruct t mode n p nl fs m s kvs fs' (fun kv hkv => ih _ (List.mem_map_of_mem hkv)) h1 h2
  case tuple items => obtain ⟨n, p, nl, ts, ts', h1, h2, rfl⟩ := hr; exact htuple t n p nl ts ts' _ ih h1 h2
  case variant idx vn y =>
    obtain ⟨n, p, nl, vs0, vs, nm, vt, vt', h1, h2, h3, h4, rfl⟩ := hr
    exact hunion t n p nl vs0 vs vn idx nm vt vt' y (ih y (List.mem_singleton_self y) _ _ h4) h1 h2 h3 h4

theorem coerce_nullable_mono (o : Options) (pty ty : DataType) (nl : Bool) (st st' : Option Strategy) :
    ∀ a b c, coerce_primitive_type o pty nl st ty st' = .ok (a, b, c) → nl = true → b = true := by
  unfold coerce_primitive_type
  repeat (first
    | (refine ite_prop (P := fun r => ∀ a b c, r = Except.ok (a, b, c) → nl = true → b = true) ?_ ?_
       · intro a b c h; cases h; intro h'; first | exact h' | rfl)
    | (intro a b c h; cases h))

theorem set_nullable_facts (t : Tracer) :
    (t.set_nullable true).nullable = true ∧ isUnknown (t.set_nullable true) = isUnknown t ∧
    (t.set_nullable true).name = t.name ∧ (t.set_nullable true).path = t.path := by
  cases t <;> exact ⟨rfl, rfl, rfl, rfl⟩

theorem ensure_primitive_mono (o : Options) {t t2 : Tracer} {ty : DataType} (h : t.ensure_primitive o ty = .ok t2) :
    (t.nullable = true → t2.nullable = true) ∧ isUnknown t2 = false ∧ t2.name = t.name ∧ t2.path = t.path := by
  rcases ensure_primitive_ok h with ⟨n, p, nl, rfl, rfl⟩ | ⟨n, p, nl, pty, st, a, b, c', rfl, h1, rfl⟩ | ⟨hu, _, _, rfl⟩
  · exact ⟨fun h => by simp only [Tracer.nullable] at h ⊢; rw [h]; rfl, rfl, rfl, rfl⟩
  · exact ⟨fun h => coerce_nullable_mono o pty ty nl st none a b c' h1 h, rfl, rfl, rfl⟩
  · have := set_nullable_facts t
    exact ⟨fun _ => this.1, by rw [Tracer.mark_nullable, this.2.1]; exact hu, this.2.2.1, this.2.2.2⟩

def Keeps (t t2 : Tracer) : Prop :=
  (t.nullable = true → t2.nullable = true) ∧ (isUnknown t = false → isUnknown t2 = false) ∧
  t2.name = t.name ∧ t2.path = t.path

theorem Keeps.refl (t : Tracer) : Keeps t t := ⟨id, id, rfl, rfl⟩

theorem Keeps.trans {t1 t2 t3 : Tracer} (h1 : Keeps t1 t2) (h2 : Keeps t2 t3) : Keeps t1 t3 :=
  ⟨fun h => h2.1 (h1.1 h), fun h => h2.2.1 (h1.2.1 h), by rw [h2.2.2.1, h1.2.2.1], by rw [h2.2.2.2, h1.2.2.2]⟩

theorem Keeps.mark (t : Tracer) : Keeps t t.mark_nullable := by
  have := set_nullable_facts t
  exact ⟨fun _ => this.1, fun h => by rw [Tracer.mark_nullable, this.2.1]; exact h, this.2.2.1, this.2.2.2⟩

theorem absorb_keeps (c : Code) (o : Options) : ∀ y t t2, absorb c o t y = .ok t2 → Keeps t t2 := by
  apply absorb_rel c o Keeps
  · exact Keeps.mark
  · intro t t2 h; exact (Keeps.mark t).trans h
  · intro t ty t2 _ h
    have := ensure_primitive_mono o h
    exact ⟨this.1, fun _ => this.2.1, this.2.2.1, this.2.2.2⟩
  · intro t n p nl i i' vs _ h _
    obtain ⟨_, ⟨_, he⟩ | ⟨_, _, _, _, rfl, he⟩⟩ := ensure_list_ok h <;> cases he <;> exact ⟨id, fun _ => rfl, rfl, rfl⟩
  · intro t n p nl k v k' v' ks vs _ _ h _ _
    obtain ⟨_, ⟨_, he⟩ | ⟨_, _, _, _, _, rfl, he⟩⟩ := ensure_map_ok h <;> cases he <;> exact ⟨id, fun _ => rfl, rfl, rfl⟩
  · intro t n p nl ts ts' vs _ h _
    obtain ⟨_, ⟨_, he⟩ | ⟨_, _, _, _, rfl, he⟩⟩ := ensure_tuple_ok h <;> cases he <;> exact ⟨id, fun _ => rfl, rfl, rfl⟩
  · intro t mode n p nl fs m s kvs fs' _ h _
    obtain ⟨_, ⟨_, he⟩ | ⟨_, _, _, _, _, _, rfl, he⟩⟩ := ensure_struct_ok h <;> cases he <;>
      exact ⟨id, fun _ => rfl, rfl, rfl⟩
  · intro t n p nl vs0 vs vn idx nm' vt vt' v _ h _ _ _
    obtain ⟨_, ⟨_, he⟩ | ⟨_, _, _, _, rfl, he⟩⟩ := ensure_union_ok h <;> cases he <;> exact ⟨id, fun _ => rfl, rfl, rfl⟩

theorem Steps.keeps {c : Code} {o : Options} {t t2 : Tracer} (h : Steps c o t t2) : Keeps t t2 := by
  obtain ⟨ys, h⟩ := h
  induction ys generalizing t with
  | nil => simp [absorbAll] at h; subst h; exact Keeps.refl t
  | cons y ys ih =>
    obtain ⟨t1, ha, h⟩ := absorbAll_cons_ok.mp h
    exact (absorb_keeps c o y t t1 ha).trans (ih h)

end SaModel.Lemmas.C06
