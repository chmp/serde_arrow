import SaModel.Lemmas.C09Type
import SaModel.Spec.SchemaOK
import SaModel.Lemmas.SchemaAll
/-
C09: `build_data_type` maps the term of a printed data type and the printed children back to the type
(`buildDataTypeOfTerm_typeTerm`), hence reads the printed data type back (`buildDataType_showType`, which is
`Props.C09.dsl_roundtrip`).
-/
namespace SaModel.SchemaJson
open SaModel SaModel.Dsl

theorem unionChildren_idsFrom : (us : UFields) → (idx : Nat) → idsFrom idx us = true →
    unionChildren idx (us.toList.map (·.2)) = .ok us
  | .nil, _, _ => rfl
  | .cons i f r, idx, h => by
    simp only [idsFrom, Bool.and_eq_true, decide_eq_true_eq] at h
    obtain ⟨⟨hi, hle⟩, hr⟩ := h
    have := unionChildren_idsFrom r (idx + 1) hr
    have hn : ¬ idx > 127 := by omega
    simp only [UFields.toList, List.map_cons, unionChildren, hn, ↓reduceIte, this, hi, bind, Except.bind, pure, Except.pure]

theorem parseUnit_showUnit (u : TimeUnit) : parseUnit (showUnit u) = .ok u := by
  cases u <;> decide +kernel

theorem parseU8_showInt (p : Nat) (h : p ≤ 255) : parseU8 (showInt (Int.ofNat p)) = .ok p := by
  have := parseIntLit_showInt false 0 255 (Int.ofNat p) (by constructor <;> simp <;> omega) (by intro h; simp at h; omega)
  simp only [parseU8, this, bind, Except.bind, pure, Except.pure]
  simp

theorem buildDataTypeOfTerm_typeTerm (dt : DataType) (h : typeOK dt = true) :
    buildDataTypeOfTerm (typeTerm dt) (childList dt) = .ok dt := by
  cases dt with
  | fixedSizeBinary n =>
    simp only [typeOK, Bool.and_eq_true, decide_eq_true_eq] at h
    have h : -2147483648 ≤ n ∧ n ≤ 2147483647 := ⟨h.1, h.2⟩
    have e : buildDataTypeOfTerm (typeTerm (.fixedSizeBinary n)) (childList (.fixedSizeBinary n)) =
        (do pure (.fixedSizeBinary (← parseI32 (showInt n)))) := by with_unfolding_all rfl
    rw [e, parseI32, parseIntLit_showInt true (-2147483648) 2147483647 n h (fun _ => rfl)]; rfl
  | fixedSizeList f n =>
    simp only [typeOK, Bool.and_eq_true, decide_eq_true_eq] at h
    have h : -2147483648 ≤ n ∧ n ≤ 2147483647 := ⟨h.1, h.2⟩
    have e : buildDataTypeOfTerm (typeTerm (.fixedSizeList f n)) (childList (.fixedSizeList f n)) =
        (do pure (.fixedSizeList f (← parseI32 (showInt n)))) := by with_unfolding_all rfl
    rw [e, parseI32, parseIntLit_showInt true (-2147483648) 2147483647 n h (fun _ => rfl)]; rfl
  | decimal128 p s =>
    simp only [typeOK, Bool.and_eq_true, decide_eq_true_eq] at h
    have hp := parseU8_showInt p h.1.1
    have hs := parseIntLit_showInt true (-128) 127 s ⟨h.1.2, h.2⟩ (fun _ => rfl)
    have e : buildDataTypeOfTerm (typeTerm (.decimal128 p s)) (childList (.decimal128 p s)) =
        (do let p ← parseU8 (showInt (Int.ofNat p)); let s ← parseI8 (showInt s); pure (.decimal128 p s)) := by with_unfolding_all rfl
    rw [e, hp, parseI8, hs]; rfl
  | timestamp u tz =>
    cases tz with
    | none =>
      have e : buildDataTypeOfTerm (typeTerm (.timestamp u none)) (childList (.timestamp u none)) =
          (do let unit ← parseUnit (showUnit u); pure (.timestamp unit none)) := by with_unfolding_all rfl
      rw [e, parseUnit_showUnit]; rfl
    | some tz =>
      have e : buildDataTypeOfTerm (typeTerm (.timestamp u (some tz))) (childList (.timestamp u (some tz))) =
          (do let unit ← parseUnit (showUnit u); pure (.timestamp unit (some (String.ofList tz.toList)))) := by with_unfolding_all rfl
      rw [e, parseUnit_showUnit, String.ofList_toList]; rfl
  | time32 u =>
    have e : buildDataTypeOfTerm (typeTerm (.time32 u)) (childList (.time32 u)) =
        (do pure (.time32 (← parseUnit (showUnit u)))) := by with_unfolding_all rfl
    rw [e, parseUnit_showUnit]; rfl
  | time64 u =>
    have e : buildDataTypeOfTerm (typeTerm (.time64 u)) (childList (.time64 u)) =
        (do pure (.time64 (← parseUnit (showUnit u)))) := by with_unfolding_all rfl
    rw [e, parseUnit_showUnit]; rfl
  | duration u =>
    have e : buildDataTypeOfTerm (typeTerm (.duration u)) (childList (.duration u)) =
        (do pure (.duration (← parseUnit (showUnit u)))) := by with_unfolding_all rfl
    rw [e, parseUnit_showUnit]; rfl
  | struct fs =>
    have e : buildDataTypeOfTerm (typeTerm (.struct fs)) (childList (.struct fs)) =
        .ok (.struct (Fields.ofList fs.toList)) := by with_unfolding_all rfl
    rw [e, Fields.ofList_toList]
  | map e sorted =>
    simp only [typeOK, Bool.not_eq_true'] at h
    subst h
    rfl
  | union us mode =>
    simp only [typeOK, Bool.and_eq_true, decide_eq_true_eq] at h
    obtain ⟨hm, hids⟩ := h
    subst hm
    have e : buildDataTypeOfTerm (typeTerm (.union us .dense)) (childList (.union us .dense)) =
        (do pure (.union (← unionChildren 0 (us.toList.map (·.2))) .dense)) := by with_unfolding_all rfl
    rw [e, unionChildren_idsFrom us 0 hids]; rfl
  | interval _ => simp [typeOK] at h
  | runEndEncoded _ _ => simp [typeOK] at h
  -- the remaining arms compute; on a closed one the kernel runs the string match far faster than the elaborator's `rfl`
  | _ => first | decide +kernel | rfl

theorem typeOK_printable (dt : DataType) (h : typeOK dt = true) : printable dt = true := by
  cases dt <;> first | rfl | simp [typeOK] at h

theorem buildDataType_showType (esc : Char → Bool) (dt : DataType) (h : typeOK dt = true) :
    buildDataType (showType esc dt) (childList dt) = .ok dt := by
  have := fromStr_showType esc dt (typeOK_printable dt h)
  simp only [Term.fromStr] at this
  simp only [buildDataType, buildDataTypeWith, this, bind, Except.bind]
  exact buildDataTypeOfTerm_typeTerm dt h

end SaModel.SchemaJson
