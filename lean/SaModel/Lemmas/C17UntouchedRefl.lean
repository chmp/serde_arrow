import SaModel.Lemmas.C17Untouched
/-
C17, `untouched_ok` — `touchEq` is reflexive: every view agrees with itself on the footprint of every read (the
relation never asks for more than equality of the two views; mutual structural recursion over the array).
-/
namespace SaModel.Props.C17
open SaModel SaModel.Read SaModel.Spec

theorem whenValid_true (v : Option Bits) (i : Nat) : whenValid v i true = true := by
  unfold whenValid; split <;> rfl

theorem slotEq_refl {i len : Nat} {v : Option Bits} {c : Bool} (hc : c = true) : slotEq i len len v v c = true := by
  subst hc; simp [slotEq, ltEq, bitEq, whenValid_true]

theorem rowEq_refl {o : Bool} {i len : Nat} {v : Option Bits} {c : Bool} (hc : c = true) : rowEq o i len len v v c = true := by
  subst hc; cases o <;> simp [rowEq, ltEq, bitEq, whenValid_true]

theorem rangeEqN_refl {f : Nat → Bool} {len s e : Nat} (hf : ∀ j, f j = true) : rangeEqN f true len s e = true := by
  unfold rangeEqN
  split
  · split
    · simp [hf]
    · rfl
  · rfl

theorem rangeEq_refl {f : Nat → Bool} {len : Nat} {s e : Int} (hf : ∀ j, f j = true) : rangeEq f true len s e = true := by
  unfold rangeEq
  split
  · exact rangeEqN_refl hf
  · rfl

mutual
theorem touchEqW_refl : ∀ (a : Arr) (o : Bool) (p : Target) (i : Nat), touchEqW o p a a i = true
  | .null len, o, p, i => by unfold touchEqW; simp [ltEq]
  | .boolean len v vals, o, p, i => by unfold touchEqW; exact slotEq_refl (by simp)
  | .prim ty v vals, o, p, i => by unfold touchEqW; simp [slotEq_refl]
  | .time ty u v vals, o, p, i => by unfold touchEqW; simp [slotEq_refl]
  | .timestamp u tz v vals, o, p, i => by unfold touchEqW; simp [slotEq_refl]
  | .decimal128 pr s v vals, o, p, i => by unfold touchEqW; simp [slotEq_refl]
  | .bytes ty v offs data, o, p, i => by unfold touchEqW; simp [slotEq_refl]
  | .bytesView ty v views buffers, o, p, i => by unfold touchEqW; simp [slotEq_refl]
  | .fixedSizeBinary n v data, o, p, i => by
    unfold touchEqW
    simp only [decide_true, Bool.true_and]
    cases fsbLen n data with
    | none => rfl
    | some len => exact slotEq_refl (by simp)
  | .struct len v fs, o, p, i => by
    unfold touchEqW
    refine rowEq_refl ?_
    split
    · exact namedEq_refl _ fs i
    · exact tupleEq_refl _ fs i
    · exact tupleEq_refl _ fs i
    · exact allEq_refl _ fs i
    · exact allEq_refl _ fs i
    · exact allEq_refl _ fs i
    · rfl
  | .list l v offs fm el, o, p, i => by
    unfold touchEqW
    refine rowEq_refl ?_
    cases readsList p with
    | false => rfl
    | true =>
      simp only [Bool.not_true, Bool.false_or, decide_true, Bool.true_and]
      split
      · exact rangeEq_refl (fun j => touchEqW_refl el _ _ j)
      · rfl
  | .fixedSizeList len v n fm el, o, p, i => by
    unfold touchEqW
    simp only [decide_true, Bool.true_and]
    refine rowEq_refl ?_
    split
    · split
      · exact rangeEqN_refl (fun j => touchEqW_refl el _ _ j)
      · rfl
    · rfl
  | .map v offs mm ks vs, o, p, i => by
    unfold touchEqW
    refine rowEq_refl ?_
    split
    · simp only [decide_true, Bool.true_and, Bool.and_eq_true]
      exact ⟨rangeEq_refl (fun j => touchEqW_refl ks _ _ j), rangeEq_refl (fun j => touchEqW_refl vs _ _ j)⟩
    · rfl
  | .dictionary ks vs, o, p, i => by
    have hk := touchEqW_refl ks false p i
    have hv := fun j => touchEqW_refl vs false p j
    unfold touchEqW
    simp only [beq_self_eq_true, Bool.true_and]
    split
    · simp only [Bool.and_eq_true]
      refine ⟨hk, ?_⟩
      split
      · split
        · split
          · exact hv _
          · rfl
        · rfl
      · rfl
    · rfl
  | .union types offs fs, o, p, i => by
    unfold touchEqW
    simp only [decide_true, Bool.true_and]
    split
    · split
      · split
        · exact variantEq_refl _ fs _ _
        · rfl
      · rfl
    · rfl
termination_by structural a => a
theorem namedEq_refl : ∀ (tfs : TFields) (fs : ArrFields) (i : Nat), namedEq tfs fs fs i = true
  | _, .nil, _ => by unfold namedEq; rfl
  | tfs, .cons fm c r, i => by
    unfold namedEq
    simp only [decide_true, Bool.true_and, Bool.and_eq_true]
    refine ⟨?_, namedEq_refl tfs r i⟩
    split
    · exact touchEqW_refl c _ _ i
    · exact touchEqW_refl c _ _ i
termination_by structural _ fs _ => fs
theorem tupleEq_refl : ∀ (ts : Targets) (fs : ArrFields) (i : Nat), tupleEq ts fs fs i = true
  | .nil, _, _ => by unfold tupleEq; rfl
  | .cons _ _, .nil, _ => by unfold tupleEq; rfl
  | .cons t ts, .cons fm c r, i => by
    unfold tupleEq
    simp only [Bool.and_eq_true]
    exact ⟨touchEqW_refl c _ _ i, tupleEq_refl ts r i⟩
termination_by structural _ fs _ => fs
theorem allEq_refl : ∀ (t : Target) (fs : ArrFields) (i : Nat), allEq t fs fs i = true
  | _, .nil, _ => by unfold allEq; rfl
  | t, .cons fm c r, i => by
    unfold allEq
    simp only [decide_true, Bool.true_and, Bool.and_eq_true]
    exact ⟨touchEqW_refl c _ _ i, allEq_refl t r i⟩
termination_by structural _ fs _ => fs
theorem variantEq_refl : ∀ (vt : String → Option Target) (fs : ArrUFields) (k j : Nat), variantEq vt fs fs k j = true
  | _, .nil, _, _ => by unfold variantEq; rfl
  | vt, .cons _ fm c _, 0, j => by
    unfold variantEq
    simp only [decide_true, Bool.true_and]
    split
    · exact touchEqW_refl c _ _ j
    · rfl
  | vt, .cons _ _ _ r, k + 1, j => by
    unfold variantEq
    exact variantEq_refl vt r k j
termination_by structural _ fs _ _ => fs
end

end SaModel.Props.C17
