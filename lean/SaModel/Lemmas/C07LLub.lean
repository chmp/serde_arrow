import SaModel.Lemmas.C07LOrder
/-
C07, least-upper-bound argument — the law as a predicate on samples (`Lub`: a successful `absorb t x` is above `t`, is
below every result of absorbing `x` into a tracer above `t`, and every tracer above it absorbs `x` without moving), its
lift to sample lists, and the cases leaf / `None` / `Some` / newtype / never accepted.
-/
namespace SaModel.Lemmas.C07
open SaModel SaModel.Trace SaModel.Props.C07

/-- `absorb t x = a` is the least tracer above `t` that has absorbed `x` -/
def Lub (o : Options) (x : SVal) : Prop :=
  ∀ t u a, WF o t → WF o u → TLe o t u → absorb .fixed o t x = .ok a →
    TLe o t a ∧ (∀ b, absorb .fixed o u x = .ok b → TLe o a b) ∧
      (TLe o a u → ∃ b, absorb .fixed o u x = .ok b ∧ TLe o b u)

/-- the same for a list of samples absorbed one after the other -/
def LubL (o : Options) (xs : List SVal) : Prop :=
  ∀ t u a, WF o t → WF o u → TLe o t u → absorbAll .fixed o t xs = .ok a →
    TLe o t a ∧ (∀ b, absorbAll .fixed o u xs = .ok b → TLe o a b) ∧
      (TLe o a u → ∃ b, absorbAll .fixed o u xs = .ok b ∧ TLe o b u)

theorem lubL {o : Options} : ∀ {xs : List SVal}, (∀ x ∈ xs, Lub o x) → LubL o xs
  | [], _ => by
    intro t u a wt wu htu h
    cases h
    exact ⟨TLe_refl o _ wt, fun b hb => by cases hb; exact htu, fun _ => ⟨u, rfl, TLe_refl o _ wu⟩⟩
  | x :: xs, hl => by
    intro t u a wt wu htu h
    obtain ⟨m, h1, h2⟩ := absorbAll_cons_ok h
    have wm := absorb_wf o wt h1
    have wa := absorbAll_wf o wm h2
    obtain ⟨L1, L2, L3⟩ := hl x (by simp) t u m wt wu htu h1
    have ih := lubL (xs := xs) (fun y hy => hl y (by simp [hy]))
    obtain ⟨I1, _, _⟩ := ih m m a wm wm (TLe_refl o _ wm) h2
    refine ⟨TLe_trans L1 wt wm wa I1, ?_, ?_⟩
    · intro b hb
      obtain ⟨m', h3, h4⟩ := absorbAll_cons_ok hb
      exact (ih m m' a wm (absorb_wf o wu h3) (L2 m' h3) h2).2.1 b h4
    · intro hau
      obtain ⟨m', h3, h4⟩ := L3 (TLe_trans I1 wm wa wu hau)
      have wm' := absorb_wf o wu h3
      have hum' : TLe o u m' := (hl x (by simp) u u m' wu wu (TLe_refl o _ wu) h3).1
      obtain ⟨b, h5, h6⟩ := (ih m m' a wm wm' (L2 m' h3) h2).2.2 (TLe_trans hau wa wu wm' hum')
      exact ⟨b, absorbAll_cons_mk h3 h5, TLe_trans h6 (absorbAll_wf o wm' h5) wm' wu h4⟩

theorem nullable_of_mark_le {o : Options} {t u : Tracer} (h : TLe o t.mark_nullable u) : u.mark_nullable = u :=
  mark_of_nullable ((TLe_top h).2.2 (nullable_mark t))

theorem lub_none (o : Options) : Lub o .none := by
  intro t u a wt wu htu h
  simp only [absorb] at h ⊢
  cases h
  refine ⟨TLe_mark_self wt, fun b hb => by cases hb; exact TLe_mark htu wt wu, fun hau => ?_⟩
  exact ⟨_, rfl, by rw [nullable_of_mark_le hau]; exact TLe_refl o _ wu⟩

theorem lub_some {o : Options} {v : SVal} (hv : Lub o v) : Lub o (.some v) := by
  intro t u a wt wu htu h
  simp only [absorb] at h ⊢
  obtain ⟨L1, L2, L3⟩ := hv _ _ a (WF_mark wt) (WF_mark wu) (TLe_mark htu wt wu) h
  have wa := absorb_wf o (WF_mark wt) h
  refine ⟨TLe_trans (TLe_mark_self wt) wt (WF_mark wt) wa L1, L2, fun hau => ?_⟩
  have e := nullable_of_mark_le (TLe_trans L1 (WF_mark wt) wa wu hau)
  rw [e] at L3 ⊢
  exact L3 hau

theorem lub_newtype {o : Options} {n : String} {v : SVal} (hv : Lub o v) : Lub o (.newtypeStruct n v) := by
  intro t u a wt wu htu h
  simp only [absorb] at h ⊢
  exact hv t u a wt wu htu h

theorem Never.lub {o : Options} {x : SVal} (h : Never o x) : Lub o x := fun t _ a _ _ _ ha => absurd ha (h t a)

theorem embed_nullable (n p : String) (s : LeafSt) : (LeafSt.embed n p s).nullable = s.2 := by
  obtain ⟨ty, nl⟩ := s
  cases ty <;> rfl

theorem embed_isLeaf (n p : String) (s : LeafSt) : Tracer.isLeaf (LeafSt.embed n p s) = true := by
  obtain ⟨ty, nl⟩ := s
  cases ty <;> rfl

theorem sle_none_r {o : Options} {ty : DataType} {nl nl' : Bool} : sle o (some ty, nl) (none, nl') = false := by
  unfold sle
  simp [act]

theorem TLe_embed {o : Options} {n p : String} {s s' : LeafSt} (h : sle o s s' = true) :
    TLe o (LeafSt.embed n p s) (LeafSt.embed n p s') := by
  obtain ⟨ty, nl⟩ := s
  cases ty with
  | none =>
    refine .unk ⟨(embed_name n p s').1, (embed_name n p s').2, ?_⟩ ?_
    · rw [embed_nullable]; exact sle_flag h
    · obtain ⟨ty', nl'⟩ := s'
      cases ty' <;> constructor
  | some ty =>
    obtain ⟨ty', nl'⟩ := s'
    cases ty' with
    | none => rw [sle_none_r] at h; cases h
    | some ty' => exact .prim h

theorem TLe_embed_inv {o : Options} {n p n' p' : String} {s s' : LeafSt}
    (h : TLe o (LeafSt.embed n p s) (LeafSt.embed n' p' s')) : n' = n ∧ p' = p ∧ sle o s s' = true := by
  have ht := TLe_top h
  unfold ULe at ht
  rw [(embed_name n p s).1, (embed_name n p s).2, (embed_name n' p' s').1, (embed_name n' p' s').2] at ht
  refine ⟨ht.1, ht.2.1, ?_⟩
  obtain ⟨ty, nl⟩ := s
  cases ty with
  | none =>
    have := ht.2.2
    rw [embed_nullable, embed_nullable] at this
    unfold sle
    cases nl with
    | false => simp
    | true => simp [this rfl]
  | some ty =>
    obtain ⟨ty', nl'⟩ := s'
    cases ty' with
    | none =>
      simp only [LeafSt.embed] at h
      cases h with
      | null hl _ _ => simp [Tracer.isLeaf] at hl
    | some ty' =>
      simp only [LeafSt.embed] at h
      cases h with
      | prim hs => exact hs
      | null hl _ _ => simp [Tracer.isLeaf] at hl

/-- the node a null leaf sample leaves behind -/
def nullify : Tracer → Tracer
  | .unknown n p _ => .primitive n p true .null none
  | t => t.mark_nullable

theorem nullify_container {t : Tracer} (h : Tracer.isLeaf t = false) : nullify t = t.mark_nullable := by
  cases t <;> first | rfl | (simp [Tracer.isLeaf] at h)

theorem absorb_null_leaf {o : Options} {x : SVal} (hx : leafTypeOf o x = some .null) {t : Tracer} (hw : WF o t) :
    absorb .fixed o t x = .ok (nullify t) := by
  rw [absorb_prim .fixed o t hx]
  cases t
  case unknown => simp [Tracer.ensure_primitive, Tracer.ensure_primitive_with_strategy, nullify, isNull]
  case primitive n p nl ty st =>
    rw [WF] at hw
    obtain ⟨rfl, hm⟩ := hw
    have hm' := (mem_leafStates.mp hm).2
    simp only [Tracer.ensure_primitive, Tracer.ensure_primitive_with_strategy, coerce_primitive_type, nullify,
      Tracer.mark_nullable, Tracer.set_nullable]
    by_cases h : ty = .null
    · subst h; rw [hm' rfl]; rfl
    · simp [h, bind, Except.bind]
  all_goals rfl

theorem act_null {o : Options} {s s' : LeafSt} {ty : DataType} (hs : s ∈ leafStates o) (hty : ty ∈ leafTypes o)
    (h : act o s ty = .ok s') (hn : s'.1 = some .null) : ty = .null := by
  have hi := coerce_idem o hs hty h
  obtain ⟨t', b⟩ := s'
  simp only at hn
  subst hn
  simp only [act, coerce_primitive_type] at hi
  by_cases h0 : DataType.null = ty
  · exact h0.symm
  · simp [h0] at hi
    exact hi.1

theorem act_null_id (o : Options) (ty : DataType) : act o (some ty, true) .null = .ok (some ty, true) := by
  simp only [act, coerce_primitive_type]
  by_cases h : ty = .null
  · subst h; simp
  · simp [h]

theorem nullify_nullable (t : Tracer) : (nullify t).nullable = true := by cases t <;> rfl

/-- a null leaf sample (`unit`, unit struct) -/
theorem lub_null_leaf {o : Options} {x : SVal} (hx : leafTypeOf o x = some .null) : Lub o x := by
  intro t u a wt wu htu h
  rw [absorb_null_leaf hx wt] at h
  cases h
  refine ⟨?_, ?_, ?_⟩
  · cases t
    case unknown n p nl => exact .unk ⟨rfl, rfl, fun _ => rfl⟩ .primitive
    all_goals exact TLe_mark_self wt
  · intro b hb
    rw [absorb_null_leaf hx wu] at hb
    cases hb
    cases htu with
    | @unk n p nl u hu hc =>
      cases hl : Tracer.isLeaf u with
      | false =>
        rw [nullify_container hl]
        exact .null (by rw [isLeaf_mark]; exact hl) (ULe_mark hu) (Canon_mark hc)
      | true =>
        cases u <;> simp [Tracer.isLeaf] at hl
        case unknown n' p' nl' =>
          simp only [ULe, Tracer.name, Tracer.path] at hu
          obtain ⟨rfl, rfl, _⟩ := hu
          exact .prim (sle_refl o (mem_leafStates.mpr ⟨by simp [leafTypes], fun _ => rfl⟩))
        case primitive n' p' nl' ty' st' =>
          simp only [ULe, Tracer.name, Tracer.path] at hu
          obtain ⟨rfl, rfl, _⟩ := hu
          rw [WF] at wu
          obtain ⟨rfl, _⟩ := wu
          refine .prim ?_
          unfold sle
          simp [act_null_id]
    | prim hs => exact TLe_mark (.prim hs) wt wu
    | null hl hu hc => rw [nullify_container hl]; exact TLe_mark (.null hl hu hc) wt wu
    | list h1 h2 => exact TLe_mark (.list h1 h2) wt wu
    | map h1 h2 h3 => exact TLe_mark (.map h1 h2 h3) wt wu
    | struct h1 h2 h3 h4 h5 h6 => exact TLe_mark (.struct h1 h2 h3 h4 h5 h6) wt wu
    | tuple h1 h2 h3 h4 => exact TLe_mark (.tuple h1 h2 h3 h4) wt wu
    | union h1 h2 h3 h4 h5 => exact TLe_mark (.union h1 h2 h3 h4 h5) wt wu
  · intro hau
    rw [absorb_null_leaf hx wu]
    refine ⟨_, rfl, ?_⟩
    have hn := (TLe_top hau).2.2 (nullify_nullable t)
    cases u
    case unknown n' p' nl' =>
      have := TLe_leaf_r hau rfl
      cases t <;> simp only [nullify, Tracer.mark_nullable, Tracer.set_nullable] at hau <;> cases hau
      all_goals (rename_i hl _ _; simp [Tracer.isLeaf] at hl)
    all_goals (
      simp only [nullify]
      rw [mark_of_nullable hn]
      exact TLe_refl o _ wu)

theorem lub_prim_leaf {o : Options} {x : SVal} {ty : DataType} (hx : leafTypeOf o x = some ty) (hty : ty ≠ .null) :
    Lub o x := by
  intro t u a wt wu htu h
  have hmem := leafTypeOf_mem o hx
  have hnn : isNull ty = false := by cases ty <;> simp_all [isNull]
  rw [absorb_prim .fixed o t hx] at h
  rw [absorb_prim .fixed o u hx]
  cases hl : Tracer.isLeaf t with
  | false =>
    rw [Tracer.ensure_primitive, ensure_prim_container o hl] at h
    simp [hnn] at h
    cases h
  | true =>
    obtain ⟨s, hs, e⟩ := WF_leaf_embed wt hl
    rw [e] at h htu ⊢
    rw [ensure_primitive_embed] at h
    cases h1 : act o s ty with
    | error e' => rw [h1] at h; cases h
    | ok s' =>
      rw [h1] at h; cases h
      have hs' := (step_facts o hs hmem h1).1
      refine ⟨TLe_embed (step_sle o hs hmem h1), ?_, ?_⟩
      · intro b hb
        cases hlu : Tracer.isLeaf u with
        | false =>
          rw [Tracer.ensure_primitive, ensure_prim_container o hlu] at hb
          simp [hnn] at hb
          cases hb
        | true =>
          obtain ⟨su, hsu, eu⟩ := WF_leaf_embed wu hlu
          rw [eu] at hb htu
          obtain ⟨en, ep, hle⟩ := TLe_embed_inv htu
          rw [ensure_primitive_embed] at hb
          cases h2 : act o su ty with
          | error e' => rw [h2] at hb; cases hb
          | ok su' =>
            rw [h2] at hb; cases hb
            rw [en, ep]
            exact TLe_embed (step_mono o hs hsu hmem hle h1 h2)
      · intro hau
        cases hlu : Tracer.isLeaf u with
        | false =>
          exfalso
          obtain ⟨ty', nl'⟩ := s'
          cases ty' with
          | none => cases s with | mk a b => cases a <;> simp [act] at h1 <;> (split at h1 <;> cases h1)
          | some ty' =>
            simp only [LeafSt.embed] at hau
            cases hau with
            | prim _ => simp [Tracer.isLeaf] at hlu
            | null _ _ _ => exact hty (act_null hs hmem h1 rfl)
        | true =>
          obtain ⟨su, hsu, eu⟩ := WF_leaf_embed wu hlu
          rw [eu] at hau ⊢
          obtain ⟨en, ep, hle⟩ := TLe_embed_inv hau
          rw [ensure_primitive_embed, step_up o hs hsu hmem h1 hle]
          exact ⟨_, rfl, TLe_refl o _ (by rw [← eu]; exact wu)⟩

theorem lub_leaf {o : Options} {x : SVal} {ty : DataType} (hx : leafTypeOf o x = some ty) : Lub o x := by
  by_cases h : ty = .null
  · subst h; exact lub_null_leaf hx
  · exact lub_prim_leaf hx h

end SaModel.Lemmas.C07
