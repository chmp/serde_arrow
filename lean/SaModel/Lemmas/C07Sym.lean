import SaModel.Lemmas.C07Gen
/-
C07, translation obligation, symbolic form.  Neither the interpreter of the generated arms nor the hand-written model
looks INSIDE the two data types: patterns see the constructors, guards see whether the types are equal, whether the
strategies are equal and whether the time zones differ, results copy `prev_ty` / `curr_ty` or name a constant.  So both
factor through the finite observation `Abs`, and agreement on all observations (a finite table) is agreement on ALL
inputs.
-/
namespace SaModel.Lemmas.C07Gen
open SaModel SaModel.Trace SaModel.Trace.CoerceTable

/-- what patterns and guards can observe of `(prev, curr)` -/
structure Abs where
  cp : Ctor
  cc : Ctor
  tyEq : Bool
  stEq : Bool
  tzNe : Bool
deriving Repr, DecidableEq

def abs (p : Prev) (c : Curr) : Abs :=
  { cp := p.1.ctorOf, cc := c.1.ctorOf, tyEq := decide (p.1 = c.1), stEq := decide (p.2.2 = c.2), tzNe := tzOf p.1 != tzOf c.1 }

def patMatches : TyPat → Ctor → Bool
  | .any, _ => true
  | .ctors cs, k => Ctor.elem k cs

def atomHolds (o : Options) (a : Abs) : GuardAtom → Bool
  | .opt f => f.get o
  | .tyEq => a.tyEq
  | .stEq => a.stEq
  | .tzNe => a.tzNe

/-- the result descriptor of the first arm that fires on an observation (the guard is looked at first: it is the
cheaper test, and the conjunction of total Boolean tests does not depend on their order) -/
def selectArm : List Arm → Options → Abs → Option Res
  | [], _, _ => none
  | x :: rest, o, a =>
    if x.guard.all (atomHolds o a) && (patMatches x.prev a.cp && patMatches x.curr a.cc) then some x.res
    else selectArm rest o a

theorem evalArms_select (o : Options) (p : Prev) (c : Curr) :
    (as : List Arm) → evalArms as o p c =
      match selectArm as o (abs p c) with
      | some r => r.eval o p c
      | none => SaModel.panic "coerce table: no arm matches"
  | [] => rfl
  | x :: rest => by
    have hg : x.guard.all (·.holds o p c) = x.guard.all (atomHolds o (abs p c)) := by
      first | rfl | (congr 1; funext g; cases g <;> rfl)
    have hf : x.fires o p c = (x.guard.all (atomHolds o (abs p c)) && (patMatches x.prev (abs p c).cp && patMatches x.curr (abs p c).cc)) := by
      unfold Arm.fires; rw [hg, Bool.and_comm]
      cases x.prev <;> cases x.curr <;> rfl
    simp only [evalArms, selectArm, ← hf]
    split
    · rfl
    · exact evalArms_select o p c rest

/-! the classes of constructors the model distinguishes, as ranges of `Ctor.toNat` (see `Ctor.toNat` for why not as
`match` with a wild card) -/
def cUnsigned (k : Ctor) : Bool := Nat.ble 6 k.toNat && Nat.ble k.toNat 9
def cSigned (k : Ctor) : Bool := Nat.ble 2 k.toNat && Nat.ble k.toNat 5
def cFloat (k : Ctor) : Bool := Nat.ble 11 k.toNat && Nat.ble k.toNat 12
def cInt (k : Ctor) : Bool := cSigned k || cUnsigned k
def cToStr (k : Ctor) : Bool := Ctor.beq k .Boolean || cInt k || cFloat k

/-- `Trace.coerce_primitive_type`, condition for condition, on an observation (proved equal to it below) -/
def coerceSym (o : Options) (a : Abs) : Res :=
  if a.tyEq && a.stEq then .ok .curr .prev .curr
  else if Ctor.beq a.cp .Null then .ok .curr (.const true) .curr
  else if Ctor.beq a.cc .Null then .ok .prev (.const true) .prev
  else if cUnsigned a.cp && cUnsigned a.cc && o.coerce_numbers then .ok (.ctor .UInt64) .prev .none
  else if cSigned a.cp && cSigned a.cc && o.coerce_numbers then .ok (.ctor .Int64) .prev .none
  else if cSigned a.cp && cUnsigned a.cc && o.coerce_numbers then .ok (.ctor .Int64) .prev .none
  else if cUnsigned a.cp && cSigned a.cc && o.coerce_numbers then .ok (.ctor .Int64) .prev .none
  else if cFloat a.cp && cFloat a.cc && o.coerce_numbers then .ok (.ctor .Float64) .prev .none
  else if cInt a.cp && cFloat a.cc && o.coerce_numbers then .ok (.ctor .Float64) .prev .none
  else if cFloat a.cp && cInt a.cc && o.coerce_numbers then .ok (.ctor .Float64) .prev .none
  else if Ctor.beq a.cp .LargeUtf8 && cToStr a.cc && o.allow_to_string then .ok (.ctor .LargeUtf8) .prev .none
  else if cToStr a.cp && Ctor.beq a.cc .LargeUtf8 && o.allow_to_string then .ok (.ctor .LargeUtf8) .prev .none
  else if Ctor.beq a.cp .Utf8 && cToStr a.cc && o.allow_to_string then .ok (.ctor .Utf8) .prev .none
  else if cToStr a.cp && Ctor.beq a.cc .Utf8 && o.allow_to_string then .ok (.ctor .Utf8) .prev .none
  else if Ctor.beq a.cp .Timestamp && Ctor.beq a.cc .LargeUtf8 then .ok (.ctor .LargeUtf8) .prev .none
  else if Ctor.beq a.cp .LargeUtf8 && Ctor.beq a.cc .Timestamp then .ok (.ctor .LargeUtf8) .prev .none
  else if Ctor.beq a.cp .Timestamp && Ctor.beq a.cc .Utf8 then .ok (.ctor .Utf8) .prev .none
  else if Ctor.beq a.cp .Utf8 && Ctor.beq a.cc .Timestamp then .ok (.ctor .Utf8) .prev .none
  else if Ctor.beq a.cp .Timestamp && Ctor.beq a.cc .Timestamp && a.tzNe then .ok .stringType .prev .none
  else .fail

theorem isUnsigned_c (d : DataType) : isUnsigned d = cUnsigned d.ctorOf := by cases d <;> rfl
theorem isSigned_c (d : DataType) : isSigned d = cSigned d.ctorOf := by cases d <;> rfl
theorem isFloat_c (d : DataType) : isFloat3264 d = cFloat d.ctorOf := by cases d <;> rfl
theorem isInt_c (d : DataType) : isInt d = cInt d.ctorOf := by cases d <;> rfl
theorem isToStr_c (d : DataType) : isToStringSource d = cToStr d.ctorOf := by cases d <;> rfl
theorem isLargeUtf8_c (d : DataType) : isLargeUtf8 d = Ctor.beq d.ctorOf .LargeUtf8 := by cases d <;> rfl
theorem isUtf8_c (d : DataType) : isUtf8 d = Ctor.beq d.ctorOf .Utf8 := by cases d <;> rfl
theorem isTimestamp_c (d : DataType) : isTimestamp d = Ctor.beq d.ctorOf .Timestamp := by cases d <;> rfl
theorem eq_null_c (d : DataType) : (d = .null) = (Ctor.beq d.ctorOf .Null = true) := by cases d <;> simp [DataType.ctorOf, Ctor.beq, Ctor.toNat]

/-- **the model factors through the observation**, for all inputs -/
theorem coerce_eq_sym (o : Options) (p : DataType) (nl : Bool) (ps : Option Strategy) (c : DataType) (cs : Option Strategy) :
    coerce_primitive_type o p nl ps c cs = (coerceSym o (abs (p, nl, ps) (c, cs))).eval o (p, nl, ps) (c, cs) := by
  unfold coerce_primitive_type coerceSym abs
  simp only [isUnsigned_c, isSigned_c, isFloat_c, isInt_c, isToStr_c, isLargeUtf8_c, isUtf8_c, isTimestamp_c, eq_null_c,
    apply_ite (Res.eval o (p, nl, ps) (c, cs)), Bool.and_eq_true, decide_eq_true_eq]
  simp only [Res.eval, Ctor.unit?]
  rfl

/-- equality of result descriptors, fast in the kernel (`Ctor.beq`) -/
def resEq : Res → Res → Bool
  | .fail, .fail => true
  | .ok t1 n1 s1, .ok t2 n2 s2 =>
    (match t1, t2 with
      | .prev, .prev => true
      | .curr, .curr => true
      | .stringType, .stringType => true
      | .ctor a, .ctor b => Ctor.beq a b
      | _, _ => false) &&
    (match n1, n2 with
      | .prev, .prev => true
      | .const a, .const b => a == b
      | _, _ => false) &&
    (match s1, s2 with
      | .prev, .prev => true
      | .curr, .curr => true
      | .none, .none => true
      | _, _ => false)
  | _, _ => false

theorem resEq_sound {a b : Res} (h : resEq a b = true) : a = b := by
  cases a with
  | fail => cases b <;> simp [resEq] at h ⊢
  | ok t1 n1 s1 =>
    cases b with
    | fail => simp [resEq] at h
    | ok t2 n2 s2 =>
      simp only [resEq, Bool.and_eq_true] at h
      obtain ⟨⟨ht, hn⟩, hs⟩ := h
      have e1 : t1 = t2 := by
        cases t1 <;> cases t2 <;> simp at ht ⊢
        exact Ctor.beq_iff.mp ht
      have e2 : n1 = n2 := by
        cases n1 <;> cases n2 <;> simp at hn ⊢
        exact hn
      have e3 : s1 = s2 := by
        cases s1 <;> cases s2 <;> simp at hs ⊢
      rw [e1, e2, e3]

/-- the observations of the two guard atoms about the data types that can occur together with a pair of constructors:
equal types have equal constructors and equal time zones; `tzOf` is `none` off `Timestamp` -/
def tyObs (cp cc : Ctor) : List (Bool × Bool) :=
  if Ctor.beq cp cc then (if Ctor.beq cp .Timestamp then [(true, false), (false, false), (false, true)] else [(true, false), (false, false)])
  else (if Ctor.beq cp .Timestamp || Ctor.beq cc .Timestamp then [(false, false), (false, true)] else [(false, false)])

/-- every observation that `abs` can return (`abs_mem`) -/
def allAbs : List Abs :=
  Ctor.all.flatMap fun cp => Ctor.all.flatMap fun cc => [false, true].flatMap fun s =>
    (tyObs cp cc).map fun tz => { cp := cp, cc := cc, tyEq := tz.1, stEq := s, tzNe := tz.2 }

theorem tzOf_none {d : DataType} (h : Ctor.beq d.ctorOf .Timestamp = false) : tzOf d = none := by
  cases d <;> first | rfl | (simp [DataType.ctorOf, Ctor.beq, Ctor.toNat] at h)

theorem abs_mem (p : Prev) (c : Curr) : abs p c ∈ allAbs := by
  simp only [allAbs, List.mem_flatMap, List.mem_map]
  refine ⟨p.1.ctorOf, Ctor.mem_all _, c.1.ctorOf, Ctor.mem_all _, decide (p.2.2 = c.2), by cases decide (p.2.2 = c.2) <;> simp,
    (decide (p.1 = c.1), tzOf p.1 != tzOf c.1), ?_, rfl⟩
  unfold tyObs
  by_cases he : p.1 = c.1
  · have h1 : Ctor.beq p.1.ctorOf c.1.ctorOf = true := Ctor.beq_iff.mpr (by rw [he])
    have h2 : (tzOf p.1 != tzOf c.1) = false := by rw [he]; simp
    rw [h1, h2, decide_eq_true he]
    cases Ctor.beq p.1.ctorOf .Timestamp <;> simp
  · rw [decide_eq_false he]
    cases h1 : Ctor.beq p.1.ctorOf c.1.ctorOf
    · cases hp : Ctor.beq p.1.ctorOf .Timestamp <;> cases hc : Ctor.beq c.1.ctorOf .Timestamp
      · rw [tzOf_none hp, tzOf_none hc]; simp
      all_goals (cases (tzOf p.1 != tzOf c.1) <;> simp)
    · cases hp : Ctor.beq p.1.ctorOf .Timestamp
      · have hc : Ctor.beq c.1.ctorOf .Timestamp = false := by rw [← Ctor.beq_iff.mp h1]; exact hp
        rw [tzOf_none hp, tzOf_none hc]; simp
      · cases (tzOf p.1 != tzOf c.1) <;> simp

/-- one row: on this observation the first arm of the generated list that fires carries the result descriptor of the
model's branch -/
def symRow (as : List Arm) (o : Options) (a : Abs) : Bool :=
  match selectArm as o a with
  | some r => resEq r (coerceSym o a)
  | none => false

theorem symRow_spec {as : List Arm} {o : Options} {a : Abs} (h : symRow as o a = true) :
    selectArm as o a = some (coerceSym o a) := by
  unfold symRow at h
  split at h
  · rename_i r hr; rw [hr, resEq_sound h]
  · cases h

def symTable (as : List Arm) (o : Options) : Bool := allAbs.all (symRow as o)

/-- the 2^3 settings of the options `coerce_primitive_type` reads, by number -/
def optionAt (cn ts lu : Bool) : Options := { coerce_numbers := cn, allow_to_string := ts, string_as_large_utf8 := lu }

theorem coerceView_eq_optionAt (o : Options) :
    o.coerceView = optionAt o.coerce_numbers o.allow_to_string o.string_as_large_utf8 := rfl

/-! ### the table on class representatives, with the arms narrowed per pair of constructors

`symTable` walks the whole list of arms, with a membership test per pattern, on every one of 2 806 observations.  Two
things make most of that work unnecessary.  The model tells constructors apart only by a few classes, and so do the
patterns of a list of arms that can agree with it (`respects`, itself a small evaluation over the arms): one
representative per class is enough.  And whether the option atoms of a guard hold and whether the two patterns match does
not depend on the three observations of the arguments: for a pair of constructors the arms are narrowed once to those
that can still fire, and only the remaining guard atoms are looked at per observation. -/

/-- one representative of every class of constructors the model distinguishes -/
def rep : Ctor → Ctor
  | .Int8 | .Int16 | .Int32 | .Int64 => .Int8
  | .UInt8 | .UInt16 | .UInt32 | .UInt64 => .UInt8
  | .Float32 | .Float64 => .Float32
  | .Null => .Null | .Boolean => .Boolean | .Utf8 => .Utf8 | .LargeUtf8 => .LargeUtf8 | .Timestamp => .Timestamp
  | _ => .Union

def reps : List Ctor := [.Null, .Boolean, .Int8, .UInt8, .Float32, .Utf8, .LargeUtf8, .Timestamp, .Union]

theorem rep_mem (k : Ctor) : rep k ∈ reps := Ctor.elem_iff.mp (by cases k <;> rfl)

def Abs.rep (a : Abs) : Abs := { a with cp := C07Gen.rep a.cp, cc := C07Gen.rep a.cc }

theorem cUnsigned_rep (k : Ctor) : cUnsigned (rep k) = cUnsigned k := by cases k <;> rfl
theorem cSigned_rep (k : Ctor) : cSigned (rep k) = cSigned k := by cases k <;> rfl
theorem cFloat_rep (k : Ctor) : cFloat (rep k) = cFloat k := by cases k <;> rfl
theorem beq_rep_Null (k : Ctor) : Ctor.beq (rep k) .Null = Ctor.beq k .Null := by cases k <;> rfl
theorem beq_rep_Boolean (k : Ctor) : Ctor.beq (rep k) .Boolean = Ctor.beq k .Boolean := by cases k <;> rfl
theorem beq_rep_Utf8 (k : Ctor) : Ctor.beq (rep k) .Utf8 = Ctor.beq k .Utf8 := by cases k <;> rfl
theorem beq_rep_LargeUtf8 (k : Ctor) : Ctor.beq (rep k) .LargeUtf8 = Ctor.beq k .LargeUtf8 := by cases k <;> rfl
theorem beq_rep_Timestamp (k : Ctor) : Ctor.beq (rep k) .Timestamp = Ctor.beq k .Timestamp := by cases k <;> rfl

/-- the model reads the constructors through tests that `rep` preserves -/
theorem coerceSym_rep (o : Options) (a : Abs) : coerceSym o a.rep = coerceSym o a := by
  cases a
  simp only [coerceSym, Abs.rep, cInt, cToStr, cUnsigned_rep, cSigned_rep, cFloat_rep, beq_rep_Null, beq_rep_Boolean,
    beq_rep_Utf8, beq_rep_LargeUtf8, beq_rep_Timestamp]

/-- no pattern of `as` tells a constructor from its representative -/
def respects (as : List Arm) : Bool :=
  as.all fun x => Ctor.all.all fun k =>
    (patMatches x.prev (rep k) == patMatches x.prev k) && (patMatches x.curr (rep k) == patMatches x.curr k)

theorem selectArm_rep (o : Options) (a : Abs) : (as : List Arm) → respects as = true →
    selectArm as o a.rep = selectArm as o a
  | [], _ => rfl
  | x :: rest, h => by
    simp only [respects, List.all_cons, Bool.and_eq_true] at h
    have hx := fun k => List.all_eq_true.mp h.1 k (Ctor.mem_all k)
    simp only [Bool.and_eq_true, beq_iff_eq] at hx
    have hg : atomHolds o a.rep = atomHolds o a := by funext g; cases g <;> rfl
    have hp : patMatches x.prev a.rep.cp = patMatches x.prev a.cp := (hx a.cp).1
    have hc : patMatches x.curr a.rep.cc = patMatches x.curr a.cc := (hx a.cc).2
    simp only [selectArm, hg, hp, hc, selectArm_rep o a rest h.2]

theorem symRow_rep {as : List Arm} (h : respects as = true) (o : Options) (a : Abs) :
    symRow as o a.rep = symRow as o a := by
  unfold symRow; rw [selectArm_rep o a as h, coerceSym_rep]

/-- the atoms of a guard that speak of the options … -/
def optsHold (o : Options) (x : Arm) : Bool :=
  x.guard.all fun g => match g with
    | .opt f => f.get o
    | _ => true

/-- … and those that speak of the arguments -/
def obsHold (a : Abs) (x : Arm) : Bool :=
  x.guard.all fun g => match g with
    | .opt _ => true
    | .tyEq => a.tyEq
    | .stEq => a.stEq
    | .tzNe => a.tzNe

/-- the arms that can still fire once the options and the two constructors are known -/
def narrow (as : List Arm) (o : Options) (cp cc : Ctor) : List Arm :=
  ((as.filter (optsHold o)).filter (patMatches ·.prev cp)).filter (patMatches ·.curr cc)

/-- `symRow` on a narrowed list, against the result descriptor `r` -/
def pick (as : List Arm) (a : Abs) (r : Res) : Bool :=
  match as.find? (obsHold a) with
  | some x => resEq x.res r
  | none => false

/-- the model looks at `tyEq` and `stEq` in its first branch only -/
theorem coerceSym_obs (o : Options) (a : Abs) : coerceSym o a =
    if a.tyEq && a.stEq then .ok .curr .prev .curr else coerceSym o { a with tyEq := false, stEq := false } := by
  obtain ⟨cp, cc, ty, st, tz⟩ := a
  cases ty <;> cases st <;> rfl

theorem guard_split (o : Options) (a : Abs) (x : Arm) :
    x.guard.all (atomHolds o a) = (optsHold o x && obsHold a x) := by
  unfold optsHold obsHold
  induction x.guard with
  | nil => rfl
  | cons g gs ih => simp only [List.all_cons, ih]; cases g <;> simp [atomHolds, Bool.and_assoc, Bool.and_left_comm]

theorem selectArm_find (o : Options) (a : Abs) : (as : List Arm) → selectArm as o a =
    (as.find? fun x => optsHold o x && (patMatches x.prev a.cp && (patMatches x.curr a.cc && obsHold a x))).map (·.res)
  | [] => rfl
  | x :: rest => by
    have h : (x.guard.all (atomHolds o a) && (patMatches x.prev a.cp && patMatches x.curr a.cc)) =
        (optsHold o x && (patMatches x.prev a.cp && (patMatches x.curr a.cc && obsHold a x))) := by
      rw [guard_split]
      cases optsHold o x <;> cases obsHold a x <;> cases patMatches x.prev a.cp <;> cases patMatches x.curr a.cc <;> rfl
    simp only [selectArm, List.find?_cons, h]
    split
    · rename_i h1; rw [h1]; rfl
    · rename_i h1; rw [Bool.not_eq_true] at h1; rw [h1]; exact selectArm_find o a rest

theorem pick_narrow (as : List Arm) (o : Options) (a : Abs) :
    pick (narrow as o a.cp a.cc) a (coerceSym o a) = symRow as o a := by
  unfold pick narrow symRow
  rw [List.find?_filter, List.find?_filter, List.find?_filter, selectArm_find]
  simp only [Bool.decide_and, Bool.decide_eq_true]
  cases List.find? _ as <;> rfl

/-- the table over one constructor per class and all values of the three observations.  `narrow` is applied to `cp` and
`cc` themselves, not to projections of the observation: the kernel evaluates a term once per spelling, so this way the
narrowed list is computed once per pair and shared by its eight rows.  For the same reason the model's chain below its
first branch (`coerceSym_obs`) is spelled without `ty` and `st`. -/
def repTable (as : List Arm) (o : Options) : Bool :=
  reps.all fun cp => reps.all fun cc => [false, true].all fun tz => [false, true].all fun ty => [false, true].all fun st =>
    pick (narrow as o cp cc) { cp := cp, cc := cc, tyEq := ty, stEq := st, tzNe := tz }
      (if ty && st then .ok .curr .prev .curr else coerceSym o { cp := cp, cc := cc, tyEq := false, stEq := false, tzNe := tz })

/-- the rows hold on EVERY observation, those that `abs` cannot return included -/
theorem symRow_of_repTable {as : List Arm} {o : Options} (hr : respects as = true) (h : repTable as o = true) (a : Abs) :
    symRow as o a = true := by
  rw [← symRow_rep hr, ← pick_narrow, coerceSym_obs]
  have hb : ∀ b : Bool, b ∈ [false, true] := by decide
  exact List.all_eq_true.mp (List.all_eq_true.mp (List.all_eq_true.mp (List.all_eq_true.mp (List.all_eq_true.mp h
    _ (rep_mem a.cp)) _ (rep_mem a.cc)) _ (hb a.tzNe)) _ (hb a.tyEq)) _ (hb a.stEq)

theorem symTable_of_repTable {as : List Arm} {o : Options} (hr : respects as = true) (h : repTable as o = true) :
    symTable as o = true :=
  List.all_eq_true.mpr fun a _ => symRow_of_repTable hr h a

end SaModel.Lemmas.C07Gen
