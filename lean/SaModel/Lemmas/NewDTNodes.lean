import SaModel.Build.Builder
/-
`build_builder` accepts a field as soon as it accepts the children: the node-level facts about `Build.newDT`, one per container
kind, used for the schemas traced from samples (Lemmas/C06NewRoot.lean) and for those traced from a type (Lemmas/C04Accept.lean).
-/
namespace SaModel.Lemmas.C06
open SaModel SaModel.Build

/-- `build_builder` succeeds on the field, whatever the path -/
def NB (f : Field) : Prop := ∀ path, ∃ b, newB path f = .ok b

theorem NB_mk {n : String} {dt : DataType} {nl : Bool} {md : Metadata}
    (h : ∀ path, ∃ b, newDT path dt nl md = .ok b) : NB (.mk n dt nl md) := by
  intro path; rw [newB]; exact h path

theorem newDT_list_ok (large : Bool) {item : Field} (h : NB item) (nl : Bool) (md : Metadata) (path : String) :
    ∃ b, newDT path (if large then .largeList item else .list item) nl md = .ok b := by
  obtain ⟨el, hel⟩ := h (path ++ "." ++ childName item.name)
  split <;> exact ⟨_, by simp only [newDT, hel, bind, Except.bind, pure, Except.pure]; rfl⟩

theorem newDT_map_ok {kf vf : Field} (hk : NB kf) (hv : NB vf) (nl : Bool) (md : Metadata) (path : String) :
    ∃ b, newDT path (.map (Field.mk "entries" (.struct (.cons kf (.cons vf .nil))) false []) false) nl md = .ok b := by
  obtain ⟨kb, hkb⟩ := hk (path ++ "." ++ childName "entries" ++ "." ++ childName kf.name)
  obtain ⟨vb, hvb⟩ := hv (path ++ "." ++ childName "entries" ++ "." ++ childName vf.name)
  exact ⟨_, by simp only [newDT, hkb, hvb, bind, Except.bind, pure, Except.pure]; rfl⟩

/-- a struct builder needs the children and distinct names -/
theorem newDT_struct_of {path : String} {fs : Fields} {bl : BL} (h : newFields path fs = .ok bl)
    (hd : hasDup bl.names = false) (nl : Bool) (md : Metadata) : ∃ b, newDT path (.struct fs) nl md = .ok b :=
  ⟨_, by simp only [newDT, h, bind, Except.bind, mkStruct, hd]; rfl⟩

theorem newFields_cons {path : String} {f : Field} {rest : Fields} (hf : NB f) {bl : BL}
    (h : newFields path rest = .ok bl) :
    ∃ b, newFields path (.cons f rest) = .ok (.cons b (metaOfField f) bl) := by
  obtain ⟨b, hb⟩ := hf (path ++ "." ++ f.name)
  exact ⟨b, by simp only [newFields, hb, h, bind, Except.bind, pure, Except.pure]⟩

theorem newDT_union_ok {ufs : UFields} (h : ∀ path, ∃ bl, newUnionFields path ufs 0 = .ok bl)
    (nl : Bool) (md : Metadata) (path : String) : ∃ b, newDT path (.union ufs .dense) nl md = .ok b := by
  obtain ⟨bl, hbl⟩ := h path
  exact ⟨_, by simp only [newDT, hbl, bind, Except.bind, pure, Except.pure]; rfl⟩

/-- the type ids of the children are the consecutive numbers from `idx` -/
theorem newUnionFields_cons {idx : Nat} {f : Field} {rest : UFields} (hf : NB f)
    (h : ∀ path, ∃ bl, newUnionFields path rest (idx + 1) = .ok bl) :
    ∀ path, ∃ bl, newUnionFields path (.cons (Int.ofNat idx) f rest) idx = .ok bl := by
  intro path
  obtain ⟨b, hb⟩ := hf (path ++ "." ++ childName f.name)
  obtain ⟨bl, hbl⟩ := h path
  refine ⟨.cons b (metaOfField f) bl, ?_⟩
  simp only [newUnionFields]
  rw [if_neg (by simp)]
  simp only [hb, hbl, bind, Except.bind, pure, Except.pure]

end SaModel.Lemmas.C06
