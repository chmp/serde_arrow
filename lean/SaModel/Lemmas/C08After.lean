import SaModel.Lemmas.C08Ensure
/-
C08 — the multi-pass exploration: `after k ty` is the tracer after `k` passes of `T::deserialize(TraceAny(..))` over the
type description `ty`, written down from the type.  An enum node explores one variant-pass per pass: with a budget of
`b` passes its first variants are complete, one variant is partially explored, the rest is untouched.
This file: the definition and its static facts (0 passes = fresh node; `passes ty` or more passes = `done`; fewer = not
complete).
-/
namespace SaModel.Lemmas.C08
open SaModel SaModel.Trace SaModel.Trace.Spec

mutual
def after (o : Options) (n p : String) (nl : Bool) : Nat → Ty → Tracer
  | 0, _ => .unknown n p nl
  | _ + 1, .unit => .primitive n p true .null none
  | _ + 1, .unitStruct _ => .primitive n p true .null none
  | _ + 1, .bool => .primitive n p nl .boolean none
  | _ + 1, .int t => .primitive n p nl (intDataType t) none
  | _ + 1, .f32 => .primitive n p nl .float32 none
  | _ + 1, .f64 => .primitive n p nl .float64 none
  | _ + 1, .char => .primitive n p nl .uint32 none
  | _ + 1, .string => .primitive n p nl o.string_type none
  | _ + 1, .bytes => .primitive n p nl .largeBinary none
  | k + 1, .option t => after o n p true (k + 1) t
  | k + 1, .newtypeStruct _ t => after o n p nl (k + 1) t
  | k + 1, .vec t => .list n p nl (after o "element" (childPath p "element") false (k + 1) t)
  | k + 1, .tuple ts => .tuple n p nl (afterTys o p (k + 1) 0 ts)
  | k + 1, .tupleStruct _ ts => .tuple n p nl (afterTys o p (k + 1) 0 ts)
  | k + 1, .map kt vt =>
    .map n p nl (after o "key" (childPath p "key") false (k + 1) kt) (after o "value" (childPath p "value") false (k + 1) vt)
  | k + 1, .struct _ fs => .struct n p nl (afterFields o p (k + 1) fs) .struct 0
  | k + 1, .enum _ vs => .union n p nl (afterVariants o p (k + 1) vs)
def afterTys (o : Options) (p : String) (k : Nat) : Nat → Tys → Tracers
  | _, .nil => .nil
  | i, .cons t r => .cons (after o (toString i) (childPath p (toString i)) false k t) (afterTys o p k (i + 1) r)
def afterFields (o : Options) (p : String) (k : Nat) : TyFields → TFields
  | .nil => .nil
  | .cons n t r => .cons n 0 (after o n (childPath p n) false k t) (afterFields o p k r)
/-- `b` = passes spent on this enum node so far: the first variant takes what it needs, the rest is handed on -/
def afterVariants (o : Options) (p : String) : Nat → TyVariants → Variants
  | _, .nil => .nil
  | b, .unit n r =>
    .present n (match b with
      | 0 => .unknown n (childPath p n) false
      | _ + 1 => .primitive n (childPath p n) true .null none) (afterVariants o p (b - 1) r)
  | b, .newtype n t r => .present n (after o n (childPath p n) false b t) (afterVariants o p (b - passes t) r)
  | b, .tuple n ts r =>
    .present n (match b with
      | 0 => .unknown n (childPath p n) false
      | b' + 1 => .tuple n (childPath p n) false (afterTys o (childPath p n) (b' + 1) 0 ts))
      (afterVariants o p (b - passesTys ts) r)
  | b, .struct n fs r =>
    .present n (match b with
      | 0 => .unknown n (childPath p n) false
      | b' + 1 => .struct n (childPath p n) false (afterFields o (childPath p n) (b' + 1) fs) .struct 0)
      (afterVariants o p (b - passesFields fs) r)
end

theorem after_zero (o : Options) (n p : String) (nl : Bool) (ty : Ty) : after o n p nl 0 ty = .unknown n p nl := by
  cases ty <;> simp only [after]

/-! ### how many passes a type needs is at least one (when it can be walked) -/

theorem passesTys_pos : ∀ ts : Tys, 1 ≤ passesTys ts
  | .nil => by simp only [passesTys]; omega
  | .cons t r => by simp only [passesTys]; have := passesTys_pos r; omega

theorem passesFields_pos : ∀ fs : TyFields, 1 ≤ passesFields fs
  | .nil => by simp only [passesFields]; omega
  | .cons _ t r => by simp only [passesFields]; have := passesFields_pos r; omega

mutual
theorem passes_pos (o : Options) : ∀ (ty : Ty) (p : String), walkable o p ty = true → 1 ≤ passes ty
  | .unit, _, _ | .unitStruct _, _, _ | .bool, _, _ | .int _, _, _ | .f32, _, _ | .f64, _, _ | .char, _, _
  | .string, _, _ | .bytes, _, _ => by simp only [passes]; omega
  | .option t, p, h | .newtypeStruct _ t, p, h => by
    simp only [walkable] at h; simp only [passes]; exact passes_pos o t p h
  | .vec t, p, h => by
    simp only [walkable, Bool.and_eq_true] at h; simp only [passes]; exact passes_pos o t _ h.2
  | .tuple ts, _, _ | .tupleStruct _ ts, _, _ => by simp only [passes]; exact passesTys_pos ts
  | .struct _ fs, _, _ => by simp only [passes]; exact passesFields_pos fs
  | .map k v, p, h => by
    simp only [walkable, Bool.and_eq_true] at h; simp only [passes]
    have := passes_pos o k _ h.1.2; omega
  | .enum _ vs, p, h => by
    simp only [walkable, Bool.and_eq_true, bne_iff_ne, ne_eq] at h; simp only [passes]
    exact passesVariants_pos o vs p h.2 h.1.2
theorem passesVariants_pos (o : Options) : ∀ (vs : TyVariants) (p : String), walkableVariants o p vs = true →
    vs.length ≠ 0 → 1 ≤ passesVariants vs
  | .nil => by intro _ _ h; simp only [TyVariants.length] at h; exact absurd rfl h
  | .unit _ r => by intro _ _ _; simp only [passesVariants]; omega
  | .newtype n t r => by
    intro p h _
    simp only [walkableVariants, Bool.and_eq_true] at h; simp only [passesVariants]
    have := passes_pos o t _ h.1; omega
  | .tuple _ ts r => by intro _ _ _; simp only [passesVariants]; have := passesTys_pos ts; omega
  | .struct _ fs r => by intro _ _ _; simp only [passesVariants]; have := passesFields_pos fs; omega
end

namespace VHead

theorem after_eq {vs r : TyVariants} {n : String} {T : Ty} (h : VHead vs n T r) (o : Options) (p : String) (b : Nat) :
    afterVariants o p b vs =
      .present n (after o n (childPath p n) false b T) (afterVariants o p (b - passes T) r) := by
  cases h <;> cases b <;> simp only [afterVariants, after, passes]

end VHead

theorem after_done_all (o : Options) :
    (∀ (ty : Ty) (n p : String) (nl : Bool) (k : Nat), walkable o p ty = true →
      passes ty ≤ k + 1 → after o n p nl (k + 1) ty = done o n p nl ty) ∧
    (∀ (ts : Tys) (p : String) (i k : Nat), walkableTys o p i ts = true →
      passesTys ts ≤ k + 1 → afterTys o p (k + 1) i ts = doneTys o p i ts) ∧
    (∀ (fs : TyFields) (p : String) (k : Nat), walkableFields o p fs = true →
      passesFields fs ≤ k + 1 → afterFields o p (k + 1) fs = doneFields o p fs) ∧
    (∀ (vs : TyVariants) (p : String) (b : Nat), walkableVariants o p vs = true →
      passesVariants vs ≤ b → afterVariants o p b vs = doneVariants o p vs) := by
  apply Ty.walk
  case node =>
    intro ty ih n p nl k hw hk
    match ty, ih with
    | .unit, _ | .unitStruct _, _ | .bool, _ | .int _, _ | .f32, _ | .f64, _ | .char, _ | .string, _ | .bytes, _ =>
      simp only [after, done]
    | .option t, ih =>
      simp only [walkable] at hw; simp only [passes] at hk; simp only [after, done]; exact ih n p true k hw hk
    | .newtypeStruct _ t, ih =>
      simp only [walkable] at hw; simp only [passes] at hk; simp only [after, done]; exact ih n p nl k hw hk
    | .vec t, ih =>
      simp only [walkable, Bool.and_eq_true] at hw; simp only [passes] at hk
      simp only [after, done, ih _ _ _ k hw.2 hk]
    | .tuple ts, ih | .tupleStruct _ ts, ih =>
      simp only [walkable, Bool.and_eq_true] at hw; simp only [passes] at hk
      simp only [after, done, ih p 0 k hw.2 hk]
    | .map kt vt, ih =>
      simp only [walkable, Bool.and_eq_true] at hw; simp only [passes] at hk
      simp only [after, done, ih.1 _ _ _ k hw.1.2 (by omega), ih.2 _ _ _ k hw.2 (by omega)]
    | .struct _ fs, ih =>
      simp only [walkable, Bool.and_eq_true] at hw; simp only [passes] at hk
      simp only [after, done, ih p k hw.2 hk]
    | .enum _ vs, ih =>
      simp only [walkable, Bool.and_eq_true] at hw; simp only [passes] at hk
      simp only [after, done, ih p (k + 1) hw.2 hk]
  case tnil => intro _ _ _ _ _; simp only [afterTys, doneTys]
  case tcons =>
    intro t r iht ihr p i k hw hk
    simp only [walkableTys, Bool.and_eq_true] at hw; simp only [passesTys] at hk
    simp only [afterTys, doneTys, iht _ _ _ k hw.1 (by omega), ihr p (i + 1) k hw.2 (by omega)]
  case fnil => intro _ _ _ _; simp only [afterFields, doneFields]
  case fcons =>
    intro _ t r iht ihr p k hw hk
    simp only [walkableFields, Bool.and_eq_true] at hw; simp only [passesFields] at hk
    simp only [afterFields, doneFields, iht _ _ _ k hw.1 (by omega), ihr p k hw.2 (by omega)]
  case vnil => intro _ _ _ _; simp only [afterVariants, doneVariants]
  case vcons =>
    intro vs n T r hh ihT ihr p b hw hb
    simp only [hh.walkable_eq, Bool.and_eq_true] at hw; rw [hh.passes_eq] at hb
    have hp := passes_pos o T _ hw.1
    obtain ⟨b', rfl⟩ : ∃ b', b = b' + 1 := ⟨b - 1, by omega⟩
    rw [hh.after_eq, hh.done_eq, ihT _ _ _ b' hw.1 (by omega), ihr p _ hw.2 (by omega)]

theorem after_done (o : Options) : ∀ (ty : Ty) (n p : String) (nl : Bool) (k : Nat), walkable o p ty = true →
    passes ty ≤ k + 1 → after o n p nl (k + 1) ty = done o n p nl ty :=
  (after_done_all o).1

theorem afterTys_done (o : Options) : ∀ (ts : Tys) (p : String) (i k : Nat), walkableTys o p i ts = true →
    passesTys ts ≤ k + 1 → afterTys o p (k + 1) i ts = doneTys o p i ts :=
  (after_done_all o).2.1

theorem afterFields_done (o : Options) : ∀ (fs : TyFields) (p : String) (k : Nat), walkableFields o p fs = true →
    passesFields fs ≤ k + 1 → afterFields o p (k + 1) fs = doneFields o p fs :=
  (after_done_all o).2.2.1

theorem afterVariants_done (o : Options) : ∀ (vs : TyVariants) (p : String) (b : Nat), walkableVariants o p vs = true →
    passesVariants vs ≤ b → afterVariants o p b vs = doneVariants o p vs :=
  (after_done_all o).2.2.2

theorem after_incomplete_all (o : Options) :
    (∀ (ty : Ty) (n p : String) (nl : Bool) (k : Nat),
      k < passes ty → (after o n p nl k ty).is_complete = false) ∧
    (∀ (ts : Tys) (p : String) (i k : Nat),
      k + 1 < passesTys ts → (afterTys o p (k + 1) i ts).all_complete = false) ∧
    (∀ (fs : TyFields) (p : String) (k : Nat),
      k + 1 < passesFields fs → (afterFields o p (k + 1) fs).all_complete = false) ∧
    (∀ (vs : TyVariants) (p : String) (b : Nat),
      b < passesVariants vs → (afterVariants o p b vs).all_complete = false) := by
  apply Ty.walk
  case node =>
    intro ty ih n p nl k h
    cases k with
    | zero => rw [after_zero]; rfl
    | succ k =>
      match ty, ih with
      | .unit, _ | .unitStruct _, _ | .bool, _ | .int _, _ | .f32, _ | .f64, _ | .char, _ | .string, _ | .bytes, _ =>
        simp only [passes] at h; omega
      | .option t, ih => simp only [passes] at h; simp only [after]; exact ih n p true (k + 1) h
      | .newtypeStruct _ t, ih => simp only [passes] at h; simp only [after]; exact ih n p nl (k + 1) h
      | .vec t, ih => simp only [passes] at h; simp only [after, Tracer.is_complete]; exact ih _ _ _ (k + 1) h
      | .tuple ts, ih | .tupleStruct _ ts, ih =>
        simp only [passes] at h; simp only [after, Tracer.is_complete]; exact ih p 0 k h
      | .map kt vt, ih =>
        simp only [passes] at h; simp only [after, Tracer.is_complete]
        by_cases h1 : k + 1 < passes kt
        · rw [ih.1 _ _ _ (k + 1) h1]; rfl
        · rw [ih.2 _ _ _ (k + 1) (by omega)]; exact Bool.and_false _
      | .struct _ fs, ih => simp only [passes] at h; simp only [after, Tracer.is_complete]; exact ih p k h
      | .enum _ vs, ih => simp only [passes] at h; simp only [after, Tracer.is_complete]; exact ih p (k + 1) h
  case tnil => intro _ _ _ h; simp only [passesTys] at h; omega
  case tcons =>
    intro t r iht ihr p i k h
    simp only [passesTys] at h; simp only [afterTys, Tracers.all_complete]
    by_cases h1 : k + 1 < passes t
    · rw [iht _ _ _ (k + 1) h1]; rfl
    · rw [ihr p (i + 1) k (by omega)]; exact Bool.and_false _
  case fnil => intro _ _ h; simp only [passesFields] at h; omega
  case fcons =>
    intro _ t r iht ihr p k h
    simp only [passesFields] at h; simp only [afterFields, TFields.all_complete]
    by_cases h1 : k + 1 < passes t
    · rw [iht _ _ _ (k + 1) h1]; rfl
    · rw [ihr p k (by omega)]; exact Bool.and_false _
  case vnil => intro _ _ h; simp only [passesVariants] at h; omega
  case vcons =>
    intro vs n T r hh ihT ihr p b h
    rw [hh.passes_eq] at h
    rw [hh.after_eq]; simp only [Variants.all_complete]
    by_cases h1 : b < passes T
    · rw [ihT _ _ _ b h1]; rfl
    · rw [ihr p _ (by omega : b - passes T < passesVariants r)]; exact Bool.and_false _

theorem after_incomplete (o : Options) : ∀ (ty : Ty) (n p : String) (nl : Bool) (k : Nat),
    k < passes ty → (after o n p nl k ty).is_complete = false :=
  (after_incomplete_all o).1

theorem afterTys_incomplete (o : Options) : ∀ (ts : Tys) (p : String) (i k : Nat),
    k + 1 < passesTys ts → (afterTys o p (k + 1) i ts).all_complete = false :=
  (after_incomplete_all o).2.1

theorem afterFields_incomplete (o : Options) : ∀ (fs : TyFields) (p : String) (k : Nat),
    k + 1 < passesFields fs → (afterFields o p (k + 1) fs).all_complete = false :=
  (after_incomplete_all o).2.2.1

theorem afterVariants_incomplete (o : Options) : ∀ (vs : TyVariants) (p : String) (b : Nat),
    b < passesVariants vs → (afterVariants o p b vs).all_complete = false :=
  (after_incomplete_all o).2.2.2

end SaModel.Lemmas.C08
