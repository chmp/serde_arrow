import SaModel.Lemmas.C17UntouchedLeaf
/-
C17, `untouched_ok` — the row of a list / fixed-size-list / map column (`list_rows`, `fsl_rows`, `map_rows`: the typed
reads use them too) and `deserialize_any` (targets `any` / `IgnoredAny`): structural recursion over the array.
-/
namespace SaModel.Props.C17
open SaModel SaModel.Read SaModel.Spec

theorem readRange_congr {α} {f g : Nat → R α} : ∀ (n s : Nat), (∀ k, k < n → f (s + k) = g (s + k)) →
    readRange f s n = readRange g s n := fun n s => readRange_ext n s s

/-- an element loop over two children that agree on the designated range -/
theorem readRange_elems {α} {et : Target} {el el' : Arr} {s e : Nat} (f : Arr → Nat → R α) (h : ElemsAgree et el el' s e)
    (hf : ∀ j, touchEq et el el' j = true → f el j = f el' j) :
    readRange (f el) s (e - s) = readRange (f el') s (e - s) := by
  rcases h with rfl | hall
  · rfl
  · exact readRange_congr _ _ (fun k hk => hf (s + k) (hall k hk))

/-! ### list-like columns: the head and the element loop -/

theorem list_head {o : Bool} {p : Target} {l l' : Bool} {v v' : Option Bits} {offs offs' : List Int} {fm fm' : FieldMeta}
    {el el' : Arr} {i : Nat} (ho : o = false) (hrl : readsList p = true)
    (h : touchEqW o p (.list l v offs fm el) (.list l' v' offs' fm' el') i = true) :
    listRange Fixes.all offs i = listRange Fixes.all offs' i := by
  obtain ⟨_, _, _, _, _, he, hl, _, hc⟩ := touchEqW_list h
  cases he
  subst ho
  exact listRange_congr hl (fun hi => ⟨(hc hi (fun h => nomatch h) hrl).1, (hc hi (fun h => nomatch h) hrl).2.1⟩)

/-- a list column: the offsets of the row, then the elements of the designated range, slot by slot -/
theorem list_rows {α β} {o : Bool} {p et : Target} {l l' : Bool} {v v' : Option Bits} {offs offs' : List Int} {fm fm' : FieldMeta}
    {el el' : Arr} {i : Nat} (ho : o = false) (hrl : readsList p = true) (het : elemTarget? p = some et)
    (h : touchEqW o p (.list l v offs fm el) (.list l' v' offs' fm' el') i = true) (f : Arr → Nat → R α) (g : List α → R β)
    (hf : ∀ j, touchEq et el el' j = true → f el j = f el' j) :
    (listRange Fixes.all offs i >>= fun r => readRange (f el) r.1 (r.2 - r.1) >>= g) =
      (listRange Fixes.all offs' i >>= fun r => readRange (f el') r.1 (r.2 - r.1) >>= g) := by
  rw [← list_head ho hrl h]
  obtain ⟨_, _, _, _, _, he, hl, _, hc⟩ := touchEqW_list h
  cases he
  subst ho
  refine R.bind_congr_ok (fun r hr => ?_)
  obtain ⟨s, e⟩ := r
  obtain ⟨hi, hs, he, _⟩ := listRange_parts hr
  exact congrArg (· >>= g) (readRange_elems f ((hc hi (fun h => nomatch h) hrl).2.2 et s e het hs he) hf)

/-- the same for a fixed-size-list column -/
theorem fsl_rows {α β} {o : Bool} {p et : Target} {len len' : Nat} {v v' : Option Bits} {n : Int} {fm fm' : FieldMeta}
    {el el' : Arr} {i : Nat} (ho : o = false) (het : fslElemTarget? p = some et)
    (h : touchEqW o p (.fixedSizeList len v n fm el) (.fixedSizeList len' v' n fm' el') i = true) (f : Arr → Nat → R α)
    (g : List α → R β) (hf : ∀ j, touchEq et el el' j = true → f el j = f el' j) :
    (fslRange Fixes.all len n i >>= fun r => readRange (f el) r.1 (r.2 - r.1) >>= g) =
      (fslRange Fixes.all len' n i >>= fun r => readRange (f el') r.1 (r.2 - r.1) >>= g) := by
  obtain ⟨_, _, _, _, he, hl, _, hc⟩ := touchEqW_fsl h
  cases he
  subst ho
  rw [← fslRange_congr hl]
  refine R.bind_congr_ok (fun r hr => ?_)
  obtain ⟨s, e⟩ := r
  obtain ⟨hi, hn, hs, he⟩ := fslRange_parts hr
  have hel := hc hi (fun h => nomatch h) et het hn
  rw [← hs, ← he] at hel
  exact congrArg (· >>= g) (readRange_elems f hel hf)

/-- a map column: the offsets of the row, then keys and values of the designated range, slot by slot -/
theorem map_rows {α β} {o : Bool} {p kt vt : Target} {v v' : Option Bits} {offs offs' : List Int} {mm mm' : MapMeta}
    {ks ks' vs vs' : Arr} {i : Nat} (ho : o = false) (het : entryTargets? p = some (kt, vt))
    (h : touchEqW o p (.map v offs mm ks vs) (.map v' offs' mm' ks' vs') i = true) (f : Arr → Arr → Nat → R α) (g : List α → R β)
    (hf : ∀ j, (ks = ks' ∨ touchEq kt ks ks' j = true) → (vs = vs' ∨ touchEq vt vs vs' j = true) → f ks vs j = f ks' vs' j) :
    (listRange Fixes.all offs i >>= fun r => readRange (f ks vs) r.1 (r.2 - r.1) >>= g) =
      (listRange Fixes.all offs' i >>= fun r => readRange (f ks' vs') r.1 (r.2 - r.1) >>= g) := by
  obtain ⟨_, _, _, _, _, he, hl, _, hc⟩ := touchEqW_map h
  cases he
  subst ho
  rw [← listRange_congr hl (fun hi => ⟨(hc hi (fun h => nomatch h) kt vt het).1, (hc hi (fun h => nomatch h) kt vt het).2.1⟩)]
  refine R.bind_congr_ok (fun r hr => ?_)
  obtain ⟨s, e⟩ := r
  obtain ⟨hi, hs, he, _⟩ := listRange_parts hr
  obtain ⟨hks, hvs⟩ := (hc hi (fun h => nomatch h) kt vt het).2.2 s e hs he
  exact congrArg (· >>= g) (readRange_congr _ _ (fun j hj => hf (s + j) (hks.imp id (· j hj)) (hvs.imp id (· j hj))))

/-- the trait default `deserialize_any`: `is_some`, then `deserialize_any_some` where it said yes -/
theorem anyAt_agree {p : Target} {a a' : Arr} {i : Nat} (h : touchEqW true p a a' i = true)
    (hrec : touchEqW false p a a' i = true → readAnySome Fixes.all a i = readAnySome Fixes.all a' i) :
    anyAt Fixes.all a (readAnySome Fixes.all a) i = anyAt Fixes.all a' (readAnySome Fixes.all a') i := by
  unfold anyAt
  rw [← isSome_agree h]
  refine R.bind_congr_ok (fun b hb => ?_)
  cases b with
  | false => rfl
  | true => exact hrec (touchEqW_weaken h hb)

theorem anyLike_cases {p : Target} (h : isAnyLike p = true) : p = .any ∨ p = .ignored := by
  cases p <;> simp [isAnyLike] at h
  · exact Or.inl rfl
  · exact Or.inr rfl

theorem structContent_anyLike {p : Target} (hp : isAnyLike p = true) (fs fs' : ArrFields) (i : Nat) :
    structContent p fs fs' i = allEq .any fs fs' i := by
  rcases anyLike_cases hp with rfl | rfl <;> rfl

theorem readsList_anyLike {p : Target} (hp : isAnyLike p = true) : readsList p = true ∧ elemTarget? p = some .any ∧
    fslElemTarget? p = some .any ∧ entryTargets? p = some (.any, .any) ∧ ∀ k, variantTarget? p k = fun _ => some .any := by
  rcases anyLike_cases hp with rfl | rfl <;> exact ⟨rfl, rfl, rfl, rfl, fun _ => rfl⟩

mutual
theorem anySome_agree : ∀ (a a' : Arr) (i : Nat) (p : Target), isAnyLike p = true → touchEqW false p a a' i = true →
    readAnySome Fixes.all a i = readAnySome Fixes.all a' i
  | .null _, a', i, p, _, h | .boolean _ _ _, a', i, p, _, h | .prim _ _ _, a', i, p, _, h | .time _ _ _ _, a', i, p, _, h
  | .timestamp _ _ _ _, a', i, p, _, h | .decimal128 _ _ _ _, a', i, p, _, h | .bytes _ _ _ _, a', i, p, _, h
  | .bytesView _ _ _ _, a', i, p, _, h | .fixedSizeBinary _ _ _, a', i, p, _, h | .dictionary _ _, a', i, p, _, h =>
    (leafSim_agree h rfl).anySome
  | .struct len v fs, a', i, p, hp, h => by
    obtain ⟨len', v', fs', rfl, hl, _, hc⟩ := touchEqW_struct h
    unfold readAnySome
    simp only [ge_of_lt_eq hl]
    by_cases hi : i < len
    · have hfs := hc hi (fun h => nomatch h)
      rw [structContent_anyLike hp] at hfs
      simp only [anyFields_agree fs fs' i hfs]
    · have : i ≥ len' := by have : ¬ i < len' := hl ▸ hi; omega
      simp only [this, if_true]
  | .list l v offs fm el, a', i, p, hp, h => by
    obtain ⟨l', v', offs', fm', el', rfl, _⟩ := touchEqW_list h
    obtain ⟨hrl, het, _⟩ := readsList_anyLike hp
    unfold readAnySome
    exact list_rows rfl hrl het h (fun el j => anyAt Fixes.all el (readAnySome Fixes.all el) j) _
      (fun j hj => anyAt_agree (p := .any) (by rw [← touchEq_any]; exact hj) (anySome_agree el el' j .any rfl))
  | .fixedSizeList len v n fm el, a', i, p, hp, h => by
    obtain ⟨len', v', fm', el', rfl, _⟩ := touchEqW_fsl h
    obtain ⟨_, _, het, _⟩ := readsList_anyLike hp
    unfold readAnySome
    exact fsl_rows rfl het h (fun el j => anyAt Fixes.all el (readAnySome Fixes.all el) j) _
      (fun j hj => anyAt_agree (p := .any) (by rw [← touchEq_any]; exact hj) (anySome_agree el el' j .any rfl))
  | .map v offs mm ks vs, a', i, p, hp, h => by
    obtain ⟨v', offs', mm', ks', vs', rfl, _⟩ := touchEqW_map h
    obtain ⟨_, _, _, het, _⟩ := readsList_anyLike hp
    unfold readAnySome
    refine map_rows rfl het h (fun ks vs j => do
      let k ← anyAt Fixes.all ks (readAnySome Fixes.all ks) j
      let v ← anyAt Fixes.all vs (readAnySome Fixes.all vs) j
      pure (k, v)) _ (fun j hk hv => ?_)
    rw [hk.elim (fun e => e ▸ rfl) fun hj => anyAt_agree (p := .any) (by rw [← touchEq_any]; exact hj) (anySome_agree ks ks' j .any rfl),
      hv.elim (fun e => e ▸ rfl) fun hj => anyAt_agree (p := .any) (by rw [← touchEq_any]; exact hj) (anySome_agree vs vs' j .any rfl)]
  | .union types offs fs, a', i, p, hp, h => by
    obtain ⟨types', offs', fs', rfl, hh, hlen, hvar⟩ := touchEqW_union h
    obtain ⟨_, _, _, _, hvt⟩ := readsList_anyLike hp
    unfold readAnySome
    rw [← unionSelect_congr hh, ← hlen]
    refine R.bind_congr_ok (fun r hr => ?_)
    obtain ⟨k, off⟩ := r
    obtain ⟨t, o, offv, ht, ho, hoff, h0, h1, hk, hof, _⟩ := unionSelect_parts hr
    have := hvar t o offv ht ho hoff h0 h1
    rw [← hk, ← hof, hvt] at this
    exact anyVariant_agree fs fs' k off this hlen
theorem anyFields_agree : ∀ (fs fs' : ArrFields) (i : Nat), allEq .any fs fs' i = true →
    readAnyFields Fixes.all fs i = readAnyFields Fixes.all fs' i
  | .nil, fs', i, h => by
    cases allEq_nil h
    rfl
  | .cons fm a r, fs', i, h => by
    obtain ⟨fm', a', r', rfl, hn, ha, hr⟩ := allEq_cons h
    unfold readAnyFields
    rw [anyAt_agree (p := .any) (by rw [← touchEq_any]; exact ha) (anySome_agree a a' i .any rfl),
      anyFields_agree r r' i hr, hn]
theorem anyVariant_agree : ∀ (fs fs' : ArrUFields) (k j : Nat), variantEq (fun _ => some .any) fs fs' k j = true →
    fs.length = fs'.length → readAnyVariant Fixes.all fs k j = readAnyVariant Fixes.all fs' k j
  | .nil, fs', _, _, _, hl => by
    cases fs' with
    | nil => rfl
    | cons _ _ _ _ => simp [ArrUFields.length] at hl
  | .cons _ fm a _, fs', 0, j, h, hl => by
    obtain ⟨tid', fm', a', r', rfl, hn, ha⟩ := variantEq_zero h
    unfold readAnyVariant
    rw [anyAt_agree (p := .any) (by rw [← touchEq_any]; exact ha .any rfl) (anySome_agree a a' j .any rfl), hn]
  | .cons _ _ _ r, fs', k + 1, j, h, hl => by
    obtain ⟨tid', fm', a', r', rfl, hr⟩ := variantEq_succ h
    unfold readAnyVariant
    exact anyVariant_agree r r' k j hr (by simp [ArrUFields.length] at hl; exact hl)
end

theorem readAny_agree {p : Target} (hp : isAnyLike p = true) {a a' : Arr} {i : Nat} (h : touchEqW true p a a' i = true) :
    readAny Fixes.all a i = readAny Fixes.all a' i :=
  anyAt_agree h (anySome_agree a a' i p hp)

end SaModel.Props.C17
