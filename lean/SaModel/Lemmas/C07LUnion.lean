import SaModel.Lemmas.C07LTuple
/-
C07, least-upper-bound argument — the union family (the four enum variant kinds): variant lists by position.
-/
namespace SaModel.Lemmas.C07
open SaModel SaModel.Trace SaModel.Props.C07

theorem vget_lt {vs : Variants} {j : Nat} {x : String × Tracer} (h : vget vs j = some x) : j < vs.length := by
  apply Nat.lt_of_not_le
  intro hle
  simp [vget, Vs.get?_none.mpr hle] at h

theorem vget_upd (vs : Variants) (i : Nat) (a : String) (t : Tracer) (j : Nat) :
    vget (upd vs i a t) j = if j = i then some (a, t) else vget vs j := by
  unfold vget
  rw [upd_get]
  by_cases h : j = i
  · simp [h]
  · simp only [h, if_false]
    unfold padGet
    by_cases h1 : j < vs.length
    · simp [h1]
    · rw [Vs.get?_none.mpr (Nat.le_of_not_lt h1)]
      simp only [h1, if_false]
      by_cases h2 : j < i + 1 <;> simp [h2]

theorem slot_vget (p : String) (vs : Variants) (i : Nat) (a : String) :
    slot p vs i a = match vget vs i with
      | some (prev, t) => if prev = a then some t else none
      | none => some (Tracer.new a (p ++ "." ++ a)) := by
  unfold slot padGet vget
  by_cases h1 : i < vs.length
  · simp only [h1, if_true]
    cases hg : vs.get? i with
    | none => have := Vs.get?_none.mp hg; omega
    | some x => cases x <;> rfl
  · rw [Vs.get?_none.mpr (Nat.le_of_not_lt h1)]
    have : i < i + 1 := by omega
    simp [h1, this]

theorem VK_upd {o : Options} {p : String} {A B : Variants} (h : VK o p A B) (i : Nat) (vn : String) {x' y' : Tracer}
    (hxy : TLe o x' y') : VK o p (upd A i vn x') (upd B i vn y') := by
  obtain ⟨hp, hf, hx⟩ := h
  refine ⟨?_, ?_, ?_⟩
  · intro j a x h1
    rw [vget_upd] at h1 ⊢
    by_cases hj : j = i
    · simp only [hj, if_true, Option.some.injEq, Prod.mk.injEq] at h1 ⊢
      exact ⟨y', h1.1, rfl⟩
    · simp only [hj, if_false] at h1 ⊢
      exact hp j a x h1
  · intro j a x b y h1 h2
    rw [vget_upd] at h1 h2
    by_cases hj : j = i
    · simp only [hj, if_true, Option.some.injEq, Prod.mk.injEq] at h1 h2
      rw [← h1.2, ← h2.2]; exact hxy
    · simp only [hj, if_false] at h1 h2
      exact hf j a x b y h1 h2
  · intro j b y h1 h2
    rw [vget_upd] at h1 h2
    by_cases hj : j = i
    · simp [hj] at h1
    · simp only [hj, if_false] at h1 h2
      exact hx j b y h1 h2

theorem new_le_inv {o : Options} {n p : String} {b : Tracer} (h : TLe o (Tracer.new n p) b) : ULe n p false b ∧ Canon b := by
  unfold Tracer.new at h
  cases h with
  | unk hu hc => exact ⟨hu, hc⟩

theorem VK_self_upd {o : Options} {p : String} {A : Variants} (wA : VWF o A) {i : Nat} {vn : String} {st x' : Tracer}
    (hs : slot p A i vn = some st) (hle : TLe o st x') : VK o p A (upd A i vn x') := by
  rw [slot_vget] at hs
  refine ⟨?_, ?_, ?_⟩
  · intro j a x h1
    rw [vget_upd]
    by_cases hj : j = i
    · subst hj
      rw [h1] at hs
      simp only at hs
      by_cases ha : a = vn
      · simp [ha]
      · simp [ha] at hs
    · simp only [hj, if_false]; exact ⟨x, h1⟩
  · intro j a x b y h1 h2
    rw [vget_upd] at h2
    by_cases hj : j = i
    · subst hj
      rw [h1] at hs
      simp only [if_true, Option.some.injEq, Prod.mk.injEq] at hs h2
      by_cases ha : a = vn
      · simp only [ha, if_true, Option.some.injEq] at hs
        rw [hs, ← h2.2]; exact hle
      · simp [ha] at hs
    · simp only [hj, if_false] at h2
      rw [h1] at h2
      simp only [Option.some.injEq, Prod.mk.injEq] at h2
      rw [← h2.2]
      exact TLe_refl o x (vget_wf wA h1)
  · intro j b y h1 h2
    rw [vget_upd] at h2
    by_cases hj : j = i
    · subst hj
      rw [h1] at hs
      simp only [if_true, Option.some.injEq, Prod.mk.injEq] at hs h2
      rw [← hs] at hle
      rw [← h2.1, ← h2.2]
      exact new_le_inv hle
    · simp only [hj, if_false] at h2
      rw [h1] at h2; cases h2

theorem VK_upd_self {o : Options} {p : String} {B : Variants} (wB : VWF o B) {i : Nat} {vn : String} {y y' : Tracer}
    (hb : vget B i = some (vn, y)) (hle : TLe o y' y) : VK o p (upd B i vn y') B := by
  refine ⟨?_, ?_, ?_⟩
  · intro j a x h1
    rw [vget_upd] at h1
    by_cases hj : j = i
    · simp only [hj, if_true, Option.some.injEq, Prod.mk.injEq] at h1
      rw [hj, ← h1.1]; exact ⟨y, hb⟩
    · simp only [hj, if_false] at h1; exact ⟨x, h1⟩
  · intro j a x b z h1 h2
    rw [vget_upd] at h1
    by_cases hj : j = i
    · simp only [hj, if_true, Option.some.injEq, Prod.mk.injEq] at h1
      rw [hj, hb] at h2
      simp only [Option.some.injEq, Prod.mk.injEq] at h2
      rw [← h1.2, ← h2.2]; exact hle
    · simp only [hj, if_false] at h1
      rw [h1] at h2
      simp only [Option.some.injEq, Prod.mk.injEq] at h2
      rw [← h2.2]
      exact TLe_refl o x (vget_wf wB h1)
  · intro j b z h1 h2
    rw [vget_upd] at h1
    by_cases hj : j = i
    · simp [hj] at h1
    · simp only [hj, if_false] at h1
      rw [h1] at h2; cases h2

theorem slot_le {o : Options} {p : String} {A B : Variants} (h : VK o p A B) {i : Nat} {vn : String} {st su : Tracer}
    (hs : slot p A i vn = some st) (hs' : slot p B i vn = some su) : TLe o st su := by
  obtain ⟨hp, hf, hx⟩ := h
  rw [slot_vget] at hs hs'
  cases va : vget A i with
  | none =>
    rw [va] at hs
    simp only [Option.some.injEq] at hs
    cases vb : vget B i with
    | none =>
      rw [vb] at hs'
      simp only [Option.some.injEq] at hs'
      rw [← hs, ← hs']
      exact .unk ⟨rfl, rfl, nofun⟩ .unknown
    | some by' =>
      obtain ⟨b, y⟩ := by'
      rw [vb] at hs'
      simp only at hs'
      by_cases hb : b = vn
      · simp only [hb, if_true, Option.some.injEq] at hs'
        obtain ⟨u1, u2⟩ := hx i b y va vb
        rw [← hs, ← hs', ← hb]
        exact .unk u1 u2
      · simp [hb] at hs'
  | some ax =>
    obtain ⟨a, x⟩ := ax
    rw [va] at hs
    simp only at hs
    by_cases ha : a = vn
    · simp only [ha, if_true, Option.some.injEq] at hs
      obtain ⟨y, vb⟩ := hp i a x va
      rw [vb] at hs'
      simp only [ha, if_true, Option.some.injEq] at hs'
      rw [← hs, ← hs']
      exact hf i a x a y va vb
    · simp [ha] at hs

theorem slot_down {o : Options} {p : String} {A B : Variants} (h : VK o p A B) {i : Nat} {vn : String} {su : Tracer}
    (hs : slot p B i vn = some su) : ∃ st, slot p A i vn = some st := by
  rw [slot_vget] at hs ⊢
  cases va : vget A i with
  | none => exact ⟨_, rfl⟩
  | some ax =>
    obtain ⟨y, vb⟩ := h.1 i ax.1 ax.2 va
    rw [vb] at hs
    simp only at hs ⊢
    split at hs
    · rename_i ha; rw [if_pos ha]; exact ⟨_, rfl⟩
    · cases hs

theorem ensure_union_le {o : Options} {t u : Tracer} {n p : String} {nl : Bool} {B : Variants} (htu : TLe o t u)
    (g : u.ensure_union [] = .ok (.union n p nl B)) :
    ∃ nl0 A, t.ensure_union [] = .ok (.union n p nl0 A) ∧ (nl0 = true → nl = true) ∧ A.length ≤ B.length ∧ VK o p A B := by
  obtain ⟨hdu, hcu⟩ := ensure_union_inv g
  have hdt := (depthOk_le htu).mp hdu
  have vk0 : ∀ {p : String} {B : Variants}, (∀ j b y, vget B j = some (b, y) → ULe b (p ++ "." ++ b) false y ∧ Canon y) →
      VK o p .nil B := fun hB =>
    ⟨fun j a x h1 => (by rw [vget_nil] at h1; cases h1), fun j a x b y h1 => (by rw [vget_nil] at h1; cases h1),
      fun j b y _ h2 => hB j b y h2⟩
  by_cases hu : t.is_unknown_or_null = true
  · obtain ⟨ule, hcan⟩ := unknownish_le hu htu
    rcases hcu with ⟨_, e⟩ | ⟨_, _, _, _, rfl, e⟩ <;> cases e
    · rw [ule.1, ule.2.1]
      exact ⟨_, _, ensure_union_fresh hdt hu, ule.2.2, Nat.le_refl _, vk0 fun j b y h => by rw [vget_nil] at h; cases h⟩
    · obtain ⟨rfl, rfl, hn⟩ := ule
      cases hcan with
      | union hu' hc' =>
        exact ⟨_, _, ensure_union_fresh hdt hu, hn, Nat.zero_le _, vk0 fun j b y h => ⟨hu' j b y h, hc' j b y h⟩⟩
  · rcases hcu with ⟨hu', _⟩ | ⟨_, _, _, _, rfl, e⟩
    · exact absurd (unknownish_down htu hu') hu
    · cases e
      cases htu with
      | unk _ _ => exact absurd rfl hu
      | null _ _ _ => exact absurd rfl hu
      | union hn hlen h1 h2 h3 => exact ⟨_, _, ensure_union_same hdt, hn, hlen, h1, h2, h3⟩

theorem lub_union {o : Options} {x : SVal} {idx : Nat} {vn : String} {payload : SVal}
    (hx : UnionFam o x idx vn payload) (hp : Lub o payload) : Lub o x := by
  intro t u a wt wu htu h
  obtain ⟨n, p, nl, A, st, vt', e1, hl, hs, ha, rfl⟩ := (hx.ok _ _).mp h
  obtain ⟨wA, hd, hcase⟩ := ensure_union_facts wt e1
  have wst := slot_wf wA hs
  have wvt' := absorb_wf o wst ha
  have L0 := (hp st st vt' wst wst (TLe_refl o _ wst) ha).1
  have hu1 : ∀ n' p' nl' B, u.ensure_union [] = .ok (.union n' p' nl' B) →
      n' = n ∧ p' = p ∧ (nl = true → nl' = true) ∧ VWF o B ∧ A.length ≤ B.length ∧ VK o p A B := by
    intro n' p' nl' B e
    obtain ⟨_, _, e', hn, hlen, vk⟩ := ensure_union_le htu e
    rw [e1] at e'; cases e'
    exact ⟨rfl, rfl, hn, (ensure_union_facts wu e).1, hlen, vk⟩
  refine ⟨?_, ?_, ?_⟩
  · obtain ⟨_, hct⟩ := ensure_union_inv e1
    rcases hct with ⟨hu, e2⟩ | ⟨n0, p0, nl0, A0, rfl, e2⟩
    · cases e2
      have hst : st = Tracer.new vn (t.path ++ "." ++ vn) := by
        rw [slot_vget, vget_nil] at hs
        simp only [Option.some.injEq] at hs
        exact hs.symm
      rw [hst] at L0
      obtain ⟨u1, u2⟩ := new_le_inv L0
      refine unknownish_le_mk wt hu rfl ⟨rfl, rfl, id⟩ (.union ?_ ?_)
      · intro j a b hb
        rw [vget_upd, vget_nil] at hb
        by_cases hj : j = idx
        · simp only [hj, if_true, Option.some.injEq, Prod.mk.injEq] at hb
          rw [← hb.1, ← hb.2]; exact u1
        · simp [hj] at hb
      · intro j a b hb
        rw [vget_upd, vget_nil] at hb
        by_cases hj : j = idx
        · simp only [hj, if_true, Option.some.injEq, Prod.mk.injEq] at hb
          rw [← hb.2]; exact u2
        · simp [hj] at hb
    · cases e2
      obtain ⟨h1, h2, h3⟩ := VK_self_upd (p := p) wA hs L0
      exact .union id (by rw [upd_length]; omega) h1 h2 h3
  · intro b hb
    obtain ⟨n', p', nl', B, su, vu', g1, _, gs, ga, rfl⟩ := (hx.ok _ _).mp hb
    obtain ⟨rfl, rfl, hn, wB, hlen, vk⟩ := hu1 _ _ _ _ g1
    have hsu := slot_le vk hs gs
    have L := (hp st su vt' wst (slot_wf wB gs) hsu ha).2.1 vu' ga
    obtain ⟨h1, h2, h3⟩ := VK_upd vk idx vn L
    exact .union hn (by rw [upd_length, upd_length]; omega) h1 h2 h3
  · intro hau
    cases hau with
    | @union _ _ _ nl'' _ B hn hlen h1 h2 h3 =>
      have hdu : depthOk (.union n p nl'' B) := (depthOk_path (a := .union n p nl A) rfl).mpr (hd _)
      have g1 := ensure_union_same hdu
      obtain ⟨_, _, _, wB, _, vk⟩ := hu1 _ _ _ _ g1
      have hv : vget (upd A idx vn vt') idx = some (vn, vt') := by rw [vget_upd]; simp
      obtain ⟨y, hy⟩ := h1 idx vn vt' hv
      have hvy := h2 idx vn vt' vn y hv hy
      have gs : slot p B idx vn = some y := by rw [slot_vget, hy]; simp
      have hsy := slot_le vk hs gs
      have wy := vget_wf wB hy
      obtain ⟨vu', ga, gle⟩ := (hp st y vt' wst wy hsy ha).2.2 hvy
      refine ⟨_, (hx.ok _ _).mpr ⟨n, p, nl'', B, y, vu', g1, hl, gs, ga, rfl⟩, ?_⟩
      obtain ⟨k1, k2, k3⟩ := VK_upd_self (p := p) wB hy gle
      have := vget_lt hy
      exact .union id (by rw [upd_length]; omega) k1 k2 k3

end SaModel.Lemmas.C07
