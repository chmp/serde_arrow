import SaModel.Lemmas.C12TypedLeaf
import SaModel.Read.Annot
/-
C12 helpers: the ANNOTATED `deserialize_any` (`Read.readAnyA`, C18) on a slice, proved DIRECTLY by recursion over the
array (not through C02's `read_any_decode`): an equality of outcomes — it also covers slots whose read fails, and needs
neither `decodeAt … = ok` nor UTF-8 validity.  The annotation a reader writes (`rann p a`: its path and its `data_type`
label) does not depend on the row and is not changed by `slice`, so the annotated outcomes agree exactly: value, `Err`
WITH its annotations, unwind.  The un-annotated `deserialize_any` follows by erasing the annotations (`C12Typed.lean`).
-/
namespace SaModel.Lemmas.C12
open SaModel SaModel.Read SaModel.Spec

theorem succ_mul_sub (i n : Nat) : (i + 1) * n - i * n = n := by
  rw [Nat.succ_mul, Nat.add_sub_cancel_left]

/-- rows `i` of the slice and `o + i` of the whole FixedSizeList: `n` child slots each, starting at `i·n` resp. `o·n + i·n` -/
theorem fslRange_slice (fx : Fixes) {len : Nat} {v : Option Bits} {n : Int} {fm : FieldMeta} {el : Arr} {o l i : Nat}
    (hi : i < l) (h : SliceOK fx (.fixedSizeList len v n fm el) o l) :
    fslRange fx l n i = .ok (i * n.toNat, (i + 1) * n.toNat) ∧
    fslRange fx len n (o + i) = .ok ((o + i) * n.toNat, (o + i + 1) * n.toNat) ∧
    (∀ j, j < n.toNat → i * n.toNat + j < l * n.toNat ∧ (o + i) * n.toNat + j = o * n.toNat + (i * n.toNat + j)) := by
  obtain ⟨_, h0, hb, hu⟩ := h.fsl
  have m1 : (o + i + 1) * n.toNat ≤ len * n.toNat := Nat.mul_le_mul_right _ (by omega)
  have m2 : (i + 1) * n.toNat ≤ (o + i + 1) * n.toNat := Nat.mul_le_mul_right _ (by omega)
  have m3 : (i + 1) * n.toNat ≤ l * n.toNat := Nat.mul_le_mul_right _ (by omega)
  refine ⟨fslRange_eq fx l n i hi h0 (by omega), fslRange_eq fx len n (o + i) (by omega) h0 (by omega), ?_⟩
  intro j hj
  rw [Nat.succ_mul] at m3
  rw [Nat.add_mul]
  omega

/-- the `data_type` label depends only on the constructor / `large` flag / type tag, none of which `slice` touches -/
theorem rlabel_slice (a : Arr) (o l : Nat) : rlabel (sliceView a o l) = rlabel a := by
  cases a with
  | union types offs fs => cases offs <;> simp only [sliceView, rlabel]
  | _ => simp only [sliceView, rlabel]

theorem rann_slice (p : String) (a : Arr) (o l : Nat) : rann p (sliceView a o l) = rann p a := by
  simp only [rann, rlabel_slice]

/-- `deserialize_any` of an array without children: `is_some` and `deserialize_any_some` through the one getter -/
theorem readAny_leaf_slice (fx : Fixes) (a : Arr) (o l i : Nat) (hi : i < l) (h : SliceOK fx a o l) (hc : childless a = true) :
    readAny fx (sliceView a o l) i = readAny fx a (o + i) := by
  have hs := leafSim_slice fx a o l i hi h hc
  unfold readAny anyAt
  rw [hs.isSome, hs.anySome]

mutual
theorem readAnyA_slice' (fx : Fixes) : ∀ (a : Arr) (p : String) (o l i : Nat), i < l → SliceOK fx a o l →
    readAnyA fx p (sliceView a o l) i = readAnyA fx p a (o + i)
  -- the kinds without a reader of their own below them: `ctx` around the un-annotated read
  | .null _, p, o, l, i, hi, h | .boolean _ _ _, p, o, l, i, hi, h | .prim _ _ _, p, o, l, i, hi, h
  | .time _ _ _ _, p, o, l, i, hi, h | .timestamp _ _ _ _, p, o, l, i, hi, h | .decimal128 _ _ _ _, p, o, l, i, hi, h
  | .bytes _ _ _ _, p, o, l, i, hi, h | .bytesView _ _ _ _, p, o, l, i, hi, h | .fixedSizeBinary _ _ _, p, o, l, i, hi, h
  | .dictionary _ _, p, o, l, i, hi, h => by
    have hr := readAny_leaf_slice fx _ o l i hi h rfl
    simp only [sliceView] at hr ⊢
    simp only [readAnyA, hr, rann, rlabel]
  | .struct len v fs, p, o, l, i, hi, h => by
    have hb := h.1; simp only [lenOf] at hb
    have c1 : ¬ i ≥ l := by omega
    have c2 : ¬ o + i ≥ len := by omega
    have his := isSome_slice fx (.struct len v fs) o l i hi h
    simp only [sliceView] at his
    simp only [sliceView, readAnyA, anyAt, his, rann, rlabel, c1, c2, if_false,
      readAnyFieldsA_slice fx fs p len o l i hi h.struct]
  | .list lg v offs fm el, p, o, l, i, hi, h => by
    have hb := h.1; simp only [lenOf] at hb
    have his := isSome_slice fx (.list lg v offs fm el) o l i hi h
    simp only [sliceView] at his
    simp only [sliceView, readAnyA, anyAt, his, rann, rlabel, listRange_window fx offs o l i hi hb]
  | .fixedSizeList len v n fm el, p, o, l, i, hi, h => by
    obtain ⟨e1, e2, hj⟩ := fslRange_slice fx hi h
    have hel := h.fsl.1
    have his := isSome_slice fx (.fixedSizeList len v n fm el) o l i hi h
    simp only [sliceView] at his
    have hr : readRange (readAnyA fx (rchild p fm.name) (sliceView el (o * n.toNat) (l * n.toNat))) (i * n.toNat) n.toNat
        = readRange (readAnyA fx (rchild p fm.name) el) ((o + i) * n.toNat) n.toNat := by
      apply readRange_congr
      intro j hjn
      obtain ⟨j1, j2⟩ := hj j hjn
      rw [j2]
      exact readAnyA_slice' fx el _ _ _ _ j1 hel
    simp only [sliceView, readAnyA, anyAt, his, rann, rlabel, e1, e2, bind, Except.bind, succ_mul_sub, hr]
  | .map v offs mm ks vs, p, o, l, i, hi, h => by
    have hb := h.1; simp only [lenOf] at hb
    have his := isSome_slice fx (.map v offs mm ks vs) o l i hi h
    simp only [sliceView] at his
    simp only [sliceView, readAnyA, anyAt, his, rann, rlabel, listRange_window fx offs o l i hi hb]
  | .union types offs fs, p, o, l, i, hi, h => by
    have hb := h.1; simp only [lenOf] at hb
    cases offs with
    | none => have := h.2.2.1; simp only [new] at this; cases this
    | some ofs =>
      have his := isSome_slice fx (.union types (some ofs) fs) o l i hi h
      simp only [sliceView] at his
      simp only [sliceView, readAnyA, anyAt, his, rann, rlabel,
        unionSelect_window fx types ofs fs.length o l i hi hb (new_union_lens h.2.2.1)]
theorem readAnyFieldsA_slice (fx : Fixes) : ∀ (fs : ArrFields) (p : String) (len o l i : Nat), i < l →
    FieldsOK fx fs len o l → readAnyFieldsA fx p (sliceFields fs o l) i = readAnyFieldsA fx p fs (o + i)
  | .nil, _, _, _, _, _, _, _ => by simp only [sliceFields, readAnyFieldsA]
  | .cons fm a r, p, len, o, l, i, hi, h => by
    obtain ⟨ha, hr⟩ := h.cons
    simp only [sliceFields, readAnyFieldsA, readAnyA_slice' fx a (rchild p fm.name) o l i hi ha,
      readAnyFieldsA_slice fx r p len o l i hi hr]
end

/-- annotated `deserialize_any` of slot `i` of the slice = of slot `o + i` of the whole array: the same value, the same
`Err` with the same annotations, the same unwind -/
theorem readAnyA_slice (fx : Fixes) (p : String) (a : Arr) (o l i : Nat) (hi : i < l) (h : SliceOK fx a o l) :
    readAnyA fx p (sliceView a o l) i = readAnyA fx p a (o + i) :=
  readAnyA_slice' fx a p o l i hi h

end SaModel.Lemmas.C12
