import SaModel.Lemmas.C03Decode
import SaModel.Lemmas.C01ObsAlg
/-
`finish_decode` (Lemmas/C03ObsFinish.lean): the array a builder finishes into MEANS exactly what its state holds:

    WFB b → Faithful b → finish ext b = ok a → decodeAll a = (dec b).map ok

by structural recursion over the builder tree (`B` / `BL` are mutual inductives; the recursion itself is `finish_decodePH`,
Lemmas/C03Assemble.lean, here is one level of each builder family).  `Faithful` excludes the two
places where the statement is false of the code (both recorded, see notes/C03.md):
  * `FixedSizeBinary(0)` with rows: the finished array has lost its length;
  * dictionary rows that hold the dummy key 0 without any dictionary value (only ever written into slots hidden
    under a null parent): `into_array` appends a placeholder value, so the finished slot reads "" while the state
    (`dec`) reads null.
-/
namespace SaModel.Lemmas.C03
open SaModel SaModel.Build SaModel.Spec SaModel.Lemmas.Bits

/-! ### accessors of the state invariant

The recursion over the builder tree is done once, for the weak invariant `WFH` (Lemmas/C01ObsDefs.lean); the strict `WFB`
enters through `Build.WFH_of_WFB`.  Nothing below looks inside `WFH` / `WFB` except these. -/

theorem WFH_leaf {p k v vals} (h : WFH (.leaf p k v vals)) : VLen v vals.length := by
  simp only [WFH] at h; exact h
theorem WFH_bytes {p ty v offs data} (h : WFH (.bytes p ty v offs data)) :
    OffsOK offs data.length ∧ VLen v (offs.length - 1) := by
  simp only [WFH] at h; exact ⟨h.1, h.2⟩
theorem WFH_bytesView {p ty v views buf} (h : WFH (.bytesView p ty v views buf)) :
    VLen v views.length ∧ ∀ d ∈ views, (decodeView [buf] d).isOk = true := by
  simp only [WFH] at h; exact ⟨h.1, h.2.1⟩
theorem WFH_fixedSizeBinary {p n len v buf cur} (h : WFH (.fixedSizeBinary p n len v buf cur)) :
    VLen v len ∧ buf.length = len * n := by
  simp only [WFH] at h; exact ⟨h.1, h.2⟩
theorem WFH_list {p large fm v offs el} (h : WFH (.list p large fm v offs el)) :
    OffsOK offs (dec el).length ∧ VLen v (offs.length - 1) ∧ WFH el := by
  simp only [WFH] at h; exact ⟨h.1, h.2.1, h.2.2⟩
theorem WFH_fixedSizeList {p fm n len v cur el} (h : WFH (.fixedSizeList p fm n len v cur el)) :
    VLen v len ∧ (dec el).length = len * n ∧ WFH el := by
  simp only [WFH] at h; exact ⟨h.1, h.2.1, h.2.2⟩
theorem WFH_map {p mm v offs ks vs} (h : WFH (.map p mm v offs ks vs)) :
    OffsOK offs (dec ks).length ∧ (dec vs).length = (dec ks).length ∧ VLen v (offs.length - 1) ∧ WFH ks ∧ WFH vs := by
  simp only [WFH] at h; exact ⟨h.1, h.2.1, h.2.2.1, h.2.2.2.1, h.2.2.2.2⟩
theorem WFH_struct {p len v fs cached next seen} (h : WFH (.struct p len v fs cached next seen)) :
    VLen v len ∧ WFHL fs len := by
  simp only [WFH] at h; exact ⟨h.1, h.2.1⟩
theorem WFH_dictionary {p idx vals index} (h : WFH (.dictionary p idx vals index)) :
    WFH idx ∧ WFH vals ∧ (dec vals).length = index.length := by
  simp only [WFH] at h; exact ⟨h.1, h.2.1, h.2.2.2.1⟩
/-- the values of a dictionary are all determined -/
theorem WFH_dictionary_det {p idx vals index} (h : WFH (.dictionary p idx vals index)) :
    ∀ r ∈ decH vals, r.isSome = true := by
  simp only [WFH] at h; exact h.2.2.2.2.2.2
theorem WFH_dictionary_keys {p idx vals index} (h : WFH (.dictionary p idx vals index)) : KeysH idx index := by
  simp only [WFH] at h; exact h.2.2.2.2.1

theorem mem_zip_of_getElem? {α β} (xs : List α) (ys : List β) (i : Nat) (x : α) (y : β)
    (hx : xs[i]? = some x) (hy : ys[i]? = some y) : (x, y) ∈ xs.zip ys := by
  rw [List.mem_iff_getElem?]
  exact ⟨i, by simp [List.getElem?_zip_eq_some, hx, hy]⟩

/-- the union clause by index instead of over `types.zip offs` -/
theorem WFH_union {p fs types offs cur} (h : WFH (.union p fs types offs cur)) :
    types.length = offs.length ∧ WFHU fs cur ∧
    (∀ (i : Nat) (t o : Int), types[i]? = some t → offs[i]? = some o →
      0 ≤ t ∧ 0 ≤ o ∧ ∃ c, fs.get? t.toNat = some c ∧ o.toNat < (dec c.1).length) := by
  simp only [WFH] at h
  exact ⟨h.1, h.2.2.1, fun i t o ht ho => h.2.2.2 (t, o) (mem_zip_of_getElem? types offs i t o ht ho)⟩

def WFHs : BL → Prop
  | .nil => True
  | .cons b _ r => WFH b ∧ WFHs r

theorem WFHL_WFHs : ∀ (fs : BL) (len : Nat), WFHL fs len → WFHs fs
  | .nil => fun _ _ => trivial
  | .cons _ _ r => fun len h => by
    simp only [WFHL] at h
    exact ⟨h.1, WFHL_WFHs r len h.2.2⟩

theorem WFHU_WFHs : ∀ (fs : BL) (cur : List Int), WFHU fs cur → WFHs fs
  | .nil => fun _ _ => trivial
  | .cons _ _ r => fun cur h => by
    simp only [WFHU] at h
    exact ⟨h.1, WFHU_WFHs r cur.tail h.2.2⟩

theorem WFHL_len : ∀ (fs : BL) (len : Nat), WFHL fs len → ∀ c ∈ decCols fs, c.2.length = len
  | .nil => fun _ _ => by simp [decCols]
  | .cons b m r => fun len h => by
    simp only [WFHL] at h
    intro c hc
    simp only [decCols, List.mem_cons] at hc
    rcases hc with hc | hc
    · rw [hc]; exact h.2.1
    · exact WFHL_len r len h.2.2 c hc

theorem WFB_leaf {p k v vals} (h : WFB (.leaf p k v vals)) : VLen v vals.length := WFH_leaf (WFH_of_WFB _ h)
theorem WFB_bytes {p ty v offs data} (h : WFB (.bytes p ty v offs data)) :
    OffsOK offs data.length ∧ VLen v (offs.length - 1) := WFH_bytes (WFH_of_WFB _ h)
theorem WFB_bytesView {p ty v views buf} (h : WFB (.bytesView p ty v views buf)) :
    VLen v views.length ∧ ∀ d ∈ views, (decodeView [buf] d).isOk = true := WFH_bytesView (WFH_of_WFB _ h)
theorem WFB_fixedSizeBinary {p n len v buf cur} (h : WFB (.fixedSizeBinary p n len v buf cur)) :
    VLen v len ∧ buf.length = len * n := WFH_fixedSizeBinary (WFH_of_WFB _ h)
theorem WFB_list {p large fm v offs el} (h : WFB (.list p large fm v offs el)) : WFB el := by
  simp only [WFB] at h; exact h.2.2
theorem WFB_fixedSizeList {p fm n len v cur el} (h : WFB (.fixedSizeList p fm n len v cur el)) : WFB el := by
  simp only [WFB] at h; exact h.2.2
theorem WFB_map {p mm v offs ks vs} (h : WFB (.map p mm v offs ks vs)) : WFB ks ∧ WFB vs := by
  simp only [WFB] at h; exact h.2.2.2
theorem WFB_struct {p len v fs cached next seen} (h : WFB (.struct p len v fs cached next seen)) :
    VLen v len ∧ WFL fs len := by
  simp only [WFB] at h; exact ⟨h.1, h.2.1⟩
theorem WFB_dictionary {p idx vals index} (h : WFB (.dictionary p idx vals index)) :
    WFB idx ∧ WFB vals ∧ (dec vals).length = index.length := by
  simp only [WFB] at h; exact ⟨h.1, h.2.1, h.2.2.2.1⟩
theorem WFB_union {p fs types offs cur} (h : WFB (.union p fs types offs cur)) : WFU fs cur := by
  simp only [WFB] at h; exact h.2.2.1

def WFBs : BL → Prop
  | .nil => True
  | .cons b _ r => WFB b ∧ WFBs r

theorem WFL_WFBs : ∀ (fs : BL) (len : Nat), WFL fs len → WFBs fs
  | .nil => fun _ _ => trivial
  | .cons _ _ r => fun len h => by
    simp only [WFL] at h
    exact ⟨h.1, WFL_WFBs r len h.2.2⟩

theorem WFU_WFBs : ∀ (fs : BL) (cur : List Int), WFU fs cur → WFBs fs
  | .nil => fun _ _ => trivial
  | .cons _ _ r => fun cur h => by
    simp only [WFU] at h
    exact ⟨h.1, WFU_WFBs r cur.tail h.2.2⟩

theorem WFHs_of_WFBs : ∀ (fs : BL), WFBs fs → WFHs fs
  | .nil => fun _ => trivial
  | .cons b _ r => fun h => ⟨WFH_of_WFB b h.1, WFHs_of_WFBs r h.2⟩

theorem WFL_len : ∀ (fs : BL) (len : Nat), WFL fs len → ∀ c ∈ decCols fs, c.2.length = len :=
  fun fs len h => WFHL_len fs len (WFHL_of_WFL fs len h)

theorem decCols_get? : ∀ (fs : BL) (k : Nat) (c : B × FieldMeta), fs.get? k = some c →
    (decCols fs)[k]? = some (c.2.name, dec c.1)
  | .nil, _, _, h => by simp [BL.get?] at h
  | .cons b m r, 0, c, h => by
    simp only [BL.get?, Option.some.injEq] at h
    subst h; simp [decCols]
  | .cons b m r, k + 1, c, h => by
    simp only [BL.get?] at h
    simp only [decCols, List.getElem?_cons_succ]
    exact decCols_get? r k c h

theorem decCols_length : ∀ (fs : BL), (decCols fs).length = fs.length
  | .nil => rfl
  | .cons _ _ r => by simp [decCols, BL.length, decCols_length r]

/-! ### `finish` read backwards: what a successful `into_array` returned, one lemma per builder family

Every recursion over `finish` (`finish_decodePH`, `finish_wfH`, `Sound_of_finishH`, `finish_sized`) starts from these. -/

/-- what a fresh root has and every accepted row keeps holds of the root after the run -/
theorem runRows_induct {ext : Ext} {fields : List Field} {rows : List SVal} {root : B} {P : B → Prop}
    (h : runRows ext fields rows = .ok root) (h0 : ∀ r0, newRoot fields = .ok r0 → P r0)
    (hs : ∀ x ∈ rows, ∀ b b', push ext b x = .ok b' → P b → P b') : P root := by
  obtain ⟨r0, hr, h⟩ := R.bind_ok_inv h
  exact R.foldlM_induct (P := fun l b b' => (∀ x ∈ l, ∀ b b', push ext b x = .ok b' → P b → P b') → P b → P b')
    (fun _ _ hp => hp)
    (fun x _ b b1 _ h1 _ ih hl hp =>
      ih (fun y hy => hl y (List.mem_cons_of_mem _ hy)) (hl x (List.mem_cons_self ..) b b1 h1 hp))
    rows r0 root h hs (h0 r0 hr)

/-- the condition under which `into_array` pushes the placeholder `""` into the values builder -/
def needsPlaceholder (idx : B) (index : List String) : Bool := !idx.isNullable && idx.rows != 0 && index.isEmpty

theorem finish_null (ext : Ext) (p : String) (len : Nat) : finish ext (.null p len) = .ok (.null len) := by
  simp only [finish]
theorem finish_unknownVariant (ext : Ext) (p : String) : finish ext (.unknownVariant p) = .ok (.null 0) := by
  simp only [finish]
theorem finish_leaf (ext : Ext) (p : String) (k : LeafKind) (v : Validity) (vals : List Int) :
    finish ext (.leaf p k v vals) = .ok (finishLeaf k v vals) := by simp only [finish]
theorem finish_bytes (ext : Ext) (p : String) (ty : BytesTy) (v : Validity) (offs : List Int) (data : Bytes) :
    finish ext (.bytes p ty v offs data) = .ok (.bytes ty (finishValidity v) offs data) := by simp only [finish]
theorem finish_bytesView (ext : Ext) (p : String) (ty : ViewTy) (v : Validity) (views : List Nat) (buf : Bytes) :
    finish ext (.bytesView p ty v views buf) = .ok (.bytesView ty (finishValidity v) views [buf]) := by simp only [finish]

theorem finish_fixedSizeBinary_inv {ext p n len v buf c a} (h : finish ext (.fixedSizeBinary p n len v buf c) = .ok a) :
    a = .fixedSizeBinary n (finishValidity v) buf := by
  simp only [finish] at h
  split at h <;> cases h
  rfl

theorem finish_list_inv {ext p large fm v offs el a} (h : finish ext (.list p large fm v offs el) = .ok a) :
    ∃ ela, finish ext el = .ok ela ∧ a = .list large (finishValidity v) offs fm ela := by
  simp only [finish] at h
  obtain ⟨ela, he, h⟩ := R.bind_ok_inv h
  cases h; exact ⟨ela, he, rfl⟩

theorem finish_fixedSizeList_inv {ext p fm n len v c el a} (h : finish ext (.fixedSizeList p fm n len v c el) = .ok a) :
    ∃ ela, finish ext el = .ok ela ∧ a = .fixedSizeList len (finishValidity v) n fm ela := by
  simp only [finish] at h
  split at h
  · cases h
  · obtain ⟨ela, he, h⟩ := R.bind_ok_inv h
    cases h; exact ⟨ela, he, rfl⟩

theorem finish_map_inv {ext p mm v offs ks vs a} (h : finish ext (.map p mm v offs ks vs) = .ok a) :
    ∃ ka va, finish ext ks = .ok ka ∧ finish ext vs = .ok va ∧ a = .map (finishValidity v) offs mm ka va := by
  simp only [finish] at h
  obtain ⟨ka, hk, h⟩ := R.bind_ok_inv h
  obtain ⟨va, hv, h⟩ := R.bind_ok_inv h
  cases h; exact ⟨ka, va, hk, hv, rfl⟩

theorem finish_struct_inv {ext p len v fs c n s a} (h : finish ext (.struct p len v fs c n s) = .ok a) :
    ∃ afs, finishFields ext fs = .ok afs ∧ a = .struct len (finishValidity v) afs := by
  simp only [finish] at h
  obtain ⟨afs, hf, h⟩ := R.bind_ok_inv h
  cases h; exact ⟨afs, hf, rfl⟩

/-- a dictionary: keys and values finish; where the placeholder is needed `serialize_str("")` into the values succeeded and
the values array has gained that row -/
theorem finish_dictionary_inv {ext p idx vals index a} (h : finish ext (.dictionary p idx vals index) = .ok a) :
    ∃ ka va, finish ext idx = .ok ka ∧ finish ext vals = .ok va ∧
      ((needsPlaceholder idx index = true ∧ (∃ v', pushScalar ext vals (.str "") = .ok v') ∧
          a = .dictionary ka (appendEmptyStr va)) ∨
        (needsPlaceholder idx index = false ∧ a = .dictionary ka va)) := by
  simp only [finish] at h
  obtain ⟨ka, hk, h⟩ := R.bind_ok_inv h
  obtain ⟨va, hv, h⟩ := R.bind_ok_inv h
  refine ⟨ka, va, hk, hv, ?_⟩
  split at h
  · rename_i hc
    obtain ⟨v', hp, h⟩ := R.bind_ok_inv h
    cases h
    exact Or.inl ⟨hc, ⟨v', by unfold ctx at hp; split at hp <;> first | exact hp | cases hp⟩, rfl⟩
  · rename_i hc
    cases h
    exact Or.inr ⟨by simpa [needsPlaceholder] using hc, rfl⟩

theorem finish_union_inv {ext p fs types offs cur a} (h : finish ext (.union p fs types offs cur) = .ok a) :
    ∃ afs, finishUFields ext fs 0 = .ok afs ∧ a = .union types (some offs) afs := by
  simp only [finish] at h
  obtain ⟨afs, hf, h⟩ := R.bind_ok_inv h
  cases h; exact ⟨afs, hf, rfl⟩

theorem finishFields_nil (ext : Ext) : finishFields ext .nil = .ok .nil := by simp only [finishFields]
theorem finishUFields_nil (ext : Ext) (k : Nat) : finishUFields ext .nil k = .ok .nil := by simp only [finishUFields]

theorem finishFields_cons_inv {ext b m rest afs} (h : finishFields ext (.cons b m rest) = .ok afs) :
    ∃ a ar, finish ext b = .ok a ∧ finishFields ext rest = .ok ar ∧ afs = .cons m a ar := by
  simp only [finishFields] at h
  obtain ⟨a, ha, h⟩ := R.bind_ok_inv h
  obtain ⟨ar, hr, h⟩ := R.bind_ok_inv h
  cases h; exact ⟨a, ar, ha, hr, rfl⟩

theorem finishUFields_cons_inv {ext b m rest k afs} (h : finishUFields ext (.cons b m rest) k = .ok afs) :
    ∃ a ar, finish ext b = .ok a ∧ finishUFields ext rest (k + 1) = .ok ar ∧ afs = .cons k m a ar := by
  simp only [finishUFields] at h
  split at h
  · cases h
  · obtain ⟨a, ha, h⟩ := R.bind_ok_inv h
    obtain ⟨ar, hr, h⟩ := R.bind_ok_inv h
    cases h; exact ⟨a, ar, ha, hr, rfl⟩

mutual
/-- excludes `FixedSizeBinary(0)` with rows and dictionary dummy keys (see the header) -/
def Faithful : B → Prop
  | .fixedSizeBinary _ n len _ _ _ => n = 0 → len = 0
  | .list _ _ _ _ _ el => Faithful el
  | .fixedSizeList _ _ _ _ _ _ el => Faithful el
  | .map _ _ _ _ ks vs => Faithful ks ∧ Faithful vs
  | .struct _ _ _ fs _ _ _ => FaithfulL fs
  | .dictionary _ idx vals index =>
    Faithful idx ∧ Faithful vals ∧ ∀ k ∈ dec idx, k = .null ∨ ∃ j : Nat, k = .int j ∧ j < index.length
  | .union _ fs _ _ _ => FaithfulL fs
  | _ => True
def FaithfulL : BL → Prop
  | .nil => True
  | .cons b _ r => Faithful b ∧ FaithfulL r
end

theorem leafOf_leafVal_int (t : IntTy) (x : Int) : leafOf (primOfInt t) x = leafVal (.int t) x := by
  cases t <;> rfl

theorem finishLeaf_decode (k : LeafKind) (v : Validity) (vals : List Int) (hv : VLen v vals.length) :
    decodeAll (finishLeaf k v vals) = (maskNull v (vals.map (leafVal k))).map .ok := by
  have key : ∀ (f : Int → LVal),
      (List.range vals.length).map (fun i => withValidity (finishValidity v) i (.ok (f (vals.getD i 0)))) =
        (maskNull v (vals.map f)).map .ok := by
    intro f
    apply map_withValidity v vals.length hv _ (vals.map f) (by simp)
    intro i h
    rw [getD_eq_getElem vals i 0 h, List.getElem_map]
  cases k with
  | bool =>
    simp only [finishLeaf, decodeAll]
    apply map_withValidity v vals.length hv _ (vals.map (leafVal .bool)) (by simp)
    intro i h
    rw [getBit_packBits _ i (by simpa using h)]
    simp [leafVal, pure, Except.pure, bind, Except.bind]
  | int t =>
    simp only [finishLeaf, decodeAll]
    rw [← key]
    simp only [leafOf_leafVal_int]
  | f16 | f32 | f64 | date32 | date64 | time32 u | time64 u | duration u | timestamp u tz utc | decimal p s =>
    simp only [finishLeaf, decodeAll]; exact key _

/-! ### one level of each container, children given by what they decode to -/

/-- slot `i` of an offsets buffer: the reader's two `getD`s are in range, and the offsets they return delimit a range inside the
child -/
theorem OffsOK_slot {offs : List Int} {n : Nat} (ho : OffsOK offs n) {i : Nat} (h : i < offs.length - 1) :
    ∃ (h1 : i < offs.length) (h2 : i + 1 < offs.length), offs.getD i 0 = offs[i] ∧ offs.getD (i + 1) 0 = offs[i + 1] ∧
      0 ≤ offs[i] ∧ offs[i] ≤ offs[i + 1] ∧ offs[i + 1] ≤ (n : Int) :=
  have h2 : i + 1 < offs.length := by omega
  ⟨Nat.lt_of_succ_lt h2, h2, getD_eq_getElem offs i 0 _, getD_eq_getElem offs (i + 1) 0 h2, OffsOK_pair offs n ho i h2⟩

theorem bytes_decode (ty : BytesTy) (v : Validity) (offs : List Int) (data : Bytes)
    (ho : OffsOK offs data.length) (hv : VLen v (offs.length - 1)) :
    decodeAll (.bytes ty (finishValidity v) offs data) =
      (maskNull v ((pairs offs).map fun se => bytesVal (isUtf8Ty ty) (sliceL data se.1 se.2))).map .ok := by
  simp only [decodeAll]
  apply map_withValidity v _ hv _ _ (by simp [pairs_length])
  intro i h
  obtain ⟨_, _, e1, e2, hp⟩ := OffsOK_slot ho h
  rw [e1, e2]
  simp only [List.getElem_map, pairs_getElem, hp.1, hp.2.1, hp.2.2, and_self, if_true, sliceL]

theorem bytesView_decode (ty : ViewTy) (v : Validity) (views : List Nat) (buf : Bytes)
    (hv : VLen v views.length) (hd : ∀ d ∈ views, (decodeView [buf] d).isOk = true) :
    decodeAll (.bytesView ty (finishValidity v) views [buf]) =
      (maskNull v (views.map fun d => bytesVal (ty == .utf8View) (viewBytes buf d))).map .ok := by
  simp only [decodeAll]
  apply map_withValidity v _ hv _ _ (by simp)
  intro i h
  rw [getD_eq_getElem views i 0 h]
  have := hd views[i] (List.getElem_mem h)
  simp only [List.getElem_map, viewBytes]
  cases hdv : decodeView [buf] views[i] with
  | error e => rw [hdv] at this; cases this
  | ok b => rfl

theorem fixedSizeBinary_decode (n len : Nat) (v : Validity) (buf : Bytes)
    (hv : VLen v len) (hb : buf.length = len * n) (hn : n = 0 → len = 0) :
    decodeAll (.fixedSizeBinary (n : Int) (finishValidity v) buf) =
      (maskNull v ((List.range len).map fun i => .bin ((buf.drop (i * n)).take n))).map .ok := by
  simp only [decodeAll]
  by_cases h0 : n = 0
  · have hl := hn h0
    subst h0; subst hl
    cases v <;> simp [maskNull]
  · have hpos : ¬ ((n : Int) ≤ 0) := by omega
    simp only [hpos, if_false, Int.toNat_natCast]
    have hdiv : buf.length / n = len := by
      rw [hb]; exact Nat.mul_div_cancel _ (by omega)
    rw [hdiv]
    apply map_withValidity v _ hv _ _ (by simp)
    intro i h
    simp

theorem list_decode (large : Bool) (v : Validity) (offs : List Int) (fm : FieldMeta) (ela : Arr) (xs : List LVal)
    (hel : decodeAll ela = xs.map .ok) (ho : OffsOK offs xs.length) (hv : VLen v (offs.length - 1)) :
    decodeAll (.list large (finishValidity v) offs fm ela) =
      (maskNull v ((pairs offs).map fun se => .list (LVals.ofList (sliceL xs se.1 se.2)))).map .ok := by
  simp only [decodeAll, hel]
  apply map_withValidity v _ hv _ _ (by simp [pairs_length])
  intro i h
  obtain ⟨_, _, e1, e2, hp⟩ := OffsOK_slot ho h
  rw [e1, e2, range_map_ok xs _ _ hp.1 hp.2.1 hp.2.2]
  simp only [List.getElem_map, pairs_getElem, bind, Except.bind, pure, Except.pure]

theorem map_decode (v : Validity) (offs : List Int) (mm : MapMeta) (ka va : Arr) (ks vs : List LVal)
    (hk : decodeAll ka = ks.map .ok) (hw : decodeAll va = vs.map .ok)
    (ho : OffsOK offs ks.length) (hlen : vs.length = ks.length) (hv : VLen v (offs.length - 1)) :
    decodeAll (.map (finishValidity v) offs mm ka va) =
      (maskNull v ((pairs offs).map fun se =>
        .map (LEntries.ofList ((sliceL ks se.1 se.2).zip (sliceL vs se.1 se.2))))).map .ok := by
  simp only [decodeAll, hk, hw]
  apply map_withValidity v _ hv _ _ (by simp [pairs_length])
  intro i h
  obtain ⟨_, _, e1, e2, hp⟩ := OffsOK_slot ho h
  rw [e1, e2, range_map_ok ks _ _ hp.1 hp.2.1 hp.2.2, range_map_ok vs _ _ hp.1 hp.2.1 (hlen ▸ hp.2.2)]
  simp only [List.getElem_map, pairs_getElem, bind, Except.bind, pure, Except.pure]

theorem fixedSizeList_decode (len n : Nat) (v : Validity) (fm : FieldMeta) (ela : Arr) (xs : List LVal)
    (hel : decodeAll ela = xs.map .ok) (hx : xs.length = len * n) (hv : VLen v len) :
    decodeAll (.fixedSizeList len (finishValidity v) (n : Int) fm ela) =
      (maskNull v ((List.range len).map fun i => .list (LVals.ofList ((xs.drop (i * n)).take n)))).map .ok := by
  simp only [decodeAll, hel]
  apply map_withValidity v _ hv _ _ (by simp)
  intro i h
  have hneg : ¬ ((n : Int) < 0) := Int.not_lt.mpr (Int.natCast_nonneg n)
  have h1 : (i + 1) * n ≤ xs.length := hx ▸ Nat.mul_le_mul_right n h
  have h2 : i * n ≤ (i + 1) * n := Nat.mul_le_mul_right n (Nat.le_succ i)
  have e1 : ((i : Int) * (n : Int)) = ((i * n : Nat) : Int) := (Int.natCast_mul i n).symm
  have e2 : (((i : Int) + 1) * (n : Int)) = (((i + 1) * n : Nat) : Int) := (Int.natCast_mul (i + 1) n).symm
  rw [e1, e2, range_map_ok xs _ _ (Int.natCast_nonneg _) (Int.ofNat_le.mpr h2) (Int.ofNat_le.mpr h1)]
  have e3 : (i + 1) * n - i * n = n := by rw [Nat.succ_mul, Nat.add_sub_cancel_left]
  simp only [hneg, if_false, sliceL, Int.toNat_natCast, e3, List.getElem_map, List.getElem_range, bind, Except.bind, pure,
    Except.pure]

theorem mapM_map_ok {α β γ} (l : List α) (h : α → β) (f : β → R γ) (g : α → γ) (hf : ∀ x ∈ l, f (h x) = .ok (g x)) :
    (l.map h).mapM f = .ok (l.map g) :=
  R.mapM_eq_ok_iff.mpr (by rw [List.map_map, List.map_map]; exact List.map_congr_left hf)

theorem struct_decode (len : Nat) (v : Validity) (afs : ArrFields) (cols : List (String × List LVal))
    (hc : decodeFields afs = cols.map fun c => (c.1, c.2.map .ok)) (hl : ∀ c ∈ cols, c.2.length = len)
    (hv : VLen v len) :
    decodeAll (.struct len (finishValidity v) afs) =
      (maskNull v ((List.range len).map fun i =>
        .struct (LFields.ofList (cols.map fun c => (c.1, c.2.getD i .null))))).map .ok := by
  simp only [decodeAll, hc]
  apply map_withValidity v _ hv _ _ (by simp)
  intro i h
  rw [mapM_map_ok cols _ _ (fun c => (c.1, c.2.getD i .null))]
  · simp only [List.getElem_map, List.getElem_range, bind, Except.bind, pure, Except.pure]
  · intro c hc
    have hlen := hl c hc
    rw [slot_map_ok c.2 i (by omega), getD_eq_getElem c.2 i .null (by omega)]
    rfl

theorem dictionary_decode (ka va : Arr) (ks vs : List LVal) (m : Nat)
    (hk : decodeAll ka = ks.map .ok)
    (hvs : ∀ j, j < m → slot (decodeAll va) j = .ok (vs.getD j .null))
    (hkeys : ∀ k ∈ ks, k = .null ∨ ∃ j : Nat, k = .int j ∧ j < m) :
    decodeAll (.dictionary ka va) =
      (ks.map fun k => match k with | .int j => vs.getD j.toNat .null | _ => .null).map .ok := by
  simp only [decodeAll, hk, List.map_map]
  apply List.map_congr_left
  intro k hkm
  rcases hkeys k hkm with rfl | ⟨j, rfl, hj⟩
  · rfl
  · have : (0 : Int) ≤ (j : Int) := by omega
    simp only [Function.comp, bind, Except.bind, this, if_true, Int.toNat_natCast, hvs j hj]

theorem getD_snd_of_map {α β} (l : List (α × β)) (k : Nat) (d : α × β) (y : β)
    (h : (l.map (·.2))[k]? = some y) : (l.getD k d).2 = y := by
  rw [List.getElem?_map] at h
  rw [List.getD_eq_getElem?_getD]
  cases hl : l[k]? with
  | none => rw [hl] at h; cases h
  | some x => rw [hl] at h; simpa using h

theorem union_decode (types offs : List Int) (afs : ArrUFields) (cols : List (String × List LVal))
    (hids : (decodeUFields afs).map (·.1) = (List.range cols.length).map fun i => ((i : Nat) : Int))
    (hcols : (decodeUFields afs).map (·.2) = cols.map fun c => c.2.map .ok)
    (hlen : types.length = offs.length)
    (hr : ∀ (i : Nat) (t o : Int), types[i]? = some t → offs[i]? = some o →
      0 ≤ t ∧ 0 ≤ o ∧ ∃ c, cols[t.toNat]? = some c ∧ o.toNat < c.2.length) :
    decodeAll (.union types (some offs) afs) =
      (List.zipWith (fun t o => LVal.union t ((cols.getD t.toNat ("", [])).2.getD o.toNat .null)) types offs).map .ok := by
  simp only [decodeAll, hids]
  apply List.ext_getElem
  · rw [List.length_map, List.length_range, List.length_map, List.length_zipWith, ← hlen, Nat.min_self]
  · intro i h1 h2
    have hi : i < types.length := by rw [List.length_map, List.length_range] at h1; exact h1
    have hio : i < offs.length := by omega
    obtain ⟨ht, ho, c, hc, hoc⟩ := hr i types[i] offs[i] (List.getElem?_eq_getElem hi) (List.getElem?_eq_getElem hio)
    have htc : types[i].toNat < cols.length := by
      rcases Nat.lt_or_ge types[i].toNat cols.length with h | h
      · exact h
      · rw [List.getElem?_eq_none h] at hc; cases hc
    simp only [List.getElem_map, List.getElem_range, List.getElem_zipWith]
    rw [getD_eq_getElem types i 0 hi, indexOfTypeId_range _ _ ht htc]
    have hchild : ((decodeUFields afs).getD types[i].toNat (0, [])).2 = c.2.map .ok := by
      apply getD_snd_of_map
      rw [hcols, List.getElem?_map, hc]; rfl
    have hcol : (cols.getD types[i].toNat ("", [])) = c := by
      rw [List.getD_eq_getElem?_getD, hc]; rfl
    simp only [hchild, hcol]
    rw [getD_eq_getElem offs i (-1) hio, slot_map_ok c.2 _ hoc, getD_eq_getElem c.2 _ .null hoc]
    simp only [hio, ho, and_self, if_true, bind, Except.bind, pure, Except.pure]

end SaModel.Lemmas.C03
