import SaModel.Lemmas.C08NotWalkable
import SaModel.Lemmas.C16FromType
/-
C16, `from_type`: no panic (corollary of C08's `fromType_spec`) and the depth limit for EVERY container family.

C08 represents a recursive Rust definition `T = F T` by its unrollings `unroll F n base` and asks of `F` that it puts its
argument at least one path level down (`Descends o F`).  Here: every container constructor of the type description does
(`descends_vec`, `descends_map_key`, `descends_map_value`, `descends_tuple`, `descends_tupleStruct`, `descends_struct`,
`descends_enum`, wherever the recursive occurrence sits among the elements / fields / variant payloads), and the
transparent wrappers `Option` / newtype structs keep the property on either side (`descends_option`, `descends_newtype`,
`descends_of_option`, `descends_of_newtype`), as does composition with any further constructor around a descending one
(`descends_comp`).
-/
namespace SaModel.Lemmas.C16
open SaModel SaModel.Trace SaModel.Trace.Spec SaModel.Lemmas.C08

/-- an outcome that agrees with anything is not a panic -/
theorem Agree.isPanic_false {α} {a b : R α} (h : Agree a b) : a.isPanic = false := by
  unfold Agree at h
  split at h <;> first | rfl | exact h.elim

/-- `SerdeArrowSchema::from_type` never unwinds: for every type description and all options -/
theorem fromType_np (c : Code) (o : Options) (ty : Ty) : (fromType c o ty).isPanic = false :=
  Agree.isPanic_false (fromType_spec c o ty)

/-! ### every pass of the loop: `explore` on the states `from_type` reaches

`Conf o p ty t` (C08, SaModel/Lemmas/C08Conf.lean) is the invariant "the tracer `t` was grown by `explore` from this very
type at path `p`": a fresh node conforms to everything; a list / map / tuple / struct / union node conforms to the
corresponding type if it sits at a path within the depth limit and its children conform pointwise (a struct node has a
slot per declared field, a union node has no unseen slot). -/

theorem Pres.isPanic_false {α} {r : R α} {P : α → Prop} (h : Pres r P) : r.isPanic = false := by
  unfold Pres at h
  split at h <;> first | rfl | exact h.elim

/-- one pass over a conforming tracer never unwinds -/
theorem explore_np (c : Code) (o : Options) (ty : Ty) (p : String) (t : Tracer) (h : Conf o p ty t) :
    (explore c o t ty).isPanic = false := Pres.isPanic_false (explore_conf c o ty p t h)

/-- any number of passes (also beyond completion, also past the budget) keeps conformance or ends in a Rust error -/
theorem passes_conf (c : Code) (o : Options) (ty : Ty) (p : String) : ∀ (k : Nat) (t : Tracer), Conf o p ty t →
    Pres (passes c o ty k t) (Conf o p ty)
  | 0, _, h => Pres.ok h
  | k + 1, t, h => by
    simp only [passes]
    exact Pres.bind (explore_conf c o ty p t h) fun t' h' => passes_conf c o ty p k t' h'

theorem passes_np (c : Code) (o : Options) (ty : Ty) (k : Nat) (n p : String) (nl : Bool) :
    (passes c o ty k (.unknown n p nl)).isPanic = false :=
  Pres.isPanic_false (passes_conf c o ty p k _ (conf_fresh o ty n p nl))

/-- exploring `Vec<Vec<…>>` nested deeper than the limit from an unknown tracer is the documented error, in the first pass:
the levels within the limit create their list node (`C08.explore_vec_unknown`), the first one beyond it is refused
(`C08.explore_deep_vec`) -/
theorem explore_deep_vec (c : Code) (o : Options) (ty : Ty) : ∀ (k : Nat) (n p : String) (nl : Bool),
    countDots p ≤ MAX_TYPE_DEPTH → MAX_TYPE_DEPTH + 1 ≤ k + countDots p →
    explore c o (.unknown n p nl) (nestVec k ty) = fail "Too deeply nested type detected" := by
  intro k
  induction k with
  | zero => intro n p nl h1 h2; omega
  | succ k ih =>
    intro n p nl h1 h2
    rw [nestVec]
    cases hd : tooDeep p with
    | true => exact C08.explore_deep_vec c o n p nl _ hd
    | false =>
      have hlt : countDots p < MAX_TYPE_DEPTH := Nat.lt_of_not_le (of_decide_eq_false hd)
      have hc : countDots (childPath p "element") = countDots p + 1 + 0 := countDots_child p "element"
      rw [explore_vec_unknown c o n p nl _ hd, explore_vec_node c o n p nl _ _ hd,
        ih "element" (childPath p "element") false (by omega) (by omega)]
      rfl

/-- `t` is one of the element types -/
def TysMem (t : Ty) : Tys → Prop
  | .nil => False
  | .cons x r => x = t ∨ TysMem t r

/-- `t` is the type of one of the fields -/
def FieldsMem (t : Ty) : TyFields → Prop
  | .nil => False
  | .cons _ x r => x = t ∨ FieldsMem t r

/-- `t` is the payload of a newtype variant, an element of a tuple variant or a field of a struct variant -/
def PayloadMem (t : Ty) : TyVariants → Prop
  | .nil => False
  | .unit _ r => PayloadMem t r
  | .newtype _ x r => x = t ∨ PayloadMem t r
  | .tuple _ ts r => TysMem t ts ∨ PayloadMem t r
  | .struct _ fs r => FieldsMem t fs ∨ PayloadMem t r

theorem le_countDots_child (p n : String) : countDots p + 1 ≤ countDots (childPath p n) := by
  rw [countDots_child]; omega

theorem walkableTys_mem (o : Options) (t : Ty) (p : String) : ∀ (ts : Tys) (i : Nat), walkableTys o p i ts = true →
    TysMem t ts → ∃ q, countDots p + 1 ≤ countDots q ∧ walkable o q t = true
  | .nil, _, _, hm => hm.elim
  | .cons x r, i, hw, hm => by
    simp only [walkableTys, Bool.and_eq_true] at hw
    rcases hm with rfl | hm
    · exact ⟨_, le_countDots_child p _, hw.1⟩
    · exact walkableTys_mem o t p r (i + 1) hw.2 hm

theorem walkableFields_mem (o : Options) (t : Ty) (p : String) : ∀ (fs : TyFields), walkableFields o p fs = true →
    FieldsMem t fs → ∃ q, countDots p + 1 ≤ countDots q ∧ walkable o q t = true
  | .nil, _, hm => hm.elim
  | .cons n x r, hw, hm => by
    simp only [walkableFields, Bool.and_eq_true] at hw
    rcases hm with rfl | hm
    · exact ⟨_, le_countDots_child p _, hw.1⟩
    · exact walkableFields_mem o t p r hw.2 hm

/-- a variant is a named payload (`VHead`): the payload type is walked one level below the union -/
theorem walkableVariants_mem (o : Options) (t : Ty) (p : String) : ∀ (vs : TyVariants), walkableVariants o p vs = true →
    PayloadMem t vs → ∃ q, countDots p + 1 ≤ countDots q ∧ walkable o q t = true := by
  refine VHead.walk (fun _ hm => hm.elim) fun vs n T r hh ih hw hm => ?_
  rw [hh.walkable_eq, Bool.and_eq_true] at hw
  have below : (∃ q, countDots (childPath p n) + 1 ≤ countDots q ∧ walkable o q t = true) →
      ∃ q, countDots p + 1 ≤ countDots q ∧ walkable o q t = true := fun ⟨q, hq, hwq⟩ =>
    ⟨q, by have := le_countDots_child p n; omega, hwq⟩
  cases hh with
  | unit => exact ih hw.2 hm
  | newtype => exact hm.elim (fun e => ⟨_, le_countDots_child p _, e ▸ hw.1⟩) (ih hw.2)
  | tuple _ ts =>
    refine hm.elim (fun hm => below ?_) (ih hw.2)
    simp only [walkable, Bool.and_eq_true] at hw
    exact walkableTys_mem o t _ ts 0 hw.1.2 hm
  | struct _ fs =>
    refine hm.elim (fun hm => below ?_) (ih hw.2)
    simp only [walkable, Bool.and_eq_true] at hw
    exact walkableFields_mem o t _ fs hw.1.2 hm

/-- `Vec<T>` (sequences, sets, arrays of unknown length) -/
theorem descends_vec (o : Options) : Descends o (fun t => .vec t) := by
  intro t p h
  simp only [walkable, Bool.and_eq_true, Bool.not_eq_true'] at h
  exact ⟨h.1, _, le_countDots_child p _, h.2⟩

/-- maps, the recursive occurrence in the value … -/
theorem descends_map_value (o : Options) (k : Ty) : Descends o (fun t => .map k t) := by
  intro t p h
  simp only [walkable, Bool.and_eq_true, Bool.not_eq_true'] at h
  exact ⟨h.1.1.2, _, le_countDots_child p _, h.2⟩

/-- … or in the key -/
theorem descends_map_key (o : Options) (v : Ty) : Descends o (fun t => .map t v) := by
  intro t p h
  simp only [walkable, Bool.and_eq_true, Bool.not_eq_true'] at h
  exact ⟨h.1.1.2, _, le_countDots_child p _, h.1.2⟩

/-- tuples and fixed-size arrays: the recursive occurrence is any of the elements -/
theorem descends_tuple (o : Options) (G : Ty → Tys) (hG : ∀ t, TysMem t (G t)) : Descends o (fun t => .tuple (G t)) := by
  intro t p h
  simp only [walkable, Bool.and_eq_true, Bool.not_eq_true'] at h
  exact ⟨h.1, walkableTys_mem o t p (G t) 0 h.2 (hG t)⟩

theorem descends_tupleStruct (o : Options) (name : String) (G : Ty → Tys) (hG : ∀ t, TysMem t (G t)) :
    Descends o (fun t => .tupleStruct name (G t)) := by
  intro t p h
  simp only [walkable, Bool.and_eq_true, Bool.not_eq_true'] at h
  exact ⟨h.1, walkableTys_mem o t p (G t) 0 h.2 (hG t)⟩

/-- structs: the recursive occurrence is the type of any field -/
theorem descends_struct (o : Options) (name : String) (G : Ty → TyFields) (hG : ∀ t, FieldsMem t (G t)) :
    Descends o (fun t => .struct name (G t)) := by
  intro t p h
  simp only [walkable, Bool.and_eq_true, Bool.not_eq_true'] at h
  exact ⟨h.1, walkableFields_mem o t p (G t) h.2 (hG t)⟩

/-- enums: the recursive occurrence is the payload of a newtype variant, an element of a tuple variant or a field of a
struct variant -/
theorem descends_enum (o : Options) (name : String) (G : Ty → TyVariants) (hG : ∀ t, PayloadMem t (G t)) :
    Descends o (fun t => .enum name (G t)) := by
  intro t p h
  simp only [walkable, Bool.and_eq_true, Bool.not_eq_true'] at h
  exact ⟨h.1.1, walkableVariants_mem o t p (G t) h.2 (hG t)⟩

/-- `Option<…>` around a descending constructor (`Option` adds no path level itself) -/
theorem descends_option (o : Options) (F : Ty → Ty) (hF : Descends o F) : Descends o (fun t => .option (F t)) := by
  intro t p h
  simp only [walkable] at h
  exact hF t p h

theorem descends_newtype (o : Options) (name : String) (F : Ty → Ty) (hF : Descends o F) :
    Descends o (fun t => .newtypeStruct name (F t)) := by
  intro t p h
  simp only [walkable] at h
  exact hF t p h

/-- `Option<Box<T>>` inside a descending constructor -/
theorem descends_of_option (o : Options) (F : Ty → Ty) (hF : Descends o F) : Descends o (fun t => F (.option t)) := by
  intro t p h
  obtain ⟨h1, q, hq, hw⟩ := hF (.option t) p h
  simp only [walkable] at hw
  exact ⟨h1, q, hq, hw⟩

theorem descends_of_newtype (o : Options) (name : String) (F : Ty → Ty) (hF : Descends o F) :
    Descends o (fun t => F (.newtypeStruct name t)) := by
  intro t p h
  obtain ⟨h1, q, hq, hw⟩ := hF (.newtypeStruct name t) p h
  simp only [walkable] at hw
  exact ⟨h1, q, hq, hw⟩

/-- two descending constructors nested (e.g. `Vec<(T, u8)>`, a struct field of map type …) -/
theorem descends_comp (o : Options) (F G : Ty → Ty) (hF : Descends o F) (hG : Descends o G) :
    Descends o (fun t => F (G t)) := by
  intro t p h
  obtain ⟨h1, q, hq, hw⟩ := hF (G t) p h
  obtain ⟨_, q', hq', hw'⟩ := hG t q hw
  exact ⟨h1, q', by omega, hw'⟩

/-- every unrolling of a descending definition deeper than the limit is an error value of `from_type`, for all
options and every budget -/
theorem fromType_recursive_err (c : Code) (o : Options) (F : Ty → Ty) (hF : Descends o F) (base : Ty) (n : Nat)
    (hn : MAX_TYPE_DEPTH < n) : (fromType c o (unroll F n base)).isErr = true := by
  obtain ⟨m, h⟩ := fromType_not_walkable c o _ (unroll_not_walkable o F hF base n hn)
  rw [h]; rfl

/-- the `Vec<Vec<…>>` family of `explore_deep_vec` is the unrolling of `Vec` -/
theorem nestVec_eq_unroll (ty : Ty) : ∀ k, nestVec k ty = unroll (fun t => .vec t) k ty
  | 0 => rfl
  | k + 1 => by simp only [nestVec, unroll, nestVec_eq_unroll ty k]

end SaModel.Lemmas.C16
