import SaModel.Lemmas.C01R2
import SaModel.Lemmas.C01CompDefs
import SaModel.Lemmas.C01DefaultAt
/-
Completeness, non-recursive operations `serialize_default` (k placeholders) and `serialize_none`: the steps that do not
depend on the state invariant (offsets, validity, the union arm, the specification of a null).  The theorems themselves
are `pushDefaultK_totalH`, `pushNone_completeH` (Lemmas/C01ObsCompLeaf.lean).
-/
namespace SaModel.Build
open SaModel SaModel.Spec

theorem iter_total {α} (P : α → Prop) (f : α → R α) (hstep : ∀ a, P a → ∃ a', f a = .ok a' ∧ P a') :
    ∀ (k : Nat) (a : α), P a → ∃ a', iter k f a = .ok a' ∧ P a'
  | 0, a, h => ⟨a, rfl, h⟩
  | k + 1, a, h => by
    obtain ⟨a1, h1, hp1⟩ := hstep a h
    obtain ⟨a2, h2, hp2⟩ := iter_total P f hstep k a1 hp1
    refine ⟨a2, ?_, hp2⟩
    simp only [iter, h1, bind, Except.bind]
    exact h2

theorem lastNat_snoc (offs : List Int) (l : Int) : lastNat (offs ++ [l]) = l.toNat := by
  simp [lastNat]

theorem duplicateLast_total {offs : List Int} {l : Int} (h : offs.getLast? = some l) :
    duplicateLast offs = .ok (offs ++ [l]) := by
  simp [duplicateLast, h]

theorem lastNat_of_getLast {offs : List Int} {l : Int} (h : offs.getLast? = some l) : lastNat offs = l.toNat := by
  simp [lastNat, h]

/-- `k` times `duplicate_last` + validity default: succeeds on non-empty offsets and keeps the last offset -/
theorem iter_dup_total (k : Nat) (v : Validity) (offs : List Int) (hne : offs ≠ []) :
    ∃ v' offs', iter k (fun (s : Validity × List Int) => do
      let o ← duplicateLast s.2
      pure (setValidityDefault s.1 (s.2.length - 1), o)) (v, offs) = .ok (v', offs') ∧
      offs' ≠ [] ∧ lastNat offs' = lastNat offs := by
  have := iter_total (fun (s : Validity × List Int) => s.2 ≠ [] ∧ lastNat s.2 = lastNat offs)
    (fun (s : Validity × List Int) => do
      let o ← duplicateLast s.2
      pure (setValidityDefault s.1 (s.2.length - 1), o)) (by
    intro a ha
    obtain ⟨l, hl⟩ : ∃ l, a.2.getLast? = some l := by
      cases h : a.2.getLast? with
      | none => exact absurd (List.getLast?_eq_none_iff.1 h) ha.1
      | some l => exact ⟨l, rfl⟩
    refine ⟨(setValidityDefault a.1 (a.2.length - 1), a.2 ++ [l]), ?_, List.append_ne_nil_of_right_ne_nil _ (by simp), ?_⟩
    · exact (bind_ok _ _ _).2 ⟨a.2 ++ [l], duplicateLast_total hl, rfl⟩
    · show lastNat (a.2 ++ [l]) = lastNat offs
      rw [lastNat_snoc, ← ha.2, lastNat_of_getLast hl]) k (v, offs) ⟨hne, rfl⟩
  obtain ⟨⟨v', offs'⟩, h1, h2, h3⟩ := this
  exact ⟨v', offs', h1, h2, h3⟩

theorem iter_pure_total {α} (g : α → α) (k : Nat) (a : α) : ∃ a', iter k (fun s => (.ok (g s) : R α)) a = .ok a' := by
  obtain ⟨a', h, _⟩ := iter_total (fun _ => True) (fun s => (.ok (g s) : R α)) (fun a _ => ⟨g a, rfl, trivial⟩) k a trivial
  exact ⟨a', h⟩

theorem pushDefaultK_leaf (p : String) (kd : LeafKind) (v : Validity) (vals : List Int) (k : Nat) :
    ∃ v' vals', pushDefaultK (.leaf p kd v vals) k = .ok (.leaf p kd v' vals') := by
  obtain ⟨⟨v', vals'⟩, h⟩ := iter_pure_total (fun (s : Validity × List Int) => (setValidityDefault s.1 s.2.length, s.2 ++ [0])) k (v, vals)
  refine ⟨v', vals', ?_⟩
  simp only [pushDefaultK, h, bind, Except.bind]; rfl

theorem isIntLeaf_form {idx : B} (h : idx.isIntLeaf = true) : ∃ p t v vals, idx = .leaf p (.int t) v vals := by
  cases idx with
  | leaf p k v vals =>
    cases k with
    | int t => exact ⟨p, t, v, vals, rfl⟩
    | _ => simp [B.isIntLeaf] at h
  | _ => simp [B.isIntLeaf] at h

theorem OffsOK.ne_nil' {offs : List Int} {n : Nat} (h : OffsOK offs n) : offs ≠ [] := h.ne_nil

theorem ShapeU_length : ∀ (fs : BL) (ufs : UFields) (i : Nat), ShapeU fs ufs i → fs.length = UFields.length ufs
  | .nil, .nil, _, _ => rfl
  | .nil, .cons _ _ _, _, h => by simp [ShapeU] at h
  | .cons _ _ _, .nil, _, h => by simp [ShapeU] at h
  | .cons b m r, .cons tid (.mk _ _ _ _) rest, i, h => by
    simp only [ShapeU] at h
    simp only [BL.length, UFields.length, ShapeU_length r rest (i + 1) h.2.2]

/-- a builder is the `UnknownVariant` placeholder exactly when its field says so -/
theorem Shape_placeholder {b : B} {dt : DataType} {n : Bool} {md : Metadata} (h : Shape b dt n md) :
    b.isPlaceholder = isUnknownVariant dt md := by
  cases b with
  | null p len => simp only [Shape] at h; rw [h.1, h.2]; rfl
  | unknownVariant p => simp only [Shape] at h; rw [h.1, h.2]; rfl
  | leaf p k v vals =>
    simp only [Shape] at h
    cases dt <;> simp [kindOf] at h <;> rfl
  | bytes p ty v offs data => simp only [Shape] at h; rw [h.1]; cases ty <;> rfl
  | bytesView p ty v views buf => simp only [Shape] at h; rw [h.1]; cases ty <;> rfl
  | fixedSizeBinary p k len v buf cur => simp only [Shape] at h; rw [h.1]; rfl
  | list p large fm v offs el =>
    simp only [Shape] at h
    obtain ⟨_, cname, cdt, cn, cmd, rfl, _⟩ := h
    cases large <;> rfl
  | fixedSizeList p fm k len v cur el =>
    simp only [Shape] at h
    obtain ⟨_, cname, cdt, cn, cmd, rfl, _⟩ := h
    rfl
  | map p mm v offs ks vs =>
    simp only [Shape] at h
    obtain ⟨_, ename, kn, kdt, knl, kmd, vn, vdt, vnl, vmd, rest, en, emd, sorted, rfl, _⟩ := h
    rfl
  | struct p len v fs cached next seen =>
    simp only [Shape] at h
    obtain ⟨_, sfs, rfl, _⟩ := h
    rfl
  | dictionary p idx vals index =>
    simp only [Shape] at h
    obtain ⟨⟨kdt, vdt, rfl, hsv⟩, _⟩ := h
    rfl
  | union p fs types offs cur =>
    simp only [Shape] at h
    obtain ⟨ufs, mode, rfl, _⟩ := h
    rfl

/-- an unchanged head room, in the two forms the default lemmas return -/
theorem room_both {r r' k : Nat} {P : Prop} (h : r' = r) : r ≤ r' + k ∧ (P → r' = r) := ⟨by omega, fun _ => h⟩

/-- the union step of `k` defaults, given the children -/
theorem pushDefaultK_union_ok {p : String} {c : B} {m : FieldMeta} {rest : BL} {types offs cur : List Int} {k j : Nat}
    {fs' : BL} {cj : Int} (hj : firstReal? (.cons c m rest) = some j) (hj127 : j ≤ 127) (hcj : cur[j]? = some cj)
    (hat : pushDefaultKAt (.cons c m rest) j k = .ok fs') (hk : k ≤ curRoom cur) :
    pushDefaultK (.union p (.cons c m rest) types offs cur) k = .ok (.union p fs' (types ++ List.replicate k (j : Int))
      (offs ++ (List.range k).map (fun (i : Nat) => cj + (i : Int))) (cur.set j (cj + k))) := by
  have hfr : firstReal (.cons c m rest) = j := by simp only [firstReal, hj, Option.getD_some]
  have hgd : cur.getD j 0 = cj := by simp only [List.getD_eq_getElem?_getD, hcj, Option.getD_some]
  have h1 : ¬ (k ≠ 0 ∧ cj + 1 > 2147483647) := by
    intro ⟨hk0, h⟩
    exact curRoom_pos_get hcj (by omega) h
  have h2 : ¬ (k ≠ 0 ∧ j > 127) := by omega
  have h3 : ¬ (k ≠ 0 ∧ cj + (k : Int) > 2147483647) := by
    intro ⟨hk0, h⟩
    exact curRoom_le_get hcj hk hk0 h
  rw [pushDefaultK]
  simp only [ctx_ok, hfr, hgd, if_neg h1, if_neg h2]
  exact (bind_ok _ _ _).2 ⟨_, hat, by simp only [if_neg h3]; rfl⟩

/-! ### `serialize_none` -/

/-- where a null has a meaning, the type supports `serialize_default` -/
theorem total_defOK {dt : DataType} {n : Bool} {md : Metadata} {lv : LVal} (ht : total dt n md = true)
    (hi : interpNull dt n md = .ok lv) : defOK dt md = true := by
  obtain ⟨_, hu, hn⟩ := interpNull_ok_iff.1 hi
  cases dt with
  | fixedSizeList f m => simp at hn; subst hn; simp [total] at ht; simpa [defOK] using ht.2
  | struct fs => simp at hn; subst hn; simp [total] at ht; simpa [defOK] using ht.2
  | null => simpa [defOK] using hu
  | union ufs mode => simp at hn
  | _ => rfl

theorem setValidity_false_total {v : Validity} (h : v.isSome = true) (i : Nat) : ∃ v', setValidity v i false = .ok v' := by
  cases v with
  | none => simp at h
  | some bits => exact ⟨_, rfl⟩

end SaModel.Build
