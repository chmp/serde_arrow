import SaModel.Lemmas.C17TouchAny
/-
C17, `readAs_touch_in_range` — the typed reads, one combinator per target constructor (`TouchP t` from `TouchP` of
the component targets); `SaModel/Props/C17.lean` assembles them by structural recursion over the target.
-/
namespace SaModel.Props.C17
open SaModel SaModel.Read SaModel.Spec

/-- a successful read of target `t` visits only slots below the lengths of their arrays -/
def TouchP (t : Target) : Prop :=
  ∀ (a : Arr) (i : Nat) (d : DVal), unionIdsOK a = true → readAs Fixes.all t a i = .ok d → touchOK t a i = true

def AllT (P : Target → Prop) : Targets → Prop
  | .nil => True
  | .cons t r => P t ∧ AllT P r

def AllF (P : Target → Prop) : TFields → Prop
  | .nil => True
  | .cons _ t r => P t ∧ AllF P r

def AllV (P : VKind → Prop) : TVariants → Prop
  | .nil => True
  | .cons _ k r => P k ∧ AllV P r

/-! ### any, ignored, scalars -/

theorem touchP_any : TouchP .any := fun a i d hids h => by
  unfold readAs at h; exact readAny_touch hids rfl h

theorem touchP_ignored : TouchP .ignored := fun a i d hids h => by
  unfold readAs at h
  obtain ⟨x, hx, _⟩ := ok_bind_inv h
  exact readAny_touch hids rfl hx

theorem touchP_scalar {t : Target} {m : Method} (hm : methodOf t = some m) (hb : t ≠ .bytes) (hb' : t ≠ .byteBuf) :
    TouchP t := fun a i d _ h => by
  rw [readAs_of_method hm hb hb'] at h; exact accept_scalar_touch _ _ _ a i d h

/-- `&[u8]`: a list column calls `visit_seq`, which this visitor rejects; everything else is a scalar read -/
theorem touchP_bytes : TouchP .bytes := fun a i d _ h => by
  unfold readAs at h
  split at h
  · obtain ⟨_, _, h⟩ := ok_bind_inv h
    cases h
  · exact accept_scalar_touch _ _ _ a i d h

/-- `ByteBuf`: a list column is read element by element as `u8` -/
theorem touchP_byteBuf : TouchP .byteBuf := fun a i d hids h => by
  unfold readAs at h
  split at h
  · rename_i l v offs fm el
    obtain ⟨⟨s, e⟩, hr, h⟩ := ok_bind_inv h
    obtain ⟨xs, hxs, _⟩ := ok_bind_inv h
    exact list_touch hr hxs fun k x hx => accept_scalar_touch (elemTarget (peelTarget .byteBuf).1 k) _ _ el (s + k) x hx
  · exact accept_scalar_touch _ _ _ a i d h

/-! ### layers that stay on the same array -/

theorem touchP_option {t : Target} (hS : TouchP t) : TouchP (.option t) := fun a i d hids h => by
  unfold readAs at h
  obtain ⟨b, hb, h⟩ := ok_bind_inv h
  cases b
  · exact touch_null_slot (isSome_ok_lt_lenOf hb) (by simp [peelTarget]) (isSome_false_slotNull hb)
  · simp only [if_true] at h
    obtain ⟨x, hx, _⟩ := ok_bind_inv h
    exact touchOK_option_of (hS a i x hids hx)

theorem touchP_newtype {t : Target} (hS : TouchP t) : TouchP (.newtype t) := fun a i d hids h => by
  unfold readAs at h
  rw [touchOK_newtype]
  exact hS a i d hids h

/-! ### sequences -/

theorem touchP_seq {t : Target} (hS : TouchP t) : TouchP (.seq t) := fun a i d hids h => by
  unfold readAs at h
  split at h
  · rename_i l v offs fm el
    obtain ⟨⟨s, e⟩, hr, h⟩ := ok_bind_inv h
    obtain ⟨xs, hxs, _⟩ := ok_bind_inv h
    simp only [unionIdsOK] at hids
    exact list_touch hr hxs fun k x hx => by simp only [peelTarget, elemTarget]; exact hS el (s + k) x hids hx
  · rename_i len v n fm el
    obtain ⟨⟨s, e⟩, hr, h⟩ := ok_bind_inv h
    obtain ⟨xs, hxs, _⟩ := ok_bind_inv h
    simp only [unionIdsOK] at hids
    exact fsl_touch hr hxs fun k x hx => by simp only [peelTarget, elemTarget]; exact hS el (s + k) x hids hx
  · split at h
    · rename_i rb hb
      exact OkImp.bind_left (binaryElems_touch _ hb) _ h
    · cases h

/-! ### tuples over a struct column -/

theorem readTupleFields_touch : ∀ (ts : Targets), AllT TouchP ts → ∀ (fs : ArrFields) (i : Nat) (r : List DVal),
    fieldsIdsOK fs = true → readTupleFields Fixes.all ts fs i = .ok r → touchTuple ts fs i = true
  | .nil, _, _, _, _, _, _ => by simp [touchTuple]
  | .cons t rest, hS, fs, i, r, hids, h => by
    unfold readTupleFields at h
    split at h
    · cases h
    · rename_i fm a frest
      obtain ⟨x, hx, h⟩ := ok_bind_inv h
      obtain ⟨r', hr', _⟩ := ok_bind_inv h
      simp only [fieldsIdsOK, Bool.and_eq_true] at hids
      simp only [touchTuple, Bool.and_eq_true]
      exact ⟨hS.1 a i x hids.1 hx, readTupleFields_touch rest hS.2 frest i r' hids.2 hr'⟩

theorem structItem_ok_lt {len i : Nat} {u : Unit} (h : structItem Fixes.all len i = .ok u) : i < len :=
  lt_of_ok (fun hle => ⟨_, Lemmas.C12.structItem_beyond Lemmas.C12.OutFixes.all len i hle⟩) h

theorem tupleVisit_touch {ts : Targets} (hS : AllT TouchP ts) {t : Target}
    (hp : (peelTarget t).1 = .tuple ts ∨ (peelTarget t).1 = .tupleStruct ts) {a : Arr} {i : Nat} {d : DVal}
    (hids : unionIdsOK a = true)
    (h : tupleVisit Fixes.all (fun fs => readTupleFields Fixes.all ts fs i) a i = .ok d) : touchOK t a i = true := by
  unfold tupleVisit at h
  split at h
  · rename_i len v fs
    obtain ⟨u, hu, h⟩ := ok_bind_inv h
    obtain ⟨r, hr, _⟩ := ok_bind_inv h
    simp only [unionIdsOK] at hids
    exact touch_struct_tuple hp (structItem_ok_lt hu) (readTupleFields_touch ts hS fs i r hids hr)
  · cases h

theorem touchP_tuple {ts : Targets} (hS : AllT TouchP ts) : TouchP (.tuple ts) := fun a i d hids h => by
  unfold readAs at h
  exact tupleVisit_touch hS (Or.inl (by simp [peelTarget])) hids h

theorem touchP_tupleStruct {ts : Targets} (hS : AllT TouchP ts) : TouchP (.tupleStruct ts) := fun a i d hids h => by
  unfold readAs at h
  exact tupleVisit_touch hS (Or.inr (by simp [peelTarget])) hids h

/-! ### maps: over a struct column (field names as keys) and over a map column -/

theorem mapM_fields_touch {k v : Target} (hV : TouchP v) (i : Nat) : ∀ (fs : ArrFields) (es : List (DVal × DVal)),
    fieldsIdsOK fs = true →
    fs.toList.mapM (fun (p : FieldMeta × Arr) => do
        let kk ← strDeAs k p.1.name
        let vv ← readAs Fixes.all v p.2 i
        pure (kk, vv)) = .ok es → touchAll v fs i = true
  | .nil, _, _, _ => by simp [touchAll]
  | .cons fm a rest, es, hids, h => by
    simp only [ArrFields.toList, List.mapM_cons] at h
    obtain ⟨x, hx, h⟩ := ok_bind_inv h
    obtain ⟨r, hr, _⟩ := ok_bind_inv h
    obtain ⟨_, _, hx⟩ := ok_bind_inv hx
    obtain ⟨vv, hvv, _⟩ := ok_bind_inv hx
    simp only [fieldsIdsOK, Bool.and_eq_true] at hids
    simp only [touchAll, Bool.and_eq_true]
    exact ⟨hV a i vv hids.1 hvv, mapM_fields_touch hV i rest r hids.2 hr⟩

theorem touchP_map {k v : Target} (hK : TouchP k) (hV : TouchP v) : TouchP (.map k v) := fun a i d hids h => by
  unfold readAs at h
  split at h
  · rename_i len vl fs
    obtain ⟨u, hu, h⟩ := ok_bind_inv h
    obtain ⟨es, hes, _⟩ := ok_bind_inv h
    simp only [unionIdsOK] at hids
    exact touch_struct_map (k := k) (by simp [peelTarget]) (structItem_ok_lt hu) (mapM_fields_touch hV i fs es hids hes)
  · rename_i vl offs mm ks vs
    obtain ⟨⟨s, e⟩, hr, h⟩ := ok_bind_inv h
    obtain ⟨xs, hxs, _⟩ := ok_bind_inv h
    simp only [unionIdsOK, Bool.and_eq_true] at hids
    refine map_touch hr hxs fun j x hx => ?_
    obtain ⟨kk, hkk, hx⟩ := ok_bind_inv hx
    obtain ⟨vv, hvv, _⟩ := ok_bind_inv hx
    simp only [peelTarget, entryTargets]
    exact ⟨hK ks (s + j) kk hids.1 hkk, hV vs (s + j) vv hids.2 hvv⟩
  · cases h

/-! ### structs by field name -/

theorem readFieldAs_touch : ∀ (tfs : TFields), AllF TouchP tfs → ∀ (pos : Nat) (slots : Slots) (name : String) (child : Arr)
    (i : Nat) (r : Option (Nat × DVal)), unionIdsOK child = true →
    readFieldAs Fixes.all tfs pos slots name child i = .ok r →
    ∀ tt, tfieldNamed tfs name = some tt → touchOK tt child i = true
  | .nil, _, _, _, _, _, _, _, _, _, tt, hq => by simp [tfieldNamed] at hq
  | .cons n t rest, hS, pos, slots, name, child, i, r, hids, h, tt, hq => by
    unfold readFieldAs at h
    simp only [tfieldNamed] at hq
    split at h
    · rename_i hn
      simp only [hn, if_true, Option.some.injEq] at hq
      subst hq
      split at h
      · cases h
      · obtain ⟨x, hx, _⟩ := ok_bind_inv h
        exact hS.1 child i x hids hx
    · rename_i hn
      simp only [hn, Bool.false_eq_true, if_false] at hq
      exact readFieldAs_touch rest hS.2 (pos + 1) slots name child i r hids h tt hq

/-- the key loop of a derived struct visitor: every field the target names was read with that field's target -/
theorem keyLoop_touch {tfs : TFields} (hS : AllF TouchP tfs) (i : Nat) {step : Slots → FieldMeta × Arr → R Slots}
    (hstep : ∀ slots fm child slots', step slots (fm, child) = .ok slots' →
      ∃ r, readFieldAs Fixes.all tfs 0 slots fm.name child i = .ok r) :
    ∀ (fs : ArrFields) (slots slots' : Slots), fieldsIdsOK fs = true →
      fs.toList.foldlM step slots = .ok slots' → touchNamed tfs fs i = true
  | .nil, _, _, _, _ => by simp [touchNamed]
  | .cons fm a rest, slots, slots', hids, h => by
    simp only [ArrFields.toList, List.foldlM_cons] at h
    obtain ⟨s1, hs1, h⟩ := ok_bind_inv h
    obtain ⟨r, hr⟩ := hstep slots fm a s1 hs1
    simp only [fieldsIdsOK, Bool.and_eq_true] at hids
    simp only [touchNamed, Bool.and_eq_true]
    refine ⟨?_, keyLoop_touch hS i hstep rest s1 slots' hids.2 h⟩
    cases hq : tfieldNamed tfs fm.name with
    | none => rfl
    | some tt => exact readFieldAs_touch tfs hS 0 slots fm.name a i r hids.1 hr tt hq

theorem structVisit_touch {tfs : TFields} (hS : AllF TouchP tfs) {t : Target} (hp : (peelTarget t).1 = .struct tfs)
    {a : Arr} {i : Nat} {d : DVal} (hids : unionIdsOK a = true)
    (h : structVisit Fixes.all (fun slots name child => readFieldAs Fixes.all tfs 0 slots name child i) tfs a i = .ok d) :
    touchOK t a i = true := by
  unfold structVisit at h
  split at h
  · rename_i len v fs
    obtain ⟨u, hu, h⟩ := ok_bind_inv h
    obtain ⟨slots, hslots, _⟩ := ok_bind_inv h
    simp only [unionIdsOK] at hids
    refine touch_struct_named hp (structItem_ok_lt hu) (keyLoop_touch hS i ?_ fs [] slots hids hslots)
    intro slots fm child slots' hst
    obtain ⟨r, hr, _⟩ := ok_bind_inv hst
    exact ⟨r, hr⟩
  · cases h

theorem touchP_struct {tfs : TFields} (hS : AllF TouchP tfs) : TouchP (.struct tfs) := fun a i d hids h => by
  unfold readAs at h
  exact structVisit_touch hS (by simp [peelTarget]) hids h

/-! ### enums -/

/-- the target the payload of a variant of kind `k` is read with (a unit variant still calls into the child) -/
def kindTarget : VKind → Target
  | .unit => .ignored
  | .newtype t => t
  | .tuple ts => .tuple ts
  | .struct tfs => .struct tfs

def KTouch (k : VKind) : Prop :=
  ∀ (child : Arr) (off : Nat) (d : DVal), unionIdsOK child = true →
    readKind Fixes.all k (some (child, off)) = .ok d → touchOK (kindTarget k) child off = true

theorem ktouch_unit : KTouch .unit := fun child off d _ h => by
  unfold readKind at h
  exact accept_scalar_touch _ _ _ child off d h

theorem ktouch_newtype {t : Target} (hS : TouchP t) : KTouch (.newtype t) := fun child off d hids h => by
  unfold readKind at h
  exact hS child off d hids h

theorem ktouch_tuple {ts : Targets} (hS : AllT TouchP ts) : KTouch (.tuple ts) := fun child off d hids h => by
  unfold readKind at h
  exact tupleVisit_touch hS (Or.inl (by simp [kindTarget, peelTarget])) hids h

theorem ktouch_struct {tfs : TFields} (hS : AllF TouchP tfs) : KTouch (.struct tfs) := fun child off d hids h => by
  unfold readKind at h
  exact structVisit_touch hS (by simp [kindTarget, peelTarget]) hids h

/-- the variant a derived enum visitor selects: by position (`sel = some p`) or by name -/
def lookupVariant (vs : TVariants) (sel : Option Nat) (name : String) : Option VKind :=
  match sel with
  | some p => variantNth vs p
  | none => variantNamed vs name

theorem readVariantAs_touch : ∀ (vs : TVariants), AllV KTouch vs → ∀ (sel : Option Nat) (name : String) (child : Arr)
    (off : Nat) (d : DVal), unionIdsOK child = true →
    readVariantAs Fixes.all vs sel name (some (child, off)) = .ok d →
    ∃ k, lookupVariant vs sel name = some k ∧ touchOK (kindTarget k) child off = true
  | .nil, _, _, _, _, _, _, _, h => by unfold readVariantAs at h; cases h
  | .cons n k rest, hS, sel, name, child, off, d, hids, h => by
    unfold readVariantAs at h
    cases sel with
    | none =>
      simp only [Option.map_none] at h
      split at h
      · rename_i hc
        obtain ⟨x, hx, _⟩ := ok_bind_inv h
        exact ⟨k, by simp [lookupVariant, variantNamed, hc], hS.1 child off x hids hx⟩
      · rename_i hc
        obtain ⟨k', hk', ht⟩ := readVariantAs_touch rest hS.2 none name child off d hids h
        refine ⟨k', ?_, ht⟩
        simp only [Bool.not_eq_true] at hc
        simpa [lookupVariant, variantNamed, hc] using hk'
    | some p =>
      simp only [Option.map_some, beq_iff_eq] at h
      split at h
      · rename_i hc
        subst hc
        obtain ⟨x, hx, _⟩ := ok_bind_inv h
        exact ⟨k, by simp [lookupVariant, variantNth], hS.1 child off x hids hx⟩
      · rename_i hc
        obtain ⟨k', hk', ht⟩ := readVariantAs_touch rest hS.2 (some (p - 1)) name child off d hids h
        refine ⟨k', ?_, ht⟩
        cases p with
        | zero => exact absurd rfl hc
        | succ p => simpa [lookupVariant, variantNth] using hk'

theorem variantTarget_enum {byIndex : Bool} {vs : TVariants} {pos : Nat} {name : String} {k : VKind}
    (h : lookupVariant vs (if byIndex then some pos else none) name = some k) :
    variantTarget (.enum byIndex vs) pos name = kindTarget k := by
  cases byIndex <;> simp only [lookupVariant, Bool.false_eq_true, if_false, if_true] at h <;>
    simp only [variantTarget, Bool.false_eq_true, if_false, if_true, h] <;> cases k <;> rfl

theorem touchP_enum {byIndex : Bool} {vs : TVariants} (hS : AllV KTouch vs) : TouchP (.enum byIndex vs) := fun a i d hids h => by
  unfold readAs at h
  split at h
  · rename_i types offs fs
    obtain ⟨r, hr, h⟩ := ok_bind_inv h
    obtain ⟨k, off⟩ := r
    have hu := unionSelect_ok hr
    simp only [unionIdsOK] at hids
    simp only at h
    split at h
    · cases h
    · rename_i fm child hn
      obtain ⟨kind, hkind, ht⟩ := readVariantAs_touch vs hS _ fm.name child off d (nth_unionIdsOK fs 0 k fm child hids hn) h
      have hidx := indexOfTypeId_consecutive hids hu.2.1 (by rw [← hu.2.2.1]; exact hu.2.2.2.1)
      rw [← hu.2.2.1] at hidx
      refine touch_union hu.1 hidx ?_
      rw [hu.2.2.2.2]
      refine touchVariant_nth fs k _ off fm child hn ?_
      simp only [peelTarget]
      rw [variantTarget_enum hkind]
      exact ht
  · split at h
    · rename_i rs hs
      exact OkImp.bind_left (stringElem_touch _ hs) _ h
    · cases h

end SaModel.Props.C17
