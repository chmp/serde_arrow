import SaModel.Lemmas.C01ObsCompScalar
import SaModel.Lemmas.C01CompComb
/-
C01 "hidden rows" — completeness, the non-recursive combinators of the push block (records, `endFields`, bytes into
lists) under the weak invariant `WFH` / `NoDictKey` (the state-free lemmas `roomL_get`, `roomL_set`,
`totalFs_get`, `structOf_inv`, `EndOK`, `SS.element_total`, … are those of Lemmas/C01CompComb.lean).
-/
namespace SaModel.Build
open SaModel SaModel.Spec

/-- everything the completeness recursion knows about a builder: state invariant, schema, exclusions -/
structure GoodH (b : B) (dt : DataType) (n : Bool) (md : Metadata) : Prop where
  wf : WFH b
  nd : NoDictKey b
  shape : Shape b dt n md
  tot : total dt n md = true

theorem Good.toH {b : B} {dt n md} (h : Good b dt n md) : GoodH b dt n md :=
  ⟨WFH_of_WFB b h.wf, NoDictKey_of_Safe b h.safe, h.shape, h.tot⟩

theorem GoodH.push {ext : Ext} {x : SVal} {b b' : B} {dt n md} (hg : GoodH b dt n md) (_hraw : noRaw x = true)
    (h : push ext b x = .ok b') : GoodH b' dt n md :=
  have ht := push_takeRest ext x b b' h
  ⟨(push_refines ext x b b' hg.wf hg.nd h).1, NoDictKey.of_takeRest ht hg.nd,
    Shape.of_takeRest ht hg.shape, hg.tot⟩

theorem GoodH.pushScalar {ext : Ext} {x : SVal} {b b' : B} {dt n md} (hg : GoodH b dt n md)
    (h : pushScalar ext b x = .ok b') : GoodH b' dt n md :=
  have ht := pushScalar_takeRest ext b x b' h
  ⟨(pushScalar_refines ext b x b' hg.wf hg.nd h).1, NoDictKey.of_takeRest ht hg.nd,
    Shape.of_takeRest ht hg.shape, hg.tot⟩

/-! ### head room and offsets along a loop -/

/-- after a step that took at most `a` of the head room, what is left of `a + b` still fits -/
theorem room_rest {a b r r' : Nat} (hr : a + b ≤ r) (h : r ≤ r' + a) : b ≤ r' := by omega

theorem room_two {a b r r' r'' : Nat} (h1 : r ≤ r' + a) (h2 : r' ≤ r'' + b) : r ≤ r'' + (a + b) := by omega

theorem room_fst {a b r : Nat} (hr : a + b ≤ r) : a ≤ r := Nat.le_trans (Nat.le_add_right _ _) hr

theorem room_snd {a b r : Nat} (hr : a + b ≤ r) : b ≤ r := Nat.le_trans (Nat.le_add_left _ _) hr

/-- a value that is skipped takes nothing -/
theorem room_skip {a b r r' : Nat} (h : r ≤ r' + b) : r ≤ r' + (a + b) :=
  Nat.le_trans h (Nat.add_le_add_left (Nat.le_add_left _ _) _)

/-- of an entry `a + b` (key and value) followed by `c`, one half goes elsewhere -/
theorem room_l {a b c r : Nat} (h : a + b + c ≤ r) : a + c ≤ r := by omega

theorem room_r {a b c r : Nat} (h : a + b + c ≤ r) : b + c ≤ r := by omega

theorem room_skip_l {a b c r r' : Nat} (h : r ≤ r' + (a + c)) : r ≤ r' + (a + b + c) := by omega

theorem room_skip_r {a b c r r' : Nat} (h : r ≤ r' + (b + c)) : r ≤ r' + (a + b + c) := by omega

/-- the open offset `l` moves by one element of `n + 1` that fit below `i32::MAX` -/
theorem offs_next {l : Int} {n : Nat} (h0 : 0 ≤ l) (hle : l + (n + 1 : Nat) ≤ 2147483647) :
    l + (1 : Nat) ≤ 2147483647 ∧ 0 ≤ l + (1 : Nat) ∧ l + (1 : Nat) + n ≤ 2147483647 ∧ l + (1 : Nat) + n = l + (n + 1 : Nat) := by
  omega

/-- the bytes of a `serialize_bytes` call as a sequence (`byteVals`) are no larger than the call -/
theorem vsize_byteVals (ext : Ext) (bs : Bytes) : vsize ext (.seq (byteVals bs)) ≤ vsize ext (.bytes bs) := by
  have : ∀ bs : Bytes, vsizes ext (byteVals bs) = (bs.map fun x => strLen ext (.int .u8 x.toNat) + 1).sum := by
    intro bs
    induction bs with
    | nil => rfl
    | cons x rest ih => simp only [byteVals, vsizes, vsize, ih, List.map_cons, List.sum_cons]
  simp only [vsize, this]; omega

theorem endFields_completeH : ∀ (fs : BL) (seen : List Bool) (sfs : Fields),
    (∀ j c m, fs.get? j = some (c, m) → WFH c) → ShapeL fs sfs → totalFs sfs = true → seen.length = fs.length →
    EndOK seen sfs → 1 ≤ roomL fs → ∃ fs', endFields fs seen = .ok fs' ∧ roomL fs ≤ roomL fs' + 1
  | .nil, _, _, _, _, _, _, _, _ => ⟨.nil, by simp [endFields], Nat.le_add_right _ _⟩
  | .cons b m r, [], _, _, _, _, hl, _, _ => by simp [BL.length] at hl
  | .cons b m r, s :: ss, .nil, _, hs, _, _, _, _ => by simp [ShapeL] at hs
  | .cons b m r, s :: ss, .cons (.mk fname fdt fn fmd) rest, hw, hs, ht, hl, he, hk => by
    obtain ⟨hkb, hkr⟩ := Nat.le_min.1 (show 1 ≤ min (room b) (roomL r) from hk)
    simp only [ShapeL] at hs
    simp only [totalFs, totalF, Bool.and_eq_true] at ht
    obtain ⟨r', hr', hroom⟩ := endFields_completeH r ss rest (fun j c m' h => hw (j + 1) c m' (by simpa [BL.get?] using h))
      hs.2.2.2 ht.2 (by simpa [BL.length] using hl) (fun j f hj => by simpa [Fields.toList] using he (j + 1) f (by simpa [Fields.toList] using hj)) hkr
    cases s with
    | true =>
      refine ⟨.cons b m r', ?_, min_le_min_add (Nat.le_add_right _ _) hroom⟩
      simp only [endFields, if_true]
      exact (bind_ok _ _ _).2 ⟨_, hr', rfl⟩
    | false =>
      have h0 := he 0 (.mk fname fdt fn fmd) (by simp [Fields.toList])
      simp only [List.getD_cons_zero, Bool.false_eq_true, false_or, Field.nullable, Field.dataType, Field.metadata] at h0
      obtain ⟨hn, lv, hlv⟩ := h0
      obtain ⟨b', hb', hrb⟩ := pushNone_completeH b fdt fn fmd lv (hw 0 b m rfl) hs.2.2.1 ht.1 hlv hkb
      have hmn : (!m.nullable) = false := by rw [hs.2.1, hn]; rfl
      refine ⟨.cons b' m r', ?_, min_le_min_add hrb hroom⟩
      simp only [endFields, Bool.false_eq_true, if_false, hmn]
      exact (bind_ok _ _ _).2 ⟨_, hb', (bind_ok _ _ _).2 ⟨_, hr', rfl⟩⟩

/-- a field loop in state `s` at `cost`, given what the remaining values still owe the schema fields (`pend`) -/
def LoopCompAt (s : SS) (cost : Nat) (pend : Fields → Prop) (r : R SS) : Prop :=
  ∀ fs0 adds sfs, MidH fs0 s adds → ShapeL s.fields sfs → totalFs sfs = true → cost ≤ roomL s.fields → pend sfs →
    ∃ s', r = .ok s' ∧ EndOK s'.seen sfs ∧ roomL s.fields ≤ roomL s'.fields + cost

/-- a row of a struct builder around a field loop `pf` that is complete (`hpf`) for what the fresh row owes (`hpend`) -/
theorem record_completeH {p len v fs cached next seen} {pf : SS → R SS} {sfs : Fields} {n : Bool}
    {md : Metadata} {cost : Nat} {pend : SS → Fields → Prop}
    (hg : GoodH (.struct p len v fs cached next seen) (.struct sfs) n md)
    (hpf1 : FieldsOKH pf) (hskel : ∀ s1 s2, pf s1 = .ok s2 → SSkel s2 s1)
    (hpf : ∀ s, LoopCompAt s cost (pend s) (pf s)) (hr : cost + 1 ≤ roomL fs)
    (hpend : ∀ s : SS, s.fields = fs → s.next = 0 → s.seen = List.replicate fs.length false → pend s sfs) :
    ∃ b', (do
      let s ← SS.start ⟨p, len, v, fs, cached, next, seen⟩
      let s ← pf s
      let s ← s.finishRow
      pure s.toB : R B) = .ok b' ∧ roomL fs ≤ room b' + (cost + 1) := by
  have hw := hg.wf
  simp only [WFH] at hw
  obtain ⟨hv, hwfl, hseen, hnd, hcache⟩ := hw
  have hsafe := hg.nd
  simp only [NoDictKey] at hsafe
  have hsh := hg.shape
  simp only [Shape] at hsh
  obtain ⟨_, sfs', he, hsl⟩ := hsh
  cases he
  have ht := hg.tot
  simp only [total, Bool.and_eq_true] at ht
  obtain ⟨v', hv'⟩ := setValidity_true_total v len
  have hmid : MidH fs ⟨p, len + 1, v', fs, cached, 0, List.replicate seen.length false⟩ (List.replicate fs.length []) :=
    ⟨by simpa using ExtLH.refl fs len hwfl, by rw [hseen]; exact Flags.fresh _, hcache, hsafe, hnd⟩
  obtain ⟨s2, h2, hend, hroom⟩ := hpf _ fs _ sfs hmid hsl ht.1 (Nat.le_of_succ_le hr) (hpend _ rfl rfl (by rw [hseen]))
  obtain ⟨⟨adds2, hm2⟩, _⟩ := hpf1 _ _ _ _ hmid h2
  have hsl2 : ShapeL s2.fields sfs := ShapeL.of_takeRest (hskel _ s2 h2).2.2.1 hsl
  obtain ⟨fs3, h3, hr3⟩ := endFields_completeH s2.fields s2.seen sfs
    (fun j c m h => ExtLH.get _ _ _ j (c, m) hm2.ext h) hsl2 ht.1 hm2.adds_length.2.1 hend (room_rest hr hroom)
  refine ⟨SS.toB { s2 with fields := fs3 }, ?_, room_two hroom hr3⟩
  refine (bind_ok _ _ _).2 ⟨_, ?_, (bind_ok _ _ _).2 ⟨s2, h2, (bind_ok _ _ _).2 ⟨{ s2 with fields := fs3 }, ?_, rfl⟩⟩⟩
  · simp only [SS.start]
    exact (bind_ok _ _ _).2 ⟨v', hv', rfl⟩
  · simp only [SS.finishRow]
    exact (bind_ok _ _ _).2 ⟨fs3, h3, rfl⟩

end SaModel.Build
