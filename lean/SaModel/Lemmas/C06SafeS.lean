import SaModel.Lemmas.C01Shape
import SaModel.Lemmas.C01CompDefs
import SaModel.Lemmas.C04SafeDT
/-
C06 (closure): C01's `Safe` as a DECIDABLE predicate on the schema.

`Safe b` (Build/Inv.lean) is a property of the builder tree; for the builder of a field (`Shape b dt n md`, what
`build_builder` establishes) it only depends on the field:

  safeDT dt n md    no dictionary with NON-nullable keys can receive `serialize_default` — the calls a nullable struct /
                    fixed-size list issues on a null go down through struct children, fixed-size-list children and the
                    first variant of a union that is not an `UnknownVariant` placeholder (`defSafeDT`) and must not end
                    at a non-nullable Dictionary
  safe_iff_safeDT   Shape b dt n md → (Safe b ↔ safeDT dt n md = true)       (exact: the exclusion is minimal)

The two predicates are those of Lemmas/C04SafeDT.lean (`safeDT_eq`, `defSafeDT_eq`), where the equivalence is proved
(`Build.safe_iff_shape`).
-/
namespace SaModel.Lemmas.C06
open SaModel SaModel.Spec SaModel.Build

mutual
/-- `serialize_default` on the builder of this field never reaches a dictionary with non-nullable keys -/
def defSafeDT : DataType → Bool → Metadata → Bool
  | .dictionary _ _, n, _ => n
  | .struct fs, _, _ => defSafeFs fs
  | .fixedSizeList f _, _, _ => defSafeF f
  | .union ufs _, _, _ => defSafeFirst ufs
  | _, _, _ => true
def defSafeF : Field → Bool
  | .mk _ dt n md => defSafeDT dt n md
def defSafeFs : Fields → Bool
  | .nil => true
  | .cons f r => defSafeF f && defSafeFs r
/-- the variant `UnionBuilder::serialize_default` delegates to: the first that is not a placeholder -/
def defSafeFirst : UFields → Bool
  | .nil => true
  | .cons _ f r => if isPlaceholderF f then defSafeFirst r else defSafeF f
end

mutual
/-- C01's `Safe`, on the schema -/
def safeDT : DataType → Bool → Metadata → Bool
  | .list f, _, _ => safeF f
  | .largeList f, _, _ => safeF f
  | .fixedSizeList f _, n, _ => safeF f && (!n || defSafeF f)
  | .map (.mk _ (.struct (.cons kf (.cons vf _))) _ _) _, _, _ => safeF kf && safeF vf
  | .struct fs, n, _ => safeFs fs && (!n || defSafeFs fs)
  | .union ufs _, _, _ => safeU ufs
  | .dictionary _ v, _, _ => safeDT v false []     -- the value builder is the builder of the non-nullable value field
  | _, _, _ => true
def safeF : Field → Bool
  | .mk _ dt n md => safeDT dt n md
def safeFs : Fields → Bool
  | .nil => true
  | .cons f r => safeF f && safeFs r
def safeU : UFields → Bool
  | .nil => true
  | .cons _ f r => safeF f && safeU r
end

/-! ### the same predicates as `Build.safeDT` / `Build.defSafeDT` (Lemmas/C04SafeDT.lean)

`safeDT` carries the metadata of the field along without looking at it. -/

mutual
theorem defSafeDT_eq (dt : DataType) (n : Bool) (md : Metadata) : defSafeDT dt n md = Build.defSafeDT dt n md := by
  cases dt with
  | struct fs => simp only [defSafeDT, Build.defSafeDT]; exact defSafeFs_eq fs
  | fixedSizeList f k => simp only [defSafeDT, Build.defSafeDT]; exact defSafeF_eq f
  | union ufs m => simp only [defSafeDT, Build.defSafeDT]; exact defSafeFirst_eq ufs
  | _ => rfl
theorem defSafeF_eq : ∀ f : Field, defSafeF f = Build.defSafeF f
  | .mk _ dt n md => by simp only [defSafeF, Build.defSafeF]; exact defSafeDT_eq dt n md
theorem defSafeFs_eq : ∀ fs : Fields, defSafeFs fs = Build.defSafeFs fs
  | .nil => rfl
  | .cons f r => by simp only [defSafeFs, Build.defSafeFs, defSafeF_eq f, defSafeFs_eq r]
theorem defSafeFirst_eq : ∀ ufs : UFields, defSafeFirst ufs = Build.defSafeFirstU ufs
  | .nil => rfl
  | .cons _ f r => by simp only [defSafeFirst, Build.defSafeFirstU, defSafeF_eq f, defSafeFirst_eq r]
end

mutual
theorem safeDT_eq (dt : DataType) (n : Bool) (md : Metadata) : safeDT dt n md = Build.safeDT dt n := by
  cases dt with
  | list f => simp only [safeDT, Build.safeDT]; exact safeF_eq f
  | largeList f => simp only [safeDT, Build.safeDT]; exact safeF_eq f
  | fixedSizeList f k => simp only [safeDT, Build.safeDT, safeF_eq f, defSafeF_eq f]
  | struct fs => simp only [safeDT, Build.safeDT, safeFs_eq fs, defSafeFs_eq fs]
  | union ufs m => simp only [safeDT, Build.safeDT]; exact safeU_eq ufs
  | dictionary k v => simp only [safeDT, Build.safeDT]; exact safeDT_eq v false []
  | map f s =>
    cases f with
    | mk _ fdt _ _ =>
      cases fdt with
      | struct fs =>
        cases fs with
        | nil => rfl
        | cons kf r =>
          cases r with
          | nil => rfl
          | cons vf _ => simp only [safeDT, Build.safeDT, safeF_eq kf, safeF_eq vf]
      | _ => rfl
  | _ => rfl
theorem safeF_eq : ∀ f : Field, safeF f = Build.safeF f
  | .mk _ dt n md => by simp only [safeF, Build.safeF]; exact safeDT_eq dt n md
theorem safeFs_eq : ∀ fs : Fields, safeFs fs = Build.safeFs fs
  | .nil => rfl
  | .cons f r => by simp only [safeFs, Build.safeFs, safeF_eq f, safeFs_eq r]
theorem safeU_eq : ∀ ufs : UFields, safeU ufs = Build.safeUs ufs
  | .nil => rfl
  | .cons _ f r => by simp only [safeU, Build.safeUs, safeF_eq f, safeU_eq r]
end

/-! ### `Safe` and `DefSafe` of the builder of a field (`Build.safe_iff_shape`) -/

theorem defSafeFirst_iff : ∀ (bl : BL) (ufs : UFields) (k : Nat), ShapeU bl ufs k →
    (DefSafeFirst bl ↔ defSafeFirst ufs = true) :=
  fun bl ufs k h => by rw [defSafeFirst_eq]; exact (safeU_iff_shape bl ufs k h).2

/-- **`Safe` is a property of the field**: for the builder of a field, `Safe` holds exactly when `safeDT` does -/
theorem safe_iff_safeDT : ∀ (b : B) (dt : DataType) (n : Bool) (md : Metadata), Shape b dt n md →
    (Safe b ↔ safeDT dt n md = true) :=
  fun b dt n md h => by rw [safeDT_eq]; exact (safe_iff_shape b dt n md h).1

theorem safeL_iff : ∀ (bl : BL) (fs : Fields), ShapeL bl fs → (SafeL bl ↔ safeFs fs = true) :=
  fun bl fs h => by rw [safeFs_eq]; exact (safeL_iff_shape bl fs h).1

theorem safeU_iff : ∀ (bl : BL) (ufs : UFields) (k : Nat), ShapeU bl ufs k → (SafeL bl ↔ safeU ufs = true) :=
  fun bl ufs k h => by rw [safeU_eq]; exact (safeU_iff_shape bl ufs k h).1

end SaModel.Lemmas.C06
