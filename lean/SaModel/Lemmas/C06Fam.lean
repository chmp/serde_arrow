import SaModel.Lemmas.C06Unfold
import SaModel.Props.C07
/-
The family view of `absorb`, on which C06, C07 and C08 rest: `fam o x` is the scheme of the sample `x` (one of nine, the
children are samples again); `absorb_ok_iff` says what a successful `absorb` does to the node it is applied to, for
either code (`Run`, SaModel/Lemmas/C06Unfold.lean); `fam_induct` is the induction over samples along the children of
their scheme.
-/
namespace SaModel.Lemmas.C06
open SaModel SaModel.Trace SaModel.Props.C07

def Fam.ofKvs (r : R (List (String × SVal))) : Fam :=
  match r with
  | .ok kvs => .struct .map kvs
  | .error _ => .never

def fam (o : Options) (x : SVal) : Fam :=
  match leafTypeOf o x with
  | some ty => .leaf ty
  | none =>
    match x with
    | .none => .none
    | .some v => .wrap true v
    | .newtypeStruct _ v => .wrap false v
    | .seq items => .list items.toList
    | .tuple items | .tupleStruct _ items => .tuple items.toList
    | .record _ fs => .struct .struct (SFields.kvs fs)
    | .map es => if o.map_as_struct then .ofKvs (SEntries.kvs es) else .map (SEntries.keys es) (SEntries.vals es)
    | .mapRaw ops => if o.map_as_struct then .ofKvs (SMapOps.kvs none ops) else .map (SMapOps.keys ops) (SMapOps.vals ops)
    | .unitVariant _ i vn => .variant i vn .unit
    | .newtypeVariant _ i vn v => .variant i vn v
    | .tupleVariant _ i vn items => .variant i vn (.tuple items)
    | .structVariant n i vn fs => .variant i vn (.record n fs)
    | _ => .never

def Fam.kids : Fam → List SVal
  | .wrap _ v => [v]
  | .list items => items
  | .map ks vs => ks ++ vs
  | .struct _ kvs => kvs.map (·.2)
  | .tuple items => items
  | .variant _ _ y => [y]
  | _ => []

theorem fam_map (o : Options) (es : SEntries) : fam o (.map es) =
    if o.map_as_struct then .ofKvs (SEntries.kvs es) else .map (SEntries.keys es) (SEntries.vals es) := rfl

theorem fam_mapRaw (o : Options) (ops : SMapOps) : fam o (.mapRaw ops) =
    if o.map_as_struct then .ofKvs (SMapOps.kvs none ops) else .map (SMapOps.keys ops) (SMapOps.vals ops) := rfl

theorem fam_leaf {o : Options} {x : SVal} {ty : DataType} (h : leafTypeOf o x = some ty) : fam o x = .leaf ty := by
  simp only [fam, h]

variable {c : Code} {o : Options}

theorem run_ofKvs {rk : R (List (String × SVal))} {t a : Tracer} :
    Run c o (.ofKvs rk) t a ↔ ∃ kvs, rk = .ok kvs ∧ Run c o (.struct .map kvs) t a := by
  cases rk with
  | error e => exact ⟨fun h => h.elim, fun ⟨_, h, _⟩ => nomatch h⟩
  | ok kvs => exact ⟨fun h => ⟨kvs, rfl, h⟩, fun ⟨_, h, r⟩ => by cases h; exact r⟩

theorem absorb_ok_iff (t a : Tracer) (x : SVal) : absorb c o t x = .ok a ↔ Run c o (fam o x) t a := by
  have hL : ∀ ty, leafTypeOf o x = some ty → (absorb c o t x = .ok a ↔ Run c o (fam o x) t a) := fun ty h => by
    rw [fam_leaf h, absorb_prim c o t h]; exact (and_iff_right (leafTypeOf_mem o h)).symm
  have hR : ∀ ops, absorb c o t (.mapRaw ops) = .ok a ↔ Run c o (fam o (.mapRaw ops)) t a := fun ops => by
    by_cases hm : o.map_as_struct = true
    · rw [absorb_mapRaw_struct_ok c o t a ops hm]; simp only [fam, leafTypeOf, if_pos hm, run_ofKvs]
    · rw [absorb_mapRaw_map_ok c o t a ops (by simpa using hm)]; simp only [fam, leafTypeOf, if_neg hm]
  have hV : ∀ nm i vn y, absorb c o t (.newtypeVariant nm i vn y) = .ok a ↔ Run c o (.variant i vn y) t a :=
    fun nm i vn y => absorb_newtypeVariant_ok c o t a nm i vn y
  cases x
  case none => rw [absorb_none]; exact ⟨fun h => (Except.ok.inj h).symm, fun h => by rw [show a = _ from h]⟩
  case some v => rw [absorb_some]; exact Iff.rfl
  case newtypeStruct n v => rw [absorb_newtypeStruct]; exact Iff.rfl
  case seq items => exact absorb_seq_ok c o t a items
  case tuple items => rw [absorb_tuple_ok, ← SVals.length_toList]; exact Iff.rfl
  case tupleStruct n items => rw [absorb_tupleStruct, absorb_tuple_ok, ← SVals.length_toList]; exact Iff.rfl
  case record n fs => exact absorb_record_ok c o t a n fs
  case map es =>
    rw [absorb_map, hR]
    simp only [fam, leafTypeOf, SEntries.kvs_ops, SEntries.keys_ops, SEntries.vals_ops]
  case mapRaw ops => exact hR ops
  case unitVariant n i vn => rw [absorb_unitVariant]; exact hV n i vn _
  case newtypeVariant n i vn v => exact hV n i vn v
  case tupleVariant n i vn items => rw [absorb_tupleVariant]; exact hV n i vn _
  case structVariant n i vn fs => rw [absorb_structVariant]; exact hV n i vn _
  all_goals exact hL _ rfl

theorem run_of_absorb {t a : Tracer} {x : SVal} {f : Fam} (hx : fam o x = f) (h : absorb c o t x = .ok a) :
    Run c o f t a := hx ▸ (absorb_ok_iff t a x).mp h

theorem absorb_of_run {t a : Tracer} {x : SVal} {f : Fam} (hx : fam o x = f) (h : Run c o f t a) :
    absorb c o t x = .ok a := (absorb_ok_iff t a x).mpr (hx ▸ h)

/-- a sample of the variant scheme, run forwards -/
theorem variant_run (c : Code) (o : Options) {x : SVal} {idx : Nat} {vn : String} {y : SVal}
    (hf : fam o x = .variant idx vn y) {t : Tracer} {n p : String} {nl : Bool} {V : Variants} {vt vt' : Tracer}
    (h1 : ensure_union_variant t vn idx = .ok (n, p, nl, V, vt)) (h2 : absorb c o vt y = .ok vt') :
    absorb c o t x = .ok (.union n p nl (V.set idx vn vt')) := by
  rw [absorb_ok_iff, hf]
  obtain ⟨vs0, nm, h3, h4, h5⟩ := (ensure_union_variant_ok t vn idx n p nl V vt).mp h1
  exact ⟨n, p, nl, vs0, V, nm, vt, vt', h3, h4, h5, h2, rfl⟩

theorem fam_induct (o : Options) {P : SVal → Prop} (h : ∀ x, (∀ y ∈ (fam o x).kids, P y) → P x) : ∀ x, P x := by
  have one : ∀ {y : SVal} {Q : SVal → Prop}, Q y → ∀ z ∈ [y], Q z := fun hy z hz => by
    rw [List.mem_singleton] at hz; exact hz ▸ hy
  have kv : ∀ rk : R (List (String × SVal)), (∀ kvs, rk = .ok kvs → ∀ kv ∈ kvs, P kv.2) →
      ∀ y ∈ (Fam.ofKvs rk).kids, P y := fun rk ih y hy => by
    cases rk with
    | error e => cases hy
    | ok kvs => obtain ⟨kv, hkv, rfl⟩ := List.mem_map.mp hy; exact ih kvs rfl kv hkv
  apply sval_induct o P
  · exact fun x ty hx => h x (by rw [fam_leaf hx]; exact fun _ hy => nomatch hy)
  · exact h _ fun _ hy => nomatch hy
  · exact fun v ih => h _ (one ih)
  · exact fun n v ih => h _ (one ih)
  · exact fun items ih => h _ ih
  · exact fun items ih => h _ ih
  · exact fun n items ih => h _ ih
  · exact fun n fs ih => h _ fun y hy => by obtain ⟨kv, hkv, rfl⟩ := List.mem_map.mp hy; exact ih kv hkv
  · intro es ihk ihv
    refine h _ ?_
    simp only [fam, leafTypeOf]
    split
    · exact kv _ fun kvs hk kv hkv => ihv _ (SEntries.kvs_vals es kvs hk kv hkv)
    · exact fun y hy => (List.mem_append.mp hy).elim (ihk y) (ihv y)
  · intro ops ihk ihv
    refine h _ ?_
    simp only [fam, leafTypeOf]
    split
    · exact kv _ fun kvs hk kv hkv => ihv _ (SMapOps.kvs_vals ops none kvs hk kv hkv)
    · exact fun y hy => (List.mem_append.mp hy).elim (ihk y) (ihv y)
  · exact fun n i vn => h _ (one (h .unit fun _ hy => nomatch hy))
  · exact fun n i vn v ih => h _ (one ih)
  · exact fun n i vn items ih => h _ (one (h (.tuple items) ih))
  · exact fun n i vn fs ih => h _ (one (h (.record n fs) fun y hy => by
      obtain ⟨kv, hkv, rfl⟩ := List.mem_map.mp hy; exact ih kv hkv))

end SaModel.Lemmas.C06
