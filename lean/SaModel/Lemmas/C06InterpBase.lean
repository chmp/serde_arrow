import SaModel.Lemmas.C07TLift
import SaModel.Lemmas.C06TupleNames
import SaModel.Lemmas.SpecInterp
import SaModel.Lemmas.C06Excl
import SaModel.Lemmas.C06Stable
import SaModel.Lemmas.C06ToField
/-
C06, closure, tracer ⇒ documented mapping: the statement proved by induction over nested samples.

`PI o ext x` (proved in the form `Mapped o ext x`, over `Was`): absorb `x` into a reachable tracer `t` (invariant `Inv`
= `C07.WF`: leaf states of the alphabet, struct fields with distinct names named after their keys, counters below
`seen_samples`; and `TN`: tuple positions named after their index), let the tracer absorb ANY further samples (`Steps`),
turn the result into a field (`to_field`, no overwrites): then the documented mapping `Spec.interpDT` of `x` at that
field is defined, unless `x` is ill-formed as a serde value (`sampleOK`) or one of the exclusions holds at some position
(`hits (exclAny ext)`).  Repaired code (`Code.fixed`) only: the pinned code is defective (finding #25). This file: what
the mapping needs of the field `to_field` returns, the definition, and the cases `None` / `Some` / newtype struct.
-/
namespace SaModel.Lemmas.C06
open SaModel SaModel.Spec SaModel.Build SaModel.Trace

/-! ### the facts the mapping needs about the field `Tracer::to_field` returns (options without overwrites; the inversions node
kind by node kind are `Lemmas/C06ToField.lean`): the field is named after the tracer, is never an `UnknownVariant` placeholder, and
a nullable tracer gives a nullable field, which takes a null unless it is a Union -/

theorem isUV_of_ne_null {dt : DataType} {md : Metadata} (h : dt ≠ .null) : isUnknownVariant dt md = false := by
  cases dt <;> first | rfl | exact absurd rfl h

theorem to_field_head {o : Options} (h0 : o.overwrites = []) {t : Tracer} {f : Field} (h : t.to_field o = .ok f) :
    f.name = t.name ∧ isUnknownVariant f.dataType f.metadata = false ∧ (t.nullable = true → f.nullable = true) := by
  have hf := to_field_node h0 h
  cases t with
  | unknown n p nl => cases hf; exact ⟨rfl, rfl, fun _ => rfl⟩
  | primitive n p nl ty st =>
    rcases hf with ⟨_, rfl⟩ | ⟨hne, hs, ⟨_, rfl⟩ | ⟨_, rfl⟩⟩ | ⟨hne, _, rfl⟩
    · exact ⟨rfl, rfl, fun _ => rfl⟩
    · exact ⟨rfl, isUV_of_ne_null hne, id⟩
    · exact ⟨rfl, rfl, id⟩
    · exact ⟨rfl, isUV_of_ne_null hne, id⟩
  | list n p nl i =>
    obtain ⟨item, _, rfl⟩ := hf
    refine ⟨rfl, ?_, id⟩
    simp only [Field.dataType]; split <;> rfl
  | map n p nl k v => obtain ⟨kf, vf, _, _, rfl⟩ := hf; exact ⟨rfl, rfl, id⟩
  | struct n p nl fs m s => obtain ⟨fields, _, ⟨_, rfl⟩ | ⟨_, rfl⟩⟩ := hf <;> exact ⟨rfl, rfl, id⟩
  | tuple n p nl ts => obtain ⟨fields, _, rfl⟩ := hf; exact ⟨rfl, rfl, id⟩
  | union n p nl vs => rcases hf with ⟨_, _, rfl⟩ | ⟨fields, _, rfl, _⟩ <;> exact ⟨rfl, rfl, id⟩

theorem to_field_nullable {o : Options} (h0 : o.overwrites = []) {t : Tracer} {g : Field} (h : t.to_field o = .ok g)
    (hn : t.nullable = true) : g.nullable = true :=
  (to_field_head h0 h).2.2 hn

theorem to_field_facts {o : Options} (h0 : o.overwrites = []) {t : Tracer} {f : Field} (h : t.to_field o = .ok f) :
    f.name = t.name ∧ isUnknownVariant f.dataType f.metadata = false ∧
    (t.nullable = true → f.nullable = true ∨ f.dataType = .null) :=
  ⟨(to_field_head h0 h).1, (to_field_head h0 h).2.1, fun hn => .inl ((to_field_head h0 h).2.2 hn)⟩

theorem interpNull_of_nullable {o : Options} (h0 : o.overwrites = []) {t : Tracer} {f : Field}
    (h : t.to_field o = .ok f) (hn : t.nullable = true) (hu : isUnionDT f.dataType = false) :
    interpNull f.dataType f.nullable f.metadata = .ok .null := by
  obtain ⟨_, huv, hnl⟩ := to_field_head h0 h
  unfold interpNull
  rw [huv, hnl hn]
  simp only [Bool.false_eq_true, if_false]
  split
  · rfl
  · rename_i h1; rw [h1] at hu; cases hu
  · rfl

theorem wf7_wf (o : Options) (t : Tracer) (h : C07.WF o t) : WF o t := ((C07.wf7_iff o t).mp h).1

theorem steps_wf7 {o : Options} {t t2 : Tracer} (hw : C07.WF o t) (h : Steps .fixed o t t2) : C07.WF o t2 := by
  obtain ⟨ys, h⟩ := h
  exact C07.absorbAll_wf o hw h

theorem wf7_new (o : Options) (n p : String) : C07.WF o (Tracer.new n p) := by simp [Tracer.new, C07.WF]

def Inv (o : Options) (t : Tracer) : Prop := C07.WF o t ∧ TN t

theorem Inv.wf {o : Options} {t : Tracer} (h : Inv o t) : WF o t := wf7_wf o t h.1

theorem Inv_new (o : Options) (n p : String) : Inv o (Tracer.new n p) := ⟨wf7_new o n p, TN_new n p⟩

theorem absorb_inv (o : Options) {x : SVal} {t t' : Tracer} (hw : Inv o t) (h : absorb .fixed o t x = .ok t') :
    Inv o t' := ⟨C07.absorb_wf o hw.1 h, absorb_tn' o x t t' hw.2 h⟩

theorem steps_inv {o : Options} {t t2 : Tracer} (hw : Inv o t) (h : Steps .fixed o t t2) : Inv o t2 := by
  obtain ⟨ys, h'⟩ := h
  exact ⟨steps_wf7 hw.1 ⟨ys, h'⟩, absorbAll_tn' o ys hw.2 h'⟩

theorem Inv_mark {o : Options} {t : Tracer} (h : Inv o t) : Inv o t.mark_nullable :=
  ⟨C07.WF_mark h.1, TN_mark_nullable h.2⟩

def IOk (ext : Ext) (f : Field) (x : SVal) : Prop :=
  ∃ lv, interpDT ext f.dataType f.nullable f.metadata x = .ok lv

def Maps (o : Options) (ext : Ext) (t : Tracer) (x : SVal) : Prop :=
  ∀ t2, Steps .fixed o t t2 → ∀ f, t2.to_field o = .ok f →
    sampleOK o.map_as_struct x = true → hits (exclAny ext) f.dataType x = false → IOk ext f x

def PI (o : Options) (ext : Ext) (x : SVal) : Prop :=
  ∀ t t', Inv o t → absorb .fixed o t x = .ok t' → Maps o ext t' x

theorem Maps.steps {o : Options} {ext : Ext} {t t' : Tracer} {x : SVal} (h : Maps o ext t x)
    (hs : Steps .fixed o t t') : Maps o ext t' x :=
  fun t2 hs2 => h t2 (hs.trans hs2)

/-- every later state of a node that has absorbed `x` (`Was`, SaModel/Lemmas/C06Was.lean) yields a field at which the
mapping of `x` is defined (or `x` is excluded): the form in which the induction over nested samples goes through -/
def Mapped (o : Options) (ext : Ext) (x : SVal) : Prop :=
  ∀ t2, Was .fixed o x t2 → Inv o t2 → ∀ f, t2.to_field o = .ok f →
    sampleOK o.map_as_struct x = true → hits (exclAny ext) f.dataType x = false → IOk ext f x

theorem Mapped.pi {o : Options} {ext : Ext} {x : SVal} (h : Mapped o ext x) : PI o ext x :=
  fun t t' hw ha t2 hs => h t2 ⟨t, t', hw.wf, ha, hs⟩ (steps_inv (absorb_inv o hw ha) hs)

theorem Inv_list {o : Options} {n p : String} {nl : Bool} {i : Tracer} (h : Inv o (.list n p nl i)) : Inv o i := by
  simpa only [Inv, C07.WF, TN] using h

theorem Inv_map {o : Options} {n p : String} {nl : Bool} {k v : Tracer} (h : Inv o (.map n p nl k v)) :
    Inv o k ∧ Inv o v := by
  simp only [Inv, C07.WF, TN] at h ⊢
  exact ⟨⟨h.1.1, h.2.1⟩, h.1.2, h.2.2⟩

theorem mapped_none (o : Options) (ext : Ext) (h0 : o.overwrites = []) : Mapped o ext .none := by
  intro t2 h _ f hf _ hex
  have hn : t2.nullable = true := was_later h
  have hu : isUnionDT f.dataType = false := by
    simpa [hits, exclAny, nullAtEnum, dateLookalike, u64AboveI64, dataLessNewtype] using hex
  exact ⟨.null, by rw [interpDT]; exact interpNull_of_nullable h0 hf hn hu⟩

theorem PI_none (o : Options) (ext : Ext) (h0 : o.overwrites = []) : PI o ext .none := (mapped_none o ext h0).pi

theorem mapped_some (o : Options) (ext : Ext) (v : SVal) (ih : Mapped o ext v) : Mapped o ext (.some v) := by
  intro t2 h hinv f hf hok hex
  have hl : Later .fixed o (.wrap true v) t2 := was_later h
  obtain ⟨lv, hlv⟩ := ih t2 hl.2 hinv f hf (by simpa [sampleOK] using hok) (by simpa [hits] using hex)
  exact ⟨lv, by rw [interpDT]; exact hlv⟩

theorem mapped_newtypeStruct (o : Options) (ext : Ext) (n : String) (v : SVal) (ih : Mapped o ext v) :
    Mapped o ext (.newtypeStruct n v) := by
  intro t2 h hinv f hf hok hex
  have hl : Later .fixed o (.wrap false v) t2 := was_later h
  obtain ⟨lv, hlv⟩ := ih t2 hl.2 hinv f hf (by simpa [sampleOK] using hok) (by simpa [hits] using hex)
  exact ⟨lv, by rw [interpDT]; exact hlv⟩

/-- a struct value is defined as soon as every field finds exactly one value (or none, and takes a null) -/
theorem structOf_ok (l : List Field) (collect : Field → R (List LVal))
    (h : ∀ g ∈ l, ∃ found v, collect g = .ok found ∧
      pickOne g.name g.nullable g.dataType g.metadata found = .ok v) : ∃ lv, structOf l collect = .ok lv :=
  Spec.structOf_total fun g hg => let ⟨found, v, h1, h2⟩ := h g hg; ⟨_, Spec.pickField_eq_ok.mpr ⟨found, v, h1, h2, rfl⟩⟩

theorem samplesOK_mem (b : Bool) : ∀ xs : SVals, samplesOK b xs = true → ∀ v ∈ xs.toList, sampleOK b v = true
  | .nil, _ => fun _ h => nomatch h
  | .cons x r, h => by
    simp only [samplesOK, Bool.and_eq_true] at h
    exact List.forall_mem_cons.mpr ⟨h.1, samplesOK_mem b r h.2⟩

end SaModel.Lemmas.C06
