import SaModel.Lemmas.C07TUnion2
/-
C07, tree level — classification of samples into families, read off the scheme `C06.fam` of the sample (`classify_fam`,
`Family`), and the induction over nested samples with one case per family (`sample_induct`), through which the laws of
SaModel/Lemmas/C07L*.lean are proved.  The children of a sample are smaller (`kids_sz`), which gives a second
form of the classification (`classify`, `Fam`: what `absorb` does with the sample, parts smaller); `sample_induct` does not
need it, it rests on `C06.fam_induct`.
-/
namespace SaModel.Lemmas.C07
open SaModel SaModel.Trace SaModel.Props.C07

theorem szf_mem : ∀ {flds : SFields} {kv : String × SVal}, kv ∈ C06.SFields.kvs flds → sz kv.2 < szf flds + 1
  | .nil, _, h => nomatch h
  | .cons k _ v r, kv, h => by
    simp only [szf]
    rcases List.mem_cons.mp h with rfl | h
    · simp only; omega
    · have := szf_mem h; omega

theorem sze_mem : ∀ {es : SEntries} {v : SVal}, v ∈ C06.SEntries.keys es ++ C06.SEntries.vals es → sz v < sze es + 1
  | .nil, _, h => nomatch h
  | .cons k w r, v, h => by
    simp only [sze]
    simp only [C06.SEntries.keys, C06.SEntries.vals, List.mem_append, List.mem_cons] at h
    rcases h with (rfl | h) | (rfl | h)
    · omega
    · have := sze_mem (List.mem_append_left _ h); omega
    · omega
    · have := sze_mem (List.mem_append_right _ h); omega

theorem szo_mem : ∀ {ops : SMapOps} {v : SVal}, v ∈ C06.SMapOps.keys ops ++ C06.SMapOps.vals ops → sz v < szo ops + 1
  | .nil, _, h => nomatch h
  | .key k r, v, h => by
    simp only [szo]
    simp only [C06.SMapOps.keys, C06.SMapOps.vals, List.mem_append, List.mem_cons] at h
    rcases h with (rfl | h) | h
    · omega
    · have := szo_mem (List.mem_append_left _ h); omega
    · have := szo_mem (List.mem_append_right _ h); omega
  | .value w r, v, h => by
    simp only [szo]
    simp only [C06.SMapOps.keys, C06.SMapOps.vals, List.mem_append, List.mem_cons] at h
    rcases h with h | (rfl | h)
    · have := szo_mem (List.mem_append_left _ h); omega
    · omega
    · have := szo_mem (List.mem_append_right _ h); omega

theorem kids_sz (o : Options) (x y : SVal) (hy : y ∈ (C06.fam o x).kids) : sz y < sz x := by
  have one : ∀ {v : SVal}, y ∈ [v] → y = v := List.mem_singleton.mp
  have kv : ∀ (rk : R (List (String × SVal))) (vals : List SVal) (n : Nat),
      (∀ kvs, rk = .ok kvs → ∀ kv ∈ kvs, kv.2 ∈ vals) → (∀ v ∈ vals, sz v < n) → y ∈ (C06.Fam.ofKvs rk).kids → sz y < n := by
    intro rk vals n h1 h2 hy
    cases rk with
    | error e => cases hy
    | ok kvs => obtain ⟨kv, hkv, rfl⟩ := List.mem_map.mp hy; exact h2 _ (h1 kvs rfl kv hkv)
  cases x
  case some v => rw [one hy]; simp only [sz]; omega
  case newtypeStruct n v => rw [one hy]; simp only [sz]; omega
  case seq items => exact szs_mem items y hy
  case tuple items => exact szs_mem items y hy
  case tupleStruct n items => exact szs_mem items y hy
  case record n fs => obtain ⟨kv, hkv, rfl⟩ := List.mem_map.mp hy; exact szf_mem hkv
  case map es =>
    rw [C06.fam_map] at hy
    split at hy
    · exact kv _ _ _ (C06.SEntries.kvs_vals es) (fun v hv => sze_mem (List.mem_append_right _ hv)) hy
    · exact sze_mem hy
  case mapRaw ops =>
    rw [C06.fam_mapRaw] at hy
    split at hy
    · exact kv _ _ _ (C06.SMapOps.kvs_vals ops none) (fun v hv => szo_mem (List.mem_append_right _ hv)) hy
    · exact szo_mem hy
  case unitVariant n i vn => rw [one hy]; simp only [sz]; omega
  case newtypeVariant n i vn v => rw [one hy]; simp only [sz]; omega
  case tupleVariant n i vn items => rw [one hy]; simp only [sz]; omega
  case structVariant n i vn fs => rw [one hy]; simp only [sz]; omega
  all_goals cases hy

/-- `x` belongs to the container family of shape `S`; the parts are smaller than `x` -/
def Fam (o : Options) (x : SVal) : Shape → Prop
  | .list => ∃ items, x = .seq items
  | .struct => ∃ mode ps, StructLike o x mode ps ∧ ∀ kv ∈ ps, sz kv.2 < sz x
  | .map => ∃ ks vs, MapLike o x ks vs ∧ (∀ v ∈ ks, sz v < sz x) ∧ (∀ v ∈ vs, sz v < sz x)
  | .tuple => ∃ items, TupleLike o x items ∧ ∀ v ∈ items.toList, sz v < sz x
  | .union => ∃ idx vn payload, UnionLike o x idx vn payload ∧ sz payload < sz x

/-- the scheme of `x` is the container scheme of shape `S` -/
def Family (o : Options) (x : SVal) : Shape → Prop
  | .list => ∃ items, x = .seq items
  | .struct => ∃ mode ps, StructFam o x mode ps
  | .map => ∃ ks vs, MapFam o x ks vs
  | .tuple => ∃ items, TupleFam o x items
  | .union => ∃ idx vn payload, UnionFam o x idx vn payload

/-- every sample is a transparent wrapper, a leaf, never accepted, or belongs to a container family -/
theorem classify_fam (o : Options) (x : SVal) :
    x = .none ∨ (∃ v, x = .some v) ∨ (∃ n v, x = .newtypeStruct n v) ∨ (∃ ty, leafTypeOf o x = some ty) ∨
      Never o x ∨ ∃ S, Family o x S := by
  cases x
  case none => exact .inl rfl
  case some v => exact .inr (.inl ⟨v, rfl⟩)
  case newtypeStruct n v => exact .inr (.inr (.inl ⟨n, v, rfl⟩))
  case seq items => exact .inr (.inr (.inr (.inr (.inr ⟨.list, items, rfl⟩))))
  case tuple items => exact .inr (.inr (.inr (.inr (.inr ⟨.tuple, items, tupleFam_tuple o items⟩))))
  case tupleStruct nm items => exact .inr (.inr (.inr (.inr (.inr ⟨.tuple, items, tupleFam_tupleStruct o nm items⟩))))
  case record nm flds => exact .inr (.inr (.inr (.inr (.inr ⟨.struct, .struct, _, structFam_record o nm flds⟩))))
  case map es =>
    refine .inr (.inr (.inr (.inr ?_)))
    cases hm : o.map_as_struct with
    | true => exact (map_as_struct_cases hm es).symm.imp_right fun ⟨ps, _, hl⟩ => ⟨.struct, .map, ps, hl⟩
    | false => exact .inr ⟨.map, _, _, mapFam_map hm es⟩
  case mapRaw ops =>
    refine .inr (.inr (.inr (.inr ?_)))
    cases hm : o.map_as_struct with
    | true => exact (mapRaw_as_struct_cases hm ops).symm.imp_right fun ⟨ps, _, hl⟩ => ⟨.struct, .map, ps, hl⟩
    | false => exact .inr ⟨.map, _, _, mapFam_mapRaw hm ops⟩
  case unitVariant nm idx vn => exact .inr (.inr (.inr (.inr (.inr ⟨.union, idx, vn, _, unionFam_unit o nm idx vn⟩))))
  case newtypeVariant nm idx vn v =>
    exact .inr (.inr (.inr (.inr (.inr ⟨.union, idx, vn, _, unionFam_newtype o nm idx vn v⟩))))
  case tupleVariant nm idx vn items =>
    exact .inr (.inr (.inr (.inr (.inr ⟨.union, idx, vn, _, unionFam_tuple o nm idx vn items⟩))))
  case structVariant nm idx vn flds =>
    exact .inr (.inr (.inr (.inr (.inr ⟨.union, idx, vn, _, unionFam_struct o nm idx vn flds⟩))))
  all_goals exact .inr (.inr (.inr (.inl ⟨_, rfl⟩)))

/-- the scheme of a container sample (`Family`) gives what `absorb` does with it and that its parts are smaller -/
theorem Family.fam {o : Options} {x : SVal} {S : Shape} (hf : Family o x S) : Fam o x S := by
  cases S
  case list => exact hf
  case struct =>
    obtain ⟨mode, ps, hl⟩ := hf
    exact ⟨mode, ps, hl.like, fun kv hkv => kids_sz o x kv.2 (by
      rw [show C06.fam o x = _ from hl]; exact List.mem_map_of_mem hkv)⟩
  case map =>
    obtain ⟨ks, vs, hl⟩ := hf
    exact ⟨ks, vs, hl.like,
      fun v hv => kids_sz o x v (by rw [show C06.fam o x = _ from hl]; exact List.mem_append_left _ hv),
      fun v hv => kids_sz o x v (by rw [show C06.fam o x = _ from hl]; exact List.mem_append_right _ hv)⟩
  case tuple =>
    obtain ⟨items, hl⟩ := hf
    exact ⟨items, hl.like, fun v hv => kids_sz o x v (by rw [show C06.fam o x = _ from hl]; exact hv)⟩
  case union =>
    obtain ⟨idx, vn, payload, hl⟩ := hf
    exact ⟨idx, vn, payload, hl.like, kids_sz o x payload (by
      rw [show C06.fam o x = _ from hl]; exact List.mem_singleton_self payload)⟩

theorem classify (o : Options) (x : SVal) :
    x = .none ∨ (∃ v, x = .some v) ∨ (∃ n v, x = .newtypeStruct n v) ∨ (∃ ty, leafTypeOf o x = some ty) ∨
      Never o x ∨ ∃ S, Fam o x S :=
  (classify_fam o x).imp_right <| Or.imp_right <| Or.imp_right <| Or.imp_right <| Or.imp_right
    fun ⟨S, hf⟩ => ⟨S, hf.fam⟩

/-- induction over samples, one case per way `absorb` treats a sample; for a container family the statement is given
for the children -/
theorem sample_induct (o : Options) {P : SVal → Prop} (hnone : P .none) (hsome : ∀ {v}, P v → P (.some v))
    (hnewtype : ∀ {n v}, P v → P (.newtypeStruct n v)) (hleaf : ∀ {x ty}, leafTypeOf o x = some ty → P x)
    (hnever : ∀ {x}, Never o x → P x) (hseq : ∀ {items : SVals}, (∀ v ∈ items.toList, P v) → P (.seq items))
    (hstruct : ∀ {x mode ps}, StructFam o x mode ps → (∀ kv ∈ ps, P kv.2) → P x)
    (hmap : ∀ {x ks vs}, MapFam o x ks vs → (∀ v ∈ ks, P v) → (∀ v ∈ vs, P v) → P x)
    (htuple : ∀ {x items}, TupleFam o x items → (∀ v ∈ items.toList, P v) → P x)
    (hunion : ∀ {x idx vn payload}, UnionFam o x idx vn payload → P payload → P x) : ∀ x, P x := by
  refine C06.fam_induct o fun x ih => ?_
  rcases classify_fam o x with rfl | ⟨v, rfl⟩ | ⟨nm, v, rfl⟩ | ⟨ty, hl⟩ | hn | ⟨S, hf⟩
  · exact hnone
  · exact hsome (ih v (List.mem_singleton_self v))
  · exact hnewtype (ih v (List.mem_singleton_self v))
  · exact hleaf hl
  · exact hnever hn
  · cases S
    case list => obtain ⟨items, rfl⟩ := hf; exact hseq ih
    case struct =>
      obtain ⟨mode, ps, hl⟩ := hf
      rw [show C06.fam o x = _ from hl] at ih
      exact hstruct hl fun kv hkv => ih kv.2 (List.mem_map_of_mem hkv)
    case map =>
      obtain ⟨ks, vs, hl⟩ := hf
      rw [show C06.fam o x = _ from hl] at ih
      exact hmap hl (fun v h => ih v (List.mem_append_left _ h)) fun v h => ih v (List.mem_append_right _ h)
    case tuple => obtain ⟨items, hl⟩ := hf; rw [show C06.fam o x = _ from hl] at ih; exact htuple hl ih
    case union =>
      obtain ⟨idx, vn, payload, hl⟩ := hf
      rw [show C06.fam o x = _ from hl] at ih
      exact hunion hl (ih payload (List.mem_singleton_self payload))

end SaModel.Lemmas.C07
