import SaModel.Lemmas.C03WF
import SaModel.Lemmas.Utf8
/-
Bytes-view descriptors (`bytes_view` module): what `push_scalar_value` writes decodes to the pushed bytes.

  decodeView_inline   |data| ≤ 12                      → decodeView bufs (packInline data) = ok data
  decodeView_extern   12 < |data|, |buf ++ data| < 2^32 → decodeView [buf ++ data] (packExtern data 0 |buf|) = ok data
  decodeView_packExtern   what the out-of-line descriptor reads back as, whatever the sizes

and the local push invariant `ViewPX` of a `BytesViewArray` builder built on them (with `Build.decodeView_extern_isOk`,
`Build.decodeView_append_of_isOk` of Lemmas/C01Leaf.lean: a descriptor designates some bytes of the buffer and keeps its
meaning when the buffer grows).
-/
namespace SaModel.Lemmas.C03
open SaModel SaModel.Build SaModel.Spec

theorem leBytes_cons (x : UInt8) (r : Bytes) : leBytes (x :: r) = x.toNat + 256 * leBytes r := by simp [leBytes]

/-- byte `k` of the little-endian value is the `k`-th byte -/
theorem leBytes_byte : ∀ (b : Bytes) (k : Nat) (h : k < b.length), leBytes b / 2 ^ (8 * k) % 256 = b[k].toNat
  | [], k, h => by simp at h
  | x :: r, 0, _ => by
    have hx : x.toNat < 256 := x.toNat_lt
    simp only [leBytes_cons, Nat.mul_zero, Nat.pow_zero, Nat.div_one, List.getElem_cons_zero]
    omega
  | x :: r, k + 1, h => by
    have hx : x.toNat < 256 := x.toNat_lt
    have e : 2 ^ (8 * (k + 1)) = 256 * 2 ^ (8 * k) := by
      rw [Nat.mul_succ, Nat.pow_add]; simp [Nat.mul_comm]
    rw [leBytes_cons, e, ← Nat.div_div_eq_div_mul]
    have : (x.toNat + 256 * leBytes r) / 256 = leBytes r := by omega
    rw [this, List.getElem_cons_succ]
    exact leBytes_byte r k (by simpa using h)

theorem decodeView_inline (bufs : List Bytes) (data : Bytes) (h : data.length ≤ 12) :
    decodeView bufs (packInline data) = .ok data := by
  unfold decodeView packInline
  have hl : (data.length + 2 ^ 32 * leBytes data) % 4294967296 = data.length := by omega
  simp only [hl, h, if_true]
  congr 1
  apply List.ext_getElem
  · simp [u128Bytes]
  · intro k h1 h2
    simp only [u128Bytes, List.getElem_map, List.getElem_range, Nat.shiftRight_eq_div_pow]
    have e : 2 ^ (8 * (4 + k)) = 2 ^ 32 * 2 ^ (8 * k) := by
      rw [Nat.mul_add, Nat.pow_add]
    rw [e, ← Nat.div_div_eq_div_mul]
    have : (data.length + 2 ^ 32 * leBytes data) / 2 ^ 32 = leBytes data := by omega
    rw [this, leBytes_byte data k h2]
    simp

/-- what the descriptor `push_scalar_value` writes for an out-of-line value reads back as, whatever the sizes -/
theorem decodeView_packExtern (buf data : Bytes) :
    decodeView [buf ++ data] (packExtern data 0 buf.length) =
      if data.length % 2 ^ 32 ≤ 12 then .ok (u128Bytes (packExtern data 0 buf.length) 4 (data.length % 2 ^ 32))
      else .ok (((buf ++ data).drop (buf.length % 2 ^ 32)).take (data.length % 2 ^ 32)) := by
  obtain ⟨e1, e2, e3⟩ := packExtern_fields data 0 buf.length
  unfold decodeView
  simp only [e1, e2, e3, Nat.zero_mod, List.getElem?_cons_zero, List.length_append]
  have := Nat.mod_le data.length (2 ^ 32)
  have := Nat.mod_le buf.length (2 ^ 32)
  split
  · rfl
  · rw [if_pos (by omega)]

/-- below 4 GiB an out-of-line descriptor designates exactly the pushed bytes -/
theorem decodeView_extern (buf data : Bytes) (hlen : 12 < data.length) (hsmall : (buf ++ data).length < 2 ^ 32) :
    decodeView [buf ++ data] (packExtern data 0 buf.length) = .ok data := by
  rw [List.length_append] at hsmall
  rw [decodeView_packExtern, Nat.mod_eq_of_lt (by omega), Nat.mod_eq_of_lt (by omega), if_neg (by omega),
    List.drop_left, List.take_length]

/-- every descriptor designates bytes of the buffer; as long as the buffer is below 4 GiB, a Utf8View builder's
slots are valid UTF-8 -/
def ViewPX (ty : ViewTy) (views : List Nat) (buf : Bytes) : Prop :=
  (∀ d ∈ views, (decodeView [buf] d).isOk = true) ∧
  (ty = .utf8View → buf.length < 2 ^ 32 → ∀ d ∈ views, validUtf8 (viewBytes buf d) = true)

theorem ViewPX_fresh (ty : ViewTy) : ViewPX ty [] [] := ⟨by simp, by simp⟩

theorem viewBytes_of_ok {buf : Bytes} {d : Nat} {b : Bytes} (h : decodeView [buf] d = .ok b) : viewBytes buf d = b := by
  simp only [viewBytes, h]

/-- appending one descriptor `d` (buffer grown by `extra`) that designates `value` whenever the new buffer is small -/
theorem ViewPX_snoc {ty : ViewTy} {views : List Nat} {buf extra : Bytes} {d : Nat} {value : Bytes}
    (h : ViewPX ty views buf) (hok : (decodeView [buf ++ extra] d).isOk = true)
    (hval : ty = .utf8View → (buf ++ extra).length < 2 ^ 32 →
      decodeView [buf ++ extra] d = .ok value ∧ validUtf8 value = true) :
    ViewPX ty (views ++ [d]) (buf ++ extra) := by
  obtain ⟨h1, h2⟩ := h
  refine ⟨?_, ?_⟩
  · intro d' hd'
    rcases List.mem_append.1 hd' with hm | hm
    · rw [decodeView_append_of_isOk buf extra d' (h1 d' hm)]; exact h1 d' hm
    · simp only [List.mem_singleton] at hm; subst hm; exact hok
  · intro hty hsm d' hd'
    rcases List.mem_append.1 hd' with hm | hm
    · have hb : buf.length < 2 ^ 32 := by rw [List.length_append] at hsm; omega
      have := h2 hty hb d' hm
      simp only [viewBytes] at this ⊢
      rw [decodeView_append_of_isOk buf extra d' (h1 d' hm)]
      exact this
    · simp only [List.mem_singleton] at hm; subst hm
      obtain ⟨e, hv⟩ := hval hty hsm
      rw [viewBytes_of_ok e]; exact hv

/-- what a successful `push_scalar_value` returns: the value inline, or out of line at the end of the buffer -/
theorem viewPushValue_cases {views : List Nat} {buf value : Bytes} {r : List Nat × Bytes}
    (h : viewPushValue views buf value = .ok r) :
    (r = (views ++ [packInline value], buf) ∧ value.length ≤ 12) ∨
    (r = (views ++ [packExtern value 0 buf.length], buf ++ value) ∧ 12 < value.length) := by
  unfold viewPushValue at h
  split at h
  · rename_i hle; cases h; exact .inl ⟨rfl, hle⟩
  · rename_i hgt
    split at h
    · cases h
    · cases h; exact .inr ⟨rfl, by omega⟩

/-- the same for the sequence path (`start_seq` … `end_seq`) -/
theorem viewSeq_cases {views : List Nat} {buf value : Bytes} {r : List Nat × Bytes}
    (h : viewSeq views buf value = .ok r) :
    (r = (views ++ [packInline value], buf) ∧ value.length ≤ 12) ∨
    (r = (views ++ [packExtern value 0 buf.length], buf ++ value) ∧ 12 < value.length) := by
  unfold viewSeq at h
  split at h
  · cases h
  · split at h
    · rename_i hle; cases h; exact .inl ⟨rfl, hle⟩
    · rename_i hgt
      split at h
      · cases h
      · cases h; exact .inr ⟨rfl, by omega⟩

/-- `push_scalar_value` / `end_seq` -/
theorem ViewPX_push {ty : ViewTy} {views : List Nat} {buf value : Bytes} {r : List Nat × Bytes} (h : ViewPX ty views buf)
    (hv : ty = .utf8View → validUtf8 value = true)
    (hr : (r = (views ++ [packInline value], buf) ∧ value.length ≤ 12) ∨
      (r = (views ++ [packExtern value 0 buf.length], buf ++ value) ∧ 12 < value.length)) :
    ViewPX ty r.1 r.2 := by
  rcases hr with ⟨rfl, hle⟩ | ⟨rfl, hgt⟩
  · have := ViewPX_snoc (extra := []) (d := packInline value) (value := value) (by simpa using h)
      (decodeView_inline_isOk _ value hle)
      (fun hty _ => ⟨decodeView_inline _ value hle, hv hty⟩)
    simpa using this
  · exact ViewPX_snoc h (decodeView_extern_isOk buf value)
      (fun hty hsm => ⟨decodeView_extern buf value (by omega) hsm, hv hty⟩)

end SaModel.Lemmas.C03
