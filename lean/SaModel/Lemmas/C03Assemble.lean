import SaModel.Lemmas.C03Finish
/-
The assembled recursion over the builder tree.

`decP b` ("physical" reading of the state) is `dec b` except that a dictionary whose `into_array` appends the
placeholder value reads its dummy keys through that placeholder — i.e. `decP` is what the finished array really
means, also in slots hidden under a null parent.  Main results:

  finish_decodePH : WFH b → Sound b → finish ext b = ok a → decodeAll a = (decP b).map ok
  finish_decodeP : the same with the strict invariant `WFB` (corollary, `Build.WFH_of_WFB`)
  decP_length    : (decP b).length = (dec b).length

`Sound` (every dictionary key designates a value of the finished dictionary; no `FixedSizeBinary(0)` with rows)
is what well-formedness of the finished array needs; `Faithful` (⊆ `Sound`, Lemmas/C03ObsFinish.lean) additionally excludes
dummy keys, and then `decP` is `dec` (`finish_decode`).
-/
namespace SaModel.Lemmas.C03
open SaModel SaModel.Build SaModel.Spec SaModel.Lemmas.Bits

/-! ### the placeholder value of `DictionaryUtf8Builder::into_array` -/

/-- the row a (non-nullable) string builder gains by `serialize_str("")` -/
def placeholderVals : B → List LVal
  | .bytes _ ty none _ _ => [bytesVal (isUtf8Ty ty) []]
  | .bytesView _ ty none _ _ => [bytesVal (ty == .utf8View) []]
  | _ => []

/-- the values of the finished dictionary, given the values `vs` the state holds -/
def dictVals (idx vals : B) (index : List String) (vs : List LVal) : List LVal :=
  if needsPlaceholder idx index then vs ++ placeholderVals vals else vs

mutual
/-- what the finished array means: `dec`, with dictionary keys read through the finished dictionary's values -/
def decP : B → List LVal
  | .null _ len => List.replicate len .null
  | .unknownVariant _ => []
  | .leaf _ k v vals => maskNull v (vals.map (leafVal k))
  | .bytes _ ty v offs data => maskNull v ((pairs offs).map fun se => bytesVal (isUtf8Ty ty) (sliceL data se.1 se.2))
  | .bytesView _ ty v views buf => maskNull v (views.map fun d => bytesVal (ty == .utf8View) (viewBytes buf d))
  | .fixedSizeBinary _ n len v buf _ => maskNull v ((List.range len).map fun i => .bin ((buf.drop (i * n)).take n))
  | .list _ _ _ v offs el =>
    let elems := decP el
    maskNull v ((pairs offs).map fun se => .list (LVals.ofList (sliceL elems se.1 se.2)))
  | .fixedSizeList _ _ n len v _ el =>
    let elems := decP el
    maskNull v ((List.range len).map fun i => .list (LVals.ofList ((elems.drop (i * n)).take n)))
  | .map _ _ v offs ks vs =>
    let k := decP ks
    let w := decP vs
    maskNull v ((pairs offs).map fun se => .map (LEntries.ofList ((sliceL k se.1 se.2).zip (sliceL w se.1 se.2))))
  | .struct _ len v fs _ _ _ =>
    let cols := decPCols fs
    maskNull v ((List.range len).map fun i => .struct (LFields.ofList (cols.map fun c => (c.1, c.2.getD i .null))))
  | .dictionary _ idx vals index =>
    let vs := dictVals idx vals index (decP vals)
    (decP idx).map fun k => match k with
      | .int j => vs.getD j.toNat .null
      | _ => .null
  | .union _ fs types offs _ =>
    let cols := decPCols fs
    List.zipWith (fun t o => LVal.union t ((cols.getD t.toNat ("", [])).2.getD o.toNat .null)) types offs
def decPCols : BL → List (String × List LVal)
  | .nil => []
  | .cons b m r => (m.name, decP b) :: decPCols r
end

mutual
/-- what the finished array needs in order to be readable everywhere (also in hidden slots) -/
def Sound : B → Prop
  | .fixedSizeBinary _ n len _ _ _ => n = 0 → len = 0
  | .list _ _ _ _ _ el => Sound el
  | .fixedSizeList _ _ _ _ _ _ el => Sound el
  | .map _ _ _ _ ks vs => Sound ks ∧ Sound vs
  | .struct _ _ _ fs _ _ _ => SoundL fs
  | .dictionary _ idx vals index =>
    Sound idx ∧ Sound vals ∧
    ∀ k ∈ decP idx, k = .null ∨ ∃ j : Nat, k = .int j ∧ j < (dictVals idx vals index (decP vals)).length
  | .union _ fs _ _ _ => SoundL fs
  | _ => True
def SoundL : BL → Prop
  | .nil => True
  | .cons b _ r => Sound b ∧ SoundL r
end

theorem Sound_list {p large fm v offs el} (h : Sound (.list p large fm v offs el)) : Sound el := by
  simp only [Sound] at h; exact h
theorem Sound_fixedSizeList {p fm n len v cur el} (h : Sound (.fixedSizeList p fm n len v cur el)) : Sound el := by
  simp only [Sound] at h; exact h
theorem Sound_map {p mm v offs ks vs} (h : Sound (.map p mm v offs ks vs)) : Sound ks ∧ Sound vs := by
  simp only [Sound] at h; exact h
theorem Sound_struct {p len v fs cached next seen} (h : Sound (.struct p len v fs cached next seen)) : SoundL fs := by
  simp only [Sound] at h; exact h
theorem Sound_union {p fs types offs cur} (h : Sound (.union p fs types offs cur)) : SoundL fs := by
  simp only [Sound] at h; exact h
theorem Sound_dictionary {p idx vals index} (h : Sound (.dictionary p idx vals index)) :
    Sound idx ∧ Sound vals ∧
    ∀ k ∈ decP idx, k = .null ∨ ∃ j : Nat, k = .int j ∧ j < (dictVals idx vals index (decP vals)).length := by
  simp only [Sound] at h; exact h
theorem Sound_fixedSizeBinary {p n len v buf cur} (h : Sound (.fixedSizeBinary p n len v buf cur)) : n = 0 → len = 0 := by
  simp only [Sound] at h; exact h

theorem maskNull_length_congr (v : Validity) (xs ys : List LVal) (h : xs.length = ys.length) :
    (maskNull v xs).length = (maskNull v ys).length := by
  cases v <;> simp [maskNull, h]

mutual
theorem decP_length : ∀ (b : B), (decP b).length = (dec b).length
  | .null _ _ | .unknownVariant _ | .leaf _ _ _ _ | .bytes _ _ _ _ _ | .bytesView _ _ _ _ _
  | .fixedSizeBinary _ _ _ _ _ _ => rfl
  | .list _ _ _ v _ _ | .fixedSizeList _ _ _ _ v _ _ | .map _ _ v _ _ _ | .struct _ _ v _ _ _ _ =>
    by simp only [decP, dec]; exact maskNull_length_congr v _ _ (by simp)
  | .dictionary _ idx _ _ => by simp only [decP, dec, List.length_map]; exact decP_length idx
  | .union _ _ _ _ _ => by simp only [decP, dec, List.length_zipWith]
end

theorem decPCols_lenH : ∀ (fs : BL) (len : Nat), WFHL fs len → ∀ c ∈ decPCols fs, c.2.length = len
  | .nil => fun _ _ => by simp [decPCols]
  | .cons b m r => fun len h => by
    simp only [WFHL] at h
    intro c hc
    simp only [decPCols, List.mem_cons] at hc
    rcases hc with hc | hc
    · rw [hc]; simp only [decP_length]; exact h.2.1
    · exact decPCols_lenH r len h.2.2 c hc

theorem decPCols_get? : ∀ (fs : BL) (k : Nat) (c : B × FieldMeta), fs.get? k = some c →
    (decPCols fs)[k]? = some (c.2.name, decP c.1)
  | .nil, _, _, h => by simp [BL.get?] at h
  | .cons b m r, 0, c, h => by
    simp only [BL.get?, Option.some.injEq] at h
    subst h; simp [decPCols]
  | .cons b m r, k + 1, c, h => by
    simp only [BL.get?] at h
    simp only [decPCols, List.getElem?_cons_succ]
    exact decPCols_get? r k c h

theorem decPCols_length : ∀ (fs : BL), (decPCols fs).length = fs.length
  | .nil => rfl
  | .cons _ _ r => by simp [decPCols, BL.length, decPCols_length r]

theorem getD_append_left {α} (l : List α) (x : α) (i : Nat) (d : α) (h : i < l.length) :
    (l ++ [x]).getD i d = l.getD i d := by
  simp [List.getD_eq_getElem?_getD, List.getElem?_append_left h]

/-- the rows the values array already had are untouched -/
theorem appendEmptyStr_slot_lt (va : Arr) (j : Nat) (h : j < (decodeAll va).length) :
    slot (decodeAll (appendEmptyStr va)) j = slot (decodeAll va) j := by
  cases va with
  | bytes ty v offs data =>
    simp only [decodeAll, List.length_map, List.length_range] at h
    simp only [appendEmptyStr, decodeAll, slot, List.getElem?_map, List.length_append, List.length_singleton,
      Nat.add_sub_cancel]
    have h1 : j < offs.length := by omega
    rw [List.getElem?_range h, List.getElem?_range h1]
    simp only [Option.map_some]
    rw [getD_append_left offs _ j 0 (by omega), getD_append_left offs _ (j + 1) 0 (by omega)]
  | bytesView ty v views bufs =>
    simp only [decodeAll, List.length_map, List.length_range] at h
    simp only [appendEmptyStr, decodeAll, slot, List.getElem?_map, List.length_append, List.length_singleton]
    rw [List.getElem?_range h, List.getElem?_range (by omega)]
    simp only [Option.map_some]
    rw [getD_append_left views _ j 0 h]
  | _ => rfl

theorem pairs_append_last (offs : List Int) (l : Int) (h : offs.getLast? = some l) (x : Int) :
    pairs (offs ++ [x]) = pairs offs ++ [(l, x)] := pairs_snoc h x

/-- a non-nullable `Utf8`/`Binary` values array gains exactly the placeholder row -/
theorem appendEmptyStr_bytes (ty : BytesTy) (offs : List Int) (data : Bytes) (ho : OffsOK offs data.length) :
    decodeAll (appendEmptyStr (.bytes ty none offs data)) =
      ((maskNull none ((pairs offs).map fun se => bytesVal (isUtf8Ty ty) (sliceL data se.1 se.2))) ++
        [bytesVal (isUtf8Ty ty) []]).map .ok := by
  have hl := ho.2.1
  have hne : offs ≠ [] := by intro h; rw [h] at hl; cases hl
  have hlast : offs.getLastD 0 = (data.length : Int) := by
    rw [List.getLastD_eq_getLast?, hl]; rfl
  have ho' : OffsOK (offs ++ [(data.length : Int)]) data.length := by
    refine ⟨?_, by simp, ?_⟩
    · have h1 := ho.1
      cases offs with
      | nil => exact absurd rfl hne
      | cons a r => simpa using h1
    · rw [List.pairwise_append]
      refine ⟨ho.2.2, by simp, ?_⟩
      intro a ha b hb
      simp only [List.mem_singleton] at hb
      subst hb
      obtain ⟨i, hi, rfl⟩ := List.getElem_of_mem ha
      by_cases hlt : i + 1 < offs.length
      · have := OffsOK_pair offs _ ho i hlt; omega
      · have : i = offs.length - 1 := by omega
        subst this
        rw [List.getLast?_eq_getElem?, List.getElem?_eq_getElem (by omega)] at hl
        simp only [Option.some.injEq] at hl
        omega
  have := bytes_decode ty none (offs ++ [(data.length : Int)]) data ho' (by intro _ h; cases h)
  simp only [appendEmptyStr, hlast]
  rw [show (finishValidity none : Option Bits) = none from rfl] at this
  rw [this, pairs_append_last offs _ hl]
  simp [maskNull, sliceL]

theorem decodeView_packInline_nil (bufs : List Bytes) : decodeView bufs (packInline []) = .ok [] := by
  simp [decodeView, packInline, leBytes, u128Bytes]

theorem appendEmptyStr_bytesView (ty : ViewTy) (views : List Nat) (buf : Bytes)
    (hd : ∀ d ∈ views, (decodeView [buf] d).isOk = true) :
    decodeAll (appendEmptyStr (.bytesView ty none views [buf])) =
      ((maskNull none (views.map fun d => bytesVal (ty == .utf8View) (viewBytes buf d))) ++
        [bytesVal (ty == .utf8View) []]).map .ok := by
  have := bytesView_decode ty none (views ++ [packInline []]) buf (by intro _ h; cases h) (by
    intro d hdm
    simp only [List.mem_append, List.mem_singleton] at hdm
    rcases hdm with h | h
    · exact hd d h
    · rw [h, decodeView_packInline_nil]; rfl)
  rw [show (finishValidity none : Option Bits) = none from rfl] at this
  simp only [appendEmptyStr]
  rw [this]
  simp [maskNull, viewBytes, decodeView_packInline_nil]

/-- the finished dictionary's values, placeholder included, slot by slot -/
theorem placeholder_slotsH (ext : Ext) (vals : B) (va : Arr) (hw : WFH vals) (hfin : finish ext vals = .ok va)
    (ih : decodeAll va = (decP vals).map .ok) (j : Nat) (hj : j < (decP vals ++ placeholderVals vals).length) :
    slot (decodeAll (appendEmptyStr va)) j = .ok ((decP vals ++ placeholderVals vals).getD j .null) := by
  have generic : placeholderVals vals = [] →
      slot (decodeAll (appendEmptyStr va)) j = .ok ((decP vals ++ placeholderVals vals).getD j .null) := by
    intro hnil
    rw [hnil, List.append_nil] at hj ⊢
    rw [appendEmptyStr_slot_lt va j (by rw [ih]; simpa using hj), ih, slot_map_ok _ j hj,
      getD_eq_getElem _ j _ hj]
  cases vals with
  | bytes p ty v offs data =>
    cases v with
    | some bits => exact generic rfl
    | none =>
      simp only [finish] at hfin; cases hfin
      rw [show (finishValidity none : Option Bits) = none from rfl,
        appendEmptyStr_bytes ty offs data (WFH_bytes hw).1]
      simp only [decP, placeholderVals] at hj ⊢
      rw [slot_map_ok _ j hj, getD_eq_getElem _ j _ hj]
  | bytesView p ty v views buf =>
    cases v with
    | some bits => exact generic rfl
    | none =>
      simp only [finish] at hfin; cases hfin
      rw [show (finishValidity none : Option Bits) = none from rfl,
        appendEmptyStr_bytesView ty views buf (WFH_bytesView hw).2]
      simp only [decP, placeholderVals] at hj ⊢
      rw [slot_map_ok _ j hj, getD_eq_getElem _ j _ hj]
  | _ => exact generic rfl

/-! ### the assembled recursion

under the weak invariant `WFH`: the key clause of the state invariant is never used — the keys come from `Sound` -/

mutual
/-- **the finished array means exactly `decP` of the builder state, in every slot** -/
theorem finish_decodePH (ext : Ext) : ∀ (b : B) (a : Arr), WFH b → Sound b → finish ext b = .ok a →
    decodeAll a = (decP b).map .ok
  | .null _ len => fun a _ _ h => by
    rw [finish_null] at h; cases h
    simp [decodeAll, decP]
  | .unknownVariant _ => fun a _ _ h => by
    rw [finish_unknownVariant] at h; cases h
    simp [decodeAll, decP]
  | .leaf _ k v vals => fun a hw _ h => by
    rw [finish_leaf] at h; cases h
    simp only [decP]
    exact finishLeaf_decode k v vals (WFH_leaf hw)
  | .bytes _ ty v offs data => fun a hw _ h => by
    rw [finish_bytes] at h; cases h
    obtain ⟨ho, hv⟩ := WFH_bytes hw
    simp only [decP]
    exact bytes_decode ty v offs data ho hv
  | .bytesView _ ty v views buf => fun a hw _ h => by
    rw [finish_bytesView] at h; cases h
    obtain ⟨hv, hd⟩ := WFH_bytesView hw
    simp only [decP]
    exact bytesView_decode ty v views buf hv hd
  | .fixedSizeBinary _ n len v buf _ => fun a hw hf h => by
    cases finish_fixedSizeBinary_inv h
    obtain ⟨hv, hb⟩ := WFH_fixedSizeBinary hw
    simp only [decP]
    exact fixedSizeBinary_decode n len v buf hv hb (Sound_fixedSizeBinary hf)
  | .list _ large fm v offs el => fun a hw hf h => by
    obtain ⟨ho, hv, hwe⟩ := WFH_list hw
    obtain ⟨ela, he, rfl⟩ := finish_list_inv h
    simp only [decP]
    exact list_decode large v offs fm ela (decP el) (finish_decodePH ext el ela hwe (Sound_list hf) he)
      (by rw [decP_length]; exact ho) hv
  | .fixedSizeList _ fm n len v _ el => fun a hw hf h => by
    obtain ⟨hv, hx, hwe⟩ := WFH_fixedSizeList hw
    obtain ⟨ela, he, rfl⟩ := finish_fixedSizeList_inv h
    simp only [decP]
    exact fixedSizeList_decode len n v fm ela (decP el) (finish_decodePH ext el ela hwe (Sound_fixedSizeList hf) he)
      (by rw [decP_length]; exact hx) hv
  | .map _ mm v offs ks vs => fun a hw hf h => by
    obtain ⟨ho, hlen, hv, hwk, hwv⟩ := WFH_map hw
    obtain ⟨ka, va, hek, hev, rfl⟩ := finish_map_inv h
    simp only [decP]
    exact map_decode v offs mm ka va (decP ks) (decP vs) (finish_decodePH ext ks ka hwk (Sound_map hf).1 hek)
      (finish_decodePH ext vs va hwv (Sound_map hf).2 hev) (by rw [decP_length]; exact ho)
      (by rw [decP_length, decP_length]; exact hlen) hv
  | .struct _ len v fs _ _ _ => fun a hw hf h => by
    obtain ⟨hv, hl⟩ := WFH_struct hw
    obtain ⟨afs, he, rfl⟩ := finish_struct_inv h
    simp only [decP]
    exact struct_decode len v afs (decPCols fs)
      (finishFields_decodePH ext fs afs (WFHL_WFHs fs len hl) (Sound_struct hf) he) (decPCols_lenH fs len hl) hv
  | .dictionary _ idx vals index => fun a hw hf h => by
    obtain ⟨hwi, hwv, _⟩ := WFH_dictionary hw
    obtain ⟨hfi, hfv, hkeys⟩ := Sound_dictionary hf
    obtain ⟨ka, va, hei, hev, hcase⟩ := finish_dictionary_inv h
    have ihk := finish_decodePH ext idx ka hwi hfi hei
    have ihv := finish_decodePH ext vals va hwv hfv hev
    simp only [decP]
    rcases hcase with ⟨hnp, _, rfl⟩ | ⟨hnp, rfl⟩
    · simp only [dictVals, hnp, if_true] at hkeys ⊢
      exact dictionary_decode ka _ (decP idx) _ _ ihk
        (fun j hj => placeholder_slotsH ext vals va hwv hev ihv j hj) hkeys
    · simp only [dictVals, hnp, Bool.false_eq_true, if_false] at hkeys ⊢
      refine dictionary_decode ka va (decP idx) (decP vals) _ ihk ?_ hkeys
      intro j hj
      rw [ihv, slot_map_ok _ j hj, getD_eq_getElem _ j _ hj]
  | .union _ fs types offs cur => fun a hw hf h => by
    obtain ⟨hlen, hwu, hr⟩ := WFH_union hw
    obtain ⟨afs, he, rfl⟩ := finish_union_inv h
    obtain ⟨hids, hcols⟩ := finishUFields_decodePH ext fs 0 afs (WFHU_WFHs fs cur hwu) (Sound_union hf) he
    simp only [decP]
    refine union_decode types offs afs (decPCols fs) ?_ hcols hlen ?_
    · rw [hids, decPCols_length]; simp
    · intro i t o ht ho
      obtain ⟨h0, h1, c, hc, hlt⟩ := hr i t o ht ho
      exact ⟨h0, h1, _, decPCols_get? fs _ c hc, by simpa [decP_length] using hlt⟩
theorem finishFields_decodePH (ext : Ext) : ∀ (fs : BL) (afs : ArrFields), WFHs fs → SoundL fs →
    finishFields ext fs = .ok afs → decodeFields afs = (decPCols fs).map fun c => (c.1, c.2.map .ok)
  | .nil => fun afs _ _ h => by
    rw [finishFields_nil] at h; cases h
    simp [decodeFields, decPCols]
  | .cons b m rest => fun afs hw hf h => by
    obtain ⟨a, ar, hb, hr, rfl⟩ := finishFields_cons_inv h
    simp only [decodeFields, decPCols, List.map_cons, finish_decodePH ext b a hw.1 hf.1 hb,
      finishFields_decodePH ext rest ar hw.2 hf.2 hr]
theorem finishUFields_decodePH (ext : Ext) : ∀ (fs : BL) (k : Nat) (afs : ArrUFields), WFHs fs → SoundL fs →
    finishUFields ext fs k = .ok afs →
    (decodeUFields afs).map (·.1) = (List.range fs.length).map (fun i => ((k + i : Nat) : Int)) ∧
    (decodeUFields afs).map (·.2) = (decPCols fs).map fun c => c.2.map .ok
  | .nil => fun k afs _ _ h => by
    rw [finishUFields_nil] at h; cases h
    simp [decodeUFields, decPCols, BL.length]
  | .cons b m rest => fun k afs hw hf h => by
    obtain ⟨a, ar, hb, hr, rfl⟩ := finishUFields_cons_inv h
    obtain ⟨h1, h2⟩ := finishUFields_decodePH ext rest (k + 1) ar hw.2 hf.2 hr
    refine ⟨?_, ?_⟩
    · simp only [decodeUFields, List.map_cons, BL.length, h1, List.range_succ_eq_map, List.map_map]
      congr 1
      apply List.map_congr_left
      intro i _
      simp only [Function.comp]
      congr 1; omega
    · simp only [decodeUFields, decPCols, List.map_cons, h2, finish_decodePH ext b a hw.1 hf.1 hb]
end

/-- every slot of a finished array can be read, and there are as many as the state has rows -/
theorem finish_slotsH (ext : Ext) (b : B) (a : Arr) (hw : WFH b) (hs : Sound b) (h : finish ext b = .ok a) :
    (decodeAll a).length = (dec b).length ∧ ∀ r ∈ decodeAll a, r.isOk = true := by
  have hd := finish_decodePH ext b a hw hs h
  refine ⟨by rw [hd, List.length_map, decP_length], ?_⟩
  intro r hr
  rw [hd] at hr
  obtain ⟨x, _, rfl⟩ := List.mem_map.mp hr
  rfl

theorem finish_decodeP (ext : Ext) : ∀ (b : B) (a : Arr), WFB b → Sound b → finish ext b = .ok a →
    decodeAll a = (decP b).map .ok :=
  fun b a hw hs h => finish_decodePH ext b a (WFH_of_WFB b hw) hs h

theorem finishUFields_decodeP (ext : Ext) : ∀ (fs : BL) (k : Nat) (afs : ArrUFields), WFBs fs → SoundL fs →
    finishUFields ext fs k = .ok afs →
    (decodeUFields afs).map (·.1) = (List.range fs.length).map (fun i => ((k + i : Nat) : Int)) ∧
    (decodeUFields afs).map (·.2) = (decPCols fs).map fun c => c.2.map .ok :=
  fun fs k afs hw hs h => finishUFields_decodePH ext fs k afs (WFHs_of_WFBs fs hw) hs h

theorem finishFields_decodeP (ext : Ext) : ∀ (fs : BL) (afs : ArrFields), WFBs fs → SoundL fs →
    finishFields ext fs = .ok afs → decodeFields afs = (decPCols fs).map fun c => (c.1, c.2.map .ok) :=
  fun fs afs hw => finishFields_decodePH ext fs afs (WFHs_of_WFBs fs hw)

theorem finish_slots (ext : Ext) (b : B) (a : Arr) (hw : WFB b) (hs : Sound b) (h : finish ext b = .ok a) :
    (decodeAll a).length = (dec b).length ∧ ∀ r ∈ decodeAll a, r.isOk = true :=
  finish_slotsH ext b a (WFH_of_WFB b hw) hs h

theorem dictVals_getD_lt (idx vals : B) (index : List String) (vs : List LVal) (j : Nat) (h : j < vs.length) :
    (dictVals idx vals index vs).getD j .null = vs.getD j .null := by
  unfold dictVals
  split
  · simp [List.getD_eq_getElem?_getD, List.getElem?_append_left h]
  · rfl

theorem dictVals_length_ge (idx vals : B) (index : List String) (vs : List LVal) :
    vs.length ≤ (dictVals idx vals index vs).length := by
  unfold dictVals
  split
  · simp
  · exact Nat.le_refl _

end SaModel.Lemmas.C03
