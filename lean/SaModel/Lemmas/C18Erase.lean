import SaModel.Lemmas.C18ReadPlain
/-
C18, reader half: ERASURE.  The annotated reader model (`Read/Annot.lean`: `readAnyA`, `readAsA`, `readRecordA`) is the
reader model of C02 / C12 / C17 (`Read/Reader.lean`: `readAny`, `readAs`, `readRecord`) plus annotations:

  `EqE r r'`              `eraseAnn r = eraseAnn r'` — same outcome up to the annotation of an error (value, message,
                           panic site are kept); a congruence for `>>=` and `.ctx(..)`
  `readAnyA_erase` …, `readAsA_erase` …  (`C18AnnRel`) for every path and ARBITRARY view: the instance `annRel_erase` of the one
                           walk over the annotated readers
  `readAs_noctx` …        (`C18ReadNoCtx`) the un-annotated model returns no annotated error, so `eraseAnn` is the
                           identity on it (`eraseAnn_noctx`)
-/
namespace SaModel.Props.C18
open SaModel SaModel.Read

def EqE {α} (r r' : R α) : Prop := eraseAnn r = eraseAnn r'

theorem EqE.refl {α} (r : R α) : EqE r r := rfl
theorem EqE.trans {α} {r r' r'' : R α} (h : EqE r r') (h' : EqE r' r'') : EqE r r'' := Eq.trans h h'

theorem eraseAnn_ctx {α} (ann : List (String × String)) (r : R α) : eraseAnn (ctx ann r) = eraseAnn r := by
  cases r with
  | ok v => rfl
  | error e =>
    cases e with
    | err m => simp only [ctx]; split <;> rfl
    | panic s => rfl
    | errCtx m a => rfl

theorem eraseAnn_idem {α} (r : R α) : eraseAnn (eraseAnn r) = eraseAnn r := by
  cases r with
  | ok v => rfl
  | error e => cases e <;> rfl

theorem eraseAnn_eq_ok {α} {r : R α} {v : α} : eraseAnn r = .ok v ↔ r = .ok v := by
  cases r with
  | ok w => simp [eraseAnn]
  | error e => cases e <;> simp [eraseAnn]

theorem eraseAnn_eq_panic {α} {r : R α} {s : String} : eraseAnn r = .error (.panic s) ↔ r = .error (.panic s) := by
  cases r with
  | ok w => simp [eraseAnn]
  | error e => cases e <;> simp [eraseAnn]

theorem eraseAnn_eq_err {α} {r : R α} {msg : String} :
    eraseAnn r = .error (.err msg) ↔ r = .error (.err msg) ∨ ∃ ann, r = .error (.errCtx msg ann) := by
  cases r with
  | ok v => simp [eraseAnn]
  | error e => cases e <;> simp [eraseAnn]

theorem eraseAnn_noctx {α} (r : R α) [h : NoCtx r] : eraseAnn r = r := by
  cases r with
  | ok v => rfl
  | error e =>
    cases e with
    | err m => rfl
    | panic s => rfl
    | errCtx m a => exact absurd rfl (h.out m a)

theorem EqE.ctx_left {α} (ann : List (String × String)) {r r' : R α} (h : EqE r r') : EqE (ctx ann r) r' := by
  unfold EqE; rw [eraseAnn_ctx]; exact h

theorem EqE.ctxIf_left {α} (b : Bool) (ann : List (String × String)) {r r' : R α} (h : EqE r r') :
    EqE (ctxIf b ann r) r' := by
  unfold SaModel.Read.ctxIf; split
  · exact EqE.ctx_left ann h
  · exact h

theorem eraseAnn_bind {α β} (r : R α) (f : α → R β) : eraseAnn (r >>= f) = eraseAnn r >>= fun v => eraseAnn (f v) := by
  cases r with
  | ok v => rfl
  | error e => cases e <;> rfl

theorem EqE.bind {α β} {r r' : R α} {f f' : α → R β} (hr : EqE r r') (hf : ∀ v, EqE (f v) (f' v)) :
    EqE (r >>= f) (r' >>= f') := by
  unfold EqE at hr ⊢
  rw [eraseAnn_bind, eraseAnn_bind, hr, funext hf]

theorem EqE.ite {α} (c : Prop) [Decidable c] {x y x' y' : R α} (hx : EqE x x') (hy : EqE y y') :
    EqE (if c then x else y) (if c then x' else y') := by
  split <;> assumption

/-- the continuation only on the value the first step returned -/
theorem EqE.bind_ok {α β} {r r' : R α} {f f' : α → R β} (hr : EqE r r') (hf : ∀ v, r = .ok v → EqE (f v) (f' v)) :
    EqE (r >>= f) (r' >>= f') := by
  cases r with
  | ok v =>
    have : r' = .ok v := by
      cases r' with
      | ok w => exact congrArg _ (Except.ok.inj hr).symm
      | error e => cases e <;> cases hr
    subst this; exact hf v rfl
  | error e =>
    cases r' with
    | ok w => cases e <;> cases hr
    | error e' => cases e <;> cases e' <;> first | (cases hr; rfl) | cases hr

/-- the payload source without its path -/
def srcPlain : Option (String × Arr × Nat) → Option (Arr × Nat)
  | some (_, child, off) => some (child, off)
  | none => none

end SaModel.Props.C18
