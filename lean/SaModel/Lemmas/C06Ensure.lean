import SaModel.Lemmas.C06Unfold
/-
C06: what the `ensure_*` methods of `tracer.rs` return, stated once and without reference to any invariant.
The five container methods share one shape: the depth check, then a FRESH node of the wanted kind when the tracer is
`Unknown` / `Primitive(Null)`, else the node itself when it already is of that kind (`ensure_struct` may switch it to map
mode, the repaired `ensure_tuple` adjusts the arity), else an error.
-/
namespace SaModel.Lemmas.C06
open SaModel SaModel.Trace

theorem mark_nullable_of_nullable {t : Tracer} (h : t.nullable = true) : t.mark_nullable = t := by
  cases t <;> simp only [Tracer.nullable] at h <;> subst h <;> rfl

theorem mark_nullable_nullable (t : Tracer) : t.mark_nullable.nullable = true := by cases t <;> rfl

theorem mark_nullable_name (t : Tracer) : t.mark_nullable.name = t.name := by cases t <;> rfl

theorem ensure_shape {t t1 fresh : Tracer} {keep : R Tracer}
    (h : (do t.enforce_depth_limit; if t.is_unknown_or_null then .ok fresh else keep) = .ok t1) :
    t.enforce_depth_limit = .ok () ∧
      ((t.is_unknown_or_null = true ∧ t1 = fresh) ∨ (t.is_unknown_or_null = false ∧ keep = .ok t1)) := by
  cases hd : t.enforce_depth_limit with
  | error e => rw [hd] at h; cases h
  | ok u =>
    rw [hd] at h
    refine ⟨rfl, ?_⟩
    cases hu : t.is_unknown_or_null
    · rw [hu] at h; exact .inr ⟨rfl, h⟩
    · rw [hu] at h; cases h; exact .inl ⟨rfl, rfl⟩

theorem ensure_list_ok {t t1 : Tracer} (h : t.ensure_list = .ok t1) : t.enforce_depth_limit = .ok () ∧
    ((t.is_unknown_or_null = true ∧
        t1 = .list t.name t.path t.nullable (Tracer.new "element" (t.path ++ ".element"))) ∨
      ∃ n p nl i, t = .list n p nl i ∧ t1 = t) := by
  obtain ⟨hd, h⟩ := ensure_shape h
  refine ⟨hd, h.imp id ?_⟩
  rintro ⟨_, h⟩
  cases t <;> cases h
  exact ⟨_, _, _, _, rfl, rfl⟩

theorem ensure_map_ok {t t1 : Tracer} (h : t.ensure_map = .ok t1) : t.enforce_depth_limit = .ok () ∧
    ((t.is_unknown_or_null = true ∧ t1 = .map t.name t.path t.nullable (Tracer.new "key" (t.path ++ ".key"))
        (Tracer.new "value" (t.path ++ ".value"))) ∨
      ∃ n p nl k v, t = .map n p nl k v ∧ t1 = t) := by
  obtain ⟨hd, h⟩ := ensure_shape h
  refine ⟨hd, h.imp id ?_⟩
  rintro ⟨_, h⟩
  cases t <;> cases h
  exact ⟨_, _, _, _, _, rfl, rfl⟩

/-- `ensure_union(&[])` may create a union node WITHOUT variants -/
theorem ensure_union_ok {t t1 : Tracer} (h : t.ensure_union [] = .ok t1) : t.enforce_depth_limit = .ok () ∧
    ((t.is_unknown_or_null = true ∧ t1 = .union t.name t.path t.nullable .nil) ∨
      ∃ n p nl vs, t = .union n p nl vs ∧ t1 = t) := by
  obtain ⟨hd, h⟩ := ensure_shape h
  refine ⟨hd, h.imp id ?_⟩
  rintro ⟨_, h⟩
  cases t <;> cases h
  exact ⟨_, _, _, _, rfl, rfl⟩

theorem ensure_struct_ok {c : Code} {mode : StructMode} {t t1 : Tracer} (h : t.ensure_struct c [] mode = .ok t1) :
    t.enforce_depth_limit = .ok () ∧
    ((t.is_unknown_or_null = true ∧ t1 = .struct t.name t.path t.nullable .nil mode 0) ∨
      ∃ n p nl fs m s, t = .struct n p nl fs m s ∧
        t1 = .struct n p nl fs (if (c.struct_mode_join && mode == .map) = true then .map else m) s) := by
  obtain ⟨hd, h⟩ := ensure_shape h
  refine ⟨hd, h.imp id ?_⟩
  rintro ⟨_, h⟩
  cases t <;> try cases h
  refine ⟨_, _, _, _, _, _, rfl, ?_⟩
  simp only at h
  by_cases hc : (c.struct_mode_join && mode == .map) = true
  · rw [if_pos hc] at h ⊢; cases h; rfl
  · rw [if_neg hc] at h ⊢; cases h; rfl

theorem ensure_tuple_ok {c : Code} {k : Nat} {t t1 : Tracer} (h : t.ensure_tuple c k = .ok t1) :
    t.enforce_depth_limit = .ok () ∧
    ((t.is_unknown_or_null = true ∧ t1 = .tuple t.name t.path t.nullable (mkTupleFields t.path k k)) ∨
      ∃ n p nl ts, t = .tuple n p nl ts ∧
        t1 = .tuple n p nl (if c.tuple_arity_nullable = true then tupleGrowNullable p k (ts.markFrom k) else ts)) := by
  obtain ⟨hd, h⟩ := ensure_shape h
  refine ⟨hd, h.imp id ?_⟩
  rintro ⟨_, h⟩
  cases t <;> try cases h
  refine ⟨_, _, _, _, rfl, ?_⟩
  simp only at h
  by_cases hc : c.tuple_arity_nullable = true
  · rw [if_pos hc] at h ⊢; cases h; rfl
  · rw [if_neg hc] at h ⊢; cases h; rfl

theorem ensure_struct_shape {c : Code} {t t1 : Tracer} {fields : List String} {mode : StructMode}
    (h : t.ensure_struct c fields mode = .ok t1) :
    t.is_unknown_or_null = true ∨ ∃ n p nl fs m s, t = .struct n p nl fs m s := by
  obtain ⟨_, ⟨hu, _⟩ | ⟨_, hk⟩⟩ := ensure_shape h
  · exact .inl hu
  · cases t <;> try cases hk
    exact .inr ⟨_, _, _, _, _, _, rfl⟩

theorem ensure_tuple_shape {c : Code} {t t1 : Tracer} {k : Nat} (h : t.ensure_tuple c k = .ok t1) :
    t.is_unknown_or_null = true ∨ ∃ n p nl ts, t = .tuple n p nl ts :=
  (ensure_tuple_ok h).2.imp (·.1) fun ⟨n, p, nl, ts, ht, _⟩ => ⟨n, p, nl, ts, ht⟩

theorem ensure_list_id {n p : String} {nl : Bool} {i : Tracer}
    (hd : (Tracer.list n p nl i).enforce_depth_limit = .ok ()) :
    (Tracer.list n p nl i).ensure_list = .ok (.list n p nl i) := by
  unfold Tracer.ensure_list; rw [hd]; rfl

theorem ensure_map_id {n p : String} {nl : Bool} {k v : Tracer}
    (hd : (Tracer.map n p nl k v).enforce_depth_limit = .ok ()) :
    (Tracer.map n p nl k v).ensure_map = .ok (.map n p nl k v) := by
  unfold Tracer.ensure_map; rw [hd]; rfl

theorem ensure_union_id {n p : String} {nl : Bool} {vs : Variants}
    (hd : (Tracer.union n p nl vs).enforce_depth_limit = .ok ()) :
    (Tracer.union n p nl vs).ensure_union [] = .ok (.union n p nl vs) := by
  unfold Tracer.ensure_union; rw [hd]; rfl

theorem ensure_struct_id (c : Code) {n p : String} {nl : Bool} {fs : TFields} {m : StructMode} {s : Nat}
    (mode : StructMode) (hd : (Tracer.struct n p nl fs m s).enforce_depth_limit = .ok ()) :
    (Tracer.struct n p nl fs m s).ensure_struct c [] mode =
      .ok (.struct n p nl fs (if (c.struct_mode_join && mode == .map) = true then .map else m) s) := by
  unfold Tracer.ensure_struct; rw [hd]
  by_cases hc : (c.struct_mode_join && mode == .map) = true <;> simp [Tracer.is_unknown_or_null, hc] <;> rfl

theorem ensure_tuple_id (c : Code) {n p : String} {nl : Bool} {ts : Tracers} (k : Nat)
    (hd : (Tracer.tuple n p nl ts).enforce_depth_limit = .ok ()) :
    (Tracer.tuple n p nl ts).ensure_tuple c k =
      .ok (.tuple n p nl (if c.tuple_arity_nullable = true then tupleGrowNullable p k (ts.markFrom k) else ts)) := by
  unfold Tracer.ensure_tuple; rw [hd]
  by_cases hc : c.tuple_arity_nullable = true <;> simp [Tracer.is_unknown_or_null, hc] <;> rfl

/-- a map-mode request under the repaired code leaves the node in map mode -/
theorem ensure_struct_mode {c : Code} {t : Tracer} {mode : StructMode} {n p : String} {nl : Bool}
    {fs : TFields} {m : StructMode} {s : Nat} (h : t.ensure_struct c [] mode = .ok (.struct n p nl fs m s))
    (hc : (c.struct_mode_join && mode == .map) = true) : m = .map := by
  obtain ⟨_, ⟨_, he⟩ | ⟨_, _, _, _, _, _, rfl, he⟩⟩ := ensure_struct_ok h <;> cases he
  · simp only [Bool.and_eq_true] at hc
    cases mode with
    | map => rfl
    | struct => exact absurd hc.2 (by decide)
  · rw [if_pos hc]

theorem ensure_tuple_len {c : Code} {t : Tracer} {k : Nat} {n p : String} {nl : Bool} {ts : Tracers}
    (hc : c.tuple_arity_nullable = true) (h : t.ensure_tuple c k = .ok (.tuple n p nl ts)) : k ≤ ts.length := by
  obtain ⟨_, ⟨_, he⟩ | ⟨_, _, _, _, rfl, he⟩⟩ := ensure_tuple_ok h <;> cases he
  · rw [mkTupleFields_length]; exact Nat.le_refl _
  · rw [if_pos hc, tupleGrowNullable_eq, growN_length, Tracers.length_markFrom]; omega

theorem ensure_tuple_nullable {c : Code} {t : Tracer} {k : Nat} {n p : String} {nl : Bool} {ts : Tracers}
    (hc : c.tuple_arity_nullable = true) (h : t.ensure_tuple c k = .ok (.tuple n p nl ts)) :
    ∀ i x, ts.get? i = some x → k ≤ i → x.nullable = true := by
  intro i x hg hk
  obtain ⟨_, ⟨_, he⟩ | ⟨_, _, _, ts0, rfl, he⟩⟩ := ensure_tuple_ok h <;> cases he
  · have := Tracers.get?_lt hg
    rw [mkTupleFields_length] at this; omega
  · rw [if_pos hc, tupleGrowNullable_eq] at hg
    by_cases hlt : i < (ts0.markFrom k).length
    · rw [growN_get?_lt _ _ _ _ hlt, Tracers.get?_markFrom] at hg
      cases hg0 : ts0.get? i with
      | none => rw [hg0] at hg; cases hg
      | some x0 =>
        rw [hg0] at hg
        simp only [Option.map_some, if_pos hk, Option.some.injEq] at hg
        subst hg; exact mark_nullable_nullable x0
    · exact growN_get?_new _ (fun x => x.nullable = true) (fun acc => mark_nullable_nullable _) _ _ i x (by omega) hg

theorem enforce_depth_limit_path {t t' : Tracer} (h : t'.path = t.path) :
    t'.enforce_depth_limit = t.enforce_depth_limit := by
  unfold Tracer.enforce_depth_limit Tracer.get_depth; rw [h]

def isUnknown : Tracer → Bool
  | .unknown _ _ _ => true
  | _ => false

theorem isNull_iff (d : DataType) : isNull d = true ↔ d = .null := by cases d <;> simp [isNull]

theorem ensure_primitive_ok {o : Options} {t t' : Tracer} {ty : DataType} (h : t.ensure_primitive o ty = .ok t') :
    (∃ n p nl, t = .unknown n p nl ∧ t' = .primitive n p (nl || isNull ty) ty none) ∨
    (∃ n p nl pty st ty' nl' st', t = .primitive n p nl pty st ∧
      coerce_primitive_type o pty nl st ty none = .ok (ty', nl', st') ∧ t' = .primitive n p nl' ty' st') ∨
    (isUnknown t = false ∧ (∀ n p nl pty st, t ≠ .primitive n p nl pty st) ∧ ty = .null ∧ t' = t.mark_nullable) := by
  cases t with
  | unknown n p nl => cases h; exact .inl ⟨n, p, nl, rfl, rfl⟩
  | primitive n p nl pty st =>
    simp only [Tracer.ensure_primitive, Tracer.ensure_primitive_with_strategy, bind_ok] at h
    obtain ⟨⟨a, b, c⟩, h1, h2⟩ := h
    cases h2
    exact .inr (.inl ⟨_, _, _, _, _, _, _, _, rfl, h1, rfl⟩)
  | _ =>
    simp only [Tracer.ensure_primitive, Tracer.ensure_primitive_with_strategy] at h
    split at h <;> cases h
    rename_i hn
    exact .inr (.inr ⟨rfl, (fun _ _ _ _ _ h => nomatch h), (isNull_iff ty).mp hn, rfl⟩)

theorem ensure_variant_ok {p : String} {vs0 vs : Variants} {vn : String} {idx : Nat}
    (h : ensure_variant p vs0 vn idx = .ok vs) :
    idx < VARIANT_ALLOC_LIMIT ∧ (∃ vt, vs.get? idx = some (some (vn, vt))) ∧
    (∀ j x, vs0.get? j = some (some x) → vs.get? j = some (some x)) ∧
    (∀ j n t, vs.get? j = some (some (n, t)) → vs0.get? j = some (some (n, t)) ∨ t = Tracer.new vn (p ++ "." ++ vn)) ∧
    (∀ vt, vs0.get? idx = some (some (vn, vt)) → vs = vs0) := by
  unfold ensure_variant at h
  by_cases hl : idx ≥ VARIANT_ALLOC_LIMIT
  · rw [if_pos hl] at h; cases h
  · rw [if_neg hl] at h
    simp only at h
    have hpad := Variants.padNone_get? vs0 (idx + 1 - vs0.length)
    have hold : ∀ j x, vs0.get? j = some (some x) → (vs0.padNone (idx + 1 - vs0.length)).get? j = some (some x) := by
      intro j x hj
      rw [(hpad j).1 (Variants.get?_lt hj)]; exact hj
    have hnew : ∀ j x, (vs0.padNone (idx + 1 - vs0.length)).get? j = some (some x) → vs0.get? j = some (some x) := by
      intro j x hj
      by_cases hlt : j < vs0.length
      · rw [(hpad j).1 hlt] at hj; exact hj
      · have := (hpad j).2 (by omega) _ hj; cases this
    refine ⟨by omega, ?_⟩
    cases hg : (vs0.padNone (idx + 1 - vs0.length)).get? idx with
    | none => rw [hg] at h; simp only [panic] at h; cases h
    | some x =>
      rw [hg] at h
      cases x with
      | some y =>
        obtain ⟨prev, pt⟩ := y
        simp only at h
        by_cases hne : (prev != vn) = true
        · rw [if_pos hne] at h; cases h
        · rw [if_neg hne] at h; cases h
          have hpv : prev = vn := by simpa using hne
          subst hpv
          refine ⟨⟨pt, hg⟩, hold, fun j n t hj => .inl (hnew j _ hj), ?_⟩
          intro vt hvt
          have : idx + 1 - vs0.length = 0 := by have := Variants.get?_lt hvt; omega
          rw [this, Variants.padNone_zero]
      | none =>
        simp only at h; cases h
        have hlt := Variants.get?_lt hg
        refine ⟨⟨_, Variants.get?_set_eq _ idx vn _ hlt⟩, ?_, ?_, ?_⟩
        · intro j x hj
          have hj' := hold j x hj
          have : idx ≠ j := by intro e; subst e; rw [hg] at hj'; cases hj'
          rw [Variants.get?_set_ne _ _ _ _ _ this]; exact hj'
        · intro j n t hj
          by_cases e : idx = j
          · subst e
            rw [Variants.get?_set_eq _ idx vn _ hlt] at hj
            simp only [Option.some.injEq, Prod.mk.injEq] at hj
            exact .inr hj.2.symm
          · rw [Variants.get?_set_ne _ _ _ _ _ e] at hj
            exact .inl (hnew j _ hj)
        · intro vt hvt
          have := hold idx _ hvt
          rw [hg] at this; cases this

theorem ensure_variant_present {p : String} {vs : Variants} {vn : String} {idx : Nat} {vt : Tracer}
    (hl : idx < VARIANT_ALLOC_LIMIT) (hg : vs.get? idx = some (some (vn, vt))) :
    ensure_variant p vs vn idx = .ok vs := by
  unfold ensure_variant
  rw [if_neg (by omega)]
  have : idx + 1 - vs.length = 0 := by have := Variants.get?_lt hg; omega
  simp only [this, Variants.padNone_zero, hg]
  simp

end SaModel.Lemmas.C06
