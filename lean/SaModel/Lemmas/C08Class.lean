import SaModel.Lemmas.C08Done
/-
C08 — agreement INCLUDING the error class.  `SameClass m s`: the table that pairs the error message `m` of the model of
the crate (the model's literals; no obligation ties them to the source: the driver's `documentedError`, end of this file,
classifies the crate's real message of every run by its fixed beginning, and `./check --wording`, SaModel/Wording/Trace.lean,
compares the literals with the source texts as a NOTE) with
the error `s` of the documented result `Spec.fromTypeSpec` / `Spec.mapping`.  `AgreeC a b`: both succeed with the same
value, or both fail with a Rust error of the same class; a panic never agrees.
Used by `done_to_field_c` (SaModel/Lemmas/C08DoneField.lean: the field of the complete tracer agrees with the documented
mapping including the error class: null-only field, wrong overwrite name, enum without data, more than 128 variants) and
`fromType_walkable_c` (SaModel/Lemmas/C08Loop.lean: `from_type` of a type that can be walked agrees with
`Spec.fromTypeSpec` including the class: budget, unknown overwrite path, the four `to_field` errors, nullable root, root
not a struct); `Agree` is what `AgreeC` says when the class is forgotten (`AgreeC.agree`).
-/
namespace SaModel.Lemmas.C08
open SaModel SaModel.Trace SaModel.Trace.Spec

/-- message of the crate (left) — documented error (right) -/
inductive SameClass : String → String → Prop
  | budget : SameClass "Could not determine schema from the type after {budget} iterations" "budget"
  | unknownOverwrite : SameClass "Overwritten fields could not be found" "unknown overwrite path"
  | overwriteName : SameClass "Invalid name for overwritten field" "overwrite with a different name"
  | nullField : SameClass "Encountered null only field" "null field"
  | enumWithoutData : SameClass "Encountered enums without data" "enum without data"
  | tooManyVariants : SameClass "out of range integral type conversion attempted" "more than 128 variants"
  | rootNullable : SameClass "The root type cannot be nullable" "the root cannot be nullable"
  | rootNull : SameClass "No records found to determine schema" "the root must be a struct"
  | rootNotStruct : SameClass "Schema tracing is not directly supported for the root data type" "the root must be a struct"
  | depth : SameClass "Too deeply nested type detected" "not traceable from the type"
  | mapAsStruct : SameClass "Cannot trace maps as structs with `from_type`" "not traceable from the type"
  | emptyEnum : SameClass "Invalid variant index" "not traceable from the type"

/-- both succeed with the same value, or both fail with a (Rust) error of the same class; a panic never agrees -/
def AgreeC {α} (a b : R α) : Prop :=
  match a, b with
  | .ok x, .ok y => x = y
  | .error (.err m), .error (.err m') => SameClass m m'
  | _, _ => False

theorem AgreeC.ok {α} (x : α) : AgreeC (.ok x : R α) (.ok x) := rfl

theorem AgreeC.fail {α} {m m' : String} (h : SameClass m m') : AgreeC (fail m : R α) (fail m') := h

theorem AgreeC.agree {α} {a b : R α} (h : AgreeC a b) : Agree a b := by
  unfold AgreeC at h
  split at h
  · exact h
  · trivial
  · exact h.elim

theorem AgreeC.bind {α β} {a b : R α} {f g : α → R β} (h : AgreeC a b) (hf : ∀ x, AgreeC (f x) (g x)) :
    AgreeC (a >>= f) (b >>= g) := by
  unfold AgreeC at h
  split at h
  · cases h; exact hf _
  · exact h
  · exact h.elim

/-- the overwrite lookup of the tracer and of the documented mapping are the same rule, with the same error -/
theorem AgreeC.overwrite (o : Options) (n p : String) {k k' : Unit → R Field} (h : AgreeC (k ()) (k' ())) :
    AgreeC (withOverwrite o n p k) (overwritten o n p k') := by
  unfold withOverwrite overwritten
  rw [get_overwrite_eq]
  cases hf : o.overwrites.find? (fun kv => kv.1 = p) with
  | none => exact h
  | some kv =>
    obtain ⟨key, f⟩ := kv
    simp only [Option.map]
    by_cases hn : f.name = n
    · simp [hn, AgreeC]
    · simp only [bne_iff_ne, ne_eq, hn, not_false_eq_true, if_true, if_false]
      exact AgreeC.fail .overwriteName

/-- the tails of `to_schema` and of `Spec.fromTypeSpec` agree, with the same error class -/
theorem to_schema_tail_c (root : Field) :
    AgreeC (if root.nullable = true then fail "The root type cannot be nullable"
      else match root.dataType with
        | .struct children => .ok children.toList
        | .null => fail "No records found to determine schema"
        | _ => fail "Schema tracing is not directly supported for the root data type")
      (if root.nullable = true then fail "the root cannot be nullable"
      else match root.dataType with
        | .struct children => .ok children.toList
        | _ => fail "the root must be a struct" : R (List Field)) := by
  cases root.nullable
  · simp only [Bool.false_eq_true, if_false]
    cases root.dataType <;> first | exact AgreeC.ok _ | exact AgreeC.fail .rootNull | exact AgreeC.fail .rootNotStruct
  · exact AgreeC.fail .rootNullable

/-- the documented error (the right column of `SameClass`) a message of the crate belongs to, by its fixed beginning —
executable, for the correspondence driver (string operations do not reduce in the kernel, so the theorems use the table
`SameClass` and the driver checks on every failing case that this function sends the model's message to the error of
`Spec.fromTypeSpec`) -/
def documentedError (m : String) : String :=
  if m.startsWith "Could not determine schema from the type after" then "budget"
  else if m.startsWith "Overwritten fields could not be found" then "unknown overwrite path"
  else if m.startsWith "Invalid name for overwritten field" then "overwrite with a different name"
  else if m.startsWith "Encountered null only field" then "null field"
  else if m.startsWith "Encountered enums without data" then "enum without data"
  else if m.startsWith "out of range integral type conversion attempted" then "more than 128 variants"
  else if m.startsWith "TryFromIntError: out of range integral type conversion attempted" then "more than 128 variants"
  else if m.startsWith "The root type cannot be nullable" then "the root cannot be nullable"
  else if m.startsWith "No records found to determine schema" then "the root must be a struct"
  else if m.startsWith "Schema tracing is not directly supported for the root data type" then "the root must be a struct"
  else if m.startsWith "Too deeply nested type detected" then "not traceable from the type"
  else if m.startsWith "Cannot trace maps as structs with `from_type`" then "not traceable from the type"
  else if m.startsWith "Invalid variant index" then "not traceable from the type"
  else "other"

end SaModel.Lemmas.C08
