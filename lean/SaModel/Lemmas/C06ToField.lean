import SaModel.Lemmas.C06Ensure
/-
C06: what `Tracer::to_field` returns: the field an overwrite puts in the node's place or the node's own field, node kind by
node kind (`NodeField`, `to_field_cases`; `to_field_node` without overwrites: an overwrite replaces the traced field by an
arbitrary one, outside the quantifier of C06), and the induction principle along `to_field` and its three list loops
(`to_field_induct`) through which the schema-side facts about traced fields are proved.
-/
namespace SaModel.Lemmas.C06
open SaModel SaModel.Trace

theorem withOverwrite_nil (o : Options) (h0 : o.overwrites = []) (n p : String) (k : Unit → R Field) :
    withOverwrite o n p k = k () := by
  simp [withOverwrite, Options.get_overwrite, h0]

theorem bind_ok' {α β} {x : R α} {f : α → R β} {b : β} : (x >>= f) = .ok b ↔ ∃ a, x = .ok a ∧ f a = .ok b := bind_ok

theorem isNull_false_ne {ty : DataType} (h : isNull ty = false) : ty ≠ .null := by
  intro e; subst e; simp [isNull] at h

def stMeta : Option Strategy → Metadata
  | some s => strategyMeta s
  | none => []

/-- what the node's own `to_field` returns (behind the overwrite lookup), node kind by node kind -/
def NodeField (o : Options) : Tracer → Field → Prop
  | .unknown n _ _, f => f = .mk n .null true []
  | .primitive n _ nl ty st, f =>
    (ty = .null ∧ f = .mk n .null true []) ∨
    (ty ≠ .null ∧ (isLargeUtf8 ty || isUtf8 ty) = true ∧
      ((o.string_dictionary_encoding = false ∧ f = .mk n ty nl []) ∨
       (o.string_dictionary_encoding = true ∧ f = default_dictionary_field n nl o.string_type))) ∨
    (ty ≠ .null ∧ (isLargeUtf8 ty || isUtf8 ty) = false ∧ f = .mk n ty nl (stMeta st))
  | .list n _ nl i, f => ∃ item, i.to_field o = .ok item ∧
      f = .mk n (if o.sequence_as_large_list then .largeList item else .list item) nl []
  | .map n _ nl k v, f => ∃ kf vf, k.to_field o = .ok kf ∧ v.to_field o = .ok vf ∧
      f = .mk n (.map (Field.mk "entries" (.struct (Fields.ofList [kf, vf])) false []) false) nl []
  | .struct n _ nl fs m _, f => ∃ fields, fs.to_fields o = .ok fields ∧
      ((m = .map ∧ f = .mk n (.struct (Fields.ofList (sortByName fields))) nl (strategyMeta .mapAsStruct)) ∨
       (m = .struct ∧ f = .mk n (.struct (Fields.ofList fields)) nl []))
  | .tuple n _ nl ts, f => ∃ fields, ts.to_fields o = .ok fields ∧
      f = .mk n (.struct (Fields.ofList fields)) nl (strategyMeta .tupleAsStruct)
  | .union n _ nl vs, f =>
    (vs.is_without_data = true ∧ o.enums_without_data_as_strings = true ∧
      f = default_dictionary_field n nl o.string_type) ∨
    (∃ fields, vs.to_fields o 0 = .ok fields ∧ f = .mk n (.union (UFields.ofList fields) .dense) nl [] ∧
      (vs.is_without_data && o.enums_without_data_as_strings) = false)

theorem get_overwrite_mem {o : Options} {p : String} {f : Field} (h : o.get_overwrite p = some f) :
    ∃ kv ∈ o.overwrites, f = kv.2 := by
  unfold Options.get_overwrite at h
  cases hf : o.overwrites.find? (fun kv => kv.1 == p) with
  | none => rw [hf] at h; cases h
  | some kv => rw [hf] at h; cases h; exact ⟨kv, List.mem_of_find?_eq_some hf, rfl⟩

/-- the overwrite lookup at the head of `to_field`: the field registered for the path, which must carry the node's name, or
the node's own `to_field` -/
theorem wo_get {o : Options} {n p : String} {k : Unit → R Field} {f : Field} (h : withOverwrite o n p k = .ok f) :
    (o.get_overwrite p = some f ∧ f.name = n) ∨ k () = .ok f := by
  unfold withOverwrite at h
  cases hg : o.get_overwrite p with
  | none => rw [hg] at h; exact .inr h
  | some ov =>
    simp only [hg] at h
    split at h
    · cases h
    · rename_i hn; cases h; exact .inl ⟨rfl, by simpa using hn⟩

theorem wo_inv {o : Options} {n p : String} {k : Unit → R Field} {f : Field} (h : withOverwrite o n p k = .ok f) :
    (∃ kv ∈ o.overwrites, f = kv.2) ∨ k () = .ok f :=
  (wo_get h).imp (fun h => get_overwrite_mem h.1) id

theorem to_field_cases {o : Options} {t : Tracer} {f : Field} (h : t.to_field o = .ok f) :
    (o.get_overwrite t.path = some f ∧ f.name = t.name) ∨ NodeField o t f := by
  cases t <;> simp only [Tracer.to_field] at h <;> replace h := wo_get h
  case unknown n p nl =>
    refine h.imp id fun h => ?_
    split at h <;> cases h; rfl
  case primitive n p nl ty st =>
    refine h.imp id fun h => ?_
    split at h
    · cases h
    · by_cases hn : isNull ty = true
      · rw [if_pos hn] at h; cases h
        exact .inl ⟨(isNull_iff ty).mp hn, rfl⟩
      · rw [if_neg hn] at h
        have hne : ty ≠ .null := isNull_false_ne (by simpa using hn)
        by_cases hs : (isLargeUtf8 ty || isUtf8 ty) = true
        · rw [if_pos hs] at h
          by_cases hd : o.string_dictionary_encoding = true
          · simp only [hd, Bool.not_true] at h
            cases h
            exact .inr (.inl ⟨hne, hs, .inr ⟨hd, rfl⟩⟩)
          · have hd' : o.string_dictionary_encoding = false := by simpa using hd
            simp only [hd', Bool.not_false, if_true] at h
            cases h
            exact .inr (.inl ⟨hne, hs, .inl ⟨hd', rfl⟩⟩)
        · rw [if_neg hs] at h; cases h
          exact .inr (.inr ⟨hne, by simpa using hs, by cases st <;> rfl⟩)
  case list n p nl i =>
    refine h.imp id fun h => ?_
    obtain ⟨item, h1, h2⟩ := bind_ok.mp h
    cases h2
    exact ⟨item, h1, rfl⟩
  case map n p nl k v =>
    refine h.imp id fun h => ?_
    obtain ⟨kf, h1, h2⟩ := bind_ok.mp h
    obtain ⟨vf, h3, h4⟩ := bind_ok.mp h2
    cases h4
    exact ⟨kf, vf, h1, h3, rfl⟩
  case struct n p nl fs m s =>
    refine h.imp id fun h => ?_
    obtain ⟨fields, h1, h2⟩ := bind_ok.mp h
    cases m <;> cases h2
    · exact ⟨fields, h1, .inr ⟨rfl, rfl⟩⟩
    · exact ⟨fields, h1, .inl ⟨rfl, rfl⟩⟩
  case tuple n p nl ts =>
    refine h.imp id fun h => ?_
    obtain ⟨fields, h1, h2⟩ := bind_ok.mp h
    cases h2
    exact ⟨fields, h1, rfl⟩
  case union n p nl vs =>
    refine h.imp id fun h => ?_
    by_cases h1 : (vs.is_without_data && o.enums_without_data_as_strings) = true
    · rw [if_pos h1] at h; cases h
      simp only [Bool.and_eq_true] at h1
      exact .inl ⟨h1.1, h1.2, rfl⟩
    · rw [if_neg h1] at h
      split at h
      · cases h
      · obtain ⟨fields, h2, h3⟩ := bind_ok.mp h
        cases h3
        exact .inr ⟨fields, h2, rfl, by simpa using h1⟩

theorem to_field_node {o : Options} (h0 : o.overwrites = []) {t : Tracer} {f : Field} (h : t.to_field o = .ok f) :
    NodeField o t f :=
  (to_field_cases h).resolve_left fun ⟨hg, _⟩ => by
    obtain ⟨_, hkv, _⟩ := get_overwrite_mem hg
    rw [h0] at hkv; cases hkv

theorem to_field_name {o : Options} {t : Tracer} {f : Field} (h : t.to_field o = .ok f) : f.name = t.name := by
  rcases to_field_cases h with ⟨_, hn⟩ | hf
  · exact hn
  · cases t with
    | unknown n p nl => cases hf; rfl
    | primitive n p nl ty st => rcases hf with ⟨_, rfl⟩ | ⟨_, _, ⟨_, rfl⟩ | ⟨_, rfl⟩⟩ | ⟨_, _, rfl⟩ <;> rfl
    | list n p nl i => obtain ⟨_, _, rfl⟩ := hf; rfl
    | map n p nl k v => obtain ⟨_, _, _, _, rfl⟩ := hf; rfl
    | struct n p nl fs m s => obtain ⟨_, _, ⟨_, rfl⟩ | ⟨_, rfl⟩⟩ := hf <;> rfl
    | tuple n p nl ts => obtain ⟨_, _, rfl⟩ := hf; rfl
    | union n p nl vs => rcases hf with ⟨_, _, rfl⟩ | ⟨_, _, rfl, _⟩ <;> rfl

theorem to_field_unknown_inv {o : Options} (h0 : o.overwrites = []) {n p : String} {nl : Bool} {f : Field}
    (h : (Tracer.unknown n p nl).to_field o = .ok f) : f = .mk n .null true [] :=
  to_field_node h0 h

/-! ### `sortByName` (map-mode structs) permutes the fields -/

theorem perm_insertByName (f : Field) : ∀ l : List Field, List.Perm (insertByName f l) (f :: l)
  | [] => by simp [insertByName]
  | g :: r => by
    simp only [insertByName]
    split
    · exact List.Perm.refl _
    · exact ((perm_insertByName f r).cons g).trans (List.Perm.swap f g r)

theorem perm_foldl_insertByName : ∀ (l acc : List Field),
    List.Perm (l.foldl (fun acc f => insertByName f acc) acc) (l ++ acc)
  | [], acc => by simp
  | x :: r, acc => by
    simp only [List.foldl_cons]
    refine (perm_foldl_insertByName r (insertByName x acc)).trans ?_
    refine ((perm_insertByName x acc).append_left r).trans ?_
    simp

theorem perm_sortByName (l : List Field) : List.Perm (sortByName l) l := by
  simpa [sortByName] using perm_foldl_insertByName l []

theorem mem_sortByName (l : List Field) (g : Field) : g ∈ sortByName l ↔ g ∈ l := (perm_sortByName l).mem_iff

theorem to_fieldsT_cons_inv {o : Options} {t : Tracer} {r : Tracers} {l : List Field}
    (h : (Tracers.cons t r).to_fields o = .ok l) :
    ∃ f fs, t.to_field o = .ok f ∧ r.to_fields o = .ok fs ∧ l = f :: fs := by
  rw [Tracers.to_fields] at h
  obtain ⟨f, hf, h⟩ := bind_ok.mp h
  obtain ⟨fs, hfs, h⟩ := bind_ok.mp h
  cases h
  exact ⟨f, fs, hf, hfs, rfl⟩

theorem to_fieldsF_cons_inv {o : Options} {n : String} {ls : Nat} {t : Tracer} {r : TFields} {l : List Field}
    (h : (TFields.cons n ls t r).to_fields o = .ok l) :
    ∃ f fs, t.to_field o = .ok f ∧ r.to_fields o = .ok fs ∧ l = f :: fs := by
  rw [TFields.to_fields] at h
  obtain ⟨f, hf, h⟩ := bind_ok.mp h
  obtain ⟨fs, hfs, h⟩ := bind_ok.mp h
  cases h
  exact ⟨f, fs, hf, hfs, rfl⟩

theorem to_fieldsV_absent_inv {o : Options} {r : Variants} {idx : Nat} {l : List (Int × Field)}
    (h : (Variants.absent r).to_fields o idx = .ok l) :
    idx ≤ 127 ∧ ∃ fs, r.to_fields o (idx + 1) = .ok fs ∧ l = (Int.ofNat idx, unknown_variant_field) :: fs := by
  rw [Variants.to_fields] at h
  split at h
  · obtain ⟨_, hx, _⟩ := bind_ok.mp h; cases hx
  rename_i hidx
  obtain ⟨fs, hfs, h⟩ := bind_ok.mp h
  cases h
  exact ⟨by omega, fs, hfs, rfl⟩

theorem to_fieldsV_present_inv {o : Options} {n : String} {t : Tracer} {r : Variants} {idx : Nat}
    {l : List (Int × Field)} (h : (Variants.present n t r).to_fields o idx = .ok l) :
    idx ≤ 127 ∧ ∃ f fs, t.to_field o = .ok f ∧ r.to_fields o (idx + 1) = .ok fs ∧ l = (Int.ofNat idx, f) :: fs := by
  rw [Variants.to_fields] at h
  split at h
  · obtain ⟨_, hx, _⟩ := bind_ok.mp h; cases hx
  rename_i hidx
  obtain ⟨f, hf, h⟩ := bind_ok.mp h
  obtain ⟨fs, hfs, h⟩ := bind_ok.mp h
  cases h
  exact ⟨by omega, f, fs, hf, hfs, rfl⟩

theorem over_nil {o : Options} (h0 : o.overwrites = []) {P : Tracer → String × Field → Prop} :
    ∀ t kv, kv ∈ o.overwrites → P t kv := fun _ kv h => by rw [h0] at h; cases h

/-- `to_schema` succeeds exactly on a non-nullable struct root and returns its children -/
theorem to_schema_ok_iff {o : Options} {t : Tracer} {fields : List Field} : t.to_schema o = .ok fields ↔
    ∃ n children md, t.to_field o = .ok (.mk n (.struct children) false md) ∧ fields = children.toList := by
  constructor
  · intro h
    simp only [Tracer.to_schema] at h
    obtain ⟨root, hr, h⟩ := bind_ok.mp h
    rcases root with ⟨n, dt, nl, md⟩
    simp only [Field.nullable, Field.dataType] at h
    cases nl with
    | true => simp [fail] at h
    | false =>
      cases dt <;> simp [fail] at h
      subst h
      exact ⟨n, _, md, hr, rfl⟩
  · rintro ⟨n, children, md, h, rfl⟩
    simp only [Tracer.to_schema, h, bind, Except.bind]
    rfl

section induct
variable (o : Options)
  (M : Tracer → Field → Prop) (MT : Tracers → List Field → Prop) (MF : TFields → List Field → Prop)
  (MV : Variants → Nat → List (Int × Field) → Prop)
  (over : ∀ t kv, kv ∈ o.overwrites → M t kv.2)
  (unknown : ∀ n p nl, M (.unknown n p nl) (.mk n .null true []))
  (primitive : ∀ n p nl ty st f, (Tracer.primitive n p nl ty st).to_field o = .ok f → M (.primitive n p nl ty st) f)
  (list : ∀ n p nl i item, M i item →
    M (.list n p nl i) (.mk n (if o.sequence_as_large_list then .largeList item else .list item) nl []))
  (map : ∀ n p nl k v kf vf, M k kf → M v vf →
    M (.map n p nl k v) (.mk n (.map (Field.mk "entries" (.struct (Fields.ofList [kf, vf])) false []) false) nl []))
  (struct : ∀ n p nl fs s l, fs.to_fields o = .ok l → MF fs l →
    M (.struct n p nl fs .struct s) (.mk n (.struct (Fields.ofList l)) nl []) ∧
    M (.struct n p nl fs .map s) (.mk n (.struct (Fields.ofList (sortByName l))) nl (strategyMeta .mapAsStruct)))
  (tuple : ∀ n p nl ts l, ts.to_fields o = .ok l → MT ts l →
    M (.tuple n p nl ts) (.mk n (.struct (Fields.ofList l)) nl (strategyMeta .tupleAsStruct)))
  (dict : ∀ n p nl vs, vs.is_without_data = true → o.enums_without_data_as_strings = true →
    M (.union n p nl vs) (default_dictionary_field n nl o.string_type))
  (union : ∀ n p nl vs l, vs.to_fields o 0 = .ok l → MV vs 0 l →
    M (.union n p nl vs) (.mk n (.union (UFields.ofList l) .dense) nl []))
  (tnil : MT .nil []) (tcons : ∀ t r f l, M t f → MT r l → MT (.cons t r) (f :: l))
  (fnil : MF .nil []) (fcons : ∀ n ls t r f l, M t f → MF r l → MF (.cons n ls t r) (f :: l))
  (vnil : ∀ idx, MV .nil idx [])
  (vabsent : ∀ r idx l, idx ≤ 127 → MV r (idx + 1) l →
    MV (.absent r) idx ((Int.ofNat idx, unknown_variant_field) :: l))
  (vpresent : ∀ n t r idx f l, idx ≤ 127 → t.to_field o = .ok f → M t f → MV r (idx + 1) l →
    MV (.present n t r) idx ((Int.ofNat idx, f) :: l))
include over unknown primitive list map struct tuple dict union tnil tcons fnil fcons vnil vabsent vpresent

mutual
theorem to_field_ind : ∀ (t : Tracer) (f : Field), t.to_field o = .ok f → M t f
  | .primitive n p nl ty st, f, h => primitive n p nl ty st f h
  | .unknown n p nl, f, h => by
    rcases to_field_cases h with ⟨hg, _⟩ | h
    · obtain ⟨kv, hkv, rfl⟩ := get_overwrite_mem hg; exact over _ kv hkv
    · cases h; exact unknown n p nl
  | .list n p nl i, f, h => by
    rcases to_field_cases h with ⟨hg, _⟩ | ⟨item, hi, rfl⟩
    · obtain ⟨kv, hkv, rfl⟩ := get_overwrite_mem hg; exact over _ kv hkv
    · exact list n p nl i item (to_field_ind i item hi)
  | .map n p nl k v, f, h => by
    rcases to_field_cases h with ⟨hg, _⟩ | ⟨kf, vf, hk, hv, rfl⟩
    · obtain ⟨kv, hkv, rfl⟩ := get_overwrite_mem hg; exact over _ kv hkv
    · exact map n p nl k v kf vf (to_field_ind k kf hk) (to_field_ind v vf hv)
  | .struct n p nl fs m s, f, h => by
    rcases to_field_cases h with ⟨hg, _⟩ | ⟨l, hl, h⟩
    · obtain ⟨kv, hkv, rfl⟩ := get_overwrite_mem hg; exact over _ kv hkv
    · have ih := struct n p nl fs s l hl (to_fieldsF_ind fs l hl)
      rcases h with ⟨rfl, rfl⟩ | ⟨rfl, rfl⟩
      · exact ih.2
      · exact ih.1
  | .tuple n p nl ts, f, h => by
    rcases to_field_cases h with ⟨hg, _⟩ | ⟨l, hl, rfl⟩
    · obtain ⟨kv, hkv, rfl⟩ := get_overwrite_mem hg; exact over _ kv hkv
    · exact tuple n p nl ts l hl (to_fieldsT_ind ts l hl)
  | .union n p nl vs, f, h => by
    rcases to_field_cases h with ⟨hg, _⟩ | ⟨h1, h2, rfl⟩ | ⟨l, hl, rfl, _⟩
    · obtain ⟨kv, hkv, rfl⟩ := get_overwrite_mem hg; exact over _ kv hkv
    · exact dict n p nl vs h1 h2
    · exact union n p nl vs l hl (to_fieldsV_ind vs 0 l hl)
theorem to_fieldsT_ind : ∀ (ts : Tracers) (l : List Field), ts.to_fields o = .ok l → MT ts l
  | .nil, l, h => by cases h; exact tnil
  | .cons t r, l, h => by
    obtain ⟨f, fs, hf, hfs, rfl⟩ := to_fieldsT_cons_inv h
    exact tcons t r f fs (to_field_ind t f hf) (to_fieldsT_ind r fs hfs)
theorem to_fieldsF_ind : ∀ (fs : TFields) (l : List Field), fs.to_fields o = .ok l → MF fs l
  | .nil, l, h => by cases h; exact fnil
  | .cons n ls t r, l, h => by
    obtain ⟨f, fs', hf, hfs, rfl⟩ := to_fieldsF_cons_inv h
    exact fcons n ls t r f fs' (to_field_ind t f hf) (to_fieldsF_ind r fs' hfs)
theorem to_fieldsV_ind : ∀ (vs : Variants) (idx : Nat) (l : List (Int × Field)), vs.to_fields o idx = .ok l →
    MV vs idx l
  | .nil, idx, l, h => by cases h; exact vnil idx
  | .absent r, idx, l, h => by
    obtain ⟨hidx, fs, hfs, rfl⟩ := to_fieldsV_absent_inv h
    exact vabsent r idx fs hidx (to_fieldsV_ind r (idx + 1) fs hfs)
  | .present n t r, idx, l, h => by
    obtain ⟨hidx, f, fs, hf, hfs, rfl⟩ := to_fieldsV_present_inv h
    exact vpresent n t r idx f fs hidx hf (to_field_ind t f hf) (to_fieldsV_ind r (idx + 1) fs hfs)
end

/-- **induction along `Tracer::to_field`** and its list loops: one case per field shape produced, the fields of the
children already related to their tracers; `over` for a node whose field an overwrite replaces (`over_nil` without overwrites) -/
theorem to_field_induct :
    (∀ t f, t.to_field o = .ok f → M t f) ∧ (∀ ts l, ts.to_fields o = .ok l → MT ts l) ∧
    (∀ fs l, fs.to_fields o = .ok l → MF fs l) ∧ (∀ vs idx l, vs.to_fields o idx = .ok l → MV vs idx l) :=
  ⟨to_field_ind o M MT MF MV over unknown primitive list map struct tuple dict union tnil tcons fnil fcons vnil vabsent
      vpresent,
    to_fieldsT_ind o M MT MF MV over unknown primitive list map struct tuple dict union tnil tcons fnil fcons vnil vabsent
      vpresent,
    to_fieldsF_ind o M MT MF MV over unknown primitive list map struct tuple dict union tnil tcons fnil fcons vnil vabsent
      vpresent,
    to_fieldsV_ind o M MT MF MV over unknown primitive list map struct tuple dict union tnil tcons fnil fcons vnil vabsent
      vpresent⟩

end induct

end SaModel.Lemmas.C06
