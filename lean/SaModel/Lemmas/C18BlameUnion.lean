import SaModel.Lemmas.C18BlameSeq
/-
C18, blame against the specification: one row of a union builder (`serialize_variant` bookkeeping, then the variant's
child), with the child's push as a hypothesis.
-/
namespace SaModel.Props.C18
open SaModel SaModel.Build SaModel.Spec

theorem newUnionFields_at (path : String) : ∀ (ufs : UFields) (k : Nat) (bl0 : BL) (fs : BL),
    newUnionFields path ufs k = .ok bl0 → takeRestAll fs = takeRestAll bl0 → ∀ (cur : List Int), WFHU fs cur → NoDictKeyL fs →
    ShapeU fs ufs k → totalUs ufs = true → KidsU path fs ufs
  | .nil, _, bl0, fs, _, _, _, _, _, hsu, _ => by
    cases fs with
    | nil => trivial
    | cons _ _ _ => simp [ShapeU] at hsu
  | .cons tid (.mk fname fdt fn fmd) rest, k, bl0, fs, h0, ht, cur, hw, hs, hsu, htot => by
    cases fs with
    | nil => simp [ShapeU] at hsu
    | cons b m r =>
      simp only [newUnionFields, newB] at h0
      split at h0
      · simp [SaModel.ctx, SaModel.fail] at h0
      · obtain ⟨b0, hb0, h0⟩ := (Build.bind_ok _ _ _).1 h0
        obtain ⟨r0, hr0, h0⟩ := (Build.bind_ok _ _ _).1 h0
        cases h0
        simp only [takeRestAll, BL.cons.injEq] at ht
        simp only [ShapeU] at hsu
        simp only [WFHU] at hw
        simp only [NoDictKeyL] at hs
        simp only [totalUs, totalF, Bool.and_eq_true] at htot
        exact ⟨⟨hw.1, hs.1, hsu.2.1, htot.1⟩, ⟨b0, hb0, ht.1⟩,
          newUnionFields_at path rest (k + 1) r0 r hr0 ht.2.2 cur.tail hw.2.2 hs.2 hsu.2.2 htot.2⟩

theorem KidsU.get {path : String} : ∀ {fs : BL} {ufs : UFields} {j : Nat} {c : B} {m : FieldMeta}, KidsU path fs ufs →
    fs.get? j = some (c, m) → ∃ tid nm cdt cn cmd, ufs.toList[j]? = some (tid, .mk nm cdt cn cmd) ∧
      GoodH c cdt cn cmd ∧ At (path ++ "." ++ childName nm) cdt cn cmd c
  | .nil, _, _, _, _, _, h => by simp [BL.get?] at h
  | .cons b m r, .nil, _, _, _, hk, _ => by simp [KidsU] at hk
  | .cons b m r, .cons tid (.mk fname fdt fn fmd) rest, 0, c, m', hk, h => by
    simp only [BL.get?, Option.some.injEq, Prod.mk.injEq] at h
    obtain ⟨rfl, rfl⟩ := h
    simp only [KidsU] at hk
    exact ⟨tid, fname, fdt, fn, fmd, by simp [UFields.toList], hk.1, hk.2.1⟩
  | .cons b m r, .cons tid (.mk fname fdt fn fmd) rest, j + 1, c, m', hk, h => by
    simp only [BL.get?] at h
    simp only [KidsU] at hk
    obtain ⟨t, nm, cdt, cn, cmd, hf, h1⟩ := KidsU.get hk.2.2 h
    exact ⟨t, nm, cdt, cn, cmd, by simpa [UFields.toList] using hf, h1⟩

theorem KidsU.get_none {path : String} : ∀ {fs : BL} {ufs : UFields} {j : Nat}, KidsU path fs ufs →
    fs.get? j = none → ufs.toList[j]? = none
  | .nil, .nil, _, _, _ => by simp [UFields.toList]
  | .nil, .cons _ _ _, _, hk, _ => by simp [KidsU] at hk
  | .cons b m r, .nil, _, hk, _ => by simp [KidsU] at hk
  | .cons b m r, .cons tid (.mk fname fdt fn fmd) rest, 0, _, h => by simp [BL.get?] at h
  | .cons b m r, .cons tid (.mk fname fdt fn fmd) rest, j + 1, hk, h => by
    simp only [BL.get?] at h
    simp only [KidsU] at hk
    simpa [UFields.toList] using KidsU.get_none hk.2.2 h

theorem At.union_kids {path ufs mode n md p fs types offs cur}
    (hg : GoodH (.union p fs types offs cur) (.union ufs mode) n md)
    (h : At path (.union ufs mode) n md (.union p fs types offs cur)) : KidsU path fs ufs := by
  obtain ⟨b0, h0, ht⟩ := h
  cases mode with
  | sparse => simp [newDT, ctx_ok, fail] at h0
  | dense =>
  simp only [newDT] at h0
  obtain ⟨bl0, hbl0, h0⟩ := (Build.bind_ok _ _ _).1 h0
  cases h0
  simp only [takeRest, B.union.injEq] at ht
  have hw := hg.wf
  simp only [WFH] at hw
  have hs := hg.nd
  simp only [NoDictKey] at hs
  have hsh := hg.shape
  simp only [Shape] at hsh
  obtain ⟨ufs', mode', he, hsu⟩ := hsh
  cases he
  have htot := hg.tot
  simp only [total, Bool.and_eq_true, decide_eq_true_eq] at htot
  exact newUnionFields_at path ufs 0 bl0 fs hbl0 ht.2.1 cur hw.2.2.1 hs hsu htot.2

/-- one row of a union builder: the union fails itself only for an undeclared variant (the row counter has head room:
`hcap`, repo fix 217d612); everything else is the variant's child -/
theorem union_row_bl {pc : B → R B} {p fs types offs cur} {i : Nat} {S : List String} {path : String} {ufs : UFields}
    {mode : UnionMode} {n : Bool} {md : Metadata}
    (hg : GoodH (.union p fs types offs cur) (.union ufs mode) n md)
    (ha : At path (.union ufs mode) n md (.union p fs types offs cur))
    (hnone : ufs.toList[i]? = none → path ∈ S) (hcap : 1 ≤ curRoom cur)
    (hpc : ∀ tid nm cdt cn cmd c, ufs.toList[i]? = some (tid, .mk nm cdt cn cmd) → GoodH c cdt cn cmd →
      At (path ++ "." ++ childName nm) cdt cn cmd c → roomL fs ≤ room c → Bl S (pc c))
    (hnp : ∀ c msg, pc c ≠ .error (.err msg)) :
    Bl S (ctx (B.union p fs types offs cur).ann (do
      let (c, types', offs', cur') ← serializeVariant fs types offs cur i
      let c' ← pc c
      pure (.union p (fs.set i c') types' offs' cur') : R B)) := by
  have hpath : p = path := ha.path
  have hkids := ha.union_kids hg
  have htot := hg.tot
  simp only [total, Bool.and_eq_true, decide_eq_true_eq] at htot
  refine Blo.ctx _ ?_
  show Blo S p _
  rw [hpath]
  cases hget : fs.get? i with
  | none =>
    have hp := hnone (hkids.get_none hget)
    refine Blo.bind ⟨NoCtx.bl _, fun _ _ => hp⟩ fun r hr => ?_
    obtain ⟨m1, co, hget1, _⟩ := serializeVariant_ok hr
    rw [hget] at hget1; cases hget1
  | some cm =>
    obtain ⟨c, m⟩ := cm
    obtain ⟨tid, nm, cdt, cn, cmd, hufs, hgc, hac⟩ := hkids.get hget
    refine Blo.bind ?_ fun r hr => ?_
    · refine ⟨NoCtx.bl _, fun msg h => ?_⟩
      exfalso
      have hlt : i < ufs.toList.length := by
        rcases Nat.lt_or_ge i ufs.toList.length with h' | h'
        · exact h'
        · rw [List.getElem?_eq_none_iff.mpr h'] at hufs; cases hufs
      rw [UFields.length_toList] at hlt
      simp only [serializeVariant, hget] at h
      split at h
      · simp [SaModel.panic] at h
      · rename_i co hco
        split at h
        · rename_i hov
          exact curRoom_pos_get hco hcap hov
        · split at h
          · omega
          · cases h
    · obtain ⟨c1, t', o', cur'⟩ := r
      obtain ⟨m1, co, hget1, _⟩ := serializeVariant_ok hr
      simp only at hget1
      rw [hget] at hget1
      cases hget1
      exact Blo.bind (Blo.of_bl (hpc tid nm cdt cn cmd c hufs hgc hac (roomL_get _ _ _ _ hget)) (hnp c)) fun _ _ => Blo.of_ok _

end SaModel.Props.C18
