import SaModel.Lemmas.C01Ops
/-
The state of a record while its fields are written (`Mid`), and what a field loop may do to it (`FieldsOK`): the vocabulary
of the strict row lemmas (Lemmas/C01Rows.lean).
-/
namespace SaModel.Build
open SaModel SaModel.Spec

/-- a record is being written: started from the children `fs0`, child `j` holds the additional rows `adds[j]`,
exactly one iff `seen[j]` -/
structure Mid (fs0 : BL) (s : SS) (adds : List (List LVal)) : Prop where
  ext : ExtL fs0 s.fields adds
  flags : Flags s.seen adds
  cache : CacheInv s.fields.names s.cached
  safe : SafeL s.fields
  nodup : s.fields.names.Nodup

/-- the parts of a struct state no field call touches -/
def Same (s' s : SS) : Prop := s'.path = s.path ∧ s'.len = s.len ∧ s'.validity = s.validity

theorem Same.refl (s : SS) : Same s s := ⟨rfl, rfl, rfl⟩
theorem Same.trans {a b c : SS} (h1 : Same a b) (h2 : Same b c) : Same a c :=
  ⟨h1.1.trans h2.1, h1.2.1.trans h2.2.1, h1.2.2.trans h2.2.2⟩

def FieldsOK (pf : SS → R SS) : Prop :=
  ∀ fs0 s adds s', Mid fs0 s adds → pf s = .ok s' → (∃ adds', Mid fs0 s' adds') ∧ Same s' s

theorem Mid.next {fs0 : BL} {s : SS} {adds : List (List LVal)} (h : Mid fs0 s adds) (n : Nat) :
    Mid fs0 { s with next := n } adds := ⟨h.ext, h.flags, h.cache, h.safe, h.nodup⟩

theorem Mid.cached {fs0 : BL} {s : SS} {adds : List (List LVal)} (h : Mid fs0 s adds)
    (cached' : List (Option (String × Nat))) (hc : CacheInv s.fields.names cached') :
    Mid fs0 { s with cached := cached' } adds := ⟨h.ext, h.flags, hc, h.safe, h.nodup⟩

end SaModel.Build
