import SaModel.Lemmas.C06TupleNames
/-
C06: the invariant `US t` of the tracer — EVERY UNION NODE HAS AT LEAST ONE SEEN VARIANT (`Variants.hasPresent`).

`TracerSerializer::serialize_*_variant` calls `ensure_union(&[])` (which may create a union node without any variant)
and, in the same call, `ensure_variant(name, idx)`, which fills slot `idx`; so between two samples a union node
always holds a seen variant.  `Tracer::new` satisfies `US` (`US_new`), every successful `absorb .fixed` preserves it
(`absorb_us`), hence every tracer `from_samples` can reach has it (`absorbAll_us`, `steps_us`).

Used by `Lemmas/C06Typed.lean`: a Union field traced from samples has a variant that is not an `UnknownVariant`
placeholder, so `UnionBuilder::serialize_default` (after repo fix 837fa53) finds a child to delegate to.
-/
namespace SaModel.Lemmas.C06
open SaModel SaModel.Trace SaModel.Lemmas.C07 SaModel.Props.C07

def _root_.SaModel.Trace.Variants.hasPresent : Variants → Bool
  | .nil => false
  | .absent r => r.hasPresent
  | .present _ _ _ => true

theorem hasPresent_of_get? : ∀ (vs : Variants) (i : Nat) (x : String × Tracer), vs.get? i = some (some x) →
    vs.hasPresent = true
  | .nil, _, _, h => by simp [Variants.get?] at h
  | .present _ _ _, _, _, _ => rfl
  | .absent r, 0, _, h => by simp [Variants.get?] at h
  | .absent r, i + 1, x, h => by
    simp only [Variants.get?] at h
    simp only [Variants.hasPresent]; exact hasPresent_of_get? r i x h

mutual
def US : Tracer → Prop
  | .unknown _ _ _ => True
  | .primitive _ _ _ _ _ => True
  | .list _ _ _ i => US i
  | .map _ _ _ k v => US k ∧ US v
  | .struct _ _ _ fs _ _ => USF fs
  | .tuple _ _ _ ts => UST ts
  | .union _ _ _ vs => vs.hasPresent = true ∧ USV vs
def UST : Tracers → Prop
  | .nil => True
  | .cons t r => US t ∧ UST r
def USF : TFields → Prop
  | .nil => True
  | .cons _ _ t r => US t ∧ USF r
def USV : Variants → Prop
  | .nil => True
  | .absent r => USV r
  | .present _ t r => US t ∧ USV r
end

def usNode : Tracer → Prop
  | .union _ _ _ vs => vs.hasPresent = true
  | _ => True

mutual
theorem US_every : ∀ t : Tracer, US t ↔ Every usNode t
  | .unknown _ _ _ => by simp only [US, Every, usNode]
  | .primitive _ _ _ _ _ => by simp only [US, Every, usNode]
  | .list _ _ _ i => by simp only [US, Every, usNode, true_and, US_every i]
  | .map _ _ _ k v => by simp only [US, Every, usNode, true_and, US_every k, US_every v]
  | .struct _ _ _ fs _ _ => by simp only [US, Every, usNode, true_and, USF_every fs]
  | .tuple _ _ _ ts => by simp only [US, Every, usNode, true_and, UST_every ts]
  | .union _ _ _ vs => by simp only [US, Every, usNode, USV_every vs]
theorem UST_every : ∀ ts : Tracers, UST ts ↔ EveryT usNode ts
  | .nil => by simp only [UST, EveryT]
  | .cons t r => by simp only [UST, EveryT, US_every t, UST_every r]
theorem USF_every : ∀ fs : TFields, USF fs ↔ EveryF usNode fs
  | .nil => by simp only [USF, EveryF]
  | .cons _ _ t r => by simp only [USF, EveryF, US_every t, USF_every r]
theorem USV_every : ∀ vs : Variants, USV vs ↔ EveryV usNode vs
  | .nil => by simp only [USV, EveryV]
  | .absent r => by simp only [USV, EveryV, USV_every r]
  | .present _ t r => by simp only [USV, EveryV, US_every t, USV_every r]
end

theorem US_new (n p : String) : US (Tracer.new n p) := by simp [Tracer.new, US]

theorem usNode_mark (t : Tracer) : usNode t.mark_nullable = usNode t := by cases t <;> rfl

/-- one `absorb` keeps `usNode` at the node it is applied to: the variant calls fill slot `idx` (`ensure_variant`) in the
same call that may have created the union node -/
theorem usNode_step (o : Options) : ∀ x t t', usNode t → absorb .fixed o t x = .ok t' → usNode t' := by
  intro x t t' hw h
  revert hw
  refine absorb_rel .fixed o (fun t t' => usNode t → usNode t') ?_ ?_ ?_ ?_ ?_ ?_ ?_ ?_ x t t' h
  · exact fun t ht => by rw [usNode_mark]; exact ht
  · exact fun t t2 h ht => h (by rw [usNode_mark]; exact ht)
  · intro t ty t2 _ h ht
    rcases ensure_primitive_ok h with ⟨_, _, _, _, rfl⟩ | ⟨_, _, _, _, _, _, _, _, _, _, rfl⟩ | ⟨_, _, _, rfl⟩
    · trivial
    · trivial
    · rw [usNode_mark]; exact ht
  -- only a union node carries a condition of its own
  · exact fun _ _ _ _ _ _ _ _ _ _ _ => trivial
  · exact fun _ _ _ _ _ _ _ _ _ _ _ _ _ _ _ _ => trivial
  · exact fun _ _ _ _ _ _ _ _ _ _ _ => trivial
  · exact fun _ _ _ _ _ _ _ _ _ _ _ _ _ _ => trivial
  · intro t n p nl vs0 vs vn idx nm' vt vt' v _ _ _ h3 _ _
    exact hasPresent_of_get? _ idx (vn, vt') (Variants.get?_set_eq _ _ _ _ (Variants.get?_lt h3))

def PUS (o : Options) (v : SVal) : Prop := ∀ t t', US t → absorb .fixed o t v = .ok t' → US t'

theorem absorb_us (o : Options) : ∀ x : SVal, PUS o x := by
  intro x t t' ht h
  rw [US_every] at ht ⊢
  exact absorb_every (fun _ _ => trivial) (usNode_step o) x t t' ht h

theorem absorbAll_us (o : Options) (xs : List SVal) {t t' : Tracer} (ht : US t)
    (h : absorbAll .fixed o t xs = .ok t') : US t' := by
  rw [US_every] at ht ⊢
  exact absorbAll_every' (fun _ _ => trivial) (usNode_step o) xs ht h

theorem steps_us (o : Options) {t t2 : Tracer} (ht : US t) (h : Steps .fixed o t t2) : US t2 := by
  obtain ⟨ys, h⟩ := h
  exact absorbAll_us o ys ht h

theorem fromSamplesTracer_us (o : Options) (xs : List SVal) {t : Tracer}
    (h : absorbAll .fixed o (Tracer.new "$" "$") xs = .ok t) : US t :=
  absorbAll_us o xs (US_new _ _) h

end SaModel.Lemmas.C06
