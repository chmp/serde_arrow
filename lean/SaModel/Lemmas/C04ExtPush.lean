import SaModel.Lemmas.C04ExtFree
/-
C04, removing `ExtOK`: `push` and its eight loops on a builder without temporal leaves do not depend on the chrono parsers of
`ext` — each is the same function under `refuseExt ext`.  An equation between the runs under two `ext`, failing runs included: an
instance of the walk over the definition of `push` with motives over `Ext → R _` (`PushRowsE`, Lemmas/PushRows.lean), one clause
per row; the clauses are the congruences of Lemmas/C04ExtFree.lean, and `push_takeRest` (Lemmas/C10TakePush.lean) carries
`noParsedB` along the state-threading loops.
-/
namespace SaModel.Build
open SaModel SaModel.Spec

theorem bind_congr {α β} {m m' : R α} {f g : α → R β} (hm : m = m') (h : ∀ a, m = .ok a → f a = g a) :
    (m >>= f) = (m' >>= g) := hm ▸ bind_congr_ok m f g h

theorem refuse_rows (ext : Ext) : PushRowsE (fun b _ r => noParsedB b = true → r ext = r (refuseExt ext))
    (fun s _ _ r => noParsedBL s.fields = true → r ext = r (refuseExt ext))
    (fun _ el _ _ r => noParsedB el = true → r ext = r (refuseExt ext))
    (fun el _ _ r => noParsedB el = true → r ext = r (refuseExt ext))
    (fun s _ r => noParsedBL s.fields = true → r ext = r (refuseExt ext))
    (fun s _ r => noParsedBL s.fields = true → r ext = r (refuseExt ext))
    (fun s _ r => noParsedBL s.fields = true → r ext = r (refuseExt ext))
    (fun s _ r => noParsedBL s.fields = true → r ext = r (refuseExt ext))
    (fun _ ks vs _ r => noParsedB ks = true → noParsedB vs = true → r ext = r (refuseExt ext))
    (fun _ _ ks vs _ r => noParsedB ks = true → noParsedB vs = true → r ext = r (refuseExt ext)) where
  fwdSome ih := ih
  fwdNewtype ih := ih
  null _ _ := rfl
  refused _ _ _ := rfl
  scalar _ h := congrArg (ctx _) (pushScalar_refuse ext _ _ h)
  seqLike {b x k xs} _ ihE ihC ihT h := congrArg (ctx b.ann)
    (seqLikeWith_refuse (fun l el o hel => ihE l el o hel) (fun el c hel => ihC el c hel) (fun s hs => ihT s hs) b k h)
  listBytes {p large fm v offs el bs} ih h :=
    (push_list_bytes ext p large fm v offs el bs).trans ((ih h).trans (push_list_bytes _ p large fm v offs el bs).symm)
  record {b n fs} ih h := congrArg (ctx _) (recordWith_refuse (fun s hs => ih s hs) b h)
  structMap ih h := congrArg (ctx _) (recordWith_refuse (fun s hs => ih s.unkeyed hs) _ h)
  structMapRaw ih h := congrArg (ctx _) (recordWith_refuse (fun s hs => ih s.unkeyed hs) _ h)
  map ih h := congrArg (ctx _) <| bind_congr_ok _ _ _ fun _ _ => bind_congr_ok _ _ _ fun o' _ =>
    bind_congr (by simp only [noParsedB, Bool.and_eq_true] at h; exact ih o' _ _ h.1 h.2) fun _ _ => rfl
  mapRaw ih h := congrArg (ctx _) <| bind_congr_ok _ _ _ fun _ _ => bind_congr_ok _ _ _ fun o' _ =>
    bind_congr (by simp only [noParsedB, Bool.and_eq_true] at h; exact ih o' _ _ h.1 h.2) fun _ _ => rfl
  union _ ih h := congrArg (ctx _) (union_row_refuse (by simpa only [noParsedB] using h) (fun c hc => ih c hc))
  element ih hs := SS.element_refuse hs (fun c hc => ih c hc)
  elemsNil _ := rfl
  elemsCons ih ihr h := bind_congr_ok _ _ _ fun o' _ => bind_congr (ih h) fun el' hel =>
    ihr el' o' (noParsedB.of_takeRest (push_takeRest _ _ _ _ hel) h)
  countNil _ := rfl
  countCons ih ihr h := bind_congr (ih h) fun el' hel => ihr el' _ (noParsedB.of_takeRest (push_takeRest _ _ _ _ hel) h)
  tupleNil _ := rfl
  tupleCons _ hel ih hs := bind_congr (hel hs) fun s1 h1 =>
    ih s1 (noParsedBL.of_skel ((takeRest_cases ext).element_ok (push_takeRest ext _) h1) hs)
  tupleExtra _ ih hs := ih hs
  fieldsNil _ := rfl
  fieldsCons _ hel ih hs := bind_congr (hel hs) fun s1 h1 =>
    ih s1 (noParsedBL.of_skel ((takeRest_cases ext).element_ok (push_takeRest ext _) h1) hs)
  fieldsUnknown _ ih hs := ih hs
  entriesNil _ := rfl
  entriesCons {s k x rest} hel ih hs := bind_congr_ok _ _ _ fun key _ => by
    split
    · exact ih _ hs
    · rename_i idx _
      exact bind_congr (hel idx hs) fun s1 h1 =>
        ih _ (noParsedBL.of_skel (s' := s1) ((takeRest_cases ext).element_ok (push_takeRest ext _) h1) hs)
  opsNil _ := rfl
  opsKey ih hs := bind_congr_ok _ _ _ fun key _ => ih _ hs
  opsValue _ hel ih hs := bind_congr (hel hs) fun s1 h1 =>
    ih _ (noParsedBL.of_skel (s' := s1) ((takeRest_cases ext).element_ok (push_takeRest ext _) h1) hs)
  opsValueUnkeyed _ ih hs := ih hs
  mapEntriesNil _ _ := rfl
  mapEntriesCons ihk ihv ih hk hv := bind_congr_ok _ _ _ fun o' _ => bind_congr (ihk hk) fun ks' hks =>
    bind_congr (ihv hv) fun vs' hvs => ih o' ks' vs' (noParsedB.of_takeRest (push_takeRest _ _ _ _ hks) hk)
      (noParsedB.of_takeRest (push_takeRest _ _ _ _ hvs) hv)
  mapOpsNil _ _ := rfl
  mapOpsRefused _ _ := rfl
  mapOpsKey ihk ih hk hv := bind_congr_ok _ _ _ fun o' _ => bind_congr (ihk hk) fun ks' hks =>
    ih o' ks' (noParsedB.of_takeRest (push_takeRest _ _ _ _ hks) hk) hv
  mapOpsValue ihv ih hk hv := bind_congr (ihv hv) fun vs' hvs =>
    ih vs' hk (noParsedB.of_takeRest (push_takeRest _ _ _ _ hvs) hv)

theorem push_refuse (ext : Ext) : ∀ (x : SVal) (b : B), noParsedB b = true → push ext b x = push (refuseExt ext) b x :=
  (refuse_rows ext).push

theorem pushElems_refuse (ext : Ext) : ∀ (xs : SVals) (large : Bool) (el : B) (offs : List Int), noParsedB el = true →
    pushElems ext large el offs xs = pushElems (refuseExt ext) large el offs xs :=
  (refuse_rows ext).elems

theorem pushCountElems_refuse (ext : Ext) : ∀ (xs : SVals) (el : B) (c : Nat), noParsedB el = true →
    pushCountElems ext el c xs = pushCountElems (refuseExt ext) el c xs :=
  (refuse_rows ext).count

theorem pushTupleElems_refuse (ext : Ext) : ∀ (xs : SVals) (s : SS), noParsedBL s.fields = true →
    pushTupleElems ext s xs = pushTupleElems (refuseExt ext) s xs :=
  (refuse_rows ext).tuple

theorem pushFields_refuse (ext : Ext) : ∀ (fs : SFields) (s : SS), noParsedBL s.fields = true →
    pushFields ext s fs = pushFields (refuseExt ext) s fs :=
  (refuse_rows ext).fields

theorem pushStructEntries_refuse (ext : Ext) : ∀ (es : SEntries) (s : SS), noParsedBL s.fields = true →
    pushStructEntries ext s es = pushStructEntries (refuseExt ext) s es :=
  (refuse_rows ext).structEntries

theorem pushStructOps_refuse (ext : Ext) : ∀ (ops : SMapOps) (s : SS), noParsedBL s.fields = true →
    pushStructOps ext s ops = pushStructOps (refuseExt ext) s ops :=
  (refuse_rows ext).structOps

theorem pushMapEntries_refuse (ext : Ext) : ∀ (es : SEntries) (offs : List Int) (ks vs : B), noParsedB ks = true →
    noParsedB vs = true → pushMapEntries ext offs ks vs es = pushMapEntries (refuseExt ext) offs ks vs es :=
  (refuse_rows ext).mapEntries

theorem pushMapOps_refuse (ext : Ext) : ∀ (ops : SMapOps) (pd : Bool) (offs : List Int) (ks vs : B), noParsedB ks = true →
    noParsedB vs = true → pushMapOps ext pd offs ks vs ops = pushMapOps (refuseExt ext) pd offs ks vs ops :=
  (refuse_rows ext).mapOps

end SaModel.Build
