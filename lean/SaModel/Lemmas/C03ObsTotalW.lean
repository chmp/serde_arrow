import SaModel.Lemmas.C03ObsTotal
import SaModel.Lemmas.SchemaAll
/-
`PlaceholderStr` (the hypothesis of `finish_totalH` / `Props.C01.toMarrow_complete''`: the value builder of every dictionary
with NON-nullable keys takes strings) as a Boolean predicate on the schema.

  placeholderStrDT dt nl   a dictionary with an integer key type has a string-storing value type (Utf8, LargeUtf8, Utf8View)
                           unless its field is NULLABLE (then `into_array` never takes the placeholder branch); recursion through
                           every child field with that field's nullability; the value type is built non-nullable
  BuiltFor_PlaceholderStrW BuiltFor dt nl b → placeholderStrDT dt nl = true → PlaceholderStr b
  newRoot_PlaceholderStrW  fields.all placeholderStrF → newRoot fields = ok root0 → PlaceholderStr root0
-/
namespace SaModel.Lemmas.C03
open SaModel SaModel.Build SaModel.Spec

/-- value types whose builder stores strings -/
def isStrValDT : DataType → Bool
  | .utf8 | .largeUtf8 | .utf8View => true
  | _ => false

mutual
def placeholderStrDT : DataType → Bool → Bool
  | .dictionary k v, nl => !isIntDT k || ((nl || isStrValDT v) && placeholderStrDT v false)
  | .list f, _ | .largeList f, _ => placeholderStrF f
  | .fixedSizeList f _, _ => placeholderStrF f
  | .map f _, _ => placeholderStrF f
  | .struct fs, _ => placeholderStrFs fs
  | .union ufs _, _ => placeholderStrU ufs
  | _, _ => true
def placeholderStrF : Field → Bool
  | .mk _ dt nl _ => placeholderStrDT dt nl
def placeholderStrFs : Fields → Bool
  | .nil => true
  | .cons f r => placeholderStrF f && placeholderStrFs r
def placeholderStrU : UFields → Bool
  | .nil => true
  | .cons _ f r => placeholderStrF f && placeholderStrU r
end

theorem placeholderStrF_iff (f : Field) : placeholderStrF f = placeholderStrDT f.dataType f.nullable := by
  cases f; simp only [placeholderStrF, Field.dataType, Field.nullable]

/-- the builder of a string-storing value type takes strings -/
theorem strValDT_builtFor (b : B) (vdt : DataType) (nl : Bool) (hv : isStrValDT vdt = true) (hb : BuiltFor vdt nl b) :
    isStrB b = true := by
  cases b with
  | bytes p ty v offs data =>
    simp only [BuiltFor] at hb
    obtain ⟨rfl, _⟩ := hb
    cases ty <;> simp [Lemmas.C03.bytesDT, isStrValDT] at hv <;> rfl
  | bytesView p ty v views buf =>
    simp only [BuiltFor] at hb
    obtain ⟨rfl, _⟩ := hb
    cases ty <;> simp [Lemmas.C03.viewDT, isStrValDT] at hv <;> rfl
  | leaf p kind v vals =>
    simp only [BuiltFor] at hb
    obtain ⟨rfl, _⟩ := hb
    cases kind with
    | int t => cases t <;> simp [leafDT, intDT, isStrValDT] at hv
    | _ => simp [leafDT, isStrValDT] at hv
  | null p len | unknownVariant p => simp only [BuiltFor] at hb; subst hb; simp [isStrValDT] at hv
  | fixedSizeBinary p n len v buf cur =>
    simp only [BuiltFor] at hb; obtain ⟨rfl, _⟩ := hb; simp [isStrValDT] at hv
  | list p large fm v offs el =>
    simp only [BuiltFor] at hb; obtain ⟨f, rfl, _⟩ := hb; cases large <;> simp [isStrValDT] at hv
  | fixedSizeList p fm n len v cur el =>
    simp only [BuiltFor] at hb; obtain ⟨f, rfl, _⟩ := hb; simp [isStrValDT] at hv
  | map p mm v offs ks vs =>
    simp only [BuiltFor] at hb; obtain ⟨_, _, _, _, _, _, rfl, _⟩ := hb; simp [isStrValDT] at hv
  | struct p len v fs c n s =>
    simp only [BuiltFor] at hb; obtain ⟨_, rfl, _⟩ := hb; simp [isStrValDT] at hv
  | dictionary p idx vals index =>
    simp only [BuiltFor] at hb; obtain ⟨_, _, rfl, _⟩ := hb; simp [isStrValDT] at hv
  | union p fs t o c =>
    simp only [BuiltFor] at hb; obtain ⟨_, _, rfl, _⟩ := hb; simp [isStrValDT] at hv

/-- the key builder of a field of nullability `nl` is nullable iff `nl` -/
theorem intKey_isNullable (idx : B) (k : DataType) (nl : Bool) (hk : isIntDT k = true) (hb : BuiltFor k nl idx) :
    idx.isNullable = nl := by
  have hi := isIntLeaf_of_builtFor idx k nl hk hb
  cases idx with
  | leaf p kind v vals => simp only [BuiltFor] at hb; exact hb.2
  | _ => cases hi

theorem PlaceholderStrW_cases : BuiltForCases (fun dt nl b => placeholderStrDT dt nl = true → PlaceholderStr b)
    (fun fs bl => placeholderStrFs fs = true → PlaceholderStrL bl)
    (fun ufs bl _ => placeholderStrU ufs = true → PlaceholderStrL bl) where
  null _ := trivial
  unknownVariant _ := trivial
  leaf _ := trivial
  bytes _ := trivial
  bytesView _ := trivial
  fixedSizeBinary _ := trivial
  list _ ih hc := ih hc
  largeList _ ih hc := ih hc
  fixedSizeList _ ih hc := ih hc
  map _ ihk _ ihv hc := by
    simp only [placeholderStrDT, placeholderStrF, placeholderStrFs, Bool.and_true, Bool.and_eq_true] at hc
    exact ⟨ihk hc.1, ihv hc.2⟩
  struct _ ih hc := ih hc
  dictionary hk hbi _ hbv ihv hc := by
    simp only [placeholderStrDT, hk, Bool.not_true, Bool.false_or, Bool.and_eq_true, Bool.or_eq_true] at hc
    refine ⟨fun hn => ?_, intLeaf_PlaceholderStr _ (isIntLeaf_of_builtFor _ _ _ hk hbi), ihv hc.2⟩
    rw [intKey_isNullable _ _ _ hk hbi] at hn
    rcases hc.1 with h | h
    · rw [hn] at h; cases h
    · exact strValDT_builtFor _ _ false h hbv
  union _ ih hc := ih hc
  nilL _ := trivial
  consL _ ih _ ihr hc := by
    simp only [placeholderStrFs, placeholderStrF, Bool.and_eq_true] at hc
    exact ⟨ih hc.1, ihr hc.2⟩
  nilU _ := trivial
  consU _ ih _ ihr hc := by
    simp only [placeholderStrU, placeholderStrF, Bool.and_eq_true] at hc
    exact ⟨ih hc.1, ihr hc.2⟩

theorem BuiltFor_PlaceholderStrW : ∀ (b : B) (dt : DataType) (nl : Bool), BuiltFor dt nl b →
    placeholderStrDT dt nl = true → PlaceholderStr b :=
  PlaceholderStrW_cases.builtFor

theorem BuiltForL_PlaceholderStrLW : ∀ (bl : BL) (fs : Fields), BuiltForL fs bl → placeholderStrFs fs = true →
    PlaceholderStrL bl :=
  PlaceholderStrW_cases.builtForL

theorem BuiltForU_PlaceholderStrLW : ∀ (bl : BL) (ufs : UFields) (k : Nat), BuiltForU ufs bl k →
    placeholderStrU ufs = true → PlaceholderStrL bl :=
  PlaceholderStrW_cases.builtForU

theorem placeholderStrFs_ofList : ∀ (fields : List Field),
    placeholderStrFs (Fields.ofList fields) = fields.all placeholderStrF :=
  Fields.all_ofList_eq rfl fun _ _ => rfl

/-- the fresh root of a schema with `placeholderStrF` fields is `PlaceholderStr` -/
theorem newRoot_PlaceholderStrW {fields : List Field} {root0 : B} (hc : fields.all placeholderStrF = true)
    (h : newRoot fields = .ok root0) : PlaceholderStr root0 :=
  BuiltFor_PlaceholderStrW root0 _ _ (newRoot_builtFor fields root0 h) (by
    simp only [placeholderStrDT]; rw [placeholderStrFs_ofList]; exact hc)

end SaModel.Lemmas.C03
