import SaModel.Lemmas.C06Bridge
/-
The schemes by which a sample is absorbed (`Fam`: the children are samples again, the loops run over lists) and what a
successful `absorb` of each scheme does to the node (`Run`); the arms of `absorb` on the compound samples inverted once
against `Run`, so that no proof unfolds the mutual definition again.  Assembled in SaModel/Lemmas/C06Fam.lean.
-/
namespace SaModel.Lemmas.C06
open SaModel SaModel.Trace

/-- the scheme by which `TracerSerializer` absorbs a sample into a node -/
inductive Fam where
  | none
  /-- `Some(v)` (marks the node nullable first) and newtype structs (do not) pass the node on to `v` -/
  | wrap (mark : Bool) (v : SVal)
  | leaf (ty : DataType)
  /-- a map traced as a struct whose call stream has a key that is no string or a value without key -/
  | never
  | list (items : List SVal)
  | map (ks vs : List SVal)
  | struct (mode : StructMode) (kvs : List (String × SVal))
  | tuple (items : List SVal)
  /-- all four variant kinds: the payload is absorbed into the variant's tracer as a sample of its own -/
  | variant (idx : Nat) (vn : String) (payload : SVal)

def Run (c : Code) (o : Options) : Fam → Tracer → Tracer → Prop
  | .none, t, a => a = t.mark_nullable
  | .wrap m v, t, a => absorb c o (if m then t.mark_nullable else t) v = .ok a
  | .leaf ty, t, a => ty ∈ leafTypes o ∧ t.ensure_primitive o ty = .ok a
  | .never, _, _ => False
  | .list items, t, a => ∃ n p nl i i', t.ensure_list = .ok (.list n p nl i) ∧ absorbAll c o i items = .ok i' ∧
      a = .list n p nl i'
  | .map ks vs, t, a => ∃ n p nl k v k' v', t.ensure_map = .ok (.map n p nl k v) ∧ absorbAll c o k ks = .ok k' ∧
      absorbAll c o v vs = .ok v' ∧ a = .map n p nl k' v'
  | .struct mode kvs, t, a => ∃ n p nl fs m s fs', t.ensure_struct c [] mode = .ok (.struct n p nl fs m s) ∧
      absorbKVs c o p s fs kvs = .ok fs' ∧ a = .struct n p nl (fs'.end_ s) m (s + 1)
  | .tuple items, t, a => ∃ n p nl ts ts', t.ensure_tuple c items.length = .ok (.tuple n p nl ts) ∧
      absorbTupleL c o p ts 0 items = .ok ts' ∧ a = .tuple n p nl ts'
  | .variant idx vn y, t, a => ∃ n p nl vs0 vs nm vt vt', t.ensure_union [] = .ok (.union n p nl vs0) ∧
      ensure_variant p vs0 vn idx = .ok vs ∧ vs.get? idx = some (some (nm, vt)) ∧ absorb c o vt y = .ok vt' ∧
      a = .union n p nl (vs.set idx vn vt')

theorem absorb_some (c : Code) (o : Options) (t : Tracer) (v : SVal) :
    absorb c o t (.some v) = absorb c o t.mark_nullable v := by simp only [absorb]

theorem absorb_newtypeStruct (c : Code) (o : Options) (t : Tracer) (n : String) (v : SVal) :
    absorb c o t (.newtypeStruct n v) = absorb c o t v := by simp only [absorb]

theorem absorb_none (c : Code) (o : Options) (t : Tracer) : absorb c o t .none = .ok t.mark_nullable := by
  simp only [absorb]

theorem absorb_seq_ok (c : Code) (o : Options) (t t' : Tracer) (items : SVals) :
    absorb c o t (.seq items) = .ok t' ↔
      ∃ n p nl i i', t.ensure_list = .ok (.list n p nl i) ∧ absorbAll c o i items.toList = .ok i' ∧
        t' = .list n p nl i' := by
  simp only [absorb, bind_ok]
  constructor
  · rintro ⟨t1, h1, h2⟩
    cases t1 <;> try (simp only [panic] at h2; cases h2; done)
    rename_i n p nl i
    simp only [bind_ok] at h2
    obtain ⟨i', h2, h3⟩ := h2
    rw [absorbSeq_eq] at h2
    cases h3
    exact ⟨n, p, nl, i, i', h1, h2, rfl⟩
  · rintro ⟨n, p, nl, i, i', h1, h2, rfl⟩
    refine ⟨_, h1, ?_⟩
    simp only [bind_ok]
    exact ⟨i', by rw [absorbSeq_eq]; exact h2, rfl⟩

theorem absorb_tuple_ok (c : Code) (o : Options) (t t' : Tracer) (items : SVals) :
    absorb c o t (.tuple items) = .ok t' ↔
      ∃ n p nl ts ts', t.ensure_tuple c items.length = .ok (.tuple n p nl ts) ∧
        absorbTupleL c o p ts 0 items.toList = .ok ts' ∧ t' = .tuple n p nl ts' := by
  simp only [absorb, bind_ok]
  constructor
  · rintro ⟨t1, h1, h2⟩
    cases t1 <;> try (simp only [panic] at h2; cases h2; done)
    rename_i n p nl ts
    simp only [bind_ok] at h2
    obtain ⟨ts', h2, h3⟩ := h2
    rw [absorbTuple_eq] at h2
    cases h3
    exact ⟨n, p, nl, ts, ts', h1, h2, rfl⟩
  · rintro ⟨n, p, nl, ts, ts', h1, h2, rfl⟩
    refine ⟨_, h1, ?_⟩
    simp only [bind_ok]
    exact ⟨ts', by rw [absorbTuple_eq]; exact h2, rfl⟩

/-- the body shared by the `StructTracer` arms of `absorb`, for any way `run` of walking the fields of the sample that
amounts to `absorbKVs` on its (key, value) list -/
theorem struct_arm_ok (c : Code) (o : Options) (t t' : Tracer) (mode : StructMode) (rk : R (List (String × SVal)))
    (run : String → Nat → TFields → R TFields)
    (hrun : ∀ p s fs fs', run p s fs = .ok fs' ↔ ∃ kvs, rk = .ok kvs ∧ absorbKVs c o p s fs kvs = .ok fs') :
    (do let t ← t.ensure_struct c [] mode
        match t with
        | Tracer.struct n p nl fs m seen => do
          let fs ← run p seen fs
          .ok (Tracer.struct n p nl (fs.end_ seen) m (seen + 1))
        | _ => panic "unreachable: ensure_struct") = .ok t' ↔
      ∃ kvs, rk = .ok kvs ∧ Run c o (.struct mode kvs) t t' := by
  simp only [bind_ok]
  constructor
  · rintro ⟨t1, h1, h2⟩
    cases t1 <;> try (simp only [panic] at h2; cases h2; done)
    rename_i n p nl fs m s
    simp only [bind_ok] at h2
    obtain ⟨fs', h2, h3⟩ := h2
    obtain ⟨kvs, hk, h2⟩ := (hrun p s fs fs').mp h2
    cases h3
    exact ⟨kvs, hk, n, p, nl, fs, m, s, fs', h1, h2, rfl⟩
  · rintro ⟨kvs, hk, n, p, nl, fs, m, s, fs', h1, h2, rfl⟩
    refine ⟨_, h1, ?_⟩
    simp only [bind_ok]
    exact ⟨fs', (hrun p s fs fs').mpr ⟨kvs, hk, h2⟩, rfl⟩

/-- a raw call stream traced through `StructTracer` amounts to its (key, value) list -/
theorem absorb_mapRaw_struct_ok (c : Code) (o : Options) (t t' : Tracer) (ops : SMapOps) (hm : o.map_as_struct = true) :
    absorb c o t (.mapRaw ops) = .ok t' ↔ ∃ kvs, SMapOps.kvs none ops = .ok kvs ∧ Run c o (.struct .map kvs) t t' := by
  simp only [absorb, if_pos hm]
  exact struct_arm_ok c o t t' .map (SMapOps.kvs none ops) (fun p s fs => absorbOpsAsStruct c o p s fs none ops)
    (fun p s fs fs' => absorbOpsAsStruct_ok c o p s ops none fs fs')

theorem absorb_record_ok (c : Code) (o : Options) (t t' : Tracer) (nm : String) (fields : SFields) :
    absorb c o t (.record nm fields) = .ok t' ↔ Run c o (.struct .struct (SFields.kvs fields)) t t' := by
  simp only [absorb]
  refine (struct_arm_ok c o t t' .struct (.ok (SFields.kvs fields)) (fun p s fs => absorbFields c o p s fs fields)
    (fun p s fs fs' => by rw [absorbFields_eq]; simp)).trans ?_
  exact ⟨fun ⟨_, hk, h⟩ => by cases hk; exact h, fun h => ⟨_, rfl, h⟩⟩

/-- a raw call stream traced through `MapTracer`: its keys into the key tracer, its values into the value tracer -/
theorem absorb_mapRaw_map_ok (c : Code) (o : Options) (t t' : Tracer) (ops : SMapOps) (hm : o.map_as_struct = false) :
    absorb c o t (.mapRaw ops) = .ok t' ↔ Run c o (.map (SMapOps.keys ops) (SMapOps.vals ops)) t t' := by
  simp only [absorb, hm, Bool.false_eq_true, if_false, bind_ok]
  constructor
  · rintro ⟨t1, h1, h2⟩
    cases t1 <;> try (simp only [panic] at h2; cases h2; done)
    rename_i n p nl k v
    simp only [bind_ok] at h2
    obtain ⟨⟨k', v'⟩, h2, h3⟩ := h2
    rw [absorbOpsAsMap_ok] at h2
    cases h3
    exact ⟨n, p, nl, k, v, k', v', h1, h2.1, h2.2, rfl⟩
  · rintro ⟨n, p, nl, k, v, k', v', h1, h2, h3, rfl⟩
    refine ⟨_, h1, ?_⟩
    simp only [bind_ok]
    exact ⟨(k', v'), (absorbOpsAsMap_ok c o ops k v k' v').mpr ⟨h2, h3⟩, rfl⟩

theorem ensure_union_variant_ok (t : Tracer) (vn : String) (idx : Nat) (n p : String) (nl : Bool) (vs : Variants)
    (vt : Tracer) :
    ensure_union_variant t vn idx = .ok (n, p, nl, vs, vt) ↔
      ∃ vs0 nm, t.ensure_union [] = .ok (.union n p nl vs0) ∧ ensure_variant p vs0 vn idx = .ok vs ∧
        vs.get? idx = some (some (nm, vt)) := by
  simp only [ensure_union_variant, bind_ok]
  constructor
  · rintro ⟨t1, h1, h2⟩
    cases t1 <;> try (simp only [panic] at h2; cases h2; done)
    rename_i n1 p1 nl1 vs0
    simp only [bind_ok] at h2
    obtain ⟨vs1, h2, h3⟩ := h2
    cases hg : vs1.get? idx with
    | none => rw [hg] at h3; simp only [panic] at h3; cases h3
    | some x =>
      cases x with
      | none => rw [hg] at h3; simp only [panic] at h3; cases h3
      | some y =>
        obtain ⟨nm, vt1⟩ := y
        rw [hg] at h3; simp only at h3; cases h3
        exact ⟨vs0, nm, h1, h2, hg⟩
  · rintro ⟨vs0, nm, h1, h2, h3⟩
    refine ⟨_, h1, ?_⟩
    simp only [bind_ok]
    refine ⟨vs, h2, ?_⟩
    rw [h3]

theorem absorb_newtypeVariant_ok (c : Code) (o : Options) (t t' : Tracer) (nm : String) (idx : Nat) (vn : String)
    (v : SVal) :
    absorb c o t (.newtypeVariant nm idx vn v) = .ok t' ↔
      ∃ n p nl vs0 vs nm' vt vt', t.ensure_union [] = .ok (.union n p nl vs0) ∧
        ensure_variant p vs0 vn idx = .ok vs ∧ vs.get? idx = some (some (nm', vt)) ∧ absorb c o vt v = .ok vt' ∧
        t' = .union n p nl (vs.set idx vn vt') := by
  simp only [absorb, bind_ok]
  constructor
  · rintro ⟨⟨n, p, nl, vs, vt⟩, h1, h2⟩
    simp only at h2
    obtain ⟨vt', h2, h3⟩ := h2
    cases h3
    obtain ⟨vs0, nm', h4, h5, h6⟩ := (ensure_union_variant_ok t vn idx n p nl vs vt).mp h1
    exact ⟨n, p, nl, vs0, vs, nm', vt, vt', h4, h5, h6, h2, rfl⟩
  · rintro ⟨n, p, nl, vs0, vs, nm', vt, vt', h4, h5, h6, h2, rfl⟩
    refine ⟨(n, p, nl, vs, vt), (ensure_union_variant_ok t vn idx n p nl vs vt).mpr ⟨vs0, nm', h4, h5, h6⟩, ?_⟩
    simp only
    exact ⟨vt', h2, rfl⟩

end SaModel.Lemmas.C06
