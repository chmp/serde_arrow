import SaModel.Lemmas.C05ReadCont2
import SaModel.Lemmas.C02TypedStruct
/-
C05, typed reads: a struct target read by field name from a struct column.  `castFields` says the read
must fail when a target field's value is not representable or when a non-`Option` target field has no column field of
its name (`missing_field`); the key loop of the derived visitor (`structVisit`) then fails.  With the accept side
(`Lemmas/C02TypedStruct.lean`): `structVisit` honours `structClaim`.
-/
namespace SaModel.Read
open SaModel SaModel.Spec

theorem foldlM_fails {α β} {f : β → α → R β} : ∀ (l : List α) (init : β),
    (∃ x ∈ l, ∀ s, (f s x).isOk = false) → (l.foldlM f init).isOk = false
  | [], _, h => by obtain ⟨x, hx, _⟩ := h; cases hx
  | y :: l, init, h => by
    rw [List.foldlM_cons]
    obtain ⟨x, hx, hf⟩ := h
    rcases List.mem_cons.1 hx with rfl | hx
    · exact bind_fails_left (hf init)
    · exact bind_fails fun s _ => foldlM_fails l s ⟨x, hx, hf⟩

theorem fieldNamed_facts : ∀ (fs : ArrFields) (i : Nat) (vals : List (String × LVal)) (n : String) (a : Arr) (v : LVal),
    SlotFields fs i vals → fieldNamed fs (LFields.ofList vals) n = some (a, v) →
    (∃ fm, (fm, a) ∈ fs.toList ∧ fm.name = n) ∧ Slot a i v
  | .nil, i, vals, n, a, v, h, hf => by
    have h := h.dec
    unfold decodeFieldsAt at h; cases h
    simp [LFields.ofList, fieldNamed] at hf
  | .cons fm a' rest, i, vals, n, a, v, h, hf => by
    obtain ⟨w, r, rfl, sa, sr⟩ := h.cons
    simp only [LFields.ofList, fieldNamed] at hf
    split at hf
    · rename_i hname
      simp only [beq_iff_eq] at hname
      cases hf
      exact ⟨⟨fm, by simp [ArrFields.toList], hname⟩, sa⟩
    · obtain ⟨⟨fm', hm, hn'⟩, rest'⟩ := fieldNamed_facts rest i r n a v sr hf
      exact ⟨⟨fm', by simp [ArrFields.toList, hm], hn'⟩, rest'⟩

theorem fieldNamed_of_mem : ∀ (fs : ArrFields) (i : Nat) (vals : List (String × LVal)) (n : String),
    decodeFieldsAt fs i = .ok vals → n ∈ ArrFields.names fs → fieldNamed fs (LFields.ofList vals) n ≠ none
  | .nil, i, vals, n, _, hm => by simp [ArrFields.names] at hm
  | .cons fm a' rest, i, vals, n, h, hm => by
    obtain ⟨w, r, hw, hr, rfl⟩ := decodeFieldsAt_cons_inv h
    simp only [LFields.ofList, fieldNamed]
    split
    · simp
    · rename_i hne
      simp only [ArrFields.names, List.mem_cons] at hm
      rcases hm with rfl | hm
      · simp at hne
      · exact fieldNamed_of_mem rest i r n hr hm

theorem castFields_err : ∀ (tfs' : TFields) (fs : ArrFields) (lfs : LFields) (e : Fail),
    castFields tfs' fs lfs = .error e → ∃ n t, (n, t) ∈ TFields.toList tfs' ∧
      ((∃ a v e', fieldNamed fs lfs n = some (a, v) ∧ cast t a v = .error e') ∨
       (fieldNamed fs lfs n = none ∧ t.isOption = false))
  | .nil, _, _, _, hc => by simp [castFields] at hc
  | .cons n' t' rest, fs, lfs, e, hc => by
    simp only [castFields] at hc
    rcases consClaim_err hc with ⟨e', h1⟩ | ⟨e', h2⟩
    · refine ⟨n', t', by simp [TFields.toList], ?_⟩
      cases hf : fieldNamed fs lfs n' with
      | none =>
        rw [hf] at h1
        cases ho : t'.isOption with
        | true => simp [ho, must] at h1
        | false => exact .inr ⟨rfl, rfl⟩
      | some av =>
        obtain ⟨a, v⟩ := av
        rw [hf] at h1
        simp only at h1
        cases hcv : cast t' a v with
        | ok o => rw [hcv] at h1; cases o <;> simp at h1
        | error err => exact .inl ⟨a, v, err, rfl, hcv⟩
    · obtain ⟨n, t, hm, r⟩ := castFields_err rest fs lfs e' h2
      exact ⟨n, t, by simp [TFields.toList, hm], r⟩

theorem noKnownFields_mem : ∀ (tfs' : TFields) (fs : ArrFields) (lfs : LFields),
    noKnownFields tfs' fs lfs = true → ∀ n t, (n, t) ∈ TFields.toList tfs' → ∀ a v, fieldNamed fs lfs n = some (a, v) →
    noKnown t a v = true
  | .nil, _, _, _, n, t, hm, _, _, _ => by simp [TFields.toList] at hm
  | .cons n' t' rest, fs, lfs, hk, n, t, hm, a, v, hf => by
    simp only [noKnownFields, Bool.and_eq_true] at hk
    simp only [TFields.toList, List.mem_cons, Prod.mk.injEq] at hm
    rcases hm with ⟨rfl, rfl⟩ | hm
    · have := hk.1
      rw [hf] at this
      exact this
    · exact noKnownFields_mem rest fs lfs hk.2 n t hm a v hf

theorem mem_names_of_mem : ∀ (tfs : TFields) (n : String) (t : Target), (n, t) ∈ TFields.toList tfs → n ∈ TFields.names tfs
  | .nil, _, _, h => by simp [TFields.toList] at h
  | .cons n' t' rest, n, t, h => by
    simp only [TFields.toList, List.mem_cons, Prod.mk.injEq] at h
    rcases h with ⟨rfl, _⟩ | h
    · simp [TFields.names]
    · simp [TFields.names, mem_names_of_mem rest n t h]

theorem lookupT_of_mem_nodup : ∀ (tfs : TFields), nodupNames (TFields.names tfs) = true → ∀ n t,
    (n, t) ∈ TFields.toList tfs → ∀ pos, ∃ p, lookupT tfs n pos = some (p, t)
  | .nil, _, n, t, h, _ => by simp [TFields.toList] at h
  | .cons n' t' rest, hnd, n, t, h, pos => by
    simp only [TFields.names] at hnd
    obtain ⟨hnotin, hnd'⟩ := nodupNames_cons hnd
    simp only [TFields.toList, List.mem_cons, Prod.mk.injEq] at h
    unfold lookupT
    rcases h with ⟨rfl, rfl⟩ | h
    · exact ⟨pos, by simp⟩
    · have hne : (n' == n) = false := by
        simp only [beq_eq_false_iff_ne, ne_eq]
        intro he; rw [he] at hnotin; exact hnotin (mem_names_of_mem rest n t h)
      simp only [hne, Bool.false_eq_true, if_false]
      exact lookupT_of_mem_nodup rest hnd' n t h (pos + 1)

theorem mem_names_of_mem_toList : ∀ (fs : ArrFields) (fm : FieldMeta) (a : Arr), (fm, a) ∈ fs.toList → fm.name ∈ ArrFields.names fs
  | .nil, _, _, h => by simp [ArrFields.toList] at h
  | .cons fm' a' rest, fm, a, h => by
    simp only [ArrFields.toList, List.mem_cons, Prod.mk.injEq] at h
    rcases h with ⟨rfl, _⟩ | h
    · simp [ArrFields.names]
    · simp [ArrFields.names, mem_names_of_mem_toList rest fm a h]

/-- the slots the key loop fills are at the target positions of column field names -/
theorem keyLoop_keys {tfs : TFields} {i : Nat} : ∀ (l : List (FieldMeta × Arr)) (s0 s : Slots),
    l.foldlM (keyStep tfs i) s0 = .ok s → ∀ q, (s.lookup q).isSome = true →
    (s0.lookup q).isSome = true ∨ ∃ x ∈ l, ∃ t, lookupT tfs x.1.name 0 = some (q, t)
  | [], s0, s, h, q, hq => by
    simp only [List.foldlM, pure, Except.pure, Except.ok.injEq] at h
    subst h; exact .inl hq
  | y :: l, s0, s, h, q, hq => by
    rw [List.foldlM_cons] at h
    obtain ⟨s1, h1, h2⟩ := bind_ok_inv h
    rcases keyLoop_keys l s1 s h2 q hq with hs1 | ⟨x, hx, t, hl⟩
    · simp only [keyStep, readFieldAs_eq] at h1
      cases hl : lookupT tfs y.1.name 0 with
      | none =>
        rw [hl] at h1
        simp only [bind, Except.bind] at h1
        cases hr : readAny Fixes.all y.2 i with
        | error e => rw [hr] at h1; cases h1
        | ok d =>
          rw [hr] at h1
          simp only [pure, Except.pure, Except.ok.injEq] at h1
          subst h1; exact .inl hs1
      | some pt =>
        obtain ⟨p, t⟩ := pt
        rw [hl] at h1
        simp only at h1
        split at h1
        · simp [fail, bind, Except.bind] at h1
        · cases hr : readAs Fixes.all t y.2 i with
          | error e => rw [hr] at h1; simp [bind, Except.bind] at h1
          | ok d =>
            rw [hr] at h1
            simp only [bind, Except.bind, pure, Except.pure, Except.ok.injEq] at h1
            subst h1
            rw [List.lookup_append] at hs1
            cases hs0 : s0.lookup q with
            | some _ => exact .inl rfl
            | none =>
              rw [hs0] at hs1
              simp only [Option.none_or, List.lookup] at hs1
              by_cases hqp : q = p
              · subst hqp; exact .inr ⟨y, by simp, t, hl⟩
              · have : (q == p) = false := by simpa using hqp
                simp [this] at hs1
    · exact .inr ⟨x, by simp [hx], t, hl⟩

theorem finishFields_needs : ∀ (tfs : TFields) (pos : Nat) (slots : Slots) (r : List (DVal × DVal)),
    finishFields tfs pos slots = .ok r → ∀ n p t, lookupT tfs n pos = some (p, t) → t.isOption = false →
    (slots.get? p).isSome = true
  | .nil, _, _, _, _, n, p, t, hl, _ => by simp [lookupT] at hl
  | .cons n' t' rest, pos, slots, r, h, n, p, t, hl, ho => by
    simp only [finishFields] at h
    obtain ⟨v, hv, h⟩ := bind_ok_inv h
    obtain ⟨r', hr', _⟩ := bind_ok_inv h
    unfold lookupT at hl
    split at hl
    · cases hl
      unfold slotOrMissing at hv
      split at hv
      · rename_i hs; rw [hs]; rfl
      · simp [ho, fail] at hv
    · exact finishFields_needs rest (pos + 1) slots r' hr' n p t hl ho

/-- `structClaim` + `structVisit` (struct target, struct variant) -/
theorem structVisit_rej {tfs : TFields} (hS : ∀ p ∈ TFields.toList tfs, Rej p.2) (a : Arr) (i : Nat) (lv : LVal) (e : Fail)
    (h : decodeAt a i = .ok lv) (hn : new Fixes.all a = .ok ()) (hp : physical a = true) (hu : utf8Ok lv = true)
    (hk : structPart (fun fs lfs => noKnownFields tfs fs lfs) a lv = true)
    (hc : structClaim (TFields.names tfs) (fun fs lfs => castFields tfs fs lfs) a lv = .error e) :
    (structVisit Fixes.all (fun slots name child => readFieldAs Fixes.all tfs 0 slots name child i) tfs a i).isOk = false := by
  by_cases hs : ∃ len v fs, a = .struct len v fs
  · obtain ⟨len, v, fs, rfl⟩ := hs
    obtain ⟨hitem, rfl | ⟨vals, rfl, sf⟩⟩ := (Slot.mk h hn hp hu).struct
    · simp [structPart] at hk
    · simp only [structClaim] at hc
      simp only [structPart] at hk
      split at hc
      · simp [na] at hc
      · rename_i hdup
        simp only [Bool.or_eq_true, Bool.not_eq_true', not_or, Bool.not_eq_false] at hdup
        have hcl := andThenE_err (fun _ _ => must_ne_err) hc
        have e' : structVisit Fixes.all (fun slots name child => readFieldAs Fixes.all tfs 0 slots name child i) tfs
            (.struct len v fs) i =
            (do structItem Fixes.all len i
                let slots ← fs.toList.foldlM (keyStep tfs i) []
                pure (.map (DEntries.ofList (← finishFields tfs 0 slots)))) := rfl
        rw [e', hitem]
        simp only [bind, Except.bind]
        obtain ⟨n, t, hm, hcase⟩ := castFields_err tfs fs _ e hcl
        obtain ⟨p, hl⟩ := lookupT_of_mem_nodup tfs hdup.2 n t hm 0
        rcases hcase with ⟨a', v', err, hf, hcv⟩ | ⟨hf, ho⟩
        · -- a column field whose value the target field cannot take: its `next_value` fails
          obtain ⟨⟨fm, hmem, hname⟩, sa⟩ := fieldNamed_facts fs i vals n a' v' sf hf
          have hka := noKnownFields_mem tfs fs _ hk n t hm a' v' hf
          have hread := hS (n, t) hm a' i v' err sa.dec sa.new sa.phys sa.utf8 hka hcv
          apply bind_fails_left
          apply foldlM_fails
          refine ⟨(fm, a'), hmem, ?_⟩
          intro s
          simp only [keyStep, readFieldAs_eq, hname, hl]
          apply bind_fails_left
          split
          · rfl
          · exact bind_fails_left hread
        · -- a non-Option target field without a column field: `missing_field`
          apply fails_of_not_ok
          intro d hd
          obtain ⟨slots, hloop, hd⟩ := bind_ok_inv hd
          obtain ⟨r, hfin, _⟩ := bind_ok_inv hd
          have hsome := finishFields_needs tfs 0 slots r hfin n p t hl ho
          rcases keyLoop_keys fs.toList [] slots hloop p hsome with h0 | ⟨x, hx, t', hlx⟩
          · simp at h0
          · have hnn := lookupT_inj tfs x.1.name n 0 p t' t hlx hl
            have hmemn := mem_names_of_mem_toList fs x.1 x.2 hx
            rw [hnn] at hmemn
            exact fieldNamed_of_mem fs i vals n sf.dec hmemn hf
  · rw [structVisit_other fun len v fs he => hs ⟨len, v, fs, he⟩]
    rfl

/-- `structClaim` + `structVisit` (struct target, struct variant): the accept side and the reject side are separate
arguments (`structVisit_sound`, `structVisit_rej`) -/
theorem structVisit_honours {tfs : TFields} (hS : ∀ p ∈ TFields.toList tfs, ReadHonours p.2) (a : Arr) (i : Nat) (lv : LVal)
    (h : decodeAt a i = .ok lv) (hn : new Fixes.all a = .ok ()) (hp : physical a = true) (hu : utf8Ok lv = true) :
    Honours (structPart (fun fs lfs => noKnownFields tfs fs lfs) a lv)
      (structVisit Fixes.all (fun slots name child => readFieldAs Fixes.all tfs 0 slots name child i) tfs a i)
      (structClaim (TFields.names tfs) (fun fs lfs => castFields tfs fs lfs) a lv) :=
  .of_halves (fun d hc => structVisit_sound (fun p hm => (hS p hm).sound) a i lv d h hn hp hu hc)
    (fun e hk hc => structVisit_rej (fun p hm => (hS p hm).rej) a i lv e h hn hp hu hk hc)

theorem honours_struct {tfs : TFields} (hS : ∀ p ∈ TFields.toList tfs, ReadHonours p.2) : ReadHonours (.struct tfs) := by
  intro a i lv h hn hp hu
  simp only [cast, noKnown, readAs]
  exact structVisit_honours hS a i lv h hn hp hu

theorem khonours_struct {tfs : TFields} (hS : ∀ p ∈ TFields.toList tfs, ReadHonours p.2) : KindHonours (.struct tfs) := by
  intro child off lv h hn hp hu
  simp only [castKind, noKnownKind, readKind]
  exact structVisit_honours hS child off lv h hn hp hu

end SaModel.Read
