import SaModel.Read.Cast
/-
C02 / C05, reader side: `cast` leaves NO supported cell without a claim.  `naCell t a`: field names repeat in a struct
target of `t` (not a Rust type) or among the children of a struct column inside `a` — the only situation in which `cast`
answers `na` (`cast_nn`); everywhere else it says `must d` or `mustFail` (`cast_na_only`, `cast_must_or_mustFail`: Props/C02.lean).
-/
namespace SaModel.Read
open SaModel

mutual
/-- every struct (and struct variant) inside the target has distinct field names: true of every Rust type -/
def Target.namesOk : Target → Bool
  | .option t => t.namesOk
  | .newtype t => t.namesOk
  | .seq t => t.namesOk
  | .tuple ts => ts.namesOk
  | .tupleStruct ts => ts.namesOk
  | .map k v => k.namesOk && v.namesOk
  | .struct tfs => nodupNames (TFields.names tfs) && tfs.namesOk
  | .enum _ vs => vs.namesOk
  | _ => true
def Targets.namesOk : Targets → Bool
  | .nil => true
  | .cons t r => t.namesOk && r.namesOk
def TFields.namesOk : TFields → Bool
  | .nil => true
  | .cons _ t r => t.namesOk && r.namesOk
def TVariants.namesOk : TVariants → Bool
  | .nil => true
  | .cons _ k r => k.namesOk && r.namesOk
def VKind.namesOk : VKind → Bool
  | .unit => true
  | .newtype t => t.namesOk
  | .tuple ts => ts.namesOk
  | .struct tfs => nodupNames (TFields.names tfs) && tfs.namesOk
end

mutual
/-- every struct column inside the view has distinct child names -/
def _root_.SaModel.Arr.namesOk : Arr → Bool
  | .struct _ _ fs => nodupNames (ArrFields.names fs) && fs.namesOk
  | .list _ _ _ _ el => el.namesOk
  | .fixedSizeList _ _ _ _ el => el.namesOk
  | .map _ _ _ ks vs => ks.namesOk && vs.namesOk
  | .union _ _ fs => fs.namesOk
  | _ => true
def _root_.SaModel.ArrFields.namesOk : ArrFields → Bool
  | .nil => true
  | .cons _ a r => a.namesOk && r.namesOk
def _root_.SaModel.ArrUFields.namesOk : ArrUFields → Bool
  | .nil => true
  | .cons _ _ a r => a.namesOk && r.namesOk
end

/-- the cells `cast` may leave without a claim: repeated field names in the target or in the view -/
def naCell (t : Target) (a : Arr) : Bool := !(t.namesOk && a.namesOk)

/-! ### the leaf table and the combinators never answer `na` on their own -/

theorem castLeaf_isSome (t : Target) (a : Arr) (lv : LVal) : (castLeaf t a lv).isSome = true := by
  unfold castLeaf
  (repeat' split) <;> rfl

theorem ofLeaf_ne_na {x : Option (R DVal)} (h : x.isSome = true) : ofLeaf x ≠ na := by
  cases x with
  | none => cases h
  | some r => cases r <;> simp [ofLeaf, na, must]

theorem must_ne_na (d : DVal) : must d ≠ na := by simp [must, na]
theorem mustFail_ne_na (w : String) : mustFail w ≠ na := by simp [mustFail, fail, na]

theorem castScalar_ne_na (t : Target) (a : Arr) (lv : LVal) : castScalar t a lv ≠ na := by
  unfold castScalar
  (repeat' split) <;>
    first | exact must_ne_na _ | exact mustFail_ne_na _ | exact ofLeaf_ne_na (castLeaf_isSome _ _ _)

theorem consClaim_ne_none {α} {x : R (Option α)} {rest : R (Option (List α))} (hx : x ≠ .ok none) (hr : rest ≠ .ok none) :
    consClaim x rest ≠ .ok none := by
  unfold consClaim
  cases x with
  | error e => simp
  | ok o =>
    cases o with
    | none => exact absurd rfl hx
    | some d =>
      cases rest with
      | error e => simp
      | ok o' =>
        cases o' with
        | none => exact absurd rfl hr
        | some ds => simp

theorem claimVals_ne_none {f : LVal → Claim} (hf : ∀ v, f v ≠ na) : ∀ (xs : LVals), claimVals f xs ≠ .ok none
  | .nil => by simp [claimVals]
  | .cons v r => by
    unfold claimVals
    exact consClaim_ne_none (hf v) (claimVals_ne_none hf r)

theorem andThenL_ne_na {x : R (Option (List DVal))} {f : List DVal → Claim} (hx : x ≠ .ok none) (hf : ∀ d, f d ≠ na) :
    andThenL x f ≠ na := by
  unfold andThenL
  split
  · exact hf _
  · exact absurd rfl hx
  · simp [na]

theorem andThenE_ne_na {x : R (Option (List (DVal × DVal)))} {f : List (DVal × DVal) → Claim} (hx : x ≠ .ok none)
    (hf : ∀ d, f d ≠ na) : andThenE x f ≠ na := by
  unfold andThenE
  split
  · exact hf _
  · exact absurd rfl hx
  · simp [na]

theorem andThen_ne_na {x : Claim} {f : DVal → Claim} (hx : x ≠ na) (hf : ∀ d, f d ≠ na) : x.andThen f ≠ na := by
  unfold Claim.andThen
  split
  · exact hf _
  · exact absurd rfl hx
  · simp [na]


theorem pairClaim_ne_none {k v : Claim} (hk : k ≠ na) (hv : v ≠ na) : pairClaim k v ≠ .ok none := by
  unfold pairClaim
  split
  · simp
  · simp
  · simp
  · rename_i h1 h2 h3
    cases k with
    | error e => exact absurd rfl (h1 e)
    | ok ok =>
      cases v with
      | error e => exact absurd rfl (h2 e)
      | ok ov =>
        cases ok with
        | none => exact absurd rfl hk
        | some dk =>
          cases ov with
          | none => exact absurd rfl hv
          | some dv => exact absurd rfl (fun _ : (0 : Nat) = 0 => h3 dk dv rfl rfl)

theorem claimEntries_ne_none {fk fv : LVal → Claim} (hk : ∀ v, fk v ≠ na) (hv : ∀ v, fv v ≠ na) :
    ∀ (es : LEntries), claimEntries fk fv es ≠ .ok none
  | .nil => by simp [claimEntries]
  | .cons k v r => by
    unfold claimEntries
    exact consClaim_ne_none (pairClaim_ne_none (hk k) (hv v)) (claimEntries_ne_none hk hv r)

theorem castVariantStr_ne_na : ∀ (vs : TVariants) (s : Bytes), castVariantStr vs s ≠ na
  | .nil, _ => mustFail_ne_na _
  | .cons n k rest, s => by
    unfold castVariantStr
    split
    · split
      · exact must_ne_na _
      · exact mustFail_ne_na _
    · exact castVariantStr_ne_na rest s

theorem mapKeyClaim_ne_na (k : Target) (name : String) : mapKeyClaim k name ≠ na := by
  unfold mapKeyClaim
  split
  · exact must_ne_na _
  · exact must_ne_na _
  · exact must_ne_na _
  · exact must_ne_na _
  · split
    · exact must_ne_na _
    · exact mustFail_ne_na _
  · split
    · exact mustFail_ne_na _
    · exact castVariantStr_ne_na _ _
  · exact mustFail_ne_na _

theorem claimStructAsMap_ne_none {key : String → Claim} {f : Arr → LVal → Claim} (hk : ∀ n, key n ≠ na) :
    ∀ (fs : ArrFields) (lfs : LFields), (∀ a v, a.namesOk = true → f a v ≠ na) → fs.namesOk = true →
      claimStructAsMap key f fs lfs ≠ .ok none
  | .nil, _, _, _ => by simp [claimStructAsMap]
  | .cons _ _ _, .nil, _, _ => by simp [claimStructAsMap]
  | .cons fm a rest, .cons _ lv lrest, hf, hn => by
    simp only [ArrFields.namesOk, Bool.and_eq_true] at hn
    unfold claimStructAsMap
    exact consClaim_ne_none (pairClaim_ne_none (hk _) (hf a lv hn.1)) (claimStructAsMap_ne_none hk rest lrest hf hn.2)

theorem u8Claim_ne_na (t : Target) (x : UInt8) : u8Claim t x ≠ na := by
  unfold u8Claim
  split
  · exact must_ne_na _
  · exact must_ne_na _
  · split
    · exact must_ne_na _
    · exact mustFail_ne_na _
  · exact mustFail_ne_na _

theorem claimList_ne_none : ∀ (cs : List Claim), (∀ c ∈ cs, c ≠ na) → claimList cs ≠ .ok none
  | [], _ => by simp [claimList]
  | c :: cs, h => by
    unfold claimList
    exact consClaim_ne_none (h c (by simp)) (claimList_ne_none cs fun c' hc' => h c' (by simp [hc']))

theorem castBinSeq_ne_na (t : Target) (b : Bytes) : castBinSeq t b ≠ na := by
  unfold castBinSeq
  have := claimList_ne_none (b.map (u8Claim t)) (by
    intro c hc
    obtain ⟨x, _, rfl⟩ := List.mem_map.1 hc
    exact u8Claim_ne_na t x)
  split
  · exact must_ne_na _
  · rename_i h; exact absurd h this
  · simp [na]

theorem fieldNamed_namesOk : ∀ (fs : ArrFields) (lfs : LFields) (n : String) (a : Arr) (v : LVal),
    fieldNamed fs lfs n = some (a, v) → fs.namesOk = true → a.namesOk = true
  | .nil, _, _, _, _, h, _ => by simp [fieldNamed] at h
  | .cons _ _ _, .nil, _, _, _, h, _ => by simp [fieldNamed] at h
  | .cons fm a' rest, .cons _ v' lrest, n, a, v, h, hn => by
    simp only [ArrFields.namesOk, Bool.and_eq_true] at hn
    unfold fieldNamed at h
    split at h
    · cases h; exact hn.1
    · exact fieldNamed_namesOk rest lrest n a v h hn.2

theorem findId_namesOk : ∀ (fs : ArrUFields) (t : Int) (fm : FieldMeta) (a : Arr),
    ArrUFields.findId fs t = some (fm, a) → fs.namesOk = true → a.namesOk = true
  | .nil, _, _, _, h, _ => by simp [ArrUFields.findId] at h
  | .cons i fm' a' r, t, fm, a, h, hn => by
    simp only [ArrUFields.namesOk, Bool.and_eq_true] at hn
    unfold ArrUFields.findId at h
    split at h
    · cases h; exact hn.1
    · exact findId_namesOk r t fm a h hn.2

theorem wrapKey_ne_none (k : DVal) : ∀ (c : Claim), c ≠ na →
    (match c with
      | .ok (some d) => .ok (some (k, d))
      | .ok none => .ok none
      | .error e => .error e : R (Option (DVal × DVal))) ≠ .ok none := by
  intro c hc
  cases c with
  | error e => simp
  | ok o =>
    cases o with
    | none => exact absurd rfl hc
    | some d => simp

/-- `cast t` never answers `na` on views without repeated child names -/
def NN (t : Target) : Prop := ∀ (a : Arr) (lv : LVal), a.namesOk = true → cast t a lv ≠ na

theorem tupleClaim_ne_na {f : ArrFields → LFields → R (Option (List DVal))} (a : Arr) (lv : LVal)
    (hf : ∀ fs lfs, fs.namesOk = true → f fs lfs ≠ .ok none) (ha : a.namesOk = true) : tupleClaim f a lv ≠ na := by
  unfold tupleClaim
  split
  · simp only [Arr.namesOk, Bool.and_eq_true] at ha
    exact andThenL_ne_na (hf _ _ ha.2) fun _ => must_ne_na _
  · exact mustFail_ne_na _
  · exact mustFail_ne_na _

theorem structClaim_ne_na {tn : List String} {f : ArrFields → LFields → R (Option (List (DVal × DVal)))} (a : Arr) (lv : LVal)
    (htn : nodupNames tn = true) (hf : ∀ fs lfs, fs.namesOk = true → f fs lfs ≠ .ok none) (ha : a.namesOk = true) :
    structClaim tn f a lv ≠ na := by
  unfold structClaim
  split
  · simp only [Arr.namesOk, Bool.and_eq_true] at ha
    simp only [ha.1, htn, Bool.not_true, Bool.or_self, Bool.false_eq_true, if_false]
    exact andThenE_ne_na (hf _ _ ha.2) fun _ => must_ne_na _
  · exact mustFail_ne_na _
  · exact mustFail_ne_na _

mutual
theorem cast_nn : ∀ (t : Target), t.namesOk = true → NN t
  | .any, _ => fun a lv _ => by simp only [cast]; exact must_ne_na _
  | .ignored, _ => fun a lv _ => by simp only [cast]; exact must_ne_na _
  | .option t, h => fun a lv ha => by
    simp only [Target.namesOk] at h
    cases lv <;> simp only [cast] <;>
      first | exact must_ne_na _ | exact andThen_ne_na (cast_nn t h a _ ha) fun _ => must_ne_na _
  | .newtype t, h => fun a lv ha => by
    simp only [Target.namesOk] at h
    simp only [cast]; exact cast_nn t h a lv ha
  | .seq t, h => fun a lv ha => by
    simp only [Target.namesOk] at h
    simp only [cast]
    split
    · simp only [Arr.namesOk] at ha
      exact andThenL_ne_na (claimVals_ne_none (fun v => cast_nn t h _ v ha) _) fun _ => must_ne_na _
    · simp only [Arr.namesOk] at ha
      exact andThenL_ne_na (claimVals_ne_none (fun v => cast_nn t h _ v ha) _) fun _ => must_ne_na _
    · split
      · exact castBinSeq_ne_na _ _
      · exact mustFail_ne_na _
    · exact mustFail_ne_na _
    · exact mustFail_ne_na _
  | .tuple ts, h => fun a lv ha => by
    simp only [Target.namesOk] at h
    simp only [cast]
    exact tupleClaim_ne_na a lv (fun fs lfs hfs => castTuple_nn ts h fs lfs hfs) ha
  | .tupleStruct ts, h => fun a lv ha => by
    simp only [Target.namesOk] at h
    simp only [cast]
    exact tupleClaim_ne_na a lv (fun fs lfs hfs => castTuple_nn ts h fs lfs hfs) ha
  | .map k v, h => fun a lv ha => by
    simp only [Target.namesOk, Bool.and_eq_true] at h
    simp only [cast]
    split
    · simp only [Arr.namesOk, Bool.and_eq_true] at ha
      exact andThenE_ne_na (claimStructAsMap_ne_none (mapKeyClaim_ne_na k) _ _ (fun c w hc => cast_nn v h.2 c w hc) ha.2)
        fun _ => must_ne_na _
    · simp only [Arr.namesOk, Bool.and_eq_true] at ha
      exact andThenE_ne_na (claimEntries_ne_none (fun w => cast_nn k h.1 _ w ha.1) (fun w => cast_nn v h.2 _ w ha.2) _)
        fun _ => must_ne_na _
    · exact mustFail_ne_na _
    · exact mustFail_ne_na _
  | .struct tfs, h => fun a lv ha => by
    simp only [Target.namesOk, Bool.and_eq_true] at h
    simp only [cast]
    exact structClaim_ne_na a lv h.1 (fun fs lfs hfs => castFields_nn tfs h.2 fs lfs hfs) ha
  | .enum byIndex vs, h => fun a lv ha => by
    simp only [Target.namesOk] at h
    simp only [cast]
    split
    · rename_i fs t v
      simp only [Arr.namesOk] at ha
      split
      · exact mustFail_ne_na _
      · rename_i fm child hfind
        have hc := findId_namesOk fs t fm child hfind ha
        split
        · exact castVariant_nn vs h _ _ child v hc
        · exact castVariant_nn vs h _ _ child v hc
    · split
      · exact castVariantStr_ne_na _ _
      · exact mustFail_ne_na _
    · exact mustFail_ne_na _
    · exact mustFail_ne_na _
  | .unit, _ => fun a lv _ => by simp only [cast]; exact castScalar_ne_na _ _ _
  | .unitStruct, _ => fun a lv _ => by simp only [cast]; exact castScalar_ne_na _ _ _
  | .bool, _ => fun a lv _ => by simp only [cast]; exact castScalar_ne_na _ _ _
  | .int ty, _ => fun a lv _ => by simp only [cast]; exact castScalar_ne_na _ _ _
  | .f32, _ => fun a lv _ => by simp only [cast]; exact castScalar_ne_na _ _ _
  | .f64, _ => fun a lv _ => by simp only [cast]; exact castScalar_ne_na _ _ _
  | .char, _ => fun a lv _ => by simp only [cast]; exact castScalar_ne_na _ _ _
  | .string, _ => fun a lv _ => by simp only [cast]; exact castScalar_ne_na _ _ _
  | .str, _ => fun a lv _ => by simp only [cast]; exact castScalar_ne_na _ _ _
  | .bytes, _ => fun a lv _ => by simp only [cast]; exact castScalar_ne_na _ _ _
  | .byteBuf, _ => fun a lv _ => by
    simp only [cast]
    split
    · exact andThenL_ne_na (claimVals_ne_none (fun v => castScalar_ne_na _ _ v) _) fun _ => must_ne_na _
    · exact castScalar_ne_na _ _ _
theorem castTuple_nn : ∀ (ts : Targets), ts.namesOk = true → ∀ (fs : ArrFields) (lfs : LFields), fs.namesOk = true →
    castTuple ts fs lfs ≠ .ok none
  | .nil, _, _, _, _ => by simp [castTuple]
  | .cons t rest, h, .cons fm a frest, .cons n v lrest, hfs => by
    simp only [Targets.namesOk, Bool.and_eq_true] at h
    simp only [ArrFields.namesOk, Bool.and_eq_true] at hfs
    simp only [castTuple]
    exact consClaim_ne_none (cast_nn t h.1 a v hfs.1) (castTuple_nn rest h.2 frest lrest hfs.2)
  | .cons _ _, _, .nil, _, _ => by simp [castTuple, fail]
  | .cons _ _, _, .cons _ _ _, .nil, _ => by simp [castTuple, fail]
theorem castFields_nn : ∀ (tfs : TFields), tfs.namesOk = true → ∀ (fs : ArrFields) (lfs : LFields), fs.namesOk = true →
    castFields tfs fs lfs ≠ .ok none
  | .nil, _, _, _, _ => by simp [castFields]
  | .cons n t rest, h, fs, lfs, hfs => by
    simp only [TFields.namesOk, Bool.and_eq_true] at h
    simp only [castFields]
    refine consClaim_ne_none ?_ (castFields_nn rest h.2 fs lfs hfs)
    show (match (match fieldNamed fs lfs n with
        | some (a, v) => cast t a v
        | none => if t.isOption then must .none else mustFail "missing field") with
      | .ok (some d) => .ok (some ((DVal.str .transient (strBytes n), d)))
      | .ok none => .ok none
      | .error e => .error e : R (Option (DVal × DVal))) ≠ .ok none
    have hhere : (match fieldNamed fs lfs n with
        | some (a, v) => cast t a v
        | none => if t.isOption then must .none else mustFail "missing field") ≠ na := by
      split
      · rename_i a v hf
        exact cast_nn t h.1 a v (fieldNamed_namesOk fs lfs n a v hf hfs)
      · split
        · exact must_ne_na _
        · exact mustFail_ne_na _
    exact wrapKey_ne_none _ _ hhere
theorem castVariant_nn : ∀ (vs : TVariants), vs.namesOk = true → ∀ (sel : Option Nat) (name : String) (child : Arr) (v : LVal),
    child.namesOk = true → castVariant vs sel name child v ≠ na
  | .nil, _, _, _, _, _, _ => by simp only [castVariant]; exact mustFail_ne_na _
  | .cons n k rest, h, sel, name, child, v, hc => by
    simp only [TVariants.namesOk, Bool.and_eq_true] at h
    simp only [castVariant]
    (repeat' split) <;> first
      | exact andThen_ne_na (castKind_nn k h.1 child v hc) fun _ => must_ne_na _
      | exact castVariant_nn rest h.2 _ name child v hc
theorem castKind_nn : ∀ (k : VKind), k.namesOk = true → ∀ (child : Arr) (v : LVal), child.namesOk = true →
    castKind k child v ≠ na
  | .unit, _, child, v, _ => by
    simp only [castKind]
    split
    · exact must_ne_na _
    · exact mustFail_ne_na _
  | .newtype t, h, child, v, hc => by
    simp only [VKind.namesOk] at h
    simp only [castKind]; exact cast_nn t h child v hc
  | .tuple ts, h, child, v, hc => by
    simp only [VKind.namesOk] at h
    simp only [castKind]
    exact tupleClaim_ne_na child v (fun fs lfs hfs => castTuple_nn ts h fs lfs hfs) hc
  | .struct tfs, h, child, v, hc => by
    simp only [VKind.namesOk, Bool.and_eq_true] at h
    simp only [castKind]
    exact structClaim_ne_na child v h.1 (fun fs lfs hfs => castFields_nn tfs h.2 fs lfs hfs) hc
end

end SaModel.Read
