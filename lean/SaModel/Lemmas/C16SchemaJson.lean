import SaModel.Lemmas.C09ParseForm
import SaModel.Lemmas.C16Dsl
/-
C16, schema side: the serde / JSON form of schemas (`schema/serde/deserialize.rs`: `CustomField`, `into_field`,
`merge_strategy_with_metadata`, the two top-level forms; `schema/strategy.rs`; `validate_field` of `schema/mod.rs`;
the printer's only failure) never unwinds — for EVERY abstract JSON value and every field tree.
-/
namespace SaModel.Lemmas.C16
open SaModel SaModel.Dsl SaModel.SchemaJson

theorem strategyParse_np (s : String) : (Strategy.parse s).isPanic = false := by
  unfold Strategy.parse
  repeat' split
  all_goals rfl

theorem getStrategyFromMetadata_np (m : Metadata) : (getStrategyFromMetadata m).isPanic = false := by
  unfold getStrategyFromMetadata
  split
  · rfl
  · exact bind_no_panic _ _ (strategyParse_np _) fun _ => rfl

theorem noStrategy_np (m : Metadata) : (noStrategy m).isPanic = false := by
  unfold noStrategy
  refine bind_no_panic _ _ (getStrategyFromMetadata_np m) fun v => ?_
  split <;> rfl

mutual
theorem validateField_np : ∀ (f : Field), (validateField f).isPanic = false
  | .mk _ dt _ m => by unfold validateField; exact validateDataType_np m dt
termination_by structural f => f
theorem validateDataType_np (m : Metadata) : ∀ (dt : DataType), (validateDataType m dt).isPanic = false
  | .null => by
    unfold validateDataType
    refine bind_no_panic _ _ (getStrategyFromMetadata_np m) fun v => ?_
    split <;> rfl
  | .fixedSizeBinary n => by
    unfold validateDataType
    split
    · rfl
    · exact noStrategy_np m
  | .time32 u => by
    unfold validateDataType
    refine bind_no_panic _ _ (noStrategy_np m) fun _ => ?_
    split <;> rfl
  | .time64 u => by
    unfold validateDataType
    refine bind_no_panic _ _ (noStrategy_np m) fun _ => ?_
    split <;> rfl
  | .struct fs => by
    unfold validateDataType
    refine bind_no_panic _ _ (getStrategyFromMetadata_np m) fun v => ?_
    simp only []
    split <;> first | exact validateFields_np fs | rfl
  | .map entry _ => by
    have ih := validateField_np entry
    unfold validateDataType
    refine bind_no_panic _ _ (noStrategy_np m) fun _ => ?_
    split
    · exact ih
    · rfl
  | .list f => by
    unfold validateDataType
    exact bind_no_panic _ _ (noStrategy_np m) fun _ => validateField_np f
  | .largeList f => by
    unfold validateDataType
    exact bind_no_panic _ _ (noStrategy_np m) fun _ => validateField_np f
  | .fixedSizeList f n => by
    unfold validateDataType
    split
    · rfl
    · exact bind_no_panic _ _ (noStrategy_np m) fun _ => validateField_np f
  | .union us _ => by
    unfold validateDataType
    exact bind_no_panic _ _ (noStrategy_np m) fun _ => validateUFields_np us
  | .dictionary k v => by
    unfold validateDataType
    refine bind_no_panic _ _ (noStrategy_np m) fun _ => ?_
    split
    · rfl
    · split <;> rfl
  | .interval _ => by unfold validateDataType; rfl
  | .runEndEncoded _ _ => by unfold validateDataType; rfl
  | .boolean | .int8 | .int16 | .int32 | .int64 | .uint8 | .uint16 | .uint32 | .uint64 | .float16 | .float32
  | .float64 | .utf8 | .largeUtf8 | .utf8View | .binary | .largeBinary | .binaryView | .date32 | .date64
  | .decimal128 _ _ | .duration _ | .timestamp _ _ => by
    unfold validateDataType; exact noStrategy_np m
termination_by structural dt => dt
theorem validateFields_np : ∀ (fs : Fields), (validateFields fs).isPanic = false
  | .nil => by unfold validateFields; rfl
  | .cons f r => by
    unfold validateFields
    exact bind_no_panic _ _ (validateField_np f) fun _ => validateFields_np r
termination_by structural fs => fs
theorem validateUFields_np : ∀ (us : UFields), (validateUFields us).isPanic = false
  | .nil => by unfold validateUFields; rfl
  | .cons _ f r => by
    unfold validateUFields
    exact bind_no_panic _ _ (validateField_np f) fun _ => validateUFields_np r
termination_by structural us => us
end

theorem mergeStrategyWithMetadata_np (m : Metadata) (s : Option Strategy) : (mergeStrategyWithMetadata m s).isPanic = false := by
  unfold mergeStrategyWithMetadata
  split
  · rfl
  · split <;> rfl

theorem printSchema_np (esc : Char → Bool) (fields : List Field) : (printSchema esc fields).isPanic = false := by
  unfold printSchema
  split <;> rfl

theorem metaOfObj_np : ∀ (o : JObj), (metaOfObj o).isPanic = false
  | .nil => by unfold metaOfObj; rfl
  | .cons k (.str v) r => by
    unfold metaOfObj
    exact bind_no_panic _ _ (metaOfObj_np r) fun _ => rfl
  | .cons _ .null _ | .cons _ (.bool _) _ | .cons _ (.num _) _ | .cons _ (.arr _) _ | .cons _ (.obj _) _ => by
    unfold metaOfObj; rfl

theorem parseStrategyOpt_np (v : Option JVal) : (parseStrategyOpt v).isPanic = false := by
  unfold parseStrategyOpt
  split
  · rfl
  · rfl
  · exact bind_no_panic _ _ (strategyParse_np _) fun _ => rfl
  · rfl

theorem intoField_np (pinned : Bool) (name : String) (dataType : Text) (nullable : Bool) (strategy : Option Strategy)
    (children : List Field) (metadata : Metadata) :
    (intoField pinned name dataType nullable strategy children metadata).isPanic = false := by
  unfold intoField
  refine bind_no_panic _ _ (buildDataTypeWith_np _ _ _) fun dt => ?_
  refine bind_no_panic _ _ (mergeStrategyWithMetadata_np _ _) fun md => ?_
  exact bind_no_panic _ _ (validateField_np _) fun _ => rfl

theorem getName_np (a : Option JVal) : (getName a).isPanic = false := by
  unfold getName; split <;> rfl
theorem getDataType_np (a : Option JVal) : (getDataType a).isPanic = false := by
  unfold getDataType; split <;> rfl
theorem getNullable_np (a : Option JVal) : (getNullable a).isPanic = false := by
  unfold getNullable; split <;> rfl
theorem getMetadata_np (a : Option JVal) : (getMetadata a).isPanic = false := by
  unfold getMetadata; split <;> first | rfl | exact metaOfObj_np _

mutual
/-- one field object (`CustomField::deserialize` + `into_field`): every JSON value -/
theorem parseFieldWith_np (pinned : Bool) : ∀ (v : JVal), (parseFieldWith pinned v).isPanic = false
  | .obj o => by
    have hc := parseChildrenWith_np pinned o
    rw [parseFieldWith_obj]
    split
    · rfl
    · exact bind_no_panic _ _ (getName_np _) fun _ => bind_no_panic _ _ (getDataType_np _) fun _ =>
        bind_no_panic _ _ (getNullable_np _) fun _ => bind_no_panic _ _ (parseStrategyOpt_np _) fun _ =>
        bind_no_panic _ _ (getMetadata_np _) fun _ => bind_no_panic _ _ hc fun _ => intoField_np _ _ _ _ _ _ _
  | .null | .bool _ | .num _ | .str _ | .arr _ => by unfold parseFieldWith; rfl
termination_by structural v => v
theorem parseChildrenWith_np (pinned : Bool) : ∀ (o : JObj), (parseChildrenWith pinned o).isPanic = false
  | .nil => by unfold parseChildrenWith; rfl
  | .cons k v r => by
    unfold parseChildrenWith
    split
    · cases v with
      | arr vs => exact parseFieldListWith_np pinned vs
      | _ => rfl
    · exact parseChildrenWith_np pinned r
termination_by structural o => o
theorem parseFieldListWith_np (pinned : Bool) : ∀ (vs : JVals), (parseFieldListWith pinned vs).isPanic = false
  | .nil => by unfold parseFieldListWith; rfl
  | .cons v r => by
    unfold parseFieldListWith
    exact bind_no_panic _ _ (parseFieldWith_np pinned v) fun _ =>
      bind_no_panic _ _ (parseFieldListWith_np pinned r) fun _ => rfl
termination_by structural vs => vs
end

theorem parseFieldsKeyWith_np (pinned : Bool) : ∀ (o : JObj), (parseFieldsKeyWith pinned o).isPanic = false
  | .nil => by unfold parseFieldsKeyWith; rfl
  | .cons k v r => by
    unfold parseFieldsKeyWith
    split
    · have hr := parseFieldsKeyWith_np pinned r
      simp only []
      repeat' first
        | (intro _)
        | exact np_pure _
        | exact np_fail _
        | exact hr
        | exact parseFieldListWith_np _ _
        | apply bind_no_panic
        | split
    · exact parseFieldsKeyWith_np pinned r

/-- `SerdeArrowSchema::deserialize`: every JSON value -/
theorem parseSchemaWith_np (pinned : Bool) (v : JVal) : (parseSchemaWith pinned v).isPanic = false := by
  unfold parseSchemaWith
  split
  · exact parseFieldListWith_np _ _
  · apply bind_no_panic
    · exact parseFieldsKeyWith_np _ _
    intro r
    split <;> rfl
  · rfl

theorem acceptForeign_np (f : Field) : (acceptForeign f).isPanic = false := by
  cases f
  unfold acceptForeign
  exact bind_no_panic _ _ (validateField_np _) fun _ => np_pure _

theorem acceptForeignList_np : ∀ (fs : List Field), (acceptForeignList fs).isPanic = false
  | [] => by unfold acceptForeignList; rfl
  | f :: r => by
    unfold acceptForeignList
    exact bind_no_panic _ _ (acceptForeign_np f) fun _ => bind_no_panic _ _ (acceptForeignList_np r) fun _ => np_pure _

end SaModel.Lemmas.C16
