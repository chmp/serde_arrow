import SaModel.Lemmas.C09Match
import SaModel.Lemmas.C16Basic
/-
C16, schema side: the data-type mini language (`utils/dsl.rs`: `Term::from_str`, the quoted-string scanner, the
accessors) and `build_data_type` (`schema/serde/deserialize.rs`) never unwind — for EVERY input text and every list of
children.  The 46-way string match of `build_data_type` is taken apart by `C09.buildDataTypeOfTerm_match_elim`.
-/
namespace SaModel.Lemmas.C16
open SaModel SaModel.Dsl

theorem np_ok {α} (v : α) : R.isPanic (Except.ok v : R α) = false := rfl
theorem np_pure {α} (v : α) : R.isPanic (pure v : R α) = false := rfl
theorem np_fail {α} (m : String) : R.isPanic (fail m : R α) = false := rfl

theorem pushChar_np (x : Char) (k : R (Text × Text)) (h : k.isPanic = false) : (pushChar x k).isPanic = false := by
  unfold pushChar
  split
  · rfl
  · exact h

theorem finishUnicode_np (code : Nat) (k : R (Text × Text)) (h : k.isPanic = false) :
    (finishUnicode code k).isPanic = false := by
  unfold finishUnicode
  split
  · exact pushChar_np _ _ h
  · rfl

theorem scanQuoted_np (m : QMode) (s : Text) : (scanQuoted m s).isPanic = false := by
  fun_induction scanQuoted m s <;> first | rfl | (apply pushChar_np; assumption) | (apply finishUnicode_np; assumption) | assumption

theorem scanQuotedPinned_np (s : Text) : (scanQuotedPinned s).isPanic = false := by
  fun_induction scanQuotedPinned s <;> first | rfl | (apply pushChar_np; assumption)

theorem parseIdentTermName_np (s : Text) : (parseIdentTermName s).isPanic = false := by
  unfold parseIdentTermName
  split <;> rfl

theorem parseTermName_np (pinned : Bool) (s : Text) : (parseTermName pinned s).isPanic = false := by
  unfold parseTermName
  split
  · simp only []
    split
    · exact bind_no_panic _ _ (scanQuotedPinned_np _) (fun v => rfl)
    · exact bind_no_panic _ _ (scanQuoted_np _ _) (fun v => rfl)
  · apply bind_no_panic
    · exact parseIdentTermName_np _
    · intro v; rfl

mutual
theorem parseTerm_np (pinned : Bool) : ∀ (f : Nat) (s : Text), (parseTerm pinned f s).isPanic = false
  | 0, _ => by unfold parseTerm; rfl
  | f + 1, s => by
    unfold parseTerm
    apply bind_no_panic
    · exact parseTermName_np _ _
    · intro v
      apply bind_no_panic
      · exact parseArguments_np pinned f _
      · intro w; rfl
theorem parseArguments_np (pinned : Bool) : ∀ (f : Nat) (s : Text), (parseArguments pinned f s).isPanic = false
  | 0, _ => by unfold parseArguments; rfl
  | f + 1, s => by
    unfold parseArguments
    split
    · apply bind_no_panic
      · exact parseArgLoop_np pinned f _
      · intro v
        simp only []
        split <;> rfl
    · rfl
theorem parseArgLoop_np (pinned : Bool) : ∀ (f : Nat) (s : Text), (parseArgLoop pinned f s).isPanic = false
  | 0, _ => by unfold parseArgLoop; rfl
  | f + 1, s => by
    unfold parseArgLoop
    apply bind_no_panic
    · exact parseTerm_np pinned f _
    · intro v
      simp only []
      split
      · apply bind_no_panic
        · exact parseArgLoop_np pinned f _
        · intro w; rfl
      · rfl
end

theorem fromStrWith_np (pinned : Bool) (s : Text) : (Term.fromStrWith pinned s).isPanic = false := by
  unfold Term.fromStrWith
  apply bind_no_panic
  · exact parseTerm_np _ _ _
  · intro v
    simp only []
    split
    · rfl
    · split <;> rfl

theorem asIdent_np (t : Term) : t.asIdent.isPanic = false := by
  unfold Term.asIdent; split <;> rfl
theorem asString_np (t : Term) : t.asString.isPanic = false := by
  unfold Term.asString; split <;> rfl
theorem asOption_np (t : Term) : t.asOption.isPanic = false := by
  unfold Term.asOption; split <;> first | rfl | (split <;> rfl)
theorem asCall_np (t : Term) : t.asCall.isPanic = false := by
  unfold Term.asCall; split <;> rfl

theorem parseDigits_np (ds : Text) : (parseDigits ds).isPanic = false := by
  unfold parseDigits; split <;> first | rfl | (split <;> rfl)

theorem parseIntLit_np (signed : Bool) (lo hi : Int) (s : Text) : (parseIntLit signed lo hi s).isPanic = false := by
  unfold parseIntLit
  have hjp : ∀ v : Int, (if lo ≤ v ∧ v ≤ hi then (pure v : R Int) else fail "number too large or too small to fit in target type").isPanic = false := by
    intro v; split <;> rfl
  simp only []
  split
  · exact bind_no_panic _ _ (parseDigits_np _) (fun _ => hjp _)
  · split
    · apply bind_no_panic
      · split
        · exact bind_no_panic _ _ (parseDigits_np _) (fun _ => rfl)
        · rfl
      · exact hjp
    · exact bind_no_panic _ _ (parseDigits_np _) (fun _ => hjp _)

theorem parseU8_np (s : Text) : (parseU8 s).isPanic = false :=
  bind_no_panic _ _ (parseIntLit_np _ _ _ _) (fun _ => rfl)
theorem parseI8_np (s : Text) : (parseI8 s).isPanic = false := parseIntLit_np _ _ _ _
theorem parseI32_np (s : Text) : (parseI32 s).isPanic = false := parseIntLit_np _ _ _ _

theorem parseUnit_np (s : Text) : (parseUnit s).isPanic = false := by
  unfold parseUnit; split <;> rfl

theorem unionChildren_np : ∀ (idx : Nat) (fs : List Field), (unionChildren idx fs).isPanic = false
  | _, [] => rfl
  | idx, f :: r => by
    unfold unionChildren
    simp only []
    split
    · rfl
    · exact bind_no_panic _ _ (unionChildren_np (idx + 1) r) (fun _ => rfl)

theorem buildDataTypeOfTerm_np (t : Term) (children : List Field) : (buildDataTypeOfTerm t children).isPanic = false := by
  unfold buildDataTypeOfTerm
  apply bind_no_panic
  · exact asCall_np t
  · intro v
    obtain ⟨name, args⟩ := v
    apply C09.buildDataTypeOfTerm_match_elim (fun r => r.isPanic = false)
    all_goals with_reducible first
      | (intros; exact np_pure _)
      | (intros; exact np_fail _)
      | (intros; split <;> first | exact np_pure _ | exact np_fail _)
      | (intros; exact bind_no_panic _ _ (unionChildren_np _ _) (fun _ => rfl))
      | (intros; exact bind_no_panic _ _ (asIdent_np _) fun _ => bind_no_panic _ _ (parseI32_np _) fun _ => rfl)
      | (intros; exact bind_no_panic _ _ (asIdent_np _) fun _ => bind_no_panic _ _ (parseUnit_np _) fun _ => rfl)
      | skip
    · intro a b _ _
      refine bind_no_panic _ _ (asIdent_np _) fun _ => bind_no_panic _ _ (parseUnit_np _) fun _ =>
        bind_no_panic _ _ (asOption_np _) fun o => ?_
      split
      · rfl
      · exact bind_no_panic _ _ (asString_np _) fun _ => rfl
    · intro a b _ _
      exact bind_no_panic _ _ (asIdent_np _) fun _ => bind_no_panic _ _ (parseU8_np _) fun _ =>
        bind_no_panic _ _ (asIdent_np _) fun _ => bind_no_panic _ _ (parseI8_np _) fun _ => rfl
    · intro a _ _
      split
      · exact bind_no_panic _ _ (asIdent_np _) fun _ => bind_no_panic _ _ (parseI32_np _) fun _ => rfl
      · rfl

theorem buildDataTypeWith_np (pinned : Bool) (dataType : Text) (children : List Field) :
    (buildDataTypeWith pinned dataType children).isPanic = false :=
  bind_no_panic _ _ (fromStrWith_np _ _) fun _ => buildDataTypeOfTerm_np _ _

end SaModel.Lemmas.C16
