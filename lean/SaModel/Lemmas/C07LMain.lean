import SaModel.Lemmas.C07LUnion
/-
C07, least-upper-bound argument — the induction over nested samples (`lub_any`: every sample, every option setting),
and its consequences for sample lists: what a successful run has absorbed stays absorbed, the result of a run is the
least tracer above the start that has absorbed every sample, hence two runs over the same SET of samples that both
succeed end in equivalent tracers (any order, any multiplicity — also under `allow_to_string`).
-/
namespace SaModel.Lemmas.C07
open SaModel SaModel.Trace SaModel.Props.C07

theorem lub_any (o : Options) (x : SVal) : Lub o x :=
  sample_induct o (lub_none o) lub_some lub_newtype lub_leaf Never.lub lub_seq lub_struct lub_map lub_tuple lub_union x

theorem lubL_any (o : Options) (xs : List SVal) : LubL o xs := lubL fun x _ => lub_any o x

/-- `u` has absorbed `x`: absorbing it again does not move `u` up -/
def Accepts (o : Options) (u : Tracer) (x : SVal) : Prop := ∃ b, absorb .fixed o u x = .ok b ∧ TLe o b u

theorem accepts_up {o : Options} {u b : Tracer} {x : SVal} (wu : WF o u) (wb : WF o b) (hub : TLe o u b)
    (h : Accepts o u x) : Accepts o b x := by
  obtain ⟨c, h1, h2⟩ := h
  exact (lub_any o x u b c wu wb hub h1).2.2 (TLe_trans h2 (absorb_wf o wu h1) wu wb hub)

theorem accepts_list {o : Options} : ∀ {xs : List SVal} {u : Tracer}, WF o u → (∀ x ∈ xs, Accepts o u x) →
    ∃ b, absorbAll .fixed o u xs = .ok b ∧ TLe o b u
  | [], u, wu, _ => ⟨u, rfl, TLe_refl o u wu⟩
  | x :: xs, u, wu, h => by
    obtain ⟨b1, h1, h2⟩ := h x (by simp)
    have wb1 := absorb_wf o wu h1
    have hub1 : TLe o u b1 := (lub_any o x u u b1 wu wu (TLe_refl o u wu) h1).1
    obtain ⟨b, h3, h4⟩ := accepts_list (xs := xs) wb1 (fun y hy => accepts_up wu wb1 hub1 (h y (by simp [hy])))
    exact ⟨b, absorbAll_cons_mk h1 h3, TLe_trans h4 (absorbAll_wf o wb1 h3) wb1 wu h2⟩

theorem run_le {o : Options} {xs : List SVal} {t a : Tracer} (wt : WF o t) (h : absorbAll .fixed o t xs = .ok a) :
    TLe o t a := (lubL_any o xs t t a wt wt (TLe_refl o t wt) h).1

theorem run_accepts {o : Options} : ∀ {ys : List SVal} {t t2 : Tracer}, WF o t → absorbAll .fixed o t ys = .ok t2 →
    ∀ y ∈ ys, Accepts o t2 y
  | [], _, _, _, _, y, hy => by cases hy
  | y0 :: r, t, t2, wt, h, y, hy => by
    obtain ⟨m, h1, h2⟩ := absorbAll_cons_ok h
    have wm := absorb_wf o wt h1
    have w2 := absorbAll_wf o wm h2
    rcases List.mem_cons.mp hy with rfl | hy'
    · have hm2 := run_le wm h2
      have ht2 := TLe_trans (lub_any o y t t m wt wt (TLe_refl o t wt) h1).1 wt wm w2 hm2
      exact (lub_any o y t t2 m wt w2 ht2 h1).2.2 hm2
    · exact run_accepts wm h2 y hy'

theorem same_set_le {o : Options} {xs ys : List SVal} {t t1 t2 : Tracer} (wt : WF o t)
    (h1 : absorbAll .fixed o t xs = .ok t1) (h2 : absorbAll .fixed o t ys = .ok t2) (hsub : ∀ x ∈ xs, x ∈ ys) :
    TLe o t1 t2 := by
  have w1 := absorbAll_wf o wt h1
  have w2 := absorbAll_wf o wt h2
  obtain ⟨b, hb, hle⟩ := accepts_list w2 (fun x hx => run_accepts wt h2 x (hsub x hx))
  have := (lubL_any o xs t t2 t1 wt w2 (run_le wt h2) h1).2.1 b hb
  exact TLe_trans this w1 (absorbAll_wf o w2 hb) w2 hle

theorem eqv_of_le {o : Options} {a b : Tracer} (wa : WF o a) (wb : WF o b) (h1 : TLe o a b) (h2 : TLe o b a) : Eqv a b :=
  ⟨TLe_antisymm h1 wa wb h2, TLe_antisymm h2 wb wa h1⟩

theorem same_set_eqv {o : Options} {xs ys : List SVal} {t t1 t2 : Tracer} (wt : WF o t)
    (h1 : absorbAll .fixed o t xs = .ok t1) (h2 : absorbAll .fixed o t ys = .ok t2) (hset : ∀ x, x ∈ xs ↔ x ∈ ys) :
    Eqv t1 t2 :=
  eqv_of_le (absorbAll_wf o wt h1) (absorbAll_wf o wt h2) (same_set_le wt h1 h2 fun x hx => (hset x).mp hx)
    (same_set_le wt h2 h1 fun x hx => (hset x).mpr hx)

theorem run_again {o : Options} {xs : List SVal} {t t1 : Tracer} (wt : WF o t)
    (h1 : absorbAll .fixed o t xs = .ok t1) : ∃ b, absorbAll .fixed o t1 xs = .ok b ∧ Eqv b t1 := by
  have w1 := absorbAll_wf o wt h1
  obtain ⟨b, hb, hle⟩ := accepts_list w1 (run_accepts wt h1)
  exact ⟨b, hb, eqv_of_le (absorbAll_wf o w1 hb) w1 hle (run_le w1 hb)⟩

/-! ### repetition: a sample that has been absorbed is absorbed again without changing the tracer (up to the
equivalence).  This is the least-upper-bound law on a one-element run (`run_again`), so it holds for every option
setting. -/

/-- absorbing `x` into `t` succeeds and changes nothing (up to the equivalence) -/
def Absorbed (o : Options) (t : Tracer) (x : SVal) : Prop := ∃ b, absorb .fixed o t x = .ok b ∧ Eqv b t

/-- `x` is absorbed by every tracer it has been absorbed into -/
def Idem (o : Options) (x : SVal) : Prop := ∀ t t', WF o t → absorb .fixed o t x = .ok t' → Absorbed o t' x

theorem absorbed_again {o : Options} {t t' : Tracer} {x : SVal} (hw : WF o t) (h : absorb .fixed o t x = .ok t') :
    Absorbed o t' x := by
  obtain ⟨b, hb, he⟩ := run_again (xs := [x]) hw (absorbAll_cons_mk h rfl)
  obtain ⟨m, h1, h2⟩ := absorbAll_cons_ok hb
  cases h2
  exact ⟨b, h1, he⟩

theorem idem_any {o : Options} (hno : o.allow_to_string = false) (x : SVal) : Idem o x :=
  fun _ _ hw h => absorbed_again hw h

end SaModel.Lemmas.C07
