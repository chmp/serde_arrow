import SaModel.Lemmas.ReadSlot
import SaModel.Read.Cast
/-
C02, `deserialize_any`: what `is_some` answers on a decoded slot (`isSome_of_decode`), and the mutual structural recursion
over `Arr` / `ArrFields` / `ArrUFields` behind `Props.C02.read_any_decode` (in a lemma file so that the typed-read lemmas
can use it); the container arms open their slot through Lemmas/ReadSlot.lean.
-/
namespace SaModel.Read
open SaModel SaModel.Spec

/-! ### dictionary -/

/-- what `is_some` and `get_str` of a dictionary column return on a slot whose Arrow reading is defined: the key through
`prim_get`, the value slot it designates through `bytes_get` -/
theorem dict_get {ks vs : Arr} {i : Nat} {lv : LVal} (h : decodeAt (.dictionary ks vs) i = .ok lv)
    (hn : new Fixes.all (.dictionary ks vs) = .ok ()) (hp : physical (.dictionary ks vs) = true) (hu : utf8Ok lv = true) :
    (lv = .null ∧ isSome Fixes.all (.dictionary ks vs) i = .ok false) ∨
      (∃ b, lv = .str b ∧ isSome Fixes.all (.dictionary ks vs) i = .ok true ∧ dictGetStr Fixes.all ks vs i = .ok b) := by
  obtain ⟨kty, kv, kvals, vty, voffs, vdata, rfl, rfl, hki, hvu⟩ := new_dictionary_inv hn
  unfold decodeAt at h
  split at h
  · obtain ⟨klv, hk, h⟩ := bind_ok_inv h
    rcases prim_get hk with ⟨rfl, hg⟩ | ⟨rfl, hg⟩
    · cases h
      exact .inl ⟨rfl, by simp only [isSome, hg]; rfl⟩
    · have hleaf : leafOf kty (kvals.getD i 0) = .int (kvals.getD i 0) := by cases kty <;> first | rfl | cases hki
      rw [hleaf] at h
      dsimp only at h
      split at h
      · rename_i hx0
        have hj : (kvals.getD i 0).toNat < voffs.length - 1 := by
          unfold decodeAt at h
          exact (guarded_inv h).1
        have hx : ¬ (kvals.getD i 0 > i64Max) := by
          have : voffs.length - 1 ≤ 9223372036854775807 := by simpa [physical, lenOf, i64Max] using hp
          simp only [i64Max]; omega
        rcases bytes_get h hu with ⟨rfl, hb⟩ | ⟨b, rfl, hb⟩
        · unfold decodeAt at h
          rcases (guarded_inv h).2 with ⟨hv, _⟩ | ⟨_, hpay⟩
          · cases hv
          · dsimp only at hpay; split at hpay <;> first | cases hpay | (cases hvu' : isUtf8Ty vty <;> simp [bytesVal, hvu'] at hpay)
        · unfold bytesColGet at hb
          rw [if_pos hvu] at hb
          refine .inr ⟨b, by simp only [bytesVal, hvu, if_true], by simp only [isSome, hg]; rfl, ?_⟩
          simp only [dictGetStr, getRequired, hg, bind, Except.bind, pure, Except.pure, hx, if_false,
            tryIntoUsize_nonneg hx0, hb]
      · cases h
  · cases h

theorem dictionary_case (ks vs : Arr) (i : Nat) (lv : LVal) (h : decodeAt (.dictionary ks vs) i = .ok lv)
    (hn : new Fixes.all (.dictionary ks vs) = .ok ()) (hp : physical (.dictionary ks vs) = true) (hu : utf8Ok lv = true) :
    readAny Fixes.all (.dictionary ks vs) i = .ok (toD (.dictionary ks vs) lv) := by
  unfold readAny
  rcases dict_get h hn hp hu with ⟨rfl, hs⟩ | ⟨b, rfl, hs, hg⟩
  · rw [anyAt_of_isSome hs]; rfl
  · rw [anyAt_of_isSome hs]
    simp only [if_true, readAnySome, hg]
    rfl

/-! ### dense unions -/

theorem go_spec : ∀ (ids : List Int) (t : Int) (k p : Nat), indexOfTypeId.go t ids k = some p → k ≤ p ∧ ids[p - k]? = some t
  | [], _, _, _, h => by simp [indexOfTypeId.go] at h
  | x :: xs, t, k, p, h => by
    unfold indexOfTypeId.go at h
    split at h
    · rename_i hx
      cases h
      simp only [beq_iff_eq] at hx
      simp [hx]
    · obtain ⟨h1, h2⟩ := go_spec xs t (k + 1) p h
      refine ⟨by omega, ?_⟩
      have : p - k = (p - (k + 1)) + 1 := by omega
      rw [this, List.getElem?_cons_succ]
      exact h2

/-- what the reader checks of the first field of a dense union: the next consecutive type id, the child, the rest -/
theorem newUFields_cons {tid : Int} {fm : FieldMeta} {a : Arr} {rest : ArrUFields} {k : Nat}
    (h : newUFields Fixes.all (.cons tid fm a rest) k = .ok ()) :
    tid = Int.ofNat k ∧ new Fixes.all a = .ok () ∧ newUFields Fixes.all rest (k + 1) = .ok () := by
  unfold newUFields at h
  split at h
  · cases h
  · rename_i htid
    obtain ⟨_, _, h⟩ := bind_ok_inv h
    obtain ⟨⟨⟩, ha, h⟩ := bind_ok_inv h
    exact ⟨Decidable.of_not_not htid, ha, h⟩

theorem ids_consecutive : ∀ (fs : ArrUFields) (k : Nat), newUFields Fixes.all fs k = .ok () →
    ∀ p t, (ArrUFields.ids fs)[p]? = some t → t = ((k + p : Nat) : Int) ∧ p < fs.length
  | .nil, _, _, p, t, h => by simp [ArrUFields.ids] at h
  | .cons tid fm a rest, k, hn, p, t, h => by
    obtain ⟨htid, _, hn⟩ := newUFields_cons hn
    simp only [ArrUFields.ids] at h
    cases p with
    | zero =>
      simp only [List.getElem?_cons_zero, Option.some.injEq] at h
      subst h
      simp [htid, ArrUFields.length]
    | succ p =>
      simp only [List.getElem?_cons_succ] at h
      obtain ⟨h1, h2⟩ := ids_consecutive rest (k + 1) hn p t h
      refine ⟨by rw [h1]; congr 1; omega, by simp [ArrUFields.length]; omega⟩

theorem findId_consecutive : ∀ (fs : ArrUFields) (k pos : Nat) (fm : FieldMeta) (child : Arr),
    newUFields Fixes.all fs k = .ok () → ArrUFields.nth fs pos = some (fm, child) →
    ArrUFields.findId fs ((k + pos : Nat) : Int) = some (fm, child)
  | .nil, _, _, _, _, _, h => by simp [ArrUFields.nth] at h
  | .cons tid fm0 a rest, k, pos, fm, child, hn, h => by
    obtain ⟨htid', _, hn⟩ := newUFields_cons hn
    cases pos with
    | zero =>
      simp only [ArrUFields.nth, Option.some.injEq] at h
      simp [ArrUFields.findId, htid', h]
    | succ pos =>
      simp only [ArrUFields.nth] at h
      have ih := findId_consecutive rest (k + 1) pos fm child hn h
      have hne : (tid == ((k + (pos + 1) : Nat) : Int)) = false := by
        rw [htid']; simp; omega
      simp only [ArrUFields.findId, hne, Bool.false_eq_true, if_false]
      have : ((k + (pos + 1) : Nat) : Int) = ((k + 1 + pos : Nat) : Int) := by congr 1; omega
      rw [this]; exact ih

/-! ### the containers -/

theorem anyAt_eq_readAny (a : Arr) (i : Nat) : anyAt Fixes.all a (readAnySome Fixes.all a) i = readAny Fixes.all a i := rfl

/-- what a defined slot of a dense union is, and how the reader selects it -/
theorem union_slot {types : List Int} {offs : Option (List Int)} {fs : ArrUFields} {i : Nat} {lv : LVal}
    (h : decodeAt (.union types offs fs) i = .ok lv) (hn : new Fixes.all (.union types offs fs) = .ok ()) :
    ∃ (pos off : Nat) (w : LVal), lv = .union (pos : Int) w ∧
      unionSelect Fixes.all types offs fs.length i = .ok (pos, off) ∧ decodeVariantAt fs pos off = .ok w ∧
      newUFields Fixes.all fs 0 = .ok () ∧ i < types.length ∧
      ∀ fm child, ArrUFields.nth fs pos = some (fm, child) → ArrUFields.findId fs (pos : Int) = some (fm, child) := by
  unfold new at hn
  split at hn
  · cases hn
  · rename_i o
    split at hn
    · cases hn
    · rename_i hlen
      have hlen' : types.length = o.length := by
        by_cases hh : types.length = o.length
        · exact hh
        · exact absurd hh (by simpa using hlen)
      unfold decodeAt at h
      split at h
      · rename_i hi
        try simp only at h
        split at h
        · cases h
        · rename_i pos hpos
          try simp only at h
          split at h
          · rename_i hc
            obtain ⟨w, hw, h⟩ := bind_ok_inv h
            cases h
            unfold indexOfTypeId at hpos
            obtain ⟨_, hget⟩ := go_spec _ _ _ _ hpos
            simp only [Nat.sub_zero] at hget
            obtain ⟨ht, hposlt⟩ := ids_consecutive fs 0 hn pos _ hget
            simp only [Nat.zero_add] at ht
            have hio : i < o.length := hc.1
            have hsel : unionSelect Fixes.all types (some o) fs.length i = .ok (pos, (o.getD i (-1)).toNat) := by
              unfold unionSelect
              have h1 : ¬ i ≥ types.length := by omega
              have h2 : ¬ types.length ≠ o.length := by omega
              rw [getD_of_lt _ _ _ hi] at ht
              have h3 : 0 ≤ types[i] ∧ types[i].toNat < fs.length := by rw [ht]; constructor <;> omega
              have h4 : types[i].toNat = pos := by rw [ht]; simp
              have hoff : 0 ≤ o[i] := by
                have := hc.2
                rwa [getD_of_lt _ _ _ hio] at this
              simp only [h1, if_false, h2, List.getElem?_eq_getElem hi, List.getElem?_eq_getElem hio,
                getD_of_lt _ _ _ hio, bind, Except.bind, tryIntoUsize_nonneg hoff, h3, and_self, if_true, h4,
                hposlt, pure, Except.pure]
            refine ⟨pos, _, w, by rw [ht], hsel, hw, hn, hi, fun fm child hnth => ?_⟩
            have hfind := findId_consecutive fs 0 pos fm child hn hnth
            simp only [Nat.zero_add] at hfind
            exact hfind
          · cases h
      · cases h

theorem isSome_of_decode (a : Arr) (i : Nat) (lv : LVal) (h : decodeAt a i = .ok lv)
    (hn : new Fixes.all a = .ok ()) (hp : physical a = true) (hu : utf8Ok lv = true) :
    isSome Fixes.all a i = .ok (!LVal.isNull lv) := by
  cases a with
  | null len =>
    obtain ⟨rfl, hc⟩ := null_get h
    simp only [isSome, hc]; rfl
  | boolean len v vals =>
    rcases bool_get h with ⟨rfl, hg⟩ | ⟨b, rfl, hg⟩ <;> simp only [isSome, optIsSome_ok hg] <;> rfl
  | prim ty v vals =>
    rcases prim_get h with ⟨rfl, hg⟩ | ⟨rfl, hg⟩
    · simp only [isSome, optIsSome_ok hg]; rfl
    · simp only [isSome, optIsSome_ok hg]; cases ty <;> rfl
  | time ty u v vals =>
    rcases time_get h with ⟨rfl, hg⟩ | ⟨rfl, hg⟩ <;> simp only [isSome, optIsSome_ok hg] <;> rfl
  | timestamp u tz v vals =>
    rcases timestamp_get h with ⟨rfl, hg⟩ | ⟨rfl, hg⟩ <;> simp only [isSome, optIsSome_ok hg] <;> rfl
  | decimal128 p s v vals =>
    rcases decimal_get h with ⟨rfl, hg⟩ | ⟨rfl, hg⟩ <;> simp only [isSome, optIsSome_ok hg] <;> rfl
  | bytes ty v offs data =>
    rcases bytes_get h hu with ⟨rfl, hg⟩ | ⟨b, rfl, hg⟩
    · simp only [isSome, optIsSome_ok hg]; rfl
    · simp only [isSome, optIsSome_ok hg, bytesVal]; split <;> rfl
  | bytesView ty v views buffers =>
    rcases view_get h hu with ⟨rfl, hg⟩ | ⟨b, rfl, hg⟩
    · simp only [isSome, optIsSome_ok hg]; rfl
    · simp only [isSome, optIsSome_ok hg, bytesVal]; split <;> rfl
  | fixedSizeBinary n v data =>
    rcases fsb_get h hn with ⟨rfl, hg⟩ | ⟨b, rfl, hg⟩ <;> simp only [isSome, optIsSome_ok hg] <;> rfl
  | struct len v fs => rcases (struct_inv h).2 with ⟨rfl, hs⟩ | ⟨vals, _, rfl, hs⟩ <;> rw [hs] <;> rfl
  | list lg v offs fm el => rcases (list_inv h).2 with ⟨rfl, hs⟩ | ⟨xs, _, rfl, hs⟩ <;> rw [hs] <;> rfl
  | fixedSizeList len v n fm el => rcases (fsl_inv h).2 with ⟨rfl, hs⟩ | ⟨xs, _, _, rfl, hs⟩ <;> rw [hs] <;> rfl
  | map v offs mm ks vs => rcases (map_inv h).2 with ⟨rfl, hs⟩ | ⟨kxs, wxs, _, _, rfl, hs⟩ <;> rw [hs] <;> rfl
  | dictionary ks vs =>
    rcases dict_get h hn hp hu with ⟨rfl, hs⟩ | ⟨b, rfl, hs, _⟩ <;> rw [hs] <;> rfl
  | union types offs fs =>
    obtain ⟨pos, off, w, rfl, _, _, _, hi, _⟩ := union_slot h hn
    simp only [isSome, show ¬ i ≥ types.length by omega, if_false]
    rfl

mutual
theorem readAny_decodeAt : ∀ (a : Arr) (i : Nat) (lv : LVal),
    decodeAt a i = .ok lv → new Fixes.all a = .ok () → physical a = true → utf8Ok lv = true →
    readAny Fixes.all a i = .ok (toD a lv)
  | .null _ => fun _ _ h _ _ _ => null_case h
  | .boolean _ _ _ => fun _ _ h _ _ _ => boolean_case h
  | .prim _ _ _ => fun _ _ h _ _ _ => prim_case h
  | .time _ _ _ _ => fun _ _ h _ _ _ => time_case h
  | .timestamp _ _ _ _ => fun _ _ h _ _ _ => timestamp_case h
  | .decimal128 _ _ _ _ => fun _ _ h _ _ _ => decimal_case h
  | .bytes _ _ _ _ => fun _ _ h _ _ hu => bytes_case h hu
  | .bytesView _ _ _ _ => fun _ _ h _ _ hu => view_case h hu
  | .fixedSizeBinary _ _ _ => fun _ _ h hn _ _ => fsb_case h hn
  | .struct len v fs => by
    intro i lv h hn hp hu
    unfold readAny; rw [anyAt_of_isSome (isSome_of_decode _ i lv h hn hp hu)]
    have hlt : ¬ i ≥ len := by have := (struct_inv h).1; omega
    obtain ⟨_, rfl | ⟨vals, rfl, sf⟩⟩ := (Slot.mk h hn hp hu).struct
    · simp [toD, LVal.isNull]
    · have hf := readAnyFields_decodeAt fs i vals sf
      simp only [LVal.isNull, Bool.not_false, if_true, readAnySome, hlt, if_false, hf, toD]
      rfl
  | .list lg v offs fm el => by
    intro i lv h hn hp hu
    unfold readAny; rw [anyAt_of_isSome (isSome_of_decode _ i lv h hn hp hu)]
    rcases (Slot.mk h hn hp hu).list with rfl | ⟨xs, s, e, rfl, hrange, hseq, hel⟩
    · simp [toD, LVal.isNull]
    · have hr : readRange (anyAt Fixes.all el (readAnySome Fixes.all el)) s (e - s) = .ok (xs.map (toD el)) :=
        readRange_of_seqAt (g := readAny Fixes.all el) (h := toD el) (P := (· ∈ xs))
          (fun j v hj hv => have sv := hel j v hj hv; readAny_decodeAt el j v sv.dec sv.new sv.phys sv.utf8) _ _ xs hseq
          fun _ h => h
      simp only [LVal.isNull, Bool.not_false, if_true, readAnySome, hrange, bind, Except.bind, hr, toD, toDList_ofList, pure,
        Except.pure]
  | .fixedSizeList len v n fm el => by
    intro i lv h hn hp hu
    unfold readAny; rw [anyAt_of_isSome (isSome_of_decode _ i lv h hn hp hu)]
    rcases (Slot.mk h hn hp hu).fixedSizeList with rfl | ⟨xs, s, e, rfl, hrange, hseq, hel⟩
    · simp [toD, LVal.isNull]
    · have hr : readRange (anyAt Fixes.all el (readAnySome Fixes.all el)) s (e - s) = .ok (xs.map (toD el)) :=
        readRange_of_seqAt (g := readAny Fixes.all el) (h := toD el) (P := (· ∈ xs))
          (fun j v hj hv => have sv := hel j v hj hv; readAny_decodeAt el j v sv.dec sv.new sv.phys sv.utf8) _ _ xs hseq
          fun _ h => h
      simp only [LVal.isNull, Bool.not_false, if_true, readAnySome, hrange, bind, Except.bind, hr, toD, toDList_ofList, pure,
        Except.pure]
  | .map v offs mm ks vs => by
    intro i lv h hn hp hu
    unfold readAny; rw [anyAt_of_isSome (isSome_of_decode _ i lv h hn hp hu)]
    rcases (Slot.mk h hn hp hu).map with rfl | ⟨kxs, wxs, s, e, rfl, hrange, hkseq, hwseq, hks, hvs⟩
    · simp [toD, LVal.isNull]
    · have hr := readRange_pairs_of_seqAt (g1 := readAny Fixes.all ks) (g2 := readAny Fixes.all vs)
        (h1 := toD ks) (h2 := toD vs) (P1 := (· ∈ kxs)) (P2 := (· ∈ wxs))
        (fun j v hj hv => have sv := hks j v hj hv; readAny_decodeAt ks j v sv.dec sv.new sv.phys sv.utf8)
        (fun j v hj hv => have sv := hvs j v hj hv; readAny_decodeAt vs j v sv.dec sv.new sv.phys sv.utf8)
        _ _ kxs wxs hkseq hwseq (fun _ h => h) fun _ h => h
      have hr' : readRange (fun j => do
            let k ← anyAt Fixes.all ks (readAnySome Fixes.all ks) j
            let v ← anyAt Fixes.all vs (readAnySome Fixes.all vs) j
            pure (k, v)) s (e - s) = .ok ((kxs.zip wxs).map fun (k, w) => (toD ks k, toD vs w)) := hr
      simp only [bind, Except.bind, pure, Except.pure] at hr'
      simp only [LVal.isNull, Bool.not_false, if_true, readAnySome, hrange, bind, Except.bind, hr', toD, toDEntries_ofList,
        pure, Except.pure]
  | .dictionary ks vs => by
    intro i lv h hn hp hu
    exact dictionary_case ks vs i lv h hn hp hu
  | .union types offs fs => by
    intro i lv h hn hp hu
    unfold readAny; rw [anyAt_of_isSome (isSome_of_decode _ i lv h hn hp hu)]
    obtain ⟨pos, off, w, rfl, hsel, hw, hnu, _, hfind⟩ := union_slot h hn
    unfold physical at hp
    simp only [utf8Ok] at hu
    obtain ⟨fm, child, hnth, hread⟩ := readAnyVariant_decodeAt fs 0 pos off w hw hnu hp hu
    simp only [LVal.isNull, Bool.not_false, if_true, readAnySome, hsel, bind, Except.bind, hread, toD]
    rw [hfind fm child hnth]
theorem readAnyVariant_decodeAt : ∀ (fs : ArrUFields) (k pos j : Nat) (v : LVal),
    decodeVariantAt fs pos j = .ok v → newUFields Fixes.all fs k = .ok () → physicalUFields fs = true →
    utf8Ok v = true →
    ∃ fm child, ArrUFields.nth fs pos = some (fm, child) ∧
      readAnyVariant Fixes.all fs pos j = .ok (.enum (.str .transient (strBytes fm.name)) (toD child v))
  | .nil, _, _, _, _, h, _, _, _ => by unfold decodeVariantAt at h; cases h
  | .cons tid fm a rest, k, 0, j, v, h, hn, hp, hu => by
    unfold decodeVariantAt at h
    unfold physicalUFields at hp
    simp only [Bool.and_eq_true] at hp
    refine ⟨fm, a, by simp [ArrUFields.nth], ?_⟩
    unfold readAnyVariant
    rw [anyAt_eq_readAny, readAny_decodeAt a j v h (newUFields_cons hn).2.1 hp.1 hu]
    rfl
  | .cons tid fm a rest, k, pos + 1, j, v, h, hn, hp, hu => by
    unfold decodeVariantAt at h
    unfold physicalUFields at hp
    simp only [Bool.and_eq_true] at hp
    obtain ⟨fm', child, hnth, hr⟩ := readAnyVariant_decodeAt rest (k + 1) pos j v h (newUFields_cons hn).2.2 hp.2 hu
    refine ⟨fm', child, by simp [ArrUFields.nth, hnth], ?_⟩
    unfold readAnyVariant
    exact hr
theorem readAnyFields_decodeAt : ∀ (fs : ArrFields) (i : Nat) (vals : List (String × LVal)), SlotFields fs i vals →
    readAnyFields Fixes.all fs i = .ok (toDFields fs (LFields.ofList vals))
  | .nil, _, _, h => by
    have h := h.dec
    unfold decodeFieldsAt at h; cases h
    simp [readAnyFields, LFields.ofList, toDFields]
  | .cons fm a rest, i, vals, h => by
    obtain ⟨v, r, rfl, sa, sr⟩ := h.cons
    have h1 := readAny_decodeAt a i v sa.dec sa.new sa.phys sa.utf8
    have h2 := readAnyFields_decodeAt rest i r sr
    unfold readAnyFields
    rw [anyAt_eq_readAny, h1, h2]
    simp [LFields.ofList, toDFields]
    rfl
end

end SaModel.Read
