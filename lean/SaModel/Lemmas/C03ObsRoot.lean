import SaModel.Props.C03
import SaModel.Lemmas.C03Total
/-
Root-level assembly of the physical layer for the weak state invariant `WFH` (no `Safe`).  The refinement facts about the
final builder state (`WFH root`, determinedness of the root columns) are HYPOTHESES here; everything else is derived
(from `Props.C03.C03_wf_of_rootH` / `toMarrow_decode_of_rootH`, which take `BuiltFor`, `Sound`, `WFX` of the final state):

  newRoot_PlaceholderOK      the fresh root of a covered schema is `PlaceholderOK`
  runRows_PlaceholderOK_of_covered   … and so is every later state (`runRows_builtFor`)
  root_factsH                `BuiltFor`, `Sound`, `PX` of the final state from `WFH` + `PlaceholderOK`
  C03_wf_of_WFH, toMarrow_decode_of_WFH   the two theorems with only the refinement facts left as hypotheses
-/
namespace SaModel.Lemmas.C03
open SaModel SaModel.Build SaModel.Spec

theorem coveredF_iff (f : Field) : coveredF f = covered f.dataType := by
  cases f; simp only [coveredF, Field.dataType]

theorem intLeaf_PlaceholderOK (idx : B) (h : isIntLeaf idx = true) : PlaceholderOK idx := by
  cases idx with
  | leaf p kind v vals => simp only [PlaceholderOK]
  | _ => simp [isIntLeaf] at h

/-- the builder of a Utf8 / LargeUtf8 field is a Utf8 / LargeUtf8 bytes builder -/
theorem strDT_builtFor_bytes (b : B) (vdt : DataType) (nl : Bool) (hv : isStrDT vdt = true) (hb : BuiltFor vdt nl b) :
    ∃ p ty v offs data, b = .bytes p ty v offs data ∧ isUtf8Ty ty = true ∧ v.isSome = nl := by
  cases b with
  | bytes p ty v offs data =>
    simp only [BuiltFor] at hb
    obtain ⟨rfl, hn⟩ := hb
    exact ⟨p, ty, v, offs, data, rfl, (by cases ty <;> first | rfl | cases hv), hn⟩
  | leaf p kind v vals =>
    simp only [BuiltFor] at hb
    obtain ⟨rfl, _⟩ := hb
    cases kind with
    | int t => cases t <;> simp [leafDT, intDT, isStrDT] at hv
    | _ => simp [leafDT, isStrDT] at hv
  | null p len | unknownVariant p => simp only [BuiltFor] at hb; subst hb; simp [isStrDT] at hv
  | bytesView p ty v views buf =>
    simp only [BuiltFor] at hb; obtain ⟨rfl, _⟩ := hb; cases ty <;> simp [viewDT, isStrDT] at hv
  | fixedSizeBinary p n len v buf cur =>
    simp only [BuiltFor] at hb; obtain ⟨rfl, _⟩ := hb; simp [isStrDT] at hv
  | list p large fm v offs el =>
    simp only [BuiltFor] at hb; obtain ⟨f, rfl, _⟩ := hb; cases large <;> simp [isStrDT] at hv
  | fixedSizeList p fm n len v cur el =>
    simp only [BuiltFor] at hb; obtain ⟨f, rfl, _⟩ := hb; simp [isStrDT] at hv
  | map p mm v offs ks vs =>
    simp only [BuiltFor] at hb; obtain ⟨_, _, _, _, _, _, rfl, _⟩ := hb; simp [isStrDT] at hv
  | struct p len v fs c n s =>
    simp only [BuiltFor] at hb; obtain ⟨_, rfl, _⟩ := hb; simp [isStrDT] at hv
  | dictionary p idx vals index =>
    simp only [BuiltFor] at hb; obtain ⟨_, _, rfl, _⟩ := hb; simp [isStrDT] at hv
  | union p fs t o c =>
    simp only [BuiltFor] at hb; obtain ⟨_, _, rfl, _⟩ := hb; simp [isStrDT] at hv

theorem intLeaf_PlaceholderStr (idx : B) (h : isIntLeaf idx = true) : PlaceholderStr idx := by
  cases idx with
  | leaf p kind v vals => simp only [PlaceholderStr]
  | _ => simp [isIntLeaf] at h

/-- the value builder of a `Dictionary(_, Utf8 | LargeUtf8)` is a non-nullable string builder: it has a placeholder row and takes
strings -/
theorem strDT_builtFor (b : B) (vdt : DataType) (hv : isStrDT vdt = true) (hb : BuiltFor vdt false b) :
    placeholderVals b ≠ [] ∧ isStrB b = true ∧ PlaceholderOK b ∧ PlaceholderStr b := by
  obtain ⟨p, ty, v, offs, data, rfl, hu, hn⟩ := strDT_builtFor_bytes b vdt false hv hb
  cases v with
  | some bits => cases hn
  | none => exact ⟨by simp [placeholderVals], hu, by simp only [PlaceholderOK], by simp only [PlaceholderStr]⟩

/-- one walk for the two facts a `covered` data type gives about its builder: the value builder of every dictionary with
non-nullable keys has a placeholder row (`PlaceholderOK`) and takes strings (`PlaceholderStr`) -/
theorem Placeholder_cases : BuiltForCases (fun dt _ b => covered dt = true → PlaceholderOK b ∧ PlaceholderStr b)
    (fun fs bl => coveredFs fs = true → PlaceholderOKL bl ∧ PlaceholderStrL bl)
    (fun ufs bl _ => coveredU ufs = true → PlaceholderOKL bl ∧ PlaceholderStrL bl) where
  null _ := ⟨trivial, trivial⟩
  unknownVariant _ := ⟨trivial, trivial⟩
  leaf _ := ⟨trivial, trivial⟩
  bytes _ := ⟨trivial, trivial⟩
  bytesView _ := ⟨trivial, trivial⟩
  fixedSizeBinary _ := ⟨trivial, trivial⟩
  list _ ih hc := ih hc
  largeList _ ih hc := ih hc
  fixedSizeList _ ih hc := ih hc
  map _ ihk _ ihv hc := by
    simp only [covered, coveredF, coveredFs, Bool.and_true, Bool.and_eq_true] at hc
    exact ⟨⟨(ihk hc.1).1, (ihv hc.2).1⟩, (ihk hc.1).2, (ihv hc.2).2⟩
  struct _ ih hc := ih hc
  dictionary hk hbi _ hbv _ hc := by
    simp only [covered, hk, Bool.not_true, Bool.false_or] at hc
    obtain ⟨h1, h2, h3, h4⟩ := strDT_builtFor _ _ hc hbv
    have hi := isIntLeaf_of_builtFor _ _ _ hk hbi
    exact ⟨⟨fun _ => h1, intLeaf_PlaceholderOK _ hi, h3⟩, fun _ => h2, intLeaf_PlaceholderStr _ hi, h4⟩
  union _ ih hc := ih hc
  nilL _ := ⟨trivial, trivial⟩
  consL _ ih _ ihr hc := by
    simp only [coveredFs, coveredF, Bool.and_eq_true] at hc
    exact ⟨⟨(ih hc.1).1, (ihr hc.2).1⟩, (ih hc.1).2, (ihr hc.2).2⟩
  nilU _ := ⟨trivial, trivial⟩
  consU _ ih _ ihr hc := by
    simp only [coveredU, coveredF, Bool.and_eq_true] at hc
    exact ⟨⟨(ih hc.1).1, (ihr hc.2).1⟩, (ih hc.1).2, (ihr hc.2).2⟩

/-- the builder of a `covered` data type (dictionaries: integer keys, Utf8 / LargeUtf8 values) is `PlaceholderOK` -/
theorem BuiltFor_PlaceholderOK : ∀ (b : B) (dt : DataType) (nl : Bool), BuiltFor dt nl b → covered dt = true →
    PlaceholderOK b :=
  fun b dt nl hb hc => (Placeholder_cases.builtFor b dt nl hb hc).1

theorem BuiltForL_PlaceholderOKL : ∀ (bl : BL) (fs : Fields), BuiltForL fs bl → coveredFs fs = true → PlaceholderOKL bl :=
  fun bl fs hb hc => (Placeholder_cases.builtForL bl fs hb hc).1

theorem BuiltForU_PlaceholderOKL : ∀ (bl : BL) (ufs : UFields) (k : Nat), BuiltForU ufs bl k → coveredU ufs = true →
    PlaceholderOKL bl :=
  fun bl ufs k hb hc => (Placeholder_cases.builtForU bl ufs k hb hc).1

/-- the fresh root of a covered schema is `PlaceholderOK` -/
theorem newRoot_PlaceholderOK {fields : List Field} {root0 : B} (hc : fields.all coveredF = true)
    (h : newRoot fields = .ok root0) : PlaceholderOK root0 :=
  BuiltFor_PlaceholderOK root0 _ _ (newRoot_builtFor fields root0 h) (by
    simp only [covered]; rw [coveredFs_ofList]; exact hc)

/-- … and so is every later state: it is still the builder of the schema (`runRows_builtFor`) -/
theorem runRows_PlaceholderOK_of_covered (ext : Ext) (fields : List Field) (rows : List SVal) (root : B)
    (hc : fields.all coveredF = true) (h : runRows ext fields rows = .ok root) : PlaceholderOK root :=
  BuiltFor_PlaceholderOK root _ _ (runRows_builtFor ext fields rows root (Build.push_takeRest ext) h) (by
    simp only [covered]; rw [coveredFs_ofList]; exact hc)

/-- `Props.C03.root_facts` on the weak invariant: shape, `Sound` and `PX` of the final builder state from the weak invariant -/
theorem root_factsH (ext : Ext) (fields : List Field) (rows : List SVal) (root : B)
    (hschema : ∀ f ∈ fields, SchemaOKF f) (hw : WFH root) (hp : PlaceholderOK root)
    (hrun : runRows ext fields rows = .ok root) :
    BuiltFor (.struct (Fields.ofList fields)) false root ∧ Sound root ∧ PX root := by
  have hb := runRows_builtFor ext fields rows root (Build.push_takeRest ext) hrun
  have hshape := BuiltFor_ShapeOK root _ _ hb (by
    simp only [SchemaOK]; exact Props.C03.SchemaOKFs_ofList fields hschema)
  exact ⟨hb, Sound_of_WFH root hw hshape hp, runRows_PX ext fields rows root hrun⟩

/-- **C03 without `Safe`, modulo the refinement**: with `WFH` of the final state as the only fact about the run, every
array `to_marrow` returns is a well-formed array of its field, one array per field, all of the same length.  Schema
assumptions: `SchemaOKF` (no `FixedSizeBinary(0)`), `coveredF` (dictionary values Utf8 / LargeUtf8). -/
theorem C03_wf_of_WFH (ext : Ext) (fields : List Field) (rows : List SVal) (arrs : List Arr)
    (hschema : ∀ f ∈ fields, SchemaOKF f)
    (hcov : fields.all coveredF = true)
    (hext : ExtOK ext)
    (hrows : ∀ x ∈ rows, SValOK x)
    (hwfh : ∀ root, runRows ext fields rows = .ok root → WFH root)
    (h : toMarrow ext fields rows = .ok arrs) :
    arrs.length = fields.length ∧
    ∃ n : Nat, ∀ (j : Nat) (f : Field) (a : Arr), fields[j]? = some f → arrs[j]? = some a →
      WFS f a = true ∧ (decodeAll a).length = n := by
  have hfacts : ∀ root, runRows ext fields rows = .ok root →
      BuiltFor (.struct (Fields.ofList fields)) false root ∧ Sound root ∧ PX root := fun root hrun =>
    root_factsH ext fields rows root hschema (hwfh root hrun)
      (runRows_PlaceholderOK_of_covered ext fields rows root hcov hrun) hrun
  obtain ⟨_, _, hlen, hall⟩ := Props.C03.C03_wf_of_rootH ext fields rows arrs hwfh (fun r hr => (hfacts r hr).1)
    (fun r hr => (hfacts r hr).2.1) (fun r hr => runRows_WFX ext hext fields rows r hrows hr (WFH_small r (hwfh r hr))) h
  exact ⟨hlen, _, hall⟩

/-- **the physical half of C01 without `Safe`, modulo the refinement**: with `WFH` of the final state and determinedness
of its root columns, the arrays decode to exactly the columns the state holds -/
theorem toMarrow_decode_of_WFH (ext : Ext) (fields : List Field) (rows : List SVal) (arrs : List Arr)
    (hschema : ∀ f ∈ fields, SchemaOKF f)
    (hcov : fields.all coveredF = true)
    (hwfh : ∀ root, runRows ext fields rows = .ok root → WFH root)
    (hdet : ∀ root, runRows ext fields rows = .ok root → ∀ c ∈ decHRoot root, ∀ r ∈ c, r.isSome = true)
    (h : toMarrow ext fields rows = .ok arrs) :
    ∃ root, runRows ext fields rows = .ok root ∧ arrs.map decodeAll = (decRoot root).map (·.map .ok) :=
  Props.C03.toMarrow_decode_of_rootH ext fields rows arrs hwfh
    (fun root hrun => (root_factsH ext fields rows root hschema (hwfh root hrun)
      (runRows_PlaceholderOK_of_covered ext fields rows root hcov hrun) hrun).2.1) hdet h

end SaModel.Lemmas.C03
