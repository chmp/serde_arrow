import SaModel.Lemmas.C04Bytes
import SaModel.Lemmas.C04Mapping
/-
C04, injectivity of the Rust → Arrow mapping, second half: the logical value of a well-typed value determines the
value up to the documented normalisation:  `unser t (lv t v) = some (norm t v)`   — whole grammar.
An instance of the induction over well-typed values (`WtClosed`, Lemmas/C04Mapping.lean).
-/
namespace SaModel.Roundtrip
open SaModel

theorem unser_option (t : Ty) (x : LVal) :
    unser (.option t) x = if x = .null then some .none else (unser t x).map .some := rfl

theorem unser_newtype (n : String) (t : Ty) (x : LVal) : unser (.newtype n t) x = (unser t x).map .newtype := rfl

theorem peel_eq_unser (t : Ty) (x : LVal) : peel x (fun core => unserCore core x) t = unser t x := rfl

theorem unser_prim (p : Prim) (x : LVal) : unser (.prim p) x = unserCore (.prim p) x := rfl
theorem unser_unit (x : LVal) : unser .unit x = unserCore .unit x := rfl
theorem unser_unitStruct (n : String) (x : LVal) : unser (.unitStruct n) x = unserCore (.unitStruct n) x := rfl
theorem unser_vec (t : Ty) (x : LVal) : unser (.vec t) x = unserCore (.vec t) x := rfl
theorem unser_tuple (ts : Tys) (x : LVal) : unser (.tuple ts) x = unserCore (.tuple ts) x := rfl
theorem unser_tupleStruct (n : String) (ts : Tys) (x : LVal) : unser (.tupleStruct n ts) x = unserCore (.tupleStruct n ts) x := rfl
theorem unser_struct (n : String) (fs : TFields) (x : LVal) : unser (.struct n fs) x = unserCore (.struct n fs) x := rfl
theorem unser_enum (n : String) (vs : Variants) (x : LVal) : unser (.enum n vs) x = unserCore (.enum n vs) x := rfl
theorem unser_map (k v : Ty) (x : LVal) : unser (.map k v) x = unserCore (.map k v) x := rfl

/-- reading a union slot whose type id is the variant index -/
theorem unserCore_union (vars : Variants) (n : String) (i : Nat) (x : LVal) :
    unserCore (.enum n vars) (.union (i : Int) x) =
      match vars.get? i with
      | some (_, .unit) => some (.variant i .nil)
      | some (_, .newtype t) => (unser t x).map fun v => .variant i (.cons v .nil)
      | some (_, .tuple ts) => (unserPosOf ts x).map (.variant i)
      | some (_, .struct fs) => (unserFieldsOf fs x).map (.variant i)
      | none => none := by
  rw [unserCore]
  have hi : ¬ ((i : Int) < 0) := by omega
  rw [if_neg hi, Int.toNat_natCast]
  rfl

theorem unser_lv_prim (p : Prim) (v : Val) (h : p.wt v = true) : unser (.prim p) (lv (.prim p) v) = some (norm (.prim p) v) := by
  unfold Prim.wt at h
  split at h <;> first | contradiction | simp [unser_prim, unserCore, lv, norm, unserStr_toByteArray]

/-- **reading back the logical value gives the normalised value**, shape by shape of a well-typed value -/
theorem closed_unser : WtClosed (fun t v => unser t (lv t v) = some (norm t v))
    (fun t vs => unserAll t (lvAll t vs) = some (normAll t vs))
    (fun ts vs => ∀ i, unserPos ts (lvPos i ts vs) = some (normPos ts vs))
    (fun fs vs => unserFields fs (lvFields fs vs) = some (normFields fs vs))
    (fun k v es => unserEntries k v (lvEntries k v es) = some (normEntries k v es)) where
  prim := unser_lv_prim
  unit := by simp [unser_unit, unserCore, lv, norm]
  unitStruct _ := by simp [unser_unitStruct, unserCore, lv, norm]
  optNone _ := by simp [unser_option, lv, norm]
  optSome t v _ ih := by
    simp only [unser_option, lv, norm]
    by_cases hn : lv t v = .null
    · simp [hn]
    · simp [hn, ih]
  newtype _ _ _ _ ih := by simp [unser_newtype, lv, norm, ih]
  vec _ _ _ ih := by simp [unser_vec, unserCore, lv, norm, ih]
  tuple _ _ _ ih := by simp [unser_tuple, unserCore, lv, norm, ih 0]
  tupleStruct _ _ _ _ ih := by simp [unser_tupleStruct, unserCore, lv, norm, ih 0]
  struct _ _ _ _ ih := by simp [unser_struct, unserCore, lv, norm, ih]
  map _ _ _ _ ih := by simp [unser_map, unserCore, lv, norm, ih]
  variant _ _ _ _ _ _ hg hw ih := by
    cases variant_val hg hw with
    | unit => simp [lv, norm, unser_enum, unserCore_union, hg]
    | newtype t v =>
      have ih : unser t (lv t v) = some (norm t v) := ih
      simp [lv, norm, unser_enum, lvSingle, normSingle, unserCore_union, hg, ih]
    | tuple =>
      simp [Variant.payload, Variant.payloadVal, unser_tupleStruct, unserCore, lv, norm] at ih
      simp [lv, norm, unser_enum, unserCore_union, unserPosOf, hg, ih]
    | struct =>
      simp [Variant.payload, Variant.payloadVal, unser_struct, unserCore, lv, norm] at ih
      simp [lv, norm, unser_enum, unserCore_union, unserFieldsOf, hg, ih]
  allNil _ := by simp [lvAll, unserAll, normAll]
  allCons _ _ _ _ _ ih1 ih2 := by simp [lvAll, unserAll, normAll, peel_eq_unser, ih1, ih2]
  posNil _ := by simp [lvPos, unserPos, normPos]
  posCons _ _ _ _ _ _ ih1 ih2 i := by simp [lvPos.eq_1, unserPos, normPos.eq_1, peel_eq_unser, ih1, ih2 (i + 1)]
  fieldsNil := by simp [lvFields, unserFields, normFields]
  fieldsCons _ _ _ _ _ _ _ _ ih1 ih2 := by simp [lvFields.eq_1, unserFields, normFields.eq_1, peel_eq_unser, ih1, ih2]
  entriesNil _ _ := by simp [lvEntries, unserEntries, normEntries]
  entriesCons _ _ _ _ _ _ _ _ ih1 ih2 ih3 := by simp [lvEntries, unserEntries, normEntries, peel_eq_unser, ih1, ih2, ih3]

theorem unser_lv : ∀ (t : Ty) (v : Val), wt t v = true → unser t (lv t v) = some (norm t v) := closed_unser.val

theorem unserAll_lv : ∀ (t : Ty) (vs : Vals), wtAll t vs = true → unserAll t (lvAll t vs) = some (normAll t vs) :=
  closed_unser.all

theorem unserPos_lv : ∀ (i : Nat) (ts : Tys) (vs : Vals), wtPos ts vs = true →
    unserPos ts (lvPos i ts vs) = some (normPos ts vs) :=
  fun i ts vs h => closed_unser.pos ts vs h i

theorem unserFields_lv : ∀ (fs : TFields) (vs : Vals), wtFields fs vs = true →
    unserFields fs (lvFields fs vs) = some (normFields fs vs) :=
  closed_unser.fields

theorem unserEntries_lv : ∀ (k v : Ty) (es : VEntries), wtEntries k v es = true →
    unserEntries k v (lvEntries k v es) = some (normEntries k v es) :=
  closed_unser.entries

end SaModel.Roundtrip
