import SaModel.Lemmas.C17TouchLeaf
/-
C17, `readAs_touch_in_range` — the row of a list / fixed-size-list / map column (`list_touch`, `fsl_touch`, `map_touch`: the
typed reads use them too) and `deserialize_any` (targets `any` and `ignored`): structural recursion over the array.
-/
namespace SaModel.Props.C17
open SaModel SaModel.Read SaModel.Spec

theorem peel_anyLike {t : Target} (h : isAnyLike t = true) : peelTarget t = (t, false) := by
  cases t <;> simp [isAnyLike] at h <;> simp [peelTarget]

theorem elemTarget_anyLike {t : Target} (h : isAnyLike t = true) (k : Nat) : elemTarget t k = t := by
  cases t <;> simp [isAnyLike] at h <;> simp [elemTarget]

theorem entryTargets_anyLike {t : Target} (h : isAnyLike t = true) : entryTargets t = (t, t) := by
  cases t <;> simp [isAnyLike] at h <;> simp [entryTargets]

theorem variantTarget_anyLike {t : Target} (h : isAnyLike t = true) (pos : Nat) (name : String) : variantTarget t pos name = t := by
  cases t <;> simp [isAnyLike] at h <;> simp [variantTarget]

/-- the trait default `deserialize_any`: `is_some` answered "null" (then an `any` target stops), or the
`deserialize_any_some` of the reader ran -/
theorem anyAt_touch {a : Arr} {t : Target} (ht : isAnyLike t = true) {i : Nat} {d : DVal}
    (hsome : ∀ d, isSome Fixes.all a i = .ok true → readAnySome Fixes.all a i = .ok d → touchOK t a i = true)
    (h : anyAt Fixes.all a (readAnySome Fixes.all a) i = .ok d) : touchOK t a i = true := by
  unfold anyAt at h
  obtain ⟨b, hb, h⟩ := ok_bind_inv h
  cases b
  · exact touch_null_slot (isSome_ok_lt_lenOf hb) (by rw [peel_anyLike ht]; simp [ht]) (isSome_false_slotNull hb)
  · exact hsome d hb h

/-- the element loop of a list-like reader: every element read succeeded ⇒ `rangeOK` -/
theorem rangeOK_of_readRange {α} {g : Nat → R α} {f : Nat → Nat → Bool} {len : Nat} {so eo : Int} {s e : Nat} {xs : List α}
    (hs : so = (s : Int)) (he : eo = (e : Int)) (hle : s ≤ e) (hr : readRange g s (e - s) = .ok xs)
    (hel : ∀ k x, g (s + k) = .ok x → f k (s + k) = true ∧ s + k < len) : rangeOK f len so eo = true := by
  refine rangeOK_of_reads hs he hle ?_
  intro k hk
  obtain ⟨x, hx⟩ := readRange_ok_all _ _ _ hr k hk
  exact hel k x hx

/-! ### the row of a list / fixed-size-list / map column: the head was read, and every element of the range it designates -/

section rows
variable {α : Type} {t : Target} {v : Option Bits} {offs : List Int} {fm : FieldMeta} {el : Arr} {i s e : Nat}
  {g : Nat → R α} {xs : List α}

theorem list_touch {l : Bool} (hr : listRange Fixes.all offs i = .ok (s, e)) (hxs : readRange g s (e - s) = .ok xs)
    (hel : ∀ k x, g (s + k) = .ok x → touchOK (elemTarget (peelTarget t).1 k) el (s + k) = true) :
    touchOK t (.list l v offs fm el) i = true :=
  have hl := listRange_ok hr
  touch_list hl.1 (rangeOK_of_readRange hl.2.1 hl.2.2.1 hl.2.2.2 hxs fun k x hx => ⟨hel k x hx, touchOK_lt (hel k x hx)⟩)

theorem fsl_touch {len : Nat} {n : Int} (hr : fslRange Fixes.all len n i = .ok (s, e)) (hxs : readRange g s (e - s) = .ok xs)
    (hel : ∀ k x, g (s + k) = .ok x → touchOK (elemTarget (peelTarget t).1 k) el (s + k) = true) :
    touchOK t (.fixedSizeList len v n fm el) i = true :=
  have hl := fslRange_ok hr
  touch_fsl hl.1 hl.2.1 (rangeOK_of_readRange hl.2.2.1 hl.2.2.2.1 hl.2.2.2.2 hxs fun k x hx =>
    ⟨hel k x hx, touchOK_lt (hel k x hx)⟩)

theorem map_touch {mm : MapMeta} {ks vs : Arr} (hr : listRange Fixes.all offs i = .ok (s, e))
    (hxs : readRange g s (e - s) = .ok xs)
    (hel : ∀ k x, g (s + k) = .ok x → touchOK (entryTargets (peelTarget t).1).1 ks (s + k) = true ∧
      touchOK (entryTargets (peelTarget t).1).2 vs (s + k) = true) :
    touchOK t (.map v offs mm ks vs) i = true :=
  have hl := listRange_ok hr
  touch_map hl.1
    (rangeOK_of_readRange hl.2.1 hl.2.2.1 hl.2.2.2 hxs fun k x hx => ⟨(hel k x hx).1, touchOK_lt (hel k x hx).1⟩)
    (rangeOK_of_readRange hl.2.1 hl.2.2.1 hl.2.2.2 hxs fun k x hx => ⟨(hel k x hx).2, touchOK_lt (hel k x hx).2⟩)

end rows

mutual
theorem any_touch : ∀ (a : Arr), unionIdsOK a = true → ∀ (t : Target), isAnyLike t = true → ∀ (i : Nat) (d : DVal),
    anyAt Fixes.all a (readAnySome Fixes.all a) i = .ok d → touchOK t a i = true
  | .null _, _, t, ht, i, d, h | .boolean _ _ _, _, t, ht, i, d, h | .prim _ _ _, _, t, ht, i, d, h
  | .time _ _ _ _, _, t, ht, i, d, h | .timestamp _ _ _ _, _, t, ht, i, d, h | .decimal128 _ _ _ _, _, t, ht, i, d, h
  | .bytes _ _ _ _, _, t, ht, i, d, h | .bytesView _ _ _ _, _, t, ht, i, d, h | .fixedSizeBinary _ _ _, _, t, ht, i, d, h =>
    anyAt_touch ht (fun _ hs _ => touch_leaf t rfl (isSome_ok_leafIn rfl hs).1 (isSome_ok_leafIn rfl hs).2) h
  | .struct len v fs, hids, t, ht, i, d, h => by
    refine anyAt_touch ht (fun d hs h => ?_) h
    have hlt : i < len := by simpa only [lenOf] using isSome_ok_lt_lenOf hs
    unfold readAnySome at h
    split at h
    · cases h
    · obtain ⟨es, hes, _⟩ := ok_bind_inv h
      simp only [unionIdsOK] at hids
      refine touch_struct_any (by rw [peel_anyLike ht]; exact ht) hlt ?_
      rw [peel_anyLike ht]
      exact anyFields_touch fs hids t ht i es hes
  | .list l v offs fm el, hids, t, ht, i, d, h => by
    refine anyAt_touch ht (fun d hs h => ?_) h
    unfold readAnySome at h
    obtain ⟨⟨s, e⟩, hr, h⟩ := ok_bind_inv h
    obtain ⟨xs, hxs, _⟩ := ok_bind_inv h
    simp only [unionIdsOK] at hids
    exact list_touch hr hxs fun k x hx => by
      rw [peel_anyLike ht, elemTarget_anyLike ht]; exact any_touch el hids t ht (s + k) x hx
  | .fixedSizeList len v n fm el, hids, t, ht, i, d, h => by
    refine anyAt_touch ht (fun d hs h => ?_) h
    unfold readAnySome at h
    obtain ⟨⟨s, e⟩, hr, h⟩ := ok_bind_inv h
    obtain ⟨xs, hxs, _⟩ := ok_bind_inv h
    simp only [unionIdsOK] at hids
    exact fsl_touch hr hxs fun k x hx => by
      rw [peel_anyLike ht, elemTarget_anyLike ht]; exact any_touch el hids t ht (s + k) x hx
  | .map v offs mm ks vs, hids, t, ht, i, d, h => by
    refine anyAt_touch ht (fun d hs h => ?_) h
    unfold readAnySome at h
    obtain ⟨⟨s, e⟩, hr, h⟩ := ok_bind_inv h
    obtain ⟨xs, hxs, _⟩ := ok_bind_inv h
    simp only [unionIdsOK, Bool.and_eq_true] at hids
    refine map_touch hr hxs fun k x hx => ?_
    obtain ⟨kk, hkk, hx⟩ := ok_bind_inv hx
    obtain ⟨vv, hvv, _⟩ := ok_bind_inv hx
    rw [peel_anyLike ht, entryTargets_anyLike ht]
    exact ⟨any_touch ks hids.1 t ht (s + k) kk hkk, any_touch vs hids.2 t ht (s + k) vv hvv⟩
  | .dictionary ks vs, _, t, ht, i, d, h => by
    refine anyAt_touch ht (fun d hs h => ?_) h
    unfold readAnySome at h
    exact OkImp.bind_left (dictGetStr_touch t) _ h
  | .union types offs fs, hids, t, ht, i, d, h => by
    refine anyAt_touch ht (fun d hs h => ?_) h
    unfold readAnySome at h
    obtain ⟨r, hr, h⟩ := ok_bind_inv h
    obtain ⟨k, off⟩ := r
    have hu := unionSelect_ok hr
    simp only [unionIdsOK] at hids
    obtain ⟨fm, c, hn, hc⟩ := anyVariant_touch fs 0 hids t ht k off d h
    have hidx := indexOfTypeId_consecutive hids hu.2.1 (by rw [← hu.2.2.1]; exact hu.2.2.2.1)
    rw [← hu.2.2.1] at hidx
    refine touch_union hu.1 hidx ?_
    rw [hu.2.2.2.2]
    refine touchVariant_nth fs k _ off fm c hn ?_
    rw [peel_anyLike ht, variantTarget_anyLike ht]
    exact hc
theorem anyFields_touch : ∀ (fs : ArrFields), fieldsIdsOK fs = true → ∀ (t : Target), isAnyLike t = true →
    ∀ (i : Nat) (es : DEntries), readAnyFields Fixes.all fs i = .ok es → touchAll t fs i = true
  | .nil, _, _, _, _, _, _ => by simp [touchAll]
  | .cons fm a rest, hids, t, ht, i, es, h => by
    unfold readAnyFields at h
    obtain ⟨x, hx, h⟩ := ok_bind_inv h
    obtain ⟨r, hr, _⟩ := ok_bind_inv h
    simp only [fieldsIdsOK, Bool.and_eq_true] at hids
    simp only [touchAll, Bool.and_eq_true]
    exact ⟨any_touch a hids.1 t ht i x hx, anyFields_touch rest hids.2 t ht i r hr⟩
theorem anyVariant_touch : ∀ (fs : ArrUFields) (kk : Nat), ufieldsIdsOK fs kk = true → ∀ (t : Target), isAnyLike t = true →
    ∀ (k off : Nat) (d : DVal), readAnyVariant Fixes.all fs k off = .ok d →
    ∃ fm c, ArrUFields.nth fs k = some (fm, c) ∧ touchOK t c off = true
  | .nil, _, _, _, _, _, _, _, h => by unfold readAnyVariant at h; cases h
  | .cons _ fm a _, kk, hids, t, ht, 0, off, d, h => by
    unfold readAnyVariant at h
    obtain ⟨p, hp, _⟩ := ok_bind_inv h
    simp only [ufieldsIdsOK, Bool.and_eq_true] at hids
    exact ⟨fm, a, by simp [ArrUFields.nth], any_touch a hids.1.2 t ht off p hp⟩
  | .cons _ _ _ rest, kk, hids, t, ht, k + 1, off, d, h => by
    unfold readAnyVariant at h
    simp only [ufieldsIdsOK, Bool.and_eq_true] at hids
    obtain ⟨fm, c, hn, hc⟩ := anyVariant_touch rest (kk + 1) hids.2 t ht k off d h
    exact ⟨fm, c, by simpa [ArrUFields.nth] using hn, hc⟩
end

/-- `deserialize_any` (and `IgnoredAny`, which drives it) -/
theorem readAny_touch {a : Arr} (hids : unionIdsOK a = true) {t : Target} (ht : isAnyLike t = true) {i : Nat} {d : DVal}
    (h : readAny Fixes.all a i = .ok d) : touchOK t a i = true :=
  any_touch a hids t ht i d h

end SaModel.Props.C17
